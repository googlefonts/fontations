/-
The component walk of `subset_composite_glyph` as read-fonts reads it: renamed component list (`walk_read`), a second
run changes nothing (`walk_second`), a completely read list with images makes the walk succeed.
-/
import FontVerif.Lemmas.SubsetComponent
namespace FontVerif.SubsetOutline
open FontVerif.Subset

/-- the component list of the subset: glyph ids through the glyph map (`as u16`), WE_HAVE_INSTRUCTIONS removed
under NO_HINTING, OVERLAP_COMPOUND set on the first component under SET_OVERLAPS_FLAG; anchors and transforms
untouched.  `none` when some component glyph has no image. -/
def mapComps (flags : Nat) (gmap : Nat → Option Nat) : Bool → List Glyf.RComponent → Option (List Glyf.RComponent)
  | _, [] => some []
  | first, c :: cs =>
    match gmap c.glyph, mapComps flags gmap false cs with
    | some n, some rest =>
      some ({ c with flags := compFlags flags (if first then 10 else 0) c.flags, glyph := n % 65536 } :: rest)
    | _, _ => none

theorem subsetGlyphBytes_composite (flags : Nat) (gmap : Nat → Option Nat) (d : Bytes) (hs : ¬ u16At d 0 < 32768) :
    subsetGlyphBytes flags gmap d = if d.length < 10 then .readErr else .bytes (subsetComposite flags gmap d) := by
  unfold subsetGlyphBytes
  simp only [hs, if_false]
  split
  · rw [if_pos (by omega)]
  · rfl

theorem readComposite_header (X Y : Bytes) (hx : 10 ≤ X.length) (hy : 10 ≤ Y.length)
    (h : ∀ j, j < 10 → Y.getD j 0 = X.getD j 0) :
    ∃ v v', Glyf.readComposite X = some v ∧ Glyf.readComposite Y = some v' ∧
      v'.xMin = v.xMin ∧ v'.yMin = v.yMin ∧ v'.xMax = v.xMax ∧ v'.yMax = v.yMax ∧
      v.components = Glyf.readComponents ((X.drop 10).length + 1) (X.drop 10) ∧
      v'.components = Glyf.readComponents ((Y.drop 10).length + 1) (Y.drop 10) := by
  have e : ∀ p, p + 2 ≤ 10 → Glyf.i16At Y p = Glyf.i16At X p := fun p hp =>
    gi16_congr Y X p (by omega) (by omega) (h p (by omega)) (h (p + 1) (by omega))
  unfold Glyf.readComposite
  rw [if_neg (by omega), if_neg (by omega)]
  exact ⟨_, _, rfl, rfl, by rw [e 2 (by omega)], by rw [e 4 (by omega)], by rw [e 6 (by omega)], by rw [e 8 (by omega)],
    rfl, rfl⟩

/-- `B`: what the walk leaves — the input's length, the rewritten record at `i` — cut at or behind that record's end -/
theorem readComponents_round (flags F : Nat) (out B : Bytes) (i new cut : Nat) (hi : i + 3 < out.length)
    (hlen : B.length = out.length) (hcut : i + compRecSize (flagsAt out i) ≤ cut)
    (hB : ∀ j, j < i + compRecSize (flagsAt out i) → B.getD j 0 = (compRound flags i new out).getD j 0) :
    (Glyf.readComponents (F + 1) (out.drop i) = [] ∧ Glyf.readComponents (F + 1) ((B.take cut).drop i) = []) ∨
    ∃ a t,
      Glyf.readComponents (F + 1) (out.drop i) = ⟨flagsAt out i, u16At out (i + 2), a, t⟩ ::
        (if Glyf.hasBit (flagsAt out i) Glyf.MORE_COMPONENTS then
          Glyf.readComponents F (out.drop (i + compRecSize (flagsAt out i))) else []) ∧
      Glyf.readComponents (F + 1) ((B.take cut).drop i) = ⟨compFlags flags i (flagsAt out i), new % 65536, a, t⟩ ::
        (if Glyf.hasBit (flagsAt out i) Glyf.MORE_COMPONENTS then
          Glyf.readComponents F ((B.take cut).drop (i + compRecSize (flagsAt out i))) else []) := by
  have hsz := compRecSize_ge (flagsAt out i)
  have hget : ∀ j, j < i + compRecSize (flagsAt out i) → (B.take cut).getD j 0 = (compRound flags i new out).getD j 0 :=
    fun j hj => by rw [getD_take _ _ (by omega), hB j hj]
  have hYlen : (B.take cut).length = min cut out.length := by rw [List.length_take, hlen]
  obtain ⟨hYf, hYg⟩ := compRound_record flags i new out (B.take cut) hi (fun j _ hj => hget j (by omega))
  have hslice : (out.drop (i + 4)).take (tailSz (flagsAt out i)) =
      ((B.take cut).drop (i + 4)).take (tailSz (flagsAt out i)) := by
    have e := compRecSize_eq (flagsAt out i)
    rw [slice_take B _ _ cut (by omega)]
    exact slice_congr out B _ _ hlen.symm (fun j hj1 hj2 => by
      rw [hB j (by omega), compRound_getD _ _ _ _ _ (Or.inr hj1)])
  rw [readComponents_at F out i (by omega), readComponents_at F (B.take cut) i (by rw [hYlen]; omega), hYf, hYg,
    tailRead_compFlags, compRecSize_compFlags, hasBit_compFlags _ _ _ Glyf.MORE_COMPONENTS ⟨rfl, rfl⟩]
  rcases tail_congr (flagsAt out i) _ _ hslice with ⟨hn1, hn2⟩ | ⟨v, hv1, hv2⟩
  · left; rw [hn1, hn2]; exact ⟨rfl, rfl⟩
  · right; rw [hv1, hv2]; exact ⟨v.1, v.2, rfl, rfl⟩

theorem walk_read {flags : Nat} {gmap : Nat → Option Nat} {len : Nat} {out : Bytes} {i : Nat} {whi : Bool}
    {res : Bytes × Nat × Bool} (h : CompWalk flags gmap len out i whi res) :
    out.length = len → 10 ≤ i → ∀ F cut, res.2.1 ≤ cut →
      mapComps flags gmap (decide (i = 10)) (Glyf.readComponents F (out.drop i)) =
        some (Glyf.readComponents F ((res.1.take cut).drop i)) := by
  have hfirst : ∀ (i f : Nat), compFlags flags (if decide (i = 10) = true then 10 else 0) f = compFlags flags i f := by
    intro i f; rw [compFlags_first flags i f]; simp
  induction h with
  | @last out i whi new hi hg hm =>
    intro hlen h10 F cut hcut
    cases F with
    | zero => rfl
    | succ F =>
      rcases readComponents_round flags F out _ i new cut (by omega) (compRound_length _ _ _ _) hcut (fun _ _ => rfl)
        with ⟨e1, e2⟩ | ⟨a, t, e1, e2⟩
      · rw [e1, e2]; rfl
      · have hm' : Glyf.hasBit (flagsAt out i) Glyf.MORE_COMPONENTS = false := hm
        rw [e1, e2, hm']
        simp only [Bool.false_eq_true, if_false, mapComps, hg, hfirst]
  | @more out i whi new res hi hg hm hrest ih =>
    intro hlen h10 F cut hcut
    have hsz := compRecSize_ge (flagsAt out i)
    obtain ⟨f1, f2, f3⟩ := hrest.frame
    cases F with
    | zero => rfl
    | succ F =>
      rcases readComponents_round flags F out res.1 i new cut (by omega)
        (by rw [f1, compRound_length]) (by omega) (fun j hj => f3 j (Or.inl hj)) with ⟨e1, e2⟩ | ⟨a, t, e1, e2⟩
      · rw [e1, e2]; rfl
      · have hm' : Glyf.hasBit (flagsAt out i) Glyf.MORE_COMPONENTS = true := hm
        have hrec := ih (by rw [compRound_length, hlen]) (by omega) F cut hcut
        rw [show decide (i + compRecSize (flagsAt out i) = 10) = false from by simp; omega,
          drop_congr _ out _ (compRound_length _ _ _ _) (fun j hj => compRound_getD _ _ _ _ _ (by omega))] at hrec
        rw [e1, e2, hm']
        simp only [if_true, mapComps, hg, hrec, hfirst]

theorem walk_second {flags : Nat} {gmap gmap' : Nat → Option Nat} {len : Nat} {X : Bytes} {i : Nat} {whi : Bool}
    {res : Bytes × Nat × Bool} (h : CompWalk flags gmap len X i whi res)
    (hid : ∀ o n, gmap o = some n → gmap' (n % 65536) = some (n % 65536)) :
    X.length = len → ∀ cut, res.2.1 ≤ cut → ∀ whi', ∃ whi2,
      CompWalk flags gmap' (res.1.take cut).length (res.1.take cut) i whi' (res.1.take cut, res.2.1, whi2) ∧
      (hasFlag flags F_NO_HINTING = false → whi' = whi → whi2 = res.2.2) := by
  have round : ∀ (X Y : Bytes) (i new : Nat), i + 3 < X.length → gmap (u16At X (i + 2)) = some new →
      (∀ j, i ≤ j → j < i + 4 → Y.getD j 0 = (compRound flags i new X).getD j 0) →
      gmap' (u16At Y (i + 2)) = some (new % 65536) ∧ compRound flags i (new % 65536) Y = Y ∧
      flagsAt Y i = compFlags flags i (flagsAt X i) := by
    intro X Y i new hX hg hrec
    obtain ⟨e1, e2⟩ := compRound_record flags i new X Y hX hrec
    exact ⟨by rw [e2]; exact hid _ _ hg, compRound_fixed flags i new X Y hX hrec, e1⟩
  have hinstr : ∀ (i f : Nat), hasFlag flags F_NO_HINTING = false → compFlags flags i f &&& 0x0100 = f &&& 0x0100 := by
    intro i f hn; rw [compFlags_instr, hn]; rfl
  induction h with
  | @last X i whi new hi hg hm =>
    intro hlen cut hcut whi'
    have hcut : i + compRecSize (flagsAt X i) ≤ cut := hcut
    have hsz := compRecSize_ge (flagsAt X i)
    have hYlen : ((compRound flags i new X).take cut).length = min cut len := by
      rw [List.length_take, compRound_length, hlen]
    obtain ⟨r1, r2, r3⟩ := round X ((compRound flags i new X).take cut) i new (by omega) hg
      (fun j _ hj => getD_take _ _ (by omega))
    have hw := CompWalk.last (flags := flags) (len := ((compRound flags i new X).take cut).length) (whi := whi')
      (by rw [hYlen]; omega) r1
      (by rw [r3, compFlags_bit flags i _ 0x0020 ⟨rfl, rfl⟩]; exact hm)
    rw [r2, r3, compRecSize_compFlags] at hw
    exact ⟨_, hw, fun hn hww => by rw [hww, hinstr _ _ hn]⟩
  | @more X i whi new res hi hg hm hrest ih =>
    intro hlen cut hcut whi'
    have hsz := compRecSize_ge (flagsAt X i)
    obtain ⟨f1, f2, f3⟩ := hrest.frame
    have hYlen : (res.1.take cut).length = min cut len := by
      rw [List.length_take, f1, compRound_length, hlen]
    obtain ⟨r1, r2, r3⟩ := round X (res.1.take cut) i new (by omega) hg
      (fun j _ hj => by rw [getD_take _ _ (by omega), f3 j (by omega)])
    obtain ⟨whi2, hw2, hwhi⟩ := ih (by rw [compRound_length, hlen]) cut hcut (whi' || (compFlags flags i (flagsAt X i) &&& 0x0100 != 0))
    have hw := CompWalk.more (flags := flags) (len := (res.1.take cut).length) (whi := whi') (res := (res.1.take cut, res.2.1, whi2))
      (by rw [hYlen]; omega) r1
      (by rw [r3, compFlags_bit flags i _ 0x0020 ⟨rfl, rfl⟩]; exact hm)
      (by rw [r2, r3, compRecSize_compFlags]; exact hw2)
    exact ⟨whi2, hw, fun hn hww => hwhi hn (by rw [hww, hinstr _ _ hn])⟩

/-- forward simulation from the reader to the rewriter's walk -/
theorem compLoop_succeeds (flags : Nat) (gmap : Nat → Option Nat) (len : Nat) :
    ∀ (F fuel : Nat) (out : Bytes) (i : Nat) (whi : Bool), out.length = len → F ≤ fuel →
      complete (Glyf.readComponents F (out.drop i)) →
      (∀ c ∈ Glyf.readComponents F (out.drop i), (gmap c.glyph).isSome) →
      (compLoop flags gmap len fuel out i whi).isSome
  | 0, _, _, _, _, _, _, hc, _ => absurd hc not_complete_nil
  | F + 1, 0, _, _, _, _, hF, _, _ => by omega
  | F + 1, fuel + 1, out, i, whi, hlen, hF, hc, hm => by
    have hi4 : i + 4 ≤ out.length := by have := complete_length hc; rw [List.length_drop] at this; omega
    rw [readComponents_at F out i hi4] at hc hm
    cases ht : tailRead (flagsAt out i) (out.drop (i + 4)) with
    | none => rw [ht] at hc; exact absurd hc not_complete_nil
    | some p =>
      rw [ht] at hc hm
      simp only at hc hm
      obtain ⟨new, hg⟩ := Option.isSome_iff_exists.mp (hm _ (List.mem_cons_self ..))
      rw [compLoop_succ, if_neg (by omega)]
      simp only [hg]
      split
      · rename_i hmore
        have hmore' : Glyf.hasBit (flagsAt out i) Glyf.MORE_COMPONENTS = true := hmore
        rw [if_pos hmore'] at hc hm
        have hsz := compRecSize_ge (flagsAt out i)
        have hdrop := drop_congr (compRound flags i new out) out (i + compRecSize (flagsAt out i)) (compRound_length _ _ _ _)
          (fun j hj => compRound_getD _ _ _ _ _ (by omega))
        apply compLoop_succeeds flags gmap len F fuel _ _ _ (by rw [compRound_length, hlen]) (by omega)
        · rw [hdrop]; exact complete_tail _ _ hc hmore'
        · rw [hdrop]; exact fun c hc' => hm c (List.mem_cons_of_mem _ hc')
      · rfl

theorem composite_kept (flags : Nat) (gmap : Nat → Option Nat) (d out : Bytes) (hs : ¬ u16At d 0 < 32768)
    (h : subsetGlyphBytes flags gmap d = .bytes out) (hne : out ≠ []) :
    10 ≤ d.length ∧ ∃ full i whi, CompWalk flags gmap d.length d 10 false (full, i, whi) ∧
      out = full.take (compCut flags d.length full i whi) := by
  rw [subsetGlyphBytes_composite flags gmap d hs] at h
  split at h
  · cases h
  rename_i h10
  rw [GlyphRes.bytes.injEq] at h
  obtain ⟨full, i, whi, hloop, hout⟩ := subsetComposite_kept flags gmap d out h hne
  exact ⟨by omega, full, i, whi, compLoop_walk _ _ _ _ _ _ _ _ hloop, hout⟩

theorem composite_decodes_equal (flags : Nat) (gmap : Nat → Option Nat) (d out : Bytes)
    (hs : ¬ u16At d 0 < 32768)
    (h : subsetGlyphBytes flags gmap d = .bytes out) (hne : out ≠ []) :
    ∃ v v', Glyf.readComposite d = some v ∧ Glyf.readComposite out = some v' ∧
      v'.xMin = v.xMin ∧ v'.yMin = v.yMin ∧ v'.xMax = v.xMax ∧ v'.yMax = v.yMax ∧
      mapComps flags gmap true v.components = some v'.components ∧
      (∀ j, j < 10 → out.getD j 0 = d.getD j 0) := by
  obtain ⟨h10, full, i, whi, hwalk, hout⟩ := composite_kept flags gmap d out hs h hne
  obtain ⟨hfl, hiend, hfr⟩ := hwalk.frame
  have hcut := le_compCut flags d.length full i whi
  generalize compCut flags d.length full i whi = cut at hout hcut
  simp only at hfl hiend hfr
  have hlen14 : 14 ≤ d.length := by cases hwalk <;> omega
  have hol : 10 ≤ out.length ∧ out.length ≤ d.length := by rw [hout, List.length_take, hfl]; omega
  have hget : ∀ j, j < 10 → out.getD j 0 = d.getD j 0 := by
    intro j hj
    rw [hout, getD_take _ _ (by omega), hfr j (by omega)]
  have hchain := walk_read hwalk rfl (Nat.le_refl _) ((d.drop 10).length + 1) cut hcut
  simp only [decide_true] at hchain
  rw [← hout] at hchain
  -- the reader's fuel for the shorter record
  have hfuel : Glyf.readComponents ((d.drop 10).length + 1) (out.drop 10) =
      Glyf.readComponents ((out.drop 10).length + 1) (out.drop 10) :=
    readComponents_fuel _ _ _ (by omega) (by simp only [List.length_drop]; omega)
  rw [hfuel] at hchain
  obtain ⟨v, v', h1, h2, e1, e2, e3, e4, c1, c2⟩ := readComposite_header d out h10 (by omega) hget
  exact ⟨v, v', h1, h2, e1, e2, e3, e4, by rw [c1, c2]; exact hchain, hget⟩

end FontVerif.SubsetOutline
