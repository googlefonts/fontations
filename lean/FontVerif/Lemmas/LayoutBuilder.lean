/-
Helper lemmas for C16: `PairPosBuilder::insert_pair` / `GlyphPairPosBuilder::build` keep the
first rule of every glyph pair (whatever its value) and nothing else.
-/
import FontVerif.Lemmas.LayoutPair
namespace FontVerif.Layout

def keyIs {V : Type} (g1 g2 : Nat) (e : (Nat × Nat) × V) : Bool := e.1.1 == g1 && e.1.2 == g2

def UniqueKeys {V : Type} (b : GlyphPairs V) : Prop := b.Pairwise (fun a c => a.1 ≠ c.1)

theorem UniqueKeys.eq_of_mem {V : Type} {b : GlyphPairs V} (h : UniqueKeys b) {a c : (Nat × Nat) × V}
    (ha : a ∈ b) (hc : c ∈ b) (hk : a.1 = c.1) : a = c :=
  eq_of_nodup_map (·.1) b (List.pairwise_map.mpr (show b.Pairwise (fun a c => a.1 ≠ c.1) from h)) a ha c hc hk

theorem keyIs_iff {V : Type} {g1 g2 : Nat} {e : (Nat × Nat) × V} : keyIs g1 g2 e = true ↔ e.1 = (g1, g2) := by
  unfold keyIs
  simp only [Bool.and_eq_true, beq_iff_eq]
  constructor
  · rintro ⟨a, b⟩; exact Prod.ext a b
  · intro h; rw [h]; exact ⟨rfl, rfl⟩

theorem insertPair_spec {V : Type} (b : GlyphPairs V) (hu : UniqueKeys b) (g1 g2 : Nat) (v : V) :
    UniqueKeys (b.insertPair g1 g2 v) ∧
    (∀ k1 k2, (b.insertPair g1 g2 v).find? (keyIs k1 k2) =
      (b.find? (keyIs k1 k2)).or ([((g1, g2), v)].find? (keyIs k1 k2))) ∧
    (∀ e ∈ b.insertPair g1 g2 v, e ∈ b ∨ e = ((g1, g2), v)) := by
  unfold GlyphPairs.insertPair
  by_cases hany : b.any (fun e => e.1.1 == g1 && e.1.2 == g2) = true
  · simp only [hany, ↓reduceIte]
    refine ⟨hu, fun k1 k2 => ?_, fun e he => Or.inl he⟩
    by_cases hk : keyIs k1 k2 ((g1, g2), v) = true
    · -- the key is already present: the existing entry is found
      have hk' := keyIs_iff.mp hk
      simp only at hk'
      obtain ⟨e, he, hek⟩ := List.any_eq_true.mp hany
      have : keyIs k1 k2 e = true := by
        rw [keyIs_iff]
        have : e.1 = (g1, g2) := keyIs_iff.mp (by unfold keyIs; exact hek)
        rw [this, hk']
      cases hf : b.find? (keyIs k1 k2) with
      | some x => rfl
      | none => exact absurd this (by simpa using List.find?_eq_none.mp hf e he)
    · simp only [List.find?_cons, hk, List.find?_nil, Option.or_none]
  · simp only [hany, Bool.false_eq_true, ↓reduceIte]
    refine ⟨?_, fun k1 k2 => by rw [List.find?_append], fun e he => ?_⟩
    · unfold UniqueKeys
      rw [List.pairwise_append]
      refine ⟨hu, List.pairwise_singleton _ _, ?_⟩
      intro a ha c hc
      simp only [List.mem_singleton] at hc
      subst hc
      intro hk
      apply hany
      rw [List.any_eq_true]
      exact ⟨a, ha, by simp only at hk; rw [hk]; simp⟩
    · rcases List.mem_append.mp he with h | h
      · exact Or.inl h
      · exact Or.inr (List.mem_singleton.mp h)

theorem foldl_insertPair_spec {V : Type} (rules : List ((Nat × Nat) × V)) :
    ∀ (acc : GlyphPairs V), UniqueKeys acc →
      UniqueKeys (rules.foldl (fun b r => b.insertPair r.1.1 r.1.2 r.2) acc) ∧
      (∀ k1 k2, (rules.foldl (fun b r => b.insertPair r.1.1 r.1.2 r.2) acc).find? (keyIs k1 k2) =
        (acc.find? (keyIs k1 k2)).or (rules.find? (keyIs k1 k2))) ∧
      (∀ e ∈ rules.foldl (fun b r => b.insertPair r.1.1 r.1.2 r.2) acc, e ∈ acc ∨ e ∈ rules) := by
  induction rules with
  | nil => intro acc hu; exact ⟨hu, fun _ _ => by simp, fun e he => Or.inl he⟩
  | cons r rs ih =>
    intro acc hu
    obtain ⟨hu', hf', hm'⟩ := insertPair_spec acc hu r.1.1 r.1.2 r.2
    obtain ⟨hu'', hf'', hm''⟩ := ih _ hu'
    refine ⟨hu'', fun k1 k2 => ?_, fun e he => ?_⟩
    · rw [List.foldl_cons, hf'' k1 k2, hf' k1 k2]
      have : ((r.1.1, r.1.2), r.2) = r := rfl
      rw [this, List.find?_cons (a := r)]
      simp only [List.find?_cons, List.find?_nil]
      cases acc.find? (keyIs k1 k2) <;> cases keyIs k1 k2 r <;> simp
    · rcases hm'' e he with h | h
      · rcases hm' e h with h | h
        · exact Or.inl h
        · exact Or.inr (by rw [h]; exact List.mem_cons_self ..)
      · exact Or.inr (List.mem_cons_of_mem _ h)

theorem ofRules_spec {V : Type} (rules : List ((Nat × Nat) × V)) :
    UniqueKeys (GlyphPairs.ofRules rules) ∧
    (∀ k1 k2, (GlyphPairs.ofRules rules).find? (keyIs k1 k2) = rules.find? (keyIs k1 k2)) ∧
    (∀ e ∈ GlyphPairs.ofRules rules, e ∈ rules) := by
  obtain ⟨a, b, c⟩ := foldl_insertPair_spec rules [] List.Pairwise.nil
  refine ⟨a, fun k1 k2 => by rw [GlyphPairs.ofRules, b]; simp, fun e he => ?_⟩
  rcases c e he with h | h
  · cases h
  · exact h

theorem find?_unique_iff {α : Type} {l : List α} {p : α → Bool}
    (huniq : ∀ a ∈ l, ∀ c ∈ l, p a = true → p c = true → a = c) {e : α} :
    l.find? p = some e ↔ e ∈ l ∧ p e = true := by
  refine ⟨fun h => ⟨List.mem_of_find?_eq_some h, List.find?_some h⟩, fun ⟨hm, he⟩ => ?_⟩
  cases h : l.find? p with
  | none => exact absurd he (by simpa using List.find?_eq_none.mp h e hm)
  | some c => rw [huniq c (List.mem_of_find?_eq_some h) e hm (List.find?_some h) he]

theorem find?_perm_unique {α : Type} {l l' : List α} (hp : l'.Perm l) (p : α → Bool)
    (huniq : ∀ a ∈ l, ∀ c ∈ l, p a = true → p c = true → a = c) : l'.find? p = l.find? p :=
  Option.ext fun e => by
    rw [find?_unique_iff huniq, find?_unique_iff fun a ha c hc => huniq a (hp.mem_iff.mp ha) c (hp.mem_iff.mp hc),
      hp.mem_iff]

theorem find?_filter_unique {α : Type} {l : List α} (q p : α → Bool)
    (huniq : ∀ a ∈ l, ∀ c ∈ l, p a = true → p c = true → a = c) :
    (l.filter q).find? p = (l.find? p).filter q :=
  Option.ext fun e => by
    rw [Option.filter_eq_some_iff, find?_unique_iff huniq, find?_unique_iff fun a ha c hc =>
      huniq a (List.mem_filter.mp ha).1 c (List.mem_filter.mp hc).1, List.mem_filter, and_right_comm]

theorem findSome?_unique {α β : Type} (l : List α) (f : α → Option β) (x : α) (v : β) (hx : x ∈ l)
    (hfx : f x = some v) (hother : ∀ y ∈ l, y ≠ x → f y = none) : l.findSome? f = some v := by
  induction l with
  | nil => cases hx
  | cons y ys ih =>
    by_cases hy : y = x
    · subst hy; simp [hfx]
    · have hnone := hother y (List.mem_cons_self ..) hy
      rw [List.findSome?_cons, hnone]
      rcases List.mem_cons.mp hx with h | h
      · exact absurd h.symm hy
      · exact ih h (fun z hz hzx => hother z (List.mem_cons_of_mem _ hz) hzx)

theorem find?_filter_and {α : Type} (l : List α) (p q : α → Bool) :
    (l.filter p).find? q = l.find? (fun a => p a && q a) := by
  simp only [List.find?_filter, Bool.decide_and, Bool.decide_eq_true]

theorem UniqueKeys.filter {V : Type} {b : GlyphPairs V} (h : UniqueKeys b) (p : (Nat × Nat) × V → Bool) :
    UniqueKeys (b.filter p) :=
  List.Pairwise.sublist List.filter_sublist h

/-- the pair set of `g1` holds the second glyphs and values of the entries that begin with `g1`; the
order of the set does not matter, since no key stands twice -/
theorem pairSetOf_find {V : Type} (es : GlyphPairs V) (hu : UniqueKeys es) (g1 g2 : Nat) :
    ((pairSetOf es g1).find? (fun p => p.1 == g2)).map (·.2) = (es.find? (keyIs g1 g2)).map (·.2) := by
  unfold pairSetOf
  rw [List.find?_map, Option.map_map,
    find?_perm_unique (List.mergeSort_perm (es.filter (fun e => e.1.1 == g1)) fun a c => decide (a.1.2 ≤ c.1.2)),
    find?_filter_and]
  · rfl
  · intro a ha c hc hpa hpc
    have ha' := List.mem_filter.mp ha
    have hc' := List.mem_filter.mp hc
    simp only [Function.comp, beq_iff_eq] at hpa hpc ha' hc'
    exact hu.eq_of_mem ha'.1 hc'.1 (Prod.ext (ha'.2.trans hc'.2.symm) (hpa.trans hpc.symm))

theorem groupLookup {V : Type} (es : GlyphPairs V) (hu : UniqueKeys es)
    (hb : ∀ e ∈ es, e.1.1 < 65536) (g1 g2 : Nat) :
    (⟨buildCoverage (es.map (·.1.1)), (sortDedup (es.map (·.1.1))).map (pairSetOf es)⟩ :
      PairPos1 V).lookup g1 g2 = (es.find? (keyIs g1 g2)).map (·.2) := by
  have hbg : ∀ g ∈ es.map (·.1.1), g < 65536 := by
    intro g hg
    obtain ⟨e, he, rfl⟩ := List.mem_map.mp hg
    exact hb e he
  simp only [PairPos1.lookup, buildCoverage_get _ hbg]
  cases hi : indexIn g1 (sortDedup (es.map (·.1.1))) with
  | none =>
    -- g1 is the first glyph of no entry
    rw [indexIn_eq_none_iff, mem_sortDedup] at hi
    rw [List.find?_eq_none.mpr fun e he hk => hi (List.mem_map.mpr ⟨e, he, by rw [keyIs_iff.mp hk]⟩)]
    rfl
  | some i =>
    simp only [List.getElem?_map, indexIn_getElem? hi, Option.map_some]
    exact pairSetOf_find es hu g1 g2

theorem UniqueKeys.keyIs_unique {V : Type} {b : GlyphPairs V} (hu : UniqueKeys b) (g1 g2 : Nat) :
    ∀ a ∈ b, ∀ c ∈ b, keyIs g1 g2 a = true → keyIs g1 g2 c = true → a = c :=
  fun _ ha _ hc hka hkc => hu.eq_of_mem ha hc ((keyIs_iff.mp hka).trans (keyIs_iff.mp hkc).symm)

/-- the subtable of format `f` answers with the pair's only entry, if that has format `f` -/
theorem glyphPairGroup_lookup {V : Type} (fmt : V → Nat) (b : GlyphPairs V) (hu : UniqueKeys b)
    (hb : ∀ e ∈ b, e.1.1 < 65536) (g1 g2 f : Nat) :
    (glyphPairGroup fmt b f).lookup g1 g2 =
      ((b.find? (keyIs g1 g2)).filter (fun e => fmt e.2 == f)).map (·.2) := by
  unfold glyphPairGroup
  simp only []
  rw [groupLookup _ (hu.filter _) (fun e he => hb e (List.mem_filter.mp he).1),
    find?_filter_unique _ _ (hu.keyIs_unique g1 g2)]

/-- `GlyphPairPosBuilder::build` on distinct keys: first-match over the emitted subtables = the
entry of the pair -/
theorem buildGlyphPairs_lookup {V : Type} (fmt : V → Nat) (b : GlyphPairs V) (hu : UniqueKeys b)
    (hb : ∀ e ∈ b, e.1.1 < 65536) (g1 g2 : Nat) :
    firstMatch (buildGlyphPairs fmt b) g1 g2 = (b.find? (keyIs g1 g2)).map (·.2) := by
  unfold firstMatch buildGlyphPairs
  rw [List.findSome?_map]
  have hfun : ((fun t : PairPos1 V => t.lookup g1 g2) ∘ glyphPairGroup fmt b) =
      fun f => ((b.find? (keyIs g1 g2)).filter (fun e => fmt e.2 == f)).map (·.2) := by
    funext f
    rw [Function.comp, glyphPairGroup_lookup fmt b hu hb g1 g2 f]
  rw [hfun]
  cases hf : b.find? (keyIs g1 g2) with
  | none => exact List.findSome?_eq_none_iff.mpr fun _ _ => rfl
  | some e =>
    -- only the subtable of `e`'s own format answers
    apply findSome?_unique _ _ (fmt e.2) e.2
    · exact mem_sortDedup.mpr (List.mem_map.mpr ⟨e, List.mem_of_find?_eq_some hf, rfl⟩)
    · simp [Option.filter]
    · intro y _ hy
      simp [Option.filter, Ne.symm hy]

end FontVerif.Layout
