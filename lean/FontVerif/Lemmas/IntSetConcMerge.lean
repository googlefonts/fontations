/- C14 / concrete BitSet: the page-wise merge on concrete views (`cmerge`), its relation to the
abstract `processPages`, and how it splits at a cut of its two inputs. -/
import FontVerif.Lemmas.IntSetConcInv
namespace FontVerif.IntSet

abbrev CView := List (Nat × CPage)

/-- functional content of `process` on concrete views (mirror of `processPages`) -/
def cmerge (cop : CPage → CPage → CPage) (ptl ptr : Bool) : CView → CView → CView
  | [], bs => if ptr then bs else []
  | a :: as, [] => if ptl then a :: as else []
  | (ka, pa) :: as, (kb, pb) :: bs =>
    if ka = kb then (ka, cop pa pb) :: cmerge cop ptl ptr as bs
    else if ka < kb then
      (if ptl then [(ka, pa)] else []) ++ cmerge cop ptl ptr as ((kb, pb) :: bs)
    else
      (if ptr then [(kb, pb)] else []) ++ cmerge cop ptl ptr ((ka, pa) :: as) bs
termination_by as bs => as.length + bs.length
decreasing_by all_goals simp_wf <;> omega

def absView (v : CView) : Pages := v.map (fun kp => (kp.1, kp.2.abs))

theorem CBitSet.abs_pages (s : CBitSet) : s.abs.pages = absView (cview s.pageMap s.pages) := rfl

theorem cview_length (pm : PMap) (p : List CPage) : (cview pm p).length = pm.length := List.length_map _

theorem mem_cview {pm : PMap} {p : List CPage} {kp : Nat × CPage} :
    kp ∈ cview pm p ↔ ∃ e ∈ pm, (e.1, p.getD e.2 CPage.zero) = kp := List.mem_map

theorem cview_keys (pm : PMap) (p : List CPage) : (cview pm p).map (·.1) = pm.map (·.1) := by
  simp [cview, List.map_map, Function.comp_def]

theorem cview_ok {pm : PMap} {pages : List CPage} (hlt : ∀ e ∈ pm, e.2 < pages.length)
    (hok : ∀ p ∈ pages, CPageOk p) : ∀ kp ∈ cview pm pages, CPageOk kp.2 := by
  intro kp hkp
  obtain ⟨e, he, rfl⟩ := mem_cview.1 hkp
  exact hok _ (mem_getD pages e.2 CPage.zero (hlt e he))

theorem cview_congr (pm : PMap) (p q : List CPage)
    (h : ∀ e ∈ pm, p.getD e.2 CPage.zero = q.getD e.2 CPage.zero) : cview pm p = cview pm q := by
  simp only [cview]
  apply List.map_congr_left
  intro e he
  rw [h e he]

theorem cview_append (a b : PMap) (p : List CPage) : cview (a ++ b) p = cview a p ++ cview b p := by
  simp [cview]

theorem cview_cons (a : Nat × Nat) (b : PMap) (p : List CPage) :
    cview (a :: b) p = (a.1, p.getD a.2 CPage.zero) :: cview b p := by
  simp [cview]

theorem cview_set_notin (pm : PMap) (pages : List CPage) (t : Nat) (q : CPage)
    (h : ∀ e ∈ pm, e.2 ≠ t) : cview pm (pages.set t q) = cview pm pages := by
  simp only [cview]
  apply List.map_congr_left
  intro e he
  rw [getD_set, if_neg (fun hc => h e he hc.1.symm)]

theorem cview_ext (X Y : PMap) (p q : List CPage) (hlen : X.length = Y.length)
    (h : ∀ i, i < X.length → (X.getD i (0, 0)).1 = (Y.getD i (0, 0)).1 ∧
      p.getD (X.getD i (0, 0)).2 CPage.zero = q.getD (Y.getD i (0, 0)).2 CPage.zero) :
    cview X p = cview Y q := by
  apply List.ext_getElem (by rw [cview_length, cview_length, hlen])
  intro i h1 h2
  rw [cview_length] at h1 h2
  have := h i h1
  rw [getD_eq_getElem X i _ h1, getD_eq_getElem Y i _ h2] at this
  simp only [cview, List.getElem_map]
  rw [this.1, this.2]

theorem getD_append_zero (pages : List CPage) (i : Nat) :
    (pages ++ [CPage.zero]).getD i CPage.zero = pages.getD i CPage.zero := by
  simp only [List.getD_eq_getElem?_getD]
  by_cases h : i < pages.length
  · rw [List.getElem?_append_left h]
  · rw [List.getElem?_append_right (by omega), List.getElem?_eq_none (l := pages) (by omega)]
    cases hi : i - pages.length with
    | zero => rfl
    | succ k => rfl

theorem cview_append_zero (pm : PMap) (pages : List CPage) : cview pm (pages ++ [CPage.zero]) = cview pm pages :=
  cview_congr _ _ _ (fun e _ => getD_append_zero pages e.2)

theorem klt_cview {xs ys : PMap} (h : KLt xs ys) (p q : List CPage) : KLt (cview xs p) (cview ys q) := by
  intro x hx y hy
  obtain ⟨e, he, rfl⟩ := mem_cview.1 hx
  obtain ⟨f, hf, rfl⟩ := mem_cview.1 hy
  exact h e he f hf

/-- the abstract pages `s.abs.pages`, as one map over the map entries -/
theorem absView_cview (pm : PMap) (pages : List CPage) :
    absView (cview pm pages) = pm.map (fun e => (e.1, (pages.getD e.2 CPage.zero).abs)) := by
  simp [absView, cview, List.map_map, Function.comp_def]

theorem absView_keys (pm : PMap) (pages : List CPage) : (absView (cview pm pages)).map (·.1) = pm.map (·.1) := by
  rw [absView_cview, List.map_map]; rfl

theorem cmerge_nil_right (cop : CPage → CPage → CPage) (ptl ptr : Bool) (as : CView) :
    cmerge cop ptl ptr as [] = if ptl then as else [] := by
  cases as <;> simp [cmerge]

theorem cmerge_nil_left (cop : CPage → CPage → CPage) (ptl ptr : Bool) (bs : CView) :
    cmerge cop ptl ptr [] bs = if ptr then bs else [] := by
  simp [cmerge]

theorem absView_cmerge {cop op} (hr : PageOpRefines cop op) (ptl ptr : Bool) (as bs : CView)
    (ha : ∀ kp ∈ as, CPageOk kp.2) (hb : ∀ kp ∈ bs, CPageOk kp.2) :
    absView (cmerge cop ptl ptr as bs) = processPages op ptl ptr (absView as) (absView bs) := by
  fun_induction cmerge cop ptl ptr as bs with
  | case1 bs hp => simp [absView, processPages, hp]
  | case2 bs hp => simp [absView, processPages, hp]
  | case3 a as hp => simp [absView, processPages, hp]
  | case4 a as hp => simp [absView, processPages, hp]
  | case5 pa as kb pb bs ih =>
    have h1 := hr.abs pa pb (ha (kb, pa) (by simp)) (hb (kb, pb) (by simp))
    have := ih (fun kp h => ha kp (by simp [h])) (fun kp h => hb kp (by simp [h]))
    simp only [absView, List.map_cons] at this ⊢
    rw [processPages]
    simp [this, h1]
  | case6 ka pa as kb pb bs hne hlt ih =>
    have := ih (fun kp h => ha kp (by simp [h])) hb
    simp only [absView, List.map_cons, List.map_append] at this ⊢
    rw [processPages]
    simp only [hne, hlt, if_true, if_false]
    rw [← this]
    cases ptl <;> simp
  | case7 ka pa as kb pb bs hne hlt ih =>
    have := ih ha (fun kp h => hb kp (by simp [h]))
    simp only [absView, List.map_cons, List.map_append] at this ⊢
    rw [processPages]
    simp only [hne, hlt, if_false]
    rw [← this]
    cases ptr <;> simp

/-- every page of the merge is a page of one side or `cop` of two well-formed pages -/
theorem cmerge_ok {cop op} (hr : PageOpRefines cop op) (ptl ptr : Bool) (as bs : CView)
    (ha : ∀ kp ∈ as, CPageOk kp.2) (hb : ∀ kp ∈ bs, CPageOk kp.2) :
    ∀ kp ∈ cmerge cop ptl ptr as bs, CPageOk kp.2 := by
  fun_induction cmerge cop ptl ptr as bs with
  | case1 bs hp => exact hb
  | case2 bs hp => simp
  | case3 a as hp => exact ha
  | case4 a as hp => simp
  | case5 pa as kb pb bs ih =>
    intro kp hkp
    simp only [List.mem_cons] at hkp
    rcases hkp with rfl | hkp
    · exact hr.ok pa pb (ha (kb, pa) (by simp)) (hb (kb, pb) (by simp))
    · exact ih (fun kp h => ha kp (by simp [h])) (fun kp h => hb kp (by simp [h])) kp hkp
  | case6 ka pa as kb pb bs hne hlt ih =>
    intro kp hkp
    simp only [List.mem_append] at hkp
    rcases hkp with hkp | hkp
    · cases ptl <;> simp at hkp
      subst hkp; exact ha _ (by simp)
    · exact ih (fun kp h => ha kp (by simp [h])) hb kp hkp
  | case7 ka pa as kb pb bs hne hlt ih =>
    intro kp hkp
    simp only [List.mem_append] at hkp
    rcases hkp with hkp | hkp
    · cases ptr <;> simp at hkp
      subst hkp; exact hb _ (by simp)
    · exact ih ha (fun kp h => hb kp (by simp [h])) kp hkp

theorem cmerge_right_prefix (cop : CPage → CPage → CPage) (ptl ptr : Bool) (sa pb sb : CView)
    (h : KLt pb sa) :
    cmerge cop ptl ptr sa (pb ++ sb) = (if ptr then pb else []) ++ cmerge cop ptl ptr sa sb := by
  induction pb with
  | nil => cases ptr <;> simp
  | cons q pb ih =>
    have ih' := ih (fun x hx y hy => h x (by simp [hx]) y hy)
    cases sa with
    | nil =>
      rw [cmerge_nil_left, cmerge_nil_left]
      cases ptr <;> simp
    | cons a sa =>
      obtain ⟨ka, pa⟩ := a
      obtain ⟨kq, pq⟩ := q
      have hlt : kq < ka := h (kq, pq) (by simp) (ka, pa) (by simp)
      rw [List.cons_append, cmerge]
      have h1 : ¬ ka = kq := by omega
      have h2 : ¬ ka < kq := by omega
      simp only [h1, h2, if_false]
      rw [ih']
      cases ptr <;> simp

theorem cmerge_left_prefix (cop : CPage → CPage → CPage) (ptl ptr : Bool) (pa sa sb : CView)
    (h : KLt pa sb) :
    cmerge cop ptl ptr (pa ++ sa) sb = (if ptl then pa else []) ++ cmerge cop ptl ptr sa sb := by
  induction pa with
  | nil => cases ptl <;> simp
  | cons q pa ih =>
    have ih' := ih (fun x hx y hy => h x (by simp [hx]) y hy)
    cases sb with
    | nil =>
      rw [cmerge_nil_right, cmerge_nil_right]
      cases ptl <;> simp
    | cons b sb =>
      obtain ⟨kb, pb⟩ := b
      obtain ⟨kq, pq⟩ := q
      have hlt : kq < kb := h (kq, pq) (by simp) (kb, pb) (by simp)
      rw [List.cons_append, cmerge]
      have h1 : ¬ kq = kb := by omega
      simp only [h1, hlt, if_true, if_false]
      rw [ih']
      cases ptl <;> simp

theorem cmerge_append (cop : CPage → CPage → CPage) (ptl ptr : Bool) (pa pb sa sb : CView)
    (h1 : KLt pa sa) (h2 : KLt pa sb) (h3 : KLt pb sa) (h4 : KLt pb sb) :
    cmerge cop ptl ptr (pa ++ sa) (pb ++ sb) =
      cmerge cop ptl ptr pa pb ++ cmerge cop ptl ptr sa sb := by
  fun_induction cmerge cop ptl ptr pa pb with
  | case1 pb hp =>
    rw [List.nil_append, cmerge_right_prefix _ _ _ _ _ _ h3]; simp [hp]
  | case2 pb hp =>
    rw [List.nil_append, cmerge_right_prefix _ _ _ _ _ _ h3]; simp [hp]
  | case3 a as hp =>
    have := cmerge_left_prefix cop ptl ptr (a :: as) sa sb h2
    rw [List.nil_append, this]; simp [hp]
  | case4 a as hp =>
    have := cmerge_left_prefix cop ptl ptr (a :: as) sa sb h2
    rw [List.nil_append, this]; simp [hp]
  | case5 pa as kb pb bs ih =>
    rw [List.cons_append, List.cons_append, cmerge]
    simp only [if_true, List.cons_append]
    rw [ih (fun x hx => h1 x (by simp [hx])) (fun x hx => h2 x (by simp [hx]))
      (fun x hx => h3 x (by simp [hx])) (fun x hx => h4 x (by simp [hx]))]
  | case6 ka pa as kb pb bs hne hlt ih =>
    rw [List.cons_append, List.cons_append, cmerge]
    simp only [hne, hlt, if_true, if_false]
    have := ih (fun x hx => h1 x (by simp [hx])) (fun x hx => h2 x (by simp [hx])) h3 h4
    rw [List.cons_append] at this
    rw [this, List.append_assoc]
  | case7 ka pa as kb pb bs hne hlt ih =>
    rw [List.cons_append, List.cons_append, cmerge]
    simp only [hne, hlt, if_false]
    have := ih h1 h2 (fun x hx => h3 x (by simp [hx])) (fun x hx => h4 x (by simp [hx]))
    rw [List.cons_append] at this
    rw [this, List.append_assoc]

/-- lower bound: every left page produces an output page when the left side is passed through or every left major
also occurs on the right.  (The length of the merge depends on the keys only.) -/
theorem cmerge_length_ge (cop : CPage → CPage → CPage) (ptl ptr : Bool) (as bs : CView)
    (hs : (as.map (·.1)).Pairwise (· < ·)) (hsb : (bs.map (·.1)).Pairwise (· < ·))
    (h : ptl = false → ∀ k ∈ as.map (·.1), k ∈ bs.map (·.1)) :
    as.length ≤ (cmerge cop ptl ptr as bs).length := by
  fun_induction cmerge cop ptl ptr as bs with
  | case1 bs hp => simp
  | case2 bs hp => simp
  | case3 a as hp => simp
  | case4 a as hp => cases h (by simpa using hp) a.1 List.mem_cons_self
  | case5 pa as kb pb bs ih =>
    rw [List.map_cons, List.pairwise_cons] at hs hsb
    -- a later left key is above `kb`, so its partner is not the head
    have := ih hs.2 hsb.2 (fun hp k hk => (List.mem_cons.1 (h hp k (List.mem_cons_of_mem _ hk))).resolve_left
      (Nat.ne_of_gt (hs.1 k hk)))
    simp only [List.length_cons]; omega
  | case6 ka pa as kb pb bs hne hlt ih =>
    rw [List.map_cons, List.pairwise_cons] at hs hsb
    cases ptl with
    | true =>
      have := ih hs.2 (List.pairwise_cons.2 hsb) (fun hp => by cases hp)
      simp only [if_true, List.length_append, List.length_cons, List.length_nil]; omega
    | false =>
      -- `ka` is below every right key: it has no partner
      rcases List.mem_cons.1 (h rfl ka List.mem_cons_self) with h1 | h1
      · exact absurd h1 hne
      · exact absurd (hsb.1 ka h1) (by omega)
  | case7 ka pa as kb pb bs hne hlt ih =>
    have hs' := hs
    rw [List.map_cons, List.pairwise_cons] at hs'
    -- every left key is above `kb`
    have hge : ∀ k ∈ ka :: as.map (·.1), k ≠ kb := by
      intro k hk
      rcases List.mem_cons.1 hk with rfl | hk
      · omega
      · have := hs'.1 k hk; omega
    have := ih hs (List.pairwise_cons.1 hsb).2 (fun hp k hk => (List.mem_cons.1 (h hp k hk)).resolve_left (hge k hk))
    simp only [List.length_append]; omega

theorem cmerge_keys (cop : CPage → CPage → CPage) (ptl ptr : Bool) (as bs : CView) :
    ∀ kp ∈ cmerge cop ptl ptr as bs, kp.1 ∈ as.map (·.1) ∨ kp.1 ∈ bs.map (·.1) := by
  fun_induction cmerge cop ptl ptr as bs with
  | case1 bs hp => intro kp h; exact Or.inr (List.mem_map_of_mem h)
  | case2 bs hp => simp
  | case3 a as hp => intro kp h; exact Or.inl (List.mem_map_of_mem h)
  | case4 a as hp => simp
  | case5 pa as kb pb bs ih =>
    intro kp h
    rcases List.mem_cons.1 h with rfl | h
    · exact Or.inl List.mem_cons_self
    · exact (ih kp h).imp (List.mem_cons_of_mem _) (List.mem_cons_of_mem _)
  | case6 ka pa as kb pb bs hne hlt ih =>
    intro kp h
    rcases List.mem_append.1 h with h | h
    · cases ptl <;> simp at h
      exact Or.inl (h ▸ List.mem_cons_self)
    · exact (ih kp h).imp_left (List.mem_cons_of_mem _)
  | case7 ka pa as kb pb bs hne hlt ih =>
    intro kp h
    rcases List.mem_append.1 h with h | h
    · cases ptr <;> simp at h
      exact Or.inr (h ▸ List.mem_cons_self)
    · exact (ih kp h).imp_right (List.mem_cons_of_mem _)

theorem lt_cmerge (cop : CPage → CPage → CPage) (ptl ptr : Bool) {as bs : CView} {k : Nat}
    (ha : ∀ a ∈ as.map (·.1), k < a) (hb : ∀ b ∈ bs.map (·.1), k < b) :
    ∀ a ∈ (cmerge cop ptl ptr as bs).map (·.1), k < a := by
  intro a h
  obtain ⟨kp, hkp, rfl⟩ := List.mem_map.1 h
  exact (cmerge_keys cop ptl ptr as bs kp hkp).elim (ha _) (hb _)

theorem cmerge_sorted (cop : CPage → CPage → CPage) (ptl ptr : Bool) (as bs : CView)
    (ha : (as.map (·.1)).Pairwise (· < ·)) (hb : (bs.map (·.1)).Pairwise (· < ·)) :
    ((cmerge cop ptl ptr as bs).map (·.1)).Pairwise (· < ·) := by
  fun_induction cmerge cop ptl ptr as bs with
  | case1 bs hp => exact hb
  | case2 bs hp => simp
  | case3 a as hp => exact ha
  | case4 a as hp => simp
  | case5 pa as kb pb bs ih =>
    simp only [List.map_cons, List.pairwise_cons] at ha hb ⊢
    exact ⟨lt_cmerge cop ptl ptr ha.1 hb.1, ih ha.2 hb.2⟩
  | case6 ka pa as kb pb bs hne hlt ih =>
    have ha' := List.pairwise_cons.1 ha
    have hrest := ih ha'.2 hb
    cases ptl with
    | false => simpa using hrest
    | true =>
      simp only [if_true, List.singleton_append, List.map_cons, List.pairwise_cons]
      refine ⟨lt_cmerge cop true ptr ha'.1 ?_, hrest⟩
      intro b h
      rcases List.mem_cons.1 h with rfl | h
      · exact hlt
      · exact Nat.lt_trans hlt ((List.pairwise_cons.1 hb).1 b h)
  | case7 ka pa as kb pb bs hne hlt ih =>
    have hb' := List.pairwise_cons.1 hb
    have hrest := ih ha hb'.2
    cases ptr with
    | false => simpa using hrest
    | true =>
      simp only [if_true, List.singleton_append, List.map_cons, List.pairwise_cons]
      refine ⟨lt_cmerge cop ptl true ?_ hb'.1, hrest⟩
      have hgt : kb < ka := by omega
      intro a h
      rcases List.mem_cons.1 h with rfl | h
      · exact hgt
      · exact Nat.lt_trans hgt ((List.pairwise_cons.1 ha).1 a h)

/-- positions `i` / `j` cut the two maps at one key: every entry before the cut, on either side, is below every
entry after it, on either side.  The backward merge of `process` consumes both maps from a cut. -/
def Cut (A B : PMap) (i j : Nat) : Prop := KLt (A.take i ++ B.take j) (A.drop i ++ B.drop j)

theorem Cut.init (A B : PMap) : Cut A B A.length B.length := by
  intro x _ y hy
  simp at hy

/-- above a cut no left key has its partner: if every left key occurs on the right, the keys before the cut occur
before the cut -/
theorem Cut.matched {A B : PMap} {i j : Nat} (h : Cut A B i j) (hm : ∀ k ∈ A.map (·.1), k ∈ B.map (·.1)) :
    ∀ k ∈ (A.take i).map (·.1), k ∈ (B.take j).map (·.1) := by
  intro k hk
  obtain ⟨x, hx, rfl⟩ := List.mem_map.1 hk
  obtain ⟨y, hy, hxy⟩ := List.mem_map.1 (hm _ (List.mem_map_of_mem (List.mem_of_mem_take hx)))
  rw [← List.take_append_drop j B, List.mem_append] at hy
  rcases hy with hy | hy
  · exact hxy ▸ List.mem_map_of_mem hy
  · exact absurd (h x (List.mem_append_left _ hx) y (List.mem_append_right _ hy)) (by omega)

theorem cmerge_cut (cop : CPage → CPage → CPage) (ptl ptr : Bool) {A B : PMap} {i j : Nat}
    (h : Cut A B i j) (p q : List CPage) :
    cmerge cop ptl ptr (cview A p) (cview B q) =
      cmerge cop ptl ptr (cview (A.take i) p) (cview (B.take j) q) ++
        cmerge cop ptl ptr (cview (A.drop i) p) (cview (B.drop j) q) := by
  have hsub : ∀ {X Y : PMap}, (∀ x ∈ X, x ∈ A.take i ++ B.take j) → (∀ y ∈ Y, y ∈ A.drop i ++ B.drop j) →
      KLt X Y := fun hx hy x hx' y hy' => h x (hx x hx') y (hy y hy')
  rw [← cmerge_append cop ptl ptr _ _ _ _
    (klt_cview (hsub (fun _ => List.mem_append_left _) (fun _ => List.mem_append_left _)) p p)
    (klt_cview (hsub (fun _ => List.mem_append_left _) (fun _ => List.mem_append_right _)) p q)
    (klt_cview (hsub (fun _ => List.mem_append_right _) (fun _ => List.mem_append_left _)) q p)
    (klt_cview (hsub (fun _ => List.mem_append_right _) (fun _ => List.mem_append_right _)) q q),
    ← cview_append, ← cview_append, List.take_append_drop, List.take_append_drop]

section cut_steps
variable {A B : PMap} {i j : Nat}

theorem Cut.left (h : Cut A B i j) (hs : (A.map (·.1)).Pairwise (· < ·)) (hi : 0 < i) (hil : i ≤ A.length)
    (hlt : ∀ y ∈ B.take j, y.1 < (A.getD (i - 1) (0, 0)).1) : Cut A B (i - 1) j := by
  intro x hx y hy
  rw [cons_drop A i (0, 0) hi hil, List.cons_append, List.mem_cons] at hy
  rcases hy with rfl | hy
  · exact (List.mem_append.1 hx).elim (sorted_split A hs i hi hil x) (hlt x)
  · exact h x ((List.mem_append.1 hx).elim (fun h1 => List.mem_append_left _ (mem_take_pred A i x h1))
      (List.mem_append_right _)) y hy

theorem Cut.right (h : Cut A B i j) (hs : (B.map (·.1)).Pairwise (· < ·)) (hj : 0 < j) (hjl : j ≤ B.length)
    (hlt : ∀ x ∈ A.take i, x.1 < (B.getD (j - 1) (0, 0)).1) : Cut A B i (j - 1) := by
  intro x hx y hy
  have hx' : x ∈ A.take i ++ B.take j := (List.mem_append.1 hx).elim (List.mem_append_left _)
    (fun h1 => List.mem_append_right _ (mem_take_pred B j x h1))
  rw [cons_drop B j (0, 0) hj hjl, List.mem_append, List.mem_cons] at hy
  rcases hy with hy | rfl | hy
  · exact h x hx' y (List.mem_append_left _ hy)
  · exact (List.mem_append.1 hx).elim (hlt x) (sorted_split B hs j hj hjl x)
  · exact h x hx' y (List.mem_append_right _ hy)

theorem Cut.both (h : Cut A B i j) (hsA : (A.map (·.1)).Pairwise (· < ·)) (hsB : (B.map (·.1)).Pairwise (· < ·))
    (hi : 0 < i) (hil : i ≤ A.length) (hj : 0 < j) (hjl : j ≤ B.length)
    (heq : (A.getD (i - 1) (0, 0)).1 = (B.getD (j - 1) (0, 0)).1) : Cut A B (i - 1) (j - 1) := by
  have ha := sorted_split A hsA i hi hil
  have hb := sorted_split B hsB j hj hjl
  intro x hx y hy
  have hx' : x ∈ A.take i ++ B.take j := (List.mem_append.1 hx).elim
    (fun h1 => List.mem_append_left _ (mem_take_pred A i x h1))
    (fun h1 => List.mem_append_right _ (mem_take_pred B j x h1))
  rw [cons_drop A i (0, 0) hi hil, cons_drop B j (0, 0) hj hjl, List.cons_append, List.mem_cons, List.mem_append,
    List.mem_cons] at hy
  rcases hy with rfl | hy | rfl | hy
  · exact (List.mem_append.1 hx).elim (ha x) (fun h1 => heq ▸ hb x h1)
  · exact h x hx' y (List.mem_append_left _ hy)
  · exact (List.mem_append.1 hx).elim (fun h1 => heq ▸ ha x h1) (hb x)
  · exact h x hx' y (List.mem_append_right _ hy)

end cut_steps

end FontVerif.IntSet
