/- C14 / concrete BitSet::process, Step 1 (forward scan: page-count estimate + moving the kept map
entries to the front). -/
import FontVerif.Lemmas.IntSetConcMerge
namespace FontVerif.IntSet

/-- the left map entries whose major also occurs on the right (two-pointer scan) -/
def keptLeft : PMap → PMap → PMap
  | [], _ => []
  | _ :: _, [] => []
  | a :: as, b :: bs =>
    if a.1 = b.1 then a :: keptLeft as bs
    else if a.1 < b.1 then keptLeft as (b :: bs)
    else keptLeft (a :: as) bs
termination_by as bs => as.length + bs.length
decreasing_by all_goals simp_wf <;> omega

theorem keptLeft_nil_right (as : PMap) : keptLeft as [] = [] := by
  cases as <;> simp [keptLeft]

theorem keptLeft_sublist (as bs : PMap) : (keptLeft as bs).Sublist as := by
  fun_induction keptLeft as bs with
  | case1 bs => simp
  | case2 a as => simp
  | case3 a as b bs h ih => exact ih.cons_cons a
  | case4 a as b bs h1 h2 ih => exact ih.cons a
  | case5 a as b bs h1 h2 ih => exact ih

theorem keptLeft_subset (as bs : PMap) : ∀ x ∈ keptLeft as bs, x ∈ as :=
  fun _ h => (keptLeft_sublist as bs).subset h

/-- every kept entry has its partner on the right -/
theorem keptLeft_keys_sublist (as bs : PMap) : ((keptLeft as bs).map (·.1)).Sublist (bs.map (·.1)) := by
  fun_induction keptLeft as bs with
  | case1 bs => simp
  | case2 a as => simp
  | case3 a as b bs h ih => rw [List.map_cons, List.map_cons, h]; exact ih.cons_cons b.1
  | case4 a as b bs h1 h2 ih => exact ih
  | case5 a as b bs h1 h2 ih => exact ih.cons b.1

theorem length_ite_singleton {α : Type} (c : Bool) (x : α) : (if c then [x] else []).length = if c then 1 else 0 := by
  cases c <;> rfl

theorem cmerge_kept (cop : CPage → CPage → CPage) (ptr : Bool) (as bs : PMap) (pa pb : List CPage)
    (hs : (as.map (·.1)).Pairwise (· < ·)) :
    cmerge cop false ptr (cview as pa) (cview bs pb) =
      cmerge cop false ptr (cview (keptLeft as bs) pa) (cview bs pb) := by
  fun_induction keptLeft as bs with
  | case1 bs => rfl
  | case2 a as => simp [cview, cmerge_nil_right]
  | case3 a as b bs h ih =>
    have hs' := hs
    simp only [List.map_cons, List.pairwise_cons] at hs'
    simp only [cview, List.map_cons] at ih ⊢
    rw [cmerge, cmerge]; simp only [h, if_true]
    rw [ih hs'.2]
  | case4 a as b bs h1 h2 ih =>
    have hs' := hs
    simp only [List.map_cons, List.pairwise_cons] at hs'
    simp only [cview, List.map_cons] at ih ⊢
    rw [cmerge]; simp only [h1, h2, if_true, if_false]
    simpa using ih hs'.2
  | case5 a as b bs h1 h2 ih =>
    have hs' := hs
    simp only [List.map_cons, List.pairwise_cons] at hs'
    have hgt : b.1 < a.1 := by omega
    have hk : KLt [(b.1, pb.getD b.2 CPage.zero)] (cview (keptLeft (a :: as) bs) pa) := by
      intro x hx y hy
      simp only [List.mem_singleton] at hx
      subst hx
      obtain ⟨e, he, rfl⟩ := mem_cview.1 hy
      have := keptLeft_subset _ _ e he
      simp only [List.mem_cons] at this
      rcases this with rfl | this
      · exact hgt
      · have := hs'.1 e.1 (List.mem_map_of_mem this)
        simp only; omega
    have := cmerge_right_prefix cop false ptr (cview (keptLeft (a :: as) bs) pa)
      [(b.1, pb.getD b.2 CPage.zero)] (cview bs pb) hk
    simp only [cview, List.map_cons] at ih this ⊢
    rw [show ((b.1, pb.getD b.2 CPage.zero) :: List.map (fun e => (e.1, pb.getD e.2 CPage.zero)) bs) =
      [(b.1, pb.getD b.2 CPage.zero)] ++ List.map (fun e => (e.1, pb.getD e.2 CPage.zero)) bs from rfl, this]
    rw [List.singleton_append, cmerge]
    simp only [h1, h2, if_false]
    rw [ih hs]

/-- Step 1: the estimate is exact (the number of pages of the merge of what is left of the two maps, whatever the
pages and the operator), a passed-through left side leaves the map alone, otherwise the kept entries end up
(in order) at the front of the map. -/
theorem step1_spec (cop : CPage → CPage → CPage) (pa pb : List CPage) (ptl ptr : Bool) (omap : PMap)
    (lenA lenB : Nat) (hB : omap.length = lenB)
    (pm : PMap) (idxA idxB count w : Nat) (hA : pm.length = lenA) (hw : w ≤ idxA) :
    let r := processStep1 ptl ptr omap lenA lenB pm idxA idxB count w
    r.pm.length = lenA ∧
    r.count + (if ptl then lenA - r.idxA else 0) + (if ptr then lenB - r.idxB else 0) =
      count + (cmerge cop ptl ptr (cview (pm.drop idxA) pa) (cview (omap.drop idxB) pb)).length ∧
    (ptl = true → r.pm = pm) ∧
    (ptl = false → r.pm.take r.writeIdx = pm.take w ++ keptLeft (pm.drop idxA) (omap.drop idxB) ∧
      r.writeIdx = w + (keptLeft (pm.drop idxA) (omap.drop idxB)).length) := by
  fun_induction processStep1 ptl ptr omap lenA lenB pm idxA idxB count w with
  | case1 pm idxA idxB count w hc aMajor bMajor heq hptl pm' ih =>
    -- the entry is kept: written to position `w`
    have hf : ptl = false := by simpa using hptl
    have hpm' : pm' = pm.set w (pm.getD idxA (0, 0)) := ite_set_getD pm (0, 0) hw
    have hlen : pm'.length = lenA := by rw [hpm', List.length_set, hA]
    have hdrop : pm'.drop (idxA + 1) = pm.drop (idxA + 1) := by
      rw [hpm']; exact List.drop_set_of_lt (by omega)
    have htake : pm'.take (w + 1) = pm.take w ++ [pm.getD idxA (0, 0)] := by
      rw [hpm']; exact take_succ_set pm w _ (by omega)
    obtain ⟨i1, i2, -, i4⟩ := ih hlen (by omega)
    obtain ⟨j1, j2⟩ := i4 hf
    generalize processStep1 ptl ptr omap lenA lenB pm' (idxA + 1) (idxB + 1) (count + 1) (w + 1) = r at *
    rw [drop_eq_getD_cons pm idxA (0, 0) (by omega), drop_eq_getD_cons omap idxB (0, 0) (by omega),
      cview_cons, cview_cons, cmerge, keptLeft, if_pos heq, if_pos heq, List.length_cons]
    rw [hdrop] at i2 j1 j2
    rw [htake, List.append_assoc] at j1
    exact ⟨i1, by omega, fun h => (by rw [hf] at h; cases h),
      fun _ => ⟨j1, by rw [j2, List.length_cons]; omega⟩⟩
  | case2 pm idxA idxB count w hc aMajor bMajor heq hptl ih =>
    obtain ⟨i1, i2, i3, i4⟩ := ih hA (by omega)
    have ht : ptl = true := by simpa using hptl
    generalize processStep1 ptl ptr omap lenA lenB pm (idxA + 1) (idxB + 1) (count + 1) w = r at *
    rw [drop_eq_getD_cons pm idxA (0, 0) (by omega), drop_eq_getD_cons omap idxB (0, 0) (by omega),
      cview_cons, cview_cons, cmerge, if_pos heq, List.length_cons]
    exact ⟨i1, by omega, i3, fun h => (by rw [ht] at h; cases h)⟩
  | case3 pm idxA idxB count w hc aMajor bMajor hne hlt ih =>
    simp only [dite_eq_ite] at ih
    obtain ⟨i1, i2, i3, i4⟩ := ih hA (by omega)
    generalize processStep1 ptl ptr omap lenA lenB pm (idxA + 1) idxB _ w = r at *
    rw [drop_eq_getD_cons omap idxB (0, 0) (by omega)] at i2 i4
    rw [drop_eq_getD_cons pm idxA (0, 0) (by omega), drop_eq_getD_cons omap idxB (0, 0) (by omega),
      cview_cons, cview_cons, cmerge, keptLeft, if_neg hne, if_pos hlt, if_neg hne, if_pos hlt,
      List.length_append, length_ite_singleton, ← cview_cons (omap.getD idxB (0, 0))]
    exact ⟨i1, by omega, i3, i4⟩
  | case4 pm idxA idxB count w hc aMajor bMajor hne hlt ih =>
    simp only [dite_eq_ite] at ih
    obtain ⟨i1, i2, i3, i4⟩ := ih hA hw
    generalize processStep1 ptl ptr omap lenA lenB pm idxA (idxB + 1) _ w = r at *
    rw [drop_eq_getD_cons pm idxA (0, 0) (by omega)] at i2 i4
    rw [drop_eq_getD_cons pm idxA (0, 0) (by omega), drop_eq_getD_cons omap idxB (0, 0) (by omega),
      cview_cons, cview_cons, cmerge, keptLeft, if_neg hne, if_neg hlt, if_neg hne, if_neg hlt,
      List.length_append, length_ite_singleton, ← cview_cons (pm.getD idxA (0, 0))]
    exact ⟨i1, by omega, i3, i4⟩
  | case5 pm idxA idxB count w hc =>
    have hk : keptLeft (pm.drop idxA) (omap.drop idxB) = [] := by
      by_cases h1 : idxA < lenA
      · rw [List.drop_eq_nil_of_le (show omap.length ≤ idxB by omega), keptLeft_nil_right]
      · rw [List.drop_eq_nil_of_le (show pm.length ≤ idxA by omega), keptLeft]
    refine ⟨hA, ?_, fun _ => rfl, fun _ => by rw [hk]; simp⟩
    by_cases h1 : idxA < lenA
    · rw [List.drop_eq_nil_of_le (show omap.length ≤ idxB by omega), show cview [] pb = [] from rfl,
        cmerge_nil_right, show lenB - idxB = 0 by omega]
      cases ptl <;> simp [cview, hA]
    · rw [List.drop_eq_nil_of_le (show pm.length ≤ idxA by omega), show cview [] pa = [] from rfl,
        cmerge_nil_left, show lenA - idxA = 0 by omega]
      cases ptr <;> simp [cview, hB]
end FontVerif.IntSet
