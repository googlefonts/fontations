/-
Lemmas for Props/C01HandLayout.lean: Coverage / ClassDef / Device readers on arbitrary records, glyph sets,
the effect of a closure step (`Eff`, `Safe`, `Grows`; results of the loops through `CR.Sat`) with the measure of
the todo loop, `collect_features`.
-/
import FontVerif.Lemmas.HandRead
import FontVerif.Lemmas.HandSearch
import FontVerif.Lemmas.LayoutCov
import FontVerif.Lemmas.SortedMap
import FontVerif.Model.HandLayout
namespace FontVerif.HandLayout
open FontVerif.HandRead FontVerif.Layout

/-- `Err(i)` is an insertion point: at most the length -/
theorem bs_err {n : Nat} {cmp : Nat → Ordering} {i : Nat} (h : binarySearchBy n cmp = .err i) : i ≤ n :=
  BinSearch.err_le h

/-! ## Coverage -/

theorem cov1Get_ne_trap (xs : List Nat) (g : Nat) : cov1Get xs g ≠ .trap := by
  unfold cov1Get
  split
  · simp
  · split <;> simp

theorem bsNat_ok {xs : List Nat} {g j : Nat}
    (h : binarySearchBy xs.length (fun i => natCmp (xs.getD i 0) g) = .ok j) :
    j < xs.length ∧ xs[j]? = some g ∧ (xs.length ≤ 65536 → j % 65536 = j) := by
  have ⟨hj, he⟩ := BinSearch.ok_lt h
  exact ⟨hj, by rw [getElem?_eq_some_getD 0 hj, natCmp_eq.mp he], fun hl => Nat.mod_eq_of_lt (by omega)⟩

theorem cov1Get_some {xs : List Nat} {g i : Nat} (hlen : xs.length ≤ 65536)
    (h : cov1Get xs g = .val (some i)) : g < 65536 ∧ i < xs.length ∧ xs[i]? = some g := by
  unfold cov1Get at h
  by_cases hg : g ≥ 65536
  · simp [hg] at h
  · simp only [hg, if_false] at h
    cases hb : binarySearchBy xs.length (fun i => natCmp (xs.getD i 0) g) with
    | err j => rw [hb] at h; simp at h
    | ok j =>
      obtain ⟨hj, he, hm⟩ := bsNat_ok hb
      rw [hb] at h
      simp only [hm hlen] at h
      cases h
      exact ⟨by omega, hj, he⟩

/-- the transcription with representable panics computes `Layout.Coverage.get` (C16's model) -/
theorem cov2Get_val (rs : List RangeRec) (g : Nat) : cov2Get rs g = .val ((Coverage.fmt2 rs).get g) := by
  unfold cov2Get Coverage.get
  by_cases hg : g ≥ 65536
  · simp [hg]
  · simp only [hg, if_false]
    cases hb : binarySearchBy rs.length (fun i => rangeCmp (rs.getD i default) g) with
    | err j => rfl
    | ok j =>
      have ⟨hj, he⟩ := BinSearch.ok_lt hb
      have hr := rangeCmp_eq.mp he
      simp only []
      rw [getElem?_eq_some_getD default hj]
      simp only [subTrap, hr.1, if_true, Res.bind]

theorem cov2Get_some {rs : List RangeRec} {g i : Nat} (h : cov2Get rs g = .val (some i)) :
    g < 65536 ∧ i < 65536 ∧ ∃ r ∈ rs, r.start ≤ g ∧ g ≤ r.end_ ∧ i = r.startCov + (g - r.start) := by
  rw [cov2Get_val] at h
  injection h with h
  unfold Coverage.get at h
  by_cases hg : g ≥ 65536
  · simp [hg] at h
  · simp only [hg, if_false] at h
    cases hb : binarySearchBy rs.length (fun i => rangeCmp (rs.getD i default) g) with
    | err j => rw [hb] at h; simp at h
    | ok j =>
      rw [hb] at h
      simp only [] at h
      have ⟨hj, he⟩ := BinSearch.ok_lt hb
      have hr := rangeCmp_eq.mp he
      by_cases hc : (rs.getD j default).startCov + (g - (rs.getD j default).start) < 65536
      · rw [if_pos hc] at h
        injection h with h
        refine ⟨by omega, by omega, rs.getD j default, ?_, hr.1, hr.2, h.symm⟩
        exact List.mem_of_getElem? (getElem?_eq_some_getD default hj)
      · rw [if_neg hc] at h; cases h

/-- Σ max(0, end − start + 1) -/
def popSum (ps : List (Nat × Nat)) : Nat := (ps.map (fun p => p.2 + 1 - p.1)).sum

theorem popSum_le (ps : List (Nat × Nat)) (h : ∀ p ∈ ps, p.2 < 65536) : popSum ps ≤ 65536 * ps.length := by
  induction ps with
  | nil => simp [popSum]
  | cons p rest ih =>
    have h1 := h p (by simp)
    have h2 := ih (fun q hq => h q (by simp [hq]))
    simp only [popSum, List.map_cons, List.sum_cons, List.length_cons] at *
    omega

theorem popSum_map_le {α : Type} (rs : List α) (f : α → Nat × Nat) (h : ∀ r ∈ rs, (f r).2 < 65536) :
    popSum (rs.map f) ≤ 65536 * rs.length := by
  have := popSum_le (rs.map f) (fun p hp => by obtain ⟨r, hr, rfl⟩ := List.mem_map.mp hp; exact h r hr)
  rwa [List.length_map] at this

theorem expandRanges_length (rs : List RangeRec) :
    (expandRanges rs).length = popSum (rs.map (fun r => (r.start, r.end_))) := by
  induction rs with
  | nil => simp [expandRanges, popSum]
  | cons r rest ih =>
    simp only [expandRanges, List.length_append, ih, RangeRec.glyphs, List.length_range', popSum,
      List.map_cons, List.sum_cons]

theorem rangePop_val (s e : Nat) (h : e + 1 - s ≤ MAXU) : rangePop s e = .val (e + 1 - s) := by
  unfold rangePop
  by_cases hse : s > e
  · simp only [hse, if_true]
    congr 1; omega
  · simp only [hse, if_false, subTrap, Res.bind, addTrapU]
    have : s ≤ e := by omega
    simp only [this, if_true]
    have h2 : e - s + 1 ≤ MAXU := by omega
    simp only [h2, if_true]
    congr 1; omega

theorem popFold_val (ps : List (Nat × Nat)) : ∀ acc, acc + popSum ps ≤ MAXU →
    popFold acc ps = .val (acc + popSum ps) := by
  induction ps with
  | nil => intro acc _; simp [popFold, popSum]
  | cons p rest ih =>
    intro acc h
    obtain ⟨s, e⟩ := p
    simp only [popSum, List.map_cons, List.sum_cons] at h
    have h1 : e + 1 - s ≤ MAXU := by omega
    simp only [popFold, rangePop_val s e h1, Res.bind, addTrapU]
    have h2 : acc + (e + 1 - s) ≤ MAXU := by omega
    simp only [h2, if_true]
    have := ih (acc + (e + 1 - s)) (by simp only [popSum]; omega)
    rw [this]
    simp only [popSum, List.map_cons, List.sum_cons]
    congr 1; omega

theorem popFold_u16 {α : Type} (rs : List α) (f : α → Nat × Nat) (hlen : rs.length < 65536)
    (h : ∀ r ∈ rs, (f r).2 < 65536) : popFold 0 (rs.map f) = .val (popSum (rs.map f)) := by
  have hb := popSum_map_le rs f h
  have := popFold_val (rs.map f) 0 (by
    have : 65536 * rs.length ≤ 65536 * 65536 := Nat.mul_le_mul_left _ (Nat.le_of_lt hlen)
    simp only [MAXU]; omega)
  rwa [Nat.zero_add] at this

theorem anyR_val {α : Type} (f : α → Res Bool) (xs : List α) (h : ∀ x ∈ xs, f x ≠ .trap) :
    ∃ b, anyR f xs = .val b ∧ (b = true → ∃ x ∈ xs, f x = .val true) := by
  induction xs with
  | nil => exact ⟨false, rfl, by simp⟩
  | cons x rest ih =>
    have hx := h x (by simp)
    obtain ⟨b, hb, hb2⟩ := ih (fun y hy => h y (by simp [hy]))
    unfold anyR
    cases hf : f x with
    | trap => exact absurd hf hx
    | val v =>
      cases v with
      | true => exact ⟨true, rfl, fun _ => ⟨x, by simp, hf⟩⟩
      | false =>
        refine ⟨b, hb, fun hbt => ?_⟩
        obtain ⟨y, hy, hfy⟩ := hb2 hbt
        exact ⟨y, by simp [hy], hfy⟩

theorem anyGet_val (get : Nat → Res (Option Nat)) (hnt : ∀ g, get g ≠ .trap) (s : List Nat) :
    ∃ b, anyR (fun g => (get g).bind (fun r => .val r.isSome)) s = .val b ∧
      (b = true → ∃ g ∈ s, ∃ i, get g = .val (some i)) := by
  obtain ⟨b, hb, hb2⟩ := anyR_val (fun g => (get g).bind (fun r => .val r.isSome)) s (fun g _ => by
    cases hg : get g with
    | trap => exact absurd hg (hnt g)
    | val v => simp [Res.bind])
  refine ⟨b, hb, fun hbt => ?_⟩
  obtain ⟨g, hg, hfg⟩ := hb2 hbt
  refine ⟨g, hg, ?_⟩
  cases hv : get g with
  | trap => exact absurd hv (hnt g)
  | val v =>
    cases v with
    | none => simp [hv, Res.bind] at hfg
    | some i => exact ⟨i, rfl⟩

/-! ## ClassDef -/

/-- the transcription with the representable `u16` subtraction computes C16's `ClassDef.get` -/
theorem clsGet_eq (cd : ClassDef) (g : Nat) : clsGet cd g = .val (cd.get g) := by
  cases cd with
  | fmt1 s cs =>
    simp only [clsGet, cls1Get, ClassDef.get]
    by_cases h : g < s
    · simp [h]
    · simp [h, subTrap, Nat.le_of_not_lt h, Res.bind]
  | fmt2 rs => rfl

theorem cls2Iter_length (rs : List ClassRangeRec) :
    (cls2Iter rs).length = popSum (rs.map (fun r => (r.start, r.end_))) := by
  induction rs with
  | nil => simp [cls2Iter, popSum]
  | cons r rest ih =>
    simp only [cls2Iter, List.length_append, List.length_map, List.length_range', ih, popSum,
      List.map_cons, List.sum_cons]

theorem mem_cls2Iter {rs : List ClassRangeRec} {p : Nat × Nat} (h : p ∈ cls2Iter rs) :
    ∃ r ∈ rs, r.start ≤ p.1 ∧ p.1 ≤ r.end_ ∧ p.2 = r.cls := by
  induction rs with
  | nil => simp [cls2Iter] at h
  | cons r rest ih =>
    simp only [cls2Iter, List.mem_append, List.mem_map, List.mem_range'_1] at h
    rcases h with ⟨g, hg, rfl⟩ | h
    · exact ⟨r, by simp, by simp; omega, by simp; omega, rfl⟩
    · obtain ⟨r', hr', h1⟩ := ih h
      exact ⟨r', by simp [hr'], h1⟩

/-! ## Device -/

theorem valueCount_eq (fmt s e : Nat) : valueCount fmt s e =
    (if fmt = 1 then (e + 1 - s) / 8 + min ((e + 1 - s) % 8) 1
     else if fmt = 2 then (e + 1 - s) / 4 + min ((e + 1 - s) % 4) 1
     else if fmt = 3 then (e + 1 - s) / 2 + min ((e + 1 - s) % 2) 1
     else 0) := by
  simp only [valueCount, Shape.customByName]
  by_cases h1 : fmt = 1
  · simp [h1]
  · by_cases h2 : fmt = 2
    · simp [h2]
    · by_cases h3 : fmt = 3
      · simp [h3]
      · simp [h1, h2, h3]

theorem le_mul_ceilDiv (n pw : Nat) (h : 0 < pw) : n ≤ pw * (n / pw + min (n % pw) 1) := by
  have hd := Nat.div_add_mod n pw
  have hm := Nat.mod_lt n h
  rw [Nat.mul_add]
  generalize pw * (n / pw) = a at hd ⊢
  by_cases h0 : n % pw = 0
  · omega
  · have h1 : min (n % pw) 1 = 1 := by omega
    rw [h1, Nat.mul_one]; omega

theorem devLen_eq (s e pw len : Nat) (hpw : 0 < pw) (hlen : len = (e + 1 - s) / pw + min ((e + 1 - s) % pw) 1) :
    min (e - s + 1) (pw * len) = if s ≤ e then e - s + 1 else 0 := by
  by_cases h : s ≤ e
  · have e1 : e + 1 - s = e - s + 1 := by omega
    rw [if_pos h, hlen, e1]
    exact Nat.min_eq_left (le_mul_ceilDiv _ _ hpw)
  · have e0 : e + 1 - s = 0 := by omega
    rw [if_neg h, hlen, e0]
    simp

theorem toI8_range (x : Int) : -128 ≤ toI8 x ∧ toI8 x ≤ 127 := by
  unfold toI8; omega

theorem packedLoop_val (raw mask signMask bits : Nat) (hb : bits = 2 ∨ bits = 4 ∨ bits = 8) :
    ∀ is : List Nat, (∀ i ∈ is, i < 16 / bits) →
      ∃ vs, packedLoop raw mask signMask bits is = .val vs ∧ vs.length = is.length ∧
        ∀ v ∈ vs, -128 ≤ v ∧ v ≤ 127 := by
  intro is
  induction is with
  | nil => intro _; exact ⟨[], rfl, rfl, by simp⟩
  | cons i rest ih =>
    intro h
    have hi := h i (by simp)
    obtain ⟨vs, hvs, hl, hr⟩ := ih (fun j hj => h j (by simp [hj]))
    have hib : i * bits ≤ 16 - bits ∧ 16 - bits - i * bits < 16 ∧ i < 8 ∧ bits ≤ 16 := by
      rcases hb with rfl | rfl | rfl <;> simp at hi <;> omega
    unfold packedLoop
    simp only [subTrap, hib.2.2.2, if_true, Res.bind, hib.1]
    have h1 : ¬ (16 - bits - i * bits ≥ 16) := by omega
    have h2 : ¬ (i ≥ 8) := by omega
    simp only [h1, h2, if_false, hvs]
    refine ⟨_, rfl, by simp [hl], ?_⟩
    intro v hv
    simp only [List.mem_cons] at hv
    rcases hv with rfl | hv
    · split <;> exact toI8_range _
    · exact hr v hv

theorem packParams_bits (fmt : Nat) (hf : fmt = 1 ∨ fmt = 2 ∨ fmt = 3) :
    ((packParams fmt).2.2 = 2 ∨ (packParams fmt).2.2 = 4 ∨ (packParams fmt).2.2 = 8) ∧
    16 / (packParams fmt).2.2 = (if fmt = 1 then 8 else if fmt = 2 then 4 else 2) := by
  rcases hf with rfl | rfl | rfl <;> exact ⟨by decide, by decide⟩

theorem iterPackedValues_val (raw fmt n : Nat) (hf : fmt = 1 ∨ fmt = 2 ∨ fmt = 3) :
    ∃ vs, iterPackedValues raw fmt n = .val vs ∧
      vs.length = min n (if fmt = 1 then 8 else if fmt = 2 then 4 else 2) ∧
      ∀ v ∈ vs, -128 ≤ v ∧ v ≤ 127 := by
  obtain ⟨hb, hpw⟩ := packParams_bits fmt hf
  unfold iterPackedValues
  generalize packParams fmt = p at hb hpw
  have h0 : p.2.2 ≠ 0 := by omega
  obtain ⟨vs, h1, h2, h3⟩ := packedLoop_val raw p.1 p.2.1 p.2.2 hb (List.range (min n (16 / p.2.2)))
    (fun i hi => Nat.lt_of_lt_of_le (List.mem_range.mp hi) (Nat.min_le_right _ _))
  exact ⟨vs, by simp only [if_neg h0, h1], by rw [h2, List.length_range, hpw], h3⟩

/-- for a format without deltas the very first word panics (`16 / bits` with `bits = 0`) -/
theorem iterPackedValues_trap (raw fmt n : Nat) (hf : ¬ (fmt = 1 ∨ fmt = 2 ∨ fmt = 3)) :
    iterPackedValues raw fmt n = .trap := by
  unfold iterPackedValues packParams
  have h1 : fmt ≠ 1 := fun h => hf (Or.inl h)
  have h2 : fmt ≠ 2 := fun h => hf (Or.inr (Or.inl h))
  have h3 : fmt ≠ 3 := fun h => hf (Or.inr (Or.inr h))
  simp [h1, h2, h3]

theorem devWords_val (fmt : Nat) (hf : fmt = 1 ∨ fmt = 2 ∨ fmt = 3) (pw : Nat)
    (hpw : pw = if fmt = 1 then 8 else if fmt = 2 then 4 else 2) :
    ∀ (ws : List Nat) (n : Nat), ∃ vs, devWords fmt pw n ws = .val vs ∧ vs.length = min n (pw * ws.length) ∧
      ∀ v ∈ vs, -128 ≤ v ∧ v ≤ 127 := by
  intro ws
  induction ws with
  | nil => intro n; exact ⟨[], rfl, by simp, by simp⟩
  | cons w rest ih =>
    intro n
    obtain ⟨vs, h1, h2, h3⟩ := iterPackedValues_val w fmt n hf
    obtain ⟨tl, t1, t2, t3⟩ := ih (n - pw)
    refine ⟨vs ++ tl, by simp [devWords, h1, t1, Res.bind], ?_, ?_⟩
    · rw [← hpw] at h2
      simp only [List.length_append, h2, t2, List.length_cons]
      rw [Nat.mul_succ]
      omega
    · intro v hv
      simp only [List.mem_append] at hv
      rcases hv with hv | hv
      · exact h3 v hv
      · exact t3 v hv

/-! ## the generated readers hand out `u16` fields -/

/-- all fields of a parsed coverage table are `u16`s, the record count included -/
def U16Cov : Coverage → Prop
  | .fmt1 xs => xs.length < 65536 ∧ ∀ g ∈ xs, g < 65536
  | .fmt2 rs => rs.length < 65536 ∧ ∀ r ∈ rs, r.start < 65536 ∧ r.end_ < 65536 ∧ r.startCov < 65536

def U16Cls : ClassDef → Prop
  | .fmt1 s cs => s < 65536 ∧ cs.length < 65536 ∧ ∀ c ∈ cs, c < 65536
  | .fmt2 rs => rs.length < 65536 ∧ ∀ r ∈ rs, r.start < 65536 ∧ r.end_ < 65536 ∧ r.cls < 65536

theorem u16sAt_u16 (d : List Nat) (hb : ∀ b ∈ d, b < 256) (p n : Nat) :
    (u16sAt d p n).length = n ∧ ∀ g ∈ u16sAt d p n, g < 65536 := by
  refine ⟨by simp [u16sAt], fun g hg => ?_⟩
  simp only [u16sAt, List.mem_map] at hg
  obtain ⟨i, _, rfl⟩ := hg
  exact beAt2_lt d hb _

theorem triplesAt_u16 (d : List Nat) (hb : ∀ b ∈ d, b < 256) (p n : Nat) :
    (triplesAt d p n).length = n ∧ ∀ t ∈ triplesAt d p n, t.1 < 65536 ∧ t.2.1 < 65536 ∧ t.2.2 < 65536 := by
  refine ⟨by simp [triplesAt], fun t ht => ?_⟩
  simp only [triplesAt, List.mem_map] at ht
  obtain ⟨i, _, rfl⟩ := ht
  exact ⟨beAt2_lt d hb _, beAt2_lt d hb _, beAt2_lt d hb _⟩

theorem covRead_u16 (d : List Nat) (hb : ∀ b ∈ d, b < 256) (c : Coverage) (h : covRead d = .ok c) : U16Cov c := by
  unfold covRead at h
  obtain ⟨-, h⟩ := readAt_step h nofun
  by_cases h1 : beAt d 0 2 = 1
  · rw [if_pos h1] at h
    obtain ⟨-, h⟩ := readAt_step h nofun
    obtain ⟨-, h⟩ := else_step h nofun
    cases h
    exact ⟨by rw [(u16sAt_u16 d hb 4 _).1]; exact beAt2_lt d hb 2, (u16sAt_u16 d hb 4 _).2⟩
  · rw [if_neg h1] at h
    obtain ⟨-, h⟩ := else_step h nofun
    obtain ⟨-, h⟩ := readAt_step h nofun
    obtain ⟨-, h⟩ := else_step h nofun
    cases h
    refine ⟨by rw [List.length_map, (triplesAt_u16 d hb 4 _).1]; exact beAt2_lt d hb 2, fun r hr => ?_⟩
    obtain ⟨t, ht, rfl⟩ := List.mem_map.mp hr
    exact (triplesAt_u16 d hb 4 _).2 t ht

theorem clsRead_u16 (d : List Nat) (hb : ∀ b ∈ d, b < 256) (c : ClassDef) (h : clsRead d = .ok c) : U16Cls c := by
  unfold clsRead at h
  obtain ⟨-, h⟩ := readAt_step h nofun
  by_cases h1 : beAt d 0 2 = 1
  · rw [if_pos h1] at h
    cases hs : readAt d 2 2 with
    | none => rw [hs] at h; cases h
    | some s =>
      cases hn : readAt d 4 2 with
      | none => rw [hs, hn] at h; cases h
      | some n =>
        rw [hs, hn] at h
        obtain ⟨-, h⟩ := else_step h nofun
        cases h
        exact ⟨readAt2_lt d hb 2 s hs, by rw [(u16sAt_u16 d hb 6 n).1]; exact readAt2_lt d hb 4 n hn,
          (u16sAt_u16 d hb 6 n).2⟩
  · rw [if_neg h1] at h
    obtain ⟨-, h⟩ := else_step h nofun
    obtain ⟨-, h⟩ := readAt_step h nofun
    obtain ⟨-, h⟩ := else_step h nofun
    cases h
    refine ⟨by rw [List.length_map, (triplesAt_u16 d hb 4 _).1]; exact beAt2_lt d hb 2, fun r hr => ?_⟩
    obtain ⟨t, ht, rfl⟩ := List.mem_map.mp hr
    exact (triplesAt_u16 d hb 4 _).2 t ht

/-! ## the readers of the lookup list -/

theorem rd16_ok {d : List Nat} {p v : Nat} (h : rd16 d p = .ok v) : v = beAt d p 2 ∧ p + 2 ≤ d.length := by
  unfold rd16 at h
  cases hr : readAt d p 2 with
  | none => rw [hr] at h; cases h
  | some w =>
    rw [hr] at h
    cases h
    obtain ⟨h1, -, rfl⟩ := readAt_eq_some hr
    exact ⟨rfl, h1⟩

theorem need_ok {d : List Nat} {p n : Nat} {u : Unit} (h : need d p n = .ok u) : p + n ≤ d.length :=
  (else_step h nofun).1

/-! ## glyph sets -/

/-- inserting adds one element unless it is there already (sorted or not) -/
theorem length_insertUniq (g : Nat) : ∀ xs : List Nat,
    (insertUniq g xs).length = xs.length + 1 ∨ (g ∈ xs ∧ (insertUniq g xs).length = xs.length) := by
  intro xs
  induction xs with
  | nil => exact .inl rfl
  | cons x rest ih =>
    unfold insertUniq
    split
    · exact .inl rfl
    · split
      · exact .inr ⟨‹g = x› ▸ List.mem_cons_self, rfl⟩
      · exact ih.imp (congrArg (· + 1)) fun h => ⟨List.mem_cons_of_mem _ h.1, congrArg (· + 1) h.2⟩

/-- an `IntSet<GlyphId16>`: strictly increasing `u16` values -/
def Inc16 (xs : List Nat) : Prop := xs.Pairwise (· < ·) ∧ ∀ x ∈ xs, x < 65536

theorem inc16_nil : Inc16 [] := ⟨List.Pairwise.nil, by simp⟩

theorem Inc16.length_le {xs : List Nat} (h : Inc16 xs) : xs.length ≤ 65536 := by
  have := nodup_length_le (sorted_nodup h.1) (lo := 0) (fun x hx => ⟨Nat.zero_le _, h.2 x hx⟩)
  omega

theorem Inc16.ins {s : G16} (h : Inc16 s) (g : Nat) : Inc16 (s.ins g) := by
  unfold G16.ins
  split
  · refine ⟨insertUniq_pairwise h.1, ?_⟩
    intro x hx
    rcases mem_insertUniq.mp hx with rfl | hx
    · assumption
    · exact h.2 x hx
  · exact h

theorem length_ins_ge (s : G16) (g : Nat) : s.length ≤ (s.ins g).length := by
  unfold G16.ins
  split
  · exact (length_insertUniq g s).elim (fun h => h ▸ Nat.le_succ _) fun h => Nat.le_of_eq h.2.symm
  · exact Nat.le_refl _

theorem mem_ins {s : G16} {g y : Nat} : y ∈ s.ins g ↔ y ∈ s ∨ (y = g ∧ g < 65536) := by
  unfold G16.ins
  split
  · rw [mem_insertUniq, or_comm, and_iff_left ‹_›]
  · simp only [*, and_false, or_false]

theorem mem_ins_of_mem {s : G16} {g y : Nat} (h : y ∈ s) : y ∈ s.ins g := mem_ins.mpr (.inl h)

theorem Inc16.ext {s : G16} (h : Inc16 s) (xs : List Nat) : Inc16 (s.ext xs) :=
  foldl_inv Inc16 G16.ins xs (fun _ x _ hb => hb.ins x) s h

theorem length_ext_ge (xs : List Nat) (s : G16) : s.length ≤ (s.ext xs).length :=
  foldl_inv (s.length ≤ ·.length) G16.ins xs (fun b x _ hb => Nat.le_trans hb (length_ins_ge b x)) s (Nat.le_refl _)

theorem mem_ext_of_mem (xs : List Nat) (s : G16) {y : Nat} (h : y ∈ s) : y ∈ s.ext xs :=
  foldl_inv (y ∈ ·) G16.ins xs (fun _ _ _ hb => mem_ins_of_mem hb) s h

theorem inc16_ofList (xs : List Nat) : Inc16 (G16.ofList xs) := inc16_nil.ext xs

theorem length_ext_gt : ∀ (xs : List Nat) (s : G16), (∃ g ∈ xs, g ∉ s ∧ g < 65536) →
    s.length < (s.ext xs).length := by
  intro xs
  induction xs with
  | nil => intro s h; obtain ⟨g, hg, _⟩ := h; simp at hg
  | cons x rest ih =>
    intro s ⟨g, hg, hns, hlt⟩
    show s.length < ((s.ins x).ext rest).length
    by_cases hgx : g = x
    · -- `g` itself is the element inserted at this step
      subst hgx
      have : (s.ins g).length = s.length + 1 := by
        rw [G16.ins, if_pos hlt]; exact (length_insertUniq g s).resolve_right fun h => hns h.1
      have := length_ext_ge rest (s.ins g)
      omega
    · have hn : g ∉ s.ins x := fun hm => (mem_ins.mp hm).elim hns fun h => hgx h.1
      have := ih (s.ins x) ⟨g, (List.mem_cons.mp hg).resolve_left hgx, hn, hlt⟩
      have := length_ins_ge s x
      omega

/-! ## the effect of one closure step on the context -/

/-- the active glyphs of a todo are a glyph set -/
def TodoOk (t : Todo) : Prop := ∀ a, t.2 = some a → Inc16 a

/-- invariant of `ClosureCtx` -/
def Good (c : Cx) : Prop := Inc16 c.glyphs ∧ ∀ t ∈ c.todos, TodoOk t

/-- what a (sub)table's `add_reachable_glyphs` may do: glyphs only grow (and stay a `u16` set), at most
`k` todos are pushed, `finished_lookups` and `cur_glyphs` are not touched -/
structure Eff (c c' : Cx) (k : Nat) : Prop where
  inc : Inc16 c'.glyphs
  mono : c.glyphs.length ≤ c'.glyphs.length
  sub : ∀ g ∈ c.glyphs, g ∈ c'.glyphs
  fin : c'.finished = c.finished
  cur : c'.cur = c.cur
  tlen : c'.todos.length ≤ c.todos.length + k
  tok : ∀ t ∈ c'.todos, TodoOk t

theorem Eff.refl {c : Cx} (h : Good c) : Eff c c 0 :=
  ⟨h.1, Nat.le_refl _, fun g hg => hg, rfl, rfl, by omega, h.2⟩

theorem Eff.good {c c' : Cx} {k : Nat} (h : Eff c c' k) : Good c' := ⟨h.inc, h.tok⟩

theorem Eff.trans {c c1 c2 : Cx} {k1 k2 : Nat} (h1 : Eff c c1 k1) (h2 : Eff c1 c2 k2) : Eff c c2 (k1 + k2) :=
  ⟨h2.inc, Nat.le_trans h1.mono h2.mono, fun g hg => h2.sub g (h1.sub g hg), by rw [h2.fin, h1.fin], by rw [h2.cur, h1.cur],
   by have := h1.tlen; have := h2.tlen; omega, h2.tok⟩

theorem Eff.weaken {c c' : Cx} {k k' : Nat} (h : Eff c c' k) (hk : k ≤ k') : Eff c c' k' :=
  ⟨h.inc, h.mono, h.sub, h.fin, h.cur, by have := h.tlen; omega, h.tok⟩

/-- `r` is no panic and an `Ok` value satisfies `P` -/
def CR.Sat {α : Type} (r : CR α) (P : α → Prop) : Prop := r ≠ .trap ∧ ∀ a, r = .ok a → P a

theorem CR.Sat.ok {α : Type} {P : α → Prop} {a : α} (h : P a) : (CR.ok a).Sat P :=
  ⟨nofun, fun _ h' => CR.ok.inj h' ▸ h⟩

theorem CR.Sat.err {α : Type} {P : α → Prop} {e : LErr} : (CR.err e : CR α).Sat P := ⟨nofun, nofun⟩

@[elab_as_elim] theorem CR.Sat.cases {α : Type} {P : α → Prop} {motive : CR α → Prop} {r : CR α}
    (h : r.Sat P) (err : ∀ e, motive (.err e)) (ok : ∀ a, P a → motive (.ok a)) : motive r := by
  cases r with
  | trap => exact absurd rfl h.1
  | err e => exact err e
  | ok a => exact ok a (h.2 a rfl)

theorem CR.Sat.bind {α β : Type} {P : α → Prop} {Q : β → Prop} {r : CR α} {f : α → CR β} (h : r.Sat P)
    (hf : ∀ a, P a → (f a).Sat Q) : (r.bind f).Sat Q :=
  h.cases (fun _ => .err) hf

theorem CR.Sat.liftPR {α β : Type} {Q : β → Prop} {r : PR α} {f : α → CR β}
    (h : ∀ a, r = .ok a → (f a).Sat Q) : (HandLayout.liftPR r f).Sat Q := by
  cases r with
  | error e => exact .err
  | ok a => exact h a rfl

/-- a step's result: `Ok` with a bounded effect, or an error — never a panic -/
def Safe (r : CR Cx) (c : Cx) (k : Nat) : Prop :=
  match r with
  | .ok c' => Eff c c' k
  | .err _ => True
  | .trap => False

theorem Safe.ok {c c' : Cx} {k : Nat} (h : Eff c c' k) : Safe (.ok c') c k := h

theorem Safe.sat {r : CR Cx} {c : Cx} {k : Nat} (h : Safe r c k) : r.Sat (fun c' => Eff c c' k) := by
  cases r with
  | trap => exact h.elim
  | err e => exact .err
  | ok c' => exact .ok h

theorem Safe.pre {c c1 : Cx} {k1 k2 : Nat} {r : CR Cx} (h1 : Eff c c1 k1) (h2 : Safe r c1 k2) : Safe r c (k1 + k2) := by
  cases r with
  | ok c' => exact h1.trans h2
  | err e => trivial
  | trap => exact h2

theorem Safe.weaken {c : Cx} {k k' : Nat} {r : CR Cx} (h : Safe r c k) (hk : k ≤ k') : Safe r c k' := by
  cases r with
  | ok c' => exact Eff.weaken h hk
  | err e => trivial
  | trap => exact h

theorem Safe.bind {c : Cx} {k1 k2 : Nat} {r : CR Cx} {f : Cx → CR Cx} (h1 : Safe r c k1)
    (h2 : ∀ c1, Eff c c1 k1 → Safe (f c1) c1 k2) : Safe (r.bind f) c (k1 + k2) := by
  cases r with
  | ok c1 => exact Safe.pre h1 (h2 c1 h1)
  | err e => trivial
  | trap => exact h1

theorem Safe.skip {c : Cx} (h : Good c) (k : Nat) : Safe (.ok c) c k :=
  Eff.weaken (Eff.refl h) (Nat.zero_le k)

theorem Safe.liftPR {α : Type} {r : PR α} {f : α → CR Cx} {c : Cx} {k : Nat}
    (h : ∀ a, r = .ok a → Safe (f a) c k) : Safe (liftPR r f) c k := by
  cases r with
  | error e => trivial
  | ok a => exact h a rfl

theorem eff_addGlyph {c : Cx} (h : Good c) (g : Nat) : Eff c (c.addGlyph g) 0 :=
  ⟨h.1.ins g, length_ins_ge _ _, fun y hy => mem_ins_of_mem hy, rfl, rfl, by simp [Cx.addGlyph], h.2⟩

theorem eff_extend {c : Cx} (h : Good c) (gs : List Nat) : Eff c (c.extendGlyphs gs) 0 :=
  ⟨h.1.ext gs, length_ext_ge _ _, fun y hy => mem_ext_of_mem gs _ hy, rfl, rfl, by simp [Cx.extendGlyphs], h.2⟩

theorem eff_addTodo {c : Cx} (h : Good c) (id : Nat) (a : Option G16) (ha : ∀ s, a = some s → Inc16 s) :
    Eff c (c.addTodo id a) 1 := by
  refine ⟨h.1, Nat.le_refl _, fun g hg => hg, rfl, rfl, by simp [Cx.addTodo], ?_⟩
  intro t ht
  simp only [Cx.addTodo, List.mem_cons] at ht
  rcases ht with rfl | ht
  · exact ha
  · exact h.2 t ht

theorem inc_some {a : G16} (h : Inc16 a) : ∀ s, some a = some s → Inc16 s :=
  fun _ hs => Option.some.inj hs ▸ h

theorem Safe.addTodo {c : Cx} (h : Good c) (id : Nat) (a : Option G16) (ha : ∀ s, a = some s → Inc16 s)
    {r : CR Cx} {k : Nat} (hr : Good (c.addTodo id a) → Safe r (c.addTodo id a) k) : Safe r c (1 + k) :=
  Safe.pre (eff_addTodo h id a ha) (hr (eff_addTodo h id a ha).good)

/-! ## the subtable loops -/

theorem addPairs_eff : ∀ (ps : List (Nat × Nat)) (c : Cx), Good c → Eff c (addPairs c ps) 0 := by
  intro ps
  induction ps with
  | nil => intro c h; exact Eff.refl h
  | cons p rest ih =>
    intro c h
    obtain ⟨t, r⟩ := p
    unfold addPairs
    split
    · exact (eff_addGlyph h r).trans (ih _ (eff_addGlyph h r).good)
    · exact ih c h

theorem addSeqs_safe : ∀ (ps : List (Nat × PR (List Nat))) (c : Cx), Good c → Safe (addSeqs c ps) c 0 := by
  intro ps
  induction ps with
  | nil => intro c h; exact Eff.refl h
  | cons p rest ih =>
    intro c h
    obtain ⟨g, r⟩ := p
    cases r with
    | error e => trivial
    | ok reps =>
      simp only [addSeqs]
      split
      · exact Safe.pre (eff_extend h reps) (ih _ (eff_extend h reps).good)
      · exact ih c h

theorem addLigs_safe : ∀ (ls : List (PR (Nat × List Nat))) (c : Cx), Good c → Safe (addLigs c ls) c 0 := by
  intro ls
  induction ls with
  | nil => intro c h; exact Eff.refl h
  | cons l rest ih =>
    intro c h
    cases l with
    | error e => trivial
    | ok p =>
      obtain ⟨lig, comps⟩ := p
      simp only [addLigs]
      split
      · exact Safe.pre (eff_addGlyph h lig) (ih _ (eff_addGlyph h lig).good)
      · exact ih c h

theorem addLigSets_safe : ∀ (ps : List (Nat × PR (List (PR (Nat × List Nat))))) (c : Cx), Good c →
    Safe (addLigSets c ps) c 0 := by
  intro ps
  induction ps with
  | nil => intro c h; exact Eff.refl h
  | cons p rest ih =>
    intro c h
    obtain ⟨g, r⟩ := p
    cases r with
    | error e => trivial
    | ok ligs =>
      simp only [addLigSets]
      split
      · exact Safe.bind (addLigs_safe ligs c h) (fun c1 h1 => ih c1 h1.good)
      · exact ih c h

theorem reverseGate_ne_trap : ∀ (cs : List (PR Coverage)) (c : Cx), reverseGate c cs ≠ .trap := by
  intro cs
  induction cs with
  | nil => intro c; simp [reverseGate]
  | cons r rest ih =>
    intro c
    cases r with
    | error e => simp [reverseGate]
    | ok cov =>
      simp only [reverseGate]
      split
      · exact ih c
      · simp

theorem ruleTodos1_safe (covGlyphs : List Nat) (i : Nat) (input : List Nat) (hi : i < covGlyphs.length) :
    ∀ (recs : List SeqRec) (c : Cx) (seen : List Nat), Good c →
      Safe (ruleTodos1 covGlyphs i input c seen recs) c recs.length := by
  intro recs
  induction recs with
  | nil => intro c seen h; exact Eff.refl h
  | cons r rest ih =>
    intro c seen h
    rw [List.length_cons, Nat.add_comm]
    unfold ruleTodos1
    by_cases hs : seen.contains r.seqIdx = true
    · simp only [hs, if_true]
      exact Safe.addTodo h r.lookup none nofun (ih _ _)
    · simp only [hs, Bool.false_eq_true, if_false]
      by_cases hz : r.seqIdx = 0
      · simp only [hz, if_true, List.getElem?_eq_getElem hi]
        exact Safe.addTodo h r.lookup _ (inc_some (inc16_ofList _)) (ih _ _)
      · have h1 : 1 ≤ r.seqIdx := Nat.pos_of_ne_zero hz
        simp only [hz, if_false, subTrap, h1, if_true]
        cases hin : input[r.seqIdx - 1]? with
        | some g => exact Safe.addTodo h r.lookup _ (inc_some (inc16_ofList _)) (ih _ _)
        | none => exact Safe.weaken (ih c _ h) (Nat.le_add_left _ _)

theorem rulesLoop1_safe (covGlyphs : List Nat) (i : Nat) (hi : i < covGlyphs.length) :
    ∀ (rules : List (PR Rule)) (c : Cx), Good c → Safe (rulesLoop1 covGlyphs i c rules) c (rulesCost rules) := by
  intro rules
  induction rules with
  | nil => intro c h; exact Eff.refl h
  | cons r rest ih =>
    intro c h
    cases r with
    | error e => trivial
    | ok rule =>
      simp only [rulesLoop1, rulesCost]
      split
      · exact Safe.bind (ruleTodos1_safe covGlyphs i rule.input hi rule.recs c [] h) (fun c1 h1 => ih c1 h1.good)
      · exact Safe.weaken (ih c h) (by omega)

theorem setsLoop1_safe (covGlyphs : List Nat) (cur : G16) :
    ∀ (sets : List (Nat × Option (PR (List (PR Rule))))) (c : Cx) (i : Nat), Good c →
      i + sets.length ≤ covGlyphs.length → Safe (setsLoop1 covGlyphs cur c i sets) c (setsCost1 sets) := by
  intro sets
  induction sets with
  | nil => intro c i h _; exact Eff.refl h
  | cons p rest ih =>
    intro c i h hi
    obtain ⟨g, s⟩ := p
    simp only [List.length_cons] at hi
    cases s with
    | none =>
      simp only [setsLoop1, setsCost1, setCost]
      exact Safe.weaken (ih c (i + 1) h (by omega)) (by omega)
    | some s =>
      simp only [setsLoop1, setsCost1]
      split
      · cases s with
        | error e => trivial
        | ok rules =>
          simp only [setCost]
          exact Safe.bind (rulesLoop1_safe covGlyphs i (by omega) rules c h) (fun c1 h1 => ih c1 (i + 1) h1.good (by omega))
      · exact Safe.weaken (ih c (i + 1) h (by omega)) (by omega)

/-! ### class based contexts -/

theorem makeClassSet_ok (cd : ClassDef) : ∀ gs : List Nat, ∃ ks, makeClassSet cd gs = .ok ks := by
  intro gs
  induction gs with
  | nil => exact ⟨[], rfl⟩
  | cons g rest ih =>
    obtain ⟨ks, hks⟩ := ih
    exact ⟨cd.get g :: ks, by simp [makeClassSet, clsGet_eq, hks, CR.ofRes, CR.bind]⟩

theorem intersectClass_ok (cd : ClassDef) (cl : Nat) : ∀ gs : List Nat, ∃ a, intersectClass cd cl gs = .ok a ∧ Inc16 a := by
  intro gs
  induction gs with
  | nil => exact ⟨[], rfl, inc16_nil⟩
  | cons g rest ih =>
    obtain ⟨a, ha, hinc⟩ := ih
    refine ⟨if cd.get g = cl then G16.ofList (g :: a) else a,
      by simp [intersectClass, clsGet_eq, ha, CR.ofRes, CR.bind], ?_⟩
    split
    · exact inc16_ofList _
    · exact hinc

theorem ruleTodos2_safe (cd : ClassDef) (cur : G16) (classI : Nat) (input : List Nat) :
    ∀ (recs : List SeqRec) (c : Cx) (seen : List Nat), Good c →
      Safe (ruleTodos2 cd cur classI input c seen recs) c recs.length := by
  intro recs
  induction recs with
  | nil => intro c seen h; exact Eff.refl h
  | cons r rest ih =>
    intro c seen h
    rw [List.length_cons, Nat.add_comm]
    unfold ruleTodos2
    by_cases hs : seen.contains r.seqIdx = true
    · simp only [hs, if_true]
      exact Safe.addTodo h r.lookup none nofun (ih _ _)
    · simp only [hs, Bool.false_eq_true, if_false]
      by_cases hz : r.seqIdx = 0
      · obtain ⟨a, ha, hinc⟩ := intersectClass_ok cd classI cur
        simp only [hz, if_true, ha, CR.bind]
        exact Safe.addTodo h r.lookup _ (inc_some hinc) (ih _ _)
      · have h1 : 1 ≤ r.seqIdx := Nat.pos_of_ne_zero hz
        simp only [hz, if_false, subTrap, h1, if_true]
        cases hin : input[r.seqIdx - 1]? with
        | some cl =>
          obtain ⟨a, ha, hinc⟩ := intersectClass_ok cd cl c.glyphs
          simp only [ha, CR.bind]
          exact Safe.addTodo h r.lookup _ (inc_some hinc) (ih _ _)
        | none => exact Safe.weaken (ih c _ h) (Nat.le_add_left _ _)

theorem rulesLoop2_safe (cd : ClassDef) (cur : G16) (ours : List Nat) (classI : Nat) :
    ∀ (rules : List (PR Rule)) (c : Cx), Good c →
      Safe (rulesLoop2 cd cur ours classI c rules) c (rulesCost rules) := by
  intro rules
  induction rules with
  | nil => intro c h; exact Eff.refl h
  | cons r rest ih =>
    intro c h
    cases r with
    | error e => trivial
    | ok rule =>
      simp only [rulesLoop2, rulesCost]
      split
      · exact Safe.bind (ruleTodos2_safe cd cur classI rule.input rule.recs c [] h) (fun c1 h1 => ih c1 h1.good)
      · exact Safe.weaken (ih c h) (by omega)

theorem setsLoop2_safe (cd : ClassDef) (cur : G16) (ours : List Nat) :
    ∀ (sets : List (Option (PR (List (PR Rule))))) (c : Cx) (i : Nat), Good c →
      Safe (setsLoop2 cd cur ours c i sets) c (setsCost2 sets) := by
  intro sets
  induction sets with
  | nil => intro c i h; exact Eff.refl h
  | cons s rest ih =>
    intro c i h
    cases s with
    | none =>
      simp only [setsLoop2, setsCost2, setCost]
      exact Safe.weaken (ih c (i + 1) h) (by omega)
    | some s =>
      simp only [setsLoop2, setsCost2]
      split
      · cases s with
        | error e => trivial
        | ok rules =>
          simp only [setCost]
          exact Safe.bind (rulesLoop2_safe cd cur ours _ rules c h) (fun c1 h1 => ih c1 (i + 1) h1.good)
      · exact Safe.weaken (ih c (i + 1) h) (by omega)

theorem ctx3Todos_safe (covs : List (PR Coverage)) (cur : G16) (hcur : Inc16 cur) :
    ∀ (recs : List SeqRec) (c : Cx), Good c → Safe (ctx3Todos covs cur c recs) c recs.length := by
  intro recs
  induction recs with
  | nil => intro c h; exact Eff.refl h
  | cons r rest ih =>
    intro c h
    rw [List.length_cons, Nat.add_comm]
    unfold ctx3Todos
    split
    · exact Safe.addTodo h r.lookup _ (inc_some hcur) (ih _)
    · cases hg : arrGet covs r.seqIdx with
      | error e => trivial
      | ok cov => exact Safe.addTodo h r.lookup _ (inc_some (inc16_ofList _)) (ih _)

theorem intersectCoverage_inc {cov : Coverage} {glyphs cur : G16} (h : intersectCoverage cov glyphs = some cur) : Inc16 cur := by
  unfold intersectCoverage at h
  simp only [] at h
  split at h
  · cases h
  · injection h with h; rw [← h]; exact inc16_ofList _

theorem subAdd_safe (s : Sub) (c : Cx) (h : Good c) : Safe (subAdd c s) c (subCost s) := by
  cases s with
  | single1 cov delta => exact Safe.liftPR fun cv _ => addPairs_eff _ c h
  | single2 cov subs => exact Safe.liftPR fun cv _ => addPairs_eff _ c h
  | multiple cov seqs => exact Safe.liftPR fun cv _ => addSeqs_safe _ c h
  | ligature cov sets => exact Safe.liftPR fun cv _ => addLigSets_safe _ c h
  | reverse others cov subs =>
    simp only [subAdd, subCost]
    cases hg : reverseGate c others with
    | trap => exact absurd hg (reverseGate_ne_trap others c)
    | err e => trivial
    | ok pass =>
      cases pass with
      | false => exact Eff.refl h
      | true => exact Safe.liftPR fun cv _ => addPairs_eff _ c h
  | ctx1 cov sets =>
    cases cov with
    | error e => trivial
    | ok cv =>
      simp only [subAdd, liftPR, subCost]
      cases hi : intersectCoverage cv c.current with
      | none => exact Safe.skip h _
      | some cur => exact setsLoop1_safe (covIter cv) cur _ c 0 h (by simp [List.length_zip]; omega)
  | ctx2 cov cls sets =>
    refine Safe.liftPR fun cv _ => ?_
    cases hi : intersectCoverage cv c.current with
    | none => exact Safe.skip h _
    | some cur =>
      refine Safe.liftPR fun cd _ => ?_
      obtain ⟨ours, ho⟩ := makeClassSet_ok cd c.glyphs
      simp only [ho, CR.bind]
      exact setsLoop2_safe cd cur ours sets c 0 h
  | ctx3 covs others recs =>
    refine Safe.liftPR fun cov0 _ => ?_
    cases hi : intersectCoverage cov0 c.current with
    | none => exact Safe.skip h _
    | some cur =>
      simp only []
      split
      · exact ctx3Todos_safe covs cur (intersectCoverage_inc hi) recs c h
      · exact Safe.skip h _

theorem subsLoop_safe : ∀ (subs : List (PR Sub)) (c : Cx), Good c → Safe (subsLoop c subs) c (subsCost subs) := by
  intro subs
  induction subs with
  | nil => intro c h; exact Eff.refl h
  | cons s rest ih =>
    intro c h
    cases s with
    | error e => trivial
    | ok s =>
      simp only [subsLoop, subsCost]
      exact Safe.bind (subAdd_safe s c h) (fun c1 h1 => ih c1 h1.good)

/-! ## `finished_lookups` and the termination measure of the todo loop -/

theorem find?_filter_ne (m : List (Nat × Nat × Option G16)) (id id' : Nat) (h : id' ≠ id) :
    (m.filter (fun e => e.1 != id)).find? (fun e => e.1 == id') = m.find? (fun e => e.1 == id') := by
  rw [List.find?_filter]
  congr 1; funext e
  by_cases he : e.1 = id' <;> simp [he, h]

theorem finishedGet_set (m : List (Nat × Nat × Option G16)) (id id' : Nat) (v : Nat × Option G16) :
    finishedGet (finishedSet m id v) id' = if id' = id then some v else finishedGet m id' := by
  unfold finishedGet finishedSet
  by_cases h : id' = id
  · subst h; simp
  · have h2 : (id == id') = false := by
      simp only [beq_eq_false_iff_ne, ne_eq]; exact fun e => h e.symm
    simp only [h, if_false, List.find?_cons, h2, find?_filter_ne m id id' h]

/-- all `covered` sets are glyph sets -/
def FinOk (c : Cx) : Prop := ∀ e ∈ c.finished, ∀ cov, e.2.2 = some cov → Inc16 cov

/-- what is left of a lookup's budget in the current epoch (`g` = number of closure glyphs): it was
(re)run for this glyph count and has covered `cov` → `65536 − |cov|`; otherwise a fresh epoch -/
def remOf (v : Option (Nat × Option G16)) (g : Nat) : Nat :=
  match v with
  | some (cnt, some cov) => if cnt = g then 65536 - cov.length else 65537
  | _ => 65537

def rem (c : Cx) (id : Nat) : Nat := remOf (finishedGet c.finished id) c.glyphs.length

theorem rem_congr {c c' : Cx} (hf : c'.finished = c.finished) (hg : c'.glyphs.length = c.glyphs.length) (i : Nat) :
    rem c' i = rem c i := by
  unfold rem; rw [hf, hg]

theorem remOf_le (v : Option (Nat × Option G16)) (g : Nat) : remOf v g ≤ 65537 := by
  unfold remOf
  split
  · split <;> omega
  · omega

theorem remOf_getD (o : Option (Nat × Option G16)) (g : Nat) : remOf (some (o.getD (0, none))) g = remOf o g := by
  cases o with
  | none => simp [remOf]
  | some v => simp

def remSum (c : Cx) (L : Nat) : Nat := ((List.range L).map (rem c)).sum

theorem remSum_le (c : Cx) (L : Nat) : remSum c L ≤ L * 65537 := by
  have := sum_map_le (f := rem c) (g := fun _ => 65537) (List.range L) (fun i _ => remOf_le _ _)
  simpa [remSum, List.map_const', List.sum_replicate_nat] using this

theorem sum_range_dec (f f' : Nat → Nat) (id δ : Nat) (hne : ∀ i, i ≠ id → f' i = f i) (hid : f' id + δ ≤ f id) :
    ∀ L, id < L → ((List.range L).map f').sum + δ ≤ ((List.range L).map f).sum := by
  intro L
  induction L with
  | zero => intro h; omega
  | succ L ih =>
    intro h
    simp only [List.range_succ, List.map_append, List.sum_append, List.map_cons, List.map_nil, List.sum_cons,
      List.sum_nil, Nat.add_zero]
    by_cases hL : id = L
    · subst hL
      have : ((List.range id).map f').sum = ((List.range id).map f).sum := by
        congr 1
        apply List.map_congr_left
        intro i hi
        simp only [List.mem_range] at hi
        exact hne i (by omega)
      omega
    · have h1 := ih (by omega)
      have h2 := hne L (fun e => hL e.symm)
      omega

theorem sum_range_congr (f f' : Nat → Nat) (h : ∀ i, f' i = f i) (L : Nat) :
    ((List.range L).map f').sum = ((List.range L).map f).sum := by
  congr 1
  apply List.map_congr_left
  intro i _
  exact h i

/-- the lexicographic measure "(glyphs still to be found, Σ budgets left in this epoch)" as one number -/
def work (c : Cx) (L : Nat) : Nat := (65536 - c.glyphs.length) * (L * 65537 + 1) + remSum c L

theorem work_dec_arith (N g g' W S S' : Nat) (h1 : g + 1 ≤ g') (h2 : g' ≤ N) (h3 : S' + 1 ≤ W) :
    (N - g') * W + S' + 1 ≤ (N - g) * W + S := by
  have : (N - g' + 1) * W ≤ (N - g) * W := Nat.mul_le_mul_right W (by omega)
  rw [Nat.add_mul, Nat.one_mul] at this
  omega

theorem work_le (c : Cx) (L : Nat) : work c L ≤ 65536 * (L * 65537 + 1) + L * 65537 := by
  unfold work
  have h1 := remSum_le c L
  have h2 : (65536 - c.glyphs.length) * (L * 65537 + 1) ≤ 65536 * (L * 65537 + 1) :=
    Nat.mul_le_mul_right _ (by omega)
  generalize (65536 - c.glyphs.length) * (L * 65537 + 1) = a at h2 ⊢
  generalize 65536 * (L * 65537 + 1) = b at h2 ⊢
  omega

theorem work_dec {c c' : Cx} {id L δ : Nat} (hid : id < L) (hg : c'.glyphs.length = c.glyphs.length)
    (hne : ∀ i, i ≠ id → rem c' i = rem c i) (h : rem c' id + δ ≤ rem c id) : work c' L + δ ≤ work c L := by
  unfold work remSum
  rw [hg]
  have := sum_range_dec (rem c) (rem c') id δ hne h L hid
  omega

/-- a new glyph pays for all the budgets -/
theorem work_grow {c c' : Cx} (L : Nat) (hlt : c.glyphs.length + 1 ≤ c'.glyphs.length) (hle : c'.glyphs.length ≤ 65536) :
    work c' L + 1 ≤ work c L :=
  work_dec_arith 65536 _ _ (L * 65537 + 1) (remSum c L) _ hlt hle (Nat.succ_le_succ (remSum_le c' L))

def phi (c : Cx) (L K : Nat) : Nat := work c L * (K + 1) + c.todos.length

theorem phi_dec_arith (A A' K t t' : Nat) (hA : A' + 1 ≤ A) (ht : t' ≤ t + K) :
    A' * (K + 1) + t' < A * (K + 1) + t + 1 := by
  have : (A' + 1) * (K + 1) ≤ A * (K + 1) := Nat.mul_le_mul_right _ hA
  rw [Nat.add_mul, Nat.one_mul] at this
  omega

theorem phi_step {c c1 : Cx} {t : Todo} {rest : List Todo} {L K fuel : Nat} (ht : c.todos = t :: rest)
    (hphi : phi c L K < fuel + 1)
    (hmeas : (c1.todos.length ≤ rest.length ∧ work c1 L ≤ work c L) ∨
      (c1.todos.length ≤ rest.length + K ∧ work c1 L + 1 ≤ work c L)) : phi c1 L K < fuel := by
  unfold phi at hphi ⊢
  rw [ht] at hphi
  simp only [List.length_cons] at hphi
  rcases hmeas with ⟨h1, h2⟩ | ⟨h1, h2⟩
  · have h3 := Nat.mul_le_mul_right (K + 1) h2
    generalize work c1 L * (K + 1) = p at h3 ⊢
    generalize work c L * (K + 1) = q at h3 hphi
    omega
  · have := phi_dec_arith (work c L) (work c1 L) K rest.length c1.todos.length h2 h1
    omega

/-! ## `needs_to_do_lookup` -/

structure NeedsSpec (c : Cx) (id : Nat) (b : Bool) (c1 : Cx) : Prop where
  glyphs : c1.glyphs = c.glyphs
  todos : c1.todos = c.todos
  cur : c1.cur = c.cur
  finOk : FinOk c1
  other : ∀ i, i ≠ id → rem c1 i = rem c i
  skip : b = false → rem c1 id ≤ rem c id
  exec : b = true → rem c1 id + 1 ≤ rem c id

theorem finOk_set {c : Cx} (h : FinOk c) (id : Nat) (v : Nat × Option G16) (hv : ∀ cov, v.2 = some cov → Inc16 cov) :
    FinOk { c with finished := finishedSet c.finished id v } := by
  intro e he cov hc
  simp only [finishedSet, List.mem_cons, List.mem_filter] at he
  rcases he with rfl | he
  · exact hv cov hc
  · exact h e he.1 cov hc

theorem rem_set_self (c : Cx) (id : Nat) (v : Nat × Option G16) :
    rem { c with finished := finishedSet c.finished id v } id = remOf (some v) c.glyphs.length := by
  simp [rem, finishedGet_set]

theorem rem_set_other (c : Cx) (id i : Nat) (v : Nat × Option G16) (hi : i ≠ id) :
    rem { c with finished := finishedSet c.finished id v } i = rem c i := by
  simp [rem, finishedGet_set, hi]

theorem FinOk.getD {c : Cx} (h : FinOk c) (id : Nat) :
    ∀ cov, ((finishedGet c.finished id).getD (0, none)).2 = some cov → Inc16 cov := by
  unfold finishedGet
  cases hfi : c.finished.find? (fun e => e.1 == id) with
  | none => nofun
  | some e => exact h e (List.mem_of_find?_eq_some hfi)

/-- `needs_to_do_lookup` writes one entry and nothing else: what is asked of the entry -/
theorem NeedsSpec.set {c : Cx} (hf : FinOk c) (id : Nat) (b : Bool) (v : Nat × Option G16)
    (hv : ∀ cov, v.2 = some cov → Inc16 cov) (hr : remOf (some v) c.glyphs.length + b.toNat ≤ rem c id) :
    NeedsSpec c id b { c with finished := finishedSet c.finished id v } :=
  ⟨rfl, rfl, rfl, finOk_set hf id v hv, fun i hi => rem_set_other c id i v hi,
    fun hb => by rw [rem_set_self]; subst hb; exact hr, fun hb => by rw [rem_set_self]; subst hb; exact hr⟩

theorem needsToDo_eq (c : Cx) (id : Nat) (current : Option G16) :
    needsToDo c id current =
      (let e0 := (finishedGet c.finished id).getD (0, none)
       let e1 : Nat × Option G16 := if e0.1 ≠ c.glyphs.length then (c.glyphs.length, some []) else e0
       let cur := current.getD c.glyphs
       if cur.all (coveredHas e1.2) = true then
         (false, { c with finished := finishedSet c.finished id e1 })
       else (true, { c with finished := finishedSet c.finished id (e1.1, some ((e1.2.getD []).ext cur)) })) := rfl

theorem needsToDo_spec (c : Cx) (id : Nat) (current : Option G16) (hg : Inc16 c.glyphs) (hf : FinOk c)
    (hcur : ∀ s, current = some s → Inc16 s) :
    NeedsSpec c id (needsToDo c id current).1 (needsToDo c id current).2 := by
  have hcurLt : ∀ g ∈ current.getD c.glyphs, g < 65536 := by
    cases current with
    | none => exact hg.2
    | some s => exact (hcur s rfl).2
  have he0 := hf.getD id
  have hrem0 : rem c id = remOf (some ((finishedGet c.finished id).getD (0, none))) c.glyphs.length :=
    (remOf_getD _ _).symm
  rw [needsToDo_eq]
  simp only []
  generalize (finishedGet c.finished id).getD (0, none) = e0 at he0 hrem0
  -- the entry after the reset: counted for this glyph count, a glyph set, its budget not above the old one
  obtain ⟨e1, he1, h1a, h1b, h1c⟩ : ∃ e1, (if e0.1 ≠ c.glyphs.length then (c.glyphs.length, some []) else e0) = e1 ∧
      e1.1 = c.glyphs.length ∧ (∀ cov, e1.2 = some cov → Inc16 cov) ∧ remOf (some e1) c.glyphs.length ≤ rem c id := by
    by_cases hcnt : e0.1 = c.glyphs.length
    · exact ⟨e0, if_neg (fun h => h hcnt), hcnt, he0, hrem0 ▸ Nat.le_refl _⟩
    · refine ⟨_, if_pos hcnt, rfl, fun cov hc => Option.some.inj hc ▸ inc16_nil, ?_⟩
      obtain ⟨cnt0, cov0⟩ := e0
      rw [hrem0]
      cases cov0 <;> simp [remOf, hcnt]
  rw [he1]
  by_cases hall : (current.getD c.glyphs).all (coveredHas e1.2) = true
  · rw [if_pos hall]; exact .set hf id false e1 h1b h1c
  · rw [if_neg hall]
    have hinc : Inc16 (G16.ext (e1.2.getD []) (current.getD c.glyphs)) := by
      cases he : e1.2 with
      | none => exact inc16_nil.ext _
      | some cv => exact (h1b cv he).ext _
    refine .set hf id true _ (fun cov hc => Option.some.inj hc ▸ hinc) (Nat.le_trans ?_ h1c)
    -- a current glyph outside `covered` makes `covered` longer
    obtain ⟨cnt1, cov1⟩ := e1
    subst h1a
    cases cov1 with
    | none => simp [remOf]
    | some cv =>
      obtain ⟨g, hgm, hgp⟩ := List.all_eq_false.mp (Bool.eq_false_iff.mpr hall)
      have hgn : g ∉ cv := fun hm => hgp (by simp [coveredHas, hm])
      have h1 := length_ext_gt (current.getD c.glyphs) cv ⟨g, hgm, hgn, hcurLt g hgm⟩
      have h2 := hinc.length_le
      simp only [remOf, Option.getD_some, if_true, Bool.toNat_true] at h2 ⊢
      omega

/-! ## one lookup, the todo loop, one pass, the fixpoint loop -/

theorem arrGet_ok {α : Type} {xs : List (PR α)} {i : Nat} {a : α} (h : arrGet xs i = .ok a) :
    i < xs.length ∧ xs[i]? = some (.ok a) := by
  unfold arrGet at h
  cases hx : xs[i]? with
  | none => simp [hx] at h
  | some r =>
    simp only [hx] at h
    subst h
    have := List.getElem?_eq_some_iff.mp hx
    exact ⟨this.1, rfl⟩

theorem cost_le_max : ∀ (lookups : List (PR Lookup)) (lk : Lookup), (.ok lk : PR Lookup) ∈ lookups →
    lookupCost lk ≤ maxCost lookups := by
  intro lookups
  induction lookups with
  | nil => intro lk h; simp at h
  | cons x rest ih =>
    intro lk h
    simp only [List.mem_cons] at h
    cases x with
    | error e =>
      simp only [maxCost]
      rcases h with h | h
      · cases h
      · exact ih lk h
    | ok l =>
      simp only [maxCost]
      rcases h with h | h
      · injection h with h; subst h; exact Nat.le_max_left _ _
      · exact Nat.le_trans (ih lk h) (Nat.le_max_right _ _)

/-- a later context of the same closure: the invariants still hold and no glyph was lost -/
structure Grows (c c' : Cx) : Prop where
  good : Good c'
  fin : FinOk c'
  sub : ∀ g ∈ c.glyphs, g ∈ c'.glyphs
  mono : c.glyphs.length ≤ c'.glyphs.length

theorem Grows.refl {c : Cx} (hG : Good c) (hF : FinOk c) : Grows c c := ⟨hG, hF, fun _ h => h, Nat.le_refl _⟩

theorem Grows.trans {c c1 c2 : Cx} (h1 : Grows c c1) (h2 : Grows c1 c2) : Grows c c2 :=
  ⟨h2.good, h2.fin, fun g hg => h2.sub g (h1.sub g hg), Nat.le_trans h1.mono h2.mono⟩

/-- `ClosureCtx::closure_glyphs` for one lookup either skips it (nothing pushed, the measure does not grow) or
executes it (at most `K` todos pushed, the measure drops) -/
theorem closureLookup_step (L K : Nat) (c : Cx) (lk : Lookup) (id : Nat) (current : Option G16)
    (hG : Good c) (hF : FinOk c) (hcur : ∀ s, current = some s → Inc16 s) (hid : id < L)
    (hK : lookupCost lk ≤ K) : (closureLookup c lk id current).Sat (fun c' => Grows c c' ∧
      ((c'.todos.length ≤ c.todos.length ∧ work c' L ≤ work c L) ∨
       (c'.todos.length ≤ c.todos.length + K ∧ work c' L + 1 ≤ work c L))) := by
  have sp := needsToDo_spec c id current hG.1 hF hcur
  unfold closureLookup
  generalize needsToDo c id current = r at sp
  obtain ⟨b, c1⟩ := r
  simp only [] at sp ⊢
  have hG1 : Good c1 := ⟨by rw [sp.glyphs]; exact hG.1, by rw [sp.todos]; exact hG.2⟩
  cases b with
  | false =>
    simp only [Bool.false_eq_true, if_false]
    exact .ok ⟨⟨hG1, sp.finOk, by rw [sp.glyphs]; exact fun g h => h, by rw [sp.glyphs]; exact Nat.le_refl _⟩,
      Or.inl ⟨by rw [sp.todos]; exact Nat.le_refl _,
        by simpa using work_dec (δ := 0) hid (by rw [sp.glyphs]) sp.other (sp.skip rfl)⟩⟩
  | true =>
    simp only [if_true]
    refine .liftPR fun subs hlk => (subsLoop_safe subs { c1 with cur := current } hG1).sat.bind fun c2 he => .ok ?_
    subst hlk
    have hfin : c2.finished = c1.finished := he.fin
    have hglen : c.glyphs.length ≤ c2.glyphs.length := sp.glyphs ▸ he.mono
    refine ⟨⟨⟨he.inc, he.tok⟩, fun e hm => sp.finOk e (hfin ▸ hm), fun g hg => he.sub g (sp.glyphs ▸ hg), hglen⟩,
      Or.inr ⟨?_, ?_⟩⟩
    · have := he.tlen
      simp only [] at this
      rw [sp.todos] at this
      simp only [lookupCost] at hK
      show c2.todos.length ≤ c.todos.length + K
      omega
    · by_cases hsame : c2.glyphs.length = c.glyphs.length
      · -- no new glyph: the budgets are those `needs_to_do_lookup` left, and that of `id` has dropped
        have hc : ∀ i, rem { c2 with cur := none } i = rem c1 i := rem_congr hfin (hsame.trans (by rw [sp.glyphs]))
        exact work_dec hid hsame (fun i hi => (hc i).trans (sp.other i hi)) (hc id ▸ sp.exec rfl)
      · exact work_grow L (show c.glyphs.length + 1 ≤ c2.glyphs.length by omega) he.inc.length_le

theorem todoLoop_terminates (lookups : List (PR Lookup)) :
    ∀ (fuel : Nat) (c : Cx), Good c → FinOk c → phi c lookups.length (maxCost lookups) < fuel →
      ∃ r, todoLoop lookups fuel c = some r ∧ r.Sat (fun c' => Grows c c' ∧ c'.todos = []) := by
  intro fuel
  induction fuel with
  | zero => intro c _ _ h; omega
  | succ fuel ih =>
    intro c hG hF hphi
    unfold todoLoop
    cases ht : c.todos with
    | nil => exact ⟨.ok c, rfl, .ok ⟨Grows.refl hG hF, ht⟩⟩
    | cons t rest =>
      obtain ⟨id, active⟩ := t
      simp only []
      cases hl : arrGet lookups id with
      | error e => exact ⟨.err e, rfl, .err⟩
      | ok lk =>
        simp only []
        have ⟨hid, hmem⟩ := arrGet_ok hl
        have hG0 : Good { c with todos := rest } :=
          ⟨hG.1, fun t' ht' => hG.2 t' (by rw [ht]; simp [ht'])⟩
        refine (closureLookup_step lookups.length (maxCost lookups) { c with todos := rest } lk id active hG0 hF
          (hG.2 (id, active) (by rw [ht]; simp)) hid (cost_le_max lookups lk (List.mem_of_getElem? hmem))).cases
          (fun e => ⟨.err e, rfl, .err⟩) (fun c1 ⟨hgr, hmeas⟩ => ?_)
        obtain ⟨r, hr2, hs⟩ := ih c1 hgr.good hgr.fin (phi_step ht hphi hmeas)
        exact ⟨r, hr2, hs.1, fun c' hc' => ⟨Grows.trans ⟨hgr.good, hgr.fin, hgr.sub, hgr.mono⟩ (hs.2 c' hc').1,
          (hs.2 c' hc').2⟩⟩

theorem onceLookups_safe (lookups : List (PR Lookup)) :
    ∀ (ids : List Nat) (c : Cx), Good c → FinOk c →
      (onceLookups lookups c ids).Sat
        (fun c' => Grows c c' ∧ c'.todos.length ≤ c.todos.length + ids.length * maxCost lookups) := by
  intro ids
  induction ids with
  | nil => intro c hG hF; exact .ok ⟨Grows.refl hG hF, by simp⟩
  | cons id rest ih =>
    intro c hG hF
    unfold onceLookups
    refine .liftPR fun lk hl => ?_
    have ⟨hid, hmem⟩ := arrGet_ok hl
    refine (closureLookup_step lookups.length (maxCost lookups) c lk id none hG hF nofun hid
      (cost_le_max lookups lk (List.mem_of_getElem? hmem))).bind fun c1 ⟨hgr, hmeas⟩ => ?_
    refine (ih c1 hgr.good hgr.fin).cases (fun _ => .err) fun c2 ⟨a, e⟩ => .ok ⟨hgr.trans a, ?_⟩
    simp only [List.length_cons, Nat.succ_mul]
    rcases hmeas with ⟨h1, _⟩ | ⟨h1, _⟩ <;> omega

theorem closureOnce_terminates (g : GsubT) (reachable : List Nat) (c : Cx) (hG : Good c) (hF : FinOk c)
    (ht : c.todos = []) (fuel : Nat)
    (hfuel : ∀ ls, g.lookups = .ok ls → onceFuel ls.length (maxCost ls) reachable.length ≤ fuel) :
    ∃ r, closureOnce g reachable fuel c = some r ∧ r.Sat (fun c' => Grows c c' ∧ c'.todos = []) := by
  unfold closureOnce
  cases hl : g.lookups with
  | error e => exact ⟨.err e, rfl, .err⟩
  | ok ls =>
    simp only []
    refine (onceLookups_safe ls reachable c hG hF).cases (fun e => ⟨.err e, rfl, .err⟩) fun c1 ⟨hgr, htl⟩ => ?_
    have hphi : phi c1 ls.length (maxCost ls) < fuel := by
      have := hfuel ls hl
      unfold onceFuel at this
      unfold phi
      have hw := work_le c1 ls.length
      have := Nat.mul_le_mul_right (maxCost ls + 1) hw
      rw [ht] at htl
      simp only [List.length_nil, Nat.zero_add] at htl
      omega
    obtain ⟨r, hr2, hs⟩ := todoLoop_terminates ls fuel c1 hgr.good hgr.fin hphi
    exact ⟨r, hr2, hs.1, fun c2 h2 => ⟨hgr.trans (hs.2 c2 h2).1, (hs.2 c2 h2).2⟩⟩

/-- **the fixpoint loop of `closure_glyphs` makes at most `65536 − |glyphs| + 2` passes**: every pass but
the last one finds a new glyph, and there are only 65536 glyph ids -/
theorem closureLoop_terminates (g : GsubT) (reachable : List Nat) (fuelI : Nat)
    (hfuel : ∀ ls, g.lookups = .ok ls → onceFuel ls.length (maxCost ls) reachable.length ≤ fuelI) :
    ∀ (fuelO : Nat) (prev : Nat × Nat) (c : Cx), Good c → FinOk c → c.todos = [] →
      65536 - c.glyphs.length + 2 ≤ fuelO →
      ∃ r, closureLoop g reachable fuelI fuelO prev c = some r ∧ r.Sat (fun c' => Grows c c' ∧ c'.todos = []) := by
  intro fuelO
  induction fuelO with
  | zero => intro prev c _ _ _ h; omega
  | succ fuelO ih =>
    intro prev c hG hF ht hfo
    unfold closureLoop
    simp only []
    by_cases hp : prev = (c.glyphs.length, reachable.length)
    · simp only [hp, if_true]
      exact ⟨.ok c, rfl, .ok ⟨Grows.refl hG hF, ht⟩⟩
    · simp only [hp, if_false]
      obtain ⟨r, hr, hpost⟩ := closureOnce_terminates g reachable c hG hF ht fuelI hfuel
      rw [hr]
      refine hpost.cases (fun e => ⟨.err e, rfl, .err⟩) fun c1 ⟨hgr, ht1⟩ => ?_
      simp only []
      by_cases hsame : c1.glyphs.length = c.glyphs.length
      · -- no new glyph: the next test ends the loop
        cases fuelO with
        | zero => omega
        | succ k =>
          unfold closureLoop
          simp only [hsame, if_true]
          exact ⟨.ok c1, rfl, .ok ⟨hgr, ht1⟩⟩
      · have hle : c1.glyphs.length ≤ 65536 := hgr.good.1.length_le
        have hmono := hgr.mono
        obtain ⟨r2, hr2, hs⟩ := ih (c.glyphs.length, reachable.length) c1 hgr.good hgr.fin ht1 (by omega)
        exact ⟨r2, hr2, hs.1, fun c2 h2 => ⟨hgr.trans (hs.2 c2 h2).1, (hs.2 c2 h2).2⟩⟩

/-! ## `collect_features` -/

theorem indexForTag_some {tags : List Nat} {t i : Nat} (h : indexForTag tags t = some i) :
    ∃ j, i = j % 65536 ∧ j < tags.length ∧ tags[j]? = some t ∧ (tags.length ≤ 65536 → j % 65536 = j) := by
  unfold indexForTag at h
  cases hb : binarySearchBy tags.length (fun i => natCmp (tags.getD i 0) t) with
  | err j => rw [hb] at h; cases h
  | ok j =>
    rw [hb] at h
    exact ⟨j, (Option.some.inj h).symm, bsNat_ok hb⟩

theorem indexForTag_lt {tags : List Nat} {t i : Nat} (h : indexForTag tags t = some i) : i < tags.length := by
  obtain ⟨j, rfl, hj, _⟩ := indexForTag_some h
  exact Nat.lt_of_le_of_lt (Nat.mod_le j 65536) hj

theorem indexForTag_get {α : Type} (recs : List (Nat × α)) {t i : Nat}
    (h : indexForTag (recs.map (·.1)) t = some i) : ∃ e, recs[i]? = some e := by
  have hlt := indexForTag_lt h
  rw [List.length_map] at hlt
  exact ⟨_, List.getElem?_eq_getElem hlt⟩

/-- invariant of `CollectFeaturesContext`: the counters stay below their limits + 1 (so the `u16`
increments cannot overflow), results and filter are indices of wanted features -/
def CFInv (F0 : List Nat) (c : CF) : Prop :=
  c.scriptCount ≤ 501 ∧ c.langsysCount ≤ 2001 ∧ (∀ i ∈ c.out, i ∈ F0) ∧ (∀ i ∈ c.filter, i ∈ F0)

theorem visitedStep_val (count : Nat) (visited : List Nat) (max head pos : Nat) (hc : count ≤ max + 1) (hm : max + 2 ≤ 65536) :
    ∃ b n v, visitedStep count visited max head (head + pos) = .val (b, n, v) ∧ n ≤ max + 1 := by
  unfold visitedStep
  by_cases h : count > max
  · exact ⟨true, count, visited, by simp [h], hc⟩
  · simp only [h, if_false, inc16, subTrap]
    have h1 : count + 1 < 65536 := by omega
    have h2 : head ≤ head + pos := by omega
    simp only [h1, h2, if_true, Res.bind]
    exact ⟨_, _, _, rfl, by omega⟩

theorem limitExceeded_inv (F0 : List Nat) (c : CF) (n : Nat) (h : CFInv F0 c) : CFInv F0 (limitExceeded c n).2 := by
  unfold limitExceeded
  simp only []
  split <;> exact h

theorem limitExceeded_fields (c : CF) (n : Nat) :
    (limitExceeded c n).2.out = c.out ∧ (limitExceeded c n).2.filter = c.filter := by
  unfold limitExceeded
  simp only []
  split <;> exact ⟨rfl, rfl⟩

theorem langFeatures_inv (F0 : List Nat) : ∀ (idxs : List Nat) (c : CF), CFInv F0 c → CFInv F0 (langFeatures c idxs) := by
  intro idxs
  induction idxs with
  | nil => intro c h; exact h
  | cons idx rest ih =>
    intro c h
    unfold langFeatures
    split
    · rename_i hc
      apply ih
      refine ⟨h.1, h.2.1, ?_, ?_⟩
      · intro i hi
        simp only [] at hi
        rcases mem_insertUniq.mp hi with rfl | hi
        · exact h.2.2.2 _ (by simpa using hc)
        · exact h.2.2.1 i hi
      · intro i hi
        simp only [List.mem_filter] at hi
        exact h.2.2.2 i hi.1
    · exact ih c h

theorem requiredStep_inv (F0 : List Nat) (c : CF) (req : Nat) (h : CFInv F0 c) : CFInv F0 (requiredStep c req) := by
  unfold requiredStep
  by_cases hr : req ≠ 65535
  · rw [if_pos hr]
    have hl := limitExceeded_inv F0 c 1 h
    simp only []
    by_cases hcond : (!(limitExceeded c 1).1 && (limitExceeded c 1).2.filter.contains req) = true
    · rw [if_pos hcond]
      simp only [Bool.and_eq_true] at hcond
      refine ⟨hl.1, hl.2.1, ?_, hl.2.2.2⟩
      intro i hi
      simp only [] at hi
      rcases mem_insertUniq.mp hi with rfl | hi
      · exact hl.2.2.2 _ (by simpa using hcond.2)
      · exact hl.2.2.1 i hi
    · rw [if_neg hcond]; exact hl
  · rw [if_neg hr]; exact h

theorem langSysBody_inv (F0 : List Nat) (c : CF) (ls : LangSysT) (h : CFInv F0 c) : CFInv F0 (langSysBody c ls) := by
  unfold langSysBody
  simp only []
  have h2 := limitExceeded_inv F0 _ ls.features.length (requiredStep_inv F0 c ls.required h)
  split
  · exact h2
  · exact langFeatures_inv F0 _ _ h2

theorem langSysCollect_val (F0 : List Nat) (head : Nat) (c : CF) (ls : LangSysT) (h : CFInv F0 c) :
    ∃ c', langSysCollect head c ls = .val c' ∧ CFInv F0 c' := by
  unfold langSysCollect
  obtain ⟨b, n, v, hv, hn⟩ := visitedStep_val c.langsysCount c.visitedLangsys 2000 head ls.pos h.2.1 (by omega)
  rw [hv]
  simp only [Res.bind]
  have h1 : CFInv F0 { c with langsysCount := n, visitedLangsys := v } := ⟨h.1, hn, h.2.2.1, h.2.2.2⟩
  split
  · exact ⟨_, rfl, h1⟩
  · split
    · exact ⟨_, rfl, h1⟩
    · exact ⟨_, rfl, langSysBody_inv F0 _ ls h1⟩

/-- a `Result` step is safe: no panic; `Ok` keeps the invariant -/
def RSafe (F0 : List Nat) : RR CF → Prop
  | .trap => False
  | .val (.error _) => True
  | .val (.ok c) => CFInv F0 c

theorem RSafe.bind {F0 : List Nat} {r : RR CF} {k : PR CF → RR CF} (h : RSafe F0 r)
    (herr : ∀ e, RSafe F0 (k (.error e))) (hok : ∀ c, CFInv F0 c → RSafe F0 (k (.ok c))) : RSafe F0 (r.bind k) := by
  cases r with
  | trap => exact h
  | val x =>
    cases x with
    | error e => exact herr e
    | ok c => exact hok c h

theorem scriptLangsInv_safe (F0 : List Nat) (head : Nat) (languages : TagSet) :
    ∀ (recs : List (Nat × PR LangSysT)) (c : CF), CFInv F0 c → RSafe F0 (scriptLangsInv head languages c recs) := by
  intro recs
  induction recs with
  | nil => intro c h; exact h
  | cons p rest ih =>
    intro c h
    obtain ⟨tag, r⟩ := p
    unfold scriptLangsInv
    split
    · exact ih c h
    · cases r with
      | error e => trivial
      | ok ls =>
        obtain ⟨c', hc', hi⟩ := langSysCollect_val F0 head c ls h
        simp only [hc', Res.bind]
        exact ih c' hi

theorem scriptLangsSel_safe (F0 : List Nat) (head : Nat) (recs : List (Nat × PR LangSysT)) :
    ∀ (tags : List Nat) (c : CF), CFInv F0 c → RSafe F0 (scriptLangsSel head recs c tags) := by
  intro tags
  induction tags with
  | nil => intro c h; exact h
  | cons tag rest ih =>
    intro c h
    unfold scriptLangsSel
    cases hx : indexForTag (recs.map (·.1)) tag with
    | none => exact ih c h
    | some idx =>
      obtain ⟨⟨t, r⟩, he⟩ := indexForTag_get recs hx
      simp only [he]
      cases r with
      | error e => trivial
      | ok ls =>
        obtain ⟨c', hc', hi⟩ := langSysCollect_val F0 head c ls h
        simp only [hc', Res.bind]
        exact ih c' hi

theorem scriptCollect_safe (F0 : List Nat) (head : Nat) (languages : TagSet) (c : CF) (s : ScriptT) (h : CFInv F0 c) :
    RSafe F0 (scriptCollect head languages c s) := by
  unfold scriptCollect
  obtain ⟨b, n, v, hv, hn⟩ := visitedStep_val c.scriptCount c.visitedScript 500 head s.pos h.1 (by omega)
  rw [hv]
  simp only [Res.bind]
  have h1 : CFInv F0 { c with scriptCount := n, visitedScript := v } := ⟨hn, h.2.1, h.2.2.1, h.2.2.2⟩
  split
  · exact h1
  · cases hd : s.dflt with
    | none =>
      simp only []
      split
      · exact scriptLangsInv_safe F0 head languages _ _ h1
      · exact scriptLangsSel_safe F0 head _ _ _ h1
    | some r =>
      cases r with
      | error e => trivial
      | ok ls =>
        obtain ⟨c', hc', hi⟩ := langSysCollect_val F0 head _ ls h1
        simp only [hc']
        split
        · exact scriptLangsInv_safe F0 head languages _ _ hi
        · exact scriptLangsSel_safe F0 head _ _ _ hi

theorem scriptsInv_safe (F0 : List Nat) (head : Nat) (scripts languages : TagSet) :
    ∀ (recs : List (Nat × PR ScriptT)) (c : CF), CFInv F0 c → RSafe F0 (scriptsInv head scripts languages c recs) := by
  intro recs
  induction recs with
  | nil => intro c h; exact h
  | cons p rest ih =>
    intro c h
    obtain ⟨tag, r⟩ := p
    unfold scriptsInv
    split
    · exact ih c h
    · cases r with
      | error e => trivial
      | ok s =>
        exact RSafe.bind (scriptCollect_safe F0 head languages c s h) (fun _ => trivial) ih

theorem scriptsSel_safe (F0 : List Nat) (head : Nat) (languages : TagSet) (recs : List (Nat × PR ScriptT)) :
    ∀ (tags : List Nat) (c : CF), CFInv F0 c → RSafe F0 (scriptsSel head languages recs c tags) := by
  intro tags
  induction tags with
  | nil => intro c h; exact h
  | cons tag rest ih =>
    intro c h
    unfold scriptsSel
    cases hx : indexForTag (recs.map (·.1)) tag with
    | none => exact ih c h
    | some idx =>
      obtain ⟨⟨t, r⟩, he⟩ := indexForTag_get recs hx
      simp only [he]
      cases r with
      | error e => trivial
      | ok s =>
        exact RSafe.bind (scriptCollect_safe F0 head languages c s h) (fun _ => trivial) ih

/-- the initial filter of `CollectFeaturesContext::new` -/
def initialFilter (featureTags : List Nat) (features : TagSet) : List Nat :=
  (((List.range featureTags.length).zip featureTags).filterMap (fun p =>
    if features.contains p.2 then some (p.1 % 65536) else none)).foldl (fun s x => insertUniq x s) []

theorem initialFilter_lt (featureTags : List Nat) (features : TagSet) (i : Nat) (h : i ∈ initialFilter featureTags features) :
    ∃ j, j < featureTags.length ∧ i = j % 65536 ∧ features.contains (featureTags.getD j 0) = true := by
  unfold initialFilter at h
  simp only [insertUniq_eq] at h
  rcases ((SSet.mem_foldl_insert _ _ _).mp h).symm with h | h
  · simp only [List.mem_filterMap] at h
    obtain ⟨p, hp, hi⟩ := h
    by_cases hc : features.contains p.2 = true
    · simp only [hc, if_true, Option.some.injEq] at hi
      have hz := List.of_mem_zip hp
      have hlt : p.1 < featureTags.length := by simpa using hz.1
      obtain ⟨k, hk, hke⟩ := List.getElem_of_mem hp
      simp only [List.getElem_zip, List.getElem_range] at hke
      refine ⟨p.1, hlt, hi.symm, ?_⟩
      have : featureTags.getD p.1 0 = p.2 := by
        rw [← hke]
        simp only [List.length_zip, List.length_range, Nat.min_self] at hk
        simp [List.getD, List.getElem?_eq_getElem hk]
      rw [this]; exact hc
    · simp [hc] at hi
  · simp at h

end FontVerif.HandLayout
