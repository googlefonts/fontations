/-
Helper lemmas for C16: well-formed coverage tables (either format), what the coverage builder answers,
`split_coverage` on them, the split loop of the three splitters (a piece answers as the whole does on the
keys in its range), `split_off_ppf1`.
-/
import FontVerif.Lemmas.LayoutCov
namespace FontVerif.Layout

/-- a coverage table as the builders / the splitter produce it -/
def Coverage.WF : Coverage → Prop
  | .fmt1 xs => xs.Pairwise (· < ·) ∧ ∀ x ∈ xs, x < 65536
  | .fmt2 rs => WFRanges 0 rs ∧ ∀ r ∈ rs, r.end_ < 65536

theorem Coverage.get_eq_indexIn {c : Coverage} (h : c.WF) (g : Nat) :
    c.get g = indexIn g c.glyphs := by
  cases c with
  | fmt1 xs => exact get_fmt1 h.1 h.2 g
  | fmt2 rs => exact get_fmt2 h.1 h.2 g

theorem Coverage.get_lt_length {c : Coverage} (h : c.WF) {g i : Nat} (hg : c.get g = some i) :
    i < c.glyphs.length := by
  rw [Coverage.get_eq_indexIn h] at hg
  exact (List.getElem?_eq_some_iff.mp (indexIn_getElem? hg)).1

theorem Coverage.glyphs_bound {c : Coverage} (h : c.WF) : ∀ g ∈ c.glyphs, g < 65536 := by
  cases c with
  | fmt1 xs => exact h.2
  | fmt2 rs =>
    intro g hg
    obtain ⟨r, hr, hh⟩ := mem_expandRanges.mp hg
    have := h.2 r hr
    omega

theorem Coverage.get_isSome_iff {c : Coverage} (h : c.WF) (g : Nat) :
    (∃ i, c.get g = some i) ↔ g ∈ c.glyphs := by
  rw [Coverage.get_eq_indexIn h]
  exact ⟨fun ⟨i, hi⟩ => indexIn_mem hi, indexIn_of_mem⟩

theorem Coverage.glyphs_sorted {c : Coverage} (h : c.WF) : c.glyphs.Pairwise (· < ·) := by
  cases c with
  | fmt1 xs => exact h.1
  | fmt2 rs => exact wf_expand_sorted h.1

theorem buildCoverageSorted_wf {xs : List Nat} (hs : xs.Pairwise (· < ·))
    (hb : ∀ x ∈ xs, x < 65536) :
    (buildCoverageSorted xs).WF ∧ (buildCoverageSorted xs).glyphs = xs := by
  unfold buildCoverageSorted
  have ⟨w, e, en⟩ := iterForGlyphs_spec hs
  by_cases h : shouldChooseFormat2 xs = true
  · simp only [h, ↓reduceIte]
    exact ⟨⟨w, fun r hr => hb _ (en r hr)⟩, e⟩
  · simp only [h, Bool.false_eq_true, ↓reduceIte]
    exact ⟨⟨hs, hb⟩, rfl⟩

theorem sortDedup_bound {gs : List Nat} (hb : ∀ g ∈ gs, g < 65536) :
    ∀ x ∈ sortDedup gs, x < 65536 := fun x hx => hb x (mem_sortDedup.mp hx)

theorem buildCoverage_wf (gs : List Nat) (hb : ∀ g ∈ gs, g < 65536) :
    (buildCoverage gs).WF ∧ (buildCoverage gs).glyphs = sortDedup gs :=
  buildCoverageSorted_wf (sortDedup_pairwise gs) (sortDedup_bound hb)

theorem buildCoverage_get (gs : List Nat) (hb : ∀ g ∈ gs, g < 65536) (g : Nat) :
    (buildCoverage gs).get g = indexIn g (sortDedup gs) := by
  have ⟨w, e⟩ := buildCoverage_wf gs hb
  rw [Coverage.get_eq_indexIn w, e]

theorem buildCoverage_covers (gs : List Nat) (hb : ∀ g ∈ gs, g < 65536) (g : Nat) :
    (∃ i, (buildCoverage gs).get g = some i) ↔ g ∈ gs := by
  have ⟨w, e⟩ := buildCoverage_wf gs hb
  rw [Coverage.get_isSome_iff w, e, mem_sortDedup]

theorem buildCoverage_get_none (gs : List Nat) (hb : ∀ g ∈ gs, g < 65536) {g : Nat} (h : g ∉ gs) :
    (buildCoverage gs).get g = none := by
  rw [buildCoverage_get gs hb, indexIn_eq_none_iff, mem_sortDedup]; exact h

theorem splitCoverage_glyphs {c : Coverage} (h : c.WF) {s e : Nat} (hse : s ≤ e)
    (he : e ≤ c.glyphs.length) :
    ∃ c', splitCoverage c s e = some c' ∧ c'.WF ∧ c'.glyphs = (c.glyphs.drop s).take (e - s) := by
  cases c with
  | fmt1 xs =>
    have hsub : ((xs.drop s).take (e - s)).Sublist xs :=
      (List.take_sublist _ _).trans (List.drop_sublist s xs)
    refine ⟨.fmt1 ((xs.drop s).take (e - s)), ?_, ⟨h.1.sublist hsub, fun x hx => h.2 x (hsub.mem hx)⟩, rfl⟩
    rw [splitCoverage, if_neg (by omega), if_neg (by exact Nat.not_lt.mpr he)]
  | fmt2 rs =>
    by_cases hlt : s < e
    · obtain ⟨rs', a, b, b', d⟩ := split_fmt2_glyphs h.1 h.2 hlt
      exact ⟨_, a, ⟨b, b'⟩, d⟩
    · have : s = e := by omega
      subst this
      refine ⟨.fmt2 [], ?_, ⟨trivial, fun r hr => nomatch hr⟩, ?_⟩
      · rw [splitCoverage, if_neg (by omega), if_pos rfl]
      · rw [Nat.sub_self, List.take_zero]; rfl

theorem splitCoverage_spec {c : Coverage} (h : c.WF) {s e : Nat} (hse : s ≤ e)
    (he : e ≤ c.glyphs.length) :
    ∃ c', splitCoverage c s e = some c' ∧ c'.WF ∧
      ∀ g, c'.get g = ((c.get g).filter (fun i => decide (s ≤ i ∧ i < e))).map (· - s) := by
  obtain ⟨c', a, w, hg⟩ := splitCoverage_glyphs h hse he
  refine ⟨c', a, w, fun g => ?_⟩
  rw [Coverage.get_eq_indexIn w, hg, Coverage.get_eq_indexIn h,
    indexIn_slice ((Coverage.glyphs_sorted h).imp Nat.ne_of_lt)]

theorem getElem?_slice {α : Type} (xs : List α) {lo hi c : Nat} (h1 : lo ≤ c) (h2 : c < hi) :
    ((xs.drop lo).take (hi - lo))[c - lo]? = xs[c]? := by
  rw [List.getElem?_take, if_pos (by omega), List.getElem?_drop, Nat.add_sub_cancel' h1]

/-! ## the split loop: a piece answers as the whole does on the keys in its range -/

def inRange {V : Type} (k lo hi : Nat) (o : Option V) : Option V :=
  if lo ≤ k ∧ k < hi then o else none

theorem inRange_split {V : Type} (k : Nat) (o : Option V) {lo mid hi : Nat} (h1 : lo ≤ mid)
    (h2 : mid ≤ hi) : inRange k lo hi o = (inRange k lo mid o).or (inRange k mid hi o) := by
  unfold inRange
  by_cases hb : lo ≤ k ∧ k < mid
  · rw [if_pos hb, if_pos (by omega), if_neg (by omega)]; cases o <;> rfl
  · rw [if_neg hb]
    by_cases hc : mid ≤ k ∧ k < hi
    · rw [if_pos hc, if_pos (by omega)]; rfl
    · rw [if_neg hc, if_neg (by omega)]; rfl

theorem inRange_of_lt {V : Type} {k hi : Nat} (o : Option V) (h : k < hi) : inRange k 0 hi o = o :=
  if_pos ⟨Nat.zero_le _, h⟩

theorem le_of_getLast? {a n : Nat} {l : List Nat} (hp : (a :: l).Pairwise (· ≤ ·))
    (h : (a :: l).getLast? = some n) : a ≤ n := by
  rcases List.mem_cons.mp (List.mem_of_getLast? h) with rfl | hm
  · exact Nat.le_refl _
  · exact (List.pairwise_cons.mp hp).1 n hm

/-- **the split loop preserves first match.**  `key q` says which piece answers the query `q`: a
piece `[lo, hi)` answers as the whole (`full`) does on the keys in its range, and the whole answers
nothing from `N` on. -/
theorem splitLoop_preserves {S V Q : Type} (f : Nat → Nat → Option S) (look : Q → S → Option V)
    (key : Q → Nat) (full : Q → Option V) (N : Nat)
    (hf : ∀ lo hi, lo ≤ hi → hi ≤ N → ∃ a, f lo hi = some a ∧
      ∀ q, look q a = inRange (key q) lo hi (full q))
    (hN : ∀ q, N ≤ key q → full q = none)
    (pts : List Nat) (hinc : pts.Pairwise (· ≤ ·)) (hlast : pts.getLast? = some N) :
    ∃ ts, splitLoop f 0 pts = some ts ∧ ts.length = pts.length ∧
      ∀ q, ts.findSome? (look q) = full q := by
  -- from any earlier point `prev` on, the pieces answer as the whole does on `[prev, N)`
  have gen : ∀ (pts : List Nat) (prev : Nat), (prev :: pts).Pairwise (· ≤ ·) → (prev :: pts).getLast? = some N →
      ∃ ts, splitLoop f prev pts = some ts ∧ ts.length = pts.length ∧
        ∀ q, ts.findSome? (look q) = inRange (key q) prev N (full q) := by
    intro pts
    induction pts with
    | nil =>
      intro prev _ hl
      cases hl
      exact ⟨[], rfl, rfl, fun q => (if_neg fun h => Nat.lt_irrefl _ (Nat.lt_of_le_of_lt h.1 h.2)).symm⟩
    | cons p ps ih =>
      intro prev hpw hl
      rw [List.getLast?_cons_cons] at hl
      have hpw' := List.pairwise_cons.mp hpw
      have hle : prev ≤ p := hpw'.1 p (List.mem_cons_self ..)
      have hpN := le_of_getLast? hpw'.2 hl
      obtain ⟨a, ha, hla⟩ := hf prev p hle hpN
      obtain ⟨rest, hr, hlen, hlr⟩ := ih p hpw'.2 hl
      refine ⟨a :: rest, by simp [splitLoop, ha, hr], by simp [hlen], fun q => ?_⟩
      rw [List.findSome?_cons, hla, inRange_split _ _ hle hpN, ← hlr q]
      cases inRange (key q) prev p (full q) <;> rfl
  obtain ⟨ts, a, b, c⟩ := gen pts 0 (List.pairwise_cons.mpr ⟨fun _ _ => Nat.zero_le _, hinc⟩)
    (by rw [List.getLast?_cons, hlast]; rfl)
  refine ⟨ts, a, b, fun q => ?_⟩
  rw [c q]
  by_cases h : key q < N
  · exact inRange_of_lt _ h
  · rw [hN q (Nat.not_lt.mp h)]; exact ite_self _

theorem splitPpf1Go_eq {V : Type} (t : PairPos1 V) : ∀ (pts : List Nat) (prev : Nat),
    splitPpf1Go t prev pts = splitLoop (splitOffPpf1 t) prev pts := by
  intro pts
  induction pts with
  | nil => intro _; rfl
  | cons p ps ih =>
    intro prev
    rw [splitPpf1Go, splitLoop, ih]
    cases splitOffPpf1 t prev p <;> cases splitLoop (splitOffPpf1 t) p ps <;> rfl

/-- the coverage index of the first glyph (0 when uncovered: then nothing matches anyway) -/
def PairPos1.key {V : Type} (t : PairPos1 V) (g1 : Nat) : Nat := (t.cov.get g1).getD 0

theorem splitOffPpf1_lookup {V : Type} (t : PairPos1 V) (hwf : t.cov.WF) {lo hi : Nat} (hlh : lo ≤ hi)
    (hhi : hi ≤ t.cov.glyphs.length) :
    ∃ t', splitOffPpf1 t lo hi = some t' ∧
      ∀ g1 g2, t'.lookup g1 g2 = inRange (t.key g1) lo hi (t.lookup g1 g2) := by
  obtain ⟨c', hc, _, hget⟩ := splitCoverage_spec hwf hlh hhi
  refine ⟨⟨c', (t.pairSets.drop lo).take (hi - lo)⟩, ?_, fun g1 g2 => ?_⟩
  · rw [splitOffPpf1, if_neg (by omega), hc]
  · rw [PairPos1.lookup, PairPos1.lookup, PairPos1.key, inRange, hget]
    cases t.cov.get g1 with
    | none => exact (ite_self _).symm
    | some i =>
      by_cases hin : lo ≤ i ∧ i < hi
      · simp only [Option.filter, hin, and_self, decide_true, ↓reduceIte, Option.map_some,
          Option.getD_some, getElem?_slice _ hin.1 hin.2]
      · simp only [Option.filter, hin, decide_false, Bool.false_eq_true, ↓reduceIte, Option.map_none,
          Option.getD_some]

theorem PairPos1.lookup_none_of_le {V : Type} (t : PairPos1 V) (hwf : t.cov.WF) {g1 : Nat} (g2 : Nat)
    (h : t.cov.glyphs.length ≤ t.key g1) : t.lookup g1 g2 = none := by
  rw [PairPos1.lookup]
  cases hg : t.cov.get g1 with
  | none => rfl
  | some i =>
    rw [PairPos1.key, hg, Option.getD_some] at h
    exact absurd (Coverage.get_lt_length hwf hg) (Nat.not_lt.mpr h)

end FontVerif.Layout
