/- rational-number reading of the integer comparisons in Model/Iup.lean (needs Mathlib) -/
import FontVerif.Model.Iup
import Mathlib.Tactic.FieldSimp
import Mathlib.Tactic.Ring
import Mathlib.Tactic.Positivity
import Mathlib.Tactic.Linarith
namespace FontVerif.Iup

theorem withinTol_iff_rat (t : Tol) (d : Pt) (ix iy : Int × Int) (hx : 0 < ix.2) (hy : 0 < iy.2) (ht : 0 < t.d) :
    withinTol t d ix iy = true ↔
      ((d.1 : ℚ) - ix.1 / ix.2) ^ 2 + ((d.2 : ℚ) - iy.1 / iy.2) ^ 2 ≤ ((t.n : ℚ) / t.d) ^ 2 := by
  have hx' : (0 : ℚ) < ix.2 := by exact_mod_cast hx
  have hy' : (0 : ℚ) < iy.2 := by exact_mod_cast hy
  have ht' : (0 : ℚ) < t.d := by exact_mod_cast ht
  -- errors over one denominator, then cross-multiply: the integer comparison of `withinTol`
  rw [sub_div' hx'.ne', sub_div' hy'.ne', div_pow, div_pow, div_pow,
    div_add_div _ _ (pow_pos hx' 2).ne' (pow_pos hy' 2).ne',
    div_le_div_iff₀ (mul_pos (pow_pos hx' 2) (pow_pos hy' 2)) (pow_pos ht' 2)]
  unfold withinTol
  rw [decide_eq_true_eq, ← @Int.cast_le ℚ]
  push_cast
  ring_nf

end FontVerif.Iup
