/-
Helper lemmas for C19: format 1 (glyph map + feature map).  Closed form of the feature
record two-pointer loop, key sets of the entry map, what a successful offer consists of (`intersectF1_ok`:
which entries, not the subset definition accumulated for each: `merge_intersecting_entries` has a lemma for its
key set only (`hasKey_merge`), which is why the intersection sizes of C19Counts are stated for format-2 tables only).
-/
import FontVerif.Lemmas.PatchMap
namespace FontVerif.PatchMap

def optLt (M : Option Nat) (x : Nat) : Bool :=
  match M with | none => true | some m => decide (m < x)

def optMax (M : Option Nat) (x : Nat) : Nat :=
  match M with | none => x | some m => max m x

/-- closed form of the two-pointer loop: a feature record is used iff its tag is requested and it
is a strict running maximum of the record tags so far (the specification's "records must be sorted,
out-of-order / duplicate records are skipped") -/
def recHigh (p : Nat → Bool) : List FeatRec → Nat → Option Nat → List (FeatRec × Nat)
  | [], _, _ => []
  | r :: rs, cum, M =>
    (if p r.tag && optLt M r.tag then [(r, cum)] else [])
      ++ recHigh p rs (cum + r.count) (some (optMax M r.tag))

theorem optMax_of_optLt {M : Option Nat} {x : Nat} (h : optLt M x = true) : optMax M x = x := by
  cases M with
  | none => rfl
  | some m => exact Nat.max_eq_right (Nat.le_of_lt (of_decide_eq_true h))

theorem optLt_optMax (M : Option Nat) (y x : Nat) :
    optLt (some (optMax M y)) x = (optLt M x && decide (y < x)) := by
  cases M with
  | none => exact (Bool.true_and _).symm
  | some m => simp only [optLt, optMax, Nat.max_lt, Bool.decide_and]

theorem optLt_mono {M : Option Nat} {t x : Nat} (h : optLt M t = true) (htx : t ≤ x) :
    optLt M x = true := by
  cases M with
  | none => rfl
  | some m => exact decide_eq_true (Nat.lt_of_lt_of_le (of_decide_eq_true h) htx)

/-- the loop's test `if let Some(l) = largest_tag { if *tag <= l .. }` -/
theorem optLt_iff_not (L : Option Nat) (t : Nat) :
    optLt L t = true ↔ ¬ (match L with | some l => decide (t ≤ l) | none => false) = true := by
  cases L with
  | none => simp [optLt]
  | some l => simp [optLt]

theorem recHigh_false (recs : List FeatRec) (cum : Nat) (M : Option Nat) :
    recHigh (fun _ => false) recs cum M = [] := by
  induction recs generalizing cum M with
  | nil => rfl
  | cons r rs ih => simp [recHigh, ih]

/-- only the predicate's values above the running maximum and at or above the next record's tag matter -/
theorem recHigh_congr (p p' : Nat → Bool) : ∀ (recs : List FeatRec) (cum : Nat) (M : Option Nat),
    (∀ x, optLt M x = true → (∀ r rs, recs = r :: rs → r.tag ≤ x) → p x = p' x) →
    recHigh p recs cum M = recHigh p' recs cum M := by
  intro recs
  induction recs with
  | nil => intro cum M _; rfl
  | cons r rs ih =>
    intro cum M h
    simp only [recHigh]
    congr 1
    · cases hM : optLt M r.tag with
      | false => simp
      | true => simp [h r.tag hM fun r' rs' he => by cases he; exact Nat.le_refl _]
    · refine ih _ _ fun x hx _ => ?_
      rw [optLt_optMax, Bool.and_eq_true, decide_eq_true_eq] at hx
      exact h x hx.1 fun r' rs' he => by cases he; exact Nat.le_of_lt hx.2

theorem recHigh_mono (p p' : Nat → Bool) (hp : ∀ x, p x = true → p' x = true) :
    ∀ (recs : List FeatRec) (cum : Nat) (M : Option Nat) (x : FeatRec × Nat),
      x ∈ recHigh p recs cum M → x ∈ recHigh p' recs cum M := by
  intro recs
  induction recs with
  | nil => intro cum M x hx; cases hx
  | cons r rs ih =>
    intro cum M x hx
    simp only [recHigh, List.mem_append] at hx ⊢
    rcases hx with hx | hx
    · left
      by_cases hc : (p r.tag && optLt M r.tag) = true
      · rw [if_pos hc] at hx
        rw [Bool.and_eq_true] at hc
        rw [if_pos (by rw [Bool.and_eq_true]; exact ⟨hp _ hc.1, hc.2⟩)]
        exact hx
      · rw [if_neg hc] at hx; cases hx
    · right; exact ih _ _ x hx

theorem featLoopAll_eq (recs : List FeatRec) (cum : Nat) (L : Option Nat) :
    featLoopAll recs cum L = recHigh (fun _ => true) recs cum L := by
  induction recs generalizing cum L with
  | nil => rfl
  | cons r rs ih =>
    simp only [featLoopAll, recHigh, Bool.true_and, optLt, optMax]
    cases L with
    | none => simp [ih]
    | some l =>
      by_cases h : r.tag ≤ l
      · simp only [h, decide_true, ↓reduceIte, show ¬ l < r.tag by omega, decide_false,
          Bool.false_eq_true, List.nil_append]
        rw [ih, show max l r.tag = l by omega]
      · simp only [h, decide_false, Bool.false_eq_true, ↓reduceIte, show l < r.tag by omega,
          decide_true, List.singleton_append, List.cons.injEq, true_and]
        rw [ih, show max l r.tag = r.tag by omega]

/-- bounds on the loop's `largest` (`L`) and on the running maximum of the record tags (`M`) over the remaining tags -/
structure FInv (ts : List Nat) (L M : Option Nat) : Prop where
  sorted : ts.Pairwise (· < ·)
  aboveM : ∀ x, x ∈ ts → ∀ m, M = some m → m ≤ x
  aboveL : ∀ x, x ∈ ts → ∀ l, L = some l → l ≤ x
  head : ∀ t rest, ts = t :: rest → (L = some t ↔ M = some t)

/-- The loop's `largest` (`L`: the last tag dropped or matched) and the running maximum `M` of the
record tags passed are different numbers; what the loop needs is that they exclude the same
remaining tags. -/
theorem featLoopSet_eq : ∀ (ts : List Nat) (recs : List FeatRec) (cum : Nat) (L M : Option Nat),
    ts.Pairwise (· < ·) → (∀ x ∈ ts, optLt L x = optLt M x) →
    featLoopSet ts recs cum L = recHigh (fun x => decide (x ∈ ts)) recs cum M := by
  intro ts recs cum L
  fun_induction featLoopSet ts recs cum L with
  | case1 recs cum L => intro M _ _; simp [recHigh_false]
  | case2 t ts cum L => intro M _ _; rfl
  | case3 t ts r rs cum L hgt ih =>
    -- the record is below every remaining tag: skipped
    intro M hs inv
    have hlt : ∀ x ∈ t :: ts, r.tag < x := fun x hx => by
      rcases List.mem_cons.1 hx with rfl | hx
      · exact hgt
      · exact Nat.lt_trans hgt ((List.pairwise_cons.1 hs).1 x hx)
    rw [recHigh, decide_eq_false fun hm => Nat.lt_irrefl _ (hlt _ hm), Bool.false_and,
      if_neg Bool.false_ne_true, List.nil_append]
    exact ih _ hs fun x hx => by
      rw [optLt_optMax, inv x hx, decide_eq_true (hlt x hx), Bool.and_true]
  | case4 t ts r rs cum L hgt hL ih =>
    -- the tag was matched already: dropped, and no record above `M` has it
    intro M hs inv
    rw [ih M (List.pairwise_cons.1 hs).2 fun x hx => inv x (List.mem_cons_of_mem _ hx)]
    refine recHigh_congr _ _ _ _ _ fun x hx _ => ?_
    have hne : x ≠ t := fun e =>
      (optLt_iff_not L t).1 (by rw [inv t List.mem_cons_self, ← e]; exact hx) hL
    simp [hne]
  | case5 t ts r rs cum L hgt hL hlt ih =>
    -- the tag is below the record's: dropped, and no record from here on has it
    intro M hs inv
    have hMt := inv t List.mem_cons_self ▸ (optLt_iff_not L t).2 hL
    have hs' := List.pairwise_cons.1 hs
    rw [ih M hs'.2 fun x hx => (optLt_mono hMt (Nat.le_of_lt (hs'.1 x hx))).symm ▸
      decide_eq_true (hs'.1 x hx)]
    refine recHigh_congr _ _ _ _ _ fun x _ hhead => ?_
    have hne : x ≠ t := Nat.ne_of_gt (Nat.lt_of_lt_of_le hlt (hhead r rs rfl))
    simp [hne]
  | case6 t ts r rs cum L hgt hL hlt ih =>
    -- first match of the tag: the record is used, and is a strict running maximum
    intro M hs inv
    obtain rfl : t = r.tag := by omega
    have hMt := inv _ List.mem_cons_self ▸ (optLt_iff_not L _).2 hL
    rw [recHigh, decide_eq_true List.mem_cons_self, hMt, Bool.and_self, if_pos rfl,
      optMax_of_optLt hMt, List.singleton_append]
    exact congrArg _ (ih _ hs (fun _ _ => rfl))


theorem exists_cons {α : Type} {P : α → Prop} {a : α} {l : List α} :
    (∃ x, x ∈ a :: l ∧ P x) ↔ P a ∨ ∃ x, x ∈ l ∧ P x := by
  simp only [List.mem_cons, or_and_right, exists_or, exists_eq_left]

def hasKey (m : List (Nat × SubsetDef)) (k : Nat) : Prop := ∃ p, p ∈ m ∧ p.1 = k

theorem hasKey_cons (a : Nat × SubsetDef) (m : List (Nat × SubsetDef)) (x : Nat) :
    hasKey (a :: m) x ↔ x = a.1 ∨ hasKey m x :=
  exists_cons.trans (or_congr_left eq_comm)

theorem hasKey_emUpdate (k : Nat) (f : SubsetDef → SubsetDef) (m : List (Nat × SubsetDef)) (x : Nat) :
    hasKey (emUpdate k f m) x ↔ x = k ∨ hasKey m x := by
  induction m with
  | nil => exact hasKey_cons _ _ x
  | cons a rest ih =>
    obtain ⟨i, sd⟩ := a
    simp only [emUpdate]
    by_cases h1 : k < i
    · rw [if_pos h1]; exact hasKey_cons _ _ x
    · rw [if_neg h1]
      by_cases h2 : k = i
      · subst h2
        rw [if_pos rfl, hasKey_cons, hasKey_cons, ← or_assoc, or_self]
      · rw [if_neg h2, hasKey_cons, ih, hasKey_cons, or_left_comm]

/-- the entry a (codepoint, glyph) pair contributes to -/
def glyphKey (t : F1Table) (pairs : List (Nat × Nat)) (x : Nat) : Prop :=
  ∃ p, p ∈ pairs ∧ ((p.2 < t.firstGid ∧ x = 0) ∨
    (¬ p.2 < t.firstGid ∧ t.entryIndex[p.2 - t.firstGid]? = some x ∧ x ≤ t.maxGm))

theorem glyphMapLoop_keys (t : F1Table) (record : Bool) :
    ∀ (pairs : List (Nat × Nat)) (acc out : List (Nat × SubsetDef)),
      glyphMapLoop t record pairs acc = .ok out →
      ∀ x, hasKey out x ↔ hasKey acc x ∨ glyphKey t pairs x := by
  intro pairs
  induction pairs with
  | nil =>
    intro acc out h x
    cases h
    simp [glyphKey]
  | cons pr rest ih =>
    intro acc out h x
    obtain ⟨cp, gid⟩ := pr
    rw [glyphKey, exists_cons]
    rw [glyphMapLoop] at h
    by_cases hlt : gid < t.firstGid
    · rw [if_pos hlt] at h
      rw [ih _ _ h x, hasKey_emUpdate, or_assoc, or_left_comm]
      simp only [hlt, true_and, not_true, false_and, or_false]
      rfl
    · rw [if_neg hlt] at h
      simp only [hlt, false_and, not_false_iff, true_and, false_or]
      cases hei : t.entryIndex[gid - t.firstGid]? with
      | none => rw [hei] at h; cases h
      | some ei =>
        rw [hei] at h
        simp only [Option.some.injEq] at h ⊢
        by_cases hgt : ei > t.maxGm
        · rw [if_pos hgt] at h
          have hno : ¬ (ei = x ∧ x ≤ t.maxGm) := by omega
          rw [ih _ _ h x, or_iff_right hno]
          rfl
        · rw [if_neg hgt] at h
          have hyes : (ei = x ∧ x ≤ t.maxGm) ↔ x = ei := by omega
          rw [ih _ _ h x, hasKey_emUpdate, or_assoc, or_left_comm, hyes]
          rfl

theorem glyphKey_mono (t : F1Table) {a b : List (Nat × Nat)} (h : ∀ p, p ∈ a → p ∈ b) (x : Nat) :
    glyphKey t a x → glyphKey t b x := by
  rintro ⟨p, hp, hq⟩; exact ⟨p, h p hp, hq⟩

theorem hasKey_merge (record : Bool) (first last mapped tag : Nat) (es : List (Nat × SubsetDef))
    (x : Nat) :
    hasKey (mergeIntersecting record first last mapped tag es) x ↔
      hasKey es x ∨ (x = mapped ∧ ∃ k, hasKey es k ∧ first ≤ k ∧ k ≤ last) := by
  unfold mergeIntersecting
  extract_lets inRange merged
  have hex : (∃ k, hasKey es k ∧ first ≤ k ∧ k ≤ last) ↔ inRange.isEmpty = false := by
    rw [List.isEmpty_eq_false_iff_exists_mem]
    simp only [inRange, List.mem_filter, Bool.and_eq_true, decide_eq_true_eq]
    constructor
    · rintro ⟨_, ⟨p, hp, rfl⟩, h⟩; exact ⟨p, hp, h⟩
    · rintro ⟨p, hp, h⟩; exact ⟨_, ⟨p, hp, rfl⟩, h⟩
  rw [hex]
  by_cases hemp : inRange.isEmpty = true
  · rw [if_pos hemp, hemp]
    simp
  · rw [if_neg hemp, hasKey_emUpdate, Bool.eq_false_iff.2 hemp]
    simp only [and_true]
    exact or_comm

/-- entry-map record `i` of feature record `r` adds entry `x` -/
def fires (t : F1Table) (G : Nat → Prop) (r : FeatRec) (cum i x : Nat) : Prop :=
  ∃ first last, t.entryMaps[i + cum]? = some (first, last) ∧
    ¬ (first > last ∨ first > t.maxGm ∨ last > t.maxGm ∨ r.firstNew + i ≤ t.maxGm ∨
        r.firstNew + i > t.maxEntry) ∧
    x = r.firstNew + i ∧ ∃ k, G k ∧ first ≤ k ∧ k ≤ last

theorem fires_mono (t : F1Table) {G G' : Nat → Prop} (h : ∀ k, G k → G' k) (r : FeatRec)
    (cum i x : Nat) : fires t G r cum i x → fires t G' r cum i x := by
  rintro ⟨f, l, h1, h2, h3, k, hk, h4⟩
  exact ⟨f, l, h1, h2, h3, k, h k hk, h4⟩

theorem fires_iff {t : F1Table} {G : Nat → Prop} {r : FeatRec} {cum i x first last : Nat}
    (hem : t.entryMaps[i + cum]? = some (first, last)) :
    fires t G r cum i x ↔
      ¬ (first > last ∨ first > t.maxGm ∨ last > t.maxGm ∨ r.firstNew + i ≤ t.maxGm ∨
          r.firstNew + i > t.maxEntry) ∧
      x = r.firstNew + i ∧ ∃ k, G k ∧ first ≤ k ∧ k ≤ last := by
  constructor
  · rintro ⟨f, l, he, h⟩
    rw [hem] at he; cases he
    exact h
  · exact fun h => ⟨first, last, hem, h⟩

/-- the entries at or below `max_glyph_map_entry_index` are exactly the glyph-map ones -/
def Low (t : F1Table) (G : Nat → Prop) (acc : List (Nat × SubsetDef)) : Prop :=
  ∀ k, k ≤ t.maxGm → (hasKey acc k ↔ G k)

theorem entryMapLoop_keys (t : F1Table) (record : Bool) (G : Nat → Prop) (r : FeatRec) (cum : Nat) :
    ∀ (is : List Nat) (acc out : List (Nat × SubsetDef)),
      entryMapLoop t record r cum is acc = .ok out → Low t G acc →
      Low t G out ∧ ∀ x, hasKey out x ↔ hasKey acc x ∨ ∃ i, i ∈ is ∧ fires t G r cum i x := by
  intro is
  induction is with
  | nil =>
    intro acc out h hl
    cases h
    exact ⟨hl, fun x => by simp⟩
  | cons i is ih =>
    intro acc out h hl
    rw [entryMapLoop] at h
    cases hem : t.entryMaps[i + cum]? with
    | none => rw [hem] at h; cases h
    | some fl =>
      obtain ⟨first, last⟩ := fl
      rw [hem] at h
      simp only [Bool.or_eq_true, decide_eq_true_eq, or_assoc] at h
      by_cases hinv : first > last ∨ first > t.maxGm ∨ last > t.maxGm ∨ r.firstNew + i ≤ t.maxGm ∨
          r.firstNew + i > t.maxEntry
      · rw [if_pos hinv] at h
        obtain ⟨h1, h2⟩ := ih acc out h hl
        refine ⟨h1, fun x => ?_⟩
        rw [h2 x, exists_cons, or_iff_right (fun hf => ((fires_iff hem).1 hf).1 hinv)]
      · rw [if_neg hinv] at h
        -- a valid record maps low keys to a key above `maxGm`: `Low` is kept, and may be used to read `G` off `acc`
        have hrange : ∀ k, first ≤ k ∧ k ≤ last → (G k ↔ hasKey acc k) := fun k hk => (hl k (by omega)).symm
        have hl' : Low t G (mergeIntersecting record first last (r.firstNew + i) r.tag acc) := by
          intro k hk
          have hne : k ≠ r.firstNew + i := by omega
          rw [hasKey_merge, ← hl k hk, or_iff_left (fun h => hne h.1)]
        obtain ⟨h1, h2⟩ := ih _ out h hl'
        refine ⟨h1, fun x => ?_⟩
        have hf : fires t G r cum i x ↔
            x = r.firstNew + i ∧ ∃ k, hasKey acc k ∧ first ≤ k ∧ k ≤ last := by
          rw [fires_iff hem, and_iff_right hinv]
          exact and_congr_right' (exists_congr fun k => and_congr_left (hrange k))
        rw [h2 x, hasKey_merge, exists_cons, hf, or_assoc]

theorem processSelected_keys (t : F1Table) (record : Bool) (G : Nat → Prop) :
    ∀ (sel : List (FeatRec × Nat)) (acc out : List (Nat × SubsetDef)),
      processSelected t record sel acc = .ok out → Low t G acc →
      Low t G out ∧ ∀ x, hasKey out x ↔
        hasKey acc x ∨ ∃ q, q ∈ sel ∧ ∃ i, i ∈ List.range q.1.count ∧ fires t G q.1 q.2 i x := by
  intro sel
  induction sel with
  | nil =>
    intro acc out h hl
    cases h
    exact ⟨hl, fun x => by simp⟩
  | cons q sel ih =>
    intro acc out h hl
    obtain ⟨r, cum⟩ := q
    rw [processSelected] at h
    cases hacc : entryMapLoop t record r cum (List.range r.count) acc with
    | error e => rw [hacc] at h; cases h
    | ok acc' =>
      rw [hacc] at h
      obtain ⟨hl1, hk1⟩ := entryMapLoop_keys t record G r cum _ acc acc' hacc hl
      obtain ⟨hl2, hk2⟩ := ih acc' out h hl1
      refine ⟨hl2, fun x => ?_⟩
      rw [hk2 x, hk1 x, exists_cons, or_assoc]

/-- the feature records the loop uses for a feature set -/
def selectedRecs (t : F1Table) : FeatureSet → List (FeatRec × Nat)
  | .all => featLoopAll t.featRecs 0 none
  | .set tags => featLoopSet tags t.featRecs 0 none

/-- `BTreeSet<Tag>` iterates in strictly ascending order -/
def FeatureSet.sorted : FeatureSet → Prop
  | .all => True
  | .set tags => tags.Pairwise (· < ·)

theorem selectedRecs_mono (t : F1Table) {f f' : FeatureSet} (hle : FeatureSet.le f f')
    (hs : f.sorted) (hs' : f'.sorted) (q : FeatRec × Nat) :
    q ∈ selectedRecs t f → q ∈ selectedRecs t f' := by
  cases f with
  | all =>
    cases f' with
    | all => exact id
    | set b => simp [FeatureSet.le] at hle
  | set a =>
    cases f' with
    | all =>
      simp only [selectedRecs]
      rw [featLoopSet_eq a _ 0 none none hs (fun _ _ => rfl), featLoopAll_eq]
      exact recHigh_mono _ _ (fun _ _ => rfl) _ _ _ q
    | set b =>
      simp only [selectedRecs]
      rw [featLoopSet_eq a _ 0 none none hs (fun _ _ => rfl), featLoopSet_eq b _ 0 none none hs' (fun _ _ => rfl)]
      apply recHigh_mono
      intro x hx
      simp only [decide_eq_true_eq] at hx ⊢
      exact hle x hx

/-- `G` is the key set of the glyph-map result `gm`; the loop tests `gm` itself only at or below
`maxGm` (`Low`) -/
theorem featureMap_keys (t : F1Table) (record : Bool) (feats : FeatureSet) {G : Nat → Prop}
    (gm out : List (Nat × SubsetDef)) (hG : ∀ k, hasKey gm k ↔ G k)
    (h : featureMap t record feats gm = .ok out) (x : Nat) :
    hasKey out x ↔ G x ∨ (t.hasFeatureMap = true ∧ ∃ q, q ∈ selectedRecs t feats ∧
      ∃ i, i ∈ List.range q.1.count ∧ fires t G q.1 q.2 i x) := by
  unfold featureMap at h
  cases hfm : t.hasFeatureMap with
  | false =>
    rw [hfm] at h
    cases h
    simp [hG x]
  | true =>
    rw [hfm] at h
    simp only [Bool.not_true, Bool.false_eq_true, ↓reduceIte] at h
    have h' : processSelected t record (selectedRecs t feats) gm = .ok out := by
      cases feats <;> exact (Do.error_else_ok h).2
    obtain ⟨_, hk⟩ := processSelected_keys t record G _ gm out h' (fun k _ => hG k)
    rw [hk x, hG x, and_iff_right rfl]

/-- entry `k` is reached from the definition `d`: through the glyph map, or named by a firing
entry-map record of a used feature record -/
def f1Key (t : F1Table) (d : SubsetDef) (k : Nat) : Prop :=
  let G := glyphKey t (t.cmap.filter fun (p : Nat × Nat) => rMem (p.1 : Int) d.cps)
  G k ∨ (t.hasFeatureMap = true ∧ ∃ q, q ∈ selectedRecs t d.feats ∧
    ∃ i, i ∈ List.range q.1.count ∧ fires t G q.1 q.2 i k)

theorem f1Key_mono (t : F1Table) {d d' : SubsetDef} (hle : SubsetDef.le d d')
    (hs : d.feats.sorted) (hs' : d'.feats.sorted) (k : Nat) : f1Key t d k → f1Key t d' k := by
  have hG : ∀ k, glyphKey t (t.cmap.filter fun (p : Nat × Nat) => rMem (p.1 : Int) d.cps) k →
      glyphKey t (t.cmap.filter fun (p : Nat × Nat) => rMem (p.1 : Int) d'.cps) k :=
    glyphKey_mono t fun q hq =>
      List.mem_filter.2 ⟨(List.mem_filter.1 hq).1, hle.1 _ (List.mem_filter.1 hq).2⟩
  rintro (hk | ⟨hfm, q, hq, i, hi, hf⟩)
  · exact Or.inl (hG _ hk)
  · exact Or.inr ⟨hfm, q, selectedRecs_mono t hle.2.1 hs hs' q hq, i, hi, fires_mono t hG _ _ _ _ hf⟩

theorem intersectF1_ok {tag : TableTag} {t : F1Table} {d : SubsetDef} {us : List PatchUri}
    (h : intersectF1 tag t d = .ok us) :
    ∃ enc entries, PatchFormat.ofNumber t.patchFormat = some enc ∧
      (∀ k, hasKey entries k ↔ f1Key t d k) ∧
      ∀ u, u ∈ us ↔ ∃ p, p ∈ entries ∧ p.1 > 0 ∧ isEntryApplied t.bitmap p.1 = false ∧
        u = { template := t.template, id := .num p.1, enc := enc, table := tag,
              compat := t.compat, bit := t.bitmapStart * 8 + p.1,
              info := if enc.isInvalidating then IntersectionInfo.fromSubset p.2 p.1
                      else IntersectionInfo.zero } := by
  unfold intersectF1 at h
  replace h := (Do.error_else_ok (Do.error_else_ok (Do.error_else_ok h).2).2).2
  cases henc : PatchFormat.ofNumber t.patchFormat with
  | none => rw [henc] at h; cases h
  | some enc =>
    simp only [henc] at h
    cases hgm : glyphMapLoop t enc.isInvalidating
        (t.cmap.filter fun (p : Nat × Nat) => rMem (p.1 : Int) d.cps) [] with
    | error e => rw [hgm] at h; cases h
    | ok gm =>
      simp only [hgm] at h
      cases hent : featureMap t enc.isInvalidating d.feats gm with
      | error e => rw [hent] at h; cases h
      | ok entries =>
        simp only [hent] at h
        cases h
        have hG : ∀ k, hasKey gm k ↔
            glyphKey t (t.cmap.filter fun (p : Nat × Nat) => rMem (p.1 : Int) d.cps) k := fun k => by
          rw [glyphMapLoop_keys t _ _ [] gm hgm k]; simp [hasKey]
        refine ⟨enc, entries, rfl, featureMap_keys t _ _ gm entries hG hent, fun u => ?_⟩
        simp only [List.mem_map, List.mem_filter, Bool.and_eq_true, decide_eq_true_eq,
          Bool.not_eq_true']
        constructor
        · rintro ⟨p, ⟨hp, h1, h2⟩, rfl⟩
          exact ⟨p, hp, h1, h2, rfl⟩
        · rintro ⟨p, hp, h1, h2, rfl⟩
          exact ⟨p, ⟨hp, h1, h2⟩, rfl⟩

end FontVerif.PatchMap
