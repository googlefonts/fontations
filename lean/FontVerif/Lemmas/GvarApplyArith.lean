/-
Arithmetic lemmas for the application of glyph variation deltas in 16.16 (Model/GvarApply.lean,
Model/Iup.lean `fx*`): integer × 16.16 products are exact, `Fixed` division rounds to nearest, and
the error of one `Jiggler::interpolate` step.
-/
import FontVerif.Model.GvarApply
import FontVerif.Lemmas.Base
import FontVerif.Lemmas.FixedOps
import Mathlib.Tactic.Ring
import Mathlib.Tactic.Linarith
namespace FontVerif.GvarApply

theorem fxMul_eq (a b : Int) : Iup.fxMul a b = Fixed.mul a b := rfl

theorem fxMul_shifted (m s : Int) : Fixed.mul (m * 65536) s = wrapI32 (m * s) := by
  rw [Fixed.mul_eq, Int.mul_right_comm, Int.mul_comm (m * s), roundHalfAway_mul_self _ (by decide)]

theorem fxMul_int_exact (d s : Int) (hd : -32768 ≤ d ∧ d ≤ 32767)
    (hp : -2147483648 ≤ d * s ∧ d * s < 2147483648) :
    Fixed.mul (Fixed.fromI32 d) s = d * s := by
  have : Fixed.fromI32 d = d * 65536 := by
    unfold Fixed.fromI32; exact wrapI32_of_in (by omega) (by omega)
  rw [this, fxMul_shifted, wrapI32_of_in hp.1 hp.2]

theorem fxScaled_exact (s d : Int) (hd : -32768 ≤ d ∧ d ≤ 32767)
    (hp : -2147483648 ≤ d * s ∧ d * s < 2147483648) : fxScaled s d = d * s := by
  unfold fxScaled
  split
  · rename_i h; subst h
    unfold Fixed.fromI32; rw [wrapI32_of_in (by omega) (by omega)]
  · exact fxMul_int_exact d s hd hp

theorem half_up_div (u D : Int) (hu : 0 ≤ u) (hD : 0 < D) :
    0 ≤ (2 * u + D) / (2 * D) ∧ (2 * u + D) / (2 * D) ≤ u ∧
    2 * ((2 * u + D) / (2 * D)) * D - 2 * u ≤ D ∧ 2 * u - 2 * ((2 * u + D) / (2 * D)) * D < D := by
  rw [rdiv_two u hD]
  have h := rdiv_spec u hD
  have b := rdiv_between (t := u) (a := 1) (b := D) hu (by omega) (by omega) hD
  rw [Int.mul_one] at b
  rw [Int.mul_assoc, Int.mul_comm _ D]
  exact ⟨b.1, b.2, by omega, by omega⟩

theorem fxDiv_quot (u D : Int) (hD : 0 < D) :
    (u * 65536 + D * 65536 / 2) / (D * 65536) = (2 * u + D) / (2 * D) := by
  rw [Int.mul_comm u, Int.mul_comm D, rdiv_scale u hD (by omega), rdiv_two u hD]

theorem fxDiv_of_quot (N b q : Int) (hb : 0 < b) (hq : (iabs N * 65536 + b / 2) / b = q)
    (hq0 : 0 ≤ q) (hq1 : q ≤ 2147483647) :
    Iup.fxDiv N b = if N < 0 then -q else q := by
  have hb0 : ¬ b < 0 := by omega
  have hbz : ¬ b = 0 := by omega
  show Fixed.div N b = _
  rw [Fixed.div_mag]
  simp only [show iabs b = b from if_neg hb0, if_neg hbz, hq, decide_eq_false hb0, Bool.bne_false,
    decide_eq_true_eq]
  exact wrapI32_of_in (by split <;> omega) (by split <;> omega)

/-- `Fixed` division by a positive whole number `D` (as 16.16: `D << 16`) rounds `N / D` to the
nearest integer: `|2 * q * D - 2 * N| ≤ D` -/
theorem fxDiv_whole (N D : Int) (hN : -2147483647 ≤ N ∧ N ≤ 2147483647) (hD : 0 < D) :
    ∃ q, Iup.fxDiv N (D * 65536) = q ∧ 2 * q * D - 2 * N ≤ D ∧ 2 * N - 2 * q * D ≤ D := by
  have hu : 0 ≤ iabs N ∧ iabs N ≤ 2147483647 := by unfold iabs; split <;> omega
  obtain ⟨q0, q1, q2, q3⟩ := half_up_div (iabs N) D hu.1 hD
  refine ⟨_, fxDiv_of_quot N (D * 65536) _ (by omega) (fxDiv_quot (iabs N) D hD) q0 (by omega), ?_⟩
  generalize (2 * iabs N + D) / (2 * D) = q at *
  unfold iabs at *
  by_cases hneg : N < 0
  · simp only [hneg, if_true] at *
    exact ⟨by linarith, by linarith⟩
  · simp only [hneg, if_false] at *
    exact ⟨by linarith, by linarith⟩

theorem fxInterpAxis_swap (p1 o1 p2 o2 c old : Int) (h : p1 > p2) :
    Iup.fxInterpAxis p1 o1 p2 o2 c old = Iup.fxInterpAxis p2 o2 p1 o1 c old := by
  have h' : ¬ (p2 > p1) := by omega
  simp [Iup.fxInterpAxis, h, h']

theorem readerAxis_swap (p1 e1 p2 e2 c : Int) (h : p1 > p2) :
    Iup.readerAxis p1 e1 p2 e2 c = Iup.readerAxis p2 e2 p1 e1 c := by
  have h' : ¬ (p2 > p1) := by omega
  simp [Iup.readerAxis, h, h']

/-- how far the point lies inside the reference interval (0 when it is not strictly inside) -/
def interpDist (p1 p2 c : Int) : Int :=
  if min p1 p2 < c ∧ c < max p1 p2 then c - min p1 p2 else 0

theorem interpDist_comm (p1 p2 c : Int) : interpDist p1 p2 c = interpDist p2 p1 c := by
  unfold interpDist; rw [Int.min_comm, Int.max_comm]

theorem interpDist_of_le (p1 p2 c : Int) (hle : p1 ≤ p2) :
    interpDist p1 p2 c = if p1 < c ∧ c < p2 then c - p1 else 0 := by
  unfold interpDist
  rw [Int.min_eq_left hle, Int.max_eq_right hle]

theorem readerAxis_of_le (p1 e1 p2 e2 c : Int) (hle : p1 ≤ p2) :
    Iup.readerAxis p1 e1 p2 e2 c =
      if p1 = p2 ∧ e1 ≠ e2 then (0, 1)
      else if c ≤ p1 then (e1, 1) else if p2 ≤ c then (e2, 1)
      else ((p1 + e1 - c) * (p2 - p1) + (c - p1) * (p2 + e2 - (p1 + e1)), p2 - p1) := by
  have hsw : ¬ p1 > p2 := by omega
  by_cases hdeg : p1 = p2 ∧ e1 ≠ e2
  · have : ¬ (p1 ≠ p2 ∨ p1 + e1 = p2 + e2) := by omega
    simp only [Iup.readerAxis, hsw, if_false, this, if_pos hdeg]
  · have : p1 ≠ p2 ∨ p1 + e1 = p2 + e2 := by omega
    simp only [Iup.readerAxis, hsw, if_false, this, if_true, if_neg hdeg, ge_iff_le]

theorem fx_no_wrap (p c e M E : Int) (hp : -M ≤ p ∧ p ≤ M) (hc : -M ≤ c ∧ c ≤ M) (he : -E ≤ e ∧ e ≤ E)
    (hM : M ≤ 16383) (hfit : 131072 * M + 4 * E + 65536 ≤ 2147483647) :
    Iup.fxFromI32 p = p * 65536 ∧ Iup.fxSub (p * 65536 + e) (p * 65536) = e ∧
      Iup.fxAdd (c * 65536) e = c * 65536 + e := by
  refine ⟨wrapI32_of_in (by omega) (by omega), ?_, wrapI32_of_in (by omega) (by omega)⟩
  unfold Iup.fxSub
  rw [show p * 65536 + e - p * 65536 = e by omega]
  exact wrapI32_of_in (by omega) (by omega)

/-- bounds on `m * q` for the rounded scale `q ≈ (D * 65536 + g) / D` and `0 < m < D` -/
theorem mq_bounds (D m g q E : Int) (hD : 0 < D) (hm0 : 0 < m) (hmD : m < D)
    (hg : -(2 * E) ≤ g ∧ g ≤ 2 * E) (hE : 0 ≤ E)
    (hq1 : 2 * q * D - 2 * (D * 65536 + g) ≤ D) (hq2 : 2 * (D * 65536 + g) - 2 * q * D ≤ D) :
    m * 65536 - 2 * E - m ≤ m * q ∧ m * q ≤ m * 65536 + 2 * E + m := by
  have hm : 0 ≤ m := by omega
  have a1 : m * g ≤ m * (2 * E) := Int.mul_le_mul_of_nonneg_left hg.2 hm
  have a1' : m * (-(2 * E)) ≤ m * g := Int.mul_le_mul_of_nonneg_left hg.1 hm
  have a2 : m * (2 * E) ≤ D * (2 * E) := Int.mul_le_mul_of_nonneg_right (by omega) (by omega)
  have a3 : m * (2 * q * D - 2 * (D * 65536 + g)) ≤ m * D := Int.mul_le_mul_of_nonneg_left hq1 hm
  have a4 : m * (2 * (D * 65536 + g) - 2 * q * D) ≤ m * D := Int.mul_le_mul_of_nonneg_left hq2 hm
  constructor
  · exact Int.le_of_mul_le_mul_right (by linarith : (m * 65536 - 2 * E - m) * D ≤ (m * q) * D) hD
  · exact Int.le_of_mul_le_mul_right (by linarith : (m * q) * D ≤ (m * 65536 + 2 * E + m) * D) hD

theorem fxInterp_between (p1 p2 c e1 e2 M E : Int) (h1 : p1 < c) (h2 : c < p2)
    (hp1 : -M ≤ p1) (hp2 : p2 ≤ M) (he1 : -E ≤ e1 ∧ e1 ≤ E) (he2 : -E ≤ e2 ∧ e2 ≤ E)
    (hM : M ≤ 16383) (hfit : 131072 * M + 4 * E + 65536 ≤ 2147483647) :
    ∃ q, Iup.fxAdd (p1 * 65536 + e1) (Iup.fxMul (Iup.fxSub (c * 65536) (p1 * 65536))
          (Iup.fxDiv (Iup.fxSub (p2 * 65536 + e2) (p1 * 65536 + e1)) (Iup.fxSub (p2 * 65536) (p1 * 65536))))
        = p1 * 65536 + e1 + (c - p1) * q ∧
      2 * q * (p2 - p1) - 2 * ((p2 - p1) * 65536 + (e2 - e1)) ≤ p2 - p1 ∧
      2 * ((p2 - p1) * 65536 + (e2 - e1)) - 2 * q * (p2 - p1) ≤ p2 - p1 := by
  have hN : Iup.fxSub (p2 * 65536 + e2) (p1 * 65536 + e1) = (p2 - p1) * 65536 + (e2 - e1) := by
    unfold Iup.fxSub; rw [wrapI32_of_in (by omega) (by omega)]; ring
  have hD : Iup.fxSub (p2 * 65536) (p1 * 65536) = (p2 - p1) * 65536 := by
    unfold Iup.fxSub; rw [wrapI32_of_in (by omega) (by omega)]; ring
  have hm : Iup.fxSub (c * 65536) (p1 * 65536) = (c - p1) * 65536 := by
    unfold Iup.fxSub; rw [wrapI32_of_in (by omega) (by omega)]; ring
  obtain ⟨q, eq, q1, q2⟩ := fxDiv_whole ((p2 - p1) * 65536 + (e2 - e1)) (p2 - p1)
    (by omega) (by omega)
  obtain ⟨b1, b2⟩ := mq_bounds (p2 - p1) (c - p1) (e2 - e1) q E (by omega) (by omega) (by omega)
    (by omega) (by omega) q1 q2
  refine ⟨q, ?_, q1, q2⟩
  rw [hN, hD, hm, eq, fxMul_eq, fxMul_shifted]
  unfold Iup.fxAdd
  rw [wrapI32_add_wrap]
  exact wrapI32_of_in (by omega) (by omega)

theorem between_core (p1 p2 c e1 e2 q : Int) (hm : 0 < c - p1)
    (hq1 : 2 * q * (p2 - p1) - 2 * ((p2 - p1) * 65536 + (e2 - e1)) ≤ p2 - p1)
    (hq2 : 2 * ((p2 - p1) * 65536 + (e2 - e1)) - 2 * q * (p2 - p1) ≤ p2 - p1) :
    2 * ((p2 - p1) * (p1 * 65536 + e1 + (c - p1) * q - c * 65536) -
      ((p1 + e1 - c) * (p2 - p1) + (c - p1) * (p2 + e2 - (p1 + e1)))) ≤ (p2 - p1) * (c - p1) ∧
    2 * (((p1 + e1 - c) * (p2 - p1) + (c - p1) * (p2 + e2 - (p1 + e1))) -
      (p2 - p1) * (p1 * 65536 + e1 + (c - p1) * q - c * 65536)) ≤ (p2 - p1) * (c - p1) := by
  have a1 := Int.mul_le_mul_of_nonneg_left hq1 (Int.le_of_lt hm)
  have a2 := Int.mul_le_mul_of_nonneg_left hq2 (Int.le_of_lt hm)
  constructor <;> linarith

theorem fxInterpAxis_bound_le (p1 p2 c e1 e2 M E : Int) (hle : p1 ≤ p2)
    (hp1 : -M ≤ p1 ∧ p1 ≤ M) (hp2 : -M ≤ p2 ∧ p2 ≤ M) (hc : -M ≤ c ∧ c ≤ M)
    (he1 : -E ≤ e1 ∧ e1 ≤ E) (he2 : -E ≤ e2 ∧ e2 ≤ E)
    (hM : 0 ≤ M ∧ M ≤ 16383) (hfit : 131072 * M + 4 * E + 65536 ≤ 2147483647) :
    0 < (Iup.readerAxis p1 e1 p2 e2 c).2 ∧
    2 * ((Iup.readerAxis p1 e1 p2 e2 c).2 *
          (Iup.fxInterpAxis p1 (p1 * 65536 + e1) p2 (p2 * 65536 + e2) c (c * 65536) - c * 65536)
        - (Iup.readerAxis p1 e1 p2 e2 c).1) ≤ (Iup.readerAxis p1 e1 p2 e2 c).2 * interpDist p1 p2 c ∧
    2 * ((Iup.readerAxis p1 e1 p2 e2 c).1 - (Iup.readerAxis p1 e1 p2 e2 c).2 *
          (Iup.fxInterpAxis p1 (p1 * 65536 + e1) p2 (p2 * 65536 + e2) c (c * 65536) - c * 65536))
        ≤ (Iup.readerAxis p1 e1 p2 e2 c).2 * interpDist p1 p2 c := by
  obtain ⟨f1, hs1, ha1⟩ := fx_no_wrap p1 c e1 M E hp1 hc he1 hM.2 hfit
  obtain ⟨f2, hs2, ha2⟩ := fx_no_wrap p2 c e2 M E hp2 hc he2 hM.2 hfit
  obtain ⟨fc, -, -⟩ := fx_no_wrap c c e1 M E hc hc he1 hM.2 hfit
  have hsw : decide (p1 > p2) = false := decide_eq_false (by omega)
  have hin : (p1 * 65536 ≠ p2 * 65536 ∨ p1 * 65536 + e1 = p2 * 65536 + e2) ↔ ¬ (p1 = p2 ∧ e1 ≠ e2) := by omega
  rw [readerAxis_of_le p1 e1 p2 e2 c hle, interpDist_of_le p1 p2 c hle]
  simp only [Iup.fxInterpAxis, hsw, Bool.false_eq_true, if_false, f1, f2, fc, hs1, hs2, hin, ite_not, ha1, ha2,
    ge_iff_le, Int.mul_le_mul_right (by omega : (0 : Int) < 65536)]
  by_cases hdeg : p1 = p2 ∧ e1 ≠ e2
  · have hbt : ¬ (p1 < c ∧ c < p2) := by omega
    simp only [if_pos hdeg, if_neg hbt]
    omega
  · simp only [if_neg hdeg]
    by_cases hc1 : c ≤ p1
    · have hbt : ¬ (p1 < c ∧ c < p2) := by omega
      simp only [if_pos hc1, if_neg hbt]
      omega
    · by_cases hc2 : p2 ≤ c
      · have hbt : ¬ (p1 < c ∧ c < p2) := by omega
        simp only [if_neg hc1, if_pos hc2, if_neg hbt]
        omega
      · have hne : p1 * 65536 ≠ p2 * 65536 := by omega
        obtain ⟨q, eq, q1, q2⟩ := fxInterp_between p1 p2 c e1 e2 M E (by omega) (by omega) hp1.1 hp2.2
          he1 he2 hM.2 hfit
        simp only [if_neg hc1, if_neg hc2, if_neg hne, eq,
          if_pos (show p1 < c ∧ c < p2 from ⟨by omega, by omega⟩)]
        exact ⟨by omega, between_core p1 p2 c e1 e2 q (by omega) q1 q2⟩

/-- References in either order: with `(num, den)` the
exact inference `readerAxis` of the 16.16-unit deltas `e1`, `e2` of the references, the 16.16 result
`r` satisfies `|den * (r - c * 65536) - num| ≤ den * dist / 2`, `dist` = how far `c` lies inside the
reference interval (0 outside: exact). -/
theorem fxInterpAxis_bound (p1 p2 c e1 e2 M E : Int)
    (hp1 : -M ≤ p1 ∧ p1 ≤ M) (hp2 : -M ≤ p2 ∧ p2 ≤ M) (hc : -M ≤ c ∧ c ≤ M)
    (he1 : -E ≤ e1 ∧ e1 ≤ E) (he2 : -E ≤ e2 ∧ e2 ≤ E)
    (hM : 0 ≤ M ∧ M ≤ 16383) (hfit : 131072 * M + 4 * E + 65536 ≤ 2147483647) :
    0 < (Iup.readerAxis p1 e1 p2 e2 c).2 ∧
    2 * ((Iup.readerAxis p1 e1 p2 e2 c).2 *
          (Iup.fxInterpAxis p1 (p1 * 65536 + e1) p2 (p2 * 65536 + e2) c (c * 65536) - c * 65536)
        - (Iup.readerAxis p1 e1 p2 e2 c).1) ≤ (Iup.readerAxis p1 e1 p2 e2 c).2 * interpDist p1 p2 c ∧
    2 * ((Iup.readerAxis p1 e1 p2 e2 c).1 - (Iup.readerAxis p1 e1 p2 e2 c).2 *
          (Iup.fxInterpAxis p1 (p1 * 65536 + e1) p2 (p2 * 65536 + e2) c (c * 65536) - c * 65536))
        ≤ (Iup.readerAxis p1 e1 p2 e2 c).2 * interpDist p1 p2 c := by
  by_cases hle : p1 ≤ p2
  · exact fxInterpAxis_bound_le p1 p2 c e1 e2 M E hle hp1 hp2 hc he1 he2 hM hfit
  · have hgt : p1 > p2 := by omega
    rw [fxInterpAxis_swap _ _ _ _ _ _ hgt, readerAxis_swap _ _ _ _ _ hgt, interpDist_comm]
    exact fxInterpAxis_bound_le p2 p1 c e2 e1 M E (by omega) hp2 hp1 hc he2 he1 hM hfit

theorem interpDist_lt_den (p1 e1 p2 e2 c : Int) :
    0 ≤ interpDist p1 p2 c ∧ interpDist p1 p2 c ≤ (Iup.readerAxis p1 e1 p2 e2 c).2 - 1 := by
  have ordered : ∀ p1 e1 p2 e2 : Int, p1 ≤ p2 →
      0 ≤ interpDist p1 p2 c ∧ interpDist p1 p2 c ≤ (Iup.readerAxis p1 e1 p2 e2 c).2 - 1 := by
    intro p1 e1 p2 e2 hle
    rw [readerAxis_of_le p1 e1 p2 e2 c hle, interpDist_of_le p1 p2 c hle]
    by_cases hb : p1 < c ∧ c < p2
    · rw [if_pos hb, if_neg (by omega), if_neg (by omega), if_neg (by omega)]
      omega
    · rw [if_neg hb]
      split
      · omega
      · split
        · omega
        · split <;> omega
  by_cases hle : p1 ≤ p2
  · exact ordered p1 e1 p2 e2 hle
  · rw [readerAxis_swap _ _ _ _ _ (by omega), interpDist_comm]
    exact ordered p2 e2 p1 e1 (by omega)

end FontVerif.GvarApply
