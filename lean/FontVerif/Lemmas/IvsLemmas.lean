/-
The ItemVariationStore writer (Model/Ivs.lean) read back by the reader (Model/Tent.lean): a written column, row and
subtable decode to what was written when the shape covers the row (`Covers`, `deltaSet_encodeWords`); scattering
the active columns rebuilds the dense row; `built_subtable` collects what the reader sees of member `mi` of chunk
`ei` of `encodeAll`, from which `retrieve` and (Lemmas/BuiltDelta) `compute_delta` on a built store follow;
`add_deltas`' de-duplication keeps `StoreInv`.
-/
import FontVerif.Model.Ivs
import FontVerif.Model.Tent
import FontVerif.Lemmas.DeltaLemmas
namespace FontVerif.Ivs
open FontVerif.Tent

theorem be1_eq (x : Int) (rest : List Nat) : be1 x ++ rest = (x % 256).toNat :: rest := rfl
theorem be2_eq (x : Int) (rest : List Nat) :
    be2 x ++ rest = (x % 65536).toNat / 256 :: (x % 65536).toNat % 256 :: rest := rfl
theorem be4_eq (x : Int) (rest : List Nat) :
    be4 x ++ rest = (x % 4294967296).toNat / 16777216 :: (x % 4294967296).toNat / 65536 % 256 ::
      (x % 4294967296).toNat / 256 % 256 :: (x % 4294967296).toNat % 256 :: rest := rfl

theorem readS1_be1 {x : Int} (h : inI8 x) (rest : List Nat) :
    readS1 (be1 x ++ rest) = some (x, rest) := by
  unfold inI8 at h
  rw [be1_eq, readS1_cons]
  simp only [Option.some.injEq, Prod.mk.injEq, and_true]
  split <;> omega

theorem readS2_be2 {x : Int} (h : inI16 x) (rest : List Nat) :
    readS2 (be2 x ++ rest) = some (x, rest) := by
  unfold inI16 at h
  rw [be2_eq, readS2_cons]
  simp only [Option.some.injEq, Prod.mk.injEq, and_true]
  split <;> omega

theorem be4_value (u : Nat) :
    ((((u / 16777216 : Nat) : Int) * 256 + (u / 65536 % 256 : Nat)) * 256 + (u / 256 % 256 : Nat)) * 256 +
      (u % 256 : Nat) = u := by
  omega

theorem readS4_be4 {x : Int} (h : inI32 x) (rest : List Nat) :
    readS4 (be4 x ++ rest) = some (x, rest) := by
  unfold inI32 at h
  have hu : ((x % 4294967296).toNat : Int) = x % 4294967296 := Int.toNat_of_nonneg (by omega)
  rw [be4_eq, readS4_cons, be4_value, hu]
  simp only [Option.some.injEq, Prod.mk.injEq, and_true]
  split <;> omega

/-- value written in a column of `w` bytes (`x as i8` / `x as i16` / `x`). -/
def enc (w : Nat) (x : Int) : List Nat := if w = 1 then be1 x else if w = 2 then be2 x else be4 x

theorem readW_enc {w : Nat} {x : Int} (h : FitsW w x) (rest : List Nat) :
    readW w (enc w x ++ rest) = some (x, rest) := by
  unfold readW enc; unfold FitsW at h
  by_cases h1 : w = 1
  · simp only [h1, if_true] at h ⊢; exact readS1_be1 h rest
  · by_cases h2 : w = 2
    · simp only [h2, if_true] at h ⊢; simp; exact readS2_be2 h rest
    · simp only [h1, h2, if_false] at h ⊢; exact readS4_be4 h rest

theorem enc_length (w : Nat) (hw : w = 1 ∨ w = 2 ∨ w = 4) (x : Int) : (enc w x).length = w := by
  unfold enc
  rcases hw with rfl | rfl | rfl <;> simp [be1, be2, be4]

/-! ### `ItemDeltas` over a written row -/

def wideW (long : Bool) : Nat := if long then 4 else 2
def narrowW (long : Bool) : Nat := if long then 2 else 1

theorem colWidth_eq (nL : Nat) (long : Bool) (pos : Nat) :
    colWidth nL long pos = if pos < nL then wideW long else narrowW long := by
  unfold colWidth wideW narrowW
  by_cases h : pos < nL
  · have : decide (pos ≥ nL) = false := by simp; omega
    cases long <;> simp [this, h]
  · have : decide (pos ≥ nL) = true := by simp; omega
    cases long <;> simp [this, h]

theorem itemDeltas_run (nL : Nat) (long : Bool) (L w : Nat) :
    ∀ (xs : List Int) (pos : Nat) (rest : List Nat), pos + xs.length ≤ L →
      (∀ i, i < xs.length → colWidth nL long (pos + i) = w) → (∀ x ∈ xs, FitsW w x) →
      itemDeltas nL long L pos (xs.flatMap (enc w) ++ rest) =
        xs ++ itemDeltas nL long L (pos + xs.length) rest := by
  intro xs
  induction xs with
  | nil => intro pos rest _ _ _; simp
  | cons x xs ih =>
    intro pos rest hp hw hf
    have hlen : pos + (xs.length + 1) ≤ L := by simpa using hp
    rw [itemDeltas, dif_neg (by omega), show colWidth nL long pos = w from hw 0 (by simp)]
    simp only [List.flatMap_cons, List.append_assoc]
    rw [readW_enc (hf x (by simp))]
    simp only []
    rw [ih (pos + 1) rest (by omega)
      (fun i hi => by rw [Nat.add_right_comm, Nat.add_assoc]; exact hw (i + 1) (by simpa using hi))
      (fun y hy => hf y (by simp [hy]))]
    rw [show pos + 1 + xs.length = pos + (x :: xs).length by simp; omega]; simp

theorem encodeWords_eq (long : Bool) (nL : Nat) (raw : List Int) :
    encodeWords long nL raw =
      (raw.take nL).flatMap (enc (wideW long)) ++ (raw.drop nL).flatMap (enc (narrowW long)) := by
  unfold encodeWords wideW narrowW enc
  cases long <;> simp

theorem itemDeltas_encodeWords (long : Bool) (nL : Nat) (raw : List Int) (tail : List Nat)
    (hn : nL ≤ raw.length) (hw : ∀ x ∈ raw.take nL, FitsW (wideW long) x)
    (hs : ∀ x ∈ raw.drop nL, FitsW (narrowW long) x) :
    itemDeltas nL long raw.length 0 (encodeWords long nL raw ++ tail) = raw := by
  have hl : (raw.take nL).length = nL := by simp; omega
  have hd : nL + (raw.drop nL).length = raw.length := by simp; omega
  rw [encodeWords_eq, List.append_assoc,
    itemDeltas_run nL long raw.length (wideW long) (raw.take nL) 0 _ (by omega)
      (fun i hi => by rw [colWidth_eq, if_pos (by omega)]) hw,
    Nat.zero_add, hl,
    itemDeltas_run nL long raw.length (narrowW long) (raw.drop nL) nL tail (by omega)
      (fun i hi => by rw [colWidth_eq, if_neg (by omega)]) hs,
    hd, itemDeltas, dif_pos (Nat.le_refl _), List.append_nil, List.take_append_drop]

theorem encodeWords_length (long : Bool) (nL : Nat) (raw : List Int) (hn : nL ≤ raw.length) :
    (encodeWords long nL raw).length = nL * wideW long + (raw.length - nL) * narrowW long := by
  rw [encodeWords_eq]
  have key : ∀ (w : Nat) (hw : w = 1 ∨ w = 2 ∨ w = 4) (l : List Int),
      (l.flatMap (enc w)).length = l.length * w := by
    intro w hw l
    induction l with
    | nil => simp
    | cons a l ih => simp only [List.flatMap_cons, List.length_append, ih, enc_length w hw,
                       List.length_cons]; rw [Nat.add_mul]; omega
  have h1 : wideW long = 1 ∨ wideW long = 2 ∨ wideW long = 4 := by unfold wideW; cases long <;> simp
  have h2 : narrowW long = 1 ∨ narrowW long = 2 ∨ narrowW long = 4 := by
    unfold narrowW; cases long <;> simp
  rw [List.length_append, key _ h1, key _ h2]
  simp only [List.length_take, List.length_drop]
  rw [Nat.min_eq_left hn]

/-- every entry is a `ColumnBits` discriminant. -/
def ShapeOk (s : List Nat) : Prop := ∀ b ∈ s, b = 0 ∨ b = 1 ∨ b = 2 ∨ b = 4

/-- the shape can hold the dense row: same length, each column at least as wide as the value needs. -/
def Covers (s : List Nat) (row : List Int) : Prop :=
  row.length = s.length ∧ ∀ r, forVal (row.getD r 0) ≤ s.getD r 0

def RowI32 (row : List Int) : Prop := ∀ x ∈ row, inI32 x

theorem forVal_cases (v : Int) : forVal v = 0 ∨ forVal v = 1 ∨ forVal v = 2 ∨ forVal v = 4 := by
  unfold forVal; repeat' split
  all_goals simp

theorem forVal_le_zero {v : Int} (h : forVal v ≤ 0) : v = 0 := by
  unfold forVal at h; repeat' split at h
  all_goals first | assumption | omega

theorem forVal_le_one {v : Int} (h : forVal v ≤ 1) : inI8 v := by
  unfold forVal at h; repeat' split at h
  all_goals first | assumption | (unfold inI8; omega) | omega

theorem forVal_le_two {v : Int} (h : forVal v ≤ 2) : inI16 v := by
  unfold forVal at h; repeat' split at h
  all_goals first | assumption | (unfold inI16; omega) | (unfold inI8 at *; unfold inI16; omega) | omega

theorem mem_idxWith {b r : Nat} {s : List Nat} : r ∈ idxWith b s ↔ s[r]? = some b := by
  unfold idxWith
  rw [List.mem_filterMap]
  constructor
  · rintro ⟨p, hp, hf⟩
    have := List.mem_zipIdx_iff_getElem?.mp hp
    split at hf
    · rename_i hb
      simp at hf
      rw [← hf, ← hb]; exact this
    · simp at hf
  · intro h
    exact ⟨(b, r), List.mem_zipIdx_iff_getElem?.mpr h, by simp⟩

theorem idxWith_length (b : Nat) (s : List Nat) : (idxWith b s).length = count b s := by
  unfold idxWith count
  have : ∀ (k : Nat), ((s.zipIdx k).filterMap
      (fun p => if p.1 = b then some p.2 else none)).length = (s.filter (· = b)).length := by
    induction s with
    | nil => intro k; simp
    | cons a s ih =>
      intro k
      rw [List.zipIdx_cons, List.filterMap_cons, List.filter_cons]
      by_cases h : a = b
      · simp [h, ih (k + 1)]
      · simp [h, ih (k + 1)]
  exact this 0

theorem indices_length (s : List Nat) : (indices s).length = count 4 s + count 2 s + count 1 s := by
  unfold indices; simp [idxWith_length]; omega

theorem nLong_le (s : List Nat) : nLong s ≤ (indices s).length := by
  rw [indices_length]; unfold nLong; split <;> omega

theorem mem_indices {r : Nat} {s : List Nat} :
    r ∈ indices s ↔ (s[r]? = some 4 ∨ s[r]? = some 2 ∨ s[r]? = some 1) := by
  unfold indices
  simp only [List.mem_append, mem_idxWith]
  constructor
  · rintro ((h | h) | h) <;> simp [h]
  · rintro (h | h | h) <;> simp [h]

theorem indices_split (s : List Nat) :
    indices s = (if longWords s then idxWith 4 s else idxWith 2 s) ++
        (if longWords s then idxWith 2 s ++ idxWith 1 s else idxWith 1 s) ∧
      (if longWords s then idxWith 4 s else idxWith 2 s).length = nLong s := by
  unfold indices nLong
  by_cases h : longWords s
  · simp only [h, if_true]
    exact ⟨List.append_assoc _ _ _, idxWith_length 4 s⟩
  · have h0 : count 4 s = 0 := by unfold longWords at h; simp at h; exact h
    have e : idxWith 4 s = [] := List.eq_nil_of_length_eq_zero (by rw [idxWith_length]; exact h0)
    simp only [h, Bool.false_eq_true, if_false]
    exact ⟨by rw [e, List.nil_append], idxWith_length 2 s⟩

theorem indices_take (s : List Nat) :
    (indices s).take (nLong s) = if longWords s then idxWith 4 s else idxWith 2 s := by
  have h := indices_split s
  rw [h.1, List.take_left' h.2]

theorem indices_drop (s : List Nat) :
    (indices s).drop (nLong s) = if longWords s then idxWith 2 s ++ idxWith 1 s else idxWith 1 s := by
  have h := indices_split s
  rw [h.1, List.drop_left' h.2]

theorem getD_inI32 {row : List Int} (h : RowI32 row) (r : Nat) : inI32 (row.getD r 0) := by
  rw [List.getD_eq_getElem?_getD]
  cases hr : row[r]? with
  | none => simp [inI32]
  | some v => exact h v (List.mem_of_getElem? hr)

theorem rawRow_fits (s : List Nat) (row : List Int) (hc : Covers s row) (hi : RowI32 row) :
    (∀ x ∈ (rawRow s row).take (nLong s), FitsW (wideW (longWords s)) x) ∧
    ∀ x ∈ (rawRow s row).drop (nLong s), FitsW (narrowW (longWords s)) x := by
  constructor
  · intro x hx
    unfold rawRow at hx
    rw [← List.map_take, indices_take] at hx
    obtain ⟨r, hr, rfl⟩ := List.mem_map.mp hx
    unfold FitsW wideW
    by_cases hl : longWords s
    · simp only [hl, if_true]; exact getD_inI32 hi r
    · simp only [hl, Bool.false_eq_true, if_false] at hr ⊢
      simp
      have := hc.2 r
      rw [getD_of_getElem? (mem_idxWith.mp hr)] at this
      exact forVal_le_two this
  · intro x hx
    unfold rawRow at hx
    rw [← List.map_drop, indices_drop] at hx
    obtain ⟨r, hr, rfl⟩ := List.mem_map.mp hx
    unfold FitsW narrowW
    by_cases hl : longWords s
    · simp only [hl, if_true] at hr ⊢
      simp
      have := hc.2 r
      rcases List.mem_append.mp hr with h2 | h1
      · rw [getD_of_getElem? (mem_idxWith.mp h2)] at this; exact forVal_le_two this
      · rw [getD_of_getElem? (mem_idxWith.mp h1)] at this
        exact forVal_le_two (Nat.le_trans this (by omega))
    · simp only [hl, Bool.false_eq_true, if_false] at hr ⊢
      simp
      have := hc.2 r
      rw [getD_of_getElem? (mem_idxWith.mp hr)] at this
      exact forVal_le_one this

theorem row_decode (s : List Nat) (row : List Int) (tail : List Nat) (hc : Covers s row)
    (hi : RowI32 row) :
    itemDeltas (nLong s) (longWords s) (indices s).length 0 (encodeRow s row ++ tail) =
      rawRow s row := by
  have hlen : (rawRow s row).length = (indices s).length := by simp [rawRow]
  unfold encodeRow
  rw [← hlen]
  exact itemDeltas_encodeWords _ _ _ _ (by rw [hlen]; exact nLong_le s) (rawRow_fits s row hc hi).1
    (rawRow_fits s row hc hi).2

/-! ### `word_delta_count` / `delta_row_len` -/

theorem wdc_low {s : List Nat} (h : nLong s < 32768) : wordDeltaCount s % 32768 = nLong s := by
  unfold wordDeltaCount
  have e : (32768 : Nat) = 2 ^ 15 := by decide
  rw [e, Nat.or_mod_two_pow]
  split
  · simp; exact h
  · simp; exact h

theorem wdc_long {s : List Nat} (h : nLong s < 32768) :
    decide (wordDeltaCount s / 32768 % 2 = 1) = longWords s := by
  unfold wordDeltaCount
  have e : (32768 : Nat) = 2 ^ 15 := by decide
  have h0 : nLong s / 2 ^ 15 = 0 := by rw [← e]; omega
  rw [e, Nat.or_div_two_pow, h0]
  by_cases hl : longWords s
  · simp [hl]
  · simp [hl]

/-- `word_delta_count` with its LONG_WORDS bit: the low 15 bits and the flag read back. -/
structure WdcIs (wdc wc : Nat) (long : Bool) : Prop where
  low : wdc % 32768 = wc
  flag : decide (wdc / 32768 % 2 = 1) = long

theorem deltaRowLen_eq' (wdc ric : Nat) :
    deltaRowLen wdc ric =
      (wdc % 32768) * wideW (decide (wdc / 32768 % 2 = 1)) +
        (ric - wdc % 32768) * narrowW (decide (wdc / 32768 % 2 = 1)) := by
  unfold deltaRowLen wideW narrowW
  by_cases h : wdc / 32768 % 2 = 1 <;> simp [h]

/-- rows written by `encodeWords` one after the other, each column fitting its width: `deltaSet` reads row `i` back. -/
theorem deltaSet_encodeWords {wdc wc n : Nat} {long : Bool} (hw : WdcIs wdc wc long) (hwc : wc ≤ n)
    (raws : List (List Int)) (hlen : ∀ r ∈ raws, r.length = n)
    (hfit : ∀ r ∈ raws, (∀ x ∈ r.take wc, FitsW (wideW long) x) ∧ ∀ x ∈ r.drop wc, FitsW (narrowW long) x) :
    (raws.flatMap (encodeWords long wc)).length = deltaRowLen wdc n * raws.length ∧
    ∀ i (hi : i < raws.length), deltaSet wdc n (raws.flatMap (encodeWords long wc)) i = raws[i] := by
  have hL : ∀ r ∈ raws, (encodeWords long wc r).length = deltaRowLen wdc n := fun r hr => by
    rw [encodeWords_length _ _ _ (by rw [hlen r hr]; exact hwc), hlen r hr, deltaRowLen_eq', hw.low, hw.flag]
  have htot := flatMap_uniform_length (encodeWords long wc) _ raws hL
  refine ⟨htot, fun i hi => ?_⟩
  unfold deltaSet
  simp only []
  rw [hw.low, hw.flag, if_pos (by rw [htot]; exact Nat.mul_le_mul_left _ (Nat.le_of_lt hi)),
    flatMap_uniform_drop _ _ raws i hi hL, ← hlen _ (List.getElem_mem hi)]
  have := hfit _ (List.getElem_mem hi)
  exact itemDeltas_encodeWords long wc raws[i] _ (by rw [hlen _ (List.getElem_mem hi)]; exact hwc) this.1 this.2

theorem deltaSet_encoded (s : List Nat) (rows : List (List Int))
    (hcov : ∀ row ∈ rows, Covers s row ∧ RowI32 row) (hn : nLong s < 32768) :
    (rows.flatMap (encodeRow s)).length = deltaRowLen (wordDeltaCount s) (indices s).length * rows.length ∧
    ∀ inner (hin : inner < rows.length),
      deltaSet (wordDeltaCount s) (indices s).length
        ((rows.flatMap (encodeRow s)).take
          (deltaRowLen (wordDeltaCount s) (indices s).length * rows.length)) inner =
        rawRow s rows[inner] := by
  have e : rows.flatMap (encodeRow s) = (rows.map (rawRow s)).flatMap (encodeWords (longWords s) (nLong s)) := by
    rw [List.flatMap_map]; rfl
  obtain ⟨h1, h2⟩ := deltaSet_encodeWords (n := (indices s).length) ⟨wdc_low hn, wdc_long hn⟩ (nLong_le s)
    (rows.map (rawRow s)) (fun r hr => by obtain ⟨row, _, rfl⟩ := List.mem_map.mp hr; simp [rawRow])
    (fun r hr => by
      obtain ⟨row, hrow, rfl⟩ := List.mem_map.mp hr
      exact rawRow_fits s row (hcov row hrow).1 (hcov row hrow).2)
  rw [List.length_map] at h1
  refine ⟨e ▸ h1, fun inner hin => ?_⟩
  rw [e, List.take_of_length_le (by omega), h2 inner (by rw [List.length_map]; exact hin), List.getElem_map]

theorem foldl_set_getElem? (f : Nat → Int) :
    ∀ (l : List Nat) (base : List Int) (k : Nat),
      (l.foldl (fun acc r => acc.set r (f r)) base)[k]? =
        if k ∈ l then (if k < base.length then some (f k) else none) else base[k]? := by
  intro l
  induction l with
  | nil => intro base k; simp
  | cons r l ih =>
    intro base k
    rw [List.foldl_cons, ih]
    simp only [List.length_set, List.mem_cons]
    by_cases h1 : k ∈ l
    · simp [h1]
    · simp only [h1, if_false, or_false]
      rw [List.getElem?_set]
      by_cases h2 : r = k
      · subst h2; simp
      · have h3 : ¬ k = r := fun h => h2 h.symm
        simp [h2, h3]

theorem zip_map_self {α β} (g : α → β) : ∀ (l : List α), l.zip (l.map g) = l.map (fun r => (r, g r)) := by
  intro l; induction l with
  | nil => rfl
  | cons a l ih => simp [ih]

theorem dense_of_map (l : List Nat) (g : Nat → Int) (n : Nat) :
    dense (l.map fun r => (r, g r)) n = l.foldl (fun acc r => acc.set r (g r)) (List.replicate n 0) := by
  unfold dense; rw [List.foldl_map]

theorem shape_zero_of_not_active {s : List Nat} (hs : ShapeOk s) {k : Nat} (hk : k < s.length)
    (h : k ∉ indices s) : s.getD k 0 = 0 := by
  have hm := List.getElem_mem hk
  have e : s[k]? = some s[k] := List.getElem?_eq_getElem hk
  rw [List.getD_eq_getElem?_getD, e]
  simp only [Option.getD_some]
  rcases hs _ hm with h0 | h1 | h2 | h4
  · exact h0
  · exact absurd (mem_indices.mpr (by rw [e, h1]; simp)) h
  · exact absurd (mem_indices.mpr (by rw [e, h2]; simp)) h
  · exact absurd (mem_indices.mpr (by rw [e, h4]; simp)) h

theorem scatter_eq (s : List Nat) (row : List Int) (n : Nat) (hs : ShapeOk s) (hn : s.length = n)
    (hc : Covers s row) : dense ((indices s).zip (rawRow s row)) n = row := by
  unfold rawRow
  rw [zip_map_self, dense_of_map]
  apply List.ext_getElem?
  intro k
  rw [foldl_set_getElem?]
  have hrl : row.length = n := by rw [hc.1, hn]
  simp only [List.length_replicate]
  by_cases hk : k < n
  · have e : row[k]? = some row[k] := List.getElem?_eq_getElem (by omega)
    have eg : row.getD k 0 = row[k] := by rw [List.getD_eq_getElem?_getD, e]; rfl
    by_cases hm : k ∈ indices s
    · simp [hm, hk, e]
    · simp only [hm, if_false, List.getElem?_replicate, hk, if_true, e]
      have := hc.2 k
      rw [shape_zero_of_not_active hs (by omega) hm, eg] at this
      rw [forVal_le_zero this]
  · have e : row[k]? = none := List.getElem?_eq_none (by omega)
    by_cases hm : k ∈ indices s
    · simp [hm, hk, e]
    · simp [hm, hk, e]

/-! ### region pruning / renumbering (`make_region_list`) -/

theorem mem_usedRegions {n r : Nat} {subs : List (Option Tent.SubTable)} :
    r ∈ usedRegions n subs ↔ r < n ∧ ∃ st, some st ∈ subs ∧ r ∈ st.regionIndexes := by
  unfold usedRegions
  rw [List.mem_filter, List.mem_range, List.any_eq_true]
  constructor
  · rintro ⟨h1, x, hx, hp⟩
    refine ⟨h1, ?_⟩
    cases x with
    | none => simp at hp
    | some st => exact ⟨st, hx, by simpa using hp⟩
  · rintro ⟨h1, st, hst, hr⟩
    exact ⟨h1, some st, hst, by simpa using hr⟩

theorem unmap_regions (used l : List Nat) (h : ∀ r ∈ l, r ∈ used) :
    (l.map (fun r => used.idxOf r)).map (fun i => used.getD i 0) = l := by
  rw [List.map_map]
  conv => rhs; rw [← List.map_id l]
  apply List.map_congr_left
  intro r hr
  have hlt := List.idxOf_lt_length_iff.mpr (h r hr)
  simp only [Function.comp, id]
  rw [List.getD_eq_getElem?_getD, List.getElem?_eq_getElem hlt, List.getElem_idxOf hlt]; rfl

theorem chunks_flatten {α} (k : Nat) (xs : List α) : (chunks k xs).flatten = xs := by
  fun_induction chunks k xs with
  | case1 xs h => simp
  | case2 xs h ih => simp [ih]

theorem chunks_length_le {α} (k : Nat) (xs : List α) (hk : 0 < k) :
    ∀ c ∈ chunks k xs, c.length ≤ k := by
  fun_induction chunks k xs with
  | case1 xs h => intro c hc; simp at hc; subst hc; omega
  | case2 xs h ih =>
    intro c hc
    rcases List.mem_cons.mp hc with rfl | hc'
    · simp; omega
    · exact ih c hc'

theorem chunks_small {α} (k : Nat) (xs : List α) (h : xs.length ≤ k) : chunks k xs = [xs] := by
  rw [chunks]; simp [h]

theorem chunks_subset {α} (k : Nat) (xs : List α) : ∀ c ∈ chunks k xs, ∀ x ∈ c, x ∈ xs := by
  intro c hc x hx
  have : x ∈ (chunks k xs).flatten := List.mem_flatten.mpr ⟨c, hc, hx⟩
  rwa [chunks_flatten] at this

theorem reuse_eq_map_dense (ds : List (Nat × Int)) (n : Nat) :
    reuse ds n = (dense ds n).map forVal := by
  unfold reuse dense
  have : ∀ (base : List Int), ds.foldl (fun sh rd => sh.set rd.1 (forVal rd.2)) (base.map forVal) =
      (ds.foldl (fun row rd => row.set rd.1 rd.2) base).map forVal := by
    induction ds with
    | nil => intro base; rfl
    | cons d ds ih =>
      intro base
      simp only [List.foldl_cons]
      rw [← ih, List.map_set]
  have e : List.replicate n 0 = (List.replicate n (0 : Int)).map forVal := by
    simp [forVal]
  rw [e]; exact this _

theorem dense_length (ds : List (Nat × Int)) (n : Nat) : (dense ds n).length = n :=
  foldl_inv (fun row : List Int => row.length = n) _ ds (fun _ _ _ h => by rw [List.length_set]; exact h) _
    List.length_replicate

theorem reuse_length (ds : List (Nat × Int)) (n : Nat) : (reuse ds n).length = n := by
  rw [reuse_eq_map_dense]; simp [dense_length]

theorem reuse_getD (ds : List (Nat × Int)) (n r : Nat) :
    (reuse ds n).getD r 0 = forVal ((dense ds n).getD r 0) := by
  rw [reuse_eq_map_dense, List.getD_eq_getElem?_getD, List.getD_eq_getElem?_getD, List.getElem?_map]
  cases (dense ds n)[r]? with
  | none => simp [forVal]
  | some v => rfl

theorem reuse_shapeOk (ds : List (Nat × Int)) (n : Nat) : ShapeOk (reuse ds n) := by
  rw [reuse_eq_map_dense]
  intro b hb
  obtain ⟨v, _, rfl⟩ := List.mem_map.mp hb
  exact forVal_cases v

theorem merge_length (a b : List Nat) (h : a.length = b.length) : (merge a b).length = a.length := by
  unfold merge; simp [h]

theorem merge_getD (a b : List Nat) (h : a.length = b.length) (r : Nat) :
    (merge a b).getD r 0 = max (a.getD r 0) (b.getD r 0) := by
  unfold merge
  simp only [List.getD_eq_getElem?_getD, List.getElem?_zipWith]
  by_cases hr : r < a.length
  · rw [List.getElem?_eq_getElem hr, List.getElem?_eq_getElem (by omega : r < b.length)]; rfl
  · rw [List.getElem?_eq_none (by omega), List.getElem?_eq_none (by omega : b.length ≤ r)]; rfl

theorem merge_shapeOk (a b : List Nat) (ha : ShapeOk a) (hb : ShapeOk b) : ShapeOk (merge a b) := by
  unfold merge
  intro x hx
  obtain ⟨i, hi⟩ := List.mem_iff_getElem?.mp hx
  rw [List.getElem?_zipWith] at hi
  cases ha' : a[i]? with
  | none => rw [ha'] at hi; simp at hi
  | some u =>
    cases hb' : b[i]? with
    | none => rw [ha', hb'] at hi; simp at hi
    | some v =>
      rw [ha', hb'] at hi
      simp at hi
      have h1 := ha u (List.mem_of_getElem? ha')
      have h2 := hb v (List.mem_of_getElem? hb')
      rw [← hi]
      rcases Nat.le_total u v with h | h
      · rw [Nat.max_eq_right h]; exact h2
      · rw [Nat.max_eq_left h]; exact h1

theorem joinFold_spec (n : Nat) :
    ∀ (sets : List (List (Nat × Int))) (sh0 : List Nat), sh0.length = n → ShapeOk sh0 →
      let j := sets.foldl (fun sh ds => merge sh (reuse ds n)) sh0
      j.length = n ∧ ShapeOk j ∧ (∀ r, sh0.getD r 0 ≤ j.getD r 0) ∧
      (∀ ds ∈ sets, ∀ r, (reuse ds n).getD r 0 ≤ j.getD r 0) := by
  intro sets
  induction sets with
  | nil => intro sh0 h0 hs; simp [h0, hs]
  | cons d sets ih =>
    intro sh0 h0 hs
    have hl : sh0.length = (reuse d n).length := by rw [reuse_length]; exact h0
    have hm := ih (merge sh0 (reuse d n)) (by rw [merge_length _ _ hl]; exact h0)
      (merge_shapeOk _ _ hs (reuse_shapeOk d n))
    simp only [List.foldl_cons] at hm ⊢
    refine ⟨hm.1, hm.2.1, ?_, ?_⟩
    · intro r
      have := hm.2.2.1 r
      rw [merge_getD _ _ hl] at this
      have := Nat.le_max_left (sh0.getD r 0) ((reuse d n).getD r 0)
      omega
    · intro ds hds r
      rcases List.mem_cons.mp hds with rfl | h'
      · have := hm.2.2.1 r
        rw [merge_getD _ _ hl] at this
        have := Nat.le_max_right (sh0.getD r 0) ((reuse ds n).getD r 0)
        omega
      · exact hm.2.2.2 ds h' r

theorem joinShape_spec (n : Nat) (sets : List (List (Nat × Int))) :
    (joinShape n sets).length = n ∧ ShapeOk (joinShape n sets) ∧
    ∀ ds ∈ sets, Covers (joinShape n sets) (dense ds n) := by
  have := joinFold_spec n sets (List.replicate n 0) (by simp)
    (by intro b hb; simp at hb; left; exact hb.2)
  simp only [] at this
  refine ⟨this.1, this.2.1, ?_⟩
  intro ds hds
  refine ⟨by rw [dense_length]; exact this.1.symm, ?_⟩
  intro r
  have := this.2.2.2 ds hds r
  rw [reuse_getD] at this
  exact this

theorem dense_rowI32 (ds : List (Nat × Int)) (n : Nat) (h : ∀ rd ∈ ds, inI32 rd.2) :
    RowI32 (dense ds n) := by
  refine foldl_inv RowI32 _ ds (fun row rd hrd hrow x hx => ?_) _ (fun x hx => ?_)
  · rcases List.mem_or_eq_of_mem_set hx with h1 | h1
    · exact hrow x h1
    · rw [h1]; exact h rd hrd
  · rw [(List.mem_replicate.mp hx).2]; decide

theorem pairLe_trans (a b c : Nat × Int) : pairLe a b = true → pairLe b c = true → pairLe a c = true := by
  unfold pairLe; simp only [Bool.or_eq_true, Bool.and_eq_true, decide_eq_true_eq]; omega

theorem pairLe_total (a b : Nat × Int) : (pairLe a b || pairLe b a) = true := by
  unfold pairLe; simp only [Bool.or_eq_true, Bool.and_eq_true, decide_eq_true_eq]; omega

theorem normalizeDeltaSet_idem (ds : List (Nat × Int)) :
    normalizeDeltaSet (normalizeDeltaSet ds) = normalizeDeltaSet ds := by
  unfold normalizeDeltaSet
  simp only []
  by_cases h : (ds.mergeSort pairLe).all (fun rd => rd.2 = 0)
  · simp only [h, if_true]; simp
  · simp only [h]
    have hs := List.pairwise_mergeSort (le := pairLe) pairLe_trans pairLe_total ds
    simp only [Bool.false_eq_true, if_false]
    rw [List.mergeSort_of_pairwise hs]
    simp only [h, Bool.false_eq_true, if_false]

theorem normalize_mem {ds : List (Nat × Int)} {rd : Nat × Int} (h : rd ∈ normalizeDeltaSet ds) :
    rd ∈ ds := by
  unfold normalizeDeltaSet at h
  simp only [] at h
  split at h
  · simp at h
  · exact List.mem_mergeSort.mp h

/-! ### the whole `Encoder::encode` + `make_region_list`, read back -/

abbrev Member := List (Nat × Int) × Nat
abbrev Enc := List Nat × List Member

/-- encodings after `iter_split_into_table_size_chunks`. -/
def chunked (encs : List Enc) : List Enc :=
  encs.flatMap fun e => (chunks 65535 e.2).map fun c => (e.1, c)

/-- subtables before region renumbering. -/
def rawSubs (n : Nat) (encs : List Enc) : List (Option Tent.SubTable) :=
  (chunked encs).map fun e => encodeSub e.1 (e.2.map fun m => dense m.1 n)

theorem encodeAll_subtables (n : Nat) (encs : List Enc) : (encodeAll n encs).subtables =
    remapRegions (usedRegions n (rawSubs n encs)) (rawSubs n encs) := rfl
theorem encodeAll_used (n : Nat) (encs : List Enc) :
    (encodeAll n encs).usedRegions = usedRegions n (rawSubs n encs) := rfl
theorem encodeAll_remap (n : Nat) (encs : List Enc) : (encodeAll n encs).remap =
    (chunked encs).zipIdx.flatMap fun ei =>
      ei.1.2.zipIdx.map fun mi => (mi.1.2, ei.2 % 65536, mi.2 % 65536) := rfl

/-- **retrieval**: what a reader gets for `(outer, inner)` from a built store, as a dense row over
the builder's canonical regions: the decoded columns of row `inner` of subtable `outer`
(`ItemVariationData::delta_set`), each attributed to the region its (renumbered) region index
names in the pruned region list; regions the subtable does not mention get 0. -/
def retrieve (b : Built) (n outer inner : Nat) : Option (List Int) :=
  match b.subtables[outer]? with
  | some (some st) =>
    if inner < st.itemCount then
      some (dense ((st.regionIndexes.map fun i => b.usedRegions.getD i 0).zip (decodedRow st inner)) n)
    else none
  | _ => none

/-- the model's well-formedness condition on an encoding list: every shape has one column per
canonical region, holds `ColumnBits` discriminants, and covers each of its members' rows. -/
def EncsWf (n : Nat) (encs : List Enc) : Prop :=
  ∀ e ∈ encs, e.1.length = n ∧ ShapeOk e.1 ∧
    ∀ m ∈ e.2, Covers e.1 (dense m.1 n) ∧ RowI32 (dense m.1 n)

theorem counts_le (s : List Nat) : count 4 s + count 2 s + count 1 s ≤ s.length := by
  induction s with
  | nil => simp [count]
  | cons a s ih =>
    simp only [count, List.filter_cons, List.length_cons] at *
    repeat' split
    all_goals simp_all
    all_goals omega

theorem mem_chunked {encs : List Enc} {e' : Enc} (h : e' ∈ chunked encs) :
    ∃ e ∈ encs, e'.1 = e.1 ∧ e'.2 ∈ chunks 65535 e.2 := by
  unfold chunked at h
  obtain ⟨e, he, hc⟩ := List.mem_flatMap.mp h
  obtain ⟨c, hc1, rfl⟩ := List.mem_map.mp hc
  exact ⟨e, he, rfl, hc1⟩

theorem chunked_wf {n : Nat} {encs : List Enc} (hwf : EncsWf n encs) : EncsWf n (chunked encs) := by
  intro e' he'
  obtain ⟨e, he, h1, h2⟩ := mem_chunked he'
  have := hwf e he
  rw [h1]
  exact ⟨this.1, this.2.1, fun m hm => this.2.2 m (chunks_subset _ _ _ h2 m hm)⟩

theorem chunked_len {encs : List Enc} {e' : Enc} (h : e' ∈ chunked encs) : e'.2.length ≤ 65535 := by
  obtain ⟨e, _, _, h2⟩ := mem_chunked h
  exact chunks_length_le 65535 e.2 (by omega) _ h2

theorem built_subtable (n : Nat) (encs : List Enc) (hwf : EncsWf n encs) (hn : n < 32768)
    (ei mi : Nat) (e' : Enc) (m : Member) (he : (chunked encs)[ei]? = some e')
    (hm : e'.2[mi]? = some m) :
    e'.1.length = n ∧ ShapeOk e'.1 ∧ Covers e'.1 (dense m.1 n) ∧
    (∀ r ∈ indices e'.1, r ∈ (encodeAll n encs).usedRegions) ∧
    ∃ st, (encodeAll n encs).subtables[ei]? = some (some st) ∧ mi < st.itemCount ∧
      st.regionIndexes = (indices e'.1).map (fun r => (encodeAll n encs).usedRegions.idxOf r) ∧
      ¬ st.data.length < deltaRowLen st.wordDeltaCount st.regionIndexes.length * st.itemCount ∧
      decodedRow st mi = rawRow e'.1 (dense m.1 n) := by
  have hw := chunked_wf hwf e' (List.mem_of_getElem? he)
  obtain ⟨s, members⟩ := e'
  simp only at hw hm ⊢
  obtain ⟨hmi, hmget⟩ := List.getElem?_eq_some_iff.mp hm
  have hcovm := hw.2.2 m (hmget ▸ List.getElem_mem hmi)
  let rows := members.map fun m => dense m.1 n
  have hrows : rows.length = members.length := List.length_map _
  have hne : rows.isEmpty = false := by
    cases hr : rows with
    | nil => rw [hr] at hrows; simp at hrows; omega
    | cons _ _ => rfl
  let st0 : Tent.SubTable :=
    ⟨rows.length, wordDeltaCount s, indices s, rows.flatMap (encodeRow s)⟩
  have hsub0 : (rawSubs n encs)[ei]? = some (some st0) := by
    unfold rawSubs
    rw [List.getElem?_map, he]
    simp only [Option.map_some, encodeSub]
    rw [hne]; rfl
  have hused : ∀ r ∈ indices s, r ∈ (encodeAll n encs).usedRegions := by
    intro r hr
    rw [encodeAll_used]
    refine mem_usedRegions.mpr ⟨?_, st0, List.mem_of_getElem? hsub0, hr⟩
    rw [← hw.1]
    rcases mem_indices.mp hr with h | h | h <;> exact (List.getElem?_eq_some_iff.mp h).1
  have hnl : nLong s < 32768 := by
    have := nLong_le s
    rw [indices_length] at this
    have := counts_le s
    rw [hw.1] at this
    omega
  have hcovs : ∀ row ∈ rows, Covers s row ∧ RowI32 row := by
    intro row hrow
    obtain ⟨m', hm', rfl⟩ := List.mem_map.mp hrow
    exact hw.2.2 m' hm'
  obtain ⟨hdlen, hdset⟩ := deltaSet_encoded s rows hcovs hnl
  refine ⟨hw.1, hw.2.1, hcovm.1, hused,
    { st0 with regionIndexes := (indices s).map fun r => (encodeAll n encs).usedRegions.idxOf r },
    ?_, by simp only [st0]; omega, rfl, ?_, ?_⟩
  · rw [encodeAll_subtables, encodeAll_used]
    unfold remapRegions
    rw [List.getElem?_map, hsub0]; rfl
  · simp only [st0, List.length_map]
    rw [hdlen]; omega
  · unfold decodedRow
    simp only [List.length_map, st0]
    rw [hdset mi (by omega)]
    simp [rows, hmget]

theorem pos_retrieve (n : Nat) (encs : List Enc) (hwf : EncsWf n encs) (hn : n < 32768)
    (ei mi : Nat) (e' : Enc) (m : Member) (he : (chunked encs)[ei]? = some e')
    (hm : e'.2[mi]? = some m) :
    retrieve (encodeAll n encs) n ei mi = some (dense m.1 n) := by
  obtain ⟨hlen, hshape, hcov, hused, st, hsub, hic, hri, _, hdec⟩ :=
    built_subtable n encs hwf hn ei mi e' m he hm
  unfold retrieve
  rw [hsub]
  simp only [hic, if_true]
  rw [hri, unmap_regions _ _ hused, hdec, scatter_eq _ _ n hshape hlen hcov]

theorem chunk_member {encs : List Enc} {ei mi : Nat} {e' : Enc} {m : Member}
    (he : (chunked encs)[ei]? = some e') (hm : e'.2[mi]? = some m) :
    (∃ e ∈ encs, m ∈ e.2) ∧ ei < (chunked encs).length ∧ mi < 65536 := by
  obtain ⟨e, hin, _, hc⟩ := mem_chunked (List.mem_of_getElem? he)
  have := chunked_len (List.mem_of_getElem? he)
  have := (List.getElem?_eq_some_iff.mp hm).1
  exact ⟨⟨e, hin, chunks_subset _ _ _ hc m (List.mem_of_getElem? hm)⟩,
    (List.getElem?_eq_some_iff.mp he).1, by omega⟩

/-- with at most 65536 chunks no `as u16` truncation takes place: the remapping lists the members by position. -/
theorem mem_remap (n : Nat) (encs : List Enc) (hsub : (chunked encs).length ≤ 65536) {id o i : Nat} :
    (id, o, i) ∈ (encodeAll n encs).remap ↔
      ∃ e' m, (chunked encs)[o]? = some e' ∧ e'.2[i]? = some m ∧ m.2 = id := by
  rw [encodeAll_remap]
  constructor
  · intro h
    obtain ⟨p, hp, hx⟩ := List.mem_flatMap.mp h
    obtain ⟨q, hq, hxq⟩ := List.mem_map.mp hx
    have hp' := List.mem_zipIdx_iff_getElem?.mp hp
    have hq' := List.mem_zipIdx_iff_getElem?.mp hq
    have b := chunk_member hp' hq'
    simp only [Prod.mk.injEq, Nat.mod_eq_of_lt (by omega : p.2 < 65536), Nat.mod_eq_of_lt b.2.2] at hxq
    obtain ⟨hid, rfl, rfl⟩ := hxq
    exact ⟨p.1, q.1, hp', hq', hid⟩
  · rintro ⟨e', m, he, hm, rfl⟩
    have b := chunk_member he hm
    refine List.mem_flatMap.mpr ⟨(e', o), List.mem_zipIdx_iff_getElem?.mpr he, ?_⟩
    refine List.mem_map.mpr ⟨(m, i), List.mem_zipIdx_iff_getElem?.mpr hm, ?_⟩
    simp only [Nat.mod_eq_of_lt (by omega : o < 65536), Nat.mod_eq_of_lt b.2.2]

theorem pos_of_member (encs : List Enc) (e : Enc) (he : e ∈ encs) (m : Member) (hm : m ∈ e.2) :
    ∃ (ei mi : Nat) (e' : Enc), (chunked encs)[ei]? = some e' ∧ e'.2[mi]? = some m := by
  have : m ∈ (chunks 65535 e.2).flatten := by rw [chunks_flatten]; exact hm
  obtain ⟨c, hc, hmc⟩ := List.mem_flatten.mp this
  have hin : (e.1, c) ∈ chunked encs := by
    unfold chunked
    exact List.mem_flatMap.mpr ⟨e, he, List.mem_map.mpr ⟨c, hc, rfl⟩⟩
  obtain ⟨ei, hei⟩ := List.mem_iff_getElem?.mp hin
  obtain ⟨mi, hmi⟩ := List.mem_iff_getElem?.mp hmc
  exact ⟨ei, mi, (e.1, c), hei, hmi⟩

theorem subtables_length (n : Nat) (encs : List Enc) :
    (encodeAll n encs).subtables.length = (chunked encs).length := by
  rw [encodeAll_subtables]; simp [remapRegions, rawSubs]

theorem chunked_length_small (encs : List Enc) (h : ∀ e ∈ encs, e.2.length ≤ 65535) :
    (chunked encs).length = encs.length := by
  unfold chunked
  induction encs with
  | nil => rfl
  | cons e encs ih =>
    simp only [List.flatMap_cons, List.length_append, List.length_cons]
    rw [chunks_small _ _ (h e (by simp)), ih (fun x hx => h x (by simp [hx]))]
    simp; omega

theorem joinEnc_wf (n : Nat) (sets : List (List (Nat × Int))) (members : List Member)
    (hm : ∀ m ∈ members, m.1 ∈ sets ∧ ∀ rd ∈ m.1, inI32 rd.2) :
    EncsWf n [(joinShape n sets, members)] := by
  intro e he
  cases List.mem_singleton.mp he
  have hj := joinShape_spec n sets
  exact ⟨hj.1, hj.2.1, fun m h => ⟨hj.2.2 m.1 (hm m h).1, dense_rowI32 _ n (hm m h).2⟩⟩

/-- the encoding of one group: members normalised and sorted, shape = join of the members' shapes. -/
def groupEnc (n : Nat) (g : List Member) : Enc :=
  (joinShape n ((g.map fun m => (normalizeDeltaSet m.1, m.2)).map (·.1)),
    (g.map fun m => (normalizeDeltaSet m.1, m.2)).mergeSort rowLe)

/-- the encodings `buildOptimized` hands to `encodeAll`, in `ord_matching_fonttools` order. -/
def optEncs (n : Nat) (groups : List (List Member)) : List Enc :=
  (groups.map (groupEnc n)).mergeSort fun a b => shapeLe a.1 b.1

theorem buildOptimized_eq (n : Nat) (groups : List (List Member)) :
    buildOptimized n groups = encodeAll n (optEncs n groups) := by
  unfold buildOptimized optEncs; simp only []; rw [List.map_map]; rfl

theorem mem_optEncs {n : Nat} {groups : List (List Member)} {e : Enc} :
    e ∈ optEncs n groups ↔ ∃ g ∈ groups, groupEnc n g = e := by
  unfold optEncs; rw [List.mem_mergeSort, List.mem_map]

theorem mem_groupEnc {n : Nat} {g : List Member} {m : Member} :
    m ∈ (groupEnc n g).2 ↔ ∃ m0 ∈ g, (normalizeDeltaSet m0.1, m0.2) = m := by
  unfold groupEnc; rw [List.mem_mergeSort, List.mem_map]

theorem optEncs_wf (n : Nat) (groups : List (List Member))
    (hd : ∀ g ∈ groups, ∀ m ∈ g, ∀ rd ∈ m.1, inI32 rd.2) : EncsWf n (optEncs n groups) := by
  intro e he
  obtain ⟨g, hg, rfl⟩ := mem_optEncs.mp he
  refine joinEnc_wf n _ _ (fun m hm => ?_) _ List.mem_cons_self
  obtain ⟨m0, hm0, rfl⟩ := (mem_groupEnc (n := n)).mp hm
  exact ⟨List.mem_map.mpr ⟨_, List.mem_map.mpr ⟨m0, hm0, rfl⟩, rfl⟩,
    fun rd hrd => hd g hg m0 hm0 rd (normalize_mem hrd)⟩

/-! ### `build_unoptimized` (implicit indices) as a one-encoding `encodeAll` -/

theorem retrieve_congr {b b' : Built} (h1 : b.subtables = b'.subtables)
    (h2 : b.usedRegions = b'.usedRegions) (n o i : Nat) : retrieve b n o i = retrieve b' n o i := by
  unfold retrieve; rw [h1, h2]

theorem buildDirect_fields (n : Nat) (sets : List (List (Nat × Int))) (h : sets.length ≤ 65535) :
    let sets' := sets.map normalizeDeltaSet
    (buildDirect n sets).subtables = (encodeAll n [(joinShape n sets', sets'.zipIdx)]).subtables ∧
    (buildDirect n sets).usedRegions = (encodeAll n [(joinShape n sets', sets'.zipIdx)]).usedRegions := by
  intro sets'
  have hraw : rawSubs n [(joinShape n sets', sets'.zipIdx)] =
      [encodeSub (joinShape n sets') (sets'.map fun ds => dense ds n)] := by
    unfold rawSubs chunked
    simp only [List.flatMap_cons, List.flatMap_nil, List.append_nil]
    rw [chunks_small _ _ (by simp [sets']; exact h)]
    simp only [List.map_cons, List.map_nil]
    congr 2
    have : (sets'.zipIdx.map fun m => dense m.1 n) = (sets'.zipIdx.map Prod.fst).map (fun ds => dense ds n) := by
      rw [List.map_map]; rfl
    rw [this, List.zipIdx_map_fst]
  rw [encodeAll_subtables, encodeAll_used, hraw]
  exact ⟨rfl, rfl⟩

/-! ### `add_deltas`: de-duplication and normalisation -/

/-- invariant of the de-duplicating storage: the id of an entry is its position, keys are unique. -/
def StoreInv (entries : List Member) : Prop :=
  (∀ (k : Nat) (e : Member), entries[k]? = some e → e.2 = k) ∧ (entries.map (·.1)).Nodup

theorem dedupAdd_spec (entries : List Member) (ds : List (Nat × Int)) (hinv : StoreInv entries)
    (hlen : entries.length < 4294967296) :
    StoreInv (dedupAdd entries ds).1 ∧
    (∃ suffix, (dedupAdd entries ds).1 = entries ++ suffix ∧ ∀ e ∈ suffix, e.1 = ds) ∧
    (dedupAdd entries ds).1[(dedupAdd entries ds).2]? = some (ds, (dedupAdd entries ds).2) ∧
    (dedupAdd entries ds).1.length ≤ entries.length + 1 := by
  unfold dedupAdd
  cases hf : entries.find? (fun e => e.1 == ds) with
  | some e =>
    simp only []
    have hmem := List.mem_of_find?_eq_some hf
    have heq : e.1 = ds := by have := List.find?_some hf; simpa using this
    obtain ⟨k, hk⟩ := List.mem_iff_getElem?.mp hmem
    have hk2 := hinv.1 k e hk
    refine ⟨hinv, ⟨[], by simp, by simp⟩, ?_, by omega⟩
    rw [hk2, hk, ← heq, ← hk2]
  | none =>
    simp only []
    have hnone := List.find?_eq_none.mp hf
    rw [Nat.mod_eq_of_lt hlen]
    refine ⟨⟨?_, ?_⟩, ⟨_, rfl, by simp⟩, ?_, by simp⟩
    · intro k e hk
      rcases Nat.lt_or_ge k entries.length with h | h
      · rw [List.getElem?_append_left h] at hk; exact hinv.1 k e hk
      · rw [List.getElem?_append_right h] at hk
        cases hd : k - entries.length with
        | zero => rw [hd] at hk; simp at hk; rw [← hk]; simp; omega
        | succ j => rw [hd] at hk; simp at hk
    · rw [List.map_append]
      refine nodup_concat hinv.2 fun ha => ?_
      obtain ⟨x, hx, h⟩ := List.mem_map.mp ha
      exact hnone x hx (by simp [h])
    · rw [List.getElem?_append_right (Nat.le_refl _)]; simp

theorem addAllDedup_spec : ∀ (sets : List (List (Nat × Int))) (entries : List Member),
    StoreInv entries → entries.length + sets.length ≤ 4294967296 →
    StoreInv (addAllDedup entries sets).1 ∧
    (∃ suffix, (addAllDedup entries sets).1 = entries ++ suffix ∧
      ∀ e ∈ suffix, ∃ ds ∈ sets, e.1 = normalizeDeltaSet ds) ∧
    ∀ (i : Nat) (ds : List (Nat × Int)) (id : Nat), sets[i]? = some ds →
      (addAllDedup entries sets).2[i]? = some id →
      (addAllDedup entries sets).1[id]? = some (normalizeDeltaSet ds, id) := by
  intro sets
  induction sets with
  | nil => intro entries hinv _; simp [addAllDedup, hinv]
  | cons ds rest ih =>
    intro entries hinv hlen
    have h1 := dedupAdd_spec entries (normalizeDeltaSet ds) hinv (by simp at hlen; omega)
    have h2 := ih (dedupAdd entries (normalizeDeltaSet ds)).1 h1.1 (by
      have := h1.2.2.2; simp at hlen; omega)
    simp only [addAllDedup]
    obtain ⟨suf1, hs1, hk1⟩ := h1.2.1
    obtain ⟨suf2, hs2, hk2⟩ := h2.2.1
    refine ⟨h2.1, ⟨suf1 ++ suf2, by rw [hs2, hs1, List.append_assoc], fun e he => ?_⟩, ?_⟩
    · rcases List.mem_append.mp he with h | h
      · exact ⟨ds, by simp, hk1 e h⟩
      · obtain ⟨d, hd, hk⟩ := hk2 e h
        exact ⟨d, by simp [hd], hk⟩
    intro i d id hi hid
    cases i with
    | zero =>
      simp at hi hid; subst hi; subst hid
      rw [hs2]
      have hlt : (dedupAdd entries (normalizeDeltaSet ds)).2 <
          (dedupAdd entries (normalizeDeltaSet ds)).1.length :=
        (List.getElem?_eq_some_iff.mp h1.2.2.1).1
      rw [List.getElem?_append_left hlt]
      exact h1.2.2.1
    | succ j =>
      simp at hi hid
      exact h2.2.2 j d id hi hid

theorem storeInv_nil : StoreInv [] := by
  refine ⟨?_, by simp⟩
  intro k e h; simp at h

theorem storage_partition (sets : List (List (Nat × Int))) (groups : List (List Member))
    (hperm : groups.flatten.Perm (addAllDedup [] sets).1)
    (hd : ∀ ds ∈ sets, ∀ rd ∈ ds, inI32 rd.2) (hcount : sets.length ≤ 4294967296)
    (k : Nat) (ds : List (Nat × Int)) (id : Nat) (hk : sets[k]? = some ds)
    (hid : (addAllDedup [] sets).2[k]? = some id) :
    (∀ g ∈ groups, ∀ m ∈ g, ∀ rd ∈ m.1, inI32 rd.2) ∧
    (∃ g ∈ groups, (normalizeDeltaSet ds, id) ∈ g) ∧
    (∀ g ∈ groups, ∀ m ∈ g, m.2 = id → m = (normalizeDeltaSet ds, id)) := by
  have hs := addAllDedup_spec sets [] storeInv_nil (by simpa using hcount)
  have hent := hs.2.2 k ds id hk hid
  have hmemE : ∀ g ∈ groups, ∀ m ∈ g, m ∈ (addAllDedup [] sets).1 :=
    fun g hg m hm => hperm.mem_iff.mp (List.mem_flatten.mpr ⟨g, hg, hm⟩)
  obtain ⟨suf, hsuf, hkeys⟩ := hs.2.1
  refine ⟨fun g hg m hm rd hrd => ?_, ?_, fun g hg m hm hmid => ?_⟩
  · obtain ⟨d, hdm, hkey⟩ := hkeys m (by rw [← List.nil_append suf, ← hsuf]; exact hmemE g hg m hm)
    rw [hkey] at hrd; exact hd d hdm rd (normalize_mem hrd)
  · obtain ⟨g, hg, hmg⟩ := List.mem_flatten.mp (hperm.mem_iff.mpr (List.mem_of_getElem? hent))
    exact ⟨g, hg, hmg⟩
  · -- the id of an entry is its position
    obtain ⟨k', hk'⟩ := List.mem_iff_getElem?.mp (hmemE g hg m hm)
    have := hs.1.1 k' m hk'
    rw [hmid] at this; subst this
    rw [hent] at hk'
    exact (Option.some.inj hk').symm

theorem be2n_length (v : Nat) : (be2n v).length = 2 := rfl
theorem be4n_length (v : Nat) : (be4n v).length = 4 := rfl
theorem be2_length (x : Int) : (be2 x).length = 2 := rfl

end FontVerif.Ivs

namespace FontVerif.C11

/-- `xs` is what the bytes hold from offset `off` on. -/
def At (bs : List Nat) (off : Nat) (xs : List Nat) : Prop := xs <+: bs.drop off

/-- the pieces of a concatenation sit one behind the other: with the field lengths as `simp` lemmas, this takes
a written table apart into its fields, each at the offset the reader uses. -/
theorem At.append_iff {bs : List Nat} {off : Nat} {xs ys : List Nat} :
    At bs off (xs ++ ys) ↔ At bs off xs ∧ At bs (off + xs.length) ys := by
  constructor
  · rintro ⟨t, ht⟩
    refine ⟨⟨ys ++ t, by rw [← ht]; simp⟩, ⟨t, ?_⟩⟩
    rw [← List.drop_drop, ← ht]
    simp
  · rintro ⟨⟨t, ht⟩, ⟨u, hu⟩⟩
    refine ⟨u, ?_⟩
    rw [← List.drop_drop, ← ht, List.drop_left] at hu
    rw [List.append_assoc, hu, ht]

end FontVerif.C11
