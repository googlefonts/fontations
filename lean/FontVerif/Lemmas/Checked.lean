/-
Lemmas for the checked-integer layer (Model/Checked.lean): when a trapping operation is `some` (the rules of the simp
set `chk`), ranges of wrapped and saturated values for any two's complement type, `1 << n`, and facts about single
kernels that their property theorems share (sign variables, the fields `Engine::super_round` installs).
-/
import FontVerif.Model.Checked
import FontVerif.Lemmas.Base
import FontVerif.Lemmas.Ite
import FontVerif.Lemmas.CheckedAttr
namespace FontVerif.Checked

/-! literal bounds, so that `omega` can discharge them as side conditions of `simp` -/
theorem chk_i16 {x : Int} (h : -32768 ≤ x ∧ x ≤ 32767) : i16.chk x = some x := if_pos h
theorem chk_i32 {x : Int} (h : -2147483648 ≤ x ∧ x ≤ 2147483647) : i32.chk x = some x := if_pos h
theorem chk_i64 {x : Int} (h : -9223372036854775808 ≤ x ∧ x ≤ 9223372036854775807) :
    i64.chk x = some x := if_pos h
theorem chk_u8 {x : Int} (h : 0 ≤ x ∧ x ≤ 255) : u8.chk x = some x := if_pos h
theorem chk_u16 {x : Int} (h : 0 ≤ x ∧ x ≤ 65535) : u16.chk x = some x := if_pos h
theorem chk_u32 {x : Int} (h : 0 ≤ x ∧ x ≤ 4294967295) : u32.chk x = some x := if_pos h
theorem chk_u64 {x : Int} (h : 0 ≤ x ∧ x ≤ 18446744073709551615) : u64.chk x = some x := if_pos h
theorem chk_usize {x : Int} (h : 0 ≤ x ∧ x ≤ 18446744073709551615) : usize.chk x = some x :=
  if_pos h

theorem chk_none_i32 {x : Int} (h : x < -2147483648 ∨ 2147483647 < x) : i32.chk x = none := by
  have : ¬ (i32.lo ≤ x ∧ x ≤ i32.hi) := by simp only [i32]; omega
  exact if_neg this

theorem chk_isSome_iff (t : IntTy) (x : Int) : (t.chk x).isSome ↔ t.inR x := by
  unfold IntTy.chk IntTy.inR; split <;> simp_all

/-- a two's complement type: `mod` values starting at `lo`, and `off` shifts `lo` to 0 -/
def IntTy.TwosC (t : IntTy) : Prop := 0 < t.mod ∧ t.hi = t.lo + t.mod - 1 ∧ t.off = -t.lo
instance (t : IntTy) : Decidable t.TwosC := by unfold IntTy.TwosC; infer_instance

theorem wrap_range {t : IntTy} (ht : t.TwosC) (x : Int) : t.lo ≤ t.wrap x ∧ t.wrap x ≤ t.hi := by
  obtain ⟨hm, hhi, hoff⟩ := ht
  have h1 := Int.emod_nonneg (x + t.off) (Int.ne_of_gt hm)
  have h2 := Int.emod_lt_of_pos (x + t.off) hm
  unfold IntTy.wrap; omega

theorem wrap_id {t : IntTy} (ht : t.TwosC) {x : Int} (h : t.lo ≤ x ∧ x ≤ t.hi) : t.wrap x = x := by
  obtain ⟨hm, hhi, hoff⟩ := ht
  unfold IntTy.wrap
  rw [Int.emod_eq_of_lt (by omega) (by omega)]; omega

theorem wrap_i32_range (x : Int) : -2147483648 ≤ i32.wrap x ∧ i32.wrap x ≤ 2147483647 :=
  wrap_range (by decide) x
theorem wrap_i16_range (x : Int) : -32768 ≤ i16.wrap x ∧ i16.wrap x ≤ 32767 :=
  wrap_range (by decide) x
theorem wrap_u32_range (x : Int) : 0 ≤ u32.wrap x ∧ u32.wrap x ≤ 4294967295 :=
  wrap_range (by decide) x
theorem wrap_u64_range (x : Int) : 0 ≤ u64.wrap x ∧ u64.wrap x ≤ 18446744073709551615 :=
  wrap_range (by decide) x
theorem wrap_u16_range (x : Int) : 0 ≤ u16.wrap x ∧ u16.wrap x ≤ 65535 :=
  wrap_range (by decide) x
theorem wrap_u8_range (x : Int) : 0 ≤ u8.wrap x ∧ u8.wrap x ≤ 255 :=
  wrap_range (by decide) x

theorem wrap_i32_id {x : Int} (h : -2147483648 ≤ x ∧ x ≤ 2147483647) : i32.wrap x = x :=
  wrap_id (by decide) h
theorem wrap_u64_id {x : Int} (h : 0 ≤ x ∧ x ≤ 18446744073709551615) : u64.wrap x = x :=
  wrap_id (by decide) h
theorem wrap_u32_id {x : Int} (h : 0 ≤ x ∧ x ≤ 4294967295) : u32.wrap x = x :=
  wrap_id (by decide) h
theorem wrap_i16_id {x : Int} (h : -32768 ≤ x ∧ x ≤ 32767) : i16.wrap x = x :=
  wrap_id (by decide) h

theorem sat_range {t : IntTy} (ht : t.lo ≤ t.hi) (x : Int) : t.lo ≤ t.sat x ∧ t.sat x ≤ t.hi := by
  unfold IntTy.sat
  by_cases h1 : x < t.lo
  · rw [if_pos h1]; omega
  · rw [if_neg h1]
    by_cases h2 : x > t.hi
    · rw [if_pos h2]; omega
    · rw [if_neg h2]; omega

theorem shr_some (t : IntTy) (a n : Int) (h : 0 ≤ n ∧ n < t.bits) :
    t.shr a n = some (a / 2 ^ n.toNat) := by unfold IntTy.shr; rw [if_pos h]
theorem shl_some (t : IntTy) (a n : Int) (h : 0 ≤ n ∧ n < t.bits) :
    t.shl a n = some (t.wrap (a * 2 ^ n.toNat)) := by unfold IntTy.shl; rw [if_pos h]

theorem shr_u64_1 (a : Int) : u64.shr a 1 = some (a / 2) := shr_some u64 a 1 (by decide)
theorem shl_u64_16 (a : Int) : u64.shl a 16 = some (u64.wrap (a * 65536)) :=
  shl_some u64 a 16 (by decide)
theorem shr_i64_16 (a : Int) : i64.shr a 16 = some (a / 65536) := shr_some i64 a 16 (by decide)
theorem shr_i64_14 (a : Int) : i64.shr a 14 = some (a / 16384) := shr_some i64 a 14 (by decide)
theorem shr_i64_63 (a : Int) : i64.shr a 63 = some (a / 9223372036854775808) :=
  shr_some i64 a 63 (by decide)
theorem shr_i32_8 (a : Int) : i32.shr a 8 = some (a / 256) := shr_some i32 a 8 (by decide)
theorem shl_i32_16 (a : Int) : i32.shl a 16 = some (i32.wrap (a * 65536)) :=
  shl_some i32 a 16 (by decide)

theorem two_pow_le {n k : Nat} (h : n ≤ k) : (2 : Int) ^ n ≤ 2 ^ k := by
  exact_mod_cast Nat.pow_le_pow_right (by decide : 0 < 2) h

/-- `1 << n` is `2^n` as long as that is a value of the type -/
theorem shl_one {t : IntTy} (ht : t.TwosC) (n : Int) (lo k : Nat) (h : (lo : Int) ≤ n ∧ n ≤ k)
    (hk : (k : Int) < t.bits) (hlo : t.lo ≤ 0) (hhi : 2 ^ k ≤ t.hi) :
    ∃ v, t.shl 1 n = some v ∧ 2 ^ lo ≤ v ∧ v ≤ 2 ^ k := by
  have h1 : (2 : Int) ^ lo ≤ 2 ^ n.toNat := two_pow_le (by omega)
  have h2 : (2 : Int) ^ n.toNat ≤ 2 ^ k := two_pow_le (by omega)
  have h0 : (0 : Int) < 2 ^ lo := Int.pow_pos (by omega)
  refine ⟨2 ^ n.toNat, ?_, h1, h2⟩
  rw [shl_some t 1 n (by omega), Int.one_mul, wrap_id ht (by omega)]

theorem div_i32_pos {n d : Int} (hn : -2147483648 ≤ n ∧ n ≤ 2147483647) (hd : 0 < d) :
    i32.div n d = some (Int.tdiv n d) := by
  have hb := tdiv_bounds (n := n) hd
  unfold IntTy.div; rw [if_neg (by omega)]; exact chk_i32 (by omega)

theorem div_u64_pos {n d : Int} (hn : 0 ≤ n ∧ n ≤ 18446744073709551615) (hd : 0 < d) :
    u64.div n d = some (n / d) := by
  have := ediv_range hn.1 hd
  unfold IntTy.div
  rw [if_neg (by omega), Int.tdiv_eq_ediv_of_nonneg hn.1]; exact chk_u64 (by omega)
theorem div_usize_pos {n d : Int} (hn : 0 ≤ n ∧ n ≤ 18446744073709551615) (hd : 0 < d) :
    usize.div n d = some (n / d) := div_u64_pos hn hd

/-! `split` on a kernel's `if` chain re-simplifies the whole chain at each level: one branch at a time. -/
theorem isSome_ite {α} {c : Prop} [Decidable c] {x y : Option α} (hx : c → x.isSome)
    (hy : ¬ c → y.isSome) : (if c then x else y).isSome :=
  ite_elim (P := fun o : Option α => o.isSome = true) hx hy

theorem isSome_bind {α β} {o : Option α} {f : α → Option β} (ho : o.isSome)
    (hf : ∀ v, o = some v → (f v).isSome) : (o >>= f).isSome := by
  obtain ⟨v, hv⟩ := Option.isSome_iff_exists.mp ho
  subst hv; exact hf v rfl

theorem pure_ite_ite {α : Type} {c d : Prop} [Decidable c] [Decidable d] (a b e : α) :
    (if c then pure a else if d then pure b else pure e : Option α) = some (if c then a else if d then b else e) := by
  split
  · rfl
  · split <;> rfl

/-! ### the simp set `chk`: one step of a kernel at a time

`simp (disch := omega) only [kernel, chk]` unfolds the trapping operators to `chk`, rewrites each `chk x` to `some x`
when omega proves `x` in range (likewise `/` by a positive divisor and the literal shifts) and runs the `do` block on. -/
attribute [chk] IntTy.add IntTy.sub IntTy.mul IntTy.neg
  chk_i16 chk_i32 chk_i64 chk_u8 chk_u16 chk_u32 chk_u64 chk_usize div_i32_pos div_u64_pos div_usize_pos
  shr_u64_1 shl_u64_16 shr_i64_16 shr_i64_14 shr_i64_63 shr_i32_8 shl_i32_16
  Option.bind_eq_bind Option.bind_some Option.pure_def Option.isSome_some

theorem negIf_sign (c : Bool) (s : Int) (h : s = 1 ∨ s = -1) :
    ∃ s', (s' = 1 ∨ s' = -1) ∧ negIf c s = some s' := by
  unfold negIf
  cases c
  · exact ⟨s, h, rfl⟩
  · refine ⟨-s, by omega, ?_⟩
    simp only [IntTy.neg, if_true]; apply chk_i32; omega

theorem sign_init (c : Prop) [Decidable c] : (if c then (-1 : Int) else 1) = 1 ∨ (if c then (-1 : Int) else 1) = -1 := by
  split <;> simp

theorem uabs_range {x : Int} {A : Int} (h : -A ≤ x ∧ x ≤ A) : 0 ≤ uabs x ∧ uabs x ≤ A := by
  unfold uabs; split <;> omega

theorem u64Mag_of_nonneg {x : Int} (h : 0 ≤ x ∧ x ≤ 18446744073709551615) : u64Mag x = x := by
  unfold u64Mag; rw [if_neg (by omega)]; exact wrap_u64_id h

theorem sum_nonneg (l : List Int) (h : ∀ x ∈ l, 0 ≤ x) : 0 ≤ l.sum := by
  induction l with
  | nil => exact Int.le_refl 0
  | cons a r ih =>
    obtain ⟨h0, hr⟩ := List.forall_mem_cons.mp h
    have := ih hr
    simp only [List.sum_cons]; omega

theorem srPeriod_range (grid f76 : Int) (hg : 11585 ≤ grid ∧ grid ≤ 16384) :
    ∃ p, srPeriod grid f76 = some p ∧ 5792 ≤ p ∧ p ≤ 32768 := by
  have hq : Int.tdiv grid 2 = grid / 2 := Int.tdiv_eq_ediv_of_nonneg (by omega)
  unfold srPeriod
  split
  · exact ⟨_, div_i32_pos (by omega) (by omega), by omega, by omega⟩
  split
  · exact ⟨grid, rfl, by omega, by omega⟩
  split
  · exact ⟨grid * 2, chk_i32 (by omega), by omega, by omega⟩
  · exact ⟨grid, rfl, by omega, by omega⟩

theorem srPhase_range (p f54 : Int) (hp : 0 ≤ p ∧ p ≤ 32768) :
    ∃ ph, srPhase p f54 = some ph ∧ 0 ≤ ph ∧ ph ≤ 98304 := by
  unfold srPhase
  split
  · exact ⟨0, rfl, by omega, by omega⟩
  split
  · have := tdiv_range hp.1 (d := 4) (by omega)
    exact ⟨_, div_i32_pos (by omega) (by omega), by omega, by omega⟩
  split
  · have := tdiv_range hp.1 (d := 2) (by omega)
    exact ⟨_, div_i32_pos (by omega) (by omega), by omega, by omega⟩
  · have hm : i32.mul p 3 = some (p * 3) := chk_i32 (by omega)
    have := tdiv_range (n := p * 3) (d := 4) (by omega) (by omega)
    refine ⟨Int.tdiv (p * 3) 4, ?_, by omega, by omega⟩
    simp only [hm, Option.bind_eq_bind, Option.bind_some]; exact div_i32_pos (by omega) (by omega)

theorem srThreshold_range (p f30 : Int) (hp : 0 ≤ p ∧ p ≤ 32768) (h30 : 0 ≤ f30 ∧ f30 ≤ 15) :
    ∃ t, srThreshold p f30 = some t ∧ -360448 ≤ t ∧ t ≤ 360448 := by
  unfold srThreshold
  split
  · exact ⟨p - 1, chk_i32 (by omega), by omega, by omega⟩
  · have hk : i32.sub f30 4 = some (f30 - 4) := chk_i32 (by omega)
    have hm := mul_bound (a := f30 - 4) (b := p) (A := 11) (B := 32768) (by omega) (by omega)
    generalize hkp : (f30 - 4) * p = kp at hm
    have hmul : i32.mul (f30 - 4) p = some kp := hkp ▸ chk_i32 (by omega)
    have hb := tdiv_bounds (n := kp) (d := 8) (by omega)
    refine ⟨Int.tdiv kp 8, ?_, by omega, by omega⟩
    simp only [hk, hmul, Option.bind_eq_bind, Option.bind_some]; exact div_i32_pos (by omega) (by omega)

/-- the 32-bit entry id computation away from `u32::MAX`: the value of the i64 path -/
theorem f2NewEntryIndexU32_eq (last : Int) (delta : Option Int) (hl : 0 ≤ last ∧ last < 4294967295) :
    f2NewEntryIndexU32 last delta =
      some (if last + 1 + delta.getD 0 < 0 then .negative
            else if last + 1 + delta.getD 0 > 4294967295 then .tooBig else .ok (last + 1 + delta.getD 0)) := by
  unfold f2NewEntryIndexU32
  simp (disch := omega) only [bind, Option.bind, chk]
  exact pure_ite_ite ..

/-- one axis of `coordsLenStep`, whatever follows it (`k`): short and long exclude each other, so the two
products are 0 or `rep` and at most one of them is `rep`; then every step is linear -/
theorem axisLen_no_trap (p q : Bool) (rep len fl : Int) (hrep : 1 ≤ rep ∧ rep ≤ fl) (hfl : fl ≤ 65535)
    (hl : 0 ≤ len ∧ len + 2 * fl ≤ 131070) :
    ∃ l2, (0 ≤ l2 ∧ l2 + 2 * (fl - rep) ≤ 131070) ∧ ∀ {γ : Type} (k : Int → Option γ), (do
        let a ← u32.mul (if p then 1 else 0) rep
        let x1 ← u32.add len a
        let b0 ← u32.mul (if ¬ p ∧ ¬ q then 1 else 0) rep
        let b ← u32.mul b0 2
        let x2 ← u32.add x1 b
        k x2) = k l2 := by
  have bits : 0 ≤ (if p then (1 : Int) else 0) * rep ∧ 0 ≤ (if ¬ p ∧ ¬ q then (1 : Int) else 0) * rep ∧
      (if p then (1 : Int) else 0) * rep + (if ¬ p ∧ ¬ q then (1 : Int) else 0) * rep ≤ rep := by
    cases p <;> cases q <;> simp <;> omega
  obtain ⟨hA, hB, hAB⟩ := bits
  generalize hA' : (if p then (1 : Int) else 0) * rep = A at hA hAB
  generalize hB' : (if ¬ p ∧ ¬ q then (1 : Int) else 0) * rep = B at hB hAB
  refine ⟨len + A + B * 2, by omega, fun k => ?_⟩
  simp (disch := omega) only [hA', hB', chk, bind, Option.bind]

/-- `6 - delta_shift as i32` for a `u16` delta shift -/
theorem deltaShift_sub (shift : Int) (hs : 0 ≤ shift ∧ shift ≤ 65535) :
    i32.sub 6 (i32.cast shift) = some (6 - shift) := by
  rw [show i32.cast shift = shift from wrap_i32_id (by omega)]
  simp only [IntTy.sub]; exact chk_i32 (by omega)

theorem deltaFactor_none (shift : Int) (hs : 0 ≤ shift ∧ shift ≤ 65535) (h : ¬ shift ≤ 6) :
    i32.shl 1 (6 - shift) = none :=
  if_neg (by simp only [i32]; omega)

end FontVerif.Checked
