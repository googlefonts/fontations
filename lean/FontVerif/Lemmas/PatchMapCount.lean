/-
Lemmas for C19 (intersection sizes): canonical range lists (`Canon`), `RangeSet::insert` keeps a list
canonical and adds exactly the inserted members, `rInter` is THE canonical list of the set
intersection, `rCount` of a canonical list is the cardinality of its member set, canonical lists are
unique for a member set, the wrapping `Fixed` sum of `design_space_size`; the offered candidates traced
back to the format-2 entries whose sizes these are (`IsF2Offer`, `sizeInfo`).
-/
import FontVerif.Lemmas.PatchMap
namespace FontVerif.PatchMap

/-- sorted, non-degenerate, neither overlapping nor adjacent (what `IntSet::iter_ranges` /
`RangeSet::iter` yield) -/
def Canon (s : Ranges) : Prop :=
  (∀ r, r ∈ s → r.1 ≤ r.2) ∧ s.Pairwise (fun r q => r.2 + 1 < q.1)

theorem Canon.nil : Canon [] := ⟨fun _ h => (by cases h), List.Pairwise.nil⟩

theorem canon_cons {r : Int × Int} {s : Ranges} :
    Canon (r :: s) ↔ r.1 ≤ r.2 ∧ (∀ q, q ∈ s → r.2 + 1 < q.1) ∧ Canon s := by
  unfold Canon
  rw [List.pairwise_cons]
  constructor
  · rintro ⟨h1, h2, h3⟩
    exact ⟨h1 r (List.mem_cons_self ..), h2, fun q hq => h1 q (List.mem_cons_of_mem _ hq), h3⟩
  · rintro ⟨h1, h2, h3, h4⟩
    refine ⟨?_, h2, h4⟩
    intro q hq
    rcases List.mem_cons.1 hq with rfl | hq
    · exact h1
    · exact h3 q hq

theorem rMem_start {s : Ranges} (hc : Canon s) {q : Int × Int} (hq : q ∈ s) : rMem q.1 s = true :=
  (rMem_iff _ _).2 ⟨q, hq, Int.le_refl _, hc.1 q hq⟩

theorem rMem_head {r : Int × Int} {s : Ranges} (hc : Canon (r :: s)) : rMem r.1 (r :: s) = true :=
  rMem_start hc List.mem_cons_self

/-- the members of the tail are the members beyond the gap that follows the first range -/
theorem canon_tail_mem {r : Int × Int} {s : Ranges} (hc : Canon (r :: s)) (c : Int) :
    rMem c s = true ↔ rMem c (r :: s) = true ∧ r.2 + 1 < c := by
  obtain ⟨h1, h2, _⟩ := canon_cons.1 hc
  rw [rMem_cons]
  constructor
  · intro h
    obtain ⟨q, hq, hq1, _⟩ := (rMem_iff c s).1 h
    have := h2 q hq
    exact ⟨Or.inr h, by omega⟩
  · rintro ⟨h | h, hlt⟩
    · omega
    · exact h

theorem rsCanonical_iff : ∀ s : Ranges, rsCanonical s = true ↔ Canon s
  | [] => by simp [rsCanonical, Canon.nil]
  | [r] => by
    simp only [rsCanonical, decide_eq_true_eq, canon_cons]
    constructor
    · intro h; exact ⟨h, fun q hq => (by cases hq), Canon.nil⟩
    · intro h; exact h.1
  | r :: s :: rest => by
    have ih := rsCanonical_iff (s :: rest)
    simp only [rsCanonical, Bool.and_eq_true, decide_eq_true_eq]
    rw [ih, canon_cons (r := r)]
    constructor
    · rintro ⟨⟨h1, h2⟩, h3⟩
      refine ⟨h1, ?_, h3⟩
      intro q hq
      rcases List.mem_cons.1 hq with rfl | hq
      · exact h2
      · have hc := canon_cons.1 h3
        have := hc.2.1 q hq
        have := hc.1
        omega
    · rintro ⟨h1, h2, h3⟩
      exact ⟨⟨h1, h2 s (List.mem_cons_self ..)⟩, h3⟩

/-- `RangeSet::insert` adds exactly the members of the inserted range, whatever the list: in the third
branch `r` and `s` overlap or touch, so their hull has no other member -/
theorem rMem_rsInsert (c : Int) (s : Ranges) : ∀ r : Int × Int,
    rMem c (rsInsert r s) = true ↔ (r.1 ≤ c ∧ c ≤ r.2) ∨ rMem c s = true := by
  induction s with
  | nil => exact fun r => rMem_cons c r []
  | cons s rest ih =>
    intro r
    rw [rsInsert]
    by_cases h1 : r.2 + 1 < s.1
    · rw [if_pos h1]; exact rMem_cons c r _
    · rw [if_neg h1]
      by_cases h2 : s.2 + 1 < r.1
      · rw [if_pos h2, rMem_cons, ih r, rMem_cons, or_left_comm]
      · rw [if_neg h2, ih, rMem_cons, ← or_assoc]
        refine or_congr_left ?_
        simp only []
        omega

theorem canon_rsInsert : ∀ (s : Ranges) (r : Int × Int), r.1 ≤ r.2 → Canon s → Canon (rsInsert r s)
  | [], r, hr, _ => canon_cons.2 ⟨hr, fun q hq => (by cases hq), Canon.nil⟩
  | s :: rest, r, hr, hc => by
    obtain ⟨hs1, hs2, hs3⟩ := canon_cons.1 hc
    rw [rsInsert]
    by_cases h1 : r.2 + 1 < s.1
    · rw [if_pos h1]
      refine canon_cons.2 ⟨hr, fun q hq => ?_, hc⟩
      rcases List.mem_cons.1 hq with rfl | hq
      · exact h1
      · have := hs2 q hq; omega
    · rw [if_neg h1]
      by_cases h2 : s.2 + 1 < r.1
      · rw [if_pos h2]
        have ic := canon_rsInsert rest r hr hs3
        -- `s` goes back in front: a range of the result starts at a member, of `r` or of `rest`
        refine canon_cons.2 ⟨hs1, fun q hq => ?_, ic⟩
        rcases (rMem_rsInsert _ rest r).1 (rMem_start ic hq) with m | m
        · omega
        · exact ((canon_tail_mem hc _).1 m).2
      · rw [if_neg h2]
        exact canon_rsInsert rest _ (by simp only []; omega) hs3

theorem rsAdd_spec (s : Ranges) (r : Int × Int) (hc : Canon s) :
    Canon (rsAdd s r) ∧ ∀ c, rMem c (rsAdd s r) = true ↔ rMem c s = true ∨ (r.1 ≤ c ∧ c ≤ r.2) := by
  unfold rsAdd
  split
  · next h =>
    refine ⟨hc, fun c => ?_⟩
    constructor
    · exact Or.inl
    · rintro (h1 | h1)
      · exact h1
      · omega
  · next h =>
    exact ⟨canon_rsInsert s r (by omega) hc, fun c => by rw [rMem_rsInsert]; exact Or.comm⟩

theorem foldl_rsAdd_spec : ∀ (l : Ranges) (acc : Ranges), Canon acc →
    Canon (l.foldl rsAdd acc) ∧
      ∀ c, rMem c (l.foldl rsAdd acc) = true ↔ rMem c acc = true ∨ rMem c l = true
  | [], acc, hc => ⟨hc, fun c => by simp [rMem_nil]⟩
  | r :: rest, acc, hc => by
    obtain ⟨h1, h2⟩ := rsAdd_spec acc r hc
    obtain ⟨h3, h4⟩ := foldl_rsAdd_spec rest (rsAdd acc r) h1
    refine ⟨h3, fun c => ?_⟩
    rw [List.foldl_cons, h4 c, h2 c, rMem_cons, or_assoc]

theorem rsNorm_spec (l : Ranges) :
    Canon (rsNorm l) ∧ ∀ c, rMem c (rsNorm l) = true ↔ rMem c l = true := by
  obtain ⟨h1, h2⟩ := foldl_rsAdd_spec l [] Canon.nil
  exact ⟨h1, fun c => by rw [rsNorm, h2 c]; simp [rMem_nil]⟩

theorem rsUnion_spec (a b : Ranges) (ha : Canon a) :
    Canon (rsUnion a b) ∧ ∀ c, rMem c (rsUnion a b) = true ↔ rMem c a = true ∨ rMem c b = true :=
  foldl_rsAdd_spec b a ha

theorem rInterRaw_mem (a b : Ranges) (c : Int) :
    rMem c (rInterRaw a b) = true ↔ rMem c a = true ∧ rMem c b = true := by
  simp only [rMem_iff, rInterRaw, List.mem_flatMap, List.mem_filterMap]
  constructor
  · rintro ⟨x, ⟨r, hr, s, hs, hx⟩, h1, h2⟩
    split at hx
    · next ho =>
      cases hx
      simp only [] at h1 h2
      exact ⟨⟨r, hr, by omega, by omega⟩, ⟨s, hs, by omega, by omega⟩⟩
    · cases hx
  · rintro ⟨⟨r, hr, h1, h2⟩, ⟨s, hs, h3, h4⟩⟩
    refine ⟨(max r.1 s.1, min r.2 s.2), ⟨r, hr, s, hs, ?_⟩, by simp only []; omega, by simp only []; omega⟩
    have : rangesOverlap r s = true := (rangesOverlap_iff r s).2 ⟨c, ⟨h1, h2⟩, ⟨h3, h4⟩⟩
    simp [this]

theorem rInter_spec (a b : Ranges) :
    Canon (rInter a b) ∧ ∀ c, rMem c (rInter a b) = true ↔ rMem c a = true ∧ rMem c b = true := by
  obtain ⟨h1, h2⟩ := rsNorm_spec (rInterRaw a b)
  exact ⟨h1, fun c => by rw [rInter, h2 c, rInterRaw_mem]⟩

/-- `lo, lo + 1, …` (`n` values) -/
def enumFrom (lo : Int) : Nat → List Int
  | 0 => []
  | n + 1 => lo :: enumFrom (lo + 1) n

theorem enumFrom_length (lo : Int) (n : Nat) : (enumFrom lo n).length = n := by
  induction n generalizing lo with
  | zero => rfl
  | succ n ih => simp [enumFrom, ih]

theorem mem_enumFrom (c lo : Int) (n : Nat) : c ∈ enumFrom lo n ↔ lo ≤ c ∧ c < lo + n := by
  induction n generalizing lo with
  | zero => simp [enumFrom]
  | succ n ih =>
    simp only [enumFrom, List.mem_cons, ih]
    omega

theorem enumFrom_nodup (lo : Int) (n : Nat) : (enumFrom lo n).Nodup := by
  induction n generalizing lo with
  | zero => simp [enumFrom]
  | succ n ih =>
    simp only [enumFrom, List.nodup_cons]
    refine ⟨?_, ih _⟩
    rw [mem_enumFrom]; omega

/-- all members of a range list, range by range -/
def rEnum : Ranges → List Int
  | [] => []
  | r :: rest => enumFrom r.1 (r.2 - r.1 + 1).toNat ++ rEnum rest

theorem mem_rEnum (c : Int) : ∀ s : Ranges, c ∈ rEnum s ↔ rMem c s = true
  | [] => by simp [rEnum, rMem_nil]
  | r :: rest => by
    rw [rEnum, List.mem_append, mem_rEnum c rest, rMem_cons, mem_enumFrom]
    by_cases hm : rMem c rest = true <;> simp [hm] <;> omega

theorem rCount_shift (l : Ranges) (acc : Int) :
    l.foldl (fun acc r => acc + (r.2 - r.1 + 1)) acc
      = acc + l.foldl (fun acc r => acc + (r.2 - r.1 + 1)) 0 := by
  induction l generalizing acc with
  | nil => simp
  | cons r rest ih =>
    simp only [List.foldl_cons]
    rw [ih, ih (0 + _)]
    omega

theorem rCount_cons (r : Int × Int) (rest : Ranges) :
    rCount (r :: rest) = (r.2 - r.1 + 1) + rCount rest := by
  unfold rCount
  rw [List.foldl_cons, rCount_shift]
  omega

theorem rEnum_spec : ∀ s : Ranges, Canon s → (rEnum s).Nodup ∧ ((rEnum s).length : Int) = rCount s
  | [], _ => by simp [rEnum, rCount]
  | r :: rest, hc => by
    obtain ⟨h1, h2, h3⟩ := canon_cons.1 hc
    obtain ⟨ih1, ih2⟩ := rEnum_spec rest h3
    constructor
    · rw [rEnum, List.nodup_append]
      refine ⟨enumFrom_nodup _ _, ih1, ?_⟩
      intro a ha b hb hab
      subst hab
      rw [mem_enumFrom] at ha
      have := ((canon_tail_mem hc a).1 ((mem_rEnum a rest).1 hb)).2
      omega
    · rw [rEnum, List.length_append, enumFrom_length, rCount_cons]
      omega

theorem rCount_nonneg (s : Ranges) (hc : Canon s) : 0 ≤ rCount s := by
  rw [← (rEnum_spec s hc).2]; omega

theorem rCount_card (s : Ranges) (hc : Canon s) (l : List Int) (hn : l.Nodup)
    (hm : ∀ c, c ∈ l ↔ rMem c s = true) : (rCount s).toNat = l.length := by
  obtain ⟨h1, h2⟩ := rEnum_spec s hc
  have hp : l.Perm (rEnum s) :=
    (List.perm_ext_iff_of_nodup hn h1).2 (fun a => by rw [hm a, mem_rEnum])
  rw [hp.length_eq, ← h2]
  omega

/-- one half of `canon_unique`'s step: with the same members, the first range of one list neither
starts nor ends after that of the other -/
theorem canon_head_le {r q : Int × Int} {as bs : Ranges} (ha : Canon (r :: as))
    (hb : Canon (q :: bs)) (h : ∀ c, rMem c (r :: as) = true ↔ rMem c (q :: bs) = true) :
    r.1 ≤ q.1 ∧ r.2 ≤ q.2 := by
  have hq := (canon_cons.1 hb).1
  have h1 : r.1 ≤ q.1 := by
    rcases (rMem_cons _ _ _).1 ((h q.1).2 (rMem_head hb)) with m | m
    · exact m.1
    · have := (canon_cons.1 ha).1
      have := ((canon_tail_mem ha _).1 m).2
      omega
  refine ⟨h1, Int.not_lt.1 fun hlt => ?_⟩
  -- otherwise `q.2 + 1` lies in `r`, but neither in `q` nor, by the gap, in `bs`
  rcases (rMem_cons _ _ _).1 ((h (q.2 + 1)).1 ((rMem_cons _ _ _).2 (Or.inl ⟨by omega, by omega⟩)))
    with m | m
  · omega
  · have := ((canon_tail_mem hb _).1 m).2
    omega

theorem canon_unique : ∀ (a b : Ranges), Canon a → Canon b →
    (∀ c, rMem c a = true ↔ rMem c b = true) → a = b
  | [], [], _, _, _ => rfl
  | [], q :: bs, _, hb, h => by
    have := (h q.1).2 (rMem_head hb)
    simp [rMem_nil] at this
  | r :: as, [], ha, _, h => by
    have := (h r.1).1 (rMem_head ha)
    simp [rMem_nil] at this
  | r :: as, q :: bs, ha, hb, h => by
    have h1 := canon_head_le ha hb h
    have h2 := canon_head_le hb ha (fun c => (h c).symm)
    obtain rfl : r = q := Prod.ext (by omega) (by omega)
    rw [canon_unique as bs (canon_cons.1 ha).2.2 (canon_cons.1 hb).2.2
      (fun c => by rw [canon_tail_mem ha, canon_tail_mem hb, h c])]

theorem canon_isEmpty_iff (s : Ranges) (hc : Canon s) :
    s.isEmpty = true ↔ ∀ c, rMem c s = false := by
  cases s with
  | nil => simp [rMem_nil]
  | cons r rest =>
    simp only [List.isEmpty_cons, Bool.false_eq_true, false_iff]
    intro h
    exact absurd (rMem_head hc) (by rw [h r.1]; exact Bool.false_ne_true)

/-- total length `Σ (end - start)` of a range list (raw 16.16 units) -/
def spanSum : Ranges → Int
  | [] => 0
  | r :: rest => (r.2 - r.1) + spanSum rest

theorem wrapI32_add (a b : Int) : wrapI32 (wrapI32 a + wrapI32 b) = wrapI32 (a + b) := by
  rw [wrapI32_wrap_add, Int.add_comm, wrapI32_wrap_add, Int.add_comm]

theorem wrapI32_idem (a : Int) : wrapI32 (wrapI32 a) = wrapI32 a :=
  FontVerif.wrapI32_idem a

theorem spanFold_eq : ∀ (l : Ranges) (S : Int),
    l.foldl (fun acc r => wrapI32 (acc + wrapI32 (r.2 - r.1))) (wrapI32 S) = wrapI32 (S + spanSum l)
  | [], S => by simp [spanSum]
  | r :: rest, S => by
    rw [List.foldl_cons, wrapI32_add, spanFold_eq rest (S + (r.2 - r.1)), spanSum]
    congr 1; omega

theorem axisSize_eq (l : Ranges) :
    l.foldl (fun acc r => wrapI32 (acc + wrapI32 (r.2 - r.1))) 0 = wrapI32 (spanSum l) := by
  have := spanFold_eq l 0
  simpa [wrapI32] using this

theorem pairwise_lt_nodup {l : List Nat} (h : l.Pairwise (· < ·)) : l.Nodup := sorted_nodup h

theorem tagInter_card (a b : List Nat) (ha : a.Nodup) (l : List Nat) (hn : l.Nodup)
    (hm : ∀ t, t ∈ l ↔ t ∈ a ∧ t ∈ b) : (a.filter fun t => b.contains t).length = l.length := by
  have h1 : (a.filter fun t => b.contains t).Nodup := ha.sublist List.filter_sublist
  have hp : l.Perm (a.filter fun t => b.contains t) :=
    (List.perm_ext_iff_of_nodup hn h1).2 (fun t => by rw [hm t]; simp [List.mem_filter])
  exact hp.length_eq.symm

end FontVerif.PatchMap

/-! The candidates `intersecting_patches` hands to the selection, traced back to the format-2 entries they
come from (`IsF2Offer`), so that the `IntersectionInfo` order of the selection theorems becomes a statement
about the sizes of the real set intersections. -/

namespace FontVerif.PatchGroup
open FontVerif.PatchMap

/-- the intersection info the code records for entry `e` (at index `order`) and definition `d`:
`IntersectionInfo::from_subset(e.subset_definition.intersection(d), order)`.  Its three size fields
are the cardinalities / measure of the set intersections: `intersection_info_counts_exact`. -/
def sizeInfo (e : Entry) (d : SubsetDef) (order : Nat) : IntersectionInfo :=
  IntersectionInfo.fromSubset (e.sd.intersection d) order

/-- `u` is the uri that format-2 table `m` (read as table `tag`) offers for its entry `i` = `e` -/
def IsF2Offer (tag : TableTag) (m : MapTable) (d : SubsetDef) (u : PatchUri) (i : Nat) (e : Entry) :
    Prop :=
  ∃ t es, m = .f2 t ∧ decodeF2 tag t = .ok es ∧ es[i]? = some e ∧ i ∈ offeredIdx es d ∧
    u = offeredUri d i e

def notF1 : MapTable → Prop
  | .f1 _ => False
  | _ => True

theorem offeredUri_enc (d : SubsetDef) (i : Nat) (e : Entry) : (offeredUri d i e).enc = e.uri.enc := by
  unfold offeredUri; split <;> rfl

theorem isF2Offer_info {tag : TableTag} {m : MapTable} {d : SubsetDef} {u : PatchUri} {i : Nat}
    {e : Entry} (h : IsF2Offer tag m d u i e) (hinv : u.enc.isInvalidating = true) :
    u.info = sizeInfo e d i := by
  obtain ⟨t, es, _, _, _, _, rfl⟩ := h
  rw [offeredUri_enc] at hinv
  simp [offeredUri, hinv, sizeInfo]

theorem mem_intersectTable_f2 {tag : TableTag} {d : SubsetDef} {m : MapTable} {us : List PatchUri}
    (hm : notF1 m) (h : intersectTable tag d m = .ok us) (u : PatchUri) :
    u ∈ us ↔ ∃ i e, IsF2Offer tag m d u i e := by
  cases m with
  | none =>
    simp only [intersectTable] at h; cases h
    constructor
    · intro hu; cases hu
    · rintro ⟨_, _, t, _, hx, _⟩; cases hx
  | f1 t => exact absurd hm (by simp [notF1])
  | f2 t =>
    obtain ⟨es, hes, rfl⟩ := intersectF2_ok.1 h
    simp only [offeredF2, List.mem_map]
    constructor
    · rintro ⟨i, hi, rfl⟩
      have hlt := ((mem_offeredIdx es d i).1 hi).1
      refine ⟨i, es.getD i default, t, es, rfl, hes, ?_, hi, rfl⟩
      rw [List.getD_eq_getElem?_getD, List.getElem?_eq_getElem hlt]; rfl
    · rintro ⟨i, e, t', es', ht, hes', hi, hoff, rfl⟩
      cases ht
      cases hes.symm.trans hes'
      refine ⟨i, hoff, ?_⟩
      rw [List.getD_eq_getElem?_getD, hi]; rfl

end FontVerif.PatchGroup
