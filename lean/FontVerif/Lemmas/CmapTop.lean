/-
C08 end to end: `Cmap::from_mappings` inverted once (`fromMappings_ok_iff`, `fromMappings_conflict_iff`), the shape of
what it returns (`BuiltSpec`), `Cmap::map_codepoint` over the encoding records of that table, and skrifa's `Charmap`
(subtable selection, `map`, `mappings`) on it.
-/
import FontVerif.Model.Cmap
import FontVerif.Lemmas.Cmap
import FontVerif.Lemmas.Cmap4Top
import FontVerif.Lemmas.CmapNorm
namespace FontVerif.Cmap

theorem map4_above (t : Cmap4) (c : Nat) (hc : c > 0xFFFF) : map4 t c = none := by
  simp [map4, map4With, hc]

theorem cmapMap_cons (s : Subtable) (rest : List Subtable) (c : Nat) :
    cmapMap (s :: rest) c = (s.map c <|> cmapMap rest c) := by
  rw [cmapMap]; cases s.map c <;> rfl

theorem charmapMap_plain (s : Subtable) (c v : Nat) :
    charmapMap s false c = some v ↔ s.map c = some v ∧ v ≠ 0 := by
  unfold charmapMap charmapMapImpl
  cases s.map c with
  | none => simp
  | some g =>
    by_cases hg : g = 0
    · subst hg
      simp only [ne_eq, not_true_eq_false, ↓reduceIte, Bool.false_eq_true, false_and,
        Option.some.injEq, reduceCtorEq, false_iff, not_and]
      exact fun h h' => h' h.symm
    · simp only [ne_eq, hg, not_false_eq_true, ↓reduceIte, Option.some.injEq]
      exact ⟨fun h => ⟨h, h ▸ hg⟩, fun h => h.1⟩

def HasBmp (m : Mapping) : Prop := ∃ p ∈ m, p.1 ≤ 0xFFFF

def HasSupp (m : Mapping) : Prop := ∃ p ∈ m, p.1 > 0xFFFF

theorem any_supp_iff (m : Mapping) : (m.any fun p => decide (p.1 > 0xFFFF)) = true ↔ HasSupp m := by
  simp [HasSupp, List.any_eq_true]

theorem hasBmp_iff (m : Mapping) (hd : InDomain m) : HasBmp m ↔ bmpPrefix m ≠ [] := by
  unfold HasBmp
  constructor
  · rintro ⟨p, hp, hle⟩ h0
    have : p ∈ bmpPrefix m := (mem_bmpPrefix m hd.asc p).2 ⟨hp, hle⟩
    rw [h0] at this; cases this
  · intro h
    obtain ⟨p, hp⟩ := List.exists_mem_of_ne_nil _ h
    have := (mem_bmpPrefix m hd.asc p).1 hp
    exact ⟨p, this.1, this.2⟩

theorem not_hasBmp_iff (m : Mapping) : ¬ HasBmp m ↔ ∀ p ∈ m, p.1 > 0xFFFF :=
  ⟨fun h p hp => Nat.lt_of_not_le fun hle => h ⟨p, hp, hle⟩,
   fun h ⟨p, hp, hle⟩ => absurd (h p hp) (Nat.not_lt.2 hle)⟩

theorem le_bmp_of_not_hasSupp {m : Mapping} (h : ¬ HasSupp m) : ∀ p ∈ m, p.1 ≤ 0xFFFF :=
  fun p hp => Nat.le_of_not_lt fun hlt => h ⟨p, hp, hlt⟩

theorem eq_nil_of_not_hasSupp_hasBmp {m : Mapping} (hsu : ¬ HasSupp m) (hb : ¬ HasBmp m) : m = [] :=
  List.eq_nil_iff_forall_not_mem.mpr fun p hp => hb ⟨p, hp, le_bmp_of_not_hasSupp hsu p hp⟩

theorem fromMappings_ok_iff (raw : Mapping) (b : Built) :
    fromMappings raw = .ok b ↔ findConflict (normalize raw) = none ∧
      ∃ f4 f12, createFormat4 (normalize raw) = .ok f4 ∧ buildFormat12 (normalize raw) = some f12 ∧
        (∀ t, f4 = some t → t.lengthFits = true) ∧ { fmt4 := f4, fmt12 := f12.map List.toArray } = b := by
  unfold fromMappings
  simp only []
  cases findConflict (normalize raw) with
  | some r => simp
  | none =>
    cases createFormat4 (normalize raw) with
    | trap => simp
    | ok f4 =>
      cases buildFormat12 (normalize raw) with
      | none => simp
      | some f12 =>
        cases f4 with
        | none => simp
        | some t => by_cases ht : t.lengthFits = true <;> simp [ht]

theorem fromMappings_conflict_iff (raw : Mapping) (c g1 g2 : Nat) :
    fromMappings raw = .conflict c g1 g2 ↔ findConflict (normalize raw) = some (c, g1, g2) := by
  unfold fromMappings
  simp only []
  cases findConflict (normalize raw) with
  | some r => obtain ⟨c', a, b⟩ := r; simp
  | none =>
    cases createFormat4 (normalize raw) with
    | trap => simp
    | ok f4 =>
      cases buildFormat12 (normalize raw) with
      | none => simp
      | some f12 =>
        cases f4 with
        | none => simp
        | some t => by_cases ht : t.lengthFits = true <;> simp [ht]

theorem buildFormat12_spec (m : Mapping) (f12 : Option (List Group)) (h : buildFormat12 m = some f12) :
    (HasSupp m → ∃ gs, f12 = some gs ∧ createFormat12 m = some gs) ∧ (¬ HasSupp m → f12 = none) := by
  unfold buildFormat12 at h
  by_cases hs : HasSupp m
  · rw [if_pos ((any_supp_iff m).2 hs)] at h
    cases hc : createFormat12 m with
    | none => rw [hc] at h; cases h
    | some gs => rw [hc] at h; cases h; exact ⟨fun _ => ⟨gs, rfl, rfl⟩, fun h' => absurd hs h'⟩
  · rw [if_neg (fun h' => hs ((any_supp_iff m).1 h'))] at h
    cases h
    exact ⟨fun h' => absurd h' hs, fun _ => rfl⟩

/-- what `from_mappings` (followed by `dump_table`) returns for an input whose normal form is in
the domain and has at most 6551 BMP characters -/
structure BuiltSpec (m : Mapping) (b : Built) : Prop where
  f4some : HasBmp m → ∃ t, b.fmt4 = some t ∧ createFormat4 m = .ok (some t)
  f4none : ¬ HasBmp m → b.fmt4 = none
  f12some : HasSupp m → ∃ gs, b.fmt12 = some gs.toArray ∧ createFormat12 m = some gs
  f12none : ¬ HasSupp m → b.fmt12 = none

theorem builtSpec_of_parts (m : Mapping) (hd : InDomain m) (f4 : Option Cmap4) (f12 : Option (List Group))
    (h4 : createFormat4 m = .ok f4) (h12 : buildFormat12 m = some f12) :
    BuiltSpec m { fmt4 := f4, fmt12 := f12.map List.toArray } := by
  obtain ⟨s1, s2⟩ := buildFormat12_spec m f12 h12
  have hnone : f4 = none ↔ ¬ HasBmp m := by
    rw [not_hasBmp_iff, ← createFormat4_none_iff m hd, h4]
    exact ⟨fun h => by rw [h], fun h => by injection h⟩
  refine ⟨fun hb => ?_, fun hb => hnone.2 hb, fun hs => ?_, fun hs => by rw [s2 hs]; rfl⟩
  · cases f4 with
    | none => exact absurd hb (hnone.1 rfl)
    | some t => exact ⟨t, rfl, h4⟩
  · obtain ⟨gs, rfl, hgs⟩ := s1 hs
    exact ⟨gs, rfl, hgs⟩

theorem builtSpec_of_ok (raw : Mapping) (hd : InDomain (normalize raw)) (b : Built)
    (h : fromMappings raw = .ok b) : BuiltSpec (normalize raw) b := by
  obtain ⟨_, f4, f12, h4, h12, _, rfl⟩ := (fromMappings_ok_iff raw b).1 h
  exact builtSpec_of_parts _ hd f4 f12 h4 h12

theorem fromMappings_ok (raw : Mapping) (hd : InDomain (normalize raw))
    (hn : (bmpPrefix (normalize raw)).length ≤ 6551) :
    ∃ b, fromMappings raw = .ok b ∧ BuiltSpec (normalize raw) b := by
  have hconf : findConflict (normalize raw) = none :=
    (findConflict_none_iff _ (normalize_sorted raw)).2 hd.asc
  obtain ⟨f12, h12⟩ : ∃ f12, buildFormat12 (normalize raw) = some f12 := by
    unfold buildFormat12
    by_cases hs : HasSupp (normalize raw)
    · obtain ⟨p, hp, _⟩ := hs
      obtain ⟨gs, hgs⟩ := createFormat12_some (normalize raw) (List.ne_nil_of_mem hp)
      rw [hgs]; split <;> exact ⟨_, rfl⟩
    · rw [if_neg (fun h' => hs ((any_supp_iff _).1 h'))]; exact ⟨_, rfl⟩
  obtain ⟨f4, h4, hfit⟩ : ∃ f4, createFormat4 (normalize raw) = .ok f4 ∧
      ∀ t, f4 = some t → t.lengthFits = true := by
    by_cases hb : HasBmp (normalize raw)
    · obtain ⟨t, ht, hfit⟩ := createFormat4_ok _ hd ((hasBmp_iff _ hd).1 hb) hn
      exact ⟨some t, ht, fun t' h => by cases h; exact hfit⟩
    · exact ⟨none, (createFormat4_none_iff _ hd).2 ((not_hasBmp_iff _).1 hb), fun t h => by cases h⟩
  exact ⟨_, (fromMappings_ok_iff raw _).2 ⟨hconf, f4, f12, h4, h12, hfit, rfl⟩,
    builtSpec_of_parts _ hd f4 f12 h4 h12⟩

/-- the four records of the built table repeat two subtables: only the first two answers count -/
theorem cmapMap_subtables (b : Built) (c : Nat) :
    cmapMap b.subtables c = (b.fmt4.bind (map4 · c) <|> b.fmt12.bind (map12 · c)) := by
  unfold Built.subtables
  cases b.fmt4 <;> cases b.fmt12 <;>
    simp only [List.nil_append, List.cons_append, List.append_nil, cmapMap_cons, Subtable.map,
      cmapMap, Option.bind_none, Option.bind_some]
  · rfl
  · cases map12 _ c <;> rfl
  · cases map4 _ c <;> rfl
  · cases map4 _ c <;> cases map12 _ c <;> rfl

theorem cmapMap_built (m : Mapping) (hd : InDomain m) (b : Built) (hs : BuiltSpec m b)
    (c v : Nat) :
    cmapMap b.subtables c = some v ↔ (c, v) ∈ m ∨ (c = 0xFFFF ∧ v = 0 ∧ HasBmp m) := by
  have h4 : ∀ w, b.fmt4.bind (map4 · c) = some w ↔
      ((c, w) ∈ m ∧ c ≤ 0xFFFF) ∨ (c = 0xFFFF ∧ w = 0 ∧ HasBmp m) := by
    intro w
    by_cases hb : HasBmp m
    · obtain ⟨t, ht, hc4⟩ := hs.f4some hb
      rw [ht, Option.bind_some, encode4_lookup m hd (segments m) (segments_tile m) t hc4 c w]
      exact or_congr Iff.rfl ⟨fun h => ⟨h.1, h.2, hb⟩, fun h => ⟨h.1, h.2.1⟩⟩
    · rw [hs.f4none hb]
      exact ⟨fun h => (by cases h), fun h => h.elim (fun h => absurd ⟨(c, w), h.1, h.2⟩ hb)
        (fun h => absurd h.2.2 hb)⟩
  have h12 : b.fmt12.bind (map12 · c) = some v ↔ (c, v) ∈ m ∧ HasSupp m := by
    by_cases hsu : HasSupp m
    · obtain ⟨gs, hg, hc12⟩ := hs.f12some hsu
      rw [hg, Option.bind_some, createFormat12_lookup m hd gs hc12 c v]
      exact ⟨fun h => ⟨h, hsu⟩, fun h => h.1⟩
    · rw [hs.f12none hsu]
      exact ⟨fun h => (by cases h), fun h => absurd h.2 hsu⟩
  -- the first subtable that answers wins: format 12 is asked only where format 4 is silent
  rw [cmapMap_subtables, Option.orElse_eq_orElse, Option.orElse_eq_or, Option.or_eq_some_iff, h4 v, h12]
  constructor
  · rintro ((h | h) | h)
    · exact .inl h.1
    · exact .inr h
    · exact .inl h.2.1
  · rintro (hv | hv)
    · by_cases hle : c ≤ 0xFFFF
      · exact .inl (.inl ⟨hv, hle⟩)
      · refine .inr ⟨Option.eq_none_iff_forall_ne_some.2 fun w hw => hle ?_, hv, (c, v), hv, Nat.lt_of_not_le hle⟩
        exact ((h4 w).1 hw).elim (·.2) (fun h => Nat.le_of_eq h.1)
    · exact .inl (.inr hv)

theorem skCharmap_built (m : Mapping) (b : Built) (hs : BuiltSpec m b) :
    (HasSupp m → ∃ gs, b.skCharmap = some (.f12 gs.toArray, false) ∧ createFormat12 m = some gs) ∧
    (¬ HasSupp m → HasBmp m → ∃ t, b.skCharmap = some (.f4 t, false) ∧ createFormat4 m = .ok (some t)) ∧
    (¬ HasSupp m → ¬ HasBmp m → b.skCharmap = none) := by
  refine ⟨?_, ?_, ?_⟩
  · intro hsu
    obtain ⟨gs, hg, hc12⟩ := hs.f12some hsu
    refine ⟨gs, ?_, hc12⟩
    by_cases hb : HasBmp m
    · obtain ⟨t, ht, _⟩ := hs.f4some hb
      have hsel : select [(0, 3, .f4), (0, 4, .f12), (3, 1, .f4), (3, 10, .f12)] =
          { kind := 2, codepointIx := some 3, isSymbol := false, variantIx := none } := by decide
      simp [Built.skCharmap, Built.records, Built.subtables, ht, hg, hsel]
    · have ht := hs.f4none hb
      have hsel : select [(0, 4, .f12), (3, 10, .f12)] =
          { kind := 2, codepointIx := some 1, isSymbol := false, variantIx := none } := by decide
      simp [Built.skCharmap, Built.records, Built.subtables, ht, hg, hsel]
  · intro hsu hb
    have hg := hs.f12none hsu
    obtain ⟨t, ht, hc4⟩ := hs.f4some hb
    refine ⟨t, ?_, hc4⟩
    have hsel : select [(0, 3, .f4), (3, 1, .f4)] =
        { kind := 1, codepointIx := some 1, isSymbol := false, variantIx := none } := by decide
    simp [Built.skCharmap, Built.records, Built.subtables, ht, hg, hsel]
  · intro hsu hb
    have hg := hs.f12none hsu
    have ht := hs.f4none hb
    have hsel : select [] = {} := by decide
    simp [Built.skCharmap, Built.records, ht, hg, hsel]

theorem skMap_built (m : Mapping) (hd : InDomain m) (b : Built) (hs : BuiltSpec m b)
    (c v : Nat) : b.skMap c = some v ↔ (c, v) ∈ m := by
  obtain ⟨k1, k2, k3⟩ := skCharmap_built m b hs
  have hv0 : (c, v) ∈ m → v ≠ 0 := fun h => Nat.ne_of_gt (hd.gid _ h).1
  unfold Built.skMap
  by_cases hsu : HasSupp m
  · obtain ⟨gs, hsel, hc12⟩ := k1 hsu
    rw [hsel]
    show charmapMap _ false c = some v ↔ _
    rw [charmapMap_plain, Subtable.map, createFormat12_lookup m hd gs hc12 c v]
    exact ⟨fun h => h.1, fun h => ⟨h, hv0 h⟩⟩
  · have hall : (c, v) ∈ m → c ≤ 0xFFFF := le_bmp_of_not_hasSupp hsu (c, v)
    by_cases hb : HasBmp m
    · obtain ⟨t, hsel, hc4⟩ := k2 hsu hb
      rw [hsel]
      show charmapMap _ false c = some v ↔ _
      rw [charmapMap_plain, Subtable.map, encode4_lookup m hd (segments m) (segments_tile m) t hc4 c v]
      -- the 0xFFFF sentinel of format 4 answers glyph 0, which `Charmap::map` drops
      exact ⟨fun h => h.1.elim (fun h' => h'.1) (fun h' => absurd h'.2 h.2),
        fun h => ⟨.inl ⟨h, hall h⟩, hv0 h⟩⟩
    · rw [k3 hsu hb, eq_nil_of_not_hasSupp_hasBmp hsu hb]
      exact ⟨fun h => (nomatch h), fun h => (nomatch h)⟩

theorem skMappings_built (m : Mapping) (hd : InDomain m) (b : Built) (hs : BuiltSpec m b)
    (numGlyphs : Nat) (hng : ∀ p ∈ m, p.2 < numGlyphs) :
    b.skMappings (0x10FFFF, numGlyphs) = m := by
  obtain ⟨k1, k2, k3⟩ := skCharmap_built m b hs
  have hnz : m.filter (fun p => decide (p.2 ≠ 0)) = m := by
    rw [List.filter_eq_self]
    intro p hp
    have := (hd.gid p hp).1
    simp only [ne_eq, decide_not, Bool.not_eq_eq_eq_not, Bool.not_true, decide_eq_false_iff_not]
    omega
  unfold Built.skMappings
  by_cases hsu : HasSupp m
  · obtain ⟨gs, hsel, hc12⟩ := k1 hsu
    simp only [hsel, charmapMappings]
    rw [createFormat12_iter_limits m hd gs hc12 numGlyphs hng]
    exact hnz
  · by_cases hb : HasBmp m
    · obtain ⟨t, hsel, hc4⟩ := k2 hsu hb
      simp only [hsel, charmapMappings]
      rw [encode4_iter m hd (segments m) (segments_tile m) t hc4, bmpPrefix_eq_filter m hd.asc]
      have hfil : m.filter (fun p => decide (p.1 ≤ 0xFFFF)) = m := by
        rw [List.filter_eq_self]
        intro p hp
        simpa using le_bmp_of_not_hasSupp hsu p hp
      rw [hfil, List.filter_append, hnz]
      simp
    · rw [k3 hsu hb, eq_nil_of_not_hasSupp_hasBmp hsu hb]

end FontVerif.Cmap
