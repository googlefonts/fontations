/-
The contours of a glyph and the contour loop of skrifa's `interpolate_deltas` (Model/Iup.lean
`readerCalls`, `applyCall`): the calls are applied contour after contour (`glyphLoop`); one trip
(`contour_contribution_at`) changes only the contour's own points, so an induction over the contour
ends gives every contour its own specification.
-/
import FontVerif.Model.GvarApply
import FontVerif.Lemmas.GvarApply
namespace FontVerif.GvarApply
open FontVerif.Iup

/-- the contour end points are ascending and inside the glyph: contours are `p ..= e`, `e+1 ..= e'`, … -/
def ContoursWF (np : Nat) : Nat → List Nat → Prop
  | _, [] => True
  | p, e :: es => p ≤ e ∧ e < np ∧ ContoursWF np (e + 1) es

def ContoursAll (P : Nat → Nat → Prop) : Nat → List Nat → Prop
  | _, [] => True
  | p, e :: es => P p e ∧ ContoursAll P (e + 1) es

/-- first point after the last contour -/
def endOf : Nat → List Nat → Nat
  | p, [] => p
  | _, e :: es => endOf (e + 1) es

/-- the contours `(first, last)` described by the end points -/
def contoursOf : Nat → List Nat → List (Nat × Nat)
  | _, [] => []
  | p, e :: es => (p, e) :: contoursOf (e + 1) es

theorem endOf_ge (np : Nat) : ∀ (ends : List Nat) (p : Nat), ContoursWF np p ends → p ≤ endOf p ends := by
  intro ends
  induction ends with
  | nil => intro p _; exact Nat.le_refl _
  | cons e es ih => intro p ⟨h1, h2, h3⟩; have := ih (e + 1) h3; simp only [endOf]; omega

theorem ContoursAll_mono {P Q : Nat → Nat → Prop} : ∀ (ends : List Nat) (p : Nat),
    (∀ a b, P a b → Q a b) → ContoursAll P p ends → ContoursAll Q p ends := by
  intro ends
  induction ends with
  | nil => intro p _ _; trivial
  | cons e es ih => intro p h ⟨h1, h2⟩; exact ⟨h _ _ h1, ih _ h h2⟩

theorem ContoursAll_mem {P : Nat → Nat → Prop} : ∀ (ends : List Nat) (p : Nat), ContoursAll P p ends →
    ∀ c ∈ contoursOf p ends, P c.1 c.2 := by
  intro ends
  induction ends with
  | nil => intro p _ c hc; simp [contoursOf] at hc
  | cons e es ih =>
    intro p ⟨h1, h2⟩ c hc
    simp only [contoursOf, List.mem_cons] at hc
    rcases hc with rfl | hc
    · exact h1
    · exact ih _ h2 c hc

theorem ContoursWF_all (np : Nat) : ∀ (ends : List Nat) (p : Nat), ContoursWF np p ends →
    ContoursAll (fun a b => a ≤ b ∧ b < np) p ends := by
  intro ends
  induction ends with
  | nil => intro p _; trivial
  | cons e es ih => intro p ⟨h1, h2, h3⟩; exact ⟨⟨h1, h2⟩, ih _ h3⟩

theorem point_in_contour_or_tail (np : Nat) : ∀ (ends : List Nat) (p : Nat), ContoursWF np p ends →
    ∀ k, p ≤ k → (∃ c ∈ contoursOf p ends, c.1 ≤ k ∧ k ≤ c.2) ∨ endOf p ends ≤ k := by
  intro ends
  induction ends with
  | nil => intro p _ k hk; exact Or.inr hk
  | cons e es ih =>
    intro p ⟨h1, h2, h3⟩ k hk
    by_cases hke : k ≤ e
    · exact Or.inl ⟨(p, e), by simp [contoursOf], hk, hke⟩
    · rcases ih (e + 1) h3 k (by omega) with ⟨c, hc, hck⟩ | h
      · exact Or.inl ⟨c, by simp [contoursOf, hc], hck⟩
      · exact Or.inr h

/-- `interpolate_deltas` as a loop over the contours that applies each contour's calls at once -/
def glyphLoop (pts : List Iup.Pt) (has : List Bool) (np : Nat) : List Nat → Nat → List Iup.Pt → Option (List Iup.Pt)
  | [], _, out => some out
  | e :: ends, p, out =>
    match readerContourCalls has np p e with
    | none => none
    | some (calls, p') => glyphLoop pts has np ends p' (calls.foldl (applyCall pts) out)

theorem readerCalls_glyphLoop (pts : List Iup.Pt) (has : List Bool) (np : Nat) :
    ∀ (ends : List Nat) (p : Nat) (acc : List Call) (out : List Iup.Pt),
    (readerCalls has np ends p acc).map (fun cs => cs.foldl (applyCall pts) out)
      = glyphLoop pts has np ends p (acc.foldl (applyCall pts) out) := by
  intro ends
  induction ends with
  | nil => intro p acc out; simp [readerCalls, glyphLoop]
  | cons e es ih =>
    intro p acc out
    simp only [readerCalls, glyphLoop]
    cases h : readerContourCalls has np p e with
    | none => simp
    | some r =>
      obtain ⟨calls, p'⟩ := r
      simp only []
      rw [ih p' (acc ++ calls) out, List.foldl_append]

theorem readerInterpolate_eq_glyphLoop (pts : List Iup.Pt) (has : List Bool) (ends : List Nat)
    (out : List Iup.Pt) :
    readerInterpolate pts has ends out = glyphLoop pts has pts.length ends 0 out := by
  have := readerCalls_glyphLoop pts has pts.length ends 0 [] out
  simp only [List.foldl_nil] at this
  rw [← this]
  unfold readerInterpolate
  cases readerCalls has pts.length ends 0 [] <;> rfl

theorem glyphLoop_contribution (np : Nat) (points ex : List Iup.Pt) (has : List Bool)
    (hpl : points.length = np) (hhl : has.length = np) (hel : ex.length = np)
    (M E : Int) (hr : InRange points ex M E) (hex0 : ∀ k, has.getD k false = false → getP ex k = (0, 0)) :
    ∀ (ends : List Nat) (p : Nat) (out : List Iup.Pt), ContoursWF np p ends → out.length = np →
      (∀ k, p ≤ k → k < np → getP out k = getP (workOf points ex) k) →
      ∃ out', glyphLoop points has np ends p out = some out' ∧ out'.length = np ∧
        (∀ k, k < p → getP out' k = getP out k) ∧
        ContoursAll (ContourNear points ex has out') p ends ∧
        (∀ k, endOf p ends ≤ k → k < np → getP out' k = getP (workOf points ex) k) := by
  intro ends
  induction ends with
  | nil =>
    intro p out _ hl hw
    exact ⟨out, rfl, hl, fun _ _ => rfl, trivial, fun k h1 h2 => hw k h1 h2⟩
  | cons e es ih =>
    intro p out ⟨hpe, hen, hwf⟩ hl hw
    obtain ⟨calls, ec, l1, hlow, hnear, hhigh⟩ :=
      contour_contribution_at np points ex has hpl hhl hel M E hr hex0 p e hpe hen out hl hw
    obtain ⟨out', g1, g2, g3, g4, g5⟩ := ih (e + 1) _ hwf l1 (fun k hk => hhigh k (by omega))
    simp only [glyphLoop, ec]
    refine ⟨out', g1, g2, fun k hk => by rw [g3 k (by omega), hlow k hk], ⟨fun k hk1 hk2 => ?_, g4⟩, g5⟩
    rw [g3 k (by omega)]
    exact hnear k hk1 hk2

def shiftCall (d : Nat) (c : Call) : Call := ⟨c.lo + d, c.hi + d, c.r1 + d, c.r2 + d, c.shift⟩
@[simp] theorem shiftCall_lo (d : Nat) (c : Call) : (shiftCall d c).lo = c.lo + d := rfl
@[simp] theorem shiftCall_hi (d : Nat) (c : Call) : (shiftCall d c).hi = c.hi + d := rfl
@[simp] theorem shiftCall_r1 (d : Nat) (c : Call) : (shiftCall d c).r1 = c.r1 + d := rfl
@[simp] theorem shiftCall_r2 (d : Nat) (c : Call) : (shiftCall d c).r2 = c.r2 + d := rfl
@[simp] theorem shiftCall_shift (d : Nat) (c : Call) : (shiftCall d c).shift = c.shift := rfl

end FontVerif.GvarApply
