/-
C04 ⇄ C05 bridge: the reader's view of a value tree (vocabulary shared by the theorems and the driver).
`Tree`, `maskedBytes` are C05's (Lemmas/GraphSer.lean): the bytes of an object with its link fields blanked, and the
subtrees behind its links in link order.
-/
import FontVerif.Model.TableWriter
import FontVerif.Lemmas.GraphSer
namespace FontVerif.TableWriter
open FontVerif.Graph

/-- the subtrees behind the non-null offset slots of `fs` (in slot order) as the value says they are: the child's own
bytes (its offset slots blanked; null slots are ordinary zero bytes) and, recursively, its children.  `a` is the
`offset_adjustment` in force when `fs` starts. -/
def treeKids : Fields → Nat → List Tree
  | .nil, _ => []
  | .bytes _ rest, a => treeKids rest a
  | .null _ rest, a => treeKids rest a
  | .link _ _ child rest, a =>
    Tree.node (maskedBytes (skel child a) (flat child 0)) (treeKids child a) :: treeKids rest (adjAfter child a)
  | .adjust n body rest, _ => treeKids body n ++ treeKids rest 0
  | .pad2 rest, a => treeKids rest a

/-- the value tree as a reader is meant to see it -/
def Fields.tree (fs : Fields) (a : Nat) : Tree := Tree.node (maskedBytes (skel fs a) (flat fs 0)) (treeKids fs a)

def Table.tree (t : Table) : Tree := t.fields.tree 0

/-- **the nested reader**: read `out`, guided only by the SHAPE of the value tree (field lengths, where the offset
slots are, their widths and bases).  For the slot at byte `len` of a table that starts at `hd`: the stored offset is the
big-endian number in the `lenOf w` bytes at `hd + len`; the child table starts at `hd + adjustment + offset`; it is read
recursively.  A null slot is not followed (its bytes stay in the parent's byte string). -/
def readKids (out : List Nat) : Nat → Fields → Nat → Nat → List Tree
  | _, .nil, _, _ => []
  | hd, .bytes bs rest, len, a => readKids out hd rest (len + bs.length) a
  | hd, .null w rest, len, a => readKids out hd rest (len + w) a
  | hd, .link w _ child rest, len, a =>
    Tree.node
        (maskedBytes (skel child a)
          (out.drop (hd + adjAfter child a + beValue ((out.drop (hd + len % U32)).take (lenOf w)))))
        (readKids out (hd + adjAfter child a + beValue ((out.drop (hd + len % U32)).take (lenOf w))) child 0 a)
      :: readKids out hd rest (len + min w 4) (adjAfter child a)
  | hd, .adjust n body rest, len, _ =>
    readKids out hd body len n ++ readKids out hd rest (len + (flat body len).length) 0
  | hd, .pad2 rest, len, a => readKids out hd rest (len + (if len % 2 ≠ 0 then 1 else 0)) a

def readFields (out : List Nat) (hd : Nat) (fs : Fields) (a : Nat) : Tree :=
  Tree.node (maskedBytes (skel fs a) (out.drop hd)) (readKids out hd fs 0 a)

def readTable (out : List Nat) (hd : Nat) (t : Table) : Tree := readFields out hd t.fields 0

end FontVerif.TableWriter
