/-
Lemmas about the serializer model (`Model/SubsetColrSer.lean`): big-endian fields, byte readers,
`writeBE`, and the layout of packed objects.
-/
import FontVerif.Model.SubsetColrSer
import FontVerif.Lemmas.Base
namespace FontVerif.ColrSer
-- the outcome type of the COLR / CPAL subsetters is the one of the HVAR subsetter (`ok`, `dropped`, `fail`, `trap`)
open FontVerif.SubsetHvar (Err R)

theorem ite_throw_ok {α} {c : Prop} [Decidable c] {e : Err} {x : R α} {r : α}
    (h : (if c then throw e else x) = .ok r) : ¬ c ∧ x = .ok r := by
  by_cases hc : c
  · rw [if_pos hc] at h; cases h
  · rw [if_neg hc] at h; exact ⟨hc, h⟩

theorem popPack_spec (packed : List Obj) (o : Obj) :
    popPack packed o = (packed, none) ∨
    (∃ i, i < packed.length ∧ packed[i]? = some o ∧ popPack packed o = (packed, some i)) ∨
    popPack packed o = (packed ++ [o], some packed.length) := by
  unfold popPack
  by_cases he : o.bytes = []
  · left; simp [he]
  · have : o.bytes.isEmpty = false := by simpa using he
    rw [this]
    simp only [Bool.false_eq_true, if_false]
    cases hf : packed.findIdx? (· == o) with
    | none => right; right; rfl
    | some i =>
      right; left
      refine ⟨i, ?_, ?_, rfl⟩
      · exact (List.findIdx?_eq_some_iff_getElem.mp hf).1
      · obtain ⟨hi, hp, _⟩ := List.findIdx?_eq_some_iff_getElem.mp hf
        rw [List.getElem?_eq_getElem hi]
        have : packed[i] = o := by simpa using hp
        rw [this]

theorem drop_append_len {α} (a b : List α) (p : Nat) : List.drop (a.length + p) (a ++ b) = List.drop p b := by
  rw [List.drop_append, List.drop_eq_nil_of_le (by omega)]
  simp

theorem rdN_beBytes {w v : Nat} {rest : List Nat} (h : v < 256 ^ w) :
    rdN w (beBytes w v ++ rest) 0 = some v := by
  unfold rdN
  rw [if_pos (by simp [beBytes_length])]
  simp only [List.drop_zero]
  rw [List.take_left' (beBytes_length w v), beValue_beBytes w v h]

theorem slice_append_left {a b : List Nat} {p n : Nat} (h : p + n ≤ a.length) :
    slice (a ++ b) p n = slice a p n := by
  unfold slice
  have h2 : p + n ≤ (a ++ b).length := by simp; omega
  rw [if_pos h, if_pos h2]
  congr 1
  rw [List.drop_append_of_le_length (by omega), List.take_append_of_le_length (by simp; omega)]

theorem slice_append_right {a b : List Nat} {p n : Nat} :
    slice (a ++ b) (a.length + p) n = slice b p n := by
  unfold slice
  simp only [List.length_append]
  by_cases h : p + n ≤ b.length
  · rw [if_pos h, if_pos (by omega)]
    congr 1
    rw [drop_append_len]
  · rw [if_neg h, if_neg (by omega)]

theorem slice_append_right_of_length {a b : List Nat} {p n k : Nat} (hk : a.length = k) :
    slice (a ++ b) (k + p) n = slice b p n := by
  subst hk; exact slice_append_right

theorem rdN_eq_slice (w : Nat) (b : List Nat) (p : Nat) : rdN w b p = (slice b p w).map beValue := by
  unfold rdN slice
  split <;> rfl

theorem rdN_append_left {w : Nat} {a b : List Nat} {p : Nat} (h : p + w ≤ a.length) :
    rdN w (a ++ b) p = rdN w a p := by
  rw [rdN_eq_slice, rdN_eq_slice, slice_append_left h]

theorem rdN_append_right {w : Nat} {a b : List Nat} {p : Nat} :
    rdN w (a ++ b) (a.length + p) = rdN w b p := by
  rw [rdN_eq_slice, rdN_eq_slice, slice_append_right]

theorem rdN_append_right_of_length {w : Nat} {a b : List Nat} {p n : Nat} (hn : a.length = n) :
    rdN w (a ++ b) (n + p) = rdN w b p := by
  subst hn; exact rdN_append_right

theorem rdN_lt {w : Nat} {b : List Nat} {p v : Nat} (hb : ∀ x ∈ b, x < 256) (h : rdN w b p = some v) :
    v < 256 ^ w := by
  unfold rdN at h
  split at h
  · rename_i hp
    cases h
    have := beValue_lt ((b.drop p).take w) (fun x hx => hb x (List.mem_of_mem_drop (List.mem_of_mem_take hx)))
    have hl : ((b.drop p).take w).length = w := by simp; omega
    rwa [hl] at this
  · cases h

theorem slice_all (a : List Nat) : slice a 0 a.length = some a := by
  unfold slice; simp

theorem slice_prefix {a b : List Nat} : slice (a ++ b) 0 a.length = some a := by
  unfold slice; simp

theorem slice_length {a r : List Nat} {p n : Nat} (h : slice a p n = some r) : r.length = n := by
  unfold slice at h
  split at h
  · cases h; simp; omega
  · cases h

theorem slice_slice {a r : List Nat} {p n q m : Nat} (h : slice a p n = some r) (hq : q + m ≤ n) :
    slice r q m = slice a (p + q) m := by
  unfold slice at h
  split at h
  · rename_i hp
    cases h
    unfold slice
    rw [if_pos (by simp; omega), if_pos (by omega)]
    congr 1
    rw [List.drop_take, List.take_take, List.drop_drop]
    congr 1
    omega
  · cases h

theorem writeBE_length {b : List Nat} {pos w v : Nat} (h : pos + w ≤ b.length) :
    (writeBE b pos w v).length = b.length := by
  unfold writeBE
  simp [beBytes_length]
  omega

theorem writeBE_eq (b : List Nat) (pos w v : Nat) :
    writeBE b pos w v = b.take pos ++ (beBytes w v ++ b.drop (pos + w)) := by
  unfold writeBE; simp

theorem rdN_writeBE_same {b : List Nat} {pos w v : Nat} (h : pos + w ≤ b.length) (hv : v < 256 ^ w) :
    rdN w (writeBE b pos w v) pos = some v := by
  rw [writeBE_eq]
  have hl : (b.take pos).length = pos := by simp; omega
  have := @rdN_append_right_of_length w (b.take pos) (beBytes w v ++ b.drop (pos + w)) 0 pos hl
  simp only [Nat.add_zero] at this
  rw [this, rdN_beBytes hv]

theorem slice_writeBE_after {b : List Nat} {pos w v n p : Nat} (h : pos + w ≤ p) (hb : pos + w ≤ b.length) :
    slice (writeBE b pos w v) p n = slice b p n := by
  rw [writeBE_eq, ← List.append_assoc]
  have hl : (b.take pos ++ beBytes w v).length = pos + w := by simp [beBytes_length]; omega
  obtain ⟨q, rfl⟩ : ∃ q, p = (pos + w) + q := ⟨p - (pos + w), by omega⟩
  rw [slice_append_right_of_length hl]
  conv => rhs; rw [← List.take_append_drop (pos + w) b]
  have hl2 : (b.take (pos + w)).length = pos + w := by simp; omega
  rw [slice_append_right_of_length hl2]

theorem slice_writeBE_before {b : List Nat} {pos w v n p : Nat} (h : p + n ≤ pos) (hb : pos ≤ b.length) :
    slice (writeBE b pos w v) p n = slice b p n := by
  rw [writeBE_eq]
  have hl : (b.take pos).length = pos := by simp; omega
  rw [slice_append_left (by omega)]
  conv => rhs; rw [← List.take_append_drop pos b]
  rw [slice_append_left (by omega)]

theorem rdN_writeBE_before {b : List Nat} {pos w v w' p : Nat} (h : p + w' ≤ pos) (hb : pos ≤ b.length) :
    rdN w' (writeBE b pos w v) p = rdN w' b p := by
  rw [rdN_eq_slice, rdN_eq_slice, slice_writeBE_before h hb]

theorem rdN_writeBE_after {b : List Nat} {pos w v w' p : Nat} (h : pos + w ≤ p) (hb : pos + w ≤ b.length) :
    rdN w' (writeBE b pos w v) p = rdN w' b p := by
  rw [rdN_eq_slice, rdN_eq_slice, slice_writeBE_after h hb]

theorem patchObj_nolinks (packed : List Obj) (k : Nat) (o : Obj) (h : o.links = []) :
    patchObj packed k o = o.bytes := by
  unfold patchObj; rw [h]; rfl

theorem bodyUpTo_nolinks (packed : List Obj) (h : ∀ o ∈ packed, o.links = []) :
    ∀ n, n ≤ packed.length → bodyUpTo packed n = ((packed.take n).reverse.flatMap (·.bytes))
  | 0, _ => by simp [bodyUpTo]
  | n + 1, hn => by
    have hlt : n < packed.length := by omega
    rw [bodyUpTo, bodyUpTo_nolinks packed h n (by omega)]
    rw [getD_eq_getElem _ _ _ hlt, patchObj_nolinks _ _ _ (h _ (List.getElem_mem hlt))]
    have ht : List.take (n + 1) packed = List.take n packed ++ [packed[n]] := by
      rw [List.take_succ, List.getElem?_eq_getElem hlt]; rfl
    rw [ht]
    simp only [List.reverse_append, List.reverse_cons, List.reverse_nil, List.nil_append,
      List.flatMap_append, List.flatMap_cons, List.flatMap_nil, List.append_nil]

theorem bodyUpTo_length_nolinks (packed : List Obj) (h : ∀ o ∈ packed, o.links = []) (n : Nat)
    (hn : n ≤ packed.length) : (bodyUpTo packed n).length = ((packed.take n).map Obj.size).sum := by
  rw [bodyUpTo_nolinks packed h n hn]
  induction n with
  | zero => simp
  | succ n ih =>
    have hlt : n < packed.length := by omega
    rw [List.take_succ, List.getElem?_eq_getElem hlt]
    simp only [Option.toList_some, List.reverse_append, List.reverse_cons, List.reverse_nil,
      List.nil_append, List.flatMap_append, List.flatMap_cons, List.flatMap_nil, List.append_nil,
      List.length_append, List.map_append, List.map_cons, List.map_nil, List.sum_append,
      List.sum_cons, List.sum_nil, Nat.add_zero]
    have := ih (by omega)
    rw [Nat.add_comm, this]
    rfl

theorem foldl_writeBE_before (val : Link → Nat) (q : Nat) :
    ∀ (ls : List Link) (b : List Nat), (∀ l ∈ ls, q ≤ l.pos ∧ l.pos + l.width ≤ b.length) →
      (ls.foldl (fun b l => writeBE b l.pos l.width (val l)) b).length = b.length ∧
      ∀ w p, p + w ≤ q →
        rdN w (ls.foldl (fun b l => writeBE b l.pos l.width (val l)) b) p = rdN w b p
  | [], b, _ => by simp
  | l :: ls, b, h => by
    have hl := h l (by simp)
    have hlen : (writeBE b l.pos l.width (val l)).length = b.length := writeBE_length hl.2
    have ih := foldl_writeBE_before val q ls (writeBE b l.pos l.width (val l))
      (fun l' hl' => by rw [hlen]; exact h l' (by simp [hl']))
    simp only [List.foldl_cons]
    refine ⟨by rw [ih.1, hlen], ?_⟩
    intro w p hp
    rw [ih.2 w p hp]
    exact rdN_writeBE_before (by omega) (by omega)

/-- the link fields of an object do not overlap -/
def SortedLinks (ls : List Link) : Prop :=
  ls.Pairwise (fun a b => a.pos + a.width ≤ b.pos ∨ b.pos + b.width ≤ a.pos)

def LinksInside (ls : List Link) (n : Nat) : Prop := ∀ l ∈ ls, l.pos + l.width ≤ n

theorem foldl_writeBE_length (val : Link → Nat) (ls : List Link) (b : List Nat) (h : LinksInside ls b.length) :
    (ls.foldl (fun b l => writeBE b l.pos l.width (val l)) b).length = b.length :=
  (foldl_writeBE_before val 0 ls b (fun l hl => ⟨Nat.zero_le _, h l hl⟩)).1

theorem foldl_writeBE_other (val : Link → Nat) (w p : Nat) :
    ∀ (ls : List Link) (b : List Nat), LinksInside ls b.length →
      (∀ l ∈ ls, l.pos + l.width ≤ p ∨ p + w ≤ l.pos) →
      rdN w (ls.foldl (fun b l => writeBE b l.pos l.width (val l)) b) p = rdN w b p
  | [], b, _, _ => rfl
  | l :: ls, b, hin, hd => by
    have hl := hin l (by simp)
    have hlen : (writeBE b l.pos l.width (val l)).length = b.length := writeBE_length hl
    simp only [List.foldl_cons]
    rw [foldl_writeBE_other val w p ls _ (fun l' hl' => by rw [hlen]; exact hin l' (by simp [hl']))
      (fun l' hl' => hd l' (by simp [hl']))]
    rcases hd l (by simp) with h | h
    · exact rdN_writeBE_after h hl
    · exact rdN_writeBE_before h (by omega)

theorem foldl_writeBE_link (val : Link → Nat) :
    ∀ (ls : List Link) (b : List Nat), SortedLinks ls → LinksInside ls b.length →
      ∀ m ∈ ls, val m < 256 ^ m.width →
      rdN m.width (ls.foldl (fun b l => writeBE b l.pos l.width (val l)) b) m.pos = some (val m)
  | [], _, _, _, m, hm, _ => by simp at hm
  | l :: ls, b, hs, hin, m, hm, hv => by
    have hl := hin l (by simp)
    have hlen : (writeBE b l.pos l.width (val l)).length = b.length := writeBE_length hl
    have hin' : LinksInside ls (writeBE b l.pos l.width (val l)).length := by
      intro l' hl'; rw [hlen]; exact hin l' (by simp [hl'])
    simp only [List.foldl_cons]
    by_cases hml : m = l
    · subst hml
      rw [foldl_writeBE_other val m.width m.pos ls _ hin'
        (fun l' hl' => by
          rcases (List.pairwise_cons.mp hs).1 l' hl' with h | h
          · right; exact h
          · left; exact h)]
      exact rdN_writeBE_same hl hv
    · have hm' : m ∈ ls := by
        cases hm with
        | head => exact absurd rfl hml
        | tail _ h => exact h
      exact foldl_writeBE_link val ls _ (List.pairwise_cons.mp hs).2 hin' m hm' hv

def WF (packed : List Obj) : Prop :=
  ∀ k (h : k < packed.length), (∀ l ∈ packed[k].links, l.target < k) ∧
    LinksInside packed[k].links packed[k].bytes.length ∧ SortedLinks packed[k].links

theorem WF_of_leaves (pk : List Obj) (h : ∀ o ∈ pk, o.links = []) : WF pk := by
  intro k hk
  have := h pk[k] (List.getElem_mem hk)
  rw [this]
  exact ⟨by simp, by intro l hl; simp at hl, List.Pairwise.nil⟩

theorem patchObj_length (packed : List Obj) (k : Nat) (o : Obj) (h : LinksInside o.links o.bytes.length) :
    (patchObj packed k o).length = o.bytes.length :=
  foldl_writeBE_length _ _ _ h

theorem bodyUpTo_length (packed : List Obj) (wf : WF packed) :
    ∀ n, n ≤ packed.length → (bodyUpTo packed n).length = ((packed.take n).map Obj.size).sum
  | 0, _ => by simp [bodyUpTo]
  | n + 1, hn => by
    have hlt : n < packed.length := by omega
    rw [bodyUpTo, List.length_append, bodyUpTo_length packed wf n (by omega), getD_eq_getElem _ _ _ hlt,
      patchObj_length _ _ _ (wf n hlt).2.1]
    have ht : List.take (n + 1) packed = List.take n packed ++ [packed[n]] := by
      rw [List.take_succ, List.getElem?_eq_getElem hlt]; rfl
    rw [ht, List.map_append, List.sum_append]
    simp [Obj.size]
    omega

/-- the objects `k+1 … n-1` come first, then object `k`, then the earlier ones -/
theorem bodyUpTo_split (packed : List Obj) (k : Nat) :
    ∀ n, k < n → ∃ X, bodyUpTo packed n = X ++ bodyUpTo packed (k + 1) ∧
      (n ≤ packed.length → WF packed → X.length = (((packed.take n).drop (k + 1)).map Obj.size).sum)
  | 0, h => by omega
  | n + 1, h => by
    by_cases hk : k = n
    · subst hk
      exact ⟨[], by simp, fun _ _ => by simp⟩
    · obtain ⟨X, hX, hlen⟩ := bodyUpTo_split packed k n (by omega)
      refine ⟨patchObj packed n (packed.getD n ⟨[], []⟩) ++ X, by rw [bodyUpTo, hX, List.append_assoc], ?_⟩
      intro hn wf
      have hlt : n < packed.length := by omega
      rw [List.length_append, hlen (by omega) wf, getD_eq_getElem _ _ _ hlt,
        patchObj_length _ _ _ (wf n hlt).2.1]
      have ht : List.take (n + 1) packed = List.take n packed ++ [packed[n]] := by
        rw [List.take_succ, List.getElem?_eq_getElem hlt]; rfl
      rw [ht, List.drop_append_of_le_length (by simp; omega), List.map_append, List.sum_append]
      simp [Obj.size]
      omega

theorem rootOff_eq (rootLen : Nat) (packed : List Obj) (k : Nat) :
    rootOff rootLen packed k = rootLen + ((packed.drop (k + 1)).map Obj.size).sum := rfl

theorem relOff_add (rootLen : Nat) (packed : List Obj) (k t : Nat) (ht : t < k) (hk : k < packed.length) :
    rootOff rootLen packed k + relOff packed k t = rootOff rootLen packed t := by
  unfold rootOff relOff
  have : packed.drop (t + 1) = (packed.take (k + 1)).drop (t + 1) ++ packed.drop (k + 1) := by
    conv => lhs; rw [← List.take_append_drop (k + 1) packed]
    rw [List.drop_append_of_le_length (by simp; omega)]
  rw [this, List.map_append, List.sum_append]
  omega

theorem slice_in_object (packed : List Obj) (wf : WF packed) (rootBytes : List Nat) (k : Nat)
    (hk : k < packed.length) (n p : Nat) (hp : p + n ≤ packed[k].bytes.length) :
    slice (rootBytes ++ bodyUpTo packed packed.length) (rootOff rootBytes.length packed k + p) n =
      slice (patchObj packed k packed[k]) p n := by
  obtain ⟨X, hX, hlen⟩ := bodyUpTo_split packed k packed.length hk
  have hXl := hlen (Nat.le_refl _) wf
  rw [List.take_length] at hXl
  rw [hX, bodyUpTo, getD_eq_getElem _ _ _ hk, ← List.append_assoc, ← List.append_assoc]
  have hpre : (rootBytes ++ X).length = rootOff rootBytes.length packed k := by
    rw [List.length_append, hXl]; rfl
  rw [List.append_assoc (rootBytes ++ X), slice_append_right_of_length hpre]
  exact slice_append_left (by rw [patchObj_length _ _ _ (wf k hk).2.1]; exact hp)

theorem read_in_object (packed : List Obj) (wf : WF packed) (rootBytes : List Nat) (k : Nat)
    (hk : k < packed.length) (w p : Nat) (hp : p + w ≤ packed[k].bytes.length) :
    rdN w (rootBytes ++ bodyUpTo packed packed.length) (rootOff rootBytes.length packed k + p) =
      rdN w (patchObj packed k packed[k]) p := by
  rw [rdN_eq_slice, rdN_eq_slice, slice_in_object packed wf rootBytes k hk w p hp]

end FontVerif.ColrSer
