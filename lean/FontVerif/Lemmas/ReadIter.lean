/-
The fuel-driven iterator machine `ReadIter.run`: two principles, `run_complete_live` (termination from a decreasing
measure) and `run_induct_live` (induction along a finished run), and the statements the iterator theorems call, each
a few lines over them (trip and yield bounds from a potential, trap freedom and item properties from an invariant,
exact counts).
-/
import FontVerif.Model.ReadIter
namespace FontVerif.ReadIter

theorem run_mono {σ α : Type} (step : σ → Out α × σ) :
    ∀ (f : Nat) (s : σ) (evs : List (Out α)), run step f s = some evs →
      ∀ k, run step (f + k) s = some evs := by
  intro f
  induction f with
  | zero => intro s evs h; simp [run] at h
  | succ f ih =>
    intro s evs h k
    have e : f + 1 + k = (f + k) + 1 := by omega
    rw [e]
    unfold run at h ⊢
    split at h
    · simpa using h
    · simpa using h
    · rename_i s' hs
      cases hr : run step f s' with
      | none => simp [hr] at h
      | some r => rw [ih s' r hr k]; simpa [hr] using h
    · rename_i a s' hs
      cases hr : run step f s' with
      | none => simp [hr] at h
      | some r => rw [ih s' r hr k]; simpa [hr] using h

theorem runTake_eq {σ α : Type} (step : σ → Out α × σ) :
    ∀ (f k : Nat) (s : σ) (evs : List (Out α)), run step f s = some evs →
      runTake step f k s = some ((items evs).take k) := by
  intro f
  induction f with
  | zero => intro k s evs h; simp [run] at h
  | succ f ih =>
    intro k s evs h
    cases k with
    | zero => simp [runTake]
    | succ k =>
      unfold run at h
      unfold runTake
      split at h
      · rename_i s' hs
        simp at h; subst h; simp [items]
      · rename_i s' hs
        simp at h; subst h; simp [items]
      · rename_i s' hs
        cases hr : run step f s' with
        | none => simp [hr] at h
        | some r =>
          simp [hr] at h; subst h
          simp only [items]
          exact ih (k + 1) s' r hr
      · rename_i a s' hs
        cases hr : run step f s' with
        | none => simp [hr] at h
        | some r =>
          simp [hr] at h; subst h
          simp only [items, List.take_succ_cons]
          rw [ih k s' r hr]; rfl

theorem items_length_le {α : Type} : ∀ (evs : List (Out α)), (items evs).length ≤ evs.length := by
  intro evs
  induction evs with
  | nil => simp [items]
  | cons e r ih => cases e <;> simp [items] <;> omega

/-- `_live`: the invariant is asked only of the trips after which the iterator is still live (neither `done` nor
`trap`); the state `PointIter` is left in by its last call, for one, need not satisfy it. -/
theorem run_complete_live {σ α : Type} (step : σ → Out α × σ) (μ : σ → Nat) (Inv : σ → Prop)
    (hInv : ∀ s, Inv s → (step s).1 ≠ .done → (step s).1 ≠ .trap → Inv (step s).2)
    (hdec : ∀ s, Inv s → (step s).1 ≠ .done → μ (step s).2 < μ s) :
    ∀ (f : Nat) (s : σ), Inv s → μ s < f →
      ∃ evs, run step f s = some evs ∧ evs.length ≤ μ s := by
  intro f
  induction f with
  | zero => intro s _ h; omega
  | succ f ih =>
    intro s hi hf
    have hI := hInv s hi
    have hD := hdec s hi
    unfold run
    generalize step s = p at hI hD
    obtain ⟨o, s'⟩ := p
    cases o with
    | done => exact ⟨[], rfl, Nat.zero_le _⟩
    | trap => exact ⟨[.trap], rfl, Nat.lt_of_le_of_lt (Nat.zero_le _) (hD nofun)⟩
    | cont =>
      obtain ⟨evs, he, hl⟩ := ih s' (hI nofun nofun) (Nat.lt_of_lt_of_le (hD nofun) (Nat.le_of_lt_succ hf))
      exact ⟨.cont :: evs, by simp [he], Nat.lt_of_le_of_lt hl (hD nofun)⟩
    | yield a =>
      obtain ⟨evs, he, hl⟩ := ih s' (hI nofun nofun) (Nat.lt_of_lt_of_le (hD nofun) (Nat.le_of_lt_succ hf))
      exact ⟨.yield a :: evs, by simp [he], Nat.lt_of_le_of_lt hl (hD nofun)⟩

theorem run_complete {σ α : Type} (step : σ → Out α × σ) (μ : σ → Nat) (Inv : σ → Prop)
    (hInv : ∀ s, Inv s → Inv (step s).2)
    (hdec : ∀ s, Inv s → (step s).1 ≠ .done → μ (step s).2 < μ s) :
    ∀ (f : Nat) (s : σ), Inv s → μ s < f →
      ∃ evs, run step f s = some evs ∧ evs.length ≤ μ s :=
  run_complete_live step μ Inv (fun s hi _ _ => hInv s hi) hdec

theorem run_induct_live {σ α : Type} (step : σ → Out α × σ) (Inv : σ → Prop)
    (hInv : ∀ s, Inv s → (step s).1 ≠ .done → (step s).1 ≠ .trap → Inv (step s).2)
    (P : σ → List (Out α) → Prop)
    (hdone : ∀ s, Inv s → (step s).1 = .done → P s [])
    (htrap : ∀ s, Inv s → (step s).1 = .trap → P s [.trap])
    (hcont : ∀ s r, Inv s → (step s).1 = .cont → P (step s).2 r → P s (.cont :: r))
    (hyield : ∀ s a r, Inv s → (step s).1 = .yield a → P (step s).2 r → P s (.yield a :: r)) :
    ∀ (f : Nat) (s : σ) (evs : List (Out α)), Inv s → run step f s = some evs → P s evs := by
  intro f
  induction f with
  | zero => intro s evs _ h; cases h
  | succ f ih =>
    intro s evs hi h
    have hI := hInv s hi
    have hd := hdone s hi
    have ht := htrap s hi
    have hc := fun r => hcont s r hi
    have hy := fun a r => hyield s a r hi
    unfold run at h
    generalize step s = p at *
    obtain ⟨o, s'⟩ := p
    cases o with
    | done => cases h; exact hd rfl
    | trap => cases h; exact ht rfl
    | cont =>
      dsimp only at h
      cases hr : run step f s' with
      | none => rw [hr] at h; cases h
      | some r => rw [hr] at h; cases h; exact hc r rfl (ih s' r (hI nofun nofun) hr)
    | yield a =>
      dsimp only at h
      cases hr : run step f s' with
      | none => rw [hr] at h; cases h
      | some r => rw [hr] at h; cases h; exact hy a r rfl (ih s' r (hI nofun nofun) hr)

def weight {α : Type} (w : α → Nat) (evs : List (Out α)) : Nat := ((items evs).map w).sum

theorem weight_le {σ α : Type} (step : σ → Out α × σ) (ν : σ → Nat) (w : α → Nat) (Inv : σ → Prop)
    (hInv : ∀ s, Inv s → Inv (step s).2)
    (hy : ∀ s a, Inv s → (step s).1 = .yield a → ν (step s).2 + w a ≤ ν s)
    (hc : ∀ s, Inv s → (step s).1 = .cont → ν (step s).2 ≤ ν s) :
    ∀ (f : Nat) (s : σ) (evs : List (Out α)), Inv s → run step f s = some evs →
      weight w evs ≤ ν s :=
  run_induct_live step Inv (fun s hi _ _ => hInv s hi) (fun s evs => weight w evs ≤ ν s)
    (fun _ _ _ => Nat.zero_le _) (fun _ _ _ => Nat.zero_le _)
    (fun s r hi h ih => Nat.le_trans ih (hc s hi h))
    (fun s a r hi h ih => by
      have := hy s a hi h
      simp only [weight, items, List.map_cons, List.sum_cons] at ih ⊢
      omega)

theorem yields_le {σ α : Type} (step : σ → Out α × σ) (ν : σ → Nat) (Inv : σ → Prop)
    (hInv : ∀ s, Inv s → Inv (step s).2)
    (hy : ∀ s a, Inv s → (step s).1 = .yield a → ν (step s).2 < ν s)
    (hc : ∀ s, Inv s → (step s).1 = .cont → ν (step s).2 ≤ ν s) :
    ∀ (f : Nat) (s : σ) (evs : List (Out α)), Inv s → run step f s = some evs →
      (items evs).length ≤ ν s :=
  run_induct_live step Inv (fun s hi _ _ => hInv s hi) (fun s evs => (items evs).length ≤ ν s)
    (fun _ _ _ => Nat.zero_le _) (fun _ _ _ => Nat.zero_le _)
    (fun s _ hi h ih => Nat.le_trans ih (hc s hi h))
    (fun s a _ hi h ih => Nat.lt_of_le_of_lt ih (hy s a hi h))

theorem items_all {σ α : Type} (step : σ → Out α × σ) (Inv : σ → Prop) (P : α → Prop)
    (hInv : ∀ s, Inv s → Inv (step s).2)
    (hP : ∀ s a, Inv s → (step s).1 = .yield a → P a) :
    ∀ (f : Nat) (s : σ) (evs : List (Out α)), Inv s → run step f s = some evs →
      ∀ x ∈ items evs, P x :=
  run_induct_live step Inv (fun s hi _ _ => hInv s hi) (fun _ evs => ∀ x ∈ items evs, P x)
    (fun _ _ _ _ hx => nomatch hx) (fun _ _ _ _ hx => nomatch hx)
    (fun _ _ _ _ ih => ih)
    (fun s a r hi h ih x hx => by
      rcases List.mem_cons.mp hx with rfl | hx
      · exact hP s _ hi h
      · exact ih x hx)

theorem not_trapped {σ α : Type} (step : σ → Out α × σ) (Inv : σ → Prop)
    (hInv : ∀ s, Inv s → Inv (step s).2)
    (hT : ∀ s, Inv s → (step s).1 ≠ .trap) :
    ∀ (f : Nat) (s : σ) (evs : List (Out α)), Inv s → run step f s = some evs →
      trapped evs = false :=
  run_induct_live step Inv (fun s hi _ _ => hInv s hi) (fun _ evs => trapped evs = false)
    (fun _ _ _ => rfl) (fun s hi h => absurd h (hT s hi)) (fun _ _ _ _ ih => ih) (fun _ _ _ _ _ ih => ih)

theorem run_bounded {σ α : Type} (step : σ → Out α × σ) (μ : σ → Nat) (Inv : σ → Prop)
    (hstep : ∀ s, Inv s → Inv (step s).2 ∧ (step s).1 ≠ .trap ∧ ((step s).1 ≠ .done → μ (step s).2 < μ s))
    (f : Nat) (s : σ) (hi : Inv s) (hf : μ s < f) :
    ∃ evs, run step f s = some evs ∧ evs.length ≤ μ s ∧ trapped evs = false := by
  obtain ⟨evs, he, hl⟩ := run_complete_live step μ Inv (fun s hi _ _ => (hstep s hi).1)
    (fun s hi => (hstep s hi).2.2) f s hi hf
  exact ⟨evs, he, hl, not_trapped step Inv (fun s hi => (hstep s hi).1) (fun s hi => (hstep s hi).2.1) f s evs hi he⟩

theorem run_inv {σ α : Type} (step : σ → Out α × σ) (μ : σ → Nat) (Inv : σ → Prop) (P : α → Prop)
    (hstep : ∀ s, Inv s → (step s).1 ≠ .trap ∧
      ((step s).1 ≠ .done → Inv (step s).2 ∧ μ (step s).2 < μ s) ∧
      (∀ a, (step s).1 = .yield a → P a)) :
    ∀ (f : Nat) (s : σ), Inv s → μ s < f →
      ∃ evs, run step f s = some evs ∧ evs.length ≤ μ s ∧ trapped evs = false ∧ ∀ a ∈ items evs, P a := by
  intro f s hi hf
  have hInv : ∀ s, Inv s → (step s).1 ≠ .done → (step s).1 ≠ .trap → Inv (step s).2 :=
    fun s hi hd _ => ((hstep s hi).2.1 hd).1
  obtain ⟨evs, he, hl⟩ := run_complete_live step μ Inv hInv (fun s hi hd => ((hstep s hi).2.1 hd).2) f s hi hf
  exact ⟨evs, he, hl, run_induct_live step Inv hInv (fun _ evs => trapped evs = false ∧ ∀ a ∈ items evs, P a)
    (fun _ _ _ => ⟨rfl, nofun⟩) (fun s hi h => absurd h (hstep s hi).1) (fun _ _ _ _ ih => ih)
    (fun s a r hi h ih => ⟨ih.1, fun x hx => by
      rcases List.mem_cons.mp hx with rfl | hx
      · exact (hstep s hi).2.2 _ h
      · exact ih.2 x hx⟩) f s evs hi he⟩

theorem run_exact_yields {σ α : Type} (step : σ → Out α × σ) (μ : σ → Nat) (Inv : σ → Prop)
    (hstep : ∀ s, Inv s → (step s).1 ≠ .trap ∧ (step s).1 ≠ .cont ∧ ((step s).1 = .done → μ s = 0) ∧
      ((step s).1 ≠ .done → Inv (step s).2 ∧ μ (step s).2 + 1 = μ s))
    (f : Nat) (s : σ) (hi : Inv s) (hf : μ s < f) :
    ∃ evs, run step f s = some evs ∧ evs.length = μ s ∧ (items evs).length = μ s ∧ trapped evs = false := by
  have hInv : ∀ s, Inv s → (step s).1 ≠ .done → (step s).1 ≠ .trap → Inv (step s).2 :=
    fun s hi hd _ => ((hstep s hi).2.2.2 hd).1
  obtain ⟨evs, he, _⟩ := run_complete_live step μ Inv hInv
    (fun s hi hd => Nat.lt_of_succ_le (Nat.le_of_eq ((hstep s hi).2.2.2 hd).2)) f s hi hf
  exact ⟨evs, he, run_induct_live step Inv hInv
    (fun s evs => evs.length = μ s ∧ (items evs).length = μ s ∧ trapped evs = false)
    (fun s hi h => ⟨((hstep s hi).2.2.1 h).symm, ((hstep s hi).2.2.1 h).symm, rfl⟩)
    (fun s hi h => absurd h (hstep s hi).1) (fun s r hi h _ => absurd h (hstep s hi).2.1)
    (fun s a r hi h ih => by
      have hm := ((hstep s hi).2.2.2 (by rw [h]; nofun)).2
      exact ⟨by rw [List.length_cons, ih.1, hm], by rw [items, List.length_cons, ih.2.1, hm], ih.2.2⟩)
    f s evs hi he⟩

theorem run_items_eq {σ α : Type} (step : σ → Out α × σ) (Inv : σ → Prop) (spec : σ → List α)
    (hstep : ∀ s, Inv s → match step s with
      | (.done, _) => spec s = []
      | (.trap, _) => True
      | (.cont, s') => Inv s' ∧ spec s = spec s'
      | (.yield a, s') => Inv s' ∧ spec s = a :: spec s') :
    ∀ fuel s evs, Inv s → run step fuel s = some evs → trapped evs = false → items evs = spec s := by
  -- the clause of `hstep` for the outcome `o` of the trip
  have key : ∀ s, Inv s → ∀ o, (step s).1 = o → match o with
      | .done => spec s = []
      | .trap => True
      | .cont => Inv (step s).2 ∧ spec s = spec (step s).2
      | .yield a => Inv (step s).2 ∧ spec s = a :: spec (step s).2 := by
    intro s hi o ho
    have h := hstep s hi
    generalize step s = p at h ho
    obtain ⟨o', s'⟩ := p
    cases ho; cases o' <;> exact h
  refine run_induct_live step Inv (fun s hi hd ht => ?_) (fun s evs => trapped evs = false → items evs = spec s)
    (fun s hi h _ => (key s hi _ h).symm) (fun _ _ _ ht => nomatch ht)
    (fun s r hi h ih ht => (key s hi _ h).2 ▸ ih ht)
    (fun s a r hi h ih ht => (key s hi _ h).2 ▸ congrArg (a :: ·) (ih ht))
  cases ho : (step s).1 with
  | done => exact absurd ho hd
  | trap => exact absurd ho ht
  | cont => exact (key s hi _ ho).1
  | yield a => exact (key s hi _ ho).1

end FontVerif.ReadIter
