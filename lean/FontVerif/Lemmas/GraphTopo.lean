/-
Helper lemmas for C05 (Model/Graph.lean): the counting argument behind `sort_kahn` /
`sort_shortest_distance` — `update_parents` caches exactly one parent per link, so a target whose
count reaches its in-degree has seen all of its parents: the order is topological.
-/
import FontVerif.Model.Graph
import FontVerif.Lemmas.GraphSort
namespace FontVerif.Graph

def linksTo (g : Graph) (c x : Nat) : Nat := (g.obj x).links.countP (fun l => l.target = c)

def Lto (g : Graph) (c : Nat) (S : List Nat) : Nat := (S.map (linksTo g c)).sum

def IsParent (g : Graph) (p c : Nat) : Prop := ∃ l ∈ (g.obj p).links, l.target = c

def LtoObjs (c : Nat) (objs : List (Nat × Obj)) : Nat :=
  (objs.map (fun kv => kv.2.links.countP (fun l => l.target = c))).sum

theorem linksTo_pos_iff (g : Graph) (c p : Nat) : linksTo g c p ≠ 0 ↔ IsParent g p c := by
  unfold linksTo IsParent
  rw [Nat.ne_zero_iff_zero_lt, List.countP_pos_iff]
  simp

theorem isParent_key (g : Graph) (p c : Nat) (h : IsParent g p c) : p ∈ g.objects.keys :=
  let ⟨_, hl, _⟩ := h
  key_of_links_ne_nil (List.ne_nil_of_mem hl)

theorem lto_cons (G : Graph) (c id : Nat) (S : List Nat) : Lto G c (id :: S) = linksTo G c id + Lto G c S := by
  simp [Lto]

theorem linksTo_congr (G G' : Graph) (h : G'.objects = G.objects) (c x : Nat) : linksTo G' c x = linksTo G c x := by
  unfold linksTo; rw [obj_congr G G' h]

theorem lto_congr (G G' : Graph) (h : G'.objects = G.objects) (c : Nat) (S : List Nat) : Lto G' c S = Lto G c S := by
  unfold Lto
  congr 1
  apply List.map_congr_left
  intro x _
  exact linksTo_congr G G' h c x

theorem isParent_congr (G G' : Graph) (h : G'.objects = G.objects) (p c : Nat) : IsParent G' p c ↔ IsParent G p c := by
  unfold IsParent; rw [obj_congr G G' h]

theorem not_isParent_root (g G : Graph) (hobj : G.objects = g.objects) (hr : G.root = g.root)
    (hroot : ∀ kv ∈ g.objects, ∀ l ∈ kv.2.links, l.target ≠ g.root) (p : Nat) : ¬ IsParent G p G.root := by
  intro hp
  rw [isParent_congr g G hobj, hr] at hp
  obtain ⟨l, hl, ht⟩ := hp
  exact forall_links_of_objects (P := fun _ l => l.target ≠ g.root) hroot p l hl ht

/-- a sum over a duplicate-free list is at most the sum over any list that holds its support: each `a` with `f a ≠ 0`
is taken out of `keys` once -/
theorem sum_map_sub (f : Nat → Nat) (keys S : List Nat) (hS : S.Nodup) (hsup : ∀ x ∈ S, f x ≠ 0 → x ∈ keys) :
    (S.map f).sum ≤ (keys.map f).sum := by
  induction S generalizing keys with
  | nil => exact Nat.zero_le _
  | cons a S ih =>
    obtain ⟨ha, hS⟩ := List.nodup_cons.mp hS
    rw [List.map_cons, List.sum_cons]
    by_cases h0 : f a = 0
    · rw [h0, Nat.zero_add]
      exact ih keys hS fun x hx => hsup x (List.mem_cons_of_mem _ hx)
    · rw [((List.perm_cons_erase (hsup a List.mem_cons_self h0)).map f).sum_nat, List.map_cons, List.sum_cons]
      refine Nat.add_le_add_left (ih (keys.erase a) hS fun x hx hfx => ?_) _
      exact (List.mem_erase_of_ne fun e : x = a => ha (e ▸ hx)).mpr (hsup x (List.mem_cons_of_mem _ hx) hfx)

/-- if the sums are equal nothing of the support is missing: a missing `p` could be added to `S` -/
theorem sum_map_sub_all (f : Nat → Nat) (keys S : List Nat) (hS : S.Nodup) (hsup : ∀ x ∈ S, f x ≠ 0 → x ∈ keys)
    (hle : (keys.map f).sum ≤ (S.map f).sum) (p : Nat) (hp : p ∈ keys) (hfp : f p ≠ 0) : p ∈ S := by
  apply Decidable.byContradiction
  intro hn
  have := sum_map_sub f keys (p :: S) (List.nodup_cons.mpr ⟨hn, hS⟩) fun x hx hfx =>
    (List.mem_cons.mp hx).elim (fun e => e ▸ hp) (fun hx => hsup x hx hfx)
  rw [List.map_cons, List.sum_cons] at this
  omega

/-- the counting fact: over a duplicate-free set `S` of objects the links into `c` are at most all
links into `c`, and if they are all of them then every parent of `c` is in `S` -/
theorem lto_le (g : Graph) (c : Nat) (S : List Nat) (hS : S.Nodup) :
    Lto g c S ≤ Lto g c g.objects.keys ∧
    (Lto g c g.objects.keys ≤ Lto g c S → ∀ p, IsParent g p c → p ∈ S) := by
  have hsup : ∀ x ∈ S, linksTo g c x ≠ 0 → x ∈ g.objects.keys :=
    fun x _ hx => isParent_key g x c ((linksTo_pos_iff g c x).mp hx)
  exact ⟨sum_map_sub (linksTo g c) g.objects.keys S hS hsup, fun hle p hp =>
    sum_map_sub_all (linksTo g c) g.objects.keys S hS hsup hle p (isParent_key g p c hp) ((linksTo_pos_iff g c p).mpr hp)⟩

theorem lto_all (g : Graph) (c : Nat) (S : List Nat) (hS : S.Nodup) (hK : g.objects.keys.Nodup)
    (hall : ∀ p, IsParent g p c → p ∈ S) : Lto g c S = Lto g c g.objects.keys := by
  have h1 := (lto_le g c S hS).1
  have hsup : ∀ x ∈ g.objects.keys, linksTo g c x ≠ 0 → x ∈ S :=
    fun x _ hx => hall x ((linksTo_pos_iff g c x).mp hx)
  have h2 := sum_map_sub (linksTo g c) S g.objects.keys hK hsup
  unfold Lto at *
  omega

theorem cachedParents_length (objs : List (Nat × Obj)) (c : Nat) : (cachedParents objs c).length = LtoObjs c objs := by
  induction objs with
  | nil => rfl
  | cons kv rest ih =>
    simp only [cachedParents, List.flatMap_cons, List.length_append] at ih ⊢
    rw [ih]
    simp [LtoObjs, linkParents, List.countP_eq_length_filter]

theorem ltoObjs_eq (g : Graph) (c : Nat) (hK : g.objects.keys.Nodup) : LtoObjs c g.objects = Lto g c g.objects.keys := by
  unfold LtoObjs Lto Map.keys
  rw [List.map_map]
  congr 1
  apply List.map_congr_left
  intro kv hkv
  simp only [Function.comp, linksTo, Graph.obj, Map.find?_of_mem_nodup g.objects hK kv hkv, Option.getD_some]

theorem updateParents_indeg (g : Graph) (hstale : g.parentsInvalid = true) (hK : g.objects.keys.Nodup) (c : Nat) :
    (updateParents g).indeg c = if Map.contains g.nodes c = true then Lto g c g.objects.keys else 0 := by
  rw [indeg_eq, updateParents_parents g hstale]
  split
  · rw [cachedParents_length, ltoObjs_eq g c hK]
  · rfl

/-- the cached in-degrees are exact: the number of links into a node, 0 for an id without a node (what `update_parents`
leaves on a stale cache) -/
structure DegExact (G : Graph) : Prop where
  keys : G.objects.keys.Nodup
  deg : ∀ c, G.indeg c = if Map.contains G.nodes c = true then Lto G c G.objects.keys else 0

/-- a node all of whose parents are in `S` has been counted in full from `S` -/
theorem DegExact.lto_eq {G : Graph} (hd : DegExact G) (c : Nat) (S : List Nat) (hS : S.Nodup)
    (hkey : Map.contains G.nodes c = true) (hall : ∀ p, IsParent G p c → p ∈ S) : Lto G c S = G.indeg c := by
  rw [hd.deg, if_pos hkey]
  exact lto_all G c S hS hd.keys hall

theorem lto_pos_iff (g : Graph) (c : Nat) (S : List Nat) : 0 < Lto g c S ↔ ∃ p ∈ S, IsParent g p c := by
  unfold Lto
  rw [List.sum_pos_iff_exists_pos_nat]
  simp only [List.mem_map, ← linksTo_pos_iff, Nat.pos_iff_ne_zero]
  constructor
  · rintro ⟨_, ⟨a, ha, rfl⟩, h⟩; exact ⟨a, ha, h⟩
  · rintro ⟨a, ha, h⟩; exact ⟨_, ⟨a, ha, rfl⟩, h⟩

theorem degExact_updateParents (g : Graph) (hstale : g.parentsInvalid = true) (hK : g.objects.keys.Nodup) :
    DegExact (updateParents g) :=
  ⟨by rw [updateParents_objects]; exact hK, fun c => by
    rw [updateParents_indeg g hstale hK c, contains_updateParents, updateParents_objects,
      lto_congr g _ (updateParents_objects g)]⟩

/-- inside `for link in &next.offsets` of object `id` (already-processed objects `S`, links done `pre`) -/
def CntAt (G : Graph) (S : List Nat) (pre : List Link) (removed : Map Nat) : Prop :=
  ∀ c, (removed.find? c).getD 0 = Lto G c S + pre.countP (fun l => l.target = c)

theorem cnt_step (G : Graph) (S : List Nat) (pre : List Link) (removed : Map Nat) (l : Link)
    (h : CntAt G S pre removed) :
    CntAt G S (pre ++ [l]) (removed.insert l.target ((removed.find? l.target).getD 0 + 1)) := by
  intro c
  rw [Map.find?_insert]
  simp only [List.countP_append, List.countP_cons, List.countP_nil, decide_eq_true_eq]
  by_cases hc : l.target = c
  · subst hc
    simp only [↓reduceIte, Option.getD_some]
    rw [h l.target]; omega
  · simp only [hc, ↓reduceIte]
    rw [h c]; omega

theorem push_parents (G : Graph) (hd : DegExact G) (id : Nat) (S : List Nat) (hnd : (id :: S).Nodup)
    (pre rest : List Link) (l : Link) (hlinks : pre ++ l :: rest = (G.obj id).links) (removed : Map Nat)
    (hc : CntAt G S pre removed) (hseen : (removed.find? l.target).getD 0 + 1 = G.indeg l.target) :
    ∀ p, IsParent G p l.target → p ∈ id :: S := by
  have h1 := hc l.target
  have hcount : pre.countP (fun l' => l'.target = l.target) + 1 ≤ linksTo G l.target id := by
    unfold linksTo
    rw [← hlinks]
    simp only [List.countP_append, List.countP_cons, decide_eq_true_eq, ↓reduceIte]
    omega
  have hdeg : G.indeg l.target = Lto G l.target G.objects.keys := by
    have h := hd.deg l.target
    split at h
    · exact h
    · omega
  apply (lto_le G l.target (id :: S) hnd).2
  rw [lto_cons]
  omega

theorem visitAll_topo (G : Graph) (hd : DegExact G) (id : Nat) (S : List Nat) (hnd : (id :: S).Nodup)
    (acc : List Nat × Map Nat) (hc : CntAt G S [] acc.2) (hq : ∀ c ∈ acc.1, ∀ p, IsParent G p c → p ∈ id :: S) :
    CntAt G S (G.obj id).links ((G.obj id).links.foldl (visit G) acc).2 ∧
    ∀ c ∈ ((G.obj id).links.foldl (visit G) acc).1, ∀ p, IsParent G p c → p ∈ id :: S := by
  refine foldl_prefix_induct (visit G) _
    (fun pre a => CntAt G S pre a.2 ∧ ∀ c ∈ a.1, ∀ p, IsParent G p c → p ∈ id :: S) acc ⟨hc, hq⟩ ?_
  intro pre l rest a hlinks ⟨jc, jq⟩
  refine ⟨cnt_step G S pre a.2 l jc, ?_⟩
  unfold visit
  simp only []
  split
  · rename_i hseen
    intro c hcm
    rcases List.mem_cons.mp hcm with rfl | hcm
    · exact push_parents G hd id S hnd pre rest l hlinks.symm a.2 jc hseen
    · exact jq c hcm
  · exact jq

/-- the processed list (most recent first) is topological: all parents of an entry come after it -/
def TopoRev (G : Graph) (orderRev : List Nat) : Prop :=
  ∀ a c b, orderRev = a ++ c :: b → ∀ p, IsParent G p c → p ∈ b

theorem topoRev_cons (G : Graph) (id : Nat) (S : List Nat) (h : TopoRev G S)
    (hid : ∀ p, IsParent G p id → p ∈ S) : TopoRev G (id :: S) := by
  intro a c b hsplit p hp
  cases a with
  | nil =>
    simp only [List.nil_append, List.cons.injEq] at hsplit
    obtain ⟨rfl, rfl⟩ := hsplit
    exact hid p hp
  | cons x a' =>
    simp only [List.cons_append, List.cons.injEq] at hsplit
    exact h a' c b hsplit.2 p hp

theorem topoRev_reverse (G : Graph) (orderRev : List Nat) (h : TopoRev G orderRev) :
    ∀ pre c post, orderRev.reverse = pre ++ c :: post → ∀ p, IsParent G p c → p ∈ pre := by
  intro pre c post hsplit p hp
  have : orderRev = post.reverse ++ c :: pre.reverse := by
    have := congrArg List.reverse hsplit
    simpa using this
  have := h _ _ _ this p hp
  simpa using this

structure TopoInv (G : Graph) (queue : List Nat) (removed : Map Nat) (orderRev : List Nat) : Prop where
  enum : EnumInv G queue removed orderRev
  cnt : ∀ c, (removed.find? c).getD 0 = Lto G c orderRev
  qpar : ∀ c ∈ queue, ∀ p, IsParent G p c → p ∈ orderRev
  topo : TopoRev G orderRev

theorem topo_step (G : Graph) (id : Nat) (rest : List Nat)
    (removed : Map Nat) (S : List Nat) (hinv : TopoInv G (id :: rest) removed S) :
    (id :: S).Nodup ∧ CntAt G S [] removed ∧ (∀ c ∈ rest, ∀ p, IsParent G p c → p ∈ id :: S) ∧
      TopoRev G (id :: S) := by
  have hnd : (id :: S).Nodup := by
    have := hinv.enum.nodup
    simp only [List.cons_append, List.nodup_cons, List.mem_append, not_or] at this
    rw [List.nodup_cons]
    exact ⟨this.1.2, (List.nodup_append.mp this.2).2.1⟩
  refine ⟨hnd, ?_, ?_, ?_⟩
  · intro c; rw [hinv.cnt c]; simp
  · intro c hc p hp
    exact List.mem_cons_of_mem _ (hinv.qpar c (List.mem_cons_of_mem _ hc) p hp)
  · exact topoRev_cons G id S hinv.topo (hinv.qpar id List.mem_cons_self)

theorem topo_inv (G : Graph) (hd : DegExact G) (hroot : G.indeg G.root = 0) : Inv G (TopoInv G) where
  perm := fun hp h => ⟨(enum_inv G hroot).perm hp h.enum, h.cnt, fun c hc => h.qpar c (hp.mem_iff.mpr hc), h.topo⟩
  step := fun id rest r o h => by
    obtain ⟨hnd, hc0, hq0, htopo⟩ := topo_step G id rest r o h
    obtain ⟨hcnt, hqpar⟩ := visitAll_topo G hd id o hnd (rest, r) hc0 hq0
    refine ⟨(enum_inv G hroot).step id rest r o h.enum, fun c => ?_, hqpar, htopo⟩
    rw [hcnt c, lto_cons]
    unfold linksTo
    omega

theorem topo_init (G : Graph)
    (hnoparent : ∀ p, ¬ IsParent G p G.root) : TopoInv G [G.root] [] [] := by
  constructor
  · exact enum_init G []
  · intro c; simp [Map.find?, Lto]
  · intro c hc p hp
    simp only [List.mem_singleton] at hc
    subst hc
    exact absurd hp (hnoparent p)
  · intro a c b hsplit
    simp at hsplit

theorem Run.topo {G : Graph} {removed : Map Nat} {orderRev : List Nat} (h : Run G removed orderRev)
    (hd : DegExact G) (hroot : G.indeg G.root = 0) (hnoparent : ∀ p, ¬ IsParent G p G.root) :
    TopoInv G [] removed orderRev :=
  h _ (topo_inv G hd hroot) (topo_init G hnoparent)

theorem SortRun.topo {g g' : Graph} {removed : Map Nat} (s : SortRun g g' removed)
    (hstale : g.parentsInvalid = true) (hK : g.objects.keys.Nodup)
    (hroot : ∀ kv ∈ g.objects, ∀ l ∈ kv.2.links, l.target ≠ g.root) :
    ∀ pre c post, g'.order = pre ++ c :: post → ∀ p, IsParent g p c → p ∈ pre := by
  have ho := updateParents_objects g
  have hroot' : (updateParents g).indeg (updateParents g).root = 0 := by
    rw [updateParents_root]; exact updateParents_indeg_zero g g.root hstale hroot
  have hinv := s.run.topo (degExact_updateParents g hstale hK) hroot'
    (not_isParent_root g _ ho (updateParents_root g) hroot)
  intro pre c post hsplit p hp
  exact topoRev_reverse _ _ hinv.topo pre c post (by rw [List.reverse_reverse]; exact hsplit) p
    ((isParent_congr g _ ho p c).mpr hp)

/-- split form ⇒ index form: if all parents of every entry of a duplicate-free order stand before it, then every
link goes strictly forward in the order -/
theorem idx_forward (g : Graph) (order : List Nat) (hnd : order.Nodup)
    (h : ∀ pre c post, order = pre ++ c :: post → ∀ p, IsParent g p c → p ∈ pre) :
    ∀ id ∈ order, ∀ l ∈ (g.obj id).links, l.target ∈ order → order.idxOf id < order.idxOf l.target := by
  intro id hid l hl ht
  obtain ⟨pre, post, hsplit⟩ := List.append_of_mem ht
  have hp := h pre l.target post hsplit id ⟨l, hl, rfl⟩
  have hnot : l.target ∉ pre := by
    rw [hsplit] at hnd
    exact fun hm => (List.nodup_append.mp hnd).2.2 l.target hm l.target List.mem_cons_self rfl
  rw [hsplit, List.idxOf_append, List.idxOf_append, if_pos hp, if_neg hnot]
  simp only [List.idxOf_cons_self, Nat.zero_add]
  exact List.idxOf_lt_length_of_mem hp

/-- whatever order the queue pops in: objects untouched, root first, everything reachable listed -/
theorem SortRun.contains {g g' : Graph} {removed : Map Nat} (s : SortRun g g' removed) :
    g'.objects = g.objects ∧ (∃ tail, g'.order = g.root :: tail) ∧ ∀ x, Reach g g.root x → x ∈ g'.order := by
  obtain ⟨ho, _, ⟨tail, ht⟩, hc⟩ := s.spec
  exact ⟨ho, ⟨tail, ht⟩, fun x hx => reach_mem g g'.order g.root (by rw [ht]; exact List.mem_cons_self) hc x hx⟩

theorem SortRun.enumerates {g g' : Graph} {removed : Map Nat} (s : SortRun g g' removed)
    (hstale : g.parentsInvalid = true) (hroot : ∀ kv ∈ g.objects, ∀ l ∈ kv.2.links, l.target ≠ g.root) :
    g'.order.Nodup ∧ ∀ x, x ∈ g'.order ↔ Reach g g.root x :=
  let ⟨hnd, hsub⟩ := s.enum (updateParents_indeg_zero g g.root hstale hroot)
  ⟨hnd, fun x => ⟨hsub x, s.contains.2.2 x⟩⟩

theorem SortRun.topological {g g' : Graph} {removed : Map Nat} (s : SortRun g g' removed)
    (hstale : g.parentsInvalid = true) (hK : g.objects.keys.Nodup)
    (hroot : ∀ kv ∈ g.objects, ∀ l ∈ kv.2.links, l.target ≠ g.root) :
    g'.order.Nodup ∧ (∀ x, x ∈ g'.order ↔ Reach g g.root x) ∧
    ∀ id ∈ g'.order, ∀ l ∈ (g.obj id).links,
      l.target ∈ g'.order ∧ g'.order.idxOf id < g'.order.idxOf l.target := by
  obtain ⟨hnd, hiff⟩ := s.enumerates hstale hroot
  refine ⟨hnd, hiff, fun id hid l hl => ?_⟩
  have ht : l.target ∈ g'.order := (hiff _).mpr (Reach.step l ((hiff id).mp hid) hl)
  exact ⟨ht, idx_forward g g'.order hnd (s.topo hstale hK hroot) id hid l hl ht⟩

end FontVerif.Graph
