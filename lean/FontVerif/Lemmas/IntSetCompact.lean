/-
`BitSet::compact` / `compact_pages` (read-fonts/src/collections/int_set/bitset.rs) on the concrete
model of `Model/BitSetConc.lean`: the compaction re-points the kept map entries to `0..w` without
ever reading a page after overwriting it.
-/
import FontVerif.Lemmas.IntSetConcInv
namespace FontVerif.IntSet

theorem getElem?_eq_of_getD_eq {α : Type} (l₁ l₂ : List α) (d : α) (k : Nat)
    (hlen : l₁.length = l₂.length) (h : l₁.getD k d = l₂.getD k d) : l₁[k]? = l₂[k]? := by
  by_cases hk : k < l₁.length
  · have hk2 : k < l₂.length := by omega
    simp only [List.getD_eq_getElem?_getD, List.getElem?_eq_getElem hk,
      List.getElem?_eq_getElem hk2, Option.getD_some] at h
    simp [List.getElem?_eq_getElem hk, List.getElem?_eq_getElem hk2, h]
  · have hk2 : ¬ k < l₂.length := by omega
    simp [List.getElem?_eq_none_iff.2 (Nat.le_of_not_lt hk),
      List.getElem?_eq_none_iff.2 (Nat.le_of_not_lt hk2)]

/-- what `compact` computes before calling `compact_pages` -/
structure TableSpec (pm : PMap) (n w : Nat) (T : List Nat) : Prop where
  len : T.length = n
  fwd : ∀ k, k < w → T[(pm.getD k (0, 0)).2]? = some k
  bwd : ∀ j v, T[j]? = some v → v = USIZE_MAX ∨ (v < w ∧ (pm.getD v (0, 0)).2 = j)
  cnt : T.countP (· != USIZE_MAX) = w

/-- the table is `List.range w` written at the distinct positions `page_map[k].index` over the sentinel -/
theorem compactTable_spec (pm : PMap) (n w : Nat) (hmax : w ≤ USIZE_MAX)
    (hinj : ∀ k k', k < k' → k' < w → (pm.getD k (0, 0)).2 ≠ (pm.getD k' (0, 0)).2)
    (hlt : ∀ k, k < w → (pm.getD k (0, 0)).2 < n) : TableSpec pm n w (compactTable pm n w) := by
  have hd : ((List.range w).map fun k => (pm.getD k (0, 0)).2).Pairwise (· ≠ ·) :=
    List.pairwise_map.2 (List.pairwise_lt_range.imp_of_mem fun _ hb h => hinj _ _ h (List.mem_range.1 hb))
  have hin : ∀ k ∈ List.range w, (pm.getD k (0, 0)).2 < (List.replicate n USIZE_MAX).length := fun k hk => by
    rw [List.length_replicate]; exact hlt k (List.mem_range.1 hk)
  have hfwd : ∀ k, k < w → (compactTable pm n w)[(pm.getD k (0, 0)).2]? = some k := fun k hk =>
    foldl_set_getElem?_of_mem (fun k => (pm.getD k (0, 0)).2) (fun k => k) _ _ k hd (List.mem_range.2 hk)
      (hin k (List.mem_range.2 hk))
  refine ⟨by rw [compactTable, foldl_set_length, List.length_replicate], hfwd, fun j v hv => ?_, ?_⟩
  · by_cases hj : ∃ k, k < w ∧ (pm.getD k (0, 0)).2 = j
    · obtain ⟨k, hk, rfl⟩ := hj
      rw [hfwd k hk] at hv
      exact Or.inr (Option.some.inj hv ▸ ⟨hk, rfl⟩)
    · rw [compactTable, foldl_set_getElem?_of_not_mem _ _ j _ _ fun k hk e => hj ⟨k, List.mem_range.1 hk, e⟩] at hv
      exact Or.inl (List.eq_of_mem_replicate (List.mem_of_getElem? hv))
  · rw [compactTable, foldl_set_countP _ _ _ _ _ hd (fun k hk => ⟨hin k hk, by simp⟩) fun k hk => by
      have := List.mem_range.1 hk
      simp only [bne_iff_ne, ne_eq]; omega]
    simp

/-- loop invariant of `compact_pages` at table position `i` with running `write_index = wi`,
relative to the state `(pages, pm)` at loop entry -/
structure LoopInv (pm : PMap) (pages : List CPage) (w : Nat) (T : List Nat)
    (i wi : Nat) (P : List CPage) (M : PMap) : Prop where
  le : wi ≤ i
  plen : P.length = pages.length
  mlen : M.length = pm.length
  untouched : ∀ j, i ≤ j → P.getD j CPage.zero = pages.getD j CPage.zero
  done : ∀ k, k < w → (pm.getD k (0, 0)).2 < i →
    (M.getD k (0, 0)).1 = (pm.getD k (0, 0)).1 ∧ (M.getD k (0, 0)).2 < wi ∧
    P.getD (M.getD k (0, 0)).2 CPage.zero = pages.getD (pm.getD k (0, 0)).2 CPage.zero
  todo : ∀ k, k < w → i ≤ (pm.getD k (0, 0)).2 → M.getD k (0, 0) = pm.getD k (0, 0)
  rest : ∀ k, w ≤ k → M.getD k (0, 0) = pm.getD k (0, 0)
  inj : ∀ k k', k < w → k' < w → (pm.getD k (0, 0)).2 < i → (pm.getD k' (0, 0)).2 < i →
    (M.getD k (0, 0)).2 = (M.getD k' (0, 0)).2 → k = k'
  cnt : wi = (T.take i).countP (· != USIZE_MAX)

theorem LoopInv.init (pm : PMap) (pages : List CPage) (w : Nat) (T : List Nat) :
    LoopInv pm pages w T 0 0 pages pm :=
  ⟨Nat.le_refl 0, rfl, rfl, fun _ _ => rfl, fun _ _ h => absurd h (Nat.not_lt_zero _),
    fun _ _ _ => rfl, fun _ _ => rfl, fun _ _ _ _ h => absurd h (Nat.not_lt_zero _), by simp⟩

section step
variable {pm : PMap} {pages : List CPage} {w : Nat} {T : List Nat} {i wi : Nat}
  {P : List CPage} {M : PMap}

/-- `if *page_map_index == usize::MAX { continue; }` -/
theorem LoopInv.step_skip (hT : TableSpec pm pages.length w T) (hmax : w ≤ USIZE_MAX)
    (h : LoopInv pm pages w T i wi P M) (hv : T[i]? = some USIZE_MAX) :
    LoopInv pm pages w T (i + 1) wi P M := by
  have hne : ∀ k, k < w → (pm.getD k (0, 0)).2 ≠ i := by
    intro k hk e
    have := hT.fwd k hk
    rw [e, hv] at this
    have : USIZE_MAX = k := Option.some.inj this
    omega
  refine ⟨by have := h.le; omega, h.plen, h.mlen, fun j hj => h.untouched j (by omega), ?_,
    fun k hk hi => h.todo k hk (by omega), h.rest, ?_, ?_⟩
  · intro k hk hi
    have := hne k hk
    exact h.done k hk (by omega)
  · intro k k' hk hk' hi hi'
    have := hne k hk
    have := hne k' hk'
    exact h.inj k k' hk hk' (by omega) (by omega)
  · rw [List.take_add_one, hv, List.countP_append]
    simp [h.cnt]

/-- the copy step: `pages[write_index] = pages[i].clone()` (if `write_index < i`),
`page_map[*page_map_index].index = write_index`, `write_index += 1` -/
theorem LoopInv.step_copy (hT : TableSpec pm pages.length w T) (hw : w ≤ pm.length)
    (h : LoopInv pm pages w T i wi P M) (v : Nat) (hv : T[i]? = some v) (hvne : v ≠ USIZE_MAX) :
    LoopInv pm pages w T (i + 1) (wi + 1)
      (if wi < i then P.set wi (P.getD i CPage.zero) else P)
      (M.set v ((M.getD v (0, 0)).1, wi)) := by
  obtain ⟨hvw, hvi⟩ : v < w ∧ (pm.getD v (0, 0)).2 = i := by
    rcases hT.bwd i v hv with e | e
    · exact absurd e hvne
    · exact e
  have hiT : i < T.length := by
    rcases Nat.lt_or_ge i T.length with h1 | h1
    · exact h1
    · rw [List.getElem?_eq_none_iff.2 h1] at hv; cases hv
  have hiP : i < P.length := by rw [h.plen, ← hT.len]; exact hiT
  have hle := h.le
  have hvM : v < M.length := by rw [h.mlen]; omega
  have hMv : M.getD v (0, 0) = pm.getD v (0, 0) := h.todo v hvw (by omega)
  -- every other kept entry has a different old index
  have hne : ∀ k, k < w → k ≠ v → (pm.getD k (0, 0)).2 ≠ i := by
    intro k hk hkv e
    have := hT.fwd k hk
    rw [e, hv] at this
    exact hkv (Option.some.inj this).symm
  rw [ite_set_getD P CPage.zero hle, hMv]
  have hP : ∀ j, (P.set wi (P.getD i CPage.zero)).getD j CPage.zero
      = if wi = j then P.getD i CPage.zero else P.getD j CPage.zero :=
    fun j => getD_set_lt P j _ _ (by omega)
  have hM : ∀ k, (M.set v ((pm.getD v (0, 0)).1, wi)).getD k (0, 0)
      = if v = k then ((pm.getD v (0, 0)).1, wi) else M.getD k (0, 0) :=
    fun k => getD_set_lt M k _ _ hvM
  refine ⟨by omega, ?_, ?_, ?_, ?_, ?_, ?_, ?_, ?_⟩
  · rw [List.length_set]; exact h.plen
  · rw [List.length_set]; exact h.mlen
  · intro j hj
    rw [hP, if_neg (by omega)]
    exact h.untouched j (by omega)
  · intro k hk hi
    rw [hM]
    by_cases e : v = k
    · subst e
      rw [if_pos rfl]
      refine ⟨rfl, by simp, ?_⟩
      simp only []
      rw [hP, if_pos rfl, hvi]
      exact h.untouched i (Nat.le_refl i)
    · rw [if_neg e]
      have := hne k hk (fun e' => e e'.symm)
      obtain ⟨d1, d2, d3⟩ := h.done k hk (by omega)
      refine ⟨d1, by omega, ?_⟩
      rw [hP, if_neg (by omega)]
      exact d3
  · intro k hk hi
    rw [hM, if_neg (by intro e; subst e; omega)]
    exact h.todo k hk (by omega)
  · intro k hk
    rw [hM, if_neg (by intro e; subst e; omega)]
    exact h.rest k hk
  · intro k k' hk hk' hi hi'
    rw [hM, hM]
    by_cases e : v = k <;> by_cases e' : v = k'
    · intro _; rw [← e, ← e']
    · rw [if_pos e, if_neg e']
      have := hne k' hk' (fun x => e' x.symm)
      have := (h.done k' hk' (by omega)).2.1
      intro heq
      simp only [] at heq
      omega
    · rw [if_neg e, if_pos e']
      have := hne k hk (fun x => e x.symm)
      have := (h.done k hk (by omega)).2.1
      intro heq
      simp only [] at heq
      omega
    · rw [if_neg e, if_neg e']
      have := hne k hk (fun x => e x.symm)
      have := hne k' hk' (fun x => e' x.symm)
      exact h.inj k k' hk hk' (by omega) (by omega)
  · rw [List.take_add_one, hv, List.countP_append]
    simp [h.cnt, hvne]

end step

theorem compactPagesLoop_prefix {pm : PMap} {pages : List CPage} {w : Nat} {T : List Nat}
    (hT : TableSpec pm pages.length w T) (hw : w ≤ pm.length) (hmax : w ≤ USIZE_MAX) :
    ∀ (pre rest : List Nat) (i wi : Nat) (P : List CPage) (M : PMap),
      T.drop i = pre ++ rest → LoopInv pm pages w T i wi P M →
      ∃ wi' P' M', compactPagesLoop (pre ++ rest) i wi P M
          = compactPagesLoop rest (i + pre.length) wi' P' M' ∧
        LoopInv pm pages w T (i + pre.length) wi' P' M' := by
  intro pre
  induction pre with
  | nil => intro rest i wi P M _ h; exact ⟨wi, P, M, rfl, h⟩
  | cons v pre ih =>
    intro rest i wi P M hd h
    have hv : T[i]? = some v := by
      have := congrArg List.head? hd
      simpa [List.head?_drop] using this
    have hd' : T.drop (i + 1) = pre ++ rest := by
      have := congrArg List.tail hd
      simpa [List.tail_drop] using this
    have hlen : i + (v :: pre).length = (i + 1) + pre.length := by simp; omega
    rw [hlen]
    by_cases e : v = USIZE_MAX
    · have h' := h.step_skip hT hmax (e ▸ hv)
      obtain ⟨wi', P', M', h1, h2⟩ := ih rest (i + 1) wi P M hd' h'
      refine ⟨wi', P', M', ?_, h2⟩
      rw [← h1]
      simp [compactPagesLoop, e]
    · have h' := h.step_copy hT hw v hv e
      obtain ⟨wi', P', M', h1, h2⟩ := ih rest (i + 1) (wi + 1) _ _ hd' h'
      refine ⟨wi', P', M', ?_, h2⟩
      rw [← h1]
      simp [compactPagesLoop, e]

theorem idx_inj_of_nodup (pm : PMap) (w : Nat) (hw : w ≤ pm.length)
    (hnd : ((pm.take w).map (·.2)).Nodup) :
    ∀ k k', k < k' → k' < w → (pm.getD k (0, 0)).2 ≠ (pm.getD k' (0, 0)).2 := by
  intro k k' hkk hk'
  have hlen : ((pm.take w).map (·.2)).length = w := by simp; omega
  have := (List.pairwise_iff_getElem.1 hnd) k k' (by omega) (by omega) hkk
  rw [getD_eq_getElem pm k _ (by omega), getD_eq_getElem pm k' _ (by omega)]
  simpa using this

theorem idx_lt_of_mem (pm : PMap) (n w : Nat) (hw : w ≤ pm.length)
    (hlt : ∀ e ∈ pm.take w, e.2 < n) : ∀ k, k < w → (pm.getD k (0, 0)).2 < n := by
  intro k hk
  have hk' : k < (pm.take w).length := by simp; omega
  have := hlt _ (List.getElem_mem hk')
  rw [getD_eq_getElem pm k _ (by omega)]
  simpa using this

theorem compact_inv (pm : PMap) (pages : List CPage) (w : Nat) (hw : w ≤ pm.length)
    (hmax : w ≤ USIZE_MAX)
    (hnd : ((pm.take w).map (·.2)).Nodup) (hlt : ∀ e ∈ pm.take w, e.2 < pages.length) :
    LoopInv pm pages w (compactTable pm pages.length w) pages.length w
      (compact pm pages w).1 (compact pm pages w).2 := by
  have hT := compactTable_spec pm pages.length w hmax (idx_inj_of_nodup pm w hw hnd)
    (idx_lt_of_mem pm pages.length w hw hlt)
  obtain ⟨wi', P', M', h1, h2⟩ := compactPagesLoop_prefix hT hw hmax
    (compactTable pm pages.length w) [] 0 0 pages pm (by simp) (LoopInv.init pm pages w _)
  simp only [List.append_nil, compactPagesLoop] at h1
  have hwi : wi' = w := by
    have := h2.cnt
    rw [Nat.zero_add, List.take_length, hT.cnt] at this
    exact this
  subst hwi
  rw [Nat.zero_add, hT.len] at h2
  unfold compact
  rw [h1]
  exact h2

/-- `hmax`: a kept map position must be distinguishable from the sentinel `usize::MAX`; the kept entries
may point into `pages` in ANY order (pages are created in insertion order, not in major order). -/
theorem compact_spec (pm : PMap) (pages : List CPage) (w : Nat) (hw : w ≤ pm.length)
    (hmax : w ≤ USIZE_MAX)
    (hnd : ((pm.take w).map (·.2)).Nodup) (hlt : ∀ e ∈ pm.take w, e.2 < pages.length) :
    let r := compact pm pages w
    r.1.length = pages.length ∧ r.2.length = pm.length ∧
    (∀ i, i < w → (r.2.getD i (0, 0)).1 = (pm.getD i (0, 0)).1 ∧
        r.1.getD (r.2.getD i (0, 0)).2 CPage.zero = pages.getD (pm.getD i (0, 0)).2 CPage.zero) ∧
    ((r.2.take w).map (·.2)).Nodup ∧ (∀ e ∈ r.2.take w, e.2 < w) ∧
    r.2.drop w = pm.drop w := by
  intro r
  have h := compact_inv pm pages w hw hmax hnd hlt
  have hidx := idx_lt_of_mem pm pages.length w hw hlt
  have hrlen : r.2.length = pm.length := h.mlen
  refine ⟨h.plen, h.mlen, ?_, ?_, ?_, ?_⟩
  · intro i hi
    obtain ⟨d1, _, d3⟩ := h.done i hi (hidx i hi)
    exact ⟨d1, d3⟩
  · rw [List.Nodup, List.pairwise_iff_getElem]
    intro k k' hk hk' hkk
    have hl : ((r.2.take w).map (·.2)).length = w := by simp; omega
    rw [hl] at hk hk'
    intro heq
    have := h.inj k k' hk hk' (hidx k hk) (hidx k' hk')
    rw [getD_eq_getElem r.2 k _ (by omega), getD_eq_getElem r.2 k' _ (by omega)] at this
    have := this (by simpa using heq)
    omega
  · intro e he
    obtain ⟨k, hk, rfl⟩ := List.mem_iff_getElem.1 he
    have hkw : k < w := by simp at hk; omega
    have := (h.done k hkw (hidx k hkw)).2.1
    rw [getD_eq_getElem r.2 k _ (by omega)] at this
    simpa using this
  · apply List.ext_getElem?
    intro j
    rw [List.getElem?_drop, List.getElem?_drop]
    exact getElem?_eq_of_getD_eq _ _ (0, 0) _ hrlen (h.rest (w + j) (by omega))

/-- every page that `compact_pages` copies is read from a position that no earlier copy wrote to:
the write position never exceeds the read position.  Precisely: whenever the run of
`compact_pages` over the table of `compact(w)` reaches table position `i = pre.length` (an
arbitrary split `pre ++ pmi :: rest` of the table), it does so in a state
`(write_index, pages', page_map')` with `write_index ≤ i`, and every position `≥ i` of `pages'`
— in particular the position `i` that this step reads — still holds the ORIGINAL page; a table
entry other than the sentinel names a kept map entry whose old page index is `i`. -/
theorem compact_reads_before_overwrite (pm : PMap) (pages : List CPage) (w : Nat)
    (hw : w ≤ pm.length) (hmax : pm.length < USIZE_MAX)
    (hnd : ((pm.take w).map (·.2)).Nodup) (hlt : ∀ e ∈ pm.take w, e.2 < pages.length)
    (pre rest : List Nat) (pmi : Nat)
    (hsplit : compactTable pm pages.length w = pre ++ pmi :: rest) :
    ∃ wi P M,
      compactPagesLoop (compactTable pm pages.length w) 0 0 pages pm
        = compactPagesLoop (pmi :: rest) pre.length wi P M ∧
      wi ≤ pre.length ∧
      P.length = pages.length ∧
      (∀ j, pre.length ≤ j → P.getD j CPage.zero = pages.getD j CPage.zero) ∧
      (pmi ≠ USIZE_MAX → pmi < w ∧ (pm.getD pmi (0, 0)).2 = pre.length ∧
        P.getD pre.length CPage.zero = pages.getD (pm.getD pmi (0, 0)).2 CPage.zero) := by
  have hmax' : w ≤ USIZE_MAX := by omega
  have hT := compactTable_spec pm pages.length w hmax' (idx_inj_of_nodup pm w hw hnd)
    (idx_lt_of_mem pm pages.length w hw hlt)
  obtain ⟨wi, P, M, h1, h2⟩ := compactPagesLoop_prefix hT hw hmax'
    pre (pmi :: rest) 0 0 pages pm (by simpa using hsplit) (LoopInv.init pm pages w _)
  rw [Nat.zero_add] at h1 h2
  refine ⟨wi, P, M, by rw [← h1, hsplit], h2.le, h2.plen, h2.untouched, ?_⟩
  intro hne
  have hget : (compactTable pm pages.length w)[pre.length]? = some pmi := by
    rw [hsplit]; simp
  rcases hT.bwd _ _ hget with e | ⟨e1, e2⟩
  · exact absurd e hne
  · exact ⟨e1, e2, by rw [e2]; exact h2.untouched _ (Nat.le_refl _)⟩

/-- non-vacuity: the hypotheses hold for a map whose page indices are NOT in major order
(`compact(3)` on pages `[p0, p1, p2, p3]` gives `[p0, p2, p3, p3]`, map `[(0,1),(3,0),(7,2),(9,1)]`) -/
example :
    let pm : PMap := [(0, 2), (3, 0), (7, 3), (9, 1)]
    let pages : List CPage := [⟨[10], 0⟩, ⟨[11], 0⟩, ⟨[12], 0⟩, ⟨[13], 0⟩]
    3 ≤ pm.length ∧ pm.length < USIZE_MAX ∧ ((pm.take 3).map (·.2)).Nodup ∧
    (∀ e ∈ pm.take 3, e.2 < pages.length) ∧
    compact pm pages 3
      = ([⟨[10], 0⟩, ⟨[12], 0⟩, ⟨[13], 0⟩, ⟨[13], 0⟩], [(0, 1), (3, 0), (7, 2), (9, 1)]) := by
  decide

end FontVerif.IntSet
