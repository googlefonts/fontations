/-
Error accumulation of the f32 tent scalar (Model/FloatDelta.lean `computeScalarF32`): values are
compared as natural numbers on the common scale `2^-300` (`V n q = n · 2^(q+300)`), one rounding
contributes at most `value / 2^24 + 2^150` (half an ulp, or half the subnormal spacing).
-/
import FontVerif.Lemmas.FloatDelta
namespace FontVerif.FloatDelta
open FontVerif.Ieee

/-- the value `n · 2^q` in units of `2^-300`. -/
def V (n : Nat) (q : Int) : Nat := n * 2 ^ (q + 300).toNat

theorem V_zero (q : Int) : V 0 q = 0 := by simp [V]

theorem two_pow_mul_eq {x y z w : Int} (hx : 0 ≤ x) (hy : 0 ≤ y) (hz : 0 ≤ z) (hw : 0 ≤ w)
    (h : x + y = z + w) : (2 : Nat) ^ x.toNat * 2 ^ y.toNat = 2 ^ z.toNat * 2 ^ w.toNat := by
  rw [← pow_toNat_add x y hx hy, ← pow_toNat_add z w hz hw, h]

theorem scaled_mul_eq (n m : Nat) {x y z w : Int} (hx : 0 ≤ x) (hy : 0 ≤ y) (hz : 0 ≤ z) (hw : 0 ≤ w)
    (h : x + y = z + w) : n * 2 ^ x.toNat * (m * 2 ^ y.toNat) = n * 2 ^ z.toNat * (m * 2 ^ w.toNat) := by
  calc n * 2 ^ x.toNat * (m * 2 ^ y.toNat) = n * m * (2 ^ x.toNat * 2 ^ y.toNat) := by ac_rfl
    _ = n * m * (2 ^ z.toNat * 2 ^ w.toNat) := by rw [two_pow_mul_eq hx hy hz hw h]
    _ = n * 2 ^ z.toNat * (m * 2 ^ w.toNat) := by ac_rfl

/-- a zero result has exponent `0`, so no exponent of a finite result is below `emin` -/
theorem roundNE_exp_ge (f : Fmt) (hemin : f.emin ≤ 0) (neg : Bool) (a : Nat) (e : Int) (n : Nat) (q : Int)
    (h : roundNE f neg a e = .fin neg n q) : f.emin ≤ q := by
  by_cases ha : a = 0
  · simp only [roundNE, ha, if_true, FVal.fin.injEq] at h; omega
  obtain ⟨hq0, _, _⟩ := expo_spec f a e
  by_cases hqe : expo f a e ≤ e
  · rw [roundNE_of_le f neg ha hqe] at h
    split at h
    · cases h
    · cases h; omega
  · rw [roundNE_of_lt f neg ha (by omega)] at h
    split at h
    · cases h
    · cases h; exact hq0

/-- one f32 rounding on the `2^-300` scale: `|V(out) − V(in)| ≤ V(out) / 2^24 + 2^150`, stated as
`2^24 · |…| ≤ V(out) + 2^174`. -/
theorem round_err_V (a : Nat) (e : Int) (n : Nat) (q : Int) (he : -290 ≤ e)
    (h : roundNE f32 false a e = .fin false n q) :
    2 ^ 24 * V n q ≤ 2 ^ 24 * V a e + V n q + 2 ^ 174 ∧
    2 ^ 24 * V a e ≤ 2 ^ 24 * V n q + V n q + 2 ^ 174 := by
  by_cases ha : a = 0
  · simp only [roundNE, ha, if_true, FVal.fin.injEq] at h
    rw [ha, ← h.2.1, V_zero, V_zero]; omega
  obtain ⟨hexp, hcase⟩ := roundNE_half_ulp f32 (by decide) false a e n q ha h
  rcases hcase with ⟨hq, hn⟩ | ⟨hlt, hlo, hhi, hnorm⟩
  · subst hq; subst hn; omega
  · unfold V
    generalize hs : (q - e).toNat = s at *
    have hqe : q + 300 = (e + 300) + (s : Int) := by omega
    rw [hqe, pow_toNat_add _ _ (by omega) (by omega)]
    simp only [Int.toNat_natCast]
    generalize hE : 2 ^ (e + 300).toNat = E at *
    have hEpos : 0 < E := by rw [← hE]; exact two_pow_pos _
    generalize hS : 2 ^ s = S at *
    -- 2 n S ≤ 2 a + S ; 2 a ≤ 2 n S + S ; multiply by E
    have h1 := Nat.mul_le_mul_right E hlo
    have h2 := Nat.mul_le_mul_right E hhi
    rw [Nat.add_mul] at h1 h2
    have e1 : 2 * n * S * E = 2 * (n * (E * S)) := by
      simp only [Nat.mul_assoc, Nat.mul_left_comm, Nat.mul_comm]
    have e2 : 2 * a * E = 2 * (a * E) := by rw [Nat.mul_assoc]
    rw [e1, e2] at h1 h2
    -- half ulp S·E/2 ≤ n·E·S / 2^24 or the subnormal spacing
    have hulp : 2 ^ 23 * (S * E) ≤ n * (E * S) ∨ S * E ≤ 2 ^ 151 := by
      rcases hnorm with hn | hq
      · left
        have : n * (E * S) = n * (S * E) := by rw [Nat.mul_comm E S]
        rw [this]
        exact Nat.mul_le_mul_right _ hn
      · right
        have hq' : q = -149 := hq
        have : S * E = 2 ^ (q + 300).toNat := by
          rw [hqe, pow_toNat_add _ _ (by omega) (by omega), ← hE, ← hS]
          simp only [Int.toNat_natCast]
          rw [Nat.mul_comm]
        rw [this, hq']
        decide
    generalize n * (E * S) = VN at *
    generalize a * E = VA at *
    generalize S * E = SE at *
    have hp : (2 : Nat) ^ 24 = 2 * 2 ^ 23 := by decide
    have h174 : (2 : Nat) ^ 174 = 2 ^ 23 * 2 ^ 151 := by decide
    rcases hulp with hu | hu
    · constructor <;> omega
    · have : 2 ^ 23 * SE ≤ 2 ^ 23 * 2 ^ 151 := Nat.mul_le_mul_left _ hu
      constructor <;> omega

theorem div_exp_ge (f : Fmt) (hemin : f.emin ≤ 0) (x : Nat) (ex : Int) (b : Nat) (eb : Int) (n : Nat) (q : Int)
    (hb : b ≠ 0) (h : div f (.fin false x ex) (.fin false b eb) = .fin false n q) :
    f.emin ≤ q := by
  unfold div at h
  simp only [hb, if_false] at h
  split at h
  · cases h; exact hemin
  · exact roundNE_exp_ge f hemin _ _ _ n q h

theorem V_le_of_dle {n : Nat} {q : Int} {m : Nat} {e : Int} (hq : -300 ≤ q) (he : -300 ≤ e)
    (h : dle n q m e) : V n q ≤ V m e :=
  (dle_shift 300 (by omega) (by omega)).mp h

theorem V_le_one {n : Nat} {q : Int} (hq : -300 ≤ q) (h : dle n q 1 0) : V n q ≤ 2 ^ 300 := by
  simpa [V] using V_le_of_dle hq (by decide) h

theorem V_mul14 (n : Nat) (q : Int) (m : Nat) (e : Int) (hq : -286 ≤ q) (he : -14 ≤ e) :
    2 ^ 14 * V (n * m) (q + e) = V n q * (m * 2 ^ (e + 14).toNat) := by
  have := scaled_mul_eq n m (x := q + 300) (y := e + 14) (z := q + e + 300) (w := 14)
    (by omega) (by omega) (by omega) (by omega) (by omega)
  unfold V
  rw [this]
  show _ = n * 2 ^ (q + e + 300).toNat * (m * 2 ^ 14)
  ac_rfl

theorem V_scale14 (m : Nat) (e : Int) (he : -14 ≤ e) : V m e = m * 2 ^ (e + 14).toNat * 2 ^ 286 := by
  unfold V
  rw [show e + 300 = (e + 14) + 286 by omega, pow_toNat_add _ _ (by omega) (by omega), Nat.mul_assoc]; rfl

/-- `div_half_ulp` for f32 with the guard-bit count and the quotient exponent named. -/
theorem div_half_ulp_f32 (x : Nat) (ex : Int) (b : Nat) (eb : Int) (n : Nat) (q : Int) (k : Nat) (E : Int)
    (hk : k = 26 + bitLen b) (hE : E = ex - eb - (k : Int) - 1) (hx : x ≠ 0) (hb : b ≠ 0)
    (h : div f32 (.fin false x ex) (.fin false b eb) = .fin false n q) :
    E + 2 ≤ q ∧
    n * 2 ^ (q - E).toNat * b ≤ 2 * x * 2 ^ k + 2 ^ (q - E - 1).toNat * b ∧
    2 * x * 2 ^ k ≤ n * 2 ^ (q - E).toNat * b + 2 ^ (q - E - 1).toNat * b ∧
    (2 ^ 23 ≤ n ∨ q = -149) := by
  subst hk; subst hE
  exact div_half_ulp f32 (by decide) x ex b eb n q hx hb h

/-- `|V(out) · b − V(in) · 2^14| ≤ 2^(q+299) · b`: half a unit in the last place of the quotient. -/
theorem div_err_V (nX : Nat) (qX : Int) (mB : Nat) (eB : Int) (nY : Nat) (qY : Int)
    (hnX : nX ≠ 0) (hmB0 : mB ≠ 0) (hmB : mB < 2 ^ 24) (hqX : -149 ≤ qX) (heB1 : -14 ≤ eB) (heB2 : eB ≤ 16)
    (hdiv : div f32 (.fin false nX qX) (.fin false mB eB) = .fin false nY qY) :
    -149 ≤ qY ∧ (2 ^ 23 ≤ nY ∨ qY = -149) ∧
    V nY qY * (mB * 2 ^ (eB + 14).toNat) ≤
      V nX qX * 2 ^ 14 + 2 ^ (qY + 299).toNat * (mB * 2 ^ (eB + 14).toNat) ∧
    V nX qX * 2 ^ 14 ≤
      V nY qY * (mB * 2 ^ (eB + 14).toNat) + 2 ^ (qY + 299).toNat * (mB * 2 ^ (eB + 14).toNat) := by
  have hqY : -149 ≤ qY := div_exp_ge f32 (by decide) nX qX mB eB nY qY hmB0 hdiv
  have hblB : bitLen mB ≤ 24 := bitLen_le_of_lt hmB
  obtain ⟨k, hk⟩ : ∃ k, k = 26 + bitLen mB := ⟨_, rfl⟩
  obtain ⟨E, hEe⟩ : ∃ E, E = qX - eB - (k : Int) - 1 := ⟨_, rfl⟩
  obtain ⟨hE, hL1, hL2, hnorm⟩ := div_half_ulp_f32 nX qX mB eB nY qY k E hk hEe hnX hmB0 hdiv
  refine ⟨hqY, hnorm, ?_⟩
  -- multiply the half-ulp inequalities by `2^T`
  obtain ⟨T, hT⟩ : ∃ T : Int, T = qX - (k : Int) - 1 + 314 := ⟨_, rfl⟩
  have hVY : V nY qY * (mB * 2 ^ (eB + 14).toNat) = nY * 2 ^ (qY - E).toNat * (mB * 2 ^ T.toNat) :=
    scaled_mul_eq nY mB (by omega) (by omega) (by omega) (by omega) (by omega)
  have hVX2 : V nX qX * 2 ^ 14 = 2 * nX * 2 ^ k * 2 ^ T.toNat := by
    have := scaled_mul_eq nX 1 (x := qX + 300) (y := 14) (z := (k : Int) + 1) (w := T)
      (by omega) (by omega) (by omega) (by omega) (by omega)
    rw [Nat.one_mul, Nat.one_mul, show ((k : Int) + 1).toNat = k + 1 by omega, Nat.pow_succ] at this
    rw [show 2 * nX * 2 ^ k = nX * (2 ^ k * 2) by ac_rfl]
    exact this
  have hHb : 2 ^ (qY + 299).toNat * (mB * 2 ^ (eB + 14).toNat) =
      2 ^ (qY - E - 1).toNat * (mB * 2 ^ T.toNat) := by
    have := scaled_mul_eq 1 mB (x := qY + 299) (y := eB + 14) (z := qY - E - 1) (w := T)
      (by omega) (by omega) (by omega) (by omega) (by omega)
    rwa [Nat.one_mul, Nat.one_mul] at this
  have hY1 := Nat.mul_le_mul_right (2 ^ T.toNat) hL1
  have hY2 := Nat.mul_le_mul_right (2 ^ T.toNat) hL2
  rw [Nat.add_mul, Nat.mul_assoc _ mB, Nat.mul_assoc _ mB, ← hVY, ← hVX2, ← hHb] at hY1 hY2
  exact ⟨hY1, hY2⟩

/-- the division error in the form of `round_err_V`, relative to the result: zero dividend included -/
theorem div_err_rel (nX : Nat) (qX : Int) (mB : Nat) (eB : Int) (nY : Nat) (qY : Int)
    (hmB0 : mB ≠ 0) (hmB : mB < 2 ^ 24) (hqX : -149 ≤ qX) (heB1 : -14 ≤ eB) (heB2 : eB ≤ 16)
    (hdiv : div f32 (.fin false nX qX) (.fin false mB eB) = .fin false nY qY) :
    2 ^ 24 * (V nY qY * (mB * 2 ^ (eB + 14).toNat)) ≤
      2 ^ 24 * (2 ^ 14 * V nX qX) + (V nY qY + 2 ^ 174) * (mB * 2 ^ (eB + 14).toNat) ∧
    2 ^ 24 * (2 ^ 14 * V nX qX) ≤
      2 ^ 24 * (V nY qY * (mB * 2 ^ (eB + 14).toNat)) + (V nY qY + 2 ^ 174) * (mB * 2 ^ (eB + 14).toNat) := by
  by_cases hnX : nX = 0
  · simp only [div, hmB0, hnX, if_true, if_false, FVal.fin.injEq] at hdiv
    rw [hnX, ← hdiv.2.1, V_zero, V_zero]; omega
  obtain ⟨hqY, hnorm, hY1, hY2⟩ := div_err_V nX qX mB eB nY qY hnX hmB0 hmB hqX heB1 heB2 hdiv
  -- half a unit in the last place is `value / 2^24` for a normal result, `2^150` at the bottom exponent
  have hH : 2 ^ 24 * 2 ^ (qY + 299).toNat ≤ V nY qY + 2 ^ 174 := by
    rcases hnorm with hn | hq
    · have : 2 ^ 24 * 2 ^ (qY + 299).toNat = 2 ^ 23 * 2 ^ (qY + 300).toNat :=
        two_pow_mul_eq (x := 24) (z := 23) (by omega) (by omega) (by omega) (by omega) (by omega)
      rw [this]
      exact Nat.le_trans (Nat.mul_le_mul_right _ (show 2 ^ 23 ≤ nY from hn)) (Nat.le_add_right _ _)
    · rw [show qY = -149 from hq]; exact Nat.le_add_left (2 ^ 174) _
  have hHb := Nat.mul_le_mul_right (mB * 2 ^ (eB + 14).toNat) hH
  rw [Nat.mul_assoc] at hHb
  constructor <;> omega

/-- two relative errors in a row (`U = 2^300`, `u = 2^174`, `C = 2^277 + 2^165` as variables): `Vi ↦ VX` by a
rounding, `VX · 2^14 ↦ Yb` by a division, both results at most `U · b`.  The factor `2 ^ 14` stands on the left:
with `Vi * 2 ^ 14` as left side of the goal `omega` runs into the recursion limit. -/
theorem step_arith (VX Vi Yb T b U u C : Nat) (hb : 1 ≤ b)
    (hX1 : 2 ^ 24 * VX ≤ 2 ^ 24 * Vi + VX + u) (hX2 : 2 ^ 24 * Vi ≤ 2 ^ 24 * VX + VX + u)
    (hY1 : 2 ^ 24 * Yb ≤ 2 ^ 24 * (2 ^ 14 * VX) + T) (hY2 : 2 ^ 24 * (2 ^ 14 * VX) ≤ 2 ^ 24 * Yb + T)
    (hT : T ≤ (U + u) * b) (h14 : 2 ^ 14 * VX ≤ U * b) (hC : 2 ^ 24 * C = 2 * U + 2 ^ 15 * u) :
    Yb ≤ 2 ^ 14 * Vi + C * b ∧ 2 ^ 14 * Vi ≤ Yb + C * b := by
  have hub : u ≤ u * b := Nat.le_mul_of_pos_right _ hb
  have hCb : 2 ^ 24 * (C * b) = 2 * (U * b) + 2 ^ 15 * (u * b) := by
    rw [← Nat.mul_assoc, hC, Nat.add_mul, Nat.mul_assoc, Nat.mul_assoc]
  rw [Nat.add_mul] at hT
  generalize U * b = Ub at *
  generalize u * b = ub at *
  generalize C * b = Cb at *
  constructor <;> omega

/-- **one tent step on the `2^-300` scale**: `s' = ((s · A) / B)` with `A = a/2^14`, `B = b/2^14`
satisfies `|V(s') · b − V(s) · a| ≤ (2^277 + 2^165) · b`, i.e. `|s' − s · a/b| ≤ 2^-23 + 2^-135`. -/
theorem step_err (ns : Nat) (qs : Int) (mA : Nat) (eA : Int) (mB : Nat) (eB : Int)
    (hinv : -149 ≤ qs) (hunit : dle ns qs 1 0)
    (hmA : mA < 2 ^ 24) (heA1 : -14 ≤ eA) (heA2 : eA ≤ 16)
    (hmB : mB < 2 ^ 24) (heB1 : -14 ≤ eB) (heB2 : eB ≤ 16) (hmB0 : mB ≠ 0)
    (hab : mA * 2 ^ (eA + 14).toNat ≤ mB * 2 ^ (eB + 14).toNat) :
    ∃ nY qY, div f32 (mul f32 (.fin false ns qs) (.fin false mA eA)) (.fin false mB eB) = .fin false nY qY ∧
      -149 ≤ qY ∧ dle nY qY 1 0 ∧
      V nY qY * (mB * 2 ^ (eB + 14).toNat) ≤
        V ns qs * (mA * 2 ^ (eA + 14).toNat) + (2 ^ 277 + 2 ^ 165) * (mB * 2 ^ (eB + 14).toNat) ∧
      V ns qs * (mA * 2 ^ (eA + 14).toNat) ≤
        V nY qY * (mB * 2 ^ (eB + 14).toNat) + (2 ^ 277 + 2 ^ 165) * (mB * 2 ^ (eB + 14).toNat) := by
  have hbpos : 1 ≤ mB * 2 ^ (eB + 14).toNat := Nat.mul_pos (Nat.pos_of_ne_zero hmB0) (two_pow_pos _)
  have hblA : bitLen mA ≤ 24 := bitLen_le_of_lt hmA
  have hAB : dle mA eA mB eB := (dle_shift 14 (by omega) (by omega)).mpr hab
  -- the product, rounded: at most `A`, hence at most `B`
  obtain ⟨nX, qX, hmul, hdX⟩ := mul_unit_le f32 (by decide) ns qs mA eA hunit hmA
    (by show (-149 : Int) ≤ eA; omega) (by show eA + (bitLen mA : Int) ≤ 128; omega)
  rw [hmul]
  have hmulR : roundNE f32 false (ns * mA) (qs + eA) = .fin false nX qX := by
    simpa [mul] using hmul
  have hqX : -149 ≤ qX := roundNE_exp_ge f32 (by decide) false _ _ nX qX hmulR
  have hXB : V nX qX ≤ V mB eB := V_le_of_dle (by omega) (by omega) (dle_trans hdX hAB)
  -- the quotient, rounded: at most one
  obtain ⟨nY, qY, hdiv, hdY⟩ := div_le_one f32 (by decide) (by decide) (by decide) nX qX mB eB hmB0 (dle_trans hdX hAB)
  have hqY : -149 ≤ qY := div_exp_ge f32 (by decide) nX qX mB eB nY qY hmB0 hdiv
  refine ⟨nY, qY, hdiv, hqY, hdY, ?_⟩
  obtain ⟨hX1, hX2⟩ := round_err_V (ns * mA) (qs + eA) nX qX (by omega) hmulR
  obtain ⟨hY1, hY2⟩ := div_err_rel nX qX mB eB nY qY hmB0 hmB hqX heB1 heB2 hdiv
  rw [← V_mul14 ns qs mA eA (by omega) heA1]
  rw [V_scale14 mB eB heB1] at hXB
  generalize mB * 2 ^ (eB + 14).toNat = b at *
  refine step_arith (V nX qX) (V (ns * mA) (qs + eA)) (V nY qY * b) _ b (2 ^ 300) (2 ^ 174) _ hbpos hX1 hX2 hY1 hY2
    (Nat.mul_le_mul_right b (Nat.add_le_add_right (V_le_one (by omega) hdY) _)) ?_ (by decide)
  calc 2 ^ 14 * V nX qX ≤ 2 ^ 14 * (b * 2 ^ 286) := Nat.mul_le_mul_left _ hXB
    _ = 2 ^ 300 * b := by rw [Nat.mul_comm b, ← Nat.mul_assoc]; rfl

end FontVerif.FloatDelta
