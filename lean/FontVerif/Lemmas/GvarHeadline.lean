/-
Decoded tuples (scalar, explicit flags, deltas) and the fold of their contributions: the level at
which the headline bound of C10 is stated (Props/C10Apply.lean `applied_outline_within_rounding`).
-/
import FontVerif.Lemmas.GvarSum
import FontVerif.Lemmas.GvarContours
set_option linter.unusedVariables false
namespace FontVerif.GvarApply
open FontVerif.Iup

theorem mem_zip_of_mem_right {α β : Type} : ∀ (l : List α) (r : List β), l.length = r.length → ∀ b ∈ r,
    ∃ a, (a, b) ∈ l.zip r := by
  intro l
  induction l with
  | nil => intro r h b hb; cases r <;> simp at h hb
  | cons a l ih =>
    intro r h b hb
    cases r with
    | nil => simp at hb
    | cons c r =>
      rcases List.mem_cons.mp hb with rfl | hb
      · exact ⟨a, by simp⟩
      · obtain ⟨a', ha'⟩ := ih r (by simpa using h) b hb
        exact ⟨a', by simp [ha']⟩

theorem wrap_sum_wrap {α : Type} (g : α → Int) : ∀ (l : List α),
    wrapI32 (l.map fun a => wrapI32 (g a)).sum = wrapI32 (l.map g).sum := by
  intro l
  induction l with
  | nil => rfl
  | cons a l ih =>
    simp only [List.map_cons, List.sum_cons]
    rw [wrapI32_wrap_add, ← wrapI32_add_wrap, ih, wrapI32_add_wrap]

/-- a decoded tuple as `simple_glyph` sees it after `compute_scalar` and the delta iterator: the
16.16 scalar, which points carry an explicit delta (all of them for a dense tuple) and the deltas
(zero where not explicit) -/
structure DTuple where
  s : Int
  ds : List Iup.Pt
  has : List Bool

/-- the working buffer after `accumulate_sparse_deltas` (`accSparse_eq_workOf`) -/
def DTuple.work (points : List Iup.Pt) (t : DTuple) : List Iup.Pt :=
  workOf points (t.ds.map fun d => (d.1 * t.s, d.2 * t.s))

/-- the contribution of one tuple: `working − point` after `interpolate_deltas` -/
def decodedContribution (points : List Iup.Pt) (ends : List Nat) (t : DTuple) : Option (List Iup.Pt) :=
  (readerInterpolate points t.has ends (t.work points)).map fun out =>
    (List.range points.length).map fun k => ptSub (out.getD k (0, 0)) (ptFromI32 (points.getD k (0, 0)))

/-- `simple_glyph` on decoded tuples: contributions added in tuple order with wrapping addition -/
def applyDecoded (points : List Iup.Pt) (ends : List Nat) (ts : List DTuple) : Option (List Iup.Pt) :=
  ts.foldl (fun (o : Option (List Iup.Pt)) t => match o with
    | none => none
    | some d => (decodedContribution points ends t).map (stepAdd d))
    (some ((List.range points.length).map fun _ => ((0 : Int), (0 : Int))))

theorem applyDecoded_fold (points : List Iup.Pt) (ends : List Nat) (f : DTuple → List Iup.Pt) :
    ∀ (ts : List DTuple) (acc : List Iup.Pt), (∀ t ∈ ts, decodedContribution points ends t = some (f t)) →
    ts.foldl (fun (o : Option (List Iup.Pt)) t => match o with
      | none => none
      | some d => (decodedContribution points ends t).map (stepAdd d)) (some acc)
      = some ((ts.map f).foldl stepAdd acc) := by
  intro ts
  induction ts with
  | nil => intro acc _; rfl
  | cons t ts ih =>
    intro acc h
    simp only [List.foldl_cons, List.map_cons, h t (by simp), Option.map_some]
    exact ih _ (fun x hx => h x (by simp [hx]))

/-- the `interpolate_deltas` result of a decoded tuple (empty when it fails) -/
def outOf (points : List Iup.Pt) (ends : List Nat) (t : DTuple) : List Iup.Pt :=
  (readerInterpolate points t.has ends (t.work points)).getD []

/-- the explicit deltas (already scaled) a sparse tuple's two passes leave, per point (flags: `listedFlags`) -/
def scaledEx (pts : List Nat) (xs ys : List Int) (s : Int) (np : Nat) : List Iup.Pt :=
  (List.range np).map fun k =>
    ((match lookupV (pts.zip xs) k with | some x => x * s | none => 0),
     (match lookupV (pts.zip ys) k with | some y => y * s | none => 0))

def listedFlags (pts : List Nat) (xs : List Int) (np : Nat) : List Bool :=
  (List.range np).map fun k => (lookupV (pts.zip xs) k).isSome

/-- the unscaled explicit deltas of a sparse tuple, per point (zero where the point is not listed) -/
def listedDs (pts : List Nat) (xs ys : List Int) (np : Nat) : List Iup.Pt :=
  (List.range np).map fun k =>
    ((match lookupV (pts.zip xs) k with | some x => x | none => 0),
     (match lookupV (pts.zip ys) k with | some y => y | none => 0))

theorem scaledEx_eq (pts : List Nat) (xs ys : List Int) (s : Int) (np : Nat) :
    scaledEx pts xs ys s np = (listedDs pts xs ys np).map fun d => (d.1 * s, d.2 * s) := by
  unfold scaledEx listedDs
  rw [List.map_map]
  apply List.map_congr_left
  intro k _
  simp only [Function.comp]
  cases lookupV (pts.zip xs) k <;> cases lookupV (pts.zip ys) k <;> simp

/-- The buffer after `accumulate_sparse_deltas` IS `workOf points (scaled explicit deltas)`
(list equality, from `accSparse_pointwise` by extensionality), for values within `±Δ`, coordinates
within `±M`, `M + Δ ≤ 32767`, scalar in `[0, 65536]`: nothing wraps and every product is exact. -/
theorem accSparse_eq_workOf (pts : List Nat) (xs ys : List Int) (ptBytes dBytes bs rest : List Nat)
    (s : Int) (points : List Iup.Pt)
    (hcount : (PackedDeltas.countAndCountBytes ptBytes).1 = pts.length) (hit : PackedDeltas.ptIterOf ptBytes = .list pts)
    (hx : readSparse (pts.length + 1) 0 pts.length (.list pts) dBytes = some (pts.zip xs, bs))
    (hy : readSparse (pts.length + 1) 0 pts.length (.list pts) bs = some (pts.zip ys, rest))
    (hnd : pts.Nodup) (hlx : xs.length = pts.length) (hly : ys.length = pts.length)
    (M Δ : Int) (hΔ : 0 ≤ Δ) (hMΔ : M + Δ ≤ 32767) (hs : 0 ≤ s ∧ s ≤ 65536)
    (hpts : ∀ k, (-M ≤ (getP points k).1 ∧ (getP points k).1 ≤ M) ∧ (-M ≤ (getP points k).2 ∧ (getP points k).2 ≤ M))
    (hxs : ∀ v ∈ xs, -Δ ≤ v ∧ v ≤ Δ) (hys : ∀ v ∈ ys, -Δ ≤ v ∧ v ≤ Δ) :
    accSparse ptBytes dBytes s (points.map ptFromI32) (points.map fun _ => false)
      = some (workOf points (scaledEx pts xs ys s points.length), listedFlags pts xs points.length) := by
  obtain ⟨buf', has', e, l1, l2, hpw⟩ := accSparse_pointwise pts xs ys ptBytes dBytes bs rest s
    (points.map ptFromI32) (points.map fun _ => false) points.length (by simp) (by simp) hcount hit hx hy hnd hlx hly
  rw [e]
  have hbuf : ∀ k, k < points.length → (points.map ptFromI32).getD k (0, 0) = ptFromI32 (getP points k) :=
    fun k hk => getD_map ptFromI32 points (0, 0) (0, 0) hk
  congr 1
  refine Prod.ext ?_ ?_
  · apply ext_getP
    · simp [l1, workOf]
    · intro k hk
      rw [l1] at hk
      obtain ⟨p1, p2, _⟩ := hpw k hk
      rw [getP_workOf _ _ k hk, show getP (scaledEx pts xs ys s points.length) k = _ from
        (getP_map_range _ _ k).trans (if_pos hk)]
      have axis : ∀ (vs : List Int) (p : Int), -M ≤ p ∧ p ≤ M → (∀ v ∈ vs, -Δ ≤ v ∧ v ≤ Δ) →
          (match lookupV (pts.zip vs) k with
            | some v => Iup.fxAdd (Fixed.fromI32 p) (fxScaled s v)
            | none => Fixed.fromI32 p)
          = p * 65536 + (match lookupV (pts.zip vs) k with | some v => v * s | none => 0) := by
        intro vs p hp hvs
        cases hl : lookupV (pts.zip vs) k with
        | none => exact (scaled_no_wrap p 0 s M Δ hp (by omega) hs hMΔ).2.1.trans (Int.add_zero _).symm
        | some v =>
          obtain ⟨q1, q2, q3, -⟩ := scaled_no_wrap p v s M Δ hp
            (hvs v (List.of_mem_zip (lookupV_mem _ _ _ hl)).2) hs hMΔ
          simp only [q1, q2, q3]
      apply Prod.ext
      · show (buf'.getD k (0, 0)).1 = _
        rw [p1, hbuf k hk]
        exact axis xs _ (hpts k).1 hxs
      · show (buf'.getD k (0, 0)).2 = _
        rw [p2, hbuf k hk]
        exact axis ys _ (hpts k).2 hys
  · apply List.ext_getElem (by simp [l2, listedFlags])
    intro k h1 h2
    have hk : k < points.length := by rw [l2] at h1; exact h1
    obtain ⟨_, _, p3⟩ := hpw k hk
    rw [← getD_eq_getElem has' k false h1, p3]
    simp [listedFlags, hk]

/-- a raw tuple with explicit points decodes to `dt`: the fast path, run with the raw tuple's scalar, leaves `dt`'s
working buffer and flags (dischargeable with `accSparse_eq_workOf`) -/
def SparseDecodes (points : List Iup.Pt) (sp : Option (List Nat)) (ts : GvarData.RawTuple × Int) (dt : DTuple) : Prop :=
  ts.1.allPoints sp = false ∧
  accSparse (ts.1.ptsAndDeltas sp).1 (ts.1.ptsAndDeltas sp).2 ts.2 (points.map ptFromI32) (points.map fun _ => false)
    = some (dt.work points, dt.has)

/-- Well-formedness of a sparse tuple's packed streams, as skrifa reads them.  The point-number
data decodes to `pts` (all `count` of them), the two passes of `read_sparse_deltas` succeed and pair
the points with `xs` / `ys` (true for every stream of valid runs, `sparse_fast_path_eq_iterator`),
the values are within `±Δ`, and — the one real restriction — the point numbers are DISTINCT.
Out-of-range point numbers are allowed: skrifa skips them (`deltas.get_mut(ix)` is `None`), and so
does the decoded tuple.  A duplicate point number makes skrifa add that point's deltas twice, which
no specification-level tuple describes: excluded here (`pts.Nodup`).  `dt` is the decoded tuple. -/
def SparseWF (points : List Iup.Pt) (sp : Option (List Nat)) (Δ : Int) (ts : GvarData.RawTuple × Int) (dt : DTuple) : Prop :=
  ts.1.allPoints sp = false ∧
  ∃ pts xs ys bs rest,
    PackedDeltas.ptIterOf (ts.1.ptsAndDeltas sp).1 = .list pts ∧
    (PackedDeltas.countAndCountBytes (ts.1.ptsAndDeltas sp).1).1 = pts.length ∧
    readSparse (pts.length + 1) 0 pts.length (.list pts) (ts.1.ptsAndDeltas sp).2 = some (pts.zip xs, bs) ∧
    readSparse (pts.length + 1) 0 pts.length (.list pts) bs = some (pts.zip ys, rest) ∧
    pts.Nodup ∧ xs.length = pts.length ∧ ys.length = pts.length ∧
    (∀ v ∈ xs, -Δ ≤ v ∧ v ≤ Δ) ∧ (∀ v ∈ ys, -Δ ≤ v ∧ v ≤ Δ) ∧
    dt = ⟨ts.2, listedDs pts xs ys points.length, listedFlags pts xs points.length⟩

/-- a well-formed sparse tuple decodes: the fast path leaves the decoded tuple's buffer and flags -/
theorem SparseWF.decodes (points : List Iup.Pt) (sp : Option (List Nat)) (Δ M : Int)
    (ts : GvarData.RawTuple × Int) (dt : DTuple) (h : SparseWF points sp Δ ts dt)
    (hM : 0 ≤ M) (hΔ : 0 ≤ Δ) (hMΔ : M + Δ ≤ 32767) (hs : 0 ≤ ts.2 ∧ ts.2 ≤ 65536)
    (hpts : ∀ k, (-M ≤ (getP points k).1 ∧ (getP points k).1 ≤ M) ∧ (-M ≤ (getP points k).2 ∧ (getP points k).2 ≤ M)) :
    SparseDecodes points sp ts dt := by
  obtain ⟨h0, pts, xs, ys, bs, rest, h1, h2, h3, h4, h5, h6, h7, h8, h9, rfl⟩ := h
  refine ⟨h0, ?_⟩
  rw [accSparse_eq_workOf pts xs ys _ _ bs rest ts.2 points h2 h1 h3 h4 h5 h6 h7 M Δ hΔ hMΔ hs hpts h8 h9]
  simp only [DTuple.work, scaledEx_eq]

/-- the decoded tuple of a well-formed sparse stream satisfies the side conditions of the headline -/
theorem SparseWF.bounds (points : List Iup.Pt) (sp : Option (List Nat)) (Δ : Int) (hΔ : 0 ≤ Δ)
    (ts : GvarData.RawTuple × Int) (dt : DTuple) (h : SparseWF points sp Δ ts dt) :
    dt.s = ts.2 ∧ dt.has.length = points.length ∧ dt.ds.length = points.length ∧
    (∀ k, (-Δ ≤ (getP dt.ds k).1 ∧ (getP dt.ds k).1 ≤ Δ) ∧ (-Δ ≤ (getP dt.ds k).2 ∧ (getP dt.ds k).2 ≤ Δ)) ∧
    (∀ k, dt.has.getD k false = false → getP dt.ds k = (0, 0)) := by
  obtain ⟨_, pts, xs, ys, bs, rest, _, _, _, _, _, h6, h7, h8, h9, rfl⟩ := h
  refine ⟨rfl, by simp [listedFlags], by simp [listedDs], fun k => ?_, fun k hk => ?_⟩
  · by_cases hkn : k < points.length
    · unfold listedDs
      rw [getP_map_range, if_pos hkn]
      simp only []
      constructor
      · cases hl : lookupV (pts.zip xs) k with
        | none => simp only []; omega
        | some x => exact h8 x (List.of_mem_zip (lookupV_mem _ _ _ hl)).2
      · cases hl : lookupV (pts.zip ys) k with
        | none => simp only []; omega
        | some y => exact h9 y (List.of_mem_zip (lookupV_mem _ _ _ hl)).2
    · unfold listedDs; rw [getP_map_range, if_neg hkn]; simp only []; omega
  · by_cases hkn : k < points.length
    · unfold listedFlags at hk
      rw [getD_map_range, if_pos hkn] at hk
      -- listed for y iff listed for x: the same points
      have hy := (Bool.eq_iff_iff.mpr ((lookupV_zip_isSome pts ys k (by omega)).trans
        (lookupV_zip_isSome pts xs k (by omega)).symm)).trans hk
      simp only [Option.isSome_eq_false_iff, Option.isNone_iff_eq_none] at hk hy
      unfold listedDs
      rw [getP_map_range, if_pos hkn, hk, hy]
    · unfold listedDs; exact (getP_map_range _ _ k).trans (if_neg hkn)

/-- an all-points tuple as skrifa reads it: both `read_dense_deltas` passes succeed -/
def DenseWF (points : List Iup.Pt) (sp : Option (List Nat)) (Δ : Int) (ts : GvarData.RawTuple × Int) (dt : DTuple) : Prop :=
  ts.1.allPoints sp = true ∧
  ∃ xs ys bs rest,
    PackedDeltas.readDense (points.length + 1) 0 points.length (ts.1.ptsAndDeltas sp).2 = some (xs, bs) ∧
    PackedDeltas.readDense (points.length + 1) 0 points.length bs = some (ys, rest) ∧
    (∀ k, -Δ ≤ xs.getD k 0 ∧ xs.getD k 0 ≤ Δ) ∧ (∀ k, -Δ ≤ ys.getD k 0 ∧ ys.getD k 0 ≤ Δ) ∧
    dt = ⟨ts.2, (List.range points.length).map fun k => (xs.getD k 0, ys.getD k 0),
      (List.range points.length).map fun _ => true⟩

theorem DenseWF.bounds (points : List Iup.Pt) (sp : Option (List Nat)) (Δ : Int) (hΔ : 0 ≤ Δ)
    (ts : GvarData.RawTuple × Int) (dt : DTuple) (h : DenseWF points sp Δ ts dt) :
    dt.s = ts.2 ∧ dt.has.length = points.length ∧ dt.ds.length = points.length ∧
    (∀ k, (-Δ ≤ (getP dt.ds k).1 ∧ (getP dt.ds k).1 ≤ Δ) ∧ (-Δ ≤ (getP dt.ds k).2 ∧ (getP dt.ds k).2 ≤ Δ)) ∧
    (∀ k, dt.has.getD k false = false → getP dt.ds k = (0, 0)) := by
  obtain ⟨_, xs, ys, bs, rest, _, _, hbx, hby, rfl⟩ := h
  refine ⟨rfl, by simp, by simp, fun k => ?_, fun k hk => ?_⟩
  · by_cases hkn : k < points.length
    · rw [getP_map_range, if_pos hkn]; exact ⟨hbx k, hby k⟩
    · rw [getP_map_range, if_neg hkn]; simp only []; omega
  · by_cases hkn : k < points.length
    · exfalso
      simp only [] at hk
      rw [getD_map_range, if_pos hkn] at hk
      cases hk
    · exact (getP_map_range _ _ k).trans (if_neg hkn)

/-- one model step (either kind) is the decoded step -/
def StepDecodes (points : List Iup.Pt) (ends : List Nat) (sp : Option (List Nat))
    (ts : GvarData.RawTuple × Int) (dt : DTuple) : Prop :=
  ∀ acc : List Iup.Pt, acc.length = points.length →
    (if ts.1.allPoints sp then accDense (ts.1.ptsAndDeltas sp).2 ts.2 acc
      else simpleSparseTuple points ends ts.1 sp ts.2 acc)
    = (decodedContribution points ends dt).map (stepAdd acc)

theorem fold_eq_decoded (points : List Iup.Pt) (ends : List Nat) (sp : Option (List Nat)) :
    ∀ (l : List (GvarData.RawTuple × Int)) (dts : List DTuple) (acc : List Iup.Pt),
      l.length = dts.length → acc.length = points.length →
      (∀ p ∈ l.zip dts, StepDecodes points ends sp p.1 p.2) →
      l.foldl (fun (o : Option (List Iup.Pt)) (ts : GvarData.RawTuple × Int) => match o with
        | none => none
        | some d => if ts.1.allPoints sp then accDense (ts.1.ptsAndDeltas sp).2 ts.2 d
                    else simpleSparseTuple points ends ts.1 sp ts.2 d) (some acc)
      = dts.foldl (fun (o : Option (List Iup.Pt)) t => match o with
        | none => none
        | some d => (decodedContribution points ends t).map (stepAdd d)) (some acc) := by
  intro l
  induction l with
  | nil => intro dts acc hl _ _; cases dts with
    | nil => rfl
    | cons _ _ => simp at hl
  | cons ts l ih =>
    intro dts acc hl ha hd
    cases dts with
    | nil => simp at hl
    | cons dt dts =>
      have hstep := hd (ts, dt) (by simp) acc ha
      simp only [List.foldl_cons]
      rw [hstep]
      cases hc : decodedContribution points ends dt with
      | none =>
        simp only [Option.map_none]
        rw [foldl_none _ (fun _ => rfl), foldl_none _ (fun _ => rfl)]
      | some c =>
        simp only [Option.map_some]
        exact ih dts _ (by simpa using hl) (by rw [stepAdd_length]; exact ha) (fun p hp => hd p (by simp [hp]))

theorem SparseDecodes.step (points : List Iup.Pt) (ends : List Nat) (sp : Option (List Nat))
    (ts : GvarData.RawTuple × Int) (dt : DTuple) (h : SparseDecodes points sp ts dt) :
    StepDecodes points ends sp ts dt := by
  intro acc ha
  obtain ⟨hsp, hacc⟩ := h
  simp only [hsp, Bool.false_eq_true, if_false]
  cases hstep : simpleSparseTuple points ends ts.1 sp ts.2 acc with
  | none =>
    -- then `interpolate_deltas` failed, and so does the decoded step
    unfold simpleSparseTuple at hstep
    simp only [hacc] at hstep
    unfold decodedContribution
    cases hri : readerInterpolate points dt.has ends (dt.work points) with
    | none => rfl
    | some out => simp [hri] at hstep
  | some acc' =>
    obtain ⟨c, e, hc⟩ := step_contribution points ends sp acc ts acc' ha (by simp [hsp, hstep])
    unfold TupleContribution at hc
    simp only [hsp, Bool.false_eq_true, if_false] at hc
    obtain ⟨buf, has, out, h1, h2, h3⟩ := hc
    rw [hacc] at h1
    simp only [Option.some.injEq, Prod.mk.injEq] at h1
    obtain ⟨rfl, rfl⟩ := h1
    have hdc : decodedContribution points ends dt = some c := by
      unfold decodedContribution; rw [h2, h3]; rfl
    rw [hdc, e]
    rfl

/-- the dense model step given the decoded contribution of the all-explicit tuple -/
theorem DenseWF.step (points : List Iup.Pt) (ends : List Nat) (sp : Option (List Nat)) (Δ : Int)
    (ts : GvarData.RawTuple × Int) (dt : DTuple) (h : DenseWF points sp Δ ts dt)
    (hc : ∀ (xs ys : List Int), (∀ k, -Δ ≤ xs.getD k 0 ∧ xs.getD k 0 ≤ Δ) → (∀ k, -Δ ≤ ys.getD k 0 ∧ ys.getD k 0 ≤ Δ) →
      decodedContribution points ends ⟨ts.2, (List.range points.length).map fun k => (xs.getD k 0, ys.getD k 0),
          (List.range points.length).map fun _ => true⟩
        = some ((List.range points.length).map fun k =>
        (fxScaled ts.2 (xs.getD k 0), fxScaled ts.2 (ys.getD k 0)))) :
    StepDecodes points ends sp ts dt := by
  obtain ⟨h0, xs, ys, bs, rest, hx, hy, hbx, hby, rfl⟩ := h
  intro acc ha
  rw [hc xs ys hbx hby]
  simp only [h0, if_true, Option.map_some]
  unfold accDense
  simp only [ha, hx, hy]
  rw [stepAdd_map_range acc _ _ ha]
  rfl

/-- one tuple, any contours: every contour point is `Near` the scaled specification of its own contour, the points
behind the last contour keep their working value (`C10.apply_deltas_eq_spec` spells this out) -/
theorem tuple_near (np : Nat) (points ds : List Iup.Pt) (has : List Bool) (s : Int) (ends : List Nat)
    (hpl : points.length = np) (hhl : has.length = np) (hdl : ds.length = np)
    (hwf : ContoursWF np 0 ends)
    (M Δ : Int) (hM : 0 ≤ M ∧ M ≤ 16383) (hΔ : 0 ≤ Δ) (hs : 0 < s ∧ s ≤ 65536)
    (hfit : 131072 * M + 4 * (Δ * 65536) + 65536 ≤ 2147483647)
    (hpts : ∀ k, (-M ≤ (getP points k).1 ∧ (getP points k).1 ≤ M) ∧ (-M ≤ (getP points k).2 ∧ (getP points k).2 ≤ M))
    (hds : ∀ k, (-Δ ≤ (getP ds k).1 ∧ (getP ds k).1 ≤ Δ) ∧ (-Δ ≤ (getP ds k).2 ∧ (getP ds k).2 ≤ Δ))
    (hds0 : ∀ k, has.getD k false = false → getP ds k = (0, 0)) :
    ∃ out, readerInterpolate points has ends (workOf points (ds.map fun d => (d.1 * s, d.2 * s))) = some out ∧
      out.length = np ∧
      ContoursAll (fun first last => ∀ k, first ≤ k → k ≤ last →
        Near (((inferSpec (points.drop first) ((ds.drop first).take (last - first + 1)) (has.drop first) (k - first)).1.1 * s,
               (inferSpec (points.drop first) ((ds.drop first).take (last - first + 1)) (has.drop first) (k - first)).1.2),
              ((inferSpec (points.drop first) ((ds.drop first).take (last - first + 1)) (has.drop first) (k - first)).2.1 * s,
               (inferSpec (points.drop first) ((ds.drop first).take (last - first + 1)) (has.drop first) (k - first)).2.2))
          (getP out k) (getP points k)) 0 ends ∧
      (∀ k, endOf 0 ends ≤ k → k < np →
        getP out k = ((getP points k).1 * 65536 + (getP ds k).1 * s, (getP points k).2 * 65536 + (getP ds k).2 * s)) := by
  have hr := InRange.scale points ds M Δ s hM hΔ hs hfit hpts hds
  obtain ⟨out, e, hl, _, hall, htail⟩ := glyphLoop_contribution np points (ds.map fun d => (d.1 * s, d.2 * s)) has
    hpl hhl (by rw [List.length_map, hdl]) M (Δ * 65536) hr (fun k hk => by rw [getP_scale, hds0 k hk]; simp)
    ends 0 _ hwf (by simp [workOf, hpl]) (fun k _ _ => rfl)
  rw [← hpl, ← readerInterpolate_eq_glyphLoop] at e
  refine ⟨out, e, hl, ContoursAll_mono ends 0 (fun first last hnear k hk1 hk2 => ?_) hall, fun k hk1 hk2 => ?_⟩
  · have hn := hnear k hk1 hk2
    rwa [← List.map_drop, ← List.map_take, inferSpec_scale _ _ _ _ s (by omega)] at hn
  · rw [htail k hk1 hk2, getP_workOf _ _ k (by omega), getP_scale]

/-- a contribution entry: `working − point` is one wrapping subtraction when the point fits 16.16 -/
theorem ptSub_fromI32 (o p : Iup.Pt) (h1 : -32768 ≤ p.1 ∧ p.1 ≤ 32767) (h2 : -32768 ≤ p.2 ∧ p.2 ≤ 32767) :
    ptSub o (ptFromI32 p) = (wrapI32 (o.1 - p.1 * 65536), wrapI32 (o.2 - p.2 * 65536)) := by
  simp only [ptSub, ptFromI32, Iup.fxSub, Fixed.fromI32]
  rw [wrapI32_of_in (x := p.1 * 65536) (by omega) (by omega), wrapI32_of_in (x := p.2 * 65536) (by omega) (by omega)]

/-- the fold over decoded tuples whose `interpolate_deltas` all succeed, at ANY point `k` (in a
contour or not): the wrapped sum of the tuples' `working − point` -/
theorem applyDecoded_getD (points : List Iup.Pt) (ends : List Nat) (ts : List DTuple)
    (hout : ∀ t ∈ ts, ∃ out, Iup.readerInterpolate points t.has ends (t.work points) = some out)
    (k : Nat) (hk : k < points.length)
    (hp : (-32768 ≤ (Iup.getP points k).1 ∧ (Iup.getP points k).1 ≤ 32767) ∧
      (-32768 ≤ (Iup.getP points k).2 ∧ (Iup.getP points k).2 ≤ 32767)) :
    ∃ deltas, applyDecoded points ends ts = some deltas ∧
      deltas.getD k (0, 0) =
        (wrapI32 (ts.map fun t => (Iup.getP (outOf points ends t) k).1 - (Iup.getP points k).1 * 65536).sum,
         wrapI32 (ts.map fun t => (Iup.getP (outOf points ends t) k).2 - (Iup.getP points k).2 * 65536).sum) := by
  let f : DTuple → List Iup.Pt := fun t =>
    (List.range points.length).map fun j => ptSub (Iup.getP (outOf points ends t) j) (ptFromI32 (Iup.getP points j))
  have hdec : ∀ t ∈ ts, decodedContribution points ends t = some (f t) := by
    intro t ht
    obtain ⟨out, e⟩ := hout t ht
    simp only [decodedContribution, f, outOf, e, Option.map_some, Option.getD_some]
    rfl
  refine ⟨_, applyDecoded_fold points ends f ts _ hdec, ?_⟩
  rw [accumulate_closed (ts.map f) points.length k hk]
  simp only [colX, colY, List.map_map, Function.comp_def, f, getD_map_range, if_pos hk,
    ptSub_fromI32 _ _ hp.1 hp.2, wrap_sum_wrap]

theorem applyDecoded_column (np : Nat) (points : List Iup.Pt) (ends : List Nat) (ts : List DTuple)
    (hpl : points.length = np) (hwf : ContoursWF np 0 ends)
    (M Δ : Int) (hM : 0 ≤ M ∧ M ≤ 16383) (hΔ : 0 ≤ Δ)
    (hfit : 131072 * M + 4 * (Δ * 65536) + 65536 ≤ 2147483647)
    (hpts : ∀ k, (-M ≤ (Iup.getP points k).1 ∧ (Iup.getP points k).1 ≤ M) ∧
      (-M ≤ (Iup.getP points k).2 ∧ (Iup.getP points k).2 ≤ M))
    (hts : ∀ t ∈ ts, t.has.length = np ∧ t.ds.length = np ∧ (0 < t.s ∧ t.s ≤ 65536) ∧
      (∀ k, (-Δ ≤ (Iup.getP t.ds k).1 ∧ (Iup.getP t.ds k).1 ≤ Δ) ∧ (-Δ ≤ (Iup.getP t.ds k).2 ∧ (Iup.getP t.ds k).2 ≤ Δ)) ∧
      (∀ k, t.has.getD k false = false → Iup.getP t.ds k = (0, 0)))
    (c : Nat × Nat) (hc : c ∈ contoursOf 0 ends) (k : Nat) (hk1 : c.1 ≤ k) (hk2 : k ≤ c.2) :
    ∃ deltas, applyDecoded points ends ts = some deltas ∧
      deltas.getD k (0, 0) =
        (wrapI32 (ts.map fun t => (Iup.getP (outOf points ends t) k).1 - (Iup.getP points k).1 * 65536).sum,
         wrapI32 (ts.map fun t => (Iup.getP (outOf points ends t) k).2 - (Iup.getP points k).2 * 65536).sum) ∧
      ∀ t ∈ ts,
        Term.Ok ⟨(Iup.getP (outOf points ends t) k).1 - (Iup.getP points k).1 * 65536, t.s,
          (Iup.inferSpec (points.drop c.1) ((t.ds.drop c.1).take (c.2 - c.1 + 1)) (t.has.drop c.1) (k - c.1)).1.1, (Iup.inferSpec (points.drop c.1) ((t.ds.drop c.1).take (c.2 - c.1 + 1)) (t.has.drop c.1) (k - c.1)).1.2⟩ ∧
        Term.Ok ⟨(Iup.getP (outOf points ends t) k).2 - (Iup.getP points k).2 * 65536, t.s,
          (Iup.inferSpec (points.drop c.1) ((t.ds.drop c.1).take (c.2 - c.1 + 1)) (t.has.drop c.1) (k - c.1)).2.1, (Iup.inferSpec (points.drop c.1) ((t.ds.drop c.1).take (c.2 - c.1 + 1)) (t.has.drop c.1) (k - c.1)).2.2⟩ := by
  have hcw := ContoursAll_mem ends 0 (ContoursWF_all np ends 0 hwf) c hc
  have hknp : k < points.length := by omega
  have hnear := fun t (ht : t ∈ ts) =>
    tuple_near np points t.ds t.has t.s ends hpl (hts t ht).1 (hts t ht).2.1 hwf M Δ hM hΔ (hts t ht).2.2.1 hfit
      hpts (hts t ht).2.2.2.1 (hts t ht).2.2.2.2
  obtain ⟨deltas, e, hget⟩ := applyDecoded_getD points ends ts (fun t ht => (hnear t ht).imp fun _ h => h.1)
    k hknp ⟨by have := (hpts k).1; omega, by have := (hpts k).2; omega⟩
  refine ⟨deltas, e, hget, fun t ht => ?_⟩
  obtain ⟨out, e, _, hall, _⟩ := hnear t ht
  rw [show outOf points ends t = out by simp [outOf, DTuple.work, e]]
  exact near_terms (ContoursAll_mem ends 0 hall c hc k hk1 hk2)

end FontVerif.GvarApply
