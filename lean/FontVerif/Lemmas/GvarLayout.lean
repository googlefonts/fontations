/-
The gvar data array: with the table written so far as induction parameter (`dataForGid_writeData`),
glyph `i`'s stored offsets resolve to glyph `i`'s bytes, short offsets (padding to even) and long.
-/
import FontVerif.Model.GvarLayout
namespace FontVerif.GvarLayout

def padOf (long : Bool) (b : List Nat) : List Nat := if !long ∧ b.length % 2 = 1 then [0] else []

/-- what the reader hands out for glyph data `b`: the bytes, plus the padding byte with short
offsets and odd length; nothing for a glyph without variations -/
def expected (long : Bool) (b : List Nat) : Option (List Nat) :=
  if b.isEmpty then none else some (b ++ padOf long b)

theorem offsetsFrom_head (long : Bool) (acc : Nat) (bs : List (List Nat)) :
    (offsetsFrom long acc bs)[0]? = some acc := by
  cases bs <;> simp [offsetsFrom]

def unit (long : Bool) (len : Nat) : Nat := if long then len else shortSize len

theorem offsetsFrom_cons (long : Bool) (acc : Nat) (b : List Nat) (bs : List (List Nat)) :
    offsetsFrom long acc (b :: bs) = acc :: offsetsFrom long (acc + unit long b.length) bs := rfl

theorem scale_unit (long : Bool) (len : Nat) :
    readOffset long (unit long len) = len + (if !long ∧ len % 2 = 1 then 1 else 0) := by
  unfold readOffset unit shortSize
  cases long
  · simp; split <;> omega
  · simp

theorem readOffset_add (long : Bool) (a b : Nat) :
    readOffset long (a + b) = readOffset long a + readOffset long b := by
  unfold readOffset; cases long <;> simp <;> omega

theorem length_padded (long : Bool) (b : List Nat) :
    (b ++ padOf long b).length = readOffset long (unit long b.length) := by
  rw [scale_unit, List.length_append]; unfold padOf; split <;> rfl

/-- the writer's step for ANY glyph: an empty one is its own (empty) padded data, so it needs no case -/
theorem writeData_cons (long : Bool) (pos : Nat) (b : List Nat) (bs : List (List Nat))
    (heven : long = false → pos % 2 = 0) :
    writeData long pos (b :: bs) =
      (b ++ padOf long b) ++ writeData long (pos + (b ++ padOf long b).length) bs := by
  cases b with
  | nil => simp [writeData, padOf]
  | cons x b =>
    have hpad : (if !long ∧ (pos + (x :: b).length) % 2 = 1 then [0] else ([] : List Nat)) = padOf long (x :: b) := by
      unfold padOf
      cases long with
      | true => simp
      | false =>
        have := heven rfl
        have e : ((pos + (x :: b).length) % 2 = 1) ↔ ((x :: b).length % 2 = 1) := by omega
        simp only [Bool.not_false, true_and, e]
    simp only [writeData, List.isEmpty_cons, Bool.false_eq_true, if_false, hpad, List.length_append, Nat.add_assoc]

theorem dataForGid_cons_succ (table : List Nat) (long : Bool) (dao a : Nat) (offs : List Nat) (i : Nat) :
    dataForGid table long dao (a :: offs) (i + 1) = dataForGid table long dao offs i := by
  simp only [dataForGid, dataRange, List.getElem?_cons_succ]

/-- the reader, when the stored offsets `gid` and `gid + 1` delimit the segment `seg` of the table -/
theorem dataForGid_slice (long : Bool) (dao a b : Nat) (offs : List Nat) (gid : Nat) (pre seg post : List Nat)
    (h0 : offs[gid]? = some a) (h1 : offs[gid + 1]? = some b)
    (hpre : pre.length = dao + readOffset long a) (hseg : (pre ++ seg).length = dao + readOffset long b)
    (hsz : (pre ++ (seg ++ post)).length < 4294967296) :
    dataForGid (pre ++ (seg ++ post)) long dao offs gid = some (if seg.isEmpty then none else some seg) := by
  simp only [List.length_append] at hseg hsz
  have c1 : ¬ (pre.length ≥ 4294967296 ∨ pre.length + seg.length ≥ 4294967296) := by omega
  unfold dataForGid dataRange
  simp only [h0, h1, ← hpre, ← hseg, c1, if_false]
  cases seg with
  | nil => simp
  | cons x seg =>
    have c2 : ¬ (pre.length ≥ pre.length + (x :: seg).length) := by simp
    have c3 : pre.length + (x :: seg).length ≤ (pre ++ (x :: seg ++ post)).length := by
      simp only [List.length_append]; omega
    simp only [c2, c3, if_false, if_true, Nat.add_sub_cancel_left, List.drop_left, List.take_left,
      List.isEmpty_cons, Bool.false_eq_true]

/-- glyph `i` of `blobs` resolves to its data when the table written so far is `pre` (its length is
where the next glyph goes) -/
theorem dataForGid_writeData (long : Bool) (dao : Nat) :
    ∀ (blobs : List (List Nat)) (acc : Nat) (pre : List Nat) (i : Nat),
      pre.length = dao + readOffset long acc →
      (long = false → pre.length % 2 = 0) →
      (pre ++ writeData long pre.length blobs).length < 4294967296 →
      i < blobs.length →
      dataForGid (pre ++ writeData long pre.length blobs) long dao (offsetsFrom long acc blobs) i
        = some (expected long (blobs.getD i [])) := by
  intro blobs
  induction blobs with
  | nil => intro acc pre i _ _ _ hi; simp at hi
  | cons b bs ih =>
    intro acc pre i hpre heven hsz hi
    rw [writeData_cons long pre.length b bs heven] at hsz ⊢
    rw [offsetsFrom_cons]
    have hlen := length_padded long b
    have hpre' : (pre ++ (b ++ padOf long b)).length = dao + readOffset long (acc + unit long b.length) := by
      rw [readOffset_add, List.length_append, hlen]; omega
    cases i with
    | zero =>
      rw [dataForGid_slice long dao acc _ _ 0 pre _ _ rfl (offsetsFrom_head long _ bs) hpre hpre' hsz]
      cases b <;> simp [expected, padOf]
    | succ i =>
      have heven' : long = false → (pre ++ (b ++ padOf long b)).length % 2 = 0 := by
        intro hl
        have := heven hl
        subst hl
        rw [List.length_append, hlen]
        simp only [readOffset, Bool.false_eq_true, if_false]; omega
      rw [← List.append_assoc, ← List.length_append] at hsz ⊢
      rw [dataForGid_cons_succ]
      exact ih (acc + unit long b.length) (pre ++ (b ++ padOf long b)) i hpre' heven' hsz (by simpa using hi)

theorem offsetsFrom_le : ∀ (blobs : List (List Nat)) (acc : Nat) (o : Nat),
    o ∈ offsetsFrom false acc blobs → o ≤ acc + (blobs.map fun b => shortSize b.length).sum := by
  intro blobs
  induction blobs with
  | nil => intro acc o h; simp [offsetsFrom] at h; omega
  | cons b bs ih =>
    intro acc o h
    simp only [offsetsFrom, List.mem_cons] at h
    simp only [List.map_cons, List.sum_cons]
    rcases h with rfl | h
    · omega
    · have := ih _ o h
      simp only [Bool.false_eq_true, if_false] at this
      omega

theorem sum_short (blobs : List (List Nat)) :
    (blobs.map fun b => b.length + b.length % 2).sum = 2 * (blobs.map fun b => shortSize b.length).sum := by
  induction blobs with
  | nil => rfl
  | cons b bs ih =>
    simp only [List.map_cons, List.sum_cons, ih, shortSize]
    omega

end FontVerif.GvarLayout
