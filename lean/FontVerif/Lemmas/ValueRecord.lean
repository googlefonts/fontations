/-
C04, GPOS ValueRecord (Model/ValueRecord.lean): the eight conditional slots are written and read back slot by slot
(`readSlots_writeSlots`), and one fact per slot (`resolve_slot`, `slot_normal_*`) stands where a case split over the
eight format bits would; then arrays of records of one format and the SinglePos headers.
-/
import FontVerif.Model.ValueRecord
import FontVerif.Lemmas.Field

namespace FontVerif.ValueRecord
open FontVerif.Field

theorem writeSlots_length (sl : List (Bool × Nat)) :
    (writeSlots sl).length = 2 * (sl.filter (·.1)).length := by
  induction sl with
  | nil => simp [writeSlots]
  | cons e r ih =>
    obtain ⟨p, v⟩ := e
    cases p <;> simp [writeSlots, ih, be_length] <;> omega

theorem readSlots_writeSlots (sl : List (Bool × Nat)) (rest : Bytes) (h : ∀ e ∈ sl, e.2 < 65536) :
    readSlots (sl.map (·.1)) (writeSlots sl ++ rest)
      = some (sl.map (fun e => if e.1 then some e.2 else none), rest) := by
  induction sl with
  | nil => simp [readSlots, writeSlots]
  | cons e r ih =>
    obtain ⟨p, v⟩ := e
    have hv : v < 65536 := h (p, v) (by simp)
    have hr : ∀ e ∈ r, e.2 < 65536 := fun e he => h e (by simp [he])
    cases p with
    | false => simp [readSlots, writeSlots, ih hr]
    | true =>
      have hlen : ¬ (be 2 v ++ (writeSlots r ++ rest)).length < 2 := by
        simp [be_length]
      have hdrop : (be 2 v ++ (writeSlots r ++ rest)).drop 2 = writeSlots r ++ rest := drop_be_append 2 v _
      have htake : (be 2 v ++ (writeSlots r ++ rest)).take 2 = be 2 v := take_be_append 2 v _
      have hval : beVal (be 2 v) = v := beVal_be 2 v (by simpa using hv)
      simp only [List.map_cons, readSlots, writeSlots, if_true, List.append_assoc, hlen, if_false, hdrop, htake,
        hval, ih hr]

theorem fmtBits_eq (f : Nat) :
    fmtBits f = [hasBit f 0, hasBit f 1, hasBit f 2, hasBit f 3, hasBit f 4, hasBit f 5, hasBit f 6, hasBit f 7] := by
  simp [fmtBits, List.range, List.range.loop]

theorem slots_bits (o : Owned) : (slots o).map (·.1) = fmtBits (format o) := by
  simp [slots, fmtBits_eq]

theorem resolve_devOff (x : Option Nat) (h : devOk x) : resolve (devOff x) = x := by
  cases x with
  | none => simp [resolve, devOff]
  | some v =>
    have hv : v ≠ 0 := by have := h v rfl; omega
    simp [resolve, devOff, hv]

theorem devOff_lt (x : Option Nat) (h : devOk x) : devOff x < 65536 := by
  cases x with
  | none => simp [devOff]
  | some v => exact (h v rfl).2

theorem getD_lt (x : Option Nat) (h : optLt x 65536) : x.getD 0 < 65536 := by
  cases x with
  | none => simp
  | some v => exact h v rfl

theorem slots_lt (o : Owned) (h : WellSized o) : ∀ e ∈ slots o, e.2 < 65536 := by
  obtain ⟨h0, h1, h2, h3, h4, h5, h6, h7⟩ := h
  intro e he
  simp only [slots, List.mem_cons, List.mem_nil_iff, or_false] at he
  rcases he with rfl | rfl | rfl | rfl | rfl | rfl | rfl | rfl
  · exact getD_lt _ h0
  · exact getD_lt _ h1
  · exact getD_lt _ h2
  · exact getD_lt _ h3
  · exact devOff_lt _ h4
  · exact devOff_lt _ h5
  · exact devOff_lt _ h6
  · exact devOff_lt _ h7

theorem resolve_slot (b : Bool) (x : Option Nat) (h : devOk x) :
    resolve ((if b then some (devOff x) else none : Option Nat).getD 0) = if b then x else none := by
  cases b
  · rfl
  · exact resolve_devOff x h

theorem read_write_normalize (o : Owned) (rest : Bytes) (h : WellSized o) :
    ∃ p, read (format o) (write o ++ rest) = some (p, rest) ∧ toOwned p = normalize o := by
  have hr := readSlots_writeSlots (slots o) rest (slots_lt o h)
  rw [slots_bits] at hr
  unfold ValueRecord.read ValueRecord.write
  rw [hr]
  obtain ⟨_, _, _, _, h4, h5, h6, h7⟩ := h
  refine ⟨_, rfl, ?_⟩
  simp only [toOwned, normalize, resolve_slot _ _ h4, resolve_slot _ _ h5, resolve_slot _ _ h6, resolve_slot _ _ h7]

/-- `normalize` changes a slot's value only where the format lacks its flag: such a slot is not written -/
theorem slot_normal_scalar (b : Bool) (x : Option Nat) :
    (if b then be 2 ((if b then some (x.getD 0) else none : Option Nat).getD 0) else []) = if b then be 2 (x.getD 0) else [] := by
  cases b <;> rfl

theorem slot_normal_dev (b : Bool) (x : Option Nat) :
    (if b then be 2 (devOff (if b then x else none)) else []) = if b then be 2 (devOff x) else [] := by
  cases b <;> rfl

theorem write_normalize (o : Owned) : write (normalize o) = write o := by
  have hf : format (normalize o) = format o := rfl
  unfold ValueRecord.write slots
  rw [hf]
  simp only [normalize, writeSlots, slot_normal_scalar, slot_normal_dev]

theorem write_length (o : Owned) : (write o).length = encodedSize (format o) := by
  unfold ValueRecord.write
  rw [writeSlots_length]
  have h1 : ((slots o).filter (·.1)).length = (((slots o).map (·.1)).filter id).length := by
    rw [List.filter_map]; simp [Function.comp_def]
  rw [h1, slots_bits]
  simp [encodedSize, fmtBits, List.filter_map, Function.comp_def]

theorem readMany_writeMany (f : Nat) (rs : List Owned) (rest : Bytes)
    (h : ∀ r ∈ rs, WellSized r ∧ format r = f) :
    ∃ ps, readMany f rs.length (writeMany rs ++ rest) = some (ps, rest) ∧ ps.map toOwned = rs.map normalize := by
  induction rs with
  | nil => exact ⟨[], by simp [readMany, writeMany], rfl⟩
  | cons r rs ih =>
    obtain ⟨hw, hf⟩ := h r (by simp)
    obtain ⟨ps, hps, hmap⟩ := ih (fun r hr => h r (by simp [hr]))
    obtain ⟨p, hp, ho⟩ := read_write_normalize r (writeMany rs ++ rest) hw
    rw [hf] at hp
    refine ⟨p :: ps, ?_, by simp [ho, hmap]⟩
    simp only [List.length_cons, readMany, writeMany, List.flatMap_cons, List.append_assoc]
    simp only [writeMany] at hp hps
    rw [hp]
    simp only [hps]

theorem writeMany_length (f : Nat) (rs : List Owned) (h : ∀ r ∈ rs, format r = f) :
    (writeMany rs).length = rs.length * encodedSize f := by
  induction rs with
  | nil => simp [writeMany]
  | cons r rs ih =>
    have hr := h r (by simp)
    simp only [writeMany, List.flatMap_cons, List.length_append, List.length_cons] at ih ⊢
    rw [ih (fun r hr => h r (by simp [hr])), write_length, hr, Nat.add_mul]
    omega

theorem readComputed_writeMany (f : Nat) (rs : List Owned) (rest : Bytes)
    (h : ∀ r ∈ rs, WellSized r ∧ format r = f) (hz : encodedSize f ≠ 0) :
    ∃ ps, readComputed f rs.length (writeMany rs ++ rest) = some (ps, rest) ∧ ps.map toOwned = rs.map normalize := by
  have hl := writeMany_length f rs (fun r hr => (h r hr).2)
  obtain ⟨ps, hps, hmap⟩ := readMany_writeMany f rs [] h
  refine ⟨ps, ?_, hmap⟩
  unfold readComputed
  simp only []
  have h1 : ¬ (writeMany rs ++ rest).length < rs.length * encodedSize f := by
    rw [List.length_append, hl]; omega
  have h2 : (writeMany rs ++ rest).take (rs.length * encodedSize f) = writeMany rs := by
    rw [← hl, List.take_left']; rfl
  have h3 : (writeMany rs ++ rest).drop (rs.length * encodedSize f) = rest := by
    rw [← hl, List.drop_left']; rfl
  have h4 : rs.length * encodedSize f / encodedSize f = rs.length := Nat.mul_div_cancel _ (by omega)
  simp only [h1, if_false, hz, h2, h3, h4]
  rw [List.append_nil] at hps
  rw [hps]

/-- a `ComputedArray` of zero-sized records returns no record at all (known finding C04-empty-value-records) -/
theorem readComputed_zero_size (f n : Nat) (bs : Bytes) (hz : encodedSize f = 0) :
    readComputed f n bs = some ([], bs) := by
  simp [readComputed, hz, readMany]

theorem readU16_be (v : Nat) (rest : Bytes) (h : v < 65536) : readU16 (be 2 v ++ rest) = some (v, rest) := by
  have hlen : ¬ (be 2 v ++ rest).length < 2 := by simp [be_length]
  simp only [readU16, hlen, if_false, take_be_append, drop_be_append, beVal_be 2 v (by simpa using h)]

theorem readSP2_header (cov vf n : Nat) (bs : Bytes) (hc : cov < 65536) (hf : vf < 65536) (hn : n < 65536) :
    readSP2 (be 2 2 ++ be 2 cov ++ be 2 vf ++ be 2 n ++ bs)
      = (readComputed vf n bs).map fun r => (2, cov, vf, n, r.1, r.2) := by
  simp only [readSP2, List.append_assoc, readU16_be 2 _ (by omega), readU16_be _ _ hc, readU16_be _ _ hf,
    readU16_be _ _ hn]
  cases readComputed vf n bs <;> rfl

/-! The value record as an element of the field DSL: Model/Field.lean `WItem.arrayV [] 2`, reader segments
`[(popcnt 8 format, [2])]`. -/

def slotVals (sl : List (Bool × Nat)) : List Nat := (sl.filter (·.1)).map (·.2)

/-- the flat element the field DSL uses for a value record: the raw value of every slot its format contains -/
def flat (o : Owned) : List Nat := slotVals (slots o)

theorem emitRec_slotVals (sl : List (Bool × Nat)) (h : ∀ e ∈ sl, e.2 < 65536) :
    emitRec (List.replicate (slotVals sl).length 2) (slotVals sl) = some (writeSlots sl) := by
  induction sl with
  | nil => simp [slotVals, emitRec, writeSlots]
  | cons e r ih =>
    obtain ⟨p, v⟩ := e
    have hv : v < 65536 := h (p, v) (by simp)
    have hr : ∀ e ∈ r, e.2 < 65536 := fun e he => h e (by simp [he])
    have ih' := ih hr
    cases p with
    | false =>
      simpa [slotVals, writeSlots] using ih'
    | true =>
      have hv' : v < 256 ^ 2 := by simpa using hv
      simp only [slotVals, List.filter_cons, if_true, List.map_cons, List.length_cons, List.replicate_succ, emitRec,
        if_pos hv', writeSlots] at ih' ⊢
      rw [ih']

theorem hasBit_succ (f i : Nat) : hasBit f (i + 1) = hasBit (f / 2) i := by
  simp only [hasBit, Nat.pow_succ, Nat.mul_comm (2 ^ i) 2, ← Nat.div_div_eq_div_mul]

theorem filter_hasBit_length (k : Nat) : ∀ f, ((List.range k).filter (hasBit f)).length = popcount k f := by
  induction k with
  | zero => intro f; simp [popcount]
  | succ k ih =>
    intro f
    rw [List.range_succ_eq_map, List.filter_cons, popcount]
    have hmap : (List.filter (hasBit f) (List.map Nat.succ (List.range k))).length = popcount k (f / 2) := by
      rw [List.filter_map, List.length_map]
      have : (hasBit f ∘ Nat.succ) = hasBit (f / 2) := by
        funext i
        exact hasBit_succ f i
      rw [this, ih]
    have h0 : hasBit f 0 = (f % 2 == 1) := by simp [hasBit]
    by_cases hb : f % 2 = 1
    · simp [h0, hb, hmap]; omega
    · have : f % 2 = 0 := by omega
      simp [h0, this, hmap]

end FontVerif.ValueRecord
