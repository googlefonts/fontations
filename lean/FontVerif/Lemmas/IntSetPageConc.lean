/- C14 / concrete BitPage: the element-level page (`[u64; 8]` + cached length, Model/BitPageConc.lean)
refines the 512-bit page of Model/IntSet.lean.  Every operation of bitpage.rs commutes with the
abstraction function `CPage.abs` (pack the eight words little-endian) and keeps `CPageOk`. -/
import FontVerif.Lemmas.IntSetConcInv
import FontVerif.Lemmas.IntSetProcess
set_option exponentiation.threshold 600
namespace FontVerif.IntSet

theorem testBit_not64 (x t : Nat) (ht : t < 64) : (not64 x).testBit t = !x.testBit t := by
  unfold not64 U64_MAX
  rw [Nat.testBit_xor, Nat.testBit_two_pow_sub_one, Nat.testBit_mod_two_pow]
  simp [ht]

theorem not64_lt (x : Nat) : not64 x < 2 ^ 64 := by
  unfold not64 U64_MAX
  exact Nat.xor_lt_two_pow (by omega) (Nat.mod_lt _ (Nat.two_pow_pos 64))

theorem testBit_maskFwd (v k j : Nat) (hk : k < 64) (hj : j < 64) :
    (v &&& not64 (shl64 1 k - 1)).testBit j = (v.testBit j && decide (k ≤ j)) := by
  rw [Nat.testBit_and, testBit_not64 _ _ hj]
  have : shl64 1 k = 2 ^ k := by
    unfold shl64
    rw [Nat.one_shiftLeft, Nat.mod_eq_of_lt (Nat.pow_lt_pow_right (by omega) hk)]
  rw [this, Nat.testBit_two_pow_sub_one]
  by_cases hkj : k ≤ j <;> simp [hkj] <;> omega

theorem shl64_lt (x n : Nat) : shl64 x n < 2 ^ 64 := Nat.mod_lt _ (Nat.two_pow_pos 64)

theorem elemOp_union : ElemOp elemUnion (fun a b => a || b) :=
  ⟨fun a b i _ _ _ => Nat.testBit_or a b i, fun _ _ ha hb => Nat.or_lt_two_pow ha hb⟩

theorem elemOp_intersect : ElemOp elemIntersect (fun a b => a && b) :=
  ⟨fun a b i _ _ _ => Nat.testBit_and a b i, fun _ _ _ hb => Nat.and_lt_two_pow _ hb⟩

theorem elemOp_subtract : ElemOp elemSubtract (fun a b => a && !b) := by
  refine ⟨?_, fun _ _ _ _ => Nat.and_lt_two_pow _ (not64_lt _)⟩
  intro a b i _ _ hi
  unfold elemSubtract
  rw [Nat.testBit_and, testBit_not64 _ _ hi]

theorem elementIndex_lt (v : Nat) : elementIndex v < 8 := by
  unfold elementIndex; omega

theorem elemIndexBitMask_lt (v : Nat) : elemIndexBitMask v < 2 ^ 64 :=
  Nat.pow_lt_pow_right (by omega) (Nat.mod_lt _ (by omega))

theorem and_two_pow_eq_zero (x i : Nat) : ((x &&& 2 ^ i) == 0) = !x.testBit i := by
  cases hb : x.testBit i
  · have : x &&& 2 ^ i = 0 := by
      apply Nat.eq_of_testBit_eq
      intro j
      rw [Nat.testBit_and, Nat.testBit_two_pow]
      by_cases hj : i = j
      · subst hj; simp [hb]
      · simp [hj]
    simp [this]
  · have : (x &&& 2 ^ i).testBit i = true := by
      rw [Nat.testBit_and, Nat.testBit_two_pow]; simp [hb]
    have hne : x &&& 2 ^ i ≠ 0 := by
      intro h0; rw [h0] at this; simp at this
    simp [hne]

theorem getD_lt {es : List Nat} (h : ∀ e ∈ es, e < 2 ^ 64) (i : Nat) : es.getD i 0 < 2 ^ 64 := by
  rw [List.getD_eq_getElem?_getD]
  cases hi : es[i]? with
  | none => exact Nat.two_pow_pos 64
  | some x => exact h x (List.mem_of_getElem? hi)

theorem mem_set_lt {es : List Nat} (h : ∀ e ∈ es, e < 2 ^ 64) (i a : Nat) (ha : a < 2 ^ 64) :
    ∀ e ∈ es.set i a, e < 2 ^ 64 := by
  intro e he
  rcases List.mem_or_eq_of_mem_set he with h1 | h1
  · exact h e h1
  · exact h1 ▸ ha

theorem testBit_pack (es : List Nat) (h : ∀ e ∈ es, e < 2 ^ 64) (j : Nat) :
    (pack es).testBit j = (es.getD (j / 64) 0).testBit (j % 64) := by
  induction es generalizing j with
  | nil => simp [pack]
  | cons e es ih =>
    have he : e < 2 ^ 64 := h e (List.mem_cons_self)
    have hes : ∀ x ∈ es, x < 2 ^ 64 := fun x hx => h x (List.mem_cons_of_mem _ hx)
    unfold pack
    rw [Nat.add_comm, Nat.testBit_two_pow_mul_add _ he]
    by_cases hj : j < 64
    · have h0 : j / 64 = 0 := by omega
      have h1 : j % 64 = j := by omega
      simp [hj, h0, h1]
    · have h0 : j / 64 = (j - 64) / 64 + 1 := by omega
      have h1 : j % 64 = (j - 64) % 64 := by omega
      rw [if_neg hj, ih hes, h0, h1]
      simp

theorem pack_lt (es : List Nat) (h : ∀ e ∈ es, e < 2 ^ 64) : pack es < 2 ^ (64 * es.length) := by
  apply Nat.lt_pow_two_of_testBit
  intro i hi
  rw [testBit_pack es h, getD_of_length_le 0 (by omega)]
  simp

theorem pack_elem (es : List Nat) (h : ∀ e ∈ es, e < 2 ^ 64) (i : Nat) :
    pack es / 2 ^ (i * 64) % 2 ^ 64 = es.getD i 0 := by
  apply Nat.eq_of_testBit_eq
  intro j
  rw [Nat.testBit_mod_two_pow, Nat.testBit_div_two_pow, testBit_pack es h]
  by_cases hj : j < 64
  · have h0 : (j + i * 64) / 64 = i := by omega
    have h1 : (j + i * 64) % 64 = j := by omega
    simp [hj, h0, h1]
  · have : (es.getD i 0).testBit j = false :=
      Nat.testBit_lt_two_pow (Nat.lt_of_lt_of_le (getD_lt h i) (Nat.pow_le_pow_right (by omega) (by omega)))
    rw [this]; simp [hj]

theorem testBit_pack_set {es : List Nat} (hes : ∀ e ∈ es, e < 2 ^ 64) {k a : Nat} (hk : k < es.length)
    (ha : a < 2 ^ 64) (j : Nat) :
    (pack (es.set k a)).testBit j = if k = j / 64 then a.testBit (j % 64) else (pack es).testBit j := by
  rw [testBit_pack _ (mem_set_lt hes k a ha), testBit_pack es hes, getD_set]
  by_cases h : k = j / 64
  · rw [if_pos ⟨h, hk⟩, if_pos h]
  · rw [if_neg (fun hc => h hc.1), if_neg h]

theorem pack_injective (es es' : List Nat) (hl : es.length = es'.length)
    (h : ∀ e ∈ es, e < 2 ^ 64) (h' : ∀ e ∈ es', e < 2 ^ 64) (hp : pack es = pack es') : es = es' := by
  apply List.ext_getElem hl
  intro i h1 h2
  have a1 := pack_elem es h i
  have a2 := pack_elem es' h' i
  rw [hp, a2] at a1
  simpa [List.getD_eq_getElem?_getD, h1, h2] using a1.symm

theorem elemMembers_length (base e : Nat) : (elemMembers base e).length = countOnes e := by
  rw [elemMembers_eq, List.length_map]; rfl

theorem recomputeLength_eq_popCount (es : List Nat) (hl : es.length = 8) (h : ∀ e ∈ es, e < 2 ^ 64) :
    recomputeLength es = popCount (pack es) := by
  unfold popCount pageMembers recomputeLength
  rw [List.length_flatMap, ← hl, ← List.sum_eq_foldl]
  simp only [elemMembers_length, pack_elem es h]
  conv => lhs; rw [← map_getD_range es 0, List.map_map]
  rfl

theorem CPage.testBit_abs (p : CPage) (h : CPageOk p) (j : Nat) :
    p.abs.bits.testBit j = (p.elems.getD (j / 64) 0).testBit (j % 64) :=
  testBit_pack p.elems h.2.1 j

theorem CPage.abs_ok (p : CPage) (h : CPageOk p) : PageOk p.abs := by
  refine ⟨?_, ?_⟩
  · have := pack_lt p.elems h.2.1
    rw [h.1] at this
    exact this
  · show p.len = popCount (pack p.elems)
    rw [h.2.2, recomputeLength_eq_popCount _ h.1 h.2.1]

theorem cpageOk_zero : CPageOk CPage.zero := by
  refine ⟨rfl, ?_, by decide⟩
  intro e he
  simp [CPage.zero] at he
  omega

theorem CPage.abs_zero : CPage.zero.abs = Page.zero := by
  simp [CPage.zero, CPage.abs, Page.zero, pack, List.replicate]

theorem cpageOk_of_abs {q : CPage} (hl : q.elems.length = 8) (hb : ∀ e ∈ q.elems, e < 2 ^ 64)
    (hlen : q.len = popCount (pack q.elems)) : CPageOk q :=
  ⟨hl, hb, by rw [hlen, recomputeLength_eq_popCount _ hl hb]⟩

theorem page_ext {p q : Page} (hb : p.bits = q.bits) (hl : p.len = q.len) : p = q := by
  cases p; cases q; simp only at hb hl; rw [hb, hl]

theorem CPage.abs_eq_ofBits {q : CPage} (hq : CPageOk q) {B : Nat} (hb : q.abs.bits = B) :
    q.abs = Page.ofBits B := by
  apply page_ext hb
  show q.len = popCount B
  rw [hq.2.2, recomputeLength_eq_popCount _ hq.1 hq.2.1, ← hb]; rfl

theorem CPage.element_bit (p : CPage) (v : Nat) (h : CPageOk p) :
    (p.element v).testBit (v % 64) = p.abs.bits.testBit (v % 512) := by
  rw [CPage.testBit_abs p h]
  have h1 : v % 512 % 64 = v % 64 := by omega
  rw [h1]; rfl

/-- `insert` / `remove`: word `element_index(v)` combined with `1 << (v & 63)` through `eop` -/
theorem CPage.maskBit_bits {eop : Nat → Nat → Nat} {φ : Bool → Bool → Bool} (he : ElemOp eop φ)
    (hφ : ∀ x, φ x false = x) (p : CPage) (h : CPageOk p) (v j : Nat) :
    (pack (p.elems.set (elementIndex v) (eop (p.element v) (elemIndexBitMask v)))).testBit j =
      φ (p.abs.bits.testBit j) (decide (v % 512 = j)) := by
  have hel : p.element v < 2 ^ 64 := getD_lt h.2.1 _
  rw [testBit_pack_set h.2.1 (by rw [h.1]; exact elementIndex_lt v)
    (he.lt _ _ hel (elemIndexBitMask_lt v)), CPage.testBit_abs p h]
  unfold elementIndex
  by_cases hj : v % 512 / 64 = j / 64
  · rw [if_pos hj, he.bit _ _ _ hel (elemIndexBitMask_lt v) (Nat.mod_lt _ (by omega))]
    unfold CPage.element elementIndex elemIndexBitMask
    rw [Nat.testBit_two_pow, hj]
    congr 1
    apply decide_eq_decide.mpr
    omega
  · rw [if_neg hj, show decide (v % 512 = j) = false from decide_eq_false (by omega), hφ]
    exact testBit_pack p.elems h.2.1 j

theorem CPage.insert_isNew (p : CPage) (v : Nat) (h : CPageOk p) :
    (p.insert v).2 = (pageInsert p.abs v).2 := by
  show ((p.element v &&& elemIndexBitMask v) == 0) = !p.abs.bits.testBit (v % 512)
  unfold elemIndexBitMask
  rw [and_two_pow_eq_zero, CPage.element_bit p v h]

theorem CPage.insert_abs (p : CPage) (v : Nat) (h : CPageOk p) :
    (p.insert v).1.abs = (pageInsert p.abs v).1 ∧ (p.insert v).2 = (pageInsert p.abs v).2 := by
  refine ⟨page_ext ?_ ?_, CPage.insert_isNew p v h⟩
  · apply Nat.eq_of_testBit_eq
    intro j
    rw [pageInsert_bits]
    exact CPage.maskBit_bits elemOp_union Bool.or_false p h v j
  · rw [pageInsert_len, ← CPage.insert_isNew p v h]
    rfl

theorem CPage.insert_ok (p : CPage) (v : Nat) (h : CPageOk p) : CPageOk (p.insert v).1 := by
  have hok := pageInsert_ok p.abs v (CPage.abs_ok p h)
  rw [← (CPage.insert_abs p v h).1] at hok
  refine cpageOk_of_abs ?_ ?_ hok.2
  · show (p.elems.set _ _).length = 8
    rw [List.length_set]; exact h.1
  · exact mem_set_lt h.2.1 _ _ (elemOp_union.lt _ _ (getD_lt h.2.1 _) (elemIndexBitMask_lt v))

theorem CPage.contains_abs (p : CPage) (v : Nat) (h : CPageOk p) :
    p.contains v = pageContains p.abs v := by
  unfold CPage.contains pageContains elemIndexBitMask
  rw [← CPage.element_bit p v h]
  have := and_two_pow_eq_zero (p.element v) (v % 64)
  cases hb : (p.element v).testBit (v % 64) <;> simp [hb] at this ⊢ <;> exact this

theorem CPage.remove_snd (p : CPage) (v : Nat) (h : CPageOk p) :
    (p.remove v).2 = (pageRemove p.abs v).2 := by
  show p.contains v = p.abs.bits.testBit (v % 512)
  rw [CPage.contains_abs p v h]; rfl

theorem CPage.remove_abs (p : CPage) (v : Nat) (h : CPageOk p) :
    (p.remove v).1.abs = (pageRemove p.abs v).1 ∧ (p.remove v).2 = (pageRemove p.abs v).2 := by
  refine ⟨page_ext ?_ ?_, CPage.remove_snd p v h⟩
  · apply Nat.eq_of_testBit_eq
    intro j
    rw [pageRemove_bits]
    exact CPage.maskBit_bits elemOp_subtract (fun x => by simp) p h v j
  · rw [pageRemove_len, ← CPage.remove_snd p v h]
    rfl

theorem CPage.remove_ok (p : CPage) (v : Nat) (h : CPageOk p) : CPageOk (p.remove v).1 := by
  have hok := pageRemove_ok p.abs v (CPage.abs_ok p h)
  rw [← (CPage.remove_abs p v h).1] at hok
  refine cpageOk_of_abs ?_ ?_ hok.2
  · show (p.elems.set _ _).length = 8
    rw [List.length_set]; exact h.1
  · exact mem_set_lt h.2.1 _ _ (elemOp_subtract.lt _ _ (getD_lt h.2.1 _) (elemIndexBitMask_lt v))

theorem foldl_range_set_length (g : Nat → Nat → Nat) (fi n : Nat) (es : List Nat) :
    ((List.range n).foldl (fun es i => es.set (fi + i) (g (fi + i) (es.getD (fi + i) 0))) es).length
      = es.length := by
  induction n with
  | zero => rfl
  | succ m ihm =>
    rw [List.range_succ, List.foldl_append]
    simp only [List.foldl_cons, List.foldl_nil, List.length_set]
    exact ihm

/-- the loop `for idx in fi .. fi + n { es[idx] = g idx es[idx] }` touches exactly those words -/
theorem foldl_range_set_getD (g : Nat → Nat → Nat) (fi n : Nat) (es : List Nat) (k : Nat) :
    ((List.range n).foldl (fun es i => es.set (fi + i) (g (fi + i) (es.getD (fi + i) 0))) es).getD k 0
      = if fi ≤ k ∧ k < fi + n ∧ k < es.length then g k (es.getD k 0) else es.getD k 0 := by
  induction n with
  | zero => simp; omega
  | succ n ih =>
    rw [List.range_succ, List.foldl_append]
    simp only [List.foldl_cons, List.foldl_nil]
    rw [getD_set, foldl_range_set_length]
    by_cases hk : fi + n = k
    · subst hk
      by_cases hl : fi + n < es.length
      · rw [if_pos ⟨rfl, hl⟩, if_pos ⟨by omega, by omega, hl⟩, ih, if_neg (by omega)]
      · rw [if_neg (by omega), if_neg (by omega), ih, if_neg (by omega)]
    · rw [if_neg (fun hc => hk hc.1), ih]
      by_cases hc : fi ≤ k ∧ k < fi + n ∧ k < es.length
      · rw [if_pos hc, if_pos ⟨hc.1, by omega, hc.2.2⟩]
      · rw [if_neg hc, if_neg (by omega)]

theorem foldl_set_lt (g : Nat → Nat → Nat) (hg : ∀ i x, x < 2 ^ 64 → g i x < 2 ^ 64) (fi n : Nat)
    (es : List Nat) (h : ∀ e ∈ es, e < 2 ^ 64) :
    ∀ e ∈ (List.range n).foldl (fun es i => es.set (fi + i) (g (fi + i) (es.getD (fi + i) 0))) es,
      e < 2 ^ 64 := by
  induction n with
  | zero => exact h
  | succ m ihm =>
    rw [List.range_succ, List.foldl_append]
    simp only [List.foldl_cons, List.foldl_nil]
    exact mem_set_lt ihm _ _ (hg _ _ (getD_lt ihm _))

theorem elemRangeMask_lt (f l idx : Nat) : elemRangeMask f l idx < 2 ^ 64 := by
  unfold elemRangeMask
  simp only []
  rw [Nat.shiftRight_eq_div_pow]
  exact Nat.lt_of_le_of_lt (Nat.div_le_self _ _) (shl64_lt _ _)

/-- `(u64::MAX << (s + k)) >> k` with `k = 63 - e` has exactly the bits `s..=e` set -/
theorem testBit_shl_shr_max (s e t : Nat) (he : e < 64) (ht : t < 64) :
    (shl64 U64_MAX (s + (64 - e - 1)) >>> (64 - e - 1)).testBit t = (decide (s ≤ t) && decide (t ≤ e)) := by
  unfold shl64 U64_MAX
  rw [Nat.testBit_shiftRight, Nat.testBit_mod_two_pow, Nat.testBit_shiftLeft, Nat.testBit_two_pow_sub_one]
  by_cases ha : s ≤ t <;> by_cases hb : t ≤ e <;> simp [ha, hb] <;> omega

theorem testBit_elemRangeMask (f l idx t : Nat) (h1 : f / 64 ≤ idx) (h2 : idx ≤ l / 64)
    (ht : t < 64) :
    (elemRangeMask f l idx).testBit t = (decide (f ≤ 64 * idx + t) && decide (64 * idx + t ≤ l)) := by
  unfold elemRangeMask
  simp only []
  rw [testBit_shl_shr_max _ _ _ (Nat.mod_lt _ (by omega)) ht]
  congr 1 <;> apply decide_eq_decide.2 <;> omega

theorem rangeLoop_spec {eop : Nat → Nat → Nat} {φ : Bool → Bool → Bool} (he : ElemOp eop φ)
    (hφ : ∀ x, φ x false = x) (es : List Nat) (hl : es.length = 8) (hes : ∀ e ∈ es, e < 2 ^ 64)
    (f l : Nat) :
    let es' := (List.range (l / 64 + 1 - f / 64)).foldl (fun es i =>
      es.set (f / 64 + i) (eop (es.getD (f / 64 + i) 0) (elemRangeMask f l (f / 64 + i)))) es
    es'.length = 8 ∧ (∀ e ∈ es', e < 2 ^ 64) ∧ (l < 512 → ∀ j,
      (pack es').testBit j = φ ((pack es).testBit j) (decide (f ≤ j) && decide (j ≤ l))) := by
  intro es'
  have hlt : ∀ e ∈ es', e < 2 ^ 64 := foldl_set_lt (fun idx x => eop x (elemRangeMask f l idx))
    (fun i x hx => he.lt _ _ hx (elemRangeMask_lt _ _ _)) _ _ es hes
  refine ⟨(foldl_range_set_length (fun idx x => eop x (elemRangeMask f l idx)) _ _ _).trans hl, hlt,
    fun hl512 j => ?_⟩
  rw [testBit_pack _ hlt, testBit_pack es hes]
  show (((List.range _).foldl _ es).getD (j / 64) 0).testBit (j % 64) = _
  rw [foldl_range_set_getD (fun idx x => eop x (elemRangeMask f l idx)), hl]
  by_cases hc : f / 64 ≤ j / 64 ∧ j / 64 < f / 64 + (l / 64 + 1 - f / 64) ∧ j / 64 < 8
  · rw [if_pos hc, he.bit _ _ _ (getD_lt hes _) (elemRangeMask_lt _ _ _) (Nat.mod_lt _ (by omega)),
      testBit_elemRangeMask _ _ _ _ hc.1 (by omega) (Nat.mod_lt _ (by omega)),
      show 64 * (j / 64) + j % 64 = j by omega]
  · rw [if_neg hc, show (decide (f ≤ j) && decide (j ≤ l)) = false from
      Bool.eq_false_iff.2 (by simp only [ne_eq, Bool.and_eq_true, decide_eq_true_eq]; omega), hφ]

theorem CPage.insertRange_ok (p : CPage) (a b : Nat) (h : CPageOk p) : CPageOk (p.insertRange a b) :=
  have s := rangeLoop_spec elemOp_union Bool.or_false p.elems h.1 h.2.1 (a % 512) (b % 512)
  ⟨s.1, s.2.1, rfl⟩

theorem CPage.removeRange_ok (p : CPage) (a b : Nat) (h : CPageOk p) : CPageOk (p.removeRange a b) :=
  have s := rangeLoop_spec elemOp_subtract (fun x => by simp) p.elems h.1 h.2.1 (a % 512) (b % 512)
  ⟨s.1, s.2.1, rfl⟩

theorem CPage.insertRange_abs (p : CPage) (a b : Nat) (h : CPageOk p) (hab : a % 512 ≤ b % 512) :
    (p.insertRange a b).abs = pageInsertRange p.abs a b := by
  apply CPage.abs_eq_ofBits (CPage.insertRange_ok p a b h)
  apply Nat.eq_of_testBit_eq
  intro j
  show _ = (pageInsertRange p.abs a b).bits.testBit j
  rw [pageInsertRange_bits _ _ _ _ hab]
  exact (rangeLoop_spec elemOp_union Bool.or_false p.elems h.1 h.2.1 (a % 512) (b % 512)).2.2
    (Nat.mod_lt _ (by omega)) j

theorem CPage.removeRange_abs (p : CPage) (a b : Nat) (h : CPageOk p) (hab : a % 512 ≤ b % 512) :
    (p.removeRange a b).abs = pageRemoveRange p.abs a b := by
  apply CPage.abs_eq_ofBits (CPage.removeRange_ok p a b h)
  apply Nat.eq_of_testBit_eq
  intro j
  show _ = (pageRemoveRange p.abs a b).bits.testBit j
  rw [pageRemoveRange_bits _ _ _ _ hab]
  exact (rangeLoop_spec elemOp_subtract (fun x => by simp) p.elems h.1 h.2.1 (a % 512) (b % 512)).2.2
    (Nat.mod_lt _ (by omega)) j

theorem CPage.clear_elems (p : CPage) (h : CPageOk p) : p.clear.elems = List.replicate 8 0 := by
  show p.elems.map (fun _ => 0) = _
  rw [List.map_const', h.1]

theorem CPage.clear_eq_zero (p : CPage) (h : CPageOk p) : p.clear = CPage.zero := by
  have := CPage.clear_elems p h
  unfold CPage.clear at this ⊢
  simp only at this
  rw [this]; rfl

theorem CPage.clear_ok (p : CPage) (h : CPageOk p) : CPageOk p.clear := by
  rw [CPage.clear_eq_zero p h]; exact cpageOk_zero

theorem CPage.clear_abs (p : CPage) (h : CPageOk p) : p.clear.abs = Page.zero := by
  rw [CPage.clear_eq_zero p h]; exact CPage.abs_zero

theorem CPage.process_refines {eop : Nat → Nat → Nat} {op : Nat → Nat → Nat} {f : Bool → Bool → Bool}
    (he : ElemOp eop f) (ho : BitwiseOp op f) : PageOpRefines (CPage.process eop) op := by
  have hok : ∀ a b, CPageOk a → CPageOk b → CPageOk (CPage.process eop a b) := by
    intro a b ha hb
    refine ⟨by simp [CPage.process], ?_, rfl⟩
    intro e hmem
    simp only [CPage.process, List.mem_map, List.mem_range] at hmem
    obtain ⟨i, _, rfl⟩ := hmem
    exact he.lt _ _ (getD_lt ha.2.1 _) (getD_lt hb.2.1 _)
  refine ⟨hok, ?_⟩
  intro a b ha hb
  have hokab := hok a b ha hb
  have hbits : (CPage.process eop a b).abs.bits = op a.abs.bits b.abs.bits := by
    apply Nat.eq_of_testBit_eq
    intro j
    rw [ho.bit, CPage.testBit_abs _ hokab, CPage.testBit_abs _ ha, CPage.testBit_abs _ hb]
    show (((List.range 8).map (fun i => eop (a.elems.getD i 0) (b.elems.getD i 0))).getD (j / 64) 0).testBit
      (j % 64) = _
    rw [getD_map_range]
    by_cases hj : j / 64 < 8
    · rw [if_pos hj]
      exact he.bit _ _ _ (getD_lt ha.2.1 _) (getD_lt hb.2.1 _) (Nat.mod_lt _ (by omega))
    · rw [if_neg hj, getD_of_length_le 0 (by rw [ha.1]; omega), getD_of_length_le 0 (by rw [hb.1]; omega)]
      simp [ho.ff]
  exact CPage.abs_eq_ofBits hokab hbits

theorem refines_union : PageOpRefines CPage.union opUnion :=
  CPage.process_refines elemOp_union bitwise_union

theorem refines_intersect : PageOpRefines CPage.intersect opIntersect :=
  CPage.process_refines elemOp_intersect bitwise_intersect

theorem refines_subtract : PageOpRefines CPage.subtract opSubtract :=
  CPage.process_refines elemOp_subtract bitwise_subtract

theorem refines_revSubtract : PageOpRefines CPage.revSubtract opRevSubtract :=
  ⟨fun a b ha hb => refines_subtract.ok b a hb ha, fun a b ha hb => refines_subtract.abs b a hb ha⟩

end FontVerif.IntSet
