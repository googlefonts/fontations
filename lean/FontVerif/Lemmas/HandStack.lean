/- helper lemmas for Props/C01HandStack.lean: the loops of `Stack::apply_blend` never index outside the
operand window. -/
import FontVerif.Model.HandStack
namespace FontVerif.HandStack

theorem popI32_ok_top {s s1 : St} {v : Int} (h : popI32 s = (.ok v, s1)) : s1.top < s.top := by
  unfold popI32 at h
  by_cases ht : s.top > 0
  · rw [if_pos ht] at h
    injection h with _ hs
    subst hs
    exact Nat.sub_lt ht Nat.one_pos
  · rw [if_neg ht] at h
    cases h

theorem length_splice {α : Type} {l mid : List α} {start n : Nat} (h : start + n ≤ l.length) (hm : mid.length = n) :
    (l.take start ++ mid ++ l.drop (start + n)).length = l.length := by
  rw [List.length_append, List.length_append, List.length_take, List.length_drop, hm]; omega

theorem innerLoop_some (rc ri start tvc : Nat) (sc : Int) (hri : ri < rc)
    (hmax : rc * tvc ≤ HandRead.MAXU) :
    ∀ (l : List Nat) (vals : List Int), (∀ vi ∈ l, vi < tvc) → start + tvc + rc * tvc ≤ vals.length →
      ∃ v', innerLoop rc ri start tvc sc l vals = some v' ∧ v'.length = vals.length := by
  intro l
  induction l with
  | nil => intro vals _ _; exact ⟨vals, rfl, rfl⟩
  | cons vi rest ih =>
    intro vals hl hb
    have hvi : vi < tvc := hl vi (by simp)
    have hm : rc * (vi + 1) ≤ rc * tvc := Nat.mul_le_mul_left rc hvi
    rw [Nat.mul_succ] at hm
    generalize hp : rc * tvc = p at hm hb hmax
    generalize hq : rc * vi = q at hm
    have h1 : start + tvc + (q + ri) < vals.length := by omega
    have h2 : start + vi < vals.length := by omega
    obtain ⟨v', hv', hlen⟩ := ih (vals.set (start + vi) (wrapI32 (vals[start + vi] + Fixed.mul vals[start + tvc + (q + ri)] sc)))
      (fun x hx => hl x (by simp [hx])) (by simpa [hp] using hb)
    refine ⟨v', ?_, by simpa using hlen⟩
    unfold innerLoop
    simp only [hq]
    have c1 : ¬ (q + ri > HandRead.MAXU) := by omega
    have c2 : q + ri < vals.length - start - tvc := by omega
    simp only [c1, c2, if_false, if_true, List.getElem?_eq_getElem h1, List.getElem?_eq_getElem h2]
    exact hv'

theorem outerLoop_total (rc start tvc : Nat) (hmax : rc * tvc ≤ HandRead.MAXU) :
    ∀ (scalars : List (Option Int)) (ri : Nat) (vals : List Int), ri + scalars.length ≤ rc →
      start + tvc + rc * tvc ≤ vals.length →
      (outerLoop rc start tvc ri scalars vals).1 ≠ .trap ∧
      (outerLoop rc start tvc ri scalars vals).2.length = vals.length := by
  intro scalars
  induction scalars with
  | nil => intro ri vals _ _; simp [outerLoop]
  | cons x rest ih =>
    intro ri vals hr hb
    cases x with
    | none => simp [outerLoop]
    | some sc =>
      simp only [List.length_cons] at hr
      unfold outerLoop
      by_cases h0 : sc = 0
      · simp only [h0, if_true]
        exact ih (ri + 1) vals (by omega) hb
      · simp only [h0, if_false]
        obtain ⟨v', hv', hlen⟩ := innerLoop_some rc ri start tvc sc (by omega) hmax (List.range tvc) vals
          (fun vi hvi => by simpa using hvi) hb
        simp only [hv']
        have := ih (ri + 1) v' (by omega) (by omega)
        exact ⟨this.1, by omega⟩

end FontVerif.HandStack
