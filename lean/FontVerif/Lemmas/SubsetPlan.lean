/-
`Plan::new` piecewise (Model/Subset.lean `makePlan`): the iteration order of glyph sets, the glyph map in both modes,
lookups in the new-to-old list, `populate_unicodes_to_retain`, the rewrite of the character list, the chain
requested ⊆ gsub ⊆ colred ⊆ glyph set.
-/
import FontVerif.Lemmas.SubsetClosure
namespace FontVerif.Subset

theorem mem_sortedBelow {n : Nat} {s : List Nat} {g : Nat} : g ∈ sortedBelow n s ↔ g < n ∧ g ∈ s := by
  simp [sortedBelow]

theorem sortedBelow_pairwise (n : Nat) (s : List Nat) : (sortedBelow n s).Pairwise (· < ·) := by
  unfold sortedBelow
  exact List.Pairwise.filter _ List.pairwise_lt_range

theorem sortedBelow_length_le (n : Nat) (s : List Nat) : (sortedBelow n s).length ≤ n := by
  have : (sortedBelow n s).length ≤ (List.range n).length := by
    unfold sortedBelow; exact List.length_filter_le _ _
  simpa using this

theorem gidMap_renumber_fst (flags : Nat) (gs : List Nat) (h : hasFlag flags F_RETAIN_GIDS = false) :
    (gidMap flags gs).1.map (·.1) = List.range (gs.take 65536).length := by
  simp [gidMap, h, List.map_map, Function.comp_def, List.range_eq_range']

theorem gidMap_renumber_snd (flags : Nat) (gs : List Nat) (h : hasFlag flags F_RETAIN_GIDS = false) :
    (gidMap flags gs).1.map (·.2) = gs.take 65536 := by
  simp [gidMap, h, List.map_map, Function.comp_def]

theorem gidMap_renumber_nout (flags : Nat) (gs : List Nat) (h : hasFlag flags F_RETAIN_GIDS = false) :
    (gidMap flags gs).2 = (gs.take 65536).length := by
  simp [gidMap, h]

theorem gidMap_retain (flags : Nat) (gs : List Nat) (h : hasFlag flags F_RETAIN_GIDS = true) :
    (gidMap flags gs).1 = gs.map (fun g => (g, g)) ∧
    (gidMap flags gs).2 = (match gs.getLast? with | none => 0 | some m => m + 1) := by
  simp only [gidMap, h]
  exact ⟨rfl, rfl⟩

theorem lookupNat_eq_lookup (k : Nat) : ∀ (l : List (Nat × Nat)), lookupNat k l = l.lookup k
  | [] => rfl
  | (a, b) :: rest => by
    rw [lookupNat, lookup_cons_ite, lookupNat_eq_lookup k rest, ite_eq_comm]

theorem lookupNat_mem {k v : Nat} {l : List (Nat × Nat)} (h : lookupNat k l = some v) : (k, v) ∈ l :=
  mem_of_lookup_eq_some (lookupNat_eq_lookup k l ▸ h)

theorem lookupNat_of_mem {k v : Nat} {l : List (Nat × Nat)} (hp : (l.map (·.1)).Pairwise (· ≠ ·)) (hm : (k, v) ∈ l) :
    lookupNat k l = some v :=
  (lookupNat_eq_lookup k l).trans ((lookup_eq_some_iff_mem hp k v).mpr hm)

theorem lookupNat_isSome_of_mem_keys (k : Nat) (l : List (Nat × Nat)) (h : k ∈ l.map (·.1)) : (lookupNat k l).isSome := by
  rw [lookupNat_eq_lookup, Option.isSome_iff_ne_none]
  obtain ⟨p, hp, rfl⟩ := List.mem_map.mp h
  exact fun hn => absurd rfl (bne_iff_ne.mp (List.lookup_eq_none_iff.mp hn p hp))

theorem oldToNew_map_self (gs : List Nat) (g : Nat) (h : g ∈ gs) :
    oldToNew (gs.map (fun g => (g, g))) g = some g := by
  unfold oldToNew
  induction gs with
  | nil => simp at h
  | cons a tl ih =>
    simp only [List.map_cons, lookupNat]
    by_cases hag : a = g
    · simp [hag]
    · simp only [hag, if_false]
      simp at h
      rcases h with rfl | h
      · exact absurd rfl hag
      · exact ih h

theorem oldToNew_isSome (flags : Nat) (gs : List Nat) (hlen : gs.length ≤ 65536) (g : Nat) (h : g ∈ gs) :
    (oldToNew (gidMap flags gs).1 g).isSome := by
  unfold oldToNew
  apply lookupNat_isSome_of_mem_keys
  rw [List.map_map]
  have htake : gs.take 65536 = gs := List.take_of_length_le hlen
  by_cases hf : hasFlag flags F_RETAIN_GIDS = true
  · simp [gidMap, hf, Function.comp_def]; exact h
  · have hf' : hasFlag flags F_RETAIN_GIDS = false := by simpa using hf
    have : (gidMap flags gs).1.map ((fun x => x.1) ∘ fun no => (no.2, no.1)) = (gidMap flags gs).1.map (·.2) := by
      simp [Function.comp_def]
    rw [this, gidMap_renumber_snd flags gs hf', htake]
    exact h

theorem unicodesToRetain_gids (p : PlanIn) (g : Nat) (hg : g ∈ p.gids) (hlt : g < p.num) :
    g ∈ (unicodesToRetain p).2 := by
  unfold unicodesToRetain
  split
  · rename_i hb
    have : p.gids = [] := by simpa using hb.1
    rw [this] at hg; simp at hg
  · simp [hg, hlt]

theorem unicodesToRetain_cmap (p : PlanIn) (hc : (p.cmap.map (·.1)).Pairwise (· ≠ ·)) (cp g : Nat)
    (hm : (cp, g) ∈ p.cmap) (hcp : cp ∈ p.unicodes) (hg : g < p.num) : (cp, g) ∈ (unicodesToRetain p).1 := by
  unfold unicodesToRetain
  split
  · simp only [List.mem_filterMap]
    exact ⟨cp, hcp, by simp [lookupNat_of_mem hc hm, hg]⟩
  · simp only [List.mem_filter]
    exact ⟨hm, by simp [hcp, hg]⟩

theorem unicodesToRetain_fst_origin (p : PlanIn) (cg : Nat × Nat) (h : cg ∈ (unicodesToRetain p).1) :
    cg ∈ p.cmap ∧ (cg.1 ∈ p.unicodes ∨ cg.2 ∈ p.gids) ∧ cg.2 < p.num := by
  unfold unicodesToRetain at h
  split at h
  · simp only [List.mem_filterMap] at h
    obtain ⟨cp, hcp, hopt⟩ := h
    cases hl : lookupNat cp p.cmap with
    | none => simp [hl] at hopt
    | some g =>
      simp only [hl] at hopt
      split at hopt
      · rename_i hg
        simp at hopt
        subst hopt
        exact ⟨lookupNat_mem hl, Or.inl hcp, hg⟩
      · cases hopt
  · simp only [List.mem_filter] at h
    obtain ⟨hm, hsel⟩ := h
    simp at hsel
    exact ⟨hm, hsel.1.symm, hsel.2⟩

theorem unicodesToRetain_snd_origin (p : PlanIn) (g : Nat) (h : g ∈ (unicodesToRetain p).2) :
    g ∈ p.gids ∧ g < p.num := by
  unfold unicodesToRetain at h
  split at h
  · simp at h
  · simpa using h

theorem mapM_option_spec {α β : Type} (f : α → Option β) (l : List α) (l' : List β) (h : l.mapM f = some l') :
    (∀ y ∈ l', ∃ x ∈ l, f x = some y) ∧ (∀ x ∈ l, ∃ y ∈ l', f x = some y) := by
  rw [mapM_eq_some_iff] at h
  constructor
  · intro y hy
    have : some y ∈ l.map f := h ▸ List.mem_map_of_mem hy
    simpa using this
  · intro x hx
    have : f x ∈ l'.map some := h ▸ List.mem_map_of_mem hx
    obtain ⟨y, hy, e⟩ := List.mem_map.mp this
    exact ⟨y, hy, e.symm⟩

theorem mapM_option_isSome {α β : Type} (f : α → Option β) : ∀ (l : List α), (∀ x ∈ l, (f x).isSome) → (l.mapM f).isSome := by
  intro l
  induction l with
  | nil => intro _; simp
  | cons a tl ih =>
    intro h
    rw [List.mapM_cons]
    obtain ⟨b, hb⟩ := Option.isSome_iff_exists.mp (h a (by simp))
    obtain ⟨bs, hbs⟩ := Option.isSome_iff_exists.mp (ih (fun x hx => h x (by simp [hx])))
    simp [hb, hbs]

theorem u2g_spec (n2o : List (Nat × Nat)) (l u2g : List (Nat × Nat))
    (hu : l.mapM (fun cg => (oldToNew n2o cg.2).map (fun n => (cg.1, n))) = some u2g) :
    (∀ cp new, (cp, new) ∈ u2g → ∃ old, (cp, old) ∈ l ∧ oldToNew n2o old = some new) ∧
    (∀ cp old, (cp, old) ∈ l → ∃ new, (cp, new) ∈ u2g ∧ oldToNew n2o old = some new) := by
  obtain ⟨m1, m2⟩ := mapM_option_spec _ _ _ hu
  constructor
  · intro cp new hm
    obtain ⟨cg, hcg, hf⟩ := m1 (cp, new) hm
    cases hon : oldToNew n2o cg.2 with
    | none => simp [hon] at hf
    | some n =>
      simp [hon] at hf
      obtain ⟨e1, e2⟩ := hf
      subst e1 e2
      exact ⟨cg.2, hcg, hon⟩
  · intro cp old hm
    obtain ⟨y, hy, hf⟩ := m2 (cp, old) hm
    cases hon : oldToNew n2o old with
    | none => simp [hon] at hf
    | some n =>
      simp [hon] at hf
      subst hf
      exact ⟨n, hy, rfl⟩

theorem makePlan_some (p : PlanIn) (pl : Plan) (h : makePlan p = some pl) :
    pl.gsub = planGsub p ∧ pl.colred = planColred p ∧ pl.glyphset = planGlyphset p ∧
    pl.n2o = (gidMap p.flags (planGlyphset p)).1 ∧ pl.nout = (gidMap p.flags (planGlyphset p)).2 ∧
    (unicodesToRetain p).1.mapM
      (fun cg => (oldToNew (gidMap p.flags (planGlyphset p)).1 cg.2).map (fun n => (cg.1, n))) = some pl.u2g := by
  unfold makePlan at h
  simp only at h
  split at h
  · cases h
  · rename_i u2g hu
    simp only [Option.some.injEq] at h
    subst h
    exact ⟨rfl, rfl, rfl, rfl, rfl, hu⟩

theorem mem_planGsub (p : PlanIn) (g : Nat) :
    g ∈ planGsub p ↔ g < p.num ∧ (g = 0 ∨ g ∈ (unicodesToRetain p).2 ∨
      (∃ cg ∈ (unicodesToRetain p).1, cg.2 = g) ∨ g ∈ p.extraGsub) := by
  unfold planGsub
  rw [mem_sortedBelow]
  simp only [List.mem_cons, List.mem_append, List.mem_map]
  constructor
  · rintro ⟨h1, h2⟩
    refine ⟨h1, ?_⟩
    rcases h2 with h | (h | h) | h
    · exact Or.inl h
    · exact Or.inr (Or.inl h)
    · exact Or.inr (Or.inr (Or.inl h))
    · exact Or.inr (Or.inr (Or.inr h))
  · rintro ⟨h1, h2⟩
    refine ⟨h1, ?_⟩
    rcases h2 with h | h | h | h
    · exact Or.inl h
    · exact Or.inr (Or.inl (Or.inl h))
    · exact Or.inr (Or.inl (Or.inr h))
    · exact Or.inr (Or.inr h)

theorem mem_planColred (p : PlanIn) (g : Nat) : g ∈ planColred p ↔ g < p.num ∧ (g ∈ planGsub p ∨ g ∈ p.extraColred) := by
  rw [planColred, mem_sortedBelow, List.mem_append]

theorem mem_planGlyphset (p : PlanIn) (g : Nat) :
    g ∈ planGlyphset p ↔ g < p.num ∧ g ∈ closureAll p.comps (planBudget p) (planColred p) [] := by
  rw [planGlyphset, mem_sortedBelow]

theorem planGsub_sub_colred (p : PlanIn) (g : Nat) (h : g ∈ planGsub p) : g ∈ planColred p :=
  (mem_planColred p g).mpr ⟨((mem_planGsub p g).mp h).1, Or.inl h⟩

theorem planColred_sub_glyphset (p : PlanIn) (g : Nat) (h : g ∈ planColred p) : g ∈ planGlyphset p :=
  (mem_planGlyphset p g).mpr ⟨((mem_planColred p g).mp h).1, closureAll_roots _ _ _ _ g h⟩

theorem planGsub_sub_glyphset (p : PlanIn) (g : Nat) (h : g ∈ planGsub p) : g ∈ planGlyphset p :=
  planColred_sub_glyphset p g (planGsub_sub_colred p g h)

theorem planGlyphset_length_le (p : PlanIn) : (planGlyphset p).length ≤ p.num := sortedBelow_length_le _ _

end FontVerif.Subset
