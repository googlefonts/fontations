/-
C09: the two point decoders on ANY coordinate bytes of the announced sizes (short, long, same forms; not only the
writer's minimal ones): per coordinate the slow reader (`readDelta`, failed reads are 0) and the fast one (`fastDelta`,
failed reads are errors) obtain the same delta (`delta_step`); over a whole flag list `read_points_fast`'s `i32` columns
are `points()`'s `i16` columns after `as i16` (`coords_agree`, by `wrap16_32`). What the slow decoder reads from the writer's
own bytes follows from that and from what the fast one reads there (`points_of_data`).
-/
import FontVerif.Lemmas.GlyfBytes
namespace FontVerif.Glyf

/-- bytes one coordinate takes, from its two flag bits -/
def dSize (sh sa : Bool) : Nat := if sh then 1 else if sa then 0 else 2

theorem xSize_eq (f : Nat) : xSize f = dSize (hasBit f X_SHORT) (hasBit f X_SAME) := by
  unfold xSize dSize
  have := and_or_zero f X_SHORT X_SAME
  cases h1 : hasBit f X_SHORT <;> cases h2 : hasBit f X_SAME <;> simp_all

theorem ySize_eq (f : Nat) : ySize f = dSize (hasBit f Y_SHORT) (hasBit f Y_SAME) := by
  unfold ySize dSize
  have := and_or_zero f Y_SHORT Y_SAME
  cases h1 : hasBit f Y_SHORT <;> cases h2 : hasBit f Y_SAME <;> simp_all

theorem readI16_cons_cons (x y : Nat) (r : List Nat) :
    readI16 (x :: y :: r) = (some (wrapI16 (x * 256 + y)), r) := rfl
theorem fastDelta_long (x y : Nat) (r : List Nat) :
    fastDelta false false (x :: y :: r) = some (wrapI16 (x * 256 + y), r) := rfl
theorem readDelta_long (x y : Nat) (r : List Nat) (w : Int) (h1 : readI16 (x :: y :: r) = (some w, r)) :
    readDelta false false (x :: y :: r) = (w, r) := by
  simp only [readDelta, h1, Option.getD_some]
theorem delta_long (x y : Nat) : ∃ d : Int, ∀ r : List Nat,
    readDelta false false (x :: y :: r) = (d, r) ∧ fastDelta false false (x :: y :: r) = some (d, r) :=
  ⟨wrapI16 (x * 256 + y), fun r => ⟨readDelta_long x y r _ (readI16_cons_cons x y r), fastDelta_long x y r⟩⟩

/-- one coordinate: on any cursor that holds at least the bytes its flag bits announce, the slow reader (`readDelta`,
failed reads default to 0) and the fast reader (`fastDelta`, failed reads are errors) obtain the same
delta and leave the same cursor, whatever follows -/
theorem delta_step (sh sa : Bool) (n : Nat) (hn : n = dSize sh sa) (p : List Nat) (hp : n ≤ p.length) :
    ∃ d : Int, ∀ r : List Nat,
      readDelta sh sa (p ++ r) = (d, p.drop n ++ r) ∧ fastDelta sh sa (p ++ r) = some (d, p.drop n ++ r) := by
  subst hn
  cases sh <;> cases sa
  · -- long form: two bytes
    match p, hp with
    | x :: y :: t, _ => exact (delta_long x y).imp fun _ h r => h (t ++ r)
  · -- same as before: no bytes
    exact ⟨0, fun r => ⟨rfl, rfl⟩⟩
  · match p, hp with
    | x :: t, _ => exact ⟨-(x : Int), fun r => ⟨rfl, rfl⟩⟩
  · match p, hp with
    | x :: t, _ => exact ⟨(x : Int), fun r => ⟨rfl, rfl⟩⟩

theorem wrapI32_emod16 (a : Int) : wrapI32 a % 65536 = a % 65536 := by
  unfold wrapI32; extract_lets m; split <;> omega

theorem wrap16_32 (a d : Int) : wrapI16 (wrapI32 (a + d)) = wrapI16 (wrapI16 a + d) :=
  wrapI16_congr (by have := wrapI16_emod a; rw [wrapI32_emod16]; omega)

/-- both coordinate passes of the fast reader against the lock-step slow decoder, over any flags; the decoded columns
do not depend on what follows the coordinate bytes -/
theorem coords_agree (fl : List Nat) :
    ∀ (px py : List Nat) (ax ay : Int),
      px.length = (fl.map xSize).sum → py.length = (fl.map ySize).sum →
      ∃ X Y : List Int, X.length = fl.length ∧ Y.length = fl.length ∧ ∀ tx ty sx sy : List Nat,
        fastCoords X_SHORT X_SAME fl (px ++ tx) ax = some (X, tx) ∧
        fastCoords Y_SHORT Y_SAME fl (py ++ ty) ay = some (Y, ty) ∧
        (decodeRun fl ⟨px ++ sx, py ++ sy, wrapI16 ax, wrapI16 ay⟩).1 =
          (X.zip (Y.zip fl)).map
            (fun t => (⟨wrapI16 t.1, wrapI16 t.2.1, hasBit t.2.2 ON_CURVE⟩ : Point)) := by
  induction fl with
  | nil =>
    intro px py ax ay hx hy
    have : px = [] := List.eq_nil_of_length_eq_zero (by simpa using hx)
    have : py = [] := List.eq_nil_of_length_eq_zero (by simpa using hy)
    subst_vars
    exact ⟨[], [], rfl, rfl, fun tx ty sx sy => ⟨by simp [fastCoords], by simp [fastCoords], by simp [decodeRun]⟩⟩
  | cons f fs ih =>
    intro px py ax ay hx hy
    simp only [List.map_cons, List.sum_cons] at hx hy
    obtain ⟨dx, hdx⟩ := delta_step _ _ (xSize f) (xSize_eq f) px (by omega)
    obtain ⟨dy, hdy⟩ := delta_step _ _ (ySize f) (ySize_eq f) py (by omega)
    have hlx : (px.drop (xSize f)).length = (fs.map xSize).sum := by
      rw [List.length_drop]; omega
    have hly : (py.drop (ySize f)).length = (fs.map ySize).sum := by
      rw [List.length_drop]; omega
    obtain ⟨X, Y, h3, h4, h⟩ :=
      ih (px.drop (xSize f)) (py.drop (ySize f)) (wrapI32 (ax + dx)) (wrapI32 (ay + dy)) hlx hly
    refine ⟨wrapI32 (ax + dx) :: X, wrapI32 (ay + dy) :: Y, by simp [h3], by simp [h4], fun tx ty sx sy => ?_⟩
    obtain ⟨h1, h2, h5⟩ := h tx ty sx sy
    refine ⟨?_, ?_, ?_⟩
    · simp only [fastCoords, (hdx _).2, h1, Option.map_some]
    · simp only [fastCoords, (hdy _).2, h2, Option.map_some]
    · simp only [decodeRun, stepCS, (hdx _).1, (hdy _).1, List.zip_cons_cons, List.map_cons]
      rw [← wrap16_32 ax dx, ← wrap16_32 ay dy, h5]

theorem points_of_data (v : SimpleView) (pts : List Point) (ds : List PointDelta) (pad : List Nat)
    (last : Nat) (hr : PointsInRange pts) (hd : computePointDeltas 0 0 pts = some ds)
    (hl : v.endPts.getLast? = some last) (hn : last + 1 = pts.length) (hmax : pts.length ≤ 65535)
    (hg : v.glyphData = flagBytes ds ++ (xBytes ds ++ (yBytes ds ++ pad))) :
    v.points = pts := by
  have hfl := computePointDeltas_flags pts 0 0 ds hd
  have hlen := computePointDeltas_length pts 0 0 ds hd
  have hexp := iterFromFlags_expand _ hfl
  have hel := expand_length _ hfl
  have hsz := sizes_eq pts 0 0 ds _ hd hexp
  simp only [List.length_map] at hel
  have hfb : flagBytes ds = (iterFromFlags none (ds.map (·.flag))).flatMap RepeatableFlag.bytes := rfl
  rw [hfb] at hg
  rw [points_of_items v _ (xBytes ds) (yBytes ds) pad last hl (by omega) (by omega) hsz.1.symm
    hsz.2.symm (length_le_256_cost _ (fun i hi => (iterFromFlags_wf _ hfl i hi).1)) hg]
  -- the slow decoder agrees with the fast one on any bytes; on the writer's the fast one yields `pts`
  obtain ⟨X, Y, _, _, h⟩ := coords_agree _ (xBytes ds) (yBytes ds) 0 0 hsz.1.symm hsz.2.symm
  obtain ⟨hX, hY, hdec⟩ := h [] pad [] pad
  obtain ⟨fx, fy⟩ := fastCoords_xy pts 0 0 ds _ [] pad hr hd hexp
  rw [fx] at hX; rw [fy] at hY
  cases hX; cases hY
  have hz := congrArg (List.map fun t : Int × Int × Nat => (⟨wrapI16 t.1, wrapI16 t.2.1, t.2.2 != 0⟩ : Point))
    (zip3_map pts (·.x) (·.y) (fun p => if p.on then 1 else 0) _ (on_bits pts 0 0 ds _ hd hexp))
  simp only [List.map_map] at hz
  rw [List.append_nil] at hdec
  refine (hdec.trans hz).trans ((List.map_congr_left fun p hp => ?_).trans (List.map_id _))
  rw [Function.comp, wrapI16_id (hr p hp).1, wrapI16_id (hr p hp).2]
  cases p with | mk x y on => cases on <;> rfl

end FontVerif.Glyf
