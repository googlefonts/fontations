/-
C13 helper lemmas: a successful traversal has descended along every edge (so long paths and cycles
force an error); decycler facts; visit-count bound.
-/
import FontVerif.Model.Paint
import FontVerif.Lemmas.Paint
namespace FontVerif.Paint

theorem enter_ok {p p' : List PaintId} {id : PaintId} (h : enter p id = .ok p') :
    p' = p ++ [id] ∧ p.length < MAX_TRAVERSAL_DEPTH := by
  unfold enter at h
  split at h
  · split at h
    · cases h; exact ⟨rfl, by assumption⟩
    · cases h
  · cases h

theorem enter_cycle_mem {p : List PaintId} {id : PaintId} (h : enter p id = .error .cycle) : id ∈ p := by
  unfold enter at h
  split at h
  · split at h
    · cases h
    · rename_i hlt hcond
      have hne : p.length ≠ 0 := fun h0 => hcond (Or.inl h0)
      have heq : p.getD (p.length / 2) 0 = id := by
        apply Classical.byContradiction
        intro hx; exact hcond (Or.inr hx)
      have hidx : p.length / 2 < p.length := by omega
      rw [← heq, List.getD_eq_getElem?_getD, List.getElem?_eq_getElem hidx]
      simp
  · cases h

theorem askCached_unimpl (c : Client) (hc : ∀ g, c.cached g = .unimplemented) (g : Gid) (st : St) :
    (askCached c g st).1 = .unimplemented := by
  unfold askCached; split
  · exact hc g
  · rfl

theorem askCached_visits (c : Client) (g : Gid) (st : St) : (askCached c g st).2.visits = st.visits := by
  unfold askCached; split <;> rfl

theorem forLayers_ok_all (body : Nat → St → Res) :
    ∀ (l : List Nat) (st : St), (forLayers body l st).1 = none →
      ∀ i ∈ l, ∃ sti, (body i sti).1 = none := by
  intro l
  induction l with
  | nil => intro st _ i hi; cases hi
  | cons j js ih =>
    intro st h i hi
    simp only [forLayers] at h
    generalize hb : body j st = r at h
    obtain ⟨r1, st'⟩ := r
    cases r1 with
    | some e => simp at h
    | none =>
      simp only at h
      rcases List.mem_cons.mp hi with rfl | hi'
      · exact ⟨st, by rw [hb]⟩
      · exact ih st' h i hi'

theorem forLayers_visits (body : Nat → St → Res) (B : Nat)
    (hb : ∀ i st, (body i st).2.visits ≤ st.visits + B) :
    ∀ (l : List Nat) (st : St), (forLayers body l st).2.visits ≤ st.visits + l.length * B := by
  intro l
  induction l with
  | nil => intro st; simp [forLayers]
  | cons j js ih =>
    intro st
    simp only [forLayers]
    have h1 := hb j st
    generalize body j st = r at h1
    obtain ⟨r1, st'⟩ := r
    simp only at h1
    cases r1 with
    | some e =>
      simp only [List.length_cons]
      have : B ≤ (js.length + 1) * B := Nat.le_mul_of_pos_left B (by omega)
      omega
    | none =>
      have h2 := ih st'
      simp only [List.length_cons, Nat.succ_mul]
      omega

theorem Walk.trans {inst : Instance} {a b d : Node} {i j : Nat}
    (h1 : Walk inst a b i) (h2 : Walk inst b d j) : Walk inst a d (i + j) := by
  induction h1 with
  | here n => simpa using h2
  | step e w ih =>
    have := Walk.step e (ih h2)
    rw [Nat.add_right_comm]
    exact this

theorem Walk.toPath {inst : Instance} {a b : Node} {k : Nat} (h : Walk inst a b k) : Path inst a k := by
  induction h with
  | here n => exact Path.here n
  | step e w ih => exact Path.step e ih

theorem Walk.pump {inst : Instance} {a : Node} {k : Nat} (h : Walk inst a a k) :
    ∀ j, Walk inst a a (j * k) := by
  intro j
  induction j with
  | zero => simpa using Walk.here a
  | succ j ih =>
    have := ih.trans h
    rw [show (j + 1) * k = j * k + k by rw [Nat.succ_mul]]
    exact this

/-- if one level of the traversal succeeds, the recursive call on every child succeeded
(client never short-cuts a `PaintColrGlyph`) -/
theorem arm_ok_child (inst : Instance) (c : Client) (hc : ∀ g, c.cached g = .unimplemented)
    (rec : Node → List PaintId → St → Res) (node : Node) (dec : List PaintId) (st : St)
    (h : (arm inst c rec node dec st).1 = none) (m : Node) (he : Edge inst node m) :
    ∃ dec' st', (rec m dec' st').1 = none := by
  cases he with
  | glyph hres =>
    simp only [arm, hres] at h
    split at h
    · exact ⟨_, _, h⟩
    · split at h
      · exact ⟨_, _, h⟩
      · exact ⟨_, _, h⟩
  | transform hres =>
    simp only [arm, hres] at h
    exact ⟨_, _, h⟩
  | compSrc hres =>
    simp only [arm] at h
    split at h
    · cases h
    · split at h
      · cases h
      · simp only [hres] at h
        exact ⟨_, _, h⟩
  | compBackdrop hres =>
    simp only [arm, hres] at h
    split at h
    · cases h
    · rename_i hr; exact ⟨_, _, hr⟩
  | layer h1 h2 hl hres =>
    rename_i first num i pid
    simp only [arm] at h
    have hmem : i ∈ List.range' first num := by
      rw [List.mem_range'_1]; exact ⟨h1, h2⟩
    obtain ⟨sti, hb⟩ := forLayers_ok_all _ _ _ h i hmem
    simp only [hl] at hb
    split at hb
    · cases hb
    · simp only [hres] at hb
      exact ⟨_, _, hb⟩
  | colrGlyph hb hres =>
    rename_i g pid
    simp only [arm, hb] at h
    split at h
    · cases h
    · have ha := askCached_unimpl c hc g st
      generalize askCached c g st = a at h ha
      obtain ⟨a1, a2⟩ := a
      simp only at ha
      subst ha
      simp only [hres] at h
      exact ⟨_, _, h⟩

theorem trav_ok_paths (inst : Instance) (c : Client) (hc : ∀ g, c.cached g = .unimplemented) :
    ∀ (fuel : Nat) (n : Node) (dec : List PaintId) (st : St),
      (trav inst c fuel n dec st).1 = none → ∀ k, Path inst n k → k < fuel := by
  intro fuel
  induction fuel with
  | zero => intro n dec st h; simp [trav] at h
  | succ f ih =>
    intro n dec st h k hp
    cases hp with
    | here => omega
    | step he hp' =>
      simp only [trav] at h
      obtain ⟨dec', st', hr⟩ := arm_ok_child inst c hc _ n dec (bump st) h _ he
      have := ih _ dec' st' hr _ hp'
      omega

def NodeOK (k : Nat) (n : Node) : Prop := ∀ first num, n = .colrLayers first num → num ≤ k

theorem arm_visits (inst : Instance) (c : Client) (k B : Nat) (hk : 2 ≤ k) (hl : LayersBounded inst k)
    (rec : Node → List PaintId → St → Res)
    (hrec : ∀ n dec st, NodeOK k n → (rec n dec st).2.visits ≤ st.visits + B)
    (node : Node) (hn : NodeOK k node) (dec : List PaintId) (st : St) :
    (arm inst c rec node dec st).2.visits ≤ st.visits + k * B := by
  have hres : ∀ id n, inst.resolve id = some n → NodeOK k n := by
    intro id n h first num hn'; subst hn'; exact hl id first num h
  have hB : B ≤ k * B := Nat.le_mul_of_pos_left B (by omega)
  have h2B : 2 * B ≤ k * B := Nat.mul_le_mul_right B hk
  cases node with
  | colrLayers first num =>
    simp only [arm]
    have hnum : num ≤ k := hn first num rfl
    have hmul : num * B ≤ k * B := Nat.mul_le_mul_right B hnum
    refine Nat.le_trans (forLayers_visits _ B ?_ _ _) ?_
    · intro i st'
      split
      · simp
      · split
        · simp
        · split
          · simp
          · rename_i n hr; exact hrec _ _ _ (hres _ _ hr)
    · simp only [List.length_range']
      omega
  | leaf brush =>
    simp only [arm]
    cases brush <;> simp [emit_visits]
  | glyph g child =>
    simp only [arm]
    split
    · simp
    · rename_i n hr
      have h1 := hrec n dec { st with opts := { success := true, bt := none, gid := g } :: st.opts } (hres _ _ hr)
      generalize rec n dec { st with opts := { success := true, bt := none, gid := g } :: st.opts } = r1 at h1 ⊢
      simp only at h1
      split
      · omega
      · split
        · simp only; omega
        · rename_i o rest hopts hs
          have h2 := hrec n dec (emit c (.pushClipGlyph g) { r1.2 with opts := rest }) (hres _ _ hr)
          generalize rec n dec (emit c (.pushClipGlyph g) { r1.2 with opts := rest }) = r2 at h2 ⊢
          simp only [emit_visits] at h2 ⊢
          omega
  | colrGlyph g =>
    simp only [arm]
    split
    · simp
    · simp
    · split
      · simp
      · have ha := askCached_visits c g st
        generalize askCached c g st = a at ha ⊢
        split
        · simp only; omega
        · simp only; omega
        · split
          · simp only [pushClip_visits]; omega
          · rename_i pid _ _ dec' _ _ _ _ n hr
            have h1 := hrec n dec' (pushClip c (inst.clip g) a.2) (hres _ _ hr)
            generalize rec n dec' (pushClip c (inst.clip g) a.2) = r at h1 ⊢
            rw [pushClip_visits] at h1
            simp only [popClipIf_visits]; omega
  | transform tag child =>
    simp only [arm]
    split
    · simp only [emit_visits]; omega
    · rename_i n hr
      have h1 := hrec n dec (emit c (.pushT [tag]) st) (hres _ _ hr)
      generalize rec n dec (emit c (.pushT [tag]) st) = r at h1 ⊢
      simp only [emit_visits] at h1 ⊢
      omega
  | composite src mode backdrop =>
    simp only [arm]
    split
    · simp only [emit_visits]; omega
    · rename_i nb hr
      have h1 := hrec nb dec (emit c (.pushLayer SRC_OVER) st) (hres _ _ hr)
      generalize rec nb dec (emit c (.pushLayer SRC_OVER) st) = r1 at h1 ⊢
      simp only [emit_visits] at h1
      split
      · simp only; omega
      · split
        · simp only [emit_visits]; omega
        · rename_i ns hr2
          have h2 := hrec ns dec (emit c (.pushLayer mode) r1.2) (hres _ _ hr2)
          generalize rec ns dec (emit c (.pushLayer mode) r1.2) = r2 at h2 ⊢
          simp only [emit_visits] at h2 ⊢
          omega

theorem trav_visits (inst : Instance) (c : Client) (k : Nat) (hk : 2 ≤ k) (hl : LayersBounded inst k) :
    ∀ (fuel : Nat) (n : Node) (dec : List PaintId) (st : St), NodeOK k n →
      (trav inst c fuel n dec st).2.visits ≤ st.visits + geom k fuel := by
  intro fuel
  induction fuel with
  | zero => intro n dec st _; simp [trav, geom]
  | succ f ih =>
    intro n dec st hn
    simp only [trav, geom]
    have := arm_visits inst c k (geom k f) hk hl (trav inst c f) ih n hn dec (bump st)
    simp only [bump] at this ⊢
    omega

end FontVerif.Paint
