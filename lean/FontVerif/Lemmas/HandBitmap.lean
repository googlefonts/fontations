/-
Helper lemmas for Props/C01HandBitmap.lean (Model/HandBitmap.lean).  Every function of the model is characterised
once, by `Res.Sat A P`: a value it returns has `P`, and it panics only if `A` fails (`A` = the width facts: the data
are bytes, lengths are below `usize::MAX`); the "no panic" and the "what `Ok` means" theorems are the two readings.
-/
import FontVerif.Model.HandBitmap
import FontVerif.Lemmas.HandSearch
import FontVerif.Lemmas.HandRead
import FontVerif.Lemmas.Ite

namespace FontVerif.HandBitmap
open FontVerif.HandRead

/-- the data is a list of bytes -/
def Bytes (d : List Nat) : Prop := ∀ b ∈ d, b < 256

theorem maxu_eq : MAXU = 18446744073709551615 := rfl

theorem checkedMul_some {a b e : Nat} (h : checkedMul a b = some e) : e = a * b ∧ a * b ≤ MAXU :=
  checkedMul_eq_some h

theorem sliceExcl_some {d : List Nat} {a b x : Nat} (h : sliceExcl d a b = some x) : a ≤ b ∧ b ≤ d.length := by
  unfold sliceExcl getRange at h; split at h
  · assumption
  · cases h

theorem arrGet_some {sd : List Nat} {pos stride elem count ix v : Nat}
    (h : arrGet sd pos stride elem count ix = some v) : ix < count ∧ v = beAt sd (pos + stride * ix) elem := by
  unfold arrGet at h; split at h
  · injection h with h; exact ⟨by assumption, h.symm⟩
  · cases h

theorem index0_bigMetrics (sd : List Nat) (pos : Nat) : index0 (bigMetrics sd pos) = .ok ((sd.drop pos).take 8) := rfl

theorem finishAfter_le {sd : List Nat} {fixed bl : Nat} (hlen : sd.length < MAXU)
    (h : finishAfter sd fixed bl = true) : fixed + bl ≤ sd.length := by
  simp only [finishAfter, Cur.finish, Cur.advanceBy, satAdd, decide_eq_true_eq] at h
  split at h <;> omega

theorem divCeil8_le (a : Nat) : divCeil8 a ≤ a := by
  unfold divCeil8; split <;> omega

@[simp] theorem bind_ok {α β : Type} (a : α) (f : α → Res β) : (Res.ok a >>= f) = f a := rfl
@[simp] theorem bind_err {α β : Type} (e : BErr) (f : α → Res β) : (Res.err e >>= f) = .err e := rfl
@[simp] theorem bind_trap {α β : Type} (f : α → Res β) : ((Res.trap : Res α) >>= f) = .trap := rfl
@[simp] theorem rbind_ok {α β : Type} (a : α) (f : α → Res β) : (Res.ok a).bind f = f a := rfl
@[simp] theorem pure_eq {α : Type} (a : α) : (pure a : Res α) = .ok a := rfl

/-- what a call may do: a value has `P`, an `Err` is always acceptable, a panic refutes `A`
(`A` collects the width facts — bytes below 256, lengths below `usize::MAX` — under which no panic occurs) -/
def Res.Sat {α : Type} (A : Prop) (P : α → Prop) : Res α → Prop
  | .ok a => P a
  | .err _ => True
  | .trap => ¬ A

namespace Res.Sat
variable {α β : Type} {A : Prop} {P Q : α → Prop} {r : Res α}

theorem ne_trap (h : r.Sat A P) (a : A) : r ≠ .trap := by rintro rfl; exact h a

theorem of_ok {a : α} (h : r.Sat A P) (e : r = .ok a) : P a := by subst e; exact h

theorem mono (h : r.Sat A P) (hpq : ∀ a, P a → Q a) : r.Sat A Q := by
  cases r with
  | ok a => exact hpq a h
  | err e => trivial
  | trap => exact h

theorem bind {x : Res α} {f : α → Res β} {Q : β → Prop} (h : x.Sat A fun a => (f a).Sat A Q) :
    (x >>= f).Sat A Q := by
  cases x <;> exact h

theorem ite {c : Prop} [Decidable c] {x y : Res α} (hx : c → x.Sat A P) (hy : ¬c → y.Sat A P) :
    (if c then x else y).Sat A P :=
  ite_elim (P := Res.Sat A P) hx hy

end Res.Sat

theorem usizeAdd_sat {A : Prop} {P : Nat → Prop} {a b : Nat} (hA : A → a + b ≤ MAXU) (hP : a + b ≤ MAXU → P (a + b)) :
    (usizeAdd a b).Sat A P :=
  ite_elim (P := Res.Sat A P) hP fun h a => h (hA a)

theorem usizeMul_sat {A : Prop} {P : Nat → Prop} {a b : Nat} (hA : A → a * b ≤ MAXU) (hP : a * b ≤ MAXU → P (a * b)) :
    (usizeMul a b).Sat A P :=
  ite_elim (P := Res.Sat A P) hP fun h a => h (hA a)

theorem usizeSub_sat {A : Prop} {P : Nat → Prop} {a b : Nat} (hA : A → b ≤ a) (hP : b ≤ a → P (a - b)) :
    (usizeSub a b).Sat A P :=
  ite_elim (P := Res.Sat A P) hP fun h a => h (hA a)

theorem okOr_sat {α : Type} {A : Prop} {P : α → Prop} {o : Option α} {e : BErr} (hP : ∀ a, o = some a → P a) :
    (okOr o e).Sat A P := by
  cases o with
  | none => trivial
  | some a => exact hP a rfl

/-- the tail of every generated array reader: `count.checked_mul(elem)`, `advance_by`, `finish` -/
theorem sized_ok {sd : List Nat} {fixed count elem : Nat} {x sub : Sub} (hlen : sd.length < MAXU)
    (h : (match checkedMul count elem with
      | none => .error .oob
      | some bl => if finishAfter sd fixed bl then .ok x else .error .oob : Except BErr Sub) = .ok sub) :
    sub = x ∧ fixed + count * elem ≤ sd.length := by
  obtain ⟨-, h⟩ := checkedMul_step h nofun
  obtain ⟨hfin, h⟩ := else_step h nofun
  cases h
  exact ⟨rfl, finishAfter_le hlen hfin⟩

theorem readSubtable_facts {sd : List Nat} {last first : Nat} {sub : Sub} (hlen : sd.length < MAXU)
    (h : readSubtable sd last first = .ok sub) :
    subMinEnd sub ≤ sd.length ∧
    (match sub with
     | .f1 c => c = satAdd (last - first) 2
     | .f2 => True
     | .f3 c => c = satAdd (last - first) 2
     | .f4 c => c = satAdd (beAt sd 8 4) 1
     | .f5 c => c = beAt sd 20 4) := by
  unfold readSubtable at h
  obtain ⟨-, h⟩ := readAt_step h nofun
  generalize beAt sd 0 2 = f at h
  by_cases h1 : f = 1
  · rw [if_pos h1] at h
    obtain ⟨rfl, hle⟩ := sized_ok hlen h
    exact ⟨hle, rfl⟩
  rw [if_neg h1] at h
  by_cases h2 : f = 2
  · rw [if_pos h2] at h
    obtain ⟨hfin, h⟩ := else_step h nofun
    cases h
    exact ⟨finishAfter_le hlen hfin, trivial⟩
  rw [if_neg h2] at h
  by_cases h3 : f = 3
  · rw [if_pos h3] at h
    obtain ⟨rfl, hle⟩ := sized_ok hlen h
    exact ⟨hle, rfl⟩
  rw [if_neg h3] at h
  by_cases h4 : f = 4
  · rw [if_pos h4] at h
    obtain ⟨-, h⟩ := readAt_step h nofun
    obtain ⟨rfl, hle⟩ := sized_ok hlen h
    exact ⟨hle, rfl⟩
  rw [if_neg h4] at h
  by_cases h5 : f = 5
  · rw [if_pos h5] at h
    obtain ⟨-, h⟩ := readAt_step h nofun
    obtain ⟨rfl, hle⟩ := sized_ok hlen h
    exact ⟨hle, rfl⟩
  rw [if_neg h5] at h
  cases h

theorem resolveSubtable_facts {ld : List Nat} {off last first : Nat} {sd : List Nat} {sub : Sub}
    (h : resolveSubtable ld off last first = .ok (sd, sub)) :
    off ≠ 0 ∧ off ≤ ld.length ∧ sd = ld.drop off ∧ readSubtable sd last first = .ok sub := by
  unfold resolveSubtable at h
  obtain ⟨h0, h⟩ := Do.error_else_ok h
  by_cases hle : off ≤ ld.length
  · rw [splitOff, if_pos hle] at h
    cases hr : readSubtable (ld.drop off) last first with
    | error e => rw [hr] at h; cases h
    | ok s => rw [hr] at h; cases h; exact ⟨h0, hle, rfl, hr⟩
  · rw [splitOff, if_neg hle] at h; cases h

theorem records_length (ld : List Nat) (n : Nat) : (records ld n).length = n := by simp [records]

theorem records_mem {ld : List Nat} (hb : Bytes ld) {n : Nat} {r : Nat × Nat × Nat} (h : r ∈ records ld n) :
    r.2.1 < 65536 := by
  simp only [records, List.mem_map, List.mem_range] at h
  obtain ⟨i, _, rfl⟩ := h
  exact beAt2_lt _ hb _

/-! ## `BitmapSize::location` -/

/-- formats 1 and 3 — two entries of the `sbit_offsets` array that the reader sized inside the data -/
theorem twoOffsets_sat {A : Prop} {sd : List Nat} {elem count glyphIx ido : Nat} {loc0 : Loc} {imf : Nat}
    (hend : 8 + count * elem ≤ sd.length)
    (hv : A → ido < 4294967296 ∧ count ≤ MAXU ∧ ∀ p, beAt sd p elem < 4294967296) :
    Res.Sat A (fun loc =>
      loc.format = imf ∧ loc.bitDepth = loc0.bitDepth ∧
      glyphIx + 1 < count ∧ 8 + elem * (glyphIx + 2) ≤ sd.length ∧
      loc.dataOffset = ido + beAt sd (8 + elem * glyphIx) elem ∧
      loc.dataOffset + loc.dataSize = ido + beAt sd (8 + elem * (glyphIx + 1)) elem ∧
      loc.metrics = loc0.metrics)
    (do
      let o0 ← okOr (arrGet sd 8 elem elem count glyphIx) .oob
      let start ← usizeAdd ido o0
      let ix1 ← usizeAdd glyphIx 1
      let o1 ← okOr (arrGet sd 8 elem elem count ix1) .oob
      let end_ ← usizeAdd ido o1
      if end_ < start then (Res.err .oob : Res Loc)
      else do
        let size ← usizeSub end_ start
        Res.ok { loc0 with format := imf, dataOffset := start, dataSize := size }) := by
  have hM := maxu_eq
  refine .bind (okOr_sat fun o0 h0 => ?_)
  obtain ⟨hix, rfl⟩ := arrGet_some h0
  refine .bind (usizeAdd_sat (fun a => by have := (hv a).2.2 (8 + elem * glyphIx); have := (hv a).1; omega) fun _ => ?_)
  refine .bind (usizeAdd_sat (fun a => by have := (hv a).2.1; omega) fun _ => ?_)
  refine .bind (okOr_sat fun o1 h1 => ?_)
  obtain ⟨hlt, rfl⟩ := arrGet_some h1
  refine .bind (usizeAdd_sat (fun a => by have := (hv a).2.2 (8 + elem * (glyphIx + 1)); have := (hv a).1; omega) fun _ => ?_)
  refine .ite (fun _ => trivial) fun hge => ?_
  refine .bind (usizeSub_sat (fun _ => by omega) fun _ => ?_)
  have hin : elem * (glyphIx + 2) ≤ count * elem := Nat.mul_comm count elem ▸ Nat.mul_le_mul_left elem hlt
  exact ⟨rfl, rfl, hlt, by omega, rfl, by dsimp only; omega, rfl⟩

/-- formats 2 and 5 — every glyph has `image_size` bytes; `u32 + u32 · u32` fits a `usize` -/
theorem fixedSize_sat {A : Prop} {sd : List Nat} {ix imf : Nat} {loc0 : Loc} (hv : A → Bytes sd ∧ ix < 4294967296) :
    Res.Sat A (fun loc => loc.format = imf ∧ loc.bitDepth = loc0.bitDepth ∧
        loc.dataOffset = subImageDataOffset sd + ix * beAt sd 8 4 ∧ loc.dataSize = beAt sd 8 4 ∧
        loc.metrics = some ((sd.drop 12).take 8))
      (do
        let m ← usizeMul ix (beAt sd 8 4)
        let off ← usizeAdd (subImageDataOffset sd) m
        let bm ← index0 (bigMetrics sd 12)
        Res.ok { loc0 with format := imf, dataOffset := off, dataSize := beAt sd 8 4, metrics := some bm }) := by
  have hfit : A → subImageDataOffset sd + ix * beAt sd 8 4 ≤ MAXU := fun a => by
    have := beAt4_lt _ (hv a).1 4
    have := beAt4_lt _ (hv a).1 8
    have : ix * beAt sd 8 4 ≤ 4294967295 * 4294967295 := Nat.mul_le_mul (by have := (hv a).2; omega) (by omega)
    simp only [subImageDataOffset, maxu_eq]; omega
  refine .bind (usizeMul_sat (fun a => by have := hfit a; omega) fun _ => ?_)
  refine .bind (usizeAdd_sat hfit fun _ => ?_)
  exact ⟨rfl, rfl, rfl, rfl, rfl⟩

/-- what `subLocation … = Ok(loc)` says, format by format: the entries read are entries of the array the
reader sized inside the subtable's data, and the location is computed from them -/
def SubLocSpec (sd : List Nat) (sub : Sub) (gid ix : Nat) (loc0 loc : Loc) : Prop :=
  loc.format = subImageFormat sd ∧ loc.bitDepth = loc0.bitDepth ∧
  match sub with
  | .f1 c => ix + 1 < c ∧ 8 + 4 * (ix + 2) ≤ sd.length ∧
      loc.dataOffset = subImageDataOffset sd + beAt sd (8 + 4 * ix) 4 ∧
      loc.dataOffset + loc.dataSize = subImageDataOffset sd + beAt sd (8 + 4 * (ix + 1)) 4 ∧
      loc.metrics = loc0.metrics
  | .f2 => 20 ≤ sd.length ∧ loc.dataOffset = subImageDataOffset sd + ix * beAt sd 8 4 ∧
      loc.dataSize = beAt sd 8 4 ∧ loc.metrics = some ((sd.drop 12).take 8)
  | .f3 c => ix + 1 < c ∧ 8 + 2 * (ix + 2) ≤ sd.length ∧
      loc.dataOffset = subImageDataOffset sd + beAt sd (8 + 2 * ix) 2 ∧
      loc.dataOffset + loc.dataSize = subImageDataOffset sd + beAt sd (8 + 2 * (ix + 1)) 2 ∧
      loc.metrics = loc0.metrics
  | .f4 c => ∃ i, i + 1 < c ∧ 12 + 4 * (i + 2) ≤ sd.length ∧ beAt sd (12 + 4 * i) 2 = gid ∧
      loc.dataOffset = beAt sd (14 + 4 * i) 2 ∧
      loc.dataOffset + loc.dataSize = beAt sd (14 + 4 * (i + 1)) 2 ∧ loc.metrics = loc0.metrics
  | .f5 c => ∃ i, i < c ∧ 24 + 2 * (i + 1) ≤ sd.length ∧ beAt sd (24 + 2 * i) 2 = gid ∧
      loc.dataOffset = subImageDataOffset sd + i * beAt sd 8 4 ∧ loc.dataSize = beAt sd 8 4 ∧
      loc.metrics = some ((sd.drop 12).take 8)

theorem subLocation_sat {A : Prop} {sd : List Nat} {last first : Nat} {sub : Sub}
    (hsub : readSubtable sd last first = .ok sub) (hlen : sd.length < MAXU) {gid ix : Nat} {loc0 : Loc}
    (hA : A → Bytes sd ∧ ix < 4294967296) :
    (subLocation sd sub gid ix loc0).Sat A (SubLocSpec sd sub gid ix loc0) := by
  obtain ⟨hend, hf⟩ := readSubtable_facts hlen hsub
  have hM := maxu_eq
  unfold subLocation SubLocSpec
  cases sub with
  | f1 count =>
    exact twoOffsets_sat hend fun a => ⟨beAt4_lt _ (hA a).1 4, hf ▸ satAdd_le _ _, beAt4_lt _ (hA a).1⟩
  | f3 count =>
    exact twoOffsets_sat hend fun a => ⟨beAt4_lt _ (hA a).1 4, hf ▸ satAdd_le _ _,
      fun p => Nat.lt_trans (beAt2_lt _ (hA a).1 p) (by decide)⟩
  | f2 =>
    exact (fixedSize_sat hA).mono fun loc ⟨a, b, r⟩ => ⟨a, b, hend, r⟩
  | f4 count =>
    dsimp only [subMinEnd] at hf hend ⊢
    cases hbs : Layout.binarySearchBy count _ with
    | err _ => trivial
    | ok i =>
      obtain ⟨hlt, heq⟩ := BinSearch.ok_lt hbs
      dsimp only
      rw [show arrGet sd 14 4 2 count i = some (beAt sd (14 + 4 * i) 2) from if_pos hlt]
      refine .bind (x := Res.ok _) ?_
      refine .bind (usizeAdd_sat (fun _ => by have := satAdd_le (beAt sd 8 4) 1; omega) fun _ => ?_)
      refine .bind (okOr_sat fun e he => ?_)
      obtain ⟨hlt1, rfl⟩ := arrGet_some he
      refine .ite (fun _ => trivial) fun hge => ?_
      refine .bind (usizeSub_sat (fun _ => by omega) fun _ => ?_)
      exact ⟨rfl, rfl, i, hlt1, by omega, Layout.natCmp_eq.mp heq, rfl, by dsimp only; omega, rfl⟩
  | f5 count =>
    dsimp only [subMinEnd] at hf hend ⊢
    cases hbs : Layout.binarySearchBy count _ with
    | err _ => trivial
    | ok i =>
      obtain ⟨hlt, heq⟩ := BinSearch.ok_lt hbs
      exact (fixedSize_sat fun a => ⟨(hA a).1, by have := beAt4_lt _ (hA a).1 20; omega⟩).mono
        fun loc ⟨a, b, r⟩ => ⟨a, b, i, hlt, by omega, Layout.natCmp_eq.mp heq, r⟩

theorem locLoop_trips (ld : List Nat) (gid : Nat) (loc0 : Loc) :
    ∀ recs, (locLoop ld gid loc0 recs).2 ≤ recs.length := by
  intro recs
  induction recs with
  | nil => simp [locLoop]
  | cons r rest ih =>
    obtain ⟨first, last, off⟩ := r
    unfold locLoop
    split
    · simp
    · split
      · simp
      · simp only [List.length_cons]; omega

/-- the record loop: the first record whose range holds the glyph id decides, its subtable read, and the location is
that subtable's -/
theorem locLoop_sat {A : Prop} {ld : List Nat} {gid : Nat} {loc0 : Loc} (hlen : ld.length < MAXU) :
    ∀ recs, (A → Bytes ld ∧ ∀ r ∈ recs, r.2.1 < 65536) →
    (locLoop ld gid loc0 recs).1.Sat A fun loc =>
      ∃ k first last off sd sub, recs[k]? = some (first, last, off) ∧
        (∀ j, j < k → ∀ r, recs[j]? = some r → rangeContains r.1 r.2.1 gid = false) ∧
        rangeContains first last gid = true ∧
        resolveSubtable ld off last first = .ok (sd, sub) ∧
        SubLocSpec sd sub gid (gid - first) loc0 loc ∧
        (locLoop ld gid loc0 recs).2 = k + 1 := by
  intro recs
  induction recs with
  | nil => intro _; trivial
  | cons r rest ih =>
    intro hA
    obtain ⟨first, last, off⟩ := r
    rw [locLoop]
    cases hres : resolveSubtable ld off last first with
    | error e => trivial
    | ok p =>
      obtain ⟨sd, sub⟩ := p
      obtain ⟨_, hole, rfl, hsub⟩ := resolveSubtable_facts hres
      have hls : (ld.drop off).length < MAXU := by rw [List.length_drop]; omega
      dsimp only
      by_cases hc : rangeContains first last gid = true
      · rw [if_pos hc]
        have hc' := hc
        simp only [rangeContains, decide_eq_true_eq] at hc'
        refine .bind (usizeSub_sat (fun _ => hc'.1) fun _ => ?_)
        refine (subLocation_sat hsub hls fun a => ⟨bytes_of_drop (hA a).1 off, ?_⟩).mono fun loc hloc =>
          ⟨0, first, last, off, _, sub, rfl, fun j hj => by omega, hc, hres, hloc, rfl⟩
        have : last < 65536 := (hA a).2 _ (List.mem_cons_self ..)
        omega
      · rw [if_neg hc]
        refine (ih fun a => ⟨(hA a).1, fun r hr => (hA a).2 r (List.mem_cons_of_mem _ hr)⟩).mono ?_
        intro loc ⟨k, f, l, o, sd', sub', hk, hbefore, hcont, hres', hloc, htr⟩
        refine ⟨k + 1, f, l, o, sd', sub', by simpa using hk, ?_, hcont, hres', hloc, by rw [htr]⟩
        intro j hj r hr
        cases j with
        | zero => simp at hr; subst hr; simpa using hc
        | succ j => exact hbefore j (by omega) r (by simpa using hr)

/-! ## `bitmap_data` -/

/-- bytes per element of the content slice (`u8` / `BdtComponent`) -/
def Kind.elemSize : Kind → Nat
  | .composite => 4
  | _ => 1

/-- the content slice lies inside the image: `start = off + p`, `p + count · elem ≤ img.len()` -/
def ContentIn (img : List Nat) (off : Nat) (b : BData) : Prop :=
  ∃ p, b.start = off + p ∧ p + b.count * b.kind.elemSize ≤ img.length

/-- the size arithmetic of the bit / byte aligned formats stays below 2^24 for `u8` width, height and bit depth -/
theorem size_products_bound {w h bd : Nat} (hw : w < 256) (hh : h < 256) (hbd : bd < 256) :
    w * bd ≤ 65025 ∧ divCeil8 (w * bd) * h ≤ 16581375 ∧ w * bd * h ≤ 16581375 := by
  have h1 : w * bd ≤ 255 * 255 := Nat.mul_le_mul (by omega) (by omega)
  have h2 : divCeil8 (w * bd) * h ≤ 65025 * 255 := Nat.mul_le_mul (by have := divCeil8_le (w * bd); omega) (by omega)
  have h3 : w * bd * h ≤ 65025 * 255 := Nat.mul_le_mul (by omega) (by omega)
  omega

theorem readR_ok {img : List Nat} {c c' : Cur} {sz v : Nat} (h : readR img c sz = .ok (v, c')) :
    v = beAt img c.pos sz ∧ c.pos + sz ≤ img.length ∧ c'.pos = satAdd c.pos sz := by
  unfold readR Cur.read at h
  cases hr : readAt img c.pos sz with
  | none => simp [hr] at h
  | some x =>
    simp only [hr] at h
    injection h with h; injection h with hv hc
    obtain ⟨h2, -, h1⟩ := readAt_eq_some hr
    exact ⟨by omega, h2, by rw [← hc]; rfl⟩

theorem readArrR_sat {A : Prop} {P : Nat × Cur → Prop} {img : List Nat} {c : Cur} {n elem : Nat}
    (hP : ∀ c' : Cur, c.pos + n * elem ≤ img.length → P (n, c')) :
    (readArrR img c n elem).Sat A P := by
  unfold readArrR
  rcases hr : c.readArray img n elem with ⟨r, c1⟩
  cases r with
  | error e => trivial
  | ok k => obtain ⟨-, rfl, h1, -⟩ := Cur.readArray_eq_ok hr; exact hP c1 h1

theorem readR_sat {A : Prop} {P : Nat × Cur → Prop} {img : List Nat} {c : Cur} {sz : Nat}
    (hP : ∀ c' : Cur, P (beAt img c.pos sz, c')) : (readR img c sz).Sat A P := by
  cases h : readR img c sz with
  | ok x => obtain ⟨v, c'⟩ := x; rw [(readR_ok h).1]; exact hP c'
  | err e => trivial
  | trap => unfold readR at h; split at h <;> cases h

theorem readMetrics_sat {A : Prop} {P : List Nat × Cur → Prop} {img : List Nat} {c : Cur} {sz : Nat}
    (hP : ∀ c' : Cur, P ((img.drop c.pos).take sz, c')) : (readMetrics img c sz).Sat A P := by
  refine .bind (readArrR_sat fun c' _ => ?_)
  exact hP c'

theorem content_sat {A : Prop} {img : List Nat} {off : Nat} {c : Cur} {n elem : Nat} {small : Bool} {m : List Nat}
    {kind : Kind} (he : kind.elemSize = elem) :
    (readArrR img c n elem >>= fun x =>
      Res.ok { small := small, metrics := m, kind := kind, start := off + c.pos, count := x.1 }).Sat A
      (ContentIn img off) :=
  .bind (readArrR_sat fun _ hle => ⟨c.pos, rfl, he ▸ hle⟩)

theorem byteAligned_sat {A : Prop} {img : List Nat} {off : Nat} {c : Cur} {small : Bool} {m : List Nat} {bd : Nat}
    (hA : A → Bytes m ∧ bd < 256) : (byteAligned img off c small m bd).Sat A (ContentIn img off) := by
  have hs := fun a => size_products_bound (getD_lt_of_forall (d := 0) (hA a).1 1 (by omega))
    (getD_lt_of_forall (d := 0) (hA a).1 0 (by omega)) (hA a).2
  have hM := maxu_eq
  refine .bind (usizeMul_sat (fun a => by have := (hs a).1; simp only [mWidth]; omega) fun _ => ?_)
  refine .bind (usizeMul_sat (fun a => by have := (hs a).2.1; simp only [mWidth, mHeight]; omega) fun _ => ?_)
  exact content_sat rfl

theorem bitAligned_sat {A : Prop} {img : List Nat} {off : Nat} {c : Cur} {small : Bool} {m : List Nat} {bd : Nat}
    (hA : A → Bytes m ∧ bd < 256) : (bitAligned img off c small m bd).Sat A (ContentIn img off) := by
  have hs := fun a => size_products_bound (getD_lt_of_forall (d := 0) (hA a).1 1 (by omega))
    (getD_lt_of_forall (d := 0) (hA a).1 0 (by omega)) (hA a).2
  have hM := maxu_eq
  refine .bind (usizeMul_sat (fun a => by have := (hs a).1; simp only [mWidth]; omega) fun _ => ?_)
  refine .bind (usizeMul_sat (fun a => by have := (hs a).2.2; simp only [mWidth, mHeight]; omega) fun _ => ?_)
  exact content_sat rfl

theorem composite_sat {A : Prop} {img : List Nat} {off : Nat} {c : Cur} {small : Bool} {m : List Nat} :
    (composite img off c small m).Sat A (ContentIn img off) :=
  .bind (readR_sat fun _ => content_sat (kind := .composite) (elem := 4) rfl)

theorem png_sat {A : Prop} {img : List Nat} {off : Nat} {c : Cur} {small : Bool} {m : List Nat} :
    (png img off c small m).Sat A (ContentIn img off) :=
  .bind (readR_sat fun _ => content_sat (kind := .png) (elem := 1) rfl)

/-- behind the slice every format arm is one of the four content readers, run on metrics that are a sub-slice of the
image or came with the location -/
theorem bitmapData_sat (d : List Nat) (loc : Loc) (isColor : Bool) :
    (bitmapData d loc isColor).Sat (Bytes d ∧ loc.bitDepth < 256 ∧ ∀ m, loc.metrics = some m → Bytes m) fun b =>
      loc.dataOffset + loc.dataSize ≤ d.length ∧ ContentIn ((d.drop loc.dataOffset).take loc.dataSize) loc.dataOffset b := by
  unfold bitmapData
  cases he : checkedAdd loc.dataOffset loc.dataSize with
  | none => trivial
  | some e =>
    obtain ⟨rfl, _⟩ := checkedAdd_eq_some he
    dsimp only
    cases hs : sliceExcl d loc.dataOffset (loc.dataOffset + loc.dataSize) with
    | none => trivial
    | some x =>
      have hr := (sliceExcl_some hs).2
      dsimp only
      have sub : ∀ {p n}, (Bytes d ∧ loc.bitDepth < 256 ∧ ∀ m, loc.metrics = some m → Bytes m) →
          Bytes ((((d.drop loc.dataOffset).take loc.dataSize).drop p).take n) ∧ loc.bitDepth < 256 :=
        fun a => ⟨bytes_of_take (bytes_of_drop (bytes_of_take (bytes_of_drop a.1 _) _) _) _, a.2.1⟩
      have own : ∀ {m}, loc.metrics = some m → (Bytes d ∧ loc.bitDepth < 256 ∧ ∀ m, loc.metrics = some m → Bytes m) →
          Bytes m ∧ loc.bitDepth < 256 := fun hm a => ⟨a.2.2 _ hm, a.2.1⟩
      -- every arm ends in a content reader; the slice bound is the same in all
      refine Res.Sat.mono (Q := fun b => _ ∧ ContentIn _ loc.dataOffset b) ?_ fun b h => ⟨hr, h⟩
      refine .ite (fun _ => .bind (readMetrics_sat fun c1 => byteAligned_sat sub)) fun _ => ?_
      refine .ite (fun _ => .bind (readMetrics_sat fun c1 => bitAligned_sat sub)) fun _ => ?_
      refine .ite (fun _ => .bind (okOr_sat fun m hm => bitAligned_sat (own hm))) fun _ => ?_
      refine .ite (fun _ => .bind (readMetrics_sat fun c1 => byteAligned_sat sub)) fun _ => ?_
      refine .ite (fun _ => .bind (readMetrics_sat fun c1 => bitAligned_sat sub)) fun _ => ?_
      refine .ite (fun _ => .bind (readMetrics_sat fun c1 => .bind (readR_sat fun c2 => composite_sat))) fun _ => ?_
      refine .ite (fun _ => .bind (readMetrics_sat fun c1 => composite_sat)) fun _ => ?_
      refine .ite (fun _ => .bind (readMetrics_sat fun c1 => png_sat)) fun _ => ?_
      refine .ite (fun _ => .bind (readMetrics_sat fun c1 => png_sat)) fun _ => ?_
      exact .ite (fun _ => .bind (okOr_sat fun m hm => png_sat)) fun _ => trivial

/-! ## sbix -/

theorem glyphDataRead_ok {gd : List Nat} (h : glyphDataRead gd = .ok ()) : 8 ≤ gd.length := by
  unfold glyphDataRead at h
  simp only [Cur.finish, Cur.advanceBy, Cur.remainingBytes, satAdd, Nat.div_one, Nat.mul_one] at h
  by_cases hl : 8 ≤ gd.length
  · exact hl
  · have : gd.length - 8 = 0 := by omega
    rw [this] at h
    simp at h
    rw [maxu_eq] at h
    simp at h
    omega

theorem glyphData_sat {A : Prop} {sd : List Nat} {count gid : Nat} (hA : A → count ≤ MAXU) :
    (glyphData sd count gid).Sat A fun o => ∀ s e, o = some (s, e) →
      gid + 1 < count ∧ s = beAt sd (4 + 4 * gid) 4 ∧ e = beAt sd (4 + 4 * (gid + 1)) 4 ∧
      s < e ∧ e ≤ sd.length ∧ s + 8 ≤ e := by
  unfold glyphData
  refine .bind (okOr_sat fun start hs => ?_)
  obtain ⟨hlt0, rfl⟩ := arrGet_some hs
  refine .bind (usizeAdd_sat (fun a => by have := hA a; omega) fun _ => ?_)
  refine .bind (okOr_sat fun e he => ?_)
  obtain ⟨hlt, rfl⟩ := arrGet_some he
  refine .ite (fun _ => nofun) fun hne => ?_
  cases hsl : sliceExcl sd _ _ with
  | none => trivial
  | some x =>
    obtain ⟨h1, h2⟩ := sliceExcl_some hsl
    dsimp only
    cases hg : glyphDataRead _ with
    | error e => trivial
    | ok u =>
      have h8 := glyphDataRead_ok hg
      rw [List.length_take, List.length_drop] at h8
      intro s e h
      cases h
      exact ⟨hlt, rfl, rfl, by omega, h2, by omega⟩

end FontVerif.HandBitmap
