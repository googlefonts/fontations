/-
Helper lemmas for C16: `MarkToBaseBuilder` (class names interned in order of first use, last insert
wins, base anchor matrix with nulls) and the class information of the MarkToBase split.
-/
import FontVerif.Lemmas.LayoutClassPair
import FontVerif.Lemmas.SortedMap
namespace FontVerif.Layout

/-! ### `BTreeMap` as a sorted association list -/

theorem bmGet_eq_lookup {β : Type} (g : Nat) : ∀ (m : List (Nat × β)), bmGet g m = m.lookup g
  | [] => rfl
  | (k, v) :: rest => by
    rw [bmGet, SMap.lookup_cons, bmGet_eq_lookup g rest, ite_eq_comm]

theorem bmInsert_eq {β : Type} (g : Nat) (v : β) : ∀ (l : List (Nat × β)), bmInsert g v l = SMap.insert g v l
  | [] => rfl
  | (k, w) :: rest => by rw [bmInsert, SMap.insert_cons, bmInsert_eq g v rest]

theorem bmGet_insert {β : Type} (g : Nat) (v : β) (l : List (Nat × β)) (g' : Nat) :
    bmGet g' (bmInsert g v l) = if g' = g then some v else bmGet g' l := by
  rw [bmInsert_eq, bmGet_eq_lookup, bmGet_eq_lookup, SMap.lookup_insert]

/-- a `BTreeMap<GlyphId16, _>`: keys ascending and `u16` -/
def BmWF {β : Type} (l : List (Nat × β)) : Prop := SMap.Sorted l ∧ ∀ e ∈ l, e.1 < 65536

theorem BmWF.nil {β : Type} : BmWF ([] : List (Nat × β)) := ⟨List.Pairwise.nil, fun _ h => nomatch h⟩

theorem BmWF.insert {β : Type} {g : Nat} (v : β) {l : List (Nat × β)} (hg : g < 65536) (h : BmWF l) :
    BmWF (bmInsert g v l) := by
  rw [bmInsert_eq]
  refine ⟨SMap.insert_sorted g v h.1, fun e he => ?_⟩
  rcases SMap.mem_insert he with rfl | he'
  · exact hg
  · exact h.2 e he'

theorem BmWF.keys_sorted {β : Type} {l : List (Nat × β)} (h : BmWF l) : (l.map (·.1)).Pairwise (· < ·) :=
  List.pairwise_map.mpr h.1

theorem BmWF.keys_bound {β : Type} {l : List (Nat × β)} (h : BmWF l) : ∀ x ∈ l.map (·.1), x < 65536 :=
  fun x hx => by obtain ⟨e, he, rfl⟩ := List.mem_map.mp hx; exact h.2 e he

theorem bmGet_of_mem {β : Type} {l : List (Nat × β)} (h : BmWF l) (e : Nat × β) (he : e ∈ l) :
    bmGet e.1 l = some e.2 :=
  (bmGet_eq_lookup e.1 l).trans
    ((lookup_eq_some_iff_mem (h.keys_sorted.imp Nat.ne_of_lt) e.1 e.2).mpr he)

/-- the position of a key in the key list indexes the value list -/
theorem indexIn_bind_getElem? {β : Type} (g : Nat) : ∀ (l : List (Nat × β)),
    (indexIn g (l.map (·.1))).bind (fun i => (l.map (·.2))[i]?) = l.lookup g
  | [] => rfl
  | (k, w) :: rest => by
    rw [List.map_cons, List.map_cons, indexIn, lookup_cons_ite]
    by_cases h : k = g
    · rw [if_pos h, if_pos h.symm]; rfl
    · rw [if_neg h, if_neg (Ne.symm h), ← indexIn_bind_getElem? g rest, Option.bind_map]; rfl

/-- a sorted map compiled to (coverage of the keys, array of the values) reads back as the map -/
theorem covAt_buildCoverage {β : Type} (l : List (Nat × β)) (hw : BmWF l) (g : Nat) :
    covAt (buildCoverage (l.map (·.1))) (l.map (·.2)) g = bmGet g l := by
  rw [covAt, buildCoverage_get _ hw.keys_bound, sortDedup_of_sorted hw.keys_sorted, indexIn_bind_getElem?,
    bmGet_eq_lookup]

/-- the same when every value is compiled to a record by `f` -/
theorem covAt_build {β γ : Type} (l : List (Nat × β)) (hw : BmWF l) (f : β → Option γ) {rs : List γ}
    (h : mapOpt (fun e => f e.2) l = some rs) (g : Nat) :
    covAt (buildCoverage (l.map (·.1))) rs g = (bmGet g l).bind f := by
  rw [← covAt_buildCoverage l hw g, covAt, covAt]
  cases (buildCoverage (l.map (·.1))).get g with
  | none => rfl
  | some i =>
    rw [Option.bind_some, Option.bind_some, (mapOpt_eq_some _ _ _ h).2 i, List.getElem?_map]
    cases l[i]? <;> rfl

/-! ### `MarkList`: class names are interned in order of first use -/

theorem classId_eq_lookup (cs : List (Nat × Nat)) (n : Nat) : classId cs n = cs.lookup n :=
  find?_fst_eq_lookup n cs

theorem classId_mem {cs : List (Nat × Nat)} {n id : Nat} (h : classId cs n = some id) : (n, id) ∈ cs :=
  mem_of_lookup_eq_some ((classId_eq_lookup cs n).symm.trans h)

theorem classId_append (cs : List (Nat × Nat)) (n' k n : Nat) :
    classId (cs ++ [(n', k)]) n =
      match classId cs n with
      | some id => some id
      | none => if n' = n then some k else none := by
  unfold classId
  rw [List.find?_append]
  cases cs.find? (fun p => p.1 == n) with
  | some p => rfl
  | none =>
    by_cases h : n' = n
    · subst h; simp
    · simp [h]

theorem classId_none_not_mem {cs : List (Nat × Nat)} {n : Nat} (h : classId cs n = none) :
    n ∉ cs.map (·.1) := fun hm => by
  obtain ⟨p, hp, rfl⟩ := List.mem_map.mp hm
  rw [classId_eq_lookup, List.lookup_eq_none_iff] at h
  exact absurd rfl (bne_iff_ne.mp (h p hp))

def internClass (cs : List (Nat × Nat)) (n : Nat) : List (Nat × Nat) :=
  match classId cs n with
  | some _ => cs
  | none => cs ++ [(n, cs.length)]

theorem classId_intern (cs : List (Nat × Nat)) (n n' : Nat) :
    classId (internClass cs n) n' =
      (classId cs n').or (if n = n' then some cs.length else none) := by
  unfold internClass
  cases hc : classId cs n with
  | some id =>
    cases hc' : classId cs n' with
    | some id' => rfl
    | none => rw [Option.none_or, if_neg (fun e => by rw [e, hc'] at hc; cases hc)]
  | none =>
    rw [classId_append]
    cases classId cs n' <;> rfl

theorem classId_intern_self (cs : List (Nat × Nat)) (n : Nat) :
    classId (internClass cs n) n = some ((classId cs n).getD cs.length) := by
  rw [classId_intern, if_pos rfl]
  cases classId cs n <;> rfl

theorem classId_intern_of_some {cs : List (Nat × Nat)} (n : Nat) {n' id : Nat}
    (h : classId cs n' = some id) : classId (internClass cs n) n' = some id := by
  rw [classId_intern, h]; rfl

theorem internClass_length_le (cs : List (Nat × Nat)) (n : Nat) : cs.length ≤ (internClass cs n).length := by
  unfold internClass
  cases classId cs n with
  | some _ => exact Nat.le_refl _
  | none => rw [List.length_append]; exact Nat.le_add_right _ _

/-- `MarkList::insert`: the name is interned, the glyph's entry replaced -/
theorem markList_insert_eq {A : Type} (ml : MarkList A) (g n : Nat) (a : A) :
    (ml.insert g n a).1 =
      ⟨bmInsert g ((classId ml.classes n).getD ml.classes.length, a) ml.glyphs, internClass ml.classes n⟩ := by
  unfold MarkList.insert internClass
  cases classId ml.classes n <;> cases bmGet g ml.glyphs <;> simp only [] <;> (try split) <;> rfl

/-- its result: `Ok(id)`, or `Err(name of the class the glyph was in)` -/
theorem markList_insert_snd {A : Type} (ml : MarkList A) (g n : Nat) (a : A) :
    (ml.insert g n a).2 =
      match bmGet g ml.glyphs with
      | some p =>
        if p.1 ≠ (classId ml.classes n).getD ml.classes.length then
          .inr ((((internClass ml.classes n).find? (fun q => q.2 == p.1)).map (·.1)).getD 0)
        else .inl ((classId ml.classes n).getD ml.classes.length)
      | none => .inl ((classId ml.classes n).getD ml.classes.length) := by
  unfold MarkList.insert internClass
  cases classId ml.classes n with
  | none =>
    cases bmGet g ml.glyphs with
    | none => rfl
    | some p => exact apply_ite Prod.snd _ _ _
  | some id =>
    cases bmGet g ml.glyphs with
    | none => rfl
    | some p => exact apply_ite Prod.snd _ _ _

/-- ids `0, 1, 2, …` in order of first use, names distinct -/
def ClassesOK (cs : List (Nat × Nat)) : Prop :=
  cs.map (·.2) = List.range cs.length ∧ (cs.map (·.1)).Nodup

theorem ClassesOK.intern {cs : List (Nat × Nat)} (h : ClassesOK cs) (n : Nat) : ClassesOK (internClass cs n) := by
  unfold internClass
  cases hc : classId cs n with
  | some _ => exact h
  | none =>
    refine ⟨by simp only [List.map_append, List.map_cons, List.map_nil, List.length_append, List.length_cons,
      List.length_nil, Nat.zero_add, List.range_succ, h.1], ?_⟩
    rw [List.map_append]
    exact nodup_concat h.2 (classId_none_not_mem hc)

theorem ClassesOK.id_lt {cs : List (Nat × Nat)} (h : ClassesOK cs) {n id : Nat}
    (hc : classId cs n = some id) : id < cs.length := by
  have : id ∈ cs.map (·.2) := List.mem_map.mpr ⟨_, classId_mem hc, rfl⟩
  rw [h.1] at this
  simpa using this

theorem ClassesOK.id_inj {cs : List (Nat × Nat)} (h : ClassesOK cs) {n n' id : Nat}
    (hc : classId cs n = some id) (hc' : classId cs n' = some id) : n = n' := by
  have hnd : (cs.map (·.2)).Nodup := by rw [h.1]; exact List.nodup_range
  have := eq_of_nodup_map (·.2) _ hnd _ (classId_mem hc) _ (classId_mem hc') rfl
  exact (Prod.ext_iff.mp this).1

/-- an id has exactly one name -/
theorem ClassesOK.name_of_id {cs : List (Nat × Nat)} (h : ClassesOK cs) {n id : Nat}
    (hc : classId cs n = some id) : ((cs.find? (fun q => q.2 == id)).map (·.1)).getD 0 = n := by
  have hnd : (cs.map (·.2)).Nodup := by rw [h.1]; exact List.nodup_range
  cases hf : cs.find? (fun q => q.2 == id) with
  | none => exact absurd (beq_self_eq_true id) (List.find?_eq_none.mp hf _ (classId_mem hc))
  | some q =>
    have hq2 : q.2 = id := by simpa using List.find?_some hf
    rw [eq_of_nodup_map (·.2) cs hnd q (List.mem_of_find?_eq_some hf) (n, id) (classId_mem hc) hq2]
    rfl

/-! ### what a sequence of inserts says: the last `insert_mark` of a glyph, the last `insert_base` of a (glyph, class) -/

def lastMark {A : Type} (ops : List (MbOp A)) (m : Nat) : Option (Nat × A) :=
  ops.reverse.findSome? (fun op => match op with
    | .mark g n a => if g = m then some (n, a) else none
    | .base _ _ _ => none)

def lastBase {A : Type} (ops : List (MbOp A)) (b n : Nat) : Option A :=
  ops.reverse.findSome? (fun op => match op with
    | .base g n' a => if g = b ∧ n' = n then some a else none
    | .mark _ _ _ => none)

theorem mbExpected_eq {A : Type} (ops : List (MbOp A)) (m b : Nat) :
    mbExpected ops m b =
      match lastMark ops m with
      | none => none
      | some p => (lastBase ops b p.1).map (fun ab => (p.2, ab)) := by
  unfold mbExpected lastMark lastBase
  simp only
  cases ops.reverse.findSome? (fun op => match op with
    | .mark g n a => if g = m then some (n, a) else none
    | .base _ _ _ => none) with
  | none => rfl
  | some p => rfl

theorem ofOps_snoc {A : Type} (op : MbOp A) : ∀ (ops : List (MbOp A)) (b : MarkToBase A),
    MarkToBase.ofOps (ops ++ [op]) b = (MarkToBase.ofOps ops b).bind (fun b' => b'.apply op) := by
  intro ops
  induction ops with
  | nil =>
    intro b
    simp only [List.nil_append, MarkToBase.ofOps, Option.bind_some]
    cases h : b.apply op <;> rfl
  | cons o os ih =>
    intro b
    simp only [List.cons_append, MarkToBase.ofOps]
    cases b.apply o with
    | none => rfl
    | some b' => exact ih b'

def MbOp.glyph {A : Type} : MbOp A → Nat
  | .mark g _ _ => g
  | .base g _ _ => g

theorem lastMark_snoc {A : Type} (ops : List (MbOp A)) (op : MbOp A) (m : Nat) :
    lastMark (ops ++ [op]) m =
      match op with
      | .mark g n a => if g = m then some (n, a) else lastMark ops m
      | .base _ _ _ => lastMark ops m := by
  unfold lastMark
  rw [List.reverse_append, List.reverse_singleton, List.singleton_append, List.findSome?_cons]
  cases op with
  | mark g n a => by_cases h : g = m <;> simp [h]
  | base g n a => rfl

theorem lastBase_snoc {A : Type} (ops : List (MbOp A)) (op : MbOp A) (b n : Nat) :
    lastBase (ops ++ [op]) b n =
      match op with
      | .base g n' a => if g = b ∧ n' = n then some a else lastBase ops b n
      | .mark _ _ _ => lastBase ops b n := by
  unfold lastBase
  rw [List.reverse_append, List.reverse_singleton, List.singleton_append, List.findSome?_cons]
  cases op with
  | mark g n a => rfl
  | base g n' a => by_cases h : g = b ∧ n' = n <;> simp [h]


structure MbInv {A : Type} (ops : List (MbOp A)) (b : MarkToBase A) : Prop where
  mwf : BmWF b.marks.glyphs
  bwf : BmWF b.bases
  classes : ClassesOK b.marks.classes
  marks : ∀ m, match lastMark ops m with
    | none => bmGet m b.marks.glyphs = none
    | some p => ∃ id, classId b.marks.classes p.1 = some id ∧ bmGet m b.marks.glyphs = some (id, p.2)
  /-- also for a name that has no id: no anchor matches, and no `insert_base` named it -/
  bases : ∀ g n, ((bmGet g b.bases).getD []).reverse.findSome?
      (fun e => if some e.1 = classId b.marks.classes n then some e.2 else none) = lastBase ops g n
  idlt : ∀ g, ∀ e ∈ (bmGet g b.bases).getD [], e.1 < b.marks.classes.length

theorem mbInv_empty {A : Type} : MbInv ([] : List (MbOp A)) MarkToBase.empty where
  mwf := BmWF.nil
  bwf := BmWF.nil
  classes := ⟨rfl, List.nodup_nil⟩
  marks := fun m => rfl
  bases := fun g n => rfl
  idlt := fun g e he => by simp [MarkToBase.empty, bmGet] at he


theorem mbInv_mark {A : Type} (ops : List (MbOp A)) (b : MarkToBase A) (h : MbInv ops b) (g n : Nat) (a : A)
    (hg : g < 65536) : MbInv (ops ++ [.mark g n a]) (b.insertMark g n a) := by
  have hb : b.insertMark g n a = { b with marks := ⟨bmInsert g ((classId b.marks.classes n).getD
      b.marks.classes.length, a) b.marks.glyphs, internClass b.marks.classes n⟩ } := by
    rw [MarkToBase.insertMark, markList_insert_eq]
  rw [hb]
  refine
    { mwf := h.mwf.insert _ hg, bwf := h.bwf, classes := h.classes.intern n,
      marks := fun m => ?_, bases := fun g' n' => ?_,
      idlt := fun g' e he => Nat.lt_of_lt_of_le (h.idlt g' e he) (internClass_length_le _ _) }
  · dsimp only
    rw [lastMark_snoc, bmGet_insert]
    dsimp only
    by_cases hgm : g = m
    · rw [if_pos hgm, if_pos hgm.symm]
      exact ⟨_, classId_intern_self _ n, rfl⟩
    · rw [if_neg hgm, if_neg (Ne.symm hgm)]
      have := h.marks m
      cases hl : lastMark ops m with
      | none => rw [hl] at this; exact this
      | some p =>
        rw [hl] at this
        obtain ⟨id', h1, h2⟩ := this
        exact ⟨id', classId_intern_of_some n h1, h2⟩
  · dsimp only
    rw [lastBase_snoc]
    dsimp only
    rw [← h.bases g' n', classId_intern]
    cases classId b.marks.classes n' with
    | some x => rfl
    | none =>
      rw [Option.none_or]
      by_cases hnn : n = n'
      · -- the id of a new class is above every id pushed so far, so again no anchor matches
        rw [if_pos hnn]
        exact (List.findSome?_eq_none_iff.mpr fun e he => if_neg fun e' =>
          Nat.ne_of_lt (h.idlt g' e (List.mem_reverse.mp he)) (Option.some.inj e')).trans
          (List.findSome?_eq_none_iff.mpr fun e he => if_neg nofun).symm
      · rw [if_neg hnn]

theorem mbInv_base {A : Type} (ops : List (MbOp A)) (b : MarkToBase A) (h : MbInv ops b) (g n : Nat) (a : A)
    (hg : g < 65536) {id : Nat} (hc : classId b.marks.classes n = some id) :
    MbInv (ops ++ [.base g n a])
      { b with bases := bmInsert g (((bmGet g b.bases).getD []) ++ [(id, a)]) b.bases } := by
  refine
    { mwf := h.mwf, bwf := h.bwf.insert _ hg, classes := h.classes,
      marks := fun m => ?_, bases := fun g' n' => ?_, idlt := fun g' e he => ?_ }
  · dsimp only
    rw [lastMark_snoc]
    exact h.marks m
  · dsimp only
    rw [lastBase_snoc, bmGet_insert, ← h.bases g' n']
    dsimp only
    by_cases hgg : g' = g
    · subst hgg
      rw [if_pos rfl, Option.getD_some, List.reverse_append, List.reverse_singleton, List.singleton_append,
        List.findSome?_cons]
      dsimp only
      by_cases hnn : n = n'
      · rw [← hnn, hc, if_pos rfl, if_pos ⟨rfl, rfl⟩]
      · rw [if_neg fun e => hnn (h.classes.id_inj hc e.symm), if_neg fun e => hnn e.2]
    · rw [if_neg hgg, if_neg fun e => hgg e.1.symm]
  · dsimp only at he ⊢
    rw [bmGet_insert] at he
    by_cases hgg : g' = g
    · subst hgg
      simp only [↓reduceIte, Option.getD_some, List.mem_append, List.mem_singleton] at he
      rcases he with h1 | rfl
      · exact h.idlt g' e h1
      · exact h.classes.id_lt hc
    · simp only [hgg, ↓reduceIte] at he
      exact h.idlt g' e he

/-- one `insert_mark` / `insert_base` keeps the invariant (or panics: a base for an unknown class) -/
theorem mbInv_step {A : Type} (ops : List (MbOp A)) (b : MarkToBase A) (h : MbInv ops b) (op : MbOp A)
    (hg : op.glyph < 65536) (b' : MarkToBase A) (hb' : b.apply op = some b') : MbInv (ops ++ [op]) b' := by
  cases op with
  | mark g n a =>
    rw [MarkToBase.apply, Option.some.injEq] at hb'
    exact hb' ▸ mbInv_mark ops b h g n a hg
  | base g n a =>
    rw [MarkToBase.apply, MarkToBase.insertBase] at hb'
    cases hc : classId b.marks.classes n with
    | none => rw [hc] at hb'; cases hb'
    | some id =>
      rw [hc, Option.some.injEq] at hb'
      exact hb' ▸ mbInv_base ops b h g n a hg hc


theorem mbInv_ofOps {A : Type} (ops : List (MbOp A)) (hg : ∀ op ∈ ops, op.glyph < 65536) :
    ∀ b, MarkToBase.ofOps ops MarkToBase.empty = some b → MbInv ops b := by
  induction ops using snoc_induction with
  | h0 => intro b hb; simp only [MarkToBase.ofOps, Option.some.injEq] at hb; subst hb; exact mbInv_empty
  | hs ops op ih =>
    intro b hb
    rw [ofOps_snoc] at hb
    cases hprev : MarkToBase.ofOps ops MarkToBase.empty with
    | none => rw [hprev] at hb; cases hb
    | some b0 =>
      rw [hprev] at hb
      simp only [Option.bind_some] at hb
      exact mbInv_step ops b0 (ih (fun o ho => hg o (List.mem_append_left _ ho)) b0 hprev) op
        (hg op (by simp)) b hb

theorem mbInv_build_lookup {A : Type} (ops : List (MbOp A)) (b : MarkToBase A) (h : MbInv ops b) :
    ∃ t, b.build = some t ∧ t.classCount = b.marks.classes.length ∧
      ∀ m bg, t.lookup m bg = mbExpected ops m bg := by
  -- every base record is built without an index panic, the last anchor per class wins
  have hrow : ∀ e ∈ b.bases, ∃ row, baseRecord e.2 (List.replicate b.marks.classes.length none) = some row ∧
      ∀ id, id < b.marks.classes.length →
        row[id]? = some (e.2.reverse.findSome? (fun x => if some x.1 = some id then some x.2 else none)) := by
    intro e he
    obtain ⟨row, hr, _, hc⟩ := anchorRow (fun x : Nat × A => some x.1) (·.2) e.2 b.marks.classes.length
      (fun a ha => ⟨a.1, rfl, h.idlt e.1 a (by rw [bmGet_of_mem h.bwf e he]; exact ha)⟩)
    exact ⟨row, hr, hc⟩
  obtain ⟨rows, hrows⟩ := mapOpt_total
    (fun e : Nat × List (Nat × A) => baseRecord e.2 (List.replicate b.marks.classes.length none)) b.bases
    (fun e he => (hrow e he).imp (fun row hr => hr.1))
  refine ⟨⟨buildCoverage (b.marks.glyphs.map (·.1)), buildCoverage (b.bases.map (·.1)),
    b.marks.classes.length, b.marks.glyphs.map (·.2), rows⟩, ?_, rfl, fun m bg => ?_⟩
  · unfold MarkToBase.build
    simp only [hrows]
  -- both coverage-indexed arrays read back as the builder's maps
  rw [mbExpected_eq, MarkBase.lookup_eq]
  dsimp only
  rw [covAt_buildCoverage _ h.mwf,
    covAt_build _ h.bwf (fun lst => baseRecord lst (List.replicate b.marks.classes.length none)) hrows]
  have hmarks := h.marks m
  cases hl : lastMark ops m with
  | none => rw [hl] at hmarks; rw [hmarks]
  | some p =>
    rw [hl] at hmarks
    obtain ⟨id, hid, hgm⟩ := hmarks
    rw [hgm]
    dsimp only
    rw [← h.bases bg p.1, hid]
    cases hgb : bmGet bg b.bases with
    | none => rfl
    | some lst =>
      obtain ⟨row, hr, hcell⟩ := hrow (bg, lst) (mem_of_lookup_eq_some ((bmGet_eq_lookup bg _).symm.trans hgb))
      rw [Option.bind_some, hr]
      dsimp only
      rw [hcell id (h.classes.id_lt hid), Option.getD_some]
      cases lst.reverse.findSome? (fun x => if some x.1 = some id then some x.2 else none) <;> rfl

/-- every base record of a built subtable has one entry per mark class, whatever the builder's state -/
theorem MarkToBase.build_rows_length {A : Type} {b : MarkToBase A} {t : MarkBase A} (ht : b.build = some t) :
    ∀ row ∈ t.bases, row.length = t.classCount := by
  unfold MarkToBase.build at ht
  simp only at ht
  split at ht
  · cases ht
  · next rows hrows =>
    cases ht
    intro row hr
    obtain ⟨e, _, he⟩ := mapOpt_mem hrows hr
    rw [setMany_length he, List.length_replicate]

/-! ### the class information of the MarkToBase split (`get_class_info`) -/

theorem getClassInfo_length (k : Nat) (recs : List (Nat × Nat)) (offs : List Nat) :
    (getClassInfo k recs offs).length = k := by
  simp [getClassInfo]

theorem idealClassInfo_length (k : Nat) (recs : List (Nat × Nat)) (rows : List (List (Option Nat))) :
    (idealClassInfo k recs rows).length = k := by
  simp [idealClassInfo]

theorem chunksExact_short {α : Type} {k : Nat} {xs : List α} (h : xs.length < k) : chunksExact k xs = [] := by
  rw [chunksExact, dif_pos h, dite_eq_ite, ite_self]

theorem chunksExact_step {α : Type} {k : Nat} (hk : 0 < k) {xs : List α} (h : k ≤ xs.length) :
    chunksExact k xs = xs.take k :: chunksExact k (xs.drop k) := by
  rw [chunksExact, dif_neg (Nat.ne_of_gt hk), dif_neg (Nat.not_lt.mpr h)]

theorem chunksExact_flatten (k : Nat) (hk : 0 < k) : ∀ (rs : List (List Nat)),
    (∀ r ∈ rs, r.length = k) → chunksExact k rs.flatten = rs := by
  intro rs
  induction rs with
  | nil => intro _; exact chunksExact_short hk
  | cons r rs ih =>
    intro h
    have hr : r.length = k := h r (List.mem_cons_self ..)
    rw [chunksExact_step hk (by simp [hr]), List.flatten_cons, List.take_append_of_le_length (Nat.le_of_eq hr.symm),
      ← hr, List.take_length, List.drop_left, hr, ih (fun r' hr' => h r' (List.mem_cons_of_mem _ hr'))]

/-- a base record without null anchors -/
def FullRow (k : Nat) (row : List (Option Nat)) : Prop := row.length = k ∧ ∀ x ∈ row, x ≠ none

theorem fullRow_filterMap (k : Nat) (row : List (Option Nat)) (h : FullRow k row) :
    (row.filterMap id).length = k ∧ ∀ c : Nat, (row.filterMap id)[c]? = (row[c]?).join := by
  obtain ⟨hl, hall⟩ := h
  subst hl
  induction row with
  | nil => exact ⟨rfl, fun c => by simp⟩
  | cons x xs ih =>
    have hx := hall x (List.mem_cons_self ..)
    cases x with
    | none => exact absurd rfl hx
    | some v =>
      obtain ⟨i1, i2⟩ := ih (fun y hy => hall y (List.mem_cons_of_mem _ hy))
      refine ⟨by simp [i1], fun c => ?_⟩
      cases c with
      | zero => simp
      | succ c => simpa using i2 c

theorem mod_eq_iff_sub_mod (k f p : Nat) (hk : 0 < k) (hp : p ≤ f) :
    p % k = f % k ↔ (f - p) % k = 0 := by
  obtain ⟨n, rfl⟩ : ∃ n, f = p + n := ⟨f - p, by omega⟩
  rw [Nat.add_sub_cancel_left, Nat.add_mod]
  have ha : p % k < k := Nat.mod_lt _ hk
  have hb : n % k < k := Nat.mod_lt _ hk
  generalize p % k = a at ha
  generalize n % k = b at hb
  by_cases hlt : a + b < k
  · rw [Nat.mod_eq_of_lt hlt]; omega
  · have : (a + b) % k = a + b - k := by
      rw [Nat.mod_eq_sub_mod (by omega), Nat.mod_eq_of_lt (by omega)]
    rw [this]; omega

/-- chunk `i` is the `k` elements from `k * i` on, when the list holds that many -/
theorem chunksExact_getElem? {α : Type} (k : Nat) (hk : 0 < k) (xs : List α) (i : Nat) :
    (chunksExact k xs)[i]? = if i < xs.length / k then some ((xs.drop (k * i)).take k) else none := by
  by_cases hl : xs.length < k
  · rw [chunksExact_short hl, Nat.div_eq_of_lt hl, if_neg (Nat.not_lt_zero i)]; rfl
  · have hge : k ≤ xs.length := Nat.le_of_not_lt hl
    have hdiv : xs.length / k = (xs.length - k) / k + 1 := by
      rw [← Nat.add_div_right _ hk, Nat.sub_add_cancel hge]
    rw [chunksExact_step hk hge, hdiv]
    cases i with
    | zero => rw [List.getElem?_cons_zero, if_pos (Nat.succ_pos _), Nat.mul_zero, List.drop_zero]
    | succ i =>
      rw [List.getElem?_cons_succ, chunksExact_getElem? k hk (xs.drop k) i, List.length_drop, List.drop_drop,
        Nat.mul_succ, Nat.add_comm k]
      simp only [Nat.add_lt_add_iff_right]
termination_by xs.length
decreasing_by simp only [List.length_drop]; omega

/-- element `p` of a list sits in chunk `p / k` at position `p % k` — if that chunk is complete -/
theorem chunksExact_getElem {α : Type} (k : Nat) (hk : 0 < k) (xs : List α) (p : Nat) :
    ((chunksExact k xs)[p / k]?).bind (·[p % k]?) = if p / k < xs.length / k then xs[p]? else none := by
  rw [chunksExact_getElem? k hk]
  by_cases h : p / k < xs.length / k
  · rw [if_pos h, if_pos h, Option.bind_some, List.getElem?_take, if_pos (Nat.mod_lt _ hk), List.getElem?_drop,
      Nat.div_add_mod]
  · rw [if_neg h, if_neg h]; rfl

/-- number of non-null offsets before flat (row-major) position `f` of the anchor matrix -/
def nonNullBefore (cells : List (Option Nat)) (f : Nat) : Nat := ((cells.take f).filterMap id).length

/-- number of null offsets before flat position `f` -/
def nullsBefore (cells : List (Option Nat)) (f : Nat) : Nat := ((cells.take f).filter (·.isNone)).length

theorem filterMap_filter_length : ∀ (l : List (Option Nat)),
    (l.filterMap id).length + (l.filter (·.isNone)).length = l.length := by
  intro l
  induction l with
  | nil => rfl
  | cons x xs ih =>
    cases x with
    | none => simp; omega
    | some v => simp; omega

theorem nonNull_add_nulls (cells : List (Option Nat)) (f : Nat) (hf : f ≤ cells.length) :
    nonNullBefore cells f + nullsBefore cells f = f := by
  unfold nonNullBefore nullsBefore
  rw [filterMap_filter_length, List.length_take, Nat.min_eq_left hf]

theorem baseOffsets_position : ∀ (cells : List (Option Nat)) (f x : Nat),
    cells[f]? = some (some x) → (cells.filterMap id)[nonNullBefore cells f]? = some x := by
  intro cells
  induction cells with
  | nil => intro f x h; simp at h
  | cons c cs ih =>
    intro f x h
    cases f with
    | zero =>
      simp only [List.getElem?_cons_zero, Option.some.injEq] at h
      subst h
      simp [nonNullBefore]
    | succ f =>
      simp only [List.getElem?_cons_succ] at h
      have := ih f x h
      unfold nonNullBefore at this ⊢
      cases c with
      | none => simpa [List.filterMap_cons] using this
      | some y => simpa [List.filterMap_cons] using this

end FontVerif.Layout
