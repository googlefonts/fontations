/- helper lemmas for the MIRP / MIAP / MDRP equalities of Props/C03.lean:
   wrapping vs 64-bit distance arithmetic, sign of the two's-complement XOR, the range predicates. -/
import FontVerif.Lemmas.RoundEq
import FontVerif.Model.HintMove
import FontVerif.Model.FtMove
namespace FontVerif.C03

theorem sub_fits {a b : Int} (h : inI32 (a - b)) : HintMove.wsub a b = a - b ∧ FtCalc.subLong a b = a - b :=
  wrap_fits h

theorem add_fits {a b : Int} (h : inI32 (a + b)) : HintMove.wadd a b = a + b ∧ FtCalc.addLong a b = a + b :=
  wrap_fits h

theorem wsub_subLong {a b : Int} (h : inI32 (a - b)) : HintMove.wsub a b = FtCalc.subLong a b :=
  (sub_fits h).1.trans (sub_fits h).2.symm

theorem wadd_addLong {a b : Int} (h : inI32 (a + b)) : HintMove.wadd a b = FtCalc.addLong a b :=
  (add_fits h).1.trans (add_fits h).2.symm

/-- also serves `HintInterp.wabs32` (the body of `wabs`); `FtInterp.absL` is `iabs` itself. -/
theorem abs_fits {a : Int} (h : inI32 (-a)) : HintMove.wabs a = iabs a ∧ FtMove.absLong a = iabs a := by
  unfold HintMove.wabs FtMove.absLong iabs
  split
  · exact neg_fits h
  · exact ⟨rfl, rfl⟩

theorem lxorN_neg_iff (n : Nat) : ∀ a b : Int,
    (lxorN n a b < 0 ↔ ((a < 0 ∧ 0 ≤ b) ∨ (0 ≤ a ∧ b < 0))) := by
  induction n with
  | zero => intro a b; simp only [lxorN]; split <;> omega
  | succ n ih =>
    intro a b
    simp only [lxorN]
    have h := ih (a / 2) (b / 2)
    have hb : 0 ≤ (a % 2 + b % 2) % 2 ∧ (a % 2 + b % 2) % 2 ≤ 1 := by omega
    generalize (a % 2 + b % 2) % 2 = m at hb
    generalize lxorN n (a / 2) (b / 2) = r at h
    omega

theorem lxor_neg_iff (a b : Int) :
    (lxorInt a b < 0 ↔ ((a < 0 ∧ 0 ≤ b) ∨ (0 ≤ a ∧ b < 0))) := lxorN_neg_iff 64 a b

/-- ranges of the graphics-state fields for the MIRP / MIAP / MDRP equalities: a round state as in
`round_state_eq` (everything SROUND/S45ROUND/RTG… can produce lies far inside), cut-ins anywhere in
i32 (`mdrp_eq` asks the single-width cut-in within ±2^29), single width and minimum distance within ±2^29
26.6 units (8.4 million pixels). -/
def MoveRange (g : HintMove.Gs) : Prop :=
  (0 ≤ g.mode ∧ g.mode ≤ 7) ∧ (-1048576 ≤ g.thr ∧ g.thr ≤ 1048576) ∧
  (-1048576 ≤ g.ph ∧ g.ph ≤ 1048576) ∧ (0 < g.per ∧ g.per ≤ 1048576) ∧
  inI32 g.cutin ∧ inI32 g.swci ∧
  (-536870912 ≤ g.sw ∧ g.sw ≤ 536870912) ∧ (-536870912 ≤ g.md ∧ g.md ≤ 536870912)

def Dist29 (x : Int) : Prop := -536870912 ≤ x ∧ x ≤ 536870912

theorem wabs_wsub {a b : Int} (ha : Dist29 a) (hb : Dist29 b) :
    HintMove.wabs (HintMove.wsub a b) = FtMove.absLong (FtCalc.subLong a b) := by
  unfold Dist29 at *
  have s := sub_fits (a := a) (b := b) ⟨by omega, by omega⟩
  have e := abs_fits (a := a - b) ⟨by omega, by omega⟩
  rw [s.1, s.2, e.1, e.2]

theorem minDist_eq {md org d : Int} (hmd : Dist29 md) :
    HintMove.minDist md org d = FtMove.minDist md org d := by
  unfold Dist29 at *
  unfold HintMove.minDist FtMove.minDist HintRound.wneg FtCalc.negLong
  rw [wrapI32_of_in (by omega) (by omega), wrapI64_of_in (by omega) (by omega)]

theorem minDist_bound {md org d : Int} (hmd : Dist29 md)
    (hd : -1082130432 ≤ d ∧ d ≤ 1082130432) :
    -1082130432 ≤ FtMove.minDist md org d ∧ FtMove.minDist md org d ≤ 1082130432 := by
  unfold Dist29 at *
  unfold FtMove.minDist FtCalc.negLong
  rw [wrapI64_of_in (by omega) (by omega)]
  repeat' split
  all_goals omega

/-- a rounded distance (range of `round_state_bound`) against a current one. -/
theorem wsub_far {d cur : Int} (hd : -1082130432 ≤ d ∧ d ≤ 1082130432) (hu : Dist29 cur) :
    HintMove.wsub d cur = FtCalc.subLong d cur :=
  wsub_subLong (by unfold Dist29 at hu; unfold inI32; omega)

theorem wadd_near {a b : Int} (ha : Dist29 a) (hb : -536870913 ≤ b ∧ b ≤ 536870913) :
    HintMove.wadd a b = FtCalc.addLong a b :=
  wadd_addLong (by unfold Dist29 at ha; unfold inI32; omega)

theorem wsub_exact {a b : Int} (ha : Dist29 a) (hb : Dist29 b) :
    HintMove.wsub a b = a - b ∧ FtCalc.subLong a b = a - b :=
  sub_fits (by unfold Dist29 at *; unfold inI32; omega)

/-- the tail shared by MIRP and MDRP; `x'` is what stays unrounded. -/
theorem round_min_move (g : HintMove.Gs) (rnd mind : Bool) (x x' org cur : Int) (hg : MoveRange g)
    (hx : Dist29 x) (hx' : Dist29 x') (hu : Dist29 cur) :
    ((if rnd then HintRound.round g.mode g.thr g.ph g.per x else some x').map fun d =>
      HintMove.wsub (if mind then HintMove.minDist g.md org d else d) cur)
    = some (FtCalc.subLong
        (if mind then FtMove.minDist g.md org
            (if rnd then FtRound.round g.mode g.thr g.ph g.per 0 x else FtRound.roundNone 0 x')
          else (if rnd then FtRound.round g.mode g.thr g.ph g.per 0 x else FtRound.roundNone 0 x')) cur) := by
  obtain ⟨hm, ht, hph, hper, _, _, _, hmd⟩ := hg
  unfold Dist29 at hx hx'
  have hr := round_state_bound g.mode g.thr g.ph g.per x hm ht hph hper (by omega)
  rw [roundNone_zero (d := x') (by omega)]
  cases rnd <;> cases mind <;>
    simp only [Bool.false_eq_true, if_false, if_true, hr.1, Option.map_some, Option.some.injEq,
      minDist_eq hmd]
  · exact wsub_far (by omega) hu
  · exact wsub_far (minDist_bound hmd (by omega)) hu
  · exact wsub_far hr.2 hu
  · exact wsub_far (minDist_bound hmd hr.2) hu

end FontVerif.C03
