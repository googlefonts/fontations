/-
Sparse-bit-set codec, encoder: what one `create_layer` call computes (`Done`).  The loop is described by
an invariant (`Inv`) that splits the values seen so far (they arrive in descending order) into those
committed and the run under the node being built; `commit_current_node` moves the run over.
-/
import FontVerif.Model.SparseBitSet
import FontVerif.Lemmas.Ite
namespace FontVerif.SparseBitSet

theorem div_mod_unique {bf : Nat} (hbf : 0 < bf) {q i v : Nat} (hi : i < bf) :
    q * bf + i = v ↔ v / bf = q ∧ v % bf = i := by
  constructor
  · rintro rfl
    constructor
    · rw [Nat.add_comm, Nat.add_mul_div_right _ _ hbf, Nat.div_eq_of_lt hi, Nat.zero_add]
    · rw [Nat.add_comm, Nat.add_mul_mod_self_right, Nat.mod_eq_of_lt hi]
  · rintro ⟨rfl, rfl⟩
    rw [Nat.mul_comm]; exact Nat.div_add_mod v bf

theorem mul_add_div {bf : Nat} (hbf : 0 < bf) (p : Nat) {j : Nat} (hj : j < bf) :
    (p * bf + j) / bf = p :=
  ((div_mod_unique hbf hj).mp rfl).1

theorem div_eq_iff_range {bf : Nat} (hbf : 0 < bf) (a p : Nat) :
    (a ≥ p * bf ∧ a < (p + 1) * bf) ↔ a / bf = p := by
  constructor
  · rintro ⟨h1, h2⟩
    have a1 : p ≤ a / bf := (Nat.le_div_iff_mul_le hbf).mpr h1
    have a2 : a / bf < p + 1 := (Nat.div_lt_iff_lt_mul hbf).mpr h2
    omega
  · rintro rfl
    exact ⟨Nat.div_mul_le_self a bf, (Nat.div_lt_iff_lt_mul hbf).mp (Nat.lt_succ_self _)⟩

theorem eq_mask_iff {bf x : Nat} {P : Nat → Prop}
    (hx : ∀ i, x.testBit i = true ↔ (i < bf ∧ P i)) : x = u32Mask bf ↔ ∀ i, i < bf → P i := by
  simp only [u32Mask]
  constructor
  · rintro rfl i hi; exact ((hx i).mp (by simp [hi])).2
  · intro h
    apply Nat.eq_of_testBit_eq
    intro i
    rw [Nat.testBit_two_pow_sub_one]
    by_cases hi : i < bf
    · simp [hi, (hx i).mpr ⟨hi, h i hi⟩]
    · simp only [hi, decide_false]
      exact Bool.eq_false_iff.mpr fun hb => hi ((hx i).mp hb).1

theorem testBit_or_two_pow (x k i : Nat) :
    (x ||| 2 ^ k).testBit i = true ↔ (x.testBit i = true ∨ k = i) := by
  rw [Nat.testBit_or, Nat.testBit_two_pow]
  simp

/-- final form of the marking done by `commit_current_node` over a whole layer: a node of the
previous layer is skipped iff its parent is in the filled list -/
def markBy (bf : Nat) (uf : List Nat) (c : Node) : Node :=
  if c.parentIndex / bf ∈ uf then { c with nodeType := .skip } else c

theorem zipIdx_map_eq {g : Node × Nat → Node} {h : Node → Node} (l : List Node) :
    ∀ k : Nat, (∀ c j, k ≤ j → j < k + l.length → g (c, j) = h c) → (l.zipIdx k).map g = l.map h := by
  induction l with
  | nil => intros; rfl
  | cons c l ih =>
    intro k H
    rw [List.zipIdx_cons, List.map_cons, List.map_cons, H c k (Nat.le_refl _) (by simp),
      ih (k + 1) (fun c j h1 h2 => H c j (by omega) (by simp only [List.length_cons]; omega))]

theorem markBy_parentIndex (bf : Nat) (uf : List Nat) (c : Node) :
    (markBy bf uf c).parentIndex = c.parentIndex := by
  simp only [markBy]; split <;> rfl

theorem markBy_nil (bf : Nat) (l : List Node) : l.map (markBy bf []) = l := by
  have : markBy bf [] = id := by funext c; simp [markBy]
  rw [this, List.map_id]

theorem markBy_bits (bf : Nat) (uf : List Nat) (c : Node) : (markBy bf uf c).bits = c.bits := by
  simp only [markBy]; split <;> rfl

theorem map_markBy_ids (bf : Nat) (uf : List Nat) (N : List Node) :
    (N.map (markBy bf uf)).map (·.parentIndex) = N.map (·.parentIndex) := by
  rw [List.map_map]
  apply List.map_congr_left
  intro c _
  exact markBy_parentIndex bf uf c

theorem mark_markBy {bf : Nat} (hbf : 0 < bf) (uf : List Nat) (p : Nat) (c : Node) :
    (if (markBy bf uf c).parentIndex ≥ p * bf ∧ (markBy bf uf c).parentIndex < (p + 1) * bf
      then { markBy bf uf c with nodeType := NodeType.skip } else markBy bf uf c)
      = markBy bf (p :: uf) c := by
  rw [markBy_parentIndex]
  simp only [div_eq_iff_range hbf, markBy, List.mem_cons]
  by_cases h1 : c.parentIndex / bf = p
  · subst h1
    by_cases h2 : c.parentIndex / bf ∈ uf <;> simp [h2]
  · by_cases h2 : c.parentIndex / bf ∈ uf <;> simp [h1, h2]

/-- the `nodes` update of a filled commit -/
theorem mark_nodes {bf : Nat} (hbf : 0 < bf) (cnt : Nat) (old last new : List Node)
    (hl : last.length = cnt ∨ (old = [] ∧ last = [])) (uf : List Nat) (p : Nat) :
    (if old.length + last.length ≥ cnt then
        (old ++ last.map (markBy bf uf) ++ new).zipIdx.map (fun (c, i) =>
          if old.length + last.length - cnt ≤ i ∧ i < old.length + last.length ∧
              c.parentIndex ≥ p * bf ∧ c.parentIndex < (p + 1) * bf
          then { c with nodeType := NodeType.skip } else c)
      else old ++ last.map (markBy bf uf) ++ new)
      = old ++ last.map (markBy bf (p :: uf)) ++ new := by
  rcases hl with hl | ⟨rfl, rfl⟩
  · -- the marked positions `[old.length + last.length - cnt, old.length + last.length)` are
    -- those of `last`
    rw [if_pos (by omega), show old.length + last.length - cnt = old.length by omega,
      List.zipIdx_append, List.zipIdx_append, List.map_append, List.map_append,
      zipIdx_map_eq (h := id) old 0 (fun c j _ h2 => if_neg (by omega)),
      zipIdx_map_eq (h := id) new _ (fun c j h1 _ => if_neg (by
        simp only [List.length_append, List.length_map] at h1; omega)),
      zipIdx_map_eq (h := fun c => if c.parentIndex ≥ p * bf ∧ c.parentIndex < (p + 1) * bf
          then { c with nodeType := NodeType.skip } else c) (last.map (markBy bf uf)) _
        (fun c j h1 h2 => by
          simp only [List.length_map] at h2
          have : old.length ≤ j ∧ j < old.length + last.length := by omega
          simp only [this.1, this.2, true_and]),
      List.map_id, List.map_id, List.map_map]
    congr 2
    exact List.map_congr_left fun c _ => mark_markBy hbf uf p c
  · simp only [List.length_nil, Nat.add_zero, List.map_nil, List.nil_append, List.append_nil]
    apply ite_both (P := (· = new)) _ rfl
    rw [zipIdx_map_eq (h := id) new 0 (fun c j _ _ => if_neg (by omega)), List.map_id]

/-- `filled_values.contains(v)`; `none` is `IntSet::all()` -/
def isF (filled : Option (List Nat)) (v : Nat) : Bool :=
  match filled with
  | none => true
  | some f => f.contains v

/-- the nodes pushed so far by this `create_layer` call -/
structure NewOK (bf : Nat) (D upper uf : List Nat) (new : List Node) : Prop where
  ids : new.map (·.parentIndex) = upper.reverse
  bits : ∀ n ∈ new, ∀ i, n.bits.testBit i = true ↔ (i < bf ∧ n.parentIndex * bf + i ∈ D)
  types : ∀ n ∈ new,
    n.nodeType = if n.parentIndex ∈ uf then NodeType.filled else NodeType.standard

theorem NewOK.mem_upper {bf : Nat} {D upper uf : List Nat} {new : List Node}
    (h : NewOK bf D upper uf new) {m : Node} (hm : m ∈ new) : m.parentIndex ∈ upper := by
  have : m.parentIndex ∈ new.map (·.parentIndex) := List.mem_map_of_mem hm
  rw [h.ids] at this
  exact List.mem_reverse.mp this

/-- what `create_layer` has produced once the values `C` are committed:
* `upper` are the ascending parent indices `v / BF`;
* `uf` are those whose `BF` children are all values and all filled;
* the previous layer's nodes under a filled index are marked `Skip`;
* one node per parent index is appended (descending), with one bit per child value, typed
  `Filled` iff its index is a filled index. -/
structure Done (bf : Nat) (filled : Option (List Nat)) (old last : List Node)
    (C upper uf : List Nat) (nodes : List Node) : Prop where
  upSorted : upper.Pairwise (· < ·)
  upMem : ∀ p, p ∈ upper ↔ ∃ d ∈ C, d / bf = p
  ufSorted : uf.Pairwise (· < ·)
  ufMem : ∀ p, p ∈ uf ↔
    p ∈ upper ∧ ∀ j, j < bf → (p * bf + j ∈ C ∧ isF filled (p * bf + j) = true)
  nodes : ∃ new, nodes = old ++ last.map (markBy bf uf) ++ new ∧ NewOK bf C upper uf new

/-- invariant of the `for v in values.iter().rev()` loop (the values arrive in descending
order): the values `C` are committed; the run `R` of values seen after them, all with parent index
`lb`, is what the node under construction and the filled bits describe.  Adding a value touches
only the `R` part, a commit moves `R` over to `C`. -/
structure Inv (bf : Nat) (filled : Option (List Nat)) (old last : List Node) (C R : List Nat)
    (lb : Nat) (s : LayerState) : Prop where
  done : Done bf filled old last C s.upper s.upperFilled s.nodes
  above : ∀ r ∈ R, ∀ c ∈ C, r / bf < c / bf
  run : ∀ r ∈ R, r / bf = lb
  idle : s.current = none ↔ R = []
  cur : ∀ n, s.current = some n → n.parentIndex = lb ∧ n.nodeType = NodeType.standard ∧
    ∀ i, n.bits.testBit i = true ↔ (i < bf ∧ lb * bf + i ∈ R)
  fb : ∀ i, s.currentFilledBits.testBit i = true ↔
    (i < bf ∧ lb * bf + i ∈ R ∧ isF filled (lb * bf + i) = true)

theorem head?_ne_of_lt {l : List Nat} {p : Nat} (h : ∀ x ∈ l, p < x) : l.head? ≠ some p := by
  intro hc
  have := h p (List.mem_of_mem_head? hc)
  omega

/-- what `commit_current_node` does to a state whose recorded indices are all above the current
node's: the node is pushed as `Filled`, and its index recorded as filled, iff all `bf` filled bits
are set -/
theorem commit_eq {bf : Nat} (hbf : 0 < bf) (cnt : Nat) (old last new : List Node)
    (hl : last.length = cnt ∨ (old = [] ∧ last = [])) (s : LayerState) (n : Node)
    (hc : s.current = some n) (hup : ∀ x ∈ s.upper, n.parentIndex < x)
    (huf : ∀ x ∈ s.upperFilled, n.parentIndex < x)
    (hnodes : s.nodes = old ++ last.map (markBy bf s.upperFilled) ++ new) :
    commit bf cnt (old.length + last.length) s =
      { upper := n.parentIndex :: s.upper,
        upperFilled := if s.currentFilledBits = u32Mask bf then n.parentIndex :: s.upperFilled
          else s.upperFilled,
        current := none, currentFilledBits := 0,
        nodes := old ++ last.map (markBy bf (if s.currentFilledBits = u32Mask bf
            then n.parentIndex :: s.upperFilled else s.upperFilled)) ++
          (new ++ [{ n with nodeType := if s.currentFilledBits = u32Mask bf then NodeType.filled
            else n.nodeType }]) } := by
  by_cases hfill : s.currentFilledBits = u32Mask bf
  · simp only [commit, hc, hfill, if_true, if_neg (head?_ne_of_lt hup), if_neg (head?_ne_of_lt huf)]
    rw [hnodes, mark_nodes hbf cnt old last new hl s.upperFilled n.parentIndex, List.append_assoc]
  · simp only [commit, hc, hfill, if_false, if_neg (head?_ne_of_lt hup)]
    rw [hnodes, List.append_assoc]

theorem commit_inv {bf : Nat} (hbf : 0 < bf) (filled : Option (List Nat)) (cnt : Nat)
    (old last : List Node) (hl : last.length = cnt ∨ (old = [] ∧ last = []))
    (C R : List Nat) (lb : Nat) (s : LayerState) (h : Inv bf filled old last C R lb s) :
    Inv bf filled old last (R ++ C) [] lb (commit bf cnt (old.length + last.length) s) := by
  cases hc : s.current with
  | none =>
    obtain rfl := h.idle.mp hc
    have : commit bf cnt (old.length + last.length) s = s := by simp [commit, hc]
    rw [this]; exact h
  | some n =>
    obtain ⟨hpi, hty, hbits⟩ := h.cur n hc
    obtain ⟨d0, hd0⟩ := List.exists_mem_of_ne_nil R fun e => by rw [h.idle.mpr e] at hc; cases hc
    have hC : ∀ c ∈ C, lb < c / bf := fun c hcC => h.run d0 hd0 ▸ h.above d0 hd0 c hcC
    have hupper_lt : ∀ x ∈ s.upper, lb < x := by
      intro x hx
      obtain ⟨d, hd, rfl⟩ := (h.done.upMem x).mp hx
      exact hC d hd
    have huf_lt : ∀ x ∈ s.upperFilled, lb < x := fun x hx =>
      hupper_lt x ((h.done.ufMem x).mp hx).1
    -- a value of `R ++ C` under the index `lb` is in `R`, one under another index is in `C`
    have hR : ∀ j, j < bf → (lb * bf + j ∈ R ++ C ↔ lb * bf + j ∈ R) := fun j hj =>
      ⟨fun hm => (List.mem_append.mp hm).resolve_right fun hm =>
        Nat.lt_irrefl lb (by have := hC _ hm; rwa [mul_add_div hbf lb hj] at this),
        List.mem_append_left _⟩
    have hCm : ∀ p j, p ≠ lb → j < bf → (p * bf + j ∈ R ++ C ↔ p * bf + j ∈ C) := fun p j hp hj =>
      ⟨fun hm => (List.mem_append.mp hm).resolve_left fun hm =>
        hp (by have := h.run _ hm; rwa [mul_add_div hbf p hj] at this),
        List.mem_append_right _⟩
    have hmask := eq_mask_iff h.fb
    obtain ⟨new, hnodes, hnew⟩ := h.done.nodes
    rw [commit_eq hbf cnt old last new hl s n hc (hpi ▸ hupper_lt) (hpi ▸ huf_lt) hnodes, hpi]
    have hufM : ∀ p, p ∈ (if s.currentFilledBits = u32Mask bf then lb :: s.upperFilled
        else s.upperFilled) ↔ (p = lb ∧ s.currentFilledBits = u32Mask bf) ∨ p ∈ s.upperFilled := by
      intro p; by_cases hfill : s.currentFilledBits = u32Mask bf <;> simp [hfill]
    have hufS : (if s.currentFilledBits = u32Mask bf then lb :: s.upperFilled
        else s.upperFilled).Pairwise (· < ·) := by
      split
      · exact List.pairwise_cons.mpr ⟨huf_lt, h.done.ufSorted⟩
      · exact h.done.ufSorted
    generalize (if s.currentFilledBits = u32Mask bf then lb :: s.upperFilled
      else s.upperFilled) = uf' at hufM hufS ⊢
    refine ⟨⟨List.pairwise_cons.mpr ⟨hupper_lt, h.done.upSorted⟩, ?_, hufS, ?_, _, rfl, ?_, ?_, ?_⟩,
      by simp, by simp, by simp, by simp, by simp⟩
    · intro p
      simp only [List.mem_cons, h.done.upMem p, List.mem_append]
      constructor
      · rintro (rfl | ⟨d, hd, hdp⟩)
        · exact ⟨d0, Or.inl hd0, h.run d0 hd0⟩
        · exact ⟨d, Or.inr hd, hdp⟩
      · rintro ⟨d, hd | hd, hdp⟩
        · exact Or.inl (hdp.symm.trans (h.run d hd))
        · exact Or.inr ⟨d, hd, hdp⟩
    · intro p
      simp only [hufM p, hmask, List.mem_cons, h.done.ufMem p]
      constructor
      · rintro (⟨rfl, hall⟩ | ⟨hp, hall⟩)
        · exact ⟨Or.inl rfl, fun j hj => ⟨(hR j hj).mpr (hall j hj).1, (hall j hj).2⟩⟩
        · exact ⟨Or.inr hp, fun j hj =>
            ⟨(hCm p j (Nat.ne_of_gt (hupper_lt p hp)) hj).mpr (hall j hj).1, (hall j hj).2⟩⟩
      · rintro ⟨rfl | hp, hall⟩
        · exact Or.inl ⟨rfl, fun j hj => ⟨(hR j hj).mp (hall j hj).1, (hall j hj).2⟩⟩
        · exact Or.inr ⟨hp, fun j hj =>
            ⟨(hCm p j (Nat.ne_of_gt (hupper_lt p hp)) hj).mp (hall j hj).1, (hall j hj).2⟩⟩
    · simp [hnew.ids]
    · intro m hm i
      rcases List.mem_append.mp hm with hm | hm
      · rw [hnew.bits m hm i]
        exact and_congr_right fun hi =>
          (hCm _ i (Nat.ne_of_gt (hupper_lt _ (hnew.mem_upper hm))) hi).symm
      · simp only [List.mem_singleton] at hm; subst hm
        simp only [hbits i]
        exact and_congr_right fun hi => (hR i hi).symm
    · intro m hm
      rcases List.mem_append.mp hm with hm | hm
      · have hne : m.parentIndex ≠ lb := Nat.ne_of_gt (hupper_lt _ (hnew.mem_upper hm))
        rw [hnew.types m hm]
        simp only [hufM, hne, false_and, false_or]
      · simp only [List.mem_singleton] at hm; subst hm
        have hlb : lb ∉ s.upperFilled := fun hin => Nat.lt_irrefl _ (huf_lt _ hin)
        simp only [hty, hufM, hlb, true_and, or_false]

/-- the part of the loop body after the conditional commit -/
def addV (bf : Nat) (filled : Option (List Nat)) (v : Nat) (s : LayerState) : LayerState :=
  let cur : Node := match s.current with
    | some n => n
    | none => { bits := 0, parentIndex := v / bf, nodeType := .standard }
  { s with current := some { cur with bits := cur.bits ||| 2 ^ (v % bf) },
           currentFilledBits := if isF filled v then s.currentFilledBits ||| 2 ^ (v % bf)
                                else s.currentFilledBits }

theorem layerLoop_cons (bf cnt initLen : Nat) (filled : Option (List Nat)) (v : Nat)
    (rest : List Nat) (s : LayerState) :
    layerLoop bf cnt initLen filled (v :: rest) s =
      layerLoop bf cnt initLen filled rest (addV bf filled v
        (if (match s.current with
              | some n => n.parentIndex
              | none => v / bf) ≠ v / bf then commit bf cnt initLen s else s)) := by
  rfl

theorem testBit_add_value {bf : Nat} (hbf : 0 < bf) (Q : Nat → Prop) [DecidablePred Q]
    {x v : Nat} {D : List Nat}
    (hx : ∀ i, x.testBit i = true ↔ (i < bf ∧ v / bf * bf + i ∈ D ∧ Q (v / bf * bf + i)))
    (i : Nat) :
    (if Q v then x ||| 2 ^ (v % bf) else x).testBit i = true ↔
      (i < bf ∧ v / bf * bf + i ∈ v :: D ∧ Q (v / bf * bf + i)) := by
  have hmodlt : v % bf < bf := Nat.mod_lt _ hbf
  have hv : v / bf * bf + v % bf = v := (div_mod_unique hbf hmodlt).mpr ⟨rfl, rfl⟩
  by_cases hq : Q v
  · rw [if_pos hq, testBit_or_two_pow, hx i]
    constructor
    · rintro (⟨hi, hm, hf⟩ | rfl)
      · exact ⟨hi, List.mem_cons_of_mem _ hm, hf⟩
      · rw [hv]; exact ⟨hmodlt, List.mem_cons.mpr (Or.inl rfl), hq⟩
    · rintro ⟨hi, hm, hf⟩
      rcases List.mem_cons.mp hm with hm | hm
      · exact Or.inr ((div_mod_unique hbf hi).mp hm).2
      · exact Or.inl ⟨hi, hm, hf⟩
  · rw [if_neg hq, hx i]
    constructor
    · rintro ⟨hi, hm, hf⟩; exact ⟨hi, List.mem_cons_of_mem _ hm, hf⟩
    · rintro ⟨hi, hm, hf⟩
      rcases List.mem_cons.mp hm with hm | hm
      · rw [hm] at hf; exact absurd hf hq
      · exact ⟨hi, hm, hf⟩

theorem add_inv {bf : Nat} (hbf : 0 < bf) (filled : Option (List Nat)) (old last : List Node)
    (C R : List Nat) (lb v : Nat) (s : LayerState) (h : Inv bf filled old last C R lb s)
    (habove : ∀ c ∈ C, v / bf < c / bf) (hrun : ∀ r ∈ R, r / bf = v / bf) :
    Inv bf filled old last C (v :: R) (v / bf) (addV bf filled v s) := by
  -- the node continued or begun, and the filled bits, describe `R` at the index of `v`
  obtain ⟨cur, hcur, hpi, hty, hbits, hfb⟩ : ∃ cur : Node,
      (addV bf filled v s).current = some { cur with bits := cur.bits ||| 2 ^ (v % bf) } ∧
      cur.parentIndex = v / bf ∧ cur.nodeType = NodeType.standard ∧
      (∀ i, cur.bits.testBit i = true ↔ (i < bf ∧ v / bf * bf + i ∈ R)) ∧
      (∀ i, s.currentFilledBits.testBit i = true ↔
        (i < bf ∧ v / bf * bf + i ∈ R ∧ isF filled (v / bf * bf + i) = true)) := by
    cases hc : s.current with
    | some n =>
      obtain ⟨r, hr⟩ := List.exists_mem_of_ne_nil R fun e => by rw [h.idle.mpr e] at hc; cases hc
      obtain rfl : lb = v / bf := (h.run r hr).symm.trans (hrun r hr)
      obtain ⟨hpi, hty, hbits⟩ := h.cur n hc
      exact ⟨n, by simp [addV, hc], hpi, hty, hbits, h.fb⟩
    | none =>
      obtain rfl := h.idle.mp hc
      refine ⟨{ bits := 0, parentIndex := v / bf, nodeType := .standard }, by simp [addV, hc],
        rfl, rfl, by simp, fun i => ?_⟩
      simpa using h.fb i
  refine ⟨h.done, List.forall_mem_cons.mpr ⟨habove, fun r hr c hcC => hrun r hr ▸ habove c hcC⟩,
    List.forall_mem_cons.mpr ⟨rfl, hrun⟩, by simp [addV], ?_,
    testBit_add_value hbf (fun w => isF filled w = true) hfb⟩
  intro n' hn'
  rw [hcur, Option.some.injEq] at hn'
  subst hn'
  refine ⟨hpi, hty, fun i => ?_⟩
  simpa using testBit_add_value hbf (fun _ => True) (x := cur.bits) (by simpa using hbits) i

theorem layerLoop_inv {bf : Nat} (hbf : 0 < bf) (filled : Option (List Nat)) (cnt : Nat)
    (old last : List Node) (hl : last.length = cnt ∨ (old = [] ∧ last = [])) :
    ∀ (todo C R : List Nat) (lb : Nat) (s : LayerState), Inv bf filled old last C R lb s →
      (R = [] → C = []) → todo.Pairwise (· > ·) → (∀ v ∈ todo, ∀ d ∈ R ++ C, v < d) →
      ∃ C' R' lb', R' ++ C' = todo.reverse ++ (R ++ C) ∧
        Inv bf filled old last C' R' lb'
          (layerLoop bf cnt (old.length + last.length) filled todo s) := by
  intro todo
  induction todo with
  | nil => intro C R lb s h _ _ _; exact ⟨C, R, lb, rfl, h⟩
  | cons v rest ih =>
    intro C R lb s h hD hp hlt
    rw [layerLoop_cons]
    have hp' := List.pairwise_cons.mp hp
    have hfin : ∀ C1 R1 lb1 s1, R1 ++ C1 = R ++ C → Inv bf filled old last C1 R1 lb1 s1 →
        (∀ c ∈ C1, v / bf < c / bf) → (∀ r ∈ R1, r / bf = v / bf) →
        ∃ C' R' lb', R' ++ C' = (v :: rest).reverse ++ (R ++ C) ∧ Inv bf filled old last C' R' lb'
          (layerLoop bf cnt (old.length + last.length) filled rest (addV bf filled v s1)) := by
      intro C1 R1 lb1 s1 he h1 ha hr
      obtain ⟨C', R', lb', he', hI⟩ := ih C1 (v :: R1) (v / bf) _
        (add_inv hbf filled old last C1 R1 lb1 v s1 h1 ha hr) (by simp) hp'.2 (by
          intro x hx d hd
          rw [List.cons_append, he] at hd
          rcases List.mem_cons.mp hd with rfl | hd
          · exact hp'.1 x hx
          · exact hlt x (List.mem_cons_of_mem _ hx) d hd)
      exact ⟨C', R', lb', by rw [he', List.cons_append, he]; simp, hI⟩
    cases hc : s.current with
    | none =>
      obtain rfl := h.idle.mp hc
      obtain rfl := hD rfl
      simp only [ne_eq, not_true_eq_false, if_false]
      exact hfin [] [] lb s rfl h (by simp) (by simp)
    | some n =>
      obtain ⟨hpi, -, -⟩ := h.cur n hc
      obtain ⟨r0, hr0⟩ := List.exists_mem_of_ne_nil R fun e => by rw [h.idle.mpr e] at hc; cases hc
      have hCl : ∀ c ∈ C, lb < c / bf := fun c hcC => h.run r0 hr0 ▸ h.above r0 hr0 c hcC
      simp only []
      by_cases hne : n.parentIndex = v / bf
      · rw [if_neg (by simpa using hne)]
        rw [hpi] at hne
        exact hfin C R lb s rfl h (hne ▸ hCl) fun r hr => (h.run r hr).trans hne
      · rw [if_pos (by simpa using hne)]
        rw [hpi] at hne
        -- `v` is below `r0`, a value of the committed node
        have hlt' : v / bf < lb := Nat.lt_of_le_of_ne (h.run r0 hr0 ▸ Nat.div_le_div_right
          (Nat.le_of_lt (hlt v (by simp) r0 (List.mem_append_left _ hr0)))) (Ne.symm hne)
        refine hfin (R ++ C) [] lb _ (by simp)
          (commit_inv hbf filled cnt old last hl C R lb s h) ?_ (by simp)
        intro c hcRC
        rcases List.mem_append.mp hcRC with hr | hcC
        · rw [h.run c hr]; exact hlt'
        · exact Nat.lt_trans hlt' (hCl c hcC)

/-- `create_layer(branch_factor, values, filled_values, nodes)` for ascending `values` and
`nodes = old ++ last`, where `last` is the previous layer (one node per value) or nothing -/
theorem createLayer_spec {bf : Nat} (hbf : 0 < bf) (values : List Nat)
    (filled : Option (List Nat)) (old last : List Node) (hv : values.Pairwise (· < ·))
    (hl : last.length = values.length ∨ (old = [] ∧ last = [])) :
    ∃ upper uf nodes, createLayer bf values filled (old ++ last) = (upper, uf, nodes) ∧
      Done bf filled old last values upper uf nodes := by
  let s0 : LayerState :=
    { upper := [], upperFilled := [], current := none, currentFilledBits := 0,
      nodes := old ++ last }
  have h0 : Inv bf filled old last [] [] 0 s0 :=
    ⟨⟨by simp [s0], by simp [s0], by simp [s0], by simp [s0], [], by simp [s0, markBy_nil],
      by simp [s0], by simp, by simp⟩, by simp, by simp, by simp [s0], by simp [s0], by simp [s0]⟩
  obtain ⟨C, R, lb', he, h1⟩ := layerLoop_inv hbf filled values.length old last hl values.reverse
    [] [] 0 s0 h0 (fun _ => rfl) (by rw [List.pairwise_reverse]; exact hv) (by simp)
  have h2 := (commit_inv hbf filled values.length old last hl C R lb' _ h1).done
  simp only [he, List.reverse_reverse, List.append_nil] at h2
  generalize hs : commit bf values.length (old.length + last.length)
    (layerLoop bf values.length (old.length + last.length) filled values.reverse s0) = sF at h2
  have hcl : createLayer bf values filled (old ++ last) = (sF.upper, sF.upperFilled, sF.nodes) := by
    rw [← hs, ← List.length_append]; rfl
  exact ⟨sF.upper, sF.upperFilled, sF.nodes, hcl, h2⟩

end FontVerif.SparseBitSet
