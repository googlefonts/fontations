/-
One glyph's variation data, write then read, from the scalars up to the table.  A written tuple is
kept together with what the reader must get out of its header (`Built`, `HdrOk`); the tuple iterator
returns one raw tuple per `Built`; the slow delta iterator on the written streams yields `listed`.
-/
import FontVerif.Model.GvarData
import FontVerif.Lemmas.Packed
namespace FontVerif.GvarData
open FontVerif.PackedDeltas

theorem mapM_cons_opt {α β : Type} (f : α → Option β) (a : α) (l : List α) :
    (a :: l).mapM f = (match f a with
      | none => none
      | some b => (l.mapM f).map (b :: ·)) := by
  rw [List.mapM_cons]
  cases f a <;> simp [Option.map_eq_bind, Function.comp_def]

theorem mapM_some_length {α β : Type} (f : α → Option β) (l : List α) (r : List β)
    (h : l.mapM f = some r) : r.length = l.length ∧ ∀ i (hi : i < l.length), f (l[i]) = r[i]? := by
  rw [mapM_eq_some_iff] at h
  have hl : r.length = l.length := by simpa using (congrArg List.length h).symm
  refine ⟨hl, fun i hi => ?_⟩
  have := congrArg (·[i]?) h
  simpa [hi, hl ▸ hi] using this

theorem rd16_be16 (n : Nat) (h : n < 65536) (rest : List Nat) :
    ∃ a b, be16 n ++ rest = a :: b :: rest ∧ rd16 a b = n :=
  ⟨n / 256 % 256, n % 256, rfl, by simp only [rd16]; omega⟩

theorem rdI16_i16Bytes (v : Int) (h : inI16 v) (rest : List Nat) :
    ∃ a b, i16Bytes v ++ rest = a :: b :: rest ∧ rdI16 a b = v := by
  obtain ⟨a, b, e, r⟩ := rd16_be16 (v % 65536).toNat (by omega) rest
  refine ⟨a, b, e, ?_⟩
  show wrapI16 ((rd16 a b : Nat) : Int) = v
  rw [r, Int.toNat_of_nonneg (Int.emod_nonneg _ (by omega))]
  obtain ⟨h1, h2⟩ := h
  unfold wrapI16
  simp only []
  split <;> omega

@[simp] theorem tupleBytes_nil : tupleBytes [] = [] := rfl

theorem tupleBytes_length (t : List Int) : (tupleBytes t).length = 2 * t.length := by
  induction t with
  | nil => rfl
  | cons v vs ih => simp [tupleBytes, i16Bytes, be16] at ih ⊢; omega

theorem readTuple_tupleBytes (t : List Int) (h : ∀ v ∈ t, inI16 v) (rest : List Nat) :
    readTuple t.length (tupleBytes t ++ rest) = some (t, rest) := by
  induction t with
  | nil => simp [readTuple, tupleBytes]
  | cons v vs ih =>
    obtain ⟨a, b, e, r⟩ := rdI16_i16Bytes v (h v (by simp)) (tupleBytes vs ++ rest)
    have : tupleBytes (v :: vs) ++ rest = a :: b :: (tupleBytes vs ++ rest) := by
      rw [← e]; simp [tupleBytes]
    rw [this]
    simp only [List.length_cons, readTuple, ih (fun x hx => h x (by simp [hx])), r]

/-- what the reader extracts from a written header -/
structure HdrOk (ax : Nat) (h : Header) (pk : Option (List Int)) (it : Option (List Int × List Int))
    (priv : Bool) : Prop where
  size : h.dataSize < 65536
  idx : ∃ base, h.tupleIndex = base + (if it.isSome then 16384 else 0) + (if priv then 8192 else 0) ∧
          ((pk.isSome ∧ base = 32768) ∨ (pk = none ∧ base < 4096))
  peak : h.peak = pk.getD [] ∧ (∀ p, pk = some p → p.length = ax ∧ ∀ v ∈ p, inI16 v)
  inter : (h.start = (it.map (·.1)).getD [] ∧ h.end_ = (it.map (·.2)).getD []) ∧
          (∀ s e, it = some (s, e) → s.length = ax ∧ e.length = ax ∧ (∀ v ∈ s, inI16 v) ∧ (∀ v ∈ e, inI16 v))

/-- the flag bits of a tuple index `base + INTERMEDIATE_REGION? + PRIVATE_POINT_NUMBERS?`, where
`base` is EMBEDDED_PEAK_TUPLE alone or a shared-tuple index below 4096 -/
theorem idx_bits (b x y : Nat) (hb : b = 32768 ∨ b < 4096) (hx : x = 16384 ∨ x = 0) (hy : y = 8192 ∨ y = 0) :
    ((b + x + y) / 32768 % 2 = 1 ↔ b = 32768) ∧ ((b + x + y) / 16384 % 2 = 1 ↔ x = 16384) ∧
    ((b + x + y) / 8192 % 2 = 1 ↔ y = 8192) ∧ (b < 4096 → (b + x + y) % 4096 = b) ∧ b + x + y < 65536 :=
  ⟨⟨by omega, by omega⟩, ⟨by omega, by omega⟩, ⟨by omega, by omega⟩, by omega, by omega⟩

theorem HdrOk.bits {ax h pk it priv} (ok : HdrOk ax h pk it priv) :
    (h.tupleIndex / 32768 % 2 = 1 ↔ pk.isSome = true) ∧ (h.tupleIndex / 16384 % 2 = 1 ↔ it.isSome = true) ∧
    (h.tupleIndex / 8192 % 2 = 1 ↔ priv = true) ∧ h.tupleIndex < 65536 ∧
    (pk = none → ∃ base, base < 4096 ∧ h.tupleIndex % 4096 = base ∧
      h.tupleIndex = base + (if it.isSome then 16384 else 0) + (if priv then 8192 else 0)) := by
  obtain ⟨_, ⟨base, hidx, hbase⟩, _, _⟩ := ok
  obtain ⟨b1, b2, b3, b4, b5⟩ := idx_bits base (if it.isSome then 16384 else 0) (if priv then 8192 else 0)
    (by rcases hbase with ⟨_, hb⟩ | ⟨_, hb⟩ <;> simp [hb]) (by split <;> simp) (by split <;> simp)
  rw [← hidx] at b1 b2 b3 b4 b5
  refine ⟨b1.trans ?_, b2.trans ?_, b3.trans ?_, b5, fun hp => ?_⟩
  · rcases hbase with ⟨hp, hb⟩ | ⟨hp, hb⟩
    · simp [hp, hb]
    · simp only [hp, Option.isSome_none, Bool.false_eq_true, iff_false]; omega
  · cases it.isSome <;> simp
  · cases priv <;> simp
  · rcases hbase with ⟨hs, _⟩ | ⟨_, hb⟩
    · simp [hp] at hs
    · exact ⟨base, hb, b4 hb, hidx⟩

theorem HdrOk.priv_bit {ax h pk it priv} (ok : HdrOk ax h pk it priv) :
    (h.tupleIndex / 8192 % 2 = 1) ↔ priv = true := ok.bits.2.2.1

theorem HdrOk.emb_bit {ax h pk it priv} (ok : HdrOk ax h pk it priv) :
    (h.tupleIndex / 32768 % 2 = 1) ↔ pk.isSome = true := ok.bits.1

theorem HdrOk.idx_low {ax h it priv} (ok : HdrOk ax h none it priv) :
    h.tupleIndex / 32768 % 2 = 0 ∧ ∃ base, base < 4096 ∧ h.tupleIndex % 4096 = base ∧
      h.tupleIndex = base + (if it.isSome then 16384 else 0) + (if priv then 8192 else 0) := by
  obtain ⟨b1, -, -, -, b5⟩ := ok.bits
  have : ¬ h.tupleIndex / 32768 % 2 = 1 := fun hc => by simpa using b1.mp hc
  exact ⟨by omega, b5 rfl⟩

theorem readHeader_bytes (ax : Nat) (h : Header) (pk it priv) (ok : HdrOk ax h pk it priv) (rest : List Nat) :
    readHeader ax (h.bytes ++ rest) = some (h.dataSize, h.tupleIndex, pk, it, rest) := by
  obtain ⟨hemb, hint, -, hti, -⟩ := ok.bits
  obtain ⟨hs, -, ⟨hpk, hpk2⟩, ⟨⟨hst, hen⟩, hit2⟩⟩ := ok
  obtain ⟨s0, s1, e1, r1⟩ := rd16_be16 h.dataSize hs
    (be16 h.tupleIndex ++ (tupleBytes h.peak ++ (tupleBytes h.start ++ (tupleBytes h.end_ ++ rest))))
  obtain ⟨t0, t1, e2, r2⟩ := rd16_be16 h.tupleIndex hti
    (tupleBytes h.peak ++ (tupleBytes h.start ++ (tupleBytes h.end_ ++ rest)))
  have hb : h.bytes ++ rest = s0 :: s1 :: t0 :: t1 ::
      (tupleBytes h.peak ++ (tupleBytes h.start ++ (tupleBytes h.end_ ++ rest))) := by
    simp only [Header.bytes, List.append_assoc]
    rw [e1, e2]
  rw [hb]
  simp only [readHeader, r1, r2]
  have hpeak : (if h.tupleIndex / 32768 % 2 = 1 then
        (readTuple ax (tupleBytes h.peak ++ (tupleBytes h.start ++ (tupleBytes h.end_ ++ rest)))).map
          fun (v, r) => (some v, r)
      else some (none, tupleBytes h.peak ++ (tupleBytes h.start ++ (tupleBytes h.end_ ++ rest))))
      = some (pk, tupleBytes h.start ++ (tupleBytes h.end_ ++ rest)) := by
    cases pk with
    | none =>
      rw [if_neg (by simpa using hemb), show h.peak = [] by simpa using hpk]; rfl
    | some p =>
      obtain ⟨lp, vp⟩ := hpk2 p rfl
      rw [if_pos (by simpa using hemb), show h.peak = p by simpa using hpk, ← lp,
        readTuple_tupleBytes p vp]
      rfl
  rw [hpeak]
  cases it with
  | none =>
    have hi : ¬ (h.tupleIndex / 16384 % 2 = 1) := by simpa using hint
    have h1 : h.start = [] := by simpa using hst
    have h2 : h.end_ = [] := by simpa using hen
    simp [hi, h1, h2]
  | some se =>
    obtain ⟨s, e⟩ := se
    have hi : h.tupleIndex / 16384 % 2 = 1 := by simpa using hint
    have h1 : h.start = s := by simpa using hst
    have h2 : h.end_ = e := by simpa using hen
    obtain ⟨l1, l2, v1, v2⟩ := hit2 s e rfl
    simp only [hi, if_true, h1, h2]
    rw [← l1, readTuple_tupleBytes s v1]
    simp only []
    rw [l1, ← l2, readTuple_tupleBytes e v2]

theorem Header.bytes_length (h : Header) (n : Nat) (hs : h.size = some n) : h.bytes.length = n := by
  unfold Header.size at hs
  simp only [] at hs
  split at hs
  · cases hs
  · injection hs with hs
    simp only [Header.bytes, List.length_append, tupleBytes_length, be16, List.length_cons, List.length_nil]
    omega

/-- a written tuple together with what the reader must extract from its header -/
structure Built where
  h : Header
  d : List Nat
  pk : Option (List Int)
  it : Option (List Int × List Int)
  priv : Bool

def Built.raw (b : Built) : RawTuple := ⟨b.h.tupleIndex, b.pk, b.it, b.d⟩

def Built.Ok (ax : Nat) (b : Built) : Prop := HdrOk ax b.h b.pk b.it b.priv ∧ b.d.length = b.h.dataSize

theorem readTuples_built (ax : Nat) (bs : List Built) (hok : ∀ b ∈ bs, b.Ok ax) (tailH tailD : List Nat) :
    readTuples ax bs.length (bs.flatMap (·.h.bytes) ++ tailH) (bs.flatMap (·.d) ++ tailD)
      = bs.map Built.raw := by
  induction bs with
  | nil => simp [readTuples]
  | cons b bs ih =>
    obtain ⟨ok, hd⟩ := hok b (by simp)
    simp only [List.flatMap_cons, List.append_assoc, List.length_cons, readTuples]
    rw [readHeader_bytes ax b.h b.pk b.it b.priv ok]
    simp only [List.length_append]
    have : ¬ (b.h.dataSize > b.d.length + (List.flatMap (·.d) bs ++ tailD).length) := by omega
    simp only [List.length_append] at this
    simp only [this, if_false, List.map_cons]
    rw [← hd, List.take_left, List.drop_left, ih (fun x hx => hok x (by simp [hx]))]
    rfl

theorem headers_length (bs : List Built) (sizes : List Nat)
    (h : (bs.map fun b => (b.h, b.d)).mapM (fun b => b.1.size) = some sizes) :
    (bs.flatMap (·.h.bytes)).length = sizes.sum := by
  rw [mapM_eq_some_iff, List.map_map] at h
  induction bs generalizing sizes with
  | nil => cases sizes <;> simp at h ⊢
  | cons b bs ih =>
    cases sizes with
    | nil => simp at h
    | cons n sizes =>
      simp only [List.map_cons, List.cons.injEq, Function.comp_apply] at h
      simp only [List.flatMap_cons, List.length_append, List.sum_cons, ih sizes h.2,
        Header.bytes_length b.h n h.1]

theorem serializeGlyph_some (sharedPts : Option PPN) (built : List (Header × List Nat)) (bytes : List Nat)
    (h : serializeGlyph sharedPts built = some bytes) :
    ∃ sizes sp, built.length ≤ 4095 ∧ built.mapM (fun b => b.1.size) = some sizes ∧
      optPpnBytes sharedPts = some sp ∧ sizes.sum + 4 ≤ 65535 ∧
      bytes = be16 (built.length + (if sharedPts.isSome then 32768 else 0)) ++ be16 (sizes.sum + 4) ++
        built.flatMap (fun b => b.1.bytes) ++ sp ++ built.flatMap (·.2) := by
  unfold serializeGlyph at h
  by_cases hlen : built.length > 4095
  · rw [if_pos hlen] at h; cases h
  · rw [if_neg hlen] at h
    cases hsz : built.mapM (fun b => b.1.size) with
    | none => simp [hsz] at h
    | some sizes =>
      cases hsp : optPpnBytes sharedPts with
      | none => simp [hsz, hsp] at h
      | some sp =>
        simp only [hsz, hsp] at h
        by_cases hoff : sizes.sum + 4 > 65535
        · rw [if_pos hoff] at h; cases h
        · rw [if_neg hoff] at h
          exact ⟨sizes, sp, by omega, rfl, rfl, by omega, (Option.some.inj h).symm⟩

/-- `readGlyph` on a count word, an offset word, `off - 4` bytes of tuple headers and the serialized
data behind them -/
theorem readGlyph_layout (ax bits off : Nat) (hdr ser : List Nat) (hb : bits < 65536) (ho : off < 65536)
    (hl : hdr.length + 4 = off) :
    readGlyph ax (be16 bits ++ be16 off ++ hdr ++ ser) =
      some { countBits := bits
             sharedPts := if bits / 32768 % 2 = 1 then some ser else none
             tuples := readTuples ax (bits % 4096) (hdr ++ ser)
               (if bits / 32768 % 2 = 1 then splitRemainder ser else ser) } := by
  obtain ⟨c0, c1, ec, rc⟩ := rd16_be16 bits hb (be16 off ++ (hdr ++ ser))
  obtain ⟨o0, o1, eo, ro⟩ := rd16_be16 off ho (hdr ++ ser)
  rw [show be16 bits ++ be16 off ++ hdr ++ ser = c0 :: c1 :: o0 :: o1 :: (hdr ++ ser) by
    simp only [List.append_assoc]; rw [ec, eo]]
  have hdrop : (c0 :: c1 :: o0 :: o1 :: (hdr ++ ser)).drop off = ser := by
    rw [← hl]; simp only [List.drop_succ_cons]; exact List.drop_left
  have hne : ¬ (off = 0 ∨ off > (c0 :: c1 :: o0 :: o1 :: (hdr ++ ser)).length) := by
    simp only [List.length_cons, List.length_append]; omega
  simp only [readGlyph, rc, ro, hne, if_false, hdrop]

theorem readGlyph_serialize (ax : Nat) (sharedPts : Option PPN) (bs : List Built)
    (hok : ∀ b ∈ bs, b.Ok ax) (bytes : List Nat)
    (hser : serializeGlyph sharedPts (bs.map fun b => (b.h, b.d)) = some bytes)
    (sp : List Nat) (hsp : optPpnBytes sharedPts = some sp)
    (hsplit : sharedPts.isSome → ∀ tail, splitRemainder (sp ++ tail) = tail) (rest : List Nat) :
    ∃ g, readGlyph ax (bytes ++ rest) = some g ∧
      g.sharedPts = (if sharedPts.isSome then some (sp ++ (bs.flatMap (·.d) ++ rest)) else none) ∧
      g.tuples = bs.map Built.raw := by
  obtain ⟨sizes, sp', hlen, hsz, hsp', hoff, rfl⟩ := serializeGlyph_some _ _ _ hser
  cases hsp.symm.trans hsp'
  rw [List.length_map] at hlen
  rw [List.flatMap_map, List.flatMap_map, List.length_map, List.append_assoc, List.append_assoc _ sp,
    readGlyph_layout ax _ _ _ _ (by split <;> omega) (by omega) (by rw [headers_length bs sizes hsz])]
  -- the count word carries the tuple count and the shared-points flag
  have hcnt : (bs.length + if sharedPts.isSome = true then 32768 else 0) % 4096 = bs.length := by
    split <;> omega
  have hflag : (bs.length + if sharedPts.isSome = true then 32768 else 0) / 32768 % 2 = 1 ↔
      sharedPts.isSome = true := by
    by_cases hs : sharedPts.isSome = true
    · rw [if_pos hs]; exact ⟨fun _ => hs, fun _ => by omega⟩
    · rw [if_neg hs]; exact ⟨fun h => by omega, fun h => absurd h hs⟩
  have hdata : (if sharedPts.isSome = true then splitRemainder (sp ++ (bs.flatMap (·.d) ++ rest))
      else sp ++ (bs.flatMap (·.d) ++ rest)) = bs.flatMap (·.d) ++ rest := by
    cases sharedPts with
    | none => cases hsp; rfl
    | some p => exact hsplit rfl _
  refine ⟨_, rfl, ?_, ?_⟩
  · simp only [hflag]
  · simp only [hflag, hcnt, hdata]
    exact readTuples_built ax bs hok _ rest

theorem ptSize_is_length (pts : List Nat) (n : Nat) (h : ptComputeSize pts = some n) :
    ∃ bs, encodePoints pts = some bs ∧ bs.length = n := by
  unfold ptComputeSize at h
  unfold encodePoints
  cases hr : ptRunsOf pts.length 0 pts with
  | none => simp [hr] at h
  | some rs =>
    simp only [hr] at h ⊢
    refine ⟨_, rfl, ?_⟩
    have := checkedSizes_eq (fun r : PtRun => r.pts.length * (if r.words then 2 else 1) + 1) serializePtRun
      serializePtRun_length rs _ n h
    simp only [List.length_append, this]
    have : (ptCountBytes pts.length).length = if pts.length < 128 then 1 else 2 := by
      unfold ptCountBytes
      by_cases hl : pts.length ≤ 127
      · have : pts.length < 128 := by omega
        simp [hl, this]
      · have : ¬ pts.length < 128 := by omega
        simp [hl, this]
    omega

theorem ppnSize_is_length (p : PPN) (n : Nat) (h : ppnSize p = some n) :
    ∃ bs, ppnBytes p = some bs ∧ bs.length = n := by
  cases p with
  | none => simp [ppnSize] at h; subst h; exact ⟨[0], rfl, rfl⟩
  | some pts => exact ptSize_is_length pts n h

theorem tupleData_length (priv : Option PPN) (xs ys : List Int) (size : Nat)
    (h : tupleDataSize priv xs ys = some size) :
    size < 65536 ∧ ∃ pb, optPpnBytes priv = some pb ∧
      (pb ++ encodeDeltas xs ++ encodeDeltas ys).length = size := by
  unfold tupleDataSize at h
  split at h
  next p x y hp hx hy =>
    obtain ⟨pb, e, l⟩ : ∃ pb, optPpnBytes priv = some pb ∧ pb.length = p := by
      cases priv with
      | none => cases hp; exact ⟨[], rfl, rfl⟩
      | some q => exact ppnSize_is_length q p hp
    have lx := computeSize_eq_length xs x hx
    have ly := computeSize_eq_length ys y hy
    by_cases h1 : p + x > 65535
    · rw [if_pos h1] at h; cases h
    by_cases h2 : p + x + y > 65535
    · rw [if_neg h1, if_pos h2] at h; cases h
    rw [if_neg h1, if_neg h2] at h
    injection h with h
    exact ⟨by omega, pb, e, by simp only [List.length_append]; omega⟩
  next => cases h

def zipPts : List Nat → List Int → List Int → List (Nat × Int × Int)
  | p :: ps, x :: xs, y :: ys => (p, x, y) :: zipPts ps xs ys
  | _, _, _ => []

/-- strictly ascending chain above `np`, all below 65536 -/
def SAsc : Nat → List Nat → Prop
  | _, [] => True
  | np, p :: ps => np < p ∧ p ≤ 65535 ∧ SAsc p ps

theorem sasc_bound : ∀ (ps : List Nat) (np : Nat), SAsc np ps → ∀ p ∈ ps, np < p ∧ p ≤ 65535 := by
  intro ps
  induction ps with
  | nil => intro _ _ p hp; simp at hp
  | cons q ps ih =>
    intro np ⟨h1, h2, h3⟩ p hp
    rcases List.mem_cons.mp hp with rfl | hp
    · exact ⟨h1, h2⟩
    · have := ih q h3 p hp; omega

theorem sasc_pairwise : ∀ (ps : List Nat) (np : Nat), SAsc np ps → ps.Pairwise (· ≤ ·) := by
  intro ps
  induction ps with
  | nil => intro _ _; simp
  | cons q ps ih =>
    intro np ⟨h1, h2, h3⟩
    rw [List.pairwise_cons]
    exact ⟨fun p hp => by have := sasc_bound ps q h3 p hp; omega, ih q h3⟩

theorem sasc_nodup : ∀ (ps : List Nat) (np : Nat), SAsc np ps → (np :: ps).Nodup := by
  intro ps
  induction ps with
  | nil => intro np _; simp
  | cons q ps ih =>
    intro np ⟨h1, h2, h3⟩
    have := ih q h3
    rw [List.nodup_cons]
    refine ⟨?_, this⟩
    intro hm
    rcases List.mem_cons.mp hm with h | h
    · omega
    · have := (sasc_bound ps q h3 np h).1; omega

theorem sasc_cons (p0 : Nat) (ps : List Nat) (hp0 : p0 ≤ 65535) (hasc : SAsc p0 ps) :
    (∀ p ∈ p0 :: ps, p ≤ 65535) ∧ (p0 :: ps).Pairwise (· ≤ ·) := by
  refine ⟨fun p hp => ?_, List.pairwise_cons.mpr
    ⟨fun p hp => Nat.le_of_lt (sasc_bound ps p0 hasc p hp).1, sasc_pairwise ps p0 hasc⟩⟩
  rcases List.mem_cons.mp hp with rfl | hp
  · exact hp0
  · exact (sasc_bound ps p0 hasc p hp).2

theorem sparseLoop_list_tail : ∀ (ps : List Nat) (fuel np : Nat) (xs ys : List Int),
    SAsc np ps → xs.length = ps.length → ys.length = ps.length → ps.length + 1 ≤ fuel →
    sparseLoop fuel (np + 1) np (.list ps) xs ys = zipPts ps xs ys := by
  intro ps
  induction ps with
  | nil =>
    intro fuel np xs ys _ _ _ hf
    obtain ⟨f, rfl⟩ : ∃ f, fuel = f + 1 := ⟨fuel - 1, by omega⟩
    simp [sparseLoop, PtIter.next, zipPts]
  | cons p ps ih =>
    intro fuel np xs ys ha hx hy hf
    obtain ⟨f, rfl⟩ : ∃ f, fuel = f + 1 := ⟨fuel - 1, by omega⟩
    obtain ⟨h1, h2, h3⟩ := ha
    cases xs with
    | nil => simp at hx
    | cons x xs =>
      cases ys with
      | nil => simp at hy
      | cons y ys =>
        have hlt : ¬ p < np + 1 := by omega
        simp only [sparseLoop, Nat.lt_add_one, gt_iff_lt, if_true, PtIter.next, hlt, if_false, zipPts]
        rw [ih f p xs ys h3 (by simpa using hx) (by simpa using hy) (by simp at hf; omega)]

theorem sparseLoop_first (f cur np : Nat) (pts : PtIter) (x : Int) (xs : List Int) (y : Int)
    (ys : List Int) (h : ¬ cur > np) :
    sparseLoop (f + 1) cur np pts (x :: xs) (y :: ys) = (np, x, y) :: sparseLoop f (np + 1) np pts xs ys := by
  simp [sparseLoop, h]

theorem sparseLoop_counter_tail : ∀ (xs ys : List Int) (fuel k : Nat), xs.length = ys.length →
    k + 1 + xs.length ≤ 65535 → xs.length + 1 ≤ fuel →
    sparseLoop fuel (k + 1) k (.counter (k + 1)) xs ys = denseZip (k + 1) xs ys := by
  intro xs
  induction xs with
  | nil =>
    intro ys fuel k hl _ hf
    obtain ⟨f, rfl⟩ : ∃ f, fuel = f + 1 := ⟨fuel - 1, by omega⟩
    have : ys = [] := List.length_eq_zero_iff.mp (by simpa using hl.symm)
    subst this
    by_cases h1 : k + 1 + 1 > 65535
    · simp [sparseLoop, PtIter.next, h1, denseZip]
    · simp [sparseLoop, PtIter.next, h1, denseZip]
  | cons x xs ih =>
    intro ys fuel k hl hk hf
    obtain ⟨f, rfl⟩ : ∃ f, fuel = f + 1 := ⟨fuel - 1, by omega⟩
    cases ys with
    | nil => simp at hl
    | cons y ys =>
      simp only [List.length_cons] at hk hf hl
      have h1 : ¬ (k + 1 + 1 > 65535) := by omega
      simp only [sparseLoop, Nat.lt_add_one, gt_iff_lt, if_true, PtIter.next, h1, if_false,
        Nat.lt_irrefl, denseZip]
      rw [ih ys f (k + 1) (by omega) (by omega) (by omega)]

theorem denseZip_mod : ∀ (xs ys : List Int) (k : Nat), k + xs.length ≤ 65536 →
    (denseZip k xs ys).map (fun (p, x, y) => (p % 65536, x, y)) = denseZip k xs ys := by
  intro xs
  induction xs with
  | nil => intro ys k _; simp [denseZip]
  | cons x xs ih =>
    intro ys k hk
    cases ys with
    | nil => simp [denseZip]
    | cons y ys =>
      simp only [List.length_cons] at hk
      simp only [denseZip, List.map_cons, ih ys (k + 1) (by omega)]
      have : k % 65536 = k := by omega
      rw [this]

theorem zipPts_mod : ∀ (ps : List Nat) (xs ys : List Int), (∀ p ∈ ps, p ≤ 65535) →
    (zipPts ps xs ys).map (fun (p, x, y) => (p % 65536, x, y)) = zipPts ps xs ys := by
  intro ps
  induction ps with
  | nil => intro xs ys _; simp [zipPts]
  | cons p ps ih =>
    intro xs ys hb
    cases xs with
    | nil => simp [zipPts]
    | cons x xs =>
      cases ys with
      | nil => simp [zipPts]
      | cons y ys =>
        simp only [zipPts, List.map_cons, ih xs ys (fun q hq => hb q (by simp [hq]))]
        have : p % 65536 = p := by have := hb p (by simp); omega
        rw [this]

theorem enc_concat_runs (xs ys : List Int) (hx : ∀ d ∈ xs, inI32 d) (hy : ∀ d ∈ ys, inI32 d) :
    ∃ runs, encodeDeltas xs ++ encodeDeltas ys = runs.flatMap serializeRun ∧
      (∀ r ∈ runs, ValidRun r) ∧ total runs = xs.length + ys.length := by
  obtain ⟨hvx, hcx⟩ := runsOf_props xs.length xs (Nat.le_refl _) hx
  obtain ⟨hvy, hcy⟩ := runsOf_props ys.length ys (Nat.le_refl _) hy
  refine ⟨runsOf xs.length xs ++ runsOf ys.length ys, by simp [encodeDeltas], ?_, ?_⟩
  · intro r hr
    rcases List.mem_append.mp hr with h | h
    · exact hvx r h
    · exact hvy r h
  · simp [total, hcx, hcy]

/-- a tuple that covers all points: count byte 0 (private or shared), deltas for every point -/
theorem tupleDeltas_all (junk : List Nat) (xs ys : List Int) (hx : ∀ d ∈ xs, inI32 d)
    (hy : ∀ d ∈ ys, inI32 d) (hlen : xs.length = ys.length) (hn : xs.length ≤ 65535) :
    tupleDeltas (0 :: junk) (encodeDeltas xs ++ encodeDeltas ys) = denseZip 0 xs ys := by
  obtain ⟨runs, er, hv, ht⟩ := enc_concat_runs xs ys hx hy
  have hcount : countAll (encodeDeltas xs ++ encodeDeltas ys).length (encodeDeltas xs ++ encodeDeltas ys)
      = 2 * xs.length := by
    rw [er, countAll_runs runs _ (Nat.le_refl _) hv, ht]; omega
  obtain ⟨rx, ry⟩ := PackedDeltas.xy_roundtrip xs ys hx hy hlen []
  simp only [List.append_nil] at rx ry
  unfold tupleDeltas
  have hc : countAndCountBytes (0 :: junk) = (0, 1) := by simp [countAndCountBytes]
  have hit : ptIterOf (0 :: junk) = .counter 0 := by
    simp [ptIterOf, decodePoints, hc]
  simp only [hc, if_true, hcount, rx, ry, hit, PtIter.next]
  have h1 : ¬ (0 + 1 > 65535) := by omega
  simp only [h1, if_false]
  cases xs with
  | nil =>
    have : ys = [] := List.length_eq_zero_iff.mp (by simpa using hlen.symm)
    subst this
    have : 2 * (([] : List Int).length + ptIterLen (.counter (0 + 1))) + 4 = 3 + 1 := rfl
    rw [this]
    simp [sparseLoop, denseZip]
  | cons x xs =>
    cases ys with
    | nil => simp at hlen
    | cons y ys =>
      simp only [List.length_cons] at hlen hn
      have hf : 2 * ((x :: xs).length + ptIterLen (.counter (0 + 1))) + 4 = (2 * xs.length + 5) + 1 := by
        simp [ptIterLen]; omega
      rw [hf, sparseLoop_first _ 0 0 _ x xs y ys (by omega)]
      rw [sparseLoop_counter_tail xs ys _ 0 (by omega) (by omega) (by omega)]
      have := denseZip_mod (x :: xs) (y :: ys) 0 (by simp; omega)
      simpa [denseZip] using this

theorem tupleDeltas_runs (p0 : Nat) (ps : List Nat) (ptBytes : List Nat) (xr yr : List Run)
    (hvx : ∀ r ∈ xr, ValidRun r) (hvy : ∀ r ∈ yr, ValidRun r)
    (hnx : total xr = (p0 :: ps).length) (hny : total yr = (p0 :: ps).length)
    (hp0 : p0 ≤ 65535) (hasc : SAsc p0 ps)
    (hcc : (countAndCountBytes ptBytes).1 = (p0 :: ps).length)
    (hdec : decodePoints ptBytes = some (p0 :: ps)) :
    tupleDeltas ptBytes (xr.flatMap serializeRun ++ yr.flatMap serializeRun)
      = zipPts (p0 :: ps) (xr.flatMap (·.2)) (yr.flatMap (·.2)) := by
  have hb := (sasc_cons p0 ps hp0 hasc).1
  have hlx : (xr.flatMap (·.2)).length = (p0 :: ps).length := by rw [← hnx]; rfl
  have hly : (yr.flatMap (·.2)).length = (p0 :: ps).length := by rw [← hny]; rfl
  have rx : xDeltas (xr.flatMap serializeRun ++ yr.flatMap serializeRun) (2 * (p0 :: ps).length)
      = xr.flatMap (·.2) := by
    unfold xDeltas
    have : 2 * (p0 :: ps).length / 2 = total xr := by omega
    rw [this, decNext_runs xr (total xr) .i8 _ hvx (Nat.le_refl _), Nat.sub_self]
    simp [decNext]
  have ry : yDeltas (xr.flatMap serializeRun ++ yr.flatMap serializeRun) (2 * (p0 :: ps).length)
      = yr.flatMap (·.2) := by
    have := yDeltas_runs xr yr [] hvx hvy (by omega)
    simp only [List.append_nil] at this
    rw [← hnx]; exact this
  unfold tupleDeltas
  have hne : ¬ ((p0 :: ps).length = 0) := by simp
  have hn2 : (p0 :: ps).length * 2 = 2 * (p0 :: ps).length := by omega
  have hit : ptIterOf ptBytes = .list (p0 :: ps) := by simp [ptIterOf, hdec]
  simp only [hcc, hne, if_false, hn2, rx, ry, hit, PtIter.next]
  generalize hxs : xr.flatMap (·.2) = xs at hlx ⊢
  generalize hys : yr.flatMap (·.2) = ys at hly ⊢
  cases xs with
  | nil => simp at hlx
  | cons x xs =>
    cases ys with
    | nil => simp at hly
    | cons y ys =>
      simp only [List.length_cons] at hlx hly
      have hf : 2 * ((x :: xs).length + ptIterLen (.list ps)) + 4 = (2 * xs.length + 2 * ps.length + 5) + 1 := by
        simp [ptIterLen]; omega
      rw [hf, sparseLoop_first _ 0 p0 _ x xs y ys (by omega)]
      rw [sparseLoop_list_tail ps _ p0 xs ys hasc (by omega) (by omega) (by omega)]
      have := zipPts_mod (p0 :: ps) (x :: xs) (y :: ys) hb
      simpa [zipPts] using this

theorem tupleDeltas_sparse (p0 : Nat) (ps : List Nat) (junk : List Nat) (xs ys : List Int)
    (hp0 : p0 ≤ 65535) (hasc : SAsc p0 ps) (hcnt : (p0 :: ps).length ≤ 32767)
    (pb : List Nat) (henc : encodePoints (p0 :: ps) = some pb)
    (hx : ∀ d ∈ xs, inI32 d) (hy : ∀ d ∈ ys, inI32 d)
    (hlx : xs.length = (p0 :: ps).length) (hly : ys.length = (p0 :: ps).length) :
    tupleDeltas (pb ++ junk) (encodeDeltas xs ++ encodeDeltas ys) = zipPts (p0 :: ps) xs ys ∧
    (countAndCountBytes (pb ++ junk)).1 = (p0 :: ps).length ∧
    splitRemainder (pb ++ junk) = junk := by
  obtain ⟨hb, hpw⟩ := sasc_cons p0 ps hp0 hasc
  obtain ⟨bs, e1, e23⟩ := PackedDeltas.points_roundtrip (p0 :: ps) (by simp) hcnt hb hpw
  rw [henc] at e1
  injection e1 with e1
  subst e1
  obtain ⟨hcc, e2, e3⟩ := e23 junk
  refine ⟨?_, hcc, e3⟩
  obtain ⟨hvx, hcx⟩ := runsOf_props xs.length xs (Nat.le_refl _) hx
  obtain ⟨hvy, hcy⟩ := runsOf_props ys.length ys (Nat.le_refl _) hy
  have := tupleDeltas_runs p0 ps (pb ++ junk) (runsOf xs.length xs) (runsOf ys.length ys) hvx hvy
    (by rw [runsOf_total xs hx, hlx]) (by rw [runsOf_total ys hy, hly]) hp0 hasc hcc e2
  rwa [hcx, hcy] at this

def indexed : Nat → List GDelta → List (Nat × GDelta)
  | _, [] => []
  | i, d :: ds => (i, d) :: indexed (i + 1) ds

theorem mem_indexed : ∀ (ds : List GDelta) (i : Nat) (e : Nat × GDelta),
    e ∈ indexed i ds ↔ i ≤ e.1 ∧ ds[e.1 - i]? = some e.2 := by
  intro ds
  induction ds with
  | nil => intro i e; simp [indexed]
  | cons d ds ih =>
    intro i e
    simp only [indexed, List.mem_cons, ih]
    constructor
    · rintro (rfl | ⟨h1, h2⟩)
      · simp
      · refine ⟨by omega, ?_⟩
        have : e.1 - i = (e.1 - (i + 1)) + 1 := by omega
        rw [this]; simpa using h2
    · rintro ⟨h1, h2⟩
      by_cases he : e.1 = i
      · left
        have : e.1 - i = 0 := by omega
        rw [this] at h2
        simp only [List.getElem?_cons_zero, Option.some.injEq] at h2
        exact Prod.ext he h2.symm
      · right
        refine ⟨by omega, ?_⟩
        have : e.1 - i = (e.1 - (i + 1)) + 1 := by omega
        rw [this] at h2; simpa using h2

/-- what reading a tuple back must give: `(point, x, y)` for every point when the tuple covers all
points, otherwise for exactly the required points — each with its own index and its own deltas -/
def listed (all : Bool) (ds : List GDelta) : List (Nat × Int × Int) :=
  ((indexed 0 ds).filter fun e => all || e.2.2.2).map fun e => (e.1, e.2.1, e.2.2.1)

theorem denseZip_indexed : ∀ (ds : List GDelta) (k : Nat),
    denseZip k (ds.map (·.1)) (ds.map (·.2.1)) = (indexed k ds).map fun e => (e.1, e.2.1, e.2.2.1) := by
  intro ds
  induction ds with
  | nil => intro k; simp [denseZip, indexed]
  | cons d ds ih => intro k; simp [denseZip, indexed, ih]

theorem listed_all (ds : List GDelta) :
    listed true ds = denseZip 0 (ds.map (·.1)) (ds.map (·.2.1)) := by
  simp only [listed, denseZip_indexed, Bool.true_or]
  rw [List.filter_eq_self.mpr (fun _ _ => rfl)]

theorem zipPts_required : ∀ (ds : List GDelta) (i : Nat), i + ds.length ≤ 65536 →
    zipPts (requiredIdx i ds) ((ds.filter (·.2.2)).map (·.1)) ((ds.filter (·.2.2)).map (·.2.1))
      = ((indexed i ds).filter fun e => e.2.2.2).map fun e => (e.1, e.2.1, e.2.2.1) := by
  intro ds
  induction ds with
  | nil => intro i _; simp [requiredIdx, zipPts, indexed]
  | cons d ds ih =>
    intro i hi
    simp only [List.length_cons] at hi
    have hmod : i % 65536 = i := by omega
    by_cases hr : d.2.2 = true
    · simp [requiredIdx, hr, zipPts, indexed, hmod, ih (i + 1) (by omega)]
    · simp [requiredIdx, hr, indexed, ih (i + 1) (by omega)]

theorem listed_required (ds : List GDelta) (h : ds.length ≤ 65536) :
    listed false ds = zipPts (requiredIdx 0 ds) ((ds.filter (·.2.2)).map (·.1)) ((ds.filter (·.2.2)).map (·.2.1)) := by
  rw [zipPts_required ds 0 (by omega)]
  simp [listed]

theorem requiredIdx_sasc : ∀ (ds : List GDelta) (i np : Nat), np < i → i + ds.length ≤ 65536 →
    SAsc np (requiredIdx i ds) := by
  intro ds
  induction ds with
  | nil => intro i np _ _; simp [requiredIdx, SAsc]
  | cons d ds ih =>
    intro i np h1 h2
    simp only [List.length_cons] at h2
    have hmod : i % 65536 = i := by omega
    by_cases hr : d.2.2 = true
    · simp only [requiredIdx, hr, if_true, hmod, SAsc]
      exact ⟨h1, by omega, ih (i + 1) i (by omega) (by omega)⟩
    · simp only [requiredIdx, hr]
      exact ih (i + 1) np (by omega) (by omega)

theorem requiredIdx_head : ∀ (ds : List GDelta) (i : Nat), i + ds.length ≤ 65536 →
    ∀ p0 ps, requiredIdx i ds = p0 :: ps → p0 ≤ 65535 ∧ SAsc p0 ps := by
  intro ds
  induction ds with
  | nil => intro i _ p0 ps h; simp [requiredIdx] at h
  | cons d ds ih =>
    intro i hi p0 ps h
    simp only [List.length_cons] at hi
    have hmod : i % 65536 = i := by omega
    by_cases hr : d.2.2 = true
    · simp only [requiredIdx, hr, if_true, hmod, List.cons.injEq] at h
      obtain ⟨rfl, rfl⟩ := h
      exact ⟨by omega, requiredIdx_sasc ds (i + 1) i (by omega) (by omega)⟩
    · simp only [requiredIdx, hr] at h
      exact ih (i + 1) (by omega) p0 ps h

theorem requiredIdx_length : ∀ (ds : List GDelta) (i : Nat),
    (requiredIdx i ds).length = (ds.filter (·.2.2)).length := by
  intro ds
  induction ds with
  | nil => intro i; rfl
  | cons d ds ih =>
    intro i
    by_cases hr : d.2.2 = true
    · simp [requiredIdx, hr, ih]
    · simp [requiredIdx, hr, ih]

theorem requiredIdx_ne_nil : ∀ (ds : List GDelta) (i : Nat), ds.any (·.2.2) = true → requiredIdx i ds ≠ [] := by
  intro ds
  induction ds with
  | nil => intro i h; simp at h
  | cons d ds ih =>
    intro i h
    by_cases hr : d.2.2 = true
    · simp [requiredIdx, hr]
    · simp only [requiredIdx, hr]
      simp only [List.any_cons, hr, Bool.false_or] at h
      simpa using ih (i + 1) h

theorem requiredIdx_mapM : ∀ (ds pre : List GDelta) (i : Nat), pre.length = i → i + ds.length ≤ 65536 →
    (requiredIdx i ds).mapM (fun p => (pre ++ ds)[p]?) = some (ds.filter (·.2.2)) := by
  intro ds
  induction ds with
  | nil => intro pre i _ _; simp [requiredIdx]
  | cons d ds ih =>
    intro pre i hp hi
    simp only [List.length_cons] at hi
    have hmod : i % 65536 = i := by omega
    have hcat : pre ++ d :: ds = (pre ++ [d]) ++ ds := by simp
    have ih' := ih (pre ++ [d]) (i + 1) (by simp [hp]) (by omega)
    by_cases hr : d.2.2 = true
    · simp only [requiredIdx, hr, if_true, hmod]
      rw [mapM_cons_opt]
      have hget : (pre ++ d :: ds)[i]? = some d := by
        rw [List.getElem?_append_right (by omega)]; simp [hp]
      simp only [hget]
      rw [hcat, ih']
      simp [hr]
    · have hr' : d.2.2 = false := by simpa using hr
      simp only [requiredIdx, hr', Bool.false_eq_true, if_false]
      rw [hcat, ih']
      simp [hr']

theorem selectDeltas_required (ds : List GDelta) (h : ds.length ≤ 65536) :
    selectDeltas (some (requiredIdx 0 ds)) ds
      = some ((ds.filter (·.2.2)).map (·.1), (ds.filter (·.2.2)).map (·.2.1)) := by
  have := requiredIdx_mapM ds [] 0 rfl (by omega)
  simp only [List.nil_append] at this
  simp [selectDeltas, this]

theorem pickBest_cases (ds : List GDelta) (b : PPN) (h : pickBest ds = some b) :
    b = none ∨ (b = some (requiredIdx 0 ds) ∧ requiredIdx 0 ds ≠ []) := by
  unfold pickBest at h
  split at h
  · left; injection h with h; exact h.symm
  · rename_i hc
    have hany : ds.any (·.2.2) = true := by
      simp only [Bool.or_eq_true, Bool.not_eq_true', not_or] at hc
      simpa using hc.2
    simp only [] at h
    split at h
    · injection h with h
      split at h
      · right; exact ⟨h.symm, requiredIdx_ne_nil ds 0 hany⟩
      · left; exact h.symm
    · cases h

theorem buildTuple_ok (ax : Nat) (sidx : Option Nat) (sharedPts : Option PPN) (t : TupleIn)
    (priv : Bool) (hpv : decide (some t.best ≠ sharedPts) = priv)
    (hsidx : ∀ i, sidx = some i → i < 4096)
    (hpk : t.peak.length = ax ∧ ∀ v ∈ t.peak, inI16 v)
    (hit : ∀ s e, t.inter = some (s, e) →
      s.length = ax ∧ e.length = ax ∧ (∀ v ∈ s, inI16 v) ∧ ∀ v ∈ e, inI16 v)
    (h : Header) (d : List Nat) (hb : buildTuple sidx sharedPts t = some (h, d)) :
    ∃ pb xs ys, selectDeltas t.best t.deltas = some (xs, ys) ∧
      optPpnBytes (if priv then some t.best else none) = some pb ∧
      d = pb ++ encodeDeltas xs ++ encodeDeltas ys ∧
      (Built.mk h d (if sidx.isSome then none else some t.peak) t.inter priv).Ok ax ∧
      (∀ i, sidx = some i → h.tupleIndex % 4096 = i ∧ h.tupleIndex / 32768 % 2 = 0) := by
  unfold buildTuple at hb
  dsimp only at hb
  rw [hpv] at hb
  cases hsel : selectDeltas t.best t.deltas with
  | none => rw [hsel] at hb; cases hb
  | some xy =>
    obtain ⟨xs, ys⟩ := xy
    rw [hsel] at hb
    dsimp only at hb
    cases hsz : tupleDataSize (if priv = true then some t.best else none) xs ys with
    | none => rw [hsz] at hb; cases hb
    | some size =>
      obtain ⟨hlt, pb, hpb, hlen⟩ := tupleData_length _ xs ys size hsz
      rw [hsz, hpb] at hb
      simp only [Option.some.injEq, Prod.mk.injEq] at hb
      obtain ⟨hh, hd⟩ := hb
      refine ⟨pb, xs, ys, rfl, hpb, hd.symm, ⟨?_, ?_⟩, ?_⟩
      · subst hh
        refine ⟨hlt, ⟨sidx.getD 32768, ?_, ?_⟩, ⟨?_, ?_⟩, ⟨⟨?_, ?_⟩, ?_⟩⟩
        · simp only [tupleIndexBits]
          cases sidx <;> rfl
        · cases sidx with
          | none => left; simp
          | some i => right; exact ⟨by simp, hsidx i rfl⟩
        · cases sidx <;> simp
        · intro p hp
          cases sidx with
          | none => simp at hp; subst hp; exact hpk
          | some i => simp at hp
        · cases hti : t.inter with
          | none => simp
          | some se => obtain ⟨s, e⟩ := se; simp
        · cases hti : t.inter with
          | none => simp
          | some se => obtain ⟨s, e⟩ := se; simp
        · exact hit
      · show d.length = h.dataSize
        subst hh; subst hd
        simpa using hlen
      · intro i hi
        subst hh
        have := hsidx i hi
        subst hi
        simp only [tupleIndexBits]
        obtain ⟨b1, -, -, b4, -⟩ := idx_bits i (if t.inter.isSome then 16384 else 0) (if priv then 8192 else 0)
          (Or.inr this) (by split <;> simp) (by split <;> simp)
        exact ⟨b4 this, by omega⟩

/-- the observable content of a `TupleVariation`: `peak()`, intermediate tuples,
`has_deltas_for_all_points()`, `deltas()` -/
def RawTuple.view (shared : List (List Int)) (sd : Option (List Nat)) (r : RawTuple) :
    List Int × Option (List Int × List Int) × Bool × List (Nat × Int × Int) :=
  (r.peakOf shared, r.inter, r.allPoints sd, r.deltas sd)

/-- the same content of the `GlyphDeltas` given to the builder -/
def TupleIn.view (t : TupleIn) : List Int × Option (List Int × List Int) × Bool × List (Nat × Int × Int) :=
  (t.peak, t.inter, t.best.isNone, listed t.best.isNone t.deltas)

theorem splitRemainder_zero (l : List Nat) : splitRemainder (0 :: l) = l := by
  simp [splitRemainder, totalLen, countAndCountBytes]

theorem stream_view (ds : List GDelta) (best : PPN) (hbest : pickBest ds = some best)
    (hlen : ds.length ≤ 32767) (hd : ∀ d ∈ ds, inI32 d.1 ∧ inI32 d.2.1)
    (sq : List Nat) (hsq : ppnBytes best = some sq) (junk : List Nat) (xs ys : List Int)
    (hsel : selectDeltas best ds = some (xs, ys)) :
    tupleDeltas (sq ++ junk) (encodeDeltas xs ++ encodeDeltas ys) = listed best.isNone ds ∧
    ((countAndCountBytes (sq ++ junk)).1 == 0) = best.isNone ∧
    splitRemainder (sq ++ junk) = junk := by
  rcases pickBest_cases ds best hbest with rfl | ⟨rfl, hne⟩
  · simp only [ppnBytes, Option.some.injEq] at hsq
    subst hsq
    simp only [selectDeltas, Option.some.injEq, Prod.mk.injEq] at hsel
    obtain ⟨rfl, rfl⟩ := hsel
    refine ⟨?_, by simp [countAndCountBytes], by simpa using splitRemainder_zero junk⟩
    have := tupleDeltas_all junk (ds.map (·.1)) (ds.map (·.2.1))
      (by intro v hv; obtain ⟨d, hd', rfl⟩ := List.mem_map.mp hv; exact (hd d hd').1)
      (by intro v hv; obtain ⟨d, hd', rfl⟩ := List.mem_map.mp hv; exact (hd d hd').2)
      (by simp) (by simp; omega)
    simpa [listed_all] using this
  · rw [selectDeltas_required ds (by omega)] at hsel
    simp only [Option.some.injEq, Prod.mk.injEq] at hsel
    obtain ⟨rfl, rfl⟩ := hsel
    cases hpts : requiredIdx 0 ds with
    | nil => exact absurd hpts hne
    | cons p0 ps =>
      obtain ⟨hp0, hasc⟩ := requiredIdx_head ds 0 (by omega) p0 ps hpts
      have hl : (p0 :: ps).length = (ds.filter (·.2.2)).length := by
        rw [← hpts]; exact requiredIdx_length ds 0
      have hfl : (ds.filter (·.2.2)).length ≤ ds.length := List.length_filter_le _ _
      simp only [ppnBytes, hpts] at hsq
      obtain ⟨h1, h2, h3⟩ := tupleDeltas_sparse p0 ps junk ((ds.filter (·.2.2)).map (·.1))
        ((ds.filter (·.2.2)).map (·.2.1)) hp0 hasc (by omega) sq hsq
        (by intro v hv; obtain ⟨d, hd', rfl⟩ := List.mem_map.mp hv
            exact (hd d ((List.mem_filter.mp hd').1)).1)
        (by intro v hv; obtain ⟨d, hd', rfl⟩ := List.mem_map.mp hv
            exact (hd d ((List.mem_filter.mp hd').1)).2)
        (by simp [hl]) (by simp [hl])
      refine ⟨?_, ?_, h3⟩
      · rw [h1, ← hpts]
        simpa using (listed_required ds (by omega)).symm
      · rw [h2]; simp

/-- the well-formedness of one `GlyphDeltas` that `GlyphDeltas::new` / `GlyphVariations::validate` /
the types guarantee -/
structure TupleOk (ax : Nat) (t : TupleIn) : Prop where
  best : pickBest t.deltas = some t.best
  len : t.deltas.length ≤ 32767
  vals : ∀ d ∈ t.deltas, inI32 d.1 ∧ inI32 d.2.1
  peak : t.peak.length = ax ∧ ∀ v ∈ t.peak, inI16 v
  inter : ∀ s e, t.inter = some (s, e) →
    s.length = ax ∧ e.length = ax ∧ (∀ v ∈ s, inI16 v) ∧ ∀ v ∈ e, inI16 v

theorem sharedOk_all : ∃ sq, ppnBytes none = some sq ∧ ∀ tail, splitRemainder (sq ++ tail) = tail :=
  ⟨[0], rfl, fun tail => splitRemainder_zero tail⟩

theorem sharedOk_best (ds : List GDelta) (b : PPN) (hb : pickBest ds = some b) (hlen : ds.length ≤ 32767) :
    ∃ sq, ppnBytes b = some sq ∧ ∀ tail, splitRemainder (sq ++ tail) = tail := by
  rcases pickBest_cases ds b hb with rfl | ⟨rfl, hne⟩
  · exact sharedOk_all
  · cases hpts : requiredIdx 0 ds with
    | nil => exact absurd hpts hne
    | cons p0 ps =>
      obtain ⟨hp0, hasc⟩ := requiredIdx_head ds 0 (by omega) p0 ps hpts
      have hl : (p0 :: ps).length = (ds.filter (·.2.2)).length := by
        rw [← hpts]; exact requiredIdx_length ds 0
      have hfl : (ds.filter (·.2.2)).length ≤ ds.length := List.length_filter_le _ _
      obtain ⟨hbnd, hpw⟩ := sasc_cons p0 ps hp0 hasc
      exact (PackedDeltas.points_roundtrip (p0 :: ps) (by simp) (by omega) hbnd hpw).imp
        fun _ h => ⟨h.1, fun tail => (h.2 tail).2.2⟩

theorem countPackings_keys : ∀ (ts : List TupleIn) (acc r : List (PPN × Nat × Nat)),
    countPackings ts acc = some r →
    ∀ e ∈ r, (∃ a ∈ acc, a.1 = e.1) ∨ ∃ t ∈ ts, t.best = e.1 := by
  intro ts
  induction ts with
  | nil => intro acc r h e he; simp [countPackings] at h; subst h; exact Or.inl ⟨e, he, rfl⟩
  | cons t ts ih =>
    intro acc r h e he
    simp only [countPackings] at h
    split at h
    · rcases ih _ r h e he with ⟨a, ha, hk⟩ | ⟨t', ht', hk⟩
      · obtain ⟨a0, ha0, rfl⟩ := List.mem_map.mp ha
        left
        refine ⟨a0, ha0, ?_⟩
        rw [← hk]; split <;> rfl
      · exact Or.inr ⟨t', by simp [ht'], hk⟩
    · split at h
      · cases h
      · rcases ih _ r h e he with ⟨a, ha, hk⟩ | ⟨t', ht', hk⟩
        · rcases List.mem_append.mp ha with ha | ha
          · exact Or.inl ⟨a, ha, hk⟩
          · simp only [List.mem_singleton] at ha
            subst ha
            exact Or.inr ⟨t, by simp, hk⟩
        · exact Or.inr ⟨t', by simp [ht'], hk⟩

theorem maxByFirstKey_mem {α : Type} (key : α → Nat) (l : List α) (x : α)
    (h : maxByFirstKey key l = some x) : x ∈ l := by
  cases l with
  | nil => simp [maxByFirstKey] at h
  | cons a l =>
    simp only [maxByFirstKey, Option.some.injEq] at h
    have : ∀ (l : List α) (b : α), l.foldl (fun best y => if key y ≤ key best then best else y) b ∈ b :: l := by
      intro l
      induction l with
      | nil => intro b; simp
      | cons y l ih =>
        intro b
        simp only [List.foldl_cons]
        have := ih (if key y ≤ key b then b else y)
        rcases List.mem_cons.mp this with h | h
        · rw [h]; split <;> simp
        · simp [h]
    rw [← h]; exact this l a

theorem computeSharedPoints_mem (ts : List TupleIn) (q : PPN)
    (h : computeSharedPoints ts = some (some q)) : ∃ t ∈ ts, t.best = q := by
  unfold computeSharedPoints at h
  cases hc : countPackings ts [] with
  | none => simp [hc] at h
  | some counts =>
    simp only [hc, Option.some.injEq] at h
    cases hm : maxByFirstKey (fun e : PPN × Nat × Nat => (e.2.2 - 1) * e.2.1) (counts.filter fun e => e.2.2 > 1) with
    | none => simp [hm] at h
    | some e =>
      simp only [hm, Option.map_some, Option.some.injEq] at h
      have hmem := (List.mem_filter.mp (maxByFirstKey_mem _ _ e hm)).1
      rcases countPackings_keys ts [] counts hc e hmem with ⟨a, ha, _⟩ | ⟨t, ht, hk⟩
      · simp at ha
      · exact ⟨t, ht, by rw [hk, h]⟩

theorem lookupIn_spec : ∀ (shared : List (List Int)) (p : List Int) (i : Nat),
    lookupIn shared p = some i → i < shared.length ∧ shared[i]? = some p := by
  intro shared
  induction shared with
  | nil => intro p i h; simp [lookupIn] at h
  | cons s ss ih =>
    intro p i h
    simp only [lookupIn] at h
    split at h
    · injection h with h; subst h; rename_i hs; simp [hs]
    · cases hl : lookupIn ss p with
      | none => simp [hl] at h
      | some j =>
        simp only [hl, Option.map_some, Option.some.injEq] at h
        subst h
        obtain ⟨h1, h2⟩ := ih p j hl
        exact ⟨by simp; omega, by simpa using h2⟩

theorem glyphDeltasNew_ok (ax : Nat) (tents : List Tent) (ds : List GDelta) (t : TupleIn)
    (h : glyphDeltasNew tents ds = some t) (hax : tents.length = ax)
    (ht : ∀ x ∈ tents, inI16 x.peak ∧ inI16 x.min ∧ inI16 x.max)
    (hlen : ds.length ≤ 32767) (hd : ∀ d ∈ ds, inI16 d.1 ∧ inI16 d.2.1) :
    TupleOk ax t ∧ t.deltas = ds := by
  unfold glyphDeltasNew at h
  cases hb : pickBest ds with
  | none => simp [hb] at h
  | some b =>
    simp only [hb, Option.some.injEq] at h
    subst h
    refine ⟨⟨hb, hlen, ?_, ⟨by simp [hax], ?_⟩, ?_⟩, rfl⟩
    · intro d hdm
      obtain ⟨⟨a1, a2⟩, ⟨b1, b2⟩⟩ := hd d hdm
      exact ⟨⟨by omega, by omega⟩, ⟨by omega, by omega⟩⟩
    · intro v hv
      obtain ⟨x, hx, rfl⟩ := List.mem_map.mp hv
      exact (ht x hx).1
    · intro s e hse
      simp only [] at hse
      split at hse
      · simp only [Option.some.injEq, Prod.mk.injEq] at hse
        obtain ⟨rfl, rfl⟩ := hse
        refine ⟨by simp [hax], by simp [hax], ?_, ?_⟩
        · intro v hv; obtain ⟨x, hx, rfl⟩ := List.mem_map.mp hv; exact (ht x hx).2.1
        · intro v hv; obtain ⟨x, hx, rfl⟩ := List.mem_map.mp hv; exact (ht x hx).2.2
      · cases hse

/-- `glyphDeltasNew_ok` for a whole glyph -/
theorem glyphDeltasNew_all_ok (ax : Nat) (inputs : List (List Tent × List GDelta))
    (hax : ∀ i ∈ inputs, i.1.length = ax)
    (ht16 : ∀ i ∈ inputs, ∀ x ∈ i.1, inI16 x.peak ∧ inI16 x.min ∧ inI16 x.max)
    (hlen : ∀ i ∈ inputs, i.2.length ≤ 32767)
    (hd16 : ∀ i ∈ inputs, ∀ d ∈ i.2, inI16 d.1 ∧ inI16 d.2.1)
    (ts : List TupleIn) (hnew : inputs.mapM (fun i => glyphDeltasNew i.1 i.2) = some ts) :
    (∀ t ∈ ts, TupleOk ax t) ∧ ts.map (·.deltas) = inputs.map (·.2) := by
  rw [mapM_eq_some_iff] at hnew
  induction inputs generalizing ts with
  | nil => cases ts <;> simp at hnew ⊢
  | cons i is ih =>
    cases ts with
    | nil => simp at hnew
    | cons t ts =>
      simp only [List.map_cons, List.cons.injEq] at hnew
      obtain ⟨tok, hds⟩ := glyphDeltasNew_ok ax _ _ _ hnew.1 (hax i (by simp)) (ht16 i (by simp))
        (hlen i (by simp)) (hd16 i (by simp))
      obtain ⟨a, b⟩ := ih (fun x hx => hax x (by simp [hx])) (fun x hx => ht16 x (by simp [hx]))
        (fun x hx => hlen x (by simp [hx])) (fun x hx => hd16 x (by simp [hx])) ts hnew.2
      exact ⟨List.forall_mem_cons.mpr ⟨tok, a⟩, by simp only [List.map_cons, hds, b]⟩

theorem mem_insertByGid (x y : Nat × List TupleIn) : ∀ (l : List (Nat × List TupleIn)),
    y ∈ insertByGid x l ↔ y = x ∨ y ∈ l := by
  intro l
  induction l with
  | nil => simp [insertByGid]
  | cons z zs ih =>
    simp only [insertByGid]
    split
    · simp only [List.mem_cons, ih]
      constructor
      · rintro (h | h | h)
        · exact Or.inr (Or.inl h)
        · exact Or.inl h
        · exact Or.inr (Or.inr h)
      · rintro (h | h | h)
        · exact Or.inr (Or.inl h)
        · exact Or.inl h
        · exact Or.inr (Or.inr h)
    · simp only [List.mem_cons]

theorem mem_sorted (glyphs : List (Nat × List TupleIn)) (y : Nat × List TupleIn) :
    y ∈ glyphs.foldr insertByGid [] ↔ y ∈ glyphs := by
  induction glyphs with
  | nil => simp
  | cons g gs ih => simp only [List.foldr_cons, mem_insertByGid, ih, List.mem_cons]

theorem writeGlyph_empty (shared : List (List Int)) : writeGlyph shared [] = some [] := by
  simp [writeGlyph, computeSharedPoints, countPackings, maxByFirstKey, writeGlyphWith]

theorem writeGlyph_nonempty (shared : List (List Int)) (ts : List TupleIn) (hne : ts ≠ [])
    (bytes : List Nat) (hw : writeGlyph shared ts = some bytes) : bytes ≠ [] := by
  unfold writeGlyph at hw
  cases hc : computeSharedPoints ts with
  | none => simp [hc] at hw
  | some sp =>
    simp only [hc] at hw
    unfold writeGlyphWith at hw
    have hemp : ts.isEmpty = false := by cases ts <;> simp at hne ⊢
    simp only [hemp, Bool.false_eq_true, if_false] at hw
    cases hm : ts.mapM (fun t => buildTuple (lookupIn shared t.peak) sp t) with
    | none => simp [hm] at hw
    | some built =>
      simp only [hm] at hw
      obtain ⟨_, _, _, _, _, _, rfl⟩ := serializeGlyph_some _ _ _ hw
      simp [be16]

end FontVerif.GvarData
