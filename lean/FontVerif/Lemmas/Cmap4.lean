/-
C08, format 4: what a valid segmentation is (`SegOk`, `SegsTile`), what `create_format_4` writes for each segment
(`RowSpec`, `encRows_spec`), and the table made of such rows followed by `x ≤ 1` terminating rows (`Cmap4.ofRowsX`):
its code arrays are sorted ranges (`rows_sorted`, `rows_codes`) and each row answers its segment (`lookup_row`).
-/
import FontVerif.Model.Cmap
import FontVerif.Lemmas.Cmap
import FontVerif.Lemmas.Base
namespace FontVerif.Cmap

theorem lookupGlyphId_delta (t : Cmap4) (c ix sc : Nat) (δ : Int)
    (h1 : t.idDelta[ix]? = some δ) (h2 : t.idRangeOffsets[ix]? = some 0) :
    lookupGlyphId t c ix sc = some (wrapU16 ((c : Int) + δ)).toNat := by
  simp [lookupGlyphId, h1, h2]

theorem lookupGlyphId_offset (t : Cmap4) (c ix sc p gv : Nat) (δ : Int)
    (h1 : t.idDelta[ix]? = some δ)
    (h2 : t.idRangeOffsets[ix]? = some ((t.idRangeOffsets.size - ix + p) * 2))
    (hix : ix < t.idRangeOffsets.size)
    (h3 : t.glyphIdArray[p + (c - sc)]? = some gv) (h4 : gv ≠ 0) :
    lookupGlyphId t c ix sc = some (wrapU16 ((gv : Int) + δ)).toNat := by
  have hne : (t.idRangeOffsets.size - ix + p) * 2 ≠ 0 := by omega
  have hoff : t.idRangeOffsets.size - ix + p + (c - sc) - (t.idRangeOffsets.size - ix) = p + (c - sc) := by
    omega
  simp [lookupGlyphId, h1, h2, hne, hoff, h3, h4]

theorem map4_eq_lookup (t : Cmap4) (s e : Nat → Nat) {N j c : Nat} (hN : t.endCode.size = N)
    (hs : ∀ i, i < N → t.startCode[i]? = some (s i)) (he : ∀ i, i < N → t.endCode[i]? = some (e i))
    (H : RangesSorted s e N) (hj : j < N) (h1 : s j ≤ c) (h2 : c ≤ e j) (hc : c ≤ 0xFFFF) :
    map4 t c = lookupGlyphId t c j (s j) := by
  have hfound := segSearch_found (fun i => t.startCode[i]?) (fun i => t.endCode[i]?) s e N c j hs he H hj h1 h2
  unfold map4 map4With
  rw [if_neg (by omega), hN, hfound]
  simp only [hs j hj]

theorem map4_eq_none (t : Cmap4) (s e : Nat → Nat) {N c : Nat} (hN : t.endCode.size = N)
    (hs : ∀ i, i < N → t.startCode[i]? = some (s i)) (he : ∀ i, i < N → t.endCode[i]? = some (e i))
    (H : RangesSorted s e N) (hno : ∀ i, i < N → ¬ (s i ≤ c ∧ c ≤ e i)) : map4 t c = none := by
  unfold map4 map4With
  by_cases hbig : c > 0xFFFF
  · rw [if_pos hbig]
  · rw [if_neg hbig, hN, segSearch_none (fun i => t.startCode[i]?) (fun i => t.endCode[i]?) s e N c hs he H hno]

/-- the 16-bit delta is stored wrapped to `i16`; added back modulo 2^16 this loses nothing -/
theorem wrapU16_add_wrapI16 (c d : Int) : wrapU16 (c + wrapI16 d) = wrapU16 (c + d) := by
  unfold wrapU16
  rw [Int.add_emod, wrapI16_emod, ← Int.add_emod]

theorem wrapU16_toNat (g : Nat) (h : g ≤ 0xFFFF) : (wrapU16 (g : Int)).toNat = g := by
  unfold wrapU16
  rw [Int.emod_eq_of_lt (by omega) (by omega), Int.toNat_natCast]

/-- one segment: a run of consecutive code points; a delta segment has constant `gid − cp` -/
structure SegOk (cp gid : Nat → Nat) (s : Seg) : Prop where
  le : s.startIx ≤ s.endIx
  run : ∀ k, s.startIx ≤ k → k ≤ s.endIx → cp k = cp s.startIx + (k - s.startIx)
  delta : ∀ d, s.idDelta = some d → ∀ k, s.startIx ≤ k → k ≤ s.endIx → (gid k : Int) - (cp k : Int) = d

/-- the segments tile the index range `[lo, n)` of the (BMP part of the) mapping -/
def SegsTile (cp gid : Nat → Nat) : Nat → Nat → List Seg → Prop
  | lo, n, [] => lo = n
  | lo, n, s :: rest => s.startIx = lo ∧ SegOk cp gid s ∧ SegsTile cp gid (s.endIx + 1) n rest

theorem SegsTile.le {cp gid : Nat → Nat} : ∀ {segs : List Seg} {lo n : Nat}, SegsTile cp gid lo n segs → lo ≤ n := by
  intro segs
  induction segs with
  | nil => intro lo n h; exact Nat.le_of_eq h
  | cons s rest ih =>
    intro lo n h
    obtain ⟨h1, h2, h3⟩ := h
    have := ih h3
    have := h2.le
    omega

theorem SegsTile.append {cp gid : Nat → Nat} : ∀ {xs ys : List Seg} {lo mid n : Nat},
    SegsTile cp gid lo mid xs → SegsTile cp gid mid n ys → SegsTile cp gid lo n (xs ++ ys) := by
  intro xs
  induction xs with
  | nil => intro ys lo mid n h1 h2; cases h1; exact h2
  | cons s rest ih =>
    intro ys lo mid n h1 h2
    obtain ⟨a, b, c⟩ := h1
    exact ⟨a, b, ih c h2⟩

theorem SegsTile.pointwise {cp gid : Nat → Nat} : ∀ {segs : List Seg} {lo n : Nat}, SegsTile cp gid lo n segs →
    (∀ s ∈ segs, lo ≤ s.startIx ∧ SegOk cp gid s ∧ s.endIx < n) ∧
    segs.Pairwise (fun a b => a.endIx < b.startIx) := by
  intro segs
  induction segs with
  | nil => intro lo n _; exact ⟨fun _ hs => (nomatch hs), List.Pairwise.nil⟩
  | cons s rest ih =>
    intro lo n h
    obtain ⟨h1, h2, h3⟩ := h
    obtain ⟨ih1, ih2⟩ := ih h3
    have hle := h3.le
    have := h2.le
    refine ⟨fun t ht => ?_, List.pairwise_cons.2 ⟨fun t ht => (ih1 t ht).1, ih2⟩⟩
    rcases List.mem_cons.1 ht with rfl | ht
    · exact ⟨Nat.le_of_eq h1.symm, h2, hle⟩
    · exact ⟨by have := (ih1 t ht).1; omega, (ih1 t ht).2⟩

theorem SegsTile.congr {cp gid cp' gid' : Nat → Nat} {n : Nat}
    (h : ∀ k, k < n → cp k = cp' k ∧ gid k = gid' k) :
    ∀ {segs : List Seg} {lo : Nat}, SegsTile cp gid lo n segs → SegsTile cp' gid' lo n segs := by
  intro segs
  induction segs with
  | nil => intro lo h; exact h
  | cons s rest ih =>
    intro lo ht
    obtain ⟨h1, h2, h3⟩ := ht
    have hle := h3.le
    refine ⟨h1, ⟨h2.le, ?_, ?_⟩, ih h3⟩
    · intro k k1 k2
      have := h2.le
      rw [← (h k (by omega)).1, ← (h s.startIx (by omega)).1]
      exact h2.run k k1 k2
    · intro d hd k k1 k2
      rw [← (h k (by omega)).1, ← (h k (by omega)).2]
      exact h2.delta d hd k k1 k2

/-- what must have been written for segment `s`, emitted as row `j` of `nSeg` (terminating rows included),
`g` being the whole `glyph_ids` array -/
def RowSpec (cp gid : Nat → Nat) (nSeg j : Nat) (s : Seg) (row : Row) (g : List Nat) : Prop :=
  row.start = cp s.startIx % 65536 ∧ row.end_ = cp s.endIx % 65536 ∧
  match s.idDelta with
  | some d => row.delta = wrapI16 d ∧ row.off = 0
  | none => row.delta = 0 ∧ ∃ p, row.off = (nSeg - j + p) * 2 ∧ (nSeg - j + p) * 2 ≤ 65535 ∧
      ∀ t, t < s.endIx + 1 - s.startIx → g[p + t]? = some (gid (s.startIx + t))

theorem rowSpec_cons {cp gid : Nat → Nat} {nSeg i : Nat} {s : Seg} {segs : List Seg} {row0 : Row}
    {rows : List Row} {g : List Nat} (h0 : RowSpec cp gid nSeg i s row0 g)
    (hrest : ∀ j (h : j < segs.length), ∃ row, rows[j]? = some row ∧
      RowSpec cp gid nSeg (i + 1 + j) segs[j] row g) :
    ∀ j (h : j < (s :: segs).length), ∃ row, (row0 :: rows)[j]? = some row ∧
      RowSpec cp gid nSeg (i + j) (s :: segs)[j] row g := by
  intro j hj
  cases j with
  | zero => exact ⟨row0, rfl, h0⟩
  | succ j =>
    obtain ⟨row, hrow, hspec⟩ := hrest j (by simpa using hj)
    exact ⟨row, hrow, by rw [show i + (j + 1) = i + 1 + j by omega]; exact hspec⟩

theorem encRows_spec (a : Array (Nat × Nat)) (nSeg : Nat) :
    ∀ (segs : List Seg) (i nIds : Nat) (rows : List Row) (g : List Nat),
    encRows a nSeg i nIds segs = some (rows, g) →
    rows.length = segs.length ∧
    ∀ (pg : List Nat), pg.length = nIds → ∀ j (h : j < segs.length), ∃ row, rows[j]? = some row ∧
      RowSpec (cpAt a) (gidAt a) nSeg (i + j) segs[j] row (pg ++ g) := by
  intro segs
  induction segs with
  | nil =>
    intro i nIds rows g h
    simp only [encRows, Option.some.injEq, Prod.mk.injEq] at h
    obtain ⟨rfl, rfl⟩ := h
    exact ⟨rfl, fun pg _ j hj => by simp at hj⟩
  | cons s rest ih =>
    intro i nIds rows g h
    unfold encRows at h
    cases hd : s.idDelta with
    | some d =>
      simp only [hd] at h
      cases hr : encRows a nSeg (i + 1) nIds rest with
      | none => simp [hr] at h
      | some rg =>
        obtain ⟨rows', g'⟩ := rg
        simp only [hr, Option.some.injEq, Prod.mk.injEq] at h
        obtain ⟨rfl, rfl⟩ := h
        obtain ⟨ihl, ihs⟩ := ih (i + 1) nIds rows' g' hr
        refine ⟨by simp [ihl], fun pg hpg => rowSpec_cons ?_ (ihs pg hpg)⟩
        simp [RowSpec, hd, Row.start, Row.end_, Row.delta, Row.off]
    | none =>
      simp only [hd] at h
      by_cases hoff : (nSeg - i + nIds) * 2 > 65535
      · simp [hoff] at h
      · simp only [hoff, if_false] at h
        generalize hchunk : (List.range (s.endIx + 1 - s.startIx)).map (fun k => gidAt a (s.startIx + k)) = chunk at h
        cases hr : encRows a nSeg (i + 1) (nIds + chunk.length) rest with
        | none => simp [hr] at h
        | some rg =>
          obtain ⟨rows', g'⟩ := rg
          simp only [hr, Option.some.injEq, Prod.mk.injEq] at h
          obtain ⟨rfl, rfl⟩ := h
          obtain ⟨ihl, ihs⟩ := ih (i + 1) (nIds + chunk.length) rows' g' hr
          refine ⟨by simp [ihl], fun pg hpg => rowSpec_cons ?_ (by
            have := ihs (pg ++ chunk) (by simp [hpg])
            rwa [List.append_assoc] at this)⟩
          simp only [RowSpec, hd, Row.start, Row.end_, Row.delta, Row.off, true_and]
          refine ⟨nIds, rfl, by omega, fun t ht => ?_⟩
          have hlen : chunk.length = s.endIx + 1 - s.startIx := by simp [← hchunk]
          rw [List.getElem?_append_right (by omega), List.getElem?_append_left (by omega),
            show nIds + t - pg.length = t by omega, ← hchunk, List.getElem?_map, List.getElem?_range ht]
          rfl

theorem lookupGlyphId_rowSpec {cp gid : Nat → Nat} {nSeg j : Nat} {sg : Seg} {row : Row} {g : List Nat}
    (t : Cmap4) (hok : SegOk cp gid sg) (hspec : RowSpec cp gid nSeg j sg row g)
    (hδ : t.idDelta[j]? = some row.delta) (hoff : t.idRangeOffsets[j]? = some row.off)
    (hsz : t.idRangeOffsets.size = nSeg) (hj : j < nSeg) (hg : t.glyphIdArray = g.toArray)
    (k : Nat) (hk1 : sg.startIx ≤ k) (hk2 : k ≤ sg.endIx) (hgid : 1 ≤ gid k ∧ gid k ≤ 0xFFFF) :
    lookupGlyphId t (cp k) j (cp sg.startIx) = some (gid k) := by
  obtain ⟨_, _, hspec⟩ := hspec
  cases hd : sg.idDelta with
  | some d =>
    simp only [hd] at hspec
    rw [lookupGlyphId_delta _ _ _ _ _ (hspec.1 ▸ hδ) (hspec.2 ▸ hoff), wrapU16_add_wrapI16,
      ← hok.delta d hd k hk1 hk2, Int.add_comm, Int.sub_add_cancel, wrapU16_toNat _ hgid.2]
  | none =>
    simp only [hd] at hspec
    obtain ⟨h0, p, hp, _, hgs⟩ := hspec
    have hrun := hok.run k hk1 hk2
    have hgv := hgs (k - sg.startIx) (by omega)
    rw [show sg.startIx + (k - sg.startIx) = k by omega] at hgv
    rw [lookupGlyphId_offset _ _ _ _ p (gid k) _ (h0 ▸ hδ) (by rw [hoff, hp, hsz]) (by omega)
      (by rw [hg, List.getElem?_toArray, ← hgv]; congr 1; omega) (by omega),
      Int.add_zero, wrapU16_toNat _ hgid.2]

def termRow : Row := (0xFFFF, 0xFFFF, 1, 0)

/-- the five arrays of `rows` followed by `x` terminating rows: `x = 1` is what `create_format_4` writes
(`ofRows_eq`), `x = 0` a table whose last ordinary segment ends at U+FFFF (klippa's `Cmap4::serialize` for a list
that contains U+FFFF) -/
def Cmap4.ofRowsX (x : Nat) (rows : List Row) (g : List Nat) : Cmap4 :=
  { endCode := ((rows ++ List.replicate x termRow).map Row.end_).toArray
    startCode := ((rows ++ List.replicate x termRow).map Row.start).toArray
    idDelta := ((rows ++ List.replicate x termRow).map Row.delta).toArray
    idRangeOffsets := ((rows ++ List.replicate x termRow).map Row.off).toArray
    glyphIdArray := g.toArray }

theorem ofRows_eq (rows : List Row) (g : List Nat) : Cmap4.ofRows rows g = Cmap4.ofRowsX 1 rows g := by
  simp [Cmap4.ofRows, Cmap4.ofRowsX, termRow, Row.end_, Row.start, Row.delta, Row.off]

theorem ofRowsX_size (x : Nat) (rows : List Row) (g : List Nat) :
    (Cmap4.ofRowsX x rows g).endCode.size = rows.length + x ∧
    (Cmap4.ofRowsX x rows g).startCode.size = rows.length + x ∧
    (Cmap4.ofRowsX x rows g).idRangeOffsets.size = rows.length + x := by
  simp [Cmap4.ofRowsX]

theorem ofRowsX_get (x : Nat) (rows : List Row) (g : List Nat) (j : Nat) (row : Row)
    (h : (rows ++ List.replicate x termRow)[j]? = some row) :
    (Cmap4.ofRowsX x rows g).startCode[j]? = some row.start ∧
    (Cmap4.ofRowsX x rows g).endCode[j]? = some row.end_ ∧
    (Cmap4.ofRowsX x rows g).idDelta[j]? = some row.delta ∧
    (Cmap4.ofRowsX x rows g).idRangeOffsets[j]? = some row.off := by
  simp only [Cmap4.ofRowsX, List.getElem?_toArray, List.getElem?_map, h, Option.map_some, and_self]

theorem ofRowsX_row (x : Nat) (rows : List Row) (g : List Nat) (j : Nat) (row : Row) (h : rows[j]? = some row) :
    (Cmap4.ofRowsX x rows g).startCode[j]? = some row.start ∧
    (Cmap4.ofRowsX x rows g).endCode[j]? = some row.end_ ∧
    (Cmap4.ofRowsX x rows g).idDelta[j]? = some row.delta ∧
    (Cmap4.ofRowsX x rows g).idRangeOffsets[j]? = some row.off :=
  ofRowsX_get x rows g j row (by
    rw [List.getElem?_append_left (List.getElem?_eq_some_iff.1 h).1]; exact h)

theorem ofRowsX_term (x : Nat) (rows : List Row) (g : List Nat) (j : Nat) (h1 : rows.length ≤ j)
    (h2 : j < rows.length + x) :
    (Cmap4.ofRowsX x rows g).startCode[j]? = some 0xFFFF ∧
    (Cmap4.ofRowsX x rows g).endCode[j]? = some 0xFFFF ∧
    (Cmap4.ofRowsX x rows g).idDelta[j]? = some 1 ∧
    (Cmap4.ofRowsX x rows g).idRangeOffsets[j]? = some 0 :=
  ofRowsX_get x rows g j termRow (by
    rw [List.getElem?_append_right h1, List.getElem?_replicate, if_pos (by omega)])

/-- the mapping by index: strictly ascending 16-bit code points that leave room for `x` terminating rows,
non-zero 16-bit glyph ids -/
structure MapOkX (x : Nat) (cp gid : Nat → Nat) (n : Nat) : Prop where
  mono : ∀ i j, i < j → j < n → cp i < cp j
  cpLe : ∀ k, k < n → cp k + x ≤ 0xFFFF
  gidOk : ∀ k, k < n → 1 ≤ gid k ∧ gid k ≤ 0xFFFF

theorem MapOkX.congr {x n : Nat} {cp gid cp' gid' : Nat → Nat}
    (h : ∀ k, k < n → cp k = cp' k ∧ gid k = gid' k) (hm : MapOkX x cp gid n) : MapOkX x cp' gid' n :=
  ⟨fun i j hij hj => by rw [← (h i (by omega)).1, ← (h j hj).1]; exact hm.mono i j hij hj,
    fun k hk => by rw [← (h k hk).1]; exact hm.cpLe k hk,
    fun k hk => by rw [← (h k hk).2]; exact hm.gidOk k hk⟩

/-- the compiled rows match the segmentation row by row, in a table of `segs.length + x` rows -/
def RowsMatchX (x : Nat) (cp gid : Nat → Nat) (segs : List Seg) (rows : List Row) (g : List Nat) : Prop :=
  rows.length = segs.length ∧ ∀ j (h : j < segs.length), ∃ row, rows[j]? = some row ∧
    RowSpec cp gid (segs.length + x) j segs[j] row g

/-- start / end code of row `i` of the compiled table (a terminating row included) -/
def sRow (cp : Nat → Nat) (segs : List Seg) (i : Nat) : Nat :=
  if h : i < segs.length then cp segs[i].startIx else 0xFFFF

def eRow (cp : Nat → Nat) (segs : List Seg) (i : Nat) : Nat :=
  if h : i < segs.length then cp segs[i].endIx else 0xFFFF

theorem rows_sorted {x : Nat} (hx : x ≤ 1) {cp gid : Nat → Nat} {n : Nat} {segs : List Seg}
    (hm : MapOkX x cp gid n) (ht : SegsTile cp gid 0 n segs) :
    RangesSorted (sRow cp segs) (eRow cp segs) (segs.length + x) := by
  obtain ⟨p1, p2⟩ := ht.pointwise
  constructor
  · intro i hi
    unfold sRow eRow
    by_cases h : i < segs.length
    · simp only [h, dite_true]
      obtain ⟨_, hok, _⟩ := p1 _ (List.getElem_mem h)
      have := hok.run segs[i].endIx hok.le (Nat.le_refl _)
      omega
    · simp [h]
  · intro i j hij hj
    unfold sRow eRow
    have hi : i < segs.length := by omega
    obtain ⟨_, hoki, hni⟩ := p1 _ (List.getElem_mem hi)
    simp only [hi, dite_true]
    by_cases h : j < segs.length
    · simp only [h, dite_true]
      obtain ⟨_, hokj, hnj⟩ := p1 _ (List.getElem_mem h)
      have := List.pairwise_iff_getElem.1 p2 i j hi h hij
      exact hm.mono _ _ this (by have := hokj.le; omega)
    · simp only [h, dite_false]
      have := hm.cpLe _ hni
      omega

theorem rows_codes {x : Nat} {cp gid : Nat → Nat} {n : Nat} {segs : List Seg} {rows : List Row} {g : List Nat}
    (hm : MapOkX x cp gid n) (ht : SegsTile cp gid 0 n segs) (hr : RowsMatchX x cp gid segs rows g)
    (i : Nat) (hi : i < segs.length + x) :
    (Cmap4.ofRowsX x rows g).startCode[i]? = some (sRow cp segs i) ∧
    (Cmap4.ofRowsX x rows g).endCode[i]? = some (eRow cp segs i) := by
  obtain ⟨hlen, hrows⟩ := hr
  unfold sRow eRow
  by_cases h : i < segs.length
  · simp only [h, dite_true]
    obtain ⟨row, hrow, hs, he, _⟩ := hrows i h
    obtain ⟨_, hok, hn⟩ := ht.pointwise.1 _ (List.getElem_mem h)
    have := hok.le
    -- 16-bit code points are written as they are
    rw [(ofRowsX_row x rows g i row hrow).1, (ofRowsX_row x rows g i row hrow).2.1, hs, he,
      Nat.mod_eq_of_lt (by have := hm.cpLe segs[i].startIx (by omega); omega),
      Nat.mod_eq_of_lt (by have := hm.cpLe segs[i].endIx hn; omega)]
    exact ⟨rfl, rfl⟩
  · simp only [h, dite_false]
    exact ⟨(ofRowsX_term x rows g i (by omega) (by omega)).1, (ofRowsX_term x rows g i (by omega) (by omega)).2.1⟩

theorem lookup_row {x : Nat} {cp gid : Nat → Nat} {n : Nat} {segs : List Seg} {rows : List Row} {g : List Nat}
    (hm : MapOkX x cp gid n) (ht : SegsTile cp gid 0 n segs) (hr : RowsMatchX x cp gid segs rows g)
    (j : Nat) (hj : j < segs.length) (k : Nat) (hj1 : segs[j].startIx ≤ k) (hj2 : k ≤ segs[j].endIx) :
    lookupGlyphId (Cmap4.ofRowsX x rows g) (cp k) j (cp segs[j].startIx) = some (gid k) := by
  obtain ⟨_, hok, hn⟩ := ht.pointwise.1 _ (List.getElem_mem hj)
  obtain ⟨row, hrow, hspec⟩ := hr.2 j hj
  obtain ⟨_, _, hδ, hoffs⟩ := ofRowsX_row x rows g j row hrow
  exact lookupGlyphId_rowSpec _ hok hspec hδ hoffs ((ofRowsX_size x rows g).2.2.trans (by rw [hr.1]))
    (by omega) rfl k hj1 hj2 (hm.gidOk k (by omega))

end FontVerif.Cmap
