/-
C04 ⇄ C05 bridge: what a run of `writeFields` / `add_table` leaves in the store (`RepLinks`, `RepTable`), for every
value tree and from every reachable writer state.
-/
import FontVerif.Lemmas.TableWriterStore
namespace FontVerif.TableWriter
open FontVerif.Graph

/-- `write_offset(obj, width)` is `add_table(obj)` followed by `add_offset` -/
theorem writeFields_link (ids : Nat → Nat) (wd : Nat) (ty : TType) (child rest : Fields) (cur : TData) (w : Writer) :
    writeFields ids (.link wd ty child rest) cur w =
      writeFields ids rest (cur.addOffset (addTable ids ⟨ty, child⟩ w).1 wd (addTable ids ⟨ty, child⟩ w).2.adj)
        (addTable ids ⟨ty, child⟩ w).2 := rfl

/-- `ls` are the offset records the calls `fs` append to a `TableData` of `len` bytes under adjustment `a`, as found in
the store `s`: in slot order, each at the byte where its placeholder starts, with the recorded width and the adjustment
in force, and its target is a stored object whose bytes are the child's and whose records are, recursively, the child's -/
def RepLinks (s : Store) : Fields → Nat → Nat → List Link → Prop
  | .nil, _, _, ls => ls = []
  | .bytes bs rest, len, a, ls => RepLinks s rest (len + bs.length) a ls
  | .null w rest, len, a, ls => RepLinks s rest (len + w) a ls
  | .link w _ child rest, len, a, ls =>
    ∃ l ls', ls = l :: ls' ∧ l.pos = len % U32 ∧ l.width = lenOf w ∧ l.adj = adjAfter child a ∧
      (∃ d, (d, l.target) ∈ s ∧ d.bytes = flat child 0 ∧ RepLinks s child 0 a d.offsets) ∧
      RepLinks s rest (len + min w 4) (adjAfter child a) ls'
  | .adjust n body rest, len, _, ls =>
    ∃ l1 l2, ls = l1 ++ l2 ∧ RepLinks s body len n l1 ∧ RepLinks s rest (len + (flat body len).length) 0 l2
  | .pad2 rest, len, a, ls => RepLinks s rest (len + (if len % 2 ≠ 0 then 1 else 0)) a ls

theorem RepLinks.mono (s s' : Store) (hs : ∀ e ∈ s, e ∈ s') (fs : Fields) :
    ∀ len a ls, RepLinks s fs len a ls → RepLinks s' fs len a ls := by
  induction fs with
  | nil => intro len a ls h; exact h
  | bytes bs rest ih => intro len a ls h; exact ih _ _ _ h
  | null w rest ih => intro len a ls h; exact ih _ _ _ h
  | link w ty child rest ihc ihr =>
    intro len a ls h
    obtain ⟨l, ls', h1, h2, h3, h4, ⟨d, hm, hb, hc⟩, hr⟩ := h
    exact ⟨l, ls', h1, h2, h3, h4, ⟨d, hs _ hm, hb, ihc _ _ _ hc⟩, ihr _ _ _ hr⟩
  | adjust n body rest ihb ihr =>
    intro len a ls h
    obtain ⟨l1, l2, h1, hb, hr⟩ := h
    exact ⟨l1, l2, h1, ihb _ _ _ hb, ihr _ _ _ hr⟩
  | pad2 rest ih => intro len a ls h; exact ih _ _ _ h

/-- table `fs` (written under adjustment `a`) is the stored object `id` -/
def RepTable (s : Store) (id : Nat) (fs : Fields) (a : Nat) : Prop :=
  ∃ d, (d, id) ∈ s ∧ d.bytes = flat fs 0 ∧ RepLinks s fs 0 a d.offsets

/-- the static side conditions on a value tree: every offset slot is at least 2 bytes wide (`OffsetMarker<T, N>` is only
instantiated with `N` = 2, 3, 4) and every child table is shorter than 4 GiB -/
def Fields.Ok : Fields → Prop
  | .nil => True
  | .bytes _ rest => rest.Ok
  | .null _ rest => rest.Ok
  | .link w _ child rest => 2 ≤ w ∧ (flat child 0).length < U32 ∧ child.Ok ∧ rest.Ok
  | .adjust _ body rest => body.Ok ∧ rest.Ok
  | .pad2 rest => rest.Ok

def Table.Ok (t : Table) : Prop := (flat t.fields 0).length < U32 ∧ t.fields.Ok

/-- what a stretch of calls does to the table being written and to the store, whatever the calls were: the bytes `bs`
and the offset records `ls` are appended, the store is only extended and stays well formed, and every object added is
reachable from one of `ls` -/
structure Run (ids : Nat → Nat) (cur : TData) (w : Writer) (r : TData × Writer) (bs : List Nat) (ls : List Link) :
    Prop where
  inv : Inv ids r.2
  ext : Ext w r.2
  bytes : r.1.bytes = cur.bytes ++ bs
  offsets : r.1.offsets = cur.offsets ++ ls
  curOk : CurOK ids r.1 r.2
  reach : ∀ e ∈ r.2.tables, e ∉ w.tables → ∃ l ∈ ls, SReach r.2.tables l.target e.2

/-- one stretch after the other; each may start under an adjustment of its own (the store does not look at it) -/
theorem Run.seq {ids : Nat → Nat} {cur : TData} {w : Writer} {r1 r2 : TData × Writer} {bs1 bs2 : List Nat}
    {ls1 ls2 : List Link} (a1 a2 : Nat) (h1 : Run ids cur { w with adj := a1 } r1 bs1 ls1)
    (h2 : Run ids r1.1 { r1.2 with adj := a2 } r2 bs2 ls2) : Run ids cur w r2 (bs1 ++ bs2) (ls1 ++ ls2) where
  inv := h2.inv
  ext := ⟨fun e he => h2.ext.sub e (h1.ext.sub e he), Nat.le_trans h1.ext.next h2.ext.next⟩
  bytes := by rw [h2.bytes, h1.bytes, List.append_assoc]
  offsets := by rw [h2.offsets, h1.offsets, List.append_assoc]
  curOk := h2.curOk
  reach := fun e he hne => by
    by_cases hin : e ∈ r1.2.tables
    · obtain ⟨l, hl, hreach⟩ := h1.reach e hin hne
      exact ⟨l, List.mem_append_left _ hl, hreach.mono h2.ext.sub⟩
    · obtain ⟨l, hl, hreach⟩ := h2.reach e he hin
      exact ⟨l, List.mem_append_right _ hl, hreach⟩

/-- what one run of `writeFields` establishes -/
abbrev Spec (ids : Nat → Nat) (fs : Fields) (cur : TData) (w : Writer) (r : TData × Writer) : Prop :=
  r.2.adj = adjAfter fs w.adj ∧
    ∃ ls, Run ids cur w r (flat fs cur.bytes.length) ls ∧ RepLinks r.2.tables fs cur.bytes.length w.adj ls

theorem Spec.of_append {ids : Nat → Nat} {fs rest : Fields} {cur : TData} {w : Writer} {r : TData × Writer}
    {bs : List Nat} (h : Spec ids rest (cur.writeBytes bs) w r)
    (hflat : flat fs cur.bytes.length = bs ++ flat rest (cur.bytes.length + bs.length))
    (hadj : adjAfter fs w.adj = adjAfter rest w.adj)
    (hrep : ∀ s ls, RepLinks s rest (cur.bytes.length + bs.length) w.adj ls → RepLinks s fs cur.bytes.length w.adj ls) :
    Spec ids fs cur w r := by
  obtain ⟨h3, ls, hrun, h8⟩ := h
  refine ⟨h3.trans hadj.symm, ls, ⟨hrun.inv, hrun.ext, ?_, hrun.offsets, hrun.curOk, hrun.reach⟩,
    hrep _ _ (writeBytes_length cur bs ▸ h8)⟩
  rw [hrun.bytes, hflat, writeBytes_length, TData.writeBytes, List.append_assoc]

/-- what `add_table` establishes, from any writer state -/
structure TableSpec (ids : Nat → Nat) (t : Table) (w : Writer) (r : Nat × Writer) : Prop where
  inv : Inv ids r.2
  ext : Ext w r.2
  adj : r.2.adj = adjAfter t.fields w.adj
  drawn : ∃ j, j < r.2.next ∧ r.1 = ids j
  rep : RepTable r.2.tables r.1 t.fields w.adj
  /-- every object added is reachable from the returned id -/
  reach : ∀ e ∈ r.2.tables, e ∉ w.tables → SReach r.2.tables r.1 e.2

theorem addTable_of_spec (ids : Nat → Nat) (hinj : Function.Injective ids) (t : Table) (w : Writer)
    (hs : Spec ids t.fields TData.empty w (writeFields ids t.fields TData.empty w)) :
    TableSpec ids t w (addTable ids t w) := by
  unfold addTable
  simp only []
  generalize writeFields ids t.fields TData.empty w = r at hs ⊢
  obtain ⟨c3, lc, ⟨c1, c2, c5, c7, c6, c9⟩, c8⟩ := hs
  simp only [empty_bytes, empty_offsets, List.nil_append, List.length_nil] at c5 c7 c8
  have hd : CurOK ids { r.1 with ty := t.ty } r.2 := ⟨c6.inside, c6.disj, c6.targets⟩
  have ha := add_spec ids hinj r.2 { r.1 with ty := t.ty } c1 hd
  have hnew := add_new_entry ids r.2 { r.1 with ty := t.ty }
  generalize r.2.add ids { r.1 with ty := t.ty } = ra at ha hnew ⊢
  obtain ⟨a1, a2, a3, hj, d', hm, hdb, hdo⟩ := ha
  simp only [] at hdb hdo
  refine ⟨a1, c2.trans a2, a3.trans c3, hj, ⟨d', hm, by rw [hdb, c5], ?_⟩, fun e he hne => ?_⟩
  · rw [hdo, c7]
    exact RepLinks.mono _ _ (fun e he => a2.sub e he) _ _ _ _ c8
  · by_cases hin : e ∈ r.2.tables
    · -- added by the table's own `write_into`: reachable through one of its offsets
      obtain ⟨l, hl, hreach⟩ := c9 e hin hne
      exact (SReach.step d' l (SReach.refl _) hm (hdo ▸ c7 ▸ hl)).trans (hreach.mono a2.sub)
    · rw [hnew e he hin]
      exact SReach.refl _

theorem Run.addOffset {ids : Nat → Nat} {cur : TData} {w : Writer} {t : Table} {ra : Nat × Writer}
    (ht : TableSpec ids t w ra) (hcur : CurOK ids cur w) (wd : Nat) (hw : 2 ≤ wd) (hlen : cur.bytes.length < U32) :
    Run ids cur w (cur.addOffset ra.1 wd ra.2.adj, ra.2) (List.replicate (min wd 4) 255)
      [⟨cur.bytes.length % U32, lenOf wd, ra.1, ra.2.adj⟩] := by
  obtain ⟨j, hj, hidj⟩ := ht.drawn
  obtain ⟨d', hm, _⟩ := ht.rep
  exact ⟨ht.inv, ht.ext, rfl, rfl,
    curOK_addOffset ids cur ra.2 ra.1 wd ra.2.adj (hcur.mono ht.ext) hw hlen ⟨j, hj, hidj, (d', ra.1), hm, rfl⟩,
    fun e he hne => ⟨_, List.mem_singleton.mpr rfl, ht.reach e he hne⟩⟩

/-- from any store the invariant allows: so with any amount of sharing -/
theorem writeFields_spec (ids : Nat → Nat) (hinj : Function.Injective ids) (fs : Fields) :
    ∀ (cur : TData) (w : Writer), Inv ids w → CurOK ids cur w → fs.Ok →
      cur.bytes.length + (flat fs cur.bytes.length).length < U32 →
      Spec ids fs cur w (writeFields ids fs cur w) := by
  induction fs with
  | nil =>
    intro cur w hinv hcur hok hlen
    exact ⟨rfl, [], ⟨hinv, Ext.refl w, (List.append_nil _).symm, (List.append_nil _).symm, hcur,
      fun e he hne => absurd he hne⟩, rfl⟩
  | bytes bs rest ih =>
    intro cur w hinv hcur hok hlen
    exact (ih (cur.writeBytes bs) w hinv (curOK_writeBytes ids cur w bs hcur) hok
      (by rw [writeBytes_length, Nat.add_assoc]; simpa only [flat, List.length_append] using hlen)).of_append
        rfl rfl (fun _ _ h => h)
  | null wd rest ih =>
    intro cur w hinv hcur hok hlen
    exact (ih (cur.writeBytes (List.replicate wd 0)) w hinv (curOK_writeBytes ids cur w _ hcur) hok
      (by rw [writeBytes_length, Nat.add_assoc]
          simpa only [flat, List.length_append, List.length_replicate] using hlen)).of_append
        (by rw [List.length_replicate]; rfl) rfl (fun _ _ h => by rw [List.length_replicate] at h; exact h)
  | pad2 rest ih =>
    intro cur w hinv hcur hok hlen
    rw [writeFields]
    by_cases hp : cur.bytes.length % 2 ≠ 0
    · rw [if_pos hp]
      simp only [flat, if_pos hp] at hlen
      exact (ih (cur.writeBytes [0]) w hinv (curOK_writeBytes ids cur w _ hcur) hok
        (by rw [writeBytes_length, Nat.add_assoc]; rw [List.length_append] at hlen; exact hlen)).of_append
          (by simp only [flat, if_pos hp]; rfl) rfl (fun _ _ h => by simp only [RepLinks, if_pos hp]; exact h)
    · rw [if_neg hp]
      simp only [flat, if_neg hp, List.nil_append, Nat.add_zero] at hlen
      obtain ⟨h3, ls, hrun, h8⟩ := ih cur w hinv hcur hok hlen
      exact ⟨h3, ls, by simpa [flat, hp] using hrun, by simpa [RepLinks, hp] using h8⟩
  | adjust n body rest ihb ihr =>
    intro cur w hinv hcur hok hlen
    simp only [flat, List.length_append] at hlen
    have hb := ihb cur { w with adj := n } (hinv.setAdj n) (hcur.setAdj n) hok.1 (by omega)
    rw [writeFields]
    generalize writeFields ids body cur { w with adj := n } = rb at hb ⊢
    obtain ⟨_, l1, hb, b8⟩ := hb
    have hlen1 : rb.1.bytes.length = cur.bytes.length + (flat body cur.bytes.length).length := by
      rw [hb.bytes, List.length_append]
    obtain ⟨r3, l2, hr, r8⟩ := ihr rb.1 { rb.2 with adj := 0 } (hb.inv.setAdj 0) (hb.curOk.setAdj 0) hok.2
      (by rw [hlen1]; omega)
    rw [hlen1] at hr r8
    exact ⟨r3, l1 ++ l2, Run.seq n 0 hb hr, l1, l2, rfl, RepLinks.mono _ _ hr.ext.sub body _ _ _ b8, r8⟩
  | link wd ty child rest ihc ihr =>
    intro cur w hinv hcur hok hlen
    obtain ⟨hw2, hclen, hokc, hokr⟩ := hok
    simp only [flat, List.length_append, List.length_replicate] at hlen
    have ht := addTable_of_spec ids hinj ⟨ty, child⟩ w
      (ihc TData.empty w hinv (curOK_empty ids w) hokc (by simpa [TData.empty] using hclen))
    rw [writeFields_link]
    generalize addTable ids ⟨ty, child⟩ w = ra at ht ⊢
    have ho := Run.addOffset ht hcur wd hw2 (by omega)
    have hr := ihr (cur.addOffset ra.1 wd ra.2.adj) ra.2 ht.inv ho.curOk hokr
      (by simp only [TData.addOffset, List.length_append, List.length_replicate]; omega)
    generalize writeFields ids rest (cur.addOffset ra.1 wd ra.2.adj) ra.2 = rr at hr ⊢
    obtain ⟨r3, lr, hr, r8⟩ := hr
    simp only [TData.addOffset, List.length_append, List.length_replicate] at hr r8
    rw [ht.adj] at r8
    obtain ⟨d', hm, hb, hc⟩ := ht.rep
    exact ⟨r3.trans (congrArg _ ht.adj), _ :: lr, Run.seq w.adj ra.2.adj ho hr, _, lr, rfl, rfl, rfl, ht.adj,
      ⟨d', hr.ext.sub _ hm, hb, RepLinks.mono _ _ hr.ext.sub child _ _ _ hc⟩, r8⟩

theorem addTable_spec (ids : Nat → Nat) (hinj : Function.Injective ids) (w : Writer) (hinv : Inv ids w) (t : Table)
    (hok : t.Ok) : TableSpec ids t w (addTable ids t w) :=
  addTable_of_spec ids hinj t w
    (writeFields_spec ids hinj t.fields TData.empty w hinv (curOK_empty ids w) hok.2 (by simpa using hok.1))

end FontVerif.TableWriter
