/-
Sparse-bit-set codec: what the breadth-first queue decoder (`decodeLoop`) does on ONE layer, in closed
form, by induction over the loop-body equation `decodeLoop_cons` of Lemmas/SbsTotal.lean: an upper layer
(`decodeLoop_upper`: nodes read, `runIns` inserted, `runKids` queued) and the leaf layer (`decodeLoop_leaf`:
`leafRun`, incl. the early `break 'outer`).  Then: members inserted by the queue decoder = members of the
specification's layer, after bias / maximum; the invariant that makes the early `break 'outer` sound
(`SepFrom`: starts of a layer ascend and are at least one node size apart); and the run over all layers.
-/
import FontVerif.Lemmas.SbsStream
import FontVerif.Lemmas.SbsTotal
namespace FontVerif.SparseBitSet

/-- membership in a list of inclusive ranges -/
def InsMem (ins : List (Nat × Nat)) (x : Nat) : Prop := ∃ r ∈ ins, r.1 ≤ x ∧ x ≤ r.2

theorem insMem_nil (x : Nat) : InsMem [] x ↔ False := by simp [InsMem]

theorem insMem_append (a b : List (Nat × Nat)) (x : Nat) :
    InsMem (a ++ b) x ↔ InsMem a x ∨ InsMem b x := by
  simp only [InsMem, List.mem_append, or_and_right, exists_or]

theorem insMem_cons (p : Nat × Nat) (a : List (Nat × Nat)) (x : Nat) :
    InsMem (p :: a) x ↔ (p.1 ≤ x ∧ x ≤ p.2) ∨ InsMem a x := by
  simp only [InsMem, List.mem_cons, exists_eq_or_imp]

theorem specMem_nil (bias m x : Nat) : SpecMem [] bias m x ↔ False := by simp [SpecMem]

theorem specMem_append (a b : List (Nat × Nat)) (bias m x : Nat) :
    SpecMem (a ++ b) bias m x ↔ SpecMem a bias m x ∨ SpecMem b bias m x := by
  simp only [SpecMem, List.mem_append, or_and_right, exists_or, and_or_left]

theorem specMem_cons (p : Nat × Nat) (a : List (Nat × Nat)) (bias m x : Nat) :
    SpecMem (p :: a) bias m x ↔
      (x ≤ m ∧ x ≤ U32_MAX ∧ p.1 + bias ≤ x ∧ x ≤ p.2 + bias) ∨ SpecMem a bias m x := by
  simp only [SpecMem, List.mem_cons, exists_eq_or_imp, and_or_left]

theorem insMem_flatMap {α : Type} (l : List α) (f : α → List (Nat × Nat)) (x : Nat) :
    InsMem (l.flatMap f) x ↔ ∃ n ∈ l, InsMem (f n) x := by
  simp only [InsMem, List.mem_flatMap]
  constructor
  · rintro ⟨r, ⟨n, hn, hr⟩, hx⟩; exact ⟨n, hn, r, hr, hx⟩
  · rintro ⟨n, hn, r, hr, hx⟩; exact ⟨r, ⟨n, hn, hr⟩, hx⟩

theorem specMem_flatMap {α : Type} (l : List α) (f : α → List (Nat × Nat)) (bias m x : Nat) :
    SpecMem (l.flatMap f) bias m x ↔ ∃ n ∈ l, SpecMem (f n) bias m x := by
  simp only [SpecMem, List.mem_flatMap]
  constructor
  · rintro ⟨h1, h2, r, ⟨n, hn, hr⟩, hx⟩; exact ⟨n, hn, h1, h2, r, hr, hx⟩
  · rintro ⟨n, hn, h1, h2, r, hr, hx⟩; exact ⟨h1, h2, r, ⟨n, hn, hr⟩, hx⟩

theorem finish_eq {bf : Nat} (hbf : BfOk bf) {data : List Nat} {st : BitIn} (hst : StOk bf st)
    (hle : pos st ≤ 8 * data.length) (n : Nat) (acc : List (Nat × Nat)) :
    finish bf data st n acc =
      match readNodes bf data n st with
      | none => .error
      | some (_, st') => .ok acc (data.drop (bytesConsumed st')) := by
  cases hr : readNodes bf data n st with
  | none => simp [finish, skipNodes_of_readNodes_none hbf hst hle hr]
  | some r => simp [finish, skipNodes_of_readNodes hbf hst hle hr]

/-- insertions for a run of queue entries of one depth, given the nodes read for them -/
def runIns (bf height bias maxValue depth : Nat) (starts bitss : List Nat) : List (Nat × Nat) :=
  (starts.zip bitss).flatMap fun p => nodeIns bf height bias maxValue p.1 depth p.2

/-- queue entries added by the run -/
def runKids (bf height depth : Nat) (starts bitss : List Nat) : List (Nat × Nat) :=
  (starts.zip bitss).flatMap fun p => nodeKids bf height p.1 depth p.2

/-- a non-leaf layer: the queue `rest of this layer ++ children so far` becomes
`children so far ++ this layer's children`, reading exactly this layer's nodes. -/
theorem decodeLoop_upper (bf height depth bias maxValue : Nat) (data : List Nat)
    (hd : depth ≠ height) (starts : List Nat) :
    ∀ (st : BitIn) (fuel : Nat) (nxt acc : List (Nat × Nat)),
      decodeLoop bf height bias maxValue data (fuel + starts.length) st
          (starts.map (fun s => (s, depth)) ++ nxt) acc
        = match readNodes bf data starts.length st with
          | none => .error
          | some (bitss, st') => decodeLoop bf height bias maxValue data fuel st'
              (nxt ++ runKids bf height depth starts bitss)
              (acc ++ runIns bf height bias maxValue depth starts bitss) := by
  induction starts with
  | nil => intro st fuel nxt acc; simp [readNodes, runKids, runIns]
  | cons s ss ih =>
    intro st fuel nxt acc
    have hs : ∀ b, nodeStop height bias maxValue s depth b = false := fun b => by simp [nodeStop, hd]
    rw [List.length_cons, ← Nat.add_assoc, List.map_cons, List.cons_append, decodeLoop_cons]
    simp only [readNodes]
    cases nextNode bf data st with
    | none => rfl
    | some p =>
      dsimp only
      rw [hs, if_neg Bool.false_ne_true, List.append_assoc, ih]
      cases readNodes bf data ss.length p.2 with
      | none => rfl
      | some r => simp only [runKids, runIns, List.zip_cons_cons, List.flatMap_cons, List.append_assoc]

/-- insertions of the leaf layer, up to the node where `break 'outer` is taken -/
def leafRun (bf height bias maxValue : Nat) : List Nat → List Nat → List (Nat × Nat)
  | s :: ss, b :: bs =>
    nodeIns bf height bias maxValue s height b ++
      if nodeStop height bias maxValue s height b = true then [] else leafRun bf height bias maxValue ss bs
  | _, _ => []

/-- the leaf layer, including the early `break 'outer` followed by `skip_nodes` -/
theorem decodeLoop_leaf {bf : Nat} (hbf : BfOk bf) (height bias maxValue : Nat) (data : List Nat)
    (starts : List Nat) :
    ∀ (st : BitIn) (fuel : Nat) (acc : List (Nat × Nat)), StOk bf st → pos st ≤ 8 * data.length →
      decodeLoop bf height bias maxValue data (fuel + starts.length + 1) st
          (starts.map (fun s => (s, height))) acc
        = match readNodes bf data starts.length st with
          | none => .error
          | some (bitss, st') => .ok (acc ++ leafRun bf height bias maxValue starts bitss)
              (data.drop (bytesConsumed st')) := by
  induction starts with
  | nil =>
    intro st fuel acc hst hle
    rw [List.map_nil, decodeLoop, finish_eq hbf hst hle]
    simp [readNodes, leafRun]
  | cons s ss ih =>
    intro st fuel acc hst hle
    rw [List.length_cons, show fuel + (ss.length + 1) + 1 = (fuel + ss.length + 1) + 1 from rfl,
      List.map_cons, decodeLoop_cons]
    simp only [readNodes]
    cases hn : nextNode bf data st with
    | none => rfl
    | some p =>
      have a := nextNode_some hbf hst hn
      have hle1 : pos p.2 ≤ 8 * data.length := by omega
      dsimp only
      split
      · next hs =>
        rw [List.length_map, finish_eq hbf a.1 hle1]
        cases readNodes bf data ss.length p.2 with
        | none => rfl
        | some r => simp only [leafRun, if_pos hs, List.append_nil]
      · next hs =>
        rw [nodeKids_leaf, List.append_nil, ih _ _ _ a.1 hle1]
        cases readNodes bf data ss.length p.2 with
        | none => rfl
        | some r => simp only [leafRun, if_neg hs, List.append_assoc]

theorem mem_setBits {b i : Nat} : i ∈ setBits b ↔ i < 32 ∧ b.testBit i = true := by
  simp [setBits]

theorem setBits_lt {bf b i : Nat} (hb : b < 2 ^ bf) (hi : i ∈ setBits b) : i < bf := by
  rcases Nat.lt_or_ge i bf with h | h
  · exact h
  · exfalso
    have h2 : b < 2 ^ i := Nat.lt_of_lt_of_le hb (Nat.pow_le_pow_right (by decide) h)
    have h3 := Nat.testBit_lt_two_pow h2
    have h4 := (mem_setBits.mp hi).2
    rw [h3] at h4
    exact Bool.noConfusion h4

theorem setBits_pairwise (b : Nat) : (setBits b).Pairwise (· < ·) :=
  List.Pairwise.filter _ List.pairwise_lt_range

/-- one node of `specLayer`: its intervals and the starts of its children -/
def specNode (bf height depth start bits : Nat) : List (Nat × Nat) × List Nat :=
  (if bits = 0 then [(start, start + bf ^ (height - depth + 1) - 1)]
    else if depth = height then (setBits bits).map (fun i => (start + i, start + i)) else [],
   if bits = 0 then [] else if depth = height then []
    else (setBits bits).map (fun i => start + i * bf ^ (height - depth)))

theorem specLayer_eq (bf height depth : Nat) : ∀ starts bitss : List Nat,
    specLayer bf height depth starts bitss =
      ((starts.zip bitss).flatMap fun p => (specNode bf height depth p.1 p.2).1,
       (starts.zip bitss).flatMap fun p => (specNode bf height depth p.1 p.2).2)
  | [], _ => by simp [specLayer]
  | _ :: _, [] => by simp [specLayer]
  | s :: ss, b :: bs => by
    rw [specLayer, specLayer_eq bf height depth ss bs, List.zip_cons_cons, List.flatMap_cons,
      List.flatMap_cons, specNode]
    by_cases hb : b = 0
    · rw [if_pos hb, if_pos hb, if_pos hb]; rfl
    · rw [if_neg hb, if_neg hb, if_neg hb]
      by_cases hd : depth = height
      · rw [if_pos hd, if_pos hd, if_pos hd]; rfl
      · rw [if_neg hd, if_neg hd, if_neg hd]; rfl

theorem specLayer_map {α : Type} (bf height depth : Nat) (f g : α → Nat) (l : List α) :
    specLayer bf height depth (l.map f) (l.map g) =
      (l.flatMap fun n => (specNode bf height depth (f n) (g n)).1,
       l.flatMap fun n => (specNode bf height depth (f n) (g n)).2) := by
  rw [specLayer_eq, List.zip_map', List.flatMap_map, List.flatMap_map]

/-- the intervals of one node: with no bits, all below it; on the leaf level, its set bits -/
theorem insMem_specNode (bf height depth s w x : Nat) :
    InsMem (specNode bf height depth s w).1 x ↔
      ((w = 0 ∧ s ≤ x ∧ x ≤ s + bf ^ (height - depth + 1) - 1) ∨
        (w ≠ 0 ∧ depth = height ∧ ∃ i ∈ setBits w, s + i = x)) := by
  dsimp only [specNode]
  by_cases hw : w = 0
  · rw [if_pos hw, insMem_cons, insMem_nil, or_false]
    exact ⟨fun h => Or.inl ⟨hw, h⟩, fun h => h.elim (·.2) fun h => absurd hw h.1⟩
  · rw [if_neg hw]
    by_cases hd : depth = height
    · rw [if_pos hd]
      constructor
      · rintro ⟨_, hr, h1, h2⟩
        obtain ⟨i, hi, rfl⟩ := List.mem_map.mp hr
        exact Or.inr ⟨hw, hd, i, hi, Nat.le_antisymm h1 h2⟩
      · rintro (⟨h0, _⟩ | ⟨_, _, i, hi, rfl⟩)
        · exact absurd h0 hw
        · exact ⟨_, List.mem_map.mpr ⟨i, hi, rfl⟩, Nat.le_refl _, Nat.le_refl _⟩
    · rw [if_neg hd, insMem_nil]
      exact ⟨False.elim, fun h => h.elim (fun h => hw h.1) fun h => hd h.2.1⟩

/-- the children of one node above the leaf level: one per set bit -/
theorem mem_specNode_kids (bf height depth s w c : Nat) :
    c ∈ (specNode bf height depth s w).2 ↔
      (w ≠ 0 ∧ depth ≠ height ∧ ∃ i ∈ setBits w, s + i * bf ^ (height - depth) = c) := by
  dsimp only [specNode]
  by_cases hw : w = 0
  · rw [if_pos hw]; exact ⟨nofun, fun h => absurd hw h.1⟩
  · rw [if_neg hw]
    by_cases hd : depth = height
    · rw [if_pos hd]; exact ⟨nofun, fun h => absurd hd h.2.1⟩
    · rw [if_neg hd, List.mem_map]; exact ⟨fun h => ⟨hw, hd, h⟩, fun h => h.2.2⟩

theorem specLayers_nil (bf height : Nat) (data : List Nat) (fuel depth : Nat) (st : BitIn) :
    specLayers bf height data fuel depth [] st = some ([], st) := by
  cases fuel <;> simp [specLayers]

theorem specLayers_succ (bf height : Nat) (data : List Nat) (fuel depth : Nat)
    (starts : List Nat) (st : BitIn) :
    specLayers bf height data (fuel + 1) depth starts st =
      match readNodes bf data starts.length st with
      | none => none
      | some (bitss, st') =>
        match specLayers bf height data fuel (depth + 1)
            (specLayer bf height depth starts bitss).2 st' with
        | none => none
        | some (more, st'') => some ((specLayer bf height depth starts bitss).1 ++ more, st'') := by
  cases starts with
  | nil => simp [specLayers, readNodes, specLayer, specLayers_nil]
  | cons s ss => rw [specLayers.eq_3 _ _ _ _ _ _ _ (by simp)]; rfl

/-- every start is `≥ lo`, and each start plus the node size is `≤` the next start -/
def SepFrom (size : Nat) : Nat → List Nat → Prop
  | _, [] => True
  | lo, s :: rest => lo ≤ s ∧ SepFrom size (s + size) rest

theorem sepFrom_mono {size lo lo' : Nat} (h : lo' ≤ lo) :
    ∀ {l : List Nat}, SepFrom size lo l → SepFrom size lo' l
  | [], _ => trivial
  | _ :: _, hs => ⟨Nat.le_trans h hs.1, hs.2⟩

theorem sepFrom_lb {size : Nat} : ∀ {l : List Nat} {lo : Nat}, SepFrom size lo l → ∀ x ∈ l, lo ≤ x
  | s :: rest, lo, h, x, hx => by
    rcases List.mem_cons.1 hx with rfl | hx
    · exact h.1
    · exact Nat.le_trans h.1 (Nat.le_trans (Nat.le_add_right _ _) (sepFrom_lb h.2 x hx))

theorem sepFrom_pairwise {size : Nat} (hs : 0 < size) :
    ∀ {l : List Nat} {lo : Nat}, SepFrom size lo l → l.Pairwise (· < ·)
  | [], _, _ => List.Pairwise.nil
  | _ :: _, _, h => List.pairwise_cons.mpr
    ⟨fun x hx => Nat.lt_of_lt_of_le (Nat.lt_add_of_pos_right hs) (sepFrom_lb h.2 x hx), sepFrom_pairwise hs h.2⟩

theorem sepFrom_map_mul (size : Nat) :
    ∀ (ids : List Nat) (lo : Nat), ids.Pairwise (· < ·) → (∀ p ∈ ids, lo ≤ p * size) →
      SepFrom size lo (ids.map (· * size))
  | [], _, _, _ => trivial
  | p :: rest, lo, hp, hlo => by
    have hp' := List.pairwise_cons.mp hp
    refine ⟨hlo p (by simp), sepFrom_map_mul size rest _ hp'.2 ?_⟩
    intro q hq
    have : p + 1 ≤ q := hp'.1 q hq
    calc p * size + size = (p + 1) * size := by rw [Nat.add_mul, Nat.one_mul]
      _ ≤ q * size := Nat.mul_le_mul_right _ this

theorem sepFrom_children (c s bf : Nat) (tail : List Nat) (ht : SepFrom c (s + bf * c) tail) :
    ∀ (is : List Nat) (j : Nat), is.Pairwise (· < ·) → (∀ i ∈ is, j ≤ i ∧ i < bf) → j ≤ bf →
      SepFrom c (s + j * c) (is.map (fun i => s + i * c) ++ tail)
  | [], j, _, _, hj => by
    simp only [List.map_nil, List.nil_append]
    exact sepFrom_mono (Nat.add_le_add_left (Nat.mul_le_mul_right c hj) s) ht
  | i :: rest, j, hp, hb, hj => by
    simp only [List.map_cons, List.cons_append, SepFrom]
    have hi := hb i (by simp)
    refine ⟨Nat.add_le_add_left (Nat.mul_le_mul_right c hi.1) s, ?_⟩
    have hp' := List.pairwise_cons.mp hp
    have := sepFrom_children c s bf tail ht rest (i + 1) hp'.2
      (fun k hk => ⟨hp'.1 k hk, (hb k (by simp [hk])).2⟩) hi.2
    rw [Nat.succ_mul, ← Nat.add_assoc] at this
    exact this

theorem sepFrom_specLayer {bf : Nat} (height depth : Nat) (hd : depth ≠ height) :
    ∀ (starts bitss : List Nat) (lo : Nat), (∀ b ∈ bitss, b < 2 ^ bf) →
      SepFrom (bf * bf ^ (height - depth)) lo starts →
      SepFrom (bf ^ (height - depth)) lo (specLayer bf height depth starts bitss).2
  | [], _, lo, _, _ => by simp [specLayer, SepFrom]
  | s :: ss, [], lo, _, _ => by simp [specLayer, SepFrom]
  | s :: ss, b :: bs, lo, hb, hs => by
    have ih := sepFrom_specLayer height depth hd ss bs (s + bf * bf ^ (height - depth))
      (fun b' hb' => hb b' (by simp [hb'])) hs.2
    simp only [specLayer]
    by_cases hb0 : b = 0
    · rw [if_pos hb0]
      exact sepFrom_mono (Nat.le_trans hs.1 (Nat.le_add_right _ _)) ih
    · rw [if_neg hb0, if_neg hd]
      have := sepFrom_children (bf ^ (height - depth)) s bf _ ih (setBits b) 0
        (setBits_pairwise b)
        (fun i hi => ⟨Nat.zero_le _, setBits_lt (hb b (by simp)) hi⟩) (Nat.zero_le _)
      simp only [Nat.zero_mul, Nat.add_zero] at this
      exact sepFrom_mono hs.1 this

theorem specLayer_lo {bf : Nat} (height depth size : Nat) (starts bitss : List Nat) (lo : Nat)
    (h : SepFrom size lo starts) : ∀ p ∈ (specLayer bf height depth starts bitss).1, lo ≤ p.1 := by
  rw [specLayer_eq]
  intro p hp
  obtain ⟨q, hq, hpq⟩ := List.mem_flatMap.1 hp
  refine Nat.le_trans (sepFrom_lb h q.1 (List.of_mem_zip hq).1) ?_
  dsimp only [specNode] at hpq
  split at hpq
  · cases List.mem_singleton.1 hpq; exact Nat.le_refl _
  · split at hpq
    · obtain ⟨i, -, rfl⟩ := List.mem_map.1 hpq; exact Nat.le_add_right _ _
    · cases hpq

theorem filledIns_mem {bf : Nat} (hpos : 0 < bf) (height depth bias m s x : Nat) :
    InsMem (filledIns bf height depth bias m s) x ↔
      (x ≤ m ∧ x ≤ U32_MAX ∧ s + bias ≤ x ∧ x ≤ s + bf ^ (height - depth + 1) - 1 + bias) := by
  have hn : 0 < bf ^ (height - depth + 1) := Nat.pow_pos hpos
  rw [filledIns]
  generalize bf ^ (height - depth + 1) = n at hn
  by_cases hc : s ≤ U32_MAX ∧ s + bias ≤ U32_MAX ∧ s + bias ≤ m
  · rw [if_pos hc, insMem_cons]
    simp only [insMem_nil, or_false, Nat.le_min]
    omega
  · rw [if_neg hc]
    simp only [insMem_nil, false_iff]
    omega

theorem runKids_eq (bf : Nat) {height depth : Nat} (hd : depth ≠ height) (starts bitss : List Nat) :
    runKids bf height depth starts bitss =
      (specLayer bf height depth starts bitss).2.map (fun s => (s, depth + 1)) := by
  rw [specLayer_eq, List.map_flatMap, runKids, List.flatMap_def, List.flatMap_def]
  refine congrArg _ (List.map_congr_left fun p _ => ?_)
  dsimp only [nodeKids, specNode]
  by_cases hb : p.2 = 0
  · rw [if_pos hb, if_pos hb]; rfl
  · rw [if_neg hb, if_neg hb, if_neg hd, if_neg hd, List.map_map]; rfl

theorem specMem_leaf (s bias m x : Nat) (is : List Nat) :
    SpecMem (is.map (fun i => (s + i, s + i))) bias m x ↔
      (x ≤ m ∧ x ≤ U32_MAX ∧ ∃ i ∈ is, x = s + i + bias) := by
  simp only [SpecMem, List.mem_map]
  constructor
  · rintro ⟨h1, h2, p, ⟨i, hi, rfl⟩, h3, h4⟩
    exact ⟨h1, h2, i, hi, by simp only [] at h3 h4; omega⟩
  · rintro ⟨h1, h2, i, hi, rfl⟩
    exact ⟨h1, h2, (s + i, s + i), ⟨i, hi, rfl⟩, Nat.le_refl _, Nat.le_refl _⟩

theorem leafValues_spec (s bias m : Nat) (is : List Nat) (hp : is.Pairwise (· < ·)) :
    (∀ x, InsMem (leafValues s bias m is).1 x ↔
      (x ≤ m ∧ x ≤ U32_MAX ∧ ∃ i ∈ is, x = s + i + bias)) ∧
    ((leafValues s bias m is).2 = true →
      ∃ i ∈ is, ¬ (s + i + bias ≤ m ∧ s + i + bias ≤ U32_MAX)) := by
  induction is with
  | nil => simp [leafValues, insMem_nil]
  | cons i rest ih =>
    have hp' := List.pairwise_cons.mp hp
    have ih := ih hp'.2
    simp only [leafValues]
    by_cases hc : s ≤ U32_MAX ∧ s + i ≤ U32_MAX ∧ s + i + bias ≤ U32_MAX ∧ s + i + bias ≤ m
    · rw [if_pos hc]
      refine ⟨fun x => ?_, fun h => ?_⟩
      · rw [insMem_cons, ih.1 x]
        simp only [List.mem_cons, exists_eq_or_imp]
        constructor
        · rintro (h | ⟨h1, h2, h3⟩)
          · exact ⟨by omega, by omega, Or.inl (by omega)⟩
          · exact ⟨h1, h2, Or.inr h3⟩
        · rintro ⟨h1, h2, h3 | h3⟩
          · exact Or.inl (by omega)
          · exact Or.inr ⟨h1, h2, h3⟩
      · obtain ⟨k, hk, hk2⟩ := ih.2 h
        exact ⟨k, by simp [hk], hk2⟩
    · rw [if_neg hc]
      refine ⟨fun x => ?_, fun _ => ⟨i, by simp, by omega⟩⟩
      simp only [insMem_nil, false_iff]
      rintro ⟨h1, h2, k, hk, rfl⟩
      simp only [List.mem_cons] at hk
      rcases hk with rfl | hk
      · omega
      · have := hp'.1 k hk; omega

/-- one node, at any depth: the queue decoder inserts the specification's members, after bias / maximum -/
theorem nodeIns_mem {bf : Nat} (hpos : 0 < bf) (height depth bias m s b x : Nat) :
    InsMem (nodeIns bf height bias m s depth b) x ↔
      SpecMem (specNode bf height depth s b).1 bias m x := by
  dsimp only [nodeIns, specNode]
  by_cases hb : b = 0
  · rw [if_pos hb, if_pos hb, specMem_cons, filledIns_mem hpos, specMem_nil, or_false]
  · rw [if_neg hb, if_neg hb]
    by_cases hd : depth = height
    · rw [if_pos hd, if_pos hd, specMem_leaf]
      exact (leafValues_spec s bias m (setBits b) (setBits_pairwise b)).1 x
    · rw [if_neg hd, if_neg hd, insMem_nil, specMem_nil]

theorem runIns_mem {bf : Nat} (hpos : 0 < bf) (height depth bias m : Nat)
    (starts bitss : List Nat) (x : Nat) :
    InsMem (runIns bf height bias m depth starts bitss) x ↔
      SpecMem (specLayer bf height depth starts bitss).1 bias m x := by
  rw [specLayer_eq, runIns, insMem_flatMap, specMem_flatMap]
  exact exists_congr fun p => and_congr_right fun _ => nodeIns_mem hpos ..

theorem leafRun_mem {bf : Nat} (hpos : 0 < bf) (height bias m : Nat) :
    ∀ (starts bitss : List Nat) (lo : Nat), (∀ b ∈ bitss, b < 2 ^ bf) → SepFrom bf lo starts →
      ∀ x, InsMem (leafRun bf height bias m starts bitss) x ↔
        SpecMem (specLayer bf height height starts bitss).1 bias m x
  | [], _, lo, _, _, x => by simp [leafRun, specLayer, insMem_nil, specMem_nil]
  | s :: ss, [], lo, _, _, x => by simp [leafRun, specLayer, insMem_nil, specMem_nil]
  | s :: ss, b :: bs, lo, hb, hs, x => by
    have ih := leafRun_mem hpos height bias m ss bs (s + bf)
      (fun b' hb' => hb b' (by simp [hb'])) hs.2 x
    have hlo := specLayer_lo (bf := bf) height height bf ss bs (s + bf) hs.2
    rw [specLayer_eq] at ih hlo
    rw [leafRun, specLayer_eq, List.zip_cons_cons, List.flatMap_cons, insMem_append, specMem_append,
      nodeIns_mem hpos]
    refine or_congr_right ?_
    split
    · next hstop =>
      -- later nodes start at `s + bf` or beyond, past the value that ended the loop
      simp only [nodeStop, Bool.and_eq_true, decide_eq_true_eq] at hstop
      obtain ⟨i, hi, hout⟩ := (leafValues_spec s bias m (setBits b) (setBits_pairwise b)).2 hstop.2
      have hlt := setBits_lt (hb b (by simp)) hi
      rw [insMem_nil, false_iff]
      rintro ⟨h1, h2, p, hp, h3, _⟩
      have := hlo p hp
      omega
    · exact ih

/-- what a run of the queue decoder from the beginning of layer `depth` must produce, given the
specification decoder's result for the same layer starts and stream position -/
def LayersAgree (bf height bias maxValue : Nat) (data : List Nat) (depth : Nat)
    (starts : List Nat) (st : BitIn) : Option (List (Nat × Nat) × BitIn) → Prop
  | some (ivs, st2) => ∃ ins N, (∀ fuel acc,
        decodeLoop bf height bias maxValue data (fuel + N) st (starts.map (fun s => (s, depth))) acc
          = .ok (acc ++ ins) (data.drop (bytesConsumed st2))) ∧
      ∀ x, InsMem ins x ↔ SpecMem ivs bias maxValue x
  | none => ∃ N, ∀ fuel acc,
        decodeLoop bf height bias maxValue data (fuel + N) st (starts.map (fun s => (s, depth))) acc
          = .error

theorem decodeLoop_layers {bf : Nat} (hbf : BfOk bf) (height bias maxValue : Nat)
    (data : List Nat) (hbytes : ∀ b ∈ data, b < 256) :
    ∀ (k depth : Nat), depth + k = height → ∀ (starts : List Nat) (lo : Nat) (st : BitIn),
      SepFrom (bf ^ (k + 1)) lo starts → StOk bf st → pos st ≤ 8 * data.length →
      LayersAgree bf height bias maxValue data depth starts st
        (specLayers bf height data (k + 1) depth starts st) := by
  have hpos := bfOk_pos hbf
  intro k
  induction k with
  | zero =>
    intro depth hdk starts lo st hsep hst hle
    have hd : depth = height := by omega
    subst hd
    rw [specLayers_succ]
    have hleaf := fun fuel acc =>
      decodeLoop_leaf hbf depth bias maxValue data starts st fuel acc hst hle
    cases hr : readNodes bf data starts.length st with
    | none =>
      rw [hr] at hleaf
      exact ⟨starts.length + 1, fun fuel acc => by rw [← Nat.add_assoc, hleaf]⟩
    | some r =>
      obtain ⟨bitss, st'⟩ := r
      simp only [specLayers, List.append_nil, LayersAgree]
      refine ⟨leafRun bf depth bias maxValue starts bitss, starts.length + 1,
        fun fuel acc => ?_, ?_⟩
      · rw [← Nat.add_assoc, hleaf, hr]
      · have hlt : ∀ b ∈ bitss, b < 2 ^ bf := readNodes_lt hbf hbytes _ hst hr
        simp only [Nat.zero_add, Nat.pow_one] at hsep
        exact leafRun_mem hpos depth bias maxValue starts bitss lo hlt hsep
  | succ k ih =>
    intro depth hdk starts lo st hsep hst hle
    have hd : depth ≠ height := by omega
    have hk : height - depth = k + 1 := by omega
    rw [specLayers_succ]
    have hup := fun fuel acc =>
      decodeLoop_upper bf height depth bias maxValue data hd starts st fuel [] acc
    simp only [List.append_nil, List.nil_append, runKids_eq bf hd] at hup
    cases hr : readNodes bf data starts.length st with
    | none =>
      rw [hr] at hup
      exact ⟨starts.length, hup⟩
    | some r =>
      obtain ⟨bitss, st'⟩ := r
      have hrs := readNodes_some hbf _ hst hr
      have hlt : ∀ b ∈ bitss, b < 2 ^ bf := readNodes_lt hbf hbytes _ hst hr
      have hsep' : SepFrom (bf ^ (k + 1)) lo (specLayer bf height depth starts bitss).2 := by
        have := sepFrom_specLayer (bf := bf) height depth hd starts bitss lo hlt
          (by rw [hk, ← Nat.pow_succ']; exact hsep)
        rw [hk] at this
        exact this
      have hle' : pos st' ≤ 8 * data.length := by
        have := mt (readNodes_none_iff hbf starts.length hst hle).mpr (by rw [hr]; nofun)
        omega
      have ihk := ih (depth + 1) (by omega) _ lo st' hsep' hrs.1 hle'
      simp only [hr] at hup
      simp only []
      cases hn : specLayers bf height data (k + 1) (depth + 1)
          (specLayer bf height depth starts bitss).2 st' with
      | none =>
        rw [hn] at ihk
        obtain ⟨N, hN⟩ := ihk
        exact ⟨N + starts.length, fun fuel acc => by rw [← Nat.add_assoc, hup, hN]⟩
      | some r2 =>
        obtain ⟨more, st2⟩ := r2
        rw [hn] at ihk
        obtain ⟨ins, N, hN, hmem⟩ := ihk
        refine ⟨runIns bf height bias maxValue depth starts bitss ++ ins,
          N + starts.length, fun fuel acc => ?_, fun x => ?_⟩
        · rw [← Nat.add_assoc, hup, hN, List.append_assoc]
        · rw [insMem_append, specMem_append, hmem,
            runIns_mem hpos height depth bias maxValue]

end FontVerif.SparseBitSet
