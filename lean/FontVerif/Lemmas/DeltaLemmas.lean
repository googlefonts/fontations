/-
`ItemVariationStore::compute_delta` (Model/Tent.lean): what one column read and a decoded row are, the
accumulation loop as the weighted sum `specSum` (or an error, `LoopOk`), `computeDelta` on a present subtable
as one equation, and the bounds that justify modelling the i64 accumulator by `Int`.
-/
import FontVerif.Model.Tent
import FontVerif.Lemmas.TentLemmas
namespace FontVerif.Ivs

/-- the truncation to `w` bytes is lossless. -/
def FitsW (w : Nat) (x : Int) : Prop := if w = 1 then inI8 x else if w = 2 then inI16 x else inI32 x

end FontVerif.Ivs
namespace FontVerif.Tent

theorem readS1_cons (b : Nat) (rest : List Nat) : readS1 (b :: rest) =
    some ((if b < 128 then (b : Int) else (b : Int) - 256), rest) := rfl
theorem readS2_cons (a b : Nat) (rest : List Nat) : readS2 (a :: b :: rest) =
    some ((if (a : Int) * 256 + b < 32768 then (a : Int) * 256 + b
      else (a : Int) * 256 + b - 65536), rest) := rfl
theorem readS4_cons (a b c d : Nat) (rest : List Nat) : readS4 (a :: b :: c :: d :: rest) =
    some ((if (((a : Int) * 256 + b) * 256 + c) * 256 + d < 2147483648
      then (((a : Int) * 256 + b) * 256 + c) * 256 + d
      else (((a : Int) * 256 + b) * 256 + c) * 256 + d - 4294967296), rest) := rfl

theorem readW_spec {w : Nat} {bytes : List Nat} {v : Int} {rest : List Nat}
    (hb : ∀ b ∈ bytes, b < 256) (h : readW w bytes = some (v, rest)) :
    Ivs.FitsW w v ∧ rest = bytes.drop (if w = 1 then 1 else if w = 2 then 2 else 4) := by
  unfold readW at h
  unfold Ivs.FitsW
  by_cases h1 : w = 1
  · rw [if_pos h1] at h ⊢
    rw [if_pos h1]
    match bytes, hb, h with
    | a :: r, hb, h =>
      cases h
      have := hb a (by simp)
      exact ⟨by unfold inI8; split <;> omega, rfl⟩
  rw [if_neg h1] at h ⊢
  rw [if_neg h1]
  by_cases h2 : w = 2
  · rw [if_pos h2] at h ⊢
    rw [if_pos h2]
    match bytes, hb, h with
    | a :: b :: r, hb, h =>
      rw [readS2_cons] at h
      simp only [Option.some.injEq, Prod.mk.injEq] at h
      obtain ⟨rfl, rfl⟩ := h
      have := hb a (by simp); have := hb b (by simp)
      exact ⟨by unfold inI16; split <;> omega, rfl⟩
  · rw [if_neg h2] at h ⊢
    rw [if_neg h2]
    match bytes, hb, h with
    | a :: b :: c :: d :: r, hb, h =>
      rw [readS4_cons] at h
      simp only [Option.some.injEq, Prod.mk.injEq] at h
      obtain ⟨rfl, rfl⟩ := h
      have := hb a (by simp); have := hb b (by simp); have := hb c (by simp); have := hb d (by simp)
      exact ⟨by unfold inI32; split <;> omega, rfl⟩

theorem readW_inI32 {w : Nat} {bytes : List Nat} {v : Int} {rest : List Nat}
    (hb : ∀ b ∈ bytes, b < 256) (h : readW w bytes = some (v, rest)) :
    inI32 v ∧ (∀ b ∈ rest, b < 256) := by
  obtain ⟨hf, rfl⟩ := readW_spec hb h
  refine ⟨?_, fun b hm => hb b (List.mem_of_mem_drop hm)⟩
  unfold Ivs.FitsW inI8 inI16 at hf
  unfold inI32
  split at hf
  · omega
  · split at hf
    · omega
    · exact hf

theorem itemDeltas_length_le (wdcLow : Nat) (longWords : Bool) (len : Nat) :
    ∀ (pos : Nat) (bytes : List Nat), (itemDeltas wdcLow longWords len pos bytes).length ≤ len - pos := by
  intro pos bytes
  fun_induction itemDeltas wdcLow longWords len pos bytes with
  | case1 pos bytes h => simp
  | case2 pos bytes h hr => simp
  | case3 pos bytes h v rest hr ih => simp only [List.length_cons]; omega

theorem itemDeltas_inI32 (wdcLow : Nat) (longWords : Bool) (len : Nat) :
    ∀ (pos : Nat) (bytes : List Nat), (∀ b ∈ bytes, b < 256) →
      (∀ d ∈ itemDeltas wdcLow longWords len pos bytes, inI32 d) ∧
      (itemDeltas wdcLow longWords len pos bytes).length ≤ len - pos := by
  intro pos bytes hb
  refine ⟨?_, itemDeltas_length_le wdcLow longWords len pos bytes⟩
  revert hb
  fun_induction itemDeltas wdcLow longWords len pos bytes with
  | case1 pos bytes h => intro _; simp
  | case2 pos bytes h hr => intro _; simp
  | case3 pos bytes h v rest hr ih =>
    intro hb d hd
    have := readW_inI32 hb hr
    rcases List.mem_cons.mp hd with rfl | hd'
    · exact this.1
    · exact ih this.2 d hd'

theorem deltaSet_length_le (wdc regionCount : Nat) (data : List Nat) (inner : Nat) :
    (deltaSet wdc regionCount data inner).length ≤ regionCount :=
  itemDeltas_length_le _ _ _ 0 _

theorem deltaSet_inI32 (wdc regionCount : Nat) (data : List Nat) (inner : Nat)
    (hb : ∀ b ∈ data, b < 256) :
    (∀ d ∈ deltaSet wdc regionCount data inner, inI32 d) ∧
    (deltaSet wdc regionCount data inner).length ≤ regionCount := by
  refine ⟨?_, deltaSet_length_le wdc regionCount data inner⟩
  unfold deltaSet
  refine (itemDeltas_inI32 _ _ _ 0 _ fun b hbm => ?_).1
  split at hbm
  · exact hb b (List.mem_of_mem_drop hbm)
  · cases hbm

/-- the row the reader decodes for `inner` in subtable `st` (`ItemVariationData::delta_set` on
the `delta_sets` array of `row_len × item_count` bytes). -/
def decodedRow (st : SubTable) (inner : Nat) : List Int :=
  deltaSet st.wordDeltaCount st.regionIndexes.length
    (st.data.take (deltaRowLen st.wordDeltaCount st.regionIndexes.length * st.itemCount)) inner

/-- the specified weighted sum: `Σ_i delta_i × scalar(region(ri_i), coords)` (scalar as 16.16 bits);
a region index outside the list contributes `d * 65536` (the empty region has scalar ONE); `LoopOk` excludes it
(the loop errors out in that case). -/
def specSum (regions : List (List (Int × Int × Int))) (coords : List Int) :
    List Int → List Nat → Int
  | d :: ds, ri :: ris => d * computeScalar (regions.getD ri []) coords + specSum regions coords ds ris
  | _, _ => 0

/-- the loop succeeds iff there is a region index for every delta and each names a region. -/
def LoopOk (regions : List (List (Int × Int × Int))) : List Int → List Nat → Prop
  | [], _ => True
  | _ :: _, [] => False
  | _ :: ds, ri :: ris => ri < regions.length ∧ LoopOk regions ds ris

theorem deltaLoop_spec (regions : List (List (Int × Int × Int))) (coords : List Int) :
    ∀ (ds : List Int) (ris : List Nat) (acc : Int),
      (LoopOk regions ds ris →
        deltaLoop regions coords ds ris acc = some (acc + specSum regions coords ds ris)) ∧
      (¬ LoopOk regions ds ris → deltaLoop regions coords ds ris acc = none) := by
  intro ds
  induction ds with
  | nil => intro ris acc; simp [deltaLoop, specSum, LoopOk]
  | cons d ds ih =>
    intro ris acc
    cases ris with
    | nil => simp [deltaLoop, LoopOk]
    | cons ri ris =>
      simp only [deltaLoop, LoopOk, specSum]
      by_cases h : ri < regions.length
      · have e : regions[ri]? = some regions[ri] := List.getElem?_eq_getElem h
        have e' : regions.getD ri [] = regions[ri] := by simp [List.getD, e]
        rw [e, e']
        simp only []
        have := ih ris (acc + d * computeScalar regions[ri] coords)
        constructor
        · intro hok
          rw [this.1 hok.2]; congr 1; omega
        · intro hno
          exact this.2 (fun hh => hno ⟨h, hh⟩)
      · have e : regions[ri]? = none := List.getElem?_eq_none (by omega)
        rw [e]
        simp [h]

/-- `compute_delta` on a present subtable as one equation: the rounded `specSum` of the decoded row, or an error. -/
theorem computeDelta_present (regions : List (List (Int × Int × Int)))
    (subtables : List (Option SubTable)) (outer inner : Nat) (coords : List Int) (st : SubTable)
    (hne : coords ≠ []) (hst : subtables[outer]? = some (some st))
    [Decidable (LoopOk regions (decodedRow st inner) st.regionIndexes)] :
    computeDelta regions subtables outer inner coords =
      if deltaRowLen st.wordDeltaCount st.regionIndexes.length * st.itemCount ≤ st.data.length ∧
          LoopOk regions (decodedRow st inner) st.regionIndexes
      then .ok (roundAccum (specSum regions coords (decodedRow st inner) st.regionIndexes)) else .err := by
  have e : coords.isEmpty = false := by cases coords <;> simp_all
  have hs := deltaLoop_spec regions coords (decodedRow st inner) st.regionIndexes 0
  unfold computeDelta
  simp only [e, Bool.false_eq_true, if_false, hst]
  by_cases hlen : st.data.length < deltaRowLen st.wordDeltaCount st.regionIndexes.length * st.itemCount
  · rw [if_pos hlen, if_neg (by omega)]
  · rw [if_neg hlen]
    by_cases hok : LoopOk regions (decodedRow st inner) st.regionIndexes
    · rw [if_pos ⟨by omega, hok⟩]
      have := hs.1 hok
      unfold decodedRow at this
      rw [this, Int.zero_add]; rfl
    · rw [if_neg (fun h => hok h.2)]
      have := hs.2 hok
      unfold decodedRow at this
      rw [this]

theorem computeDelta_of_loopOk (regions : List (List (Int × Int × Int)))
    (subtables : List (Option SubTable)) (outer inner : Nat) (coords : List Int) (st : SubTable)
    (hne : coords ≠ []) (hst : subtables[outer]? = some (some st))
    (hok : deltaRowLen st.wordDeltaCount st.regionIndexes.length * st.itemCount ≤ st.data.length)
    (hloop : LoopOk regions (decodedRow st inner) st.regionIndexes) :
    computeDelta regions subtables outer inner coords =
      .ok (roundAccum (specSum regions coords (decodedRow st inner) st.regionIndexes)) := by
  classical
  rw [computeDelta_present regions subtables outer inner coords st hne hst, if_pos ⟨hok, hloop⟩]

def AllAxesOk (regions : List (List (Int × Int × Int))) : Prop :=
  ∀ r ∈ regions, ∀ a ∈ r, inI16 a.1 ∧ inI16 a.2.1 ∧ inI16 a.2.2

theorem specSum_bound (regions : List (List (Int × Int × Int))) (coords : List Int) (B : Int)
    (hB : 0 ≤ B)
    (hsc : ∀ ri, 0 ≤ computeScalar (regions.getD ri []) coords ∧
                 computeScalar (regions.getD ri []) coords ≤ 65536) :
    ∀ (ds : List Int) (ris : List Nat), (∀ d ∈ ds, -B ≤ d ∧ d ≤ B) →
      -(B * 65536 * ds.length) ≤ specSum regions coords ds ris ∧
      specSum regions coords ds ris ≤ B * 65536 * ds.length := by
  intro ds
  induction ds with
  | nil => intro ris _; simp [specSum]
  | cons d ds ih =>
    intro ris hd
    cases ris with
    | nil => simp only [specSum, List.length_cons]
             have : 0 ≤ B * 65536 * ((ds.length : Int) + 1) :=
               Int.mul_nonneg (by omega) (by omega)
             push_cast; omega
    | cons ri ris =>
      simp only [specSum, List.length_cons]
      have hdb := hd d (by simp)
      have hs := hsc ri
      have ih' := ih ris (fun x hx => hd x (by simp [hx]))
      generalize computeScalar (regions.getD ri []) coords = s at *
      have h := mul_bound hdb (B := 65536) ⟨by omega, hs.2⟩
      have e : B * 65536 * ((ds.length : Int) + 1) = B * 65536 * ds.length + B * 65536 := by
        rw [Int.mul_add]; omega
      push_cast
      rw [e]
      omega

theorem roundAccum_nowrap {acc : Int} (h0 : -140737488355328 ≤ acc) (h1 : acc < 140737488322560) :
    roundAccum acc = (acc + 32768) / 65536 := by
  unfold roundAccum
  apply wrapI32_id
  unfold inI32; omega

end FontVerif.Tent

namespace FontVerif.Ivs
open FontVerif.Tent

theorem loopOk_of_lt (regions : List (List (Int × Int × Int))) : ∀ (ds : List Int) (ris : List Nat),
    ds.length ≤ ris.length → (∀ ri ∈ ris, ri < regions.length) → LoopOk regions ds ris := by
  intro ds
  induction ds with
  | nil => intro ris _ _; simp [LoopOk]
  | cons d ds ih =>
    intro ris hl hr
    cases ris with
    | nil => simp at hl
    | cons ri ris =>
      simp only [LoopOk]
      exact ⟨hr ri (by simp), ih ris (by simpa using hl) (fun x hx => hr x (by simp [hx]))⟩

end FontVerif.Ivs
