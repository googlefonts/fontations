/-
Error analysis of the exact IEEE model (Model/Ieee.lean `roundNE`, Model/IeeeArith.lean `mul`, `div`) on
non-negative values: the order `dle` of dyadic values, "rounding never crosses a representable value"
(`roundNE_le_repr`, hence products and quotients of values in `[0, 1]` stay there: `InUnit`), and the half-ulp
error of one rounding and of one division.
-/
import FontVerif.Model.IeeeArith
import FontVerif.Lemmas.Ieee
import FontVerif.Lemmas.Base
namespace FontVerif.Ieee

/-- `m · 2^e ≤ n · 2^g` for non-negative dyadic values, in integers. -/
def dle (m : Nat) (e : Int) (n : Nat) (g : Int) : Prop :=
  m * 2 ^ (e - min e g).toNat ≤ n * 2 ^ (g - min e g).toNat

instance (m : Nat) (e : Int) (n : Nat) (g : Int) : Decidable (dle m e n g) := by
  unfold dle; infer_instance

theorem pow_toNat_add (x y : Int) (hx : 0 ≤ x) (hy : 0 ≤ y) :
    (2 : Nat) ^ (x + y).toNat = 2 ^ x.toNat * 2 ^ y.toNat := FontVerif.pow_toNat_add x y hx hy

theorem dle_common {m : Nat} {e : Int} {n : Nat} {g : Int} (c : Int) (hc1 : c ≤ e) (hc2 : c ≤ g) :
    dle m e n g ↔ m * 2 ^ (e - c).toNat ≤ n * 2 ^ (g - c).toNat := by
  unfold dle
  have h1 : e - c = (e - min e g) + (min e g - c) := by omega
  have h2 : g - c = (g - min e g) + (min e g - c) := by omega
  rw [h1, h2, pow_toNat_add _ _ (by omega) (by omega), pow_toNat_add _ _ (by omega) (by omega)]
  have hpos : 0 < 2 ^ (min e g - c).toNat := two_pow_pos _
  rw [← Nat.mul_assoc, ← Nat.mul_assoc]
  exact (Nat.mul_le_mul_right_iff hpos).symm

/-- the same with the exponents shifted up by `k` (scales `2^-k`: `k = 14`, `k = 300`). -/
theorem dle_shift {m : Nat} {e : Int} {n : Nat} {g : Int} (k : Int) (h1 : 0 ≤ e + k) (h2 : 0 ≤ g + k) :
    dle m e n g ↔ m * 2 ^ (e + k).toNat ≤ n * 2 ^ (g + k).toNat := by
  rw [dle_common (-k) (by omega) (by omega), Int.sub_neg, Int.sub_neg]

theorem dle_refl (m : Nat) (e : Int) : dle m e m e := by unfold dle; simp

theorem dle_trans {a : Nat} {e : Int} {b : Nat} {g : Int} {c : Nat} {h : Int}
    (h1 : dle a e b g) (h2 : dle b g c h) : dle a e c h := by
  let k := min e (min g h)
  rw [dle_common k (by omega) (by omega)] at h1 h2 ⊢
  exact Nat.le_trans h1 h2

theorem dle_zero (e : Int) (n : Nat) (g : Int) : dle 0 e n g := by unfold dle; simp

/-- a value below `2^x`: `m · 2^e < 2^x`. -/
def dltPow (m : Nat) (e : Int) (x : Int) : Prop := m * 2 ^ (e - min e x).toNat < 2 ^ (x - min e x).toNat

theorem repr_lt_pow (r : Nat) (g : Int) : dltPow r g (g + bitLen r) := by
  unfold dltPow
  have : min g (g + (bitLen r : Int)) = g := by omega
  rw [this]
  simp only [Int.sub_self, Int.toNat_zero, Nat.pow_zero, Nat.mul_one]
  have : (g + (bitLen r : Int) - g).toNat = bitLen r := by omega
  rw [this]
  exact lt_pow_bitLen r

theorem bitLen_le_of_dle {n : Nat} {q : Int} {r : Nat} {g : Int} (hn : n ≠ 0) (h : dle n q r g) :
    q + (bitLen n : Int) ≤ g + (bitLen r : Int) := by
  let c := min q g
  rw [dle_common c (by omega) (by omega)] at h
  have h1 := pow_bitLen_le hn
  have h2 := lt_pow_bitLen r
  -- 2^(bitLen n - 1) * 2^(q-c) ≤ n * 2^(q-c) ≤ r * 2^(g-c) < 2^(bitLen r) * 2^(g-c)
  have h3 : 2 ^ (bitLen n - 1) * 2 ^ (q - c).toNat < 2 ^ bitLen r * 2 ^ (g - c).toNat :=
    Nat.lt_of_le_of_lt (Nat.le_trans (Nat.mul_le_mul_right _ h1) h)
      (Nat.mul_lt_mul_of_pos_right h2 (two_pow_pos _))
  rw [← Nat.pow_add, ← Nat.pow_add] at h3
  have h4 := (Nat.pow_lt_pow_iff_right (by decide : 1 < 2)).mp h3
  have := bitLen_pos hn
  omega

/-- **rounding never crosses a representable value** (upper side).  The exponent `q` of the result is at
most `g`, so `r · 2^g` lies on the grid of multiples of `2^q` and the nearest grid point does not pass it. -/
theorem roundNE_le_repr (f : Fmt) (hp : 1 ≤ f.p) (neg : Bool) (a : Nat) (e : Int) (r : Nat) (g : Int)
    (hr : r < 2 ^ f.p) (hg : f.emin ≤ g) (htop : g + (bitLen r : Int) ≤ f.etop)
    (hle : dle a e r g) :
    ∃ n q, roundNE f neg a e = .fin neg n q ∧ dle n q r g := by
  by_cases ha : a = 0
  · subst ha
    exact ⟨0, 0, by simp [roundNE], dle_zero _ _ _⟩
  have hnofl := bitLen_le_of_dle ha hle
  have hrp := bitLen_le_of_lt hr
  obtain ⟨_, hq1, hq2⟩ := expo_spec f a e
  by_cases hqe : expo f a e ≤ e
  · rw [roundNE_of_le f neg ha hqe, if_neg (by omega)]
    exact ⟨a, e, rfl, hle⟩
  · generalize hq : expo f a e = q at *
    have hd : dle (rnd a (q - e).toNat) q r g := by
      rw [dle_common e (by omega) (by omega)] at hle ⊢
      rw [Int.sub_self, Int.toNat_zero, Nat.pow_zero, Nat.mul_one] at hle
      rw [show g - e = (g - q) + (q - e) by omega, pow_toNat_add _ _ (by omega) (by omega),
        ← Nat.mul_assoc] at hle ⊢
      exact Nat.mul_le_mul_right _ (rnd_le_grid hle)
    have : ¬ (q + (bitLen (rnd a (q - e).toNat) : Int) > f.etop) := by
      by_cases hn0 : rnd a (q - e).toNat = 0
      · rw [hn0, bitLen_zero]; omega
      · have := bitLen_le_of_dle hn0 hd; omega
    exact ⟨_, q, by rw [roundNE_of_lt f neg ha (by omega), hq, if_neg this], hd⟩

/-- a finite non-negative value that is at most one (the format argument only names the context: being
representable in it is not part of the predicate). -/
def InUnit (_ : Fmt) (x : FVal) : Prop := ∃ n q, x = .fin false n q ∧ dle n q 1 0

theorem inUnit_one (f : Fmt) : InUnit f one := ⟨1, 0, rfl, dle_refl 1 0⟩
theorem inUnit_zero (f : Fmt) : InUnit f zero := ⟨0, 0, rfl, dle_zero _ _ _⟩

theorem mul_unit_le (f : Fmt) (hp : 1 ≤ f.p) (m : Nat) (e : Int) (a : Nat) (ea : Int)
    (hx : dle m e 1 0) (ha : a < 2 ^ f.p) (hea : f.emin ≤ ea) (htop : ea + (bitLen a : Int) ≤ f.etop) :
    ∃ n q, mul f (.fin false m e) (.fin false a ea) = .fin false n q ∧ dle n q a ea := by
  have hd : dle (m * a) (e + ea) a ea := by
    let c1 := min e 0
    rw [dle_common c1 (by omega) (by omega)] at hx
    rw [dle_common (ea + c1) (by omega) (by omega)]
    have e1 : e + ea - (ea + c1) = e - c1 := by omega
    have e2 : ea - (ea + c1) = 0 - c1 := by omega
    rw [e1, e2]
    simp only [Nat.one_mul] at hx
    calc m * a * 2 ^ (e - c1).toNat = (m * 2 ^ (e - c1).toNat) * a := by
          rw [Nat.mul_assoc, Nat.mul_comm a, ← Nat.mul_assoc]
      _ ≤ 2 ^ (0 - c1).toNat * a := Nat.mul_le_mul_right _ hx
      _ = a * 2 ^ (0 - c1).toNat := Nat.mul_comm _ _
  have := roundNE_le_repr f hp false (m * a) (e + ea) a ea ha hea htop hd
  simpa [mul] using this

theorem quot_le_pow {x b k q' rem : Nat} {ex eb : Int} (hb : 0 < b) (hdm : b * q' + rem = x * 2 ^ k)
    (hq1 : 1 ≤ q') (hle : dle x ex b eb) :
    ∃ t : Nat, (k : Int) + eb - ex = t ∧ q' ≤ 2 ^ t ∧ (rem ≠ 0 → q' < 2 ^ t) := by
  -- with `x · X ≤ b · B`:  `b · (q' · X) ≤ b · (2^k · B)`, strictly if `rem ≠ 0`
  have key : ∀ X B : Nat, 0 < X → x * X ≤ b * B → q' * X ≤ 2 ^ k * B ∧ (rem ≠ 0 → q' * X < 2 ^ k * B) := by
    intro X B hX h
    have h1 : (b * q' + rem) * X ≤ b * (2 ^ k * B) := by
      rw [hdm, Nat.mul_right_comm, Nat.mul_left_comm, Nat.mul_comm (2 ^ k)]
      exact Nat.mul_le_mul_right _ h
    rw [Nat.add_mul, Nat.mul_assoc] at h1
    refine ⟨Nat.le_of_mul_le_mul_left (Nat.le_trans (Nat.le_add_right _ _) h1) hb, fun hr => ?_⟩
    have : 0 < rem * X := Nat.mul_pos (Nat.pos_of_ne_zero hr) hX
    exact Nat.lt_of_mul_lt_mul_left (a := b) (by omega)
  by_cases hcase : ex ≤ eb
  · rw [dle_common ex (by omega) (by omega), Int.sub_self, Int.toNat_zero, Nat.pow_zero] at hle
    have := key 1 _ Nat.one_pos hle
    rw [Nat.mul_one, ← Nat.pow_add] at this
    exact ⟨k + (eb - ex).toNat, by omega, this⟩
  · rw [dle_common eb (by omega) (by omega), Int.sub_self, Int.toNat_zero, Nat.pow_zero] at hle
    have := key _ 1 (two_pow_pos _) hle
    rw [Nat.mul_one] at this
    generalize hu : (ex - eb).toNat = u at this
    have hule : u ≤ k := by
      apply Classical.byContradiction; intro hc
      have h1 : 2 ^ k < 2 ^ u := Nat.pow_lt_pow_right (by decide) (by omega)
      have h2 : 2 ^ u ≤ q' * 2 ^ u := Nat.le_mul_of_pos_left _ hq1
      omega
    rw [show 2 ^ k = 2 ^ (k - u) * 2 ^ u by rw [← Nat.pow_add]; congr 1; omega] at this
    exact ⟨k - u, by omega, Nat.le_of_mul_le_mul_right this.1 (two_pow_pos u),
      fun hr => Nat.lt_of_mul_lt_mul_right (this.2 hr)⟩

/-- the quotient of two non-zero finite values is ONE rounding of `2·q' + sticky`, `q'` the integer quotient taken
with `k = p + 2 + bitLen b` guard bits, so that it has more than `p + 2` bits -/
theorem div_fin (f : Fmt) (x : Nat) (ex : Int) (b : Nat) (eb : Int) (hx : x ≠ 0) (hb : b ≠ 0) :
    ∃ q' rem, b * q' + rem = x * 2 ^ (f.p + 2 + bitLen b) ∧ rem < b ∧ 2 ^ (f.p + 2) ≤ q' ∧
      div f (.fin false x ex) (.fin false b eb) =
        roundNE f false (2 * q' + if rem = 0 then 0 else 1) (ex - eb - ((f.p + 2 + bitLen b : Nat) : Int) - 1) := by
  have hbpos : 0 < b := Nat.pos_of_ne_zero hb
  refine ⟨_, _, Nat.div_add_mod _ b, Nat.mod_lt _ hbpos, ?_, by simp only [div, hb, hx, if_false]; rfl⟩
  apply (Nat.le_div_iff_mul_le hbpos).mpr
  have h1 := Nat.mul_lt_mul_of_pos_left (lt_pow_bitLen b) (two_pow_pos (f.p + 2))
  rw [← Nat.pow_add] at h1
  exact Nat.le_of_lt (Nat.lt_of_lt_of_le h1 (Nat.le_mul_of_pos_left _ (Nat.pos_of_ne_zero hx)))

theorem div_le_one (f : Fmt) (hp : 1 ≤ f.p) (hemin : f.emin ≤ 0) (hetop : 1 ≤ f.etop)
    (x : Nat) (ex : Int) (b : Nat) (eb : Int) (hb : b ≠ 0) (hle : dle x ex b eb) :
    InUnit f (div f (.fin false x ex) (.fin false b eb)) := by
  by_cases hx : x = 0
  · simp only [div, hb, hx, if_true, if_false]
    exact ⟨0, 0, by simp, dle_zero _ _ _⟩
  obtain ⟨q', rem, hdm, -, hq1, e⟩ := div_fin f x ex b eb hx hb
  rw [e]
  generalize f.p + 2 + bitLen b = k at hdm ⊢
  have hq1 : 1 ≤ q' := Nat.le_trans Nat.one_le_two_pow hq1
  have hbpos : 0 < b := Nat.pos_of_ne_zero hb
  obtain ⟨t, ht, hq2, hq3⟩ := quot_le_pow hbpos hdm hq1 hle
  have htarget : dle (2 * q' + if rem = 0 then 0 else 1) (ex - eb - (k : Int) - 1) 1 0 := by
    rw [dle_common (ex - eb - (k : Int) - 1) (by omega) (by omega), Int.sub_self, Int.toNat_zero,
      Nat.pow_zero, Nat.mul_one, Nat.one_mul,
      show (0 - (ex - eb - (k : Int) - 1)).toNat = t + 1 by omega, Nat.pow_succ]
    split
    · omega
    · rename_i h0; have := hq3 h0; omega
  have h1p : 1 < 2 ^ f.p := Nat.one_lt_two_pow (by omega)
  have hb1 : bitLen 1 = 1 := by decide
  have := roundNE_le_repr f hp false (2 * q' + if rem = 0 then 0 else 1) (ex - eb - (k : Int) - 1) 1 0
    h1p hemin (by rw [hb1]; omega) htarget
  simpa [InUnit] using this

/-- **half-ulp error of one rounding**: a finite result `n · 2^q` of rounding `a · 2^e` is either the
input itself (`q = e`, `n = a`) or has a coarser exponent `q = e + s` and `|n · 2^s − a| ≤ 2^s / 2`;
in the latter case the significand is normalised (`n ≥ 2^(p−1)`) unless `q` is the subnormal
exponent `emin`. -/
theorem roundNE_half_ulp (f : Fmt) (hp : 1 ≤ f.p) (neg : Bool) (a : Nat) (e : Int) (n : Nat) (q : Int)
    (ha : a ≠ 0) (h : roundNE f neg a e = .fin neg n q) :
    e + (bitLen a : Int) - (f.p : Int) ≤ q ∧
    ((q = e ∧ n = a) ∨
    (e < q ∧ 2 * n * 2 ^ (q - e).toNat ≤ 2 * a + 2 ^ (q - e).toNat ∧
      2 * a ≤ 2 * n * 2 ^ (q - e).toNat + 2 ^ (q - e).toNat ∧
      (2 ^ (f.p - 1) ≤ n ∨ q = f.emin))) := by
  obtain ⟨_, hq1, hq2⟩ := expo_spec f a e
  by_cases hqe : expo f a e ≤ e
  · rw [roundNE_of_le f neg ha hqe] at h
    split at h
    · cases h
    · cases h; exact ⟨by omega, Or.inl ⟨rfl, rfl⟩⟩
  · rw [roundNE_of_lt f neg ha (by omega)] at h
    split at h
    · cases h
    · cases h
      refine ⟨hq1, Or.inr ⟨by omega, (rnd_half a _).1, (rnd_half a _).2, ?_⟩⟩
      rcases hq2 with h1 | h1
      · exact Or.inr h1
      · left
        rw [show (expo f a e - e).toNat = bitLen a - f.p by omega]
        exact (rnd_bounds a f.p hp (by omega)).1

theorem div_half_arith {n s b q' rem X : Nat} (hs : 2 ≤ s) (hdm : b * q' + rem = X) (hmod : rem < b)
    (hlo : 2 * n * 2 ^ s ≤ 2 * (2 * q' + if rem = 0 then 0 else 1) + 2 ^ s)
    (hhi : 2 * (2 * q' + if rem = 0 then 0 else 1) ≤ 2 * n * 2 ^ s + 2 ^ s) :
    n * 2 ^ s * b ≤ 2 * X + 2 ^ (s - 1) * b ∧ 2 * X ≤ n * 2 ^ s * b + 2 ^ (s - 1) * b := by
  have hS : 2 ^ s = 4 * 2 ^ (s - 2) := by
    rw [show s = (s - 2) + 2 by omega, Nat.pow_add]; simp; omega
  have hS2 : 2 ^ (s - 1) = 2 * 2 ^ (s - 2) := by
    rw [show s - 1 = (s - 2) + 1 by omega, Nat.pow_succ]; omega
  rw [hS] at hlo hhi ⊢
  rw [hS2, ← hdm]
  generalize 2 ^ (s - 2) = S4 at *
  have e1 : 2 * n * (4 * S4) = 8 * (n * S4) := by rw [Nat.mul_assoc, Nat.mul_left_comm n 4 S4]; omega
  have e2 : n * (4 * S4) * b = 4 * (n * S4 * b) := by rw [Nat.mul_left_comm n 4 S4, Nat.mul_assoc]
  rw [e1] at hlo hhi
  rw [e2, Nat.mul_assoc 2 S4 b, Nat.mul_comm b q']
  generalize n * S4 = N at *
  have key : 2 * N ≤ q' + S4 ∧ (q' + if rem = 0 then 0 else 1) ≤ 2 * N + S4 := by
    by_cases hr : rem = 0
    · simp only [hr, if_true] at hlo hhi ⊢; omega
    · simp only [hr, if_false] at hlo hhi ⊢; omega
  have h1 := Nat.mul_le_mul_right b key.1
  have h2 := Nat.mul_le_mul_right b key.2
  rw [Nat.add_mul, Nat.mul_assoc] at h1
  rw [Nat.add_mul, Nat.add_mul, Nat.mul_assoc] at h2
  generalize N * b = P1 at *
  generalize q' * b = P2 at *
  generalize S4 * b = P3 at *
  split at h2
  · omega
  · rw [Nat.one_mul] at h2; omega

/-- **half-ulp error of a division**: a finite quotient `n · 2^q` of `x·2^ex / b·2^eb` (`x, b ≠ 0`)
is within `2^q / 2` of the exact rational quotient.  With `E = ex − eb − k − 1`
(`k = p + 2 + bitLen b` guard bits) the exact quotient is `(2·x·2^k / b) · 2^E`; the statement is
`|n · 2^(q−E) · b − 2·x·2^k| ≤ 2^(q−E−1) · b`, and the significand is normalised unless
`q = emin`. -/
theorem div_half_ulp (f : Fmt) (hp : 1 ≤ f.p) (x : Nat) (ex : Int) (b : Nat) (eb : Int) (n : Nat) (q : Int)
    (hx : x ≠ 0) (hb : b ≠ 0)
    (h : div f (.fin false x ex) (.fin false b eb) = .fin false n q) :
    let k := f.p + 2 + bitLen b
    let E := ex - eb - (k : Int) - 1
    E + 2 ≤ q ∧
    n * 2 ^ (q - E).toNat * b ≤ 2 * x * 2 ^ k + 2 ^ (q - E - 1).toNat * b ∧
    2 * x * 2 ^ k ≤ n * 2 ^ (q - E).toNat * b + 2 ^ (q - E - 1).toNat * b ∧
    (2 ^ (f.p - 1) ≤ n ∨ q = f.emin) := by
  intro k E
  obtain ⟨q', rem, hdm, hmod, hq1, e⟩ := div_fin f x ex b eb hx hb
  rw [e] at h
  generalize hQt : (2 * q' + if rem = 0 then 0 else 1) = Qt at h
  -- `Qt` has more than `p + 3` bits, so it is rounded at least four bits up
  have hQtbig : 2 ^ (f.p + 3) ≤ Qt := by
    rw [← hQt, Nat.pow_succ]; omega
  have hLQ : f.p + 4 ≤ bitLen Qt := by
    have h2 : 2 ^ (f.p + 3) < 2 ^ bitLen Qt := Nat.lt_of_le_of_lt hQtbig (lt_pow_bitLen Qt)
    have := (Nat.pow_lt_pow_iff_right (by decide : 1 < 2)).mp h2
    omega
  have hQt0 : Qt ≠ 0 := by have := two_pow_pos (f.p + 3); omega
  obtain ⟨hexp, hcase⟩ := roundNE_half_ulp f hp false Qt E n q hQt0 h
  rcases hcase with ⟨h1, _⟩ | ⟨_, hlo, hhi, hnorm⟩
  · omega
  rw [← hQt] at hlo hhi
  have := div_half_arith (s := (q - E).toNat) (by omega) hdm hmod hlo hhi
  rw [show (q - E - 1).toNat = (q - E).toNat - 1 by omega, Nat.mul_assoc 2 x]
  exact ⟨by omega, this.1, this.2, hnorm⟩

end FontVerif.Ieee
