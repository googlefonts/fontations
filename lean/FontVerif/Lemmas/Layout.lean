/-
Helper lemmas for C16 (Model/Layout.lean): correctness of the transcribed
`core::slice::binary_search_by` (the loop, and the search over a list with an ascending key or disjoint
ascending ranges), positions in strictly increasing lists, `sortDedup`, `CoverageFormat1::get`.
-/
import FontVerif.Model.Layout
import FontVerif.Lemmas.HandSearch
import FontVerif.Lemmas.Lists
import FontVerif.Lemmas.SortedMap
namespace FontVerif.Layout

def rank : Ordering → Nat
  | .lt => 0
  | .eq => 1
  | .gt => 2

/-- the comparison results along the slice are `Less* Equal* Greater*` -/
def Mono (n : Nat) (cmpAt : Nat → Ordering) : Prop :=
  ∀ i j, i ≤ j → j < n → rank (cmpAt i) ≤ rank (cmpAt j)

theorem rank_gt {o : Ordering} : rank o = 2 ↔ o = .gt := by cases o <;> simp [rank]
theorem rank_lt {o : Ordering} : rank o = 0 ↔ o = .lt := by cases o <;> simp [rank]
theorem rank_le_two (o : Ordering) : rank o ≤ 2 := by cases o <;> simp [rank]

theorem bsLoop_one {cmpAt : Nat → Ordering} {size base : Nat} (hs : ¬ size > 1) :
    bsLoop cmpAt size base = base := by
  rw [bsLoop, dif_neg hs]

theorem bsLoop_gt {cmpAt : Nat → Ordering} {size base : Nat} (hs : size > 1)
    (hc : cmpAt (base + size / 2) = .gt) :
    bsLoop cmpAt size base = bsLoop cmpAt (size - size / 2) base := by
  rw [bsLoop, dif_pos hs, hc]; rfl

theorem bsLoop_not_gt {cmpAt : Nat → Ordering} {size base : Nat} (hs : size > 1)
    (hc : cmpAt (base + size / 2) ≠ .gt) :
    bsLoop cmpAt size base = bsLoop cmpAt (size - size / 2) (base + size / 2) := by
  rw [bsLoop, dif_pos hs, if_neg (by simpa using hc)]

theorem bsLoop_inv {n : Nat} {cmpAt : Nat → Ordering} (hm : Mono n cmpAt) :
    ∀ size base, 1 ≤ size → base + size ≤ n → (base = 0 ∨ cmpAt base ≠ .gt) →
      (∀ j, base + size ≤ j → j < n → cmpAt j = .gt) →
      bsLoop cmpAt size base < n ∧
      (bsLoop cmpAt size base = 0 ∨ cmpAt (bsLoop cmpAt size base) ≠ .gt) ∧
      (∀ j, bsLoop cmpAt size base < j → j < n → cmpAt j = .gt) := by
  intro size
  induction size using Nat.strongRecOn with
  | _ size ih =>
    intro base h1 hle hb hgt
    by_cases hs : size > 1
    · have hlt : size - size / 2 < size := Nat.sub_lt (by omega) (Nat.div_pos (by omega) (by decide))
      have hhalf : base + size / 2 + (size - size / 2) = base + size := by omega
      by_cases hc : cmpAt (base + size / 2) = .gt
      · rw [bsLoop_gt hs hc]
        refine ih _ hlt base (by omega) (by omega) hb fun j hj hjn => ?_
        have := hm (base + size / 2) j (by omega) hjn
        rw [hc] at this
        exact rank_gt.mp (Nat.le_antisymm (rank_le_two _) this)
      · rw [bsLoop_not_gt hs hc]
        exact ih _ hlt (base + size / 2) (by omega) (by omega) (Or.inr hc)
          fun j hj hjn => hgt j (by omega) hjn
    · rw [bsLoop_one hs]
      exact ⟨by omega, hb, fun j hj hjn => hgt j (by omega) hjn⟩

theorem bs_err {n : Nat} {cmpAt : Nat → Ordering} (hm : Mono n cmpAt) {i : Nat}
    (h : binarySearchBy n cmpAt = .err i) :
    i ≤ n ∧ (∀ j, j < i → cmpAt j = .lt) ∧ (∀ j, i ≤ j → j < n → cmpAt j = .gt) := by
  unfold binarySearchBy at h
  by_cases hn : n = 0
  · simp [hn] at h
    subst h; subst hn
    exact ⟨by omega, fun j hj => by omega, fun j _ hj => by omega⟩
  · simp only [hn, ↓reduceIte] at h
    have inv := bsLoop_inv hm n 0 (by omega) (by omega) (Or.inl rfl) (fun j hj hjn => by omega)
    generalize bsLoop cmpAt n 0 = b at h inv
    cases hc : cmpAt b <;> simp [hc] at h
    · subst h
      refine ⟨by omega, fun j hj => ?_, fun j hj hjn => inv.2.2 j (by omega) hjn⟩
      have := hm j b (by omega) inv.1
      rw [hc] at this
      have h3 : rank Ordering.lt = 0 := rfl
      exact rank_lt.mp (by omega)
    · subst h
      have hb0 : b = 0 := by
        rcases inv.2.1 with h0 | h0
        · exact h0
        · exact absurd hc h0
      subst hb0
      refine ⟨by omega, fun j hj => by omega, fun j hj hjn => ?_⟩
      by_cases hj0 : j = 0
      · subst hj0; exact hc
      · exact inv.2.2 j (by omega) hjn

theorem bs_err_no_eq {n : Nat} {cmpAt : Nat → Ordering} (hm : Mono n cmpAt) {i : Nat}
    (h : binarySearchBy n cmpAt = .err i) (j : Nat) (hj : j < n) : cmpAt j ≠ .eq := by
  have ⟨_, hl, hg⟩ := bs_err hm h
  by_cases hji : j < i
  · rw [hl j hji]; decide
  · rw [hg j (by omega) hj]; decide


theorem natCmp_lt {a b : Nat} : natCmp a b = .lt ↔ a < b := Nat.compare_eq_lt

theorem natCmp_gt {a b : Nat} : natCmp a b = .gt ↔ b < a := Nat.compare_eq_gt

theorem rank_natCmp_mono {a b g : Nat} (h : a ≤ b) : rank (natCmp a g) ≤ rank (natCmp b g) := by
  by_cases hb : b < g
  · rw [show natCmp a g = .lt from if_pos (by omega)]
    exact Nat.zero_le _
  · by_cases ha : a < g
    · rw [show natCmp a g = .lt from if_pos ha]
      exact Nat.zero_le _
    · -- `g ≤ a ≤ b`: `b` compares `Greater` unless both equal `g`
      by_cases hbg : b = g
      · rw [natCmp, natCmp, if_neg ha, if_neg hb, if_pos hbg, if_pos (by omega)]
        exact Nat.le_refl _
      · rw [show natCmp b g = .gt by rw [natCmp, if_neg hb, if_neg hbg]]
        exact rank_le_two _

/-! ## the search over a list whose comparison results are `Less* Equal? Greater*`, as a strictly ascending key
or disjoint ascending ranges give: it finds the one `Equal` element and fails when there is none -/

theorem pairwise_unique {α : Type} {l : List α} {R : α → α → Prop} {P : α → Prop}
    (hp : l.Pairwise R) (hex : ∀ a b, R a b → P a → P b → False) :
    ∀ i j (hi : i < l.length) (hj : j < l.length), P l[i] → P l[j] → i = j := by
  intro i j hi hj h1 h2
  have hq := List.pairwise_iff_getElem.1 hp
  rcases Nat.lt_trichotomy i j with h | h | h
  · exact (hex _ _ (hq i j hi hj h) h1 h2).elim
  · exact h
  · exact (hex _ _ (hq j i hj hi h) h2 h1).elim

theorem bs_list {α : Type} (l : List α) (d : α) (cmp : α → Ordering)
    (hm : Mono l.length (fun i => cmp (l[i]?.getD d)))
    (huniq : ∀ i j (hi : i < l.length) (hj : j < l.length), cmp l[i] = .eq → cmp l[j] = .eq → i = j) :
    (∀ j (hj : j < l.length), cmp l[j] = .eq →
      binarySearchBy l.length (fun i => cmp (l[i]?.getD d)) = .ok j) ∧
    ((∀ x ∈ l, cmp x ≠ .eq) → ∃ i, binarySearchBy l.length (fun i => cmp (l[i]?.getD d)) = .err i) := by
  have hat : ∀ i (hi : i < l.length), cmp (l[i]?.getD d) = cmp l[i] := by
    intro i hi; simp [List.getElem?_eq_getElem hi]
  constructor
  · intro j hj hje
    cases hr : binarySearchBy l.length (fun i => cmp (l[i]?.getD d)) with
    | ok i =>
      obtain ⟨hi, hie⟩ := BinSearch.ok_lt hr
      rw [hat i hi] at hie
      rw [huniq i j hi hj hie hje]
    | err i =>
      have := bs_err_no_eq hm hr j hj
      rw [hat j hj] at this
      exact absurd hje this
  · intro hno
    cases hr : binarySearchBy l.length (fun i => cmp (l[i]?.getD d)) with
    | ok i =>
      obtain ⟨hi, hie⟩ := BinSearch.ok_lt hr
      rw [hat i hi] at hie
      exact absurd hie (hno _ (List.getElem_mem hi))
    | err i => exact ⟨i, rfl⟩

theorem mono_of_pairwise {α : Type} (l : List α) (d : α) (cmp : α → Ordering) {R : α → α → Prop}
    (hs : l.Pairwise R) (hR : ∀ a b, R a b → rank (cmp a) ≤ rank (cmp b)) :
    Mono l.length (fun i => cmp (l[i]?.getD d)) := by
  intro i j hij hj
  have hi : i < l.length := by omega
  simp only [List.getElem?_eq_getElem hi, List.getElem?_eq_getElem hj, Option.getD_some]
  rcases Nat.lt_or_ge i j with h | h
  · exact hR _ _ (List.pairwise_iff_getElem.1 hs i j hi hj h)
  · have : i = j := by omega
    subst this
    exact Nat.le_refl _

theorem mono_natCmp {α : Type} (l : List α) (d : α) (key : α → Nat) (x : Nat)
    (hs : l.Pairwise (fun a b => key a < key b)) :
    Mono l.length (fun i => natCmp (key (l[i]?.getD d)) x) :=
  mono_of_pairwise l d (fun a => natCmp (key a) x) hs (fun _ _ h => rank_natCmp_mono (Nat.le_of_lt h))

theorem key_unique {α : Type} {l : List α} {key : α → Nat} (x : Nat)
    (hs : l.Pairwise (fun a b => key a < key b)) :
    ∀ i j (hi : i < l.length) (hj : j < l.length),
      natCmp (key l[i]) x = .eq → natCmp (key l[j]) x = .eq → i = j :=
  pairwise_unique (P := fun a => natCmp (key a) x = .eq) hs (fun a b h h1 h2 => by
    rw [natCmp_eq] at h1 h2; omega)

/-- `match search { Ok(i) => i, Err(i) => i - 1 }` over ascending keys is the last element whose key is at most `x`:
if that is `l[j]`, the search answers `Ok(j)` or `Err(j + 1)` -/
theorem bs_pred {α : Type} {l : List α} (d : α) {key : α → Nat} {x : Nat}
    (hs : l.Pairwise (fun a b => key a < key b)) {j : Nat} (hj : j < l.length) (hle : key l[j] ≤ x)
    (hnext : ∀ (h : j + 1 < l.length), x < key l[j + 1]) :
    binarySearchBy l.length (fun i => natCmp (key (l[i]?.getD d)) x) = .ok j ∨
    binarySearchBy l.length (fun i => natCmp (key (l[i]?.getD d)) x) = .err (j + 1) := by
  have hat : ∀ i (hi : i < l.length), l[i]?.getD d = l[i] := fun i hi => by
    rw [List.getElem?_eq_getElem hi]; rfl
  -- keys before `l[j]` are below `x`, keys after it above
  have hlo : ∀ i (hi : i < l.length), i < j → key l[i] < x := fun i hi h =>
    Nat.lt_of_lt_of_le (List.pairwise_iff_getElem.mp hs i j hi hj h) hle
  have hhi : ∀ i (hi : i < l.length), j < i → x < key l[i] := fun i hi h => by
    have h1 := hnext (Nat.lt_of_le_of_lt h hi)
    rcases Nat.eq_or_lt_of_le (Nat.succ_le_of_lt h) with e | h'
    · subst e; exact h1
    · exact Nat.lt_trans h1 (List.pairwise_iff_getElem.mp hs (j + 1) i _ hi h')
  cases hr : binarySearchBy l.length (fun i => natCmp (key (l[i]?.getD d)) x) with
  | ok i =>
    obtain ⟨hi, he⟩ := BinSearch.ok_lt hr
    simp only [hat i hi, natCmp_eq] at he
    rcases Nat.lt_trichotomy i j with h | h | h
    · exact absurd he (Nat.ne_of_lt (hlo i hi h))
    · rw [h]; exact Or.inl rfl
    · exact absurd he.symm (Nat.ne_of_lt (hhi i hi h))
  | err i =>
    obtain ⟨hile, hl, hg⟩ := bs_err (mono_natCmp l d key x hs) hr
    have h1 : j < i := Nat.lt_of_not_le fun hn => by
      have := hg j hn hj
      simp only [hat j hj, natCmp_gt] at this
      exact Nat.lt_irrefl _ (Nat.lt_of_lt_of_le this hle)
    have h2 : i ≤ j + 1 := Nat.le_of_not_lt fun hn => by
      have hj1 : j + 1 < l.length := Nat.lt_of_lt_of_le hn hile
      have := hl (j + 1) hn
      simp only [hat (j + 1) hj1, natCmp_lt] at this
      exact Nat.lt_asymm this (hnext hj1)
    rw [Nat.le_antisymm h2 h1]; exact Or.inr rfl

theorem indexIn_none {g : Nat} {xs : List Nat} (h : g ∉ xs) : indexIn g xs = none := by
  induction xs with
  | nil => rfl
  | cons x xs ih =>
    simp only [List.mem_cons, not_or] at h
    have hx : ¬ x = g := fun e => h.1 e.symm
    simp [indexIn, hx, ih h.2]

theorem indexIn_getElem? {g i : Nat} {xs : List Nat} (h : indexIn g xs = some i) :
    xs[i]? = some g := by
  induction xs generalizing i with
  | nil => simp [indexIn] at h
  | cons x xs ih =>
    unfold indexIn at h
    by_cases hx : x = g
    · simp [hx] at h; subst h; simp [hx]
    · simp only [hx, ↓reduceIte, Option.map_eq_some_iff] at h
      obtain ⟨k, hk, rfl⟩ := h
      simp [ih hk]

theorem indexIn_of_mem {g : Nat} {xs : List Nat} (h : g ∈ xs) : ∃ i, indexIn g xs = some i := by
  induction xs with
  | nil => cases h
  | cons x xs ih =>
    by_cases hx : x = g
    · exact ⟨0, by simp [indexIn, hx]⟩
    · rcases List.mem_cons.mp h with h | h
      · exact absurd h.symm hx
      · obtain ⟨i, hi⟩ := ih h
        exact ⟨i + 1, by simp [indexIn, hx, hi]⟩

theorem indexIn_mem {g i : Nat} {xs : List Nat} (h : indexIn g xs = some i) : g ∈ xs :=
  List.mem_of_getElem? (indexIn_getElem? h)

theorem indexIn_eq_none_iff {g : Nat} {xs : List Nat} : indexIn g xs = none ↔ g ∉ xs := by
  refine ⟨fun h hm => ?_, indexIn_none⟩
  obtain ⟨i, hi⟩ := indexIn_of_mem hm
  rw [h] at hi; cases hi

theorem indexIn_of_getElem? {g i : Nat} {xs : List Nat} (hn : xs.Pairwise (· ≠ ·))
    (h : xs[i]? = some g) : indexIn g xs = some i := by
  induction xs generalizing i with
  | nil => simp at h
  | cons x xs ih =>
    rw [List.pairwise_cons] at hn
    cases i with
    | zero => simp at h; simp [indexIn, h]
    | succ k =>
      simp only [List.getElem?_cons_succ] at h
      have hmem : g ∈ xs := List.mem_of_getElem? h
      have hx : ¬ x = g := hn.1 g hmem
      simp [indexIn, hx, ih hn.2 h]

theorem indexIn_append (g : Nat) (a b : List Nat) :
    indexIn g (a ++ b) =
      match indexIn g a with
      | some i => some i
      | none => (indexIn g b).map (· + a.length) := by
  induction a with
  | nil => simp [indexIn]
  | cons x xs ih =>
    by_cases hx : x = g
    · simp [indexIn, hx]
    · simp only [List.cons_append, indexIn, hx, ↓reduceIte, ih, List.length_cons]
      cases indexIn g xs with
      | some i => simp
      | none =>
        cases indexIn g b with
        | some j => simp; omega
        | none => simp

theorem indexIn_range' (g s n : Nat) :
    indexIn g (List.range' s n) = if s ≤ g ∧ g < s + n then some (g - s) else none := by
  induction n generalizing s with
  | zero => simp [indexIn]
  | succ n ih =>
    rw [List.range'_succ]
    unfold indexIn
    by_cases hs : s = g
    · subst hs; simp
    · simp only [hs, ↓reduceIte, ih]
      by_cases h : s + 1 ≤ g ∧ g < s + 1 + n
      · have h' : s ≤ g ∧ g < s + (n + 1) := by omega
        simp only [h, h']; simp; omega
      · have h' : ¬ (s ≤ g ∧ g < s + (n + 1)) := by omega
        simp [h, h']

theorem indexIn_eq_some_iff {g i : Nat} {xs : List Nat} (hn : xs.Pairwise (· ≠ ·)) :
    indexIn g xs = some i ↔ xs[i]? = some g :=
  ⟨indexIn_getElem?, indexIn_of_getElem? hn⟩

theorem indexIn_slice {g s e : Nat} {xs : List Nat} (hn : xs.Pairwise (· ≠ ·)) :
    indexIn g ((xs.drop s).take (e - s)) =
      ((indexIn g xs).filter (fun i => decide (s ≤ i ∧ i < e))).map (· - s) := by
  have hsl : ((xs.drop s).take (e - s)).Pairwise (· ≠ ·) :=
    (hn.sublist (List.drop_sublist s xs)).sublist (List.take_sublist _ _)
  -- both sides answer `j` exactly when `j < e - s` and `xs[s + j] = g`
  refine Option.ext fun j => ?_
  rw [indexIn_eq_some_iff hsl, List.getElem?_take, List.getElem?_drop]
  simp only [Option.map_eq_some_iff, Option.filter_eq_some_iff, decide_eq_true_eq]
  constructor
  · intro h
    by_cases hj : j < e - s
    · rw [if_pos hj] at h
      exact ⟨s + j, ⟨(indexIn_eq_some_iff hn).mpr h, by omega, by omega⟩, by omega⟩
    · rw [if_neg hj] at h; cases h
  · rintro ⟨i, ⟨hi, h1, h2⟩, rfl⟩
    rw [if_pos (by omega), show s + (i - s) = i by omega]
    exact indexIn_getElem? hi

theorem insertUniq_eq (g : Nat) : ∀ xs : List Nat, insertUniq g xs = SSet.insert g xs
  | [] => rfl
  | x :: xs => by rw [insertUniq, SSet.insert_cons, insertUniq_eq g xs]

theorem mem_insertUniq {g y : Nat} {xs : List Nat} : y ∈ insertUniq g xs ↔ y = g ∨ y ∈ xs :=
  insertUniq_eq g xs ▸ SSet.mem_insert

theorem insertUniq_pairwise {g : Nat} {xs : List Nat} (h : xs.Pairwise (· < ·)) :
    (insertUniq g xs).Pairwise (· < ·) :=
  insertUniq_eq g xs ▸ SSet.insert_sorted g h

theorem sortDedup_pairwise (gs : List Nat) : (sortDedup gs).Pairwise (· < ·) := by
  induction gs with
  | nil => simp [sortDedup]
  | cons g gs ih => exact insertUniq_pairwise ih

theorem mem_sortDedup {g : Nat} {gs : List Nat} : g ∈ sortDedup gs ↔ g ∈ gs := by
  induction gs with
  | nil => simp [sortDedup]
  | cons x gs ih =>
    show g ∈ insertUniq x (sortDedup gs) ↔ _
    rw [mem_insertUniq, ih]; simp

theorem sortDedup_of_sorted {xs : List Nat} (h : xs.Pairwise (· < ·)) : sortDedup xs = xs := by
  induction xs with
  | nil => rfl
  | cons x xs ih =>
    rw [List.pairwise_cons] at h
    show insertUniq x (sortDedup xs) = x :: xs
    rw [ih h.2]
    cases xs with
    | nil => rfl
    | cons y ys =>
      have : x < y := h.1 y (List.mem_cons_self ..)
      simp [insertUniq, this]

theorem areSequential_iff (b g : Nat) : areSequential b g = true ↔ g = b + 1 := by
  unfold areSequential
  simp only [beq_iff_eq]
  omega

/-- `CoverageFormat1::get` on a strictly increasing glyph array is "position in the array" -/
theorem get_fmt1 {xs : List Nat} (hs : xs.Pairwise (· < ·)) (hb : ∀ x ∈ xs, x < 65536) (g : Nat) :
    (Coverage.fmt1 xs).get g = indexIn g xs := by
  simp only [Coverage.get]
  by_cases hg : g ≥ 65536
  · rw [if_pos hg]
    exact (indexIn_none (fun hm => by have := hb g hm; omega)).symm
  · rw [if_neg hg]
    obtain ⟨hit, miss⟩ := bs_list xs 0 (natCmp · g) (mono_natCmp xs 0 id g hs) (key_unique (key := id) g hs)
    simp only [← List.getD_eq_getElem?_getD] at hit miss
    by_cases hm : g ∈ xs
    · obtain ⟨k, hk, hgk⟩ := List.getElem_of_mem hm
      rw [hit k hk (natCmp_eq.mpr hgk),
        indexIn_of_getElem? (hs.imp Nat.ne_of_lt) (hgk ▸ List.getElem?_eq_getElem hk)]
    · obtain ⟨i, hi⟩ := miss fun x hx he => hm (natCmp_eq.mp he ▸ hx)
      rw [hi, indexIn_none hm]

end FontVerif.Layout
