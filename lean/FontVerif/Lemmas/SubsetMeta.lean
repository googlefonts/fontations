/-
OS/2, name and the post header (Props/C17Meta.lean): what `patch` does to a byte and to a u16 field, which bits
`newRanges` sets, the stages of `subsetOs2`, and the string packing of the name table (a packed string is found at
its offset in the storage area).
-/
import FontVerif.Model.SubsetMeta
import FontVerif.Lemmas.Base
import FontVerif.Lemmas.SortedMap
namespace FontVerif.SubsetMeta
open FontVerif.Subset

theorem patch_length (d : Bytes) (pos : Nat) (v : Bytes) (h : pos + v.length ≤ d.length) :
    (patch d pos v).length = d.length := by
  unfold patch
  simp only [List.length_append, List.length_take, List.length_drop]
  omega

theorem patch_get (d : Bytes) (pos : Nat) (v : Bytes) (i : Nat) (h : pos + v.length ≤ d.length) :
    (patch d pos v)[i]? = if pos ≤ i ∧ i < pos + v.length then v[i - pos]? else d[i]? := by
  have hp : (d.take pos).length = pos := by rw [List.length_take]; omega
  unfold patch
  by_cases h1 : i < pos
  · rw [if_neg (by omega), List.append_assoc, List.getElem?_append_left (by omega), List.getElem?_take_of_lt h1]
  · by_cases h2 : i < pos + v.length
    · rw [if_pos ⟨by omega, h2⟩, List.append_assoc, List.getElem?_append_right (by omega), hp,
        List.getElem?_append_left (by omega)]
    · rw [if_neg (by omega), List.getElem?_append_right (by rw [List.length_append, hp]; omega),
        List.length_append, hp, List.getElem?_drop]
      congr 1; omega

theorem patch_zero (d v : Bytes) : patch d 0 v = v ++ d.drop v.length := by
  unfold patch; rw [List.take_zero, List.nil_append, Nat.zero_add]

theorem u16At_of_getElem? (a b : Bytes) (i j : Nat) (h0 : a[i]? = b[j]?) (h1 : a[i + 1]? = b[j + 1]?) :
    u16At a i = u16At b j := by
  simp only [u16At, List.getD_eq_getElem?_getD, h0, h1]

theorem u16At_patch_ne (d : Bytes) (pos : Nat) (v : Bytes) (i : Nat) (h : pos + v.length ≤ d.length)
    (hi : i + 1 < pos ∨ pos + v.length ≤ i) : u16At (patch d pos v) i = u16At d i :=
  u16At_of_getElem? _ _ i i (by rw [patch_get _ _ _ _ h, if_neg (by omega)])
    (by rw [patch_get _ _ _ _ h, if_neg (by omega)])

theorem u16At_patch_be16 (d : Bytes) (pos v : Nat) (h : pos + 2 ≤ d.length) (hv : v < 65536) :
    u16At (patch d pos (be16 v)) pos = v := by
  have e0 := patch_get d pos (be16 v) pos h
  have e1 := patch_get d pos (be16 v) (pos + 1) h
  rw [if_pos ⟨Nat.le_refl _, by show pos < pos + 2; omega⟩, Nat.sub_self] at e0
  rw [if_pos ⟨by omega, by show pos + 1 < pos + 2; omega⟩, Nat.add_sub_cancel_left] at e1
  simp only [u16At, List.getD_eq_getElem?_getD, e0, e1]
  show v / 256 % 256 * 256 + v % 256 = v
  omega

theorem newRanges_length (us : List Nat) : (newRanges us).length = 4 := by simp [newRanges]

theorem rangeMaskBytes_length (us : List Nat) : (rangeMaskBytes us).length = 16 := by
  unfold rangeMaskBytes
  have h := newRanges_length us
  match hm : newRanges us, h with
  | [a, b, c, d], _ => simp [be32]

theorem foldl_or_testBit (w b : Nat) : ∀ (ms : List (Nat × Nat)) (acc : Nat),
    (ms.foldl (fun acc m => if m.1 = w then acc ||| m.2 else acc) acc).testBit b =
      (acc.testBit b || ms.any (fun m => decide (m.1 = w) && m.2.testBit b)) := by
  intro ms
  induction ms with
  | nil => intro acc; simp
  | cons m rest ih =>
    intro acc
    simp only [List.foldl_cons, List.any_cons]
    rw [ih]
    by_cases hm : m.1 = w
    · simp [hm, Nat.testBit_or, Bool.or_assoc]
    · simp [hm]

theorem testBit_one_shiftLeft (k b : Nat) : (1 <<< k).testBit b = decide (k = b) := by
  rw [Nat.one_shiftLeft, Nat.testBit_two_pow]

theorem mem_cpMasks (cp w m : Nat) : (w, m) ∈ cpMasks cp ↔
    (∃ bit, unicodeRangeBit cp = some bit ∧ bit < 128 ∧ w = bit / 32 ∧ m = 1 <<< (bit % 32)) ∨
    (0x10000 ≤ cp ∧ cp ≤ 0x110000 ∧ w = 1 ∧ m = 1 <<< 25) := by
  unfold cpMasks
  rw [List.mem_append]
  constructor
  · rintro (h | h)
    · left
      split at h
      · rename_i bit hb
        split at h
        · rename_i hlt
          simp at h
          exact ⟨bit, hb, hlt, h.1, h.2⟩
        · simp at h
      · simp at h
    · right
      split at h
      · rename_i hc
        simp at h
        exact ⟨hc.1, hc.2, h.1, h.2⟩
      · simp at h
  · rintro (⟨bit, hb, hlt, hw, hm⟩ | ⟨h1, h2, hw, hm⟩)
    · left
      rw [hb]
      simp [hlt, hw, hm]
    · right
      rw [if_pos ⟨h1, h2⟩]
      simp [hw, hm]

theorem newRanges_bit (us : List Nat) (w b : Nat) (hw : w < 4) :
    ((newRanges us).getD w 0).testBit b = true ↔
      ∃ cp ∈ us, (∃ bit, unicodeRangeBit cp = some bit ∧ bit < 128 ∧ bit / 32 = w ∧ bit % 32 = b) ∨
        (w = 1 ∧ b = 25 ∧ 0x10000 ≤ cp ∧ cp ≤ 0x110000) := by
  have hget : (newRanges us).getD w 0 =
      (us.flatMap cpMasks).foldl (fun acc m => if m.1 = w then acc ||| m.2 else acc) 0 := by
    unfold newRanges
    simp [List.getD_eq_getElem?_getD, hw]
  rw [hget, foldl_or_testBit]
  simp only [Nat.zero_testBit, Bool.false_or, List.any_eq_true, Bool.and_eq_true, decide_eq_true_eq]
  constructor
  · rintro ⟨m, hm, hmw, hmb⟩
    obtain ⟨cp, hcp, hmem⟩ := List.mem_flatMap.mp hm
    refine ⟨cp, hcp, ?_⟩
    have hm' : (m.1, m.2) ∈ cpMasks cp := by simpa using hmem
    rcases (mem_cpMasks cp m.1 m.2).mp hm' with ⟨bit, h1, h2, h3, h4⟩ | ⟨h1, h2, h3, h4⟩
    · left
      rw [h4, testBit_one_shiftLeft] at hmb
      exact ⟨bit, h1, h2, by omega, by simpa using hmb⟩
    · right
      rw [h4, testBit_one_shiftLeft] at hmb
      have hb25 : 25 = b := by simpa using hmb
      exact ⟨by omega, hb25.symm, h1, h2⟩
  · rintro ⟨cp, hcp, (⟨bit, h1, h2, h3, h4⟩ | ⟨h1, h2, h3, h4⟩)⟩
    · refine ⟨(w, 1 <<< b), List.mem_flatMap.mpr ⟨cp, hcp, ?_⟩, rfl, ?_⟩
      · exact (mem_cpMasks cp w _).mpr (Or.inl ⟨bit, h1, h2, h3.symm, by rw [h4]⟩)
      · rw [testBit_one_shiftLeft]; simp
    · refine ⟨(w, 1 <<< b), List.mem_flatMap.mpr ⟨cp, hcp, ?_⟩, rfl, ?_⟩
      · exact (mem_cpMasks cp w _).mpr (Or.inr ⟨h3, h4, h1, by rw [h2]⟩)
      · rw [testBit_one_shiftLeft]; simp

theorem subsetOs2_ok (flags minCp maxCp : Nat) (us : List Nat) (t out : Bytes)
    (h : subsetOs2 flags minCp maxCp us t = .ok out) :
    78 ≤ t.length ∧ ∃ t2 : Bytes, t2.length = t.length ∧
    (∀ i, ¬ (64 ≤ i ∧ i < 68) → t2[i]? = t[i]?) ∧
    u16At t2 64 = min minCp 0xFFFF ∧ u16At t2 66 = min maxCp 0xFFFF ∧
    (hasFlag flags F_NO_PRUNE_UNICODE_RANGES = true → out = t2) ∧
    (hasFlag flags F_NO_PRUNE_UNICODE_RANGES = false → ∃ masked : Bytes, masked.length = 16 ∧
      out = patch t2 42 masked ∧
      ∀ i, i < 16 → masked[i]? = some (t2.getD (42 + i) 0 &&& (rangeMaskBytes us).getD i 0)) := by
  unfold subsetOs2 at h
  obtain ⟨hl, h⟩ := Do.guard_ok (k := fun _ => _) h
  extract_lets t1 t2 at h
  have l1 : t1.length = t.length := patch_length _ _ _ (by show 64 + 2 ≤ _; omega)
  have l2 : t2.length = t.length := (patch_length _ _ _ (by show 66 + 2 ≤ _; omega)).trans l1
  refine ⟨by omega, t2, l2, ?_, ?_, u16At_patch_be16 t1 66 _ (by omega) (by omega), ?_, ?_⟩
  · intro i hi
    show (patch t1 66 _)[i]? = _
    rw [patch_get _ _ _ _ (by show 66 + 2 ≤ _; omega), if_neg (by show ¬ (66 ≤ i ∧ i < 66 + 2); omega)]
    show (patch t 64 _)[i]? = _
    rw [patch_get _ _ _ _ (by show 64 + 2 ≤ _; omega), if_neg (by show ¬ (64 ≤ i ∧ i < 64 + 2); omega)]
  · exact (u16At_patch_ne t1 66 _ 64 (by show 66 + 2 ≤ _; omega) (Or.inl (by omega))).trans
      (u16At_patch_be16 t 64 _ (by omega) (by omega))
  · intro hf
    rw [if_pos hf] at h
    exact (Except.ok.inj h).symm
  · intro hf
    rw [if_neg (by rw [hf]; decide)] at h
    have hm : (List.zipWith (fun a b => a &&& b) ((t2.drop 42).take 16) (rangeMaskBytes us)).length = 16 := by
      simp [rangeMaskBytes_length]; omega
    refine ⟨_, hm, (Except.ok.inj h).symm, fun i hi => ?_⟩
    have hti : 42 + i < t2.length := by omega
    have hmi : i < (rangeMaskBytes us).length := by rw [rangeMaskBytes_length]; exact hi
    rw [List.getElem?_zipWith, List.getElem?_take_of_lt hi, List.getElem?_drop, List.getD_eq_getElem?_getD,
      List.getD_eq_getElem?_getD, List.getElem?_eq_getElem hti, List.getElem?_eq_getElem hmi]
    rfl

theorem foldl_min_spec (l : List Nat) (a : Nat) : (l.foldl min a = a ∨ l.foldl min a ∈ l) ∧
    l.foldl min a ≤ a ∧ ∀ c ∈ l, l.foldl min a ≤ c :=
  foldl_select min (· ≤ ·) (fun a x => by omega) (fun a x => Nat.min_le_left a x) (fun a x => Nat.min_le_right a x)
    (fun _ _ _ => Nat.le_trans) Nat.le_refl l a

theorem nameKeyLe_trans (a b c : NameRec) (h1 : nameKeyLe a b = true) (h2 : nameKeyLe b c = true) :
    nameKeyLe a c = true := by
  simp only [nameKeyLe, decide_eq_true_eq] at *
  exact List.le_trans h1 h2

theorem nameKeyLe_total (a b : NameRec) : nameKeyLe a b = true ∨ nameKeyLe b a = true := by
  simp only [nameKeyLe, decide_eq_true_eq]
  exact List.le_total _ _

theorem sortRecs_eq : ∀ (l : List NameRec), sortRecs l = l.foldr (SSort.insertBy nameKeyLe) []
  | [] => rfl
  | r :: rest => by
    have ins : ∀ (l : List NameRec), insertRec r l = SSort.insertBy nameKeyLe r l := by
      intro l
      induction l with
      | nil => rfl
      | cons y ys ih => rw [insertRec, SSort.insertBy_cons, ih]
    rw [sortRecs, ins, sortRecs_eq rest]; rfl

theorem sortRecs_perm (l : List NameRec) : (sortRecs l).Perm l := by
  rw [sortRecs_eq]; exact SSort.foldr_insertBy_perm nameKeyLe l

theorem sortRecs_sorted (l : List NameRec) : (sortRecs l).Pairwise (fun a b => nameKeyLe a b = true) := by
  rw [sortRecs_eq]; exact SSort.foldr_insertBy_sorted nameKeyLe nameKeyLe_total nameKeyLe_trans l

theorem packString_mem (p : Packed) (s : Bytes) : s ∈ packString p s := by
  unfold packString
  split
  · rename_i h; simpa using h
  · simp

theorem packString_mono (p : Packed) (s x : Bytes) (h : x ∈ p) : x ∈ packString p s := by
  unfold packString
  split
  · exact h
  · simp [h]

theorem packString_nodup (p : Packed) (s : Bytes) (h : p.Nodup) : (packString p s).Nodup := by
  unfold packString
  split
  · exact h
  · rename_i hc
    have hc' : s ∉ p := by simpa using hc
    exact nodup_concat h hc'

theorem packAll_spec : ∀ (kept : List NameRec) (p p' : Packed), packAll kept p = some p' → p.Nodup →
    p'.Nodup ∧ (∀ x ∈ p, x ∈ p') ∧ ∀ r ∈ kept, r.len ≠ 0 → ∃ s, r.str = some s ∧ s ∈ p' := by
  intro kept
  induction kept with
  | nil => intro p p' h hn; simp [packAll] at h; subst h; exact ⟨hn, fun _ hx => hx, by simp⟩
  | cons r rest ih =>
    intro p p' h hn
    unfold packAll at h
    split at h
    · rename_i hz
      obtain ⟨a, b, c⟩ := ih p p' h hn
      refine ⟨a, b, ?_⟩
      intro r' hr' hne
      rcases List.mem_cons.mp hr' with rfl | hr'
      · exact absurd hz hne
      · exact c r' hr' hne
    · split at h
      · cases h
      · rename_i s hs
        obtain ⟨a, b, c⟩ := ih _ p' h (packString_nodup p s hn)
        refine ⟨a, fun x hx => b x (packString_mono p s x hx), ?_⟩
        intro r' hr' hne
        rcases List.mem_cons.mp hr' with rfl | hr'
        · exact ⟨s, hs, b s (packString_mem p s)⟩
        · exact c r' hr' hne

theorem dropWhile_ne (s : Bytes) : ∀ (a b : List Bytes), (∀ x ∈ a, x ≠ s) →
    (a ++ s :: b).dropWhile (· != s) = s :: b := by
  intro a
  induction a with
  | nil => intro b _; simp
  | cons x xs ih =>
    intro b h
    have hx : x ≠ s := h x (by simp)
    simp only [List.cons_append, List.dropWhile]
    have : (x != s) = true := by simpa using hx
    rw [this]
    exact ih b (fun y hy => h y (by simp [hy]))

theorem foldl_len (b : List Bytes) : ∀ (acc : Nat), b.foldl (fun acc x => acc + x.length) acc =
    acc + (b.reverse.flatMap id).length := by
  induction b with
  | nil => intro acc; simp
  | cons x xs ih =>
    intro acc
    simp only [List.foldl_cons, ih, List.reverse_cons, List.flatMap_append, List.length_append]
    simp
    omega

theorem storage_at (p : Packed) (s : Bytes) (hn : p.Nodup) (hs : s ∈ p) :
    ∃ rest, (storageBytes p).drop (packedOffset p s) = s ++ rest := by
  obtain ⟨a, b, e⟩ := List.append_of_mem hs
  subst e
  have hna : ∀ x ∈ a, x ≠ s := by
    intro x hx hxs
    subst hxs
    rw [List.nodup_append] at hn
    exact hn.2.2 x hx x (by simp) rfl
  unfold packedOffset storageBytes
  rw [dropWhile_ne s a b hna]
  simp only [List.drop_succ_cons, List.drop_zero]
  rw [foldl_len b 0]
  simp only [Nat.zero_add, List.reverse_append, List.reverse_cons, List.flatMap_append, List.append_assoc]
  refine ⟨(a.reverse.flatMap id), ?_⟩
  rw [List.drop_left' rfl]
  simp

theorem ok_of_toOption {ε α : Type} (e : Except ε α) (x : α) (h : e.toOption = some x) : e = .ok x :=
  FontVerif.ok_of_toOption e x h

end FontVerif.SubsetMeta
