/- C04: the induction behind the round-trip theorems of Props/C04.lean (statement by statement: what the writer put
at a position is what the reader's getter returns there; the running invariant ties every count field already
written to the length of its array). -/
import FontVerif.Lemmas.Field

namespace FontVerif.C04
open FontVerif.Field

/-- every count field already written holds the (scaled) length of its array -/
def Inv (pre : List WF) (o : Obj) (view : View) : Prop :=
  (∀ p ∈ pre, ∀ g arr a b, isCountFor g arr a b p = true →
    ∃ xs, o.get arr = .arr xs ∧ numAt view g = a * xs.length + b) ∧
  (∀ p ∈ pre, ∀ g, isPlainField g p = true → o.get g = .num (numAt view g))

def isRestItem : RItem → Bool
  | .array .rest _ => true
  | _ => false

theorem numAt_congr (v1 v2 : View) (g : Nat) (h : List.lookup g v1 = List.lookup g v2) :
    numAt v1 g = numAt v2 g := by
  simp only [numAt, h]

theorem numAt_cons_ne (view : View) (f g : Nat) (v : Val) (h : g ≠ f) :
    numAt ((f, v) :: view) g = numAt view g :=
  numAt_congr _ _ g (lookup_cons_of_ne v view h)

theorem numAt_cons_self (view : View) (f n : Nat) : numAt ((f, .num n) :: view) f = n := by
  simp [numAt, List.lookup]

theorem NExpr.eval_congr (v1 v2 : View) (e : NExpr) (h : ∀ g ∈ e.refs, numAt v1 g = numAt v2 g) :
    e.eval v1 = e.eval v2 := by
  induction e with
  | lit _ => rfl
  | field g => exact h g (List.mem_singleton.mpr rfl)
  | add a b iha ihb | sub a b iha ihb | mul a b iha ihb =>
    replace h := List.forall_mem_append.mp h
    simp only [NExpr.eval, iha h.1, ihb h.2]
  | div a k ih | divCeil a k ih | popcnt k a ih => simp only [NExpr.eval, ih h]
  | app f a b c iha ihb ihc =>
    replace h := List.forall_mem_append.mp h
    simp only [NExpr.eval, iha (List.forall_mem_append.mp h.1).1, ihb (List.forall_mem_append.mp h.1).2, ihc h.2]

theorem evalSegs_congr (v1 v2 : View) : ∀ (segs : Segs), (∀ g ∈ segsRefs segs, numAt v1 g = numAt v2 g) →
    evalSegs v1 segs = evalSegs v2 segs
  | [], _ => rfl
  | (n, ws) :: rest, h => by
    replace h := List.forall_mem_append.mp h
    simp only [evalSegs, NExpr.eval_congr v1 v2 n h.1, evalSegs_congr v1 v2 rest h.2]

theorem condHolds_congr (view view' : View) (c : Option (Nat × Cond))
    (h : ∀ vf cc, c = some (vf, cc) → List.lookup vf view' = List.lookup vf view) :
    condHolds view' c = condHolds view c := by
  cases c with
  | none => rfl
  | some p => simp only [condHolds, numAt, h p.1 p.2 rfl]

theorem condHolds_of_condOk {pre : List WF} {c : Option (Nat × Cond)} {view view' : View} (hc : condOk pre c = true)
    (h : ∀ p ∈ pre, List.lookup p.id view' = List.lookup p.id view) : condHolds view' c = condHolds view c := by
  refine condHolds_congr view view' c (fun vf cc he => ?_)
  rw [he] at hc
  simp only [condOk, List.any_eq_true, beq_iff_eq] at hc
  obtain ⟨p, hp, rfl⟩ := hc
  exact h p hp

theorem emit_lookup_other (ext : Ext) (o : Obj) : ∀ (ws : List WF) (view : View) (bytes : Bytes) (view' : View),
    emit ext o ws view = some (bytes, view') →
    ∀ g, (∀ p ∈ ws, p.id ≠ g) → List.lookup g view' = List.lookup g view
  | [], view, bytes, view', he, g, hg => by rw [(emit_nil_some he).2]
  | w :: ws, view, bytes, view', he, g, hg => by
    obtain ⟨b, v, bs, hf, hrec, rfl⟩ := emit_cons_some he
    rw [emit_lookup_other ext o ws _ bs view' hrec g (fun p hp => hg p (List.mem_cons_of_mem _ hp))]
    exact lookup_cons_of_ne v view (fun h => hg w (List.mem_cons_self ..) h.symm)

theorem ne_id_of_any_false {pre : List WF} {id : Nat} (h : pre.any (fun p => p.id == id) = false) :
    ∀ p ∈ pre, p.id ≠ id := by
  simpa using h

private theorem isCountFor_spec {g arr a b : Nat} {p : WF} (h : isCountFor g arr a b p = true) :
    p.id = g ∧ p.cond = none ∧ ∃ sz, p.item = .scalar (.count arr a b) sz := by
  unfold isCountFor at h
  simp only [Bool.and_eq_true, beq_iff_eq, Option.isNone_iff_eq_none] at h
  obtain ⟨⟨h1, h2⟩, h3⟩ := h
  refine ⟨h1, h2, ?_⟩
  split at h3
  · rename_i arr' a' b' sz hitem
    simp only [Bool.and_eq_true, beq_iff_eq] at h3
    obtain ⟨⟨rfl, rfl⟩, rfl⟩ := h3
    exact ⟨sz, hitem⟩
  · cases h3

private theorem isPlainField_spec {g : Nat} {p : WF} (h : isPlainField g p = true) :
    p.id = g ∧ p.cond = none ∧ ∃ sz, p.item = .scalar .field sz := by
  unfold isPlainField at h
  simp only [Bool.and_eq_true, beq_iff_eq, Option.isNone_iff_eq_none] at h
  obtain ⟨⟨h1, h2⟩, h3⟩ := h
  refine ⟨h1, h2, ?_⟩
  split at h3
  · rename_i sz hitem
    exact ⟨sz, hitem⟩
  · cases h3

private theorem isSameLenFor_spec {pre : List WF} {g id a b : Nat} {x : Assume}
    (h : isSameLenFor pre g id a b x = true) :
    ∃ arr', x = .sameLen id arr' ∧ pre.any (isCountFor g arr' a b) = true := by
  cases x with
  | sameLen arr arr' =>
    simp only [isSameLenFor, Bool.and_eq_true, beq_iff_eq] at h
    exact ⟨arr', by rw [h.1], h.2⟩
  | _ => cases h

theorem exprFresh_spec (later : List WF) (id : Nat) (refs : List Nat) (h : exprFresh later id refs = true) :
    ∀ g ∈ refs, g ≠ id ∧ ∀ p ∈ later, p.id ≠ g := by
  intro g hg
  have := List.all_eq_true.mp h g hg
  simp only [Bool.and_eq_true, bne_iff_ne, ne_eq, Bool.not_eq_true', List.any_eq_false, beq_iff_eq] at this
  exact ⟨this.1, fun p hp => this.2 p hp⟩

theorem itemCompat_scalar {as : List Assume} {pre later : List WF} {id sz : Nat} {src : WSrc} {ri : RItem}
    (h : itemCompat as pre later id (.scalar src sz) ri = true) : ri = .scalar sz := by
  cases ri with
  | scalar sz' => rw [itemCompat, beq_iff_eq] at h; rw [h]
  | _ => cases h

theorem itemCompat_array {as : List Assume} {pre later : List WF} {id : Nat} {elem : List Nat} {fixed : Option Nat}
    {ri : RItem} (h : itemCompat as pre later id (.array elem fixed) ri = true) :
    ∃ cnt, ri = .array cnt elem ∧ (cnt = .rest → later = [] ∧ 0 < elemSize elem) ∧
      (cnt ≠ .rest → cntCompat as pre later id fixed cnt = true) := by
  cases ri with
  | array cnt elem' =>
    simp only [itemCompat, Bool.and_eq_true, beq_iff_eq] at h
    obtain ⟨rfl, hcnt⟩ := h
    refine ⟨cnt, rfl, ?_, ?_⟩
    · rintro rfl
      simpa [List.isEmpty_iff] using hcnt
    · intro hne
      cases cnt with
      | rest => exact absurd rfl hne
      | _ => exact hcnt
  | _ => cases h

theorem itemCompat_arrayV {as : List Assume} {pre later : List WF} {id tail : Nat} {wpre : List Nat}
    {fixed : Option Nat} {ri : RItem} (h : itemCompat as pre later id (.arrayV wpre tail fixed) ri = true) :
    ∃ cnt segs computed, ri = .arrayV cnt segs computed ∧ segsCompat tail wpre segs = true ∧ .elemLen id segs ∈ as ∧
      exprFresh later id (segsRefs segs) = true ∧ (computed = true → .elemSized id segs ∈ as) ∧
      cntCompat as pre later id fixed cnt = true := by
  cases ri with
  | arrayV cnt segs computed =>
    simp only [itemCompat, Bool.and_eq_true, List.contains_iff_mem, Bool.or_eq_true, Bool.not_eq_true'] at h
    obtain ⟨⟨⟨⟨hsc, hmem⟩, hfresh⟩, hsized⟩, hcnt⟩ := h
    refine ⟨cnt, segs, computed, rfl, hsc, hmem, hfresh, fun hc => ?_, hcnt⟩
    rcases hsized with h | h
    · rw [hc] at h; cases h
    · exact h
  | _ => cases h

theorem itemCompat_arrayL {as : List Assume} {pre later : List WF} {id hw : Nat} {item : List Nat} {ri : RItem}
    (h : itemCompat as pre later id (.arrayL hw item) ri = true) :
    ∃ cnt, ri = .arrayL cnt hw item ∧ cntCompat as pre later id none cnt = true := by
  cases ri with
  | arrayL cnt hw' item' =>
    simp only [itemCompat, Bool.and_eq_true, beq_iff_eq] at h
    obtain ⟨⟨rfl, rfl⟩, hcnt⟩ := h
    exact ⟨cnt, rfl, hcnt⟩
  | _ => cases h

theorem itemCompat_rest {as : List Assume} {pre later : List WF} {id : Nat} {wi : WItem} {elem : List Nat}
    (h : itemCompat as pre later id wi (.array .rest elem) = true) : later = [] := by
  cases wi with
  | array e f =>
    simp only [itemCompat, Bool.and_eq_true, List.isEmpty_iff] at h
    exact h.2.1
  | _ => cases h

theorem isRestItem_spec {ri : RItem} (h : isRestItem ri = true) : ∃ elem, ri = .array .rest elem := by
  cases ri with
  | array cnt elem =>
    cases cnt with
    | rest => exact ⟨elem, rfl⟩
    | _ => cases h
  | _ => cases h

theorem usesRest_cons (r : RF) (rs : List RF) : usesRest (r :: rs) = (isRestItem r.item || usesRest rs) := by
  rfl

theorem wfW_cons {pre : List WF} {w : WF} {ws : List WF} : wfW pre (w :: ws) = true ↔
    pre.any (fun p => p.id == w.id) = false ∧ condOk pre w.cond = true ∧ wfW (w :: pre) ws = true := by
  simp only [wfW, Bool.and_eq_true, Bool.not_eq_true', and_assoc]

theorem compatAux_wfW (as : List Assume) : ∀ (ws : List WF) (rs : List RF) (pre : List WF),
    compatAux as pre ws rs = true → wfW pre ws = true
  | [], [], pre, h => rfl
  | [], _ :: _, pre, h => by cases h
  | _ :: _, [], pre, h => by cases h
  | w :: ws, r :: rs, pre, h => by
    simp only [compatAux, Bool.and_eq_true] at h
    obtain ⟨⟨⟨⟨_, hfresh⟩, hcok⟩, _⟩, htail⟩ := h
    exact wfW_cons.mpr ⟨by simpa using hfresh, hcok, compatAux_wfW as ws rs (w :: pre) htail⟩

theorem wfW_fresh : ∀ (ws : List WF) (pre : List WF), wfW pre ws = true →
    ∀ w ∈ ws, ∀ p ∈ pre, p.id ≠ w.id
  | [], pre, h, w, hw, p, hp => nomatch hw
  | w0 :: ws, pre, h, w, hw, p, hp => by
    obtain ⟨hfresh, _, htail⟩ := wfW_cons.mp h
    rcases List.mem_cons.mp hw with rfl | hw
    · exact ne_id_of_any_false hfresh p hp
    · exact wfW_fresh ws (w0 :: pre) htail w hw p (List.mem_cons_of_mem _ hp)

theorem enumCompat_mem (hw : Nat) : ∀ (vs : List Variant) (v : Variant), enumCompat hw vs = true → v ∈ vs →
    startsWithFormat hw v = true ∧ compatU v.as v.w v.r = true
  | [], v, _, hv => nomatch hv
  | v0 :: vs, v, h, hv => by
    simp only [enumCompat, Bool.and_eq_true] at h
    rcases List.mem_cons.mp hv with rfl | hv
    · exact ⟨h.1.1.1, h.1.1.2⟩
    · exact enumCompat_mem hw vs v h.2 hv

/-- the reader's `match format` selects the variant whose constant was written -/
theorem enumCompat_find (hw : Nat) : ∀ (vs : List Variant) (v : Variant), enumCompat hw vs = true → v ∈ vs →
    vs.find? (fun v' => v'.fmt == v.fmt) = some v
  | [], v, _, hv => nomatch hv
  | v0 :: vs, v, h, hv => by
    simp only [enumCompat, Bool.and_eq_true, Bool.not_eq_true', List.any_eq_false, beq_iff_eq] at h
    rcases List.mem_cons.mp hv with rfl | hv
    · simp [List.find?]
    · have hne : (v0.fmt == v.fmt) = false := beq_eq_false_iff_ne.mpr (fun h' => h.1.2 v hv h'.symm)
      simp only [List.find?, hne]
      exact enumCompat_find hw vs v h.2 hv

theorem count_ok (as : List Assume) (o : Obj) (pre : List WF) (view vfin : View) (id g a b : Nat)
    (xs : List (List Nat))
    (hassume : ∀ x ∈ as, x.holds o vfin)
    (hinv : Inv pre o view)
    (hxs : o.get id = .arr xs)
    (hc : countCompat as pre id g a b = true) :
    numAt view g = a * xs.length + b := by
  unfold countCompat at hc
  simp only [Bool.or_eq_true, Bool.and_eq_true, List.any_eq_true, List.contains_iff_mem] at hc
  rcases hc with (⟨p, hp, hpc⟩ | ⟨hmem, p, hp, hpf⟩) | ⟨x, hx, hsl⟩
  · obtain ⟨xs', hx1, hx2⟩ := hinv.1 p hp g id a b hpc
    rw [hxs] at hx1
    cases hx1
    exact hx2
  · have h2 := hinv.2 p hp g hpf
    rw [hassume _ hmem xs hxs] at h2
    exact (Val.num.inj h2).symm
  · obtain ⟨arr', rfl, hany⟩ := isSameLenFor_spec hsl
    obtain ⟨p, hp, hpc⟩ := List.any_eq_true.mp hany
    obtain ⟨xs', hx1, hx2⟩ := hinv.1 p hp g arr' a b hpc
    rw [hx2, hassume _ hx xs xs' hxs hx1]

theorem cnt_ok (as : List Assume) (o : Obj) (pre later : List WF) (view vfin : View) (id : Nat)
    (fixed : Option Nat) (cnt : RCount) (bs : Bytes) (elem : List Nat) (xs : List (List Nat))
    (hassume : ∀ x ∈ as, x.holds o vfin)
    (hfin : ∀ g, g ≠ id → (∀ p ∈ later, p.id ≠ g) → numAt vfin g = numAt view g)
    (hinv : Inv pre o view)
    (hxs : o.get id = .arr xs)
    (hfix : fixedOk fixed xs.length = true)
    (hc : cntCompat as pre later id fixed cnt = true) :
    evalCount view bs elem cnt = xs.length := by
  cases cnt with
  | lit n =>
    simp only [cntCompat, Bool.or_eq_true, beq_iff_eq, List.contains_iff_mem] at hc
    rcases hc with rfl | hc
    · simp only [fixedOk, beq_iff_eq] at hfix
      exact hfix
    · exact (hassume _ hc xs hxs).symm
  | affine g a bq =>
    simp only [cntCompat, Bool.and_eq_true, decide_eq_true_eq] at hc
    simp only [evalCount, count_ok as o pre view vfin id g a bq xs hassume hinv hxs hc.2]
    rw [Nat.add_sub_cancel, Nat.mul_div_cancel_left _ hc.1]
  | rest => cases hc
  | expr e =>
    simp only [cntCompat, Bool.and_eq_true, List.contains_iff_mem] at hc
    have hsp := exprFresh_spec later id e.refs hc.2
    -- the expression reads nothing that is written from here on, so it has its final value already
    rw [evalCount, ← NExpr.eval_congr vfin view e (fun g hg => hfin g (hsp g hg).1 (hsp g hg).2)]
    exact (hassume _ hc.1 xs hxs).symm

theorem parseField_emitField (ext : Ext) (as : List Assume) (o : Obj) (pre later : List WF) (view vfin : View)
    (w : WF) (r : RF) (b rest : Bytes) (v : Val)
    (hassume : ∀ x ∈ as, x.holds o vfin)
    (hfin : ∀ g, g ≠ w.id → (∀ p ∈ later, p.id ≠ g) → numAt vfin g = numAt view g)
    (hc : w.cond = r.cond)
    (hi : itemCompat as pre later w.id w.item r.item = true)
    (hinv : Inv pre o view)
    (he : emitField ext o view w = some (b, v))
    (hrest : isRestItem r.item = true → rest = []) :
    parseField view r (b ++ rest) = some (v, rest) := by
  unfold parseField
  rw [← hc]
  by_cases hcond : condHolds view w.cond = true
  · have hs := emitField_some hcond he
    rw [if_pos hcond]
    cases hw : w.item with
    | scalar src sz =>
      rw [hw] at hs hi
      obtain ⟨n, _, hlt, rfl, rfl⟩ := hs
      rw [itemCompat_scalar hi]
      have hl : ¬ (be sz n ++ rest).length < sz := by simp [be_length]
      simp only [if_neg hl, take_be_append, drop_be_append, beVal_be _ _ hlt]
    | array elem fixed =>
      rw [hw] at hs hi
      obtain ⟨xs, hxs, hfix, hbb, rfl⟩ := hs
      obtain ⟨cnt, hr, hrst, hcnt⟩ := itemCompat_array hi
      rw [hr] at hrest ⊢
      have hcount : evalCount view (b ++ rest) elem cnt = xs.length := by
        by_cases hcr : cnt = .rest
        · subst hcr
          rw [hrest rfl, List.append_nil]
          simp only [evalCount, emitRecs_length elem xs b hbb]
          exact Nat.mul_div_cancel _ (hrst rfl).2
        · exact cnt_ok as o pre later view vfin w.id fixed cnt _ elem xs hassume hfin hinv hxs hfix (hcnt hcr)
      simp only [hcount, parseRecs_emitRecs elem xs b rest hbb]
    | arrayV wpre tail fixed =>
      rw [hw] at hs hi
      obtain ⟨xs, hxs, hfix, hbb, rfl⟩ := hs
      obtain ⟨cnt, segs, cmp, hr, hsc, hmem, hfresh, hsized, hcnt⟩ := itemCompat_arrayV hi
      rw [hr]
      have hsp := exprFresh_spec later w.id (segsRefs segs) hfresh
      have hsegs : evalSegs vfin segs = evalSegs view segs :=
        evalSegs_congr vfin view segs (fun g hg => hfin g (hsp g hg).1 (hsp g hg).2)
      have hbb' : emitRecs (evalSegs view segs) xs = some b := by
        rw [← emitRecsV_eq (segsCompat_sound tail view segs wpre hsc) xs
          fun x hx => hsegs ▸ hassume _ hmem xs hxs x hx]
        exact hbb
      have hcount := cnt_ok as o pre later view vfin w.id fixed cnt (b ++ rest) (evalSegs view segs) xs
        hassume hfin hinv hxs hfix hcnt
      have hn : (if (cmp && elemSize (evalSegs view segs) == 0) = true then 0
          else evalCount view (b ++ rest) (evalSegs view segs) cnt) = xs.length := by
        rw [hcount]
        split
        · rename_i hz
          simp only [Bool.and_eq_true, beq_iff_eq] at hz
          have h1 := hassume _ (hsized hz.1) xs hxs
          rw [hsegs] at h1
          by_cases hx : xs = []
          · rw [hx]; rfl
          · have := h1 hx
            omega
        · rfl
      simp only [hn, parseRecs_emitRecs _ xs b rest hbb']
    | arrayL hw' item =>
      rw [hw] at hs hi
      obtain ⟨xs, hxs, hbb, rfl⟩ := hs
      obtain ⟨cnt, hr, hcnt⟩ := itemCompat_arrayL hi
      rw [hr]
      have hcount := cnt_ok as o pre later view vfin w.id none cnt (b ++ rest) item xs
        hassume hfin hinv hxs rfl hcnt
      simp only [hcount, parseRecsL_emitRecsL hw' item xs b rest hbb]
  · obtain ⟨rfl, rfl⟩ := emitField_gated hcond he
    rw [if_neg hcond]
    rfl

theorem inv_step (ext : Ext) (o : Obj) (pre : List WF) (view : View) (w : WF) (b : Bytes) (v : Val)
    (hfresh : pre.any (fun p => p.id == w.id) = false)
    (hinv : Inv pre o view)
    (he : emitField ext o view w = some (b, v)) :
    Inv (w :: pre) o ((w.id, v) :: view) := by
  have hne : ∀ p ∈ pre, ∀ g, p.id = g → g ≠ w.id := fun p hp g hid => hid ▸ ne_id_of_any_false hfresh p hp
  constructor
  · intro p hp g arr a bq hcf
    obtain ⟨hid, hcn, sz, hit⟩ := isCountFor_spec hcf
    rcases List.mem_cons.mp hp with rfl | hpp
    · have hs := emitField_some (by rw [hcn]; rfl) he
      rw [hit] at hs
      obtain ⟨n, hn, _, _, rfl⟩ := hs
      obtain ⟨xs, hxs, rfl⟩ := srcVal_count_some hn
      exact ⟨xs, hxs, by rw [← hid, numAt_cons_self]⟩
    · obtain ⟨xs, hx1, hx2⟩ := hinv.1 p hpp g arr a bq hcf
      exact ⟨xs, hx1, by rw [numAt_cons_ne _ _ _ _ (hne p hpp g hid), hx2]⟩
  · intro p hp g hpf
    obtain ⟨hid, hcn, sz, hit⟩ := isPlainField_spec hpf
    rcases List.mem_cons.mp hp with rfl | hpp
    · have hs := emitField_some (by rw [hcn]; rfl) he
      rw [hit] at hs
      obtain ⟨n, hn, _, _, rfl⟩ := hs
      rw [← hid, numAt_cons_self, srcVal_field_some hn]
    · rw [numAt_cons_ne _ _ _ _ (hne p hpp g hid)]
      exact hinv.2 p hpp g hpf

/-- the round trip from any point of the two programs: `pre` has run and `Inv` holds, the rest reads back as written -/
theorem parse_emit_aux (ext : Ext) (as : List Assume) (o : Obj) (view' : View) (rest : Bytes)
    (hassume : ∀ x ∈ as, x.holds o view') :
    ∀ (ws : List WF) (rs : List RF) (pre : List WF) (view : View) (bytes : Bytes),
    compatAux as pre ws rs = true → Inv pre o view →
    emit ext o ws view = some (bytes, view') →
    (usesRest rs = true → rest = []) →
    parse rs view (bytes ++ rest) = some (view', rest) := by
  intro ws
  induction ws with
  | nil =>
    intro rs pre view bytes hc hinv he hr
    cases rs with
    | nil =>
      obtain ⟨rfl, rfl⟩ := emit_nil_some he
      rfl
    | cons _ _ => cases hc
  | cons w ws ih =>
    intro rs pre view bytes hc hinv he hr
    cases rs with
    | nil => cases hc
    | cons r rs =>
      simp only [compatAux, Bool.and_eq_true, beq_iff_eq, Bool.not_eq_true'] at hc
      obtain ⟨⟨⟨⟨⟨hid, hcond⟩, hfresh⟩, hcok⟩, hitem⟩, htail⟩ := hc
      obtain ⟨b, v, bs, hf, hrec, rfl⟩ := emit_cons_some he
      rw [usesRest_cons] at hr
      have hfin : ∀ g, g ≠ w.id → (∀ p ∈ ws, p.id ≠ g) → numAt view' g = numAt view g := fun g hg hl =>
        numAt_congr _ _ g ((emit_lookup_other ext o ws _ bs view' hrec g hl).trans (lookup_cons_of_ne v view hg))
      have hfield : parseField view r (b ++ (bs ++ rest)) = some (v, bs ++ rest) := by
        refine parseField_emitField ext as o pre ws view view' w r b (bs ++ rest) v hassume hfin hcond hitem hinv hf ?_
        intro hri
        -- a `.rest` array is compatible only as the last statement, and then nothing follows it
        obtain ⟨elem, hre⟩ := isRestItem_spec hri
        rw [hre] at hitem
        rw [itemCompat_rest hitem] at hrec
        rw [(emit_nil_some hrec).1, hr (by rw [hri, Bool.true_or])]
        rfl
      rw [List.append_assoc]
      simp only [parse, hfield]
      rw [← hid]
      exact ih rs (w :: pre) ((w.id, v) :: view) bs htail
        (inv_step ext o pre view w b v hfresh hinv hf) hrec (fun h => hr (by rw [h, Bool.or_true]))

theorem emitField_owned (ext : Ext) (o : Obj) (view : View) (w : WF) (b : Bytes) (v : Val)
    (how : w.owned = true) (he : emitField ext o view w = some (b, v)) :
    v = if condHolds view w.cond then o.get w.id else .absent := by
  by_cases hcond : condHolds view w.cond = true
  · have hs := emitField_some hcond he
    rw [if_pos hcond]
    unfold WF.owned at how
    cases hw : w.item with
    | scalar src sz =>
      rw [hw] at hs how
      obtain ⟨n, hn, _, _, rfl⟩ := hs
      cases src with
      | field => rw [srcVal_field_some hn]
      | _ => cases how
    | array elem fixed =>
      rw [hw] at hs
      obtain ⟨xs, hxs, _, _, rfl⟩ := hs
      exact hxs.symm
    | arrayV wpre tail fixed =>
      rw [hw] at hs
      obtain ⟨xs, hxs, _, _, rfl⟩ := hs
      exact hxs.symm
    | arrayL hw' item =>
      rw [hw] at hs
      obtain ⟨xs, hxs, _, rfl⟩ := hs
      exact hxs.symm
  · rw [if_neg hcond]
    exact (emitField_gated hcond he).2

theorem emit_view (ext : Ext) (o : Obj) (view' : View) : ∀ (ws : List WF) (pre : List WF) (view : View) (bytes : Bytes),
    wfW pre ws = true → emit ext o ws view = some (bytes, view') →
    ∀ w ∈ ws, w.owned = true →
      List.lookup w.id view' = some (if condHolds view' w.cond then o.get w.id else .absent) := by
  intro ws
  induction ws with
  | nil => exact fun _ _ _ _ _ w hw => nomatch hw
  | cons w ws ih =>
    intro pre view bytes hwf he
    obtain ⟨hfresh, hcok, htail⟩ := wfW_cons.mp hwf
    obtain ⟨b, v, bs, hf, hrec, rfl⟩ := emit_cons_some he
    have ihb := ih (w :: pre) ((w.id, v) :: view) bs htail hrec
    have hfr := wfW_fresh ws (w :: pre) htail
    have hkeep : ∀ p ∈ w :: pre, List.lookup p.id view' = List.lookup p.id ((w.id, v) :: view) := fun p hp =>
      emit_lookup_other ext o ws _ bs view' hrec p.id (fun w2 hw2 => (hfr w2 hw2 p hp).symm)
    intro w' hw' how
    rcases List.mem_cons.mp hw' with rfl | hw'
    · have h1 : List.lookup w'.id view' = some v := by
        rw [hkeep w' List.mem_cons_self]
        simp [List.lookup]
      rw [h1, emitField_owned ext o view w' b v how hf]
      rw [condHolds_of_condOk hcok fun p hp => (hkeep p (List.mem_cons_of_mem _ hp)).trans
        (lookup_cons_of_ne v view (ne_id_of_any_false hfresh p hp))]
    · exact ihb w' hw' how

theorem toObj_emit (ext : Ext) (ws : List WF) (o : Obj) (args : View) (bytes : Bytes) (view : View)
    (hwf : wfW [] ws = true) (he : emit ext o ws args = some (bytes, view)) :
    toObj ws view = dropGated ws view o :=
  List.map_congr_left fun w hw =>
    have hw' := List.mem_filter.mp hw
    by rw [emit_view ext o view ws [] args bytes hwf he w hw'.1 hw'.2]

section args
variable {ext : Ext} {o : Obj} {ws : List WF} {args view : View} {bytes : Bytes}
  (he : emit ext o ws args = some (bytes, view))
include he

theorem emit_numAt_arg {g : Nat} (hg : ws.all (fun p => p.id != g) = true) : numAt view g = numAt args g :=
  numAt_congr _ _ g (emit_lookup_other ext o ws args bytes view he g
    (fun p hp => by simpa using List.all_eq_true.mp hg p hp))

/-- what the reader computes from external arguments alone may be computed on the arguments -/
theorem NExpr.eval_args (e : NExpr) (h : e.refs.all (fun g => ws.all (fun p => p.id != g)) = true) :
    e.eval view = e.eval args :=
  NExpr.eval_congr view args e fun g hg => emit_numAt_arg he (List.all_eq_true.mp h g hg)

theorem evalSegs_args (segs : Segs) (h : (segsRefs segs).all (fun g => ws.all (fun p => p.id != g)) = true) :
    evalSegs view segs = evalSegs args segs :=
  evalSegs_congr view args segs fun g hg => emit_numAt_arg he (List.all_eq_true.mp h g hg)

end args

theorem emit_startsWithFormat (ext : Ext) (hw : Nat) (v : Variant) (o : Obj) (args : View) (bytes : Bytes)
    (view : View) (hs : startsWithFormat hw v = true) (he : emit ext o v.w args = some (bytes, view)) :
    ∃ bs, bytes = be hw v.fmt ++ bs ∧ v.fmt < 256 ^ hw := by
  unfold startsWithFormat at hs
  split at hs
  · rename_i id c sz ws hw'
    simp only [Bool.and_eq_true, beq_iff_eq] at hs
    obtain ⟨rfl, rfl⟩ := hs
    rw [hw'] at he
    obtain ⟨b, vv, bs, hf, _, rfl⟩ := emit_cons_some he
    obtain ⟨n, hn, hlt, rfl, _⟩ := emitField_some rfl hf
    cases hn
    exact ⟨bs, rfl, hlt⟩
  · cases hs

end FontVerif.C04
