/- C14 / IntSet helper lemmas: observers of `BitSet` — ordered members, cached length,
ranges (`iter_ranges`) and the canonical form of range lists. -/
import FontVerif.Lemmas.IntSetOps
import FontVerif.Lemmas.Lists
namespace FontVerif.IntSet

def Asc (xs : List Nat) : Prop := xs.Pairwise (· < ·)

theorem asc_nil : Asc [] := List.Pairwise.nil

theorem asc_cons {x : Nat} {xs : List Nat} : Asc (x :: xs) ↔ (∀ y ∈ xs, x < y) ∧ Asc xs :=
  List.pairwise_cons

theorem asc_ext {xs ys : List Nat} (hx : Asc xs) (hy : Asc ys) (h : ∀ x, x ∈ xs ↔ x ∈ ys) :
    xs = ys :=
  sorted_ext hx hy h

theorem Asc.filter {xs : List Nat} (p : Nat → Bool) (h : Asc xs) : Asc (xs.filter p) :=
  List.Pairwise.filter p h

theorem asc_append {xs ys : List Nat} :
    Asc (xs ++ ys) ↔ Asc xs ∧ Asc ys ∧ ∀ a ∈ xs, ∀ b ∈ ys, a < b := List.pairwise_append

theorem asc_range_map (n c : Nat) : Asc ((List.range n).map (· + c)) := by
  unfold Asc
  rw [List.pairwise_map]
  exact List.Pairwise.imp (fun h => by omega) List.pairwise_lt_range

/-- `membersAll` as a function of the page list -/
def pagesMembers (ps : Pages) : List Nat :=
  ps.flatMap (fun kp => (pageMembers kp.2.bits).map (· + majorStart kp.1))

theorem BitSet.membersAll_eq (s : BitSet) : s.membersAll = pagesMembers s.pages := rfl

theorem mem_pagesMembers {ps : Pages} (hs : Sorted ps) {x : Nat} :
    x ∈ pagesMembers ps ↔ containsP ps x = true := by
  unfold pagesMembers
  simp only [List.mem_flatMap, List.mem_map]
  constructor
  · rintro ⟨kp, hkp, i, hi, rfl⟩
    rw [mem_pageMembers] at hi
    have hmaj : majorOf (i + majorStart kp.1) = kp.1 := majorOf_eq_iff.2 ⟨by omega, by omega⟩
    have hmod : (i + majorStart kp.1) % 512 = i := by
      rw [mod_of_page (M := kp.1) (by omega) (by omega)]; omega
    unfold containsP
    rw [hmaj, lookup_of_mem hs (show (kp.1, kp.2) ∈ ps from hkp)]
    simp only [pageContains, hmod, hi.2]
  · intro h
    unfold containsP at h
    split at h
    · rename_i p hl
      refine ⟨(majorOf x, p), lookup_some_mem hl, x % 512, ?_, ?_⟩
      · rw [mem_pageMembers]
        exact ⟨Nat.mod_lt _ (by omega), h⟩
      · unfold majorStart majorOf; omega
    · simp at h

theorem pagesMembers_asc {ps : Pages} (hs : Sorted ps) : Asc (pagesMembers ps) := by
  unfold pagesMembers Asc
  rw [List.pairwise_flatMap]
  refine ⟨?_, ?_⟩
  · intro kp _
    rw [List.pairwise_map]
    exact List.Pairwise.imp (fun h => by omega) (pageMembers_sorted _)
  · apply List.Pairwise.imp _ hs
    intro a b hab x hx y hy
    simp only [List.mem_map] at hx hy
    obtain ⟨i, hi, rfl⟩ := hx
    obtain ⟨j, hj, rfl⟩ := hy
    rw [mem_pageMembers] at hi hj
    unfold majorStart
    omega

theorem pageMembers_nil_of_len {p : Page} (hp : PageOk p) (h : p.len = 0) :
    pageMembers p.bits = [] := by
  have : popCount p.bits = 0 := by rw [← hp.2]; exact h
  unfold popCount at this
  exact List.eq_nil_of_length_eq_zero this

/-- under the invariant `iter` (which skips pages whose cached length is 0) sees every member -/
theorem members_eq_pagesMembers {ps : Pages} (h : ∀ kp ∈ ps, PageOk kp.2) :
    ps.flatMap (fun kp =>
      if kp.2.len = 0 then [] else (pageMembers kp.2.bits).map (· + majorStart kp.1))
      = pagesMembers ps := by
  unfold pagesMembers
  induction ps with
  | nil => rfl
  | cons kp ps ih =>
    simp only [List.flatMap_cons]
    rw [ih (fun q hq => h q (by simp [hq]))]
    congr 1
    split
    · rename_i hl
      rw [pageMembers_nil_of_len (h kp (by simp)) hl]; rfl
    · rfl

theorem BitSet.members_eq (s : BitSet) (h : BInv s) : s.members = pagesMembers s.pages :=
  members_eq_pagesMembers h.1.2

theorem length_pagesMembers {ps : Pages} (h : ∀ kp ∈ ps, PageOk kp.2) :
    (pagesMembers ps).length = sumLens ps := by
  unfold pagesMembers
  induction ps with
  | nil => rfl
  | cons kp ps ih =>
    simp only [List.flatMap_cons, List.length_append, List.length_map, sumLens_cons]
    rw [ih (fun q hq => h q (by simp [hq]))]
    have := (h kp (by simp)).2
    unfold popCount at this
    omega

/-- membership in the union of inclusive ranges -/
def NMem (rs : List (Nat × Nat)) (x : Nat) : Prop := ∃ p ∈ rs, p.1 ≤ x ∧ x ≤ p.2

/-- the RangeSet invariant on `Nat` ranges: sorted ∧ disjoint ∧ non-adjacent ∧ well formed -/
def NRInv (rs : List (Nat × Nat)) : Prop :=
  rs.Pairwise (fun p q => p.2 + 1 < q.1) ∧ ∀ p ∈ rs, p.1 ≤ p.2

/-- sorted ∧ disjoint ∧ well formed (adjacent ranges allowed) -/
def RSorted (rs : List (Nat × Nat)) : Prop :=
  rs.Pairwise (fun p q => p.2 < q.1) ∧ ∀ p ∈ rs, p.1 ≤ p.2

theorem NRInv.rsorted {rs : List (Nat × Nat)} (h : NRInv rs) : RSorted rs :=
  ⟨List.Pairwise.imp (fun h => by omega) h.1, h.2⟩

theorem nmem_nil {x : Nat} : ¬ NMem [] x := by simp [NMem]

theorem nmem_cons {p : Nat × Nat} {rs : List (Nat × Nat)} {x : Nat} :
    NMem (p :: rs) x ↔ (p.1 ≤ x ∧ x ≤ p.2) ∨ NMem rs x := by
  simp [NMem]

theorem nrinv_nil : NRInv [] := ⟨List.Pairwise.nil, by simp⟩

theorem nrinv_cons {p : Nat × Nat} {rs : List (Nat × Nat)} :
    NRInv (p :: rs) ↔ (∀ q ∈ rs, p.2 + 1 < q.1) ∧ p.1 ≤ p.2 ∧ NRInv rs := by
  simp only [NRInv, List.pairwise_cons, List.mem_cons, forall_eq_or_imp]
  constructor
  · rintro ⟨⟨h1, h2⟩, h3, h4⟩; exact ⟨h1, h3, h2, h4⟩
  · rintro ⟨h1, h3, h2, h4⟩; exact ⟨⟨h1, h2⟩, h3, h4⟩

theorem rsorted_nil : RSorted [] := ⟨List.Pairwise.nil, by simp⟩

theorem rsorted_cons {p : Nat × Nat} {rs : List (Nat × Nat)} :
    RSorted (p :: rs) ↔ (∀ q ∈ rs, p.2 < q.1) ∧ p.1 ≤ p.2 ∧ RSorted rs := by
  simp only [RSorted, List.pairwise_cons, List.mem_cons, forall_eq_or_imp]
  constructor
  · rintro ⟨⟨h1, h2⟩, h3, h4⟩; exact ⟨h1, h3, h2, h4⟩
  · rintro ⟨h1, h3, h2, h4⟩; exact ⟨⟨h1, h2⟩, h3, h4⟩

/-- a new first range before a sorted list: it suffices that all members of the list lie beyond
it, since every start is a member -/
theorem RSorted.cons_of_nmem {p : Nat × Nat} {R : List (Nat × Nat)} (hR : RSorted R)
    (hp : p.1 ≤ p.2) (h : ∀ x, NMem R x → p.2 < x) : RSorted (p :: R) :=
  rsorted_cons.2 ⟨fun q hq => h q.1 ⟨q, hq, Nat.le_refl _, hR.2 q hq⟩, hp, hR⟩

theorem NRInv.cons_of_nmem {p : Nat × Nat} {R : List (Nat × Nat)} (hR : NRInv R)
    (hp : p.1 ≤ p.2) (h : ∀ x, NMem R x → p.2 + 1 < x) : NRInv (p :: R) :=
  nrinv_cons.2 ⟨fun q hq => h q.1 ⟨q, hq, Nat.le_refl _, hR.2 q hq⟩, hp, hR⟩

theorem forall_ends_of_nmem {rs : List (Nat × Nat)} {P : Nat → Prop} (hwf : ∀ p ∈ rs, p.1 ≤ p.2)
    (h : ∀ x, NMem rs x → P x) : ∀ p ∈ rs, P p.1 ∧ P p.2 :=
  fun p hp => ⟨h _ ⟨p, hp, Nat.le_refl _, hwf p hp⟩, h _ ⟨p, hp, hwf p hp, Nat.le_refl _⟩⟩

theorem mem_expand_iff_nmem {rs : List (Nat × Nat)} {x : Nat} : x ∈ expand rs ↔ NMem rs x :=
  mem_expand

theorem expand_nil : expand [] = [] := rfl
theorem expand_cons (r : Nat × Nat) (rs : List (Nat × Nat)) :
    expand (r :: rs) = (List.range (r.2 + 1 - r.1)).map (· + r.1) ++ expand rs := rfl

theorem expand_append (as bs : List (Nat × Nat)) : expand (as ++ bs) = expand as ++ expand bs := by
  unfold expand; simp

theorem length_expand_cons (r : Nat × Nat) (rs : List (Nat × Nat)) :
    (expand (r :: rs)).length = (r.2 + 1 - r.1) + (expand rs).length := by
  rw [expand_cons]; simp

theorem expand_cons_empty {s e : Nat} (h : s > e) (rest : List (Nat × Nat)) :
    expand ((s, e) :: rest) = expand rest := by
  rw [expand_cons]
  have : e + 1 - s = 0 := by omega
  simp [this]

theorem expand_asc {rs : List (Nat × Nat)} (h : RSorted rs) : Asc (expand rs) := by
  induction rs with
  | nil => exact asc_nil
  | cons r rs ih =>
    rw [rsorted_cons] at h
    rw [expand_cons, asc_append]
    refine ⟨asc_range_map _ _, ih h.2.2, ?_⟩
    intro a ha b hb
    simp only [List.mem_map, List.mem_range] at ha
    obtain ⟨i, hi, rfl⟩ := ha
    rw [mem_expand] at hb
    obtain ⟨q, hq, h1, h2⟩ := hb
    have := h.1 q hq
    omega

theorem expand_eq_filter {R : List (Nat × Nat)} {D : List Nat} {p : Nat → Bool} (hR : RSorted R)
    (hD : Asc D) (h : ∀ x, NMem R x ↔ x ∈ D ∧ p x = true) : expand R = D.filter p :=
  asc_ext (expand_asc hR) (hD.filter p) (fun x => by rw [mem_expand_iff_nmem, h, List.mem_filter])

theorem nmem_ge_head {p : Nat × Nat} {rs : List (Nat × Nat)} (h : RSorted (p :: rs)) {x : Nat}
    (hx : NMem (p :: rs) x) : p.1 ≤ x := by
  rw [rsorted_cons] at h
  rw [nmem_cons] at hx
  rcases hx with hx | ⟨q, hq, h1, h2⟩
  · exact hx.1
  · have := h.1 q hq; omega

theorem nmem_append {as bs : List (Nat × Nat)} {z : Nat} :
    NMem (as ++ bs) z ↔ NMem as z ∨ NMem bs z := by
  simp only [NMem, List.mem_append, or_and_right, exists_or]

theorem nmem_tail_gt {p : Nat × Nat} {rs : List (Nat × Nat)} (h : RSorted (p :: rs)) {z : Nat}
    (hz : NMem rs z) : p.2 < z := by
  obtain ⟨q, hq, h1, _⟩ := hz
  exact Nat.lt_of_lt_of_le ((rsorted_cons.1 h).1 q hq) h1

/-- the `Nat` range list as a `RangeSet` entry list -/
def toIntRanges (rs : List (Nat × Nat)) : RangeSet.Ranges :=
  rs.map (fun p => ((p.1 : Int), (p.2 : Int)))

theorem nrinv_iff_rinv (rs : List (Nat × Nat)) : NRInv rs ↔ RangeSet.RInv (toIntRanges rs) := by
  simp only [NRInv, RangeSet.RInv, toIntRanges, List.pairwise_map, List.forall_mem_map]
  constructor
  · rintro ⟨h1, h2⟩
    exact ⟨h1.imp (fun h => by omega), fun p hp => by have := h2 p hp; omega⟩
  · rintro ⟨h1, h2⟩
    exact ⟨h1.imp (fun h => by omega), fun p hp => by have := h2 p hp; omega⟩

theorem nmem_iff_mem (rs : List (Nat × Nat)) (x : Nat) :
    NMem rs x ↔ RangeSet.Mem (toIntRanges rs) (x : Int) := by
  simp only [NMem, RangeSet.Mem, toIntRanges, List.mem_map]
  constructor
  · rintro ⟨p, hp, h1, h2⟩
    exact ⟨((p.1 : Int), (p.2 : Int)), ⟨p, hp, rfl⟩, by simp only; omega, by simp only; omega⟩
  · rintro ⟨q, ⟨p, hp, rfl⟩, h1, h2⟩
    exact ⟨p, hp, by simp only at h1; omega, by simp only at h2; omega⟩

theorem runsOfList_nil : runsOfList [] = [] := rfl

theorem runsOfList_spec (xs : List Nat) (h : Asc xs) :
    NRInv (runsOfList xs) ∧ ∀ x, NMem (runsOfList xs) x ↔ x ∈ xs := by
  induction xs with
  | nil => exact ⟨nrinv_nil, fun x => by simp [runsOfList, nmem_nil]⟩
  | cons x xs ih =>
    rw [asc_cons] at h
    obtain ⟨i1, i2⟩ := ih h.2
    have hstart : ∀ q ∈ runsOfList xs, x < q.1 := fun q hq =>
      h.1 q.1 ((i2 q.1).1 ⟨q, hq, Nat.le_refl _, i1.2 q hq⟩)
    unfold runsOfList
    cases heq : runsOfList xs with
    | nil =>
      rw [heq] at i2
      refine ⟨nrinv_cons.2 ⟨fun q hq => absurd hq List.not_mem_nil, Nat.le_refl _, nrinv_nil⟩,
        fun y => ?_⟩
      rw [nmem_cons, List.mem_cons, ← i2 y]
      exact or_congr_left (by simp only; omega)
    | cons r rest =>
      obtain ⟨s, e⟩ := r
      rw [heq] at i1 i2 hstart
      have i1' := nrinv_cons.1 i1
      have hxs : x < s := hstart (s, e) (List.mem_cons_self ..)
      simp only at i1' ⊢
      by_cases hadj : x + 1 = s
      ·
        rw [if_pos hadj]
        refine ⟨nrinv_cons.2 ⟨i1'.1, by simp only; omega, i1'.2.2⟩, fun y => ?_⟩
        rw [nmem_cons, List.mem_cons, ← i2 y, nmem_cons, ← or_assoc]
        exact or_congr_left (by simp only; omega)
      · rw [if_neg hadj]
        refine ⟨nrinv_cons.2 ⟨fun q hq => ?_, Nat.le_refl _, i1⟩, fun y => ?_⟩
        · rcases List.mem_cons.1 hq with rfl | hq
          · simp only; omega
          · have := i1'.1 q hq; have := i1'.2.1; simp only; omega
        · rw [nmem_cons, List.mem_cons, ← i2 y]
          exact or_congr_left (by simp only; omega)

theorem expand_runsOfList (xs : List Nat) (h : Asc xs) : expand (runsOfList xs) = xs := by
  obtain ⟨h1, h2⟩ := runsOfList_spec xs h
  apply asc_ext (expand_asc h1.rsorted) h
  intro x
  rw [mem_expand_iff_nmem, h2]

theorem BitSet.mem_members (s : BitSet) (h : BInv s) (x : Nat) :
    x ∈ s.members ↔ s.contains x = true := by
  rw [BitSet.members_eq s h, mem_pagesMembers h.1.1]; rfl

theorem BitSet.members_asc (s : BitSet) (h : BInv s) : Asc s.members := by
  rw [BitSet.members_eq s h]; exact pagesMembers_asc h.1.1

theorem BitSet.len_eq (s : BitSet) (h : BInv s) : s.len = s.members.length := by
  rw [BitSet.members_eq s h, length_pagesMembers h.1.2, h.2]

theorem BitSet.membersAll_eq_members (s : BitSet) (h : BInv s) : s.membersAll = s.members := by
  rw [BitSet.members_eq s h]; rfl

theorem BitSet.ranges_spec (s : BitSet) (h : BInv s) :
    NRInv s.ranges ∧ ∀ x, NMem s.ranges x ↔ s.contains x = true := by
  unfold BitSet.ranges
  rw [BitSet.membersAll_eq_members s h]
  obtain ⟨h1, h2⟩ := runsOfList_spec s.members (BitSet.members_asc s h)
  exact ⟨h1, fun x => by rw [h2, BitSet.mem_members s h]⟩

theorem BitSet.expand_ranges (s : BitSet) (h : BInv s) : expand s.ranges = s.members := by
  unfold BitSet.ranges
  rw [BitSet.membersAll_eq_members s h]
  exact expand_runsOfList _ (BitSet.members_asc s h)

end FontVerif.IntSet
