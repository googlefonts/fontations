/- C14 / IntSet helper lemmas: `PartialEq` and `Ord` of `BitSet` agree with the mathematical set
(`lexOrd` is the specification of `Ord`); two sets of one mode compare as their stores do. The
`IntSet` comparisons go through `iter_ranges`: IntSetDisc (`ranges_canonical`, which is also what the
hash feeds on, and `==`), IntSetCmp (`Ord`). -/
import FontVerif.Lemmas.IntSetIter
set_option linter.unusedVariables false
namespace FontVerif.IntSet

theorem mem_nonEmptyPages {s : BitSet} {kb : Nat × Nat} :
    kb ∈ s.nonEmptyPages ↔ ∃ kp ∈ s.pages, kp.2.len ≠ 0 ∧ kb = (kp.1, kp.2.bits) := by
  unfold BitSet.nonEmptyPages
  simp only [List.mem_map, List.mem_filter, decide_eq_true_eq]
  constructor
  · rintro ⟨kp, ⟨h1, h2⟩, rfl⟩; exact ⟨kp, h1, h2, rfl⟩
  · rintro ⟨kp, h1, h2, rfl⟩; exact ⟨kp, ⟨h1, h2⟩, rfl⟩

theorem nonEmptyPages_sorted (s : BitSet) (h : BInv s) :
    s.nonEmptyPages.Pairwise (fun a b => a.1 < b.1) := by
  unfold BitSet.nonEmptyPages
  rw [List.pairwise_map]
  exact List.Pairwise.filter _ h.1.1

/-- sets with the same members have the same non-empty pages: a non-empty page of `a` has a
member, so `b` stores a page under the same major, non-empty and with the same 512 bits -/
theorem mem_nonEmptyPages_of_contains_eq {a b : BitSet} (ha : BInv a) (hb : BInv b)
    (hx : ∀ x, a.contains x = b.contains x) {kb : Nat × Nat} (h : kb ∈ a.nonEmptyPages) :
    kb ∈ b.nonEmptyPages := by
  obtain ⟨⟨k, p⟩, hkp, hne, rfl⟩ := mem_nonEmptyPages.1 h
  have hp := ha.1.2 _ hkp
  have hla := lookup_of_mem ha.1.1 hkp
  obtain ⟨i, hi, hbit⟩ := (page_len_ne_zero_iff hp).1 hne
  have hbi : b.contains (k * 512 + i) = true := by rw [← hx, contains_page hla hi]; exact hbit
  unfold BitSet.contains at hbi
  rw [(major_minor_of k i hi).1] at hbi
  cases hlb : lookup b.pages k with
  | none => rw [hlb] at hbi; exact absurd hbi Bool.false_ne_true
  | some q =>
    have hq := hb.1.2 _ (lookup_some_mem hlb)
    have hbits : p.bits = q.bits := by
      apply Nat.eq_of_testBit_eq
      intro j
      by_cases hj : j < 512
      · rw [← contains_page hla hj, ← contains_page hlb hj, hx]
      · have hge : 2 ^ 512 ≤ 2 ^ j := Nat.pow_le_pow_right (by omega) (by omega)
        rw [Nat.testBit_lt_two_pow (Nat.lt_of_lt_of_le hp.1 hge),
          Nat.testBit_lt_two_pow (Nat.lt_of_lt_of_le hq.1 hge)]
    refine mem_nonEmptyPages.2 ⟨(k, q), lookup_some_mem hlb, ?_, by rw [hbits]⟩
    exact (page_len_ne_zero_iff hq).2 ⟨i, hi, by rw [← hbits]; exact hbit⟩

theorem contains_iff_nonEmptyPages (s : BitSet) (h : BInv s) (x : Nat) :
    s.contains x = true ↔
      ∃ b, (majorOf x, b) ∈ s.nonEmptyPages ∧ b.testBit (x % 512) = true := by
  unfold BitSet.contains
  constructor
  · intro hc
    cases hl : lookup s.pages (majorOf x) with
    | none => rw [hl] at hc; exact absurd hc Bool.false_ne_true
    | some p =>
      rw [hl] at hc
      have hmem := lookup_some_mem hl
      exact ⟨p.bits, mem_nonEmptyPages.2 ⟨_, hmem,
        (page_len_ne_zero_iff (h.1.2 _ hmem)).2 ⟨_, Nat.mod_lt _ (by omega), hc⟩, rfl⟩, hc⟩
  · rintro ⟨b, hb, hbit⟩
    obtain ⟨⟨k, p⟩, hkp, _, heq⟩ := mem_nonEmptyPages.1 hb
    injection heq with h1 h2
    subst h1 h2
    rw [lookup_of_mem h.1.1 hkp]
    exact hbit

/-- `BitSet == BitSet` iff the two sets have the same members (empty pages are ignored) -/
theorem BitSet.beq_spec (a b : BitSet) (ha : BInv a) (hb : BInv b) :
    a.beq b = true ↔ ∀ x, a.contains x = b.contains x := by
  unfold BitSet.beq
  rw [beq_iff_eq]
  constructor
  · intro heq x
    rw [Bool.eq_iff_iff, contains_iff_nonEmptyPages a ha, contains_iff_nonEmptyPages b hb, heq]
  · intro hx
    exact pairwise_key_ext (·.1) (nonEmptyPages_sorted a ha) (nonEmptyPages_sorted b hb)
      (fun kb => ⟨mem_nonEmptyPages_of_contains_eq ha hb hx,
        mem_nonEmptyPages_of_contains_eq hb ha (fun x => (hx x).symm)⟩)

/-- the lexicographic order on (ascending) member sequences — the specification of `Ord` -/
def lexOrd : List Nat → List Nat → Ordering
  | [], [] => .eq
  | [], _ :: _ => .lt
  | _ :: _, [] => .gt
  | x :: xs, y :: ys => if x < y then .lt else if x > y then .gt else lexOrd xs ys

theorem lexOrd_append (p xs ys : List Nat) : lexOrd (p ++ xs) (p ++ ys) = lexOrd xs ys := by
  induction p with
  | nil => rfl
  | cons a p ih => simp [lexOrd, ih]

theorem lexCmp_eq (xs ys : List Nat) (n : Nat) :
    lexCmp xs ys (n + xs.length) (n + ys.length) = lexOrd xs ys := by
  induction xs generalizing ys n with
  | nil =>
    cases ys with
    | nil => simp [lexCmp, lexOrd]
    | cons y ys =>
      simp only [lexCmp, lexOrd, List.length_nil, List.length_cons]
      rw [Nat.compare_eq_lt]; omega
  | cons x xs ih =>
    cases ys with
    | nil =>
      simp only [lexCmp, lexOrd, List.length_nil, List.length_cons]
      rw [Nat.compare_eq_gt]; omega
    | cons y ys =>
      simp only [lexCmp, lexOrd, List.length_cons]
      split
      · rfl
      · split
        · rfl
        · have := ih ys (n + 1)
          have e1 : n + (xs.length + 1) = n + 1 + xs.length := by omega
          have e2 : n + (ys.length + 1) = n + 1 + ys.length := by omega
          rw [e1, e2]; exact this

/-- `impl Ord for BitSet` is the lexicographic order on the member sequences -/
theorem BitSet.cmp_spec (a b : BitSet) (ha : BInv a) (hb : BInv b) :
    a.cmp b = lexOrd a.members b.members := by
  unfold BitSet.cmp
  rw [BitSet.len_eq a ha, BitSet.len_eq b hb]
  have := lexCmp_eq a.members b.members 0
  simpa using this

theorem expand_head_lt {rs : List (Nat × Nat)} (h : NRInv rs) {b : Nat} (hb : ∀ q ∈ rs, b < q.1) :
    ∀ x ∈ expand rs, b < x := by
  intro x hx
  rw [mem_expand] at hx
  obtain ⟨q, hq, h1, _⟩ := hx
  have := hb q hq; omega

theorem lexOrd_nil_left (ys : List Nat) : lexOrd [] ys = if ys = [] then .eq else .lt := by
  cases ys <;> simp [lexOrd]

theorem same_mode_set_eq {d : Domain} {a b : IntSet} (ha : IInvD d a) (hb : IInvD d b)
    (hm : a.inverted = b.inverted) :
    (∀ x, a.set.contains x = b.set.contains x) ↔
      ∀ x, d.contains x = true → a.contains x = b.contains x := by
  constructor
  · intro h x _
    rw [IntSet.contains_eq, IntSet.contains_eq, hm, h x]
  · intro h x
    by_cases hx : d.contains x = true
    · have := h x hx
      rw [IntSet.contains_eq, IntSet.contains_eq, hm] at this
      cases h1 : a.set.contains x <;> cases h2 : b.set.contains x <;>
        cases h3 : b.inverted <;> simp_all
    · have h1 : a.set.contains x = false := by
        cases h1 : a.set.contains x
        · rfl
        · exact absurd (ha.2 x h1) hx
      have h2 : b.set.contains x = false := by
        cases h2 : b.set.contains x
        · rfl
        · exact absurd (hb.2 x h2) hx
      rw [h1, h2]

end FontVerif.IntSet
