/-
Sparse-bit-set codec: the specification decoder inverts the encoder's node vector: what is written
for one finished layer (`outW`, `startsOf`), one level of the tree read back, all levels, the byte stream.
-/
import FontVerif.Lemmas.SbsBuild
import FontVerif.Lemmas.SbsSpecMem
import FontVerif.Lemmas.SbsBits
import FontVerif.Lemmas.Lists
namespace FontVerif.SparseBitSet

/-- the loop body `for node in nodes.iter().rev() { match node.node_type … }` -/
def writeTyped (bf : Nat) (o : BitOut) (n : Node) : BitOut :=
  match n.nodeType with
  | .standard => writeNode bf o n.bits
  | .filled => writeNode bf o 0
  | .skip => o

theorem writeTyped_eq (bf : Nat) :
    (fun (o : BitOut) (n : Node) =>
      match n.nodeType with
      | .standard => writeNode bf o n.bits
      | .filled => writeNode bf o 0
      | .skip => o) = writeTyped bf := by
  funext o n
  obtain ⟨b, p, t⟩ := n
  cases t <;> rfl

/-- the non-skipped nodes of a layer in ascending index order -/
def vis (N : List Node) : List Node := N.reverse.filter (fun n => decide (n.nodeType ≠ NodeType.skip))

/-- the value written for a non-skipped node -/
def val (n : Node) : Nat := if n.nodeType = NodeType.filled then 0 else n.bits

def outW (N : List Node) : List Nat := (vis N).map val

/-- the start values of the non-skipped nodes of level `k + 1` -/
def startsOf (bf k : Nat) (N : List Node) : List Nat :=
  (vis N).map (fun n => n.parentIndex * bf ^ (k + 1))

theorem startsOf_length (bf k : Nat) (N : List Node) :
    (startsOf bf k N).length = (outW N).length := by
  rw [startsOf, outW, List.length_map, List.length_map]

theorem foldl_write (bf : Nat) : ∀ (l : List Node) (o : BitOut),
    l.foldl (writeTyped bf) o =
      ((l.filter (fun n => decide (n.nodeType ≠ NodeType.skip))).map val).foldl (writeNode bf) o
  | [], o => rfl
  | n :: l, o => by
    simp only [List.foldl_cons, List.filter_cons, writeTyped]
    cases h : n.nodeType <;> simp [foldl_write bf l, val, h]

/-- everything written for a node vector made of layers (lowest first): the layers from the
top down, each in ascending index order -/
def outLayers (ls : List (List Node)) : List Nat := (ls.reverse.map outW).flatten

theorem outLayers_snoc (ls : List (List Node)) (N : List Node) :
    outLayers (ls ++ [N]) = outW N ++ outLayers ls := by
  simp [outLayers]

theorem outLayers_flatten (ls : List (List Node)) :
    (ls.flatten.reverse.filter (fun n => decide (n.nodeType ≠ NodeType.skip))).map val
      = outLayers ls := by
  induction ls with
  | nil => rfl
  | cons N ls ih =>
    rw [List.flatten_cons, List.reverse_append, List.filter_append, List.map_append, ih]
    simp [outLayers, outW, vis]

theorem mem_vis {N : List Node} {n : Node} :
    n ∈ vis N ↔ n ∈ N ∧ n.nodeType ≠ NodeType.skip := by
  simp [vis]

theorem vis_sorted {bf : Nat} {S : List Nat} {k : Nat} {N : List Node}
    (h : LayerFinal bf S k N) : ((vis N).map (·.parentIndex)).Pairwise (· < ·) := by
  have hs : ((vis N).map (·.parentIndex)).Sublist (N.reverse.map (·.parentIndex)) :=
    List.Sublist.map _ List.filter_sublist
  rw [List.map_reverse] at hs
  exact List.Pairwise.sublist hs h.sorted

theorem exists_node {bf : Nat} {S : List Nat} {k : Nat} {N : List Node}
    (h : LayerFinal bf S k N) {p : Nat} (hp : Ids bf S (k + 1) p) :
    ∃ n ∈ N, n.parentIndex = p := by
  have := (h.mem p).mpr hp
  simpa using this

theorem node_ids {bf : Nat} {S : List Nat} {k : Nat} {N : List Node}
    (h : LayerFinal bf S k N) {n : Node} (hn : n ∈ N) : Ids bf S (k + 1) n.parentIndex :=
  (h.mem _).mp (List.mem_map_of_mem hn)

theorem node_skip_iff {bf : Nat} {S : List Nat} {k : Nat} {N : List Node}
    (h : LayerFinal bf S k N) {n : Node} (hn : n ∈ N) :
    n.nodeType ≠ NodeType.skip ↔ ¬ Full bf S (k + 2) (n.parentIndex / bf) := by
  constructor
  · intro hne hf; exact hne (h.skip n hn hf)
  · intro hnf
    by_cases hf : Full bf S (k + 1) n.parentIndex
    · rw [h.filled n hn hnf hf]; simp
    · rw [h.standard n hn hnf hf]; simp

theorem node_bits_ne_zero {bf : Nat} (hbf : 0 < bf) {S : List Nat} {k : Nat} {N : List Node}
    (h : LayerFinal bf S k N) {n : Node} (hn : n ∈ N) : n.bits ≠ 0 := by
  obtain ⟨v, hv, hvp⟩ := (ids_succ bf S k _).mp (node_ids h hn)
  have hlt : v % bf < bf := Nat.mod_lt _ hbf
  have hb : n.bits.testBit (v % bf) = true := by
    rw [h.bits n hn]
    refine ⟨hlt, ?_⟩
    rw [(div_mod_unique hbf hlt).mpr ⟨hvp, rfl⟩]; exact hv
  intro h0
  rw [h0, Nat.zero_testBit] at hb
  exact Bool.noConfusion hb

theorem node_val_zero_iff {bf : Nat} (hbf : 0 < bf) {S : List Nat} {k : Nat} {N : List Node}
    (h : LayerFinal bf S k N) {n : Node} (hn : n ∈ vis N) :
    val n = 0 ↔ Full bf S (k + 1) n.parentIndex := by
  obtain ⟨hnN, hns⟩ := mem_vis.mp hn
  have hnf := (node_skip_iff h hnN).mp hns
  by_cases hf : Full bf S (k + 1) n.parentIndex
  · simp [val, h.filled n hnN hnf hf, hf]
  · simp only [val, h.standard n hnN hnf hf, hf, iff_false]
    simpa using node_bits_ne_zero hbf h hnN

/-- the non-skipped nodes of a finished layer, by index -/
theorem vis_ids {bf : Nat} {S : List Nat} {k : Nat} {N : List Node} (h : LayerFinal bf S k N)
    (p : Nat) :
    (∃ n ∈ vis N, n.parentIndex = p) ↔ (Ids bf S (k + 1) p ∧ ¬ Full bf S (k + 2) (p / bf)) := by
  constructor
  · rintro ⟨n, hn, rfl⟩
    obtain ⟨hnN, hns⟩ := mem_vis.mp hn
    exact ⟨node_ids h hnN, (node_skip_iff h hnN).mp hns⟩
  · rintro ⟨hp, hnf⟩
    obtain ⟨n, hnN, rfl⟩ := exists_node h hp
    exact ⟨n, mem_vis.mpr ⟨hnN, (node_skip_iff h hnN).mpr hnf⟩, rfl⟩

/-- a non-zero value written is that of a node that is not full: one bit per child with a member
below it -/
theorem vis_bits {bf : Nat} (hbf : 0 < bf) (hbf32 : bf ≤ 32) {S : List Nat} {k : Nat}
    {N : List Node} (h : LayerFinal bf S k N) {n : Node} (hn : n ∈ vis N) (h0 : val n ≠ 0) :
    ¬ Full bf S (k + 1) n.parentIndex ∧
      ∀ i, i ∈ setBits (val n) ↔ (i < bf ∧ Ids bf S k (n.parentIndex * bf + i)) := by
  obtain ⟨hnN, hns⟩ := mem_vis.mp hn
  have hnf : ¬ Full bf S (k + 1) n.parentIndex := fun hf => h0 ((node_val_zero_iff hbf h hn).mpr hf)
  have hv : val n = n.bits := by simp [val, h.standard n hnN ((node_skip_iff h hnN).mp hns) hnf]
  refine ⟨hnf, fun i => ?_⟩
  rw [hv, mem_setBits, h.bits n hnN i]
  exact ⟨fun h => h.2, fun h => ⟨by omega, h⟩⟩

theorem child_start (p i bf k : Nat) :
    p * bf ^ (k + 1) + i * bf ^ k = (p * bf + i) * bf ^ k := by
  have e : bf ^ (k + 1) = bf ^ k * bf := Nat.pow_succ _ _
  rw [Nat.add_mul, e, Nat.mul_assoc p bf, Nat.mul_comm bf]

/-- the set bits of node `p` of level `k + 1`, as starts of level `k`: the nodes of level `k` below
`p` that have a member below them -/
theorem kid_iff {bf : Nat} (hbf : 0 < bf) {S : List Nat} {k p w : Nat}
    (hb : ∀ i, i ∈ setBits w ↔ (i < bf ∧ Ids bf S k (p * bf + i))) (c : Nat) :
    (∃ i ∈ setBits w, p * bf ^ (k + 1) + i * bf ^ k = c) ↔
      ∃ q, Ids bf S k q ∧ q / bf = p ∧ q * bf ^ k = c := by
  constructor
  · rintro ⟨i, hi, rfl⟩
    obtain ⟨hlt, hq⟩ := (hb i).mp hi
    exact ⟨p * bf + i, hq, mul_add_div hbf p hlt, (child_start p i bf k).symm⟩
  · rintro ⟨q, hq, rfl, rfl⟩
    have hlt : q % bf < bf := Nat.mod_lt _ hbf
    have hqe : q / bf * bf + q % bf = q := (div_mod_unique hbf hlt).mpr ⟨rfl, rfl⟩
    exact ⟨q % bf, (hb _).mpr ⟨hlt, by rw [hqe]; exact hq⟩, by rw [child_start, hqe]⟩

/-- all children announced by a finished layer: the nodes one level down that have a member below
them and whose parent is not full.  With `k = 0` these are the members the leaf layer yields. -/
theorem vis_kids {bf : Nat} (hbf : 0 < bf) (hbf32 : bf ≤ 32) {S : List Nat} {k : Nat}
    {N : List Node} (h : LayerFinal bf S k N) (c : Nat) :
    (∃ n ∈ vis N, val n ≠ 0 ∧
        ∃ i ∈ setBits (val n), n.parentIndex * bf ^ (k + 1) + i * bf ^ k = c) ↔
      ∃ q, Ids bf S k q ∧ ¬ Full bf S (k + 1) (q / bf) ∧ q * bf ^ k = c := by
  constructor
  · rintro ⟨n, hn, h0, hi⟩
    obtain ⟨hnf, hb⟩ := vis_bits hbf hbf32 h hn h0
    obtain ⟨q, hq, hqp, hqc⟩ := (kid_iff hbf hb c).mp hi
    exact ⟨q, hq, hqp ▸ hnf, hqc⟩
  · rintro ⟨q, hq, hnf, hqc⟩
    obtain ⟨n, hn, hnp⟩ := (vis_ids h (q / bf)).mpr
      ⟨(ids_succ bf S k _).mpr ⟨q, hq, rfl⟩, fun hf => hnf (full_of_parent hbf hf)⟩
    have h0 : val n ≠ 0 := fun hz => hnf (hnp ▸ (node_val_zero_iff hbf h hn).mp hz)
    exact ⟨n, hn, h0, (kid_iff hbf (vis_bits hbf hbf32 h hn h0).2 c).mpr ⟨q, hq, hnp.symm, hqc⟩⟩

theorem startsOf_sep {bf : Nat} {S : List Nat} {k : Nat} {N : List Node}
    (h : LayerFinal bf S k N) : SepFrom (bf ^ (k + 1)) 0 (startsOf bf k N) := by
  have : startsOf bf k N = ((vis N).map (·.parentIndex)).map (· * bf ^ (k + 1)) := by
    simp [startsOf, List.map_map, Function.comp_def]
  rw [this]
  exact sepFrom_map_mul _ _ 0 (vis_sorted h) (fun _ _ => Nat.zero_le _)

theorem outW_lt {bf : Nat} {S : List Nat} {k : Nat} {N : List Node}
    (h : LayerFinal bf S k N) : ∀ b ∈ outW N, b < 2 ^ bf := by
  intro b hb
  obtain ⟨n, hn, rfl⟩ := List.mem_map.mp hb
  rw [val]
  by_cases hf : n.nodeType = NodeType.filled
  · rw [if_pos hf]; exact Nat.two_pow_pos bf
  · rw [if_neg hf]
    apply Nat.lt_pow_two_of_testBit
    intro i hi
    cases hb : n.bits.testBit i
    · rfl
    · have := ((h.bits n (mem_vis.mp hn).1 i).mp hb).1; omega

/-- the intervals produced by a layer: the values under its full, non-skipped nodes and, on the
leaf layer, the members under a node that is not full -/
theorem layer_ivs {bf : Nat} (hbf : 0 < bf) (hbf32 : bf ≤ 32) {S : List Nat} {k : Nat}
    {N : List Node} (h : LayerFinal bf S k N) (height depth : Nat) (he : height - depth = k)
    (x : Nat) :
    InsMem (specLayer bf height depth (startsOf bf k N) (outW N)).1 x ↔
      ((Full bf S (k + 1) (x / bf ^ (k + 1)) ∧ ¬ Full bf S (k + 2) (x / bf ^ (k + 1) / bf)) ∨
        (depth = height ∧ x ∈ S ∧ ¬ Full bf S (k + 1) (x / bf ^ (k + 1)))) := by
  simp only [startsOf, outW, specLayer_map, insMem_flatMap, insMem_specNode, he, and_or_left,
    exists_or, ← Nat.div_eq_iff (Nat.pow_pos hbf : 0 < bf ^ (k + 1))]
  refine or_congr ⟨?_, ?_⟩ ?_
  · rintro ⟨n, hn, h0, hx⟩
    rw [hx]
    exact ⟨(node_val_zero_iff hbf h hn).mp h0, ((vis_ids h _).mp ⟨n, hn, rfl⟩).2⟩
  · rintro ⟨hf, hnf⟩
    obtain ⟨n, hn, hnp⟩ := (vis_ids h _).mpr ⟨full_ids hbf hf, hnf⟩
    exact ⟨n, hn, (node_val_zero_iff hbf h hn).mpr (hnp ▸ hf), hnp.symm⟩
  · by_cases hd : depth = height
    · -- the leaf layer: its single values are the children at level 0
      obtain rfl : k = 0 := by omega
      have hk := vis_kids hbf hbf32 h x
      simp only [Nat.pow_zero, Nat.mul_one, ids_zero, Nat.zero_add, Nat.pow_one] at hk
      simp only [hd, true_and, Nat.zero_add, Nat.pow_one]
      rw [hk]
      exact ⟨fun ⟨q, hq, hnf, e⟩ => e ▸ ⟨hq, hnf⟩, fun ⟨hx, hnf⟩ => ⟨x, hx, hnf, rfl⟩⟩
    · simp [hd]

/-- the children computed from a non-leaf layer are the starts of the non-skipped nodes of the
layer below, in the same (ascending) order -/
theorem layer_children {bf : Nat} (hbf : 0 < bf) (hbf32 : bf ≤ 32) {S : List Nat} {k : Nat}
    {N' N : List Node} (hup : LayerFinal bf S (k + 1) N') (hlo : LayerFinal bf S k N)
    (height depth : Nat) (hd : depth ≠ height) (he : height - depth = k + 1) :
    (specLayer bf height depth (startsOf bf (k + 1) N') (outW N')).2 = startsOf bf k N := by
  have hc : 0 < bf ^ (k + 1) := Nat.pow_pos hbf
  -- both sides are strictly ascending
  have hsepL := sepFrom_specLayer (bf := bf) height depth hd (startsOf bf (k + 1) N') (outW N') 0
    (outW_lt hup) (by
      rw [he, ← Nat.pow_succ']; exact startsOf_sep hup)
  rw [he] at hsepL
  apply sorted_ext (sepFrom_pairwise hc hsepL) (sepFrom_pairwise hc (startsOf_sep hlo))
  intro c
  simp only [startsOf, outW, specLayer_map, List.mem_flatMap, mem_specNode_kids, he, hd, ne_eq,
    not_false_eq_true, true_and, vis_kids hbf hbf32 hup c, List.mem_map]
  constructor
  · rintro ⟨q, hq, hnf, rfl⟩
    obtain ⟨m, hm, rfl⟩ := (vis_ids hlo q).mpr ⟨hq, hnf⟩
    exact ⟨m, hm, rfl⟩
  · rintro ⟨m, hm, rfl⟩
    obtain ⟨hq, hnf⟩ := (vis_ids hlo _).mp ⟨m, hm, rfl⟩
    exact ⟨_, hq, hnf, rfl⟩

/-- the members below non-full nodes of level `k + 2`: those below a full node of level `k + 1`
and those below a non-full one -/
theorem mem_below {bf : Nat} (hbf : 0 < bf) (S : List Nat) (k x : Nat) :
    ((Full bf S (k + 1) (x / bf ^ (k + 1)) ∧ ¬ Full bf S (k + 2) (x / bf ^ (k + 1) / bf)) ∨
        (x ∈ S ∧ ¬ Full bf S (k + 1) (x / bf ^ (k + 1)))) ↔
      (x ∈ S ∧ ¬ Full bf S (k + 2) (x / bf ^ (k + 1) / bf)) := by
  constructor
  · rintro (⟨hf, hnf⟩ | ⟨hx, hnf⟩)
    · exact ⟨hf x rfl, hnf⟩
    · exact ⟨hx, fun hf => hnf (full_of_parent hbf hf)⟩
  · rintro ⟨hx, hnf⟩
    by_cases hf : Full bf S (k + 1) (x / bf ^ (k + 1))
    · exact Or.inl ⟨hf, hnf⟩
    · exact Or.inr ⟨hx, hf⟩

/-- decoding the levels `k+1, k, …, 1` of the encoder's layers, from the starts of the
non-skipped nodes of level `k+1`: the specification decoder consumes exactly what was written
for these levels and yields the members lying under non-skipped nodes of level `k+1` -/
theorem decode_levels {bf : Nat} (hbf : BfOk bf) (S : List Nat) (layers : List (List Node))
    (H : Nat) (hlen : layers.length = H)
    (hfin : ∀ i (hi : i < layers.length), LayerFinal bf S i layers[i]) (data : List Nat) :
    ∀ (k : Nat) (hk : k < layers.length) (st st' : BitIn),
      readNodes bf data (outLayers (layers.take (k + 1))).length st
        = some (outLayers (layers.take (k + 1)), st') →
      ∃ ivs, specLayers bf H data (k + 1) (H - k) (startsOf bf k layers[k]) st = some (ivs, st') ∧
        ∀ x, InsMem ivs x ↔ (x ∈ S ∧ ¬ Full bf S (k + 2) (x / bf ^ (k + 1) / bf)) := by
  have hbf0 := bfOk_pos hbf
  have hbf32 := bfOk_le_32 hbf
  intro k
  induction k with
  | zero =>
    intro hk st st' hr
    rw [List.take_succ_eq_append_getElem hk, outLayers_snoc] at hr
    simp only [List.take_zero, outLayers, List.reverse_nil, List.map_nil, List.flatten_nil] at hr
    obtain ⟨st1, h1, h2⟩ := readNodes_append_split bf data _ st' _ st hr
    simp only [List.length_nil, readNodes, Option.some.injEq, Prod.mk.injEq, true_and] at h2
    subst h2
    rw [specLayers_succ, startsOf_length, h1]
    simp only [specLayers, Nat.sub_zero, List.append_nil]
    refine ⟨_, rfl, fun x => ?_⟩
    rw [layer_ivs hbf0 hbf32 (hfin 0 hk) H H (Nat.sub_self H) x, ← mem_below hbf0]
    simp only [true_and]
  | succ k ih =>
    intro hk st st' hr
    have hk' : k < layers.length := by omega
    rw [List.take_succ_eq_append_getElem hk, outLayers_snoc] at hr
    obtain ⟨st1, h1, h2⟩ := readNodes_append_split bf data _ st' _ st hr
    obtain ⟨more, hm1, hm2⟩ := ih hk' st1 st' h2
    have hd : H - (k + 1) ≠ H := by omega
    have he : H - (H - (k + 1)) = k + 1 := by omega
    have hch := layer_children hbf0 hbf32 (hfin (k + 1) hk) (hfin k hk') H (H - (k + 1)) hd he
    have hdep : H - (k + 1) + 1 = H - k := by omega
    rw [specLayers_succ, startsOf_length, h1]
    simp only []
    rw [hch, hdep, hm1]
    refine ⟨_, rfl, fun x => ?_⟩
    rw [insMem_append, hm2, layer_ivs hbf0 hbf32 (hfin (k + 1) hk) H (H - (k + 1)) he x,
      ← mem_below hbf0 S (k + 1), div_pow_succ bf x (k + 1)]
    simp only [hd, false_and, or_false]

theorem startsOf_top {bf : Nat} (hbf : BfOk bf) {S : List Nat} (hne : S ≠ []) {H : Nat}
    (hS : ∀ m ∈ S, m < bf ^ (H + 1)) {N : List Node} (h : LayerFinal bf S H N) :
    startsOf bf H N = [0] := by
  have hids : ∀ p, Ids bf S (H + 1) p ↔ p = 0 := by
    intro p
    constructor
    · rintro ⟨m, hm, rfl⟩; exact Nat.div_eq_of_lt (hS m hm)
    · rintro rfl
      obtain ⟨m, hm⟩ := List.exists_mem_of_ne_nil S hne
      exact ⟨m, hm, Nat.div_eq_of_lt (hS m hm)⟩
  have hvis : (vis N).map (·.parentIndex) = [0] := by
    apply sorted_ext (vis_sorted h) (by simp)
    intro p
    simp only [List.mem_map, vis_ids h, hids, List.mem_singleton]
    exact and_iff_left (not_full_above (bfOk_two_le hbf) hS _)
  have : startsOf bf H N = ((vis N).map (·.parentIndex)).map (· * bf ^ (H + 1)) := by
    simp [startsOf, List.map_map, Function.comp_def]
  rw [this, hvis]; simp

/-- the bytes `to_sparse_bit_set_with_bf` writes for an ascending non-empty member list `S`
with tree height `H + 1` (`1 ≤ H + 1 ≤ 31`, all members `< bf^(H+1)`) -/
def encBytes (bf : Nat) (S : List Nat) (h : Nat) : List Nat :=
  ((buildLayers bf h S none []).reverse.foldl (writeTyped bf) (BitOut.new bf h)).bytes

/-- the specification decoder reads the encoder's bytes back to exactly the members, consuming
everything -/
theorem spec_roundtrip {bf : Nat} (hbf : BfOk bf) (S : List Nat) (hsorted : S.Pairwise (· < ·))
    (hne : S ≠ []) (H : Nat) (hH : H + 1 ≤ 31) (hS : ∀ m ∈ S, m < bf ^ (H + 1)) :
    ∃ ivs, specDecode (encBytes bf S (H + 1)) = some (ivs, []) ∧ (∀ x, InsMem ivs x ↔ x ∈ S) ∧
      (∀ b ∈ encBytes bf S (H + 1), b < 256) ∧
      (encBytes bf S (H + 1)).head? = some (((H + 1) % 32) * 4 + bitId bf) := by
  have hbf0 := bfOk_pos hbf
  obtain ⟨uf, layers, hb, _, hlen, hlay⟩ :=
    buildLayers_spec (bfOk_two_le hbf) S (H + 1) hS (H + 1) 0 (by omega) S none [] []
      hsorted (fun v => (ids_zero bf S v).symm)
      (fun v hv => by simp [isF, full_zero, hv]) (Or.inr ⟨rfl, rfl⟩)
  simp only [List.append_nil, List.map_nil, List.nil_append] at hb
  have hfin : ∀ i (hi : i < layers.length), LayerFinal bf S i layers[i] := by
    intro i hi
    have := hlay i hi
    rwa [Nat.zero_add] at this
  have hbytes : encBytes bf S (H + 1) =
      ((outLayers layers).foldl (writeNode bf) (BitOut.new bf (H + 1))).bytes := by
    rw [encBytes, hb, foldl_write, outLayers_flatten]
  have hws : ∀ w ∈ outLayers layers, w < 2 ^ bf := by
    intro w hw
    simp only [outLayers, List.mem_flatten, List.mem_map, List.mem_reverse] at hw
    obtain ⟨l, ⟨N, hN, rfl⟩, hwl⟩ := hw
    obtain ⟨i, hi, rfl⟩ := List.mem_iff_getElem.mp hN
    exact outW_lt (hfin i hi) w hwl
  obtain ⟨st, hr, hcons, hlt, hhead⟩ := readNodes_written hbf (H + 1) (outLayers layers) hws
  rw [← hbytes] at hr hcons hlt hhead
  obtain ⟨b0, tl, hdata⟩ : ∃ b0 tl, encBytes bf S (H + 1) = b0 :: tl := by
    cases hd : encBytes bf S (H + 1) with
    | nil => rw [hd] at hhead; simp at hhead
    | cons b0 tl => exact ⟨b0, tl, rfl⟩
  have hb0 : b0 = ((H + 1) % 32) * 4 + bitId bf := by
    rw [hdata] at hhead; simpa using hhead
  have hbfb : bfOfBits b0 = bf := by rw [hb0]; exact bfOfBits_header hbf _
  have hhb : b0 / 4 % 32 = H + 1 := by
    rw [hb0, height_header]; omega
  have hk : H < layers.length := by omega
  have htake : layers.take (H + 1) = layers := List.take_of_length_le (by omega)
  obtain ⟨ivs, hsl, hmem⟩ := decode_levels hbf S layers (H + 1) hlen hfin
    (encBytes bf S (H + 1)) H hk BitIn.start st (by rw [htake]; exact hr)
  rw [startsOf_top hbf hne hS (hfin H hk)] at hsl
  have hdep : H + 1 - H = 1 := by omega
  rw [hdep] at hsl
  refine ⟨ivs, ?_, fun x => ?_, hlt, hhead⟩
  · rw [hdata] at hsl hcons ⊢
    simp only [specDecode, hbfb, hhb]
    rw [if_neg (by omega), hsl]
    simp only [hcons, List.drop_length]
  · rw [hmem x]
    constructor
    · exact fun h => h.1
    · exact fun h => ⟨h, not_full_above (bfOk_two_le hbf) hS _⟩

end FontVerif.SparseBitSet
