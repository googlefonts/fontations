/-
Byte-list helpers of the outline-preservation proofs: the subsetter's `u16At` and the reader model's `Glyf.u16At` /
`Glyf.i16At` through `take`, `drop` and `++`; equal windows of two buffers.
-/
import FontVerif.Model.Subset
import FontVerif.Model.Glyf
import FontVerif.Lemmas.Lists
namespace FontVerif.SubsetOutline
open FontVerif.Subset

theorem getD_append_left' (a b : Bytes) (j : Nat) (h : j < a.length) : (a ++ b).getD j 0 = a.getD j 0 := by
  rw [List.getD_eq_getElem?_getD, List.getElem?_append_left h, ← List.getD_eq_getElem?_getD]

theorem getD_append_right' (a b : Bytes) (j : Nat) (h : a.length ≤ j) : (a ++ b).getD j 0 = b.getD (j - a.length) 0 := by
  rw [List.getD_eq_getElem?_getD, List.getElem?_append_right h, ← List.getD_eq_getElem?_getD]

theorem getD_set_set_ne (d : Bytes) (i a b j : Nat) (h1 : j ≠ i) (h2 : j ≠ i + 1) :
    ((d.set i a).set (i + 1) b).getD j 0 = d.getD j 0 := by
  rw [getD_set, if_neg (fun h => h2 h.1.symm), getD_set, if_neg (fun h => h1 h.1.symm)]

theorem set_set_bytes (d : Bytes) (i a b : Nat) (h : i + 1 < d.length) :
    ((d.set i a).set (i + 1) b).getD i 0 = a ∧ ((d.set i a).set (i + 1) b).getD (i + 1) 0 = b := by
  constructor
  · rw [getD_set, if_neg (fun h' => absurd h'.1 (by omega)), getD_set, if_pos ⟨rfl, by omega⟩]
  · rw [getD_set, if_pos ⟨rfl, by rw [List.length_set]; exact h⟩]

theorem u16At_set_set (d : Bytes) (i a b : Nat) (h : i + 1 < d.length) :
    u16At ((d.set i a).set (i + 1) b) i = a * 256 + b := by
  obtain ⟨h0, h1⟩ := set_set_bytes d i a b h
  unfold u16At; rw [h0, h1]

theorem u16At_take (d : Bytes) (m p : Nat) (h : p + 2 ≤ m) : u16At (d.take m) p = u16At d p := by
  unfold u16At; rw [getD_take d 0 (by omega : p < m), getD_take d 0 (by omega : p + 1 < m)]

theorem sU16At_append_left (a b : Bytes) (p : Nat) (h : p + 2 ≤ a.length) : u16At (a ++ b) p = u16At a p := by
  unfold u16At
  rw [getD_append_left' a b p (by omega), getD_append_left' a b (p + 1) (by omega)]

theorem sU16At_append_right (pre d : Bytes) (j : Nat) : u16At (pre ++ d) (pre.length + j) = u16At d j := by
  simp only [u16At]
  rw [getD_append_right' _ _ _ (Nat.le_add_right _ _), getD_append_right' _ _ _ (by omega), Nat.add_sub_cancel_left,
    Nat.add_assoc, Nat.add_sub_cancel_left]

theorem sU16At_at_end (a : Bytes) (x y : Nat) (r : Bytes) : u16At (a ++ x :: y :: r) a.length = x * 256 + y := by
  unfold u16At
  rw [getD_append_right' _ _ _ (Nat.le_refl _), getD_append_right' _ _ _ (by omega)]
  simp

theorem u16At_head (X Y : Bytes) (h : ∀ j, j < 10 → X.getD j 0 = Y.getD j 0) : u16At X 0 = u16At Y 0 := by
  unfold u16At; rw [h 0 (by omega), h 1 (by omega)]

theorem gu16_eq (d : Bytes) (p : Nat) (h : p + 2 ≤ d.length) : Glyf.u16At d p = some (u16At d p) := by
  unfold Glyf.u16At u16At; simp [h]

theorem gU16At_append_left (a b : List Nat) (p : Nat) (h : p + 2 ≤ a.length) :
    Glyf.u16At (a ++ b) p = Glyf.u16At a p := by
  rw [gu16_eq _ _ (by rw [List.length_append]; omega), gu16_eq a p h, sU16At_append_left a b p h]

theorem gI16At_append_left (a b : List Nat) (p : Nat) (h : p + 2 ≤ a.length) :
    Glyf.i16At (a ++ b) p = Glyf.i16At a p := by
  unfold Glyf.i16At; rw [gU16At_append_left a b p h]

theorem gi16_congr (X Y : Bytes) (p : Nat) (hx : p + 2 ≤ X.length) (hy : p + 2 ≤ Y.length)
    (h0 : X.getD p 0 = Y.getD p 0) (h1 : X.getD (p + 1) 0 = Y.getD (p + 1) 0) : Glyf.i16At X p = Glyf.i16At Y p := by
  unfold Glyf.i16At Glyf.u16At
  simp only [hx, hy, if_true, h0, h1]

theorem getLast_map_range (n : Nat) (f : Nat → Nat) (h : n ≠ 0) : ((List.range n).map f).getLast? = some (f (n - 1)) := by
  cases n with
  | zero => exact absurd rfl h
  | succ k => simp [List.range_succ]

theorem drop_two (d : Bytes) (a : Nat) (h : a + 2 ≤ d.length) :
    d.drop a = d.getD a 0 :: d.getD (a + 1) 0 :: d.drop (a + 2) := by
  rw [List.drop_eq_getElem_cons (by omega : a < d.length), List.drop_eq_getElem_cons (by omega : a + 1 < d.length)]
  simp [List.getD_eq_getElem?_getD, List.getElem?_eq_getElem (by omega : a < d.length),
    List.getElem?_eq_getElem (by omega : a + 1 < d.length)]

theorem drop_four (X : Bytes) (i : Nat) (h : i + 4 ≤ X.length) :
    X.drop i = X.getD i 0 :: X.getD (i + 1) 0 :: X.getD (i + 2) 0 :: X.getD (i + 3) 0 :: X.drop (i + 4) := by
  rw [drop_two X i (by omega), drop_two X (i + 2) (by omega)]

theorem slice_congr (X Y : Bytes) (p s : Nat) (hl : X.length = Y.length)
    (hv : ∀ j, p ≤ j → j < p + s → X.getD j 0 = Y.getD j 0) :
    (X.drop p).take s = (Y.drop p).take s := by
  apply List.ext_getElem?
  intro n
  simp only [List.getElem?_take, List.getElem?_drop]
  split
  · by_cases hx : p + n < X.length
    · have hy : p + n < Y.length := by omega
      have := hv (p + n) (by omega) (by omega)
      rw [getD_eq_getElem X _ 0 hx, getD_eq_getElem Y _ 0 hy] at this
      rw [List.getElem?_eq_getElem hx, List.getElem?_eq_getElem hy, this]
    · rw [List.getElem?_eq_none (by omega), List.getElem?_eq_none (by omega)]
  · rfl

theorem drop_congr (X Y : Bytes) (p : Nat) (hl : X.length = Y.length)
    (hv : ∀ j, p ≤ j → X.getD j 0 = Y.getD j 0) : X.drop p = Y.drop p := by
  have := slice_congr X Y p X.length hl (fun j hj _ => hv j hj)
  rwa [List.take_of_length_le (by rw [List.length_drop]; omega),
    List.take_of_length_le (by rw [List.length_drop]; omega)] at this

theorem slice_take (B : Bytes) (p s cut : Nat) (h : p + s ≤ cut) : ((B.take cut).drop p).take s = (B.drop p).take s := by
  rw [List.drop_take, List.take_take, Nat.min_eq_left (by omega)]

theorem drop_take_congr (X Y : Bytes) (i n : Nat) (hl : X.length = Y.length)
    (h : ∀ j, i ≤ j → X.getD j 0 = Y.getD j 0) : (X.take (i + n)).drop i = (Y.drop i).take n := by
  rw [List.drop_take]
  have : i + n - i = n := by omega
  rw [this, drop_congr X Y i hl h]

end FontVerif.SubsetOutline

namespace FontVerif.Subset

theorem u16At_congr (a b : Bytes) (i : Nat) (h0 : a.getD i 0 = b.getD i 0) (h1 : a.getD (i + 1) 0 = b.getD (i + 1) 0) :
    u16At a i = u16At b i := by
  unfold u16At; rw [h0, h1]

end FontVerif.Subset
