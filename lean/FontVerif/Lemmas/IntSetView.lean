/- C14 / IntSet helper lemmas: `IntSet` observers in both modes: `iter`, `iter().rev()`,
`iter_after`, `first`, `last`, `intersects_range`, and `iter_ranges` / `iter_excluded_ranges` on
continuous domains (`complementRanges`). -/
import FontVerif.Lemmas.IntSetIter
namespace FontVerif.IntSet

theorem memberRanges_rsorted {d : Domain} (hd : DomWF d) {s : IntSet} (h : IInvD d s) :
    RSorted (s.memberRanges d) := by
  unfold IntSet.memberRanges
  split
  · exact (subtractRanges_spec _ _ hd.sorted (BitSet.ranges_spec _ h.1).1.rsorted).1
  · exact (BitSet.ranges_spec _ h.1).1.rsorted

theorem expand_memberRanges {d : Domain} (hd : DomWF d) {s : IntSet} (h : IInvD d s) :
    expand (s.memberRanges d) = s.elems d := by
  obtain ⟨r1, r2⟩ := BitSet.ranges_spec _ h.1
  unfold IntSet.memberRanges
  split
  · rename_i hi
    obtain ⟨s1, s2⟩ := subtractRanges_spec d.ranges s.set.ranges hd.sorted r1.rsorted
    exact expand_eq_filter s1 (expand_asc hd.sorted) (fun x => by
      rw [s2, r2, mem_expand_iff_nmem, IntSet.contains, if_pos hi, Bool.not_eq_true',
        Bool.not_eq_true])
  · rename_i hi
    simp only [Bool.not_eq_true] at hi
    rw [BitSet.expand_ranges _ h.1, elems_inclusive hd h hi]

theorem IntSet.iterTake_eq {d : Domain} (hd : DomWF d) {s : IntSet} (h : IInvD d s) (k : Nat) :
    s.iterTake d k = (s.elems d).take k := by
  unfold IntSet.iterTake
  split
  · rw [expandTake_eq, expand_memberRanges hd h]
  · rename_i hi
    simp only [Bool.not_eq_true] at hi
    rw [elems_inclusive hd h hi]

theorem IntSet.iterBackTake_eq {d : Domain} (hd : DomWF d) {s : IntSet} (h : IInvD d s) (k : Nat) :
    s.iterBackTake d k = (s.elems d).reverse.take k := by
  unfold IntSet.iterBackTake
  split
  · rw [expandTakeBack_eq, expand_memberRanges hd h]
  · rename_i hi
    simp only [Bool.not_eq_true] at hi
    rw [elems_inclusive hd h hi]

theorem Domain.min_le {d : Domain} (hd : DomWF d) {lo : Nat} (hm : d.min? = some lo) {x : Nat}
    (hx : d.contains x = true) : lo ≤ x := by
  unfold Domain.min? at hm
  rw [Option.map_eq_some_iff] at hm
  obtain ⟨r, hr, rfl⟩ := hm
  cases hrs : d.ranges with
  | nil => rw [hrs] at hr; simp at hr
  | cons r' rest =>
    rw [hrs] at hr
    simp at hr; subst hr
    rw [Domain.contains_iff, hrs] at hx
    have hs := hd.sorted
    rw [hrs] at hs
    exact nmem_ge_head hs hx

theorem Domain.min_some_of_contains {d : Domain} {x : Nat} (hx : d.contains x = true) :
    ∃ lo, d.min? = some lo := by
  rw [Domain.contains_iff] at hx
  obtain ⟨r, hr, _⟩ := hx
  unfold Domain.min?
  cases hrs : d.ranges with
  | nil => rw [hrs] at hr; simp at hr
  | cons r' rest => exact ⟨r'.1, rfl⟩

theorem getLast_max {rs : List (Nat × Nat)} (h : RSorted rs) {l : Nat × Nat}
    (hl : rs.getLast? = some l) : ∀ p ∈ rs, p.2 ≤ l.2 := by
  obtain ⟨ys, rfl⟩ := List.getLast?_eq_some_iff.1 hl
  intro p hp
  rcases List.mem_append.1 hp with hp | hp
  · have h1 := (List.pairwise_append.1 h.1).2.2 p hp l (List.mem_singleton.2 rfl)
    have h2 := h.2 l (List.mem_append_right _ (List.mem_singleton.2 rfl))
    omega
  · rw [List.mem_singleton.1 hp]; exact Nat.le_refl _

theorem Domain.le_max {d : Domain} (hd : DomWF d) {hi : Nat} (hm : d.max? = some hi) {x : Nat}
    (hx : d.contains x = true) : x ≤ hi := by
  unfold Domain.max? at hm
  rw [Option.map_eq_some_iff] at hm
  obtain ⟨l, hl, rfl⟩ := hm
  rw [Domain.contains_iff] at hx
  obtain ⟨r, hr, h1, h2⟩ := hx
  have := getLast_max hd.sorted hl r hr
  omega

theorem Domain.ranges_nil_of_max {d : Domain} (hm : d.max? = none) : d.ranges = [] := by
  unfold Domain.max? at hm
  simpa using hm

theorem IntSet.iterAfterTake_eq {d : Domain} (hd : DomWF d) {s : IntSet} (h : IInvD d s)
    (v k : Nat) :
    s.iterAfterTake d v k = ((s.elems d).filter (fun x => decide (x > v))).take k := by
  unfold IntSet.iterAfterTake
  split
  · rename_i hi
    split
    · rename_i hi' hmx
      split
      · rename_i hlt
        rw [expandTake_eq, expand_clipRanges (memberRanges_rsorted hd h), expand_memberRanges hd h]
        congr 1
        apply List.filter_congr
        intro x hx
        have := Domain.le_max hd hmx (mem_elems.1 hx).1
        by_cases h1 : x > v
        · simp [h1]; omega
        · simp [h1]; omega
      · rename_i hlt
        have : (s.elems d).filter (fun x => decide (x > v)) = [] := by
          rw [List.filter_eq_nil_iff]
          intro x hx
          have := Domain.le_max hd hmx (mem_elems.1 hx).1
          simp; omega
        rw [this]; simp
    · rename_i hmx
      rw [elems_nil_of_ranges (Domain.ranges_nil_of_max hmx)]; simp
  · rename_i hi
    simp only [Bool.not_eq_true] at hi
    rw [elems_inclusive hd h hi]

theorem IntSet.first_eq {d : Domain} (hd : DomWF d) {s : IntSet} (h : IInvD d s) :
    s.first d = (s.elems d).head? := by
  unfold IntSet.first
  rw [IntSet.iterTake_eq hd h]
  cases s.elems d <;> rfl

theorem IntSet.last_eq {d : Domain} (hd : DomWF d) {s : IntSet} (h : IInvD d s) :
    s.last d = (s.elems d).getLast? := by
  unfold IntSet.last
  rw [IntSet.iterBackTake_eq hd h, ← List.head?_reverse]
  cases (s.elems d).reverse <;> rfl

/-- the first element `≥ a` of an ascending list is `≤ b` iff the list meets `[a, b]` -/
theorem head_filter_le (xs : List Nat) (h : Asc xs) (a b : Nat) :
    (match (xs.filter (fun x => decide (a ≤ x))).head? with
      | some n => decide (n ≤ b)
      | none => false) = true ↔ ∃ x ∈ xs, a ≤ x ∧ x ≤ b := by
  have hmem : ∀ {x}, x ∈ xs.filter (fun x => decide (a ≤ x)) ↔ x ∈ xs ∧ a ≤ x := by
    simp [List.mem_filter]
  cases hh : (xs.filter (fun x => decide (a ≤ x))).head? with
  | none =>
    rw [List.head?_eq_none_iff] at hh
    refine iff_of_false Bool.false_ne_true (fun ⟨x, hx, h1, _⟩ => ?_)
    exact List.not_mem_nil (hh ▸ hmem.2 ⟨hx, h1⟩)
  | some y =>
    obtain ⟨hy, hmin⟩ := (asc_head?_eq_some (h.filter _)).1 hh
    simp only [decide_eq_true_eq]
    exact ⟨fun hyb => ⟨y, (hmem.1 hy).1, (hmem.1 hy).2, hyb⟩,
      fun ⟨x, hx, h1, h2⟩ => Nat.le_trans (hmin x (hmem.2 ⟨hx, h1⟩)) h2⟩

/-- `IntSet::intersects_range(a..=b)` for a start point that is a domain value (guaranteed by
the element type): true iff some member lies in `[a, b]` -/
theorem IntSet.intersectsRange_spec {d : Domain} (hd : DomWF d) {s : IntSet} (h : IInvD d s)
    (a b : Nat) (ha : d.contains a = true) :
    s.intersectsRange d a b = true ↔
      ∃ x, a ≤ x ∧ x ≤ b ∧ d.contains x = true ∧ s.contains x = true := by
  obtain ⟨lo, hlo⟩ := Domain.min_some_of_contains ha
  have hge : ∀ x ∈ s.elems d, lo ≤ x := fun x hx => Domain.min_le hd hlo (mem_elems.1 hx).1
  have hrhs : (∃ x ∈ s.elems d, a ≤ x ∧ x ≤ b) ↔
      ∃ x, a ≤ x ∧ x ≤ b ∧ d.contains x = true ∧ s.contains x = true :=
    exists_congr (fun x => by rw [mem_elems, and_comm, and_assoc])
  rw [← hrhs, ← head_filter_le (s.elems d) (elems_asc hd s) a b]
  unfold IntSet.intersectsRange
  rw [hlo]
  simp only []
  rw [expandTakeBack_eq, expand_rangeValues hd]
  -- either way the probe starts at the first member `≥ a`
  rcases seg_reverse_take_two (expand_asc hd.sorted) (Domain.contains_iff_mem.1 ha)
    (Domain.min_le hd hlo ha) with ⟨h1, hmin⟩ | ⟨p, h1, hpa, hmax⟩
  · -- `a` is the least domain value: every member is `≥ a`
    have hall : (s.elems d).filter (fun x => decide (a ≤ x)) = s.elems d :=
      List.filter_eq_self.2 (fun x hx => decide_eq_true
        (hmin x (Domain.contains_iff_mem.1 (mem_elems.1 hx).1) (hge x hx)))
    rw [h1]
    simp only []
    rw [IntSet.iterTake_eq hd h, hall]
    cases s.elems d <;> rfl
  · -- no member lies strictly between the predecessor `p` and `a`
    have hsame : (s.elems d).filter (fun x => decide (x > p)) =
        (s.elems d).filter (fun x => decide (a ≤ x)) :=
      List.filter_congr (fun x hx => decide_eq_decide.2 ⟨fun hgt => Nat.le_of_not_lt (fun hlt => by
        have := hmax x (Domain.contains_iff_mem.1 (mem_elems.1 hx).1) (hge x hx) hlt; omega),
        fun hle => by omega⟩)
    rw [h1]
    simp only []
    rw [IntSet.iterAfterTake_eq hd h, hsame]
    cases (s.elems d).filter (fun x => decide (a ≤ x)) <;> rfl

/-- the step that yields the gap `(min, s - 1)`; `T` is what follows (the complement from `e + 1`
on, or nothing when `e` reaches `max`) -/
theorem complement_cons {min max s e : Nat} {rest T : List (Nat × Nat)}
    (hgap : ∀ q ∈ rest, e + 1 < q.1) (hse : s ≤ e) (hms : min < s) (hemax : e ≤ max)
    (hT : NRInv T) (hTm : ∀ x, NMem T x ↔ e + 1 ≤ x ∧ x ≤ max ∧ ¬ NMem rest x) :
    NRInv ((min, s - 1) :: T) ∧
    (∀ x, NMem ((min, s - 1) :: T) x ↔ min ≤ x ∧ x ≤ max ∧ ¬ NMem ((s, e) :: rest) x) := by
  refine ⟨hT.cons_of_nmem (by simp only; omega)
    (fun x hx => by have := ((hTm x).1 hx).1; simp only; omega), fun x => ?_⟩
  rw [nmem_cons, hTm x, nmem_cons]
  simp only
  constructor
  · rintro (h1 | ⟨h1, h2, h3⟩)
    · refine ⟨h1.1, by omega, fun h4 => ?_⟩
      rcases h4 with h4 | ⟨p, hp, h5, h6⟩
      · omega
      · have := hgap p hp; omega
    · exact ⟨by omega, h2, fun h4 => h4.elim (by omega) h3⟩
  · rintro ⟨h1, h2, h3⟩
    have : ¬ (s ≤ x ∧ x ≤ e) := fun h4 => h3 (Or.inl h4)
    by_cases hx : x < s
    · exact Or.inl (by omega)
    · exact Or.inr ⟨by omega, h2, fun h4 => h3 (Or.inr h4)⟩

theorem complementRanges_spec (min max : Nat) (rs : List (Nat × Nat)) (hr : NRInv rs)
    (hb : ∀ p ∈ rs, min ≤ p.1 ∧ p.2 ≤ max) (hmm : min ≤ max) :
    NRInv (complementRanges min max rs) ∧
    (∀ x, NMem (complementRanges min max rs) x ↔ min ≤ x ∧ x ≤ max ∧ ¬ NMem rs x) := by
  fun_induction complementRanges min max rs with
  | case1 min =>
    refine ⟨nrinv_cons.2 ⟨by simp, hmm, nrinv_nil⟩, fun x => ?_⟩
    rw [nmem_cons]
    simp [nmem_nil]
  | case2 min s e rest hin hge =>
    refine ⟨nrinv_nil, fun x => ?_⟩
    rw [nmem_cons]
    simp only [nmem_nil, false_iff, not_and, Classical.not_not]
    intro h1 h2
    exact Or.inl (by omega)
  | case3 min s e rest hin hnge ih =>
    have hr' := nrinv_cons.1 hr
    simp only at hr'
    have hb1 := hb (s, e) (by simp)
    obtain ⟨i1, i2⟩ := ih hr'.2.2
      (fun p hp => ⟨by have := hr'.1 p hp; omega, (hb p (by simp [hp])).2⟩) (by omega)
    refine ⟨i1, fun x => ?_⟩
    rw [i2 x, nmem_cons]
    simp only
    constructor
    · rintro ⟨h1, h2, h3⟩
      exact ⟨by omega, h2, fun h4 => h4.elim (by omega) h3⟩
    · rintro ⟨h1, h2, h3⟩
      have : ¬ (s ≤ x ∧ x ≤ e) := fun h4 => h3 (Or.inl h4)
      exact ⟨by omega, h2, fun h4 => h3 (Or.inr h4)⟩
  | case4 min s e rest hnin result hlt ih =>
    have hr' := nrinv_cons.1 hr
    simp only at hr'
    have hb1 := hb (s, e) (by simp)
    simp only at hb1
    obtain ⟨i1, i2⟩ := ih hr'.2.2
      (fun p hp => ⟨by have := hr'.1 p hp; omega, (hb p (by simp [hp])).2⟩) (by omega)
    exact complement_cons hr'.1 hr'.2.1 (by omega) hb1.2 i1 i2
  | case5 min s e rest hnin result hnlt =>
    have hr' := nrinv_cons.1 hr
    simp only at hr'
    have hb1 := hb (s, e) (by simp)
    simp only at hb1
    exact complement_cons hr'.1 hr'.2.1 (by omega) hb1.2 nrinv_nil
      (fun x => ⟨fun h => (nmem_nil h).elim, fun h => by omega⟩)

theorem contains_single {d : Domain} {lo hi : Nat} (hr : d.ranges = [(lo, hi)]) (x : Nat) :
    d.contains x = true ↔ lo ≤ x ∧ x ≤ hi := by
  rw [Domain.contains_iff, hr]; simp

theorem min_max_single {d : Domain} {lo hi : Nat} (hr : d.ranges = [(lo, hi)]) :
    d.min? = some lo ∧ d.max? = some hi := by
  simp [Domain.min?, Domain.max?, hr]

theorem xor_xor_cancel (i c : Bool) : ((i ^^ c) ^^ i) = c := by cases i <;> cases c <;> rfl

theorem not_xor_xor (i c : Bool) : (((!i) ^^ c) ^^ i) = !c := by cases i <;> cases c <;> rfl

/-- `iter_ranges_invertible(inv)` on a continuous domain: a sorted, disjoint, non-adjacent range
list covering exactly the members (`inv = false`) resp. the non-members (`inv = true`) -/
theorem IntSet.rangesInvertible_spec {d : Domain} (hd : DomWF d) (hc : d.continuous = true)
    {s : IntSet} (h : IInvD d s) (inv : Bool) :
    NRInv (s.rangesInvertible d inv) ∧
    ∀ x, NMem (s.rangesInvertible d inv) x ↔
      d.contains x = true ∧ (s.contains x ^^ inv) = true := by
  obtain ⟨lo, hi, hr⟩ := hd.cont hc
  obtain ⟨r1, r2⟩ := BitSet.ranges_spec _ h.1
  unfold IntSet.rangesInvertible
  by_cases hm : s.inverted = inv
  ·
    rw [if_pos hm, if_pos hc]
    refine ⟨r1, fun x => ?_⟩
    rw [r2, IntSet.contains_eq, hm, xor_xor_cancel]
    exact ⟨fun hx => ⟨h.2 x hx, hx⟩, fun hx => hx.2⟩
  ·
    rw [if_neg hm, if_pos hc]
    rw [(min_max_single hr).1, (min_max_single hr).2]
    simp only []
    have hb : ∀ p ∈ s.set.ranges, lo ≤ p.1 ∧ p.2 ≤ hi := fun p hp =>
      ⟨((contains_single hr _).1 (h.ranges_ends p hp).1).1,
        ((contains_single hr _).1 (h.ranges_ends p hp).2).2⟩
    obtain ⟨c1, c2⟩ := complementRanges_spec lo hi s.set.ranges r1 hb
      (hd.sorted.2 (lo, hi) (by rw [hr]; exact List.mem_singleton.2 rfl))
    refine ⟨c1, fun x => ?_⟩
    rw [c2, r2, contains_single hr, IntSet.contains_eq, Bool.eq_not_of_ne hm, not_xor_xor,
      Bool.not_eq_true', Bool.not_eq_true, and_assoc]

/-- … and it expands to the members resp. non-members in ascending order -/
theorem IntSet.rangesInvertible_expand {d : Domain} (hd : DomWF d) (hc : d.continuous = true)
    {s : IntSet} (h : IInvD d s) (inv : Bool) :
    expand (s.rangesInvertible d inv) = (expand d.ranges).filter (fun x => s.contains x ^^ inv) :=
  expand_eq_filter (IntSet.rangesInvertible_spec hd hc h inv).1.rsorted (expand_asc hd.sorted)
    (fun x => by rw [(IntSet.rangesInvertible_spec hd hc h inv).2, Domain.contains_iff_mem])

end FontVerif.IntSet
