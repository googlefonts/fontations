/-
C05, positional form of the end-to-end statement: a placement relation `P id hd` ("a copy of input object `id` starts
at `hd`") on the output of `serialize`, closed under following the stored offsets.  What a reader sees (`readBack`)
follows from it.
-/
import FontVerif.Lemmas.GraphSer
import FontVerif.Lemmas.GraphSim
import FontVerif.Lemmas.GraphPack
namespace FontVerif.Graph

/-- the offset stored for link `l` of an object placed at `hd` fits its width, is what the bytes of the field encode,
and leads (from the base `hd + adjustment`) to a placement of the target -/
def LinkPlaced (out : List Nat) (P : Nat → Nat → Prop) (hd : Nat) (l : Link) : Prop :=
  readOffset out hd l ≤ maxValue l.width ∧
    (out.drop (hd + l.pos)).take l.width = beBytes l.width (readOffset out hd l) ∧
    P l.target (hd + l.adj + readOffset out hd l)

/-- wherever `P` places an object of `g`, `out` holds a byte-for-byte copy of it (outside its offset fields; the whole
object lies inside `out`) and every offset stored there leads to a placement of its target -/
def Placed (out : List Nat) (g : Graph) (P : Nat → Nat → Prop) : Prop :=
  ∀ id hd, P id hd → CopyAt out hd (g.obj id) ∧ ∀ l ∈ (g.obj id).links, LinkPlaced out P hd l

theorem serialized_simulation_placed (g g' : Graph) (φ : Nat → Nat) (out : List Nat)
    (hsim : Simulates g' g φ) (hr : φ g'.root = g.root)
    (hwf : ∀ id o, g.objects.find? id = some o → ObjWF o)
    (hsorted : SortedOut g') (hs : serialize g' = some out) :
    ∃ P : Nat → Nat → Prop, P g.root 0 ∧ Placed out g P := by
  obtain ⟨tail, ht⟩ := hsorted.1
  have hshape : ∀ x', (g'.obj x').bytes = (g.obj (φ x')).bytes ∧ fieldsOf (g'.obj x') = fieldsOf (g.obj (φ x')) :=
    fun x' => ⟨(hsim x').1, fields_of_shape _ _ φ (hsim x').2⟩
  have hwf' : ∀ id o, g'.objects.find? id = some o → ObjWF o := by
    intro id o ho
    rw [← obj_of_find ho]
    exact objWF_shape _ _ (hshape id).1 (hshape id).2 (objWF_obj g hwf _)
  have hsound := (serialize_sound_fields g' out hwf' hs).2
  refine ⟨fun id hd => ∃ x', (x', hd) ∈ placements g' g'.order 0 ∧ φ x' = id, ?_, ?_⟩
  · exact ⟨g'.root, by rw [ht]; simp [placements], hr⟩
  · intro id hd ⟨x', hm, hφ⟩
    subst hφ
    obtain ⟨o, ho, hcopy, hlinks⟩ := hsound x' hd hm
    have hobj := obj_of_find ho
    rw [← hobj] at hcopy hlinks
    refine ⟨copyAt_shape out hd _ _ (hshape x').1 (hshape x').2 hcopy, ?_⟩
    intro l hl
    -- `l` is the image of a link `l'` of `g'`: same field, target renamed
    obtain ⟨l', hl', he⟩ := exists_of_map_eq (linkShape φ) (linkShape id) _ _ (hsim x').2 l hl
    simp only [linkShape, id, Prod.mk.injEq] at he
    obtain ⟨e1, e2, e3, e4⟩ := he
    obtain ⟨tpos, t, hpl, _, _, hfit, heq, henc⟩ := hlinks l' hl'
    have hro : readOffset out hd l = readOffset out hd l' := by unfold readOffset; rw [e1, e2]
    unfold LinkPlaced
    rw [hro, ← e1, ← e2, ← e3]
    refine ⟨hfit, henc, l'.target, ?_, e4⟩
    rw [heq]
    exact hpl

/-- a reader that starts at a placement and follows the stored offsets sees the unfolding of the graph from there -/
theorem readBack_of_placed (out : List Nat) (g : Graph) (P : Nat → Nat → Prop) (hP : Placed out g P) :
    ∀ fuel id hd, P id hd → readBack out g fuel hd id = unfold g fuel id := by
  intro fuel
  induction fuel with
  | zero => intro _ _ _; rfl
  | succ n ih =>
    intro id hd h
    obtain ⟨hc, hl⟩ := hP id hd h
    rw [readBack, unfold, masked_copy out hd _ hc]
    exact congrArg _ (List.map_congr_left fun l hm => ih _ _ (hl l hm).2.2)

end FontVerif.Graph
