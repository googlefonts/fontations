/-
`core::slice::binary_search_by` (Model/Layout.lean) on ARBITRARY data: the hand-written readers call it with
comparison closures over unvalidated arrays, so nothing here assumes the closure to be monotone.
-/
import FontVerif.Model.Layout
namespace FontVerif.BinSearch
open FontVerif.Layout

theorem loop_range (cmpAt : Nat → Ordering) :
    ∀ size base, 1 ≤ size → base ≤ bsLoop cmpAt size base ∧ bsLoop cmpAt size base < base + size := by
  intro size
  induction size using Nat.strongRecOn with
  | _ size ih =>
    intro base h1
    unfold bsLoop
    by_cases hs : size > 1
    · rw [dif_pos hs]
      have hlt : size - size / 2 < size := by omega
      split
      · have := ih (size - size / 2) hlt base (by omega); omega
      · have := ih (size - size / 2) hlt (base + size / 2) (by omega); omega
    · rw [dif_neg hs]; omega

theorem ok_lt {n : Nat} {cmpAt : Nat → Ordering} {i : Nat}
    (h : binarySearchBy n cmpAt = .ok i) : i < n ∧ cmpAt i = .eq := by
  unfold binarySearchBy at h
  by_cases hn : n = 0
  · simp [hn] at h
  · rw [if_neg hn] at h
    have hr := loop_range cmpAt n 0 (by omega)
    generalize bsLoop cmpAt n 0 = b at h hr
    cases hc : cmpAt b <;> simp [hc] at h
    subst h
    exact ⟨by omega, hc⟩

theorem err_le {n : Nat} {cmpAt : Nat → Ordering} {i : Nat}
    (h : binarySearchBy n cmpAt = .err i) : i ≤ n := by
  unfold binarySearchBy at h
  by_cases hn : n = 0
  · simp [hn] at h; omega
  · rw [if_neg hn] at h
    have hr := loop_range cmpAt n 0 (by omega)
    generalize bsLoop cmpAt n 0 = b at h hr
    cases hc : cmpAt b <;> simp [hc] at h <;> omega

theorem ok_getD {α : Type} {l : List α} {dflt : α} {cmp : α → Ordering} {ix : Nat}
    (h : binarySearchBy l.length (fun i => cmp (l.getD i dflt)) = .ok ix) :
    ∃ hlt : ix < l.length, l[ix]? = some l[ix] ∧ cmp l[ix] = .eq := by
  obtain ⟨hlt, heq⟩ := ok_lt h
  have hget := List.getElem?_eq_getElem hlt
  rw [List.getD_eq_getElem?_getD, hget] at heq
  exact ⟨hlt, hget, heq⟩

/-- the step of the hand-written `while lo < hi` searches (`Hdmx::record_for_size`): either half is at most half as long -/
theorem mid_facts {lo hi : Nat} (h : lo < hi) :
    lo ≤ (lo + hi) / 2 ∧ (lo + hi) / 2 < hi ∧ hi - ((lo + hi) / 2 + 1) ≤ (hi - lo) / 2 ∧
      (lo + hi) / 2 - lo ≤ (hi - lo) / 2 := by omega

end FontVerif.BinSearch

/-! the comparison closures of the searches, inverted -/
namespace FontVerif.Layout

theorem natCmp_eq {a b : Nat} : natCmp a b = .eq ↔ a = b := Nat.compare_eq_eq

theorem rangeCmp_eq {r : RangeRec} {g : Nat} : rangeCmp r g = .eq ↔ r.start ≤ g ∧ g ≤ r.end_ := by
  unfold rangeCmp
  by_cases h1 : r.end_ < g <;> by_cases h2 : r.start > g <;> simp [h1, h2] <;> omega

end FontVerif.Layout
