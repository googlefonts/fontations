/-
C04 ⇄ C05, DSL lift.  One statement at a time: what a statement of the nested writer (`emitN`) can do (`StepN`), and
what the scalar writer (`emitField`) does for the same statement on an object that differs from the written one only in
its offset scalars.  Then whole tables: a nested write whose value tree is found in the output at `hd` (`TableAt`) is a
run of the scalar writer (`emit`), on the object whose offset scalars are the numbers found there, that reproduces the
table's own bytes; and every non-null offset found there leads to the child table.
-/
import FontVerif.Model.FieldNested
import FontVerif.Lemmas.FieldRT
import FontVerif.Lemmas.TableWriterRead
namespace FontVerif.FieldNested
open FontVerif.Field FontVerif.TableWriter FontVerif.C04

theorem beVal_eq_beValue (bs : List Nat) : beVal bs = beValue bs := rfl

theorem be_zero (w : Nat) : be w 0 = List.replicate w 0 := by
  induction w with
  | zero => rfl
  | succ n ih => rw [be, Nat.zero_div, ih, List.replicate_succ']

theorem beVal_replicate_zero (w : Nat) : beVal (List.replicate w 0) = 0 := by
  induction w with
  | zero => rfl
  | succ n ih => rw [List.replicate_succ', beVal_eq_beValue, beValue_append_one, ← beVal_eq_beValue, ih]

theorem maxValue_lt (w v : Nat) (hw : w = 2 ∨ w = 3 ∨ w = 4) (h : v ≤ Graph.maxValue w) : v < 256 ^ w := by
  rcases hw with rfl | rfl | rfl <;> exact Nat.lt_of_le_of_lt h (by decide)

theorem lenOf_simple (w : Nat) (h : w = 2 ∨ w = 3 ∨ w = 4) : lenOf w = w ∧ min w 4 = w := by
  rcases h with rfl | rfl | rfl <;> simp [lenOf]

theorem adjAfter_zero (fs : Fields) : adjAfter fs 0 = 0 := by
  induction fs with
  | nil => rfl
  | bytes b r ih => exact ih
  | null w r ih => exact ih
  | link w ty c r ihc ihr => simp only [adjAfter, ihc, ihr]
  | adjust n b r _ ihr => simp only [adjAfter, ihr]
  | pad2 r ih => exact ih

theorem take_split (S : List Nat) (len a n : Nat) :
    (S.drop len).take (a + n) = (S.drop len).take a ++ (S.drop (len + a)).take n := by
  rw [List.take_add, List.drop_drop]

theorem numAt_of_lookup (v : View) (f n : Nat) (h : v.lookup f = some (.num n)) : numAt v f = n := by
  simp only [numAt, h]

theorem emitField_view (ext : Ext) (o : Obj) (v1 v2 : View) (w : WF) (h : condHolds v1 w.cond = condHolds v2 w.cond) :
    emitField ext o v1 w = emitField ext o v2 w := by
  unfold emitField
  rw [h]

theorem slotOK_cons (slots : Slots) (w : WF) (ws : List WF) (h : slotOK slots (w :: ws) = true) :
    slotOK slots [w] = true ∧ slotOK slots ws = true := by
  simp only [slotOK, List.all_cons, List.all_nil, Bool.and_true, Bool.and_eq_true] at h ⊢
  exact ⟨h.1, h.2⟩

theorem slotOK_cond (slots : Slots) (w : WF) (h : slotOK slots [w] = true) :
    ∀ vf cc, w.cond = some (vf, cc) → slotW slots vf = none := by
  intro vf cc hc
  simp only [slotOK, List.all_cons, List.all_nil, Bool.and_true, Bool.and_eq_true, hc] at h
  simpa using h.1

theorem slotOK_slot (slots : Slots) (w : WF) (width : Nat) (h : slotOK slots [w] = true)
    (hs : slotW slots w.id = some width) :
    w.item = .scalar .field width ∧ (width = 2 ∨ width = 3 ∨ width = 4) := by
  simp only [slotOK, List.all_cons, List.all_nil, Bool.and_true, Bool.and_eq_true, hs] at h
  obtain ⟨_, h1, h2⟩ := h
  simp only [decide_eq_true_eq] at h1
  simp only [Bool.or_eq_true, beq_iff_eq] at h2
  exact ⟨h1, by rcases h2 with (h2 | h2) | h2 <;> simp [h2]⟩

theorem slotOK_count (slots : Slots) (w : WF) (h : slotOK slots [w] = true) (hs : slotW slots w.id = none)
    (arr a b sz : Nat) (hi : w.item = .scalar (.count arr a b) sz) : slotW slots arr = none := by
  simp only [slotOK, List.all_cons, List.all_nil, Bool.and_true, Bool.and_eq_true, hs, hi] at h
  simpa using h.2

theorem emitField_congr (ext : Ext) (o O' : Obj) (slots : Slots) (view : View) (w : WF)
    (hok : slotOK slots [w] = true) (hs : slotW slots w.id = none)
    (hO : ∀ f, slotW slots f = none → O'.get f = o.get f) (hext : ∀ k, ext k O' = ext k o) :
    emitField ext O' view w = emitField ext o view w := by
  unfold emitField
  rw [hO w.id hs]
  cases hi : w.item with
  | scalar src sz =>
    have : srcVal ext O' w.id src = srcVal ext o w.id src := by
      cases src with
      | field => simp only [srcVal, hO w.id hs]
      | const v => rfl
      | count arr a b => simp only [srcVal, hO arr (slotOK_count slots w hok hs arr a b sz hi)]
      | computed k => simp only [srcVal, hext k]
    simp only [this]
  | _ => rfl

theorem emitField_slot {ext : Ext} {O' : Obj} {slots : Slots} {view : View} {w : WF} {width x : Nat}
    (hok : slotOK slots [w] = true) (hs : slotW slots w.id = some width) (hc : condHolds view w.cond = true)
    (hget : O'.get w.id = .num x) (hx : x < 256 ^ width) :
    emitField ext O' view w = some (be width x, .num x) := by
  rw [emitField, if_pos hc, (slotOK_slot slots w width hok hs).1]
  simp only [srcVal, hget, if_pos hx]

/-- two views agree on every field that is not an offset field -/
def AgreeOff (slots : Slots) (v1 v2 : View) : Prop := ∀ f, slotW slots f = none → v1.lookup f = v2.lookup f

theorem AgreeOff.refl (slots : Slots) (v : View) : AgreeOff slots v v := fun _ _ => rfl

theorem AgreeOff.cons {slots : Slots} {v1 v2 : View} {id : Nat} {x y : Val} (h : AgreeOff slots v1 v2)
    (hxy : slotW slots id = none → x = y) : AgreeOff slots ((id, x) :: v1) ((id, y) :: v2) := by
  intro f hf
  by_cases he : f = id
  · subst he
    simp only [hxy hf, List.lookup, beq_self_eq_true]
  · rw [lookup_cons_of_ne x v1 he, lookup_cons_of_ne y v2 he]
    exact h f hf

theorem condHolds_agree (slots : Slots) (v1 v2 : View) (c : Option (Nat × Cond)) (h : AgreeOff slots v1 v2)
    (hc : ∀ vf cc, c = some (vf, cc) → slotW slots vf = none) : condHolds v1 c = condHolds v2 c :=
  condHolds_congr v2 v1 c (fun vf cc he => h vf (hc vf cc he))

/-- what one statement `w` of `emitN` can do in the view `view`: the view entry it records, and the value tree with
its call in front of the calls `fs'` of the remaining statements -/
inductive StepN (ext : Ext) (o : Obj) (slots : Slots) (kids : Kids) (view : View) (w : WF) (fs' : Fields) :
    Val → Fields → Prop
  | null {width : Nat} : slotW slots w.id = some width → condHolds view w.cond = true → kids w.id = none →
    StepN ext o slots kids view w fs' (.num 0) (.null width fs')
  | link {width : Nat} {ty : Graph.TType} {c : Fields} : slotW slots w.id = some width →
    condHolds view w.cond = true → kids w.id = some (ty, c) →
    StepN ext o slots kids view w fs' (.num (256 ^ width - 1)) (.link width ty c fs')
  | gated {width : Nat} : slotW slots w.id = some width → ¬ condHolds view w.cond = true →
    StepN ext o slots kids view w fs' .absent fs'
  | plain {b : Bytes} {val : Val} : slotW slots w.id = none → emitField ext o view w = some (b, val) →
    StepN ext o slots kids view w fs' val (.bytes b fs')

theorem emitN_step {ext : Ext} {o : Obj} {slots : Slots} {kids : Kids} {w : WF} {ws : List WF} {view v : View}
    {fs : Fields} (h : emitN ext o slots kids (w :: ws) view = some (fs, v)) :
    ∃ e fs', emitN ext o slots kids ws ((w.id, e) :: view) = some (fs', v) ∧ StepN ext o slots kids view w fs' e fs := by
  rw [emitN] at h
  cases hs : slotW slots w.id with
  | some width =>
    simp only [hs] at h
    by_cases hc : condHolds view w.cond = true
    · rw [if_pos hc] at h
      cases hk : kids w.id with
      | none =>
        simp only [hk] at h
        cases hrec : emitN ext o slots kids ws ((w.id, .num 0) :: view) with
        | none => simp only [hrec] at h; cases h
        | some r => simp only [hrec] at h; cases h; exact ⟨_, r.1, hrec, .null hs hc hk⟩
      | some tc =>
        simp only [hk] at h
        cases hrec : emitN ext o slots kids ws ((w.id, .num (256 ^ width - 1)) :: view) with
        | none => simp only [hrec] at h; cases h
        | some r => simp only [hrec] at h; cases h; exact ⟨_, r.1, hrec, .link hs hc hk⟩
    · rw [if_neg hc] at h
      exact ⟨_, fs, h, .gated hs hc⟩
  | none =>
    simp only [hs] at h
    cases hf : emitField ext o view w with
    | none => simp only [hf] at h; cases h
    | some bv =>
      cases hrec : emitN ext o slots kids ws ((w.id, bv.2) :: view) with
      | none => simp only [hf, hrec] at h; cases h
      | some r => simp only [hf, hrec] at h; cases h; exact ⟨_, r.1, hrec, .plain hs hf⟩

/-- byte length of a table without `adjust_offsets` blocks and padding -/
def lenN : Fields → Nat
  | .nil => 0
  | .bytes b r => b.length + lenN r
  | .null w r => w + lenN r
  | .link w _ _ r => w + lenN r
  | .adjust _ _ _ => 0
  | .pad2 _ => 0

/-- byte runs, null offsets, offsets of width 2/3/4 — nothing else -/
def Simple : Fields → Prop
  | .nil => True
  | .bytes _ r => Simple r
  | .null _ r => Simple r
  | .link w _ _ r => (w = 2 ∨ w = 3 ∨ w = 4) ∧ Simple r
  | .adjust _ _ _ => False
  | .pad2 _ => False

theorem emitN_simple (ext : Ext) (o : Obj) (slots : Slots) (kids : Kids) :
    ∀ (ws : List WF) (view : View) (fs : Fields) (v : View),
      emitN ext o slots kids ws view = some (fs, v) → slotOK slots ws = true → Simple fs := by
  intro ws
  induction ws with
  | nil => intro view fs v h _; cases h; trivial
  | cons w ws ih =>
    intro view fs v h hok
    obtain ⟨hok1, hokr⟩ := slotOK_cons slots w ws hok
    obtain ⟨e, fs', hrec, hstep⟩ := emitN_step h
    have hs' := ih _ fs' v hrec hokr
    cases hstep with
    | link hs _ _ => exact ⟨(slotOK_slot slots w _ hok1 hs).2, hs'⟩
    | _ => exact hs'

theorem flat_simple (fs : Fields) : ∀ len, Simple fs → (flat fs len).length = lenN fs := by
  induction fs with
  | nil => intro len _; rfl
  | bytes b r ih => intro len h; simp only [flat, lenN, List.length_append, ih _ h]
  | null w r ih => intro len h; simp only [flat, lenN, List.length_append, List.length_replicate, ih _ h]
  | link w ty c r ihc ihr =>
    intro len h
    simp only [flat, lenN, List.length_append, List.length_replicate, ihr _ h.2, (lenOf_simple w h.1).2]
  | adjust n b r _ _ => intro len h; cases h
  | pad2 r _ => intro len h; cases h

theorem skelLinks_range (fs : Fields) : ∀ len a, Simple fs → len + lenN fs < U32 →
    ∀ l ∈ skelLinks fs len a, len ≤ l.pos ∧ l.pos + l.width ≤ len + lenN fs := by
  -- a part of `n` bytes in front shifts the bounds of what follows
  have shift : ∀ (len n m : Nat) (l : Graph.Link), (len + n ≤ l.pos ∧ l.pos + l.width ≤ len + n + m) →
      len ≤ l.pos ∧ l.pos + l.width ≤ len + (n + m) := fun len n m l h =>
    ⟨Nat.le_trans (Nat.le_add_right _ _) h.1, Nat.add_assoc len n m ▸ h.2⟩
  induction fs with
  | nil => intro len a _ _ l hl; cases hl
  | bytes b r ih =>
    intro len a h hs l hl
    exact shift _ _ _ l (ih (len + b.length) a h (Nat.add_assoc len b.length (lenN r) ▸ hs) l hl)
  | null w r ih =>
    intro len a h hs l hl
    exact shift _ _ _ l (ih (len + w) a h (Nat.add_assoc len w (lenN r) ▸ hs) l hl)
  | link w ty c r ihc ihr =>
    intro len a h hs l hl
    obtain ⟨e1, e2⟩ := lenOf_simple w h.1
    have hlt : len < U32 := Nat.lt_of_le_of_lt (Nat.le_add_right _ _) hs
    rw [skelLinks, e1, e2, Nat.mod_eq_of_lt hlt] at hl
    rcases List.mem_cons.mp hl with rfl | hl
    · exact ⟨Nat.le_refl _, Nat.add_le_add_left (Nat.le_add_right _ _) _⟩
    · exact shift _ _ _ l (ihr (len + w) _ h.2 (Nat.add_assoc len w (lenN r) ▸ hs) l hl)
  | adjust n b r _ _ => intro len a h; cases h
  | pad2 r _ => intro len a h; cases h

/-- `out` holds at `hd` the table `fs` from byte `len` on, as a reader needs it: byte runs and null offsets literally, a
non-null offset as the big-endian encoding of some number that fits its width and leads to the child table -/
def SegAgrees (out : List Nat) (hd : Nat) : Fields → Nat → Nat → Prop
  | .nil, _, _ => True
  | .bytes b rest, len, a => ((out.drop hd).drop len).take b.length = b ∧ SegAgrees out hd rest (len + b.length) a
  | .null w rest, len, a => ((out.drop hd).drop len).take w = List.replicate w 0 ∧ SegAgrees out hd rest (len + w) a
  | .link w _ c rest, len, a =>
    (∃ x, x < 256 ^ w ∧ ((out.drop hd).drop len).take w = be w x ∧ TableAt out (hd + adjAfter c a + x) c a) ∧
      SegAgrees out hd rest (len + w) (adjAfter c a)
  | .adjust _ _ _, _, _ => False
  | .pad2 _, _, _ => False

theorem take_of_agree (out : List Nat) (hd len : Nat) (X T : List Nat) (n m : Nat) (hn : X.length = n) (P : Nat → Prop)
    (h : ∀ j, len ≤ j → j < len + (n + m) → P j → out[hd + j]? = (X ++ T)[j - len]?)
    (hP : ∀ j, len ≤ j → j < len + n → P j) : ((out.drop hd).drop len).take n = X := by
  rw [List.drop_drop]
  refine Graph.field_eq out (hd + len) n X hn fun j hj => ?_
  have hj' : len + j < len + n := Nat.add_lt_add_left hj len
  rw [Nat.add_assoc, h (len + j) (Nat.le_add_right _ _) (Nat.lt_of_lt_of_le hj' (Nat.add_le_add_left (Nat.le_add_right _ _) _))
    (hP _ (Nat.le_add_right _ _) hj'), Nat.add_sub_cancel_left, List.getElem?_append_left (hn ▸ hj)]

theorem agree_tail (out : List Nat) (hd len : Nat) (X T : List Nat) (n m : Nat) (hn : X.length = n) (P : Nat → Prop)
    (h : ∀ j, len ≤ j → j < len + (n + m) → P j → out[hd + j]? = (X ++ T)[j - len]?) :
    ∀ j, len + n ≤ j → j < len + n + m → P j → out[hd + j]? = T[j - (len + n)]? := by
  subst hn
  intro j h1 h2 hp
  rw [h j (Nat.le_trans (Nat.le_add_right _ _) h1) (Nat.add_assoc len _ m ▸ h2) hp,
    List.getElem?_append_right (Nat.le_sub_of_add_le' h1), Nat.sub_sub]

/-- **from C05's `CopyAt` to literal segments** (`j` counts from the start of the table) -/
theorem segAgrees_of_plain (out : List Nat) (hd : Nat) (fs : Fields) : ∀ len a, Simple fs → len + lenN fs < U32 →
    (∀ j, len ≤ j → j < len + lenN fs → (∀ l ∈ skelLinks fs len a, ¬ (l.pos ≤ j ∧ j < l.pos + l.width)) →
      out[hd + j]? = (flat fs len)[j - len]?) →
    ReadsAs out hd fs len a → SegAgrees out hd fs len a := by
  induction fs with
  | nil => intro len a _ _ _ _; trivial
  | bytes b r ih =>
    intro len a hs hlen hplain hr
    rw [lenN] at hlen hplain
    have hlen' : len + b.length + lenN r < U32 := Nat.add_assoc len b.length (lenN r) ▸ hlen
    refine ⟨take_of_agree out hd len b _ _ _ rfl _ hplain ?_,
      ih (len + b.length) a hs hlen' (agree_tail out hd len b _ _ _ rfl _ hplain) hr⟩
    -- the offset slots all lie behind the byte run
    intro j _ hj l hl h
    exact Nat.lt_irrefl _ (Nat.lt_of_lt_of_le hj
      (Nat.le_trans (skelLinks_range r (len + b.length) a hs hlen' l hl).1 h.1))
  | null w r ih =>
    intro len a hs hlen hplain hr
    rw [lenN] at hlen hplain
    have hlen' : len + w + lenN r < U32 := Nat.add_assoc len w (lenN r) ▸ hlen
    refine ⟨take_of_agree out hd len (List.replicate w 0) _ _ _ List.length_replicate _ hplain ?_,
      ih (len + w) a hs hlen' (agree_tail out hd len _ _ _ _ List.length_replicate _ hplain) hr⟩
    intro j _ hj l hl h
    exact Nat.lt_irrefl _ (Nat.lt_of_lt_of_le hj (Nat.le_trans (skelLinks_range r (len + w) a hs hlen' l hl).1 h.1))
  | link w ty c r ihc ihr =>
    intro len a hs hlen hplain hr
    obtain ⟨e1, e2⟩ := lenOf_simple w hs.1
    obtain ⟨hfit, henc, hcopy, hchild, hrest⟩ := hr
    rw [lenN] at hlen
    have hmod : len % U32 = len := Nat.mod_eq_of_lt (Nat.lt_of_le_of_lt (Nat.le_add_right _ _) hlen)
    rw [e1, hmod] at hfit henc hcopy hchild
    rw [e2] at hrest
    rw [lenN, flat, skelLinks, e1, e2, hmod] at hplain
    refine ⟨⟨beValue ((out.drop (hd + len)).take w), maxValue_lt w _ hs.1 hfit, ?_, hcopy, hchild⟩,
      ihr (len + w) _ hs.2 (Nat.add_assoc len w (lenN r) ▸ hlen) ?_ hrest⟩
    · rw [List.drop_drop, be_eq_beBytes]; exact henc
    · -- behind the slot, the slot itself excludes nothing
      intro j h1 h2 hp
      refine agree_tail out hd len _ _ _ _ List.length_replicate _ hplain j h1 h2 (fun l hl => ?_)
      rcases List.mem_cons.mp hl with rfl | hl
      · intro h; exact absurd h.2 (Nat.not_lt.mpr h1)
      · exact hp l hl
  | adjust n b r _ _ => intro len a h; cases h
  | pad2 r _ => intro len a h; cases h

theorem segAgrees_of_tableAt (out : List Nat) (hd : Nat) (fs : Fields) (hs : Simple fs) (hlen : lenN fs < U32)
    (h : TableAt out hd fs 0) : SegAgrees out hd fs 0 0 := by
  obtain ⟨hcopy, hr⟩ := h
  have hbytes : (skel fs 0).bytes.length = lenN fs := flat_simple fs 0 hs
  refine segAgrees_of_plain out hd fs 0 0 hs (by omega) (fun j _ hj hp => ?_) hr
  rw [Nat.zero_add] at hj
  exact hcopy.2 j (hbytes ▸ hj) hp

/-- the kids found by one run: for every offset statement that is present, a null child reads 0 and a non-null child
is the table at `hd + offset` -/
def KidsAt (slots : Slots) (kids : Kids) (out : List Nat) (hd : Nat) (ws : List WF) (vA : View) : Prop :=
  ∀ w ∈ ws, ∀ width, slotW slots w.id = some width → condHolds vA w.cond = true →
    match kids w.id with
    | none => numAt vA w.id = 0
    | some (_, c) => TableAt out (hd + numAt vA w.id) c 0

/-- **one statement of `emitN` whose call is found in `out` is one statement of `emit`**: the bytes `b` it stands for,
the entry `e'` it records on the `emit` side (the number found in the bytes where `w` is an offset), what that entry
says of the child, and `emitField` on any object that carries the number -/
theorem StepN.emit {ext : Ext} {o : Obj} {slots : Slots} {kids : Kids} {vN vA : View} {w : WF} {fs' fs : Fields}
    {e : Val} {out : List Nat} {hd len : Nat} (hstep : StepN ext o slots kids vN w fs' e fs)
    (hok : slotOK slots [w] = true) (hc : condHolds vN w.cond = condHolds vA w.cond)
    (hseg : SegAgrees out hd fs len 0) :
    ∃ (e' : Val) (b : Bytes), SegAgrees out hd fs' (len + b.length) 0 ∧
      ((out.drop hd).drop len).take (lenN fs) = b ++ ((out.drop hd).drop (len + b.length)).take (lenN fs') ∧
      (slotW slots w.id = none → e = e') ∧
      (∀ width, slotW slots w.id = some width → condHolds vA w.cond = true → ∀ v : View, v.lookup w.id = some e' →
        match kids w.id with
        | none => numAt v w.id = 0
        | some (_, c) => TableAt out (hd + numAt v w.id) c 0) ∧
      ∀ O' : Obj, (∀ f, slotW slots f = none → O'.get f = o.get f) → (∀ k, ext k O' = ext k o) →
        (slotW slots w.id ≠ none → ∀ x, e' = .num x → O'.get w.id = .num x) → emitField ext O' vA w = some (b, e') := by
  cases hstep with
  | @null width hs hcN hk =>
    obtain ⟨hz, hsegr⟩ := hseg
    refine ⟨.num 0, List.replicate width 0, by rw [List.length_replicate]; exact hsegr, ?_,
      (fun h => nomatch hs.symm.trans h), fun _ _ _ v hv => ?_, fun O' _ _ hsl => ?_⟩
    · rw [List.length_replicate, lenN, take_split, hz]
    · rw [hk]; exact numAt_of_lookup _ _ _ hv
    · rw [← be_zero]
      exact emitField_slot hok hs (hc ▸ hcN) (hsl (by rw [hs]; simp) 0 rfl) (Nat.pow_pos (by decide))
  | @link width ty c hs hcN hk =>
    obtain ⟨⟨x0, hx0, hslot, hchild⟩, hsegr⟩ := hseg
    rw [adjAfter_zero] at hchild hsegr
    refine ⟨.num x0, be width x0, by rw [be_length]; exact hsegr, ?_,
      (fun h => nomatch hs.symm.trans h), fun _ _ _ v hv => ?_, fun O' _ _ hsl => ?_⟩
    · rw [be_length, lenN, take_split, hslot]
    · rw [hk, numAt_of_lookup _ _ _ hv]; exact hchild
    · exact emitField_slot hok hs (hc ▸ hcN) (hsl (by rw [hs]; simp) x0 rfl) hx0
  | @gated width hs hcN =>
    have hcA : ¬ condHolds vA w.cond = true := fun h => hcN (hc.trans h)
    exact ⟨.absent, [], hseg, rfl, (fun h => nomatch hs.symm.trans h), fun _ _ h => absurd h hcA,
      fun O' _ _ _ => by rw [emitField, if_neg hcA]⟩
  | @plain b _ hs hf =>
    obtain ⟨hb, hsegr⟩ := hseg
    refine ⟨e, b, hsegr, by rw [lenN, take_split, hb], fun _ => rfl,
      (fun width hs' => nomatch hs.symm.trans hs'), fun O' hO hext _ => ?_⟩
    rw [emitField_congr ext o O' slots vA w hok hs hO hext, ← emitField_view ext o vN vA w hc]
    exact hf

/-- **a run of `emitN` whose value tree is found in `out` is a run of `emit`** on any object `O'` that agrees with `o`
outside the offset fields and whose offset scalars are the numbers found in the bytes (= the entries of the final view
`vA'`, which does not depend on `O'`) -/
theorem emitN_emit (ext : Ext) (o : Obj) (slots : Slots) (kids : Kids) (out : List Nat) (hd : Nat) :
    ∀ (ws pre : List WF) (vN vA : View) (len : Nat) (fs : Fields) (vN' : View),
      emitN ext o slots kids ws vN = some (fs, vN') → wfW pre ws = true → slotOK slots ws = true →
      AgreeOff slots vN vA → SegAgrees out hd fs len 0 →
      ∃ vA', AgreeOff slots vN' vA' ∧ KidsAt slots kids out hd ws vA' ∧
        (∀ f, (∀ w ∈ ws, w.id ≠ f) → vA'.lookup f = vA.lookup f) ∧
        ∀ O' : Obj, (∀ f, slotW slots f = none → O'.get f = o.get f) → (∀ k, ext k O' = ext k o) →
          (∀ w ∈ ws, slotW slots w.id ≠ none → ∀ x, vA'.lookup w.id = some (.num x) → O'.get w.id = .num x) →
          emit ext O' ws vA = some (((out.drop hd).drop len).take (lenN fs), vA') := by
  intro ws
  induction ws with
  | nil =>
    intro pre vN vA len fs vN' h _ _ hag _
    cases h
    exact ⟨vA, hag, fun w hw => (nomatch hw), fun _ _ => rfl, fun _ _ _ _ => rfl⟩
  | cons w ws ih =>
    intro pre vN vA len fs vN' h hwf hok hag hseg
    obtain ⟨hok1, hokr⟩ := slotOK_cons slots w ws hok
    obtain ⟨hfreshPre, hcok, hwfr⟩ := wfW_cons.mp hwf
    have hfr := wfW_fresh ws (w :: pre) hwfr
    obtain ⟨e, fs', hrec, hstep⟩ := emitN_step h
    obtain ⟨e', b, hsegr, hbytes, hee, hkid, hfield⟩ :=
      hstep.emit hok1 (condHolds_agree slots vN vA w.cond hag (slotOK_cond slots w hok1)) hseg
    obtain ⟨vA', hag', hkr, hl, hrun⟩ :=
      ih (w :: pre) _ ((w.id, e') :: vA) _ fs' vN' hrec hwfr hokr (hag.cons hee) hsegr
    -- the rest of the run keeps the entry of `w`, and the entries its condition looks at (they are earlier fields)
    have hent : vA'.lookup w.id = some e' := by
      rw [hl w.id fun w' hw' => (hfr w' hw' w List.mem_cons_self).symm]
      simp [List.lookup]
    have hcv : condHolds vA' w.cond = condHolds vA w.cond := condHolds_of_condOk hcok fun p hp =>
      (hl p.id fun w' hw' => (hfr w' hw' p (List.mem_cons_of_mem _ hp)).symm).trans
        (lookup_cons_of_ne _ vA (ne_id_of_any_false hfreshPre p hp))
    refine ⟨vA', hag', fun w' hw' => ?_, fun f hf => ?_, fun O' hO hext hsl => ?_⟩
    · rcases List.mem_cons.mp hw' with rfl | hw'
      · exact fun width hs hc => hkid width hs (hcv ▸ hc) vA' hent
      · exact hkr w' hw'
    · exact (hl f fun w' hw' => hf w' (List.mem_cons_of_mem _ hw')).trans
        (lookup_cons_of_ne _ vA fun he => hf w List.mem_cons_self he.symm)
    · simp only [emit, hfield O' hO hext fun hs x hx => hsl w List.mem_cons_self hs x (hx ▸ hent),
        hrun O' hO hext fun w' hw' => hsl w' (List.mem_cons_of_mem _ hw'), hbytes]

/-- the owned value whose offset scalars are the offsets found in the output: `o` with the offset fields replaced by
the entries of `vA` -/
def patchObj (slots : Slots) (o : Obj) (vA : View) : Obj :=
  vA.filter (fun e => (slotW slots e.1).isSome) ++ o

theorem lookup_filter_slot (slots : Slots) (vA : View) (f : Nat) :
    (vA.filter (fun e => (slotW slots e.1).isSome)).lookup f = if (slotW slots f).isSome then vA.lookup f else none := by
  induction vA with
  | nil => simp [List.lookup]
  | cons e rest ih =>
    by_cases hf : f = e.1
    · subst hf
      cases hk : (slotW slots e.1).isSome <;> simp [List.filter, List.lookup, hk, ih]
    · have hne : (f == e.1) = false := by simpa using hf
      cases hk : (slotW slots e.1).isSome <;> simp only [List.filter, hk, List.lookup, hne, ih]

theorem patch_get_nonslot (slots : Slots) (o : Obj) (vA : View) (f : Nat) (h : slotW slots f = none) :
    (patchObj slots o vA).get f = o.get f := by
  unfold patchObj Obj.get
  rw [List.lookup_append, lookup_filter_slot, h]
  simp

theorem patch_get_slot (slots : Slots) (o : Obj) (vA : View) (f x : Nat) (h : slotW slots f ≠ none)
    (hl : vA.lookup f = some (.num x)) : (patchObj slots o vA).get f = .num x := by
  unfold patchObj Obj.get
  have : (slotW slots f).isSome = true := by
    cases hs : slotW slots f with
    | none => exact absurd hs h
    | some _ => rfl
  rw [List.lookup_append, lookup_filter_slot, this, if_pos rfl, hl]
  simp

/-- the offset fields of `Gdef` (write-fonts generated_gdef.rs): glyph class def, attach list, lig caret list, mark attach
class def (16-bit), mark glyph sets (16-bit, version ≥ 1.2), item variation store (32-bit, version ≥ 1.3) -/
def gdefSlots : Slots := [(1, 2), (2, 2), (3, 2), (4, 2), (5, 2), (6, 4)]

end FontVerif.FieldNested
