/-
C18 — order / grouping independence of glyph-keyed patches that agree on shared gids: first-wins lookup and
applied bits under permutation, what an arm / the whole application / `tableAfter` depend on (congruences, a
group of patches that does not name an arm), and the two-step statement on chunk lists behind every arm.

Spec vocabulary:
  `Agree tag gps`  any two patches of `gps` that both list gid g for `tag` carry the same data for g
-/
import FontVerif.Lemmas.IftGlyph
namespace FontVerif.Ift

def Agree (tag : Tag) (gps : List GlyphPatches) : Prop :=
  ∀ p ∈ gps, ∀ q ∈ gps, ∀ g d1 d2, (g, d1) ∈ patchData tag p → (g, d2) ∈ patchData tag q → d1 = d2

def AgreeAll (gps : List GlyphPatches) : Prop := ∀ tag, IsArmTag tag → Agree tag gps

theorem lookup_perm_agree (l l' : List (Nat × Bytes)) (hp : l.Perm l')
    (ha : ∀ g d1 d2, (g, d1) ∈ l → (g, d2) ∈ l → d1 = d2) (g : Nat) : l.lookup g = l'.lookup g := by
  cases h : l.lookup g with
  | some d =>
    have hm := mem_of_lookup_eq_some h
    obtain ⟨d', hd'⟩ := lookup_isSome_of_mem l' g d (hp.mem_iff.mp hm)
    have hm' := hp.mem_iff.mpr (mem_of_lookup_eq_some hd')
    rw [hd', ha g d d' hm hm']
  | none =>
    cases h' : l'.lookup g with
    | none => rfl
    | some d' =>
      have hm' := hp.mem_iff.mpr (mem_of_lookup_eq_some h')
      obtain ⟨d, hd⟩ := lookup_isSome_of_mem l g d' hm'
      rw [h] at hd; cases hd

theorem agree_flat (tag : Tag) (gps : List GlyphPatches) (ha : Agree tag gps) :
    ∀ g d1 d2, (g, d1) ∈ gps.flatMap (patchData tag) → (g, d2) ∈ gps.flatMap (patchData tag) → d1 = d2 := by
  intro g d1 d2 h1 h2
  obtain ⟨p, hp, hp'⟩ := List.mem_flatMap.mp h1
  obtain ⟨q, hq, hq'⟩ := List.mem_flatMap.mp h2
  exact ha p hp q hq g d1 d2 hp' hq'

theorem firstWins_perm (tag : Tag) (gps gps' : List GlyphPatches) (hp : gps.Perm gps')
    (ha : Agree tag gps) (g : Nat) : firstWins tag gps g = firstWins tag gps' g :=
  lookup_perm_agree _ _ (List.Perm.flatMap_right _ hp) (agree_flat tag gps ha) g

theorem firstWins_append (tag : Tag) (g1 g2 : List GlyphPatches) (k : Nat) :
    firstWins tag (g1 ++ g2) k = (firstWins tag g1 k).or (firstWins tag g2 k) := by
  simp only [firstWins, List.flatMap_append, List.lookup_append]

theorem firstWins_none_of_no_tag (tag : Tag) (gps : List GlyphPatches)
    (h : ¬ ∃ gp ∈ gps, tag ∈ gp.tables) (k : Nat) : firstWins tag gps k = none := by
  have : gps.flatMap (patchData tag) = [] := by
    rw [List.flatMap_eq_nil_iff]
    intro gp hgp
    have hn : tag ∉ gp.tables := fun hm => h ⟨gp, hgp, hm⟩
    simp [patchData, indexOfTag_none tag gp.tables 0 hn]
  simp [firstWins, this]

theorem dedup_perm (tag : Tag) (gps gps' : List GlyphPatches) (hp : gps.Perm gps') (ha : Agree tag gps)
    (repl : List (Nat × Bytes)) (h : dedup tag gps = .ok repl) : dedup tag gps' = .ok repl := by
  obtain ⟨s, pr, l⟩ := dedup_spec tag gps repl h
  obtain ⟨repl', h'⟩ := dedupFrom_ok_of_readable tag gps' [] (fun gp hgp => pr gp (hp.mem_iff.mpr hgp))
  have h'' : dedup tag gps' = .ok repl' := h'
  obtain ⟨s', _, l'⟩ := dedup_spec tag gps' repl' h''
  rw [h'']
  congr 1
  apply sorted_lookup_ext _ _ s' s
  intro k
  rw [l k, l' k, firstWins_perm tag gps gps' hp ha k]

theorem dedup_eq_of_lookup (tag : Tag) (g1 g2 : List GlyphPatches) (r1 r2 : List (Nat × Bytes))
    (h1 : dedup tag g1 = .ok r1) (h2 : dedup tag g2 = .ok r2)
    (h : ∀ k, firstWins tag g1 k = firstWins tag g2 k) : r1 = r2 := by
  obtain ⟨s1, _, l1⟩ := dedup_spec tag g1 r1 h1
  obtain ⟨s2, _, l2⟩ := dedup_spec tag g2 r2 h2
  exact sorted_lookup_ext _ _ s1 s2 (fun k => by rw [l1 k, l2 k, h k])

theorem setAppliedBit_length (d d' : Bytes) (b : Nat) (h : setAppliedBit d b = some d') : d'.length = d.length :=
  (setAppliedBit_spec d d' b h).1

theorem setAppliedBit_comm (d : Bytes) (b1 b2 : Nat) :
    (setAppliedBit d b1).bind (fun d' => setAppliedBit d' b2)
      = (setAppliedBit d b2).bind (fun d' => setAppliedBit d' b1) := by
  simp only [setAppliedBit_eq]
  -- a byte string keeps its length, so either order fails iff one of the two indices is out of range
  by_cases h1 : b1 / 8 < d.length <;> by_cases h2 : b2 / 8 < d.length <;>
    simp only [h1, h2, if_true, if_false, Option.bind_some, Option.bind_none, List.length_modify]
  by_cases e : b1 / 8 = b2 / 8
  · rw [e, List.modify_modify_eq, List.modify_modify_eq]
    congr 2; funext x
    simp only [Function.comp_apply, Nat.or_assoc, Nat.or_comm (1 <<< (b1 % 8))]
  · rw [List.modify_modify_ne _ _ _ e]

theorem setBits_perm (bs bs' : List Nat) (hp : bs.Perm bs') : ∀ d, setBits d bs = setBits d bs' := by
  induction hp with
  | nil => intro d; rfl
  | cons b _ ih =>
    intro d
    simp only [setBits]
    cases setAppliedBit d b with
    | none => rfl
    | some d' => exact ih d'
  | swap b c l =>
    intro d
    have hc := setAppliedBit_comm d c b
    simp only [setBits]
    cases h1 : setAppliedBit d c <;> cases h2 : setAppliedBit d b <;> simp only [h1, h2, Option.bind_some, Option.bind_none] at hc ⊢
    · rw [← hc]
    · rw [hc]
    · rw [hc]
  | trans _ _ ih1 ih2 => intro d; rw [ih1, ih2]

theorem markApplied_perm (infos infos' : List PatchInfo) (hp : infos.Perm infos') :
    ∀ st, markApplied infos st = markApplied infos' st := by
  intro ⟨i, x⟩
  have hm : ∀ (o : Option Bytes) f, markedTable o (bitsFor f infos) = markedTable o (bitsFor f infos') := by
    intro o f
    have hb : (bitsFor f infos).Perm (bitsFor f infos') := (hp.filter _).map _
    cases o with
    | none =>
      simp only [markedTable]
      by_cases e : bitsFor f infos = []
      · rw [if_pos e, if_pos (by rw [e] at hb; exact hb.nil_eq.symm)]
      · rw [if_neg e, if_neg (fun e' => e (by rw [e'] at hb; exact hb.eq_nil))]
    | some d => simp only [markedTable, setBits_perm _ _ hb d]
  rw [markApplied_eq, markApplied_eq, hm, hm]

theorem markApplied_append (l1 l2 : List PatchInfo) (st : Option Bytes × Option Bytes) :
    markApplied (l1 ++ l2) st = (markApplied l1 st >>= markApplied l2) := by
  induction l1 generalizing st with
  | nil => obtain ⟨i, x⟩ := st; rfl
  | cons a rest ih =>
    obtain ⟨i, x⟩ := st
    simp only [List.cons_append, markApplied]
    cases (if a.iftx then x else i) with
    | none => rfl
    | some d =>
      simp only
      cases setAppliedBit d a.bit with
      | none => rfl
      | some d' => exact ih _

theorem armOf_congr_ignored (font : Font) (gps gps' : List GlyphPatches) (m : Nat) (tag : Tag)
    (h : ¬ IsArmTag tag) : armOf font gps m tag = armOf font gps' m tag := by
  rw [(armOf_none_iff font gps m tag).mpr h, (armOf_none_iff font gps' m tag).mpr h]

theorem armOf_congr_dedup (font : Font) (gps gps' : List GlyphPatches) (m : Nat) (tag : Tag)
    (h : dedup tag gps = dedup tag gps') : armOf font gps m tag = armOf font gps' m tag := by
  by_cases harm : IsArmTag tag
  · rcases harm.cases with e | e | ⟨v2, e⟩ <;> subst e
    · rw [armOf_glyf, armOf_glyf]; unfold glyfArm; rw [h]
    · rw [armOf_gvar, armOf_gvar]; unfold gvarPatch; rw [h]
    · rw [armOf_cff, armOf_cff]; unfold cffPatch; rw [h]
  · exact armOf_congr_ignored font gps gps' m tag harm

theorem glyfAndLoca_congr (font font' : Font) (h1 : font'.get TAG_glyf = font.get TAG_glyf)
    (h2 : font'.get TAG_head = font.get TAG_head) (h3 : font'.get TAG_loca = font.get TAG_loca) :
    glyfAndLoca font' = glyfAndLoca font := by
  unfold glyfAndLoca; rw [h1, h2, h3]

theorem numGlyphs_congr (font font' : Font) (h : font'.get TAG_maxp = font.get TAG_maxp) :
    numGlyphs font' = numGlyphs font := by
  unfold numGlyphs; rw [h]

/-- an arm reads only its own tables (+ head for glyf, + the charstrings offset in `IFT ` for CFF) -/
theorem armOf_congr_font (font font' : Font) (gps : List GlyphPatches) (m : Nat) (tag : Tag)
    (h : ∀ t, ownerOf t = some tag → font'.get t = font.get t)
    (hhead : font'.get TAG_head = font.get TAG_head)
    (hift : (tag = TAG_CFF ∨ tag = TAG_CFF2) →
      ∀ v2, iftCharstringsOffset (font'.get TAG_IFT) v2 = iftCharstringsOffset (font.get TAG_IFT) v2) :
    armOf font' gps m tag = armOf font gps m tag := by
  by_cases harm : IsArmTag tag
  · rcases harm.cases with e | e | ⟨v2, e⟩ <;> subst e
    · rw [armOf_glyf, armOf_glyf]
      unfold glyfArm
      rw [glyfAndLoca_congr font font' (h _ ((ownerOf_glyf_iff _).mpr (Or.inl rfl))) hhead
        (h _ ((ownerOf_glyf_iff _).mpr (Or.inr rfl)))]
    · rw [armOf_gvar, armOf_gvar, h _ ((ownerOf_single_iff _ _ (Or.inl rfl)).mpr rfl)]
    · rw [armOf_cff, armOf_cff, h _ (ownerOf_cffTag v2)]
      unfold cffPatch
      rw [hift (by cases v2 <;> simp [cffTag]) v2]
  · rw [(armOf_none_iff font' gps m tag).mpr harm, (armOf_none_iff font gps m tag).mpr harm]

/-- the whole application is a function of (tag set, arms of the listed tags, applied bits) -/
theorem applyGlyphPatches_congr_arms (infos infos' : List PatchInfo) (gps gps' : List GlyphPatches) (font : Font)
    (e1 : tableTagList gps = tableTagList gps')
    (e3 : markApplied infos (font.get TAG_IFT, font.get TAG_IFTX)
            = markApplied infos' (font.get TAG_IFT, font.get TAG_IFTX))
    (e2 : ∀ tags, tableTagList gps = .ok tags → ∀ tag ∈ tags, ∀ m,
      armOf font gps m tag = armOf font gps' m tag) :
    applyGlyphPatches infos gps font = applyGlyphPatches infos' gps' font := by
  unfold applyGlyphPatches
  rw [← e1, ← e3]
  cases font.get TAG_maxp with
  | none => rfl
  | some maxp =>
    simp only
    split
    · rfl
    · cases ht : tableTagList gps with
      | error e => rfl
      | ok tags =>
        simp only
        rw [patchTables_congr font gps gps' _ tags _ (fun tag htag => e2 tags ht tag htag _)]

theorem applyGlyphPatches_congr (infos infos' : List PatchInfo) (gps gps' : List GlyphPatches) (font : Font)
    (e1 : tableTagList gps = tableTagList gps')
    (e3 : markApplied infos (font.get TAG_IFT, font.get TAG_IFTX)
            = markApplied infos' (font.get TAG_IFT, font.get TAG_IFTX))
    (e2 : ∀ tags, tableTagList gps = .ok tags → ∀ tag ∈ tags, dedup tag gps = dedup tag gps') :
    applyGlyphPatches infos gps font = applyGlyphPatches infos' gps' font :=
  applyGlyphPatches_congr_arms infos infos' gps gps' font e1 e3
    (fun tags ht tag htag m => armOf_congr_dedup font gps gps' m tag (e2 tags ht tag htag))

theorem armOuts_congr (font font' : Font) (gps gps' : List GlyphPatches) (m : Nat) (tag : Tag)
    (h : armOf font' gps' m tag = armOf font gps m tag) : armOuts font' gps' m tag = armOuts font gps m tag := by
  unfold armOuts; rw [h]

theorem tableAfter_append_left (font : Font) (gps1 gps2 : List GlyphPatches) (m : Nat) (t : Tag)
    (h : ∀ tag, ownerOf t = some tag → tag ∉ gps2.flatMap (·.tables)) :
    tableAfter font (gps1 ++ gps2) m t = tableAfter font gps1 m t := by
  unfold tableAfter
  cases ho : ownerOf t with
  | none => rfl
  | some tag =>
    have hn := h tag ho
    simp only [List.flatMap_append, List.mem_append, hn, or_false]
    rw [armOuts_congr font font gps1 (gps1 ++ gps2) m tag (armOf_congr_dedup font _ _ m tag
      (dedup_append_left tag gps1 gps2 (fun hx => hn (List.mem_flatMap.mpr hx))))]

theorem tableAfter_append_right (font : Font) (gps1 gps2 : List GlyphPatches) (m : Nat) (t : Tag)
    (h : ∀ tag, ownerOf t = some tag → tag ∉ gps1.flatMap (·.tables)) :
    tableAfter font (gps1 ++ gps2) m t = tableAfter font gps2 m t := by
  unfold tableAfter
  cases ho : ownerOf t with
  | none => rfl
  | some tag =>
    have hn := h tag ho
    simp only [List.flatMap_append, List.mem_append, hn, false_or]
    rw [armOuts_congr font font gps2 (gps1 ++ gps2) m tag (armOf_congr_dedup font _ _ m tag
      (dedup_append_right tag gps1 gps2 (fun hx => hn (List.mem_flatMap.mpr hx))))]

theorem tableAfter_congr (font font' : Font) (gps : List GlyphPatches) (m : Nat) (t : Tag)
    (hget : font'.get t = font.get t)
    (harm : ∀ tag, ownerOf t = some tag → tag ∈ gps.flatMap (·.tables) → armOf font' gps m tag = armOf font gps m tag) :
    tableAfter font' gps m t = tableAfter font gps m t := by
  unfold tableAfter
  cases ho : ownerOf t with
  | none => exact hget
  | some tag =>
    simp only
    by_cases c : tag ∈ gps.flatMap (·.tables)
    · rw [if_pos c, if_pos c, armOuts_congr font font' gps gps m tag (harm tag ho c)]
    · rw [if_neg c, if_neg c, hget]

theorem chunkFor_two_step (a A : OffsetArray) (t : OffsetType) (repl1 repl2 repl12 : List (Nat × Bytes))
    (m g : Nat) (hg : g < m + 1)
    (hAo : A.offsets = newOffsets (chunks a t repl1 m)) (hAd : A.data = (chunks a t repl1 m).flatten)
    (h12 : repl12.lookup g = (repl1.lookup g).or (repl2.lookup g))
    (hag : ∀ d1 d2, repl1.lookup g = some d1 → repl2.lookup g = some d2 → d1 = d2) :
    chunkFor A t repl2 g = chunkFor a t repl12 g := by
  have hcs1 : glyphAt A.offsets A.data g = chunkFor a t repl1 g := by
    rw [hAo, hAd, newOffsets_glyphAt _ g (by rw [chunks_length]; exact hg), chunks_getElem]
  unfold chunkFor at hcs1 ⊢
  rw [h12]
  cases hf1 : repl1.lookup g with
  | none =>
    rw [hf1] at hcs1
    cases hf2 : repl2.lookup g with
    | none => simp only [Option.or_none]; exact hcs1
    | some d2 => rfl
  | some d1 =>
    rw [hf1] at hcs1
    cases hf2 : repl2.lookup g with
    | none => simp only [Option.or_none]; exact hcs1
    | some d2 =>
      have := hag d1 d2 hf1 hf2
      subst this; rfl

/-- every arm's grouping lemma is this statement plus reading its own table format back -/
theorem chunks_two_step (tag : Tag) (a A : OffsetArray) (t t2 t12 : OffsetType) (gps1 gps2 : List GlyphPatches)
    (repl1 repl2 repl12 : List (Nat × Bytes)) (m : Nat) (hagree : Agree tag (gps1 ++ gps2))
    (hd1 : dedup tag gps1 = .ok repl1) (hd2 : dedup tag gps2 = .ok repl2)
    (hd12 : dedup tag (gps1 ++ gps2) = .ok repl12)
    (hAo : A.offsets = newOffsets (chunks a t repl1 m)) (hAd : A.data = (chunks a t repl1 m).flatten)
    (h2 : t2.divisor = t.divisor) (h12 : t12.divisor = t.divisor) :
    chunks A t2 repl2 m = chunks a t12 repl12 m := by
  rw [chunks_congr_divisor A t2 t h2, chunks_congr_divisor a t12 t h12]
  obtain ⟨_, _, lk1⟩ := dedup_spec tag gps1 repl1 hd1
  obtain ⟨_, _, lk2⟩ := dedup_spec tag gps2 repl2 hd2
  obtain ⟨_, _, lk12⟩ := dedup_spec tag (gps1 ++ gps2) repl12 hd12
  apply List.ext_getElem
  · rw [chunks_length, chunks_length]
  · intro g hga _
    rw [chunks_getElem, chunks_getElem]
    rw [chunks_length] at hga
    apply chunkFor_two_step a A t repl1 repl2 repl12 m g hga hAo hAd
    · rw [lk12 g, lk1 g, lk2 g, firstWins_append]
    · intro d1 d2 hf1 hf2
      rw [lk1 g] at hf1
      rw [lk2 g] at hf2
      have m1 : (g, d1) ∈ (gps1 ++ gps2).flatMap (patchData tag) := by
        rw [List.flatMap_append]; exact List.mem_append_left _ (mem_of_lookup_eq_some hf1)
      have m2 : (g, d2) ∈ (gps1 ++ gps2).flatMap (patchData tag) := by
        rw [List.flatMap_append]; exact List.mem_append_right _ (mem_of_lookup_eq_some hf2)
      exact agree_flat tag _ hagree g d1 d2 m1 m2

end FontVerif.Ift
