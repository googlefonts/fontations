/-
Lemmas for C19 (extension loop with a failing server, `extendF`): the status map's keys stay
duplicate-free and inside the uri universe, so the number of applied uris — the termination measure
of `round_progress` — is bounded by the size of the universe.
-/
import FontVerif.Props.C19
namespace FontVerif.PatchGroup

/-- the status map has unique keys, all of them uris of the universe -/
def PdOk (U : List Uri) (pd : PatchData) : Prop :=
  (pd.map (·.1)).Nodup ∧ ∀ k, k ∈ pd.map (·.1) → k ∈ U

theorem PdOk.nil (U : List Uri) : PdOk U [] := ⟨by simp, by simp⟩

theorem appliedCount_le (U : List Uri) (pd : PatchData) (h : PdOk U pd) : appliedCount pd ≤ U.length := by
  have h1 : appliedCount pd ≤ pd.length := by
    unfold appliedCount; exact List.length_filter_le _ _
  have h2 := h.1.length_le_of_subset (l₂ := U) h.2
  simp only [List.length_map] at h2
  omega

theorem pdGet_none_iff (pd : PatchData) (u : Uri) : pdGet pd u = none ↔ u ∉ pd.map (·.1) := by
  induction pd with
  | nil => simp [pdGet]
  | cons x xs ih =>
    obtain ⟨k, v⟩ := x
    simp only [pdGet, List.map_cons, List.mem_cons, not_or]
    split
    · next hk => subst hk; simp
    · next hk => rw [ih]; constructor
                 · intro h; exact ⟨fun e => hk e.symm, h⟩
                 · intro h; exact h.2

theorem fetchMissingOpt_spec (fetch : Uri → Option (List Nat)) (U : List Uri) :
    ∀ (uris : List Uri) (pd pd1 : PatchData), (∀ u, u ∈ uris → u ∈ U) → PdOk U pd →
      fetchMissingOpt fetch pd uris = some pd1 → PdOk U pd1 ∧ appliedCount pd1 = appliedCount pd
  | [], pd, pd1, _, hok, h => by simp only [fetchMissingOpt] at h; cases h; exact ⟨hok, rfl⟩
  | u :: us, pd, pd1, hu, hok, h => by
    have hus : ∀ x, x ∈ us → x ∈ U := fun x hx => hu x (List.mem_cons_of_mem _ hx)
    simp only [fetchMissingOpt] at h
    split at h
    · exact fetchMissingOpt_spec fetch U us pd pd1 hus hok h
    · next hnone =>
      split at h
      · cases h
      · next data _ =>
        have hnot := (pdGet_none_iff pd u).1 hnone
        have hok' : PdOk U (pd ++ [(u, .pending data)]) := by
          constructor
          · simp only [List.map_append, List.map_cons, List.map_nil]
            exact nodup_concat hok.1 hnot
          · intro k hk
            simp only [List.map_append, List.map_cons, List.map_nil, List.mem_append,
              List.mem_singleton] at hk
            rcases hk with hk | rfl
            · exact hok.2 k hk
            · exact hu _ (List.mem_cons_self ..)
        obtain ⟨r1, r2⟩ := fetchMissingOpt_spec fetch U us _ pd1 hus hok' h
        exact ⟨r1, by rw [r2, count_append_pending]⟩

theorem fetchMissingOpt_none (fetch : Uri → Option (List Nat)) :
    ∀ (uris : List Uri) (pd : PatchData) (u : Uri), u ∈ uris → pdGet pd u = none → fetch u = none →
      fetchMissingOpt fetch pd uris = none
  | [], pd, u, hu, _, _ => by cases hu
  | x :: xs, pd, u, hu, hget, hf => by
    simp only [fetchMissingOpt]
    by_cases hxu : x = u
    · subst hxu; rw [hget]; simp [hf]
    · have hmem : u ∈ xs := by
        rcases List.mem_cons.1 hu with h | h
        · exact absurd h.symm hxu
        · exact h
      split
      · exact fetchMissingOpt_none fetch xs pd u hmem hget hf
      · split
        · rfl
        · next data _ =>
          apply fetchMissingOpt_none fetch xs _ u hmem _ hf
          rw [pdGet_none_iff] at hget ⊢
          simp only [List.map_append, List.map_cons, List.map_nil, List.mem_append, List.mem_singleton,
            not_or]
          exact ⟨hget, fun e => hxu e.symm⟩

theorem applyNext_keys {F : Type} (g : Option Group)
    (applyTk : PatchInfo → List Nat → Except String F)
    (applyGk : List (PatchInfo × List Nat) → Except String F)
    (pd pd' : PatchData) (f : F) (h : applyNext g applyTk applyGk pd = .ok (f, pd')) :
    pd'.map (·.1) = pd.map (·.1) ∧
    ((∃ p data, applyTk p data = .ok f) ∨ (∃ acc, applyGk acc = .ok f)) := by
  rcases applyNext_ok g applyTk applyGk pd pd' f h with ⟨p, data, -, -, hf, rfl⟩ | ⟨acc, -, -, hf, rfl⟩
  · exact ⟨setAll_keys (· = p.uri) pd, Or.inl ⟨p, data, hf⟩⟩
  · exact ⟨by rw [fold_setApplied_eq, setAll_keys], Or.inr ⟨acc, hf⟩⟩

/-- **the loop ends**: starting from an invariant font and a well-formed status map, with more fuel than
uris that can still become applied, `extendF` never runs out of fuel; it ends `done` (with a font
whose selection has no uris) or `failed`, after at most as many further rounds as uris of the
universe that were not yet applied -/
theorem extendF_bounded {F : Type} (select : F → Except String (Option Group))
    (applyTk : F → PatchInfo → List Nat → Except String F)
    (applyGk : F → List (PatchInfo × List Nat) → Except String F)
    (fetch : Uri → Option (List Nat)) (Inv : F → Prop) (U : List Uri)
    (hTk : ∀ f p data f', Inv f → applyTk f p data = .ok f' → Inv f')
    (hGk : ∀ f acc f', Inv f → applyGk f acc = .ok f' → Inv f')
    (hU : ∀ f g, Inv f → select f = .ok g → ∀ u, u ∈ optUris g → u ∈ U) :
    ∀ (fuel rounds : Nat) (font : F) (pd : PatchData), Inv font → PdOk U pd →
      U.length < appliedCount pd + fuel →
      match extendF select applyTk applyGk fetch fuel rounds font pd with
      | .done f' pd' r => r + appliedCount pd ≤ rounds + U.length ∧ Inv f' ∧ PdOk U pd' ∧
          ∃ g, select f' = .ok g ∧ hasUris g = false
      | .failed _ r => r + appliedCount pd ≤ rounds + U.length
      | .outOfFuel _ _ => False := by
  intro fuel
  induction fuel with
  | zero =>
    intro rounds font pd _ hpd hf
    have := appliedCount_le U pd hpd
    omega
  | succ n ih =>
    intro rounds font pd hinv hpd hf
    have hle := appliedCount_le U pd hpd
    simp only [extendF]
    cases hs : select font with
    | error e => simp only []; omega
    | ok g =>
      simp only []
      by_cases hh : (!hasUris g) = true
      · simp only [hh, if_true]
        exact ⟨by omega, hinv, hpd, g, hs, by simpa using hh⟩
      · simp only [hh, Bool.false_eq_true, if_false]
        cases hfm : fetchMissingOpt fetch pd (optUris g) with
        | none => simp only []; omega
        | some pd1 =>
          simp only []
          obtain ⟨hpd1, hc1⟩ := fetchMissingOpt_spec fetch U _ pd pd1 (hU font g hinv hs) hpd hfm
          cases happ : applyNext g (applyTk font) (applyGk font) pd1 with
          | error e => simp only []; omega
          | ok r =>
            obtain ⟨font', pd'⟩ := r
            simp only []
            have hp := (C19.round_progress g (applyTk font) (applyGk font) _ pd' font' happ).2.2
            obtain ⟨hk, hfont⟩ := applyNext_keys g (applyTk font) (applyGk font) _ pd' font' happ
            have hpd' : PdOk U pd' := by unfold PdOk; rw [hk]; exact hpd1
            have hinv' : Inv font' := by
              rcases hfont with ⟨p, data, h⟩ | ⟨acc, h⟩
              · exact hTk font p data font' hinv h
              · exact hGk font acc font' hinv h
            have hle' := appliedCount_le U pd' hpd'
            have := ih (rounds + 1) font' pd' hinv' hpd' (by omega)
            cases hr : extendF select applyTk applyGk fetch n (rounds + 1) font' pd' with
            | done f2 pd2 r2 =>
              simp only [hr] at this ⊢
              exact ⟨by omega, this.2⟩
            | failed e r2 => simp only [hr] at this ⊢; omega
            | outOfFuel f2 pd2 => simp only [hr] at this

end FontVerif.PatchGroup
