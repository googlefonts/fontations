/-
Small facts for Props/C11Metrics.lean (Model/Metrics.lean): `Fixed::from_i32` keeps the low 16 bits, positions in a
strictly sorted record list are ordered like the keys, the saturating float-to-integer cast stays in its range.
-/
import FontVerif.Model.Metrics
namespace FontVerif.Metrics

/-- `Fixed::from_i32(d)` = `(d as i16 as i32) << 16`: only the low 16 bits of `d` survive. -/
theorem fromI32_eq (d : Int) : Fixed.fromI32 d = wrapI16 d * 65536 := by
  unfold Fixed.fromI32 wrapI32 wrapI16
  simp only []
  split <;> split <;> omega

theorem deltaInt_eq (d : Int) : deltaInt d = wrapI16 d := by
  unfold deltaInt
  rw [fromI32_eq]
  exact Int.mul_tdiv_cancel _ (by decide)

end FontVerif.Metrics

namespace FontVerif.C11

theorem sorted_lt_iff {α : Type} {key : α → Nat} {l : List α}
    (hs : l.Pairwise (fun a b => key a < key b)) {i j : Nat} (hi : i < l.length) (hj : j < l.length) :
    key l[i] < key l[j] ↔ i < j := by
  have h := List.pairwise_iff_getElem.mp hs
  constructor
  · intro hk
    apply Classical.byContradiction; intro hc
    rcases Nat.lt_or_eq_of_le (Nat.le_of_not_lt hc) with hlt | heq
    · have := h _ _ hj hi hlt; omega
    · subst heq; omega
  · exact h _ _ hi hj

theorem toIntSat_range {lo hi : Int} (hlo : lo ≤ 0) (hhi : 0 ≤ hi) (x : Ieee.FVal) :
    lo ≤ Ieee.toIntSat lo hi x ∧ Ieee.toIntSat lo hi x ≤ hi := by
  cases x with
  | nan => exact ⟨hlo, hhi⟩
  | inf s => cases s <;> simp [Ieee.toIntSat] <;> omega
  | fin s m e =>
    simp only [Ieee.toIntSat]
    generalize (if s = true then _ else _ : Int) = v
    split
    · omega
    · split <;> omega

end FontVerif.C11
