/- `Zone::iup` = `Ins_IUP` as a whole: the invariant argument (Props/C03Iup.lean `iup_eq`). -/
import FontVerif.Lemmas.InterpEq
import FontVerif.Props.C03Interp
namespace FontVerif.C03
open FontVerif.Tt

def IupTerm (ax : Bool) (pts : List ZPt) : Prop :=
  ∀ r1 r2 p : ZPt, r1 ∈ pts → r2 ∈ pts → p ∈ pts → FtInterp.touched ax r1 = true → FtInterp.touched ax r2 = true →
    -1073741824 ≤ iupTermCore (FtInterp.co ax r1.orus) (FtInterp.co ax r2.orus) (FtInterp.co ax r1.cur) (FtInterp.co ax r2.cur) (FtInterp.co ax p.orus) ∧
    iupTermCore (FtInterp.co ax r1.orus) (FtInterp.co ax r2.orus) (FtInterp.co ax r1.cur) (FtInterp.co ax r2.cur) (FtInterp.co ax p.orus) ≤ 1073741824

/-- the running invariant of the IUP walk: original and unscaled coordinates of every point and the
current coordinate of every TOUCHED point are within ±2^29; so is the current coordinate of every point
from index `lo` on (the part of the zone no call has written yet).  `T` are the touch flags: no call changes them, so
every statement about touched points is about `T`. -/
def IupInv (ax : Bool) (T : Nat → Bool) (pts : List ZPt) (lo : Nat) : Prop :=
  (∀ p ∈ pts, Dist29 (FtInterp.co ax p.org) ∧ Dist29 (FtInterp.co ax p.orus) ∧
    (FtInterp.touched ax p = true → Dist29 (FtInterp.co ax p.cur))) ∧
  (∀ i p, pts[i]? = some p → lo ≤ i → Dist29 (FtInterp.co ax p.cur)) ∧
  IupTerm ax pts ∧ FtInterp.isTouched ax pts = T

theorem IupInv.mono {ax : Bool} {T : Nat → Bool} {pts : List ZPt} {lo lo' : Nat} (h : IupInv ax T pts lo) (hl : lo ≤ lo') :
    IupInv ax T pts lo' :=
  ⟨h.1, fun i p hp hi => h.2.1 i p hp (by omega), h.2.2⟩

theorem isTouched_get (ax : Bool) (pts : List ZPt) (i : Nat) (p : ZPt) (hp : pts[i]? = some p) :
    FtInterp.isTouched ax pts i = FtInterp.touched ax p := by
  unfold FtInterp.isTouched; rw [hp]

theorem zipMap_get (pts : List ZPt) (g : ZPt × Nat → ZPt) (i : Nat) :
    ((pts.zipIdx).map g)[i]? = (pts[i]?).map (fun p => g (p, i)) := by
  rw [List.getElem?_map, List.getElem?_zipIdx]
  cases pts[i]? with
  | none => rfl
  | some p => simp

theorem zipMap_get_some (pts : List ZPt) (g : ZPt × Nat → ZPt) (i : Nat) (q : ZPt)
    (h : ((pts.zipIdx).map g)[i]? = some q) : ∃ p, pts[i]? = some p ∧ q = g (p, i) := by
  rw [zipMap_get] at h
  cases hp : pts[i]? with
  | none => rw [hp] at h; cases h
  | some p => rw [hp] at h; exact ⟨p, rfl, (Option.some.inj h).symm⟩

theorem zipMap_mem (pts : List ZPt) (g : ZPt × Nat → ZPt) (q : ZPt) (hq : q ∈ (pts.zipIdx).map g) :
    ∃ i p, pts[i]? = some p ∧ q = g (p, i) := by
  obtain ⟨i, h⟩ := List.getElem?_of_mem hq
  exact ⟨i, zipMap_get_some pts g i q h⟩

/-- both passes of the walk rewrite the current coordinate of some points `W`, untouched and below `lo'`; the
invariant speaks only of `org`, `orus`, the flags, the touched points and the points from `lo'` on. -/
theorem inv_write (ax : Bool) {T : Nat → Bool} (pts : List ZPt) (lo lo' : Nat) (W : Nat → Prop) [DecidablePred W]
    (f : ZPt → Int) (hinv : IupInv ax T pts lo) (hlo : lo ≤ lo') (hW : ∀ i, W i → T i = false ∧ i < lo') :
    IupInv ax T ((pts.zipIdx).map fun (p, i) =>
      if W i then { p with cur := FtInterp.setCo ax p.cur (f p) } else p) lo' := by
  obtain ⟨hall, hcur, hterm, rfl⟩ := hinv
  have key : ∀ i p, pts[i]? = some p → ∀ q,
      q = (if W i then { p with cur := FtInterp.setCo ax p.cur (f p) } else p) →
      q.org = p.org ∧ q.orus = p.orus ∧ FtInterp.touched ax q = FtInterp.touched ax p ∧
      (FtInterp.touched ax q = true → q ∈ pts) ∧ (lo' ≤ i → q = p) := by
    intro i p hp q hq
    by_cases hw : W i
    · obtain ⟨ht, hlt⟩ := hW i hw
      rw [isTouched_get ax pts i p hp] at ht
      rw [hq, if_pos hw]
      exact ⟨rfl, rfl, rfl, fun h => absurd (ht ▸ h : false = true) (by decide), fun h => by omega⟩
    · rw [hq, if_neg hw]
      exact ⟨rfl, rfl, rfl, fun _ => List.mem_of_getElem? hp, fun _ => rfl⟩
  refine ⟨?_, ?_, ?_, funext fun i => ?_⟩
  · intro q hq
    obtain ⟨i, p, hp, e⟩ := zipMap_mem _ _ q hq
    obtain ⟨eo, eu, _, em, _⟩ := key i p hp q e
    have hpz := hall p (List.mem_of_getElem? hp)
    rw [eo, eu]
    exact ⟨hpz.1, hpz.2.1, fun h => (hall q (em h)).2.2 h⟩
  · intro i q hq hi
    obtain ⟨p, hp, e⟩ := zipMap_get_some _ _ i q hq
    rw [(key i p hp q e).2.2.2.2 (by omega)]
    exact hcur i p hp (by omega)
  · intro s1 s2 q hs1 hs2 hq ht1 ht2
    obtain ⟨i1, p1, hp1, e1⟩ := zipMap_mem _ _ s1 hs1
    obtain ⟨i2, p2, hp2, e2⟩ := zipMap_mem _ _ s2 hs2
    obtain ⟨i, p, hp, e⟩ := zipMap_mem _ _ q hq
    rw [(key i p hp q e).2.1]
    exact hterm s1 s2 p ((key i1 p1 hp1 s1 e1).2.2.2.1 ht1) ((key i2 p2 hp2 s2 e2).2.2.2.1 ht2)
      (List.mem_of_getElem? hp) ht1 ht2
  · unfold FtInterp.isTouched
    rw [zipMap_get]
    cases hp : pts[i]? with
    | none => rfl
    | some p => exact (key i p hp _ rfl).2.2.1

/-- what a call of FreeType's interpolation does to the zone: nothing, or a pass that rewrites the current
coordinate of the points `p1 … p2` and leaves the rest alone. -/
theorem ft_interpolate_form (ax : Bool) (pts : List ZPt) (p1 p2 r1 r2 : Nat) :
    FtInterp.iupInterpolate ax pts p1 p2 r1 r2 = pts ∨
    ∃ f : ZPt → Int, FtInterp.iupInterpolate ax pts p1 p2 r1 r2 =
      (pts.zipIdx).map fun (p, i) => if p1 ≤ i ∧ i ≤ p2 then { p with cur := FtInterp.setCo ax p.cur (f p) } else p := by
  unfold FtInterp.iupInterpolate FtInterp.mapRange
  split
  · exact .inl rfl
  · split
    · exact .inl rfl
    · split
      · rename_i ra rb _ _
        exact .inr ⟨fun p => FtInterp.interpCoord ax (FtInterp.orderRefs ax ra rb).1 (FtInterp.orderRefs ax ra rb).2
          (FtInterp.co ax p.org) (FtInterp.co ax p.orus), rfl⟩
      · exact .inl rfl

/-- **one `iup_interpolate` call inside the walk**: the references are touched points, the written range
holds only untouched points: the two calls agree and the invariant survives (with the unwritten part of the
zone starting after the range). -/
theorem interp_step (ax : Bool) {T : Nat → Bool} (pts : List ZPt) (p1 p2 r1 r2 lo lo' : Nat) (hinv : IupInv ax T pts lo)
    (hunt : ∀ i, p1 ≤ i → i ≤ p2 → T i = false) (hr1 : T r1 = true) (hr2 : T r2 = true)
    (hlo : lo ≤ lo' ∧ p2 < lo') :
    HintInterp.iupInterpolate ax pts p1 p2 r1 r2 = some (FtInterp.iupInterpolate ax pts p1 p2 r1 r2) ∧
    IupInv ax T (FtInterp.iupInterpolate ax pts p1 p2 r1 r2) lo' := by
  have hT := hinv.2.2.2
  subst hT
  refine ⟨interpolate_of_kernel (P := fun r => r ∈ pts ∧ FtInterp.touched ax r = true) ax pts p1 p2 r1 r2
    (fun r h => ⟨List.mem_of_getElem? h, isTouched_get ax pts r1 r h ▸ hr1⟩)
    (fun r h => ⟨List.mem_of_getElem? h, isTouched_get ax pts r2 r h ▸ hr2⟩) fun a b ha hb q hq => ?_, ?_⟩
  · obtain ⟨hall, hcur, hterm, _⟩ := hinv
    have za := hall a ha.1
    have zb := hall b hb.1
    have hqz := hall q hq
    unfold HintInterp.interpCoord FtInterp.interpCoord
    simp only [co_eq]
    exact iup_interp_core_eq _ _ _ _ _ _ _ _ za.2.1 zb.2.1 za.1 zb.1 (za.2.2 ha.2) (zb.2.2 hb.2)
      hqz.1 hqz.2.1 (hterm a b q ha.1 hb.1 hq ha.2 hb.2)
  · rcases ft_interpolate_form ax pts p1 p2 r1 r2 with e | ⟨f, e⟩ <;> rw [e]
    · exact hinv.mono hlo.1
    · exact inv_write ax pts lo lo' (fun i => p1 ≤ i ∧ i ≤ p2) f hinv hlo.1 fun i hi => ⟨hunt i hi.1 hi.2, by omega⟩

theorem ft_shift_form (ax : Bool) (pts : List ZPt) (p1 p2 p : Nat) :
    FtInterp.iupShift ax pts p1 p2 p = pts ∨
    ∃ d : Int, FtInterp.iupShift ax pts p1 p2 p = (pts.zipIdx).map fun (q, i) =>
      if (p1 ≤ i ∧ i < p) ∨ (p + 1 ≤ i ∧ i ≤ p2)
      then { q with cur := FtInterp.setCo ax q.cur (FtCalc.addLong (FtInterp.co ax q.cur) d) } else q := by
  unfold FtInterp.iupShift
  split
  · exact .inl rfl
  · extract_lets dx
    split
    · exact .inl rfl
    · exact .inr ⟨dx, rfl⟩

/-- **the `iup_shift` call of the walk**: `first ≤ ct ≤ endp`, `ct` the only touched point of the contour,
nothing of the contour written yet. -/
theorem shift_step (ax : Bool) {T : Nat → Bool} (pts : List ZPt) (first endp ct lo : Nat) (hinv : IupInv ax T pts lo)
    (hlo : lo ≤ first) (hord : first ≤ ct ∧ ct ≤ endp) (hct : T ct = true)
    (hunt : ∀ i, first ≤ i → i ≤ endp → i ≠ ct → T i = false) :
    HintInterp.iupShift ax pts first endp ct = some (FtInterp.iupShift ax pts first endp ct) ∧
    IupInv ax T (FtInterp.iupShift ax pts first endp ct) (endp + 1) := by
  have hT := hinv.2.2.2
  subst hT
  refine ⟨shift_of_kernel ax pts first endp ct hord (fun r h => ?_) fun i q h h1 _ _ => hinv.2.1 i q h (by omega), ?_⟩
  · have z := hinv.1 r (List.mem_of_getElem? h)
    exact ⟨z.2.2 (isTouched_get ax pts ct r h ▸ hct), z.1⟩
  · rcases ft_shift_form ax pts first endp ct with e | ⟨d, e⟩ <;> rw [e]
    · exact hinv.mono (by omega)
    · exact inv_write ax pts lo (endp + 1) (fun i => (first ≤ i ∧ i < ct) ∨ (ct + 1 ≤ i ∧ i ≤ endp))
        (fun q => FtCalc.addLong (FtInterp.co ax q.cur) d) hinv (by omega)
        fun i hi => ⟨hunt i (by omega) (by omega) (by omega), by omega⟩

/-- the scan for the first touched point: everything skipped is untouched, and if the scan stops inside the
contour it stops at a touched point (given enough fuel). -/
theorem skip_spec (ax : Bool) (pts : List ZPt) : ∀ (fuel point endp : Nat), endp + 1 ≤ point + fuel →
    point ≤ FtInterp.skipUntouched ax pts fuel point endp ∧
    (∀ i, point ≤ i → i < FtInterp.skipUntouched ax pts fuel point endp → FtInterp.isTouched ax pts i = false) ∧
    (FtInterp.skipUntouched ax pts fuel point endp ≤ endp → FtInterp.isTouched ax pts (FtInterp.skipUntouched ax pts fuel point endp) = true) := by
  intro fuel
  induction fuel with
  | zero =>
    intro point endp h
    simp only [FtInterp.skipUntouched]
    exact ⟨Nat.le_refl _, fun i h1 h2 => by omega, fun h2 => by omega⟩
  | succ n ih =>
    intro point endp h
    simp only [FtInterp.skipUntouched]
    by_cases hc : point ≤ endp ∧ ¬ FtInterp.isTouched ax pts point = true
    · rw [if_pos hc]
      have h' := ih (point + 1) endp (by omega)
      refine ⟨by omega, ?_, h'.2.2⟩
      intro i h1 h2
      by_cases hi : i = point
      · rw [hi]; simpa using hc.2
      · exact h'.2.1 i (by omega) h2
    · rw [if_neg hc]
      refine ⟨Nat.le_refl _, fun i h1 h2 => by omega, fun h2 => ?_⟩
      by_cases ht : FtInterp.isTouched ax pts point = true
      · exact ht
      · exact absurd ⟨h2, ht⟩ hc

/-- what the inner walk leaves: `r` = the zone and the last touched point of the contour. -/
def WalkPost (ax : Bool) (T : Nat → Bool) (pts : List ZPt) (endp ct : Nat) (r : List ZPt × Nat) : Prop :=
  IupInv ax T r.1 (endp + 1) ∧ (r.2 = ct → r.1 = pts) ∧ ct ≤ r.2 ∧ r.2 ≤ endp ∧ T r.2 = true ∧
  (∀ i, r.2 < i → i ≤ endp → T i = false)

theorem walk_stop {ax : Bool} {T : Nat → Bool} {pts : List ZPt} {endp ct lo : Nat} (hinv : IupInv ax T pts lo)
    (hlo : lo ≤ endp + 1) (hce : ct ≤ endp) (htc : T ct = true) (hun : ∀ i, ct < i → i ≤ endp → T i = false) :
    WalkPost ax T pts endp ct (pts, ct) :=
  ⟨hinv.mono hlo, fun _ => rfl, Nat.le_refl _, hce, htc, hun⟩

/-- **the inner walk** over the rest of a contour: skrifa's loop is FreeType's. -/
theorem walk_spec (ax : Bool) {T : Nat → Bool} : ∀ (fuel : Nat) (pts : List ZPt) (point endp ct lo : Nat),
    endp + 1 ≤ point + fuel → IupInv ax T pts lo → lo ≤ endp + 1 → ct < point → ct ≤ endp → T ct = true →
    (∀ i, ct < i → i < point → T i = false) →
    HintInterp.walkTouched ax fuel pts point endp ct = some (FtInterp.walkTouched ax fuel pts point endp ct) ∧
    WalkPost ax T pts endp ct (FtInterp.walkTouched ax fuel pts point endp ct) := by
  intro fuel
  induction fuel with
  | zero =>
    intro pts point endp ct lo hf hinv hlo hct hce htc hun
    exact ⟨rfl, walk_stop hinv hlo hce htc fun i h1 h2 => hun i h1 (by omega)⟩
  | succ n ih =>
    intro pts point endp ct lo hf hinv hlo hct hce htc hun
    simp only [HintInterp.walkTouched, FtInterp.walkTouched]
    by_cases hpe : point ≤ endp
    · rw [if_pos hpe, if_pos hpe]
      simp only [isTouched_eq, hinv.2.2.2]
      by_cases htp : T point = true
      · simp only [htp, if_true]
        -- a touched point: interpolate the untouched run behind it
        obtain ⟨hs1, hs2⟩ := interp_step ax pts (ct + 1) (point - 1) ct point lo (endp + 1) hinv
          (fun i h1 h2 => hun i (by omega) (by omega)) htc htp ⟨hlo, by omega⟩
        rw [hs1]
        simp only [Option.bind_some]
        generalize FtInterp.iupInterpolate ax pts (ct + 1) (point - 1) ct point = pts1 at hs2 ⊢
        obtain ⟨hr0, hr1, hr4, hr5, hr6, hr7, hr8⟩ :=
          ih pts1 (point + 1) endp point (endp + 1) (by omega) hs2 (Nat.le_refl _) (by omega) hpe htp
            (by intro i h1 h2; omega)
        exact ⟨hr0, hr1, fun h => by omega, by omega, hr6, hr7, hr8⟩
      · have hfalse : T point = false := by
          cases h : T point with
          | true => exact absurd h htp
          | false => rfl
        simp only [hfalse, Bool.false_eq_true, if_false]
        exact ih pts (point + 1) endp ct lo (by omega) hinv hlo (by omega) hce htc
          (by
            intro i h1 h2
            by_cases hi : i = point
            · rw [hi]; exact hfalse
            · exact hun i h1 (by omega))
    · rw [if_neg hpe, if_neg hpe]
      exact ⟨rfl, walk_stop hinv hlo hce htc fun i h1 h2 => hun i h1 (by omega)⟩

/-- **one contour** of `Zone::iup` = one iteration of `Ins_IUP`'s contour loop. -/
theorem contour_spec (ax : Bool) {T : Nat → Bool} (pts : List ZPt) (point e lo : Nat) (hinv : IupInv ax T pts lo)
    (hlo : lo ≤ point) :
    HintInterp.iupContour ax pts point e = some (FtInterp.iupContour ax pts point e) ∧
    IupInv ax T (FtInterp.iupContour ax pts point e).1 (FtInterp.iupContour ax pts point e).2 := by
  unfold HintInterp.iupContour FtInterp.iupContour
  simp only [skipUntouched_eq]
  generalize hE : (if e ≥ pts.length then pts.length - 1 else e) = endp
  have hsk := skip_spec ax pts (endp + 2) point endp (by omega)
  generalize hP : FtInterp.skipUntouched ax pts (endp + 2) point endp = p1 at hsk ⊢
  rw [hinv.2.2.2] at hsk
  by_cases hin : p1 ≤ endp
  · simp only [hin, if_true]
    have htp := hsk.2.2 hin
    have hw := walk_spec ax (endp + 2) pts (p1 + 1) endp p1 lo (by omega) hinv (by omega) (by omega) hin htp
      (by intro i h1 h2; omega)
    rw [hw.1]
    simp only [Option.bind_some]
    generalize hW : FtInterp.walkTouched ax (endp + 2) pts (p1 + 1) endp p1 = w at hw ⊢
    obtain ⟨pts1, ct⟩ := w
    unfold WalkPost at hw
    simp only [] at hw ⊢
    have hnext : (if p1 + 1 ≤ endp then endp + 1 else p1 + 1) = endp + 1 := by split <;> omega
    simp only [hnext]
    obtain ⟨hw1, hw2, hw5, hw6, hw7, hw8, hw9⟩ := hw
    by_cases hct : ct = p1
    · -- a single touched point: shift the rest of the contour (nothing has been written yet)
      simp only [hct, if_true]
      have hun := hw5 hct
      rw [hun]
      have hs := shift_step ax pts point endp p1 lo hinv hlo ⟨hsk.1, hin⟩ htp
        (by
          intro i h1 h2 h3
          by_cases hlt : i < p1
          · exact hsk.2.1 i h1 hlt
          · exact hw9 i (by omega) h2)
      rw [hs.1]
      simp only [Option.map_some]
      exact ⟨by trivial, hs.2⟩
    · -- at least two touched points: the wrap-around interpolations
      simp only [hct, if_false]
      have hs1 := interp_step ax pts1 (ct + 1) endp ct p1 (endp + 1) (endp + 1) hw2
        (fun i h1 h2 => hw9 i (by omega) h2) hw8 htp ⟨Nat.le_refl _, by omega⟩
      rw [hs1.1]
      simp only [Option.bind_some]
      generalize FtInterp.iupInterpolate ax pts1 (ct + 1) endp ct p1 = pts2 at hs1 ⊢
      by_cases hft : p1 > 0
      · simp only [hft, if_true]
        have hs2 := interp_step ax pts2 point (p1 - 1) ct p1 (endp + 1) (endp + 1) hs1.2
          (fun i h1 h2 => hsk.2.1 i h1 (by omega)) hw8 htp ⟨Nat.le_refl _, by omega⟩
        rw [hs2.1]
        simp only [Option.map_some]
        exact ⟨by trivial, hs2.2⟩
      · simp only [hft, if_false]
        exact ⟨by trivial, hs1.2⟩
  · simp only [hin, if_false]
    exact ⟨by trivial, hinv.mono (by omega)⟩

theorem loop_spec (ax : Bool) {T : Nat → Bool} : ∀ (ends : List Nat) (pts : List ZPt) (point lo : Nat), IupInv ax T pts lo → lo ≤ point →
    HintInterp.iupLoop ax ends pts point = some (FtInterp.iupLoop ax ends pts point) := by
  intro ends
  induction ends with
  | nil => intro pts point lo _ _; rfl
  | cons e rest ih =>
    intro pts point lo hinv hlo
    have hc := contour_spec ax pts point e lo hinv hlo
    simp only [HintInterp.iupLoop, FtInterp.iupLoop]
    rw [hc.1]
    simp only [Option.bind_some]
    generalize FtInterp.iupContour ax pts point e = r at hc ⊢
    obtain ⟨pts', point'⟩ := r
    exact ih pts' point' point' hc.2 (Nat.le_refl _)

end FontVerif.C03
