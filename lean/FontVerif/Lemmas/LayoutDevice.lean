/-
Helper lemmas for C16: Device table writer (`Device::new`) against the reader (`Device::iter`).
-/
import FontVerif.Model.LayoutDevice
import FontVerif.Lemmas.Lists
namespace FontVerif.Layout
open FontVerif.HandLayout

theorem and_two_pow (v k : Nat) : v &&& 2 ^ k = v / 2 ^ k % 2 * 2 ^ k := by
  have h := Nat.div_add_mod (v &&& 2 ^ k) (2 ^ k)
  rw [Nat.and_div_two_pow, Nat.and_mod_two_pow, Nat.mod_self, Nat.and_zero,
    Nat.div_self (Nat.two_pow_pos k), Nat.and_one_is_mod, Nat.add_zero, Nat.mul_comm] at h
  exact h.symm

theorem signExtend_byteOf (b : Nat) (hb1 : 1 ≤ b) (hb8 : b ≤ 8) (x : Int)
    (hx : -((2 ^ (b - 1) : Nat) : Int) ≤ x ∧ x < ((2 ^ (b - 1) : Nat) : Int)) :
    (if (byteOf x % 2 ^ b) &&& 2 ^ (b - 1) ≠ 0
      then toI8 (((byteOf x % 2 ^ b : Nat) : Int) - ((2 ^ b : Nat) : Int))
      else toI8 ((byteOf x % 2 ^ b : Nat) : Int)) = x := by
  have hB : 2 ^ (b - 1) * 2 = 2 ^ b := Nat.two_pow_pred_mul_two hb1
  have hB8 : 2 ^ b ≤ 256 := Nat.pow_le_pow_right (by decide) hb8
  have hdvd : ((2 ^ b : Nat) : Int) ∣ 256 :=
    Int.natCast_dvd_natCast.mpr (Nat.pow_dvd_pow 2 hb8)
  have hv : ((byteOf x % 2 ^ b : Nat) : Int) = x % ((2 ^ b : Nat) : Int) := by
    rw [byteOf, Int.natCast_emod, Int.toNat_of_nonneg (Int.emod_nonneg _ (by decide)),
      Int.emod_emod_of_dvd _ hdvd]
  have hlt : byteOf x % 2 ^ b < 2 ^ b := Nat.mod_lt _ (Nat.two_pow_pos b)
  rw [and_two_pow]
  generalize byteOf x % 2 ^ b = v at hv hlt ⊢
  generalize 2 ^ b = B at *
  generalize 2 ^ (b - 1) = H at *
  unfold toI8
  by_cases hneg : x < 0
  · rw [← Int.add_emod_right, Int.emod_eq_of_lt (by omega) (by omega)] at hv
    rw [Nat.div_eq_of_lt_le (k := 1) (by omega) (by omega), if_pos (by omega)]
    omega
  · rw [Int.emod_eq_of_lt (by omega) (by omega)] at hv
    rw [Nat.div_eq_of_lt (by omega), if_neg (by simp)]
    omega

theorem encodeChunkGo_shiftRight (mask b : Nat) : ∀ (xs : List Int) (i out : Nat),
    (i + xs.length) * b ≤ 16 → mask < 2 ^ b →
    encodeChunkGo mask b i out xs >>> (16 - i * b) = out >>> (16 - i * b) := by
  intro xs
  induction xs with
  | nil => intro i out _ _; rfl
  | cons x rest ih =>
    intro i out hfit hm
    rw [List.length_cons, ← Nat.add_assoc, Nat.add_right_comm] at hfit
    have hi : (i + 1) * b ≤ 16 := Nat.le_trans (Nat.mul_le_mul_right b (Nat.le_add_right _ _)) hfit
    rw [Nat.succ_mul] at hi
    have e : 16 - i * b = 16 - (i + 1) * b + b := by rw [Nat.succ_mul]; omega
    rw [encodeChunkGo, e, Nat.shiftRight_add, ih (i + 1) _ hfit hm, ← Nat.shiftRight_add, ← e,
      Nat.shiftRight_or_distrib,
      Nat.shiftRight_eq_zero ((byteOf x &&& mask) <<< (16 - b - i * b) % 65536) _ ?_, Nat.or_zero]
    refine Nat.lt_of_le_of_lt (Nat.mod_le _ _) ?_
    have : 16 - i * b = b + (16 - b - i * b) := by omega
    rw [this, Nat.pow_add, Nat.shiftLeft_eq]
    exact Nat.mul_lt_mul_of_lt_of_le (Nat.lt_of_le_of_lt Nat.and_le_right hm) (Nat.le_refl _)
      (Nat.two_pow_pos _)

/-- The accumulator before field `i` is `q <<< (16 - i * b)`; OR-ing the field in gives
`(q <<< b ||| field) <<< s`, later fields stay below bit `s`, so `raw >> s` masked is the field. -/
theorem packedLoop_encodeChunkGo (b : Nat) (hb2 : 2 ≤ b) (hb8 : b ≤ 8) :
    ∀ (xs : List Int) (i q : Nat), (i + xs.length) * b ≤ 16 →
      (∀ x ∈ xs, -((2 ^ (b - 1) : Nat) : Int) ≤ x ∧ x < ((2 ^ (b - 1) : Nat) : Int)) →
      packedLoop (encodeChunkGo (2 ^ b - 1) b i (q <<< (16 - i * b)) xs) (2 ^ b - 1) (2 ^ (b - 1)) b
        (List.range' i xs.length) = .val xs := by
  intro xs
  induction xs with
  | nil => intro i q _ _; rfl
  | cons x rest ih =>
    intro i q hfit hr
    rw [List.length_cons, ← Nat.add_assoc, Nat.add_right_comm] at hfit
    have hi : (i + 1) * b ≤ 16 := Nat.le_trans (Nat.mul_le_mul_right b (Nat.le_add_right _ _)) hfit
    have hi8 : (i + 1) * 2 ≤ 16 := Nat.le_trans (Nat.mul_le_mul_left _ hb2) hi
    have hmask : 2 ^ b - 1 < 2 ^ b := Nat.sub_lt (Nat.two_pow_pos b) (by decide)
    have hgo := encodeChunkGo_shiftRight (2 ^ b - 1) b rest (i + 1)
      ((q <<< b ||| byteOf x % 2 ^ b) <<< (16 - (i + 1) * b)) hfit hmask
    have htl := ih (i + 1) (q <<< b ||| byteOf x % 2 ^ b) hfit (fun y hy => hr y (List.mem_cons_of_mem _ hy))
    rw [Nat.succ_mul] at hi
    generalize hs : 16 - (i + 1) * b = s at hgo htl
    rw [Nat.succ_mul] at hs
    have hs1 : 16 - b - i * b = s := by omega
    have hs2 : 16 - i * b = b + s := by omega
    have hf : (byteOf x % 2 ^ b) <<< s < 65536 := by
      rw [Nat.shiftLeft_eq]
      have : 2 ^ b * 2 ^ s ≤ 2 ^ 16 := by rw [← Nat.pow_add]; exact Nat.pow_le_pow_right (by decide) (by omega)
      exact Nat.lt_of_lt_of_le
        (Nat.mul_lt_mul_of_lt_of_le (Nat.mod_lt _ (Nat.two_pow_pos b)) (Nat.le_refl _) (Nat.two_pow_pos s)) this
    have hout : q <<< (b + s) ||| ((byteOf x &&& (2 ^ b - 1)) <<< s) % 65536
        = (q <<< b ||| byteOf x % 2 ^ b) <<< s := by
      rw [Nat.and_two_pow_sub_one_eq_mod, Nat.mod_eq_of_lt hf, Nat.shiftLeft_or_distrib, Nat.shiftLeft_add]
    have hfield : (encodeChunkGo (2 ^ b - 1) b (i + 1) ((q <<< b ||| byteOf x % 2 ^ b) <<< s) rest / 2 ^ s)
        % 65536 &&& (2 ^ b - 1) = byteOf x % 2 ^ b := by
      rw [← Nat.shiftRight_eq_div_pow, hgo, Nat.shiftLeft_shiftRight, Nat.and_two_pow_sub_one_eq_mod,
        Nat.mod_mod_of_dvd _ (Nat.pow_dvd_pow 2 (by omega : b ≤ 16)), Nat.or_mod_two_pow,
        Nat.shiftLeft_eq, Nat.mul_mod_left, Nat.zero_or, Nat.mod_mod]
    simp only [encodeChunkGo, List.length_cons, List.range'_succ, packedLoop, subTrap, hs1, hs2, hout, hfield,
      htl, Res.bind, (by omega : b ≤ 16), (by omega : i * b ≤ 16 - b), ge_iff_le,
      ↓reduceIte, signExtend_byteOf b (by omega) hb8 x (hr x (List.mem_cons_self ..))]
    rw [if_neg (by omega : ¬ 16 ≤ s), if_neg (by omega : ¬ 8 ≤ i)]

theorem chunk_roundtrip (b : Nat) (hb2 : 2 ≤ b) (hb8 : b ≤ 8) (xs : List Int) (hfit : xs.length * b ≤ 16)
    (hr : ∀ x ∈ xs, -((2 ^ (b - 1) : Nat) : Int) ≤ x ∧ x < ((2 ^ (b - 1) : Nat) : Int)) :
    packedLoop (encodeChunk (2 ^ b - 1) b xs) (2 ^ b - 1) (2 ^ (b - 1)) b (List.range xs.length) = .val xs := by
  have h := packedLoop_encodeChunkGo b hb2 hb8 xs 0 0 (by rwa [Nat.zero_add]) hr
  rwa [Nat.zero_shiftLeft, ← List.range_eq_range'] at h

theorem chunksOf_nil {α : Type} (k : Nat) : chunksOf k ([] : List α) = [] := by
  rw [chunksOf]; split <;> simp

theorem chunksOf_cons {α : Type} (k : Nat) (hk : 0 < k) (xs : List α) (hx : xs ≠ []) :
    chunksOf k xs = xs.take k :: chunksOf k (xs.drop k) := by
  rw [chunksOf]
  have h0 : ¬ k = 0 := by omega
  have h1 : ¬ xs.length = 0 := by
    intro h; exact hx (List.eq_nil_of_length_eq_zero h)
  simp only [h0, ↓reduceDIte, h1]

theorem devWords_roundtrip (fmt b : Nat) (hb2 : 2 ≤ b) (hb8 : b ≤ 8)
    (hp : packParams fmt = (2 ^ b - 1, 2 ^ (b - 1), b)) :
    ∀ (n : Nat) (vs : List Int), vs.length = n →
      (∀ x ∈ vs, -((2 ^ (b - 1) : Nat) : Int) ≤ x ∧ x < ((2 ^ (b - 1) : Nat) : Int)) →
      devWords fmt (16 / b) n ((chunksOf (16 / b) vs).map (encodeChunk (2 ^ b - 1) b)) = .val vs := by
  have hpos : 0 < 16 / b := Nat.div_pos (by omega) (by omega)
  intro n
  induction n using Nat.strongRecOn with
  | ind n ih =>
    intro vs hn hr
    by_cases hv : vs = []
    · subst hv; rw [chunksOf_nil]; rfl
    · rw [chunksOf_cons _ hpos vs hv]
      have hlen : (vs.take (16 / b)).length = min n (16 / b) := by rw [List.length_take, hn, Nat.min_comm]
      have hchunk := chunk_roundtrip b hb2 hb8 (vs.take (16 / b))
        (Nat.le_trans (Nat.mul_le_mul_right b (hlen ▸ Nat.min_le_right _ _)) (Nat.div_mul_le_self 16 b))
        (fun x hx => hr x (List.mem_of_mem_take hx))
      have hnpos : 0 < n := hn ▸ List.length_pos_iff.mpr hv
      have hrest := ih (n - 16 / b) (by omega) (vs.drop (16 / b)) (by rw [List.length_drop, hn])
        (fun x hx => hr x (List.mem_of_mem_drop hx))
      rw [hlen] at hchunk
      simp only [List.map_cons, devWords, iterPackedValues, hp, hchunk, Res.bind, hrest]
      rw [if_neg (by omega : ¬ b = 0)]
      exact congrArg Res.val (List.take_append_drop ..)

theorem deltaFormatOf_range (v : Int) : 1 ≤ deltaFormatOf v ∧ deltaFormatOf v ≤ 3 := by
  unfold deltaFormatOf; split <;> (try split) <;> omega

theorem deltaFormatOf_le_one (v : Int) : deltaFormatOf v ≤ 1 ↔ (-2 ≤ v ∧ v ≤ 1) := by
  unfold deltaFormatOf; split <;> (try split) <;> omega

theorem deltaFormatOf_le_two (v : Int) : deltaFormatOf v ≤ 2 ↔ (-8 ≤ v ∧ v ≤ 7) := by
  unfold deltaFormatOf; split <;> (try split) <;> omega

theorem chooseFormat_range (vs : List Int) : 1 ≤ chooseFormat vs ∧ chooseFormat vs ≤ 3 := by
  unfold chooseFormat
  obtain ⟨h3, h1, _⟩ := foldl_max_spec (vs.map deltaFormatOf) 1
  refine ⟨h1, ?_⟩
  rcases h3 with h | h
  · rw [h]; omega
  · obtain ⟨v, _, hv⟩ := List.mem_map.mp h
    rw [← hv]; exact (deltaFormatOf_range v).2

theorem chooseFormat_le (vs : List Int) (k : Nat) (hk : 1 ≤ k) :
    chooseFormat vs ≤ k ↔ ∀ v ∈ vs, deltaFormatOf v ≤ k := by
  unfold chooseFormat
  obtain ⟨h3, h1, h2⟩ := foldl_max_spec (vs.map deltaFormatOf) 1
  constructor
  · intro h v hv
    exact Nat.le_trans (h2 _ (List.mem_map.mpr ⟨v, hv, rfl⟩)) h
  · intro h
    rcases h3 with e | e
    · rw [e]; exact hk
    · obtain ⟨v, hv, hve⟩ := List.mem_map.mp e
      rw [← hve]; exact h v hv

end FontVerif.Layout
