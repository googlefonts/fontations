/- C14 / RangeSet (range_set.rs): the BTreeMap helpers, the merge loop of `insert`, the sweep of
`intersection`. -/
import FontVerif.Model.RangeSet
namespace FontVerif.RangeSet

/-- relation between consecutive (and hence all ordered pairs of) ranges -/
abbrev Gap (p q : Int × Int) : Prop := p.2 + 1 < q.1

theorem rinv_nil : RInv [] := by simp [RInv]

theorem rinv_cons {p : Int × Int} {rs : Ranges} :
    RInv (p :: rs) ↔ (∀ q ∈ rs, p.2 + 1 < q.1) ∧ p.1 ≤ p.2 ∧ RInv rs := by
  simp only [RInv, List.pairwise_cons, List.mem_cons, forall_eq_or_imp]
  constructor
  · rintro ⟨⟨h1, h2⟩, h3, h4⟩; exact ⟨h1, h3, h2, h4⟩
  · rintro ⟨h1, h3, h2, h4⟩; exact ⟨⟨h1, h2⟩, h3, h4⟩

theorem Mem_cons {p : Int × Int} {rs : Ranges} {x : Int} :
    Mem (p :: rs) x ↔ (p.1 ≤ x ∧ x ≤ p.2) ∨ Mem rs x := by
  simp only [Mem, List.mem_cons, or_and_right, exists_or, exists_eq_left]

theorem Mem_nil {x : Int} : ¬ Mem [] x := by simp [Mem]

theorem Mem_append {xs ys : Ranges} {x : Int} : Mem (xs ++ ys) x ↔ Mem xs x ∨ Mem ys x := by
  simp only [Mem, List.mem_append, or_and_right, exists_or]

theorem Mem_tail_gt {a : Int × Int} {as : Ranges} {x : Int} (h : RInv (a :: as)) (hx : Mem as x) :
    a.2 + 1 < x := by
  obtain ⟨p, hp, hx⟩ := hx
  have := (rinv_cons.mp h).1 p hp
  omega

/-- a new first range before a normal-form list: it suffices that all members of the list lie
beyond it (every start is a member) -/
theorem rinv_cons_of_mem {p : Int × Int} {R : Ranges} (hR : RInv R) (hp : p.1 ≤ p.2)
    (h : ∀ x, Mem R x → p.2 + 1 < x) : RInv (p :: R) :=
  rinv_cons.2 ⟨fun q hq => h q.1 ⟨q, hq, Int.le_refl _, hR.2 q hq⟩, hp, hR⟩

theorem rinv_key_inj {rs : Ranges} (h : RInv rs) {p q : Int × Int} (hp : p ∈ rs) (hq : q ∈ rs)
    (hk : p.1 = q.1) : p = q := by
  induction rs with
  | nil => exact absurd hp List.not_mem_nil
  | cons a rs ih =>
    have c := rinv_cons.1 h
    rcases List.mem_cons.1 hp with hpa | hp' <;> rcases List.mem_cons.1 hq with hqa | hq'
    · rw [hpa, hqa]
    · have := c.1 q hq'; have := c.2.1; rw [hpa] at hk; omega
    · have := c.1 p hp'; have := c.2.1; rw [hqa] at hk; omega
    · exact ih c.2.2 hp' hq'

/-- the entries that start below `s` and those that start at or above it: `prevRange` is the last of the former,
`nextRange` the first of the latter -/
theorem range_split {rs : Ranges} (hinv : RInv rs) (s : Int) :
    ∃ pre post, rs = pre ++ post ∧ (∀ p ∈ pre, p.1 < s) ∧ (∀ p ∈ post, s ≤ p.1) ∧
      prevRange rs s = pre.getLast? ∧ nextRange rs s = post.head? := by
  induction rs with
  | nil => exact ⟨[], [], rfl, by simp, by simp, rfl, rfl⟩
  | cons p rest ih =>
    obtain ⟨a, b⟩ := p
    have c := rinv_cons.1 hinv
    by_cases h : a < s
    · obtain ⟨pre, post, e, h1, h2, h3, h4⟩ := ih c.2.2
      refine ⟨(a, b) :: pre, post, by rw [e]; rfl, List.forall_mem_cons.2 ⟨h, h1⟩, h2, ?_, ?_⟩
      · rw [prevRange, if_pos h, h3, List.getLast?_cons]
        cases pre.getLast? <;> rfl
      · rw [nextRange, if_neg (Int.not_le.2 h), h4]
    · refine ⟨[], (a, b) :: rest, rfl, by simp, List.forall_mem_cons.2 ⟨Int.not_lt.1 h, fun q hq => ?_⟩, ?_, ?_⟩
      · have := c.1 q hq; have := c.2.1; simp only at *; omega
      · rw [prevRange, if_neg h]; rfl
      · rw [nextRange, if_pos (Int.not_lt.1 h)]; rfl

theorem nextRange_none {rs : Ranges} {s : Int} (hinv : RInv rs) (h : nextRange rs s = none) :
    ∀ p ∈ rs, p.1 < s := by
  obtain ⟨pre, post, rfl, h1, _, _, h4⟩ := range_split hinv s
  have : post = [] := List.head?_eq_none_iff.1 (h4.symm.trans h)
  subst this; rw [List.append_nil]; exact h1

theorem nextRange_some {rs : Ranges} {s : Int} {n : Int × Int} (hinv : RInv rs)
    (h : nextRange rs s = some n) :
    n ∈ rs ∧ s ≤ n.1 ∧ ∀ p ∈ rs, p = n ∨ n.2 + 1 < p.1 ∨ p.1 < s := by
  obtain ⟨pre, post, rfl, h1, h2, _, h4⟩ := range_split hinv s
  obtain ⟨t, rfl⟩ := List.head?_eq_some_iff.1 (h4.symm.trans h)
  have hg := (List.pairwise_cons.1 (List.pairwise_append.1 hinv.1).2.1).1
  refine ⟨by simp, h2 n List.mem_cons_self, fun p hp => ?_⟩
  rcases List.mem_append.1 hp with hp | hp
  · exact .inr (.inr (h1 p hp))
  · rcases List.mem_cons.1 hp with rfl | hp
    · exact .inl rfl
    · exact .inr (.inl (hg p hp))

theorem prevRange_none {rs : Ranges} {s : Int} (hinv : RInv rs) (h : prevRange rs s = none) :
    ∀ p ∈ rs, s ≤ p.1 := by
  obtain ⟨pre, post, rfl, _, h2, h3, _⟩ := range_split hinv s
  have : pre = [] := List.getLast?_eq_none_iff.1 (h3.symm.trans h)
  subst this; exact h2

theorem prevRange_some {rs : Ranges} {s : Int} {n : Int × Int} (hinv : RInv rs)
    (h : prevRange rs s = some n) :
    n ∈ rs ∧ n.1 < s ∧ ∀ p ∈ rs, p = n ∨ p.2 + 1 < n.1 ∨ s ≤ p.1 := by
  obtain ⟨pre, post, rfl, h1, h2, h3, _⟩ := range_split hinv s
  obtain ⟨ys, rfl⟩ := List.getLast?_eq_some_iff.1 (h3.symm.trans h)
  have hg := (List.pairwise_append.1 (List.pairwise_append.1 hinv.1).1).2.2
  refine ⟨by simp, h1 n (by simp), fun p hp => ?_⟩
  rcases List.mem_append.1 hp with hp | hp
  · rcases List.mem_append.1 hp with hp | hp
    · exact .inr (.inl (hg p hp n (List.mem_singleton.2 rfl)))
    · exact .inl (List.mem_singleton.1 hp)
  · exact .inr (.inr (h2 p hp))

theorem mem_mapRemove {rs : Ranges} {k : Int} {p : Int × Int} :
    p ∈ mapRemove rs k ↔ p ∈ rs ∧ p.1 ≠ k := by
  simp [mapRemove]

theorem rinv_mapRemove {rs : Ranges} {k : Int} (h : RInv rs) : RInv (mapRemove rs k) := by
  unfold RInv at *
  refine ⟨h.1.sublist (List.filter_sublist), ?_⟩
  intro p hp
  exact h.2 p (mem_mapRemove.mp hp).1

theorem length_mapRemove_lt {rs : Ranges} {n : Int × Int} (h : n ∈ rs) :
    (mapRemove rs n.1).length < rs.length := by
  unfold mapRemove
  apply List.length_filter_lt_length_iff_exists.mpr
  exact ⟨n, h, by simp⟩

theorem mem_mapInsert {rs : Ranges} {k v : Int} {p : Int × Int} (hk : ∀ q ∈ rs, q.1 ≠ k) :
    p ∈ mapInsert rs k v ↔ p ∈ rs ∨ p = (k, v) := by
  induction rs with
  | nil => simp [mapInsert]
  | cons q rest ih =>
    obtain ⟨a, b⟩ := q
    have hne : a ≠ k := by simpa using hk (a, b) (by simp)
    have ih' := ih (fun q hq => hk q (by simp [hq]))
    simp only [mapInsert]
    split
    · simp; grind
    · split
      · omega
      · simp [ih']; grind

theorem rinv_mapInsert {rs : Ranges} {s e : Int} (hinv : RInv rs) (hse : s ≤ e)
    (h : ∀ p ∈ rs, p.2 + 1 < s ∨ e + 1 < p.1) : RInv (mapInsert rs s e) := by
  induction rs with
  | nil => simp [mapInsert, RInv, hse]
  | cons q rest ih =>
    obtain ⟨a, b⟩ := q
    rw [rinv_cons] at hinv
    have hab : a ≤ b := hinv.2.1
    have hq := h (a, b) (by simp)
    simp at hq
    have hk : ∀ q ∈ rest, q.1 ≠ s := by
      intro q hq'
      have h1 := h q (by simp [hq'])
      have h2 := hinv.2.2.2 q hq'
      omega
    simp only [mapInsert]
    split
    · rename_i hlt
      rw [rinv_cons]
      refine ⟨?_, hse, ?_⟩
      · intro p hp
        simp at hp
        rcases hp with rfl | hp
        · simp; omega
        · have h1 := hinv.1 p hp
          simp at h1 ⊢
          omega
      · rw [rinv_cons]; exact hinv
    · split
      · omega
      · rw [rinv_cons]
        refine ⟨?_, hab, ih hinv.2.2 (fun p hp => h p (by simp [hp]))⟩
        intro p hp
        rw [mem_mapInsert hk] at hp
        rcases hp with hp | rfl
        · exact hinv.1 p hp
        · simp; omega

theorem Mem_mapInsert {rs : Ranges} {s e x : Int} (hk : ∀ q ∈ rs, q.1 ≠ s) :
    Mem (mapInsert rs s e) x ↔ Mem rs x ∨ (s ≤ x ∧ x ≤ e) := by
  unfold Mem
  constructor
  · rintro ⟨p, hp, hx⟩
    rw [mem_mapInsert hk] at hp
    rcases hp with hp | rfl
    · left; exact ⟨p, hp, hx⟩
    · right; exact hx
  · rintro (⟨p, hp, hx⟩ | hx)
    · exact ⟨p, (mem_mapInsert hk).mpr (Or.inl hp), hx⟩
    · exact ⟨(s, e), (mem_mapInsert hk).mpr (Or.inr rfl), hx⟩

/-- loop precondition: everything that starts before `s` ends well before `s` -/
def Pre (rs : Ranges) (s e : Int) : Prop :=
  RInv rs ∧ s ≤ e ∧ ∀ p ∈ rs, p.1 < s → p.2 + 1 < s

theorem overlapOrAdjacent_iff {s e ns ne : Int} (h1 : s ≤ e) (h2 : ns ≤ ne) :
    overlapOrAdjacent s e ns ne = true ↔ (s ≤ ne + 1 ∧ ns ≤ e + 1) := by
  simp [overlapOrAdjacent, areAdjacent]
  omega

/-- the merge step of `insert` (the same for the predecessor and in the loop): a stored range `n`
that overlaps or touches `[s, e]` is taken out and `[s, e]` grows to their hull -/
theorem Mem_absorb {rs : Ranges} {n : Int × Int} {s e : Int} (hinv : RInv rs) (hn : n ∈ rs)
    (hov : s ≤ n.2 + 1 ∧ n.1 ≤ e + 1) (x : Int) :
    Mem (mapRemove rs n.1) x ∨ (min s n.1 ≤ x ∧ x ≤ max e n.2) ↔ Mem rs x ∨ (s ≤ x ∧ x ≤ e) := by
  have hnle : n.1 ≤ n.2 := hinv.2 n hn
  constructor
  · rintro (⟨p, hp, hx⟩ | hx)
    · exact Or.inl ⟨p, (mem_mapRemove.mp hp).1, hx⟩
    · by_cases hxs : s ≤ x ∧ x ≤ e
      · exact Or.inr hxs
      · exact Or.inl ⟨n, hn, by omega⟩
  · rintro (⟨p, hp, hx⟩ | hx)
    · by_cases hpk : p.1 = n.1
      · rw [rinv_key_inj hinv hp hn hpk] at hx; exact Or.inr (by omega)
      · exact Or.inl ⟨p, mem_mapRemove.mpr ⟨hp, hpk⟩, hx⟩
    · exact Or.inr (by omega)

/-- the three-way decision of `insert` on a stored range `n` (the predecessor, then the next range
in every round of the loop): `[s, e]` inside `n` changes nothing; if the two overlap or touch, `n` is
taken out and their hull goes in (`A`); otherwise `[s, e]` goes in as it is (`B`) -/
theorem insert_decision {rs A B : Ranges} {n : Int × Int} {s e : Int} (hinv : RInv rs) (hse : s ≤ e)
    (hn : n ∈ rs)
    (hA : s ≤ n.2 + 1 ∧ n.1 ≤ e + 1 → RInv A ∧
      ∀ x, Mem A x ↔ Mem (mapRemove rs n.1) x ∨ (min s n.1 ≤ x ∧ x ≤ max e n.2))
    (hB : ¬ (s ≤ n.2 + 1 ∧ n.1 ≤ e + 1) → RInv B ∧ ∀ x, Mem B x ↔ Mem rs x ∨ (s ≤ x ∧ x ≤ e)) :
    RInv (if isSubset s e n.1 n.2 then rs else if overlapOrAdjacent s e n.1 n.2 then A else B) ∧
      ∀ x, Mem (if isSubset s e n.1 n.2 then rs else if overlapOrAdjacent s e n.1 n.2 then A else B) x ↔
        Mem rs x ∨ (s ≤ x ∧ x ≤ e) := by
  have hnle : n.1 ≤ n.2 := hinv.2 n hn
  by_cases hsub : isSubset s e n.1 n.2 = true
  · rw [if_pos hsub]
    simp only [isSubset, Bool.and_eq_true, decide_eq_true_eq] at hsub
    exact ⟨hinv, fun x => ⟨Or.inl, fun h => h.elim id (fun h => ⟨n, hn, by omega⟩)⟩⟩
  · rw [if_neg hsub]
    by_cases hov : overlapOrAdjacent s e n.1 n.2 = true
    · rw [if_pos hov]
      rw [overlapOrAdjacent_iff hse hnle] at hov
      obtain ⟨hi, hm⟩ := hA hov
      exact ⟨hi, fun x => (hm x).trans (Mem_absorb hinv hn hov x)⟩
    · rw [if_neg hov]
      exact hB (by rwa [overlapOrAdjacent_iff hse hnle] at hov)

theorem mapInsert_spec {rs : Ranges} {s e : Int} (hinv : RInv rs) (hse : s ≤ e)
    (h : ∀ p ∈ rs, p.2 + 1 < s ∨ e + 1 < p.1) :
    RInv (mapInsert rs s e) ∧ ∀ x, Mem (mapInsert rs s e) x ↔ Mem rs x ∨ (s ≤ x ∧ x ≤ e) :=
  ⟨rinv_mapInsert hinv hse h, fun _ => Mem_mapInsert (fun q hq => by
    have := h q hq; have := hinv.2 q hq; omega)⟩

theorem insertLoop_spec (fuel : Nat) (rs : Ranges) (s e : Int) (hfuel : rs.length < fuel)
    (hpre : Pre rs s e) :
    RInv (insertLoop fuel rs s e) ∧
      ∀ x, Mem (insertLoop fuel rs s e) x ↔ Mem rs x ∨ (s ≤ x ∧ x ≤ e) := by
  induction fuel generalizing rs s e with
  | zero => omega
  | succ fuel ih =>
    obtain ⟨hinv, hse, hbefore⟩ := hpre
    rw [insertLoop]
    cases hnext : nextRange rs s with
    | none =>
      exact mapInsert_spec hinv hse
        (fun p hp => Or.inl (hbefore p hp (nextRange_none hinv hnext p hp)))
    | some n =>
      obtain ⟨ns, ne⟩ := n
      obtain ⟨hmem, hge, hothers⟩ := nextRange_some hinv hnext
      simp only at hge
      have hnle : ns ≤ ne := hinv.2 (ns, ne) hmem
      refine insert_decision (n := (ns, ne)) hinv hse hmem (fun hov => ?_) (fun hov => ?_)
      · have hlen : (mapRemove rs ns).length < fuel := by
          have := length_mapRemove_lt hmem
          simp at this
          omega
        rw [show min s ns = s by omega]
        exact ih _ _ _ hlen ⟨rinv_mapRemove hinv, by omega,
          fun p hp hlt => hbefore p (mem_mapRemove.mp hp).1 hlt⟩
      · refine mapInsert_spec hinv hse (fun p hp => ?_)
        rcases hothers p hp with rfl | h | h
        · simp; omega
        · simp at h; right; omega
        · exact Or.inl (hbefore p hp h)

theorem insert_spec (rs : Ranges) (s e : Int) (hinv : RInv rs) :
    RInv (insert rs s e) ∧ ∀ x, Mem (insert rs s e) x ↔ Mem rs x ∨ (s ≤ x ∧ x ≤ e) := by
  unfold insert
  by_cases hes : e < s
  · rw [if_pos hes]
    exact ⟨hinv, fun x => ⟨Or.inl, fun h => h.elim id (fun h => by omega)⟩⟩
  · rw [if_neg hes]
    have hse : s ≤ e := by omega
    cases hprev : prevRange rs s with
    | some n =>
      obtain ⟨ps, pe⟩ := n
      obtain ⟨hmem, hlt, hothers⟩ := prevRange_some hinv hprev
      simp only at hlt
      refine insert_decision (n := (ps, pe)) hinv hse hmem (fun hov => ?_) (fun hov => ?_)
      · refine insertLoop_spec _ _ _ _ (Nat.lt_succ_self _) ⟨rinv_mapRemove hinv, by omega, ?_⟩
        rw [show min s ps = ps by omega]
        intro p hp hlt'
        have hp' := mem_mapRemove.mp hp
        rcases hothers p hp'.1 with rfl | h | h
        · exact absurd rfl hp'.2
        · simpa using h
        · omega
      · refine insertLoop_spec _ rs s e (Nat.lt_succ_self _) ⟨hinv, hse, fun p hp hlt' => ?_⟩
        rcases hothers p hp with rfl | h | h
        · simp; omega
        · simp at h; omega
        · omega
    | none =>
      have hall := prevRange_none hinv hprev
      exact insertLoop_spec _ rs s e (Nat.lt_succ_self _)
        ⟨hinv, hse, fun p hp hlt => by have := hall p hp; omega⟩

/-- `Extend` / `FromIterator` from any stored state -/
theorem insertAll_spec (ops : List (Int × Int)) (rs : Ranges) (h : RInv rs) :
    RInv (insertAll rs ops) ∧
    ∀ x, Mem (insertAll rs ops) x ↔ Mem rs x ∨ ∃ op ∈ ops, op.1 ≤ x ∧ x ≤ op.2 := by
  induction ops generalizing rs with
  | nil => exact ⟨h, fun x => by simp [insertAll]⟩
  | cons op ops ih =>
    obtain ⟨h1, h2⟩ := insert_spec rs op.1 op.2 h
    obtain ⟨i1, i2⟩ := ih _ h1
    refine ⟨i1, fun x => ?_⟩
    rw [show insertAll rs (op :: ops) = insertAll (insert rs op.1 op.2) ops from rfl, i2 x, h2 x,
      or_assoc]
    simp only [List.mem_cons, exists_eq_or_imp]

theorem intersection_cons (a : Int × Int) (as : Ranges) (b : Int × Int) (bs : Ranges) :
    intersection (a :: as) (b :: bs) = (rangeIntersection a b).toList ++
      (if a.2 < b.2 then intersection as (b :: bs)
        else if a.2 = b.2 then intersection as bs else intersection (a :: as) bs) := by
  rw [intersection]
  cases rangeIntersection a b <;> rfl

theorem mem_rangeIntersection {a b r : Int × Int} (h : r ∈ (rangeIntersection a b).toList) :
    r = (max a.1 b.1, min a.2 b.2) ∧ a.1 ≤ b.2 ∧ b.1 ≤ a.2 := by
  unfold rangeIntersection at h
  by_cases hc : a.1 ≤ b.2 ∧ b.1 ≤ a.2
  · rw [if_pos hc] at h
    exact ⟨List.mem_singleton.1 h, hc⟩
  · rw [if_neg hc] at h
    exact absurd h List.not_mem_nil

theorem Mem_rangeIntersection {a b : Int × Int} {x : Int} :
    Mem (rangeIntersection a b).toList x ↔ (a.1 ≤ x ∧ x ≤ a.2) ∧ (b.1 ≤ x ∧ x ≤ b.2) := by
  constructor
  · rintro ⟨r, hr, h1, h2⟩
    obtain ⟨rfl, _, _⟩ := mem_rangeIntersection hr
    simp only at h1 h2
    omega
  · intro h
    refine ⟨(max a.1 b.1, min a.2 b.2), ?_, by simp only; omega, by simp only; omega⟩
    unfold rangeIntersection
    rw [if_pos (by omega)]
    exact List.mem_singleton.2 rfl

theorem or_and_cross {P Q A B : Prop} (h : P → B → False) :
    (P ∧ Q) ∨ (A ∧ (Q ∨ B)) ↔ (P ∨ A) ∧ (Q ∨ B) := by
  constructor
  · rintro (⟨p, q⟩ | ⟨a, qb⟩)
    · exact ⟨Or.inl p, Or.inl q⟩
    · exact ⟨Or.inr a, qb⟩
  · rintro ⟨p | a, qb⟩
    · exact qb.elim (fun q => Or.inl ⟨p, q⟩) (fun b => (h p b).elim)
    · exact Or.inr ⟨a, qb⟩

theorem intersection_spec (as bs : Ranges) (ha : RInv as) (hb : RInv bs) :
    RInv (intersection as bs) ∧ ∀ x, Mem (intersection as bs) x ↔ Mem as x ∧ Mem bs x := by
  induction as generalizing bs with
  | nil => rw [intersection]; exact ⟨rinv_nil, fun x => ⟨fun h => (Mem_nil h).elim, fun h => h.1⟩⟩
  | cons a as iha =>
    induction bs with
    | nil => rw [intersection]; exact ⟨rinv_nil, fun x => ⟨fun h => (Mem_nil h).elim, fun h => h.2⟩⟩
    | cons b bs ihb =>
      have ha' := rinv_cons.mp ha
      have hb' := rinv_cons.mp hb
      rw [intersection_cons]
      have hA : ∀ x, Mem as x → a.2 + 1 < x := fun x => Mem_tail_gt ha
      have hB : ∀ x, Mem bs x → b.2 + 1 < x := fun x => Mem_tail_gt hb
      -- the side whose head ends first is advanced; the members of the remainder lie beyond that end
      have hrest : ∀ rest : Ranges, RInv rest → (∀ x, Mem rest x → min a.2 b.2 + 1 < x) →
          RInv ((rangeIntersection a b).toList ++ rest) := by
        intro rest hr hlo
        cases hri : rangeIntersection a b with
        | none => exact hr
        | some r =>
          obtain ⟨rfl, h1, h2⟩ := mem_rangeIntersection (a := a) (b := b) (r := r)
            (by rw [hri]; exact List.mem_singleton.2 rfl)
          exact rinv_cons_of_mem hr (by have := ha'.2.1; have := hb'.2.1; simp only; omega) hlo
      by_cases h1 : a.2 < b.2
      · rw [if_pos h1]
        obtain ⟨hi, hm⟩ := iha _ ha'.2.2 hb
        refine ⟨hrest _ hi (fun x hx => by have := hA x ((hm x).1 hx).1; omega), fun x => ?_⟩
        rw [Mem_append, Mem_rangeIntersection, hm, Mem_cons, Mem_cons]
        exact or_and_cross (fun h hx => by have := hB x hx; omega)
      · rw [if_neg h1]
        by_cases h2 : a.2 = b.2
        · rw [if_pos h2]
          obtain ⟨hi, hm⟩ := iha _ ha'.2.2 hb'.2.2
          refine ⟨hrest _ hi (fun x hx => by have := hA x ((hm x).1 hx).1; omega), fun x => ?_⟩
          rw [Mem_append, Mem_rangeIntersection, hm, Mem_cons, Mem_cons,
            ← or_and_cross (fun h hx => by have := hB x hx; omega)]
          exact or_congr_right (and_congr_right (fun hx =>
            (or_iff_right (fun h => by have := hA x hx; omega)).symm))
        · rw [if_neg h2]
          obtain ⟨hi, hm⟩ := ihb hb'.2.2
          refine ⟨hrest _ hi (fun x hx => by have := hB x ((hm x).1 hx).2; omega), fun x => ?_⟩
          rw [Mem_append, Mem_rangeIntersection, hm, Mem_cons, Mem_cons,
            and_comm (b := Mem bs x), and_comm (a := a.1 ≤ x ∧ x ≤ a.2) (b := b.1 ≤ x ∧ x ≤ b.2),
            and_comm (b := (b.1 ≤ x ∧ x ≤ b.2) ∨ Mem bs x)]
          exact or_and_cross (fun h hx => by have := hA x hx; omega)

end FontVerif.RangeSet
