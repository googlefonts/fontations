/-
Helper lemmas for C17 (Model/SubsetCmap.lean): klippa's format 12 group merging
(`Cmap12::serialize`) produces well-formed groups that stand for exactly the listed pairs.
-/
import FontVerif.Model.SubsetCmap
import FontVerif.Lemmas.Cmap
namespace FontVerif.SubsetCmap
open FontVerif.Cmap

/-- what `Plan::unicode_to_new_gid_list` (restricted to one subtable) looks like: strictly ascending
Unicode code points, 16-bit glyph ids -/
structure Listed (l : Mapping) : Prop where
  asc : Ascending l
  bound : ∀ p ∈ l, p.1 ≤ 0x10FFFF ∧ p.2 ≤ 0xFFFF

theorem Listed.tail {p : Nat × Nat} {l : Mapping} (h : Listed (p :: l)) : Listed l :=
  ⟨(List.pairwise_cons.1 h.asc).2, fun q hq => h.bound q (List.mem_cons_of_mem _ hq)⟩

theorem k12_spec : ∀ (rest : Mapping) (lb sc ec g : Nat), lb ≤ sc → sc ≤ ec → ec ≤ 0x10FFFF → g ≤ 0xFFFF →
    AscFrom (ec + 1) rest → (∀ p ∈ rest, p.1 ≤ 0x10FFFF ∧ p.2 ≤ 0xFFFF) →
    ∃ gs, groups12Go sc ec g rest = some gs ∧ GroupsOk lb gs ∧
      expandGroups gs = expandGroup (sc, ec, g) ++ rest := by
  intro rest
  induction rest with
  | nil =>
    intro lb sc ec g h1 h2 h3 h4 _ _
    have hne : sc ≠ INVALID := by unfold INVALID; omega
    refine ⟨[(sc, ec, g)], by simp [groups12Go, hne], ⟨h1, h2, trivial⟩, by simp [expandGroups]⟩
  | cons p rest ih =>
    intro lb sc ec g h1 h2 h3 h4 hasc hb
    obtain ⟨cp, gid⟩ := p
    obtain ⟨ha1, ha2⟩ := hasc
    simp only at ha1 ha2
    have hp := hb (cp, gid) (List.mem_cons_self ..)
    simp only at hp
    have hb' : ∀ q ∈ rest, q.1 ≤ 0x10FFFF ∧ q.2 ≤ 0xFFFF := fun q hq => hb q (List.mem_cons_of_mem _ hq)
    have hne : sc ≠ INVALID := by unfold INVALID; omega
    have hcp0 : cp ≠ 0 := by omega
    have fresh : ∃ gs, groups12Go cp cp gid rest = some gs ∧ GroupsOk lb ((sc, ec, g) :: gs) ∧
        expandGroups ((sc, ec, g) :: gs) = expandGroup (sc, ec, g) ++ (cp, gid) :: rest := by
      obtain ⟨gs, e1, e2, e3⟩ := ih (ec + 1) cp cp gid (by omega) (Nat.le_refl _) hp.1 hp.2 ha2 hb'
      refine ⟨gs, e1, ⟨h1, h2, e2⟩, ?_⟩
      simp only [expandGroups, List.flatMap_cons] at e3 ⊢
      rw [e3]
      simp [expandGroup]
    unfold groups12Go
    simp only [hne, if_false, hcp0]
    by_cases hadj : cp - 1 = ec
    · simp only [hadj, if_true]
      have hov : ¬ g + (cp - sc) > 4294967295 := by omega
      simp only [hov, if_false]
      have hcp : cp = ec + 1 := by omega
      by_cases hg : gid = g + (cp - sc)
      · simp only [hg, if_true]
        obtain ⟨gs, e1, e2, e3⟩ := ih lb sc cp g h1 (by omega) hp.1 h4 ha2 hb'
        refine ⟨gs, e1, e2, ?_⟩
        rw [e3, hcp, expandGroup_snoc sc ec g h2]
        simp
      · simp only [hg, if_false]
        obtain ⟨gs, e1, e2, e3⟩ := fresh
        exact ⟨(sc, ec, g) :: gs, by simp [e1], e2, e3⟩
    · simp only [hadj, if_false]
      obtain ⟨gs, e1, e2, e3⟩ := fresh
      exact ⟨(sc, ec, g) :: gs, by simp [e1], e2, e3⟩

theorem listed_small {l : Mapping} (hl : Listed l) : Small l := by
  intro p hp
  have := hl.bound p hp
  omega

end FontVerif.SubsetCmap
