/-
Helper lemmas for C17 (Model/SubsetCmap.lean): klippa's format 4 range splitting (`to_ranges`) yields,
for EVERY outcome of its two cost decisions, a valid segmentation of the listed pairs.
-/
import FontVerif.Model.SubsetCmap
import FontVerif.Lemmas.Cmap
import FontVerif.Lemmas.Cmap4
import FontVerif.Lemmas.Cmap4Iter
namespace FontVerif.SubsetCmap
open FontVerif.Cmap

theorem pairsFrom_cons (cp gid : Nat → Nat) (i n : Nat) (h : i < n) :
    pairsFrom cp gid i n = (cp i, gid i) :: pairsFrom cp gid (i + 1) n := by
  unfold pairsFrom
  have : n - i = (n - (i + 1)) + 1 := by omega
  rw [this, List.range'_succ]
  simp

theorem pairsFrom_nil (cp gid : Nat → Nat) (n : Nat) : pairsFrom cp gid n n = [] := by
  simp [pairsFrom]

/-- the state after "A new run is starting": `dec` = the open range was committed -/
def stNew (st : St) (dec : Bool) (c g : Nat) : St :=
  { start := if dec then c else st.start, prevRunStart := st.runStart, runStart := c,
    endCp := c, lastGid := g, runLength := 1,
    delta := wrapI16 ((g : Int) - (c : Int)), prevDelta := st.delta, first := false }

theorem go_cons (h : Heur) (st : St) (c g : Nat) (rest : List (Nat × Nat)) (hc : c ≤ 0xFFFF) (hg : g ≤ 0xFFFF) :
    go h st ((c, g) :: rest) =
      if st.endCp + 1 > 65535 then none
      else if c ≠ st.endCp + 1 then
        match commit h st true with
        | none => none
        | some cm =>
          match go h (initSt (c, g)) rest with
          | none => none
          | some r => some (cm ++ r)
      else if st.lastGid + 1 > 65535 then none
      else if g = st.lastGid + 1 then
        if st.runLength + 1 > 65535 then none
        else go h { st with endCp := c, runLength := st.runLength + 1, lastGid := g } rest
      else
        match h.commitAtRun st with
        | none => none
        | some dec =>
          match (if dec then commit h st false else some []) with
          | none => none
          | some cm =>
            match go h (stNew st dec c g) rest with
            | none => none
            | some r => some (cm ++ r) := by
  rw [go]
  simp only [Nat.mod_eq_of_lt (show c < 65536 by omega), Nat.mod_eq_of_lt (show g < 65536 by omega)]
  rfl

theorem initSt_eq {c g : Nat} (hc : c ≤ 0xFFFF) (hg : g ≤ 0xFFFF) : initSt (c, g) =
    { start := c, prevRunStart := c, runStart := c, endCp := c, lastGid := g, runLength := 1,
      delta := wrapI16 ((g : Int) - (c : Int)), prevDelta := 0, first := true } := by
  simp only [initSt, Nat.mod_eq_of_lt (show c < 65536 by omega), Nat.mod_eq_of_lt (show g < 65536 by omega)]

/-- index-based validity of the ranges written for the pairs with index in `[lo, n)`:
each range covers a block of consecutive code points; a range with a non-zero idDelta has constant
`gid − cp`, and its idDelta is that difference as an `i16` -/
def BodyOk (cp gid : Nat → Nat) : Nat → Nat → List Range → Prop
  | lo, n, [] => lo = n
  | lo, n, r :: rest =>
    r.1 = cp lo ∧ r.1 ≤ r.2.1 ∧ lo + (r.2.1 - r.1) < n ∧
    (∀ k, lo ≤ k → k ≤ lo + (r.2.1 - r.1) → cp k = r.1 + (k - lo)) ∧
    (r.2.2 ≠ 0 → r.2.2 = wrapI16 ((gid lo : Int) - (cp lo : Int)) ∧
       ∀ k, lo ≤ k → k ≤ lo + (r.2.1 - r.1) → (gid k : Int) - (cp k : Int) = (gid lo : Int) - (cp lo : Int)) ∧
    BodyOk cp gid (lo + (r.2.1 - r.1) + 1) n rest

theorem BodyOk.append {cp gid : Nat → Nat} : ∀ {xs ys : List Range} {lo mid n : Nat},
    BodyOk cp gid lo mid xs → mid ≤ n → BodyOk cp gid mid n ys → BodyOk cp gid lo n (xs ++ ys) := by
  intro xs
  induction xs with
  | nil => intro ys lo mid n h1 _ h2; cases h1; exact h2
  | cons r rest ih =>
    intro ys lo mid n h1 hmn h2
    obtain ⟨a, b, c, d, e, f⟩ := h1
    exact ⟨a, b, by omega, d, e, ih f hmn h2⟩

theorem bodyOk_cons (cp gid : Nat → Nat) (a b n : Nat) (d : Int) (rest : List Range)
    (hab : a < b) (hbn : b ≤ n) (hcon : ∀ k, a ≤ k → k < b → cp k = cp a + (k - a))
    (hd : d ≠ 0 → d = wrapI16 ((gid a : Int) - (cp a : Int)) ∧
      ∀ k, a ≤ k → k < b → (gid k : Int) - (cp k : Int) = (gid a : Int) - (cp a : Int))
    (hrest : BodyOk cp gid b n rest) : BodyOk cp gid a n ((cp a, cp (b - 1), d) :: rest) := by
  have hlast := hcon (b - 1) (by omega) (by omega)
  have hb : a + (cp (b - 1) - cp a) + 1 = b := by omega
  refine ⟨rfl, by simp only; omega, by simp only; omega, ?_, ?_, ?_⟩
  · intro k h1 h2
    simp only at h2 ⊢
    exact hcon k h1 (by omega)
  · intro h0
    obtain ⟨h3, h4⟩ := hd h0
    refine ⟨h3, fun k h1 h2 => ?_⟩
    simp only at h2
    exact h4 k h1 (by omega)
  · simp only
    rw [hb]
    exact hrest

theorem bodyOk_length (cp gid : Nat → Nat) : ∀ (body : List Range) (lo n : Nat),
    BodyOk cp gid lo n body → lo + body.length ≤ n := by
  intro body
  induction body with
  | nil => intro lo n h; simp only [BodyOk] at h; simp; omega
  | cons r rest ih =>
    intro lo n h
    obtain ⟨_, _, _, _, _, f⟩ := h
    have := ih _ _ f
    simp only [List.length_cons]
    omega

/-- the loop invariant of `to_ranges`: the open range covers the indices `[i0, i)`, its current run
starts at index `ir` -/
structure Inv (cp gid : Nat → Nat) (st : St) (i0 ir i : Nat) : Prop where
  h0 : i0 ≤ ir
  h1 : ir < i
  start : st.start = cp i0
  runStart : st.runStart = cp ir
  endCp : st.endCp = cp (i - 1)
  lastGid : st.lastGid = gid (i - 1)
  consec : ∀ k, i0 ≤ k → k < i → cp k = cp i0 + (k - i0)
  delta : st.delta = wrapI16 ((gid ir : Int) - (cp ir : Int))
  run : ∀ k, ir ≤ k → k < i → (gid k : Int) - (cp k : Int) = (gid ir : Int) - (cp ir : Int)
  prev : st.start = st.prevRunStart → i0 < ir →
    st.prevDelta = wrapI16 ((gid i0 : Int) - (cp i0 : Int)) ∧
    ∀ k, i0 ≤ k → k < ir → (gid k : Int) - (cp k : Int) = (gid i0 : Int) - (cp i0 : Int)

/-- a state that has just opened a range at index `i` (the outer loop's "Start a new run", or a committed range) -/
theorem inv_open (cp gid : Nat → Nat) (st : St) (i : Nat) (hs : st.start = cp i) (hr : st.runStart = cp i)
    (he : st.endCp = cp i) (hl : st.lastGid = gid i) (hd : st.delta = wrapI16 ((gid i : Int) - (cp i : Int))) :
    Inv cp gid st i i (i + 1) := by
  have only : ∀ k, i ≤ k → k < i + 1 → k = i := fun k h1 h2 => by omega
  refine ⟨Nat.le_refl _, by omega, hs, hr, he, hl, ?_, hd, ?_, fun _ h => by omega⟩
  · intro k h1 h2; cases only k h1 h2; simp
  · intro k h1 h2; cases only k h1 h2; rfl

theorem inv_init (cp gid : Nat → Nat) (i : Nat) (hc : cp i ≤ 0xFFFF) (hg : gid i ≤ 0xFFFF) :
    Inv cp gid (initSt (cp i, gid i)) i i (i + 1) := by
  rw [initSt_eq hc hg]
  exact inv_open cp gid _ i rfl rfl rfl rfl rfl

theorem inv_consec_succ {cp gid : Nat → Nat} {st : St} {i0 ir i : Nat} (hinv : Inv cp gid st i0 ir i)
    (hnext : cp i = st.endCp + 1) : ∀ k, i0 ≤ k → k < i + 1 → cp k = cp i0 + (k - i0) := by
  intro k hk1 hk2
  have h0 := hinv.h0
  have h1 := hinv.h1
  by_cases hk : k = i
  · subst hk
    have := hinv.consec (k - 1) (by omega) (by omega)
    have := hinv.endCp
    omega
  · exact hinv.consec k hk1 (by omega)

theorem inv_cont {cp gid : Nat → Nat} {st : St} {i0 ir i : Nat} (hinv : Inv cp gid st i0 ir i)
    (hnext : cp i = st.endCp + 1) (hcont : gid i = st.lastGid + 1) :
    Inv cp gid { st with endCp := cp i, runLength := st.runLength + 1, lastGid := gid i } i0 ir (i + 1) := by
  have h0 := hinv.h0
  have h1 := hinv.h1
  refine ⟨h0, by omega, hinv.start, hinv.runStart, rfl, rfl, inv_consec_succ hinv hnext, hinv.delta, ?_, hinv.prev⟩
  intro k hk1 hk2
  by_cases hk : k = i
  · subst hk
    have := hinv.run (k - 1) (by omega) (by omega)
    have := hinv.lastGid
    have := hinv.endCp
    omega
  · exact hinv.run k hk1 (by omega)

theorem inv_newRun {cp gid : Nat → Nat} {st : St} {i0 ir i : Nat} (hinv : Inv cp gid st i0 ir i)
    (hnext : cp i = st.endCp + 1) : Inv cp gid (stNew st false (cp i) (gid i)) i0 i (i + 1) := by
  have h0 := hinv.h0
  have h1 := hinv.h1
  refine ⟨by omega, by omega, hinv.start, rfl, rfl, rfl, inv_consec_succ hinv hnext, rfl, ?_, ?_⟩
  · intro k hk1 hk2
    cases (show k = i by omega); rfl
  · intro heq hlt
    -- start = old run start: the open range so far is a single run
    have hir : cp ir = cp i0 + (ir - i0) := hinv.consec ir h0 h1
    have hii : i0 = ir := by
      have := hinv.start; have := hinv.runStart
      simp only [stNew, Bool.false_eq_true, if_false] at heq
      omega
    subst hii
    exact ⟨hinv.delta, hinv.run⟩

theorem inv_fresh (cp gid : Nat → Nat) (st : St) (i : Nat) : Inv cp gid (stNew st true (cp i) (gid i)) i i (i + 1) :=
  inv_open cp gid _ i rfl rfl rfl rfl rfl

/-- `commit_current_range` writes a valid cover of the open range, whatever the cost test says -/
theorem commit_ok (h : Heur) (cp gid : Nat → Nat) (st : St) (i0 ir i : Nat) (final : Bool)
    (c : List Range) (hinv : Inv cp gid st i0 ir i) (hc : commit h st final = some c) :
    BodyOk cp gid i0 i c := by
  have h0 := hinv.h0
  have h1 := hinv.h1
  have hir : cp ir = cp i0 + (ir - i0) := hinv.consec ir h0 h1
  -- a run when the range starts where its last run starts, else a glyphIdArray range
  have single : BodyOk cp gid i0 i
      (if st.start = st.runStart then [(st.start, st.endCp, st.delta)] else [(st.start, st.endCp, 0)]) := by
    by_cases hs : st.start = st.runStart
    · have hii : i0 = ir := by rw [hinv.start, hinv.runStart] at hs; omega
      subst hii
      rw [if_pos hs, hinv.start, hinv.endCp]
      exact bodyOk_cons cp gid i0 i i st.delta [] (by omega) (Nat.le_refl _) hinv.consec (fun _ => ⟨hinv.delta, hinv.run⟩) rfl
    · rw [if_neg hs, hinv.start, hinv.endCp]
      exact bodyOk_cons cp gid i0 i i 0 [] (by omega) (Nat.le_refl _) hinv.consec (fun hne => absurd rfl hne) rfl
  unfold commit at hc
  simp only [] at hc
  by_cases hcond : st.start < st.runStart ∧ st.runStart < st.endCp
  · rw [if_pos hcond] at hc
    cases hsp : h.splitTail st final with
    | none => simp [hsp] at hc
    | some b =>
      cases b with
      | false =>
        simp only [hsp] at hc
        cases Option.some.inj hc
        exact single
      | true =>
        simp only [hsp] at hc
        cases Option.some.inj hc
        have hlt : i0 < ir := by rw [hinv.start, hinv.runStart] at hcond; omega
        have e1 : st.runStart - 1 = cp (ir - 1) := by
          have := hinv.consec (ir - 1) (by omega) (by omega)
          rw [hinv.runStart]; omega
        have hrun2 : BodyOk cp gid ir i [(st.runStart, st.endCp, st.delta)] := by
          rw [hinv.runStart, hinv.endCp]
          refine bodyOk_cons cp gid ir i i st.delta [] h1 (Nat.le_refl _) ?_ (fun _ => ⟨hinv.delta, hinv.run⟩) rfl
          intro k hk1 hk2
          have := hinv.consec k (by omega) hk2
          omega
        have hdd : (if st.start = st.prevRunStart then st.prevDelta else 0) ≠ 0 →
            (if st.start = st.prevRunStart then st.prevDelta else 0) = wrapI16 ((gid i0 : Int) - (cp i0 : Int)) ∧
            ∀ k, i0 ≤ k → k < ir → (gid k : Int) - (cp k : Int) = (gid i0 : Int) - (cp i0 : Int) := by
          intro hne
          by_cases hp : st.start = st.prevRunStart
          · rw [if_pos hp]
            exact hinv.prev hp hlt
          · rw [if_neg hp] at hne; exact absurd rfl hne
        generalize (if st.start = st.prevRunStart then st.prevDelta else 0) = dd at hdd ⊢
        rw [e1, hinv.start]
        exact bodyOk_cons cp gid i0 ir i dd _ hlt (by omega)
          (fun k hk1 hk2 => hinv.consec k hk1 (by omega)) hdd hrun2
  · rw [if_neg hcond] at hc
    cases Option.some.inj hc
    exact single

/-- the two loops of `to_ranges`, from any reachable state, for ANY heuristic: if they finish, the
written ranges are a valid cover of the open range and the remaining pairs, followed by the
terminating segment unless the last end code is U+FFFF -/
theorem go_body (h : Heur) (cp gid : Nat → Nat) (n : Nat)
    (hcp : ∀ k, k < n → cp k ≤ 0xFFFF) (hgid : ∀ k, k < n → gid k ≤ 0xFFFF) :
    ∀ (m i : Nat), n - i = m → i ≤ n → ∀ (st : St) (i0 ir : Nat) (rs : List Range),
      Inv cp gid st i0 ir i → go h st (pairsFrom cp gid i n) = some rs →
      ∃ body, rs = body ++ sentinel (cp (n - 1)) ∧ BodyOk cp gid i0 n body := by
  intro m
  induction m with
  | zero =>
    intro i hm hin st i0 ir rs hinv hgo
    have hi : i = n := by omega
    subst hi
    rw [pairsFrom_nil, go] at hgo
    cases hc : commit h st true with
    | none => simp [hc] at hgo
    | some c =>
      simp only [hc] at hgo
      cases Option.some.inj hgo
      exact ⟨c, by rw [hinv.endCp], commit_ok h cp gid st i0 ir i true c hinv hc⟩
  | succ m ih =>
    intro i hm hin st i0 ir rs hinv hgo
    have hi : i < n := by omega
    have next : ∀ (st' : St) (j0 jr : Nat) (c r : List Range), Inv cp gid st' j0 jr (i + 1) →
        go h st' (pairsFrom cp gid (i + 1) n) = some r →
        BodyOk cp gid i0 j0 c →
        ∃ body, c ++ r = body ++ sentinel (cp (n - 1)) ∧ BodyOk cp gid i0 n body := by
      intro st' j0 jr c r hinv' hr hcov
      obtain ⟨body, hb1, hb2⟩ := ih (i + 1) (by omega) (by omega) st' j0 jr r hinv' hr
      exact ⟨c ++ body, by rw [hb1, List.append_assoc],
        hcov.append (by have := hinv'.h0; have := hinv'.h1; omega) hb2⟩
    rw [pairsFrom_cons cp gid i n hi, go_cons h st _ _ _ (hcp i hi) (hgid i hi)] at hgo
    by_cases hov : st.endCp + 1 > 65535
    · rw [if_pos hov] at hgo; cases hgo
    rw [if_neg hov] at hgo
    by_cases hbrk : cp i ≠ st.endCp + 1
    · rw [if_pos hbrk] at hgo
      cases hc : commit h st true with
      | none => simp [hc] at hgo
      | some c =>
        cases hr : go h (initSt (cp i, gid i)) (pairsFrom cp gid (i + 1) n) with
        | none => simp [hc, hr] at hgo
        | some r =>
          simp only [hc, hr] at hgo
          cases Option.some.inj hgo
          exact next _ i i c r (inv_init cp gid i (hcp i hi) (hgid i hi)) hr (commit_ok h cp gid st i0 ir i true c hinv hc)
    have hnext : cp i = st.endCp + 1 := Decidable.not_not.mp hbrk
    rw [if_neg hbrk] at hgo
    by_cases hgov : st.lastGid + 1 > 65535
    · rw [if_pos hgov] at hgo; cases hgo
    rw [if_neg hgov] at hgo
    by_cases hcont : gid i = st.lastGid + 1
    · rw [if_pos hcont] at hgo
      by_cases hrl : st.runLength + 1 > 65535
      · rw [if_pos hrl] at hgo; cases hgo
      rw [if_neg hrl] at hgo
      exact ih (i + 1) (by omega) (by omega) _ i0 ir rs (inv_cont hinv hnext hcont) hgo
    rw [if_neg hcont] at hgo
    cases hd : h.commitAtRun st with
    | none => simp [hd] at hgo
    | some dec =>
      simp only [hd] at hgo
      cases dec with
      | true =>
        rw [if_pos rfl] at hgo
        cases hc : commit h st false with
        | none => simp [hc] at hgo
        | some c =>
          cases hr : go h (stNew st true (cp i) (gid i)) (pairsFrom cp gid (i + 1) n) with
          | none => simp [hc, hr] at hgo
          | some r =>
            simp only [hc, hr] at hgo
            cases Option.some.inj hgo
            exact next _ i i c r (inv_fresh cp gid st i) hr (commit_ok h cp gid st i0 ir i false c hinv hc)
      | false =>
        rw [if_neg Bool.false_ne_true] at hgo
        cases hr : go h (stNew st false (cp i) (gid i)) (pairsFrom cp gid (i + 1) n) with
        | none => simp [hr] at hgo
        | some r =>
          simp only [hr] at hgo
          cases Option.some.inj hgo
          exact next _ i0 i [] r (inv_newRun hinv hnext) hr rfl

end FontVerif.SubsetCmap
