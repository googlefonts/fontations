/-
HVAR / VVAR subsetting (Model/SubsetHvar.lean; theorems in Props/C17Hvar.lean).  The reader's delta at a kept glyph
goes: map -> index pair -> subtable row -> weighted sum over regions; the file follows that path backwards: one row
(`decodedRow_eq`, `deltaSizes_spec`, `decodedRow_subset`, `row_sum_eq`), one store (`usedBefore`, `subsetStore_delta`),
one map (`scanBack_spec`, `remapGo_spec`, `serializeMap_read`), and the plan, whose invariant is that the outer map
names exactly the subtables with a non-empty inner set (`AccInv`, `AccLe`, `subsetPlan_ok`).  The hypotheses of the
headline theorem (`WellFormed`, `planRowsOkB`) stand first.
-/
import FontVerif.Model.SubsetHvar
import FontVerif.Lemmas.IvsLemmas
import FontVerif.Lemmas.DeltaLemmas
import FontVerif.Lemmas.BuiltDelta
import FontVerif.Lemmas.DsimLemmas
import FontVerif.Lemmas.Base
import FontVerif.Lemmas.SortedMap
namespace FontVerif.SubsetHvar
open FontVerif.Tent FontVerif.Ivs

/-- the model's `SubTable` is what `ItemVariationData::read` accepted: the delta sets are there. -/
def SubOk (st : SubTable) : Prop :=
  deltaRowLen st.wordDeltaCount st.regionIndexes.length * st.itemCount ≤ st.data.length

/-- what `ItemVariationData::read` accepted, with every region index inside the region list. -/
def SubWf (nregions : Nat) : SubIn → Prop
  | .ok st => SubOk st ∧ (∀ b ∈ st.data, b < 256) ∧ st.regionIndexes.length < 32768 ∧
      ∀ ri ∈ st.regionIndexes, ri < nregions
  | _ => True

instance (n : Nat) (s : SubIn) : Decidable (SubWf n s) := by
  cases s <;> unfold SubWf <;> try unfold SubOk
  all_goals infer_instance

def outerOk (nsubs : Nat) : Option (Nat × Nat) → Prop
  | some (o, _) => o < nsubs
  | none => True

instance (n : Nat) (r : Option (Nat × Nat)) : Decidable (outerOk n r) := by
  cases r with
  | none => unfold outerOk; infer_instance
  | some p => obtain ⟨o, i⟩ := p; unfold outerOk; infer_instance

def MapWf (nsubs : Nat) (n2o : List (Nat × Nat)) : Option MapIn → Prop
  | some mm => (∀ b ∈ mm.data, b < 256) ∧
      ∀ q ∈ n2o, outerOk nsubs (dsimGet mm.entryFormat mm.mapCount mm.data q.2)
  | none => True

instance (n : Nat) (l : List (Nat × Nat)) (m : Option MapIn) : Decidable (MapWf n l m) := by
  cases m <;> unfold MapWf <;> infer_instance

structure WellFormed (t : TableIn) : Prop where
  n2oSorted : t.n2o.Pairwise (fun a b => a.1 < b.1)
  newLt : ∀ q ∈ t.n2o, q.1 < 65535
  oldLt : ∀ q ∈ t.n2o, q.2 < 65536
  glyphset : ∀ q ∈ t.n2o, q.2 ∈ t.glyphset
  regions : t.regions.length ≤ 65536
  subs : ∀ s ∈ t.subs, SubWf t.regions.length s
  maps : ∀ m ∈ t.maps, MapWf t.subs.length t.n2o m

/-- no subtable of the subset gets 65536 or more delta sets (its u16 item count does not wrap). -/
def planRowsOkB (t : TableIn) : Bool :=
  match subsetPlan t.subs.length t.maps t.n2o t.glyphset t.retainGids with
  | .ok sp => sp.innerMaps.all (fun im => decide (im.length < 65536))
  | .error _ => true

theorem mem_bmAdd {m : List Nat} {x y : Nat} : y ∈ bmAdd m x ↔ y ∈ m ∨ y = x := by
  unfold bmAdd
  by_cases h : x ∈ m
  · rw [if_pos h]; exact ⟨Or.inl, fun h' => h'.elim id (fun e => e ▸ h)⟩
  · rw [if_neg h, List.mem_append, List.mem_singleton]

theorem mem_foldl_bmAdd (xs : List Nat) : ∀ (m : List Nat) (y : Nat),
    y ∈ xs.foldl bmAdd m ↔ y ∈ m ∨ y ∈ xs := by
  induction xs with
  | nil => intro m y; simp
  | cons x xs ih =>
    intro m y
    simp only [List.foldl_cons, ih, mem_bmAdd, List.mem_cons]
    exact or_assoc

theorem mem_bmFrom {xs : List Nat} {y : Nat} : y ∈ bmFrom xs ↔ y ∈ xs := by
  unfold bmFrom; rw [mem_foldl_bmAdd]; simp

theorem bmFrom_eq_nil {s : List Nat} : bmFrom s = [] ↔ s = [] := by
  constructor
  · intro h
    cases s with
    | nil => rfl
    | cons a s =>
      have : a ∈ bmFrom (a :: s) := mem_bmFrom.mpr (by simp)
      rw [h] at this; cases this
  · intro h; subst h; rfl

theorem foldl_bmAdd_eq_nil {xs m : List Nat} : xs.foldl bmAdd m = [] ↔ m = [] ∧ xs = [] := by
  simp only [List.eq_nil_iff_forall_not_mem, mem_foldl_bmAdd, not_or, forall_and]

/-- `get` answers for members only, with their position. -/
theorem bmGet_some {m : List Nat} {x i : Nat} (h : bmGet m x = some i) :
    x ∈ m ∧ i = m.idxOf x := by
  unfold bmGet at h
  split at h
  · rename_i hm
    exact ⟨hm, (Option.some.inj h).symm⟩
  · cases h

theorem bmGet_of_mem {m : List Nat} {x : Nat} (h : x ∈ m) : bmGet m x = some (m.idxOf x) := by
  unfold bmGet; simp [h]

theorem setInsert_eq (x : Nat) : ∀ (s : List Nat), setInsert x s = SSet.insert x s
  | [] => rfl
  | y :: ys => by rw [setInsert, SSet.insert_cons, setInsert_eq x ys]

theorem mem_setInsert {x y : Nat} {s : List Nat} : y ∈ setInsert x s ↔ y = x ∨ y ∈ s := by
  rw [setInsert_eq]; exact SSet.mem_insert

theorem sorted_setInsert (x : Nat) {s : List Nat} (h : s.Pairwise (· < ·)) : (setInsert x s).Pairwise (· < ·) := by
  rw [setInsert_eq]; exact SSet.insert_sorted x h

theorem setInsert_ne_nil (x : Nat) (s : List Nat) : setInsert x s ≠ [] := by
  intro h
  have : x ∈ setInsert x s := mem_setInsert.mpr (Or.inl rfl)
  rw [h] at this; cases this

theorem setAddAll_eq (s xs : List Nat) : setAddAll s xs = xs.foldl (fun s x => SSet.insert x s) s := by
  unfold setAddAll; congr 1; funext s x; exact setInsert_eq x s

theorem mem_setAddAll (xs s : List Nat) (y : Nat) : y ∈ setAddAll s xs ↔ y ∈ s ∨ y ∈ xs := by
  rw [setAddAll_eq]; exact SSet.mem_foldl_insert xs s y

theorem sorted_setAddAll (xs s : List Nat) (h : s.Pairwise (· < ·)) : (setAddAll s xs).Pairwise (· < ·) := by
  rw [setAddAll_eq]; exact SSet.foldl_insert_sorted xs s h

theorem setAddAll_ne_nil (s : List Nat) {xs : List Nat} (h : xs ≠ []) : setAddAll s xs ≠ [] := by
  obtain ⟨x, l, rfl⟩ := List.exists_cons_of_ne_nil h
  exact List.ne_nil_of_mem ((mem_setAddAll _ s x).mpr (Or.inr List.mem_cons_self))

theorem mem_bmSort {m : List Nat} {y : Nat} : y ∈ bmSort m ↔ y ∈ m := by
  unfold bmSort; rw [mem_setAddAll]; simp

theorem sorted_bmSort (m : List Nat) : (bmSort m).Pairwise (· < ·) :=
  sorted_setAddAll m [] List.Pairwise.nil

theorem idxOf_sorted : ∀ {l : List Nat}, l.Pairwise (· < ·) → ∀ {x : Nat}, x ∈ l →
    l.idxOf x = (l.filter (· < x)).length
  | [], _, _, hx => by cases hx
  | c :: t, hl, x, hx => by
    have ⟨hc, ht⟩ := List.pairwise_cons.mp hl
    rw [List.idxOf_cons, List.filter_cons]
    rcases List.mem_cons.mp hx with rfl | hx'
    · rw [beq_self_eq_true, cond_true, if_neg (by simp), List.filter_eq_nil_iff.mpr (fun y hy => by have := hc y hy; simp; omega)]
      rfl
    · have := hc x hx'
      rw [beq_false_of_ne (Nat.ne_of_lt this), cond_false, if_pos (by simpa using this), List.length_cons, idxOf_sorted ht hx']

theorem idxOf_le_of_sorted {s : List Nat} (hs : s.Pairwise (· < ·)) {x : Nat} (hx : x ∈ s) : s.idxOf x ≤ x := by
  rw [idxOf_sorted hs hx]
  exact nodup_length_le (lo := 0) ((sorted_nodup hs).filter _) (fun y hy => ⟨Nat.zero_le _, by simpa using (List.mem_filter.mp hy).2⟩)

/-- a successful `mapM`: element by element -/
theorem mapM_ok {α β : Type} {f : α → R β} : ∀ {l : List α} {rs : List β}, l.mapM f = .ok rs →
    l.map f = rs.map .ok
  | [], _, h => Except.ok.inj h ▸ rfl
  | a :: l, _, h => by
    rw [List.mapM_cons] at h
    obtain ⟨b, hb, h⟩ := Do.bind_ok h
    obtain ⟨bs, hbs, h⟩ := Do.bind_ok h
    cases h
    rw [List.map_cons, List.map_cons, hb, mapM_ok hbs]

theorem mapM_get? {α β : Type} {f : α → R β} {l : List α} {rs : List β} (h : l.mapM f = .ok rs) {k : Nat} {a : α}
    (hk : l[k]? = some a) : ∃ b, f a = .ok b ∧ rs[k]? = some b := by
  have := congrArg (·[k]?) (mapM_ok h)
  simp only [List.getElem?_map, hk, Option.map_some] at this
  cases hr : rs[k]? with
  | none => rw [hr] at this; cases this
  | some b => rw [hr] at this; exact ⟨b, Option.some.inj this, rfl⟩

theorem mapM_ok_map {α β : Type} {f : α → R β} {g : α → β} {P : α → Prop} {l : List α} {rs : List β}
    (h : l.mapM f = .ok rs) (hg : ∀ a ∈ l, ∀ b, f a = .ok b → b = g a ∧ P a) :
    rs = l.map g ∧ ∀ a ∈ l, P a := by
  have hm := mapM_ok h
  clear h
  induction l generalizing rs with
  | nil => cases rs with
    | nil => exact ⟨rfl, nofun⟩
    | cons => cases hm
  | cons a l ih =>
    cases rs with
    | nil => cases hm
    | cons b rs =>
      obtain ⟨hb, hm⟩ := List.cons.inj hm
      obtain ⟨e, hp⟩ := hg _ List.mem_cons_self _ hb
      obtain ⟨e', hp'⟩ := ih (fun a ha => hg a (List.mem_cons_of_mem _ ha)) hm
      exact ⟨by rw [e, e', List.map_cons], List.forall_mem_cons.mpr ⟨hp, hp'⟩⟩

theorem readW_some {w : Nat} (hw : w = 1 ∨ w = 2 ∨ w = 4) {bs : List Nat} (h : w ≤ bs.length) :
    ∃ v, readW w bs = some (v, bs.drop w) := by
  rcases hw with rfl | rfl | rfl
  · match bs, h with
    | a :: rest, _ => exact ⟨_, rfl⟩
  · match bs, h with
    | a :: b :: rest, _ => exact ⟨_, rfl⟩
  · match bs, h with
    | a :: b :: c :: d :: rest, _ => exact ⟨_, rfl⟩

theorem colWidth_cases (wc : Nat) (long : Bool) (pos : Nat) :
    colWidth wc long pos = 1 ∨ colWidth wc long pos = 2 ∨ colWidth wc long pos = 4 := by
  rw [colWidth_eq]; unfold wideW narrowW
  split <;> cases long <;> simp

/-- byte offset of column `r` inside a row: the `wc` wide columns come first. -/
def colOff (wc : Nat) (long : Bool) (r : Nat) : Nat :=
  if r ≤ wc then r * wideW long else wc * wideW long + (r - wc) * narrowW long

theorem colOff_zero (wc : Nat) (long : Bool) : colOff wc long 0 = 0 := by
  unfold colOff; rw [if_pos (Nat.zero_le _), Nat.zero_mul]

theorem colOff_succ (wc : Nat) (long : Bool) (r : Nat) :
    colOff wc long (r + 1) = colOff wc long r + colWidth wc long r := by
  rw [colWidth_eq]; unfold colOff
  by_cases h : r < wc
  · rw [if_pos h, if_pos (Nat.succ_le_of_lt h), if_pos (Nat.le_of_lt h), Nat.succ_mul]
  · rw [if_neg h, if_neg (by omega)]
    by_cases h2 : r ≤ wc
    · obtain rfl : r = wc := by omega
      rw [if_pos h2, Nat.add_sub_cancel_left, Nat.one_mul]
    · rw [if_neg h2, show r + 1 - wc = (r - wc) + 1 by omega, Nat.succ_mul, Nat.add_assoc]

theorem colOff_mono (wc : Nat) (long : Bool) {a b : Nat} (h : a ≤ b) : colOff wc long a ≤ colOff wc long b := by
  induction h with
  | refl => exact Nat.le_refl _
  | step _ ih => exact Nat.le_trans ih (by rw [colOff_succ]; exact Nat.le_add_right _ _)

theorem colOff_le_rowLen (wdc ric r : Nat) (hr : r ≤ ric) :
    colOff (wdc % 32768) (decide (wdc / 32768 % 2 = 1)) r ≤ deltaRowLen wdc ric := by
  refine Nat.le_trans (colOff_mono _ _ hr) ?_
  rw [deltaRowLen_eq']; unfold colOff
  split
  · exact Nat.le_trans (Nat.mul_le_mul_right _ ‹_›) (Nat.le_add_right _ _)
  · exact Nat.le_refl _

theorem rdAt_drop (bs : List Nat) (w a b : Nat) : rdAt (bs.drop a) w b = rdAt bs w (a + b) := by
  unfold rdAt; rw [List.drop_drop]

theorem itemDeltas_eq_map (wc : Nat) (long : Bool) (len : Nat) (bs : List Nat)
    (hb : colOff wc long len ≤ bs.length) : ∀ (n pos : Nat), pos + n = len →
    itemDeltas wc long len pos (bs.drop (colOff wc long pos)) =
      (List.range n).map (fun k => rdAt bs (colWidth wc long (pos + k)) (colOff wc long (pos + k)))
  | 0, pos, hp => by rw [itemDeltas, dif_pos (by omega)]; rfl
  | n + 1, pos, hp => by
    have hnext := colOff_succ wc long pos
    have := colOff_mono wc long (a := pos + 1) (b := len) (by omega)
    obtain ⟨v, hv⟩ := readW_some (colWidth_cases wc long pos) (bs := bs.drop (colOff wc long pos))
      (by rw [List.length_drop]; omega)
    rw [itemDeltas, dif_neg (by omega), hv, List.drop_drop, ← hnext]
    show v :: itemDeltas wc long len (pos + 1) (bs.drop (colOff wc long (pos + 1))) = _
    rw [itemDeltas_eq_map wc long len bs hb n (pos + 1) (by omega), List.range_succ_eq_map, List.map_cons, List.map_map]
    congr 1
    · show v = rdAt bs _ _
      unfold rdAt; rw [Nat.add_zero, hv]
    · exact List.map_congr_left (fun k _ => by show _ = rdAt bs _ _; rw [Nat.add_right_comm, Nat.add_assoc])

theorem getItemDelta_cell (st : SubTable) (item r : Nat) :
    getItemDelta st item r =
      if item ≥ st.itemCount ∨ r ≥ st.regionIndexes.length then 0 else
      rdAt (st.data.take (deltaRowLen st.wordDeltaCount st.regionIndexes.length * st.itemCount))
        (colWidth (st.wordDeltaCount % 32768) (decide (st.wordDeltaCount / 32768 % 2 = 1)) r)
        (item * deltaRowLen st.wordDeltaCount st.regionIndexes.length +
          colOff (st.wordDeltaCount % 32768) (decide (st.wordDeltaCount / 32768 % 2 = 1)) r) := by
  unfold getItemDelta
  simp only []
  split
  · rfl
  rw [colWidth_eq]; unfold colOff
  generalize decide (st.wordDeltaCount / 32768 % 2 = 1) = long
  generalize st.wordDeltaCount % 32768 = wc
  generalize item * deltaRowLen st.wordDeltaCount st.regionIndexes.length = p
  cases long
  · by_cases hr : r < wc
    · simp only [hr, Nat.le_of_lt hr, if_true, if_false, Bool.false_eq_true, wideW, narrowW]
    · simp only [hr, if_false, Bool.false_eq_true, wideW, narrowW]
      congr 1
      split <;> omega
  · by_cases hr : r < wc
    · simp only [hr, Nat.le_of_lt hr, if_true, wideW, narrowW]
    · simp only [hr, if_false, if_true, wideW, narrowW]
      congr 1
      split <;> omega

/-- **random access = sequential read**: the reader's iterator over a row inside the table yields, column by
column, what `get_item_delta` returns for that row. -/
theorem decodedRow_eq (st : SubTable) (hok : SubOk st) (item : Nat) (hi : item < st.itemCount) :
    decodedRow st item = (List.range st.regionIndexes.length).map (getItemDelta st item) := by
  unfold SubOk at hok
  have hdec0 : decodedRow st item =
      itemDeltas (st.wordDeltaCount % 32768) (decide (st.wordDeltaCount / 32768 % 2 = 1))
        st.regionIndexes.length 0
        (if deltaRowLen st.wordDeltaCount st.regionIndexes.length * item ≤
            (st.data.take (deltaRowLen st.wordDeltaCount st.regionIndexes.length * st.itemCount)).length
          then (st.data.take (deltaRowLen st.wordDeltaCount st.regionIndexes.length * st.itemCount)).drop
            (deltaRowLen st.wordDeltaCount st.regionIndexes.length * item) else []) := by
    unfold decodedRow deltaSet; rfl
  have hg := getItemDelta_cell st item
  have hcol := colOff_le_rowLen st.wordDeltaCount st.regionIndexes.length _ (Nat.le_refl _)
  generalize st.regionIndexes.length = ric at *
  generalize deltaRowLen st.wordDeltaCount ric = L at *
  have hblen : (st.data.take (L * st.itemCount)).length = L * st.itemCount := by
    rw [List.length_take]; omega
  generalize st.data.take (L * st.itemCount) = bytes at *
  have hrow : L * item + L ≤ bytes.length := by
    rw [hblen, ← Nat.mul_succ]; exact Nat.mul_le_mul_left _ hi
  have := itemDeltas_eq_map (st.wordDeltaCount % 32768) (decide (st.wordDeltaCount / 32768 % 2 = 1)) ric (bytes.drop (L * item))
    (by rw [List.length_drop]; omega) ric 0 (Nat.zero_add _)
  rw [colOff_zero, List.drop_zero] at this
  rw [hdec0, if_pos (by omega), this]
  exact List.map_congr_left (fun r hr => by
    rw [rdAt_drop, Nat.zero_add, hg r, if_neg (by have := List.mem_range.mp hr; omega), Nat.mul_comm item])

theorem getItemDelta_oob (st : SubTable) (item r : Nat)
    (h : st.itemCount ≤ item ∨ st.regionIndexes.length ≤ r) : getItemDelta st item r = 0 := by
  unfold getItemDelta
  have : item ≥ st.itemCount ∨ r ≥ st.regionIndexes.length := h
  simp [this]

theorem decodedRow_oob (st : SubTable) (item : Nat) (h : st.itemCount ≤ item) :
    decodedRow st item = [] := by
  unfold decodedRow deltaSet
  simp only []
  generalize st.regionIndexes.length = ric
  generalize deltaRowLen st.wordDeltaCount ric = L
  have hbl : (st.data.take (L * st.itemCount)).length ≤ L * st.itemCount := by
    rw [List.length_take]; omega
  generalize st.data.take (L * st.itemCount) = bytes at *
  have hle : L * st.itemCount ≤ L * item := Nat.mul_le_mul_left _ h
  have hs : (if L * item ≤ bytes.length then bytes.drop (L * item) else []) = [] := by
    split
    · apply List.drop_of_length_le; omega
    · rfl
  rw [hs, itemDeltas]
  split
  · rfl
  · have hw := colWidth_cases (st.wordDeltaCount % 32768) (decide (st.wordDeltaCount / 32768 % 2 = 1)) 0
    have : readW (colWidth (st.wordDeltaCount % 32768) (decide (st.wordDeltaCount / 32768 % 2 = 1)) 0) [] = none := by
      rcases hw with h | h | h <;> rw [h] <;> rfl
    rw [this]

theorem decodedRow_length_le (st : SubTable) (inner : Nat) :
    (decodedRow st inner).length ≤ st.regionIndexes.length := deltaSet_length_le ..

theorem fitsW_zero (w : Nat) : FitsW w 0 := by
  unfold FitsW inI8 inI16 inI32
  split
  · omega
  · split <;> omega

theorem fitsW_mono {a b : Nat} (ha : a = 1 ∨ a = 2 ∨ a = 4) (hb : b = 1 ∨ b = 2 ∨ b = 4) (h : a ≤ b)
    {x : Int} (hx : FitsW a x) : FitsW b x := by
  unfold FitsW inI8 inI16 inI32 at *
  rcases ha with rfl | rfl | rfl <;> rcases hb with rfl | rfl | rfl <;> simp at * <;> omega

theorem fitsW_inI32 {w : Nat} {x : Int} (h : FitsW w x) : inI32 x := by
  unfold FitsW inI8 inI16 at h; unfold inI32
  split at h
  · omega
  · split at h
    · omega
    · exact h

theorem rdAt_fits {bytes : List Nat} (hb : ∀ b ∈ bytes, b < 256) (w pos : Nat) : FitsW w (rdAt bytes w pos) := by
  unfold rdAt
  split
  · rename_i v rest h
    exact (readW_spec (fun b hbm => hb b (List.mem_of_mem_drop hbm)) h).1
  · exact fitsW_zero w

theorem getItemDelta_fits (st : SubTable) (hb : ∀ b ∈ st.data, b < 256) (item r : Nat) :
    FitsW (colWidth (st.wordDeltaCount % 32768) (decide (st.wordDeltaCount / 32768 % 2 = 1)) r)
      (getItemDelta st item r) := by
  rw [getItemDelta_cell]
  split
  · exact fitsW_zero _
  · exact rdAt_fits (fun b hbm => hb b (List.mem_of_mem_take hbm)) _ _

theorem classifyGo_spec (gd : Nat → Int) (minT maxT : Int) (sc : Bool) : ∀ (keys : List Nat) (s0 : Nat),
    s0 ≤ 2 →
    classifyGo gd minT maxT sc keys s0 ≤ 2 ∧
    (classifyGo gd minT maxT sc keys s0 = 0 → s0 = 0 ∧ ∀ item ∈ keys, gd item = 0) ∧
    (sc = false → s0 ≠ 2 → classifyGo gd minT maxT sc keys s0 = 1 →
      ∀ item ∈ keys, minT ≤ gd item ∧ gd item ≤ maxT) := by
  intro keys
  induction keys with
  | nil => intro s0 h; exact ⟨h, fun e => ⟨e, fun _ hi => by cases hi⟩, fun _ _ _ _ hi => by cases hi⟩
  | cons k keys ih =>
    intro s0 h
    rw [classifyGo]
    by_cases h1 : gd k < minT ∨ gd k > maxT
    · rw [if_pos h1]; exact ⟨Nat.le_refl _, fun e => absurd e (by decide), fun _ _ e => absurd e (by decide)⟩
    rw [if_neg h1]
    have hk : minT ≤ gd k ∧ gd k ≤ maxT := by omega
    have hcons : ∀ {P : Nat → Prop}, P k → (∀ item ∈ keys, P item) → ∀ item ∈ k :: keys, P item :=
      fun hp ht item hi => (List.mem_cons.mp hi).elim (fun e => e ▸ hp) (ht item)
    by_cases h2 : gd k ≠ 0
    · rw [if_pos h2]
      cases sc with
      | true => rw [if_pos rfl]; exact ⟨by decide, fun e => absurd e (by decide), fun e => absurd e (by decide)⟩
      | false =>
        rw [if_neg (by decide)]
        obtain ⟨i1, i2, i3⟩ := ih 1 (by decide)
        exact ⟨i1, fun e => absurd (i2 e).1 (by decide), fun _ _ e => hcons hk (i3 rfl (by decide) e)⟩
    · rw [if_neg h2]
      obtain ⟨i1, i2, i3⟩ := ih s0 h
      exact ⟨i1, fun e => ⟨(i2 e).1, hcons (Decidable.not_not.mp h2) (i2 e).2⟩,
        fun hsc hs e => hcons hk (i3 hsc hs e)⟩

/-- holds for every column, whatever its class: only the word columns of a LONG_WORDS source can hold more than 16 bits,
and those are the ones `has_long` scans. -/
theorem hasLong_fits_wide (st : SubTable) (hb : ∀ b ∈ st.data, b < 256) (keys : List Nat) {item : Nat}
    (hi : item ∈ keys) (r : Nat) : FitsW (wideW (hasLong st keys)) (getItemDelta st item r) := by
  have hf := getItemDelta_fits st hb item r
  have hcw := colWidth_cases (st.wordDeltaCount % 32768) (decide (st.wordDeltaCount / 32768 % 2 = 1)) r
  cases hl : hasLong st keys with
  | true => exact fitsW_mono hcw (by simp [wideW]) (by rcases hcw with h | h | h <;> simp [h, wideW]) hf
  | false =>
    by_cases hw : st.wordDeltaCount / 32768 % 2 = 1 ∧ r < st.wordDeltaCount % 32768
    · unfold hasLong at hl
      simp only [hw.1, decide_true, Bool.true_and, List.any_eq_false] at hl
      have h2 : ¬ (decide ¬(-32768 ≤ getItemDelta st item r ∧ getItemDelta st item r ≤ 32767)) = true :=
        fun hc => hl r (by simp [hw.2]) (List.any_eq_true.mpr ⟨item, hi, hc⟩)
      simp only [decide_eq_true_eq, Decidable.not_not] at h2
      unfold FitsW wideW inI16; simp; omega
    · refine fitsW_mono hcw (by simp [wideW]) ?_ hf
      rw [colWidth_eq]; unfold wideW narrowW
      by_cases h1 : st.wordDeltaCount / 32768 % 2 = 1
      · rw [if_neg (fun h2 => hw ⟨h1, h2⟩)]; simp [h1]
      · simp only [h1, decide_false, Bool.false_eq_true, if_false]; split <;> decide

theorem deltaSizes_spec (st : SubTable) (hb : ∀ b ∈ st.data, b < 256) (keys : List Nat) :
    (deltaSizes st keys).length = st.regionIndexes.length ∧
    ShapeOk (deltaSizes st keys) ∧ (∀ b ∈ deltaSizes st keys, b ≠ 4) ∧
    (∀ r, (deltaSizes st keys)[r]? = some 0 → ∀ item ∈ keys, getItemDelta st item r = 0) ∧
    (∀ r, (deltaSizes st keys)[r]? = some 1 → ∀ item ∈ keys,
      FitsW (narrowW (hasLong st keys)) (getItemDelta st item r)) ∧
    (∀ r, (deltaSizes st keys)[r]? = some 2 → ∀ item ∈ keys,
      FitsW (wideW (hasLong st keys)) (getItemDelta st item r)) := by
  have hlen : (deltaSizes st keys).length = st.regionIndexes.length := by simp [deltaSizes]
  have hget : ∀ r b, (deltaSizes st keys)[r]? = some b → r < st.regionIndexes.length ∧
      b = classifyGo (fun item => getItemDelta st item r)
        (if hasLong st keys then -32768 else -128) (if hasLong st keys then 32767 else 127)
        ((decide (st.wordDeltaCount / 32768 % 2 = 1) == hasLong st keys) &&
          decide (st.wordDeltaCount % 32768 ≤ r)) keys 0 := by
    intro r b h
    unfold deltaSizes at h
    simp only [] at h
    rw [List.getElem?_map] at h
    by_cases hr : r < st.regionIndexes.length
    · rw [List.getElem?_range hr] at h
      simp only [Option.map_some, Option.some.injEq] at h
      exact ⟨hr, h.symm⟩
    · rw [List.getElem?_eq_none (by simp; omega)] at h; cases h
  have hrange : ∀ b ∈ deltaSizes st keys, b ≤ 2 := by
    intro b hbm
    obtain ⟨r, hr⟩ := List.getElem?_of_mem hbm
    rw [(hget r b hr).2]
    exact (classifyGo_spec _ _ _ _ _ 0 (by decide)).1
  refine ⟨hlen, ?_, ?_, ?_, ?_, ?_⟩
  · intro b hbm; have := hrange b hbm; omega
  · intro b hbm; have := hrange b hbm; omega
  · intro r h item hi
    have := (hget r 0 h).2
    exact ((classifyGo_spec _ _ _ _ _ 0 (by decide)).2.1 this.symm).2 item hi
  · intro r h item hi
    have hc := (hget r 1 h).2
    have hf := getItemDelta_fits st hb item r
    rw [colWidth_eq] at hf
    by_cases hsc : ((decide (st.wordDeltaCount / 32768 % 2 = 1) == hasLong st keys) &&
          decide (st.wordDeltaCount % 32768 ≤ r)) = true
    · -- short circuit: the source column is narrow and the LONG_WORDS mode is unchanged
      simp only [Bool.and_eq_true, beq_iff_eq, decide_eq_true_eq] at hsc
      have : ¬ r < st.wordDeltaCount % 32768 := by omega
      simp only [this, if_false] at hf
      rw [← hsc.1]; exact hf
    · have hsc' : ((decide (st.wordDeltaCount / 32768 % 2 = 1) == hasLong st keys) &&
          decide (st.wordDeltaCount % 32768 ≤ r)) = false := by simpa using hsc
      rw [hsc'] at hc
      have := (classifyGo_spec _ _ _ false _ 0 (by decide)).2.2 rfl (by decide) hc.symm item hi
      unfold FitsW narrowW inI8 inI16
      cases hl : hasLong st keys <;> rw [hl] at this <;> simp at this ⊢ <;> omega
  · exact fun r _ item hi => hasLong_fits_wide st hb keys hi r

theorem idxWith_take_drop (sz : List Nat) :
    (riMap sz).take (count 2 sz) = idxWith 2 sz ∧ (riMap sz).drop (count 2 sz) = idxWith 1 sz := by
  unfold riMap
  rw [← idxWith_length 2 sz]
  simp

theorem riMap_length_le (sz : List Nat) : count 2 sz ≤ (riMap sz).length ∧ (riMap sz).length ≤ sz.length := by
  unfold riMap
  rw [List.length_append, idxWith_length, idxWith_length]
  have := counts_le sz
  omega

theorem mem_riMap {sz : List Nat} {c : Nat} : c ∈ riMap sz ↔ sz[c]? = some 2 ∨ sz[c]? = some 1 := by
  unfold riMap; rw [List.mem_append, mem_idxWith, mem_idxWith]

theorem idxWith4_nil {sz : List Nat} (h : ∀ b ∈ sz, b ≠ 4) : idxWith 4 sz = [] := by
  apply List.eq_nil_iff_forall_not_mem.mpr
  intro r hr
  have := mem_idxWith.mp hr
  exact h 4 (List.mem_of_getElem? this) rfl

theorem riMap_eq_indices {sz : List Nat} (h : ∀ b ∈ sz, b ≠ 4) : riMap sz = indices sz := by
  unfold riMap indices; rw [idxWith4_nil h]; simp

theorem rowFits_fits {hl : Bool} {wc : Nat} {raw : List Int} (h : rowFits hl wc raw = true)
    (h32 : ∀ x ∈ raw, inI32 x) :
    (∀ x ∈ raw.take wc, FitsW (wideW hl) x) ∧ (∀ x ∈ raw.drop wc, FitsW (narrowW hl) x) := by
  unfold rowFits at h
  cases hl
  · simp only [Bool.false_eq_true, if_false, Bool.and_eq_true, List.all_eq_true, decide_eq_true_eq] at h
    exact ⟨fun x hx => by simpa [FitsW, wideW] using h.1 x hx,
           fun x hx => by simpa [FitsW, narrowW] using h.2 x hx⟩
  · simp only [if_true, List.all_eq_true, decide_eq_true_eq] at h
    exact ⟨fun x hx => by simpa [FitsW, wideW] using h32 x (List.mem_of_mem_take hx),
           fun x hx => by simpa [FitsW, narrowW] using h x hx⟩

/-- a successful `subsetVarData` in closed form: the retained columns renumbered through the region map, one
`encodeWords` row of the retained columns per entry of the inner map, every row within the chosen widths. -/
structure VarDataOk (st : SubTable) (im rm : List Nat) (o : SubTable) : Prop where
  itemCount : o.itemCount = im.length % 65536
  wdc : o.wordDeltaCount =
    if hasLong st im then count 2 (deltaSizes st im) ||| 32768 else count 2 (deltaSizes st im)
  ris : o.regionIndexes = (riMap (deltaSizes st im)).map (fun c => rm.idxOf (st.regionIndexes.getD c 0) % 65536) ∧
    ∀ c ∈ riMap (deltaSizes st im), st.regionIndexes.getD c 0 ∈ rm
  rows : o.data = ((List.range (im.length % 65536)).map fun i =>
      encodeWords (hasLong st im) (count 2 (deltaSizes st im))
        ((riMap (deltaSizes st im)).map fun c => getItemDelta st (im.getD i 0) c)).flatten ∧
    ∀ i ∈ List.range (im.length % 65536), rowFits (hasLong st im) (count 2 (deltaSizes st im))
      ((riMap (deltaSizes st im)).map fun c => getItemDelta st (im.getD i 0) c) = true

theorem subsetVarData_ok {st : SubTable} {im rm : List Nat} {o : SubTable}
    (h : subsetVarData st im rm = .ok o) : VarDataOk st im rm o := by
  unfold subsetVarData at h
  simp only [bind, Except.bind] at h
  split at h
  · cases h
  · rename_i newRis hris
    split at h
    · cases h
    · rename_i rows hrows
      simp only [pure, Except.pure, Except.ok.injEq] at h
      subst h
      refine ⟨rfl, rfl, mapM_ok_map hris fun c _ b hf => ?_,
        And.imp_left (congrArg List.flatten) (mapM_ok_map hrows fun i _ b hf => ?_)⟩
      · split at hf
        · cases hf
        · rename_i oldR hold
          split at hf
          · cases hf
          · rename_i r hr
            simp only [pure, Except.pure, Except.ok.injEq] at hf
            obtain ⟨hm, hidx⟩ := bmGet_some hr
            rw [List.getD_eq_getElem?_getD, hold, ← hf, hidx]
            exact ⟨rfl, hm⟩
      · split at hf
        · cases hf
        · rename_i oldI hold
          split at hf
          · rename_i hfit
            simp only [pure, Except.pure, Except.ok.injEq] at hf
            rw [List.getD_eq_getElem?_getD, hold, ← hf]
            exact ⟨rfl, hfit⟩
          · cases hf

theorem wdc_decode (hl : Bool) (wc : Nat) (h : wc < 32768) : WdcIs (if hl then wc ||| 32768 else wc) wc hl := by
  cases hl
  · exact ⟨by simp; omega, by simp; omega⟩
  · have e : wc ||| 32768 = 1 * 2 ^ 15 + wc := by
      rw [mul_add_eq_or (k := 15) (by omega) 1, Nat.or_comm]
    exact ⟨by simp only [↓reduceIte, e]; omega, by simp only [↓reduceIte, e, decide_eq_true_eq]; omega⟩

theorem decodedRow_subset {st : SubTable} {im rm : List Nat} {o : SubTable}
    (hok : VarDataOk st im rm o) (hb : ∀ b ∈ st.data, b < 256)
    (hric : st.regionIndexes.length < 32768) (him : im.length < 65536) :
    SubOk o ∧ ∀ i (hi : i < im.length),
      decodedRow o i = (riMap (deltaSizes st im)).map fun c => getItemDelta st im[i] c := by
  obtain ⟨hic, hwdc, ⟨hris, _⟩, hdata, hfits⟩ := hok
  rw [Nat.mod_eq_of_lt him] at hic hdata hfits
  have hszl := (deltaSizes_spec st hb im).1
  have ⟨hc1, hc2⟩ := riMap_length_le (deltaSizes st im)
  have hw := wdc_decode (hasLong st im) _ (show count 2 (deltaSizes st im) < 32768 by omega)
  rw [← hwdc] at hw
  have hrl : o.regionIndexes.length = (riMap (deltaSizes st im)).length := by rw [hris, List.length_map]
  obtain ⟨raw, hraw⟩ : ∃ raw : Nat → List Int,
      raw = fun i => (riMap (deltaSizes st im)).map fun c => getItemDelta st (im.getD i 0) c := ⟨_, rfl⟩
  have hd : o.data = ((List.range im.length).map raw).flatMap
      (encodeWords (hasLong st im) (count 2 (deltaSizes st im))) := by
    rw [hdata, List.flatMap_def, List.map_map, hraw]; rfl
  obtain ⟨h1, h2⟩ := deltaSet_encodeWords hw (n := o.regionIndexes.length) (by rw [hrl]; exact hc1)
    ((List.range im.length).map raw)
    (fun r hr => by obtain ⟨x, _, rfl⟩ := List.mem_map.mp hr; rw [hraw, hrl, List.length_map])
    (fun r hr => by
      obtain ⟨j, hj, rfl⟩ := List.mem_map.mp hr
      rw [hraw]
      exact rowFits_fits (hfits j hj) (fun x hx => by
        obtain ⟨c, _, rfl⟩ := List.mem_map.mp hx
        exact fitsW_inI32 (getItemDelta_fits st hb _ c)))
  rw [List.length_map, List.length_range] at h1
  refine ⟨by unfold SubOk; rw [hd, h1, hic]; exact Nat.le_refl _, fun i hi => ?_⟩
  unfold decodedRow
  rw [hd, hic, List.take_of_length_le (by rw [h1]; exact Nat.le_refl _),
    h2 i (by rw [List.length_map, List.length_range]; exact hi), List.getElem_map, List.getElem_range, hraw,
    ← getD_eq_getElem im i 0 hi]

theorem sumOver_eq_zero (h : Nat → Int) : ∀ (l : List Nat), (∀ r ∈ l, h r = 0) → sumOver h l = 0 := by
  intro l
  induction l with
  | nil => intro _; rfl
  | cons r l ih =>
    intro hh
    simp only [sumOver, hh r (by simp), ih (fun x hx => hh x (by simp [hx]))]; rfl

theorem row_sum_eq {st : SubTable} {im rm : List Nat} {o : SubTable}
    (hok : VarDataOk st im rm o) (hb : ∀ b ∈ st.data, b < 256)
    (hric : st.regionIndexes.length < 32768) (him : im.length < 65536) (hsok : SubOk st)
    (regions : List (List (Int × Int × Int))) (hsorted : rm.Pairwise (· < ·))
    (hrm : ∀ x ∈ rm, x < regions.length) (hreg : regions.length ≤ 65536)
    (coords : List Int) (i : Nat) (hi : i < im.length) :
    specSum (rm.map fun r => regions.getD r []) coords (decodedRow o i) o.regionIndexes =
      specSum regions coords (decodedRow st im[i]) st.regionIndexes := by
  obtain ⟨hszl, hshape, hno4, hz, _, _⟩ := deltaSizes_spec st hb im
  have hdec := (decodedRow_subset hok hb hric him).2 i hi
  -- a retained column names a region of the (sorted) region map; its new index, the position there, is a u16
  have hris : o.regionIndexes = (riMap (deltaSizes st im)).map
      (fun c => rm.idxOf (st.regionIndexes.getD c 0)) := by
    rw [hok.ris.1]
    refine List.map_congr_left fun c hc => Nat.mod_eq_of_lt ?_
    have := idxOf_le_of_sorted hsorted (hok.ris.2 c hc)
    have := hrm _ (hok.ris.2 c hc)
    omega
  rw [hdec, hris, specSum_pruned regions rm coords _ (fun c => st.regionIndexes.getD c 0) _ hok.ris.2,
    riMap_eq_indices hno4, sumOver_indices _ _ hshape]
  · rw [hszl]
    by_cases hin : im[i] < st.itemCount
    · rw [decodedRow_eq st hsok im[i] hin]
      conv => rhs; arg 4; rw [← map_getD_range st.regionIndexes 0]
      rw [specSum_map]
    · rw [decodedRow_oob st im[i] (by omega)]
      have : specSum regions coords [] st.regionIndexes = 0 := by
        cases st.regionIndexes <;> rfl
      rw [this]
      apply sumOver_eq_zero
      intro c _
      rw [getItemDelta_oob st im[i] c (Or.inl (by omega))]; simp
  · intro c hc h0
    have := hz c (by rw [List.getElem?_eq_getElem hc, h0]) im[i] (List.getElem_mem hi)
    rw [this]; simp

theorem computeDelta_subtable {st : SubTable} {im rm : List Nat} {o : SubTable}
    (hok : VarDataOk st im rm o) (hb : ∀ b ∈ st.data, b < 256)
    (hric : st.regionIndexes.length < 32768) (him : im.length < 65536) (hsok : SubOk st)
    (regions : List (List (Int × Int × Int))) (hsorted : rm.Pairwise (· < ·))
    (hrm : ∀ x ∈ rm, x < regions.length) (hreg : regions.length ≤ 65536)
    (hsri : ∀ ri ∈ st.regionIndexes, ri < regions.length)
    (newSubs oldSubs : List (Option SubTable)) (no outer : Nat)
    (hnew : newSubs[no]? = some (some o)) (hold : oldSubs[outer]? = some (some st))
    (coords : List Int) (i : Nat) (hi : i < im.length) :
    computeDelta (rm.map fun r => regions.getD r []) newSubs no i coords =
      computeDelta regions oldSubs outer im[i] coords := by
  by_cases hne : coords = []
  · subst hne; simp [computeDelta]
  · have ⟨hsubo, hdec⟩ := decodedRow_subset hok hb hric him
    have hloopOld : LoopOk regions (decodedRow st im[i]) st.regionIndexes :=
      loopOk_of_lt regions _ _ (decodedRow_length_le st _) hsri
    have hloopNew : LoopOk (rm.map fun r => regions.getD r []) (decodedRow o i) o.regionIndexes := by
      apply loopOk_of_lt
      · rw [hdec i hi, hok.ris.1]; simp
      · intro ri hri
        rw [hok.ris.1] at hri
        obtain ⟨c, hc, rfl⟩ := List.mem_map.mp hri
        have := List.idxOf_lt_length_iff.mpr (hok.ris.2 c hc)
        have := Nat.mod_le (rm.idxOf (st.regionIndexes.getD c 0)) 65536
        rw [List.length_map]; omega
    rw [computeDelta_of_loopOk _ _ _ _ _ o hne hnew hsubo hloopNew,
        computeDelta_of_loopOk _ _ _ _ _ st hne hold hsok hloopOld,
        row_sum_eq hok hb hric him hsok regions hsorted hrm hreg coords i hi]

theorem collectRegionRefs_sorted (st : SubTable) (keys : List Nat) (acc : List Nat)
    (h : acc.Pairwise (· < ·)) : (collectRegionRefs st keys acc).Pairwise (· < ·) := by
  unfold collectRegionRefs
  split
  · exact h
  · generalize st.regionIndexes.zipIdx = l
    induction l generalizing acc with
    | nil => simpa using h
    | cons x l ih =>
      simp only [List.foldl_cons]
      apply ih
      split
      · exact h
      · split
        · exact sorted_setInsert _ h
        · exact h

theorem collectAll_sorted : ∀ (subs : List SubIn) (ims : List (List Nat)) (acc r : List Nat),
    acc.Pairwise (· < ·) → collectAll subs ims acc = .ok r → r.Pairwise (· < ·) := by
  intro subs ims
  induction ims generalizing subs with
  | nil =>
    intro acc r h hr
    simp only [collectAll, pure, Except.pure, Except.ok.injEq] at hr
    subst hr; exact h
  | cons im ims ih =>
    intro acc r h hr
    cases subs with
    | nil => simp [collectAll] at hr
    | cons s ss =>
      cases s with
      | ok st =>
        simp only [collectAll] at hr
        exact ih ss _ r (collectRegionRefs_sorted st im acc h) hr
      | null =>
        simp only [collectAll] at hr
        exact ih ss _ r h hr
      | bad => simp [collectAll] at hr

theorem subsetStore_ok {axisCount : Nat} {regions : List (List (Int × Int × Int))} {subs : List SubIn}
    {ims : List (List Nat)} {so : StoreOut} (h : subsetStore axisCount regions subs ims = .ok so) :
    so.regionMap.Pairwise (· < ·) ∧ (∀ x ∈ so.regionMap, x < regions.length) ∧
    so.regions = so.regionMap.map (fun r => regions.getD r []) ∧
    subsetSubs so.regionMap subs ims = .ok so.subs := by
  unfold subsetStore at h
  obtain ⟨_, h⟩ := Do.guard_ok h
  obtain ⟨refs, hrefs, h⟩ := Do.bind_ok h
  obtain ⟨_, h⟩ := Do.guard_ok h
  obtain ⟨outSubs, hsubs, h⟩ := Do.bind_ok h
  obtain ⟨_, h⟩ := Do.guard_ok h
  obtain rfl := Except.ok.inj h
  exact ⟨(collectAll_sorted subs ims [] refs .nil hrefs).filter _,
    fun x hx => of_decide_eq_true (List.mem_filter.mp hx).2, rfl, hsubs⟩

def usedBefore : List (List Nat) → Nat → Nat
  | _, 0 => 0
  | [], _ + 1 => 0
  | im :: ims, j + 1 => (if im.length = 0 then 0 else 1) + usedBefore ims j

theorem usedBefore_eq : ∀ (ims : List (List Nat)) (j : Nat),
    usedBefore ims j = ((List.range j).filter (fun i => (ims.getD i []).length ≠ 0)).length
  | _, 0 => by cases ‹List (List Nat)› <;> rfl
  | [], j + 1 => by
    rw [usedBefore, List.filter_eq_nil_iff.mpr (fun i _ => by simp)]; rfl
  | im :: ims, j + 1 => by
    rw [usedBefore, usedBefore_eq ims j, List.range_succ_eq_map, List.filter_cons, List.filter_map]
    have e : (List.filter ((fun i => decide (((im :: ims).getD i []).length ≠ 0)) ∘ Nat.succ) (List.range j)) =
        List.filter (fun i => decide ((ims.getD i []).length ≠ 0)) (List.range j) := rfl
    rw [e]
    by_cases h : im.length = 0
    · rw [if_pos h, if_neg (by simpa using h), Nat.zero_add, List.length_map]
    · rw [if_neg h, if_pos (by simpa using h), List.length_cons, List.length_map, Nat.add_comm]

theorem idxOf_eq_usedBefore (om : List Nat) (ims : List (List Nat)) (hs : om.Pairwise (· < ·))
    (hm : ∀ j, j ∈ om ↔ j < ims.length ∧ (ims.getD j []).length ≠ 0) (j : Nat) (hj : j ∈ om) :
    om.idxOf j = usedBefore ims j := by
  rw [idxOf_sorted hs hj, usedBefore_eq]
  congr 1
  refine sorted_ext (hs.filter _) (List.pairwise_lt_range.filter _) (fun y => ?_)
  rw [List.mem_filter, List.mem_filter, List.mem_range, hm y, decide_eq_true_eq, decide_eq_true_eq]
  refine ⟨fun h => ⟨h.2, h.1.2⟩, fun h => ⟨⟨?_, h.2⟩, h.1⟩⟩
  refine Nat.lt_of_not_le (fun hle => h.2 ?_)
  rw [getD_of_length_le _ hle]; rfl

theorem subsetSubs_cons {rm : List Nat} {subs : List SubIn} {i0 : List Nat} {ims : List (List Nat)}
    {outs : List SubTable} (h : subsetSubs rm subs (i0 :: ims) = .ok outs) :
    (i0.length = 0 ∧ subsetSubs rm subs.tail ims = .ok outs) ∨
    (i0.length ≠ 0 ∧ ∃ st ss o rest, subs = SubIn.ok st :: ss ∧ subsetVarData st i0 rm = .ok o ∧
      subsetSubs rm ss ims = .ok rest ∧ outs = o :: rest) := by
  by_cases h0 : i0.length = 0
  · refine Or.inl ⟨h0, ?_⟩
    cases subs with
    | nil => rw [subsetSubs, if_pos h0] at h; exact h
    | cons s ss => cases s <;> simpa [subsetSubs, h0] using h
  · refine Or.inr ⟨h0, ?_⟩
    cases subs with
    | nil => rw [subsetSubs, if_neg h0] at h; cases h
    | cons s ss =>
      cases s with
      | ok st =>
        simp only [subsetSubs, h0, if_false] at h
        obtain ⟨o, ho, h⟩ := Do.bind_ok h
        obtain ⟨rest, hrest, h⟩ := Do.bind_ok h
        exact ⟨st, ss, o, rest, rfl, ho, hrest, (Except.ok.inj h).symm⟩
      | null => simp [subsetSubs, h0, throw, throwThe, MonadExceptOf.throw] at h
      | bad => simp [subsetSubs, h0, throw, throwThe, MonadExceptOf.throw] at h

theorem subsetSubs_get (rm : List Nat) : ∀ (ims : List (List Nat)) (subs : List SubIn)
    (outs : List SubTable), subsetSubs rm subs ims = .ok outs →
    ∀ j im, ims[j]? = some im → im.length ≠ 0 →
      ∃ st o, subs[j]? = some (SubIn.ok st) ∧ subsetVarData st im rm = .ok o ∧
        outs[usedBefore ims j]? = some o := by
  intro ims
  induction ims with
  | nil => intro subs outs _ j im h; cases h
  | cons i0 ims ih =>
    intro subs outs h j im hj him
    have htail : ∀ k, subs.tail[k]? = subs[k + 1]? := fun k => by cases subs <;> rfl
    rcases subsetSubs_cons h with ⟨h0, hrest⟩ | ⟨h0, st, ss, o, rest, rfl, ho, hrest, rfl⟩
    · cases j with
      | zero => exact absurd (Option.some.inj hj ▸ h0) him
      | succ j =>
        obtain ⟨st, o, h1, h2, h3⟩ := ih _ outs hrest j im hj him
        exact ⟨st, o, by rw [← htail j]; exact h1, h2, by rw [usedBefore, if_pos h0, Nat.zero_add]; exact h3⟩
    · cases j with
      | zero =>
        obtain rfl := Option.some.inj hj
        exact ⟨st, o, rfl, ho, rfl⟩
      | succ j =>
        obtain ⟨st', o', h1, h2, h3⟩ := ih ss rest hrest j im hj him
        exact ⟨st', o', h1, h2, by rw [usedBefore, if_neg h0, Nat.add_comm]; exact h3⟩

/-- **`ItemVariationStore::subset` preserves every retained row**: row `i` of the inner map of source
subtable `outer` is row `i` of written subtable `usedBefore ims outer`, and read-fonts' `compute_delta`
gives the same value on both sides at every location. -/
theorem subsetStore_delta {axisCount : Nat} {regions : List (List (Int × Int × Int))} {subs : List SubIn}
    {ims : List (List Nat)} {so : StoreOut} (h : subsetStore axisCount regions subs ims = .ok so)
    (hwf : ∀ s ∈ subs, SubWf regions.length s) (hreg : regions.length ≤ 65536)
    (hims : ∀ im ∈ ims, im.length < 65536)
    {outer : Nat} {im : List Nat} (him : ims[outer]? = some im) {i : Nat} (hi : i < im.length)
    (coords : List Int) :
    computeDelta so.regions (so.subs.map some) (usedBefore ims outer) i coords =
      computeDelta regions (subs.map SubIn.toReader) outer im[i] coords := by
  obtain ⟨hsorted, hrm, hregs, hsubs⟩ := subsetStore_ok h
  obtain ⟨st, ov, hst, hv, hout⟩ := subsetSubs_get so.regionMap ims subs so.subs hsubs outer im him (by omega)
  obtain ⟨hsok, hb, hric, hsri⟩ : SubWf regions.length (SubIn.ok st) := hwf _ (List.mem_of_getElem? hst)
  rw [hregs]
  exact computeDelta_subtable (subsetVarData_ok hv) hb hric (hims im (List.mem_of_getElem? him)) hsok regions
    hsorted hrm hreg hsri _ _ _ outer (by rw [List.getElem?_map, hout]; rfl) (by rw [List.getElem?_map, hst]; rfl)
    coords i hi

/-- `map_count = (last_gid + 1) as u16` (0 when nothing is retained). -/
def mapCountOf (lastGid : Option Nat) : Nat :=
  match lastGid with
  | none => 0
  | some lg => (lg + 1) % 65536

/-- `outer_bit_count = entry_size * 8 - bit_count` of the source map (format 1 = 1 byte, 2 inner
bits when there is none). -/
def outerBitsOf (m : Option MapIn) : Nat :=
  match m with
  | some mm => ((mm.entryFormat % 64) / 16 % 4 + 1) * 8 - ((mm.entryFormat % 64) % 16 + 1)
  | none => 6

/-- the scan with a current candidate `x`: `x :: rev` splits as `a ++ y :: b` where all of `a ++ [y]` have `x`'s entry
`lv`; the answer is `y`. -/
theorem scanBack_some (m : Option MapIn) : ∀ (rev : List (Nat × Nat)) (x : Nat × Nat) (lv : Nat × Nat)
    (r : Option Nat), mapGet m x.2 = some lv → scanBack m rev (some (x.1, lv)) = .ok r →
    ∃ a y b, x :: rev = a ++ y :: b ∧ (∀ p ∈ a ++ [y], mapGet m p.2 = some lv) ∧ r = some y.1 := by
  intro rev
  induction rev with
  | nil =>
    intro x lv r hx h
    exact ⟨[], x, [], rfl, fun p hp => by rw [List.mem_singleton.mp hp]; exact hx, (Except.ok.inj h).symm⟩
  | cons z rest ih =>
    intro x lv r hx h
    obtain ⟨gid, old⟩ := z
    rw [scanBack] at h
    split at h
    · cases h
    · rename_i val hval
      simp only [] at h
      split at h
      · exact ⟨[], x, (gid, old) :: rest, rfl, fun p hp => by rw [List.mem_singleton.mp hp]; exact hx,
          (Except.ok.inj h).symm⟩
      · rename_i heq
        have heq' : val = lv := by simpa using heq
        obtain ⟨a, y, b, hab, ha, hr⟩ := ih (gid, old) lv r (heq' ▸ hval) h
        refine ⟨x :: a, y, b, by rw [hab]; rfl, fun p hp => ?_, hr⟩
        rcases List.mem_cons.mp hp with rfl | hp
        · exact hx
        · exact ha p hp

theorem scanBack_spec (m : Option MapIn) (l : List (Nat × Nat)) (r : Option Nat)
    (h : scanBack m l.reverse none = .ok r) :
    (l = [] ∧ r = none) ∨
    ∃ pre x suf val, l = pre ++ x :: suf ∧ r = some x.1 ∧
      (∀ p ∈ x :: suf, mapGet m p.2 = some val) := by
  rcases List.eq_nil_or_concat l with rfl | ⟨init, z, rfl⟩
  · left; simp [scanBack, pure, Except.pure] at h; exact ⟨rfl, h.symm⟩
  · right
    rw [List.concat_eq_append, List.reverse_append] at h
    simp only [List.reverse_cons, List.reverse_nil, List.nil_append, List.singleton_append] at h
    obtain ⟨gid, old⟩ := z
    rw [scanBack] at h
    split at h
    · cases h
    · rename_i val hval
      simp only [] at h
      obtain ⟨a, y, b, hab, ha, hr⟩ := scanBack_some m _ (gid, old) val r hval h
      refine ⟨b.reverse, y, a.reverse, val, ?_, hr, fun p hp => ha p (by simpa [or_comm] using hp)⟩
      have := congrArg List.reverse hab
      rw [List.concat_eq_append]
      simpa using this

theorem scanBack_none_ne (n2o : List (Nat × Nat)) (hne : n2o ≠ []) (r : Option Nat)
    (h : scanBack none n2o.reverse none = .ok r) : r ≠ none := by
  rcases scanBack_spec none n2o r h with ⟨h1, _⟩ | ⟨_, x, _, _, _, hr, _⟩
  · exact absurd h1 hne
  · rw [hr]; simp

theorem low16_or_le (a b : Nat) : (a * 65536 ||| b) % 65536 ≤ b := by
  have h16 : (65536 : Nat) = 2 ^ 16 := by decide
  rw [h16, Nat.or_mod_two_pow]
  have : a * 2 ^ 16 % 2 ^ 16 = 0 := Nat.mul_mod_left _ _
  rw [this, Nat.zero_or]
  exact Nat.mod_le _ _

theorem or_decode (no ni : Nat) (hni : ni < 65536) :
    (no * 65536 ||| ni) / 65536 = no ∧ (no * 65536 ||| ni) % 65536 = ni := by
  have e : no * 65536 ||| ni = no * 2 ^ 16 + ni := by
    rw [mul_add_eq_or (k := 16) (by omega) no]
  rw [e]; omega

/-- where an entry of `output_map` comes from. -/
def Src (m : Option MapIn) (outerMap : List Nat) (innerMaps : List (List Nat)) (l : List (Nat × Nat))
    (g v : Nat) : Prop :=
  ∃ old outer inner, (g, old) ∈ l ∧ mapGet m old = some (outer, inner) ∧
    outer ∈ outerMap ∧ inner ∈ innerMaps.getD outer [] ∧
    v = outerMap.idxOf outer * 65536 ||| (innerMaps.getD outer []).idxOf inner

theorem Src.cons {m : Option MapIn} {om : List Nat} {ims : List (List Nat)} {l : List (Nat × Nat)} {g v : Nat}
    (h : Src m om ims l g v) (x : Nat × Nat) : Src m om ims (x :: l) g v := by
  obtain ⟨old, outer, inner, hm, hrest⟩ := h
  exact ⟨old, outer, inner, List.mem_cons_of_mem _ hm, hrest⟩

/-- the `remap` loop: it processes the glyphs below `map_count` and stops at the first one at or beyond it
(the list ascends, so nothing below comes later). -/
theorem remapGo_spec (m : Option MapIn) (mc : Nat) (om : List Nat) (ims : List (List Nat)) :
    ∀ (l : List (Nat × Nat)) (out : List (Nat × Nat)) (mx : Nat) (out' : List (Nat × Nat)) (mx' : Nat),
    l.Pairwise (fun a b => a.1 < b.1) → (∀ p ∈ l, p.1 < 65536) →
    remapGo m mc om ims l out mx = .ok (out', mx') →
    mx ≤ mx' ∧
    (∀ g v, out'.lookup g = some v → out.lookup g = some v ∨
      (Src m om ims l g v ∧ v % 65536 ≤ mx')) ∧
    (∀ g, (∀ p ∈ l, p.1 ≠ g) → out'.lookup g = out.lookup g) ∧
    (∀ p ∈ l, p.1 < mc → ∀ outer inner, mapGet m p.2 = some (outer, inner) → outer < ims.length →
      outer ∈ om ∧ inner ∈ ims.getD outer [] ∧
      out'.lookup p.1 = some (om.idxOf outer * 65536 ||| (ims.getD outer []).idxOf inner)) ∧
    (∀ p ∈ l, p.1 < mc → ∃ outer inner, mapGet m p.2 = some (outer, inner)) := by
  intro l
  induction l with
  | nil =>
    intro out mx out' mx' _ _ h
    obtain ⟨rfl, rfl⟩ := Prod.mk.inj (Except.ok.inj h)
    exact ⟨Nat.le_refl _, fun g v hv => Or.inl hv, fun g _ => rfl, (fun p hp => by cases hp),
      (fun p hp => by cases hp)⟩
  | cons x rest ih =>
    intro out mx out' mx' hpw hlt h
    obtain ⟨new, old⟩ := x
    have ⟨hx, hpw'⟩ := List.pairwise_cons.mp hpw
    rw [remapGo, Nat.mod_eq_of_lt (hlt (new, old) List.mem_cons_self)] at h
    by_cases hbreak : new ≥ mc
    · -- `break`: nothing was done, and every later glyph is beyond `map_count` as well
      rw [if_pos hbreak] at h
      obtain ⟨rfl, rfl⟩ := Prod.mk.inj (Except.ok.inj h)
      have hnone : ∀ p ∈ (new, old) :: rest, ¬ p.1 < mc := fun p hp =>
        (List.mem_cons.mp hp).elim (fun e => by rw [e]; exact Nat.not_lt.mpr hbreak)
          (fun hp => Nat.not_lt.mpr (Nat.le_trans hbreak (Nat.le_of_lt (hx p hp))))
      exact ⟨Nat.le_refl _, fun g v hv => Or.inl hv, fun g _ => rfl, fun p hp hlt => absurd hlt (hnone p hp),
        fun p hp hlt => absurd hlt (hnone p hp)⟩
    rw [if_neg hbreak] at h
    cases hget : mapGet m old with
    | none => rw [hget] at h; cases h
    | some oi =>
    obtain ⟨outer, inner⟩ := oi
    rw [hget] at h
    simp only [] at h
    -- one trip: the loop goes on from `(out1, mx1)`; what the trip did to the entry of `new`
    obtain ⟨out1, mx1, hgo, hmx, hsrc1, hne1, hnew1⟩ : ∃ out1 mx1,
        remapGo m mc om ims rest out1 mx1 = .ok (out', mx') ∧ mx ≤ mx1 ∧
        (∀ g v, out1.lookup g = some v → out.lookup g = some v ∨
          (Src m om ims [(new, old)] g v ∧ v % 65536 ≤ mx1)) ∧
        (∀ g, new ≠ g → out1.lookup g = out.lookup g) ∧
        (outer < ims.length → outer ∈ om ∧ inner ∈ ims.getD outer [] ∧
          out1.lookup new = some (om.idxOf outer * 65536 ||| (ims.getD outer []).idxOf inner)) := by
      by_cases hout : outer ≥ ims.length
      · rw [if_pos hout] at h
        exact ⟨out, mx, h, Nat.le_refl _, fun g v hv => Or.inl hv, fun g _ => rfl, fun hl => absurd hl (by omega)⟩
      · rw [if_neg hout] at h
        cases hno : bmGet om outer with
        | none => rw [hno] at h; cases h
        | some no =>
          cases hni : bmGet (ims.getD outer []) inner with
          | none => rw [hno, hni] at h; cases h
          | some ni =>
            rw [hno, hni] at h
            simp only [] at h
            obtain ⟨hmo, hio⟩ := bmGet_some hno
            obtain ⟨hmi, hii⟩ := bmGet_some hni
            refine ⟨_, _, h, Nat.le_max_left _ _, fun g v hv => ?_, fun g hg => lookup_cons_of_ne _ _ (Ne.symm hg), fun _ => ?_⟩
            · by_cases hg : new = g
              · subst hg
                rw [List.lookup_cons_self] at hv
                obtain rfl := Option.some.inj hv
                exact Or.inr ⟨⟨old, outer, inner, List.mem_cons_self, hget, hmo, hmi, by rw [hio, hii]⟩,
                  Nat.le_trans (low16_or_le no ni) (Nat.le_max_right _ _)⟩
              · rw [lookup_cons_of_ne _ _ (Ne.symm hg)] at hv; exact Or.inl hv
            · exact ⟨hmo, hmi, by rw [List.lookup_cons_self, hio, hii]⟩
    obtain ⟨i1, i2, i3, i4, i5⟩ := ih out1 mx1 out' mx' hpw' (fun p hp => hlt p (List.mem_cons_of_mem _ hp)) hgo
    have hfresh : out'.lookup new = out1.lookup new :=
      i3 new (fun q hq => Nat.ne_of_gt (hx q hq))
    refine ⟨Nat.le_trans hmx i1, fun g v hv => ?_, fun g hg => ?_, fun p hp hpm ou inn hm hou => ?_, fun p hp hpm => ?_⟩
    · rcases i2 g v hv with h1 | h1
      · rcases hsrc1 g v h1 with h2 | ⟨⟨o, ou, inn, hmem, hr⟩, hle⟩
        · exact Or.inl h2
        · exact Or.inr ⟨⟨o, ou, inn, List.mem_cons.mpr (Or.inl (List.mem_singleton.mp hmem)), hr⟩,
            Nat.le_trans hle i1⟩
      · exact Or.inr ⟨h1.1.cons _, h1.2⟩
    · rw [i3 g (fun p hp => hg p (List.mem_cons_of_mem _ hp))]
      exact hne1 g (hg (new, old) List.mem_cons_self)
    · rcases List.mem_cons.mp hp with rfl | hp
      · obtain ⟨rfl, rfl⟩ := Prod.mk.inj (Option.some.inj (hget.symm.trans hm))
        obtain ⟨a, b, d⟩ := hnew1 hou
        exact ⟨a, b, hfresh.trans d⟩
      · exact i4 p hp hpm ou inn hm hou
    · rcases List.mem_cons.mp hp with rfl | hp
      · exact ⟨outer, inner, hget⟩
      · exact i5 p hp hpm

/-- what one call of `remap` establishes: `x` is the glyph `last_gid` belongs to; the glyphs up to it are
processed, those from it on share one original index. -/
theorem remap_facts (m : Option MapIn) (n2o : List (Nat × Nat)) (om : List Nat) (ims : List (List Nat))
    (p p' : MapPlan) (lastGid : Option Nat)
    (hpw : n2o.Pairwise (fun a b => a.1 < b.1)) (hnew : ∀ q ∈ n2o, q.1 < 65535)
    (hscan : scanBack m n2o.reverse none = .ok lastGid)
    (hmc : p.mapCount = mapCountOf lastGid)
    (hremap : remap p m n2o om ims = .ok p') (hne : n2o ≠ []) :
    ∃ x val out mx, x ∈ n2o ∧ p.mapCount = x.1 + 1 ∧
      p' = { p with output := out, innerBits := max (bitLen mx) 1 } ∧
      (∀ q ∈ n2o, x.1 ≤ q.1 → mapGet m q.2 = some val) ∧
      (∀ g v, out.lookup g = some v → Src m om ims n2o g v ∧ v % 65536 ≤ mx) ∧
      (∀ a ∈ n2o, a.1 ≤ x.1 → ∃ o i, mapGet m a.2 = some (o, i)) ∧
      (∀ a ∈ n2o, a.1 ≤ x.1 → ∀ o i, mapGet m a.2 = some (o, i) → o < ims.length →
        o ∈ om ∧ i ∈ ims.getD o [] ∧
        out.lookup a.1 = some (om.idxOf o * 65536 ||| (ims.getD o []).idxOf i)) := by
  rcases scanBack_spec m n2o lastGid hscan with ⟨rfl, _⟩ | ⟨pre, x, suf, val, hl, hr, hval⟩
  · exact absurd rfl hne
  subst hr
  have hxm : x ∈ n2o := by rw [hl]; exact List.mem_append_right _ List.mem_cons_self
  have hmc' : p.mapCount = x.1 + 1 := by
    have := hnew x hxm
    rw [hmc]; exact Nat.mod_eq_of_lt (by omega)
  have hpre : ∀ a ∈ pre, a.1 < x.1 := fun a ha =>
    (List.pairwise_append.mp (hl ▸ hpw)).2.2 a ha x List.mem_cons_self
  obtain ⟨⟨out, mx⟩, hgo, hremap⟩ := Do.bind_ok hremap
  obtain ⟨_, hsrc, _, hlook, hsome⟩ :=
    remapGo_spec m p.mapCount om ims n2o [] 0 out mx hpw (fun q hq => Nat.lt_trans (hnew q hq) (by decide)) hgo
  refine ⟨x, val, out, mx, hxm, hmc', (Except.ok.inj hremap).symm, fun q hq hle => ?_,
    fun g v hv => (hsrc g v hv).resolve_left (fun h0 => by cases h0),
    fun a ha hle => hsome a ha (by omega), fun a ha hle o i hga hol => ?_⟩
  · rw [hl] at hq
    exact (List.mem_append.mp hq).elim (fun hq => absurd (hpre q hq) (Nat.not_lt.mpr hle)) (hval q)
  · exact hlook a ha (by omega) o i hga hol

/-- the original index of every kept glyph exists (otherwise `new` returned a read error or `remap`
hit its `unwrap`), and `output_map` is not empty. -/
theorem remap_defined (m : Option MapIn) (n2o : List (Nat × Nat)) (om : List Nat) (ims : List (List Nat))
    (p p' : MapPlan) (lastGid : Option Nat)
    (hpw : n2o.Pairwise (fun a b => a.1 < b.1)) (hnew : ∀ q ∈ n2o, q.1 < 65535)
    (hscan : scanBack m n2o.reverse none = .ok lastGid)
    (hmc : p.mapCount = mapCountOf lastGid)
    (hremap : remap p m n2o om ims = .ok p') :
    (∀ q ∈ n2o, ∃ o i, mapGet m q.2 = some (o, i)) ∧
    (n2o ≠ [] → (∀ q ∈ n2o, ∀ o i, mapGet m q.2 = some (o, i) → o < ims.length) → p'.output ≠ []) := by
  by_cases hne : n2o = []
  · subst hne; exact ⟨(fun q hq => by cases hq), fun h => absurd rfl h⟩
  obtain ⟨x, val, out, mx, hxm, _, hp', hval, _, hsome, hlook⟩ :=
    remap_facts m n2o om ims p p' lastGid hpw hnew hscan hmc hremap hne
  constructor
  · intro q hq
    rcases Nat.le_total q.1 x.1 with h | h
    · exact hsome q hq h
    · exact ⟨val.1, val.2, hval q hq h⟩
  · intro _ hol
    obtain ⟨o, i, hx⟩ := hsome x hxm (Nat.le_refl _)
    have := (hlook x hxm (Nat.le_refl _) o i hx (hol x hxm o i hx)).2.2
    rw [hp']
    intro he
    rw [show out = [] from he] at this
    cases this

theorem remap_zero {p p' : MapPlan} {m : Option MapIn} {n2o : List (Nat × Nat)} {om : List Nat}
    {ims : List (List Nat)} (h0 : p.mapCount = 0)
    (h : remap p m n2o om ims = .ok p') : p'.output = [] := by
  unfold remap at h
  have : remapGo m p.mapCount om ims n2o [] 0 = .ok ([], 0) := by
    cases n2o with
    | nil => rfl
    | cons x r => obtain ⟨a, b⟩ := x; simp [remapGo, h0, pure, Except.pure]
  rw [this] at h
  simp only [bind, Except.bind, pure, Except.pure, Except.ok.injEq] at h
  rw [← h]

theorem remapAll_eq (n2o : List (Nat × Nat)) (om : List Nat) (ims : List (List Nat)) :
    ∀ (ps : List MapPlan) (ms : List (Option MapIn)),
    remapAll n2o om ims ps ms = (ps.zip ms).mapM (fun pm => remap pm.1 pm.2 n2o om ims)
  | [], _ => rfl
  | _ :: _, [] => rfl
  | p :: ps, m :: ms => by
    rw [remapAll, List.zip_cons_cons, List.mapM_cons, ← remapAll_eq n2o om ims ps ms]
    cases remap p m n2o om ims with
    | error e => rfl
    | ok p' => cases remapAll n2o om ims ps ms <;> rfl

theorem remapAll_get {n2o : List (Nat × Nat)} {om : List Nat} {ims : List (List Nat)} {ps : List MapPlan}
    {ms : List (Option MapIn)} {out : List MapPlan} (h : remapAll n2o om ims ps ms = .ok out)
    {k : Nat} {p : MapPlan} {m : Option MapIn} (hp : ps[k]? = some p) (hm : ms[k]? = some m) :
    ∃ p', remap p m n2o om ims = .ok p' ∧ out[k]? = some p' := by
  rw [remapAll_eq] at h
  exact mapM_get? h ((List.getElem?_zip_eq_some (z := (p, m))).mpr ⟨hp, hm⟩)

theorem beBytes_zero (n : Nat) : beBytes n 0 = List.replicate n 0 := by
  unfold beBytes
  apply List.ext_getElem?
  intro i
  by_cases hi : i < n
  · simp [hi]
  · simp [hi]

theorem pow256 (w : Nat) : 256 ^ w = 2 ^ (8 * w) := by
  rw [Nat.pow_mul]

theorem shr_lt (entry es bc : Nat) (h : entry < 2 ^ (8 * es)) : entry / 2 ^ bc < 2 ^ (es * 8 - bc) := by
  by_cases hcmp : bc ≤ es * 8
  · rw [Nat.div_lt_iff_lt_mul (Nat.two_pow_pos _), ← Nat.pow_add, show es * 8 - bc + bc = 8 * es by omega]
    exact h
  · rw [Nat.div_eq_of_lt (Nat.lt_of_lt_of_le h (Nat.pow_le_pow_right (by omega) (by omega)))]
    exact Nat.two_pow_pos _

theorem dsimGet_outer_lt (ef mc : Nat) (data : List Nat) (hb : ∀ b ∈ data, b < 256) (idx outer inner : Nat)
    (h : dsimGet ef mc data idx = some (outer, inner)) :
    outer < 2 ^ ((ef / 16 % 4 + 1) * 8 - (ef % 16 + 1)) ∧ outer < 65536 := by
  unfold dsimGet at h
  extract_lets es bc i off at h
  split at h
  · obtain ⟨rfl, rfl⟩ := Prod.mk.inj (Option.some.inj h)
    refine ⟨Nat.lt_of_le_of_lt (Nat.mod_le _ _) (shr_lt _ es bc ?_), Nat.mod_lt _ (by omega)⟩
    have hlt := beValue_lt ((data.drop off).take es)
      (fun b hbm => hb b (List.mem_of_mem_drop (List.mem_of_mem_take hbm)))
    rw [← pow256]
    exact Nat.lt_of_lt_of_le hlt (Nat.pow_le_pow_right (by omega) (List.length_take_le _ _))
  · cases h

theorem serializeMap_ok {p : MapPlan} {mo : MapOut} (h : serializeMap p = .ok mo) (hmc : 0 < p.mapCount) :
    p.innerBits ≠ 0 ∧ (p.innerBits - 1) / 16 = 0 ∧ (mapWidth p - 1) / 4 = 0 ∧
    mo.entryFormat = ((mapWidth p - 1) * 16 % 256) ||| (p.innerBits - 1) ∧ mo.mapCount = p.mapCount ∧
    mo.data = (List.range p.mapCount).flatMap (fun i =>
      match p.output.lookup i with
      | none => List.replicate (mapWidth p) 0
      | some v => beBytes (mapWidth p) ((v / 65536 * 2 ^ p.innerBits ||| v % 65536) % 4294967296)) := by
  unfold serializeMap at h
  obtain ⟨h1, h⟩ := Do.guard_ok h
  obtain ⟨h2, h⟩ := Do.guard_ok h
  obtain rfl := Except.ok.inj h
  exact ⟨fun e => h1 ⟨hmc, e⟩, by omega, by omega, rfl, rfl, rfl⟩

theorem pack_fits (no ni ob ib width mx : Nat) (hib : ib = max (bitLen mx) 1) (hw : ob + ib ≤ 8 * width)
    (hw4 : width ≤ 4) (hno : no < 2 ^ ob) (hni : ni ≤ mx) :
    ni < 2 ^ ib ∧ no * 2 ^ ib + ni < 256 ^ width ∧ (no * 2 ^ ib ||| ni) % 4294967296 = no * 2 ^ ib + ni := by
  have hlt : ni < 2 ^ ib :=
    Nat.lt_of_le_of_lt hni (Nat.lt_of_lt_of_le (lt_two_pow_bitLen mx)
      (Nat.pow_le_pow_right (by decide) (hib ▸ Nat.le_max_left _ _)))
  have hsum : no * 2 ^ ib + ni < 2 ^ (ob + ib) := by
    have h2 : (no + 1) * 2 ^ ib ≤ 2 ^ ob * 2 ^ ib := Nat.mul_le_mul_right _ hno
    rw [Nat.pow_add]
    rw [Nat.add_mul] at h2
    omega
  have hpw : 2 ^ (ob + ib) ≤ 2 ^ (8 * width) := Nat.pow_le_pow_right (by omega) hw
  have hpw2 : 2 ^ (8 * width) ≤ 2 ^ 32 := Nat.pow_le_pow_right (by omega) (by omega)
  refine ⟨hlt, by rw [pow256]; omega, ?_⟩
  rw [← mul_add_eq_or hlt, Nat.mod_eq_of_lt (by omega)]

theorem width_facts (ob ib width mx : Nat) (hib : ib = max (bitLen mx) 1) (hwd : width = (ob + ib + 7) / 8)
    (h16 : (ib - 1) / 16 = 0) (h4 : (width - 1) / 4 = 0) :
    1 ≤ ib ∧ ib ≤ 16 ∧ 1 ≤ width ∧ width ≤ 4 ∧ ob + ib ≤ 8 * width := by
  omega

theorem idxOf_getD_lt {ims : List (List Nat)} (hims : ∀ im ∈ ims, im.length ≤ 65536) {outer inner : Nat}
    (hol : outer < ims.length) (hi : inner ∈ ims.getD outer []) : (ims.getD outer []).idxOf inner < 65536 :=
  Nat.lt_of_lt_of_le (List.idxOf_lt_length_iff.mpr hi) (hims _ (mem_getD ims outer [] hol))

/-- the entry `DeltaSetIndexMap::serialize` writes for glyph `i` -/
def entryOf (out : List (Nat × Nat)) (i : Nat) : Nat × Nat :=
  match out.lookup i with
  | none => (0, 0)
  | some v => (v / 65536, v % 65536)

/-- **`DeltaSetIndexMap::serialize` then `DeltaSetIndexMap::get`**: when every value of `output_map` has an outer part
inside the plan's outer bits and an inner part at most `mx` (the value `inner_bit_count` was computed from),
reading the written map at any glyph gives the entry of that glyph, clamped to the last one. -/
theorem serializeMap_read {p : MapPlan} {mo : MapOut} (h : serializeMap p = .ok mo) (hmc : 0 < p.mapCount)
    (mx : Nat) (hib : p.innerBits = max (bitLen mx) 1)
    (hent : ∀ g v, p.output.lookup g = some v → v / 65536 < 2 ^ p.outerBits ∧ v / 65536 < 65536 ∧ v % 65536 ≤ mx)
    (g : Nat) :
    dsimGet mo.entryFormat mo.mapCount mo.data g = some (entryOf p.output (min g (p.mapCount - 1))) := by
  obtain ⟨_, hib16, hw4, hef, hmcount, hdata⟩ := serializeMap_ok h hmc
  simp only [mapWidth] at hib16 hw4 hef hdata
  generalize p.innerBits = ib at *
  generalize hwd : (p.outerBits + ib + 7) / 8 = width at *
  obtain ⟨hib1, hib2, hw1, hw2, hw8⟩ := width_facts p.outerBits ib width mx hib hwd.symm hib16 hw4
  have hentry : ∀ i, (entryOf p.output i).2 < 2 ^ ib ∧ (entryOf p.output i).1 < 65536 ∧
      (entryOf p.output i).1 * 2 ^ ib + (entryOf p.output i).2 < 256 ^ width ∧
      (match p.output.lookup i with
        | none => List.replicate width 0
        | some v => beBytes width ((v / 65536 * 2 ^ ib ||| v % 65536) % 4294967296)) =
        beBytes width ((entryOf p.output i).1 * 2 ^ ib + (entryOf p.output i).2) := by
    intro i
    unfold entryOf
    cases hlk : p.output.lookup i with
    | none => exact ⟨Nat.two_pow_pos _, by decide, by simp only [Nat.zero_mul, Nat.add_zero]; exact Nat.pow_pos (by decide), by simp [beBytes_zero]⟩
    | some v =>
      obtain ⟨h1, h2, h3⟩ := hent i v hlk
      obtain ⟨p1, p2, p3⟩ := pack_fits (v / 65536) (v % 65536) p.outerBits ib width mx hib hw8 hw2 h1 h3
      exact ⟨p1, h2, p2, by simp only [p3]⟩
  have hefmt : mo.entryFormat = (width - 1) * 16 + (ib - 1) := by
    rw [hef, Nat.mod_eq_of_lt (by omega)]
    have := mul_add_eq_or (k := 4) (b := ib - 1) (by omega) (width - 1)
    simpa using this.symm
  have hget := dsimGet_written width ib (by omega) hib1 hib2 (List.range p.mapCount) (entryOf p.output) _
    (fun i _ => hentry i) g (by rw [List.length_range]; exact hmc)
  rw [List.length_range] at hget
  rw [hefmt, hmcount, hdata, hget, List.getElem?_range (by omega)]
  rfl

theorem serializeMaps_eq : ∀ (ps : List MapPlan), serializeMaps ps =
    ps.mapM (fun p => if p.output.isEmpty then pure none else some <$> serializeMap p)
  | [] => rfl
  | p :: ps => by
    rw [serializeMaps, List.mapM_cons, ← serializeMaps_eq ps]
    by_cases hemp : p.output.isEmpty = true
    · rw [if_pos hemp, if_pos hemp]; cases serializeMaps ps <;> rfl
    · rw [if_neg hemp, if_neg hemp]
      cases serializeMap p with
      | error e => rfl
      | ok mo => cases serializeMaps ps <;> rfl

theorem serializeMaps_get {ps : List MapPlan} {out : List (Option MapOut)} (h : serializeMaps ps = .ok out)
    {k : Nat} {p : MapPlan} (hp : ps[k]? = some p) :
    (p.output = [] ∧ out[k]? = some none) ∨
    (p.output ≠ [] ∧ ∃ mo, serializeMap p = .ok mo ∧ out[k]? = some (some mo)) := by
  rw [serializeMaps_eq] at h
  obtain ⟨o, ho, hk⟩ := mapM_get? h hp
  by_cases hemp : p.output.isEmpty = true
  · rw [if_pos hemp] at ho
    exact Or.inl ⟨List.isEmpty_iff.mp hemp, by rw [hk, ← Except.ok.inj ho]⟩
  · rw [if_neg hemp] at ho
    obtain ⟨mo, hmo, rfl⟩ := Do.map_ok ho
    exact Or.inr ⟨fun e => hemp (List.isEmpty_iff.mpr e), mo, hmo, hk⟩

def AccInv (acc : Acc) : Prop := ∀ j, j ∈ acc.outerMap ↔ acc.innerSets.getD j [] ≠ []

/-- what recording does to the accumulator: the invariant is kept, no subtable is added, nothing leaves the
outer map. -/
structure AccLe (acc acc' : Acc) : Prop where
  inv : AccInv acc → AccInv acc'
  len : acc'.innerSets.length = acc.innerSets.length
  mono : ∀ j ∈ acc.outerMap, j ∈ acc'.outerMap

theorem AccLe.refl (acc : Acc) : AccLe acc acc := ⟨id, rfl, fun _ h => h⟩

theorem AccLe.trans {a b c : Acc} (h1 : AccLe a b) (h2 : AccLe b c) : AccLe a c :=
  ⟨h2.inv ∘ h1.inv, h2.len.trans h1.len, fun j hj => h2.mono j (h1.mono j hj)⟩

theorem AccLe.record (acc : Acc) {o : Nat} (hol : o < acc.innerSets.length) (f : List Nat → List Nat)
    (hf : ∀ s, f s ≠ []) : AccLe acc ⟨bmAdd acc.outerMap o, acc.innerSets.modify o f⟩ := by
  refine ⟨fun hinv j => ?_, List.length_modify .., fun j hj => mem_bmAdd.mpr (Or.inl hj)⟩
  rw [mem_bmAdd, getD_modify]
  by_cases hj : o = j
  · rw [if_pos ⟨hj, hj ▸ hol⟩]
    exact ⟨fun _ => hf _, fun _ => Or.inr hj.symm⟩
  · rw [if_neg (fun h => hj h.1), ← hinv j]
    exact ⟨fun h1 => h1.resolve_right (fun e => hj e.symm), Or.inl⟩

theorem collectFwd_le (m : MapIn) (mc : Nat) : ∀ (l : List (Nat × Nat)) (acc : Acc) (mi : List Nat)
    (acc' : Acc) (mi' : List Nat), mi.length = acc.innerSets.length →
    collectFwd m mc l acc mi = .ok (acc', mi') → AccLe acc acc'
  | [], acc, mi, acc', mi', _, h => by
    obtain ⟨rfl, rfl⟩ := Prod.mk.inj (Except.ok.inj h); exact .refl _
  | (new, old) :: rest, acc, mi, acc', mi', hlen, h => by
    -- the two `break`s leave the accumulator as it is
    have hstop : (pure (acc, mi) : R (Acc × List Nat)) = .ok (acc', mi') → AccLe acc acc' := fun hr => by
      obtain ⟨rfl, rfl⟩ := Prod.mk.inj (Except.ok.inj hr); exact .refl _
    rw [collectFwd] at h
    by_cases c1 : new ≥ mc
    · rw [if_pos c1] at h; exact hstop h
    rw [if_neg c1] at h
    cases hget : dsimGet m.entryFormat m.mapCount m.data old with
    | none => rw [hget] at h; cases h
    | some oi =>
      obtain ⟨outer, inner⟩ := oi
      rw [hget] at h
      simp only [] at h
      by_cases c2 : outer ≥ mi.length
      · rw [if_pos c2] at h; exact hstop h
      rw [if_neg c2] at h
      exact (AccLe.record acc (by omega) _ (setInsert_ne_nil inner)).trans
        (collectFwd_le m mc rest _ _ acc' mi' (by rw [List.length_set, List.length_modify]; exact hlen) h)

/-- what `new` fixes about the plan of one map. -/
def PlanFacts (m : Option MapIn) (n2o : List (Nat × Nat)) (bypass : Bool) (p : MapPlan) : Prop :=
  (bypass = true ∧ m = none ∧ p.mapCount = 0) ∨
  (¬ (bypass = true ∧ m = none) ∧ ∃ lastGid, scanBack m n2o.reverse none = .ok lastGid ∧
    p.mapCount = mapCountOf lastGid ∧ p.outerBits = outerBitsOf m)

theorem planNew_inv (m : Option MapIn) (n2o : List (Nat × Nat)) (glyphset : List Nat) (bypass : Bool)
    (acc : Acc) (p : MapPlan) (acc' : Acc) (hgs : n2o ≠ [] → glyphset ≠ [])
    (h : planNew m n2o glyphset bypass acc = .ok (p, acc')) :
    AccLe acc acc' ∧ PlanFacts m n2o bypass p ∧
    (m = none → bypass = false → n2o ≠ [] → 0 ∈ acc'.outerMap) := by
  unfold planNew at h
  split at h
  · rename_i hb
    obtain ⟨rfl, rfl⟩ := Prod.mk.inj (Except.ok.inj h)
    simp only [Bool.and_eq_true, Option.isNone_iff_eq_none] at hb
    exact ⟨.refl _, Or.inl ⟨hb.1, hb.2, rfl⟩, fun _ hb2 => by rw [hb.1] at hb2; cases hb2⟩
  · rename_i hnb0
    have hexcl : ¬ (bypass = true ∧ m = none) := by
      intro hc; apply hnb0; simp [hc.1, hc.2]
    simp only [] at h
    split at h
    · cases h
    · rename_i hscan
      obtain ⟨rfl, rfl⟩ := Prod.mk.inj (Except.ok.inj h)
      refine ⟨.refl _, Or.inr ⟨hexcl, none, hscan, rfl, by cases m <;> rfl⟩, fun hm _ hne => ?_⟩
      subst hm
      exact absurd rfl (scanBack_none_ne n2o hne none hscan)
    · rename_i lg hscan
      split at h
      · -- implicit advance map: subtable 0 is recorded with the whole glyph set
        split at h
        · rename_i s0 ss last hsets hlast
          obtain ⟨rfl, rfl⟩ := Prod.mk.inj (Except.ok.inj h)
          have hne : n2o ≠ [] := by
            intro e; subst e; cases hlast
          have hrec := AccLe.record acc (o := 0) (by rw [hsets]; exact Nat.succ_pos _)
            (fun s => setAddAll s (glyphset.map (· % 65536)))
            (fun s => setAddAll_ne_nil s (fun e => hgs hne (List.map_eq_nil_iff.mp e)))
          rw [hsets] at hrec
          exact ⟨hrec, Or.inr ⟨hexcl, some lg, hscan, rfl, rfl⟩, fun _ _ _ => mem_bmAdd.mpr (Or.inr rfl)⟩
        · cases h
      · rename_i mm
        split at h
        · cases h
        · rename_i acc2 mi hcf
          obtain ⟨rfl, rfl⟩ := Prod.mk.inj (Except.ok.inj h)
          exact ⟨collectFwd_le mm _ n2o acc _ acc2 mi (List.length_replicate ..) hcf,
            Or.inr ⟨hexcl, some lg, hscan, rfl, rfl⟩, fun hm => by cases hm⟩

theorem planRest_inv (n2o : List (Nat × Nat)) (glyphset : List Nat) (hgs : n2o ≠ [] → glyphset ≠ []) :
    ∀ (ms : List (Option MapIn)) (acc : Acc) (ps : List MapPlan) (acc' : Acc),
    planRest n2o glyphset ms acc = .ok (ps, acc') →
    AccLe acc acc' ∧ ps.length = ms.length ∧
    (∀ (k : Nat) (m : Option MapIn) (p : MapPlan), ms[k]? = some m → ps[k]? = some p →
      PlanFacts m n2o true p)
  | [], acc, ps, acc', h => by
    obtain ⟨rfl, rfl⟩ := Prod.mk.inj (Except.ok.inj h)
    exact ⟨.refl _, rfl, fun k m p hm => by cases hm⟩
  | m :: ms, acc, ps, acc', h => by
    rw [planRest] at h
    cases hp : planNew m n2o glyphset true acc with
    | error e => rw [hp] at h; cases h
    | ok r =>
    obtain ⟨p, acc1⟩ := r
    rw [hp] at h
    simp only [] at h
    cases hrest : planRest n2o glyphset ms acc1 with
    | error e => rw [hrest] at h; cases h
    | ok r =>
    obtain ⟨ps', acc2⟩ := r
    rw [hrest] at h
    obtain ⟨rfl, rfl⟩ := Prod.mk.inj (Except.ok.inj h)
    obtain ⟨l1, hpf, _⟩ := planNew_inv m n2o glyphset true acc p acc1 hgs hp
    obtain ⟨l2, hlen, hps⟩ := planRest_inv n2o glyphset hgs ms acc1 ps' _ hrest
    refine ⟨l1.trans l2, congrArg (· + 1) hlen, fun k m' p' hm hp' => ?_⟩
    cases k with
    | zero => rw [← Option.some.inj hm, ← Option.some.inj hp']; exact hpf
    | succ k => exact hps k m' p' hm hp'

theorem subsetPlan_ok {vc : Nat} {maps : List (Option MapIn)} {n2o : List (Nat × Nat)}
    {glyphset : List Nat} {retain : Bool} {sp : SubsetPlan}
    (h : subsetPlan vc maps n2o glyphset retain = .ok sp) (hgs : n2o ≠ [] → glyphset ≠ []) :
    0 < vc ∧ sp.innerMaps.length = vc ∧ sp.outerMap.Pairwise (· < ·) ∧
    (∀ j, j ∈ sp.outerMap ↔ j < sp.innerMaps.length ∧ (sp.innerMaps.getD j []).length ≠ 0) ∧
    (∀ (k : Nat) (m : Option MapIn), maps[k]? = some m →
      ∃ p p', PlanFacts m n2o (k != 0) p ∧ remap p m n2o sp.outerMap sp.innerMaps = .ok p' ∧
        sp.plans[k]? = some p') := by
  unfold subsetPlan at h
  by_cases hvc : vc = 0
  · simp [hvc, throw, throwThe, MonadExceptOf.throw] at h
  simp only [hvc, if_false] at h
  cases maps with
  | nil => simp [throw, throwThe, MonadExceptOf.throw] at h
  | cons m0 ms =>
  simp only [] at h
  cases hp0 : planNew m0 n2o glyphset false ⟨[], List.replicate vc []⟩ with
  | error e => rw [hp0] at h; cases h
  | ok r0 =>
  obtain ⟨p0, acc1⟩ := r0
  rw [hp0] at h
  simp only [] at h
  cases hps : planRest n2o glyphset ms acc1 with
  | error e => rw [hps] at h; cases h
  | ok r1 =>
  obtain ⟨ps, acc2⟩ := r1
  rw [hps] at h
  simp only [] at h
  generalize hadv : (if m0.isNone = true then acc1.innerSets.headD [] else []) = advSet at h
  generalize hin0 : (if (m0.isNone && retain) = true then
      (acc2.innerSets.headD []).foldl bmAdd (bmFrom (n2o.map (·.2)))
    else (setSubtract (acc2.innerSets.headD []) advSet).foldl bmAdd (bmFrom advSet)) = inner0 at h
  cases hplans : remapAll n2o (bmSort acc2.outerMap) (inner0 :: acc2.innerSets.tail.map bmFrom) (p0 :: ps) (m0 :: ms) with
  | error e => rw [hplans] at h; cases h
  | ok plans =>
  rw [hplans] at h
  obtain rfl := Except.ok.inj h
  have hinv0 : AccInv ⟨[], List.replicate vc []⟩ := by
    intro j
    have e : (List.replicate vc ([] : List Nat)).getD j [] = [] := by
      rw [List.getD_eq_getElem?_getD, List.getElem?_replicate]; split <;> rfl
    exact ⟨fun hc => absurd hc List.not_mem_nil, fun hc => absurd e hc⟩
  obtain ⟨le1, hpf0, hzero1⟩ := planNew_inv m0 n2o glyphset false _ p0 acc1 hgs hp0
  obtain ⟨le2, hpslen, hpfs⟩ := planRest_inv n2o glyphset hgs ms acc1 ps acc2 hps
  have hinv1 := le1.inv hinv0
  have hinv2 := le2.inv hinv1
  have hl2 : acc2.innerSets.length = vc := by rw [le2.len, le1.len]; exact List.length_replicate ..
  obtain ⟨s0, ss, hsets⟩ : ∃ s0 ss, acc2.innerSets = s0 :: ss := by
    cases hc : acc2.innerSets with
    | nil => rw [hc] at hl2; exact absurd hl2.symm hvc
    | cons a b => exact ⟨a, b, rfl⟩
  rw [hsets] at hin0 hl2
  have h0 : 0 ∈ acc2.outerMap ↔ s0 ≠ [] := by have := hinv2 0; rwa [hsets] at this
  -- `inner_maps[0]` reorders `inner_sets[0]` (and, under retain-gids, the old gids, which are only there when
  -- the implicit advance map has put subtable 0 into the outer map): one is empty when the other is
  have hinner0 : inner0 = [] ↔ s0 = [] := by
    rw [← hin0]
    simp only [List.headD_cons]
    split
    · rename_i hcond
      simp only [Bool.and_eq_true, Option.isNone_iff_eq_none] at hcond
      rw [foldl_bmAdd_eq_nil, bmFrom_eq_nil, List.map_eq_nil_iff]
      refine ⟨And.right, fun hs => ⟨Decidable.not_not.mp (fun hne => ?_), hs⟩⟩
      exact h0.mp (le2.mono 0 (hzero1 hcond.1 rfl hne)) hs
    · rw [foldl_bmAdd_eq_nil, bmFrom_eq_nil]
      constructor
      · rintro ⟨ha, hs⟩
        rwa [ha, setSubtract, List.filter_eq_self.mpr (fun x _ => by simp)] at hs
      · intro hs
        refine ⟨Decidable.not_not.mp (fun hne => ?_), by rw [hs]; rfl⟩
        rw [← hadv] at hne
        split at hne
        · have h1 : acc1.innerSets.getD 0 [] ≠ [] := by
            cases hc : acc1.innerSets <;> rw [hc] at hne
            · exact absurd rfl hne
            · exact hne
          exact h0.mp (le2.mono 0 ((hinv1 0).mpr h1)) hs
        · exact hne rfl
  refine ⟨Nat.pos_of_ne_zero hvc, by rw [List.length_cons, List.length_map, List.length_tail, hsets]; exact hl2,
    sorted_bmSort _, fun j => ?_, fun k m hm => ?_⟩
  · rw [mem_bmSort, hinv2 j, hsets]
    cases j with
    | zero =>
      rw [List.getD_cons_zero, List.getD_cons_zero, Ne, Ne, List.length_eq_zero_iff, hinner0]
      exact ⟨fun h => ⟨Nat.succ_pos _, h⟩, And.right⟩
    | succ i =>
      rw [List.tail_cons, List.getD_cons_succ, List.getD_cons_succ, List.length_cons, List.length_map, Ne, Ne,
        List.length_eq_zero_iff]
      by_cases hi : i < ss.length
      · rw [getD_map bmFrom ss [] [] hi, bmFrom_eq_nil]
        exact ⟨fun h => ⟨Nat.succ_lt_succ hi, h⟩, And.right⟩
      · rw [getD_of_length_le _ (Nat.le_of_not_lt hi)]
        exact ⟨fun h => absurd rfl h, fun h => absurd (Nat.lt_of_succ_lt_succ h.1) hi⟩
  · cases k with
    | zero =>
      obtain rfl := Option.some.inj hm
      obtain ⟨p', h1, h2⟩ := remapAll_get hplans (k := 0) rfl rfl
      exact ⟨p0, p', by simpa using hpf0, h1, h2⟩
    | succ k =>
      have hmk : ms[k]? = some m := hm
      have hk : k < ps.length := hpslen ▸ (List.getElem?_eq_some_iff.mp hmk).1
      obtain ⟨p', h1, h2⟩ := remapAll_get hplans (k := k + 1) (List.getElem?_eq_getElem (l := p0 :: ps) (Nat.succ_lt_succ hk)) hm
      refine ⟨ps[k], p', ?_, h1, h2⟩
      simpa using hpfs k m ps[k] hmk (List.getElem?_eq_getElem hk)

theorem planRowsOk_of (t : TableIn) (h : planRowsOkB t = true) (sp : SubsetPlan)
    (hsp : subsetPlan t.subs.length t.maps t.n2o t.glyphset t.retainGids = .ok sp) :
    ∀ im ∈ sp.innerMaps, im.length < 65536 := by
  unfold planRowsOkB at h
  rw [hsp] at h
  simp only [List.all_eq_true, decide_eq_true_eq] at h
  exact h

theorem ef_low6 (ef : Nat) : ef % 64 / 16 % 4 = ef / 16 % 4 ∧ ef % 64 % 16 = ef % 16 := by omega

theorem mapGet_bounds (t : TableIn) (wf : WellFormed t) (m : Option MapIn) (hm : m ∈ t.maps)
    (hvc : 0 < t.subs.length) (ob : Nat) (hob : ob = outerBitsOf m) :
    ∀ q ∈ t.n2o, ∀ o i, mapGet m q.2 = some (o, i) → o < t.subs.length ∧ o < 2 ^ ob ∧ o < 65536 := by
  intro q hq o i hg
  cases m with
  | none =>
    simp only [mapGet, Option.some.injEq, Prod.mk.injEq] at hg
    have := wf.oldLt q hq
    have : o = 0 := by omega
    subst this
    exact ⟨hvc, Nat.two_pow_pos _, by omega⟩
  | some mm =>
    simp only [mapGet] at hg
    have hw := wf.maps (some mm) hm
    unfold MapWf at hw
    have h1 : o < t.subs.length := by
      have := hw.2 q hq
      rw [hg] at this
      simpa [outerOk] using this
    have h2 := dsimGet_outer_lt _ _ _ hw.1 _ _ _ hg
    refine ⟨h1, ?_, h2.2⟩
    rw [hob]
    simp only [outerBitsOf]
    rw [ef_low6 mm.entryFormat |>.1, ef_low6 mm.entryFormat |>.2]; exact h2.1

end FontVerif.SubsetHvar
