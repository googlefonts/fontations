/-
Helper lemmas for C17 (layout part): the ClassDef writer (`ClassDef::serialize`, both formats) read
back through C16's `ClassDef.get`; the `(new glyph, class)` vector the ClassDef subsetters build; the
class renumbering (`retainedClasses`, `classMap`).
-/
import FontVerif.Lemmas.SubsetLayout
import FontVerif.Lemmas.LayoutClassDef
namespace FontVerif.SubsetLayout
open FontVerif.Layout

/-- dropping the class-0 pairs does not change the class a sorted vector assigns -/
theorem itemGet_filter_nz_sorted {m : List (Nat × Nat)} (hs : SortedItems m) (g : Nat) :
    (itemGet g (m.filter (fun x => x.2 ≠ 0))).getD 0 = (itemGet g m).getD 0 := by
  have hsf : SortedItems (m.filter (fun x => x.2 ≠ 0)) := hs.sublist List.filter_sublist
  cases h : itemGet g m with
  | none =>
    have : itemGet g (m.filter (fun x => x.2 ≠ 0)) = none := by
      apply itemGet_none
      intro q hq e
      have hm := (List.mem_filter.mp hq).1
      have := (itemGet_some_iff hs g q.2).mpr (by rw [← e]; exact hm)
      rw [h] at this; cases this
    rw [this]
  | some c =>
    have hm := (itemGet_some_iff hs g c).mp h
    by_cases hc : c = 0
    · subst hc
      have : itemGet g (m.filter (fun x => x.2 ≠ 0)) = none := by
        apply itemGet_none
        intro q hq e
        have hm' := (List.mem_filter.mp hq)
        have h2 := (itemGet_some_iff hs g q.2).mpr (by rw [← e]; exact hm'.1)
        rw [h] at h2; injection h2 with h2
        simp [← h2] at hm'
      rw [this]; rfl
    · have : (g, c) ∈ m.filter (fun x => x.2 ≠ 0) := List.mem_filter.mpr ⟨hm, by simp [hc]⟩
      rw [(itemGet_some_iff hsf g c).mpr this]

/-- the array after the writes `arr[glyph - g0] = class`, for items with distinct glyphs from `g0` on -/
theorem foldl_set_get (g0 : Nat) (items : List (Nat × Nat)) (arr : List Nat)
    (hlo : ∀ x ∈ items, g0 ≤ x.1) (hd : items.Pairwise (fun a b => a.1 ≠ b.1)) (k : Nat) (hk : k < arr.length) :
    ((items.foldl (fun arr x => arr.set (x.1 - g0) x.2) arr)[k]?).getD 0 =
      (itemGet (g0 + k) items).getD ((arr[k]?).getD 0) := by
  cases hi : itemGet (g0 + k) items with
  | none =>
    rw [itemGet_eq_lookup, List.lookup_eq_none_iff] at hi
    rw [foldl_set_getElem?_of_not_mem (fun x => x.1 - g0) (·.2) k items arr fun w hw e => by
      have := hlo w hw
      exact absurd (by omega : g0 + k = w.1) (bne_iff_ne.mp (hi w hw))]
    rfl
  | some c =>
    have hm : (g0 + k, c) ∈ items := mem_of_lookup_eq_some ((itemGet_eq_lookup _ _).symm.trans hi)
    have := foldl_set_getElem?_of_mem (fun x => x.1 - g0) (·.2) items arr (g0 + k, c)
      (List.pairwise_map.mpr (hd.imp_of_mem fun {a b} ha hb h e => h (by
        have := hlo a ha; have := hlo b hb; omega)))
      hm (by rw [Nat.add_sub_cancel_left]; exact hk)
    rw [Nat.add_sub_cancel_left] at this
    rw [this]; rfl

theorem cdWrite1_get {nz : List (Nat × Nat)} (hs : SortedItems nz) (hne : nz ≠ [])
    (hk : ∀ x ∈ nz, x.1 < 65535) :
    ∃ cd, cdWrite1 nz = .ok cd ∧ ∀ n, cd.get n = (itemGet n nz).getD 0 := by
  cases nz with
  | nil => exact absurd rfl hne
  | cons kv rest =>
    obtain ⟨g0, c0⟩ := kv
    have hlo := sortedItems_head_le hs (f := (g0, c0)) rfl
    -- `glyph_max`: one of the glyphs, and above all of them
    obtain ⟨hsel, _, hmax⟩ := foldl_max_spec (((g0, c0) :: rest).map Prod.fst) g0
    rw [List.foldl_map] at hsel hmax
    have hmaxlt : ((g0, c0) :: rest).foldl (fun m x => max m x.1) g0 < 65535 := by
      rcases hsel with e | e
      · rw [e]; exact hk _ (List.mem_cons_self ..)
      · obtain ⟨x, hx, hxe⟩ := List.mem_map.mp e
        rw [← hxe]; exact hk x hx
    simp only [cdWrite1]
    generalize ((g0, c0) :: rest).foldl (fun m x => max m x.1) g0 = gmax at hmax hmaxlt
    have hmax' : ∀ p ∈ (g0, c0) :: rest, p.1 ≤ gmax := fun p hp => hmax _ (List.mem_map.mpr ⟨p, hp, rfl⟩)
    have hge : g0 ≤ gmax := hmax' (g0, c0) (List.mem_cons_self ..)
    rw [if_neg (by omega : ¬ gmax - g0 + 1 ≥ 65536), if_neg (by
      rw [Bool.not_eq_true, List.any_eq_false]
      intro x hx
      have := hlo x hx
      simpa using this)]
    refine ⟨_, rfl, fmt1_get_of_array hlo (fun p hp => ?_) (fun k hk' => ?_)⟩
    · have := hmax' p hp
      rw [foldl_set_length, List.length_replicate]; omega
    · rw [foldl_set_length] at hk'
      rw [foldl_set_get g0 _ _ hlo (hs.imp Nat.ne_of_lt) k hk', List.getElem?_replicate]
      rw [List.length_replicate] at hk'
      rw [if_pos hk']; rfl

theorem cdWrite2_get {nz : List (Nat × Nat)} (hs : SortedItems nz) (hk : ∀ x ∈ nz, x.1 < 65535) :
    ∃ cd, cdWrite2 nz = .ok cd ∧ ∀ n, cd.get n = (itemGet n nz).getD 0 := by
  have hlen : nz.length < 65536 := by
    have h1 : (nz.map Prod.fst).Pairwise (· < ·) := by rw [List.pairwise_map]; exact hs
    have := sorted_length_le h1 65535 (by
      intro x hx
      obtain ⟨q, hq, e⟩ := List.mem_map.mp hx
      rw [← e]; exact hk q hq)
    simp at this; omega
  unfold cdWrite2
  have h1 : ¬ nz.length ≥ 65536 := by omega
  have h2 : nz.dropLast.any (fun x => decide (x.1 = 65535)) = false := by
    rw [List.any_eq_false]
    intro x hx
    have := hk x (List.dropLast_subset _ hx)
    simp; omega
  simp only [h1, ↓reduceIte, h2, Bool.false_eq_true]
  exact ⟨_, rfl, fun n => classDefFmt2_get hs n⟩

/-- **the ClassDef writer read back**: for a vector sorted by new glyph id (ids below 65535) the
table `ClassDef::serialize` writes — whichever format its counting rule picks — answers through
read-fonts' `ClassDef::get` the class the vector gives the glyph, 0 for every other glyph -/
theorem serializeClassDef_get {ps : List (Nat × Nat)} (hs : SortedItems ps)
    (hk : ∀ x ∈ ps, x.1 < 65535) :
    ∃ cd, serializeClassDef ps = .ok cd ∧ ∀ n, cd.get n = (itemGet n ps).getD 0 := by
  have hsf : SortedItems (ps.filter (fun x => x.2 ≠ 0)) := hs.sublist List.filter_sublist
  have hkf : ∀ x ∈ ps.filter (fun x => x.2 ≠ 0), x.1 < 65535 :=
    fun x hx => hk x (List.mem_filter.mp hx).1
  unfold serializeClassDef
  simp only []
  generalize hnz : ps.filter (fun x => x.2 ≠ 0) = nz at hsf hkf
  have hfin : ∀ cd : ClassDef, (∀ n, cd.get n = (itemGet n nz).getD 0) → ∀ n, cd.get n = (itemGet n ps).getD 0 := by
    intro cd h n
    rw [h n, ← hnz]
    exact itemGet_filter_nz_sorted hs n
  cases nz with
  | nil =>
    obtain ⟨cd, h1, h2⟩ := cdWrite2_get hsf hkf
    exact ⟨cd, h1, hfin cd h2⟩
  | cons kv rest =>
    obtain ⟨g0, c0⟩ := kv
    simp only []
    split
    · obtain ⟨cd, h1, h2⟩ := cdWrite1_get hsf (by simp) hkf
      exact ⟨cd, h1, hfin cd h2⟩
    · obtain ⟨cd, h1, h2⟩ := cdWrite2_get hsf hkf
      exact ⟨cd, h1, hfin cd h2⟩

/-- what the vector holds: exactly the kept glyphs that pass the glyph filter and have a non-zero
class, as (new id, class), ascending by new id -/
def PairsSpec (p : LPlan) (a : CdArgs) (cd : ClassDef) (ps : List (Nat × Nat)) : Prop :=
  SortedItems ps ∧
  ∀ n c, (n, c) ∈ ps ↔ ∃ g, p.get g = some n ∧ passFilter a g = true ∧ cd.get g = c ∧ c ≠ 0

/-- the per-glyph step shared by all three loops -/
def pairOf (p : LPlan) (a : CdArgs) (cls : Nat) (g : Nat) : Option (Nat × Nat) :=
  match p.get g with
  | none => none
  | some new => if !passFilter a g then none else if cls = 0 then none else some (new % 65536, cls)

theorem pairOf_some {p : LPlan} (hp : PlanOk p) {a : CdArgs} {cls g n c : Nat} :
    pairOf p a cls g = some (n, c) ↔ p.get g = some n ∧ passFilter a g = true ∧ cls = c ∧ c ≠ 0 := by
  unfold pairOf
  cases h : p.get g with
  | none => simp
  | some new =>
    have hlt := (hp.get_lt h).1
    have hm : new % 65536 = new := by omega
    by_cases hf : passFilter a g = true
    · by_cases hc : cls = 0
      · simp only [hf, hc, Bool.not_true, Bool.false_eq_true, ↓reduceIte]
        constructor
        · intro h'; cases h'
        · rintro ⟨_, _, e, e0⟩; omega
      · simp only [hf, hc, Bool.not_true, Bool.false_eq_true, ↓reduceIte, hm, Option.some.injEq,
          Prod.mk.injEq, true_and]
        constructor
        · rintro ⟨e1, e2⟩; exact ⟨e1, e2, by omega⟩
        · rintro ⟨e1, e2, _⟩; exact ⟨e1, e2⟩
    · simp [hf]

theorem sorted_filterMap_pairOf {p : LPlan} (hp : PlanOk p) (a : CdArgs) (cls : Nat → Nat)
    {l : List Nat} (hs : l.Pairwise (· < ·)) :
    SortedItems (l.filterMap fun g => pairOf p a (cls g) g) := by
  unfold SortedItems
  apply List.Pairwise.filterMap _ _ hs
  intro g g' hgg x hx y hy
  obtain ⟨n, c⟩ := x
  obtain ⟨n', c'⟩ := y
  have h1 := (pairOf_some hp).mp (by simpa using hx)
  have h2 := (pairOf_some hp).mp (by simpa using hy)
  exact hp.get_mono hgg h1.1 h2.1

/-- the vector of a loop that visits the ascending glyph list `l` and reads the class `cls g`: right
as soon as `cls` is the table's class on `l` and `l` holds every kept glyph the table classes -/
theorem pairsSpec_filterMap {p : LPlan} (hp : PlanOk p) (a : CdArgs) (cd : ClassDef) {l : List Nat}
    (hs : l.Pairwise (· < ·)) (cls : Nat → Nat) (hcls : ∀ g ∈ l, cls g = cd.get g)
    (hall : ∀ g n, p.get g = some n → cd.get g ≠ 0 → g ∈ l) :
    PairsSpec p a cd (l.filterMap fun g => pairOf p a (cls g) g) := by
  refine ⟨sorted_filterMap_pairOf hp a cls hs, fun n c => ?_⟩
  simp only [List.mem_filterMap]
  constructor
  · rintro ⟨g, hg, hpo⟩
    have := (pairOf_some hp).mp hpo
    exact ⟨g, this.1, this.2.1, (hcls g hg) ▸ this.2.2.1, this.2.2.2⟩
  · rintro ⟨g, hg, hf, hc, hc0⟩
    have hgl := hall g n hg (hc ▸ hc0)
    exact ⟨g, hgl, (pairOf_some hp).mpr ⟨hg, hf, (hcls g hgl).trans hc, hc0⟩⟩

theorem cd1Pairs_spec {p : LPlan} (hp : PlanOk p) (a : CdArgs) (start : Nat) (classes : List Nat)
    {ps : List (Nat × Nat)} (h : cd1Pairs p a start classes = some ps) :
    PairsSpec p a (.fmt1 start classes) ps := by
  unfold cd1Pairs at h
  cases hl : p.glyphset.getLast? with
  | none => simp [hl] at h
  | some last =>
    simp only [hl, Option.some.injEq] at h
    have hle := sorted_le_getLast hp.glyphset_sorted hl
    have hps : ps = (List.range' start (min (last + 1) (start + classes.length) - start)).filterMap
        fun g => pairOf p a (classes.getD (g - start) 0) g := by
      rw [← h]
      rfl
    subst hps
    refine pairsSpec_filterMap hp a _ List.pairwise_lt_range' _ (fun g hg => ?_) (fun g n hg hc => ?_)
    · have := (List.mem_range'_1.mp hg).1
      rw [ClassDef.get, if_neg (by omega), List.getD_eq_getElem?_getD]
    · -- a classed glyph lies inside the array, a kept one is not beyond the last glyph of the plan
      have hgl := hle g (hp.get_lt hg).2.2
      rw [ClassDef.get] at hc
      by_cases hgs : g < start
      · rw [if_pos hgs] at hc; exact absurd rfl hc
      · rw [if_neg hgs] at hc
        have hlen : g - start < classes.length := by
          apply Classical.byContradiction
          intro hn
          rw [List.getElem?_eq_none (by omega)] at hc
          exact hc rfl
        rw [List.mem_range'_1]; omega

theorem insertPair_append {x : Nat × Nat} {acc : List (Nat × Nat)} (h : ∀ y ∈ acc, y.1 < x.1) :
    insertPair x acc = acc ++ [x] := by
  induction acc with
  | nil => rfl
  | cons y ys ih =>
    have hy := h y (List.mem_cons_self ..)
    have : ¬ x.1 < y.1 := by omega
    simp only [insertPair, this, ↓reduceIte, List.cons_append]
    rw [ih (fun z hz => h z (List.mem_cons_of_mem _ hz))]

theorem sortPairs_sorted {ps : List (Nat × Nat)} (hs : SortedItems ps) : sortPairs ps = ps := by
  unfold sortPairs
  have gen : ∀ (l acc : List (Nat × Nat)), SortedItems (acc ++ l) →
      l.foldl (fun acc x => insertPair x acc) acc = acc ++ l := by
    intro l
    induction l with
    | nil => intro acc _; simp
    | cons x t ih =>
      intro acc h
      simp only [List.foldl_cons]
      unfold SortedItems at h
      have hx : ∀ y ∈ acc, y.1 < x.1 := by
        intro y hy
        exact (List.pairwise_append.mp h).2.2 y hy x (List.mem_cons_self ..)
      rw [insertPair_append hx, ih (acc ++ [x]) (by simpa [SortedItems] using h)]
      simp
  simpa using gen ps [] (by simpa using hs)

theorem takeWhile_all {l : List Nat} (h : ∀ x ∈ l, x ≤ 65535) :
    l.takeWhile (· ≤ 65535) = l := by
  induction l with
  | nil => rfl
  | cons a t ih =>
    have := h a (List.mem_cons_self ..)
    simp only [List.takeWhile_cons, this, decide_true, ↓reduceIte]
    rw [ih (fun x hx => h x (List.mem_cons_of_mem _ hx))]

theorem cd2Pairs_spec {p : LPlan} (hp : PlanOk p) (hn : p.numGlyphs ≤ 65536) (a : CdArgs)
    {rs : List ClassRangeRec} (hw : WFClassRanges rs)
    {ps : List (Nat × Nat)} (h : cdPairs p a (.fmt2 rs) = some ps) :
    PairsSpec p a (.fmt2 rs) ps := by
  simp only [cdPairs, Option.map_eq_some_iff] at h
  obtain ⟨raw, hraw, hsort⟩ := h
  unfold cd2PairsRaw at hraw
  cases hl : p.glyphset.getLast? with
  | none => simp [hl] at hraw
  | some last =>
    simp only [hl] at hraw
    have hle := sorted_le_getLast hp.glyphset_sorted hl
    have hspec : PairsSpec p a (.fmt2 rs) raw := by
      split at hraw
      · -- one pass over the plan's glyph set, class by binary search
        simp only [Option.some.injEq] at hraw
        have hk : ∀ x ∈ p.glyphset, x ≤ 65535 := by
          intro x hx
          obtain ⟨n, hn'⟩ := hp.mem_glyphset hx
          have := (hp.get_lt hn').2.1
          omega
        rw [takeWhile_all hk] at hraw
        have hr : raw = p.glyphset.filterMap fun g => pairOf p a ((ClassDef.fmt2 rs).get g) g := by
          rw [← hraw]
          rfl
        subst hr
        exact pairsSpec_filterMap hp a _ hp.glyphset_sorted _ (fun _ _ => rfl)
          (fun g n hg _ => (hp.get_lt hg).2.2)
      · -- one pass over the records: the glyphs of all records, up to the last glyph of the plan
        simp only [Option.some.injEq] at hraw
        have hget : (ClassDef.fmt2 rs).get = classLookup rs := funext (cd_get_fmt2 hw)
        have hr : raw = (rs.flatMap fun r => List.range' r.start (min r.end_ last + 1 - r.start)).filterMap
            fun g => pairOf p a (classLookup rs g) g := by
          rw [← hraw, List.filterMap_flatMap, List.flatMap_def, List.flatMap_def]
          refine congrArg List.flatten (List.map_congr_left fun r hr => ?_)
          have hse := hw.1 r hr
          by_cases hc : r.cls = 0
          · rw [if_pos hc]
            refine (List.filterMap_eq_nil_iff.mpr fun g hg => ?_).symm
            rw [classLookup_hit hw hr (by have := List.mem_range'_1.mp hg; omega), hc, pairOf]
            cases p.get g <;> simp
          · rw [if_neg hc]
            refine filterMap_congr' _ fun g hg => ?_
            rw [classLookup_hit hw hr (by have := List.mem_range'_1.mp hg; omega), pairOf]
            cases p.get g with
            | none => rfl
            | some new => simp [hc]
        subst hr
        refine pairsSpec_filterMap hp a _ ?_ _ (fun g _ => (congrFun hget g).symm) (fun g n hg hc => ?_)
        · rw [List.pairwise_flatMap]
          refine ⟨fun r _ => List.pairwise_lt_range', hw.2.imp_of_mem fun {r r'} hr hr' hrr x hx y hy => ?_⟩
          have := hw.1 r hr
          have := List.mem_range'_1.mp hx
          have := List.mem_range'_1.mp hy
          omega
        · -- the record that contains a classed glyph; a kept glyph is not beyond the plan's last
          have hgl := hle g (hp.get_lt hg).2.2
          rw [hget] at hc
          have : ∃ r ∈ rs, r.start ≤ g ∧ g ≤ r.end_ := by
            apply Classical.byContradiction
            intro hno
            exact hc (classLookup_miss fun r hr hin => hno ⟨r, hr, hin⟩)
          obtain ⟨r, hr, hin⟩ := this
          exact List.mem_flatMap.mpr ⟨r, hr, by rw [List.mem_range'_1]; omega⟩
    rw [← hsort, sortPairs_sorted hspec.1]
    exact hspec

theorem cdPairs_spec {p : LPlan} (hp : PlanOk p) (hn : p.numGlyphs ≤ 65536) (a : CdArgs)
    {cd : ClassDef} (hcd : ∀ rs, cd = .fmt2 rs → WFClassRanges rs)
    {ps : List (Nat × Nat)} (h : cdPairs p a cd = some ps) : PairsSpec p a cd ps := by
  cases cd with
  | fmt1 s cs => exact cd1Pairs_spec hp a s cs h
  | fmt2 rs => exact cd2Pairs_spec hp hn a (hcd rs rfl) h

theorem cdPairs_total {p : LPlan} (hne : p.glyphset ≠ []) (a : CdArgs) (cd : ClassDef) :
    ∃ ps, cdPairs p a cd = some ps := by
  have : ∃ last, p.glyphset.getLast? = some last := by
    cases h : p.glyphset.getLast? with
    | none => exact absurd (List.getLast?_eq_none_iff.mp h) hne
    | some l => exact ⟨l, rfl⟩
  obtain ⟨last, hl⟩ := this
  cases cd with
  | fmt1 s cs => simp [cdPairs, cd1Pairs, hl]
  | fmt2 rs =>
    simp only [cdPairs, cd2PairsRaw, hl]
    split <;> simp

theorem pairsSpec_itemGet {p : LPlan} (hp : PlanOk p) {a : CdArgs} {cd : ClassDef}
    {ps : List (Nat × Nat)} (hs : PairsSpec p a cd ps) :
    (∀ g n, p.get g = some n → (itemGet n ps).getD 0 = if passFilter a g then cd.get g else 0) ∧
    (∀ n, (∀ g, p.get g ≠ some n) → (itemGet n ps).getD 0 = 0) := by
  constructor
  · intro g n hg
    cases hi : itemGet n ps with
    | some c =>
      obtain ⟨g', hg', hf, hc, _⟩ := (hs.2 n c).mp ((itemGet_some_iff hs.1 n c).mp hi)
      have := hp.get_inj hg' hg
      subst this
      simp [hf, hc]
    | none =>
      by_cases hf : passFilter a g = true
      · simp only [hf, ↓reduceIte, Option.getD_none]
        apply Classical.byContradiction
        intro hne
        have := (itemGet_some_iff hs.1 n (cd.get g)).mpr ((hs.2 n (cd.get g)).mpr ⟨g, hg, hf, rfl, fun e => hne e.symm⟩)
        rw [hi] at this; cases this
      · simp [hf]
  · intro n hn
    cases hi : itemGet n ps with
    | none => rfl
    | some c =>
      obtain ⟨g, hg, _⟩ := (hs.2 n c).mp ((itemGet_some_iff hs.1 n c).mp hi)
      exact absurd hg (hn g)

theorem itemGet_map (f : Nat → Nat) (n : Nat) (ps : List (Nat × Nat)) :
    itemGet n (ps.map fun x => (x.1, f x.2)) = (itemGet n ps).map f := by
  induction ps with
  | nil => rfl
  | cons kv rest ih =>
    obtain ⟨k, v⟩ := kv
    simp only [List.map_cons, itemGet]
    by_cases e : k = n <;> simp [e, ih]

theorem retainedClasses_spec (ps : List (Nat × Nat)) :
    (retainedClasses ps).Pairwise (· < ·) ∧ ∀ c, c ∈ retainedClasses ps ↔ ∃ n, (n, c) ∈ ps := by
  have e : retainedClasses ps = (ps.map (·.2)).foldl (fun s x => SSet.insert x s) [] := by
    rw [retainedClasses, List.foldl_map]
    exact congrArg (fun f => ps.foldl f [])
      (funext fun s => funext fun (x : Nat × Nat) => insertUniq_eq x.2 s)
  rw [e]
  refine ⟨SSet.foldl_insert_sorted _ [] List.Pairwise.nil, fun c => ?_⟩
  rw [SSet.mem_foldl_insert, List.mem_map]
  exact ⟨fun h => h.elim (fun h => nomatch h) fun ⟨p, hp, hc⟩ => ⟨p.1, hc ▸ hp⟩,
    fun ⟨n, hn⟩ => Or.inr ⟨(n, c), hn, rfl⟩⟩

theorem lookup_zipIdx (base : Nat) {R : List Nat} (hd : R.Pairwise (· ≠ ·)) {i c : Nat} (h : R[i]? = some c) :
    (R.zipIdx.map fun ci => (ci.1, base + ci.2)).lookup c = some (base + i) := by
  have hk : (R.zipIdx.map fun ci => (ci.1, base + ci.2)).map (·.1) = R := by
    rw [List.map_map]; exact List.zipIdx_map_fst 0 R
  exact (lookup_eq_some_iff_mem (hk.symm ▸ hd) c _).mpr
    (List.mem_map.mpr ⟨(c, i), List.mk_mem_zipIdx_iff_getElem?.mpr h, rfl⟩)

theorem lookup_zipIdx_none (base : Nat) {R : List Nat} {c : Nat} (hc : c ∉ R) :
    (R.zipIdx.map fun ci => (ci.1, base + ci.2)).lookup c = none :=
  lookup_eq_none_of_not_mem fun p hp e => by
    obtain ⟨ci, hci, rfl⟩ := List.mem_map.mp hp
    exact hc (e ▸ (List.fst_mem_of_mem_zipIdx hci : ci.1 ∈ R))

theorem classMap_total (uz : Bool) {R : List Nat} (hlen : R.length ≤ 65534) :
    ∃ m, classMap uz R = some m := by
  unfold classMap
  have : ¬ ((if uz = true then 0 else 1) + R.length ≥ 65536) := by split <;> omega
  simp only [this, ↓reduceIte]
  exact ⟨_, rfl⟩

theorem classMap_lookup {uz : Bool} {R : List Nat} {m : List (Nat × Nat)} (hR : R.Pairwise (· < ·))
    (hnz : ∀ c ∈ R, c ≠ 0) (h : classMap uz R = some m) :
    (m.lookup 0).getD 0 = 0 ∧ (uz = false → m.lookup 0 = some 0) ∧
    ∀ i c, R[i]? = some c → m.lookup c = some ((if uz then 0 else 1) + i) := by
  have hd : R.Pairwise (· ≠ ·) := hR.imp (fun h => Nat.ne_of_lt h)
  have h0 : 0 ∉ R := fun hm => hnz 0 hm rfl
  unfold classMap at h
  by_cases hov : (if uz = true then 0 else 1) + R.length ≥ 65536
  · rw [if_pos hov] at h; cases h
  · rw [if_neg hov] at h; cases h
    simp only [List.lookup_append]
    refine ⟨?_, ?_, fun i c hic => ?_⟩
    · rw [lookup_zipIdx_none _ h0]; cases uz <;> rfl
    · rintro rfl; rfl
    · -- a retained class is not 0, so the entry `(0, 0)` in front, when there is one, is passed over
      have hc : (c == 0) = false := beq_false_of_ne (hnz c (List.mem_of_getElem? hic))
      rw [lookup_zipIdx _ hd hic]
      cases uz
      · simp only [Bool.false_eq_true, ↓reduceIte, List.lookup_cons, hc, List.lookup_nil, Option.none_or]
      · rfl

end FontVerif.SubsetLayout
