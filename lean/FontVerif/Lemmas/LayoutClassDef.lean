/-
Helper lemmas for C16: class-definition readers on well-formed tables, `iter_class_ranges`,
`ClassDefBuilderImpl::build` (both formats), `FromIterator` collection into the `BTreeMap` (read by
`List.lookup`, inserted into by `SMap.insert`), what the collected table answers, `ClassDefBuilder`.
-/
import FontVerif.Lemmas.Layout
import FontVerif.Lemmas.SortedMap
namespace FontVerif.Layout

def classLookup (rs : List ClassRangeRec) (g : Nat) : Nat :=
  match rs.find? (fun r => decide (r.start ≤ g ∧ g ≤ r.end_)) with
  | some r => r.cls
  | none => 0

/-- class range records as `iter_class_ranges` makes them -/
def WFClassRanges (rs : List ClassRangeRec) : Prop :=
  (∀ r ∈ rs, r.start ≤ r.end_) ∧ rs.Pairwise (fun a b => a.end_ < b.start)

theorem classLookup_cons (r0 : ClassRangeRec) (rs : List ClassRangeRec) (g : Nat) :
    classLookup (r0 :: rs) g = if r0.start ≤ g ∧ g ≤ r0.end_ then r0.cls else classLookup rs g := by
  by_cases h : r0.start ≤ g ∧ g ≤ r0.end_ <;> simp [classLookup, h]

theorem classLookup_hit {rs : List ClassRangeRec} (h : WFClassRanges rs) {r : ClassRangeRec}
    (hr : r ∈ rs) {g : Nat} (hg : r.start ≤ g ∧ g ≤ r.end_) : classLookup rs g = r.cls := by
  induction rs with
  | nil => cases hr
  | cons r0 rest ih =>
    rw [classLookup_cons]
    rcases List.mem_cons.mp hr with rfl | hr
    · simp [hg]
    · have hp := List.pairwise_cons.mp h.2
      have := hp.1 r hr
      have hn : ¬ (r0.start ≤ g ∧ g ≤ r0.end_) := by omega
      simp only [hn, ↓reduceIte]
      exact ih ⟨fun x hx => h.1 x (List.mem_cons_of_mem _ hx), hp.2⟩ hr

theorem classLookup_miss {rs : List ClassRangeRec} {g : Nat}
    (h : ∀ r ∈ rs, ¬ (r.start ≤ g ∧ g ≤ r.end_)) : classLookup rs g = 0 := by
  induction rs with
  | nil => rfl
  | cons r0 rest ih =>
    rw [classLookup_cons]
    simp only [h r0 (List.mem_cons_self ..), ↓reduceIte]
    exact ih (fun r hr => h r (List.mem_cons_of_mem _ hr))

/-- `ClassDefFormat2::get` on well-formed records: the search by start glyph lands on the record that holds `g`
when there is one (`bs_pred`); when there is none, whatever record it lands on says 0 -/
theorem cd_get_fmt2 {rs : List ClassRangeRec} (h : WFClassRanges rs) (g : Nat) :
    (ClassDef.fmt2 rs).get g = classLookup rs g := by
  by_cases hex : ∃ r ∈ rs, r.start ≤ g ∧ g ≤ r.end_
  · obtain ⟨r, hr, hin⟩ := hex
    rw [classLookup_hit h hr hin]
    obtain ⟨j, hj, rfl⟩ := List.getElem_of_mem hr
    have hkeys : rs.Pairwise (fun a b => a.start < b.start) :=
      h.2.imp_of_mem fun {a _} ha _ hab => Nat.lt_of_le_of_lt (h.1 a ha) hab
    have hnext : ∀ (h' : j + 1 < rs.length), g < rs[j + 1].start := fun h' =>
      Nat.lt_of_le_of_lt hin.2 (List.pairwise_iff_getElem.mp h.2 j (j + 1) hj h' (Nat.lt_succ_self j))
    rcases bs_pred default hkeys hj hin.1 hnext with e | e <;>
      simp only [ClassDef.get, List.getD_eq_getElem?_getD, e, Nat.add_sub_cancel, List.getElem?_eq_getElem hj, hin,
        and_self, if_true]
  · rw [classLookup_miss fun r hr hin => hex ⟨r, hr, hin⟩, ClassDef.get]
    split
    · next r hix => exact if_neg fun hin => hex ⟨r, List.mem_of_getElem? hix, hin⟩
    · rfl

/-! ## the `BTreeMap` as a sorted association list -/

def SortedItems (m : List (Nat × Nat)) : Prop := m.Pairwise (fun a b => a.1 < b.1)

theorem itemGet_eq_lookup (g : Nat) : ∀ (m : List (Nat × Nat)), itemGet g m = m.lookup g
  | [] => rfl
  | (k, v) :: rest => by
    rw [itemGet, SMap.lookup_cons, itemGet_eq_lookup g rest, ite_eq_comm]

theorem insertItem_eq (g c : Nat) : ∀ (m : List (Nat × Nat)), insertItem g c m = SMap.insert g c m
  | [] => rfl
  | (k, v) :: rest => by rw [insertItem, SMap.insert_cons, insertItem_eq g c rest]

theorem itemGet_none {g : Nat} {m : List (Nat × Nat)} (h : ∀ p ∈ m, p.1 ≠ g) :
    itemGet g m = none :=
  (itemGet_eq_lookup g m).trans (lookup_eq_none_of_not_mem h)

theorem itemGet_some_iff {m : List (Nat × Nat)} (hs : SortedItems m) (g c : Nat) :
    itemGet g m = some c ↔ (g, c) ∈ m := by
  rw [itemGet_eq_lookup]
  exact lookup_eq_some_iff_mem (List.pairwise_map.mpr (hs.imp Nat.ne_of_lt)) g c

theorem itemGet_insertItem (x g c : Nat) (m : List (Nat × Nat)) :
    itemGet x (insertItem g c m) = if g = x then some c else itemGet x m := by
  rw [insertItem_eq, itemGet_eq_lookup, itemGet_eq_lookup, SMap.lookup_insert, ite_eq_comm]

theorem mem_insertItem {g c : Nat} {m : List (Nat × Nat)} {p : Nat × Nat}
    (h : p ∈ insertItem g c m) : p = (g, c) ∨ p ∈ m :=
  SMap.mem_insert (insertItem_eq g c m ▸ h)

theorem insertItem_sorted {g c : Nat} {m : List (Nat × Nat)} (h : SortedItems m) :
    SortedItems (insertItem g c m) :=
  insertItem_eq g c m ▸ SMap.insert_sorted g c h

theorem sortedItems_head_le {items : List (Nat × Nat)} (hs : SortedItems items) {f : Nat × Nat}
    (hf : items.head? = some f) : ∀ p ∈ items, f.1 ≤ p.1 := by
  cases items with
  | nil => cases hf
  | cons q rest =>
    cases hf
    intro p hp
    rcases List.mem_cons.mp hp with rfl | hp
    · exact Nat.le_refl _
    · exact Nat.le_of_lt ((List.pairwise_cons.mp hs).1 p hp)

theorem foldl_insert_sorted (qs : List (Nat × Nat)) : ∀ (m0 : List (Nat × Nat)), SortedItems m0 →
    SortedItems (qs.foldl (fun m p => insertItem p.1 p.2 m) m0) := by
  induction qs with
  | nil => intro m0 h; exact h
  | cons q qs ih => intro m0 h; exact ih _ (insertItem_sorted h)

theorem itemGet_foldl (x : Nat) (qs : List (Nat × Nat)) : ∀ (m0 : List (Nat × Nat)),
    itemGet x (qs.foldl (fun m p => insertItem p.1 p.2 m) m0) =
      match qs.reverse.find? (fun p => p.1 == x) with
      | some p => some p.2
      | none => itemGet x m0 := by
  induction qs with
  | nil => intro m0; rfl
  | cons q qs ih =>
    intro m0
    simp only [List.foldl_cons, ih, List.reverse_cons, List.find?_append, itemGet_insertItem]
    cases hf : qs.reverse.find? (fun p => p.1 == x) with
    | some p => simp
    | none =>
      by_cases hq : q.1 = x
      · simp [hq]
      · simp [hq]

theorem collectItems_sorted (ps : List (Nat × Nat)) : SortedItems (collectItems ps) :=
  foldl_insert_sorted _ [] List.Pairwise.nil

/-- the collected map holds, for each glyph, the LAST non-zero-class pair given -/
theorem itemGet_collectItems (ps : List (Nat × Nat)) (g : Nat) :
    (itemGet g (collectItems ps)).getD 0 = assignedClass ps g := by
  unfold collectItems assignedClass
  rw [itemGet_foldl]
  cases (ps.filter (fun p => p.2 != 0)).reverse.find? (fun p => p.1 == g) with
  | some p => rfl
  | none => rfl

theorem mem_collectItems (ps : List (Nat × Nat)) (g c : Nat) :
    (g, c) ∈ collectItems ps ↔ c ≠ 0 ∧ assignedClass ps g = c := by
  rw [← itemGet_some_iff (collectItems_sorted ps), collectItems, itemGet_foldl, assignedClass]
  cases hf : (ps.filter (fun p => p.2 != 0)).reverse.find? (fun p => p.1 == g) with
  | none => simp only [itemGet]; exact ⟨fun h => (nomatch h), fun h => absurd h.2.symm h.1⟩
  | some p =>
    have hnz : p.2 ≠ 0 := by
      simpa using (List.mem_filter.mp (List.mem_reverse.mp (List.mem_of_find?_eq_some hf))).2
    simp only [Option.some.injEq]
    exact ⟨fun h => ⟨h ▸ hnz, h⟩, fun h => h.2⟩

/-- an item reads like the one-glyph record `iter_class_ranges` starts from it -/
theorem itemGet_cons_getD (g0 cls g : Nat) (rest : List (Nat × Nat)) :
    (itemGet g ((g0, cls) :: rest)).getD 0 = if g0 ≤ g ∧ g ≤ g0 then cls else (itemGet g rest).getD 0 := by
  by_cases h : g0 = g
  · rw [itemGet, if_pos h, if_pos (by omega)]; rfl
  · rw [itemGet, if_neg h, if_neg (by omega)]

/-- merging runs changes no answer; this holds of ANY item list (the first record and the first item win) -/
theorem classLookup_classRangesGo (g : Nat) : ∀ (rest : List (Nat × Nat)) (s e c : Nat), s ≤ e →
    classLookup (classRangesGo s e c rest) g = if s ≤ g ∧ g ≤ e then c else (itemGet g rest).getD 0
  | [], s, e, c, _ => by rw [classRangesGo, classLookup_cons]; rfl
  | (g0, cls) :: rest, s, e, c, hse => by
    rw [classRangesGo, itemGet_cons_getD]
    by_cases hq : (areSequential e g0 && c == cls) = true
    · rw [if_pos hq]
      rw [Bool.and_eq_true, areSequential_iff, beq_iff_eq] at hq
      obtain ⟨rfl, rfl⟩ := hq
      rw [classLookup_classRangesGo g rest s (e + 1) c (Nat.le_succ_of_le hse)]
      -- `[s, e + 1] = [s, e] ∪ {e + 1}`
      by_cases a : s ≤ g ∧ g ≤ e
      · rw [if_pos a, if_pos (by omega)]
      · rw [if_neg a]; exact ite_cond_congr (propext (by omega))
    · rw [if_neg hq, classLookup_cons, classLookup_classRangesGo g rest g0 g0 cls (Nat.le_refl _)]

theorem classLookup_iterClassRanges (g : Nat) : ∀ (items : List (Nat × Nat)),
    classLookup (iterClassRanges items) g = (itemGet g items).getD 0
  | [] => rfl
  | (g0, c) :: rest => by
    rw [iterClassRanges, classLookup_classRangesGo g rest g0 g0 c (Nat.le_refl _), itemGet_cons_getD]

theorem wfClassRanges_cons {r : ClassRangeRec} {rs : List ClassRangeRec} (hr : r.start ≤ r.end_)
    (hlt : ∀ x ∈ rs, r.end_ < x.start) (h : WFClassRanges rs) : WFClassRanges (r :: rs) :=
  ⟨List.forall_mem_cons.mpr ⟨hr, h.1⟩, List.pairwise_cons.mpr ⟨hlt, h.2⟩⟩

/-- on ascending items (the open run's last glyph `e` in front) the records are well formed and none
starts before the open run -/
theorem classRangesGo_wf : ∀ (rest : List (Nat × Nat)) (s e c : Nat), s ≤ e → SortedItems ((e, c) :: rest) →
    WFClassRanges (classRangesGo s e c rest) ∧ ∀ r ∈ classRangesGo s e c rest, s ≤ r.start
  | [], s, e, c, hse, _ =>
    ⟨wfClassRanges_cons hse (fun _ h => nomatch h) ⟨fun _ h => (nomatch h), .nil⟩,
      List.forall_mem_cons.mpr ⟨Nat.le_refl _, fun _ h => nomatch h⟩⟩
  | (g0, cls) :: rest, s, e, c, hse, hs => by
    obtain ⟨hgt, hs'⟩ := List.pairwise_cons.mp hs
    have heg : e < g0 := hgt (g0, cls) (List.mem_cons_self ..)
    rw [classRangesGo]
    by_cases hq : (areSequential e g0 && c == cls) = true
    · rw [if_pos hq]
      rw [Bool.and_eq_true, beq_iff_eq] at hq
      exact classRangesGo_wf rest s g0 c (Nat.le_trans hse (Nat.le_of_lt heg)) (hq.2 ▸ hs')
    · rw [if_neg hq]
      obtain ⟨w, st⟩ := classRangesGo_wf rest g0 g0 cls (Nat.le_refl _) hs'
      exact ⟨wfClassRanges_cons hse (fun r hr => Nat.lt_of_lt_of_le heg (st r hr)) w,
        List.forall_mem_cons.mpr ⟨Nat.le_refl _, fun r hr => Nat.le_trans (by omega) (st r hr)⟩⟩

theorem iterClassRanges_wf : ∀ {items : List (Nat × Nat)}, SortedItems items → WFClassRanges (iterClassRanges items)
  | [], _ => ⟨fun _ h => (nomatch h), .nil⟩
  | (g0, c) :: rest, hs => (classRangesGo_wf rest g0 g0 c (Nat.le_refl _) hs).1

/-- the `ClassDef::Format1` branch of `ClassDefBuilderImpl::build` -/
def classDefFmt1 (items : List (Nat × Nat)) : ClassDef :=
  match items.head?, items.getLast? with
  | some f, some l =>
    .fmt1 f.1 ((List.range' f.1 (l.1 + 1 - f.1)).map (fun g => (itemGet g items).getD 0))
  | _, _ => .fmt1 0 [0]

/-- the `ClassDef::Format2` branch -/
def classDefFmt2 (items : List (Nat × Nat)) : ClassDef := .fmt2 (iterClassRanges items)

theorem buildClassDefItems_eq (items : List (Nat × Nat)) :
    buildClassDefItems items = if preferFormat1 items then classDefFmt1 items else classDefFmt2 items := by
  unfold buildClassDefItems classDefFmt1 classDefFmt2
  rfl

theorem classDefFmt2_get {items : List (Nat × Nat)} (hs : SortedItems items) (g : Nat) :
    (classDefFmt2 items).get g = (itemGet g items).getD 0 := by
  rw [classDefFmt2, cd_get_fmt2 (iterClassRanges_wf hs), classLookup_iterClassRanges]

theorem fmt1_get_of_array {items : List (Nat × Nat)} {s : Nat} {arr : List Nat}
    (hlo : ∀ p ∈ items, s ≤ p.1) (hhi : ∀ p ∈ items, p.1 < s + arr.length)
    (harr : ∀ k, k < arr.length → (arr[k]?).getD 0 = (itemGet (s + k) items).getD 0) (g : Nat) :
    (ClassDef.fmt1 s arr).get g = (itemGet g items).getD 0 := by
  rw [ClassDef.get]
  by_cases hgs : g < s
  · rw [if_pos hgs, itemGet_none fun p hp => by have := hlo p hp; omega]; rfl
  · rw [if_neg hgs]
    by_cases hk : g - s < arr.length
    · rw [harr _ hk, Nat.add_sub_cancel' (Nat.le_of_not_lt hgs)]
    · rw [List.getElem?_eq_none (Nat.le_of_not_lt hk),
        itemGet_none fun p hp => by have := hhi p hp; omega]

theorem classDefFmt1_get {items : List (Nat × Nat)} (hs : SortedItems items) (hne : items ≠ [])
    (g : Nat) : (classDefFmt1 items).get g = (itemGet g items).getD 0 := by
  obtain ⟨f, hh⟩ : ∃ f, items.head? = some f := by cases items <;> simp_all
  obtain ⟨l, hl⟩ : ∃ l, items.getLast? = some l := by
    cases h : items.getLast? with
    | none => exact absurd (List.getLast?_eq_none_iff.mp h) hne
    | some l => exact ⟨l, rfl⟩
  have hhi : ∀ p ∈ items, p.1 ≤ l.1 := by
    obtain ⟨ys, rfl⟩ := List.getLast?_eq_some_iff.mp hl
    intro p hp
    rcases List.mem_append.mp hp with hp | hp
    · exact Nat.le_of_lt ((List.pairwise_append.mp hs).2.2 p hp l (List.mem_singleton.mpr rfl))
    · rw [List.mem_singleton.mp hp]; exact Nat.le_refl _
  simp only [classDefFmt1, hh, hl]
  refine fmt1_get_of_array (sortedItems_head_le hs hh)
    (fun p hp => by have := hhi p hp; rw [List.length_map, List.length_range']; omega)
    (fun k hk => ?_) g
  rw [List.length_map, List.length_range'] at hk
  rw [List.getElem?_map, List.getElem?_range' hk, Nat.one_mul]; rfl

theorem preferFormat1_ne_nil {items : List (Nat × Nat)} (h : preferFormat1 items = true) :
    items ≠ [] := by
  intro e; subst e; simp [preferFormat1] at h

theorem buildClassDefItems_get {items : List (Nat × Nat)} (hs : SortedItems items) (g : Nat) :
    (buildClassDefItems items).get g = (itemGet g items).getD 0 := by
  rw [buildClassDefItems_eq]
  by_cases hp : preferFormat1 items = true
  · simp only [hp, ↓reduceIte]
    exact classDefFmt1_get hs (preferFormat1_ne_nil hp) g
  · simp only [hp, Bool.false_eq_true, ↓reduceIte]
    exact classDefFmt2_get hs g

theorem assignedClass_const {ps : List (Nat × Nat)} {g v : Nat}
    (hall : ∀ p ∈ ps, p.1 = g → p.2 = v) (hex : ∃ p ∈ ps, p.1 = g) : assignedClass ps g = v := by
  unfold assignedClass
  cases hf : (ps.filter (fun p => p.2 != 0)).reverse.find? (fun p => p.1 == g) with
  | none =>
    simp only
    rw [List.find?_eq_none] at hf
    obtain ⟨p, hp, hpg⟩ := hex
    have hv := hall p hp hpg
    apply Classical.byContradiction
    intro hne
    have : p ∈ (ps.filter (fun p => p.2 != 0)).reverse :=
      List.mem_reverse.mpr (List.mem_filter.mpr ⟨hp, by simp; omega⟩)
    exact hf p this (by simp [hpg])
  | some q =>
    simp only
    have hq1 : q.1 = g := by simpa using List.find?_some hf
    have hq' : q ∈ ps :=
      (List.mem_filter.mp (List.mem_reverse.mp (List.mem_of_find?_eq_some hf))).1
    exact hall q hq' hq1

theorem assignedClass_none {ps : List (Nat × Nat)} {g : Nat} (h : ∀ p ∈ ps, p.1 ≠ g) :
    assignedClass ps g = 0 := by
  unfold assignedClass
  have : (ps.filter (fun p => p.2 != 0)).reverse.find? (fun p => p.1 == g) = none := by
    rw [List.find?_eq_none]
    intro p hp
    have hp' : p ∈ ps := (List.mem_filter.mp (List.mem_reverse.mp hp)).1
    simp [h p hp']
  rw [this]

theorem buildClassDef_get (ps : List (Nat × Nat)) (g : Nat) :
    (buildClassDef ps).get g = assignedClass ps g := by
  unfold buildClassDef
  rw [buildClassDefItems_get (collectItems_sorted ps), itemGet_collectItems]

theorem insertClass_eq (c : List Nat) : ∀ (xs : List (List Nat)), insertClass c xs = SSort.insertBy classKeyLe c xs
  | [] => rfl
  | x :: xs => by rw [insertClass, SSort.insertBy_cons, insertClass_eq c xs]

theorem sortClasses_perm (cs : List (List Nat)) : (sortClasses cs).Perm cs := by
  rw [sortClasses, funext fun c => funext (insertClass_eq c)]
  exact SSort.foldr_insertBy_perm classKeyLe cs

def ClassesDisjoint (a c : List Nat) : Prop := ∀ g, g ∈ a → g ∉ c

theorem checkedAdd_classes (b : ClassDefBuilder) (cls : List Nat) :
    (b.checkedAdd cls).1.classes =
      if b.canAdd cls = true ∧ b.classes.contains cls = false then b.classes ++ [cls] else b.classes := by
  unfold ClassDefBuilder.checkedAdd
  cases b.canAdd cls <;> cases b.classes.contains cls <;> rfl

/-- the mapping of `build_with_mapping` is the sorted classes numbered from `k` -/
theorem zipWith_range_eq_zipIdx {α : Type} (l : List α) (k : Nat) :
    (List.range l.length).zipWith (fun i a => (a, i + k)) l = l.zipIdx k :=
  List.ext_getElem (by simp) fun i _ _ => by simp [Nat.add_comm]

/-- the `(glyph, id)` pairs `build_with_mapping` collects -/
theorem mem_classPairs {m : List (List Nat × Nat)} {q : Nat × Nat} :
    q ∈ m.flatMap (fun p => p.1.map fun g => (g, p.2)) ↔ ∃ c, (c, q.2) ∈ m ∧ q.1 ∈ c := by
  simp only [List.mem_flatMap, List.mem_map]
  exact ⟨fun ⟨p, hp, g, hg, e⟩ => e ▸ ⟨p.1, hp, hg⟩, fun ⟨c, hc, hg⟩ => ⟨(c, q.2), hc, q.1, hg, rfl⟩⟩

end FontVerif.Layout
