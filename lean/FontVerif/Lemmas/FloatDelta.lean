/-
The f32 variation path (Model/FloatDelta.lean): an F2Dot14 value and the sums / differences of two of them are exact
floats (`Val14`) that compare like the raw integers, so one iteration of `compute_scalar_f32` takes the same branch
as the 16.16 code (`axisStepF_eq`); range, support and peaks of the loop; the float steps of `compute_float_delta`
and `apply_float_delta` that are exact on integers.
-/
import FontVerif.Model.FloatDelta
import FontVerif.Lemmas.IeeeArith
import FontVerif.Lemmas.FixedConv
import FontVerif.Lemmas.TentLemmas
namespace FontVerif.FloatDelta
open FontVerif.Ieee

/-- `x` is a finite f32 with exponent in `[-14, 16]`, at most 24 significant bits, canonical zero
(`+0`), whose value is `v / 2^14`. -/
def Val14 (x : FVal) (v : Int) : Prop :=
  ∃ s m e, x = .fin s m e ∧ m < 2 ^ 24 ∧ -14 ≤ e ∧ e ≤ 16 ∧ (m = 0 → s = false) ∧
    (if s then -1 else 1) * ((m : Int) * 2 ^ (e + 14).toNat) = v

theorem val14_f2 (raw : Int) (h : inI16 raw) : Val14 (f2ToF32 raw) raw := by
  unfold f2ToF32
  unfold inI16 at h
  have hr : FixedConv.F2Dot14.lo ≤ raw ∧ raw ≤ FixedConv.F2Dot14.hi := by
    show (-32768 : Int) ≤ raw ∧ raw ≤ 32767
    omega
  rw [FixedConv.toFloat_form FixedConv.F2Dot14 FixedConv.f2dot14_ok raw hr]
  have hk : FixedConv.F2Dot14.k = 14 := rfl
  simp only [hk]
  by_cases h0 : raw % 2 ^ 14 = 0
  · simp only [h0, if_true]
    refine ⟨_, _, _, rfl, ?_, by omega, by omega, ?_, ?_⟩
    · have : (raw / 2 ^ 14).natAbs ≤ 2 := by omega
      omega
    · intro hz; simp; omega
    · simp only [show ((0 : Int) + 14).toNat = 14 by rfl]
      by_cases hneg : raw / 2 ^ 14 < 0
      · simp only [hneg, decide_true, if_true]; omega
      · simp only [hneg, decide_false, Bool.false_eq_true, if_false]; omega
  · simp only [h0, if_false]
    refine ⟨_, _, _, rfl, by omega, by omega, by omega, ?_, ?_⟩
    · intro hz; have : raw = 0 := by omega
      subst this; simp at h0
    · simp only [show (-((14 : Nat) : Int) + 14).toNat = 0 by rfl, Int.pow_zero, Int.mul_one]
      by_cases hneg : raw < 0
      · simp only [hneg, decide_true, if_true]; omega
      · simp only [hneg, decide_false, Bool.false_eq_true, if_false]; omega

theorem f2ToF32_zero : f2ToF32 0 = zero := by decide

theorem val14_zero : Val14 zero 0 := ⟨false, 0, 0, rfl, by decide, by decide, by decide, fun _ => rfl, by simp⟩

theorem val14_scaledInt {x : FVal} {v : Int} (hx : Val14 x v) : FixedConv.ScaledInt f32 14 x v := by
  obtain ⟨s, m, e, rfl, hm, he, _, _, hv⟩ := hx
  exact ⟨s, m, e, rfl, hm, by show (-149 : Int) ≤ e; omega, he, hv⟩

theorem val14_le {x y : FVal} {a b : Int} (hx : Val14 x a) (hy : Val14 y b) :
    le x y = true ↔ a ≤ b :=
  FixedConv.scaledInt_le (val14_scaledInt hx) (val14_scaledInt hy)

theorem val14_lt {x y : FVal} {a b : Int} (hx : Val14 x a) (hy : Val14 y b) :
    lt x y = true ↔ a < b := by
  have h := val14_le hy hx
  obtain ⟨s, m, e, rfl, _⟩ := hx
  obtain ⟨t, n, g, rfl, _⟩ := hy
  simp only [lt, Bool.not_eq_true']
  constructor
  · intro hl
    apply Classical.byContradiction; intro hc
    have := h.mpr (by omega); simp [this] at hl
  · intro hl
    cases hle : le (FVal.fin t n g) (FVal.fin s m e) with
    | false => rfl
    | true => have := h.mp hle; omega

theorem val14_gt {x y : FVal} {a b : Int} (hx : Val14 x a) (hy : Val14 y b) :
    gt x y = true ↔ a > b := by
  unfold gt; rw [val14_lt hy hx]

theorem val14_feq {x y : FVal} {a b : Int} (hx : Val14 x a) (hy : Val14 y b) :
    feq x y = true ↔ a = b := by
  unfold feq
  rw [Bool.and_eq_true, val14_le hx hy, val14_le hy hx]
  omega


theorem val14_of_sum (A : Int) (e0 : Int) (sgn0 : Bool) (v : Int)
    (hv : A * 2 ^ (e0 + 14).toNat = v) (h1 : -14 ≤ e0) (h2 : e0 ≤ 16)
    (hsmall : v.natAbs < 2 ^ 24) (hz : A = 0 → sgn0 = false) :
    Val14 (if A = 0 then .fin sgn0 0 0 else roundNE f32 (decide (A < 0)) A.natAbs e0) v := by
  have hP : (0 : Int) < 2 ^ (e0 + 14).toNat := FixedConv.int_pow_pos _
  generalize hPv : (2 : Int) ^ (e0 + 14).toNat = P at *
  by_cases hA0 : A = 0
  · simp only [hA0, if_true]
    have hv0 : v = 0 := by rw [← hv, hA0]; simp
    exact ⟨_, 0, 0, rfl, by decide, by decide, by decide, fun _ => hz hA0, by simp [hv0]⟩
  · simp only [hA0, if_false]
    have hAabs : A.natAbs * P.natAbs = v.natAbs := by rw [← Int.natAbs_mul, hv]
    have hPn : 1 ≤ P.natAbs := by omega
    have hAlt : A.natAbs < 2 ^ 24 := by
      have : A.natAbs ≤ A.natAbs * P.natAbs := Nat.le_mul_of_pos_right _ hPn
      omega
    have hAn : A.natAbs ≠ 0 := by omega
    rw [roundNE_fits f32 _ hAn hAlt (by show (-149 : Int) ≤ e0; omega) (by show e0 + 24 ≤ 128; omega)]
    refine ⟨_, _, _, rfl, hAlt, h1, h2, fun h => absurd h hAn, ?_⟩
    rw [hPv, ← hv, ← Int.mul_assoc, FixedConv.sgn_natAbs_decide]

/-- the second operand's zero may carry either sign (so that `sub` is an instance). -/
theorem val14_add_fin {x : FVal} {a b : Int} {t : Bool} {n : Nat} {g : Int} (hx : Val14 x a)
    (hn : n < 2 ^ 24) (hg : -14 ≤ g) (hg2 : g ≤ 16)
    (hw : (if t then -1 else 1) * ((n : Int) * 2 ^ (g + 14).toNat) = b)
    (hab : (a + b).natAbs < 2 ^ 24) : Val14 (add f32 x (.fin t n g)) (a + b) := by
  obtain ⟨s, m, e, rfl, hm, he, he2, hz, hv⟩ := hx
  simp only [add]
  unfold exactSum
  simp only []
  generalize he0 : (if e ≤ g then e else g) = e0
  have h1 : e0 ≤ e ∧ e0 ≤ g ∧ -14 ≤ e0 ∧ e0 ≤ 16 := by rw [← he0]; split <;> omega
  apply val14_of_sum _ e0 _ (a + b) ?_ h1.2.2.1 h1.2.2.2 hab ?_
  · have x1 : (e + 14).toNat = (e - e0).toNat + (e0 + 14).toNat := by omega
    have x2 : (g + 14).toNat = (g - e0).toNat + (e0 + 14).toNat := by omega
    rw [x1, Int.pow_add, ← Int.mul_assoc (m : Int)] at hv
    rw [x2, Int.pow_add, ← Int.mul_assoc (n : Int)] at hw
    rw [← hv, ← hw]
    generalize (2 : Int) ^ (e0 + 14).toNat = P
    generalize (m : Int) * 2 ^ (e - e0).toNat = X
    generalize (n : Int) * 2 ^ (g - e0).toNat = Y
    cases s <;> cases t <;> simp [Int.add_mul, Int.neg_mul] <;> omega
  · -- an exact zero is `+0`: two negative operands cannot cancel
    intro hA
    by_cases hm0 : m = 0
    · simp [hz hm0]
    · have hXpos : 0 < (m : Int) * 2 ^ (e - e0).toNat :=
        Int.mul_pos (by omega) (FixedConv.int_pow_pos _)
      have hYnn : 0 ≤ (n : Int) * 2 ^ (g - e0).toNat :=
        Int.mul_nonneg (by omega) (Int.le_of_lt (FixedConv.int_pow_pos _))
      generalize (m : Int) * 2 ^ (e - e0).toNat = X at *
      generalize (n : Int) * 2 ^ (g - e0).toNat = Y at *
      cases s <;> cases t <;> simp at hA ⊢ <;> omega

theorem val14_add {x y : FVal} {a b : Int} (hx : Val14 x a) (hy : Val14 y b)
    (hab : (a + b).natAbs < 2 ^ 24) : Val14 (add f32 x y) (a + b) := by
  obtain ⟨t, n, g, rfl, hn, hg, hg2, _, hw⟩ := hy
  exact val14_add_fin hx hn hg hg2 hw hab

theorem val14_sub {x y : FVal} {a b : Int} (hx : Val14 x a) (hy : Val14 y b)
    (hab : (a - b).natAbs < 2 ^ 24) : Val14 (sub f32 x y) (a - b) := by
  obtain ⟨t, n, g, rfl, hn, hg, hg2, _, hw⟩ := hy
  rw [Int.sub_eq_add_neg] at hab ⊢
  exact val14_add_fin hx hn hg hg2 (by rw [← hw]; cases t <;> simp) hab

theorem val14_nonneg {x : FVal} {a : Int} (hx : Val14 x a) (ha : 0 ≤ a) :
    ∃ m e, x = .fin false m e ∧ m < 2 ^ 24 ∧ -14 ≤ e ∧ e ≤ 16 ∧ (m : Int) * 2 ^ (e + 14).toNat = a := by
  obtain ⟨s, m, e, rfl, hm, he, he2, hz, hv⟩ := hx
  cases s with
  | false => exact ⟨m, e, rfl, hm, he, he2, by simpa using hv⟩
  | true =>
    by_cases hm0 : m = 0
    · exact absurd (hz hm0) (by simp)
    · have : 0 < (m : Int) * 2 ^ (e + 14).toNat := Int.mul_pos (by omega) (FixedConv.int_pow_pos _)
      simp at hv; omega

theorem dle_of_scaled {m : Nat} {e : Int} {n : Nat} {g : Int} (he : -14 ≤ e) (hg : -14 ≤ g)
    (h : (m : Int) * 2 ^ (e + 14).toNat ≤ (n : Int) * 2 ^ (g + 14).toNat) : dle m e n g := by
  rw [dle_shift 14 (by omega) (by omega)]
  rw [FixedConv.int_two_pow, FixedConv.int_two_pow] at h
  exact_mod_cast h

theorem natAbs_i16_diff {a b : Int} (ha : inI16 a) (hb : inI16 b) : (a - b).natAbs < 2 ^ 24 := by
  unfold inI16 at *; omega

theorem axisStepF_eq (sc C S P E : FVal) (c s p e : Int)
    (hC : Val14 C c) (hS : Val14 S s) (hP : Val14 P p) (hE : Val14 E e) :
    axisStepF sc C S P E =
      if Tent.Ignored s p e then some sc
      else if c < s ∨ c > e then none
      else if c = p then some sc
      else if c < p then some (div f32 (mul f32 sc (sub f32 C S)) (sub f32 P S))
      else some (div f32 (mul f32 sc (sub f32 E C)) (sub f32 E P)) := by
  unfold axisStepF
  simp only [Bool.or_eq_true, Bool.and_eq_true, or_assoc, val14_gt hS hP, val14_gt hP hE, val14_feq hP val14_zero,
    val14_lt hS val14_zero, val14_gt hE val14_zero, val14_lt hC hS, val14_gt hC hE, val14_feq hC hP,
    val14_lt hC hP]
  rfl

theorem tent_factor_inUnit (sc A B : FVal) (a b : Int) (hsc : InUnit f32 sc)
    (hA : Val14 A a) (hB : Val14 B b) (ha : 0 ≤ a) (hab : a ≤ b) (hb : 0 < b) :
    InUnit f32 (div f32 (mul f32 sc A) B) := by
  obtain ⟨n, q, rfl, hn⟩ := hsc
  obtain ⟨mA, eA, rfl, hmA, heA1, heA2, hvA⟩ := val14_nonneg hA ha
  obtain ⟨mB, eB, rfl, hmB, heB1, heB2, hvB⟩ := val14_nonneg hB (by omega)
  have hAB : dle mA eA mB eB := dle_of_scaled heA1 heB1 (by rw [hvA, hvB]; exact hab)
  have hbl : bitLen mA ≤ 24 := bitLen_le_of_lt hmA
  obtain ⟨n2, q2, hmul, hd2⟩ := mul_unit_le f32 (by decide) n q mA eA hn hmA
    (by show (-149 : Int) ≤ eA; omega) (by show eA + (bitLen mA : Int) ≤ 128; omega)
  rw [hmul]
  have hmB0 : mB ≠ 0 := by
    intro h; rw [h] at hvB; simp at hvB; omega
  exact div_le_one f32 (by decide) (by decide) (by decide) n2 q2 mB eB hmB0 (dle_trans hd2 hAB)

def AxesI16 (axes : List (Int × Int × Int)) : Prop := ∀ a ∈ axes, inI16 a.1 ∧ inI16 a.2.1 ∧ inI16 a.2.2
def CoordsI16 (coords : List Int) : Prop := ∀ c ∈ coords, inI16 c

theorem coordsI16_tail {coords : List Int} (h : CoordsI16 coords) : CoordsI16 coords.tail :=
  fun c hc => h c (List.mem_of_mem_tail hc)

theorem coordsI16_head {coords : List Int} (h : CoordsI16 coords) : inI16 (coords.headD 0) := by
  cases coords with
  | nil => simp [inI16]
  | cons c r => exact h c (by simp)

theorem axesI16_tail {a : Int × Int × Int} {rest : List (Int × Int × Int)} (h : AxesI16 (a :: rest)) :
    AxesI16 rest := fun x hx => h x (by simp [hx])

theorem coord_val14 (coords : List Int) (hc : CoordsI16 coords) :
    Val14 (coordF coords) (coords.headD 0) := by
  cases coords with
  | nil => exact val14_zero
  | cons c rest => exact val14_f2 c (hc c (by simp))

theorem val14_sub_i16 {x y : FVal} {a b : Int} (hx : Val14 x a) (hy : Val14 y b) (ha : inI16 a)
    (hb : inI16 b) : Val14 (sub f32 x y) (a - b) := val14_sub hx hy (natAbs_i16_diff ha hb)

theorem stepF_eq (sc : FVal) (coords : List Int) (s p e : Int)
    (hc : CoordsI16 coords) (hs : inI16 s) (hp : inI16 p) (he : inI16 e) :
    axisStepF sc (coordF coords) (f2ToF32 s) (f2ToF32 p) (f2ToF32 e) =
      if Tent.Ignored s p e then some sc
      else if coords.headD 0 < s ∨ coords.headD 0 > e then none
      else if coords.headD 0 = p then some sc
      else if coords.headD 0 < p then
        some (div f32 (mul f32 sc (sub f32 (coordF coords) (f2ToF32 s))) (sub f32 (f2ToF32 p) (f2ToF32 s)))
      else
        some (div f32 (mul f32 sc (sub f32 (f2ToF32 e) (coordF coords))) (sub f32 (f2ToF32 e) (f2ToF32 p))) :=
  axisStepF_eq sc _ _ _ _ _ s p e (coord_val14 coords hc) (val14_f2 s hs) (val14_f2 p hp) (val14_f2 e he)

/-- one axis of the f32 loop, next to what `tentFactors` lists for it: the axis is passed over, or the scalar is
`0.0`, or the scalar is multiplied by `A / B` (two roundings), `A`, `B` holding the exact differences `a ≤ b`
whose quotient `tentFactors` puts in front. -/
theorem scalarGoF_cons_cases (s p e : Int) (rest : List (Int × Int × Int)) (coords : List Int)
    (ha : AxesI16 ((s, p, e) :: rest)) (hc : CoordsI16 coords) :
    (Tent.tentFactors ((s, p, e) :: rest) coords = Tent.tentFactors rest coords.tail ∧
      ∀ sc, scalarGoF sc ((s, p, e) :: rest) coords = scalarGoF sc rest coords.tail) ∨
    (Tent.tentFactors ((s, p, e) :: rest) coords = none ∧
      ∀ sc, scalarGoF sc ((s, p, e) :: rest) coords = zero) ∨
    ∃ A B a b, Val14 A a ∧ Val14 B b ∧ 0 ≤ a ∧ a ≤ b ∧ 0 < b ∧
      Tent.tentFactors ((s, p, e) :: rest) coords =
        (Tent.tentFactors rest coords.tail).map ((4 * a, 4 * b) :: ·) ∧
      ∀ sc, scalarGoF sc ((s, p, e) :: rest) coords = scalarGoF (div f32 (mul f32 sc A) B) rest coords.tail := by
  have hh := ha (s, p, e) (by simp)
  have hC := coord_val14 coords hc
  have hc0 := coordsI16_head hc
  have hS := val14_f2 s hh.1
  have hP := val14_f2 p hh.2.1
  have hE := val14_f2 e hh.2.2
  have step := fun sc => stepF_eq sc coords s p e hc hh.1 hh.2.1 hh.2.2
  rw [Tent.tentFactors_cons]
  simp only [scalarGoF]
  by_cases hi : Tent.Ignored s p e
  · exact .inl ⟨if_pos hi, fun sc => by rw [step sc, if_pos hi]⟩
  by_cases ho : coords.headD 0 < s ∨ coords.headD 0 > e
  · exact .inr (.inl ⟨by rw [if_neg hi, if_pos ho], fun sc => by rw [step sc, if_neg hi, if_pos ho]⟩)
  by_cases hpk : coords.headD 0 = p
  · exact .inl ⟨by rw [if_neg hi, if_neg ho, if_pos hpk],
      fun sc => by rw [step sc, if_neg hi, if_neg ho, if_pos hpk]⟩
  have hi' : ¬ (s > p ∨ p > e ∨ p = 0 ∨ (s < 0 ∧ e > 0)) := hi
  by_cases hlt : coords.headD 0 < p
  · exact .inr (.inr ⟨_, _, _, _, val14_sub_i16 hC hS hc0 hh.1, val14_sub_i16 hP hS hh.2.1 hh.1,
      by omega, by omega, by omega, by rw [if_neg hi, if_neg ho, if_neg hpk, if_pos hlt],
      fun sc => by rw [step sc, if_neg hi, if_neg ho, if_neg hpk, if_pos hlt]⟩)
  · exact .inr (.inr ⟨_, _, _, _, val14_sub_i16 hE hC hh.2.2 hc0, val14_sub_i16 hE hP hh.2.2 hh.2.1,
      by omega, by omega, by omega, by rw [if_neg hi, if_neg ho, if_neg hpk, if_neg hlt],
      fun sc => by rw [step sc, if_neg hi, if_neg ho, if_neg hpk, if_neg hlt]⟩)

theorem scalarGoF_inUnit (axes : List (Int × Int × Int)) :
    ∀ (coords : List Int) (sc : FVal), AxesI16 axes → CoordsI16 coords →
      InUnit f32 sc → InUnit f32 (scalarGoF sc axes coords) := by
  induction axes with
  | nil => intro coords sc _ _ h; exact h
  | cons ax rest ih =>
    intro coords sc ha hc hsc
    obtain ⟨s, p, e⟩ := ax
    have ih := fun sc => ih coords.tail sc (axesI16_tail ha) (coordsI16_tail hc)
    rcases scalarGoF_cons_cases s p e rest coords ha hc with
      ⟨_, hg⟩ | ⟨_, hg⟩ | ⟨A, B, a, b, hA, hB, h0, hab, hb, _, hg⟩
    · rw [hg]; exact ih sc hsc
    · rw [hg]; exact inUnit_zero f32
    · rw [hg]; exact ih _ (tent_factor_inUnit sc A B a b hsc hA hB h0 hab hb)

theorem scalarGoF_outside (axes : List (Int × Int × Int)) :
    ∀ (coords : List Int) (sc : FVal) (i : Nat) (a : Int × Int × Int), AxesI16 axes → CoordsI16 coords →
      axes[i]? = some a → ¬ Tent.Ignored a.1 a.2.1 a.2.2 →
      (coords.getD i 0 < a.1 ∨ coords.getD i 0 > a.2.2) → scalarGoF sc axes coords = zero := by
  induction axes with
  | nil => intro coords sc i a _ _ h; simp at h
  | cons b rest ih =>
    intro coords sc i a hax hco hget hi ho
    obtain ⟨s, p, e⟩ := b
    have hh := hax (s, p, e) (by simp)
    simp only [scalarGoF]
    cases i with
    | zero =>
      cases List.getElem?_cons_zero.symm.trans hget
      rw [Tent.getD_zero] at ho
      rw [stepF_eq sc coords s p e hco hh.1 hh.2.1 hh.2.2, if_neg hi, if_pos ho]
    | succ j =>
      split
      · rfl
      · exact ih coords.tail _ j a (axesI16_tail hax) (coordsI16_tail hco) hget hi
          (by rw [Tent.getD_tail]; exact ho)

theorem scalarGoF_peaks (axes : List (Int × Int × Int)) :
    ∀ (coords : List Int) (sc : FVal), AxesI16 axes → CoordsI16 coords →
      (∀ i a, axes[i]? = some a → Tent.Ignored a.1 a.2.1 a.2.2 ∨ coords.getD i 0 = a.2.1) →
      scalarGoF sc axes coords = sc := by
  induction axes with
  | nil => intro coords sc _ _ _; rfl
  | cons b rest ih =>
    intro coords sc hax hco h
    obtain ⟨s, p, e⟩ := b
    have hh := hax (s, p, e) (by simp)
    have hrest := ih coords.tail sc (axesI16_tail hax) (coordsI16_tail hco) fun i a hget => by
      rw [Tent.getD_tail]; exact h (i + 1) a hget
    have h0 : Tent.Ignored s p e ∨ coords.headD 0 = p := by
      have := h 0 (s, p, e) rfl; rwa [Tent.getD_zero] at this
    simp only [scalarGoF]
    rw [stepF_eq sc coords s p e hco hh.1 hh.2.1 hh.2.2]
    by_cases hi : Tent.Ignored s p e
    · rw [if_pos hi]; exact hrest
    have hp : coords.headD 0 = p := h0.resolve_left hi
    rw [if_neg hi, if_neg (by unfold Tent.Ignored at hi; omega), if_pos hp]
    exact hrest

theorem ofInt_zero (f : Fmt) : ofInt f 0 = .fin false 0 0 := by simp [ofInt, roundNE]

theorem cvt_inUnit_fin {x : FVal} (h : InUnit f32 x) : ∃ s m e, cvt f64 x = .fin s m e := by
  obtain ⟨n, q, rfl, _⟩ := h
  simp only [cvt]
  rcases roundNE_shape f64 false n q with h | ⟨m, e, h⟩
  · -- a value ≤ 1 cannot overflow f64
    rename_i hd
    have := roundNE_le_repr f64 (by decide) false n q 1 0 (by decide) (by decide) (by decide) hd
    obtain ⟨n', q', h', _⟩ := this
    rw [h'] at h; cases h
  · exact ⟨false, m, e, h⟩

theorem zero_term (x : FVal) (h : InUnit f32 x) :
    add f64 zero (mul f64 (ofInt f64 0) (cvt f64 x)) = zero := by
  obtain ⟨s, m, e, hx⟩ := cvt_inUnit_fin h
  rw [hx, ofInt_zero]
  simp [mul, roundNE, add, exactSum, zero]

theorem fromFloat_val14 {x : FVal} {v : Int} (hx : Val14 x v) :
    FixedConv.fromFloat FixedConv.F2Dot14 x = FixedConv.clampI (-32768) 32767 v :=
  FixedConv.fromFloat_scaledInt FixedConv.F2Dot14 FixedConv.f2dot14_ok (val14_scaledInt hx)

theorem delta_term_val14 (D : Int) (hD : D.natAbs < 2 ^ 24) :
    Val14 (cvt f32 (mul f64 (ofInt f64 D) (.fin false 1 (-14)))) D := by
  have h53 : D.natAbs < 2 ^ 53 := Nat.lt_of_lt_of_le hD (by decide)
  rw [ofInt_exact f64 D (by decide) (by decide) h53]
  simp only [mul, Bool.bne_false, Nat.mul_one, Int.zero_add]
  have hbl : bitLen D.natAbs ≤ 24 := bitLen_le_of_lt hD
  rw [roundNE_exact f64 _ D.natAbs (-14) h53 (by decide) (by
    show (-14 : Int) + (bitLen D.natAbs : Int) ≤ 1024; omega)]
  by_cases h0 : D.natAbs = 0
  · have : D = 0 := by omega
    subst this
    simp only [Int.natAbs_zero, if_true, cvt, roundNE]
    exact ⟨false, 0, 0, by simp, by decide, by decide, by decide, fun _ => rfl, by simp⟩
  · simp only [h0, if_false, cvt]
    rw [roundNE_fits f32 _ h0 hD (by decide) (by decide)]
    refine ⟨_, _, _, rfl, hD, by decide, by decide, fun h => absurd h h0, ?_⟩
    simp only [show ((-14 : Int) + 14).toNat = 0 by rfl, Int.pow_zero, Int.mul_one]
    by_cases hneg : D < 0
    · simp only [hneg, decide_true, if_true]; omega
    · simp only [hneg, decide_false, Bool.false_eq_true, if_false]; omega

theorem acc_int_step (S d : Int) (hS : S.natAbs < 2 ^ 52) (hd : d.natAbs < 2 ^ 52) :
    add f64 (ofInt f64 S) (mul f64 (ofInt f64 d) (cvt f64 one)) = ofInt f64 (S + d) := by
  have hS53 : S.natAbs < 2 ^ 53 := Nat.lt_of_lt_of_le hS (by decide)
  have hd53 : d.natAbs < 2 ^ 53 := Nat.lt_of_lt_of_le hd (by decide)
  have hsum : (S + d).natAbs < 2 ^ 53 := by
    have : (2 : Nat) ^ 53 = 2 ^ 52 + 2 ^ 52 := by decide
    omega
  have hone : cvt f64 one = .fin false 1 0 := by decide
  rw [hone, ofInt_exact f64 S (by decide) (by decide) hS53, ofInt_exact f64 d (by decide) (by decide) hd53,
    ofInt_exact f64 (S + d) (by decide) (by decide) hsum]
  simp only [mul, Bool.bne_false, Nat.mul_one, Int.add_zero]
  have hbd : bitLen d.natAbs ≤ 53 := bitLen_le_of_lt hd53
  rw [roundNE_exact f64 _ d.natAbs 0 hd53 (by decide) (by show (0 : Int) + (bitLen d.natAbs : Int) ≤ 1024; omega)]
  have hfin : (if d.natAbs = 0 then FVal.fin (decide (d < 0)) 0 0 else FVal.fin (decide (d < 0)) d.natAbs 0) =
      FVal.fin (decide (d < 0)) d.natAbs 0 := by
    split
    · rename_i h; rw [h]
    · rfl
  rw [hfin]
  simp only [add, exactSum, Int.le_refl, if_true, Int.sub_self, Int.toNat_zero, Int.pow_zero, Int.mul_one]
  rw [FixedConv.sgn_natAbs_decide, FixedConv.sgn_natAbs_decide]
  by_cases h0 : S + d = 0
  · simp only [h0, if_true, Int.natAbs_zero]
    congr 1
    by_cases h1 : S < 0 <;> by_cases h2 : d < 0 <;> simp [h1, h2] <;> omega
  · simp only [h0, if_false]
    rw [roundNE_fits f64 _ (by omega) hsum (by decide) (by decide)]

theorem acc_zero_step (S d : Int) (hS : S.natAbs < 2 ^ 53) (hd : d.natAbs < 2 ^ 53) :
    add f64 (ofInt f64 S) (mul f64 (ofInt f64 d) (cvt f64 zero)) = ofInt f64 S := by
  have hz : cvt f64 zero = .fin false 0 0 := by decide
  rw [hz, ofInt_exact f64 S (by decide) (by decide) hS, ofInt_exact f64 d (by decide) (by decide) hd]
  simp only [mul, Bool.bne_false, Nat.mul_zero, Int.add_zero, roundNE, if_true]
  simp only [add, exactSum, Int.le_refl, if_true, Int.sub_self, Int.toNat_zero, Int.pow_zero, Int.mul_one,
    Int.natCast_zero, Int.mul_zero, Int.add_zero]
  by_cases h0 : S = 0
  · subst h0; simp
  · rw [FixedConv.sgn_natAbs_decide]
    simp only [h0, if_false]
    rw [roundNE_fits f64 _ (by omega) hS (by decide) (by decide)]

end FontVerif.FloatDelta
