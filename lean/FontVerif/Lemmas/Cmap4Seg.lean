/-
Helper lemmas for C08 (Model/Cmap.lean): the format-4 segment computer
(`Format4SegmentComputer::{make_segment, next_possible_segment, compute}`) always produces a
valid segmentation.
-/
import FontVerif.Model.Cmap
import FontVerif.Lemmas.Cmap4
namespace FontVerif.Cmap

/-- a valid segment starting at index `segStart` of an array of `size` mappings, whose
`start_char` / `end_char` fields agree with its indices -/
structure SegAt (cp gid : Nat → Nat) (size segStart : Nat) (s : Seg) : Prop where
  start : s.startIx = segStart
  lt : s.endIx < size
  ok : SegOk cp gid s
  startChar : s.startChar = cp s.startIx
  endChar : s.endChar = cp s.endIx

theorem makeSegment_at (a : Array (Nat × Nat)) (segStart segLen : Nat) (gio : Bool)
    (hlt : segStart + segLen < a.size)
    (hrun : ∀ k, segStart ≤ k → k ≤ segStart + segLen → cpAt a k = cpAt a segStart + (k - segStart))
    (hdelta : gio = true → ∀ k, segStart ≤ k → k ≤ segStart + segLen →
      gidAt a k = gidAt a segStart + (k - segStart)) :
    SegAt (cpAt a) (gidAt a) a.size segStart (makeSegment a segStart gio segLen) := by
  refine ⟨rfl, hlt, ⟨by simp [makeSegment], ?_, ?_⟩, rfl, rfl⟩
  · intro k h1 h2
    simp only [makeSegment] at h1 h2 ⊢
    exact hrun k h1 h2
  · intro d hd k h1 h2
    simp only [makeSegment] at h1 h2 hd
    by_cases hg : gio = true
    · simp only [hg, Bool.true_or, if_true, Option.some.injEq] at hd
      have := hdelta hg k h1 h2
      have := hrun k h1 h2
      omega
    · have hg' : gio = false := by simpa using hg
      by_cases hl : segLen = 0
      · subst hl
        simp only [hg', Bool.false_or, beq_self_eq_true, if_true, Option.some.injEq] at hd
        have : k = segStart := by omega
        subst this
        omega
      · have : (segLen == 0) = false := by simpa using hl
        simp [hg', this] at hd

theorem run_extend (f : Nat → Nat) (s i : Nat)
    (h : ∀ k, s ≤ k → k ≤ s + i → f k = f s + (k - s)) (hn : f (s + 1 + i) = f (s + i) + 1) :
    ∀ k, s ≤ k → k ≤ s + (i + 1) → f k = f s + (k - s) := by
  intro k hk1 hk2
  by_cases hk : k ≤ s + i
  · exact h k hk1 hk
  · have hk' : k = s + 1 + i := by omega
    have := h (s + i) (by omega) (by omega)
    rw [hk', hn, this]
    omega

theorem npsLoop_at (a : Array (Nat × Nat)) (segStart : Nat) :
    ∀ (remaining i prevCp prevGid : Nat) (gio : Bool),
    segStart + 1 + i + remaining = a.size →
    prevCp = cpAt a (segStart + i) → prevGid = gidAt a (segStart + i) →
    (∀ k, segStart ≤ k → k ≤ segStart + i → cpAt a k = cpAt a segStart + (k - segStart)) →
    (gio = true → ∀ k, segStart ≤ k → k ≤ segStart + i → gidAt a k = gidAt a segStart + (k - segStart)) →
    SegAt (cpAt a) (gidAt a) a.size segStart (npsLoop a segStart remaining i prevCp prevGid gio) := by
  intro remaining
  induction remaining with
  | zero =>
    intro i prevCp prevGid gio hsz hcp hgid hrun hdelta
    unfold npsLoop
    have : a.size - 1 - segStart = i := by omega
    rw [this]
    exact makeSegment_at a segStart i gio (by omega) hrun hdelta
  | succ r ih =>
    intro i prevCp prevGid gio hsz hcp hgid hrun hdelta
    unfold npsLoop
    by_cases h1 : cpAt a (segStart + 1 + i) ≠ prevCp + 1
    · rw [if_pos h1]
      exact makeSegment_at a segStart i gio (by omega) hrun hdelta
    · rw [if_neg h1]
      have hc : cpAt a (segStart + 1 + i) = prevCp + 1 := by simpa using h1
      have hrunNext := run_extend (cpAt a) segStart i hrun (by rw [hc, hcp])
      by_cases h2 : prevGid + 1 ≠ gidAt a (segStart + 1 + i)
      · rw [if_pos h2]
        by_cases hg : gio = true
        · rw [if_pos hg]
          subst hg
          exact makeSegment_at a segStart i true (by omega) hrun (fun _ => hdelta rfl)
        · have hg' : gio = false := by simpa using hg
          subst hg'
          rw [if_neg (by simp)]
          exact ih (i + 1) _ _ false (by omega) (by congr 1; omega) (by congr 1; omega) hrunNext
            (fun h => by cases h)
      · rw [if_neg h2]
        have hgn : gidAt a (segStart + 1 + i) = prevGid + 1 := by
          have : ¬ (prevGid + 1 ≠ gidAt a (segStart + 1 + i)) := h2
          omega
        by_cases hg : gio = true
        · subst hg
          rw [if_neg (by simp)]
          exact ih (i + 1) _ _ true (by omega) (by congr 1; omega) (by congr 1; omega) hrunNext
            (fun _ => run_extend (gidAt a) segStart i (hdelta rfl) (by rw [hgn, hgid]))
        · have hg' : gio = false := by simpa using hg
          subst hg'
          rw [if_pos (by simp)]
          by_cases hi : i = 0
          · subst hi
            rw [if_pos rfl]
            exact ih 1 _ _ true (by omega) (by congr 1) (by congr 1) hrunNext
              (fun _ => run_extend (gidAt a) segStart 0
                (fun k h1 h2 => by rw [show k = segStart by omega, Nat.sub_self]; rfl)
                (by rw [hgn, hgid]))
          · rw [if_neg hi]
            exact makeSegment_at a segStart (i - 1) false (by omega) (fun k h1 h2 => hrun k h1 (by omega))
              (fun h => by cases h)

theorem nextPossible_spec (a : Array (Nat × Nat)) (segStart : Nat) :
    (a.size ≤ segStart → nextPossible a segStart = none) ∧
    (segStart < a.size → ∃ s, nextPossible a segStart = some s ∧ SegAt (cpAt a) (gidAt a) a.size segStart s) := by
  constructor
  · intro h
    simp [nextPossible, h]
  · intro h
    have hn : ¬ (segStart ≥ a.size) := by omega
    refine ⟨_, by simp only [nextPossible, hn, if_false]; rfl, ?_⟩
    exact npsLoop_at a segStart (a.size - segStart - 1) 0 _ _ false (by omega) rfl rfl
      (fun k h1 h2 => by have : k = segStart := by omega
                         subst this; simp) (fun h => by cases h)

theorem shouldCombine_canCombine (cur prev : Seg) (next : Option Seg)
    (h : shouldCombine cur prev next = true) : prev.canCombine cur = true := by
  unfold shouldCombine at h
  by_cases hc : prev.canCombine cur = true
  · exact hc
  · simp [hc] at h

theorem combine_at {cp gid : Nat → Nat} {size : Nat} {prev cur : Seg}
    (hp : SegAt cp gid size prev.startIx prev) (hc : SegAt cp gid size (prev.endIx + 1) cur)
    (hcan : prev.canCombine cur = true) : SegAt cp gid size prev.startIx (prev.combine cur) := by
  have hadj : prev.endChar + 1 = cur.startChar := by simpa [Seg.canCombine] using hcan
  have hple := hp.ok.le
  have hcle := hc.ok.le
  have hcs := hc.start
  refine ⟨rfl, hc.lt, ⟨?_, ?_, ?_⟩, hp.startChar, hc.endChar⟩
  · simp only [Seg.combine]; omega
  · intro k h1 h2
    simp only [Seg.combine] at h1 h2 ⊢
    by_cases hk : k ≤ prev.endIx
    · exact hp.ok.run k h1 hk
    · have r1 := hc.ok.run k (by omega) h2
      have r2 := hp.ok.run prev.endIx hple (Nat.le_refl _)
      have e1 := hp.endChar
      have e2 := hc.startChar
      omega
  · intro d hd
    simp [Seg.combine] at hd

theorem computeLoop_tile (a : Array (Nat × Nat)) :
    ∀ (fuel : Nat) (acc : List Seg) (prev : Seg),
    SegsTile (cpAt a) (gidAt a) 0 prev.startIx acc.reverse →
    SegAt (cpAt a) (gidAt a) a.size prev.startIx prev →
    a.size - (prev.endIx + 1) < fuel →
    SegsTile (cpAt a) (gidAt a) 0 a.size (computeLoop a fuel acc prev (nextPossible a (prev.endIx + 1))) := by
  intro fuel
  induction fuel with
  | zero => intro acc prev _ _ h; omega
  | succ f ih =>
    intro acc prev hacc hprev hfuel
    obtain ⟨hnone, hsome⟩ := nextPossible_spec a (prev.endIx + 1)
    by_cases hend : a.size ≤ prev.endIx + 1
    · rw [hnone hend, computeLoop, List.reverse_cons]
      have := hprev.lt
      exact hacc.append ⟨rfl, hprev.ok, show prev.endIx + 1 = a.size by omega⟩
    · obtain ⟨cur, hcur, hcurAt⟩ := hsome (by omega)
      rw [hcur, computeLoop]
      have hcle := hcurAt.ok.le
      have hcs := hcurAt.start
      have hclt := hcurAt.lt
      by_cases hsc : shouldCombine cur prev (nextPossible a (cur.endIx + 1)) = true
      · rw [if_pos hsc]
        have hcomb := combine_at hprev hcurAt (shouldCombine_canCombine _ _ _ hsc)
        exact ih acc (prev.combine cur) hacc hcomb (by simp only [Seg.combine]; omega)
      · rw [if_neg hsc]
        refine ih (prev :: acc) cur ?_ (hcs ▸ hcurAt) (by omega)
        rw [List.reverse_cons, hcs]
        exact hacc.append ⟨rfl, hprev.ok, show prev.endIx + 1 = prev.endIx + 1 from rfl⟩

theorem computeSegs_tile (a : Array (Nat × Nat)) :
    SegsTile (cpAt a) (gidAt a) 0 a.size (computeSegs a) := by
  obtain ⟨hnone, hsome⟩ := nextPossible_spec a 0
  unfold computeSegs
  by_cases h0 : a.size = 0
  · rw [hnone (by omega)]
    exact h0.symm
  · obtain ⟨first, hfirst, hat⟩ := hsome (by omega)
    rw [hfirst]
    simp only []
    have hs := hat.start
    have := hat.lt
    exact computeLoop_tile a (a.size + 1) [] first (by rw [hs]; rfl) (hs ▸ hat) (by omega)

theorem computeSegs_nil_iff (a : Array (Nat × Nat)) : computeSegs a = [] ↔ a.size = 0 := by
  have ht := computeSegs_tile a
  constructor
  · intro h; rw [h] at ht; exact ht.symm
  · intro h
    unfold computeSegs
    rw [(nextPossible_spec a 0).1 (by omega)]

end FontVerif.Cmap
