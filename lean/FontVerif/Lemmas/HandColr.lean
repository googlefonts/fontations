/-
Helper lemmas for Props/C01HandColr.lean (Model/HandColr.lean): the predicates the theorem statements use, what the
byte-level readers (`Paint::read`, `ClipBox`, the nullable-offset getters) give, and the step algebra of the COLR v1
closure (`Step`: what `k` `dispatch` calls may change of the closure context; the walk through the paint kinds is
`body_shape` of Lemmas/HandColrBody); then the v0 layer loop, the trips of `compute_checksum`, and the hdmx search
(`bitLen`, its trip bound; `hdmxStep_cases`, one trip).
-/
import FontVerif.Model.HandColr
import FontVerif.Lemmas.HandSearch
import FontVerif.Lemmas.HandRead
import FontVerif.Lemmas.HandColrBody
namespace FontVerif.HandColr
open FontVerif.HandRead FontVerif.Layout FontVerif.SubsetColrPalV1

def Bytes (d : List Nat) : Prop := ∀ x ∈ d, x < 256

/-- `num_layers` of every `PaintColrLayers` is a `u8` -/
def LayersU8 (G : Graph) : Prop := ∀ p num first, G.node p = some (.layers num first) → num ≤ 255

/-- number of base-glyph paint records (`0` when the list does not resolve) -/
def Graph.numRoots (G : Graph) : Nat := match G.baseList with | none => 0 | some recs => recs.length

theorem bs_err_le {n : Nat} {cmpAt : Nat → Ordering} {i : Nat}
    (h : binarySearchBy n cmpAt = .err i) : i ≤ n := BinSearch.err_le h

theorem be_lt (d : List Nat) (hb : ∀ x ∈ d, x < 256) (p n : Nat) : be d p n < 256 ^ n :=
  HandRead.beAt_lt d hb p n

theorem be1_lt (d : List Nat) (hb : ∀ x ∈ d, x < 256) (p : Nat) : be d p 1 < 256 := by
  have := be_lt d hb p 1; simpa using this

theorem records_length {α : Type} (f : Nat → α) (a n sz : Nat) : (records f a n sz).length = n := by
  simp [records]

theorem mem_records {α : Type} {f : Nat → α} {a n sz : Nat} {x : α} (h : x ∈ records f a n sz) :
    ∃ i, i < n ∧ x = f (a + i * sz) := by
  simp only [records, List.mem_map, List.mem_range] at h
  obtain ⟨i, hi, rfl⟩ := h
  exact ⟨i, hi, rfl⟩

/-- `opt.ok_or(NullOffset)??`: an `Err` (the getter did not give `Some(Ok(_))`), or the continuation on the resolved value -/
theorem orNull_cases {α β : Type} {x : Option (Except CErr α)} {k : α → Res β} {r : Res β} (h : orNull x k = r) :
    (∃ e, (∀ a, x ≠ some (.ok a)) ∧ r = .err e) ∨ ∃ a, x = some (.ok a) ∧ r = k a := by
  subst h
  cases x with
  | none => exact .inl ⟨_, nofun, rfl⟩
  | some y =>
    cases y with
    | error e => exact .inl ⟨e, nofun, rfl⟩
    | ok a => exact .inr ⟨a, rfl, rfl⟩

/-- `Paint::read` answers a format whose whole `MinByteRange` lies inside the data -/
theorem paintRead_eq_ok {d : List Nat} {p fmt : Nat} (h : paintRead d p = .ok fmt) :
    ∃ sz, paintSize fmt = some sz ∧ p + sz ≤ d.length ∧ 3 ≤ sz := by
  unfold paintRead at h
  obtain ⟨-, h⟩ := readAt_step h nofun
  cases hsz : paintSize (HandRead.beAt d p 1) with
  | none => rw [hsz] at h; cases h
  | some sz =>
    rw [hsz] at h
    obtain ⟨hle, h⟩ := else_step h nofun
    cases h
    exact ⟨sz, hsz, hle, paintSize_ge hsz⟩

theorem resolvePaint_ok {d : List Nat} {base off fmt p : Nat} (h : resolvePaint d base off = .ok (fmt, p)) :
    p = base + off ∧ off ≠ 0 ∧ paintRead d p = .ok fmt := by
  unfold resolvePaint at h
  obtain ⟨h0, h⟩ := then_step h nofun
  obtain ⟨-, h⟩ := then_step h nofun
  cases hf : paintRead d (base + off) with
  | error e => rw [hf] at h; cases h
  | ok f => rw [hf] at h; cases h; exact ⟨rfl, h0, hf⟩

theorem resolveClipBox_in_bounds {d : List Nat} {base off fmt p : Nat}
    (h : resolveClipBox d base off = .ok (fmt, p)) :
    p = base + off ∧ ((fmt = 1 ∧ p + 9 ≤ d.length) ∨ (fmt = 2 ∧ p + 13 ≤ d.length)) := by
  unfold resolveClipBox at h
  obtain ⟨-, h⟩ := then_step h nofun
  obtain ⟨-, h⟩ := then_step h nofun
  obtain ⟨-, h⟩ := readAt_step h nofun
  by_cases hf1 : HandRead.beAt d (base + off) 1 = 1
  · rw [if_pos hf1] at h
    obtain ⟨hl, h⟩ := else_step h nofun
    cases h
    exact ⟨rfl, .inl ⟨rfl, hl⟩⟩
  rw [if_neg hf1] at h
  obtain ⟨-, h⟩ := else_step h nofun
  obtain ⟨hl, h⟩ := else_step h nofun
  cases h
  exact ⟨rfl, .inr ⟨rfl, hl⟩⟩

theorem nodeAt_some_lt (d : List Nat) (p : Nat) (h : (nodeAt d p).isSome = true) : p < d.length := by
  unfold nodeAt at h
  cases hf : paintRead d p with
  | error e => rw [hf] at h; cases h
  | ok fmt => obtain ⟨sz, -, hle, h3⟩ := paintRead_eq_ok hf; omega

theorem ite_ne {α : Type} {c : Prop} [Decidable c] {a b x : α} (ha : a ≠ x) (hb : b ≠ x) :
    (if c then a else b) ≠ x := by
  split <;> assumption

theorem nodeAt_layers {d : List Nat} {p num first : Nat} (h : nodeAt d p = some (.layers num first)) :
    num = be d (p + 1) 1 ∧ first = be d (p + 2) 4 := by
  unfold nodeAt at h
  split at h
  · cases h
  rename_i fmt _
  split at h
  · cases h
  injection h with h
  by_cases h1 : fmt = 1
  · rw [if_pos h1] at h
    injection h with h1 h2
    exact ⟨h1.symm, h2.symm⟩
  · rw [if_neg h1] at h
    exact absurd h (ite_ne nofun (ite_ne nofun (ite_ne nofun (ite_ne nofun (ite_ne nofun (ite_ne nofun
      (ite_ne nofun (ite_ne nofun (ite_ne nofun (ite_ne nofun nofun))))))))))

/-! ## the v1 closure: what a `dispatch` call may change -/

/-- the visited set holds no duplicates and only keys of positions that hold a paint -/
def Vis (G : Graph) (c : Ctx) : Prop :=
  c.visited.Nodup ∧ ∀ v ∈ c.visited, ∃ p, (G.node p).isSome = true ∧ v = p % 4294967296

/-- `c'` is reachable from `c` by `k` `dispatch` calls (and any number of set insertions): the failure
flags and the nesting level are unchanged, the visited set only grows, and the number of `dispatch` calls
made is at most `k` plus 255 per newly visited paint. -/
def Step (G : Graph) (c c' : Ctx) (k : Nat) : Prop :=
  c'.starved = c.starved ∧ c'.trap = c.trap ∧ c'.level = c.level ∧
  (∃ ext, c'.visited = ext ++ c.visited) ∧
  c'.calls + 255 * c.visited.length ≤ c.calls + k + 255 * c'.visited.length ∧
  (Vis G c → Vis G c')

theorem step_of_core {G : Graph} {c c' : Ctx} {k : Nat} (h : core c' = core c) : Step G c c' k := by
  simp only [core, Prod.mk.injEq] at h
  obtain ⟨h1, h2, h3, h4, h5⟩ := h
  refine ⟨h5, h4, h2, ⟨[], by simp [h1]⟩, by rw [h1, h3]; omega, ?_⟩
  intro hv; unfold Vis at *; rw [h1]; exact hv

theorem step_refl {G : Graph} {k : Nat} (c : Ctx) : Step G c c k := step_of_core rfl

theorem step_trans {G : Graph} {a b c : Ctx} {k1 k2 : Nat} (h1 : Step G a b k1) (h2 : Step G b c k2) :
    Step G a c (k1 + k2) := by
  obtain ⟨a1, a2, a3, ⟨e1, a4⟩, a5, a6⟩ := h1
  obtain ⟨b1, b2, b3, ⟨e2, b4⟩, b5, b6⟩ := h2
  refine ⟨by rw [b1, a1], by rw [b2, a2], by rw [b3, a3], ⟨e2 ++ e1, by rw [b4, a4]; simp⟩, by omega,
    fun hv => b6 (a6 hv)⟩

theorem step_mono {G : Graph} {a b : Ctx} {k k' : Nat} (h : Step G a b k) (hk : k ≤ k') : Step G a b k' := by
  obtain ⟨a1, a2, a3, a4, a5, a6⟩ := h
  exact ⟨a1, a2, a3, a4, by omega, a6⟩

/-- set insertions in front of / behind `k` calls do not count -/
theorem step_core_left {G : Graph} {a b c : Ctx} {k : Nat} (h : core b = core a) (h2 : Step G b c k) : Step G a c k :=
  step_mono (step_trans (step_of_core (k := 0) h) h2) (by omega)

theorem step_core_right {G : Graph} {a b c : Ctx} {k : Nat} (h1 : Step G a b k) (h : core c = core b) : Step G a c k :=
  step_mono (step_trans h1 (step_of_core (k := 0) h)) (by omega)

theorem dispatchAll_step {G : Graph} {rec : Ctx → Nat → Ctx} {L : Nat}
    (hrec : ∀ c p, c.level = L → Step G c (rec c p) 1) :
    ∀ (ps : List Nat) (c : Ctx), c.level = L → Step G c (dispatchAll rec c ps) ps.length := by
  intro ps
  induction ps with
  | nil => intro c _; exact step_refl c
  | cons p ps ih =>
    intro c hl
    simp only [dispatchAll, List.length_cons]
    have h1 := hrec c p hl
    have h2 := ih (rec c p) (by rw [h1.2.2.1]; exact hl)
    exact step_mono (step_trans h1 h2) (by omega)

/-- one `Paint::v1_closure`: at most 255 `dispatch` calls one level down -/
theorem body_step {G : Graph} {rec : Ctx → Nat → Ctx} {L : Nat}
    (hrec : ∀ c p, c.level = L → Step G c (rec c p) 1) (c : Ctx) (hl : c.level = L) (n : PNode)
    (hnum : ∀ num first, n = .layers num first → num ≤ 255) :
    Step G c (body G rec c n) 255 := by
  obtain ⟨c1, h1, h2⟩ := body_shape G rec c n
  have hl1 : c1.level = L := (congrArg (·.2.1) h1.core).trans hl
  exact step_mono (step_core_right (step_core_left h1.core (dispatchAll_step hrec _ c1 hl1)) h2.core)
    (children_length_le G n hnum)

/-- entering a paint not yet visited, at most 255 calls below it, leaving: one call, the 255 are paid for by the new
member of the visited set -/
theorem step_visit {G : Graph} {c c2 : Ctx} {p : Nat} (hp : (G.node p).isSome = true)
    (hv : p % 4294967296 ∉ c.visited) (hz : c.level ≠ 0)
    (hb : Step G { c with calls := c.calls + 1, visited := p % 4294967296 :: c.visited, level := c.level - 1 } c2 255) :
    Step G c { c2 with level := c2.level + 1 } 1 := by
  obtain ⟨b1, b2, b3, ⟨ext, b4⟩, b5, b6⟩ := hb
  dsimp only at b3 b4 b5
  refine ⟨b1, b2, by dsimp only; omega, ⟨ext ++ [p % 4294967296], by rw [b4]; simp⟩, ?_,
    fun ⟨hnd, hprov⟩ => b6 ⟨List.nodup_cons.mpr ⟨hv, hnd⟩, fun v hvm => ?_⟩⟩
  · rw [List.length_cons] at b5
    dsimp only; omega
  · rcases List.mem_cons.mp hvm with rfl | hvm
    · exact ⟨p, hp, rfl⟩
    · exact hprov v hvm

/-- `dispatch` with fuel above the nesting level: one call, never starved, no `u8` trap -/
theorem dispatch_step {G : Graph} (hnum : LayersU8 G) :
    ∀ (fuel : Nat) (c : Ctx) (p : Nat), c.level < fuel → c.level ≤ 255 → Step G c (dispatch G fuel c p) 1
  | 0, _, _, hl, _ => absurd hl (Nat.not_lt_zero _)
  | f + 1, c, p, hl, h255 => by
    rcases dispatch_succ G f c p with ⟨-, h⟩ | ⟨n, c2, hn, hz, hv, rfl, h⟩ <;> rw [h]
    · exact ⟨rfl, rfl, rfl, ⟨[], rfl⟩, by simp <;> omega, fun h => h⟩
    · have hb := body_step (L := c.level - 1) (fun c' q hl' => dispatch_step hnum f c' q (by omega) (by omega))
        { c with calls := c.calls + 1, visited := p % 4294967296 :: c.visited, level := c.level - 1 } rfl n
        fun num first hnf => hnum p num first (hnf ▸ hn)
      have hlev := hb.2.2.1
      dsimp only at hlev
      rw [if_neg (by omega)]
      exact step_visit (by rw [hn]; rfl) hv hz hb

/-! ## the v0 layer loop, `compute_checksum`, the hdmx search: its trip bound, one trip -/

theorem v0LayerLoop_length (t : Colr) (pick : Layer → Nat) (s e : Nat) (acc : List Nat) :
    (v0LayerLoop t pick s e acc).length ≤ acc.length + (e - s) := by
  have key : ∀ (f : List Nat → Nat → List Nat) (hf : ∀ acc i, (f acc i).length ≤ acc.length + 1)
      (l : List Nat) (acc : List Nat), (l.foldl f acc).length ≤ acc.length + l.length := by
    intro f hf l
    induction l with
    | nil => intro acc; simp
    | cons x xs ih =>
      intro acc
      simp only [List.foldl_cons, List.length_cons]
      have h1 := ih (f acc x)
      have h2 := hf acc x
      omega
  unfold v0LayerLoop
  simp only []
  refine Nat.le_trans (key _ ?_ _ _) (by simp)
  intro acc i
  split
  · simp
  · omega

theorem checksumLoop_trips : ∀ (d : List Nat) (sum trips : Nat),
    (checksumLoop d sum trips).2.2 = trips + d.length / 4 := by
  intro d sum trips
  fun_induction checksumLoop d sum trips with
  | case1 a b c e rest sum trips ih => rw [ih, List.length_cons, List.length_cons, List.length_cons, List.length_cons]; omega
  | case2 rem sum trips hne =>
    have hl : rem.length < 4 := by
      match rem, hne with
      | [], _ => simp
      | [_], _ => simp
      | [_, _], _ => simp
      | [_, _, _], _ => simp
      | a :: b :: c :: e :: rest, hne => exact absurd rfl (hne a b c e rest)
    show trips = _
    omega

/-- number of binary digits -/
def bitLen : Nat → Nat
  | 0 => 0
  | n + 1 => bitLen ((n + 1) / 2) + 1
decreasing_by omega

theorem bitLen_le_iff : ∀ k n, bitLen n ≤ k ↔ n < 2 ^ k := by
  intro k
  induction k with
  | zero => intro n; cases n <;> simp [bitLen]
  | succ k ih =>
    intro n
    cases n with
    | zero => simp [bitLen, Nat.two_pow_pos]
    | succ m => rw [bitLen, Nat.add_le_add_iff_right, ih, Nat.pow_succ]; omega

theorem bitLen_le_self (n : Nat) : bitLen n ≤ n := (bitLen_le_iff n n).mpr Nat.lt_two_pow_self

theorem bitLen_le_of_lt_pow : ∀ k n, n < 2 ^ k → bitLen n ≤ k :=
  fun k n h => (bitLen_le_iff k n).mpr h

theorem bitLen_mono_half (n m : Nat) (h : m ≤ n / 2) (hn : 0 < n) : bitLen m + 1 ≤ bitLen n := by
  have h1 := (bitLen_le_iff (bitLen n) n).mp (Nat.le_refl _)
  cases hk : bitLen n with
  | zero => rw [hk] at h1; omega
  | succ k => rw [hk, Nat.pow_succ] at h1; exact Nat.succ_le_succ ((bitLen_le_iff k m).mpr (by omega))

/-- one trip of the `while lo < hi` loop of `Hdmx::record_for_size` (`lo + hi`, `mid + 1` do not overflow): it ends, or
goes on with an interval that ends no later than the old one and is at most half as long -/
theorem hdmxStep_cases (a : HdmxArr) (size : Nat) {lo hi : Nat} (hlt : lo < hi) (hmax : hi ≤ MAXU / 2) :
    hdmxStep a size lo hi = .fail ∨
    (∃ st idx, hdmxStep a size lo hi = .found st ∧ idx < hi ∧ a.get idx = some (st, size)) ∨
    ∃ lo' hi', hdmxStep a size lo hi = .go lo' hi' ∧ lo' ≤ hi' ∧ hi' ≤ hi ∧ hi' - lo' ≤ (hi - lo) / 2 := by
  have hM : MAXU = 18446744073709551615 := rfl
  obtain ⟨m1, m2, m3, m4⟩ := BinSearch.mid_facts hlt
  unfold hdmxStep addU checkedAdd
  rw [if_pos (by omega : lo + hi ≤ MAXU)]
  dsimp only
  generalize (lo + hi) / 2 = mid at *
  cases hg : a.get mid with
  | none => exact .inl rfl
  | some q =>
    obtain ⟨start, px⟩ := q
    dsimp only
    by_cases hlt2 : px < size
    · rw [if_pos hlt2, if_pos (by omega : mid + 1 ≤ MAXU)]
      exact .inr (.inr ⟨_, _, rfl, by omega, Nat.le_refl _, m3⟩)
    · rw [if_neg hlt2]
      by_cases hgt : px > size
      · rw [if_pos hgt]; exact .inr (.inr ⟨_, _, rfl, m1, by omega, m4⟩)
      · rw [if_neg hgt]; exact .inr (.inl ⟨start, mid, rfl, m2, (by omega : px = size) ▸ hg⟩)

end FontVerif.HandColr
