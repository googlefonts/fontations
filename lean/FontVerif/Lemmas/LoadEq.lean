/- helper lemmas for Props/C03Load.lean (glyph loader: skrifa = FreeType) -/
import FontVerif.Lemmas.FtEq
import FontVerif.Model.HintLoad
import FontVerif.Model.FtLoad
namespace FontVerif.C03

theorem map_eq_and_all {α β : Type} {f g : α → β} {P : β → Prop} {l : List α}
    (h : ∀ x ∈ l, f x = g x ∧ P (g x)) : l.map f = l.map g ∧ ∀ y ∈ l.map g, P y := by
  refine ⟨List.map_congr_left fun x hx => (h x hx).1, fun y hy => ?_⟩
  obtain ⟨x, hx, rfl⟩ := List.mem_map.1 hy
  exact (h x hx).2

/-- `F26Dot6::round` = `FT_PIX_ROUND` away from the i32 boundary. -/
theorem rnd_eq (a : Int) (h : -2147483648 ≤ a ∧ a < 2147483616) : HintLoad.rnd a = FtLoad.pixRound a := by
  unfold HintLoad.rnd FtLoad.pixRound
  rw [wrapI32_of_in (by omega) (by omega)]

theorem fixmul_zero (b : Int) : Fixed.mul 0 b = 0 := by
  unfold Fixed.mul
  simp only [Int.zero_mul]
  decide

theorem mapM_congr_map {α β : Type} (f g : α → β) : ∀ l : List α, (∀ x ∈ l, f x = g x) → l.map f = l.map g :=
  fun _ h => List.map_congr_left h

end FontVerif.C03
