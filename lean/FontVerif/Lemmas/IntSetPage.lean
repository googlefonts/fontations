/- C14 / IntSet helper lemmas: `BitPage` as a 512-bit natural (bit arithmetic, popCount). -/
import FontVerif.Model.IntSet
namespace FontVerif.IntSet

theorem elemMembers_eq (base elem : Nat) :
    elemMembers base elem = ((List.range 64).filter (fun i => elem.testBit i)).map (· + base) := by
  unfold elemMembers
  split
  · subst_vars; simp
  · rfl

theorem filter_range_blocks (p : Nat → Bool) (n N : Nat) (hN : N = n * 64) :
    (List.range N).filter p =
      (List.range n).flatMap
        (fun e => ((List.range 64).filter (fun i => p (i + e * 64))).map (· + e * 64)) := by
  subst hN
  induction n with
  | zero => simp
  | succ n ih =>
    rw [Nat.succ_mul, List.range_add, List.filter_append, ih, List.range_succ (n := n),
      List.flatMap_append]
    congr 1
    simp only [List.flatMap_cons, List.flatMap_nil, List.append_nil, List.filter_map]
    have : (fun x => n * 64 + x) = (fun x => x + n * 64) := by funext x; omega
    rw [this]
    congr 1

/-- `BitPage::iter` yields exactly the set bits below 512, ascending. -/
theorem pageMembers_eq (bits : Nat) :
    pageMembers bits = (List.range 512).filter (fun i => bits.testBit i) := by
  rw [filter_range_blocks (fun i => bits.testBit i) 8 512 (by omega)]
  unfold pageMembers
  congr 1
  funext e
  rw [elemMembers_eq]
  congr 1
  apply List.filter_congr
  intro i hi
  simp only [List.mem_range] at hi
  rw [Nat.testBit_mod_two_pow, Nat.testBit_div_two_pow]
  simp [hi]

theorem mem_pageMembers {bits i : Nat} : i ∈ pageMembers bits ↔ i < 512 ∧ bits.testBit i = true := by
  rw [pageMembers_eq]; simp

theorem pageMembers_sorted (bits : Nat) : (pageMembers bits).Pairwise (· < ·) := by
  rw [pageMembers_eq]
  exact List.Pairwise.filter _ (List.pairwise_lt_range)

theorem popCount_eq (bits : Nat) :
    popCount bits = (List.range 512).countP (fun i => bits.testBit i) := by
  unfold popCount
  rw [pageMembers_eq, List.countP_eq_length_filter]

theorem countP_range_congr {p q : Nat → Bool} {n : Nat} (h : ∀ j, j < n → p j = q j) :
    (List.range n).countP p = (List.range n).countP q := by
  apply List.countP_congr
  intro x hx
  simp only [List.mem_range] at hx
  rw [h x hx]

theorem countP_range_flip (p q : Nat → Bool) (n i : Nat) (hi : i < n)
    (hne : ∀ j, j ≠ i → q j = p j) (hpi : p i = false) (hqi : q i = true) :
    (List.range n).countP q = (List.range n).countP p + 1 := by
  induction n with
  | zero => omega
  | succ n ih =>
    rw [List.range_succ, List.countP_append, List.countP_append]
    by_cases hin : i = n
    · subst hin
      have : (List.range i).countP q = (List.range i).countP p :=
        countP_range_congr (fun j hj => hne j (by omega))
      simp [this, hpi, hqi]
    · have := ih (by omega)
      have h2 := hne n (by omega)
      simp [this, h2]
      omega

theorem popCount_zero : popCount 0 = 0 := by
  rw [popCount_eq]; simp

theorem popCount_le (bits : Nat) : popCount bits ≤ 512 := by
  rw [popCount_eq]
  have := List.countP_le_length (p := fun i => bits.testBit i) (l := List.range 512)
  simpa using this

theorem popCount_eq_zero_iff {bits : Nat} :
    popCount bits = 0 ↔ ∀ i, i < 512 → bits.testBit i = false := by
  rw [popCount_eq, List.countP_eq_zero]
  simp

theorem popCount_mono {a b : Nat} (h : ∀ i, i < 512 → a.testBit i = true → b.testBit i = true) :
    popCount a ≤ popCount b := by
  rw [popCount_eq, popCount_eq]
  apply List.countP_mono_left
  intro x hx
  simp only [List.mem_range] at hx
  exact h x hx

theorem popCount_congr {a b : Nat} (h : ∀ i, i < 512 → a.testBit i = b.testBit i) :
    popCount a = popCount b := by
  rw [popCount_eq, popCount_eq]
  exact countP_range_congr h

theorem popCount_flip {a b i : Nat} (hi : i < 512) (ha : a.testBit i = false)
    (hb : b.testBit i = true) (hne : ∀ j, j ≠ i → b.testBit j = a.testBit j) :
    popCount b = popCount a + 1 := by
  rw [popCount_eq, popCount_eq]
  exact countP_range_flip _ _ 512 i hi hne ha hb

theorem testBit_andNot (a m j : Nat) :
    (a ^^^ (a &&& m)).testBit j = (a.testBit j && !m.testBit j) := by
  rw [Nat.testBit_xor, Nat.testBit_and]
  cases a.testBit j <;> cases m.testBit j <;> rfl

theorem andNot_lt {a m n : Nat} (h : a < 2 ^ n) : a ^^^ (a &&& m) < 2 ^ n := by
  apply Nat.lt_pow_two_of_testBit
  intro i hi
  rw [testBit_andNot]
  have : a.testBit i = false := Nat.testBit_lt_two_pow (Nat.lt_of_lt_of_le h (Nat.pow_le_pow_right (by omega) hi))
  simp [this]

theorem testBit_rangeMask (f l j : Nat) (h : f ≤ l) :
    (rangeMask f l).testBit j = (decide (f ≤ j) && decide (j ≤ l)) := by
  unfold rangeMask
  rw [Nat.testBit_shiftLeft, Nat.testBit_two_pow_sub_one]
  by_cases h1 : f ≤ j <;> by_cases h2 : j ≤ l <;> simp [h1, h2] <;> omega

theorem rangeMask_lt {f l : Nat} (h : f ≤ l) (hl : l < 512) : rangeMask f l < 2 ^ 512 := by
  apply Nat.lt_pow_two_of_testBit
  intro i hi
  rw [testBit_rangeMask _ _ _ h]
  simp; omega

theorem testBit_opUnion (a b i : Nat) :
    (opUnion a b).testBit i = (a.testBit i || b.testBit i) := Nat.testBit_or a b i
theorem testBit_opIntersect (a b i : Nat) :
    (opIntersect a b).testBit i = (a.testBit i && b.testBit i) := Nat.testBit_and a b i
theorem testBit_opSubtract (a b i : Nat) :
    (opSubtract a b).testBit i = (a.testBit i && !b.testBit i) := testBit_andNot a b i
theorem testBit_opRevSubtract (a b i : Nat) :
    (opRevSubtract a b).testBit i = (!a.testBit i && b.testBit i) := by
  unfold opRevSubtract; rw [testBit_andNot]; cases a.testBit i <;> cases b.testBit i <;> rfl

/-- a page is well formed: 512 bits of storage and an exact cached length -/
def PageOk (p : Page) : Prop := p.bits < 2 ^ 512 ∧ p.len = popCount p.bits

theorem pageOk_zero : PageOk Page.zero := by
  refine ⟨Nat.two_pow_pos 512, ?_⟩
  simp [Page.zero, popCount_zero]

theorem pageOk_ofBits {b : Nat} (h : b < 2 ^ 512) : PageOk (Page.ofBits b) := ⟨h, rfl⟩

theorem page_len_ne_zero_iff {p : Page} (hp : PageOk p) :
    p.len ≠ 0 ↔ ∃ i, i < 512 ∧ p.bits.testBit i = true := by
  rw [Ne, hp.2, popCount_eq_zero_iff]
  constructor
  · intro h
    apply Classical.byContradiction
    intro hne
    exact h (fun i hi => by
      cases hb : p.bits.testBit i
      · rfl
      · exact absurd ⟨i, hi, hb⟩ hne)
  · rintro ⟨i, hi, hb⟩ h
    rw [h i hi] at hb
    exact absurd hb Bool.false_ne_true

theorem two_pow_lt_512 {i : Nat} (h : i < 512) : 2 ^ i < 2 ^ 512 :=
  Nat.pow_lt_pow_right (by omega) h

theorem pageInsert_bits (p : Page) (v j : Nat) :
    (pageInsert p v).1.bits.testBit j = (p.bits.testBit j || decide (v % 512 = j)) := by
  simp [pageInsert, Nat.testBit_or, Nat.testBit_two_pow]

theorem pageInsert_snd (p : Page) (v : Nat) :
    (pageInsert p v).2 = !p.bits.testBit (v % 512) := rfl

theorem pageInsert_len (p : Page) (v : Nat) :
    (pageInsert p v).1.len = p.len + (if (pageInsert p v).2 then 1 else 0) := rfl

theorem pageInsert_ok (p : Page) (v : Nat) (h : PageOk p) : PageOk (pageInsert p v).1 := by
  have hv : v % 512 < 512 := Nat.mod_lt _ (by omega)
  refine ⟨Nat.or_lt_two_pow h.1 (two_pow_lt_512 hv), ?_⟩
  rw [pageInsert_len, pageInsert_snd, h.2]
  cases hb : p.bits.testBit (v % 512)
  · exact (popCount_flip hv hb (by simp [pageInsert_bits])
      (fun j hj => by simp [pageInsert_bits, Ne.symm hj])).symm
  · refine popCount_congr (fun i _ => ?_)
    rw [pageInsert_bits]
    by_cases hi : v % 512 = i
    · subst hi; simp [hb]
    · simp [hi]

theorem pageRemove_bits (p : Page) (v j : Nat) :
    (pageRemove p v).1.bits.testBit j = (p.bits.testBit j && !decide (v % 512 = j)) := by
  simp only [pageRemove, testBit_andNot, Nat.testBit_two_pow]

theorem pageRemove_snd (p : Page) (v : Nat) :
    (pageRemove p v).2 = p.bits.testBit (v % 512) := rfl

theorem pageRemove_len (p : Page) (v : Nat) :
    (pageRemove p v).1.len = p.len - (if (pageRemove p v).2 then 1 else 0) := rfl

theorem pageRemove_popCount (p : Page) (v : Nat) (hb : p.bits.testBit (v % 512) = true) :
    popCount p.bits = popCount (pageRemove p v).1.bits + 1 :=
  popCount_flip (Nat.mod_lt _ (by omega)) (by simp [pageRemove_bits]) hb
    (fun j hj => by simp [pageRemove_bits, Ne.symm hj])

theorem pageRemove_ok (p : Page) (v : Nat) (h : PageOk p) : PageOk (pageRemove p v).1 := by
  refine ⟨andNot_lt h.1, ?_⟩
  rw [pageRemove_len, pageRemove_snd, h.2]
  cases hb : p.bits.testBit (v % 512)
  · refine popCount_congr (fun i _ => ?_)
    rw [pageRemove_bits]
    by_cases hi : v % 512 = i
    · subst hi; simp [hb]
    · simp [hi]
  · have := pageRemove_popCount p v hb
    simp only [if_true]
    omega

/-- `remove` returns `true` only on a non-empty page (so the cached lengths never underflow) -/
theorem pageRemove_len_pos (p : Page) (v : Nat) (h : PageOk p) (hr : (pageRemove p v).2 = true) :
    (pageRemove p v).1.len + 1 = p.len := by
  rw [(pageRemove_ok p v h).2, h.2]
  exact (pageRemove_popCount p v hr).symm

theorem pageInsertRange_bits (p : Page) (a b j : Nat) (h : a % 512 ≤ b % 512) :
    (pageInsertRange p a b).bits.testBit j =
      (p.bits.testBit j || (decide (a % 512 ≤ j) && decide (j ≤ b % 512))) := by
  simp only [pageInsertRange, h, if_true, Nat.testBit_or, testBit_rangeMask _ _ _ h]

theorem pageInsertRange_ok (p : Page) (a b : Nat) (h : PageOk p) : PageOk (pageInsertRange p a b) := by
  refine ⟨?_, rfl⟩
  simp only [pageInsertRange]
  split
  · rename_i hle
    exact Nat.or_lt_two_pow h.1 (rangeMask_lt hle (Nat.mod_lt _ (by omega)))
  · exact h.1

theorem pageInsertRange_len_ge (p : Page) (a b : Nat) (h : PageOk p) :
    p.len ≤ (pageInsertRange p a b).len := by
  have : (pageInsertRange p a b).len = popCount (pageInsertRange p a b).bits := rfl
  rw [this, h.2]
  apply popCount_mono
  intro i _ hi
  unfold pageInsertRange
  simp only []
  split
  · rw [Nat.testBit_or, hi]; rfl
  · exact hi

theorem pageRemoveRange_bits (p : Page) (a b j : Nat) (h : a % 512 ≤ b % 512) :
    (pageRemoveRange p a b).bits.testBit j =
      (p.bits.testBit j && !(decide (a % 512 ≤ j) && decide (j ≤ b % 512))) := by
  simp only [pageRemoveRange, h, if_true, testBit_andNot, testBit_rangeMask _ _ _ h]

theorem pageRemoveRange_ok (p : Page) (a b : Nat) (h : PageOk p) : PageOk (pageRemoveRange p a b) := by
  refine ⟨?_, rfl⟩
  simp only [pageRemoveRange]
  split
  · exact andNot_lt h.1
  · exact h.1

end FontVerif.IntSet
