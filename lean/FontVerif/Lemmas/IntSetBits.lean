/- C14 / IntSet helper lemmas: the sorted page list of `BitSet` and its mutators. -/
import FontVerif.Lemmas.IntSetPage
import FontVerif.Lemmas.SortedMap
namespace FontVerif.IntSet

/-- pages strictly sorted by major value -/
def Sorted (ps : Pages) : Prop := ps.Pairwise (fun a b => a.1 < b.1)

/-- sorted, and every page well formed (`bits < 2^512`, cached `len = popCount bits`) -/
def PagesInv (ps : Pages) : Prop := Sorted ps ∧ ∀ kp ∈ ps, PageOk kp.2

/-- representation invariant of `BitSet` -/
def BInv (s : BitSet) : Prop := PagesInv s.pages ∧ s.len = sumLens s.pages

/-- membership as a function of the page list -/
def containsP (ps : Pages) (v : Nat) : Bool :=
  match lookup ps (majorOf v) with
  | some p => pageContains p v
  | none => false

theorem BitSet.contains_eq (s : BitSet) (v : Nat) : s.contains v = containsP s.pages v := rfl

theorem sorted_nil : Sorted [] := List.Pairwise.nil

theorem sorted_cons {kp : Nat × Page} {ps : Pages} :
    Sorted (kp :: ps) ↔ (∀ q ∈ ps, kp.1 < q.1) ∧ Sorted ps := List.pairwise_cons

theorem sorted_iff_keys (ps : Pages) : Sorted ps ↔ (ps.map (·.1)).Pairwise (· < ·) := by
  unfold Sorted
  rw [List.pairwise_map]

theorem pagesInv_nil : PagesInv [] := ⟨sorted_nil, by simp⟩

theorem pagesInv_cons {kp : Nat × Page} {ps : Pages} :
    PagesInv (kp :: ps) ↔ (∀ q ∈ ps, kp.1 < q.1) ∧ PageOk kp.2 ∧ PagesInv ps := by
  simp only [PagesInv, sorted_cons, List.mem_cons, forall_eq_or_imp]
  constructor
  · rintro ⟨⟨h1, h2⟩, h3, h4⟩; exact ⟨h1, h3, h2, h4⟩
  · rintro ⟨h1, h3, h2, h4⟩; exact ⟨⟨h1, h2⟩, h3, h4⟩

theorem bInv_empty : BInv BitSet.empty := ⟨pagesInv_nil, rfl⟩

theorem foldl_len_acc (ps : Pages) (a : Nat) :
    ps.foldl (fun acc kp => acc + kp.2.len) a = a + ps.foldl (fun acc kp => acc + kp.2.len) 0 := by
  induction ps generalizing a with
  | nil => simp
  | cons kp ps ih =>
    simp only [List.foldl_cons]
    rw [ih, ih (0 + kp.2.len)]
    omega

theorem sumLens_nil : sumLens [] = 0 := rfl

theorem sumLens_cons (kp : Nat × Page) (ps : Pages) : sumLens (kp :: ps) = kp.2.len + sumLens ps := by
  unfold sumLens
  simp only [List.foldl_cons]
  rw [foldl_len_acc]
  omega

theorem sumLens_append (as bs : Pages) : sumLens (as ++ bs) = sumLens as + sumLens bs := by
  induction as with
  | nil => simp [sumLens_nil]
  | cons a as ih => simp only [List.cons_append, sumLens_cons, ih]; omega

theorem lookup_cons (k : Nat) (p : Page) (ps : Pages) (m : Nat) :
    lookup ((k, p) :: ps) m = if k = m then some p else lookup ps m := rfl

theorem lookup_some_mem {ps : Pages} {m : Nat} {p : Page} (h : lookup ps m = some p) : (m, p) ∈ ps := by
  induction ps with
  | nil => simp [lookup] at h
  | cons kp ps ih =>
    obtain ⟨k, q⟩ := kp
    simp only [lookup] at h
    split at h
    · simp at h; subst h; subst_vars; simp
    · simp [ih h]

theorem lookup_none_of_keys {ps : Pages} {m : Nat} (h : ∀ kp ∈ ps, kp.1 ≠ m) : lookup ps m = none :=
  Option.eq_none_iff_forall_ne_some.2 (fun _ hp => h _ (lookup_some_mem hp) rfl)

theorem lookup_none_of_lt {ps : Pages} {m : Nat} (h : ∀ kp ∈ ps, m < kp.1) : lookup ps m = none :=
  lookup_none_of_keys (fun kp hkp => Nat.ne_of_gt (h kp hkp))

theorem lookup_ne_none_of_mem {ps : Pages} {q : Nat × Page} (h : q ∈ ps) : lookup ps q.1 ≠ none := by
  induction ps with
  | nil => exact absurd h List.not_mem_nil
  | cons kp ps ih =>
    rw [lookup]
    by_cases hk : kp.1 = q.1
    · rw [if_pos hk]; exact Option.some_ne_none _
    · rw [if_neg hk]
      exact ih ((List.mem_cons.1 h).resolve_left (fun he => hk (by rw [he])))

theorem lookup_cons_lt {k : Nat} {p : Page} {ps : Pages} {m : Nat}
    (hs : Sorted ((k, p) :: ps)) (h : m < k) : lookup ((k, p) :: ps) m = none := by
  apply lookup_none_of_lt
  intro q hq
  simp only [List.mem_cons] at hq
  rcases hq with rfl | hq
  · exact h
  · have := (sorted_cons.1 hs).1 q hq; simp only at this; omega

theorem lookup_tail_self {k : Nat} {p : Page} {ps : Pages} (hs : Sorted ((k, p) :: ps)) :
    lookup ps k = none := by
  apply lookup_none_of_lt
  intro q hq
  exact (sorted_cons.1 hs).1 q hq

theorem lookup_of_mem {ps : Pages} (hs : Sorted ps) {m : Nat} {p : Page} (h : (m, p) ∈ ps) :
    lookup ps m = some p := by
  induction ps with
  | nil => simp at h
  | cons kp ps ih =>
    obtain ⟨k, q⟩ := kp
    rw [sorted_cons] at hs
    simp only [lookup]
    simp only [List.mem_cons] at h
    rcases h with h | h
    · injection h with h1 h2; subst h1; subst h2; simp
    · have := hs.1 _ h
      simp only at this
      rw [if_neg (by omega)]
      exact ih hs.2 h

theorem lookup_ok {ps : Pages} (h : PagesInv ps) {m : Nat} {p : Page} (hl : lookup ps m = some p) :
    PageOk p := h.2 _ (lookup_some_mem hl)

theorem getD_ok {ps : Pages} (h : PagesInv ps) (m : Nat) : PageOk ((lookup ps m).getD Page.zero) := by
  cases hl : lookup ps m with
  | none => exact pageOk_zero
  | some p => exact lookup_ok h hl

/-- membership only depends on the (possibly missing = zero) page of the value's major -/
theorem containsP_getD (ps : Pages) (v : Nat) :
    containsP ps v = pageContains ((lookup ps (majorOf v)).getD Page.zero) v := by
  unfold containsP
  cases lookup ps (majorOf v) with
  | none => simp [pageContains, Page.zero]
  | some p => rfl

theorem lookup_eq_list (ps : Pages) (m : Nat) : lookup ps m = ps.lookup m := by
  induction ps with
  | nil => rfl
  | cons kp ps ih =>
    obtain ⟨k, p⟩ := kp
    rw [lookup_cons, SMap.lookup_cons, ih]
    by_cases h : k = m
    · rw [if_pos h, if_pos h.symm]
    · rw [if_neg h, if_neg (Ne.symm h)]

/-- on a sorted page list `ensure_page_index_for_major` is the `BTreeMap` insertion of Lemmas/SortedMap, of the page
that is there already or of the zero page -/
theorem ensurePage_eq_insert {ps : Pages} (hs : Sorted ps) (m : Nat) :
    ensurePage ps m = SMap.insert m ((lookup ps m).getD Page.zero) ps := by
  induction ps with
  | nil => rfl
  | cons q ps ih =>
    obtain ⟨k, p⟩ := q
    rw [ensurePage, SMap.insert_cons]
    by_cases h1 : m < k
    · rw [if_pos h1, if_pos h1, lookup_cons_lt hs h1]; rfl
    · rw [if_neg h1, if_neg h1, lookup_cons]
      by_cases h2 : m = k
      · rw [if_pos h2, if_pos h2, if_pos h2.symm, h2]; rfl
      · rw [if_neg h2, if_neg h2, if_neg (Ne.symm h2), ih (sorted_cons.1 hs).2]

theorem ensurePage_sorted {ps : Pages} (m : Nat) (hs : Sorted ps) : Sorted (ensurePage ps m) := by
  rw [ensurePage_eq_insert hs]
  exact SMap.insert_sorted _ _ hs

theorem ensurePage_inv {ps : Pages} (m : Nat) (h : PagesInv ps) : PagesInv (ensurePage ps m) := by
  rw [ensurePage_eq_insert h.1]
  refine ⟨SMap.insert_sorted _ _ h.1, fun kp hkp => ?_⟩
  rcases SMap.mem_insert hkp with rfl | hkp
  · exact getD_ok h m
  · exact h.2 kp hkp

theorem lookup_ensurePage {ps : Pages} (hs : Sorted ps) (m k : Nat) :
    lookup (ensurePage ps m) k =
      if k = m then some ((lookup ps m).getD Page.zero) else lookup ps k := by
  rw [ensurePage_eq_insert hs]
  simp only [lookup_eq_list, SMap.lookup_insert]

theorem sumLens_ensurePage (ps : Pages) (m : Nat) : sumLens (ensurePage ps m) = sumLens ps := by
  induction ps with
  | nil => simp [ensurePage, sumLens_cons, sumLens_nil, Page.zero]
  | cons q ps ih =>
    obtain ⟨k, p⟩ := q
    simp only [ensurePage]
    split
    · simp [sumLens_cons, Page.zero]
    · split
      · rfl
      · simp only [sumLens_cons, ih]

theorem setPage_cons (k : Nat) (p : Page) (ps : Pages) (m : Nat) (q : Page) :
    setPage ((k, p) :: ps) m q = if k = m then (k, q) :: ps else (k, p) :: setPage ps m q := rfl

theorem mem_setPage {ps : Pages} {m : Nat} {q : Page} {kp : Nat × Page} (h : kp ∈ setPage ps m q) :
    kp ∈ ps ∨ kp = (m, q) := by
  induction ps with
  | nil => exact absurd h List.not_mem_nil
  | cons r ps ih =>
    obtain ⟨k, p⟩ := r
    rw [setPage_cons] at h
    by_cases hk : k = m
    · rw [if_pos hk] at h
      rcases List.mem_cons.1 h with h | h
      · exact Or.inr (hk ▸ h)
      · exact Or.inl (List.mem_cons_of_mem _ h)
    · rw [if_neg hk] at h
      rcases List.mem_cons.1 h with h | h
      · exact Or.inl (h ▸ List.mem_cons_self ..)
      · exact (ih h).imp_left (List.mem_cons_of_mem _)

theorem setPage_keys (ps : Pages) (m : Nat) (q : Page) :
    (setPage ps m q).map (·.1) = ps.map (·.1) := by
  induction ps with
  | nil => rfl
  | cons r ps ih =>
    obtain ⟨k, p⟩ := r
    simp only [setPage]
    split
    · simp
    · simp [ih]

theorem setPage_sorted {ps : Pages} (m : Nat) (q : Page) (hs : Sorted ps) : Sorted (setPage ps m q) := by
  rw [sorted_iff_keys, setPage_keys, ← sorted_iff_keys]; exact hs

theorem setPage_inv {ps : Pages} (m : Nat) {q : Page} (h : PagesInv ps) (hq : PageOk q) :
    PagesInv (setPage ps m q) := by
  refine ⟨setPage_sorted m q h.1, ?_⟩
  intro kp hkp
  rcases mem_setPage hkp with hkp | hkp
  · exact h.2 kp hkp
  · subst hkp; exact hq

theorem lookup_setPage (ps : Pages) (m : Nat) (q : Page) (k : Nat) :
    lookup (setPage ps m q) k =
      if k = m then (lookup ps m).map (fun _ => q) else lookup ps k := by
  induction ps with
  | nil => simp [setPage, lookup]
  | cons r ps ih =>
    obtain ⟨a, p⟩ := r
    rw [setPage_cons]
    by_cases ham : a = m
    · rw [if_pos ham, lookup_cons, lookup_cons, lookup_cons, if_pos ham]
      by_cases h : a = k
      · rw [if_pos h, if_pos (h.symm.trans ham)]; rfl
      · rw [if_neg h, if_neg h, if_neg (fun h' => h (ham.trans h'.symm))]
    · rw [if_neg ham, lookup_cons, lookup_cons, lookup_cons, ih, if_neg ham]
      by_cases h : a = k
      · rw [if_pos h, if_pos h, if_neg (fun h' => ham (h.trans h'))]
      · rw [if_neg h, if_neg h]

theorem sumLens_setPage {ps : Pages} {m : Nat} {p : Page} (q : Page) (h : lookup ps m = some p) :
    sumLens (setPage ps m q) + p.len = sumLens ps + q.len := by
  induction ps with
  | nil => exact absurd h (by simp [lookup])
  | cons r ps ih =>
    obtain ⟨a, p'⟩ := r
    rw [lookup_cons] at h
    rw [setPage_cons]
    by_cases ham : a = m
    · rw [if_pos ham] at h ⊢
      injection h with h; subst h
      simp only [sumLens_cons]; omega
    · rw [if_neg ham] at h ⊢
      have := ih h
      simp only [sumLens_cons]; omega

/-- the combination used by every single-page mutator: make sure page `m` exists, then
overwrite it -/
theorem ensure_set_spec {ps : Pages} (m : Nat) {q : Page} (hinv : PagesInv ps) (hq : PageOk q) :
    PagesInv (setPage (ensurePage ps m) m q) ∧
    (∀ k, lookup (setPage (ensurePage ps m) m q) k = if k = m then some q else lookup ps k) ∧
    sumLens (setPage (ensurePage ps m) m q) + ((lookup ps m).getD Page.zero).len
      = sumLens ps + q.len := by
  refine ⟨setPage_inv m (ensurePage_inv m hinv) hq, ?_, ?_⟩
  · intro k
    rw [lookup_setPage, lookup_ensurePage hinv.1, lookup_ensurePage hinv.1]
    by_cases h : k = m
    · subst h; simp
    · simp [h]
  · have h1 : lookup (ensurePage ps m) m = some ((lookup ps m).getD Page.zero) := by
      rw [lookup_ensurePage hinv.1]; simp
    have := sumLens_setPage q h1
    rw [sumLens_ensurePage] at this
    exact this

theorem majorOf_mono {a b : Nat} (h : a ≤ b) : majorOf a ≤ majorOf b := Nat.div_le_div_right h

theorem majorOf_eq_iff {x M : Nat} :
    majorOf x = M ↔ majorStart M ≤ x ∧ x ≤ majorStart M + 511 := by
  unfold majorOf majorStart; omega

theorem mem_own_page (x : Nat) : majorStart (majorOf x) ≤ x ∧ x ≤ majorStart (majorOf x) + 511 :=
  majorOf_eq_iff.1 rfl

theorem majorStart_lt {a b : Nat} (h : a < b) : majorStart a + 511 < majorStart b := by
  unfold majorStart; omega

/-- a page from that of `a` to that of `b` meets `[a, b]` -/
theorem page_window {a b M : Nat} (hab : a ≤ b) (h1 : majorOf a ≤ M) (h2 : M ≤ majorOf b) :
    max a (majorStart M) ≤ min b (majorStart M + 511) := by
  have ha := (mem_own_page a).2
  have hb := (mem_own_page b).1
  unfold majorStart at *; omega

theorem decide_and_congr {p q r s : Prop} [Decidable p] [Decidable q] [Decidable r] [Decidable s]
    (h : p ∧ q ↔ r ∧ s) : (decide p && decide q) = (decide r && decide s) := by
  rw [← Bool.decide_and, ← Bool.decide_and]; exact decide_eq_decide.2 h

theorem decide_empty_range {a b : Nat} (h : a > b) (x : Nat) :
    (decide (a ≤ x) && decide (x ≤ b)) = false := by
  rw [← Bool.decide_and]; exact decide_eq_false (by omega)

theorem mod_of_page {v M : Nat} (h1 : majorStart M ≤ v) (h2 : v ≤ majorStart M + 511) :
    v % 512 = v - majorStart M := by
  unfold majorStart at *; omega

theorem decide_clip {lo hi x M : Nat} (hx : majorOf x = M) (hlo : majorStart M ≤ lo) (hle : lo ≤ hi)
    (hhi : hi ≤ majorStart M + 511) :
    (decide (lo % 512 ≤ x % 512) && decide (x % 512 ≤ hi % 512)) =
      (decide (lo ≤ x) && decide (x ≤ hi)) := by
  have hx' := majorOf_eq_iff.1 hx
  apply decide_and_congr
  rw [mod_of_page hlo (by omega), mod_of_page (by omega) hhi, mod_of_page hx'.1 hx'.2]
  omega

theorem mod_le_mod_of_page {lo hi M : Nat} (hlo : majorStart M ≤ lo) (hle : lo ≤ hi)
    (hhi : hi ≤ majorStart M + 511) : lo % 512 ≤ hi % 512 := by
  rw [mod_of_page hlo (by omega), mod_of_page (by omega) hhi]
  omega

theorem eq_of_major_minor {x v : Nat} (h1 : majorOf x = majorOf v) (h2 : x % 512 = v % 512) :
    x = v := by
  unfold majorOf at h1; omega

theorem decide_minor_eq {x v : Nat} (hm : majorOf x = majorOf v) :
    decide (v % 512 = x % 512) = decide (x = v) :=
  decide_eq_decide.2 ⟨fun h => eq_of_major_minor hm h.symm, fun h => by rw [h]⟩

theorem decide_eq_false_of_major {x v : Nat} (hm : ¬ majorOf x = majorOf v) :
    decide (x = v) = false :=
  decide_eq_false (fun h => hm (by rw [h]))

theorem major_minor_of (k i : Nat) (hi : i < 512) :
    majorOf (k * 512 + i) = k ∧ (k * 512 + i) % 512 = i := by
  unfold majorOf; omega

theorem contains_page {s : BitSet} {k : Nat} {p : Page} (hl : lookup s.pages k = some p) {j : Nat}
    (hj : j < 512) : s.contains (k * 512 + j) = p.bits.testBit j := by
  unfold BitSet.contains
  rw [(major_minor_of k j hj).1, hl]
  simp only [pageContains, (major_minor_of k j hj).2]

theorem pageInsert_contains (p : Page) {v x : Nat} (hm : majorOf x = majorOf v) :
    pageContains (pageInsert p v).1 x = (decide (x = v) || pageContains p x) := by
  rw [pageContains, pageInsert_bits, decide_minor_eq hm, Bool.or_comm]; rfl

theorem pageRemove_contains (p : Page) {v x : Nat} (hm : majorOf x = majorOf v) :
    pageContains (pageRemove p v).1 x = (!decide (x = v) && pageContains p x) := by
  rw [pageContains, pageRemove_bits, decide_minor_eq hm, Bool.and_comm]; rfl

theorem pageInsertRange_contains (p : Page) {lo hi x M : Nat} (hx : majorOf x = M)
    (hlo : majorStart M ≤ lo) (hle : lo ≤ hi) (hhi : hi ≤ majorStart M + 511) :
    pageContains (pageInsertRange p lo hi) x =
      (pageContains p x || (decide (lo ≤ x) && decide (x ≤ hi))) := by
  rw [pageContains, pageInsertRange_bits _ _ _ _ (mod_le_mod_of_page hlo hle hhi),
    decide_clip hx hlo hle hhi]
  rfl

theorem pageRemoveRange_contains (p : Page) {lo hi x M : Nat} (hx : majorOf x = M)
    (hlo : majorStart M ≤ lo) (hle : lo ≤ hi) (hhi : hi ≤ majorStart M + 511) :
    pageContains (pageRemoveRange p lo hi) x =
      (pageContains p x && !(decide (lo ≤ x) && decide (x ≤ hi))) := by
  rw [pageContains, pageRemoveRange_bits _ _ _ _ (mod_le_mod_of_page hlo hle hhi),
    decide_clip hx hlo hle hhi]
  rfl

theorem BitSet.insert_eq (s : BitSet) (v : Nat) (hs : Sorted s.pages) :
    s.insert v =
      let p := (lookup s.pages (majorOf v)).getD Page.zero
      let r := pageInsert p v
      (⟨setPage (ensurePage s.pages (majorOf v)) (majorOf v) r.1,
        s.len + (if r.2 then 1 else 0)⟩, r.2) := by
  unfold BitSet.insert
  simp only []
  rw [lookup_ensurePage hs]
  simp

theorem BitSet.insert_spec (s : BitSet) (v : Nat) (h : BInv s) :
    (BInv (s.insert v).1 ∧ ∀ x, (s.insert v).1.contains x = (decide (x = v) || s.contains x)) ∧
    (s.insert v).2 = !s.contains v := by
  rw [BitSet.insert_eq s v h.1.1]
  simp only []
  have hq := pageInsert_ok _ v (getD_ok h.1 (majorOf v))
  obtain ⟨h1, h2, h3⟩ := ensure_set_spec (majorOf v) h.1 hq
  refine ⟨⟨⟨h1, ?_⟩, fun x => ?_⟩, ?_⟩
  · simp only []
    rw [pageInsert_len] at h3
    rw [h.2]
    omega
  · simp only [BitSet.contains_eq]
    rw [containsP_getD, h2, containsP_getD]
    by_cases hm : majorOf x = majorOf v
    · rw [if_pos hm, Option.getD_some, pageInsert_contains _ hm, hm]
    · rw [if_neg hm, decide_eq_false_of_major hm, Bool.false_or]
  · simp only [BitSet.contains_eq, containsP_getD, pageInsert_snd, pageContains]

theorem BitSet.remove_spec (s : BitSet) (v : Nat) (h : BInv s) :
    (BInv (s.remove v).1 ∧ ∀ x, (s.remove v).1.contains x = (!decide (x = v) && s.contains x)) ∧
    (s.remove v).2 = s.contains v := by
  unfold BitSet.remove
  simp only []
  split
  · rename_i hl
    refine ⟨⟨h, fun x => ?_⟩, by simp [BitSet.contains, hl]⟩
    simp only [BitSet.contains_eq]
    by_cases hxv : x = v
    · subst hxv; simp [containsP, hl]
    · simp [hxv]
  · rename_i p hl
    have hp := lookup_ok h.1 hl
    refine ⟨⟨⟨setPage_inv _ h.1 (pageRemove_ok p v hp), ?_⟩, fun x => ?_⟩,
      by simp [BitSet.contains, hl, pageRemove_snd, pageContains]⟩
    · simp only []
      have h3 := sumLens_setPage (pageRemove p v).1 hl
      rw [h.2]
      cases hr : (pageRemove p v).2
      · have := pageRemove_len p v
        rw [hr] at this
        simp only [Bool.false_eq_true, if_false, Nat.sub_zero] at this ⊢
        omega
      · have := pageRemove_len_pos p v hp hr
        simp only [if_true]
        omega
    · simp only [BitSet.contains_eq]
      rw [containsP_getD, lookup_setPage, containsP_getD]
      by_cases hm : majorOf x = majorOf v
      · rw [if_pos hm, hm, hl, Option.map_some, Option.getD_some, Option.getD_some,
          pageRemove_contains p hm]
      · rw [if_neg hm, decide_eq_false_of_major hm]; rfl

theorem BitSet.extend_nil (s : BitSet) : s.extend [] = s := rfl
theorem BitSet.extend_cons (s : BitSet) (v : Nat) (vs : List Nat) :
    s.extend (v :: vs) = (s.insert v).1.extend vs := rfl
theorem BitSet.removeAll_nil (s : BitSet) : s.removeAll [] = s := rfl
theorem BitSet.removeAll_cons (s : BitSet) (v : Nat) (vs : List Nat) :
    s.removeAll (v :: vs) = (s.remove v).1.removeAll vs := rfl

theorem BitSet.extend_spec (s : BitSet) (vs : List Nat) (h : BInv s) :
    BInv (s.extend vs) ∧ ∀ x, (s.extend vs).contains x = (decide (x ∈ vs) || s.contains x) := by
  induction vs generalizing s with
  | nil => exact ⟨h, by simp [BitSet.extend_nil]⟩
  | cons v vs ih =>
    rw [BitSet.extend_cons]
    obtain ⟨h1, h2⟩ := ih _ (BitSet.insert_spec s v h).1.1
    refine ⟨h1, fun x => ?_⟩
    rw [h2, (BitSet.insert_spec s v h).1.2 x]
    by_cases hx : x = v <;> by_cases hx2 : x ∈ vs <;> simp [hx, hx2]

theorem BitSet.removeAll_spec (s : BitSet) (vs : List Nat) (h : BInv s) :
    BInv (s.removeAll vs) ∧
      ∀ x, (s.removeAll vs).contains x = (!decide (x ∈ vs) && s.contains x) := by
  induction vs generalizing s with
  | nil => exact ⟨h, by simp [BitSet.removeAll_nil]⟩
  | cons v vs ih =>
    rw [BitSet.removeAll_cons]
    obtain ⟨h1, h2⟩ := ih _ (BitSet.remove_spec s v h).1.1
    refine ⟨h1, fun x => ?_⟩
    rw [h2, (BitSet.remove_spec s v h).1.2 x]
    by_cases hx : x = v <;> by_cases hx2 : x ∈ vs <;> simp [hx, hx2]

theorem insertRangeStep_spec {start end_ M : Nat} {ps : Pages} (n : Nat) (hinv : PagesInv ps)
    (hwin : max start (majorStart M) ≤ min end_ (majorStart M + 511)) :
    PagesInv (insertRangeStep start end_ (ps, n) M).1 ∧
    sumLens (insertRangeStep start end_ (ps, n) M).1 + n
      = sumLens ps + (insertRangeStep start end_ (ps, n) M).2 ∧
    (∀ x, containsP (insertRangeStep start end_ (ps, n) M).1 x =
      (containsP ps x || ((decide (start ≤ x) && decide (x ≤ end_)) && decide (majorOf x = M)))) := by
  unfold insertRangeStep
  simp only []
  rw [lookup_ensurePage hinv.1]
  simp only [if_true]
  have hp := getD_ok hinv M
  generalize hpd : (lookup ps M).getD Page.zero = p at hp
  have hq := pageInsertRange_ok p (max start (majorStart M)) (min end_ (majorStart M + 511)) hp
  obtain ⟨h1, h2, h3⟩ := ensure_set_spec M hinv hq
  refine ⟨h1, ?_, fun x => ?_⟩
  · have := pageInsertRange_len_ge p (max start (majorStart M)) (min end_ (majorStart M + 511)) hp
    rw [hpd] at h3
    omega
  · rw [containsP_getD, h2, containsP_getD]
    by_cases hm : majorOf x = M
    · have hx := majorOf_eq_iff.1 hm
      rw [if_pos hm, Option.getD_some,
        pageInsertRange_contains p hm (Nat.le_max_right _ _) hwin (Nat.min_le_right _ _), hm, hpd,
        decide_and_congr (r := start ≤ x) (s := x ≤ end_) (by rw [Nat.max_le, Nat.le_min]; omega)]
      simp
    · rw [if_neg hm]; simp [hm]

theorem decide_lt_succ (m k : Nat) : decide (m < k + 1) = (decide (m < k) || decide (m = k)) := by
  rw [← Bool.decide_or]; exact decide_eq_decide.2 Nat.lt_succ_iff_lt_or_eq

theorem foldl_range_induction {σ : Type} (P : Nat → σ → Prop) (f : σ → Nat → σ) (s0 : σ) (n : Nat)
    (h0 : P 0 s0) (hstep : ∀ i s, i < n → P i s → P (i + 1) (f s i)) :
    P n ((List.range n).foldl f s0) := by
  induction n with
  | zero => exact h0
  | succ n ih =>
    rw [List.range_succ, List.foldl_append]
    exact hstep n _ (Nat.lt_succ_self n) (ih (fun i s hi => hstep i s (Nat.lt_succ_of_lt hi)))

theorem BitSet.insertRange_spec (s : BitSet) (a b : Nat) (h : BInv s) :
    BInv (s.insertRange a b) ∧
      ∀ x, (s.insertRange a b).contains x = (s.contains x || (decide (a ≤ x) && decide (x ≤ b))) := by
  unfold BitSet.insertRange
  split
  · rename_i hgt
    exact ⟨h, fun x => by rw [decide_empty_range hgt, Bool.or_false]⟩
  · rename_i hle
    -- loop invariant: after `i` iterations the pages of the majors below `majorOf a + i` are done
    obtain ⟨f1, f2, f3⟩ := foldl_range_induction
      (fun i (st : Pages × Nat) => PagesInv st.1 ∧ sumLens st.1 = sumLens s.pages + st.2 ∧
        ∀ x, containsP st.1 x = (containsP s.pages x ||
          ((decide (a ≤ x) && decide (x ≤ b)) && decide (majorOf x < majorOf a + i))))
      (fun st i => insertRangeStep a b st (majorOf a + i)) (s.pages, 0) (majorOf b + 1 - majorOf a)
      ⟨h.1, rfl, fun x => by
        by_cases hx : a ≤ x
        · simp [Nat.not_lt.2 (majorOf_mono hx)]
        · simp [hx]⟩
      (fun i st hi hst => by
        obtain ⟨ps, n⟩ := st
        obtain ⟨i1, i2, i3⟩ := hst
        simp only at i1 i2 i3
        obtain ⟨s1, s2, s3⟩ := insertRangeStep_spec n i1
          (page_window (Nat.le_of_not_gt hle) (Nat.le_add_right (majorOf a) i) (by omega))
        refine ⟨s1, by omega, fun x => ?_⟩
        rw [s3, i3, Bool.or_assoc, ← Bool.and_or_distrib_left, ← Nat.add_assoc, decide_lt_succ])
    simp only []
    refine ⟨⟨f1, by simp only []; rw [h.2, f2]⟩, fun x => ?_⟩
    rw [BitSet.contains_eq, BitSet.contains_eq, f3]
    by_cases hx : x ≤ b
    · have := majorOf_mono hx
      simp [show majorOf x < majorOf a + (majorOf b + 1 - majorOf a) by omega]
    · simp [hx]

/-- what the `remove_range` loop does to the page stored under major `k` -/
def rrPage (start end_ sm em k : Nat) (p : Page) : Page :=
  if k < sm then p
  else if k > em then p
  else if k = sm then pageRemoveRange p start (min (majorStart sm + 511) end_)
  else if k = em then pageRemoveRange p (majorStart em) end_
  else Page.zero

theorem map_id_of_gt (start end_ sm em : Nat) (ps : Pages) (h : ∀ kp ∈ ps, em < kp.1) :
    ps.map (fun kp => (kp.1, rrPage start end_ sm em kp.1 kp.2)) = ps := by
  induction ps with
  | nil => rfl
  | cons kp ps ih =>
    have hk := h kp (by simp)
    rw [List.map_cons, ih (fun q hq => h q (by simp [hq]))]
    unfold rrPage
    by_cases h1 : kp.1 < sm
    · rw [if_pos h1]
    · rw [if_neg h1, if_pos hk]

/-- the pages the loop does not reach are those `rrPage` leaves alone -/
theorem removeRangeLoop_eq_map (start end_ sm em : Nat) (ps : Pages) (hs : Sorted ps) :
    removeRangeLoop start end_ sm em ps =
      ps.map (fun kp => (kp.1, rrPage start end_ sm em kp.1 kp.2)) := by
  induction ps with
  | nil => rfl
  | cons kp ps ih =>
    obtain ⟨k, p⟩ := kp
    rw [sorted_cons] at hs
    have hrest : em ≤ k → ps.map (fun kp => (kp.1, rrPage start end_ sm em kp.1 kp.2)) = ps :=
      fun hk => map_id_of_gt _ _ _ _ _ (fun q hq => Nat.lt_of_le_of_lt hk (hs.1 q hq))
    rw [List.map_cons, removeRangeLoop, rrPage]
    by_cases h1 : k < sm
    · rw [if_pos h1, if_pos h1, ih hs.2]
    · rw [if_neg h1, if_neg h1]
      by_cases h2 : k > em
      · rw [if_pos h2, if_pos h2, hrest (Nat.le_of_lt h2)]
      · rw [if_neg h2, if_neg h2]
        by_cases h3 : k = sm
        · rw [if_pos h3, if_pos h3, ih hs.2, h3]
        · rw [if_neg h3, if_neg h3]
          by_cases h4 : k = em
          · rw [if_pos h4, if_pos h4, hrest (Nat.le_of_eq h4.symm), h4]
          · rw [if_neg h4, if_neg h4, ih hs.2]

theorem lookup_map (f : Nat → Page → Page) (ps : Pages) (m : Nat) :
    lookup (ps.map (fun (kp : Nat × Page) => (kp.1, f kp.1 kp.2))) m = (lookup ps m).map (f m) := by
  induction ps with
  | nil => rfl
  | cons kp ps ih =>
    obtain ⟨k, p⟩ := kp
    simp only [List.map_cons, lookup]
    split
    · subst_vars; rfl
    · exact ih

theorem map_inv (f : Nat → Page → Page) (ps : Pages) (h : PagesInv ps)
    (hf : ∀ k p, PageOk p → PageOk (f k p)) :
    PagesInv (ps.map (fun (kp : Nat × Page) => (kp.1, f kp.1 kp.2))) := by
  refine ⟨?_, ?_⟩
  · rw [sorted_iff_keys, List.map_map]
    have : ((fun (x : Nat × Page) => x.1) ∘ fun (kp : Nat × Page) => (kp.1, f kp.1 kp.2))
        = (fun (x : Nat × Page) => x.1) := rfl
    rw [this, ← sorted_iff_keys]; exact h.1
  · intro kp hkp
    simp only [List.mem_map] at hkp
    obtain ⟨q, hq, rfl⟩ := hkp
    exact hf _ _ (h.2 q hq)

theorem pageOk_ite {c : Prop} [Decidable c] {p q : Page} (hp : PageOk p) (hq : PageOk q) :
    PageOk (if c then p else q) := by
  split
  · exact hp
  · exact hq

theorem rrPage_ok (start end_ sm em k : Nat) (p : Page) (h : PageOk p) :
    PageOk (rrPage start end_ sm em k p) :=
  pageOk_ite h (pageOk_ite h (pageOk_ite (pageRemoveRange_ok _ _ _ h)
    (pageOk_ite (pageRemoveRange_ok _ _ _ h) pageOk_zero)))

theorem rrPage_contains (start end_ : Nat) (hse : start ≤ end_) (x : Nat) (p : Page) :
    pageContains (rrPage start end_ (majorOf start) (majorOf end_) (majorOf x) p) x =
      (pageContains p x && !(decide (start ≤ x) && decide (x ≤ end_))) := by
  have hx := mem_own_page x
  have hs := mem_own_page start
  have he := mem_own_page end_
  unfold rrPage
  by_cases h1 : majorOf x < majorOf start
  · have := majorStart_lt h1
    have : ¬ start ≤ x := by omega
    simp [h1, this]
  · rw [if_neg h1]
    by_cases h2 : majorOf x > majorOf end_
    · have := majorStart_lt h2
      have : ¬ x ≤ end_ := by omega
      simp [h2, this]
    · rw [if_neg h2]
      by_cases h3 : majorOf x = majorOf start
      · rw [if_pos h3, pageRemoveRange_contains p h3 hs.1 (by omega) (Nat.min_le_left _ _),
          decide_and_congr (r := start ≤ x) (s := x ≤ end_) (by have := congrArg majorStart h3; omega)]
      · rw [if_neg h3]
        have h3' := majorStart_lt (Nat.lt_of_le_of_ne (Nat.le_of_not_lt h1) (Ne.symm h3))
        by_cases h4 : majorOf x = majorOf end_
        · rw [if_pos h4, pageRemoveRange_contains p h4 (Nat.le_refl _) he.1 he.2,
            decide_and_congr (r := start ≤ x) (s := x ≤ end_) (by have := congrArg majorStart h4; omega)]
        · -- a page strictly between the end points is cleared, and all its values are in the range
          have := majorStart_lt (Nat.lt_of_le_of_ne (Nat.le_of_not_lt h2) h4)
          have h5 : start ≤ x ∧ x ≤ end_ := by omega
          simp [h4, pageContains, Page.zero, h5.1, h5.2]

theorem BitSet.removeRange_spec (s : BitSet) (a b : Nat) (h : BInv s) :
    BInv (s.removeRange a b) ∧
      ∀ x, (s.removeRange a b).contains x = (s.contains x && !(decide (a ≤ x) && decide (x ≤ b))) := by
  unfold BitSet.removeRange
  split
  · rename_i hgt
    exact ⟨h, fun x => by rw [decide_empty_range hgt, Bool.not_false, Bool.and_true]⟩
  · rename_i hle
    have hle : a ≤ b := by omega
    simp only []
    rw [removeRangeLoop_eq_map a b _ _ s.pages h.1.1]
    refine ⟨⟨map_inv _ _ h.1 (fun k p hp => rrPage_ok a b _ _ k p hp), rfl⟩, fun x => ?_⟩
    simp only [BitSet.contains_eq, containsP]
    rw [lookup_map]
    cases hl : lookup s.pages (majorOf x) with
    | none => simp
    | some p => simp only [Option.map_some]; exact rrPage_contains a b hle x p

end FontVerif.IntSet
