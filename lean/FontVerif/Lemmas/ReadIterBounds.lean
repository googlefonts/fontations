/-
Invariants, measures and per-step facts of the hand-written iterator models (Model/ReadIter.lean)
from which Props/C01Iter.lean derives the termination / bound / trap-freedom theorems.
-/
import FontVerif.Lemmas.ReadIter
import FontVerif.Lemmas.Lists
namespace FontVerif.C01Iter
open FontVerif.ReadIter

theorem codeRange_some {t : Cmap4} {i a b : Nat} (h : t.codeRange i = some (a, b)) :
    i < t.segCount ∧ (t.wf = true → b ≤ 65536) := by
  unfold Cmap4.codeRange at h
  cases hs : t.startCode[i]? with
  | none => simp [hs] at h
  | some s =>
    cases he : t.endCode[i]? with
    | none => simp [hs, he] at h
    | some e =>
      simp [hs, he] at h
      obtain ⟨rfl, rfl⟩ := h
      have h1 := (List.getElem?_eq_some_iff.mp hs).1
      have h2 := (List.getElem?_eq_some_iff.mp he).1
      refine ⟨by unfold Cmap4.segCount; omega, ?_⟩
      intro hwf
      unfold Cmap4.wf at hwf
      simp only [Bool.and_eq_true, List.all_eq_true, decide_eq_true_eq] at hwf
      have := hwf.1.1.1.1 e (List.mem_of_getElem? he)
      omega

/-- `start_code ≤ start` is what keeps `codepoint - start_code` in `lookup_glyph_id` from underflowing -/
def Inv4 (s : St4) : Prop := s.stop ≤ 65536 ∧ s.startCode ≤ s.start

def mu4 (t : Cmap4) (s : St4) : Nat := (s.stop - s.start) + (65536 - s.stop) + (t.segCount - s.ix)

def nu4 (s : St4) : Nat := (s.stop - s.start) + (65536 - s.stop)

theorem inv4_init (t : Cmap4) (hwf : t.wf = true) : Inv4 t.init := by
  unfold Cmap4.init Inv4
  cases h : t.codeRange 0 with
  | none => simp
  | some r =>
    obtain ⟨a, b⟩ := r
    have := (codeRange_some h).2 hwf
    simp only [Option.getD_some]
    exact ⟨this, Nat.mod_le _ _⟩

theorem mu4_init (t : Cmap4) (hwf : t.wf = true) : mu4 t t.init ≤ 65536 + t.segCount := by
  have := inv4_init t hwf
  unfold Inv4 at this
  unfold mu4
  omega

theorem lookupGlyphId_ne_trap (t : Cmap4) (cp ix sc : Nat) (h : sc ≤ cp) :
    t.lookupGlyphId cp ix sc ≠ .trap := by
  unfold Cmap4.lookupGlyphId
  cases t.idDelta[ix]? with
  | none => nofun
  | some delta =>
    cases t.idRangeOffset[ix]? with
    | none => nofun
    | some ro =>
      dsimp only
      by_cases h0 : ro = 0
      · rw [if_pos h0]; nofun
      · rw [if_neg h0, if_neg (by omega)]
        split
        · nofun
        · split <;> nofun

theorem step4_facts (t : Cmap4) (hwf : t.wf = true) (s : St4) (hi : Inv4 s) :
    Inv4 (t.step s).2 ∧ (t.step s).1 ≠ .trap ∧
    ((t.step s).1 ≠ .done → mu4 t (t.step s).2 < mu4 t s) ∧
    (∀ a, (t.step s).1 = .yield a → nu4 (t.step s).2 < nu4 s) ∧
    ((t.step s).1 = .cont → nu4 (t.step s).2 ≤ nu4 s) := by
  obtain ⟨h1, h2⟩ := hi
  unfold Cmap4.step
  by_cases hlt : s.start < s.stop
  · rw [if_pos hlt]
    dsimp only
    have hnt := lookupGlyphId_ne_trap t (s.start % 65536) s.ix s.startCode
      (by rw [Nat.mod_eq_of_lt (by omega)]; exact h2)
    have hI : Inv4 { s with start := s.start + 1 } := ⟨h1, by dsimp only; omega⟩
    have hmu : mu4 t { s with start := s.start + 1 } < mu4 t s := by simp only [mu4]; omega
    have hnu : nu4 { s with start := s.start + 1 } < nu4 s := by simp only [nu4]; omega
    cases hl : t.lookupGlyphId (s.start % 65536) s.ix s.startCode with
    | trap => exact absurd hl hnt
    | none => exact ⟨hI, nofun, fun _ => hmu, nofun, fun _ => Nat.le_of_lt hnu⟩
    | gid g => exact ⟨hI, nofun, fun _ => hmu, fun _ _ => hnu, nofun⟩
  · rw [if_neg hlt]
    dsimp only
    cases hc : t.codeRange (s.ix + 1) with
    | none => exact ⟨⟨h1, h2⟩, nofun, fun h => absurd rfl h, nofun, nofun⟩
    | some r =>
      obtain ⟨ns, ne⟩ := r
      obtain ⟨hix, hne⟩ := codeRange_some hc
      have ha := Nat.le_max_right ns s.stop
      have hb := Nat.le_max_right ne s.stop
      have hb' : max ne s.stop ≤ 65536 := Nat.max_le.mpr ⟨hne hwf, h1⟩
      dsimp only
      generalize max ns s.stop = a at ha ⊢
      generalize max ne s.stop = b at hb hb' ⊢
      refine ⟨⟨hb', Nat.mod_le _ _⟩, nofun, fun _ => ?_, nofun, fun _ => ?_⟩ <;>
        simp only [mu4, nu4] <;> omega

def glen (lim : Option Limits) (g : Group) : Nat := groupEnd g lim - g.startChar

def restLen (gs : List Group) (lim : Option Limits) (i : Nat) : Nat := ((gs.drop i).map (glen lim)).sum

theorem restLen_step (gs : List Group) (lim : Option Limits) (i : Nat) (g : Group) (h : gs[i]? = some g) :
    restLen gs lim i = glen lim g + restLen gs lim (i + 1) :=
  sum_map_drop h (glen lim)

theorem restLen_zero (gs : List Group) (lim : Option Limits) : restLen gs lim 0 = groupLenSum gs lim := by
  simp only [restLen, groupLenSum, List.drop_zero]; rfl

def curLen (s : St12) : Nat := match s.cur with | some g => g.stop - g.start | none => 0

def nu12 (gs : List Group) (lim : Option Limits) (s : St12) : Nat := curLen s + restLen gs lim (s.ix + 1)

def mu12 (gs : List Group) (lim : Option Limits) (s : St12) : Nat := nu12 gs lim s + (gs.length - s.ix)

theorem group12_some {gs : List Group} {i : Nat} {lim : Option Limits} {n : G12} (h : group12 gs i lim = some n) :
    ∃ g, gs[i]? = some g ∧ i < gs.length ∧ n.stop - n.start = glen lim g := by
  unfold group12 at h
  cases hg : gs[i]? with
  | none => simp [hg] at h
  | some g =>
    simp [hg] at h
    subst h
    exact ⟨g, rfl, (List.getElem?_eq_some_iff.mp hg).1, rfl⟩

theorem step12_facts (gs : List Group) (lim : Option Limits) (s : St12) :
    (step12 gs lim s).1 ≠ .trap ∧
    ((step12 gs lim s).1 ≠ .done → mu12 gs lim (step12 gs lim s).2 < mu12 gs lim s) ∧
    (∀ a, (step12 gs lim s).1 = .yield a → nu12 gs lim (step12 gs lim s).2 < nu12 gs lim s) ∧
    ((step12 gs lim s).1 = .cont → nu12 gs lim (step12 gs lim s).2 ≤ nu12 gs lim s) := by
  unfold step12
  cases hc : s.cur with
  | none => exact ⟨nofun, fun h => absurd rfl h, nofun, nofun⟩
  | some g =>
    dsimp only
    by_cases hlt : g.start < g.stop
    · rw [if_pos hlt]
      refine ⟨nofun, fun _ => ?_, fun _ _ => ?_, nofun⟩ <;>
        (simp only [mu12, nu12, curLen, hc]; omega)
    · rw [if_neg hlt]
      cases hn : group12 gs (s.ix + 1) lim with
      | none => exact ⟨nofun, fun h => absurd rfl h, nofun, nofun⟩
      | some n =>
        obtain ⟨g', hg', hix, hlen⟩ := group12_some hn
        have hr := restLen_step gs lim (s.ix + 1) g' hg'
        have hcl : curLen ⟨some (if n.start < g.stop then { n with start := g.stop } else n), s.ix + 1⟩
            ≤ glen lim g' := by
          simp only [curLen]
          split
          · dsimp only; omega
          · omega
        have h0 : curLen s = 0 := by simp only [curLen, hc]; omega
        dsimp only
        refine ⟨nofun, fun _ => ?_, nofun, fun _ => ?_⟩ <;> (simp only [mu12, nu12]; omega)

theorem init12_nu (gs : List Group) (lim : Option Limits) : nu12 gs lim (init12 gs lim) ≤ groupLenSum gs lim := by
  rw [← restLen_zero]
  unfold nu12 init12 curLen
  cases hn : group12 gs 0 lim with
  | none =>
    simp only []
    unfold group12 at hn
    cases hg : gs[0]? with
    | none =>
      have : gs = [] := by cases gs <;> simp_all
      subst this; simp [restLen]
    | some g => simp [hg] at hn
  | some n =>
    obtain ⟨g', hg', hix, hlen⟩ := group12_some hn
    have hr := restLen_step gs lim 0 g' hg'
    simp only []
    omega

theorem computedLen_le (dataLen itemLen : Nat) : computedLen dataLen itemLen ≤ dataLen := by
  unfold computedLen
  split
  · exact Nat.zero_le _
  · exact Nat.div_le_self _ _

/-- a `VarSize` impl whose length prefix is a real scalar (at least one byte) -/
def VarKind.ok : VarKind → Prop
  | .plain n => 1 ≤ n
  | _ => True

theorem readLenAt_pos {k : VarKind} (hk : VarKind.ok k) {d : List Nat} (hd : d ≠ []) {l : Nat}
    (h : readLenAt k d 0 = some l) : 1 ≤ l := by
  cases k with
  | plain n =>
    simp only [VarKind.ok] at hk
    simp only [readLenAt, Option.map_eq_some_iff] at h
    obtain ⟨v, _, rfl⟩ := h
    omega
  | segmentMaps =>
    simp only [readLenAt, Option.map_eq_some_iff] at h
    obtain ⟨v, _, rfl⟩ := h
    omega
  | scriptLangTag =>
    have hlen : 0 < d.length := List.length_pos_iff.mpr hd
    simp only [readLenAt] at h
    split at h
    · omega
    · split at h
      · simp at h; omega
      · simp at h; omega

theorem count_le (d : List Nat) : (countAndCountBytes d).1 ≤ 32767 := by
  unfold countAndCountBytes
  simp only []
  split
  · simp
  · split
    · simp only []; omega
    · split
      · simp
      · simp only []; omega

theorem totalLenLoop_some (d : List Nat) (nPoints : Nat) (hn : nPoints ≤ 32767) :
    ∀ (fuel nSeen nBytes pos : Nat), nPoints - nSeen < fuel →
      ∃ r, totalLenLoop d nPoints fuel nSeen nBytes pos = some r := by
  intro fuel
  induction fuel with
  | zero => intro _ _ _ h; omega
  | succ f ih =>
    intro nSeen nBytes pos h
    unfold totalLenLoop
    by_cases hlt : nSeen < nPoints
    · simp only [hlt, if_true]
      cases hu : u8At d pos with
      | none => exact ⟨_, rfl⟩
      | some control =>
        simp only []
        have hc : ¬ (nSeen + (control % 128 + 1) > 65535) := by omega
        simp only [hc, if_false]
        exact ih _ _ _ (by omega)
    · simp only [hlt, if_false]
      exact ⟨_, rfl⟩

theorem totalLen_some (d : List Nat) : ∃ r, totalLen d = some r := by
  unfold totalLen
  simp only []
  split
  · exact ⟨_, rfl⟩
  · exact totalLenLoop_some d _ (count_le d) _ _ _ _ (by omega)

def muPt (s : PtSt) : Nat := if s.count = 0 then 65535 - s.lastVal else s.count - s.seen

theorem ptRunNext_keeps (d : List Nat) (s : PtSt) :
    (ptRunNext d s).2.count = s.count ∧ (ptRunNext d s).2.seen = s.seen := by
  unfold ptRunNext
  simp only []
  split
  · rename_i h
    split at h
    · split at h <;> simp_all
    · simp_all
  · rename_i s1 h
    have : s1.count = s.count ∧ s1.seen = s.seen := by
      split at h
      · split at h
        · cases h
        · simp at h; subst h; simp
      · simp at h; subst h; simp
    split <;> simp [this]

theorem ptNext_facts (d : List Nat) (s : PtSt) (hi : s.seen ≤ s.count) :
    (ptNext d s).2.seen ≤ (ptNext d s).2.count ∧ (ptNext d s).1 ≠ .trap ∧
    ((ptNext d s).1 ≠ .done → muPt (ptNext d s).2 < muPt s) ∧
    (∀ a, (ptNext d s).1 = .yield a → a ≤ 65535) := by
  unfold ptNext
  by_cases hc : s.count = 0
  · rw [if_pos hc]
    split
    · exact ⟨hi, by simp, by simp, nofun⟩
    · refine ⟨hi, by simp, fun _ => ?_, fun a h => by cases h; omega⟩
      simp only [muPt, hc, if_true]
      omega
  · rw [if_neg hc]
    by_cases he : s.count = s.seen
    · rw [if_pos he]; exact ⟨hi, by simp, by simp, nofun⟩
    · rw [if_neg he]
      have hk := ptRunNext_keeps d { s with seen := s.seen + 1 }
      simp only [] at hk ⊢
      obtain ⟨k1, k2⟩ := hk
      generalize ptRunNext d { s with seen := s.seen + 1 } = r at k1 k2 ⊢
      obtain ⟨o, s'⟩ := r
      simp only [] at k1 k2
      cases o with
      | none =>
        refine ⟨?_, by simp, by simp, nofun⟩
        show s'.seen ≤ s'.count
        omega
      | some v =>
        simp only []
        split
        · refine ⟨?_, by simp, by simp, nofun⟩
          show s'.seen ≤ s'.count
          omega
        · refine ⟨?_, by simp, fun _ => ?_, fun a h => by cases h; omega⟩
          · show s'.seen ≤ s'.count
            omega
          · simp only [muPt, k1, hc, if_false, k2]
            omega

theorem muPt_init_le (d : List Nat) : muPt (ptInit d) ≤ 65535 := by
  have := count_le d
  simp only [muPt, ptInit]
  by_cases h : (countAndCountBytes d).fst = 0 <;> simp [h] <;> omega

theorem countAllLoop_some (d : List Nat) :
    ∀ (fuel count offset : Nat), d.length - offset < fuel →
      ∃ r, countAllLoop d fuel count offset = some r ∧ r ≤ count + 64 * (d.length - offset) := by
  intro fuel
  induction fuel with
  | zero => intro _ _ h; omega
  | succ f ih =>
    intro count offset h
    unfold countAllLoop
    cases hu : u8At d offset with
    | none => exact ⟨count, rfl, by omega⟩
    | some control =>
      have hlt : offset < d.length := (List.getElem?_eq_some_iff.mp hu).1
      have hc : control % 64 + 1 ≤ 64 := by omega
      dsimp only
      generalize control % 64 + 1 = c at hc
      generalize c * runTypeSize control = k
      obtain ⟨r, hr, hb⟩ := ih (count + c) (offset + (k + 1)) (by omega)
      exact ⟨r, hr, by omega⟩

def muDl (s : DlSt) : Nat := s.limit.getD 0

theorem dlNext_facts (d : List Nat) (s : DlSt) (hs : s.limit.isSome) :
    (dlNext d s).2.limit.isSome ∧ (dlNext d s).1 ≠ .trap ∧ ((dlNext d s).1 ≠ .done → muDl (dlNext d s).2 < muDl s) := by
  cases hl : s.limit with
  | none => simp [hl] at hs
  | some c =>
    unfold dlNext
    cases c with
    | zero => simp [hl]
    | succ c =>
      simp only [hl]
      have hrc : ∀ s0 : DlSt, (dlReadControl d s0).2.limit = s0.limit := by
        intro s0; unfold dlReadControl; split <;> simp
      split
      · rename_i hrem
        split
        · simp [hrc]
        · split
          · simp [hrc]
          · simp [hrc, muDl, hl]
      · split
        · rename_i h; simp at h
        · split
          · simp
          · simp [muDl, hl]

theorem skipFastLoop_some (d : List Nat) (n : Nat) :
    ∀ (fuel wanted : Nat) (s : DlSt), d.length - s.pos < fuel → ∃ r, skipFastLoop d n fuel wanted s = some r := by
  intro fuel
  induction fuel with
  | zero => intro _ _ h; omega
  | succ f ih =>
    intro wanted s h
    unfold skipFastLoop
    by_cases hw : wanted > s.remaining
    · simp only [hw, if_true]
      unfold dlReadControl
      cases hu : u8At d (s.pos + s.remaining * s.vsize) with
      | none => simp
      | some control =>
        simp only []
        have hlt : s.pos + s.remaining * s.vsize < d.length := by
          unfold u8At at hu
          exact (List.getElem?_eq_some_iff.mp hu).1
        simp only [Bool.true_eq_false, if_false]
        exact ih _ _ (by simp only []; omega)
    · simp only [hw, if_false]
      exact ⟨_, rfl⟩


theorem tdEmit_facts (dd : List Nat) (s : TdSt) (pos : Nat) :
    (tdEmit dd s pos).2.points = s.points ∧ (tdEmit dd s pos).2.nextPoint = s.nextPoint ∧
    (tdEmit dd s pos).1 ≠ .trap ∧
    (s.x.limit.isSome → (tdEmit dd s pos).2.x.limit.isSome) ∧
    ((tdEmit dd s pos).1 ≠ .done → (tdEmit dd s pos).2.cur = s.cur + 1 ∧
       (pos = s.cur → s.x.limit.isSome → muDl (tdEmit dd s pos).2.x < muDl s.x)) := by
  unfold tdEmit
  by_cases hpos : pos = s.cur
  · rw [if_pos hpos]
    have hx : s.x.limit.isSome → _ := dlNext_facts dd s.x
    generalize dlNext dd s.x = rx at hx
    obtain ⟨ox, x'⟩ := rx
    simp only [] at hx
    cases ox with
    | yield dx =>
      simp only []
      cases hy : s.y with
      | none =>
        exact ⟨rfl, rfl, by simp, fun h => (hx h).1, fun _ => ⟨rfl, fun _ h => (hx h).2.2 (by simp)⟩⟩
      | some y =>
        simp only []
        generalize dlNext dd y = ry
        obtain ⟨oy, y'⟩ := ry
        cases oy with
        | yield dy => exact ⟨rfl, rfl, by simp, fun h => (hx h).1, fun _ => ⟨rfl, fun _ h => (hx h).2.2 (by simp)⟩⟩
        | cont | done | trap => exact ⟨rfl, rfl, by simp, fun h => (hx h).1, by simp⟩
    | cont | done | trap => exact ⟨rfl, rfl, by simp, fun h => (hx h).1, by simp⟩
  · rw [if_neg hpos]
    exact ⟨rfl, rfl, by simp, fun h => h, fun _ => ⟨rfl, fun h => absurd h hpos⟩⟩

def TdInv (s : TdSt) : Prop :=
  match s.points with
  | some p => p.seen ≤ p.count ∧ s.nextPoint ≤ 65535
  | none => s.x.limit.isSome

def muTd (s : TdSt) : Nat :=
  match s.points with
  | some p => (65536 - s.cur) + muPt p
  | none => muDl s.x

theorem tdStep_facts (ser dd : List Nat) (s : TdSt) (hi : TdInv s) :
    TdInv (tdStep ser dd s).2 ∧ (tdStep ser dd s).1 ≠ .trap ∧
    ((tdStep ser dd s).1 ≠ .done → muTd (tdStep ser dd s).2 < muTd s) := by
  unfold tdStep
  cases hp : s.points with
  | none =>
    simp only [TdInv, hp] at hi
    simp only []
    obtain ⟨e1, e2, e3, e4, e5⟩ := tdEmit_facts dd s s.cur
    rw [hp] at e1
    refine ⟨?_, e3, fun hnd => ?_⟩
    · simp only [TdInv, e1]; exact e4 hi
    · simp only [muTd, e1, hp]; exact (e5 hnd).2 rfl hi
  | some p =>
    simp only [TdInv, hp] at hi
    obtain ⟨hi1, hi2⟩ := hi
    simp only []
    by_cases hgt : s.cur > s.nextPoint
    · rw [if_pos hgt]
      have hf := ptNext_facts ser p hi1
      have hy := hf.2.2.2
      generalize ptNext ser p = rp at hf hy
      obtain ⟨op, p'⟩ := rp
      simp only [] at hf hy
      cases op with
      | yield v =>
        have hv := hy v rfl
        have hdec := hf.2.2.1 (by simp)
        simp only []
        obtain ⟨e1, e2, e3, e4, e5⟩ := tdEmit_facts dd { s with points := some p', nextPoint := v } v
        simp only [] at e1 e2 e5
        refine ⟨?_, e3, fun hnd => ?_⟩
        · simp only [TdInv, e1, e2]; exact ⟨hf.1, hv⟩
        · have := (e5 hnd).1
          simp only [muTd, e1, hp, this]; omega
      | cont | done | trap => simp only [TdInv, muTd, hp]; exact ⟨⟨hf.1, hi2⟩, by simp, by simp⟩
    · rw [if_neg hgt]
      obtain ⟨e1, e2, e3, e4, e5⟩ := tdEmit_facts dd s s.nextPoint
      rw [hp] at e1
      refine ⟨?_, e3, fun hnd => ?_⟩
      · simp only [TdInv, e1, e2]; exact ⟨hi1, hi2⟩
      · have := (e5 hnd).1
        simp only [muTd, e1, hp, this]; omega

theorem tdTotal_some (pd dd : List Nat) (isPoint : Bool) :
    ∃ total, (if pointCount pd = 0 then countAllDeltas dd
        else some (if isPoint then pointCount pd * 2 else pointCount pd)) = some total ∧
      total ≤ 64 * dd.length + 65534 := by
  by_cases hc : pointCount pd = 0
  · rw [if_pos hc]
    obtain ⟨r, hr, hb⟩ := countAllLoop_some dd (dd.length + 1) 0 0 (by omega)
    exact ⟨r, hr, by omega⟩
  · rw [if_neg hc]
    have := count_le pd
    refine ⟨_, rfl, ?_⟩
    unfold pointCount
    split <;> omega

theorem firstPoint_ok (pd : List Nat) : ∀ p, (match (ptNext pd (ptInit pd)).1 with
      | .yield v => (some (ptNext pd (ptInit pd)).2, v)
      | _ => ((none : Option PtSt), 0)).1 = some p →
    p.seen ≤ p.count ∧ (match (ptNext pd (ptInit pd)).1 with
      | .yield v => (some (ptNext pd (ptInit pd)).2, v)
      | _ => ((none : Option PtSt), 0)).2 ≤ 65535 ∧ muPt p ≤ 65535 := by
  have hf := ptNext_facts pd (ptInit pd) (Nat.zero_le _)
  have hy := hf.2.2.2
  have hm := muPt_init_le pd
  intro p hp
  split at hp
  · rename_i v hv
    cases hp
    exact ⟨hf.1, hy v hv, by have := hf.2.2.1 (by rw [hv]; nofun); omega⟩
  · cases hp

theorem tdStart_ok (dd : List Nat) (pts : Option PtSt) (np t : Nat) (y : Option DlSt)
    (hp : ∀ p, pts = some p → p.seen ≤ p.count ∧ np ≤ 65535 ∧ muPt p ≤ 65535)
    (ht : t ≤ 64 * dd.length + 65534) :
    TdInv ⟨0, pts, np, dlInit (some t), y⟩ ∧ muTd ⟨0, pts, np, dlInit (some t), y⟩ < tdFuel dd := by
  cases pts with
  | none => exact ⟨rfl, by simp only [muTd, tdFuel, muDl, dlInit, Option.getD_some]; omega⟩
  | some p =>
    obtain ⟨a, b, c⟩ := hp p rfl
    exact ⟨⟨a, b⟩, by simp only [muTd, tdFuel]; omega⟩

theorem tdInit_some (ser : List Nat) (isPoint : Bool) :
    ∃ dd s, tdInit ser isPoint = some (dd, s) ∧ dd.length ≤ ser.length ∧ TdInv s ∧ muTd s < tdFuel dd := by
  unfold tdInit
  obtain ⟨tl, htl⟩ := totalLen_some ser
  rw [htl]
  simp only []
  obtain ⟨total, ht, hb⟩ := tdTotal_some ser (ser.drop tl) isPoint
  rw [ht]
  simp only []
  have hdd : (ser.drop tl).length ≤ ser.length := by simp
  cases isPoint with
  | true =>
    obtain ⟨ys, hys⟩ := skipFastLoop_some (ser.drop tl) (total / 2) ((ser.drop tl).length + 2) (total / 2)
      (dlInit (some total)) (by simp [dlInit])
    rw [if_pos rfl, skipFast, hys]
    exact ⟨_, _, rfl, hdd, tdStart_ok _ _ _ _ _ (firstPoint_ok ser) (by omega)⟩
  | false => exact ⟨_, _, rfl, hdd, tdStart_ok _ _ _ _ _ (firstPoint_ok ser) hb⟩

end FontVerif.C01Iter
