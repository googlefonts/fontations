/-
C13 helper lemmas: exact visit counts of the two exponential graph shapes: a chain of nested PaintGlyph tables
(DESIGN §6-7: every nested PaintGlyph defeats its parent's fill optimiser, so each level walks its subtree twice)
and a DAG of PaintComposite tables whose two children are the same paint.
-/
import FontVerif.Model.Paint
import FontVerif.Lemmas.Paint
namespace FontVerif.Paint

/-- the painter on top of the stack has given up optimising -/
def failTop : List Opt → List Opt
  | [] => []
  | o :: rest => { o with success := false } :: rest

theorem failTop_idem (l : List Opt) : failTop (failTop l) = failTop l := by
  cases l <;> rfl

theorem sendL_nil_evs (c : Client) (opts : List Opt) : sendL c opts [] = (opts, []) := by
  induction opts with
  | nil => rfl
  | cons o rest ih => simp [sendL, optCalls, ih]

theorem emit_pushClipGlyph_opts (c : Client) (g : Gid) (st : St) :
    (emit c (.pushClipGlyph g) st).opts = failTop st.opts := by
  simp only [emit]
  cases st.opts with
  | nil => rfl
  | cons o rest => simp [sendL, optCalls, optPrim, sendL_nil_evs, failTop]

theorem emit_popClip_opts (c : Client) (st : St) :
    (emit c .popClip st).opts = failTop st.opts := by
  simp only [emit]
  cases st.opts with
  | nil => rfl
  | cons o rest => simp [sendL, optCalls, optPrim, sendL_nil_evs, failTop]

theorem emit_fill_top (c : Client) (b : Brush) (st : St) (o : Opt) (rest : List Opt) (h : st.opts = o :: rest)
    (hs : o.success = true) (ht : o.bt = none) :
    (emit c (.fill b) st).opts = o :: failTop rest := by
  simp only [emit, h]
  cases rest with
  | nil => simp [sendL, optCalls, optPrim, hs, failTop]
  | cons o' r' =>
    simp [sendL, optCalls, optPrim, optPrims, expandFillGlyph, hs, ht, sendL_nil_evs, failTop]

/-- a `PaintGlyph` whose child makes the optimiser give up walks that child twice, whatever the graph: `V` is
what one walk of the child visits -/
theorem arm_glyph_twice (inst : Instance) (c : Client) (rec : Node → List PaintId → St → Res)
    {child : PaintId} {n : Node} (hres : inst.resolve child = some n) (dec : List PaintId) (V : Nat)
    (hrec : ∀ st, (rec n dec st).1 = none ∧ (rec n dec st).2.visits = st.visits + V ∧
      (rec n dec st).2.opts = failTop st.opts) (g : Gid) (st : St) :
    (arm inst c rec (.glyph g child) dec st).1 = none ∧
    (arm inst c rec (.glyph g child) dec st).2.visits = st.visits + 2 * V ∧
    (arm inst c rec (.glyph g child) dec st).2.opts = failTop st.opts := by
  simp only [arm, hres]
  have h1 := hrec { st with opts := { success := true, bt := none, gid := g } :: st.opts }
  generalize rec n dec { st with opts := { success := true, bt := none, gid := g } :: st.opts } = r1 at h1 ⊢
  obtain ⟨h1a, h1v, h1o⟩ := h1
  simp only [failTop] at h1o
  split
  · rename_i heq; rw [h1o] at heq; cases heq
  · rename_i o rest heq
    rw [h1o] at heq
    cases heq
    simp only [Bool.false_eq_true, if_false]
    have h2 := hrec (emit c (.pushClipGlyph g) { r1.2 with opts := st.opts })
    generalize rec n dec (emit c (.pushClipGlyph g) { r1.2 with opts := st.opts }) = r2 at h2 ⊢
    obtain ⟨h2a, h2v, h2o⟩ := h2
    refine ⟨h2a, ?_, ?_⟩
    · simp only [emit_visits] at h1v h2v ⊢
      omega
    · rw [emit_popClip_opts, h2o, emit_pushClipGlyph_opts]
      simp only [failTop_idem]

theorem chain_resolve_last (d i : Nat) (h : i = d) : (glyphChain d).resolve i = some (.leaf (some [])) := by
  subst h; simp [glyphChain]

theorem chain_resolve_inner (d i : Nat) (h : i < d) : (glyphChain d).resolve i = some (.glyph 0 (i + 1)) := by
  simp [glyphChain, h]

/-- painting the `PaintGlyph` that has `j+1` PaintGlyph levels (itself included) above the solid:
succeeds, visits exactly `chainVisits (j+1)` nodes, and makes the enclosing optimiser give up -/
theorem chain_step (d : Nat) (c : Client) (j : Nat) :
    ∀ i, i + (j + 1) = d → ∀ fuel, j + 2 ≤ fuel → ∀ (dec : List PaintId) (st : St),
      (trav (glyphChain d) c fuel (.glyph 0 (i + 1)) dec st).1 = none ∧
      (trav (glyphChain d) c fuel (.glyph 0 (i + 1)) dec st).2.visits = st.visits + chainVisits (j + 1) ∧
      (trav (glyphChain d) c fuel (.glyph 0 (i + 1)) dec st).2.opts = failTop st.opts := by
  induction j with
  | zero =>
    intro i hi fuel hf dec st
    obtain ⟨f, rfl⟩ : ∃ f, fuel = f + 2 := ⟨fuel - 2, by omega⟩
    have hres := chain_resolve_last d (i + 1) (by omega)
    simp only [trav, arm, hres, bump]
    have hopts := emit_fill_top c []
      { opts := { success := true, bt := none, gid := 0 } :: st.opts, evs := st.evs,
        visits := st.visits + 1 + 1 } { success := true, bt := none, gid := 0 } st.opts rfl rfl rfl
    split
    · rename_i heq; rw [hopts] at heq; cases heq
    · rename_i o rest heq
      rw [hopts] at heq
      cases heq
      simp [emit_visits, chainVisits]
  | succ j ih =>
    intro i hi fuel hf dec st
    obtain ⟨f, rfl⟩ : ∃ f, fuel = f + 1 := ⟨fuel - 1, by omega⟩
    rw [trav]
    obtain ⟨ha, hv, ho⟩ := arm_glyph_twice (glyphChain d) c (trav (glyphChain d) c f)
      (chain_resolve_inner d (i + 1) (by omega)) dec (chainVisits (j + 1))
      (fun st' => ih (i + 1) (by omega) f (by omega) dec st') 0 (bump st)
    refine ⟨ha, ?_, ho⟩
    rw [hv]
    simp only [bump, chainVisits]
    omega

theorem chainVisits_closed (j : Nat) : chainVisits (j + 1) + 1 = 3 * 2 ^ j := by
  induction j with
  | zero => rfl
  | succ j ih =>
    simp only [chainVisits, Nat.pow_succ]
    omega

theorem comp_resolve_inner (d i : Nat) (h : i < d) :
    (compDag d).resolve i = some (.composite (i + 1) 0 (i + 1)) := by
  simp [compDag, h]

theorem comp_resolve_last (d : Nat) : (compDag d).resolve d = some (.leaf (some [])) := by
  simp [compDag]

theorem comp_resolve_some (d i : Nat) (h : i ≤ d) : ∃ n, (compDag d).resolve i = some n := by
  rcases Nat.lt_or_eq_of_le h with h | rfl
  · exact ⟨_, comp_resolve_inner d i h⟩
  · exact ⟨_, comp_resolve_last i⟩

/-- painting paint `i` of `compDag d` (`j = d - i` composites above the solid) succeeds and visits exactly
`compVisits j` nodes: both children of every composite are traversed in full -/
theorem comp_step (d : Nat) (c : Client) (j : Nat) :
    ∀ i, i + j = d → ∀ fuel, j + 1 ≤ fuel → ∀ n, (compDag d).resolve i = some n →
      ∀ (dec : List PaintId) (st : St),
      (trav (compDag d) c fuel n dec st).1 = none ∧
      (trav (compDag d) c fuel n dec st).2.visits = st.visits + compVisits j := by
  induction j with
  | zero =>
    intro i hi fuel hf n hn dec st
    obtain ⟨f, rfl⟩ : ∃ f, fuel = f + 1 := ⟨fuel - 1, by omega⟩
    have : i = d := by omega
    subst this
    rw [comp_resolve_last] at hn
    cases hn
    simp [trav, arm, bump, emit_visits, compVisits]
  | succ j ih =>
    intro i hi fuel hf n hn dec st
    obtain ⟨f, rfl⟩ : ∃ f, fuel = f + 1 := ⟨fuel - 1, by omega⟩
    rw [comp_resolve_inner d i (by omega)] at hn
    cases hn
    obtain ⟨m, hres⟩ := comp_resolve_some d (i + 1) (by omega)
    simp only [trav, arm, hres]
    have h1 := ih (i + 1) (by omega) f (by omega) m hres dec (emit c (.pushLayer SRC_OVER) (bump st))
    generalize trav (compDag d) c f m dec (emit c (.pushLayer SRC_OVER) (bump st)) = r1 at h1 ⊢
    obtain ⟨h1a, h1v⟩ := h1
    simp only [h1a]
    have h2 := ih (i + 1) (by omega) f (by omega) m hres dec (emit c (.pushLayer 0) r1.2)
    generalize trav (compDag d) c f m dec (emit c (.pushLayer 0) r1.2) = r2 at h2 ⊢
    obtain ⟨h2a, h2v⟩ := h2
    refine ⟨h2a, ?_⟩
    simp only [emit_visits] at h1v h2v ⊢
    rw [h2v, h1v]
    simp only [bump, compVisits]
    omega

theorem compVisits_closed (j : Nat) : compVisits j + 1 = 2 ^ (j + 1) := by
  induction j with
  | zero => rfl
  | succ j ih =>
    simp only [compVisits, Nat.pow_succ] at ih ⊢
    omega

theorem geom_closed (k : Nat) (hk : 1 ≤ k) (f : Nat) : geom k f * (k - 1) + 1 = k ^ f := by
  induction f with
  | zero => simp [geom]
  | succ f ih =>
    obtain ⟨q, rfl⟩ : ∃ q, k = q + 1 := ⟨k - 1, by omega⟩
    simp only [geom, Nat.add_sub_cancel, Nat.pow_succ] at ih ⊢
    rw [← ih]
    generalize geom (q + 1) f = G
    have e1 : (1 + (q + 1) * G) * q = q + (q * (G * q) + G * q) := by
      rw [Nat.add_mul, Nat.one_mul, Nat.mul_assoc, Nat.add_mul, Nat.one_mul]
    have e2 : (G * q + 1) * (q + 1) = q * (G * q) + G * q + q + 1 := by
      rw [Nat.add_mul, Nat.mul_add, Nat.mul_one, Nat.one_mul, Nat.mul_comm (G * q) q]; omega
    rw [e1, e2]; omega

end FontVerif.Paint
