/-
`trim_simple_glyph_padding` (Model/Subset.lean `trimGo`): flag runs, the equations of one loop round, and what a non-zero
result certifies (`TrimSpec`).
-/
import FontVerif.Model.Subset
namespace FontVerif.Subset

/-- one flag run: the flag byte and how many points it covers -/
def encRun (r : Nat × Nat) : Bytes := if r.1 &&& 0x08 != 0 then [r.1, r.2 - 1] else [r.1]
def encRuns (rs : List (Nat × Nat)) : Bytes := rs.flatMap encRun
def runOk (r : Nat × Nat) : Prop := if r.1 &&& 0x08 != 0 then 1 ≤ r.2 else r.2 = 1

/-- the test after the `while` loop -/
def trimEnd (n i cb cwf : Nat) : Nat := if n ≠ cwf then 0 else i + cb

theorem trimEnd_eq {n cwf : Nat} (h : n = cwf) (i cb : Nat) : trimEnd n i cb cwf = i + cb :=
  if_neg (fun h' => h' h)

/-! One round of the Rust loop is one body whatever follows the flag; the model's three patterns are its instances. -/

theorem trimGo_nil (n i cb cwf : Nat) : trimGo n [] i cb cwf = trimEnd n i cb cwf := by
  simp only [trimGo, trimEnd]

theorem trimGo_one (n f : Nat) (rest : Bytes) (i cb cwf : Nat) (hf : (f &&& 0x08 != 0) = false) :
    trimGo n (f :: rest) i cb cwf =
      if cwf + 1 ≥ n then trimEnd n (i + 1) (cb + coordSize f) (cwf + 1)
      else trimGo n rest (i + 1) (cb + coordSize f) (cwf + 1) := by
  cases rest with
  | nil => simp only [trimGo, trimEnd, hf, Bool.false_eq_true, if_false, ite_self]
  | cons r rest => simp only [trimGo, trimEnd, hf, Bool.false_eq_true, if_false]

theorem trimGo_rep (n f r : Nat) (rest : Bytes) (i cb cwf : Nat) (hf : (f &&& 0x08 != 0) = true) :
    trimGo n (f :: r :: rest) i cb cwf =
      if cwf + (r + 1) ≥ n then trimEnd n (i + 2) (cb + coordSize f * (r + 1)) (cwf + (r + 1))
      else trimGo n rest (i + 2) (cb + coordSize f * (r + 1)) (cwf + (r + 1)) := by
  simp only [trimGo, trimEnd, hf, if_true]

/-- a REPEAT flag without its count byte -/
theorem trimGo_rep_end (n f i cb cwf : Nat) (hf : (f &&& 0x08 != 0) = true) : trimGo n [f] i cb cwf = 0 := by
  simp only [trimGo, hf, if_true]

def TrimSpec (numCoords : Nat) (d : Bytes) (i cb cwf k : Nat) : Prop :=
  ∃ runs : List (Nat × Nat), (∀ r ∈ runs, runOk r) ∧ encRuns runs <+: d ∧
    cwf + (runs.map (·.2)).sum = numCoords ∧
    k = i + (encRuns runs).length + cb + (runs.map (fun r => coordSize r.1 * r.2)).sum

theorem trimSpec_nil (numCoords : Nat) (d : Bytes) (i cb : Nat) : TrimSpec numCoords d i cb numCoords (i + cb) :=
  ⟨[], by simp, by simp [encRuns], by simp, by simp [encRuns]⟩

theorem trimSpec_cons_rep (numCoords f r : Nat) (rest : Bytes) (i cb cwf k : Nat) (hf : (f &&& 0x08 != 0) = true)
    (h : TrimSpec numCoords rest (i + 2) (cb + coordSize f * (r + 1)) (cwf + (r + 1)) k) :
    TrimSpec numCoords (f :: r :: rest) i cb cwf k := by
  obtain ⟨runs, h1, h2, h3, h4⟩ := h
  refine ⟨(f, r + 1) :: runs, ?_, ?_, ?_, ?_⟩
  · intro x hx
    simp at hx
    rcases hx with rfl | hx
    · simp [runOk, hf]
    · exact h1 x hx
  · obtain ⟨t, ht⟩ := h2
    refine ⟨t, ?_⟩
    simp only [encRuns, List.flatMap_cons, encRun, hf, if_true] at ht ⊢
    simp [← ht]
  · simp only [List.map_cons, List.sum_cons]; omega
  · simp only [encRuns, List.flatMap_cons, encRun, hf, if_true, List.map_cons, List.sum_cons,
      List.length_append, List.length_cons, List.length_nil] at h4 ⊢
    generalize coordSize f * (r + 1) = q at *
    omega

theorem trimSpec_cons_one (numCoords f : Nat) (rest : Bytes) (i cb cwf k : Nat) (hf : ¬ (f &&& 0x08 != 0) = true)
    (h : TrimSpec numCoords rest (i + 1) (cb + coordSize f) (cwf + 1) k) :
    TrimSpec numCoords (f :: rest) i cb cwf k := by
  obtain ⟨runs, h1, h2, h3, h4⟩ := h
  have hf' : (f &&& 0x08 != 0) = false := Bool.eq_false_iff.mpr hf
  have henc : encRun (f, 1) = [f] := by simp only [encRun, hf', Bool.false_eq_true, if_false]
  refine ⟨(f, 1) :: runs, ?_, ?_, ?_, ?_⟩
  · intro x hx
    simp at hx
    rcases hx with rfl | hx
    · simp [runOk, hf']
    · exact h1 x hx
  · obtain ⟨t, ht⟩ := h2
    refine ⟨t, ?_⟩
    simp only [encRuns, List.flatMap_cons, henc] at ht ⊢
    simp [← ht]
  · simp only [List.map_cons, List.sum_cons]; omega
  · simp only [encRuns, List.flatMap_cons, henc, List.map_cons, List.sum_cons,
      List.length_append, List.length_cons, List.length_nil, Nat.mul_one] at h4 ⊢
    omega

theorem trimEnd_spec {n i cb cwf k : Nat} (d : Bytes) (h : trimEnd n i cb cwf = k) (hne : k ≠ 0) :
    TrimSpec n d i cb cwf k := by
  unfold trimEnd at h
  by_cases hc : n = cwf
  · rw [if_neg (fun h' => h' hc)] at h; subst hc h; exact trimSpec_nil _ _ _ _
  · rw [if_pos hc] at h; exact absurd h.symm hne

theorem trimGo_spec (numCoords : Nat) : ∀ (d : Bytes) (i cb cwf k : Nat),
    trimGo numCoords d i cb cwf = k → k ≠ 0 → TrimSpec numCoords d i cb cwf k
  | [], i, cb, cwf, k, h, hne => trimEnd_spec _ (trimGo_nil .. ▸ h) hne
  | f :: rest, i, cb, cwf, k, h, hne => by
    by_cases hf : (f &&& 0x08 != 0) = true
    · match rest, h with
      | [], h => rw [trimGo_rep_end _ _ _ _ _ hf] at h; exact absurd h.symm hne
      | r :: rest, h =>
        rw [trimGo_rep _ _ _ _ _ _ _ hf] at h
        apply trimSpec_cons_rep _ _ _ _ _ _ _ _ hf
        by_cases hge : cwf + (r + 1) ≥ numCoords
        · rw [if_pos hge] at h; exact trimEnd_spec _ h hne
        · rw [if_neg hge] at h; exact trimGo_spec numCoords rest _ _ _ k h hne
    · rw [trimGo_one _ _ _ _ _ _ (Bool.eq_false_iff.mpr hf)] at h
      apply trimSpec_cons_one _ _ _ _ _ _ _ hf
      by_cases hge : cwf + 1 ≥ numCoords
      · rw [if_pos hge] at h; exact trimEnd_spec _ h hne
      · rw [if_neg hge] at h; exact trimGo_spec numCoords rest _ _ _ k h hne

end FontVerif.Subset
