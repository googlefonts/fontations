/-
Helper definitions and lemmas for the C17 layout theorems (Props/C17Layout.lean): well-formedness
predicates of the statements (`CovOk`, `ClassOk`, `PlanOk'`, `AttachOk`, `LigOk`, `MarkSetsOk`, `StoreOk`,
`VarPlanSpec`, the pass-through correctness predicates), the per-sub-table specifications
(`subsetCoverage_spec`, `attach_list_subset`, `lig_caret_list_subset`, …) and the decomposition of a
successful `subset_gdef` run (`gdef_fields`).
-/
import FontVerif.Model.SubsetGdef
import FontVerif.Lemmas.Base
import FontVerif.Lemmas.SubsetLayout
import FontVerif.Lemmas.SubsetLayoutClassDef
import FontVerif.Lemmas.LayoutPair
import FontVerif.Lemmas.SubsetGdef
import FontVerif.Lemmas.SubsetHvar
namespace FontVerif.SubsetLayout
open FontVerif.Layout FontVerif.SubsetGdef

/-- a coverage table as the specification requires it: glyph array strictly ascending / range
records ascending, disjoint, with running start coverage indices; every covered glyph exists -/
def CovOk (p : LPlan) : Coverage → Prop
  | .fmt1 xs => xs.Pairwise (· < ·) ∧ ∀ g ∈ xs, g < p.numGlyphs ∧ g < 65536
  | .fmt2 rs => WFRanges 0 rs ∧ ∀ g ∈ expandRanges rs, g < p.numGlyphs ∧ g < 65536

def kept (p : LPlan) (g : Nat) : Bool := (p.get g).isSome

/-- the plan of a font with at most 65535 output glyphs -/
structure PlanOk' (p : LPlan) : Prop extends PlanOk p where
  newLt' : ∀ kv ∈ p.gmap, kv.2 < 65535
  numLe : p.numGlyphs ≤ 65536
  nonempty : p.glyphset ≠ []

/-- `CovOk` is read-fonts' well-formedness (`Coverage.WF`) plus "every covered glyph exists" -/
theorem CovOk.wf {p : LPlan} {c : Coverage} (hc : CovOk p c) : c.WF := by
  cases c with
  | fmt1 xs => exact ⟨hc.1, fun x hx => (hc.2 x hx).2⟩
  | fmt2 rs =>
    exact ⟨hc.1, fun r hr => (hc.2 r.end_ (mem_expandRanges.mpr ⟨r, hr, wf_start_le_end hc.1 r hr, Nat.le_refl _⟩)).2⟩

theorem CovOk.sorted {p : LPlan} {c : Coverage} (hc : CovOk p c) : c.glyphs.Pairwise (· < ·) :=
  Coverage.glyphs_sorted hc.wf

theorem CovOk.get_eq {p : LPlan} {c : Coverage} (hc : CovOk p c) (g : Nat) : c.get g = indexIn g c.glyphs :=
  Coverage.get_eq_indexIn hc.wf g

theorem CovOk.length_le {p : LPlan} {c : Coverage} (hc : CovOk p c) : c.glyphs.length ≤ p.numGlyphs := by
  apply sorted_length_le hc.sorted
  intro g hg
  cases c with
  | fmt1 xs => exact (hc.2 g hg).1
  | fmt2 rs => exact (hc.2 g hg).1

/-- position in a well-formed coverage, as the loops see it (`coverage.iter().enumerate()`) and as read-fonts finds it -/
theorem CovOk.mem_zipIdx {p : LPlan} {c : Coverage} (hc : CovOk p c) {g i : Nat} :
    (g, i) ∈ c.glyphs.zipIdx ↔ c.get g = some i := by
  rw [hc.get_eq, List.mem_zipIdx_iff_getElem?]
  exact ⟨indexIn_of_getElem? (hc.sorted.imp Nat.ne_of_lt), indexIn_getElem?⟩

theorem CovOk.mem_of_get {p : LPlan} {c : Coverage} (hc : CovOk p c) {g i : Nat} (h : c.get g = some i) :
    g ∈ c.glyphs :=
  List.mem_of_getElem? (List.mem_zipIdx_iff_getElem?.mp (hc.mem_zipIdx.mpr h))

/-- the kept glyphs of a coverage table are new ids below 65535, ascending: fewer than 65536 of them -/
theorem CovOk.kept_small {p : LPlan} {c : Coverage} (hc : CovOk p c) (hp : PlanOk' p) :
    (c.glyphs.filterMap p.get).length < 65536 := by
  have := sorted_length_le (kept_sorted hp.toPlanOk hc.sorted) 65535 (by
    intro x hx
    obtain ⟨g, _, e⟩ := List.mem_filterMap.mp hx
    exact hp.newLt' _ ((hp.get_iff g x).mp e))
  omega

theorem covRetained_eq {p : LPlan} (hp : PlanOk p) {c : Coverage} (hc : CovOk p c) :
    covRetained p c = .ok (c.glyphs.filterMap p.get) := by
  cases c with
  | fmt1 xs =>
    simp only [covRetained, Coverage.glyphs]
    rw [cov1Retained_eq hp hc.1]; rfl
  | fmt2 rs =>
    simp only [covRetained, Coverage.glyphs]
    exact cov2Retained_eq hp hc.1 (fun g hg => (hc.2 g hg).1)

/-- the whole behaviour of `CoverageTable::subset` on a well-formed table: nothing retained =
`Err(EMPTY)`; otherwise a table whose glyphs are the new ids of the kept covered glyphs in coverage
order and on which read-fonts' `get` (binary search) answers "position in that list" -/
theorem subsetCoverage_spec {p : LPlan} (hp : PlanOk p) {c : Coverage} (hc : CovOk p c)
    (hsmall : (c.glyphs.filterMap p.get).length < 65536) :
    (c.glyphs.filterMap p.get = [] ∧ subsetCoverage p c = .error .empty) ∨
    ∃ w, subsetCoverage p c = .ok w ∧ w.toCoverage.glyphs = c.glyphs.filterMap p.get ∧
      ∀ n, w.toCoverage.get n = indexIn n (c.glyphs.filterMap p.get) := by
  unfold subsetCoverage
  rw [covRetained_eq hp hc]
  by_cases he : c.glyphs.filterMap p.get = []
  · left
    refine ⟨he, ?_⟩
    simp [he, bind, Except.bind, throw, throwThe, MonadExceptOf.throw]
  · right
    have hlt : ∀ x ∈ c.glyphs.filterMap p.get, x < 65536 := by
      intro x hx
      obtain ⟨g, _, e⟩ := List.mem_filterMap.mp hx
      exact (hp.get_lt e).1
    obtain ⟨w, hw, hg, hget⟩ := serializeCoverage_get he (kept_sorted hp hc.sorted) hlt hsmall
    refine ⟨w, ?_, hg, hget⟩
    have : (c.glyphs.filterMap p.get).isEmpty = false := by
      cases h : c.glyphs.filterMap p.get with
      | nil => exact absurd h he
      | cons _ _ => rfl
    simp [bind, Except.bind, this, hw]

theorem coverage_empty_iff_no_kept_glyph_core {p : LPlan} (hp : PlanOk p) {c : Coverage} (hc : CovOk p c)
    (hsmall : (c.glyphs.filterMap p.get).length < 65536) :
    (subsetCoverage p c = .error .empty ↔ ∀ g ∈ c.glyphs, p.get g = none) ∧
    ((∃ g ∈ c.glyphs, kept p g = true) → ∃ w, subsetCoverage p c = .ok w) := by
  have hnil : c.glyphs.filterMap p.get = [] ↔ ∀ g ∈ c.glyphs, p.get g = none := by
    rw [List.filterMap_eq_nil_iff]
  rcases subsetCoverage_spec hp hc hsmall with ⟨he, hr⟩ | ⟨w, hw, hg, _⟩
  · refine ⟨⟨fun _ => hnil.mp he, fun _ => hr⟩, ?_⟩
    rintro ⟨g, hg, hk⟩
    have := hnil.mp he g hg
    simp [kept, this] at hk
  · refine ⟨⟨fun h => (by rw [hw] at h; cases h), fun hall => ?_⟩, fun _ => ⟨w, hw⟩⟩
    exfalso
    have hne : w.toCoverage.glyphs = [] := by rw [hg]; exact hnil.mpr hall
    -- the writer is only reached with a non-empty list
    unfold subsetCoverage at hw
    rw [covRetained_eq hp hc, hnil.mpr hall] at hw
    simp [bind, Except.bind, throw, throwThe, MonadExceptOf.throw] at hw

/-- non-vacuity: the hypotheses hold for a compact renumbering {0↦0, 4↦1, 5↦2, 9↦3} of a 12-glyph
font and the format 2 coverage 3..=6, 9; the subset then covers 1, 2, 3 -/
def exPlan : LPlan := { glyphset := [0, 4, 5, 9], gmap := [(0, 0), (4, 1), (5, 2), (9, 3)], numGlyphs := 12 }

def exCov : Coverage := .fmt2 [⟨3, 6, 0⟩, ⟨9, 9, 4⟩]

/-- a class definition as the specification requires it (format 2: records ascending and disjoint;
format 1 has no side condition) -/
def ClassOk : ClassDef → Prop
  | .fmt1 _ _ => True
  | .fmt2 rs => WFClassRanges rs

/-- the class a returned class map gives (identity without remapping; an unknown class is 0) -/
def remapC (cm : Option (List (Nat × Nat))) (c : Nat) : Nat :=
  match cm with
  | none => c
  | some m => (m.lookup c).getD 0

/-- the class the subset has to give the image of kept glyph `g` -/
def wantClass (a : CdArgs) (cd : ClassDef) (g : Nat) : Nat := if passFilter a g then cd.get g else 0

theorem subsetClassDef_pairs {p : LPlan} (hp : PlanOk' p) {a : CdArgs} {cd : ClassDef}
    (hcd : ClassOk cd) : ∃ ps, cdPairs p a cd = some ps ∧ PairsSpec p a cd ps := by
  obtain ⟨ps, hps⟩ := cdPairs_total hp.nonempty a cd
  refine ⟨ps, hps, cdPairs_spec hp.toPlanOk hp.numLe a ?_ hps⟩
  intro rs e; subst e; exact hcd

/-- the retained classes are the non-zero wanted classes of the kept glyphs -/
theorem PairsSpec.mem_retained {p : LPlan} {a : CdArgs} {cd : ClassDef} {ps : List (Nat × Nat)}
    (hspec : PairsSpec p a cd ps) (c : Nat) :
    c ∈ retainedClasses ps ↔ c ≠ 0 ∧ ∃ g n, p.get g = some n ∧ wantClass a cd g = c := by
  rw [(retainedClasses_spec ps).2 c]
  constructor
  · rintro ⟨n, hn⟩
    obtain ⟨g, hg, hf, hcg, hc0⟩ := (hspec.2 n c).mp hn
    exact ⟨hc0, g, n, hg, (if_pos hf).trans hcg⟩
  · rintro ⟨hc0, g, n, hg, hw⟩
    by_cases hf : passFilter a g = true
    · exact ⟨n, (hspec.2 n c).mpr ⟨g, hg, hf, (if_pos hf).symm.trans hw, hc0⟩⟩
    · exact absurd ((if_neg hf).symm.trans hw).symm hc0

theorem pairs_classes_nz {p : LPlan} {a : CdArgs} {cd : ClassDef} {ps : List (Nat × Nat)}
    (hspec : PairsSpec p a cd ps) : ∀ c ∈ retainedClasses ps, c ≠ 0 :=
  fun c hc => ((hspec.mem_retained c).mp hc).1

theorem pairs_keys_lt {p : LPlan} (hp : PlanOk' p) {a : CdArgs} {cd : ClassDef} {ps : List (Nat × Nat)}
    (hspec : PairsSpec p a cd ps) : ∀ x ∈ ps, x.1 < 65535 := by
  intro x hx
  obtain ⟨g, hg, _⟩ := (hspec.2 x.1 x.2).mp hx
  exact hp.newLt' _ ((hp.get_iff g x.1).mp hg)

theorem remapped_items {ps : List (Nat × Nat)} (hs : SortedItems ps) (hk : ∀ x ∈ ps, x.1 < 65535) (f : Nat → Nat) :
    SortedItems (ps.map fun x => (x.1, f x.2)) ∧ ∀ x ∈ ps.map (fun x => (x.1, f x.2)), x.1 < 65535 := by
  constructor
  · unfold SortedItems; rw [List.pairwise_map]; exact hs
  · intro x hx
    obtain ⟨y, hy, rfl⟩ := List.mem_map.mp hx
    exact hk y hy

/-- `ClassDef::subset` on a well-formed table, by the branch it takes; `ps` = the (new glyph id, class) pairs it collects:
`Err(EMPTY)` for no pair (unless empty tables are kept); without `remap_class` the pairs as written; with it the pairs
with their classes sent through the class map, which exists unless its `u16` counter overflows -/
theorem subsetClassDef_cases {p : LPlan} (hp : PlanOk' p) (a : CdArgs) {cd : ClassDef} (hcd : ClassOk cd) :
    ∃ ps, PairsSpec p a cd ps ∧
      ((a.keepEmpty = false ∧ ps = [] ∧ subsetClassDef p a cd = .error .empty) ∨
       (a.remapClass = false ∧ ∃ out, subsetClassDef p a cd = .ok (out, none) ∧
          ∀ n, out.get n = (itemGet n ps).getD 0) ∨
       (a.remapClass = true ∧ classMap (useClassZero p a ps.length) (retainedClasses ps) = none ∧
          subsetClassDef p a cd = .error .trap) ∨
       (a.remapClass = true ∧ ∃ m out, classMap (useClassZero p a ps.length) (retainedClasses ps) = some m ∧
          subsetClassDef p a cd = .ok (out, some m) ∧
          ∀ n, out.get n = ((itemGet n ps).map fun c => (m.lookup c).getD 0).getD 0)) := by
  obtain ⟨ps, hps, hspec⟩ := subsetClassDef_pairs hp (a := a) hcd
  have hkeys := pairs_keys_lt hp hspec
  refine ⟨ps, hspec, ?_⟩
  unfold subsetClassDef
  simp only [hps]
  by_cases he : (!a.keepEmpty && ps.isEmpty) = true
  · rw [if_pos he]
    simp only [Bool.and_eq_true, Bool.not_eq_eq_eq_not, Bool.not_true, List.isEmpty_iff] at he
    exact Or.inl ⟨he.1, he.2, rfl⟩
  rw [if_neg he]
  cases hr : a.remapClass with
  | false =>
    obtain ⟨out, hw, hg⟩ := serializeClassDef_get hspec.1 hkeys
    exact Or.inr (Or.inl ⟨rfl, out, by simp [hw, Except.map], hg⟩)
  | true =>
    simp only [Bool.not_true, Bool.false_eq_true, ↓reduceIte]
    cases hcm : classMap (useClassZero p a ps.length) (retainedClasses ps) with
    | none => exact Or.inr (Or.inr (Or.inl ⟨trivial, rfl, rfl⟩))
    | some m =>
      obtain ⟨hs', hk'⟩ := remapped_items hspec.1 hkeys (fun c => (m.lookup c).getD 0)
      obtain ⟨out, hw, hg⟩ := serializeClassDef_get hs' hk'
      refine Or.inr (Or.inr (Or.inr ⟨trivial, m, out, rfl, by simp [hw, Except.map], fun n => ?_⟩))
      rw [hg n, itemGet_map (fun c => (m.lookup c).getD 0) n ps]

theorem classdef_subset_get_core {p : LPlan} (hp : PlanOk' p) {a : CdArgs} {cd : ClassDef}
    (hcd : ClassOk cd) {out : ClassDef} {cm : Option (List (Nat × Nat))}
    (h : subsetClassDef p a cd = .ok (out, cm)) :
    (∀ g n, p.get g = some n → out.get n = remapC cm (wantClass a cd g)) ∧
    (∀ n, (∀ g, p.get g ≠ some n) → out.get n = 0) ∧
    (cm.isSome = a.remapClass) := by
  obtain ⟨ps, hspec, hc⟩ := subsetClassDef_cases hp a hcd
  have hget := pairsSpec_itemGet hp.toPlanOk hspec
  rcases hc with ⟨_, _, e⟩ | ⟨hr, out', e, hg⟩ | ⟨_, _, e⟩ | ⟨hr, m, out', hcm, e, hg⟩
  · rw [e] at h; cases h
  · cases e.symm.trans h
    exact ⟨fun g n hgn => (hg n).trans (hget.1 g n hgn), fun n hn => (hg n).trans (hget.2 n hn), by simp [hr]⟩
  · rw [e] at h; cases h
  · cases e.symm.trans h
    have h0 := (classMap_lookup (retainedClasses_spec ps).1 (pairs_classes_nz hspec) hcm).1
    -- the class map sends 0 to 0, so it may be applied after the default as well as before
    have hg' : ∀ n, out.get n = (m.lookup ((itemGet n ps).getD 0)).getD 0 := fun n => by
      have := Option.getD_map (fun c => (m.lookup c).getD 0) 0 (itemGet n ps)
      rw [h0] at this
      exact (hg n).trans this
    exact ⟨fun g n hgn => by rw [hg' n, hget.1 g n hgn]; rfl, fun n hn => by rw [hg' n, hget.2 n hn, h0], by simp [hr]⟩

theorem classdef_subset_total_core {p : LPlan} (hp : PlanOk' p) {a : CdArgs} {cd : ClassDef}
    (hcd : ClassOk cd) (hcls : a.remapClass = true → ∀ g n, p.get g = some n → cd.get g < 65535) :
    (∃ r, subsetClassDef p a cd = .ok r) ∨
    (subsetClassDef p a cd = .error .empty ∧ a.keepEmpty = false ∧
      ∀ g n, p.get g = some n → wantClass a cd g = 0) := by
  obtain ⟨ps, hspec, hc⟩ := subsetClassDef_cases hp a hcd
  rcases hc with ⟨hk, he, e⟩ | ⟨_, out, e, _⟩ | ⟨hr, hcm, _⟩ | ⟨_, m, out, _, e, _⟩
  · refine Or.inr ⟨e, hk, fun g n hg => Classical.byContradiction fun hne => ?_⟩
    have := (hspec.mem_retained _).mpr ⟨hne, g, n, hg, rfl⟩
    rw [he] at this; cases this
  · exact Or.inl ⟨_, e⟩
  · -- classes are 1..65534, so there are at most 65534 of them: the u16 counter cannot overflow
    have hlen2 : (retainedClasses ps).length ≤ 65534 := by
      have := sorted_length_le_aux (retainedClasses_spec ps).1 1 65535 (fun c hc => by
        constructor
        · have := pairs_classes_nz hspec c hc; omega
        · obtain ⟨n, hn⟩ := ((retainedClasses_spec ps).2 c).mp hc
          obtain ⟨g, hg, _, hcg, _⟩ := (hspec.2 n c).mp hn
          rw [← hcg]; exact hcls hr g n hg)
      omega
    obtain ⟨m, hm⟩ := classMap_total (useClassZero p a ps.length) hlen2
    rw [hm] at hcm; cases hcm
  · exact Or.inl ⟨_, e⟩

theorem gdef_fields {p : LPlan} {g : GdefIn} {o : GdefOut} (h : subsetGdefSem p g = .ok o) :
    optSem g.glyphClassDef (fun cd => (subsetClassDef p gdefCdArgs cd).map (·.1)) = .ok o.glyphClassDef ∧
    optSem g.attachList (attachSem p) = .ok o.attachList ∧
    optSem g.ligCaretList (ligSem p (varPlan p g).vmap) = .ok o.ligCaretList ∧
    optSem g.markAttachClassDef (fun cd => (subsetClassDef p gdefCdArgs cd).map (·.1)) = .ok o.markAttachClassDef ∧
    setsPart p g = .ok o.markGlyphSets ∧
    storePart p g = .ok o.varStore ∧
    o.major = g.major ∧
    o.minor = (if o.varStore.isSome then g.minor else if o.markGlyphSets.isSome then 2 else 0) ∧
    (o.glyphClassDef.isSome || o.attachList.isSome || o.ligCaretList.isSome ||
      o.markAttachClassDef.isSome || o.markGlyphSets.isSome || o.varStore.isSome) = true := by
  unfold subsetGdefSem at h
  obtain ⟨store, hstore, h⟩ := Do.bind_ok h
  obtain ⟨sets, hsets, h⟩ := Do.bind_ok h
  obtain ⟨mac, hmac, h⟩ := Do.bind_ok h
  obtain ⟨lig, hlig, h⟩ := Do.bind_ok h
  obtain ⟨att, hatt, h⟩ := Do.bind_ok h
  obtain ⟨cls, hcls, h⟩ := Do.bind_ok h
  by_cases hany : (cls.isSome || att.isSome || lig.isSome || mac.isSome || sets.isSome || store.isSome) = true
  · rw [if_pos hany] at h
    cases h
    exact ⟨hcls, hatt, hlig, hmac, hsets, hstore, rfl, rfl, hany⟩
  · rw [if_neg hany] at h; cases h

theorem setsPart_some {p : LPlan} {g : GdefIn} {x : Nat × List CovW} (h : setsPart p g = .ok (some x)) :
    2 ≤ g.minor ∧ optSem g.markGlyphSets (markSetsSem p) = .ok (some x) := by
  unfold setsPart at h
  by_cases h2 : g.minor ≥ 2
  · rw [if_pos h2] at h; exact ⟨h2, h⟩
  · rw [if_neg h2] at h; cases h

theorem storePart_some {p : LPlan} {g : GdefIn} {x : Nat × SubsetHvar.StoreOut} (h : storePart p g = .ok (some x)) :
    3 ≤ g.minor ∧ optSem g.varStore (fun st => storeSem st (varPlan p g).inner) = .ok (some x) := by
  unfold storePart at h
  by_cases h3 : g.minor ≥ 3
  · rw [if_pos h3] at h; exact ⟨h3, h⟩
  · rw [if_neg h3] at h; cases h

theorem optSem_ok {α β : Type} {t : Tbl α} {f : α → M β} {r : Option β} (h : optSem t f = .ok r) :
    (t = .absent ∧ r = none) ∨
    ∃ x, t = .ok x ∧ ((f x = .error .empty ∧ r = none) ∨ ∃ y, f x = .ok y ∧ r = some y) := by
  unfold optSem at h
  cases t with
  | absent => left; simp only [pure, Except.pure, Except.ok.injEq] at h; exact ⟨rfl, h.symm⟩
  | bad => cases h
  | ok x =>
    right
    refine ⟨x, rfl, ?_⟩
    simp only at h
    cases hf : f x with
    | ok y =>
      simp only [hf, pure, Except.pure, Except.ok.injEq] at h
      right; exact ⟨y, rfl, h.symm⟩
    | error e =>
      cases e with
      | empty =>
        simp only [hf, pure, Except.pure, Except.ok.injEq] at h
        left; exact ⟨rfl, h.symm⟩
      | soft => simp [hf] at h
      | hard => simp [hf] at h
      | trap => simp [hf] at h

theorem optSem_some {α β : Type} {x : α} {f : α → M β} {y : β} (h : optSem (.ok x) f = .ok (some y)) :
    f x = .ok y := by
  rcases optSem_ok h with ⟨e, _⟩ | ⟨x', e, ⟨_, e2⟩ | ⟨y', hy, e2⟩⟩
  · cases e
  · cases e2
  · cases e; cases e2; exact hy

/-- read-fonts' `ClassDef::get` on an optional class definition (no table = class 0) -/
def classOf (cd : Option ClassDef) (g : Nat) : Nat :=
  match cd with
  | some cd => cd.get g
  | none => 0

def tblOpt {α : Type} : Tbl α → Option α
  | .ok x => some x
  | _ => none

theorem gdef_class_preserved_aux {p : LPlan} (hp : PlanOk' p) {t : Tbl ClassDef} {r : Option ClassDef}
    (hcd : ∀ cd, t = .ok cd → ClassOk cd)
    (h : optSem t (fun cd => (subsetClassDef p gdefCdArgs cd).map (·.1)) = .ok r) :
    (∀ g n, p.get g = some n → classOf r n = classOf (tblOpt t) g) ∧
    (∀ n, (∀ g, p.get g ≠ some n) → classOf r n = 0) := by
  have hw : ∀ cd g, wantClass gdefCdArgs cd g = cd.get g := by
    intro cd g; simp [wantClass, passFilter, gdefCdArgs]
  rcases optSem_ok h with ⟨e1, e2⟩ | ⟨cd, e1, hh⟩
  · subst e1; subst e2
    exact ⟨fun _ _ _ => rfl, fun _ _ => rfl⟩
  · subst e1
    have hok := hcd cd rfl
    rcases hh with ⟨he, e2⟩ | ⟨y, hy, e2⟩
    · subst e2
      -- subset to empty: no kept glyph has a class
      have hne : subsetClassDef p gdefCdArgs cd = .error .empty := by
        cases hs : subsetClassDef p gdefCdArgs cd with
        | ok v => rw [hs] at he; cases he
        | error e => rw [hs] at he; simp only [Except.map] at he; injection he with he; rw [he]
      rcases classdef_subset_total_core hp (a := gdefCdArgs) hok (by simp [gdefCdArgs]) with ⟨v, hv⟩ | ⟨_, _, hz⟩
      · rw [hv] at hne; cases hne
      · refine ⟨fun g n hg => ?_, fun _ _ => rfl⟩
        have := hz g n hg
        rw [hw] at this
        simp [classOf, tblOpt, this]
    · subst e2
      obtain ⟨⟨out, cm⟩, hs, rfl⟩ := Do.map_ok hy
      obtain ⟨h1, h2, h3⟩ := classdef_subset_get_core hp hok hs
      have hcm : cm = none := by
        cases cm with
        | none => rfl
        | some m => simp [gdefCdArgs] at h3
      subst hcm
      refine ⟨fun g n hg => ?_, fun n hn => h2 n hn⟩
      have := h1 g n hg
      simpa [classOf, tblOpt, remapC, hw] using this

theorem cov_items {p : LPlan} {c : Coverage} (hc : CovOk p c) {count : Nat} (hcount : count = c.glyphs.length) :
    (c.glyphs.zipIdx).take (min p.numGlyphs count) = c.glyphs.zipIdx := by
  apply List.take_of_length_le
  rw [List.length_zipIdx, hcount]
  have := hc.length_le
  omega

theorem retained_coverage {p : LPlan} (hp : PlanOk' p) {β : Type} (es : List (Nat × β))
    (hne : es ≠ []) (hs : (es.map (·.1)).Pairwise (· < ·))
    (hk : ∀ e ∈ es, ∃ g, p.get g = some e.1) :
    ∃ w, serializeCoverage (es.map (·.1)) = .ok w ∧
      ∀ n, w.toCoverage.get n = indexIn n (es.map (·.1)) := by
  have hlt : ∀ x ∈ es.map (·.1), x < 65535 := by
    intro x hx
    obtain ⟨e, he, e1⟩ := List.mem_map.mp hx
    obtain ⟨g, hg⟩ := hk e he
    rw [← e1]
    exact hp.newLt' _ ((hp.get_iff g e.1).mp hg)
  have hlen := sorted_length_le hs 65535 hlt
  obtain ⟨w, hw, _, hget⟩ := serializeCoverage_get (gs := es.map (·.1))
    (by intro h; exact hne (List.map_eq_nil_iff.mp h)) hs
    (fun x hx => by have := hlt x hx; omega) (by omega)
  exact ⟨w, hw, hget⟩

/-- a coverage-indexed array (`AttachList`, `LigCaretList`) as it is written from the entries of its loop (`keyedItem`): a
kept covered glyph with a payload finds it, through the written coverage, at its new id; an id that is not the image of
such a glyph is not covered -/
theorem keyed_array {p : LPlan} (hp : PlanOk' p) {c : Coverage} (hc : CovOk p c) {β : Type} (pay : Nat → Option β)
    {entries : List (Nat × β)} (hent : entries = c.glyphs.zipIdx.filterMap (keyedItem p pay)) (hne : entries ≠ []) :
    ∃ w, serializeCoverage (entries.map (·.1)) = .ok w ∧
      (∀ g n i b, p.get g = some n → c.get g = some i → pay i = some b →
        ∃ j, w.toCoverage.get n = some j ∧ (entries.map (·.2))[j]? = some b) ∧
      (∀ n, (∀ g i b, p.get g = some n → c.get g = some i → pay i ≠ some b) → w.toCoverage.get n = none) := by
  obtain ⟨hes, hmem⟩ := keyed_entries p hp.toPlanOk pay c.glyphs.zipIdx (by rw [List.zipIdx_map_fst]; exact hc.sorted)
  rw [← hent] at hes hmem
  obtain ⟨w, hw, hget⟩ := retained_coverage hp entries hne hes (fun e he => by
    obtain ⟨g, _, _, hg, _⟩ := (hmem e.1 e.2).mp he
    exact ⟨g, hg⟩)
  refine ⟨w, hw, fun g n i b hgn hci hv => ?_, fun n hn => ?_⟩
  · obtain ⟨j, h1, h2⟩ := entries_lookup entries n b (hes.imp (fun h => Nat.ne_of_lt h))
      ((hmem n b).mpr ⟨g, i, hc.mem_zipIdx.mpr hci, hgn, hv⟩)
    exact ⟨j, (hget n).trans h1, h2⟩
  · rw [hget n]
    refine indexIn_none_of_keys entries n fun b hm => ?_
    obtain ⟨g, i, hit, hgn, hv⟩ := (hmem n b).mp hm
    exact hn g i b hgn (hc.mem_zipIdx.mp hit) hv

/-- a well-formed AttachList: coverage as the specification requires, one readable AttachPoint table
per covered glyph -/
structure AttachOk (p : LPlan) (a : AttachListIn) (c : Coverage) : Prop where
  cov : a.cov = some c
  covOk : CovOk p c
  count : a.glyphCount = c.glyphs.length
  readable : ∀ i, i < c.glyphs.length → ∃ bs, a.points[i]? = some (some bs)

/-- `AttachList::subset` on a well-formed list: `Err(EMPTY)` exactly when no
covered glyph is kept; otherwise the written list gives — through its coverage table — every kept
covered glyph the AttachPoint table the original gave it, and covers no other id. -/
theorem attach_list_subset {p : LPlan} (hp : PlanOk' p) {a : AttachListIn} {c : Coverage}
    (ha : AttachOk p a c) :
    (attachSem p a = .error .empty ∧ ∀ g ∈ c.glyphs, p.get g = none) ∨
    ∃ o, attachSem p a = .ok o ∧
      (∀ g n i bs, p.get g = some n → c.get g = some i → a.points[i]? = some (some bs) →
        ∃ j, o.cov.toCoverage.get n = some j ∧ o.points[j]? = some bs) ∧
      (∀ n, (∀ g ∈ c.glyphs, p.get g ≠ some n) → o.cov.toCoverage.get n = none) := by
  have hitems := cov_items ha.covOk ha.count
  obtain ⟨entries, hent⟩ := attachGo_total p a.points c.glyphs.zipIdx (by
    intro it hit _
    exact ha.readable it.2 (List.getElem?_eq_some_iff.mp (List.mem_zipIdx_iff_getElem?.mp hit)).1)
  have hfm := attachGo_spec p a.points c.glyphs.zipIdx entries hent
  unfold attachSem
  simp only [ha.cov, hitems, hent]
  by_cases he : entries = []
  · left
    refine ⟨by simp [he], ?_⟩
    intro g hg
    cases hgn : p.get g with
    | none => rfl
    | some n =>
      exfalso
      obtain ⟨i, hi, e⟩ := List.getElem_of_mem hg
      obtain ⟨bs, hb⟩ := ha.readable i hi
      have : (n, bs) ∈ entries := hfm ▸ List.mem_filterMap.mpr ⟨(g, i),
        List.mem_zipIdx_iff_getElem?.mpr (by rw [List.getElem?_eq_getElem hi, e]),
        keyedItem_eq_some.mpr ⟨hgn, by show (a.points[i]?).join = _; rw [hb]; rfl⟩⟩
      cases he ▸ this
  · right
    have hemp : entries.isEmpty = false := by cases entries <;> simp_all
    obtain ⟨w, hw, hin, hout⟩ := keyed_array hp ha.covOk _ hfm he
    simp only [hemp, Bool.false_eq_true, ↓reduceIte, hw, Except.map]
    exact ⟨_, rfl, fun g n i bs hgn hci hb => hin g n i bs hgn hci (by rw [hb]; rfl), fun n hn => hout n fun g i b hgn hci _ => hn g (ha.covOk.mem_of_get hci) hgn⟩

/-- a well-formed LigCaretList: coverage as the specification requires, one readable LigGlyph per
covered glyph whose caret values are readable (format 3 with a readable Device / VariationIndex) -/
structure LigOk (p : LPlan) (l : LigCaretListIn) (c : Coverage) : Prop where
  cov : l.cov = some c
  covOk : CovOk p c
  count : l.count = c.glyphs.length
  readable : ∀ i, i < c.glyphs.length → ∃ carets, l.ligs[i]? = some (.ok carets)

/-- the caret value the subset has to hold for an original caret value: formats 1 and 2 (coordinate,
contour point index) byte for byte; format 3 with the same coordinate and its Device table copied /
its VariationIndex replaced by the new index of `layout_varidx_delta_map` -/
def wantCaret (vmap : List (Nat × Nat)) : CaretIn → Option CaretOut
  | .bad => none
  | .f1 bs => some (.plain bs)
  | .f2 bs => some (.plain bs)
  | .f3 coord (some (.device bs)) => some (.f3 coord bs)
  | .f3 coord (some (.varIdx outer inner)) =>
    (vmap.lookup (outer * 65536 + inner)).map fun new => .f3 coord (be32 new ++ be16 0x8000)
  | .f3 _ none => none

theorem caretSem_want (vmap : List (Nat × Nat)) (c : CaretIn) (out : CaretOut)
    (h : caretSem vmap c = .ok out) : wantCaret vmap c = some out := by
  cases c with
  | bad => cases h
  | f1 bs => simp only [caretSem, pure, Except.pure, Except.ok.injEq] at h; subst h; rfl
  | f2 bs => simp only [caretSem, pure, Except.pure, Except.ok.injEq] at h; subst h; rfl
  | f3 coord dev =>
    cases dev with
    | none => cases h
    | some d =>
      cases d with
      | device bs =>
        simp only [caretSem, subsetDevice, pure, Except.pure, Except.map, Except.ok.injEq] at h
        subst h; rfl
      | varIdx o i =>
        simp only [caretSem, subsetDevice] at h
        cases hl : vmap.lookup (o * 65536 + i) with
        | none => simp [hl, Except.map] at h
        | some new =>
          simp only [hl, pure, Except.pure, Except.map, Except.ok.injEq] at h
          subst h
          simp [wantCaret, hl]

theorem caretSem_not_empty (vmap : List (Nat × Nat)) (c : CaretIn) : caretSem vmap c ≠ .error .empty := by
  cases c with
  | bad => simp [caretSem]
  | f1 bs => simp [caretSem, pure, Except.pure]
  | f2 bs => simp [caretSem, pure, Except.pure]
  | f3 coord dev =>
    cases dev with
    | none => simp [caretSem]
    | some d =>
      cases d with
      | device bs => simp [caretSem, subsetDevice, pure, Except.pure, Except.map]
      | varIdx o i =>
        simp only [caretSem, subsetDevice]
        cases vmap.lookup (o * 65536 + i) <;> simp [Except.map, pure, Except.pure]

theorem mapM_caretSem (vmap : List (Nat × Nat)) (cs : List CaretIn) :
    (∃ o', cs.mapM (caretSem vmap) = .ok o' ∧ cs.map (wantCaret vmap) = o'.map some) ∨
    ∃ e, cs.mapM (caretSem vmap) = .error e ∧ e ≠ .empty := by
  induction cs with
  | nil => exact Or.inl ⟨[], rfl, rfl⟩
  | cons c rest ih =>
    simp only [List.mapM_cons, bind, Except.bind]
    cases hc : caretSem vmap c with
    | error e => exact Or.inr ⟨e, rfl, fun h => caretSem_not_empty vmap c (h ▸ hc)⟩
    | ok oc =>
      rcases ih with ⟨orest, hr, hw⟩ | ⟨e, hr, hne⟩
      · exact Or.inl ⟨oc :: orest, by simp only [hr]; rfl, by simp [caretSem_want vmap c oc hc, hw]⟩
      · exact Or.inr ⟨e, by simp only [hr], hne⟩

theorem ligGlyphSem_want (vmap : List (Nat × Nat)) (carets : List CaretIn) (out : List CaretOut)
    (h : ligGlyphSem vmap carets = .ok out) :
    carets.map (wantCaret vmap) = out.map some := by
  unfold ligGlyphSem at h
  rcases mapM_caretSem vmap carets with ⟨o', hm, hw⟩ | ⟨e, hm, _⟩
  · simp only [hm] at h
    split at h
    · cases h
    · cases h
      exact hw
  · simp [hm] at h

theorem ligGlyphSem_empty (vmap : List (Nat × Nat)) (carets : List CaretIn)
    (h : ligGlyphSem vmap carets = .error .empty) : carets = [] := by
  unfold ligGlyphSem at h
  rcases mapM_caretSem vmap carets with ⟨o', hm, hw⟩ | ⟨e, hm, hne⟩
  · simp only [hm] at h
    split at h
    · rename_i hemp
      rw [List.isEmpty_iff.mp hemp] at hw
      exact List.map_eq_nil_iff.mp hw
    · cases h
  · simp only [hm] at h
    exact absurd (Except.error.inj h) hne

/-- whenever `LigCaretList::subset` writes a list for a well-formed
original: every kept covered glyph whose LigGlyph is written has — through the subset's coverage —
exactly its caret values in order (`wantCaret`: formats 1/2 unchanged incl. the format 2 point index,
format 3 coordinate unchanged, Device copied, VariationIndex remapped); a kept covered glyph WITHOUT
caret values is left out of the coverage (fix 87f42c2) and no other id is covered. -/
theorem lig_caret_list_subset {p : LPlan} (hp : PlanOk' p) {vmap : List (Nat × Nat)}
    {l : LigCaretListIn} {c : Coverage} (hl : LigOk p l c) {o : LigOut}
    (h : ligSem p vmap l = .ok o) :
    (∀ g n i carets, p.get g = some n → c.get g = some i → l.ligs[i]? = some (.ok carets) →
      carets ≠ [] →
      ∃ j out, o.cov.toCoverage.get n = some j ∧ o.ligs[j]? = some out ∧
        carets.map (wantCaret vmap) = out.map some) ∧
    (∀ g n i, p.get g = some n → c.get g = some i → l.ligs[i]? = some (.ok []) →
      o.cov.toCoverage.get n = none) ∧
    (∀ n, (∀ g ∈ c.glyphs, p.get g ≠ some n) → o.cov.toCoverage.get n = none) := by
  have hitems := cov_items hl.covOk hl.count
  unfold ligSem at h
  simp only [hl.cov, hitems] at h
  cases hent : ligListGo p vmap l.ligs c.glyphs.zipIdx with
  | error e => simp [hent] at h
  | ok entries =>
    simp only [hent] at h
    obtain ⟨hfm, hpast⟩ := ligListGo_spec p vmap l.ligs c.glyphs.zipIdx entries hent
    split at h
    · cases h
    · rename_i hne
      have he : entries ≠ [] := by intro e; simp [e] at hne
      obtain ⟨w, hw, hin, hout⟩ := keyed_array hp hl.covOk _ hfm he
      simp only [hw, Except.map, Except.ok.injEq] at h
      subst h
      simp only
      refine ⟨?_, ?_, fun n hn => hout n fun g i b hgn hci _ => hn g (hl.covOk.mem_of_get hci) hgn⟩
      · -- a kept covered glyph with carets: its LigGlyph was subset (the whole list would have failed otherwise)
        intro g n i carets hgn hci hli hcne
        cases hs : ligGlyphSem vmap carets with
        | ok out =>
          obtain ⟨j, h1, h2⟩ := hin g n i out hgn hci (by simp only [ligPay, hli, hs]; rfl)
          exact ⟨j, out, h1, h2, ligGlyphSem_want vmap carets out hs⟩
        | error e =>
          exfalso
          -- an error other than EMPTY aborts the loop
          cases hpast (g, i) (hl.covOk.mem_zipIdx.mpr hci) n carets e hgn hli hs
          exact hcne (ligGlyphSem_empty vmap carets hs)
      · intro g n i hgn hci hli
        refine hout n fun g' i' out hgn' hci' hs => ?_
        -- the glyph occurs once in the coverage
        cases hp.get_inj hgn' hgn
        cases hci.symm.trans hci'
        simp [ligPay, hli, ligGlyphSem, pure, Except.pure, Except.toOption] at hs

/-- well-formed MarkGlyphSets: every coverage table readable and as the specification requires -/
def MarkSetsOk (p : LPlan) (m : MarkSetsIn) : Prop :=
  ∀ s ∈ m.sets, ∃ c, s = some c ∧ CovOk p c

theorem survive_iff_used {p : LPlan} (hp : PlanOk' p) {c : Coverage} (hc : CovOk p c) :
    setUsed p (some c) = (survive p (some c)).isSome := by
  have hsmall := hc.kept_small hp
  obtain ⟨hemp, hsucc⟩ := coverage_empty_iff_no_kept_glyph_core hp.toPlanOk hc hsmall
  by_cases hu : setUsed p (some c) = true
  · rw [hu]
    simp only [setUsed, List.any_eq_true, List.contains_iff_mem] at hu
    obtain ⟨g, hg, hgs⟩ := hu
    have hgs' : g ∈ p.glyphset := by simpa using hgs
    obtain ⟨n, hn⟩ := hp.mem_glyphset hgs'
    obtain ⟨w, hw⟩ := hsucc ⟨g, hg, by simp [kept, hn]⟩
    simp [survive, hw]
  · have hall : ∀ g ∈ c.glyphs, p.get g = none := by
      intro g hg
      cases hgn : p.get g with
      | none => rfl
      | some n =>
        exfalso; apply hu
        simp only [setUsed, List.any_eq_true]
        exact ⟨g, hg, by simpa using (hp.get_lt hgn).2.2⟩
    have := hemp.mpr hall
    simp [survive, this]
    simpa using hu

/-- `plan.used_mark_sets_map` (computed from the glyph set) agrees with what `MarkGlyphSets::subset` writes: its keys
are the sets that survive, and it sends each to its rank among the survivors -/
theorem usedMarkSetsMap_lookup {p : LPlan} (hp : PlanOk' p) {g : GdefIn} {m : MarkSetsIn}
    (hg : g.markGlyphSets = .ok m) (hm : MarkSetsOk p m) (i : Nat) :
    (usedMarkSetsMap p g).lookup i =
      if (survive p (m.sets.getD i none)).isSome then some ((m.sets.take i).filterMap (survive p)).length
      else none := by
  have hnn : ∀ s ∈ m.sets, s ≠ none := fun s hs e => by
    obtain ⟨c, hc, _⟩ := hm s hs; rw [e] at hc; cases hc
  have hus : ∀ s ∈ m.sets, setUsed p s = (survive p s).isSome := fun s hs => by
    obtain ⟨c, rfl, hc⟩ := hm s hs; exact survive_iff_used hp hc
  have hi : setUsed p (m.sets.getD i none) = (survive p (m.sets.getD i none)).isSome := by
    by_cases h : i < m.sets.length
    · rw [FontVerif.getD_eq_getElem _ _ _ h]; exact hus _ (List.getElem_mem h)
    · rw [getD_of_length_le _ (Nat.le_of_not_lt h)]; rfl
  simp only [usedMarkSetsMap, usedMarkSets, hg]
  rw [← Nat.zero_add i, usedGo_lookup p m.sets 0 0 i hnn, Nat.zero_add, Nat.zero_add, hi,
    filter_filterMap_length _ _ _ (fun s hs => hus s (List.mem_of_mem_take hs))]

/-- the side conditions of the HVAR theorems on an ItemVariationStore -/
structure StoreOk (st : StoreIn) (axisCount : Nat) (regions : List (List (Int × Int × Int))) : Prop where
  regs : st.regions = some (axisCount, regions)
  regLe : regions.length ≤ 65536
  subOk : ∀ t, SubsetHvar.SubIn.ok t ∈ st.subs →
    (∀ b ∈ t.data, b < 256) ∧ t.regionIndexes.length < 32768 ∧ SubsetHvar.SubOk t ∧
    ∀ ri ∈ t.regionIndexes, ri < regions.length

/-- what `remap_variation_indices` / `generate_varstore_inner_maps` compute: the variation index
`(outer, inner_maps[outer][i])` becomes `(number of used subtables before outer, i)` -/
def VarPlanSpec (vp : VarPlan) : Prop :=
  ∀ outer im i, vp.inner[outer]? = some im → i < im.length →
    vp.vmap.lookup (outer * 65536 + im[i]!) = some (SubsetHvar.usedBefore vp.inner outer * 65536 + i)

/-- a glyph map: injective partial function -/
def GlyphMapInj (f : Nat → Option Nat) : Prop := ∀ a b n, f a = some n → f b = some n → a = b

/-- the passed-through SingleSubst is right for kept inputs: applying the (unchanged) subtable to the
renumbered glyph gives the renumbering of what the original gives -/
def SingleCorrect (f : Nat → Option Nat) (t : SingleSubst) : Prop :=
  ∀ g n, f g = some n → t.apply n = (t.apply g).bind f

/-- the passed-through PairPos format 1 subtable gives a renumbered kept pair the original value -/
def PairCorrect {V : Type} (f : Nat → Option Nat) (t : PairPos1 V) : Prop :=
  ∀ g1 n1 g2 n2, f g1 = some n1 → f g2 = some n2 → t.lookup n1 n2 = t.lookup g1 g2

/-- a SingleSubst with a format 1 coverage as the specification requires it -/
def SingleWf (t : SingleSubst) : Prop :=
  ∃ xs, t.cov = .fmt1 xs ∧ xs.Pairwise (· < ·) ∧ (∀ x ∈ xs, x < 65536) ∧ t.subst.length = xs.length

/-- a PairPos format 1 subtable with a format 1 coverage as the specification requires it -/
def PairWf {V : Type} (t : PairPos1 V) : Prop :=
  ∃ xs, t.cov = .fmt1 xs ∧ xs.Pairwise (· < ·) ∧ (∀ x ∈ xs, x < 65536)

/-- a glyph map that fixes every glyph of `M` moves nothing into `M` from outside (it is injective), so a function of
glyph ids that is constant outside `M` has the same value at a kept glyph and at its image -/
theorem GlyphMapInj.eq_of_const_outside {f : Nat → Option Nat} (hinj : GlyphMapInj f) {M : List Nat}
    (hid : ∀ g ∈ M, f g = some g) {β : Type} (L : Nat → β) (d : β) (hL : ∀ x, x ∉ M → L x = d)
    {g n : Nat} (h : f g = some n) : L n = L g := by
  by_cases hg : g ∈ M
  · rw [Option.some.inj ((hid g hg).symm.trans h)]
  · have hn : n ∉ M := fun hn => hg (hinj g n n h (hid n hn) ▸ hn)
    rw [hL g hg, hL n hn]

/-- the table "`g` ↦ position 0" -/
theorem get_fmt1_singleton {g : Nat} (hlt : g < 65536) (x : Nat) :
    (Coverage.fmt1 [g]).get x = if g = x then some 0 else none := by
  rw [get_fmt1 (by simp) (by simpa using hlt), indexIn, indexIn]; rfl

theorem singleApply_of_not_mentioned {t : SingleSubst} (hwf : SingleWf t) {g : Nat} (h : g ∉ t.mentioned) :
    t.apply g = none := by
  obtain ⟨xs, hcov, hs, hb, _⟩ := hwf
  have hg : g ∉ xs := fun hx => h (List.mem_append_left _ (by rw [hcov]; exact hx))
  rw [SingleSubst.apply, hcov, get_fmt1 hs hb, indexIn_none hg]

theorem mem_mentioned_of_singleApply {t : SingleSubst} {g out : Nat} (h : t.apply g = some out) :
    out ∈ t.mentioned := by
  unfold SingleSubst.apply at h
  cases hi : t.cov.get g with
  | none => rw [hi] at h; cases h
  | some i => rw [hi] at h; exact List.mem_append_right _ (List.mem_of_getElem? h)

theorem pairLookup_of_first_not_mentioned {V : Type} {t : PairPos1 V} (hwf : PairWf t) {g1 : Nat}
    (h : g1 ∉ pairMentioned t) (g2 : Nat) : t.lookup g1 g2 = none := by
  obtain ⟨xs, hcov, hs, hb⟩ := hwf
  have hg : g1 ∉ xs := fun hx => h (List.mem_append_left _ (by rw [hcov]; exact hx))
  rw [PairPos1.lookup, hcov, get_fmt1 hs hb, indexIn_none hg]

theorem pairLookup_of_second_not_mentioned {V : Type} (t : PairPos1 V) (g1 : Nat) {g2 : Nat}
    (h : g2 ∉ pairMentioned t) : t.lookup g1 g2 = none := by
  unfold PairPos1.lookup
  cases t.cov.get g1 with
  | none => rfl
  | some i =>
    simp only []
    cases hp : t.pairSets[i]? with
    | none => rfl
    | some ps =>
      have : ps.find? (fun q => q.1 == g2) = none := List.find?_eq_none.mpr fun q hq he =>
        h (List.mem_append_right _ (List.mem_flatMap.mpr
          ⟨ps, List.mem_of_getElem? hp, List.mem_map.mpr ⟨q, hq, beq_iff_eq.mp he⟩⟩))
      simp only [this, Option.map_none]

/-- example input of the GDEF non-vacuity examples: a version 1.0 GDEF with a format 2 glyph class
definition {3..6 ↦ 2, 9 ↦ 5} -/
def exGdef : GdefIn :=
  { major := 1, minor := 0, glyphClassDef := .ok (.fmt2 [⟨3, 6, 2⟩, ⟨9, 9, 5⟩]), attachList := .absent,
    ligCaretList := .absent, markAttachClassDef := .absent, markGlyphSets := .absent, varStore := .absent }

end FontVerif.SubsetLayout
