/-
Helper lemmas for C06 (Model/Sfnt.lean): checksum algebra (`csSpec`), and the builder's table map as `SMap.insert` /
`List.lookup`.
-/
import FontVerif.Model.Sfnt
import FontVerif.Lemmas.Base
import FontVerif.Lemmas.SortedMap
namespace FontVerif.Sfnt

theorem round4_ge (n : Nat) : n ≤ round4 n := by unfold round4; omega
theorem round4_mod (n : Nat) : round4 n % 4 = 0 := by unfold round4; omega
theorem round4_lt (n : Nat) : round4 n < n + 4 := by unfold round4; omega

theorem be4_length (v : Nat) : (be4 v).length = 4 := rfl
theorem be2_length (v : Nat) : (be2 v).length = 2 := rfl

theorem be32_be4 (v : Nat) :
    be32 (v / 16777216 % 256) (v / 65536 % 256) (v / 256 % 256) (v % 256) = v % 4294967296 :=
  digits4_mod v

/-- specification form of `compute_checksum`: sum of zero-extended big-endian words mod 2^32 -/
def csSpec : Bytes → Nat
  | a :: b :: c :: d :: rest => (be32 a b c d + csSpec rest) % 4294967296
  | [a, b, c] => be32 a b c 0 % 4294967296
  | [a, b] => be32 a b 0 0 % 4294967296
  | [a] => be32 a 0 0 0 % 4294967296
  | [] => 0

theorem csSpec_lt (bs : Bytes) : csSpec bs < 4294967296 := by
  fun_induction csSpec bs <;> omega

theorem checksumAux_eq (s : Nat) (bs : Bytes) :
    checksumAux s bs = (s + csSpec bs) % 4294967296 := by
  fun_induction checksumAux s bs <;> simp only [csSpec] <;> omega

theorem checksum_eq (bs : Bytes) : checksum bs = csSpec bs := by
  unfold checksum
  rw [checksumAux_eq]
  have := csSpec_lt bs
  omega

theorem checksum_lt (bs : Bytes) : checksum bs < 4294967296 := by
  rw [checksum_eq]; exact csSpec_lt bs

theorem csSpec_append : (a b : Bytes) → a.length % 4 = 0 →
    csSpec (a ++ b) = (csSpec a + csSpec b) % 4294967296
  | [], b, _ => by
    have := csSpec_lt b
    simp only [List.nil_append, csSpec]; omega
  | [_], _, h => by simp at h
  | [_, _], _, h => by simp at h
  | [_, _, _], _, h => by simp at h
  | x :: y :: z :: w :: rest, b, h => by
    have ih := csSpec_append rest b (by simp only [List.length_cons] at h; omega)
    simp only [List.cons_append, csSpec]
    rw [ih]; omega

theorem checksum_append (a b : Bytes) (h : a.length % 4 = 0) :
    checksum (a ++ b) = (checksum a + checksum b) % 4294967296 := by
  simp only [checksum_eq]; exact csSpec_append a b h

theorem csSpec_zeros (k : Nat) : csSpec (zeros k) = 0 := by
  unfold zeros
  match k with
  | 0 => simp [csSpec]
  | 1 => simp [List.replicate, csSpec, be32]
  | 2 => simp [List.replicate, csSpec, be32]
  | 3 => simp [List.replicate, csSpec, be32]
  | k + 4 =>
    have ih := csSpec_zeros k
    unfold zeros at ih
    simp only [List.replicate_succ, csSpec, ih, be32]

theorem csSpec_append_zeros : (d : Bytes) → (k : Nat) → k < 4 → (d.length + k) % 4 = 0 →
    csSpec (d ++ zeros k) = csSpec d
  | [], k, hk, h => by
    obtain rfl : k = 0 := by simp only [List.length_nil] at h; omega
    rfl
  | [a], k, hk, h => by
    obtain rfl : k = 3 := by simp only [List.length_cons, List.length_nil] at h; omega
    show csSpec [a, 0, 0, 0] = _; rw [csSpec, csSpec, csSpec, Nat.add_zero]
  | [a, b], k, hk, h => by
    obtain rfl : k = 2 := by simp only [List.length_cons, List.length_nil] at h; omega
    show csSpec [a, b, 0, 0] = _; rw [csSpec, csSpec, csSpec, Nat.add_zero]
  | [a, b, c], k, hk, h => by
    obtain rfl : k = 1 := by simp only [List.length_cons, List.length_nil] at h; omega
    show csSpec [a, b, c, 0] = _; rw [csSpec, csSpec, csSpec, Nat.add_zero]
  | a :: b :: c :: e :: rest, k, hk, h => by
    simp only [List.cons_append, csSpec,
      csSpec_append_zeros rest k hk (by simp only [List.length_cons] at h; omega)]

theorem csSpec_pad (d : Bytes) : csSpec (d ++ zeros (round4 d.length - d.length)) = csSpec d :=
  csSpec_append_zeros d _ (by unfold round4; omega) (by unfold round4; omega)

theorem checksum_pad (d : Bytes) : checksum (d ++ zeros (round4 d.length - d.length)) = checksum d := by
  simp only [checksum_eq]; exact csSpec_pad d

theorem csSpec_be4 (v : Nat) : csSpec (be4 v) = v % 4294967296 := by
  rw [be4, csSpec, csSpec, Nat.add_zero, be32_be4, Nat.mod_mod]

/-- the `BTreeMap` invariant: strictly ascending tags -/
def Sorted (m : Tables) : Prop := m.Pairwise (fun a b => a.1 < b.1)

theorem insert_eq (t : Nat) (d : Bytes) (m : Tables) : insert t d m = SMap.insert t d m := by
  induction m with
  | nil => rfl
  | cons e r ih => obtain ⟨k', v'⟩ := e; simp only [insert, SMap.insert, ih]

theorem lookup_eq (m : Tables) (t : Nat) : lookup m t = List.lookup t m := by
  induction m with
  | nil => rfl
  | cons e r ih =>
    obtain ⟨k', v'⟩ := e
    rw [SMap.lookup_cons, lookup, ih]
    by_cases h : k' = t
    · rw [if_pos h, if_pos h.symm]
    · rw [if_neg h, if_neg (Ne.symm h)]

theorem lookup_insert_self (t : Nat) (d : Bytes) (m : Tables) : lookup (insert t d m) t = some d := by
  rw [lookup_eq, insert_eq, SMap.lookup_insert, if_pos rfl]

theorem lookup_insert_ne (t t' : Nat) (d : Bytes) (m : Tables) (h : t' ≠ t) :
    lookup (insert t d m) t' = lookup m t' := by
  rw [lookup_eq, insert_eq, SMap.lookup_insert, if_neg h, lookup_eq]

theorem mem_insert {t : Nat} {d : Bytes} {m : Tables} {e : Nat × Bytes} (h : e ∈ insert t d m) :
    e = (t, d) ∨ e ∈ m := SMap.mem_insert (insert_eq t d m ▸ h)

theorem insert_sorted (t : Nat) (d : Bytes) (m : Tables) (h : Sorted m) : Sorted (insert t d m) := by
  rw [insert_eq]; exact SMap.insert_sorted t d h

theorem sorted_tags_pairwise (m : Tables) (hs : Sorted m) : (m.map Prod.fst).Pairwise (· < ·) :=
  List.pairwise_map.2 hs

theorem sorted_nodup_tags (m : Tables) (h : Sorted m) : (m.map Prod.fst).Nodup :=
  sorted_nodup (sorted_tags_pairwise m h)

theorem sorted_unique (m : Tables) (h : Sorted m) (t : Nat) (d1 d2 : Bytes)
    (h1 : (t, d1) ∈ m) (h2 : (t, d2) ∈ m) : d1 = d2 := by
  have := eq_of_nodup_map Prod.fst m (sorted_nodup_tags m h) _ h1 _ h2 rfl
  exact (Prod.mk.inj this).2

theorem lookup_none (m : Tables) (t : Nat) (h : t ∉ m.map Prod.fst) : lookup m t = none := by
  induction m with
  | nil => rfl
  | cons e rest ih =>
    obtain ⟨t', d'⟩ := e
    simp only [List.map_cons, List.mem_cons, not_or] at h
    simp only [lookup]
    rw [if_neg (fun he => h.1 he.symm)]
    exact ih h.2

theorem contains_eq (m : Tables) (t : Nat) : contains m t = (lookup m t).isSome := rfl

end FontVerif.Sfnt
