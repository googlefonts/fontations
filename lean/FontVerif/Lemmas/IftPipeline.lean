/-
C18 — the front half of `apply_glyph_keyed_patches` (compat checks, header read, tag check, decode,
parse): what a successful run of its three loops says about every patch, and the three loops as a
per-patch function, for decoders that are functions of their arguments.

  `Stateless dec`          the decoder's answer does not depend on the call index
  `prepOne font dec ip`    what ONE (info, patch bytes) pair becomes: (info, decoded GlyphPatches), or none
  `prepAll font dec l`     all of them, none if any fails
Main result: `applyGlyphKeyed_ok_iff`.
-/
import FontVerif.Lemmas.IftGlyph
namespace FontVerif.Ift

def Stateless (dec : Decoder) : Prop := ∀ i j s b m, dec i s b m = dec j s b m

/-- a decoder that is a pure function of (brotli stream, optional dictionary, max length) — what
`SharedBrotliDecoder::decode(&self, encoded, dict, max_len)` of the real brotli decoders is assumed to
be: the call index is ignored -/
def pureDecoder (f : Bytes → Option Bytes → Nat → Except DErr Bytes) : Decoder := fun _ s b m => f s b m

theorem pureDecoder_stateless (f : Bytes → Option Bytes → Nat → Except DErr Bytes) :
    Stateless (pureDecoder f) := fun _ _ _ _ _ => rfl

def prepOne (font : Font) (dec : Decoder) (ip : PatchInfo × Bytes) : Option (PatchInfo × GlyphPatches) :=
  match fontCompatId font ip.1.tag with
  | .error _ => none
  | .ok fontId =>
    if fontId ≠ ip.1.compat then none
    else
      match gkRead ip.2 with
      | .error _ => none
      | .ok h =>
        if fontId ≠ h.compat then none
        else if h.format ≠ TAG_ifgk then none
        else
          match dec 0 h.stream none h.maxLen with
          | .error _ => none
          | .ok raw =>
            match gpRead raw h.wide with
            | .error _ => none
            | .ok gp => some (ip.1, gp)

def prepAll (font : Font) (dec : Decoder) : List (PatchInfo × Bytes) → Option (List (PatchInfo × GlyphPatches))
  | [] => some []
  | x :: xs =>
    match prepOne font dec x, prepAll font dec xs with
    | some y, some ys => some (y :: ys)
    | _, _ => none

theorem checkGlyphKeyed_cons_ok (font : Font) (info : PatchInfo) (p : Bytes) (rest : List (PatchInfo × Bytes))
    (hs : List (PatchInfo × GKHeader)) (h : checkGlyphKeyed font ((info, p) :: rest) = .ok hs) :
    ∃ hd more, fontCompatId font info.tag = .ok info.compat ∧ gkRead p = .ok hd ∧ info.compat = hd.compat ∧
      checkGlyphKeyed font rest = .ok more ∧ hs = (info, hd) :: more := by
  unfold checkGlyphKeyed at h
  cases hf : fontCompatId font info.tag with
  | error e => rw [hf] at h; cases h
  | ok fontId =>
    rw [hf] at h
    simp only at h
    by_cases h1 : fontId = info.compat
    · subst h1
      rw [if_neg (fun hn => hn rfl)] at h
      cases hg : gkRead p with
      | error e => rw [hg] at h; cases h
      | ok hd =>
        rw [hg] at h
        simp only at h
        by_cases h2 : info.compat = hd.compat
        · rw [if_neg (fun hn => hn h2)] at h
          cases hr : checkGlyphKeyed font rest with
          | error e => rw [hr] at h; cases h
          | ok more =>
            rw [hr] at h
            simp only [Except.ok.injEq] at h
            exact ⟨hd, more, rfl, rfl, h2, rfl, h.symm⟩
        · rw [if_pos h2] at h; cases h
    · rw [if_pos h1] at h; cases h

theorem checkGlyphKeyed_all (font : Font) (patches : List (PatchInfo × Bytes))
    (hs : List (PatchInfo × GKHeader)) (h : checkGlyphKeyed font patches = .ok hs) :
    hs.map (·.1) = patches.map (·.1) ∧
    ∀ ip ∈ patches, fontCompatId font ip.1.tag = .ok ip.1.compat ∧
      ∃ hd, gkRead ip.2 = .ok hd ∧ hd.compat = ip.1.compat := by
  induction patches generalizing hs with
  | nil => simp only [checkGlyphKeyed, Except.ok.injEq] at h; subst h; simp
  | cons x rest ih =>
    obtain ⟨info, p⟩ := x
    obtain ⟨hd, more, hf, hg, h2, hr, rfl⟩ := checkGlyphKeyed_cons_ok font info p rest hs h
    obtain ⟨i1, i2⟩ := ih more hr
    refine ⟨by simp [i1], ?_⟩
    intro ip hip
    rcases List.mem_cons.mp hip with e | e
    · subst e
      exact ⟨hf, hd, hg, h2.symm⟩
    · exact i2 ip e

theorem decodeAll_cons_ok (dec : Decoder) (hd : GKHeader) (rest : List GKHeader) (i : Nat) (raws : List Bytes)
    (h : decodeAll dec (hd :: rest) i = .ok raws) :
    ∃ raw more, hd.format = TAG_ifgk ∧ dec i hd.stream none hd.maxLen = .ok raw ∧
      decodeAll dec rest (i + 1) = .ok more ∧ raws = raw :: more := by
  rw [decodeAll] at h
  by_cases hf : hd.format = TAG_ifgk
  · rw [if_neg (fun hn => hn hf)] at h
    cases hr : dec i hd.stream none hd.maxLen with
    | error e => rw [hr] at h; cases h
    | ok raw =>
      cases hm : decodeAll dec rest (i + 1) with
      | error e => rw [hr, hm] at h; cases h
      | ok more =>
        rw [hr, hm] at h
        simp only [Except.ok.injEq] at h
        exact ⟨raw, more, hf, rfl, rfl, h.symm⟩
  · rw [if_pos hf] at h; cases h

theorem decodeAll_ok (dec : Decoder) (hs : List GKHeader) (i : Nat) (raws : List Bytes)
    (h : decodeAll dec hs i = .ok raws) :
    ∀ k (hk : k < hs.length), ∃ raw, dec (i + k) hs[k].stream none hs[k].maxLen = .ok raw := by
  induction hs generalizing i raws with
  | nil => intro k hk; cases hk
  | cons x xs ih =>
    obtain ⟨raw, more, _, hr, hm, rfl⟩ := decodeAll_cons_ok dec x xs i raws h
    intro k hk
    cases k with
    | zero => exact ⟨raw, hr⟩
    | succ k =>
      obtain ⟨raw', j2⟩ := ih (i + 1) more hm k (by simpa using hk)
      exact ⟨raw', by rw [show i + (k + 1) = i + 1 + k by omega]; simpa using j2⟩

theorem parseAll_cons_ok (raw : Bytes) (hd : GKHeader) (rest : List (Bytes × GKHeader)) (gps : List GlyphPatches)
    (h : parseAll ((raw, hd) :: rest) = .ok gps) :
    ∃ gp more, gpRead raw hd.wide = .ok gp ∧ parseAll rest = .ok more ∧ gps = gp :: more := by
  rw [parseAll] at h
  cases hg : gpRead raw hd.wide with
  | error e => rw [hg] at h; cases h
  | ok gp =>
    cases hm : parseAll rest with
    | error e => rw [hg, hm] at h; cases h
    | ok more =>
      rw [hg, hm] at h
      simp only [Except.ok.injEq] at h
      exact ⟨gp, more, rfl, rfl, h.symm⟩

theorem prepOne_some (font : Font) (dec : Decoder) (x : PatchInfo × Bytes) (z : PatchInfo × GlyphPatches)
    (hz : prepOne font dec x = some z) :
    ∃ hd raw gp, fontCompatId font x.1.tag = .ok x.1.compat ∧ gkRead x.2 = .ok hd ∧
      x.1.compat = hd.compat ∧ hd.format = TAG_ifgk ∧ dec 0 hd.stream none hd.maxLen = .ok raw ∧
      gpRead raw hd.wide = .ok gp ∧ z = (x.1, gp) := by
  unfold prepOne at hz
  cases hf : fontCompatId font x.1.tag with
  | error e => rw [hf] at hz; cases hz
  | ok fontId =>
    rw [hf] at hz
    simp only at hz
    by_cases h1 : fontId = x.1.compat
    · subst h1
      rw [if_neg (fun hn => hn rfl)] at hz
      cases hg : gkRead x.2 with
      | error e => rw [hg] at hz; cases hz
      | ok hd =>
        rw [hg] at hz
        simp only at hz
        by_cases h2 : x.1.compat = hd.compat
        · rw [if_neg (fun hn => hn h2)] at hz
          by_cases h3 : hd.format = TAG_ifgk
          · rw [if_neg (fun hn => hn h3)] at hz
            cases hdec : dec 0 hd.stream none hd.maxLen with
            | error e => rw [hdec] at hz; cases hz
            | ok raw =>
              rw [hdec] at hz
              simp only at hz
              cases hgp : gpRead raw hd.wide with
              | error e => rw [hgp] at hz; cases hz
              | ok gp =>
                rw [hgp] at hz
                simp only [Option.some.injEq] at hz
                exact ⟨hd, raw, gp, rfl, rfl, h2, h3, hdec, hgp, hz.symm⟩
          · rw [if_pos h3] at hz; cases hz
        · rw [if_pos h2] at hz; cases hz
    · rw [if_pos h1] at hz; cases hz

theorem prepAll_cons_some (font : Font) (dec : Decoder) (x : PatchInfo × Bytes) (xs : List (PatchInfo × Bytes))
    (ps : List (PatchInfo × GlyphPatches)) (h : prepAll font dec (x :: xs) = some ps) :
    ∃ y ys, prepOne font dec x = some y ∧ prepAll font dec xs = some ys ∧ ps = y :: ys := by
  simp only [prepAll] at h
  cases hx : prepOne font dec x with
  | none => rw [hx] at h; simp at h
  | some y =>
    cases hr : prepAll font dec xs with
    | none => rw [hx, hr] at h; simp at h
    | some ys =>
      rw [hx, hr] at h
      simp only [Option.some.injEq] at h
      exact ⟨y, ys, rfl, rfl, h.symm⟩

theorem loops_to_prepAll (font : Font) (dec : Decoder) (hst : Stateless dec)
    (patches : List (PatchInfo × Bytes)) (hs : List (PatchInfo × GKHeader)) (i : Nat)
    (raws : List Bytes) (gps : List GlyphPatches)
    (hc : checkGlyphKeyed font patches = .ok hs)
    (hd : decodeAll dec (hs.map (·.2)) i = .ok raws)
    (hp : parseAll (List.zip raws (hs.map (·.2))) = .ok gps) :
    ∃ ps, prepAll font dec patches = some ps ∧ ps.map (·.1) = hs.map (·.1) ∧ ps.map (·.2) = gps := by
  induction patches generalizing hs i raws gps with
  | nil =>
    simp only [checkGlyphKeyed, Except.ok.injEq] at hc; subst hc
    simp only [List.map_nil, decodeAll, Except.ok.injEq] at hd; subst hd
    simp only [List.zip_nil_left, parseAll, Except.ok.injEq] at hp; subst hp
    exact ⟨[], rfl, rfl, rfl⟩
  | cons x rest ih =>
    obtain ⟨info, p⟩ := x
    obtain ⟨h, more, hf, hg, h2, hr, rfl⟩ := checkGlyphKeyed_cons_ok font info p rest hs hc
    obtain ⟨raw, raws', h3, hdec, hdr, rfl⟩ := decodeAll_cons_ok dec h _ i raws hd
    obtain ⟨gp, gps', hgp, hpr, rfl⟩ := parseAll_cons_ok raw h _ gps hp
    obtain ⟨ps, i1, i2, i3⟩ := ih more (i + 1) raws' gps' hr hdr hpr
    have hone : prepOne font dec (info, p) = some (info, gp) := by
      unfold prepOne
      simp only [hf, ne_eq, not_true_eq_false, if_false, hg, h2, h3]
      rw [hst 0 i, hdec]
      simp only [hgp]
    exact ⟨(info, gp) :: ps, by simp only [prepAll, hone, i1], by simp [i2], by simp [i3]⟩

theorem prepAll_to_loops (font : Font) (dec : Decoder) (hst : Stateless dec)
    (patches : List (PatchInfo × Bytes)) (ps : List (PatchInfo × GlyphPatches)) (i : Nat)
    (h : prepAll font dec patches = some ps) :
    ∃ hs raws, checkGlyphKeyed font patches = .ok hs ∧ decodeAll dec (hs.map (·.2)) i = .ok raws ∧
      parseAll (List.zip raws (hs.map (·.2))) = .ok (ps.map (·.2)) ∧ hs.map (·.1) = ps.map (·.1) := by
  induction patches generalizing ps i with
  | nil =>
    simp only [prepAll, Option.some.injEq] at h; subst h
    exact ⟨[], [], rfl, rfl, rfl, rfl⟩
  | cons x rest ih =>
    obtain ⟨y, ys, hone, hrest, rfl⟩ := prepAll_cons_some font dec x rest ps h
    obtain ⟨hs, raws, j1, j2, j3, j4⟩ := ih ys (i + 1) hrest
    obtain ⟨hd, raw, gp, hf, hg, h2, h3, hdec, hgp, rfl⟩ := prepOne_some font dec x y hone
    obtain ⟨info, p⟩ := x
    simp only at hf hg h2
    refine ⟨(info, hd) :: hs, raw :: raws, ?_, ?_, ?_, by simp [j4]⟩
    · unfold checkGlyphKeyed
      simp only [hf, ne_eq, not_true_eq_false, if_false, hg, h2, j1]
    · simp only [List.map_cons, decodeAll, h3, ne_eq, not_true_eq_false, if_false]
      rw [hst i 0, hdec]
      simp only [j2]
    · simp only [List.map_cons, List.zip_cons_cons, parseAll, hgp, j3]

theorem applyGlyphKeyed_iff_loops (patches : List (PatchInfo × Bytes)) (font out : Font) (dec : Decoder) :
    applyGlyphKeyed patches font dec = .ok out ↔
      ∃ hs raws gps, checkGlyphKeyed font patches = .ok hs ∧ decodeAll dec (hs.map (·.2)) 0 = .ok raws ∧
        parseAll (List.zip raws (hs.map (·.2))) = .ok gps ∧
        applyGlyphPatches (hs.map (·.1)) gps font = .ok out := by
  unfold applyGlyphKeyed
  cases hc : checkGlyphKeyed font patches with
  | error e => simp
  | ok hs =>
    unfold applyGlyphKeyedCore
    cases hd : decodeAll dec (hs.map (·.2)) 0 with
    | error e => simp [hd]
    | ok raws =>
      cases hp : parseAll (List.zip raws (hs.map (·.2))) with
      | error e => simp [hd, hp]
      | ok gps => simp [hd, hp]

theorem applyGlyphKeyed_ok_iff (font : Font) (dec : Decoder) (hst : Stateless dec)
    (patches : List (PatchInfo × Bytes)) (out : Font) :
    applyGlyphKeyed patches font dec = .ok out ↔
      ∃ ps, prepAll font dec patches = some ps ∧
        applyGlyphPatches (ps.map (·.1)) (ps.map (·.2)) font = .ok out := by
  rw [applyGlyphKeyed_iff_loops]
  constructor
  · rintro ⟨hs, raws, gps, hc, hd, hp, h⟩
    obtain ⟨ps, i1, i2, i3⟩ := loops_to_prepAll font dec hst patches hs 0 raws gps hc hd hp
    exact ⟨ps, i1, by rw [i2, i3]; exact h⟩
  · rintro ⟨ps, h1, h2⟩
    obtain ⟨hs, raws, j1, j2, j3, j4⟩ := prepAll_to_loops font dec hst patches ps 0 h1
    exact ⟨hs, raws, _, j1, j2, j3, by rw [j4]; exact h2⟩

theorem prepAll_perm (font : Font) (dec : Decoder) (l l' : List (PatchInfo × Bytes)) (hp : l.Perm l') :
    ∀ ps, prepAll font dec l = some ps → ∃ ps', prepAll font dec l' = some ps' ∧ ps.Perm ps' := by
  induction hp with
  | nil => intro ps h; exact ⟨ps, h, List.Perm.refl _⟩
  | cons x _ ih =>
    intro ps h
    obtain ⟨y, ys, hx, h1, rfl⟩ := prepAll_cons_some font dec x _ ps h
    obtain ⟨ys', e1, e2⟩ := ih ys h1
    exact ⟨y :: ys', by simp only [prepAll, hx, e1], List.Perm.cons y e2⟩
  | swap x y l =>
    intro ps h
    obtain ⟨y', ys, hy, h1, rfl⟩ := prepAll_cons_some font dec y _ ps h
    obtain ⟨x', ls, hx, hl, rfl⟩ := prepAll_cons_some font dec x _ ys h1
    exact ⟨x' :: y' :: ls, by simp only [prepAll, hx, hy, hl], List.Perm.swap _ _ _⟩
  | trans _ _ ih1 ih2 =>
    intro ps h
    obtain ⟨ps1, e1, p1⟩ := ih1 ps h
    obtain ⟨ps2, e2, p2⟩ := ih2 ps1 e1
    exact ⟨ps2, e2, p1.trans p2⟩

theorem prepAll_append (font : Font) (dec : Decoder) (l1 l2 : List (PatchInfo × Bytes))
    (ps : List (PatchInfo × GlyphPatches)) (h : prepAll font dec (l1 ++ l2) = some ps) :
    ∃ ps1 ps2, prepAll font dec l1 = some ps1 ∧ prepAll font dec l2 = some ps2 ∧ ps = ps1 ++ ps2 := by
  induction l1 generalizing ps with
  | nil => exact ⟨[], ps, rfl, h, rfl⟩
  | cons x xs ih =>
    obtain ⟨y, ys, hx, hr, rfl⟩ := prepAll_cons_some font dec x (xs ++ l2) ps h
    obtain ⟨p1, p2, e1, e2, rfl⟩ := ih ys hr
    exact ⟨y :: p1, p2, by simp only [prepAll, hx, e1], e2, rfl⟩

/-- what a patch prepares to does not depend on the font (the font only gates by compat id) -/
theorem prepOne_font_indep (font font' : Font) (dec : Decoder) (x : PatchInfo × Bytes)
    (y y' : PatchInfo × GlyphPatches) (h : prepOne font dec x = some y) (h' : prepOne font' dec x = some y') :
    y = y' := by
  obtain ⟨hd, raw, gp, _, a1, _, _, a2, a3, a4⟩ := prepOne_some font dec x y h
  obtain ⟨hd', raw', gp', _, b1, _, _, b2, b3, b4⟩ := prepOne_some font' dec x y' h'
  rw [a1] at b1; cases b1
  rw [a2] at b2; cases b2
  rw [a3] at b3; cases b3
  rw [a4, b4]

theorem prepAll_font_indep (font font' : Font) (dec : Decoder) (l : List (PatchInfo × Bytes))
    (ps ps' : List (PatchInfo × GlyphPatches)) (h : prepAll font dec l = some ps)
    (h' : prepAll font' dec l = some ps') : ps = ps' := by
  induction l generalizing ps ps' with
  | nil =>
    simp only [prepAll, Option.some.injEq] at h h'
    rw [← h, ← h']
  | cons x xs ih =>
    obtain ⟨y, ys, hx, hr, rfl⟩ := prepAll_cons_some font dec x xs ps h
    obtain ⟨y', ys', hx', hr', rfl⟩ := prepAll_cons_some font' dec x xs ps' h'
    rw [prepOne_font_indep font font' dec x y y' hx hx', ih ys ys' hr hr']

theorem applyGlyphKeyed_two_step (font font1 out2 out12 : Font) (dec : Decoder) (hst : Stateless dec)
    (p1 p2 : List (PatchInfo × Bytes))
    (h1 : applyGlyphKeyed p1 font dec = .ok font1) (h2 : applyGlyphKeyed p2 font1 dec = .ok out2)
    (h12 : applyGlyphKeyed (p1 ++ p2) font dec = .ok out12) :
    ∃ ps1 ps2, prepAll font dec (p1 ++ p2) = some (ps1 ++ ps2) ∧
      applyGlyphPatches (ps1.map (·.1)) (ps1.map (·.2)) font = .ok font1 ∧
      applyGlyphPatches (ps2.map (·.1)) (ps2.map (·.2)) font1 = .ok out2 ∧
      applyGlyphPatches ((ps1 ++ ps2).map (·.1)) ((ps1 ++ ps2).map (·.2)) font = .ok out12 := by
  obtain ⟨ps1, hp1, ha1⟩ := (applyGlyphKeyed_ok_iff font dec hst p1 font1).mp h1
  obtain ⟨ps2, hp2, ha2⟩ := (applyGlyphKeyed_ok_iff font1 dec hst p2 out2).mp h2
  obtain ⟨ps12, hp12, ha12⟩ := (applyGlyphKeyed_ok_iff font dec hst (p1 ++ p2) out12).mp h12
  obtain ⟨q1, q2, e1, e2, rfl⟩ := prepAll_append font dec p1 p2 ps12 hp12
  rw [hp1] at e1
  cases e1
  cases prepAll_font_indep font1 font dec p2 ps2 q2 hp2 e2
  exact ⟨ps1, ps2, hp12, ha1, ha2, ha12⟩

end FontVerif.Ift
