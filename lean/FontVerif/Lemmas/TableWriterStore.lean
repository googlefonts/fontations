/-
C04 ⇄ C05 bridge: the object store.  `ObjectStore::add` and the invariant of `TableWriter` / `ObjectStore`
(Model/TableWriter.lean), `Graph::from_obj_store`, and what the invariant gives the graph built from a store: every
hypothesis C05's theorems make about their input graph.  Nothing here speaks of value trees.
-/
import FontVerif.Lemmas.TableWriterDefs
import FontVerif.Lemmas.GraphSimPack
namespace FontVerif.TableWriter
open FontVerif.Graph

theorem find?_some (s : Store) (d : TData) (id : Nat) (h : s.find? d = some id) :
    ∃ d', (d', id) ∈ s ∧ d'.bytes = d.bytes ∧ d'.offsets = d.offsets := by
  induction s with
  | nil => simp [Store.find?] at h
  | cons e rest ih =>
    obtain ⟨d', id'⟩ := e
    simp only [Store.find?] at h
    split at h
    · rename_i hs
      simp only [Option.some.injEq] at h
      subst h
      simp only [TData.same, Bool.and_eq_true, decide_eq_true_eq] at hs
      exact ⟨d', List.mem_cons_self, hs.1, hs.2⟩
    · obtain ⟨d'', hm, hb⟩ := ih h
      exact ⟨d'', List.mem_cons_of_mem _ hm, hb⟩

theorem find?_none (s : Store) (d : TData) (h : s.find? d = none) : ∀ e ∈ s, e.1.same d = false := by
  induction s with
  | nil => intro e he; cases he
  | cons e rest ih =>
    obtain ⟨d', id'⟩ := e
    simp only [Store.find?] at h
    split at h
    · simp at h
    · rename_i hs
      intro e he
      rcases List.mem_cons.mp he with rfl | he
      · simpa using hs
      · exact ih h e he

theorem same_symm (a b : TData) : a.same b = b.same a := by
  unfold TData.same
  by_cases h1 : a.bytes = b.bytes <;> by_cases h2 : a.offsets = b.offsets <;> simp [h1, h2, eq_comm]

/-- `ObjectStore::add` either finds an object with the same bytes and offset records and changes nothing, or finds
none and appends the object under the next id -/
theorem add_cases (ids : Nat → Nat) (w : Writer) (d : TData) :
    (∃ d' id, (d', id) ∈ w.tables ∧ d'.bytes = d.bytes ∧ d'.offsets = d.offsets ∧ w.add ids d = (id, w)) ∨
    ((∀ e ∈ w.tables, e.1.same d = false) ∧
      w.add ids d = (ids w.next, { w with tables := w.tables ++ [(d, ids w.next)], next := w.next + 1 })) := by
  unfold Writer.add
  cases hf : w.tables.find? d with
  | some id =>
    obtain ⟨d', hm, hb, ho⟩ := find?_some w.tables d id hf
    exact .inl ⟨d', id, hm, hb, ho, rfl⟩
  | none => exact .inr ⟨find?_none w.tables d hf, rfl⟩

theorem add_new_entry (ids : Nat → Nat) (w : Writer) (d : TData) :
    ∀ e ∈ (w.add ids d).2.tables, e ∉ w.tables → e.2 = (w.add ids d).1 := by
  intro e he hne
  rcases add_cases ids w d with ⟨_, _, _, _, _, h⟩ | ⟨_, h⟩ <;> rw [h] at he ⊢
  · exact absurd he hne
  · rcases List.mem_append.mp he with he | he
    · exact absurd he hne
    · rw [List.mem_singleton.mp he]

theorem lenOf_cases (w : Nat) : lenOf w = 2 ∨ lenOf w = 3 ∨ lenOf w = 4 := by
  unfold lenOf
  split
  · exact Or.inl rfl
  · split
    · exact Or.inr (Or.inl rfl)
    · exact Or.inr (Or.inr rfl)

theorem lenOf_le (w : Nat) (h : 2 ≤ w) : lenOf w ≤ min w 4 := by
  unfold lenOf
  by_cases h2 : w = 2
  · subst h2; decide
  · rw [if_neg h2]
    by_cases h3 : w = 3
    · subst h3; decide
    · rw [if_neg h3]
      exact Nat.le_min.mpr ⟨by omega, Nat.le_refl 4⟩

theorem writeBytes_length (cur : TData) (bs : List Nat) :
    (cur.writeBytes bs).bytes.length = cur.bytes.length + bs.length := List.length_append

@[simp] theorem empty_bytes : TData.empty.bytes = [] := rfl
@[simp] theorem empty_offsets : TData.empty.offsets = [] := rfl
@[simp] theorem empty_ty : TData.empty.ty = TType.other := rfl

def insEntry (m : Map Obj) (e : TData × Nat) : Map Obj := m.insert e.2 (toObj e.1)

theorem objects_eq (s : Store) : s.objects = s.foldl insEntry [] := rfl

theorem foldl_mem (s : Store) : ∀ (m : Map Obj) (kv : Nat × Obj), kv ∈ s.foldl insEntry m →
    (∃ d, (d, kv.1) ∈ s ∧ kv.2 = toObj d) ∨ kv ∈ m := by
  induction s with
  | nil => intro m kv h; exact Or.inr h
  | cons e rest ih =>
    intro m kv h
    simp only [List.foldl_cons] at h
    rcases ih _ kv h with ⟨d, hm, hd⟩ | h
    · exact Or.inl ⟨d, List.mem_cons_of_mem _ hm, hd⟩
    · rcases Map.mem_insert m e.2 (toObj e.1) kv h with h | h
      · left
        refine ⟨e.1, ?_, ?_⟩
        · rw [h]; exact List.mem_cons_self
        · rw [h]
      · exact Or.inr h

theorem objects_mem (s : Store) (kv : Nat × Obj) (h : kv ∈ s.objects) : ∃ d, (d, kv.1) ∈ s ∧ kv.2 = toObj d := by
  rcases foldl_mem s [] kv h with h | h
  · exact h
  · cases h

theorem foldl_find_notin (s : Store) : ∀ (m : Map Obj) (id : Nat), id ∉ s.map (·.2) →
    (s.foldl insEntry m).find? id = m.find? id := by
  induction s with
  | nil => intro m id _; rfl
  | cons e rest ih =>
    intro m id h
    simp only [List.map_cons, List.mem_cons, not_or] at h
    simp only [List.foldl_cons]
    rw [ih _ id h.2]
    unfold insEntry
    rw [Map.find?_insert, if_neg (fun hh => h.1 hh.symm)]

theorem foldl_find (s : Store) : ∀ (m : Map Obj) (d : TData) (id : Nat), (d, id) ∈ s → (s.map (·.2)).Nodup →
    (s.foldl insEntry m).find? id = some (toObj d) := by
  induction s with
  | nil => intro m d id h; cases h
  | cons e rest ih =>
    intro m d id h hnd
    simp only [List.map_cons, List.nodup_cons] at hnd
    simp only [List.foldl_cons]
    rcases List.mem_cons.mp h with h | h
    · subst h
      rw [foldl_find_notin rest _ id hnd.1]
      unfold insEntry
      rw [Map.find?_insert, if_pos rfl]
    · exact ih _ d id h hnd.2

theorem objects_find (s : Store) (hnd : (s.map (·.2)).Nodup) (d : TData) (id : Nat) (h : (d, id) ∈ s) :
    s.objects.find? id = some (toObj d) := foldl_find s [] d id h hnd

theorem objects_mem_keys (s : Store) (hnd : (s.map (·.2)).Nodup) (d : TData) (id : Nat) (h : (d, id) ∈ s) :
    id ∈ s.objects.keys := Map.find?_some_mem_keys _ _ _ (objects_find s hnd d id h)

theorem objects_find_none (s : Store) (id : Nat) (h : id ∉ s.map (·.2)) : s.objects.find? id = none := by
  rw [objects_eq, foldl_find_notin s [] id h]; rfl

theorem foldl_sorted (s : Store) : ∀ (m : Map Obj), m.keys.Pairwise (· < ·) →
    (s.foldl insEntry m).keys.Pairwise (· < ·) := by
  induction s with
  | nil => intro m h; exact h
  | cons e rest ih =>
    intro m h
    simp only [List.foldl_cons]
    exact ih _ (Map.insert_sorted m e.2 (toObj e.1) h)

theorem objects_sorted (s : Store) : s.objects.keys.Pairwise (· < ·) :=
  foldl_sorted s [] (by simp [Map.keys])

theorem objects_keys_nodup (s : Store) : s.objects.keys.Nodup :=
  (objects_sorted s).imp (fun h => Nat.ne_of_lt h)

theorem obj_fromObjects (s : Store) (root : Nat) (hnd : (s.map (·.2)).Nodup) (d : TData) (id : Nat)
    (h : (d, id) ∈ s) : (Graph.fromObjects s.objects root).obj id = toObj d := by
  unfold Graph.obj Graph.fromObjects
  simp only []
  rw [objects_find s hnd d id h]
  rfl

/-- what `TableData` guarantees while it is being written, relative to the writer state: every recorded offset has
width 2/3/4, lies inside the bytes written so far, the fields are pairwise disjoint, and every target is an id that has
been drawn and is in the store -/
structure CurOK (ids : Nat → Nat) (cur : TData) (w : Writer) : Prop where
  inside : ∀ l ∈ cur.offsets, (l.width = 2 ∨ l.width = 3 ∨ l.width = 4) ∧ l.pos + l.width ≤ cur.bytes.length
  disj : cur.offsets.Pairwise Disjoint
  targets : ∀ l ∈ cur.offsets, ∃ j, j < w.next ∧ l.target = ids j ∧ ∃ e ∈ w.tables, e.2 = l.target

structure Inv (ids : Nat → Nat) (w : Writer) : Prop where
  drawn : ∀ e ∈ w.tables, ∃ j, j < w.next ∧ e.2 = ids j
  nodup : (w.tables.map (·.2)).Nodup
  /-- every offset of a stored object points to an object that is in the store and whose id was drawn EARLIER -/
  ranked : ∀ e ∈ w.tables, ∀ j, e.2 = ids j → ∀ l ∈ e.1.offsets,
    ∃ j', j' < j ∧ l.target = ids j' ∧ ∃ e' ∈ w.tables, e'.2 = l.target
  wf : ∀ e ∈ w.tables, ObjWF (toObj e.1)
  /-- the association list is a `HashMap`: no two keys are equal under `TableData`'s `Eq` -/
  distinct : w.tables.Pairwise (fun a b => a.1.same b.1 = false)

/-- `w'` extends `w`: nothing is removed or changed, the id counter only grows -/
structure Ext (w w' : Writer) : Prop where
  sub : ∀ e ∈ w.tables, e ∈ w'.tables
  next : w.next ≤ w'.next

theorem Ext.refl (w : Writer) : Ext w w := ⟨fun _ h => h, Nat.le_refl _⟩

theorem Ext.trans {a b c : Writer} (h1 : Ext a b) (h2 : Ext b c) : Ext a c :=
  ⟨fun e he => h2.sub e (h1.sub e he), Nat.le_trans h1.next h2.next⟩

theorem CurOK.mono {ids : Nat → Nat} {cur : TData} {w w' : Writer} (h : CurOK ids cur w) (he : Ext w w') :
    CurOK ids cur w' :=
  ⟨h.inside, h.disj, fun l hl => by
    obtain ⟨j, hj, ht, e, hem, hee⟩ := h.targets l hl
    exact ⟨j, Nat.lt_of_lt_of_le hj he.next, ht, e, he.sub e hem, hee⟩⟩

theorem Inv.setAdj {ids : Nat → Nat} {w : Writer} (h : Inv ids w) (a : Nat) : Inv ids { w with adj := a } :=
  ⟨h.drawn, h.nodup, h.ranked, h.wf, h.distinct⟩

theorem CurOK.setAdj {ids : Nat → Nat} {cur : TData} {w : Writer} (h : CurOK ids cur w) (a : Nat) :
    CurOK ids cur { w with adj := a } :=
  ⟨h.inside, h.disj, h.targets⟩

theorem curOK_writeBytes (ids : Nat → Nat) (cur : TData) (w : Writer) (bs : List Nat) (h : CurOK ids cur w) :
    CurOK ids (cur.writeBytes bs) w :=
  ⟨fun l hl => by
    have := h.inside l hl
    simp only [TData.writeBytes, List.length_append]
    exact ⟨this.1, by omega⟩, h.disj, h.targets⟩

theorem curOK_empty (ids : Nat → Nat) (w : Writer) : CurOK ids TData.empty w :=
  ⟨fun l hl => (by cases hl), List.Pairwise.nil, fun l hl => (by cases hl)⟩

theorem curOK_addOffset (ids : Nat → Nat) (cur : TData) (w : Writer) (id width adj : Nat) (h : CurOK ids cur w)
    (hw : 2 ≤ width) (hlen : cur.bytes.length < U32)
    (hid : ∃ j, j < w.next ∧ id = ids j ∧ ∃ e ∈ w.tables, e.2 = id) :
    CurOK ids (cur.addOffset id width adj) w := by
  have hmod : cur.bytes.length % U32 = cur.bytes.length := Nat.mod_eq_of_lt hlen
  have hbytes : (cur.addOffset id width adj).bytes.length = cur.bytes.length + min width 4 := by
    rw [TData.addOffset, List.length_append, List.length_replicate]
  have hmem : ∀ l ∈ (cur.addOffset id width adj).offsets,
      l ∈ cur.offsets ∨ l = ⟨cur.bytes.length % U32, lenOf width, id, adj⟩ := fun l hl =>
    (List.mem_append.mp hl).imp_right List.mem_singleton.mp
  constructor
  · intro l hl
    rw [hbytes]
    rcases hmem l hl with hl | rfl
    · exact ⟨(h.inside l hl).1, Nat.le_trans (h.inside l hl).2 (Nat.le_add_right _ _)⟩
    · refine ⟨lenOf_cases width, ?_⟩
      show cur.bytes.length % U32 + lenOf width ≤ cur.bytes.length + min width 4
      rw [hmod]
      exact Nat.add_le_add_left (lenOf_le width hw) _
  · -- the new field starts where the bytes written so far end
    refine List.pairwise_append.mpr ⟨h.disj, List.pairwise_singleton _ _, fun a ha b hb => ?_⟩
    rw [List.mem_singleton.mp hb]
    refine Or.inl ?_
    show a.pos + a.width ≤ cur.bytes.length % U32
    rw [hmod]
    exact (h.inside a ha).2
  · intro l hl
    rcases hmem l hl with hl | rfl
    · exact h.targets l hl
    · exact hid

theorem inv_init (ids : Nat → Nat) (k : Nat) : Inv ids (Writer.init k) :=
  ⟨fun e he => (by cases he), List.nodup_nil, fun e he => (by cases he), fun e he => (by cases he), List.Pairwise.nil⟩

/-- `ObjectStore::add` under the invariant: the id returned names an object with the bytes and records added, the store only grows -/
theorem add_spec (ids : Nat → Nat) (hinj : Function.Injective ids) (w : Writer) (d : TData)
    (hinv : Inv ids w) (hd : CurOK ids d w) :
    Inv ids (w.add ids d).2 ∧ Ext w (w.add ids d).2 ∧ (w.add ids d).2.adj = w.adj ∧
    (∃ j, j < (w.add ids d).2.next ∧ (w.add ids d).1 = ids j) ∧
    ∃ d', (d', (w.add ids d).1) ∈ (w.add ids d).2.tables ∧ d'.bytes = d.bytes ∧ d'.offsets = d.offsets := by
  rcases add_cases ids w d with ⟨d', id, hm, hb, ho, h⟩ | ⟨hnone, h⟩ <;> rw [h]
  · obtain ⟨j, hj, hid⟩ := hinv.drawn (d', id) hm
    exact ⟨hinv, Ext.refl w, rfl, ⟨j, hj, hid⟩, d', hm, hb, ho⟩
  · have hfresh : ∀ e ∈ w.tables, e.2 ≠ ids w.next := by
      intro e he heq
      obtain ⟨j, hj, hid⟩ := hinv.drawn e he
      rw [heq] at hid
      have := hinj hid
      omega
    refine ⟨?_, ⟨fun e he => List.mem_append_left _ he, Nat.le_succ _⟩, rfl, ⟨w.next, Nat.lt_succ_self _, rfl⟩,
      d, List.mem_append_right _ List.mem_cons_self, rfl, rfl⟩
    constructor
    · intro e he
      rcases List.mem_append.mp he with he | he
      · obtain ⟨j, hj, hid⟩ := hinv.drawn e he
        exact ⟨j, Nat.lt_succ_of_lt hj, hid⟩
      · simp only [List.mem_singleton] at he
        subst he
        exact ⟨w.next, Nat.lt_succ_self _, rfl⟩
    · simp only [List.map_append, List.map_cons, List.map_nil]
      refine nodup_concat hinv.nodup fun ha => ?_
      obtain ⟨e, he, h⟩ := List.mem_map.mp ha
      exact hfresh e he h
    · intro e he j hj l hl
      rcases List.mem_append.mp he with he | he
      · obtain ⟨j', hj', ht, e', he', hee⟩ := hinv.ranked e he j hj l hl
        exact ⟨j', hj', ht, e', List.mem_append_left _ he', hee⟩
      · simp only [List.mem_singleton] at he
        subst he
        simp only [] at hj hl
        have hjj : j = w.next := (hinj hj).symm
        obtain ⟨j', hj', ht, e', he', hee⟩ := hd.targets l hl
        exact ⟨j', by omega, ht, e', List.mem_append_left _ he', hee⟩
    · intro e he
      rcases List.mem_append.mp he with he | he
      · exact hinv.wf e he
      · simp only [List.mem_singleton] at he
        subst he
        exact ⟨hd.inside, hd.disj⟩
    · rw [List.pairwise_append]
      refine ⟨hinv.distinct, by simp, ?_⟩
      intro a ha b hb
      simp only [List.mem_singleton] at hb
      subst hb
      exact hnone a ha

theorem entry_unique (s : Store) (hnd : (s.map (·.2)).Nodup) (d d' : TData) (id : Nat)
    (h : (d, id) ∈ s) (h' : (d', id) ∈ s) : d = d' := by
  induction s with
  | nil => cases h
  | cons e rest ih =>
    simp only [List.map_cons, List.nodup_cons] at hnd
    rcases List.mem_cons.mp h with h | h <;> rcases List.mem_cons.mp h' with h' | h'
    · rw [← h] at h'; exact ((Prod.mk.injEq _ _ _ _ ▸ h').1).symm
    · exact absurd (List.mem_map.mpr ⟨(d', id), h', by rw [← h]⟩) hnd.1
    · exact absurd (List.mem_map.mpr ⟨(d, id), h, by rw [← h']⟩) hnd.1
    · exact ih hnd.2 h h'

theorem content_unique (s : Store) (hp : s.Pairwise (fun a b => a.1.same b.1 = false)) (e e' : TData × Nat)
    (h : e ∈ s) (h' : e' ∈ s) (hs : e.1.same e'.1 = true) : e = e' := by
  induction s with
  | nil => cases h
  | cons x rest ih =>
    rw [List.pairwise_cons] at hp
    rcases List.mem_cons.mp h with h | h <;> rcases List.mem_cons.mp h' with h' | h'
    · rw [h, h']
    · have := hp.1 e' h'; rw [← h, hs] at this; cases this
    · have := hp.1 e h; rw [← h', same_symm, hs] at this; cases this
    · exact ih hp.2 h h'

section graph
variable (ids : Nat → Nat) (hinj : Function.Injective ids) (w : Writer) (hinv : Inv ids w) (root : Nat)

include hinv in
theorem graph_obj (d : TData) (id : Nat) (h : (d, id) ∈ w.tables) :
    (Graph.fromObjects w.tables.objects root).obj id = toObj d :=
  obj_fromObjects w.tables root hinv.nodup d id h

include hinv in
theorem graph_objWF : ∀ id o, (Graph.fromObjects w.tables.objects root).objects.find? id = some o → ObjWF o := by
  intro id o h
  have hm := Map.find?_mem _ _ _ h
  obtain ⟨d, hd, ho⟩ := objects_mem w.tables (id, o) hm
  simp only [] at ho
  rw [ho]
  exact hinv.wf (d, id) hd

include hinv in
theorem graph_closed : ∀ kv ∈ w.tables.objects, ∀ l ∈ kv.2.links, l.target ∈ w.tables.objects.keys := by
  intro kv hkv l hl
  obtain ⟨d, hd, ho⟩ := objects_mem w.tables kv hkv
  rw [ho] at hl
  obtain ⟨j, _, hj⟩ := hinv.drawn (d, kv.1) hd
  obtain ⟨j', _, _, e', he', hee⟩ := hinv.ranked (d, kv.1) hd j hj l hl
  exact objects_mem_keys w.tables hinv.nodup e'.1 l.target (by rw [← hee]; exact he')

open Classical in
/-- the draw that produced an id (0 for a number that is not an id) -/
noncomputable def drawOf (ids : Nat → Nat) (id : Nat) : Nat :=
  if h : ∃ j, ids j = id then Classical.choose h else 0

include hinj in
theorem drawOf_ids (j : Nat) : drawOf ids (ids j) = j := by
  unfold drawOf
  have h : ∃ j', ids j' = ids j := ⟨j, rfl⟩
  rw [dif_pos h]
  exact hinj (Classical.choose_spec h)

include hinj hinv in
/-- the graph is acyclic: ids are drawn after those of all the objects they point to -/
theorem graph_acyclic : ∃ rank : Nat → Nat, ∀ kv ∈ w.tables.objects, ∀ l ∈ kv.2.links, rank kv.1 < rank l.target := by
  refine ⟨fun id => w.next - drawOf ids id, ?_⟩
  intro kv hkv l hl
  obtain ⟨d, hd, ho⟩ := objects_mem w.tables kv hkv
  rw [ho] at hl
  obtain ⟨j, hjn, hj⟩ := hinv.drawn (d, kv.1) hd
  obtain ⟨j', hj', ht, _⟩ := hinv.ranked (d, kv.1) hd j hj l hl
  simp only [] at hj
  simp only [hj, ht, drawOf_ids ids hinj]
  omega

include hinv in
theorem graph_freshFor (fresh : List Nat) (hnd : fresh.Nodup) (hfr : ∀ j, ids j ∉ fresh) (hroot : root ∉ fresh) :
    FreshFor (Graph.fromObjects w.tables.objects root) fresh := by
  apply freshFor_fromObjects _ _ _ hnd hroot
  intro kv hkv
  obtain ⟨d, hd, ho⟩ := objects_mem w.tables kv hkv
  obtain ⟨j, _, hj⟩ := hinv.drawn (d, kv.1) hd
  simp only [] at hj
  refine ⟨by rw [hj]; exact hfr j, ?_⟩
  intro l hl
  rw [ho] at hl
  obtain ⟨j', _, ht, _⟩ := hinv.ranked (d, kv.1) hd j hj l hl
  rw [ht]
  exact hfr j'

end graph

/-- reachability along the offset records of a store -/
inductive SReach (s : Store) : Nat → Nat → Prop
  | refl (a : Nat) : SReach s a a
  | step {a b : Nat} (d : TData) (l : Link) : SReach s a b → (d, b) ∈ s → l ∈ d.offsets → SReach s a l.target

theorem SReach.mono {s s' : Store} (hs : ∀ e ∈ s, e ∈ s') {a b : Nat} (h : SReach s a b) : SReach s' a b := by
  induction h with
  | refl => exact SReach.refl _
  | step d l _ hm hl ih => exact SReach.step d l ih (hs _ hm) hl

theorem SReach.trans {s : Store} {a b c : Nat} (h1 : SReach s a b) (h2 : SReach s b c) : SReach s a c := by
  induction h2 with
  | refl => exact h1
  | step d l _ hm hl ih => exact SReach.step d l ih hm hl

theorem reach_of_sreach (ids : Nat → Nat) (w : Writer) (hinv : Inv ids w) (root : Nat) {a b : Nat}
    (h : SReach w.tables a b) : Reach (Graph.fromObjects w.tables.objects root) a b := by
  induction h with
  | refl => exact Reach.refl _
  | step d l _ hm hl ih =>
    refine Reach.step l ih ?_
    rw [graph_obj ids w hinv root d _ hm]
    exact hl

end FontVerif.TableWriter
