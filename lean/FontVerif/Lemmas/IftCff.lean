/-
C18 — the CFF / CFF2 arm (Model/CffKeyed.lean): what a successful `cffPatch` is made of, reading the
emitted charstrings INDEX back, the chosen offSize, and the two-step (grouping) lemma "same decoded INDEX,
offSize may differ".
-/
import FontVerif.Lemmas.IftOrder
namespace FontVerif.Ift

def IsCffType (t : OffsetType) : Prop := t = .cffOne ∨ t = .cffTwo ∨ t = .cffThree ∨ t = .cffFour

theorem IsCffType.divisor {t : OffsetType} (h : IsCffType t) : t.divisor = 1 := by
  rcases h with e | e | e | e <;> subst e <;> rfl

theorem IsCffType.bias {t : OffsetType} (h : IsCffType t) : t.bias = 1 := by
  rcases h with e | e | e | e <;> subst e <;> rfl

theorem IsCffType.width_pos {t : OffsetType} (h : IsCffType t) : 1 ≤ t.width ∧ t.width ≤ 4 := by
  rcases h with e | e | e | e <;> subst e <;> decide

theorem IsCffType.eq_of_width {t t' : OffsetType} (h : IsCffType t) (h' : IsCffType t')
    (hw : t.width = t'.width) : t = t' := by
  rcases h with e | e | e | e <;> rcases h' with e' | e' | e' | e' <;> subst e e' <;>
    first | rfl | (exfalso; revert hw; decide)

theorem IsCffType.max_le {t : OffsetType} (h : IsCffType t) : t.maxRepresentable ≤ 4294967294 := by
  rcases h with e | e | e | e <;> subst e <;> decide

theorem padTo_cff (t : OffsetType) (ht : IsCffType t) (d : Bytes) : padTo t d = d := by
  unfold padTo
  rw [ht.divisor, Nat.mod_one]
  simp

theorem encodeOffs_cff (t : OffsetType) (ht : IsCffType t) (os : List Nat) :
    encodeOffs t os = os.flatMap (fun o => beBytes t.width (o + 1)) := by
  simp only [encodeOffs, ht.divisor, ht.bias, Nat.div_one]

theorem cffOffsetType_ok (size : Nat) (t : OffsetType) (h : cffOffsetType size = .ok t) :
    IsCffType t ∧ t.width = size := by
  unfold cffOffsetType at h
  by_cases h1 : size = 1
  · rw [if_pos h1] at h; cases h; exact ⟨Or.inl rfl, h1.symm⟩
  rw [if_neg h1] at h
  by_cases h2 : size = 2
  · rw [if_pos h2] at h; cases h; exact ⟨Or.inr (Or.inl rfl), h2.symm⟩
  rw [if_neg h2] at h
  by_cases h3 : size = 3
  · rw [if_pos h3] at h; cases h; exact ⟨Or.inr (Or.inr (Or.inl rfl)), h3.symm⟩
  rw [if_neg h3] at h
  by_cases h4 : size = 4
  · rw [if_pos h4] at h; cases h; exact ⟨Or.inr (Or.inr (Or.inr rfl)), h4.symm⟩
  rw [if_neg h4] at h; cases h

theorem cffOffsetType_cases (size : Nat) : (∃ t, cffOffsetType size = .ok t) ∨
    cffOffsetType size = .error (.malformedData "Invalid charstrings offset size (is not 1, 2, 3, or 4).") := by
  unfold cffOffsetType
  by_cases h1 : size = 1
  · rw [if_pos h1]; exact Or.inl ⟨_, rfl⟩
  rw [if_neg h1]
  by_cases h2 : size = 2
  · rw [if_pos h2]; exact Or.inl ⟨_, rfl⟩
  rw [if_neg h2]
  by_cases h3 : size = 3
  · rw [if_pos h3]; exact Or.inl ⟨_, rfl⟩
  rw [if_neg h3]
  by_cases h4 : size = 4
  · rw [if_pos h4]; exact Or.inl ⟨_, rfl⟩
  rw [if_neg h4]
  exact Or.inr rfl

theorem cffOffsetType_width (t : OffsetType) (h : IsCffType t) : cffOffsetType t.width = .ok t := by
  rcases h with e | e | e | e <;> subst e <;> rfl

theorem cffView_ok (v2 : Bool) (b : Bytes) (at_ m : Nat) (ix : IndexView) (t0 : OffsetType)
    (h : cffView v2 b at_ m = .ok (ix, t0)) :
    at_ ≤ b.length ∧ indexRead (cffCountWidth v2) (b.drop at_) = .ok ix ∧
      cffOffsetType ix.offSize = .ok t0 ∧ ix.count = m + 1 := by
  unfold cffView at h
  split at h
  · cases h
  · split at h
    · cases h
    · rename_i hlen
      cases hi : indexRead (cffCountWidth v2) (b.drop at_) with
      | error e => rw [hi] at h; cases h
      | ok ix' =>
        rw [hi] at h
        simp only at h
        cases ht : cffOffsetType ix'.offSize with
        | error e => rw [ht] at h; cases h
        | ok t' =>
          rw [ht] at h
          simp only at h
          split at h
          · cases h
          · rename_i hc
            simp only [Except.ok.injEq, Prod.mk.injEq] at h
            obtain ⟨e1, e2⟩ := h
            subst e1 e2
            exact ⟨by omega, rfl, ht, by simpa using hc⟩

theorem cff_choose_type (ix : IndexView) (t0 : OffsetType) (h0 : IsCffType t0) (total : Nat) (t : OffsetType)
    (h : chooseOffsetType (cffArray ix t0) total = .ok t) : IsCffType t := by
  obtain ⟨_, c2, c3⟩ := chooseOffsetType_spec _ total t h
  by_cases hfit : total ≤ t0.maxRepresentable
  · have := c2 hfit
    simp only [cffArray] at this
    subst this; exact h0
  · obtain ⟨hm, _⟩ := c3 (by simp only [cffArray]; omega)
    simp only [cffArray, List.mem_cons, List.not_mem_nil, or_false] at hm
    exact hm

/-- the smallest offSize whose offsets can address `T` bytes of charstring data -/
def cffNeed (T : Nat) : Nat :=
  if T ≤ 254 then 1 else if T ≤ 65534 then 2 else if T ≤ 16777214 then 3 else 4

theorem cff_max_values : OffsetType.cffOne.maxRepresentable = 254 ∧ OffsetType.cffTwo.maxRepresentable = 65534 ∧
    OffsetType.cffThree.maxRepresentable = 16777214 ∧ OffsetType.cffFour.maxRepresentable = 4294967294 := by
  decide

theorem cffNeed_cases (T : Nat) :
    (T ≤ 254 ∧ cffNeed T = 1) ∨ (254 < T ∧ T ≤ 65534 ∧ cffNeed T = 2) ∨
    (65534 < T ∧ T ≤ 16777214 ∧ cffNeed T = 3) ∨ (16777214 < T ∧ cffNeed T = 4) := by
  unfold cffNeed
  by_cases h1 : T ≤ 254
  · rw [if_pos h1]; exact Or.inl ⟨h1, rfl⟩
  · rw [if_neg h1]
    by_cases h2 : T ≤ 65534
    · rw [if_pos h2]; exact Or.inr (Or.inl ⟨by omega, h2, rfl⟩)
    · rw [if_neg h2]
      by_cases h3 : T ≤ 16777214
      · rw [if_pos h3]; exact Or.inr (Or.inr (Or.inl ⟨by omega, h3, rfl⟩))
      · rw [if_neg h3]; exact Or.inr (Or.inr (Or.inr ⟨by omega, rfl⟩))

theorem cffNeed_le_width (t : OffsetType) (ht : IsCffType t) (T : Nat) (h4 : T ≤ 4294967294) :
    cffNeed T ≤ t.width ↔ T ≤ t.maxRepresentable := by
  obtain ⟨m1, m2, m3, m4⟩ := cff_max_values
  have hn := cffNeed_cases T
  rcases ht with e | e | e | e <;> subst e
  · rw [m1]; show cffNeed T ≤ 1 ↔ _; omega
  · rw [m2]; show cffNeed T ≤ 2 ↔ _; omega
  · rw [m3]; show cffNeed T ≤ 3 ↔ _; omega
  · rw [m4]; show cffNeed T ≤ 4 ↔ _; omega

theorem cff_choose_width (ix : IndexView) (t0 : OffsetType) (h0 : IsCffType t0) (T : Nat) (t : OffsetType)
    (h : chooseOffsetType (cffArray ix t0) T = .ok t) : t.width = max t0.width (cffNeed T) := by
  obtain ⟨c1, c2, c3⟩ := chooseOffsetType_spec _ T t h
  simp only [cffArray] at c2 c3
  by_cases hfit : T ≤ t0.maxRepresentable
  · have := c2 hfit
    subst this
    have h4 : T ≤ 4294967294 := Nat.le_trans hfit h0.max_le
    have := (cffNeed_le_width t h0 T h4).mpr hfit
    omega
  · obtain ⟨hm, pre, post, hd, hpre⟩ := c3 (by omega)
    have ht : IsCffType t := cff_choose_type ix t0 h0 T t h
    have h4 : T ≤ 4294967294 := Nat.le_trans c1 ht.max_le
    have hlo : cffNeed T ≤ t.width := (cffNeed_le_width t ht T h4).mpr c1
    have hlo0 : t0.width < cffNeed T := by
      have := cffNeed_le_width t0 h0 T h4
      omega
    -- the type `c` of width `cffNeed T` fits; were `t` wider, `c` would come before `t` in the list
    have hup : t.width ≤ cffNeed T := by
      apply Classical.byContradiction
      intro hgt
      have hw := h0.width_pos
      have hw' := ht.width_pos
      obtain ⟨c, hc⟩ : ∃ c, cffOffsetType (cffNeed T) = .ok c := by
        unfold cffOffsetType
        rcases cffNeed_cases T with ⟨_, e⟩ | ⟨_, _, e⟩ | ⟨_, _, e⟩ | ⟨_, e⟩ <;> rw [e] <;> exact ⟨_, rfl⟩
      obtain ⟨hcc, hcw⟩ := cffOffsetType_ok _ c hc
      have hcfit : T ≤ c.maxRepresentable := (cffNeed_le_width c hcc T h4).mp (by omega)
      have hcl : c ∈ pre ++ t :: post := by rw [← hd]; simpa [IsCffType] using hcc
      have hsorted : (pre ++ t :: post).Pairwise (fun x y => x.width < y.width) := by
        rw [← hd]; decide
      rcases List.mem_append.mp hcl with e | e
      · have := hpre c e; omega
      · rcases List.mem_cons.mp e with e | e
        · subst e; omega
        · have := (List.pairwise_cons.mp (List.pairwise_append.mp hsorted).2.1).1 c e
          omega
    omega

theorem width_two_step (w0 w1 w2 w12 n1 n2 : Nat) (h1 : w1 = max w0 n1) (h2 : w2 = max w1 n2)
    (h12 : w12 = max w0 n2) : w12 ≤ w2 ∧ (w1 = w0 → w2 = w12) := by
  omega

/-- for a base INDEX whose decoded offsets ascend (last entry included) the code's own check, which
skips the last entry, is sound -/
theorem cffArray_ascSound (ix : IndexView) (t : OffsetType) (h : ascending (cffOffsets ix) = true) :
    (cffArray ix t).AscSound := fun _ => h

theorem indexRead_emit (cw count : Nat) (t : OffsetType) (ht : IsCffType t) (os : List Nat) (data : Bytes)
    (hc : count < 256 ^ cw) (hlen : os.length = count + 1) :
    indexRead cw (beBytes cw count ++ [t.width] ++ encodeOffs t os ++ data) =
      .ok { count := count, offSize := t.width, offsetBytes := encodeOffs t os, data := data } := by
  have hel : (encodeOffs t os).length = (count + 1) * t.width := by
    rw [encodeOffs_cff t ht, flatMap_uniform_length _ t.width os (fun x _ => beBytes_length _ _), hlen, Nat.mul_comm]
  unfold indexRead
  have hl : (beBytes cw count ++ [t.width] ++ encodeOffs t os ++ data).length
      = cw + 1 + (count + 1) * t.width + data.length := by
    simp only [List.length_append, beBytes_length, hel, List.length_cons, List.length_nil]
  have htake : (beBytes cw count ++ [t.width] ++ encodeOffs t os ++ data).take cw = beBytes cw count := by
    rw [List.append_assoc, List.append_assoc]
    exact List.take_left' (beBytes_length _ _)
  have hdrop : (beBytes cw count ++ [t.width] ++ encodeOffs t os ++ data).drop cw
      = t.width :: (encodeOffs t os ++ data) := by
    rw [List.append_assoc, List.append_assoc, List.drop_left' (beBytes_length _ _)]
    simp
  rw [if_neg (by rw [hl]; omega)]
  simp only [htake, hdrop, List.headD_cons, beValue_beBytes cw count hc]
  rw [if_neg (by rw [hl]; omega)]
  congr 1
  have hd1 : (beBytes cw count ++ [t.width] ++ encodeOffs t os ++ data).drop (cw + 1)
      = encodeOffs t os ++ data := by
    rw [← List.drop_drop, hdrop]; simp
  congr 1
  · unfold sliceLen
    rw [hd1, ← hel]
    exact List.take_left' rfl
  · rw [show cw + 1 + (count + 1) * t.width = (cw + 1) + (encodeOffs t os).length by rw [hel],
      ← List.drop_drop, hd1, List.drop_left' rfl]

theorem cffOffsetOpts_emit (count : Nat) (t : OffsetType) (ht : IsCffType t) (os : List Nat) (data : Bytes)
    (hlen : os.length = count + 1) (hb : ∀ o ∈ os, o + 1 < 2 ^ (t.width * 8)) :
    cffOffsetOpts { count := count, offSize := t.width, offsetBytes := encodeOffs t os, data := data }
      = os.map some := by
  unfold cffOffsetOpts
  apply List.ext_getElem
  · simp [hlen]
  · intro i h1 h2
    simp only [List.getElem_map, List.getElem_range]
    have hi : i < os.length := by simpa using h2
    unfold indexOffset
    simp only
    have hw := ht.width_pos
    rw [if_neg (by omega), if_neg (by omega)]
    rw [encodeOffs_cff t ht, sliceLen, Nat.mul_comm i,
      flatMap_uniform_chunk _ t.width os i hi (fun x _ => beBytes_length _ _)]
    have hlt : os[i] + 1 < 256 ^ t.width := by
      have := hb os[i] (List.getElem_mem hi)
      rwa [Nat.mul_comm, Nat.pow_mul] at this
    rw [beValue_beBytes _ _ hlt]
    simp

theorem cffEmit_readback (v2 : Bool) (pre : Bytes) (m : Nat) (t : OffsetType) (ht : IsCffType t)
    (os : List Nat) (data : Bytes) (hm : m + 1 < 65536) (hlen : os.length = m + 2)
    (hb : ∀ o ∈ os, o / t.divisor + t.bias < 2 ^ (t.width * 8)) :
    pre.length ≤ (cffEmit v2 pre (m + 1) t (encodeOffs t os) data).length ∧
    (cffEmit v2 pre (m + 1) t (encodeOffs t os) data).take pre.length = pre ∧
    ∃ ix, indexRead (cffCountWidth v2) ((cffEmit v2 pre (m + 1) t (encodeOffs t os) data).drop pre.length) = .ok ix ∧
      ix.count = m + 1 ∧ ix.offSize = t.width ∧ ix.data = data ∧
      cffOffsetOpts ix = os.map some ∧ cffOffsets ix = os := by
  have hcw : m + 1 < 256 ^ cffCountWidth v2 := by
    cases v2 <;> simp [cffCountWidth] <;> omega
  have hb' : ∀ o ∈ os, o + 1 < 2 ^ (t.width * 8) := fun o ho => by
    have := hb o ho
    rwa [ht.divisor, ht.bias, Nat.div_one] at this
  have hopts := cffOffsetOpts_emit (m + 1) t ht os data hlen hb'
  have hsplit : cffEmit v2 pre (m + 1) t (encodeOffs t os) data
      = pre ++ (beBytes (cffCountWidth v2) (m + 1) ++ [t.width] ++ encodeOffs t os ++ data) := by
    simp only [cffEmit, List.append_assoc]
  rw [hsplit, List.drop_left, List.take_left]
  refine ⟨by rw [List.length_append]; omega, rfl, _,
    indexRead_emit (cffCountWidth v2) (m + 1) t ht os data hcw hlen, rfl, rfl, rfl, hopts, ?_⟩
  unfold cffOffsets
  rw [hopts, List.map_map]
  conv => rhs; rw [← List.map_id os]
  rfl

theorem cffEmit_offSize (v2 : Bool) (pre : Bytes) (count : Nat) (t : OffsetType) (offs data : Bytes) :
    ((cffEmit v2 pre count t offs data).drop (pre.length + cffCountWidth v2)).headD 0 = t.width := by
  unfold cffEmit
  rw [List.append_assoc, List.append_assoc, List.append_assoc, ← List.drop_drop, List.drop_left' rfl,
    List.drop_left' (beBytes_length _ _)]
  rfl

/-- a successful CFF / CFF2 arm in parts; when the base INDEX ascends, also the new table as the next
reader finds it: the bytes before `at_` kept, the INDEX read back with the new offsets and data -/
theorem cffPatch_parts (v2 : Bool) (ift : Option Bytes) (b : Bytes) (gps : List GlyphPatches) (m : Nat)
    (out : Bytes) (hm : m + 1 < 65536) (h : cffPatch v2 ift (some b) gps m = .ok out) :
    ∃ at_ ix t0 repl t, iftCharstringsOffset ift v2 = some at_ ∧
      cffView v2 b at_ m = .ok (ix, t0) ∧ dedup (cffTag v2) gps = .ok repl ∧
      IsCffType t0 ∧ IsCffType t ∧
      (∃ total, totalDataSize (cffArray ix t0) repl m = .ok total ∧ total ≤ t.maxRepresentable ∧
        (total ≤ t0.maxRepresentable → t = t0) ∧
        (t0.maxRepresentable < total →
          ∃ pre post, [OffsetType.cffOne, .cffTwo, .cffThree, .cffFour] = pre ++ t :: post ∧
            ∀ c ∈ pre, c.maxRepresentable < total)) ∧
      (∀ x ∈ repl, x.1 ≤ m) ∧
      (ascending (cffOffsets ix) = true →
        out = cffEmit v2 (b.take at_) (m + 1) t
          (encodeOffs t (newOffsets (chunks (cffArray ix t0) t repl m)))
          (chunks (cffArray ix t0) t repl m).flatten ∧
        chooseOffsetType (cffArray ix t0) (chunks (cffArray ix t0) t repl m).flatten.length = .ok t ∧
        at_ ≤ out.length ∧ out.take at_ = b.take at_ ∧
        ∃ ix', indexRead (cffCountWidth v2) (out.drop at_) = .ok ix' ∧
          ix'.count = m + 1 ∧ ix'.offSize = t.width ∧
          ix'.data = (chunks (cffArray ix t0) t repl m).flatten ∧
          cffOffsetOpts ix' = (newOffsets (chunks (cffArray ix t0) t repl m)).map some ∧
          cffOffsets ix' = newOffsets (chunks (cffArray ix t0) t repl m)) := by
  obtain ⟨at_, ix, t0, repl, t, data, offs, ha, hv, hd, hp, hout⟩ := cffPatch_ok v2 ift b gps m out h
  obtain ⟨hle, hir, hot, hcnt⟩ := cffView_ok v2 b at_ m ix t0 hv
  obtain ⟨ht0, _⟩ := cffOffsetType_ok _ _ hot
  obtain ⟨total, h1, h2, _, _⟩ := patchOffsetArray_ok _ repl m t data offs hp
  have ht : IsCffType t := cff_choose_type ix t0 ht0 total t h2
  obtain ⟨c1, c2, c3⟩ := chooseOffsetType_spec _ total t h2
  obtain ⟨hsort, _, _⟩ := dedup_spec (cffTag v2) gps repl hd
  refine ⟨at_, ix, t0, repl, t, ha, hv, hd, ht0, ht, ⟨total, h1, c1, c2, fun hlt => (c3 hlt).2⟩,
    patchOffsetArray_gids_le _ repl m hsort t data offs hp, ?_⟩
  intro hasc
  have S := patchOffsetArray_spec _ repl m (cffArray_ascSound ix t0 hasc) hsort t data offs hp
  have e : out = cffEmit v2 (b.take at_) (m + 1) t
      (encodeOffs t (newOffsets (chunks (cffArray ix t0) t repl m)))
      (chunks (cffArray ix t0) t repl m).flatten := by
    rw [hout, S.data_eq, S.offs_eq, hcnt]
    rfl
  -- all CFF types have divisor 1: step 1's total is the length of the data step 2 built
  have hT := S.total_exact (by rw [ht.divisor]; exact ht0.divisor.symm)
  rw [h1, S.data_eq] at hT
  have hpl : (b.take at_).length = at_ := by rw [List.length_take]; exact Nat.min_eq_left hle
  have R := cffEmit_readback v2 (b.take at_) m t ht _ (chunks (cffArray ix t0) t repl m).flatten hm
    (chunks_newOffsets _ _ _ _).1 S.fits
  rw [← e, hpl] at R
  exact ⟨e, Except.ok.inj hT ▸ h2, R⟩

/-- two CFF / CFF2 tables that differ at most in the offSize of the final INDEX: the same bytes before
it, the same count, the same decoded offsets, the same object data (known finding
C18-offset-width-history-dependent: the width is only ever widened, so a larger intermediate table
leaves wider offsets behind) -/
def CffSameUpToOffSize (v2 : Bool) (x y : Bytes) : Prop :=
  ∃ pre count os data t t', IsCffType t ∧ IsCffType t' ∧
    x = cffEmit v2 pre count t (encodeOffs t os) data ∧ y = cffEmit v2 pre count t' (encodeOffs t' os) data

theorem CffSameUpToOffSize.refl_of_emit (v2 : Bool) (pre : Bytes) (count : Nat) (os : List Nat) (data : Bytes)
    (t : OffsetType) (ht : IsCffType t) :
    CffSameUpToOffSize v2 (cffEmit v2 pre count t (encodeOffs t os) data)
      (cffEmit v2 pre count t (encodeOffs t os) data) :=
  ⟨pre, count, os, data, t, t, ht, ht, rfl, rfl⟩

theorem CffSameUpToOffSize.eq_of_width (v2 : Bool) (x y : Bytes) (h : CffSameUpToOffSize v2 x y)
    (at_ : Nat) (hat : ∀ pre count os data t, IsCffType t →
      x = cffEmit v2 pre count t (encodeOffs t os) data → pre.length = at_)
    (hw : (x.drop (at_ + cffCountWidth v2)).headD 0 = (y.drop (at_ + cffCountWidth v2)).headD 0) : x = y := by
  obtain ⟨pre, count, os, data, t, t', ht, ht', hx, hy⟩ := h
  have hl := hat pre count os data t ht hx
  subst hl
  rw [hx, hy, cffEmit_offSize, cffEmit_offSize] at hw
  have := IsCffType.eq_of_width ht ht' hw
  subst this
  rw [hx, hy]

theorem cffPatch_two_step (v2 : Bool) (ift : Option Bytes) (b : Bytes) (gps1 gps2 : List GlyphPatches)
    (m : Nat) (out1 out2 out12 : Bytes) (hm : m + 1 < 65536)
    (hasc : ∀ at_ ix t0, iftCharstringsOffset ift v2 = some at_ → cffView v2 b at_ m = .ok (ix, t0) →
      ascending (cffOffsets ix) = true)
    (hagree : Agree (cffTag v2) (gps1 ++ gps2))
    (h1 : cffPatch v2 ift (some b) gps1 m = .ok out1)
    (h2 : cffPatch v2 ift (some out1) gps2 m = .ok out2)
    (h12 : cffPatch v2 ift (some b) (gps1 ++ gps2) m = .ok out12) :
    ∃ at_ os data t2 t12, iftCharstringsOffset ift v2 = some at_ ∧ at_ ≤ b.length ∧
      IsCffType t2 ∧ IsCffType t12 ∧
      out2 = cffEmit v2 (b.take at_) (m + 1) t2 (encodeOffs t2 os) data ∧
      out12 = cffEmit v2 (b.take at_) (m + 1) t12 (encodeOffs t12 os) data ∧
      t12.width ≤ t2.width ∧
      (∀ ix t0, cffView v2 b at_ m = .ok (ix, t0) →
        ((out1.drop (at_ + cffCountWidth v2)).headD 0 = t0.width → out2 = out12)) := by
  obtain ⟨at_, ix, t0, repl1, t1, ha, hv, hd1, ht0, ht1, _, _, hr1⟩ := cffPatch_parts v2 ift b gps1 m out1 hm h1
  obtain ⟨at', ix1, t1', repl2, t2, ha', hv1, hd2, _, ht2, _, _, hr2⟩ := cffPatch_parts v2 ift out1 gps2 m out2 hm h2
  obtain ⟨at'', ix', t0', repl12, t12, ha'', hv', hd12, _, ht12, _, _, hr12⟩ :=
    cffPatch_parts v2 ift b (gps1 ++ gps2) m out12 hm h12
  rw [ha] at ha' ha''
  cases ha'; cases ha''
  rw [hv] at hv'
  cases hv'
  have hA := hasc at_ ix t0 ha hv
  obtain ⟨hle, _, _, _⟩ := cffView_ok v2 b at_ m ix t0 hv
  obtain ⟨e1, hch1, _, hpre, ixr, hread, _, hsize, hdata, _, hoffs⟩ := hr1 hA
  obtain ⟨e12, hch12, _⟩ := hr12 hA
  -- the second step's view of `out1` is the INDEX the first step wrote, with the first step's type
  obtain ⟨_, hir1, hot1, _⟩ := cffView_ok v2 out1 at_ m ix1 t1' hv1
  rw [hread] at hir1
  cases hir1
  rw [hsize, cffOffsetType_width t1 ht1] at hot1
  cases hot1
  obtain ⟨e2, hch2, _⟩ := hr2 ((ascending_iff _).mpr (by rw [hoffs]; exact newOffsets_pairwise _))
  -- the chunks of both routes coincide, hence so do the totals the offset widths are chosen for
  have hchunks : chunks (cffArray ix1 t1) t2 repl2 m = chunks (cffArray ix t0) t12 repl12 m :=
    chunks_two_step (cffTag v2) (cffArray ix t0) _ t1 t2 t12 gps1 gps2 repl1 repl2 repl12 m hagree hd1 hd2 hd12
      hoffs hdata (by rw [ht2.divisor, ht1.divisor]) (by rw [ht12.divisor, ht1.divisor])
  rw [hchunks] at hch2
  obtain ⟨hwle, hweq⟩ := width_two_step _ _ _ _ _ _ (cff_choose_width ix t0 ht0 _ t1 hch1)
    (cff_choose_width _ t1 ht1 _ t2 hch2) (cff_choose_width ix t0 ht0 _ t12 hch12)
  have hpl : (b.take at_).length = at_ := by rw [List.length_take]; exact Nat.min_eq_left hle
  refine ⟨at_, newOffsets (chunks (cffArray ix t0) t12 repl12 m),
    (chunks (cffArray ix t0) t12 repl12 m).flatten, t2, t12, ha, hle, ht2, ht12, ?_, e12, hwle, ?_⟩
  · rw [e2, hchunks, hpre]
  · intro ix' t0' hv'' hbyte
    rw [hv] at hv''
    cases hv''
    have hb := cffEmit_offSize v2 (b.take at_) (m + 1) t1
      (encodeOffs t1 (newOffsets (chunks (cffArray ix t0) t1 repl1 m))) (chunks (cffArray ix t0) t1 repl1 m).flatten
    rw [hpl, ← e1, hbyte] at hb
    have e10 : t1 = t0 := (IsCffType.eq_of_width ht0 ht1 hb).symm
    subst e10
    have : t2 = t12 := IsCffType.eq_of_width ht2 ht12 (hweq rfl)
    subst this
    rw [e2, hchunks, hpre, e12]

end FontVerif.Ift
