/-
The COLR v1 closure one paint at a time (Model/HandColr.lean `body`: read-fonts closure.rs `Paint::v1_closure`): which palette
indices a paint contributes (`palOf`), which paints it dispatches to (`children`), and the one walk through the seven paint
kinds (`body_shape`) that both the call-count / no-trap argument of C01 (Lemmas/HandColr.lean `Step`) and the palette closure of
C17 (Lemmas/SubsetColrPalV1.lean) read; the same for one `dispatch` call around it (`dispatch_succ`).  Also the table of the
32 paint record sizes, swept once (`paintSize_forall`).
-/
import FontVerif.Model.HandColr
import FontVerif.Lemmas.HandSearch
namespace FontVerif.HandColr

/-- the closure's bookkeeping: what a set insertion never touches -/
def core (c : Ctx) : List Nat × Nat × Nat × Bool × Bool := (c.visited, c.level, c.calls, c.trap, c.starved)

theorem layerIndices_length (first last : Nat) : (layerIndices first last).length = last + 1 - first := by
  simp [layerIndices]

/-- `paintSize` is a table of 32 formats: a decidable fact about a format and its record size is checked by running
through it -/
theorem paintSize_forall {P : Nat → Nat → Prop} [∀ k s, Decidable (P k s)]
    (hP : ∀ k < 33, ∀ s, paintSize k = some s → P k s) {fmt size : Nat}
    (h : paintSize fmt = some size) : P fmt size := by
  by_cases hlt : fmt < 33
  · exact hP fmt hlt size h
  · obtain ⟨k, rfl⟩ : ∃ k, fmt = k + 33 := ⟨fmt - 33, by omega⟩
    cases h

theorem paintSize_ge {fmt sz : Nat} (h : paintSize fmt = some sz) : 3 ≤ sz :=
  paintSize_forall (P := fun _ s => 3 ≤ s) (by decide) h

/-- one `dispatch` with fuel left: the call is counted; unless the paint is missing, no nesting level is left or the
paint was visited, its `body` runs one level down on the context that has the paint in its visited set, and the level
is given back (`u8`, strict) -/
theorem dispatch_succ (G : Graph) (fuel : Nat) (c : Ctx) (pos : Nat) :
    ((G.node pos = none ∨ c.level = 0 ∨ pos % 4294967296 ∈ c.visited) ∧
      dispatch G (fuel + 1) c pos = { c with calls := c.calls + 1 }) ∨
    ∃ n c2, G.node pos = some n ∧ c.level ≠ 0 ∧ pos % 4294967296 ∉ c.visited ∧
      c2 = body G (dispatch G fuel)
        { c with calls := c.calls + 1, visited := pos % 4294967296 :: c.visited, level := c.level - 1 } n ∧
      dispatch G (fuel + 1) c pos =
        if c2.level + 1 > 255 then { c2 with trap := true } else { c2 with level := c2.level + 1 } := by
  rw [dispatch]
  cases hn : G.node pos with
  | none => exact .inl ⟨.inl rfl, rfl⟩
  | some n =>
    dsimp only
    by_cases hz : c.level = 0
    · rw [if_pos hz]; exact .inl ⟨.inr (.inl hz), rfl⟩
    rw [if_neg hz]
    by_cases hv : c.visited.contains (pos % 4294967296) = true
    · rw [if_pos hv]; exact .inl ⟨.inr (.inr (List.contains_iff_mem.mp hv)), rfl⟩
    rw [if_neg hv]
    exact .inr ⟨n, _, rfl, hz, fun h => hv (List.contains_iff_mem.mpr h), rfl, rfl⟩

end FontVerif.HandColr

namespace FontVerif.SubsetColrPalV1
open FontVerif.HandColr FontVerif.Layout

/-- the palette indices a paint itself contributes (`PaintSolid` / `PaintVarSolid`, the colour stops of a gradient
whose colour line resolves) -/
def palOf : PNode → List Nat
  | .solid pal _ => [pal]
  | .gradient (some ss) _ => ss.map (·.1)
  | _ => []

/-- the paints `Paint::v1_closure` dispatches to from a paint (edges of the paint graph as the closure follows them) -/
def children (G : Graph) : PNode → List Nat
  | .layers num first =>
    if num = 0 then [] else
    match G.layerList with
    | none => []
    | some ll => (layerIndices first (min (first + (num - 1)) U32MAX)).filterMap (fun i => (ll[i]?).join)
  | .glyph _ child => child.toList
  | .colrGlyph gid =>
    match G.baseList with
    | none => []
    | some recs =>
      match binarySearchBy recs.length (fun i => natCmp (recs.getD i default).1 gid) with
      | .err _ => []
      | .ok ix =>
        match recs[ix]? with
        | some (_, some p) => [p]
        | _ => []
  | .unary child _ => child.toList
  | .composite s b => s.toList ++ b.toList
  | _ => []

/-- `c'` is `c` with the palette indices `ps` added: the closure's bookkeeping (`core`: visited set, level, call count,
failure flags) is untouched -/
structure Adds (ps : List Nat) (c c' : Ctx) : Prop where
  core : core c' = core c
  pal : ∀ p, p ∈ c'.palettes ↔ p ∈ c.palettes ∨ p ∈ ps

theorem adds_same {c c' : Ctx} (hc : core c' = core c) (hp : c'.palettes = c.palettes) : Adds [] c c' :=
  ⟨hc, fun p => by rw [hp]; simp⟩

theorem adds_refl (c : Ctx) : Adds [] c c := adds_same rfl rfl

theorem adds_trans {a b : List Nat} {c c' c'' : Ctx} (h1 : Adds a c c') (h2 : Adds b c' c'') :
    Adds (a ++ b) c c'' :=
  ⟨h2.core.trans h1.core, fun p => by rw [h2.pal, h1.pal, List.mem_append, or_assoc]⟩

theorem addVars_adds (c : Ctx) (b n : Nat) : Adds [] c (c.addVars b n) := by
  unfold Ctx.addVars; split <;> exact adds_same rfl rfl

theorem addVarsOpt_adds (c : Ctx) (v : Option (Nat × Nat)) : Adds [] c (c.addVarsOpt v) := by
  cases v with
  | none => exact adds_refl c
  | some x => exact addVars_adds c x.1 x.2

theorem addStop_adds (c : Ctx) (s : Nat × Option Nat) : Adds [s.1] c (c.addStop s) := by
  have h0 : Adds [s.1] c { c with palettes := s.1 :: c.palettes } :=
    ⟨rfl, fun p => by simp only [List.mem_cons, List.not_mem_nil, or_false]; exact or_comm⟩
  unfold Ctx.addStop
  cases s.2 with
  | none => exact h0
  | some b => exact adds_trans h0 (addVars_adds _ b 2)

theorem foldl_addStop_adds : ∀ (ss : List (Nat × Option Nat)) (c : Ctx),
    Adds (ss.map (·.1)) c (ss.foldl Ctx.addStop c)
  | [], c => adds_refl c
  | s :: ss, c => adds_trans (addStop_adds c s) (foldl_addStop_adds ss (c.addStop s))

/-- the one walk through the paint kinds: own palette indices, then the children in order; nothing else touches the
palettes or the closure's bookkeeping -/
theorem body_shape (G : Graph) (rec : Ctx → Nat → Ctx) (c : Ctx) (n : PNode) :
    ∃ c1, Adds (palOf n) c c1 ∧ Adds [] (dispatchAll rec c1 (children G n)) (body G rec c n) := by
  cases n with
  | layers num first =>
    simp only [body, children]
    by_cases h0 : num = 0
    · rw [if_pos h0, if_pos h0]; exact ⟨c, adds_refl c, adds_refl c⟩
    · rw [if_neg h0, if_neg h0]
      cases G.layerList with
      | none => exact ⟨c, adds_refl c, adds_refl c⟩
      | some ll =>
        exact ⟨{ c with layers := (first, min (first + (num - 1)) U32MAX) :: c.layers }, adds_same rfl rfl, adds_refl _⟩
  | solid pal var =>
    refine ⟨body G rec c (.solid pal var), ?_, adds_refl _⟩
    have h0 : Adds [pal] c { c with palettes := pal :: c.palettes } := addStop_adds c (pal, none)
    unfold body
    cases var with
    | none => exact h0
    | some b => exact adds_trans h0 (addVars_adds _ b 1)
  | gradient stops var =>
    refine ⟨body G rec c (.gradient stops var), ?_, adds_refl _⟩
    unfold body
    cases stops with
    | none => exact addVarsOpt_adds c var
    | some ss => simpa [palOf] using adds_trans (foldl_addStop_adds ss c) (addVarsOpt_adds _ var)
  | glyph gid child =>
    refine ⟨{ c with glyphs := gid :: c.glyphs }, adds_same rfl rfl, ?_⟩
    cases child <;> exact adds_refl _
  | colrGlyph gid =>
    simp only [body, children]
    cases G.baseList with
    | none => exact ⟨c, adds_refl c, adds_refl c⟩
    | some recs =>
      simp only
      cases hix : binarySearchBy recs.length (fun i => natCmp (recs.getD i default).1 gid) with
      | err _ => exact ⟨c, adds_refl c, adds_refl c⟩
      | ok ix =>
        simp only
        cases hr : recs[ix]? with
        | none =>
          have := (BinSearch.ok_lt hix).1
          rw [List.getElem?_eq_none_iff] at hr
          omega
        | some rp =>
          obtain ⟨g', op⟩ := rp
          cases op with
          | none => exact ⟨c, adds_refl c, adds_refl c⟩
          | some q => exact ⟨{ c with glyphs := gid :: c.glyphs }, adds_same rfl rfl, adds_refl _⟩
  | unary child var =>
    refine ⟨c, adds_refl c, ?_⟩
    cases child with
    | none => exact adds_refl c
    | some q => exact addVarsOpt_adds (rec c q) var
  | composite src backdrop =>
    refine ⟨c, adds_refl c, ?_⟩
    cases src <;> cases backdrop <;> exact adds_refl _

/-- a paint dispatches to at most 255 children (`num_layers : u8`) -/
theorem children_length_le (G : Graph) (n : PNode) (hnum : ∀ num first, n = .layers num first → num ≤ 255) :
    (children G n).length ≤ 255 := by
  cases n with
  | layers num first =>
    have hn := hnum num first rfl
    simp only [children]
    split
    · simp
    split
    · simp
    refine Nat.le_trans (List.length_filterMap_le _ _) ?_
    rw [layerIndices_length]
    have : min (first + (num - 1)) U32MAX ≤ first + (num - 1) := Nat.min_le_left _ _
    omega
  | colrGlyph gid =>
    simp only [children]
    split
    · simp
    split
    · simp
    split <;> simp
  | glyph gid child => cases child <;> simp [children]
  | unary child var => cases child <;> simp [children]
  | composite s b => cases s <;> cases b <;> simp [children]
  | solid _ _ => simp [children]
  | gradient _ _ => simp [children]

theorem clipClosure_adds (c : Ctx) (s e : Nat) (b : Option (Option Nat)) : Adds [] c (clipClosure c s e b) := by
  unfold clipClosure
  cases b with
  | none => exact adds_refl c
  | some b' =>
    simp only
    split
    · cases b' with
      | none => exact adds_refl c
      | some base => exact addVars_adds _ _ _
    · exact adds_refl c

theorem v1Clips_adds : ∀ (cl : List (Nat × Nat × Option (Option Nat))) (c : Ctx), Adds [] c (v1Clips c cl)
  | [], c => adds_refl c
  | r :: rs, c => adds_trans (clipClosure_adds c r.1 r.2.1 r.2.2) (v1Clips_adds rs _)

end FontVerif.SubsetColrPalV1
