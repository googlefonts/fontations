/- Lemmas about Model/HintState.lean (copy-on-write slices, `resetDefs`). -/
import FontVerif.Model.HintState
namespace FontVerif.HintState

/-- the array the interpreter currently sees -/
def Cow.view (c : Cow) : List Int := if c.useMut then c.dataMut else c.data

theorem cow_step_view (c : Cow) (op : CowOp) :
    (c.step op).2 = (arrStep c.view op).2 ∧ (c.step op).1.view = (arrStep c.view op).1 ∧
    (c.step op).1.data = c.data := by
  cases op with
  | get i => cases hu : c.useMut <;> simp [Cow.step, arrStep, Cow.get, Cow.view, hu]
  | len => cases hu : c.useMut <;> simp [Cow.step, arrStep, Cow.len, Cow.view, hu]
  | set i v =>
    cases hu : c.useMut
    · simp only [Cow.step, Cow.set, arrStep, Cow.view, hu, Bool.not_false, if_true]
      by_cases hi : i < c.data.length <;> simp [hi]
    · simp only [Cow.step, Cow.set, arrStep, Cow.view, hu, Bool.not_true]
      by_cases hi : i < c.dataMut.length <;> simp [hi, hu]

theorem cow_run_view : ∀ (ops : List CowOp) (c : Cow), c.run ops = arrRun c.view ops := by
  intro ops
  induction ops with
  | nil => intro c; rfl
  | cons op ops ih =>
    intro c
    have h := cow_step_view c op
    simp only [Cow.run, arrRun]
    rw [h.1, ih, h.2.1]

theorem resize_length {α : Type} (l : List α) (n : Nat) (d : α) : (resize l n d).length = n := by
  simp [resize]; omega

theorem resetDefs_resize (l : List Defn) (n : Nat) : resetDefs (resize l n none) = List.replicate n none := by
  unfold resetDefs
  apply List.ext_getElem
  · simp [resize_length]
  · intro i h1 h2; simp

end FontVerif.HintState
