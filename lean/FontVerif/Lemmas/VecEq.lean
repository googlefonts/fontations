/- helper lemmas for Props/C03Vec.lean (vector normalisation, projection state, point movement:
   skrifa = FreeType). -/
import FontVerif.Lemmas.MoveEq
import FontVerif.Props.C03
import FontVerif.Model.HintVec
import FontVerif.Model.FtVec
set_option linter.unusedVariables false
namespace FontVerif.C03
open FontVerif.Tt

theorem wrapU32_in (x : Int) : 0 ≤ wrapU32 x ∧ wrapU32 x < 4294967296 := by
  unfold wrapU32; omega

theorem wU32 {x : Int} (h1 : 0 ≤ x) (h2 : x < 4294967296) : wrapU32 x = x := by
  unfold wrapU32; omega

/-- `FT_MOVE_SIGN` in 32 bits (both normalisations start with it): the magnitude. -/
theorem moveSign32_abs {x : Int} (h : inI32 x) :
    (if x < 0 then wrapU32 (0 - wrapU32 x) else wrapU32 x) = iabs x := by
  unfold inI32 at h; unfold wrapU32 iabs; split <;> omega

theorem bitLen_eq (n : Nat) : ∀ l : Int, HintVec.bitLen n l = FtVec.bitLen n l := by
  induction n with
  | zero => intro l; rfl
  | succ n ih => intro l; simp only [HintVec.bitLen, FtVec.bitLen, ih]

theorem bitLen_bound (n : Nat) : ∀ l : Int, 0 ≤ FtVec.bitLen n l ∧ FtVec.bitLen n l ≤ n := by
  induction n with
  | zero => intro l; simp [FtVec.bitLen]
  | succ n ih =>
    intro l
    have h := ih (l / 2)
    simp only [FtVec.bitLen]
    split
    · omega
    · push_cast; omega

theorem bitLen_pos (n : Nat) (l : Int) (h : 0 < l) : 1 ≤ FtVec.bitLen (n + 1) l := by
  have hb := bitLen_bound n (l / 2)
  simp only [FtVec.bitLen]
  split
  · omega
  · omega

theorem pow2_eq (s : Int) : HintVec.pow2 s = FtVec.pow2 s := rfl

theorem approxLen_eq (a b : Int) : HintVec.approxLen a b = FtVec.approxLen a b := rfl

theorem approxLen_pos {a b : Int} (ha : 0 < a ∧ a ≤ 2147483648) (hb : 0 < b ∧ b ≤ 2147483648) :
    0 < FtVec.approxLen a b ∧ FtVec.approxLen a b < 4294967296 := by
  unfold FtVec.approxLen wrapU32
  split <;> omega

theorem prenorm_eq (a b l s : Int) : HintVec.prenorm a b l s = FtVec.prenorm a b l s := rfl

theorem normShift_eq (l : Int) (hl : 0 < l ∧ l < 4294967296) : HintVec.normShift l = FtVec.normShift l := by
  unfold HintVec.normShift FtVec.normShift
  simp only [pow2_eq]
  have hb1 : 1 ≤ FtVec.bitLen 32 l := bitLen_pos 31 l hl.1
  have hb2 := bitLen_bound 32 l
  have elz : HintVec.clz32 l = 31 - FtVec.msb l := by
    unfold HintVec.clz32 FtVec.msb; rw [bitLen_eq]; omega
  rw [elz]
  have hr : 0 ≤ 31 - FtVec.msb l ∧ 31 - FtVec.msb l ≤ 31 := by
    unfold FtVec.msb; omega
  generalize 31 - FtVec.msb l = sh0 at hr ⊢
  have em : sh0 % 32 = sh0 := by omega
  rw [em]
  by_cases hcnd : l ≥ 2863311530 / FtVec.pow2 sh0
  · simp only [hcnd, if_true]
    rw [show wrapI32 (15 + 1) = 15 + 1 from by decide, wrapI32_of_in (by omega) (by omega)]
  · simp only [hcnd, if_false]
    rw [show wrapI32 (15 + 0) = 15 + 0 from by decide, wrapI32_of_in (by omega) (by omega)]

/-- the Newton iteration: whenever skrifa's loop returns (no trap on `-(i32::MIN)`, fuel left),
FreeType's returns the same pair. -/
theorem norm_loop_eq : ∀ (fuel : Nat) (x y b : Int) (r : Int × Int),
    HintVec.normLoop fuel x y b = some r → FtVec.normLoop fuel x y b = some r := by
  intro fuel
  induction fuel with
  | zero => intro x y b r h; simp [HintVec.normLoop] at h
  | succ n ih =>
    intro x y b r h
    unfold HintVec.normLoop at h
    unfold FtVec.normLoop
    simp only [] at h ⊢
    generalize wrapU32 (wrapI32 (x + wrapI32 (x * b) / 65536)) = u at h ⊢
    generalize wrapU32 (wrapI32 (y + wrapI32 (y * b) / 65536)) = v at h ⊢
    have hs := wrapI32_in (wrapU32 (wrapU32 (u * u) + wrapU32 (v * v)))
    generalize wrapI32 (wrapU32 (wrapU32 (u * u) + wrapU32 (v * v))) = s at h hs ⊢
    by_cases hmin : s = -2147483648
    · simp [hmin] at h
    · simp only [hmin, if_false] at h
      have e : wrapI32 (-s) = -s := by unfold inI32 at hs; exact wrapI32_of_in (by omega) (by omega)
      rw [e]
      generalize (wrapI32 ((-s).tdiv 512 * (wrapI32 (65536 + b) / 256))).tdiv 65536 = z at h ⊢
      by_cases hz : z ≤ 0
      · have hz' : ¬ z > 0 := by omega
        simp only [hz, if_true] at h
        simp only [hz', if_false]
        exact h
      · have hz' : z > 0 := by omega
        simp only [hz, if_false] at h
        simp only [hz', if_true]
        exact ih _ _ _ _ h

theorem norm_loop_range : ∀ (fuel : Nat) (x y b : Int) (u v : Int),
    FtVec.normLoop fuel x y b = some (u, v) → (0 ≤ u ∧ u < 4294967296) ∧ (0 ≤ v ∧ v < 4294967296) := by
  intro fuel
  induction fuel with
  | zero => intro x y b u v h; simp [FtVec.normLoop] at h
  | succ n ih =>
    intro x y b u v h
    unfold FtVec.normLoop at h
    simp only [] at h
    split at h
    · exact ih _ _ _ _ _ h
    · simp only [Option.some.injEq, Prod.mk.injEq] at h
      rw [← h.1, ← h.2]
      exact ⟨wrapU32_in _, wrapU32_in _⟩

theorem norm_core_eq (ux uy : Int) (hx : 0 < ux ∧ ux ≤ 2147483648) (hy : 0 < uy ∧ uy ≤ 2147483648)
    (r : Int × Int) (h : HintVec.normCore ux uy = some r) : FtVec.normCore ux uy = some r := by
  unfold HintVec.normCore at h
  unfold FtVec.normCore
  simp only [approxLen_eq, prenorm_eq] at h
  rw [normShift_eq _ (approxLen_pos hx hy)] at h
  exact norm_loop_eq _ _ _ _ _ h

theorem signed_quarter (w s : Int) (h0 : 0 ≤ w) (h1 : w < 131072) (hs : s = 1 ∨ s = -1) :
    Int.tdiv (wrapI32 (w * s)) 4 = wrapI16 (Int.tdiv (if s < 0 then -w else w) 4) ∧
    -32767 ≤ wrapI16 (Int.tdiv (if s < 0 then -w else w) 4) ∧
    wrapI16 (Int.tdiv (if s < 0 then -w else w) 4) ≤ 32767 := by
  rcases hs with rfl | rfl
  · rw [Int.mul_one, if_neg (by decide), wrapI32_of_in (by omega) (by omega), Int.tdiv_eq_ediv_of_nonneg h0,
      wrapI16_of_in (by omega) (by omega)]
    exact ⟨rfl, by omega, by omega⟩
  · rw [show w * -1 = -w by omega, if_pos (by decide), wrapI32_of_in (by omega) (by omega), Int.neg_tdiv,
      Int.tdiv_eq_ediv_of_nonneg h0, wrapI16_of_in (by omega) (by omega)]
    exact ⟨rfl, by omega, by omega⟩

def axisToProj : HintVec.Axis → FtVec.ProjFn
  | .x => .px
  | .y => .py
  | .both => .general

def axisToMove : HintVec.Axis → FtVec.MoveFn
  | .x => .mx
  | .y => .my
  | .both => .direct

/-- skrifa's cached projection state read as FreeType's (`CoordAxis` ↦ function pointer). -/
def toFuncs (g : HintVec.Proj) : FtVec.Funcs :=
  { pv := g.pv, dv := g.dv, fv := g.fv, fDotP := g.fdotp,
    project := axisToProj g.projAxis, dualproj := axisToProj g.dualAxis, move := axisToMove g.freeAxis }

theorem dotFix14_bound (dx dy px py : Int) (hdx : -1073741824 ≤ dx ∧ dx ≤ 1073741824)
    (hdy : -1073741824 ≤ dy ∧ dy ≤ 1073741824) (hpx : -32767 ≤ px ∧ px ≤ 32767)
    (hpy : -32767 ≤ py ∧ py ≤ 32767) : inI64 (FtCalc.dotFix14 dx dy px py) := by
  unfold FtCalc.dotFix14
  simp only []
  have := wrapI32_in (wrapI64 (wrapI64 (dx * px + dy * py) + (8192 + if wrapI64 (dx * px + dy * py) < 0 then -1 else 0)) / 16384)
  unfold inI32 at this; unfold inI64; omega

theorem ft_project_i32 (g : HintVec.Proj) (v1 v2 : Vec) (h1 : Dist29 v1.x ∧ Dist29 v1.y)
    (h2 : Dist29 v2.x ∧ Dist29 v2.y) : inI32 (FtVec.project (toFuncs g) v1 v2) := by
  have ex := wsub_exact h1.1 h2.1
  have ey := wsub_exact h1.2 h2.2
  unfold Dist29 at h1 h2
  unfold FtVec.project FtVec.funcProject toFuncs
  rw [ex.2, ey.2]
  cases hax : g.projAxis <;> simp only [axisToProj]
  · unfold FtCalc.dotFix14; exact wrapI32_in _
  · unfold inI32; omega
  · unfold inI32; omega

theorem ft_dualproj_i32 (g : HintVec.Proj) (v1 v2 : Vec) (h1 : Dist29 v1.x ∧ Dist29 v1.y)
    (h2 : Dist29 v2.x ∧ Dist29 v2.y) : inI32 (FtVec.dualproj (toFuncs g) v1 v2) :=
  ft_project_i32 { g with pv := g.dv, projAxis := g.dualAxis } v1 v2 h1 h2

/-- FreeType's projection of a difference bounded by `D` per axis along a 16-bit vector (any of the three
function pointers). -/
theorem funcProject_bound (g : HintVec.Proj) {D dx dy : Int} (hD : D ≤ 268435456)
    (hpx : -32767 ≤ g.pv.x ∧ g.pv.x ≤ 32767) (hpy : -32767 ≤ g.pv.y ∧ g.pv.y ≤ 32767)
    (hx : -D ≤ dx ∧ dx ≤ D) (hy : -D ≤ dy ∧ dy ≤ D) :
    -(4 * D + 1) ≤ FtVec.funcProject (toFuncs g) dx dy ∧ FtVec.funcProject (toFuncs g) dx dy ≤ 4 * D + 1 := by
  unfold FtVec.funcProject toFuncs
  cases hax : g.projAxis <;> simp only [axisToProj]
  · rw [wrapI32_of_in (by omega) (by omega), wrapI32_of_in (by omega) (by omega)]
    exact dotFix14_small _ _ _ _ hD hx hy hpx hpy
  · omega
  · omega

theorem muldiv_exact_of_le {a b c A B m : Int} (ha : inI32 a) (hb : inI32 b) (hc : inI32 c)
    (hA : iabs a ≤ A) (hB : iabs b ≤ B) (hm : 0 < m) (hcm : m ≤ iabs c) (h31 : A * B / m + 1 < 2147483648) :
    HintMath.mulDiv a b c = FtCalc.mulDiv a b c ∧
    -(A * B / m + 1) ≤ FtCalc.mulDiv a b c ∧ FtCalc.mulDiv a b c ≤ A * B / m + 1 := by
  have h := ft_mulDiv_le ha hb hc hA hB hm hcm
  exact ⟨muldiv_eq_exact a b c ha hb hc ⟨by omega, by omega⟩, h⟩

/-- `mul_div( distance, v, F_dot_P )` for a move: |distance| ≤ 2^24, |v| ≤ 32767, |F·P| ≥ 0x400. -/
theorem muldiv_small (d v f : Int) (hd : -16777216 ≤ d ∧ d ≤ 16777216) (hv : -32767 ≤ v ∧ v ≤ 32767)
    (hf : inI32 f) (hf2 : 1024 ≤ iabs f) :
    HintMath.mulDiv d v f = FtCalc.mulDiv d v f ∧
    -536870913 ≤ FtCalc.mulDiv d v f ∧ FtCalc.mulDiv d v f ≤ 536870913 := by
  have h := muldiv_exact_of_le (A := 16777216) (B := 32767) (m := 1024) (a := d) (b := v) ⟨by omega, by omega⟩
    ⟨by omega, by omega⟩ hf (iabs_le_of hd) (iabs_le_of hv) (by decide) hf2 (by decide)
  exact ⟨h.1, by omega, by omega⟩

theorem wadd_muldiv_small (p d v f : Int) (hp : Dist29 p) (hd : -16777216 ≤ d ∧ d ≤ 16777216)
    (hv : -32767 ≤ v ∧ v ≤ 32767) (hf : inI32 f) (hf2 : 1024 ≤ iabs f) :
    HintMove.wadd p (HintMath.mulDiv d v f) = FtCalc.addLong p (FtCalc.mulDiv d v f) := by
  have h := muldiv_small d v f hd hv hf hf2
  rw [h.1]
  exact wadd_near hp h.2

end FontVerif.C03
