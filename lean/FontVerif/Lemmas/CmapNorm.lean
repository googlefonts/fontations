/-
Helper lemmas for C08: `Cmap::from_mappings` normalisation (sort, dedup, conflict detection).
-/
import FontVerif.Model.Cmap
import FontVerif.Lemmas.Cmap
import FontVerif.Lemmas.Lists
namespace FontVerif.Cmap

def ConflictFree (raw : Mapping) : Prop := ∀ p ∈ raw, ∀ q ∈ raw, p.1 = q.1 → p.2 = q.2

def pairLt (a b : Nat × Nat) : Prop := a.1 < b.1 ∨ (a.1 = b.1 ∧ a.2 < b.2)

theorem pairLe_trans (a b c : Nat × Nat) (h1 : pairLe a b = true) (h2 : pairLe b c = true) :
    pairLe a c = true := by
  simp only [pairLe, Bool.or_eq_true, decide_eq_true_eq, Bool.and_eq_true, beq_iff_eq] at *
  omega

theorem pairLe_total (a b : Nat × Nat) : (pairLe a b || pairLe b a) = true := by
  simp only [pairLe, Bool.or_eq_true, decide_eq_true_eq, Bool.and_eq_true, beq_iff_eq]
  omega

theorem sortMappings_sorted (raw : Mapping) :
    (sortMappings raw).Pairwise (fun a b => pairLe a b = true) :=
  List.pairwise_mergeSort pairLe_trans pairLe_total raw

theorem mem_sortMappings (raw : Mapping) (p : Nat × Nat) : p ∈ sortMappings raw ↔ p ∈ raw :=
  (List.mergeSort_perm raw pairLe).mem_iff

theorem mem_dedup : ∀ (l : Mapping) (p : Nat × Nat), p ∈ dedup l ↔ p ∈ l := by
  intro l
  induction l with
  | nil => intro p; simp [dedup]
  | cons a rest ih =>
    intro p
    cases rest with
    | nil => simp [dedup]
    | cons b rest' =>
      unfold dedup
      by_cases hab : a = b
      · subst hab
        simp only [if_true, ih p, List.mem_cons]
        constructor
        · intro h; exact Or.inr h
        · rintro (h | h)
          · exact Or.inl h
          · exact h
      · simp only [hab, if_false, List.mem_cons, ih p]

theorem dedup_length_le : ∀ (l : Mapping), (dedup l).length ≤ l.length := by
  intro l
  induction l with
  | nil => simp [dedup]
  | cons a rest ih =>
    cases rest with
    | nil => simp [dedup]
    | cons b rest' =>
      unfold dedup
      split
      · simp only [List.length_cons] at ih ⊢; omega
      · simp only [List.length_cons] at ih ⊢; omega

theorem dedup_sorted : ∀ (l : Mapping), l.Pairwise (fun a b => pairLe a b = true) →
    (dedup l).Pairwise pairLt := by
  intro l
  induction l with
  | nil => intro _; simp [dedup]
  | cons a rest ih =>
    intro h
    have hp := List.pairwise_cons.1 h
    cases rest with
    | nil => simp [dedup]
    | cons b rest' =>
      unfold dedup
      by_cases hab : a = b
      · simp only [hab, if_true]
        exact ih hp.2
      · simp only [hab, if_false]
        refine List.pairwise_cons.2 ⟨?_, ih hp.2⟩
        intro x hx
        rw [mem_dedup] at hx
        have hax := hp.1 x hx
        have hab' := hp.1 b (List.mem_cons_self ..)
        have hbx : pairLe b x = true := by
          cases hx with
          | head => simp [pairLe]
          | tail _ hx' => exact (List.pairwise_cons.1 hp.2).1 x hx'
        simp only [pairLe, Bool.or_eq_true, decide_eq_true_eq, Bool.and_eq_true, beq_iff_eq] at hab' hbx
        have hne : ¬ (a.1 = b.1 ∧ a.2 = b.2) := fun h => hab (Prod.ext h.1 h.2)
        unfold pairLt
        omega

theorem findConflict_none_iff : ∀ (l : Mapping), l.Pairwise pairLt →
    (findConflict l = none ↔ Ascending l) := by
  intro l
  induction l with
  | nil => intro _; simp [findConflict, Ascending]
  | cons a rest ih =>
    intro h
    have hp := List.pairwise_cons.1 h
    cases rest with
    | nil => simp [findConflict, Ascending]
    | cons b rest' =>
      have hab := hp.1 b (List.mem_cons_self ..)
      unfold findConflict
      by_cases hc : a.1 = b.1 ∧ a.2 ≠ b.2
      · simp only [hc, ne_eq, not_false_eq_true, and_self, if_true]
        constructor
        · intro h'; cases h'
        · intro hasc
          have := (List.pairwise_cons.1 hasc).1 b (List.mem_cons_self ..)
          omega
      · simp only [hc, if_false]
        rw [ih hp.2]
        constructor
        · intro hasc
          refine List.pairwise_cons.2 ⟨?_, hasc⟩
          intro x hx
          have hlt : a.1 < b.1 := by unfold pairLt at hab; omega
          cases hx with
          | head => exact hlt
          | tail _ hx' =>
            have := (List.pairwise_cons.1 hasc).1 x hx'
            omega
        · intro hasc
          exact (List.pairwise_cons.1 hasc).2

theorem normalize_sorted (raw : Mapping) : (normalize raw).Pairwise pairLt :=
  dedup_sorted _ (sortMappings_sorted raw)

theorem mem_normalize (raw : Mapping) (p : Nat × Nat) : p ∈ normalize raw ↔ p ∈ raw := by
  unfold normalize
  rw [mem_dedup, mem_sortMappings]

theorem normalize_length_le (raw : Mapping) : (normalize raw).length ≤ raw.length := by
  unfold normalize
  have := dedup_length_le (sortMappings raw)
  have h2 : (sortMappings raw).length = raw.length := (List.mergeSort_perm raw pairLe).length_eq
  omega

theorem ascending_of_conflictFree (l : Mapping) (hs : l.Pairwise pairLt) (hcf : ConflictFree l) :
    Ascending l := by
  unfold Ascending
  refine List.Pairwise.imp_of_mem ?_ hs
  intro a b ha hb hab
  have := hcf a ha b hb
  unfold pairLt at hab
  omega

theorem conflictFree_of_ascending (l : Mapping) (hasc : Ascending l) : ConflictFree l :=
  fun p hp q hq hpq => congrArg Prod.snd
    (eq_of_nodup_map (·.1) l (sorted_nodup (List.pairwise_map.2 (show l.Pairwise (fun a b => a.1 < b.1) from hasc)))
      p hp q hq hpq)

theorem findConflict_normalize_none_iff (raw : Mapping) :
    findConflict (normalize raw) = none ↔ ConflictFree raw := by
  rw [findConflict_none_iff _ (normalize_sorted raw)]
  constructor
  · intro hasc p hp q hq hpq
    exact conflictFree_of_ascending _ hasc p ((mem_normalize raw p).2 hp) q ((mem_normalize raw q).2 hq) hpq
  · intro hcf
    refine ascending_of_conflictFree _ (normalize_sorted raw) ?_
    intro p hp q hq hpq
    exact hcf p ((mem_normalize raw p).1 hp) q ((mem_normalize raw q).1 hq) hpq

theorem findConflict_some : ∀ (l : Mapping) (c g1 g2 : Nat), findConflict l = some (c, g1, g2) →
    (c, g1) ∈ l ∧ (c, g2) ∈ l ∧ g1 < g2 := by
  intro l
  induction l with
  | nil => intro c g1 g2 h; simp [findConflict] at h
  | cons a rest ih =>
    intro c g1 g2 h
    cases rest with
    | nil => simp [findConflict] at h
    | cons b rest' =>
      unfold findConflict at h
      by_cases hc : a.1 = b.1 ∧ a.2 ≠ b.2
      · simp only [hc, ne_eq, not_false_eq_true, and_self, if_true, Option.some.injEq, Prod.mk.injEq] at h
        obtain ⟨rfl, rfl, rfl⟩ := h
        obtain ⟨a1, a2⟩ := a
        obtain ⟨b1, b2⟩ := b
        simp only at hc
        obtain ⟨rfl, hne⟩ := hc
        have ha : (a1, a2) ∈ (a1, a2) :: (a1, b2) :: rest' := List.mem_cons_self ..
        have hb : (a1, b2) ∈ (a1, a2) :: (a1, b2) :: rest' := List.mem_cons_of_mem _ (List.mem_cons_self ..)
        simp only
        rcases Nat.lt_or_ge a2 b2 with hlt | hge
        · have e1 : min a2 b2 = a2 := by omega
          have e2 : max a2 b2 = b2 := by omega
          rw [e1, e2]
          exact ⟨ha, hb, hlt⟩
        · have e1 : min a2 b2 = b2 := by omega
          have e2 : max a2 b2 = a2 := by omega
          rw [e1, e2]
          exact ⟨hb, ha, by omega⟩
      · simp only [hc, if_false] at h
        obtain ⟨h1, h2, h3⟩ := ih c g1 g2 h
        exact ⟨List.mem_cons_of_mem _ h1, List.mem_cons_of_mem _ h2, h3⟩

theorem normalize_inDomain (raw : Mapping) (hcf : ConflictFree raw)
    (hr : ∀ p ∈ raw, p.1 ≤ 0x10FFFF ∧ p.1 ≠ 0xFFFF ∧ 1 ≤ p.2 ∧ p.2 ≤ 0xFFFF) :
    InDomain (normalize raw) := by
  refine ⟨(findConflict_none_iff _ (normalize_sorted raw)).1 ((findConflict_normalize_none_iff raw).2 hcf), ?_, ?_⟩
  · intro p hp
    have := hr p ((mem_normalize raw p).1 hp)
    exact ⟨this.1, this.2.1⟩
  · intro p hp
    have := hr p ((mem_normalize raw p).1 hp)
    exact ⟨this.2.2.1, this.2.2.2⟩

end FontVerif.Cmap
