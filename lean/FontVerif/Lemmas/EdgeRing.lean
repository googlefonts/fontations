/-
C02 — lemmas about Model/EdgeRing.lean: the ring invariant reads `edge_next_ix` only at the members of the ring, and
an operation of `compute_edges` puts its fresh segment into one edge and leaves every other member list alone.
-/
import FontVerif.Model.EdgeRing
namespace FontVerif.C02
open FontVerif.EdgeRing

/-- `ChainRev` reads `next` only at the non-head elements of the list -/
theorem chainRev_congr (next next' : Nat → Option Nat) (first : Nat) :
    ∀ l : List Nat, (∀ a, a ∈ l.tail → next' a = next a) → ChainRev next first l → ChainRev next' first l
  | [], _, h => h
  | [a], _, h => h
  | b :: a :: rest, hag, h => by
    unfold ChainRev at h ⊢
    refine ⟨by rw [hag a (by simp)]; exact h.1, ?_⟩
    exact chainRev_congr next next' first (a :: rest) (fun x hx => hag x (by simp at hx ⊢; exact .inr hx)) h.2

theorem ringInv_last_mem (r : Ring) (h : RingInv r) : r.last ∈ r.ms := by
  obtain ⟨_, hhd, _, _⟩ := h
  cases hms : r.ms with
  | nil => rw [hms] at hhd; simp at hhd
  | cons b rest => rw [hms] at hhd; simp at hhd; simp [hhd]

/-- writes to `edge_next_ix` outside the ring do not touch its invariant -/
theorem ringInv_congr {r : Ring} (next' : Nat → Option Nat) (h : RingInv r) (hn : ∀ a, a ∈ r.ms → next' a = r.next a) :
    RingInv { r with next := next' } :=
  ⟨h.1, h.2.1, chainRev_congr r.next next' r.first r.ms (fun a ha => hn a (List.mem_of_mem_tail ha)) h.2.2.1,
    (hn r.last (ringInv_last_mem r h)).trans h.2.2.2⟩

/-- the member lists after an operation: the fresh segment joins ONE edge `t`; every other member was one before, of
    the same (old) edge -/
theorem run_mem (g : Axis) (op : GOp) (hok : op.ok g) :
    (op.run g).linked = op.seg :: g.linked ∧
    ∃ t, ∀ j, j < (op.run g).count → ∀ x, x ∈ ((op.run g).edge j).ms →
      (x = op.seg ∧ j = t) ∨ (j < g.count ∧ x ∈ (g.edge j).ms) := by
  cases op with
  | newEdge seg =>
    refine ⟨rfl, g.count, fun j hj x hx => ?_⟩
    dsimp only [GOp.run] at hj hx
    by_cases hjc : j = g.count
    · rw [if_pos hjc] at hx; exact .inl ⟨List.mem_singleton.mp hx, hjc⟩
    · rw [if_neg hjc] at hx; exact .inr ⟨Nat.lt_of_le_of_ne (Nat.le_of_lt_succ hj) hjc, hx⟩
  | append k seg =>
    refine ⟨rfl, k, fun j hj x hx => ?_⟩
    dsimp only [GOp.run] at hx
    by_cases hjk : j = k
    · rw [if_pos hjk] at hx
      exact (List.mem_cons.mp hx).imp (⟨·, hjk⟩) fun h => ⟨hjk ▸ hok.2, hjk ▸ h⟩
    · rw [if_neg hjk] at hx; exact .inr ⟨hj, hx⟩

end FontVerif.C02
