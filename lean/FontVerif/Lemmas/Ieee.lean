/-
The exact IEEE model (Model/Ieee.lean): bit length (`Nat.log2 + 1`); the equations of the rounding step `roundNE` (zero, nothing to round
off, low bits rounded off) and their consequences (exactness on representable values, sign of a rounded value).
-/
import FontVerif.Model.Ieee
namespace FontVerif.Ieee

theorem two_pow_pos (n : Nat) : 0 < 2 ^ n := Nat.two_pow_pos n

/-- `bitLen n` is `⌊log₂ n⌋ + 1` (and `0` for `0`). -/
theorem bitLenAux_eq : ∀ (fuel n : Nat), n ≤ fuel →
    bitLenAux fuel n = if n = 0 then 0 else Nat.log2 n + 1 := by
  intro fuel
  induction fuel with
  | zero => intro n h; rw [bitLenAux, if_pos (by omega)]
  | succ fuel ih =>
    intro n h
    rw [bitLenAux, ih (n / 2) (by omega)]
    by_cases hn : n = 0
    · rw [if_pos hn, if_pos hn]
    · rw [if_neg hn, if_neg hn, Nat.log2_def n]
      by_cases h2 : 2 ≤ n
      · rw [if_neg (by omega), if_pos h2]
      · rw [if_pos (by omega), if_neg h2]

theorem bitLen_zero : bitLen 0 = 0 := bitLenAux_eq 0 0 (Nat.le_refl 0)

theorem bitLen_of_ne {n : Nat} (h : n ≠ 0) : bitLen n = Nat.log2 n + 1 := by
  rw [bitLen, bitLenAux_eq n n (Nat.le_refl n), if_neg h]

theorem lt_pow_bitLen (n : Nat) : n < 2 ^ bitLen n := by
  by_cases h : n = 0
  · subst h; exact Nat.two_pow_pos _
  · rw [bitLen_of_ne h]; exact Nat.lt_log2_self

theorem pow_bitLen_le {n : Nat} (h : n ≠ 0) : 2 ^ (bitLen n - 1) ≤ n := by
  rw [bitLen_of_ne h]; exact Nat.log2_self_le h

theorem bitLen_pos {n : Nat} (h : n ≠ 0) : 1 ≤ bitLen n := by
  rw [bitLen_of_ne h]; omega

theorem bitLen_le_of_lt {n p : Nat} (h : n < 2 ^ p) : bitLen n ≤ p := by
  by_cases hn : n = 0
  · subst hn; rw [bitLen_zero]; omega
  · rw [bitLen_of_ne hn]; exact (Nat.log2_lt hn).2 h

theorem lt_of_bitLen_le {n p : Nat} (h : bitLen n ≤ p) : n < 2 ^ p :=
  Nat.lt_of_lt_of_le (lt_pow_bitLen n) (Nat.pow_le_pow_right (by decide) h)

theorem pow_le_of_lt_bitLen {a p : Nat} (h : p < bitLen a) : 2 ^ p ≤ a := by
  apply Classical.byContradiction; intro hc
  have := bitLen_le_of_lt (Nat.lt_of_not_le hc); omega

theorem bitLen_eq {a k : Nat} (h1 : 2 ^ k ≤ a) (h2 : a < 2 ^ (k + 1)) : bitLen a = k + 1 := by
  have hle := bitLen_le_of_lt h2
  apply Classical.byContradiction; intro hc
  have : bitLen a ≤ k := by omega
  have := lt_of_bitLen_le this
  omega

/-- the exponent of a rounded result: the one that leaves `p` significant bits, not below `emin`. -/
def expo (f : Fmt) (a : Nat) (e : Int) : Int :=
  if e + (bitLen a : Int) - f.p < f.emin then f.emin else e + (bitLen a : Int) - f.p

/-- the significand `a` with its `s` low bits rounded off, ties to even. -/
def rnd (a s : Nat) : Nat :=
  if 2 * (a % 2 ^ s) > 2 ^ s ∨ (2 * (a % 2 ^ s) = 2 ^ s ∧ a / 2 ^ s % 2 = 1) then a / 2 ^ s + 1 else a / 2 ^ s

theorem expo_spec (f : Fmt) (a : Nat) (e : Int) :
    f.emin ≤ expo f a e ∧ e + (bitLen a : Int) - f.p ≤ expo f a e ∧
    (expo f a e = f.emin ∨ expo f a e = e + (bitLen a : Int) - f.p) := by
  unfold expo; split <;> omega

theorem expo_le {f : Fmt} {a : Nat} {e : Int} (hL : bitLen a ≤ f.p) (he : f.emin ≤ e) : expo f a e ≤ e := by
  have := expo_spec f a e; omega

theorem rnd_cases (a s : Nat) : ∃ n0 r0, a = n0 * 2 ^ s + r0 ∧ r0 < 2 ^ s ∧
    (rnd a s = n0 ∧ 2 * r0 ≤ 2 ^ s ∨ rnd a s = n0 + 1 ∧ 2 ^ s ≤ 2 * r0) := by
  refine ⟨a / 2 ^ s, a % 2 ^ s, by rw [Nat.mul_comm]; exact (Nat.div_add_mod a _).symm,
    Nat.mod_lt a (two_pow_pos s), ?_⟩
  unfold rnd
  split
  · exact Or.inr ⟨rfl, by omega⟩
  · exact Or.inl ⟨rfl, by omega⟩

/-- rounding off `s` bits moves the value by at most half a unit of the kept bits. -/
theorem rnd_half (a s : Nat) :
    2 * rnd a s * 2 ^ s ≤ 2 * a + 2 ^ s ∧ 2 * a ≤ 2 * rnd a s * 2 ^ s + 2 ^ s := by
  obtain ⟨n0, r0, ha, hr, h⟩ := rnd_cases a s
  rcases h with ⟨h, h2⟩ | ⟨h, h2⟩ <;> rw [h, Nat.mul_assoc] <;> (try rw [Nat.add_mul, Nat.one_mul]) <;> omega

theorem rnd_le_grid {a s X : Nat} (hX : a ≤ X * 2 ^ s) : rnd a s ≤ X := by
  obtain ⟨n0, r0, ha, hr, h⟩ := rnd_cases a s
  have hlt : n0 * 2 ^ s ≤ X * 2 ^ s := by omega
  rcases h with ⟨h, _⟩ | ⟨h, h2⟩ <;> rw [h]
  · exact Nat.le_of_mul_le_mul_right hlt (by omega)
  · exact Nat.lt_of_mul_lt_mul_right (show n0 * 2 ^ s < X * 2 ^ s by omega)

theorem div_bounds (a p : Nat) (hp : 1 ≤ p) (hL : p < bitLen a) :
    2 ^ (p - 1) ≤ a / 2 ^ (bitLen a - p) ∧ a / 2 ^ (bitLen a - p) < 2 ^ p := by
  have ha : a ≠ 0 := by intro h; subst h; rw [bitLen_zero] at hL; omega
  have h1 := pow_bitLen_le ha
  have h2 := lt_pow_bitLen a
  generalize bitLen a = L at *
  have e1 : 2 ^ (L - 1) = 2 ^ (p - 1) * 2 ^ (L - p) := by rw [← Nat.pow_add]; congr 1; omega
  have e2 : 2 ^ L = 2 ^ p * 2 ^ (L - p) := by rw [← Nat.pow_add]; congr 1; omega
  have hpos := two_pow_pos (L - p)
  constructor
  · rw [Nat.le_div_iff_mul_le hpos]; omega
  · rw [Nat.div_lt_iff_lt_mul hpos]; omega

theorem rnd_bounds (a p : Nat) (hp : 1 ≤ p) (hL : p < bitLen a) :
    2 ^ (p - 1) ≤ rnd a (bitLen a - p) ∧ rnd a (bitLen a - p) ≤ 2 ^ p := by
  have := div_bounds a p hp hL
  unfold rnd; split <;> omega

theorem rnd_div (a s K : Nat) (h : rnd a s = a / 2 ^ s ∨ (a / 2 ^ s + 1) % 2 ^ K ≠ 0) :
    rnd a s / 2 ^ K = a / 2 ^ (s + K) := by
  rw [Nat.pow_add, ← Nat.div_div_eq_div_mul]
  rcases h with h | h
  · rw [h]
  · unfold rnd; split
    · exact Nat.succ_div_of_not_dvd (fun hd => h (Nat.dvd_iff_mod_eq_zero.mp hd))
    · rfl

theorem roundNE_zero (f : Fmt) (neg : Bool) (e : Int) : roundNE f neg 0 e = .fin neg 0 0 := by
  simp [roundNE]

/-- nothing to round off: the value is kept, or overflows. -/
theorem roundNE_of_le (f : Fmt) (neg : Bool) {a : Nat} {e : Int} (ha : a ≠ 0) (h : expo f a e ≤ e) :
    roundNE f neg a e = if e + (bitLen a : Int) > f.etop then .inf neg else .fin neg a e := by
  unfold expo at h
  simp only [roundNE, ha, if_false, h, if_true]

/-- the `expo - e` low bits are rounded off. -/
theorem roundNE_of_lt (f : Fmt) (neg : Bool) {a : Nat} {e : Int} (ha : a ≠ 0) (h : e < expo f a e) :
    roundNE f neg a e =
      if expo f a e + (bitLen (rnd a (expo f a e - e).toNat) : Int) > f.etop then .inf neg
      else .fin neg (rnd a (expo f a e - e).toNat) (expo f a e) := by
  unfold expo at h ⊢
  unfold roundNE rnd
  simp only [ha, if_false]
  generalize (if e + (bitLen a : Int) - (f.p : Int) < f.emin then f.emin
    else e + (bitLen a : Int) - (f.p : Int)) = q at h ⊢
  simp only [show ¬ q ≤ e by omega, if_false]

theorem roundNE_exact (f : Fmt) (neg : Bool) (a : Nat) (e : Int)
    (ha : a < 2 ^ f.p) (he : f.emin ≤ e) (ht : e + (bitLen a : Int) ≤ f.etop) :
    roundNE f neg a e = if a = 0 then .fin neg 0 0 else .fin neg a e := by
  by_cases h0 : a = 0
  · rw [if_pos h0, h0, roundNE_zero]
  · rw [if_neg h0, roundNE_of_le f neg h0 (expo_le (bitLen_le_of_lt ha) he), if_neg (by omega)]

/-- the usual case: `e + p ≤ etop`, so no magnitude below `2^p` can overflow. -/
theorem roundNE_fits (f : Fmt) (neg : Bool) {a : Nat} {e : Int} (ha0 : a ≠ 0) (ha : a < 2 ^ f.p)
    (he : f.emin ≤ e) (ht : e + (f.p : Int) ≤ f.etop) : roundNE f neg a e = .fin neg a e := by
  have := bitLen_le_of_lt ha
  rw [roundNE_exact f neg a e ha he (by omega), if_neg ha0]

theorem roundNE_inexact (f : Fmt) (neg : Bool) (a : Nat) (e : Int) (hL : f.p < bitLen a)
    (he : f.emin ≤ e) :
    roundNE f neg a e =
      if e + ((bitLen a - f.p : Nat) : Int) + (bitLen (rnd a (bitLen a - f.p)) : Int) > f.etop then .inf neg
      else .fin neg (rnd a (bitLen a - f.p)) (e + ((bitLen a - f.p : Nat) : Int)) := by
  have ha : a ≠ 0 := by intro h; subst h; rw [bitLen_zero] at hL; omega
  have hq : expo f a e = e + ((bitLen a - f.p : Nat) : Int) := by unfold expo; split <;> omega
  rw [roundNE_of_lt f neg ha (by omega), hq,
    show (e + ((bitLen a - f.p : Nat) : Int) - e).toNat = bitLen a - f.p by omega]

theorem roundNE_shape (f : Fmt) (neg : Bool) (a : Nat) (e : Int) :
    roundNE f neg a e = .inf neg ∨ ∃ m e', roundNE f neg a e = .fin neg m e' := by
  by_cases ha : a = 0
  · exact Or.inr ⟨0, 0, ha ▸ roundNE_zero f neg e⟩
  · by_cases h : expo f a e ≤ e
    · rw [roundNE_of_le f neg ha h]; split <;> simp
    · rw [roundNE_of_lt f neg ha (by omega)]; split <;> simp

theorem ofInt_exact (f : Fmt) (i : Int) (hp : (f.p : Int) ≤ f.etop) (hemin : f.emin ≤ 0)
    (hi : i.natAbs < 2 ^ f.p) : ofInt f i = .fin (decide (i < 0)) i.natAbs 0 := by
  unfold ofInt
  by_cases h0 : i.natAbs = 0
  · rw [h0, roundNE_zero, show i = 0 by omega]
  · exact roundNE_fits f _ h0 hi hemin (by omega)

theorem decode_fin (f : Fmt) (hp : 1 ≤ f.p) (bits : Nat) {s : Bool} {m : Nat} {e : Int}
    (h : decode f bits = .fin s m e) : m < 2 ^ f.p ∧ f.emin ≤ e := by
  unfold decode at h
  extract_lets fb frac ex neg at h
  have h1 : frac < 2 ^ fb := Nat.mod_lt _ (two_pow_pos _)
  have h2 : 2 ^ f.p = 2 * 2 ^ fb := by
    rw [show f.p = fb + 1 by omega, Nat.pow_succ]; omega
  split at h
  · split at h <;> cases h
  · split at h <;> (injection h with _ hm he; subst hm he)
    · exact ⟨by omega, Int.le_refl _⟩
    · exact ⟨by omega, by omega⟩

end FontVerif.Ieee
