/- C04: a record's own writer program writes exactly the flat element its parent's array item describes
(`wShape`, `emitVals`, `shapeWidths` of Model/Field.lean) -/
import FontVerif.Lemmas.Field

namespace FontVerif.Field

theorem emitRec_append : ∀ (s1 x1 : List Nat) (a : Bytes) (s2 x2 : List Nat) (b : Bytes),
    emitRec s1 x1 = some a → emitRec s2 x2 = some b → emitRec (s1 ++ s2) (x1 ++ x2) = some (a ++ b)
  | [], x1, a, s2, x2, b, h1, h2 => by
    obtain ⟨rfl, rfl⟩ := emitRec_nil_some h1
    exact h2
  | s :: s1, x1, a, s2, x2, b, h1, h2 => by
    obtain ⟨x, x1', a', rfl, hx, ha', rfl⟩ := emitRec_cons_some h1
    simp only [List.cons_append, emitRec, if_pos hx, emitRec_append s1 x1' a' s2 x2 b ha' h2, List.append_assoc]

theorem emitRecs_flat (elem : List Nat) : ∀ (xs : List (List Nat)) (b : Bytes), emitRecs elem xs = some b →
    emitRec (repGroup xs.length elem) xs.flatten = some b
  | [], b, h => by cases h; rfl
  | r :: rs, b, h => by
    obtain ⟨a, b', ha, hb, rfl⟩ := emitRecs_cons_some h
    exact emitRec_append elem r a _ _ b' ha (emitRecs_flat elem rs b' hb)

theorem wWidths_all (pre : List Nat) (tail n : Nat) (hp : pre.all (· == tail) = true) (hn : pre.length ≤ n) :
    wWidths pre tail n = List.replicate n tail := by
  rw [wWidths, eq_replicate_of_all tail pre hp, List.length_replicate, List.replicate_append_replicate]
  congr 1
  omega

theorem emitRecsV_flat (pre : List Nat) (tail : Nat) (hp : pre.all (· == tail) = true) :
    ∀ (xs : List (List Nat)) (b : Bytes), emitRecsV pre tail xs = some b →
    emitRec (List.replicate xs.flatten.length tail) xs.flatten = some b
  | [], b, h => by cases h; rfl
  | r :: rs, b, h => by
    obtain ⟨hle, a, b', ha, hb, rfl⟩ := emitRecsV_cons_some h
    rw [wWidths_all pre tail r.length hp hle] at ha
    simp only [List.flatten_cons, List.length_append, ← List.replicate_append_replicate]
    exact emitRec_append _ r a _ _ b' ha (emitRecsV_flat pre tail hp rs b' hb)

theorem replicate_append_all {t : Nat} {p : List Nat} (h : p.all (· == t) = true) (k : Nat) :
    List.replicate k t ++ p = List.replicate (k + p.length) t := by
  rw [eq_replicate_of_all t p h, List.replicate_append_replicate, List.length_replicate]

theorem shapeCat_den {a b sh : FlatShape} {w1 w2 : List Nat} (hs : shapeCat a b = some sh) (h1 : a.Den w1)
    (h2 : b.Den w2) : sh.Den (w1 ++ w2) := by
  obtain ⟨p1, _ | t⟩ := a <;> obtain ⟨p2, _ | t2⟩ := b
  · cases hs
    rw [show w1 = p1 from h1, show w2 = p2 from h2]; rfl
  · cases hs
    rw [show w1 = p1 from h1]
    obtain ⟨k, rfl⟩ := h2
    exact ⟨k, (List.append_assoc ..).symm⟩
  · -- an open layout first: what follows must be `t`-wide throughout
    obtain ⟨k, rfl⟩ := h1
    rw [show w2 = p2 from h2]
    simp only [shapeCat] at hs
    split at hs
    · rename_i hall
      cases hs
      exact ⟨k + p2.length, by rw [List.append_assoc, replicate_append_all hall]⟩
    · cases hs
  · obtain ⟨k, rfl⟩ := h1
    obtain ⟨k2, rfl⟩ := h2
    simp only [shapeCat] at hs
    split at hs
    · rename_i hall
      cases hs
      simp only [Bool.and_eq_true, beq_iff_eq] at hall
      obtain ⟨rfl, hall⟩ := hall
      exact ⟨k + p2.length + k2, by
        rw [List.append_assoc, ← List.append_assoc (List.replicate k t), replicate_append_all hall,
          List.replicate_append_replicate]⟩
    · cases hs

theorem itemShape_emit (ext : Ext) (o : Obj) (view : View) (w : WF) (b : Bytes) (v : Val) (sh : FlatShape)
    (hc : w.cond = none) (hs : itemShape w.item = some sh) (he : emitField ext o view w = some (b, v)) :
    ∃ ws, sh.Den ws ∧ emitRec ws (itemVals v) = some b := by
  have hs' := emitField_some (by rw [hc]; rfl) he
  cases hw : w.item with
  | scalar src sz =>
    rw [hw] at hs' hs
    obtain ⟨n, _, hlt, rfl, rfl⟩ := hs'
    cases hs
    exact ⟨[sz], rfl, by simp [itemVals, emitRec, hlt]⟩
  | array elem fixed =>
    rw [hw] at hs' hs
    obtain ⟨xs, _, hfix, hbb, rfl⟩ := hs'
    refine ⟨repGroup xs.length elem, ?_, emitRecs_flat elem xs b hbb⟩
    cases fixed with
    | some n =>
      cases hs
      simp only [fixedOk, beq_iff_eq] at hfix
      rw [hfix]; rfl
    | none =>
      -- a `Vec` of scalars all of one width `t`: any number of `t`-byte scalars
      cases elem with
      | nil => cases hs
      | cons t r =>
        simp only [itemShape] at hs
        split at hs
        · rename_i hall
          cases hs
          exact ⟨_, by rw [repGroup_all t (t :: r) (by simp [hall]), List.nil_append]⟩
        · cases hs
  | arrayV pre tail fixed =>
    rw [hw] at hs' hs
    obtain ⟨xs, _, hfix, hbb, rfl⟩ := hs'
    by_cases h1 : fixed = some 1
    · -- one inline record: the prefix, then its `tail`-byte scalars
      subst h1
      cases hs
      simp only [fixedOk, beq_iff_eq] at hfix
      match xs, hfix, hbb with
      | [x], _, hbb =>
        obtain ⟨hle, a, b', ha, hb', rfl⟩ := emitRecsV_cons_some hbb
        cases hb'
        exact ⟨_, ⟨x.length - pre.length, rfl⟩, by simpa [itemVals, wWidths] using ha⟩
    · -- `h1` is what the equation of `itemShape` for the other lengths asks for
      simp only [itemShape] at hs
      split at hs
      · rename_i hall
        cases hs
        exact ⟨_, ⟨_, (List.nil_append _).symm⟩, emitRecsV_flat pre tail hall xs b hbb⟩
      · cases hs
  | arrayL hw' item =>
    rw [hw] at hs
    cases hs

theorem wShape_emit (ext : Ext) (o : Obj) (ws : List WF) : ∀ (view : View) (sh : FlatShape) (bytes : Bytes) (view' : View),
    wShape ws = some sh → emit ext o ws view = some (bytes, view') →
    ∃ vals widths, emitVals ext o ws view = some vals ∧ sh.Den widths ∧ emitRec widths vals = some bytes := by
  induction ws with
  | nil =>
    intro view sh bytes view' hs he
    cases hs
    rw [(emit_nil_some he).1]
    exact ⟨[], [], rfl, rfl, rfl⟩
  | cons w ws ih =>
    intro view sh bytes view' hs he
    simp only [wShape] at hs
    split at hs
    · cases hs
    · rename_i hcond
      split at hs
      · rename_i a b ha hb
        obtain ⟨bb, v, bs, hf, hrec, rfl⟩ := emit_cons_some he
        obtain ⟨w1, d1, e1⟩ := itemShape_emit ext o view w bb v a (Option.not_isSome_iff_eq_none.mp hcond) ha hf
        obtain ⟨vs, w2, hv, d2, e2⟩ := ih _ b bs view' hb hrec
        exact ⟨itemVals v ++ vs, w1 ++ w2, by simp only [emitVals, hf, hv], shapeCat_den hs d1 d2,
          emitRec_append _ _ _ _ _ _ e1 e2⟩
      · cases hs

/-- the view after reading the scalar fields `ids` with values `xs` -/
def pushNums : List Nat → List Nat → View → View
  | i :: is, x :: xs, v => pushNums is xs ((i, .num x) :: v)
  | _, _, v => v

end FontVerif.Field
