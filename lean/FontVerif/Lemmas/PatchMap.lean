/-
Helper lemmas for C19 (IFT patch selection): range-list membership, the "grows" order on subset
definitions, monotonicity of `Entry::intersects` and of the format-2 cache evaluation, the
fixed-point equation of `evalAll`, the declarative intersection relation `SpecMatch` (`evalAll_iff_spec`);
what a successful `decode_format2_entries` guarantees (`decodeEntry_ok`, `decodeF2_inv`), the success cases of
the table-level functions.
-/
import FontVerif.Model.PatchGroup
import FontVerif.Lemmas.Base
namespace FontVerif.PatchMap

theorem rMem_iff (c : Int) (s : Ranges) :
    rMem c s = true ↔ ∃ r, r ∈ s ∧ r.1 ≤ c ∧ c ≤ r.2 := by
  simp [rMem, List.any_eq_true]

theorem rMem_nil (c : Int) : rMem c [] = false := by simp [rMem]

theorem rMem_cons (c : Int) (x : Int × Int) (xs : Ranges) :
    rMem c (x :: xs) = true ↔ (x.1 ≤ c ∧ c ≤ x.2) ∨ rMem c xs = true := by
  simp [rMem, List.any_cons]

theorem rMem_append (c : Int) (a b : Ranges) :
    rMem c (a ++ b) = true ↔ rMem c a = true ∨ rMem c b = true := by
  simp [rMem, List.any_append]

theorem rangesOverlap_iff (r s : Int × Int) :
    rangesOverlap r s = true ↔ ∃ c : Int, (r.1 ≤ c ∧ c ≤ r.2) ∧ (s.1 ≤ c ∧ c ≤ s.2) := by
  simp only [rangesOverlap, Bool.and_eq_true, decide_eq_true_eq]
  constructor
  · rintro ⟨⟨⟨h1, h2⟩, h3⟩, h4⟩
    by_cases h : r.1 ≤ s.1
    · exact ⟨s.1, by omega⟩
    · exact ⟨r.1, by omega⟩
  · rintro ⟨c, h⟩; omega

theorem rIntersects_iff (a b : Ranges) :
    rIntersects a b = true ↔ ∃ c : Int, rMem c a = true ∧ rMem c b = true := by
  simp only [rIntersects, List.any_eq_true, rangesOverlap_iff, rMem_iff]
  constructor
  · rintro ⟨r, hr, s, hs, c, h1, h2⟩
    exact ⟨c, ⟨r, hr, h1⟩, ⟨s, hs, h2⟩⟩
  · rintro ⟨c, ⟨r, hr, h1⟩, ⟨s, hs, h2⟩⟩
    exact ⟨r, hr, s, hs, c, h1, h2⟩

theorem rIsEmpty_iff (a : Ranges) : rIsEmpty a = true ↔ ∀ c : Int, rMem c a = false := by
  simp only [rIsEmpty, Bool.not_eq_true', List.any_eq_false, decide_eq_true_eq]
  constructor
  · intro h c
    cases hm : rMem c a with
    | false => rfl
    | true =>
      obtain ⟨r, hr, h1, h2⟩ := (rMem_iff c a).1 hm
      exact absurd (by omega : r.1 ≤ r.2) (h r hr)
  · intro h r hr hle
    have := h r.1
    rw [← Bool.not_eq_true, rMem_iff] at this
    exact this ⟨r, hr, by omega, hle⟩

/-- set inclusion of range lists -/
def rSub (a b : Ranges) : Prop := ∀ c : Int, rMem c a = true → rMem c b = true

theorem rSub_refl (a : Ranges) : rSub a a := fun _ h => h

/-- feature sets: everything is below `All`; explicit sets by inclusion -/
def FeatureSet.le : FeatureSet → FeatureSet → Prop
  | _, .all => True
  | .all, .set _ => False
  | .set a, .set b => ∀ t, t ∈ a → t ∈ b

/-- design spaces: everything is below `All`; explicit ones axis by axis (an axis of the smaller
space is an axis of the larger one, with a superset of values) -/
def DesignSpace.le : DesignSpace → DesignSpace → Prop
  | _, .all => True
  | .all, .ranges _ => False
  | .ranges a, .ranges b =>
    ∀ tag ra, axLookup tag a = some ra → ∃ rb, axLookup tag b = some rb ∧ rSub ra rb

/-- `d ≤ d'`: codepoints, features and design space all grow -/
def SubsetDef.le (d d' : SubsetDef) : Prop :=
  rSub d.cps d'.cps ∧ FeatureSet.le d.feats d'.feats ∧ DesignSpace.le d.ds d'.ds

theorem FeatureSet.le_refl : ∀ f : FeatureSet, FeatureSet.le f f
  | .all => trivial
  | .set _ => fun _ h => h

theorem DesignSpace.le_refl : ∀ f : DesignSpace, DesignSpace.le f f
  | .all => trivial
  | .ranges _ => fun _ ra h => ⟨ra, h, rSub_refl ra⟩

theorem SubsetDef.le_refl (d : SubsetDef) : SubsetDef.le d d :=
  ⟨rSub_refl _, FeatureSet.le_refl _, DesignSpace.le_refl _⟩

/-- the codepoints of a definition are `u32` values (the domain of `IntSet<u32>`) -/
def SubsetDef.cpsInDomain (d : SubsetDef) : Prop :=
  ∀ c : Int, rMem c d.cps = true → 0 ≤ c ∧ c ≤ 4294967295

theorem SubsetDef.le_all (d : SubsetDef) (h : d.cpsInDomain) : SubsetDef.le d SubsetDef.allDef := by
  refine ⟨?_, ?_, ?_⟩
  · intro c hc
    have := h c hc
    rw [rMem_iff]
    exact ⟨(0, 4294967295), by simp [SubsetDef.allDef], this.1, this.2⟩
  · cases hf : d.feats <;> simp [SubsetDef.allDef, FeatureSet.le]
  · cases hf : d.ds <;> simp [SubsetDef.allDef, DesignSpace.le]

theorem axLookup_of_head {t : Nat} {r : Ranges} {rest : List (Nat × Ranges)} :
    axLookup t ((t, r) :: rest) = some r := by simp [axLookup]

/-- codepoint condition of `Entry::intersects` -/
def cpOk (e d : SubsetDef) : Bool := rIsEmpty e.cps || rIntersects e.cps d.cps

/-- feature condition of `Entry::intersects` -/
def ftOk (e d : SubsetDef) : Bool :=
  match e.feats with
  | .all => decide (d.feats.len > 0)
  | .set s => match d.feats with
    | .all => true
    | .set o => s.isEmpty || s.any fun t => o.contains t

/-- design-space condition of `Entry::intersects` -/
def dsOk (e d : SubsetDef) : Bool :=
  match e.ds with
  | .all => !d.ds.isEmpty
  | .ranges er => match d.ds with
    | .all => true
    | .ranges o => er.isEmpty || designSpaceIntersects er o

theorem localIntersects_eq (e d : SubsetDef) :
    localIntersects e d = (cpOk e d && (ftOk e d && dsOk e d)) := by
  unfold localIntersects
  simp only []
  show (if (!cpOk e d) = true then false else
          if (!ftOk e d) = true then false else dsOk e d) = _
  cases cpOk e d <;> cases ftOk e d <;> simp

/-! The IFT specification's rule ("Check entry intersection": a dimension the entry leaves empty matches
everything; otherwise it must share a member with the definition; then child entries:
conjunctive = all children match, otherwise at least one child matches) -/

/-- the three per-dimension conditions, stated over members of the sets -/
def SpecLocal (e d : SubsetDef) : Prop :=
  ((∀ c : Int, rMem c e.cps = false) ∨ ∃ c : Int, rMem c e.cps = true ∧ rMem c d.cps = true) ∧
  (match e.feats, d.feats with
   | .set s, .set o => s = [] ∨ ∃ t, t ∈ s ∧ t ∈ o
   | .set _, .all => True
   | .all, .set o => o ≠ []
   | .all, .all => True) ∧
  (match e.ds, d.ds with
   | .ranges er, .ranges o =>
     er = [] ∨ ∃ p, p ∈ er ∧ ∃ rb, axLookup p.1 o = some rb ∧
       ∃ x : Int, rMem x p.2 = true ∧ rMem x rb = true
   | .ranges _, .all => True
   | .all, .ranges o => o ≠ []
   | .all, .all => True)

theorem localIntersects_iff_spec (e d : SubsetDef) : localIntersects e d = true ↔ SpecLocal e d := by
  rw [localIntersects_eq]
  simp only [Bool.and_eq_true, SpecLocal]
  refine and_congr ?_ (and_congr ?_ ?_)
  · simp only [cpOk, Bool.or_eq_true, rIsEmpty_iff, rIntersects_iff]
  · unfold ftOk
    cases e.feats <;> cases d.feats <;> simp [FeatureSet.len, List.any_eq_true]
    next o => cases o <;> simp
  · unfold dsOk
    cases e.ds <;> cases d.ds <;> simp [DesignSpace.isEmpty]
    next er o =>
      simp only [designSpaceIntersects, List.any_eq_true]
      apply or_congr Iff.rfl
      constructor
      · rintro ⟨p, hp, hm⟩
        refine ⟨p.1, p.2, hp, ?_⟩
        cases hl : axLookup p.1 o with
        | none => simp [hl] at hm
        | some rb =>
          simp only [hl] at hm
          exact ⟨rb, rfl, (rIntersects_iff _ _).1 hm⟩
      · rintro ⟨a, b, hp, rb, hl, hx⟩
        refine ⟨(a, b), hp, ?_⟩
        simp only [hl]
        exact (rIntersects_iff _ _).2 hx

/-- the declarative condition only asks for members of `d`, so it is kept when `d` grows -/
theorem SpecLocal.mono {e d d' : SubsetDef} (hle : SubsetDef.le d d') (h : SpecLocal e d) :
    SpecLocal e d' := by
  obtain ⟨hc, hf, hd⟩ := hle
  obtain ⟨h1, h2, h3⟩ := h
  refine ⟨h1.imp id fun ⟨c, a, b⟩ => ⟨c, a, hc c b⟩, ?_, ?_⟩
  · cases hd' : d'.feats with
    | all => cases e.feats <;> trivial
    | set o' =>
      rw [hd'] at hf
      cases hdf : d.feats with
      | all => rw [hdf] at hf; exact hf.elim
      | set o =>
        rw [hdf] at hf h2
        revert h2
        cases e.feats with
        | all =>
          -- a non-empty requested set stays non-empty
          rintro h2 rfl
          cases o with
          | nil => exact h2 rfl
          | cons t _ => exact absurd (hf t List.mem_cons_self) (by simp)
        | set s => exact fun h2 => h2.imp id fun ⟨t, a, b⟩ => ⟨t, a, hf t b⟩
  · cases hd' : d'.ds with
    | all => cases e.ds <;> trivial
    | ranges o' =>
      rw [hd'] at hd
      cases hdd : d.ds with
      | all => rw [hdd] at hd; exact hd.elim
      | ranges o =>
        rw [hdd] at hd h3
        revert h3
        cases e.ds with
        | all =>
          rintro h3 rfl
          cases o with
          | nil => exact h3 rfl
          | cons p _ =>
            obtain ⟨_, hb, _⟩ := hd p.1 p.2 axLookup_of_head
            cases hb
        | ranges er =>
          refine fun h3 => h3.imp id fun ⟨p, hp, rb, hl, x, hx, hxb⟩ => ?_
          obtain ⟨rb', hl', hsub⟩ := hd p.1 rb hl
          exact ⟨p, hp, rb', hl', x, hx, hsub x hxb⟩

theorem localIntersects_mono (e d d' : SubsetDef) (hle : SubsetDef.le d d')
    (h : localIntersects e d = true) : localIntersects e d' = true :=
  (localIntersects_iff_spec e d').2 (SpecLocal.mono hle ((localIntersects_iff_spec e d).1 h))

theorem getD_snoc (res : List Bool) (v : Bool) (i : Nat) :
    (res ++ [v]).getD i false =
      if i < res.length then res.getD i false else if i = res.length then v else false := by
  simp only [List.getD_eq_getElem?_getD, List.getElem?_append]
  split
  · rfl
  · split
    · next h => simp [h]
    · next h1 h2 =>
      have : i - res.length ≠ 0 := by omega
      cases hk : i - res.length with
      | zero => omega
      | succ k => simp

/-- only the cached values of the entry's own children matter -/
theorem childrenOk_mono (e : Entry) (res res' : List Bool)
    (h : ∀ c, c ∈ e.children → res.getD c false = true → res'.getD c false = true) :
    childrenOk e res = true → childrenOk e res' = true := by
  unfold childrenOk
  split
  · simp
  · split
    · simp only [List.all_eq_true]
      intro hall c hc
      exact h c hc (hall c hc)
    · simp only [List.any_eq_true]
      rintro ⟨c, hc, hv⟩
      exact ⟨c, hc, h c hc hv⟩

theorem entryValue_mono (e : Entry) (d d' : SubsetDef) (res res' : List Bool)
    (hle : SubsetDef.le d d') (h : ∀ i, res.getD i false = true → res'.getD i false = true) :
    entryValue d res e = true → entryValue d' res' e = true := by
  simp only [entryValue, Bool.and_eq_true]
  rintro ⟨h1, h2⟩
  exact ⟨localIntersects_mono _ _ _ hle h1, childrenOk_mono e res res' (fun c _ => h c) h2⟩

theorem evalFrom_mono (d d' : SubsetDef) (hle : SubsetDef.le d d') :
    ∀ (es : List Entry) (res res' : List Bool), res.length = res'.length →
      (∀ i, res.getD i false = true → res'.getD i false = true) →
      ∀ i, (evalFrom d res es).getD i false = true → (evalFrom d' res' es).getD i false = true := by
  intro es
  induction es with
  | nil => intro res res' _ h i; simpa [evalFrom] using h i
  | cons e es ih =>
    intro res res' hlen h i
    simp only [evalFrom]
    apply ih
    · simp [hlen]
    · intro j
      rw [getD_snoc, getD_snoc, ← hlen]
      split
      · exact h j
      · split
        · exact entryValue_mono e d d' res res' hle h
        · simp

theorem evalAll_mono (es : List Entry) (d d' : SubsetDef) (hle : SubsetDef.le d d') (i : Nat) :
    (evalAll es d).getD i false = true → (evalAll es d').getD i false = true :=
  evalFrom_mono d d' hle es [] [] rfl (fun _ h => h) i

theorem evalFrom_append (d : SubsetDef) : ∀ (es1 es2 : List Entry) (res : List Bool),
    evalFrom d res (es1 ++ es2) = evalFrom d (evalFrom d res es1) es2 := by
  intro es1
  induction es1 with
  | nil => intro es2 res; rfl
  | cons e es ih => intro es2 res; simp only [List.cons_append, evalFrom]; exact ih _ _

theorem evalFrom_prefix (d : SubsetDef) : ∀ (es : List Entry) (res : List Bool),
    ∃ t, evalFrom d res es = res ++ t ∧ t.length = es.length := by
  intro es
  induction es with
  | nil => intro res; exact ⟨[], by simp [evalFrom]⟩
  | cons e es ih =>
    intro res
    obtain ⟨t, ht, hl⟩ := ih (res ++ [entryValue d res e])
    refine ⟨entryValue d res e :: t, ?_, by simp [hl]⟩
    simp only [evalFrom, ht, List.append_assoc, List.singleton_append]

theorem evalAll_length (es : List Entry) (d : SubsetDef) : (evalAll es d).length = es.length := by
  obtain ⟨t, ht, hl⟩ := evalFrom_prefix d es []
  simp [evalAll, ht, hl]

theorem evalAll_getElem (es : List Entry) (d : SubsetDef) (i : Nat) (h : i < es.length) :
    (evalAll es d)[i]? = some (entryValue d ((evalAll es d).take i) es[i]) := by
  have hsplit : es = es.take i ++ (es[i] :: es.drop (i + 1)) := by
    rw [List.getElem_cons_drop, List.take_append_drop]
  have hlen : (evalAll (es.take i) d).length = i := by
    rw [evalAll_length, List.length_take]; omega
  have hR : evalAll es d =
      evalFrom d (evalAll (es.take i) d ++ [entryValue d (evalAll (es.take i) d) es[i]])
        (es.drop (i + 1)) := by
    conv => lhs; rw [hsplit]
    simp only [evalAll, evalFrom_append, evalFrom]
  obtain ⟨t, ht, _⟩ := evalFrom_prefix d (es.drop (i + 1))
    (evalAll (es.take i) d ++ [entryValue d (evalAll (es.take i) d) es[i]])
  rw [hR, ht]
  have htake : ((evalAll (es.take i) d ++ [entryValue d (evalAll (es.take i) d) es[i]]) ++ t).take i
      = evalAll (es.take i) d := by
    rw [List.append_assoc, List.take_left' hlen]
  rw [htake, List.append_assoc, List.getElem?_append_right (by omega)]
  simp [hlen]

/-- entries whose children all have smaller indices (what `decode_format2_entry` enforces:
"Child index must refer to only prior entries.") -/
def WF (es : List Entry) : Prop :=
  ∀ i (h : i < es.length), ∀ c, c ∈ es[i].children → c < i

theorem childrenOk_take (e : Entry) (res : List Bool) (i : Nat) (h : ∀ c, c ∈ e.children → c < i) :
    childrenOk e (res.take i) = childrenOk e res := by
  have hg : ∀ c, c ∈ e.children → (res.take i).getD c false = res.getD c false := fun c hc => by
    simp [List.getD_eq_getElem?_getD, h c hc]
  exact Bool.eq_iff_iff.2 ⟨childrenOk_mono e _ _ fun c hc hv => hg c hc ▸ hv,
    childrenOk_mono e _ _ fun c hc hv => (hg c hc).symm ▸ hv⟩

theorem evalAll_fix (es : List Entry) (d : SubsetDef) (wf : WF es) (i : Nat) (h : i < es.length) :
    (evalAll es d).getD i false =
      (localIntersects es[i].sd d && childrenOk es[i] (evalAll es d)) := by
  rw [List.getD_eq_getElem?_getD, evalAll_getElem es d i h]
  simp only [Option.getD_some, entryValue]
  rw [childrenOk_take _ _ _ (wf i h)]

theorem evalAll_oob (es : List Entry) (d : SubsetDef) (i : Nat) (h : es.length ≤ i) :
    (evalAll es d).getD i false = false := by
  rw [List.getD_eq_getElem?_getD, List.getElem?_eq_none (by rw [evalAll_length]; exact h)]
  rfl

/-- the entry at index `i` matches the definition `d` (declarative; least relation closed under
the three rules) -/
inductive SpecMatch (es : List Entry) (d : SubsetDef) : Nat → Prop
  | leaf {i : Nat} {e : Entry} : es[i]? = some e → SpecLocal e.sd d → e.children = [] →
      SpecMatch es d i
  | conj {i : Nat} {e : Entry} : es[i]? = some e → SpecLocal e.sd d → e.conj = true →
      (∀ c, c ∈ e.children → SpecMatch es d c) → SpecMatch es d i
  | disj {i : Nat} {e : Entry} (c : Nat) : es[i]? = some e → SpecLocal e.sd d → e.conj = false →
      c ∈ e.children → SpecMatch es d c → SpecMatch es d i

theorem evalAll_of_spec (es : List Entry) (d : SubsetDef) (wf : WF es) (i : Nat)
    (h : SpecMatch es d i) : (evalAll es d).getD i false = true := by
  induction h with
  | @leaf i e he hl hc =>
    obtain ⟨hi, rfl⟩ := List.getElem?_eq_some_iff.1 he
    rw [evalAll_fix es d wf i hi, (localIntersects_iff_spec _ _).2 hl]
    simp [childrenOk, hc]
  | @conj i e he hl hc _ ih =>
    obtain ⟨hi, rfl⟩ := List.getElem?_eq_some_iff.1 he
    rw [evalAll_fix es d wf i hi, (localIntersects_iff_spec _ _).2 hl]
    simp only [childrenOk, hc, Bool.true_and]
    split
    · rfl
    · simpa [List.all_eq_true] using ih
  | @disj i e c he hl hc hmem _ ih =>
    obtain ⟨hi, rfl⟩ := List.getElem?_eq_some_iff.1 he
    rw [evalAll_fix es d wf i hi, (localIntersects_iff_spec _ _).2 hl]
    simp only [childrenOk, hc, Bool.true_and]
    split
    · rfl
    · simp only [Bool.false_eq_true, ↓reduceIte, List.any_eq_true]
      exact ⟨c, hmem, ih⟩

theorem spec_of_evalAll (es : List Entry) (d : SubsetDef) (wf : WF es) :
    ∀ i, (evalAll es d).getD i false = true → SpecMatch es d i := by
  intro i
  induction i using Nat.strongRecOn with
  | _ i ih =>
    intro h
    by_cases hi : i < es.length
    · rw [evalAll_fix es d wf i hi, Bool.and_eq_true] at h
      obtain ⟨hl, hc⟩ := h
      have hl' := (localIntersects_iff_spec _ _).1 hl
      have he : es[i]? = some es[i] := List.getElem?_eq_getElem hi
      unfold childrenOk at hc
      split at hc
      · next hemp =>
        exact .leaf he hl' (by simpa using hemp)
      · split at hc
        · next hcj =>
          rw [List.all_eq_true] at hc
          exact .conj he hl' hcj (fun c hmem => ih c (wf i hi c hmem) (hc c hmem))
        · next hcj =>
          rw [List.any_eq_true] at hc
          obtain ⟨c, hmem, hv⟩ := hc
          exact .disj c he hl' (by simpa using hcj) hmem (ih c (wf i hi c hmem) hv)
    · rw [evalAll_oob es d i (by omega)] at h
      exact absurd h (by simp)

theorem evalAll_iff_spec (es : List Entry) (d : SubsetDef) (wf : WF es) (i : Nat) :
    (evalAll es d).getD i false = true ↔ SpecMatch es d i :=
  ⟨spec_of_evalAll es d wf i, evalAll_of_spec es d wf i⟩

theorem mem_offeredIdx (es : List Entry) (d : SubsetDef) (i : Nat) :
    i ∈ offeredIdx es d ↔
      i < es.length ∧ (es.getD i default).ignored = false ∧ (evalAll es d).getD i false = true := by
  simp [offeredIdx, List.mem_filter, List.mem_range]

theorem decodeEntry_ok {tag : TableTag} {t : F2Table} {enc : PatchFormat} {st st' : DecodeState}
    {raw : RawEntry} (h : decodeEntry tag t enc st raw = .ok st') :
    ∃ e : Entry, st'.entries = st.entries ++ [e] ∧ st'.startByte = st.startByte + raw.size ∧
      (∀ c, c ∈ e.children → c < st.entries.length) ∧
      e.uri.table = tag ∧ e.uri.compat = t.compat ∧ e.ignored = raw.isIgnored ∧
      e.uri.bit = st.startByte * 8 + 6 := by
  -- a successful run went through every `←` of the `do` block; only the child-index guard and
  -- the final `pure` matter
  unfold decodeEntry at h
  obtain ⟨hchild, h⟩ := Do.guard_ok h
  obtain ⟨axes, h⟩ := Do.ite_bind_ok h
  obtain ⟨⟨id, cursor⟩, -, h⟩ := Do.bind_ok h
  obtain ⟨fmt, h⟩ := Do.ite_bind_ok h
  obtain ⟨cps, h⟩ := Do.ite_bind_ok h
  cases h
  refine ⟨_, rfl, rfl, fun c hc => ?_, rfl, rfl, rfl, rfl⟩
  cases hk : raw.hasChildren with
  | false => simp [hk] at hc
  | true =>
    simp only [hk, if_true] at hc
    simp only [hk, Bool.true_and, List.any_eq_true, decide_eq_true_eq, not_exists, not_and] at hchild
    exact Nat.lt_of_not_le (hchild c hc)

theorem WF_snoc {es : List Entry} {e : Entry} (h : WF es)
    (he : ∀ c, c ∈ e.children → c < es.length) : WF (es ++ [e]) := by
  intro i hi c hc
  by_cases hlt : i < es.length
  · rw [List.getElem_append_left hlt] at hc
    exact h i hlt c hc
  · have : i = es.length := by simp at hi; omega
    subst this
    simp at hc
    exact he c hc

/-- provenance of decoded uris: table tag and compatibility id of the table they came from -/
def FromTable (tag : TableTag) (compat : Nat) (es : List Entry) : Prop :=
  ∀ e, e ∈ es → e.uri.table = tag ∧ e.uri.compat = compat

theorem decodeEntries_inv (tag : TableTag) (t : F2Table) (enc : PatchFormat) :
    ∀ (raws : List RawEntry) (st st' : DecodeState),
      decodeEntries tag t enc st raws = .ok st' →
      WF st.entries → FromTable tag t.compat st.entries →
      WF st'.entries ∧ FromTable tag t.compat st'.entries := by
  intro raws
  induction raws with
  | nil => intro st st' h; simp only [decodeEntries] at h; cases h; exact fun a b => ⟨a, b⟩
  | cons r rs ih =>
    intro st st' h hwf hfrom
    simp only [decodeEntries] at h
    split at h
    · cases h
    · next st1 h1 =>
      obtain ⟨e, he, -, hch, ht, hc, -⟩ := decodeEntry_ok h1
      apply ih st1 st' h
      · rw [he]; exact WF_snoc hwf hch
      · rw [he]
        intro x hx
        rw [List.mem_append, List.mem_singleton] at hx
        rcases hx with hx | rfl
        · exact hfrom x hx
        · exact ⟨ht, hc⟩

theorem decodeF2_ok {tag : TableTag} {t : F2Table} {es : List Entry} (h : decodeF2 tag t = .ok es) :
    ∃ enc st, decodeEntries tag t enc ⟨[], t.entriesOffset, t.idData⟩ t.raws = .ok st ∧ st.entries = es := by
  unfold decodeF2 at h
  split at h
  · cases h
  · split at h
    · cases h
    · next enc _ =>
      split at h
      · cases h
      · next st hst => cases h; exact ⟨enc, st, hst, rfl⟩

theorem decodeF2_inv {tag : TableTag} {t : F2Table} {es : List Entry} (h : decodeF2 tag t = .ok es) :
    WF es ∧ FromTable tag t.compat es := by
  obtain ⟨enc, st, hst, rfl⟩ := decodeF2_ok h
  exact decodeEntries_inv tag t enc t.raws _ st hst (fun i hi => by simp at hi) (fun e he => by simp at he)

/-- an offered uri without the recorded intersection size -/
def PatchUri.strip (u : PatchUri) : PatchUri := { u with info := IntersectionInfo.zero }

theorem offeredUri_strip (d : SubsetDef) (i : Nat) (e : Entry) : (offeredUri d i e).strip = e.uri.strip := by
  unfold offeredUri; split <;> rfl

theorem intersectF2_ok {tag : TableTag} {t : F2Table} {d : SubsetDef} {us : List PatchUri} :
    intersectF2 tag t d = .ok us ↔ ∃ es, decodeF2 tag t = .ok es ∧ us = offeredF2 es d := by
  rw [intersectF2]
  cases decodeF2 tag t with
  | error e => exact ⟨nofun, fun ⟨_, h, _⟩ => nomatch h⟩
  | ok es => exact ⟨fun h => ⟨es, rfl, by cases h; rfl⟩, fun ⟨_, h, e⟩ => by cases h; rw [e]⟩

theorem intersectingPatches_ok {ift iftx : MapTable} {d : SubsetDef} {us : List PatchUri} :
    intersectingPatches ift iftx d = .ok us ↔
      ∃ a b, intersectTable .ift d ift = .ok a ∧ intersectTable .iftx d iftx = .ok b ∧ us = a ++ b := by
  rw [intersectingPatches]
  cases intersectTable .ift d ift with
  | error e => exact ⟨nofun, fun ⟨_, _, h, _⟩ => nomatch h⟩
  | ok a =>
    cases intersectTable .iftx d iftx with
    | error e => exact ⟨nofun, fun ⟨_, _, _, h, _⟩ => nomatch h⟩
    | ok b =>
      exact ⟨fun h => ⟨a, b, rfl, rfl, by cases h; rfl⟩, fun ⟨_, _, h1, h2, e⟩ => by cases h1; cases h2; rw [e]⟩

end FontVerif.PatchMap
