/-
Helper lemmas for C16: `MarkToLigBuilder` (component records, coverage order, what `build` reads back).
-/
import FontVerif.Model.LayoutMarkLig
import FontVerif.Lemmas.LayoutMarkBuilder
namespace FontVerif.Layout

/-- the anchor a component record holds for class id `id`: the last entry of the component's map
whose class name has that id -/
def compAnchor {A : Type} (classes : List (Nat × Nat)) (comp : List (Nat × A)) (id : Nat) : Option A :=
  comp.reverse.findSome? (fun e => if classId classes e.1 = some id then some e.2 else none)

theorem componentRecord_get {A : Type} (classes : List (Nat × Nat)) (n : Nat) (comp : List (Nat × A))
    (row : List (Option A)) (h : componentRecord classes n comp = some row) (id : Nat) :
    (match row[id]? with
     | some (some a) => some a
     | _ => none) = compAnchor classes comp id := by
  -- the record was built, so every class name has an id inside the record
  have hall : ∀ e ∈ comp, ∃ i, classId classes e.1 = some i ∧ i < n := fun e he => by
    obtain ⟨i, w, hs, hi⟩ := setMany_some_all _ _ _ _ h e he
    obtain ⟨i', hi', hiw⟩ := Option.map_eq_some_iff.mp hs
    rw [List.length_replicate] at hi
    exact ⟨i', hi', (Prod.mk.inj hiw).1 ▸ hi⟩
  obtain ⟨row', hr, hlen, hc⟩ := anchorRow (fun e : Nat × A => classId classes e.1) (·.2) comp n hall
  rw [show componentRecord classes n comp = some row' from hr] at h
  cases h
  unfold compAnchor
  by_cases hid : id < n
  · rw [hc id hid]
    cases comp.reverse.findSome? (fun e => if classId classes e.1 = some id then some e.2 else none) <;> rfl
  · rw [List.getElem?_eq_none (by omega)]
    refine (List.findSome?_eq_none_iff.mpr fun e he => if_neg fun hce => hid ?_).symm
    obtain ⟨i, hi, hin⟩ := hall e (List.mem_reverse.mp he)
    rw [hce] at hi
    exact Option.some.inj hi ▸ hin

theorem MarkLig.lookup_eq {A : Type} (t : MarkLig A) (m l c : Nat) :
    t.lookup m l c =
      match covAt t.markCov t.marks m, covAt t.ligCov t.ligs l with
      | some (cls, am), some comps =>
        match comps[c]? with
        | some row =>
          match row[cls]? with
          | some (some al) => some (am, al)
          | _ => none
        | none => none
      | _, _ => none := by
  unfold MarkLig.lookup covAt
  cases t.markCov.get m with
  | none => rfl
  | some mi =>
    cases t.ligCov.get l with
    | none => simp only [Option.bind_some, Option.bind_none]; cases t.marks[mi]? <;> rfl
    | some li => rfl

structure MlInv {A : Type} (b : MarkToLig A) : Prop where
  mwf : BmWF b.marks.glyphs
  lwf : BmWF b.ligatures

def MlOp.glyph {A : Type} : MlOp A → Nat
  | .mark g _ _ => g
  | .lig g _ _ => g
  | .direct g _ => g

theorem mlInv_step {A : Type} (b : MarkToLig A) (h : MlInv b) (op : MlOp A) (hg : op.glyph < 65536)
    (b' : MarkToLig A) (hb : b.apply op = some b') : MlInv b' := by
  cases op with
  | mark g n a =>
    rw [MarkToLig.apply, Option.some.injEq] at hb
    subst hb
    refine ⟨?_, h.lwf⟩
    show BmWF (b.marks.insert g n a).1.glyphs
    rw [markList_insert_eq]
    exact h.mwf.insert _ hg
  | lig g n cs =>
    simp only [MarkToLig.apply, MarkToLig.insertLigature] at hb
    split at hb
    · cases hb
    · cases hb; exact ⟨h.mwf, h.lwf.insert _ hg⟩
  | direct g cs =>
    rw [MarkToLig.apply, Option.some.injEq] at hb
    subst hb
    exact ⟨h.mwf, h.lwf.insert _ hg⟩

theorem mlInv_ofOps {A : Type} : ∀ (ops : List (MlOp A)) (b : MarkToLig A), MlInv b →
    (∀ op ∈ ops, op.glyph < 65536) → ∀ b', MarkToLig.ofOps ops b = some b' → MlInv b' := by
  intro ops
  induction ops with
  | nil => intro b h _ b' hb; simp only [MarkToLig.ofOps, Option.some.injEq] at hb; subst hb; exact h
  | cons op ops ih =>
    intro b h hg b' hb
    simp only [MarkToLig.ofOps] at hb
    cases ha : b.apply op with
    | none => rw [ha] at hb; cases hb
    | some b1 =>
      rw [ha] at hb
      exact ih b1 (mlInv_step b h op (hg op (List.mem_cons_self ..)) b1 ha)
        (fun o ho => hg o (List.mem_cons_of_mem _ ho)) b' hb

theorem mlInv_empty {A : Type} : MlInv (MarkToLig.empty : MarkToLig A) :=
  ⟨BmWF.nil, BmWF.nil⟩

/-- `build` on ANY state whose two maps are well-formed, whenever it succeeds: the subtable reads back
as the state -/
theorem mlInv_build_lookup {A : Type} (b : MarkToLig A) (inv : MlInv b) (t : MarkLig A)
    (ht : b.build = some t) :
    t.classCount = b.marks.classes.length ∧
    ∀ m l c, t.lookup m l c =
      match bmGet m b.marks.glyphs, bmGet l b.ligatures with
      | some (id, am), some comps =>
        (comps[c]?).bind (fun comp => (compAnchor b.marks.classes comp id).map (fun al => (am, al)))
      | _, _ => none := by
  unfold MarkToLig.build at ht
  simp only at ht
  cases hmo : mapOpt (fun e : Nat × List (List (Nat × A)) =>
      mapOpt (componentRecord b.marks.classes b.marks.classes.length) e.2) b.ligatures with
  | none => rw [hmo] at ht; cases ht
  | some ligs =>
    rw [hmo] at ht
    cases ht
    refine ⟨rfl, fun m l c => ?_⟩
    -- both coverage-indexed arrays read back as the builder's maps
    rw [MarkLig.lookup_eq]
    dsimp only
    rw [covAt_buildCoverage _ inv.mwf,
      covAt_build _ inv.lwf (mapOpt (componentRecord b.marks.classes b.marks.classes.length)) hmo]
    cases bmGet m b.marks.glyphs with
    | none => rfl
    | some p =>
      cases hgl : bmGet l b.ligatures with
      | none => rfl
      | some comps =>
        -- the component records of this ligature were all built, each from its component
        have hs := (mapOpt_eq_some _ _ _ hmo).1 _ (mem_of_lookup_eq_some ((bmGet_eq_lookup l _).symm.trans hgl))
        rw [Option.bind_some]
        cases hrecs : mapOpt (componentRecord b.marks.classes b.marks.classes.length) comps with
        | none => rw [hrecs] at hs; cases hs
        | some recs =>
          obtain ⟨hcall, hcget⟩ := mapOpt_eq_some _ _ _ hrecs
          simp only [hcget c]
          cases hcc : comps[c]? with
          | none => rfl
          | some comp =>
            rw [Option.bind_some, Option.bind_some]
            cases hrow : componentRecord b.marks.classes b.marks.classes.length comp with
            | none => have := hcall comp (List.mem_of_getElem? hcc); rw [hrow] at this; cases this
            | some row =>
              rw [← componentRecord_get _ _ comp row hrow p.1]
              dsimp only
              cases row[p.1]? with
              | none => rfl
              | some o => cases o <;> rfl

end FontVerif.Layout
