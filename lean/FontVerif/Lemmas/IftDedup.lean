/-
C18 — `dedup_gid_replacement_data`: first patch wins, result sorted by gid; reading a patch payload
(`GlyphPatches::read`) and the glyph data of one patch (`GlyphDataIterator`).

Spec vocabulary:
  `patchData tag gp`        the (gid, data) list patch `gp` carries for table `tag` ([] if it does not name it)
  `firstWins tag gps g`     data of the FIRST patch in `gps` that lists gid `g` for `tag`
-/
import FontVerif.Lemmas.IftSplice
import FontVerif.Lemmas.SortedMap
namespace FontVerif.Ift

theorem beArray_length (w n : Nat) (b : Bytes) : (beArray w n b).length = n := by
  induction n generalizing b with
  | zero => rfl
  | succ n ih => simp [beArray, ih]

/-- a successful `GlyphPatches::read`: the three arrays fit the payload (`cursor.finish`) and have the lengths
the counts announce -/
theorem gpRead_ok (raw : Bytes) (wide : Bool) (gp : GlyphPatches) (h : gpRead raw wide = .ok gp) :
    5 + gp.glyphCount * (if wide then 3 else 2) + gp.tables.length * 4
        + (gp.glyphCount * gp.tables.length + 1) * 4 ≤ raw.length ∧
    gp.gids.length = gp.glyphCount ∧ gp.offsets.length = gp.glyphCount * gp.tables.length + 1 ∧
    gp.raw = raw := by
  unfold gpRead at h
  cases h4 : beAt 4 raw 0 with
  | none => rw [h4] at h; cases h
  | some gc =>
    cases h1 : beAt 1 raw 4 with
    | none => rw [h4, h1] at h; cases h
    | some tc =>
      rw [h4, h1] at h
      simp only at h
      by_cases hle : 5 + gc * (if wide then 3 else 2) + tc * 4 + (gc * tc + 1) * 4 ≤ raw.length
      · rw [if_pos hle] at h
        cases h
        simp only [beArray_length, and_true]
        exact hle
      · rw [if_neg hle] at h; cases h

theorem glyphData_ok (raw : Bytes) (prev : Option Nat) (items : List (Nat × Nat × Nat))
    (r : List (Nat × Bytes)) (h : glyphData raw prev items = .ok r) :
    r = items.map (fun x => (x.1, sliceLen raw x.2.1 (x.2.2 - x.2.1))) ∧
    (∀ x ∈ items, 0 < x.2.1 ∧ x.2.1 ≤ x.2.2 ∧ x.2.2 ≤ raw.length) ∧
    (∀ p, prev = some p → ∀ x ∈ items, p < x.1) ∧
    items.Pairwise (fun x y => x.1 < y.1) := by
  induction items generalizing prev r with
  | nil => simp only [glyphData] at h; cases h; simp
  | cons x xs ih =>
    obtain ⟨g, s, e⟩ := x
    rw [glyphData] at h
    -- a successful step passed the five checks of `GlyphDataIterator::next`
    obtain ⟨c1, h⟩ := Do.error_else_ok h
    obtain ⟨c2, h⟩ := Do.error_else_ok h
    obtain ⟨c3, h⟩ := Do.error_else_ok h
    obtain ⟨c4, h⟩ := Do.error_else_ok h
    obtain ⟨c5, h⟩ := Do.error_else_ok h
    cases hr : glyphData raw (some g) xs with
    | error x => rw [hr] at h; cases h
    | ok r' =>
      rw [hr] at h
      cases h
      obtain ⟨e1, e2, e3, e4⟩ := ih (some g) r' hr
      refine ⟨by simp [e1], ?_, ?_, ?_⟩
      · intro y hy
        rcases List.mem_cons.mp hy with e | e
        · subst e; simp only; omega
        · exact e2 y e
      · intro p hp y hy
        subst hp
        have hpg : p < g := by simpa [notAfter] using c1
        rcases List.mem_cons.mp hy with e | e
        · subst e; exact hpg
        · exact Nat.lt_trans hpg (e3 g rfl y e)
      · exact List.pairwise_cons.mpr ⟨fun y hy => e3 g rfl y hy, e4⟩

theorem glyphData_sorted (raw : Bytes) (prev : Option Nat) (items : List (Nat × Nat × Nat))
    (r : List (Nat × Bytes)) (h : glyphData raw prev items = .ok r) : SortedGids r := by
  obtain ⟨e1, _, _, e4⟩ := glyphData_ok raw prev items r h
  subst e1
  unfold SortedGids
  rw [List.pairwise_map]
  exact e4

theorem indexOfTag_lt (tag : Tag) (tables : List Tag) (i ti : Nat) (h : indexOfTag tag tables i = some ti) :
    i ≤ ti ∧ ti < i + tables.length := by
  induction tables generalizing i with
  | nil => cases h
  | cons x xs ih =>
    simp only [indexOfTag] at h
    split at h
    · simp only [Option.some.injEq] at h; subst h; simp
    · have := ih (i + 1) h; simp only [List.length_cons]; omega

theorem indexOfTag_some_of_mem (tag : Tag) (tables : List Tag) (i : Nat) (h : tag ∈ tables) :
    ∃ ti, indexOfTag tag tables i = some ti := by
  induction tables generalizing i with
  | nil => cases h
  | cons x xs ih =>
    simp only [indexOfTag]
    by_cases e : x = tag
    · exact ⟨i, by simp [e]⟩
    · simp only [e, if_false]
      rcases List.mem_cons.mp h with e' | e'
      · exact absurd e'.symm e
      · exact ih _ e'

theorem indexOfTag_none (tag : Tag) (tables : List Tag) (i : Nat) (h : tag ∉ tables) :
    indexOfTag tag tables i = none := by
  induction tables generalizing i with
  | nil => rfl
  | cons x xs ih =>
    simp only [List.mem_cons, not_or] at h
    simp only [indexOfTag, if_neg (Ne.symm h.1)]
    exact ih _ h.2

/-- the (gid, start, end) triples `glyph_data_for_table(ti)` iterates over -/
def tableItems (gp : GlyphPatches) (ti : Nat) : List (Nat × Nat × Nat) :=
  List.zip gp.gids (List.zip (gp.offsets.drop (ti * gp.glyphCount)) ((gp.offsets.drop (ti * gp.glyphCount)).drop 1))

theorem glyphDataForTable_eq (gp : GlyphPatches) (ti : Nat) :
    glyphDataForTable gp ti = glyphData gp.raw none (tableItems gp ti) := rfl

theorem tableItems_spec (raw : Bytes) (wide : Bool) (gp : GlyphPatches) (hr : gpRead raw wide = .ok gp)
    (ti : Nat) (hti : ti < gp.tables.length) :
    (tableItems gp ti).length = gp.glyphCount ∧ (tableItems gp ti).map (·.1) = gp.gids ∧
    ∀ j (hj : j < (tableItems gp ti).length),
      (tableItems gp ti)[j].2.1 = gp.offsets.getD (ti * gp.glyphCount + j) 0 ∧
      (tableItems gp ti)[j].2.2 = gp.offsets.getD (ti * gp.glyphCount + j + 1) 0 := by
  obtain ⟨_, l1, l2, _⟩ := gpRead_ok raw wide gp hr
  have hmul : (ti + 1) * gp.glyphCount ≤ gp.tables.length * gp.glyphCount :=
    Nat.mul_le_mul_right _ hti
  have hoff : ti * gp.glyphCount + gp.glyphCount + 1 ≤ gp.offsets.length := by
    rw [l2, Nat.mul_comm gp.glyphCount]; rw [Nat.succ_mul] at hmul; omega
  have hz : (List.zip (gp.offsets.drop (ti * gp.glyphCount)) ((gp.offsets.drop (ti * gp.glyphCount)).drop 1)).length
      ≥ gp.glyphCount := by
    simp only [List.length_zip, List.length_drop]; omega
  refine ⟨?_, ?_, ?_⟩
  · simp only [tableItems, List.length_zip] at hz ⊢; omega
  · unfold tableItems
    exact List.map_fst_zip (by rw [l1]; exact hz)
  · intro j hj
    have hjl : j < gp.glyphCount := by
      simp only [tableItems, List.length_zip] at hj; omega
    simp only [tableItems, List.getElem_zip, List.getElem_drop, List.getD_eq_getElem?_getD]
    constructor
    · rw [List.getElem?_eq_getElem (by omega)]; rfl
    · rw [List.getElem?_eq_getElem (by omega)]
      simp only [Option.getD_some]
      congr 1; omega

theorem sorted_tail {x : Nat × Bytes} {t : List (Nat × Bytes)} (hs : SortedGids (x :: t)) : SortedGids t :=
  (List.pairwise_cons.mp hs).2

theorem sorted_lookup_below (k : Nat) (v : Bytes) (t : List (Nat × Bytes))
    (hs : SortedGids ((k, v) :: t)) (j : Nat) (hj : j ≤ k) : t.lookup j = none :=
  List.lookup_eq_none_iff.mpr fun p hp =>
    bne_iff_ne.mpr (Nat.ne_of_lt (Nat.lt_of_le_of_lt hj ((List.pairwise_cons.mp hs).1 p hp)))

theorem sortedGids_iff (l : List (Nat × Bytes)) : SortedGids l ↔ (l.map (·.1)).Pairwise (· < ·) := by
  rw [SortedGids, List.pairwise_map]

theorem lookup_isSome_of_mem (l : List (Nat × Bytes)) (k : Nat) (v : Bytes) (h : (k, v) ∈ l) :
    ∃ v', l.lookup k = some v' :=
  Option.isSome_iff_exists.mp (List.lookup_isSome_iff.mpr ⟨(k, v), h, beq_self_eq_true k⟩)

theorem sorted_lookup_ext (l1 l2 : List (Nat × Bytes)) (h1 : SortedGids l1) (h2 : SortedGids l2)
    (h : ∀ k, l1.lookup k = l2.lookup k) : l1 = l2 := by
  have key : ∀ l : List (Nat × Bytes), SortedGids l → ∀ a : Nat × Bytes, a ∈ l ↔ l.lookup a.1 = some a.2 :=
    fun l hl a => (lookup_eq_some_iff_mem (sorted_nodup ((sortedGids_iff l).mp hl)) a.1 a.2).symm
  exact pairwise_key_ext (fun x : Nat × Bytes => x.1) h1 h2 fun a => by rw [key l1 h1, key l2 h2, h]

theorem insertFirst_keys (g : Nat) (d : Bytes) (l : List (Nat × Bytes)) :
    (insertFirst g d l).map (·.1) = SSet.insert g (l.map (·.1)) := by
  induction l with
  | nil => rfl
  | cons hd tl ih =>
    obtain ⟨g', d'⟩ := hd
    simp only [insertFirst, List.map_cons, SSet.insert_cons]
    by_cases h1 : g < g'
    · rw [if_pos h1, if_pos h1]; rfl
    · rw [if_neg h1, if_neg h1]
      by_cases h2 : g = g'
      · rw [if_pos h2, if_pos h2]; rfl
      · rw [if_neg h2, if_neg h2, List.map_cons, ih]

theorem insertFirst_sorted (g : Nat) (d : Bytes) (l : List (Nat × Bytes)) (hs : SortedGids l) :
    SortedGids (insertFirst g d l) := by
  rw [sortedGids_iff, insertFirst_keys]
  exact SSet.insert_sorted g ((sortedGids_iff l).mp hs)

theorem insertFirst_lookup (g : Nat) (d : Bytes) (l : List (Nat × Bytes)) (hs : SortedGids l) (k : Nat) :
    (insertFirst g d l).lookup k = (l.lookup k).or (if k = g then some d else none) := by
  induction l with
  | nil => rw [insertFirst, SMap.lookup_cons]; rfl
  | cons x xs ih =>
    obtain ⟨g', d'⟩ := x
    rw [insertFirst]
    by_cases h1 : g < g'
    · rw [if_pos h1, SMap.lookup_cons, SMap.lookup_cons k g']
      by_cases hk : k = g
      · subst hk
        rw [if_pos rfl, if_neg (Nat.ne_of_lt h1), sorted_lookup_below g' d' xs hs k (Nat.le_of_lt h1), if_pos rfl]; rfl
      · rw [if_neg hk, if_neg hk, Option.or_none]
    · rw [if_neg h1]
      by_cases h2 : g = g'
      · subst h2
        rw [if_pos rfl, SMap.lookup_cons]
        by_cases hk : k = g
        · rw [if_pos hk, if_pos hk]; rfl
        · rw [if_neg hk, if_neg hk, Option.or_none]
      · rw [if_neg h2, SMap.lookup_cons, SMap.lookup_cons k g', ih (sorted_tail hs)]
        by_cases hk : k = g'
        · rw [if_pos hk, if_pos hk]; rfl
        · rw [if_neg hk, if_neg hk]

theorem foldl_insertFirst_spec (items acc : List (Nat × Bytes)) (hs : SortedGids acc) :
    SortedGids (items.foldl (fun a gd => insertFirst gd.1 gd.2 a) acc) ∧
    ∀ k, (items.foldl (fun a gd => insertFirst gd.1 gd.2 a) acc).lookup k =
      (acc.lookup k).or (items.lookup k) := by
  induction items generalizing acc with
  | nil => exact ⟨hs, fun k => by simp [List.lookup]⟩
  | cons x xs ih =>
    obtain ⟨g, d⟩ := x
    have s1 := insertFirst_sorted g d acc hs
    have l1 := insertFirst_lookup g d acc hs
    obtain ⟨s2, l2⟩ := ih (insertFirst g d acc) s1
    refine ⟨s2, ?_⟩
    intro k
    simp only [List.foldl_cons]
    rw [l2 k, l1 k]
    by_cases hk : k = g
    · subst hk; cases acc.lookup k <;> simp [List.lookup]
    · have hne : (k == g) = false := by simp only [beq_eq_false_iff_ne, ne_eq]; exact hk
      cases acc.lookup k <;> simp [List.lookup, hne, hk]

/-- what patch `gp` carries for table `tag` (empty if it does not name the table or is malformed) -/
def patchData (tag : Tag) (gp : GlyphPatches) : List (Nat × Bytes) :=
  match indexOfTag tag gp.tables 0 with
  | none => []
  | some ti =>
    match glyphDataForTable gp ti with
    | .ok items => items
    | .error _ => []

/-- the per-patch reads `dedup_gid_replacement_data` performs all succeed -/
def PatchReadable (tag : Tag) (gp : GlyphPatches) : Prop :=
  ∀ ti, indexOfTag tag gp.tables 0 = some ti → ∃ items, glyphDataForTable gp ti = .ok items

/-- data of the first patch (in application order) that lists `g` for `tag` -/
def firstWins (tag : Tag) (gps : List GlyphPatches) (g : Nat) : Option Bytes :=
  (gps.flatMap (patchData tag)).lookup g

/-- `dedupFrom` in closed form: it succeeds exactly when every patch is readable, and then it has
inserted the patches' data for `tag`, in application order, into `acc` -/
theorem dedupFrom_ok_iff (tag : Tag) (gps : List GlyphPatches) (acc r : List (Nat × Bytes)) :
    dedupFrom tag gps acc = .ok r ↔ (∀ gp ∈ gps, PatchReadable tag gp) ∧
      r = (gps.flatMap (patchData tag)).foldl (fun a gd => insertFirst gd.1 gd.2 a) acc := by
  induction gps generalizing acc with
  | nil => simp [dedupFrom, eq_comm]
  | cons gp rest ih =>
    rw [List.forall_mem_cons, List.flatMap_cons, List.foldl_append, and_assoc, ← ih, dedupFrom]
    unfold PatchReadable patchData
    cases indexOfTag tag gp.tables 0 with
    | none => simp
    | some ti => cases hd : glyphDataForTable gp ti <;> simp [hd]

theorem dedup_spec (tag : Tag) (gps : List GlyphPatches) (r : List (Nat × Bytes))
    (h : dedup tag gps = .ok r) :
    SortedGids r ∧ (∀ gp ∈ gps, PatchReadable tag gp) ∧ ∀ k, r.lookup k = firstWins tag gps k := by
  obtain ⟨pr, rfl⟩ := (dedupFrom_ok_iff tag gps [] r).1 h
  obtain ⟨s, l⟩ := foldl_insertFirst_spec (gps.flatMap (patchData tag)) [] (by simp [SortedGids])
  exact ⟨s, pr, fun k => by rw [l k]; rfl⟩

theorem dedupFrom_ok_of_readable (tag : Tag) (gps : List GlyphPatches) (acc : List (Nat × Bytes))
    (h : ∀ gp ∈ gps, PatchReadable tag gp) : ∃ r, dedupFrom tag gps acc = .ok r :=
  ⟨_, (dedupFrom_ok_iff tag gps acc _).2 ⟨h, rfl⟩⟩

theorem chunkFor_firstWins (tag : Tag) (gps : List GlyphPatches) (repl : List (Nat × Bytes))
    (h : dedup tag gps = .ok repl) (a : OffsetArray) (t : OffsetType) (g : Nat) :
    chunkFor a t repl g =
      match firstWins tag gps g with
      | some d => padTo t d
      | none => glyphAt a.offsets a.data g := by
  unfold chunkFor
  rw [(dedup_spec tag gps repl h).2.2 g]
  cases firstWins tag gps g <;> rfl

theorem firstWins_le (tag : Tag) (gps : List GlyphPatches) (repl : List (Nat × Bytes))
    (h : dedup tag gps = .ok repl) (m : Nat) (hle : ∀ x ∈ repl, x.1 ≤ m) (g : Nat) (d : Bytes)
    (hfw : firstWins tag gps g = some d) : g ≤ m := by
  rw [← (dedup_spec tag gps repl h).2.2 g] at hfw
  exact hle _ (mem_of_lookup_eq_some hfw)

theorem dedup_items_ok (tag : Tag) (gps : List GlyphPatches) (repl : List (Nat × Bytes))
    (h : dedup tag gps = .ok repl) (gp : GlyphPatches) (hgp : gp ∈ gps) (ti : Nat)
    (hti : indexOfTag tag gp.tables 0 = some ti) :
    (tableItems gp ti).Pairwise (fun x y => x.1 < y.1) ∧
    ∀ x ∈ tableItems gp ti, 0 < x.2.1 ∧ x.2.1 ≤ x.2.2 ∧ x.2.2 ≤ gp.raw.length := by
  obtain ⟨_, pr, _⟩ := dedup_spec tag gps repl h
  obtain ⟨items, hi⟩ := pr gp hgp ti hti
  rw [glyphDataForTable_eq] at hi
  obtain ⟨_, e2, _, e4⟩ := glyphData_ok _ _ _ _ hi
  exact ⟨e4, e2⟩

theorem dedupFrom_skip (tag : Tag) (gps : List GlyphPatches) (acc : List (Nat × Bytes))
    (h : ¬ ∃ gp ∈ gps, tag ∈ gp.tables) : dedupFrom tag gps acc = .ok acc := by
  induction gps generalizing acc with
  | nil => rfl
  | cons gp rest ih =>
    have hn : tag ∉ gp.tables := fun hm => h ⟨gp, List.mem_cons_self, hm⟩
    simp only [dedupFrom, indexOfTag_none tag gp.tables 0 hn]
    exact ih acc (fun ⟨x, hx, hxt⟩ => h ⟨x, List.mem_cons_of_mem _ hx, hxt⟩)

theorem dedupFrom_append (tag : Tag) (g1 g2 : List GlyphPatches) (acc : List (Nat × Bytes)) :
    dedupFrom tag (g1 ++ g2) acc =
      match dedupFrom tag g1 acc with
      | .error e => .error e
      | .ok acc' => dedupFrom tag g2 acc' := by
  induction g1 generalizing acc with
  | nil => rfl
  | cons gp rest ih =>
    simp only [List.cons_append, dedupFrom]
    split
    · exact ih acc
    · split
      · rfl
      · exact ih _

theorem dedup_append_left (tag : Tag) (g1 g2 : List GlyphPatches) (h : ¬ ∃ gp ∈ g2, tag ∈ gp.tables) :
    dedup tag (g1 ++ g2) = dedup tag g1 := by
  unfold dedup
  rw [dedupFrom_append]
  cases hd : dedupFrom tag g1 [] with
  | error e => rfl
  | ok acc => exact dedupFrom_skip tag g2 acc h

theorem dedup_append_right (tag : Tag) (g1 g2 : List GlyphPatches) (h : ¬ ∃ gp ∈ g1, tag ∈ gp.tables) :
    dedup tag (g1 ++ g2) = dedup tag g2 := by
  unfold dedup
  rw [dedupFrom_append, dedupFrom_skip tag g1 [] h]

end FontVerif.Ift
