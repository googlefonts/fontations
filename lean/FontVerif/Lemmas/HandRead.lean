/-
Facts about the byte-access primitives of Model/HandRead.lean that the lemmas of every hand-written reader start
from: the checked / saturating `usize` operations, when a scalar read succeeds and what it returns, sub-slices, the
cursor, `read_array`, and the inversion of a transcribed reader one `?` at a time.
-/
import FontVerif.Model.HandRead
import FontVerif.Lemmas.Base
namespace FontVerif.HandRead

/-! ## checked and saturating `usize` arithmetic

Three forms per checked operation: what `some` says; `some` from a bound on the result; `some` from bounds on the
operands (the last hypothesis is then about numerals: `by decide`). -/

theorem satAdd_eq_min (a b : Nat) : satAdd a b = min (a + b) MAXU := by
  unfold satAdd; split <;> omega

theorem satAdd_ge (a b : Nat) (h : a ≤ MAXU) : a ≤ satAdd a b := by
  rw [satAdd_eq_min]; omega

theorem satAdd_le (a b : Nat) : satAdd a b ≤ MAXU := by
  rw [satAdd_eq_min]; omega

theorem satAdd_exact (a b : Nat) (h : a + b ≤ MAXU) : satAdd a b = a + b := by
  rw [satAdd_eq_min]; omega

theorem satAdd_of_bounds {a b A B : Nat} (ha : a ≤ A) (hb : b ≤ B) (h : A + B ≤ MAXU) : satAdd a b = a + b :=
  if_pos (Nat.le_trans (Nat.add_le_add ha hb) h)

theorem satAdd_gt_iff (k n : Nat) (hk : k ≤ MAXU) : satAdd k (n - k) > n ↔ n < k := by
  rw [satAdd_eq_min]; omega

theorem checkedAdd_eq_some {a b c : Nat} (h : checkedAdd a b = some c) : c = a + b ∧ a + b ≤ MAXU := by
  unfold checkedAdd at h
  by_cases hm : a + b ≤ MAXU
  · rw [if_pos hm] at h; exact ⟨(Option.some.inj h).symm, hm⟩
  · rw [if_neg hm] at h; cases h

theorem checkedMul_eq_some {a b c : Nat} (h : checkedMul a b = some c) : c = a * b ∧ a * b ≤ MAXU := by
  unfold checkedMul at h
  by_cases hm : a * b ≤ MAXU
  · rw [if_pos hm] at h; exact ⟨(Option.some.inj h).symm, hm⟩
  · rw [if_neg hm] at h; cases h

theorem checkedAdd_of_fits {a b : Nat} (h : a + b ≤ MAXU) : checkedAdd a b = some (a + b) := if_pos h

theorem checkedMul_of_fits {a b : Nat} (h : a * b ≤ MAXU) : checkedMul a b = some (a * b) := if_pos h

theorem checkedAdd_of_bounds {a b A B : Nat} (ha : a ≤ A) (hb : b ≤ B) (h : A + B ≤ MAXU) :
    checkedAdd a b = some (a + b) :=
  if_pos (Nat.le_trans (Nat.add_le_add ha hb) h)

theorem checkedMul_of_bounds {a b A B : Nat} (ha : a ≤ A) (hb : b ≤ B) (h : A * B ≤ MAXU) :
    checkedMul a b = some (a * b) :=
  if_pos (Nat.le_trans (Nat.mul_le_mul ha hb) h)

theorem readAt_eq_some {d : List Nat} {off sz v : Nat} (h : readAt d off sz = some v) :
    off + sz ≤ d.length ∧ off + sz ≤ MAXU ∧ v = beAt d off sz := by
  unfold readAt checkedAdd at h
  split at h
  · cases h
  · rename_i e he
    split at he
    · cases he
      split at h
      · cases h; exact ⟨by assumption, by assumption, rfl⟩
      · cases h
    · cases he

theorem readAt_eq_none {d : List Nat} {off sz : Nat} (h : readAt d off sz = none) :
    d.length < off + sz ∨ MAXU < off + sz := by
  unfold readAt checkedAdd at h
  by_cases hm : off + sz ≤ MAXU
  · by_cases hl : off + sz ≤ d.length
    · simp [hm, hl] at h
    · omega
  · omega

theorem readAt_some (d : List Nat) (off sz : Nat) (h : off + sz ≤ d.length) (h2 : off + sz ≤ MAXU) :
    readAt d off sz = some (beAt d off sz) := by
  simp only [readAt, checkedAdd, if_pos h2, if_pos h]

/-- for data that are a slice (`len ≤ usize::MAX`) the scalar only has to end inside -/
theorem readAt_of_le {d : List Nat} {off sz : Nat} (h : off + sz ≤ d.length) (hl : d.length ≤ MAXU) :
    readAt d off sz = some (beAt d off sz) :=
  readAt_some d off sz h (Nat.le_trans h hl)

/-- (a position at `usize::MAX` is past the end of any slice) -/
theorem readAt_u8 (d : List Nat) (p : Nat) (h : p < MAXU ∨ d.length ≤ MAXU) : readAt d p 1 = d[p]? := by
  simp only [readAt, checkedAdd]
  by_cases hm : p + 1 ≤ MAXU
  · rw [if_pos hm]
    dsimp only
    by_cases hl : p + 1 ≤ d.length
    · have hlt : p < d.length := hl
      rw [if_pos hl, List.getElem?_eq_getElem hlt, beAt, List.drop_eq_getElem_cons hlt]
      simp only [beValue, List.take_succ_cons, List.take_zero, List.foldl_cons, List.foldl_nil, Nat.zero_mul, Nat.zero_add]
    · rw [if_neg hl, List.getElem?_eq_none (by omega)]
  · rw [if_neg hm, List.getElem?_eq_none (by omega)]

theorem beAt_lt (d : List Nat) (hb : ∀ b ∈ d, b < 256) (pos n : Nat) : beAt d pos n < 256 ^ n :=
  Nat.lt_of_lt_of_le
    (beValue_lt ((d.drop pos).take n) fun b h => hb b (List.mem_of_mem_drop (List.mem_of_mem_take h)))
    (Nat.pow_le_pow_right (by decide) (List.length_take_le _ _))

theorem beAt2_lt (d : List Nat) (hb : ∀ b ∈ d, b < 256) (pos : Nat) : beAt d pos 2 < 65536 :=
  beAt_lt d hb pos 2

theorem beAt4_lt (d : List Nat) (hb : ∀ b ∈ d, b < 256) (pos : Nat) : beAt d pos 4 < 4294967296 :=
  beAt_lt d hb pos 4

theorem readAt_lt (d : List Nat) (hb : ∀ b ∈ d, b < 256) (off sz v : Nat) (h : readAt d off sz = some v) :
    v < 256 ^ sz := by
  rw [(readAt_eq_some h).2.2]; exact beAt_lt d hb off sz

theorem readAt2_lt (d : List Nat) (hb : ∀ b ∈ d, b < 256) (off v : Nat) (h : readAt d off 2 = some v) :
    v < 65536 :=
  readAt_lt d hb off 2 v h

theorem length_take_drop {α : Type} {l : List α} {start n : Nat} (h : start + n ≤ l.length) :
    ((l.drop start).take n).length = n := by
  rw [List.length_take, List.length_drop]; omega

theorem record_fits {n rec_ ix len : Nat} (h : n * rec_ ≤ len) (hix : ix < n) : ix * rec_ + rec_ ≤ len := by
  have : (ix + 1) * rec_ ≤ n * rec_ := Nat.mul_le_mul_right _ hix
  rw [Nat.succ_mul] at this
  omega

theorem bytes_of_drop {d : List Nat} (h : ∀ b ∈ d, b < 256) (n : Nat) : ∀ b ∈ d.drop n, b < 256 :=
  fun b hb => h b (List.mem_of_mem_drop hb)

theorem bytes_of_take {d : List Nat} (h : ∀ b ∈ d, b < 256) (n : Nat) : ∀ b ∈ d.take n, b < 256 :=
  fun b hb => h b (List.mem_of_mem_take hb)

theorem beAt_drop (d : List Nat) (k p w : Nat) : beAt (d.drop k) p w = beAt d (k + p) w := by
  unfold beAt
  rw [List.drop_drop]

theorem beAt_take (l : List Nat) (L p w : Nat) (h : p + w ≤ L) : beAt (l.take L) p w = beAt l p w := by
  unfold beAt
  rw [List.drop_take, List.take_take, Nat.min_eq_left (by omega)]

theorem advanceBy_eq (c : Cur) (n : Nat) (h : c.pos + n ≤ MAXU) : c.advanceBy n = ⟨c.pos + n⟩ := by
  rw [Cur.advanceBy, satAdd_exact _ _ h]

theorem advanceBy_mono (c : Cur) (n : Nat) (h : c.pos ≤ MAXU) :
    c.pos ≤ (c.advanceBy n).pos ∧ (c.advanceBy n).pos ≤ MAXU :=
  ⟨satAdd_ge _ _ h, satAdd_le _ _⟩

theorem read_some {d : List Nat} {c c' : Cur} {sz v : Nat} (h : c.read d sz = (some v, c')) :
    c.pos + sz ≤ d.length ∧ c.pos + sz ≤ MAXU ∧ c'.pos = c.pos + sz := by
  injection h with h1 h2
  obtain ⟨hl, hm, _⟩ := readAt_eq_some h1
  exact ⟨hl, hm, by rw [← h2]; exact satAdd_exact _ _ hm⟩

/-- after a failed read the (saturating) cursor is still a usize, not behind where it was, and at or past the end of
the data -/
theorem read_cases (d : List Nat) (c : Cur) (sz : Nat) :
    (∃ c', c.read d sz = (none, c') ∧
      (c.pos ≤ MAXU → c.pos ≤ c'.pos ∧ c'.pos ≤ MAXU ∧ (d.length ≤ MAXU → d.length ≤ c'.pos))) ∨
    ∃ v c', c.read d sz = (some v, c') ∧ c.pos + sz ≤ d.length ∧ c.pos + sz ≤ MAXU ∧ c'.pos = c.pos + sz := by
  cases h : readAt d c.pos sz with
  | none =>
    refine .inl ⟨c.advanceBy sz, by rw [Cur.read, h], fun hp => ⟨satAdd_ge _ _ hp, satAdd_le _ _, fun hl => ?_⟩⟩
    show d.length ≤ satAdd c.pos sz
    rw [satAdd_eq_min]
    have := readAt_eq_none h
    omega
  | some v => exact .inr ⟨v, _, by rw [Cur.read, h], read_some (by rw [Cur.read, h])⟩

theorem read_mono (d : List Nat) (c : Cur) (sz : Nat) (h : c.pos ≤ MAXU) :
    c.pos ≤ (c.read d sz).2.pos ∧ (c.read d sz).2.pos ≤ MAXU :=
  advanceBy_mono c sz h

theorem readArray_of_le (d : List Nat) (a n elem : Nat) (h : a + n * elem ≤ d.length) (he : 0 < elem) :
    readArray d a (a + n * elem) elem = .ok n := by
  have e : a + n * elem - a = n * elem := by omega
  simp only [readArray, getRange, if_pos (⟨by omega, h⟩ : a ≤ a + n * elem ∧ a + n * elem ≤ d.length), e,
    if_neg (by omega : ¬ elem = 0), Nat.mul_mod_left, ne_eq, not_true_eq_false, if_false,
    Nat.mul_div_cancel _ he]

theorem readArray_eq_ok {d : List Nat} {a b elem k : Nat} (h : readArray d a b elem = .ok k) :
    a ≤ b ∧ b ≤ d.length ∧ elem ≠ 0 ∧ b - a = k * elem := by
  unfold readArray getRange at h
  by_cases hr : a ≤ b ∧ b ≤ d.length
  · rw [if_pos hr] at h
    dsimp only at h
    by_cases h0 : elem = 0
    · rw [if_pos h0] at h; cases h
    · rw [if_neg h0] at h
      by_cases hm : (b - a) % elem ≠ 0
      · rw [if_pos hm] at h; cases h
      · rw [if_neg hm] at h
        cases h
        exact ⟨hr.1, hr.2, h0, (Nat.div_mul_cancel (Nat.dvd_of_mod_eq_zero (by omega))).symm⟩
  · rw [if_neg hr] at h; cases h

theorem Cur.readArray_eq_ok {d : List Nat} {c c' : Cur} {n elem k : Nat} (h : c.readArray d n elem = (.ok k, c')) :
    elem ≠ 0 ∧ k = n ∧ c.pos + n * elem ≤ d.length ∧ c'.pos = c.pos + n * elem := by
  unfold Cur.readArray at h
  cases hm : checkedMul n elem with
  | none => rw [hm] at h; cases h
  | some len =>
    obtain ⟨rfl, _⟩ := checkedMul_eq_some hm
    rw [hm] at h
    dsimp only at h
    cases ha : checkedAdd c.pos (n * elem) with
    | none => rw [ha] at h; cases h
    | some e =>
      obtain ⟨rfl, hfit⟩ := checkedAdd_eq_some ha
      rw [ha] at h
      dsimp only at h
      injection h with h1 h2
      obtain ⟨_, hle, h0, hk⟩ := HandRead.readArray_eq_ok h1
      rw [Nat.add_sub_cancel_left] at hk
      exact ⟨h0, (Nat.eq_of_mul_eq_mul_right (Nat.pos_of_ne_zero h0) hk).symm, hle,
        by rw [← h2, advanceBy_eq _ _ hfit]⟩

theorem compGet_eq_some {len item idx off : Nat} (h : compGet len item idx = some off) :
    off = idx * item ∧ off + item ≤ len := by
  unfold compGet at h
  cases hm : checkedMul idx item with
  | none => rw [hm] at h; cases h
  | some o =>
    rw [hm] at h
    dsimp only at h
    by_cases hf : o + item ≤ len
    · rw [if_pos hf] at h; cases h; exact ⟨(checkedMul_eq_some hm).1, hf⟩
    · rw [if_neg hf] at h; cases h

/-! ## one `?` of a transcribed reader

The hand-written readers are transcribed as nested `match`es: `match readAt d p w with | none => fail | some v => rest v`.
A reader whose result is not `fail` is inverted one `?` at a time (the lemmas apply to the `match` of any definition,
whatever its continuation and result type): the step succeeded, and the result is that of the rest of the reader on
its value.  The side condition is closed by `nofun` (`some r ≠ none`, `.ok r ≠ .error e`). -/

theorem readAt_step {β : Type} {d : List Nat} {p w : Nat} {fail r : β} {k : Nat → β}
    (h : (match readAt d p w with | none => fail | some v => k v) = r) (hr : r ≠ fail) :
    p + w ≤ d.length ∧ k (beAt d p w) = r := by
  cases hx : readAt d p w with
  | none => rw [hx] at h; exact absurd h.symm hr
  | some v => rw [hx] at h; obtain ⟨h1, -, rfl⟩ := readAt_eq_some hx; exact ⟨h1, h⟩

theorem checkedMul_step {β : Type} {a b : Nat} {fail r : β} {k : Nat → β}
    (h : (match checkedMul a b with | none => fail | some v => k v) = r) (hr : r ≠ fail) :
    a * b ≤ MAXU ∧ k (a * b) = r := by
  cases hx : checkedMul a b with
  | none => rw [hx] at h; exact absurd h.symm hr
  | some v => rw [hx] at h; obtain ⟨rfl, h1⟩ := checkedMul_eq_some hx; exact ⟨h1, h⟩

theorem checkedAdd_step {β : Type} {a b : Nat} {fail r : β} {k : Nat → β}
    (h : (match checkedAdd a b with | none => fail | some v => k v) = r) (hr : r ≠ fail) :
    a + b ≤ MAXU ∧ k (a + b) = r := by
  cases hx : checkedAdd a b with
  | none => rw [hx] at h; exact absurd h.symm hr
  | some v => rw [hx] at h; obtain ⟨rfl, h1⟩ := checkedAdd_eq_some hx; exact ⟨h1, h⟩

/-- a bounds check in front of the rest of a reader, or its last one -/
theorem else_step {β : Type} {c : Prop} [Decidable c] {x fail r : β} (h : (if c then x else fail) = r) (hr : r ≠ fail) :
    c ∧ x = r := by
  by_cases hc : c
  · rw [if_pos hc] at h; exact ⟨hc, h⟩
  · rw [if_neg hc] at h; exact absurd h.symm hr

/-- an early return in front of the rest of a reader -/
theorem then_step {β : Type} {c : Prop} [Decidable c] {x fail r : β} (h : (if c then fail else x) = r) (hr : r ≠ fail) :
    ¬c ∧ x = r := by
  by_cases hc : c
  · rw [if_pos hc] at h; exact absurd h.symm hr
  · rw [if_neg hc] at h; exact ⟨hc, h⟩

end FontVerif.HandRead
