/- C14 / IntSet helper lemmas: well-formed domains (`DomWF`), the ordered member sequence
`elems` of an `IntSet` in both modes, `len`, and the range-list plumbing the iterators use
(`expand`, `expandTake`, `expandTakeBack`, `clipRanges`, `subtractRanges`; `seg D s e`, the domain
values of an interval, which is what `ordered_values_range` and `clipRanges` of the domain list). -/
import FontVerif.Lemmas.IntSetObs
namespace FontVerif.IntSet

/-- a well-formed element domain: `ordered_values()` is given by sorted disjoint non-empty
ranges, `count()` is their total size, and a continuous domain is one single range -/
structure DomWF (d : Domain) : Prop where
  sorted : RSorted d.ranges
  count : d.count = (expand d.ranges).length
  cont : d.continuous = true → ∃ lo hi, d.ranges = [(lo, hi)]

/-- a continuous domain `lo..=hi` (every built-in integer type) is well formed -/
theorem domWF_single {lo hi : Nat} (h : lo ≤ hi) : DomWF ⟨[(lo, hi)], true, hi + 1 - lo⟩ :=
  ⟨⟨List.pairwise_singleton _ _, fun p hp => by rw [List.mem_singleton.1 hp]; exact h⟩,
    by rw [length_expand_cons]; rfl, fun _ => ⟨_, _, rfl⟩⟩

/-- the members of the set in ascending order: the domain values `x` with `contains x` -/
def IntSet.elems (d : Domain) (s : IntSet) : List Nat := (expand d.ranges).filter s.contains

theorem Domain.contains_iff_mem {d : Domain} {x : Nat} :
    d.contains x = true ↔ x ∈ expand d.ranges := by
  rw [Domain.contains_iff, mem_expand]

theorem mem_elems {d : Domain} {s : IntSet} {x : Nat} :
    x ∈ s.elems d ↔ d.contains x = true ∧ s.contains x = true := by
  unfold IntSet.elems
  rw [List.mem_filter, Domain.contains_iff_mem]

theorem elems_eq_nil_iff {d : Domain} {s : IntSet} :
    s.elems d = [] ↔ ∀ x, d.contains x = true → s.contains x = false := by
  unfold IntSet.elems
  rw [List.filter_eq_nil_iff]
  exact ⟨fun h x hx => Bool.eq_false_iff.2 (h x (Domain.contains_iff_mem.1 hx)),
    fun h x hx => Bool.eq_false_iff.1 (h x (Domain.contains_iff_mem.2 hx))⟩

theorem elems_nil_of_ranges {d : Domain} (h : d.ranges = []) (s : IntSet) : s.elems d = [] := by
  unfold IntSet.elems; rw [h]; rfl

theorem elems_asc {d : Domain} (hd : DomWF d) (s : IntSet) : Asc (s.elems d) :=
  (expand_asc hd.sorted).filter _

theorem elems_eq_iff {d : Domain} (hd : DomWF d) (a b : IntSet) :
    a.elems d = b.elems d ↔ ∀ x, d.contains x = true → a.contains x = b.contains x := by
  constructor
  · intro he x hx
    have h1 := mem_elems (d := d) (s := a) (x := x)
    have h2 := mem_elems (d := d) (s := b) (x := x)
    rw [he] at h1
    cases ha : a.contains x <;> cases hb : b.contains x <;> simp_all
  · intro h
    apply asc_ext (elems_asc hd a) (elems_asc hd b)
    intro x
    rw [mem_elems, mem_elems]
    constructor
    · rintro ⟨h1, h2⟩; exact ⟨h1, by rw [← h x h1]; exact h2⟩
    · rintro ⟨h1, h2⟩; exact ⟨h1, by rw [h x h1]; exact h2⟩

/-- the stored values, listed through the domain, are `BitSet::iter` -/
theorem stored_eq_members {d : Domain} (hd : DomWF d) {s : IntSet} (h : IInvD d s) :
    (expand d.ranges).filter s.set.contains = s.set.members := by
  apply asc_ext ((expand_asc hd.sorted).filter _) (BitSet.members_asc _ h.1)
  intro x
  rw [List.mem_filter, BitSet.mem_members _ h.1, ← Domain.contains_iff_mem]
  constructor
  · exact fun hx => hx.2
  · exact fun hx => ⟨h.2 x hx, hx⟩

theorem IInvD.ranges_ends {d : Domain} {s : IntSet} (h : IInvD d s) :
    ∀ p ∈ s.set.ranges, d.contains p.1 = true ∧ d.contains p.2 = true :=
  forall_ends_of_nmem (BitSet.ranges_spec _ h.1).1.2
    (fun x hx => h.2 x (((BitSet.ranges_spec _ h.1).2 x).1 hx))

theorem elems_inclusive {d : Domain} (hd : DomWF d) {s : IntSet} (h : IInvD d s)
    (hi : s.inverted = false) : s.elems d = s.set.members := by
  rw [← stored_eq_members hd h]
  unfold IntSet.elems
  congr 1
  funext x
  simp [IntSet.contains, hi]

theorem nmem_members_eq_contains {s : IntSet} (h : BInv s.set) (hi : s.inverted = true) (x : Nat) :
    decide (x ∉ s.set.members) = s.contains x := by
  rw [IntSet.contains, if_pos hi]
  cases hc : s.set.contains x with
  | true => simp [(BitSet.mem_members _ h x).2 hc]
  | false =>
    have : x ∉ s.set.members := fun hm => by
      rw [BitSet.mem_members _ h x, hc] at hm; exact absurd hm (by simp)
    simp [this]

/-- the counterpart of `elems_inclusive`: an inverted set holds the domain values it does not store -/
theorem elems_exclusive (d : Domain) {s : IntSet} (h : BInv s.set) (hi : s.inverted = true) :
    s.elems d = (expand d.ranges).filter (fun x => decide (x ∉ s.set.members)) :=
  List.filter_congr (fun x _ => (nmem_members_eq_contains h hi x).symm)

theorem filter_length_compl (p : Nat → Bool) (l : List Nat) :
    (l.filter p).length + (l.filter (fun x => !p x)).length = l.length := by
  induction l with
  | nil => rfl
  | cons a l ih =>
    simp only [List.filter_cons]
    cases p a <;> simp <;> omega

/-- `IntSet::len()` is the number of members, in both modes (in particular the `u64`
subtraction `T::count() - s.len()` never underflows) -/
theorem IntSet.len_spec {d : Domain} (hd : DomWF d) {s : IntSet} (h : IInvD d s) :
    s.len d = some (s.elems d).length := by
  unfold IntSet.len
  have hst := stored_eq_members hd h
  have hlen := BitSet.len_eq _ h.1
  have hc := filter_length_compl s.set.contains (expand d.ranges)
  rw [hst, ← hlen, ← hd.count] at hc
  split
  · rename_i hi
    have he : s.elems d = (expand d.ranges).filter (fun x => !s.set.contains x) := by
      unfold IntSet.elems; congr 1; funext x; simp [IntSet.contains, hi]
    rw [he]
    rw [if_pos (by omega)]
    congr 1
    omega
  · rename_i hi
    simp only [Bool.not_eq_true] at hi
    rw [elems_inclusive hd h hi, hlen]

theorem take_range_map_append {α : Type} (f : Nat → α) (m k : Nat) (X : List α) :
    ((List.range m).map f ++ X).take k =
      (List.range (min k m)).map f ++ X.take (k - min k m) := by
  rw [List.take_append, List.length_map, List.length_range, ← List.map_take, List.take_range]
  congr 2
  omega

theorem expandTake_eq (k : Nat) (rs : List (Nat × Nat)) : expandTake k rs = (expand rs).take k := by
  fun_induction expandTake k rs with
  | case1 rs => simp
  | case2 k hk => simp [expand_nil]
  | case3 k s e rest hgt ih =>
    rw [ih, expand_cons_empty hgt]
  | case4 k s e rest hle n ih =>
    rw [ih, expand_cons, take_range_map_append]

theorem range_map_reverse (s e : Nat) (h : s ≤ e) :
    ((List.range (e + 1 - s)).map (· + s)).reverse = (List.range (e + 1 - s)).map (fun i => e - i) := by
  apply List.ext_getElem
  · simp
  · intro i h1 h2
    simp only [List.length_reverse, List.length_map, List.length_range] at h1
    simp only [List.getElem_reverse, List.getElem_map, List.getElem_range, List.length_map,
      List.length_range]
    omega

theorem expandTakeBack_go_eq (k : Nat) (l : List (Nat × Nat)) :
    expandTakeBack.go k l = (expand l.reverse).reverse.take k := by
  fun_induction expandTakeBack.go k l with
  | case1 rs => simp
  | case2 k hk => simp [expand_nil]
  | case3 k s e rest hgt ih =>
    rw [ih, List.reverse_cons, expand_append, expand_cons_empty hgt, expand_nil, List.append_nil]
  | case4 k s e rest hle n ih =>
    rw [ih, List.reverse_cons, expand_append, List.reverse_append, expand_cons, expand_nil,
      List.append_nil, range_map_reverse s e (by omega), take_range_map_append]

theorem expandTakeBack_eq (k : Nat) (rs : List (Nat × Nat)) :
    expandTakeBack k rs = (expand rs).reverse.take k := by
  unfold expandTakeBack
  rw [expandTakeBack_go_eq, List.reverse_reverse]

theorem clipRanges_cons (r : Nat × Nat) (rs : List (Nat × Nat)) (lo hi : Nat) :
    clipRanges (r :: rs) lo hi =
      if max r.1 lo ≤ min r.2 hi then (max r.1 lo, min r.2 hi) :: clipRanges rs lo hi
      else clipRanges rs lo hi := by
  unfold clipRanges
  rw [List.filterMap_cons]
  by_cases h : max r.1 lo ≤ min r.2 hi
  · simp [h]
  · simp [h]

theorem clipRanges_rsorted {rs : List (Nat × Nat)} (h : RSorted rs) (lo hi : Nat) :
    RSorted (clipRanges rs lo hi) := by
  induction rs with
  | nil => exact rsorted_nil
  | cons r rs ih =>
    rw [rsorted_cons] at h
    rw [clipRanges_cons]
    split
    · rename_i hle
      rw [rsorted_cons]
      refine ⟨?_, hle, ih h.2.2⟩
      intro q hq
      rw [mem_clipRanges] at hq
      obtain ⟨r', hr', _, rfl⟩ := hq
      have := h.1 r' hr'
      simp only
      omega
    · exact ih h.2.2

theorem nmem_clipRanges {rs : List (Nat × Nat)} {lo hi x : Nat} :
    NMem (clipRanges rs lo hi) x ↔ NMem rs x ∧ lo ≤ x ∧ x ≤ hi :=
  mem_expand.symm.trans mem_expand_clipRanges

theorem expand_clipRanges {rs : List (Nat × Nat)} (h : RSorted rs) (lo hi : Nat) :
    expand (clipRanges rs lo hi) =
      (expand rs).filter (fun x => decide (lo ≤ x) && decide (x ≤ hi)) :=
  expand_eq_filter (clipRanges_rsorted h lo hi) (expand_asc h) (fun x => by
    rw [nmem_clipRanges, mem_expand_iff_nmem]; simp)

/-- the domain values in `[s, e]`, ascending -/
def seg (D : List Nat) (s e : Nat) : List Nat := D.filter (fun x => decide (s ≤ x) && decide (x ≤ e))

theorem mem_seg {D : List Nat} {s e x : Nat} : x ∈ seg D s e ↔ x ∈ D ∧ s ≤ x ∧ x ≤ e := by
  unfold seg; simp [List.mem_filter]

theorem seg_asc {D : List Nat} (hD : Asc D) (s e : Nat) : Asc (seg D s e) := hD.filter _

theorem seg_cons_self {D : List Nat} (hD : Asc D) {s e : Nat} (hs : s ∈ D) (hse : s ≤ e) :
    seg D s e = s :: seg D (s + 1) e := by
  apply asc_ext (seg_asc hD _ _)
  · exact asc_cons.2 ⟨fun y hy => (mem_seg.1 hy).2.1, seg_asc hD _ _⟩
  · intro x
    rw [List.mem_cons, mem_seg, mem_seg]
    constructor
    · rintro ⟨h1, h2, h3⟩
      by_cases hx : x = s
      · exact Or.inl hx
      · exact Or.inr ⟨h1, by omega, h3⟩
    · rintro (rfl | ⟨h1, h2, h3⟩)
      · exact ⟨hs, Nat.le_refl _, hse⟩
      · exact ⟨h1, by omega, h3⟩

theorem seg_split {D : List Nat} (hD : Asc D) (s m e : Nat) (hsm : s ≤ m + 1) :
    seg D s e = seg D s (min m e) ++ seg D (m + 1) e := by
  apply asc_ext (seg_asc hD _ _)
  · rw [asc_append]
    refine ⟨seg_asc hD _ _, seg_asc hD _ _, ?_⟩
    intro a ha b hb
    rw [mem_seg] at ha hb
    omega
  · intro x
    rw [List.mem_append, mem_seg, mem_seg, mem_seg]
    constructor
    · rintro ⟨h1, h2, h3⟩
      by_cases hx : x ≤ m
      · exact Or.inl ⟨h1, h2, by omega⟩
      · exact Or.inr ⟨h1, by omega, h3⟩
    · rintro (⟨h1, h2, h3⟩ | ⟨h1, h2, h3⟩)
      · exact ⟨h1, h2, by omega⟩
      · exact ⟨h1, by omega, h3⟩

theorem seg_head {D : List Nat} (hD : Asc D) {s e : Nat} (he : e ∈ D) (hse : s ≤ e) :
    ∃ h0 t, seg D s e = h0 :: t ∧ s ≤ h0 ∧ h0 ≤ e ∧ ∀ g ∈ D, s ≤ g → h0 ≤ g := by
  have hmem : e ∈ seg D s e := mem_seg.2 ⟨he, hse, Nat.le_refl _⟩
  have hasc := seg_asc hD s e
  cases hseg : seg D s e with
  | nil => rw [hseg] at hmem; simp at hmem
  | cons h0 t =>
    rw [hseg] at hasc
    have c := asc_cons.1 hasc
    have h0m : h0 ∈ seg D s e := by rw [hseg]; simp
    have h0' := mem_seg.1 h0m
    refine ⟨h0, t, rfl, h0'.2.1, h0'.2.2, ?_⟩
    intro g hg hsg
    by_cases hge : g ≤ e
    · have : g ∈ seg D s e := mem_seg.2 ⟨hg, hsg, hge⟩
      rw [hseg] at this
      simp only [List.mem_cons] at this
      rcases this with rfl | this
      · exact Nat.le_refl _
      · exact Nat.le_of_lt (c.1 g this)
    · omega

theorem desc_of_reverse {xs : List Nat} (h : Asc xs) : xs.reverse.Pairwise (· > ·) := by
  rw [List.pairwise_reverse]
  exact h

/-- the last two values of a segment that ends at a domain value `a`: `a` itself and, if there is
one, its predecessor `p` among the domain values `≥ s` (no domain value lies strictly between) -/
theorem seg_reverse_take_two {D : List Nat} (hD : Asc D) {s a : Nat} (ha : a ∈ D) (hsa : s ≤ a) :
    ((seg D s a).reverse.take 2 = [a] ∧ ∀ g ∈ D, s ≤ g → a ≤ g) ∨
    ∃ p, (seg D s a).reverse.take 2 = [a, p] ∧ p < a ∧ ∀ g ∈ D, s ≤ g → g < a → g ≤ p := by
  have hdesc := desc_of_reverse (seg_asc hD s a)
  have hmem : ∀ x, x ∈ (seg D s a).reverse ↔ x ∈ D ∧ s ≤ x ∧ x ≤ a := fun x => by
    rw [List.mem_reverse, mem_seg]
  generalize (seg D s a).reverse = R at hdesc hmem
  cases R with
  | nil => exact absurd ((hmem a).2 ⟨ha, hsa, Nat.le_refl _⟩) List.not_mem_nil
  | cons t rest =>
    have c := List.pairwise_cons.1 hdesc
    have ht : t = a := by
      rcases List.mem_cons.1 ((hmem a).2 ⟨ha, hsa, Nat.le_refl _⟩) with h | h
      · exact h.symm
      · have := c.1 a h; have := ((hmem t).1 (List.mem_cons_self ..)).2.2; omega
    subst ht
    cases rest with
    | nil =>
      refine Or.inl ⟨rfl, fun g hg hsg => Nat.le_of_not_lt (fun hlt => ?_)⟩
      have := (hmem g).2 ⟨hg, hsg, Nat.le_of_lt hlt⟩
      simp only [List.mem_singleton] at this
      omega
    | cons p rest' =>
      refine Or.inr ⟨p, rfl, c.1 p (List.mem_cons_self ..), fun g hg hsg hlt => ?_⟩
      rcases List.mem_cons.1 ((hmem g).2 ⟨hg, hsg, Nat.le_of_lt hlt⟩) with h | h
      · omega
      · rcases List.mem_cons.1 h with h | h
        · exact Nat.le_of_eq h
        · exact Nat.le_of_lt ((List.pairwise_cons.1 c.2).1 g h)

theorem expand_rangeValues {d : Domain} (hd : DomWF d) (a b : Nat) :
    expand (d.rangeValues a b) = seg (expand d.ranges) a b :=
  expand_clipRanges hd.sorted a b

theorem nmem_left {s x z : Nat} :
    NMem (if s < x then [(s, x - 1)] else []) z ↔ s ≤ z ∧ z < x := by
  by_cases h : s < x
  · rw [if_pos h, nmem_cons]
    simp only [nmem_nil, or_false]
    omega
  · rw [if_neg h]
    exact ⟨fun hz => (nmem_nil hz).elim, fun hz => by omega⟩

theorem rsorted_left_append {s x : Nat} {R : List (Nat × Nat)} (hR : RSorted R)
    (hlo : ∀ z, NMem R z → x ≤ z) : RSorted ((if s < x then [(s, x - 1)] else []) ++ R) := by
  by_cases h : s < x
  · rw [if_pos h]
    exact hR.cons_of_nmem (by simp only; omega) (fun z hz => by have := hlo z hz; simp only; omega)
  · rw [if_neg h]; exact hR

theorem subtractRanges_spec (as bs : List (Nat × Nat)) (ha : RSorted as) (hb : RSorted bs) :
    RSorted (subtractRanges as bs) ∧
    (∀ x, NMem (subtractRanges as bs) x ↔ NMem as x ∧ ¬ NMem bs x) := by
  fun_induction subtractRanges as bs with
  | case1 bs => exact ⟨rsorted_nil, fun x => by simp [nmem_nil]⟩
  | case2 as hne => exact ⟨ha, fun x => by simp [nmem_nil]⟩
  | case3 s e as x y bs hgt ih =>
    have ha' := rsorted_cons.1 ha
    simp only at ha'
    omega
  | case4 s e as x y bs hle hlt ih =>
    -- `(x, y)` lies before everything in `as`
    obtain ⟨i1, i2⟩ := ih ha (rsorted_cons.1 hb).2.2
    refine ⟨i1, fun z => ?_⟩
    rw [i2 z, nmem_cons (p := (x, y))]
    refine and_congr_right (fun h1 => not_congr (or_iff_right (fun h3 => ?_)).symm)
    have := nmem_ge_head ha h1
    simp only at this h3
    omega
  | case5 s e as x y bs hle hnlt hlt ih =>
    -- `(s, e)` lies before everything in `bs`
    have ha' := rsorted_cons.1 ha
    simp only at ha'
    obtain ⟨i1, i2⟩ := ih ha'.2.2 hb
    refine ⟨i1.cons_of_nmem ha'.2.1 (fun z hz => nmem_tail_gt ha ((i2 z).1 hz).1), fun z => ?_⟩
    rw [nmem_cons, i2 z, nmem_cons (p := (s, e)), or_and_right]
    refine or_congr_left (and_iff_left_of_imp (fun h1 h3 => ?_)).symm
    have := nmem_ge_head hb h3
    simp only at this h1
    omega
  | case6 s e as x y bs hle hnlt1 hnlt2 left hlt ih =>
    -- overlap, `(s, e)` reaches beyond `(x, y)`: its remainder `(y + 1, e)` goes on
    have ha' := rsorted_cons.1 ha
    have hb' := rsorted_cons.1 hb
    simp only at ha' hb'
    have ha2 : RSorted ((y + 1, e) :: as) := rsorted_cons.2 ⟨ha'.1, hlt, ha'.2.2⟩
    obtain ⟨i1, i2⟩ := ih ha2 hb'.2.2
    rw [show left = (if s < x then [(s, x - 1)] else []) from rfl]
    refine ⟨rsorted_left_append i1 (fun z hz => by
      have := nmem_ge_head ha2 ((i2 z).1 hz).1; simp only at this; omega), fun z => ?_⟩
    have hA := fun h => nmem_tail_gt ha (z := z) h
    have hB := fun h => nmem_tail_gt hb (z := z) h
    rw [nmem_append, nmem_left, i2 z, nmem_cons (p := (y + 1, e)), nmem_cons (p := (s, e)),
      nmem_cons (p := (x, y))]
    simp only at hA hB ⊢
    constructor
    · rintro (h1 | ⟨h1 | h1, h2⟩)
      · exact ⟨Or.inl (by omega), fun h3 => h3.elim (by omega) (fun h3 => by have := hB h3; omega)⟩
      · exact ⟨Or.inl (by omega), fun h3 => h3.elim (by omega) h2⟩
      · have := hA h1
        exact ⟨Or.inr h1, fun h3 => h3.elim (by omega) h2⟩
    · rintro ⟨h1 | h1, h2⟩
      · have : ¬ (x ≤ z ∧ z ≤ y) := fun h4 => h2 (Or.inl h4)
        by_cases hz : z < x
        · exact Or.inl ⟨h1.1, hz⟩
        · exact Or.inr ⟨Or.inl (by omega), fun h4 => h2 (Or.inr h4)⟩
      · exact Or.inr ⟨Or.inr h1, fun h4 => h2 (Or.inr h4)⟩
  | case7 s e as x y bs hle hnlt1 hnlt2 left hnlt3 ih =>
    -- overlap, `(x, y)` reaches as far as `(s, e)`: `(s, e)` is used up
    have ha' := rsorted_cons.1 ha
    have hb' := rsorted_cons.1 hb
    simp only at ha' hb'
    obtain ⟨i1, i2⟩ := ih ha'.2.2 hb
    rw [show left = (if s < x then [(s, x - 1)] else []) from rfl]
    refine ⟨rsorted_left_append i1 (fun z hz => by
      have := nmem_tail_gt ha ((i2 z).1 hz).1; simp only at this; omega), fun z => ?_⟩
    have hA := fun h => nmem_tail_gt ha (z := z) h
    rw [nmem_append, nmem_left, i2 z, nmem_cons (p := (s, e)), nmem_cons (p := (x, y))]
    simp only at hA ⊢
    constructor
    · rintro (h1 | ⟨h1, h2⟩)
      · exact ⟨Or.inl (by omega), fun h3 => h3.elim (by omega) (fun h3 => by
          have := nmem_tail_gt hb h3; simp only at this; omega)⟩
      · exact ⟨Or.inr h1, h2⟩
    · rintro ⟨h1 | h1, h2⟩
      · have : ¬ (x ≤ z ∧ z ≤ y) := fun h4 => h2 (Or.inl h4)
        exact Or.inl (by omega)
      · exact Or.inr ⟨h1, h2⟩

end FontVerif.IntSet
