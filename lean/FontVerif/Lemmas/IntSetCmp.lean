/- C14 / IntSet helper lemmas: the range walk of `impl Ord for IntSet` is the
lexicographic order on members also when the ranges are in *domain* normal form (discontinuous
domains, where a reported range may span values that are not in the domain). -/
import FontVerif.Lemmas.IntSetDisc
namespace FontVerif.IntSet

def nmemB (rs : List (Nat × Nat)) (x : Nat) : Bool :=
  rs.any (fun r => decide (r.1 ≤ x) && decide (x ≤ r.2))

theorem nmemB_iff {rs : List (Nat × Nat)} {x : Nat} : nmemB rs x = true ↔ NMem rs x := by
  simp [nmemB, NMem, List.any_eq_true]

/-- the domain values covered by a range list, ascending -/
def dElems (D : List Nat) (rs : List (Nat × Nat)) : List Nat := D.filter (nmemB rs)

theorem mem_dElems {D : List Nat} {rs : List (Nat × Nat)} {x : Nat} :
    x ∈ dElems D rs ↔ x ∈ D ∧ NMem rs x := by
  unfold dElems; rw [List.mem_filter, nmemB_iff]

theorem dElems_asc {D : List Nat} (hD : Asc D) (rs : List (Nat × Nat)) : Asc (dElems D rs) :=
  hD.filter _

theorem dElems_nil (D : List Nat) : dElems D [] = [] := by
  unfold dElems
  rw [List.filter_eq_nil_iff]
  intro x _
  simp [nmemB]

theorem dElems_cons {D : List Nat} (hD : Asc D) {r : Nat × Nat} {rs : List (Nat × Nat)}
    (h : RSorted (r :: rs)) : dElems D (r :: rs) = seg D r.1 r.2 ++ dElems D rs := by
  have c := rsorted_cons.1 h
  apply asc_ext (dElems_asc hD _)
  · rw [asc_append]
    refine ⟨seg_asc hD _ _, dElems_asc hD _, ?_⟩
    intro a ha b hb
    rw [mem_seg] at ha
    rw [mem_dElems] at hb
    obtain ⟨q, hq, h1, h2⟩ := hb.2
    have := c.1 q hq
    omega
  · intro x
    rw [mem_dElems, List.mem_append, mem_seg, mem_dElems, nmem_cons]
    constructor
    · rintro ⟨h1, h2 | h2⟩
      · exact Or.inl ⟨h1, h2⟩
      · exact Or.inr ⟨h1, h2⟩
    · rintro (⟨h1, h2⟩ | ⟨h1, h2⟩)
      · exact ⟨h1, Or.inl h2⟩
      · exact ⟨h1, Or.inr h2⟩

theorem dElems_head {D : List Nat} (hD : Asc D) {r : Nat × Nat} {rs : List (Nat × Nat)}
    (h : DRInv D (r :: rs)) : ∃ t, dElems D (r :: rs) = r.1 :: t := by
  have c := (drinv_cons.1 h).2.1
  rw [dElems_cons hD h.rsorted, seg_cons_self hD c.2.1 c.1]
  exact ⟨_, rfl⟩

theorem cmpRanges_disc {D : List Nat} (hD : Asc D) (ra rb : List (Nat × Nat)) (ha : DRInv D ra)
    (hb : DRInv D rb) : cmpRanges ra rb = lexOrd (dElems D ra) (dElems D rb) := by
  induction ra generalizing rb with
  | nil =>
    cases rb with
    | nil => rw [dElems_nil]; rfl
    | cons b rb =>
      obtain ⟨t, ht⟩ := dElems_head hD hb
      rw [ht, dElems_nil]; rfl
  | cons a ra ih =>
    cases rb with
    | nil =>
      obtain ⟨t, ht⟩ := dElems_head hD ha
      rw [ht, dElems_nil]; rfl
    | cons b rb =>
      obtain ⟨as, ae⟩ := a
      obtain ⟨bs, be⟩ := b
      have ca := drinv_cons.1 ha
      have cb := drinv_cons.1 hb
      simp only at ca cb
      have hta := seg_cons_self hD ca.2.1.2.1 ca.2.1.1
      have htb := seg_cons_self hD cb.2.1.2.1 cb.2.1.1
      have ea := dElems_cons hD ha.rsorted
      have eb := dElems_cons hD hb.rsorted
      simp only at ea eb
      simp only [cmpRanges]
      by_cases hlt : as < bs
      · rw [if_pos hlt, ea, eb, hta, htb]
        simp [lexOrd, hlt]
      · rw [if_neg hlt]
        by_cases hgt : as > bs
        · rw [if_pos hgt, ea, eb, hta, htb]
          simp [lexOrd, hlt, hgt]
        · rw [if_neg hgt]
          have hs : as = bs := by omega
          subst hs
          by_cases hee : ae = be
          · subst hee
            rw [if_pos rfl, ea, eb, lexOrd_append]
            exact ih rb ca.2.2 cb.2.2
          · rw [if_neg hee]
            by_cases hlt : ae < be
            · -- a's first range ends first; b continues with the least domain value after `ae`
              have hsp := seg_split hD as ae be (by have := ca.2.1.1; omega)
              rw [show min ae be = ae by omega] at hsp
              obtain ⟨h0, t0, e0, l0, u0, m0⟩ := seg_head hD cb.2.1.2.2 (show ae + 1 ≤ be by omega)
              rw [if_pos hlt, ea, eb, hsp, List.append_assoc, lexOrd_append, e0]
              cases ra with
              | nil => rw [dElems_nil]; rfl
              | cons r ra' =>
                obtain ⟨t, ht⟩ := dElems_head hD ca.2.2
                rw [ht]
                obtain ⟨_, g, hg, hg1, hg2⟩ := ca.1 r (by simp)
                simp only at hg1
                have := m0 g hg (by omega)
                have h1 : ¬ r.1 < h0 := by omega
                have h2 : r.1 > h0 := by omega
                simp [lexOrd, h1, h2]
            · have hgt : be < ae := by omega
              have hsp := seg_split hD as be ae (by have := cb.2.1.1; omega)
              rw [show min be ae = be by omega] at hsp
              obtain ⟨h0, t0, e0, l0, u0, m0⟩ := seg_head hD ca.2.1.2.2 (show be + 1 ≤ ae by omega)
              rw [if_neg hlt, ea, eb, hsp, List.append_assoc, lexOrd_append, e0]
              cases rb with
              | nil => rw [dElems_nil]; rfl
              | cons r rb' =>
                obtain ⟨t, ht⟩ := dElems_head hD cb.2.2
                rw [ht]
                obtain ⟨_, g, hg, hg1, hg2⟩ := cb.1 r (by simp)
                simp only at hg1
                have := m0 g hg (by omega)
                have h1 : h0 < r.1 := by omega
                simp [lexOrd, h1]

theorem dElems_ranges {d : Domain} (hd : DomWF d) {s : IntSet} (h : IInvD d s) :
    dElems (expand d.ranges) (s.ranges d) = s.elems d := by
  unfold dElems IntSet.elems
  apply List.filter_congr
  intro x hx
  have := (IntSet.ranges_iface hd h).2 x (Domain.contains_iff_mem.2 hx)
  rw [← nmemB_iff] at this
  cases h1 : nmemB (s.ranges d) x <;> cases h2 : s.contains x <;> simp_all

/-- `impl Ord for IntSet` is the lexicographic order on the ascending member sequences: every
well-formed domain, all four mode combinations -/
theorem IntSet.cmp_eq_lexOrd {d : Domain} (hd : DomWF d) {a b : IntSet} (ha : IInvD d a)
    (hb : IInvD d b) : a.cmp d b = lexOrd (a.elems d) (b.elems d) := by
  unfold IntSet.cmp
  by_cases hm : a.inverted = false ∧ b.inverted = false
  ·
    rw [if_pos (by simp [hm.1, hm.2]), BitSet.cmp_spec _ _ ha.1 hb.1, elems_inclusive hd ha hm.1,
      elems_inclusive hd hb hm.2]
  · rw [if_neg (by simpa only [Bool.and_eq_true, Bool.not_eq_true'] using hm),
      ← dElems_ranges hd ha, ← dElems_ranges hd hb]
    exact cmpRanges_disc (expand_asc hd.sorted) _ _ (IntSet.rangesInvertible_drinv hd ha false).1
      (IntSet.rangesInvertible_drinv hd hb false).1

end FontVerif.IntSet
