/-
C04, Model/Field.lean: what each writer function has done when it succeeds (one inversion lemma per function: the
round-trip proofs read these instead of unfolding the functions), the element round trips `parse* ∘ emit*`, and what a
flat layout stands for (`FlatShape.Den`: one notion for the writer's `arrayV` layout, the reader's segments and a
record's flat shape).
-/
import FontVerif.Model.Field
import FontVerif.Lemmas.Base

namespace FontVerif.Field

theorem be_eq_beBytes (n v : Nat) : be n v = beBytes n v := by
  induction n generalizing v with
  | zero => rfl
  | succ n ih => rw [be, beBytes_succ, ih]

theorem be_length (sz n : Nat) : (be sz n).length = sz := by rw [be_eq_beBytes, beBytes_length]

theorem beVal_be (sz n : Nat) (h : n < 256 ^ sz) : beVal (be sz n) = n := by
  rw [be_eq_beBytes]; exact beValue_beBytes sz n h

theorem take_be_append (sz n : Nat) (rest : Bytes) : (be sz n ++ rest).take sz = be sz n := by
  have := be_length sz n
  rw [List.take_append_of_le_length (by omega)]
  rw [List.take_of_length_le (by omega)]

theorem drop_be_append (sz n : Nat) (rest : Bytes) : (be sz n ++ rest).drop sz = rest := by
  have := be_length sz n
  rw [List.drop_append_of_le_length (by omega)]
  rw [List.drop_of_length_le (by omega)]
  simp

theorem emitRec_nil_some {xs : List Nat} {b : Bytes} (h : emitRec [] xs = some b) : xs = [] ∧ b = [] := by
  cases xs with
  | nil => exact ⟨rfl, (Option.some.inj h).symm⟩
  | cons _ _ => cases h

theorem emitRec_cons_some {s : Nat} {ss xs : List Nat} {b : Bytes} (h : emitRec (s :: ss) xs = some b) :
    ∃ x xs' b', xs = x :: xs' ∧ x < 256 ^ s ∧ emitRec ss xs' = some b' ∧ b = be s x ++ b' := by
  cases xs with
  | nil => cases h
  | cons x xs' =>
    simp only [emitRec] at h
    split at h
    · rename_i hx
      split at h
      · rename_i b' hb'
        exact ⟨x, xs', b', rfl, hx, hb', (Option.some.inj h).symm⟩
      · cases h
    · cases h

theorem emitRecs_cons_some {elem r : List Nat} {rs : List (List Nat)} {b : Bytes}
    (h : emitRecs elem (r :: rs) = some b) :
    ∃ a b', emitRec elem r = some a ∧ emitRecs elem rs = some b' ∧ b = a ++ b' := by
  simp only [emitRecs] at h
  split at h
  · rename_i a b' ha hb
    exact ⟨a, b', ha, hb, (Option.some.inj h).symm⟩
  · cases h

theorem emitRecsV_cons_some {pre r : List Nat} {tail : Nat} {rs : List (List Nat)} {b : Bytes}
    (h : emitRecsV pre tail (r :: rs) = some b) :
    pre.length ≤ r.length ∧
      ∃ a b', emitRec (wWidths pre tail r.length) r = some a ∧ emitRecsV pre tail rs = some b' ∧ b = a ++ b' := by
  simp only [emitRecsV] at h
  split at h
  · rename_i hle
    split at h
    · rename_i a b' ha hb
      exact ⟨hle, a, b', ha, hb, (Option.some.inj h).symm⟩
    · cases h
  · cases h

theorem emitRecsL_cons_some {hw : Nat} {item r : List Nat} {rs : List (List Nat)} {b : Bytes}
    (h : emitRecsL hw item (r :: rs) = some b) :
    r.length = r.length / item.length * item.length ∧ r.length / item.length < 256 ^ hw ∧
      ∃ a b', emitRec (repGroup (r.length / item.length) item) r = some a ∧ emitRecsL hw item rs = some b' ∧
        b = be hw (r.length / item.length) ++ a ++ b' := by
  simp only [emitRecsL] at h
  split at h
  · rename_i hk
    split at h
    · rename_i a b' ha hb
      exact ⟨hk.1, hk.2, a, b', ha, hb, (Option.some.inj h).symm⟩
    · cases h
  · cases h

theorem emit_nil_some {ext : Ext} {o : Obj} {view view' : View} {bytes : Bytes}
    (h : emit ext o [] view = some (bytes, view')) : bytes = [] ∧ view' = view := by
  cases h; exact ⟨rfl, rfl⟩

theorem emit_cons_some {ext : Ext} {o : Obj} {w : WF} {ws : List WF} {view view' : View} {bytes : Bytes}
    (h : emit ext o (w :: ws) view = some (bytes, view')) :
    ∃ b v bs, emitField ext o view w = some (b, v) ∧ emit ext o ws ((w.id, v) :: view) = some (bs, view') ∧
      bytes = b ++ bs := by
  simp only [emit] at h
  split at h
  · cases h
  · rename_i b v hf
    split at h
    · cases h
    · rename_i bs v' hr
      cases h
      exact ⟨b, v, bs, hf, hr, rfl⟩

theorem srcVal_field_some {ext : Ext} {o : Obj} {id n : Nat} (h : srcVal ext o id .field = some n) :
    o.get id = .num n := by
  simp only [srcVal] at h
  split at h
  · rename_i m hm; rw [hm, Option.some.inj h]
  · cases h

theorem srcVal_count_some {ext : Ext} {o : Obj} {id arr a b n : Nat} (h : srcVal ext o id (.count arr a b) = some n) :
    ∃ xs, o.get arr = .arr xs ∧ n = a * xs.length + b := by
  simp only [srcVal] at h
  split at h
  · rename_i xs hxs; exact ⟨xs, hxs, (Option.some.inj h).symm⟩
  · cases h

theorem emitField_gated {ext : Ext} {o : Obj} {view : View} {w : WF} {b : Bytes} {v : Val}
    (hc : ¬ condHolds view w.cond = true) (h : emitField ext o view w = some (b, v)) : b = [] ∧ v = .absent := by
  rw [emitField, if_neg hc] at h
  cases h
  exact ⟨rfl, rfl⟩

theorem emitField_some {ext : Ext} {o : Obj} {view : View} {w : WF} {b : Bytes} {v : Val}
    (hc : condHolds view w.cond = true) (h : emitField ext o view w = some (b, v)) :
    match w.item with
    | .scalar src sz => ∃ n, srcVal ext o w.id src = some n ∧ n < 256 ^ sz ∧ b = be sz n ∧ v = .num n
    | .array elem fixed =>
      ∃ xs, o.get w.id = .arr xs ∧ fixedOk fixed xs.length = true ∧ emitRecs elem xs = some b ∧ v = .arr xs
    | .arrayV pre tail fixed =>
      ∃ xs, o.get w.id = .arr xs ∧ fixedOk fixed xs.length = true ∧ emitRecsV pre tail xs = some b ∧ v = .arr xs
    | .arrayL hw item => ∃ xs, o.get w.id = .arr xs ∧ emitRecsL hw item xs = some b ∧ v = .arr xs := by
  rw [emitField, if_pos hc] at h
  cases hi : w.item with
  | scalar src sz =>
    rw [hi] at h
    simp only at h ⊢
    split at h
    · rename_i n hn
      split at h
      · rename_i hlt; cases h; exact ⟨n, hn, hlt, rfl, rfl⟩
      · cases h
    · cases h
  | array elem fixed =>
    rw [hi] at h
    simp only at h ⊢
    split at h
    · rename_i xs hxs
      split at h
      · rename_i hfix
        split at h
        · rename_i bb hbb; cases h; exact ⟨xs, hxs, hfix, hbb, rfl⟩
        · cases h
      · cases h
    · cases h
  | arrayV pre tail fixed =>
    rw [hi] at h
    simp only at h ⊢
    split at h
    · rename_i xs hxs
      split at h
      · rename_i hfix
        split at h
        · rename_i bb hbb; cases h; exact ⟨xs, hxs, hfix, hbb, rfl⟩
        · cases h
      · cases h
    · cases h
  | arrayL hw item =>
    rw [hi] at h
    simp only at h ⊢
    split at h
    · rename_i xs hxs
      split at h
      · rename_i bb hbb; cases h; exact ⟨xs, hxs, hbb, rfl⟩
      · cases h
    · cases h

theorem emitRec_length : ∀ (ss xs : List Nat) (b : Bytes), emitRec ss xs = some b → b.length = elemSize ss
  | [], xs, b, h => by rw [(emitRec_nil_some h).2]; rfl
  | s :: ss, xs, b, h => by
    obtain ⟨x, xs', b', rfl, _, hb', rfl⟩ := emitRec_cons_some h
    simp [be_length, emitRec_length ss xs' b' hb', elemSize]

theorem emitRec_widths_length : ∀ (ss xs : List Nat) (b : Bytes), emitRec ss xs = some b → xs.length = ss.length
  | [], xs, b, h => by rw [(emitRec_nil_some h).1]
  | s :: ss, xs, b, h => by
    obtain ⟨x, xs', b', rfl, _, hb', rfl⟩ := emitRec_cons_some h
    simp [emitRec_widths_length ss xs' b' hb']

theorem parseRec_emitRec : ∀ (ss xs : List Nat) (b rest : Bytes), emitRec ss xs = some b →
    parseRec ss (b ++ rest) = some (xs, rest)
  | [], xs, b, rest, h => by
    obtain ⟨rfl, rfl⟩ := emitRec_nil_some h
    rfl
  | s :: ss, xs, b, rest, h => by
    obtain ⟨x, xs', b', rfl, hx, hb', rfl⟩ := emitRec_cons_some h
    have hl : ¬ (be s x ++ b' ++ rest).length < s := by simp [be_length]
    rw [parseRec, if_neg hl, List.append_assoc, take_be_append, drop_be_append, parseRec_emitRec ss xs' b' rest hb',
      beVal_be _ _ hx]

theorem emitRecs_length (elem : List Nat) : ∀ (rs : List (List Nat)) (b : Bytes),
    emitRecs elem rs = some b → b.length = rs.length * elemSize elem
  | [], b, h => by cases h; simp
  | r :: rs, b, h => by
    obtain ⟨a, b', ha, hb, rfl⟩ := emitRecs_cons_some h
    rw [List.length_append, emitRec_length elem r a ha, emitRecs_length elem rs b' hb, List.length_cons, Nat.succ_mul,
      Nat.add_comm]

theorem parseRecs_emitRecs (elem : List Nat) : ∀ (rs : List (List Nat)) (b rest : Bytes),
    emitRecs elem rs = some b → parseRecs elem rs.length (b ++ rest) = some (rs, rest)
  | [], b, rest, h => by cases h; rfl
  | r :: rs, b, rest, h => by
    obtain ⟨a, b', ha, hb, rfl⟩ := emitRecs_cons_some h
    simp only [List.length_cons, parseRecs, List.append_assoc, parseRec_emitRec elem r a (b' ++ rest) ha,
      parseRecs_emitRecs elem rs b' rest hb]

theorem parseRecsL_emitRecsL (hw : Nat) (item : List Nat) : ∀ (rs : List (List Nat)) (b rest : Bytes),
    emitRecsL hw item rs = some b → parseRecsL hw item rs.length (b ++ rest) = some (rs, rest)
  | [], b, rest, h => by cases h; rfl
  | r :: rs, b, rest, h => by
    obtain ⟨_, hk, a, b', ha, hb, rfl⟩ := emitRecsL_cons_some h
    have hl : ¬ (be hw (r.length / item.length) ++ (a ++ (b' ++ rest))).length < hw := by simp [be_length]
    simp only [List.length_cons, parseRecsL, List.append_assoc, if_neg hl, take_be_append, drop_be_append,
      beVal_be _ _ hk, parseRec_emitRec _ r a (b' ++ rest) ha, parseRecsL_emitRecsL hw item rs b' rest hb]

theorem eq_replicate_of_all (t : Nat) (ws : List Nat) (h : ws.all (· == t) = true) :
    ws = List.replicate ws.length t :=
  List.eq_replicate_iff.mpr ⟨rfl, fun x hx => by simpa using List.all_eq_true.mp h x hx⟩

theorem repGroup_length (ws : List Nat) : ∀ n, (repGroup n ws).length = n * ws.length
  | 0 => by rw [repGroup, Nat.zero_mul]; rfl
  | n + 1 => by rw [repGroup, List.length_append, repGroup_length ws n, Nat.succ_mul, Nat.add_comm]

theorem elemSize_append (a b : List Nat) : elemSize (a ++ b) = elemSize a + elemSize b := by
  induction a with
  | nil => exact (Nat.zero_add _).symm
  | cons x a ih => simp only [List.cons_append, elemSize, List.foldr_cons] at ih ⊢; rw [ih, Nat.add_assoc]

theorem elemSize_repGroup (ws : List Nat) : ∀ n, elemSize (repGroup n ws) = n * elemSize ws
  | 0 => by rw [repGroup, Nat.zero_mul]; rfl
  | n + 1 => by rw [repGroup, elemSize_append, elemSize_repGroup ws n, Nat.succ_mul, Nat.add_comm]

theorem repGroup_all (tail : Nat) (ws : List Nat) (h : ws.all (· == tail) = true) :
    ∀ n, repGroup n ws = List.replicate (n * ws.length) tail
  | 0 => by simp [repGroup]
  | n + 1 => by
    rw [repGroup, repGroup_all tail ws h n, Nat.succ_mul, Nat.add_comm, ← List.replicate_append_replicate,
      ← eq_replicate_of_all tail ws h]

/-- the width lists a flat layout stands for: exactly `pre`, or `pre` followed by any number of `t` -/
def FlatShape.Den : FlatShape → List Nat → Prop
  | (pre, none), ws => ws = pre
  | (pre, some t), ws => ∃ k, ws = pre ++ List.replicate k t

theorem FlatShape.Den.widths {sh : FlatShape} {ws : List Nat} (h : sh.Den ws) :
    shapeWidths sh ws.length = ws ∧ sh.1.length ≤ ws.length ∧ (sh.2 = none → ws.length = sh.1.length) := by
  obtain ⟨pre, _ | t⟩ := sh
  · cases h
    exact ⟨rfl, Nat.le_refl _, fun _ => rfl⟩
  · obtain ⟨k, rfl⟩ := h
    exact ⟨by simp [shapeWidths, wWidths], by simp, fun h => nomatch h⟩

theorem segsCompat_sound (tail : Nat) (view : View) : ∀ (segs : Segs) (pre : List Nat),
    segsCompat tail pre segs = true → FlatShape.Den (pre, some tail) (evalSegs view segs)
  | [], pre, h => by
    simp only [segsCompat, List.isEmpty_iff] at h
    subst h
    exact ⟨0, by simp [evalSegs]⟩
  | (n, ws) :: rest, pre, h => by
    simp only [segsCompat] at h
    split at h
    · rename_i hp
      simp only [List.isEmpty_iff] at hp
      subst hp
      simp only [Bool.and_eq_true] at h
      obtain ⟨k, hk⟩ := segsCompat_sound tail view rest [] h.2
      refine ⟨n.eval view * ws.length + k, ?_⟩
      simp only [evalSegs, hk, repGroup_all tail ws h.1, List.nil_append, List.replicate_append_replicate]
    · simp only [Bool.and_eq_true, beq_iff_eq] at h
      obtain ⟨⟨hn, hpre⟩, hrest⟩ := h
      subst hn
      obtain ⟨k, hk⟩ := segsCompat_sound tail view rest (pre.drop ws.length) hrest
      refine ⟨k, ?_⟩
      have hp : ws ++ pre.drop ws.length = pre := by
        have := List.isPrefixOf_iff_prefix.mp hpre
        obtain ⟨t, ht⟩ := this
        subst ht
        simp
      simp only [evalSegs, NExpr.eval, repGroup, List.append_nil, hk]
      rw [← List.append_assoc, hp]

theorem emitRecsV_eq {pre elem : List Nat} {tail : Nat} (hd : FlatShape.Den (pre, some tail) elem) :
    ∀ (xs : List (List Nat)), (∀ x ∈ xs, x.length = elem.length) → emitRecsV pre tail xs = emitRecs elem xs
  | [], _ => rfl
  | r :: rs, h => by
    have hw : wWidths pre tail elem.length = elem := hd.widths.1
    have hl : pre.length ≤ elem.length := hd.widths.2.1
    simp only [emitRecsV, emitRecs, h r (List.mem_cons_self ..), if_pos hl, hw,
      emitRecsV_eq hd rs (fun x hx => h x (List.mem_cons_of_mem _ hx))]

end FontVerif.Field
