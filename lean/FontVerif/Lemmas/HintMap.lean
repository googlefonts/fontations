/-
C02 — the CFF hint map (Model/HintMap.lean) as a LIST: inside the 96-slot array every checked access of `insert`
succeeds, and what `insert` does to the active edges is an ordered splice (`insert_refines`); the unit structure of the
active edges (single ghost edges and bottom / top pairs) that `insert` keeps; why `adjust` / `transform` stay inside the
array.
-/
import FontVerif.Model.HintMap
namespace FontVerif.HintMap

theorem setAt_ok {l : List Hint} {i : Nat} (h : Hint) (hi : i < l.length) :
    setAt l i h = some (l.set i h) := by
  simp [setAt, hi]

theorem getAt_ok {l : List Hint} {i : Nat} (hi : i < l.length) : ∃ v, getAt l i = some v := by
  exact ⟨l[i], by simp [getAt, hi]⟩

theorem take_getElem? (l : List Hint) (n k : Nat) (hk : k < n) : (l.take n)[k]? = l[k]? := by
  rw [List.getElem?_take, if_pos hk]

def WF (m : Map) : Prop := m.edges.length = MAX_HINTS ∧ m.len ≤ MAX_HINTS

def Step (m m' : Map) : Prop := WF m' ∧ m.len ≤ m'.len ∧ m'.len ≤ m.len + 2

theorem step_refl {m : Map} (h : WF m) : Step m m := ⟨h, Nat.le_refl _, by omega⟩

theorem findIx_ok (edges : List Hint) (len : Nat) (cs : Int) (hlen : len ≤ edges.length) :
    ∀ (fuel ix : Nat), ix + fuel = len → ∃ r, findIx edges len cs ix fuel = some r ∧ r ≤ len := by
  intro fuel
  induction fuel with
  | zero => intro ix h; exact ⟨ix, by simp [findIx], by omega⟩
  | succ f ih =>
    intro ix h
    have hix : ix < len := by omega
    obtain ⟨v, hv⟩ := getAt_ok (l := edges) (i := ix) (by omega)
    simp only [findIx, hix, if_true, hv]
    by_cases hc : v.cs ≥ cs
    · simp only [hc, if_true]; exact ⟨ix, rfl, by omega⟩
    · simp only [hc, if_false]
      exact ih (ix + 1) (by omega)

/-- a read that is guarded so that it stays inside the array does not fail -/
theorem guarded_read {β} {l : List Hint} {k : Nat} {c : Prop} [Decidable c] (f : Hint → β) (a : β)
    (h : c → k < l.length) :
    (if c then (match getAt l k with | none => none | some v => some (f v)) else some a) ≠ none := by
  split
  · rename_i hc; obtain ⟨v, hv⟩ := getAt_ok (h hc); rw [hv]; exact Option.some_ne_none _
  · exact Option.some_ne_none _

theorem discard_ok (m : Map) (first second : Hint) (isPair : Bool) (ix : Nat) (h : WF m) (hix : ix ≤ m.len) :
    ∃ b, discard m first second isPair ix = some b := by
  obtain ⟨hl, hn⟩ := h
  unfold discard
  -- three guarded reads, at `ix`, `ix - 1`, `ix`
  dsimp only
  generalize h1 : (if ix < m.len then _ else _ : Option Bool) = o1
  cases o1 with
  | none => exact absurd h1 (guarded_read _ _ fun _ => by omega)
  | some b1 =>
    cases b1
    · dsimp only
      generalize h2 : (if ix > 0 then _ else _ : Option Bool) = o2
      cases o2 with
      | none => exact absurd h2 (guarded_read _ _ fun _ => by omega)
      | some b2 =>
        cases b2
        · exact Option.ne_none_iff_exists'.mp (guarded_read _ _ fun _ => by omega)
        · exact ⟨_, rfl⟩
    · exact ⟨_, rfl⟩

theorem discard_false_not_top (m : Map) (first second : Hint) (isPair : Bool) (ix : Nat)
    (h : discard m first second isPair ix = some false) (hlt : ix < m.len) :
    ∀ e, getAt m.edges ix = some e → e.isPairTop = false := by
  intro e he
  unfold discard at h
  simp only [hlt, if_true, he] at h
  cases ht : e.isPairTop with
  | false => rfl
  | true => simp [ht] at h

theorem shiftUp_eq (ix cnt : Nat) : ∀ (d : Nat) (E : List Hint), ix + cnt + d < E.length →
    shiftUp E ix cnt d = some (E.take (ix + cnt) ++ (E.drop ix).take (d + 1) ++ E.drop (ix + cnt + d + 1)) := by
  -- one copy `E[src + cnt] = E[src]`
  have copy : ∀ (E : List Hint) (src : Nat) (h : src + cnt < E.length),
      getAt E src = some (E[src]'(by omega)) ∧
      setAt E (src + cnt) (E[src]'(by omega)) = some (E.set (src + cnt) (E[src]'(by omega))) := fun E src h =>
    ⟨List.getElem?_eq_getElem _, if_pos h⟩
  intro d
  induction d with
  | zero =>
    intro E h
    have h : ix + cnt < E.length := h
    obtain ⟨h1, h2⟩ := copy E ix h
    simp only [shiftUp, h1, h2]
    rw [List.set_eq_take_append_cons_drop, if_pos h, List.drop_eq_getElem_cons (i := ix) (by omega)]
    rw [List.append_assoc]; rfl
  | succ d ih =>
    intro E h
    obtain ⟨h1, h2⟩ := copy E (ix + (d + 1)) (by omega)
    simp only [shiftUp, h1, h2]
    -- the cell written is the first one above the part already described
    rw [ih _ (by rw [List.length_set]; omega), List.take_set_of_le (by omega), List.drop_set, if_neg (by omega),
      List.take_set_of_le (by omega), List.drop_set, if_neg (by omega),
      show ix + (d + 1) + cnt - (ix + cnt + d + 1) = 0 by omega,
      List.drop_eq_getElem_cons (i := ix + cnt + d + 1) (by omega), List.set_cons_zero,
      List.take_succ_eq_append_getElem (i := d + 1) (by rw [List.length_drop]; omega), List.getElem_drop]
    simp only [List.append_assoc, List.cons_append, List.nil_append]
    rfl

theorem set_block (l : List Hint) (i : Nat) (a b : Hint) :
    (i < l.length → l.set i a = l.take i ++ [a] ++ l.drop (i + 1)) ∧
    (i + 1 < l.length → (l.set i a).set (i + 1) b = l.take i ++ [a, b] ++ l.drop (i + 2)) := by
  refine ⟨fun h => ?_, fun h => ?_⟩
  · rw [List.set_eq_take_append_cons_drop, if_pos h, List.append_assoc]; rfl
  · have hl : i < (l.set i a).length := by rw [List.length_set]; omega
    rw [List.set_eq_take_append_cons_drop, if_pos (by rw [List.length_set]; exact h), List.drop_set_of_lt (by omega),
      List.take_succ_eq_append_getElem hl, List.take_set_of_le (Nat.le_refl _), List.getElem_set_self]
    simp only [List.append_assoc, List.cons_append, List.nil_append]

theorem place_run (m : Map) (first second : Hint) (isPair : Bool) (cnt ix : Nat) (hix : ix ≤ m.len)
    (hroom : m.len + cnt ≤ m.edges.length) (hcnt : cnt = if isPair then 2 else 1) :
    ∃ m', place m first second isPair cnt ix = some m' ∧
      m'.len = m.len + cnt ∧ m'.edges.length = m.edges.length ∧
      m'.edges.take m'.len =
        (m.edges.take m.len).take ix ++ (if isPair then [first, second] else [first]) ++ (m.edges.take m.len).drop ix := by
  obtain ⟨E, n⟩ := m
  obtain ⟨k, rfl⟩ : ∃ k, n = ix + k := Nat.exists_eq_add_of_le hix
  dsimp only at hroom ⊢
  -- after making room the cells `ix .. ix + cnt` are free and the `k` active edges above `ix` follow them
  have hmv : (if (ix != ix + k) = true then shiftUp E ix cnt (ix + k - 1 - ix) else some E) =
      some (E.take (ix + cnt) ++ (E.drop ix).take k ++ E.drop (ix + cnt + k)) := by
    cases k with
    | zero => rw [if_neg (by simp), List.take_zero, List.append_nil]; exact congrArg some (List.take_append_drop ..).symm
    | succ k =>
      rw [if_pos (by simp), show ix + (k + 1) - 1 - ix = k by omega, shiftUp_eq ix cnt k E (by omega)]; rfl
  have htk : (E.take (ix + cnt)).length = ix + cnt := List.length_take_of_le (by omega)
  have hmid : ((E.drop ix).take k).length = k := List.length_take_of_le (by rw [List.length_drop]; omega)
  generalize he1 : E.take (ix + cnt) ++ (E.drop ix).take k ++ E.drop (ix + cnt + k) = e1 at hmv
  have hl1 : e1.length = E.length := by
    rw [← he1, List.length_append, List.length_append, htk, hmid, List.length_drop]; omega
  have hP : e1.take ix = E.take ix := by
    rw [← he1, List.append_assoc, List.take_append_of_le_length (by omega), List.take_take,
      Nat.min_eq_left (Nat.le_add_right _ _)]
  have hR : e1.drop (ix + cnt) = (E.drop ix).take k ++ E.drop (ix + cnt + k) := by
    rw [← he1, List.append_assoc, List.drop_left' htk]
  -- once the writes have replaced the free cells by the new edges, the active part is the splice
  have fin : ∀ new : List Hint, new.length = cnt → (e1.take ix ++ new ++ e1.drop (ix + cnt)).take (ix + k + cnt) =
      (E.take (ix + k)).take ix ++ new ++ (E.take (ix + k)).drop ix := fun new hcn => by
    rw [hP, hR, ← List.append_assoc, List.take_left' (by
        rw [List.length_append, List.length_append, List.length_take_of_le (by omega), hcn, hmid]; omega),
      List.take_take, Nat.min_eq_left (Nat.le_add_right _ _), List.drop_take, Nat.add_sub_cancel_left]
  have hb := set_block e1 ix first second
  have hc1 : 1 ≤ cnt := by rw [hcnt]; split <;> omega
  unfold place
  dsimp only
  rw [hmv]
  dsimp only
  rw [setAt_ok first (by omega)]
  cases isPair with
  | false =>
    have hc : cnt = 1 := hcnt
    subst hc
    exact ⟨_, rfl, rfl, (List.length_set ..).trans hl1, hb.1 (by omega) ▸ fin [first] rfl⟩
  | true =>
    have hc : cnt = 2 := hcnt
    subst hc
    dsimp only
    rw [if_pos rfl, setAt_ok second (by rw [List.length_set]; omega)]
    exact ⟨_, rfl, rfl, by simp only [List.length_set]; exact hl1, hb.2 (by omega) ▸ fin [first, second] rfl⟩

/-- the active edges form a sequence of UNITS: a single edge that is not flagged as part of a pair, or a pair-bottom
    edge immediately followed by its pair-top edge -/
inductive Units : List Hint → Prop
  | nil : Units []
  | single (h : Hint) (rest : List Hint) : h.isPair = false → Units rest → Units (h :: rest)
  | pair (b t : Hint) (rest : List Hint) : b.isPair = true → b.isPairTop = false → t.isPairTop = true → Units rest →
      Units (b :: t :: rest)

theorem isPairTop_isPair {h : Hint} (ht : h.isPairTop = true) : h.isPair = true := by
  unfold Hint.isPairTop at ht; unfold Hint.isPair; simp [ht]

theorem units_append {a b : List Hint} (ha : Units a) (hb : Units b) : Units (a ++ b) := by
  induction ha with
  | nil => exact hb
  | single h rest hp _ ih => exact Units.single h _ hp ih
  | pair b' t rest h1 h2 h3 _ ih => exact Units.pair b' t _ h1 h2 h3 ih

/-- a position whose edge is not a pair top (or the end) is a unit boundary -/
theorem units_split : ∀ (l : List Hint), Units l → ∀ (ix : Nat), ix ≤ l.length →
    (∀ e, l[ix]? = some e → e.isPairTop = false) → Units (l.take ix) ∧ Units (l.drop ix) := by
  intro l hu
  induction hu with
  | nil => intro ix _ _; simp; exact Units.nil
  | single h rest hp hr ih =>
    intro ix hix hnt
    cases ix with
    | zero => simp; exact ⟨Units.nil, Units.single h rest hp hr⟩
    | succ k =>
      have := ih k (by simp at hix; omega) (by intro e he; exact hnt e (by simpa using he))
      simp only [List.take_succ_cons, List.drop_succ_cons]
      exact ⟨Units.single h _ hp this.1, this.2⟩
  | pair b t rest h1 h2 h3 hr ih =>
    intro ix hix hnt
    cases ix with
    | zero => simp; exact ⟨Units.nil, Units.pair b t rest h1 h2 h3 hr⟩
    | succ k =>
      cases k with
      | zero =>
        -- between bottom and top: excluded, the edge there is a pair top
        have := hnt t (by simp)
        rw [h3] at this; cases this
      | succ k2 =>
        have := ih k2 (by simp at hix; omega) (by intro e he; exact hnt e (by simpa using he))
        simp only [List.take_succ_cons, List.drop_succ_cons]
        exact ⟨Units.pair b t _ h1 h2 h3 this.1, this.2⟩

theorem units_at {A : List Hint} {i : Nat} (hu : Units (A.drop i)) (hi : i < A.length) :
    ∃ hd, A[i]? = some hd ∧
      ((hd.isPair = false ∧ Units (A.drop (i + 1))) ∨
       (hd.isPair = true ∧ ∃ t, i + 1 < A.length ∧ A[i + 1]? = some t ∧ Units (A.drop (i + 2)))) := by
  rw [List.drop_eq_getElem_cons hi] at hu
  refine ⟨A[i], List.getElem?_eq_getElem hi, ?_⟩
  generalize hr : A.drop (i + 1) = r at hu
  cases hu with
  | single _ _ hp hrest => exact .inl ⟨hp, hrest⟩
  | pair _ t rest h1 _ _ hrest =>
    have ht : A[i + 1]? = some t := by rw [← List.head?_drop, hr]; rfl
    refine .inr ⟨h1, t, (List.getElem?_eq_some_iff.1 ht).1, ht, ?_⟩
    rw [show i + 2 = i + 1 + 1 from rfl, ← List.tail_drop, hr]; exact hrest

/-- the hints `build` hands to `insert` (`Hint::setup`, the em-box ghosts, the baseline ghost; `lock()` only adds
    LOCKED): a single edge that is not flagged as a pair edge, or a pair-bottom edge with its pair-top edge -/
def Shaped (bottom top : Hint) : Prop :=
  if (bottom.isValid && top.isValid) = true then
    bottom.isPair = true ∧ bottom.isPairTop = false ∧ top.isPairTop = true
  else (if (!bottom.isValid) = true then top else bottom).isPair = false

instance (bottom top : Hint) : Decidable (Shaped bottom top) := by unfold Shaped; infer_instance

def newEdges (bottom top : Hint) : List Hint :=
  if (bottom.isValid && top.isValid) = true then [if (!bottom.isValid) = true then top else bottom, top]
  else [if (!bottom.isValid) = true then top else bottom]

theorem newEdges_length_le (bottom top : Hint) : (newEdges bottom top).length ≤ 2 := by
  unfold newEdges; split <;> simp

theorem newEdges_units {bottom top : Hint} (hs : Shaped bottom top) : Units (newEdges bottom top) := by
  unfold Shaped at hs
  unfold newEdges
  cases hp : (bottom.isValid && top.isValid)
  · rw [hp] at hs; exact Units.single _ _ hs Units.nil
  · rw [hp] at hs
    have hb : bottom.isValid = true := by simp at hp; exact hp.1
    simp only [hb, Bool.not_true, Bool.false_eq_true, if_false, if_true]
    exact Units.pair _ _ _ hs.1 hs.2.1 hs.2.2 Units.nil

theorem insert_refines (m : Map) (bottom top : Hint) (hwf : WF m) :
    ∃ m', HintMap.insert m bottom top = some m' ∧
      (m' = m ∨ ∃ ix, ix ≤ m.len ∧ (∀ e, (m.edges.take m.len)[ix]? = some e → e.isPairTop = false) ∧ WF m' ∧
        m'.len = m.len + (newEdges bottom top).length ∧
        m'.edges.take m'.len =
          (m.edges.take m.len).take ix ++ newEdges bottom top ++ (m.edges.take m.len).drop ix) := by
  unfold HintMap.insert insertWith newEdges
  dsimp only
  generalize hp : (bottom.isValid && top.isValid) = isPair
  generalize (if (!bottom.isValid) = true then top else bottom) = first
  by_cases h1 : (isPair && decide (top.cs < bottom.cs)) = true
  · rw [if_pos h1]; exact ⟨m, rfl, .inl rfl⟩
  rw [if_neg h1]
  generalize hcnt : (if isPair = true then 2 else 1) = cnt
  by_cases hfit : wontFit m.len cnt = true
  · rw [if_pos hfit]; exact ⟨m, rfl, .inl rfl⟩
  rw [if_neg hfit]
  have hroom : m.len + cnt ≤ MAX_HINTS := by simp only [wontFit, decide_eq_true_eq] at hfit; omega
  obtain ⟨ix, hix, hixle⟩ := findIx_ok m.edges m.len first.cs (by have := hwf.1; have := hwf.2; omega) m.len 0 (by omega)
  obtain ⟨b, hb⟩ := discard_ok m first top isPair ix hwf hixle
  rw [hix]; dsimp only; rw [hb]
  cases b with
  | true => exact ⟨m, rfl, .inl rfl⟩
  | false =>
    obtain ⟨m', hm', e1, e2, e3⟩ := place_run m first top isPair cnt ix hixle (hwf.1 ▸ hroom) hcnt.symm
    refine ⟨m', hm', .inr ⟨ix, hixle, fun e he => ?_, ⟨e2.trans hwf.1, e1 ▸ hroom⟩, ?_, e3⟩⟩
    · by_cases hlt : ix < m.len
      · rw [take_getElem? _ _ _ hlt] at he
        exact discard_false_not_top m first top isPair ix hb hlt e he
      · rw [List.getElem?_take, if_neg hlt] at he; cases he
    · rw [e1, ← hcnt]; cases isPair <;> rfl

theorem insert_units (m m' : Map) (bottom top : Hint) (hwf : WF m) (hu : Units (m.edges.take m.len))
    (hs : Shaped bottom top) (h : HintMap.insert m bottom top = some m') : Units (m'.edges.take m'.len) := by
  obtain ⟨m1, hm1, hsh⟩ := insert_refines m bottom top hwf
  cases hm1.symm.trans h
  rcases hsh with rfl | ⟨ix, hix, hb, _, _, e⟩
  · exact hu
  · have hlen : (m.edges.take m.len).length = m.len := by
      simp [List.length_take]; have := hwf.1; have := hwf.2; omega
    obtain ⟨u1, u2⟩ := units_split _ hu ix (by rw [hlen]; exact hix) hb
    exact e ▸ units_append (units_append u1 (newEdges_units hs)) u2

/-- what is known about a saved index: the edge above exists, and a pair edge is never at index 0 -/
def SavedOk (edges : List Hint) (len : Nat) (saved : List Nat) : Prop :=
  ∀ j ∈ saved, j + 1 < len ∧ (∀ e, edges[j]? = some e → e.isPair = true → 1 ≤ j)

theorem adjustUnit_ok (edges : List Hint) (len : Nat) (ora : Nat → Nat → Bool) (i j : Nat) (saved : List Nat)
    (hlen : len ≤ edges.length) (hl96 : len ≤ MAX_HINTS) (hij : i ≤ j) (hj : j < len) (hs : saved.length ≤ i) :
    ∃ saved', adjustUnit edges len ora i j saved = some saved' ∧
      (saved' = saved ∨ (saved' = j :: saved ∧ j + 1 < len)) := by
  unfold adjustUnit
  obtain ⟨vj, hvj⟩ := getAt_ok (l := edges) (i := j) (by omega)
  rw [hvj]
  simp only []
  have hup : ∃ b, (if j ≥ len - 1 then some true else (getAt edges (j + 1)).map (fun _ => ora i 0)) = some b := by
    split
    · exact ⟨true, rfl⟩
    · obtain ⟨v, hv⟩ := getAt_ok (l := edges) (i := j + 1) (by omega)
      rw [hv]; exact ⟨_, rfl⟩
  obtain ⟨up, hup⟩ := hup
  rw [hup]
  simp only []
  have hdown : ∃ b, (if i = 0 then some true else (getAt edges (i - 1)).map (fun _ => ora i 1)) = some b := by
    split
    · exact ⟨true, rfl⟩
    · obtain ⟨v, hv⟩ := getAt_ok (l := edges) (i := i - 1) (by omega)
      rw [hv]; exact ⟨_, rfl⟩
  obtain ⟨down, hdown⟩ := hdown
  rw [hdown]
  simp only []
  by_cases hsv : ((if up = true then false else if down = true then ora i 2 else true) = true ∧ j < len - 1)
  · rw [if_pos hsv]
    obtain ⟨v, hv⟩ := getAt_ok (l := edges) (i := j + 1) (by omega)
    rw [hv]
    simp only []
    by_cases hl : (!v.isLocked) = true
    · rw [if_pos hl, if_pos (by omega)]
      exact ⟨_, rfl, Or.inr ⟨rfl, by omega⟩⟩
    · rw [if_neg hl]
      exact ⟨_, rfl, Or.inl rfl⟩
  · rw [if_neg hsv]
    exact ⟨_, rfl, Or.inl rfl⟩

theorem adjustPass1_ok (edges : List Hint) (len : Nat) (ora : Nat → Nat → Bool) (hlen : len ≤ edges.length)
    (hl96 : len ≤ MAX_HINTS) :
    ∀ (fuel i : Nat) (saved : List Nat), i ≤ len → Units ((edges.take len).drop i) → saved.length ≤ i →
      SavedOk edges len saved →
      ∃ saved', adjustPass1 edges len ora fuel i saved = some saved' ∧ SavedOk edges len saved' := by
  intro fuel
  induction fuel with
  | zero => intro i saved _ _ _ hs; exact ⟨saved, rfl, hs⟩
  | succ fuel ih =>
    intro i saved hi hu hsl hs
    unfold adjustPass1
    by_cases hlt : i < len
    rotate_left
    · rw [if_neg hlt]; exact ⟨saved, rfl, hs⟩
    rw [if_pos hlt]
    have hAlen : (edges.take len).length = len := List.length_take_of_le hlen
    -- the unit starting at `i`
    obtain ⟨hd, g1, hnext⟩ := units_at hu (hAlen.symm ▸ hlt)
    rw [take_getElem? _ _ _ hlt] at g1
    have hget : getAt edges i = some hd := g1
    rw [hget]
    simp only []
    have hunit : ∀ j, i ≤ j → j < len → (∀ e, edges[j]? = some e → e.isPair = true → 1 ≤ j) →
        ∃ saved1, (if (!hd.isLocked) = true then adjustUnit edges len ora i j saved else some saved) = some saved1 ∧
          SavedOk edges len saved1 ∧ saved1.length ≤ j + 1 := by
      intro j hij hj hpj
      split
      · obtain ⟨s1, h1, h2⟩ := adjustUnit_ok edges len ora i j saved hlen hl96 hij hj hsl
        rcases h2 with rfl | ⟨rfl, hj1⟩
        · exact ⟨_, h1, hs, by omega⟩
        · refine ⟨_, h1, fun k hk => ?_, by simp; omega⟩
          rcases List.mem_cons.mp hk with rfl | hk
          · exact ⟨hj1, hpj⟩
          · exact hs k hk
      · exact ⟨saved, rfl, hs, by omega⟩
    have hprev : ∃ u, (if i > 0 then (getAt edges (i - 1)).map (fun _ => ()) else some ()) = some u := by
      split
      · obtain ⟨v, hv⟩ := getAt_ok (l := edges) (i := i - 1) (by omega)
        rw [hv]; exact ⟨_, rfl⟩
      · exact ⟨_, rfl⟩
    obtain ⟨u, hprev⟩ := hprev
    rcases hnext with ⟨hnp, hur⟩ | ⟨hp, t, k3, k1, hur⟩
    · -- a single edge: j = i
      simp only [hnp, Bool.false_eq_true, if_false]
      obtain ⟨saved1, h1, hs1, hl1⟩ := hunit i (Nat.le_refl _) hlt (fun e he hpe => by
        rw [g1] at he; cases he; rw [hnp] at hpe; cases hpe)
      rw [h1]
      simp only []
      rw [hprev]
      simp only []
      exact ih (i + 1) saved1 (by omega) hur hl1 hs1
    · -- a pair: j = i + 1, and the top edge exists
      simp only [hp, if_true]
      rw [hAlen] at k3
      rw [take_getElem? _ _ _ k3] at k1
      obtain ⟨saved1, h1, hs1, hl1⟩ := hunit (i + 1) (Nat.le_succ _) k3 (fun _ _ _ => Nat.succ_pos _)
      rw [h1]
      simp only []
      rw [hprev]
      simp only []
      have hgj : getAt edges (i + 1) = some t := k1
      rw [hgj]
      simp only []
      exact ih (i + 2) saved1 (by omega) hur hl1 hs1

theorem adjustPass2_ok (edges : List Hint) (len : Nat) (hlen : len ≤ edges.length) :
    ∀ (saved : List Nat), SavedOk edges len saved → adjustPass2 edges saved = some () := by
  intro saved
  induction saved with
  | nil => intro _; rfl
  | cons j rest ih =>
    intro hs
    have hj := hs j (by simp)
    have hrest : SavedOk edges len rest := fun k hk => hs k (by simp [hk])
    unfold adjustPass2
    obtain ⟨v1, hv1⟩ := getAt_ok (l := edges) (i := j + 1) (by omega)
    obtain ⟨v0, hv0⟩ := getAt_ok (l := edges) (i := j) (by omega)
    rw [hv1, hv0]
    simp only []
    split
    · rename_i hp
      have := hj.2 v0 hv0 hp
      rw [if_neg (by omega)]
      obtain ⟨v2, hv2⟩ := getAt_ok (l := edges) (i := j - 1) (by omega)
      rw [hv2]
      exact ih hrest
    · exact ih hrest

theorem transformUp_ok (edges : List Hint) (limit : Nat) (ge : Nat → Bool) (hl : limit < edges.length) :
    ∀ (fuel i : Nat), i ≤ limit → ∃ r, transformUp edges limit ge fuel i = some r ∧ r ≤ limit := by
  intro fuel
  induction fuel with
  | zero => intro i hi; exact ⟨i, rfl, hi⟩
  | succ f ih =>
    intro i hi
    unfold transformUp
    split
    · obtain ⟨v, hv⟩ := getAt_ok (l := edges) (i := i + 1) (by omega)
      rw [hv]
      simp only []
      split
      · exact ih (i + 1) (by omega)
      · exact ⟨i, rfl, hi⟩
    · exact ⟨i, rfl, hi⟩

theorem transformDown_ok (edges : List Hint) (lt : Nat → Bool) :
    ∀ (fuel i : Nat), i < edges.length → ∃ r, transformDown edges lt fuel i = some r ∧ r ≤ i := by
  intro fuel
  induction fuel with
  | zero => intro i hi; exact ⟨i, rfl, Nat.le_refl _⟩
  | succ f ih =>
    intro i hi
    unfold transformDown
    split
    · obtain ⟨v, hv⟩ := getAt_ok (l := edges) (i := i) hi
      rw [hv]
      simp only []
      split
      · obtain ⟨r, hr, hle⟩ := ih (i - 1) (by omega)
        exact ⟨r, hr, by omega⟩
      · exact ⟨i, rfl, Nat.le_refl _⟩
    · exact ⟨i, rfl, Nat.le_refl _⟩

end FontVerif.HintMap
