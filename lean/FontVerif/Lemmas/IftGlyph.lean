/-
C18 — glyph-keyed patch application at the level of fonts (`apply_glyph_keyed_patches` after decoding), in
this order: the arms (`ownerOf`, `armOf_ok`), the per-tag loop, the applied bits (`markedTable`), `table_tag_list`,
the table-by-table characterisation of a successful result (`tableAfter`, `applyGlyphPatches_char`), reading
glyf/loca and reading the spliced loca back.
-/
import FontVerif.Lemmas.Base
import FontVerif.Lemmas.SortedMap
import FontVerif.Lemmas.Ift
import FontVerif.Lemmas.IftDedup
namespace FontVerif.Ift

theorem insertTable_sorted (t : Tag) (d : Bytes) (f : Font) (hs : SortedGids f) :
    SortedGids (insertTable t d f) := by
  rw [insertTable_eq]; exact SMap.insert_sorted t d hs

theorem copyUnprocessed_sorted (font : Font) (processed : List Tag) (b : Font) (hs : SortedGids b) :
    SortedGids (copyUnprocessed font processed b) := by
  unfold copyUnprocessed
  induction font generalizing b with
  | nil => exact hs
  | cons hd tl ih =>
    simp only [List.foldl_cons]
    apply ih
    split
    · exact hs
    · exact insertTable_sorted _ _ _ hs

theorem sorted_unique (f : Font) (hs : SortedGids f) : UniqueTags f := by
  unfold UniqueTags
  unfold SortedGids at hs
  rw [List.nodup_iff_pairwise_ne, List.pairwise_map]
  exact hs.imp (fun h => Nat.ne_of_lt h)

/-- the arm (a tag of `table_tag_list`) that writes table `t` -/
def ownerOf (t : Tag) : Option Tag :=
  if t = TAG_glyf ∨ t = TAG_loca then some TAG_glyf
  else if t = TAG_gvar then some TAG_gvar
  else if t = TAG_CFF then some TAG_CFF
  else if t = TAG_CFF2 then some TAG_CFF2
  else none

def IsArmTag (tag : Tag) : Prop := tag = TAG_glyf ∨ tag = TAG_gvar ∨ tag = TAG_CFF ∨ tag = TAG_CFF2

instance (tag : Tag) : Decidable (IsArmTag tag) := by unfold IsArmTag; infer_instance

theorem ownerOf_eq_iff (t tag : Nat) : ownerOf t = some tag ↔
    (tag = TAG_glyf ∧ (t = TAG_glyf ∨ t = TAG_loca)) ∨ (tag = TAG_gvar ∧ t = TAG_gvar) ∨
    (tag = TAG_CFF ∧ t = TAG_CFF) ∨ (tag = TAG_CFF2 ∧ t = TAG_CFF2) := by
  unfold ownerOf
  by_cases c1 : t = TAG_glyf ∨ t = TAG_loca
  · rw [if_pos c1]; simp only [Option.some.injEq, TAG_glyf, TAG_loca, TAG_gvar, TAG_CFF, TAG_CFF2] at *
    constructor
    · intro hh; exact Or.inl ⟨hh.symm, c1⟩
    · rintro (⟨e, _⟩ | ⟨_, e⟩ | ⟨_, e⟩ | ⟨_, e⟩) <;> first | exact e.symm | omega
  · rw [if_neg c1]
    by_cases c2 : t = TAG_gvar
    · rw [if_pos c2]; simp only [Option.some.injEq, TAG_glyf, TAG_loca, TAG_gvar, TAG_CFF, TAG_CFF2] at *
      constructor
      · intro hh; exact Or.inr (Or.inl ⟨hh.symm, c2⟩)
      · rintro (⟨_, e⟩ | ⟨e, _⟩ | ⟨_, e⟩ | ⟨_, e⟩) <;> first | exact e.symm | omega
    · rw [if_neg c2]
      by_cases c3 : t = TAG_CFF
      · rw [if_pos c3]; simp only [Option.some.injEq, TAG_glyf, TAG_loca, TAG_gvar, TAG_CFF, TAG_CFF2] at *
        constructor
        · intro hh; exact Or.inr (Or.inr (Or.inl ⟨hh.symm, c3⟩))
        · rintro (⟨_, e⟩ | ⟨_, e⟩ | ⟨e, _⟩ | ⟨_, e⟩) <;> first | exact e.symm | omega
      · rw [if_neg c3]
        by_cases c4 : t = TAG_CFF2
        · rw [if_pos c4]; simp only [Option.some.injEq, TAG_glyf, TAG_loca, TAG_gvar, TAG_CFF, TAG_CFF2] at *
          constructor
          · intro hh; exact Or.inr (Or.inr (Or.inr ⟨hh.symm, c4⟩))
          · rintro (⟨_, e⟩ | ⟨_, e⟩ | ⟨_, e⟩ | ⟨e, _⟩) <;> first | exact e.symm | omega
        · rw [if_neg c4]; simp only [reduceCtorEq, false_iff, TAG_glyf, TAG_loca, TAG_gvar, TAG_CFF, TAG_CFF2] at *
          rintro (⟨_, e⟩ | ⟨_, e⟩ | ⟨_, e⟩ | ⟨_, e⟩) <;> first | exact e.symm | omega

theorem ownerOf_glyf_iff (t : Nat) : ownerOf t = some TAG_glyf ↔ (t = TAG_glyf ∨ t = TAG_loca) := by
  rw [ownerOf_eq_iff]
  constructor
  · rintro (⟨_, e⟩ | ⟨e, _⟩ | ⟨e, _⟩ | ⟨e, _⟩)
    · exact e
    · exact absurd e (by decide)
    · exact absurd e (by decide)
    · exact absurd e (by decide)
  · intro e; exact Or.inl ⟨rfl, e⟩

theorem ownerOf_single_iff (t tag : Nat) (h : tag = TAG_gvar ∨ tag = TAG_CFF ∨ tag = TAG_CFF2) :
    ownerOf t = some tag ↔ t = tag := by
  rw [ownerOf_eq_iff]
  constructor
  · rintro (⟨e, _⟩ | ⟨e1, e2⟩ | ⟨e1, e2⟩ | ⟨e1, e2⟩)
    · subst e; rcases h with h | h | h <;> exact absurd h (by decide)
    · rw [e1, e2]
    · rw [e1, e2]
    · rw [e1, e2]
  · intro e
    subst e
    rcases h with h | h | h
    · exact Or.inr (Or.inl ⟨h, h⟩)
    · exact Or.inr (Or.inr (Or.inl ⟨h, h⟩))
    · exact Or.inr (Or.inr (Or.inr ⟨h, h⟩))

theorem ownerOf_some (t tag : Tag) (h : ownerOf t = some tag) : IsArmTag tag := by
  unfold IsArmTag
  rcases (ownerOf_eq_iff t tag).mp h with ⟨e, _⟩ | ⟨e, _⟩ | ⟨e, _⟩ | ⟨e, _⟩
  · exact Or.inl e
  · exact Or.inr (Or.inl e)
  · exact Or.inr (Or.inr (Or.inl e))
  · exact Or.inr (Or.inr (Or.inr e))

theorem ownerOf_mapping (t : Tag) (h : t = TAG_IFT ∨ t = TAG_IFTX) : ownerOf t = none := by
  rcases h with e | e <;> subst e <;> decide

theorem armOf_glyf (font : Font) (gps : List GlyphPatches) (m : Nat) :
    armOf font gps m TAG_glyf = some (glyfArm font gps m) := rfl

theorem armOf_gvar (font : Font) (gps : List GlyphPatches) (m : Nat) :
    armOf font gps m TAG_gvar = some (oneTable TAG_gvar (gvarPatch (font.get TAG_gvar) gps m)) := rfl

theorem armOf_cff (font : Font) (gps : List GlyphPatches) (m : Nat) (v2 : Bool) :
    armOf font gps m (cffTag v2)
      = some (oneTable (cffTag v2) (cffPatch v2 (font.get TAG_IFT) (font.get (cffTag v2)) gps m)) := by
  cases v2 <;> rfl

theorem IsArmTag.cases {tag : Tag} (h : IsArmTag tag) :
    tag = TAG_glyf ∨ tag = TAG_gvar ∨ ∃ v2, tag = cffTag v2 := by
  rcases h with e | e | e | e
  · exact Or.inl e
  · exact Or.inr (Or.inl e)
  · exact Or.inr (Or.inr ⟨false, e⟩)
  · exact Or.inr (Or.inr ⟨true, e⟩)

theorem cffTag_cases (v2 : Bool) : cffTag v2 = TAG_gvar ∨ cffTag v2 = TAG_CFF ∨ cffTag v2 = TAG_CFF2 := by
  cases v2
  · exact Or.inr (Or.inl rfl)
  · exact Or.inr (Or.inr rfl)

theorem isArmTag_cffTag (v2 : Bool) : IsArmTag (cffTag v2) := by
  cases v2
  · exact Or.inr (Or.inr (Or.inl rfl))
  · exact Or.inr (Or.inr (Or.inr rfl))

theorem ownerOf_cffTag (v2 : Bool) : ownerOf (cffTag v2) = some (cffTag v2) := by cases v2 <;> decide

theorem armOf_none_iff (font : Font) (gps : List GlyphPatches) (m : Nat) (tag : Tag) :
    armOf font gps m tag = none ↔ ¬ IsArmTag tag := by
  constructor
  · intro h harm
    rcases harm.cases with e | e | ⟨v2, e⟩ <;> subst e
    · rw [armOf_glyf] at h; cases h
    · rw [armOf_gvar] at h; cases h
    · rw [armOf_cff] at h; cases h
  · intro h
    unfold IsArmTag at h
    unfold armOf
    rw [if_neg (fun e => h (Or.inl e)), if_neg (fun e => h (Or.inr (Or.inl e))),
      if_neg (fun e => h (Or.inr (Or.inr (Or.inl e)))), if_neg (fun e => h (Or.inr (Or.inr (Or.inr e))))]

theorem armOf_some_isArmTag (font : Font) (gps : List GlyphPatches) (m : Nat) (tag : Tag)
    (r : Except PErr (List (Tag × Bytes))) (h : armOf font gps m tag = some r) : IsArmTag tag := by
  apply Classical.byContradiction
  intro hn
  rw [(armOf_none_iff font gps m tag).mpr hn] at h
  cases h

/-- what a (successful) arm adds to the builder; `[]` for ignored tags -/
def armOuts (font : Font) (gps : List GlyphPatches) (m : Nat) (tag : Tag) : List (Tag × Bytes) :=
  match armOf font gps m tag with
  | some (.ok outs) => outs
  | _ => []

theorem armOuts_ok (font : Font) (gps : List GlyphPatches) (m : Nat) (tag : Tag) (outs : List (Tag × Bytes))
    (h : armOf font gps m tag = some (.ok outs)) : armOuts font gps m tag = outs := by
  simp [armOuts, h]

theorem oneTable_ok (tag : Tag) (r : Except PErr Bytes) (outs : List (Tag × Bytes))
    (h : oneTable tag r = .ok outs) : ∃ b, r = .ok b ∧ outs = [(tag, b)] := by
  unfold oneTable at h
  cases r with
  | error e => cases h
  | ok b => simp only [Except.ok.injEq] at h; exact ⟨b, rfl, h.symm⟩

theorem glyfArm_ok (font : Font) (gps : List GlyphPatches) (m : Nat) (outs : List (Tag × Bytes))
    (h : glyfArm font gps m = .ok outs) :
    ∃ a repl data offs, glyfAndLoca font = some a ∧ dedup TAG_glyf gps = .ok repl ∧
      patchOffsetArray a repl m = .ok (a.offsetType, data, offs) ∧
      outs = [(TAG_glyf, data), (TAG_loca, offs)] := by
  unfold glyfArm at h
  cases ha : glyfAndLoca font with
  | none => rw [ha] at h; cases h
  | some a =>
    rw [ha] at h
    simp only at h
    cases hd : dedup TAG_glyf gps with
    | error e => rw [hd] at h; cases h
    | ok repl =>
      rw [hd] at h
      simp only at h
      cases hp : patchOffsetArray a repl m with
      | error e => rw [hp] at h; cases h
      | ok r =>
        obtain ⟨t, data, offs⟩ := r
        rw [hp] at h
        simp only at h
        by_cases ht : t = a.offsetType
        · subst ht
          simp only [ne_eq, not_true_eq_false, if_false, Except.ok.injEq] at h
          exact ⟨a, repl, data, offs, rfl, rfl, hp, h.symm⟩
        · simp only [ne_eq, ht, not_false_eq_true, if_true] at h; cases h

theorem gvarPatch_ok (b : Bytes) (gps : List GlyphPatches) (m : Nat) (out : Bytes)
    (h : gvarPatch (some b) gps m = .ok out) :
    ∃ v repl t data offs, gvarRead b = some v ∧ dedup TAG_gvar gps = .ok repl ∧
      patchOffsetArray (gvarArray b v) repl m = .ok (t, data, offs) ∧
      gvarAssemble b v t data offs = .ok out := by
  unfold gvarPatch at h
  cases hr : gvarRead b with
  | none => simp [hr] at h
  | some v =>
    simp only [hr, Option.bind_some, Option.map_some] at h
    cases hd : dedup TAG_gvar gps with
    | error e => rw [hd] at h; cases h
    | ok repl =>
      rw [hd] at h
      simp only at h
      cases hp : patchOffsetArray (gvarArray b v) repl m with
      | error e => rw [hp] at h; cases h
      | ok r =>
        obtain ⟨t, data, offs⟩ := r
        rw [hp] at h
        exact ⟨v, repl, t, data, offs, rfl, rfl, hp, h⟩

theorem gvarPatch_some (g : Option Bytes) (gps : List GlyphPatches) (m : Nat) (out : Bytes)
    (h : gvarPatch g gps m = .ok out) : ∃ b, g = some b := by
  cases g with
  | none => simp [gvarPatch] at h
  | some b => exact ⟨b, rfl⟩

theorem cffPatch_ok (v2 : Bool) (ift : Option Bytes) (b : Bytes) (gps : List GlyphPatches) (m : Nat)
    (out : Bytes) (h : cffPatch v2 ift (some b) gps m = .ok out) :
    ∃ at_ ix t0 repl t data offs, iftCharstringsOffset ift v2 = some at_ ∧
      cffView v2 b at_ m = .ok (ix, t0) ∧ dedup (cffTag v2) gps = .ok repl ∧
      patchOffsetArray (cffArray ix t0) repl m = .ok (t, data, offs) ∧
      out = cffAssemble v2 b at_ ix.count t data offs := by
  unfold cffPatch at h
  cases ha : iftCharstringsOffset ift v2 with
  | none => rw [ha] at h; cases h
  | some at_ =>
    rw [ha] at h
    simp only at h
    cases hv : cffView v2 b at_ m with
    | error e => rw [hv] at h; cases h
    | ok r =>
      obtain ⟨ix, t0⟩ := r
      rw [hv] at h
      simp only at h
      cases hd : dedup (cffTag v2) gps with
      | error e => rw [hd] at h; cases h
      | ok repl =>
        rw [hd] at h
        simp only at h
        cases hp : patchOffsetArray (cffArray ix t0) repl m with
        | error e => rw [hp] at h; cases h
        | ok r =>
          obtain ⟨t, data, offs⟩ := r
          rw [hp] at h
          simp only [Except.ok.injEq] at h
          exact ⟨at_, ix, t0, repl, t, data, offs, rfl, hv, rfl, hp, h.symm⟩

theorem cffPatch_some (v2 : Bool) (ift g : Option Bytes) (gps : List GlyphPatches) (m : Nat) (out : Bytes)
    (h : cffPatch v2 ift g gps m = .ok out) : ∃ b, g = some b := by
  cases g with
  | none =>
    unfold cffPatch at h
    cases hi : iftCharstringsOffset ift v2 <;> rw [hi] at h <;> cases h
  | some b => exact ⟨b, rfl⟩

theorem armOf_gvar_ok (font : Font) (gps : List GlyphPatches) (m : Nat) (outs : List (Tag × Bytes))
    (h : armOf font gps m TAG_gvar = some (.ok outs)) :
    ∃ b o, font.get TAG_gvar = some b ∧ gvarPatch (some b) gps m = .ok o ∧ outs = [(TAG_gvar, o)] := by
  obtain ⟨o, po, rfl⟩ := oneTable_ok _ _ _ (Option.some.inj h)
  obtain ⟨b, hb⟩ := gvarPatch_some _ _ _ _ po
  exact ⟨b, o, hb, hb ▸ po, rfl⟩

theorem armOf_cff_ok (font : Font) (gps : List GlyphPatches) (m : Nat) (v2 : Bool) (outs : List (Tag × Bytes))
    (h : armOf font gps m (cffTag v2) = some (.ok outs)) :
    ∃ b o, font.get (cffTag v2) = some b ∧ cffPatch v2 (font.get TAG_IFT) (some b) gps m = .ok o ∧
      outs = [(cffTag v2, o)] := by
  rw [armOf_cff] at h
  obtain ⟨o, po, rfl⟩ := oneTable_ok _ _ _ (Option.some.inj h)
  obtain ⟨b, hb⟩ := cffPatch_some _ _ _ _ _ _ po
  exact ⟨b, o, hb, hb ▸ po, rfl⟩

/-- a successful arm, whatever the table (which array it read is in `glyfArm_ok`, `gvarPatch_ok`, `cffPatch_ok`) -/
theorem armOf_ok (font : Font) (gps : List GlyphPatches) (m : Nat) (tag : Tag) (outs : List (Tag × Bytes))
    (h : armOf font gps m tag = some (.ok outs)) :
    (∃ a repl t data offs, dedup tag gps = .ok repl ∧ patchOffsetArray a repl m = .ok (t, data, offs)) ∧
    (∀ x, x ∈ outs.map (·.1) ↔ ownerOf x = some tag) ∧ (outs.map (·.1)).Nodup := by
  rcases (armOf_some_isArmTag font gps m tag _ h).cases with e | e | ⟨v2, e⟩ <;> subst e
  · obtain ⟨a, repl, data, offs, _, hd, hp, rfl⟩ := glyfArm_ok font gps m outs (Option.some.inj h)
    exact ⟨⟨a, repl, _, data, offs, hd, hp⟩, fun x => by rw [ownerOf_glyf_iff]; simp,
      List.nodup_cons.mpr ⟨by simp [TAG_glyf, TAG_loca], by simp⟩⟩
  · obtain ⟨b, o, _, po, rfl⟩ := armOf_gvar_ok font gps m outs h
    obtain ⟨v, repl, t, data, offs, _, hd, hp, _⟩ := gvarPatch_ok b gps m o po
    exact ⟨⟨_, repl, t, data, offs, hd, hp⟩, fun x => by rw [ownerOf_single_iff x _ (Or.inl rfl)]; simp, by simp⟩
  · obtain ⟨b, o, _, po, rfl⟩ := armOf_cff_ok font gps m v2 outs h
    obtain ⟨_, ix, t0, repl, t, data, offs, _, _, hd, hp, _⟩ := cffPatch_ok v2 _ b gps m o po
    exact ⟨⟨_, repl, t, data, offs, hd, hp⟩,
      fun x => by rw [ownerOf_single_iff x _ (by cases v2 <;> simp [cffTag])]; simp, by simp⟩

theorem arm_ok_dedup (font : Font) (gps : List GlyphPatches) (m : Nat) (tag : Tag)
    (outs : List (Tag × Bytes)) (h : armOf font gps m tag = some (.ok outs)) :
    ∃ repl, dedup tag gps = .ok repl :=
  let ⟨⟨_, repl, _, _, _, hd, _⟩, _⟩ := armOf_ok font gps m tag outs h
  ⟨repl, hd⟩

theorem arm_ok_gids_le (font : Font) (gps : List GlyphPatches) (m : Nat) (tag : Tag)
    (outs : List (Tag × Bytes)) (h : armOf font gps m tag = some (.ok outs)) :
    ∀ g d, firstWins tag gps g = some d → g ≤ m :=
  let ⟨⟨a, repl, t, data, offs, hd, hp⟩, _⟩ := armOf_ok font gps m tag outs h
  firstWins_le tag gps repl hd m (patchOffsetArray_gids_le a repl m (dedup_spec tag gps repl hd).1 t data offs hp)

theorem addOuts_lookup (outs : List (Tag × Bytes)) (hnd : (outs.map (·.1)).Nodup) (p0 : List Tag) (b0 : Font)
    (t : Tag) :
    (addOuts outs (p0, b0)).2.lookup t = (outs.lookup t).or (b0.lookup t) ∧
    (t ∈ (addOuts outs (p0, b0)).1 ↔ t ∈ p0 ∨ t ∈ outs.map (·.1)) := by
  induction outs generalizing p0 b0 with
  | nil => simp [addOuts]
  | cons x xs ih =>
    obtain ⟨k, v⟩ := x
    obtain ⟨hk, hxs⟩ := List.nodup_cons.mp hnd
    obtain ⟨i1, i2⟩ := ih hxs (k :: p0) (insertTable k v b0)
    have hadd : addOuts ((k, v) :: xs) (p0, b0) = addOuts xs (k :: p0, insertTable k v b0) := rfl
    rw [hadd, i1, i2, SMap.lookup_cons, List.map_cons, List.mem_cons, List.mem_cons]
    refine ⟨?_, by rw [or_assoc, or_left_comm]⟩
    by_cases e : t = k
    · subst e
      rw [if_pos rfl, lookup_insertTable_self, lookup_none_of_not_mem xs t hk]; rfl
    · rw [if_neg e, lookup_insertTable_ne _ _ _ _ e]

theorem addOuts_spec (font : Font) (gps : List GlyphPatches) (m : Nat) (tag : Tag)
    (outs : List (Tag × Bytes)) (h : armOf font gps m tag = some (.ok outs)) (p0 : List Tag) (b0 : Font) :
    (∀ t, (addOuts outs (p0, b0)).2.lookup t = if ownerOf t = some tag then outs.lookup t else b0.lookup t) ∧
    (∀ t, t ∈ (addOuts outs (p0, b0)).1 ↔ t ∈ p0 ∨ ownerOf t = some tag) := by
  obtain ⟨_, hown, hnd⟩ := armOf_ok font gps m tag outs h
  have hsome : ∀ t, ownerOf t = some tag → (outs.lookup t).isSome := fun t ho => by
    obtain ⟨x, hx, hxt⟩ := List.mem_map.mp ((hown t).mpr ho)
    exact List.lookup_isSome_iff.mpr ⟨x, hx, by simp [hxt]⟩
  refine ⟨fun t => ?_, fun t => by rw [(addOuts_lookup outs hnd p0 b0 t).2, hown]⟩
  rw [(addOuts_lookup outs hnd p0 b0 t).1]
  by_cases ho : ownerOf t = some tag
  · rw [if_pos ho]
    obtain ⟨d, hd⟩ := Option.isSome_iff_exists.mp (hsome t ho)
    rw [hd]; rfl
  · rw [if_neg ho, lookup_none_of_not_mem outs t (fun hm => ho ((hown t).mp hm))]; rfl

theorem addOuts_sorted (outs : List (Tag × Bytes)) (p : List Tag) (b : Font) (hs : SortedGids b) :
    SortedGids (addOuts outs (p, b)).2 := by
  unfold addOuts
  induction outs generalizing p b with
  | nil => exact hs
  | cons x xs ih =>
    simp only [List.foldl_cons]
    exact ih _ _ (insertTable_sorted _ _ _ hs)

theorem patchTables_cons_ok (font : Font) (gps : List GlyphPatches) (m : Nat) (tag : Tag) (rest : List Tag)
    (st st' : List Tag × Font) (h : patchTables font gps m (tag :: rest) st = .ok st') :
    (∀ r, armOf font gps m tag = some r → ∃ outs, r = .ok outs) ∧
    patchTables font gps m rest (addOuts (armOuts font gps m tag) st) = .ok st' := by
  unfold patchTables at h
  unfold armOuts
  cases ha : armOf font gps m tag with
  | none => rw [ha] at h; exact ⟨fun _ hr => (by cases hr), h⟩
  | some r =>
    rw [ha] at h
    cases r with
    | error e => cases h
    | ok outs => exact ⟨fun r hr => ⟨outs, (Option.some.inj hr).symm⟩, h⟩

theorem patchTables_step (font : Font) (gps : List GlyphPatches) (m : Nat) (tag : Tag) (p0 : List Tag)
    (b0 : Font) (hok : ∀ r, armOf font gps m tag = some r → ∃ outs, r = .ok outs) :
    (∀ t, (addOuts (armOuts font gps m tag) (p0, b0)).2.lookup t =
      if ownerOf t = some tag then (armOuts font gps m tag).lookup t else b0.lookup t) ∧
    (∀ t, t ∈ (addOuts (armOuts font gps m tag) (p0, b0)).1 ↔ t ∈ p0 ∨ ownerOf t = some tag) := by
  cases ha : armOf font gps m tag with
  | none =>
    have hno : ∀ t, ownerOf t ≠ some tag := fun t ho =>
      (armOf_none_iff font gps m tag).mp ha (ownerOf_some t _ ho)
    have hao : armOuts font gps m tag = [] := by simp [armOuts, ha]
    rw [hao]
    exact ⟨fun t => by rw [if_neg (hno t)]; rfl, fun t => by simp [hno t, addOuts]⟩
  | some r =>
    obtain ⟨outs, rfl⟩ := hok r ha
    rw [armOuts_ok font gps m tag outs ha]
    exact addOuts_spec font gps m tag outs ha p0 b0

theorem patchTables_spec (font : Font) (gps : List GlyphPatches) (maxGid : Nat) (tags : List Tag)
    (p0 : List Tag) (b0 : Font) (p : List Tag) (b : Font)
    (h : patchTables font gps maxGid tags (p0, b0) = .ok (p, b)) :
    (∀ tag ∈ tags, ∀ r, armOf font gps maxGid tag = some r → ∃ outs, r = .ok outs) ∧
    (∀ tag ∈ tags, ∀ t, ownerOf t = some tag →
      t ∈ p ∧ b.lookup t = (armOuts font gps maxGid tag).lookup t) ∧
    (∀ t, (∀ tag ∈ tags, ownerOf t ≠ some tag) → (t ∈ p ↔ t ∈ p0) ∧ b.lookup t = b0.lookup t) := by
  induction tags generalizing p0 b0 with
  | nil =>
    simp only [patchTables, Except.ok.injEq, Prod.mk.injEq] at h
    obtain ⟨h1, h2⟩ := h
    subst h1 h2
    exact ⟨fun _ hx => absurd hx List.not_mem_nil, fun _ hx => absurd hx List.not_mem_nil,
      fun t _ => ⟨Iff.rfl, rfl⟩⟩
  | cons tag rest ih =>
    obtain ⟨hok, h'⟩ := patchTables_cons_ok font gps maxGid tag rest _ _ h
    obtain ⟨a1, a2⟩ := patchTables_step font gps maxGid tag p0 b0 hok
    obtain ⟨i1, i2, i3⟩ := ih (addOuts (armOuts font gps maxGid tag) (p0, b0)).1
      (addOuts (armOuts font gps maxGid tag) (p0, b0)).2 h'
    refine ⟨?_, ?_, ?_⟩
    · intro x hx r hr
      rcases List.mem_cons.mp hx with e | e
      · subst e; exact hok r hr
      · exact i1 x e r hr
    · intro tg htg t ho
      -- a later arm with the same tag wins; else the rest of the loop leaves `tag`'s tables alone
      by_cases c : tg ∈ rest
      · exact i2 tg c t ho
      · obtain rfl : tg = tag := (List.mem_cons.mp htg).resolve_right c
        obtain ⟨hm, hl⟩ := i3 t (fun x hx hox => c (Option.some.inj (ho.symm.trans hox) ▸ hx))
        exact ⟨hm.mpr ((a2 t).mpr (Or.inr ho)), by rw [hl, a1 t, if_pos ho]⟩
    · intro t hn
      obtain ⟨hm, hl⟩ := i3 t (fun x hx => hn x (List.mem_cons_of_mem _ hx))
      have hne := hn tag List.mem_cons_self
      exact ⟨by rw [hm, a2 t]; exact or_iff_left hne, by rw [hl, a1 t, if_neg hne]⟩

theorem patchTables_sorted (font : Font) (gps : List GlyphPatches) (maxGid : Nat) (tags : List Tag)
    (p0 : List Tag) (b0 : Font) (p : List Tag) (b : Font) (hs : SortedGids b0)
    (h : patchTables font gps maxGid tags (p0, b0) = .ok (p, b)) : SortedGids b := by
  induction tags generalizing p0 b0 with
  | nil =>
    simp only [patchTables, Except.ok.injEq, Prod.mk.injEq] at h
    rw [← h.2]; exact hs
  | cons tag rest ih =>
    exact ih (addOuts (armOuts font gps maxGid tag) (p0, b0)).1 _ (addOuts_sorted _ p0 b0 hs)
      (patchTables_cons_ok font gps maxGid tag rest _ _ h).2

theorem patchTables_congr (font : Font) (gps gps' : List GlyphPatches) (maxGid : Nat) (tags : List Tag)
    (st : List Tag × Font) (h : ∀ tag ∈ tags, armOf font gps maxGid tag = armOf font gps' maxGid tag) :
    patchTables font gps maxGid tags st = patchTables font gps' maxGid tags st := by
  induction tags generalizing st with
  | nil => simp [patchTables]
  | cons tag rest ih =>
    unfold patchTables
    have ihr : ∀ st, patchTables font gps maxGid rest st = patchTables font gps' maxGid rest st :=
      fun st => ih st (fun x hx => h x (List.mem_cons_of_mem _ hx))
    rw [h tag List.mem_cons_self]
    simp only [ihr]

/-- bit `k` of a byte string, LSB first inside each byte (`application_flag_bit_index`) -/
def bitAt (d : Bytes) (k : Nat) : Bool := (d.getD (k / 8) 0).testBit (k % 8)

/-- the bit indices of the infos that live in IFT (`iftx = false`) or IFTX (`iftx = true`) -/
def bitsFor (iftx : Bool) (infos : List PatchInfo) : List Nat :=
  (infos.filter (fun i => i.iftx == iftx)).map (·.bit)

/-- `*byte |= 1 << bit_index` is `List.modify` at an index in range -/
theorem setAppliedBit_eq (d : Bytes) (b : Nat) :
    setAppliedBit d b = if b / 8 < d.length then some (d.modify (b / 8) (· ||| 1 <<< (b % 8))) else none := by
  unfold setAppliedBit
  by_cases h : b / 8 < d.length
  · rw [if_pos h, List.getElem?_eq_getElem h, List.modify_eq_set, List.getElem?_eq_getElem h]; rfl
  · rw [if_neg h, List.getElem?_eq_none (Nat.le_of_not_lt h)]

theorem setAppliedBit_spec (d d' : Bytes) (b : Nat) (h : setAppliedBit d b = some d') :
    d'.length = d.length ∧ b < 8 * d.length ∧ ∀ k, bitAt d' k = (bitAt d k || k == b) := by
  rw [setAppliedBit_eq] at h
  by_cases hl : b / 8 < d.length
  · rw [if_pos hl] at h
    cases h
    refine ⟨List.length_modify .., by omega, fun k => ?_⟩
    unfold bitAt
    rw [List.getD_eq_getElem?_getD, List.getD_eq_getElem?_getD, List.getElem?_modify]
    by_cases hk : b / 8 = k / 8
    · -- same byte: bit `k % 8` of `x ||| 1 <<< (b % 8)`
      rw [← hk, List.getElem?_eq_getElem hl]
      simp only [if_true, Option.map_eq_map, Option.map_some, Option.getD_some, Nat.testBit_or, Nat.one_shiftLeft,
        Nat.testBit_two_pow]
      congr 1
      by_cases hkb : k = b
      · subst hkb; simp
      · have : ¬ (b % 8 = k % 8) := by omega
        simp [this, hkb]
    · have : (k == b) = false := beq_eq_false_iff_ne.2 fun e => hk (e ▸ rfl)
      cases d[k / 8]? <;> simp [hk, this]
  · rw [if_neg hl] at h; cases h

def setBits : Bytes → List Nat → Option Bytes
  | d, [] => some d
  | d, b :: bs =>
    match setAppliedBit d b with
    | none => none
    | some d' => setBits d' bs

theorem setBits_spec (d d' : Bytes) (bs : List Nat) (h : setBits d bs = some d') :
    d'.length = d.length ∧ (∀ b ∈ bs, b < 8 * d.length) ∧ ∀ k, bitAt d' k = (bitAt d k || bs.contains k) := by
  induction bs generalizing d with
  | nil => simp only [setBits, Option.some.injEq] at h; subst h; simp
  | cons b bs ih =>
    simp only [setBits] at h
    split at h
    · cases h
    · rename_i d1 h1
      obtain ⟨l1, r1, k1⟩ := setAppliedBit_spec d d1 b h1
      obtain ⟨l2, r2, k2⟩ := ih d1 h
      refine ⟨by omega, ?_, ?_⟩
      · intro x hx
        rcases List.mem_cons.mp hx with e | e
        · subst e; exact r1
        · have := r2 x e; omega
      · intro k
        rw [k2 k, k1 k]
        simp only [List.contains_cons, Bool.or_assoc]

/-- the two mapping tables after "Mark patches applied in IFT and IFTX" -/
def markedTable (orig : Option Bytes) (bits : List Nat) : Option (Option Bytes) :=
  match orig with
  | none => if bits = [] then some none else none
  | some d => (setBits d bits).map some

theorem markedTable_cons_some (d : Bytes) (b : Nat) (bs : List Nat) :
    markedTable (some d) (b :: bs) = (setAppliedBit d b).bind (fun d' => markedTable (some d') bs) := by
  simp only [markedTable, setBits]
  cases setAppliedBit d b <;> rfl

theorem markApplied_eq (infos : List PatchInfo) (i x : Option Bytes) :
    markApplied infos (i, x) =
      match markedTable i (bitsFor false infos), markedTable x (bitsFor true infos) with
      | some i', some x' => .ok (i', x')
      | _, _ => .error .internalError := by
  induction infos generalizing i x with
  | nil => cases i <;> cases x <;> simp [markApplied, markedTable, bitsFor, setBits]
  | cons info rest ih =>
    unfold markApplied
    cases hx : info.iftx with
    | false =>
      have hb1 : bitsFor false (info :: rest) = info.bit :: bitsFor false rest := by
        simp [bitsFor, hx]
      have hb2 : bitsFor true (info :: rest) = bitsFor true rest := by simp [bitsFor, hx]
      rw [hb1, hb2]
      simp only [Bool.false_eq_true, if_false]
      cases i with
      | none => simp [markedTable]
      | some d =>
        rw [markedTable_cons_some]
        simp only
        cases setAppliedBit d info.bit with
        | none => rfl
        | some d1 => exact ih (some d1) x
    | true =>
      have hb1 : bitsFor false (info :: rest) = bitsFor false rest := by simp [bitsFor, hx]
      have hb2 : bitsFor true (info :: rest) = info.bit :: bitsFor true rest := by
        simp [bitsFor, hx]
      rw [hb1, hb2]
      simp only [if_true]
      cases x with
      | none => cases markedTable i (bitsFor false rest) <;> simp [markedTable]
      | some d =>
        rw [markedTable_cons_some]
        simp only
        cases setAppliedBit d info.bit with
        | none => cases markedTable i (bitsFor false rest) <;> rfl
        | some d1 => exact ih i (some d1)

theorem markApplied_spec (infos : List PatchInfo) (i x i' x' : Option Bytes)
    (h : markApplied infos (i, x) = .ok (i', x')) :
    markedTable i (bitsFor false infos) = some i' ∧ markedTable x (bitsFor true infos) = some x' := by
  rw [markApplied_eq] at h
  split at h
  · rename_i h1 h2; cases h; exact ⟨h1, h2⟩
  · cases h

theorem insertSorted_eq (t : Nat) (s : List Nat) : insertSorted t s = SSet.insert t s := by
  induction s with
  | nil => rfl
  | cons y r ih => simp only [insertSorted, SSet.insert, ih]

theorem foldl_insertSorted_spec (l s : List Nat) (hs : s.Pairwise (· < ·)) :
    (l.foldl (fun s t => insertSorted t s) s).Pairwise (· < ·) ∧
    ∀ x, x ∈ l.foldl (fun s t => insertSorted t s) s ↔ (x ∈ l ∨ x ∈ s) := by
  rw [show (fun s t => insertSorted t s) = fun s x => SSet.insert x s from
    funext fun s => funext fun t => insertSorted_eq t s]
  exact ⟨SSet.foldl_insert_sorted l s hs, fun x => by rw [SSet.mem_foldl_insert, or_comm]⟩

theorem tableTagList_mem (gps : List GlyphPatches) (tags : List Tag) (h : tableTagList gps = .ok tags) (t : Tag) :
    t ∈ tags ↔ t ∈ gps.flatMap (·.tables) := by
  unfold tableTagList at h
  split at h
  · cases h
  · simp only [Except.ok.injEq] at h
    subst h
    rw [(foldl_insertSorted_spec (gps.flatMap (·.tables)) [] (by simp)).2 t]
    simp

theorem tableTagList_perm (gps gps' : List GlyphPatches) (hp : gps.Perm gps') :
    (∃ e, tableTagList gps = .error e ∧ tableTagList gps' = .error e) ∨
    (∃ tags, tableTagList gps = .ok tags ∧ tableTagList gps' = .ok tags) := by
  have hany : gps.any (fun gp => !strictlyAscending gp.tables) = gps'.any (fun gp => !strictlyAscending gp.tables) := by
    rw [Bool.eq_iff_iff]
    simp only [List.any_eq_true]
    constructor
    · rintro ⟨x, hx, hxp⟩; exact ⟨x, hp.mem_iff.mp hx, hxp⟩
    · rintro ⟨x, hx, hxp⟩; exact ⟨x, hp.mem_iff.mpr hx, hxp⟩
  unfold tableTagList
  rw [← hany]
  split
  · exact Or.inl ⟨_, rfl, rfl⟩
  · refine Or.inr ⟨_, rfl, ?_⟩
    congr 1
    obtain ⟨a1, a2⟩ := foldl_insertSorted_spec (gps.flatMap (·.tables)) [] (by simp)
    obtain ⟨b1, b2⟩ := foldl_insertSorted_spec (gps'.flatMap (·.tables)) [] (by simp)
    apply sorted_ext b1 a1
    intro x
    rw [a2 x, b2 x]
    simp only [List.mem_flatMap, List.not_mem_nil, or_false]
    constructor
    · rintro ⟨g, hg, hx⟩; exact ⟨g, hp.mem_iff.mpr hg, hx⟩
    · rintro ⟨g, hg, hx⟩; exact ⟨g, hp.mem_iff.mp hg, hx⟩

/-- `maxp.num_glyphs` -/
def numGlyphs (font : Font) : Nat :=
  match font.get TAG_maxp with
  | some maxp => beValue (sliceLen maxp 4 2)
  | none => 0

/-- `if let Some(data) = .. { font_builder.add_raw(tag, data) }` -/
def addOpt (t : Tag) (o : Option Bytes) (b : Font) : Font :=
  match o with
  | some d => insertTable t d b
  | none => b

theorem addOpt_lookup (t u : Tag) (o : Option Bytes) (b : Font) :
    (addOpt t o b).lookup u = if u = t then o.or (b.lookup t) else b.lookup u := by
  cases o with
  | none => by_cases e : u = t <;> simp [addOpt, e]
  | some d =>
    by_cases e : u = t
    · subst e; simp [addOpt, lookup_insertTable_self]
    · simp [addOpt, e, lookup_insertTable_ne _ _ _ _ e]

theorem addOpt_sorted (t : Tag) (o : Option Bytes) (b : Font) (hs : SortedGids b) : SortedGids (addOpt t o b) := by
  cases o with
  | none => exact hs
  | some d => exact insertTable_sorted _ _ _ hs

theorem applyGlyphPatches_ok (infos : List PatchInfo) (gps : List GlyphPatches) (font out : Font)
    (h : applyGlyphPatches infos gps font = .ok out) :
    ∃ tags p b ift iftx, numGlyphs font ≠ 0 ∧ tableTagList gps = .ok tags ∧
      patchTables font gps (numGlyphs font - 1) tags ([TAG_IFTX, TAG_IFT], []) = .ok (p, b) ∧
      markApplied infos (font.get TAG_IFT, font.get TAG_IFTX) = .ok (ift, iftx) ∧
      out = copyUnprocessed font p (addOpt TAG_IFTX iftx (addOpt TAG_IFT ift b)) := by
  unfold applyGlyphPatches at h
  cases hm : font.get TAG_maxp with
  | none => rw [hm] at h; cases h
  | some maxp =>
    rw [hm] at h
    simp only at h
    have hng : numGlyphs font = beValue (sliceLen maxp 4 2) := by simp [numGlyphs, hm]
    rw [← hng] at h
    obtain ⟨hz, h⟩ := Do.error_else_ok h
    cases ht : tableTagList gps with
    | error e => rw [ht] at h; cases h
    | ok tags =>
      rw [ht] at h
      simp only at h
      cases hp : patchTables font gps (numGlyphs font - 1) tags ([TAG_IFTX, TAG_IFT], []) with
      | error e => rw [hp] at h; cases h
      | ok pb =>
        obtain ⟨p, b⟩ := pb
        rw [hp] at h
        simp only at h
        cases hma : markApplied infos (font.get TAG_IFT, font.get TAG_IFTX) with
        | error e => rw [hma] at h; cases h
        | ok ii =>
          obtain ⟨ift, iftx⟩ := ii
          rw [hma] at h
          simp only [Except.ok.injEq] at h
          exact ⟨tags, p, b, ift, iftx, hz, rfl, hp, rfl, by rw [← h]; cases ift <;> cases iftx <;> rfl⟩

theorem applyGlyphPatches_arms_ok (infos : List PatchInfo) (gps : List GlyphPatches) (font out : Font)
    (h : applyGlyphPatches infos gps font = .ok out) :
    ∀ tag ∈ gps.flatMap (·.tables), IsArmTag tag →
      ∃ outs, armOf font gps (numGlyphs font - 1) tag = some (.ok outs) := by
  obtain ⟨tags, p, b, _, _, _, ht, hp, _⟩ := applyGlyphPatches_ok infos gps font out h
  intro tag hin htag
  cases ha : armOf font gps (numGlyphs font - 1) tag with
  | none => exact absurd htag ((armOf_none_iff _ _ _ _).mp ha)
  | some r =>
    obtain ⟨outs, rfl⟩ := (patchTables_spec font gps _ tags _ _ p b hp).1 tag
      ((tableTagList_mem gps tags ht tag).mpr hin) r ha
    exact ⟨outs, rfl⟩

theorem apply_ok_dedup (infos : List PatchInfo) (gps : List GlyphPatches) (font out : Font)
    (h : applyGlyphPatches infos gps font = .ok out) (gp : GlyphPatches) (hgp : gp ∈ gps)
    (tag : Tag) (harm : IsArmTag tag) (hg : tag ∈ gp.tables) : ∃ repl, dedup tag gps = .ok repl :=
  let ⟨outs, ha⟩ := applyGlyphPatches_arms_ok infos gps font out h tag (List.mem_flatMap.mpr ⟨gp, hgp, hg⟩) harm
  arm_ok_dedup font gps _ tag outs ha

/-- table `t` after the per-tag loop over the patches `gps`: what the arm owning `t` produced if some patch
names that arm's tag, else the base font's table (or none) -/
def tableAfter (font : Font) (gps : List GlyphPatches) (m : Nat) (t : Tag) : Option Bytes :=
  match ownerOf t with
  | some tag => if tag ∈ gps.flatMap (·.tables) then (armOuts font gps m tag).lookup t else font.get t
  | none => font.get t

theorem tableAfter_untouched (font : Font) (gps : List GlyphPatches) (m : Nat) (t : Tag)
    (hn : ∀ tag, ownerOf t = some tag → tag ∉ gps.flatMap (·.tables)) : tableAfter font gps m t = font.get t := by
  unfold tableAfter
  cases ho : ownerOf t with
  | none => rfl
  | some tg => exact if_neg (hn tg ho)

theorem tableAfter_named (font : Font) (gps : List GlyphPatches) (m : Nat) (t tag : Tag) (ho : ownerOf t = some tag)
    (hin : tag ∈ gps.flatMap (·.tables)) : tableAfter font gps m t = (armOuts font gps m tag).lookup t := by
  unfold tableAfter
  rw [ho]
  exact if_pos hin

theorem tableAfter_arm (font : Font) (gps : List GlyphPatches) (m : Nat) (tag : Tag) (outs : List (Tag × Bytes))
    (hin : tag ∈ gps.flatMap (·.tables)) (hr : armOf font gps m tag = some (.ok outs)) :
    ∀ td ∈ outs, tableAfter font gps m td.1 = some td.2 := by
  obtain ⟨_, hown, hnd⟩ := armOf_ok font gps m tag outs hr
  intro td htd
  rw [tableAfter_named font gps m td.1 tag ((hown td.1).mp (List.mem_map.mpr ⟨td, htd, rfl⟩)) hin,
    armOuts_ok font gps m tag outs hr]
  exact (lookup_eq_some_iff_mem hnd td.1 td.2).mpr htd

/-- table-by-table characterisation of a successful `apply_glyph_keyed_patches`: the two mapping
tables carry the applied bits; every arm some patch names succeeded; every other table is `tableAfter`. -/
theorem applyGlyphPatches_char (infos : List PatchInfo) (gps : List GlyphPatches) (font out : Font)
    (hu : UniqueTags font) (h : applyGlyphPatches infos gps font = .ok out) :
    ∃ ift iftx, numGlyphs font ≠ 0 ∧
      markApplied infos (font.get TAG_IFT, font.get TAG_IFTX) = .ok (ift, iftx) ∧
      SortedGids out ∧ out.get TAG_IFT = ift ∧ out.get TAG_IFTX = iftx ∧
      (∀ tag ∈ gps.flatMap (·.tables), IsArmTag tag → ∃ outs, armOf font gps (numGlyphs font - 1) tag = some (.ok outs)) ∧
      (∀ t, t ≠ TAG_IFT → t ≠ TAG_IFTX → out.get t = tableAfter font gps (numGlyphs font - 1) t) := by
  obtain ⟨tags, p, b, ift, iftx, hz, ht, hp, hma, hform⟩ := applyGlyphPatches_ok infos gps font out h
  obtain ⟨_, s2, s3⟩ := patchTables_spec font gps _ tags _ _ p b hp
  have hmem := tableTagList_mem gps tags ht
  generalize hb2 : addOpt TAG_IFTX iftx (addOpt TAG_IFT ift b) = b2 at hform
  have hbs : SortedGids b := patchTables_sorted font gps _ tags _ _ p b (by simp [SortedGids]) hp
  -- no arm owns a mapping table: both are marked processed from the start and absent from the builder
  have hmap : ∀ t, t = TAG_IFT ∨ t = TAG_IFTX → t ∈ p ∧ b.lookup t = none := fun t ht =>
    have := s3 t (fun tg _ ho => by rw [ownerOf_mapping t ht] at ho; cases ho)
    ⟨this.1.mpr (by rcases ht with rfl | rfl <;> simp), this.2⟩
  have hb2l : ∀ t, b2.lookup t = if t = TAG_IFTX then iftx else if t = TAG_IFT then ift else b.lookup t := by
    intro t
    subst hb2
    rw [addOpt_lookup, addOpt_lookup, addOpt_lookup]
    simp only [show TAG_IFTX ≠ TAG_IFT by decide, if_false,
      (hmap TAG_IFTX (Or.inr rfl)).2, (hmap TAG_IFT (Or.inl rfl)).2, Option.or_none]
  have hb2s : SortedGids b2 := by
    subst hb2; exact addOpt_sorted _ _ _ (addOpt_sorted _ _ _ hbs)
  subst hform
  have hout := fun t => copyUnprocessed_lookup font p b2 t hu
  refine ⟨ift, iftx, hz, hma, copyUnprocessed_sorted _ _ _ hb2s, ?_, ?_,
    applyGlyphPatches_arms_ok infos gps font _ h, ?_⟩
  · unfold Font.get
    rw [hout, if_pos (hmap _ (Or.inl rfl)).1, hb2l]
    simp only [show TAG_IFT ≠ TAG_IFTX by decide, if_false, if_true]
  · unfold Font.get
    rw [hout, if_pos (hmap _ (Or.inr rfl)).1, hb2l]
    simp only [if_true]
  · intro t h1 h2
    unfold Font.get
    rw [hout, hb2l, if_neg h2, if_neg h1]
    -- `t` was processed iff a patch names the arm that owns it
    by_cases hn : ∃ tg, ownerOf t = some tg ∧ tg ∈ tags
    · obtain ⟨tg, ho, c⟩ := hn
      obtain ⟨hp, hl⟩ := s2 tg c t ho
      rw [if_pos hp, hl, tableAfter_named font gps _ t tg ho ((hmem tg).mp c)]
    · obtain ⟨hp, hl⟩ := s3 t (fun tg c ho => hn ⟨tg, ho, c⟩)
      have hnp : t ∉ p := fun hin => by
        simp only [hp, List.mem_cons, List.not_mem_nil, or_false] at hin
        exact hin.elim h2 h1
      rw [if_neg hnp, hl, tableAfter_untouched font gps _ t (fun tg ho c => hn ⟨tg, ho, (hmem tg).mpr c⟩)]
      exact Option.or_none

/-- read off `applyGlyphPatches_char` for one patched table: its arm succeeded and `out` holds what it made -/
theorem char_arm (font out : Font) (gps : List GlyphPatches) (m : Nat)
    (harm : ∀ tag ∈ gps.flatMap (·.tables), IsArmTag tag → ∃ outs, armOf font gps m tag = some (.ok outs))
    (hout : ∀ t, t ≠ TAG_IFT → t ≠ TAG_IFTX → out.get t = tableAfter font gps m t)
    (tag : Tag) (hin : ∃ gp ∈ gps, tag ∈ gp.tables) (htag : IsArmTag tag) :
    ∃ outs, armOf font gps m tag = some (.ok outs) ∧ ∀ td ∈ outs, out.get td.1 = some td.2 := by
  have hin' := List.mem_flatMap.mpr hin
  obtain ⟨outs, hr⟩ := harm tag hin' htag
  refine ⟨outs, hr, fun td htd => ?_⟩
  have ho := ((armOf_ok font gps m tag outs hr).2.1 td.1).mp (List.mem_map.mpr ⟨td, htd, rfl⟩)
  rw [hout td.1 (fun e => by rw [ownerOf_mapping _ (Or.inl e)] at ho; cases ho)
    (fun e => by rw [ownerOf_mapping _ (Or.inr e)] at ho; cases ho)]
  exact tableAfter_arm font gps m tag outs hin' hr td htd

def isLongLoca (head : Bytes) : Bool := beValue (sliceLen head 50 2) == 1

/-- the offset type of a loca / gvar offset array with 4-byte (`long`) or halved 2-byte entries -/
def typeOfLong (long : Bool) : OffsetType := if long then .long else .shortDivByTwo

/-- `GlyfAndLoca` of a font with these glyf bytes and decoded loca offsets -/
def locaArray (t : OffsetType) (glyf : Bytes) (offsets : List Nat) : OffsetArray :=
  { offsetType := t, available := [t], offsets := offsets, data := glyf
    missing := .invalidPatch "Start loca entry is missing.", getErr := .fontParsingFailed .outOfBounds
    ascOk := ascending offsets, unreadable := [] }

theorem beArray_flatMap (w : Nat) (xs : List Nat) (rest : Bytes) (h : ∀ x ∈ xs, x < 256 ^ w) :
    beArray w xs.length (xs.flatMap (beBytes w) ++ rest) = xs := by
  induction xs with
  | nil => simp [beArray]
  | cons x xs ih =>
    simp only [List.length_cons, beArray, List.flatMap_cons, List.append_assoc]
    rw [List.take_left' (beBytes_length w x), List.drop_left' (beBytes_length w x),
      beValue_beBytes w x (h x (by simp)), ih (fun y hy => h y (List.mem_cons_of_mem _ hy))]

theorem encodeOffs_as_flatMap (t : OffsetType) (os : List Nat) :
    encodeOffs t os = (os.map (fun o => o / t.divisor + t.bias)).flatMap (beBytes t.width) := by
  simp [encodeOffs, List.flatMap_map]

theorem beArray_encodeOffs (t : OffsetType) (hbias : t.bias = 0) (os : List Nat) (n : Nat)
    (hn : os.length = n) (rest : Bytes) (hb : ∀ o ∈ os, o / t.divisor + t.bias < 2 ^ (t.width * 8)) :
    beArray t.width n (encodeOffs t os ++ rest) = os.map (· / t.divisor) ∧
    (encodeOffs t os).length = n * t.width := by
  have hl : (os.map (fun o => o / t.divisor + t.bias)).length = n := by rw [List.length_map, hn]
  rw [encodeOffs_as_flatMap, flatMap_uniform_length _ t.width _ (fun x _ => beBytes_length _ x), hl, Nat.mul_comm]
  refine ⟨?_, rfl⟩
  rw [← hl, beArray_flatMap]
  · simp only [hbias, Nat.add_zero]
  · intro x hx
    obtain ⟨o, ho, rfl⟩ := List.mem_map.mp hx
    rw [show 256 ^ t.width = 2 ^ (t.width * 8) by rw [Nat.mul_comm, Nat.pow_mul]]
    exact hb o ho

theorem map_half_double (os : List Nat) (h : ∀ o ∈ os, o % 2 = 0) : (os.map (· / 2)).map (· * 2) = os := by
  rw [List.map_map]
  conv => rhs; rw [← List.map_id os]
  apply List.map_congr_left
  intro o ho
  have := h o ho
  simp only [Function.comp, id]; omega

/-- loca and gvar store their offsets the same way (`U16Or32`): a `long` array as it is, a short one halved -/
theorem gvarOffsets_div (long : Bool) (raw : List Nat) :
    ∀ o ∈ gvarOffsets long raw, o % (typeOfLong long).divisor = 0 := by
  intro o ho
  cases long with
  | true => exact Nat.mod_one _
  | false =>
    obtain ⟨r, _, rfl⟩ := List.mem_map.mp ho
    exact Nat.mul_mod_left _ _

theorem gvarOffsets_encodeOffs (long : Bool) (os : List Nat) (n : Nat) (rest : Bytes) (hn : os.length = n)
    (hdiv : ∀ o ∈ os, o % (typeOfLong long).divisor = 0)
    (hb : ∀ o ∈ os, o / (typeOfLong long).divisor + (typeOfLong long).bias < 2 ^ ((typeOfLong long).width * 8)) :
    gvarOffsets long (beArray (gvarWidth long) n (encodeOffs (typeOfLong long) os ++ rest)) = os ∧
    (encodeOffs (typeOfLong long) os).length = n * gvarWidth long := by
  have hbias : (typeOfLong long).bias = 0 := by cases long <;> rfl
  have hw : (typeOfLong long).width = gvarWidth long := by cases long <;> rfl
  obtain ⟨hraw, hlen⟩ := beArray_encodeOffs (typeOfLong long) hbias os n hn rest hb
  rw [hw] at hraw hlen
  refine ⟨?_, hlen⟩
  rw [hraw]
  cases long with
  | true => simp [gvarOffsets, typeOfLong, OffsetType.divisor]
  | false => exact map_half_double os hdiv

theorem glyfAndLoca_eq (font : Font) (glyf head loca : Bytes) (hg : font.get TAG_glyf = some glyf)
    (hh : font.get TAG_head = some head) (hl : font.get TAG_loca = some loca) :
    glyfAndLoca font =
      if loca.length % gvarWidth (isLongLoca head) ≠ 0 then none
      else some (locaArray (typeOfLong (isLongLoca head)) glyf (gvarOffsets (isLongLoca head)
        (beArray (gvarWidth (isLongLoca head)) (loca.length / gvarWidth (isLongLoca head)) loca))) := by
  unfold glyfAndLoca isLongLoca
  rw [hg, hh, hl]
  simp only
  cases beValue (sliceLen head 50 2) == 1 <;> rfl

theorem glyfAndLoca_some (font : Font) (a : OffsetArray) (h : glyfAndLoca font = some a) :
    ∃ glyf head loca, font.get TAG_glyf = some glyf ∧ font.get TAG_head = some head ∧
      font.get TAG_loca = some loca ∧ a = locaArray (typeOfLong (isLongLoca head)) glyf a.offsets ∧
      ∀ o ∈ a.offsets, o % a.offsetType.divisor = 0 := by
  cases hg : font.get TAG_glyf with
  | none => unfold glyfAndLoca at h; rw [hg] at h; cases h
  | some glyf =>
    cases hh : font.get TAG_head with
    | none => unfold glyfAndLoca at h; rw [hg, hh] at h; cases h
    | some head =>
      cases hl : font.get TAG_loca with
      | none => unfold glyfAndLoca at h; rw [hg, hh, hl] at h; cases h
      | some loca =>
        rw [glyfAndLoca_eq font glyf head loca hg hh hl] at h
        by_cases hm : loca.length % gvarWidth (isLongLoca head) ≠ 0
        · rw [if_pos hm] at h; cases h
        · rw [if_neg hm] at h
          cases h
          exact ⟨glyf, head, loca, rfl, rfl, rfl, rfl, gvarOffsets_div _ _⟩

theorem glyfAndLoca_readback (font font' : Font) (a : OffsetArray) (h : glyfAndLoca font = some a)
    (data : Bytes) (os : List Nat)
    (hg : font'.get TAG_glyf = some data) (hh : font'.get TAG_head = font.get TAG_head)
    (hl : font'.get TAG_loca = some (encodeOffs a.offsetType os))
    (hdiv : ∀ o ∈ os, o % a.offsetType.divisor = 0)
    (hb : ∀ o ∈ os, o / a.offsetType.divisor + a.offsetType.bias < 2 ^ (a.offsetType.width * 8)) :
    glyfAndLoca font' = some { a with offsets := os, data := data, ascOk := ascending os } := by
  obtain ⟨glyf, head, loca, _, g2, _, ea, _⟩ := glyfAndLoca_some font a h
  have ht : a.offsetType = typeOfLong (isLongLoca head) := congrArg OffsetArray.offsetType ea
  rw [ht] at hl hdiv hb
  obtain ⟨hoffs, hlen⟩ := gvarOffsets_encodeOffs (isLongLoca head) os os.length [] rfl hdiv hb
  rw [List.append_nil] at hoffs
  have hw : 0 < gvarWidth (isLongLoca head) := by cases isLongLoca head <;> decide
  rw [glyfAndLoca_eq font' data head _ hg (hh.trans g2) hl, hlen, Nat.mul_mod_left, if_neg (fun hn => hn rfl),
    Nat.mul_div_cancel _ hw, hoffs, ea]
  rfl

theorem glyfAndLoca_ascSound (font : Font) (a : OffsetArray) (h : glyfAndLoca font = some a) :
    a.AscSound := by
  obtain ⟨_, _, _, _, _, _, ea, _⟩ := glyfAndLoca_some font a h
  intro hh; rw [ea] at hh; exact hh

/-- the array a table reads back as after a splice: offsets = `newOffsets` of the chunks, data = their
concatenation (the array's own ascending check then holds) -/
def OffsetArray.rebase (a : OffsetArray) (cs : List Bytes) : OffsetArray :=
  { a with offsets := newOffsets cs, data := cs.flatten, ascOk := ascending (newOffsets cs) }

theorem OffsetArray.rebase_ascSound (a : OffsetArray) (cs : List Bytes) : (a.rebase cs).AscSound :=
  fun h => h

theorem glyf_splice_readback (font out : Font) (a : OffsetArray) (repl : List (Nat × Bytes))
    (maxGid : Nat) (data offs : Bytes)
    (ha : glyfAndLoca font = some a) (hsort : SortedGids repl)
    (hp : patchOffsetArray a repl maxGid = .ok (a.offsetType, data, offs))
    (hg : out.get TAG_glyf = some data) (hl : out.get TAG_loca = some offs)
    (hh : out.get TAG_head = font.get TAG_head) :
    glyfAndLoca out = some (a.rebase (chunks a a.offsetType repl maxGid)) := by
  have S := patchOffsetArray_spec a repl maxGid (glyfAndLoca_ascSound font a ha) hsort _ data offs hp
  obtain ⟨_, _, _, _, _, _, _, hdiv⟩ := glyfAndLoca_some font a ha
  rw [S.data_eq] at hg
  rw [S.offs_eq] at hl
  exact glyfAndLoca_readback font out a ha _ _ hg hh hl (S.aligned hdiv) S.fits

end FontVerif.Ift
