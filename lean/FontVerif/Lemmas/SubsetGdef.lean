/-
Helper lemmas for C17 (layout part): the loops of the GDEF sub-table subsetters (`attachGo`,
`ligListGo`, `markSetsGo`) are `filterMap`s when they succeed (`filterMapGo_eq`); positions of entries in key-sorted lists.
-/
import FontVerif.Model.SubsetGdef
import FontVerif.Lemmas.SubsetLayout
import FontVerif.Lemmas.Base
namespace FontVerif.SubsetGdef
open FontVerif.Layout FontVerif.SubsetLayout

theorem entries_lookup {β : Type} (es : List (Nat × β)) (n : Nat) (b : β)
    (hd : (es.map (·.1)).Pairwise (· ≠ ·)) (hm : (n, b) ∈ es) :
    ∃ j, indexIn n (es.map (·.1)) = some j ∧ (es.map (·.2))[j]? = some b := by
  obtain ⟨j, hj, e⟩ := List.getElem_of_mem hm
  exact ⟨j, indexIn_of_getElem? hd (by simp [hj, e]), by simp [hj, e]⟩

theorem indexIn_none_of_keys {β : Type} (es : List (Nat × β)) (n : Nat)
    (h : ∀ b, (n, b) ∉ es) : indexIn n (es.map (·.1)) = none := by
  apply indexIn_none
  intro hm
  obtain ⟨e, he, e1⟩ := List.mem_map.mp hm
  exact h e.2 (by rw [← e1]; exact he)

/-- a loop that writes at most one entry per item, or aborts, is a `filterMap` when it succeeds; `Okay` = what a step that
does not abort establishes of its item -/
theorem filterMapGo_eq {ε α β : Type} (f : α → Option β) (Okay : α → Prop) (go : List α → Except ε (List β))
    (hnil : go [] = .ok [])
    (hstep : ∀ a rest out, go (a :: rest) = .ok out → Okay a ∧ ∃ bs, go rest = .ok bs ∧ out = (f a).toList ++ bs) :
    ∀ (l : List α) (out : List β), go l = .ok out → out = l.filterMap f ∧ ∀ a ∈ l, Okay a
  | [], out, h => by cases hnil.symm.trans h; exact ⟨rfl, fun _ h => by cases h⟩
  | a :: rest, out, h => by
    obtain ⟨hokay, bs, hr, rfl⟩ := hstep a rest out h
    obtain ⟨rfl, h2⟩ := filterMapGo_eq f Okay go hnil hstep rest bs hr
    refine ⟨?_, List.forall_mem_cons.mpr ⟨hokay, h2⟩⟩
    rw [List.filterMap_cons]
    cases f a <;> rfl

/-- what `AttachList::subset` and `LigCaretList::subset` write for one `(glyph, coverage index)`: the new id of a kept
glyph with the payload `pay` finds at its index -/
def keyedItem {β : Type} (p : LPlan) (pay : Nat → Option β) (it : Nat × Nat) : Option (Nat × β) :=
  (p.get it.1).bind fun new => (pay it.2).map (new, ·)

theorem keyedItem_eq_some {β : Type} {p : LPlan} {pay : Nat → Option β} {it : Nat × Nat} {n : Nat} {b : β} :
    keyedItem p pay it = some (n, b) ↔ p.get it.1 = some n ∧ pay it.2 = some b := by
  simp [keyedItem, Option.bind_eq_some_iff]

theorem keyed_entries (p : LPlan) (hp : PlanOk p) {β : Type} (pay : Nat → Option β) (items : List (Nat × Nat))
    (hs : (items.map (·.1)).Pairwise (· < ·)) :
    ((items.filterMap (keyedItem p pay)).map (·.1)).Pairwise (· < ·) ∧
    ∀ n b, (n, b) ∈ items.filterMap (keyedItem p pay) ↔
      ∃ g idx, (g, idx) ∈ items ∧ p.get g = some n ∧ pay idx = some b := by
  constructor
  · rw [List.pairwise_map] at hs ⊢
    exact hs.filterMap _ fun a a' h b hb b' hb' =>
      hp.get_mono h (keyedItem_eq_some.mp hb).1 (keyedItem_eq_some.mp hb').1
  · intro n b
    simp only [List.mem_filterMap, keyedItem_eq_some, Prod.exists]

theorem attachGo_spec (p : LPlan) (points : List (Option (List Nat))) (items : List (Nat × Nat))
    (entries : List (Nat × List Nat)) (h : attachGo p points items = .ok entries) :
    entries = items.filterMap (keyedItem p fun i => points[i]?.join) := by
  refine (filterMapGo_eq _ (fun _ => True) (attachGo p points) rfl ?_ items entries h).1
  rintro ⟨g, idx⟩ rest entries h
  refine ⟨trivial, ?_⟩
  simp only [attachGo] at h
  simp only [keyedItem]
  cases hg : p.get g with
  | none => exact ⟨entries, by simpa only [hg] using h, rfl⟩
  | some new =>
    simp only [hg] at h
    cases hpt : points[idx]? with
    | none => simp [hpt] at h
    | some o =>
      cases o with
      | none => simp [hpt] at h
      | some bs0 =>
        simp only [hpt] at h
        exact Do.map_ok h

theorem attachGo_total (p : LPlan) (points : List (Option (List Nat))) :
    ∀ (items : List (Nat × Nat)),
    (∀ it ∈ items, (p.get it.1).isSome → ∃ bs, points[it.2]? = some (some bs)) →
    ∃ entries, attachGo p points items = .ok entries := by
  intro items
  induction items with
  | nil => intro _; exact ⟨[], rfl⟩
  | cons it rest ih =>
    intro h
    obtain ⟨g, idx⟩ := it
    obtain ⟨es, hes⟩ := ih (fun x hx => h x (List.mem_cons_of_mem _ hx))
    simp only [attachGo]
    cases hg : p.get g with
    | none => exact ⟨es, hes⟩
    | some new =>
      obtain ⟨bs, hb⟩ := h (g, idx) (List.mem_cons_self ..) (by simp [hg])
      simp only [hb, hes, Except.map]
      exact ⟨_, rfl⟩

theorem zipIdx_keys_sorted {l : List Nat} (h : l.Pairwise (· < ·)) (k : Nat) :
    (((l.zipIdx).take k).map (·.1)).Pairwise (· < ·) := by
  have : ((l.zipIdx).take k).map (·.1) = l.take k := by
    rw [List.map_take]
    congr 1
    exact List.zipIdx_map_fst 0 l
  rw [this]
  exact h.sublist (List.take_sublist _ _)

/-- the caret values `LigCaretList::subset` writes for the LigGlyph at a coverage index -/
def ligPay (vmap : List (Nat × Nat)) (ligs : List LigIn) (i : Nat) : Option (List CaretOut) :=
  match ligs[i]? with
  | some (.ok carets) => (ligGlyphSem vmap carets).toOption
  | _ => none

theorem ligListGo_spec (p : LPlan) (vmap : List (Nat × Nat)) (ligs : List LigIn)
    (items : List (Nat × Nat)) (entries : List (Nat × List CaretOut))
    (h : ligListGo p vmap ligs items = .ok entries) :
    entries = items.filterMap (keyedItem p (ligPay vmap ligs)) ∧
    ∀ it ∈ items, ∀ n carets e, p.get it.1 = some n → ligs[it.2]? = some (.ok carets) →
      ligGlyphSem vmap carets = .error e → e = .empty := by
  refine filterMapGo_eq _ _ (ligListGo p vmap ligs) rfl ?_ items entries h
  rintro ⟨g, idx⟩ rest entries h
  simp only [ligListGo] at h
  refine ⟨fun n carets e r1 r2 r3 => ?_, ?_⟩
  · -- an error other than EMPTY aborts the loop
    simp only [r1, r2, r3] at h
    cases e <;> first | rfl | cases h
  simp only [keyedItem]
  cases hg : p.get g with
  | none => exact ⟨entries, by simpa only [hg] using h, rfl⟩
  | some new =>
    simp only [hg] at h
    cases hl : ligs[idx]? with
    | none => simp [hl] at h
    | some lg =>
      cases lg with
      | bad => simp [hl] at h
      | ok carets =>
        simp only [hl] at h
        simp only [ligPay, hl]
        cases hsem : ligGlyphSem vmap carets with
        | error e =>
          cases e <;> simp only [hsem, reduceCtorEq] at h
          exact ⟨entries, h, rfl⟩
        | ok out0 =>
          simp only [hsem] at h
          exact Do.map_ok h

/-- the written coverage of one mark glyph set, if it survives -/
def survive (p : LPlan) : Option Coverage → Option CovW
  | none => none
  | some c =>
    match subsetCoverage p c with
    | .ok w => some w
    | .error _ => none

theorem markSetsGo_spec (p : LPlan) : ∀ (sets : List (Option Coverage)) (ws : List CovW),
    markSetsGo p sets = .ok ws → ws = sets.filterMap (survive p) := by
  intro sets ws h
  refine (filterMapGo_eq (survive p) (fun _ => True) (markSetsGo p) rfl ?_ sets ws h).1
  intro c rest ws h
  refine ⟨trivial, ?_⟩
  cases c with
  | none => simp [markSetsGo] at h
  | some c =>
    simp only [markSetsGo] at h
    simp only [survive]
    cases hc : subsetCoverage p c with
    | error e =>
      cases e <;> simp only [hc, reduceCtorEq] at h
      exact ⟨ws, h, rfl⟩
    | ok w =>
      simp only [hc] at h
      exact Do.map_ok h

theorem filterMap_getElem {α β : Type} (f : α → Option β) : ∀ (l : List α) (i : Nat) (a : α) (b : β),
    l[i]? = some a → f a = some b →
    (l.filterMap f)[((l.take i).filterMap f).length]? = some b := by
  intro l
  induction l with
  | nil => intro i a b h; simp at h
  | cons x t ih =>
    intro i a b h hf
    cases i with
    | zero =>
      simp at h; subst h
      simp [hf]
    | succ j =>
      simp at h
      have := ih j a b h hf
      cases hx : f x with
      | none => simpa [List.filterMap_cons, hx] using this
      | some y => simpa [List.filterMap_cons, hx] using this

/-- the keys of `used_mark_sets_map` are the positions themselves: none below the first -/
theorem usedGo_lookup_lt (p : LPlan) : ∀ (sets : List (Option Coverage)) (k b j : Nat), j < k →
    ((usedGo p sets k).zipIdx b).lookup j = none
  | [], _, _, _, _ => rfl
  | none :: _, _, _, _, _ => rfl
  | some c :: rest, k, b, j, h => by
    have hne : (j == k) = false := by simp; omega
    have ih := fun b' => usedGo_lookup_lt p rest (k + 1) b' j (by omega)
    cases hu : setUsed p (some c) <;> simp [usedGo, hu, List.zipIdx_cons, List.lookup_cons, hne, ih]

/-- `used_mark_sets_map`: the `m`-th set of a readable list is the key `k + m` exactly when it is used, with value `b +`
the number of used sets before it -/
theorem usedGo_lookup (p : LPlan) : ∀ (sets : List (Option Coverage)) (k b m : Nat), (∀ s ∈ sets, s ≠ none) →
    ((usedGo p sets k).zipIdx b).lookup (k + m) =
      if setUsed p (sets.getD m none) = true then some (b + ((sets.take m).filter (setUsed p)).length) else none
  | [], _, _, _, _ => by simp [usedGo, setUsed]
  | none :: _, _, _, _, hall => absurd rfl (hall none (List.mem_cons_self ..))
  | some c :: rest, k, b, m, hall => by
    cases m with
    | zero =>
      cases hu : setUsed p (some c)
      · simp [usedGo, hu, usedGo_lookup_lt p rest (k + 1) b k (Nat.lt_succ_self k)]
      · simp [usedGo, hu, List.zipIdx_cons]
    | succ m =>
      have hne : (k + (m + 1) == k) = false := by simp
      have ih := fun b' => usedGo_lookup p rest (k + 1) b' m fun s hs => hall s (List.mem_cons_of_mem _ hs)
      rw [Nat.add_assoc, Nat.add_comm 1 m] at ih
      rw [List.getD_cons_succ, List.take_succ_cons, List.filter_cons]
      cases hu : setUsed p (some c)
      · simp only [usedGo, hu, Bool.false_eq_true, ↓reduceIte, List.nil_append, ih]
      · simp only [usedGo, hu, ↓reduceIte, List.cons_append, List.nil_append, List.zipIdx_cons, List.lookup_cons, hne,
          ih, List.length_cons]
        split
        · rw [Nat.add_assoc, Nat.add_comm 1]
        · rfl

theorem filter_filterMap_length {α β : Type} (q : α → Bool) (f : α → Option β) :
    ∀ (l : List α), (∀ x ∈ l, q x = (f x).isSome) → (l.filter q).length = (l.filterMap f).length := by
  intro l
  induction l with
  | nil => intro _; rfl
  | cons x t ih =>
    intro h
    have hx := h x (List.mem_cons_self ..)
    have := ih (fun y hy => h y (List.mem_cons_of_mem _ hy))
    cases hf : f x with
    | none => simp [hf, hx, this]
    | some y => simp [hf, hx, this]

end FontVerif.SubsetGdef
