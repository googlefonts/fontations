/-
C08, format 14: `Cmap14::map_variant` — three nested runs of core's `binary_search_by` (Model/Layout, proved on
ascending lists in Lemmas/Layout) — on tables sorted as the format requires (`Wf14`), and `Cmap14Iter` as a set.
-/
import FontVerif.Model.Cmap
import FontVerif.Lemmas.Layout
namespace FontVerif.Cmap
open FontVerif.Layout

theorem uvsRangeCmp_eq_iff (r : Nat × Nat) (c : Nat) : uvsRangeCmp r c = .eq ↔ r.1 ≤ c ∧ c ≤ r.1 + r.2 := by
  unfold uvsRangeCmp
  by_cases h1 : c < r.1 <;> by_cases h2 : c > r.1 + r.2 <;> simp [h1, h2] <;> omega

theorem mono_uvsRangeCmp (l : List (Nat × Nat)) (c : Nat)
    (hs : l.Pairwise (fun a b => a.1 + a.2 < b.1)) :
    Mono l.length (fun i => uvsRangeCmp (l[i]?.getD (0, 0)) c) := by
  refine mono_of_pairwise l (0, 0) (fun r => uvsRangeCmp r c) hs (fun a b h => ?_)
  -- `a` ends before `b` starts: `c` is past `a`, or before `b`
  by_cases hc : c > a.1 + a.2
  · rw [show uvsRangeCmp a c = .lt by rw [uvsRangeCmp, if_neg (by omega), if_pos hc]]
    exact Nat.zero_le _
  · rw [show uvsRangeCmp b c = .gt by rw [uvsRangeCmp, if_pos (by omega)]]
    exact rank_le_two _

/-- `c` lies in a default-UVS range of the record -/
def InDefaults (rec : VarSel) (c : Nat) : Prop :=
  ∃ ranges, rec.defaults = some ranges ∧ ∃ r ∈ ranges, r.1 ≤ c ∧ c ≤ r.1 + r.2

/-- `(c, g)` is a non-default mapping of the record -/
def InNonDefaults (rec : VarSel) (c g : Nat) : Prop :=
  ∃ maps, rec.nonDefaults = some maps ∧ (c, g) ∈ maps

/-- arrays sorted as the format requires -/
structure Wf14 (t : List VarSel) : Prop where
  sel : t.Pairwise (fun a b => a.selector < b.selector)
  defs : ∀ rec ∈ t, ∀ ranges, rec.defaults = some ranges → ranges.Pairwise (fun a b => a.1 + a.2 < b.1)
  nons : ∀ rec ∈ t, ∀ maps, rec.nonDefaults = some maps → maps.Pairwise (fun a b => a.1 < b.1)

theorem selector_unique (t : List VarSel) (hw : Wf14 t) (a b : VarSel) (ha : a ∈ t) (hb : b ∈ t)
    (h : a.selector = b.selector) : a = b :=
  eq_of_nodup_map (·.selector) t (sorted_nodup (List.pairwise_map.2 hw.sel)) a ha b hb h

/-- the per-record part of `map_variant` -/
def recVariant (rec : VarSel) (codepoint : Nat) : Option MapVariant :=
  if foundDefaultUvs rec codepoint then some .useDefault else lookupNonDefaultUvs rec codepoint

theorem mapVariant_of_mem (t : List VarSel) (hw : Wf14 t) (rec : VarSel) (hrec : rec ∈ t)
    (c : Nat) : mapVariant t c rec.selector = recVariant rec c := by
  obtain ⟨j, hj, rfl⟩ := List.getElem_of_mem hrec
  have hb := (bs_list t ⟨0, none, none⟩ (fun r => natCmp r.selector t[j].selector)
    (mono_natCmp t _ (fun r => r.selector) _ hw.sel)
    (key_unique _ hw.sel)).1 j hj (natCmp_eq.2 rfl)
  unfold mapVariant
  rw [hb]
  simp only [List.getElem?_eq_getElem hj]
  rfl

theorem mapVariant_no_selector (t : List VarSel) (hw : Wf14 t) (c sel : Nat)
    (hno : ∀ rec ∈ t, rec.selector ≠ sel) : mapVariant t c sel = none := by
  obtain ⟨i, hi⟩ := (bs_list t ⟨0, none, none⟩ (fun r => natCmp r.selector sel)
    (mono_natCmp t _ (fun r => r.selector) _ hw.sel)
    (key_unique _ hw.sel)).2 (fun x hx h => hno x hx (natCmp_eq.1 h))
  unfold mapVariant
  rw [hi]

theorem foundDefaultUvs_iff (rec : VarSel) (c : Nat)
    (hdefs : ∀ ranges, rec.defaults = some ranges → ranges.Pairwise (fun a b => a.1 + a.2 < b.1)) :
    foundDefaultUvs rec c = true ↔ InDefaults rec c := by
  unfold InDefaults foundDefaultUvs
  cases hd : rec.defaults with
  | none => simp
  | some ranges =>
    have hp := hdefs ranges hd
    have hb := bs_list ranges (0, 0) (fun r => uvsRangeCmp r c) (mono_uvsRangeCmp ranges c hp)
      (pairwise_unique (P := fun r => uvsRangeCmp r c = .eq) hp (fun a b h h1 h2 => by
        rw [uvsRangeCmp_eq_iff] at h1 h2; omega))
    simp only [Option.some.injEq, exists_eq_left']
    constructor
    · intro h
      cases hr : binarySearchBy ranges.length (fun i => uvsRangeCmp (ranges[i]?.getD (0, 0)) c) with
      | err i => simp [hr] at h
      | ok i =>
        obtain ⟨hi, hie⟩ := BinSearch.ok_lt hr
        simp only [List.getElem?_eq_getElem hi, Option.getD_some] at hie
        exact ⟨ranges[i], List.getElem_mem hi, (uvsRangeCmp_eq_iff _ _).1 hie⟩
    · rintro ⟨r, hr, h1, h2⟩
      obtain ⟨j, hj, rfl⟩ := List.getElem_of_mem hr
      rw [hb.1 j hj ((uvsRangeCmp_eq_iff _ _).2 ⟨h1, h2⟩)]

theorem lookupNonDefaultUvs_ne_default (rec : VarSel) (c : Nat) :
    lookupNonDefaultUvs rec c ≠ some .useDefault := by
  unfold lookupNonDefaultUvs
  cases rec.nonDefaults with
  | none => simp
  | some maps =>
    simp only
    cases binarySearchBy maps.length (fun i => natCmp (maps[i]?.getD (0, 0)).1 c) with
    | err i => simp
    | ok ix =>
      simp only
      cases maps[ix]? <;> simp

theorem lookupNonDefaultUvs_iff (rec : VarSel) (c g : Nat)
    (hnons : ∀ maps, rec.nonDefaults = some maps → maps.Pairwise (fun a b => a.1 < b.1)) :
    lookupNonDefaultUvs rec c = some (.variant g) ↔ InNonDefaults rec c g := by
  unfold InNonDefaults lookupNonDefaultUvs
  cases hd : rec.nonDefaults with
  | none => simp
  | some maps =>
    have hp := hnons maps hd
    have hm := mono_natCmp maps (0, 0) (fun p => p.1) c hp
    have hb := bs_list maps (0, 0) (fun p => natCmp p.1 c) hm
      (key_unique _ hp)
    simp only [Option.some.injEq, exists_eq_left']
    constructor
    · intro h
      cases hr : binarySearchBy maps.length (fun i => natCmp (maps[i]?.getD (0, 0)).1 c) with
      | err i => simp [hr] at h
      | ok i =>
        obtain ⟨hi, hie⟩ := BinSearch.ok_lt hr
        simp only [List.getElem?_eq_getElem hi, Option.getD_some] at hie
        rw [natCmp_eq] at hie
        simp only [hr, List.getElem?_eq_getElem hi, Option.some.injEq, MapVariant.variant.injEq] at h
        have : maps[i] = (c, g) := Prod.ext hie h
        rw [← this]
        exact List.getElem_mem hi
    · intro hmem
      obtain ⟨j, hj, hjeq⟩ := List.getElem_of_mem hmem
      have : natCmp maps[j].1 c = .eq := by rw [hjeq]; exact natCmp_eq.2 rfl
      rw [hb.1 j hj this]
      simp [List.getElem?_eq_getElem hj, hjeq]

theorem recVariant_spec (rec : VarSel) (c : Nat)
    (hdefs : ∀ ranges, rec.defaults = some ranges → ranges.Pairwise (fun a b => a.1 + a.2 < b.1))
    (hnons : ∀ maps, rec.nonDefaults = some maps → maps.Pairwise (fun a b => a.1 < b.1)) :
    (recVariant rec c = some .useDefault ↔ InDefaults rec c) ∧
    (∀ g, recVariant rec c = some (.variant g) ↔ ¬ InDefaults rec c ∧ InNonDefaults rec c g) := by
  have hdef := foundDefaultUvs_iff rec c hdefs
  unfold recVariant
  constructor
  · constructor
    · intro h
      by_cases hf : foundDefaultUvs rec c = true
      · exact hdef.1 hf
      · rw [if_neg hf] at h
        exact absurd h (lookupNonDefaultUvs_ne_default rec c)
    · intro h
      rw [if_pos (hdef.2 h)]
  · intro g
    constructor
    · intro h
      by_cases hf : foundDefaultUvs rec c = true
      · rw [if_pos hf] at h; cases h
      · rw [if_neg hf] at h
        exact ⟨fun hin => hf (hdef.2 hin), (lookupNonDefaultUvs_iff rec c g hnons).1 h⟩
    · rintro ⟨h1, h2⟩
      rw [if_neg (fun hf => h1 (hdef.1 hf))]
      exact (lookupNonDefaultUvs_iff rec c g hnons).2 h2

theorem mem_iter14 (t : List VarSel) (c sel : Nat) (v : MapVariant) :
    (c, sel, v) ∈ iter14 t ↔ ∃ rec ∈ t, rec.selector = sel ∧
      ((v = .useDefault ∧ InDefaults rec c) ∨ (∃ g, v = .variant g ∧ InNonDefaults rec c g)) := by
  unfold iter14
  simp only [List.mem_flatMap, List.mem_append]
  constructor
  · rintro ⟨rec, hrec, h | h⟩
    · cases hd : rec.defaults with
      | none => simp [hd] at h
      | some ranges =>
        simp only [hd, List.mem_flatMap, List.mem_map, List.mem_range'_1, Prod.mk.injEq] at h
        obtain ⟨r, hr, k, ⟨hk1, hk2⟩, rfl, rfl, rfl⟩ := h
        exact ⟨rec, hrec, rfl, Or.inl ⟨rfl, ranges, hd, r, hr, hk1, by omega⟩⟩
    · cases hd : rec.nonDefaults with
      | none => simp [hd] at h
      | some maps =>
        simp only [hd, List.mem_map, Prod.mk.injEq] at h
        obtain ⟨p, hp, rfl, rfl, rfl⟩ := h
        exact ⟨rec, hrec, rfl, Or.inr ⟨p.2, rfl, maps, hd, hp⟩⟩
  · rintro ⟨rec, hrec, rfl, ⟨rfl, ranges, hd, r, hr, h1, h2⟩ | ⟨g, rfl, maps, hd, hp⟩⟩
    · refine ⟨rec, hrec, Or.inl ?_⟩
      rw [hd]
      exact List.mem_flatMap.2 ⟨r, hr, List.mem_map.2 ⟨c, List.mem_range'_1.2 ⟨h1, by omega⟩, rfl⟩⟩
    · refine ⟨rec, hrec, Or.inr ?_⟩
      rw [hd]
      exact List.mem_map.2 ⟨(c, g), hp, rfl⟩

end FontVerif.Cmap
