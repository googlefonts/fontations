/- C14 / IntSet helper lemmas: the iterator state machines of `Model/IntSetIterMod.lean`
(`struct Iter`, `enum RangeIter` of int_set/mod.rs) refine the sequence-level abstract model of
`Model/IntSet.lean`. -/
import FontVerif.Model.IntSetIterMod
import FontVerif.Lemmas.IntSetDisc
namespace FontVerif.IntSet

theorem nextDiscLoop_some (f : Nat → Bool) (L : List Nat) (cur : Nat × Nat) :
    ∃ x, (nextDiscontinuousLoop f L (some cur)).1 = some x ∧
      x :: discontinuousRuns f (nextDiscontinuousLoop f L (some cur)).2 = extendRun f cur L ∧
      (nextDiscontinuousLoop f L (some cur)).2.length ≤ L.length := by
  induction L generalizing cur with
  | nil => exact ⟨cur, rfl, rfl, Nat.le_refl _⟩
  | cons w t ih =>
    cases hw : f w with
    | true =>
      refine ⟨cur, ?_, ?_, ?_⟩ <;> simp [nextDiscontinuousLoop, hw, extendRun_in _ t hw]
    | false =>
      obtain ⟨x, h1, h2, h3⟩ := ih (cur.1, w)
      have hstep : nextDiscontinuousLoop f (w :: t) (some cur) =
          nextDiscontinuousLoop f t (some (cur.1, w)) := by
        simp [nextDiscontinuousLoop, hw]
      rw [hstep, extendRun_out cur t hw]
      exact ⟨x, h1, h2, Nat.le_succ_of_le h3⟩

theorem nextDiscLoop_none (f : Nat → Bool) (L : List Nat) :
    (discontinuousRuns f L = match (nextDiscontinuousLoop f L none).1 with
      | none => []
      | some x => x :: discontinuousRuns f (nextDiscontinuousLoop f L none).2) ∧
    ((nextDiscontinuousLoop f L none).1.isSome →
      (nextDiscontinuousLoop f L none).2.length < L.length) ∧
    ((nextDiscontinuousLoop f L none).1 = none → (nextDiscontinuousLoop f L none).2 = []) := by
  induction L with
  | nil => simp [nextDiscontinuousLoop, discontinuousRuns]
  | cons v t ih =>
    cases hv : f v with
    | true =>
      have hstep : nextDiscontinuousLoop f (v :: t) none = nextDiscontinuousLoop f t none := by
        simp [nextDiscontinuousLoop, hv]
      rw [hstep, dRuns_cons_in t hv]
      exact ⟨ih.1, fun h => Nat.lt_succ_of_lt (ih.2.1 h), ih.2.2⟩
    | false =>
      have hstep : nextDiscontinuousLoop f (v :: t) none =
          nextDiscontinuousLoop f t (some (v, v)) := by
        simp [nextDiscontinuousLoop, hv]
      obtain ⟨x, h1, h2, h3⟩ := nextDiscLoop_some f t (v, v)
      rw [hstep, h1, dRuns_cons_out t hv, ← h2]
      exact ⟨rfl, fun _ => Nat.lt_succ_of_le h3, fun h => nomatch h⟩

/-- the items still to come from an `InclusiveDiscontinuous` state -/
def denoteInclDisc (d : Domain) (R : List (Nat × Nat)) : Option (Nat × Nat) → List (Nat × Nat)
  | none => mergeDomainAdjacent d R
  | some c => mergeDomainAdjacent.go d c R

theorem mergeDomainAdjacent_cons (d : Domain) (r : Nat × Nat) (rest : List (Nat × Nat)) :
    mergeDomainAdjacent d (r :: rest) = mergeDomainAdjacent.go d r rest := rfl

theorem nextInclDisc_spec (d : Domain) (R : List (Nat × Nat)) (cur : Option (Nat × Nat)) :
    (denoteInclDisc d R cur = match (nextInclusiveDiscontinuous d R cur).1 with
      | none => []
      | some x => x :: denoteInclDisc d (nextInclusiveDiscontinuous d R cur).2.1
          (nextInclusiveDiscontinuous d R cur).2.2) ∧
    ((nextInclusiveDiscontinuous d R cur).1.isSome →
      (nextInclusiveDiscontinuous d R cur).2.1.length +
        (nextInclusiveDiscontinuous d R cur).2.2.toList.length < R.length + cur.toList.length) ∧
    ((nextInclusiveDiscontinuous d R cur).1 = none →
      (nextInclusiveDiscontinuous d R cur).2 = ([], none)) := by
  induction R generalizing cur with
  | nil =>
    cases cur with
    | none => simp [nextInclusiveDiscontinuous, denoteInclDisc, mergeDomainAdjacent]
    | some c => simp [nextInclusiveDiscontinuous, denoteInclDisc, mergeGo_nil, mergeDomainAdjacent]
  | cons n rest ih =>
    cases cur with
    | none =>
      have hstep : nextInclusiveDiscontinuous d (n :: rest) none =
          nextInclusiveDiscontinuous d rest (some n) := by simp [nextInclusiveDiscontinuous]
      rw [hstep]
      obtain ⟨i1, i2, i3⟩ := ih (some n)
      refine ⟨?_, fun h => ?_, i3⟩
      · rw [← i1]; rfl
      · have := i2 h; simp at this ⊢; omega
    | some c =>
      by_cases hadj : d.adjacent c.2 n.1 = true
      · have hstep : nextInclusiveDiscontinuous d (n :: rest) (some c) =
            nextInclusiveDiscontinuous d rest (some (c.1, n.2)) := by
          simp [nextInclusiveDiscontinuous, hadj]
        rw [hstep]
        obtain ⟨i1, i2, i3⟩ := ih (some (c.1, n.2))
        refine ⟨?_, fun h => ?_, i3⟩
        · rw [← i1]; simp [denoteInclDisc, mergeGo_cons, hadj]
        · have := i2 h; simp at this ⊢; omega
      · have hstep : nextInclusiveDiscontinuous d (n :: rest) (some c) =
            (some c, (rest, some n)) := by
          simp [nextInclusiveDiscontinuous, hadj]
        rw [hstep]
        simp [denoteInclDisc, mergeGo_cons, hadj]

/-- no `start - 1` underflow can happen from here: the ranges are sorted and disjoint, and a range
starting at `0` does not lie entirely below `min` -/
def ExclOk (min : Nat) (R : List (Nat × Nat)) : Prop :=
  R.Pairwise (fun p q => p.2 < q.1) ∧ ∀ r ∈ R, 1 ≤ r.1 ∨ min ≤ r.2

theorem exclOk_tail {min min' : Nat} {r : Nat × Nat} {rest : List (Nat × Nat)}
    (h : ExclOk min (r :: rest)) : ExclOk min' rest := by
  obtain ⟨h1, h2⟩ := h
  rw [List.pairwise_cons] at h1
  exact ⟨h1.2, fun q hq => Or.inl (by have := h1.1 q hq; omega)⟩

theorem exclOk_of_rsorted {lo : Nat} {R : List (Nat × Nat)} (h : RSorted R)
    (hlo : ∀ r ∈ R, lo ≤ r.1) : ExclOk lo R :=
  ⟨h.1, fun r hr => Or.inr (by have := h.2 r hr; have := hlo r hr; omega)⟩

theorem nextExclusiveLoop_spec (max : Nat) (R : List (Nat × Nat)) (min : Nat)
    (h : ExclOk min R) :
    ∃ item R' min' done', nextExclusiveLoop max R min = some (item, (R', min', done')) ∧
      complementRanges min max R = (match item with
        | none => []
        | some x => x :: (if done' then [] else complementRanges min' max R')) ∧
      (item = none → done' = true) ∧
      (done' = false → ExclOk min' R' ∧ R'.length < R.length) := by
  induction R generalizing min with
  | nil =>
    exact ⟨some (min, max), [], min, true, rfl, by simp [complementRanges], by simp, by simp⟩
  | cons r rest ih =>
    obtain ⟨s, e⟩ := r
    by_cases hc : s ≤ min ∧ min ≤ e
    · by_cases hm : e ≥ max
      · refine ⟨none, rest, min, true, ?_, ?_, by simp, by simp⟩
        · simp [nextExclusiveLoop, hc, hm]
        · simp [complementRanges, hc, hm]
      · obtain ⟨item, R', min', done', i1, i2, i3, i4⟩ := ih (e + 1) (exclOk_tail h)
        refine ⟨item, R', min', done', ?_, ?_, i3, fun hd => ?_⟩
        · simp only [nextExclusiveLoop, hc, hm, and_self, if_true, if_false]; exact i1
        · simp only [complementRanges, hc, hm, and_self, if_true, if_false]; exact i2
        · have := i4 hd; exact ⟨this.1, by simp; omega⟩
    · have hs : s ≠ 0 := by
        have := h.2 (s, e) (by simp)
        simp only at this
        omega
      by_cases hm : e < max
      · refine ⟨some (min, s - 1), rest, e + 1, false, ?_, ?_, by simp,
          fun _ => ⟨exclOk_tail h, by simp⟩⟩
        · simp [nextExclusiveLoop, hc, hs, hm]
        · simp [complementRanges, hc, hm]
      · refine ⟨some (min, s - 1), rest, min, true, ?_, ?_, by simp, by simp⟩
        · simp [nextExclusiveLoop, hc, hs, hm]
        · simp [complementRanges, hc, hm]

/-- the items a `RangeIter` state still has to deliver, in terms of the abstract model -/
def RangeIter.denote (d : Domain) : RangeIter → List (Nat × Nat)
  | .inclusive R => R
  | .inclusiveDiscontinuous R cur => denoteInclDisc d R cur
  | .exclusive R min max done => if done then [] else complementRanges min max R
  | .exclusiveDiscontinuous all set nv => discontinuousRuns set (nv.toList ++ all)

/-- side condition under which `next_exclusive` cannot hit the `start - 1` underflow -/
def RangeIter.Ok : RangeIter → Prop
  | .exclusive R min _ done => done = false → ExclOk min R
  | _ => True

/-- one call of `RangeIter::next`: it does not trap, delivers the head of what the state denotes
(`None` iff nothing is left), leaves a state denoting the tail, strictly decreases `size` when it
delivers, and is fused (after `None` the new state denotes nothing) -/
theorem RangeIter.next_spec (d : Domain) (it : RangeIter) (h : it.Ok) :
    ∃ item it', it.next d = some (item, it') ∧ it'.Ok ∧
      it.denote d = (match item with
        | none => []
        | some x => x :: it'.denote d) ∧
      (item.isSome → it'.size < it.size) ∧ (item = none → it'.denote d = []) := by
  cases it with
  | inclusive R =>
    cases R with
    | nil => exact ⟨none, .inclusive [], rfl, trivial, rfl, by simp, fun _ => rfl⟩
    | cons r rest =>
      exact ⟨some r, .inclusive rest, rfl, trivial, rfl, by simp [RangeIter.size], by simp⟩
  | inclusiveDiscontinuous R cur =>
    have hs := nextInclDisc_spec d R cur
    refine ⟨(nextInclusiveDiscontinuous d R cur).1, _, rfl, trivial, hs.1, hs.2.1, fun hn => ?_⟩
    simp only [RangeIter.denote]
    rw [hs.2.2 hn]
    rfl
  | exclusive R min max done =>
    cases done with
    | true =>
      exact ⟨none, .exclusive R min max true, rfl, by simp [RangeIter.Ok], rfl, by simp,
        fun _ => rfl⟩
    | false =>
      obtain ⟨item, R', min', done', i1, i2, i3, i4⟩ := nextExclusiveLoop_spec max R min (h rfl)
      refine ⟨item, .exclusive R' min' max done', ?_, ?_, ?_, ?_, ?_⟩
      · simp [RangeIter.next, i1]
      · intro hd; exact (i4 hd).1
      · simp only [RangeIter.denote, Bool.false_eq_true, if_false]; exact i2
      · intro _
        cases done' with
        | true => simp [RangeIter.size]
        | false => have := (i4 rfl).2; simp [RangeIter.size]; omega
      · intro hn; simp [RangeIter.denote, i3 hn]
  | exclusiveDiscontinuous all set nv =>
    have hs := nextDiscLoop_none set (nv.toList ++ all)
    refine ⟨(nextDiscontinuousLoop set (nv.toList ++ all) none).1, _, rfl, trivial, ?_, ?_,
      fun hn => ?_⟩
    · simpa [RangeIter.denote] using hs.1
    · intro hi; have := hs.2.1 hi; simp [RangeIter.size] at this ⊢; omega
    · simp only [RangeIter.denote, Option.toList_none, List.nil_append]
      rw [hs.2.2 hn]; rfl

theorem RangeIter.collectFuel_eq (d : Domain) (fuel : Nat) (it : RangeIter) (h : it.Ok)
    (hf : it.size < fuel) : RangeIter.collectFuel d fuel it = some (it.denote d) := by
  induction fuel generalizing it with
  | zero => omega
  | succ n ih =>
    obtain ⟨item, it', h1, h2, h3, h4, _⟩ := RangeIter.next_spec d it h
    cases item with
    | none => simp [RangeIter.collectFuel, h1, h3]
    | some r =>
      have := h4 rfl
      simp [RangeIter.collectFuel, h1, h3, ih it' h2 (by omega)]

theorem RangeIter.collect_eq (d : Domain) (it : RangeIter) (h : it.Ok) :
    it.collect d = some (it.denote d) :=
  RangeIter.collectFuel_eq d _ it h (Nat.lt_succ_self _)

/-- `Iter::next` / `Iter::next_back` loop with the comparison abstracted: `lt index skip` means
"`index` comes before `skip` in the direction of travel" -/
def genLoop (lt : Nat → Nat → Bool) (opp : Option Nat) :
    List Nat → List Nat → Option Nat → Option Nat × (List Nat × List Nat × Option Nat)
  | [], sv, f => (none, ([], sv, f))
  | index :: all, sv, none =>
    if opp = some index then genLoop lt opp all sv none
    else (some index, (all, sv, none))
  | index :: all, sv, some skip =>
    if lt index skip then (some index, (all, sv, some skip))
    else
      if lt skip index then genLoop lt opp (index :: all) sv.tail sv.head?
      else genLoop lt opp all sv.tail sv.head?
termination_by all sv f => (all.length, sv.length + (if f.isSome then 1 else 0))
decreasing_by
  · simp_wf; exact Prod.Lex.left _ _ (by omega)
  · simp_wf
    apply Prod.Lex.right
    cases sv <;> simp
  · simp_wf; exact Prod.Lex.left _ _ (by omega)

theorem nextLoop_eq_genLoop (bwd : Option Nat) (all sv : List Nat) (f : Option Nat) :
    Iter.nextLoop bwd all sv f = genLoop (fun a b => decide (a < b)) bwd all sv f := by
  fun_induction Iter.nextLoop bwd all sv f <;> rw [genLoop]
  case case5 ih =>
    simp only [decide_eq_true_eq]
    rw [if_neg (by omega), if_pos (by omega)]; exact ih
  case case6 ih =>
    simp only [decide_eq_true_eq]
    rw [if_neg (by omega), if_neg (by omega)]; exact ih
  all_goals simp_all

theorem nextBackLoop_eq_genLoop (fwd : Option Nat) (all sv : List Nat) (b : Option Nat) :
    Iter.nextBackLoop fwd all sv b = genLoop (fun a b => decide (a > b)) fwd all sv b := by
  fun_induction Iter.nextBackLoop fwd all sv b <;> rw [genLoop]
  case case5 ih =>
    simp only [decide_eq_true_eq]
    rw [if_neg (by omega), if_pos (by omega)]; exact ih
  case case6 ih =>
    simp only [decide_eq_true_eq]
    rw [if_neg (by omega), if_neg (by omega)]; exact ih
  all_goals simp_all

/-- `lt` is a strict total order (as a `Bool` relation) -/
structure STO (lt : Nat → Nat → Bool) : Prop where
  irrefl : ∀ a, lt a a = false
  trans : ∀ a b c, lt a b = true → lt b c = true → lt a c = true
  tri : ∀ a b, lt a b = false → lt b a = false → a = b

theorem sto_lt : STO (fun a b => decide (a < b)) :=
  ⟨fun a => decide_eq_false (Nat.lt_irrefl a),
    fun _ _ _ h1 h2 => decide_eq_true (Nat.lt_trans (of_decide_eq_true h1) (of_decide_eq_true h2)),
    fun _ _ h1 h2 => Nat.le_antisymm (Nat.not_lt.1 (of_decide_eq_false h2))
      (Nat.not_lt.1 (of_decide_eq_false h1))⟩
theorem sto_gt : STO (fun a b => decide (a > b)) :=
  ⟨fun a => decide_eq_false (Nat.lt_irrefl a),
    fun _ _ _ h1 h2 => decide_eq_true (Nat.lt_trans (of_decide_eq_true h2) (of_decide_eq_true h1)),
    fun _ _ h1 h2 => Nat.le_antisymm (Nat.not_lt.1 (of_decide_eq_false h1))
      (Nat.not_lt.1 (of_decide_eq_false h2))⟩

/-- the values still to be skipped, in the direction of travel: the pending skip of this
direction, the unread `set_values`, the pending skip of the opposite direction -/
def pend (f : Option Nat) (sv : List Nat) (opp : Option Nat) : List Nat :=
  f.toList ++ (sv ++ opp.toList)

abbrev PW (lt : Nat → Nat → Bool) (l : List Nat) : Prop := l.Pairwise (fun a b => lt a b = true)

/-- the values of `all` that are not to be skipped -/
def live (P all : List Nat) : List Nat := all.filter (fun x => decide (x ∉ P))

theorem live_cons_mem {P : List Nat} {x : Nat} (all : List Nat) (h : x ∈ P) :
    live P (x :: all) = live P all := by simp [live, h]
theorem live_cons_nmem {P : List Nat} {x : Nat} (all : List Nat) (h : x ∉ P) :
    live P (x :: all) = x :: live P all := by simp [live, h]

theorem live_drop_head {lt : Nat → Nat → Bool} (h : STO lt) {skip : Nat} {P all : List Nat}
    (hlt : ∀ x ∈ all, lt skip x = true) : live (skip :: P) all = live P all := by
  unfold live
  apply List.filter_congr
  intro x hx
  have : x ≠ skip := by
    intro he; subst he
    have := hlt x hx; rw [h.irrefl] at this; exact absurd this (by simp)
  simp [this]

theorem head_tail_toList (sv : List Nat) : sv.head?.toList ++ sv.tail = sv := by
  cases sv <;> rfl

theorem pend_refill (sv : List Nat) (opp : Option Nat) :
    pend sv.head? sv.tail opp = sv ++ opp.toList := by
  unfold pend; rw [← List.append_assoc, head_tail_toList]

/-- the loop state `(all, sv, f)` owes `L`: the remaining domain values and the pending skips are
in travelling order, and the domain values that are not pending skips are exactly `L` -/
def Owes (lt : Nat → Nat → Bool) (opp : Option Nat) (all sv : List Nat) (f : Option Nat)
    (L : List Nat) : Prop :=
  PW lt all ∧ PW lt (pend f sv opp) ∧ live (pend f sv opp) all = L

/-- one run of the loop delivers the head of what is owed and leaves a state that owes the tail; the
skip slot is only ever empty when `set_values` is -/
theorem genLoop_spec {lt : Nat → Nat → Bool} (h : STO lt) (opp : Option Nat)
    (all sv : List Nat) (f : Option Nat) (L : List Nat) (hO : Owes lt opp all sv f L)
    (hf : f = none → sv = []) :
    (genLoop lt opp all sv f).1 = L.head? ∧
    Owes lt opp (genLoop lt opp all sv f).2.1 (genLoop lt opp all sv f).2.2.1
      (genLoop lt opp all sv f).2.2.2 L.tail ∧
    ((genLoop lt opp all sv f).2.2.2 = none → (genLoop lt opp all sv f).2.2.1 = []) ∧
    (sv = [] → (genLoop lt opp all sv f).2.2.1 = []) := by
  obtain ⟨hall, hP, rfl⟩ := hO
  fun_induction genLoop lt opp all sv f
  case case1 sv f =>
    exact ⟨rfl, ⟨hall, hP, rfl⟩, hf, id⟩
  case case2 index all sv hopp ih =>
    have hmem : index ∈ pend none sv opp := by simp [pend, hopp]
    rw [live_cons_mem all hmem]
    exact ih hf (List.Pairwise.of_cons hall) hP
  case case3 index all sv hopp =>
    have hsv := hf rfl
    have hmem : index ∉ pend none sv opp := by
      subst hsv
      cases opp with
      | none => simp [pend]
      | some o => simp [pend]; intro he; exact hopp (by rw [he])
    rw [live_cons_nmem all hmem]
    exact ⟨rfl, ⟨List.Pairwise.of_cons hall, hP, rfl⟩, hf, id⟩
  case case4 index all sv skip hlt =>
    have hmem : index ∉ pend (some skip) sv opp := by
      intro hm
      have hP' := List.pairwise_cons.1 (show PW lt (skip :: (sv ++ opp.toList)) from hP)
      rcases List.mem_cons.1 (show index ∈ skip :: (sv ++ opp.toList) from hm) with he | hm''
      · subst he; rw [h.irrefl] at hlt; exact absurd hlt (by simp)
      · have := h.trans _ _ _ hlt (hP'.1 index hm'')
        rw [h.irrefl] at this; exact absurd this (by simp)
    rw [live_cons_nmem all hmem]
    exact ⟨rfl, ⟨List.Pairwise.of_cons hall, hP, rfl⟩, hf, id⟩
  case case5 index all sv skip hnlt hgt ih =>
    -- the skip lies before `index`: drop it and refill the slot
    have hP2 : PW lt (pend sv.head? sv.tail opp) := by
      rw [pend_refill]; exact List.Pairwise.of_cons (show PW lt (skip :: (sv ++ opp.toList)) from hP)
    have hdrop : live (pend (some skip) sv opp) (index :: all) =
        live (pend sv.head? sv.tail opp) (index :: all) := by
      rw [pend_refill]
      apply live_drop_head h
      intro x hx
      rcases List.mem_cons.1 hx with he | hx'
      · subst he; exact hgt
      · exact h.trans _ _ _ hgt ((List.pairwise_cons.1 hall).1 x hx')
    rw [hdrop]
    have ih' := ih (by cases sv <;> simp) hall hP2
    exact ⟨ih'.1, ih'.2.1, ih'.2.2.1, fun hs => ih'.2.2.2 (by rw [hs]; rfl)⟩
  case case6 index all sv skip hnlt hngt ih =>
    -- the skip is `index` itself: both are dropped
    have heq : index = skip := h.tri _ _ (by simpa using hnlt) (by simpa using hngt)
    subst heq
    have hP2 : PW lt (pend sv.head? sv.tail opp) := by
      rw [pend_refill]; exact List.Pairwise.of_cons (show PW lt (index :: (sv ++ opp.toList)) from hP)
    have hdrop : live (pend (some index) sv opp) all = live (pend sv.head? sv.tail opp) all := by
      rw [pend_refill]
      exact live_drop_head h (List.pairwise_cons.1 hall).1
    rw [live_cons_mem all (show index ∈ pend (some index) sv opp by simp [pend]), hdrop]
    have ih' := ih (by cases sv <;> simp) (List.Pairwise.of_cons hall) hP2
    exact ⟨ih'.1, ih'.2.1, ih'.2.2.1, fun hs => ih'.2.2.2 (by rw [hs]; rfl)⟩

theorem pw_lt_iff (l : List Nat) : PW (fun a b => decide (a < b)) l ↔ Asc l := by
  simp only [PW, Asc, decide_eq_true_eq]

theorem pw_gt_reverse_iff (l : List Nat) : PW (fun a b => decide (a > b)) l.reverse ↔ Asc l := by
  simp only [PW, Asc, decide_eq_true_eq, List.pairwise_reverse]

theorem option_toList_reverse (o : Option Nat) : o.toList.reverse = o.toList := by
  cases o <;> rfl

theorem pend_reverse (f : Option Nat) (sv : List Nat) (b : Option Nat) :
    pend b sv.reverse f = (pend f sv b).reverse := by
  simp [pend, option_toList_reverse]

theorem live_reverse (P all : List Nat) : live P.reverse all.reverse = (live P all).reverse := by
  simp [live, List.filter_reverse]

/-- travelling backwards over the reversed lists is travelling forwards -/
theorem owes_reverse {fwd bwd : Option Nat} {all sv L : List Nat} :
    Owes (fun a b => decide (a > b)) fwd all.reverse sv.reverse bwd L.reverse ↔
      Owes (fun a b => decide (a < b)) bwd all sv fwd L := by
  unfold Owes
  rw [pend_reverse, live_reverse, pw_gt_reverse_iff, pw_gt_reverse_iff, pw_lt_iff, pw_lt_iff,
    List.reverse_inj]

/-- forward-only simulation: in exclusive mode the loop state owes `L` and the forward skip slot is
only empty when `set_values` is; in inclusive mode `set_values = L` -/
def Iter.SimF (it : Iter) (L : List Nat) : Prop :=
  match it.allValues with
  | none => it.setValues = L
  | some all =>
    Owes (fun a b => decide (a < b)) it.nextSkippedBackward all it.setValues it.nextSkippedForward L ∧
      (it.nextSkippedForward = none → it.setValues = [])

/-- two-sided simulation: additionally the backward skip slot is only empty when `set_values` is -/
def Iter.Sim (it : Iter) (L : List Nat) : Prop :=
  it.SimF L ∧ (it.allValues.isSome → it.nextSkippedBackward = none → it.setValues = [])

theorem Iter.next_simF {it : Iter} {L : List Nat} (h : it.SimF L) :
    it.next.1 = L.head? ∧ it.next.2.SimF L.tail ∧
    it.next.2.allValues.isSome = it.allValues.isSome ∧
    it.next.2.nextSkippedBackward = it.nextSkippedBackward ∧
    (it.setValues = [] → it.next.2.setValues = []) := by
  unfold Iter.SimF at h
  unfold Iter.next Iter.SimF
  cases ha : it.allValues with
  | none =>
    rw [ha] at h
    simp only at h ⊢
    subst h
    simp [popFront]
    intro h; rw [h]; rfl
  | some all =>
    rw [ha] at h
    simp only at h ⊢
    rw [nextLoop_eq_genLoop]
    obtain ⟨g1, g2, g3, g4⟩ := genLoop_spec sto_lt _ _ _ _ _ h.1 h.2
    exact ⟨g1, ⟨g2, g3⟩, by simp, by simp, g4⟩

theorem Iter.next_sim {it : Iter} {L : List Nat} (h : it.Sim L) :
    it.next.1 = L.head? ∧ it.next.2.Sim L.tail := by
  obtain ⟨h1, h2, h3, h4, h5⟩ := Iter.next_simF h.1
  refine ⟨h1, h2, ?_⟩
  rw [h3, h4]
  exact fun ha hb => h5 (h.2 ha hb)

theorem Iter.nextBack_sim {it : Iter} {L : List Nat} (h : it.Sim L) :
    it.nextBack.1 = L.getLast? ∧ it.nextBack.2.Sim L.dropLast := by
  obtain ⟨h, hb⟩ := h
  unfold Iter.SimF at h
  unfold Iter.nextBack Iter.Sim Iter.SimF
  cases ha : it.allValues with
  | none =>
    rw [ha] at h
    simp only at h ⊢
    subst h
    simp [popBack]
  | some all =>
    rw [ha] at h hb
    simp only at h ⊢
    rw [nextBackLoop_eq_genLoop]
    obtain ⟨g1, g2, g3, g4⟩ := genLoop_spec sto_gt _ _ _ _ _ (owes_reverse.2 h.1)
      (fun hn => by rw [hb rfl hn]; rfl)
    rw [List.tail_reverse] at g2
    refine ⟨by rw [g1, List.head?_reverse], ⟨⟨owes_reverse.1 (by simpa using g2), fun hn => ?_⟩,
      fun _ hn => by rw [g3 hn]; rfl⟩⟩
    rw [g4 (by rw [h.2 hn]; rfl)]; rfl

theorem dropLast_append_of_getLast? {l : List Nat} {x : Nat} (h : l.getLast? = some x) :
    l.dropLast ++ [x] = l := by
  have := dropLast_append_getLast? l
  rwa [h] at this

theorem pend_new (S : List Nat) : pend S.head? S.tail none = S := by
  unfold pend; simp [head_tail_toList]

theorem pend_newBidirectional (S : List Nat) :
    pend S.head? S.tail.dropLast S.tail.getLast? = S := by
  unfold pend
  rw [dropLast_append_getLast?, head_tail_toList]

theorem Iter.new_simF {S D : List Nat} (hS : Asc S) (hD : Asc D) :
    (Iter.new S (some D)).SimF (D.filter (fun x => decide (x ∉ S))) := by
  simp only [Iter.new, Iter.SimF, popFront]
  exact ⟨⟨(pw_lt_iff _).2 hD, by rw [pend_new]; exact (pw_lt_iff _).2 hS, by rw [pend_new]; rfl⟩,
    by cases S <;> simp⟩

theorem Iter.new_simF_none (S : List Nat) : (Iter.new S none).SimF S := rfl

theorem Iter.newBidirectional_sim {S D : List Nat} (hS : Asc S) (hD : Asc D) :
    (Iter.newBidirectional S (some D)).Sim (D.filter (fun x => decide (x ∉ S))) := by
  simp only [Iter.newBidirectional, Iter.Sim, Iter.SimF, popFront, popBack]
  refine ⟨⟨⟨(pw_lt_iff _).2 hD, by rw [pend_newBidirectional]; exact (pw_lt_iff _).2 hS,
    by rw [pend_newBidirectional]; rfl⟩, by cases S <;> simp⟩, fun _ h => ?_⟩
  rw [List.getLast?_eq_none_iff] at h
  rw [h]; rfl

theorem Iter.newBidirectional_sim_none (S : List Nat) :
    (Iter.newBidirectional S none).Sim S := ⟨rfl, by simp [Iter.newBidirectional]⟩

/-- the `iter_after` construction at list level -/
theorem Iter.new_after_simF {S D : List Nat} (hS : Asc S) (hD : Asc D) (v : Nat) :
    (Iter.new (S.filter (fun x => decide (x > v))) (some (D.filter (fun x => decide (x > v))))).SimF
      (D.filter (fun x => decide (x > v) && decide (x ∉ S))) := by
  have := Iter.new_simF (hS.filter (fun x => decide (x > v))) (hD.filter (fun x => decide (x > v)))
  have heq : (D.filter (fun x => decide (x > v))).filter
        (fun x => decide (x ∉ S.filter (fun x => decide (x > v)))) =
      D.filter (fun x => decide (x > v) && decide (x ∉ S)) := by
    rw [List.filter_filter]
    apply List.filter_congr
    intro x _
    by_cases hxv : x > v <;> simp [hxv]
  rw [heq] at this; exact this

theorem Iter.take_simF (k : Nat) {it : Iter} {L : List Nat} (h : it.SimF L) :
    Iter.take k it = L.take k := by
  induction k generalizing it L with
  | zero => rfl
  | succ k ih =>
    obtain ⟨h1, h2, _⟩ := Iter.next_simF h
    unfold Iter.take
    cases L with
    | nil =>
      have : it.next = (none, it.next.2) := Prod.ext h1 rfl
      rw [this]; rfl
    | cons x t =>
      have : it.next = (some x, it.next.2) := Prod.ext h1 rfl
      rw [this]
      simp only [List.take_succ_cons]
      rw [ih h2]; rfl

theorem Iter.takeBack_sim (k : Nat) {it : Iter} {L : List Nat} (h : it.Sim L) :
    Iter.takeBack k it = L.reverse.take k := by
  induction k generalizing it L with
  | zero => rfl
  | succ k ih =>
    obtain ⟨h1, h2⟩ := Iter.nextBack_sim h
    unfold Iter.takeBack
    cases hl : L.getLast? with
    | none =>
      rw [List.getLast?_eq_none_iff] at hl; subst hl
      have : it.nextBack = (none, it.nextBack.2) := Prod.ext h1 rfl
      rw [this]; rfl
    | some x =>
      have : it.nextBack = (some x, it.nextBack.2) := Prod.ext (h1.trans hl) rfl
      rw [this]
      simp only
      rw [ih h2]
      have hL := dropLast_append_of_getLast? hl
      conv => rhs; rw [← hL]
      simp

theorem Iter.afterNexts_simF (k : Nat) {it : Iter} {L : List Nat} (h : it.SimF L) :
    (Iter.afterNexts k it).SimF (L.drop k) := by
  induction k generalizing it L with
  | zero => exact h
  | succ k ih =>
    have := ih (Iter.next_simF h).2.1
    simpa [Iter.afterNexts, List.drop_tail] using this

theorem Iter.next_exhausted (k : Nat) {it : Iter} {L : List Nat} (h : it.SimF L)
    (hk : L.length ≤ k) : (Iter.afterNexts k it).next.1 = none := by
  rw [(Iter.next_simF (Iter.afterNexts_simF k h)).1, List.drop_eq_nil_of_le hk]; rfl

/-- the reference double-ended queue: `next` pops the head, `next_back` pops the last -/
def dequeRun : List Bool → List Nat → List (Bool × Option Nat)
  | [], _ => []
  | true :: r, L => (true, L.head?) :: dequeRun r L.tail
  | false :: r, L => (false, L.getLast?) :: dequeRun r L.dropLast

/-- what the reference queue still holds after the schedule -/
def dequeRest : List Bool → List Nat → List Nat
  | [], L => L
  | true :: r, L => dequeRest r L.tail
  | false :: r, L => dequeRest r L.dropLast

/-- the values returned by the `next` calls, in call order -/
def fronts (o : List (Bool × Option Nat)) : List Nat :=
  o.filterMap (fun p => if p.1 then p.2 else none)
/-- the values returned by the `next_back` calls, in call order -/
def backs (o : List (Bool × Option Nat)) : List Nat :=
  o.filterMap (fun p => if p.1 then none else p.2)

theorem Iter.runSchedule_sim (sched : List Bool) {it : Iter} {L : List Nat} (h : it.Sim L) :
    it.runSchedule sched = dequeRun sched L := by
  induction sched generalizing it L with
  | nil => rfl
  | cons b r ih =>
    cases b with
    | true =>
      obtain ⟨h1, h2⟩ := Iter.next_sim h
      simp only [Iter.runSchedule, dequeRun, h1, ih h2]
    | false =>
      obtain ⟨h1, h2⟩ := Iter.nextBack_sim h
      simp only [Iter.runSchedule, dequeRun, h1, ih h2]

theorem dequeRun_calls (sched : List Bool) (L : List Nat) :
    (dequeRun sched L).map (·.1) = sched := by
  induction sched generalizing L with
  | nil => rfl
  | cons b r ih => cases b <;> simp [dequeRun, ih]

theorem dequeRun_split (sched : List Bool) (L : List Nat) :
    fronts (dequeRun sched L) ++ dequeRest sched L ++ (backs (dequeRun sched L)).reverse = L := by
  induction sched generalizing L with
  | nil => exact List.append_nil _
  | cons b r ih =>
    cases b with
    | true =>
      cases L with
      | nil => exact ih []
      | cons x t => exact congrArg (x :: ·) (ih t)
    | false =>
      cases hl : L.getLast? with
      | none =>
        rw [List.getLast?_eq_none_iff] at hl; subst hl
        exact ih []
      | some x =>
        have hL := dropLast_append_of_getLast? hl
        have := ih L.dropLast
        simp only [dequeRun, dequeRest, fronts, backs, hl, List.filterMap_cons,
          Bool.false_eq_true, if_false, List.reverse_cons] at this ⊢
        rw [← List.append_assoc, this, hL]

/-- call number `i` delivers a value iff `i <` the number of members: the first
`min |sched| |L|` calls return `Some`, all later ones `None` -/
theorem dequeRun_isSome (sched : List Bool) (L : List Nat) :
    (dequeRun sched L).map (fun p => p.2.isSome) =
      List.replicate (min sched.length L.length) true ++
        List.replicate (sched.length - L.length) false := by
  induction sched generalizing L with
  | nil => simp [dequeRun]
  | cons b r ih =>
    cases b with
    | true =>
      cases L with
      | nil => simpa [dequeRun, List.replicate_succ] using ih []
      | cons x t =>
        simp only [dequeRun, List.map_cons, ih t, List.head?_cons, Option.isSome_some,
          List.tail_cons, List.length_cons, Nat.add_sub_add_right, Nat.add_min_add_right,
          List.replicate_succ, List.cons_append]
    | false =>
      cases hl : L.getLast? with
      | none =>
        rw [List.getLast?_eq_none_iff] at hl; subst hl
        simpa [dequeRun, List.replicate_succ] using ih []
      | some x =>
        have hL := dropLast_append_of_getLast? hl
        have hlen : L.length = L.dropLast.length + 1 := by
          conv => lhs; rw [← hL]
          simp
        simp only [dequeRun, List.map_cons, ih L.dropLast, hl, Option.isSome_some,
          List.length_cons]
        rw [hlen, Nat.add_sub_add_right, Nat.add_min_add_right, List.replicate_succ]
        simp

/-- any interleaving of `next` / `next_back` on a machine that owes `L` behaves like the reference
deque on `L`; spelled out: (1) the calls are answered in order; (2) what the `next` calls returned,
what is still owed, and what the `next_back` calls returned (reversed) partition `L` in order;
(3) the first `min |sched| |L|` calls return `Some`, every later call returns `None` -/
theorem Iter.schedule_consistent {it : Iter} {L : List Nat} (h : it.Sim L) (sched : List Bool) :
    it.runSchedule sched = dequeRun sched L ∧
    (it.runSchedule sched).map (·.1) = sched ∧
    fronts (it.runSchedule sched) ++ dequeRest sched L ++ (backs (it.runSchedule sched)).reverse
      = L ∧
    (it.runSchedule sched).map (fun p => p.2.isSome) =
      List.replicate (min sched.length L.length) true ++
        List.replicate (sched.length - L.length) false := by
  rw [Iter.runSchedule_sim sched h]
  exact ⟨rfl, dequeRun_calls _ _, dequeRun_split _ _, dequeRun_isSome _ _⟩

/-- consequences: forward results are a prefix of the members ascending, backward results a prefix
of the members descending, and no value is ever returned twice -/
theorem Iter.schedule_prefixes {it : Iter} {L : List Nat} (h : it.Sim L) (hL : Asc L)
    (sched : List Bool) :
    fronts (it.runSchedule sched) <+: L ∧ backs (it.runSchedule sched) <+: L.reverse ∧
    (fronts (it.runSchedule sched) ++ backs (it.runSchedule sched)).Nodup ∧
    (fronts (it.runSchedule sched)).length + (backs (it.runSchedule sched)).length ≤ L.length := by
  have hs := (Iter.schedule_consistent h sched).2.2.1
  generalize fronts (it.runSchedule sched) = A at hs ⊢
  generalize backs (it.runSchedule sched) = C at hs ⊢
  generalize dequeRest sched L = B at hs
  refine ⟨⟨B ++ C.reverse, by rw [← List.append_assoc]; exact hs⟩, ⟨B.reverse ++ A.reverse, ?_⟩,
    ?_, ?_⟩
  · rw [← hs]; simp
  · have hN : (A ++ B ++ C.reverse).Nodup := by rw [hs]; exact List.Pairwise.imp (fun hab => Nat.ne_of_lt hab) hL
    have hsub : (A ++ C.reverse).Sublist (A ++ B ++ C.reverse) := by
      rw [List.append_assoc]
      exact (List.Sublist.refl A).append (List.sublist_append_right B C.reverse)
    have := hN.sublist hsub
    rw [List.nodup_append] at this ⊢
    refine ⟨this.1, ?_, fun a ha b hb => this.2.2 a ha b (by simpa using hb)⟩
    exact List.pairwise_reverse.1 (List.Pairwise.imp (fun hab => Ne.symm hab) this.2.1)
  · have := congrArg List.length hs
    simp at this; omega

theorem IntSet.iterMachine_sim {d : Domain} (hd : DomWF d) {s : IntSet} (h : IInvD d s) :
    (s.iterMachine d).Sim (s.elems d) := by
  unfold IntSet.iterMachine
  by_cases hi : s.inverted = true
  · rw [if_pos hi, elems_exclusive d h.1 hi]
    exact Iter.newBidirectional_sim (BitSet.members_asc _ h.1) (expand_asc hd.sorted)
  · rw [if_neg hi]
    simp only [Bool.not_eq_true] at hi
    rw [elems_inclusive hd h hi]
    exact Iter.newBidirectional_sim_none _

theorem orderedValuesRange_eq_seg (D : List Nat) (a b : Nat) : orderedValuesRange D a b = seg D a b :=
  rfl

theorem IntSet.iterAfterMachine_simF {d : Domain} (hd : DomWF d) {s : IntSet} (h : IInvD d s)
    {v : Nat} (hv : d.contains v = true) :
    (s.iterAfterMachine d v).SimF ((s.elems d).filter (fun x => decide (x > v))) := by
  unfold IntSet.iterAfterMachine
  by_cases hi : s.inverted = true
  · simp only [hi, if_true]
    have hD := expand_asc hd.sorted
    have hvD : v ∈ expand d.ranges := Domain.contains_iff_mem.1 hv
    cases hmx : d.max? with
    | none =>
      have := Domain.ranges_nil_of_max hmx
      rw [this] at hvD; simp [expand] at hvD
    | some hi' =>
      have hle : ∀ x ∈ expand d.ranges, x ≤ hi' :=
        fun x hx => Domain.le_max hd hmx (Domain.contains_iff_mem.2 hx)
      -- `value..=max` is `v` followed by the domain values above `v`
      have hrange : ∀ a, seg (expand d.ranges) a hi' =
          (expand d.ranges).filter (fun x => decide (a ≤ x)) := fun a =>
        List.filter_congr (fun x hx => by simp [hle x hx])
      simp only [Option.map_some, Option.bind_some, popFront, orderedValuesRange_eq_seg,
        seg_cons_self hD hvD (hle v hvD), List.tail_cons, hrange]
      have hsucc : (expand d.ranges).filter (fun x => decide (v + 1 ≤ x)) =
          (expand d.ranges).filter (fun x => decide (x > v)) := rfl
      rw [hsucc]
      rw [elems_exclusive d h.1 hi, List.filter_filter]
      cases hT : (expand d.ranges).filter (fun x => decide (x > v)) with
      | nil =>
        rw [List.filter_eq_nil_iff.2 (fun x hx hq =>
          List.filter_eq_nil_iff.1 hT x hx (Bool.and_eq_true_iff.1 hq).1)]
        exact Iter.new_simF_none []
      | cons mn T =>
        simp only [List.head?_cons]
        -- `mn` is the least domain value above `v`: the values from `mn` on are those above `v`
        have hmn : mn ∈ (expand d.ranges).filter (fun x => decide (x > v)) := hT ▸ List.mem_cons_self ..
        have hmnv : v < mn := of_decide_eq_true (List.mem_filter.1 hmn).2
        have hmin : ∀ x ∈ expand d.ranges, v < x → mn ≤ x := fun x hx hxv => by
          rcases List.mem_cons.1 (hT ▸ List.mem_filter.2 ⟨hx, decide_eq_true hxv⟩) with he | hxT
          · exact Nat.le_of_eq he.symm
          · exact Nat.le_of_lt ((asc_cons.1 (hT ▸ hD.filter _)).1 x hxT)
        rw [hrange, List.filter_congr (fun x hx => decide_eq_decide.2
          ⟨fun hle => Nat.lt_of_lt_of_le hmnv hle, hmin x hx⟩)]
        exact Iter.new_after_simF (BitSet.members_asc _ h.1) hD v
  · simp only [hi, if_false, Bool.false_eq_true]
    simp only [Bool.not_eq_true] at hi
    rw [elems_inclusive hd h hi]
    exact Iter.new_simF_none _

end FontVerif.IntSet
