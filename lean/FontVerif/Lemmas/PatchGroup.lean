/-
Lemmas for C19 about Model/PatchGroup.lean: the `BTreeMap<String, _>` model (`mapInsert` keeps keys
strictly sorted, hence unique), the `IntersectionInfo` order (a strict total order: `Ord` is lawful),
`max_by_key`, the invariant of `group_patches` (`GInv`), the selected group in terms of the candidates
(`Selected`), the status map as one map (`setAll`), one apply round; which table an offered candidate comes
from (`intersectingPatches_from`) and the outcomes of `select_next_patches` (`selectNext_cases`).
-/
import FontVerif.Lemmas.PatchMap
import FontVerif.Lemmas.PatchMapF1
namespace FontVerif.PatchGroup
open FontVerif.PatchMap FontVerif.UriTemplate

/-- `uriLt` is core's lexicographic `<` on `List Nat` -/
theorem uriLt_iff : ∀ a b : Uri, uriLt a b = true ↔ a < b
  | [], [] => by simp [uriLt]
  | [], _ :: _ => by simp [uriLt]
  | _ :: _, [] => by simp [uriLt]
  | x :: xs, y :: ys => by
    rw [List.cons_lt_cons_iff, ← uriLt_iff xs ys, uriLt]
    by_cases h1 : x < y
    · simp [h1]
    · by_cases h2 : y < x
      · simp [h1, h2]; omega
      · simp [h1, h2]; omega

theorem uriLt_irrefl (a : Uri) : uriLt a a = false :=
  Bool.eq_false_iff.2 fun h => List.lt_irrefl a ((uriLt_iff a a).1 h)

theorem uriLt_trans (a b c : Uri) (h1 : uriLt a b = true) (h2 : uriLt b c = true) :
    uriLt a c = true :=
  (uriLt_iff a c).2 (List.lt_trans ((uriLt_iff a b).1 h1) ((uriLt_iff b c).1 h2))

theorem uriLt_total (a b : Uri) : uriLt a b = true ∨ a = b ∨ uriLt b a = true := by
  rw [uriLt_iff, uriLt_iff]
  by_cases h : a < b
  · exact Or.inl h
  · exact (List.le_iff_lt_or_eq.1 (List.not_lt.1 h)).elim (Or.inr ∘ Or.inr) (Or.inr ∘ Or.inl ∘ Eq.symm)

def Sorted (m : UriMap) : Prop := m.Pairwise (fun p q => uriLt p.1 q.1 = true)

def KeyIsUri (m : UriMap) : Prop := ∀ q, q ∈ m → q.2.uri = q.1

theorem mapInsert_cons (k : Uri) (v : PatchInfo) (a : Uri × PatchInfo) (rest : UriMap) :
    mapInsert k v (a :: rest) =
      if k = a.1 then (a.1, v) :: rest else if uriLt k a.1 then (k, v) :: a :: rest
      else a :: mapInsert k v rest := rfl

theorem mem_mapInsert {k : Uri} {v : PatchInfo} {m : UriMap} {p : Uri × PatchInfo}
    (h : p ∈ mapInsert k v m) : p = (k, v) ∨ p ∈ m := by
  induction m with
  | nil => exact Or.inl (List.mem_singleton.1 h)
  | cons a rest ih =>
    rw [mapInsert_cons] at h
    by_cases hk : k = a.1
    · rw [if_pos hk] at h
      exact (List.mem_cons.1 h).imp (fun e => hk ▸ e) (List.mem_cons_of_mem _)
    rw [if_neg hk] at h
    by_cases hlt : uriLt k a.1 = true
    · rw [if_pos hlt] at h
      exact List.mem_cons.1 h
    rw [if_neg hlt] at h
    rcases List.mem_cons.1 h with h | h
    · exact Or.inr (h ▸ List.mem_cons_self)
    · exact (ih h).imp id (List.mem_cons_of_mem _)

theorem mapInsert_sorted {k : Uri} {v : PatchInfo} {m : UriMap} (h : Sorted m) :
    Sorted (mapInsert k v m) := by
  induction m with
  | nil => exact List.pairwise_singleton _ _
  | cons a rest ih =>
    obtain ⟨hhead, htail⟩ := List.pairwise_cons.1 h
    rw [mapInsert_cons]
    by_cases hk : k = a.1
    · rw [if_pos hk]
      exact List.pairwise_cons.2 ⟨hhead, htail⟩
    rw [if_neg hk]
    by_cases hlt : uriLt k a.1 = true
    · rw [if_pos hlt]
      refine List.pairwise_cons.2 ⟨fun q hq => ?_, h⟩
      rcases List.mem_cons.1 hq with rfl | hq
      · exact hlt
      · exact uriLt_trans _ _ _ hlt (hhead q hq)
    rw [if_neg hlt]
    refine List.pairwise_cons.2 ⟨fun q hq => ?_, ih htail⟩
    rcases mem_mapInsert hq with rfl | hq
    · exact ((uriLt_total k a.1).resolve_left hlt).resolve_left hk
    · exact hhead q hq

theorem mapInsert_keyIsUri {p : PatchInfo} {m : UriMap} (h : KeyIsUri m) :
    KeyIsUri (mapInsert p.uri p m) := by
  intro q hq
  rcases mem_mapInsert hq with rfl | hq
  · rfl
  · exact h q hq

theorem mapInsert_ne_nil (k : Uri) (v : PatchInfo) (m : UriMap) : mapInsert k v m ≠ [] := by
  cases m with
  | nil => exact List.cons_ne_nil _ _
  | cons a rest =>
    rw [mapInsert_cons]
    by_cases hk : k = a.1
    · rw [if_pos hk]; exact List.cons_ne_nil _ _
    rw [if_neg hk]
    by_cases hlt : uriLt k a.1 = true
    · rw [if_pos hlt]; exact List.cons_ne_nil _ _
    · rw [if_neg hlt]; exact List.cons_ne_nil _ _

theorem sorted_filter {m : UriMap} (f : Uri × PatchInfo → Bool) (h : Sorted m) : Sorted (m.filter f) :=
  List.Pairwise.sublist List.filter_sublist h

theorem keyIsUri_filter {m : UriMap} (f : Uri × PatchInfo → Bool) (h : KeyIsUri m) :
    KeyIsUri (m.filter f) := fun q hq => h q (List.mem_filter.1 hq).1

theorem sorted_keys_nodup {m : UriMap} (h : Sorted m) : (m.map (·.1)).Nodup := by
  unfold List.Nodup
  rw [List.pairwise_map]
  exact List.Pairwise.imp (fun {a b} hab heq => by rw [heq, uriLt_irrefl] at hab; cases hab) h

theorem values_uri_eq_keys {m : UriMap} (h : KeyIsUri m) :
    (m.map (·.2)).map (·.uri) = m.map (·.1) := by
  rw [List.map_map]
  apply List.map_congr_left
  intro q hq
  exact h q hq

theorem toPatchInfo_fields {u : PatchUri} {p : PatchInfo} (h : toPatchInfo u = some p) :
    uriString u = some p.uri ∧ p.table = u.table ∧ p.compat = u.compat ∧ p.bit = u.bit := by
  unfold toPatchInfo at h
  split at h
  · cases h
  · next s hs => cases h; exact ⟨hs, rfl, rfl, rfl⟩

theorem toCandidate_of_patchInfo {u : PatchUri} (h : (toPatchInfo u).isSome = true) :
    ∃ c, toCandidate u = some c ∧ toPatchInfo u = some c.patch ∧ c.info = u.info := by
  cases hp : toPatchInfo u with
  | none => simp [hp] at h
  | some p => exact ⟨⟨u.info, p⟩, by simp [toCandidate, hp], rfl, rfl⟩

theorem toCandidate_some {u : PatchUri} {c : Candidate} (h : toCandidate u = some c) :
    toPatchInfo u = some c.patch ∧ c.info = u.info := by
  unfold toCandidate at h
  split at h
  · cases h
  · next p hp => cases h; exact ⟨hp, rfl⟩

theorem lex_trans {α : Type} (lt : α → α → Prop) (tr : ∀ {a b c}, lt a b → lt b c → lt a c)
    {a b c : α} {P Q R : Prop} (h1 : lt a b ∨ (a = b ∧ P)) (h2 : lt b c ∨ (b = c ∧ Q))
    (h : P → Q → R) : lt a c ∨ (a = c ∧ R) := by
  rcases h1 with h1 | ⟨rfl, p⟩ <;> rcases h2 with h2 | ⟨rfl, q⟩
  · exact Or.inl (tr h1 h2)
  · exact Or.inl h1
  · exact Or.inl h2
  · exact Or.inr ⟨rfl, h p q⟩

theorem lexStep {α : Type} (lt : α → α → Prop) [DecidableRel lt] {a b : α}
    (asym : lt a b → ¬ lt b a) (tri : ¬ lt a b → ¬ lt b a → a = b) (k o : Ordering) :
    (if lt a b then Ordering.lt else if lt b a then Ordering.gt else k) = o ↔
      (lt a b ∧ o = .lt) ∨ (lt b a ∧ o = .gt) ∨ (a = b ∧ k = o) := by
  by_cases h1 : lt a b
  · rw [if_pos h1]
    refine ⟨fun h => Or.inl ⟨h1, h.symm⟩, ?_⟩
    rintro (⟨-, h⟩ | ⟨h2, -⟩ | ⟨rfl, -⟩)
    · exact h.symm
    · exact absurd h2 (asym h1)
    · exact absurd h1 (asym h1)
  rw [if_neg h1]
  by_cases h2 : lt b a
  · rw [if_pos h2]
    refine ⟨fun h => Or.inr (Or.inl ⟨h2, h.symm⟩), ?_⟩
    rintro (⟨h, -⟩ | ⟨-, h⟩ | ⟨rfl, -⟩)
    · exact absurd h h1
    · exact h.symm
    · exact absurd h2 h1
  rw [if_neg h2]
  refine ⟨fun h => Or.inr (Or.inr ⟨tri h1 h2, h⟩), ?_⟩
  rintro (⟨h, -⟩ | ⟨h, -⟩ | ⟨-, h⟩)
  · exact absurd h h1
  · exact absurd h h2
  · exact h

theorem natLex (a b : Nat) (k o : Ordering) :
    (if a < b then Ordering.lt else if b < a then Ordering.gt else k) = o ↔
      (a < b ∧ o = .lt) ∨ (b < a ∧ o = .gt) ∨ (a = b ∧ k = o) :=
  lexStep (· < ·) Nat.lt_asymm (fun h1 h2 => Nat.le_antisymm (Nat.le_of_not_lt h2) (Nat.le_of_not_lt h1)) k o

theorem intLex (a b : Int) (k o : Ordering) :
    (if a < b then Ordering.lt else if b < a then Ordering.gt else k) = o ↔
      (a < b ∧ o = .lt) ∨ (b < a ∧ o = .gt) ∨ (a = b ∧ k = o) :=
  lexStep (· < ·) Int.lt_asymm (fun h1 h2 => Int.le_antisymm (Int.not_lt.1 h2) (Int.not_lt.1 h1)) k o

theorem dsCmp_cons (x y : Nat × Int) (xs ys : List (Nat × Int)) (o : Ordering) :
    dsCmp (x :: xs) (y :: ys) = o ↔
      ((x.1 < y.1 ∨ (x.1 = y.1 ∧ x.2 < y.2)) ∧ o = .lt) ∨
      ((y.1 < x.1 ∨ (y.1 = x.1 ∧ y.2 < x.2)) ∧ o = .gt) ∨ (x = y ∧ dsCmp xs ys = o) := by
  show (if x.1 < y.1 then Ordering.lt else if y.1 < x.1 then Ordering.gt
    else if x.2 < y.2 then Ordering.lt else if y.2 < x.2 then Ordering.gt else dsCmp xs ys) = o ↔ _
  rw [natLex, intLex, Prod.ext_iff]
  constructor
  · rintro (⟨h, ho⟩ | ⟨h, ho⟩ | ⟨e, ⟨h, ho⟩ | ⟨h, ho⟩ | ⟨e', hk⟩⟩)
    · exact Or.inl ⟨Or.inl h, ho⟩
    · exact Or.inr (Or.inl ⟨Or.inl h, ho⟩)
    · exact Or.inl ⟨Or.inr ⟨e, h⟩, ho⟩
    · exact Or.inr (Or.inl ⟨Or.inr ⟨e.symm, h⟩, ho⟩)
    · exact Or.inr (Or.inr ⟨⟨e, e'⟩, hk⟩)
  · rintro (⟨h | ⟨e, h⟩, ho⟩ | ⟨h | ⟨e, h⟩, ho⟩ | ⟨⟨e, e'⟩, hk⟩)
    · exact Or.inl ⟨h, ho⟩
    · exact Or.inr (Or.inr ⟨e, Or.inl ⟨h, ho⟩⟩)
    · exact Or.inr (Or.inl ⟨h, ho⟩)
    · exact Or.inr (Or.inr ⟨e.symm, Or.inr (Or.inl ⟨h, ho⟩)⟩)
    · exact Or.inr (Or.inr ⟨e, Or.inr (Or.inr ⟨e', hk⟩)⟩)

theorem dsCmp_refl (a : List (Nat × Int)) : dsCmp a a = .eq := by
  induction a with
  | nil => rfl
  | cons x xs ih => exact (dsCmp_cons x x xs xs _).2 (Or.inr (Or.inr ⟨rfl, ih⟩))

theorem dsCmp_eq (a b : List (Nat × Int)) (h : dsCmp a b = .eq) : a = b := by
  induction a generalizing b with
  | nil => cases b with
    | nil => rfl
    | cons y ys => cases h
  | cons x xs ih => cases b with
    | nil => cases h
    | cons y ys =>
      rcases (dsCmp_cons x y xs ys _).1 h with ⟨-, h'⟩ | ⟨-, h'⟩ | ⟨rfl, h'⟩
      · cases h'
      · cases h'
      · rw [ih ys h']

theorem dsCmp_swap (a b : List (Nat × Int)) : dsCmp b a = (dsCmp a b).swap := by
  induction a generalizing b with
  | nil => cases b <;> rfl
  | cons x xs ih => cases b with
    | nil => rfl
    | cons y ys =>
      rcases (dsCmp_cons x y xs ys _).1 rfl with ⟨h, ho⟩ | ⟨h, ho⟩ | ⟨rfl, ho⟩
      · rw [ho]; exact (dsCmp_cons y x ys xs _).2 (Or.inr (Or.inl ⟨h, rfl⟩))
      · rw [ho]; exact (dsCmp_cons y x ys xs _).2 (Or.inl ⟨h, rfl⟩)
      · rw [← ho, ← ih]; exact (dsCmp_cons x x ys xs _).2 (Or.inr (Or.inr ⟨rfl, rfl⟩))

theorem dsCmp_total (a b : List (Nat × Int)) : dsCmp a b = .lt ∨ a = b ∨ dsCmp b a = .lt := by
  cases h : dsCmp a b with
  | lt => exact Or.inl rfl
  | eq => exact Or.inr (Or.inl (dsCmp_eq a b h))
  | gt => exact Or.inr (Or.inr (by rw [dsCmp_swap a b, h]; rfl))

theorem dsCmp_lt_trans (a b c : List (Nat × Int)) (h1 : dsCmp a b = .lt) (h2 : dsCmp b c = .lt) :
    dsCmp a c = .lt := by
  induction a generalizing b c with
  | nil => cases b with
    | nil => cases h1
    | cons y ys => cases c with
      | nil => cases h2
      | cons z zs => rfl
  | cons x xs ih => cases b with
    | nil => cases h1
    | cons y ys => cases c with
      | nil => cases h2
      | cons z zs =>
        rw [dsCmp_cons] at h1 h2 ⊢
        rcases h1 with ⟨h1, -⟩ | ⟨-, h1⟩ | ⟨rfl, h1⟩
        · rcases h2 with ⟨h2, -⟩ | ⟨-, h2⟩ | ⟨rfl, h2⟩
          · exact Or.inl ⟨lex_trans (· < ·) Nat.lt_trans h1 h2 Int.lt_trans, rfl⟩
          · cases h2
          · exact Or.inl ⟨h1, rfl⟩
        · cases h1
        · rcases h2 with ⟨h2, -⟩ | ⟨-, h2⟩ | ⟨rfl, h2⟩
          · exact Or.inl ⟨h2, rfl⟩
          · cases h2
          · exact Or.inr (Or.inr ⟨rfl, ih ys zs h1 h2⟩)


/-- `a` is strictly below `b` in the selection order: strictly smaller intersection (codepoints,
then layout tags, then design space), or the same intersection and a **later** entry -/
def infoLt (a b : IntersectionInfo) : Prop :=
  a.cps < b.cps ∨ (a.cps = b.cps ∧ (a.tags < b.tags ∨ (a.tags = b.tags ∧
    (dsCmp a.ds b.ds = .lt ∨ (a.ds = b.ds ∧ b.order < a.order)))))

theorem dsLex (a b : List (Nat × Int)) (k o : Ordering) :
    (if dsCmp a b = .lt then Ordering.lt else if dsCmp b a = .lt then Ordering.gt else k) = o ↔
      (dsCmp a b = .lt ∧ o = .lt) ∨ (dsCmp b a = .lt ∧ o = .gt) ∨ (a = b ∧ k = o) :=
  lexStep (fun x y => dsCmp x y = .lt) (fun h h' => by rw [dsCmp_swap a b, h] at h'; cases h')
    (fun h1 h2 => ((dsCmp_total a b).resolve_left h1).resolve_right h2) k o

theorem cmp_eq_ladder (a b : IntersectionInfo) : a.cmp b =
    if a.cps < b.cps then .lt else if b.cps < a.cps then .gt
    else if a.tags < b.tags then .lt else if b.tags < a.tags then .gt
    else if dsCmp a.ds b.ds = .lt then .lt else if dsCmp b.ds a.ds = .lt then .gt
    else if b.order < a.order then .lt else if a.order < b.order then .gt else .eq := by
  unfold IntersectionInfo.cmp
  rw [dsCmp_swap a.ds b.ds]
  cases dsCmp a.ds b.ds <;> rfl

theorem cmp_lt_iff (a b : IntersectionInfo) : a.cmp b = .lt ↔ infoLt a b := by
  unfold infoLt
  rw [cmp_eq_ladder, natLex, natLex, dsLex, natLex]
  simp only [reduceCtorEq, and_true, and_false, false_or, or_false]

theorem cmp_gt_iff (a b : IntersectionInfo) : a.cmp b = .gt ↔ infoLt b a := by
  unfold infoLt
  rw [cmp_eq_ladder, natLex, natLex, dsLex, natLex, eq_comm (a := b.cps), eq_comm (a := b.tags),
    eq_comm (a := b.ds)]
  simp only [reduceCtorEq, and_true, and_false, false_or, or_false]

theorem infoLt_irrefl (a : IntersectionInfo) : ¬ infoLt a a := by
  unfold infoLt
  simp [dsCmp_refl]

theorem infoLt_trans {a b c : IntersectionInfo} (h1 : infoLt a b) (h2 : infoLt b c) : infoLt a c :=
  lex_trans (· < ·) Nat.lt_trans h1 h2 fun h1 h2 =>
    lex_trans (· < ·) Nat.lt_trans h1 h2 fun h1 h2 =>
      lex_trans (fun x y => dsCmp x y = .lt) (dsCmp_lt_trans _ _ _) h1 h2 fun hba hcb =>
        Nat.lt_trans hcb hba

theorem infoLt_total (a b : IntersectionInfo) : infoLt a b ∨ a = b ∨ infoLt b a := by
  unfold infoLt
  rcases Nat.lt_trichotomy a.cps b.cps with h1 | h1 | h1
  · exact Or.inl (Or.inl h1)
  · rcases Nat.lt_trichotomy a.tags b.tags with h2 | h2 | h2
    · exact Or.inl (Or.inr ⟨h1, Or.inl h2⟩)
    · rcases dsCmp_total a.ds b.ds with h3 | h3 | h3
      · exact Or.inl (Or.inr ⟨h1, Or.inr ⟨h2, Or.inl h3⟩⟩)
      · rcases Nat.lt_trichotomy a.order b.order with h4 | h4 | h4
        · exact Or.inr (Or.inr (Or.inr ⟨h1.symm, Or.inr ⟨h2.symm, Or.inr ⟨h3.symm, h4⟩⟩⟩))
        · cases a; cases b; cases h1; cases h2; cases h3; cases h4
          exact Or.inr (Or.inl rfl)
        · exact Or.inl (Or.inr ⟨h1, Or.inr ⟨h2, Or.inr ⟨h3, h4⟩⟩⟩)
      · exact Or.inr (Or.inr (Or.inr ⟨h1.symm, Or.inr ⟨h2.symm, Or.inl h3⟩⟩))
    · exact Or.inr (Or.inr (Or.inr ⟨h1.symm, Or.inl h2⟩))
  · exact Or.inr (Or.inr (Or.inl h1))

def infoLe (a b : IntersectionInfo) : Prop := ¬ infoLt b a

theorem infoLe_trans {a b c : IntersectionInfo} (h1 : infoLe a b) (h2 : infoLe b c) : infoLe a c := by
  intro hca
  rcases infoLt_total a b with h | h | h
  · exact h2 (infoLt_trans hca h)
  · exact h2 (h ▸ hca)
  · exact h1 h

/-- `max_by_key` always answers, with a member that no member exceeds -/
theorem maxByInfo_spec : ∀ (cs : List Candidate) (b : Candidate),
    ∃ r, maxByInfo (some b) cs = some r ∧ r ∈ b :: cs ∧ ∀ x ∈ b :: cs, infoLe x.info r.info
  | [], b => ⟨b, rfl, List.mem_cons_self, fun x hx => by
      cases List.mem_singleton.1 hx; exact infoLt_irrefl _⟩
  | c :: cs, b => by
    rw [maxByInfo]
    split
    · next hgt =>
      obtain ⟨r, hr, hm, hle⟩ := maxByInfo_spec cs b
      have hcb : infoLe c.info b.info := fun hlt =>
        infoLt_irrefl _ (infoLt_trans hlt ((cmp_gt_iff _ _).1 hgt))
      refine ⟨r, hr, List.cons_subset_cons b (List.subset_cons_self c cs) hm, fun x hx => ?_⟩
      simp only [List.mem_cons] at hx
      rcases hx with rfl | rfl | hx
      · exact hle _ List.mem_cons_self
      · exact infoLe_trans hcb (hle _ List.mem_cons_self)
      · exact hle x (List.mem_cons_of_mem _ hx)
    · next hgt =>
      obtain ⟨r, hr, hm, hle⟩ := maxByInfo_spec cs c
      have hbc : infoLe b.info c.info := fun hlt => hgt ((cmp_gt_iff _ _).2 hlt)
      refine ⟨r, hr, List.mem_cons_of_mem _ hm, fun x hx => ?_⟩
      rcases List.mem_cons.1 hx with rfl | hx
      · exact infoLe_trans hbc (hle _ List.mem_cons_self)
      · exact hle x hx

theorem selectInvalidating_max {cs : List Candidate} {r : Candidate}
    (h : selectInvalidating cs = some r) : r ∈ cs ∧ ∀ c, c ∈ cs → ¬ infoLt r.info c.info := by
  cases cs with
  | nil => simp [selectInvalidating, maxByInfo] at h
  | cons b cs =>
    obtain ⟨r', hr, hm⟩ := maxByInfo_spec cs b
    cases hr.symm.trans h
    exact hm

theorem selectInvalidating_none {cs : List Candidate} (h : selectInvalidating cs = none) : cs = [] := by
  cases cs with
  | nil => rfl
  | cons b cs =>
    obtain ⟨r, hr, -⟩ := maxByInfo_spec cs b
    cases hr.symm.trans h

/-- a no-invalidation map of the grouping after the candidates `cands`; `P` is the class of
candidates it collects -/
structure MapInv (P : PatchUri → Prop) (cands : List PatchUri) (m : UriMap) : Prop where
  sorted : Sorted m
  key : KeyIsUri m
  src : ∀ q, q ∈ m → ∃ u, u ∈ cands ∧ P u ∧ toPatchInfo u = some q.2
  ne : (∃ u, u ∈ cands ∧ P u) → m ≠ []

theorem MapInv.step {P : PatchUri → Prop} [DecidablePred P] {pre : List PatchUri} {u : PatchUri}
    {m m' : UriMap} (h : MapInv P pre m)
    (hm : if P u then ∃ p, toPatchInfo u = some p ∧ m' = mapInsert p.uri p m else m' = m) :
    MapInv P (pre ++ [u]) m' := by
  by_cases c : P u
  · rw [if_pos c] at hm
    obtain ⟨p, hp, rfl⟩ := hm
    refine ⟨mapInsert_sorted h.sorted, mapInsert_keyIsUri h.key, fun q hq => ?_,
      fun _ => mapInsert_ne_nil _ _ _⟩
    rcases mem_mapInsert hq with rfl | hq
    · exact ⟨u, List.mem_append_right _ List.mem_cons_self, c, hp⟩
    · obtain ⟨v, hv, r⟩ := h.src q hq
      exact ⟨v, List.mem_append_left _ hv, r⟩
  · rw [if_neg c] at hm
    subst hm
    refine ⟨h.sorted, h.key, fun q hq => ?_, ?_⟩
    · obtain ⟨v, hv, r⟩ := h.src q hq
      exact ⟨v, List.mem_append_left _ hv, r⟩
    · rintro ⟨v, hv, r⟩
      rcases List.mem_append.1 hv with hv | hv
      · exact h.ne ⟨v, hv, r⟩
      · exact absurd (List.mem_singleton.1 hv ▸ r) c

theorem MapInv.nil (P : PatchUri → Prop) : MapInv P [] [] :=
  ⟨List.Pairwise.nil, fun _ hq => (nomatch hq), fun _ hq => (nomatch hq), fun ⟨_, hu, _⟩ => (nomatch hu)⟩

/-- partially invalidating patch of the first table -/
abbrev PA (iftId : Option Nat) (u : PatchUri) : Prop := u.enc = .tkPartial ∧ some u.compat = iftId
/-- partially invalidating patch of the second table -/
abbrev PB (iftId iftxId : Option Nat) (u : PatchUri) : Prop :=
  u.enc = .tkPartial ∧ some u.compat ≠ iftId ∧ some u.compat = iftxId
/-- glyph keyed patch of the first table -/
abbrev GA (iftId : Option Nat) (u : PatchUri) : Prop := u.enc = .glyphKeyed ∧ some u.compat = iftId
/-- glyph keyed patch of the second table -/
abbrev GB (iftId iftxId : Option Nat) (u : PatchUri) : Prop :=
  u.enc = .glyphKeyed ∧ some u.compat ≠ iftId ∧ some u.compat = iftxId

/-- what `group_patches` has established after consuming the candidates `cands` -/
structure GInv (iftId iftxId : Option Nat) (cands : List PatchUri) (g : Grouping) : Prop where
  mapA : MapInv (GA iftId) cands g.noInvIft
  mapB : MapInv (GB iftId iftxId) cands g.noInvIftx
  full : g.full = (cands.filter (fun u => decide (u.enc = .tkFull))).filterMap toCandidate
  partA : g.partialIft = (cands.filter (fun u => decide (PA iftId u))).filterMap toCandidate
  partB : g.partialIftx = (cands.filter (fun u => decide (PB iftId iftxId u))).filterMap toCandidate
  allOk : ∀ u, u ∈ cands → (u.enc = .tkFull ∨ some u.compat = iftId ∨ some u.compat = iftxId) →
    (toPatchInfo u).isSome

theorem GInv_empty (iftId iftxId : Option Nat) : GInv iftId iftxId [] Grouping.empty :=
  ⟨.nil _, .nil _, rfl, rfl, rfl, fun _ hu => nomatch hu⟩

theorem groupStep_some {iftId iftxId : Option Nat} {g g' : Grouping} {u : PatchUri}
    (hs : groupStep iftId iftxId g u = some g') :
    g'.full = g.full ++ (if u.enc = .tkFull then (toCandidate u).toList else []) ∧
    g'.partialIft = g.partialIft ++ (if PA iftId u then (toCandidate u).toList else []) ∧
    g'.partialIftx = g.partialIftx ++ (if PB iftId iftxId u then (toCandidate u).toList else []) ∧
    (if GA iftId u then ∃ p, toPatchInfo u = some p ∧ g'.noInvIft = mapInsert p.uri p g.noInvIft
      else g'.noInvIft = g.noInvIft) ∧
    (if GB iftId iftxId u then ∃ p, toPatchInfo u = some p ∧ g'.noInvIftx = mapInsert p.uri p g.noInvIftx
      else g'.noInvIftx = g.noInvIftx) ∧
    ((u.enc = .tkFull ∨ some u.compat = iftId ∨ some u.compat = iftxId) →
      (toPatchInfo u).isSome) := by
  have cand : ∀ {c}, toCandidate u = some c → (toPatchInfo u).isSome := fun hc => by
    rw [(toCandidate_some hc).1]; rfl
  unfold groupStep at hs
  dsimp only [PA, PB, GA, GB]
  cases henc : u.enc <;> simp only [henc] at hs
  · cases hc : toCandidate u <;> rw [hc] at hs <;> cases hs
    simp [cand hc]
  · by_cases hA : some u.compat = iftId
    · rw [if_pos hA] at hs
      cases hc : toCandidate u <;> rw [hc] at hs <;> cases hs
      simp [hA, cand hc]
    · rw [if_neg hA] at hs
      by_cases hB : some u.compat = iftxId
      · rw [if_pos hB] at hs
        cases hc : toCandidate u <;> rw [hc] at hs <;> cases hs
        simp [hB, show ¬ iftxId = iftId from hB ▸ hA, cand hc]
      · rw [if_neg hB] at hs
        cases hs
        simp [hA, hB]
  · by_cases hA : some u.compat = iftId
    · rw [if_pos hA] at hs
      cases hp : toPatchInfo u <;> rw [hp] at hs <;> cases hs
      simp [hA]
    · rw [if_neg hA] at hs
      by_cases hB : some u.compat = iftxId
      · rw [if_pos hB] at hs
        cases hp : toPatchInfo u <;> rw [hp] at hs <;> cases hs
        simp [hB, show ¬ iftxId = iftId from hB ▸ hA]
      · rw [if_neg hB] at hs
        cases hs
        simp [hA, hB]

theorem filterMap_filter_snoc {α β : Type} (P : α → Prop) [DecidablePred P] (f : α → Option β)
    (l : List α) (a : α) :
    ((l ++ [a]).filter fun x => decide (P x)).filterMap f =
      (l.filter fun x => decide (P x)).filterMap f ++ (if P a then (f a).toList else []) := by
  rw [List.filter_append, List.filterMap_append]
  by_cases c : P a
  · rw [if_pos c, List.filter_cons_of_pos (by simpa using c)]
    cases h : f a <;> simp [h]
  · rw [if_neg c, List.filter_cons_of_neg (by simpa using c)]
    rfl

theorem groupStep_inv {iftId iftxId : Option Nat} {pre : List PatchUri} {g g' : Grouping}
    {u : PatchUri} (hs : groupStep iftId iftxId g u = some g') (h : GInv iftId iftxId pre g) :
    GInv iftId iftxId (pre ++ [u]) g' := by
  obtain ⟨eF, eA, eB, mA, mB, ok⟩ := groupStep_some hs
  refine ⟨h.mapA.step mA, h.mapB.step mB, ?_, ?_, ?_, ?_⟩
  · rw [filterMap_filter_snoc, ← h.full]; exact eF
  · rw [filterMap_filter_snoc, ← h.partA]; exact eA
  · rw [filterMap_filter_snoc, ← h.partB]; exact eB
  · intro v hv
    rcases List.mem_append.1 hv with hv | hv
    · exact h.allOk v hv
    · exact List.mem_singleton.1 hv ▸ ok

theorem groupPatches_inv {iftId iftxId : Option Nat} : ∀ (cands pre : List PatchUri) (g g' : Grouping),
    groupPatches iftId iftxId g cands = some g' → GInv iftId iftxId pre g →
    GInv iftId iftxId (pre ++ cands) g' := by
  intro cands
  induction cands with
  | nil => intro pre g g' h hi; simp only [groupPatches, Option.some.injEq] at h; subst h; simpa using hi
  | cons u us ih =>
    intro pre g g' h hi
    simp only [groupPatches] at h
    split at h
    · cases h
    · next g1 h1 =>
      have := ih (pre ++ [u]) g1 g' h (groupStep_inv h1 hi)
      simpa using this

theorem groupPatches_spec {iftId iftxId : Option Nat} {cands : List PatchUri} {g : Grouping}
    (h : groupPatches iftId iftxId Grouping.empty cands = some g) : GInv iftId iftxId cands g := by
  simpa using groupPatches_inv cands [] _ _ h (GInv_empty iftId iftxId)

theorem mem_filterMap_toCandidate {l : List PatchUri} {f : PatchUri → Bool} {c : Candidate}
    (h : c ∈ (l.filter f).filterMap toCandidate) :
    ∃ u, u ∈ l ∧ f u = true ∧ toPatchInfo u = some c.patch ∧ c.info = u.info := by
  obtain ⟨u, hu, hc⟩ := List.mem_filterMap.1 h
  exact ⟨u, (List.mem_filter.1 hu).1, (List.mem_filter.1 hu).2, toCandidate_some hc⟩

theorem mem_filterMap_of {l : List PatchUri} {f : PatchUri → Bool} {u : PatchUri} {c : Candidate}
    (hu : u ∈ l) (hf : f u = true) (hc : toCandidate u = some c) :
    c ∈ (l.filter f).filterMap toCandidate :=
  List.mem_filterMap.2 ⟨u, List.mem_filter.2 ⟨hu, hf⟩, hc⟩

/-- `p` is the expansion of a candidate of class `P` that no candidate of the class allowed by `K` beats -/
def Best (cands : List PatchUri) (P K : PatchUri → Prop) (p : PatchInfo) : Prop :=
  ∃ u, u ∈ cands ∧ P u ∧ toPatchInfo u = some p ∧ ∀ v, v ∈ cands → P v → K v → ¬ infoLt u.info v.info

theorem Best.src {cands : List PatchUri} {P K : PatchUri → Prop} {p : PatchInfo} (h : Best cands P K p) :
    ∃ u, u ∈ cands ∧ P u ∧ toPatchInfo u = some p :=
  let ⟨u, h1, h2, h3, _⟩ := h; ⟨u, h1, h2, h3⟩

/-- the five shapes of the group `select_next_patches_from_candidates` returns, in terms of the
candidates: a slot holding an invalidating patch holds the best of its class, a slot holding
non-invalidating patches holds the map `group_patches` collects for its table (less the uri taken by
the other slot), and an earlier class is only passed over when no candidate belongs to it -/
inductive Selected (cands : List PatchUri) (iftId iftxId : Option Nat) : Group → Prop
  | full {p : PatchInfo} : Best cands (·.enc = .tkFull) (fun _ => True) p → Selected cands iftId iftxId (.full p)
  | both {a b : PatchInfo} : (∀ u, u ∈ cands → u.enc ≠ .tkFull) →
      Best cands (PA iftId) (fun _ => True) a →
      Best cands (PB iftId iftxId) (fun v => uriString v ≠ some a.uri) b → a.uri ≠ b.uri →
      Selected cands iftId iftxId (.mixed (.partialInv a) (.partialInv b))
  | left {a : PatchInfo} {m : UriMap} : (∀ u, u ∈ cands → u.enc ≠ .tkFull) →
      Best cands (PA iftId) (fun _ => True) a → MapInv (GB iftId iftxId) cands m →
      Selected cands iftId iftxId (.mixed (.partialInv a) (.noInv (mapRemove a.uri m)))
  | right {b : PatchInfo} {m : UriMap} : (∀ u, u ∈ cands → u.enc ≠ .tkFull) →
      (∀ u, u ∈ cands → ¬ PA iftId u) →
      Best cands (PB iftId iftxId) (fun _ => True) b → MapInv (GA iftId) cands m →
      Selected cands iftId iftxId (.mixed (.noInv (mapRemove b.uri m)) (.partialInv b))
  | none {mA mB : UriMap} : (∀ u, u ∈ cands → u.enc ≠ .tkFull) →
      (∀ u, u ∈ cands → ¬ PA iftId u) → (∀ u, u ∈ cands → ¬ PB iftId iftxId u) →
      MapInv (GA iftId) cands mA → MapInv (GB iftId iftxId) cands mB →
      Selected cands iftId iftxId
        (.mixed (.noInv mA) (.noInv (mB.filter fun p => !(mA.any fun q => q.1 = p.1))))

/-- an empty class list means no candidate of the class, since every candidate of a class converts -/
theorem class_none {cands : List PatchUri} {P : PatchUri → Prop} [DecidablePred P] {l : List Candidate}
    (hok : ∀ u, u ∈ cands → P u → (toPatchInfo u).isSome)
    (hl : l = (cands.filter fun u => decide (P u)).filterMap toCandidate)
    (hn : selectInvalidating l = none) : ∀ u, u ∈ cands → ¬ P u := by
  intro u hu hP
  obtain ⟨c, hc, -⟩ := toCandidate_of_patchInfo (hok u hu hP)
  have := mem_filterMap_of (f := fun u => decide (P u)) hu (decide_eq_true hP) hc
  rw [← hl, selectInvalidating_none hn] at this; cases this

/-- the selection from any part `l'` of the class list of `P` that keeps every candidate `K` allows -/
theorem best_of_select {cands : List PatchUri} {P K : PatchUri → Prop} [DecidablePred P] {l l' : List Candidate}
    {c : Candidate} (hok : ∀ u, u ∈ cands → P u → (toPatchInfo u).isSome)
    (hl : l = (cands.filter fun u => decide (P u)).filterMap toCandidate)
    (hsub : ∀ cv, cv ∈ l' → cv ∈ l) (hK : ∀ v cv, toCandidate v = some cv → cv ∈ l → K v → cv ∈ l')
    (h : selectInvalidating l' = some c) : Best cands P K c.patch := by
  subst hl
  obtain ⟨hmem, hmax⟩ := selectInvalidating_max h
  obtain ⟨u, hu1, hu2, hpi, hinfo⟩ := mem_filterMap_toCandidate (hsub c hmem)
  refine ⟨u, hu1, of_decide_eq_true hu2, hpi, fun v hv hP hKv => ?_⟩
  obtain ⟨cv, hcv, -, hvi⟩ := toCandidate_of_patchInfo (hok v hv hP)
  have := hmax cv (hK v cv hcv (mem_filterMap_of (f := fun u => decide (P u)) hv (decide_eq_true hP) hcv) hKv)
  rwa [hinfo, hvi] at this

theorem best_of_all {cands : List PatchUri} {P : PatchUri → Prop} [DecidablePred P] {l : List Candidate}
    {c : Candidate} (hok : ∀ u, u ∈ cands → P u → (toPatchInfo u).isSome)
    (hl : l = (cands.filter fun u => decide (P u)).filterMap toCandidate)
    (h : selectInvalidating l = some c) : Best cands P (fun _ => True) c.patch :=
  best_of_select hok hl (fun _ => id) (fun _ _ _ h _ => h) h

theorem selectFromCandidates_selected {cands : List PatchUri} {iftId iftxId : Option Nat} {g : Group}
    (h : selectFromCandidates cands iftId iftxId = .ok g) : Selected cands iftId iftxId g := by
  unfold selectFromCandidates at h
  cases hG : groupPatches iftId iftxId Grouping.empty cands with
  | none => rw [hG] at h; cases h
  | some G =>
  have GI := groupPatches_spec hG
  have okF : ∀ u, u ∈ cands → u.enc = .tkFull → (toPatchInfo u).isSome := fun u hu h => GI.allOk u hu (Or.inl h)
  have okA : ∀ u, u ∈ cands → PA iftId u → (toPatchInfo u).isSome :=
    fun u hu h => GI.allOk u hu (Or.inr (Or.inl h.2))
  have okB : ∀ u, u ∈ cands → PB iftId iftxId u → (toPatchInfo u).isSome :=
    fun u hu h => GI.allOk u hu (Or.inr (Or.inr h.2.2))
  simp only [hG] at h
  cases hc : selectInvalidating G.full with
  | some c => simp only [hc] at h; cases h; exact .full (best_of_all okF GI.full hc)
  | none =>
  have nf := class_none okF GI.full hc
  simp only [hc] at h
  cases ha : selectInvalidating G.partialIft with
  | some a =>
    simp only [ha] at h
    cases hb : selectInvalidating (G.partialIftx.filter fun c => a.patch.uri ≠ c.patch.uri) with
    | some b =>
      simp only [hb] at h
      cases h
      refine .both nf (best_of_all okA GI.partA ha) (best_of_select okB GI.partB
        (fun cv hcv => (List.mem_filter.1 hcv).1) (fun v cv hcv hm hK => List.mem_filter.2 ⟨hm,
          decide_eq_true (show a.patch.uri ≠ cv.patch.uri from fun heq => hK ?_)⟩) hb)
        (of_decide_eq_true (List.mem_filter.1 (selectInvalidating_max hb).1).2)
      rw [(toPatchInfo_fields (toCandidate_some hcv).1).1, heq]
    | none => simp only [hb] at h; cases h; exact .left nf (best_of_all okA GI.partA ha) GI.mapB
  | none =>
    simp only [ha] at h
    rw [List.filter_eq_self.2 fun _ _ => rfl] at h
    cases hb : selectInvalidating G.partialIftx with
    | some b =>
      simp only [hb] at h; cases h
      exact .right nf (class_none okA GI.partA ha) (best_of_all okB GI.partB hb) GI.mapA
    | none =>
      simp only [hb] at h; cases h
      exact .none nf (class_none okA GI.partA ha) (class_none okB GI.partB hb) GI.mapA GI.mapB

theorem uris_mixed_noInv (a : PatchInfo) (m : UriMap) (hk : KeyIsUri m) :
    (Group.mixed (.partialInv a) (.noInv m)).uris = a.uri :: m.map (·.1) ∧
    (Group.mixed (.noInv m) (.partialInv a)).uris = a.uri :: m.map (·.1) := by
  simp only [Group.uris, Group.invalidating, Group.nonInvalidating, List.append_nil, List.cons_append,
    List.nil_append, List.map_cons, values_uri_eq_keys hk, and_self]

theorem Selected.nodup {cands : List PatchUri} {iftId iftxId : Option Nat} {g : Group}
    (hs : Selected cands iftId iftxId g) : g.uris.Nodup := by
  -- a map with one key removed, next to that key
  have rem : ∀ {P} {m : UriMap} (k : Uri), MapInv P cands m →
      KeyIsUri (mapRemove k m) ∧ (k :: (mapRemove k m).map (·.1)).Nodup := fun k hm =>
    ⟨keyIsUri_filter _ hm.key, List.nodup_cons.2 ⟨fun hmem => by
        obtain ⟨q, hq, hqk⟩ := List.mem_map.1 hmem
        simpa [hqk] using (List.mem_filter.1 hq).2, sorted_keys_nodup (sorted_filter _ hm.sorted)⟩⟩
  cases hs with
  | full _ => simp [Group.uris, Group.invalidating, Group.nonInvalidating]
  | both _ _ _ hne => simpa [Group.uris, Group.invalidating, Group.nonInvalidating] using hne
  | left _ _ hm => rw [(uris_mixed_noInv _ _ (rem _ hm).1).1]; exact (rem _ hm).2
  | right _ _ _ hm => rw [(uris_mixed_noInv _ _ (rem _ hm).1).2]; exact (rem _ hm).2
  | @none mA mB _ _ _ hA hB =>
    simp only [Group.uris, Group.invalidating, Group.nonInvalidating, List.append_nil,
      List.nil_append, List.map_append]
    rw [values_uri_eq_keys hA.key, values_uri_eq_keys (keyIsUri_filter _ hB.key)]
    refine List.nodup_append.2 ⟨sorted_keys_nodup hA.sorted, sorted_keys_nodup (sorted_filter _ hB.sorted), ?_⟩
    rintro x hx y hy rfl
    obtain ⟨q, hq, rfl⟩ := List.mem_map.1 hx
    obtain ⟨p, hp, hpq⟩ := List.mem_map.1 hy
    have := (List.mem_filter.1 hp).2
    simp only [Bool.not_eq_true', List.any_eq_false, decide_eq_true_eq] at this
    exact this q hq hpq.symm

/-- the patches a slot holds -/
def Scoped.patches : Scoped → List PatchInfo
  | .partialInv p => [p]
  | .noInv m => m.map (·.2)

theorem mem_mixed {A B : Scoped} {p : PatchInfo}
    (h : p ∈ (Group.mixed A B).invalidating ++ (Group.mixed A B).nonInvalidating) : p ∈ A.patches ∨ p ∈ B.patches := by
  cases A <;> cases B <;>
    simp only [Group.invalidating, Group.nonInvalidating, Scoped.patches, List.append_nil, List.nil_append,
      List.cons_append, List.mem_cons, List.mem_append, List.not_mem_nil, or_false] at h ⊢
  · exact h
  · exact h
  · exact h.symm
  · exact h

/-- every patch of a slot is the expansion of a candidate of the slot's mapping table: the one walk of the four
`.mixed` shapes on which the statements about where a group's patches come from rest -/
theorem Selected.slot_src {cands : List PatchUri} {iftId iftxId : Option Nat} {A B : Scoped}
    (hs : Selected cands iftId iftxId (.mixed A B)) :
    (∀ p, p ∈ A.patches → ∃ u, u ∈ cands ∧ some u.compat = iftId ∧ toPatchInfo u = some p) ∧
    (∀ p, p ∈ B.patches → ∃ u, u ∈ cands ∧ (some u.compat ≠ iftId ∧ some u.compat = iftxId) ∧
      toPatchInfo u = some p) := by
  -- every class is `enc = … ∧ T`, `T` the condition on the compat id
  have b : ∀ {E} {T K : PatchUri → Prop} {q}, Best cands (fun u => u.enc = E ∧ T u) K q → ∀ p, p ∈ [q] →
      ∃ u, u ∈ cands ∧ T u ∧ toPatchInfo u = some p := fun hb p hp =>
    let ⟨u, h1, h2, h3⟩ := hb.src; ⟨u, h1, h2.2, List.mem_singleton.1 hp ▸ h3⟩
  have m : ∀ {E} {T : PatchUri → Prop} {m m' : UriMap}, MapInv (fun u => u.enc = E ∧ T u) cands m →
      (∀ x, x ∈ m' → x ∈ m) → ∀ p, p ∈ m'.map (·.2) → ∃ u, u ∈ cands ∧ T u ∧ toPatchInfo u = some p :=
    fun hm sub p hp =>
      let ⟨x, hx, e⟩ := List.mem_map.1 hp; let ⟨u, h1, h2, h3⟩ := hm.src x (sub x hx); ⟨u, h1, h2.2, e ▸ h3⟩
  cases hs with
  | both _ ha hb => exact ⟨b ha, b hb⟩
  | left _ ha hm => exact ⟨b ha, m hm fun _ h => (List.mem_filter.1 h).1⟩
  | right _ _ hb hm => exact ⟨m hm fun _ h => (List.mem_filter.1 h).1, b hb⟩
  | none _ _ _ hA hB => exact ⟨m hA fun _ => id, m hB fun _ h => (List.mem_filter.1 h).1⟩

theorem invalidating_eq_of {g : Group} {R : PatchInfo → PatchInfo → Prop}
    (h : ∀ a b, g = .mixed (.partialInv a) (.partialInv b) → ¬ R a b ∧ ¬ R b a)
    {p q : PatchInfo} (hp : p ∈ g.invalidating) (hq : q ∈ g.invalidating) (hR : R p q) : p = q := by
  cases g with
  | full r =>
    simp only [Group.invalidating, List.mem_singleton] at hp hq
    rw [hp, hq]
  | mixed A B =>
    cases A with
    | partialInv a =>
      cases B with
      | partialInv b =>
        simp only [Group.invalidating, List.cons_append, List.nil_append, List.mem_cons,
          List.not_mem_nil, or_false] at hp hq
        obtain ⟨h1, h2⟩ := h a b rfl
        rcases hp with rfl | rfl <;> rcases hq with rfl | rfl
        · rfl
        · exact absurd hR h1
        · exact absurd hR h2
        · rfl
      | noInv m =>
        simp only [Group.invalidating, List.append_nil, List.mem_singleton] at hp hq
        rw [hp, hq]
    | noInv m =>
      cases B with
      | partialInv b =>
        simp only [Group.invalidating, List.nil_append, List.mem_singleton] at hp hq
        rw [hp, hq]
      | noInv m' => simp [Group.invalidating] at hp

theorem optUris_ne_nil {g : Option Group} (h : hasUris g = true) : optUris g ≠ [] := by
  match g, h with
  | some (.full p), _ => exact List.cons_ne_nil _ _
  | some (.mixed (.partialInv a) B), _ => exact List.cons_ne_nil _ _
  | some (.mixed (.noInv m) (.partialInv b)), _ => exact List.cons_ne_nil _ _
  | some (.mixed (.noInv (x :: m)) (.noInv m')), _ => exact List.cons_ne_nil _ _
  | some (.mixed (.noInv []) (.noInv (x :: m))), _ => exact List.cons_ne_nil _ _

/-- mark every key in `S` applied: what one `*status = Applied`, and a loop of them, do to the map -/
def setAll (S : Uri → Prop) [DecidablePred S] (pd : PatchData) : PatchData :=
  pd.map fun p => if S p.1 then (p.1, .applied) else p

theorem pdSetApplied_eq (pd : PatchData) (u : Uri) : pdSetApplied pd u = setAll (· = u) pd := rfl

theorem setAll_setAll (S T : Uri → Prop) [DecidablePred S] [DecidablePred T] (pd : PatchData) :
    setAll T (setAll S pd) = setAll (fun k => S k ∨ T k) pd := by
  simp only [setAll, List.map_map]
  refine List.map_congr_left fun p _ => ?_
  by_cases hS : S p.1 <;> by_cases hT : T p.1 <;> simp [hS, hT]

theorem fold_setApplied_eq (ps : List PatchInfo) : ∀ pd : PatchData,
    ps.foldl (fun pd p => pdSetApplied pd p.uri) pd = setAll (fun k => ∃ p ∈ ps, k = p.uri) pd := by
  induction ps with
  | nil => intro pd; simp [setAll]
  | cons q qs ih =>
    intro pd
    rw [List.foldl_cons, ih, pdSetApplied_eq, setAll_setAll]
    simp only [setAll]
    refine List.map_congr_left fun p _ => ?_
    simp only [List.mem_cons, exists_eq_or_imp]

theorem setAll_keys (S : Uri → Prop) [DecidablePred S] (pd : PatchData) :
    (setAll S pd).map (·.1) = pd.map (·.1) := by
  rw [setAll, List.map_map]
  exact List.map_congr_left fun p _ => by simp only [Function.comp]; split <;> rfl

theorem pdGet_setAll (S : Uri → Prop) [DecidablePred S] (pd : PatchData) (k : Uri) :
    pdGet (setAll S pd) k = if S k then (pdGet pd k).map (fun _ => UriStatus.applied) else pdGet pd k := by
  induction pd with
  | nil => simp [setAll, pdGet]
  | cons x xs ih =>
    obtain ⟨k', v'⟩ := x
    simp only [setAll, List.map_cons] at ih ⊢
    by_cases h2 : k' = k
    · subst h2; by_cases hS : S k' <;> simp [pdGet, hS]
    · by_cases hS : S k' <;> simp only [hS, if_true, if_false, pdGet, h2] <;> exact ih

theorem count_setAll (S : Uri → Prop) [DecidablePred S] (pd : PatchData) :
    appliedCount pd ≤ appliedCount (setAll S pd) ∧
    ∀ u data, S u → pdGet pd u = some (.pending data) → appliedCount pd < appliedCount (setAll S pd) := by
  induction pd with
  | nil => exact ⟨Nat.le_refl _, fun _ _ _ h => nomatch h⟩
  | cons x xs ih =>
    obtain ⟨k, v⟩ := x
    have c : ∀ (y : Uri × UriStatus) (ys : PatchData),
        appliedCount (y :: ys) = appliedCount ys + if y.2 = .applied then 1 else 0 := fun y ys => by
      unfold appliedCount
      by_cases h : y.2 = .applied
      · rw [List.filter_cons_of_pos (by simpa using h), if_pos h]; rfl
      · rw [List.filter_cons_of_neg (by simpa using h), if_neg h]; rfl
    show appliedCount ((k, v) :: xs) ≤ appliedCount ((if S k then (k, .applied) else (k, v)) :: setAll S xs) ∧
      ∀ u data, S u → (if k = u then some v else pdGet xs u) = some (.pending data) →
        appliedCount ((k, v) :: xs) < appliedCount ((if S k then (k, .applied) else (k, v)) :: setAll S xs)
    rw [c, c]
    by_cases h1 : S k
    · rw [if_pos h1, if_pos rfl]
      refine ⟨Nat.add_le_add ih.1 (by split <;> omega), fun u data hu h => ?_⟩
      by_cases hk : k = u
      · rw [if_pos hk] at h; cases h
        exact Nat.add_lt_add_of_le_of_lt ih.1 (by rw [if_neg nofun]; omega)
      · rw [if_neg hk] at h
        exact Nat.add_lt_add_of_lt_of_le (ih.2 u data hu h) (by split <;> omega)
    · rw [if_neg h1]
      refine ⟨Nat.add_le_add_right ih.1 _, fun u data hu h => ?_⟩
      rw [if_neg (fun (hk : k = u) => h1 (hk ▸ hu))] at h
      exact Nat.add_lt_add_right (ih.2 u data hu h) _

/-- what a round needs from the status map: a pending key in `S` becomes applied, nothing is un-applied,
the count grows -/
theorem setAll_progress (S : Uri → Prop) [DecidablePred S] (pd : PatchData) {u : Uri} {data : List Nat}
    (hS : S u) (hd : pdGet pd u = some (.pending data)) :
    pdGet (setAll S pd) u = some .applied ∧
    (∀ k, pdGet pd k = some .applied → pdGet (setAll S pd) k = some .applied) ∧
    appliedCount pd < appliedCount (setAll S pd) :=
  ⟨by rw [pdGet_setAll, if_pos hS, hd]; rfl, fun k hk => by rw [pdGet_setAll, hk]; split <;> rfl,
    (count_setAll S pd).2 u data hS hd⟩

theorem accumulate_mem (pd : PatchData) : ∀ (ps : List PatchInfo) (acc : List (PatchInfo × List Nat)),
    accumulate pd ps = some acc → ∀ x, x ∈ acc → x.1 ∈ ps ∧ pdGet pd x.1.uri = some (.pending x.2) := by
  intro ps
  induction ps with
  | nil => intro acc h x hx; simp only [accumulate, Option.some.injEq] at h; subst h; cases hx
  | cons p ps ih =>
    intro acc h x hx
    simp only [accumulate] at h
    split at h
    · cases h
    · obtain ⟨h1, h2⟩ := ih acc h x hx
      exact ⟨List.mem_cons_of_mem _ h1, h2⟩
    · next data hd =>
      split at h
      · cases h
      · next acc' hacc =>
        cases h
        rcases List.mem_cons.1 hx with rfl | hx
        · exact ⟨List.mem_cons_self, hd⟩
        · obtain ⟨h1, h2⟩ := ih acc' hacc x hx
          exact ⟨List.mem_cons_of_mem _ h1, h2⟩

theorem applyNext_ok {F : Type} (g : Option Group)
    (applyTk : PatchInfo → List Nat → Except String F)
    (applyGk : List (PatchInfo × List Nat) → Except String F)
    (pd pd' : PatchData) (f : F) (h : applyNext g applyTk applyGk pd = .ok (f, pd')) :
    (∃ p data, p ∈ (match g with | none => [] | some g => g.invalidating) ∧
      pdGet pd p.uri = some (.pending data) ∧ applyTk p data = .ok f ∧
      pd' = pdSetApplied pd p.uri) ∨
    (∃ acc, accumulate pd (match g with | none => [] | some g => g.nonInvalidating) = some acc ∧
      acc ≠ [] ∧ applyGk acc = .ok f ∧
      pd' = (match g with | none => [] | some g => g.nonInvalidating).foldl
        (fun (pd : PatchData) (p : PatchInfo) => pdSetApplied pd p.uri) pd) := by
  have hrest : ∀ (nonInv : List PatchInfo),
      (match accumulate pd nonInv with
        | none => (Except.error "err:MissingPatches" : Except String (F × PatchData))
        | some acc =>
          if acc.isEmpty then .error "err:EmptyPatchList" else
          match applyGk acc with
          | .error e => .error e
          | .ok f => .ok (f, nonInv.foldl (fun (pd : PatchData) (p : PatchInfo) => pdSetApplied pd p.uri) pd)) = .ok (f, pd') →
      ∃ acc, accumulate pd nonInv = some acc ∧ acc ≠ [] ∧ applyGk acc = .ok f ∧
        pd' = nonInv.foldl (fun (pd : PatchData) (p : PatchInfo) => pdSetApplied pd p.uri) pd := by
    intro nonInv h
    split at h
    · cases h
    · next acc hacc =>
      split at h
      · cases h
      · next hne =>
        split at h
        · cases h
        · next f' hf =>
          cases h
          exact ⟨acc, hacc, fun e => hne (e ▸ rfl), hf, rfl⟩
  unfold applyNext at h
  simp only [] at h
  split at h
  · next p hp =>
    split at h
    · cases h
    · next data hd =>
      split at h
      · cases h
      · next f' hf =>
        cases h
        exact Or.inl ⟨p, data, List.mem_of_mem_head? hp, hd, hf, rfl⟩
    · exact Or.inr (hrest _ h)
  · exact Or.inr (hrest _ h)

theorem count_append_pending (pd : PatchData) (u : Uri) (data : List Nat) :
    appliedCount (pd ++ [(u, .pending data)]) = appliedCount pd := by
  simp [appliedCount, List.filter_append]

theorem fetchMissing_count (fetch : Uri → List Nat) (uris : List Uri) : ∀ pd : PatchData,
    appliedCount (fetchMissing fetch pd uris) = appliedCount pd := by
  induction uris with
  | nil => intro pd; rfl
  | cons u us ih =>
    intro pd
    simp only [fetchMissing, List.foldl_cons] at ih ⊢
    split
    · exact ih pd
    · rw [ih, count_append_pending]


theorem intersectF1_from {tag : TableTag} {t : F1Table} {d : SubsetDef} {us : List PatchUri}
    (h : intersectF1 tag t d = .ok us) : ∀ u, u ∈ us → u.table = tag ∧ u.compat = t.compat := by
  obtain ⟨enc, entries, -, -, hus⟩ := intersectF1_ok h
  intro u hu
  obtain ⟨p, -, -, -, rfl⟩ := (hus u).1 hu
  exact ⟨rfl, rfl⟩

theorem intersectF2_from {tag : TableTag} {t : F2Table} {d : SubsetDef} {us : List PatchUri}
    (h : intersectF2 tag t d = .ok us) : ∀ u, u ∈ us → u.table = tag ∧ u.compat = t.compat := by
  obtain ⟨es, hes, rfl⟩ := intersectF2_ok.1 h
  intro u hu
  obtain ⟨i, hi, rfl⟩ := List.mem_map.1 hu
  have hlt := ((mem_offeredIdx es d i).1 hi).1
  have hmem : es.getD i default ∈ es := by
    rw [List.getD_eq_getElem?_getD, List.getElem?_eq_getElem hlt]; exact List.getElem_mem hlt
  have := (decodeF2_inv hes).2 _ hmem
  unfold offeredUri
  split <;> exact this

theorem intersectTable_from {tag : TableTag} {d : SubsetDef} {m : MapTable} {us : List PatchUri}
    (h : intersectTable tag d m = .ok us) :
    ∀ u, u ∈ us → u.table = tag ∧ some u.compat = MapTable.compatId m := by
  cases m with
  | none => simp only [intersectTable] at h; cases h; intro u hu; cases hu
  | f1 t => intro u hu; have := intersectF1_from h u hu; exact ⟨this.1, by simp [MapTable.compatId, this.2]⟩
  | f2 t => intro u hu; have := intersectF2_from h u hu; exact ⟨this.1, by simp [MapTable.compatId, this.2]⟩

theorem intersectingPatches_from {ift iftx : MapTable} {d : SubsetDef} {us : List PatchUri}
    (h : intersectingPatches ift iftx d = .ok us) :
    ∀ u, u ∈ us → (u.table = .ift ∧ some u.compat = MapTable.compatId ift) ∨
                  (u.table = .iftx ∧ some u.compat = MapTable.compatId iftx) := by
  obtain ⟨a, b, ha, hb, rfl⟩ := intersectingPatches_ok.1 h
  intro u hu
  exact (List.mem_append.1 hu).imp (intersectTable_from ha u) (intersectTable_from hb u)

theorem selectNext_cases {ift iftx : MapTable} {d : SubsetDef} {g : Option Group}
    (h : selectNext ift iftx d = .ok g) :
    ∃ cands, intersectingPatches ift iftx d = .ok cands ∧
      ((cands = [] ∧ g = none) ∨
       (cands ≠ [] ∧ MapTable.compatId ift ≠ MapTable.compatId iftx ∧ ∃ G, g = some G ∧
          selectFromCandidates cands (MapTable.compatId ift) (MapTable.compatId iftx) = .ok G)) := by
  unfold selectNext at h
  split at h
  · cases h
  · next cands hc =>
    refine ⟨cands, hc, ?_⟩
    split at h
    · next he => cases h; exact Or.inl ⟨by simpa using he, rfl⟩
    · next he =>
      split at h
      · cases h
      · next hne =>
        split at h
        · cases h
        · next G hG => cases h; exact Or.inr ⟨by simpa using he, hne, G, rfl, hG⟩

end FontVerif.PatchGroup
