/-
The offsets array of `subset_with_offset_type` is the same function of the kept (new gid, bytes) list as
the loca offsets of `write_glyf_loca` (`Subset.locaOffsetsGo`): the running-offset loop of the model
(`offsetsGo`, `dataGo`, padding decided on the parity of the running `glyph_offset`) is shown equal to it,
and the specification `Subset.offAt` with its lemmas (Lemmas/SubsetLoca.lean) is reused; the data block is read back
through `offAt_split`, `glyfBytes_slot` as a glyf table is.  The run of `emit` (`emit_ok`, `subsetGvar_ok`) gives the
header fields the reader finds again (`readGvar_subset`) and the split of the output at the shared tuple block
(`out_split`, `sharedTuples_subset`).
-/
import FontVerif.Model.SubsetGvar
import FontVerif.Lemmas.SubsetLoca
namespace FontVerif.SubsetGvar
open FontVerif.Subset

theorem stepOffset_eq (short : Bool) (off : Nat) (b : Bytes) (h : short = true → off % 2 = 0) :
    stepOffset short off b = off + slotSize short b := by
  unfold stepOffset slotSize paddedSize
  cases b with
  | nil => cases short <;> simp
  | cons x xs =>
    cases short with
    | false => simp
    | true =>
      have := h rfl
      simp only [List.isEmpty_cons, Bool.false_eq_true, ↓reduceIte, true_and, List.length_cons]
      split <;> omega

theorem stepBytes_eq (short : Bool) (off : Nat) (b : Bytes) (h : short = true → off % 2 = 0) :
    stepBytes short off b = slotBytes short b := by
  unfold stepBytes slotBytes
  cases b with
  | nil => cases short <;> simp
  | cons x xs =>
    cases short with
    | false => simp
    | true =>
      have := h rfl
      simp only [List.isEmpty_cons, Bool.false_eq_true, ↓reduceIte, true_and, List.length_cons]
      have e : (off + (xs.length + 1)) % 2 = 1 ↔ (xs.length + 1) % 2 = 1 := by omega
      simp only [e]

theorem stepOffset_even (short : Bool) (off : Nat) (b : Bytes) (h : short = true → off % 2 = 0) :
    short = true → stepOffset short off b % 2 = 0 := by
  intro hs
  rw [stepOffset_eq short off b h]
  subst hs
  have := h rfl
  unfold slotSize paddedSize
  simp
  omega

theorem offsetsGo_eq (short : Bool) (nout : Nat) : ∀ (ks : List (Nat × Bytes)) (last off : Nat),
    (short = true → off % 2 = 0) → offsetsGo short nout ks last off = locaOffsetsGo short nout ks last off := by
  intro ks
  induction ks with
  | nil => intro last off _; simp [offsetsGo, locaOffsetsGo]
  | cons k rest ih =>
    intro last off h
    obtain ⟨gid, b⟩ := k
    simp only [offsetsGo, locaOffsetsGo]
    have e : stepOffset short off b = off + (if short = true then paddedSize b.length else b.length) := by
      rw [stepOffset_eq short off b h]; rfl
    rw [e]
    rw [ih _ _ (by
      intro hs
      have := stepOffset_even short off b h hs
      rw [e] at this
      exact this)]

theorem dataGo_eq (short : Bool) : ∀ (ks : List (Nat × Bytes)) (off : Nat),
    (short = true → off % 2 = 0) → dataGo short ks off = glyfBytes short (ks.map (·.2)) := by
  intro ks
  induction ks with
  | nil => intro off _; simp [dataGo, glyfBytes]
  | cons k rest ih =>
    intro off h
    obtain ⟨gid, b⟩ := k
    simp only [dataGo, List.map_cons]
    rw [stepBytes_eq short off b h, ih _ (stepOffset_even short off b h)]
    simp [glyfBytes, slotBytes]

theorem offsets_eq (short : Bool) (nout : Nat) (ks : List (Nat × Bytes)) :
    offsets short nout ks = locaOffsets short nout ks := by
  unfold offsets locaOffsets
  rw [offsetsGo_eq short nout ks 0 0 (fun _ => rfl)]

theorem ascBelow_spec (nout : Nat) : ∀ (l : List Nat) (lo : Nat), ascBelow nout l lo = true →
    l.Pairwise (· < ·) ∧ ∀ g ∈ l, lo ≤ g ∧ g < nout := by
  intro l
  induction l with
  | nil => intro lo _; simp
  | cons g rest ih =>
    intro lo h
    simp only [ascBelow, Bool.and_eq_true, decide_eq_true_eq] at h
    obtain ⟨⟨h1, h2⟩, h3⟩ := h
    obtain ⟨p, q⟩ := ih (g + 1) h3
    refine ⟨List.pairwise_cons.mpr ⟨fun x hx => by have := (q x hx).1; omega, p⟩, ?_⟩
    intro x hx
    rcases List.mem_cons.mp hx with rfl | hx
    · exact ⟨h1, h2⟩
    · have := q x hx; omega

theorem keptEntries_keys_sublist (inp : GvarIn) (hlen : inp.n2o.length = inp.slots.length) :
    ((keptEntries inp).map (·.1)).Sublist (inp.n2o.map (·.1)) := by
  unfold keptEntries
  rw [List.map_map]
  have h1 : (List.map ((fun x => x.1) ∘ fun e : (Nat × Nat) × Slot => (e.1.1, e.2.bytes))
      (List.filter (fun e => keeps inp.flags e.1.1) (inp.n2o.zip inp.slots)))
      = ((List.filter (fun e => keeps inp.flags e.1.1) (inp.n2o.zip inp.slots)).map (·.1)).map (·.1) := by
    rw [List.map_map]; rfl
  rw [h1]
  have h2 : ((inp.n2o.zip inp.slots).map (·.1)) = inp.n2o := by
    rw [List.map_fst_zip]; omega
  have h3 : ((List.filter (fun e => keeps inp.flags e.1.1) (inp.n2o.zip inp.slots)).map (·.1)).Sublist inp.n2o := by
    have := (List.filter_sublist (l := inp.n2o.zip inp.slots) (p := fun e => keeps inp.flags e.1.1)).map (·.1)
    rw [h2] at this
    exact this
  exact h3.map _

theorem keptEntries_sorted (inp : GvarIn) (hlen : inp.n2o.length = inp.slots.length)
    (hasc : ascBelow inp.nout (inp.n2o.map (·.1)) 0 = true) :
    ((keptEntries inp).map (·.1)).Pairwise (· < ·) ∧ ∀ p ∈ keptEntries inp, p.1 < inp.nout := by
  obtain ⟨hp, hb⟩ := ascBelow_spec inp.nout _ 0 hasc
  have hsub := keptEntries_keys_sublist inp hlen
  refine ⟨hp.sublist hsub, ?_⟩
  intro p hp'
  exact (hb p.1 (hsub.subset (List.mem_map_of_mem hp'))).2

theorem planOk_spec (inp : GvarIn) (h : planOk inp = true) :
    inp.nout ≤ 0xFFFF ∧ inp.n2o.length = inp.slots.length ∧ ascBelow inp.nout (inp.n2o.map (·.1)) 0 = true := by
  unfold planOk at h
  simp only [Bool.and_eq_true, decide_eq_true_eq] at h
  exact ⟨h.1.1, h.1.2, h.2⟩

theorem kept_sorted_of_ok (inp : GvarIn) (h : planOk inp = true) :
    ((keptEntries inp).map (·.1)).Pairwise (· < ·) ∧ (∀ p ∈ keptEntries inp, p.1 < inp.nout) ∧ inp.nout ≤ 0xFFFF := by
  obtain ⟨h1, h2, h3⟩ := planOk_spec inp h
  obtain ⟨a, b⟩ := keptEntries_sorted inp h2 h3
  exact ⟨a, b, h1⟩

theorem kept_decomp (inp : GvarIn) (i new old : Nat) (s : Slot)
    (hn : inp.n2o[i]? = some (new, old)) (hsl : inp.slots[i]? = some s) (hk : keeps inp.flags new = true) :
    ∃ pre post, keptEntries inp = pre ++ (new, s.bytes) :: post := by
  have hz : (inp.n2o.zip inp.slots)[i]? = some ((new, old), s) := by
    rw [List.getElem?_zip_eq_some]; exact ⟨hn, hsl⟩
  obtain ⟨pre, post, e⟩ := List.append_of_mem (List.mem_of_getElem? hz)
  unfold keptEntries
  rw [e, List.filter_append, List.filter_cons]
  simp only [hk, ↓reduceIte, List.map_append, List.map_cons]
  exact ⟨_, _, rfl⟩

theorem kept_key_keeps (inp : GvarIn) : ∀ p ∈ keptEntries inp, keeps inp.flags p.1 = true ∧
    ∃ q ∈ inp.n2o, q.1 = p.1 := by
  intro p hp
  unfold keptEntries at hp
  obtain ⟨e, he, rfl⟩ := List.mem_map.mp hp
  obtain ⟨hz, hk⟩ := List.mem_filter.mp he
  exact ⟨hk, e.1, (List.of_mem_zip hz).1, rfl⟩

theorem dataSize_eq_total (ks : List (Nat × Bytes)) : dataSize ks = totalSize true ks := by
  unfold dataSize totalSize slotSize paddedSize
  simp

theorem sharedOffOf_le (cnt soff arr : Nat) : sharedOffOf cnt soff arr ≤ 20 + arr := by
  unfold sharedOffOf; split <;> omega

theorem be16_val (v : Nat) (h : v < 65536) : v / 256 % 256 * 256 + v % 256 = v := by omega

theorem be32_val (v : Nat) (h : v < 4294967296) :
    v / 16777216 % 256 * 16777216 + v / 65536 % 256 * 65536 + v / 256 % 256 * 256 + v % 256 = v := digits4 h

theorem decodeShort_eq : ∀ (b : Bytes), decodeShort b = decodeShortLoca b
  | [] => rfl
  | [_] => rfl
  | a :: b :: rest => by rw [decodeShort, decodeShortLoca, decodeShort_eq rest]

theorem decodeLong_eq : ∀ (b : Bytes), decodeLong b = decodeLongLoca b
  | [] => rfl
  | [_] => rfl
  | [_, _] => rfl
  | [_, _, _] => rfl
  | a :: b :: c :: d :: rest => by rw [decodeLong, decodeLongLoca, decodeLong_eq rest]

theorem decodeShort_encode (offs : List Nat) (h : ∀ o ∈ offs, o % 2 = 0 ∧ o < 131072) :
    decodeShort (offs.flatMap (fun o => be16 (o / 2 % 65536))) = offs :=
  (decodeShort_eq _).trans (decodeShortLoca_encode offs h)

theorem decodeLong_encode (offs : List Nat) (h : ∀ o ∈ offs, o < 4294967296) :
    decodeLong (offs.flatMap (fun o => be32 (o % 4294967296))) = offs :=
  (decodeLong_eq _).trans (decodeLongLoca_encode offs h)

theorem encodeOffsets_length (short : Bool) (offs : List Nat) :
    (encodeOffsets short offs).length = offs.length * (if short then 2 else 4) := by
  unfold encodeOffsets
  cases short
  · simp only [Bool.false_eq_true, ↓reduceIte]
    induction offs with
    | nil => simp
    | cons o tl ih =>
      simp only [be32] at ih
      simp only [List.flatMap_cons, List.length_append, be32, List.length_cons, List.length_nil, ih]; omega
  · simp only [↓reduceIte]
    induction offs with
    | nil => simp
    | cons o tl ih =>
      simp only [be16] at ih
      simp only [List.flatMap_cons, List.length_append, be16, List.length_cons, List.length_nil, ih]; omega

theorem encodeOffsets_kept_length (inp : GvarIn) (long : Bool) (hp : planOk inp = true) :
    (encodeOffsets (!long) (offsets (!long) inp.nout (keptEntries inp))).length = arrSize inp.nout long := by
  obtain ⟨hs, hb, _⟩ := kept_sorted_of_ok inp hp
  rw [encodeOffsets_length, offsets_eq, locaOffsets_length _ _ _ hs hb]
  cases long <;> rfl

theorem decode_encodeOffsets (long : Bool) (nout : Nat) (ks : List (Nat × Bytes))
    (hs : (ks.map (·.1)).Pairwise (· < ·)) (hb : ∀ p ∈ ks, p.1 < nout)
    (hsz : dataSize ks < 4294967296) (hl : long = decide (dataSize ks > 0x1FFFE)) :
    (if long then decodeLong (encodeOffsets (!long) (locaOffsets (!long) nout ks))
      else decodeShort (encodeOffsets (!long) (locaOffsets (!long) nout ks))) = locaOffsets (!long) nout ks := by
  rw [dataSize_eq_total] at hsz hl
  cases long with
  | true =>
    refine decodeLong_encode _ (fun o ho => ?_)
    have := (locaOffsets_mem false nout ks hs hb o ho).1
    omega
  | false =>
    refine decodeShort_encode _ (fun o ho => ?_)
    have ⟨h1, h2⟩ := locaOffsets_mem true nout ks hs hb o ho
    have h3 : ¬ totalSize true ks > 0x1FFFE := of_decide_eq_false hl.symm
    exact ⟨h2 rfl, by omega⟩

theorem emit_ok (inp : GvarIn) (h8 : Bytes) (axis cnt soff : Nat) (lay : Layout) (out : Bytes)
    (h : emit inp h8 axis cnt soff = .ok (lay, out)) :
    planOk inp = true ∧ dataSize (keptEntries inp) < 4294967296 ∧
    lay = layoutOf inp axis cnt soff ∧ lay.dataOff < 4294967296 ∧
    ∃ shared, sharedSource inp cnt soff = some shared ∧ shared.length = sharedSizeOf axis cnt soff ∧
      out = assemble h8 lay inp.nout (keptEntries inp) shared := by
  unfold emit at h
  obtain ⟨h1, h⟩ := Do.error_else_ok h
  obtain ⟨h2, h⟩ := Do.error_else_ok h
  obtain ⟨h3, h⟩ := Do.error_else_ok h
  obtain ⟨_, h⟩ := Do.error_else_ok h
  cases hsh : sharedSource inp cnt soff with
  | none => rw [hsh] at h; cases h
  | some shared =>
    rw [hsh] at h
    obtain ⟨h5, h⟩ := Do.error_else_ok h
    obtain ⟨_, h⟩ := Do.error_else_ok h
    cases h
    exact ⟨by simpa using h1, by omega, rfl, by omega, shared, rfl, by simpa using h5, rfl⟩

theorem emit_of (inp : GvarIn) (h8 : Bytes) (axis cnt soff : Nat) (shared : Bytes)
    (h1 : planOk inp = true) (h2 : dataSize (keptEntries inp) < 4294967296)
    (h3 : (layoutOf inp axis cnt soff).dataOff < 4294967296)
    (h5 : sharedSource inp cnt soff = some shared) (h6 : shared.length = sharedSizeOf axis cnt soff)
    (h7 : (assemble h8 (layoutOf inp axis cnt soff) inp.nout (keptEntries inp) shared).length ≤
      room inp.tableLen inp.srcGlyphs inp.nout)
    (h4 : 20 + arrSize inp.nout (layoutOf inp axis cnt soff).long ≤ room inp.tableLen inp.srcGlyphs inp.nout) :
    emit inp h8 axis cnt soff =
      .ok (layoutOf inp axis cnt soff, assemble h8 (layoutOf inp axis cnt soff) inp.nout (keptEntries inp) shared) := by
  unfold emit
  rw [if_neg (by simp [h1]), if_neg (by omega), if_neg (by omega), if_neg (by omega)]
  simp only [h5]
  rw [if_neg (by simp [h6]), if_neg (by omega)]

theorem subsetGvar_emit (inp : GvarIn) (lay : Layout) (out : Bytes) (h : subsetGvar inp = .ok (lay, out)) :
    ∃ v0 v1 v2 v3 a0 a1 c0 c1 o0 o1 o2 o3, inp.header = [v0, v1, v2, v3, a0, a1, c0, c1, o0, o1, o2, o3] ∧
      emit inp [v0, v1, v2, v3, a0, a1, c0, c1] (u16At inp.header 4) (u16At inp.header 6) (u32At inp.header 8)
        = .ok (lay, out) := by
  unfold subsetGvar at h
  split at h
  · rename_i v0 v1 v2 v3 a0 a1 c0 c1 o0 o1 o2 o3 hh
    exact ⟨v0, v1, v2, v3, a0, a1, c0, c1, o0, o1, o2, o3, hh, by rw [hh]; exact h⟩
  · cases h

theorem subsetGvar_ok (inp : GvarIn) (lay : Layout) (out : Bytes) (h : subsetGvar inp = .ok (lay, out)) :
    planOk inp = true ∧ dataSize (keptEntries inp) < 4294967296 ∧
    lay = layoutOf inp (u16At inp.header 4) (u16At inp.header 6) (u32At inp.header 8) ∧
    lay.dataOff < 4294967296 := by
  obtain ⟨_, _, _, _, _, _, _, _, _, _, _, _, _, he⟩ := subsetGvar_emit inp lay out h
  obtain ⟨h1, h2, h3, h4, _⟩ := emit_ok inp _ _ _ _ lay out he
  exact ⟨h1, h2, h3, h4⟩

theorem readGvar_append (hdr enc rest : Bytes) (hh : hdr.length = 20)
    (hlen : enc.length = (u16At hdr 12 + 1) * (if u16At hdr 14 % 2 == 1 then 4 else 2)) :
    readGvar (hdr ++ enc ++ rest) =
      some { axisCount := u16At hdr 4, sharedCount := u16At hdr 6, sharedOff := u32At hdr 8,
             glyphCount := u16At hdr 12, long := u16At hdr 14 % 2 == 1, dao := u32At hdr 16,
             offs := if u16At hdr 14 % 2 == 1 then decodeLong enc else decodeShort enc } := by
  have g : ∀ j, j < 20 → (hdr ++ (enc ++ rest)).getD j 0 = hdr.getD j 0 := by
    intro j hj
    rw [List.getD_eq_getElem?_getD, List.getD_eq_getElem?_getD, List.getElem?_append_left (by omega)]
  have h16 : ∀ j, j + 1 < 20 → u16At (hdr ++ (enc ++ rest)) j = u16At hdr j := by
    intro j hj; unfold u16At; rw [g j (by omega), g (j + 1) hj]
  have h32 : ∀ j, j + 3 < 20 → u32At (hdr ++ (enc ++ rest)) j = u32At hdr j := by
    intro j hj; unfold u32At; rw [g j (by omega), g (j + 1) (by omega), g (j + 2) (by omega), g (j + 3) hj]
  unfold readGvar
  rw [List.append_assoc, h16 4 (by omega), h16 6 (by omega), h16 12 (by omega), h16 14 (by omega),
    h32 8 (by omega), h32 16 (by omega)]
  rw [if_neg (by simp only [List.length_append]; omega), if_neg (by simp only [List.length_append]; omega),
    ← hh, List.drop_left, ← hlen, List.take_left]

theorem readGvar_layout (v0 v1 v2 v3 a0 a1 c0 c1 so ng dao : Nat) (long : Bool) (enc rest : Bytes)
    (hng : ng < 65536) (hso : so < 4294967296) (hdao : dao < 4294967296)
    (hlen : enc.length = (ng + 1) * (if long then 4 else 2)) :
    readGvar ([v0, v1, v2, v3, a0, a1, c0, c1] ++ be32 so ++ be16 ng ++ be16 (if long then 1 else 0) ++ be32 dao ++
        enc ++ rest)
      = some { axisCount := a0 * 256 + a1, sharedCount := c0 * 256 + c1, sharedOff := so, glyphCount := ng,
               long := long, dao := dao, offs := if long then decodeLong enc else decodeShort enc } := by
  obtain ⟨hdr, e⟩ : ∃ hdr, hdr = [v0, v1, v2, v3, a0, a1, c0, c1] ++ be32 so ++ be16 ng ++
    be16 (if long then 1 else 0) ++ be32 dao := ⟨_, rfl⟩
  have hgc : u16At hdr 12 = ng / 256 % 256 * 256 + ng % 256 := by rw [e]; rfl
  have hfl : u16At hdr 14 = 0 * 256 + (if long then 1 else 0) := by rw [e]; cases long <;> rfl
  have hso' : u32At hdr 8 = so / 16777216 % 256 * 16777216 + so / 65536 % 256 * 65536 + so / 256 % 256 * 256 + so % 256 := by
    rw [e]; rfl
  have hdao' : u32At hdr 16 = dao / 16777216 % 256 * 16777216 + dao / 65536 % 256 * 65536 + dao / 256 % 256 * 256 + dao % 256 := by
    rw [e]; rfl
  have hax : u16At hdr 4 = a0 * 256 + a1 := by rw [e]; rfl
  have hcn : u16At hdr 6 = c0 * 256 + c1 := by rw [e]; rfl
  rw [be16_val ng hng] at hgc
  rw [be32_val so hso] at hso'
  rw [be32_val dao hdao] at hdao'
  have hfl' : (u16At hdr 14 % 2 == 1) = long := by rw [hfl]; cases long <;> rfl
  rw [← e, readGvar_append hdr enc rest (by rw [e]; rfl) (by rw [hgc, hfl']; exact hlen), hgc, hfl', hso', hdao', hax, hcn]

theorem readGvar_subset (inp : GvarIn) (lay : Layout) (out : Bytes) (h : subsetGvar inp = .ok (lay, out)) :
    ∃ r, readGvar out = some r ∧ r.glyphCount = inp.nout ∧ r.long = lay.long ∧ r.dao = lay.dataOff ∧
      r.sharedOff = lay.sharedOff ∧ r.axisCount = u16At inp.header 4 ∧ r.sharedCount = u16At inp.header 6 ∧
      r.offs = offsets (!lay.long) inp.nout (keptEntries inp) := by
  obtain ⟨v0, v1, v2, v3, a0, a1, c0, c1, o0, o1, o2, o3, hh, he⟩ := subsetGvar_emit inp lay out h
  obtain ⟨hp, hsz, hlay, hdo, shared, _, _, hout⟩ := emit_ok inp _ _ _ _ lay out he
  obtain ⟨hs, hb, hn⟩ := kept_sorted_of_ok inp hp
  have hso : lay.sharedOff ≤ 20 + arrSize inp.nout lay.long := by
    rw [hlay]; exact sharedOffOf_le _ _ _
  have hrd := readGvar_layout v0 v1 v2 v3 a0 a1 c0 c1 lay.sharedOff inp.nout lay.dataOff lay.long
    (encodeOffsets (!lay.long) (offsets (!lay.long) inp.nout (keptEntries inp)))
    (shared ++ dataGo (!lay.long) (keptEntries inp) 0) (by omega)
    (by have : 20 + arrSize inp.nout lay.long ≤ lay.dataOff := by rw [hlay]; exact Nat.le_add_right _ _
        omega)
    hdo (encodeOffsets_kept_length inp lay.long hp)
  have hng : lay.numGlyphs = inp.nout := by rw [hlay]; rfl
  rw [hout]
  unfold assemble
  rw [hng]
  simp only [List.append_assoc] at hrd ⊢
  refine ⟨_, hrd, rfl, rfl, rfl, rfl, by rw [hh]; rfl, by rw [hh]; rfl, ?_⟩
  have := decode_encodeOffsets lay.long inp.nout (keptEntries inp) hs hb hsz (by rw [hlay]; rfl)
  rw [← offsets_eq] at this
  exact this

theorem out_split (inp : GvarIn) (lay : Layout) (out : Bytes) (h : subsetGvar inp = .ok (lay, out)) :
    ∃ front shared, sharedSource inp (u16At inp.header 6) (u32At inp.header 8) = some shared ∧
      shared.length = sharedSizeOf (u16At inp.header 4) (u16At inp.header 6) (u32At inp.header 8) ∧
      out = front ++ (shared ++ glyfBytes (!lay.long) ((keptEntries inp).map (·.2))) ∧
      front.length = 20 + arrSize inp.nout lay.long := by
  obtain ⟨v0, v1, v2, v3, a0, a1, c0, c1, o0, o1, o2, o3, hh, he⟩ := subsetGvar_emit inp lay out h
  obtain ⟨hp, _, _, _, shared, hsrc, hshl, hout⟩ := emit_ok inp _ _ _ _ lay out he
  refine ⟨[v0, v1, v2, v3, a0, a1, c0, c1] ++ be32 lay.sharedOff ++ be16 lay.numGlyphs ++
    be16 (if lay.long then 1 else 0) ++ be32 lay.dataOff ++
    encodeOffsets (!lay.long) (offsets (!lay.long) inp.nout (keptEntries inp)), shared, hsrc, hshl, ?_, ?_⟩
  · rw [hout]
    unfold assemble
    rw [dataGo_eq (!lay.long) (keptEntries inp) 0 (fun _ => rfl), List.append_assoc]
  · simp only [List.length_append, encodeOffsets_kept_length inp lay.long hp, be32, be16, List.length_cons,
      List.length_nil]

theorem sliceGet_append (a b c : Bytes) : sliceGet (a ++ (b ++ c)) a.length (a.length + b.length) = some b := by
  unfold sliceGet
  rw [if_pos (by simp only [List.length_append]; omega), List.drop_left, Nat.add_sub_cancel_left, List.take_left]

/-- the shared tuple block of the emitted table, in whichever of its three shapes (`sharedOffOf`): the reader resolves the
block the subsetter copied -/
theorem sharedTuples_subset (inp : GvarIn) (lay : Layout) (out : Bytes) (h : subsetGvar inp = .ok (lay, out)) :
    ∃ r shared, readGvar out = some r ∧
      sharedSource inp (u16At inp.header 6) (u32At inp.header 8) = some shared ∧
      r.axisCount = u16At inp.header 4 ∧ r.sharedCount = u16At inp.header 6 ∧
      r.dao = 20 + arrSize inp.nout lay.long + shared.length ∧
      r.sharedOff = sharedOffOf (u16At inp.header 6) (u32At inp.header 8) (arrSize inp.nout lay.long) ∧
      sharedTuplesOf out r = (if r.sharedOff = 0 then none else some shared) ∧
      (r.sharedOff = 0 → shared = []) := by
  obtain ⟨_, _, hlay, _⟩ := subsetGvar_ok inp lay out h
  obtain ⟨r, hr, _, _, hdao, hso, hax, hcn, _⟩ := readGvar_subset inp lay out h
  obtain ⟨front, shared, hsrc, hshl, hsp, hfl⟩ := out_split inp lay out h
  have hdao' : lay.dataOff = 20 + arrSize inp.nout lay.long +
      sharedSizeOf (u16At inp.header 4) (u16At inp.header 6) (u32At inp.header 8) := by rw [hlay]; rfl
  have hso' : lay.sharedOff = sharedOffOf (u16At inp.header 6) (u32At inp.header 8) (arrSize inp.nout lay.long) := by
    rw [hlay]; rfl
  rw [hso'] at hso
  refine ⟨r, shared, hr, hsrc, hax, hcn, by rw [hdao, hdao', hshl], hso, ?_, fun h0 => ?_⟩
  · unfold sharedTuplesOf
    by_cases h0 : r.sharedOff = 0
    · rw [if_pos h0, if_pos h0]
    · -- a non-null offset is `20 + array size`, and the count is 0 unless the source had a block
      have hcase : ¬ (u16At inp.header 6 ≠ 0 ∧ hasShared (u16At inp.header 6) (u32At inp.header 8) = false) :=
        fun hc => h0 (by rw [hso, sharedOffOf, if_pos hc])
      have e1 : r.sharedOff = front.length := by rw [hso, sharedOffOf, if_neg hcase, hfl]
      have e2 : 2 * r.axisCount * r.sharedCount = shared.length := by
        rw [hshl, hax, hcn, sharedSizeOf]
        cases hhs : hasShared (u16At inp.header 6) (u32At inp.header 8)
        · rw [show u16At inp.header 6 = 0 from Decidable.byContradiction fun hc => hcase ⟨hc, hhs⟩]; rfl
        · rfl
      rw [if_neg h0, if_neg h0, e1, e2, hsp]
      exact sliceGet_append front shared _
  · by_cases hc : u16At inp.header 6 ≠ 0 ∧ hasShared (u16At inp.header 6) (u32At inp.header 8) = false
    · rw [sharedSource, hc.2] at hsrc
      exact (Option.some.inj hsrc).symm
    · rw [hso, sharedOffOf, if_neg hc] at h0
      omega

/-- what a reader finds for a glyph whose source data is `b`: nothing for an empty blob, the blob itself,
or (short format, odd length) the blob followed by one zero byte -/
def readBack (short : Bool) (b : Bytes) : Slot := if b.isEmpty then .none else .data (slotBytes short b)

theorem readBack_same {short : Bool} {b : Bytes} (hb : b ≠ []) (h : short = false ∨ b.length % 2 = 0) :
    readBack short b = .data b := by
  unfold readBack slotBytes
  rw [if_neg (by simpa using hb), if_neg (by rcases h with h | h <;> simp [h])]

theorem readBack_pad {b : Bytes} (h : b.length % 2 = 1) : readBack true b = .data (b ++ [0]) := by
  unfold readBack slotBytes
  rw [if_neg (by cases b with | nil => cases h | cons _ _ => exact Bool.false_ne_true), if_pos ⟨rfl, h⟩]

/-- the emitted table as the reader sees it: `front` up to the data block, whose offsets are those of a loca table
for the kept entries -/
structure DataView (short : Bool) (nout : Nat) (ks : List (Nat × Bytes)) (front : Bytes) (r : Reader) : Prop where
  sorted : (ks.map (·.1)).Pairwise (· < ·)
  below : ∀ p ∈ ks, p.1 < nout
  dao : r.dao = front.length
  offs : r.offs = locaOffsets short nout ks
  len : (front ++ glyfBytes short (ks.map (·.2))).length < 4294967296

theorem dataForGid_offAt {short : Bool} {nout : Nat} {ks : List (Nat × Bytes)} {front : Bytes} {r : Reader}
    (v : DataView short nout ks front r) (k : Nat) (hk : k < nout) :
    dataForGid (front ++ glyfBytes short (ks.map (·.2))) r k =
      if offAt short ks (k + 1) ≤ offAt short ks k then .none
      else .data (((glyfBytes short (ks.map (·.2))).drop (offAt short ks k)).take
        (offAt short ks (k + 1) - offAt short ks k)) := by
  obtain ⟨hs, hb, hdao, hoffs, hlen⟩ := v
  have hA := locaOffsets_getElem short nout ks hs hb k (by omega)
  have hB := locaOffsets_getElem short nout ks hs hb (k + 1) (by omega)
  have htot := offAt_le_total short (k + 1) ks
  have htot0 := offAt_le_total short k ks
  have hol : (front ++ glyfBytes short (ks.map (·.2))).length = front.length + totalSize short ks := by
    rw [List.length_append, glyfBytes_length]
  unfold dataForGid dataRange
  rw [hoffs, hA, hB]
  simp only [hdao]
  rw [if_neg (by omega)]
  simp only []
  by_cases hle : offAt short ks (k + 1) ≤ offAt short ks k
  · rw [if_pos hle, if_pos (by omega)]
  · rw [if_neg hle, if_neg (by omega), if_pos (by omega), List.drop_length_add_append, Nat.add_sub_add_left]

theorem dataForGid_kept {short : Bool} {nout : Nat} {ks : List (Nat × Bytes)} {front : Bytes} {r : Reader}
    (v : DataView short nout ks front r)
    (pre : List (Nat × Bytes)) (gid : Nat) (b : Bytes) (post : List (Nat × Bytes))
    (hks : ks = pre ++ (gid, b) :: post) :
    dataForGid (front ++ glyfBytes short (ks.map (·.2))) r gid = readBack short b := by
  rw [dataForGid_offAt v gid (v.below (gid, b) (by rw [hks]; simp))]
  subst hks
  obtain ⟨e0, e1⟩ := offAt_split short pre gid b post v.sorted
  rw [e0, e1, Nat.add_sub_cancel_left, List.map_append, List.map_cons, glyfBytes_slot]
  unfold readBack
  cases b with
  | nil =>
    have : slotSize short [] = 0 := by unfold slotSize paddedSize; cases short <;> rfl
    rw [this, if_pos (by omega)]; rfl
  | cons x xs =>
    have hpos : 0 < slotSize short (x :: xs) := by
      unfold slotSize paddedSize; cases short <;> simp <;> omega
    rw [if_neg (by omega)]; rfl

theorem dataForGid_unused {short : Bool} {nout : Nat} {ks : List (Nat × Bytes)} {front : Bytes} {r : Reader}
    (v : DataView short nout ks front r)
    (k : Nat) (hk : k < nout) (hne : ∀ p ∈ ks, p.1 ≠ k) :
    dataForGid (front ++ glyfBytes short (ks.map (·.2))) r k = .none := by
  rw [dataForGid_offAt v k hk, offAt_succ_of_ne short ks k hne, if_pos (Nat.le_refl _)]

theorem dataForGid_subset (inp : GvarIn) (lay : Layout) (out : Bytes)
    (h : subsetGvar inp = .ok (lay, out)) (hlen : out.length < 4294967296) :
    ∃ r, readGvar out = some r ∧
      (∀ (i new old : Nat) (s : Slot), inp.n2o[i]? = some (new, old) → inp.slots[i]? = some s →
        dataForGid out r new = if keeps inp.flags new then readBack (!lay.long) s.bytes else .none) ∧
      (∀ k, k < inp.nout → (∀ p : Nat × Nat, p ∈ inp.n2o → p.1 ≠ k) → dataForGid out r k = Slot.none) := by
  obtain ⟨hp, _, hlay, _⟩ := subsetGvar_ok inp lay out h
  obtain ⟨hs, hb, _⟩ := kept_sorted_of_ok inp hp
  obtain ⟨r, hr, _, _, hdao, _, _, _, hoffs⟩ := readGvar_subset inp lay out h
  obtain ⟨f2, shared, _, hshl, hsplit, hfl⟩ := out_split inp lay out h
  rw [offsets_eq] at hoffs
  rw [← List.append_assoc] at hsplit
  subst hsplit
  obtain ⟨front, hfront⟩ : ∃ front, front = f2 ++ shared := ⟨_, rfl⟩
  rw [← hfront] at hlen hr ⊢
  replace hdao : r.dao = front.length := by
    rw [hdao, hfront, List.length_append, hfl, hshl, hlay]; rfl
  have v : DataView (!lay.long) inp.nout (keptEntries inp) front r := ⟨hs, hb, hdao, hoffs, hlen⟩
  have hunused : ∀ k, k < inp.nout → (∀ p ∈ keptEntries inp, p.1 ≠ k) → dataForGid _ r k = .none :=
    dataForGid_unused v
  refine ⟨r, hr, ?_, ?_⟩
  · intro i new old s hn hsl
    cases hk : keeps inp.flags new with
    | true =>
      obtain ⟨pre, post, e⟩ := kept_decomp inp i new old s hn hsl hk
      exact dataForGid_kept v pre new s.bytes post e
    | false =>
      have hnew : new < inp.nout :=
        ((ascBelow_spec inp.nout _ 0 (planOk_spec inp hp).2.2).2 new
          (List.mem_map_of_mem (f := (·.1)) (List.mem_of_getElem? hn))).2
      refine hunused new hnew (fun p hp' heq => ?_)
      rw [← heq, (kept_key_keeps inp p hp').1] at hk
      cases hk
  · intro k hk hne
    refine hunused k hk (fun p hp' heq => ?_)
    obtain ⟨_, q, hq, hqe⟩ := kept_key_keeps inp p hp'
    exact hne q hq (hqe.trans heq)

theorem ok_of_toOption {ε α : Type} (e : Except ε α) (x : α) (h : e.toOption = some x) : e = .ok x :=
  FontVerif.ok_of_toOption e x h

/-- an input that forces the long format (for the examples of Props/C17Gvar) -/
def bigIn (b : Bytes) : GvarIn :=
  { flags := 0, nout := 2, tableLen := 140000, srcGlyphs := 2,
    header := [0, 1, 0, 0, 0, 1, 0, 0, 0, 0, 0, 0], sharedSlice := some [],
    n2o := [(0, 0), (1, 1)], slots := [.none, .data b] }

theorem bigIn_kept (b : Bytes) : keptEntries (bigIn b) = [(1, b)] := by
  have h0 : keeps 0 0 = false := by decide
  have h1 : keeps 0 1 = true := by decide
  simp [keptEntries, bigIn, List.filter, h0, h1, Slot.bytes]

end FontVerif.SubsetGvar
