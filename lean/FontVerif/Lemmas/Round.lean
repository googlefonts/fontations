/-
Rounding a quotient to the nearest integer: the expression `(p + d/2) / d` (ties up), the model's function
`roundHalfAway` (ties away from zero), and the relation `IsRHA` in which the properties are stated: its graph.
-/
import FontVerif.Model.Base
namespace FontVerif

/-- `r` is the exact quotient `p / d` (`d > 0`) rounded to nearest, ties away from zero. -/
def IsRHA (p d r : Int) : Prop :=
  (0 ≤ p → 2 * (d * r) - d ≤ 2 * p ∧ 2 * p < 2 * (d * r) + d) ∧
  (p < 0 → 2 * (d * r) - d < 2 * p ∧ 2 * p ≤ 2 * (d * r) + d)

/-- same for any non-zero divisor: the exact quotient is `p / q = (-p) / (-q)`. -/
def IsRHAq (p q r : Int) : Prop :=
  if 0 < q then IsRHA p q r else IsRHA (-p) (-q) r

instance (p d r : Int) : Decidable (IsRHA p d r) := by unfold IsRHA; infer_instance
instance (p q r : Int) : Decidable (IsRHAq p q r) := by unfold IsRHAq; infer_instance

/-! Statements about the expression `(p + d / 2) / d` itself (no definition), so that they apply by `exact` / `rw`
wherever a model spells the rounded quotient out. -/

theorem ediv_unique {n d q : Int} (hd : 0 < d) (h1 : d * q ≤ n) (h2 : n < d * q + d) : n / d = q := by
  have := (Int.ediv_emod_unique (a := n) (b := d) (q := q) (r := n - d * q) hd).2
    ⟨by omega, by omega, by omega⟩
  exact this.1

theorem ediv_spec (n : Int) {d : Int} (hd : 0 < d) : d * (n / d) ≤ n ∧ n < d * (n / d) + d := by
  have h1 := Int.mul_ediv_add_emod n d
  have h2 := Int.emod_nonneg n (Int.ne_of_gt hd)
  have h3 := Int.emod_lt_of_pos n hd
  generalize d * (n / d) = X at *
  omega

/-- `(p + d/2) / d` is `p / d` rounded to nearest, ties up: the `q` with `2dq - d ≤ 2p < 2dq + d`. -/
theorem rdiv_spec (p : Int) {d : Int} (hd : 0 < d) :
    2 * (d * ((p + d / 2) / d)) - d ≤ 2 * p ∧ 2 * p < 2 * (d * ((p + d / 2) / d)) + d := by
  have := ediv_spec (p + d / 2) hd
  generalize d * ((p + d / 2) / d) = X at *
  omega

theorem rdiv_unique {p d q : Int} (hd : 0 < d) (h1 : 2 * (d * q) - d ≤ 2 * p)
    (h2 : 2 * p < 2 * (d * q) + d) : (p + d / 2) / d = q :=
  ediv_unique hd (by omega) (by omega)

/-- the same rounding written with doubled operands (`roundHalfAway`). -/
theorem rdiv_two (p : Int) {d : Int} (hd : 0 < d) : (2 * p + d) / (2 * d) = (p + d / 2) / d := by
  have := rdiv_spec p hd
  refine ediv_unique (by omega) ?_ ?_ <;> rw [Int.mul_assoc] <;> omega

theorem rdiv_scale (p : Int) {d k : Int} (hd : 0 < d) (hk : 0 < k) :
    (k * p + k * d / 2) / (k * d) = (p + d / 2) / d := by
  have hkd : 0 < k * d := Int.mul_pos hk hd
  rw [← rdiv_two _ hkd, ← rdiv_two _ hd,
    show 2 * (k * p) + k * d = k * (2 * p + d) by rw [Int.mul_add, Int.mul_left_comm],
    show 2 * (k * d) = k * (2 * d) from Int.mul_left_comm 2 k d,
    Int.mul_ediv_mul_of_pos _ _ hk]

theorem rdiv_le {p d c : Int} (hd : 0 < d) (h : p ≤ d * c) : (p + d / 2) / d ≤ c := by
  have := rdiv_spec p hd
  apply Classical.byContradiction; intro hn
  have : d * (c + 1) ≤ d * ((p + d / 2) / d) := Int.mul_le_mul_of_nonneg_left (by omega) (by omega)
  rw [Int.mul_add, Int.mul_one] at this
  omega

theorem le_rdiv {p d c : Int} (hd : 0 < d) (h : d * c ≤ p) : c ≤ (p + d / 2) / d := by
  have := rdiv_spec p hd
  apply Classical.byContradiction; intro hn
  have : d * ((p + d / 2) / d + 1) ≤ d * c := Int.mul_le_mul_of_nonneg_left (by omega) (by omega)
  rw [Int.mul_add, Int.mul_one] at this
  omega

/-- a factor `a / b ∈ [0, 1]` applied to `t ≥ 0` and rounded stays in `[0, t]`
(tent factor, avar segment, `Fixed.div` of `a ≤ b`, interpolation weight). -/
theorem rdiv_between {t a b : Int} (ht : 0 ≤ t) (ha : 0 ≤ a) (hab : a ≤ b) (hb : 0 < b) :
    0 ≤ (t * a + b / 2) / b ∧ (t * a + b / 2) / b ≤ t :=
  ⟨le_rdiv hb (by have := Int.mul_nonneg ht ha; omega),
   rdiv_le hb (by rw [Int.mul_comm b t]; exact Int.mul_le_mul_of_nonneg_left hab ht)⟩

theorem rdiv_mul_self {d : Int} (c : Int) (hd : 0 < d) : (d * c + d / 2) / d = c :=
  rdiv_unique hd (by omega) (by omega)

theorem rdiv_split (m : Int) {G : Int} (hG : 0 < G) :
    (m + G / 2) / G = m / G + (if G ≤ 2 * (m % G) then 1 else 0) := by
  have h1 := ediv_spec m hG
  have h2 := Int.mul_ediv_add_emod m G
  apply rdiv_unique hG <;> rw [Int.mul_add] <;> split <;> omega

theorem rdiv_mono {a b d : Int} (hd : 0 < d) (h : a ≤ b) : (a + d / 2) / d ≤ (b + d / 2) / d :=
  Int.ediv_le_ediv hd (by omega)

theorem roundHalfAway_eq (p : Int) {d : Int} (hd : 0 < d) :
    roundHalfAway p d = if p < 0 then -((-p + d / 2) / d) else (p + d / 2) / d := by
  unfold roundHalfAway; rw [rdiv_two _ hd, rdiv_two _ hd]

/-- the code's formula `(p + d/2) / d` for non-negative `p`. -/
theorem isRHA_formula {p d : Int} (hp : 0 ≤ p) (hd : 0 < d) : IsRHA p d ((p + d / 2) / d) :=
  ⟨fun _ => rdiv_spec p hd, fun h => by omega⟩

theorem roundHalfAway_isRHA (p : Int) {d : Int} (hd : 0 < d) : IsRHA p d (roundHalfAway p d) := by
  rw [roundHalfAway_eq p hd]
  by_cases hp : p < 0
  · rw [if_pos hp]
    have := rdiv_spec (-p) hd
    unfold IsRHA
    rw [Int.mul_neg]
    exact ⟨fun h => by omega, fun _ => by omega⟩
  · rw [if_neg hp]
    exact isRHA_formula (by omega) hd

/-- the relation is the graph of the function. -/
theorem isRHA_iff {p d r : Int} (hd : 0 < d) : IsRHA p d r ↔ r = roundHalfAway p d := by
  refine ⟨fun h => ?_, fun h => h ▸ roundHalfAway_isRHA p hd⟩
  rw [roundHalfAway_eq p hd]
  unfold IsRHA at h
  by_cases hp : p < 0
  · have := h.2 hp
    have e : d * -r = -(d * r) := Int.mul_neg d r
    rw [if_pos hp, rdiv_unique (p := -p) (q := -r) hd (by omega) (by omega), Int.neg_neg]
  · have := h.1 (by omega)
    rw [if_neg hp, rdiv_unique hd this.1 this.2]

theorem isRHA_near {p d r : Int} (h : IsRHA p d r) : 2 * (d * r) - d ≤ 2 * p ∧ 2 * p ≤ 2 * (d * r) + d := by
  unfold IsRHA at h
  by_cases hp : 0 ≤ p
  · have := h.1 hp; omega
  · have := h.2 (by omega); omega

theorem roundHalfAway_mul_self (c : Int) {d : Int} (hd : 0 < d) : roundHalfAway (d * c) d = c :=
  ((isRHA_iff hd).1 (by unfold IsRHA; omega)).symm

theorem roundHalfAway_one (p : Int) : roundHalfAway p 1 = p := by
  have := roundHalfAway_mul_self p (show (0 : Int) < 1 by decide); rwa [Int.one_mul] at this

theorem roundHalfAway_zero {d : Int} (hd : 0 < d) : roundHalfAway 0 d = 0 := by
  have := roundHalfAway_mul_self 0 hd; rwa [Int.mul_zero] at this

theorem roundHalfAway_nonneg {p d : Int} (hd : 0 < d) (hp : 0 ≤ p) : 0 ≤ roundHalfAway p d := by
  rw [roundHalfAway_eq p hd, if_neg (by omega)]
  exact Int.ediv_nonneg (by omega) (by omega)

theorem roundHalfAway_neg (p : Int) {d : Int} (hd : 0 < d) :
    roundHalfAway (-p) d = -roundHalfAway p d := by
  by_cases h0 : p = 0
  · rw [h0, Int.neg_zero, roundHalfAway_zero hd, Int.neg_zero]
  · rw [roundHalfAway_eq _ hd, roundHalfAway_eq _ hd]
    by_cases hp : p < 0
    · rw [if_neg (by omega), if_pos hp, Int.neg_neg]
    · rw [if_pos (by omega), if_neg hp, Int.neg_neg]

theorem isRHA_neg {p d r : Int} (hd : 0 < d) (h : IsRHA p d r) : IsRHA (-p) d (-r) :=
  (isRHA_iff hd).2 (by rw [roundHalfAway_neg p hd, ← (isRHA_iff hd).1 h])

theorem roundHalfAway_mono {a b d : Int} (hd : 0 < d) (h : a ≤ b) :
    roundHalfAway a d ≤ roundHalfAway b d := by
  by_cases hb : b < 0
  · rw [roundHalfAway_eq _ hd, roundHalfAway_eq _ hd, if_pos (by omega), if_pos hb]
    have := rdiv_mono hd (show -b ≤ -a by omega); omega
  · by_cases ha : a < 0
    · -- a negative value rounds to at most `0`, a non-negative one to at least `0`
      have h1 := roundHalfAway_nonneg hd (show 0 ≤ -a by omega)
      have h2 := roundHalfAway_nonneg hd (show 0 ≤ b by omega)
      rw [roundHalfAway_neg _ hd] at h1; omega
    · rw [roundHalfAway_eq _ hd, roundHalfAway_eq _ hd, if_neg ha, if_neg hb]
      exact rdiv_mono hd h

theorem roundHalfAway_scale (p d : Int) {k : Int} (hk : 0 < k) :
    roundHalfAway (k * p) (k * d) = roundHalfAway p d := by
  unfold roundHalfAway
  have e1 : ∀ x : Int, 2 * (k * x) + k * d = k * (2 * x + d) := fun x => by
    rw [Int.mul_add, Int.mul_left_comm]
  have e2 : 2 * (k * d) = k * (2 * d) := Int.mul_left_comm 2 k d
  have hs : k * p < 0 ↔ p < 0 :=
    ⟨fun h => by
      apply Classical.byContradiction; intro hc
      have := Int.mul_nonneg (Int.le_of_lt hk) (show 0 ≤ p by omega); omega,
     fun h => Int.mul_neg_of_pos_of_neg hk h⟩
  rw [← Int.mul_neg, e1, e1, e2, Int.mul_ediv_mul_of_pos _ _ hk, Int.mul_ediv_mul_of_pos _ _ hk]
  by_cases hp : p < 0
  · rw [if_pos (hs.2 hp), if_pos hp]
  · rw [if_neg (fun h => hp (hs.1 h)), if_neg hp]

/-- monotone in the fraction: both are brought to the denominator `d1 * d2`. -/
theorem roundHalfAway_mono_frac {p1 d1 p2 d2 : Int} (h1 : 0 < d1) (h2 : 0 < d2)
    (h : p1 * d2 ≤ p2 * d1) : roundHalfAway p1 d1 ≤ roundHalfAway p2 d2 := by
  rw [← roundHalfAway_scale p1 d1 h2, ← roundHalfAway_scale p2 d2 h1, Int.mul_comm d1 d2]
  exact roundHalfAway_mono (Int.mul_pos h2 h1) (by rw [Int.mul_comm d2 p1, Int.mul_comm d1 p2]; exact h)

theorem roundHalfAway_bounds {p d : Int} (c : Int) (hd : 0 < d) :
    (c * d ≤ p → c ≤ roundHalfAway p d) ∧ (p ≤ c * d → roundHalfAway p d ≤ c) := by
  have e := roundHalfAway_mul_self c hd
  rw [Int.mul_comm] at e
  exact ⟨fun h => e ▸ roundHalfAway_mono hd h, fun h => e ▸ roundHalfAway_mono hd h⟩

theorem isRHAq_iff {p q r : Int} (hq : q ≠ 0) :
    IsRHAq p q r ↔ r = roundHalfAway (if 0 < q then p else -p) (iabs q) := by
  unfold IsRHAq iabs
  by_cases h : 0 < q
  · rw [if_pos h, if_pos h, if_neg (by omega), isRHA_iff h]
  · rw [if_neg h, if_neg h, if_pos (by omega), isRHA_iff (by omega)]

theorem signed_rdiv (n : Bool) {P d : Int} (hP : 0 ≤ P) (hd : 0 < d) :
    (if n then -((P + d / 2) / d) else (P + d / 2) / d) = roundHalfAway (if n then -P else P) d := by
  have e := roundHalfAway_eq P hd
  rw [if_neg (by omega)] at e
  cases n
  · simp only [Bool.false_eq_true, if_false, e]
  · simp only [if_true, roundHalfAway_neg P hd, e]

end FontVerif
