/-
Helper lemmas for C05 (Model/Graph.lean): the simulation invariant (`PInv`) through the sorts, `assign_spaces_hb`,
`try_isolating_subgraphs`, `remove_orphans` (the depth-first walk of `find_subgraph_hb` is closed under links) and
`pack_objects` as a whole.
-/
import FontVerif.Model.Graph
import FontVerif.Lemmas.GraphSim
import FontVerif.Lemmas.GraphPack
namespace FontVerif.Graph

/-- the invariant of `pack_objects`: the current graph simulates the input graph `g0` with the
root mapped to the root, and the ids still to be handed out are distinct and unused -/
def PInv (g0 g : Graph) (fr : List Nat) : Prop :=
  ∃ φ, SInv g0 φ ⟨g, [], fr⟩ [] ∧ φ g.root = g0.root ∧ g.root ∉ fr

/-- ids that may be handed out by `ObjectId::next()` while packing `g`: distinct, and not in use as
an object id, a link target, a cached parent or the root of `g` -/
def FreshFor (g : Graph) (fresh : List Nat) : Prop :=
  fresh.Nodup ∧ g.root ∉ fresh ∧ ∀ n ∈ fresh, Unused g n

theorem pinv_init (g : Graph) (fresh : List Nat) (h : FreshFor g fresh) : PInv g g fresh := by
  refine ⟨id, ⟨?_, by simpa using h.1, fun n hn => h.2.2 n (by simpa using hn), ?_⟩, rfl, h.2.1⟩
  · intro x
    exact ⟨rfl, rfl⟩
  · intro k v hkv; simp [Map.find?] at hkv

theorem pinv_of_same (g0 g g' : Graph) (fr : List Nat) (hobj : g'.objects = g.objects) (hroot : g'.root = g.root)
    (hun : ∀ n, Unused g n → Unused g' n) (h : PInv g0 g fr) : PInv g0 g' fr := by
  obtain ⟨φ, hinv, h1, h2⟩ := h
  refine ⟨φ, ⟨simulates_congr g g' g0 φ hobj hinv.sim, hinv.nodup, fun n hn => hun n (hinv.unused n hn), hinv.dupes⟩, ?_, ?_⟩
  · rw [hroot]; exact h1
  · rw [hroot]; exact h2

theorem pinv_suffix (g0 g : Graph) (fr fr' : List Nat) (hs : fr' <:+ fr) (h : PInv g0 g fr) : PInv g0 g fr' := by
  obtain ⟨φ, hinv, h1, h2⟩ := h
  refine ⟨φ, ⟨hinv.sim, ?_, ?_, ?_⟩, h1, fun hm => h2 (hs.subset hm)⟩
  · have := hinv.nodup
    simp only [List.nil_append] at this ⊢
    exact this.sublist hs.sublist
  · intro n hn
    exact hinv.unused n (by simp only [List.nil_append] at hn ⊢; exact hs.subset hn)
  · intro k v hkv; simp [Map.find?] at hkv

theorem pinv_updateParents (g0 g : Graph) (fr : List Nat) (hp : PInv g0 g fr) : PInv g0 (updateParents g) fr :=
  pinv_of_same g0 g _ fr (updateParents_objects g) (updateParents_root g) (updateParents_unused g) hp

theorem pinv_links_notFresh (g0 g : Graph) (fr : List Nat) (hp : PInv g0 g fr) :
    ∀ x, ∀ l ∈ (g.obj x).links, l.target ∉ fr := by
  obtain ⟨φ, hinv, _, _⟩ := hp
  intro x l hl hm
  exact (hinv.unused l.target (by simpa using hm)).2.1 x l hl rfl

theorem pinv_parents_notFresh (g0 g : Graph) (fr : List Nat) (hp : PInv g0 g fr) :
    ∀ x, ∀ p ∈ (g.node x).parents, p.1 ∉ fr := by
  obtain ⟨φ, hinv, _, _⟩ := hp
  intro x p hpm hm
  exact (hinv.unused p.1 (by simpa using hm)).2.2 x p hpm rfl

theorem pinv_keys_notFresh (g0 g : Graph) (fr : List Nat) (hp : PInv g0 g fr) (k : Nat)
    (hk : g.objects.find? k ≠ none) : k ∉ fr := by
  obtain ⟨φ, hinv, _, _⟩ := hp
  intro hm
  exact hk (hinv.unused k (by simpa using hm)).1

theorem SortRun.pinv {g0 g g' : Graph} {removed : Map Nat} {fr : List Nat} (s : SortRun g g' removed)
    (hp : PInv g0 g fr) : PInv g0 g' fr :=
  pinv_of_same g0 g g' fr s.objects.1 s.objects.2 (fun n hu => s.same.unused n (updateParents_unused g n hu)) hp

theorem pinv_sortKahn (g0 g g' : Graph) (fr : List Nat) (h : sortKahn g = some g') (hp : PInv g0 g fr) : PInv g0 g' fr := by
  rcases sortKahn_cases g g' h with ⟨_, rfl⟩ | ⟨_, s⟩
  · exact pinv_of_same g0 g _ fr rfl rfl (unused_congr g _ rfl rfl) hp
  · exact s.pinv hp

theorem pinv_sortShortest (g0 g g' : Graph) (fr : List Nat) (h : sortShortest g = some g') (hp : PInv g0 g fr) :
    PInv g0 g' fr :=
  let ⟨_, s⟩ := sortShortest_run g g' h
  s.pinv hp

theorem pinv_basicSort (g0 g g' : Graph) (fr : List Nat) (ok : Bool) (h : basicSort g = some (ok, g'))
    (hp : PInv g0 g fr) : PInv g0 g' fr := by
  rcases basicSort_cases g g' ok h with ⟨_, hk, _⟩ | ⟨g1, hk, hs, _⟩
  · exact pinv_sortKahn g0 g g' fr hk hp
  · exact pinv_sortShortest g0 g1 g' fr hs (pinv_sortKahn g0 g g1 fr hk hp)

theorem pinv_isolate (g0 g : Graph) (roots : Set) (fr : List Nat) (b : Bool) (g' : Graph) (roots' : Set) (fr' : List Nat)
    (h : PInv g0 g fr) (hr : ∀ r ∈ roots, r ∉ fr)
    (hi : isolateSubgraph g roots fr = some (b, g', roots', fr')) : PInv g0 g' fr' ∧ fr' <:+ fr := by
  obtain ⟨φ, hinv, h1, h2⟩ := h
  obtain ⟨φ', hinv', hsuf, hag, hroot⟩ := isolate_spec g0 φ g roots fr b g' roots' fr' hinv hr hi
  refine ⟨⟨φ', hinv', ?_, ?_⟩, hsuf⟩
  · rw [hroot, hag _ h2]; exact h1
  · rw [hroot]; exact fun hm => h2 (hsuf.subset hm)

theorem spaceRootsLoop_roots (g : Graph) (P : Nat → Prop) (hP : ∀ x, ∀ l ∈ (g.obj x).links, P l.target)
    (fuel : Nat) (queue : List Nat) (visited roots : Set) (v' r' : Set) (hr : ∀ x ∈ roots, P x)
    (h : spaceRootsLoop g fuel queue visited roots = some (v', r')) : ∀ x ∈ r', P x := by
  induction fuel generalizing queue visited roots with
  | zero => simp [spaceRootsLoop] at h
  | succ n ih =>
    unfold spaceRootsLoop at h
    split at h
    · simp only [Option.some.injEq, Prod.mk.injEq] at h
      obtain ⟨_, rfl⟩ := h
      exact hr
    · rename_i id rest
      split at h
      · exact ih _ _ _ hr h
      · simp only [] at h
        have hk := foldl_inv (fun (acc : List Nat × Set × Set) => ∀ x ∈ acc.2.2, P x)
          (fun (acc : List Nat × Set × Set) l =>
            if l.width = 4 then (acc.1, findSubgraph g (depthFuel g) l.target acc.2.1, acc.2.2.insert l.target)
            else (acc.1 ++ [l.target], acc.2.1, acc.2.2)) (g.linksOf id)
          (fun acc l hl ha => by
            split
            · exact fun x hx => (Set.mem_insert _ _ _ hx).elim (fun h1 => h1 ▸ hP id l hl) (ha x)
            · exact ha) (rest, visited, roots) hr
        generalize hfold : (g.linksOf id).foldl _ (rest, visited, roots) = res at h hk
        obtain ⟨q, v, r⟩ := res
        exact ih _ _ _ hk h

theorem findConnected_sub (g : Graph) (P : Nat → Prop) (fuel id : Nat) (st : Set × Set × Set)
    (h : ∀ x ∈ st.1 ++ st.2.2, P x) :
    ∀ x ∈ (findConnected g fuel id st).1 ++ (findConnected g fuel id st).2.2, P x := by
  induction fuel generalizing id st with
  | zero => exact h
  | succ n ih =>
    obtain ⟨targets, visited, connected⟩ := st
    unfold findConnected
    split
    · exact h
    · simp only []
      -- the one step that touches the two sets moves `id` from the targets to the connected
      have h0 : ∀ x ∈ (if targets.contains id then (targets.erase id, connected.insert id) else (targets, connected)).1 ++
          (if targets.contains id then (targets.erase id, connected.insert id) else (targets, connected)).2, P x := by
        split
        · rename_i hcont
          intro x hx
          rcases List.mem_append.mp hx with hx | hx
          · exact h x (List.mem_append_left _ (Set.mem_erase _ _ _ hx))
          · rcases Set.mem_insert _ _ _ hx with rfl | h1
            · exact h _ (List.mem_append_left _ (by simpa [Set.contains] using hcont))
            · exact h x (List.mem_append_right _ h1)
        · exact h
      generalize (if targets.contains id then (targets.erase id, connected.insert id) else (targets, connected) : Set × Set) = tc at h0 ⊢
      exact foldl_inv (fun st => ∀ x ∈ st.1 ++ st.2.2, P x) _ _ (fun st l _ hs => ih l.target st hs) _
        (foldl_inv (fun st => ∀ x ∈ st.1 ++ st.2.2, P x) _ _ (fun st p _ hs => ih p.1 st hs) _ h0)

theorem pinv_assignSpacesLoop (g0 : Graph) (fuel : Nat) (g : Graph) (roots visited : Set) (fr : List Nat)
    (g' : Graph) (fr' : List Nat) (hp : PInv g0 g fr) (hr : ∀ r ∈ roots, r ∉ fr)
    (h : assignSpacesLoop fuel g roots visited fr = some (g', fr')) : PInv g0 g' fr' ∧ fr' <:+ fr := by
  induction fuel generalizing g roots visited fr with
  | zero => simp [assignSpacesLoop] at h
  | succ n ih =>
    unfold assignSpacesLoop at h
    split at h
    · simp only [Option.some.injEq, Prod.mk.injEq] at h
      obtain ⟨rfl, rfl⟩ := h
      exact ⟨hp, List.suffix_refl _⟩
    · rename_i next rest
      have hsub := findConnected_sub g (fun x => x ∉ fr) (depthFuel g) next (next :: rest, visited, []) (List.append_nil _ ▸ hr)
      generalize hfc : findConnected g (depthFuel g) next (next :: rest, visited, []) = res at h hsub
      obtain ⟨roots1, visited1, connected⟩ := res
      simp only [] at h
      split at h
      · simp at h
      · rename_i b g1 r1 fr1 hiso
        obtain ⟨hp1, hsuf1⟩ := pinv_isolate g0 g connected fr b g1 r1 fr1 hp (fun r hr' => hsub r (List.mem_append_right _ hr')) hiso
        obtain ⟨hp2, hsuf2⟩ := ih g1 roots1 visited1 fr1 hp1 (fun r hr' hm => hsub r (List.mem_append_left _ hr') (hsuf1.subset hm)) h
        exact ⟨hp2, hsuf2.trans hsuf1⟩

theorem pinv_assignSpaces (g0 g : Graph) (fr : List Nat) (b : Bool) (g' : Graph) (fr' : List Nat)
    (hp : PInv g0 g fr) (h : assignSpaces g fr = some (b, g', fr')) : PInv g0 g' fr' := by
  unfold assignSpaces at h
  simp only [Option.bind_eq_bind, Option.bind_eq_some_iff] at h
  obtain ⟨⟨visited, roots⟩, hroots, h⟩ := h
  have hpu := pinv_updateParents g0 g fr hp
  simp only [] at h
  split at h
  · simp only [Option.some.injEq, Prod.mk.injEq] at h
    obtain ⟨_, rfl, rfl⟩ := h
    exact hpu
  · simp only [Option.bind_eq_some_iff] at h
    obtain ⟨⟨g1, fr1⟩, hloop, h⟩ := h
    simp only [Option.some.injEq, Prod.mk.injEq] at h
    obtain ⟨_, rfl, rfl⟩ := h
    have hr : ∀ r ∈ roots, r ∉ fr := by
      unfold findSpaceRoots at hroots
      exact spaceRootsLoop_roots (updateParents g) (fun x => x ∉ fr) (pinv_links_notFresh g0 _ fr hpu)
        _ _ _ _ visited roots (by simp) hroots
    exact (pinv_assignSpacesLoop g0 _ _ roots _ fr _ _ hpu hr hloop).1

theorem findRootOfSpace_P (g : Graph) (P : Nat → Prop) (hpar : ∀ x, ∀ p ∈ (g.node x).parents, P p.1)
    (fuel obj r : Nat) (ho : P obj) (h : findRootOfSpace g fuel obj = some r) : P r := by
  induction fuel generalizing obj with
  | zero => simp [findRootOfSpace] at h
  | succ n ih =>
    unfold findRootOfSpace at h
    simp only [] at h
    split at h
    · simp at h
    · rename_i parent w rest hpl
      split at h
      · simp only [Option.some.injEq] at h; subst h; exact ho
      · exact ih parent (hpar obj (parent, w) (by rw [hpl]; exact List.mem_cons_self)) h

/-- one iteration of the first loop of `try_isolating_subgraphs` -/
def toIsoStep (g : Graph) (acc : Option (Map Set)) (ov : Overflow) : Option (Map Set) :=
  match acc with
  | none => none
  | some m =>
    let parentSpace := (g.node ov.1).space
    if parentSpace < 2 then some m else
    match g.numRoots.find? parentSpace with
    | none => none
    | some nr =>
      if nr < 2 then some m else
      if parentSpace ≠ (g.node ov.2.1).space then none else
      match findRootOfSpace g (depthFuel g) ov.1 with
      | none => none
      | some root =>
        if (g.node root).space ≠ parentSpace then none else
        some (m.insert parentSpace (((m.find? parentSpace).getD []).insert root))

theorem toIsoStep_some (g : Graph) (m m1 : Map Set) (ov : Overflow) (h : toIsoStep g (some m) ov = some m1) :
    m1 = m ∨ ∃ root, findRootOfSpace g (depthFuel g) ov.1 = some root ∧
      m1 = m.insert (g.node ov.1).space (((m.find? (g.node ov.1).space).getD []).insert root) := by
  simp only [toIsoStep] at h
  by_cases c1 : (g.node ov.1).space < 2
  · rw [if_pos c1] at h; exact Or.inl (Option.some.inj h).symm
  · rw [if_neg c1] at h
    cases hnr : g.numRoots.find? (g.node ov.1).space with
    | none => rw [hnr] at h; exact absurd h (by simp)
    | some nr =>
      rw [hnr] at h
      simp only [] at h
      by_cases c2 : nr < 2
      · rw [if_pos c2] at h; exact Or.inl (Option.some.inj h).symm
      · rw [if_neg c2] at h
        by_cases c3 : (g.node ov.1).space ≠ (g.node ov.2.1).space
        · rw [if_pos c3] at h; exact absurd h (by simp)
        · rw [if_neg c3] at h
          cases hr : findRootOfSpace g (depthFuel g) ov.1 with
          | none => rw [hr] at h; exact absurd h (by simp)
          | some root =>
            rw [hr] at h
            simp only [] at h
            by_cases c4 : (g.node root).space ≠ (g.node ov.1).space
            · rw [if_pos c4] at h; exact absurd h (by simp)
            · rw [if_neg c4] at h; exact Or.inr ⟨root, rfl, (Option.some.inj h).symm⟩

theorem toIso_P (g : Graph) (P : Nat → Prop) (hpar : ∀ x, ∀ p ∈ (g.node x).parents, P p.1)
    (ovs : List Overflow) (hov : ∀ ov ∈ ovs, P ov.1) (m m' : Map Set)
    (hm : ∀ kv ∈ m, ∀ r ∈ kv.2, P r) (h : ovs.foldl (toIsoStep g) (some m) = some m') :
    ∀ kv ∈ m', ∀ r ∈ kv.2, P r := by
  refine foldl_some_induct (toIsoStep g) (fun _ => rfl) (fun m => ∀ kv ∈ m, ∀ r ∈ kv.2, P r) ovs ?_ m m' hm h
  intro m ov m1 hmem hm hstep
  rcases toIsoStep_some g m m1 ov hstep with rfl | ⟨root, hroot, rfl⟩
  · exact hm
  · intro kv hkv r hr
    rcases Map.mem_insert _ _ _ _ hkv with h1 | h1
    · rw [h1] at hr
      rcases Set.mem_insert _ _ _ hr with h2 | h2
      · rw [h2]
        exact findRootOfSpace_P g P hpar _ _ _ (hov ov hmem) hroot
      · cases hf : m.find? (g.node ov.1).space with
        | none => rw [hf] at h2; simp at h2
        | some v =>
          rw [hf] at h2
          exact hm _ (Map.find?_mem m _ v hf) r h2
    · exact hm kv h1 r hr

/-- one iteration of the second loop of `try_isolating_subgraphs` -/
def isoStep (acc : Option (Graph × List Nat)) (kv : Nat × Set) : Option (Graph × List Nat) :=
  match acc with
  | none => none
  | some (g, fresh) =>
    match g.numRoots.find? kv.1 with
    | none => none
    | some nTotal =>
      let roots := dropLastUntil (nTotal / 2) kv.2
      match isolateSubgraph g roots fresh with
      | none => none
      | some (_, g, roots, fresh) =>
        match g.numRoots.find? kv.1 with
        | none => none
        | some cur =>
          if cur < roots.length then none
          else some ({ g with numRoots := g.numRoots.insert kv.1 (cur - roots.length) }, fresh)

theorem isoStep_some (g : Graph) (fr : List Nat) (kv : Nat × Set) (g1 : Graph) (fr1 : List Nat)
    (h : isoStep (some (g, fr)) kv = some (g1, fr1)) :
    ∃ nTotal b g2 roots2 cur, isolateSubgraph g (dropLastUntil (nTotal / 2) kv.2) fr = some (b, g2, roots2, fr1) ∧
      g1 = { g2 with numRoots := g2.numRoots.insert kv.1 (cur - roots2.length) } := by
  simp only [isoStep] at h
  cases hnt : g.numRoots.find? kv.1 with
  | none => rw [hnt] at h; exact absurd h (by simp)
  | some nTotal =>
    rw [hnt] at h
    simp only [] at h
    cases hiso : isolateSubgraph g (dropLastUntil (nTotal / 2) kv.2) fr with
    | none => rw [hiso] at h; exact absurd h (by simp)
    | some r =>
      obtain ⟨b, g2, roots2, fr2⟩ := r
      rw [hiso] at h
      simp only [] at h
      cases hcur : g2.numRoots.find? kv.1 with
      | none => rw [hcur] at h; exact absurd h (by simp)
      | some cur =>
        rw [hcur] at h
        simp only [] at h
        by_cases c : cur < roots2.length
        · rw [if_pos c] at h; exact absurd h (by simp)
        · rw [if_neg c] at h
          simp only [Option.some.injEq, Prod.mk.injEq] at h
          obtain ⟨rfl, rfl⟩ := h
          exact ⟨nTotal, b, g2, roots2, cur, hiso, rfl⟩

theorem pinv_isoFold (g0 : Graph) (xs : List (Nat × Set)) (g : Graph) (fr : List Nat) (g' : Graph) (fr' : List Nat)
    (hp : PInv g0 g fr) (hx : ∀ kv ∈ xs, ∀ r ∈ kv.2, r ∉ fr)
    (h : xs.foldl isoStep (some (g, fr)) = some (g', fr')) : PInv g0 g' fr' ∧ fr' <:+ fr := by
  refine foldl_some_induct isoStep (fun _ => rfl) (fun r => PInv g0 r.1 r.2 ∧ r.2 <:+ fr) xs ?_ (g, fr) (g', fr')
    ⟨hp, List.suffix_refl _⟩ h
  intro ⟨g, fr0⟩ kv ⟨g1, fr1⟩ hmem ⟨hp, hsuf⟩ hstep
  obtain ⟨nTotal, b, g2, roots2, cur, hiso, rfl⟩ := isoStep_some g fr0 kv g1 fr1 hstep
  have hr : ∀ r ∈ dropLastUntil (nTotal / 2) kv.2, r ∉ fr0 := fun r hr hm =>
    hx kv hmem r (List.mem_of_mem_take hr) (hsuf.subset hm)
  obtain ⟨hp2, hsuf2⟩ := pinv_isolate g0 g _ fr0 b g2 roots2 fr1 hp hr hiso
  exact ⟨pinv_of_same g0 g2 _ fr1 rfl rfl (fun n hn => unused_congr g2 _ rfl rfl n hn) hp2, hsuf2.trans hsuf⟩

theorem pinv_tryIsolating (g0 g : Graph) (ovs : List Overflow) (fr : List Nat) (b : Bool) (g' : Graph) (fr' : List Nat)
    (hp : PInv g0 g fr) (hov : ∀ ov ∈ ovs, ov.1 ∉ fr)
    (h : tryIsolating g ovs fr = some (b, g', fr')) : PInv g0 g' fr' := by
  unfold tryIsolating at h
  simp only [Option.bind_eq_bind, Option.bind_eq_some_iff] at h
  obtain ⟨toIsolate, hto, h⟩ := h
  have hto' : ovs.foldl (toIsoStep g) (some []) = some toIsolate := hto
  have hP := toIso_P g (fun x => x ∉ fr) (pinv_parents_notFresh g0 g fr hp) ovs hov [] toIsolate (by simp) hto'
  split at h
  · simp only [Option.some.injEq, Prod.mk.injEq] at h
    obtain ⟨_, rfl, rfl⟩ := h
    exact hp
  · simp only [Option.bind_eq_some_iff] at h
    obtain ⟨⟨g1, fr1⟩, hfold, h⟩ := h
    simp only [Option.some.injEq, Prod.mk.injEq] at h
    obtain ⟨_, rfl, rfl⟩ := h
    have hfold' : toIsolate.foldl isoStep (some (g, fr)) = some (g1, fr1) := hfold
    exact (pinv_isoFold g0 toIsolate g fr g1 fr1 hp hP hfold').1

def keysLeft (g : Graph) (s : Set) : Nat := (g.objects.keys.filter (fun k => !s.contains k)).length

theorem keysLeft_mono (g : Graph) (s t : Set) (h : ∀ x, x ∈ s → x ∈ t) : keysLeft g t ≤ keysLeft g s := by
  unfold keysLeft
  rw [length_eq_sum_one, length_eq_sum_one]
  exact filter_sum_mono _ _ _ _ (not_contains_mono s t h)

theorem keysLeft_insert (g : Graph) (s : Set) (idx : Nat) (hk : idx ∈ g.objects.keys) (hs : idx ∉ s) :
    keysLeft g (s.insert idx) < keysLeft g s := by
  unfold keysLeft
  rw [length_eq_sum_one, length_eq_sum_one]
  refine filter_sum_strict _ _ _ (fun _ => 1)
    (not_contains_mono s (s.insert idx) (fun x hx => Set.mem_insert_of_mem s idx x hx)) idx hk ?_ ?_
  · cases h : s.contains idx with
    | false => rfl
    | true => exact absurd ((Set.contains_iff s idx).mp h) hs
  · rw [(Set.contains_iff _ _).mpr (Set.mem_insert_self s idx)]; rfl

def ClosedAt (g : Graph) (s : Set) (x : Nat) : Prop := ∀ l ∈ (g.obj x).links, l.target ∈ s

def DfsSpec (g : Graph) (fuel : Nat) : Prop :=
  ∀ (idx : Nat) (s : Set), keysLeft g s < fuel →
    (∀ x, x ∈ s → x ∈ findSubgraph g fuel idx s) ∧ idx ∈ findSubgraph g fuel idx s ∧
    (∀ x, x ∈ findSubgraph g fuel idx s → x ∈ s ∨ ClosedAt g (findSubgraph g fuel idx s) x)

theorem dfsFold_spec (g : Graph) (fuel : Nat) (ih : DfsSpec g fuel) (links : List Link) (t : Set)
    (hk : links ≠ [] → keysLeft g t < fuel) :
    (∀ x, x ∈ t → x ∈ links.foldl (fun s l => findSubgraph g fuel l.target s) t) ∧
    (∀ l ∈ links, l.target ∈ links.foldl (fun s l => findSubgraph g fuel l.target s) t) ∧
    (∀ x, x ∈ links.foldl (fun s l => findSubgraph g fuel l.target s) t →
      x ∈ t ∨ ClosedAt g (links.foldl (fun s l => findSubgraph g fuel l.target s) t) x) := by
  induction links generalizing t with
  | nil => exact ⟨fun x h => h, by simp, fun x h => Or.inl h⟩
  | cons l rest ihl =>
    simp only [List.foldl_cons]
    have hk := hk (List.cons_ne_nil l rest)
    obtain ⟨a1, a2, a3⟩ := ih l.target t hk
    obtain ⟨b1, b2, b3⟩ := ihl (findSubgraph g fuel l.target t)
      fun _ => Nat.lt_of_le_of_lt (keysLeft_mono g _ _ a1) hk
    refine ⟨fun x hx => b1 x (a1 x hx), ?_, ?_⟩
    · intro l' hl'
      rcases List.mem_cons.mp hl' with rfl | hl'
      · exact b1 _ a2
      · exact b2 l' hl'
    · intro x hx
      rcases b3 x hx with h | h
      · rcases a3 x h with h' | h'
        · left; exact h'
        · right; intro l' hl'; exact b1 _ (h' l' hl')
      · right; exact h

theorem dfs_spec (g : Graph) (fuel : Nat) : DfsSpec g fuel := by
  induction fuel with
  | zero => intro idx s h; omega
  | succ n ih =>
    intro idx s hk
    unfold findSubgraph
    split
    · rename_i hc
      exact ⟨fun x h => h, (Set.contains_iff s idx).mp hc, fun x h => Or.inl h⟩
    · rename_i hc
      have hidx : idx ∉ s := fun hm => hc ((Set.contains_iff s idx).mpr hm)
      -- an object without links need not be a key of `g.objects`: the fold then makes no call
      have hk1 : g.linksOf idx ≠ [] → keysLeft g (s.insert idx) < n := fun hlinks => by
        have := keysLeft_insert g s idx (key_of_links_ne_nil hlinks) hidx
        omega
      obtain ⟨b1, b2, b3⟩ := dfsFold_spec g n ih (g.linksOf idx) (s.insert idx) hk1
      refine ⟨fun x h => b1 x (Set.mem_insert_of_mem s idx x h), b1 _ (Set.mem_insert_self s idx), ?_⟩
      intro x hx
      rcases b3 x hx with h | h
      · rcases Set.mem_insert s idx x h with h' | h'
        · right; rw [h']; exact b2
        · left; exact h'
      · right; exact h

theorem visited_closed (g : Graph) :
    g.root ∈ findSubgraph g (depthFuel g) g.root [] ∧
    ∀ x, x ∈ findSubgraph g (depthFuel g) g.root [] → ClosedAt g (findSubgraph g (depthFuel g) g.root []) x := by
  have hk : keysLeft g [] < depthFuel g := by
    unfold keysLeft depthFuel Map.keys
    have := List.length_filter_le (fun k => !Set.contains [] k) (g.objects.map (·.1))
    simp only [List.length_map] at this
    omega
  obtain ⟨_, a2, a3⟩ := dfs_spec g (depthFuel g) g.root [] hk
  refine ⟨a2, fun x hx => ?_⟩
  rcases a3 x hx with h | h
  · simp at h
  · exact h

/-- the edit of `remove_orphans`: whatever lies outside a set of ids that holds the root and is closed under links is
deleted; the deleted ids are sent to an id that the input graph does not have -/
theorem pinv_filter (g0 g g' : Graph) (fr : List Nat) (keep : Nat → Bool) (hroot : keep g.root = true)
    (hcl : ∀ x, keep x = true → ∀ l ∈ (g.obj x).links, keep l.target = true)
    (ho : g'.objects = g.objects.filter (fun kv => keep kv.1)) (hn : g'.nodes = g.nodes.filter (fun kv => keep kv.1))
    (hr : g'.root = g.root) (hp : PInv g0 g fr) : PInv g0 g' fr := by
  obtain ⟨φ, hinv, h1, h2⟩ := hp
  obtain ⟨dead, hdead⟩ := Map.exists_absent g0.objects
  have hdead' : g0.obj dead = default := by
    unfold Graph.obj; rw [hdead dead (Nat.le_refl _)]; rfl
  have hobj : ∀ x, g'.obj x = if keep x = true then g.obj x else default := by
    intro x
    simp only [Graph.obj, ho, Map.find?_filter g.objects keep x]
    split <;> rfl
  have hnode : ∀ x, g'.node x = if keep x = true then g.node x else default := by
    intro x
    simp only [Graph.node, hn, Map.find?_filter g.nodes keep x]
    split <;> rfl
  refine ⟨fun x => if keep x = true then φ x else dead, ⟨?_, hinv.nodup, ?_, ?_⟩, ?_, hr ▸ h2⟩
  · intro x
    simp only []
    rw [hobj x]
    by_cases hx : keep x = true
    · rw [if_pos hx, if_pos hx, ← (hinv.sim x).2]
      exact ⟨(hinv.sim x).1, map_shape_congr _ _ _ fun l hl => if_pos (hcl x hx l hl)⟩
    · rw [if_neg hx, if_neg hx, hdead']
      exact ⟨rfl, rfl⟩
  · intro n hm
    obtain ⟨u1, u2, u3⟩ := hinv.unused n hm
    refine ⟨?_, fun x l hl => ?_, fun x p hpm => ?_⟩
    · show g'.objects.find? n = none
      rw [ho, Map.find?_filter g.objects keep n, u1, ite_self]
    · rw [hobj x] at hl
      split at hl
      · exact u2 x l hl
      · cases hl
    · rw [hnode x] at hpm
      split at hpm
      · exact u3 x p hpm
      · cases hpm
  · intro k v hkv; simp [Map.find?] at hkv
  · simp only []
    rw [hr, if_pos hroot]
    exact h1

theorem pinv_removeOrphans (g0 g : Graph) (fr : List Nat) (hp : PInv g0 g fr) : PInv g0 (removeOrphans g) fr := by
  unfold removeOrphans
  simp only []
  split
  · obtain ⟨hrootv, hclosed⟩ := visited_closed g
    exact pinv_filter g0 g _ fr (findSubgraph g (depthFuel g) g.root []).contains ((Set.contains_iff _ _).mpr hrootv)
      (fun x hx l hl => (Set.contains_iff _ _).mpr (hclosed x ((Set.contains_iff _ x).mp hx) l hl)) rfl rfl rfl hp
  · exact hp

theorem findOverflows_parents (g : Graph) (ovs : List Overflow) (h : findOverflows g = some ovs) :
    ∀ ov ∈ ovs, g.objects.find? ov.1 ≠ none := by
  rw [findOverflows_eq] at h
  refine foldl_some_induct (fun acc kv => kv.2.links.foldl (ovfStep g kv.1) acc)
    (fun kv => foldl_none _ (fun _ => rfl) _) (fun a => ∀ ov ∈ a, g.objects.find? ov.1 ≠ none) g.objects ?_
    [] ovs (by simp) h
  intro a kv a1 hkv ha hstep
  refine foldl_some_induct (ovfStep g kv.1) (fun _ => rfl) (fun a => ∀ ov ∈ a, g.objects.find? ov.1 ≠ none)
    kv.2.links ?_ a a1 ha hstep
  intro b l b1 _ hb hs
  rcases ovfStep_some g kv.1 b b1 l hs with ⟨rfl, _⟩ | ⟨d, rfl⟩
  · exact hb
  · intro ov hov
    rcases List.mem_append.mp hov with h1 | h1
    · exact hb ov h1
    · rw [List.mem_singleton.mp h1]; exact Map.mem_find?_isSome g.objects kv hkv

theorem pinv_packLoop (g0 : Graph) (fuel : Nat) (g : Graph) (fr : List Nat) (ok : Bool) (g' : Graph) (fr' : List Nat)
    (hp : PInv g0 g fr) (h : packLoop fuel g fr = some (ok, g', fr')) : PInv g0 g' fr' := by
  have hiso : ∀ g fr ovs ch g1 fr1, PInv g0 g fr → findOverflows g = some ovs →
      tryIsolating g ovs fr = some (ch, g1, fr1) → PInv g0 g1 fr1 := fun g fr ovs ch g1 fr1 hp hov hiso =>
    pinv_tryIsolating g0 g ovs fr ch g1 fr1 hp
      (fun ov hovm => pinv_keys_notFresh g0 g fr hp ov.1 (findOverflows_parents g ovs hov ov hovm)) hiso
  exact packLoop_induct (PInv g0) (fun r => PInv g0 r.2.1 r.2.2) (fun _ _ hp _ => hp)
    (fun g fr ovs g1 fr1 hp hov hi => hiso g fr ovs false g1 fr1 hp hov hi)
    (fun g fr ovs g1 fr1 g2 hp hov hi hs =>
      pinv_sortShortest g0 _ g2 fr1 hs (pinv_removeOrphans g0 g1 fr1 (hiso g fr ovs true g1 fr1 hp hov hi)))
    fuel g fr _ h hp

theorem pinv_packTail (g0 g : Graph) (fr : List Nat) (ok : Bool) (g' : Graph) (fr' : List Nat)
    (hp : PInv g0 g fr) (h : packTail g fr = some (ok, g', fr')) : PInv g0 g' fr' := by
  obtain ⟨b, g2, fr2, g3, ha, hs, hr⟩ := packTail_cases g fr _ h
  have hp3 := pinv_sortShortest g0 _ g3 fr2 hs (pinv_removeOrphans g0 g2 fr2 (pinv_assignSpaces g0 g fr b g2 fr2 hp ha))
  rcases hr with ⟨_, he⟩ | hl
  · simp only [Prod.mk.injEq] at he
    obtain ⟨_, rfl, rfl⟩ := he
    exact hp3
  · exact pinv_packLoop g0 _ g3 fr2 ok g' fr' hp3 hl

theorem pinv_packObjects (g0 g : Graph) (fr : List Nat) (ok : Bool) (g' : Graph) (fr' : List Nat)
    (hp : PInv g0 g fr) (h : packObjects g fr = some (ok, g', fr')) : PInv g0 g' fr' := by
  rcases packObjects_cases g fr _ h with ⟨g1, hb, he⟩ | ⟨g1, hb, ht⟩
  · simp only [Prod.mk.injEq] at he
    obtain ⟨_, rfl, rfl⟩ := he
    exact pinv_basicSort g0 g g' _ true hb hp
  · exact pinv_packTail g0 g1 fr ok g' fr' (pinv_basicSort g0 g g1 fr false hb hp) ht

theorem packObjects_simulates (g : Graph) (fresh : List Nat) (ok : Bool) (g' : Graph) (fresh' : List Nat)
    (hf : FreshFor g fresh) (h : packObjects g fresh = some (ok, g', fresh')) :
    ∃ φ, Simulates g' g φ ∧ φ g'.root = g.root := by
  obtain ⟨φ, hinv, h1, _⟩ := pinv_packObjects g g fresh ok g' fresh' (pinv_init g fresh hf) h
  exact ⟨φ, hinv.sim, h1⟩

/-- for a graph straight out of `from_objects` the cached parents are empty: fresh ids only have to
avoid the object ids and the link targets -/
theorem freshFor_fromObjects (objs : Map Obj) (root : Nat) (fresh : List Nat) (hnd : fresh.Nodup)
    (hroot : root ∉ fresh) (hk : ∀ kv ∈ objs, kv.1 ∉ fresh ∧ ∀ l ∈ kv.2.links, l.target ∉ fresh) :
    FreshFor (Graph.fromObjects objs root) fresh := by
  refine ⟨hnd, hroot, ?_⟩
  intro n hn
  refine ⟨?_, ?_, ?_⟩
  · cases hf : (Graph.fromObjects objs root).objects.find? n with
    | none => rfl
    | some o => exact absurd hn (hk (n, o) (Map.find?_mem objs n o hf)).1
  · intro x l hl he
    exact forall_links_of_objects (g := Graph.fromObjects objs root) (P := fun _ l => l.target ∉ fresh)
      (fun kv hkv => (hk kv hkv).2) x l hl (he ▸ hn)
  · intro x p hp
    rw [node_parents_eq] at hp
    unfold parentsOf Graph.fromObjects at hp
    simp only [] at hp
    rw [Map.find?_mapVal objs (fun o => Node.new o.size)] at hp
    cases hx : objs.find? x with
    | none => rw [hx] at hp; exact absurd hp List.not_mem_nil
    | some o => rw [hx] at hp; exact absurd hp List.not_mem_nil

end FontVerif.Graph
