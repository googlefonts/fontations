/- helper lemmas for Props/C03Interp.lean: the pieces of IUP that are one function on both sides, the narrower
   ranges inside the wider ones, a move by a difference both sides compute, the sums and quotients of ISECT, and
   the two zone calls of IUP from their kernels. -/
import FontVerif.Props.C03Vec
import FontVerif.Model.HintInterp
import FontVerif.Model.FtInterp
namespace FontVerif.C03
open FontVerif.Tt

theorem mapM_some_of_forall {α β : Type} (f : α → Option β) (g : α → β) :
    ∀ l : List α, (∀ x ∈ l, f x = some (g x)) → l.mapM f = some (l.map g) := fun l h =>
  (mapM_eq_some_iff f l _).2 (by rw [List.map_map]; exact List.map_congr_left h)

theorem co_eq (ax : Bool) (v : Vec) : HintInterp.co ax v = FtInterp.co ax v := rfl
theorem setCo_eq (ax : Bool) (v : Vec) (c : Int) : HintInterp.setCo ax v c = FtInterp.setCo ax v c := rfl
theorem touched_eq (ax : Bool) (p : ZPt) : HintInterp.touched ax p = FtInterp.touched ax p := rfl
theorem orderRefs_eq (ax : Bool) (a b : ZPt) : HintInterp.orderRefs ax a b = FtInterp.orderRefs ax a b := rfl
theorem isTouched_eq (ax : Bool) (pts : List ZPt) (i : Nat) :
    HintInterp.isTouched ax pts i = FtInterp.isTouched ax pts i := rfl

theorem skipUntouched_eq (ax : Bool) (pts : List ZPt) : ∀ (fuel point endp : Nat),
    HintInterp.skipUntouched ax pts fuel point endp = FtInterp.skipUntouched ax pts fuel point endp := by
  intro fuel
  induction fuel with
  | zero => intro p e; rfl
  | succ n ih =>
    intro p e
    simp only [HintInterp.skipUntouched, FtInterp.skipUntouched, isTouched_eq, ih]

theorem co_dist29 (ax : Bool) {v : Vec} (hv : Dist29 v.x ∧ Dist29 v.y) : Dist29 (FtInterp.co ax v) := by
  unfold FtInterp.co; split; exact hv.1; exact hv.2

/-- a position within ±2^20 (`Pos20`, and `MPos20` read as a vector) is within ±2^29. -/
theorem pos29_of_20 {v : Vec} (h : (-1048576 ≤ v.x ∧ v.x ≤ 1048576) ∧ (-1048576 ≤ v.y ∧ v.y ≤ 1048576)) :
    Pos29 v := by
  unfold Pos29 Dist29; omega

theorem mpos29_of_20 {p : HintVec.MPt} (h : MPos20 p) : MPos29 p := by
  unfold MPos20 at h; unfold MPos29 Dist29; omega

theorem move_sub_eq (g : HintVec.Proj) (bc iup : Bool) (p : HintVec.MPt) {a b : Int} (hg : ProjOk g)
    (hp : MPos29 p) (hd : Dist24 (a - b)) :
    HintVec.movePoint g bc iup p (HintMove.wsub a b) = FtVec.funcMove (toFuncs g) bc iup p (FtCalc.subLong a b) := by
  have h := sub_fits (a := a) (b := b) (by unfold Dist24 at hd; unfold inI32; omega)
  rw [h.1, h.2]
  exact move_point_eq g bc iup p _ hg hp hd

theorem muldiv64 (a b : Int) (ha : -32768 ≤ a ∧ a ≤ 32768) (hb : -32768 ≤ b ∧ b ≤ 32768) :
    HintMath.mulDiv a b 64 = FtCalc.mulDiv a b 64 ∧
    -16777217 ≤ FtCalc.mulDiv a b 64 ∧ FtCalc.mulDiv a b 64 ≤ 16777217 :=
  muldiv_exact_of_le (A := 32768) (B := 32768) (m := 64) ⟨by omega, by omega⟩ ⟨by omega, by omega⟩ (by decide)
    (iabs_le_of ha) (iabs_le_of hb) (by decide) (by decide) (by decide)

/-- ISECT's discriminant, dot product and numerator. -/
theorem cross64_eq (p q r s : Int) (hp : -32768 ≤ p ∧ p ≤ 32768) (hq : -32768 ≤ q ∧ q ≤ 32768)
    (hr : -32768 ≤ r ∧ r ≤ 32768) (hs : -32768 ≤ s ∧ s ≤ 32768) :
    HintMove.wadd (HintMath.mulDiv p q 64) (HintMath.mulDiv r s 64)
      = FtCalc.addLong (FtCalc.mulDiv p q 64) (FtCalc.mulDiv r s 64) ∧
    -33554434 ≤ FtCalc.addLong (FtCalc.mulDiv p q 64) (FtCalc.mulDiv r s 64) ∧
    FtCalc.addLong (FtCalc.mulDiv p q 64) (FtCalc.mulDiv r s 64) ≤ 33554434 := by
  have m1 := muldiv64 p q hp hq
  have m2 := muldiv64 r s hr hs
  have h := add_fits (a := FtCalc.mulDiv p q 64) (b := FtCalc.mulDiv r s 64) ⟨by omega, by omega⟩
  rw [m1.1, m2.1, h.1, h.2]
  omega

/-- FreeType's quotient may need more than 32 bits (nearly parallel lines in ISECT). -/
theorem wadd_muldiv (p a b c : Int) (hp : inI32 p) (ha : inI32 a) (hb : inI32 b) (hc : inI32 c) :
    HintMove.wadd p (HintMath.mulDiv a b c) = wrapI32 (FtCalc.addLong p (FtCalc.mulDiv a b c)) := by
  have h := ft_muldiv_i64 a b c ha hb hc
  unfold inI32 at hp
  unfold HintMove.wadd FtCalc.addLong HintMath.mulDiv
  rw [muldiv_eq a b c ha hb hc, wrapI32_add_wrap, wrapI64_of_in (by omega) (by omega)]

/-- skrifa adds left to right in 32 bits, FreeType pairwise in 64. -/
theorem mean4_eq (p q r s : Int) (hp : -16384 ≤ p ∧ p ≤ 16384) (hq : -16384 ≤ q ∧ q ≤ 16384)
    (hr : -16384 ≤ r ∧ r ≤ 16384) (hs : -16384 ≤ s ∧ s ≤ 16384) :
    Int.tdiv (HintMove.wadd (HintMove.wadd (HintMove.wadd p q) r) s) 4 =
      wrapI32 (Int.tdiv (FtCalc.addLong (FtCalc.addLong p q) (FtCalc.addLong r s)) 4) := by
  unfold HintMove.wadd FtCalc.addLong
  rw [wrapI32_of_in (x := p + q) (by omega) (by omega), wrapI32_of_in (x := p + q + r) (by omega) (by omega),
    wrapI32_of_in (x := p + q + r + s) (by omega) (by omega), wrapI64_of_in (x := p + q) (by omega) (by omega),
    wrapI64_of_in (x := r + s) (by omega) (by omega), wrapI64_of_in (x := p + q + (r + s)) (by omega) (by omega),
    show p + q + r + s = p + q + (r + s) by omega, tdiv_by_sign]
  exact (wrapI32_of_in (by split <;> omega) (by split <;> omega)).symm

/-- a zone call agrees when its kernel agrees, on every point of the zone, for any two references with a
property `P` that the two references have (the call orders them by their unscaled coordinate). -/
theorem interpolate_of_kernel {P : ZPt → Prop} (ax : Bool) (pts : List ZPt) (p1 p2 ref1 ref2 : Nat)
    (h1 : ∀ r, pts[ref1]? = some r → P r) (h2 : ∀ r, pts[ref2]? = some r → P r)
    (hk : ∀ a b, P a → P b → ∀ q ∈ pts,
      HintInterp.interpCoord ax a b (FtInterp.co ax q.org) (FtInterp.co ax q.orus) =
        some (FtInterp.interpCoord ax a b (FtInterp.co ax q.org) (FtInterp.co ax q.orus))) :
    HintInterp.iupInterpolate ax pts p1 p2 ref1 ref2 = some (FtInterp.iupInterpolate ax pts p1 p2 ref1 ref2) := by
  unfold HintInterp.iupInterpolate FtInterp.iupInterpolate
  by_cases hp : p1 > p2
  · rw [if_pos hp, if_pos hp]
  · rw [if_neg hp, if_neg hp]
    by_cases hl : ref1 ≥ pts.length ∨ ref2 ≥ pts.length
    · rw [if_pos hl, if_pos hl]
    · rw [if_neg hl, if_neg hl]
      cases hr1 : pts[ref1]? with
      | none => rfl
      | some r1 =>
        cases hr2 : pts[ref2]? with
        | none => rfl
        | some r2 =>
          have hP : P (FtInterp.orderRefs ax r1 r2).1 ∧ P (FtInterp.orderRefs ax r1 r2).2 := by
            unfold FtInterp.orderRefs; split
            · exact ⟨h2 r2 hr2, h1 r1 hr1⟩
            · exact ⟨h1 r1 hr1, h2 r2 hr2⟩
          simp only [orderRefs_eq]
          generalize FtInterp.orderRefs ax r1 r2 = rr at hP
          apply mapM_some_of_forall
          intro ⟨q, i⟩ hq
          have hqm : q ∈ pts := List.fst_mem_of_mem_zipIdx hq
          simp only []
          split
          · simp only [co_eq, hk _ _ hP.1 hP.2 q hqm, Option.map_some, setCo_eq]
          · rfl

/-- the shift of a contour agrees when the touched point's two coordinates and the current coordinate of every
shifted point are within ±2^29. -/
theorem shift_of_kernel (ax : Bool) (pts : List ZPt) (p1 p2 p : Nat) (hord : p1 ≤ p ∧ p ≤ p2)
    (hr : ∀ r, pts[p]? = some r → Dist29 (FtInterp.co ax r.cur) ∧ Dist29 (FtInterp.co ax r.org))
    (hq : ∀ i q, pts[i]? = some q → p1 ≤ i → i ≤ p2 → i ≠ p → Dist29 (FtInterp.co ax q.cur)) :
    HintInterp.iupShift ax pts p1 p2 p = some (FtInterp.iupShift ax pts p1 p2 p) := by
  unfold HintInterp.iupShift FtInterp.iupShift
  have hg : ¬ (p1 > p2 ∨ p1 > p ∨ p > p2) := by omega
  simp only [hg, if_false]
  cases hp : pts[p]? with
  | none => rfl
  | some r =>
    obtain ⟨hrc, hro⟩ := hr r hp
    unfold Dist29 at hrc hro
    have s := sub_fits (a := FtInterp.co ax r.cur) (b := FtInterp.co ax r.org) ⟨by omega, by omega⟩
    simp only [co_eq, s.1, s.2]
    by_cases hd : FtInterp.co ax r.cur - FtInterp.co ax r.org = 0
    · simp only [hd, if_true]
    · simp only [hd, if_false]
      apply mapM_some_of_forall
      intro ⟨q, i⟩ hm
      have hqe : pts[i]? = some q := List.mem_zipIdx_iff_getElem?.mp hm
      simp only []
      -- skrifa tests `i ≠ p` inside one range, FreeType walks the two ranges around `p`
      have hc : (p1 ≤ i ∧ i ≤ p2 ∧ i ≠ p) ↔ ((p1 ≤ i ∧ i < p) ∨ (p + 1 ≤ i ∧ i ≤ p2)) := by omega
      by_cases hin : p1 ≤ i ∧ i ≤ p2 ∧ i ≠ p
      · have hqc := hq i q hqe hin.1 hin.2.1 hin.2.2
        unfold Dist29 at hqc
        have e := add_fits (a := FtInterp.co ax q.cur) (b := FtInterp.co ax r.cur - FtInterp.co ax r.org)
          ⟨by omega, by omega⟩
        rw [if_pos hin, if_pos (hc.mp hin), e.1, e.2, setCo_eq]
      · rw [if_neg hin, if_neg (fun h => hin (hc.mpr h))]

end FontVerif.C03
