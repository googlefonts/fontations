/-
The termination argument for the scan loops of Model/LoopIter.lean.

The contract of one execution of a loop body is stated as a predicate on its OUTCOME (`ScanOK`, `AdvOK`, `StepG`),
defined by cases on `brk` / `cont` / `exit` / `stuck` / `trap`.  A generated body is a tree of `if`s whose leaves are
outcomes with a state literal, so its contract is proved by splitting the tree: on each leaf the predicate reduces
to linear arithmetic.  A loop over a contour terminates by a measure (`iter_scan`), and for the cyclic scans the
measure is the cyclic distance `cdist` between the right pair of indices.
-/
import FontVerif.Model.LoopIter
import FontVerif.Model.FindLastContour
import FontVerif.Lemmas.Ite
namespace FontVerif.LoopIterLemmas
open FontVerif.LoopIter

/-- the cyclic successor of `last` in `0..n`, as the Rust writes it:
`if last < best_contour.len() - 1 { last += 1 } else { last = 0 }` -/
def next (s : St) : Nat := if s.last < s.n - 1 then s.last + 1 else 0

/-- The contract of one body execution of a cyclic scan loop over contours of `N` points, each body execution
costing at most `c` ticks: from a state with both indices in range, the body either breaks (in range, `n`
unchanged) or continues with `last` advanced cyclically, `last ≠ segFirst`, `segFirst` and `n` unchanged.
In particular it never reports `.stuck`. -/
def Advances (N c : Nat) (step : St → Out) : Prop :=
  ∀ s : St, s.n = N → s.last < s.n → s.segFirst < s.n →
    (∃ s', step s = .brk s' ∧ s'.n = s.n ∧ s'.last < s.n ∧ s.tick < s'.tick ∧ s'.tick ≤ s.tick + c) ∨
    (∃ s', step s = .cont s' ∧ s'.n = s.n ∧ s'.segFirst = s.segFirst ∧ s'.last = next s ∧
        s'.last ≠ s.segFirst ∧ s.tick < s'.tick ∧ s'.tick ≤ s.tick + c)

theorem cnext_spec (n i : Nat) : (i + 1 < n ∧ cnext n i = i + 1) ∨ (n ≤ i + 1 ∧ cnext n i = 0) := by
  unfold cnext; split <;> omega

theorem cprev_spec (n i : Nat) : (0 < i ∧ cprev n i = i - 1) ∨ (i = 0 ∧ cprev n i = n - 1) := by
  unfold cprev; split <;> omega

theorem cnext_lt (n i : Nat) (h : 0 < n) : cnext n i < n := by
  have := cnext_spec n i; omega

theorem cprev_lt (n i : Nat) (hi : i < n) : cprev n i < n := by
  have := cprev_spec n i; omega

theorem cycleIx_lt (len start ix : Nat) (h : 0 < len) : cycleIx len start ix < len := Nat.mod_lt _ h

theorem next_eq (s : St) : next s = cnext s.n s.last := by
  have := cnext_spec s.n s.last
  unfold next; split <;> omega

theorem next_lt (s : St) (hl : s.last < s.n) : next s < s.n := by
  rw [next_eq]; exact cnext_lt _ _ (by omega)

/-- `cnext` steps from `a` to `b` in `0..n`; read backwards, `cprev` steps from `b` to `a` -/
def cdist (n a b : Nat) : Nat := if a ≤ b then b - a else b + n - a

theorem cdist_lt (n a b : Nat) (ha : a < n) (hb : b < n) : cdist n a b < n := by
  unfold cdist; split <;> omega

theorem cdist_cnext (n a b : Nat) (ha : a < n) (hb : b < n) (h : a ≠ b) :
    cdist n (cnext n a) b + 1 = cdist n a b := by
  have := cnext_spec n a
  unfold cdist; split <;> split <;> omega

theorem cdist_cprev (n a b : Nat) (ha : a < n) (hb : b < n) (h : a ≠ b) :
    cdist n b (cprev n a) + 1 = cdist n b a := by
  have := cprev_spec n a
  unfold cdist; split <;> split <;> omega

@[simp] def ScanOK (μ : St → Nat) (c : Nat) (s : St) : Out → Prop
  | .brk s' => s'.n = s.n ∧ s'.last < s.n ∧ s.tick < s'.tick ∧ s'.tick ≤ s.tick + c
  | .cont s' => s'.n = s.n ∧ s'.segFirst = s.segFirst ∧ s'.last < s.n ∧ μ s' < μ s ∧
      s.tick < s'.tick ∧ s'.tick ≤ s.tick + c
  | _ => False

theorem iter_scan (N c : Nat) (step : St → Out) (μ : St → Nat)
    (hstep : ∀ s, s.n = N → s.last < s.n → s.segFirst < s.n → ScanOK μ c s (step s)) :
    ∀ (fuel : Nat) (s : St), s.n = N → s.last < s.n → s.segFirst < s.n → μ s < fuel →
      ∃ s', iter step fuel s = some s' ∧ s'.n = s.n ∧ s'.last < s.n ∧ s.tick < s'.tick ∧
        s'.tick ≤ s.tick + (μ s + 1) * c := by
  intro fuel
  induction fuel with
  | zero => intro s _ _ _ hd; omega
  | succ f ih =>
    intro s hN hl hf hd
    have hs := hstep s hN hl hf
    unfold iter
    cases hst : step s with
    | brk s' =>
      rw [hst] at hs
      obtain ⟨hn, hl', ht0, ht⟩ := hs
      have : c ≤ (μ s + 1) * c := Nat.le_mul_of_pos_left c (by omega)
      exact ⟨s', rfl, hn, hl', ht0, by omega⟩
    | cont s' =>
      rw [hst] at hs
      obtain ⟨hn, hsf, hl', hμ, ht0, ht⟩ := hs
      obtain ⟨s'', hit, hn'', hl'', ht0'', ht''⟩ := ih s' (by omega) (by omega) (by omega) (by omega)
      have h1 : (μ s' + 1 + 1) * c ≤ (μ s + 1) * c := Nat.mul_le_mul_right c (by omega)
      rw [Nat.succ_mul] at h1
      exact ⟨s'', hit, by omega, by omega, by omega, by omega⟩
    | stuck => rw [hst] at hs; exact hs.elim
    | trap => rw [hst] at hs; exact hs.elim

theorem iter_scan_contour (c : Nat) (step : St → Out) (μ : St → Nat) (s : St)
    (hstep : ∀ t, t.n = s.n → t.last < t.n → t.segFirst < t.n → ScanOK μ c t (step t))
    (hl : s.last < s.n) (hf : s.segFirst < s.n) (hμ : μ s < s.n) :
    ∃ s', iter step (s.n + 1) s = some s' ∧ s'.n = s.n ∧ s'.last < s.n ∧ s.tick < s'.tick ∧
      s'.tick ≤ s.tick + s.n * c := by
  obtain ⟨s', h1, h2, h3, h4, h5⟩ := iter_scan s.n c step μ hstep (s.n + 1) s rfl hl hf (by omega)
  have : (μ s + 1) * c ≤ s.n * c := Nat.mul_le_mul_right c hμ
  exact ⟨s', h1, h2, h3, h4, by omega⟩

@[simp] def AdvOK (c : Nat) (s : St) : Out → Prop
  | .brk s' => s'.n = s.n ∧ s'.last < s.n ∧ s.tick < s'.tick ∧ s'.tick ≤ s.tick + c
  | .cont s' => s'.n = s.n ∧ s'.segFirst = s.segFirst ∧ s'.last = next s ∧ s'.last ≠ s.segFirst ∧
      s.tick < s'.tick ∧ s'.tick ≤ s.tick + c
  | _ => False

theorem advances_of {N c : Nat} {step : St → Out}
    (h : ∀ s, s.n = N → s.last < s.n → s.segFirst < s.n → AdvOK c s (step s)) : Advances N c step := by
  intro s hN hl hf
  have hs := h s hN hl hf
  generalize step s = out at hs
  cases out with
  | brk s' => exact .inl ⟨s', rfl, hs⟩
  | cont s' => exact .inr ⟨s', rfl, hs⟩
  | stuck => exact hs.elim
  | trap => exact hs.elim

/-- the measure is the distance from the NEXT position to `segFirst` -/
theorem iter_advances (N c : Nat) (step : St → Out) (hstep : Advances N c step) (s : St)
    (hN : s.n = N) (hl : s.last < s.n) (hf : s.segFirst < s.n) :
    ∃ s', iter step (s.n + 1) s = some s' ∧ s'.n = s.n ∧ s'.last < s.n ∧ s.tick < s'.tick ∧
      s'.tick ≤ s.tick + s.n * c := by
  refine iter_scan_contour c step (fun s => cdist s.n (cnext s.n s.last) s.segFirst) s ?_ hl hf
    (cdist_lt _ _ _ (cnext_lt _ _ (by omega)) hf)
  intro t hN' hl hf
  have hc := cnext_lt t.n t.last (by omega)
  rcases hstep t (hN' ▸ hN) hl hf with ⟨t', hs, h⟩ | ⟨t', hs, hn, hsf, hnx, hne, ht⟩
  · rw [hs]; exact h
  · rw [next_eq] at hnx
    have hd := cdist_cnext t.n (cnext t.n t.last) t.segFirst hc hf (hnx ▸ hne)
    rw [hs]
    refine ⟨hn, hsf, hnx ▸ hc, ?_, ht⟩
    show cdist t'.n (cnext t'.n t'.last) t'.segFirst < cdist t.n (cnext t.n t.last) t.segFirst
    rw [hn, hsf, hnx]; omega

@[simp] def StepG {σ : Type} (Inv : σ → Prop) (μ : σ → Nat) (R : σ → σ → Prop) (Qb Qe : σ → Prop) (s : σ) :
    OutG σ → Prop
  | .brk s' => R s s' ∧ Qb s'
  | .exit s' => R s s' ∧ Qe s'
  | .cont s' => Inv s' ∧ R s s' ∧ μ s' < μ s
  | _ => False

/-- **Termination of `iterG` by a measure**, with a transitive relation `R` between the entry state and the state at
the exit, and postconditions for the two kinds of exit. -/
theorem iterG_measure {σ : Type} (step : σ → OutG σ) (Inv : σ → Prop) (μ : σ → Nat) (R : σ → σ → Prop)
    (Qb Qe : σ → Prop) (htrans : ∀ a b c, R a b → R b c → R a c)
    (hstep : ∀ s, Inv s → StepG Inv μ R Qb Qe s (step s)) :
    ∀ (fuel : Nat) (s : σ), Inv s → μ s < fuel →
      ∃ e s', iterG step fuel s = some (e, s') ∧ R s s' ∧ (if e then Qe s' else Qb s') := by
  intro fuel
  induction fuel with
  | zero => intro s _ hd; omega
  | succ f ih =>
    intro s hI hd
    have hs := hstep s hI
    unfold iterG
    cases hst : step s with
    | brk s' => rw [hst] at hs; exact ⟨false, s', rfl, hs.1, by simpa using hs.2⟩
    | exit s' => rw [hst] at hs; exact ⟨true, s', rfl, hs.1, by simpa using hs.2⟩
    | cont s' =>
      rw [hst] at hs
      obtain ⟨e, s'', hit, hr', hq⟩ := ih s' hs.1 (by have := hs.2.2; omega)
      exact ⟨e, s'', hit, htrans _ _ _ hs.2.1 hr', hq⟩
    | stuck => rw [hst] at hs; exact hs.elim
    | trap => rw [hst] at hs; exact hs.elim

theorem iterG_measure_brk {σ : Type} (step : σ → OutG σ) (Inv : σ → Prop) (μ : σ → Nat) (R : σ → σ → Prop)
    (htrans : ∀ a b c, R a b → R b c → R a c)
    (hstep : ∀ s, Inv s → StepG Inv μ R (fun _ => True) (fun _ => False) s (step s))
    (fuel : Nat) (s : σ) (hI : Inv s) (hd : μ s < fuel) : ∃ s', iterG step fuel s = some (false, s') ∧ R s s' := by
  obtain ⟨e, s', h1, h2, h3⟩ := iterG_measure step Inv μ R _ _ htrans hstep fuel s hI hd
  cases e
  · exact ⟨s', h1, h2⟩
  · simp at h3

/-- measure of the main loop of `build_segments`: before `passed` is set a whole turn is still to come -/
def segMainMeasure (s : StF) : Nat := (if s.flag then 0 else s.n) + cdist s.n s.last s.segFirst

/-- "the counter only grows": relation between the state at the entry of a counting loop and at its exit -/
def Grows (s s' : St) : Prop := s'.segFirst = s.segFirst ∧ s.last ≤ s'.last ∧ s'.n = s.n

theorem grows_trans (a b c : St) (h1 : Grows a b) (h2 : Grows b c) : Grows a c := by
  unfold Grows at *; omega

/-- loop invariant of `find_last_contour` (Model/FindLastContour.lean) at the top of iteration `p` -/
def FlcInv (isStart : Nat → Bool) (len p : Nat) (st : FontVerif.FindLastContour.FS) : Prop :=
  st.cS ≤ st.cE ∧ st.cE ≤ p ∧ st.bE ≤ p ∧
  (p < len → isStart p = false → st.cE = p) ∧
  (st.found = true → st.cS + st.bP < st.cE) ∧
  (st.found = false → st.bS < st.bE → st.bS + st.bP < st.bE)

end FontVerif.LoopIterLemmas
