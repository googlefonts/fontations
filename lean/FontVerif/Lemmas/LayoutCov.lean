/-
Helper lemmas for C16: well-formed range records, `CoverageFormat2::get` on them,
`RangeRecord::iter_for_glyphs` produces them, `split_range_record` / `split_coverage` on them.
-/
import FontVerif.Lemmas.Layout
namespace FontVerif.Layout

/-- range records as `iter_for_glyphs` makes them: non-empty, increasing, disjoint, and the
`start_coverage_index` of each is the number of glyphs before it (plus `c`). -/
def WFRanges : Nat → List RangeRec → Prop
  | _, [] => True
  | c, r :: rs =>
    r.start ≤ r.end_ ∧ r.startCov = c ∧ (∀ r' ∈ rs, r.end_ < r'.start) ∧
      WFRanges (c + (r.end_ - r.start + 1)) rs

theorem wf_start_le_end {c : Nat} {rs : List RangeRec} (h : WFRanges c rs) :
    ∀ r ∈ rs, r.start ≤ r.end_ := by
  induction rs generalizing c with
  | nil => intro r hr; cases hr
  | cons r0 rest ih =>
    intro r hr
    rcases List.mem_cons.mp hr with rfl | hr
    · exact h.1
    · exact ih h.2.2.2 r hr

theorem wf_pairwise {c : Nat} {rs : List RangeRec} (h : WFRanges c rs) :
    rs.Pairwise (fun a b => a.end_ < b.start) := by
  induction rs generalizing c with
  | nil => exact List.Pairwise.nil
  | cons r0 rest ih => exact List.pairwise_cons.mpr ⟨h.2.2.1, ih h.2.2.2⟩

theorem wf_cov_ge {c : Nat} {rs : List RangeRec} (h : WFRanges c rs) :
    ∀ r ∈ rs, c ≤ r.startCov := by
  induction rs generalizing c with
  | nil => intro r hr; cases hr
  | cons r0 rest ih =>
    intro r hr
    rcases List.mem_cons.mp hr with rfl | hr
    · exact Nat.le_of_eq h.2.1.symm
    · have := ih h.2.2.2 r hr; omega

theorem wf_startCov_le {c : Nat} {rs : List RangeRec} (h : WFRanges c rs)
    (hc : ∀ r ∈ rs, c ≤ r.start) : ∀ r ∈ rs, r.startCov ≤ r.start := by
  induction rs generalizing c with
  | nil => intro r hr; cases hr
  | cons r0 rest ih =>
    intro r hr
    have h0 := hc r0 (List.mem_cons_self ..)
    rcases List.mem_cons.mp hr with rfl | hr
    · have := h.2.1; omega
    · apply ih h.2.2.2 _ r hr
      intro r' hr'
      have := h.2.2.1 r' hr'
      have := h.1
      omega

theorem indexIn_expand_hit {c g : Nat} {rs : List RangeRec} (h : WFRanges c rs) {r : RangeRec}
    (hr : r ∈ rs) (hg : r.start ≤ g ∧ g ≤ r.end_) :
    ∃ i, indexIn g (expandRanges rs) = some i ∧ i + c = r.startCov + (g - r.start) := by
  induction rs generalizing c with
  | nil => cases hr
  | cons r0 rest ih =>
    simp only [expandRanges, indexIn_append, RangeRec.glyphs, indexIn_range']
    rcases List.mem_cons.mp hr with rfl | hr
    · have h1 := h.1
      have h2 := h.2.1
      have : r.start ≤ g ∧ g < r.start + (r.end_ + 1 - r.start) := by omega
      simp only [this, and_self, ↓reduceIte]
      exact ⟨g - r.start, rfl, by omega⟩
    · have hlt := h.2.2.1 r hr
      have : ¬ (r0.start ≤ g ∧ g < r0.start + (r0.end_ + 1 - r0.start)) := by omega
      simp only [this, ↓reduceIte]
      obtain ⟨i, hi, he⟩ := ih h.2.2.2 hr
      refine ⟨i + (r0.end_ + 1 - r0.start), ?_, ?_⟩
      · simp [hi]
      · have := h.1; omega

theorem indexIn_expand_miss {g : Nat} {rs : List RangeRec}
    (h : ∀ r ∈ rs, ¬ (r.start ≤ g ∧ g ≤ r.end_)) : indexIn g (expandRanges rs) = none := by
  induction rs with
  | nil => rfl
  | cons r0 rest ih =>
    simp only [expandRanges, indexIn_append, RangeRec.glyphs, indexIn_range']
    have h0 := h r0 (List.mem_cons_self ..)
    have : ¬ (r0.start ≤ g ∧ g < r0.start + (r0.end_ + 1 - r0.start)) := by omega
    simp only [this, ↓reduceIte]
    rw [ih (fun r hr => h r (List.mem_cons_of_mem _ hr))]
    rfl

theorem mem_expandRanges {rs : List RangeRec} {g : Nat} :
    g ∈ expandRanges rs ↔ ∃ r ∈ rs, r.start ≤ g ∧ g ≤ r.end_ := by
  induction rs with
  | nil => simp [expandRanges]
  | cons r0 rest ih =>
    simp only [expandRanges, List.mem_append, ih, RangeRec.glyphs, List.mem_range'_1, List.mem_cons,
      exists_eq_or_imp]
    exact or_congr_left ⟨fun h => ⟨h.1, by omega⟩, fun h => ⟨h.1, by omega⟩⟩

theorem wf_expand_sorted {c : Nat} {rs : List RangeRec} (h : WFRanges c rs) :
    (expandRanges rs).Pairwise (· < ·) := by
  induction rs generalizing c with
  | nil => exact List.Pairwise.nil
  | cons r0 rest ih =>
    obtain ⟨h1, h2, h3, h4⟩ := h
    rw [expandRanges, List.pairwise_append]
    refine ⟨List.pairwise_lt_range', ih h4, fun a ha b hb => ?_⟩
    rw [RangeRec.glyphs, List.mem_range'_1] at ha
    obtain ⟨r, hr, hin⟩ := mem_expandRanges.mp hb
    have := h3 r hr
    omega

theorem rangeCmp_mono {rs : List RangeRec} {c : Nat} (h : WFRanges c rs) (g : Nat) :
    Mono rs.length (fun i => rangeCmp (rs.getD i default) g) := by
  have hp : rs.Pairwise (fun a b => b.start ≤ b.end_ ∧ a.end_ < b.start) :=
    (wf_pairwise h).imp_of_mem fun _ hb hab => ⟨wf_start_le_end h _ hb, hab⟩
  refine mono_of_pairwise rs default (rangeCmp · g) hp fun a b hab => ?_
  -- either `g` lies before record `b`, which then compares `Greater`, or after record `a`
  by_cases hg : b.start ≤ g
  · rw [show rangeCmp a g = .lt from if_pos (by omega)]; exact Nat.zero_le _
  · rw [show rangeCmp b g = .gt by rw [rangeCmp, if_neg (by omega), if_pos (by omega)]]
    exact rank_le_two _

/-- `CoverageFormat2::get` on well-formed records is "position in the expansion" -/
theorem get_fmt2 {rs : List RangeRec} (h : WFRanges 0 rs) (hb : ∀ r ∈ rs, r.end_ < 65536)
    (g : Nat) : (Coverage.fmt2 rs).get g = indexIn g (expandRanges rs) := by
  unfold Coverage.get
  by_cases hg : g ≥ 65536
  · simp only [hg, ↓reduceIte]
    exact (indexIn_expand_miss (fun r hr => by have := hb r hr; omega)).symm
  · simp only [hg, ↓reduceIte]
    have hm := rangeCmp_mono h g
    cases hr : binarySearchBy rs.length (fun i => rangeCmp (rs.getD i default) g) with
    | ok i =>
      have ⟨hi, he⟩ := BinSearch.ok_lt hr
      have ei : rs.getD i default = rs[i] := by simp [List.getD, List.getElem?_eq_getElem hi]
      simp only [ei] at he ⊢
      have hin := rangeCmp_eq.mp he
      have hmem : rs[i] ∈ rs := List.getElem_mem hi
      obtain ⟨k, hk, hke⟩ := indexIn_expand_hit h hmem hin
      have hle := wf_startCov_le h (fun _ _ => Nat.zero_le _) rs[i] hmem
      have : rs[i].startCov + (g - rs[i].start) < 65536 := by omega
      simp only [this, ↓reduceIte, hk]
      congr 1; omega
    | err i =>
      have hne := bs_err_no_eq hm hr
      have : ∀ r ∈ rs, ¬ (r.start ≤ g ∧ g ≤ r.end_) := by
        intro r hr hin
        obtain ⟨k, hk, hke⟩ := List.getElem_of_mem hr
        apply hne k hk
        have ek : rs.getD k default = rs[k] := by simp [List.getD, List.getElem?_eq_getElem hk]
        simp only [ek, hke]
        exact rangeCmp_eq.mpr hin
      simp [indexIn_expand_miss this]

/-- merging runs loses no glyph; this holds of ANY glyph list -/
theorem expandRanges_rangesGo : ∀ (rest : List Nat) (a b len : Nat), a ≤ b →
    expandRanges (rangesGo a b len rest) = List.range' a (b + 1 - a) ++ rest
  | [], a, b, len, _ => by rw [rangesGo, expandRanges, expandRanges, RangeRec.glyphs]
  | g :: rest, a, b, len, hab => by
    rw [rangesGo]
    by_cases hseq : areSequential b g = true
    · rw [if_pos hseq, (areSequential_iff b g).mp hseq,
        expandRanges_rangesGo rest a (b + 1) len (Nat.le_succ_of_le hab),
        (by omega : b + 1 + 1 - a = (b + 1 - a) + 1), List.range'_concat, List.append_assoc,
        (by omega : a + 1 * (b + 1 - a) = b + 1)]
      rfl
    · rw [if_neg hseq, expandRanges, expandRanges_rangesGo rest g g _ (Nat.le_refl _), RangeRec.glyphs,
        Nat.add_sub_cancel_left]
      rfl

theorem rangesGo_ends : ∀ (rest : List Nat) (a b len : Nat), ∀ r ∈ rangesGo a b len rest, r.end_ ∈ b :: rest
  | [], a, b, len, r, hr => by rw [rangesGo, List.mem_singleton] at hr; rw [hr]; exact List.mem_cons_self ..
  | g :: rest, a, b, len, r, hr => by
    rw [rangesGo] at hr
    by_cases hseq : areSequential b g = true
    · rw [if_pos hseq] at hr
      exact List.mem_cons_of_mem _ (rangesGo_ends rest a g len r hr)
    · rw [if_neg hseq] at hr
      rcases List.mem_cons.mp hr with rfl | hr
      · exact List.mem_cons_self ..
      · exact List.mem_cons_of_mem _ (rangesGo_ends rest g g _ r hr)

/-- on ascending glyphs (the open run's last glyph `b` in front) the records are well formed and none
starts before the open run -/
theorem rangesGo_wf : ∀ (rest : List Nat) (a b len : Nat), a ≤ b → (b :: rest).Pairwise (· < ·) →
    WFRanges len (rangesGo a b len rest) ∧ ∀ r ∈ rangesGo a b len rest, a ≤ r.start
  | [], a, b, len, hab, _ =>
    ⟨⟨hab, rfl, fun _ h => (nomatch h), trivial⟩, List.forall_mem_cons.mpr ⟨Nat.le_refl _, fun _ h => (nomatch h)⟩⟩
  | g :: rest, a, b, len, hab, hs => by
    obtain ⟨hgt, hs'⟩ := List.pairwise_cons.mp hs
    have hbg : b < g := hgt g (List.mem_cons_self ..)
    rw [rangesGo]
    by_cases hseq : areSequential b g = true
    · rw [if_pos hseq]
      exact rangesGo_wf rest a g len (Nat.le_trans hab (Nat.le_of_lt hbg)) hs'
    · rw [if_neg hseq]
      obtain ⟨w, st⟩ := rangesGo_wf rest g g (len + 1 + (b - a)) (Nat.le_refl _) hs'
      exact ⟨⟨hab, rfl, fun r hr => Nat.lt_of_lt_of_le hbg (st r hr),
          (by omega : len + 1 + (b - a) = len + (b - a + 1)) ▸ w⟩,
        List.forall_mem_cons.mpr ⟨Nat.le_refl _, fun r hr => Nat.le_trans (by omega) (st r hr)⟩⟩

theorem iterForGlyphs_spec {xs : List Nat} (hs : xs.Pairwise (· < ·)) :
    WFRanges 0 (iterForGlyphs xs) ∧ expandRanges (iterForGlyphs xs) = xs ∧
    (∀ r ∈ iterForGlyphs xs, r.end_ ∈ xs) := by
  cases xs with
  | nil => exact ⟨trivial, rfl, fun _ h => (nomatch h)⟩
  | cons g rest =>
    refine ⟨(rangesGo_wf rest g g 0 (Nat.le_refl _) hs).1, ?_, rangesGo_ends rest g g 0⟩
    rw [iterForGlyphs, expandRanges_rangesGo rest g g 0 (Nat.le_refl _), Nat.add_sub_cancel_left]
    rfl

/-! Range-cut arithmetic about plain numbers: `omega` on `min` / `max` of truncated differences is
slow inside the induction below. -/

theorem cut_end (a b c s eI : Nat) (h1 : a ≤ b) (hse : s ≤ eI) (hc : c ≤ eI) (hs : s ≤ c + (b - a)) :
    a + (s - c) + (min (c + (b - a)) eI - max c s) = b - (c + (b - a) - eI) := by
  grind

theorem cut_take_tail (n c s eI : Nat) :
    eI + 1 - max s c - (n - (s - c)) = eI + 1 - max s (c + n) := by
  rcases Nat.le_total s c with h | h
  · rw [Nat.max_eq_right h, Nat.max_eq_right (Nat.le_trans h (Nat.le_add_right c n)),
      Nat.sub_eq_zero_of_le h, Nat.sub_zero, Nat.sub_sub]
  · rw [Nat.max_eq_left h]
    rcases Nat.le_total s (c + n) with h' | h'
    · rw [Nat.max_eq_right h']; omega
    · rw [Nat.max_eq_left h', Nat.sub_eq_zero_of_le (by omega : n ≤ s - c), Nat.sub_zero]

theorem cut_disjoint (n c s eI : Nat) (hk : c > eI ∨ c + n ≤ s) :
    min (eI + 1 - max s c) (n - (s - c)) = 0 := by
  rcases hk with hk | hk
  · rw [Nat.sub_eq_zero_of_le (Nat.le_trans hk (Nat.le_max_right s c)), Nat.zero_min]
  · rw [Nat.sub_eq_zero_of_le (by omega : n ≤ s - c), Nat.min_zero]

theorem cut_count (a b c s eI : Nat) (h1 : a ≤ b) (hc : c ≤ eI) (hs : s ≤ c + (b - a)) :
    b - (c + (b - a) - eI) + 1 - (a + (s - c)) =
      min (eI + 1 - max s c) (b - a + 1 - (s - c)) := by
  grind

/-- closed form of `split_range_record` when nothing can trap -/
theorem splitRangeRecord_wf {r : RangeRec} {s eI : Nat} (h1 : r.start ≤ r.end_)
    (h2 : r.end_ < 65536) (h3 : r.startCov ≤ r.start) (hse : s ≤ eI) :
    splitRangeRecord r s eI = some
      (if r.startCov > eI ∨ r.startCov + (r.end_ - r.start) < s then none else
        some ⟨r.start + (s - r.startCov), r.end_ - (r.startCov + (r.end_ - r.start) - eI),
              r.startCov - s⟩) := by
  unfold splitRangeRecord subU16 addU16
  have a2 : r.startCov + (r.end_ - r.start) < 65536 := by omega
  simp only [h1, a2, ↓reduceIte, Option.bind_eq_bind, Option.bind_some, Option.pure_def,
    Bool.or_eq_true, decide_eq_true_eq]
  by_cases hc : r.startCov > eI ∨ r.startCov + (r.end_ - r.start) < s
  · simp only [hc, ↓reduceIte]
  · have b1 : r.start + (s - r.startCov) < 65536 := by omega
    have b2 : max r.startCov s ≤ min (r.startCov + (r.end_ - r.start)) eI := by omega
    have b3 := cut_end r.start r.end_ r.startCov s eI h1 hse (by omega) (by omega)
    simp only [hc, ↓reduceIte, b1, b2, b3, Option.bind_some, (by omega :
      r.end_ - (r.startCov + (r.end_ - r.start) - eI) < 65536)]

theorem splitRecords_wf {s eI : Nat} (hse : s ≤ eI) (rs : List RangeRec) : ∀ (c : Nat),
    WFRanges c rs → (∀ r ∈ rs, r.end_ < 65536) → (∀ r ∈ rs, c ≤ r.start) →
    ∃ rs', splitRecords s eI rs = some rs' ∧ WFRanges (c - s) rs' ∧ (c > eI → rs' = []) ∧
      (∀ r' ∈ rs', ∃ r ∈ rs, r.start ≤ r'.start ∧ r'.end_ ≤ r.end_) ∧
      expandRanges rs' = ((expandRanges rs).drop (s - c)).take (eI + 1 - max s c) := by
  induction rs with
  | nil =>
    intro c _ _ _
    exact ⟨[], rfl, trivial, fun _ => rfl, fun _ h => (nomatch h),
      by rw [expandRanges, List.drop_nil, List.take_nil]⟩
  | cons r0 rest ih =>
    intro c hwf hb hc
    obtain ⟨h1, h2, h3, h4⟩ := hwf
    subst h2
    have hb0 := hb r0 (List.mem_cons_self ..)
    have hc0 := hc r0 (List.mem_cons_self ..)
    obtain ⟨rest', e1, w1, n1, s1, x1⟩ := ih (r0.startCov + (r0.end_ - r0.start + 1)) h4
      (fun r hr => hb r (List.mem_cons_of_mem _ hr))
      (fun r hr => by have := h3 r hr; omega)
    have s1' : ∀ r' ∈ rest', ∃ r ∈ r0 :: rest, r.start ≤ r'.start ∧ r'.end_ ≤ r.end_ := fun r' hr' =>
      have ⟨r, hr, hh⟩ := s1 r' hr'
      ⟨r, List.mem_cons_of_mem _ hr, hh⟩
    rw [expandRanges, RangeRec.glyphs, List.drop_append, List.take_append, List.drop_range',
      take_range', Nat.min_comm, List.length_range', List.length_range', Nat.mul_one, Nat.sub_add_comm h1,
      Nat.sub_sub s, cut_take_tail, ← x1]
    simp only [splitRecords, Option.bind_eq_bind, Option.pure_def, e1, Option.bind_some,
      splitRangeRecord_wf h1 hb0 hc0 hse]
    by_cases hk : r0.startCov > eI ∨ r0.startCov + (r0.end_ - r0.start) < s
    · simp only [hk, ↓reduceIte]
      refine ⟨rest', rfl, ?_, fun hgt => n1 (by omega), s1', ?_⟩
      · rcases hk with hk | hk
        · rw [n1 (by omega)]; trivial
        · rwa [(by omega : r0.startCov - s = r0.startCov + (r0.end_ - r0.start + 1) - s)]
      · rw [cut_disjoint _ _ _ _ (by omega)]; rfl
    · simp only [hk, ↓reduceIte]
      refine ⟨_, rfl, ⟨?_, rfl, ?_, ?_⟩, fun hgt => by omega, ?_, ?_⟩
      · show r0.start + (s - r0.startCov) ≤ r0.end_ - (r0.startCov + (r0.end_ - r0.start) - eI)
        omega
      · intro r' hr'
        obtain ⟨r, hr, hh⟩ := s1 r' hr'
        exact Nat.lt_of_le_of_lt (Nat.sub_le ..) (Nat.lt_of_lt_of_le (h3 r hr) hh.1)
      · by_cases hcut : r0.startCov + (r0.end_ - r0.start + 1) > eI
        · rw [n1 hcut]; trivial
        · clear n1
          show WFRanges (r0.startCov - s + (r0.end_ - (r0.startCov + (r0.end_ - r0.start) - eI) -
            (r0.start + (s - r0.startCov)) + 1)) rest'
          rwa [(by omega : r0.startCov - s + (r0.end_ - (r0.startCov + (r0.end_ - r0.start) - eI) -
            (r0.start + (s - r0.startCov)) + 1) = r0.startCov + (r0.end_ - r0.start + 1) - s)]
      · intro r' hr'
        rcases List.mem_cons.mp hr' with rfl | hr'
        · exact ⟨r0, List.mem_cons_self .., Nat.le_add_right .., Nat.sub_le ..⟩
        · exact s1' r' hr'
      · rw [expandRanges, RangeRec.glyphs, ← cut_count _ _ _ _ _ h1 (by omega) (by omega)]

theorem split_fmt2_glyphs {rs : List RangeRec} (hwf : WFRanges 0 rs) (hb : ∀ r ∈ rs, r.end_ < 65536)
    {s e : Nat} (hse : s < e) :
    ∃ rs', splitCoverage (.fmt2 rs) s e = some (.fmt2 rs') ∧ WFRanges 0 rs' ∧
      (∀ r ∈ rs', r.end_ < 65536) ∧ expandRanges rs' = ((expandRanges rs).drop s).take (e - s) := by
  obtain ⟨rs', e1, w1, _, s1, x1⟩ := splitRecords_wf (s := s) (eI := e - 1) (by omega) rs 0 hwf hb
    (fun _ _ => Nat.zero_le _)
  refine ⟨rs', ?_, by simpa using w1, fun r' hr' => ?_, ?_⟩
  · rw [splitCoverage, if_neg (by omega), if_neg (by omega), e1]; rfl
  · obtain ⟨r, hr, hh⟩ := s1 r' hr'
    exact Nat.lt_of_le_of_lt hh.2 (hb r hr)
  · rw [x1]; congr 2 <;> omega

end FontVerif.Layout
