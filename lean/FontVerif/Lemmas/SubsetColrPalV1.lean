/-
Lemmas for C17 — the COLRv1 half of the palette closure.  The traversal model is C01's `HandColr.dispatch` / `v1Roots` /
`v1ClosureOf` (Model/HandColr.lean: read-fonts closure.rs `Colrv1ClosureContext::dispatch` with the visited set on paint
positions and the nesting limit 64, tied to the real `Colr::v1_closure` by C01's `hc.clos` group and by C17's `colr-v1pal`
group).  First soundness — a collected palette index belongs to a paint reachable from a retained root; then completeness
below the nesting limit (`BelowLimit`): the DFS invariant of `dispatch` by induction on the height bound (`dispatch_complete`).
-/
import FontVerif.Lemmas.HandColrBody
namespace FontVerif.SubsetColrPalV1
open FontVerif.HandColr

/-- reachability in the paint graph (any sharing, any cycles) -/
inductive Reach (G : Graph) : Nat → Nat → Prop where
  | refl (a : Nat) : Reach G a a
  | tail {a b c : Nat} {n : PNode} : Reach G a b → G.node b = some n → c ∈ children G n → Reach G a c

/-- the root paints of the retained colour glyphs: `paint_record.paint(..)` of every BaseGlyphPaintRecord whose glyph is
in the glyph set -/
def rootsOf (G : Graph) (glyphSet : List Nat) : List Nat :=
  match G.baseList with
  | none => []
  | some recs => recs.filterMap (fun (r : Nat × Option Nat) => if glyphSet.contains r.1 then r.2 else none)

def Good (G : Graph) (R : List Nat) (p : Nat) : Prop :=
  ∃ r ∈ R, ∃ pos n, Reach G r pos ∧ G.node pos = some n ∧ p ∈ palOf n

def PalOk (G : Graph) (R : List Nat) (c : Ctx) : Prop := ∀ p ∈ c.palettes, Good G R p
def InS (G : Graph) (R : List Nat) (pos : Nat) : Prop := ∃ r ∈ R, Reach G r pos

theorem Adds.level {ps : List Nat} {c c' : Ctx} (h : Adds ps c c') : c'.level = c.level :=
  congrArg (·.2.1) h.core

theorem Adds.visited {ps : List Nat} {c c' : Ctx} (h : Adds ps c c') : c'.visited = c.visited :=
  congrArg (·.1) h.core

theorem dispatchAll_sound (G : Graph) (R : List Nat) (rec : Ctx → Nat → Ctx)
    (hrec : ∀ c q, PalOk G R c → InS G R q → PalOk G R (rec c q)) :
    ∀ (ps : List Nat) (c : Ctx), PalOk G R c → (∀ q ∈ ps, InS G R q) → PalOk G R (dispatchAll rec c ps)
  | [], c, hc, _ => hc
  | p :: ps, c, hc, hq => by
    simp only [dispatchAll]
    exact dispatchAll_sound G R rec hrec ps _ (hrec c p hc (hq p (List.mem_cons_self ..)))
      (fun q hq' => hq q (List.mem_cons_of_mem _ hq'))

theorem body_sound (G : Graph) (R : List Nat) (rec : Ctx → Nat → Ctx)
    (hrec : ∀ c q, PalOk G R c → InS G R q → PalOk G R (rec c q))
    (pos : Nat) (n : PNode) (hpos : InS G R pos) (hn : G.node pos = some n) (c : Ctx) (hc : PalOk G R c) :
    PalOk G R (body G rec c n) := by
  obtain ⟨r, hr, hreach⟩ := hpos
  obtain ⟨c1, h1, h2⟩ := body_shape G rec c n
  have hc1 : PalOk G R c1 := fun p hp =>
    ((h1.pal p).mp hp).elim (hc p) (fun hp' => ⟨r, hr, pos, n, hreach, hn, hp'⟩)
  have hc2 := dispatchAll_sound G R rec hrec (children G n) c1 hc1
    (fun q hq => ⟨r, hr, Reach.tail hreach hn hq⟩)
  exact fun p hp => ((h2.pal p).mp hp).elim (hc2 p) (fun h => by cases h)

theorem dispatch_sound (G : Graph) (R : List Nat) : ∀ (fuel : Nat) (c : Ctx) (pos : Nat),
    PalOk G R c → InS G R pos → PalOk G R (dispatch G fuel c pos)
  | 0, _, _, hc, _ => hc
  | fuel + 1, c, pos, hc, hpos => by
    rcases dispatch_succ G fuel c pos with ⟨-, h⟩ | ⟨n, c2, hn, -, -, rfl, h⟩ <;> rw [h]
    · exact hc
    · have hb := body_sound G R (dispatch G fuel) (dispatch_sound G R fuel) pos n hpos hn
        { c with calls := c.calls + 1, visited := pos % 4294967296 :: c.visited, level := c.level - 1 } hc
      split <;> exact hb

theorem v1Roots_sound (G : Graph) (gs : List Nat) : PalOk G (rootsOf G gs) (v1Roots G gs) := by
  unfold v1Roots
  cases hb : G.baseList with
  | none => intro p hp; cases hp
  | some recs =>
    simp only
    have hR : rootsOf G gs = recs.filterMap (fun (r : Nat × Option Nat) => if gs.contains r.1 then r.2 else none) := by
      unfold rootsOf; rw [hb]
    rw [← hR]
    apply dispatchAll_sound G (rootsOf G gs) (dispatch G 65) (fun c q => dispatch_sound G (rootsOf G gs) 65 c q)
    · intro p hp; cases hp
    · intro q hq; exact ⟨q, hq, Reach.refl q⟩

/-- the palette indices `Colr::v1_closure` collects (as a list; `IntSet<u16>` semantics are applied by `paletteSet`) -/
def v1Palettes (t : Colr) (glyphSet : List Nat) : List Nat := (v1ClosureOf t glyphSet).1.palettes

theorem mem_v1Palettes (t : Colr) (hv : ¬ t.version < 1) (gs : List Nat) (p : Nat) :
    p ∈ v1Palettes t gs ↔ p ∈ (v1Roots (graphOf t) gs).palettes := by
  unfold v1Palettes v1ClosureOf v1Closure
  rw [if_neg hv]
  cases clipsOf t with
  | none => exact Iff.rfl
  | some cl => exact ((v1Clips_adds cl _).pal p).trans (or_iff_left (fun h => by cases h))

theorem v1Palettes_sound (t : Colr) (gs : List Nat) (p : Nat) (hp : p ∈ v1Palettes t gs) :
    Good (graphOf t) (rootsOf (graphOf t) gs) p := by
  by_cases hv : t.version < 1
  · simp only [v1Palettes, v1ClosureOf, if_pos hv] at hp; cases hp
  · exact v1Roots_sound _ gs p ((mem_v1Palettes t hv gs p).mp hp)

/-- every path from `pos` ends after fewer than `k` edges -/
def heightLe (G : Graph) : Nat → Nat → Bool
  | 0, _ => false
  | k + 1, pos =>
    match G.node pos with
    | none => true
    | some n => (children G n).all (heightLe G k)

def BelowLimit (G : Graph) (gs : List Nat) : Bool := (rootsOf G gs).all (heightLe G 64)

theorem heightLe_mono (G : Graph) : ∀ (k a : Nat), heightLe G k a = true → heightLe G (k + 1) a = true
  | 0, a, h => by simp [heightLe] at h
  | k + 1, a, h => by
    unfold heightLe at h ⊢
    cases hn : G.node a with
    | none => rfl
    | some n =>
      rw [hn] at h
      simp only [List.all_eq_true] at h ⊢
      intro q hq
      exact heightLe_mono G k q (h q hq)

theorem heightLe_child (G : Graph) (k a : Nat) (n : PNode) (q : Nat) (h : heightLe G (k + 1) a = true)
    (hn : G.node a = some n) (hq : q ∈ children G n) : heightLe G k q = true := by
  unfold heightLe at h
  rw [hn] at h
  simp only [List.all_eq_true] at h
  exact h q hq

theorem heightLe_reach (G : Graph) (k : Nat) {a y : Nat} (hr : Reach G a y) (h : heightLe G k a = true) :
    heightLe G k y = true := by
  induction hr with
  | refl => exact h
  | tail hab hn hc ih =>
    cases k with
    | zero => simp [heightLe] at h
    | succ k => exact heightLe_mono G k _ (heightLe_child G k _ _ _ ih hn hc)

theorem acyclic_below (G : Graph) : ∀ (k a : Nat) (n : PNode) (q : Nat), heightLe G k a = true → G.node a = some n →
    q ∈ children G n → ¬ Reach G q a
  | 0, a, n, q, h, _, _ => by simp [heightLe] at h
  | k + 1, a, n, q, h, hn, hq => by
    intro hr
    have hq' := heightLe_child G k a n q h hn hq
    have ha' := heightLe_reach G k hr hq'
    exact acyclic_below G k a n q ha' hn hq hr

theorem Reach.trans {G : Graph} {a b c : Nat} (h1 : Reach G a b) (h2 : Reach G b c) : Reach G a c := by
  induction h2 with
  | refl => exact h1
  | tail _ hn hc ih => exact Reach.tail ih hn hc

theorem Reach.head_cases {G : Graph} {a y : Nat} (h : Reach G a y) :
    y = a ∨ ∃ n q, G.node a = some n ∧ q ∈ children G n ∧ Reach G q y := by
  induction h with
  | refl => exact Or.inl rfl
  | tail hab hn hc ih =>
    rcases ih with h | ⟨n', q, h1, h2, h3⟩
    · subst h
      exact Or.inr ⟨_, _, hn, hc, Reach.refl _⟩
    · exact Or.inr ⟨n', q, h1, h2, Reach.tail h3 hn hc⟩

def Coll (G : Graph) (c : Ctx) (x : Nat) : Prop :=
  ∀ y m, Reach G x y → G.node y = some m → ∀ p ∈ palOf m, p ∈ c.palettes

theorem Coll.mono {G : Graph} {c c' : Ctx} {x : Nat} (h : Coll G c x) (hp : ∀ p ∈ c.palettes, p ∈ c'.palettes) :
    Coll G c' x := fun y m hr hn p hpm => hp p (h y m hr hn p hpm)

structure Inv (G : Graph) (c1 ci : Ctx) : Prop where
  lvl : ci.level = c1.level
  pal : ∀ p ∈ c1.palettes, p ∈ ci.palettes
  vis : ∀ x ∈ c1.visited, x ∈ ci.visited
  new : ∀ x ∈ ci.visited, x ∉ c1.visited → ∀ m, G.node x = some m → Coll G ci x

theorem Inv.refl (G : Graph) (c : Ctx) : Inv G c c :=
  ⟨rfl, fun _ h => h, fun _ h => h, fun _ h hn => absurd h hn⟩

theorem Inv.trans {G : Graph} {a b c : Ctx} (h1 : Inv G a b) (h2 : Inv G b c) : Inv G a c := by
  refine ⟨h2.lvl.trans h1.lvl, fun p hp => h2.pal p (h1.pal p hp), fun x hx => h2.vis x (h1.vis x hx), ?_⟩
  intro x hx hna m hm
  by_cases hb : x ∈ b.visited
  · exact (h1.new x hb hna m hm).mono h2.pal
  · exact h2.new x hx hb m hm

theorem Inv.congr_right {G : Graph} {a b b' : Ctx} (h : Inv G a b) (hl : b'.level = b.level)
    (hp : ∀ p ∈ b.palettes, p ∈ b'.palettes) (hv : b'.visited = b.visited) : Inv G a b' := by
  refine ⟨hl.trans h.lvl, fun p hp' => hp p (h.pal p hp'), fun x hx => by rw [hv]; exact h.vis x hx, ?_⟩
  intro x hx hna m hm
  rw [hv] at hx
  exact (h.new x hx hna m hm).mono hp

/-- what one `dispatch` call guarantees (induction hypothesis), for paints of height ≤ k -/
def RecOk (G : Graph) (k F : Nat) (rec : Ctx → Nat → Ctx) : Prop :=
  ∀ c q, heightLe G k q = true → k ≤ c.level → c.level < F →
    (∀ x ∈ c.visited, Reach G q x → ∀ m, G.node x = some m → Coll G c x) →
    Inv G c (rec c q) ∧ (∀ m, G.node q = some m → Coll G (rec c q) q)

/-- the situation inside `dispatch` at `pos` after `pos` was marked visited (`c1`), `c0` = the context on entry -/
structure Par (G : Graph) (k F pos : Nat) (n : PNode) (c0 c1 : Ctx) : Prop where
  hnode : G.node pos = some n
  hh : heightLe G (k + 1) pos = true
  pre : ∀ x ∈ c0.visited, Reach G pos x → ∀ m, G.node x = some m → Coll G c0 x
  vis1 : c1.visited = pos :: c0.visited
  pal1 : ∀ p ∈ c0.palettes, p ∈ c1.palettes
  lev1 : k ≤ c1.level ∧ c1.level < F

theorem seq_step {G : Graph} {k F pos : Nat} {n : PNode} {c0 c1 : Ctx} {rec : Ctx → Nat → Ctx}
    (hrec : RecOk G k F rec) (P : Par G k F pos n c0 c1) (ci : Ctx) (hi : Inv G c1 ci) (q : Nat)
    (hq : q ∈ children G n) :
    Inv G c1 (rec ci q) ∧ Inv G ci (rec ci q) ∧ (∀ m, G.node q = some m → Coll G (rec ci q) q) := by
  have hpq : Reach G pos q := Reach.tail (Reach.refl pos) P.hnode hq
  have hpre : ∀ x ∈ ci.visited, Reach G q x → ∀ m, G.node x = some m → Coll G ci x := by
    intro x hx hr m hm
    by_cases h1 : x ∈ c1.visited
    · rw [P.vis1] at h1
      rcases List.mem_cons.mp h1 with h | h
      · subst h
        exact absurd hr (acyclic_below G (k + 1) x n q P.hh P.hnode hq)
      · exact (P.pre x h (hpq.trans hr) m hm).mono (fun p hp => hi.pal p (P.pal1 p hp))
    · exact hi.new x hx h1 m hm
  obtain ⟨h1, h2⟩ := hrec ci q (heightLe_child G k pos n q P.hh P.hnode hq) (by rw [hi.lvl]; exact P.lev1.1)
    (by rw [hi.lvl]; exact P.lev1.2) hpre
  exact ⟨hi.trans h1, h1, h2⟩

theorem seq_list {G : Graph} {k F pos : Nat} {n : PNode} {c0 c1 : Ctx} {rec : Ctx → Nat → Ctx}
    (hrec : RecOk G k F rec) (P : Par G k F pos n c0 c1) :
    ∀ (qs : List Nat) (ci : Ctx), Inv G c1 ci → (∀ q ∈ qs, q ∈ children G n) →
      Inv G c1 (dispatchAll rec ci qs) ∧ Inv G ci (dispatchAll rec ci qs) ∧
      ∀ q ∈ qs, ∀ m, G.node q = some m → Coll G (dispatchAll rec ci qs) q
  | [], ci, hi, _ => ⟨hi, Inv.refl G ci, fun q hq => by cases hq⟩
  | q :: qs, ci, hi, hqs => by
    obtain ⟨a1, a2, a3⟩ := seq_step hrec P ci hi q (hqs q (List.mem_cons_self ..))
    obtain ⟨b1, b2, b3⟩ := seq_list hrec P qs (rec ci q) a1 (fun x hx => hqs x (List.mem_cons_of_mem _ hx))
    simp only [dispatchAll]
    refine ⟨b1, a2.trans b2, ?_⟩
    intro x hx m hm
    rcases List.mem_cons.mp hx with h | h
    · subst h; exact (a3 m hm).mono b2.pal
    · exact b3 x h m hm

/-- the result of one paint's `v1_closure` inside `dispatch`: its own palette indices are in, every child's reachable
set is collected, the invariant holds relative to `c1` -/
def BodyOk (G : Graph) (n : PNode) (c1 c2 : Ctx) : Prop :=
  Inv G c1 c2 ∧ (∀ p ∈ palOf n, p ∈ c2.palettes) ∧ (∀ q ∈ children G n, ∀ m, G.node q = some m → Coll G c2 q)

theorem body_complete {G : Graph} {k F pos : Nat} {n : PNode} {c0 c1 : Ctx} {rec : Ctx → Nat → Ctx}
    (hrec : RecOk G k F rec) (P : Par G k F pos n c0 c1) : BodyOk G n c1 (body G rec c1 n) := by
  obtain ⟨c', h1, h2⟩ := body_shape G rec c1 n
  have hi : Inv G c1 c' :=
    (Inv.refl G c1).congr_right h1.level (fun p hp => (h1.pal p).mpr (Or.inl hp)) h1.visited
  obtain ⟨a1, a2, a3⟩ := seq_list hrec P (children G n) c' hi (fun q hq => hq)
  have hp2 : ∀ p ∈ (dispatchAll rec c' (children G n)).palettes, p ∈ (body G rec c1 n).palettes :=
    fun p hp => (h2.pal p).mpr (Or.inl hp)
  exact ⟨a1.congr_right h2.level hp2 h2.visited,
    fun p hp => hp2 p (a2.pal p ((h1.pal p).mpr (Or.inr hp))),
    fun q hq m hm => (a3 q hq m hm).mono hp2⟩

theorem coll_of_children {G : Graph} {c : Ctx} {q : Nat} {n : PNode} (hn : G.node q = some n)
    (hself : ∀ p ∈ palOf n, p ∈ c.palettes)
    (hch : ∀ q' ∈ children G n, ∀ m, G.node q' = some m → Coll G c q') : Coll G c q := by
  intro y m hr hm p hp
  rcases hr.head_cases with h | ⟨n', q', h1, h2, h3⟩
  · subst h
    rw [hn] at hm; cases hm
    exact hself p hp
  · rw [hn] at h1; cases h1
    cases hq' : G.node q' with
    | some m' => exact hch q' h2 m' hq' y m h3 hm p hp
    | none =>
      rcases h3.head_cases with h | ⟨n'', _, h1', _, _⟩
      · subst h; rw [hq'] at hm; cases hm
      · rw [hq'] at h1'; cases h1'

/-- **the DFS invariant**: `dispatch` on a paint of height ≤ k, with enough nesting levels left -/
theorem dispatch_complete (G : Graph) (hsmall : ∀ x m, G.node x = some m → x < 4294967296) :
    ∀ (k F fuel : Nat), F ≤ fuel → F ≤ 256 → RecOk G k F (dispatch G fuel) := by
  intro k
  induction k with
  | zero => intro F fuel _ _ c q hh; simp [heightLe] at hh
  | succ k ih =>
    intro F fuel hFf hF c q hh hlev hcF hpre
    obtain ⟨f, rfl⟩ : ∃ f, fuel = f + 1 := ⟨fuel - 1, by omega⟩
    have hq : ∀ m, G.node q = some m → q % 4294967296 = q := fun m hm => Nat.mod_eq_of_lt (hsmall q m hm)
    rcases dispatch_succ G f c q with ⟨hwhy, h⟩ | ⟨n, c2, hn, -, hnm, hc2, h⟩ <;> rw [h]
    · refine ⟨(Inv.refl G c).congr_right rfl (fun _ h => h) rfl, fun m hm => ?_⟩
      rcases hwhy with h0 | h0 | h0
      · rw [h0] at hm; cases hm
      · omega
      · rw [hq m hm] at h0
        exact (hpre q h0 (Reach.refl q) m hm).mono (fun _ h => h)
    · rw [hq n hn] at hnm hc2
      generalize hc1 : ({ c with calls := c.calls + 1, visited := q :: c.visited, level := c.level - 1 } : Ctx) = c1 at hc2
      have P : Par G k (F - 1) q n c c1 := by
        subst hc1
        exact ⟨hn, hh, hpre, rfl, fun _ h => h, by simp only; omega⟩
      obtain ⟨hI, hself, hch⟩ := body_complete (ih (F - 1) f (by omega) (by omega)) P
      rw [← hc2] at hI hself hch
      have hlv : c2.level = c.level - 1 := by rw [hI.lvl, ← hc1]
      rw [if_neg (by omega)]
      have hcoll : Coll G c2 q := coll_of_children hn hself hch
      have hv1 : c1.visited = q :: c.visited := by rw [← hc1]
      have hp1 : c1.palettes = c.palettes := by rw [← hc1]
      refine ⟨⟨by simp only; omega, fun p hp => hI.pal p (by rw [hp1]; exact hp),
        fun x hx => hI.vis x (by rw [hv1]; exact List.mem_cons_of_mem _ hx), ?_⟩, fun m _ => hcoll.mono (fun _ h => h)⟩
      intro x hx hnx m hm
      by_cases hxq : x = q
      · subst hxq; exact hcoll.mono (fun _ h => h)
      · have : x ∉ c1.visited := by
          rw [hv1]; intro h
          rcases List.mem_cons.mp h with h' | h'
          · exact hxq h'
          · exact hnx h'
        exact (hI.new x hx this m hm).mono (fun _ h => h)

def VisDone (G : Graph) (c : Ctx) : Prop := ∀ x ∈ c.visited, ∀ m, G.node x = some m → Coll G c x

theorem roots_loop (G : Graph) (hsmall : ∀ x m, G.node x = some m → x < 4294967296) :
    ∀ (rs : List Nat) (c : Ctx), VisDone G c → c.level = 64 → (∀ r ∈ rs, heightLe G 64 r = true) →
      VisDone G (dispatchAll (dispatch G 65) c rs) ∧ (∀ p ∈ c.palettes, p ∈ (dispatchAll (dispatch G 65) c rs).palettes) ∧
      ∀ r ∈ rs, ∀ m, G.node r = some m → Coll G (dispatchAll (dispatch G 65) c rs) r
  | [], c, hv, _, _ => ⟨hv, fun _ h => h, fun r hr => by cases hr⟩
  | r :: rs, c, hv, hl, hh => by
    obtain ⟨hI, hC⟩ := dispatch_complete G hsmall 64 65 65 (Nat.le_refl _) (by omega) c r (hh r (List.mem_cons_self ..))
      (by omega) (by omega) (fun x hx _ m hm => hv x hx m hm)
    have hv' : VisDone G (dispatch G 65 c r) := by
      intro x hx m hm
      by_cases hxc : x ∈ c.visited
      · exact (hv x hxc m hm).mono hI.pal
      · exact hI.new x hx hxc m hm
    obtain ⟨a, b, d⟩ := roots_loop G hsmall rs (dispatch G 65 c r) hv' (by rw [hI.lvl]; exact hl)
      (fun x hx => hh x (List.mem_cons_of_mem _ hx))
    simp only [dispatchAll]
    refine ⟨a, fun p hp => b p (hI.pal p hp), ?_⟩
    intro x hx m hm
    rcases List.mem_cons.mp hx with h | h
    · subst h; exact (hC m hm).mono b
    · exact d x h m hm

/-- completeness of the COLRv1 palette collection below the nesting limit, on the abstract graph -/
theorem v1Roots_complete (G : Graph) (hsmall : ∀ x m, G.node x = some m → x < 4294967296) (gs : List Nat)
    (hbl : BelowLimit G gs = true) (r : Nat) (hr : r ∈ rootsOf G gs) (y : Nat) (m : PNode) (hreach : Reach G r y)
    (hm : G.node y = some m) (p : Nat) (hp : p ∈ palOf m) : p ∈ (v1Roots G gs).palettes := by
  unfold BelowLimit at hbl
  simp only [List.all_eq_true] at hbl
  have hroots : v1Roots G gs = dispatchAll (dispatch G 65) {} (rootsOf G gs) := by
    unfold v1Roots rootsOf
    cases G.baseList with
    | none => rfl
    | some recs => rfl
  rw [hroots]
  obtain ⟨_, _, hd⟩ := roots_loop G hsmall (rootsOf G gs) {} (fun x hx => by cases hx) rfl hbl
  cases hnr : G.node r with
  | some mr => exact hd r hr mr hnr y m hreach hm p hp
  | none =>
    rcases hreach.head_cases with h | ⟨n', _, h1, _, _⟩
    · subst h; rw [hnr] at hm; cases hm
    · rw [hnr] at h1; cases h1

end FontVerif.SubsetColrPalV1
