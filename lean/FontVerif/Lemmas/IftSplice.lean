/-
C18 — glyph-keyed splice: what `OffsetArrayBuilder::build` / `patch_offset_array` produce.

Spec vocabulary (used in the statements of Props/C18.lean):
  `glyphAt offsets data g`  the bytes between offsets g and g+1
  `padTo t d`               patch data followed by the padding the code adds (len % divisor zero bytes)
  `encodeOffs t os`         the offset array bytes: each o stored as (o / divisor + bias) in `width` bytes
Used by the lemmas and inside proofs only:
  `chunkFor a t repl g`     new bytes of glyph g: padded replacement if `repl` lists g, else the old bytes
  `startsFrom w chunks`     running start offsets of consecutive chunks, the first at `w`
Main result: `patchOffsetArray_spec` — for an `AscSound` base array and `SortedGids` replacements, on success
`SpliceOk` holds: data = concatenation of the chunks of gids 0..=maxGid, offsets = their running starts
++ [total]. `Spliced` is the invariant of the run loop it is proved by.
-/
import FontVerif.Model.PatchRound
import FontVerif.Lemmas.Base
namespace FontVerif.Ift

def glyphAt (offsets : List Nat) (data : Bytes) (g : Nat) : Bytes :=
  sliceLen data (offsets.getD g 0) (offsets.getD (g + 1) 0 - offsets.getD g 0)

def padTo (t : OffsetType) (d : Bytes) : Bytes := d ++ List.replicate (d.length % t.divisor) 0

def chunkFor (a : OffsetArray) (t : OffsetType) (repl : List (Nat × Bytes)) (g : Nat) : Bytes :=
  match repl.lookup g with
  | some d => padTo t d
  | none => glyphAt a.offsets a.data g

def startsFrom : Nat → List Bytes → List Nat
  | _, [] => []
  | w, c :: cs => w :: startsFrom (w + c.length) cs

def encodeOffs (t : OffsetType) (os : List Nat) : Bytes :=
  os.flatMap (fun o => beBytes t.width (o / t.divisor + t.bias))

def SortedGids (l : List (Nat × Bytes)) : Prop := l.Pairwise (fun x y => x.1 < y.1)

def chunks (a : OffsetArray) (t : OffsetType) (repl : List (Nat × Bytes)) (maxGid : Nat) : List Bytes :=
  (List.range' 0 (maxGid + 1)).map (chunkFor a t repl)

def newOffsets (cs : List Bytes) : List Nat := startsFrom 0 cs ++ [cs.flatten.length]

theorem startsFrom_append (w : Nat) (xs ys : List Bytes) :
    startsFrom w (xs ++ ys) = startsFrom w xs ++ startsFrom (w + xs.flatten.length) ys := by
  induction xs generalizing w with
  | nil => simp [startsFrom]
  | cons x xs ih =>
    simp only [List.cons_append, startsFrom, List.flatten_cons, List.length_append]
    rw [ih]; simp [Nat.add_assoc]

theorem startsFrom_length (w : Nat) (xs : List Bytes) : (startsFrom w xs).length = xs.length := by
  induction xs generalizing w with
  | nil => rfl
  | cons x xs ih => simp [startsFrom, ih]

theorem startsFrom_rebase (b w x : Nat) (cs : List Bytes) :
    (startsFrom (b + x) cs).map (· - b + w) = startsFrom (x + w) cs := by
  induction cs generalizing x with
  | nil => rfl
  | cons c cs ih =>
    rw [startsFrom, List.map_cons, Nat.add_sub_cancel_left, Nat.add_assoc b, ih, startsFrom, Nat.add_right_comm]

theorem encodeOffs_append (t : OffsetType) (xs ys : List Nat) :
    encodeOffs t (xs ++ ys) = encodeOffs t xs ++ encodeOffs t ys := by
  simp [encodeOffs]

theorem padTo_length (t : OffsetType) (d : Bytes) : (padTo t d).length = paddedLen t d := by
  simp [padTo, paddedLen]

theorem sliceLen_add (b : Bytes) (s m n : Nat) :
    sliceLen b s (m + n) = sliceLen b s m ++ sliceLen b (s + m) n := by
  unfold sliceLen
  rw [List.take_add, List.drop_drop]

theorem sliceLen_length (b : Bytes) (s n : Nat) (h : s + n ≤ b.length) : (sliceLen b s n).length = n := by
  unfold sliceLen; simp; omega

theorem sliceLen_append_left (p q : Bytes) (s n : Nat) (h : s + n ≤ p.length) :
    sliceLen (p ++ q) s n = sliceLen p s n := by
  unfold sliceLen
  rw [List.drop_append_of_le_length (by omega), List.take_append_of_le_length (by simp; omega)]

theorem sliceLen_append_right (p q : Bytes) (k s n : Nat) (hk : p.length = k) (h : k ≤ s) :
    sliceLen (p ++ q) s n = sliceLen q (s - k) n := by
  subst hk
  obtain ⟨d, rfl⟩ := Nat.exists_eq_add_of_le h
  unfold sliceLen
  rw [← List.drop_drop, List.drop_left, Nat.add_sub_cancel_left]

theorem sliceLen_all (p : Bytes) (n : Nat) (h : p.length = n) : sliceLen p 0 n = p := by
  unfold sliceLen; rw [List.drop_zero, ← h, List.take_length]

theorem sliceLen_sliceLen (b : Bytes) (s n s' n' : Nat) (h : s' + n' ≤ n) :
    sliceLen (sliceLen b s n) s' n' = sliceLen b (s + s') n' := by
  unfold sliceLen
  rw [List.drop_take, List.take_take, List.drop_drop, Nat.min_eq_left (by omega)]

theorem sliceLen_of_sliceLen_eq (x y : Bytes) (s k s' n : Nat) (h : sliceLen x s k = sliceLen y s k)
    (hs : s' + n ≤ k) : sliceLen x (s + s') n = sliceLen y (s + s') n := by
  rw [← sliceLen_sliceLen x s k s' n hs, h, sliceLen_sliceLen y s k s' n hs]

theorem ascending_iff (l : List Nat) : ascending l = true ↔ l.Pairwise (· ≤ ·) := by
  induction l with
  | nil => simp [ascending]
  | cons a rest ih =>
    cases rest with
    | nil => simp [ascending]
    | cons b rest =>
      simp only [ascending, Bool.and_eq_true, decide_eq_true_eq, ih]
      constructor
      · rintro ⟨hab, hp⟩
        refine List.pairwise_cons.mpr ⟨fun x hx => ?_, hp⟩
        rcases List.mem_cons.mp hx with e | e
        · exact e ▸ hab
        · exact Nat.le_trans hab ((List.pairwise_cons.mp hp).1 x e)
      · intro hp
        obtain ⟨h1, h2⟩ := List.pairwise_cons.mp hp
        exact ⟨h1 b List.mem_cons_self, h2⟩

theorem getD_mono (l : List Nat) (hp : l.Pairwise (· ≤ ·)) (i j : Nat) (hij : i ≤ j) (hj : j < l.length) :
    l.getD i 0 ≤ l.getD j 0 := by
  rcases Nat.lt_or_eq_of_le hij with h | h
  · have := (List.pairwise_iff_getElem.mp hp) i j (by omega) hj h
    simpa [List.getD, List.getElem?_eq_getElem, hj, show i < l.length by omega] using this
  · subst h; exact Nat.le_refl _

/-- offsets `o s, o (s+1), …` that advance by the lengths of the pieces `p s, p (s+1), …` are the running
starts of these pieces -/
theorem starts_of_step (o : Nat → Nat) (p : Nat → Bytes) (c s : Nat)
    (h : ∀ i, s ≤ i → i < s + c → o (i + 1) = o i + (p i).length) :
    (List.range' s c).map o = startsFrom (o s) ((List.range' s c).map p) ∧
    o (s + c) = o s + ((List.range' s c).map p).flatten.length := by
  induction c generalizing s with
  | zero => exact ⟨rfl, rfl⟩
  | succ c ih =>
    obtain ⟨i1, i2⟩ := ih (s + 1) (fun i h1 h2 => h i (by omega) (by omega))
    have h0 := h s (Nat.le_refl _) (by omega)
    rw [List.range'_succ, List.map_cons, List.map_cons, startsFrom, List.flatten_cons, List.length_append]
    exact ⟨by rw [← h0, ← i1], by rw [← Nat.add_assoc (o s), ← h0, ← i2, Nat.add_right_comm]; rfl⟩

theorem slice_of_step (data : Bytes) (o : Nat → Nat) (p : Nat → Bytes) (c s : Nat)
    (h : ∀ i, s ≤ i → i < s + c → o (i + 1) = o i + (p i).length ∧ p i = sliceLen data (o i) (p i).length) :
    sliceLen data (o s) ((List.range' s c).map p).flatten.length = ((List.range' s c).map p).flatten := by
  induction c generalizing s with
  | zero => simp [sliceLen]
  | succ c ih =>
    obtain ⟨h0, h1⟩ := h s (Nat.le_refl _) (by omega)
    rw [List.range'_succ, List.map_cons, List.flatten_cons, List.length_append, sliceLen_add, ← h0, ← h1,
      ih (s + 1) (fun i h1 h2 => h i (by omega) (by omega))]

theorem glyph_step (offs : List Nat) (data : Bytes) (hp : offs.Pairwise (· ≤ ·)) (g : Nat)
    (hg : g + 1 < offs.length) (hend : offs.getD (g + 1) 0 ≤ data.length) :
    offs.getD (g + 1) 0 = offs.getD g 0 + (glyphAt offs data g).length ∧
    glyphAt offs data g = sliceLen data (offs.getD g 0) (glyphAt offs data g).length := by
  have hm := getD_mono offs hp g (g + 1) (Nat.le_succ _) hg
  have hl : (glyphAt offs data g).length = offs.getD (g + 1) 0 - offs.getD g 0 :=
    sliceLen_length _ _ _ (by omega)
  exact ⟨by rw [hl, Nat.add_sub_cancel' hm], by rw [hl]; rfl⟩

theorem starts_getD (w : Nat) (cs : List Bytes) (g : Nat) (hg : g ≤ cs.length) :
    (startsFrom w cs ++ [w + cs.flatten.length]).getD g 0 = w + (cs.take g).flatten.length := by
  induction cs generalizing w g with
  | nil =>
    have : g = 0 := by simpa using hg
    subst this; simp [startsFrom]
  | cons c cs ih =>
    cases g with
    | zero => simp [startsFrom]
    | succ g =>
      have := ih (w + c.length) g (by simpa using hg)
      simp only [startsFrom, List.cons_append, List.getD_cons_succ, List.take_succ_cons,
        List.flatten_cons, List.length_append]
      rw [show w + (c.length + cs.flatten.length) = w + c.length + cs.flatten.length by omega, this]
      omega

theorem newOffsets_length (cs : List Bytes) : (newOffsets cs).length = cs.length + 1 := by
  simp [newOffsets, startsFrom_length]

theorem newOffsets_getD (cs : List Bytes) (g : Nat) (hg : g ≤ cs.length) :
    (newOffsets cs).getD g 0 = (cs.take g).flatten.length := by
  have := starts_getD 0 cs g hg
  simpa [newOffsets] using this

theorem newOffsets_first (cs : List Bytes) : (newOffsets cs).getD 0 0 = 0 := by
  rw [newOffsets_getD cs 0 (Nat.zero_le _)]; simp

theorem newOffsets_last (cs : List Bytes) : (newOffsets cs).getD cs.length 0 = cs.flatten.length := by
  rw [newOffsets_getD cs cs.length (Nat.le_refl _)]; simp

theorem take_succ_flatten (cs : List Bytes) (g : Nat) (hg : g < cs.length) :
    (cs.take (g + 1)).flatten = (cs.take g).flatten ++ cs[g] := by
  rw [List.take_succ_eq_append_getElem hg, List.flatten_append]; simp

theorem newOffsets_step (cs : List Bytes) (g : Nat) (hg : g < cs.length) :
    (newOffsets cs).getD (g + 1) 0 = (newOffsets cs).getD g 0 + cs[g].length := by
  rw [newOffsets_getD cs (g + 1) hg, newOffsets_getD cs g (by omega), take_succ_flatten cs g hg]
  simp

theorem newOffsets_pairwise (cs : List Bytes) : (newOffsets cs).Pairwise (· ≤ ·) := by
  rw [List.pairwise_iff_getElem]
  intro i j hi hj hij
  rw [newOffsets_length] at hi hj
  have hi' : (newOffsets cs)[i] = (newOffsets cs).getD i 0 := by
    simp [List.getD, newOffsets_length, hi]
  have hj' : (newOffsets cs)[j] = (newOffsets cs).getD j 0 := by
    simp [List.getD, newOffsets_length, hj]
  rw [hi', hj', newOffsets_getD cs i (by omega), newOffsets_getD cs j (by omega)]
  have : cs.take j = cs.take i ++ (cs.take j).drop i := by
    have := List.take_append_drop i (cs.take j)
    rw [List.take_take, Nat.min_eq_left (by omega)] at this
    exact this.symm
  rw [this]; simp

theorem newOffsets_glyphAt (cs : List Bytes) (g : Nat) (hg : g < cs.length) :
    glyphAt (newOffsets cs) cs.flatten g = cs[g] := by
  unfold glyphAt
  rw [newOffsets_step cs g hg, newOffsets_getD cs g (by omega)]
  have hsplit : cs.flatten = (cs.take g).flatten ++ (cs[g] ++ (cs.drop (g + 1)).flatten) := by
    conv => lhs; rw [← List.take_append_drop g cs]
    rw [List.flatten_append, List.drop_eq_getElem_cons hg, List.flatten_cons]
  unfold sliceLen
  rw [Nat.add_sub_cancel_left]
  conv => lhs; rw [hsplit]
  rw [List.drop_left' rfl, List.take_left' rfl]

theorem newOffsets_le_last (cs : List Bytes) : ∀ o ∈ newOffsets cs, o ≤ cs.flatten.length := by
  intro o ho
  obtain ⟨i, hi, he⟩ := List.mem_iff_getElem.mp ho
  rw [newOffsets_length] at hi
  have h1 : (newOffsets cs).getD i 0 = o := by simp [List.getD, newOffsets_length, hi, he]
  have := getD_mono (newOffsets cs) (newOffsets_pairwise cs) i cs.length (by omega) (by rw [newOffsets_length]; omega)
  rw [h1, newOffsets_last] at this
  exact this

theorem mod_zero_sub (d x y : Nat) (hx : x % d = 0) (hy : y % d = 0) : (x - y) % d = 0 :=
  Nat.mod_eq_zero_of_dvd (Nat.dvd_sub (Nat.dvd_of_mod_eq_zero hx) (Nat.dvd_of_mod_eq_zero hy))

theorem mod_zero_add (d x y : Nat) (hx : x % d = 0) (hy : y % d = 0) : (x + y) % d = 0 :=
  Nat.mod_eq_zero_of_dvd (Nat.dvd_add (Nat.dvd_of_mod_eq_zero hx) (Nat.dvd_of_mod_eq_zero hy))

theorem startsFrom_div (d w : Nat) (cs : List Bytes) (hw : w % d = 0) (hc : ∀ c ∈ cs, c.length % d = 0) :
    (∀ o ∈ startsFrom w cs, o % d = 0) ∧ (w + cs.flatten.length) % d = 0 := by
  induction cs generalizing w with
  | nil => simp [startsFrom, hw]
  | cons c cs ih =>
    have hc0 := hc c (by simp)
    obtain ⟨i1, i2⟩ := ih (w + c.length) (mod_zero_add _ _ _ hw hc0) (fun x hx => hc x (List.mem_cons_of_mem _ hx))
    refine ⟨?_, ?_⟩
    · intro o ho
      simp only [startsFrom, List.mem_cons] at ho
      rcases ho with e | e
      · rw [e]; exact hw
      · exact i1 o e
    · simp only [List.flatten_cons, List.length_append]
      rw [← Nat.add_assoc]; exact i2

theorem newOffsets_div (d : Nat) (cs : List Bytes) (hc : ∀ c ∈ cs, c.length % d = 0) :
    ∀ o ∈ newOffsets cs, o % d = 0 := by
  obtain ⟨h1, h2⟩ := startsFrom_div d 0 cs (Nat.zero_mod _) hc
  intro o ho
  simp only [newOffsets, List.mem_append, List.mem_singleton] at ho
  rcases ho with e | e
  · exact h1 o e
  · rw [e]; simpa using h2

theorem chunks_length (a : OffsetArray) (t : OffsetType) (repl : List (Nat × Bytes)) (maxGid : Nat) :
    (chunks a t repl maxGid).length = maxGid + 1 := by simp [chunks]

theorem chunks_getElem (a : OffsetArray) (t : OffsetType) (repl : List (Nat × Bytes)) (maxGid g : Nat)
    (hg : g < (chunks a t repl maxGid).length) : (chunks a t repl maxGid)[g] = chunkFor a t repl g := by
  simp [chunks]

theorem chunks_newOffsets (a : OffsetArray) (t : OffsetType) (repl : List (Nat × Bytes)) (maxGid : Nat) :
    (newOffsets (chunks a t repl maxGid)).length = maxGid + 2 ∧
    (newOffsets (chunks a t repl maxGid)).getD 0 0 = 0 ∧
    (newOffsets (chunks a t repl maxGid)).getD (maxGid + 1) 0 = (chunks a t repl maxGid).flatten.length ∧
    (newOffsets (chunks a t repl maxGid)).Pairwise (· ≤ ·) ∧
    ∀ g, g ≤ maxGid →
      glyphAt (newOffsets (chunks a t repl maxGid)) (chunks a t repl maxGid).flatten g = chunkFor a t repl g := by
  have hlen := chunks_length a t repl maxGid
  refine ⟨by rw [newOffsets_length, hlen], newOffsets_first _, ?_, newOffsets_pairwise _, ?_⟩
  · rw [← hlen]; exact newOffsets_last _
  · intro g hg
    rw [newOffsets_glyphAt _ g (by rw [hlen]; omega), chunks_getElem]

theorem chunks_congr_divisor (a : OffsetArray) (t t' : OffsetType) (h : t.divisor = t'.divisor)
    (repl : List (Nat × Bytes)) (m : Nat) : chunks a t repl m = chunks a t' repl m := by
  unfold chunks chunkFor padTo
  rw [h]

theorem isReplaced_eq_false_iff (repl : List (Nat × Bytes)) (g : Nat) :
    isReplaced repl g = false ↔ repl.lookup g = none := by
  rw [List.lookup_eq_none_iff, isReplaced, List.any_eq_false]
  exact forall_congr' fun p => forall_congr' fun _ => by rw [beq_iff_eq, bne_iff_ne]; exact ne_comm

theorem isReplaced_true_mem (repl : List (Nat × Bytes)) (g : Nat) (h : isReplaced repl g = true) :
    ∃ x ∈ repl, x.1 = g := by
  simp only [isReplaced, List.any_eq_true, beq_iff_eq] at h
  exact h

def runsCount : List (Bool × Nat × Nat) → Nat
  | [] => 0
  | (_, _, c) :: rest => c + runsCount rest

/-- the runs tile the gids from `g` upwards and each run is constant in `f` -/
def RunsOK (f : Nat → Bool) : Nat → List (Bool × Nat × Nat) → Prop
  | _, [] => True
  | g, (b, s, c) :: rest => s = g ∧ (∀ i, i < c → f (g + i) = b) ∧ RunsOK f (g + c) rest

theorem groupRuns_ok (f : Nat → Bool) (n s : Nat) :
    RunsOK f s (groupRuns s ((List.range' s n).map f)) ∧
    runsCount (groupRuns s ((List.range' s n).map f)) = n := by
  induction n generalizing s with
  | zero => simp [groupRuns, RunsOK, runsCount]
  | succ n ih =>
    have ih' := ih (s + 1)
    simp only [List.range'_succ, List.map_cons, groupRuns]
    generalize groupRuns (s + 1) ((List.range' (s + 1) n).map f) = r at ih'
    cases r with
    | nil =>
      simp only [runsCount] at ih'
      refine ⟨⟨rfl, ?_, trivial⟩, by simp [runsCount]; omega⟩
      intro i hi
      have : i = 0 := by omega
      subst this; rfl
    | cons hd rest =>
      obtain ⟨b', s', c⟩ := hd
      obtain ⟨⟨hs', hconst, hrest⟩, hcount⟩ := ih'
      simp only [runsCount] at hcount
      by_cases hb : f s = b'
      · simp only [hb, if_true]
        refine ⟨⟨rfl, ?_, ?_⟩, by simp only [runsCount]; omega⟩
        · intro i hi
          cases i with
          | zero => exact hb
          | succ i =>
            have := hconst i (by omega)
            rw [show s + (i + 1) = s + 1 + i by omega]; exact this
        · rw [show s + (c + 1) = s + 1 + c by omega]; exact hrest
      · simp only [hb, if_false]
        refine ⟨⟨rfl, ?_, ?_⟩, by simp only [runsCount]; omega⟩
        · intro i hi
          have : i = 0 := by omega
          subst this; rfl
        · exact ⟨hs', hconst, hrest⟩

theorem runsFor_eq (repl : List (Nat × Bytes)) (maxGid : Nat) :
    runsFor repl maxGid = groupRuns 0 ((List.range' 0 (maxGid + 1)).map (isReplaced repl)) := by
  simp [runsFor, List.range_eq_range']

theorem embedBytes_ok (cap : Nat) (buf d buf' : Bytes) (h : embedBytes cap buf d = .ok buf') :
    buf' = buf ++ d := by
  unfold embedBytes at h
  split at h
  · cases h
  · cases h; rfl

theorem embedOffset_ok (t : OffsetType) (cap : Nat) (buf buf' : Bytes) (i : Nat)
    (h : embedOffset t cap buf i = .ok buf') :
    buf' = buf ++ encodeOffs t [i] ∧ i / t.divisor + t.bias < 2 ^ (t.width * 8) := by
  unfold embedOffset at h
  simp only at h
  split at h
  · cases h
  · rename_i hlt
    have := embedBytes_ok _ _ _ _ h
    exact ⟨by simpa [encodeOffs] using this, by omega⟩

theorem offsetFor_ok (a : OffsetArray) (g o : Nat) (h : a.offsetFor g = .ok o) :
    g < a.offsets.length ∧ a.offsets.getD g 0 = o := by
  unfold OffsetArray.offsetFor at h
  split at h
  · rename_i o' ho
    split at h
    · cases h
    · cases h
      have := List.getElem?_eq_some_iff.mp ho
      obtain ⟨hl, he⟩ := this
      exact ⟨hl, by simp [List.getD, ho]⟩
  · cases h

theorem replaceOne_ok (t : OffsetType) (dc oc : Nat) (st st' : BuildState) (g : Nat) (d : Bytes)
    (more : List (Nat × Bytes)) (hr : st.repl = (g, d) :: more)
    (h : replaceOne t dc oc st = .ok st') :
    st'.data = st.data ++ padTo t d ∧ st'.offs = st.offs ++ encodeOffs t [st.writeIndex] ∧
    st'.writeIndex = st.writeIndex + (padTo t d).length ∧ st'.repl = more := by
  unfold replaceOne at h
  rw [hr] at h
  simp only at h
  split at h
  · cases h
  · rename_i data1 h1
    split at h
    · cases h
    · rename_i offs1 h2
      have e1 := embedBytes_ok _ _ _ _ h1
      have e2 := (embedOffset_ok _ _ _ _ _ h2).1
      split at h
      · rename_i hdiv
        split at h
        · cases h
        · rename_i data2 h3
          have e3 := embedBytes_ok _ _ _ _ h3
          cases h
          refine ⟨?_, e2, ?_, rfl⟩
          · simp only [e3, e1, padTo, List.append_assoc]
          · simp only [padTo, List.length_append, List.length_replicate]; omega
      · rename_i hdiv
        cases h
        have hd : t.divisor = 1 := by cases t <;> simp [OffsetType.divisor] at hdiv ⊢
        refine ⟨?_, e2, ?_, rfl⟩
        · simp [e1, padTo, hd, Nat.mod_one]
        · simp [padTo, hd, Nat.mod_one]

theorem keepOffsets_ok (a : OffsetArray) (t : OffsetType) (oc startOff w : Nat) (n g : Nat)
    (buf buf' : Bytes) (h : keepOffsets a t oc startOff w g n buf = .ok buf') :
    buf' = buf ++ encodeOffs t ((List.range' g n).map (fun i => a.offsets.getD i 0 - startOff + w)) := by
  induction n generalizing g buf with
  | zero => simp only [keepOffsets] at h; cases h; simp [encodeOffs]
  | succ n ih =>
    simp only [keepOffsets] at h
    split at h
    · cases h
    · rename_i cur hcur
      split at h
      · cases h
      · rename_i buf1 hb
        have e1 := (embedOffset_ok _ _ _ _ _ hb).1
        have e0 := (offsetFor_ok a g cur hcur).2
        rw [ih (g + 1) buf1 h, e1, List.range'_succ]
        simp only [List.getD] at e0
        simp [encodeOffs, e0]

theorem keepRun_ok (a : OffsetArray) (t : OffsetType) (dc oc s c : Nat) (st st' : BuildState)
    (h : keepRun a t dc oc s c st = .ok st') :
    ∃ startOff endOff offs1, a.offsetFor s = .ok startOff ∧ a.offsetFor (s + c) = .ok endOff ∧
      endOff ≤ a.data.length ∧
      keepOffsets a t oc startOff st.writeIndex s c st.offs = .ok offs1 ∧
      st' = { st with data := st.data ++ sliceLen a.data startOff (endOff - startOff), offs := offs1,
                      writeIndex := st.writeIndex + (endOff - startOff) } := by
  unfold keepRun at h
  cases hso : a.offsetFor s with
  | error e => rw [hso] at h; cases h
  | ok startOff =>
    cases heo : a.offsetFor (s + c) with
    | error e => rw [hso, heo] at h; cases h
    | ok endOff =>
      rw [hso, heo] at h
      simp only at h
      obtain ⟨_, h⟩ := Do.error_else_ok h
      obtain ⟨c2, h⟩ := Do.error_else_ok h
      cases hd : embedBytes dc st.data (sliceLen a.data startOff (endOff - startOff)) with
      | error e => rw [hd] at h; cases h
      | ok data1 =>
        cases ho : keepOffsets a t oc startOff st.writeIndex s c st.offs with
        | error e => rw [hd, ho] at h; cases h
        | ok offs1 =>
          rw [hd, ho] at h
          cases h
          rw [embedBytes_ok _ _ _ _ hd]
          exact ⟨startOff, endOff, offs1, rfl, rfl, Nat.le_of_not_lt c2, ho, rfl⟩

theorem buildOffsets_ok (a : OffsetArray) (t : OffsetType) (repl : List (Nat × Bytes)) (m dc oc : Nat)
    (data offs : Bytes) (h : buildOffsets a t repl m dc oc = .ok (data, offs)) :
    a.ascOk = true ∧ ∃ st, buildRuns a t dc oc (runsFor repl m)
        { data := [], offs := [], writeIndex := 0, repl := repl } = .ok st ∧
      st.data = data ∧ embedOffset t oc st.offs st.writeIndex = .ok offs := by
  unfold buildOffsets at h
  obtain ⟨hasc, h⟩ := Do.error_else_ok h
  cases hb : buildRuns a t dc oc (runsFor repl m) { data := [], offs := [], writeIndex := 0, repl := repl } with
  | error e => rw [hb] at h; cases h
  | ok st =>
    rw [hb] at h
    simp only at h
    cases ho : embedOffset t oc st.offs st.writeIndex with
    | error e => rw [ho] at h; cases h
    | ok o =>
      rw [ho] at h
      simp only [Except.ok.injEq, Prod.mk.injEq] at h
      exact ⟨by simpa using hasc, st, rfl, h.1, by rw [ho, h.2]⟩

theorem patchOffsetArray_ok (a : OffsetArray) (repl : List (Nat × Bytes)) (maxGid : Nat)
    (t : OffsetType) (data offs : Bytes) (h : patchOffsetArray a repl maxGid = .ok (t, data, offs)) :
    ∃ total, totalDataSize a repl maxGid = .ok total ∧ chooseOffsetType a total = .ok t ∧
      (match repl.getLast? with | some gd => gd.1 | none => 0) ≤ maxGid ∧
      buildOffsets a t repl maxGid total ((maxGid + 2) * t.width) = .ok (data, offs) := by
  unfold patchOffsetArray at h
  cases ht : totalDataSize a repl maxGid with
  | error e => rw [ht] at h; cases h
  | ok total =>
    rw [ht] at h
    simp only at h
    cases hc : chooseOffsetType a total with
    | error e => rw [hc] at h; cases h
    | ok t' =>
      rw [hc] at h
      simp only at h
      obtain ⟨hlast, h⟩ := Do.error_else_ok h
      cases hb : buildOffsets a t' repl maxGid total ((maxGid + 2) * t'.width) with
      | error e => rw [hb] at h; cases h
      | ok r =>
        rw [hb] at h
        cases h
        exact ⟨total, rfl, hc, Nat.le_of_not_lt hlast, hb⟩

theorem retainedSize_keep (a : OffsetArray) (s c R : Nat) (rest : List (Bool × Nat × Nat))
    (h : retainedSize a ((false, s, c) :: rest) = .ok R) :
    ∃ so eo R', a.offsetFor s = .ok so ∧ a.offsetFor (s + c) = .ok eo ∧
      retainedSize a rest = .ok R' ∧ R = eo - so + R' := by
  simp only [retainedSize] at h
  cases h1 : a.offsetFor s with
  | error e => rw [h1] at h; cases h
  | ok so =>
    cases h2 : a.offsetFor (s + c) with
    | error e => rw [h1, h2] at h; cases h
    | ok eo =>
      rw [h1, h2] at h
      simp only at h
      obtain ⟨hlt, h⟩ := Do.error_else_ok h
      cases h3 : retainedSize a rest with
      | error e => rw [h3] at h; cases h
      | ok R' =>
        rw [h3] at h
        simp only [Except.ok.injEq] at h
        exact ⟨so, eo, R', rfl, rfl, rfl, h.symm⟩

/-- "Check to see if the offset size needs to be upgraded": the current type if it fits, else the first
available type that fits -/
theorem chooseOffsetType_spec (a : OffsetArray) (total : Nat) (t : OffsetType)
    (h : chooseOffsetType a total = .ok t) :
    total ≤ t.maxRepresentable ∧
    (total ≤ a.offsetType.maxRepresentable → t = a.offsetType) ∧
    (a.offsetType.maxRepresentable < total →
      t ∈ a.available ∧ ∃ pre post, a.available = pre ++ t :: post ∧ ∀ c ∈ pre, c.maxRepresentable < total) := by
  unfold chooseOffsetType at h
  by_cases hgt : total > a.offsetType.maxRepresentable
  · simp only [hgt, if_true] at h
    cases hf : a.available.find? (fun c => decide (c.maxRepresentable ≥ total)) with
    | none => rw [hf] at h; cases h
    | some c =>
      rw [hf] at h
      simp only [Except.ok.injEq] at h
      subst h
      have h1 := List.find?_some hf
      simp only [decide_eq_true_eq] at h1
      obtain ⟨pre, post, hsplit, hpre⟩ := List.find?_eq_some_iff_append.mp hf |>.2
      refine ⟨h1, fun hle => by omega, fun _ => ⟨List.mem_of_find?_eq_some hf, pre, post, hsplit, ?_⟩⟩
      intro x hx
      have := hpre x hx
      simp only [Bool.not_eq_true', decide_eq_false_iff_not] at this
      omega
  · simp only [hgt, if_false, Except.ok.injEq] at h
    subst h
    exact ⟨by omega, fun _ => rfl, fun hlt => by omega⟩

theorem OffsetType.divisor_cases (t : OffsetType) : t.divisor = 1 ∨ t.divisor = 2 := by
  cases t <;> simp [OffsetType.divisor]

/-- `cur` is what is left of `repl` once all gids below `g` have been consumed -/
def SuffixAt (repl cur : List (Nat × Bytes)) (g : Nat) : Prop :=
  ∃ pre, repl = pre ++ cur ∧ (∀ x ∈ pre, x.1 < g) ∧ (∀ x ∈ cur, g ≤ x.1)

theorem suffixAt_start (repl : List (Nat × Bytes)) : SuffixAt repl repl 0 :=
  ⟨[], rfl, by simp, by simp⟩

theorem suffix_kept (repl cur : List (Nat × Bytes)) (g : Nat) (hs : SuffixAt repl cur g)
    (hr : isReplaced repl g = false) : SuffixAt repl cur (g + 1) := by
  obtain ⟨pre, he, hp, hc⟩ := hs
  refine ⟨pre, he, fun x hx => Nat.lt_succ_of_lt (hp x hx), ?_⟩
  intro x hx
  have hge := hc x hx
  have hne : x.1 ≠ g := by
    intro e
    have : isReplaced repl g = true := by
      simp only [isReplaced, List.any_eq_true, beq_iff_eq]
      exact ⟨x, by rw [he]; exact List.mem_append_right _ hx, e⟩
    rw [hr] at this; cases this
  omega

theorem suffix_kept_run (repl cur : List (Nat × Bytes)) (s c : Nat) (hs : SuffixAt repl cur s)
    (hf : ∀ i, i < c → isReplaced repl (s + i) = false) : SuffixAt repl cur (s + c) := by
  induction c with
  | zero => exact hs
  | succ c ih =>
    have := suffix_kept repl cur (s + c) (ih (fun i hi => hf i (by omega))) (hf c (by omega))
    exact this

theorem suffix_replaced (repl cur : List (Nat × Bytes)) (g : Nat) (hsort : SortedGids repl)
    (hs : SuffixAt repl cur g) (hr : isReplaced repl g = true) :
    ∃ d rest, cur = (g, d) :: rest ∧ repl.lookup g = some d ∧ SuffixAt repl rest (g + 1) := by
  obtain ⟨pre, he, hp, hc⟩ := hs
  obtain ⟨x, hx, hxg⟩ := isReplaced_true_mem repl g hr
  have hcs : SortedGids cur := by
    unfold SortedGids at *; rw [he] at hsort; exact (List.pairwise_append.mp hsort).2.1
  have hxc : x ∈ cur := by
    rw [he] at hx
    rcases List.mem_append.mp hx with h | h
    · have := hp x h; omega
    · exact h
  cases cur with
  | nil => cases hxc
  | cons y rest =>
    have hy : y.1 = g := by
      have hge := hc y (by simp)
      rcases List.mem_cons.mp hxc with h | h
      · rw [← h]; exact hxg
      · have := (List.pairwise_cons.mp hcs).1 x h; omega
    obtain ⟨yk, yd⟩ := y
    simp only at hy
    subst hy
    refine ⟨yd, rest, rfl, ?_, ?_⟩
    · rw [he, List.lookup_append, List.lookup_eq_none_iff.mpr (fun x hx => bne_iff_ne.mpr (Nat.ne_of_gt (hp x hx))),
        List.lookup_cons_self]
      rfl
    · refine ⟨pre ++ [(yk, yd)], by simp [he], ?_, ?_⟩
      · intro x hx
        rcases List.mem_append.mp hx with h | h
        · exact Nat.lt_succ_of_lt (hp x h)
        · simp only [List.mem_singleton] at h; subst h; exact Nat.lt_succ_self _
      · intro x hx
        have := (List.pairwise_cons.mp hcs).1 x hx
        simp only at this; omega

/-- a glyph that is kept lies inside the old data -/
def KeptOk (a : OffsetArray) (repl : List (Nat × Bytes)) (k : Nat) : Prop :=
  isReplaced repl k = false → k + 1 < a.offsets.length ∧ a.offsets.getD (k + 1) 0 ≤ a.data.length

/-- `st'` is `st` after the gids `g .. g + c - 1` have been written -/
structure Spliced (a : OffsetArray) (t : OffsetType) (repl : List (Nat × Bytes)) (st st' : BuildState) (g c : Nat) :
    Prop where
  data : st'.data = st.data ++ ((List.range' g c).map (chunkFor a t repl)).flatten
  offs : st'.offs = st.offs ++ encodeOffs t (startsFrom st.writeIndex ((List.range' g c).map (chunkFor a t repl)))
  writeIndex : st'.writeIndex = st.writeIndex + (((List.range' g c).map (chunkFor a t repl)).flatten).length
  suffix : SuffixAt repl st'.repl (g + c)
  kept : ∀ k ∈ List.range' g c, KeptOk a repl k

theorem Spliced.refl (a : OffsetArray) (t : OffsetType) (repl : List (Nat × Bytes)) (st : BuildState) (g : Nat)
    (hsuf : SuffixAt repl st.repl g) : Spliced a t repl st st g 0 :=
  ⟨by simp, by simp [startsFrom, encodeOffs], by simp, hsuf, by simp⟩

theorem Spliced.trans {a : OffsetArray} {t : OffsetType} {repl : List (Nat × Bytes)} {st st1 st2 : BuildState}
    {g c1 c2 : Nat} (h1 : Spliced a t repl st st1 g c1) (h2 : Spliced a t repl st1 st2 (g + c1) c2) :
    Spliced a t repl st st2 g (c1 + c2) := by
  obtain ⟨e1, e2, e3, _, k1⟩ := h1
  obtain ⟨r1, r2, r3, r4, k2⟩ := h2
  refine ⟨?_, ?_, ?_, by rw [← Nat.add_assoc]; exact r4, ?_⟩
  all_goals rw [← List.range'_append_1]
  · rw [r1, e1]; simp only [List.map_append, List.flatten_append, List.append_assoc]
  · rw [r2, e2, e3, List.map_append, startsFrom_append, encodeOffs_append]
    simp only [List.append_assoc]
  · rw [r3, e3, List.map_append, List.flatten_append, List.length_append]; omega
  · intro k hk
    exact (List.mem_append.mp hk).elim (k1 k) (k2 k)

theorem chunkFor_kept (a : OffsetArray) (t : OffsetType) (repl : List (Nat × Bytes)) (s c : Nat)
    (hf : ∀ i, i < c → isReplaced repl (s + i) = false) :
    (List.range' s c).map (chunkFor a t repl) = (List.range' s c).map (glyphAt a.offsets a.data) := by
  apply List.map_congr_left
  intro g hg
  have := List.mem_range'_1.mp hg
  have hr := hf (g - s) (by omega)
  rw [show s + (g - s) = g by omega] at hr
  simp [chunkFor, (isReplaced_eq_false_iff repl g).mp hr]

theorem replaceRun_spec (a : OffsetArray) (t : OffsetType) (dc oc : Nat) (repl : List (Nat × Bytes))
    (hsort : SortedGids repl) (c g : Nat) (st st' : BuildState)
    (hsuf : SuffixAt repl st.repl g) (hf : ∀ i, i < c → isReplaced repl (g + i) = true)
    (h : replaceRun t dc oc c st = .ok st') : Spliced a t repl st st' g c := by
  induction c generalizing g st with
  | zero =>
    simp only [replaceRun] at h; cases h
    exact Spliced.refl a t repl _ g hsuf
  | succ c ih =>
    simp only [replaceRun] at h
    split at h
    · cases h
    · rename_i st1 h1
      have hg : isReplaced repl g = true := by simpa using hf 0 (by omega)
      obtain ⟨d, rest, hcur, hlk, hsuf1⟩ := suffix_replaced repl st.repl g hsort hsuf hg
      obtain ⟨e1, e2, e3, e4⟩ := replaceOne_ok t dc oc st st1 g d rest hcur h1
      have hch : chunkFor a t repl g = padTo t d := by simp [chunkFor, hlk]
      have hstep : Spliced a t repl st st1 g 1 :=
        ⟨by simp [e1, hch], by simp [e2, hch, startsFrom], by simp [e3, hch], by rw [e4]; exact hsuf1,
          fun k hk hn => by
            rw [List.range'_one, List.mem_singleton] at hk
            rw [hk, hg] at hn; cases hn⟩
      rw [Nat.add_comm c 1]
      exact hstep.trans (ih (g + 1) st1 (by rw [e4]; exact hsuf1)
        (fun i hi => by rw [show g + 1 + i = g + (i + 1) by omega]; exact hf (i + 1) (by omega)) h)

theorem keepRun_spec (a : OffsetArray) (t : OffsetType) (dc oc : Nat) (repl : List (Nat × Bytes))
    (hasc : ascending a.offsets = true) (s c : Nat) (st st' : BuildState)
    (hsuf : SuffixAt repl st.repl s) (hf : ∀ i, i < c → isReplaced repl (s + i) = false)
    (h : keepRun a t dc oc s c st = .ok st') : Spliced a t repl st st' s c := by
  have hp := (ascending_iff _).mp hasc
  obtain ⟨startOff, endOff, offs1, hso, heo, hbound, ho, rfl⟩ := keepRun_ok a t dc oc s c st st' h
  obtain ⟨hl0, hs0⟩ := offsetFor_ok a s startOff hso
  obtain ⟨hl1, hs1⟩ := offsetFor_ok a (s + c) endOff heo
  have e2 := keepOffsets_ok _ _ _ _ _ _ _ _ _ ho
  -- every glyph of the run ends inside the data: the offsets ascend and the last one was checked
  have hin : ∀ k ∈ List.range' s c, k + 1 < a.offsets.length ∧ a.offsets.getD (k + 1) 0 ≤ a.data.length := by
    intro k hk
    obtain ⟨_, hk2⟩ := List.mem_range'_1.mp hk
    exact ⟨by omega, Nat.le_trans (getD_mono a.offsets hp (k + 1) (s + c) (by omega) hl1) (by rw [hs1]; exact hbound)⟩
  have hstep : ∀ i, s ≤ i → i < s + c → _ := fun i h1 h2 =>
    glyph_step a.offsets a.data hp i (hin i (List.mem_range'_1.mpr ⟨h1, h2⟩)).1 (hin i (List.mem_range'_1.mpr ⟨h1, h2⟩)).2
  obtain ⟨hstarts, hlast⟩ := starts_of_step (a.offsets.getD · 0) (glyphAt a.offsets a.data) c s (fun i h1 h2 => (hstep i h1 h2).1)
  have hslice := slice_of_step a.data (a.offsets.getD · 0) (glyphAt a.offsets a.data) c s hstep
  simp only [hs0, hs1] at hstarts hlast hslice
  have hlen : endOff - startOff = ((List.range' s c).map (glyphAt a.offsets a.data)).flatten.length := by
    rw [hlast, Nat.add_sub_cancel_left]
  constructor
  all_goals try rw [chunkFor_kept a t repl s c hf]
  · simp only [hlen, hslice]
  · have := startsFrom_rebase startOff st.writeIndex 0 ((List.range' s c).map (glyphAt a.offsets a.data))
    rw [Nat.add_zero, ← hstarts, List.map_map, Nat.zero_add] at this
    rw [e2, ← this]; rfl
  · simp only [hlen]
  · exact suffix_kept_run repl _ s c hsuf hf
  · exact fun k hk _ => hin k hk

theorem buildRuns_spec (a : OffsetArray) (t : OffsetType) (dc oc : Nat) (repl : List (Nat × Bytes))
    (hsort : SortedGids repl) (hasc : ascending a.offsets = true)
    (runs : List (Bool × Nat × Nat)) (g : Nat) (st st' : BuildState)
    (hruns : RunsOK (isReplaced repl) g runs) (hsuf : SuffixAt repl st.repl g)
    (h : buildRuns a t dc oc runs st = .ok st') : Spliced a t repl st st' g (runsCount runs) := by
  induction runs generalizing g st with
  | nil =>
    simp only [buildRuns] at h; cases h
    exact Spliced.refl a t repl _ g hsuf
  | cons r rest ih =>
    obtain ⟨b, s, c⟩ := r
    obtain ⟨hs, hconst, hrest⟩ := hruns
    subst hs
    show Spliced a t repl st st' s (c + runsCount rest)
    cases b with
    | true =>
      simp only [buildRuns] at h
      split at h
      · cases h
      · rename_i st1 h1
        have hrun := replaceRun_spec a t dc oc repl hsort c s st st1 hsuf hconst h1
        exact hrun.trans (ih (s + c) st1 hrest hrun.suffix h)
    | false =>
      simp only [buildRuns] at h
      split at h
      · cases h
      · rename_i st1 h1
        have hrun := keepRun_spec a t dc oc repl hasc s c st st1 hsuf hconst h1
        exact hrun.trans (ih (s + c) st1 hrest hrun.suffix h)

theorem replaceOne_step (t : OffsetType) (dc oc : Nat) (st st' : BuildState)
    (h : replaceOne t dc oc st = .ok st') :
    ∃ g d, st.repl = (g, d) :: st'.repl ∧ st'.writeIndex = st.writeIndex + paddedLen t d := by
  cases hr : st.repl with
  | nil => unfold replaceOne at h; rw [hr] at h; cases h
  | cons x more =>
    obtain ⟨g, d⟩ := x
    obtain ⟨_, _, e3, e4⟩ := replaceOne_ok t dc oc st st' g d more hr h
    exact ⟨g, d, by rw [e4], by rw [e3, padTo_length]⟩

/-- bytes still to come from the replacement iterator, on top of `w` -/
def pending (t : OffsetType) (l : List (Nat × Bytes)) (w : Nat) : Nat :=
  l.foldl (fun s gd => s + paddedLen t gd.2) w

theorem pending_cons (t : OffsetType) (g : Nat) (d : Bytes) (l : List (Nat × Bytes)) (w : Nat) :
    pending t ((g, d) :: l) w = pending t l (w + paddedLen t d) := rfl

theorem replaceRun_pending (t : OffsetType) (dc oc c r : Nat) (st st' : BuildState)
    (h : replaceRun t dc oc c st = .ok st') :
    pending t st'.repl (st'.writeIndex + r) = pending t st.repl (st.writeIndex + r) := by
  induction c generalizing st with
  | zero => simp only [replaceRun] at h; cases h; rfl
  | succ c ih =>
    simp only [replaceRun] at h
    cases h1 : replaceOne t dc oc st with
    | error e => rw [h1] at h; cases h
    | ok st1 =>
      rw [h1] at h
      obtain ⟨g, d, e1, e2⟩ := replaceOne_step t dc oc st st1 h1
      rw [ih st1 h, e1, e2, pending_cons, Nat.add_right_comm]

/-- step 1 and step 2 walk the same runs: what step 1 counted for them is what step 2 wrote -/
theorem buildRuns_pending (a : OffsetArray) (t : OffsetType) (dc oc : Nat) (runs : List (Bool × Nat × Nat))
    (st st' : BuildState) (R : Nat) (h : buildRuns a t dc oc runs st = .ok st')
    (hR : retainedSize a runs = .ok R) :
    pending t st'.repl st'.writeIndex = pending t st.repl (st.writeIndex + R) := by
  induction runs generalizing st R with
  | nil =>
    simp only [buildRuns] at h; cases h
    simp only [retainedSize, Except.ok.injEq] at hR; subst hR; rfl
  | cons run rest ih =>
    obtain ⟨b, s, c⟩ := run
    cases b with
    | true =>
      simp only [buildRuns] at h
      simp only [retainedSize] at hR
      cases h1 : replaceRun t dc oc c st with
      | error e => rw [h1] at h; cases h
      | ok st1 =>
        rw [h1] at h
        rw [ih st1 R h hR, replaceRun_pending t dc oc c R st st1 h1]
    | false =>
      simp only [buildRuns] at h
      obtain ⟨so, eo, R', h1, h2, h3, rfl⟩ := retainedSize_keep a s c R rest hR
      cases hk : keepRun a t dc oc s c st with
      | error e => rw [hk] at h; cases h
      | ok st1 =>
        rw [hk] at h
        obtain ⟨so', eo', _, k1, k2, _, _, rfl⟩ := keepRun_ok a t dc oc s c st st1 hk
        rw [h1] at k1; cases k1
        rw [h2] at k2; cases k2
        rw [ih _ R' h h3]
        simp only [Nat.add_assoc]

/-- the array's own `all_offsets_are_ascending()` is at least as strict as `ascending` over the whole
offset list: by definition for glyf/loca and gvar; the CFF INDEX implementation skips the last entry,
there it is a well-formedness condition on the base table (`cffArray_ascSound`, Lemmas/IftCff.lean). -/
def OffsetArray.AscSound (a : OffsetArray) : Prop := a.ascOk = true → ascending a.offsets = true

theorem chunk_len_div (a : OffsetArray) (t : OffsetType) (repl : List (Nat × Bytes)) (g : Nat)
    (hdiv : ∀ o ∈ a.offsets, o % t.divisor = 0) (hp : a.offsets.Pairwise (· ≤ ·)) (hk : KeptOk a repl g) :
    (chunkFor a t repl g).length % t.divisor = 0 := by
  unfold chunkFor
  cases hl : repl.lookup g with
  | some d =>
    simp only [padTo, List.length_append, List.length_replicate]
    rcases t.divisor_cases with e | e <;> rw [e] <;> omega
  | none =>
    obtain ⟨k1, k2⟩ := hk ((isReplaced_eq_false_iff repl g).mpr hl)
    have hstep := (glyph_step a.offsets a.data hp g k1 k2).1
    simp only
    rw [show (glyphAt a.offsets a.data g).length = a.offsets.getD (g + 1) 0 - a.offsets.getD g 0 by omega]
    exact mod_zero_sub _ _ _ (hdiv _ (mem_getD _ _ _ k1)) (hdiv _ (mem_getD _ _ _ (by omega)))

/-- on success no replacement lies beyond `maxGid` (needs no assumption on the offsets) -/
theorem patchOffsetArray_gids_le (a : OffsetArray) (repl : List (Nat × Bytes)) (maxGid : Nat)
    (hsort : SortedGids repl) (t : OffsetType) (data offs : Bytes)
    (h : patchOffsetArray a repl maxGid = .ok (t, data, offs)) : ∀ x ∈ repl, x.1 ≤ maxGid := by
  obtain ⟨total, _, _, hlast, _⟩ := patchOffsetArray_ok a repl maxGid t data offs h
  intro x hx
  cases hgl : repl.getLast? with
  | none => rw [List.getLast?_eq_none_iff] at hgl; subst hgl; cases hx
  | some y =>
    rw [hgl] at hlast
    simp only at hlast
    obtain ⟨pre, hpre⟩ := List.getLast?_eq_some_iff.mp hgl
    subst hpre
    rcases List.mem_append.mp hx with e | e
    · have := (List.pairwise_append.mp hsort).2.2 x e y (by simp)
      omega
    · simp only [List.mem_singleton] at e; subst e; exact hlast

/-- what a successful `patch_offset_array` (steps 0–2) produced: the new data is the concatenation of the
per-glyph chunks (padded replacement, or the old bytes) for gids `0..=m`, the new offset array encodes
`newOffsets` of these chunks in the chosen offset type -/
structure SpliceOk (a : OffsetArray) (repl : List (Nat × Bytes)) (m : Nat) (t : OffsetType) (data offs : Bytes) :
    Prop where
  data_eq : data = (chunks a t repl m).flatten
  offs_eq : offs = encodeOffs t (newOffsets (chunks a t repl m))
  gids_le : ∀ x ∈ repl, x.1 ≤ m
  fits : ∀ o ∈ newOffsets (chunks a t repl m), o / t.divisor + t.bias < 2 ^ (t.width * 8)
  aligned : (∀ o ∈ a.offsets, o % t.divisor = 0) → ∀ o ∈ newOffsets (chunks a t repl m), o % t.divisor = 0
  chosen : ∃ total, totalDataSize a repl m = .ok total ∧ chooseOffsetType a total = .ok t
  /-- `total_data_size` (step 1) is exactly the length of the data step 2 builds, when the divisor — hence
  the padding — is that of the current offset type -/
  total_exact : t.divisor = a.offsetType.divisor → totalDataSize a repl m = .ok data.length

theorem patchOffsetArray_spec (a : OffsetArray) (repl : List (Nat × Bytes)) (m : Nat)
    (hA : a.AscSound) (hsort : SortedGids repl) (t : OffsetType) (data offs : Bytes)
    (h : patchOffsetArray a repl m = .ok (t, data, offs)) : SpliceOk a repl m t data offs := by
  obtain ⟨total, ht, hc, _, hb⟩ := patchOffsetArray_ok a repl m t data offs h
  obtain ⟨hasc, st, hbr, rfl, ho⟩ := buildOffsets_ok a t repl m _ _ data offs hb
  have hle := patchOffsetArray_gids_le a repl m hsort t st.data offs h
  have hpw := (ascending_iff _).mp (hA hasc)
  have hr := groupRuns_ok (isReplaced repl) (m + 1) 0
  have hbr' := hbr
  rw [runsFor_eq] at hbr'
  obtain ⟨r1, r2, r3, ⟨pre, hpre, _, hcur⟩, hkept⟩ :=
    buildRuns_spec a t _ _ repl hsort (hA hasc) _ 0 _ st hr.1 (suffixAt_start repl) hbr'
  rw [hr.2] at r1 r2 r3 hcur hkept
  simp only [List.nil_append, Nat.zero_add] at r1 r2 r3
  change st.data = (chunks a t repl m).flatten at r1
  change st.offs = encodeOffs t (startsFrom 0 (chunks a t repl m)) at r2
  change st.writeIndex = (chunks a t repl m).flatten.length at r3
  obtain ⟨e, ebound⟩ := embedOffset_ok _ _ _ _ _ ho
  rw [r3] at ebound
  refine ⟨r1, by rw [e, r2, r3, ← encodeOffs_append]; rfl, hle, ?_, ?_, ⟨total, ht, hc⟩, ?_⟩
  · -- the builder checks only the last (largest) offset against the chosen width
    intro o ho
    have := Nat.div_le_div_right (c := t.divisor) (newOffsets_le_last _ o ho)
    omega
  · -- replacements are padded, kept glyphs lie between old offsets
    intro hdiv
    apply newOffsets_div
    intro c hc
    obtain ⟨g, hg, he⟩ := List.mem_iff_getElem.mp hc
    rw [chunks_getElem] at he
    rw [chunks_length] at hg
    rw [← he]
    exact chunk_len_div a t repl g hdiv hpw (hkept g (List.mem_range'_1.mpr ⟨Nat.zero_le _, by omega⟩))
  · -- every replacement has been consumed, so the write index is all of step 1's total
    intro hdiv
    have hnil : st.repl = [] := List.eq_nil_iff_forall_not_mem.mpr fun x hx => by
      have h1 := hcur x hx
      have h2 := hle x (by rw [hpre]; exact List.mem_append_right _ hx)
      omega
    rw [ht]
    unfold totalDataSize at ht
    cases hR : retainedSize a (runsFor repl m) with
    | error e => rw [hR] at ht; cases ht
    | ok R =>
      rw [hR] at ht
      simp only [Except.ok.injEq] at ht
      have hp := buildRuns_pending a t _ _ _ _ st R hbr hR
      rw [hnil] at hp
      simp only [pending, List.foldl_nil, Nat.zero_add, paddedLen, hdiv] at hp
      simp only [paddedLen] at ht
      rw [← ht, ← hp, r3, r1]

end FontVerif.Ift
