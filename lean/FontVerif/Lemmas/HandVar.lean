/-
What each function of Model/HandVar.lean does, one statement per function: `Sat r E P` (no panic, errors in `E`,
values in `P`) for the readers and walks, `SatIf A r P` (a panic only if `A` fails) for the delta accumulation, an
equation where the function is a reader or iterator of C11's Model/Tent with a representable panic (`dsimGet_eq`,
`itemDeltasGo_eq`, `deltaRowLen_some`), a closed form for the header reader (`tvhRead_eq`).  Props/C01HandVar.lean projects its theorems from these.
-/
import FontVerif.Lemmas.HandRead
import FontVerif.Lemmas.ReadIterBounds
import FontVerif.Lemmas.DeltaLemmas
import FontVerif.Model.HandVar
set_option linter.unusedVariables false
namespace FontVerif.C01HandVar
open FontVerif.ReadIter FontVerif.HandRead FontVerif.HandVar

/-- `r` is no panic, its errors satisfy `E` and its values `P` -/
def Sat {α : Type} (r : R α) (E : VErr → Prop) (P : α → Prop) : Prop :=
  r ≠ .trap ∧ (∀ e, r = .err e → E e) ∧ ∀ a, r = .ok a → P a

theorem Sat.ok {α : Type} {E : VErr → Prop} {P : α → Prop} {a : α} (h : P a) : Sat (.ok a) E P :=
  ⟨nofun, nofun, fun _ h' => R.ok.inj h' ▸ h⟩

theorem Sat.err {α : Type} {E : VErr → Prop} {P : α → Prop} {e : VErr} (h : E e) : Sat (.err e : R α) E P :=
  ⟨nofun, fun _ h' => R.err.inj h' ▸ h, nofun⟩

@[elab_as_elim] theorem Sat.cases {α : Type} {E : VErr → Prop} {P : α → Prop} {motive : R α → Prop} {r : R α}
    (h : Sat r E P) (err : ∀ e, r = .err e → E e → motive (.err e)) (ok : ∀ a, r = .ok a → P a → motive (.ok a)) :
    motive r := by
  cases r with
  | trap => exact absurd rfl h.1
  | err e => exact err e rfl (h.2.1 e rfl)
  | ok a => exact ok a rfl (h.2.2 a rfl)

/-- `r` panics only if `A` fails and errs only with `OutOfBounds`; an `Option` whose `none` is the panic
is read through `unwrapR` -/
def SatIf {α : Type} (A : Prop) (r : R α) (P : α → Prop) : Prop :=
  (A → r ≠ .trap) ∧ (∀ e, r = .err e → e = .oob) ∧ ∀ a, r = .ok a → P a

theorem SatIf.ok {α : Type} {A : Prop} {P : α → Prop} {a : α} (h : P a) : SatIf A (.ok a) P :=
  ⟨fun _ => nofun, nofun, fun _ h' => R.ok.inj h' ▸ h⟩

theorem SatIf.oob {α : Type} {A : Prop} {P : α → Prop} : SatIf A (.err .oob : R α) P :=
  ⟨fun _ => nofun, fun _ h' => (R.err.inj h').symm, nofun⟩

theorem SatIf.trap {α : Type} {A : Prop} {P : α → Prop} (h : ¬ A) : SatIf A (.trap : R α) P :=
  ⟨fun a => absurd a h, nofun, nofun⟩

@[elab_as_elim] theorem SatIf.cases {α : Type} {A : Prop} {P : α → Prop} {motive : R α → Prop} {r : R α}
    (h : SatIf A r P) (trap : ¬ A → motive .trap) (err : motive (.err .oob))
    (ok : ∀ a, P a → motive (.ok a)) : motive r := by
  cases r with
  | trap => exact trap fun a => h.1 a rfl
  | err e => exact h.2.1 e rfl ▸ err
  | ok a => exact ok a (h.2.2 a rfl)

@[elab_as_elim] theorem SatIf.casesOpt {α : Type} {A : Prop} {P : α → Prop} {motive : Option α → Prop}
    {o : Option α} (h : SatIf A (unwrapR o) P) (none : ¬ A → motive none) (some : ∀ a, P a → motive (some a)) :
    motive o := by
  cases o with
  | none => exact none fun a => h.1 a rfl
  | some a => exact some a (h.2.2 a rfl)

theorem SatIf.imp {α : Type} {A A' : Prop} {r : R α} {P : α → Prop} (h : SatIf A r P) (f : A' → A) : SatIf A' r P :=
  ⟨fun a => h.1 (f a), h.2⟩

theorem unwrapR_ok {α : Type} {o : Option α} {a : α} (h : unwrapR o = .ok a) : o = some a := by
  cases o with
  | none => cases h
  | some b => exact congrArg some (R.ok.inj h)

/-! ## unchecked `usize` arithmetic; bytes, `i16` / `i32` values, the statements of the C20 kernels -/

theorem uadd_some (a b : Nat) (h : a + b ≤ MAXU) : uadd a b = some (a + b) := if_pos h

/-- the last hypothesis is about numerals: `by decide` -/
theorem uadd_some_of_le {a b A B : Nat} (ha : a ≤ A) (hb : b ≤ B) (h : A + B ≤ MAXU) :
    uadd a b = some (a + b) :=
  if_pos (Nat.le_trans (Nat.add_le_add ha hb) h)

theorem umul_some_of_le {a b A B : Nat} (ha : a ≤ A) (hb : b ≤ B) (h : A * B ≤ MAXU) :
    umul a b = some (a * b) :=
  if_pos (Nat.le_trans (Nat.mul_le_mul ha hb) h)

def Bytes (d : List Nat) : Prop := ∀ b ∈ d, b < 256

def I16 (x : Int) : Prop := -32768 ≤ x ∧ x ≤ 32767

def I32 (x : Int) : Prop := -2147483648 ≤ x ∧ x ≤ 2147483647

theorem toI16_I16 (v : Nat) (h : v < 65536) : I16 (toI16 v) := by
  unfold toI16 I16; split <;> omega

theorem fxFromI32_some (v : Int) : ∃ f, Checked.fxFromI32 v = some f ∧ I32 f := by
  refine ⟨Checked.i32.wrap (v * 2 ^ (16 : Int).toNat), by simp [Checked.fxFromI32, Checked.IntTy.shl, Checked.i32], ?_⟩
  simp only [Checked.IntTy.wrap, Checked.i32, I32]
  omega

/-- the statement of C20's `fxMul_no_trap` -/
def FxMulTotal : Prop := ∀ a b, I32 a → I32 b → (Checked.fxMul a b).isSome

/-- the statement of C20's `computeDelta_no_trap` (proved there for `i16` coordinates) for fixed coordinates -/
def DeltaKernelTotal (coords : List Int) : Prop :=
  ∀ cols : List (List (Int × Int × Int) × Int),
    (∀ col ∈ cols, (∀ a ∈ col.1, I16 a.1 ∧ I16 a.2.1 ∧ I16 a.2.2) ∧ I32 col.2) → cols.length ≤ 65535 →
    (Checked.computeDelta cols coords).isSome

/-- the statement of C20's `avarApply_no_trap` for a fixed coordinate -/
def AvarKernelTotal (coord : Int) : Prop :=
  ∀ maps : List (Int × Int), (∀ m ∈ maps, I16 m.1 ∧ I16 m.2) → (Checked.avarApply maps coord).isSome

/-! ## `TupleVariationHeader` -/

theorem tupleLen_le (ti ac f : Nat) : tupleLen ti ac f ≤ ac := by
  unfold tupleLen
  split <;> split <;> simp

theorem tupleLen_embedded (ti ac : Nat) : tupleLen ti ac 0 = if tiEmbedded ti then ac else 0 := by
  unfold tupleLen; simp; split <;> simp

theorem tupleLen_inter (ti ac : Nat) : tupleLen ti ac 1 = if tiInter ti then ac else 0 := by
  unfold tupleLen; simp; split <;> simp

theorem tupleLen_embedded_mul (ti ac k : Nat) : (if tiEmbedded ti then k * ac else 0) = k * tupleLen ti ac 0 := by
  rw [tupleLen_embedded]; split <;> rfl

theorem tupleLen_inter_mul (ti ac k : Nat) : (if tiInter ti then k * ac else 0) = k * tupleLen ti ac 1 := by
  rw [tupleLen_inter]; split <;> rfl

/-- for a `u16` axis count nothing overflows or saturates: the reader checks `4 + peak + 2 · intermediate ≤ len` -/
theorem tvhRead_eq (d : List Nat) {ac : Nat} (hac : ac ≤ 65535) :
    tvhRead d ac = match readAt d 2 2 with
      | none => none
      | some ti =>
        if 4 + tupleLen ti ac 0 * 2 + tupleLen ti ac 1 * 2 + tupleLen ti ac 1 * 2 ≤ d.length then
          some ⟨d, tupleLen ti ac 0 * 2, tupleLen ti ac 1 * 2, tupleLen ti ac 1 * 2⟩
        else none := by
  unfold tvhRead
  cases readAt d 2 2 with
  | none => rfl
  | some ti =>
    have t0 := Nat.le_trans (tupleLen_le ti ac 0) hac
    have t1 := Nat.le_trans (tupleLen_le ti ac 1) hac
    have b0 := Nat.mul_le_mul_right 2 t0
    have b1 := Nat.mul_le_mul_right 2 t1
    simp only [checkedMul_of_bounds t0 (Nat.le_refl 2) (by decide), checkedMul_of_bounds t1 (Nat.le_refl 2) (by decide)]
    rw [satAdd_of_bounds (Nat.le_refl 4) b0 (by decide), satAdd_of_bounds (Nat.add_le_add_left b0 4) b1 (by decide),
      satAdd_of_bounds (Nat.add_le_add (Nat.add_le_add_left b0 4) b1) b1 (by decide)]

theorem tvhRead_some {d : List Nat} {ac : Nat} {h : Hdr} (hac : ac ≤ 65535) (hr : tvhRead d ac = some h) :
    ∃ ti, readAt d 2 2 = some ti ∧ h.data = d ∧
      h.peakLen = tupleLen ti ac 0 * 2 ∧ h.isLen = tupleLen ti ac 1 * 2 ∧ h.ieLen = h.isLen ∧
      4 + h.peakLen + h.isLen + h.ieLen ≤ d.length := by
  rw [tvhRead_eq d hac] at hr
  cases hti : readAt d 2 2 with
  | none => rw [hti] at hr; cases hr
  | some ti =>
    simp only [hti] at hr
    split at hr
    · rename_i hle
      cases hr
      exact ⟨ti, rfl, rfl, rfl, rfl, rfl, hle⟩
    · cases hr

@[simp] theorem tupleVals_length (d : List Nat) (a n : Nat) : (tupleVals d a n).length = n := by
  simp [tupleVals]

theorem tupleVals_I16 (d : List Nat) (hb : Bytes d) (a n : Nat) : ∀ v ∈ tupleVals d a n, I16 v := by
  intro v hv
  simp only [tupleVals, List.mem_map, List.mem_range] at hv
  obtain ⟨i, _, rfl⟩ := hv
  exact toI16_I16 _ (beAt2_lt d hb _)

theorem tupleAt_some (d : List Nat) (a n : Nat) (h : a + n * 2 ≤ d.length) :
    tupleAt d (some (a, a + n * 2)) = .some (tupleVals d a n) := by
  simp only [tupleAt, readArray_of_le d a n 2 h (by omega)]

theorem tupleIte_length {c : Prop} [Decidable c] {d : List Nat} {a ac : Nat} {v : List Int}
    (h : (if c then TupR.some (tupleVals d a ac) else TupR.none) = .some v) : v.length = ac := by
  by_cases hc : c
  · rw [if_pos hc] at h; cases h; exact tupleVals_length _ _ _
  · rw [if_neg hc] at h; cases h

theorem hdr_getters {d : List Nat} {ac : Nat} {h : Hdr} (hac : ac ≤ 65535) (hr : tvhRead d ac = some h) :
    ∃ ti, h.ti = some ti ∧ (∃ sz, h.size = some sz) ∧
      h.peakTuple = (if tiEmbedded ti then .some (tupleVals d 4 ac) else .none) ∧
      h.interStartTuple = (if tiInter ti then .some (tupleVals d (4 + h.peakLen) ac) else .none) ∧
      h.interEndTuple = (if tiInter ti then .some (tupleVals d (4 + h.peakLen + h.isLen) ac) else .none) ∧
      h.interTuples = (if tiInter ti then .some (tupleVals d (4 + h.peakLen) ac)
          (tupleVals d (4 + h.peakLen + h.isLen) ac) else .none) ∧
      h.byteLen ac = some (4 + h.peakLen + h.isLen + h.ieLen) ∧
      4 + h.peakLen + h.isLen + h.ieLen ≤ d.length := by
  obtain ⟨ti, hti, hd, hpk, his, hie, e3⟩ := tvhRead_some hac hr
  have b0 : h.peakLen ≤ 65535 * 2 := hpk ▸ Nat.mul_le_mul_right 2 (Nat.le_trans (tupleLen_le ti ac 0) hac)
  have b1 : h.isLen ≤ 65535 * 2 := his ▸ Nat.mul_le_mul_right 2 (Nat.le_trans (tupleLen_le ti ac 1) hac)
  have e2 : 4 + h.peakLen + h.isLen ≤ d.length := Nat.le_trans (Nat.le_add_right _ _) e3
  have e1 : 4 + h.peakLen ≤ d.length := Nat.le_trans (Nat.le_add_right _ _) e2
  have e0 : 4 ≤ d.length := Nat.le_trans (Nat.le_add_right _ _) e1
  have hTi : h.ti = some ti := by rw [Hdr.ti, hd]; exact hti
  have hpr : h.peakRange = some (4, 4 + h.peakLen) := by
    rw [Hdr.peakRange, uadd_some_of_le (Nat.le_refl 4) b0 (by decide)]; rfl
  have hisr : h.isRange = some (4 + h.peakLen, 4 + h.peakLen + h.isLen) := by
    simp only [Hdr.isRange, hpr, uadd_some_of_le (Nat.add_le_add_left b0 4) b1 (by decide), Option.map]
  have hier : h.ieRange = some (4 + h.peakLen + h.isLen, 4 + h.peakLen + h.isLen + h.ieLen) := by
    simp only [Hdr.ieRange, hisr,
      uadd_some_of_le (Nat.add_le_add (Nat.add_le_add_left b0 4) b1) (hie ▸ b1) (by decide), Option.map]
  have hIs : tiInter ti = true → tupleAt h.data h.isRange = .some (tupleVals d (4 + h.peakLen) ac) := by
    intro hi
    rw [tupleLen_inter, if_pos hi] at his
    rw [hisr, hd, his]
    exact tupleAt_some d _ ac (his ▸ e2)
  have hIe : tiInter ti = true → tupleAt h.data h.ieRange = .some (tupleVals d (4 + h.peakLen + h.isLen) ac) := by
    intro hi
    rw [tupleLen_inter, if_pos hi] at his
    rw [hier, hd, hie, his]
    exact tupleAt_some d _ ac (his ▸ hie ▸ e3)
  refine ⟨ti, hTi, ?_, ?_, ?_, ?_, ?_, ?_, e3⟩
  · exact ⟨_, by rw [Hdr.size, hd]; exact readAt_some d 0 2 (Nat.le_trans (by decide) e0) (by decide)⟩
  · rw [Hdr.peakTuple, hTi]; simp only []
    split
    · rename_i he
      rw [tupleLen_embedded, if_pos he] at hpk
      rw [hpr, hd, hpk]
      exact tupleAt_some d 4 ac (hpk ▸ e1)
    · rfl
  · rw [Hdr.interStartTuple, hTi]; exact ite_congr rfl hIs fun _ => rfl
  · rw [Hdr.interEndTuple, hTi]; exact ite_congr rfl hIe fun _ => rfl
  · rw [Hdr.interTuples, hTi]; exact ite_congr rfl (fun hi => by rw [hIs hi, hIe hi]) fun _ => rfl
  · -- `2·ac` and `2·ac·2` under the flags are the stored lengths
    have t0 := Nat.le_trans (tupleLen_le ti ac 0) hac
    have t1 := Nat.le_trans (tupleLen_le ti ac 1) hac
    rw [Hdr.byteLen, hTi]
    simp only [umul_some_of_le (Nat.le_refl 2) hac (by decide),
      umul_some_of_le (Nat.mul_le_mul_left 2 hac) (Nat.le_refl 2) (by decide), Nat.mul_right_comm 2 ac 2,
      tupleLen_embedded_mul]
    rw [uadd_some_of_le (Nat.le_refl 4) (Nat.mul_le_mul_left 2 t0) (by decide)]
    simp only [tupleLen_inter_mul]
    rw [uadd_some_of_le (Nat.add_le_add_left (Nat.mul_le_mul_left 2 t0) 4) (Nat.mul_le_mul_left (2 * 2) t1)
      (by decide), hpk, his, hie]
    congr 1
    omega

/-! ## `TupleVariationHeaderIter` -/

theorem tvhNext_eq (n ac : Nat) (hac : ac ≤ 65535) (hn : n ≤ 4095) (s : HSt) (hi : s.current ≤ n) :
    (s.current = n ∧ tvhNext n ac s = (.done, s)) ∨
    (s.current ≠ n ∧ ∃ nl, nl ≤ s.data.length ∧ (∀ h, tvhRead s.data ac = some h → 4 ≤ nl) ∧
      tvhNext n ac s = (.yield (tvhRead s.data ac), ⟨s.data.drop nl, s.current + 1⟩)) := by
  unfold tvhNext
  by_cases hc : s.current = n
  · exact Or.inl ⟨hc, if_pos hc⟩
  · refine Or.inr ⟨hc, ?_⟩
    rw [if_neg hc, uadd_some_of_le (Nat.le_trans hi hn) (Nat.le_refl 1) (by decide)]
    cases hr : tvhRead s.data ac with
    | none =>
      exact ⟨0, Nat.zero_le _, nofun, by simp only [splitOff, Nat.zero_le, if_true]⟩
    | some h =>
      obtain ⟨_, _, _, _, _, _, _, hbl, hlen⟩ := hdr_getters hac hr
      exact ⟨_, hlen, fun _ _ => by omega, by simp only [hbl, splitOff, hlen, if_true]⟩

/-- number of `Ok` headers in a trace -/
def okHeaders (evs : List (Out (Option Hdr))) : Nat := ((items evs).filter (·.isSome)).length

theorem weight_okHeaders (evs : List (Out (Option Hdr))) :
    weight (fun o : Option Hdr => 4 * o.toList.length) evs = 4 * okHeaders evs := by
  unfold weight okHeaders
  generalize items evs = l
  induction l with
  | nil => rfl
  | cons a r ih => cases a <;> simp [List.filter, ih] <;> omega

/-! ## `TupleVariationIter` -/

theorem tvcCount_le (b : Nat) : tvcCount b ≤ 4095 := by
  unfold tvcCount; omega

def TInv (p : TVD) (s : TSt) : Prop :=
  s.current ≤ tvcCount p.countBits ∧ s.h.current ≤ tvcCount p.countBits

theorem tvNext_facts (p : TVD) (hac : p.ac ≤ 65535) (s : TSt) (hi : TInv p s) :
    TInv p (tvNext p s).2 ∧ (tvNext p s).1 ≠ .trap ∧
    ((tvNext p s).1 ≠ .done → (tvNext p s).2.current = s.current + 1 ∧ s.current < tvcCount p.countBits) ∧
    (∃ k, (tvNext p s).2.h.data = s.h.data.drop k) ∧ (tvNext p s).2.ser.length ≤ s.ser.length ∧
    (∀ t, (tvNext p s).1 = .yield t →
      tvhRead s.h.data p.ac = some t.hdr ∧
      (tvNext p s).2.h.data.length + 4 ≤ s.h.data.length ∧
      t.varData.length + (tvNext p s).2.ser.length = s.ser.length) := by
  obtain ⟨hi1, hi2⟩ := hi
  have hcnt := tvcCount_le p.countBits
  unfold tvNext
  simp only []
  by_cases hc : tvcCount p.countBits = s.current
  · rw [if_pos hc]
    exact ⟨⟨hi1, hi2⟩, nofun, fun h => absurd rfl h, ⟨0, rfl⟩, Nat.le_refl _, nofun⟩
  · have hlt : s.current < tvcCount p.countBits := Nat.lt_of_le_of_ne hi1 (Ne.symm hc)
    rw [if_neg hc, uadd_some_of_le (Nat.le_trans hi1 hcnt) (Nat.le_refl 1) (by decide)]
    rcases tvhNext_eq _ p.ac hac hcnt s.h hi2 with ⟨_, e⟩ | ⟨hn, nl, h1, h2, e⟩ <;> simp only [e]
    · exact ⟨⟨hlt, hi2⟩, nofun, fun h => absurd rfl h, ⟨0, rfl⟩, Nat.le_refl _, nofun⟩
    · -- whatever becomes of the header, both counters stay below the count
      have hI : TInv p ⟨s.current + 1, ⟨s.h.data.drop nl, s.h.current + 1⟩, s.ser⟩ :=
        ⟨hlt, Nat.lt_of_le_of_ne hi2 hn⟩
      cases hr : tvhRead s.h.data p.ac with
      | none => exact ⟨hI, nofun, fun h => absurd rfl h, ⟨nl, rfl⟩, Nat.le_refl _, nofun⟩
      | some hdr =>
        obtain ⟨_, _, ⟨sz, hsz⟩, _⟩ := hdr_getters hac hr
        simp only [hsz, takeUpTo]
        by_cases hgt : sz > s.ser.length
        · simp only [if_pos hgt]
          exact ⟨hI, nofun, fun h => absurd rfl h, ⟨nl, rfl⟩, Nat.le_refl _, nofun⟩
        · simp only [if_neg hgt]
          refine ⟨hI, nofun, fun _ => ⟨trivial, hlt⟩, ⟨nl, rfl⟩, by simp only [List.length_drop]; omega, ?_⟩
          intro t ht
          cases Out.yield.inj ht
          have := h2 hdr hr
          simp only [List.length_take, List.length_drop]
          exact ⟨trivial, by omega, by omega⟩

/-- every header that `tuples()` yields was read from a suffix of the header data (so it is no longer than the
header data and holds bytes if that does) -/
theorem tuples_iter_suffix (p : TVD) (hac : p.ac ≤ 65535) (evs : List (Out TV)) (he : tvTrace p = some evs) :
    ∀ t ∈ items evs, ∃ k, tvhRead (p.headerData.drop k) p.ac = some t.hdr :=
  items_all (tvNext p) (fun s => TInv p s ∧ ∃ k, s.h.data = p.headerData.drop k)
    (fun t => ∃ k, tvhRead (p.headerData.drop k) p.ac = some t.hdr)
    (fun s hi => ⟨(tvNext_facts p hac s hi.1).1, by
      obtain ⟨k, hk⟩ := (tvNext_facts p hac s hi.1).2.2.2.1
      obtain ⟨j, hj⟩ := hi.2
      exact ⟨j + k, by rw [hk, hj, List.drop_drop]⟩⟩)
    (fun s a hi hy => by
      obtain ⟨j, hj⟩ := hi.2
      exact ⟨j, hj ▸ ((tvNext_facts p hac s hi.1).2.2.2.2.2 a hy).1⟩)
    _ _ _ ⟨⟨Nat.zero_le _, Nat.zero_le _⟩, 0, rfl⟩ he

/-! ## `TupleVariation` accessors -/

theorem sharedTupleGet_facts (sd : List Nat) (ac idx : Nat) (v : List Int) (h : sharedTupleGet sd ac idx = some v) :
    v.length = ac ∧ (Bytes sd → ∀ x ∈ v, I16 x) ∧
    ∃ off, off + 2 * ac ≤ sd.length ∧ off = idx * (2 * ac) := by
  unfold sharedTupleGet at h
  cases hc : compGet sd.length (2 * ac) idx with
  | none => rw [hc] at h; cases h
  | some off =>
    rw [hc] at h
    cases h
    exact ⟨tupleVals_length _ _ _, fun hb => tupleVals_I16 sd hb off ac, off, (compGet_eq_some hc).2, (compGet_eq_some hc).1⟩

theorem peak_facts (p : TVD) (t : TV) (d' : List Nat) (hac : p.ac ≤ 65535) (hr : tvhRead d' p.ac = some t.hdr) :
    ∃ v, t.peak p = some v ∧ (v.length = p.ac ∨ v = []) ∧
      (Bytes d' → (∀ sd, p.shared = some sd → Bytes sd) → ∀ x ∈ v, I16 x) := by
  obtain ⟨ti, hTi, _, hpk, _⟩ := hdr_getters hac hr
  unfold TV.peak
  rw [hTi]
  simp only []
  cases hfs : peakShared p ti with
  | some v =>
    simp only []
    have : ∃ idx sd, p.shared = some sd ∧ sharedTupleGet sd p.ac idx = some v := by
      unfold peakShared at hfs
      split at hfs
      · rename_i idx sd h1 h2; exact ⟨idx, sd, h2, hfs⟩
      · cases hfs
    obtain ⟨idx, sd, hsd, hg⟩ := this
    obtain ⟨h1, h2, _⟩ := sharedTupleGet_facts sd p.ac idx v hg
    exact ⟨v, rfl, Or.inl h1, fun _ hs => h2 (hs sd hsd)⟩
  | none =>
    simp only []
    rw [hpk]
    by_cases he : tiEmbedded ti = true
    · rw [if_pos he]
      exact ⟨_, rfl, Or.inl (by simp), fun hb _ => tupleVals_I16 d' hb 4 p.ac⟩
    · rw [if_neg he]
      exact ⟨[], rfl, Or.inr rfl, fun _ _ x hx => by simp at hx⟩

theorem splitOffFront_some (d : List Nat) : ∃ r, splitOffFront d = some (d, r) ∧ r.length ≤ d.length := by
  unfold splitOffFront
  obtain ⟨tl, htl⟩ := C01Iter.totalLen_some d
  rw [htl]
  simp only []
  refine ⟨_, rfl, ?_⟩
  split
  · simp
  · simp

theorem pointsAndDeltas_some (p : TVD) (t : TV) (d' : List Nat) (hac : p.ac ≤ 65535)
    (hr : tvhRead d' p.ac = some t.hdr) :
    ∃ pd dd, t.pointsAndDeltas p = some (pd, dd) ∧ dd.length ≤ t.varData.length := by
  obtain ⟨ti, hTi, _⟩ := hdr_getters hac hr
  unfold TV.pointsAndDeltas
  rw [hTi]
  simp only []
  split
  · obtain ⟨r, hr', hl⟩ := splitOffFront_some t.varData
    exact ⟨_, r, hr', hl⟩
  · exact ⟨_, _, rfl, Nat.le_refl _⟩

theorem hasAll_some (p : TVD) (t : TV) (d' : List Nat) (hac : p.ac ≤ 65535)
    (hr : tvhRead d' p.ac = some t.hdr) : ∃ b, t.hasDeltasForAllPoints p = some b := by
  obtain ⟨ti, hTi, _⟩ := hdr_getters hac hr
  unfold TV.hasDeltasForAllPoints
  rw [hTi]
  simp only []
  split
  · exact ⟨_, rfl⟩
  · split <;> exact ⟨_, rfl⟩

theorem f32_no_trap (p : TVD) (t : TV) (d' : List Nat) (hac : p.ac ≤ 65535)
    (hr : tvhRead d' p.ac = some t.hdr) (coords : List Int) : ∃ b, t.computeScalarF32 p coords = .ok b := by
  obtain ⟨v, hv, _⟩ := peak_facts p t d' hac hr
  obtain ⟨ti, hTi, _, hpk, his, hie, _⟩ := hdr_getters hac hr
  unfold TV.computeScalarF32
  rw [hv, his, hie]
  by_cases hi : tiInter ti = true
  · rw [if_pos hi, if_pos hi]
    simp only []
    split <;> exact ⟨_, rfl⟩
  · rw [if_neg hi, if_neg hi]
    simp only []
    split <;> exact ⟨_, rfl⟩

/-! ## `TupleVariation::deltas` with shared point numbers -/

theorem tdInit2_some (pd dd : List Nat) (isPoint : Bool) :
    ∃ s, tdInit2 pd dd isPoint = some s ∧ C01Iter.TdInv s ∧ C01Iter.muTd s < tdFuel dd := by
  unfold tdInit2
  obtain ⟨total, ht, hb⟩ := C01Iter.tdTotal_some pd dd isPoint
  simp only [ht]
  cases isPoint with
  | true =>
    obtain ⟨ys, hys⟩ := C01Iter.skipFastLoop_some dd (total / 2) (dd.length + 2) (total / 2)
      (dlInit (some total)) (by simp [dlInit])
    simp only [if_true, skipFast, hys]
    exact ⟨_, rfl, C01Iter.tdStart_ok dd _ _ _ _ (C01Iter.firstPoint_ok pd) (by omega)⟩
  | false =>
    simp only [Bool.false_eq_true, if_false]
    exact ⟨_, rfl, C01Iter.tdStart_ok dd _ _ _ _ (C01Iter.firstPoint_ok pd) hb⟩

theorem deltas_run (pd dd : List Nat) (isPoint : Bool) :
    ∃ s evs, tdInit2 pd dd isPoint = some s ∧ run (tdStep pd dd) (tdFuel dd) s = some evs ∧
      evs.length ≤ 128 * dd.length + 131204 ∧ trapped evs = false := by
  obtain ⟨s0, hinit, hinv, hmu⟩ := tdInit2_some pd dd isPoint
  obtain ⟨evs, he, hl, ht⟩ := run_bounded (tdStep pd dd) C01Iter.muTd C01Iter.TdInv (C01Iter.tdStep_facts pd dd)
    (tdFuel dd) s0 hinv hmu
  refine ⟨s0, evs, hinit, he, ?_, ht⟩
  unfold tdFuel at hmu
  omega

/-! ## `GlyphVariationData::new`, `Cvar::variation_data` -/

theorem resolveData_facts (d : List Nat) (off : Nat) :
    Sat (resolveData d off) (fun e => e = .oob ∨ e = .nullOffset)
      (fun r => r = d.drop off ∧ off ≤ d.length) := by
  unfold resolveData
  split
  · exact .err (Or.inr rfl)
  · split
    · exact .ok ⟨rfl, by assumption⟩
    · exact .err (Or.inl rfl)

theorem splitShared_facts (c : Nat) (d : List Nat) (off : Nat) :
    ∃ sp ser, splitShared c (d.drop off) = .ok (sp, ser) ∧ ser.length ≤ d.length ∧
      ∀ x, sp = some x → x = d.drop off := by
  have hd : (d.drop off).length ≤ d.length := by rw [List.length_drop]; omega
  unfold splitShared
  split
  · obtain ⟨r, hr, hl⟩ := splitOffFront_some (d.drop off)
    rw [hr]
    exact ⟨_, r, rfl, Nat.le_trans hl hd, fun _ h => (Option.some.inj h).symm⟩
  · exact ⟨none, _, rfl, hd, nofun⟩

theorem gvdNew_facts (d : List Nat) (ac : Nat) (shared : List Nat) :
    Sat (gvdNew d ac shared) (fun e => e = .oob ∨ e = .nullOffset) (fun p =>
      p.ac = ac ∧ p.shared = some shared ∧ p.headerData = d.drop 4 ∧ 4 ≤ d.length ∧
      p.ser.length ≤ d.length ∧ (∀ sp, p.sharedPts = some sp → ∃ off, sp = d.drop off)) := by
  unfold gvdNew
  simp only [satAdd_gt_iff 4 d.length (by decide)]
  by_cases h4 : d.length < 4
  · rw [if_pos h4]; exact .err (Or.inl rfl)
  · have h4' : 4 ≤ d.length := Nat.le_of_not_lt h4
    have hc := readAt_some d 0 2 (Nat.le_trans (by decide) h4') (by decide)
    simp only [if_neg h4, splitOff, if_pos h4', hc, readAt_some d 2 2 h4' (by decide)]
    refine (resolveData_facts d _).cases (fun e _ he => .err he) (fun data _ hdata => ?_)
    obtain ⟨rfl, -⟩ := hdata
    obtain ⟨sp, ser, hs, hl, hsp⟩ := splitShared_facts (HandRead.beAt d 0 2) d (HandRead.beAt d 2 2)
    simp only [hs]
    exact .ok ⟨rfl, rfl, rfl, h4', hl, fun x hx => ⟨_, hsp x hx⟩⟩

theorem cvarVariationData_facts (d : List Nat) (ac : Nat) :
    Sat (cvarVariationData d ac) (fun e => e = .oob ∨ e = .nullOffset) (fun p =>
      p.ac = ac ∧ p.shared = none ∧ p.headerData = d.drop 8 ∧ 8 ≤ d.length ∧
      p.ser.length ≤ d.length ∧ (∀ sp, p.sharedPts = some sp → ∃ off, sp = d.drop off)) := by
  unfold cvarVariationData
  simp only [satAdd_gt_iff 8 d.length (by decide)]
  by_cases h8 : d.length < 8
  · rw [if_pos h8]; exact .err (Or.inl rfl)
  · have h8' : 8 ≤ d.length := Nat.le_of_not_lt h8
    have hc := readAt_some d 4 2 (Nat.le_trans (by decide) h8') (by decide)
    simp only [if_neg h8, splitOff, if_pos h8', hc, readAt_some d 6 2 h8' (by decide)]
    refine (resolveData_facts d _).cases (fun e _ he => .err he) (fun data _ hdata => ?_)
    obtain ⟨rfl, -⟩ := hdata
    obtain ⟨sp, ser, hs, hl, hsp⟩ := splitShared_facts (HandRead.beAt d 4 2) d (HandRead.beAt d 6 2)
    simp only [hs]
    exact .ok ⟨rfl, rfl, rfl, h8', hl, fun x hx => ⟨_, hsp x hx⟩⟩

/-! ## `Gvar` -/

theorem gvarRead_some {d : List Nat} {g : Gv} (hb : Bytes d) (hr : gvarRead d = some g) :
    g.d = d ∧ 20 + g.offsLen ≤ d.length := by
  unfold gvarRead at hr
  cases hgc : readAt d 12 2 with
  | none => simp [hgc] at hr
  | some gc =>
    cases hfl : readAt d 14 2 with
    | none => simp [hgc, hfl] at hr
    | some fl =>
      have hgcl : gc + 1 ≤ 65536 := readAt2_lt d hb 12 gc hgc
      have hw : (if fl % 2 = 1 then 4 else 2) ≤ 4 := by split <;> decide
      rw [hgc, hfl] at hr
      obtain ⟨-, hr⟩ := checkedMul_step hr nofun
      obtain ⟨hfit, hr⟩ := else_step hr nofun
      cases hr
      rw [satAdd_of_bounds (Nat.le_of_lt hgcl) (Nat.le_refl 1) (by decide)] at hfit ⊢
      rw [satAdd_of_bounds (Nat.le_refl 20) (Nat.mul_le_mul hgcl hw) (by decide)] at hfit
      exact ⟨rfl, hfit⟩

theorem gvar_getters {d : List Nat} {g : Gv} (hb : Bytes d) (hr : gvarRead d = some g) :
    (∃ v, g.axisCount = some v ∧ v ≤ 65535) ∧ (∃ v, g.sharedTupleCount = some v) ∧
    (∃ v, g.sharedTuplesOffset = some v) ∧ (∃ v, g.glyphCount = some v) ∧ (∃ v, g.flags = some v) ∧
    (∃ v, g.dao = some v) := by
  obtain ⟨hd, hl⟩ := gvarRead_some hb hr
  have h20 : 20 ≤ d.length := Nat.le_trans (Nat.le_add_right _ _) hl
  have rd : ∀ off sz, off + sz ≤ 20 → readAt g.d off sz = some (HandRead.beAt d off sz) :=
    fun off sz h => hd ▸ readAt_some d off sz (Nat.le_trans h h20) (Nat.le_trans h (by decide))
  exact ⟨⟨_, rd 4 2 (by decide), Nat.le_of_lt_succ (beAt2_lt d hb 4)⟩,
    ⟨_, rd 6 2 (by decide)⟩, ⟨_, rd 8 4 (by decide)⟩,
    ⟨_, rd 12 2 (by decide)⟩,
    ⟨_, by rw [Gv.flags, rd 14 2 (by decide)]; rfl⟩,
    ⟨_, rd 16 4 (by decide)⟩⟩

theorem sharedTuples_facts {d : List Nat} {g : Gv} (hb : Bytes d) (hr : gvarRead d = some g) :
    Sat g.sharedTuples (fun e => e = .oob ∨ e = .nullOffset)
      (fun sd => ∃ off n, sd = (d.drop off).take n ∧ off + n ≤ d.length) := by
  obtain ⟨⟨ac, hac, _⟩, ⟨cnt, hcnt⟩, ⟨off, hoff⟩, _⟩ := gvar_getters hb hr
  obtain ⟨hd, _⟩ := gvarRead_some hb hr
  unfold Gv.sharedTuples
  simp only [hcnt, hac, hoff]
  refine (resolveData_facts g.d off).cases (fun e _ he => .err he) (fun data _ hdata => ?_)
  obtain ⟨rfl, hol⟩ := hdata
  cases checkedMul ac 2 with
  | none => simp only []; exact .err (Or.inl rfl)
  | some sz =>
    simp only []
    cases hcm : checkedMul cnt sz with
    | none => simp only []; exact .err (Or.inl rfl)
    | some tbl =>
      simp only [satAdd_of_bounds (Nat.le_refl 0) ((checkedMul_eq_some hcm).1 ▸ (checkedMul_eq_some hcm).2 : tbl ≤ MAXU) (by decide), Nat.zero_add]
      by_cases hle : tbl ≤ (g.d.drop off).length
      · simp only [if_pos hle, sliceExcl, getRange, Nat.zero_le, true_and]
        refine .ok ⟨off, tbl, by rw [hd], ?_⟩
        rw [List.length_drop, hd] at hle
        rw [hd] at hol
        omega
      · rw [if_neg hle]; exact .err (Or.inl rfl)

theorem dataForGid_facts {d : List Nat} {g : Gv} (hb : Bytes d) (hr : gvarRead d = some g) (gid : Nat) :
    Sat (g.dataForGid gid) (fun e => e = .oob) (fun r => ∀ bytes, r = some bytes →
      ∃ s e, s < e ∧ e ≤ d.length ∧ bytes = (d.drop s).take (e - s) ∧ bytes.length = e - s) := by
  obtain ⟨_, _, _, _, ⟨fl, hfl⟩, ⟨dao, hdao⟩⟩ := gvar_getters hb hr
  obtain ⟨hd, _⟩ := gvarRead_some hb hr
  unfold Gv.dataForGid
  simp only [hfl, hdao]
  cases hg : GvarLayout.dataForGid g.d (decide (fl % 2 = 1)) dao (g.offsets (decide (fl % 2 = 1))) gid with
  | none => exact .err rfl
  | some r =>
    refine .ok fun bytes hbt => ?_
    subst hbt
    unfold GvarLayout.dataForGid at hg
    split at hg
    · cases hg
    · rename_i s e _
      split at hg
      · cases hg
      · split at hg
        · rename_i h1 h2
          rw [hd] at hg h2
          cases hg
          exact ⟨s, e, by omega, h2, rfl, by simp only [List.length_take, List.length_drop]; omega⟩
        · cases hg

theorem glyphVariationData_facts {d : List Nat} {g : Gv} (hb : Bytes d) (hr : gvarRead d = some g) (gid : Nat) :
    Sat (g.glyphVariationData gid) (fun e => e = .oob ∨ e = .nullOffset) (fun r => ∀ p, r = some p →
      p.ac ≤ 65535 ∧ Bytes p.headerData ∧ (∀ sd, p.shared = some sd → Bytes sd) ∧
      p.headerData.length + 4 ≤ d.length ∧ p.ser.length ≤ d.length) := by
  obtain ⟨⟨ac, hac, hacl⟩, _⟩ := gvar_getters hb hr
  unfold Gv.glyphVariationData
  refine (sharedTuples_facts hb hr).cases (fun e _ he => .err he) (fun shared _ hsh => ?_)
  simp only [hac]
  refine (dataForGid_facts hb hr gid).cases (fun e _ he => .err (Or.inl he)) (fun ob _ hob => ?_)
  cases ob with
  | none => exact .ok nofun
  | some bytes =>
    simp only []
    refine (gvdNew_facts bytes ac shared).cases (fun e _ he => .err he) (fun p hgn hp => ?_)
    refine .ok fun p' hp' => ?_
    cases hp'
    obtain ⟨rfl, hps, hhd, h4, hser, -⟩ := hp
    obtain ⟨s, e, _, hel, hbe, hbl⟩ := hob bytes rfl
    obtain ⟨off, n, hsd, _⟩ := hsh
    have hbb : Bytes bytes := hbe ▸ bytes_of_take (bytes_of_drop hb _) _
    refine ⟨hacl, hhd ▸ bytes_of_drop hbb 4, fun sd hs => ?_, ?_, by omega⟩
    · cases hps.symm.trans hs
      exact hsd ▸ bytes_of_take (bytes_of_drop hb _) _
    · rw [hhd, List.length_drop]; omega

/-! ## `active_tuples_at` -/

theorem computeScalar_some_of_kernel (p : TVD) (t : TV) (coords : List Int) (v : Int)
    (h : t.computeScalar p coords = .ok (some v)) :
    ∃ pk inter, Checked.tupleScalar pk inter coords = some (some v) := by
  unfold TV.computeScalar at h
  split at h
  · cases h
  · split at h
    · cases h
    · split at h
      · cases h
      · exact ⟨_, _, unwrapR_ok h⟩
      · exact ⟨_, _, unwrapR_ok h⟩

theorem activeFold_ok (p : TVD) (coords : List Int) (ts : List TV)
    (h : ∀ t ∈ ts, ∃ r, t.computeScalar p coords = .ok r) :
    ∃ l, ts.foldr (fun t acc =>
        match t.computeScalar p coords, acc with
        | .trap, _ => R.trap
        | _, .trap => .trap
        | _, .err e => .err e
        | .err e, _ => .err e
        | .ok (some v), .ok l => .ok ((t, v) :: l)
        | .ok none, .ok l => .ok l) (.ok []) = .ok l ∧
      l.length ≤ ts.length ∧ ∀ x ∈ l, x.1 ∈ ts ∧ x.1.computeScalar p coords = .ok (some x.2) := by
  -- the fold is the source's `filter_map`
  refine ⟨ts.filterMap fun t => match t.computeScalar p coords with | .ok (some v) => some (t, v) | _ => none,
    ?_, List.length_filterMap_le _ _, fun x hx => ?_⟩
  · induction ts with
    | nil => rfl
    | cons t r ih =>
      obtain ⟨res, hres⟩ := h t (by simp)
      rw [List.foldr_cons, ih (fun t' ht' => h t' (by simp [ht'])), List.filterMap_cons, hres]
      cases res <;> rfl
  · obtain ⟨t, ht, hx⟩ := List.mem_filterMap.mp hx
    split at hx
    · cases hx; exact ⟨ht, ‹_›⟩
    · cases hx

/-! ## `Cvar::deltas` -/

theorem applyCvt_facts (buf : List Int) (ix : Nat) (v sc : Int) :
    SatIf (FxMulTotal ∧ I32 sc) (unwrapR (applyCvt buf ix v sc)) (fun out => out.length = buf.length) := by
  unfold applyCvt
  cases buf[ix]? with
  | none => exact .ok rfl
  | some cur =>
    obtain ⟨f, hf, hfi⟩ := fxFromI32_some v
    simp only [hf]
    cases hp : Checked.fxMul f sc with
    | none => exact .trap fun ha => by simpa [hp] using ha.1 f sc hfi ha.2
    | some pr => exact .ok (List.length_set ..)

theorem applyCvtAll_facts (sc : Int) : ∀ (l : List (Nat × Int × Int)) (buf : List Int),
    SatIf (FxMulTotal ∧ I32 sc) (unwrapR (applyCvtAll l sc buf)) (fun out => out.length = buf.length) := by
  intro l
  induction l with
  | nil => intro buf; exact .ok rfl
  | cons a r ih =>
    intro buf
    obtain ⟨pos, v, w⟩ := a
    unfold applyCvtAll
    refine (applyCvt_facts buf pos v sc).casesOpt .trap fun b' hl => ?_
    simp only []
    rw [← hl]
    exact ih b'

/-- the tuples handed to a loop over `active_tuples_at`: `i32` scalars, delta iterators that end without a panic -/
def TuplesReady (p : TVD) (isPoint : Bool) (l : List (TV × Int)) : Prop :=
  ∀ x ∈ l, I32 x.2 ∧ ∃ evs, x.1.deltasTrace p isPoint = some evs ∧ trapped evs = false

theorem cvarDeltasLoop_facts (p : TVD) : ∀ (l : List (TV × Int)) (buf : List Int),
    SatIf (FxMulTotal ∧ TuplesReady p false l) (cvarDeltasLoop p l buf) (fun out => out.length = buf.length) := by
  intro l
  induction l with
  | nil => intro buf; exact .ok rfl
  | cons a r ih =>
    intro buf
    obtain ⟨t, sc⟩ := a
    unfold cvarDeltasLoop
    by_cases hr : ∃ evs, t.deltasTrace p false = some evs ∧ trapped evs = false
    · obtain ⟨evs, he, ht⟩ := hr
      simp only [he, ht]
      refine ((applyCvtAll_facts sc (items evs) buf).imp fun ha => ⟨ha.1, (ha.2 (t, sc) (by simp)).1⟩).casesOpt
        .trap fun b' hl => ?_
      simp only []
      rw [← hl]
      exact (ih b').imp fun ha => ⟨ha.1, fun x hx => ha.2 x (by simp [hx])⟩
    · -- a tuple that is not ready refutes the guard
      have hn : ¬ (FxMulTotal ∧ TuplesReady p false ((t, sc) :: r)) := fun ha => hr (ha.2 (t, sc) (by simp)).2
      cases hd : t.deltasTrace p false with
      | none => exact .trap hn
      | some evs =>
        simp only []
        cases ht : trapped evs with
        | true => exact .trap hn
        | false => exact absurd ⟨evs, hd, ht⟩ hr

/-! ## `DeltaSetIndexMap` -/

theorem entrySize_range (ef : Nat) : 1 ≤ entrySize ef ∧ entrySize ef ≤ 4 := by
  unfold entrySize; omega

theorem bitCount_range (ef : Nat) : 1 ≤ bitCount ef ∧ bitCount ef ≤ 16 := by
  unfold bitCount; omega

/-- `EntryFormat::from_bits_truncate` drops reserved bits only -/
theorem entrySize_mod64 (ef : Nat) : entrySize (ef % 64) = entrySize ef := by
  unfold entrySize; omega

theorem dsimRead_facts (d : List Nat) (hb : Bytes d) :
    Sat (dsimRead d) (fun e => e = .oob ∨ ∃ n, e = .invalidFormat n) (fun m =>
      ∃ ef mc, m.entryFormat = some ef ∧ m.mapCount = some mc ∧
        m.mapData = some ((d.drop m.hdr).take m.mapLen) ∧ m.mapLen = entrySize ef * mc ∧
        m.hdr + m.mapLen ≤ d.length) := by
  unfold dsimRead
  cases hf : readAt d 0 1 with
  | none => exact .err (Or.inl rfl)
  | some fmt =>
    simp only []
    by_cases hfm : fmt = 0 ∨ fmt = 1
    · have hcw : 2 + (if fmt = 0 then 2 else 4) ≤ 6 := by split <;> decide
      rw [if_pos hfm]
      cases hef : readAt d 1 1 with
      | none => simp only []; exact .err (Or.inl rfl)
      | some ef =>
        cases hmc : readAt d 2 (if fmt = 0 then 2 else 4) with
        | none => simp only []; exact .err (Or.inl rfl)
        | some mc =>
          have hmcl : mc < 4294967296 :=
            Nat.lt_of_lt_of_le (readAt_lt d hb 2 _ mc hmc) (by split <;> decide)
          have hes := (entrySize_range ef).2
          have hlen := Nat.mul_le_mul hes (Nat.le_of_lt hmcl)
          simp only [mapSize, umul_some_of_le hes (Nat.le_of_lt hmcl) (by decide),
            checkedMul_of_bounds hlen (Nat.le_refl 1) (by decide), Nat.mul_one,
            satAdd_of_bounds hcw hlen (by decide)]
          by_cases hle : 2 + (if fmt = 0 then 2 else 4) + entrySize ef * mc ≤ d.length
          · rw [if_pos hle]
            refine .ok ⟨ef % 64, mc, by simp only [Dsim.entryFormat, hef]; rfl, hmc, ?_,
              by rw [entrySize_mod64], hle⟩
            have := readArray_of_le d (2 + (if fmt = 0 then 2 else 4)) (entrySize ef * mc) 1
              (by rw [Nat.mul_one]; exact hle) (by decide)
            rw [Nat.mul_one] at this
            simp only [Dsim.mapData, uadd_some_of_le hcw hlen (by decide), this]
          · rw [if_neg hle]; exact .err (Or.inl rfl)
    · rw [if_neg hfm]; exact .err (Or.inr ⟨fmt, rfl⟩)

theorem tentDsimGet_some {ef mc : Nat} {data : List Nat} {index : Nat} {p : Nat × Nat}
    (h : Tent.dsimGet ef mc data index = some p) :
    p.1 < 65536 ∧ p.2 < 65536 ∧ min index (mc - 1) * entrySize ef + entrySize ef ≤ data.length := by
  simp only [Tent.dsimGet] at h
  split at h
  · cases h
    exact ⟨Nat.mod_lt _ (by decide), Nat.mod_lt _ (by decide), by assumption⟩
  · cases h

theorem dsimGet_eq (m : Dsim) (ef mc : Nat) (data : List Nat) (hef : m.entryFormat = some ef)
    (hmc : m.mapCount = some mc) (hmd : m.mapData = some data) (index : Nat)
    (hidx : index < 4294967296) :
    m.get index = match Tent.dsimGet ef mc data index with
      | some p => .ok p
      | none => .err .oob := by
  have hes := entrySize_range ef
  have hbc := bitCount_range ef
  have hmin : min index (mc - 1) ≤ 4294967296 := Nat.le_trans (Nat.min_le_left _ _) (Nat.le_of_lt hidx)
  have hoff := Nat.mul_le_mul hmin hes.2
  have hpow : 2 ^ bitCount ef - 1 < 2 ^ bitCount ef := Nat.sub_lt (Nat.pow_pos (by decide)) (by decide)
  simp only [Dsim.get, hef, hmc, hmd, umul_some_of_le hmin hes.2 (by decide), if_pos hes,
    if_pos (Nat.lt_of_le_of_lt hbc.2 (by decide) : bitCount ef < 32), if_pos hpow, Tent.dsimGet]
  by_cases hle : min index (mc - 1) * entrySize ef + entrySize ef ≤ data.length
  · rw [readAt_some data _ _ hle (Nat.le_trans (Nat.add_le_add hoff hes.2) (by decide))]
    simp only [entrySize, bitCount] at hle ⊢
    rw [if_pos hle]
    rfl
  · have hn : readAt data (min index (mc - 1) * entrySize ef) (entrySize ef) = none := by
      cases hra : readAt data (min index (mc - 1) * entrySize ef) (entrySize ef) with
      | none => rfl
      | some v => exact absurd (readAt_eq_some hra).1 hle
    rw [hn]
    simp only [entrySize] at hle ⊢
    rw [if_neg hle]

theorem dsimGet_facts {d : List Nat} {m : Dsim} (hb : Bytes d) (h : dsimRead d = .ok m) (index : Nat)
    (hidx : index < 4294967296) :
    ∃ ef mc data, m.entryFormat = some ef ∧ m.mapCount = some mc ∧ m.mapData = some data ∧
      data.length = entrySize ef * mc ∧
      Sat (m.get index) (fun e => e = .oob) (fun p => p.1 < 65536 ∧ p.2 < 65536 ∧
        min index (mc - 1) * entrySize ef + entrySize ef ≤ data.length ∧
        Tent.dsimGet ef mc data index = some p) := by
  obtain ⟨ef, mc, hef, hmc, hmd, hml, hlen⟩ := (dsimRead_facts d hb).2.2 m h
  refine ⟨ef, mc, _, hef, hmc, hmd, by simp only [List.length_take, List.length_drop]; omega, ?_⟩
  rw [dsimGet_eq m ef mc _ hef hmc hmd index hidx]
  cases hg : Tent.dsimGet ef mc ((d.drop m.hdr).take m.mapLen) index with
  | none => exact .err rfl
  | some p => obtain ⟨a, b, c⟩ := tentDsimGet_some hg; exact .ok ⟨a, b, c, rfl⟩

/-! ## `ItemVariationData` -/

theorem deltaRowLen_some (wdc ric : Nat) (hr : ric < 65536) :
    ∃ r, deltaRowLen wdc ric = some r ∧ r ≤ 262140 ∧ r = Tent.deltaRowLen wdc ric := by
  -- at most 32767 long columns of at most 4 bytes, at most 65535 short ones of at most 2
  have hl : wdc % 32768 ≤ 32767 := Nat.le_of_lt_succ (Nat.mod_lt _ (by decide))
  have hs : ric - wdc % 32768 ≤ 65535 := Nat.le_trans (Nat.sub_le _ _) (Nat.le_of_lt_succ hr)
  have hws : (if decide (wdc / 32768 % 2 = 1) = true then 4 else 2) ≤ 4 := by split <;> decide
  have hss : (if decide (wdc / 32768 % 2 = 1) = true then 2 else 1) ≤ 2 := by split <;> decide
  have ha := Nat.mul_le_mul hl hws
  have hb := Nat.mul_le_mul hs hss
  refine ⟨_, ?_, Nat.le_trans (Nat.add_le_add ha hb) (by decide), ?_⟩
  · simp only [deltaRowLen, umul_some_of_le hl hws (by decide), umul_some_of_le hs hss (by decide),
      uadd_some_of_le ha hb (by decide)]
  · simp only [Tent.deltaRowLen, decide_eq_true_eq]

theorem deltaSetsLen_some (ic wdc ric : Nat) (hi : ic < 65536) (hw : wdc < 65536) (hr : ric < 65536) :
    ∃ n, deltaSetsLen ic wdc ric = some n ∧ n ≤ 262140 * 65535 := by
  obtain ⟨r, hr1, hr2, _⟩ := deltaRowLen_some wdc ric hr
  have hi' := Nat.le_of_lt_succ hi
  exact ⟨r * ic, by simp only [deltaSetsLen, hr1, umul_some_of_le hr2 hi' (by decide)], Nat.mul_le_mul hr2 hi'⟩

theorem ivdRead_facts (d : List Nat) (hb : Bytes d) :
    Sat (ivdRead d) (fun e => e = .oob) (fun v =>
      v.d = d ∧ 6 + v.riLen + v.dsLen ≤ d.length ∧
      ∃ ic wdc ric row, readAt d 2 2 = some wdc ∧ readAt d 4 2 = some ric ∧
        ic < 65536 ∧ ric < 65536 ∧ v.riLen = ric * 2 ∧
        deltaRowLen wdc ric = some row ∧ row ≤ 262140 ∧ v.dsLen = row * ic) := by
  unfold ivdRead
  cases h0 : readAt d 0 2 with
  | none => exact .err rfl
  | some ic =>
    cases h2 : readAt d 2 2 with
    | none => exact .err rfl
    | some wdc =>
      cases h4 : readAt d 4 2 with
      | none => exact .err rfl
      | some ric =>
        have hic := readAt2_lt d hb 0 ic h0
        have hric := readAt2_lt d hb 4 ric h4
        obtain ⟨row, hrow, hrl, _⟩ := deltaRowLen_some wdc ric hric
        have hril := Nat.mul_le_mul_right 2 (Nat.le_of_lt hric)
        have hdsl := Nat.mul_le_mul hrl (Nat.le_of_lt hic)
        simp only [checkedMul_of_bounds (Nat.le_of_lt hric) (Nat.le_refl 2) (by decide), deltaSetsLen, hrow,
          umul_some_of_le hrl (Nat.le_of_lt hic) (by decide),
          checkedMul_of_bounds hdsl (Nat.le_refl 1) (by decide), Nat.mul_one,
          satAdd_of_bounds (Nat.le_refl 6) hril (by decide),
          satAdd_of_bounds (Nat.add_le_add_left hril 6) hdsl (by decide)]
        by_cases hle : 6 + ric * 2 + row * ic ≤ d.length
        · rw [if_pos hle]
          exact .ok ⟨rfl, hle, ic, wdc, ric, row, rfl, rfl, hic, hric, rfl, hrow, hrl, rfl⟩
        · rw [if_neg hle]; exact .err rfl

/-- for a `u16` column count the transcription with the representable `pos += 1` overflow computes C11's
`Tent.itemDeltas` -/
theorem itemDeltasGo_eq (wdcLow : Nat) (long : Bool) (len : Nat) (hlen : len ≤ 65535) :
    ∀ (fuel pos : Nat) (bytes : List Nat), len - pos ≤ fuel →
      itemDeltasGo wdcLow long len fuel pos bytes = some (Tent.itemDeltas wdcLow long len pos bytes) := by
  intro fuel
  induction fuel with
  | zero =>
    intro pos bytes hf
    rw [Tent.itemDeltas, dif_pos (by omega : pos ≥ len)]; rfl
  | succ f ih =>
    intro pos bytes hf
    rw [itemDeltasGo, Tent.itemDeltas]
    by_cases hp : pos ≥ len
    · rw [if_pos hp, dif_pos hp]
    · rw [if_neg hp, dif_neg hp, if_neg (by omega)]
      cases Tent.readW (Tent.colWidth wdcLow long pos) bytes with
      | none => rfl
      | some vr => simp only [ih (pos + 1) vr.2 (by omega), Option.map_some]

theorem ivd_getters {d : List Nat} {v : Ivd} (hb : Bytes d) (h : ivdRead d = .ok v) (inner : Nat)
    (hin : inner < 65536) :
    ∃ ris ds, v.regionIndexes = some ris ∧ v.deltaSet inner = some ds ∧ ds.length ≤ ris.length ∧
      ris.length < 65536 ∧ ∀ x ∈ ds, I32 x := by
  obtain ⟨hd, hlen, ic, wdc, ric, row, h2, h4, hic, hric, hril, hrow, hrowl, hdsl⟩ :=
    (ivdRead_facts d hb).2.2 v h
  have b1 : v.riLen ≤ 65536 * 2 := hril ▸ Nat.mul_le_mul_right 2 (Nat.le_of_lt hric)
  have b2 : v.dsLen ≤ 262140 * 65536 := hdsl ▸ Nat.mul_le_mul hrowl (Nat.le_of_lt hic)
  have e1 : 6 + v.riLen ≤ d.length := Nat.le_trans (Nat.le_add_right _ _) hlen
  have hRi : v.regionIndexes = some ((List.range ric).map (fun i => HandRead.beAt v.d (6 + 2 * i) 2)) := by
    simp only [Ivd.regionIndexes, hril, hd, uadd_some_of_le (Nat.le_refl 6) (hril ▸ b1 : ric * 2 ≤ _) (by decide),
      readArray_of_le d 6 ric 2 (hril ▸ e1) (by decide)]
  have hDs : v.deltaSets = some ((d.drop (6 + v.riLen)).take v.dsLen) := by
    have := readArray_of_le d (6 + v.riLen) v.dsLen 1 (by rw [Nat.mul_one]; exact hlen) (by decide)
    rw [Nat.mul_one] at this
    simp only [Ivd.deltaSets, uadd_some_of_le (Nat.le_refl 6) b1 (by decide),
      uadd_some_of_le (Nat.add_le_add_left b1 6) b2 (by decide), hd, this]
  have hI := Tent.itemDeltas_inI32 (wdc % 32768) (decide (wdc / 32768 % 2 = 1)) ric 0
    (if row * inner ≤ ((d.drop (6 + v.riLen)).take v.dsLen).length
      then ((d.drop (6 + v.riLen)).take v.dsLen).drop (row * inner) else [])
    (by split
        · exact bytes_of_drop (bytes_of_take (bytes_of_drop hb _) _) _
        · exact nofun)
  refine ⟨_, _, hRi, ?_, by simpa using hI.2, by simpa using hric, fun x hx => ⟨(hI.1 x hx).1, Int.le_of_lt_add_one (hI.1 x hx).2⟩⟩
  simp only [Ivd.deltaSet, Ivd.wordDeltaCount, Ivd.regionIndexCount, hd, h2, h4, hDs, hrow,
      umul_some_of_le hrowl (Nat.le_of_lt hin) (by decide),
      itemDeltasGo_eq _ _ _ (Nat.le_of_lt_succ hric) _ _ _ (Nat.sub_le _ _)]

/-! ## `ItemVariationStore` -/

theorem ivsRead_some {d : List Nat} {s : Ivs} (hb : Bytes d) (h : ivsRead d = some s) :
    s.d = d ∧ 8 + s.offsLen ≤ d.length ∧ s.offsLen % 4 = 0 ∧ s.offsLen ≤ 262140 := by
  unfold ivsRead at h
  obtain ⟨-, h⟩ := readAt_step h nofun
  obtain ⟨-, h⟩ := checkedMul_step h nofun
  obtain ⟨hfit, h⟩ := else_step h nofun
  cases h
  have hol := Nat.mul_le_mul_right 4 (Nat.le_of_lt_succ (beAt2_lt d hb 6))
  rw [satAdd_of_bounds (Nat.le_refl 8) hol (by decide)] at hfit
  exact ⟨rfl, hfit, Nat.mul_mod_left _ _, hol⟩

theorem itemData_facts {d : List Nat} {s : Ivs} (hb : Bytes d) (h : ivsRead d = some s) (outer : Nat) :
    Sat (s.itemData outer) (fun e => e = .oob ∨ e = .invalidIndex outer) (fun r => ∀ v, r = some v →
      ∃ d', ivdRead d' = .ok v ∧ Bytes d') := by
  obtain ⟨hd, hlen, hm4, hol⟩ := ivsRead_some hb h
  have hra := readArray_of_le d 8 (s.offsLen / 4) 4 (by rw [Nat.div_mul_cancel (Nat.dvd_of_mod_eq_zero hm4)]; exact hlen)
    (by decide)
  rw [Nat.div_mul_cancel (Nat.dvd_of_mod_eq_zero hm4)] at hra
  simp only [Ivs.itemData, uadd_some_of_le (Nat.le_refl 8) hol (by decide), hd, hra]
  by_cases ho : outer < s.offsLen / 4
  · rw [if_pos ho]
    split
    · exact .ok nofun
    · split
      · have hbd := bytes_of_drop hb (HandRead.beAt d (8 + 4 * outer) 4)
        refine (ivdRead_facts _ hbd).cases (fun e _ he => .err (Or.inl he)) (fun v hr _ => ?_)
        refine .ok fun v' hv' => ?_
        cases hv'
        exact ⟨_, hr, hbd⟩
      · exact .err (Or.inl rfl)
  · rw [if_neg ho]; exact .err (Or.inr rfl)

theorem regionList_facts {d : List Nat} {s : Ivs} (hb : Bytes d) (h : ivsRead d = some s) :
    Sat s.regionList (fun e => e = .oob ∨ e = .nullOffset) (fun rl =>
      Bytes rl.d ∧ 4 + rl.regLen ≤ rl.d.length ∧
      ∃ ac, rl.axisCount = some ac ∧ rl.regLen ≤ 65535 * (65535 * 6)) := by
  obtain ⟨hd, hlen, _, _⟩ := ivsRead_some hb h
  have h6 : 2 + 4 ≤ d.length := Nat.le_trans (by decide) (Nat.le_trans (Nat.le_add_right 8 _) hlen)
  simp only [Ivs.regionList, hd, readAt_some d 2 4 h6 (by decide)]
  refine (resolveData_facts d _).cases (fun e _ he => .err he) (fun data _ hdata => ?_)
  obtain ⟨rfl, -⟩ := hdata
  simp only []
  have hbd := bytes_of_drop hb (HandRead.beAt d 2 4)
  generalize d.drop (HandRead.beAt d 2 4) = data at hbd ⊢
  cases ha : readAt data 0 2 with
  | none => exact .err (Or.inl rfl)
  | some ac =>
    cases hc : readAt data 2 2 with
    | none => exact .err (Or.inl rfl)
    | some rc =>
      have hacl := readAt2_lt data hbd 0 ac ha
      have hrcl := readAt2_lt data hbd 2 rc hc
      have hsz := Nat.mul_le_mul_right 6 (Nat.le_of_lt_succ hacl)
      have hrl := Nat.mul_le_mul (Nat.le_of_lt_succ hrcl) hsz
      simp only [checkedMul_of_bounds (Nat.le_of_lt_succ hacl) (Nat.le_refl 6) (by decide),
        checkedMul_of_bounds (Nat.le_of_lt_succ hrcl) hsz (by decide), satAdd_of_bounds (Nat.le_refl 4) hrl (by decide)]
      split
      · exact .ok ⟨hbd, by assumption, ac, ha, hrl⟩
      · exact .err (Or.inl rfl)

theorem regionAxes_facts (d : List Nat) (hb : Bytes d) (a n : Nat) :
    (regionAxes d a n).length = n ∧ ∀ x ∈ regionAxes d a n, I16 x.1 ∧ I16 x.2.1 ∧ I16 x.2.2 := by
  refine ⟨by simp [regionAxes], ?_⟩
  intro x hx
  simp only [regionAxes, List.mem_map, List.mem_range] at hx
  obtain ⟨i, _, rfl⟩ := hx
  exact ⟨toI16_I16 _ (beAt2_lt d hb _), toI16_I16 _ (beAt2_lt d hb _), toI16_I16 _ (beAt2_lt d hb _)⟩

theorem region_facts (rl : Vrl) (hb : Bytes rl.d) (hlen : 4 + rl.regLen ≤ rl.d.length) (ac : Nat)
    (hac : rl.axisCount = some ac) (hrl : rl.regLen ≤ 65535 * (65535 * 6)) (idx : Nat) :
    Sat (rl.region idx) (fun e => e = .oob) (fun axes =>
      axes.length = ac ∧ idx * (6 * ac) + 6 * ac ≤ rl.regLen ∧
      ∀ x ∈ axes, I16 x.1 ∧ I16 x.2.1 ∧ I16 x.2.2) := by
  simp only [Vrl.region, hac, uadd_some_of_le (Nat.le_refl 4) hrl (by decide), sliceExcl, getRange,
    if_pos (⟨Nat.le_add_right _ _, hlen⟩ : 4 ≤ 4 + rl.regLen ∧ 4 + rl.regLen ≤ rl.d.length)]
  cases hc : compGet rl.regLen (6 * ac) idx with
  | none => exact .err rfl
  | some off =>
    obtain ⟨h1, h2⟩ := regionAxes_facts rl.d hb (4 + off) ac
    exact .ok ⟨h1, (compGet_eq_some hc).1 ▸ (compGet_eq_some hc).2, h2⟩

theorem deltaRegions_facts (rl : Vrl) (hb : Bytes rl.d) (hlen : 4 + rl.regLen ≤ rl.d.length) (ac : Nat)
    (hac : rl.axisCount = some ac) (hrl : rl.regLen ≤ 65535 * (65535 * 6)) :
    ∀ (ds : List Int) (ris : List Nat), ds.length ≤ ris.length →
      Sat (deltaRegions rl ds ris) (fun e => e = .oob) (fun l => l.map (·.1) = ds ∧
        ∀ x ∈ l, x.2.length = ac ∧ ∀ y ∈ x.2, I16 y.1 ∧ I16 y.2.1 ∧ I16 y.2.2) := by
  intro ds
  induction ds with
  | nil => intro ris _; exact .ok ⟨rfl, fun _ h => nomatch h⟩
  | cons dl rest ih =>
    intro ris hl
    cases ris with
    | nil => exact absurd hl (by simp)
    | cons ri ris' =>
      unfold deltaRegions
      refine (region_facts rl hb hlen ac hac hrl ri).cases (fun e _ he => .err he) (fun axes _ hax => ?_)
      refine (ih ris' (Nat.le_of_succ_le_succ hl)).cases (fun e _ he => .err he) (fun l' _ hl' => ?_)
      refine .ok ⟨by rw [List.map_cons, hl'.1], fun x hx => ?_⟩
      rcases List.mem_cons.mp hx with rfl | hx
      · exact ⟨hax.1, hax.2.2⟩
      · exact hl'.2 x hx

theorem deltaWalk_facts {d : List Nat} {s : Ivs} (hb : Bytes d) (h : ivsRead d = some s) (outer inner : Nat)
    (hin : inner < 65536) (ce : Bool) :
    Sat (s.deltaWalk outer inner ce) (fun e => e = .oob ∨ e = .nullOffset ∨ e = .invalidIndex outer)
      (fun r => ∀ l, r = some l → l.length ≤ 65535 ∧
        ∀ x ∈ l, I32 x.1 ∧ ∀ y ∈ x.2, I16 y.1 ∧ I16 y.2.1 ∧ I16 y.2.2) := by
  unfold Ivs.deltaWalk
  cases ce with
  | true => exact .ok nofun
  | false =>
    simp only [Bool.false_eq_true, if_false]
    refine (itemData_facts hb h outer).cases
      (fun e _ he => .err (he.elim Or.inl fun h => Or.inr (Or.inr h))) (fun ov _ hov => ?_)
    cases ov with
    | none => exact .ok nofun
    | some v =>
      simp only []
      obtain ⟨d', hrd, hbd'⟩ := hov v rfl
      refine (regionList_facts hb h).cases
        (fun e _ he => .err (he.elim Or.inl fun h => Or.inr (Or.inl h))) (fun rl _ hrl => ?_)
      obtain ⟨hbr, hlen, ac, hac, hregl⟩ := hrl
      obtain ⟨ris, ds, hris, hds, hdl, hrisl, hi32⟩ := ivd_getters hbd' hrd inner hin
      simp only [hris, hds]
      refine (deltaRegions_facts rl hbr hlen ac hac hregl ds ris hdl).cases
        (fun e _ he => .err (Or.inl he)) (fun l _ hl => ?_)
      refine .ok fun l' hl' => ?_
      cases hl'
      have hll : l.length = ds.length := by rw [← hl.1, List.length_map]
      exact ⟨by omega, fun x hx => ⟨hi32 x.1 (hl.1 ▸ List.mem_map.mpr ⟨x, hx, rfl⟩), (hl.2 x hx).2⟩⟩

/-! ## `Mvar::metric_delta`: the binary search -/

theorem mvarSearch_facts (tags : List Nat) (tag : Nat) (hn : tags.length ≤ 65535) :
    ∀ (fuel lo hi : Nat), hi ≤ tags.length → hi - lo < fuel →
      ∃ r, mvarSearch tags tag fuel lo hi = .ok r ∧ (∀ i, r = some i → i < hi ∧ tags[i]? = some tag) := by
  intro fuel
  induction fuel with
  | zero => intro lo hi _ h; omega
  | succ f ih =>
    intro lo hi hhi hf
    unfold mvarSearch
    by_cases hlt : lo < hi
    · -- the midpoint lies in `[lo, hi)`, so it indexes the records and both halves are shorter
      have hm : lo ≤ (lo + hi) / 2 ∧ (lo + hi) / 2 < hi := by omega
      have hh := Nat.le_trans hhi hn
      rw [if_pos hlt, uadd_some_of_le (Nat.le_trans (Nat.le_of_lt hlt) hh) hh (by decide)]
      simp only []
      generalize (lo + hi) / 2 = m at hm ⊢
      have hml : m < tags.length := Nat.lt_of_lt_of_le hm.2 hhi
      simp only [List.getElem?_eq_getElem hml]
      by_cases h1 : tag < tags[m]
      · rw [if_pos h1]
        obtain ⟨r, hr, hp⟩ := ih lo m (Nat.le_of_lt hml) (by omega)
        exact ⟨r, hr, fun i hi' => ⟨Nat.lt_trans (hp i hi').1 hm.2, (hp i hi').2⟩⟩
      · rw [if_neg h1]
        by_cases h2 : tag > tags[m]
        · rw [if_pos h2, uadd_some_of_le (Nat.le_trans (Nat.le_of_lt hm.2) hh) (Nat.le_refl 1) (by decide)]
          obtain ⟨r, hr, hp⟩ := ih (m + 1) hi hhi (by omega)
          exact ⟨r, hr, hp⟩
        · rw [if_neg h2]
          refine ⟨some m, rfl, fun i hi' => ?_⟩
          cases hi'
          exact ⟨hm.2, by rw [List.getElem?_eq_getElem hml]; congr 1; omega⟩
    · rw [if_neg hlt]
      exact ⟨none, rfl, nofun⟩

/-! ## `compute_delta`, `advance_delta`, `item_delta` -/

theorem computeDelta_facts {d : List Nat} {s : Ivs} (hb : Bytes d) (h : ivsRead d = some s) (outer inner : Nat)
    (hin : inner < 65536) (coords : List Int) (hk : DeltaKernelTotal coords) :
    Sat (s.computeDelta outer inner coords) (fun e => e = .oob ∨ e = .nullOffset ∨ e = .invalidIndex outer)
      (fun _ => True) ∧
    s.computeFloatDelta outer inner coords ≠ .trap := by
  unfold Ivs.computeDelta Ivs.computeFloatDelta
  refine (deltaWalk_facts hb h outer inner hin coords.isEmpty).cases (fun e _ he => ⟨.err he, nofun⟩)
    (fun ol _ hol => ?_)
  cases ol with
  | none => exact ⟨.ok trivial, nofun⟩
  | some l =>
    obtain ⟨hl, hall⟩ := hol l rfl
    -- the kernel's hypotheses are what the walk established
    have := hk (l.map (fun x => (x.2, x.1)))
      (fun col hcol => by
        obtain ⟨x, hx, rfl⟩ := List.mem_map.mp hcol
        exact ⟨(hall x hx).2, (hall x hx).1⟩)
      (by rw [List.length_map]; exact hl)
    obtain ⟨r, hr⟩ := Option.isSome_iff_exists.mp this
    simp only [hr, unwrapR]
    exact ⟨.ok trivial, nofun⟩

theorem deltaAsFixed_no_trap (ivs : R Ivs)
    (hivs : Sat ivs (fun _ => True) (fun s => ∃ d, Bytes d ∧ ivsRead d = some s)) (ix : Nat × Nat)
    (hin : ix.2 < 65536) (coords : List Int) (hk : DeltaKernelTotal coords) : deltaAsFixed ivs ix coords ≠ .trap := by
  unfold deltaAsFixed
  refine hivs.cases (fun _ _ _ => nofun) (fun s _ hs => ?_)
  obtain ⟨d, hb, hr⟩ := hs
  simp only []
  refine (computeDelta_facts hb hr ix.1 ix.2 hin coords hk).1.cases (fun _ _ _ => nofun) (fun v _ _ => ?_)
  obtain ⟨f, hf, _⟩ := fxFromI32_some v
  simp [hf, unwrapR]

theorem okOr_ivsRead_facts (d : List Nat) (hb : Bytes d) :
    Sat (okOr .oob (ivsRead d)) (fun _ => True) (fun s => ∃ d', Bytes d' ∧ ivsRead d' = some s) := by
  cases hi : ivsRead d with
  | none => exact .err trivial
  | some s => exact .ok ⟨d, hb, hi⟩

theorem resolveIvs_facts (d : List Nat) (hb : Bytes d) (off : Nat) :
    Sat (resolveIvs d off) (fun _ => True) (fun s => ∃ d', Bytes d' ∧ ivsRead d' = some s) := by
  unfold resolveIvs
  refine (resolveData_facts d off).cases (fun e _ _ => .err trivial) (fun data _ hdata => ?_)
  obtain ⟨rfl, -⟩ := hdata
  exact okOr_ivsRead_facts _ (bytes_of_drop hb off)

theorem resolveDsim_facts (d : List Nat) (hb : Bytes d) (off : Nat) :
    resolveDsim d off ≠ some .trap ∧ ∀ m, resolveDsim d off = some (.ok m) → ∃ d', Bytes d' ∧ dsimRead d' = .ok m := by
  unfold resolveDsim
  split
  · exact ⟨nofun, nofun⟩
  · split
    · exact ⟨fun hc => (dsimRead_facts _ (bytes_of_drop hb _)).1 (Option.some.inj hc),
        fun m hm => ⟨_, bytes_of_drop hb _, Option.some.inj hm⟩⟩
    · exact ⟨nofun, nofun⟩

theorem advanceItem_no_trap (dsim : Option (R Dsim)) (ivs : R Ivs) (hd : dsim ≠ some .trap)
    (hdsrc : ∀ m, dsim = some (.ok m) → ∃ d, Bytes d ∧ dsimRead d = .ok m)
    (hivs : Sat ivs (fun _ => True) (fun s => ∃ d, Bytes d ∧ ivsRead d = some s)) (gid : Nat) (hg : gid < 4294967296)
    (coords : List Int) (hk : DeltaKernelTotal coords) :
    advanceDelta dsim ivs gid coords ≠ .trap ∧ itemDelta dsim ivs gid coords ≠ .trap := by
  -- the mapped index has a `u16` inner part, and so has the implicit one
  have hmap : ∀ m, dsim = some (.ok m) →
      (match m.get gid with
        | .err e => R.err e
        | .trap => .trap
        | .ok ix => deltaAsFixed ivs ix coords) ≠ .trap := by
    intro m hm
    obtain ⟨d, hb, hr⟩ := hdsrc m hm
    obtain ⟨ef, mc, data, _, _, _, _, hget⟩ := dsimGet_facts hb hr gid hg
    exact hget.cases (fun _ _ _ => nofun)
      (fun ix _ hix => deltaAsFixed_no_trap ivs hivs ix hix.2.1 coords hk)
  have himp := deltaAsFixed_no_trap ivs hivs (0, gid % 65536) (Nat.mod_lt _ (by decide)) coords hk
  constructor
  · unfold advanceDelta
    split
    · exact absurd rfl hd
    · exact absurd rfl hivs.1
    · split
      · nofun
      · split
        · exact hmap _ rfl
        · exact himp
  · unfold itemDelta
    split
    · exact absurd rfl hd
    · exact absurd rfl hivs.1
    · split
      · nofun
      · split
        · exact hmap _ rfl
        · nofun

/-! ## `read_dense_deltas`, `read_sparse_deltas` -/

/-- the coordinate arithmetic of the instantiation cannot trap -/
def ArithTotal (k : DKind) (scalar : Int) : Prop :=
  (∀ v, (deltaTerm k scalar v).isSome) ∧ (∀ a b, (k.addAssign a b).isSome)

theorem arithTotal_one (k : DKind) (hk : k ≠ .int) : ArithTotal k 65536 := by
  constructor
  · intro v
    unfold deltaTerm
    rw [if_pos rfl]
    cases k with
    | fixed => simp [DKind.fromI32, Checked.fxFromI32, Checked.IntTy.shl, Checked.i32]
    | f26dot6 => simp [DKind.fromI32, Checked.f26FromI32, Checked.IntTy.shl, Checked.i32]
    | int => exact absurd rfl hk
  · intro a b
    cases k with
    | fixed => simp [DKind.addAssign]
    | f26dot6 => simp [DKind.addAssign]
    | int => exact absurd rfl hk

theorem arithTotal_scaled (k : DKind) (hk : k ≠ .int) (scalar : Int) (hs : I32 scalar)
    (hm : FxMulTotal) : ArithTotal k scalar := by
  constructor
  · intro v
    unfold deltaTerm
    split
    · rename_i h1; rw [h1] at *; exact (arithTotal_one k hk).1 v |> fun h => by
        unfold deltaTerm at h; rw [if_pos rfl] at h; exact h
    · obtain ⟨f, hf, hfi⟩ := fxFromI32_some v
      rw [hf]
      simp only []
      obtain ⟨p, hp⟩ := Option.isSome_iff_exists.mp (hm f scalar hfi hs)
      rw [hp]
      simp only []
      cases k with
      | fixed => simp [DKind.fromFixed]
      | f26dot6 => simp [DKind.fromFixed, Checked.fxToF26Dot6, Checked.IntTy.shr, Checked.i32]
      | int => exact absurd rfl hk
  · exact (arithTotal_one k hk).2

theorem addAt_facts (k : DKind) (scalar : Int) (buf : List Int) (ix : Nat) (t : Int) (h : ix < buf.length) :
    SatIf (ArithTotal k scalar) (unwrapR (addAt k buf ix t)) (fun b' => b'.length = buf.length) := by
  unfold addAt
  rw [List.getElem?_eq_getElem h]
  simp only []
  cases hk : k.addAssign buf[ix] t with
  | none => exact .trap fun ha => by simpa [hk] using ha.2 buf[ix] t
  | some r => exact .ok (List.length_set ..)

theorem denseApply_facts (k : DKind) (scalar : Int) : ∀ (vals : List Int) (ix : Nat) (buf : List Int),
    ix + vals.length ≤ buf.length →
      SatIf (ArithTotal k scalar) (unwrapR (denseApply k scalar vals ix buf)) (fun b' => b'.length = buf.length) := by
  intro vals
  induction vals with
  | nil => intro ix buf _; exact .ok rfl
  | cons v r ih =>
    intro ix buf h
    simp only [List.length_cons] at h
    unfold denseApply
    cases ht : deltaTerm k scalar v with
    | none => exact .trap fun ha => by simpa [ht] using ha.1 v
    | some t =>
      simp only []
      refine (addAt_facts k scalar buf ix t (by omega)).casesOpt .trap fun b1 hl => ?_
      simp only []
      rw [← hl]
      exact ih (ix + 1) b1 (by omega)

theorem runValues_length (d : List Nat) (vsize pos n : Nat) : (runValues d vsize pos n).length = n := by
  simp [runValues]

theorem readDense_facts (k : DKind) (scalar : Int) (d : List Nat) :
    ∀ (fuel pos cur : Nat) (buf : List Int), buf.length - cur < fuel → buf.length ≤ 4294967296 →
      SatIf (ArithTotal k scalar) (readDense k scalar d fuel pos cur buf) (fun r => r.1.length = buf.length) := by
  intro fuel
  induction fuel with
  | zero => intro pos cur buf h; omega
  | succ f ih =>
    intro pos cur buf hf hbl
    unfold readDense
    by_cases hc : cur < buf.length
    · rw [if_pos hc]
      cases hu : u8At d pos with
      | none => exact .oob
      | some control =>
        have hrc : control % 64 + 1 ≤ 64 := Nat.succ_le_of_lt (Nat.mod_lt _ (by decide))
        simp only [uadd_some_of_le (Nat.le_trans (Nat.le_of_lt hc) hbl) hrc (by decide)]
        by_cases he : cur + (control % 64 + 1) ≤ buf.length
        · rw [if_pos he]
          by_cases hz : runTypeSize control = 0
          · rw [if_pos hz]; exact ih (pos + 1) _ buf (by omega) hbl
          · rw [if_neg hz]
            cases (Cur.readArray d ⟨pos + 1⟩ (control % 64 + 1) (runTypeSize control)).1 with
            | error e' => exact .oob
            | ok n =>
              simp only []
              refine (denseApply_facts k scalar (runValues d (runTypeSize control) (pos + 1) (control % 64 + 1))
                cur buf (by rw [runValues_length]; exact he)).casesOpt .trap fun b1 hl => ?_
              simp only []
              rw [← hl]
              exact ih _ _ b1 (by omega) (by omega)
        · rw [if_neg he]; exact .oob
    · rw [if_neg hc]; exact .ok rfl

theorem accumulateDense_facts (k : DKind) (scalar : Int) (dd : List Nat) (xs ys : List Int)
    (hx : xs.length ≤ 4294967296) (hy : ys.length ≤ 4294967296) :
    SatIf (ArithTotal k scalar) (accumulateDense k scalar dd xs ys)
      (fun r => r.1.length = xs.length ∧ r.2.length = ys.length) := by
  unfold accumulateDense
  refine (readDense_facts k scalar dd (xs.length + 1) 0 0 xs (by omega) hx).cases .trap .oob (fun r hr => ?_)
  obtain ⟨xs1, pos⟩ := r
  simp only []
  refine (readDense_facts k scalar dd (ys.length + 1) pos 0 ys (by omega) hy).cases .trap .oob (fun r2 hr2 => ?_)
  exact .ok ⟨hr, hr2⟩

theorem sparseAt_facts (k : DKind) (scalar : Int) (limit : Nat) (mark : Bool) (ix : Nat) (v : Int)
    (buf : List Int) (flags : List Bool) (hl : limit ≤ buf.length) :
    SatIf (ArithTotal k scalar) (unwrapR (sparseAt k scalar limit mark ix v buf flags))
      (fun r => r.1.length = buf.length ∧ r.2.length = flags.length) := by
  unfold sparseAt
  by_cases hix : ix < limit
  · rw [if_pos hix]
    cases ht : deltaTerm k scalar v with
    | none => exact .trap fun ha => by simpa [ht] using ha.1 v
    | some t =>
      simp only []
      exact (addAt_facts k scalar buf ix t (by omega)).casesOpt .trap fun b1 hl => .ok ⟨hl, by split <;> simp⟩
  · rw [if_neg hix]; exact .ok ⟨rfl, rfl⟩

theorem sparseZip_facts (pd : List Nat) (k : DKind) (scalar : Int) (mark : Bool) {limit n m : Nat} (hl : limit ≤ n) :
    ∀ (vals : List Int) (s : PtSt) (buf : List Int) (flags : List Bool), buf.length = n → flags.length = m →
      SatIf (ArithTotal k scalar) (unwrapR (sparseZip pd k scalar limit mark vals s buf flags))
        (fun r => r.1.length = n ∧ r.2.1.length = m) := by
  intro vals
  induction vals with
  | nil => intro s buf flags hb hf; exact .ok ⟨hb, hf⟩
  | cons v r ih =>
    intro s buf flags hb hf
    unfold sparseZip
    generalize ptNext pd s = pn
    obtain ⟨o, s1⟩ := pn
    cases o with
    | yield ix =>
      simp only []
      refine (sparseAt_facts k scalar limit mark ix v buf flags (hb ▸ hl)).casesOpt .trap fun bf hbf => ?_
      obtain ⟨b1, f1⟩ := bf
      exact ih s1 b1 f1 (hbf.1.trans hb) (hbf.2.trans hf)
    | cont => exact .ok ⟨hb, hf⟩
    | done => exact .ok ⟨hb, hf⟩
    | trap => exact .ok ⟨hb, hf⟩

theorem sparseZero_facts (pd : List Nat) (k : DKind) (scalar : Int) (mark : Bool) {limit n m : Nat} (hl : limit ≤ n) :
    ∀ (c : Nat) (s : PtSt) (buf : List Int) (flags : List Bool), buf.length = n → flags.length = m →
      SatIf (ArithTotal k scalar) (sparseZero pd k scalar limit mark c s buf flags)
        (fun r => r.1.length = n ∧ r.2.1.length = m) := by
  intro c
  induction c with
  | zero => intro s buf flags hb hf; exact .ok ⟨hb, hf⟩
  | succ c ih =>
    intro s buf flags hb hf
    unfold sparseZero
    generalize ptNext pd s = pn
    obtain ⟨o, s1⟩ := pn
    cases o with
    | yield ix =>
      simp only []
      refine (sparseAt_facts k scalar limit mark ix 0 buf flags (hb ▸ hl)).casesOpt .trap fun bf hbf => ?_
      obtain ⟨b1, f1⟩ := bf
      exact ih s1 b1 f1 (hbf.1.trans hb) (hbf.2.trans hf)
    | cont => exact .oob
    | done => exact .oob
    | trap => exact .oob

theorem readSparse_facts (pd dd : List Nat) (k : DKind) (scalar : Int) (mark : Bool) {limit count n m : Nat}
    (hcount : count ≤ 65535) (hl : limit ≤ n) :
    ∀ (fuel pos cur : Nat) (s : PtSt) (buf : List Int) (flags : List Bool), count - cur < fuel →
      buf.length = n → flags.length = m →
      SatIf (ArithTotal k scalar) (readSparse pd dd k scalar limit mark count fuel pos cur s buf flags)
        (fun r => r.1.length = n ∧ r.2.1.length = m) := by
  intro fuel
  induction fuel with
  | zero => intro pos cur s buf flags h; omega
  | succ f ih =>
    intro pos cur s buf flags hfu hb hf
    unfold readSparse
    by_cases hc : cur < count
    · rw [if_pos hc]
      cases hu : u8At dd pos with
      | none => exact .oob
      | some control =>
        have hrc : control % 64 + 1 ≤ 64 := Nat.succ_le_of_lt (Nat.mod_lt _ (by decide))
        simp only [uadd_some_of_le (Nat.le_trans (Nat.le_of_lt hc) hcount) hrc (by decide)]
        by_cases hz : runTypeSize control = 0
        · rw [if_pos hz]
          refine (sparseZero_facts pd k scalar mark hl (control % 64 + 1) s buf flags hb hf).cases .trap .oob
            (fun r hr => ?_)
          obtain ⟨b1, f1, s1⟩ := r
          exact ih _ _ s1 b1 f1 (by omega) hr.1 hr.2
        · rw [if_neg hz]
          cases (Cur.readArray dd ⟨pos + 1⟩ (control % 64 + 1) (runTypeSize control)).1 with
          | error e' => exact .oob
          | ok _ =>
            refine (sparseZip_facts pd k scalar mark hl
              (runValues dd (runTypeSize control) (pos + 1) (control % 64 + 1)) s buf flags hb hf).casesOpt .trap
              fun r hr => ?_
            obtain ⟨b1, f1, s1⟩ := r
            exact ih _ _ s1 b1 f1 (by omega) hr.1 hr.2
    · rw [if_neg hc]; exact .ok ⟨hb, hf⟩

theorem accumulateSparse_facts (k : DKind) (scalar : Int) (pd dd : List Nat) (xs ys : List Int) (flags : List Bool) :
    SatIf (ArithTotal k scalar) (accumulateSparse k scalar pd dd xs ys flags)
      (fun r => r.1.length = xs.length ∧ r.2.1.length = ys.length ∧ r.2.2.length = flags.length) := by
  have hcount : pointCount pd ≤ 65535 := by have := C01Iter.count_le pd; unfold pointCount; omega
  unfold accumulateSparse
  simp only []
  refine (readSparse_facts pd dd k scalar true hcount (Nat.min_le_left _ _)
    (pointCount pd + 1) 0 0 (ptInit pd) xs flags (by omega) rfl rfl).cases .trap .oob (fun r hr => ?_)
  obtain ⟨xs1, f1, pos⟩ := r
  simp only []
  refine (readSparse_facts pd dd k scalar false hcount (Nat.le_refl _)
    (pointCount pd + 1) pos 0 (ptInit pd) ys f1 (by omega) rfl rfl).cases .trap .oob (fun r2 hr2 => ?_)
  exact .ok ⟨hr.1, hr2.1, hr.2⟩

/-! ## `find_glyph_and_point_count`, `phantom_point_deltas` -/

theorem firstMetrics_facts : ∀ (comps : List (Bool × Nat)) (count : Nat), count + comps.length ≤ MAXU →
    ∃ c t, firstMetrics comps count = some (c, t) ∧ c ≤ count + comps.length := by
  intro comps
  induction comps with
  | nil => intro count _; exact ⟨count, none, rfl, by simp⟩
  | cons x r ih =>
    intro count h
    obtain ⟨flag, g⟩ := x
    simp only [List.length_cons] at h
    unfold firstMetrics
    rw [uadd_some _ _ (by omega)]
    simp only []
    split
    · exact ⟨count + 1, some g, rfl, by simp only [List.length_cons]; omega⟩
    · obtain ⟨c, t, hc, hl⟩ := ih (count + 1) (by omega)
      exact ⟨c, t, hc, by simp only [List.length_cons]; omega⟩

/-- glyph tables whose composite glyphs have at most `B` components -/
def CompsBounded (glyph : Nat → GR) (B : Nat) : Prop :=
  ∀ gid comps, glyph gid = .composite comps → comps.length ≤ B

theorem findGlyph_facts (glyph : Nat → GR) (B : Nat) (hB : CompsBounded glyph B) (hBm : B ≤ 4294967296) :
    ∀ (fuel gid depth : Nat), 65 - depth < fuel →
      Sat (findGlyph glyph fuel gid depth) (fun e => e = .malformed ∨ ∃ g, glyph g = .err e)
        (fun r => r.2 ≤ B ∨ ∃ k, glyph r.1 = .simple k ∧ r.2 = k) := by
  intro fuel
  induction fuel with
  | zero => intro gid depth h; omega
  | succ f ih =>
    intro gid depth hf
    unfold findGlyph
    by_cases hd : depth > 64
    · rw [if_pos hd]; exact .err (Or.inl rfl)
    · rw [if_neg hd]
      cases hg : glyph gid with
      | err e => exact .err (Or.inr ⟨gid, hg⟩)
      | none => exact .ok (Or.inl (Nat.zero_le _))
      | simple k => exact .ok (Or.inr ⟨k, hg, rfl⟩)
      | composite comps =>
        have hcl := hB gid comps hg
        obtain ⟨c, t, hc, hcb⟩ := firstMetrics_facts comps 0 (by unfold MAXU; omega)
        simp only [hc]
        cases t with
        | none => exact .ok (Or.inl (by omega))
        | some g' =>
          simp only [uadd_some_of_le (Nat.le_of_not_lt hd) (Nat.le_refl 1) (by decide)]
          exact ih g' (depth + 1) (by omega)

theorem phantomApply_facts (pc : Nat) (scalar : Int)
    (hm : ∀ x y, (applyScalarFixed x y scalar).isSome) :
    ∀ (l : List (Nat × Int × Int)) (ph : List (Int × Int)), ph.length = 4 →
      ∃ ph', phantomApply pc (pc + 4) scalar l ph = some ph' ∧ ph'.length = 4 := by
  intro l
  induction l with
  | nil => intro ph h; exact ⟨ph, rfl, h⟩
  | cons a r ih =>
    intro ph h
    obtain ⟨ix, x, y⟩ := a
    unfold phantomApply
    by_cases hin : pc ≤ ix ∧ ix < pc + 4
    · rw [if_pos hin]
      have hlt : ix - pc < ph.length := by omega
      rw [List.getElem?_eq_getElem hlt]
      obtain ⟨d, hd⟩ := Option.isSome_iff_exists.mp (hm x y)
      rw [hd]
      simp only []
      exact ih _ (by simp [h])
    · rw [if_neg hin]
      exact ih ph h

theorem applyScalarFixed_some (hm : FxMulTotal) (sc : Int) (hs : I32 sc)
    (x y : Int) : (applyScalarFixed x y sc).isSome := by
  unfold applyScalarFixed
  obtain ⟨fa, hfa, hfai⟩ := fxFromI32_some x
  obtain ⟨fb, hfb, hfbi⟩ := fxFromI32_some y
  obtain ⟨pa, hpa⟩ := Option.isSome_iff_exists.mp (hm fa sc hfai hs)
  obtain ⟨pb, hpb⟩ := Option.isSome_iff_exists.mp (hm fb sc hfbi hs)
  simp only [hfa, hfb, hpa, hpb]
  rfl

theorem phantomLoop_facts (p : TVD) (pc : Nat) (hm : FxMulTotal)
    (l : List (TV × Int)) (hl : TuplesReady p true l) :
    ∀ ph : List (Int × Int), ph.length = 4 →
      ∃ ph', phantomLoop p pc (pc + 4) l ph = .ok ph' ∧ ph'.length = 4 := by
  induction l with
  | nil => intro ph h; exact ⟨ph, rfl, h⟩
  | cons a r ih =>
    intro ph h
    obtain ⟨t, sc⟩ := a
    unfold phantomLoop
    obtain ⟨hsc, evs, he, ht⟩ := hl (t, sc) (by simp)
    rw [he]
    simp only [ht]
    obtain ⟨ph1, h1, h2⟩ := phantomApply_facts pc sc (applyScalarFixed_some hm sc hsc) (items evs) ph h
    rw [h1]
    exact ih (fun x hx => hl x (by simp [hx])) ph1 h2

/-! ## test data for the examples of Props/C01HandVar.lean -/

/-- a cvar table with one tuple (embedded peak, private points "all", two byte deltas) -/
def exCvar : List Nat := [0, 1, 0, 0, 0, 1, 0, 14, 0, 4, 0xA0, 0, 0x40, 0, 0, 1, 5, 6]

def exCvarWalk : Option (List (List Int × List (Nat × Int × Int))) :=
  match cvarVariationData exCvar 1 with
  | .ok p => (tvTrace p).map (fun evs => (items evs).map (fun t =>
      ((t.peak p).getD [], ((t.deltasTrace p false).map items).getD [])))
  | _ => none

/-- a one-glyph gvar (long offsets, one axis, one shared tuple): the glyph's tuple refers to shared
tuple 0 and carries deltas for "all points" -/
def exGvar : List Nat :=
  [0, 1, 0, 0, 0, 1, 0, 1, 0, 0, 0, 28, 0, 1, 0, 1, 0, 0, 0, 30,
   0, 0, 0, 0, 0, 0, 0, 12,
   0x40, 0,
   0, 1, 0, 8, 0, 4, 0, 0, 0, 1, 1, 3]

def exGvarWalk : Option (List (List Int × List (Nat × Int × Int))) :=
  match gvarRead exGvar with
  | none => none
  | some g =>
    match g.glyphVariationData 0 with
    | .ok (some p) => (tvTrace p).map (fun evs => (items evs).map (fun t =>
        ((t.peak p).getD [], ((t.deltasTrace p true).map items).getD [])))
    | _ => none

end FontVerif.C01HandVar
