/-
C13 helper lemmas for the byte-level paint model (Model/PaintBytes.lean): `paintBytes` and the fields of
`instOfBytes` as equations, inversion of `nodeOfBytes` (what the bytes must look like for each node shape),
in-table paint ids, forward child offsets, and the unguarded edges `UEdge` / `UChain`.
-/
import FontVerif.Model.PaintBytes
import FontVerif.Lemmas.HandColr
import FontVerif.Props.C01HandColr
namespace FontVerif.PaintBytes
open FontVerif.Paint FontVerif.HandRead FontVerif.HandColr

theorem colrRead_d {d : List Nat} {t : Colr} (h : colrRead d = some t) : t.d = d := by
  unfold colrRead at h
  cases hr : readAt d 0 2 with
  | none => simp [hr] at h
  | some v =>
    simp only [hr] at h
    split at h <;> split at h <;> first | (injection h with h; subst h; rfl) | cases h

/-- painting from the bytes of a table that parses is painting its `instOfBytes` -/
theorem paintBytes_eq {d : List Nat} {t : Colr} (ht : colrRead d = some t) (c : Client) (gid : Gid) :
    paintBytes d c gid = paintV1 (instOfBytes t) c gid := by
  unfold paintBytes; rw [ht]

theorem inst_base_found {t : Colr} {gid fmt pid : Nat} (hb : v1BaseGlyph t gid = .ok (some (fmt, pid))) :
    (instOfBytes t).base gid = .found pid := by
  simp only [instOfBytes, hb]

theorem inst_resolve {d : List Nat} {t : Colr} (ht : colrRead d = some t) :
    (instOfBytes t).resolve = nodeOfBytes d := by
  simp only [instOfBytes, colrRead_d ht]

/-- a resolved child paint (`Offset24` relative to the parent at `p`) lies strictly after its parent,
inside the table -/
theorem childAt_forward {d : List Nat} {p at_ q : Nat} (h : childAt d p at_ = some q) :
    p < q ∧ q < d.length := by
  unfold childAt at h
  split at h
  · rename_i f q' hr
    injection h with h; subst h
    obtain ⟨h1, h2, sz, _, _, h5, _⟩ := C01HandColr.resolvePaint_in_bounds _ _ _ _ _ hr
    omega
  · cases h

theorem paintRead_lt {d : List Nat} {p fmt : Nat} (h : paintRead d p = .ok fmt) : p < d.length := by
  obtain ⟨sz, -, hle, h3⟩ := paintRead_eq_ok h
  omega

theorem nodeOfBytes_lt {d : List Nat} {p : Nat} {n : Node} (h : nodeOfBytes d p = some n) : p < d.length := by
  unfold nodeOfBytes at h
  split at h
  · cases h
  · rename_i fmt hf; exact paintRead_lt hf

/-- **`resolve_paint` from bytes, inverted**: what the bytes at `p` look like, by the shape of the node -/
theorem nodeOfBytes_cases {d : List Nat} {p : Nat} {n : Node} (h : nodeOfBytes d p = some n) :
    ∃ fmt, paintRead d p = .ok fmt ∧
      match n with
      | .colrLayers first num => fmt = 1 ∧ first = be d (p + 2) 4 ∧ num = be d (p + 1) 1
      | .leaf b => ((fmt = 2 ∨ fmt = 3) ∧ b = some (solidBrush (be d (p + 1) 2) (i16 (be d (p + 3) 2)))) ∨
          (4 ≤ fmt ∧ fmt ≤ 9 ∧ ∃ cl, colorLineAt d p (fmt % 2 = 1) = some cl ∧
            b = gradientBrush fmt cl (caseOf d p fmt cl))
      | .glyph g q => fmt = 10 ∧ childAt d p (p + 1) = some q ∧ g = be d (p + 4) 2
      | .colrGlyph g => fmt = 11 ∧ g = be d (p + 1) 2
      | .transform tag q => 12 ≤ fmt ∧ fmt ≠ 32 ∧ childAt d p (p + 1) = some q ∧ tag = p
      | .composite s m b => fmt = 32 ∧ childAt d p (p + 1) = some s ∧ childAt d p (p + 5) = some b ∧
          m = modeOf (be d (p + 4) 1) := by
  unfold nodeOfBytes at h
  split at h
  · cases h
  · rename_i fmt hf
    refine ⟨fmt, hf, ?_⟩
    by_cases h1 : fmt = 1
    · rw [if_pos h1] at h; cases h; exact ⟨h1, rfl, rfl⟩
    rw [if_neg h1] at h
    by_cases h2 : fmt = 2 ∨ fmt = 3
    · rw [if_pos h2] at h; cases h; exact .inl ⟨h2, rfl⟩
    rw [if_neg h2] at h
    by_cases h3 : 4 ≤ fmt ∧ fmt ≤ 9
    · rw [if_pos h3] at h
      obtain ⟨cl, hcl, rfl⟩ := Option.map_eq_some_iff.mp h
      exact .inr ⟨h3.1, h3.2, cl, hcl, rfl⟩
    rw [if_neg h3] at h
    by_cases h4 : fmt = 10
    · rw [if_pos h4] at h
      obtain ⟨q, hq, rfl⟩ := Option.map_eq_some_iff.mp h
      exact ⟨h4, hq, rfl⟩
    rw [if_neg h4] at h
    by_cases h5 : fmt = 11
    · rw [if_pos h5] at h; cases h; exact ⟨h5, rfl⟩
    rw [if_neg h5] at h
    by_cases h6 : fmt = 12 ∨ fmt = 13
    · rw [if_pos h6] at h
      split at h
      · obtain ⟨q, hq, rfl⟩ := Option.map_eq_some_iff.mp h
        exact ⟨by omega, by omega, hq, rfl⟩
      · cases h
    rw [if_neg h6] at h
    by_cases h7 : fmt = 32
    · rw [if_pos h7] at h
      split at h
      · rename_i s b hs hb; cases h; exact ⟨h7, hs, hb, rfl⟩
      · cases h
    rw [if_neg h7] at h
    obtain ⟨q, hq, rfl⟩ := Option.map_eq_some_iff.mp h
    obtain ⟨sz, hsz, -, -⟩ := paintRead_eq_ok hf
    have hfmt : fmt ≠ 0 := by rintro rfl; cases hsz
    exact ⟨by omega, h7, hq, rfl⟩

/-- the shape of a node read from bytes: a `PaintColrLayers` has a `u8` layer count -/
theorem nodeOfBytes_layers {d : List Nat} {p first num : Nat}
    (h : nodeOfBytes d p = some (.colrLayers first num)) : num = be d (p + 1) 1 ∧ first = be d (p + 2) 4 := by
  obtain ⟨fmt, _, _, h1, h2⟩ := nodeOfBytes_cases h
  exact ⟨h2, h1⟩

/-- children of the unguarded edges (`PaintGlyph`, the transforms, `PaintComposite`) lie strictly after
their parent in the table -/
theorem nodeOfBytes_glyph {d : List Nat} {p g ch : Nat}
    (h : nodeOfBytes d p = some (.glyph g ch)) : p < ch ∧ ch < d.length := by
  obtain ⟨fmt, _, _, hq, _⟩ := nodeOfBytes_cases h
  exact childAt_forward hq

theorem nodeOfBytes_transform {d : List Nat} {p tag ch : Nat}
    (h : nodeOfBytes d p = some (.transform tag ch)) : p < ch ∧ ch < d.length ∧ tag = p := by
  obtain ⟨fmt, _, _, _, hq, h0⟩ := nodeOfBytes_cases h
  exact ⟨(childAt_forward hq).1, (childAt_forward hq).2, h0⟩

theorem nodeOfBytes_composite {d : List Nat} {p s m b : Nat}
    (h : nodeOfBytes d p = some (.composite s m b)) :
    (p < s ∧ s < d.length) ∧ (p < b ∧ b < d.length) ∧ m ≤ 28 := by
  obtain ⟨fmt, _, _, hs, hb, rfl⟩ := nodeOfBytes_cases h
  refine ⟨childAt_forward hs, childAt_forward hb, ?_⟩
  unfold modeOf; split <;> omega

/-- **paint ids handed to the decycler are byte offsets inside the table** (layer edge) -/
theorem inst_layer_lt {t : Colr} {i pid : Nat} (h : (instOfBytes t).layer i = some pid) :
    pid < t.d.length := by
  simp only [instOfBytes] at h
  split at h
  · rename_i f q hq
    injection h with h; subst h
    obtain ⟨_, hs⟩ := C01HandColr.v1Layer_safe t i
    obtain ⟨_, sz, hsz, hle⟩ := hs f q hq
    have h3 := paintSize_ge hsz
    omega
  · cases h

/-- (colour-glyph edge and root) -/
theorem inst_base_lt {t : Colr} {g pid : Nat} (h : (instOfBytes t).base g = .found pid) :
    pid < t.d.length := by
  simp only [instOfBytes] at h
  split at h
  · rename_i f q hq
    injection h with h; subst h
    obtain ⟨_, hs⟩ := C01HandColr.v1BaseGlyph_safe t g
    obtain ⟨_, sz, hsz, hle⟩ := hs f q hq
    have h3 := paintSize_ge hsz
    omega
  · cases h
  · cases h

theorem instOfBytes_layersBounded (t : Colr) (hb : Bytes t.d) : LayersBounded (instOfBytes t) 255 := by
  intro id first num h
  have := (nodeOfBytes_layers (d := t.d) h).1
  have h2 := be1_lt t.d hb (id + 1)
  omega

/-- an edge of the paint graph on which `traverse_with_callbacks` does NOT call `decycler.enter`: from the
paint at byte offset `p` to its child at `q` -/
inductive UEdge (d : List Nat) : Nat → Nat → Prop
  | glyph {p g q : Nat} : nodeOfBytes d p = some (.glyph g q) → UEdge d p q
  | transform {p tag q : Nat} : nodeOfBytes d p = some (.transform tag q) → UEdge d p q
  | src {p s m b : Nat} : nodeOfBytes d p = some (.composite s m b) → UEdge d p s
  | backdrop {p s m b : Nat} : nodeOfBytes d p = some (.composite s m b) → UEdge d p b

/-- a chain of `k` unguarded edges starting at offset `p` -/
inductive UChain (d : List Nat) : Nat → Nat → Prop
  | here (p : Nat) : UChain d p 0
  | step {p q k : Nat} : UEdge d p q → UChain d q k → UChain d p (k + 1)

theorem UEdge.forward {d : List Nat} {p q : Nat} (h : UEdge d p q) : p < q ∧ q < d.length := by
  cases h with
  | glyph h => exact nodeOfBytes_glyph h
  | transform h => exact ⟨(nodeOfBytes_transform h).1, (nodeOfBytes_transform h).2.1⟩
  | src h => exact (nodeOfBytes_composite h).1
  | backdrop h => exact (nodeOfBytes_composite h).2.1

end FontVerif.PaintBytes
