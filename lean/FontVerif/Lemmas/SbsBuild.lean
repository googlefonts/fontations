/-
Sparse-bit-set codec, encoder: the node vector built by the `while height > 0 { create_layer }`
loop, described semantically from the member list `S`:
`Ids k p`  — some member lies below node `p` of level `k` (level 0 = the values themselves);
`Full k p` — every value below node `p` of level `k` is a member.
-/
import FontVerif.Lemmas.SbsLayer
namespace FontVerif.SparseBitSet

/-- node `p` of level `k` has a member below it -/
def Ids (bf : Nat) (S : List Nat) (k p : Nat) : Prop := ∃ m ∈ S, m / bf ^ k = p

/-- every value below node `p` of level `k` is a member -/
def Full (bf : Nat) (S : List Nat) (k p : Nat) : Prop := ∀ x, x / bf ^ k = p → x ∈ S

theorem div_pow_succ (bf x k : Nat) : x / bf ^ (k + 1) = x / bf ^ k / bf := by
  rw [Nat.pow_succ, Nat.div_div_eq_div_mul]

theorem ids_zero (bf : Nat) (S : List Nat) (v : Nat) : Ids bf S 0 v ↔ v ∈ S := by
  simp [Ids]

theorem full_zero (bf : Nat) (S : List Nat) (v : Nat) : Full bf S 0 v ↔ v ∈ S := by
  simp [Full]

theorem ids_succ (bf : Nat) (S : List Nat) (k p : Nat) :
    Ids bf S (k + 1) p ↔ ∃ v, Ids bf S k v ∧ v / bf = p := by
  simp only [Ids, div_pow_succ]
  constructor
  · rintro ⟨m, hm, rfl⟩; exact ⟨_, ⟨m, hm, rfl⟩, rfl⟩
  · rintro ⟨v, ⟨m, hm, rfl⟩, rfl⟩; exact ⟨m, hm, rfl⟩

theorem full_succ {bf : Nat} (hbf : 0 < bf) (S : List Nat) (k p : Nat) :
    Full bf S (k + 1) p ↔ ∀ j, j < bf → Full bf S k (p * bf + j) := by
  simp only [Full, div_pow_succ]
  constructor
  · intro h j hj x hx
    apply h
    rw [hx]; exact mul_add_div hbf _ hj
  · intro h x hx
    have hj : x / bf ^ k % bf < bf := Nat.mod_lt _ hbf
    apply h _ hj x
    exact ((div_mod_unique hbf hj).mpr ⟨hx, rfl⟩).symm

theorem full_of_parent {bf : Nat} (hbf : 0 < bf) {S : List Nat} {k p : Nat}
    (h : Full bf S (k + 1) (p / bf)) : Full bf S k p := by
  have hj : p % bf < bf := Nat.mod_lt _ hbf
  have := (full_succ hbf S k _).mp h _ hj
  rwa [(div_mod_unique hbf hj).mpr ⟨rfl, rfl⟩] at this

theorem full_ids {bf : Nat} (hbf : 0 < bf) {S : List Nat} {k p : Nat} (h : Full bf S k p) :
    Ids bf S k p :=
  ⟨p * bf ^ k, h _ (Nat.mul_div_cancel _ (Nat.pow_pos hbf)), Nat.mul_div_cancel _ (Nat.pow_pos hbf)⟩

theorem not_full_above {bf : Nat} (hbf : 2 ≤ bf) {S : List Nat} {H : Nat}
    (hS : ∀ m ∈ S, m < bf ^ H) (q : Nat) : ¬ Full bf S (H + 1) q := by
  intro h
  have hpos : 0 < bf ^ (H + 1) := Nat.pow_pos (by omega)
  have hlt : bf ^ H < bf ^ (H + 1) := Nat.pow_lt_pow_right (by omega) (Nat.lt_succ_self _)
  have hx : (bf ^ H + q * bf ^ (H + 1)) / bf ^ (H + 1) = q := by
    rw [Nat.add_mul_div_right _ _ hpos, Nat.div_eq_of_lt hlt, Nat.zero_add]
  have := hS _ (h _ hx)
  have : bf ^ H ≤ bf ^ H + q * bf ^ (H + 1) := Nat.le_add_right _ _
  omega

/-- the nodes of tree level `k + 1` as pushed by `create_layer` (descending index order) -/
structure LayerNew (bf : Nat) (S : List Nat) (k : Nat) (N : List Node) : Prop where
  sorted : (N.map (·.parentIndex)).reverse.Pairwise (· < ·)
  mem : ∀ p, p ∈ N.map (·.parentIndex) ↔ Ids bf S (k + 1) p
  bits : ∀ n ∈ N, ∀ i, n.bits.testBit i = true ↔ (i < bf ∧ Ids bf S k (n.parentIndex * bf + i))
  filled : ∀ n ∈ N, Full bf S (k + 1) n.parentIndex → n.nodeType = NodeType.filled
  standard : ∀ n ∈ N, ¬ Full bf S (k + 1) n.parentIndex → n.nodeType = NodeType.standard

/-- the nodes of tree level `k + 1` in the finished node vector: children of a full node are
`Skip`, full nodes with a non-full parent are `Filled`, the others `Standard` -/
structure LayerFinal (bf : Nat) (S : List Nat) (k : Nat) (N : List Node) : Prop where
  sorted : (N.map (·.parentIndex)).reverse.Pairwise (· < ·)
  mem : ∀ p, p ∈ N.map (·.parentIndex) ↔ Ids bf S (k + 1) p
  bits : ∀ n ∈ N, ∀ i, n.bits.testBit i = true ↔ (i < bf ∧ Ids bf S k (n.parentIndex * bf + i))
  skip : ∀ n ∈ N, Full bf S (k + 2) (n.parentIndex / bf) → n.nodeType = NodeType.skip
  filled : ∀ n ∈ N, ¬ Full bf S (k + 2) (n.parentIndex / bf) → Full bf S (k + 1) n.parentIndex →
    n.nodeType = NodeType.filled
  standard : ∀ n ∈ N, ¬ Full bf S (k + 2) (n.parentIndex / bf) →
    ¬ Full bf S (k + 1) n.parentIndex → n.nodeType = NodeType.standard

theorem layerFinal_of_mark {bf : Nat} {S : List Nat} {k : Nat} {N : List Node} (uf : List Nat)
    (hN : LayerNew bf S k N) (huf : ∀ p, p ∈ uf ↔ Full bf S (k + 2) p) :
    LayerFinal bf S k (N.map (markBy bf uf)) := by
  -- a node whose parent is not full is left as it was
  have key : ∀ n ∈ N.map (markBy bf uf), ¬ Full bf S (k + 2) (n.parentIndex / bf) → n ∈ N := by
    intro n hn hnf
    obtain ⟨c, hc, rfl⟩ := List.mem_map.mp hn
    rw [markBy_parentIndex] at hnf
    rw [markBy, if_neg (fun h => hnf ((huf _).mp h))]; exact hc
  refine ⟨by rw [map_markBy_ids]; exact hN.sorted, by rw [map_markBy_ids]; exact hN.mem,
    ?_, ?_, fun n hn hnf => hN.filled n (key n hn hnf), fun n hn hnf => hN.standard n (key n hn hnf)⟩
  · intro n hn i
    obtain ⟨c, hc, rfl⟩ := List.mem_map.mp hn
    rw [markBy_bits, markBy_parentIndex]; exact hN.bits c hc i
  · intro n hn hf
    obtain ⟨c, hc, rfl⟩ := List.mem_map.mp hn
    rw [markBy_parentIndex] at hf
    simp [markBy, (huf _).mpr hf]

theorem createLayer_level {bf : Nat} (hbf : 0 < bf) (S : List Nat) (k : Nat)
    (values : List Nat) (filled : Option (List Nat)) (old last : List Node)
    (hv : values.Pairwise (· < ·)) (hmem : ∀ v, v ∈ values ↔ Ids bf S k v)
    (hfil : ∀ v, v ∈ values → (isF filled v = true ↔ Full bf S k v))
    (hl : last.length = values.length ∨ (old = [] ∧ last = [])) :
    ∃ upper uf new, createLayer bf values filled (old ++ last)
        = (upper, uf, old ++ last.map (markBy bf uf) ++ new) ∧
      upper.Pairwise (· < ·) ∧ (∀ p, p ∈ upper ↔ Ids bf S (k + 1) p) ∧
      (∀ p, p ∈ uf ↔ Full bf S (k + 1) p) ∧
      new.length = upper.length ∧ LayerNew bf S k new := by
  obtain ⟨upper, uf, _, h5, h1, h2, _, h4, new, rfl, h6⟩ :=
    createLayer_spec hbf values filled old last hv hl
  have hup : ∀ p, p ∈ upper ↔ Ids bf S (k + 1) p := by
    intro p
    rw [h2 p, ids_succ]
    constructor
    · rintro ⟨v, hv, rfl⟩; exact ⟨v, (hmem v).mp hv, rfl⟩
    · rintro ⟨v, hv, rfl⟩; exact ⟨v, (hmem v).mpr hv, rfl⟩
  have huf : ∀ p, p ∈ uf ↔ Full bf S (k + 1) p := by
    intro p
    rw [h4 p, full_succ hbf]
    constructor
    · rintro ⟨_, hall⟩ j hj
      exact (hfil _ (hall j hj).1).mp (hall j hj).2
    · intro hall
      refine ⟨(hup p).mpr (full_ids hbf ((full_succ hbf S k p).mpr hall)), fun j hj => ?_⟩
      have hm : p * bf + j ∈ values := (hmem _).mpr (full_ids hbf (hall j hj))
      exact ⟨hm, (hfil _ hm).mpr (hall j hj)⟩
  refine ⟨upper, uf, new, h5, h1, hup, huf, ?_, ?_⟩
  · have := congrArg List.length h6.ids
    simpa using this
  · refine ⟨by rw [h6.ids, List.reverse_reverse]; exact h1, ?_, ?_, ?_, ?_⟩
    · intro p; rw [h6.ids, List.mem_reverse]; exact hup p
    · intro n hn i
      rw [h6.bits n hn i, hmem]
    · intro n hn hf
      rw [h6.types n hn, if_pos ((huf _).mpr hf)]
    · intro n hn hf
      rw [h6.types n hn, if_neg (fun h => hf ((huf _).mp h))]

/-- `h` more `create_layer` calls starting from the index list of level `k` (`k + h = H`, the
tree height, all members `< bf^H`): the node vector becomes `old ++ last' ++ layers.flatten`
where `last'` is `last` with the children of full nodes marked and `layers[i]` are the finished
nodes of level `k + i + 1`.  The top layer is no special case: no call follows it, nothing is
marked, and no node of level `H + 1` is full. -/
theorem buildLayers_spec {bf : Nat} (hbf : 2 ≤ bf) (S : List Nat) (H : Nat)
    (hS : ∀ m ∈ S, m < bf ^ H) :
    ∀ (h k : Nat), k + h = H → ∀ (values : List Nat) (filled : Option (List Nat))
      (old last : List Node), values.Pairwise (· < ·) → (∀ v, v ∈ values ↔ Ids bf S k v) →
      (∀ v, v ∈ values → (isF filled v = true ↔ Full bf S k v)) →
      (last.length = values.length ∨ (old = [] ∧ last = [])) →
      ∃ (uf : List Nat) (layers : List (List Node)),
        buildLayers bf h values filled (old ++ last)
          = old ++ last.map (markBy bf uf) ++ layers.flatten ∧
        (∀ p, p ∈ uf ↔ Full bf S (k + 1) p) ∧
        layers.length = h ∧ ∀ i (hi : i < layers.length), LayerFinal bf S (k + i) layers[i] := by
  intro h
  induction h with
  | zero =>
    intro k hk values filled old last _ _ _ _
    obtain rfl : k = H := hk
    refine ⟨[], [], by simp [buildLayers, markBy_nil],
      fun p => ⟨nofun, fun hf => absurd hf (not_full_above hbf hS p)⟩, rfl, ?_⟩
    intro i hi; simp at hi
  | succ h ih =>
    intro k hk values filled old last hv hmem hfil hl
    obtain ⟨upper, uf, new, hcl, hup1, hup2, huf, hlen, hnew⟩ :=
      createLayer_level (by omega) S k values filled old last hv hmem hfil hl
    have hfil' : ∀ v, v ∈ upper → (isF (some uf) v = true ↔ Full bf S (k + 1) v) := by
      intro v _
      simp only [isF, List.contains_iff_mem]
      exact huf v
    obtain ⟨uf', layers', hb, huf', hll, hlay⟩ :=
      ih (k + 1) (by omega) upper (some uf)
        (old ++ last.map (markBy bf uf)) new hup1 hup2 hfil' (Or.inl hlen)
    refine ⟨uf, new.map (markBy bf uf') :: layers', ?_, huf, by simp [hll], ?_⟩
    · simp only [buildLayers, hcl]
      rw [hb]
      simp [List.append_assoc]
    · intro i hi
      cases i with
      | zero => exact layerFinal_of_mark uf' hnew huf'
      | succ i =>
        simp only [List.getElem_cons_succ]
        have := hlay i (by simpa using hi)
        have e : k + (i + 1) = k + 1 + i := by omega
        rw [e]; exact this

end FontVerif.SparseBitSet
