/-
One component record of a composite glyph as read-fonts' `ComponentIter::next` reads it (Model/Glyf.lean
`readComponent`), and the component list reader at an offset of a buffer.
-/
import FontVerif.Lemmas.SubsetCompLoop
namespace FontVerif.SubsetOutline
open FontVerif.Subset

/-- a reader of exactly `n` bytes: a value of the window, the cursor behind it -/
def fixedRead {α : Type} (n : Nat) (val : List Nat → α) (cur : List Nat) : Option (α × List Nat) :=
  if n ≤ cur.length then some (val (cur.take n), cur.drop n) else none

/-- the value a fixed-width reader `rd` yields on its window -/
def valOf {α : Type} (rd : List Nat → Option (α × List Nat)) (d : α) (w : List Nat) : α := ((rd w).map (·.1)).getD d

theorem fixedRead_some {α : Type} {n : Nat} {val : List Nat → α} {cur r : List Nat} {v : α}
    (h : fixedRead n val cur = some (v, r)) : n ≤ cur.length ∧ v = val (cur.take n) ∧ r = cur.drop n := by
  unfold fixedRead at h
  by_cases hn : n ≤ cur.length
  · rw [if_pos hn] at h; cases h; exact ⟨hn, rfl, rfl⟩
  · rw [if_neg hn] at h; cases h

theorem fixedRead_append {α : Type} {n : Nat} {val : List Nat → α} {cur r : List Nat} {v : α} (extra : List Nat)
    (h : fixedRead n val cur = some (v, r)) : fixedRead n val (cur ++ extra) = some (v, r ++ extra) := by
  obtain ⟨hn, rfl, rfl⟩ := fixedRead_some h
  rw [fixedRead, if_pos (by rw [List.length_append]; omega), List.take_append_of_le_length hn,
    List.drop_append_of_le_length hn]

theorem fixedRead_congr {α : Type} (n : Nat) (val : List Nat → α) (A B : List Nat) (h : A.take n = B.take n) :
    (fixedRead n val A = none ∧ fixedRead n val B = none) ∨
    ∃ v, fixedRead n val A = some (v, A.drop n) ∧ fixedRead n val B = some (v, B.drop n) := by
  have hl := congrArg List.length h
  rw [List.length_take, List.length_take] at hl
  unfold fixedRead
  by_cases hn : n ≤ A.length
  · rw [if_pos hn, if_pos (by omega), h]; exact Or.inr ⟨_, rfl, rfl⟩
  · rw [if_neg hn, if_neg (by omega)]; exact Or.inl ⟨rfl, rfl⟩

def aSz (words : Bool) : Nat := if words then 4 else 2
def tSz (f : Nat) : Nat :=
  if Glyf.hasBit f Glyf.HAVE_SCALE then 2 else if Glyf.hasBit f Glyf.HAVE_XY_SCALE then 4
  else if Glyf.hasBit f Glyf.HAVE_2X2 then 8 else 0

theorem anchor_fixed (xy words : Bool) (cur : List Nat) :
    Glyf.readAnchor xy words cur = fixedRead (aSz words) (valOf (Glyf.readAnchor xy words) (.point 0 0)) cur := by
  cases words <;> cases xy
  · rcases cur with _ | ⟨a, _ | ⟨b, r⟩⟩ <;> rfl
  · rcases cur with _ | ⟨a, _ | ⟨b, r⟩⟩ <;> rfl
  · rcases cur with _ | ⟨a, _ | ⟨b, _ | ⟨c, _ | ⟨e, r⟩⟩⟩⟩ <;> rfl
  · rcases cur with _ | ⟨a, _ | ⟨b, _ | ⟨c, _ | ⟨e, r⟩⟩⟩⟩ <;> rfl

theorem transform_fixed (f : Nat) (cur : List Nat) :
    Glyf.readTransform f cur = fixedRead (tSz f) (valOf (Glyf.readTransform f) ⟨0, 0, 0, 0⟩) cur := by
  unfold tSz valOf Glyf.readTransform fixedRead
  by_cases h1 : Glyf.hasBit f Glyf.HAVE_SCALE = true
  · simp only [h1, if_true]
    rcases cur with _ | ⟨a, _ | ⟨b, r⟩⟩ <;> simp [Glyf.readI16]
  by_cases h2 : Glyf.hasBit f Glyf.HAVE_XY_SCALE = true
  · simp only [h1, h2, if_true]
    rcases cur with _ | ⟨a, _ | ⟨b, _ | ⟨c, _ | ⟨e, r⟩⟩⟩⟩ <;> simp [Glyf.readI16]
  by_cases h3 : Glyf.hasBit f Glyf.HAVE_2X2 = true
  · simp only [h1, h2, h3, if_true]
    rcases cur with _ | ⟨a, _ | ⟨b, _ | ⟨c, _ | ⟨e, _ | ⟨a', _ | ⟨b', _ | ⟨c', _ | ⟨e', r⟩⟩⟩⟩⟩⟩⟩⟩ <;> simp [Glyf.readI16]
  · simp [h1, h2, h3]

/-- argument + transform bytes of a component whose (truncated) flag word is `f` -/
def tailSz (f : Nat) : Nat := aSz (Glyf.hasBit f Glyf.ARG_WORDS) + tSz f

/-- `ComponentIter::next` after the flag word and the glyph id -/
def tailRead (f : Nat) (cur : List Nat) : Option ((Glyf.Anchor × Glyf.Transform) × List Nat) :=
  match Glyf.readAnchor (Glyf.hasBit f Glyf.ARGS_XY) (Glyf.hasBit f Glyf.ARG_WORDS) cur with
  | none => none
  | some (anchor, c5) =>
    match Glyf.readTransform f c5 with
    | none => none
    | some (t, c10) => some ((anchor, t), c10)

theorem tailRead_fixed (f : Nat) : ∃ val, ∀ cur, tailRead f cur = fixedRead (tailSz f) val cur := by
  refine ⟨fun w => (valOf (Glyf.readAnchor (Glyf.hasBit f Glyf.ARGS_XY) (Glyf.hasBit f Glyf.ARG_WORDS)) (.point 0 0)
      (w.take (aSz (Glyf.hasBit f Glyf.ARG_WORDS))),
    valOf (Glyf.readTransform f) ⟨0, 0, 0, 0⟩ (w.drop (aSz (Glyf.hasBit f Glyf.ARG_WORDS)))), fun cur => ?_⟩
  unfold tailRead tailSz
  rw [anchor_fixed]
  generalize aSz (Glyf.hasBit f Glyf.ARG_WORDS) = a
  unfold fixedRead
  by_cases ha : a ≤ cur.length
  · rw [if_pos ha]
    simp only
    rw [transform_fixed, fixedRead, List.length_drop]
    by_cases ht : tSz f ≤ cur.length - a
    · rw [if_pos ht, if_pos (by omega), List.take_take, Nat.min_eq_left (Nat.le_add_right _ _), List.drop_take,
        Nat.add_sub_cancel_left, List.drop_drop]
    · rw [if_neg ht, if_neg (by omega)]
  · rw [if_neg ha, if_neg (by omega)]

theorem tail_some (f : Nat) (cur r : List Nat) (v : Glyf.Anchor × Glyf.Transform)
    (h : tailRead f cur = some (v, r)) : tailSz f ≤ cur.length ∧ r = cur.drop (tailSz f) := by
  obtain ⟨val, hv⟩ := tailRead_fixed f
  rw [hv] at h
  exact ⟨(fixedRead_some h).1, (fixedRead_some h).2.2⟩

theorem tail_append (f : Nat) (cur r extra : List Nat) (v : Glyf.Anchor × Glyf.Transform)
    (h : tailRead f cur = some (v, r)) : tailRead f (cur ++ extra) = some (v, r ++ extra) := by
  obtain ⟨val, hv⟩ := tailRead_fixed f
  rw [hv] at h ⊢
  exact fixedRead_append extra h

theorem tail_congr (f : Nat) (A B : List Nat) (h : A.take (tailSz f) = B.take (tailSz f)) :
    (tailRead f A = none ∧ tailRead f B = none) ∨
    ∃ v, tailRead f A = some (v, A.drop (tailSz f)) ∧ tailRead f B = some (v, B.drop (tailSz f)) := by
  obtain ⟨val, hv⟩ := tailRead_fixed f
  rw [hv, hv]
  exact fixedRead_congr _ val A B h

theorem tailRead_bits (f g : Nat) (h1 : Glyf.hasBit f Glyf.ARGS_XY = Glyf.hasBit g Glyf.ARGS_XY)
    (h2 : Glyf.hasBit f Glyf.ARG_WORDS = Glyf.hasBit g Glyf.ARG_WORDS)
    (h3 : Glyf.hasBit f Glyf.HAVE_SCALE = Glyf.hasBit g Glyf.HAVE_SCALE)
    (h4 : Glyf.hasBit f Glyf.HAVE_XY_SCALE = Glyf.hasBit g Glyf.HAVE_XY_SCALE)
    (h5 : Glyf.hasBit f Glyf.HAVE_2X2 = Glyf.hasBit g Glyf.HAVE_2X2) (cur : List Nat) :
    tailRead f cur = tailRead g cur := by
  unfold tailRead Glyf.readTransform
  simp only [h1, h2, h3, h4, h5]

theorem hasBit_compFlags (flags i f m : Nat) (hm : 0x1EEF &&& m = m ∧ 0x0400 &&& m = 0) :
    Glyf.hasBit (compFlags flags i f) m = Glyf.hasBit f m := by
  unfold Glyf.hasBit; rw [compFlags_bit flags i f m hm]

theorem compRecSize_eq (f : Nat) : compRecSize f = 4 + tailSz f := by
  unfold compRecSize tailSz
  rw [Nat.add_assoc]
  rfl

theorem compFlags_first (flags i f : Nat) : compFlags flags i f = compFlags flags (if i = 10 then 10 else 0) f := by
  unfold compFlags
  by_cases h : i = 10 <;> simp [h]

theorem tailRead_compFlags (flags i f : Nat) (cur : List Nat) : tailRead (compFlags flags i f) cur = tailRead f cur :=
  tailRead_bits _ _ (hasBit_compFlags _ _ _ _ ⟨rfl, rfl⟩) (hasBit_compFlags _ _ _ _ ⟨rfl, rfl⟩)
    (hasBit_compFlags _ _ _ _ ⟨rfl, rfl⟩) (hasBit_compFlags _ _ _ _ ⟨rfl, rfl⟩) (hasBit_compFlags _ _ _ _ ⟨rfl, rfl⟩) cur

theorem readComponent_cons (a0 a1 a2 a3 : Nat) (A4 : List Nat) :
    Glyf.readComponent (a0 :: a1 :: a2 :: a3 :: A4) =
      (tailRead ((a0 * 256 + a1) &&& Glyf.COMPOSITE_ALL) A4).map
        (fun r => (⟨(a0 * 256 + a1) &&& Glyf.COMPOSITE_ALL, a2 * 256 + a3, r.1.1, r.1.2⟩, r.2)) := by
  unfold Glyf.readComponent tailRead
  simp only [Glyf.readU16]
  generalize Glyf.readAnchor (Glyf.hasBit ((a0 * 256 + a1) &&& Glyf.COMPOSITE_ALL) Glyf.ARGS_XY)
    (Glyf.hasBit ((a0 * 256 + a1) &&& Glyf.COMPOSITE_ALL) Glyf.ARG_WORDS) A4 = ra
  cases ra with
  | none => rfl
  | some p =>
    obtain ⟨anchor, c5⟩ := p
    simp only
    generalize Glyf.readTransform ((a0 * 256 + a1) &&& Glyf.COMPOSITE_ALL) c5 = rt
    cases rt with
    | none => rfl
    | some q => rfl


theorem readComponent_consumes (cur cur' : List Nat) (c : Glyf.RComponent)
    (h : Glyf.readComponent cur = some (c, cur')) : cur'.length + 4 ≤ cur.length := by
  match cur, h with
  | [], h => simp [Glyf.readComponent, Glyf.readU16] at h
  | [a], h => simp [Glyf.readComponent, Glyf.readU16] at h
  | [a, b], h => simp [Glyf.readComponent, Glyf.readU16] at h
  | [a, b, c'], h => simp [Glyf.readComponent, Glyf.readU16] at h
  | a0 :: a1 :: a2 :: a3 :: A4, h =>
    rw [readComponent_cons] at h
    cases ht : tailRead ((a0 * 256 + a1) &&& Glyf.COMPOSITE_ALL) A4 with
    | none => rw [ht] at h; cases h
    | some p =>
      rw [ht] at h
      simp only [Option.map_some, Option.some.injEq, Prod.mk.injEq] at h
      obtain ⟨_, hr⟩ := tail_some _ _ _ _ (show tailRead _ A4 = some (p.1, p.2) from ht)
      rw [← h.2, hr]
      simp only [List.length_drop, List.length_cons]; omega

theorem readComponents_fuel : ∀ (F F' : Nat) (cur : List Nat), cur.length < 4 * F → F ≤ F' →
    Glyf.readComponents F' cur = Glyf.readComponents F cur
  | 0, _, cur, h, _ => by omega
  | F + 1, 0, cur, _, h => by omega
  | F + 1, F' + 1, cur, h, hF => by
    unfold Glyf.readComponents
    cases hr : Glyf.readComponent cur with
    | none => rfl
    | some p =>
      obtain ⟨c, cur'⟩ := p
      have := readComponent_consumes cur cur' c hr
      simp only
      rw [readComponents_fuel F F' cur' (by omega) (by omega)]

theorem readComponents_at (F : Nat) (X : Bytes) (i : Nat) (h : i + 4 ≤ X.length) :
    Glyf.readComponents (F + 1) (X.drop i) =
      match tailRead (flagsAt X i) (X.drop (i + 4)) with
      | none => []
      | some (v, _) => ⟨flagsAt X i, u16At X (i + 2), v.1, v.2⟩ ::
          if Glyf.hasBit (flagsAt X i) Glyf.MORE_COMPONENTS then
            Glyf.readComponents F (X.drop (i + compRecSize (flagsAt X i))) else [] := by
  have hf : (X.getD i 0 * 256 + X.getD (i + 1) 0) &&& Glyf.COMPOSITE_ALL = flagsAt X i := rfl
  rw [drop_four X i h, Glyf.readComponents, readComponent_cons, hf]
  cases ht : tailRead (flagsAt X i) (X.drop (i + 4)) with
  | none => rfl
  | some p =>
    obtain ⟨v, r⟩ := p
    obtain ⟨_, hr⟩ := tail_some _ _ _ _ ht
    have e : i + 4 + tailSz (flagsAt X i) = i + compRecSize (flagsAt X i) := by rw [compRecSize_eq]; omega
    rw [hr, List.drop_drop, e]
    simp only [Option.map_some]
    split <;> rfl

/-- the component list ends with a record without MORE_COMPONENTS (read-fonts read every record) -/
def complete (cs : List Glyf.RComponent) : Prop :=
  ∃ c, cs.getLast? = some c ∧ Glyf.hasBit c.flags Glyf.MORE_COMPONENTS = false

theorem complete_tail (c : Glyf.RComponent) (l : List Glyf.RComponent) (h : complete (c :: l))
    (hm : Glyf.hasBit c.flags Glyf.MORE_COMPONENTS = true) : complete l := by
  obtain ⟨cl, h1, h2⟩ := h
  cases l with
  | nil =>
    simp only [List.getLast?_singleton, Option.some.injEq] at h1
    rw [← h1, hm] at h2
    cases h2
  | cons a l => exact ⟨cl, by rwa [List.getLast?_cons_cons] at h1, h2⟩

theorem not_complete_nil : ¬ complete [] := fun ⟨_, h, _⟩ => by simp at h

/-- a complete list has a first record, and a record has four bytes at least -/
theorem complete_length {F : Nat} {cur : List Nat} (hc : complete (Glyf.readComponents (F + 1) cur)) :
    4 ≤ cur.length := by
  unfold Glyf.readComponents at hc
  cases hr : Glyf.readComponent cur with
  | none => rw [hr] at hc; exact absurd hc not_complete_nil
  | some p => have := readComponent_consumes _ _ _ hr; omega

theorem readComponents_append : ∀ (F : Nat) (cur extra : List Nat), complete (Glyf.readComponents F cur) →
    Glyf.readComponents F (cur ++ extra) = Glyf.readComponents F cur
  | 0, cur, extra, hc => absurd hc not_complete_nil
  | F + 1, cur, extra, hc => by
    have h4 := complete_length hc
    have h1 := readComponents_at F cur 0 (by omega)
    have h2 := readComponents_at F (cur ++ extra) 0 (by simp; omega)
    simp only [List.drop_zero, Nat.zero_add] at h1 h2
    have ef : flagsAt (cur ++ extra) 0 = flagsAt cur 0 := by
      unfold flagsAt; rw [sU16At_append_left _ _ _ (by omega)]
    rw [h1] at hc
    rw [h1, h2, ef, sU16At_append_left _ _ _ (by omega), List.drop_append_of_le_length (by omega)]
    cases ht : tailRead (flagsAt cur 0) (cur.drop 4) with
    | none => rw [ht] at hc; exact absurd hc not_complete_nil
    | some p =>
      obtain ⟨v, r⟩ := p
      obtain ⟨hl, _⟩ := tail_some _ _ _ _ ht
      rw [tail_append _ _ _ extra _ ht]
      rw [ht] at hc
      simp only at hc ⊢
      split
      · rename_i hm
        rw [if_pos hm] at hc
        rw [List.drop_append_of_le_length (by rw [compRecSize_eq]; simp at hl; omega),
          readComponents_append F _ extra (complete_tail _ _ hc hm)]
      · rfl

end FontVerif.SubsetOutline
