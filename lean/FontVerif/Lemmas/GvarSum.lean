/-
The fold over tuples of `simple_glyph` (Model/GvarApply.lean `simpleGlyph`): every active tuple adds
its contribution to the running 16.16 deltas with wrapping addition, in tuple order.  Closed formula
(sum of the contributions mod 2^32, independent of the order) and
the rational error bound of a sum of per-tuple contributions.
-/
import FontVerif.Model.GvarApply
import FontVerif.Lemmas.GvarApply
import FontVerif.Lemmas.IupRat
namespace FontVerif.GvarApply
open FontVerif.PackedDeltas FontVerif.GvarData

/-- one accumulation step: `delta += contribution` for every entry (wrapping 16.16) -/
def stepAdd (acc c : List Pt) : List Pt :=
  (List.range acc.length).map fun k => ptAdd (acc.getD k (0, 0)) (c.getD k (0, 0))

theorem stepAdd_length (acc c : List Pt) : (stepAdd acc c).length = acc.length := by simp [stepAdd]

theorem stepAdd_getD (acc c : List Pt) (k : Nat) (hk : k < acc.length) :
    (stepAdd acc c).getD k (0, 0) = ptAdd (acc.getD k (0, 0)) (c.getD k (0, 0)) := by
  unfold stepAdd
  rw [getD_map_range, if_pos hk]

theorem stepAdd_map_range (acc : List Pt) (n : Nat) (g : Nat → Pt) (h : acc.length = n) :
    stepAdd acc ((List.range n).map g) = (List.range n).map fun k => ptAdd (acc.getD k (0, 0)) (g k) := by
  unfold stepAdd
  rw [h]
  apply List.map_congr_left
  intro k hk
  rw [getD_map_range, if_pos (List.mem_range.mp hk)]

theorem foldl_stepAdd_length : ∀ (cs : List (List Pt)) (acc : List Pt),
    (cs.foldl stepAdd acc).length = acc.length := by
  intro cs
  induction cs with
  | nil => intro acc; rfl
  | cons c cs ih => intro acc; simp only [List.foldl_cons]; rw [ih, stepAdd_length]

def colX (cs : List (List Pt)) (k : Nat) : Int := (cs.map fun c => (c.getD k (0, 0)).1).sum
def colY (cs : List (List Pt)) (k : Nat) : Int := (cs.map fun c => (c.getD k (0, 0)).2).sum

/-- an entry that is a wrapped value stays one along the fold: the induction carries the unwrapped
sums `a`, `b` -/
theorem foldl_stepAdd_getD : ∀ (cs : List (List Pt)) (acc : List Pt) (k : Nat), k < acc.length →
    ∀ a b : Int, acc.getD k (0, 0) = (wrapI32 a, wrapI32 b) →
    (cs.foldl stepAdd acc).getD k (0, 0) = (wrapI32 (a + colX cs k), wrapI32 (b + colY cs k)) := by
  intro cs
  induction cs with
  | nil => intro acc k _ a b h; simpa [colX, colY] using h
  | cons c cs ih =>
    intro acc k hk a b h
    simp only [List.foldl_cons, colX, colY, List.map_cons, List.sum_cons, ← Int.add_assoc]
    refine ih (stepAdd acc c) k (by rw [stepAdd_length]; exact hk) _ _ ?_
    rw [stepAdd_getD acc c k hk, h]
    simp only [ptAdd, Iup.fxAdd, wrapI32_wrap_add]

theorem wrapI32_range (a : Int) : -2147483648 ≤ wrapI32 a ∧ wrapI32 a < 2147483648 :=
  wrapI32_in a

theorem accumulate_closed (cs : List (List Pt)) (np k : Nat) (hk : k < np) :
    ((cs.foldl stepAdd ((List.range np).map fun _ => ((0 : Int), (0 : Int)))).getD k (0, 0))
      = (wrapI32 (colX cs k), wrapI32 (colY cs k)) := by
  rw [foldl_stepAdd_getD cs _ k (by simpa using hk) 0 0 (by rw [getD_map_range, if_pos hk]; rfl), Int.zero_add,
    Int.zero_add]

theorem colX_perm (cs cs' : List (List Pt)) (h : cs.Perm cs') (k : Nat) : colX cs k = colX cs' k :=
  List.Perm.sum_eq (h.map _)
theorem colY_perm (cs cs' : List (List Pt)) (h : cs.Perm cs') (k : Nat) : colY cs k = colY cs' k :=
  List.Perm.sum_eq (h.map _)

/-- a fold of partial steps, each of which adds a characterised contribution -/
theorem foldl_steps {α : Type} (np : Nat) (step : List Pt → α → Option (List Pt)) (Char : α → List Pt → Prop)
    (hstep : ∀ acc a acc', acc.length = np → step acc a = some acc' →
      ∃ c, acc' = stepAdd acc c ∧ Char a c) :
    ∀ (l : List α) (acc res : List Pt), acc.length = np →
      l.foldl (fun (o : Option (List Pt)) a => match o with | none => none | some d => step d a) (some acc) = some res →
      ∃ cs : List (List Pt), cs.length = l.length ∧ (∀ p ∈ l.zip cs, Char p.1 p.2) ∧ res = cs.foldl stepAdd acc := by
  intro l
  induction l with
  | nil => intro acc res _ h; simp at h; exact ⟨[], rfl, by simp, by simp [h]⟩
  | cons a l ih =>
    intro acc res hl h
    simp only [List.foldl_cons] at h
    cases hs : step acc a with
    | none => rw [hs, foldl_none _ (fun _ => rfl)] at h; cases h
    | some acc' =>
      rw [hs] at h
      obtain ⟨c, e, hc⟩ := hstep acc a acc' hl hs
      obtain ⟨cs, l1, l2, l3⟩ := ih acc' res (by rw [e, stepAdd_length]; exact hl) h
      refine ⟨c :: cs, by simp [l1], ?_, by simp only [List.foldl_cons]; rw [← e]; exact l3⟩
      intro p hp
      simp only [List.zip_cons_cons, List.mem_cons] at hp
      rcases hp with rfl | hp
      · exact hc
      · exact l2 p hp

/-- what one active tuple contributes (model level): an all-points tuple adds the scaled listed
deltas; a tuple with explicit points adds `working − point` after `accumulate_sparse_deltas` and
`interpolate_deltas` on a fresh working buffer with cleared flags -/
def TupleContribution (points : List Pt) (ends : List Nat) (sp : Option (List Nat))
    (ts : RawTuple × Int) (c : List Pt) : Prop :=
  if ts.1.allPoints sp then
    ∃ xs ys bs rest, readDense (points.length + 1) 0 points.length (ts.1.ptsAndDeltas sp).2 = some (xs, bs) ∧
      readDense (points.length + 1) 0 points.length bs = some (ys, rest) ∧
      c = (List.range points.length).map fun k => (fxScaled ts.2 (xs.getD k 0), fxScaled ts.2 (ys.getD k 0))
  else
    ∃ buf has out, accSparse (ts.1.ptsAndDeltas sp).1 (ts.1.ptsAndDeltas sp).2 ts.2
        (points.map ptFromI32) (points.map fun _ => false) = some (buf, has) ∧
      Iup.readerInterpolate points has ends buf = some out ∧
      c = (List.range points.length).map fun k => ptSub (out.getD k (0, 0)) (ptFromI32 (points.getD k (0, 0)))

theorem step_contribution (points : List Pt) (ends : List Nat) (sp : Option (List Nat))
    (acc : List Pt) (ts : RawTuple × Int) (acc' : List Pt) (hl : acc.length = points.length)
    (h : (if ts.1.allPoints sp then accDense (ts.1.ptsAndDeltas sp).2 ts.2 acc
          else simpleSparseTuple points ends ts.1 sp ts.2 acc) = some acc') :
    ∃ c, acc' = stepAdd acc c ∧ TupleContribution points ends sp ts c := by
  unfold TupleContribution
  by_cases ha : ts.1.allPoints sp = true
  · simp only [ha, if_true] at h ⊢
    unfold accDense at h
    simp only [hl] at h
    split at h
    · cases h
    · rename_i xs bs hx
      split at h
      · cases h
      · rename_i ys rest hy
        injection h with h
        refine ⟨_, ?_, xs, ys, bs, rest, hx, hy, rfl⟩
        rw [← h, stepAdd_map_range acc _ _ hl]
        rfl
  · simp only [ha, Bool.false_eq_true, if_false] at h ⊢
    unfold simpleSparseTuple at h
    simp only [] at h
    split at h
    · cases h
    · rename_i buf has hacc
      split at h
      · cases h
      · rename_i out hout
        injection h with h
        refine ⟨_, ?_, buf, has, out, hacc, hout, rfl⟩
        rw [← h, stepAdd_map_range acc _ _ hl, hl]
        apply List.map_congr_left
        intro k hk
        rw [if_pos (List.mem_range.mp hk)]

theorem near_rat (δ s num den : Int) (hd : 0 < den) (h1 : 2 * (den * δ - num * s) ≤ den * (den - 1))
    (h2 : 2 * (num * s - den * δ) ≤ den * (den - 1)) :
    |(δ : ℚ) - (s : ℚ) * ((num : ℚ) / den)| ≤ ((den : ℚ) - 1) / 2 := by
  have hdq : (0 : ℚ) < den := by exact_mod_cast hd
  have e : (δ : ℚ) - (s : ℚ) * ((num : ℚ) / den) = ((den : ℚ) * δ - num * s) / den := by field_simp
  have h1q : 2 * ((den : ℚ) * δ - num * s) ≤ den * (den - 1) := by exact_mod_cast h1
  have h2q : 2 * ((num : ℚ) * s - den * δ) ≤ den * (den - 1) := by exact_mod_cast h2
  rw [e, abs_le]
  constructor
  · rw [le_div_iff₀ hdq]; linarith
  · rw [div_le_iff₀ hdq]; linarith

/-- per-tuple record: contribution `δ`, scalar `s`, inferred delta `num / den` -/
structure Term where
  δ : Int
  s : Int
  num : Int
  den : Int

def Term.Ok (t : Term) : Prop :=
  0 < t.den ∧ 2 * (t.den * t.δ - t.num * t.s) ≤ t.den * (t.den - 1) ∧
    2 * (t.num * t.s - t.den * t.δ) ≤ t.den * (t.den - 1)

/-- `Near` of a scaled inferred delta is `Term.Ok` on each axis -/
theorem near_terms {n1 d1 n2 d2 s : Int} {o p : Pt} (h : Near ((n1 * s, d1), (n2 * s, d2)) o p) :
    Term.Ok ⟨o.1 - p.1 * 65536, s, n1, d1⟩ ∧ Term.Ok ⟨o.2 - p.2 * 65536, s, n2, d2⟩ :=
  let ⟨a1, a2, a3, a4, a5, a6⟩ := h
  ⟨⟨a1, a3, a4⟩, ⟨a2, a5, a6⟩⟩

theorem sum_near_rat : ∀ (ts : List Term), (∀ t ∈ ts, t.Ok) →
    |(((ts.map (·.δ)).sum : Int) : ℚ) - (ts.map fun t => (t.s : ℚ) * ((t.num : ℚ) / t.den)).sum|
      ≤ (ts.map fun t => ((t.den : ℚ) - 1) / 2).sum := by
  intro ts
  induction ts with
  | nil => intro _; simp
  | cons t ts ih =>
    intro h
    obtain ⟨h0, h1, h2⟩ := h t (by simp)
    have ht := near_rat t.δ t.s t.num t.den h0 h1 h2
    have hr := ih (fun x hx => h x (by simp [hx]))
    simp only [List.map_cons, List.sum_cons]
    push_cast
    have e : ((t.δ : ℚ) + ((ts.map (·.δ)).sum : Int)) - ((t.s : ℚ) * ((t.num : ℚ) / t.den) +
          (ts.map fun t => (t.s : ℚ) * ((t.num : ℚ) / t.den)).sum)
        = ((t.δ : ℚ) - (t.s : ℚ) * ((t.num : ℚ) / t.den)) +
          ((((ts.map (·.δ)).sum : Int) : ℚ) - (ts.map fun t => (t.s : ℚ) * ((t.num : ℚ) / t.den)).sum) := by ring
    rw [e]
    exact le_trans (abs_add_le _ _) (add_le_add ht hr)


theorem toI32_iff (T R : Int) (hT : -2147483648 ≤ T ∧ T < 2147450880) :
    Fixed.toI32 T = R ↔ (65536 * R - 32768 ≤ T ∧ T < 65536 * R + 32768) := by
  unfold Fixed.toI32
  rw [wrapI32_of_in (by omega) (by omega)]
  constructor
  · intro h; subst h; omega
  · intro h; omega

theorem coordinate_within_rounding (terms : List Term) (hok : ∀ t ∈ terms, t.Ok) (p : Int)
    (hfit : -2147483648 ≤ (terms.map (·.δ)).sum ∧ (terms.map (·.δ)).sum < 2147450880) :
    |(((p + Fixed.toI32 (terms.map (·.δ)).sum : Int) : ℚ))
        - ((p : ℚ) + (terms.map fun t => (t.s : ℚ) * ((t.num : ℚ) / t.den)).sum / 65536)|
      ≤ 1 / 2 + (terms.map fun t => ((t.den : ℚ) - 1) / 2).sum / 65536 := by
  have hsum := sum_near_rat terms hok
  generalize (terms.map (·.δ)).sum = T at hsum hfit
  generalize (terms.map fun t => (t.s : ℚ) * ((t.num : ℚ) / t.den)).sum = E at hsum
  generalize (terms.map fun t => ((t.den : ℚ) - 1) / 2).sum = B at hsum
  have hR : 65536 * Fixed.toI32 T - 32768 ≤ T ∧ T < 65536 * Fixed.toI32 T + 32768 :=
    (toI32_iff T (Fixed.toI32 T) hfit).mp rfl
  generalize Fixed.toI32 T = R at hR
  have h1 : (65536 : ℚ) * R - 32768 ≤ T := by exact_mod_cast hR.1
  have h2 : (T : ℚ) < 65536 * R + 32768 := by exact_mod_cast hR.2
  obtain ⟨h3, h4⟩ := abs_le.mp hsum
  push_cast
  rw [abs_le]
  constructor <;> linarith

theorem column_within_rounding {α : Type} (ts : List α) (δ s num den : α → Int)
    (hok : ∀ t ∈ ts, Term.Ok ⟨δ t, s t, num t, den t⟩) (p : Int)
    (hwrap : |(ts.map fun t => (s t : ℚ) * ((num t : ℚ) / den t)).sum|
        + (ts.map fun t => ((den t : ℚ) - 1) / 2).sum < 2147450880) :
    |(((p + Fixed.toI32 (wrapI32 (ts.map δ).sum) : Int) : ℚ))
        - ((p : ℚ) + (ts.map fun t => (s t : ℚ) * ((num t : ℚ) / den t)).sum / 65536)|
      ≤ 1 / 2 + (ts.map fun t => ((den t : ℚ) - 1) / 2).sum / 65536 := by
  have hok' : ∀ x ∈ ts.map (fun t => (⟨δ t, s t, num t, den t⟩ : Term)), x.Ok := by
    intro x hx
    obtain ⟨t, ht, rfl⟩ := List.mem_map.mp hx
    exact hok t ht
  have hsum := sum_near_rat _ hok'
  have hb := coordinate_within_rounding (ts.map fun t => ⟨δ t, s t, num t, den t⟩) hok' p
  simp only [List.map_map, Function.comp_def] at hsum hb
  have hT : -2147483648 ≤ (ts.map δ).sum ∧ (ts.map δ).sum < 2147450880 := by
    obtain ⟨g1, g2⟩ := abs_le.mp hsum
    obtain ⟨g3, g4⟩ := abs_le.mp (le_refl |(ts.map fun t => (s t : ℚ) * ((num t : ℚ) / den t)).sum|)
    constructor
    · have : (-2147483648 : ℚ) ≤ ((ts.map δ).sum : Int) := by linarith
      exact_mod_cast this
    · have : (((ts.map δ).sum : Int) : ℚ) < 2147450880 := by linarith
      exact_mod_cast this
  rw [wrapI32_of_in hT.1 (by omega)]
  exact hb hT

theorem sum_weighted_tol {α : Type} (τ : ℚ) (w f g : α → ℚ) : ∀ (l : List α),
    (∀ a ∈ l, 0 ≤ w a ∧ |f a - g a| ≤ τ) →
    |(l.map fun a => w a * f a).sum - (l.map fun a => w a * g a).sum| ≤ (l.map fun a => w a * τ).sum := by
  intro l
  induction l with
  | nil => intro _; simp
  | cons a l ih =>
    intro h
    obtain ⟨h0, h1⟩ := h a (by simp)
    have hr := ih (fun x hx => h x (by simp [hx]))
    simp only [List.map_cons, List.sum_cons]
    have e : w a * f a + (l.map fun a => w a * f a).sum - (w a * g a + (l.map fun a => w a * g a).sum)
        = w a * (f a - g a) + ((l.map fun a => w a * f a).sum - (l.map fun a => w a * g a).sum) := by ring
    rw [e]
    have h2 : |w a * (f a - g a)| ≤ w a * τ := by
      rw [abs_mul, abs_of_nonneg h0]; exact mul_le_mul_of_nonneg_left h1 h0
    exact le_trans (abs_add_le _ _) (add_le_add h2 hr)

theorem abs_sub_swap_sum (A P S S' B W : ℚ) (h : |A - (P + S / 65536)| ≤ 1 / 2 + B / 65536)
    (hS : |S - S'| ≤ W) : |A - (P + S' / 65536)| ≤ 1 / 2 + B / 65536 + W / 65536 := by
  obtain ⟨h1, h2⟩ := abs_le.mp h
  obtain ⟨s1, s2⟩ := abs_le.mp hS
  exact abs_le.mpr ⟨by linarith, by linarith⟩

end FontVerif.GvarApply
