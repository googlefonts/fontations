/-
`TupleVariation::compute_scalar` (Model/GvarApply.lean `tupleScalar`) against the same case split in
exact fractions (`tentAxis`, `tentGo`): dropping implied intermediates does not change the scalar, and
the 16.16 scalar is within half a unit of 2⁻¹⁶ per rounding step of the exact product.  The case split
is the code's: it equals the specification's tent only for regions with `start ≤ peak ≤ end` (the
16.16 code has no test for the others, which the specification ignores).
-/
import FontVerif.Model.GvarApply
import FontVerif.Lemmas.TentLemmas
import Mathlib.Tactic.Ring
import Mathlib.Tactic.Linarith
namespace FontVerif.GvarApply

theorem mulDiv_neg_neg (s a b : Int) (ha : a < 0) (hb : b < 0) :
    Fixed.mulDiv s a b = Fixed.mulDiv s (-a) (-b) := by
  unfold Fixed.mulDiv iabs
  have h1 : ¬ (-a < 0) := by omega
  have h2 : ¬ (-b < 0) := by omega
  simp only [ha, hb, h1, h2, decide_true, decide_false]
  cases decide (s < 0) <;> rfl

theorem inF_zero : Tent.inF 0 := ⟨by decide, by decide⟩

theorem scalarAxis_implied (s c p : Int) (hc : Tent.inF c) (hp : Tent.inF p) :
    scalarAxis s c p none = scalarAxis s c p (some (min p 0, max p 0)) := by
  unfold scalarAxis
  by_cases h0 : p = 0
  · simp [h0]
  · by_cases h1 : p = c
    · simp [h1]
    · by_cases h2 : c = 0
      · simp [h0, h2]
      · simp only [h0, h1, h2, if_false]
        by_cases hpos : 0 < p
        · have e1 : min p 0 = 0 := Int.min_eq_right (by omega)
          have e2 : max p 0 = p := Int.max_eq_left (by omega)
          rw [e1, e2]
          by_cases hout : c < 0 ∨ c > p
          · have : c ≤ 0 ∨ c ≥ p := by omega
            rw [if_pos hout, if_pos this]
          · have h3 : ¬ (c ≤ 0 ∨ c ≥ p) := by omega
            have h4 : c < p := by omega
            rw [if_neg hout, if_neg h3, if_pos h4, Tent.fsub_id hc inF_zero, Tent.fsub_id hp inF_zero, Int.sub_zero, Int.sub_zero]
        · have hneg : p < 0 := by omega
          have e1 : min p 0 = p := Int.min_eq_left (by omega)
          have e2 : max p 0 = 0 := Int.max_eq_right (by omega)
          rw [e1, e2]
          by_cases hout : c < p ∨ c > 0
          · have : c ≤ p ∨ c ≥ 0 := by omega
            rw [if_pos hout, if_pos this]
          · have h3 : ¬ (c ≤ p ∨ c ≥ 0) := by omega
            have h4 : ¬ c < p := by omega
            rw [if_neg hout, if_neg h3, if_neg h4, Tent.fsub_id inF_zero hc, Tent.fsub_id inF_zero hp, Int.zero_sub, Int.zero_sub,
              mulDiv_neg_neg s c p (by omega) hneg]

theorem f2dot14_min (p : Int) : Fixed.f2dot14ToFixed (min p 0) = min (Fixed.f2dot14ToFixed p) 0 := by
  unfold Fixed.f2dot14ToFixed; rcases Int.le_total p 0 with h | h
  · rw [Int.min_eq_left h, Int.min_eq_left (by omega)]
  · rw [Int.min_eq_right h, Int.min_eq_right (by omega)]; rfl

theorem f2dot14_max (p : Int) : Fixed.f2dot14ToFixed (max p 0) = max (Fixed.f2dot14ToFixed p) 0 := by
  unfold Fixed.f2dot14ToFixed; rcases Int.le_total p 0 with h | h
  · rw [Int.max_eq_right h, Int.max_eq_right (by omega)]; rfl
  · rw [Int.max_eq_left h, Int.max_eq_left (by omega)]

theorem scalarGo_implied (peak : List Int) (hp : ∀ v ∈ peak, inI16 v) :
    ∀ (s : Int) (coords : List Int), (∀ v ∈ coords, inI16 v) →
    scalarGo false s peak [] [] coords
      = scalarGo true s peak (peak.map fun p => min p 0) (peak.map fun p => max p 0) coords := by
  induction peak with
  | nil => intro s coords _; rfl
  | cons p ps ih =>
    intro s coords hc
    have hp0 := hp p (by simp)
    have hc0 : inI16 (coords.headD 0) := by
      cases coords with
      | nil => simp [inI16]
      | cons c cs => exact hc c (by simp)
    have hct : ∀ v ∈ coords.tail, inI16 v := fun v hv => hc v (List.mem_of_mem_tail hv)
    simp only [scalarGo, Bool.false_eq_true, if_false, if_true, List.map_cons, List.headD_cons, List.tail_cons]
    rw [f2dot14_min, f2dot14_max, ← scalarAxis_implied s _ _
      (Tent.inF_of_f2dot14 hc0) (Tent.inF_of_f2dot14 hp0)]
    cases scalarAxis s (Fixed.f2dot14ToFixed (coords.headD 0)) (Fixed.f2dot14ToFixed p) none with
    | none => rfl
    | some s' => exact ih (fun v hv => hp v (by simp [hv])) s' coords.tail hct

/-- the factor `compute_scalar` computes for one axis, as an exact fraction on F2Dot14 bits (the code's
own case split, without its rounding); `none` = the location is outside the region on this axis (or
on its boundary): the tuple does not apply.  `inter = none` means the implied region
`(min(peak,0), max(peak,0))`.  This is the specification's tent factor when `start ≤ peak ≤ end`; for
a region with `start > peak` or `peak > end` the specification ignores the axis (factor 1) and the
16.16 code does not. -/
def tentAxis (c p : Int) (inter : Option (Int × Int)) : Option (Int × Int) :=
  if p = 0 then some (1, 1)
  else if p = c then some (1, 1)
  else
    let st := (inter.getD (min p 0, max p 0)).1
    let en := (inter.getD (min p 0, max p 0)).2
    if c ≤ st ∨ c ≥ en then none
    else if c < p then some (c - st, p - st) else some (en - c, en - p)

/-- the exact product `(N, D)` of the factors `tentAxis` and the number of axes that contribute a
rounding step -/
def tentGo (hasInter : Bool) : Int × Int × Nat → List Int → List Int → List Int → List Int →
    Option (Int × Int × Nat)
  | acc, [], _, _, _ => some acc
  | (N, D, k), p :: ps, starts, ends, coords =>
    let inter := if hasInter then some (starts.headD 0, ends.headD 0) else none
    match tentAxis (coords.headD 0) p inter with
    | none => none
    | some (a, b) =>
      tentGo hasInter (N * a, D * b, if p = 0 ∨ p = coords.headD 0 then k else k + 1)
        ps starts.tail ends.tail coords.tail

theorem mulDiv_round (s a b : Int) (hs : 0 ≤ s ∧ s ≤ 65536) (ha : 0 < a) (hab : a < b) (hb : b ≤ 65536) :
    ∃ s', Fixed.mulDiv s (a * 4) (b * 4) = s' ∧ 0 ≤ s' ∧ s' ≤ 65536 ∧
      2 * (s' * b - s * a) ≤ b ∧ 2 * (s * a - s' * b) ≤ b := by
  obtain ⟨e, q0, q1⟩ := Tent.mulDiv_tent (s := s) (n := a * 4) (d := b * 4) hs.1 hs.2 (by omega) (by omega)
    (by omega) (by omega)
  have hsc : (s * (a * 4) + b * 4 / 2) / (b * 4) = (s * a + b / 2) / b := by
    rw [← Int.mul_assoc, Int.mul_comm _ 4, Int.mul_comm b 4]; exact rdiv_scale (s * a) (by omega) (by omega)
  rw [hsc] at e q0 q1
  have h := rdiv_spec (s * a) (show 0 < b by omega)
  rw [Int.mul_comm b] at h
  exact ⟨_, e, q0, by omega, by omega, by omega⟩

theorem tentAxis_skip (c p : Int) (inter : Option (Int × Int)) (h : p = 0 ∨ p = c) :
    tentAxis c p inter = some (1, 1) := by
  unfold tentAxis
  by_cases h0 : p = 0
  · rw [if_pos h0]
  · rw [if_neg h0, if_pos (h.resolve_left h0)]

theorem scalarAxis_skip (s c p : Int) (inter : Option (Int × Int)) (h : p = 0 ∨ p = c) :
    scalarAxis s c p inter = some s := by
  unfold scalarAxis
  by_cases h0 : p = 0
  · rw [if_pos h0]
  · rw [if_neg h0, if_pos (h.resolve_left h0)]

/-- the loop invariant of `compute_scalar`: the 16.16 scalar `s ∈ [0, 1]` is within `k / 2` units of
`65536 · N / D`, the exact product so far, after `k` rounding steps -/
def Approx (s N D : Int) (k : Nat) : Prop :=
  (0 ≤ s ∧ s ≤ 65536) ∧ 0 < D ∧ 0 ≤ N ∧
    2 * (s * D - 65536 * N) ≤ k * D ∧ 2 * (65536 * N - s * D) ≤ k * D

theorem err_compose (a b D e f : Int) (k : Nat) (ha : 0 ≤ a) (hab : a ≤ b) (hD : 0 ≤ D)
    (he : 2 * e ≤ k * D) (hf : 2 * f ≤ b) :
    2 * (a * e + D * f) ≤ ((k + 1 : Nat) : Int) * (D * b) := by
  have t1 : a * (2 * e) ≤ a * (k * D) := Int.mul_le_mul_of_nonneg_left he ha
  have t2 : a * (k * D) ≤ b * (k * D) :=
    Int.mul_le_mul_of_nonneg_right hab (Int.mul_nonneg (Int.natCast_nonneg k) hD)
  have t3 : D * (2 * f) ≤ D * b := Int.mul_le_mul_of_nonneg_left hf hD
  push_cast
  linarith

/-- one rounded multiplication by a factor `a / b ≤ 1`: the old error shrinks by the factor and the
rounding adds half a unit -/
theorem approx_step {s N D : Int} {k : Nat} (h : Approx s N D k) {s' a b : Int} (a0 : 0 < a) (ab : a ≤ b)
    (hs' : 0 ≤ s' ∧ s' ≤ 65536) (r1 : 2 * (s' * b - s * a) ≤ b) (r2 : 2 * (s * a - s' * b) ≤ b) :
    Approx s' (N * a) (D * b) (k + 1) := by
  obtain ⟨_, hD, hN, h1, h2⟩ := h
  refine ⟨hs', Int.mul_pos hD (by omega), Int.mul_nonneg hN (by omega), ?_, ?_⟩
  · rw [show s' * (D * b) - 65536 * (N * a) = a * (s * D - 65536 * N) + D * (s' * b - s * a) by ring]
    exact err_compose a b D _ _ k (by omega) ab (by omega) h1 r1
  · rw [show 65536 * (N * a) - s' * (D * b) = a * (65536 * N - s * D) + D * (s * a - s' * b) by ring]
    exact err_compose a b D _ _ k (by omega) ab (by omega) h2 r2

/-- one axis keeps the invariant: a skipped axis (`peak = 0` or `peak = coord`) leaves everything as it
is, any other multiplies by its factor with one rounding -/
theorem scalarAxis_tent_some (s c p st en : Int) (hc : inI16 c) (hp : inI16 p) (hst : inI16 st)
    (hen : inI16 en) (hns : ¬ (st < 0 ∧ en > 0)) {N D : Int} {k : Nat} (h : Approx s N D k) :
    match tentAxis c p (some (st, en)) with
    | none => scalarAxis s (Fixed.f2dot14ToFixed c) (Fixed.f2dot14ToFixed p)
        (some (Fixed.f2dot14ToFixed st, Fixed.f2dot14ToFixed en)) = none
    | some (a, b) => ∃ s', scalarAxis s (Fixed.f2dot14ToFixed c) (Fixed.f2dot14ToFixed p)
        (some (Fixed.f2dot14ToFixed st, Fixed.f2dot14ToFixed en)) = some s' ∧
        Approx s' (N * a) (D * b) (if p = 0 ∨ p = c then k else k + 1) := by
  by_cases hskip : p = 0 ∨ p = c
  · rw [tentAxis_skip c p _ hskip, scalarAxis_skip s _ _ _ (by rwa [Tent.f2dot14_eq_zero, Tent.f2dot14_inj])]
    exact ⟨s, rfl, by rw [if_pos hskip, Int.mul_one, Int.mul_one]; exact h⟩
  · have h0 : ¬ p = 0 := fun e => hskip (Or.inl e)
    have h1 : ¬ p = c := fun e => hskip (Or.inr e)
    -- both sides become one case tree over the F2Dot14 bits
    simp only [tentAxis, scalarAxis, Tent.f2dot14_eq_zero, Tent.f2dot14_inj, Tent.f2dot14_le, ge_iff_le, Tent.f2dot14_lt,
      Tent.fsub_f2dot14 hc hst, Tent.fsub_f2dot14 hp hst, Tent.fsub_f2dot14 hen hc, Tent.fsub_f2dot14 hen hp,
      if_neg h0, if_neg h1, if_neg hskip, Option.getD_some]
    unfold inI16 at hc hp hst hen
    by_cases hout : c ≤ st ∨ en ≤ c
    · simp only [if_pos hout, ite_self]
    · -- `coord = 0` lies outside a region that does not straddle zero
      simp only [if_neg hout, if_neg (show ¬ c = 0 by omega)]
      by_cases hlt : c < p
      · simp only [if_pos hlt]
        obtain ⟨s', e, r0, r1, r2, r3⟩ := mulDiv_round s (c - st) (p - st) h.1 (by omega) (by omega) (by omega)
        exact ⟨s', congrArg some e, approx_step h (by omega) (by omega) ⟨r0, r1⟩ r2 r3⟩
      · simp only [if_neg hlt]
        obtain ⟨s', e, r0, r1, r2, r3⟩ := mulDiv_round s (en - c) (en - p) h.1 (by omega) (by omega) (by omega)
        exact ⟨s', congrArg some e, approx_step h (by omega) (by omega) ⟨r0, r1⟩ r2 r3⟩

/-- the same for either kind of region: no intermediate tuple means the implied region
`(min(peak,0), max(peak,0))` (`scalarAxis_implied`) -/
theorem scalarAxis_tent (s c p : Int) (inter : Option (Int × Int)) (hc : inI16 c) (hp : inI16 p)
    (hi : ∀ st en, inter = some (st, en) → inI16 st ∧ inI16 en ∧ ¬ (st < 0 ∧ en > 0))
    {N D : Int} {k : Nat} (h : Approx s N D k) :
    match tentAxis c p inter with
    | none => scalarAxis s (Fixed.f2dot14ToFixed c) (Fixed.f2dot14ToFixed p)
        (inter.map fun x => (Fixed.f2dot14ToFixed x.1, Fixed.f2dot14ToFixed x.2)) = none
    | some (a, b) => ∃ s', scalarAxis s (Fixed.f2dot14ToFixed c) (Fixed.f2dot14ToFixed p)
        (inter.map fun x => (Fixed.f2dot14ToFixed x.1, Fixed.f2dot14ToFixed x.2)) = some s' ∧
        Approx s' (N * a) (D * b) (if p = 0 ∨ p = c then k else k + 1) := by
  cases inter with
  | some se =>
    obtain ⟨h1, h2, h3⟩ := hi se.1 se.2 rfl
    exact scalarAxis_tent_some s c p se.1 se.2 hc hp h1 h2 h3 h
  | none =>
    have h := scalarAxis_tent_some s c p (min p 0) (max p 0) hc hp
      (by unfold inI16 at *; omega) (by unfold inI16 at *; omega) (by omega) h
    rw [f2dot14_min, f2dot14_max, ← scalarAxis_implied s _ _
      (Tent.inF_of_f2dot14 hc) (Tent.inF_of_f2dot14 hp)] at h
    exact h

/-- well-formed intermediate tuples: i16 values, no region straddling zero -/
def InterOk (starts ends : List Int) : Prop :=
  ∀ i, inI16 (starts.getD i 0) ∧ inI16 (ends.getD i 0) ∧ ¬ (starts.getD i 0 < 0 ∧ ends.getD i 0 > 0)

theorem InterOk.tail {starts ends : List Int} (h : InterOk starts ends) : InterOk starts.tail ends.tail := by
  intro i
  rw [Tent.getD_tail, Tent.getD_tail]
  exact h (i + 1)

theorem tentGo_steps (hasInter : Bool) : ∀ (peak starts ends coords : List Int) (N D : Int) (k : Nat)
    (r : Int × Int × Nat), tentGo hasInter (N, D, k) peak starts ends coords = some r → r.2.2 ≤ k + peak.length := by
  intro peak
  induction peak with
  | nil => intro _ _ _ N D k r h; simp only [tentGo, Option.some.injEq] at h; subst h; exact Nat.le_refl _
  | cons p ps ih =>
    intro starts ends coords N D k r h
    simp only [tentGo] at h
    split at h
    · cases h
    · have := ih _ _ _ _ _ _ r h
      simp only [List.length_cons]
      split at this <;> omega

/-- the loop of `compute_scalar` against the exact product of its own factors (`tentGo`): the two
loops stop together, and `Approx` goes through every axis (`scalarAxis_tent`) -/
theorem scalarGo_tent (hasInter : Bool) : ∀ (peak starts ends coords : List Int) (s N D : Int) (k : Nat),
    (∀ v ∈ peak, inI16 v) → (∀ v ∈ coords, inI16 v) → InterOk starts ends → Approx s N D k →
    match tentGo hasInter (N, D, k) peak starts ends coords with
    | none => scalarGo hasInter s peak starts ends coords = none
    | some (N', D', k') => ∃ s', scalarGo hasInter s peak starts ends coords = some s' ∧ Approx s' N' D' k' := by
  intro peak
  induction peak with
  | nil =>
    intro starts ends coords s N D k _ _ _ h
    exact ⟨s, rfl, h⟩
  | cons p ps ih =>
    intro starts ends coords s N D k hp hc hi h
    have hc0 : inI16 (coords.headD 0) := by
      cases coords with
      | nil => simp [inI16]
      | cons c cs => exact hc c (by simp)
    have hi0 := hi 0
    rw [Tent.getD_zero, Tent.getD_zero] at hi0
    have hax := scalarAxis_tent s (coords.headD 0) p
      (if hasInter then some (starts.headD 0, ends.headD 0) else none) hc0 (hp p (by simp))
      (by intro st en e
          cases hasInter with
          | false => cases e
          | true => cases e; exact hi0) h
    rw [apply_ite (Option.map _), Option.map_some, Option.map_none] at hax
    simp only [tentGo, scalarGo]
    cases hta : tentAxis (coords.headD 0) p (if hasInter then some (starts.headD 0, ends.headD 0) else none) with
    | none =>
      rw [hta] at hax
      simp only [] at hax
      simp only [hax]
    | some ab =>
      rw [hta] at hax
      obtain ⟨s', e, h'⟩ := hax
      simp only [e]
      exact ih starts.tail ends.tail coords.tail s' _ _ _ (fun v hv => hp v (by simp [hv]))
        (fun v hv => hc v (List.mem_of_mem_tail hv)) hi.tail h'

end FontVerif.GvarApply
