/-
`RoundState::round` (hint/round.rs) against ttinterp.c's `Round_*`: symmetric rounding by a grid function
(Grid … UpToGrid), and Round_Super / Round_Super_45 as one function of the way the distance is brought down to
a multiple of the period.
-/
import FontVerif.Lemmas.FtEq
namespace FontVerif.C03

theorem math_round_eq (x : Int) (h : inI32 x) (hx : x + 32 < 2147483648) :
    HintMath.round x = FtCalc.pixRoundLong x := by
  unfold inI32 at h
  unfold HintMath.round FtCalc.pixRoundLong FtCalc.addLong
  rw [wrapI32_of_in (by omega) (by omega), wrapI64_of_in (by omega) (by omega)]; rfl

theorem math_ceil_eq (x : Int) (h : inI32 x) (hx : x + 63 < 2147483648) :
    HintMath.ceil x = FtCalc.pixCeilLong x := by
  unfold inI32 at h
  unfold HintMath.ceil FtCalc.pixCeilLong FtCalc.addLong
  rw [wrapI32_of_in (by omega) (by omega), wrapI64_of_in (by omega) (by omega)]; rfl

theorem math_round_pad32_eq (x : Int) (h : inI32 x) (hx : x + 16 < 2147483648) :
    HintMath.roundPad x 32 = some (FtCalc.padRoundLong32 x) := by
  unfold inI32 at h
  unfold HintMath.roundPad HintMath.floorPad FtCalc.padRoundLong32 FtCalc.addLong
  have e16 : Int.tdiv 32 2 = 16 := by decide
  have e31 : HintMath.chk (32 - 1) = some 31 := by decide
  rw [e16, e31, wrapI32_of_in (by omega) (by omega), wrapI64_of_in (by omega) (by omega)]
  simp only [Option.map_some, show notInt 31 = -32 from by decide]
  rw [land_neg32 _ ⟨by omega, by omega⟩]

theorem roundNone_zero {d : Int} (hd : -2147483648 ≤ d ∧ d ≤ 2147483648) : FtRound.roundNone 0 d = d := by
  unfold FtRound.roundNone FtCalc.addLong FtCalc.subLong
  rw [Int.add_zero, Int.sub_zero, wrapI64_of_in (by omega) (by omega)]
  by_cases hp : d ≥ 0
  · simp only [hp, if_true]; rw [if_neg (by omega)]
  · simp only [hp, if_false]; rw [if_neg (by omega)]

theorem round_super_def (thr ph per d : Int) : HintRound.round 6 thr ph per d =
    if d ≥ 0 then
      (HintMath.chk (thr - ph)).bind fun tp => (HintMath.chk (-per)).map fun np =>
      let v := wrapI32 (landInt (wrapI32 (d + tp)) np + ph)
      if v < 0 then ph else v
    else
      (HintMath.chk (thr - ph)).bind fun tp => (HintMath.chk (-per)).bind fun np =>
      let v := wrapI32 (HintRound.wneg (landInt (wrapI32 (tp - d)) np) - ph)
      if v > 0 then HintMath.chk (-ph) else some v := rfl

theorem round_super45_def (thr ph per d : Int) : HintRound.round 7 thr ph per d =
    if d ≥ 0 then
      (HintMath.chk (thr - ph)).bind fun tp =>
      (if per = 0 then none else HintMath.chk (Int.tdiv (wrapI32 (d + tp)) per)).bind fun q =>
      (HintMath.chk (q * per)).map fun m =>
      let v := wrapI32 (m + ph)
      if v < 0 then ph else v
    else
      (HintMath.chk (thr - ph)).bind fun tp =>
      (if per = 0 then none else HintMath.chk (Int.tdiv (wrapI32 (tp - d)) per)).bind fun q =>
      (HintMath.chk (q * per)).bind fun m =>
      let v := wrapI32 (HintRound.wneg m - ph)
      if v > 0 then HintMath.chk (-ph) else some v := rfl

def GridFn (f : Int → Int) : Prop :=
  ∀ x, 0 ≤ x → x ≤ 2147483584 → 0 ≤ f x ∧ x - 63 ≤ f x ∧ f x ≤ x + 63

/-- skrifa's grid modes (left) and `Round_To_Grid` … `Round_Up_To_Grid` with compensation 0 (`r`): a grid
function keeps non-negative distances non-negative, so the sign-flip guards are dead code (`c`, `c'` do not
matter), and the result is within 63 units of the distance. -/
theorem sym_round_eq {g f : Int → Int} {c c' d r : Int} (hd : -2147483584 ≤ d ∧ d ≤ 2147483584)
    (hg : ∀ x, 0 ≤ x → x ≤ 2147483584 → g x = f x) (hf : GridFn f)
    (hr : r = if d ≥ 0 then (let v := f (FtCalc.addLong d 0); if v < 0 then c else v)
        else (let v := FtCalc.negLong (f (FtCalc.subLong 0 d)); if v > 0 then c' else v)) :
    (if d ≥ 0 then some (HintRound.imax (g d) 0)
      else some (HintRound.imin (HintRound.wneg (g (HintRound.wneg d))) 0)) = some r ∧
    -63 ≤ r - d ∧ r - d ≤ 63 := by
  subst hr
  unfold HintRound.imax HintRound.imin HintRound.wneg FtCalc.addLong FtCalc.subLong FtCalc.negLong
  by_cases hp : d ≥ 0
  · have e := hg d hp hd.2
    obtain ⟨h0, h1, h2⟩ := hf d hp hd.2
    simp only [hp, if_true, Int.add_zero]
    rw [wrapI64_of_in (by omega) (by omega), e, if_pos h0, if_neg (by omega)]
    exact ⟨rfl, by omega, by omega⟩
  · have e := hg (-d) (by omega) (by omega)
    obtain ⟨h0, h1, h2⟩ := hf (-d) (by omega) (by omega)
    simp only [hp, if_false, Int.zero_sub]
    rw [wrapI32_of_in (x := -d) (by omega) (by omega), wrapI64_of_in (x := -d) (by omega) (by omega), e,
      wrapI32_of_in (by omega) (by omega), wrapI64_of_in (by omega) (by omega), if_pos (by omega), if_neg (by omega)]
    exact ⟨rfl, by omega, by omega⟩

theorem round_grid_modes (mode thr ph per d : Int) (hm : 0 ≤ mode ∧ mode ≤ 4)
    (hd : -2147483584 ≤ d ∧ d ≤ 2147483584) :
    HintRound.round mode thr ph per d = some (FtRound.round mode thr ph per 0 d) ∧
    -63 ≤ FtRound.round mode thr ph per 0 d - d ∧ FtRound.round mode thr ph per 0 d - d ≤ 63 := by
  have i32 : ∀ x : Int, 0 ≤ x → x ≤ 2147483584 → inI32 x := fun x h0 h1 => ⟨by omega, by omega⟩
  rcases (show mode = 0 ∨ mode = 1 ∨ mode = 2 ∨ mode = 3 ∨ mode = 4 by omega) with e | e | e | e | e
  · subst e
    have hf : GridFn FtCalc.pixRoundLong := by
      intro x h0 h1
      unfold FtCalc.pixRoundLong FtCalc.pixFloor FtCalc.addLong
      rw [wrapI64_of_in (by omega) (by omega)]; omega
    exact sym_round_eq hd (fun x h0 h1 => math_round_eq x (i32 x h0 h1) (by omega)) hf rfl
  · subst e
    have hf : GridFn fun x => FtCalc.addLong (FtCalc.pixFloor x) 32 := by
      intro x h0 h1
      show 0 ≤ wrapI64 (x - x % 64 + 32) ∧ x - 63 ≤ wrapI64 (x - x % 64 + 32) ∧ wrapI64 (x - x % 64 + 32) ≤ x + 63
      rw [wrapI64_of_in (by omega) (by omega)]; omega
    have hg : ∀ x, 0 ≤ x → x ≤ 2147483584 →
        wrapI32 (HintMath.floor x + 32) = FtCalc.addLong (FtCalc.pixFloor x) 32 := by
      intro x h0 h1
      unfold HintMath.floor FtCalc.pixFloor FtCalc.addLong
      rw [wrapI32_of_in (by omega) (by omega), wrapI64_of_in (by omega) (by omega)]
    exact sym_round_eq (g := fun x => wrapI32 (HintMath.floor x + 32))
      (f := fun x => FtCalc.addLong (FtCalc.pixFloor x) 32) hd hg hf rfl
  · subst e
    have hf : GridFn FtCalc.padRoundLong32 := by
      intro x h0 h1
      unfold FtCalc.padRoundLong32 FtCalc.addLong
      simp only []
      rw [wrapI64_of_in (by omega) (by omega)]; omega
    have e : HintRound.round 2 thr ph per d =
        if d ≥ 0 then some (HintRound.imax (FtCalc.padRoundLong32 d) 0)
        else some (HintRound.imin (HintRound.wneg (FtCalc.padRoundLong32 (HintRound.wneg d))) 0) := by
      show (if d ≥ 0 then (HintMath.roundPad d 32).map (HintRound.imax · 0)
        else (HintMath.roundPad (HintRound.wneg d) 32).map fun v => HintRound.imin (HintRound.wneg v) 0) = _
      have hw : HintRound.wneg d = -d := wrapI32_of_in (by omega) (by omega)
      by_cases hp : d ≥ 0
      · rw [if_pos hp, if_pos hp, math_round_pad32_eq d (i32 d hp hd.2) (by omega)]; rfl
      · rw [if_neg hp, if_neg hp, hw, math_round_pad32_eq (-d) (i32 (-d) (by omega) (by omega)) (by omega)]; rfl
    rw [e]
    exact sym_round_eq hd (fun _ _ _ => rfl) hf rfl
  · subst e
    have hf : GridFn FtCalc.pixFloor := by
      intro x h0 h1; unfold FtCalc.pixFloor; omega
    exact sym_round_eq hd (fun _ _ _ => rfl) hf rfl
  · subst e
    have hf : GridFn FtCalc.pixCeilLong := by
      intro x h0 h1
      unfold FtCalc.pixCeilLong FtCalc.pixFloor FtCalc.addLong
      rw [wrapI64_of_in (by omega) (by omega)]; omega
    exact sym_round_eq hd (fun x h0 h1 => math_ceil_eq x (i32 x h0 h1) (by omega)) hf rfl

/-- `red` (AND with `-period`; truncation to a multiple of the period) keeps the range of a shifted distance. -/
def KeepsRange (red : Int → Int) : Prop :=
  ∀ s, -4194304 ≤ s → s ≤ 1077936128 → -4194304 ≤ red s ∧ red s ≤ 1077936128

/-- skrifa's Super / Super45 once its plain operators are known not to trap (left) and `Round_Super` /
`Round_Super_45` with compensation 0 (`r`), `tp` = threshold − phase; `-phase` is a plain negation in skrifa. -/
theorem super_core {red : Int → Int} {tp ph d r : Int} (hred : KeepsRange red)
    (htp : -2097152 ≤ tp ∧ tp ≤ 2097152) (hph : -1048576 ≤ ph ∧ ph ≤ 1048576)
    (hd : -1073741824 ≤ d ∧ d ≤ 1073741824)
    (hr : r = if d ≥ 0 then (let v := FtCalc.addLong (red (FtCalc.addLong d (tp + 0))) ph; if v < 0 then ph else v)
      else (let v := FtCalc.subLong (FtCalc.negLong (red (FtCalc.subLong (tp + 0) d))) ph
        if v > 0 then -ph else v)) :
    (if d ≥ 0 then some (let v := wrapI32 (red (wrapI32 (d + tp)) + ph); if v < 0 then ph else v)
      else (let v := wrapI32 (HintRound.wneg (red (wrapI32 (tp - d))) - ph)
        if v > 0 then HintMath.chk (-ph) else some v)) = some r ∧
    -1082130432 ≤ r ∧ r ≤ 1082130432 := by
  subst hr
  unfold FtCalc.addLong FtCalc.subLong FtCalc.negLong HintRound.wneg
  rw [Int.add_zero]
  by_cases hp : d ≥ 0
  · have hm := hred (d + tp) (by omega) (by omega)
    simp only [if_pos hp]
    rw [wrapI32_of_in (x := d + tp) (by omega) (by omega), wrapI64_of_in (x := d + tp) (by omega) (by omega),
      wrapI32_of_in (by omega) (by omega), wrapI64_of_in (by omega) (by omega)]
    refine ⟨rfl, ?_⟩
    split <;> omega
  · have hm := hred (tp - d) (by omega) (by omega)
    simp only [if_neg hp]
    rw [wrapI32_of_in (x := tp - d) (by omega) (by omega), wrapI64_of_in (x := tp - d) (by omega) (by omega),
      wrapI32_of_in (x := -red (tp - d)) (by omega) (by omega), wrapI64_of_in (x := -red (tp - d)) (by omega) (by omega),
      wrapI32_of_in (by omega) (by omega), wrapI64_of_in (by omega) (by omega), chk_fits ⟨by omega, by omega⟩]
    refine ⟨by split <;> rfl, ?_⟩
    split <;> omega

theorem round_super_bound (thr ph per d : Int)
    (ht : -1048576 ≤ thr ∧ thr ≤ 1048576) (hph : -1048576 ≤ ph ∧ ph ≤ 1048576)
    (hper : -1048576 ≤ per ∧ per ≤ 1048576) (hd : -1073741824 ≤ d ∧ d ≤ 1073741824) :
    HintRound.round 6 thr ph per d = some (FtRound.round 6 thr ph per 0 d) ∧
    -1082130432 ≤ FtRound.round 6 thr ph per 0 d ∧ FtRound.round 6 thr ph per 0 d ≤ 1082130432 := by
  rw [round_super_def, chk_fits (x := thr - ph) ⟨by omega, by omega⟩, chk_fits (x := -per) ⟨by omega, by omega⟩]
  exact super_core (red := fun s => landInt s (-per))
    (fun s h0 h1 => land_super_bound s (-per) ⟨h0, h1⟩ (by omega)) (by omega) hph hd rfl

theorem round_super45_bound (thr ph per d : Int)
    (ht : -1048576 ≤ thr ∧ thr ≤ 1048576) (hph : -1048576 ≤ ph ∧ ph ≤ 1048576)
    (hper : 0 < per ∧ per ≤ 1048576) (hd : -1073741824 ≤ d ∧ d ≤ 1073741824) :
    HintRound.round 7 thr ph per d = some (FtRound.round 7 thr ph per 0 d) ∧
    -1082130432 ≤ FtRound.round 7 thr ph per 0 d ∧ FtRound.round 7 thr ph per 0 d ≤ 1082130432 := by
  have hz : ¬ per = 0 := by omega
  -- the truncated quotient and its multiple of the period lie between 0 and the dividend: no trap on any `i32`
  have cq : ∀ s : Int, inI32 s → HintMath.chk (s.tdiv per) = some (s.tdiv per) ∧
      HintMath.chk (s.tdiv per * per) = some (s.tdiv per * per) := by
    intro s hs
    have h1 := tdiv_bounds (n := s) hper.1
    have h2 := tdiv_mul_bounds (n := s) hper.1
    unfold inI32 at hs
    exact ⟨chk_fits ⟨by omega, by omega⟩, chk_fits ⟨by omega, by omega⟩⟩
  rw [round_super45_def, chk_fits (x := thr - ph) ⟨by omega, by omega⟩]
  simp only [hz, if_false, (cq _ (wrapI32_in _)).1, (cq _ (wrapI32_in _)).2, Option.bind_some, Option.map_some]
  refine super_core (red := fun s => s.tdiv per * per) (fun s h0 h1 => ?_) (by omega) hph hd rfl
  have h2 := tdiv_mul_bounds (n := s) hper.1
  show -4194304 ≤ s.tdiv per * per ∧ s.tdiv per * per ≤ 1077936128
  omega

theorem round_state_bound (mode thr ph per d : Int) (hm : 0 ≤ mode ∧ mode ≤ 7)
    (ht : -1048576 ≤ thr ∧ thr ≤ 1048576) (hph : -1048576 ≤ ph ∧ ph ≤ 1048576)
    (hper : 0 < per ∧ per ≤ 1048576) (hd : -1073741824 ≤ d ∧ d ≤ 1073741824) :
    HintRound.round mode thr ph per d = some (FtRound.round mode thr ph per 0 d) ∧
    -1082130432 ≤ FtRound.round mode thr ph per 0 d ∧ FtRound.round mode thr ph per 0 d ≤ 1082130432 := by
  by_cases h4 : mode ≤ 4
  · obtain ⟨h, _, _⟩ := round_grid_modes mode thr ph per d ⟨hm.1, h4⟩ (by omega)
    exact ⟨h, by omega, by omega⟩
  · rcases (show mode = 5 ∨ mode = 6 ∨ mode = 7 by omega) with e | e | e <;> subst e
    · show some d = some (FtRound.roundNone 0 d) ∧ _ ≤ FtRound.roundNone 0 d ∧ FtRound.roundNone 0 d ≤ _
      rw [roundNone_zero (by omega)]; exact ⟨rfl, by omega, by omega⟩
    · exact round_super_bound thr ph per d ht hph (by omega) hd
    · exact round_super45_bound thr ph per d ht hph hper hd

end FontVerif.C03
