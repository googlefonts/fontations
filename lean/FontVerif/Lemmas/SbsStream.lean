/-
Sparse-bit-set codec, input bit stream: the stream position as one number of bits (`pos`),
`nextNode` / `readNodes` / `skipNodes` / `bytesConsumed` in terms of it.
-/
import FontVerif.Model.SparseBitSet
namespace FontVerif.SparseBitSet

def BfOk (bf : Nat) : Prop := bf = 2 ∨ bf = 4 ∨ bf = 8 ∨ bf = 32

def StOk (bf : Nat) (st : BitIn) : Prop := st.subIndex % bf = 0 ∧ st.subIndex < 8

/-- stream position in bits -/
def pos (st : BitIn) : Nat := 8 * st.byteIndex + st.subIndex

theorem bfOk_two_le {bf : Nat} (h : BfOk bf) : 2 ≤ bf := by
  rcases h with h | h | h | h <;> omega

theorem bfOk_pos {bf : Nat} (h : BfOk bf) : 0 < bf := Nat.lt_of_lt_of_le (by decide) (bfOk_two_le h)

theorem bfOk_le_32 {bf : Nat} (h : BfOk bf) : bf ≤ 32 := by
  rcases h with h | h | h | h <;> omega

theorem bfOk_bfOfBits (b : Nat) : BfOk (bfOfBits b) := by
  unfold bfOfBits BfOk
  split <;> simp

theorem stOk_start (bf : Nat) (h : BfOk bf) : StOk bf BitIn.start := by
  rcases h with h | h | h | h <;> subst h <;> simp [StOk, BitIn.start]

theorem pos_start : pos BitIn.start = 8 := by simp [pos, BitIn.start]

theorem bitIn_eq_of_pos {bf : Nat} {a b : BitIn} (ha : StOk bf a) (hb : StOk bf b)
    (h : pos a = pos b) : a = b := by
  cases a with | mk ai as => cases b with | mk bi bs =>
  simp only [StOk, pos] at *
  have h1 : ai = bi := by omega
  have h2 : as = bs := by omega
  subst h1; subst h2; rfl

theorem bytesConsumed_eq {bf : Nat} {st : BitIn} (h : StOk bf st) :
    bytesConsumed st = (pos st + 7) / 8 := by
  simp only [bytesConsumed, pos, StOk] at *
  split <;> omega

theorem bytesConsumed_le_iff {bf : Nat} {st : BitIn} (h : StOk bf st) (n : Nat) :
    bytesConsumed st ≤ n ↔ pos st ≤ 8 * n := by
  rw [bytesConsumed_eq h]; omega

theorem nextNode_small {bf : Nat} (h : bf = 2 ∨ bf = 4) (data : List Nat) (st : BitIn) :
    nextNode bf data st = match data[st.byteIndex]? with
      | none => none
      | some byte =>
        some (byte / 2 ^ st.subIndex % 2 ^ bf,
          ⟨if (st.subIndex + bf) % 8 = 0 then st.byteIndex + 1 else st.byteIndex, (st.subIndex + bf) % 8⟩) := by
  rw [nextNode, if_pos h]; rfl

theorem nextNode_8 (data : List Nat) (st : BitIn) :
    nextNode 8 data st = match data[st.byteIndex]? with
      | none => none
      | some byte => some (byte, ⟨st.byteIndex + 1, st.subIndex⟩) := rfl

theorem nextNode_32 (data : List Nat) (st : BitIn) :
    nextNode 32 data st =
      match data[st.byteIndex]?, data[st.byteIndex + 1]?, data[st.byteIndex + 2]?, data[st.byteIndex + 3]? with
      | some b1, some b2, some b3, some b4 =>
        some (b1 + b2 * 256 + b3 * 65536 + b4 * 16777216, ⟨st.byteIndex + 4, st.subIndex⟩)
      | _, _, _, _ => none := rfl

theorem sub_next {bf : Nat} (hbf : bf = 2 ∨ bf = 4) : ∀ s, s < 8 → s % bf = 0 →
    (s + bf < 8 ∧ (s + bf) % 8 = s + bf ∨ s + bf = 8 ∧ (s + bf) % 8 = 0) ∧ (s + bf) % 8 % bf = 0 := by
  rcases hbf with rfl | rfl
  · decide
  · decide

theorem nextNode_spec {bf : Nat} (hbf : BfOk bf) (data : List Nat) {st : BitIn} (hst : StOk bf st) :
    (nextNode bf data st = none ∧ 8 * data.length < pos st + bf) ∨
      ∃ v st', nextNode bf data st = some (v, st') ∧ StOk bf st' ∧ pos st' = pos st + bf ∧
        pos st + bf ≤ 8 * data.length ∧ ((∀ b ∈ data, b < 256) → v < 2 ^ bf) := by
  unfold pos
  rcases or_assoc.2 hbf with h | rfl | rfl
  · rw [nextNode_small h]
    obtain ⟨hc, hm⟩ := sub_next h _ hst.2 hst.1
    by_cases hlt : st.byteIndex < data.length
    · rw [List.getElem?_eq_getElem hlt]
      refine Or.inr ⟨_, _, rfl, ⟨hm, Nat.mod_lt _ (by decide)⟩, ?_, by omega,
        fun _ => Nat.mod_lt _ (Nat.two_pow_pos bf)⟩
      dsimp only [pos]
      rcases hc with ⟨_, e⟩ | ⟨_, e⟩
      · rw [e, if_neg (by omega)]; omega
      · rw [e, if_pos rfl]; omega
    · rw [List.getElem?_eq_none (by omega)]
      exact Or.inl ⟨rfl, by omega⟩
  · rw [nextNode_8]
    have h0 : st.subIndex = 0 := Nat.eq_zero_of_dvd_of_lt (Nat.dvd_of_mod_eq_zero hst.1) hst.2
    by_cases hlt : st.byteIndex < data.length
    · rw [List.getElem?_eq_getElem hlt]
      exact Or.inr ⟨_, _, rfl, hst, by dsimp only [pos]; omega, by omega,
        fun hb => hb _ (List.getElem_mem hlt)⟩
    · rw [List.getElem?_eq_none (by omega)]
      exact Or.inl ⟨rfl, by omega⟩
  · rw [nextNode_32]
    have h0 : st.subIndex = 0 :=
      Nat.eq_zero_of_dvd_of_lt (Nat.dvd_of_mod_eq_zero hst.1) (Nat.lt_trans hst.2 (by decide))
    by_cases hlt : st.byteIndex + 3 < data.length
    · rw [List.getElem?_eq_getElem (by omega), List.getElem?_eq_getElem (by omega),
        List.getElem?_eq_getElem (by omega), List.getElem?_eq_getElem hlt]
      refine Or.inr ⟨_, _, rfl, hst, by dsimp only [pos]; omega, by omega, fun hb => ?_⟩
      have m1 := hb _ (List.getElem_mem (by omega : st.byteIndex < data.length))
      have m2 := hb _ (List.getElem_mem (by omega : st.byteIndex + 1 < data.length))
      have m3 := hb _ (List.getElem_mem (by omega : st.byteIndex + 2 < data.length))
      have m4 := hb _ (List.getElem_mem hlt)
      omega
    · rw [List.getElem?_eq_none (i := st.byteIndex + 3) (by omega)]
      refine Or.inl ⟨?_, by omega⟩
      split
      · next h4 => cases h4
      · rfl

theorem nextNode_some {bf : Nat} (hbf : BfOk bf) {data : List Nat} {st st' : BitIn} {v : Nat}
    (hst : StOk bf st) (h : nextNode bf data st = some (v, st')) :
    StOk bf st' ∧ pos st' = pos st + bf ∧ pos st + bf ≤ 8 * data.length := by
  rcases nextNode_spec hbf data hst with ⟨e, _⟩ | ⟨_, _, e, h1, h2, h3, -⟩ <;> rw [h] at e <;> cases e
  exact ⟨h1, h2, h3⟩

theorem nextNode_none_iff {bf : Nat} (hbf : BfOk bf) {data : List Nat} {st : BitIn}
    (hst : StOk bf st) : nextNode bf data st = none ↔ 8 * data.length < pos st + bf := by
  rcases nextNode_spec hbf data hst with ⟨e, hlt⟩ | ⟨_, _, e, -, -, hle, -⟩
  · exact ⟨fun _ => hlt, fun _ => e⟩
  · rw [e]; exact ⟨nofun, fun h => absurd hle (Nat.not_le_of_gt h)⟩

theorem nextNode_lt {bf : Nat} (hbf : BfOk bf) {data : List Nat} (hbytes : ∀ b ∈ data, b < 256)
    {st st' : BitIn} {v : Nat} (hst : StOk bf st) (h : nextNode bf data st = some (v, st')) :
    v < 2 ^ bf := by
  rcases nextNode_spec hbf data hst with ⟨e, _⟩ | ⟨_, _, e, -, -, -, hv⟩ <;> rw [h] at e <;> cases e
  exact hv hbytes

theorem readNodes_succ_some {bf : Nat} {data : List Nat} {n : Nat} {st st' : BitIn} {vs : List Nat}
    (h : readNodes bf data (n + 1) st = some (vs, st')) :
    ∃ v st1 vs', nextNode bf data st = some (v, st1) ∧ readNodes bf data n st1 = some (vs', st') ∧
      vs = v :: vs' := by
  rw [readNodes] at h
  cases h1 : nextNode bf data st with
  | none => rw [h1] at h; cases h
  | some p =>
    obtain ⟨v, st1⟩ := p
    rw [h1] at h
    dsimp only at h
    cases h2 : readNodes bf data n st1 with
    | none => rw [h2] at h; cases h
    | some q =>
      obtain ⟨vs', st2⟩ := q
      rw [h2] at h; cases h; exact ⟨v, st1, vs', rfl, h2, rfl⟩

theorem readNodes_some {bf : Nat} (hbf : BfOk bf) {data : List Nat} :
    ∀ (n : Nat) {st st' : BitIn} {vs : List Nat}, StOk bf st →
      readNodes bf data n st = some (vs, st') → StOk bf st' ∧ pos st' = pos st + n * bf
  | 0, st, st', vs, hst, h => by
    simp [readNodes] at h
    obtain ⟨rfl, rfl⟩ := h
    simp [hst]
  | n + 1, st, st', vs, hst, h => by
    obtain ⟨v, st1, vs', h1, h2, rfl⟩ := readNodes_succ_some h
    have a := nextNode_some hbf hst h1
    have b := readNodes_some hbf n a.1 h2
    exact ⟨b.1, by rw [b.2, a.2.1, Nat.add_mul]; omega⟩

theorem readNodes_length (bf : Nat) (data : List Nat) :
    ∀ (n : Nat) {st st' : BitIn} {vs : List Nat},
      readNodes bf data n st = some (vs, st') → vs.length = n
  | 0, st, st', vs, h => by
    simp [readNodes] at h; rw [h.1]; rfl
  | n + 1, st, st', vs, h => by
    obtain ⟨v, st1, vs', -, h2, rfl⟩ := readNodes_succ_some h
    rw [List.length_cons, readNodes_length bf data n h2]

theorem readNodes_add (bf : Nat) (data : List Nat) :
    ∀ (a b : Nat) (st : BitIn),
      readNodes bf data (a + b) st =
        match readNodes bf data a st with
        | none => none
        | some (xs, st1) =>
          match readNodes bf data b st1 with
          | none => none
          | some (ys, st2) => some (xs ++ ys, st2)
  | 0, b, st => by
    simp only [Nat.zero_add, readNodes]
    cases readNodes bf data b st with
    | none => rfl
    | some r => rfl
  | a + 1, b, st => by
    have e : a + 1 + b = (a + b) + 1 := by omega
    rw [e]
    simp only [readNodes]
    cases h1 : nextNode bf data st with
    | none => rfl
    | some r =>
      obtain ⟨v, st'⟩ := r
      simp only []
      rw [readNodes_add bf data a b st']
      cases readNodes bf data a st' with
      | none => rfl
      | some r2 =>
        obtain ⟨xs, st1⟩ := r2
        simp only []
        cases readNodes bf data b st1 with
        | none => rfl
        | some r3 => rfl

theorem readNodes_append_split (bf : Nat) (data : List Nat) (b : List Nat) (st' : BitIn) :
    ∀ (a : List Nat) (st : BitIn), readNodes bf data (a ++ b).length st = some (a ++ b, st') →
      ∃ st1, readNodes bf data a.length st = some (a, st1) ∧
        readNodes bf data b.length st1 = some (b, st')
  | [], st, h => ⟨st, rfl, h⟩
  | x :: a, st, h => by
    obtain ⟨v, st0, vs, h1, h2, e⟩ := readNodes_succ_some h
    cases e
    obtain ⟨st1, ha, hb⟩ := readNodes_append_split bf data b st' a st0 h2
    exact ⟨st1, by simp only [List.length_cons, readNodes, h1, ha], hb⟩

theorem readNodes_none_iff {bf : Nat} (hbf : BfOk bf) {data : List Nat} :
    ∀ (n : Nat) {st : BitIn}, StOk bf st → pos st ≤ 8 * data.length →
      (readNodes bf data n st = none ↔ 8 * data.length < pos st + n * bf)
  | 0, st, hst, hle => by simp [readNodes]; omega
  | n + 1, st, hst, hle => by
    simp only [readNodes]
    split
    · rename_i h1
      have := (nextNode_none_iff hbf hst).mp h1
      simp; rw [Nat.add_mul]; have : 0 ≤ n * bf := Nat.zero_le _; omega
    · rename_i v st1 h1
      have a := nextNode_some hbf hst h1
      have ih := readNodes_none_iff hbf n (data := data) a.1 (by omega)
      split
      · rename_i h2
        have := ih.mp h2
        simp; rw [Nat.add_mul]; omega
      · rename_i vs st2 h2
        simp
        have : ¬ (8 * data.length < pos st1 + n * bf) := by
          intro hc; have := ih.mpr hc; simp [h2] at this
        rw [Nat.add_mul]; omega

theorem readNodes_lt {bf : Nat} (hbf : BfOk bf) {data : List Nat} (hbytes : ∀ b ∈ data, b < 256) :
    ∀ (n : Nat) {st st' : BitIn} {vs : List Nat}, StOk bf st →
      readNodes bf data n st = some (vs, st') → ∀ v ∈ vs, v < 2 ^ bf
  | 0, st, st', vs, _, h => by
    simp [readNodes] at h
    obtain ⟨rfl, rfl⟩ := h
    simp
  | n + 1, st, st', vs, hst, h => by
    obtain ⟨v, st1, vs', h1, h2, rfl⟩ := readNodes_succ_some h
    intro w hw
    rcases List.mem_cons.1 hw with rfl | hw
    · exact nextNode_lt hbf hbytes hst h1
    · exact readNodes_lt hbf hbytes n (nextNode_some hbf hst h1).1 h2 w hw

theorem skipNodes_spec {bf : Nat} (hbf : BfOk bf) (len : Nat) {st : BitIn} (hst : StOk bf st)
    (n : Nat) :
    StOk bf (skipNodes bf len st n).1 ∧ pos (skipNodes bf len st n).1 = pos st + n * bf ∧
      ((skipNodes bf len st n).2 = true ↔ pos st + n * bf ≤ 8 * len) := by
  have h : StOk bf (skipNodes bf len st n).1 ∧ pos (skipNodes bf len st n).1 = pos st + n * bf := by
    unfold skipNodes StOk pos
    rcases or_assoc.2 hbf with h | rfl | rfl
    · -- the bit index is split into byte and sub-byte part: `8 * (x / 8) + x % 8 = x`
      have hdvd : bf ∣ 8 := by rcases h with rfl | rfl <;> decide
      rw [if_pos h]
      exact ⟨⟨by dsimp only; rw [Nat.mod_mod_of_dvd _ hdvd, Nat.add_mul_mod_self_right]; exact hst.1,
        Nat.mod_lt _ (by decide)⟩,
        by dsimp only; rw [Nat.mul_add, Nat.add_assoc, Nat.div_add_mod, ← Nat.add_assoc]⟩
    · rw [if_neg (by decide : ¬(8 = 2 ∨ 8 = 4)), if_pos (rfl : 8 = 8)]
      exact ⟨hst, by dsimp only; omega⟩
    · rw [if_neg (by decide : ¬(32 = 2 ∨ 32 = 4)), if_neg (by decide : ¬ 32 = 8)]
      exact ⟨hst, by dsimp only; omega⟩
  refine ⟨h.1, h.2, ?_⟩
  show decide (bytesConsumed (skipNodes bf len st n).1 ≤ len) = true ↔ _
  rw [decide_eq_true_iff, bytesConsumed_le_iff h.1, h.2]

theorem skipNodes_of_readNodes {bf : Nat} (hbf : BfOk bf) {data : List Nat} {n : Nat}
    {st st' : BitIn} {vs : List Nat} (hst : StOk bf st) (hle : pos st ≤ 8 * data.length)
    (h : readNodes bf data n st = some (vs, st')) :
    skipNodes bf data.length st n = (st', true) := by
  have a := readNodes_some hbf n hst h
  have b := skipNodes_spec hbf data.length hst n
  have hn : ¬ (8 * data.length < pos st + n * bf) := by
    intro hc
    have := (readNodes_none_iff hbf n hst hle).mpr hc
    simp [h] at this
  have e1 : (skipNodes bf data.length st n).1 = st' :=
    bitIn_eq_of_pos b.1 a.1 (by rw [b.2.1, a.2])
  have e2 : (skipNodes bf data.length st n).2 = true := b.2.2.mpr (by omega)
  exact Prod.ext e1 e2

theorem skipNodes_of_readNodes_none {bf : Nat} (hbf : BfOk bf) {data : List Nat} {n : Nat}
    {st : BitIn} (hst : StOk bf st) (hle : pos st ≤ 8 * data.length)
    (h : readNodes bf data n st = none) :
    (skipNodes bf data.length st n).2 = false := by
  have b := skipNodes_spec hbf data.length hst n
  have := (readNodes_none_iff hbf n hst hle).mp h
  cases hf : (skipNodes bf data.length st n).2
  · rfl
  · have := b.2.2.mp hf; omega

end FontVerif.SparseBitSet
