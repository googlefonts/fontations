/- C14 / concrete BitSet: the shared vocabulary of the refinement proofs (`CPageOk`, `CInv`,
`ElemOp`, `PageOpRefines`), and list facts about `set` and about the entry `i - 1` just before a
position `i`, which is what the loops of `process` that count down read next. -/
import FontVerif.Model.BitSetConc
import FontVerif.Lemmas.Base
namespace FontVerif.IntSet

/-- a concrete page is well formed: exactly 8 words, each a `u64`, cached length exact -/
def CPageOk (p : CPage) : Prop :=
  p.elems.length = 8 ∧ (∀ e ∈ p.elems, e < 2 ^ 64) ∧ p.len = recomputeLength p.elems

/-- The representation invariant of the concrete `BitSet` — what bitset.rs guarantees and relies
on: `pages.len() == page_map.len()` (`process` indexes `page_map` with `0..pages.len()`), the map
is strictly sorted by major, the map indices are pairwise distinct and in bounds (hence a
bijection onto `pages`: no page is unreferenced, none is shared), every page is well formed and
`length` is the sum of the page lengths over the `pages` vector. -/
structure CInv (s : CBitSet) : Prop where
  lenEq : s.pageMap.length = s.pages.length
  sorted : (s.pageMap.map (·.1)).Pairwise (· < ·)
  idxNodup : (s.pageMap.map (·.2)).Nodup
  idxLt : ∀ e ∈ s.pageMap, e.2 < s.pages.length
  pagesOk : ∀ p ∈ s.pages, CPageOk p
  len : s.len = cSumLens s.pages

/-- a `u64` element operator (`|a, b| a | b`, …) acting bitwise through the Boolean function `f` -/
structure ElemOp (eop : Nat → Nat → Nat) (f : Bool → Bool → Bool) : Prop where
  bit : ∀ a b i, a < 2 ^ 64 → b < 2 ^ 64 → i < 64 → (eop a b).testBit i = f (a.testBit i) (b.testBit i)
  lt : ∀ a b, a < 2 ^ 64 → b < 2 ^ 64 → eop a b < 2 ^ 64

/-- a concrete page operator (the `Op: Fn(&BitPage, &BitPage) -> BitPage` of `BitSet::process`)
refines the 512-bit operator `op` -/
structure PageOpRefines (cop : CPage → CPage → CPage) (op : Nat → Nat → Nat) : Prop where
  ok : ∀ a b, CPageOk a → CPageOk b → CPageOk (cop a b)
  abs : ∀ a b, CPageOk a → CPageOk b → (cop a b).abs = Page.ofBits (op a.abs.bits b.abs.bits)

def KLt {α β : Type} (xs : List (Nat × α)) (ys : List (Nat × β)) : Prop := ∀ x ∈ xs, ∀ y ∈ ys, x.1 < y.1

theorem split3 {α : Type} (l : List α) (i : Nat) (d : α) (h : 0 < i) (h2 : i ≤ l.length) :
    l = l.take (i - 1) ++ l.getD (i - 1) d :: l.drop i := by
  have h3 := drop_eq_getD_cons l (i - 1) d (by omega)
  rw [show i - 1 + 1 = i by omega] at h3
  rw [← h3, List.take_append_drop]

theorem snoc_take {α : Type} (l : List α) (i : Nat) (d : α) (h : 0 < i) (h2 : i ≤ l.length) :
    l.take i = l.take (i - 1) ++ [l.getD (i - 1) d] := by
  have := take_succ_eq_getD l (i - 1) d (by omega)
  rwa [show i - 1 + 1 = i by omega] at this

theorem cons_drop {α : Type} (l : List α) (i : Nat) (d : α) (h : 0 < i) (h2 : i ≤ l.length) :
    l.drop (i - 1) = l.getD (i - 1) d :: l.drop i := by
  have h3 := drop_eq_getD_cons l (i - 1) d (by omega)
  rwa [show i - 1 + 1 = i by omega] at h3

theorem getD_set_lt {α : Type} (l : List α) {i : Nat} (j : Nat) (a d : α) (h : i < l.length) :
    (l.set i a).getD j d = if i = j then a else l.getD j d := by
  rw [getD_set]
  by_cases e : i = j
  · rw [if_pos ⟨e, h⟩, if_pos e]
  · rw [if_neg (fun h => e h.1), if_neg e]

/-- `if w < i { x[w] = x[i] }` (Step 1 of `process`, `compact_pages`): the guard only spares a write that would
change nothing -/
theorem ite_set_getD {α : Type} (l : List α) (d : α) {w i : Nat} (h : w ≤ i) :
    (if w < i then l.set w (l.getD i d) else l) = l.set w (l.getD i d) := by
  by_cases hlt : w < i
  · rw [if_pos hlt]
  · rw [if_neg hlt, show w = i by omega, set_getD_self]

theorem drop_set_self {α : Type} (l : List α) (k : Nat) (x : α) (h : k < l.length) :
    (l.set k x).drop k = x :: l.drop (k + 1) := by
  rw [drop_eq_getD_cons (l.set k x) k x (by simp [h]), getD_set, if_pos ⟨rfl, h⟩,
    List.drop_set_of_lt (by omega)]

theorem drop_set_pred {α : Type} (l : List α) (c : Nat) (x : α) (hc : 0 < c) (hl : c ≤ l.length) :
    (l.set (c - 1) x).drop (c - 1) = x :: l.drop c := by
  rw [drop_set_self _ _ _ (Nat.sub_one_lt_of_le hc hl), Nat.sub_add_cancel hc]

theorem take_set_of_take_eq {α : Type} {l L : List α} {i k c : Nat} (x : α) (h : l.take i = L.take i)
    (hk : k ≤ i) (hkc : k ≤ c) : (l.set c x).take k = L.take k := by
  rw [List.take_set_of_le hkc]
  have := congrArg (List.take k) h
  rwa [List.take_take, List.take_take, Nat.min_eq_left hk] at this

theorem getD_of_take_eq {α : Type} (l1 l2 : List α) (n i : Nat) (d : α) (h : l1.take n = l2.take n)
    (hi : i < n) : l1.getD i d = l2.getD i d := by
  have : (l1.take n)[i]? = (l2.take n)[i]? := by rw [h]
  simp only [List.getElem?_take, hi, if_true] at this
  simp [List.getD_eq_getElem?_getD, this]

theorem sorted_split (l : PMap) (hs : (l.map (·.1)).Pairwise (· < ·)) (i : Nat) (h : 0 < i)
    (h2 : i ≤ l.length) : ∀ y ∈ l.take (i - 1), y.1 < (l.getD (i - 1) (0, 0)).1 := by
  rw [split3 l i (0, 0) h h2, List.map_append, List.map_cons, List.pairwise_append, List.pairwise_cons] at hs
  exact fun y hy => hs.2.2 y.1 (List.mem_map_of_mem hy) _ (by simp)

theorem mem_take_pred {α : Type} (l : List α) (i : Nat) (x : α) (h : x ∈ l.take (i - 1)) : x ∈ l.take i :=
  (List.take_subset_take_left l (by omega)) h

theorem mem_getD_take {α : Type} (l : List α) (i : Nat) (d : α) (h : 0 < i) (h2 : i ≤ l.length) :
    l.getD (i - 1) d ∈ l.take i := by
  rw [snoc_take l i d h h2]; simp

end FontVerif.IntSet
