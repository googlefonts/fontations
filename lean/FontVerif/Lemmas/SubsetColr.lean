/-
Lemmas about the COLR subsetter model: the object graph it builds (`Model/SubsetColr.lean`) unfolds to
the renamed source graph (`Model/SubsetColrTree.lean`); the header tables of version 1 (`v1Tables_spec`); the record
lists of version 0.
-/
import FontVerif.Lemmas.SubsetColrSer
import FontVerif.Lemmas.HandColrBody
import FontVerif.Model.SubsetColrTree
namespace FontVerif.SubsetColr
open FontVerif.ColrSer
open FontVerif.SubsetHvar (Err R)

theorem sl_length {b : Array Nat} {p n : Nat} {r : List Nat} (h : sl b p n = some r) : r.length = n := by
  unfold sl at h
  split at h
  · cases h; simp; omega
  · cases h

theorem sl_getD0 {b : Array Nat} {p n v : Nat} {r : List Nat} (h : sl b p n = some r) (hn : 1 ≤ n)
    (hv : rd 1 b p = some v) : r.getD 0 0 = v := by
  unfold sl at h
  unfold rd at hv
  split at h
  · rename_i hp
    cases h
    rw [if_pos (by omega)] at hv
    cases hv
    have h1 : (b.extract p (p + 1)).toList = [b.toList[p]'(by simp; omega)] := by
      apply List.ext_getElem
      · simp; omega
      · intro i h1 h2
        simp at h1 h2
        have : i = 0 := by omega
        subst this
        simp
    rw [h1]
    simp only [beValue, List.foldl_cons, List.foldl_nil, Nat.zero_mul, Nat.zero_add]
    have h2 : ((b.extract p (p + n)).toList).getD 0 0 = b.toList[p]'(by simp; omega) := by
      rw [List.getD_eq_getElem?_getD, List.getElem?_eq_getElem (by simp; omega)]
      simp
    exact h2
  · cases h

theorem linkAt_mem {links : List Link} {pos t : Nat} (h : linkAt links pos = some t) :
    ∃ l ∈ links, l.pos = pos ∧ l.target = t := by
  unfold linkAt at h
  cases hf : links.find? (·.pos = pos) with
  | none => rw [hf] at h; cases h
  | some l =>
    rw [hf] at h
    simp only [Option.map_some, Option.some.injEq] at h
    have hm := List.mem_of_find?_eq_some hf
    have hp := List.find?_some hf
    exact ⟨l, hm, by simpa using hp, h⟩

theorem linkAt_append_of_none (pre rest : List Link) (pos : Nat) (h : ∀ l ∈ pre, l.pos ≠ pos) :
    linkAt (pre ++ rest) pos = linkAt rest pos := by
  unfold linkAt
  congr 1
  induction pre with
  | nil => rfl
  | cons l ls ih =>
    have hl : l.pos ≠ pos := h l (by simp)
    simp only [List.cons_append, List.find?_cons]
    have : decide (l.pos = pos) = false := by simpa using hl
    rw [this]
    exact ih (fun l' hl' => h l' (by simp [hl']))

theorem linkAt_cons_same (pos w t : Nat) (rest : List Link) : linkAt (⟨pos, w, t⟩ :: rest) pos = some t := by
  simp [linkAt]

theorem linkAt_none {links : List Link} {q : Nat} (h : ∀ l ∈ links, l.pos ≠ q) : linkAt links q = none := by
  have := linkAt_append_of_none links [] q h
  rwa [List.append_nil] at this

theorem linkAt_snoc_ne (links : List Link) (pos w i : Nat) {q : Nat} (hq : pos ≠ q) :
    linkAt (links ++ [⟨pos, w, i⟩]) q = linkAt links q := by
  unfold linkAt
  rw [List.find?_append]
  cases links.find? (·.pos = q) with
  | some l => rfl
  | none => simp [hq]

theorem linkAt_snoc_same (links : List Link) (pos w i : Nat) (h : linkAt links pos = none) :
    linkAt (links ++ [⟨pos, w, i⟩]) pos = some i := by
  unfold linkAt at h ⊢
  rw [List.find?_append]
  cases hf : links.find? (·.pos = pos) with
  | some l => rw [hf] at h; cases h
  | none => simp

theorem linkAt_of_mem {ls : List Link} (hs : SortedLinks ls) (hw : ∀ l ∈ ls, 0 < l.width) {l : Link}
    (hl : l ∈ ls) : linkAt ls l.pos = some l.target := by
  induction ls with
  | nil => cases hl
  | cons a rest ih =>
    obtain ⟨ha, hrest⟩ := List.pairwise_cons.mp hs
    rcases List.mem_cons.mp hl with rfl | hl'
    · exact linkAt_cons_same _ _ _ _
    · have hne : ∀ x ∈ [a], x.pos ≠ l.pos := fun x hx => by
        cases List.mem_singleton.mp hx
        have := ha l hl'; have := hw a (by simp); have := hw l hl; omega
      exact (linkAt_append_of_none [a] rest l.pos hne).trans
        (ih hrest (fun x hx => hw x (List.mem_cons_of_mem _ hx)) hl')

/-- an object that may be packed behind `n` objects -/
def ObjOk (o : Obj) (n : Nat) : Prop :=
  (∀ l ∈ o.links, l.target < n) ∧ LinksInside o.links o.bytes.length ∧ SortedLinks o.links

theorem prefix_getElem? {a b : List Obj} (h : a <+: b) {i : Nat} (hi : i < a.length) : b[i]? = a[i]? := by
  obtain ⟨e, rfl⟩ := h
  exact List.getElem?_append_left hi

theorem WF.of_prefix {a b : List Obj} (h : a <+: b) (wf : WF b) : WF a := by
  intro k hk
  have hkb : k < b.length := Nat.lt_of_lt_of_le hk h.length_le
  have := wf k hkb
  have e : b[k] = a[k] := by
    have h1 := prefix_getElem? h hk
    rw [List.getElem?_eq_getElem hkb, List.getElem?_eq_getElem hk] at h1
    exact Option.some.inj h1
  rw [e] at this
  exact this

theorem WF.nil : WF [] := fun k hk => absurd hk (by simp)

theorem WF.snoc {a : List Obj} {o : Obj} (wf : WF a) (ok : ObjOk o a.length) : WF (a ++ [o]) := by
  intro k hk
  by_cases hka : k < a.length
  · have e : (a ++ [o])[k] = a[k] := List.getElem_append_left hka
    rw [e]; exact wf k hka
  · have hk' : k = a.length := by simp at hk; omega
    subst hk'
    have e : (a ++ [o])[a.length] = o := by simp
    rw [e]; exact ok

theorem packChild_cases (pk : List Obj) (o : Obj) (i : Nat) (pk' : List Obj)
    (h : packChild pk o = .ok (i, pk')) : pk'[i]? = some o ∧ (pk' = pk ∨ pk' = pk ++ [o]) := by
  unfold packChild at h
  rcases popPack_spec pk o with hp | ⟨j, hj, hget, hp⟩ | hp
  · rw [hp] at h; cases h
  · rw [hp] at h; cases h; exact ⟨hget, Or.inl rfl⟩
  · rw [hp] at h; cases h; exact ⟨by simp, Or.inr rfl⟩

theorem packChild_prefix (pk : List Obj) (o : Obj) (i : Nat) (pk' : List Obj)
    (h : packChild pk o = .ok (i, pk')) : pk <+: pk' ∧ pk'[i]? = some o := by
  obtain ⟨hget, rfl | rfl⟩ := packChild_cases pk o i pk' h
  · exact ⟨List.prefix_refl _, hget⟩
  · exact ⟨⟨[o], rfl⟩, hget⟩

theorem packChild_spec (pk : List Obj) (o : Obj) (i : Nat) (pk' : List Obj)
    (h : packChild pk o = .ok (i, pk')) (wf : WF pk) (ok : ObjOk o pk.length) :
    WF pk' ∧ pk <+: pk' ∧ pk'[i]? = some o := by
  obtain ⟨hget, rfl | rfl⟩ := packChild_cases pk o i pk' h
  · exact ⟨wf, List.prefix_refl _, hget⟩
  · exact ⟨WF.snoc wf ok, ⟨[o], rfl⟩, hget⟩

theorem ObjOk.leaf {o : Obj} (h : o.links = []) (n : Nat) : ObjOk o n := by
  unfold ObjOk
  rw [h]
  exact ⟨by simp, by intro l hl; simp at hl, List.Pairwise.nil⟩

theorem sorted_zipLinks {w : Nat} {ps : List Nat} (ts : List Nat) (hp : ps.Pairwise (fun a b => a + w ≤ b)) :
    SortedLinks (List.zipWith (fun pos t => ⟨pos, w, t⟩) ps ts) := by
  unfold SortedLinks
  rw [List.pairwise_iff_getElem]
  intro i j hi hj hij
  rw [List.getElem_zipWith, List.getElem_zipWith]
  exact Or.inl (List.pairwise_iff_getElem.mp hp i j _ _ hij)

theorem objOk_zipLinks (bytes : List Nat) {w n : Nat} {ps ts : List Nat}
    (hp : ps.Pairwise (fun a b => a + w ≤ b)) (hin : ∀ q ∈ ps, q + w ≤ bytes.length) (ht : ∀ t ∈ ts, t < n) :
    ObjOk ⟨bytes, List.zipWith (fun pos t => ⟨pos, w, t⟩) ps ts⟩ n := by
  refine ⟨fun l hl => ?_, fun l hl => ?_, sorted_zipLinks ts hp⟩
  · obtain ⟨k, hk, rfl⟩ := List.getElem_of_mem hl
    rw [List.getElem_zipWith]
    exact ht _ (List.getElem_mem _)
  · obtain ⟨k, hk, rfl⟩ := List.getElem_of_mem hl
    rw [List.getElem_zipWith]
    exact hin _ (List.getElem_mem _)

theorem width_zipLinks {w : Nat} {ps ts : List Nat} {l : Link}
    (hl : l ∈ List.zipWith (fun pos t => (⟨pos, w, t⟩ : Link)) ps ts) : l.width = w := by
  obtain ⟨k, hk, rfl⟩ := List.getElem_of_mem hl
  rw [List.getElem_zipWith]

theorem packChild_leaves (pk : List Obj) (bytes : List Nat) (i : Nat) (pk' : List Obj)
    (h : packChild pk ⟨bytes, []⟩ = .ok (i, pk')) (hl : ∀ o ∈ pk, o.links = []) :
    ∀ o ∈ pk', o.links = [] := by
  obtain ⟨_, rfl | rfl⟩ := packChild_cases pk _ i pk' h
  · exact hl
  · intro o ho
    rcases List.mem_append.mp ho with ho | ho
    · exact hl o ho
    · cases List.mem_singleton.mp ho; rfl

theorem packEach_spec {α : Type} (build : α → List Obj → R (Obj × List Obj)) (P : α → Nat → List Obj → Prop) :
    ∀ (as : List α) (pk : List Obj) (ts : List Nat) (pk' : List Obj),
      (∀ a ∈ as, ∀ pk o pk1, build a pk = .ok (o, pk1) → WF pk →
        WF pk1 ∧ pk <+: pk1 ∧ ObjOk o pk1.length ∧
        ∀ pk2 i, pk1 <+: pk2 → WF pk2 → pk2[i]? = some o → P a i pk2) →
      packEach build as pk = .ok (ts, pk') → WF pk →
      WF pk' ∧ pk <+: pk' ∧ ts.length = as.length ∧
      ∀ k (hk : k < as.length) (hk' : k < ts.length), ts[k] < pk'.length ∧ P as[k] ts[k] pk' := by
  intro as
  induction as with
  | nil =>
    intro pk ts pk' _ h wf
    simp only [packEach, pure, Except.pure] at h
    cases h
    exact ⟨wf, List.prefix_refl _, rfl, fun k hk => absurd hk (by simp)⟩
  | cons a as ih =>
    intro pk ts pk' hb h wf
    simp only [packEach] at h
    obtain ⟨⟨o, pk1⟩, hbuild, h⟩ := Do.bind_ok h
    obtain ⟨⟨i, pk2⟩, hpack, h⟩ := Do.bind_ok h
    obtain ⟨⟨ts', pk3⟩, hrest, h⟩ := Do.bind_ok h
    simp only [pure, Except.pure] at h
    cases h
    obtain ⟨wf1, e1, ok1, hP⟩ := hb a (by simp) pk o pk1 hbuild wf
    obtain ⟨wf2, e2, hget⟩ := packChild_spec pk1 o i pk2 hpack wf1 ok1
    obtain ⟨wf3, e3, hlen, hall⟩ := ih pk2 ts' pk'
      (fun a' ha' => hb a' (by simp [ha'])) hrest wf2
    refine ⟨wf3, e1.trans (e2.trans e3), by simp [hlen], ?_⟩
    intro k hk hk'
    cases k with
    | zero =>
      simp only [List.getElem_cons_zero]
      have hi : i < pk2.length := (List.getElem?_eq_some_iff.mp hget).1
      exact ⟨Nat.lt_of_lt_of_le hi e3.length_le, hP pk' i (e2.trans e3) wf3 ((prefix_getElem? e3 hi).trans hget)⟩
    | succ k =>
      simp only [List.getElem_cons_succ]
      exact hall k (by simpa using hk) (by simpa using hk')

theorem packEach_prefix {α : Type} (build : α → List Obj → R (Obj × List Obj))
    (hb : ∀ a pk o pk1, build a pk = .ok (o, pk1) → pk <+: pk1) :
    ∀ (as : List α) (pk : List Obj) (ts : List Nat) (pk' : List Obj),
      packEach build as pk = .ok (ts, pk') → pk <+: pk'
  | [], pk, ts, pk', h => by
    simp only [packEach, pure, Except.pure] at h; cases h; exact List.prefix_refl _
  | a :: as, pk, ts, pk', h => by
    simp only [packEach] at h
    obtain ⟨⟨o, pk1⟩, hbuild, h⟩ := Do.bind_ok h
    obtain ⟨⟨i, pk2⟩, hpack, h⟩ := Do.bind_ok h
    obtain ⟨⟨ts', pk3⟩, hrest, h⟩ := Do.bind_ok h
    simp only [pure, Except.pure] at h
    cases h
    exact (hb a pk o pk1 hbuild).trans ((packChild_prefix _ _ _ _ hpack).1.trans
      (packEach_prefix build hb as pk2 ts' pk' hrest))

theorem objKids_congr (f g : Nat → Option Tree) (links : List Link)
    (h : ∀ l ∈ links, f l.target = g l.target) :
    ∀ ps, objKids f links ps = objKids g links ps
  | [] => rfl
  | pos :: rest => by
    simp only [objKids]
    cases hl : linkAt links pos with
    | none => rfl
    | some t =>
      obtain ⟨l, hm, _, ht⟩ := linkAt_mem hl
      simp only []
      rw [← ht, h l hm, objKids_congr f g links h rest]

/-- the colour line / affine behind the link an object has for it: `objTree`'s counterpart of `expectBlob` -/
def objBlob (packed : List Obj) (links : List Link) : Option (Nat × Blob) → Option (List Nat)
  | none => some []
  | some (pos, _) =>
    match linkAt links pos with
    | none => none
    | some t => packed[t]?.map (·.bytes)

/-- `objTree` in the shape of `expectTree`: record, child paints, colour line / affine -/
theorem objTree_succ {packed : List Obj} {i : Nat} {o : Obj} (fuel : Nat) (h : packed[i]? = some o) :
    objTree packed (fuel + 1) i =
      match objKids (objTree packed fuel) o.links (kidPositions (o.bytes.getD 0 0)),
          objBlob packed o.links (blobOf (o.bytes.getD 0 0)) with
      | some kids, some blob => some (.node (mask (o.bytes.getD 0 0) o.bytes) blob kids)
      | _, _ => none := by
  simp only [objTree, h]
  cases objKids (objTree packed fuel) o.links (kidPositions (o.bytes.getD 0 0)) with
  | none => rfl
  | some kids =>
    cases blobOf (o.bytes.getD 0 0) with
    | none => rfl
    | some pk =>
      simp only [objBlob]
      cases linkAt o.links pk.1 with
      | none => rfl
      | some t => simp only []; cases packed[t]? <;> rfl

theorem objBlob_prefix {pk pk' : List Obj} (hext : pk <+: pk') {links : List Link}
    (ht : ∀ l ∈ links, l.target < pk.length) (spec : Option (Nat × Blob)) :
    objBlob pk' links spec = objBlob pk links spec := by
  cases spec with
  | none => rfl
  | some pk0 =>
    simp only [objBlob]
    cases hl : linkAt links pk0.1 with
    | none => rfl
    | some t =>
      obtain ⟨l, hm, _, rfl⟩ := linkAt_mem hl
      simp only []
      rw [prefix_getElem? hext (ht l hm)]

theorem objTree_prefix {pk pk' : List Obj} (hext : pk <+: pk') (wf : WF pk) :
    ∀ fuel i, i < pk.length → objTree pk' fuel i = objTree pk fuel i
  | 0, _, _ => rfl
  | fuel + 1, i, hi => by
    have hget := List.getElem?_eq_getElem hi
    have ht : ∀ l ∈ pk[i].links, l.target < pk.length := fun l hl => Nat.lt_trans ((wf i hi).1 l hl) hi
    rw [objTree_succ fuel ((prefix_getElem? hext hi).trans hget), objTree_succ fuel hget,
      objKids_congr _ _ _ (fun l hl => objTree_prefix hext wf fuel l.target (ht l hl)), objBlob_prefix hext ht]

def PositionsOk (fmt size : Nat) : Prop :=
  (offsetPositions fmt).Pairwise (fun a b => a + 3 ≤ b) ∧ ∀ q ∈ offsetPositions fmt, q + 3 ≤ size

instance (fmt size : Nat) : Decidable (PositionsOk fmt size) := by
  unfold PositionsOk; infer_instance

theorem positions_ok {fmt size : Nat} (h : paintSize fmt = some size) : PositionsOk fmt size :=
  HandColr.paintSize_forall (by decide) h


theorem getD0_writeBE (b : List Nat) (pos w v : Nat) (hpos : 1 ≤ pos) (hb : pos ≤ b.length) :
    (writeBE b pos w v).getD 0 0 = b.getD 0 0 := by
  rw [writeBE_eq]
  cases b with
  | nil => simp at hb; omega
  | cons x xs =>
    obtain ⟨q, rfl⟩ : ∃ q, pos = q + 1 := ⟨pos - 1, by omega⟩
    simp [List.getD]

theorem patchVar_cases (p : PlanIn) (bytes : List Nat) (pos : Nat) (out : List Nat)
    (h : patchVar p bytes pos = .ok out) :
    (beValue ((bytes.drop pos).take 4) = NO_VARIATION_INDEX ∧ out = bytes) ∨
    (beValue ((bytes.drop pos).take 4) ≠ NO_VARIATION_INDEX ∧
      ∃ nv, p.varIdx.lookup (beValue ((bytes.drop pos).take 4)) = some nv ∧ out = writeBE bytes pos 4 nv) := by
  unfold patchVar at h
  by_cases hno : beValue ((bytes.drop pos).take 4) = NO_VARIATION_INDEX
  · rw [if_pos hno] at h; cases h; exact Or.inl ⟨hno, rfl⟩
  · rw [if_neg hno] at h
    cases hl : p.varIdx.lookup (beValue ((bytes.drop pos).take 4)) with
    | none => rw [hl] at h; cases h
    | some nv => rw [hl] at h; cases h; exact Or.inr ⟨hno, nv, rfl, rfl⟩

theorem patchVar_spec (p : PlanIn) (bytes : List Nat) (pos : Nat) (out : List Nat)
    (h : patchVar p bytes pos = .ok out) (hp : 1 ≤ pos) (hl : pos + 4 ≤ bytes.length) :
    out.length = bytes.length ∧ out.getD 0 0 = bytes.getD 0 0 := by
  rcases patchVar_cases p bytes pos out h with ⟨_, rfl⟩ | ⟨_, nv, _, rfl⟩
  · exact ⟨rfl, rfl⟩
  · exact ⟨writeBE_length hl, getD0_writeBE _ _ _ _ hp (by omega)⟩

theorem renameNode_spec (p : PlanIn) (fmt size : Nat) (src bytes : List Nat)
    (h : renameNode p fmt src = .ok bytes) (hs : paintSize fmt = some size) (hl : src.length = size)
    (h0 : src.getD 0 0 = fmt) : bytes.length = size ∧ bytes.getD 0 0 = fmt := by
  have hge : fmt ≠ 11 → 5 ≤ size := HandColr.paintSize_forall (P := fun k s => k ≠ 11 → 5 ≤ s) (by decide) hs
  -- a field written behind the first byte leaves the length and the format byte alone
  have keep : ∀ pos w v, 1 ≤ pos → pos + w ≤ size →
      (writeBE src pos w v).length = size ∧ (writeBE src pos w v).getD 0 0 = fmt := fun pos w v h1 h2 =>
    ⟨by rw [writeBE_length (by omega), hl], by rw [getD0_writeBE _ _ _ _ h1 (by omega), h0]⟩
  have keepVar : ∀ bs pos, bs.length = size ∧ bs.getD 0 0 = fmt → 1 ≤ pos → pos + 4 ≤ size →
      patchVar p bs pos = .ok bytes → bytes.length = size ∧ bytes.getD 0 0 = fmt := fun bs pos hb h1 h2 hv => by
    obtain ⟨a, c⟩ := patchVar_spec p bs pos bytes hv h1 (by omega)
    exact ⟨a.trans hb.1, c.trans hb.2⟩
  unfold renameNode at h
  by_cases f1 : fmt = 1
  · subst f1; cases hs
    rw [if_pos rfl] at h
    split at h
    · cases h; exact ⟨hl, h0⟩
    · split at h
      · cases h
      · cases h; exact keep 2 4 _ (by omega) (by omega)
  rw [if_neg f1] at h
  by_cases f23 : fmt = 2 ∨ fmt = 3
  · rw [if_pos f23] at h
    have := hge (by omega)
    split at h
    · cases h
    · split at h
      · rename_i f3; subst f3; cases hs
        exact keepVar _ 5 (keep 1 2 _ (by omega) (by omega)) (by omega) (by omega) h
      · cases h; exact keep 1 2 _ (by omega) (by omega)
  rw [if_neg f23] at h
  by_cases f10 : fmt = 10
  · subst f10; cases hs
    rw [if_pos rfl] at h
    split at h
    · cases h
    · cases h; simp [beBytes_length]
  rw [if_neg f10] at h
  by_cases f11 : fmt = 11
  · subst f11; cases hs
    rw [if_pos rfl] at h
    split at h
    · cases h
    · cases h; simp [beBytes_length]
  rw [if_neg f11] at h
  by_cases f12 : fmt = 12 ∨ fmt = 13
  · rw [if_pos f12] at h; cases h
    rcases f12 with rfl | rfl <;> cases hs <;> exact ⟨rfl, rfl⟩
  rw [if_neg f12] at h
  by_cases f32 : fmt = 32
  · subst f32; cases hs
    rw [if_pos rfl] at h; cases h
    exact ⟨rfl, rfl⟩
  rw [if_neg f32] at h
  have := hge f11
  split at h
  · exact keepVar src _ ⟨hl, h0⟩ (by omega) (by omega) h
  · cases h; exact ⟨hl, h0⟩

theorem objKids_eq_expectKids (f g : Nat → Option Tree) (links : List Link) (b : Array Nat) (off : Nat) :
    ∀ ps : List Nat, (∀ pos ∈ ps, ∃ t, linkAt links pos = some t ∧ f t = expectKid g b off pos) →
      objKids f links ps = expectKids g b off ps
  | [], _ => rfl
  | pos :: rest, h => by
    obtain ⟨t, hl, ht⟩ := h pos (by simp)
    simp only [objKids, expectKids, hl, ht,
      objKids_eq_expectKids f g links b off rest fun q hq => h q (List.mem_cons_of_mem _ hq)]

/-- what is known about the packed object `i` that stands for the source paint at `c` -/
def PaintAt (p : PlanIn) (b : Array Nat) (fuel c i : Nat) (pk : List Obj) : Prop :=
  i < pk.length ∧ objTree pk fuel i = expectTree p b fuel c

theorem PaintAt.mono_left {p : PlanIn} {b : Array Nat} {fuel c i : Nat} {pk pk' : List Obj}
    (h : PaintAt p b fuel c i pk) (e : pk <+: pk') (wf : WF pk) : PaintAt p b fuel c i pk' :=
  ⟨Nat.lt_of_lt_of_le h.1 e.length_le, by rw [objTree_prefix e wf fuel i h.1]; exact h.2⟩

theorem PaintAt.mono {p : PlanIn} {b : Array Nat} {fuel c i : Nat} {pk pk' : List Obj}
    (h : PaintAt p b fuel c i pk) (e : pk <+: pk') (wf : WF pk') : PaintAt p b fuel c i pk' :=
  h.mono_left e (WF.of_prefix e wf)

theorem colorLineObj_leaf (b : Array Nat) (p : PlanIn) (off : Nat) (isVar : Bool) (o : Obj)
    (h : colorLineObj b p off isVar = .ok o) : o.links = [] := by
  unfold colorLineObj at h
  split at h
  · rename_i ext n _ _
    by_cases hc : off + 3 + n * (if isVar = true then 10 else 6) > b.size
    · rw [if_pos hc] at h; cases h
    · rw [if_neg hc] at h
      obtain ⟨stops, _, h⟩ := Do.bind_ok h
      simp only [pure, Except.pure] at h
      cases h; rfl
  · cases h

theorem blobObj_leaf (b : Array Nat) (p : PlanIn) (off pos : Nat) (kind : Blob) (o : Obj)
    (h : blobObj b p off pos kind = .ok o) : o.links = [] := by
  unfold blobObj at h
  split at h
  · cases h
  · cases kind with
    | line isVar => exact colorLineObj_leaf _ _ _ _ _ h
    | affine isVar =>
      simp only [] at h
      split at h
      · cases h
      · split at h
        · obtain ⟨a', _, h⟩ := Do.bind_ok h
          simp only [pure, Except.pure] at h
          cases h; rfl
        · simp only [pure, Except.pure] at h
          cases h; rfl

theorem toOpt_ok {α} (a : α) : toOpt (Except.ok a : R α) = some a := rfl

theorem packBlob_spec (b : Array Nat) (p : PlanIn) (off : Nat) (spec : Option (Nat × Blob))
    (pk : List Obj) (ls : List Link) (pk' : List Obj)
    (h : packBlob b p off spec pk = .ok (ls, pk')) (wf : WF pk) :
    WF pk' ∧ pk <+: pk' ∧ ∃ bts,
      ls = List.zipWith (fun pos t => ⟨pos, 3, t⟩) (match spec with | some (pos, _) => [pos] | none => []) bts ∧
      (∀ t ∈ bts, t < pk'.length) ∧
      ∀ links pk2, pk' <+: pk2 → (∀ l ∈ ls, linkAt links l.pos = some l.target) →
        objBlob pk2 links spec = expectBlob p b off spec := by
  unfold packBlob at h
  cases spec with
  | none =>
    simp only [pure, Except.pure] at h
    cases h
    exact ⟨wf, List.prefix_refl _, [], rfl, by simp, fun _ _ _ _ => rfl⟩
  | some pk0 =>
    obtain ⟨pos, kind⟩ := pk0
    simp only [] at h
    obtain ⟨o, hobj, h⟩ := Do.bind_ok h
    obtain ⟨⟨ib, pk2⟩, hpack, h⟩ := Do.bind_ok h
    simp only [pure, Except.pure] at h
    cases h
    obtain ⟨wf2, e2, hget⟩ := packChild_spec pk o ib pk' hpack wf (ObjOk.leaf (blobObj_leaf _ _ _ _ _ _ hobj) _)
    have hib : ib < pk'.length := (List.getElem?_eq_some_iff.mp hget).1
    refine ⟨wf2, e2, [ib], rfl, by simpa using hib, fun links pk2 e hl => ?_⟩
    simp only [objBlob, expectBlob, hl ⟨pos, 3, ib⟩ (by simp), prefix_getElem? e hib, hget, hobj, toOpt_ok,
      Option.map_some]

/-- **The object graph built for a paint unfolds to the renamed source graph.** -/
theorem subsetPaint_spec (p : PlanIn) (b : Array Nat) :
    ∀ (fuel off : Nat) (pk : List Obj) (o : Obj) (pk1 : List Obj),
      subsetPaint b p fuel off pk = .ok (o, pk1) → WF pk →
      WF pk1 ∧ pk <+: pk1 ∧ ObjOk o pk1.length ∧
      ∀ pk2 i, pk1 <+: pk2 → WF pk2 → pk2[i]? = some o → PaintAt p b fuel off i pk2 := by
  intro fuel
  induction fuel with
  | zero => intro off pk o pk1 h _; simp [subsetPaint, throw, throwThe, MonadExceptOf.throw] at h
  | succ fuel IH =>
    intro off pk o pk1 h wf
    simp only [subsetPaint] at h
    split at h
    · cases h
    rename_i fmt hfmt
    split at h
    · cases h
    rename_i size hsize
    split at h
    · cases h
    rename_i src hsrc
    obtain ⟨bytes, hren, h⟩ := Do.bind_ok h
    obtain ⟨⟨klinks, pkk⟩, hkids, h⟩ := Do.bind_ok h
    obtain ⟨⟨blinks, pkb⟩, hblob, h⟩ := Do.bind_ok h
    simp only [pure, Except.pure] at h
    cases h
    have hsz3 := HandColr.paintSize_ge hsize
    obtain ⟨hbl, hb0⟩ := renameNode_spec p fmt size src bytes hren hsize (sl_length hsrc)
      (sl_getD0 hsrc (by omega) hfmt)
    obtain ⟨hpair, hpos⟩ := positions_ok hsize
    unfold packKids at hkids
    obtain ⟨⟨ts, pkk'⟩, heach, hk2⟩ := Do.bind_ok hkids
    simp only [pure, Except.pure] at hk2
    cases hk2
    obtain ⟨wfk, ek, hlen, hall⟩ := packEach_spec (kidBuild (subsetPaint b p fuel) b off)
      (fun pos i pk => ∃ c, resolveOff b 3 off pos = some c ∧ paintOk b c = true ∧ PaintAt p b fuel c i pk)
      (kidPositions fmt) pk ts pkk
      (by
        intro pos _ pk0 o0 pk01 hb0' wf0
        unfold kidBuild at hb0'
        split at hb0'
        · cases hb0'
        rename_i c hc
        split at hb0'
        · cases hb0'
        rename_i hpo
        obtain ⟨w1, e1, ok1, hP⟩ := IH c pk0 o0 pk01 hb0' wf0
        refine ⟨w1, e1, ok1, fun pk2 i e2 w2 hg => ⟨c, hc, by simpa using hpo, hP pk2 i e2 w2 hg⟩⟩)
      heach wf
    obtain ⟨wfb, eb, bts, rfl, hbt, hblobeq⟩ := packBlob_spec b p off (blobOf fmt) pkk blinks pk1 hblob wfk
    -- the links of the object are the offset fields of the format, child paints first
    have hok : ObjOk ⟨bytes, List.zipWith (fun pos t => ⟨pos, 3, t⟩) (kidPositions fmt) ts ++
        List.zipWith (fun pos t => ⟨pos, 3, t⟩) (match blobOf fmt with | some (pos, _) => [pos] | none => []) bts⟩
        pk1.length := by
      rw [← List.zipWith_append hlen.symm]
      refine objOk_zipLinks bytes hpair (fun q hq => by rw [hbl]; exact hpos q hq) fun t ht => ?_
      rcases List.mem_append.mp ht with ht | ht
      · obtain ⟨k, hk, rfl⟩ := List.getElem_of_mem ht
        exact Nat.lt_of_lt_of_le (hall k (hlen ▸ hk) hk).1 eb.length_le
      · exact hbt t ht
    -- so each of them is found at its position
    have hat := fun l hl => linkAt_of_mem hok.2.2 (l := l)
      (fun l hl => by
        rcases List.mem_append.mp hl with hl | hl <;> rw [width_zipLinks hl] <;> decide) hl
    refine ⟨wfb, ek.trans eb, hok, fun pk2 i e2 wf2 hget => ⟨(List.getElem?_eq_some_iff.mp hget).1, ?_⟩⟩
    have hk := objKids_eq_expectKids (objTree pk2 fuel) (expectTree p b fuel) _ b off (kidPositions fmt)
      fun pos hpos => by
        obtain ⟨k, hk, rfl⟩ := List.getElem_of_mem hpos
        obtain ⟨_, c, hc, hpo, hpa⟩ := hall k hk (hlen ▸ hk)
        refine ⟨ts[k]'(hlen ▸ hk), hat ⟨_, 3, _⟩ (List.mem_append_left _ (List.mem_iff_getElem.mpr
          ⟨k, by rw [List.length_zipWith]; omega, List.getElem_zipWith⟩)), ?_⟩
        rw [(hpa.mono (eb.trans e2) wf2).2]
        unfold expectKid
        rw [hc]
        simp [hpo]
    rw [objTree_succ fuel hget]
    simp only [hb0, hk, hblobeq _ pk2 e2 fun l hl => hat l (List.mem_append_right _ hl), expectTree, hfmt, hsize,
      hsrc, hren, toOpt_ok]
    cases expectKids (expectTree p b fuel) b off (kidPositions fmt) <;>
      cases expectBlob p b off (blobOf fmt) <;> rfl

theorem linksAt_eq_zipWith (first stride width : Nat) (ts : List Nat) :
    linksAt first stride width ts =
      List.zipWith (fun pos t => ⟨pos, width, t⟩) ((List.range ts.length).map fun k => first + k * stride) ts := by
  apply List.ext_getElem
  · simp [linksAt]
  · intro k h1 h2; simp [linksAt]

theorem pairwise_strided (first : Nat) {stride width : Nat} (n : Nat) (hw : width ≤ stride) :
    ((List.range n).map fun k => first + k * stride).Pairwise fun a b => a + width ≤ b := by
  rw [List.pairwise_map]
  refine List.pairwise_lt_range.imp fun {i j} hij => ?_
  have : (i + 1) * stride ≤ j * stride := Nat.mul_le_mul_right _ hij
  rw [Nat.succ_mul] at this
  omega

theorem mem_strided {first stride n q : Nat} (h : q ∈ (List.range n).map fun k => first + k * stride) :
    ∃ k, k < n ∧ q = first + k * stride := by
  obtain ⟨k, hk, rfl⟩ := List.mem_map.mp h
  exact ⟨k, List.mem_range.mp hk, rfl⟩

theorem objOk_linksAt (bytes : List Nat) (first stride width n : Nat) (ts : List Nat) (hw : width ≤ stride)
    (ht : ∀ k (hk : k < ts.length), ts[k] < n) (hin : first + ts.length * stride ≤ bytes.length + (stride - width)) :
    ObjOk ⟨bytes, linksAt first stride width ts⟩ n := by
  rw [linksAt_eq_zipWith]
  refine objOk_zipLinks bytes (pairwise_strided first _ hw) (fun q hq => ?_) fun t h => ?_
  · obtain ⟨k, hk, rfl⟩ := mem_strided hq
    have : (k + 1) * stride ≤ ts.length * stride := Nat.mul_le_mul_right _ hk
    rw [Nat.succ_mul] at this
    omega
  · obtain ⟨k, hk, rfl⟩ := List.getElem_of_mem h
    exact ht k hk

theorem linkAt_linksAt (first stride width : Nat) (ts : List Nat) (hw : 0 < width) (hws : width ≤ stride) (k : Nat)
    (hk : k < ts.length) : linkAt (linksAt first stride width ts) (first + k * stride) = some ts[k] := by
  rw [linksAt_eq_zipWith]
  exact linkAt_of_mem (sorted_zipLinks ts (pairwise_strided first _ hws)) (fun l hl => width_zipLinks hl ▸ hw)
    (l := ⟨first + k * stride, width, ts[k]⟩) (List.mem_iff_getElem.mpr ⟨k, by simp [hk], by simp⟩)

def keptRecs (p : PlanIn) (recs : List (Nat × Nat)) : List (Nat × Nat) :=
  recs.filter fun r => p.colred.contains r.1

def BglFacts (p : PlanIn) (b : Array Nat) (bglOff : Nat) (bglRecs : List (Nat × Nat)) (ob : Obj)
    (pkF : List Obj) : Prop :=
  ob.bytes = beBytes 4 ((keptRecs p bglRecs).length % 4294967296) ++
      (keptRecs p bglRecs).flatMap (fun r => beBytes 2 ((p.glyphMap.lookup r.1).getD 0) ++ [0, 0, 0, 0]) ∧
  ∀ k (hk : k < (keptRecs p bglRecs).length),
    (p.glyphMap.lookup (keptRecs p bglRecs)[k].1).isSome ∧
    ∃ i, linkAt ob.links (6 + k * 6) = some i ∧
      PaintAt p b (paintFuel b) (bglOff + (keptRecs p bglRecs)[k].2) i pkF

theorem BglFacts.mono {p : PlanIn} {b : Array Nat} {off : Nat} {recs : List (Nat × Nat)} {ob : Obj}
    {pk pk' : List Obj} (h : BglFacts p b off recs ob pk) (e : pk <+: pk') (wf : WF pk) :
    BglFacts p b off recs ob pk' :=
  ⟨h.1, fun k hk => (h.2 k hk).imp_right fun ⟨i, h2, h3⟩ => ⟨i, h2, h3.mono_left e wf⟩⟩

theorem baseListObj_spec (b : Array Nat) (p : PlanIn) (off : Nat) (recs : List (Nat × Nat))
    (pk : List Obj) (o : Obj) (pk1 : List Obj)
    (h : baseListObj b p off recs pk = .ok (o, pk1)) (wf : WF pk) :
    WF pk1 ∧ pk <+: pk1 ∧ ObjOk o pk1.length ∧ BglFacts p b off recs o pk1 := by
  unfold baseListObj at h
  simp only [] at h
  obtain ⟨⟨ts, pk'⟩, heach, h⟩ := Do.bind_ok h
  simp only [pure, Except.pure] at h
  cases h
  obtain ⟨wf1, e1, hlen, hall⟩ := packEach_spec (bglBuild b p off)
    (fun (r : Nat × Nat) i pk => (p.glyphMap.lookup r.1).isSome ∧ PaintAt p b (paintFuel b) (off + r.2) i pk)
    (keptRecs p recs) pk ts pk1
    (by
      intro r _ pk0 o0 pk01 hb wf0
      unfold bglBuild at hb
      split at hb
      · cases hb
      rename_i ng hng
      split at hb
      · cases hb
      split at hb
      · cases hb
      obtain ⟨w1, e1, ok1, hP⟩ := subsetPaint_spec p b _ _ pk0 o0 pk01 hb wf0
      exact ⟨w1, e1, ok1, fun pk2 i e2 w2 hg => ⟨by rw [hng]; rfl, hP pk2 i e2 w2 hg⟩⟩)
    heach wf
  have hbytes : (beBytes 4 ((keptRecs p recs).length % 4294967296) ++
      (keptRecs p recs).flatMap (fun (r : Nat × Nat) => beBytes 2 ((p.glyphMap.lookup r.1).getD 0) ++ [0, 0, 0, 0])).length =
      4 + 6 * (keptRecs p recs).length := by
    rw [List.length_append, beBytes_length, flatMap_uniform_length _ 6 _ (by intro x _; simp [beBytes_length])]
  refine ⟨wf1, e1, objOk_linksAt _ 6 6 4 _ ts (by omega) (fun k hk => (hall k (by omega) hk).1)
    (by unfold keptRecs at hbytes hlen; rw [hbytes]; omega), rfl, ?_⟩
  · intro k hk
    obtain ⟨_, h1, h2⟩ := hall k hk (by omega)
    exact ⟨h1, ts[k]'(by omega), linkAt_linksAt 6 6 4 ts (by omega) (by omega) k (by omega), h2⟩

def keptLayers (p : PlanIn) (numLayers : Nat) : List Nat :=
  (List.range numLayers).filter fun i => (p.layers.lookup i).isSome

def LayerFacts (p : PlanIn) (b : Array Nat) (lOff n : Nat) (ol : Obj) (pkF : List Obj) : Prop :=
  ol.bytes = beBytes 4 (p.layers.length % 4294967296) ++ List.replicate (4 * (keptLayers p n).length) 0 ∧
  ∀ k (hk : k < (keptLayers p n).length),
    ∃ c i, resolveOff b 4 lOff (4 + 4 * (keptLayers p n)[k]) = some c ∧ paintOk b c = true ∧
      linkAt ol.links (4 + k * 4) = some i ∧ PaintAt p b (paintFuel b) c i pkF

theorem LayerFacts.mono {p : PlanIn} {b : Array Nat} {off n : Nat} {ol : Obj}
    {pk pk' : List Obj} (h : LayerFacts p b off n ol pk) (e : pk <+: pk') (wf : WF pk) :
    LayerFacts p b off n ol pk' :=
  ⟨h.1, fun k hk => let ⟨c, i, h1, h2, h3, h4⟩ := h.2 k hk; ⟨c, i, h1, h2, h3, h4.mono_left e wf⟩⟩

theorem layerListObj_spec (b : Array Nat) (p : PlanIn) (off numLayers : Nat)
    (pk : List Obj) (o : Obj) (pk1 : List Obj)
    (h : layerListObj b p off numLayers pk = .ok (some (o, pk1))) (wf : WF pk) :
    WF pk1 ∧ pk <+: pk1 ∧ ObjOk o pk1.length ∧ LayerFacts p b off numLayers o pk1 := by
  unfold layerListObj at h
  split at h
  · simp only [pure, Except.pure] at h; cases h
  simp only [] at h
  obtain ⟨⟨ts, pk'⟩, heach, h⟩ := Do.bind_ok h
  simp only [pure, Except.pure] at h
  cases h
  obtain ⟨wf1, e1, hlen, hall⟩ := packEach_spec (layerBuild b p off)
    (fun idx i pk => ∃ c, resolveOff b 4 off (4 + 4 * idx) = some c ∧ paintOk b c = true ∧
      PaintAt p b (paintFuel b) c i pk)
    (keptLayers p numLayers) pk ts pk1
    (by
      intro idx _ pk0 o0 pk01 hb wf0
      unfold layerBuild at hb
      split at hb
      · cases hb
      rename_i c hc
      split at hb
      · cases hb
      rename_i hpo
      obtain ⟨w1, e1, ok1, hP⟩ := subsetPaint_spec p b _ _ pk0 o0 pk01 hb wf0
      exact ⟨w1, e1, ok1, fun pk2 i e2 w2 hg => ⟨c, hc, by simpa using hpo, hP pk2 i e2 w2 hg⟩⟩)
    heach wf
  refine ⟨wf1, e1, objOk_linksAt _ 4 4 4 _ ts (by omega) (fun k hk => (hall k (by omega) hk).1)
    (by unfold keptLayers at hlen; simp only [List.length_append, beBytes_length, List.length_replicate]; omega),
    rfl, ?_⟩
  · intro k hk
    obtain ⟨_, c, h1, h2, h3⟩ := hall k hk (by omega)
    exact ⟨c, ts[k]'(by omega), h1, h2, linkAt_linksAt 4 4 4 ts (by omega) (by omega) k (by omega), h3⟩

theorem serializeV0_spec (b : Array Nat) (h : Header) (p : PlanIn) (toV0 : Bool)
    (hdr : List Nat) (links : List Link) (pk : List Obj)
    (hok : serializeV0 b h p toV0 = .ok (hdr, links, pk)) :
    (∀ o ∈ pk, o.links = []) ∧ (∀ l ∈ links, l.pos = 4 ∨ l.pos = 8) := by
  unfold serializeV0 at hok
  extract_lets hdr0 at hok
  clear_value hdr0
  obtain ⟨_, hok⟩ := ite_throw_ok hok
  by_cases hb0 : h.baseOff = 0
  · rw [if_pos hb0] at hok; cases hok; simp
  rw [if_neg hb0] at hok
  cases hrecs : baseRecords b h with
  | none => rw [hrecs] at hok; cases hok
  | some recs =>
  rw [hrecs] at hok
  simp -zeta only [] at hok
  extract_lets idxs kept at hok
  by_cases hemp : idxs.isEmpty = true
  · rw [if_pos hemp] at hok
    cases toV0 with
    | true => cases hok
    | false => cases hok; simp
  rw [if_neg hemp] at hok
  obtain ⟨⟨rs, total⟩, hgo, hok⟩ := Do.bind_ok hok
  obtain ⟨⟨i, pk1⟩, hp1, hok⟩ := Do.bind_ok hok
  have hl1 := packChild_leaves [] _ i pk1 hp1 (by simp)
  extract_lets hdr1 at hok
  clear_value hdr1
  by_cases ht : total = 0
  · rw [if_pos ht] at hok; cases hok; exact ⟨hl1, by simp⟩
  rw [if_neg ht] at hok
  obtain ⟨_, hok⟩ := ite_throw_ok hok
  cases hlayers : layerRecords b h with
  | none => rw [hlayers] at hok; cases hok
  | some layers =>
  rw [hlayers] at hok
  obtain ⟨lb, hlg, hok⟩ := Do.bind_ok hok
  obtain ⟨⟨j, pk2⟩, hp2, hok⟩ := Do.bind_ok hok
  cases hok
  exact ⟨packChild_leaves _ _ j _ hp2 hl1, by simp⟩

theorem storeObj_spec (st : StoreIn) (innerMaps : List (List Nat)) (pk : List Obj) (o : Obj) (pk1 : List Obj)
    (h : storeObj st innerMaps pk = .ok (some (o, pk1))) (wf : WF pk) :
    WF pk1 ∧ pk <+: pk1 ∧ ObjOk o pk1.length := by
  unfold storeObj at h
  split at h
  · simp only [pure, Except.pure] at h; cases h
  split at h
  · cases h
  rename_i axisCount regions hreg
  obtain ⟨refs, hrefs, h⟩ := Do.bind_ok h
  split at h
  · simp only [pure, Except.pure] at h; cases h
  obtain ⟨out, hout, h⟩ := Do.bind_ok h
  obtain ⟨⟨ts, pk'⟩, heach, h⟩ := Do.bind_ok h
  simp only [pure, Except.pure] at h
  cases h
  obtain ⟨wf1, e1, hlen, hall⟩ := packEach_spec (fun (o : Obj) pk => (pure (o, pk) : R (Obj × List Obj)))
    (fun _ _ _ => True) _ pk ts pk1
    (by
      intro a ha pk0 o0 pk01 hb wf0
      simp only [pure, Except.pure] at hb
      cases hb
      have hleaf : a.links = [] :=
        (List.forall_mem_cons (p := fun o : Obj => o.links = [])).mpr ⟨rfl, List.forall_mem_map.mpr fun _ _ => rfl⟩ a ha
      exact ⟨wf0, List.prefix_refl _, ObjOk.leaf hleaf _, fun _ _ _ _ _ => trivial⟩)
    heach wf
  simp only [List.length_cons, List.length_map] at hlen
  refine ⟨wf1, e1, ?_⟩
  -- the link to the region list at 2, then one link per subtable from 8 on
  obtain ⟨t0, ts', rfl⟩ : ∃ t0 ts', ts = t0 :: ts' := by
    cases ts with
    | nil => simp at hlen
    | cons a l => exact ⟨a, l, rfl⟩
  simp only [List.length_cons, Nat.add_right_cancel_iff] at hlen
  simp only [List.headD_cons, List.tail_cons]
  rw [linksAt_eq_zipWith, ← List.zipWith_cons_cons (f := fun pos t => (⟨pos, 4, t⟩ : Link))]
  refine objOk_zipLinks _ (List.pairwise_cons.mpr ⟨fun q hq => ?_, pairwise_strided 8 _ (Nat.le_refl 4)⟩)
    (fun q hq => ?_) fun t h => ?_
  · obtain ⟨k, _, rfl⟩ := mem_strided hq
    omega
  · simp only [List.length_append, beBytes_length, List.length_cons, List.length_nil, List.length_replicate]
    rcases List.mem_cons.mp hq with rfl | hq
    · omega
    · obtain ⟨k, hk, rfl⟩ := mem_strided hq
      omega
  · obtain ⟨k, hk, rfl⟩ := List.getElem_of_mem h
    exact (hall k (by simp only [List.length_cons, List.length_map]; simp only [List.length_cons] at hk; omega) hk).1

theorem linkTable_spec (r : R (Option (Obj × List Obj))) (pos : Nat) (links : List Link) (pk : List Obj)
    (links' : List Link) (pk' : List Obj) (h : linkTable r pos links pk = .ok (links', pk')) :
    (r = .ok none ∧ links' = links ∧ pk' = pk) ∨
    (∃ o pko i, r = .ok (some (o, pko)) ∧ packChild pko o = .ok (i, pk') ∧ links' = links ++ [⟨pos, 4, i⟩]) := by
  unfold linkTable at h
  obtain ⟨x, hr, h⟩ := Do.bind_ok h
  cases x with
  | none =>
    simp only [pure, Except.pure] at h
    cases h
    exact Or.inl ⟨hr, rfl, rfl⟩
  | some opk =>
    obtain ⟨o, pko⟩ := opk
    simp only [] at h
    obtain ⟨⟨i, pk2⟩, hp, h⟩ := Do.bind_ok h
    simp only [pure, Except.pure] at h
    cases h
    exact Or.inr ⟨o, pko, i, hr, hp, rfl⟩

/-- one optional table of the version 1 part: the packed list grows and at most one link is added, at `pos` -/
structure Grows (pos : Nat) (s s' : List Link × List Obj) : Prop where
  pre : s.2 <+: s'.2
  links : s'.1 = s.1 ∨ ∃ i, s'.1 = s.1 ++ [⟨pos, 4, i⟩]

theorem Grows.refl (pos : Nat) (s : List Link × List Obj) : Grows pos s s := ⟨List.prefix_refl _, Or.inl rfl⟩

theorem Grows.linkAt {pos q : Nat} {s s' : List Link × List Obj} (h : Grows pos s s') (hq : pos ≠ q) :
    linkAt s'.1 q = linkAt s.1 q := by
  rcases h.links with e | ⟨i, e⟩
  · rw [e]
  · rw [e, linkAt_snoc_ne _ _ _ _ hq]

theorem linkTable_grows {r : R (Option (Obj × List Obj))} {pos : Nat} {links : List Link} {pk : List Obj}
    {s' : List Link × List Obj} (h : linkTable r pos links pk = .ok s')
    (hr : ∀ o pko, r = .ok (some (o, pko)) → pk <+: pko) : Grows pos (links, pk) s' := by
  obtain ⟨links', pk'⟩ := s'
  rcases linkTable_spec _ _ _ _ _ _ h with ⟨_, rfl, rfl⟩ | ⟨o, pko, i, hr', hp, rfl⟩
  · exact Grows.refl _ _
  · exact ⟨(hr o pko hr').trans (packChild_prefix _ _ _ _ hp).1, Or.inr ⟨i, rfl⟩⟩

/-- a table whose object is well formed and comes with a fact `Q` that later packing does not disturb: the packed list
stays well formed, and the object, if there is one, is packed and linked at `pos`, where `Q` still holds -/
theorem linkTable_step {Q : Obj → List Obj → Prop} (hQ : ∀ o pk pk', Q o pk → pk <+: pk' → WF pk → Q o pk')
    {r : R (Option (Obj × List Obj))} {pos : Nat} {links : List Link} {pk : List Obj}
    {s' : List Link × List Obj} (h : linkTable r pos links pk = .ok s') (wf : WF pk)
    (hr : ∀ o pko, r = .ok (some (o, pko)) → WF pko ∧ pk <+: pko ∧ ObjOk o pko.length ∧ Q o pko) :
    Grows pos (links, pk) s' ∧ WF s'.2 ∧
    (r = .ok none ∨ ∃ o pko i, r = .ok (some (o, pko)) ∧ s'.2[i]? = some o ∧ Q o s'.2 ∧
      (linkAt links pos = none → linkAt s'.1 pos = some i)) := by
  obtain ⟨links', pk'⟩ := s'
  rcases linkTable_spec _ _ _ _ _ _ h with ⟨hn, rfl, rfl⟩ | ⟨o, pko, i, hr', hp, rfl⟩
  · exact ⟨Grows.refl _ _, wf, Or.inl hn⟩
  · obtain ⟨w, e, ok, q⟩ := hr o pko hr'
    obtain ⟨w2, e2, hg⟩ := packChild_spec _ _ _ _ hp w ok
    exact ⟨⟨e.trans e2, Or.inr ⟨i, rfl⟩⟩, w2,
      Or.inr ⟨o, pko, i, hr', hg, hQ o pko pk' q e2 w, linkAt_snoc_same _ _ _ _⟩⟩

theorem clipListObj_prefix (b : Array Nat) (p : PlanIn) (off : Nat) (clips : List (Nat × Nat × Nat))
    (pk : List Obj) (o : Obj) (pk1 : List Obj) (h : clipListObj b p off clips pk = .ok (some (o, pk1))) :
    pk <+: pk1 := by
  unfold clipListObj at h
  split at h
  · simp only [pure, Except.pure] at h; cases h
  simp only [] at h
  split at h
  · cases h
  obtain ⟨⟨ts, pk'⟩, heach, h⟩ := Do.bind_ok h
  simp only [pure, Except.pure] at h
  cases h
  exact packEach_prefix _ (by
    intro a pk0 o0 pk01 hb
    obtain ⟨bo, _, hb⟩ := Do.bind_ok hb
    simp only [pure, Except.pure] at hb
    cases hb
    exact List.prefix_refl _) _ _ _ _ heach

theorem v1Tables_spec (b : Array Nat) (p : PlanIn) (bglOff : Nat) (bglRecs : List (Nat × Nat))
    (lOff cOff mOff sOff : Nat) (links : List Link) (pk : List Obj) (links' : List Link) (pkF : List Obj)
    (h : v1Tables b p bglOff bglRecs lOff cOff mOff sOff links pk = .ok (links', pkF))
    (wf : WF pk) (hlinks : ∀ l ∈ links, l.pos = 4 ∨ l.pos = 8) :
    (∃ ib ob, linkAt links' 14 = some ib ∧ pkF[ib]? = some ob ∧ BglFacts p b bglOff bglRecs ob pkF) ∧
    (lOff ≠ 0 → p.layers ≠ [] →
      ∃ n il ol, rd 4 b lOff = some n ∧ linkAt links' 18 = some il ∧ pkF[il]? = some ol ∧
        LayerFacts p b lOff n ol pkF) := by
  unfold v1Tables at h
  obtain ⟨s1, hs1, h⟩ := Do.bind_ok h
  obtain ⟨s2, hs2, h⟩ := Do.bind_ok h
  obtain ⟨s3, hs3, h⟩ := Do.bind_ok h
  obtain ⟨s4, hs4, h⟩ := Do.bind_ok h
  have free : ∀ q, q ≠ 4 → q ≠ 8 → linkAt links q = none := fun q h4 h8 =>
    linkAt_none fun l hl e => by rcases hlinks l hl with h | h <;> omega
  have st1 : Grows 30 (links, pk) s1 ∧ WF s1.2 := by
    by_cases hs0 : sOff = 0
    · rw [if_pos hs0] at hs1; cases hs1; exact ⟨Grows.refl _ _, wf⟩
    rw [if_neg hs0] at hs1
    cases hst : readStore b sOff with
    | none => rw [hst] at hs1; cases hs1
    | some st =>
      rw [hst] at hs1
      obtain ⟨g, w, _⟩ := linkTable_step (Q := fun _ _ => True) (fun _ _ _ _ _ _ => trivial) hs1 wf fun o pko hr => by
        obtain ⟨a, e, ok⟩ := storeObj_spec _ _ _ _ _ hr wf
        exact ⟨a, e, ok, trivial⟩
      exact ⟨g, w⟩
  obtain ⟨g1, wf1⟩ := st1
  obtain ⟨g2, wf2, hb⟩ := linkTable_step (Q := BglFacts p b bglOff bglRecs) (fun _ _ _ h => h.mono) hs2 wf1
    fun o pko hr => by
      obtain ⟨v, hbl, hv⟩ := Do.map_ok hr
      cases hv
      exact baseListObj_spec _ _ _ _ _ _ _ hbl wf1
  obtain ⟨ob, _, ib, _, hgetb, fb, hlab⟩ :=
    hb.resolve_left fun hn => by obtain ⟨v, _, hv⟩ := Do.map_ok hn; cases hv
  have hlab := hlab (by rw [g1.linkAt (by omega)]; exact free 14 (by omega) (by omega))
  have st3 : Grows 18 s2 s3 ∧ WF s3.2 ∧ (lOff ≠ 0 → p.layers ≠ [] →
      ∃ n il ol, rd 4 b lOff = some n ∧ linkAt s3.1 18 = some il ∧ s3.2[il]? = some ol ∧
        LayerFacts p b lOff n ol s3.2) := by
    by_cases hl0 : lOff = 0
    · rw [if_pos hl0] at hs3; cases hs3; exact ⟨Grows.refl _ _, wf2, fun hne => absurd hl0 hne⟩
    rw [if_neg hl0] at hs3
    obtain ⟨_, hs3⟩ := ite_throw_ok hs3
    cases hn : rd 4 b lOff with
    | none => rw [hn] at hs3; cases hs3
    | some n =>
      rw [hn] at hs3
      obtain ⟨_, hs3⟩ := ite_throw_ok hs3
      obtain ⟨g, w, hl⟩ := linkTable_step (Q := LayerFacts p b lOff n) (fun _ _ _ h => h.mono) hs3 wf2
        fun o pko hr => layerListObj_spec _ _ _ _ _ _ _ hr wf2
      refine ⟨g, w, fun _ hne => ?_⟩
      rcases hl with hr | ⟨ol, _, il, _, hget, hf, hla⟩
      · -- layers are retained, so the LayerList is written
        unfold layerListObj at hr
        rw [if_neg (by simpa using hne)] at hr
        obtain ⟨tp, _, hr⟩ := Do.bind_ok hr
        cases hr
      · exact ⟨n, il, ol, rfl, hla (by
          rw [g2.linkAt (by omega), g1.linkAt (by omega)]; exact free 18 (by omega) (by omega)), hget, hf⟩
  obtain ⟨g3, wf3, hlayer⟩ := st3
  have g4 : Grows 22 s3 s4 := by
    by_cases hc0 : cOff = 0
    · rw [if_pos hc0] at hs4; cases hs4; exact Grows.refl _ _
    rw [if_neg hc0] at hs4
    obtain ⟨_, hs4⟩ := ite_throw_ok hs4
    cases hclips : clipRecords b cOff with
    | none => rw [hclips] at hs4; cases hs4
    | some clips =>
      rw [hclips] at hs4
      exact linkTable_grows hs4 fun o pko hr => clipListObj_prefix _ _ _ _ _ _ _ hr
  have g5 : Grows 26 s4 (links', pkF) := by
    split at h
    · cases h; exact Grows.refl _ _
    · split at h
      · cases h
      · cases h; exact Grows.refl _ _
      · refine linkTable_grows h fun o pko hr => ?_
        obtain ⟨mp, _, hr⟩ := Do.bind_ok hr
        cases mp with
        | none => cases hr
        | some mp' =>
          obtain ⟨mo, _, hr⟩ := Do.bind_ok hr
          cases hr
          exact List.prefix_refl _
  have e35 : s3.2 <+: pkF := g4.pre.trans g5.pre
  constructor
  · refine ⟨ib, ob, ?_, ?_, fb.mono (g3.pre.trans e35) wf2⟩
    · rw [g5.linkAt (by omega), g4.linkAt (by omega), g3.linkAt (by omega)]; exact hlab
    · rw [prefix_getElem? (g3.pre.trans e35) (List.getElem?_eq_some_iff.mp hgetb).1]; exact hgetb
  · intro hl0 hne
    obtain ⟨n, il, ol, hn, hla, hget, hf⟩ := hlayer hl0 hne
    refine ⟨n, il, ol, hn, ?_, ?_, hf.mono e35 wf3⟩
    · rw [g5.linkAt (by omega), g4.linkAt (by omega)]; exact hla
    · rw [prefix_getElem? e35 (List.getElem?_eq_some_iff.mp hget).1]; exact hget

/-- the COLRv1 part of a successful `Colr::subset` run that keeps a COLRv1 glyph -/
theorem colrObjects_v1 (b : Array Nat) (p : PlanIn) (packed : List Obj) (root : Obj)
    (h : colrObjects b p = .ok (packed, root))
    (hd : Header) (hhd : readHeader b = some hd)
    (bglOff lOff cOff mOff sOff : Nat) (hv1 : hd.v1 = some (bglOff, lOff, cOff, mOff, sOff))
    (bglRecs : List (Nat × Nat)) (hoff : bglOff ≠ 0) (hrecs : baseGlyphPaintRecords b bglOff = some bglRecs)
    (hkeep : (bglRecs.any fun r => p.colred.contains r.1) = true) :
    (∃ ib ob, linkAt root.links 14 = some ib ∧ packed[ib]? = some ob ∧
      BglFacts p b bglOff bglRecs ob packed) ∧
    (lOff ≠ 0 → p.layers ≠ [] →
      ∃ n il ol, rd 4 b lOff = some n ∧ linkAt root.links 18 = some il ∧ packed[il]? = some ol ∧
        LayerFacts p b lOff n ol packed) := by
  unfold colrObjects at h
  rw [hhd] at h
  simp only [] at h
  obtain ⟨bgl, hbgl, h⟩ := Do.bind_ok h
  have hbgl' : bgl = some (bglOff, bglRecs) := by
    unfold readBaseGlyphList at hbgl
    rw [hv1] at hbgl
    simp only [] at hbgl
    rw [if_neg hoff] at hbgl
    split at hbgl
    · cases hbgl
    · rw [hrecs] at hbgl
      simp only [pure, Except.pure] at hbgl
      cases hbgl; rfl
  subst hbgl'
  have htov0 : downgradeToV0 p (some (bglOff, bglRecs)) = false := by
    simp only [downgradeToV0, hkeep, Bool.not_true]
  rw [htov0] at h
  obtain ⟨⟨hdr, links0, pk0⟩, hv0, h⟩ := Do.bind_ok h
  simp only [Bool.false_eq_true, if_false, hv1] at h
  obtain ⟨⟨links', pkF⟩, hv1t, h⟩ := Do.bind_ok h
  simp only [pure, Except.pure] at h
  cases h
  obtain ⟨hleaves, hpos⟩ := serializeV0_spec _ _ _ _ _ _ _ hv0
  exact v1Tables_spec b p bglOff bglRecs lOff cOff mOff sOff links0 pk0 links' packed hv1t
    (WF_of_leaves _ hleaves) hpos

def layersBefore (kept : List (Nat × Nat × Nat)) (k : Nat) : Nat := ((kept.take k).map (·.2.2)).sum

theorem layersBefore_zero (kept : List (Nat × Nat × Nat)) : layersBefore kept 0 = 0 := rfl

theorem layersBefore_cons_succ (g f n : Nat) (rest : List (Nat × Nat × Nat)) (k : Nat) :
    layersBefore ((g, f, n) :: rest) (k + 1) = n + layersBefore rest k := by
  simp [layersBefore, List.take_succ_cons]

theorem baseRecordsGo_spec (p : PlanIn) :
    ∀ (kept : List (Nat × Nat × Nat)) (total : Nat) (rs : List (Nat × Nat × Nat)) (t : Nat),
      baseRecordsGo p kept total = .ok (rs, t) →
      rs.length = kept.length ∧ t = total + layersBefore kept kept.length ∧
      ∀ k (hk : k < kept.length) (hk' : k < rs.length),
        p.glyphMap.lookup kept[k].1 = some rs[k].1 ∧ rs[k].2.1 = total + layersBefore kept k ∧
        rs[k].2.2 = kept[k].2.2 := by
  intro kept
  induction kept with
  | nil =>
    intro total rs t h
    simp only [baseRecordsGo, pure, Except.pure] at h
    cases h
    exact ⟨rfl, rfl, fun k hk => absurd hk (by simp)⟩
  | cons x rest ih =>
    intro total rs t h
    obtain ⟨g, f, n⟩ := x
    simp only [baseRecordsGo] at h
    split at h
    · cases h
    rename_i ng hng
    split at h
    · cases h
    rename_i hfit
    obtain ⟨⟨rs', t'⟩, hrest, h⟩ := Do.bind_ok h
    simp only [pure, Except.pure] at h
    cases h
    obtain ⟨hl, ht, hall⟩ := ih (total + n) rs' t hrest
    refine ⟨by simp [hl], by rw [ht, List.length_cons, layersBefore_cons_succ, Nat.add_assoc], ?_⟩
    intro k hk hk'
    cases k with
    | zero => exact ⟨hng, rfl, rfl⟩
    | succ k =>
      obtain ⟨a, b', c⟩ := hall k (by simpa using hk) (by simpa using hk')
      exact ⟨a, by rw [layersBefore_cons_succ, ← Nat.add_assoc]; exact b', c⟩

theorem layerRange_spec (p : PlanIn) (layers : List (Nat × Nat)) :
    ∀ (n f : Nat) (r : List (Nat × Nat)), layerRange p layers f n = .ok r →
      r.length = n ∧ ∀ j (hj' : j < r.length), ∃ g pi, layers[f + j]? = some (g, pi) ∧
        p.glyphMap.lookup g = some r[j].1 ∧ p.palettes.lookup pi = some r[j].2 := by
  intro n
  induction n with
  | zero =>
    intro f r h
    simp only [layerRange, pure, Except.pure] at h
    cases h
    exact ⟨rfl, fun j hj => absurd hj (by simp)⟩
  | succ n ih =>
    intro f r h
    simp only [layerRange] at h
    split at h
    · cases h
    rename_i g pi hget
    split at h
    · rename_i ng npi hng hnpi
      obtain ⟨r', hrest, h⟩ := Do.bind_ok h
      simp only [pure, Except.pure] at h
      cases h
      obtain ⟨hl, hall⟩ := ih (f + 1) r' hrest
      refine ⟨by simp [hl], ?_⟩
      intro j hj'
      cases j with
      | zero => exact ⟨g, pi, by simpa using hget, by simpa using hng, by simpa using hnpi⟩
      | succ j =>
        obtain ⟨g', pi', h1, h2, h3⟩ := hall j (by simpa using hj')
        exact ⟨g', pi', by rw [← h1]; congr 1; omega, by simpa using h2, by simpa using h3⟩
    · cases h

theorem layersGo_spec (p : PlanIn) (layers : List (Nat × Nat)) :
    ∀ (kept : List (Nat × Nat × Nat)) (lb : List (Nat × Nat)), layersGo p layers kept = .ok lb →
      lb.length = layersBefore kept kept.length ∧
      ∀ k (hk : k < kept.length), ∃ r, layerRange p layers kept[k].2.1 kept[k].2.2 = .ok r ∧
        (lb.drop (layersBefore kept k)).take kept[k].2.2 = r := by
  intro kept
  induction kept with
  | nil =>
    intro lb h
    simp only [layersGo, pure, Except.pure] at h
    cases h
    exact ⟨rfl, fun k hk => absurd hk (by simp)⟩
  | cons x rest ih =>
    intro lb h
    obtain ⟨g, f, n⟩ := x
    simp only [layersGo] at h
    obtain ⟨a, ha, h⟩ := Do.bind_ok h
    obtain ⟨r', hrest, h⟩ := Do.bind_ok h
    simp only [pure, Except.pure] at h
    cases h
    obtain ⟨hal, _⟩ := layerRange_spec p layers n f a ha
    obtain ⟨hl, hall⟩ := ih r' hrest
    refine ⟨by rw [List.length_append, hl, hal, List.length_cons, layersBefore_cons_succ], ?_⟩
    intro k hk
    cases k with
    | zero => exact ⟨a, ha, by rw [layersBefore_zero, List.drop_zero]; exact hal ▸ List.take_left' rfl⟩
    | succ k =>
      obtain ⟨r, hr, hdt⟩ := hall k (by simpa using hk)
      exact ⟨r, hr, by rw [layersBefore_cons_succ, ← hal, drop_append_len]; exact hdt⟩

end FontVerif.SubsetColr
