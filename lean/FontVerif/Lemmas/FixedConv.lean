/-
The float conversions of Model/FixedConv.lean in exact integer arithmetic.  A finite float `±m · 2^e` is the fraction
`num / den`; `from_fN` is `fromFloatSpec`: the scaled fraction rounded half away from zero (the model's
`roundHalfAway`), clamped; `to_fN` is exact, and a float that is a whole number of units (`ScaledInt`) converts to it.
-/
import FontVerif.Model.FixedConv
import FontVerif.Lemmas.Ieee
import FontVerif.Lemmas.Round
namespace FontVerif.FixedConv
open FontVerif.Ieee

theorem int_two_pow (n : Nat) : (2 : Int) ^ n = ((2 ^ n : Nat) : Int) := by
  simp [Int.natCast_pow]

theorem int_pow_pos (n : Nat) : (0 : Int) < 2 ^ n := by
  rw [int_two_pow]; exact Int.ofNat_lt.mpr (two_pow_pos _)

theorem sgn_natAbs (q : Int) : (if q < 0 then (-1 : Int) else 1) * (q.natAbs : Int) = q := by
  split <;> omega

/-- the same with the `decide` that `ofInt` and `add` produce. -/
theorem sgn_natAbs_decide (A : Int) : (if decide (A < 0) = true then (-1 : Int) else 1) * (A.natAbs : Int) = A := by
  simpa using sgn_natAbs A

theorem neg_tr (tr : Int) : (if (!decide (tr < 0)) = true then (-1 : Int) else 1) * (tr.natAbs : Int) = -tr := by
  by_cases h : tr < 0 <;> simp [h] <;> omega

theorem neg_tr_mul (tr G : Int) :
    (if (!decide (tr < 0)) = true then (-1 : Int) else 1) * ((tr.natAbs : Int) * G) = -(tr * G) := by
  rw [← Int.mul_assoc, neg_tr, Int.neg_mul]

theorem mul_pos_le_zero_iff (A P : Int) (hP : 0 < P) : A * P ≤ 0 ↔ A ≤ 0 := by
  constructor
  · intro h
    apply Classical.byContradiction; intro hc
    have : 1 * P ≤ A * P := Int.mul_le_mul_of_nonneg_right (by omega) (by omega)
    omega
  · intro h
    exact Int.mul_nonpos_of_nonpos_of_nonneg h (by omega)

def clampI (lo hi v : Int) : Int := if v < lo then lo else if v > hi then hi else v

theorem clampI_id (lo hi v : Int) (h : lo ≤ v ∧ v ≤ hi) : clampI lo hi v = v := by
  unfold clampI; repeat' split
  all_goals omega

theorem clampI_of_ge (lo hi v : Int) (hlh : lo ≤ hi) (h : hi ≤ v) : clampI lo hi v = hi := by
  unfold clampI; split <;> (try split) <;> omega

theorem clampI_of_le (lo hi v : Int) (hlh : lo ≤ hi) (h : v ≤ lo) : clampI lo hi v = lo := by
  unfold clampI; split <;> (try split) <;> omega

theorem clampI_cases (lo hi v : Int) (h : lo ≤ hi) :
    (v < lo ∧ clampI lo hi v = lo) ∨ (hi < v ∧ clampI lo hi v = hi) ∨
      (lo ≤ v ∧ v ≤ hi ∧ clampI lo hi v = v) := by
  unfold clampI; split <;> (try split) <;> omega

theorem clampI_range (lo hi v : Int) (h : lo ≤ hi) : lo ≤ clampI lo hi v ∧ clampI lo hi v ≤ hi := by
  unfold clampI; repeat' split
  all_goals omega

theorem clampI_mono (lo hi a b : Int) (h : a ≤ b) (hlh : lo ≤ hi) : clampI lo hi a ≤ clampI lo hi b := by
  unfold clampI; repeat' split
  all_goals omega

theorem clampI_big (lo hi P T : Int) (hhi : hi < P) (hlo : -P ≤ lo) (hlh : lo ≤ 0 ∧ 0 ≤ hi) (sg : Bool)
    (hT : P ≤ T) : clampI lo hi ((if sg then -1 else 1) * T) = if sg then lo else hi := by
  cases sg
  · rw [if_neg (by decide), if_neg (by decide), Int.one_mul, clampI_of_ge _ _ _ (by omega) (by omega)]
  · rw [if_pos rfl, if_pos rfl, clampI_of_le _ _ _ (by omega) (by omega)]

/-- a finite float `±m · 2^e` as a fraction `num / den`: one shape for every exponent. -/
def num (s : Bool) (m : Nat) (e : Int) : Int := (if s then -1 else 1) * ((m : Int) * 2 ^ e.toNat)
def den (e : Int) : Int := 2 ^ (-e).toNat

theorem den_pos (e : Int) : 0 < den e := int_pow_pos _

theorem den_of_nonneg {e : Int} (h : 0 ≤ e) : den e = 1 := by
  unfold den; rw [show (-e).toNat = 0 by omega]; rfl

theorem num_zero (s : Bool) (e : Int) : num s 0 e = 0 := by simp [num]

theorem roundHalfAway_num (s : Bool) (m : Nat) (e : Int) :
    roundHalfAway (num s m e) (den e) =
      (if s then -1 else 1) * (((m : Int) * 2 ^ e.toNat + den e / 2) / den e) := by
  have hX : 0 ≤ (m : Int) * 2 ^ e.toNat :=
    Int.mul_nonneg (Int.natCast_nonneg m) (Int.le_of_lt (int_pow_pos _))
  have := signed_rdiv s hX (den_pos e)
  unfold num
  cases s
  · simpa using this.symm
  · simpa using this.symm

/-- the exact scaled value `x · 2^k` of a finite float as a fraction `num / den`, `den > 0`. -/
def scaledNum (k : Nat) (neg : Bool) (m : Nat) (e : Int) : Int :=
  (if neg then -1 else 1) * (if e + k ≥ 0 then (m : Int) * 2 ^ (e + k).toNat else (m : Int))
def scaledDen (k : Nat) (e : Int) : Int := if e + k ≥ 0 then 1 else 2 ^ (-(e + k)).toNat

theorem scaledNum_eq (k : Nat) (s : Bool) (m : Nat) (e : Int) : scaledNum k s m e = num s m (e + k) := by
  unfold scaledNum num
  by_cases h : e + (k : Int) ≥ 0
  · rw [if_pos h]
  · rw [if_neg h, show (e + (k : Int)).toNat = 0 by omega, Int.pow_zero, Int.mul_one]

theorem scaledDen_eq (k : Nat) (e : Int) : scaledDen k e = den (e + k) := by
  unfold scaledDen
  by_cases h : e + (k : Int) ≥ 0
  · rw [if_pos h, den_of_nonneg h]
  · rw [if_neg h]; rfl

theorem scaledDen_pos (k : Nat) (e : Int) : 0 < scaledDen k e := scaledDen_eq k e ▸ den_pos _

theorem toIntSat_fin (lo hi : Int) (s : Bool) (m : Nat) (e : Int) :
    toIntSat lo hi (.fin s m e) = clampI lo hi ((if s then -1 else 1) *
      (if e ≥ 0 then (m : Int) * 2 ^ e.toNat else (m : Int) / 2 ^ (-e).toNat)) := by
  cases s <;> simp [toIntSat, clampI]

theorem geHalf_roundNE_neg (f : Fmt) (a : Nat) (e : Int) : geHalf (roundNE f true a e) = false := by
  rcases roundNE_shape f true a e with h | ⟨m, e', h⟩ <;> simp [h, geHalf]

theorem leNegHalf_roundNE_pos (f : Fmt) (a : Nat) (e : Int) :
    leNegHalf (roundNE f false a e) = false := by
  rcases roundNE_shape f false a e with h | ⟨m, e', h⟩ <;> simp [h, leNegHalf, geHalf, FVal.neg]

theorem geHalf_rounded (f : Fmt) (b : Bool) (D e0 : Int) (h : D ≤ 0) :
    geHalf (if D = 0 then .fin b 0 0 else roundNE f (decide (D < 0)) D.natAbs e0) = false := by
  split
  · simp [geHalf]
  · rw [show decide (D < 0) = true by simp; omega, geHalf_roundNE_neg]

theorem leNegHalf_rounded (f : Fmt) (b : Bool) (D e0 : Int) (h : 0 ≤ D) :
    leNegHalf (if D = 0 then .fin b 0 0 else roundNE f (decide (D < 0)) D.natAbs e0) = false := by
  split
  · simp [leNegHalf, geHalf, FVal.neg]
  · rw [show decide (D < 0) = false by simp; omega, leNegHalf_roundNE_pos]

theorem exactSum_ge (s : Bool) (m : Nat) (e : Int) (t : Bool) (n : Nat) (he : 0 ≤ e) :
    exactSum s m e t n 0 =
      ((if s then -1 else 1) * ((m : Int) * 2 ^ e.toNat) + (if t then -1 else 1) * (n : Int), 0) := by
  unfold exactSum
  by_cases h0 : e ≤ 0
  · have : e = 0 := by omega
    subst this; simp
  · simp [h0]

theorem exactSum_lt (s : Bool) (m : Nat) (e : Int) (t : Bool) (n : Nat) (he : e < 0) :
    exactSum s m e t n 0 =
      ((if s then -1 else 1) * (m : Int) + (if t then -1 else 1) * ((n : Int) * 2 ^ (-e).toNat), e) := by
  unfold exactSum
  have h0 : e ≤ 0 := by omega
  simp [h0]

theorem exactSum_zero_negk (s : Bool) (m : Nat) (t : Bool) (n : Nat) (k : Nat) :
    exactSum s m 0 t n (-(k : Int)) =
      ((if s then -1 else 1) * ((m : Int) * 2 ^ k) + (if t then -1 else 1) * (n : Int), -(k : Int)) := by
  unfold exactSum
  by_cases h0 : k = 0
  · subst h0; simp
  · simp [h0]

/-- the remainder `scaled - tr as fN` of `fromFloat`, before rounding: sign and exact value. -/
theorem sub_ofInt (f : Fmt) (hp : (f.p : Int) ≤ f.etop) (hemin : f.emin ≤ 0)
    (neg : Bool) (m : Nat) (e : Int) (tr : Int) (htr : tr.natAbs < 2 ^ f.p) :
    sub f (.fin neg m e) (ofInt f tr) =
      (let A := exactSum neg m e (!decide (tr < 0)) tr.natAbs 0
       if A.1 = 0 then .fin (neg && !decide (tr < 0)) 0 0
       else roundNE f (decide (A.1 < 0)) A.1.natAbs A.2) := by
  rw [ofInt_exact f tr hp hemin htr]
  simp only [sub, FVal.neg, add]

theorem mulPow2_overflow (f : Fmt) (neg : Bool) (m : Nat) (e k : Int)
    (hm : m < 2 ^ f.p) (hm0 : m ≠ 0) (he : f.emin ≤ e) (hk : 0 ≤ k)
    (hov : e + k + (bitLen m : Int) > f.etop) :
    mulPow2 f (.fin neg m e) k = .inf neg := by
  rw [mulPow2, roundNE_of_le f neg hm0 (expo_le (bitLen_le_of_lt hm) (by omega)), if_pos hov]

theorem le_fin_scaled (k : Nat) (s : Bool) (m : Nat) (e : Int) (t : Bool) (n : Nat) (g : Int)
    (he : -(k : Int) ≤ e) (hg : -(k : Int) ≤ g) :
    le (.fin s m e) (.fin t n g) = true ↔
      ((if s then -1 else 1) * ((m : Int) * 2 ^ (e + k).toNat)
        ≤ (if t then -1 else 1) * ((n : Int) * 2 ^ (g + k).toNat)) := by
  unfold le
  rw [decide_eq_true_iff]
  unfold exactSum
  simp only []
  generalize he0 : (if e ≤ g then e else g) = e0
  have h1 : e0 ≤ e ∧ e0 ≤ g ∧ -(k : Int) ≤ e0 := by rw [← he0]; split <;> omega
  have x1 : (e + (k : Int)).toNat = (e - e0).toNat + (e0 + k).toNat := by omega
  have x2 : (g + (k : Int)).toNat = (g - e0).toNat + (e0 + k).toNat := by omega
  rw [x1, x2, Int.pow_add, Int.pow_add]
  have hP := int_pow_pos (e0 + (k : Int)).toNat
  generalize (2 : Int) ^ (e0 + (k : Int)).toNat = P at *
  rw [← Int.mul_assoc (m : Int), ← Int.mul_assoc (n : Int)]
  generalize (m : Int) * 2 ^ (e - e0).toNat = X
  generalize (n : Int) * 2 ^ (g - e0).toNat = Y
  have key : (if s = true then (-1 : Int) else 1) * (X * P) - (if t = true then (-1 : Int) else 1) * (Y * P)
      = ((if s = true then (-1 : Int) else 1) * X + (if (!t) = true then (-1 : Int) else 1) * Y) * P := by
    cases s <;> cases t <;> simp [Int.add_mul, Int.neg_mul] <;> omega
  have := mul_pos_le_zero_iff ((if s = true then (-1 : Int) else 1) * X + (if (!t) = true then (-1 : Int) else 1) * Y) P hP
  rw [← key] at this
  constructor
  · intro h; have := this.mpr h; omega
  · intro h; exact this.mp (by omega)

theorem le_fin_iff (s : Bool) (m : Nat) (e : Int) (t : Bool) (n : Nat) (g : Int) :
    le (.fin s m e) (.fin t n g) = true ↔ num s m e * den g ≤ num t n g * den e := by
  -- compare over the common scale `2^(e⁻ + g⁻)`, at which both values are integers
  rw [le_fin_scaled ((-e).toNat + (-g).toNat) s m e t n g (by omega) (by omega),
    show (e + (((-e).toNat + (-g).toNat : Nat) : Int)).toNat = e.toNat + (-g).toNat by omega,
    show (g + (((-e).toNat + (-g).toNat : Nat) : Int)).toNat = g.toNat + (-e).toNat by omega,
    Int.pow_add, Int.pow_add]
  unfold num den
  rw [Int.mul_assoc, Int.mul_assoc, Int.mul_assoc, Int.mul_assoc]

theorem le_shift (k : Int) (s : Bool) (m : Nat) (e : Int) (t : Bool) (n : Nat) (g : Int) :
    le (.fin s m (e + k)) (.fin t n (g + k)) = true ↔ le (.fin s m e) (.fin t n g) = true := by
  unfold le
  rw [decide_eq_true_iff, decide_eq_true_iff]
  unfold exactSum
  simp only []
  have e0 : (if e + k ≤ g + k then e + k else g + k) = (if e ≤ g then e else g) + k := by
    split <;> split <;> omega
  rw [e0]
  generalize (if e ≤ g then e else g) = c
  rw [show e + k - (c + k) = e - c by omega, show g + k - (c + k) = g - c by omega]

/-- sanity conditions on a fixed-point type (all five satisfy them by `decide`): the storage
integers are exactly representable in the float type. -/
structure FxTy.Ok (t : FxTy) : Prop where
  hp : (t.fmt.p : Int) ≤ t.fmt.etop
  hemin : t.fmt.emin ≤ 0
  hlo : t.lo < 0
  hhi : 0 < t.hi
  hloN : (-t.lo).toNat < 2 ^ t.fmt.p
  hhiN : t.hi.toNat < 2 ^ t.fmt.p
  hk : t.fmt.emin ≤ -(t.k : Int)
  hkp : t.k ≤ t.fmt.p

theorem FxTy.Ok.lo_le_hi {t : FxTy} (ok : t.Ok) : t.lo ≤ t.hi := by
  have := ok.hlo; have := ok.hhi; omega

theorem f2dot14_ok : F2Dot14.Ok := by constructor <;> decide

theorem bound_natAbs (t : FxTy) (ok : t.Ok) (v : Int) (h : t.lo ≤ v ∧ v ≤ t.hi) :
    v.natAbs < 2 ^ t.fmt.p := by
  have := ok.hloN; have := ok.hhiN; have := ok.hlo; have := ok.hhi
  omega

theorem satInc_eq_clampI (t : FxTy) (v : Int) (h : t.lo ≤ v ∧ v ≤ t.hi) :
    satInc t v = clampI t.lo t.hi (v + 1) := by
  unfold satInc clampI; split <;> split <;> (try split) <;> omega

theorem satDec_eq_clampI (t : FxTy) (v : Int) (h : t.lo ≤ v ∧ v ≤ t.hi) :
    satDec t v = clampI t.lo t.hi (v - 1) := by
  unfold satDec clampI; split <;> (try split) <;> omega

/-- `from_fN` in exact arithmetic: the scaled value rounded half away from zero, clamped. -/
def fromFloatSpec (t : FxTy) (neg : Bool) (m : Nat) (e : Int) : Int :=
  clampI t.lo t.hi (roundHalfAway (scaledNum t.k neg m e) (scaledDen t.k e))

/-- an exponent of at least `-k`: the scaled value is an integer, nothing is rounded. -/
theorem fromFloatSpec_of_nonneg (t : FxTy) (s : Bool) (m : Nat) {e : Int} (h : 0 ≤ e + (t.k : Int)) :
    fromFloatSpec t s m e = clampI t.lo t.hi (num s m (e + t.k)) := by
  rw [fromFloatSpec, scaledNum_eq, scaledDen_eq, den_of_nonneg h, roundHalfAway_one]

theorem fromFloatSpec_overflow (t : FxTy) (ok : t.Ok) (neg : Bool) (m : Nat) (e : Int)
    (hm : m < 2 ^ t.fmt.p) (hm0 : m ≠ 0)
    (hov : e + (t.k : Int) + (bitLen m : Int) > t.fmt.etop) :
    fromFloatSpec t neg m e = if neg then t.lo else t.hi := by
  obtain ⟨hp, hemin, hlo, hhi, hloN, hhiN, hk, hkp⟩ := ok
  have hL : bitLen m ≤ t.fmt.p := bitLen_le_of_lt hm
  have hge : 0 ≤ e + (t.k : Int) := by omega
  -- the scaled value is the integer `m · 2^E ≥ 2^(bitLen m - 1 + E) ≥ 2^p`
  have h2 : 2 ^ (bitLen m - 1) * 2 ^ (e + (t.k : Int)).toNat ≤ m * 2 ^ (e + (t.k : Int)).toNat :=
    Nat.mul_le_mul_right _ (pow_bitLen_le hm0)
  rw [← Nat.pow_add] at h2
  have h3 : 2 ^ t.fmt.p ≤ 2 ^ (bitLen m - 1 + (e + (t.k : Int)).toNat) :=
    Nat.pow_le_pow_right (by decide) (by omega)
  have h4 : (m : Int) * 2 ^ (e + (t.k : Int)).toNat = ((m * 2 ^ (e + (t.k : Int)).toNat : Nat) : Int) := by
    rw [int_two_pow, Int.natCast_mul]
  rw [fromFloatSpec_of_nonneg t neg m hge, num]
  exact clampI_big _ _ ((2 ^ t.fmt.p : Nat) : Int) _ (by omega) (by omega) (by omega) neg (by omega)

/-- `from_fN` (closed form) is monotone in the float's value: rounding is monotone in the fraction. -/
theorem fromFloatSpec_mono (t : FxTy) (hlh : t.lo ≤ t.hi) (s : Bool) (m : Nat) (e : Int)
    (s' : Bool) (n : Nat) (g : Int) (h : le (.fin s m e) (.fin s' n g) = true) :
    fromFloatSpec t s m e ≤ fromFloatSpec t s' n g := by
  rw [← le_shift t.k, le_fin_iff] at h
  simp only [fromFloatSpec, scaledNum_eq, scaledDen_eq]
  exact clampI_mono _ _ _ _ (roundHalfAway_mono_frac (den_pos _) (den_pos _) h) hlh

/-- the last step of `from_fN`: the truncated value, moved by one when the remainder says so. -/
def adjust (t : FxTy) (rem : FVal) (tr : Int) : Int :=
  if geHalf rem then satInc t tr else if leNegHalf rem then satDec t tr else tr

theorem fromFloat_eq_adjust (t : FxTy) (x : FVal) :
    fromFloat t x = adjust t
      (sub t.fmt (mulPow2 t.fmt x t.k) (ofInt t.fmt (toIntSat t.lo t.hi (mulPow2 t.fmt x t.k))))
      (toIntSat t.lo t.hi (mulPow2 t.fmt x t.k)) := rfl

theorem adjust_fin (t : FxTy) (s : Bool) (r : Nat) (e : Int) (tr : Int) :
    adjust t (.fin s r e) tr =
      if 2 ^ (-e).toNat ≤ 2 * r then (if s then satDec t tr else satInc t tr) else tr := by
  cases s <;> simp [adjust, geHalf, leNegHalf, FVal.neg]

theorem adjust_none (t : FxTy) (rem : FVal) (tr : Int) (h1 : geHalf rem = false)
    (h2 : leNegHalf rem = false) : adjust t rem tr = tr := by
  simp [adjust, h1, h2]

theorem adjust_hi (t : FxTy) (rem : FVal) (h : leNegHalf rem = false) : adjust t rem t.hi = t.hi := by
  have : satInc t t.hi = t.hi := by unfold satInc; split <;> omega
  simp [adjust, this, h]

theorem adjust_lo (t : FxTy) (rem : FVal) (h : geHalf rem = false) : adjust t rem t.lo = t.lo := by
  have : satDec t t.lo = t.lo := by unfold satDec; split <;> omega
  simp [adjust, this, h]

theorem adjust_rounded_exact (t : FxTy) (b : Bool) (D e tr : Int) (hD : D.natAbs < 2 ^ t.fmt.p)
    (he : t.fmt.emin ≤ e) (ht : e + (t.fmt.p : Int) ≤ t.fmt.etop) :
    adjust t (if D = 0 then .fin b 0 0 else roundNE t.fmt (decide (D < 0)) D.natAbs e) tr =
      if 2 ^ (-e).toNat ≤ 2 * D.natAbs then (if D < 0 then satDec t tr else satInc t tr) else tr := by
  by_cases h0 : D = 0
  · subst h0; simp [adjust_fin]
  · rw [if_neg h0, roundNE_fits _ _ (by omega) hD he ht, adjust_fin]; simp

theorem fromFloat_of_scaled_fin (t : FxTy) (ok : t.Ok) (x : FVal) (neg : Bool) (m : Nat) (e' : Int)
    (hsc : mulPow2 t.fmt x t.k = .fin neg m e') (hm : m < 2 ^ t.fmt.p) (hee : t.fmt.emin ≤ e') :
    fromFloat t x = clampI t.lo t.hi (roundHalfAway (num neg m e') (den e')) := by
  obtain ⟨hp, hemin, hlo, hhi, hloN, hhiN, hk, hkp⟩ := ok
  rw [fromFloat_eq_adjust, hsc, toIntSat_fin, roundHalfAway_num]
  have hlh : t.lo ≤ t.hi := by omega
  by_cases hge : e' ≥ 0
  · -- the scaled value is the integer `v`; the remainder is zero unless the cast saturated
    have hr : ((m : Int) * 2 ^ e'.toNat + den e' / 2) / den e' = (m : Int) * 2 ^ e'.toNat := by
      rw [den_of_nonneg hge]; omega
    simp only [hge, if_true, hr]
    have hc := clampI_cases t.lo t.hi ((if neg = true then -1 else 1) * ((m : Int) * 2 ^ e'.toNat)) hlh
    generalize clampI t.lo t.hi _ = tr at hc ⊢
    rw [sub_ofInt t.fmt hp hemin neg m e' tr (by omega), exactSum_ge _ _ _ _ _ hge, neg_tr]
    generalize (if neg = true then (-1 : Int) else 1) * ((m : Int) * 2 ^ e'.toNat) = v at hc ⊢
    rcases hc with ⟨h1, rfl⟩ | ⟨h1, rfl⟩ | ⟨h1, h2, rfl⟩
    · exact adjust_lo t _ (geHalf_rounded _ _ _ _ (by omega))
    · exact adjust_hi t _ (leNegHalf_rounded _ _ _ _ (by omega))
    · exact adjust_none t _ _ (geHalf_rounded _ _ _ _ (by omega)) (leNegHalf_rounded _ _ _ _ (by omega))
  · -- the scaled value is `±m / G`, `m = G · T0 + r`
    have hlt : e' < 0 := by omega
    have hG := int_pow_pos (-e').toNat
    simp only [hge, if_false, den, show e'.toNat = 0 by omega, Int.pow_zero, Int.mul_one]
    rw [rdiv_split _ hG]
    have h1 := Int.mul_ediv_add_emod (m : Int) (2 ^ (-e').toNat)
    have h2 := Int.emod_nonneg (m : Int) (Int.ne_of_gt hG)
    have h3 := Int.emod_lt_of_pos (m : Int) hG
    have hT0 : 0 ≤ (m : Int) / 2 ^ (-e').toNat :=
      Int.ediv_nonneg (Int.natCast_nonneg m) (Int.le_of_lt hG)
    have hc := clampI_cases t.lo t.hi ((if neg = true then -1 else 1) * ((m : Int) / 2 ^ (-e').toNat)) hlh
    generalize clampI t.lo t.hi _ = tr at hc ⊢
    rw [sub_ofInt t.fmt hp hemin neg m e' tr (by omega), exactSum_lt _ _ _ _ _ hlt, neg_tr_mul]
    simp only [int_two_pow] at *
    generalize hGn : 2 ^ (-e').toNat = Gn at *
    generalize (m : Int) / (Gn : Int) = T0 at *
    generalize (m : Int) % (Gn : Int) = r at *
    have hGT : 0 ≤ (Gn : Int) * T0 := Int.mul_nonneg (by omega) hT0
    generalize hcd : (if (Gn : Int) ≤ 2 * r then (1 : Int) else 0) = c
    have hc01 : 0 ≤ c ∧ c ≤ 1 := by rw [← hcd]; split <;> omega
    cases neg
    · simp only [Bool.false_eq_true, if_false, Int.one_mul] at hc ⊢
      rcases hc with ⟨h, rfl⟩ | ⟨h, rfl⟩ | ⟨h4, h5, rfl⟩
      · omega
      · have hmul : (Gn : Int) * (t.hi + 1) ≤ Gn * T0 :=
          Int.mul_le_mul_of_nonneg_left (by omega) (by omega)
        rw [Int.mul_add, Int.mul_one, Int.mul_comm] at hmul
        rw [adjust_hi t _ (leNegHalf_rounded _ _ _ _ (by omega)), clampI_of_ge _ _ _ hlh (by omega)]
      · have hD : (m : Int) + -(tr * Gn) = r := by rw [Int.mul_comm]; omega
        rw [hD, adjust_rounded_exact t _ r e' tr (by omega) hee (by omega), hGn, ← hcd]
        by_cases hh : (Gn : Int) ≤ 2 * r
        · rw [if_pos (by omega), if_neg (by omega), if_pos hh, satInc_eq_clampI t tr ⟨h4, h5⟩]
        · rw [if_neg (by omega), if_neg hh, Int.add_zero, clampI_id _ _ _ ⟨h4, h5⟩]
    · simp only [if_true, Int.neg_one_mul] at hc ⊢
      rcases hc with ⟨h, rfl⟩ | ⟨h, rfl⟩ | ⟨h4, h5, rfl⟩
      · have hmul : (Gn : Int) * (-t.lo + 1) ≤ Gn * T0 :=
          Int.mul_le_mul_of_nonneg_left (by omega) (by omega)
        rw [Int.mul_add, Int.mul_one, Int.mul_neg, Int.mul_comm] at hmul
        rw [adjust_lo t _ (geHalf_rounded _ _ _ _ (by omega)), clampI_of_le _ _ _ hlh (by omega)]
      · omega
      · have hD : -(m : Int) + -(-T0 * Gn) = -r := by rw [Int.neg_mul, Int.mul_comm]; omega
        rw [hD, adjust_rounded_exact t _ (-r) e' _ (by omega) hee (by omega), hGn, ← hcd]
        by_cases hh : (Gn : Int) ≤ 2 * r
        · rw [if_pos (by omega), if_pos (by omega), if_pos hh, satDec_eq_clampI t _ ⟨h4, h5⟩]
          congr 1; omega
        · rw [if_neg (by omega), if_neg hh, Int.add_zero, clampI_id _ _ _ ⟨h4, h5⟩]

theorem fromFloat_of_scaled_inf (t : FxTy) (ok : t.Ok) (x : FVal) (s : Bool)
    (h : mulPow2 t.fmt x t.k = .inf s) : fromFloat t x = if s then t.lo else t.hi := by
  have hlo := ok.hlo; have hhi := ok.hhi
  unfold fromFloat
  simp only [h, toIntSat]
  cases s
  · simp only [Bool.false_eq_true, if_false]
    rw [ofInt_exact t.fmt t.hi ok.hp ok.hemin (bound_natAbs t ok _ (by omega))]
    simp [sub, add, FVal.neg, geHalf, satInc]
    omega
  · simp only [if_true]
    rw [ofInt_exact t.fmt t.lo ok.hp ok.hemin (bound_natAbs t ok _ (by omega))]
    simp [sub, add, FVal.neg, geHalf, leNegHalf, satDec]
    omega

theorem fromFloat_finite (t : FxTy) (ok : t.Ok) (neg : Bool) (m : Nat) (e : Int)
    (hm : m < 2 ^ t.fmt.p) (he : t.fmt.emin ≤ e) :
    fromFloat t (.fin neg m e) = fromFloatSpec t neg m e := by
  by_cases hm0 : m = 0
  · subst hm0
    rw [fromFloat_of_scaled_fin t ok _ neg 0 0 (by rw [mulPow2, roundNE_zero]) (two_pow_pos _) ok.hemin,
      fromFloatSpec, scaledNum_eq, scaledDen_eq, num_zero, num_zero, roundHalfAway_zero (den_pos _),
      roundHalfAway_zero (den_pos _)]
  by_cases hov : e + (t.k : Int) + (bitLen m : Int) ≤ t.fmt.etop
  · have hk := ok.hk
    rw [fromFloatSpec, scaledNum_eq, scaledDen_eq]
    exact fromFloat_of_scaled_fin t ok _ neg m (e + t.k)
      (by rw [mulPow2, roundNE_exact _ _ _ _ hm (by omega) hov, if_neg hm0]) hm (by omega)
  · rw [fromFloatSpec_overflow t ok neg m e hm hm0 (by omega)]
    exact fromFloat_of_scaled_inf t ok _ neg
      (mulPow2_overflow t.fmt neg m e t.k hm hm0 he (by omega) (by omega))

/-- `to_fN` never rounds: the result is the exact value `raw · 2^-k`, written either with exponent
`-k` or (when the fraction bits are zero) with exponent `0`. -/
theorem toFloat_form (t : FxTy) (ok : t.Ok) (raw : Int) (h : t.lo ≤ raw ∧ raw ≤ t.hi) :
    toFloat t raw =
      if raw % 2 ^ t.k = 0 then .fin (decide (raw / 2 ^ t.k < 0)) (raw / 2 ^ t.k).natAbs 0
      else .fin (decide (raw < 0)) raw.natAbs (-(t.k : Int)) := by
  obtain ⟨hp, hemin, hlo, hhi, hloN, hhiN, hk, hkp⟩ := ok
  have hKpos : 0 < 2 ^ t.k := two_pow_pos _
  have hKle : 2 ^ t.k ≤ 2 ^ t.fmt.p := Nat.pow_le_pow_right (by decide) hkp
  unfold toFloat
  simp only [int_two_pow]
  generalize hK : 2 ^ t.k = K at *
  have hKi : (0 : Int) < (K : Int) := by omega
  have h1 := Int.mul_ediv_add_emod raw (K : Int)
  have h2 := Int.emod_nonneg raw (Int.ne_of_gt hKi)
  have h3 := Int.emod_lt_of_pos raw hKi
  generalize hq : raw / (K : Int) = q at *
  generalize hr : raw % (K : Int) = r at *
  have hqa : q.natAbs ≤ raw.natAbs := hq ▸ Int.natAbs_ediv_le_natAbs raw K
  have hrawN : raw.natAbs < 2 ^ t.fmt.p := by omega
  rw [ofInt_exact t.fmt q hp hemin (by omega), ofInt_exact t.fmt r hp hemin (by omega)]
  have hrd : decide (r < 0) = false := by simp; omega
  simp only [mulPow2, hrd, Int.zero_add]
  by_cases hr0 : r = 0
  · subst hr0
    simp [add, exactSum, roundNE_zero]
    rw [sgn_natAbs]
    by_cases hq0 : q = 0
    · subst hq0; simp
    · simp only [hq0, if_false]
      rw [roundNE_fits t.fmt _ (by omega) (by omega) hemin (by omega)]
  · rw [roundNE_fits t.fmt false (by omega) (by omega) hk (by omega)]
    simp only [add]
    rw [exactSum_zero_negk]
    simp only [decide_eq_true_eq, Bool.false_eq_true, if_false, Int.one_mul, int_two_pow, hK]
    have hsum : (if q < 0 then (-1 : Int) else 1) * ((q.natAbs : Int) * (K : Int)) + (r.natAbs : Int) = raw := by
      rw [← Int.mul_assoc, sgn_natAbs, Int.mul_comm]; omega
    rw [hsum]
    have hraw0 : raw ≠ 0 := by
      intro h0; apply hr0; rw [← hr, h0, Int.zero_emod]
    simp only [hraw0, if_false, hr0]
    rw [roundNE_fits t.fmt _ (by omega) hrawN hk (by omega)]

/-- `x` is a finite float of the format, with exponent at least `-k`, whose value times `2^k` is the integer `v`. -/
def ScaledInt (f : Fmt) (k : Nat) (x : FVal) (v : Int) : Prop :=
  ∃ s m e, x = .fin s m e ∧ m < 2 ^ f.p ∧ f.emin ≤ e ∧ -(k : Int) ≤ e ∧
    (if s then -1 else 1) * ((m : Int) * 2 ^ (e + k).toNat) = v

theorem scaledInt_le {f : Fmt} {k : Nat} {x y : FVal} {a b : Int} (hx : ScaledInt f k x a)
    (hy : ScaledInt f k y b) : le x y = true ↔ a ≤ b := by
  obtain ⟨s, m, e, rfl, _, _, he, rfl⟩ := hx
  obtain ⟨t, n, g, rfl, _, _, hg, rfl⟩ := hy
  exact le_fin_scaled k s m e t n g he hg

theorem fromFloat_scaledInt (t : FxTy) (ok : t.Ok) {x : FVal} {v : Int}
    (hx : ScaledInt t.fmt t.k x v) : fromFloat t x = clampI t.lo t.hi v := by
  obtain ⟨s, m, e, rfl, hm, he, hk, rfl⟩ := hx
  rw [fromFloat_finite t ok s m e hm he, fromFloatSpec_of_nonneg t s m (by omega), num]

theorem toFloat_scaledInt (t : FxTy) (ok : t.Ok) (raw : Int) (h : t.lo ≤ raw ∧ raw ≤ t.hi) :
    ScaledInt t.fmt t.k (toFloat t raw) raw := by
  unfold ScaledInt
  rw [toFloat_form t ok raw h]
  have hrawN := bound_natAbs t ok raw h
  have hKi : (0 : Int) < (2 : Int) ^ t.k := int_pow_pos t.k
  have h1 := Int.mul_ediv_add_emod raw (2 ^ t.k)
  have hk := ok.hk
  by_cases hr : raw % 2 ^ t.k = 0
  · simp only [hr, if_true]
    rw [hr] at h1
    generalize hq : raw / 2 ^ t.k = q at *
    have hqa : q.natAbs ≤ raw.natAbs := hq ▸ Int.natAbs_ediv_le_natAbs raw _
    refine ⟨_, _, _, rfl, by omega, ok.hemin, by omega, ?_⟩
    simp only [Int.zero_add, Int.toNat_natCast, decide_eq_true_eq]
    rw [← Int.mul_assoc, sgn_natAbs, Int.mul_comm]; omega
  · simp only [hr, if_false]
    refine ⟨_, _, _, rfl, hrawN, ok.hk, by omega, ?_⟩
    have hk1 : (-(t.k : Int) + (t.k : Int)).toNat = 0 := by omega
    simp only [hk1, Int.pow_zero, Int.mul_one, decide_eq_true_eq]
    exact sgn_natAbs raw

end FontVerif.FixedConv
