/-
Integers below `2^53` are f64 values, and on the exact IEEE model their comparisons are the integer
comparisons: this is what lets the integer model of the optimiser stand for the f64 code.
-/
import FontVerif.Model.IupF64
import FontVerif.Lemmas.Ieee
namespace FontVerif.C10
open FontVerif.Ieee

/-- an integer below `2^53` as an f64 -/
def ofI (i : Int) : FVal := ofInt f64 i

theorem ofI_eq (i : Int) (h : i.natAbs < 2 ^ 53) : ofI i = .fin (decide (i < 0)) i.natAbs 0 :=
  ofInt_exact f64 i (by decide) (by decide) h

theorem le_ofI (a b : Int) (ha : a.natAbs < 2 ^ 53) (hb : b.natAbs < 2 ^ 53) :
    le (ofI a) (ofI b) = decide (a ≤ b) := by
  rw [ofI_eq a ha, ofI_eq b hb]
  unfold le exactSum
  simp only [Int.le_refl, if_true, Int.sub_self, Int.toNat_zero, Int.pow_zero, Int.mul_one]
  congr 1
  by_cases h1 : a < 0 <;> by_cases h2 : b < 0 <;> simp [h1, h2] <;> omega

theorem feq_ofI (a b : Int) (ha : a.natAbs < 2 ^ 53) (hb : b.natAbs < 2 ^ 53) :
    feq (ofI a) (ofI b) = decide (a = b) := by
  unfold feq
  rw [le_ofI a b ha hb, le_ofI b a hb ha]
  by_cases h : a = b
  · subst h; simp
  · have : ¬ (a ≤ b ∧ b ≤ a) := by omega
    simp only [h, decide_false]
    by_cases h1 : a ≤ b
    · have : ¬ b ≤ a := by omega
      simp [h1, this]
    · simp [h1]

theorem gt_ofI (a b : Int) (ha : a.natAbs < 2 ^ 53) (hb : b.natAbs < 2 ^ 53) :
    gt (ofI a) (ofI b) = decide (a > b) := by
  unfold gt lt
  rw [ofI_eq a ha, ofI_eq b hb]
  simp only []
  rw [← ofI_eq a ha, ← ofI_eq b hb, le_ofI a b ha hb]
  by_cases h : a ≤ b
  · have : ¬ a > b := by omega
    simp [h, this]
  · have : a > b := by omega
    simp [h, this]

theorem seg_outside (lo dlo hi dhi c : Int) (h1 : lo.natAbs < 2 ^ 53) (h3 : hi.natAbs < 2 ^ 53)
    (h5 : c.natAbs < 2 ^ 53) (hout : c ≤ lo ∨ c ≥ hi) (x : FVal) (y : Int × Int) :
    (if le (ofI c) (ofI lo) = true then ofI dlo else if IupF64.ge (ofI c) (ofI hi) = true then ofI dhi else x)
      = ofI (if c ≤ lo then (dlo, 1) else if c ≥ hi then (dhi, 1) else y).1 ∧
    (if c ≤ lo then (dlo, (1 : Int)) else if c ≥ hi then (dhi, 1) else y).2 = 1 := by
  unfold IupF64.ge
  rw [le_ofI c lo h5 h1, le_ofI hi c h3 h5]
  by_cases ha : c ≤ lo
  · simp [ha]
  · have hb : hi ≤ c := by omega
    simp [ha, hb]

end FontVerif.C10
