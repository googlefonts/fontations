/-
Helper lemmas for C13 (Model/Paint.lean): nesting algebra, what a stack of
`CollectFillGlyphPainter`s lets through, the traversal invariant `Inv` with its bracket law, and
`ColorGlyph::paint` as the optional clip box around one traversal.
-/
import FontVerif.Model.Paint
namespace FontVerif.Paint

theorem run_append (s : List Frame) (a b : List Event) :
    run s (a ++ b) = match run s a with
      | none => none
      | some s' => run s' b := by
  induction a generalizing s with
  | nil => simp [run]
  | cons e es ih =>
    simp only [List.cons_append, run]
    cases step s e with
    | none => rfl
    | some s' => exact ih s'

theorem sendL_length (c : Client) (opts : List Opt) (evs : List Event) :
    (sendL c opts evs).1.length = opts.length := by
  induction opts generalizing evs with
  | nil => rfl
  | cons o rest ih => simp only [sendL, List.length_cons, ih]

theorem emit_root (c : Client) (e : Event) {st : St} (h : st.opts = []) :
    (emit c e st).evs = st.evs ++ rootRecord c e ∧ (emit c e st).opts = [] := by
  simp [emit, h, sendL]

theorem emit_visits (c : Client) (e : Event) (st : St) : (emit c e st).visits = st.visits := rfl

theorem pushClip_visits (c : Client) (b : Option ClipBoxV) (st : St) : (pushClip c b st).visits = st.visits := by
  cases b <;> rfl

theorem popClipIf_visits (c : Client) (b : Option ClipBoxV) (st : St) : (popClipIf c b st).visits = st.visits := by
  cases b <;> rfl

theorem paintV1_some {inst : Instance} {c : Client} {gid : Gid} {r : Res} (h : paintV1 inst c gid = some r) :
    ∃ pid, inst.base gid = .found pid := by
  unfold paintV1 at h
  cases hb : inst.base gid with
  | err => rw [hb] at h; cases h
  | notFound => rw [hb] at h; cases h
  | found pid => exact ⟨pid, rfl⟩

theorem paintV1_unresolved {inst : Instance} {c : Client} {gid : Gid} {pid : PaintId}
    (hb : inst.base gid = .found pid) (hn : inst.resolve pid = none) :
    paintV1 inst c gid = some (some .parse, pushClip c (inst.clip gid) St.init) := by
  have enter_nil : enter [] pid = .ok [pid] := rfl
  unfold paintV1
  simp only [hb, enter_nil, hn]

/-- a glyph with a root paint: the optional clip box around the traversal, the closing `pop_clip` only
after success -/
theorem paintV1_found {inst : Instance} {c : Client} {gid : Gid} {pid : PaintId} {n : Node}
    (hb : inst.base gid = .found pid) (hn : inst.resolve pid = some n) :
    paintV1 inst c gid = some
      (match trav inst c MAX_TRAVERSAL_DEPTH n [pid] (pushClip c (inst.clip gid) St.init) with
        | (some e, st) => (some e, st)
        | (none, st) => (none, popClipIf c (inst.clip gid) st)) := by
  have enter_nil : enter [] pid = .ok [pid] := rfl
  unfold paintV1
  simp only [hb, enter_nil, hn]
  rcases trav inst c MAX_TRAVERSAL_DEPTH n [pid] (pushClip c (inst.clip gid) St.init) with ⟨_ | e, st⟩ <;> rfl

theorem paintV1_no_clip {inst : Instance} {c : Client} {gid : Gid} {pid : PaintId} {n : Node}
    (hb : inst.base gid = .found pid) (hc : inst.clip gid = none) (hn : inst.resolve pid = some n) :
    paintV1 inst c gid = some (trav inst c MAX_TRAVERSAL_DEPTH n [pid] St.init) := by
  rw [paintV1_found hb hn, hc]
  simp only [pushClip, popClipIf]
  rcases trav inst c MAX_TRAVERSAL_DEPTH n [pid] St.init with ⟨_ | e, st⟩ <;> rfl

/-- a stream that, from any stack of open scopes, returns to exactly that stack -/
def Neutral (l : List Event) : Prop := ∀ s, run s l = some s

theorem Neutral.nil : Neutral [] := fun _ => rfl

theorem Neutral.append {a b : List Event} (ha : Neutral a) (hb : Neutral b) : Neutral (a ++ b) := by
  intro s; rw [run_append, ha s]; exact hb s

theorem Neutral.fill (b : Brush) : Neutral [.fill b] := fun _ => rfl
theorem Neutral.cached (g : Gid) : Neutral [.cached g] := fun _ => rfl
theorem Neutral.fillGlyph (g : Gid) (bt : Option TWord) (b : Brush) : Neutral [.fillGlyph g bt b] := fun _ => rfl

theorem Neutral.expand (g : Gid) (bt : Option TWord) (b : Brush) : Neutral (expandFillGlyph g bt b) := by
  intro s; cases bt <;> rfl

theorem Neutral.bracket {m : List Event} (push pop : Event) (f : Frame)
    (hpush : ∀ s, step s push = some (f :: s)) (hpop : ∀ s, step (f :: s) pop = some s) (h : Neutral m) :
    Neutral ([push] ++ m ++ [pop]) := by
  intro s
  rw [run_append, run_append]
  simp only [run, hpush, h (f :: s), hpop]

/-- a push callback and the pop that closes it -/
inductive Bracket : Event → Event → Prop
  | transform (w : TWord) : Bracket (.pushT w) .popT
  | clipGlyph (g : Gid) : Bracket (.pushClipGlyph g) .popClip
  | clipBox (b : ClipBoxV) : Bracket (.pushClipBox b) .popClip
  | layer (m : Nat) : Bracket (.pushLayer m) (.popLayer m)

theorem Bracket.neutral {push pop : Event} {m : List Event} (h : Bracket push pop) (hm : Neutral m) :
    Neutral ([push] ++ m ++ [pop]) := by
  cases h with
  | transform w => exact hm.bracket _ _ .transform (fun _ => rfl) (fun _ => rfl)
  | clipGlyph g => exact hm.bracket _ _ .clip (fun _ => rfl) (fun _ => rfl)
  | clipBox b => exact hm.bracket _ _ .clip (fun _ => rfl) (fun _ => rfl)
  | layer k => exact hm.bracket _ _ (.layer k) (fun _ => rfl) (fun _ => by simp only [step, if_true])

/-- every element is a `fill_glyph` call -/
def AllFG (l : List Event) : Prop := ∀ e ∈ l, ∃ g bt b, e = .fillGlyph g bt b

theorem AllFG.nil : AllFG [] := by intro e h; cases h

theorem AllFG.append {a b : List Event} (ha : AllFG a) (hb : AllFG b) : AllFG (a ++ b) := by
  intro e h
  rcases List.mem_append.mp h with h | h
  · exact ha e h
  · exact hb e h

theorem optPrim_out (o : Opt) (e : Event) : AllFG (optPrim o e).2 := by
  cases e <;> simp only [optPrim] <;> try exact AllFG.nil
  split
  · intro e h; simp at h; exact ⟨_, _, _, h⟩
  · exact AllFG.nil

theorem optPrims_out (o : Opt) (l : List Event) : AllFG (optPrims o l).2 := by
  induction l generalizing o with
  | nil => exact AllFG.nil
  | cons e es ih => simp only [optPrims]; exact (optPrim_out o e).append (ih _)

theorem optCalls_out (o : Opt) (l : List Event) : AllFG (optCalls o l).2 := by
  induction l generalizing o with
  | nil => exact AllFG.nil
  | cons e es ih =>
    simp only [optCalls]
    refine AllFG.append ?_ (ih _)
    cases e <;> first | exact optPrim_out o _ | exact optPrims_out o _

theorem neutral_root_of_allFG (c : Client) {l : List Event} (h : AllFG l) :
    Neutral (l.flatMap (rootRecord c)) := by
  induction l with
  | nil => exact Neutral.nil
  | cons e es ih =>
    simp only [List.flatMap_cons]
    refine Neutral.append ?_ (ih (fun x hx => h x (List.mem_cons_of_mem _ hx)))
    obtain ⟨g, bt, b, rfl⟩ := h e (List.mem_cons_self ..)
    simp only [rootRecord]
    split
    · exact Neutral.fillGlyph g bt b
    · exact Neutral.expand g bt b

theorem sendL_neutral_of_allFG (c : Client) (opts : List Opt) {evs : List Event} (h : AllFG evs) :
    Neutral (sendL c opts evs).2 := by
  induction opts generalizing evs with
  | nil => exact neutral_root_of_allFG c h
  | cons o rest ih => simp only [sendL]; exact ih (optCalls_out o evs)

theorem sendL_neutral_of_ne_nil (c : Client) {opts : List Opt} (hne : opts ≠ []) (evs : List Event) :
    Neutral (sendL c opts evs).2 := by
  cases opts with
  | nil => exact absurd rfl hne
  | cons o rest => simp only [sendL]; exact sendL_neutral_of_allFG c rest (optCalls_out o evs)

/-- `st'` is `st` after some callbacks: same painter-stack height, `new` appended to what the client
recorded, and `new` is neutral whenever the painter was an optimiser -/
structure Step (st st' : St) (new : List Event) : Prop where
  len : st'.opts.length = st.opts.length
  evs : st'.evs = st.evs ++ new
  inner : st.opts ≠ [] → Neutral new

theorem Step.refl (st : St) : Step st st [] :=
  ⟨rfl, by simp, fun _ => Neutral.nil⟩

theorem Step.trans {a b d : St} {n1 n2 : List Event} (h1 : Step a b n1) (h2 : Step b d n2) :
    Step a d (n1 ++ n2) := by
  refine ⟨h2.len.trans h1.len, by rw [h2.evs, h1.evs, List.append_assoc], fun hne => ?_⟩
  refine (h1.inner hne).append (h2.inner ?_)
  intro hb
  have := h1.len
  rw [hb] at this
  cases ha : a.opts with
  | nil => exact hne ha
  | cons x xs => rw [ha] at this; simp at this

theorem Step.nil_iff {a b : St} {n : List Event} (h : Step a b n) : b.opts = [] ↔ a.opts = [] := by
  have := h.len
  constructor
  · intro hb; rw [hb] at this; cases ha : a.opts with
    | nil => rfl
    | cons x xs => rw [ha] at this; simp at this
  · intro ha; rw [ha] at this; cases hb : b.opts with
    | nil => rfl
    | cons x xs => rw [hb] at this; simp at this

theorem emit_step (c : Client) (e : Event) (st : St) :
    ∃ new, Step st (emit c e st) new ∧ (st.opts = [] → new = rootRecord c e) := by
  refine ⟨(sendL c st.opts [e]).2, ⟨?_, rfl, ?_⟩, ?_⟩
  · simp only [emit]; exact sendL_length c st.opts [e]
  · intro hne; exact sendL_neutral_of_ne_nil c hne [e]
  · intro h; rw [h]; simp [sendL]

/-- the traversal invariant: a `Step`, and on the client itself (no optimiser) a successful result
comes with a neutral stream -/
def Inv (st : St) (r : Res) : Prop :=
  ∃ new, Step st r.2 new ∧ (st.opts = [] → r.1 = none → Neutral new)

theorem Inv.here (st : St) (r : Option PErr) : Inv st (r, st) :=
  ⟨[], Step.refl st, fun _ _ => Neutral.nil⟩

/-- events emitted before an error: no obligation on the client, still a `Step` -/
theorem Inv.of_step_err {st st' : St} {new : List Event} (h : Step st st' new) (e : PErr) :
    Inv st (some e, st') :=
  ⟨new, h, fun _ hn => by cases hn⟩

theorem Inv.of_err {st : St} {r : Res} (h : Inv st r) (e : PErr) : Inv st (some e, r.2) := by
  obtain ⟨n, s, _⟩ := h; exact Inv.of_step_err s e

theorem Inv.trans_none {a b : St} {r : Res} (h1 : Inv a (none, b)) (h2 : Inv b r) : Inv a r := by
  obtain ⟨n1, s1, k1⟩ := h1
  obtain ⟨n2, s2, k2⟩ := h2
  refine ⟨n1 ++ n2, s1.trans s2, fun ha hr => ?_⟩
  exact (k1 ha rfl).append (k2 ((Step.nil_iff s1).mpr ha) hr)

/-- after an error nothing is claimed of the stream: only that the steps compose -/
theorem Inv.trans_err {a b : St} {r : Res} {e e' : PErr} (h1 : Inv a (some e, b)) (h2 : Inv b r) :
    Inv a (some e', r.2) := by
  obtain ⟨n1, s1, _⟩ := h1
  obtain ⟨n2, s2, _⟩ := h2
  exact Inv.of_step_err (s1.trans s2) e'

theorem Inv.bump {st0 : St} {r : Res} (h : Inv (bump st0) r) : Inv st0 r := by
  obtain ⟨n, s, hk⟩ := h
  exact ⟨n, ⟨s.len, s.evs, s.inner⟩, hk⟩

theorem Inv.of_emit_err (c : Client) (e : Event) (st : St) (err : PErr) : Inv st (some err, emit c e st) := by
  obtain ⟨n, s, _⟩ := emit_step c e st
  exact Inv.of_step_err s err

theorem Inv.of_emit (c : Client) (e : Event) (st : St) (h : Neutral (rootRecord c e)) : Inv st (none, emit c e st) := by
  obtain ⟨n, s, hr⟩ := emit_step c e st
  exact ⟨n, s, fun h0 _ => hr h0 ▸ h⟩

/-- `push; body; pop` around anything that keeps the invariant: the shape of the transform, clip and
layer arms.  (After an error inside, nothing is claimed of the stream, so the pop may also be missing:
see `Inv.of_err`.) -/
theorem Inv.bracket (c : Client) {push pop : Event} (hb : Bracket push pop)
    {st : St} {r : Res} (h : Inv (emit c push st) r) : Inv st (r.1, emit c pop r.2) := by
  have root : rootRecord c push = [push] ∧ rootRecord c pop = [pop] := by cases hb <;> exact ⟨rfl, rfl⟩
  obtain ⟨na, sa, ha⟩ := emit_step c push st
  obtain ⟨n, s, k⟩ := h
  obtain ⟨nb, sb, hnb⟩ := emit_step c pop r.2
  refine ⟨na ++ (n ++ nb), sa.trans (s.trans sb), fun h0 hr => ?_⟩
  have h1 := (Step.nil_iff sa).mpr h0
  rw [ha h0, hnb ((Step.nil_iff s).mpr h1), root.1, root.2, ← List.append_assoc]
  exact hb.neutral (k h1 hr)

theorem pushClip_inv_err (c : Client) (box : Option ClipBoxV) (st : St) (e : PErr) :
    Inv st (some e, pushClip c box st) := by
  cases box with
  | none => exact Inv.here st _
  | some b => exact Inv.of_emit_err ..

theorem Inv.clipBox (c : Client) (box : Option ClipBoxV) {st : St} {r : Res} (h : Inv (pushClip c box st) r) :
    Inv st (r.1, popClipIf c box r.2) := by
  cases box with
  | none => exact h
  | some b => exact Inv.bracket c (.clipBox b) h

/-- what ran on top of a fresh `CollectFillGlyphPainter` reaches the client as a neutral stream, and the
optimiser is still there to be taken off again -/
theorem Inv.underOpt {st : St} {o : Opt} {r : Res} (h : Inv { st with opts := o :: st.opts } r) :
    ∃ o' rest, r.2.opts = o' :: rest ∧ ∀ e, Inv st (e, { r.2 with opts := rest }) := by
  obtain ⟨n, s, _⟩ := h
  have hlen := s.len
  cases hopts : r.2.opts with
  | nil => rw [hopts] at hlen; cases hlen
  | cons o' rest =>
    rw [hopts] at hlen
    exact ⟨o', rest, rfl, fun e => ⟨n, ⟨Nat.succ.inj hlen, s.evs, fun _ => s.inner (List.cons_ne_nil _ _)⟩,
      fun _ _ => s.inner (List.cons_ne_nil _ _)⟩⟩

theorem askCached_inv (c : Client) (g : Gid) (st : St) : Inv st (none, (askCached c g st).2) := by
  unfold askCached
  split
  · rename_i h0
    exact ⟨[.cached g], ⟨rfl, rfl, fun h => absurd h0 h⟩, fun _ _ => Neutral.cached g⟩
  · exact Inv.here st none

theorem Inv.wellNested {r : Res} (h : Inv St.init r) (hr : r.1 = none) : WellNested r.2.evs := by
  obtain ⟨new, s, k⟩ := h
  rw [s.evs]; exact k rfl hr []

theorem forLayers_inv (body : Nat → St → Res) (hb : ∀ i st, Inv st (body i st)) :
    ∀ (l : List Nat) (st : St), Inv st (forLayers body l st) := by
  intro l
  induction l with
  | nil => intro st; exact Inv.here st none
  | cons i is ih =>
    intro st
    simp only [forLayers]
    have h := hb i st
    generalize body i st = r at h
    obtain ⟨r1, st'⟩ := r
    cases r1 with
    | some e => obtain ⟨n, s, _⟩ := h; exact Inv.of_step_err s e
    | none => exact Inv.trans_none h (ih st')

theorem arm_inv (inst : Instance) (c : Client) (rec : Node → List PaintId → St → Res)
    (ih : ∀ (node : Node) (dec : List PaintId) (st : St), Inv st (rec node dec st)) :
    ∀ (node : Node) (dec : List PaintId) (st : St), Inv st (arm inst c rec node dec st) := by
  intro node dec st
  cases node with
  | colrLayers first num =>
    simp only [arm]
    apply forLayers_inv
    intro i st'
    split
    · exact Inv.here _ _
    · split
      · exact Inv.here _ _
      · split
        · exact Inv.here _ _
        · exact ih _ _ _
  | leaf brush =>
    simp only [arm]
    cases brush with
    | none => exact Inv.here _ _
    | some b => exact Inv.of_emit c _ st (Neutral.fill b)
  | glyph g child =>
    simp only [arm]
    split
    · exact Inv.here _ _
    · rename_i n _
      obtain ⟨o, rest, hopts, h1⟩ :=
        Inv.underOpt (ih n dec { st with opts := { success := true, bt := none, gid := g } :: st.opts })
      generalize rec n dec { st with opts := { success := true, bt := none, gid := g } :: st.opts } = r1 at hopts h1 ⊢
      rw [hopts]
      simp only []
      split
      · exact h1 _
      · exact (h1 none).trans_none (Inv.bracket c (.clipGlyph g) (ih n dec _))
  | colrGlyph g =>
    simp only [arm]
    split
    · exact Inv.here _ _
    · exact Inv.here _ _
    · split
      · exact Inv.here _ _
      · have ha := askCached_inv c g st
        generalize askCached c g st = a at ha ⊢
        split
        · exact ha.of_err _
        · exact ha
        · refine ha.trans_none ?_
          split
          · exact pushClip_inv_err ..
          · exact Inv.clipBox c (inst.clip g) (ih _ _ _)
  | transform tag child =>
    simp only [arm]
    split
    · exact Inv.of_emit_err ..
    · exact Inv.bracket c (.transform [tag]) (ih _ _ _)
  | composite src mode backdrop =>
    simp only [arm]
    split
    · exact Inv.of_emit_err ..
    · rename_i nb _
      have hp : Inv st (some .parse, emit c (.pushLayer SRC_OVER) st) := Inv.of_emit_err ..
      have h1 := ih nb dec (emit c (.pushLayer SRC_OVER) st)
      generalize rec nb dec (emit c (.pushLayer SRC_OVER) st) = r1 at h1 ⊢
      obtain ⟨e1, st1⟩ := r1
      cases e1 with
      | some e => exact hp.trans_err h1
      | none =>
        simp only []
        split
        · exact hp.trans_err (h1.trans_none (Inv.of_emit_err c (.pushLayer mode) st1 .parse))
        · exact Inv.bracket c (.layer SRC_OVER) (h1.trans_none (Inv.bracket c (.layer mode) (ih _ _ _)))

theorem trav_inv (inst : Instance) (c : Client) :
    ∀ (fuel : Nat) (node : Node) (dec : List PaintId) (st : St),
      Inv st (trav inst c fuel node dec st) := by
  intro fuel
  induction fuel with
  | zero => intro node dec st; simp only [trav]; exact Inv.here st _
  | succ f ih =>
    intro node dec st
    simp only [trav]
    exact Inv.bump (arm_inv inst c _ ih node dec (bump st))

theorem travV0_inv (c : Client) (layers : Nat → Option (Gid × Nat)) :
    ∀ (l : List Nat) (st : St), Inv st (travV0 c layers l st)
  | [], st => Inv.here st none
  | i :: is, st => by
    simp only [travV0]
    split
    · exact Inv.here st _
    · refine (Inv.of_emit c _ st ?_).trans_none (travV0_inv c layers is _)
      simp only [rootRecord]; split
      · exact Neutral.fillGlyph _ _ _
      · exact Neutral.expand _ _ _

/-- whatever `paint` answers, what the client recorded is a sequence of steps from the empty record, and
a neutral one after success -/
theorem paintV1_inv {inst : Instance} {c : Client} {gid : Gid} {r : Res} (h : paintV1 inst c gid = some r) :
    Inv St.init r := by
  obtain ⟨pid, hb⟩ := paintV1_some h
  cases hres : inst.resolve pid with
  | none =>
    rw [paintV1_unresolved hb hres] at h; cases h
    exact pushClip_inv_err ..
  | some n =>
    rw [paintV1_found hb hres] at h
    have hi := Inv.clipBox c (inst.clip gid) (st := St.init) (trav_inv inst c MAX_TRAVERSAL_DEPTH n [pid] _)
    have ht := trav_inv inst c MAX_TRAVERSAL_DEPTH n [pid] (pushClip c (inst.clip gid) St.init)
    generalize trav inst c MAX_TRAVERSAL_DEPTH n [pid] (pushClip c (inst.clip gid) St.init) = t at h hi ht
    obtain ⟨_ | e, st'⟩ := t <;> cases h
    · exact hi
    · exact (pushClip_inv_err c (inst.clip gid) St.init e).trans_err ht

/-- for every instance: a glyph with a clip box that paints successfully is recorded as
`push_clip_box … pop_clip` around the rest -/
theorem paintV1_clip_brackets {inst : Instance} {c : Client} {gid : Gid} {st : St} {b : ClipBoxV}
    (h : paintV1 inst c gid = some (none, st)) (hb : inst.clip gid = some b) :
    ∃ mid, st.evs = [.pushClipBox b] ++ mid ++ [.popClip] := by
  obtain ⟨pid, hbase⟩ := paintV1_some h
  cases hres : inst.resolve pid with
  | none => rw [paintV1_unresolved hbase hres] at h; cases h
  | some n =>
    rw [paintV1_found hbase hres, hb] at h
    have h1 := emit_root c (.pushClipBox b) (st := St.init) rfl
    obtain ⟨new, s, _⟩ := trav_inv inst c MAX_TRAVERSAL_DEPTH n [pid] (pushClip c (some b) St.init)
    generalize trav inst c MAX_TRAVERSAL_DEPTH n [pid] (pushClip c (some b) St.init) = r at h s
    obtain ⟨_ | e, st'⟩ := r <;> cases h
    have h2 := emit_root c .popClip ((Step.nil_iff s).mpr h1.2)
    exact ⟨new, by simp only [popClipIf]; rw [h2.1, s.evs]; simp only [pushClip]; rw [h1.1]; rfl⟩

end FontVerif.Paint
