/- C14 / concrete BitSet: every mutator / observer of bitset.rs on the concrete layout
(`pages` in creation order + sorted `page_map`, Model/BitSetConc.lean) commutes with the
abstraction function `CBitSet.abs` and keeps the representation invariant `CInv`: both at once, as
`Rep s t → Rep (op s) (op t)`.  The two page-index caches (`BitSetBuilder`, `remove_all`) are transparent. -/
import FontVerif.Lemmas.IntSetPageConc
import FontVerif.Lemmas.IntSetConcMerge
namespace FontVerif.IntSet

theorem insertAt_perm {α : Type} (l : List α) (i : Nat) (x : α) : (insertAt l i x).Perm (x :: l) := by
  unfold insertAt
  have := @List.perm_middle α x (l.take i) (l.drop i)
  rw [List.take_append_drop] at this
  exact this

theorem insertAt_map {α β : Type} (f : α → β) (l : List α) (i : Nat) (x : α) :
    (insertAt l i x).map f = insertAt (l.map f) i (f x) := by
  simp [insertAt, List.map_take, List.map_drop]

theorem nodup_perm_range (n : Nat) (l : List Nat) (hn : l.Nodup) (hlt : ∀ i ∈ l, i < n)
    (hlen : l.length = n) : l.Perm (List.range n) := by
  induction n generalizing l with
  | zero =>
    cases l with
    | nil => exact List.Perm.refl _
    | cons a l => simp at hlen
  | succ n ih =>
    have hmem : n ∈ l := by
      apply Classical.byContradiction
      intro hmem
      have := nodup_length_le hn (lo := 0) (n := n) (fun i hi => by
        have h1 := hlt i hi
        have h2 : i ≠ n := fun h => hmem (h ▸ hi)
        omega)
      omega
    have hp := List.perm_cons_erase hmem
    have hnd := hp.nodup hn
    rw [List.nodup_cons] at hnd
    have hl := hp.length_eq
    simp only [List.length_cons] at hl
    have h1 := ih (l.erase n) hnd.2 (fun i hi => by
      have h1 := hlt i (List.mem_of_mem_erase hi)
      have h2 : i ≠ n := fun h => hnd.1 (h ▸ hi)
      omega) (by omega)
    rw [List.range_succ]
    refine hp.trans ?_
    refine (List.Perm.cons n h1).trans ?_
    exact (List.perm_append_singleton n (List.range n)).symm

theorem searchMap_spec (pm : PMap) (hs : (pm.map (·.1)).Pairwise (· < ·)) (m : Nat) :
    (searchMap pm m).2 ≤ pm.length ∧
    (∀ e ∈ pm.take (searchMap pm m).2, e.1 < m) ∧
    (∀ e ∈ pm.drop (searchMap pm m).2, m ≤ e.1) ∧
    ((searchMap pm m).1 = true →
      (searchMap pm m).2 < pm.length ∧ (pm.getD (searchMap pm m).2 (0, 0)).1 = m) ∧
    ((searchMap pm m).1 = false → ∀ e ∈ pm, e.1 ≠ m) := by
  induction pm with
  | nil => simp [searchMap]
  | cons kv rest ih =>
    obtain ⟨k, i⟩ := kv
    simp only [List.map_cons, List.pairwise_cons, List.mem_map, forall_exists_index, and_imp,
      forall_apply_eq_imp_iff₂] at hs
    obtain ⟨hk, hrest⟩ := hs
    obtain ⟨i1, i3, i4, i5, i6⟩ := ih hrest
    have hge : ∀ e ∈ (k, i) :: rest, k ≤ e.1 := by
      intro e he
      rcases List.mem_cons.1 he with rfl | he
      · exact Nat.le_refl _
      · exact Nat.le_of_lt (hk e he)
    simp only [searchMap]
    by_cases h1 : k = m
    · subst h1
      simp only [if_true]
      exact ⟨by simp, by simp, hge, by simp, by simp⟩
    · rw [if_neg h1]
      by_cases h2 : m < k
      · rw [if_pos h2]
        exact ⟨by simp, by simp, fun e he => Nat.le_trans (Nat.le_of_lt h2) (hge e he), by simp,
          fun _ e he => Nat.ne_of_gt (Nat.lt_of_lt_of_le h2 (hge e he))⟩
      · rw [if_neg h2]
        have h3 : k < m := by omega
        simp only []
        refine ⟨by simp; omega, ?_, ?_, ?_, ?_⟩
        · intro e he
          simp only [List.take_succ_cons, List.mem_cons] at he
          rcases he with rfl | he
          · exact h3
          · exact i3 e he
        · intro e he
          simp only [List.drop_succ_cons] at he
          exact i4 e he
        · intro hr
          obtain ⟨j1, j2⟩ := i5 hr
          refine ⟨by simp; omega, ?_⟩
          simpa using j2
        · intro hr e he
          simp only [List.mem_cons] at he
          rcases he with rfl | he
          · simp; omega
          · exact i6 hr e he

theorem searchMap_hit (pm : PMap) (hs : (pm.map (·.1)).Pairwise (· < ·)) (m : Nat)
    (hr : (searchMap pm m).1 = true) : (m, (pm.getD (searchMap pm m).2 (0, 0)).2) ∈ pm := by
  obtain ⟨j1, j2⟩ := (searchMap_spec pm hs m).2.2.2.1 hr
  have hmem := mem_getD pm _ (0, 0) j1
  rwa [show pm.getD (searchMap pm m).2 (0, 0) = (m, (pm.getD (searchMap pm m).2 (0, 0)).2) from
    Prod.ext j2 rfl] at hmem

theorem searchMap_after (pm : PMap) (hs : (pm.map (·.1)).Pairwise (· < ·)) (m : Nat) :
    ∀ e ∈ pm.drop (if (searchMap pm m).1 then (searchMap pm m).2 + 1 else (searchMap pm m).2),
      m < e.1 := by
  obtain ⟨_, _, s4, s5, s6⟩ := searchMap_spec pm hs m
  intro e he
  cases hf : (searchMap pm m).1 with
  | false =>
    simp only [hf, Bool.false_eq_true, if_false] at he
    exact Nat.lt_of_le_of_ne (s4 e he) (fun h => s6 hf e (List.mem_of_mem_drop he) h.symm)
  | true =>
    simp only [hf, if_true] at he
    obtain ⟨j1, j2⟩ := s5 hf
    have hsd := List.Pairwise.sublist ((List.drop_sublist (searchMap pm m).2 pm).map (·.1)) hs
    rw [List.drop_eq_getElem_cons j1, List.map_cons, List.pairwise_cons] at hsd
    rw [List.getD_eq_getElem?_getD, List.getElem?_eq_getElem j1] at j2
    exact j2 ▸ hsd.1 e.1 (List.mem_map_of_mem he)

theorem ensure_len (s : CBitSet) (m : Nat) : (s.ensurePageIndexForMajor m).1.len = s.len := by
  unfold CBitSet.ensurePageIndexForMajor
  simp only []
  split <;> rfl

theorem cSumLens_acc (pages : List CPage) (a : Nat) :
    pages.foldl (fun acc p => acc + p.len) a = a + cSumLens pages := by
  unfold cSumLens
  induction pages generalizing a with
  | nil => simp
  | cons p ps ih =>
    simp only [List.foldl_cons]
    rw [ih, ih (0 + p.len)]
    omega

/-- the structural part of `CInv` (everything but the cached `length`): what the loops of
`insert_range` / `extend_unsorted` / `remove_all` maintain while `length` is stale -/
structure CInvS (pm : PMap) (pages : List CPage) : Prop where
  lenEq : pm.length = pages.length
  sorted : (pm.map (·.1)).Pairwise (· < ·)
  idxNodup : (pm.map (·.2)).Nodup
  idxLt : ∀ e ∈ pm, e.2 < pages.length
  pagesOk : ∀ p ∈ pages, CPageOk p

theorem CInv.toS {s : CBitSet} (h : CInv s) : CInvS s.pageMap s.pages :=
  ⟨h.lenEq, h.sorted, h.idxNodup, h.idxLt, h.pagesOk⟩

/-- `recompute_length` sums over the `pages` vector, the abstract `sumLens` through the map: equal
because the map indices are a bijection onto `0..pages.len()` -/
theorem sumLens_absView (pm : PMap) (pages : List CPage) (h : CInvS pm pages) :
    sumLens (absView (cview pm pages)) = cSumLens pages := by
  have hperm := nodup_perm_range pages.length (pm.map (·.2)) h.idxNodup
    (fun i hi => by
      simp only [List.mem_map] at hi
      obtain ⟨e, he, rfl⟩ := hi
      exact h.idxLt e he)
    (by rw [List.length_map]; exact h.lenEq)
  have h1 : sumLens (absView (cview pm pages)) =
      (pm.map (·.2)).foldl (fun acc i => acc + (pages.getD i CPage.zero).len) 0 := by
    rw [absView_cview]
    unfold sumLens
    rw [List.foldl_map, List.foldl_map]
    rfl
  have h2 : cSumLens pages =
      (List.range pages.length).foldl (fun acc i => acc + (pages.getD i CPage.zero).len) 0 := by
    conv => lhs; rw [← map_getD_range pages CPage.zero]
    unfold cSumLens
    rw [List.foldl_map]
  rw [h1, h2]
  apply List.Perm.foldl_eq' hperm
  intro x _ y _ z
  omega

theorem absView_inv (pm : PMap) (pages : List CPage) (h : CInvS pm pages) : PagesInv (absView (cview pm pages)) := by
  refine ⟨?_, ?_⟩
  · rw [sorted_iff_keys, absView_keys]; exact h.sorted
  · intro kp hkp
    simp only [absView_cview, List.mem_map] at hkp
    obtain ⟨e, he, rfl⟩ := hkp
    exact CPage.abs_ok _ (h.pagesOk _ (mem_getD _ _ _ (h.idxLt e he)))

theorem CBitSet.abs_inv (s : CBitSet) (h : CInv s) : BInv s.abs := by
  refine ⟨absView_inv _ _ h.toS, ?_⟩
  show s.len = sumLens (absView (cview s.pageMap s.pages))
  rw [sumLens_absView _ _ h.toS]
  exact h.len

theorem cInv_of_struct {s : CBitSet} (hs : CInvS s.pageMap s.pages) (hb : BInv s.abs) : CInv s := by
  refine ⟨hs.lenEq, hs.sorted, hs.idxNodup, hs.idxLt, hs.pagesOk, ?_⟩
  rw [← sumLens_absView _ _ hs]
  exact hb.2

theorem cInv_empty : CInv CBitSet.empty := by
  refine ⟨rfl, ?_, ?_, ?_, ?_, rfl⟩ <;> simp [CBitSet.empty]

/-- `ensurePage` on a mapped list follows the scan of `searchMap` -/
theorem ensurePage_map (g : Nat → Page) (pm : PMap) (m n : Nat) (hg : g n = Page.zero) :
    ensurePage (pm.map (fun e => (e.1, g e.2))) m =
      if (searchMap pm m).1 then pm.map (fun e => (e.1, g e.2))
      else (insertAt pm (searchMap pm m).2 (m, n)).map (fun e => (e.1, g e.2)) := by
  induction pm with
  | nil => simp [ensurePage, searchMap, insertAt, hg]
  | cons kv rest ih =>
    obtain ⟨k, i⟩ := kv
    simp only [List.map_cons, ensurePage, searchMap]
    by_cases h1 : k = m
    · subst h1
      simp
    · rw [if_neg h1]
      by_cases h2 : m < k
      · rw [if_pos h2, if_pos h2]
        simp [insertAt, hg]
      · rw [if_neg h2, if_neg h2, if_neg (fun h => h1 h.symm), ih]
        simp only []
        split
        · rfl
        · simp [insertAt]

/-- overwriting the page behind index `idx` = `setPage` at the major that owns `idx` -/
theorem setPage_map (g : Nat → Page) (q : Page) (pm : PMap) (m idx : Nat)
    (hs : (pm.map (·.1)).Pairwise (· < ·)) (H : ∀ e ∈ pm, (e.2 = idx ↔ e.1 = m)) :
    pm.map (fun e => (e.1, if e.2 = idx then q else g e.2)) =
      setPage (pm.map (fun e => (e.1, g e.2))) m q := by
  induction pm with
  | nil => rfl
  | cons kv rest ih =>
    obtain ⟨k, i⟩ := kv
    simp only [List.map_cons, List.pairwise_cons, List.mem_map, forall_exists_index, and_imp,
      forall_apply_eq_imp_iff₂] at hs
    obtain ⟨hk, hrest⟩ := hs
    have H0 := H (k, i) (by simp)
    simp only at H0
    simp only [List.map_cons, setPage]
    by_cases h1 : k = m
    · rw [if_pos h1, if_pos (H0.2 h1)]
      congr 1
      apply List.map_congr_left
      intro e he
      have h2 : e.1 ≠ m := by have := hk e he; omega
      have h3 : ¬ e.2 = idx := fun h => h2 ((H e (by simp [he])).1 h)
      rw [if_neg h3]
    · rw [if_neg h1, if_neg (fun h => h1 (H0.1 h))]
      congr 1
      exact ih hrest (fun e he => H e (by simp [he]))

/-- keys and indices of the map are both injective -/
theorem map_entry_unique {pm : PMap} (hs : (pm.map (·.1)).Pairwise (· < ·)) (hn : (pm.map (·.2)).Nodup)
    {m idx : Nat} (hm : (m, idx) ∈ pm) : ∀ e ∈ pm, (e.2 = idx ↔ e.1 = m) := by
  induction pm with
  | nil => simp at hm
  | cons kv rest ih =>
    obtain ⟨k, i⟩ := kv
    simp only [List.map_cons, List.pairwise_cons, List.mem_map, forall_exists_index, and_imp,
      forall_apply_eq_imp_iff₂, List.nodup_cons] at hs hn
    obtain ⟨hk, hrest⟩ := hs
    obtain ⟨hi, hnrest⟩ := hn
    intro e he
    simp only [List.mem_cons] at hm he
    rcases hm with hm | hm
    · injection hm with e1 e2
      subst e1; subst e2
      rcases he with rfl | he
      · simp
      · constructor
        · intro h; exact absurd h (fun h => hi ⟨e, he, h⟩)
        · intro h; have := hk e he; omega
    · rcases he with rfl | he
      · constructor
        · intro h; simp only at h; exact absurd h (fun h => hi ⟨(m, idx), hm, h.symm⟩)
        · intro h; simp only at h; subst h; have := hk _ hm; simp at this
      · exact ih hrest hnrest hm e he

/-! ### the refinement relation

`RepS s ps`: map and pages of `s` represent the abstract page list `ps`; the cached `length` is left out, because the
loops of `insert_range` / `extend_unsorted` / `remove_all` / `process` keep exactly this while `length` is stale.
`Rep s t`: the concrete set `s` represents the abstract set `t`.  Each operation takes related arguments to related
results; the invariant and the refinement square are its two projections. -/

structure RepS (s : CBitSet) (ps : Pages) : Prop where
  inv : CInvS s.pageMap s.pages
  abs : s.abs.pages = ps

structure Rep (s : CBitSet) (t : BitSet) : Prop where
  inv : CInv s
  abs : s.abs = t

namespace RepS
variable {s : CBitSet} {ps : Pages}

theorem pagesInv (h : RepS s ps) : PagesInv ps := h.abs ▸ absView_inv _ _ h.inv

theorem sumLens (h : RepS s ps) : IntSet.sumLens ps = cSumLens s.pages := by
  rw [← h.abs]; exact sumLens_absView _ _ h.inv

theorem pageOk (h : RepS s ps) {m idx : Nat} (hm : (m, idx) ∈ s.pageMap) :
    CPageOk (s.pages.getD idx CPage.zero) :=
  h.inv.pagesOk _ (mem_getD _ _ _ (h.inv.idxLt _ hm))

theorem lookup (h : RepS s ps) {m idx : Nat} (hm : (m, idx) ∈ s.pageMap) :
    lookup ps m = some (s.pages.getD idx CPage.zero).abs := by
  apply lookup_of_mem h.pagesInv.1
  rw [← h.abs, CBitSet.abs_pages, absView_cview]
  exact List.mem_map.2 ⟨(m, idx), hm, rfl⟩

theorem lookup_none (h : RepS s ps) {m : Nat} (hm : ∀ e ∈ s.pageMap, e.1 ≠ m) : IntSet.lookup ps m = none := by
  apply lookup_none_of_keys
  rw [← h.abs, CBitSet.abs_pages, absView_cview]
  intro kp hkp
  obtain ⟨e, he, rfl⟩ := List.mem_map.1 hkp
  exact hm e he

/-- overwriting a referenced page by a well-formed one = `setPage` at the major that owns it -/
theorem set (h : RepS s ps) {m idx : Nat} (hm : (m, idx) ∈ s.pageMap) {q : CPage} (hq : CPageOk q) (L : Nat) :
    RepS ⟨s.pages.set idx q, s.pageMap, L⟩ (setPage ps m q.abs) := by
  have hlt : idx < s.pages.length := h.inv.idxLt _ hm
  refine ⟨⟨by rw [List.length_set]; exact h.inv.lenEq, h.inv.sorted, h.inv.idxNodup,
    fun e he => by rw [List.length_set]; exact h.inv.idxLt e he, fun p hp => ?_⟩, ?_⟩
  · rcases List.mem_or_eq_of_mem_set hp with hp | hp
    · exact h.inv.pagesOk p hp
    · exact hp ▸ hq
  · rw [← h.abs]
    show absView (cview s.pageMap (s.pages.set idx q)) = setPage (absView (cview s.pageMap s.pages)) m q.abs
    rw [absView_cview, absView_cview, ← setPage_map (fun i => (s.pages.getD i CPage.zero).abs) q.abs s.pageMap m idx h.inv.sorted
      (map_entry_unique h.inv.sorted h.inv.idxNodup hm)]
    apply List.map_congr_left
    intro e he
    rw [getD_set]
    by_cases h1 : e.2 = idx
    · rw [if_pos ⟨h1.symm, hlt⟩, if_pos h1]
    · rw [if_neg (fun hc => h1 hc.1.symm), if_neg h1]

/-- `ensure_page_index_for_major`: a zero page at the sorted position of the abstract list; the returned index is
the map entry of the major -/
theorem ensure (h : RepS s ps) (m : Nat) :
    RepS (s.ensurePageIndexForMajor m).1 (ensurePage ps m) ∧
    (m, (s.ensurePageIndexForMajor m).2) ∈ (s.ensurePageIndexForMajor m).1.pageMap := by
  obtain ⟨_, _, _, _, s6⟩ := searchMap_spec s.pageMap h.inv.sorted m
  have hv := ensurePage_map (fun i => (s.pages.getD i CPage.zero).abs) s.pageMap m s.pages.length
    (by rw [getD_of_length_le _ (Nat.le_refl _)]; exact CPage.abs_zero)
  rw [← absView_cview, show absView (cview s.pageMap s.pages) = ps from h.abs] at hv
  unfold CBitSet.ensurePageIndexForMajor
  simp only []
  cases hr : (searchMap s.pageMap m).1
  · rw [hr] at hv
    simp only [Bool.false_eq_true, if_false] at hv ⊢
    have hperm := insertAt_perm s.pageMap (searchMap s.pageMap m).2 (m, s.pages.length)
    have hmem : ∀ e, e ∈ insertAt s.pageMap (searchMap s.pageMap m).2 (m, s.pages.length) ↔
        e = (m, s.pages.length) ∨ e ∈ s.pageMap := by
      intro e; rw [hperm.mem_iff]; simp
    have habs : absView (cview (insertAt s.pageMap (searchMap s.pageMap m).2 (m, s.pages.length))
        (s.pages ++ [CPage.zero])) = ensurePage ps m := by
      rw [cview_append_zero, absView_cview]; exact hv.symm
    refine ⟨⟨⟨?_, ?_, ?_, ?_, ?_⟩, habs⟩, (hmem _).2 (Or.inl rfl)⟩
    · rw [hperm.length_eq]; simp [h.inv.lenEq]
    · rw [← absView_keys _ (s.pages ++ [CPage.zero]), habs, ← sorted_iff_keys]
      exact ensurePage_sorted m h.pagesInv.1
    · rw [(hperm.map (·.2)).nodup_iff, List.map_cons, List.nodup_cons]
      refine ⟨fun hc => ?_, h.inv.idxNodup⟩
      obtain ⟨e, he, he2⟩ := List.mem_map.1 hc
      exact Nat.lt_irrefl _ (he2 ▸ h.inv.idxLt e he)
    · intro e he
      rw [List.length_append]
      rcases (hmem e).1 he with rfl | he
      · simp
      · exact Nat.lt_succ_of_lt (h.inv.idxLt e he)
    · intro p hp
      rcases List.mem_append.1 hp with hp | hp
      · exact h.inv.pagesOk p hp
      · exact List.mem_singleton.1 hp ▸ cpageOk_zero
  · rw [hr] at hv
    simp only [if_true] at hv ⊢
    exact ⟨⟨h.inv, h.abs.trans hv.symm⟩, searchMap_hit s.pageMap h.inv.sorted m hr⟩

/-- `page_index_for_major`: the index of the map entry of the major, if there is one -/
theorem find (h : RepS s ps) (m : Nat) :
    (∀ idx, s.pageIndexForMajor m = some idx → (m, idx) ∈ s.pageMap ∧ idx < s.pages.length) ∧
    (s.pageIndexForMajor m = none → ∀ e ∈ s.pageMap, e.1 ≠ m) := by
  obtain ⟨_, _, _, _, s6⟩ := searchMap_spec s.pageMap h.inv.sorted m
  unfold CBitSet.pageIndexForMajor
  simp only []
  cases hr : (searchMap s.pageMap m).1
  · simp only [Bool.false_eq_true, if_false]
    exact ⟨fun idx hc => by simp at hc, fun _ => s6 hr⟩
  · simp only [if_true]
    have hmem := searchMap_hit s.pageMap h.inv.sorted m hr
    refine ⟨fun idx hc => ?_, fun hc => by simp at hc⟩
    rw [← Option.some.inj hc]
    exact ⟨hmem, h.inv.idxLt (m, _) hmem⟩

end RepS

namespace Rep
variable {s : CBitSet} {t : BitSet}

theorem refl (h : CInv s) : Rep s s.abs := ⟨h, rfl⟩

theorem toS (h : Rep s t) : RepS s t.pages := ⟨h.inv.toS, by rw [← h.abs]⟩

theorem binv (h : Rep s t) : BInv t := h.abs ▸ CBitSet.abs_inv s h.inv

/-- the structure, the two cached lengths equal, and the abstract invariant give the representation (the sum
over the `pages` vector is then the sum through the map) -/
theorem of_struct {ps : Pages} {n : Nat} (hs : RepS s ps) (hl : s.len = n) (ht : BInv ⟨ps, n⟩) : Rep s ⟨ps, n⟩ := by
  have ha : s.abs = ⟨ps, n⟩ := by rw [← hs.abs, ← hl]; rfl
  exact ⟨cInv_of_struct hs.inv (ha ▸ ht), ha⟩

theorem empty : Rep CBitSet.empty BitSet.empty := ⟨cInv_empty, rfl⟩

theorem clear (s : CBitSet) : Rep s.clear BitSet.empty := empty

theorem ensure (h : Rep s t) (m : Nat) :
    Rep (s.ensurePageIndexForMajor m).1 ⟨ensurePage t.pages m, t.len⟩ ∧
    (m, (s.ensurePageIndexForMajor m).2) ∈ (s.ensurePageIndexForMajor m).1.pageMap := by
  obtain ⟨e1, e5⟩ := h.toS.ensure m
  have e3 := ensure_len s m
  have hb := h.binv
  refine ⟨of_struct e1 (e3.trans (by rw [← h.abs]; rfl)) ⟨ensurePage_inv m hb.1, ?_⟩, e5⟩
  rw [sumLens_ensurePage]; exact hb.2

theorem insert (h : Rep s t) (v : Nat) :
    Rep (s.insert v).1 (t.insert v).1 ∧ (s.insert v).2 = (t.insert v).2 := by
  obtain ⟨e1, e5⟩ := h.toS.ensure (majorOf v)
  have e3 := ensure_len s (majorOf v)
  have hp := e1.pageOk e5
  obtain ⟨a1, a2⟩ := CPage.insert_abs _ v hp
  have hb := (BitSet.insert_spec t v h.binv).1.1
  unfold BitSet.insert at hb ⊢
  unfold CBitSet.insert
  simp only [e1.lookup e5, ← a1, ← a2] at hb ⊢
  exact ⟨of_struct (e1.set e5 (CPage.insert_ok _ v hp) _) (by rw [e3, ← h.abs]; rfl) hb, trivial⟩

theorem contains (h : Rep s t) (v : Nat) : s.contains v = t.contains v := by
  obtain ⟨p1, p2⟩ := h.toS.find (majorOf v)
  unfold CBitSet.contains BitSet.contains
  cases hi : s.pageIndexForMajor (majorOf v) with
  | none => rw [h.toS.lookup_none (p2 hi)]
  | some idx =>
    obtain ⟨q1, q2⟩ := p1 idx hi
    rw [h.toS.lookup q1]
    simp only [q2, if_true]
    exact CPage.contains_abs _ v (h.toS.pageOk q1)

theorem remove (h : Rep s t) (v : Nat) :
    Rep (s.remove v).1 (t.remove v).1 ∧ (s.remove v).2 = (t.remove v).2 := by
  obtain ⟨p1, p2⟩ := h.toS.find (majorOf v)
  have hb := (BitSet.remove_spec t v h.binv).1.1
  unfold BitSet.remove at hb ⊢
  unfold CBitSet.remove
  cases hi : s.pageIndexForMajor (majorOf v) with
  | none =>
    simp only [h.toS.lookup_none (p2 hi)]
    exact ⟨h, trivial⟩
  | some idx =>
    obtain ⟨q1, q2⟩ := p1 idx hi
    obtain ⟨a1, a2⟩ := CPage.remove_abs _ v (h.toS.pageOk q1)
    simp only [h.toS.lookup q1, q2, if_true, ← a1, ← a2] at hb ⊢
    exact ⟨of_struct (h.toS.set q1 (CPage.remove_ok _ v (h.toS.pageOk q1)) _) (by rw [← h.abs]; rfl) hb, trivial⟩

end Rep

theorem RepS.rangeStep {ps : Pages} (start end_ : Nat) {st : CBitSet × Nat} (h : RepS st.1 ps) (M : Nat)
    (hlo : max start (majorStart M) ≤ min end_ (majorStart M + 511)) :
    RepS (cInsertRangeStep start end_ st M).1 (insertRangeStep start end_ (ps, st.2) M).1 ∧
    (cInsertRangeStep start end_ st M).2 = (insertRangeStep start end_ (ps, st.2) M).2 ∧
    (cInsertRangeStep start end_ st M).1.len = st.1.len := by
  obtain ⟨e1, e5⟩ := h.ensure M
  have e3 := ensure_len st.1 M
  have hp := e1.pageOk e5
  have ha := CPage.insertRange_abs _ (max start (majorStart M)) (min end_ (majorStart M + 511)) hp
    (mod_le_mod_of_page (Nat.le_max_right _ _) hlo (Nat.min_le_right _ _))
  unfold cInsertRangeStep insertRangeStep
  simp only [e1.lookup e5, ← ha]
  exact ⟨e1.set e5 (CPage.insertRange_ok _ _ _ hp) _, rfl, e3⟩

theorem RepS.insertRange_fold {ps : Pages} (start end_ : Nat) (hse : start ≤ end_) (cnt : Nat) {st : CBitSet × Nat}
    (h : RepS st.1 ps) (hcnt : majorOf start + cnt ≤ majorOf end_ + 1) :
    let r := (List.range cnt).foldl (fun st i => cInsertRangeStep start end_ st (majorOf start + i)) st
    let r' := (List.range cnt).foldl (fun st i => insertRangeStep start end_ st (majorOf start + i)) (ps, st.2)
    RepS r.1 r'.1 ∧ r.2 = r'.2 ∧ r.1.len = st.1.len := by
  refine List.foldl_rel (r := fun (r : CBitSet × Nat) (ab : Pages × Nat) => RepS r.1 ab.1 ∧ r.2 = ab.2 ∧ r.1.len = st.1.len)
    ⟨h, rfl, rfl⟩ ?_
  rintro i hi r ⟨qs, n⟩ ⟨i1, i2, i3⟩
  simp only at i2; subst i2
  obtain ⟨s1, s2, s3⟩ := i1.rangeStep start end_ (majorOf start + i)
    (page_window hse (Nat.le_add_right _ i) (by have := List.mem_range.1 hi; omega))
  exact ⟨s1, s2, s3.trans i3⟩

theorem Rep.insertRange {s : CBitSet} {t : BitSet} (h : Rep s t) (a b : Nat) :
    Rep (s.insertRange a b) (t.insertRange a b) := by
  have hb := (BitSet.insertRange_spec t a b h.binv).1
  unfold BitSet.insertRange at hb ⊢
  unfold CBitSet.insertRange
  by_cases hab : a > b
  · rw [if_pos hab, if_pos hab]; exact h
  · rw [if_neg hab] at hb ⊢
    rw [if_neg hab]
    obtain ⟨f1, f2, f3⟩ := h.toS.insertRange_fold a b (by omega) (majorOf b + 1 - majorOf a) (st := (s, 0))
      (by have := majorOf_mono (Nat.le_of_not_gt hab); omega)
    exact Rep.of_struct ⟨f1.inv, f1.abs⟩ (by simp only []; rw [f3, f2, ← h.abs]; rfl) hb

/-- what the `remove_range` loop does to the concrete page stored under major `k` -/
def rrCPage (start end_ sm em k : Nat) (p : CPage) : CPage :=
  if k < sm then p
  else if k > em then p
  else if k = sm then p.removeRange start (min (majorStart sm + 511) end_)
  else if k = em then p.removeRange (majorStart em) end_
  else p.clear

theorem rrCPage_ok (start end_ sm em k : Nat) (p : CPage) (h : CPageOk p) :
    CPageOk (rrCPage start end_ sm em k p) := by
  unfold rrCPage
  split
  · exact h
  · split
    · exact h
    · split
      · exact CPage.removeRange_ok _ _ _ h
      · split
        · exact CPage.removeRange_ok _ _ _ h
        · exact CPage.clear_ok _ h

theorem rrCPage_abs (start end_ : Nat) (hse : start ≤ end_) (k : Nat) (p : CPage) (h : CPageOk p) :
    (rrCPage start end_ (majorOf start) (majorOf end_) k p).abs =
      rrPage start end_ (majorOf start) (majorOf end_) k p.abs := by
  unfold rrCPage rrPage
  split
  · rfl
  · split
    · rfl
    · split
      · have hs := mem_own_page start
        exact CPage.removeRange_abs _ _ _ h
          (mod_le_mod_of_page hs.1 (Nat.le_min.2 ⟨hs.2, hse⟩) (Nat.min_le_left _ _))
      · split
        · have he := mem_own_page end_
          exact CPage.removeRange_abs _ _ _ h (mod_le_mod_of_page (Nat.le_refl _) he.1 he.2)
        · exact CPage.clear_abs _ h

/-- `pages[e.2] = g e.1 pages[e.2]` for the entries `e` of `es`, in order -/
def setAll (g : Nat → CPage → CPage) (es : PMap) (pages : List CPage) : List CPage :=
  es.foldl (fun P e => P.set e.2 (g e.1 (P.getD e.2 CPage.zero))) pages

theorem setAll_ok {g : Nat → CPage → CPage} (hg : ∀ k p, CPageOk p → CPageOk (g k p)) (es : PMap)
    {pages : List CPage} (h : ∀ p ∈ pages, CPageOk p) : ∀ p ∈ setAll g es pages, CPageOk p := by
  refine foldl_inv (fun P : List CPage => ∀ p ∈ P, CPageOk p) _ es (fun P e _ hP p hp => ?_) pages h
  rcases List.mem_or_eq_of_mem_set hp with hp | rfl
  · exact hP p hp
  · rw [List.getD_eq_getElem?_getD]
    cases hq : P[e.2]? with
    | none => exact hg _ _ cpageOk_zero
    | some q => exact hg _ _ (hP q (List.mem_of_getElem? hq))

theorem setAll_spec (g : Nat → CPage → CPage) (es : PMap) (pages : List CPage)
    (hn : (es.map (·.2)).Nodup) (hlt : ∀ e ∈ es, e.2 < pages.length) :
    (setAll g es pages).length = pages.length ∧
    (∀ e ∈ es, (setAll g es pages).getD e.2 CPage.zero = g e.1 (pages.getD e.2 CPage.zero)) ∧
    (∀ j, (∀ e ∈ es, e.2 ≠ j) → (setAll g es pages).getD j CPage.zero = pages.getD j CPage.zero) := by
  induction es generalizing pages with
  | nil => exact ⟨rfl, by simp, fun _ _ => rfl⟩
  | cons a es ih =>
    rw [List.map_cons, List.nodup_cons, List.mem_map] at hn
    obtain ⟨i1, i2, i3⟩ := ih (pages.set a.2 (g a.1 (pages.getD a.2 CPage.zero))) hn.2
      (fun e he => by rw [List.length_set]; exact hlt e (List.mem_cons_of_mem _ he))
    have hne : ∀ e ∈ es, e.2 ≠ a.2 := fun e he hea => hn.1 ⟨e, he, hea⟩
    refine ⟨i1.trans List.length_set, fun e he => ?_, fun j hj => ?_⟩
    · rcases List.mem_cons.1 he with rfl | he
      · exact (i3 _ hne).trans (by rw [getD_set, if_pos ⟨rfl, hlt e List.mem_cons_self⟩])
      · exact (i2 e he).trans (by rw [getD_set, if_neg (fun hc => hne e he hc.1.symm)])
    · exact (i3 j (fun e he => hj e (List.mem_cons_of_mem _ he))).trans
        (by rw [getD_set, if_neg (fun hc => hj a List.mem_cons_self hc.1)])

theorem setAll_append (g : Nat → CPage → CPage) (es fs : PMap) (pages : List CPage) :
    setAll g (es ++ fs) pages = setAll g fs (setAll g es pages) := List.foldl_append

theorem setAll_id {g : Nat → CPage → CPage} (es : PMap) (pages : List CPage) (h : ∀ e ∈ es, ∀ p, g e.1 p = p) :
    setAll g es pages = pages := by
  induction es with
  | nil => rfl
  | cons a es ih =>
    show setAll g es (pages.set a.2 (g a.1 (pages.getD a.2 CPage.zero))) = pages
    rw [h a List.mem_cons_self, set_getD_self]
    exact ih (fun e he => h e (List.mem_cons_of_mem _ he))

/-- the `loop` of `remove_range` applies `rrCPage` to the page of every map entry from `i` on: beyond the entry
at which it stops (`major > em`, or just after `em`) `rrCPage` changes nothing -/
theorem cRemoveRangeLoop_eq (start end_ sm em : Nat) (hsm : sm ≤ em) (pm : PMap)
    (hs : (pm.map (·.1)).Pairwise (· < ·)) : ∀ (fuel i : Nat) (pages : List CPage), pm.length ≤ fuel + i →
    (∀ e ∈ pm.drop i, sm ≤ e.1) → (∀ e ∈ pm.drop i, e.2 < pages.length) →
    cRemoveRangeLoop start end_ sm em pm fuel i pages = setAll (rrCPage start end_ sm em) (pm.drop i) pages := by
  -- past `em` nothing changes
  have hid : ∀ es : PMap, (∀ e ∈ es, em < e.1) → ∀ P, setAll (rrCPage start end_ sm em) es P = P :=
    fun es h P => setAll_id es P (fun e he p => by
      have := h e he
      unfold rrCPage; rw [if_neg (by omega), if_pos this])
  intro fuel
  induction fuel with
  | zero => intro i pages hf _ _; rw [List.drop_eq_nil_of_le (by omega)]; rfl
  | succ fuel ih =>
    intro i pages hf hge hlt
    unfold cRemoveRangeLoop
    by_cases hi : i < pm.length
    · have hsd := List.Pairwise.sublist ((List.drop_sublist i pm).map (·.1)) hs
      rw [drop_eq_getD_cons pm i (0, 0) hi] at hge hlt hsd ⊢
      rw [List.map_cons, List.pairwise_cons] at hsd
      generalize pm.getD i (0, 0) = info at *
      have hk : ∀ e ∈ pm.drop (i + 1), info.1 < e.1 := fun e he => hsd.1 e.1 (List.mem_map_of_mem he)
      have hge0 : ¬ info.1 < sm := Nat.not_lt.2 (hge info List.mem_cons_self)
      have hrec : ∀ q, cRemoveRangeLoop start end_ sm em pm fuel (i + 1) (pages.set info.2 q) =
          setAll (rrCPage start end_ sm em) (pm.drop (i + 1)) (pages.set info.2 q) := fun q =>
        ih _ _ (by omega) (fun e he => hge e (List.mem_cons_of_mem _ he))
          (fun e he => by rw [List.length_set]; exact hlt e (List.mem_cons_of_mem _ he))
      show _ = setAll _ (pm.drop (i + 1))
        (pages.set info.2 (rrCPage start end_ sm em info.1 (pages.getD info.2 CPage.zero)))
      rw [if_pos hi]
      simp only []
      rw [if_pos (hlt info List.mem_cons_self)]
      by_cases h1 : info.1 > em
      · rw [if_pos h1, hid _ (fun e he => Nat.lt_trans h1 (hk e he))]
        exact (hid [info] (fun e he => List.mem_singleton.1 he ▸ h1) pages).symm
      · rw [if_neg h1]
        by_cases h2 : info.1 = sm
        · rw [if_pos h2, hrec, rrCPage, if_neg hge0, if_neg h1, if_pos h2]
        · rw [if_neg h2]
          by_cases h3 : info.1 = em
          · rw [if_pos h3, hid _ (fun e he => h3 ▸ hk e he), rrCPage, if_neg hge0, if_neg h1, if_neg h2, if_pos h3]
          · rw [if_neg h3, hrec, rrCPage, if_neg hge0, if_neg h1, if_neg h2, if_neg h3]
    · rw [if_neg hi, List.drop_eq_nil_of_le (by omega)]; rfl

theorem RepS.removeRange_loop {s : CBitSet} {ps : Pages} (h : RepS s ps) {a b : Nat} (hab : a ≤ b) (L : Nat) :
    RepS ⟨cRemoveRangeLoop a b (majorOf a) (majorOf b) s.pageMap s.pageMap.length
        (searchMap s.pageMap (majorOf a)).2 s.pages, s.pageMap, L⟩
      (removeRangeLoop a b (majorOf a) (majorOf b) ps) := by
  have hmaj : majorOf a ≤ majorOf b := majorOf_mono hab
  obtain ⟨s1, s3, s4, _, _⟩ := searchMap_spec s.pageMap h.inv.sorted (majorOf a)
  generalize (searchMap s.pageMap (majorOf a)).2 = i at s1 s3 s4
  -- the entries before the search position have smaller majors, where `rrCPage` changes nothing: all entries
  have hall : cRemoveRangeLoop a b (majorOf a) (majorOf b) s.pageMap s.pageMap.length i s.pages =
      setAll (rrCPage a b (majorOf a) (majorOf b)) s.pageMap s.pages := by
    rw [cRemoveRangeLoop_eq a b _ _ hmaj _ h.inv.sorted _ _ _ (by omega) s4
      (fun e he => h.inv.idxLt e (List.mem_of_mem_drop he))]
    conv => rhs; rw [← List.take_append_drop i s.pageMap, setAll_append,
      setAll_id (s.pageMap.take i) s.pages (fun e he p => by rw [rrCPage, if_pos (s3 e he)])]
  rw [hall]
  obtain ⟨r1, r2, _⟩ := setAll_spec (rrCPage a b (majorOf a) (majorOf b)) s.pageMap s.pages h.inv.idxNodup
    h.inv.idxLt
  have rok := setAll_ok (rrCPage_ok a b (majorOf a) (majorOf b)) s.pageMap h.inv.pagesOk
  generalize setAll (rrCPage a b (majorOf a) (majorOf b)) s.pageMap s.pages = pages' at r1 r2 rok
  refine ⟨⟨by rw [r1]; exact h.inv.lenEq, h.inv.sorted, h.inv.idxNodup,
    fun e he => by rw [r1]; exact h.inv.idxLt e he, rok⟩, ?_⟩
  rw [removeRangeLoop_eq_map a b _ _ _ h.pagesInv.1, ← h.abs]
  show absView (cview s.pageMap pages') = (absView (cview s.pageMap s.pages)).map _
  rw [absView_cview, absView_cview, List.map_map]
  apply List.map_congr_left
  intro e he
  simp only [Function.comp]
  rw [r2 e he, rrCPage_abs a b hab e.1 _ (h.pageOk (m := e.1) (idx := e.2) he)]

theorem Rep.removeRange {s : CBitSet} {t : BitSet} (h : Rep s t) (a b : Nat) :
    Rep (s.removeRange a b) (t.removeRange a b) := by
  have hb := (BitSet.removeRange_spec t a b h.binv).1
  unfold BitSet.removeRange at hb ⊢
  unfold CBitSet.removeRange
  by_cases hab : a > b
  · rw [if_pos hab, if_pos hab]; exact h
  · rw [if_neg hab] at hb ⊢
    rw [if_neg hab]
    have p := h.toS.removeRange_loop (a := a) (b := b) (by omega) 0
    exact Rep.of_struct ⟨p.inv, p.abs⟩ p.sumLens.symm hb

def CBitSet.withLen (s : CBitSet) (L : Nat) : CBitSet := ⟨s.pages, s.pageMap, L⟩

theorem ensure_withLen (s : CBitSet) (L m : Nat) :
    (s.withLen L).ensurePageIndexForMajor m =
      ((s.ensurePageIndexForMajor m).1.withLen L, (s.ensurePageIndexForMajor m).2) := by
  unfold CBitSet.ensurePageIndexForMajor CBitSet.withLen
  simp only []
  split <;> rfl

theorem majorOf_ne_max {v : Nat} (hv : v < 2 ^ 32) : majorOf v ≠ U32_MAX := by
  unfold majorOf U32_MAX; omega

theorem Rep.foldInsert {s : CBitSet} {t : BitSet} (h : Rep s t) (vs : List Nat) :
    Rep (vs.foldl (fun acc v => (acc.insert v).1) s) (t.extend vs) :=
  List.foldl_rel (r := Rep) h (fun v _ _ _ hs => (hs.insert v).1)

theorem Rep.foldRemove {s : CBitSet} {t : BitSet} (h : Rep s t) (vs : List Nat) :
    Rep (vs.foldl (fun acc v => (acc.remove v).1) s) (t.removeAll vs) :=
  List.foldl_rel (r := Rep) h (fun v _ _ _ hs => (hs.remove v).1)

/-! #### `extend_unsorted`: the `is_new` flags are summed and added at the end -/

/-- the loop body of `extend_unsorted` -/
def euStep (st : CBitSet × Nat) (v : Nat) : CBitSet × Nat :=
  let e := st.1.ensurePageIndexForMajor (majorOf v)
  let q := (e.1.pages.getD e.2 CPage.zero).insert v
  (⟨e.1.pages.set e.2 q.1, e.1.pageMap, e.1.len⟩, st.2 + (if q.2 then 1 else 0))

theorem euStep_eq (st : CBitSet × Nat) (v : Nat) :
    (euStep st v).1.withLen ((euStep st v).1.len + (euStep st v).2) =
      ((st.1.withLen (st.1.len + st.2)).insert v).1 := by
  unfold euStep CBitSet.insert
  simp only []
  rw [ensure_withLen]
  simp only [CBitSet.withLen, ensure_len, Nat.add_assoc]
  rfl

theorem extendUnsorted_fold (vs : List Nat) (st : CBitSet × Nat) :
    (vs.foldl euStep st).1.withLen ((vs.foldl euStep st).1.len + (vs.foldl euStep st).2) =
      vs.foldl (fun acc v => (acc.insert v).1) (st.1.withLen (st.1.len + st.2)) :=
  List.foldl_rel (r := fun (st : CBitSet × Nat) t => st.1.withLen (st.1.len + st.2) = t) rfl
    (fun v _ st t e => by rw [← e]; exact euStep_eq st v)

theorem CBitSet.extendUnsorted_eq (s : CBitSet) (vs : List Nat) :
    s.extendUnsorted vs = vs.foldl (fun acc v => (acc.insert v).1) s :=
  extendUnsorted_fold vs (s, 0)

theorem Rep.extendUnsorted {s : CBitSet} {t : BitSet} (h : Rep s t) (vs : List Nat) :
    Rep (s.extendUnsorted vs) (t.extend vs) := by
  rw [CBitSet.extendUnsorted_eq]; exact h.foldInsert vs

theorem ensure_of_mem (s : CBitSet) (h : CInvS s.pageMap s.pages) {M idx : Nat}
    (hm : (M, idx) ∈ s.pageMap) : s.ensurePageIndexForMajor M = (s, idx) := by
  obtain ⟨_, _, _, s5, s6⟩ := searchMap_spec s.pageMap h.sorted M
  unfold CBitSet.ensurePageIndexForMajor
  simp only []
  cases hr : (searchMap s.pageMap M).1
  · exact absurd rfl (s6 hr _ hm)
  · simp only [if_true]
    rw [(map_entry_unique h.sorted h.idxNodup hm _ (searchMap_hit s.pageMap h.sorted M hr)).2 rfl]

/-- the cache of `BitSetBuilder` is valid: it is still the sentinel, or the cached index is
exactly what `ensure_page_index_for_major(last_major_value)` returns on the current set (and
that call would not change the set) -/
def CBuilder.CacheOk (b : CBuilder) : Prop :=
  b.lastMajorValue = U32_MAX ∨
    b.set.ensurePageIndexForMajor b.lastMajorValue = (b.set, b.lastPageIndex)

theorem CBuilder.insert_spec (b : CBuilder) (v : Nat) (h : CInv b.set) (hc : b.CacheOk)
    (hv : majorOf v ≠ U32_MAX) :
    (b.insert v).set = (b.set.insert v).1 ∧ (b.insert v).CacheOk := by
  have hinv := ((Rep.refl h).insert v).1.inv
  obtain ⟨e1, e4⟩ := (Rep.refl h).ensure (majorOf v)
  unfold CBuilder.insert
  extract_lets major e b1 q
  -- looked up or cached, it is the index `ensure_page_index_for_major` returns
  have hb1 : b1 = ⟨(b.set.ensurePageIndexForMajor (majorOf v)).1,
      (b.set.ensurePageIndexForMajor (majorOf v)).2, majorOf v⟩ := by
    by_cases hm : majorOf v ≠ b.lastMajorValue
    · exact if_pos hm
    · have hm' : majorOf v = b.lastMajorValue := Classical.not_not.1 hm
      rcases hc with hc | hc
      · exact absurd (hm'.trans hc) hv
      · show (if _ then _ else b) = _
        rw [if_neg hm, hm', hc]
  clear_value b1
  subst hb1
  rw [if_pos (e1.inv.idxLt _ e4)]
  exact ⟨rfl, Or.inr (ensure_of_mem (b.set.insert v).1 hinv.toS e4)⟩

theorem builder_fold (vs : List Nat) (b : CBuilder) (h : CInv b.set) (hc : b.CacheOk)
    (hv : ∀ v ∈ vs, v < 2 ^ 32) :
    (vs.foldl CBuilder.insert b).CacheOk ∧
    (vs.foldl CBuilder.insert b).set = vs.foldl (fun acc v => (acc.insert v).1) b.set :=
  (List.foldl_rel (r := fun (b : CBuilder) t => CInv b.set ∧ b.CacheOk ∧ b.set = t) ⟨h, hc, rfl⟩
    (fun v hmem b t hb => by
      obtain ⟨s1, s2⟩ := CBuilder.insert_spec b v hb.1 hb.2.1 (majorOf_ne_max (hv v hmem))
      exact ⟨s1 ▸ ((Rep.refl hb.1).insert v).1.inv, s2, by rw [s1, hb.2.2]⟩)).2

theorem CBitSet.extend_eq (s : CBitSet) (vs : List Nat) (h : CInv s) (hv : ∀ v ∈ vs, v < 2 ^ 32) :
    s.extend vs = vs.foldl (fun acc v => (acc.insert v).1) s :=
  (builder_fold vs (CBuilder.start s) h (Or.inl rfl) hv).2

theorem Rep.extend {s : CBitSet} {t : BitSet} (h : Rep s t) {vs : List Nat} (hv : ∀ v ∈ vs, v < 2 ^ 32) :
    Rep (s.extend vs) (t.extend vs) := by
  rw [CBitSet.extend_eq s vs h.inv hv]; exact h.foldInsert vs

/-- the cache of `remove_all` is valid: still the sentinel, or the cached `Option` index is what
`page_index_for_major(last_major_value)` returns on the current set -/
def CRemoveAll.CacheOk (st : CRemoveAll) : Prop :=
  st.lastMajorValue = U32_MAX ∨ st.lastPageIndex = st.set.pageIndexForMajor st.lastMajorValue

/-- the set `remove_all` would return if the loop stopped here -/
def CRemoveAll.result (st : CRemoveAll) : CBitSet := st.set.withLen (st.set.len - st.totalRemoved)

theorem CRemoveAll.step_spec (st : CRemoveAll) (v : Nat) (hc : st.CacheOk) (hv : majorOf v ≠ U32_MAX) :
    (st.step v).CacheOk ∧ (st.step v).result = (st.result.remove v).1 := by
  unfold CRemoveAll.step
  extract_lets major st1
  -- looked up or cached, it is `page_index_for_major(major)` on the current set
  have hst1 : st1 =
      ⟨st.set, st.set.pageIndexForMajor (majorOf v), majorOf v, st.totalRemoved⟩ := by
    by_cases hm : majorOf v ≠ st.lastMajorValue
    · exact if_pos hm
    · have hm' : majorOf v = st.lastMajorValue := Classical.not_not.1 hm
      rcases hc with hc | hc
      · exact absurd (hm'.trans hc) hv
      · show (if _ then _ else st) = _
        rw [if_neg hm, hm', ← hc]
  clear_value st1
  subst hst1
  have hpi : st.result.pageIndexForMajor (majorOf v) = st.set.pageIndexForMajor (majorOf v) := rfl
  unfold CBitSet.remove
  rw [hpi]
  cases hi : st.set.pageIndexForMajor (majorOf v) with
  | none => exact ⟨Or.inr hi.symm, rfl⟩
  | some idx =>
    simp only []
    by_cases hlt : idx < st.set.pages.length
    · rw [if_pos hlt, if_pos (show idx < st.result.pages.length from hlt)]
      refine ⟨Or.inr hi.symm, ?_⟩
      simp only [CRemoveAll.result, CBitSet.withLen, Nat.sub_sub]
      rfl
    · rw [if_neg hlt, if_neg (show ¬ idx < st.result.pages.length from hlt)]
      exact ⟨Or.inr hi.symm, rfl⟩

theorem removeAll_fold (vs : List Nat) (st : CRemoveAll) (hc : st.CacheOk) (hv : ∀ v ∈ vs, v < 2 ^ 32) :
    (vs.foldl CRemoveAll.step st).CacheOk ∧
    (vs.foldl CRemoveAll.step st).result = vs.foldl (fun acc v => (acc.remove v).1) st.result :=
  List.foldl_rel (r := fun (st : CRemoveAll) t => st.CacheOk ∧ st.result = t) ⟨hc, rfl⟩
    (fun v hmem st t hst => by
      obtain ⟨s1, s2⟩ := CRemoveAll.step_spec st v hst.1 (majorOf_ne_max (hv v hmem))
      exact ⟨s1, by rw [s2, hst.2]⟩)

theorem CBitSet.removeAll_eq (s : CBitSet) (vs : List Nat) (hv : ∀ v ∈ vs, v < 2 ^ 32) :
    s.removeAll vs = vs.foldl (fun acc v => (acc.remove v).1) s :=
  (removeAll_fold vs ⟨s, none, U32_MAX, 0⟩ (Or.inl rfl) hv).2

theorem Rep.removeAll {s : CBitSet} {t : BitSet} (h : Rep s t) {vs : List Nat} (hv : ∀ v ∈ vs, v < 2 ^ 32) :
    Rep (s.removeAll vs) (t.removeAll vs) := by
  rw [CBitSet.removeAll_eq s vs hv]; exact h.foldRemove vs

end FontVerif.IntSet
