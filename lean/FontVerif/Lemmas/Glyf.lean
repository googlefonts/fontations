/-
C09, simple glyphs below the byte layout: flag bits and 16-bit scalars; one coordinate through `flag_and_delta` and
both readers; flag items (`RepeatableFlag`: what one stands for, `expandRaw`, and what it costs); the run-length coder
`iter_from_flags` (one induction principle `iterFromFlags_run` behind lossless / well-formed / shortest); the readers
over any list of items (`decodeRun`, `collect_items`, `fastFlags_items`); the writer's coordinate bytes through them.
-/
import FontVerif.Model.Glyf
import FontVerif.Lemmas.Base
namespace FontVerif.Glyf

/-- a flag byte without the repeat bit -/
def FlagOk (f : Nat) : Prop := f < 256 ∧ f &&& 8 = 0

instance (f : Nat) : Decidable (FlagOk f) := by unfold FlagOk; infer_instance

theorem clearRepeat_or8 : ∀ g, g < 256 → g &&& 8 = 0 → clearRepeat (g ||| 8) = g := by
  decide +kernel

theorem clearRepeat_ok : ∀ g, g < 256 → g &&& 8 = 0 → clearRepeat g = g := by
  decide +kernel

theorem or8_or8 : ∀ g, g < 256 → (g ||| 8) ||| 8 = g ||| 8 := by decide +kernel

theorem or8_lt : ∀ g, g < 256 → g ||| 8 < 256 := by decide +kernel

theorem hasBit_or8_repeat : ∀ g, g < 256 → hasBit (g ||| 8) 8 = true := by decide +kernel

theorem hasBit_ok_repeat : ∀ g, g < 256 → g &&& 8 = 0 → hasBit g 8 = false := by decide +kernel

/-- the bits the point decoders look at are untouched by clearing the repeat bit -/
theorem hasBit_clearRepeat (f m : Nat) (hm : 0xF7 &&& m = m) :
    hasBit (clearRepeat f) m = hasBit f m := by
  unfold hasBit clearRepeat
  rw [Nat.and_assoc, hm]

theorem hasBit_or (a b m : Nat) : hasBit (a ||| b) m = (hasBit a m || hasBit b m) := by
  unfold hasBit
  rw [Nat.and_or_distrib_right]
  generalize a &&& m = x
  generalize b &&& m = y
  rw [Bool.eq_iff_iff]
  simp [Nat.or_eq_zero_iff]
  omega

theorem X_bits : hasBit X_SHORT X_SHORT = true ∧ hasBit X_SAME X_SAME = true
    ∧ hasBit X_SHORT X_SAME = false ∧ hasBit X_SAME X_SHORT = false := by decide

theorem Y_bits : hasBit Y_SHORT Y_SHORT = true ∧ hasBit Y_SAME Y_SAME = true
    ∧ hasBit Y_SHORT Y_SAME = false ∧ hasBit Y_SAME Y_SHORT = false := by decide

theorem be16_eq (v : Int) : be16 v = [(v % 65536).toNat / 256, (v % 65536).toNat % 256] := rfl

theorem i16_of_be (v : Int) (h : inI16 v) :
    wrapI16 (((((v % 65536).toNat / 256 : Nat) : Int)) * 256
      + (((v % 65536).toNat % 256 : Nat) : Int)) = v := by
  unfold wrapI16 inI16 at *
  simp only []
  split <;> omega

theorem readI16_be16 (v : Int) (h : inI16 v) (rest : List Nat) :
    readI16 (be16 v ++ rest) = (some v, rest) := by
  simp only [be16_eq, List.cons_append, List.nil_append, readI16]
  rw [i16_of_be v h]

theorem flagAndDelta_forms (v : Int) (S P : Nat) (f : Nat)
    (hS : hasBit S S = true) (hP : hasBit P P = true) (hSP : hasBit S P = false)
    (hPS : hasBit P S = false)
    (h1 : hasBit f S = hasBit (flagAndDelta v S P).1 S)
    (h2 : hasBit f P = hasBit (flagAndDelta v S P).1 P) :
    (v = 0 ∧ hasBit f S = false ∧ hasBit f P = true ∧ (flagAndDelta v S P).2.bytes = []) ∨
    (-255 ≤ v ∧ v ≤ -1 ∧ hasBit f S = true ∧ hasBit f P = false ∧
      (flagAndDelta v S P).2.bytes = [(-v).toNat]) ∨
    (1 ≤ v ∧ v ≤ 255 ∧ hasBit f S = true ∧ hasBit f P = true ∧
      (flagAndDelta v S P).2.bytes = [v.toNat]) ∨
    ((v < -255 ∨ 255 < v) ∧ hasBit f S = false ∧ hasBit f P = false ∧
      (flagAndDelta v S P).2.bytes = be16 v) := by
  have h0S : hasBit 0 S = false := by simp [hasBit]
  have h0P : hasBit 0 P = false := by simp [hasBit]
  unfold flagAndDelta at *
  by_cases hz : v = 0
  · rw [if_pos hz] at h1 h2 ⊢
    exact .inl ⟨hz, h1.trans hPS, h2.trans hP, rfl⟩
  rw [if_neg hz] at h1 h2 ⊢
  by_cases hn : -255 ≤ v ∧ v ≤ -1
  · rw [if_pos hn] at h1 h2 ⊢
    exact .inr (.inl ⟨hn.1, hn.2, h1.trans hS, h2.trans hSP, rfl⟩)
  rw [if_neg hn] at h1 h2 ⊢
  by_cases hp : 1 ≤ v ∧ v ≤ 255
  · rw [if_pos hp] at h1 h2 ⊢
    refine .inr (.inr (.inl ⟨hp.1, hp.2, ?_, ?_, rfl⟩))
    · rw [h1, hasBit_or, hS]; rfl
    · rw [h2, hasBit_or, hP, Bool.or_true]
  rw [if_neg hp] at h1 h2 ⊢
  exact .inr (.inr (.inr ⟨by omega, h1.trans h0S, h2.trans h0P, rfl⟩))

theorem readDelta_flagAndDelta (v : Int) (hv : inI16 v) (S P : Nat) (f : Nat) (rest : List Nat)
    (hS : hasBit S S = true) (hP : hasBit P P = true) (hSP : hasBit S P = false)
    (hPS : hasBit P S = false)
    (h1 : hasBit f S = hasBit (flagAndDelta v S P).1 S)
    (h2 : hasBit f P = hasBit (flagAndDelta v S P).1 P) :
    readDelta (hasBit f S) (hasBit f P) ((flagAndDelta v S P).2.bytes ++ rest) = (v, rest) := by
  rcases flagAndDelta_forms v S P f hS hP hSP hPS h1 h2 with
    ⟨rfl, a, b, e⟩ | ⟨_, _, a, b, e⟩ | ⟨_, _, a, b, e⟩ | ⟨_, a, b, e⟩ <;> rw [a, b, e]
  · rfl
  · simp only [readDelta, List.cons_append, List.nil_append, readU8, Option.getD_some]
    congr 1; omega
  · simp only [readDelta, List.cons_append, List.nil_append, readU8, Option.getD_some]
    congr 1; omega
  · simp only [readDelta, readI16_be16 v hv rest, Option.getD_some]

theorem fastDelta_flagAndDelta (v : Int) (hv : inI16 v) (S P : Nat) (f : Nat) (rest : List Nat)
    (hS : hasBit S S = true) (hP : hasBit P P = true) (hSP : hasBit S P = false)
    (hPS : hasBit P S = false)
    (h1 : hasBit f S = hasBit (flagAndDelta v S P).1 S)
    (h2 : hasBit f P = hasBit (flagAndDelta v S P).1 P) :
    fastDelta (hasBit f S) (hasBit f P) ((flagAndDelta v S P).2.bytes ++ rest) = some (v, rest) := by
  rcases flagAndDelta_forms v S P f hS hP hSP hPS h1 h2 with
    ⟨rfl, a, b, e⟩ | ⟨_, _, a, b, e⟩ | ⟨_, _, a, b, e⟩ | ⟨_, a, b, e⟩ <;> rw [a, b, e]
  · rfl
  · simp only [fastDelta, List.cons_append, List.nil_append, ↓reduceIte, Bool.false_eq_true,
      Option.some.injEq, Prod.mk.injEq, and_true]
    omega
  · simp only [fastDelta, List.cons_append, List.nil_append, ↓reduceIte, Option.some.injEq,
      Prod.mk.injEq, and_true]
    omega
  · simp only [fastDelta, be16_eq, List.cons_append, List.nil_append, Bool.false_eq_true, ↓reduceIte,
      not_false_eq_true]
    rw [i16_of_be v hv]

/-- the per-point flag of `compute_point_deltas` -/
def pointFlag (on : Bool) (dX dY : Int) : Nat :=
  (if on then ON_CURVE else 0) ||| ((flagAndDelta dX X_SHORT X_SAME).1 ||| (flagAndDelta dY Y_SHORT Y_SAME).1)

theorem flagAndDelta_x_cases (v : Int) : (flagAndDelta v X_SHORT X_SAME).1 = 16 ∨
    (flagAndDelta v X_SHORT X_SAME).1 = 2 ∨ (flagAndDelta v X_SHORT X_SAME).1 = 18 ∨
    (flagAndDelta v X_SHORT X_SAME).1 = 0 := by
  unfold flagAndDelta
  repeat' split
  all_goals simp [X_SHORT, X_SAME]

theorem flagAndDelta_y_cases (v : Int) : (flagAndDelta v Y_SHORT Y_SAME).1 = 32 ∨
    (flagAndDelta v Y_SHORT Y_SAME).1 = 4 ∨ (flagAndDelta v Y_SHORT Y_SAME).1 = 36 ∨
    (flagAndDelta v Y_SHORT Y_SAME).1 = 0 := by
  unfold flagAndDelta
  repeat' split
  all_goals simp [Y_SHORT, Y_SAME]

theorem pointFlag_facts (on : Bool) (dX dY : Int) :
    FlagOk (pointFlag on dX dY)
    ∧ hasBit (pointFlag on dX dY) ON_CURVE = on
    ∧ hasBit (pointFlag on dX dY) X_SHORT = hasBit (flagAndDelta dX X_SHORT X_SAME).1 X_SHORT
    ∧ hasBit (pointFlag on dX dY) X_SAME = hasBit (flagAndDelta dX X_SHORT X_SAME).1 X_SAME
    ∧ hasBit (pointFlag on dX dY) Y_SHORT = hasBit (flagAndDelta dY Y_SHORT Y_SAME).1 Y_SHORT
    ∧ hasBit (pointFlag on dX dY) Y_SAME = hasBit (flagAndDelta dY Y_SHORT Y_SAME).1 Y_SAME := by
  unfold pointFlag
  rcases flagAndDelta_x_cases dX with h | h | h | h <;> rcases flagAndDelta_y_cases dY with h' | h' | h' | h' <;>
    rw [h, h'] <;> cases on <;> decide

theorem flag_bits_agree (ef : Nat) (on : Bool) (dX dY : Int)
    (h : clearRepeat ef = pointFlag on dX dY) :
    hasBit ef ON_CURVE = on
    ∧ hasBit ef X_SHORT = hasBit (flagAndDelta dX X_SHORT X_SAME).1 X_SHORT
    ∧ hasBit ef X_SAME = hasBit (flagAndDelta dX X_SHORT X_SAME).1 X_SAME
    ∧ hasBit ef Y_SHORT = hasBit (flagAndDelta dY Y_SHORT Y_SAME).1 Y_SHORT
    ∧ hasBit ef Y_SAME = hasBit (flagAndDelta dY Y_SHORT Y_SAME).1 Y_SAME := by
  obtain ⟨_, fon, fxs, fxp, fys, fyp⟩ := pointFlag_facts on dX dY
  have bit : ∀ m, 0xF7 &&& m = m → hasBit ef m = hasBit (pointFlag on dX dY) m :=
    fun m hm => by rw [← hasBit_clearRepeat ef m hm, h]
  exact ⟨(bit _ (by decide)).trans fon, (bit _ (by decide)).trans fxs, (bit _ (by decide)).trans fxp,
    (bit _ (by decide)).trans fys, (bit _ (by decide)).trans fyp⟩

theorem computePointDeltas_cons {lx ly : Int} {p : Point} {ps : List Point} {ds : List PointDelta}
    (h : computePointDeltas lx ly (p :: ps) = some ds) :
    (inI16 (p.x - lx) ∧ inI16 (p.y - ly)) ∧ ∃ rest, computePointDeltas p.x p.y ps = some rest ∧
      ds = ⟨(if p.on then ON_CURVE else 0) ||| ((flagAndDelta (p.x - lx) X_SHORT X_SAME).1 |||
              (flagAndDelta (p.y - ly) Y_SHORT Y_SAME).1),
            (flagAndDelta (p.x - lx) X_SHORT X_SAME).2,
            (flagAndDelta (p.y - ly) Y_SHORT Y_SAME).2⟩ :: rest := by
  unfold computePointDeltas at h
  by_cases hin : inI16 (p.x - lx) ∧ inI16 (p.y - ly)
  · rw [if_pos hin] at h
    cases hrec : computePointDeltas p.x p.y ps with
    | none => rw [hrec] at h; cases h
    | some rest => rw [hrec] at h; exact ⟨hin, rest, rfl, (Option.some.inj h).symm⟩
  · rw [if_neg hin] at h; cases h

theorem computePointDeltas_flags (pts : List Point) : ∀ (lx ly : Int) (ds : List PointDelta),
    computePointDeltas lx ly pts = some ds → ∀ f ∈ ds.map (·.flag), FlagOk f := by
  induction pts with
  | nil => intro lx ly ds h; simp [computePointDeltas] at h; subst h; simp
  | cons p ps ih =>
    intro lx ly ds h
    obtain ⟨_, rest, hrec, rfl⟩ := computePointDeltas_cons h
    intro f hf
    simp only [List.map_cons, List.mem_cons] at hf
    rcases hf with hf | hf
    · rw [hf]; exact (pointFlag_facts p.on (p.x - lx) (p.y - ly)).1
    · exact ih p.x p.y rest hrec f hf

theorem computePointDeltas_length (pts : List Point) : ∀ (lx ly : Int) (ds : List PointDelta),
    computePointDeltas lx ly pts = some ds → ds.length = pts.length := by
  induction pts with
  | nil => intro lx ly ds h; simp [computePointDeltas] at h; subst h; rfl
  | cons p ps ih =>
    intro lx ly ds h
    obtain ⟨_, rest, hrec, rfl⟩ := computePointDeltas_cons h
    simp [ih p.x p.y rest hrec]

/-- number of points a flag item stands for, as every reader computes it:
`repeat byte + 1` when the repeat bit is set, otherwise 1. -/
def RepeatableFlag.count (r : RepeatableFlag) : Nat :=
  if hasBit r.flag REPEAT then r.rep + 1 else 1

/-- bytes an item occupies -/
def RepeatableFlag.cost (r : RepeatableFlag) : Nat := if hasBit r.flag REPEAT then 2 else 1

def rleCost (items : List RepeatableFlag) : Nat := (items.map RepeatableFlag.cost).sum

/-- flags per point as the readers see them (the repeat bit stays set on repeated flags) -/
def expandRaw (items : List RepeatableFlag) : List Nat :=
  items.flatMap (fun r => List.replicate r.count r.flag)

/-- the flags an encoding stands for -/
def expandItems (items : List RepeatableFlag) : List Nat := (expandRaw items).map clearRepeat

/-- what the writer's `debug_assert_eq!` and its `u8` repeat counter demand of an item -/
def ItemWf (i : RepeatableFlag) : Prop :=
  i.rep ≤ 255 ∧ i.flag < 256 ∧ hasBit i.flag REPEAT = decide (0 < i.rep)

theorem expandRaw_nil : expandRaw [] = [] := rfl

theorem expandRaw_cons (a : RepeatableFlag) (l : List RepeatableFlag) :
    expandRaw (a :: l) = List.replicate a.count a.flag ++ expandRaw l := by
  simp [expandRaw, List.flatMap_cons]

theorem expandRaw_append (a b : List RepeatableFlag) : expandRaw (a ++ b) = expandRaw a ++ expandRaw b := by
  simp [expandRaw, List.flatMap_append]

theorem count_plain (g : Nat) : (RepeatableFlag.mk g 0).count = 1 := by
  simp [RepeatableFlag.count]

theorem count_rep (g r : Nat) (h : g < 256) : (RepeatableFlag.mk (g ||| 8) r).count = r + 1 := by
  simp [RepeatableFlag.count, REPEAT, hasBit_or8_repeat g h]

theorem count_pos (i : RepeatableFlag) : 0 < i.count := by
  unfold RepeatableFlag.count; split <;> omega

theorem expandRaw_length_pos (items : List RepeatableFlag) (h : items ≠ []) :
    0 < (expandRaw items).length := by
  cases items with
  | nil => exact absurd rfl h
  | cons a l =>
    rw [expandRaw_cons]
    have := count_pos a
    simp only [List.length_append, List.length_replicate]
    omega

theorem expandRaw_length_zero (items : List RepeatableFlag) (h : (expandRaw items).length = 0) :
    items = [] := by
  cases items with
  | nil => rfl
  | cons a l => have := expandRaw_length_pos (a :: l) (by simp); omega

theorem RepeatableFlag.forms (i : RepeatableFlag) :
    (hasBit i.flag REPEAT = true ∧ i.bytes = [i.flag, i.rep] ∧ i.count = i.rep + 1 ∧ i.cost = 2) ∨
    (hasBit i.flag REPEAT = false ∧ i.bytes = [i.flag] ∧ i.count = 1 ∧ i.cost = 1) := by
  unfold RepeatableFlag.bytes RepeatableFlag.count RepeatableFlag.cost
  cases h : hasBit i.flag REPEAT
  · exact .inr ⟨rfl, rfl, rfl, rfl⟩
  · exact .inl ⟨rfl, rfl, rfl, rfl⟩

theorem bytes_length (r : RepeatableFlag) : r.bytes.length = r.cost := by
  unfold RepeatableFlag.bytes RepeatableFlag.cost; split <;> rfl

theorem flatMap_bytes_length (items : List RepeatableFlag) :
    (items.flatMap RepeatableFlag.bytes).length = rleCost items := by
  induction items with
  | nil => rfl
  | cons a l ih => simp [List.flatMap_cons, rleCost, bytes_length] at ih ⊢; try omega

theorem rleCost_append (a b : List RepeatableFlag) : rleCost (a ++ b) = rleCost a + rleCost b := by
  simp [rleCost, List.map_append, List.sum_append]

/-- a flag array never takes more than two bytes per point (this is the window of the fixed
`read_points_fast`) -/
theorem cost_le_two (items : List RepeatableFlag) : rleCost items ≤ 2 * (expandRaw items).length := by
  induction items with
  | nil => simp [rleCost, expandRaw]
  | cons a l ih =>
    rw [expandRaw_cons]
    simp only [rleCost, List.map_cons, List.sum_cons, List.length_append, List.length_replicate] at ih ⊢
    have h1 : a.cost ≤ 2 := by unfold RepeatableFlag.cost; split <;> omega
    have h2 := count_pos a
    omega

theorem length_le_256_cost (items : List RepeatableFlag) (h : ∀ i ∈ items, i.rep ≤ 255) :
    (expandRaw items).length ≤ 256 * rleCost items := by
  induction items with
  | nil => simp [rleCost, expandRaw]
  | cons a l ih =>
    have := ih (fun i hi => h i (by simp [hi]))
    have hr := h a (by simp)
    rw [expandRaw_cons]
    simp only [rleCost, List.map_cons, List.sum_cons, List.length_append, List.length_replicate] at this ⊢
    have : a.count ≤ 256 * a.cost := by
      unfold RepeatableFlag.cost RepeatableFlag.count
      split <;> omega
    omega

/-- state invariant of `iter_from_flags`: `prev = (g', r)` stands for `r + 1` copies of `g` -/
def PrevOk (g' g r : Nat) : Prop := (r = 0 ∧ g' = g) ∨ (0 < r ∧ g' = g ||| 8)

theorem map_clear_replicate (n g' g : Nat) (h : clearRepeat g' = g) :
    (List.replicate n g').map clearRepeat = List.replicate n g := by
  simp [List.map_replicate, h]

theorem PrevOk.clear {g' g r : Nat} (hp : PrevOk g' g r) (hlt : g < 256) (h8 : g &&& 8 = 0) :
    clearRepeat g' = g := by
  rcases hp with ⟨_, e⟩ | ⟨_, e⟩
  · rw [e]; exact clearRepeat_ok g hlt h8
  · rw [e]; exact clearRepeat_or8 g hlt h8

theorem PrevOk.or8 {g' g r : Nat} (hp : PrevOk g' g r) (hlt : g < 256) :
    g' ||| REPEAT = g ||| 8 := by
  rcases hp with ⟨_, e⟩ | ⟨_, e⟩
  · rw [e]; rfl
  · rw [e]; exact or8_or8 g hlt

/-- emitted when the run of the pending item ends; a single repeat goes out as two plain flags
(`decompose_single_repeat`) -/
def flushed (g' r : Nat) : List RepeatableFlag :=
  if r = 1 then [⟨clearRepeat g', 0⟩, ⟨clearRepeat g', 0⟩] else [⟨g', r⟩]

theorem iterFromFlags_cons (g' r f : Nat) (fs : List Nat) :
    iterFromFlags (some ⟨g', r⟩) (f :: fs) =
      if clearRepeat g' = f ∧ r < 255 then iterFromFlags (some ⟨g' ||| REPEAT, r + 1⟩) fs
      else flushed g' r ++ iterFromFlags (some ⟨f, 0⟩) fs := by
  simp only [iterFromFlags, flushed]
  split
  · rfl
  · split <;> rfl

/-- with `r + 1` copies of `g` pending, the run ends with the input, grows by one, or is flushed and
a new run starts: whatever these three steps preserve holds of the output -/
theorem iterFromFlags_run (P : Nat → Nat → List Nat → List RepeatableFlag → Prop)
    (hnil : ∀ g' g r, FlagOk g → PrevOk g' g r → r ≤ 255 → P g r [] (flushed g' r))
    (hext : ∀ g r fs out, FlagOk g → r < 255 → P g (r + 1) fs out → P g r (g :: fs) out)
    (hnew : ∀ g' g r f fs out, FlagOk g → FlagOk f → PrevOk g' g r → r ≤ 255 → (f = g → r = 255) →
      P f 0 fs out → P g r (f :: fs) (flushed g' r ++ out)) :
    ∀ (fs : List Nat) (g' g r : Nat), FlagOk g → (∀ f ∈ fs, FlagOk f) → PrevOk g' g r → r ≤ 255 →
      P g r fs (iterFromFlags (some ⟨g', r⟩) fs) := by
  intro fs
  induction fs with
  | nil => intro g' g r hg _ hp hr; exact hnil g' g r hg hp hr
  | cons f fs ih =>
    intro g' g r hg hfs hp hr
    have hf : FlagOk f := hfs f (by simp)
    have hfs' : ∀ x ∈ fs, FlagOk x := fun x hx => hfs x (by simp [hx])
    rw [iterFromFlags_cons, hp.clear hg.1 hg.2]
    by_cases h : g = f ∧ r < 255
    · rw [if_pos h, hp.or8 hg.1, ← h.1]
      exact hext g r fs _ hg h.2 (ih (g ||| 8) g (r + 1) hg hfs' (Or.inr ⟨by omega, rfl⟩) (by omega))
    · rw [if_neg h]
      exact hnew g' g r f fs _ hg hf hp hr (fun e => by have := e.symm; omega)
        (ih f f 0 hf hfs' (Or.inl ⟨rfl, rfl⟩) (by omega))

theorem flushed_forms {g' g r : Nat} (hg : FlagOk g) (hp : PrevOk g' g r) :
    (r = 1 ∧ flushed g' r = [⟨g, 0⟩, ⟨g, 0⟩]) ∨ (r = 0 ∧ flushed g' r = [⟨g, 0⟩]) ∨
    (2 ≤ r ∧ flushed g' r = [⟨g ||| 8, r⟩]) := by
  unfold flushed
  by_cases h1 : r = 1
  · rw [if_pos h1, hp.clear hg.1 hg.2]; exact .inl ⟨h1, rfl⟩
  · rw [if_neg h1]
    rcases hp with ⟨r0, e⟩ | ⟨rpos, e⟩
    · exact .inr (.inl ⟨r0, by rw [e, r0]⟩)
    · exact .inr (.inr ⟨by omega, by rw [e]⟩)

theorem flush_expand (g' g r : Nat) (hg : FlagOk g) (hp : PrevOk g' g r) :
    (expandRaw (flushed g' r)).map clearRepeat = List.replicate (r + 1) g := by
  have hc := clearRepeat_ok g hg.1 hg.2
  rcases flushed_forms hg hp with ⟨rfl, e⟩ | ⟨rfl, e⟩ | ⟨_, e⟩ <;> rw [e]
  · simp [expandRaw_cons, expandRaw_nil, count_plain, List.replicate, hc]
  · simp [expandRaw_cons, expandRaw_nil, count_plain, List.replicate, hc]
  · simp only [expandRaw_cons, expandRaw_nil, count_rep g r hg.1, List.append_nil]
    exact map_clear_replicate _ _ _ (clearRepeat_or8 g hg.1 hg.2)

theorem iterFromFlags_some_expand (fs : List Nat) :
    ∀ (g' g r : Nat), FlagOk g → (∀ f ∈ fs, FlagOk f) → PrevOk g' g r → r ≤ 255 →
      (expandRaw (iterFromFlags (some ⟨g', r⟩) fs)).map clearRepeat
        = List.replicate (r + 1) g ++ fs := by
  refine iterFromFlags_run
    (fun g r fs out => (expandRaw out).map clearRepeat = List.replicate (r + 1) g ++ fs) ?_ ?_ ?_ fs
  · intro g' g r hg hp _
    rw [flush_expand g' g r hg hp, List.append_nil]
  · intro g r fs out _ _ h
    rw [h]; simp [List.replicate_succ', List.append_assoc]
  · intro g' g r f fs out hg _ hp _ _ h
    rw [expandRaw_append, List.map_append, flush_expand g' g r hg hp, h]; rfl

theorem iterFromFlags_expand (fs : List Nat) (h : ∀ f ∈ fs, FlagOk f) :
    (expandRaw (iterFromFlags none fs)).map clearRepeat = fs := by
  cases fs with
  | nil => simp [iterFromFlags, expandRaw]
  | cons f fs =>
    simp only [iterFromFlags]
    have := iterFromFlags_some_expand fs f f 0 (h f (by simp))
      (fun x hx => h x (by simp [hx])) (Or.inl ⟨rfl, rfl⟩) (by omega)
    simpa using this

theorem flush_wf (g' g r : Nat) (hg : FlagOk g) (hp : PrevOk g' g r) (hr : r ≤ 255) :
    ∀ i ∈ flushed g' r, ItemWf i := by
  have plain : ItemWf ⟨g, 0⟩ := ⟨by simp, hg.1, by simp [REPEAT, hasBit_ok_repeat g hg.1 hg.2]⟩
  rcases flushed_forms hg hp with ⟨_, e⟩ | ⟨_, e⟩ | ⟨h2, e⟩ <;> rw [e] <;> intro i hi
  · simp only [List.mem_cons, List.not_mem_nil, or_false, or_self] at hi; rw [hi]; exact plain
  · rw [List.mem_singleton.1 hi]; exact plain
  · rw [List.mem_singleton.1 hi]
    exact ⟨hr, or8_lt g hg.1, by simp [REPEAT, hasBit_or8_repeat g hg.1, show 0 < r by omega]⟩

theorem iterFromFlags_some_wf (fs : List Nat) :
    ∀ (g' g r : Nat), FlagOk g → (∀ f ∈ fs, FlagOk f) → PrevOk g' g r → r ≤ 255 →
      ∀ i ∈ iterFromFlags (some ⟨g', r⟩) fs, ItemWf i := by
  refine iterFromFlags_run (fun _ _ _ out => ∀ i ∈ out, ItemWf i) ?_ ?_ ?_ fs
  · intro g' g r hg hp hr
    exact flush_wf g' g r hg hp hr
  · intro g r fs out _ _ h
    exact h
  · intro g' g r f fs out hg _ hp hr _ h i hi
    exact (List.mem_append.1 hi).elim (flush_wf g' g r hg hp hr i) (h i)

theorem iterFromFlags_wf (fs : List Nat) (h : ∀ f ∈ fs, FlagOk f) :
    ∀ i ∈ iterFromFlags none fs, ItemWf i := by
  cases fs with
  | nil => simp [iterFromFlags]
  | cons f fs =>
    simp only [iterFromFlags]
    exact iterFromFlags_some_wf fs f f 0 (h f (by simp)) (fun x hx => h x (by simp [hx]))
      (Or.inl ⟨rfl, rfl⟩) (by omega)

/-- the fewest bytes that can stand for a run of `n` identical flags: a two-byte item covers up
to 256 of them, a one-byte item one. -/
def runCost (n : Nat) : Nat :=
  2 * (n / 256) + (if n % 256 = 0 then 0 else if n % 256 = 1 then 1 else 2)

theorem runCost_eq_min (n : Nat) : runCost n = 2 * (n / 256) + min (n % 256) 2 := by
  unfold runCost
  generalize n % 256 = r
  split
  · omega
  · split <;> omega

theorem runCost_subadd (a b : Nat) : runCost (a + b) ≤ runCost a + runCost b := by
  simp only [runCost_eq_min]
  omega

/-- sum of `runCost` over the maximal runs of a flag list; `optAux g n` has a run of `n`
copies of `g` pending. -/
def optAux (g : Nat) (n : Nat) : List Nat → Nat
  | [] => runCost n
  | f :: fs => if f = g then optAux g (n + 1) fs else runCost n + optAux f 1 fs

def optCost : List Nat → Nat
  | [] => 0
  | f :: fs => optAux f 1 fs

theorem optAux_split (g : Nat) (rest : List Nat) :
    ∀ n m, optAux g (n + m) rest ≤ runCost n + optAux g m rest := by
  induction rest generalizing g with
  | nil => intro n m; simp only [optAux]; exact runCost_subadd n m
  | cons f fs ih =>
    intro n m
    simp only [optAux]
    split
    · have := ih g n (m + 1)
      rw [← Nat.add_assoc] at this
      exact this
    · have := runCost_subadd n m
      omega

theorem optAux_replicate (g : Nat) (rest : List Nat) :
    ∀ k n, optAux g n (List.replicate k g ++ rest) = optAux g (n + k) rest := by
  intro k
  induction k with
  | zero => intro n; simp
  | succ k ih =>
    intro n
    simp only [List.replicate_succ, List.cons_append, optAux, ↓reduceIte]
    rw [ih (n + 1)]
    congr 1
    omega

theorem optCost_replicate_append (g k : Nat) (hk : 0 < k) (rest : List Nat) :
    optCost (List.replicate k g ++ rest) ≤ runCost k + optCost rest := by
  obtain ⟨j, rfl⟩ : ∃ j, k = j + 1 := ⟨k - 1, by omega⟩
  simp only [List.replicate_succ, List.cons_append, optCost]
  rw [optAux_replicate g rest j 1]
  have e : 1 + j = j + 1 := by omega
  rw [e]
  cases rest with
  | nil => simp [optAux]
  | cons f fs =>
    simp only [optAux]
    split
    · rename_i hfg
      subst hfg
      exact optAux_split f fs (j + 1) 1
    · omega

theorem item_cost_ge (i : RepeatableFlag) (h : i.rep ≤ 255) : runCost i.count ≤ i.cost := by
  unfold RepeatableFlag.count RepeatableFlag.cost runCost
  split
  · repeat' split
    all_goals omega
  · simp

theorem optCost_le_any (items : List RepeatableFlag) (h : ∀ i ∈ items, i.rep ≤ 255) :
    optCost (expandItems items) ≤ rleCost items := by
  induction items with
  | nil => simp [expandItems, expandRaw, optCost, rleCost]
  | cons a l ih =>
    have ih' := ih (fun i hi => h i (by simp [hi]))
    have ha := item_cost_ge a (h a (by simp))
    have : expandItems (a :: l) = List.replicate a.count (clearRepeat a.flag) ++ expandItems l := by
      simp [expandItems, expandRaw_cons, List.map_append, List.map_replicate]
    rw [this]
    have := optCost_replicate_append (clearRepeat a.flag) a.count (count_pos a) (expandItems l)
    simp only [rleCost, List.map_cons, List.sum_cons] at ih' ⊢
    omega

theorem flush_cost (g' g r k : Nat) (hg : FlagOk g) (hp : PrevOk g' g r) (hr : r ≤ 255) :
    2 * k + rleCost (flushed g' r) = runCost (256 * k + r + 1) := by
  have c1 : (RepeatableFlag.mk g 0).cost = 1 := by
    simp [RepeatableFlag.cost, REPEAT, hasBit_ok_repeat g hg.1 hg.2]
  have c2 : (RepeatableFlag.mk (g ||| 8) r).cost = 2 := by
    simp [RepeatableFlag.cost, REPEAT, hasBit_or8_repeat g hg.1]
  rw [runCost_eq_min]
  rcases flushed_forms hg hp with ⟨_, e⟩ | ⟨_, e⟩ | ⟨_, e⟩ <;> rw [e] <;>
    simp only [rleCost, List.map_cons, List.map_nil, List.sum_cons, List.sum_nil, c1, c2] <;> omega

theorem iterFromFlags_some_cost (fs : List Nat) :
    ∀ (g' g r : Nat), FlagOk g → (∀ f ∈ fs, FlagOk f) → PrevOk g' g r → r ≤ 255 →
      ∀ k, 2 * k + rleCost (iterFromFlags (some ⟨g', r⟩) fs) = optAux g (256 * k + r + 1) fs := by
  refine iterFromFlags_run
    (fun g r fs out => ∀ k, 2 * k + rleCost out = optAux g (256 * k + r + 1) fs) ?_ ?_ ?_ fs
  · intro g' g r hg hp hr k
    exact flush_cost g' g r k hg hp hr
  · intro g r fs out _ _ h k
    rw [optAux, if_pos rfl]
    exact h k
  · intro g' g r f fs out hg _ hp hr hfg h k
    have key := flush_cost g' g r k hg hp hr
    rw [rleCost_append, optAux]
    by_cases e : f = g
    · -- a full item of 256 flags: the run goes on in a new item
      obtain rfl := hfg e
      subst e
      rw [if_pos rfl]
      have := h (k + 1)
      rw [show 256 * (k + 1) + 0 + 1 = 256 * k + 255 + 1 + 1 by omega] at this
      rw [runCost_eq_min] at key
      omega
    · rw [if_neg e]
      have := h 0
      simp only [Nat.mul_zero, Nat.zero_add] at this
      omega

theorem iterFromFlags_cost (fs : List Nat) (h : ∀ f ∈ fs, FlagOk f) :
    rleCost (iterFromFlags none fs) = optCost fs := by
  cases fs with
  | nil => simp [iterFromFlags, rleCost, optCost]
  | cons f fs =>
    simp only [iterFromFlags, optCost]
    have := iterFromFlags_some_cost fs f f 0 (h f (by simp)) (fun x hx => h x (by simp [hx]))
      (Or.inl ⟨rfl, rfl⟩) (by omega) 0
    simpa using this

/-- coordinate part of the iterator state -/
structure CS where
  xs : List Nat
  ys : List Nat
  cx : Int
  cy : Int

/-- `advance_points` + the emitted point, for current flags `f` -/
def stepCS (f : Nat) (c : CS) : Point × CS :=
  let dx := readDelta (hasBit f X_SHORT) (hasBit f X_SAME) c.xs
  let dy := readDelta (hasBit f Y_SHORT) (hasBit f Y_SAME) c.ys
  (⟨wrapI16 (c.cx + dx.1), wrapI16 (c.cy + dy.1), hasBit f ON_CURVE⟩,
   ⟨dx.2, dy.2, wrapI16 (c.cx + dx.1), wrapI16 (c.cy + dy.1)⟩)

/-- the `PointIter` state machine as a per-flag fold over the expanded flags -/
def decodeRun : List Nat → CS → List Point × CS
  | [], c => ([], c)
  | f :: fs, c =>
    let r := decodeRun fs (stepCS f c).2
    ((stepCS f c).1 :: r.1, r.2)

theorem decodeRun_append (a b : List Nat) : ∀ c,
    decodeRun (a ++ b) c =
      ((decodeRun a c).1 ++ (decodeRun b (decodeRun a c).2).1, (decodeRun b (decodeRun a c).2).2) := by
  induction a with
  | nil => intro c; simp [decodeRun]
  | cons f fs ih => intro c; simp [decodeRun, ih]

theorem decodeRun_length (fs : List Nat) : ∀ c, (decodeRun fs c).1.length = fs.length := by
  induction fs with
  | nil => intro c; rfl
  | cons f fs ih => intro c; simp [decodeRun, ih]

theorem next_mid (flags xs ys : List Nat) (k f : Nat) (cx cy : Int) :
    (PointIter.mk flags xs ys (k + 1) f cx cy).next =
      some ((stepCS f ⟨xs, ys, cx, cy⟩).1,
        PointIter.mk flags (stepCS f ⟨xs, ys, cx, cy⟩).2.xs (stepCS f ⟨xs, ys, cx, cy⟩).2.ys k f
          (stepCS f ⟨xs, ys, cx, cy⟩).2.cx (stepCS f ⟨xs, ys, cx, cy⟩).2.cy) := by
  simp [PointIter.next, PointIter.advanceFlags, PointIter.advancePoints, stepCS]

theorem next_start (i : RepeatableFlag) (rest xs ys : List Nat) (f0 : Nat) (cx cy : Int) :
    (PointIter.mk (i.bytes ++ rest) xs ys 0 f0 cx cy).next =
      some ((stepCS i.flag ⟨xs, ys, cx, cy⟩).1,
        PointIter.mk rest (stepCS i.flag ⟨xs, ys, cx, cy⟩).2.xs (stepCS i.flag ⟨xs, ys, cx, cy⟩).2.ys
          (i.count - 1) i.flag
          (stepCS i.flag ⟨xs, ys, cx, cy⟩).2.cx (stepCS i.flag ⟨xs, ys, cx, cy⟩).2.cy) := by
  rcases i.forms with ⟨h, hb, hc, _⟩ | ⟨h, hb, hc, _⟩ <;> rw [hb, hc] <;>
    simp [h, PointIter.next, PointIter.advanceFlags, PointIter.advancePoints, stepCS]

theorem collect_mid (k : Nat) : ∀ (fuel : Nat) (flags xs ys : List Nat) (f : Nat) (cx cy : Int),
    k ≤ fuel →
    PointIter.collect fuel (PointIter.mk flags xs ys k f cx cy) =
      (decodeRun (List.replicate k f) ⟨xs, ys, cx, cy⟩).1 ++
        PointIter.collect (fuel - k)
          (PointIter.mk flags (decodeRun (List.replicate k f) ⟨xs, ys, cx, cy⟩).2.xs
            (decodeRun (List.replicate k f) ⟨xs, ys, cx, cy⟩).2.ys 0 f
            (decodeRun (List.replicate k f) ⟨xs, ys, cx, cy⟩).2.cx
            (decodeRun (List.replicate k f) ⟨xs, ys, cx, cy⟩).2.cy) := by
  induction k with
  | zero => intro fuel flags xs ys f cx cy _; simp [decodeRun]
  | succ k ih =>
    intro fuel flags xs ys f cx cy hk
    obtain ⟨fuel', rfl⟩ : ∃ m, fuel = m + 1 := ⟨fuel - 1, by omega⟩
    simp only [PointIter.collect, next_mid]
    rw [ih fuel' flags _ _ f _ _ (by omega)]
    simp [List.replicate_succ, decodeRun]

theorem collect_items (items : List RepeatableFlag) :
    ∀ (fuel : Nat) (xs ys : List Nat) (f0 : Nat) (cx cy : Int),
    (expandRaw items).length ≤ fuel →
    PointIter.collect fuel (PointIter.mk (items.flatMap RepeatableFlag.bytes) xs ys 0 f0 cx cy) =
      (decodeRun (expandRaw items) ⟨xs, ys, cx, cy⟩).1 := by
  induction items with
  | nil =>
    intro fuel xs ys f0 cx cy _
    cases fuel <;> simp [PointIter.collect, PointIter.next, PointIter.advanceFlags, expandRaw, decodeRun]
  | cons i rest ih =>
    intro fuel xs ys f0 cx cy hk
    have hc := count_pos i
    rw [expandRaw_cons] at hk ⊢
    simp only [List.length_append, List.length_replicate] at hk
    obtain ⟨fuel', rfl⟩ : ∃ m, fuel = m + 1 := ⟨fuel - 1, by omega⟩
    obtain ⟨j, hj⟩ : ∃ j, i.count = j + 1 := ⟨i.count - 1, by omega⟩
    simp only [List.flatMap_cons, PointIter.collect, next_start]
    rw [collect_mid (i.count - 1) fuel' _ _ _ _ _ _ (by omega)]
    rw [ih (fuel' - (i.count - 1)) _ _ _ _ _ (by omega)]
    rw [decodeRun_append]
    rw [hj]
    simp [List.replicate_succ, decodeRun]

theorem fastFlags_items (items : List RepeatableFlag) :
    ∀ (more : List Nat), items ≠ [] →
      fastFlags (items.flatMap RepeatableFlag.bytes ++ more) (expandRaw items).length
        = some (expandRaw items, rleCost items) := by
  induction items with
  | nil => intro more h; exact absurd rfl h
  | cons i rest ih =>
    intro more _
    rw [expandRaw_cons]
    simp only [List.flatMap_cons, List.length_append, List.length_replicate, List.append_assoc, rleCost,
      List.map_cons, List.sum_cons]
    -- after this item either every point has its flag, or the rest of the items follows
    have htail : ∀ (c k : Nat) (fl : List Nat), k = (expandRaw rest).length →
        (if k = 0 then some (fl, c)
          else (fastFlags (rest.flatMap RepeatableFlag.bytes ++ more) k).map (fun p => (fl ++ p.1, p.2 + c)))
          = some (fl ++ expandRaw rest, c + (rest.map RepeatableFlag.cost).sum) := by
      intro c k fl hk
      subst hk
      by_cases hz : (expandRaw rest).length = 0
      · rw [if_pos hz, expandRaw_length_zero rest hz]; simp [expandRaw]
      · have hne : rest ≠ [] := by intro e; subst e; simp [expandRaw] at hz
        rw [if_neg hz, ih more hne]; simp [rleCost, Nat.add_comm]
    rcases i.forms with ⟨hb, hby, hc, hcost⟩ | ⟨hb, hby, hc, hcost⟩
    · rw [hby, hc, hcost]
      simp only [List.cons_append, List.nil_append, fastFlags, hb, if_true,
        show min (i.rep + 1) (i.rep + 1 + (expandRaw rest).length) = i.rep + 1 by omega,
        Nat.add_sub_cancel_left]
      exact htail 2 _ _ rfl
    · rw [hby, hc, hcost]
      unfold fastFlags
      simp only [List.cons_append, List.nil_append, hb, Bool.false_eq_true, if_false,
        Nat.add_sub_cancel_left, List.replicate_one]
      exact htail 1 _ [i.flag] rfl

def PointsInRange (pts : List Point) : Prop := ∀ p ∈ pts, inI16 p.x ∧ inI16 p.y

theorem fastCoords_step (S P : Nat) (hb : hasBit S S = true ∧ hasBit P P = true ∧ hasBit S P = false
      ∧ hasBit P S = false) (v acc : Int) (hv : inI16 v) (hs : inI16 (acc + v)) (f : Nat)
    (h1 : hasBit f S = hasBit (flagAndDelta v S P).1 S)
    (h2 : hasBit f P = hasBit (flagAndDelta v S P).1 P) (fs cur : List Nat) :
    fastCoords S P (f :: fs) ((flagAndDelta v S P).2.bytes ++ cur) acc =
      (fastCoords S P fs cur (acc + v)).map (fun p => ((acc + v) :: p.1, p.2)) := by
  have hw : wrapI32 (acc + v) = acc + v := wrapI32_of_in (by unfold inI16 at hs; omega) (by unfold inI16 at hs; omega)
  simp only [fastCoords, fastDelta_flagAndDelta v hv S P f cur hb.1 hb.2.1 hb.2.2.1 hb.2.2.2 h1 h2, hw]

theorem fastCoords_xy (pts : List Point) :
    ∀ (lx ly : Int) (ds : List PointDelta) (efs : List Nat) (xr yr : List Nat),
    PointsInRange pts → computePointDeltas lx ly pts = some ds →
    efs.map clearRepeat = ds.map (·.flag) →
    fastCoords X_SHORT X_SAME efs (xBytes ds ++ xr) lx = some (pts.map (·.x), xr) ∧
    fastCoords Y_SHORT Y_SAME efs (yBytes ds ++ yr) ly = some (pts.map (·.y), yr) := by
  induction pts with
  | nil =>
    intro lx ly ds efs xr yr _ h he
    simp [computePointDeltas] at h; subst h
    simp at he; subst he
    simp [fastCoords, xBytes, yBytes]
  | cons p ps ih =>
    intro lx ly ds efs xr yr hr h he
    have hp := hr p (by simp)
    obtain ⟨hin, rest, hrec, rfl⟩ := computePointDeltas_cons h
    cases efs with
    | nil => simp at he
    | cons ef efs' =>
      simp only [List.map_cons, List.cons.injEq] at he
      obtain ⟨he1, he2⟩ := he
      obtain ⟨_, b2, b3, b4, b5⟩ := flag_bits_agree ef p.on (p.x - lx) (p.y - ly) he1
      obtain ⟨ihx, ihy⟩ := ih p.x p.y rest efs' xr yr (fun q hq => hr q (by simp [hq])) hrec he2
      have ex : lx + (p.x - lx) = p.x := by omega
      have ey : ly + (p.y - ly) = p.y := by omega
      constructor
      · rw [xBytes, List.flatMap_cons, List.append_assoc, fastCoords_step X_SHORT X_SAME X_bits _ _
          hin.1 (by rw [ex]; exact hp.1) ef b2 b3, ex, ← xBytes, ihx]
        rfl
      · rw [yBytes, List.flatMap_cons, List.append_assoc, fastCoords_step Y_SHORT Y_SAME Y_bits _ _
          hin.2 (by rw [ey]; exact hp.2) ef b4 b5, ey, ← yBytes, ihy]
        rfl

theorem on_bits (pts : List Point) :
    ∀ (lx ly : Int) (ds : List PointDelta) (efs : List Nat),
    computePointDeltas lx ly pts = some ds → efs.map clearRepeat = ds.map (·.flag) →
    efs.map (fun f => f &&& 1) = pts.map (fun p => if p.on then 1 else 0) := by
  induction pts with
  | nil =>
    intro lx ly ds efs h he
    simp [computePointDeltas] at h; subst h
    simp at he; subst he; rfl
  | cons p ps ih =>
    intro lx ly ds efs h he
    obtain ⟨_, rest, hrec, rfl⟩ := computePointDeltas_cons h
    cases efs with
    | nil => simp at he
    | cons ef efs' =>
      simp only [List.map_cons, List.cons.injEq] at he
      obtain ⟨he1, he2⟩ := he
      have b1 := (flag_bits_agree ef p.on (p.x - lx) (p.y - ly) he1).1
      simp only [List.map_cons, List.cons.injEq]
      refine ⟨?_, ih p.x p.y rest efs' hrec he2⟩
      have hb : ef &&& 1 = 0 ∨ ef &&& 1 = 1 := by
        have : ef &&& 1 = ef % 2 := Nat.and_one_is_mod ef
        omega
      unfold hasBit ON_CURVE at b1
      rcases hb with hb | hb <;> rw [hb] at b1 ⊢ <;> cases hon : p.on <;> simp [hon] at b1 ⊢

end FontVerif.Glyf
