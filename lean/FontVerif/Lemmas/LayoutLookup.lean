/-
Helper lemmas for C16 (lookup level): maps with replace-or-append insertion, `split_subtables` as list
surgery, first match over a lookup whose subtables are replaced in place by their pieces.
-/
import FontVerif.Model.LayoutLookup
import FontVerif.Lemmas.Lists
namespace FontVerif.Layout

/-! ### maps with "replace or append" insertion (`HashMap`, and `BTreeMap`s whose order is not used) -/

theorem cellInsert_lookup {K V : Type} [DecidableEq K] [BEq K] [LawfulBEq K] (k : K) (v : V)
    (l : List (K × V)) (k' : K) :
    (cellInsert k v l).lookup k' = if k' = k then some v else l.lookup k' := by
  induction l with
  | nil => rw [cellInsert, lookup_cons_ite]
  | cons e rest ih =>
    obtain ⟨k0, v0⟩ := e
    rw [cellInsert]
    by_cases hek : k0 = k
    · rw [if_pos hek, lookup_cons_ite, lookup_cons_ite, hek]
      by_cases h : k' = k
      · rw [if_pos h, if_pos h]
      · rw [if_neg h, if_neg h, if_neg h]
    · rw [if_neg hek, lookup_cons_ite, lookup_cons_ite, ih]
      by_cases h : k' = k0
      · rw [if_pos h, if_neg (fun e => hek (h.symm.trans e)), if_pos h]
      · rw [if_neg h, if_neg h]

theorem cellInsert_keys {K V : Type} [DecidableEq K] (k : K) (v : V) (l : List (K × V)) :
    (cellInsert k v l).map (·.1) = if k ∈ l.map (·.1) then l.map (·.1) else l.map (·.1) ++ [k] := by
  induction l with
  | nil => simp [cellInsert]
  | cons e rest ih =>
    unfold cellInsert
    by_cases hek : e.1 = k
    · simp [hek]
    · have hne : ¬ k = e.1 := fun h => hek h.symm
      simp only [hek, ↓reduceIte, List.map_cons, ih, List.mem_cons, hne, false_or]
      split <;> simp

theorem cellInsert_keys_nodup {K V : Type} [DecidableEq K] (k : K) (v : V) {l : List (K × V)}
    (h : (l.map (·.1)).Nodup) : ((cellInsert k v l).map (·.1)).Nodup := by
  rw [cellInsert_keys]
  by_cases hk : k ∈ l.map (·.1)
  · rw [if_pos hk]; exact h
  · rw [if_neg hk]; exact nodup_concat h hk

theorem splitMapInsert_eq (k : Nat) (v : List Nat) :
    ∀ (m : List (Nat × List Nat)), splitMapInsert k v m = cellInsert k v m
  | [] => rfl
  | e :: rest => by rw [splitMapInsert, cellInsert, splitMapInsert_eq k v rest]

theorem splitMapGet_eq_lookup (m : List (Nat × List Nat)) (k : Nat) : splitMapGet m k = m.lookup k :=
  find?_fst_eq_lookup k m

theorem splitMapGet_insert (k : Nat) (v : List Nat) (m : List (Nat × List Nat)) (o : Nat) :
    splitMapGet (splitMapInsert k v m) o = if o = k then some v else splitMapGet m o := by
  rw [splitMapInsert_eq, splitMapGet_eq_lookup, splitMapGet_eq_lookup, cellInsert_lookup]

/-- every entry of the map was put there by one of the calls (or was there before) -/
theorem collectSplits_get (f : Nat → Nat → Option (List Nat)) :
    ∀ (os : List Nat) (i : Nat) (m : List (Nat × List Nat)) (o : Nat) (ps : List Nat),
      splitMapGet (collectSplits f i os m) o = some ps →
      splitMapGet m o = some ps ∨ ∃ j, f j o = some ps := by
  intro os
  induction os with
  | nil => intro i m o ps h; exact Or.inl h
  | cons x xs ih =>
    intro i m o ps h
    unfold collectSplits at h
    rcases ih (i + 1) _ o ps h with h' | h'
    · cases hf : f i x with
      | none => rw [hf] at h'; exact Or.inl h'
      | some s =>
        rw [hf] at h'
        simp only at h'
        rw [splitMapGet_insert] at h'
        by_cases hox : o = x
        · simp only [hox, ↓reduceIte, Option.some.injEq] at h'
          exact Or.inr ⟨i, by rw [hox, hf, h']⟩
        · simp only [hox, ↓reduceIte] at h'
          exact Or.inl h'
    · exact Or.inr h'

theorem replacement_nil (o : Nat) : replacement [] o = [o] := rfl

/-- in both branches the offsets written are the old offsets with every entry replaced by its
replacement, and the count field is their number -/
theorem splitSubtables_spec (lk : LookupG) (f : Nat → Nat → Option (List Nat)) (out : LookupOut)
    (h : splitSubtables lk f = some out) :
    out.offsets = lk.offsets.flatMap (replacement (collectSplits f 0 lk.offsets [])) ∧
    out.subtableCount = out.offsets.length ∧
    out.lookupType = lk.lookupType ∧ out.flag = lk.flag ∧
    out.markFilteringSet = lk.markFilteringSet := by
  unfold splitSubtables at h
  simp only at h
  by_cases hm : (collectSplits f 0 lk.offsets []).isEmpty = true
  · simp only [hm, ↓reduceIte, Option.some.injEq] at h
    subst h
    have : collectSplits f 0 lk.offsets [] = [] := List.isEmpty_iff.mp hm
    rw [this]
    refine ⟨?_, rfl, rfl, rfl, rfl⟩
    show lk.offsets = lk.offsets.flatMap (replacement [])
    have : replacement [] = fun o => [o] := funext replacement_nil
    rw [this, List.flatMap_singleton']
  · simp only [hm, Bool.false_eq_true, ↓reduceIte] at h
    split at h
    · cases h
    · simp only [Option.some.injEq] at h
      subst h
      refine ⟨rfl, ?_, rfl, rfl, rfl⟩
      simp only [List.length_flatMap]
      congr 1
      apply List.map_congr_left
      intro o _
      unfold replacement
      cases splitMapGet (collectSplits f 0 lk.offsets []) o <;> rfl

/-- first match over a list whose entries are replaced in place by semantically equal pieces -/
theorem findSome_flatMap_pieces {α R : Type} (look : α → Option R) (repl : α → List α)
    (l : List α) (h : ∀ o ∈ l, (repl o).findSome? look = look o) :
    (l.flatMap repl).findSome? look = l.findSome? look := by
  induction l with
  | nil => rfl
  | cons a l ih =>
    rw [List.flatMap_cons, List.findSome?_append, h a (List.mem_cons_self ..),
      ih (fun o ho => h o (List.mem_cons_of_mem _ ho)), List.findSome?_cons]
    cases look a <;> rfl

def AllValid {S C : Type} (Valid : S → C → Prop) : List S → List C → Prop
  | [], [] => True
  | t :: ts, c :: cs => Valid t c ∧ AllValid Valid ts cs
  | _, _ => False

theorem splitLookupWith_preserves {S C Q R : Type} (splitOne : S → C → Option (List S))
    (look : S → Q → Option R) (Valid : S → C → Prop)
    (hOne : ∀ t c, Valid t c → ∃ ps, splitOne t c = some ps ∧
      ∀ q, ps.findSome? (fun p => look p q) = look t q) :
    ∀ (ts : List S) (cs : List C), AllValid Valid ts cs →
      ∃ ts', splitLookupWith splitOne ts cs = some ts' ∧
        ∀ q, ts'.findSome? (fun p => look p q) = ts.findSome? (fun p => look p q) := by
  intro ts
  induction ts with
  | nil =>
    intro cs hv
    cases cs with
    | nil => exact ⟨[], rfl, fun _ => rfl⟩
    | cons c cs => exact absurd hv (by simp [AllValid])
  | cons t ts ih =>
    intro cs hv
    cases cs with
    | nil => exact absurd hv (by simp [AllValid])
    | cons c cs =>
      obtain ⟨hv1, hv2⟩ := hv
      obtain ⟨ps, hps, hq⟩ := hOne t c hv1
      obtain ⟨rest, hrest, hr⟩ := ih cs hv2
      refine ⟨ps ++ rest, by simp [splitLookupWith, hps, hrest], fun q => ?_⟩
      rw [List.findSome?_append, hq q, hr q, List.findSome?_cons]
      cases look t q <;> rfl

end FontVerif.Layout
