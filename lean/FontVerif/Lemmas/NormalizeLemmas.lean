/-
`VariationAxisRecord::normalize` and `SegmentMaps::apply` (Model/Normalize.lean): `Fixed.div` / `Fixed.mulDiv` on
the operand ranges that occur there are the rounded quotients `divQ` / `mdQ`; `normalize` is two clamps around
`core`; `applyGo` is walked by three equations (at a point / past it / within a segment, its far point included),
and a valid monotone map is a `Pairwise Before` chain (`ChainOk`).
-/
import FontVerif.Model.Normalize
import FontVerif.Lemmas.Round
import FontVerif.Lemmas.TentLemmas
namespace FontVerif.Normalize

/-- the quotient computed by `Fixed.div` for non-negative operands (no wrap involved). -/
def divQ (a b : Int) : Int := (a * 65536 + b / 2) / b

theorem divQ_range {a b : Int} (ha : 0 ≤ a) (hab : a ≤ b) (hb : 0 < b) :
    0 ≤ divQ a b ∧ divQ a b ≤ 65536 := by
  have := rdiv_between (t := 65536) (by omega) ha hab hb
  rwa [Int.mul_comm] at this

theorem divQ_self {b : Int} (hb : 0 < b) : divQ b b = 65536 := rdiv_mul_self 65536 hb

theorem divQ_zero {b : Int} (hb : 0 < b) : divQ 0 b = 0 := by
  unfold divQ
  simp
  exact Int.ediv_eq_zero_of_lt (by omega) (by omega)

theorem divQ_mono {a a' b : Int} (hb : 0 < b) (h : a ≤ a') : divQ a b ≤ divQ a' b := by
  unfold divQ
  exact Int.ediv_le_ediv hb (by omega)

theorem divQ_isRHA {a b : Int} (ha : 0 ≤ a) (hb : 0 < b) : IsRHA (a * 65536) b (divQ a b) :=
  isRHA_formula (by omega) hb

theorem div_eq_divQ {a b : Int} (ha : 0 ≤ a) (hab : a ≤ b) (hb : 0 < b) (hb1 : b < 2147483648) :
    Fixed.div a b = divQ a b := by
  have hr := divQ_range ha hab hb
  rw [Fixed.div_mag, show iabs a = a from if_neg (by omega), show iabs b = b from if_neg (by omega),
    if_neg (by omega : ¬ b = 0), decide_eq_false (by omega : ¬ a < 0), decide_eq_false (by omega : ¬ b < 0)]
  exact wrapI32_of_in (by have := hr.1; exact Int.le_trans (by decide) this) (by have := hr.2; exact Int.lt_of_le_of_lt this (by decide))

theorem clamp_range {v lo hi : Int} (h : lo ≤ hi) : lo ≤ clamp v lo hi ∧ clamp v lo hi ≤ hi := by
  unfold clamp; repeat' split
  all_goals omega

theorem clamp_mono {v v' lo hi : Int} (h : v ≤ v') (hl : lo ≤ hi) :
    clamp v lo hi ≤ clamp v' lo hi := by
  unfold clamp; repeat' split
  all_goals omega

theorem clamp_id {v lo hi : Int} (h1 : lo ≤ v) (h2 : v ≤ hi) : clamp v lo hi = v := by
  unfold clamp; repeat' split
  all_goals omega

theorem clamp_le_lo {v lo hi : Int} (h : v ≤ lo) (hl : lo ≤ hi) : clamp v lo hi = lo := by
  unfold clamp; repeat' split
  all_goals omega

theorem clamp_ge_hi {v lo hi : Int} (h : hi ≤ v) (hl : lo ≤ hi) : clamp v lo hi = hi := by
  unfold clamp; repeat' split
  all_goals omega

theorem satSub_eq (a b : Int) : satSub a b = clamp (a - b) (-2147483648) 2147483647 := by
  unfold satSub clamp; simp only []; repeat' split
  all_goals omega

theorem satSub_mono_left {a a' b : Int} (h : a ≤ a') : satSub a b ≤ satSub a' b := by
  rw [satSub_eq, satSub_eq]; exact clamp_mono (by omega) (by omega)

theorem satSub_anti_right {a b b' : Int} (h : b ≤ b') : satSub a b' ≤ satSub a b := by
  rw [satSub_eq, satSub_eq]; exact clamp_mono (by omega) (by omega)

theorem satSub_exact {a b : Int} (h : a - b < 2147483648)
    (h' : -2147483648 ≤ a - b) : satSub a b = a - b := by
  rw [satSub_eq]; exact clamp_id h' (by omega)

theorem satSub_self (a : Int) : satSub a a = 0 := by
  rw [satSub_exact (by omega) (by omega)]; omega

theorem satSub_nonneg {a b : Int} (h : b ≤ a) : 0 ≤ satSub a b := by
  have := satSub_mono_left (b := b) h; rwa [satSub_self] at this

theorem satSub_pos {a b : Int} (h : b < a) : 0 < satSub a b := by
  have := satSub_mono_left (a := b + 1) (b := b) h
  rw [satSub_exact (by omega) (by omega)] at this; omega

theorem satSub_lt (a b : Int) : satSub a b < 2147483648 := by
  rw [satSub_eq]; have := (clamp_range (v := a - b) (lo := -2147483648) (hi := 2147483647) (by omega)).2
  omega

theorem fneg_small {a : Int} (h0 : 0 ≤ a) (h1 : a ≤ 65536) : fneg a = -a := by
  unfold fneg wrapI32; simp only []; split <;> omega

/-- the un-clamped middle value of `normalize` as a function of the clamped coordinate `v`. -/
def core (minV defV maxV' v : Int) : Int :=
  if v < defV then fneg (Fixed.div (satSub defV v) (satSub defV minV))
  else if v > defV then Fixed.div (satSub v defV) (satSub maxV' defV)
  else 0

theorem normalize_eq (minV defV maxV value : Int) :
    normalize minV defV maxV value =
      clamp (core minV defV (if maxV < minV then minV else maxV)
        (clamp value minV (if maxV < minV then minV else maxV))) (-65536) 65536 := by
  unfold normalize core; rfl

theorem normalize_range (minV defV maxV value : Int) :
    -65536 ≤ normalize minV defV maxV value ∧ normalize minV defV maxV value ≤ 65536 := by
  rw [normalize_eq]; exact clamp_range (by omega)

theorem core_below {minV defV maxV' v : Int} (h1 : minV ≤ v) (h2 : v < defV) :
    core minV defV maxV' v = -(divQ (satSub defV v) (satSub defV minV)) ∧
    0 ≤ divQ (satSub defV v) (satSub defV minV) ∧ divQ (satSub defV v) (satSub defV minV) ≤ 65536 := by
  have hp : 0 < satSub defV minV := satSub_pos (by omega)
  have ha : 0 ≤ satSub defV v := satSub_nonneg (by omega)
  have hab : satSub defV v ≤ satSub defV minV := satSub_anti_right h1
  have hlt := satSub_lt defV minV
  have hr := divQ_range ha hab hp
  refine ⟨?_, hr⟩
  unfold core
  simp only [h2, if_true]
  rw [div_eq_divQ ha hab hp hlt, fneg_small hr.1 hr.2]

theorem core_above {minV defV maxV' v : Int} (h1 : v ≤ maxV') (h2 : defV < v) :
    core minV defV maxV' v = divQ (satSub v defV) (satSub maxV' defV) ∧
    0 ≤ divQ (satSub v defV) (satSub maxV' defV) ∧ divQ (satSub v defV) (satSub maxV' defV) ≤ 65536 := by
  have hp : 0 < satSub maxV' defV := satSub_pos (by omega)
  have ha : 0 ≤ satSub v defV := satSub_nonneg (by omega)
  have hab : satSub v defV ≤ satSub maxV' defV := satSub_mono_left h1
  have hlt := satSub_lt maxV' defV
  have hr := divQ_range ha hab hp
  refine ⟨?_, hr⟩
  unfold core
  have e1 : ¬ v < defV := by omega
  have e2 : v > defV := by omega
  simp only [e1, e2, if_false, if_true]
  rw [div_eq_divQ ha hab hp hlt]

theorem core_eq {minV defV maxV' : Int} : core minV defV maxV' defV = 0 := by
  unfold core; simp

theorem core_range {minV defV maxV' v : Int} (h1 : minV ≤ v) (h2 : v ≤ maxV') :
    -65536 ≤ core minV defV maxV' v ∧ core minV defV maxV' v ≤ 65536 := by
  by_cases hlt : v < defV
  · have := core_below (maxV' := maxV') h1 hlt; omega
  · by_cases hgt : defV < v
    · have := core_above (minV := minV) h2 hgt; omega
    · have : v = defV := by omega
      subst this; rw [core_eq]; omega

theorem core_mono {minV defV maxV' v v' : Int} (h1 : minV ≤ v) (h : v ≤ v') (h2 : v' ≤ maxV') :
    core minV defV maxV' v ≤ core minV defV maxV' v' := by
  by_cases hlt : v < defV
  · have hb := core_below (maxV' := maxV') h1 hlt
    by_cases hlt' : v' < defV
    · have hb' := core_below (maxV' := maxV') (by omega : minV ≤ v') hlt'
      have hp : 0 < satSub defV minV := satSub_pos (by omega)
      have := divQ_mono hp (satSub_anti_right (a := defV) h)
      omega
    · by_cases hgt' : defV < v'
      · have := core_above (minV := minV) h2 hgt'; omega
      · have : v' = defV := by omega
        subst this; rw [core_eq]; omega
  · by_cases hgt : defV < v
    · have ha := core_above (minV := minV) (by omega : v ≤ maxV') hgt
      have ha' := core_above (minV := minV) h2 (by omega : defV < v')
      have hp : 0 < satSub maxV' defV := satSub_pos (by omega)
      have := divQ_mono hp (satSub_mono_left (b := defV) h)
      omega
    · have : v = defV := by omega
      subst this; rw [core_eq]
      by_cases hgt' : v < v'
      · have := core_above (minV := minV) h2 hgt'; omega
      · have : v' = v := by omega
        subst this; rw [core_eq]; omega

theorem toF2Dot14_small {a : Int} (h0 : -65536 ≤ a) (h1 : a ≤ 65536) :
    Fixed.toF2Dot14 a = (a + 2) / 4 := by
  rw [Fixed.toF2Dot14, wrapI32_id ⟨by omega, by omega⟩, wrapI16_id ⟨by omega, by omega⟩]

/-- magnitude-rounded quotient of `mul_div` for `a ≥ 0`, `b > 0`. -/
def mdQ (s a b : Int) : Int :=
  if s < 0 then -(((-s) * a + b / 2) / b) else (s * a + b / 2) / b

theorem mulDiv_eq_mdQ {s a b : Int} (hs : inI32 s) (ha : 0 ≤ a) (ha' : a < 2147483648) (hb : 0 < b)
    (hb' : b < 2147483648) : Fixed.mulDiv s a b = wrapI32 (mdQ s a b) := by
  rw [Fixed.mulDiv_mag hs ⟨by omega, ha'⟩ ⟨by omega, hb'⟩, show iabs a = a from if_neg (by omega),
    show iabs b = b from if_neg (by omega), if_pos hb, decide_eq_false (by omega : ¬ a < 0),
    decide_eq_false (by omega : ¬ b < 0)]
  unfold mdQ iabs
  by_cases h : s < 0
  · simp only [h, if_true, decide_true, Bool.bne_false]
  · simp only [h, if_false, decide_false, Bool.bne_false, Bool.false_eq_true]

theorem mdQ_isRHA {s a b : Int} (ha : 0 ≤ a) (hb : 0 < b) : IsRHA (s * a) b (mdQ s a b) := by
  unfold mdQ
  by_cases hs : s < 0
  · simp only [hs, if_true]
    have h := isRHA_neg hb (isRHA_formula (p := (-s) * a) (Int.mul_nonneg (by omega) ha) hb)
    have e : -(-s * a) = s * a := by rw [Int.neg_mul]; omega
    rw [e] at h
    exact h
  · simp only [hs, if_false]
    exact isRHA_formula (Int.mul_nonneg (by omega) ha) hb

theorem mdQ_between {s a b : Int} (ha : 0 ≤ a) (hab : a ≤ b) (hb : 0 < b) :
    (0 ≤ s → 0 ≤ mdQ s a b ∧ mdQ s a b ≤ s) ∧ (s < 0 → s ≤ mdQ s a b ∧ mdQ s a b ≤ 0) := by
  unfold mdQ
  constructor
  · intro hs; rw [if_neg (by omega)]; exact rdiv_between hs ha hab hb
  · intro hs; rw [if_pos hs]
    have := rdiv_between (t := -s) (by omega) ha hab hb
    omega

theorem mulDiv_signed {s a b : Int} (hs0 : -262144 ≤ s) (hs1 : s ≤ 262144) (ha : 0 ≤ a)
    (hab : a ≤ b) (hb : 0 < b) (hb1 : b ≤ 262144) : Fixed.mulDiv s a b = mdQ s a b := by
  have hq := mdQ_between (s := s) ha hab hb
  rw [mulDiv_eq_mdQ ⟨by omega, by omega⟩ ha (by omega) hb (by omega)]
  by_cases hs : 0 ≤ s
  · have := hq.1 hs; exact wrapI32_of_in (by omega) (by omega)
  · have := hq.2 (by omega); exact wrapI32_of_in (by omega) (by omega)

theorem mdQ_mono {s a a' b : Int} (hs : 0 ≤ s) (h : a ≤ a') (hb : 0 < b) :
    mdQ s a b ≤ mdQ s a' b := by
  unfold mdQ
  have e : ¬ s < 0 := by omega
  simp only [e, if_false]
  have : s * a ≤ s * a' := Int.mul_le_mul_of_nonneg_left h hs
  exact Int.ediv_le_ediv hb (by omega)

theorem mdQ_full {s b : Int} (hb : 0 < b) : mdQ s b b = s := by
  unfold mdQ
  rw [Int.mul_comm (-s), Int.mul_comm s, rdiv_mul_self _ hb, rdiv_mul_self _ hb]
  split <;> omega

/-- the `Greater` arm for `i > 0`. -/
def interp (pf pt f t c : Int) : Int :=
  fadd pt (Fixed.mulDiv (fsub t pt) (fsub c pf) (fsub f pf))

theorem fsub_small {a b : Int} (ha : Tent.inF a) (hb : Tent.inF b) : fsub a b = a - b :=
  Tent.fsub_id ha hb

theorem interp_eq {pf pt f t c : Int} (hpf : Tent.inF pf) (hpt : Tent.inF pt) (hf : Tent.inF f) (ht : Tent.inF t)
    (hc : Tent.inF c) (h1 : pf ≤ c) (h2 : c ≤ f) (h3 : pf < f) :
    interp pf pt f t c = pt + mdQ (t - pt) (c - pf) (f - pf) := by
  unfold interp
  rw [fsub_small ht hpt, fsub_small hc hpf, fsub_small hf hpf]
  have hb := mdQ_between (s := t - pt) (a := c - pf) (b := f - pf) (by omega) (by omega) (by omega)
  unfold Tent.inF at *
  rw [mulDiv_signed (by omega) (by omega) (by omega) (by omega) (by omega) (by omega)]
  unfold fadd; apply wrapI32_id; unfold inI32
  by_cases hs : 0 ≤ t - pt
  · have := hb.1 hs; omega
  · have := hb.2 (by omega); omega

theorem applyGo_at (f t : Int) (prev : Int × Int) (first : Bool) (rest : List (Int × Int)) :
    applyGo f prev first ((f, t) :: rest) = t := by simp [applyGo]

theorem applyGo_past {c f : Int} (h : f < c) (t : Int) (prev : Int × Int) (first : Bool)
    (rest : List (Int × Int)) : applyGo c prev first ((f, t) :: rest) = applyGo c (f, t) false rest := by
  simp only [applyGo, if_neg (by omega : ¬ f = c), if_neg (by omega : ¬ f > c)]

theorem applyGo_beyond {c : Int} {maps : List (Int × Int)} :
    ∀ (prev : Int × Int) (first : Bool), (∀ m ∈ maps, m.1 < c) → applyGo c prev first maps = c := by
  induction maps with
  | nil => intro prev first _; simp [applyGo]
  | cons m rest ih =>
    intro prev first h
    obtain ⟨f, t⟩ := m
    rw [applyGo_past (h (f, t) (by simp))]
    exact ih (f, t) false (fun m hm => h m (by simp [hm]))

/-- record `a` precedes record `b` in a valid, monotone segment map. -/
def Before (a b : Int × Int) : Prop := a.1 < b.1 ∧ a.2 ≤ b.2

/-- `prev :: maps` are the `Fixed` records of a valid monotone map. -/
def ChainOk (prev : Int × Int) (maps : List (Int × Int)) : Prop :=
  (prev :: maps).Pairwise Before ∧ ∀ m ∈ prev :: maps, Tent.inF m.1 ∧ Tent.inF m.2

theorem ChainOk.tail {prev m : Int × Int} {rest : List (Int × Int)} (h : ChainOk prev (m :: rest)) :
    Before prev m ∧ ChainOk m rest ∧ (Tent.inF prev.1 ∧ Tent.inF prev.2) ∧ (Tent.inF m.1 ∧ Tent.inF m.2) :=
  ⟨(List.pairwise_cons.mp h.1).1 m List.mem_cons_self,
   ⟨(List.pairwise_cons.mp h.1).2, fun x hx => h.2 x (List.mem_cons_of_mem _ hx)⟩,
   h.2 prev List.mem_cons_self, h.2 m (List.mem_cons_of_mem _ List.mem_cons_self)⟩

/-- one segment as one formula, its far point included (there the quotient is `t - pt` itself): a coordinate is
either up to the next point or past it. -/
theorem applyGo_upto {c pf pt f t : Int} (hc : Tent.inF c) (hpf : Tent.inF pf) (hpt : Tent.inF pt)
    (hf : Tent.inF f) (ht : Tent.inF t) (h1 : pf < c) (h2 : c ≤ f) (rest : List (Int × Int)) :
    applyGo c (pf, pt) false ((f, t) :: rest) = pt + mdQ (t - pt) (c - pf) (f - pf) := by
  rcases Int.lt_or_eq_of_le h2 with h | rfl
  · simp only [applyGo, if_neg (by omega : ¬ f = c), if_pos (by omega : f > c), Bool.false_eq_true, if_false]
    exact interp_eq hpf hpt hf ht hc (by omega) (by omega) (by omega)
  · rw [applyGo_at, mdQ_full (by omega)]; omega

theorem applyGo_lower {c : Int} (hc : Tent.inF c) : ∀ (maps : List (Int × Int)) (prev : Int × Int),
    ChainOk prev maps → prev.1 < c → (∃ m ∈ maps, c ≤ m.1) → prev.2 ≤ applyGo c prev false maps
  | [], _, _, _, ⟨m, hm, _⟩ => by cases hm
  | (f, t) :: rest, (pf, pt), hok, h1, ⟨m, hm, hcm⟩ => by
    obtain ⟨hb, hrest, (hp : Tent.inF pf ∧ Tent.inF pt), (hft : Tent.inF f ∧ Tent.inF t)⟩ := hok.tail
    have hb1 : pf < f := hb.1
    have hb2 : pt ≤ t := hb.2
    rcases (Int.lt_or_le f c).symm with e | e
    · rw [applyGo_upto hc hp.1 hp.2 hft.1 hft.2 h1 e]
      have := (mdQ_between (s := t - pt) (a := c - pf) (b := f - pf) (by omega) (by omega)
        (by omega)).1 (by omega)
      omega
    · rw [applyGo_past e]
      rcases List.mem_cons.mp hm with rfl | hm'
      · exact absurd hcm (by simp only; omega)
      · exact Int.le_trans hb2 (applyGo_lower hc rest (f, t) hrest e ⟨m, hm', hcm⟩)

/-- inside one segment the interpolation is monotone; across a point the value left of it is at most the
point's `to`, the value right of it at least that (`applyGo_lower`). -/
theorem applyGo_mono {c1 c2 : Int} (hc1 : Tent.inF c1) (hc2 : Tent.inF c2) (h12 : c1 ≤ c2) :
    ∀ (maps : List (Int × Int)) (prev : Int × Int), ChainOk prev maps → prev.1 < c1 →
      (∃ m ∈ maps, c2 ≤ m.1) → applyGo c1 prev false maps ≤ applyGo c2 prev false maps
  | [], _, _, _, ⟨m, hm, _⟩ => by cases hm
  | (f, t) :: rest, (pf, pt), hok, h1, ⟨m, hm, hcm⟩ => by
    obtain ⟨hb, hrest, (hp : Tent.inF pf ∧ Tent.inF pt), (hft : Tent.inF f ∧ Tent.inF t)⟩ := hok.tail
    have hb1 : pf < f := hb.1
    have hb2 : pt ≤ t := hb.2
    have hin : ∀ c, Tent.inF c → pf < c → c ≤ f →
        applyGo c (pf, pt) false ((f, t) :: rest) = pt + mdQ (t - pt) (c - pf) (f - pf) :=
      fun c hc h1 h2 => applyGo_upto hc hp.1 hp.2 hft.1 hft.2 h1 h2 rest
    rcases (Int.lt_or_le f c2).symm with a2 | a2
    · rw [hin c1 hc1 h1 (by omega), hin c2 hc2 (by omega) a2]
      have := mdQ_mono (s := t - pt) (a := c1 - pf) (a' := c2 - pf) (b := f - pf) (by omega)
        (by omega) (by omega)
      omega
    · rw [applyGo_past a2]
      have hm' : ∃ m ∈ rest, c2 ≤ m.1 := by
        rcases List.mem_cons.mp hm with rfl | hm'
        · exact absurd hcm (by simp only; omega)
        · exact ⟨m, hm', hcm⟩
      have hlow := applyGo_lower hc2 rest (f, t) hrest a2 hm'
      rcases (Int.lt_or_le f c1).symm with a1 | a1
      · rw [hin c1 hc1 h1 a1]
        have := ((mdQ_between (s := t - pt) (a := c1 - pf) (b := f - pf) (by omega) (by omega) (by omega)).1
          (by omega)).2
        simp only at hlow; omega
      · rw [applyGo_past a1]; exact applyGo_mono hc1 hc2 h12 rest (f, t) hrest a1 hm'

theorem applyGo_hit {maps : List (Int × Int)} :
    ∀ (prev : Int × Int) (first : Bool) (i : Nat) (m : Int × Int), maps[i]? = some m →
      (∀ j, j < i → ∀ m', maps[j]? = some m' → m'.1 < m.1) →
      applyGo m.1 prev first maps = m.2 := by
  induction maps with
  | nil => intro prev first i m h; simp at h
  | cons m0 rest ih =>
    intro prev first i m hget hlt
    obtain ⟨f, t⟩ := m0
    cases i with
    | zero =>
      simp at hget; subst hget
      exact applyGo_at ..
    | succ k =>
      rw [applyGo_past (hlt 0 (by omega) (f, t) (by simp))]
      apply ih (f, t) false k m (by simpa using hget)
      intro j hj m' hm'
      exact hlt (j + 1) (by omega) m' (by simpa using hm')

theorem applyGo_interp {c : Int} {maps : List (Int × Int)} :
    ∀ (prev : Int × Int) (first : Bool) (i : Nat) (a b : Int × Int), maps[i]? = some a →
      maps[i + 1]? = some b → (∀ j, j ≤ i → ∀ m', maps[j]? = some m' → m'.1 < c) → c < b.1 →
      applyGo c prev first maps = interp a.1 a.2 b.1 b.2 c := by
  induction maps with
  | nil => intro prev first i a b h; simp at h
  | cons m0 rest ih =>
    intro prev first i a b ha hb hlt hcb
    obtain ⟨f, t⟩ := m0
    rw [applyGo_past (hlt 0 (by omega) (f, t) (by simp))]
    cases i with
    | zero =>
      simp at ha; subst ha
      cases rest with
      | nil => simp at hb
      | cons m1 rest' =>
        simp at hb; subst hb
        obtain ⟨f1, t1⟩ := m1
        have e3 : ¬ f1 = c := by simp at hcb; omega
        have e4 : f1 > c := by simp at hcb; omega
        simp only [applyGo, e3, e4, if_false, if_true, Bool.false_eq_true, interp]
    | succ k =>
      apply ih (f, t) false k a b (by simpa using ha) (by simpa using hb)
      · intro j hj m' hm'
        exact hlt (j + 1) (by omega) m' (by simpa using hm')
      · exact hcb

/-- `F2Dot14::to_fixed` applied to both members of every record (as `avarApply` does). -/
def scaled (maps : List (Int × Int)) : List (Int × Int) :=
  maps.map fun m => (Fixed.f2dot14ToFixed m.1, Fixed.f2dot14ToFixed m.2)

theorem scaled_getElem? (maps : List (Int × Int)) (k : Nat) :
    (scaled maps)[k]? = maps[k]?.map fun m => (Fixed.f2dot14ToFixed m.1, Fixed.f2dot14ToFixed m.2) :=
  List.getElem?_map ..

theorem scaled_inF {maps : List (Int × Int)} (h : ∀ m ∈ maps, inI16 m.1 ∧ inI16 m.2) :
    ∀ m ∈ scaled maps, Tent.inF m.1 ∧ Tent.inF m.2 := by
  intro m hm
  obtain ⟨m0, hm0, rfl⟩ := List.mem_map.mp hm
  exact ⟨Tent.inF_of_f2dot14 (h m0 hm0).1, Tent.inF_of_f2dot14 (h m0 hm0).2⟩

theorem scaled_chainOk {m0 : Int × Int} {rest : List (Int × Int)}
    (hok : ∀ m ∈ m0 :: rest, inI16 m.1 ∧ inI16 m.2) (hs : (m0 :: rest).Pairwise Before) :
    ChainOk (Fixed.f2dot14ToFixed m0.1, Fixed.f2dot14ToFixed m0.2) (scaled rest) := by
  have : (scaled (m0 :: rest)).Pairwise Before :=
    List.Pairwise.map _ (fun a b h => by unfold Before Fixed.f2dot14ToFixed at *; omega) hs
  exact ⟨this, scaled_inF hok⟩

theorem avarApply_cons {f0 t0 : Int} {rest : List (Int × Int)} {c : Int}
    (h : Fixed.f2dot14ToFixed f0 ≤ c) :
    avarApply ((f0, t0) :: rest) c =
      if Fixed.f2dot14ToFixed f0 = c then Fixed.f2dot14ToFixed t0
      else applyGo c (Fixed.f2dot14ToFixed f0, Fixed.f2dot14ToFixed t0) false (scaled rest) := by
  unfold avarApply scaled
  simp only [List.map_cons, applyGo]
  have e2 : ¬ Fixed.f2dot14ToFixed f0 > c := by omega
  simp only [e2, if_false]

theorem avarApply_before_first {f0 t0 : Int} {rest : List (Int × Int)} {c : Int}
    (h : c < Fixed.f2dot14ToFixed f0) : avarApply ((f0, t0) :: rest) c = c := by
  unfold avarApply
  simp only [List.map_cons, applyGo]
  have e1 : ¬ Fixed.f2dot14ToFixed f0 = c := by omega
  have e2 : Fixed.f2dot14ToFixed f0 > c := by omega
  simp only [e1, e2, if_false, if_true]

theorem avarApply_mono_core {maps : List (Int × Int)} (hok : ∀ m ∈ maps, inI16 m.1 ∧ inI16 m.2)
    (hs : maps.Pairwise Before) {c1 c2 : Int} (h12 : c1 ≤ c2)
    (hlo : ∃ m ∈ maps, Fixed.f2dot14ToFixed m.1 ≤ c1)
    (hhi : ∃ m ∈ maps, c2 ≤ Fixed.f2dot14ToFixed m.1) :
    avarApply maps c1 ≤ avarApply maps c2 := by
  cases maps with
  | nil => obtain ⟨m, hm, _⟩ := hlo; cases hm
  | cons m0 rest =>
    obtain ⟨f0, t0⟩ := m0
    have hch := scaled_chainOk hok hs
    have hp := List.pairwise_cons.mp hs
    obtain ⟨mh, hmh, hch2⟩ := hhi
    have hMh := Tent.inF_of_f2dot14 (hok mh hmh).1
    have hF0 : Tent.inF (Fixed.f2dot14ToFixed f0) := Tent.inF_of_f2dot14 (hok (f0, t0) List.mem_cons_self).1
    -- the first point is the lowest
    have hlo' : Fixed.f2dot14ToFixed f0 ≤ c1 := by
      obtain ⟨m, hm, hle⟩ := hlo
      rcases List.mem_cons.mp hm with rfl | hm'
      · exact hle
      · have := (hp.1 m hm').1; unfold Fixed.f2dot14ToFixed at *; simp only at this; omega
    have hc1 : Tent.inF c1 := by unfold Tent.inF at *; omega
    have hc2 : Tent.inF c2 := by unfold Tent.inF at *; omega
    have hhi' : Fixed.f2dot14ToFixed f0 < c2 → ∃ m ∈ scaled rest, c2 ≤ m.1 := fun h => by
      rcases List.mem_cons.mp hmh with rfl | hm'
      · exact absurd hch2 (by simp only; omega)
      · exact ⟨_, List.mem_map.mpr ⟨mh, hm', rfl⟩, hch2⟩
    rw [avarApply_cons hlo', avarApply_cons (by omega : Fixed.f2dot14ToFixed f0 ≤ c2)]
    by_cases a2 : Fixed.f2dot14ToFixed f0 = c2
    · rw [if_pos a2, if_pos (by omega)]; exact Int.le_refl _
    rw [if_neg a2]
    by_cases a1 : Fixed.f2dot14ToFixed f0 = c1
    · rw [if_pos a1]; exact applyGo_lower hc2 _ _ hch (by simp only; omega) (hhi' (by omega))
    · rw [if_neg a1]
      exact applyGo_mono hc1 hc2 h12 _ _ hch (by simp only; omega) (hhi' (by omega))

theorem avarApply_range_core {maps : List (Int × Int)} (hok : ∀ m ∈ maps, inI16 m.1 ∧ inI16 m.2)
    (hs : maps.Pairwise Before) {lo hi : Int × Int} (hlo : lo ∈ maps) (hhi : hi ∈ maps) {c : Int}
    (h1 : Fixed.f2dot14ToFixed lo.1 ≤ c) (h2 : c ≤ Fixed.f2dot14ToFixed hi.1)
    (hitLo : avarApply maps (Fixed.f2dot14ToFixed lo.1) = Fixed.f2dot14ToFixed lo.2)
    (hitHi : avarApply maps (Fixed.f2dot14ToFixed hi.1) = Fixed.f2dot14ToFixed hi.2) :
    Fixed.f2dot14ToFixed lo.2 ≤ avarApply maps c ∧ avarApply maps c ≤ Fixed.f2dot14ToFixed hi.2 := by
  constructor
  · rw [← hitLo]
    exact avarApply_mono_core hok hs h1 ⟨lo, hlo, by omega⟩ ⟨hi, hhi, h2⟩
  · rw [← hitHi]
    exact avarApply_mono_core hok hs h2 ⟨lo, hlo, h1⟩ ⟨hi, hhi, by omega⟩

theorem avarApply_hit (maps : List (Int × Int)) (i : Nat) (m : Int × Int) (hget : maps[i]? = some m)
    (hlt : ∀ j, j < i → ∀ m', maps[j]? = some m' → m'.1 < m.1) :
    avarApply maps (Fixed.f2dot14ToFixed m.1) = Fixed.f2dot14ToFixed m.2 := by
  refine applyGo_hit (maps := scaled maps) (0, 0) true i
    (Fixed.f2dot14ToFixed m.1, Fixed.f2dot14ToFixed m.2) (by rw [scaled_getElem?, hget]; rfl) ?_
  intro j hj m' hm'
  rw [scaled_getElem?] at hm'
  obtain ⟨mj, hmj, rfl⟩ := Option.map_eq_some_iff.mp hm'
  have := hlt j hj mj hmj
  simp only [Fixed.f2dot14ToFixed]; omega

theorem avarApply_hit_mem {maps : List (Int × Int)} (hs : maps.Pairwise (fun a b => a.1 < b.1))
    {m : Int × Int} (hm : m ∈ maps) :
    avarApply maps (Fixed.f2dot14ToFixed m.1) = Fixed.f2dot14ToFixed m.2 := by
  obtain ⟨i, hi, hget⟩ := List.getElem_of_mem hm
  refine avarApply_hit maps i m (by rw [List.getElem?_eq_getElem hi, hget]) fun j hj m' hm' => ?_
  obtain ⟨hjl, rfl⟩ := List.getElem?_eq_some_iff.mp hm'
  have := List.pairwise_iff_getElem.mp hs j i hjl hi hj
  rwa [hget] at this

theorem setAxesFrom_get_lt (maps : Option (List (List (Int × Int)))) (tag : Nat) (value : Int) :
    ∀ (axes : List AxisRec) (i : Nat) (out : List Int) (j : Nat), j < i →
      (setAxesFrom maps tag value i axes out)[j]? = out[j]?
  | [], _, _, _, _ => rfl
  | a :: rest, i, out, j, h => by
    simp only [setAxesFrom]
    rw [setAxesFrom_get_lt maps tag value rest (i + 1) _ j (by omega)]
    split
    · split
      · exact List.getElem?_set_ne (by omega)
      · rfl
    · rfl

end FontVerif.Normalize
