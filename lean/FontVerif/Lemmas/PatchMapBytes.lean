/-
Lemmas for C19 (byte level, Model/PatchMapBytes.lean): every reader is walked once with `BR.Sat` (an
`ok` value has the stated anatomy, a panic only under the stated condition); entry sizes stay inside the
entry data, the start byte the field-level decoder tracks is the sum of the sizes.
-/
import FontVerif.Model.PatchMapBytes
import FontVerif.Lemmas.PatchMap
import FontVerif.Lemmas.HandRead
import FontVerif.Props.C14Codec
namespace FontVerif.PatchMapBytes
open FontVerif.HandRead FontVerif.PatchMap

/-- an `ok` value has `P`, an error value is acceptable, a panic happens only under `T` -/
def BR.Sat {α : Type} (T : Prop) (P : α → Prop) : BR α → Prop
  | .ok a => P a
  | .err _ => True
  | .trap => T

namespace BR.Sat
variable {α : Type} {T : Prop} {P : α → Prop} {x : BR α}

theorem of_ok {a : α} (h : x.Sat T P) (hx : x = .ok a) : P a := by subst hx; exact h

theorem of_trap (h : x.Sat T P) (hx : x = .trap) : T := by subst hx; exact h

theorem guard {c : Prop} [Decidable c] {e : String} (h : x.Sat T P) :
    (if c then .err e else x : BR α).Sat T P := by
  split
  · trivial
  · exact h

end BR.Sat

theorem getU_ok {d : List Nat} {off n : Nat} (h : off + n ≤ d.length) (hl : d.length ≤ MAXU) :
    getU d off n = .ok (beAt d off n) := by
  unfold getU; rw [readAt_of_le h hl]

theorem getBytes_ok {d : List Nat} {off n : Nat} (h : off + n ≤ d.length) :
    getBytes d off n = .ok ((d.drop off).take n) := if_pos h

theorem optField {c : Prop} [Decidable c] {p q r : Nat} (h : (if c then q else p) = r) (hpq : p ≤ q) :
    p ≤ r ∧ (c → r = q) := by
  split at h <;> subst h
  · exact ⟨hpq, fun _ => rfl⟩
  · exact ⟨Nat.le_refl _, fun hc => absurd hc ‹_›⟩

theorem optOffsetsEnd_some {len flags p e : Nat} (h : optOffsetsEnd len flags p = some e) :
    p ≤ e ∧ e ≤ len := by
  unfold optOffsetsEnd at h
  extract_lets has1 has2 p1 p2 at h
  rw [Option.ite_none_left_eq_some, Option.ite_none_left_eq_some, Option.ite_none_right_eq_some] at h
  obtain ⟨-, -, hle, he⟩ := h
  injection he with he
  subst he
  exact ⟨Nat.le_trans (optField (r := p1) rfl (Nat.le_add_right ..)).1
    (optField (r := p2) rfl (Nat.le_add_right ..)).1, hle⟩


theorem f2ReadHdr_sat (d : List Nat) : (f2ReadHdr d).Sat (¬ d.length ≤ MAXU)
    fun h => 35 + h.template.length ≤ h.hdrEnd ∧ h.hdrEnd ≤ d.length := by
  unfold f2ReadHdr
  cases readAt d 4 1 with
  | none => trivial
  | some flags =>
  dsimp only
  cases readAt d 33 2 with
  | none => trivial
  | some ul =>
  dsimp only
  cases he : optOffsetsEnd d.length flags (35 + ul) with
  | none => trivial
  | some e =>
  have h2 := optOffsetsEnd_some he
  dsimp only
  split
  · next tpl _ _ _ _ _ htpl =>
    rw [getBytes_ok (by omega)] at htpl
    cases htpl
    exact ⟨Nat.le_trans (Nat.add_le_add_left (List.length_take_le ..) 35) h2.1, h2.2⟩
  · next hne =>
    intro hl
    exact hne _ _ _ _ _ _ (getU_ok (by omega) hl) (getU_ok (by omega) hl) (getU_ok (by omega) hl)
      (getU_ok (by omega) hl) (getU_ok (by omega) hl) (getBytes_ok (by omega))

theorem f2ReadHdr_ok {d : List Nat} {h : F2Hdr} (hh : f2ReadHdr d = .ok h) :
    35 + h.template.length ≤ h.hdrEnd ∧ h.hdrEnd ≤ d.length :=
  (f2ReadHdr_sat d).of_ok hh

theorem f1ReadHdr_sat (d : List Nat) : (f1ReadHdr d).Sat (¬ d.length ≤ MAXU) (·.bitmapStart = 36) := by
  unfold f1ReadHdr
  cases readAt d 4 1 with
  | none => trivial
  | some flags =>
  dsimp only
  cases readAt d 21 2 with
  | none => trivial
  | some mei =>
  dsimp only
  generalize (mei + 8) / 8 = bl
  cases readAt d (36 + bl) 2 with
  | none => trivial
  | some ul =>
  dsimp only
  cases he : optOffsetsEnd d.length flags (36 + bl + 2 + ul + 1) with
  | none => trivial
  | some e =>
  have h2 := optOffsetsEnd_some he
  dsimp only
  split
  · rfl
  · next hne =>
    intro hl
    exact hne _ _ _ _ _ _ _ _ (getU_ok (by omega) hl) (getU_ok (by omega) hl) (getU_ok (by omega) hl)
      (getU_ok (by omega) hl) (getU_ok (by omega) hl) (getBytes_ok (by omega)) (getBytes_ok (by omega))
      (getU_ok (by omega) hl)

theorem entryLayout_ok {hasIds : Bool} {d : List Nat} {L : EntryLayout}
    (h : entryLayout hasIds d = some L) :
    1 ≤ d.length ∧ L.cpAt ≤ d.length ∧ gettersInRange L d.length = true := by
  unfold entryLayout at h
  extract_lets len flags hasF hasC hasD hasP fc p1 dsc p2 mmc p3 dl p4 p5 at h
  rw [Option.ite_none_right_eq_some] at h
  obtain ⟨⟨hlen, -, gC, -, -, b5⟩, hL⟩ := h
  injection hL with hL
  subst hL
  simp only [gettersInRange, decide_eq_true_eq]
  obtain ⟨-, q1⟩ := optField (r := p1) rfl (by omega)
  obtain ⟨l2, q2⟩ := optField (r := p2) rfl (by omega)
  obtain ⟨l3, q3⟩ := optField (r := p3) rfl (by omega)
  obtain ⟨l4, q4⟩ := optField (r := p4) rfl (by omega)
  obtain ⟨l5, q5⟩ := optField (r := p5) rfl (by omega)
  -- the cursor only moves forward and ends inside the data, so every position is inside
  have b4 := Nat.le_trans l5 b5
  have b3 := Nat.le_trans l4 b4
  have b2 := Nat.le_trans l3 b3
  have b1 := Nat.le_trans l2 b2
  refine ⟨hlen, b5,
    fun hF => ?_, fun hC => ?_, fun hD => ?_, fun hP => ?_, b5⟩
  · rw [← q1 hF, ← q2 hF]; exact ⟨b1, b2⟩
  · rw [← q3 hC]; exact ⟨gC hC, b3⟩
  · rw [← q4 hD]; exact b4
  · rw [← q5 hP]; exact b5

/-- by C14 `decode_total`: the sparse-bit-set decoder has fuel enough and returns a suffix of its input -/
theorem decodeCodepoints_spec (mode : Nat) (cp : List Nat) : decodeCodepoints mode cp ≠ .trap ∧
    ∀ cps used, decodeCodepoints mode cp = .ok cps used → used ≤ cp.length := by
  unfold decodeCodepoints
  by_cases hm : mode = 0
  · rw [if_pos hm]; exact ⟨nofun, fun _ _ h => by cases h; exact Nat.zero_le _⟩
  rw [if_neg hm]
  dsimp only
  generalize (if mode = 2 then 2 else if mode = 3 then 3 else 0) = skipped
  cases (if skipped = 0 then some 0 else readAt cp 0 skipped) with
  | none => exact ⟨nofun, nofun⟩
  | some bias =>
    dsimp only
    have ht := C14Codec.decode_total (cp.drop skipped) bias 1114111
    cases hx : SparseBitSet.decode (cp.drop skipped) bias 1114111 with
    | error => exact ⟨nofun, nofun⟩
    | outOfFuel => exact absurd hx ht.1
    | ok ins rest =>
      have hlen := (ht.2 ins rest hx).1.length_le
      rw [List.length_drop] at hlen
      dsimp only
      rw [if_pos (Nat.le_trans hlen (Nat.sub_le _ _))]
      exact ⟨nofun, fun _ _ h => by cases h; exact Nat.sub_le _ _⟩

theorem readRawEntry_sat (hasIds : Bool) (d : List Nat) : (readRawEntry hasIds d).Sat False fun r =>
    1 ≤ d.length ∧ r.size ≤ d.length := by
  unfold readRawEntry
  cases hL : entryLayout hasIds d with
  | none => trivial
  | some L =>
    obtain ⟨h1, h3, h4⟩ := entryLayout_ok hL
    dsimp only
    rw [h4, Bool.not_true, if_neg Bool.false_ne_true]
    obtain ⟨hnt, hused⟩ := decodeCodepoints_spec (L.flags / 16 % 4) (d.drop L.cpAt)
    cases hc : decodeCodepoints (L.flags / 16 % 4) (d.drop L.cpAt) with
    | trap => exact hnt hc
    | err e => exact ⟨h1, Nat.zero_le _⟩
    | ok cps used =>
      have hu := hused cps used hc
      rw [List.length_drop] at hu
      exact ⟨h1, by show L.cpAt + used ≤ d.length; omega⟩

theorem readRawEntries_stop (hasIds : Bool) (n : Nat) (d : List Nat) :
    (readRawEntries hasIds n d).2 = none ∨ ∃ e, (readRawEntries hasIds n d).2 = some (.err e) := by
  induction n generalizing d with
  | zero => exact Or.inl rfl
  | succ n ih =>
    unfold readRawEntries
    cases hx : readRawEntry hasIds d with
    | trap => exact ((readRawEntry_sat hasIds d).of_trap hx).elim
    | err e => exact Or.inr ⟨e, rfl⟩
    | ok r =>
      dsimp only
      cases r.cps with
      | none => exact Or.inl rfl
      | some _ => exact ih _

/-- sum of the sizes of the first `i` raw entries -/
def sizeSum (rs : List RawEntry) (i : Nat) : Nat := ((rs.take i).map (·.size)).sum

theorem sizeSum_cons_succ (r : RawEntry) (rs : List RawEntry) (i : Nat) :
    sizeSum (r :: rs) (i + 1) = r.size + sizeSum rs i := by
  simp [sizeSum]

theorem readRawEntries_sizes (hasIds : Bool) : ∀ (n : Nat) (d : List Nat) (i : Nat) (r : RawEntry),
    (readRawEntries hasIds n d).1[i]? = some r →
    sizeSum (readRawEntries hasIds n d).1 i + 1 ≤ d.length ∧
    sizeSum (readRawEntries hasIds n d).1 i + r.size ≤ d.length
  | 0, d, i, r, h => by simp [readRawEntries] at h
  | n + 1, d, i, r, h => by
    unfold readRawEntries at h ⊢
    split at h
    · simp at h
    · simp at h
    · next r0 hr0 =>
      obtain ⟨h1, h2⟩ := (readRawEntry_sat hasIds d).of_ok hr0
      split at h
      · next hnone =>
        cases i with
        | zero => simp at h; subst h; simp [sizeSum]; omega
        | succ i => simp at h
      · next c hsome =>
        cases i with
        | zero => simp at h; subst h; simp [sizeSum]; omega
        | succ i =>
          simp only [List.getElem?_cons_succ] at h
          have ih := readRawEntries_sizes hasIds n (d.drop r0.size) i r h
          rw [List.length_drop] at ih
          rw [sizeSum_cons_succ]
          omega

theorem f2TableOfBytes_sat (d : List Nat) : (f2TableOfBytes d).Sat (f2ReadHdr d = .trap) fun p =>
    p.1.entriesOffset ≤ d.length ∧
      ∃ hasIds n, readRawEntries hasIds n (d.drop p.1.entriesOffset) = (p.1.raws, p.2) := by
  unfold f2TableOfBytes
  cases f2ReadHdr d with
  | trap => exact rfl
  | err e => trivial
  | ok h =>
  dsimp only
  refine .guard (.guard ?_)
  by_cases c : h.entriesOffset > d.length
  · rw [if_pos c]; trivial
  rw [if_neg c]
  cases PatchFormat.ofNumber h.defaultFormat with
  | none => trivial
  | some _ => exact .guard ⟨Nat.le_of_not_gt c, _, _, rfl⟩

theorem decodeF2Bytes_sat (tag : TableTag) (d : List Nat) :
    (decodeF2Bytes tag d).Sat (f2ReadHdr d = .trap) fun es =>
      ∃ t, f2TableOfBytes d = .ok (t, none) ∧ decodeF2 tag t = .ok es := by
  unfold decodeF2Bytes
  have ht := f2TableOfBytes_sat d
  cases hx : f2TableOfBytes d with
  | trap => exact ht.of_trap hx
  | err e => trivial
  | ok p =>
  obtain ⟨t, stop⟩ := p
  obtain ⟨-, hasIds, n, hr⟩ := ht.of_ok hx
  have hs := readRawEntries_stop hasIds n (d.drop t.entriesOffset)
  rw [hr] at hs
  dsimp only
  cases hes : decodeF2 tag t with
  | error e => trivial
  | ok es =>
  rcases hs with rfl | ⟨e, rfl⟩
  · exact ⟨t, rfl, hes⟩
  · trivial

theorem readGlyphMap_sat (sub : List Nat) (gc mei : Nat) :
    (readGlyphMap sub gc mei).Sat False fun _ => True := by
  unfold readGlyphMap
  cases readAt sub 0 2 with
  | none => trivial
  | some first =>
    dsimp only
    by_cases c : 2 + (gc - first) * u8or16 mei ≤ sub.length
    · rw [if_pos c]; trivial
    · rw [if_neg c]; trivial

theorem readFeatureMap_sat (sub : List Nat) (mei : Nat) :
    (readFeatureMap sub mei).Sat False fun _ => True := by
  unfold readFeatureMap
  cases readAt sub 0 2 with
  | none => trivial
  | some n =>
    dsimp only
    by_cases c : 2 + n * (4 + 2 * u8or16 mei) ≤ sub.length
    · rw [if_pos c]; trivial
    · rw [if_neg c]; trivial

theorem f1TableOfBytes_sat (d : List Nat) (maxp : Nat) (cmap : List (Nat × Nat)) :
    (f1TableOfBytes d maxp cmap).Sat (f1ReadHdr d = .trap) fun t =>
      ∃ h, f1ReadHdr d = .ok h ∧ t.bitmapStart = h.bitmapStart := by
  unfold f1TableOfBytes
  cases f1ReadHdr d with
  | trap => exact rfl
  | err e => trivial
  | ok h =>
  dsimp only
  refine .guard (.guard (.guard ?_))
  cases PatchFormat.ofNumber h.patchFormat with
  | none => trivial
  | some _ =>
  refine .guard (.guard ?_)
  have hg := readGlyphMap_sat (d.drop h.gmOff) h.glyphCount h.maxEntry
  cases hx : readGlyphMap (d.drop h.gmOff) h.glyphCount h.maxEntry with
  | trap => exact (hg.of_trap hx).elim
  | err e => trivial
  | ok g =>
  dsimp only
  by_cases c : h.fmOff = 0
  · rw [if_pos c]; exact ⟨h, rfl, rfl⟩
  rw [if_neg c]
  refine .guard ?_
  have hf := readFeatureMap_sat (d.drop h.fmOff) h.maxEntry
  cases hx : readFeatureMap (d.drop h.fmOff) h.maxEntry with
  | trap => exact (hf.of_trap hx).elim
  | err e => trivial
  | ok f => exact ⟨h, rfl, rfl⟩

theorem decodeEntries_start (tag : TableTag) (t : F2Table) (enc : PatchFormat) (raws : List RawEntry) :
    ∀ (st st' : DecodeState), decodeEntries tag t enc st raws = .ok st' →
      ∃ es, st'.entries = st.entries ++ es ∧ es.length = raws.length ∧
        ∀ i e, es[i]? = some e → e.uri.bit = (st.startByte + sizeSum raws i) * 8 + 6 := by
  induction raws with
  | nil =>
    intro st st' h
    simp only [decodeEntries] at h; cases h
    exact ⟨[], (List.append_nil _).symm, rfl, fun i e hi => by rw [List.getElem?_nil] at hi; cases hi⟩
  | cons r rs ih =>
    intro st st' h
    simp only [decodeEntries] at h
    split at h
    · cases h
    · next st1 h1 =>
      obtain ⟨e0, he0, hs, -, -, -, -, hb0⟩ := decodeEntry_ok h1
      obtain ⟨es, hes, hlen, hbits⟩ := ih st1 st' h
      refine ⟨e0 :: es, by rw [hes, he0, List.append_assoc, List.singleton_append],
        by rw [List.length_cons, List.length_cons, hlen], fun i e hi => ?_⟩
      cases i with
      | zero =>
        rw [List.getElem?_cons_zero, Option.some.injEq] at hi
        rw [← hi, hb0]
        rfl
      | succ i =>
        rw [List.getElem?_cons_succ] at hi
        rw [hbits i e hi, hs, sizeSum_cons_succ, Nat.add_assoc]

end FontVerif.PatchMapBytes
