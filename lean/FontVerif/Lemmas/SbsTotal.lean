/-
Sparse-bit-set codec: the body of the queue decoder's loop as one equation (`decodeLoop_cons`) over what
one node inserts, queues and whether it ends the loop (`nodeIns`, `nodeKids`, `nodeStop`); from it decoder
totality: the loop fuel suffices, the remainder is a suffix, inserted ranges are well formed and bounded.
-/
import FontVerif.Lemmas.SbsStream
namespace FontVerif.SparseBitSet

theorem finish_ne_outOfFuel (bf : Nat) (data : List Nat) (st : BitIn) (n : Nat)
    (acc : List (Nat × Nat)) : finish bf data st n acc ≠ .outOfFuel := by
  simp only [finish]; split <;> simp

def InsOk (maxValue : Nat) (ins : List (Nat × Nat)) : Prop :=
  ∀ r ∈ ins, r.1 ≤ r.2 ∧ r.2 ≤ maxValue ∧ r.2 ≤ U32_MAX

theorem insOk_append {m : Nat} {a b : List (Nat × Nat)} (ha : InsOk m a) (hb : InsOk m b) :
    InsOk m (a ++ b) := by
  intro r hr
  rcases List.mem_append.mp hr with h | h
  · exact ha r h
  · exact hb r h

theorem leafValues_insOk (start bias maxValue : Nat) (is : List Nat) :
    InsOk maxValue (leafValues start bias maxValue is).1 := by
  induction is with
  | nil => intro r hr; simp [leafValues] at hr
  | cons i rest ih =>
    simp only [leafValues]
    split
    · rename_i hc
      intro r hr
      simp only [List.mem_cons] at hr
      rcases hr with rfl | hr
      · simp only []; omega
      · exact ih r hr
    · intro r hr; simp at hr

theorem finish_ok {bf : Nat} {data : List Nat} {st : BitIn} {n : Nat} {acc ins : List (Nat × Nat)}
    {rest : List Nat} (h : finish bf data st n acc = .ok ins rest) :
    ins = acc ∧ rest <:+ data := by
  simp only [finish] at h
  split at h
  · simp at h
    obtain ⟨rfl, rfl⟩ := h
    exact ⟨rfl, List.drop_suffix _ _⟩
  · simp at h

/-- the `bits == 0` branch -/
def filledIns (bf height depth bias maxValue start : Nat) : List (Nat × Nat) :=
  if start ≤ U32_MAX ∧ start + bias ≤ U32_MAX ∧ start + bias ≤ maxValue then
    [(start + bias,
      min (min (min (start + bf ^ (height - depth + 1) - 1) U32_MAX + bias) U32_MAX) maxValue)]
  else []

/-- ranges inserted for the queue entry `(start, depth)` when the node read for it is `bits` -/
def nodeIns (bf height bias maxValue start depth bits : Nat) : List (Nat × Nat) :=
  if bits = 0 then filledIns bf height depth bias maxValue start
  else if depth = height then (leafValues start bias maxValue (setBits bits)).1 else []

/-- queue entries added for it -/
def nodeKids (bf height start depth bits : Nat) : List (Nat × Nat) :=
  if bits = 0 then [] else if depth = height then []
  else (setBits bits).map (fun i => (start + i * bf ^ (height - depth), depth + 1))

/-- the leaf loop took `break 'outer` on it -/
def nodeStop (height bias maxValue start depth bits : Nat) : Bool :=
  decide (bits ≠ 0) && decide (depth = height) && (leafValues start bias maxValue (setBits bits)).2

theorem nodeKids_leaf (bf height start bits : Nat) : nodeKids bf height start height bits = [] := by
  rw [nodeKids, if_pos rfl, ite_self]

theorem decodeLoop_cons (bf height bias maxValue : Nat) (data : List Nat) (fuel : Nat) (st : BitIn)
    (start depth : Nat) (queue acc : List (Nat × Nat)) :
    decodeLoop bf height bias maxValue data (fuel + 1) st ((start, depth) :: queue) acc =
      match nextNode bf data st with
      | none => .error
      | some (bits, st') =>
        if nodeStop height bias maxValue start depth bits = true then
          finish bf data st' queue.length (acc ++ nodeIns bf height bias maxValue start depth bits)
        else decodeLoop bf height bias maxValue data fuel st' (queue ++ nodeKids bf height start depth bits)
          (acc ++ nodeIns bf height bias maxValue start depth bits) := by
  rw [decodeLoop]
  cases nextNode bf data st with
  | none => rfl
  | some p =>
    obtain ⟨bits, st'⟩ := p
    dsimp only
    by_cases hb : bits = 0
    · have hs : nodeStop height bias maxValue start depth bits = false := by simp [nodeStop, hb]
      rw [if_pos hb, hs, if_neg Bool.false_ne_true, nodeKids, if_pos hb, nodeIns, if_pos hb,
        List.append_nil, filledIns]
      by_cases hc : start ≤ U32_MAX ∧ start + bias ≤ U32_MAX ∧ start + bias ≤ maxValue
      · rw [if_pos hc, if_pos hc]
      · rw [if_neg hc, if_neg hc, List.append_nil]
    · rw [if_neg hb]
      by_cases hd : depth = height
      · rw [if_pos hd]
        simp only [nodeIns, nodeKids, nodeStop, if_neg hb, if_pos hd, decide_eq_true hd,
          decide_eq_true (show bits ≠ 0 from hb), Bool.true_and, List.append_nil]
      · rw [if_neg hd]
        simp only [nodeIns, nodeKids, nodeStop, if_neg hb, if_neg hd, decide_eq_false hd,
          Bool.and_false, Bool.false_and, Bool.false_eq_true, if_false, List.append_nil]

theorem nodeIns_insOk {bf : Nat} (hbf : 0 < bf) (height bias maxValue start depth bits : Nat) :
    InsOk maxValue (nodeIns bf height bias maxValue start depth bits) := by
  unfold nodeIns
  by_cases hb : bits = 0
  · rw [if_pos hb, filledIns]
    split
    · next hc =>
      intro r hr
      cases List.mem_singleton.1 hr
      have hpos : 0 < bf ^ (height - depth + 1) := Nat.pow_pos hbf
      dsimp only
      omega
    · exact fun _ h => nomatch h
  · rw [if_neg hb]
    split
    · exact leafValues_insOk _ _ _ _
    · exact fun _ h => nomatch h

/-- every loop iteration reads one node (`bf ≥ 2` bits) or ends: the loop never runs out of
fuel when twice the fuel exceeds the number of unread bits by two. -/
theorem decodeLoop_ne_outOfFuel {bf : Nat} (hbf : BfOk bf) (height bias maxValue : Nat)
    (data : List Nat) (fuel : Nat) (st : BitIn) (queue acc : List (Nat × Nat)) (hst : StOk bf st)
    (hle : pos st ≤ 8 * data.length) (hf : 8 * data.length + 2 ≤ 2 * fuel + pos st) :
    decodeLoop bf height bias maxValue data fuel st queue acc ≠ .outOfFuel := by
  induction fuel generalizing st queue acc with
  | zero => omega
  | succ fuel ih =>
    cases queue with
    | nil => rw [decodeLoop]; exact finish_ne_outOfFuel _ _ _ _ _
    | cons q queue =>
      rw [decodeLoop_cons]
      cases hn : nextNode bf data st with
      | none => nofun
      | some p =>
        have a := nextNode_some hbf hst hn
        have hbf2 := bfOk_two_le hbf
        dsimp only
        split
        · exact finish_ne_outOfFuel _ _ _ _ _
        · exact ih _ _ _ a.1 (by omega) (by omega)

theorem decodeLoop_fuel_succ (bf height bias maxValue : Nat) (data : List Nat)
    (fuel : Nat) (st : BitIn) (queue acc : List (Nat × Nat))
    (h : decodeLoop bf height bias maxValue data fuel st queue acc ≠ .outOfFuel) :
    decodeLoop bf height bias maxValue data (fuel + 1) st queue acc
      = decodeLoop bf height bias maxValue data fuel st queue acc := by
  induction fuel generalizing st queue acc with
  | zero => exact absurd (by rw [decodeLoop]) h
  | succ fuel ih =>
    cases queue with
    | nil => rw [decodeLoop, decodeLoop]
    | cons q queue =>
      rw [decodeLoop_cons] at h
      rw [decodeLoop_cons, decodeLoop_cons]
      cases hn : nextNode bf data st with
      | none => rfl
      | some p =>
        rw [hn] at h
        dsimp only at h ⊢
        split
        · rfl
        · next hs => rw [if_neg hs] at h; exact ih _ _ _ h

theorem decodeLoop_fuel_add (bf height bias maxValue : Nat) (data : List Nat)
    (fuel k : Nat) (st : BitIn) (queue acc : List (Nat × Nat))
    (h : decodeLoop bf height bias maxValue data fuel st queue acc ≠ .outOfFuel) :
    decodeLoop bf height bias maxValue data (fuel + k) st queue acc
      = decodeLoop bf height bias maxValue data fuel st queue acc := by
  induction k with
  | zero => rfl
  | succ k ih =>
    rw [← Nat.add_assoc, decodeLoop_fuel_succ _ _ _ _ _ _ _ _ _ (by rw [ih]; exact h), ih]

theorem decodeLoop_fuel_irrel (bf height bias maxValue : Nat) (data : List Nat)
    (f g : Nat) (st : BitIn) (queue acc : List (Nat × Nat))
    (hf : decodeLoop bf height bias maxValue data f st queue acc ≠ .outOfFuel)
    (hg : decodeLoop bf height bias maxValue data g st queue acc ≠ .outOfFuel) :
    decodeLoop bf height bias maxValue data f st queue acc
      = decodeLoop bf height bias maxValue data g st queue acc := by
  have a := decodeLoop_fuel_add bf height bias maxValue data f g st queue acc hf
  have b := decodeLoop_fuel_add bf height bias maxValue data g f st queue acc hg
  rw [← a, ← b, Nat.add_comm]

theorem decodeLoop_ok {bf : Nat} (hbf : BfOk bf) (height bias maxValue : Nat) (data : List Nat)
    (fuel : Nat) (st : BitIn) (queue acc : List (Nat × Nat)) {ins : List (Nat × Nat)}
    {rest : List Nat} (hacc : InsOk maxValue acc)
    (h : decodeLoop bf height bias maxValue data fuel st queue acc = .ok ins rest) :
    InsOk maxValue ins ∧ rest <:+ data := by
  induction fuel generalizing st queue acc with
  | zero => rw [decodeLoop] at h; cases h
  | succ fuel ih =>
    cases queue with
    | nil =>
      rw [decodeLoop] at h
      obtain ⟨rfl, hsuf⟩ := finish_ok h
      exact ⟨hacc, hsuf⟩
    | cons q queue =>
      rw [decodeLoop_cons] at h
      cases hn : nextNode bf data st with
      | none => rw [hn] at h; cases h
      | some p =>
        rw [hn] at h
        dsimp only at h
        have hnew := insOk_append hacc (nodeIns_insOk (bfOk_pos hbf) height bias maxValue q.1 q.2 p.1)
        split at h
        · obtain ⟨rfl, hsuf⟩ := finish_ok h
          exact ⟨hnew, hsuf⟩
        · exact ih _ _ _ hnew h

end FontVerif.SparseBitSet
