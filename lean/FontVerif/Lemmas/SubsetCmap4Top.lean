/-
Helper lemmas for C17 (Model/SubsetCmap.lean): what klippa's format 4 array writer
(`serialize_rangeoffset_glyph_ids`) emits for a valid list of ranges (`emitRows_ok`), `Cmap4::serialize` as one
equation (`build4With_rows`), and the link to C08's reader (`map4_ofRowsX_iff`, any table compiled from a valid
segmentation with 0 or 1 terminating rows): `build4With_lookup`.
-/
import FontVerif.Lemmas.SubsetCmap4
import FontVerif.Lemmas.Cmap4Top
import FontVerif.Lemmas.Lists
namespace FontVerif.SubsetCmap
open FontVerif.Cmap

/-- the segment (C08's index form) a written range stands for when it starts at index `i` -/
def segOf (cp gid : Nat → Nat) (i : Nat) (r : Range) : Seg :=
  { startIx := i, endIx := i + (r.2.1 - r.1), startChar := r.1, endChar := r.2.1,
    idDelta := if r.2.2 = 0 then none else some ((gid i : Int) - (cp i : Int)) }

def segsOf (cp gid : Nat → Nat) : Nat → List Range → List Seg
  | _, [] => []
  | i, r :: rest => segOf cp gid i r :: segsOf cp gid (i + (r.2.1 - r.1) + 1) rest

theorem segsOf_length (cp gid : Nat → Nat) : ∀ (body : List Range) (lo : Nat),
    (segsOf cp gid lo body).length = body.length := by
  intro body
  induction body with
  | nil => intro lo; rfl
  | cons r rest ih => intro lo; simp [segsOf, ih]

theorem segsTile_of_bodyOk (cp gid : Nat → Nat) : ∀ (body : List Range) (lo n : Nat),
    BodyOk cp gid lo n body → SegsTile cp gid lo n (segsOf cp gid lo body) := by
  intro body
  induction body with
  | nil => intro lo n h; exact h
  | cons r rest ih =>
    intro lo n h
    obtain ⟨a, b, c, d, e, f⟩ := h
    refine ⟨rfl, ⟨by simp [segOf], ?_, ?_⟩, ih _ _ f⟩
    · intro k h1 h2
      simp only [segOf] at h1 h2 ⊢
      rw [d k h1 h2, a]
    · intro dd hdd k h1 h2
      simp only [segOf] at h1 h2 hdd
      by_cases h0 : r.2.2 = 0
      · simp [h0] at hdd
      · simp only [h0, if_false] at hdd
        cases Option.some.inj hdd
        exact (e h0).2 k h1 h2

/-- `cp_to_gid_map.get(&cp)` finds the pair of a list with distinct code points -/
theorem gidOf_of_mem (l : Mapping) (hasc : Ascending l) (c g : Nat) (h : (c, g) ∈ l) : gidOf l c = some g := by
  have hnd : (l.reverse.map (·.1)).Nodup := by
    rw [List.map_reverse]
    exact List.pairwise_reverse.mpr (List.pairwise_map.mpr (hasc.imp fun h => (Nat.ne_of_lt h).symm))
  unfold gidOf gidOfR
  rw [find?_fst_eq_lookup, lookup_eq_some_iff_mem hnd]
  exact List.mem_reverse.2 h

/-- the glyph ids written for a block of consecutive listed code points: those of the block, in order -/
theorem glyphIdsGo_eq (l : Mapping) (cp gid : Nat → Nat) (n : Nat)
    (hl : ∀ k, k < n → gidOf l (cp k) = some (gid k)) (hg : ∀ k, k < n → gid k ≤ 0xFFFF) :
    ∀ (len lo c : Nat), lo + len ≤ n → (∀ t, t < len → cp (lo + t) = c + t) →
      glyphIdsGo l.reverse len c = some ((List.range' lo len).map gid) := by
  intro len
  induction len with
  | zero => intro lo c _ _; rfl
  | succ len ih =>
    intro lo c hlen hcp
    have hgl : gidOfR l.reverse c = some (gid lo) := by rw [← Nat.add_zero c, ← hcp 0 (by omega)]; exact hl lo (by omega)
    have hmod : gid lo % 65536 = gid lo := by have := hg lo (by omega); omega
    rw [glyphIdsGo, hgl, ih (lo + 1) (c + 1) (by omega) (fun t ht => by
      rw [show lo + 1 + t = lo + (t + 1) by omega, hcp (t + 1) (by omega)]; omega), List.range'_succ]
    simp only [Option.map_some, List.map_cons, hmod]

theorem glyphIdsFor_range (l : Mapping) (cp gid : Nat → Nat) (n : Nat)
    (hl : ∀ k, k < n → gidOf l (cp k) = some (gid k)) (hg : ∀ k, k < n → gid k ≤ 0xFFFF)
    {lo s e : Nat} (hse : s ≤ e) (hn : lo + (e - s) < n)
    (hrun : ∀ k, lo ≤ k → k ≤ lo + (e - s) → cp k = s + (k - lo)) :
    glyphIdsFor l.reverse s e = some ((List.range' lo (e + 1 - s)).map gid) :=
  glyphIdsGo_eq l cp gid n hl hg (e + 1 - s) lo s (by omega)
    (fun t ht => by rw [hrun _ (by omega) (by omega)]; omega)

theorem rowSpec_delta (cp gid : Nat → Nat) (sc j lo s e : Nat) (d : Int) (g : List Nat)
    (hs : s = cp lo) (he : cp (lo + (e - s)) = e) (hcs : s ≤ 0xFFFF) (hce : e ≤ 0xFFFF) (hd : d ≠ 0)
    (hdel : d = wrapI16 ((gid lo : Int) - (cp lo : Int))) :
    RowSpec cp gid sc j (segOf cp gid lo (s, e, d)) (s, e, d, 0) g := by
  simp only [RowSpec, segOf, Row.start, Row.end_, Row.delta, Row.off, if_neg hd]
  exact ⟨by omega, by omega, hdel, trivial⟩

theorem rowSpec_offset (cp gid : Nat → Nat) (sc j lo s e p : Nat) (g : List Nat)
    (hs : s = cp lo) (hse : s ≤ e) (he : cp (lo + (e - s)) = e) (hcs : s ≤ 0xFFFF) (hce : e ≤ 0xFFFF)
    (hoff : (sc - j + p) * 2 ≤ 65535)
    (hg : ∀ t, t < e + 1 - s → g[p + t]? = some (gid (lo + t))) :
    RowSpec cp gid sc j (segOf cp gid lo (s, e, 0)) (s, e, 0, ((sc - j + p) * 2) % 65536) g := by
  simp only [RowSpec, segOf, Row.start, Row.end_, Row.delta, Row.off, if_pos]
  exact ⟨by omega, by omega, trivial, p, by omega, hoff, fun t ht => hg t (by omega)⟩

/-- the array writer on a valid cover: it succeeds, writes one row per range and at most one glyph id per
listed pair, and (when the offsets fit 16 bits) every row is the row of its segment -/
theorem emitRows_ok (cp gid : Nat → Nat) (n : Nat) (l : Mapping)
    (hl : ∀ k, k < n → gidOf l (cp k) = some (gid k))
    (hc : ∀ k, k < n → cp k ≤ 0xFFFF) (hg : ∀ k, k < n → gid k ≤ 0xFFFF) (sc : Nat) :
    ∀ (body : List Range) (lo i nIds : Nat), BodyOk cp gid lo n body →
      ∃ rows g, emitRows l.reverse sc i nIds body = some (rows, g) ∧ rows.length = body.length ∧ lo + g.length ≤ n ∧
        ((sc + nIds + g.length) * 2 ≤ 65535 → i + body.length ≤ sc →
          ∀ (pg : List Nat), pg.length = nIds → ∀ j (hj : j < (segsOf cp gid lo body).length),
            ∃ row, rows[j]? = some row ∧ RowSpec cp gid sc (i + j) (segsOf cp gid lo body)[j] row (pg ++ g)) := by
  intro body
  induction body with
  | nil =>
    intro lo i nIds h
    simp only [BodyOk] at h
    exact ⟨[], [], rfl, rfl, by simp; omega, fun _ _ pg _ j hj => by simp [segsOf] at hj⟩
  | cons r rest ih =>
    intro lo i nIds hbody
    obtain ⟨s, e, d⟩ := r
    obtain ⟨b1, b2, b3, b4, b5, b6⟩ := hbody
    simp only at b1 b2 b3 b4 b5 b6
    have hcs : s ≤ 0xFFFF := b1 ▸ hc lo (by omega)
    have hend : cp (lo + (e - s)) = e := by rw [b4 _ (by omega) (Nat.le_refl _)]; omega
    have hce : e ≤ 0xFFFF := hend ▸ hc (lo + (e - s)) b3
    rw [emitRows]
    by_cases hd : d ≠ 0
    · rw [if_pos hd]
      obtain ⟨rows', g, hr, ih1, ih2, ih3⟩ := ih _ (i + 1) nIds b6
      refine ⟨(s, e, d, 0) :: rows', g, by rw [hr], by simp [ih1], by omega, fun hbound hsc pg hpg => ?_⟩
      rw [List.length_cons] at hsc
      exact rowSpec_cons (rowSpec_delta cp gid sc i lo s e d _ b1 hend hcs hce hd (b5 hd).1)
        (ih3 hbound (by omega) pg hpg)
    · cases Decidable.not_not.mp hd
      rw [if_neg hd]
      have hch := glyphIdsFor_range l cp gid n hl hg b2 b3 b4
      generalize hck : (List.range' lo (e + 1 - s)).map gid = chunk at hch
      have hlen : chunk.length = e + 1 - s := by rw [← hck, List.length_map, List.length_range']
      have hget : ∀ t, t < e + 1 - s → chunk[t]? = some (gid (lo + t)) := fun t ht => by
        rw [← hck, List.getElem?_map, List.getElem?_range' ht, Nat.one_mul]; rfl
      obtain ⟨rows', g', hr, ih1, ih2, ih3⟩ := ih _ (i + 1) (nIds + chunk.length) b6
      refine ⟨(s, e, 0, (((sc - i) + nIds) * 2) % 65536) :: rows', chunk ++ g', by simp only [hch, hr], by simp [ih1],
        by rw [List.length_append]; omega, fun hbound hsc pg hpg => ?_⟩
      rw [List.length_cons] at hsc
      rw [List.length_append] at hbound
      refine rowSpec_cons ?_ ?_
      · refine rowSpec_offset cp gid sc i lo s e nIds _ b1 b2 hend hcs hce (by omega) (fun t ht => ?_)
        rw [← List.append_assoc, List.getElem?_append_left (by simp [hpg, hlen]; omega),
          List.getElem?_append_right (by omega), hpg, show nIds + t - nIds = t by omega]
        exact hget t ht
      · have := ih3 (by omega) (by omega) (pg ++ chunk) (by simp [hpg])
        rwa [List.append_assoc] at this

theorem sentinel_length_le (c : Nat) : (sentinel c).length ≤ 1 := by unfold sentinel; split <;> simp

theorem sentinel_length_one (c : Nat) : (sentinel c).length = 1 ↔ c ≠ 0xFFFF := by unfold sentinel; split <;> simp_all

theorem emitRows_snoc_sentinel (l : Mapping) (sc : Nat) : ∀ (body : List Range) (i nIds : Nat),
    emitRows l sc i nIds (body ++ [(0xFFFF, 0xFFFF, 1)]) =
      match emitRows l sc i nIds body with
      | none => none
      | some (rows, g) => some (rows ++ [(0xFFFF, 0xFFFF, 1, 0)], g) := by
  intro body
  induction body with
  | nil => intro i nIds; simp [emitRows]
  | cons r rest ih =>
    intro i nIds
    obtain ⟨s, e, d⟩ := r
    simp only [List.cons_append, emitRows]
    by_cases hd : d ≠ 0
    · simp only [hd, ne_eq, not_false_eq_true, if_true, ih]
      cases emitRows l sc (i + 1) nIds rest with
      | none => rfl
      | some res => obtain ⟨rows, g⟩ := res; rfl
    · simp only [hd, if_false]
      cases glyphIdsFor l s e with
      | none => rfl
      | some chunk =>
        simp only [ih]
        cases emitRows l sc (i + 1) (nIds + chunk.length) rest with
        | none => rfl
        | some res => obtain ⟨rows, g⟩ := res; rfl

theorem emitRows_append_sentinel (l : Mapping) (sc c : Nat) (body : List Range) (i nIds : Nat) :
    emitRows l sc i nIds (body ++ sentinel c) =
      (emitRows l sc i nIds body).map fun rg => (rg.1 ++ List.replicate (sentinel c).length termRow, rg.2) := by
  unfold sentinel
  by_cases hc : c ≠ 0xFFFF
  · rw [if_pos hc, emitRows_snoc_sentinel]
    cases emitRows l sc i nIds body with
    | none => rfl
    | some rg => rfl
  · rw [if_neg hc, List.append_nil]
    cases emitRows l sc i nIds body with
    | none => rfl
    | some rg => simp

theorem pairsFrom_list (l : Mapping) : pairsFrom (cpAt l.toArray) (gidAt l.toArray) 0 l.length = l := by
  apply List.ext_getElem
  · simp [pairsFrom]
  · intro k h1 h2
    simp [pairsFrom, cpAt, gidAt, List.getElem?_eq_getElem h2]

/-- `to_ranges` on a BMP list, for ANY heuristic: a valid cover followed by the terminating segment
(which is omitted exactly when the last code point is U+FFFF) -/
theorem toRangesWith_spec (h : Heur) (l : Mapping) (hb : ∀ p ∈ l, p.1 ≤ 0xFFFF ∧ p.2 ≤ 0xFFFF) (hne : l ≠ [])
    (rs : List Range) (hr : toRangesWith h l = some rs) :
    ∃ body, rs = body ++ sentinel (cpAt l.toArray (l.length - 1)) ∧
      BodyOk (cpAt l.toArray) (gidAt l.toArray) 0 l.length body := by
  have hn : 0 < l.length := List.length_pos_iff.2 hne
  have hcp : ∀ k, k < l.length → cpAt l.toArray k ≤ 0xFFFF := fun k hk => (hb _ (index_view_mem l k hk)).1
  have hgid : ∀ k, k < l.length → gidAt l.toArray k ≤ 0xFFFF := fun k hk => (hb _ (index_view_mem l k hk)).2
  rw [← pairsFrom_list l, pairsFrom_cons _ _ 0 _ hn] at hr
  simp only [toRangesWith] at hr
  exact go_body h _ _ l.length hcp hgid (l.length - 1) 1 (by omega) (by omega) _ 0 0 rs
    (inv_init _ _ 0 (hcp 0 hn) (hgid 0 hn)) hr

/-- ascending BMP list, U+FFFF allowed, glyph ids 1..=0xFFFF -/
structure InDomainF (l : Mapping) : Prop where
  asc : Ascending l
  cp : ∀ p ∈ l, p.1 ≤ 0xFFFF
  gid : ∀ p ∈ l, 1 ≤ p.2 ∧ p.2 ≤ 0xFFFF

/-- `Cmap4::serialize` on any ascending BMP list (U+FFFF allowed), any heuristic, as one equation: once `to_ranges` has
returned, the outcome is decided by two size checks, and the table consists of the rows of a valid segmentation followed
by the terminating row exactly when `to_ranges` wrote the terminating segment -/
theorem build4With_rows (h : Heur) (l : Mapping) (hd : InDomainF l) (hne : l ≠ []) (rs : List Range)
    (hr : toRangesWith h l = some rs) :
    ∃ body rows g, rs = body ++ sentinel (cpAt l.toArray (l.length - 1)) ∧
      BodyOk (cpAt l.toArray) (gidAt l.toArray) 0 l.length body ∧
      rows.length = body.length ∧ body.length ≤ l.length ∧ g.length ≤ l.length ∧
      build4With h l = (if rs.length > 65535 then .trap else
        if length4 (Cmap4.ofRowsX (sentinel (cpAt l.toArray (l.length - 1))).length rows g) > 65535 then
          .err "int-overflow"
        else .ok (Cmap4.ofRowsX (sentinel (cpAt l.toArray (l.length - 1))).length rows g)) ∧
      ((rs.length + g.length) * 2 ≤ 65535 →
        ∀ j (hj : j < (segsOf (cpAt l.toArray) (gidAt l.toArray) 0 body).length), ∃ row, rows[j]? = some row ∧
          RowSpec (cpAt l.toArray) (gidAt l.toArray) rs.length j
            (segsOf (cpAt l.toArray) (gidAt l.toArray) 0 body)[j] row g) := by
  have hb2 : ∀ p ∈ l, p.1 ≤ 0xFFFF ∧ p.2 ≤ 0xFFFF := fun p hp => ⟨hd.cp p hp, (hd.gid p hp).2⟩
  obtain ⟨body, hrs, hbody⟩ := toRangesWith_spec h l hb2 hne rs hr
  subst hrs
  obtain ⟨rows, g, he, h1, h2, h3⟩ := emitRows_ok _ _ l.length l
    (fun k hk => gidOf_of_mem l hd.asc _ _ (index_view_mem l k hk))
    (fun k hk => (hb2 _ (index_view_mem l k hk)).1) (fun k hk => (hb2 _ (index_view_mem l k hk)).2)
    (body ++ sentinel (cpAt l.toArray (l.length - 1))).length body 0 0 0 hbody
  refine ⟨body, rows, g, rfl, hbody, h1, by have := bodyOk_length _ _ body 0 l.length hbody; omega, by omega, ?_, ?_⟩
  · unfold build4With
    simp only [hr]
    rw [emitRows_append_sentinel, he]
    rfl
  · intro hbound j hj
    have := h3 (by omega) (by simp) [] rfl j hj
    simpa using this

/-- an ascending BMP list leaves room for the terminating row exactly when `to_ranges` writes one -/
theorem mapOkX_of_list (l : Mapping) (hd : InDomainF l) :
    MapOkX (sentinel (cpAt l.toArray (l.length - 1))).length (cpAt l.toArray) (gidAt l.toArray) l.length := by
  refine mapOkX_list _ l hd.asc (fun p hp => ?_) hd.gid
  obtain ⟨k, hk, rfl⟩ := List.getElem_of_mem hp
  have hle := hd.cp _ (List.getElem_mem hk)
  unfold sentinel
  by_cases hc : cpAt l.toArray (l.length - 1) ≠ 0xFFFF
  · -- every code point is at most the last, which is below U+FFFF
    rw [if_pos hc]
    rw [(index_view_list l _ (by omega)).1] at hc
    have hl := hd.cp _ (List.getElem_mem (show l.length - 1 < l.length by omega))
    by_cases hkl : k = l.length - 1
    · subst hkl; simp only [List.length_cons, List.length_nil]; omega
    · have := (List.pairwise_iff_getElem.1 hd.asc) k (l.length - 1) hk (by omega) (by omega)
      simp only [List.length_cons, List.length_nil]; omega
  · rw [if_neg hc]; exact hle

/-- a table that `Cmap4::serialize` returns, any heuristic: the rows of a valid segmentation of the whole list, followed
by as many terminating rows (0 or 1) as `to_ranges` wrote terminating segments -/
theorem build4With_ok (h : Heur) (l : Mapping) (hd : InDomainF l) (hne : l ≠ []) (t : Cmap4)
    (ht : build4With h l = .ok t) :
    ∃ body rows g, BodyOk (cpAt l.toArray) (gidAt l.toArray) 0 l.length body ∧
      t = Cmap4.ofRowsX (sentinel (cpAt l.toArray (l.length - 1))).length rows g ∧
      RowsMatchX (sentinel (cpAt l.toArray (l.length - 1))).length (cpAt l.toArray) (gidAt l.toArray)
        (segsOf (cpAt l.toArray) (gidAt l.toArray) 0 body) rows g := by
  cases hr : toRangesWith h l with
  | none => simp [build4With, hr] at ht
  | some rs =>
    obtain ⟨body, rows, g, hrs, hbody, hlen, _, _, heq, hrow⟩ := build4With_rows h l hd hne rs hr
    have hrl : rs.length = body.length + (sentinel (cpAt l.toArray (l.length - 1))).length := by
      rw [hrs, List.length_append]
    clear hrs
    generalize (sentinel (cpAt l.toArray (l.length - 1))).length = x at *
    rw [heq] at ht
    by_cases h1 : rs.length > 65535
    · rw [if_pos h1] at ht; cases ht
    rw [if_neg h1] at ht
    by_cases h2 : length4 (Cmap4.ofRowsX x rows g) > 65535
    · rw [if_pos h2] at ht; cases ht
    rw [if_neg h2] at ht
    cases ht
    simp only [length4, Cmap4.ofRowsX, List.size_toArray, List.length_map, List.length_append,
      List.length_replicate] at h2
    refine ⟨body, rows, g, hbody, rfl, by rw [hlen, segsOf_length], fun j hj => ?_⟩
    have := hrow (by omega) j hj
    rwa [hrl, ← segsOf_length (cpAt l.toArray) (gidAt l.toArray) body 0] at this

/-- LOOKUP, every ascending BMP list (U+FFFF allowed), every heuristic: read-fonts' `map_codepoint` on a table that
`Cmap4::serialize` returns answers exactly the listed pairs — and glyph 0 for U+FFFF when the list does not end with it
(the terminating segment, written exactly then) -/
theorem build4With_lookup (h : Heur) (l : Mapping) (hd : InDomainF l) (hne : l ≠ []) (t : Cmap4)
    (ht : build4With h l = .ok t) (c v : Nat) :
    map4 t c = some v ↔ (c, v) ∈ l ∨ (c = 0xFFFF ∧ v = 0 ∧ cpAt l.toArray (l.length - 1) ≠ 0xFFFF) := by
  obtain ⟨body, rows, g, hbody, rfl, hrm⟩ := build4With_ok h l hd hne t ht
  rw [map4_ofRowsX_iff (sentinel_length_le _) (mapOkX_of_list l hd) (segsTile_of_bodyOk _ _ body 0 l.length hbody) hrm,
    mem_iff_index_list l c v, sentinel_length_one]
  exact or_congr Iff.rfl ⟨fun ⟨a, b, c⟩ => ⟨b, c, a⟩, fun ⟨a, b, c⟩ => ⟨c, a, b⟩⟩

end FontVerif.SubsetCmap
