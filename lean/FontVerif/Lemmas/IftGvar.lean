/-
C18 — glyph-keyed patching of gvar (Model/GvarKeyed.lean): what a successful `gvarPatch` produces,
read back with the same reader (`gvarRead`), and the two-step (grouping) lemma `gvarPatch_two_step`.
-/
import FontVerif.Model.GvarKeyed
import FontVerif.Lemmas.IftOrder
namespace FontVerif.Ift

theorem gvarRead_some (b : Bytes) (v : GvarView) (h : gvarRead b = some v) :
    16 ≤ b.length ∧
    v.axisCount = beValue (sliceLen b 4 2) ∧ v.sharedTupleCount = beValue (sliceLen b 6 2) ∧
    v.glyphCount = beValue (sliceLen b 12 2) ∧
    v.offsets = gvarOffsets v.long (beArray (gvarWidth v.long) (v.glyphCount + 1) (b.drop 20)) := by
  unfold gvarRead at h
  split at h
  · cases h
  · split at h
    · cases h
    · simp only [Option.some.injEq] at h
      subst h
      exact ⟨by omega, rfl, rfl, rfl, rfl⟩

theorem gvarSharedTuples_len (b : Bytes) (v : GvarView) (tuples : Bytes) (h : gvarSharedTuples b v = .ok tuples) :
    tuples.length = v.sharedTupleCount * (v.axisCount * 2) := by
  unfold gvarSharedTuples at h
  split at h
  · cases h
  · split at h
    · cases h
    · simp only at h
      split at h
      · cases h
      · simp only [Except.ok.injEq] at h
        rw [← h]
        exact sliceLen_length _ _ _ (by omega)

theorem gvarAssemble_ok (b : Bytes) (v : GvarView) (t : OffsetType) (data offs out : Bytes)
    (h : gvarAssemble b v t data offs = .ok out) :
    ∃ tuples, gvarSharedTuples b v = .ok tuples ∧ out = gvarEmit b t offs tuples data := by
  unfold gvarAssemble at h
  obtain ⟨_, h⟩ := Do.error_else_ok h
  obtain ⟨_, h⟩ := Do.error_else_ok h
  cases ht : gvarSharedTuples b v with
  | error e => rw [ht] at h; cases h
  | ok tuples =>
    rw [ht] at h
    simp only at h
    obtain ⟨_, h⟩ := Do.error_else_ok h
    simp only [Except.ok.injEq] at h
    exact ⟨tuples, rfl, h.symm⟩

theorem gvar_type (b : Bytes) (v : GvarView) (total : Nat) (t : OffsetType)
    (h : chooseOffsetType (gvarArray b v) total = .ok t) :
    (t = .long ∨ t = .shortDivByTwo) ∧ (t = .shortDivByTwo → v.long = false) := by
  obtain ⟨c1, c2, c3⟩ := chooseOffsetType_spec _ total t h
  simp only [gvarArray] at c2 c3
  by_cases hfit : total ≤ (gvarCurType v).maxRepresentable
  · have := c2 hfit
    subst this
    cases hl : v.long <;> simp [gvarCurType, hl]
  · obtain ⟨hm, _⟩ := c3 (by omega)
    simp only [List.mem_cons, List.not_mem_nil, or_false] at hm
    refine ⟨hm.symm, ?_⟩
    intro hs
    subst hs
    cases hl : v.long with
    | false => rfl
    | true =>
      exfalso
      simp only [gvarCurType, hl, if_true] at hfit
      have : OffsetType.shortDivByTwo.maxRepresentable ≤ OffsetType.long.maxRepresentable := by decide
      omega

theorem gvarArray_ascSound (b : Bytes) (v : GvarView) : (gvarArray b v).AscSound := fun h => h

theorem or_one_mod_two (f : Nat) : (f ||| 1) % 2 = 1 := by
  have := @Nat.or_mod_two_pow f 1 1
  simp only [Nat.pow_one] at this
  rw [this]
  rcases Nat.mod_two_eq_zero_or_one f with h | h <;> rw [h] <;> decide

theorem and_254_mod_two (f : Nat) : (f &&& 254) % 2 = 0 := by
  have := @Nat.and_mod_two_pow f 254 1
  simp only [Nat.pow_one] at this
  rw [this]
  simp

theorem gvarFlagByte_longBit (b : Bytes) (t : OffsetType) (ht : t = .long ∨ t = .shortDivByTwo) :
    gvarFlagByte b t % 2 = if t = .long then 1 else 0 := by
  unfold gvarFlagByte
  rcases ht with e | e <;> subst e
  · simp only [OffsetType.width, if_true]; exact or_one_mod_two _
  · simp only [OffsetType.width, show ¬ (2 = 4) by decide, if_false, reduceCtorEq]; exact and_254_mod_two _

/-- bit 0 of the flags field of a gvar table: 1 = long offsets -/
def gvarLongBit (x : Bytes) : Nat := (x.drop 15).headD 0 % 2

theorem gvarEmit_fields (b : Bytes) (t : OffsetType) (offs tuples data : Bytes) (h : 16 ≤ b.length) :
    (gvarEmit b t offs tuples data).length = 20 + offs.length + tuples.length + data.length ∧
    sliceLen (gvarEmit b t offs tuples data) 0 8 = sliceLen b 0 8 ∧
    sliceLen (gvarEmit b t offs tuples data) 8 4 = beBytes 4 (20 + offs.length) ∧
    sliceLen (gvarEmit b t offs tuples data) 12 3 = sliceLen b 12 3 ∧
    (∃ rest, (gvarEmit b t offs tuples data).drop 15 = gvarFlagByte b t :: rest) ∧
    sliceLen (gvarEmit b t offs tuples data) 16 4 = beBytes 4 (20 + offs.length + tuples.length) ∧
    (gvarEmit b t offs tuples data).drop 20 = offs ++ tuples ++ data := by
  have hA : (sliceLen b 0 8).length = 8 := sliceLen_length b 0 8 (by omega)
  have hC : (sliceLen b 12 3).length = 3 := sliceLen_length b 12 3 (by omega)
  -- with no shared tuples the first link points at the data object, which then starts where the tuples would
  have hlink : (if tuples.length = 0 then 20 + offs.length + tuples.length else 20 + offs.length) = 20 + offs.length := by
    split <;> omega
  have e : gvarEmit b t offs tuples data = sliceLen b 0 8 ++
      (beBytes 4 (20 + offs.length) ++
        (sliceLen b 12 3 ++ (gvarFlagByte b t ::
          (beBytes 4 (20 + offs.length + tuples.length) ++ (offs ++ tuples ++ data))))) := by
    simp only [gvarEmit, hlink, sliceLen, List.drop_zero, List.append_assoc, List.cons_append, List.nil_append]
  rw [e]
  generalize sliceLen b 0 8 = A at hA
  generalize sliceLen b 12 3 = C at hC
  have hB := beBytes_length 4 (20 + offs.length)
  generalize beBytes 4 (20 + offs.length) = B at hB
  have hB' := beBytes_length 4 (20 + offs.length + tuples.length)
  generalize beBytes 4 (20 + offs.length + tuples.length) = B' at hB'
  have hbody : (offs ++ tuples ++ data).length = offs.length + tuples.length + data.length := by
    rw [List.length_append, List.length_append]
  generalize offs ++ tuples ++ data = body at hbody
  have hAB : (A ++ B).length = 12 := by rw [List.length_append, hA, hB]
  have hABC : (A ++ B ++ C).length = 15 := by rw [List.length_append, hAB, hC]
  have hH : (A ++ B ++ C ++ [gvarFlagByte b t]).length = 16 := by rw [List.length_append, hABC]; rfl
  have hH' : (A ++ B ++ C ++ [gvarFlagByte b t] ++ B').length = 20 := by rw [List.length_append, hH, hB']
  refine ⟨?_, ?_, ?_, ?_, ⟨B' ++ body, ?_⟩, ?_, ?_⟩
  · simp only [List.length_append, List.length_cons, hA, hB, hC, hB', hbody]; omega
  · rw [sliceLen_append_left _ _ _ _ (Nat.le_of_eq hA.symm), sliceLen_all _ _ hA]
  · rw [sliceLen_append_right _ _ 8 _ _ hA (Nat.le_refl _), sliceLen_append_left _ _ _ _ (Nat.le_of_eq hB.symm),
      sliceLen_all _ _ hB]
  · rw [← List.append_assoc, sliceLen_append_right _ _ 12 _ _ hAB (Nat.le_refl _),
      sliceLen_append_left _ _ _ _ (Nat.le_of_eq hC.symm), sliceLen_all _ _ hC]
  · rw [← List.append_assoc, ← List.append_assoc, List.drop_left' hABC]
  · rw [← List.append_assoc, ← List.append_assoc, ← List.singleton_append, ← List.append_assoc,
      sliceLen_append_right _ _ 16 _ _ hH (Nat.le_refl _), sliceLen_append_left _ _ _ _ (Nat.le_of_eq hB'.symm),
      sliceLen_all _ _ hB']
  · rw [← List.append_assoc, ← List.append_assoc, ← List.singleton_append, ← List.append_assoc,
      ← List.append_assoc, List.drop_left' hH']

theorem gvarLongBit_emit (b : Bytes) (t : OffsetType) (offs tuples data : Bytes) (h : 16 ≤ b.length)
    (ht : t = .long ∨ t = .shortDivByTwo) :
    gvarLongBit (gvarEmit b t offs tuples data) = if t = .long then 1 else 0 := by
  obtain ⟨_, _, _, _, ⟨rest, f15⟩, _⟩ := gvarEmit_fields b t offs tuples data h
  unfold gvarLongBit
  rw [f15]
  exact gvarFlagByte_longBit b t ht

theorem gvarEmit_emit (b : Bytes) (t : OffsetType) (offs tuples data offs' tuples' data' : Bytes)
    (h : 16 ≤ b.length) :
    gvarEmit (gvarEmit b t offs tuples data) t offs' tuples' data' = gvarEmit b t offs' tuples' data' := by
  obtain ⟨_, f0, _, f12, ⟨rest, f15⟩, _⟩ := gvarEmit_fields b t offs tuples data h
  generalize gvarEmit b t offs tuples data = x at f0 f12 f15
  have hf : gvarFlagByte x t = gvarFlagByte b t := by
    conv => lhs; unfold gvarFlagByte
    rw [f15]
    unfold gvarFlagByte
    by_cases hw : t.width = 4
    · simp only [hw, if_true, List.headD_cons, Nat.or_assoc]; rfl
    · simp only [hw, if_false, List.headD_cons, Nat.and_assoc]; rfl
  unfold gvarEmit
  rw [show x.take 8 = b.take 8 from f0, f12, hf]

theorem gvarEmit_links (L E T D : Nat) (hL : L = 20 + E + T + D) :
    ¬ L < 16 ∧ ¬ L < 20 + E ∧ 20 + E ≤ L ∧ 20 + E + T ≤ L ∧ 20 + E ≠ 0 ∧ ¬ L - (20 + E) < T := by
  omega

theorem gvarRead_emit (b : Bytes) (v : GvarView) (hr : gvarRead b = some v) (t : OffsetType)
    (ht : t = .long ∨ t = .shortDivByTwo) (os : List Nat) (tuples data : Bytes)
    (hst : gvarSharedTuples b v = .ok tuples) (hlen : os.length = v.glyphCount + 1)
    (hdiv : ∀ o ∈ os, o % t.divisor = 0) (hb : ∀ o ∈ os, o / t.divisor + t.bias < 2 ^ (t.width * 8))
    (hsz : (gvarEmit b t (encodeOffs t os) tuples data).length < 2 ^ 32) :
    ∃ v', gvarRead (gvarEmit b t (encodeOffs t os) tuples data) = some v' ∧
      v'.axisCount = v.axisCount ∧ v'.sharedTupleCount = v.sharedTupleCount ∧
      v'.glyphCount = v.glyphCount ∧ v'.long = decide (t = .long) ∧ v'.offsets = os ∧
      (gvarEmit b t (encodeOffs t os) tuples data).drop v'.arrayOffset = data ∧
      gvarSharedTuples (gvarEmit b t (encodeOffs t os) tuples data) v' = .ok tuples := by
  obtain ⟨h16, hac, hsc, hgc, _⟩ := gvarRead_some b v hr
  have htl := gvarSharedTuples_len b v tuples hst
  have et : t = typeOfLong (decide (t = .long)) := by rcases ht with e | e <;> subst e <;> rfl
  generalize decide (t = .long) = long at et ⊢
  subst et
  obtain ⟨hoffs, henc⟩ := gvarOffsets_encodeOffs long os (v.glyphCount + 1) (tuples ++ data) hlen hdiv hb
  generalize encodeOffs (typeOfLong long) os = E at *
  obtain ⟨flen, f0, f8, f12, ⟨rest, f15⟩, f16, fdrop⟩ := gvarEmit_fields b (typeOfLong long) E tuples data h16
  generalize gvarEmit b (typeOfLong long) E tuples data = out at *
  have g4 : sliceLen out 4 2 = sliceLen b 4 2 := sliceLen_of_sliceLen_eq out b 0 8 4 2 f0 (by decide)
  have g6 : sliceLen out 6 2 = sliceLen b 6 2 := sliceLen_of_sliceLen_eq out b 0 8 6 2 f0 (by decide)
  have g12 : sliceLen out 12 2 = sliceLen b 12 2 := sliceLen_of_sliceLen_eq out b 12 3 0 2 f12 (by decide)
  have g14 : sliceLen out 14 1 = sliceLen b 14 1 := sliceLen_of_sliceLen_eq out b 12 3 2 1 f12 (by decide)
  have hlong : (beValue (sliceLen out 14 2) % 2 == 1) = long := by
    have e15 : sliceLen out 15 1 = [gvarFlagByte b (typeOfLong long)] := by unfold sliceLen; rw [f15]; rfl
    rw [sliceLen_add out 14 1 1, g14, e15, beValue_append_one, Nat.add_mod, Nat.mul_mod,
      gvarFlagByte_longBit b _ ht]
    cases long <;> simp [typeOfLong]
  have hval : ∀ x, x < 2 ^ 32 → beValue (beBytes 4 x) = x := fun x hx =>
    beValue_beBytes 4 x (by rw [show (256 : Nat) ^ 4 = 2 ^ 32 by decide]; exact hx)
  obtain ⟨a16, a20, atp, adp, atp0, afit⟩ := gvarEmit_links out.length E.length tuples.length data.length flen
  unfold gvarRead
  rw [if_neg a16, g12, hlong, if_neg (by rw [← hgc, ← henc]; exact a20)]
  refine ⟨_, rfl, by simp only; rw [g4, hac], by simp only; rw [g6, hsc], hgc.symm, rfl,
    by simp only; rw [← hgc, fdrop, List.append_assoc]; exact hoffs, ?_, ?_⟩
  · simp only
    rw [f16, hval _ (Nat.lt_of_le_of_lt adp hsz), Nat.add_assoc, ← List.drop_drop, fdrop]
    exact List.drop_left' List.length_append
  · unfold gvarSharedTuples
    simp only
    rw [f8, hval _ (Nat.lt_of_le_of_lt atp hsz), g6, ← hsc, g4, ← hac, ← htl, if_neg atp0, if_neg a20, if_neg afit]
    unfold sliceLen
    rw [← List.drop_drop, fdrop, List.append_assoc, List.drop_left' rfl, List.take_left' rfl]

theorem gvarPatch_parts (b : Bytes) (gps : List GlyphPatches) (m : Nat) (out : Bytes)
    (h : gvarPatch (some b) gps m = .ok out) :
    ∃ v repl t tuples total, gvarRead b = some v ∧ dedup TAG_gvar gps = .ok repl ∧
      (t = .long ∨ t = .shortDivByTwo) ∧ gvarSharedTuples b v = .ok tuples ∧
      totalDataSize (gvarArray b v) repl m = .ok total ∧ chooseOffsetType (gvarArray b v) total = .ok t ∧
      (∀ x ∈ repl, x.1 ≤ m) ∧
      out = gvarEmit b t (encodeOffs t (newOffsets (chunks (gvarArray b v) t repl m))) tuples
        (chunks (gvarArray b v) t repl m).flatten ∧
      (∀ o ∈ newOffsets (chunks (gvarArray b v) t repl m), o % t.divisor = 0) ∧
      (∀ o ∈ newOffsets (chunks (gvarArray b v) t repl m), o / t.divisor + t.bias < 2 ^ (t.width * 8)) := by
  obtain ⟨v, repl, t, data, offs, hr, hd, hp, hasm⟩ := gvarPatch_ok b gps m out h
  obtain ⟨hsort, _, _⟩ := dedup_spec TAG_gvar gps repl hd
  have S := patchOffsetArray_spec _ repl m (gvarArray_ascSound b v) hsort t data offs hp
  obtain ⟨total, ht1, ht2⟩ := S.chosen
  obtain ⟨htype, hshort⟩ := gvar_type b v total t ht2
  obtain ⟨tuples, hst, hout⟩ := gvarAssemble_ok b v t data offs out hasm
  refine ⟨v, repl, t, tuples, total, hr, hd, htype, hst, ht1, ht2, S.gids_le, by rw [hout, S.data_eq, S.offs_eq],
    S.aligned ?_, S.fits⟩
  -- the old offsets are multiples of the divisor: short offsets are stored halved
  intro o ho
  rcases htype with e | e
  · subst e; exact Nat.mod_one _
  · subst e
    have := gvarOffsets_div v.long _ o (by rw [← (gvarRead_some b v hr).2.2.2.2]; exact ho)
    rwa [hshort rfl] at this

theorem gvarPatch_two_step (b : Bytes) (gps1 gps2 : List GlyphPatches) (m : Nat) (out1 out2 out12 : Bytes)
    (hgc : ∀ v, gvarRead b = some v → v.glyphCount = m + 1) (hsz : out1.length < 2 ^ 32)
    (hagree : Agree TAG_gvar (gps1 ++ gps2))
    (h1 : gvarPatch (some b) gps1 m = .ok out1)
    (h2 : gvarPatch (some out1) gps2 m = .ok out2)
    (h12 : gvarPatch (some b) (gps1 ++ gps2) m = .ok out12)
    (hw1 : gvarLongBit out1 = gvarLongBit out12) (hw2 : gvarLongBit out2 = gvarLongBit out12) :
    out2 = out12 := by
  obtain ⟨v, repl1, t1, tuples, _, hr, hd1, ht1, hst, _, _, _, e1, hdiv1, hb1⟩ := gvarPatch_parts b gps1 m out1 h1
  obtain ⟨v1, repl2, t2, tuples2, _, hr1, hd2, ht2, hst2, _, _, _, e2, _, _⟩ := gvarPatch_parts out1 gps2 m out2 h2
  obtain ⟨v', repl12, t12, tuples', _, hr', hd12, ht12, hst', _, _, _, e12, _, _⟩ :=
    gvarPatch_parts b (gps1 ++ gps2) m out12 h12
  rw [hr] at hr'; cases hr'
  rw [hst] at hst'; cases hst'
  have h16 : 16 ≤ b.length := (gvarRead_some b v hr).1
  have h16' : 16 ≤ out1.length := (gvarRead_some out1 v1 hr1).1
  have htype : ∀ t t' : OffsetType, (t = .long ∨ t = .shortDivByTwo) → (t' = .long ∨ t' = .shortDivByTwo) →
      (if t = .long then 1 else 0) = (if t' = .long then 1 else 0) → t = t' := by
    intro t t' ht ht' hw
    rcases ht with a | a <;> rcases ht' with c | c <;> subst a c <;> simp at hw ⊢
  have ht1_12 : t1 = t12 := htype t1 t12 ht1 ht12 (by
    rw [← gvarLongBit_emit b t1 _ _ _ h16 ht1, ← gvarLongBit_emit b t12 _ _ _ h16 ht12, ← e1, ← e12]; exact hw1)
  have ht2_12 : t2 = t12 := htype t2 t12 ht2 ht12 (by
    rw [← gvarLongBit_emit out1 t2 _ _ _ h16' ht2, ← gvarLongBit_emit b t12 _ _ _ h16 ht12, ← e2, ← e12]; exact hw2)
  subst t12
  subst t2
  -- the intermediate table as the second application sees it
  obtain ⟨w, rw0, _, _, _, _, rw3, rw4, rw5⟩ := gvarRead_emit b v hr t1 ht1 _ tuples _ hst
    (by rw [(chunks_newOffsets _ _ _ _).1, hgc v hr]) hdiv1 hb1 (by rw [← e1]; exact hsz)
  rw [← e1] at rw0 rw4 rw5
  rw [hr1] at rw0; cases rw0
  rw [rw5] at hst2; cases hst2
  have hchunks : chunks (gvarArray out1 v1) t1 repl2 m = chunks (gvarArray b v) t1 repl12 m :=
    chunks_two_step TAG_gvar (gvarArray b v) _ t1 t1 t1 gps1 gps2 repl1 repl2 repl12 m hagree hd1 hd2 hd12 rw3 rw4
      rfl rfl
  rw [e2, e12, hchunks]
  conv => lhs; rw [e1]
  exact gvarEmit_emit b t1 _ _ _ _ _ _ h16

end FontVerif.Ift
