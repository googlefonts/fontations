/- C14 / IntSet helper lemmas: the `IntSet` mode tables and operation histories. -/
import FontVerif.Lemmas.IntSetProcess
namespace FontVerif.IntSet

/-- representation invariant of `IntSet` (either membership mode) -/
def IInv (s : IntSet) : Prop := BInv s.set

/-- the stored values (members for `Inclusive`, non-members for `Exclusive`) are values of the
element domain — guaranteed in the Rust by the element type `T` -/
def InDom (d : Domain) (s : IntSet) : Prop := ∀ x, s.set.contains x = true → d.contains x = true

def IInvD (d : Domain) (s : IntSet) : Prop := IInv s ∧ InDom d s

theorem iInv_empty : IInv IntSet.empty := bInv_empty
theorem iInv_all : IInv IntSet.all := bInv_empty

theorem BitSet.empty_contains (x : Nat) : BitSet.empty.contains x = false := rfl

theorem inDom_empty (d : Domain) : InDom d IntSet.empty := by
  intro x hx; simp [IntSet.empty, BitSet.empty_contains] at hx
theorem inDom_all (d : Domain) : InDom d IntSet.all := by
  intro x hx; simp [IntSet.all, BitSet.empty_contains] at hx

theorem IntSet.contains_eq (s : IntSet) (x : Nat) :
    s.contains x = (s.inverted ^^ s.set.contains x) := by
  unfold IntSet.contains
  cases s.inverted <;> simp

theorem mem_expand {rs : List (Nat × Nat)} {x : Nat} :
    x ∈ expand rs ↔ ∃ r ∈ rs, r.1 ≤ x ∧ x ≤ r.2 := by
  unfold expand
  simp only [List.mem_flatMap, List.mem_map, List.mem_range]
  constructor
  · rintro ⟨r, hr, i, hi, rfl⟩
    exact ⟨r, hr, by omega, by omega⟩
  · rintro ⟨r, hr, h1, h2⟩
    exact ⟨r, hr, x - r.1, by omega, by omega⟩

theorem mem_clipRanges {rs : List (Nat × Nat)} {lo hi : Nat} {q : Nat × Nat} :
    q ∈ clipRanges rs lo hi ↔ ∃ r ∈ rs, max r.1 lo ≤ min r.2 hi ∧ q = (max r.1 lo, min r.2 hi) := by
  unfold clipRanges
  simp only [List.mem_filterMap]
  constructor
  · rintro ⟨r, hr, h⟩
    split at h
    · rename_i hle
      simp at h
      exact ⟨r, hr, hle, h.symm⟩
    · simp at h
  · rintro ⟨r, hr, hle, rfl⟩
    exact ⟨r, hr, by simp [hle]⟩

theorem Domain.contains_iff {d : Domain} {x : Nat} :
    d.contains x = true ↔ ∃ r ∈ d.ranges, r.1 ≤ x ∧ x ≤ r.2 := by
  unfold Domain.contains
  simp [List.any_eq_true]

theorem mem_expand_clipRanges {rs : List (Nat × Nat)} {lo hi x : Nat} :
    x ∈ expand (clipRanges rs lo hi) ↔ (∃ r ∈ rs, r.1 ≤ x ∧ x ≤ r.2) ∧ lo ≤ x ∧ x ≤ hi := by
  rw [mem_expand]
  constructor
  · rintro ⟨q, hq, h1, h2⟩
    obtain ⟨r, hr, _, rfl⟩ := mem_clipRanges.1 hq
    have h1' := Nat.max_le.1 h1
    have h2' := Nat.le_min.1 h2
    exact ⟨⟨r, hr, h1'.1, h2'.1⟩, h1'.2, h2'.2⟩
  · rintro ⟨⟨r, hr, h1, h2⟩, h3, h4⟩
    have h5 : max r.1 lo ≤ x := Nat.max_le.2 ⟨h1, h3⟩
    have h6 : x ≤ min r.2 hi := Nat.le_min.2 ⟨h2, h4⟩
    exact ⟨_, mem_clipRanges.2 ⟨r, hr, Nat.le_trans h5 h6, rfl⟩, h5, h6⟩

theorem mem_expand_rangeValues {d : Domain} {a b x : Nat} :
    x ∈ expand (d.rangeValues a b) ↔ a ≤ x ∧ x ≤ b ∧ d.contains x = true := by
  rw [Domain.rangeValues, mem_expand_clipRanges, Domain.contains_iff, and_comm, and_assoc]

theorem decide_mem_rangeValues (d : Domain) (a b x : Nat) :
    decide (x ∈ expand (d.rangeValues a b)) = (decide (a ≤ x) && decide (x ≤ b) && d.contains x) := by
  rw [Bool.eq_iff_iff]
  simp only [decide_eq_true_eq, Bool.and_eq_true, mem_expand_rangeValues, and_assoc]

/- The mutators are stated against any characteristic function `f` the set refines: one lemma serves
a single call (`f := s.contains`) and the induction over histories.  In `Exclusive` mode the store
holds the complement: adding `m` to the members deletes it from the store, and vice versa. -/

theorem IntSet.mode_add {s : IntSet} {f m : Nat → Bool} {A R : BitSet}
    (hf : ∀ x, s.contains x = f x)
    (hA : BInv A ∧ ∀ x, A.contains x = (m x || s.set.contains x))
    (hR : BInv R ∧ ∀ x, R.contains x = (!m x && s.set.contains x)) :
    IInv (if s.inverted then ⟨true, R⟩ else ⟨false, A⟩) ∧
    ∀ x, (if s.inverted then (⟨true, R⟩ : IntSet) else ⟨false, A⟩).contains x = (m x || f x) := by
  cases hi : s.inverted
  · simp only [Bool.false_eq_true, if_false]
    refine ⟨hA.1, fun x => ?_⟩
    rw [← hf]
    simp only [IntSet.contains, hi, Bool.false_eq_true, if_false]
    exact hA.2 x
  · simp only [if_true]
    refine ⟨hR.1, fun x => ?_⟩
    rw [← hf]
    simp only [IntSet.contains, hi, if_true, hR.2]
    cases m x <;> cases s.set.contains x <;> rfl

theorem IntSet.mode_del {s : IntSet} {f m : Nat → Bool} {A R : BitSet}
    (hf : ∀ x, s.contains x = f x)
    (hA : BInv A ∧ ∀ x, A.contains x = (m x || s.set.contains x))
    (hR : BInv R ∧ ∀ x, R.contains x = (!m x && s.set.contains x)) :
    IInv (if s.inverted then ⟨true, A⟩ else ⟨false, R⟩) ∧
    ∀ x, (if s.inverted then (⟨true, A⟩ : IntSet) else ⟨false, R⟩).contains x = (!m x && f x) := by
  cases hi : s.inverted
  · simp only [Bool.false_eq_true, if_false]
    refine ⟨hR.1, fun x => ?_⟩
    rw [← hf]
    simp only [IntSet.contains, hi, Bool.false_eq_true, if_false]
    exact hR.2 x
  · simp only [if_true]
    refine ⟨hA.1, fun x => ?_⟩
    rw [← hf]
    simp only [IntSet.contains, hi, if_true, hA.2]
    cases m x <;> cases s.set.contains x <;> rfl

theorem IntSet.insert_fst (s : IntSet) (v : Nat) : (s.insert v).1 =
    if s.inverted then ⟨true, (s.set.remove v).1⟩ else ⟨false, (s.set.insert v).1⟩ := by
  unfold IntSet.insert; split <;> rfl

theorem IntSet.remove_fst (s : IntSet) (v : Nat) : (s.remove v).1 =
    if s.inverted then ⟨true, (s.set.insert v).1⟩ else ⟨false, (s.set.remove v).1⟩ := by
  unfold IntSet.remove; split <;> rfl

theorem IntSet.insert_spec (s : IntSet) (v : Nat) (f : Nat → Bool) (h : IInv s)
    (hf : ∀ x, s.contains x = f x) :
    IInv (s.insert v).1 ∧ ∀ x, (s.insert v).1.contains x = (decide (x = v) || f x) := by
  rw [IntSet.insert_fst]
  exact IntSet.mode_add hf (BitSet.insert_spec _ v h).1 (BitSet.remove_spec _ v h).1

theorem IntSet.insert_snd (s : IntSet) (v : Nat) (h : IInv s) :
    (s.insert v).2 = !s.contains v := by
  unfold IntSet.insert IntSet.contains
  cases s.inverted
  · simp only [Bool.false_eq_true, if_false]; exact (BitSet.insert_spec _ v h).2
  · simp only [if_true, (BitSet.remove_spec _ v h).2, Bool.not_not]

theorem IntSet.remove_spec (s : IntSet) (v : Nat) (f : Nat → Bool) (h : IInv s)
    (hf : ∀ x, s.contains x = f x) :
    IInv (s.remove v).1 ∧ ∀ x, (s.remove v).1.contains x = (!decide (x = v) && f x) := by
  rw [IntSet.remove_fst]
  exact IntSet.mode_del hf (BitSet.insert_spec _ v h).1 (BitSet.remove_spec _ v h).1

theorem IntSet.remove_snd (s : IntSet) (v : Nat) (h : IInv s) :
    (s.remove v).2 = s.contains v := by
  unfold IntSet.remove IntSet.contains
  cases s.inverted
  · simp only [Bool.false_eq_true, if_false]; exact (BitSet.remove_spec _ v h).2
  · simp only [if_true, (BitSet.insert_spec _ v h).2]

theorem IntSet.extend_spec (s : IntSet) (vs : List Nat) (f : Nat → Bool) (h : IInv s)
    (hf : ∀ x, s.contains x = f x) :
    IInv (s.extend vs) ∧ ∀ x, (s.extend vs).contains x = (decide (x ∈ vs) || f x) :=
  IntSet.mode_add hf (BitSet.extend_spec _ vs h) (BitSet.removeAll_spec _ vs h)

theorem IntSet.removeAll_spec (s : IntSet) (vs : List Nat) (f : Nat → Bool) (h : IInv s)
    (hf : ∀ x, s.contains x = f x) :
    IInv (s.removeAll vs) ∧ ∀ x, (s.removeAll vs).contains x = (!decide (x ∈ vs) && f x) :=
  IntSet.mode_del hf (BitSet.extend_spec _ vs h) (BitSet.removeAll_spec _ vs h)

/-- the values `insert_range(a..=b)` adds: the whole interval for a continuous domain, the
domain values inside it otherwise (`ordered_values_range`) -/
def inRange (d : Domain) (a b x : Nat) : Bool :=
  decide (a ≤ x) && decide (x ≤ b) && (d.continuous || d.contains x)

/-- what `insert_range(a..=b)` does to an inclusive store: `insert_range`, or on a discontinuous
domain `extend` with the domain values of the interval -/
def BitSet.addRange (d : Domain) (t : BitSet) (a b : Nat) : BitSet :=
  if d.continuous then t.insertRange a b else t.extend (expand (d.rangeValues a b))

def BitSet.delRange (d : Domain) (t : BitSet) (a b : Nat) : BitSet :=
  if d.continuous then t.removeRange a b else t.removeAll (expand (d.rangeValues a b))

theorem BitSet.addRange_spec (d : Domain) (t : BitSet) (a b : Nat) (h : BInv t) :
    BInv (t.addRange d a b) ∧
    ∀ x, (t.addRange d a b).contains x = (inRange d a b x || t.contains x) := by
  unfold BitSet.addRange inRange
  cases d.continuous
  · refine ⟨(BitSet.extend_spec t _ h).1, fun x => ?_⟩
    simp only [Bool.false_eq_true, if_false, (BitSet.extend_spec t _ h).2, decide_mem_rangeValues,
      Bool.false_or]
  · refine ⟨(BitSet.insertRange_spec t a b h).1, fun x => ?_⟩
    simp only [if_true, (BitSet.insertRange_spec t a b h).2, Bool.true_or, Bool.and_true]
    exact Bool.or_comm _ _

theorem BitSet.delRange_spec (d : Domain) (t : BitSet) (a b : Nat) (h : BInv t) :
    BInv (t.delRange d a b) ∧
    ∀ x, (t.delRange d a b).contains x = (!inRange d a b x && t.contains x) := by
  unfold BitSet.delRange inRange
  cases d.continuous
  · refine ⟨(BitSet.removeAll_spec t _ h).1, fun x => ?_⟩
    simp only [Bool.false_eq_true, if_false, (BitSet.removeAll_spec t _ h).2,
      decide_mem_rangeValues, Bool.false_or]
  · refine ⟨(BitSet.removeRange_spec t a b h).1, fun x => ?_⟩
    simp only [if_true, (BitSet.removeRange_spec t a b h).2, Bool.true_or, Bool.and_true]
    exact Bool.and_comm _ _

theorem IntSet.insertRange_eq (d : Domain) (s : IntSet) (a b : Nat) : s.insertRange d a b =
    if s.inverted then ⟨true, s.set.delRange d a b⟩ else ⟨false, s.set.addRange d a b⟩ := by
  unfold IntSet.insertRange BitSet.delRange BitSet.addRange
  cases d.continuous <;> cases s.inverted <;> rfl

theorem IntSet.removeRange_eq (d : Domain) (s : IntSet) (a b : Nat) : s.removeRange d a b =
    if s.inverted then ⟨true, s.set.addRange d a b⟩ else ⟨false, s.set.delRange d a b⟩ := by
  unfold IntSet.removeRange BitSet.delRange BitSet.addRange
  cases d.continuous <;> cases s.inverted <;> rfl

theorem IntSet.insertRange_spec (d : Domain) (s : IntSet) (a b : Nat) (f : Nat → Bool) (h : IInv s)
    (hf : ∀ x, s.contains x = f x) :
    IInv (s.insertRange d a b) ∧ ∀ x, (s.insertRange d a b).contains x = (f x || inRange d a b x) := by
  rw [IntSet.insertRange_eq]
  obtain ⟨h1, h2⟩ := IntSet.mode_add hf (BitSet.addRange_spec d _ a b h) (BitSet.delRange_spec d _ a b h)
  exact ⟨h1, fun x => (h2 x).trans (Bool.or_comm _ _)⟩

theorem IntSet.removeRange_spec (d : Domain) (s : IntSet) (a b : Nat) (f : Nat → Bool) (h : IInv s)
    (hf : ∀ x, s.contains x = f x) :
    IInv (s.removeRange d a b) ∧
      ∀ x, (s.removeRange d a b).contains x = (f x && !inRange d a b x) := by
  rw [IntSet.removeRange_eq]
  obtain ⟨h1, h2⟩ := IntSet.mode_del hf (BitSet.addRange_spec d _ a b h) (BitSet.delRange_spec d _ a b h)
  exact ⟨h1, fun x => (h2 x).trans (Bool.and_comm _ _)⟩

theorem IntSet.invert_contains (s : IntSet) (x : Nat) : s.invert.contains x = !s.contains x := by
  unfold IntSet.invert IntSet.contains
  cases s.inverted <;> simp

theorem IntSet.invert_spec (s : IntSet) (f : Nat → Bool) (h : IInv s)
    (hf : ∀ x, s.contains x = f x) : IInv s.invert ∧ ∀ x, s.invert.contains x = !f x :=
  ⟨h, fun x => by rw [IntSet.invert_contains, hf]⟩

theorem IntSet.clear_spec (s : IntSet) : IInv s.clear ∧ ∀ x, s.clear.contains x = false :=
  ⟨iInv_empty, fun _ => rfl⟩

/-- one row of a mode table: the result is stored as `process op` of the two stores in mode `i`,
and `g` is what that means for the members -/
theorem IntSet.mk_process_spec {op f} (hop : BitwiseOp op f) (a b : IntSet) (i : Bool)
    (g : Bool → Bool → Bool) (fa fb : Nat → Bool) (ha : IInv a) (hb : IInv b)
    (hfa : ∀ x, a.contains x = fa x) (hfb : ∀ x, b.contains x = fb x)
    (hg : ∀ p q, (i ^^ f p q) = g (a.inverted ^^ p) (b.inverted ^^ q)) :
    IInv ⟨i, BitSet.process op a.set b.set⟩ ∧
    ∀ x, (IntSet.mk i (BitSet.process op a.set b.set)).contains x = g (fa x) (fb x) := by
  refine ⟨BitSet.process_inv hop _ _ ha hb, fun x => ?_⟩
  rw [← hfa, ← hfb, IntSet.contains_eq, IntSet.contains_eq, IntSet.contains_eq,
    BitSet.process_contains hop _ _ ha hb, hg]

theorem IntSet.union_spec (a b : IntSet) (fa fb : Nat → Bool) (ha : IInv a) (hb : IInv b)
    (hfa : ∀ x, a.contains x = fa x) (hfb : ∀ x, b.contains x = fb x) :
    IInv (a.union b) ∧ ∀ x, (a.union b).contains x = (fa x || fb x) := by
  have row := fun {op f} (hop : BitwiseOp op f) i hg =>
    IntSet.mk_process_spec hop a b i (· || ·) fa fb ha hb hfa hfb hg
  unfold IntSet.union
  cases h1 : a.inverted <;> cases h2 : b.inverted
  · exact row bitwise_union false (by rw [h1, h2]; decide)
  · exact row bitwise_revSubtract true (by rw [h1, h2]; decide)
  · exact row bitwise_subtract true (by rw [h1, h2]; decide)
  · exact row bitwise_intersect true (by rw [h1, h2]; decide)

theorem IntSet.intersect_spec (a b : IntSet) (fa fb : Nat → Bool) (ha : IInv a) (hb : IInv b)
    (hfa : ∀ x, a.contains x = fa x) (hfb : ∀ x, b.contains x = fb x) :
    IInv (a.intersect b) ∧ ∀ x, (a.intersect b).contains x = (fa x && fb x) := by
  have row := fun {op f} (hop : BitwiseOp op f) i hg =>
    IntSet.mk_process_spec hop a b i (· && ·) fa fb ha hb hfa hfb hg
  unfold IntSet.intersect
  cases h1 : a.inverted <;> cases h2 : b.inverted
  · exact row bitwise_intersect false (by rw [h1, h2]; decide)
  · exact row bitwise_subtract false (by rw [h1, h2]; decide)
  · exact row bitwise_revSubtract false (by rw [h1, h2]; decide)
  · exact row bitwise_union true (by rw [h1, h2]; decide)

theorem IntSet.subtract_spec (a b : IntSet) (fa fb : Nat → Bool) (ha : IInv a) (hb : IInv b)
    (hfa : ∀ x, a.contains x = fa x) (hfb : ∀ x, b.contains x = fb x) :
    IInv (a.subtract b) ∧ ∀ x, (a.subtract b).contains x = (fa x && !fb x) := by
  have row := fun {op f} (hop : BitwiseOp op f) i hg =>
    IntSet.mk_process_spec hop a b i (fun p q => p && !q) fa fb ha hb hfa hfb hg
  unfold IntSet.subtract
  cases h1 : a.inverted <;> cases h2 : b.inverted
  · exact row bitwise_subtract false (by rw [h1, h2]; decide)
  · exact row bitwise_intersect false (by rw [h1, h2]; decide)
  · exact row bitwise_union true (by rw [h1, h2]; decide)
  · exact row bitwise_revSubtract false (by rw [h1, h2]; decide)

/-- the interval handed to a range operation consists of domain values (automatic for
discontinuous domains, where only `ordered_values_range` is touched; for a continuous domain it
says the end points are values of `T`) -/
def RangeInDom (d : Domain) (a b : Nat) : Prop :=
  d.continuous = true → ∀ x, a ≤ x → x ≤ b → d.contains x = true

theorem inRange_inDom {d : Domain} {a b x : Nat} (hr : RangeInDom d a b)
    (h : inRange d a b x = true) : d.contains x = true := by
  unfold inRange at h
  simp only [Bool.and_eq_true, decide_eq_true_eq, Bool.or_eq_true] at h
  exact h.2.elim (fun hc => hr hc x h.1.1 h.1.2) id

theorem inDom_add {d : Domain} {s : IntSet} {m : Nat → Bool} {A : BitSet} (hd : InDom d s)
    (hm : ∀ x, m x = true → d.contains x = true)
    (hA : ∀ x, A.contains x = (m x || s.set.contains x)) (i : Bool) : InDom d ⟨i, A⟩ := by
  intro x hx
  rw [show (IntSet.mk i A).set.contains x = A.contains x from rfl, hA, Bool.or_eq_true] at hx
  exact hx.elim (hm x) (hd x)

theorem inDom_del {d : Domain} {s : IntSet} {m : Nat → Bool} {R : BitSet} (hd : InDom d s)
    (hR : ∀ x, R.contains x = (!m x && s.set.contains x)) (i : Bool) : InDom d ⟨i, R⟩ := by
  intro x hx
  rw [show (IntSet.mk i R).set.contains x = R.contains x from rfl, hR, Bool.and_eq_true] at hx
  exact hd x hx.2

theorem IntSet.mode_add_inDom {d : Domain} {s : IntSet} {m : Nat → Bool} {A R : BitSet}
    (hd : InDom d s) (hm : ∀ x, m x = true → d.contains x = true)
    (hA : ∀ x, A.contains x = (m x || s.set.contains x))
    (hR : ∀ x, R.contains x = (!m x && s.set.contains x)) :
    InDom d (if s.inverted then ⟨true, R⟩ else ⟨false, A⟩) := by
  split
  · exact inDom_del hd hR _
  · exact inDom_add hd hm hA _

theorem IntSet.mode_del_inDom {d : Domain} {s : IntSet} {m : Nat → Bool} {A R : BitSet}
    (hd : InDom d s) (hm : ∀ x, m x = true → d.contains x = true)
    (hA : ∀ x, A.contains x = (m x || s.set.contains x))
    (hR : ∀ x, R.contains x = (!m x && s.set.contains x)) :
    InDom d (if s.inverted then ⟨true, A⟩ else ⟨false, R⟩) := by
  split
  · exact inDom_add hd hm hA _
  · exact inDom_del hd hR _

theorem IntSet.insert_inDom (d : Domain) (s : IntSet) (v : Nat) (h : IInv s) (hd : InDom d s)
    (hv : d.contains v = true) : InDom d (s.insert v).1 := by
  rw [IntSet.insert_fst]
  exact IntSet.mode_add_inDom (m := fun x => decide (x = v)) hd
    (fun x hx => of_decide_eq_true hx ▸ hv) (BitSet.insert_spec _ v h).1.2 (BitSet.remove_spec _ v h).1.2

theorem IntSet.remove_inDom (d : Domain) (s : IntSet) (v : Nat) (h : IInv s) (hd : InDom d s)
    (hv : d.contains v = true) : InDom d (s.remove v).1 := by
  rw [IntSet.remove_fst]
  exact IntSet.mode_del_inDom (m := fun x => decide (x = v)) hd
    (fun x hx => of_decide_eq_true hx ▸ hv) (BitSet.insert_spec _ v h).1.2 (BitSet.remove_spec _ v h).1.2

theorem IntSet.extend_inDom (d : Domain) (s : IntSet) (vs : List Nat) (h : IInv s) (hd : InDom d s)
    (hv : ∀ v ∈ vs, d.contains v = true) : InDom d (s.extend vs) :=
  IntSet.mode_add_inDom hd (fun x hx => hv x (of_decide_eq_true hx))
    (BitSet.extend_spec _ vs h).2 (BitSet.removeAll_spec _ vs h).2

theorem IntSet.removeAll_inDom (d : Domain) (s : IntSet) (vs : List Nat) (h : IInv s)
    (hd : InDom d s) (hv : ∀ v ∈ vs, d.contains v = true) : InDom d (s.removeAll vs) :=
  IntSet.mode_del_inDom hd (fun x hx => hv x (of_decide_eq_true hx))
    (BitSet.extend_spec _ vs h).2 (BitSet.removeAll_spec _ vs h).2

theorem IntSet.insertRange_inDom (d : Domain) (s : IntSet) (a b : Nat) (h : IInv s)
    (hd : InDom d s) (hr : RangeInDom d a b) : InDom d (s.insertRange d a b) := by
  rw [IntSet.insertRange_eq]
  exact IntSet.mode_add_inDom hd (fun x => inRange_inDom hr)
    (BitSet.addRange_spec d _ a b h).2 (BitSet.delRange_spec d _ a b h).2

theorem IntSet.removeRange_inDom (d : Domain) (s : IntSet) (a b : Nat) (h : IInv s)
    (hd : InDom d s) (hr : RangeInDom d a b) : InDom d (s.removeRange d a b) := by
  rw [IntSet.removeRange_eq]
  exact IntSet.mode_del_inDom hd (fun x => inRange_inDom hr)
    (BitSet.addRange_spec d _ a b h).2 (BitSet.delRange_spec d _ a b h).2

theorem IntSet.invert_inDom (d : Domain) (s : IntSet) (hd : InDom d s) : InDom d s.invert := hd
theorem IntSet.clear_inDom (d : Domain) (s : IntSet) : InDom d s.clear := inDom_empty d

theorem IntSet.process_inDom {op f} (hop : BitwiseOp op f) (d : Domain) (a b : IntSet) (ha : IInv a)
    (hb : IInv b) (hda : InDom d a) (hdb : InDom d b) (i : Bool) :
    InDom d ⟨i, BitSet.process op a.set b.set⟩ := by
  intro x hx
  have hx' : f (a.set.contains x) (b.set.contains x) = true := by
    rw [← BitSet.process_contains hop _ _ ha hb]; exact hx
  cases h1 : a.set.contains x
  · cases h2 : b.set.contains x
    · rw [h1, h2, hop.ff] at hx'; exact absurd hx' Bool.false_ne_true
    · exact hdb x h2
  · exact hda x h1

theorem IntSet.union_inDom (d : Domain) (a b : IntSet) (ha : IInv a) (hb : IInv b)
    (hda : InDom d a) (hdb : InDom d b) : InDom d (a.union b) := by
  unfold IntSet.union
  split
  · exact IntSet.process_inDom bitwise_union d a b ha hb hda hdb _
  · exact IntSet.process_inDom bitwise_revSubtract d a b ha hb hda hdb _
  · exact IntSet.process_inDom bitwise_subtract d a b ha hb hda hdb _
  · exact IntSet.process_inDom bitwise_intersect d a b ha hb hda hdb _

theorem IntSet.intersect_inDom (d : Domain) (a b : IntSet) (ha : IInv a) (hb : IInv b)
    (hda : InDom d a) (hdb : InDom d b) : InDom d (a.intersect b) := by
  unfold IntSet.intersect
  split
  · exact IntSet.process_inDom bitwise_intersect d a b ha hb hda hdb _
  · exact IntSet.process_inDom bitwise_subtract d a b ha hb hda hdb _
  · exact IntSet.process_inDom bitwise_revSubtract d a b ha hb hda hdb _
  · exact IntSet.process_inDom bitwise_union d a b ha hb hda hdb _

theorem IntSet.subtract_inDom (d : Domain) (a b : IntSet) (ha : IInv a) (hb : IInv b)
    (hda : InDom d a) (hdb : InDom d b) : InDom d (a.subtract b) := by
  unfold IntSet.subtract
  split
  · exact IntSet.process_inDom bitwise_subtract d a b ha hb hda hdb _
  · exact IntSet.process_inDom bitwise_intersect d a b ha hb hda hdb _
  · exact IntSet.process_inDom bitwise_union d a b ha hb hda hdb _
  · exact IntSet.process_inDom bitwise_revSubtract d a b ha hb hda hdb _

/-- an operation history: how a set was built (a tree, because the binary operations take a
previously built set as their argument) -/
inductive Hist where
  | empty
  | all
  | insert (h : Hist) (v : Nat)
  | remove (h : Hist) (v : Nat)
  | insertRange (h : Hist) (a b : Nat)
  | removeRange (h : Hist) (a b : Nat)
  | extend (h : Hist) (vs : List Nat)
  | removeAll (h : Hist) (vs : List Nat)
  | invert (h : Hist)
  | clear (h : Hist)
  | union (h other : Hist)
  | intersect (h other : Hist)
  | subtract (h other : Hist)

def Hist.run (d : Domain) : Hist → IntSet
  | .empty => IntSet.empty
  | .all => IntSet.all
  | .insert h v => ((h.run d).insert v).1
  | .remove h v => ((h.run d).remove v).1
  | .insertRange h a b => (h.run d).insertRange d a b
  | .removeRange h a b => (h.run d).removeRange d a b
  | .extend h vs => (h.run d).extend vs
  | .removeAll h vs => (h.run d).removeAll vs
  | .invert h => (h.run d).invert
  | .clear h => (h.run d).clear
  | .union h o => (h.run d).union (o.run d)
  | .intersect h o => (h.run d).intersect (o.run d)
  | .subtract h o => (h.run d).subtract (o.run d)

/-- the mathematical set the history denotes, as a characteristic function -/
def Hist.spec (d : Domain) : Hist → Nat → Bool
  | .empty => fun _ => false
  | .all => fun _ => true
  | .insert h v => fun x => decide (x = v) || h.spec d x
  | .remove h v => fun x => !decide (x = v) && h.spec d x
  | .insertRange h a b => fun x => h.spec d x || inRange d a b x
  | .removeRange h a b => fun x => h.spec d x && !inRange d a b x
  | .extend h vs => fun x => decide (x ∈ vs) || h.spec d x
  | .removeAll h vs => fun x => !decide (x ∈ vs) && h.spec d x
  | .invert h => fun x => !h.spec d x
  | .clear _ => fun _ => false
  | .union h o => fun x => h.spec d x || o.spec d x
  | .intersect h o => fun x => h.spec d x && o.spec d x
  | .subtract h o => fun x => h.spec d x && !o.spec d x

/-- every argument of every operation is a value of the domain (what the element type `T`
guarantees in the Rust) -/
def Hist.WF (d : Domain) : Hist → Prop
  | .empty => True
  | .all => True
  | .insert h v => h.WF d ∧ d.contains v = true
  | .remove h v => h.WF d ∧ d.contains v = true
  | .insertRange h a b => h.WF d ∧ RangeInDom d a b
  | .removeRange h a b => h.WF d ∧ RangeInDom d a b
  | .extend h vs => h.WF d ∧ ∀ v ∈ vs, d.contains v = true
  | .removeAll h vs => h.WF d ∧ ∀ v ∈ vs, d.contains v = true
  | .invert h => h.WF d
  | .clear h => h.WF d
  | .union h o => h.WF d ∧ o.WF d
  | .intersect h o => h.WF d ∧ o.WF d
  | .subtract h o => h.WF d ∧ o.WF d

theorem Hist.run_spec (d : Domain) (h : Hist) :
    IInv (h.run d) ∧ ∀ x, (h.run d).contains x = h.spec d x := by
  induction h with
  | empty => exact ⟨iInv_empty, fun _ => rfl⟩
  | all => exact ⟨iInv_all, fun _ => rfl⟩
  | insert h v ih => exact IntSet.insert_spec _ v _ ih.1 ih.2
  | remove h v ih => exact IntSet.remove_spec _ v _ ih.1 ih.2
  | insertRange h a b ih => exact IntSet.insertRange_spec d _ a b _ ih.1 ih.2
  | removeRange h a b ih => exact IntSet.removeRange_spec d _ a b _ ih.1 ih.2
  | extend h vs ih => exact IntSet.extend_spec _ vs _ ih.1 ih.2
  | removeAll h vs ih => exact IntSet.removeAll_spec _ vs _ ih.1 ih.2
  | invert h ih => exact IntSet.invert_spec _ _ ih.1 ih.2
  | clear h ih => exact IntSet.clear_spec _
  | union h o ih1 ih2 => exact IntSet.union_spec _ _ _ _ ih1.1 ih2.1 ih1.2 ih2.2
  | intersect h o ih1 ih2 => exact IntSet.intersect_spec _ _ _ _ ih1.1 ih2.1 ih1.2 ih2.2
  | subtract h o ih1 ih2 => exact IntSet.subtract_spec _ _ _ _ ih1.1 ih2.1 ih1.2 ih2.2

theorem Hist.run_inDom (d : Domain) (h : Hist) (hw : h.WF d) : InDom d (h.run d) := by
  have hs := fun h => (Hist.run_spec d h).1
  induction h with
  | empty => exact inDom_empty d
  | all => exact inDom_all d
  | insert h v ih => exact IntSet.insert_inDom d _ v (hs h) (ih hw.1) hw.2
  | remove h v ih => exact IntSet.remove_inDom d _ v (hs h) (ih hw.1) hw.2
  | insertRange h a b ih =>
    exact IntSet.insertRange_inDom d _ a b (hs h) (ih hw.1) hw.2
  | removeRange h a b ih =>
    exact IntSet.removeRange_inDom d _ a b (hs h) (ih hw.1) hw.2
  | extend h vs ih => exact IntSet.extend_inDom d _ vs (hs h) (ih hw.1) hw.2
  | removeAll h vs ih => exact IntSet.removeAll_inDom d _ vs (hs h) (ih hw.1) hw.2
  | invert h ih => exact IntSet.invert_inDom d _ (ih hw)
  | clear h ih => exact IntSet.clear_inDom d _
  | union h o ih1 ih2 =>
    exact IntSet.union_inDom d _ _ (hs h) (hs o) (ih1 hw.1) (ih2 hw.2)
  | intersect h o ih1 ih2 =>
    exact IntSet.intersect_inDom d _ _ (hs h) (hs o) (ih1 hw.1)
      (ih2 hw.2)
  | subtract h o ih1 ih2 =>
    exact IntSet.subtract_inDom d _ _ (hs h) (hs o) (ih1 hw.1)
      (ih2 hw.2)

/-- one step of a linear history; the argument of a binary operation is any previously built
set, given by its own history -/
inductive Op where
  | insert (v : Nat)
  | remove (v : Nat)
  | insertRange (a b : Nat)
  | removeRange (a b : Nat)
  | extend (vs : List Nat)
  | removeAll (vs : List Nat)
  | invert
  | clear
  | union (other : Hist)
  | intersect (other : Hist)
  | subtract (other : Hist)

def Op.apply (d : Domain) (s : IntSet) : Op → IntSet
  | .insert v => (s.insert v).1
  | .remove v => (s.remove v).1
  | .insertRange a b => s.insertRange d a b
  | .removeRange a b => s.removeRange d a b
  | .extend vs => s.extend vs
  | .removeAll vs => s.removeAll vs
  | .invert => s.invert
  | .clear => s.clear
  | .union o => s.union (o.run d)
  | .intersect o => s.intersect (o.run d)
  | .subtract o => s.subtract (o.run d)

def Op.specStep (d : Domain) (f : Nat → Bool) : Op → Nat → Bool
  | .insert v => fun x => decide (x = v) || f x
  | .remove v => fun x => !decide (x = v) && f x
  | .insertRange a b => fun x => f x || inRange d a b x
  | .removeRange a b => fun x => f x && !inRange d a b x
  | .extend vs => fun x => decide (x ∈ vs) || f x
  | .removeAll vs => fun x => !decide (x ∈ vs) && f x
  | .invert => fun x => !f x
  | .clear => fun _ => false
  | .union o => fun x => f x || o.spec d x
  | .intersect o => fun x => f x && o.spec d x
  | .subtract o => fun x => f x && !o.spec d x

def Op.WF (d : Domain) : Op → Prop
  | .insert v => d.contains v = true
  | .remove v => d.contains v = true
  | .insertRange a b => RangeInDom d a b
  | .removeRange a b => RangeInDom d a b
  | .extend vs => ∀ v ∈ vs, d.contains v = true
  | .removeAll vs => ∀ v ∈ vs, d.contains v = true
  | .invert => True
  | .clear => True
  | .union o => o.WF d
  | .intersect o => o.WF d
  | .subtract o => o.WF d

def runOps (d : Domain) (ops : List Op) (s : IntSet) : IntSet := ops.foldl (Op.apply d) s
def specOps (d : Domain) (ops : List Op) (f : Nat → Bool) : Nat → Bool :=
  ops.foldl (Op.specStep d) f

theorem Op.apply_spec (d : Domain) (s : IntSet) (f : Nat → Bool) (op : Op) (h : IInv s)
    (hf : ∀ x, s.contains x = f x) :
    IInv (op.apply d s) ∧ ∀ x, (op.apply d s).contains x = op.specStep d f x := by
  cases op with
  | insert v => exact IntSet.insert_spec s v f h hf
  | remove v => exact IntSet.remove_spec s v f h hf
  | insertRange a b => exact IntSet.insertRange_spec d s a b f h hf
  | removeRange a b => exact IntSet.removeRange_spec d s a b f h hf
  | extend vs => exact IntSet.extend_spec s vs f h hf
  | removeAll vs => exact IntSet.removeAll_spec s vs f h hf
  | invert => exact IntSet.invert_spec s f h hf
  | clear => exact IntSet.clear_spec s
  | union o =>
    exact IntSet.union_spec s _ f _ h (Hist.run_spec d o).1 hf (Hist.run_spec d o).2
  | intersect o =>
    exact IntSet.intersect_spec s _ f _ h (Hist.run_spec d o).1 hf (Hist.run_spec d o).2
  | subtract o =>
    exact IntSet.subtract_spec s _ f _ h (Hist.run_spec d o).1 hf (Hist.run_spec d o).2

theorem Op.apply_inDom (d : Domain) (s : IntSet) (op : Op) (h : IInv s) (hd : InDom d s)
    (hw : op.WF d) : InDom d (op.apply d s) := by
  cases op with
  | insert v => exact IntSet.insert_inDom d _ v h hd hw
  | remove v => exact IntSet.remove_inDom d _ v h hd hw
  | insertRange a b => exact IntSet.insertRange_inDom d _ a b h hd hw
  | removeRange a b => exact IntSet.removeRange_inDom d _ a b h hd hw
  | extend vs => exact IntSet.extend_inDom d _ vs h hd hw
  | removeAll vs => exact IntSet.removeAll_inDom d _ vs h hd hw
  | invert => exact IntSet.invert_inDom d _ hd
  | clear => exact IntSet.clear_inDom d s
  | union o =>
    exact IntSet.union_inDom d _ _ h (Hist.run_spec d o).1 hd (Hist.run_inDom d o hw)
  | intersect o =>
    exact IntSet.intersect_inDom d _ _ h (Hist.run_spec d o).1 hd (Hist.run_inDom d o hw)
  | subtract o =>
    exact IntSet.subtract_inDom d _ _ h (Hist.run_spec d o).1 hd (Hist.run_inDom d o hw)

theorem runOps_inDom (d : Domain) (ops : List Op) (s : IntSet) (h : IInv s) (hd : InDom d s)
    (hw : ∀ op ∈ ops, op.WF d) : InDom d (runOps d ops s) := by
  induction ops generalizing s with
  | nil => exact hd
  | cons op ops ih =>
    have h1 := (Op.apply_spec d s s.contains op h (fun _ => rfl)).1
    exact ih _ h1 (Op.apply_inDom d s op h hd (hw op (by simp)))
      (fun o ho => hw o (by simp [ho]))

end FontVerif.IntSet
