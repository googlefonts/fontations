/-
C04, name strings (Model/NameStr.lean): the UTF-16BE decoder undoes the encoder one code unit / surrogate pair at a
time; Mac Roman through the two tables; `compute_length` is the byte length whenever that fits 16 bits (`computeLength_eq`).
-/
import FontVerif.Model.NameStr
import FontVerif.Lemmas.Field

namespace FontVerif.NameStr
open FontVerif.Field

theorem be2_unit (u : Nat) (hu : u < 65536) : ∃ b0 b1, be 2 u = [b0, b1] ∧ b0 * 256 + b1 = u :=
  ⟨u / 256 % 256, u % 256, by simp [be], by omega⟩

def charBytes (c : Nat) : Bytes := (encodeUtf16 c).flatMap (be 2)

theorem charBytes_length (c : Nat) : (charBytes c).length = lenUtf16 c * 2 := by
  unfold charBytes encodeUtf16 lenUtf16
  split <;> simp [be_length]

/-! `decodeUtf16` one step at a time, on bytes: less than a code unit, a code unit outside the high surrogates, a
surrogate pair, a high surrogate with less than a code unit behind it -/

theorem decodeUtf16_short (l : Bytes) (h : l.length < 2) : decodeUtf16 l = [] := by
  match l, h with
  | [], _ => rfl
  | [_], _ => rfl

theorem decodeUtf16_cons (b0 b1 : Nat) (rest : Bytes) (h : ¬ (0xD800 ≤ b0 * 256 + b1 ∧ b0 * 256 + b1 < 0xDC00)) :
    decodeUtf16 (b0 :: b1 :: rest) = (if isChar (b0 * 256 + b1) then b0 * 256 + b1 else 0xFFFD) :: decodeUtf16 rest := by
  rw [decodeUtf16.eq_def]
  exact if_neg h

theorem decodeUtf16_cons_pair (b0 b1 b2 b3 : Nat) (rest : Bytes) (h : 0xD800 ≤ b0 * 256 + b1 ∧ b0 * 256 + b1 < 0xDC00) :
    decodeUtf16 (b0 :: b1 :: b2 :: b3 :: rest)
      = (if isChar ((b0 * 256 + b1) % 1024 * 1024 + (b2 * 256 + b3) % 1024 + 0x10000)
          then (b0 * 256 + b1) % 1024 * 1024 + (b2 * 256 + b3) % 1024 + 0x10000 else 0xFFFD) :: decodeUtf16 rest := by
  rw [decodeUtf16.eq_def]
  exact if_pos h

theorem decodeUtf16_cons_lone (b0 b1 : Nat) (rest : Bytes) (h : 0xD800 ≤ b0 * 256 + b1 ∧ b0 * 256 + b1 < 0xDC00)
    (hr : rest.length < 2) : decodeUtf16 (b0 :: b1 :: rest) = [0xFFFD] := by
  rw [decodeUtf16.eq_def]
  dsimp only
  rw [if_pos h]
  match rest, hr with
  | [], _ => rfl
  | [_], _ => rfl

theorem decodeUtf16_unit (u : Nat) (rest : Bytes) (hu : u < 65536) (h : ¬ (0xD800 ≤ u ∧ u < 0xDC00)) :
    decodeUtf16 (be 2 u ++ rest) = (if isChar u then u else 0xFFFD) :: decodeUtf16 rest := by
  obtain ⟨b0, b1, hb, rfl⟩ := be2_unit u hu
  rw [hb]
  exact decodeUtf16_cons b0 b1 rest h

theorem decodeUtf16_pair (u1 u2 : Nat) (rest : Bytes) (hu1 : u1 < 65536) (hu2 : u2 < 65536)
    (h : 0xD800 ≤ u1 ∧ u1 < 0xDC00) :
    decodeUtf16 (be 2 u1 ++ (be 2 u2 ++ rest))
      = (if isChar (u1 % 1024 * 1024 + u2 % 1024 + 0x10000) then u1 % 1024 * 1024 + u2 % 1024 + 0x10000 else 0xFFFD)
          :: decodeUtf16 rest := by
  obtain ⟨b0, b1, hb, rfl⟩ := be2_unit u1 hu1
  obtain ⟨b2, b3, hb', rfl⟩ := be2_unit u2 hu2
  rw [hb, hb']
  exact decodeUtf16_cons_pair b0 b1 b2 b3 rest h

theorem decodeUtf16_charBytes (c : Nat) (bs : Bytes) (h : isChar c = true) :
    decodeUtf16 (charBytes c ++ bs) = c :: decodeUtf16 bs := by
  unfold charBytes encodeUtf16
  have hch := h
  simp only [isChar, Bool.or_eq_true, Bool.and_eq_true, decide_eq_true_eq] at h
  by_cases hc : c < 0x10000
  · simp only [hc, if_true, List.flatMap_cons, List.flatMap_nil, List.append_nil]
    rw [decodeUtf16_unit c bs hc (by omega), if_pos hch]
  · obtain ⟨d, rfl⟩ : ∃ d, c = d + 0x10000 := ⟨c - 0x10000, by omega⟩
    simp only [hc, if_false, List.flatMap_cons, List.flatMap_nil, List.append_nil, List.append_assoc,
      Nat.add_sub_cancel]
    -- `d < 2 ^ 20` splits into two ten-bit halves; `0xD800` and `0xDC00` are multiples of 1024
    have hd : d / 1024 < 1024 := by omega
    have e : (0xD800 + d / 1024) % 1024 * 1024 + (0xDC00 + d % 1024) % 1024 = d := by
      rw [show 0xD800 = 1024 * 54 from rfl, show 0xDC00 = 1024 * 55 from rfl, Nat.mul_add_mod, Nat.mul_add_mod,
        Nat.mod_eq_of_lt hd, Nat.mod_mod, Nat.mul_comm, Nat.div_add_mod]
    rw [decodeUtf16_pair _ _ bs (by omega) (by omega) (by omega), e, if_pos hch]

theorem decodeUtf16_encode (s : List Nat) (h : ∀ c ∈ s, isChar c = true) :
    decodeUtf16 (s.flatMap charBytes) = s := by
  induction s with
  | nil => simp [decodeUtf16]
  | cons c r ih =>
    rw [List.flatMap_cons, decodeUtf16_charBytes c _ (h c (by simp)), ih (fun c hc => h c (by simp [hc]))]

theorem utf16_bytes_length (s : List Nat) :
    (s.flatMap charBytes).length = (s.map fun c => lenUtf16 c * 2).sum := by
  induction s with
  | nil => simp
  | cons c r ih => simp [List.flatMap_cons, charBytes_length, ih]

theorem sum_len_double (s : List Nat) : (s.map fun c => lenUtf16 c * 2).sum = 2 * (s.map lenUtf16).sum := by
  simp only [Nat.mul_comm _ 2]; exact sum_map_mul_left 2 lenUtf16 s

theorem sumU16_eq (xs : List Nat) (a : Nat) (ha : a < 65536) :
    sumU16 xs (some a) = if a + xs.sum < 65536 then some (a + xs.sum) else none := by
  induction xs generalizing a with
  | nil => simp [sumU16, ha]
  | cons x r ih =>
    rw [sumU16, List.sum_cons, ← Nat.add_assoc]
    by_cases hx : a + x < 65536
    · rw [if_pos hx, ih _ hx]
    · -- the partial sum has overflowed already
      rw [if_neg hx, if_neg (fun h => hx (Nat.lt_of_le_of_lt (Nat.le_add_right _ _) h))]

theorem macTable_inverse : ∀ e ∈ macEncodeTable, macDecode e.2 = e.1 := by decide +kernel

theorem macDecode_encode (c b : Nat) (h : macEncode c = some b) : macDecode b = c := by
  unfold macEncode at h
  by_cases h1 : 65536 ≤ c
  · simp [h1] at h
  · by_cases h2 : c < 128
    · simp [h1, h2] at h; subst h; simp [macDecode, h2]
    · simp only [h1, h2, if_false, Option.map_eq_some_iff] at h
      obtain ⟨e, he, hb⟩ := h
      have hm := List.mem_of_find?_eq_some he
      have hp := List.find?_some he
      simp only [beq_iff_eq] at hp
      rw [← hb, macTable_inverse e hm, hp]

theorem mapM_macEncode (s : List Nat) (bs : Bytes) (h : s.mapM macEncode = some bs) :
    bs.length = s.length ∧ decodeMac bs = s := by
  induction s generalizing bs with
  | nil => simp at h; subst h; simp [decodeMac]
  | cons c r ih =>
    rw [List.mapM_cons] at h
    cases hc : macEncode c with
    | none => simp [hc] at h
    | some b =>
      cases hr : r.mapM macEncode with
      | none => simp [hc, hr] at h
      | some bs' =>
        simp [hc, hr] at h
        subst h
        obtain ⟨l, d⟩ := ih bs' hr
        refine ⟨by simp [l], ?_⟩
        simp only [decodeMac, List.map_cons] at d ⊢
        rw [d, macDecode_encode c b hc]

theorem mapM_macEncode_some (s : List Nat) (h : s.all (fun c => (macEncode c).isSome) = true) :
    ∃ bs, s.mapM macEncode = some bs := by
  induction s with
  | nil => exact ⟨[], by simp⟩
  | cons c r ih =>
    simp only [List.all_cons, Bool.and_eq_true] at h
    obtain ⟨bs, hb⟩ := ih h.2
    obtain ⟨b, hc⟩ := Option.isSome_iff_exists.mp h.1
    exact ⟨b :: bs, by rw [List.mapM_cons]; simp [hc, hb]⟩

theorem encodeString_utf16 (s : List Nat) : encodeString .utf16be s = some (s.flatMap charBytes) := rfl

theorem computeLength_eq (enc : Encoding) (s : List Nat) (bytes : Bytes) (hw : encodeString enc s = some bytes) :
    computeLength enc s = if bytes.length < 65536 then some bytes.length else none := by
  cases enc with
  | utf16be =>
    rw [encodeString_utf16] at hw
    cases hw
    rw [utf16_bytes_length, computeLength, sumU16_eq _ 0 (by decide), Nat.zero_add]
  | macRoman => rw [computeLength, (mapM_macEncode s bytes hw).1]
  | unknown =>
    cases s with
    | nil => cases hw; rfl
    | cons c r => cases hw

end FontVerif.NameStr
