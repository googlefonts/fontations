/-
Conditionals without `split`: a generated or transcribed function is a tree of `if`s, and a fact about its value is
proved arm by arm.  (`split` re-abstracts the whole term at every step, which is slow on these terms.)
-/
namespace FontVerif

theorem ite_elim {α : Sort _} {P : α → Prop} {c : Prop} [Decidable c] {a b : α} (ha : c → P a) (hb : ¬c → P b) :
    P (if c then a else b) := by
  split
  · exact ha ‹c›
  · exact hb ‹¬c›

theorem ite_both {α : Sort _} {P : α → Prop} {c : Prop} [Decidable c] {a b : α} (ha : P a) (hb : P b) :
    P (if c then a else b) :=
  ite_elim (fun _ => ha) (fun _ => hb)

theorem ite_eq {α : Sort _} {c : Prop} [Decidable c] {a b x : α} (h : (if c then a else b) = x) :
    (c ∧ a = x) ∨ (¬c ∧ b = x) :=
  ite_elim (P := fun y => y = x → _) (fun hc h => .inl ⟨hc, h⟩) (fun hc h => .inr ⟨hc, h⟩) h

theorem ite_le {c : Prop} [Decidable c] {a b n : Nat} (ha : a ≤ n) (hb : b ≤ n) : (if c then a else b) ≤ n :=
  ite_elim (P := (· ≤ n)) (fun _ => ha) (fun _ => hb)

end FontVerif
