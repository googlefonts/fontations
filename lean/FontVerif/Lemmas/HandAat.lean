/-
Helper lemmas for Props/C01HandAat.lean (Model/HandAat.lean): big-endian reads stay inside the data, the result
predicate `R.Sat`, per-format facts of the byte-level AAT lookups, the readers and loop steps of the state tables, ltag
and the IFT helpers, and the tables of the non-vacuity examples.
-/
import FontVerif.Model.HandAat
import FontVerif.Lemmas.HandSearch
import FontVerif.Lemmas.HandRead
import FontVerif.Lemmas.Ite
namespace FontVerif.HandAat
open FontVerif.HandRead
open FontVerif.ReadIter (Out run items trapped)

theorem readAt_none {d : List Nat} {off sz : Nat} (h : readAt d off sz = none) (hl : d.length ≤ MAXU) :
    d.length < off + sz := by
  by_cases hc : off + sz ≤ d.length
  · rw [readAt_of_le hc hl] at h; cases h
  · omega

theorem checkedAdd_some {a b c : Nat} (h : checkedAdd a b = some c) : c = a + b ∧ a + b ≤ MAXU :=
  checkedAdd_eq_some h

theorem asI32_small {v : Nat} (h : v < 65536) : asI32 v = (v : Int) := by
  unfold asI32
  have e : v % 4294967296 = v := Nat.mod_eq_of_lt (by omega)
  simp only [e]
  have : v < 2147483648 := by omega
  simp [this]

theorem mem_of_getElem?_drop {d : List Nat} {k i x : Nat} (h : (d.drop k)[i]? = some x) : x ∈ d :=
  List.mem_of_mem_drop (List.mem_of_getElem? h)

/-- what a call may do: a value has `P`, an `Err` is always acceptable, a panic refutes `A` (the property theorems of
this table family state all their width hypotheses up front and use `A := True`) -/
def R.Sat {α : Type} (A : Prop) (P : α → Prop) : R α → Prop
  | .ok a => P a
  | .err _ => True
  | .trap => ¬ A

namespace R.Sat
variable {α β γ : Type} {A : Prop} {P Q : α → Prop} {r : R α}

theorem ok {a : α} (h : P a) : (R.ok a).Sat A P := h

theorem err {e : AErr} : (R.err e : R α).Sat A P := trivial

theorem ne_trap (h : r.Sat A P) (a : A) : r ≠ .trap := by rintro rfl; exact h a

theorem of_ok {a : α} (h : r.Sat A P) (e : r = .ok a) : P a := by subst e; exact h

theorem mono (h : r.Sat A P) (hpq : ∀ a, P a → Q a) : r.Sat A Q := by
  cases r with
  | ok a => exact hpq a h
  | err e => trivial
  | trap => exact h

theorem ite {c : Prop} [Decidable c] {x y : R α} (hx : c → x.Sat A P) (hy : ¬c → y.Sat A P) :
    (if c then x else y).Sat A P := by
  by_cases h : c
  · rw [if_pos h]; exact hx h
  · rw [if_neg h]; exact hy h

/-- the shape of the property theorems -/
theorem both : r.Sat True P ↔ r ≠ .trap ∧ ∀ a, r = .ok a → P a := by
  cases r with
  | ok a => exact ⟨fun h => ⟨nofun, fun _ e => R.ok.inj e ▸ h⟩, fun h => h.2 a rfl⟩
  | err e => exact ⟨fun _ => ⟨nofun, nofun⟩, fun _ => trivial⟩
  | trap => exact ⟨fun h => absurd trivial h, fun h => absurd rfl h.1⟩

theorem pair {r : R (α × β)} {Q : α → β → Prop} (h : r.Sat True fun x => Q x.1 x.2) :
    r ≠ .trap ∧ ∀ a b, r = .ok (a, b) → Q a b :=
  ⟨(both.mp h).1, fun a b e => (both.mp h).2 (a, b) e⟩

theorem triple {r : R (α × β × γ)} {Q : α → β → γ → Prop} (h : r.Sat True fun x => Q x.1 x.2.1 x.2.2) :
    r ≠ .trap ∧ ∀ a b c, r = .ok (a, b, c) → Q a b c :=
  ⟨(both.mp h).1, fun a b c e => (both.mp h).2 (a, b, c) e⟩

end R.Sat

theorem readOrTrap_sat {A : Prop} {x : List Nat} {p w : Nat} {P : Nat → Prop} (hle : p + w ≤ x.length)
    (hl : x.length ≤ MAXU) (hP : ∀ v, readAt x p w = some v → P v) :
    (match readAt x p w with | some v => R.ok v | none => .trap).Sat A P := by
  rw [readAt_of_le hle hl]
  exact hP _ (readAt_of_le hle hl)

theorem readOrErr_sat {A : Prop} {x : List Nat} {p w : Nat} {e : AErr} {P : Nat → Prop}
    (hP : ∀ v, readAt x p w = some v → P v) :
    (match readAt x p w with | some v => R.ok v | none => .err e).Sat A P := by
  cases hr : readAt x p w with
  | none => trivial
  | some v => exact hP v hr

theorem resolveOff_ok {d sub : List Nat} {off : Nat} (h : resolveOff d off = .ok sub) :
    off ≠ 0 ∧ off ≤ d.length ∧ sub = d.drop off := by
  unfold resolveOff at h
  split at h
  · cases h
  · split at h
    · injection h with h; exact ⟨by assumption, by assumption, h.symm⟩
    · cases h

/-- `offset.resolve(data)?` in front of a continuation: an `Err`, or the continuation on the data behind a non-null
offset inside the table -/
theorem resolveOff_sat {β : Type} {A : Prop} {P : β → Prop} {d : List Nat} {off : Nat} {k : List Nat → R β}
    (hk : off ≠ 0 → off ≤ d.length → (k (d.drop off)).Sat A P) :
    (match resolveOff d off with | .error e => R.err e | .ok sub => k sub).Sat A P := by
  cases h : resolveOff d off with
  | error e => exact .err
  | ok sub => obtain ⟨h0, hle, rfl⟩ := resolveOff_ok h; exact hk h0 hle

/-! ## byte-level AAT lookups -/

/-- `v` is (the low 16 bits of) a big-endian number of `w` bytes that lie inside `d` -/
def ReadsInside (d : List Nat) (v : Nat) : Prop :=
  ∃ p w, p + w ≤ d.length ∧ (v = beAt d p w ∨ v = beAt d p w % 65536)

theorem readsInside_self {d : List Nat} {p w v : Nat} (h : readAt d p w = some v) : ReadsInside d v := by
  obtain ⟨h1, -, h2⟩ := readAt_eq_some h
  exact ⟨p, w, h1, Or.inl h2⟩

theorem readsInside_drop {d : List Nat} {k p w v : Nat} (h : readAt (d.drop k) p w = some v) :
    ReadsInside d v := by
  obtain ⟨h1, -, h2⟩ := readAt_eq_some h
  simp only [List.length_drop] at h1
  by_cases hk : k ≤ d.length
  · exact ⟨k + p, w, by omega, Or.inl (by rw [h2, beAt_drop])⟩
  · -- the dropped list is empty: `p + w ≤ 0`
    have hp : p = 0 := by omega
    have hw : w = 0 := by omega
    subst hp; subst hw
    exact ⟨0, 0, by omega, Or.inl (by rw [h2]; simp [beAt])⟩

theorem readsInside_take_drop {d : List Nat} {k L p w v : Nat}
    (h : readAt ((d.drop k).take L) p w = some v) (hk : k ≤ d.length) : ReadsInside d v := by
  obtain ⟨h1, -, h2⟩ := readAt_eq_some h
  simp only [List.length_take, List.length_drop] at h1
  refine ⟨k + p, w, by omega, Or.inl ?_⟩
  rw [h2, beAt_take _ _ _ _ (by omega), beAt_drop]

theorem ReadsInside.of_drop {d : List Nat} {k v : Nat} (hk : k ≤ d.length) (h : ReadsInside (d.drop k) v) :
    ReadsInside d v := by
  obtain ⟨p, w, hpw, hv⟩ := h
  rw [List.length_drop] at hpw
  rw [beAt_drop] at hv
  exact ⟨k + p, w, by omega, hv⟩

theorem lookup0v_sat (d : List Nat) (size g : Nat) (hl : d.length ≤ MAXU) (hs : size = 2 ∨ size = 4) :
    (lookup0v d size g).Sat True (ReadsInside d) := by
  unfold lookup0v
  refine .ite (fun _ => .err) fun h2 => ?_
  dsimp only
  rw [if_neg (by omega), if_neg (Nat.not_lt.mpr (Nat.div_mul_le_self _ _))]
  refine .ite (fun hg => ?_) fun _ => .err
  exact readOrTrap_sat (by have := record_fits (Nat.div_mul_le_self (d.drop 2).length size) hg; omega)
    (by rw [List.length_drop]; omega) fun v h => readsInside_drop h

theorem lookup2v_sat (d : List Nat) (size g : Nat) (hl : d.length ≤ MAXU) :
    (lookup2v d size g).Sat True (ReadsInside d) := by
  unfold lookup2v
  cases hu : readAt d 2 2 with
  | none => exact .err
  | some unit =>
    cases hn : readAt d 4 2 with
    | none => exact .err
    | some n =>
      dsimp only
      refine .ite (fun h1 => ?_) fun _ => .err
      refine .ite (fun h2 => ?_) fun _ => .err
      refine .ite (fun h3 => ?_) fun _ => .err
      refine .ite (fun _ => ?_) fun _ => .err
      exact readOrTrap_sat (by have := record_fits h2 h3; omega)
        (by rw [List.length_take, List.length_drop]; omega) fun v h => readsInside_take_drop h (by omega)

theorem lookup4v_sat (d : List Nat) (size g : Nat) (hb : ∀ b ∈ d, b < 256)
    (hs : size = 2 ∨ size = 4) (hg : g < 65536) :
    (lookup4v d size g).Sat True (ReadsInside d) := by
  unfold lookup4v
  cases hn : readAt d 4 2 with
  | none => exact .err
  | some n =>
    dsimp only
    refine .ite (fun h1 => ?_) fun _ => .err
    refine .ite (fun h3 => ?_) fun _ => .err
    refine .ite (fun _ => ?_) fun _ => .err
    generalize bsIx n _ = ix
    have hoff := beAt_lt d hb (12 + ix * 6 + 4) 2
    generalize beAt d (12 + ix * 6 + 4) 2 = off at hoff ⊢
    generalize beAt d (12 + ix * 6 + 2) 2 = first
    have : (g - first) * size ≤ 65536 * 4 := Nat.mul_le_mul (by omega) (by omega)
    rw [if_neg (by simp only [MAXU]; omega)]
    exact readOrErr_sat fun v h => readsInside_self h

theorem lookup6v_sat (d : List Nat) (size g : Nat) (hl : d.length ≤ MAXU) :
    (lookup6v d size g).Sat True (ReadsInside d) := by
  unfold lookup6v
  cases hu : readAt d 2 2 with
  | none => exact .err
  | some unit =>
    cases hn : readAt d 4 2 with
    | none => exact .err
    | some n =>
      dsimp only
      refine .ite (fun h1 => ?_) fun _ => .err
      refine .ite (fun h2 => ?_) fun _ => .err
      cases hbs : Layout.binarySearchBy n _ with
      | err i => exact .err
      | ok ix =>
        have h3 : ix < n := (BinSearch.ok_lt hbs).1
        dsimp only
        rw [if_pos h3]
        exact readOrTrap_sat (by have := record_fits h2 h3; omega)
          (by rw [List.length_take, List.length_drop]; omega) fun v h => readsInside_take_drop h (by omega)

theorem lookup8v_sat (d : List Nat) (g : Nat) (hl : d.length ≤ MAXU) :
    (lookup8v d g).Sat True (ReadsInside d) := by
  unfold lookup8v
  refine .ite (fun h1 => ?_) fun _ => .err
  rw [readAt_of_le (by omega : 2 + 2 ≤ d.length) hl]
  dsimp only
  refine .ite (fun _ => .err) fun h2 => ?_
  refine .ite (fun h3 => ?_) fun _ => .err
  exact readOrTrap_sat (by omega) hl fun v h => readsInside_self h

theorem lookup10v_sat (d : List Nat) (size g : Nat) (hl : d.length ≤ MAXU) (hb : ∀ b ∈ d, b < 256)
    (hg : g < 65536) :
    (lookup10v d size g).Sat True (ReadsInside d) := by
  unfold lookup10v
  refine .ite (fun h1 => ?_) fun _ => .err
  rw [readAt_of_le (by omega : 2 + 2 ≤ d.length) hl, readAt_of_le (by omega : 4 + 2 ≤ d.length) hl]
  dsimp only
  have hunit := beAt_lt d hb 2 2
  generalize beAt d 2 2 = unit at hunit ⊢
  generalize beAt d 4 2 = first
  refine .ite (fun _ => .err) fun h2 => ?_
  have : (g - first) * unit ≤ 65536 * 65536 := Nat.mul_le_mul (by omega) (by omega)
  rw [if_neg (by simp only [MAXU]; omega)]
  refine .ite (fun _ => ?_) fun _ => .err
  cases hr : readAt (d.drop 8) ((g - first) * unit) unit with
  | none => exact .err
  | some r =>
    obtain ⟨p, w, hpw, hv⟩ := readsInside_drop hr
    -- `T::from_u32` keeps the value or its low 16 bits
    refine .ok ⟨p, w, hpw, ?_⟩
    by_cases hs2 : size = 2
    · rw [if_pos hs2]; right
      rcases hv with hv | hv <;> rw [hv]
      omega
    · rw [if_neg hs2]; exact hv

/-! ## state tables -/

theorem classSubRead_ok {sub : List Nat} {n : Nat} (h : classSubRead sub = .ok n) :
    4 + n ≤ sub.length ∧ n = beAt sub 2 2 := by
  unfold classSubRead at h
  obtain ⟨-, h⟩ := readAt_step h nofun
  obtain ⟨hfit, h⟩ := else_step h nofun
  cases h
  exact ⟨hfit, rfl⟩

theorem stateEntryRead_ok {e : List Nat} {psize ns fl pl : Nat} (h : stateEntryRead e psize = .ok (ns, fl, pl)) :
    4 + psize ≤ e.length ∧ ns = beAt e 0 2 ∧ fl = beAt e 2 2 ∧ pl = beAt e 4 psize := by
  unfold stateEntryRead at h
  obtain ⟨-, h⟩ := readAt_step h nofun
  obtain ⟨-, h⟩ := readAt_step h nofun
  obtain ⟨h4, h⟩ := else_step h nofun
  obtain ⟨hp, h⟩ := else_step h nofun
  cases h
  exact ⟨by omega, rfl, rfl, rfl⟩

/-- the entry `off` bytes into the entry table at `eo` -/
theorem entryAt_ok {d : List Nat} {eo off psize ns fl pl : Nat} (hoff : eo + off ≤ d.length)
    (h : stateEntryRead ((d.drop eo).drop off) psize = .ok (ns, fl, pl)) :
    eo + off + 4 + psize ≤ d.length ∧ ns = beAt d (eo + off) 2 ∧ fl = beAt d (eo + off + 2) 2 ∧
      pl = beAt d (eo + off + 4) psize := by
  obtain ⟨hlen, rfl, rfl, rfl⟩ := stateEntryRead_ok h
  rw [List.drop_drop, List.length_drop] at hlen
  rw [List.drop_drop, beAt_drop, beAt_drop, beAt_drop]
  exact ⟨by omega, rfl, rfl, rfl⟩

/-! ## ltag -/

theorem ltagRead_some {d : List Nat} {n : Nat} (h : ltagRead d = some n) : 12 + n * 4 ≤ d.length := by
  unfold ltagRead at h
  obtain ⟨-, h⟩ := readAt_step h nofun
  obtain ⟨-, h⟩ := checkedMul_step h nofun
  obtain ⟨hfit, h⟩ := else_step h nofun
  cases h
  exact hfit

theorem ltagItem_facts (d : List Nat) (i : Nat) (hl : d.length ≤ MAXU) (hb : ∀ b ∈ d, b < 256)
    (hi : 12 + (i + 1) * 4 ≤ d.length) :
    ∃ o, ltagItem d i = .ok o ∧ ∀ t, o = some t → t.1 = i ∧ t.2.1 + t.2.2 ≤ d.length ∧
      utf8Valid ((d.drop t.2.1).take t.2.2) = true := by
  unfold ltagItem
  rw [readAt_of_le (by omega : 12 + i * 4 + 2 ≤ d.length) hl, readAt_of_le (by omega : 12 + i * 4 + 2 + 2 ≤ d.length) hl]
  simp only []
  have ho := HandRead.beAt_lt d hb (12 + i * 4) 2
  have hn := HandRead.beAt_lt d hb (12 + i * 4 + 2) 2
  generalize beAt d (12 + i * 4) 2 = off at ho ⊢
  generalize beAt d (12 + i * 4 + 2) 2 = len at hn ⊢
  have hnt : ¬ (off + len > MAXU) := by simp only [MAXU]; omega
  simp only [hnt, ↓reduceIte]
  by_cases hin : off + len ≤ d.length
  · simp only [hin, ↓reduceIte]
    by_cases hu : utf8Valid ((d.drop off).take len) = true
    · simp only [hu, ↓reduceIte]
      exact ⟨_, rfl, fun t ht => by injection ht with ht; subst ht; exact ⟨rfl, hin, hu⟩⟩
    · simp only [hu]
      exact ⟨none, by simp, fun t ht => by cases ht⟩
  · simp only [hin, ↓reduceIte]
    exact ⟨none, rfl, fun t ht => by cases ht⟩

theorem ltagLoop_facts (d : List Nat) (hl : d.length ≤ MAXU) (hb : ∀ b ∈ d, b < 256) :
    ∀ (is : List Nat), (∀ i ∈ is, 12 + (i + 1) * 4 ≤ d.length) →
      ∃ xs, ltagLoop d is = .ok xs ∧ xs.length ≤ is.length ∧
        ∀ t ∈ xs, t.1 ∈ is ∧ t.2.1 + t.2.2 ≤ d.length ∧ utf8Valid ((d.drop t.2.1).take t.2.2) = true := by
  intro is
  induction is with
  | nil => intro _; exact ⟨[], rfl, by simp, by simp⟩
  | cons i rest ih =>
    intro h
    obtain ⟨o, ho, hof⟩ := ltagItem_facts d i hl hb (h i (by simp))
    obtain ⟨xs, hxs, hlen, hall⟩ := ih (fun j hj => h j (List.mem_cons_of_mem _ hj))
    unfold ltagLoop
    simp only [ho, hxs]
    cases o with
    | none =>
      refine ⟨xs, rfl, by simp; omega, fun t ht => ?_⟩
      obtain ⟨a, b, c⟩ := hall t ht
      exact ⟨List.mem_cons_of_mem _ a, b, c⟩
    | some t0 =>
      refine ⟨t0 :: xs, rfl, by simp; omega, fun t ht => ?_⟩
      simp only [List.mem_cons] at ht
      rcases ht with rfl | ht
      · obtain ⟨a, b, c⟩ := hof t rfl
        exact ⟨by rw [a]; simp, b, c⟩
      · obtain ⟨a, b, c⟩ := hall t ht
        exact ⟨List.mem_cons_of_mem _ a, b, c⟩

/-! ## IFT -/

theorem u8or16Size_eq (mei : Nat) : u8or16Size mei = 1 ∨ u8or16Size mei = 2 := by
  unfold u8or16Size; split <;> simp

theorem f1Read_some {d : List Nat} {h : F1Hdr} (hr : f1Read d = some h) :
    h.maxEntry = beAt d 21 2 ∧ h.glyphCount = beAt d 25 3 ∧
      36 + h.bitmapLen + 2 + h.uriLen + 1 ≤ d.length := by
  unfold f1Read at hr
  obtain ⟨-, hr⟩ := readAt_step hr nofun
  obtain ⟨-, hr⟩ := readAt_step hr nofun
  obtain ⟨-, hr⟩ := readAt_step hr nofun
  obtain ⟨he, hr⟩ := else_step hr nofun
  cases hr
  exact ⟨rfl, rfl, by dsimp only; omega⟩

theorem glyphMapRead_ok {sub : List Nat} {gc mei : Nat} {g : GmView} (h : glyphMapRead sub gc mei = .ok g) :
    g.first = beAt sub 0 2 ∧ g.size = u8or16Size mei ∧ g.data.length = (gc - g.first) * g.size ∧
      2 + g.data.length ≤ sub.length := by
  unfold glyphMapRead at h
  obtain ⟨-, h⟩ := readAt_step h nofun
  obtain ⟨-, h⟩ := checkedMul_step h nofun
  obtain ⟨hfit, h⟩ := else_step h nofun
  cases h
  have hl : ((sub.drop 2).take ((gc - beAt sub 0 2) * u8or16Size mei)).length = (gc - beAt sub 0 2) * u8or16Size mei :=
    length_take_drop hfit
  exact ⟨rfl, rfl, hl, by dsimp only; rw [hl]; exact hfit⟩

/-- what `gid_to_entry_iter` promises for glyph map `g` -/
def GidItemOk (g : GmView) (gc : Nat) (a : Nat × Nat) : Prop :=
  g.first ≤ a.1 ∧ a.1 < gc ∧ 0 < a.2 ∧
    (a.1 - g.first) * g.size + g.size ≤ g.data.length ∧ a.2 = beAt g.data ((a.1 - g.first) * g.size) g.size

/-- one trip of `GidToEntryIter::next` from a state at or above `first_mapped_glyph` -/
theorem gidStep_facts (g : GmView) (gc s : Nat) (hgc : gc < 16777216) (hf : g.first < 65536)
    (hs : g.first ≤ s ∧ s ≤ max g.first gc) :
    (gidStep (some g) gc s).1 ≠ .trap ∧
    ((gidStep (some g) gc s).1 ≠ .done →
      (g.first ≤ (gidStep (some g) gc s).2 ∧ (gidStep (some g) gc s).2 ≤ max g.first gc) ∧
      gc - (gidStep (some g) gc s).2 < gc - s) ∧
    (∀ a, (gidStep (some g) gc s).1 = .yield a → GidItemOk g gc a) := by
  unfold gidStep
  simp only []
  have h1 : ¬ (s + 1 > 4294967295) := by omega
  simp only [h1, ↓reduceIte]
  by_cases h2 : s ≥ gc
  · simp only [h2, ↓reduceIte]; simp
  · simp only [h2, ↓reduceIte]
    have h3 : ¬ (s < g.first) := by omega
    simp only [h3, ↓reduceIte]
    cases hc : compGet g.data.length g.size (s - g.first) with
    | none => simp
    | some off =>
      obtain ⟨hoff, hfit⟩ := compGet_eq_some hc
      simp only []
      cases hrd : readAt g.data off g.size with
      | none => simp
      | some e =>
        simp only []
        by_cases he : e > 0
        · simp only [he, ↓reduceIte]
          refine ⟨by simp, fun _ => ⟨by omega, by omega⟩, fun a ha => ?_⟩
          injection ha with ha
          subst ha
          refine ⟨hs.1, by dsimp only; omega, he, by rw [← hoff]; exact hfit, ?_⟩
          rw [← hoff]; exact (readAt_eq_some hrd).2.2
        · simp only [he, ↓reduceIte]
          exact ⟨by simp, fun _ => ⟨by omega, by omega⟩, fun a ha => by cases ha⟩

theorem featureMapRead_ok {sub : List Nat} {mei n rs : Nat} (h : featureMapRead sub mei = .ok (n, rs)) :
    rs = 4 + 2 * u8or16Size mei ∧ n = beAt sub 0 2 ∧ 2 + n * rs ≤ sub.length := by
  unfold featureMapRead at h
  obtain ⟨-, h⟩ := readAt_step h nofun
  obtain ⟨-, h⟩ := checkedMul_step h nofun
  obtain ⟨hfit, h⟩ := else_step h nofun
  cases h
  exact ⟨rfl, rfl, hfit⟩

/-- the `entry_map_count` of feature record `i` -/
def recCount (recs : List Nat) (rs w i : Nat) : Nat := beAt recs (rs * i + 4 + w) w

theorem featureRecordCount_at {recs : List Nat} {rs w n i : Nat} (hlen : recs.length = n * rs) (hrs : rs = 4 + 2 * w)
    (hl : recs.length ≤ MAXU) (hi : i < n) :
    rs * i ≤ recs.length ∧ featureRecordCount (recs.drop (rs * i)) w = some (recCount recs rs w i) := by
  have hfit := record_fits (Nat.le_of_eq hlen.symm) hi
  rw [Nat.mul_comm i rs] at hfit
  have hdl : (recs.drop (rs * i)).length = recs.length - rs * i := List.length_drop
  refine ⟨by omega, ?_⟩
  unfold featureRecordCount
  rw [readAt_of_le (by omega : 0 + 4 ≤ _) (by omega), readAt_of_le (by omega : 4 + w ≤ _) (by omega),
    readAt_of_le (by omega : 4 + w + w ≤ _) (by omega)]
  show some (beAt (recs.drop (rs * i)) (4 + w) w) = _
  rw [beAt_drop, ← Nat.add_assoc]
  rfl

theorem recCount_lt {recs : List Nat} (hb : ∀ b ∈ recs, b < 256) (rs : Nat) {w : Nat} (hw : w = 1 ∨ w = 2) (i : Nat) :
    recCount recs rs w i < 65536 := by
  have := HandRead.beAt_lt recs hb (rs * i + 4 + w) w
  have hp : 256 ^ w ≤ 65536 := by rcases hw with rfl | rfl <;> decide
  exact Nat.lt_of_lt_of_le this hp

theorem ersLoop_ok (recs : List Nat) (rs w fw n : Nat) (hlen : recs.length = n * rs) (hrs : rs = 4 + 2 * w)
    (hw : w = 1 ∨ w = 2) (hfw : fw ≤ 2) (hb : ∀ b ∈ recs, b < 256) (hl : recs.length ≤ MAXU) :
    ∀ (is : List Nat) (acc : Nat), (∀ i ∈ is, i < n) → acc + is.length * (65535 * 4) ≤ MAXU →
      ersLoop recs rs w fw is acc = .ok (is.foldl (fun a i => a + recCount recs rs w i * fw * 2) acc) ∧
      is.foldl (fun a i => a + recCount recs rs w i * fw * 2) acc ≤ acc + is.length * (65535 * 4) := by
  have hM : MAXU = 18446744073709551615 := rfl
  intro is
  induction is with
  | nil => intro acc _ _; exact ⟨rfl, by simp⟩
  | cons i rest ih =>
    intro acc hall hacc
    obtain ⟨hst, hcnt⟩ := featureRecordCount_at hlen hrs hl (hall i (List.mem_cons_self ..))
    have hc := recCount_lt hb rs hw i
    unfold ersLoop
    rw [checkedMul_of_fits (by omega)]
    dsimp only
    rw [if_neg (by omega), hcnt, List.foldl_cons, List.length_cons] at *
    generalize recCount recs rs w i = c at hc ⊢
    have h2 : c * fw ≤ 65535 * 2 := Nat.mul_le_mul (by omega) hfw
    dsimp only
    rw [if_neg (by omega)]
    obtain ⟨h3, h4⟩ := ih (acc + c * fw * 2) (fun j hj => hall j (List.mem_cons_of_mem _ hj)) (by omega)
    exact ⟨h3, by omega⟩

/-- the size computed from the bytes is the one of the C19 decoder model (Model/PatchMapDecode.lean
`entryRecordsSize`) on any table view whose records carry these counts -/
theorem entryRecordsSize_eq_C19 (t : PatchMap.F1Table) (cs : List Nat) (hc : t.featRecs.map (·.count) = cs) :
    PatchMap.entryRecordsSize t = cs.foldl (fun a c => a + c * (if t.maxEntry < 256 then 1 else 2) * 2) 0 := by
  unfold PatchMap.entryRecordsSize
  rw [← hc, List.foldl_map]

theorem gpRead_some {d : List Nat} {wide : Bool} {h : GpHdr} (hr : gpRead d wide = some h) :
    h.w = (if wide then 3 else 2) ∧ h.idsAt = 5 ∧ h.idsAt + h.gc * h.w ≤ h.offsAt ∧
      h.offsAt + h.nOffs * 4 ≤ d.length := by
  unfold gpRead at hr
  obtain ⟨-, hr⟩ := readAt_step hr nofun
  obtain ⟨-, hr⟩ := readAt_step hr nofun
  dsimp only at hr
  -- the two products are matched together
  cases hm1 : checkedMul (beAt d 0 4) (if wide then 3 else 2) with
  | none => rw [hm1] at hr; cases hr
  | some idsLen =>
    cases hm2 : checkedMul (beAt d 4 1) 4 with
    | none => rw [hm1, hm2] at hr; cases hr
    | some tabLen =>
      rw [hm1, hm2] at hr
      dsimp only at hr
      cases hm3 : checkedMul (satAdd (satMul (beAt d 0 4) (beAt d 4 1)) 1) 4 with
      | none => rw [hm3] at hr; cases hr
      | some offLen =>
        rw [hm3] at hr
        obtain ⟨hfit, hr⟩ := else_step hr nofun
        cases hr
        obtain ⟨rfl, -⟩ := checkedMul_eq_some hm1
        obtain ⟨rfl, -⟩ := checkedMul_eq_some hm3
        exact ⟨rfl, rfl, by dsimp only; omega, by dsimp only; omega⟩

/-- the termination measure of `GlyphDataIterator`: glyph ids left, 0 once failed -/
def gdMu (h : GpHdr) (s : GdSt) : Nat := if s.failed then 0 else h.gc - s.k

/-- what a successful item promises: the glyph data lies inside the table -/
def GdItemOk (d : List Nat) (x : Except AErr (Nat × Nat × Nat)) : Prop :=
  ∀ g st ln, x = .ok (g, st, ln) → 0 < st ∧ st + ln ≤ d.length

/-- what one call of `GlyphDataIterator::next` from state `s` may do: no trap; unless it ends the iteration the
measure falls; a yielded `Ok` item lies inside the table and a yielded `Err` sets `failed` -/
def GdOut (d : List Nat) (h : GpHdr) (s : GdSt) (o : Out (Except AErr (Nat × Nat × Nat)) × GdSt) : Prop :=
  o.1 ≠ .trap ∧ (o.1 ≠ .done → gdMu h o.2 < gdMu h s) ∧
  ∀ a, o.1 = .yield a → GdItemOk d a ∧ ((∃ e, a = .error e) → o.2.failed = true)

theorem gdOut_done {d : List Nat} {h : GpHdr} {s s' : GdSt} : GdOut d h s (.done, s') :=
  ⟨nofun, fun h => absurd rfl h, nofun⟩

theorem gdOut_fail {d : List Nat} {h : GpHdr} {s : GdSt} {e : AErr} {k : Nat} {p : Option Nat} (hs : 0 < gdMu h s) :
    GdOut d h s (.yield (.error e), ⟨k, p, true⟩) :=
  ⟨nofun, fun _ => hs, fun a ha => by cases ha; exact ⟨nofun, fun _ => rfl⟩⟩

theorem gdData_out (d : List Nat) (h : GpHdr) (s s2 : GdSt) (gid st en : Nat) (hmu : gdMu h s2 < gdMu h s) :
    GdOut d h s (gdData d s2 gid st en) := by
  have hs : 0 < gdMu h s := by omega
  unfold gdData
  refine ite_elim (P := GdOut d h s) (fun _ => gdOut_fail hs) fun _ => ?_
  cases hres : resolveOff d st with
  | error e => exact gdOut_fail hs
  | ok data =>
    obtain ⟨hst0, hstl, rfl⟩ := resolveOff_ok hres
    dsimp only
    refine ite_elim (P := GdOut d h s) (fun hfit => ⟨nofun, fun _ => hmu, fun a ha => ?_⟩) fun _ => gdOut_fail hs
    cases ha
    rw [List.length_drop] at hfit
    exact ⟨fun g st' ln hx => by cases hx; exact ⟨by omega, by omega⟩, fun ⟨e, he⟩ => by cases he⟩

theorem gdStep_out (d : List Nat) (h : GpHdr) (si : Nat) (s : GdSt) (hl : d.length ≤ MAXU)
    (hoffs : h.offsAt + h.nOffs * 4 ≤ d.length) : GdOut d h s (gdStep d h si s) := by
  unfold gdStep
  refine ite_elim (P := GdOut d h s) (fun _ => gdOut_done) fun hf => ?_
  refine ite_elim (P := GdOut d h s) (fun _ => gdOut_done) fun hk => ?_
  refine ite_elim (P := GdOut d h s) (fun _ => gdOut_done) fun hz => ?_
  rw [readAt_of_le (by omega : h.offsAt + 4 * (si + s.k) + 4 ≤ d.length) hl,
    readAt_of_le (by omega : h.offsAt + 4 * (satAdd si 1 + s.k) + 4 ≤ d.length) hl]
  dsimp only
  generalize beAt d (h.offsAt + 4 * (si + s.k)) 4 = st
  generalize beAt d (h.offsAt + 4 * (satAdd si 1 + s.k)) 4 = en
  have hs : 0 < gdMu h s := by simp only [gdMu, hf, Bool.false_eq_true, ↓reduceIte]; omega
  have hmu : ∀ p, gdMu h { k := s.k + 1, prev := p, failed := s.failed } < gdMu h s := by
    intro p; simp only [gdMu, hf, Bool.false_eq_true, ↓reduceIte]; omega
  cases hgid : readAt d (h.idsAt + h.w * s.k) h.w with
  | none => exact gdOut_fail hs
  | some gid =>
    dsimp only
    cases hp : s.prev with
    | none => exact gdData_out d h s _ gid st en (hmu _)
    | some p => exact ite_elim (P := GdOut d h s) (fun _ => gdOut_fail hs) fun _ => gdData_out d h s _ gid st en (hmu _)

/-! ## example tables for the non-vacuity examples of Props/C01HandAat.lean -/

/-- the example table of the Apple `kern` chapter (7 classes, class table for glyphs 3..6):
glyph 5 has class 3; entry (state 2, class 1) is `(2, 0x8114)` -/
def exState : List Nat :=
  [0,7, 0,10, 0,18, 0,40, 0,64,  0,3, 0,4, 1,2,3,4,
   2,0,0,2,1,0,0, 2,0,0,2,1,0,0, 2,3,3,2,3,4,5, 0,
   0,18,0x81,0x12, 0,32,0x81,0x12, 0,18,0,0, 0,32,0x81,0x14, 0,18,0x81,0x16]

/-- format 6 lookup with UNSORTED keys: the search still ends inside the table -/
def exLookup6 : List Nat := [0,6, 0,4, 0,3, 0,0, 0,0, 0,0,  0,9, 0,1,  0,2, 0,7,  0,5, 0,3]

/-- a format 1 patch map: max_entry_index 3, 5 glyphs, glyph map at 41 (first mapped glyph 2, entries
2 0 1), no feature map, bitmap `0b0101`, template "a" -/
def exF1 : List Nat :=
  [1,0,0,0, 0] ++ List.replicate 16 7 ++ [0,3, 0,3, 0,0,5, 0,0,0,41, 0,0,0,0, 5, 0,1,97, 0,  0,2, 2,0,1]

/-- glyph patches: 2 glyphs (ids 5, 9), 1 table, offsets 25, 27, 28; table 0 yields both, table 1 nothing -/
def exGp : List Nat := [0,0,0,2, 1, 0,5, 0,9, 103,108,121,102, 0,0,0,25, 0,0,0,27, 0,0,0,28, 1,2,3]

end FontVerif.HandAat
