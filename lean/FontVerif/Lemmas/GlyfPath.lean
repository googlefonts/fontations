/-
C09, path -> glyph -> draw: implied on-curve point elision (`InterpolatableContourBuilder::build`) as a left-to-right
pass (`elideSeq`); skrifa's `to_path` (Model/ToPath.lean, FreeType style, unscaled 26.6) on on/off points without its
indices (`emitB`); the midpoint `to_path` inserts is the point the builder dropped (`emitB_elideSeq`, `draw_elided_eq`);
closed line/quadratic contours of a path through `from_bezpath`'s element loop and back through the pen.
-/
import FontVerif.Model.GlyfPath
import FontVerif.Lemmas.ToPath
import FontVerif.Lemmas.GlyfBytes
namespace FontVerif.GlyfPath
open FontVerif.Glyf FontVerif.ToPath

theorem flag_facts : isQuad 0 = true ∧ isQuad 1 = false ∧ isCubic 0 = false ∧ isCubic 1 = false
    ∧ isOn 0 = false ∧ isOn 1 = true := by decide

theorem implicit3_spec (p0 p1 p2 : Point) (h : implicit3 p0 p1 p2 = true) :
    p1.on = true ∧ p0.on = false ∧ p2.on = false ∧ p0.x + p2.x = 2 * p1.x ∧ p0.y + p2.y = 2 * p1.y := by
  unfold implicit3 isMid at h
  cases h1 : p1.on <;> cases h0 : p0.on <;> cases h2 : p2.on <;> simp [h1, h0, h2] at h ⊢
  exact h

theorem off_not_implicit (p0 p1 p2 : Point) (h : p1.on = false) : implicit3 p0 p1 p2 = false := by
  unfold implicit3; simp [h]

theorem mid_exact (a b m : Int) (ha : inI16 a) (hb : inI16 b) (h : a + b = 2 * m) :
    midI32 (64 * a) (64 * b) = 64 * m := by
  unfold midI32
  have hw : wrapI32 (64 * a + 64 * b) = 2 * (64 * m) := by
    unfold wrapI32 inI16 at *
    simp only []
    split <;> omega
  rw [hw, Int.mul_tdiv_cancel_left _ (by decide)]

theorem f32RoundNat_small (a : Int) (h : a < 16777216) : f32RoundNat a = a := by
  unfold f32RoundNat; rw [if_pos h]

theorem f32RoundInt_small (v : Int) (h : -16777216 < v ∧ v < 16777216) : f32RoundInt v = v := by
  unfold f32RoundInt
  split
  · rw [f32RoundNat_small _ (by omega)]; omega
  · exact f32RoundNat_small v h.2

theorem out_id (v : Int) (h : inI16 v) : fixedCoord.out (64 * v) = 64 * v :=
  f32RoundInt_small _ (by unfold inI16 at h; omega)

theorem finish_coords (st : Pending) (s1 s2 : Pt) (hx : s1.x = s2.x) (hy : s1.y = s2.y) :
    finish fixedCoord st s1 = finish fixedCoord st s2 := by
  unfold finish
  have : ({ s1 with flags := 1 } : Pt) = { s2 with flags := 1 } := by
    cases s1; cases s2; simp_all
  rw [this]

theorem foldl_sel_mem {α : Type} (op : α → α → α) (hop : ∀ a b, op a b = a ∨ op a b = b) (r : List α) :
    ∀ a, r.foldl op a ∈ a :: r := by
  induction r with
  | nil => intro a; simp
  | cons b r ih =>
    intro a
    rw [List.foldl_cons]
    rcases List.mem_cons.1 (ih (op a b)) with h | h
    · rw [h]
      rcases hop a b with e | e <;> rw [e]
      · exact List.mem_cons_self ..
      · exact List.mem_cons_of_mem _ (List.mem_cons_self ..)
    · exact List.mem_cons_of_mem _ (List.mem_cons_of_mem _ h)

theorem minL_in (l : List Int) (h : ∀ v ∈ l, inI16 v) : inI16 (minL l) := by
  cases l with
  | nil => simp [minL, inI16]
  | cons a r => exact h _ (foldl_sel_mem min (fun a b => by omega) r a)

theorem maxL_in (l : List Int) (h : ∀ v ∈ l, inI16 v) : inI16 (maxL l) := by
  cases l with
  | nil => simp [maxL, inI16]
  | cons a r => exact h _ (foldl_sel_mem max (fun a b => by omega) r a)

theorem elide_subset (l : List Point) : ∀ p ∈ elide l, p ∈ l := by
  intro p hp
  unfold elide at hp
  obtain ⟨i, _, hi⟩ := List.mem_filterMap.mp hp
  exact List.mem_of_getElem? hi

/-- elision as a left-to-right pass: `prev` is the original predecessor, `nxt` the point that
follows the end of the list (cyclically: the first point of the contour) -/
def elideSeq (prev : Point) : List Point → Point → List Point
  | [], _ => []
  | m :: rest, nxt =>
    (if implicit3 prev m (rest.head?.getD nxt) then [] else [m]) ++ elideSeq m rest nxt

theorem elide_suffix (l : List Point) (a : Point) (hl : l[0]? = some a) :
    ∀ (suf pre : List Point) (prev : Point), l = pre ++ suf → pre.getLast? = some prev →
    ((List.range' pre.length suf.length).filter (fun i => !isImplicit l i)).filterMap (fun i => l[i]?)
      = elideSeq prev suf a := by
  intro suf
  induction suf with
  | nil => intro pre prev _ _; simp [elideSeq]
  | cons m rest ih =>
    intro pre prev hsplit hlast
    have hpne : pre ≠ [] := by intro e; rw [e] at hlast; simp at hlast
    have hpl : 0 < pre.length := List.length_pos_iff.mpr hpne
    have hm : l[pre.length]? = some m := by rw [hsplit]; simp
    have hprev : wrapPrev l pre.length = some prev := by
      unfold wrapPrev
      have : ¬ (pre.length = 0) := by omega
      simp only [this, ↓reduceIte]
      rw [hsplit, List.getElem?_append_left (by omega)]
      rw [List.getLast?_eq_getElem?] at hlast
      exact hlast
    have hnext : wrapNext l pre.length = some (rest.head?.getD a) := by
      unfold wrapNext
      have hlen : l.length = pre.length + (rest.length + 1) := by rw [hsplit]; simp
      cases rest with
      | nil =>
        have : pre.length = l.length - 1 := by simp at hlen; omega
        simp only [this, ↓reduceIte, hl, List.head?_nil, Option.getD_none]
      | cons n rest' =>
        have : ¬ (pre.length = l.length - 1) := by simp at hlen; omega
        simp only [this, ↓reduceIte, List.head?_cons, Option.getD_some]
        rw [hsplit]; simp
    have himp : isImplicit l pre.length = implicit3 prev m (rest.head?.getD a) := by
      unfold isImplicit; rw [hm, hprev, hnext]
    have hrec := ih (pre ++ [m]) m (by rw [hsplit]; simp) (by simp)
    simp only [List.length_append, List.length_cons, List.length_nil, Nat.zero_add] at hrec
    simp only [List.length_cons, List.range'_succ, List.filter_cons, himp, elideSeq]
    split
    · rename_i hc
      simp only [Bool.not_eq_eq_eq_not, Bool.not_true] at hc
      simp only [hc, Bool.false_eq_true, ↓reduceIte, List.filterMap_cons, hm, List.cons_append,
        List.nil_append, hrec]
    · rename_i hc
      simp only [Bool.not_eq_eq_eq_not, Bool.not_true, Bool.not_eq_false] at hc
      simp only [hc, ↓reduceIte, List.nil_append, hrec]

theorem isImplicit_zero (a : Point) (t : List Point) :
    isImplicit (a :: t) 0 = implicit3 (t.getLast?.getD a) a (t.head?.getD a) := by
  cases t with
  | nil => rfl
  | cons p2 rest =>
    have hprev : wrapPrev (a :: p2 :: rest) 0 = (p2 :: rest).getLast? := by
      simp only [wrapPrev, ↓reduceIte, List.length_cons, Nat.add_sub_cancel]
      rw [List.getLast?_eq_getElem?]
      simp
    obtain ⟨p0, hp0⟩ : ∃ p0, (p2 :: rest).getLast? = some p0 :=
      ⟨_, List.getLast?_eq_some_getLast (List.cons_ne_nil _ _)⟩
    have hnext : wrapNext (a :: p2 :: rest) 0 = some p2 := by simp [wrapNext]
    simp only [isImplicit, List.getElem?_cons_zero, hprev, hp0, hnext, Option.getD_some, List.head?_cons]

/-- index-based `build` = structural pass (for a non-empty contour) -/
theorem elide_eq_seq (a : Point) (t : List Point) :
    elide (a :: t) =
      (if implicit3 (t.getLast?.getD a) a (t.head?.getD a) then [] else [a]) ++ elideSeq a t a := by
  rw [← isImplicit_zero]
  have h := elide_suffix (a :: t) a rfl t [a] a rfl rfl
  unfold elide
  simp only [List.length_cons, List.length_nil, Nat.zero_add] at h
  rw [show List.range (a :: t).length = 0 :: List.range' 1 t.length by
    rw [List.length_cons, List.range_eq_range', List.range'_succ]]
  simp only [List.filter_cons]
  split
  · rename_i hc
    simp only [Bool.not_eq_eq_eq_not, Bool.not_true] at hc
    simp only [hc, Bool.false_eq_true, ↓reduceIte, List.filterMap_cons, List.getElem?_cons_zero,
      List.cons_append, List.nil_append, h]
  · rename_i hc
    simp only [Bool.not_eq_eq_eq_not, Bool.not_true, Bool.not_eq_false] at hc
    simp only [hc, ↓reduceIte, List.nil_append, h]

theorem elideSeq_getLast (t : List Point) : ∀ (prev nxt z : Point), t.getLast? = some z →
    z.on = false → (elideSeq prev t nxt).getLast? = some z := by
  induction t with
  | nil => intro prev nxt z h; simp at h
  | cons m rest ih =>
    intro prev nxt z h hz
    cases rest with
    | nil =>
      simp only [List.getLast?_singleton, Option.some.injEq] at h
      subst h
      simp [elideSeq, off_not_implicit _ _ _ hz]
    | cons r rest' =>
      rw [List.getLast?_cons_cons] at h
      have := ih m nxt z h hz
      simp only [elideSeq] at this ⊢
      rw [List.getLast?_append, this]
      simp

theorem elide_ne_nil (a : Point) (t : List Point) (ha : a.on = true) : elide (a :: t) ≠ [] := by
  rw [elide_eq_seq]
  cases hi : implicit3 (t.getLast?.getD a) a (t.head?.getD a) with
  | false => simp
  | true =>
    obtain ⟨_, _, h2off, _, _⟩ := implicit3_spec _ _ _ hi
    cases t with
    | nil => simp [ha] at h2off
    | cons p2 rest => simp [elideSeq, off_not_implicit _ _ _ (by simpa using h2off)]

/-- a glyf point as skrifa's unscaled 26.6 `ContourPoint` (`F26Dot6::from_i32`, on-curve bit only) -/
def toPt (p : Point) : Pt := ⟨64 * p.x, 64 * p.y, if p.on then 1 else 0⟩

/-- pending state of `to_path` after a point has been consumed -/
def stateOf (p : Point) : Pending := if p.on then .empty else .quad (toPt p)

def Bounded (p : Point) : Prop := inI16 p.x ∧ inI16 p.y

/-- index-free emission (indices only occur in error values) -/
def emitB (C : Coord) : Pending → List Pt → List Cmd × Pending
  | st, [] => ([], st)
  | st, p :: rest =>
    match emit C st 0 p with
    | .error _ => ([], st)
    | .ok (st', cs) => let r := emitB C st' rest; (cs ++ r.1, r.2)

def PlainState : Pending → Prop
  | .empty => True
  | .quad _ => True
  | _ => False

theorem emit_empty (C : Coord) (ix : Nat) (p : Point) :
    emit C .empty ix (toPt p) =
      .ok (stateOf p, if p.on then [.line (C.out (toPt p).x) (C.out (toPt p).y)] else []) := by
  obtain ⟨q0, q1, _, c1, _, _⟩ := flag_facts
  cases hp : p.on <;> simp [emit, toPt, stateOf, hp, q0, q1, c1]

theorem emit_quad (C : Coord) (q : Pt) (ix : Nat) (p : Point) :
    emit C (.quad q) ix (toPt p) =
      .ok (stateOf p, [.quad (C.out q.x) (C.out q.y)
        (C.out (if p.on then toPt p else q.midpoint C (toPt p)).x)
        (C.out (if p.on then toPt p else q.midpoint C (toPt p)).y)]) := by
  obtain ⟨q0, q1, _, c1, _, _⟩ := flag_facts
  cases hp : p.on <;> simp [emit, toPt, stateOf, hp, q0, q1, c1]

/-- whatever is pending, the step for a decoded point leaves the state that point determines -/
theorem emit_stateOf (C : Coord) (prev m : Point) (ix : Nat) :
    ∃ cs, emit C (stateOf prev) ix (toPt m) = .ok (stateOf m, cs) := by
  unfold stateOf
  split
  · exact ⟨_, emit_empty C ix m⟩
  · exact ⟨_, emit_quad C _ ix m⟩

/-- the midpoint `to_path` computes between two decoded points is exact when the true midpoint is a grid point -/
theorem midpoint_toPt (p0 p2 a : Point) (hb0 : Bounded p0) (hb2 : Bounded p2) (hx : p0.x + p2.x = 2 * a.x)
    (hy : p0.y + p2.y = 2 * a.y) :
    ((toPt p0).midpoint fixedCoord (toPt p2)).x = (toPt a).x ∧
    ((toPt p0).midpoint fixedCoord (toPt p2)).y = (toPt a).y := by
  simp only [Pt.midpoint, fixedCoord, toPt, mid_exact p0.x p2.x a.x hb0.1 hb2.1 hx,
    mid_exact p0.y p2.y a.y hb0.2 hb2.2 hy, and_self]

theorem emit_plain (C : Coord) (st : Pending) (hs : PlainState st) (ix : Nat) (p : Pt)
    (hf : p.flags = 0 ∨ p.flags = 1) :
    ∃ st' cs, emit C st ix p = .ok (st', cs) ∧ emit C st 0 p = .ok (st', cs) ∧ PlainState st' := by
  obtain ⟨q0, q1, c0, c1, _, _⟩ := flag_facts
  cases st with
  | empty =>
    rcases hf with h | h <;> simp [emit, h, q0, q1, c1, PlainState]
  | quad q =>
    rcases hf with h | h <;> simp [emit, h, q0, q1, c1, PlainState]
  | cubic _ => exact absurd hs (by simp [PlainState])
  | two _ _ => exact absurd hs (by simp [PlainState])

theorem emitMany_eq_emitB (C : Coord) (body : List (Nat × Pt)) :
    ∀ st, PlainState st → (∀ e ∈ body, e.2.flags = 0 ∨ e.2.flags = 1) →
    emitMany C st body = ((emitB C st (body.map (·.2))).1, .ok (emitB C st (body.map (·.2))).2)
    ∧ PlainState (emitB C st (body.map (·.2))).2 := by
  induction body with
  | nil => intro st hs _; simp [emitMany, emitB, hs]
  | cons e rest ih =>
    intro st hs hf
    obtain ⟨ix, p⟩ := e
    obtain ⟨st', cs, h1, h2, h3⟩ := emit_plain C st hs ix p (hf (ix, p) (by simp))
    have := ih st' h3 (fun e he => hf e (by simp [he]))
    simp only [emitMany, emitB, List.map_cons, h1, h2, this.1]
    exact ⟨trivial, this.2⟩

theorem toPt_flags (p : Point) : (toPt p).flags = 0 ∨ (toPt p).flags = 1 := by
  unfold toPt; cases p.on <;> simp

theorem enum_flags (l : List Point) (i : Nat) :
    ∀ e ∈ enumFrom i (l.map toPt), e.2.flags = 0 ∨ e.2.flags = 1 := by
  intro e he
  have : e.2 ∈ (enumFrom i (l.map toPt)).map (·.2) := List.mem_map_of_mem he
  rw [enumFrom_snd] at this
  obtain ⟨p, _, hp⟩ := List.mem_map.mp this
  rw [← hp]; exact toPt_flags p

theorem runContour_plain (start : Pt) (l : List Point) (i : Nat) :
    runContour fixedCoord start (enumFrom i (l.map toPt)) =
      (Cmd.move (fixedCoord.out start.x) (fixedCoord.out start.y)
          :: (emitB fixedCoord .empty (l.map toPt)).1
          ++ (finish fixedCoord (emitB fixedCoord .empty (l.map toPt)).2 start).1,
       (finish fixedCoord (emitB fixedCoord .empty (l.map toPt)).2 start).2) := by
  have h := (emitMany_eq_emitB fixedCoord (enumFrom i (l.map toPt)) .empty trivial (enum_flags l i)).1
  rw [enumFrom_snd] at h
  unfold runContour
  simp only [h]

theorem draw_on_start (a : Point) (ha : a.on = true) (l : List Point) (last : Pt) :
    contourToPath fixedCoord .freeType ((a :: l).map toPt) last =
      (Cmd.move (fixedCoord.out (toPt a).x) (fixedCoord.out (toPt a).y)
          :: (emitB fixedCoord .empty (l.map toPt)).1
          ++ (finish fixedCoord (emitB fixedCoord .empty (l.map toPt)).2 (toPt a)).1,
       (finish fixedCoord (emitB fixedCoord .empty (l.map toPt)).2 (toPt a)).2) := by
  obtain ⟨q0, q1, c0, c1, o0, o1⟩ := flag_facts
  have fa : (toPt a).flags = 1 := by simp [toPt, ha]
  simp only [List.map_cons, contourToPath, fa, c1, q1, Bool.false_eq_true, ↓reduceIte]
  exact runContour_plain (toPt a) l 1

theorem zipPts_map (l : List Point) :
    zipPts (l.map (fun p => (64 * p.x, 64 * p.y))) (l.map (fun p => if p.on then 1 else 0))
      = l.map toPt := by
  induction l with
  | nil => rfl
  | cons p ps ih => simp only [List.map_cons, zipPts, ih, toPt]

/-- a decoded point as `read_points_fast` returns it -/
def fastPt (p : Point) : Int × Int × Nat := (p.x, p.y, if p.on then 1 else 0)

/-- the slice `to_path` cuts out of the decoded arrays for a contour `c` that follows the points `A` -/
theorem contourPts_decoded (A c B : List Point) (hc : c ≠ []) :
    contourPts ((A ++ (c ++ B)).map (fun p => (64 * p.x, 64 * p.y)))
        ((A ++ (c ++ B)).map (fun p => if p.on then 1 else 0)) A.length (A.length + c.length - 1)
      = c.map toPt := by
  have hcl : 0 < c.length := List.length_pos_iff.mpr hc
  have hn : A.length + c.length - 1 - A.length + 1 = c.length := by omega
  rw [contourPts, hn, ← List.map_drop, ← List.map_drop, ← List.map_take, ← List.map_take,
    List.drop_left, List.take_left, zipPts_map]

theorem toPathGo_contours (cs : List (List Point)) :
    ∀ (A : List Point) (all : List Point) (ix : Nat), all = A ++ cs.flatten →
    (∀ c ∈ cs, c ≠ []) →
    (∀ c ∈ cs, (contourToPath fixedCoord .freeType (c.map toPt)
        ((c.map toPt).getLast?.getD ⟨0, 0, 0⟩)).2 = none) →
    toPathGo fixedCoord .freeType (all.map (fun p => (64 * p.x, 64 * p.y)))
        (all.map (fun p => if p.on then 1 else 0)) (endSpec A.length cs) ix A.length
      = (cs.flatMap (fun c => (contourToPath fixedCoord .freeType (c.map toPt)
            ((c.map toPt).getLast?.getD ⟨0, 0, 0⟩)).1), none) := by
  induction cs with
  | nil => intro A all ix _ _ _; rfl
  | cons c cs ih =>
    intro A all ix hall hne herr
    have hc := hne c List.mem_cons_self
    have hcl : 0 < c.length := List.length_pos_iff.mpr hc
    have hlen : all.length = A.length + (c.length + cs.flatten.length) := by
      rw [hall, List.flatten_cons, List.length_append, List.length_append]
    have hin : ¬ (A.length + c.length - 1 < A.length ∨ A.length + c.length - 1 ≥ all.length) ∧
        A.length + c.length - 1 + 1 = A.length + c.length := by omega
    obtain ⟨last, -, hl, heq⟩ := toPathGo_cons fixedCoord .freeType
      (all.map (fun p => (64 * p.x, 64 * p.y))) (all.map (fun p => if p.on then 1 else 0))
      (A.length + c.length - 1) (endSpec (A.length + c.length) cs) ix A.length
      (by rw [List.length_map]; exact hin.1) (by rw [List.length_map]; exact fun h => hin.1 (.inr h))
    have he := herr c List.mem_cons_self
    rw [hall, List.flatten_cons, contourPts_decoded A c _ hc] at hl heq
    rw [hl, Option.getD_some] at he
    rw [endSpec, hall, List.flatten_cons, heq, afterContour_ok he, hin.2, ← List.length_append,
      ih (A ++ c) _ (ix + 1) (List.append_assoc A c _).symm (fun x hx => hne x (List.mem_cons_of_mem c hx))
        (fun x hx => herr x (List.mem_cons_of_mem c hx)),
      List.flatMap_cons, hl, Option.getD_some]

/-- **the reader's midpoint insertion undoes the writer's elision**: consuming the elided point
list leaves `to_path` with exactly the same pen commands and pending state as the full list -/
theorem emitB_elideSeq (t : List Point) : ∀ (prev nxt : Point), nxt.on = true → Bounded prev →
    (∀ p ∈ t, Bounded p) →
    emitB fixedCoord (stateOf prev) ((elideSeq prev t nxt).map toPt)
      = emitB fixedCoord (stateOf prev) (t.map toPt) := by
  induction t with
  | nil => intro prev nxt _ _ _; rfl
  | cons m rest ih =>
    intro prev nxt hn hbp hb
    have ih' := ih m nxt hn (hb m (by simp)) fun p hp => hb p (by simp [hp])
    simp only [elideSeq]
    cases hi : implicit3 prev m (rest.head?.getD nxt) with
    | false =>
      -- m is kept: one identical step, then the induction hypothesis from `stateOf m`
      obtain ⟨cs, hcs⟩ := emit_stateOf fixedCoord prev m 0
      simp only [Bool.false_eq_true, ↓reduceIte, List.cons_append, List.nil_append, List.map_cons, emitB, hcs, ih']
    | true =>
      obtain ⟨hm1, hp0, hp2, hx, hy⟩ := implicit3_spec _ _ _ hi
      -- the successor exists (it is off-curve, `nxt` is on-curve) and is itself kept
      cases rest with
      | nil => simp only [List.head?_nil, Option.getD_none] at hp2; rw [hn] at hp2; cases hp2
      | cons p rest' =>
        simp only [List.head?_cons, Option.getD_some] at hp2 hx hy
        have hkeep : implicit3 m p (rest'.head?.getD nxt) = false := off_not_implicit _ _ _ hp2
        obtain ⟨mx, my⟩ := midpoint_toPt prev p m hbp (hb p (by simp)) hx hy
        have sprev : stateOf prev = .quad (toPt prev) := by simp [stateOf, hp0]
        have sm : stateOf m = .empty := by simp [stateOf, hm1]
        -- full list: the curve ends at `m`, then `p` is held back; elided list: the curve ends at the midpoint with `p`
        rw [sm] at ih'
        simp only [elideSeq, hkeep, Bool.false_eq_true, ↓reduceIte, List.cons_append, List.nil_append, List.map_cons,
          emitB, emit_empty, hp2] at ih' ⊢
        rw [sprev]
        simp only [emit_quad, emit_empty, hm1, hp2, sm, mx, my, Bool.false_eq_true, ↓reduceIte, List.nil_append]
        rw [congrArg Prod.fst ih', congrArg Prod.snd ih']

/-- an on-curve first point half-way between the last and the second point, both off the curve, may be left
out: the FreeType style then starts at their midpoint -/
theorem draw_implied_start (a p0 p2 : Point) (r : List Point) (ha : a.on = true) (h0 : p0.on = false)
    (h2 : p2.on = false) (hb0 : Bounded p0) (hb2 : Bounded p2) (hx : p0.x + p2.x = 2 * a.x)
    (hy : p0.y + p2.y = 2 * a.y) (last : Pt) :
    contourToPath fixedCoord .freeType ((p2 :: r).map toPt) (toPt p0)
      = contourToPath fixedCoord .freeType ((a :: p2 :: r).map toPt) last := by
  obtain ⟨q0, q1, c0, c1, o0, o1⟩ := flag_facts
  have f2 : (toPt p2).flags = 0 := by simp [toPt, h2]
  have f0 : (toPt p0).flags = 0 := by simp [toPt, h0]
  have hL : contourToPath fixedCoord .freeType ((p2 :: r).map toPt) (toPt p0)
      = runContour fixedCoord ((toPt p0).midpoint fixedCoord (toPt p2)) (enumFrom 0 ((p2 :: r).map toPt)) := by
    simp only [List.map_cons, contourToPath, f2, c0, q0, f0, o0, Bool.false_eq_true, ↓reduceIte]
  obtain ⟨sx, sy⟩ := midpoint_toPt p0 p2 a hb0 hb2 hx hy
  rw [hL, runContour_plain, draw_on_start a ha, finish_coords _ _ (toPt a) sx sy, sx, sy]

theorem draw_elided_eq (a : Point) (t : List Point) (ha : a.on = true)
    (hb : ∀ p ∈ a :: t, Bounded p) (d lastL : Pt) :
    contourToPath fixedCoord .freeType ((elide (a :: t)).map toPt)
        (((elide (a :: t)).map toPt).getLast?.getD d)
      = contourToPath fixedCoord .freeType ((a :: t).map toPt) lastL := by
  have hseq := emitB_elideSeq t a a ha (hb a (by simp)) (fun p hp => hb p (by simp [hp]))
  rw [show stateOf a = .empty by simp [stateOf, ha]] at hseq
  -- with its start point kept, the elided contour draws as the full one
  have hkept : ∀ last, contourToPath fixedCoord .freeType ((a :: elideSeq a t a).map toPt) last
      = contourToPath fixedCoord .freeType ((a :: t).map toPt) lastL := fun last => by
    rw [draw_on_start a ha, draw_on_start a ha, hseq]
  rw [elide_eq_seq]
  cases hi : implicit3 (t.getLast?.getD a) a (t.head?.getD a) with
  | false => exact hkept _
  | true =>
    -- the start point itself is implied: its neighbours are the (off-curve) last and second points
    obtain ⟨_, h0off, h2off, hx, hy⟩ := implicit3_spec _ _ _ hi
    simp only [↓reduceIte, List.nil_append]
    cases t with
    | nil => simp [ha] at h2off
    | cons p2 rest =>
      obtain ⟨p0, hp0⟩ : ∃ p0, (p2 :: rest).getLast? = some p0 :=
        ⟨_, List.getLast?_eq_some_getLast (List.cons_ne_nil _ _)⟩
      simp only [hp0, Option.getD_some, List.head?_cons] at h0off h2off hx hy
      have hE2 : elideSeq a (p2 :: rest) a = p2 :: elideSeq p2 rest a := by
        simp [elideSeq, off_not_implicit _ _ _ h2off]
      rw [List.getLast?_map, elideSeq_getLast (p2 :: rest) a a p0 hp0 h0off, Option.map_some,
        Option.getD_some, ← hkept lastL, hE2]
      exact draw_implied_start a p0 p2 _ ha h0off h2off
        (hb p0 (List.mem_cons_of_mem _ (List.mem_of_getLast? hp0))) (hb p2 (by simp)) hx hy lastL

/-- a line or quadratic segment of a path (end point last) -/
inductive Seg
  | line (x y : Int)
  | quad (cx cy x y : Int)
deriving DecidableEq, Repr

def Seg.el : Seg → El
  | .line x y => .line x y
  | .quad cx cy x y => .quad cx cy x y

/-- the contour points a segment appends (`line_to` / `quad_to`) -/
def Seg.pts : Seg → List Point
  | .line x y => [⟨x, y, true⟩]
  | .quad cx cy x y => [⟨cx, cy, false⟩, ⟨x, y, true⟩]

/-- the pen call that draws the segment, in unscaled 26.6 units -/
def Seg.cmd : Seg → Cmd
  | .line x y => .line (64 * x) (64 * y)
  | .quad cx cy x y => .quad (64 * cx) (64 * cy) (64 * x) (64 * y)

def Seg.Bounded : Seg → Prop
  | .line x y => inI16 x ∧ inI16 y
  | .quad cx cy x y => inI16 cx ∧ inI16 cy ∧ inI16 x ∧ inI16 y

theorem seg_pts_bounded (segs : List Seg) (hb : ∀ s ∈ segs, s.Bounded) :
    ∀ p ∈ segs.flatMap Seg.pts, Bounded p := by
  intro p hp
  obtain ⟨s, hs, hps⟩ := List.mem_flatMap.mp hp
  have := hb s hs
  cases s with
  | line x y =>
    simp only [Seg.pts, List.mem_cons, List.not_mem_nil, or_false] at hps
    subst hps; exact this
  | quad cx cy x y =>
    simp only [Seg.pts, List.mem_cons, List.not_mem_nil, or_false] at hps
    obtain ⟨h1, h2, h3, h4⟩ := this
    rcases hps with rfl | rfl
    · exact ⟨h1, h2⟩
    · exact ⟨h3, h4⟩

theorem emitB_segs (segs : List Seg) (hb : ∀ s ∈ segs, s.Bounded) (tail : List Pt) :
    emitB fixedCoord .empty ((segs.flatMap Seg.pts).map toPt ++ tail)
      = (segs.map Seg.cmd ++ (emitB fixedCoord .empty tail).1, (emitB fixedCoord .empty tail).2) := by
  obtain ⟨q0, q1, c0, c1, _, _⟩ := flag_facts
  induction segs with
  | nil => rfl
  | cons s rest ih =>
    have hs := hb s (by simp)
    have ih' := ih (fun x hx => hb x (by simp [hx]))
    cases s with
    | line x y =>
      obtain ⟨hx, hy⟩ := hs
      simp only [List.flatMap_cons, Seg.pts, List.cons_append, List.nil_append, List.map_cons, emitB, emit_empty,
        stateOf, ↓reduceIte, ih', Seg.cmd]
      simp only [toPt, out_id x hx, out_id y hy]
    | quad cx cy x y =>
      obtain ⟨h1, h2, hx, hy⟩ := hs
      simp only [List.flatMap_cons, Seg.pts, List.cons_append, List.nil_append, List.map_cons, emitB, emit_empty,
        emit_quad, stateOf, Bool.false_eq_true, ↓reduceIte, ih', Seg.cmd]
      simp only [toPt, out_id x hx, out_id y hy, out_id cx h1, out_id cy h2]

/-- the builder's points for `M s, segs…` after `Z` (`remove_last` when the last point repeats the
move point) -/
def closedPts (s : Point) (segs : List Seg) : List Point :=
  let P := s :: segs.flatMap Seg.pts
  if P.length > 1 ∧ P.getLast? = P.head? then P.dropLast else P

/-- the segments a closed contour is drawn with: a final straight line back to the start point is
left to the pen's `close` -/
def closeNorm (sx sy : Int) (segs : List Seg) : List Seg :=
  if segs.getLast? = some (.line sx sy) then segs.dropLast else segs

theorem closedPts_head (s : Point) (segs : List Seg) : ∃ t, closedPts s segs = s :: t ∧
    ∀ p ∈ t, p ∈ segs.flatMap Seg.pts := by
  unfold closedPts
  simp only []
  split
  · rename_i h
    cases hf : segs.flatMap Seg.pts with
    | nil => rw [hf] at h; simp at h
    | cons q qs =>
      refine ⟨(q :: qs).dropLast, by simp [List.dropLast_cons_of_ne_nil], ?_⟩
      intro p hp; exact List.dropLast_subset _ hp
  · exact ⟨_, rfl, fun p hp => hp⟩

theorem draw_segs_tail (sx sy : Int) (segs : List Seg) (hs : inI16 sx ∧ inI16 sy)
    (hb : ∀ s ∈ segs, s.Bounded) (tail : List Point) (last : Pt) :
    contourToPath fixedCoord .freeType ((⟨sx, sy, true⟩ :: (segs.flatMap Seg.pts ++ tail)).map toPt) last
      = (Cmd.move (64 * sx) (64 * sy) :: segs.map Seg.cmd ++ (emitB fixedCoord .empty (tail.map toPt)).1
          ++ (finish fixedCoord (emitB fixedCoord .empty (tail.map toPt)).2 (toPt ⟨sx, sy, true⟩)).1,
         (finish fixedCoord (emitB fixedCoord .empty (tail.map toPt)).2 (toPt ⟨sx, sy, true⟩)).2) := by
  rw [draw_on_start _ rfl, List.map_append, emitB_segs segs hb]
  simp only [toPt, out_id sx hs.1, out_id sy hs.2, List.append_assoc, List.cons_append]

theorem closedPts_concat (s : Point) (init : List Seg) (z : Seg) :
    closedPts s (init ++ [z]) =
      s :: (init.flatMap Seg.pts ++ if z.pts.getLast? = some s then z.pts.dropLast else z.pts) := by
  obtain ⟨w, hw⟩ : ∃ w, z.pts.getLast? = some w := by cases z <;> exact ⟨_, rfl⟩
  have hz : z.pts ≠ [] := fun h => by rw [h] at hw; cases hw
  have hP : s :: (init ++ [z]).flatMap Seg.pts = (s :: init.flatMap Seg.pts) ++ z.pts := by
    rw [List.flatMap_append, List.flatMap_singleton, List.cons_append]
  have hlen : ((s :: init.flatMap Seg.pts) ++ z.pts).length > 1 := by
    have := List.length_pos_iff.mpr hz
    rw [List.length_append, List.length_cons]; omega
  unfold closedPts
  simp only [hP, hlen, true_and, List.getLast?_append, hw, Option.some_or, List.head?_append, List.head?_cons,
    List.dropLast_append_of_ne_nil hz]
  by_cases he : some w = some s
  · rw [if_pos he, if_pos he]; rfl
  · rw [if_neg he, if_neg he]; rfl

theorem draw_full_contour (sx sy : Int) (segs : List Seg) (hs : inI16 sx ∧ inI16 sy)
    (hb : ∀ s ∈ segs, s.Bounded) (last : Pt) :
    contourToPath fixedCoord .freeType ((closedPts ⟨sx, sy, true⟩ segs).map toPt) last
      = (Cmd.move (64 * sx) (64 * sy) :: (closeNorm sx sy segs).map Seg.cmd ++ [Cmd.close], none) := by
  obtain ⟨q0, q1, c0, c1, o0, o1⟩ := flag_facts
  rcases List.eq_nil_or_concat segs with rfl | ⟨init, z, rfl⟩
  · -- a lone move point
    have := draw_segs_tail sx sy [] hs (by simp) [] last
    simpa [closedPts, closeNorm, emitB, finish] using this
  · rw [List.concat_eq_append] at hb ⊢
    have hbi : ∀ s ∈ init, s.Bounded := fun s h => hb s (by simp [h])
    rw [closedPts_concat]
    by_cases he : z.pts.getLast? = some ⟨sx, sy, true⟩
    · rw [if_pos he, draw_segs_tail sx sy init hs hbi]
      cases z with
      | line x y =>
        -- the line back to the start is left to `close`
        simp only [Seg.pts, List.getLast?_singleton, Option.some.injEq, Point.mk.injEq, and_true] at he
        obtain ⟨rfl, rfl⟩ := he
        simp [closeNorm, Seg.pts, emitB, finish]
      | quad cx cy x y =>
        -- the closing step draws the curve from its control point
        simp only [Seg.pts, List.getLast?_cons_cons, List.getLast?_singleton, Option.some.injEq, Point.mk.injEq,
          and_true] at he
        obtain ⟨rfl, rfl⟩ := he
        obtain ⟨h1, h2, _, _⟩ := hb _ (List.mem_append_right _ (List.mem_singleton_self _))
        simp [closeNorm, Seg.pts, emitB, finish, emit, toPt, q0, q1, c1, Seg.cmd,
          out_id cx h1, out_id cy h2, out_id x hs.1, out_id y hs.2]
    · have hN : closeNorm sx sy (init ++ [z]) = init ++ [z] := by
        unfold closeNorm
        rw [List.getLast?_append, List.getLast?_singleton, Option.some_or, if_neg]
        intro h; cases h
        exact he rfl
      rw [if_neg he, hN]
      have := draw_segs_tail sx sy (init ++ [z]) hs hb [] last
      simpa [emitB, finish, List.flatMap_append] using this

/-- a closed contour of a path: `M s`, line/quadratic segments, `Z` -/
structure PContour where
  sx : Int
  sy : Int
  segs : List Seg
deriving Repr

def PContour.els (c : PContour) : List El := .move c.sx c.sy :: c.segs.map Seg.el ++ [.close]

def PContour.pts (c : PContour) : List Point := closedPts ⟨c.sx, c.sy, true⟩ c.segs

def PContour.Bounded (c : PContour) : Prop := inI16 c.sx ∧ inI16 c.sy ∧ ∀ s ∈ c.segs, s.Bounded

theorem run_segs (segs : List Seg) : ∀ (d : List (List Point)) (P : List Point) (rest : List El),
    run ⟨d, some P⟩ (segs.map Seg.el ++ rest) = run ⟨d, some (P ++ segs.flatMap Seg.pts)⟩ rest := by
  induction segs with
  | nil => intro d P rest; simp
  | cons s ss ih =>
    intro d P rest
    cases s with
    | line x y =>
      simp only [List.map_cons, List.cons_append, run, Seg.el, step, List.flatMap_cons, Seg.pts]
      rw [ih]; simp
    | quad cx cy x y =>
      simp only [List.map_cons, List.cons_append, run, Seg.el, step, List.flatMap_cons, Seg.pts]
      rw [ih]; simp

def curList : Option (List Point) → List (List Point)
  | none => []
  | some c => [c]

theorem run_move (d : List (List Point)) (cur : Option (List Point)) (x y : Int) (rest : List El) :
    run ⟨d, cur⟩ (.move x y :: rest) = run ⟨d ++ curList cur, some [⟨x, y, true⟩]⟩ rest := by
  cases cur <;> simp only [run, step, curList, List.append_nil]

theorem run_contour (c : PContour) (d : List (List Point)) (cur : Option (List Point))
    (rest : List El) :
    run ⟨d, cur⟩ (c.els ++ rest) = run ⟨d ++ curList cur, some c.pts⟩ rest := by
  unfold PContour.els
  show run ⟨d, cur⟩ (.move c.sx c.sy :: ((c.segs.map Seg.el ++ [.close]) ++ rest)) = _
  rw [run_move, List.append_assoc, run_segs]
  simp only [List.cons_append, List.nil_append, run, step, PContour.pts, closedPts]
  by_cases hc : (({ x := c.sx, y := c.sy, on := true } : Point) :: List.flatMap Seg.pts c.segs).length > 1 ∧
      (({ x := c.sx, y := c.sy, on := true } : Point) :: List.flatMap Seg.pts c.segs).getLast? =
        (({ x := c.sx, y := c.sy, on := true } : Point) :: List.flatMap Seg.pts c.segs).head?
  · simp only [hc, and_self, ↓reduceIte]
  · simp only [hc, ↓reduceIte]

/-- all contours gathered by the element loop -/
def St.final (s : St) : List (List Point) := s.done ++ curList s.cur

theorem run_contours (cs : List PContour) : ∀ (d : List (List Point)) (cur : Option (List Point)),
    ∃ s', run ⟨d, cur⟩ (cs.flatMap PContour.els) = .ok s' ∧
      s'.final = d ++ curList cur ++ cs.map PContour.pts := by
  induction cs with
  | nil => intro d cur; exact ⟨⟨d, cur⟩, rfl, by simp [St.final]⟩
  | cons c cs ih =>
    intro d cur
    obtain ⟨s', h1, h2⟩ := ih (d ++ curList cur) (some c.pts)
    refine ⟨s', ?_, ?_⟩
    · rw [List.flatMap_cons, run_contour]; exact h1
    · rw [h2]; simp [curList]

theorem boxPts_segs (segs : List Seg) (rest : List El) :
    boxPts (segs.map Seg.el ++ rest) = (segs.flatMap Seg.pts).map (fun p => (p.x, p.y)) ++ boxPts rest := by
  induction segs with
  | nil => rfl
  | cons s ss ih =>
    cases s <;>
      simp only [List.map_cons, List.cons_append, Seg.el, boxPts, ih, List.flatMap_cons, Seg.pts,
        List.nil_append]

theorem boxPts_bounded (cs : List PContour) (hb : ∀ c ∈ cs, c.Bounded) :
    ∀ q ∈ boxPts (cs.flatMap PContour.els), inI16 q.1 ∧ inI16 q.2 := by
  induction cs with
  | nil => intro q hq; simp [boxPts] at hq
  | cons c cs ih =>
    obtain ⟨hx, hy, hs⟩ := hb c (by simp)
    intro q hq
    simp only [List.flatMap_cons, PContour.els, List.cons_append, List.append_assoc, boxPts, boxPts_segs,
      List.nil_append, List.mem_cons, List.mem_append, List.mem_map] at hq
    rcases hq with rfl | ⟨p, hp, rfl⟩ | hq
    · exact ⟨hx, hy⟩
    · exact seg_pts_bounded c.segs hs p hp
    · exact ih (fun x hx => hb x (by simp [hx])) q hq

theorem draw_path_contour (c : PContour) (hb : c.Bounded) :
    contourToPath fixedCoord .freeType ((elide c.pts).map toPt)
        (((elide c.pts).map toPt).getLast?.getD ⟨0, 0, 0⟩)
      = (Cmd.move (64 * c.sx) (64 * c.sy) :: (closeNorm c.sx c.sy c.segs).map Seg.cmd ++ [Cmd.close],
         none) := by
  obtain ⟨hx, hy, hs⟩ := hb
  obtain ⟨t, ht, hsub⟩ := closedPts_head ⟨c.sx, c.sy, true⟩ c.segs
  have hbt : ∀ p ∈ (⟨c.sx, c.sy, true⟩ : Point) :: t, Bounded p := by
    intro p hp
    simp only [List.mem_cons] at hp
    rcases hp with rfl | hp
    · exact ⟨hx, hy⟩
    · exact seg_pts_bounded c.segs hs p (hsub p hp)
  unfold PContour.pts
  rw [ht, draw_elided_eq ⟨c.sx, c.sy, true⟩ t rfl hbt ⟨0, 0, 0⟩ ⟨0, 0, 0⟩, ← ht]
  exact draw_full_contour c.sx c.sy c.segs ⟨hx, hy⟩ hs _

end FontVerif.GlyfPath
