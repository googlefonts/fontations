/-
The multi-axis tent scalar against its specification `tentFactors` (Lemmas/TentLemmas.lean): `err_step` says how the
error of an approximated product grows with one factor (used by the 16.16 and the f32 product theorems);
`scalarGo_cons_cases` is one iteration of the loop beside what `tentFactors` does; a leg of the tent as one formula
and its monotonicity.
-/
import FontVerif.Props.C11
import Mathlib.Tactic.Ring
import Mathlib.Tactic.Linarith
namespace FontVerif.C11
open FontVerif.Tent

/-- one more factor `n/d`: the error `k·Cc` of the later factors is not enlarged because `N/D ≤ 1`. -/
theorem err_step {r a a' n d N D k Cc : Int} (hn0 : 0 ≤ n) (hnd : n ≤ d) (hd : 0 < d)
    (hN0 : 0 ≤ N) (hND : N ≤ D) (hD : 0 < D) (hC : 0 ≤ Cc)
    (h1 : a' * d - a * n ≤ Cc * d) (h2 : -(Cc * d) ≤ a' * d - a * n)
    (h3 : r * D - a' * N ≤ k * Cc * D) (h4 : -(k * Cc * D) ≤ r * D - a' * N) :
    0 ≤ n * N ∧ n * N ≤ d * D ∧ 0 < d * D ∧
    r * (d * D) - a * (n * N) ≤ (k + 1) * Cc * (d * D) ∧
    -((k + 1) * Cc * (d * D)) ≤ r * (d * D) - a * (n * N) := by
  have e : r * (d * D) - a * (n * N) = d * (r * D - a' * N) + N * (a' * d - a * n) := by ring
  have hCd : N * (Cc * d) ≤ D * (Cc * d) := mul_le_mul_of_nonneg_right hND (mul_nonneg hC hd.le)
  refine ⟨mul_nonneg hn0 hN0, mul_le_mul hnd hND hN0 hd.le, mul_pos hd hD, ?_, ?_⟩
  · linarith [mul_le_mul_of_nonneg_left h3 hd.le, mul_le_mul_of_nonneg_left h1 hN0]
  · linarith [mul_le_mul_of_nonneg_left h4 hd.le, mul_le_mul_of_nonneg_left h2 hN0]

/-- one axis of the loop, next to what `tentFactors` lists for it: the axis is passed over, or the scalar is 0,
or the scalar is multiplied by a factor `n / d ≤ 1` (rounded) which `tentFactors` puts in front. -/
theorem scalarGo_cons_cases (s p e : Int) (rest : List (Int × Int × Int)) (coords : List Int)
    (ha : AxesOk ((s, p, e) :: rest)) (hc : CoordsOk coords) :
    (tentFactors ((s, p, e) :: rest) coords = tentFactors rest coords.tail ∧
      ∀ sc, 0 ≤ sc → sc ≤ 65536 →
        computeScalarGo sc ((s, p, e) :: rest) coords = computeScalarGo sc rest coords.tail) ∨
    (tentFactors ((s, p, e) :: rest) coords = none ∧
      ∀ sc, 0 ≤ sc → sc ≤ 65536 → computeScalarGo sc ((s, p, e) :: rest) coords = 0) ∨
    ∃ n d, 0 ≤ n ∧ n ≤ d ∧ 0 < d ∧ d ≤ 524288 ∧
      tentFactors ((s, p, e) :: rest) coords = (tentFactors rest coords.tail).map ((n, d) :: ·) ∧
      ∀ sc, 0 ≤ sc → sc ≤ 65536 →
        computeScalarGo sc ((s, p, e) :: rest) coords = computeScalarGo ((sc * n + d / 2) / d) rest coords.tail := by
  obtain ⟨hC, hS, hP, hE⟩ := operands_inF ha hc
  simp only [computeScalarGo, tentFactors]
  generalize Fixed.f2dot14ToFixed (coords.headD 0) = C at *
  generalize Fixed.f2dot14ToFixed s = S at *
  generalize Fixed.f2dot14ToFixed p = P at *
  generalize Fixed.f2dot14ToFixed e = E at *
  have step := fun sc h0 h1 => axisStep_eq sc C S P E hC hS hP hE h0 h1
  unfold inF at hC hS hP hE
  by_cases hi : Ignored S P E
  · exact .inl ⟨if_pos hi, fun sc h0 h1 => by rw [step sc h0 h1, if_pos hi]⟩
  by_cases ho : C < S ∨ C > E
  · exact .inr (.inl ⟨by rw [if_neg hi, if_pos ho], fun sc h0 h1 => by rw [step sc h0 h1, if_neg hi, if_pos ho]⟩)
  by_cases hpk : C = P
  · exact .inl ⟨by rw [if_neg hi, if_neg ho, if_pos hpk],
      fun sc h0 h1 => by rw [step sc h0 h1, if_neg hi, if_neg ho, if_pos hpk]⟩
  have hi' : ¬ (S > P ∨ P > E ∨ P = 0 ∨ (S < 0 ∧ E > 0)) := hi
  by_cases hlt : C < P
  · exact .inr (.inr ⟨C - S, P - S, by omega, by omega, by omega, by omega,
      by rw [if_neg hi, if_neg ho, if_neg hpk, if_pos hlt],
      fun sc h0 h1 => by rw [step sc h0 h1, if_neg hi, if_neg ho, if_neg hpk, if_pos hlt]⟩)
  · exact .inr (.inr ⟨E - C, E - P, by omega, by omega, by omega, by omega,
      by rw [if_neg hi, if_neg ho, if_neg hpk, if_neg hlt],
      fun sc h0 h1 => by rw [step sc h0 h1, if_neg hi, if_neg ho, if_neg hpk, if_neg hlt]⟩)

/-- the rising leg as one formula, peak included (there the quotient is `sc` itself). -/
theorem axisStep_up (sc c s p e : Int) (hc : inF c) (hs : inF s) (hp : inF p) (he : inF e)
    (hs0 : 0 ≤ sc) (hs1 : sc ≤ 65536) (hi : ¬ Ignored s p e) (hsp : s < p) (h1 : s ≤ c) (h2 : c ≤ p) :
    axisStep sc c s p e = some ((sc * (c - s) + (p - s) / 2) / (p - s)) := by
  rcases Int.lt_or_eq_of_le h2 with h | rfl
  · rw [axisStep_eq sc c s p e hc hs hp he hs0 hs1, if_neg hi,
      if_neg (by unfold Ignored at hi; omega), if_neg (by omega), if_pos h]
  · rw [axisStep_peak, Int.mul_comm, rdiv_mul_self _ (by omega)]

theorem axisStep_down (sc c s p e : Int) (hc : inF c) (hs : inF s) (hp : inF p) (he : inF e)
    (hs0 : 0 ≤ sc) (hs1 : sc ≤ 65536) (hi : ¬ Ignored s p e) (hpe : p < e) (h1 : p ≤ c) (h2 : c ≤ e) :
    axisStep sc c s p e = some ((sc * (e - c) + (e - p) / 2) / (e - p)) := by
  rcases Int.lt_or_eq_of_le h1 with h | rfl
  · rw [axisStep_eq sc c s p e hc hs hp he hs0 hs1, if_neg hi,
      if_neg (by unfold Ignored at hi; omega), if_neg (by omega), if_neg (by omega)]
  · rw [axisStep_peak, Int.mul_comm, rdiv_mul_self _ (by omega)]

theorem axisStep_mono_up (sc c1 c2 s p e : Int) (hc1 : inF c1) (hc2 : inF c2) (hs : inF s) (hp : inF p)
    (he : inF e) (hs0 : 0 ≤ sc) (hs1 : sc ≤ 65536) (hi : ¬ Ignored s p e)
    (h1 : s ≤ c1) (h12 : c1 ≤ c2) (h2 : c2 ≤ p) :
    ∃ r1 r2, axisStep sc c1 s p e = some r1 ∧ axisStep sc c2 s p e = some r2 ∧
      0 ≤ r1 ∧ r1 ≤ r2 ∧ r2 ≤ sc := by
  by_cases hsp : s = p
  · obtain rfl : c1 = p := by omega
    obtain rfl : c2 = c1 := by omega
    exact ⟨sc, sc, axisStep_peak .., axisStep_peak .., hs0, Int.le_refl _, Int.le_refl _⟩
  rw [axisStep_up sc c1 s p e hc1 hs hp he hs0 hs1 hi (by omega) h1 (by omega),
    axisStep_up sc c2 s p e hc2 hs hp he hs0 hs1 hi (by omega) (by omega) h2]
  exact ⟨_, _, rfl, rfl, (rdiv_between hs0 (by omega) (by omega) (by omega)).1,
    rdiv_mono (by omega) (Int.mul_le_mul_of_nonneg_left (by omega) hs0),
    (rdiv_between hs0 (by omega) (by omega) (by omega)).2⟩

theorem axisStep_mono_down (sc c1 c2 s p e : Int) (hc1 : inF c1) (hc2 : inF c2) (hs : inF s) (hp : inF p)
    (he : inF e) (hs0 : 0 ≤ sc) (hs1 : sc ≤ 65536) (hi : ¬ Ignored s p e)
    (h1 : p ≤ c1) (h12 : c1 ≤ c2) (h2 : c2 ≤ e) :
    ∃ r1 r2, axisStep sc c1 s p e = some r1 ∧ axisStep sc c2 s p e = some r2 ∧
      0 ≤ r2 ∧ r2 ≤ r1 ∧ r1 ≤ sc := by
  by_cases hpe : p = e
  · obtain rfl : c2 = p := by omega
    obtain rfl : c1 = c2 := by omega
    exact ⟨sc, sc, axisStep_peak .., axisStep_peak .., hs0, Int.le_refl _, Int.le_refl _⟩
  rw [axisStep_down sc c1 s p e hc1 hs hp he hs0 hs1 hi (by omega) h1 (by omega),
    axisStep_down sc c2 s p e hc2 hs hp he hs0 hs1 hi (by omega) (by omega) h2]
  exact ⟨_, _, rfl, rfl, (rdiv_between hs0 (by omega) (by omega) (by omega)).1,
    rdiv_mono (by omega) (Int.mul_le_mul_of_nonneg_left (by omega) hs0),
    (rdiv_between hs0 (by omega) (by omega) (by omega)).2⟩

end FontVerif.C11
