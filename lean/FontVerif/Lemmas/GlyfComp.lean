/-
C09: composite glyph components (flags word in four disjoint masks, anchors, transforms) through the two component
iterators of read-fonts; then `GlyfLocaBuilder` / `Loca::get_glyf` (`build_spec`, `getGlyf_built`, `offs_props`) and
the two loca formats (`chunks4_be32`, `chunks2_half`).
-/
import FontVerif.Lemmas.GlyfBytes
namespace FontVerif.Glyf

def Anchor.Valid : Anchor → Prop
  | .offset x y => inI16 x ∧ inI16 y
  | .point b c => b < 65536 ∧ c < 65536

def Transform.Valid (t : Transform) : Prop := inI16 t.xx ∧ inI16 t.yx ∧ inI16 t.xy ∧ inI16 t.yy

def Component.Valid (c : Component) : Prop := c.glyph < 65536 ∧ c.anchor.Valid ∧ c.transform.Valid

theorem anchor_flags_mem (a : Anchor) : a.computeFlags ∈ [0, 1, 2, 3] := by
  cases a with
  | offset x y => simp only [Anchor.computeFlags]; split <;> decide
  | point b c => simp only [Anchor.computeFlags]; split <;> decide

theorem Transform.computeFlags_cases (t : Transform) :
    t.computeFlags = HAVE_2X2 ∨
    (t.computeFlags = HAVE_XY_SCALE ∧ t = ⟨t.xx, 0, 0, t.yy⟩) ∨
    (t.computeFlags = HAVE_SCALE ∧ t = ⟨t.xx, 0, 0, t.xx⟩) ∨
    (t.computeFlags = 0 ∧ t = ⟨16384, 0, 0, 16384⟩) := by
  obtain ⟨xx, yx, xy, yy⟩ := t
  simp only [Transform.computeFlags, Transform.mk.injEq, true_and, and_true]
  split
  · exact .inl rfl
  · split
    · exact .inr (.inl ⟨rfl, by omega⟩)
    · split
      · exact .inr (.inr (.inl ⟨rfl, by omega⟩))
      · exact .inr (.inr (.inr ⟨rfl, by omega⟩))

theorem transform_flags_mem (t : Transform) : t.computeFlags ∈ [0, 8, 0x40, 0x80] := by
  rcases Transform.computeFlags_cases t with h | ⟨h, _⟩ | ⟨h, _⟩ | ⟨h, _⟩ <;> rw [h] <;> decide

theorem readU16_be16 (n : Nat) (h : n < 65536) (rest : List Nat) :
    readU16 (be16 (n : Int) ++ rest) = (some n, rest) := by
  rw [be16_nat n h]
  simp only [List.cons_append, List.nil_append, readU16]
  congr 2; omega

theorem readI8_byte (x : Int) (h : -128 ≤ x ∧ x < 128) (rest : List Nat) :
    readI8 (i8Byte x :: rest) = (some x, rest) := by
  have e : wrapI8 ((i8Byte x : Nat) : Int) = x := by
    unfold i8Byte wrapI8
    simp only []
    split <;> omega
  simp only [readI8, e]

theorem readAnchor_bytes (a : Anchor) (hv : a.Valid) (rest : List Nat) :
    readAnchor (hasBit a.computeFlags ARGS_XY) (hasBit a.computeFlags ARG_WORDS) (a.bytes ++ rest)
      = some (a, rest) := by
  cases a with
  | offset x y =>
    obtain ⟨hx, hy⟩ := hv
    unfold Anchor.bytes
    simp only [Anchor.computeFlags]
    split
    · have e1 : hasBit (ARGS_XY ||| ARG_WORDS) ARGS_XY = true := by decide
      have e2 : hasBit (ARGS_XY ||| ARG_WORDS) ARG_WORDS = true := by decide
      simp only [e1, e2, ↓reduceIte, readAnchor, List.append_assoc, readI16_be16 x hx,
        readI16_be16 y hy]
    · rename_i hc
      have e1 : hasBit (ARGS_XY ||| 0) ARGS_XY = true := by decide
      have e2 : hasBit (ARGS_XY ||| 0) ARG_WORDS = false := by decide
      have hx8 : -128 ≤ x ∧ x < 128 := by omega
      have hy8 : -128 ≤ y ∧ y < 128 := by omega
      simp only [e1, e2, Bool.false_eq_true, ↓reduceIte, readAnchor, List.cons_append,
        List.nil_append, readI8_byte x hx8, readI8_byte y hy8]
  | point b c =>
    obtain ⟨hb, hc⟩ := hv
    unfold Anchor.bytes
    simp only [Anchor.computeFlags]
    split
    · have e1 : hasBit ARG_WORDS ARGS_XY = false := by decide
      have e2 : hasBit ARG_WORDS ARG_WORDS = true := by decide
      simp only [e1, e2, ↓reduceIte, readAnchor, List.append_assoc, readU16_be16 b hb,
        readU16_be16 c hc]
    · rename_i hcnd
      have e1 : hasBit 0 ARGS_XY = false := by decide
      have e2 : hasBit 0 ARG_WORDS = false := by decide
      have hb8 : b % 256 = b := by omega
      have hc8 : c % 256 = c := by omega
      simp only [e1, e2, Bool.false_eq_true, ↓reduceIte, readAnchor, List.cons_append,
        List.nil_append, readU8, hb8, hc8]

theorem readTransform_bytes (t : Transform) (hv : t.Valid) (F : Nat) (rest : List Nat)
    (h1 : hasBit F HAVE_SCALE = (t.computeFlags == 8))
    (h2 : hasBit F HAVE_XY_SCALE = (t.computeFlags == 0x40))
    (h3 : hasBit F HAVE_2X2 = (t.computeFlags == 0x80)) :
    readTransform F (t.bytes ++ rest) = some (t, rest) := by
  obtain ⟨v1, v2, v3, v4⟩ := hv
  unfold readTransform Transform.bytes
  rw [h1, h2, h3]
  -- in each shape the flag tests are closed terms, and the reader rebuilds the fields left out
  rcases Transform.computeFlags_cases t with hf | ⟨hf, ht⟩ | ⟨hf, ht⟩ | ⟨hf, ht⟩
  all_goals rw [hf]
  · simp only [show (HAVE_2X2 == 8) = false from rfl, show (HAVE_2X2 == 0x40) = false from rfl,
      show (HAVE_2X2 == 0x80) = true from rfl, show hasBit HAVE_2X2 HAVE_2X2 = true from rfl,
      Bool.false_eq_true, ↓reduceIte, List.append_assoc,
      readI16_be16 _ v1, readI16_be16 _ v2, readI16_be16 _ v3, readI16_be16 _ v4]
  · simp only [show (HAVE_XY_SCALE == 8) = false from rfl,
      show (HAVE_XY_SCALE == 0x40) = true from rfl,
      show hasBit HAVE_XY_SCALE HAVE_2X2 = false from rfl,
      show hasBit HAVE_XY_SCALE HAVE_XY_SCALE = true from rfl,
      Bool.false_eq_true, ↓reduceIte, List.append_assoc, readI16_be16 _ v1, readI16_be16 _ v4]
    rw [← ht]
  · simp only [show (HAVE_SCALE == 8) = true from rfl,
      show hasBit HAVE_SCALE HAVE_2X2 = false from rfl,
      show hasBit HAVE_SCALE HAVE_XY_SCALE = false from rfl,
      show hasBit HAVE_SCALE HAVE_SCALE = true from rfl,
      Bool.false_eq_true, ↓reduceIte, readI16_be16 _ v1]
    rw [← ht]
  · simp only [show ((0 : Nat) == 8) = false from rfl, show ((0 : Nat) == 0x40) = false from rfl,
      show ((0 : Nat) == 0x80) = false from rfl, show hasBit 0 HAVE_2X2 = false from rfl,
      show hasBit 0 HAVE_XY_SCALE = false from rfl, show hasBit 0 HAVE_SCALE = false from rfl,
      Bool.false_eq_true, ↓reduceIte, List.nil_append]
    rw [← ht]

/-- the flags word `Component::write_into` writes -/
def Component.word (c : Component) (e : Nat) : Nat := c.computeFlag ||| e

/-- what `ComponentIter` yields for a written component -/
def Component.read (c : Component) (e : Nat) : RComponent := ⟨c.word e, c.glyph, c.anchor, c.transform⟩

theorem hasBit_of_mask {x M : Nat} (hx : x &&& M = x) {m : Nat} (hm : M &&& m = 0) :
    hasBit x m = false := by
  rw [hasBit, ← hx, Nat.and_assoc, hm, Nat.and_zero]; rfl

theorem and_of_mask {x M : Nat} (hx : x &&& M = x) {A : Nat} (hm : M &&& A = M) : x &&& A = x := by
  rw [← hx, Nat.and_assoc, hm]

/-! The four parts of a flags word — anchor flags, transform flag, user flags, extra flag — live in
the pairwise disjoint masks 3, 0xC8, 0x1E04, 0x120. -/

theorem anchor_flags_mask : ∀ a ∈ [0, 1, 2, 3], a &&& 3 = a := by decide

theorem transform_flags_tests : ∀ t ∈ [0, 8, 0x40, 0x80], t &&& 0xC8 = t ∧
    hasBit t HAVE_SCALE = (t == 8) ∧ hasBit t HAVE_XY_SCALE = (t == 0x40) ∧
    hasBit t HAVE_2X2 = (t == 0x80) := by decide

theorem extra_flags_tests : ∀ e ∈ [0, 0x20, 0x100], e &&& 0x120 = e ∧
    hasBit e MORE_COMPONENTS = (e == 0x20) ∧ hasBit e HAVE_INSTR = (e == 0x100) := by decide

theorem bits_mask (f : ComponentFlags) : f.bits &&& 0x1E04 = f.bits := by
  obtain ⟨r, u, s, n, o⟩ := f
  revert r u s n o; decide

theorem ofBits_bits (f : ComponentFlags) : ComponentFlags.ofBits f.bits = f := by
  obtain ⟨r, u, s, n, o⟩ := f
  revert r u s n o; decide

theorem word_facts (c : Component) (e : Nat) (he : e ∈ [0, 0x20, 0x100]) :
    c.word e &&& COMPOSITE_ALL = c.word e ∧ c.word e < 65536
    ∧ hasBit (c.word e) ARG_WORDS = hasBit c.anchor.computeFlags ARG_WORDS
    ∧ hasBit (c.word e) ARGS_XY = hasBit c.anchor.computeFlags ARGS_XY
    ∧ hasBit (c.word e) HAVE_SCALE = (c.transform.computeFlags == 8)
    ∧ hasBit (c.word e) HAVE_XY_SCALE = (c.transform.computeFlags == 0x40)
    ∧ hasBit (c.word e) HAVE_2X2 = (c.transform.computeFlags == 0x80)
    ∧ hasBit (c.word e) MORE_COMPONENTS = (e == 0x20)
    ∧ hasBit (c.word e) HAVE_INSTR = (e == 0x100)
    ∧ ComponentFlags.ofBits (c.word e) = c.flags := by
  have hA := anchor_flags_mask _ (anchor_flags_mem c.anchor)
  obtain ⟨hT, t1, t2, t3⟩ := transform_flags_tests _ (transform_flags_mem c.transform)
  obtain ⟨hE, e1, e2⟩ := extra_flags_tests e he
  have hB := bits_mask c.flags
  have hall : c.word e &&& COMPOSITE_ALL = c.word e := by
    simp only [Component.word, Component.computeFlag, Nat.and_or_distrib_right,
      and_of_mask hA, and_of_mask hT, and_of_mask hB, and_of_mask hE, COMPOSITE_ALL, Nat.reduceAnd]
  refine ⟨hall, Nat.lt_of_le_of_lt (hall ▸ Nat.and_le_right) (by decide), ?_⟩
  -- a test of one part's bit sees only that part
  simp +decide only [Component.word, Component.computeFlag, ComponentFlags.ofBits, hasBit_or,
    t1, t2, t3, e1, e2, hasBit_of_mask hA, hasBit_of_mask hT, hasBit_of_mask hB, hasBit_of_mask hE,
    Bool.or_false, Bool.false_or, true_and]
  exact ofBits_bits c.flags

theorem readComponent_bytes (c : Component) (hv : c.Valid) (e : Nat) (he : e ∈ [0, 0x20, 0x100])
    (rest : List Nat) : readComponent (c.bytes e ++ rest) = some (c.read e, rest) := by
  obtain ⟨hg, ha, ht⟩ := hv
  obtain ⟨f1, f2, f3, f4, f5, f6, f7, _, _, _⟩ := word_facts c e he
  unfold readComponent Component.bytes
  have : (c.computeFlag ||| e) = c.word e := rfl
  rw [this]
  simp only [List.append_assoc, readU16_be16 _ f2, readU16_be16 _ hg, f1, f3, f4,
    readAnchor_bytes c.anchor ha, readTransform_bytes c.transform ht (c.word e) rest f5 f6 f7]
  rfl

/-- what `components()` yields for the written component list (mirror of `componentsBytes`) -/
def expectedComps (hi : Bool) : List Component → List RComponent
  | [] => []
  | [last] => [last.read (if hi then HAVE_INSTR else 0)]
  | c :: c2 :: cs => c.read MORE_COMPONENTS :: expectedComps hi (c2 :: cs)

theorem lastExtra_mem (hi : Bool) : (if hi then HAVE_INSTR else 0) ∈ [0, 0x20, 0x100] := by
  cases hi <;> decide

theorem word_last_more (c : Component) (hi : Bool) :
    hasBit (c.word (if hi then HAVE_INSTR else 0)) MORE_COMPONENTS = false := by
  rw [(word_facts c _ (lastExtra_mem hi)).2.2.2.2.2.2.2.1]; cases hi <;> decide

theorem word_more_more (c : Component) : hasBit (c.word MORE_COMPONENTS) MORE_COMPONENTS = true := by
  rw [(word_facts c _ (by decide)).2.2.2.2.2.2.2.1]; decide

theorem readComponents_bytes (hi : Bool) (cs : List Component) :
    cs ≠ [] → (∀ c ∈ cs, c.Valid) → ∀ (fuel : Nat) (rest : List Nat), cs.length ≤ fuel →
    readComponents fuel (componentsBytes hi cs ++ rest) = expectedComps hi cs := by
  induction cs with
  | nil => intro h; exact absurd rfl h
  | cons c cs ih =>
    intro _ hv fuel rest hf
    have hc := hv c (by simp)
    obtain ⟨fuel', rfl⟩ : ∃ m, fuel = m + 1 := ⟨fuel - 1, by simp at hf; omega⟩
    cases cs with
    | nil =>
      have hm := lastExtra_mem hi
      simp only [componentsBytes, expectedComps, readComponents,
        readComponent_bytes c hc _ hm rest]
      have : hasBit (c.read (if hi then HAVE_INSTR else 0)).flags MORE_COMPONENTS = false :=
        word_last_more c hi
      simp only [this, Bool.false_eq_true, ↓reduceIte]
    | cons c2 cs2 =>
      have hm : MORE_COMPONENTS ∈ [0, 0x20, 0x100] := by decide
      simp only [componentsBytes, expectedComps, readComponents, List.append_assoc,
        readComponent_bytes c hc _ hm]
      have : hasBit (c.read MORE_COMPONENTS).flags MORE_COMPONENTS = true := word_more_more c
      simp only [this, ↓reduceIte]
      rw [ih (by simp) (fun x hx => hv x (by simp [hx])) fuel' rest (by simp at hf ⊢; omega)]

theorem anchor_bytes_len (a : Anchor) :
    a.bytes.length = if hasBit a.computeFlags ARG_WORDS then 4 else 2 := by
  cases a <;> simp only [Anchor.bytes] <;> split <;> simp [be16_length]

theorem transform_bytes_len (t : Transform) :
    t.bytes.length = if t.computeFlags == 8 then 2 else if t.computeFlags == 0x40 then 4
      else if t.computeFlags == 0x80 then 8 else 0 := by
  have hm := transform_flags_mem t
  unfold Transform.bytes
  generalize t.computeFlags = f at hm ⊢
  simp only [List.mem_cons, List.not_mem_nil, or_false] at hm
  rcases hm with rfl | rfl | rfl | rfl <;> simp [hasBit, HAVE_2X2, HAVE_XY_SCALE, HAVE_SCALE, be16_length]

theorem comp_bytes_len (c : Component) (e : Nat) (he : e ∈ [0, 0x20, 0x100]) :
    (c.bytes e).length = 4 + (if hasBit (c.word e) ARG_WORDS then 4 else 2)
      + (if hasBit (c.word e) HAVE_SCALE then 2 else if hasBit (c.word e) HAVE_XY_SCALE then 4
         else if hasBit (c.word e) HAVE_2X2 then 8 else 0) := by
  obtain ⟨_, _, f3, _, f5, f6, f7, _, _, _⟩ := word_facts c e he
  rw [f3, f5, f6, f7]
  simp only [Component.bytes, List.length_append, be16_length, anchor_bytes_len, transform_bytes_len]

/-- flags word of the last written component -/
def lastWord (hi : Bool) : List Component → Nat
  | [] => 0
  | [last] => last.word (if hi then HAVE_INSTR else 0)
  | _ :: c2 :: cs => lastWord hi (c2 :: cs)

theorem skip_step (c : Component) (hv : c.Valid) (e : Nat) (he : e ∈ [0, 0x20, 0x100])
    (pre rest : List Nat) :
    u16At (pre ++ (c.bytes e ++ rest)) pre.length = some (c.word e) ∧
    u16At (pre ++ (c.bytes e ++ rest)) (pre.length + 2) = some c.glyph :=
  ⟨u16At_at _ pre (be16 c.glyph ++ c.anchor.bytes ++ c.transform.bytes ++ rest) (c.word e) _
      (word_facts c e he).2.1 rfl (by simp only [Component.bytes, Component.word, List.append_assoc]),
    u16At_at _ (pre ++ be16 ((c.word e : Nat) : Int)) (c.anchor.bytes ++ c.transform.bytes ++ rest)
      c.glyph _ hv.1 (by rw [List.length_append, be16_length])
      (by simp only [Component.bytes, Component.word, List.append_assoc])⟩

/-- one turn of `ComponentGlyphIdFlagsIter::next` over a written component: the cursor moves past exactly its bytes -/
theorem skipComponents_step (c : Component) (hv : c.Valid) (e : Nat) (he : e ∈ [0, 0x20, 0x100])
    (fuel : Nat) (pre rest : List Nat) (count lf : Nat) :
    skipComponents (fuel + 1) (pre ++ (c.bytes e ++ rest)) pre.length count lf =
      if hasBit (c.word e) MORE_COMPONENTS then
        skipComponents fuel (pre ++ (c.bytes e ++ rest)) (pre ++ c.bytes e).length (count + 1) (c.word e)
      else (count + 1, c.word e, (pre ++ c.bytes e).length) := by
  obtain ⟨st1, st2⟩ := skip_step c hv e he pre rest
  rw [List.length_append, comp_bytes_len c e he, skipComponents, st1, st2]
  simp only [(word_facts c e he).1, Nat.add_assoc]

theorem skipComponents_bytes (hi : Bool) (cs : List Component) :
    cs ≠ [] → (∀ c ∈ cs, c.Valid) → ∀ (fuel : Nat) (pre rest : List Nat) (count lf : Nat),
    cs.length ≤ fuel →
    skipComponents fuel (pre ++ (componentsBytes hi cs ++ rest)) pre.length count lf
      = (count + cs.length, lastWord hi cs, pre.length + (componentsBytes hi cs).length) := by
  induction cs with
  | nil => intro h; exact absurd rfl h
  | cons c cs ih =>
    intro _ hv fuel pre rest count lf hf
    have hc := hv c List.mem_cons_self
    obtain ⟨fuel', rfl⟩ : ∃ m, fuel = m + 1 := ⟨fuel - 1, by simp at hf; omega⟩
    cases cs with
    | nil =>
      rw [componentsBytes, skipComponents_step c hc _ (lastExtra_mem hi), word_last_more,
        if_neg Bool.false_ne_true, List.length_append]
      rfl
    | cons c2 cs2 =>
      have e1 : componentsBytes hi (c :: c2 :: cs2) = c.bytes MORE_COMPONENTS ++
          componentsBytes hi (c2 :: cs2) := rfl
      rw [e1, List.append_assoc, skipComponents_step c hc _ (by decide), word_more_more, if_pos rfl,
        ← List.append_assoc pre,
        ih (List.cons_ne_nil _ _) (fun x hx => hv x (List.mem_cons_of_mem c hx)) fuel'
          (pre ++ c.bytes MORE_COMPONENTS) rest (count + 1) _ (Nat.le_of_succ_le_succ hf)]
      simp only [lastWord, List.length_append, List.length_cons, Nat.add_assoc, Nat.add_comm 1]

theorem comps_len_ge (hi : Bool) (cs : List Component) :
    cs.length ≤ (componentsBytes hi cs).length := by
  induction cs with
  | nil => simp [componentsBytes]
  | cons c cs ih =>
    cases cs with
    | nil =>
      have := comp_bytes_len c _ (lastExtra_mem hi)
      simp only [componentsBytes, List.length_cons, List.length_nil]; omega
    | cons c2 cs2 =>
      have := comp_bytes_len c MORE_COMPONENTS (by decide)
      have e1 : componentsBytes hi (c :: c2 :: cs2) = c.bytes MORE_COMPONENTS ++
          componentsBytes hi (c2 :: cs2) := rfl
      rw [e1, List.length_append]
      simp only [List.length_cons] at ih ⊢; omega

theorem lastWord_instr (hi : Bool) (cs : List Component) (h : cs ≠ []) :
    hasBit (lastWord hi cs) HAVE_INSTR = hi := by
  induction cs with
  | nil => exact absurd rfl h
  | cons c cs ih =>
    cases cs with
    | nil =>
      have wf := word_facts c _ (lastExtra_mem hi)
      simp only [lastWord]
      rw [wf.2.2.2.2.2.2.2.2.1]; cases hi <;> decide
    | cons c2 cs2 => simp only [lastWord]; exact ih (by simp)

theorem countAndInstructions_bytes (cs : List Component) (instr pad : List Nat)
    (hne : cs ≠ []) (hv : ∀ c ∈ cs, c.Valid) (hil : instr.length < 65536) :
    countAndInstructions (componentsBytes (!instr.isEmpty) cs
        ++ ((if !instr.isEmpty then be16 (instr.length : Int) ++ instr else []) ++ pad))
      = (cs.length, if !instr.isEmpty then some instr else none) := by
  generalize hhi : (!instr.isEmpty) = hi
  have hlen := comps_len_ge hi cs
  have hs := skipComponents_bytes hi cs hne hv
    ((componentsBytes hi cs ++ ((if hi then be16 (instr.length : Int) ++ instr else []) ++ pad)).length + 1)
    [] ((if hi then be16 (instr.length : Int) ++ instr else []) ++ pad) 0 0
    (by simp only [List.length_append]; omega)
  simp only [List.nil_append, List.length_nil, Nat.zero_add] at hs
  unfold countAndInstructions
  simp only []
  rw [hs]
  simp only [lastWord_instr hi cs hne]
  cases hi with
  | false => simp
  | true =>
    simp only [↓reduceIte, List.append_assoc]
    rw [u16At_at (componentsBytes true cs ++ (be16 (instr.length : Int) ++ (instr ++ pad)))
      (componentsBytes true cs) (instr ++ pad) instr.length _ hil rfl rfl]
    simp only []
    have hl : (componentsBytes true cs).length + 2 + instr.length ≤
        (componentsBytes true cs ++ (be16 (instr.length : Int) ++ (instr ++ pad))).length := by
      simp only [List.length_append, be16_length]; omega
    simp only [hl, ↓reduceIte]
    have d : componentsBytes true cs ++ (be16 (instr.length : Int) ++ (instr ++ pad))
        = (componentsBytes true cs ++ be16 (instr.length : Int)) ++ (instr ++ pad) := by
      simp only [List.append_assoc]
    rw [d, List.drop_left' (by simp only [List.length_append, be16_length]), List.take_left]

theorem expected_proj (hi : Bool) (cs : List Component) :
    (expectedComps hi cs).map (fun r => (r.glyph, r.anchor, r.transform, ComponentFlags.ofBits r.flags))
      = cs.map (fun c => (c.glyph, c.anchor, c.transform, c.flags)) := by
  induction cs with
  | nil => rfl
  | cons c cs ih =>
    cases cs with
    | nil =>
      have wf := word_facts c _ (lastExtra_mem hi)
      simp only [expectedComps, List.map_cons, List.map_nil, Component.read, wf.2.2.2.2.2.2.2.2.2]
    | cons c2 cs2 =>
      have wf := word_facts c MORE_COMPONENTS (by decide)
      simp only [expectedComps, List.map_cons, Component.read, wf.2.2.2.2.2.2.2.2.2] at ih ⊢
      rw [ih]

theorem expected_more (hi : Bool) (cs : List Component) :
    (expectedComps hi cs).map (fun r => hasBit r.flags MORE_COMPONENTS)
      = (List.range cs.length).map (fun i => decide (i + 1 < cs.length)) := by
  induction cs with
  | nil => rfl
  | cons c cs ih =>
    cases cs with
    | nil =>
      simp only [expectedComps, List.map_cons, List.map_nil, Component.read, word_last_more]
      rfl
    | cons c2 cs2 =>
      simp only [expectedComps, List.map_cons, Component.read, word_more_more] at ih ⊢
      rw [ih]
      simp only [List.length_cons, List.range_succ_eq_map, List.map_cons, List.map_map]
      simp

theorem writeComposite_some (g : CompositeGlyph) (b : List Nat) (h : writeComposite g = some b) :
    g.components ≠ [] ∧
    b = padEven (be16 (-1) ++ be16 g.xMin ++ be16 g.yMin ++ be16 g.xMax ++ be16 g.yMax
      ++ componentsBytes (!g.instructions.isEmpty) g.components
      ++ (if !g.instructions.isEmpty then be16 g.instructions.length ++ g.instructions else [])) := by
  unfold writeComposite at h
  by_cases hne : g.components.isEmpty = true
  · rw [if_pos hne] at h; cases h
  · rw [if_neg hne] at h
    exact ⟨fun e => hne (by rw [e]; rfl), (Option.some.inj h).symm⟩

theorem writeGlyph_composite_ok (g : CompositeGlyph) (b : List Nat)
    (h : writeGlyph (.composite g) = .ok b) :
    g.components ≠ [] ∧ g.instructions.length ≤ 65535 ∧ writeComposite g = some b := by
  simp only [writeGlyph] at h
  split at h
  · cases h
  · rename_i hv
    cases hw : writeComposite g with
    | none => rw [hw] at h; cases h
    | some bb =>
      rw [hw] at h; cases h
      exact ⟨fun e => hv (.inl (by rw [e]; rfl)), by omega, rfl⟩

/-- `raw_loca` entries pushed after each glyph: running byte length `as u32` -/
def offsFrom : Nat → List (List Nat) → List Nat
  | _, [] => []
  | start, b :: bs => ((start + b.length) % 4294967296) :: offsFrom (start + b.length) bs

theorem offsFrom_length (l : List (List Nat)) : ∀ s, (offsFrom s l).length = l.length := by
  induction l with
  | nil => intro s; rfl
  | cons b l ih => intro s; simp [offsFrom, ih]

/-- byte offset of glyph `i` in the concatenation -/
def prefixLen (bs : List (List Nat)) (i : Nat) : Nat := (bs.take i).flatten.length

theorem build_spec (gs : List Glyph) : ∀ (glyf loca G L : List Nat),
    buildGlyfLoca gs glyf loca = some (G, L) →
    ∃ bs : List (List Nat), gs.map writeGlyph = bs.map WriteResult.ok ∧ G = glyf ++ bs.flatten ∧
      L = loca ++ offsFrom glyf.length bs := by
  induction gs with
  | nil =>
    intro glyf loca G L h
    simp only [buildGlyfLoca, Option.some.injEq, Prod.mk.injEq] at h
    exact ⟨[], rfl, by simp [h.1], by simp [offsFrom, h.2]⟩
  | cons g gs ih =>
    intro glyf loca G L h
    simp only [buildGlyfLoca] at h
    split at h
    · rename_i b hb
      obtain ⟨bs, h1, h2, h3⟩ := ih _ _ G L h
      refine ⟨b :: bs, by simp [hb, h1], by simp [h2], ?_⟩
      rw [h3]; simp [offsFrom, List.length_append]
    · cases h

theorem offs_get (bs : List (List Nat)) : ∀ (start i : Nat), i ≤ bs.length →
    start + bs.flatten.length < 4294967296 →
    (start :: offsFrom start bs)[i]? = some (start + prefixLen bs i) := by
  induction bs with
  | nil => intro start i hi _; simp at hi; subst hi; simp [prefixLen]
  | cons b bs ih =>
    intro start i hi hlt
    simp only [List.flatten_cons, List.length_append] at hlt
    cases i with
    | zero => simp [prefixLen]
    | succ j =>
      have hm : (start + b.length) % 4294967296 = start + b.length := by omega
      have := ih (start + b.length) j (by simpa using hi) (by omega)
      simp only [offsFrom, hm, List.getElem?_cons_succ]
      rw [this]
      simp only [prefixLen, List.take_succ_cons, List.flatten_cons, List.length_append]
      congr 1; omega

theorem flatten_split (bs : List (List Nat)) : ∀ (i : Nat) (hi : i < bs.length),
    bs.flatten = (bs.take i).flatten ++ (bs[i] ++ (bs.drop (i + 1)).flatten) := by
  induction bs with
  | nil => intro i hi; simp at hi
  | cons b bs ih =>
    intro i hi
    cases i with
    | zero => simp
    | succ j =>
      have := ih j (by simpa using hi)
      simp only [List.flatten_cons, List.take_succ_cons, List.drop_succ_cons, List.getElem_cons_succ,
        List.append_assoc]
      rw [← this]

theorem prefixLen_succ (bs : List (List Nat)) (i : Nat) (hi : i < bs.length) :
    prefixLen bs (i + 1) = prefixLen bs i + bs[i].length := by
  unfold prefixLen
  rw [List.take_add_one, List.flatten_append]
  simp [List.getElem?_eq_getElem hi]

theorem prefixLen_le (bs : List (List Nat)) (i : Nat) : prefixLen bs i ≤ bs.flatten.length := by
  unfold prefixLen
  have : bs.flatten = (bs.take i).flatten ++ (bs.drop i).flatten := by
    rw [← List.flatten_append, List.take_append_drop]
  rw [this, List.length_append]; omega

theorem prefixLen_all (bs : List (List Nat)) : prefixLen bs bs.length = bs.flatten.length := by
  unfold prefixLen; rw [List.take_length]

theorem getGlyf_built (bs : List (List Nat)) (i : Nat) (hi : i < bs.length)
    (h32 : bs.flatten.length < 4294967296) :
    getGlyf (0 :: offsFrom 0 bs) bs.flatten i =
      if bs[i] = [] then GetGlyf.none else GetGlyf.bytes (prefixLen bs i) bs[i] := by
  have g1 := offs_get bs 0 i (by omega) (by omega)
  have g2 := offs_get bs 0 (i + 1) (by omega) (by omega)
  simp only [Nat.zero_add] at g1 g2
  have hs := prefixLen_succ bs i hi
  have hle := prefixLen_le bs (i + 1)
  unfold getGlyf
  rw [g1, g2]
  simp only []
  by_cases he : bs[i] = []
  · have : prefixLen bs i = prefixLen bs (i + 1) := by rw [hs, he]; simp
    simp [he, this]
  · have hpos : 0 < bs[i].length := List.length_pos_iff.mpr he
    have hne : ¬ (prefixLen bs i = prefixLen bs (i + 1)) := by omega
    have hok : prefixLen bs i ≤ prefixLen bs (i + 1) ∧ prefixLen bs (i + 1) ≤ bs.flatten.length := by
      omega
    simp only [hne, ↓reduceIte, hok, and_self, he]
    congr 1
    have hd : prefixLen bs (i + 1) - prefixLen bs i = bs[i].length := by omega
    rw [hd]
    conv => lhs; rw [flatten_split bs i hi]
    rw [List.drop_left' (by rfl : (List.take i bs).flatten.length = prefixLen bs i), List.take_left]

theorem offs_props (bs : List (List Nat)) : ∀ (start : Nat),
    start + bs.flatten.length < 4294967296 → (∀ b ∈ bs, b.length % 2 = 0) → start % 2 = 0 →
    (∀ o ∈ start :: offsFrom start bs, o ≤ start + bs.flatten.length ∧ o % 2 = 0) ∧
    (start :: offsFrom start bs).getLast? = some (start + bs.flatten.length) := by
  induction bs with
  | nil => intro start _ _ hs; simp [offsFrom, hs]
  | cons b bs ih =>
    intro start hlt hev hs
    simp only [List.flatten_cons, List.length_append] at hlt ⊢
    have hb := hev b (by simp)
    have hm : (start + b.length) % 4294967296 = start + b.length := by omega
    have ⟨i1, i2⟩ := ih (start + b.length) (by omega) (fun x hx => hev x (by simp [hx])) (by omega)
    simp only [offsFrom, hm]
    constructor
    · intro o ho
      simp only [List.mem_cons] at ho
      rcases ho with rfl | ho
      · omega
      · have := i1 o (by simpa using ho); omega
    · rw [List.getLast?_cons_cons, i2]; congr 1; omega

theorem writeGlyph_even (g : Glyph) (b : List Nat) (h : writeGlyph g = .ok b) : b.length % 2 = 0 := by
  cases g with
  | empty => cases h; rfl
  | simple s =>
    obtain ⟨_, _, ⟨_, hb⟩ | ⟨_, _, _, _, _, hb⟩⟩ := writeSimple_some s b (writeGlyph_simple_ok s b h).2.2
    · rw [hb]; rfl
    · rw [hb]; exact padEven_length _
  | composite c =>
    rw [(writeComposite_some c b (writeGlyph_composite_ok c b h).2.2).2]
    exact padEven_length _

theorem writeGlyph_getElem {gs : List Glyph} {bs : List (List Nat)}
    (h : gs.map writeGlyph = bs.map WriteResult.ok) (i : Nat) (hi : i < gs.length) :
    ∃ hi' : i < bs.length, writeGlyph gs[i] = .ok bs[i] := by
  have hlen : bs.length = gs.length := by simpa using (congrArg List.length h).symm
  refine ⟨by omega, ?_⟩
  have := congrArg (fun l => l[i]?) h
  simpa only [List.getElem?_map, List.getElem?_eq_getElem hi,
    List.getElem?_eq_getElem (show i < bs.length by omega), Option.map_some,
    Option.some.injEq] using this

theorem chunks4_be32 (offs : List Nat) (h : ∀ o ∈ offs, o < 4294967296) :
    chunks4 (offs.flatMap be32) = some offs := by
  induction offs with
  | nil => rfl
  | cons o os ih =>
    have ho := h o (by simp)
    have := ih (fun x hx => h x (by simp [hx]))
    simp only [List.flatMap_cons, be32, List.cons_append, List.nil_append, chunks4, this,
      Option.map_some, Option.some.injEq, List.cons.injEq, and_true]
    have hd := digits4 ho
    generalize o / 16777216 % 256 = a at hd ⊢
    generalize o / 65536 % 256 = b at hd ⊢
    generalize o / 256 % 256 = c at hd ⊢
    generalize o % 256 = d at hd ⊢
    rw [← hd, Nat.add_mul, Nat.add_mul, Nat.add_mul, Nat.mul_assoc, Nat.mul_assoc, Nat.mul_assoc]

theorem chunks2_half (offs : List Nat) (h : ∀ o ∈ offs, o < 131072 ∧ o % 2 = 0) :
    (chunks2 (offs.flatMap (fun o => be16 ((o / 2 % 65536 : Nat) : Int)))).map
      (fun l => l.map (· * 2)) = some offs := by
  induction offs with
  | nil => rfl
  | cons o os ih =>
    have ho := h o (by simp)
    have ih' := ih (fun x hx => h x (by simp [hx]))
    cases hc : chunks2 (os.flatMap (fun o => be16 ((o / 2 % 65536 : Nat) : Int))) with
    | none => rw [hc] at ih'; cases ih'
    | some l =>
      rw [hc] at ih'
      simp only [Option.map_some, Option.some.injEq] at ih'
      rw [List.flatMap_cons, be16_nat _ (by omega)]
      simp only [List.cons_append, List.nil_append, chunks2]
      rw [hc]
      simp only [Option.map_some, Option.some.injEq, List.map_cons, List.cons.injEq]
      exact ⟨by omega, ih'⟩

end FontVerif.Glyf
