/-
Per-step facts (invariants, measures, trap freedom) of the hand-written-code models
(Model/HandRead.lean, Model/HandIter.lean) from which Props/C01Hand.lean derives its theorems.
-/
import FontVerif.Lemmas.ReadIterBounds
import FontVerif.Lemmas.HandRead
import FontVerif.Model.HandIter
namespace FontVerif.C01Hand
open FontVerif.ReadIter FontVerif.HandRead FontVerif.HandIter

theorem readBytes_facts (d : List Nat) (n : Nat) :
    ∀ c : Cur, c.pos ≤ MAXU →
      c.pos ≤ (c.readBytes d n).2.pos ∧ (c.readBytes d n).2.pos ≤ MAXU ∧
      ((c.readBytes d n).1 = none → d.length ≤ MAXU → d.length ≤ (c.readBytes d n).2.pos) := by
  induction n with
  | zero => intro c h; simp [Cur.readBytes, h]
  | succ n ih =>
    intro c h
    unfold Cur.readBytes
    rcases read_cases d c 1 with ⟨c1, hc, m⟩ | ⟨b, c1, hc, r⟩ <;> rw [hc] <;> dsimp only
    · exact ⟨(m h).1, (m h).2.1, fun _ hl => (m h).2.2 hl⟩
    have ih' := ih c1 (by omega)
    cases hb : Cur.readBytes d n c1 with
    | mk r2 c2 =>
      rw [hb] at ih'
      dsimp only at ih'
      cases r2 with
      | none => dsimp only; exact ⟨by omega, ih'.2.1, fun _ hl => ih'.2.2 rfl hl⟩
      | some bs => dsimp only; exact ⟨by omega, ih'.2.1, fun hn _ => by simp at hn⟩

theorem readU32Var_facts (d : List Nat) (c : Cur) (h : c.pos ≤ MAXU) :
    c.pos ≤ (c.readU32Var d).2.pos ∧ (c.readU32Var d).2.pos ≤ MAXU ∧
    ((c.readU32Var d).1 = none → d.length ≤ MAXU → d.length ≤ (c.readU32Var d).2.pos) ∧
    (c.pos < d.length → d.length ≤ MAXU → c.pos + 1 ≤ (c.readU32Var d).2.pos) := by
  unfold Cur.readU32Var
  rcases read_cases d c 1 with ⟨c1, hc, m⟩ | ⟨b0, c1, hc, r⟩ <;> rw [hc] <;> dsimp only
  · exact ⟨(m h).1, (m h).2.1, fun _ hl => (m h).2.2 hl, fun hlt hl => by have := (m h).2.2 hl; omega⟩
  generalize hk : (if b0 < 0x80 then 0 else if b0 < 0xC0 then 1 else if b0 < 0xE0 then 2 else if b0 < 0xF0 then 3 else 4) = k
  have hb := readBytes_facts d k c1 (by omega)
  cases hbs : Cur.readBytes d k c1 with
  | mk r2 c2 =>
    rw [hbs] at hb
    dsimp only at hb
    cases r2 with
    | none => dsimp only; exact ⟨by omega, hb.2.1, fun _ hl => hb.2.2 rfl hl, fun _ _ => by omega⟩
    | some bs => dsimp only; exact ⟨by omega, hb.2.1, fun hn _ => by simp at hn, fun _ _ => by omega⟩

theorem dlEndLoop_some (d : List Nat) : ∀ (fuel : Nat) (s : DlSt), s.limit.isSome → C01Iter.muDl s < fuel →
    ∃ e, dlEndLoop d fuel s = some e := by
  intro fuel
  induction fuel with
  | zero => intro s _ h; omega
  | succ f ih =>
    intro s hs hf
    have hfacts := C01Iter.dlNext_facts d s hs
    unfold dlEndLoop
    cases hn : dlNext d s with
    | mk o s' =>
      rw [hn] at hfacts
      dsimp only at hfacts
      cases o with
      | yield v =>
        dsimp only
        exact ih s' hfacts.1 (by have := hfacts.2.2 (by simp); omega)
      | cont | done | trap => exact ⟨s', rfl⟩

def VInv (s : VSt) : Prop := s.d.length ≤ MAXU ∧ s.c.pos ≤ MAXU

theorem act_facts (ax : Nat → Option Nat) (a : Act) (s : VSt) (hi : VInv s) :
    VInv (a.run ax s).2 ∧ (a.run ax s).2.rem ≤ s.rem := by
  obtain ⟨hd, hp⟩ := hi
  have moved : ∀ c : Cur, s.c.pos ≤ c.pos → c.pos ≤ MAXU →
      VInv { s with c := c } ∧ VSt.rem { s with c := c } ≤ s.rem :=
    fun c h1 h2 => ⟨⟨hd, h2⟩, by simp only [VSt.rem]; omega⟩
  have hv := readU32Var_facts s.d s.c hp
  cases a with
  | rd sz => exact moved _ (read_mono s.d s.c sz hp).1 (read_mono s.d s.c sz hp).2
  | var => exact moved _ hv.1 hv.2.1
  | axes =>
    simp only [Act.run]
    cases (s.c.readU32Var s.d).1 with
    | none => exact moved _ hv.1 hv.2.1
    | some ix =>
      dsimp only
      cases ax ix with
      | none => exact moved _ hv.1 hv.2.1
      | some n =>
        dsimp only
        by_cases hn : n = 0
        · rw [if_pos hn]; exact moved _ hv.1 hv.2.1
        rw [if_neg hn]
        by_cases hle : (s.c.readU32Var s.d).2.pos ≤ s.d.length
        · -- the jump over the packed values: the data shrinks to what lies behind the cursor
          rw [if_pos hle]
          obtain ⟨e, he⟩ := dlEndLoop_some (s.d.drop (s.c.readU32Var s.d).2.pos) (n + 1) (dlInit (some n))
            (by simp [dlInit]) (by simp [C01Iter.muDl, dlInit])
          simp only [he, VInv, VSt.rem, List.length_drop]
          exact ⟨⟨by omega, Nat.min_le_right _ _⟩, by omega⟩
        · rw [if_neg hle]; exact moved _ hv.1 hv.2.1

theorem runActs_facts (ax : Nat → Option Nat) : ∀ (acts : List Act) (s : VSt), VInv s →
    VInv (runActs ax acts s).2 ∧ (runActs ax acts s).2.rem ≤ s.rem := by
  intro acts
  induction acts with
  | nil => intro s hi; simp [runActs, hi]
  | cons a rest ih =>
    intro s hi
    have ha := act_facts ax a s hi
    unfold runActs
    cases hr : a.run ax s with
    | mk ok s' =>
      rw [hr] at ha
      dsimp only at ha
      cases ok with
      | false => simpa using ha
      | true =>
        dsimp only
        have := ih s' ha.1
        exact ⟨this.1, by omega⟩

theorem varcStep_facts (ax : Nat → Option Nat) (s : VSt) (hi : VInv s) :
    VInv (varcStep ax s).2 ∧ (varcStep ax s).1 ≠ .trap ∧
    ((varcStep ax s).1 ≠ .done → (varcStep ax s).2.rem < s.rem) := by
  unfold varcStep
  by_cases he : s.c.isEmpty s.d = true
  · simp [he, hi]
  · simp only [he, Bool.false_eq_true, if_false]
    simp only [Cur.isEmpty, decide_eq_true_eq] at he
    have hv := readU32Var_facts s.d s.c hi.2
    have hadv := hv.2.2.2 (by omega) hi.1
    unfold varcParse
    simp only []
    cases hr : (s.c.readU32Var s.d).1 with
    | none =>
      simp only [VInv, VSt.rem]
      exact ⟨⟨hi.1, hv.2.1⟩, by simp, fun _ => by omega⟩
    | some raw =>
      dsimp only
      have hs1 : VInv { s with c := (s.c.readU32Var s.d).2 } := ⟨hi.1, hv.2.1⟩
      have := runActs_facts ax (actsOf raw) _ hs1
      refine ⟨this.1, by simp, fun _ => ?_⟩
      have h2 := this.2
      simp only [VSt.rem] at h2 ⊢
      omega

theorem bluesNew_eq (n : Nat) : bluesNew n = some (min n 14 / 2) := by
  have h : ∀ m, m ≤ 14 → bluesLoop (List.range m) 0 = some (m / 2) := by decide
  exact h (min n 14) (Nat.min_le_right _ _)

/-- operand stack invariant: `top` indexes the 513-slot arrays -/
def DInv (s : DSt) : Prop := s.st.top ≤ 513 ∧ s.st.slots.length = 513 ∧ s.c.pos ≤ MAXU

theorem dinv_init : DInv ⟨Cur.init, Stack.new⟩ := by
  refine ⟨Nat.zero_le _, ?_, Nat.zero_le _⟩
  show (List.replicate MAX_STACK (Slot.int 0)).length = 513
  rw [List.length_replicate]; rfl

theorem bcdLoop_used (bs : List Nat) : ∀ buf used, used + 1 ≤ (bcdLoop bs buf used).2 := by
  induction bs with
  | nil => intro buf used; simp [bcdLoop]
  | cons b rest ih =>
    intro buf used
    unfold bcdLoop
    split
    · simp
    · simp
    · split
      · simp
      · simp
      · have := ih ‹_› (used + 1); omega

theorem parseToken_cursor (d : List Nat) (c : Cur) :
    (parseToken d c).2 = c.advanceBy 1 ∨ ∃ k, (parseToken d c).2 = (c.advanceBy 1).advanceBy k := by
  have rd : ∀ (o : Option Nat) (c2 : Cur) (e : Except DErr Tok) (f : Nat → Except DErr Tok),
      (match (o, c2) with | (none, c2) => (e, c2) | (some v, c2) => (f v, c2)).2 = c2 := by
    intro o c2 e f; cases o <;> rfl
  unfold parseToken
  simp only [Cur.read]
  cases readAt d c.pos 1 with
  | none => exact .inl rfl
  | some b0 =>
    dsimp only
    -- `split` is slow on this goal; the conditions are taken one at a time
    by_cases h : b0 = 12
    · rw [if_pos h]; exact .inr ⟨1, rd _ _ _ _⟩
    rw [if_neg h]
    by_cases h : b0 = 28
    · rw [if_pos h]; exact .inr ⟨2, rd _ _ _ _⟩
    rw [if_neg h]
    by_cases h : b0 = 29
    · rw [if_pos h]; exact .inr ⟨4, rd _ _ _ _⟩
    rw [if_neg h]
    by_cases h : b0 = 30
    · rw [if_pos h]
      refine .inr ⟨(bcdLoop (d.drop (c.advanceBy 1).pos) [] 0).2, ?_⟩
      cases (bcdLoop (d.drop (c.advanceBy 1).pos) [] 0).1 <;> rfl
    rw [if_neg h]
    by_cases h : 32 ≤ b0 ∧ b0 ≤ 246
    · rw [if_pos h]; exact .inl rfl
    rw [if_neg h]
    by_cases h : 247 ≤ b0 ∧ b0 ≤ 250
    · rw [if_pos h]; exact .inr ⟨1, rd _ _ _ _⟩
    rw [if_neg h]
    by_cases h : 251 ≤ b0 ∧ b0 ≤ 254
    · rw [if_pos h]; exact .inr ⟨1, rd _ _ _ _⟩
    rw [if_neg h]; exact .inl rfl

theorem parseToken_facts (d : List Nat) (c : Cur) (hp : c.pos ≤ MAXU) :
    (parseToken d c).2.pos ≤ MAXU ∧
    (c.pos < d.length → d.length ≤ MAXU → c.pos + 1 ≤ (parseToken d c).2.pos) := by
  obtain ⟨h1, h2⟩ := advanceBy_mono c 1 hp
  have h3 : ∀ k, _ := fun k => advanceBy_mono (c.advanceBy 1) k h2
  have hstep : c.pos < d.length → d.length ≤ MAXU → (c.advanceBy 1).pos = c.pos + 1 :=
    fun hlt hl => satAdd_exact _ _ (by omega)
  rcases parseToken_cursor d c with h | ⟨k, h⟩ <;> rw [h]
  · exact ⟨h2, fun hlt hl => by have := hstep hlt hl; omega⟩
  · exact ⟨(h3 k).2, fun hlt hl => by have := hstep hlt hl; have := (h3 k).1; omega⟩

theorem liftS_ne_trap {α : Type} (r : SR α) (k : α → ER) (hr : r ≠ .trap) (hk : ∀ a, k a ≠ .trap) :
    liftS r k ≠ .trap := by
  unfold liftS
  cases r with
  | ok a => exact hk a
  | err e => simp
  | trap => exact absurd rfl hr

theorem getI32_ne_trap (st : Stack) (i : Nat) : st.getI32 i ≠ .trap := by
  intro h; unfold Stack.getI32 at h; split at h <;> cases h

theorem getFixed_ne_trap (st : Stack) (i : Nat) : st.getFixed i ≠ .trap := by
  intro h; unfold Stack.getFixed at h; split at h <;> cases h

theorem popI32_ne_trap (st : Stack) : st.popI32.1 ≠ .trap := by
  intro h; unfold Stack.popI32 at h
  split at h
  · exact getI32_ne_trap _ _ h
  · cases h

theorem popFixed_ne_trap (st : Stack) : st.popFixed.1 ≠ .trap := by
  intro h; unfold Stack.popFixed at h
  split at h
  · exact getFixed_ne_trap _ _ h
  · cases h

theorem parseEntry_ne_trap (name : String) (k : EKind) (st : Stack) : parseEntry name k st ≠ .trap := by
  cases k with
  | sid | i32 | usize | u32 | bool =>
    simp only [parseEntry]; exact liftS_ne_trap _ _ (popI32_ne_trap st) (by intro a; simp)
  | fixed => simp only [parseEntry]; exact liftS_ne_trap _ _ (popFixed_ne_trap st) (by intro a; simp)
  | none => simp [parseEntry]
  | bbox n => simp only [parseEntry]; split <;> simp
  | privRange =>
    simp only [parseEntry]
    exact liftS_ne_trap _ _ (getI32_ne_trap st 0) (fun len =>
      liftS_ne_trap _ _ (getI32_ne_trap st 1) (fun start => by split <;> simp))
  | blues => simp only [parseEntry]; rw [bluesNew_eq]; simp
  | snaps => simp [parseEntry]
  | ros =>
    simp only [parseEntry]
    exact liftS_ne_trap _ _ (getI32_ne_trap st 0) (fun reg =>
      liftS_ne_trap _ _ (getI32_ne_trap st 1) (fun ord =>
        liftS_ne_trap _ _ (getFixed_ne_trap st 2) (by intro a; simp)))
  | blendOrVsindex => simp [parseEntry]

theorem prefixSum_inv (st : Stack) (h : st.top ≤ 513 ∧ st.slots.length = 513) :
    st.prefixSum.top ≤ 513 ∧ st.prefixSum.slots.length = 513 := by
  unfold Stack.prefixSum
  split
  · simp only [List.length_append, List.length_replicate, List.length_drop]
    refine ⟨h.1, ?_⟩
    have := h.2
    omega
  · exact h

theorem dictStep_facts (d : List Nat) (hlen : d.length ≤ MAXU) (s : DSt) (hi : DInv s) :
    DInv (dictStep d s).2 ∧ (dictStep d s).1 ≠ .trap ∧
    ((dictStep d s).1 ≠ .done → (dictStep d s).2.c.remainingBytes d < s.c.remainingBytes d) := by
  obtain ⟨htop, hslots, hpos⟩ := hi
  unfold dictStep
  by_cases hz : s.c.remainingBytes d = 0
  · rw [if_pos hz]; exact ⟨⟨htop, hslots, hpos⟩, nofun, fun h => absurd rfl h⟩
  · rw [if_neg hz]
    have hlt : s.c.pos < d.length := by simp only [Cur.remainingBytes] at hz; omega
    obtain ⟨hpt, hadv⟩ := parseToken_facts d s.c hpos
    have hadv := hadv hlt hlen
    have fin : ∀ (o : Out ER) (st' : Stack), o ≠ .trap → st'.top ≤ 513 → st'.slots.length = 513 →
        DInv (o, (⟨(parseToken d s.c).2, st'⟩ : DSt)).2 ∧ (o, (⟨(parseToken d s.c).2, st'⟩ : DSt)).1 ≠ .trap ∧
        ((o, (⟨(parseToken d s.c).2, st'⟩ : DSt)).1 ≠ .done →
          (o, (⟨(parseToken d s.c).2, st'⟩ : DSt)).2.c.remainingBytes d < s.c.remainingBytes d) :=
      fun o st' ho h1 h2 => ⟨⟨h1, h2, hpt⟩, ho, fun _ => by simp only [Cur.remainingBytes]; omega⟩
    cases hc : parseToken d s.c with
    | mk r c' =>
      rw [hc] at fin
      cases r with
      | error e => exact fin _ _ nofun htop hslots
      | ok t =>
        cases t with
        | operand x =>
          dsimp only
          unfold Stack.push
          by_cases h513 : s.st.top = MAX_STACK
          · rw [if_pos h513]; exact fin _ _ nofun htop hslots
          · rw [if_neg h513]
            have h513' : s.st.top ≠ 513 := h513
            rw [if_pos (by omega : s.st.top < s.st.slots.length)]
            exact fin _ _ nofun (by dsimp only; omega) (by simp [hslots])
        | operator ext b =>
          dsimp only
          by_cases hb : (opInfo ext b).2 = .blendOrVsindex
          · rw [if_pos hb]; exact fin _ _ nofun htop hslots
          · rw [if_neg hb]
            generalize hg : (if (opInfo ext b).2 = .blues ∨ (opInfo ext b).2 = .snaps then s.st.prefixSum else s.st) = st1
            have h1 : st1.top ≤ 513 ∧ st1.slots.length = 513 := by
              rw [← hg]; split
              · exact prefixSum_inv s.st ⟨htop, hslots⟩
              · exact ⟨htop, hslots⟩
            have hcl : st1.clear.top ≤ 513 ∧ st1.clear.slots.length = 513 := by simp [Stack.clear, h1.2]
            split
            · rename_i hp; exact absurd hp (parseEntry_ne_trap _ _ _)
            · exact fin _ _ nofun hcl.1 hcl.2

theorem simpleNext_facts (sids : List Nat) (ng cur : Nat) :
    (simpleNext sids ng cur).1 ≠ .trap ∧
    ((simpleNext sids ng cur).1 ≠ .done → ng - (simpleNext sids ng cur).2 < ng - cur) := by
  unfold simpleNext
  cases h : charsetSid (.f0 sids) ng cur with
  | none => simp
  | some sid =>
    dsimp only
    have hlt : cur < ng := by
      unfold charsetSid at h
      by_cases hc : cur ≥ ng
      · simp [hc] at h
      · omega
    split
    · simp
    · simp; omega

theorem rangeNext_facts (ng : Nat) (s : RSt) :
    (rangeNext ng s).1 ≠ .trap ∧
    ((rangeNext ng s).1 ≠ .done → ng - (rangeNext ng s).2.gid < ng - s.gid) := by
  have hdone : ∀ s' : RSt, (Out.done (α := Nat × Nat), s').1 ≠ .trap ∧
      ((Out.done (α := Nat × Nat), s').1 ≠ .done → ng - (Out.done (α := Nat × Nat), s').2.gid < ng - s.gid) :=
    fun s' => ⟨nofun, fun h => absurd rfl h⟩
  unfold rangeNext
  by_cases h1 : s.gid ≥ ng
  · rw [if_pos h1]; exact hdone _
  rw [if_neg h1]
  by_cases h0 : s.gid = 0
  · rw [if_pos h0]; exact ⟨nofun, fun _ => by dsimp only; omega⟩
  rw [if_neg h0]
  dsimp only
  by_cases h2 : s.gid + 1 ≥ 4294967296
  · rw [if_pos h2]; exact hdone _
  rw [if_neg h2]
  cases rangeAdvance s.ranges (s.gid - 1) s.first s.end_ s.prevEnd with
  | none => exact hdone _
  | some r =>
    dsimp only
    by_cases h3 : s.gid - 1 < r.2.2.2
    · rw [if_pos h3]; exact hdone _
    rw [if_neg h3]
    by_cases h4 : r.2.1 + (s.gid - 1 - r.2.2.2) < 4294967296 ∧ r.2.1 + (s.gid - 1 - r.2.2.2) < 65536
    · rw [if_pos h4]; exact ⟨nofun, fun _ => by dsimp only; omega⟩
    · rw [if_neg h4]; exact hdone _

end FontVerif.C01Hand
