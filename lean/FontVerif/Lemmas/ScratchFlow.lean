/-
Soundness of the write-before-read checker of Model/ScratchFlow.lean:
  * the syntactic order on linear forms holds under every assignment;
  * `symRun` accepting a path means every concrete instance of the path is write-before-read;
  * a machine (`Proc`) whose access sequence is write-before-read computes the same result from any
    two initial buffer contents;
  * given the per-segment obligations, every access sequence of the load skeleton (`Trace`) is write-before-read.
-/
import FontVerif.Model.ScratchFlow
namespace FontVerif.ScratchFlow

theorem coefsLe_sound : ∀ (a b : List Nat), coefsLe a b = true → ∀ env, dot a env ≤ dot b env
  | [], _, _, env => by cases env <;> simp [dot]
  | a :: as, [], h, env => by
    simp only [coefsLe, Bool.and_eq_true, beq_iff_eq] at h
    cases env with
    | nil => simp [dot]
    | cons v vs =>
      have := coefsLe_sound as [] h.2 vs
      have h0 : dot [] vs = 0 := by cases vs <;> simp [dot]
      simp only [dot, h.1, Nat.zero_mul, Nat.zero_add]
      omega
  | a :: as, b :: bs, h, env => by
    simp only [coefsLe, Bool.and_eq_true, decide_eq_true_eq] at h
    cases env with
    | nil => simp [dot]
    | cons v vs =>
      have := coefsLe_sound as bs h.2 vs
      simp only [dot]
      have : a * v ≤ b * v := Nat.mul_le_mul_right v h.1
      omega

theorem Lin.le_sound (a b : Lin) (h : a.le b = true) (env : List Nat) : a.eval env ≤ b.eval env := by
  simp only [Lin.le, Bool.and_eq_true, decide_eq_true_eq] at h
  have := coefsLe_sound _ _ h.1 env
  simp only [Lin.eval]; omega

/-- the elements a list of symbolic ranges stands for -/
def Sem (env : List Nat) (init : List SRng) : Written := fun f i => ∃ s ∈ init, (s.inst env).has f i

/-- a contract holds of `w` when each of its ranges, instantiated, lies in `w` -/
theorem sem_cons (env : List Nat) (w : Written) (s : SRng) (l : List SRng) :
    (∀ f i, Sem env (s :: l) f i → w f i) ↔
      (∀ i, s.lo.eval env ≤ i → i < s.hi.eval env → w s.field i) ∧ ∀ f i, Sem env l f i → w f i := by
  constructor
  · intro h
    exact ⟨fun i h1 h2 => h _ _ ⟨s, List.mem_cons_self, rfl, h1, h2⟩,
      fun f i ⟨x, hx, hh⟩ => h f i ⟨x, List.mem_cons_of_mem _ hx, hh⟩⟩
  · intro ⟨h1, h2⟩ f i ⟨x, hx, hh⟩
    rcases List.mem_cons.mp hx with rfl | hx
    · obtain ⟨rfl, a, b⟩ := hh; exact h1 i a b
    · exact h2 f i ⟨x, hx, hh⟩

theorem sem_nil (env : List Nat) (w : Written) : ∀ f i, Sem env [] f i → w f i := by
  intro f i ⟨s, hs, _⟩; simp at hs

theorem covered_sound (env : List Nat) (init : List SRng) (r : SRng) (w : Written)
    (hc : covered init r = true) (hw : ∀ f i, Sem env init f i → w f i) :
    ∀ f i, (r.inst env).has f i → w f i := by
  intro f i hfi
  simp only [covered, Bool.or_eq_true, List.any_eq_true, Bool.and_eq_true, beq_iff_eq] at hc
  rcases hc with he | ⟨s, hs, ⟨hf, hlo⟩, hhi⟩
  · have := Lin.le_sound _ _ he env
    simp only [CRng.has, SRng.inst] at hfi
    omega
  · apply hw
    refine ⟨s, hs, ?_⟩
    have h1 := Lin.le_sound _ _ hlo env
    have h2 := Lin.le_sound _ _ hhi env
    simp only [CRng.has, SRng.inst] at hfi ⊢
    omega

theorem extend_sound (env : List Nat) (s r u : SRng) (fld : Nat) (hs : fld = s.field) (hf : s.field = r.field)
    (h1 : (s.lo.le r.lo && r.lo.le s.hi) = true)
    (h : (if r.hi.le s.hi then some s else if s.hi.le r.hi then some ⟨fld, s.lo, r.hi⟩ else none) = some u) :
    ∀ f i, (u.inst env).has f i → (s.inst env).has f i ∨ (r.inst env).has f i := by
  intro f i hu
  simp only [Bool.and_eq_true] at h1
  have a1 := Lin.le_sound _ _ h1.1 env
  have a2 := Lin.le_sound _ _ h1.2 env
  by_cases h2 : r.hi.le s.hi = true
  · rw [if_pos h2] at h; cases h; exact Or.inl hu
  · rw [if_neg h2] at h
    by_cases h3 : s.hi.le r.hi = true
    · rw [if_pos h3] at h; cases h
      have a3 := Lin.le_sound _ _ h3 env
      simp only [CRng.has, SRng.inst] at hu ⊢
      omega
    · rw [if_neg h3] at h; cases h

theorem merge1_sound (env : List Nat) (s r u : SRng) (h : merge1 s r = some u) :
    ∀ f i, (u.inst env).has f i → (s.inst env).has f i ∨ (r.inst env).has f i := by
  unfold merge1 at h
  by_cases hf : s.field = r.field
  · rw [if_neg (by simpa using hf)] at h
    by_cases h1 : (s.lo.le r.lo && r.lo.le s.hi) = true
    · rw [if_pos h1] at h; exact extend_sound env s r u _ rfl hf h1 h
    · rw [if_neg h1] at h
      by_cases h2 : (r.lo.le s.lo && s.lo.le r.hi) = true
      · rw [if_pos h2] at h
        intro f i hu
        exact (extend_sound env r s u _ hf hf.symm h2 h f i hu).symm
      · rw [if_neg h2] at h; cases h
  · rw [if_pos (by simpa using hf)] at h; cases h

theorem addInit_sound (env : List Nat) : ∀ (init : List SRng) (r : SRng) (f i : Nat),
    Sem env (addInit init r) f i → Sem env init f i ∨ (r.inst env).has f i
  | [], r, f, i, h => by
    simp only [addInit, Sem, List.mem_singleton, exists_eq_left] at h
    exact Or.inr h
  | s :: rest, r, f, i, h => by
    simp only [addInit] at h
    split at h
    · rename_i u hu
      rcases addInit_sound env rest u f i h with h1 | h1
      · obtain ⟨x, hx, hh⟩ := h1
        exact Or.inl ⟨x, List.mem_cons_of_mem _ hx, hh⟩
      · rcases merge1_sound env s r u hu f i h1 with h2 | h2
        · exact Or.inl ⟨s, List.mem_cons_self, h2⟩
        · exact Or.inr h2
    · obtain ⟨x, hx, hh⟩ := h
      rcases List.mem_cons.mp hx with rfl | hx
      · exact Or.inl ⟨x, List.mem_cons_self, hh⟩
      · rcases addInit_sound env rest r f i ⟨x, hx, hh⟩ with h1 | h1
        · obtain ⟨y, hy, hh'⟩ := h1
          exact Or.inl ⟨y, List.mem_cons_of_mem _ hy, hh'⟩
        · exact Or.inr h1

theorem foldl_addInit_sound (env : List Nat) : ∀ (ws : List SRng) (init : List SRng) (f i : Nat),
    Sem env (ws.foldl addInit init) f i → Sem env init f i ∨ inAny (ws.map (·.inst env)) f i
  | [], init, f, i, h => Or.inl h
  | w :: ws, init, f, i, h => by
    simp only [List.foldl_cons] at h
    rcases foldl_addInit_sound env ws (addInit init w) f i h with h1 | h1
    · rcases addInit_sound env init w f i h1 with h2 | h2
      · exact Or.inl h2
      · exact Or.inr ⟨w.inst env, by simp, h2⟩
    · obtain ⟨x, hx, hh⟩ := h1
      exact Or.inr ⟨x, by simp only [List.map_cons, List.mem_cons]; exact Or.inr hx, hh⟩

theorem stepW_mono (w w' : Written) (a : CAcc) (h : ∀ f i, w f i → w' f i) :
    ∀ f i, stepW w a f i → stepW w' a f i := by
  intro f i hs
  rcases hs with hs | hs
  · exact Or.inl (h f i hs)
  · exact Or.inr hs

theorem afterW_mono : ∀ (cs : List CAcc) (w w' : Written), (∀ f i, w f i → w' f i) →
    ∀ f i, afterW cs w f i → afterW cs w' f i
  | [], _, _, h => h
  | a :: cs, w, w', h => afterW_mono cs _ _ (stepW_mono w w' a h)

theorem afterW_grows : ∀ (cs : List CAcc) (w : Written), ∀ f i, w f i → afterW cs w f i
  | [], _, _, _, h => h
  | a :: cs, w, f, i, h => afterW_grows cs (stepW w a) f i (Or.inl h)

theorem wbrOK_mono : ∀ (cs : List CAcc) (w w' : Written), (∀ f i, w f i → w' f i) → wbrOK cs w → wbrOK cs w'
  | [], _, _, _, _ => trivial
  | a :: cs, w, w', h, hok =>
    ⟨fun f i hr => h f i (hok.1 f i hr), wbrOK_mono cs _ _ (stepW_mono w w' a h) hok.2⟩

theorem afterW_append : ∀ (a b : List CAcc) (w : Written), afterW (a ++ b) w = afterW b (afterW a w)
  | [], _, _ => rfl
  | x :: a, b, w => afterW_append a b (stepW w x)

theorem wbrOK_append : ∀ (a b : List CAcc) (w : Written), wbrOK (a ++ b) w ↔ wbrOK a w ∧ wbrOK b (afterW a w)
  | [], b, w => by simp [wbrOK, afterW]
  | x :: a, b, w => by
    simp only [List.cons_append, wbrOK, afterW]
    rw [wbrOK_append a b (stepW w x)]
    exact and_assoc.symm

theorem acc_sound (env : List Nat) (init : List SRng) (a : SAcc) (w : Written)
    (hok : accOK init a = true) (hw : ∀ f i, Sem env init f i → w f i) :
    (∀ f i, inAny (a.inst env).reads f i → w f i) ∧
    (∀ f i, Sem env (accPost init a) f i → stepW w (a.inst env) f i) := by
  constructor
  · intro f i ⟨r, hr, hh⟩
    simp only [SAcc.inst, List.mem_map] at hr
    obtain ⟨sr, hsr, rfl⟩ := hr
    simp only [accOK, List.all_eq_true] at hok
    exact covered_sound env init sr w (hok sr hsr) hw f i hh
  · intro f i h
    rcases foldl_addInit_sound env a.writes init f i h with h1 | h1
    · exact Or.inl (hw f i h1)
    · exact Or.inr h1

theorem runAccs_sound (env : List Nat) : ∀ (b : List SAcc) (init init' : List SRng) (w : Written),
    runAccs b init = some init' → (∀ f i, Sem env init f i → w f i) →
    wbrOK (b.map (·.inst env)) w ∧ ∀ f i, Sem env init' f i → afterW (b.map (·.inst env)) w f i
  | [], init, init', w, h, hw => by
    simp only [runAccs, Option.some.injEq] at h; subst h
    exact ⟨trivial, hw⟩
  | a :: b, init, init', w, h, hw => by
    simp only [runAccs] at h
    split at h
    · rename_i hok
      have ha := acc_sound env init a w hok hw
      have := runAccs_sound env b (accPost init a) init' (stepW w (a.inst env)) h ha.2
      exact ⟨⟨ha.1, this.1⟩, this.2⟩
    · simp at h

theorem symRun_sound (env : List Nat) (p : SPath) (cs : List CAcc) (hc : Conc env p cs) :
    ∀ (init init' : List SRng) (w : Written), symRun p init = some init' →
    (∀ f i, Sem env init f i → w f i) →
    wbrOK cs w ∧ ∀ f i, Sem env init' f i → afterW cs w f i := by
  induction hc with
  | nil =>
    intro init init' w h hw
    simp only [symRun, Option.some.injEq] at h; subst h
    exact ⟨trivial, hw⟩
  | one a p cs _ ih =>
    intro init init' w h hw
    simp only [symRun] at h
    split at h
    · rename_i hok
      have ha := acc_sound env init a w hok hw
      have := ih (accPost init a) init' (stepW w (a.inst env)) h ha.2
      exact ⟨⟨ha.1, this.1⟩, this.2⟩
    · simp at h
  | repStop alts p cs _ ih =>
    intro init init' w h hw
    simp only [symRun] at h
    split at h
    · exact ih init init' w h hw
    · simp at h
  | repIter alts b p cs hb _ ih =>
    intro init init' w h hw
    have h' := h
    simp only [symRun] at h
    split at h
    · rename_i hall
      simp only [List.all_eq_true] at hall
      have hb' := hall b hb
      obtain ⟨ib, hib⟩ := Option.isSome_iff_exists.mp hb'
      have hbs := runAccs_sound env b init ib w hib hw
      have hw' : ∀ f i, Sem env init f i → afterW (b.map (·.inst env)) w f i :=
        fun f i hs => afterW_grows _ w f i (hw f i hs)
      have := ih init init' (afterW (b.map (·.inst env)) w) h' hw'
      rw [wbrOK_append, afterW_append]
      exact ⟨⟨hbs.1, this.1⟩, this.2⟩
    · simp at h

theorem restrict_agree (m1 m2 : Mem) (rs : List CRng) (w : Written)
    (hag : ∀ f i, w f i → m1 f i = m2 f i) (hr : ∀ f i, inAny rs f i → w f i) :
    restrict m1 rs = restrict m2 rs := by
  funext f i
  simp only [restrict]
  split
  · rename_i h; exact hag f i (hr f i h)
  · rfl

/-- **Write-before-read implies independence of the initial contents.** If the access sequence of
a run is write-before-read relative to the elements on which two buffers agree, the run on the other
buffer makes the same accesses and returns the same result. -/
theorem proc_independent {R : Type} (p : Proc R) : ∀ (m1 m2 : Mem) (w : Written),
    (∀ f i, w f i → m1 f i = m2 f i) → wbrOK (p.trace m1) w →
    p.run m1 = p.run m2 ∧ p.trace m1 = p.trace m2 := by
  induction p with
  | done r => intro m1 m2 w _ _; exact ⟨rfl, rfl⟩
  | step a val k ih =>
    intro m1 m2 w hag hok
    simp only [Proc.trace, wbrOK] at hok
    have hr := restrict_agree m1 m2 a.reads w hag hok.1
    have hag' : ∀ f i, stepW w a f i →
        update m1 a.writes (val (restrict m1 a.reads)) f i = update m2 a.writes (val (restrict m2 a.reads)) f i := by
      intro f i hs
      simp only [update, hr]
      split
      · rfl
      · rename_i hn
        rcases hs with hs | hs
        · exact hag f i hs
        · exact absurd hs hn
    rw [← hr] at hag'
    have := ih (restrict m1 a.reads) _ _ (stepW w a) hag' hok.2
    simp only [Proc.run, Proc.trace]
    rw [← hr]
    exact ⟨this.1, by rw [this.2]⟩

theorem segOK_elim (fns : List Fn) (seg : Seg) (flags : List (Nat × Bool)) (pre post : List SRng)
    (want : Path → Bool) (h : segOK fns seg flags pre want post = true) (p : Path)
    (hp : p ∈ paths fns seg flags) :
    ∃ init, symRun p.evs pre = some init ∧
      (p.aborted = false → want p = true → ∀ r ∈ post, covered init r = true) := by
  simp only [segOK, List.all_eq_true] at h
  have := h p hp
  simp only [Bool.and_eq_true] at this
  cases hs : symRun p.evs pre with
  | none => rw [hs] at this; simp at this
  | some init =>
    rw [hs] at this
    refine ⟨init, rfl, ?_⟩
    intro ha hw r hr
    have h2 := this.2
    simp only [ha, hw, Bool.not_true, Bool.or_false, Bool.false_or, List.all_eq_true] at h2
    exact h2 r hr

/-- what a segment obligation gives for every concrete execution of the segment -/
theorem seg_sound (fns : List Fn) (seg : Seg) (flags : List (Nat × Bool)) (pre post : List SRng)
    (want : Path → Bool) (h : segOK fns seg flags pre want post = true) (p : Path)
    (hp : p ∈ paths fns seg flags) (env : List Nat) (cs : List CAcc) (hc : Conc env p.evs cs)
    (w : Written) (hpre : ∀ f i, Sem env pre f i → w f i) :
    wbrOK cs w ∧ (p.aborted = false → want p = true → ∀ f i, Sem env post f i → afterW cs w f i) := by
  obtain ⟨init, hrun, hpost⟩ := segOK_elim fns seg flags pre post want h p hp
  have hs := symRun_sound env p.evs cs hc pre init w hrun hpre
  refine ⟨hs.1, ?_⟩
  intro ha hw f i ⟨r, hr, hh⟩
  exact covered_sound env init r (afterW cs w) (hpost ha hw r hr) hs.2 f i hh

theorem envStarts_split (env pre : List Nat) (h : envStarts env pre) : ∃ rest, env = pre ++ rest := by
  have := List.take_append_drop pre.length env
  unfold envStarts at h
  rw [h] at this
  exact ⟨_, this.symm⟩

/-- the invariant of `Scaler::load`: everything below the running counters has been written -/
def Inv (P : Pipeline) (w : Written) (st : St) : Prop :=
  (∀ i, i < st.pc → w P.pts i ∧ w P.flags i) ∧ (∀ i, i < st.cc → w P.contours i)

def JobPre (P : Pipeline) (w : Written) : Job → St → Prop
  | .glyph _, _ => True
  | .comps hd pb db k _, st => pb ≤ st.pc ∧ (hd = true → ∀ i, db ≤ i → i < db + k → w P.compDeltas i)
  | .compBody hd st0 db comps, st =>
    st0 = st ∧ (hd = true → ∀ i, db ≤ i → i < db + comps.length → w P.compDeltas i)

theorem Inv_mono (P : Pipeline) (w w' : Written) (st : St) (h : ∀ f i, w f i → w' f i) (hi : Inv P w st) :
    Inv P w' st :=
  ⟨fun i hlt => ⟨h _ _ (hi.1 i hlt).1, h _ _ (hi.1 i hlt).2⟩, fun i hlt => h _ _ (hi.2 i hlt)⟩

theorem Inv.extend {P : Pipeline} {w : Written} {st : St} (hi : Inv P w st) {ph ch : Nat}
    (hp : ∀ i, st.pc ≤ i → i < ph → w P.pts i) (hf : ∀ i, st.pc ≤ i → i < ph → w P.flags i)
    (hc : ∀ i, st.cc ≤ i → i < ch → w P.contours i) : Inv P w ⟨ph, ch⟩ :=
  ⟨fun i h => if h' : i < st.pc then hi.1 i h' else ⟨hp i (Nat.le_of_not_lt h') h, hf i (Nat.le_of_not_lt h') h⟩,
   fun i h => if h' : i < st.cc then hi.2 i h' else hc i (Nat.le_of_not_lt h') h⟩

structure PipelineFacts (P : Pipeline) : Prop where
  simple : segOK P.fns P.simple [] [] (fun _ => true) (simplePost P) = true
  compPre : segOK P.fns P.compPre [] [] (fun p => getFlag p.flags P.haveDeltas == some true) (compPrePost P) = true
  iterT : segOK P.fns P.compIter [(P.haveDeltas, true)] (compIterPre P true) (fun _ => true) [] = true
  iterF : segOK P.fns P.compIter [(P.haveDeltas, false)] (compIterPre P false) (fun _ => true) [] = true
  compPost : segOK P.fns P.compPost [] (compPostPre P) (fun _ => true) [] = true
  final : segOK P.fns P.final [] (finalPre P) (fun _ => true) [] = true

theorem pipelineOK_facts (P : Pipeline) (h : pipelineOK P = true) : PipelineFacts P := by
  simp only [pipelineOK, Bool.and_eq_true] at h
  exact ⟨h.1.1.1.1.1.1, h.1.1.1.1.1.2, h.1.1.1.2, h.1.1.2, h.1.2, h.2⟩

theorem iter_sound (P : Pipeline) (hP : PipelineFacts P) (hd : Bool) (p : Path)
    (hp : p ∈ paths P.fns P.compIter [(P.haveDeltas, hd)]) (env : List Nat) (cs : List CAcc)
    (hc : Conc env p.evs cs) (w : Written) (pb a m db k : Nat) (he : envStarts env [pb, a, m, db, k])
    (hpts : ∀ i, i < pb + a + m → w P.pts i ∧ w P.flags i)
    (hdl : hd = true → ∀ i, db ≤ i → i < db + k → w P.compDeltas i) : wbrOK cs w := by
  obtain ⟨rest, rfl⟩ := envStarts_split _ _ he
  cases hd with
  | true =>
    refine (seg_sound _ _ _ _ _ _ hP.iterT p hp _ cs hc w ?_).1
    simp only [compIterPre, if_true, List.cons_append, List.nil_append, sem_cons, Lin.eval, lin, dot]
    exact ⟨fun i _ h => (hpts i (by omega)).1, fun i _ h => (hpts i (by omega)).2,
      fun i h1 h2 => hdl rfl i (by omega) (by omega), sem_nil _ w⟩
  | false =>
    refine (seg_sound _ _ _ _ _ _ hP.iterF p hp _ cs hc w ?_).1
    simp only [compIterPre, Bool.false_eq_true, if_false, List.append_nil, List.cons_append, List.nil_append, sem_cons,
      Lin.eval, lin, dot]
    exact ⟨fun i _ h => (hpts i (by omega)).1, fun i _ h => (hpts i (by omega)).2, sem_nil _ w⟩

/-- **Every access sequence of the load skeleton is write-before-read**, and `load` re-establishes its
invariant with the advanced counters. -/
theorem trace_sound (P : Pipeline) (hP : PipelineFacts P) (job : Job) (st : St) (cs : List CAcc)
    (out : Outcome) (ht : Trace P job st cs out) :
    ∀ w, Inv P w st → JobPre P w job st →
      wbrOK cs w ∧ ∀ st', out = .ok st' → Inv P (afterW cs w) st' ∧ st.pc ≤ st'.pc ∧ st.cc ≤ st'.cc := by
  induction ht with
  | empty st =>
    intro w hi _
    exact ⟨trivial, fun st' h => by cases h; exact ⟨hi, Nat.le_refl _, Nat.le_refl _⟩⟩
  | simple np nc instr st p env cs hp he hc =>
    intro w hi _
    obtain ⟨rest, rfl⟩ := envStarts_split _ _ he
    have hs := seg_sound _ _ _ _ _ _ hP.simple p hp _ cs hc w (sem_nil _ w)
    refine ⟨hs.1, ?_⟩
    intro st' hst
    cases hab : p.aborted with
    | true => simp [hab] at hst
    | false =>
      simp only [hab, Bool.false_eq_true, if_false, Outcome.ok.injEq] at hst
      subst hst
      have hnew := hs.2 hab rfl
      simp only [simplePost, sem_cons, Lin.eval, lin, dot, List.cons_append, List.nil_append, Nat.one_mul, Nat.zero_mul,
        Nat.add_zero, Nat.zero_add] at hnew
      exact ⟨(Inv_mono P w _ st (afterW_grows cs w) hi).extend hnew.1 hnew.2.1 hnew.2.2.1, Nat.le_add_right _ _,
        Nat.le_add_right _ _⟩
  | compositeAbort comps instr st p env cs hp hc hab =>
    intro w _ _
    exact ⟨(seg_sound _ _ _ _ _ _ hP.compPre p hp env cs hc w (sem_nil _ w)).1, fun st' h => by cases h⟩
  | composite comps instr st p env hd db cs cs' out hp hc hab hfl henv _ ih =>
    intro w hi _
    have hs := seg_sound _ _ _ _ _ _ hP.compPre p hp env cs hc w (sem_nil _ w)
    have hi' := Inv_mono P w (afterW cs w) st (afterW_grows cs w) hi
    have hpre : JobPre P (afterW cs w) (.compBody hd st db comps) st := by
      refine ⟨rfl, ?_⟩
      intro hdt i h1 h2
      obtain ⟨rest, rfl⟩ := envStarts_split _ _ (henv hdt)
      refine ((sem_cons _ _ _ _).mp (hs.2 hab (by simp [hfl, hdt]))).1 i ?_ ?_ <;>
        simp only [Lin.eval, lin, dot, List.cons_append, List.nil_append] <;> omega
    have := ih (afterW cs w) hi' hpre
    rw [wbrOK_append, afterW_append]
    exact ⟨⟨hs.1, this.1⟩, this.2⟩
  | bodyAbort hd st0 st db comps cs _ ih =>
    intro w hi hpre
    obtain ⟨rfl, hdl⟩ := hpre
    exact ih w hi ⟨Nat.le_refl _, hdl⟩
  | body hd st0 st st1 db comps p env cs cs' _ hp he hc ih =>
    intro w hi hpre
    obtain ⟨rfl, hdl⟩ := hpre
    have h1 := ih w hi ⟨Nat.le_refl _, hdl⟩
    obtain ⟨hi1, hpc, hcc⟩ := h1.2 st1 rfl
    obtain ⟨rest, rfl⟩ := envStarts_split _ _ he
    have hs := seg_sound _ _ _ _ _ _ hP.compPost p hp _ cs' hc (afterW cs w) (by
      simp only [compPostPre, sem_cons, Lin.eval, lin, dot, List.cons_append, List.nil_append]
      exact ⟨fun i _ h => (hi1.1 i (by omega)).1, fun i _ h => (hi1.1 i (by omega)).2, fun i _ h => hi1.2 i (by omega),
        sem_nil _ _⟩)
    rw [wbrOK_append, afterW_append]
    refine ⟨⟨h1.1, hs.1⟩, ?_⟩
    intro st' hst
    cases hab : p.aborted with
    | true => simp [hab] at hst
    | false =>
      simp only [hab, Bool.false_eq_true, if_false, Outcome.ok.injEq] at hst
      subst hst
      exact ⟨Inv_mono P _ _ _ (afterW_grows cs' _) hi1, hpc, hcc⟩
  | compsNil hd pb db k st =>
    intro w hi _
    exact ⟨trivial, fun st' h => by cases h; exact ⟨hi, Nat.le_refl _, Nat.le_refl _⟩⟩
  | compsAbort hd pb db k g rest st cs _ ih =>
    intro w hi _
    exact ⟨(ih w hi trivial).1, fun st' h => by cases h⟩
  | compsIterAbort hd pb db k g rest st st1 p env cs cs' _ hp he hc hab ih =>
    intro w hi hpre
    have h1 := ih w hi trivial
    obtain ⟨hi1, hpc, _⟩ := h1.2 st1 rfl
    have hs := iter_sound P hP hd p hp env cs' hc (afterW cs w) pb (st.pc - pb) (st1.pc - st.pc) db k he
      (fun i hlt => hi1.1 i (by have := hpre.1; omega))
      (fun hdt i a b => afterW_grows cs w _ _ (hpre.2 hdt i a b))
    rw [wbrOK_append]
    exact ⟨⟨h1.1, hs⟩, fun st' h => by cases h⟩
  | compsCons hd pb db k g rest st st1 p env cs cs' cs'' out _ hp he hc hab _ ih1 ih2 =>
    intro w hi hpre
    have h1 := ih1 w hi trivial
    obtain ⟨hi1, hpc, hcc⟩ := h1.2 st1 rfl
    have hs := iter_sound P hP hd p hp env cs' hc (afterW cs w) pb (st.pc - pb) (st1.pc - st.pc) db k he
      (fun i hlt => hi1.1 i (by have := hpre.1; omega))
      (fun hdt i a b => afterW_grows cs w _ _ (hpre.2 hdt i a b))
    have hi2 : Inv P (afterW (cs ++ cs') w) st1 := by
      rw [afterW_append]; exact Inv_mono P _ _ _ (afterW_grows cs' _) hi1
    have hpre2 : JobPre P (afterW (cs ++ cs') w) (.comps hd pb db k rest) st1 :=
      ⟨by have := hpre.1; omega, fun hdt i a b => afterW_grows _ w _ _ (hpre.2 hdt i a b)⟩
    have h2 := ih2 _ hi2 hpre2
    simp only [wbrOK_append, afterW_append] at h2 ⊢
    refine ⟨⟨⟨h1.1, hs⟩, h2.1⟩, ?_⟩
    intro st' hst
    obtain ⟨a, b, c⟩ := h2.2 st' hst
    exact ⟨a, Nat.le_trans hpc b, Nat.le_trans hcc c⟩

/-- the access sequence of a whole draw is write-before-read from a buffer of which nothing is known -/
theorem draw_trace_wbr (P : Pipeline) (hP : PipelineFacts P) (g : Option Carve.Glyph) (cs : List CAcc)
    (h : DrawTrace P g cs) : wbrOK cs (fun _ _ => False) := by
  have h0 : Inv P (fun _ _ => False) ⟨0, 0⟩ :=
    ⟨fun i hlt => absurd hlt (Nat.not_lt_zero _), fun i hlt => absurd hlt (Nat.not_lt_zero _)⟩
  cases h with
  | aborted cs ht => exact (trace_sound P hP _ _ _ _ ht _ h0 trivial).1
  | done st p env cs cs' ht hp he hc =>
    have h1 := trace_sound P hP _ _ _ _ ht _ h0 trivial
    obtain ⟨hi1, _, _⟩ := h1.2 st rfl
    obtain ⟨rest, rfl⟩ := envStarts_split _ _ he
    have hs := seg_sound _ _ _ _ _ _ hP.final p hp _ cs' hc (afterW cs (fun _ _ => False)) (by
      simp only [finalPre, sem_cons, Lin.eval, lin, dot, List.cons_append, List.nil_append]
      exact ⟨fun i _ h => (hi1.1 i (by omega)).1, fun i _ h => (hi1.1 i (by omega)).2, fun i _ h => hi1.2 i (by omega),
        sem_nil _ _⟩)
    rw [wbrOK_append]
    exact ⟨h1.1, hs.1⟩

end FontVerif.ScratchFlow
