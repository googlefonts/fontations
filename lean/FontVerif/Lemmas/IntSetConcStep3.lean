/- C14 / concrete BitSet::process, Steps 3 and 4: the backward in-place merge.  Loop invariant
`S3Inv`, its preservation by the actions and the loops, what it says at the end. -/
import FontVerif.Lemmas.IntSetConcStep1
namespace FontVerif.IntSet

/-- the fixed data of Steps 3/4: `L` are the left map entries after Step 2 (all of them when the
left side is passed through, the kept ones otherwise); `pg0` the pages at loop entry; `N` the size
map and pages were resized to, the exact number of pages of the result -/
structure S3Fix (cop : CPage → CPage → CPage) (ptl ptr : Bool) (o : CBitSet) (L : PMap)
    (pg0 : List CPage) (N : Nat) : Prop where
  sL : (L.map (·.1)).Pairwise (· < ·)
  sB : (o.pageMap.map (·.1)).Pairwise (· < ·)
  total : N = (cmerge cop ptl ptr (cview L pg0) (cview o.pageMap o.pages)).length
  /-- a left-only page exists only when the left side is passed through (otherwise Step 1 has removed it) -/
  matched : ptl = false → ∀ k ∈ L.map (·.1), k ∈ o.pageMap.map (·.1)

structure S3Inv (cop : CPage → CPage → CPage) (ptl ptr : Bool) (o : CBitSet) (L : PMap)
    (pg0 : List CPage) (N : Nat) (st : Step3) : Prop where
  pmLen : st.pm.length = N
  pgLen : st.pages.length = N
  ia : st.idxA ≤ L.length
  ib : st.idxB ≤ o.pageMap.length
  /-- the unprocessed left map entries are still in place -/
  pre : st.pm.take st.idxA = L.take st.idxA
  /-- … and so are their pages -/
  pgs : ∀ e ∈ L.take st.idxA, st.pages.getD e.2 CPage.zero = pg0.getD e.2 CPage.zero
  np : st.nextPage + st.count = N + st.idxA
  npge : L.length ≤ st.nextPage
  /-- the written part of the map, read through `pages`, is the merge of the processed suffixes -/
  out : cview (st.pm.drop st.count) st.pages =
    cmerge cop ptl ptr (cview (L.drop st.idxA) pg0) (cview (o.pageMap.drop st.idxB) o.pages)
  /-- unprocessed left entries and written entries point to pairwise distinct pages, all below `nextPage` -/
  nd : ((L.take st.idxA ++ st.pm.drop st.count).map (·.2)).Nodup
  olt : ∀ e ∈ L.take st.idxA ++ st.pm.drop st.count, e.2 < st.nextPage
  cut : Cut L o.pageMap st.idxA st.idxB

theorem nodup_mid {P out : PMap} {a : Nat × Nat} (h : ((P ++ a :: out).map (·.2)).Nodup) :
    (∀ e ∈ P, e.2 ≠ a.2) ∧ ∀ e ∈ out, e.2 ≠ a.2 := by
  rw [List.map_append, List.map_cons, List.nodup_append, List.nodup_cons] at h
  exact ⟨fun e he => h.2.2 e.2 (List.mem_map_of_mem he) a.2 List.mem_cons_self,
    fun e he hea => h.2.1.1 (hea ▸ List.mem_map_of_mem he)⟩

section actions
variable {cop : CPage → CPage → CPage} {ptl ptr : Bool} {o : CBitSet} {L : PMap}
  {pg0 : List CPage} {N : Nat} {st : Step3}

theorem S3Inv.count_le (h : S3Inv cop ptl ptr o L pg0 N st) : st.count ≤ N := by
  have := h.np; have := h.npge; have := h.ia; omega

/-- how many entries are still to be written below a cut, given what is written above it: the merge
splits at the cut and `N` is the length of the whole -/
theorem S3Fix.below (hf : S3Fix cop ptl ptr o L pg0 N) {i j : Nat} (hcut : Cut L o.pageMap i j) :
    (cmerge cop ptl ptr (cview (L.take i) pg0) (cview (o.pageMap.take j) o.pages)).length +
      (cmerge cop ptl ptr (cview (L.drop i) pg0) (cview (o.pageMap.drop j) o.pages)).length = N := by
  rw [hf.total, cmerge_cut cop ptl ptr hcut pg0 o.pages, List.length_append]

/-- below any cut there is room for the unread left entries: each of them produces a page of the merge of the two
prefixes -/
theorem S3Fix.room (hf : S3Fix cop ptl ptr o L pg0 N) {i j : Nat} (hcut : Cut L o.pageMap i j) (hi : i ≤ L.length) :
    i + (cmerge cop ptl ptr (cview (L.drop i) pg0) (cview (o.pageMap.drop j) o.pages)).length ≤ N := by
  have h1 := cmerge_length_ge cop ptl ptr (cview (L.take i) pg0) (cview (o.pageMap.take j) o.pages)
    (by rw [cview_keys]; exact hf.sL.sublist ((List.take_sublist _ _).map _))
    (by rw [cview_keys]; exact hf.sB.sublist ((List.take_sublist _ _).map _))
    (fun hp => by rw [cview_keys, cview_keys]; exact hcut.matched (hf.matched hp))
  have h2 := hf.below hcut
  rw [cview_length, List.length_take_of_le hi] at h1
  omega

/-- `count` is exactly the number of entries still to be written -/
theorem S3Inv.cnt (hf : S3Fix cop ptl ptr o L pg0 N) (h : S3Inv cop ptl ptr o L pg0 N st) :
    st.count = (cmerge cop ptl ptr (cview (L.take st.idxA) pg0)
      (cview (o.pageMap.take st.idxB) o.pages)).length := by
  have h1 := hf.below h.cut
  have h2 := congrArg List.length h.out
  have := h.count_le
  have := h.pmLen
  simp only [cview_length, List.length_drop] at h1 h2 ⊢
  omega

/-- the write position never overtakes the read position -/
theorem S3Inv.count_ge (hf : S3Fix cop ptl ptr o L pg0 N) (h : S3Inv cop ptl ptr o L pg0 N st) :
    st.idxA ≤ st.count := by
  have := hf.room h.cut h.ia
  have := hf.below h.cut
  rw [h.cnt hf]; omega

theorem S3Inv.left_entry (h : S3Inv cop ptl ptr o L pg0 N st) (hA : 0 < st.idxA) :
    st.pm.getD (st.idxA - 1) (0, 0) = L.getD (st.idxA - 1) (0, 0) :=
  getD_of_take_eq _ _ st.idxA _ _ h.pre (by omega)

/-- entry `e` written at `count - 1`, with new pages, read positions and `nextPage`: what is owed, all of it about the
written part `e :: pm.drop count` -/
theorem S3Inv.write (h : S3Inv cop ptl ptr o L pg0 N st) {e : Nat × Nat} {pages' : List CPage} {ia ib np : Nat}
    (hc : 0 < st.count) (hia : ia ≤ st.idxA) (hic : ia ≤ st.count - 1) (hib : ib ≤ st.idxB) (hpl : pages'.length = N)
    (hpgs : ∀ x ∈ L.take ia, pages'.getD x.2 CPage.zero = pg0.getD x.2 CPage.zero)
    (hnp : np + (st.count - 1) = N + ia) (hnpge : L.length ≤ np)
    (hout : cview (e :: st.pm.drop st.count) pages' =
      cmerge cop ptl ptr (cview (L.drop ia) pg0) (cview (o.pageMap.drop ib) o.pages))
    (hnd : ((L.take ia ++ e :: st.pm.drop st.count).map (·.2)).Nodup)
    (holt : ∀ x ∈ L.take ia ++ e :: st.pm.drop st.count, x.2 < np) (hcut : Cut L o.pageMap ia ib) :
    S3Inv cop ptl ptr o L pg0 N ⟨st.pm.set (st.count - 1) e, pages', ia, ib, st.count - 1, np⟩ := by
  have hdrop := drop_set_pred st.pm st.count e hc (h.pmLen ▸ h.count_le)
  exact ⟨List.length_set.trans h.pmLen, hpl, Nat.le_trans hia h.ia, Nat.le_trans hib h.ib,
    take_set_of_take_eq e h.pre hia hic, hpgs, hnp, hnpge, by rw [hdrop]; exact hout, by rw [hdrop]; exact hnd,
    by rw [hdrop]; exact holt, hcut⟩

/-- what writing the last unprocessed left entry `a` at `count - 1` does to the map (shared by `emitBoth` /
`emitLeft`): `a` moves from the unprocessed to the written entries, the list of the two together stays the same -/
theorem S3Inv.left_write (hf : S3Fix cop ptl ptr o L pg0 N) (h : S3Inv cop ptl ptr o L pg0 N st)
    (hA : 0 < st.idxA) {a : Nat × Nat} (ha : L.getD (st.idxA - 1) (0, 0) = a) :
    0 < st.count ∧ st.idxA - 1 ≤ st.count - 1 ∧
    L.take (st.idxA - 1) ++ a :: st.pm.drop st.count = L.take st.idxA ++ st.pm.drop st.count ∧
    st.nextPage + (st.count - 1) = N + (st.idxA - 1) := by
  have hcge := h.count_ge hf
  exact ⟨Nat.lt_of_lt_of_le hA hcge, Nat.sub_le_sub_right hcge 1,
    by rw [snoc_take L st.idxA (0, 0) hA h.ia, ha, List.append_assoc]; rfl, by have := h.np; omega⟩

/-- `Ordering::Equal` -/
theorem S3Inv.emitBoth (hf : S3Fix cop ptl ptr o L pg0 N) (h : S3Inv cop ptl ptr o L pg0 N st)
    (hA : 0 < st.idxA) (hB : 0 < st.idxB)
    (heq : (L.getD (st.idxA - 1) (0, 0)).1 = (o.pageMap.getD (st.idxB - 1) (0, 0)).1) :
    S3Inv cop ptl ptr o L pg0 N (emitBoth cop o st) := by
  have hia := h.ia
  have hib := h.ib
  have hle := h.left_entry hA
  have hcut := h.cut.both hf.sL hf.sB hA hia hB hib heq
  have hdA := cons_drop L st.idxA (0, 0) hA hia
  have hdB := cons_drop o.pageMap st.idxB (0, 0) hB hib
  have haT := mem_getD_take L st.idxA (0, 0) hA hia
  generalize ha : L.getD (st.idxA - 1) (0, 0) = a at *
  generalize hb : o.pageMap.getD (st.idxB - 1) (0, 0) = b at *
  obtain ⟨hcpos, hic, hU, hnp⟩ := h.left_write hf hA ha
  obtain ⟨hnA, hout_ne⟩ := nodup_mid (a := a) (by rw [hU]; exact h.nd)
  have hclt : st.count - 1 < st.pm.length := Nat.sub_one_lt_of_le hcpos (h.pmLen ▸ h.count_le)
  have ha2 : a.2 < st.pages.length := by
    have := h.olt a (List.mem_append_left _ haT); have := h.np; have := h.count_ge hf
    rw [h.pgLen]; omega
  have hpm' : (st.pm.set (st.count - 1) a).getD (st.idxA - 1) (0, 0) = a := by
    rw [getD_set]
    by_cases hc : st.count - 1 = st.idxA - 1
    · rw [if_pos ⟨hc, hclt⟩]
    · rw [if_neg (fun h => hc h.1)]; exact hle
  have hpmc : (st.pm.set (st.count - 1) a).getD (st.count - 1) (0, 0) = a := by
    rw [getD_set, if_pos ⟨rfl, hclt⟩]
  unfold FontVerif.IntSet.emitBoth
  simp only [hle, pageForIndex, setPageForIndex, hpm', hpmc, hb, h.pgs a haT]
  refine h.write hcpos (Nat.sub_le _ _) hic (Nat.sub_le _ _) (List.length_set.trans h.pgLen) ?_ hnp h.npge ?_
    (by rw [hU]; exact h.nd) (by rw [hU]; exact h.olt) hcut
  · intro e he
    rw [getD_set, if_neg (fun hc => hnA e he hc.1.symm)]
    exact h.pgs e (mem_take_pred L _ e he)
  · rw [cview_cons, getD_set, if_pos ⟨rfl, ha2⟩, cview_set_notin _ _ _ _ hout_ne, h.out, hdA, hdB,
      cview_cons, cview_cons, cmerge]
    simp [heq]

/-- a left-only page can only occur when the left side is passed through (otherwise Step 1 has
already removed it from the map) -/
theorem S3Inv.left_only_ptl (hf : S3Fix cop ptl ptr o L pg0 N) (h : S3Inv cop ptl ptr o L pg0 N st) (hA : 0 < st.idxA)
    (hlt : ∀ y ∈ o.pageMap.take st.idxB, y.1 < (L.getD (st.idxA - 1) (0, 0)).1) : ptl = true := by
  cases hp : ptl with
  | true => rfl
  | false =>
    exfalso
    obtain ⟨y, hy, hxy⟩ := List.mem_map.1 (h.cut.matched (hf.matched hp) _
      (List.mem_map_of_mem (mem_getD_take L st.idxA (0, 0) hA h.ia)))
    have := hlt y hy
    omega

/-- `Ordering::Greater` with `passthrough_left` (and Step 4, left) -/
theorem S3Inv.emitLeft (hf : S3Fix cop ptl ptr o L pg0 N) (h : S3Inv cop ptl ptr o L pg0 N st)
    (hA : 0 < st.idxA)
    (hlt : ∀ y ∈ o.pageMap.take st.idxB, y.1 < (L.getD (st.idxA - 1) (0, 0)).1) :
    S3Inv cop ptl ptr o L pg0 N (emitLeft st) := by
  have hptl := h.left_only_ptl hf hA hlt
  subst hptl
  have hia := h.ia
  have hle := h.left_entry hA
  have hcut := h.cut.left hf.sL hA hia hlt
  have hdA := cons_drop L st.idxA (0, 0) hA hia
  have haT := mem_getD_take L st.idxA (0, 0) hA hia
  generalize ha : L.getD (st.idxA - 1) (0, 0) = a at *
  obtain ⟨hcpos, hic, hU, hnp⟩ := h.left_write hf hA ha
  unfold FontVerif.IntSet.emitLeft
  simp only [hle]
  refine h.write hcpos (Nat.sub_le _ _) hic (Nat.le_refl _) h.pgLen (fun e he => h.pgs e (mem_take_pred L _ e he))
    hnp h.npge ?_ (by rw [hU]; exact h.nd) (by rw [hU]; exact h.olt) hcut
  · rw [cview_cons, h.pgs a haT, h.out, hdA, cview_cons]
    exact (cmerge_left_prefix cop true ptr [(a.1, pg0.getD a.2 CPage.zero)] _ _
      (klt_cview (xs := [a]) (fun x hx y hy => h.cut x
        (List.mem_append_left _ (List.mem_singleton.1 hx ▸ haT)) y (List.mem_append_right _ hy)) pg0 o.pages)).symm

/-- what consuming a right-only entry `b` does (shared by `emitRight` / `skipRight`): the cut moves
below it, and it is the head of what remains to be merged -/
theorem S3Inv.right_step (hf : S3Fix cop ptl ptr o L pg0 N) (h : S3Inv cop ptl ptr o L pg0 N st)
    (hB : 0 < st.idxB) {b : Nat × Nat} (hb : o.pageMap.getD (st.idxB - 1) (0, 0) = b)
    (hlt : ∀ x ∈ L.take st.idxA, x.1 < b.1) :
    Cut L o.pageMap st.idxA (st.idxB - 1) ∧
    cmerge cop ptl ptr (cview (L.drop st.idxA) pg0) (cview (o.pageMap.drop (st.idxB - 1)) o.pages) =
      (if ptr then [(b.1, o.pages.getD b.2 CPage.zero)] else []) ++ cview (st.pm.drop st.count) st.pages := by
  have hbT : b ∈ o.pageMap.take st.idxB := hb ▸ mem_getD_take o.pageMap st.idxB (0, 0) hB h.ib
  refine ⟨h.cut.right hf.sB hB h.ib (hb ▸ hlt), ?_⟩
  rw [cons_drop o.pageMap st.idxB (0, 0) hB h.ib, hb, cview_cons, h.out]
  exact cmerge_right_prefix cop ptl ptr _ [(b.1, o.pages.getD b.2 CPage.zero)] _
    (klt_cview (xs := [b]) (fun x hx y hy => h.cut x
      (List.mem_append_right _ (List.mem_singleton.1 hx ▸ hbT)) y (List.mem_append_left _ hy)) o.pages pg0)

/-- `Ordering::Less` with `passthrough_right` (and Step 4, right) -/
theorem S3Inv.emitRight (hf : S3Fix cop ptl ptr o L pg0 N) (h : S3Inv cop ptl ptr o L pg0 N st)
    (hB : 0 < st.idxB) (hptr : ptr = true)
    (hlt : ∀ x ∈ L.take st.idxA, x.1 < (o.pageMap.getD (st.idxB - 1) (0, 0)).1) :
    S3Inv cop ptl ptr o L pg0 N (emitRight o st) := by
  subst hptr
  generalize hb : o.pageMap.getD (st.idxB - 1) (0, 0) = b at *
  obtain ⟨hcut, hout⟩ := h.right_step hf hB hb hlt
  simp only [if_true, List.singleton_append] at hout
  -- the new entry and the written part lie below the new cut, where there is room for the `idxA` unread ones too
  have hroom := hf.room hcut h.ia
  have hcN := h.count_le
  have hpl := h.pmLen
  rw [hout] at hroom
  simp only [cview_length, List.length_cons, List.length_drop] at hroom
  have hcpos : 0 < st.count := by omega
  have hcge : st.idxA ≤ st.count - 1 := by omega
  have hcle : st.count ≤ st.pm.length := hpl ▸ hcN
  have hnp := h.np
  have hnpge := h.npge
  have hnplt : st.nextPage < st.pages.length := by rw [h.pgLen]; omega
  have hout_ne : ∀ e ∈ st.pm.drop st.count, e.2 ≠ st.nextPage :=
    fun e he => Nat.ne_of_lt (h.olt e (List.mem_append_right _ he))
  have hpmc : (st.pm.set (st.count - 1) (b.1, st.nextPage)).getD (st.count - 1) (0, 0) =
      (b.1, st.nextPage) := by rw [getD_set, if_pos ⟨rfl, Nat.sub_one_lt_of_le hcpos hcle⟩]
  unfold FontVerif.IntSet.emitRight
  simp only [pageForIndex, setPageForIndex, hb, hpmc]
  refine h.write hcpos (Nat.le_refl _) hcge (Nat.sub_le _ _) (List.length_set.trans h.pgLen) ?_
    (by omega) (Nat.le_succ_of_le hnpge) ?_ ?_ ?_ hcut
  · intro e he
    rw [getD_set, if_neg (fun hc => Nat.ne_of_lt (h.olt e (List.mem_append_left _ he)) hc.1.symm)]
    exact h.pgs e he
  · rw [cview_cons, getD_set, if_pos ⟨rfl, hnplt⟩, cview_set_notin _ _ _ _ hout_ne]
    exact hout.symm
  · rw [(List.Perm.map (fun e : Nat × Nat => e.2) List.perm_middle).nodup_iff, List.map_cons,
      List.nodup_cons, List.mem_map]
    exact ⟨fun ⟨e, he, hen⟩ => Nat.ne_of_lt (h.olt e he) hen, h.nd⟩
  · intro e he
    rcases List.mem_cons.1 (List.perm_middle.mem_iff.1 he) with rfl | he
    · exact Nat.lt_succ_self _
    · exact Nat.lt_succ_of_lt (h.olt e he)

/-- `Ordering::Less` without `passthrough_right` -/
theorem S3Inv.skipRight (hf : S3Fix cop ptl ptr o L pg0 N) (h : S3Inv cop ptl ptr o L pg0 N st)
    (hB : 0 < st.idxB) (hptr : ptr = false)
    (hlt : ∀ x ∈ L.take st.idxA, x.1 < (o.pageMap.getD (st.idxB - 1) (0, 0)).1) :
    S3Inv cop ptl ptr o L pg0 N (skipRight st) := by
  subst hptr
  obtain ⟨hcut, hout⟩ := h.right_step hf hB rfl hlt
  exact ⟨h.pmLen, h.pgLen, h.ia, Nat.le_trans (Nat.sub_le _ _) h.ib, h.pre, h.pgs, h.np, h.npge,
    hout.symm, h.nd, h.olt, hcut⟩

end actions

section loops
variable {cop : CPage → CPage → CPage} {ptl ptr : Bool} {o : CBitSet} {L : PMap}
  {pg0 : List CPage} {N : Nat}

theorem take_all_lt_of_last {l : PMap} (hs : (l.map (·.1)).Pairwise (· < ·)) (i : Nat) (h : 0 < i)
    (h2 : i ≤ l.length) (k : Nat) (hk : (l.getD (i - 1) (0, 0)).1 < k) : ∀ y ∈ l.take i, y.1 < k := by
  intro y hy
  rw [snoc_take l i (0, 0) h h2, List.mem_append, List.mem_singleton] at hy
  rcases hy with hy | rfl
  · have := sorted_split l hs i h h2 y hy; omega
  · exact hk

theorem step3_inv (hf : S3Fix cop ptl ptr o L pg0 N) (st : Step3) (h : S3Inv cop ptl ptr o L pg0 N st) :
    S3Inv cop ptl ptr o L pg0 N (processStep3 cop ptl ptr o st) ∧
      ((processStep3 cop ptl ptr o st).idxA = 0 ∨ (processStep3 cop ptl ptr o st).idxB = 0) := by
  fun_induction processStep3 cop ptl ptr o st with
  | case1 st hc aMajor bMajor heq ih =>
    exact ih (h.emitBoth hf hc.1 hc.2 (by rw [← h.left_entry hc.1]; exact heq))
  | case2 st hc aMajor bMajor hne hgt ih =>
    have hlt := take_all_lt_of_last hf.sB st.idxB hc.2 h.ib (L.getD (st.idxA - 1) (0, 0)).1
      (by rw [← h.left_entry hc.1]; exact hgt)
    simp only [dite_eq_ite, if_pos (h.left_only_ptl hf hc.1 hlt)] at ih ⊢
    exact ih (h.emitLeft hf hc.1 hlt)
  | case3 st hc aMajor bMajor hne hgt ih =>
    have hlt := take_all_lt_of_last hf.sL st.idxA hc.1 h.ia (o.pageMap.getD (st.idxB - 1) (0, 0)).1
      (by rw [← h.left_entry hc.1]; show aMajor < bMajor; omega)
    by_cases hp : ptr = true
    · simp only [dite_eq_ite, if_pos hp] at ih ⊢
      exact ih (h.emitRight hf hc.2 hp hlt)
    · simp only [dite_eq_ite, if_neg hp] at ih ⊢
      exact ih (h.skipRight hf hc.2 (by simpa using hp) hlt)
  | case4 st hc => exact ⟨h, by omega⟩

theorem step4Left_inv (hf : S3Fix cop ptl ptr o L pg0 N) (st : Step3) (h : S3Inv cop ptl ptr o L pg0 N st)
    (h0 : st.idxA = 0 ∨ st.idxB = 0) :
    S3Inv cop ptl ptr o L pg0 N (processStep4Left st) ∧ (processStep4Left st).idxA = 0 := by
  fun_induction processStep4Left st with
  | case1 st hc ih =>
    have hb0 : st.idxB = 0 := by omega
    exact ih (h.emitLeft hf hc (by rw [hb0]; simp)) (Or.inr hb0)
  | case2 st hc => exact ⟨h, by omega⟩

theorem step4Right_inv (hf : S3Fix cop ptl ptr o L pg0 N) (hptr : ptr = true) (st : Step3)
    (h : S3Inv cop ptl ptr o L pg0 N st) (h0 : st.idxA = 0) :
    S3Inv cop ptl ptr o L pg0 N (processStep4Right o st) ∧ (processStep4Right o st).idxA = 0 ∧
      (processStep4Right o st).idxB = 0 := by
  fun_induction processStep4Right o st with
  | case1 st hc ih => exact ih (h.emitRight hf hc hptr (by rw [h0]; simp)) h0
  | case2 st hc => exact ⟨h, h0, by omega⟩

theorem S3Inv.idxA_zero_of_nptl (hf : S3Fix cop ptl ptr o L pg0 N) {st : Step3} (h : S3Inv cop ptl ptr o L pg0 N st)
    (hp : ptl = false)
    (h0 : st.idxA = 0 ∨ st.idxB = 0) : st.idxA = 0 := by
  rcases h0 with h0 | h0
  · exact h0
  · by_cases hA : st.idxA = 0
    · exact hA
    · exfalso
      have := h.cut.matched (hf.matched hp) _
        (List.mem_map_of_mem (mem_getD_take L st.idxA (0, 0) (by omega) h.ia))
      rw [h0] at this; simp at this

theorem S3Inv.final (hf : S3Fix cop ptl ptr o L pg0 N) {st : Step3} (h : S3Inv cop ptl ptr o L pg0 N st)
    (hA : st.idxA = 0) (hB : ptr = true → st.idxB = 0) :
    st.pm.length = N ∧ st.pages.length = N ∧
    cview st.pm st.pages = cmerge cop ptl ptr (cview L pg0) (cview o.pageMap o.pages) ∧
    (st.pm.map (·.2)).Nodup ∧ ∀ e ∈ st.pm, e.2 < N := by
  have hcnt : st.count = 0 := by
    rw [h.cnt hf, hA, List.take_zero]
    simp only [cview, List.map_nil]
    rw [cmerge_nil_left]
    cases hp : ptr with
    | true => simp [hB hp]
    | false => simp
  have hout := h.out
  have hnd := h.nd
  have holt := h.olt
  have hnp := h.np
  rw [hcnt, List.drop_zero] at hout holt hnd
  rw [hA] at hout hnd holt
  refine ⟨h.pmLen, h.pgLen, ?_, hnd, fun e he => by have := holt e he; omega⟩
  rw [hout, cmerge_cut cop ptl ptr h.cut pg0 o.pages, hA, List.take_zero, List.drop_zero]
  simp only [cview, List.map_nil]
  rw [cmerge_nil_left]
  cases hp : ptr with
  | true => simp [hB hp]
  | false => simp

end loops

end FontVerif.IntSet
