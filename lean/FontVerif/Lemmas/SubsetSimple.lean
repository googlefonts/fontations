/-
`subset_simple_glyph` (Model/Subset.lean `subsetSimple`) through read-fonts' `SimpleGlyph::read`, on a record given by
its parts: header, instruction length, instructions, glyph data.
-/
import FontVerif.Lemmas.SubsetBytes
import FontVerif.Lemmas.SubsetOutline
namespace FontVerif.SubsetOutline
open FontVerif.Subset

/-- the walk after a run of `m ≤ left` points: it ended with the exact count, or goes on -/
theorem trim_next {n cwf left m i' cb' : Nat} {rest' : Bytes} (hn : cwf + left = n) (hi' : 0 < i')
    (hle : m ≤ left) (ih : cwf + m < n → trimGo n rest' i' cb' (cwf + m) ≠ 0) :
    (if cwf + m ≥ n then trimEnd n i' cb' (cwf + m) else trimGo n rest' i' cb' (cwf + m)) ≠ 0 := by
  by_cases hge : cwf + m ≥ n
  · rw [if_pos hge, trimEnd_eq (by omega)]; omega
  · rw [if_neg hge]; exact ih (by omega)

theorem trimGo_ne_zero_of_resolve (n : Nat) : ∀ (d : Bytes) (i cb cwf pos left xl yl : Nat) (r : Nat × Nat × Nat),
    cwf + left = n → 0 < left → Glyf.resolveCoordsLen d pos left xl yl = some r → trimGo n d i cb cwf ≠ 0
  | [], i, cb, cwf, pos, left, xl, yl, r, hn, hl, h => by
    simp only [Glyf.resolveCoordsLen] at h
    rw [if_neg (by omega)] at h
    cases h
  | f :: rest, i, cb, cwf, pos, left, xl, yl, r, hn, hl, h => by
    unfold Glyf.resolveCoordsLen at h
    rw [if_neg (by omega)] at h
    by_cases hb : (f &&& 0x08 != 0) = true
    · have hrep : Glyf.hasBit f Glyf.REPEAT = true := hb
      simp only [hrep, if_true] at h
      match rest, h with
      | [], h => cases h
      | c :: rest, h =>
        simp only at h
        by_cases hgt : c + 1 > left
        · rw [if_pos hgt] at h; cases h
        rw [if_neg hgt] at h
        rw [trimGo_rep _ _ _ _ _ _ _ hb]
        exact trim_next hn (by omega) (by omega) (fun _ =>
          trimGo_ne_zero_of_resolve n rest _ _ _ _ (left - (c + 1)) _ _ r (by omega) (by omega) h)
    · have hrep : Glyf.hasBit f Glyf.REPEAT = false := Bool.eq_false_iff.mpr hb
      simp only [hrep, Bool.false_eq_true, if_false] at h
      rw [trimGo_one _ _ _ _ _ _ hrep]
      exact trim_next hn (by omega) (by omega) (fun _ =>
        trimGo_ne_zero_of_resolve n rest _ _ _ _ (left - 1) _ _ r (by omega) (by omega) h)

def coordTot (R : List (Nat × Nat)) : Nat := (R.map (fun r => coordSize r.1 * r.2)).sum

theorem trimGo_runs (n : Nat) : ∀ (R : List (Nat × Nat)) (more : Bytes) (i cb cwf : Nat),
    (∀ r ∈ R, runOk r) → R ≠ [] → cwf + counts R = n →
    trimGo n (encRuns R ++ more) i cb cwf = i + (encRuns R).length + cb + coordTot R
  | [], _, _, _, _, _, h, _ => absurd rfl h
  | (f, m) :: rs, more, i, cb, cwf, hok, _, hn => by
    have hrs : ∀ r ∈ rs, runOk r := fun r hr => hok r (List.mem_cons_of_mem _ hr)
    have hct : coordTot ((f, m) :: rs) = coordSize f * m + coordTot rs := by simp [coordTot]
    rw [counts_cons] at hn
    -- after this run: the walk ends (no runs left) or goes on
    have hnext : ∀ (i' cb' : Nat), (if cwf + m ≥ n then trimEnd n i' cb' (cwf + m)
          else trimGo n (encRuns rs ++ more) i' cb' (cwf + m)) = i' + (encRuns rs).length + cb' + coordTot rs := by
      intro i' cb'
      by_cases hz : rs = []
      · subst hz
        simp only [counts, List.map_nil, List.sum_nil] at hn
        rw [if_pos (by omega), trimEnd_eq (by omega)]; simp [encRuns, coordTot]
      · have hpos := counts_pos_of_ne_nil rs hrs hz
        rw [if_neg (by omega), trimGo_runs n rs more _ _ _ hrs hz (by omega)]
    rw [encRuns_cons, hct]
    rcases run_cases f m (hok _ (List.mem_cons_self ..)) with ⟨hb, e, hm⟩ | ⟨hb, e, hm⟩
    · rw [e]
      simp only [List.cons_append, List.nil_append]
      rw [trimGo_rep _ _ _ _ _ _ _ hb, show m - 1 + 1 = m by omega, hnext]
      simp only [List.length_cons]
      generalize coordSize f * m = q
      omega
    · subst hm
      rw [e]
      simp only [List.cons_append, List.nil_append]
      rw [trimGo_one _ _ _ _ _ _ hb, hnext]
      simp only [List.length_cons]
      omega

theorem wrapI16_small (n : Nat) (h : n < 32768) : wrapI16 (n : Int) = (n : Int) := by
  unfold wrapI16
  simp only []
  split <;> omega

/-- the view `SimpleGlyph::read` produces for header ++ instructionLength ++ instructions ++ glyph data -/
def viewOf (hdr instr gd : Bytes) (n : Nat) : Glyf.SimpleView :=
  { nContours := n
    xMin := (Glyf.i16At hdr 2).getD 0
    yMin := (Glyf.i16At hdr 4).getD 0
    xMax := (Glyf.i16At hdr 6).getD 0
    yMax := (Glyf.i16At hdr 8).getD 0
    endPts := (List.range n).map (fun i => (Glyf.u16At hdr (10 + 2 * i)).getD 0)
    instructions := instr
    glyphData := gd }

theorem parts_anatomy {hdr instr gd D : Bytes} {x y nc : Nat} (hD : hdr ++ x :: y :: (instr ++ gd) = D)
    (hhl : hdr.length = 10 + 2 * nc) (hil : instr.length = x * 256 + y) :
    D.length = 12 + 2 * nc + (x * 256 + y) + gd.length ∧ u16At D (10 + 2 * nc) = x * 256 + y ∧
    D.take (12 + 2 * nc) = hdr ++ [x, y] ∧ D.drop (12 + 2 * nc) = instr ++ gd ∧
    D.drop (12 + 2 * nc + (x * 256 + y)) = gd := by
  subst hD
  have e : 12 + 2 * nc = hdr.length + 2 := by omega
  have hdrop : (hdr ++ x :: y :: (instr ++ gd)).drop (12 + 2 * nc) = instr ++ gd := by
    rw [e, ← List.drop_drop, List.drop_left]; rfl
  refine ⟨by simp only [List.length_append, List.length_cons]; omega, by rw [← hhl]; exact sU16At_at_end _ _ _ _, ?_,
    hdrop, ?_⟩
  · rw [e, List.take_length_add_append]; rfl
  · rw [← List.drop_drop, hdrop, ← hil, List.drop_left]

theorem readSimple_parts (hdr instr gd : Bytes) (n x y : Nat) (hn : hdr.length = 10 + 2 * n)
    (h0 : Glyf.u16At hdr 0 = some n) (hlt : n < 32768) (hil : instr.length = x * 256 + y) :
    Glyf.readSimple (hdr ++ x :: y :: (instr ++ gd)) = some (viewOf hdr instr gd n) := by
  have hin : ∀ p, p + 2 ≤ hdr.length → Glyf.u16At (hdr ++ x :: y :: (instr ++ gd)) p = Glyf.u16At hdr p :=
    fun p hp => gU16At_append_left _ _ p hp
  have hin' : ∀ p, p + 2 ≤ hdr.length → Glyf.i16At (hdr ++ x :: y :: (instr ++ gd)) p = Glyf.i16At hdr p :=
    fun p hp => gI16At_append_left _ _ p hp
  have hend : (List.range n).map (fun i => (Glyf.u16At (hdr ++ x :: y :: (instr ++ gd)) (10 + 2 * i)).getD 0) =
      (List.range n).map (fun i => (Glyf.u16At hdr (10 + 2 * i)).getD 0) :=
    List.map_congr_left (fun i hi => by rw [hin _ (by have := List.mem_range.mp hi; omega)])
  have e0 : Glyf.i16At (hdr ++ x :: y :: (instr ++ gd)) 0 = some (n : Int) := by
    rw [hin' 0 (by omega), Glyf.i16At, h0]; simp [wrapI16_small n hlt]
  generalize hD : hdr ++ x :: y :: (instr ++ gd) = D at *
  obtain ⟨hlen, hilD, _, hdrop1, hdrop2⟩ := parts_anatomy hD hn hil
  have htk : (instr ++ gd).take (x * 256 + y) = instr := by rw [← hil, List.take_left]
  unfold Glyf.readSimple
  rw [e0]
  simp only [show ¬ ((n : Int) < 0) by omega, if_false, Int.toNat_natCast, gu16_eq D (10 + 2 * n) (by omega), hilD,
    show 10 + 2 * n + 2 = 12 + 2 * n by omega, show 12 + 2 * n + (x * 256 + y) ≤ D.length by omega, if_true, viewOf,
    hin' 2 (by omega), hin' 4 (by omega), hin' 6 (by omega), hin' 8 (by omega), hend, hdrop1, hdrop2, htk]

theorem viewOf_last (hdr instr gd : Bytes) (nc : Nat) (hhl : hdr.length = 10 + 2 * nc) (hnc : nc ≠ 0) :
    (viewOf hdr instr gd nc).endPts.getLast? = some (u16At hdr (10 + 2 * (nc - 1))) := by
  simp only [viewOf]
  rw [getLast_map_range nc _ hnc, gu16_eq hdr _ (by omega)]
  rfl

theorem subsetGlyphBytes_parts (flags : Nat) (gmap : Nat → Option Nat) (hdr instr gd : Bytes) (x y nc : Nat)
    (hhl : hdr.length = 10 + 2 * nc) (hlt : nc < 32768) (hh0 : u16At hdr 0 = nc) (hil : instr.length = x * 256 + y) :
    subsetGlyphBytes flags gmap (hdr ++ x :: y :: (instr ++ gd)) =
      subsetSimple flags (hdr ++ x :: y :: (instr ++ gd)) nc := by
  have h0 : u16At (hdr ++ x :: y :: (instr ++ gd)) 0 = nc := by rw [sU16At_append_left _ _ _ (by omega), hh0]
  generalize hD : hdr ++ x :: y :: (instr ++ gd) = D at *
  obtain ⟨hlen, hilD, _⟩ := parts_anatomy hD hhl hil
  unfold subsetGlyphBytes
  rw [if_neg (by omega), h0]
  simp only [hlt, if_true]
  rw [if_neg (by omega), hilD, if_neg (by omega)]

theorem ovl_append (flags : Nat) (A B : Bytes) :
    (if hasFlag flags F_SET_OVERLAPS then (A ++ B).set A.length ((A ++ B).getD A.length 0 ||| 0x40) else A ++ B) =
      A ++ ovl flags B := by
  unfold ovl
  split
  · rw [List.set_append_right _ _ (Nat.le_refl _), getD_append_right' _ _ _ (Nat.le_refl _), Nat.sub_self]
  · rfl

theorem subsetSimple_eq (flags : Nat) (hdr instr gd : Bytes) (x y nc : Nat)
    (hhl : hdr.length = 10 + 2 * nc) (hnc : nc ≠ 0) (hil : instr.length = x * 256 + y) :
    subsetSimple flags (hdr ++ x :: y :: (instr ++ gd)) nc =
      if trimSimpleGlyphPadding gd (u16At hdr (10 + 2 * (nc - 1)) + 1) = 0 ∨
         gd.length < trimSimpleGlyphPadding gd (u16At hdr (10 + 2 * (nc - 1)) + 1) then .bytes [] else
      .bytes (hdr ++ (if hasFlag flags F_NO_HINTING
        then 0 :: 0 :: ovl flags (gd.take (trimSimpleGlyphPadding gd (u16At hdr (10 + 2 * (nc - 1)) + 1)))
        else x :: y :: (instr ++ ovl flags (gd.take (trimSimpleGlyphPadding gd (u16At hdr (10 + 2 * (nc - 1)) + 1)))))) := by
  have hlast : u16At (hdr ++ x :: y :: (instr ++ gd)) (10 + 2 * (nc - 1)) = u16At hdr (10 + 2 * (nc - 1)) :=
    sU16At_append_left _ _ _ (by omega)
  generalize hD : hdr ++ x :: y :: (instr ++ gd) = D at *
  obtain ⟨_, hilD, htake12, hdrop12, hdropG⟩ := parts_anatomy hD hhl hil
  have hinstr : (D.drop (12 + 2 * nc)).take (x * 256 + y) = instr := by rw [hdrop12, ← hil, List.take_left]
  unfold subsetSimple
  rw [if_neg hnc]
  simp only [show 10 + 2 * nc + 2 = 12 + 2 * nc by omega, show 12 + 2 * nc - 2 = 10 + 2 * nc by omega,
    show 12 + 2 * nc - 1 = 11 + 2 * nc by omega, hilD, hdropG, hlast, htake12, hinstr]
  generalize trimSimpleGlyphPadding gd (u16At hdr (10 + 2 * (nc - 1)) + 1) = k
  clear hD hlast hilD htake12 hdrop12 hinstr hdropG
  by_cases hk0 : k = 0
  · rw [if_pos hk0, if_pos (Or.inl hk0)]
  rw [if_neg hk0]
  by_cases hkl : gd.length < k
  · rw [if_pos (Or.inr hkl)]
    simp only [sliceGet, show ¬ (0 ≤ k ∧ k ≤ gd.length) by omega, if_false]
  rw [if_neg (show ¬ (k = 0 ∨ gd.length < k) by omega)]
  simp only [sliceGet, show (0 ≤ k ∧ k ≤ gd.length) by omega, and_self, if_true, List.drop_zero, Nat.sub_zero]
  rw [ovl_append]
  by_cases hnh : hasFlag flags F_NO_HINTING = true
  · simp only [hnh, if_true]
    rw [List.set_append_right _ _ (by omega), List.set_append_right _ _ (by omega),
      show 10 + 2 * nc - hdr.length = 0 by omega, show 11 + 2 * nc - hdr.length = 1 by omega]
    simp
  · simp only [hnh]
    simp

theorem record_parts (d : Bytes) (nc il : Nat) (hil : il = u16At d (10 + 2 * nc)) (hlen : 12 + 2 * nc + il ≤ d.length) :
    d = d.take (10 + 2 * nc) ++ d.getD (10 + 2 * nc) 0 :: d.getD (11 + 2 * nc) 0 ::
        ((d.drop (12 + 2 * nc)).take il ++ d.drop (12 + 2 * nc + il)) := by
  have h1 : d = d.take (10 + 2 * nc) ++ d.drop (10 + 2 * nc) := (List.take_append_drop _ _).symm
  have h2 := drop_two d (10 + 2 * nc) (by omega)
  have e : 10 + 2 * nc + 1 = 11 + 2 * nc := by omega
  have e2 : 10 + 2 * nc + 2 = 12 + 2 * nc := by omega
  rw [e, e2] at h2
  have h3 : d.drop (12 + 2 * nc) = (d.drop (12 + 2 * nc)).take il ++ d.drop (12 + 2 * nc + il) := by
    have : d.drop (12 + 2 * nc + il) = (d.drop (12 + 2 * nc)).drop il := by rw [List.drop_drop]
    rw [this]; exact (List.take_append_drop _ _).symm
  rw [← h3, ← h2]
  exact h1

theorem simple_record (flags : Nat) (gmap : Nat → Option Nat) (d out : Bytes) (hs : u16At d 0 < 32768)
    (h : subsetGlyphBytes flags gmap d = .bytes out) :
    ∃ (hdr instr gd : Bytes) (x y nc : Nat), d = hdr ++ x :: y :: (instr ++ gd) ∧ hdr.length = 10 + 2 * nc ∧
      nc < 32768 ∧ u16At hdr 0 = nc ∧ instr.length = x * 256 + y ∧ subsetSimple flags d nc = .bytes out := by
  unfold subsetGlyphBytes at h
  split at h
  · cases h
  simp only [hs, if_true] at h
  split at h
  · cases h
  split at h
  · cases h
  rename_i hl2 hl12 hlil
  generalize hnc : u16At d 0 = nc at *
  have hil : ((d.drop (12 + 2 * nc)).take (u16At d (10 + 2 * nc))).length =
      d.getD (10 + 2 * nc) 0 * 256 + d.getD (11 + 2 * nc) 0 := by
    rw [List.length_take, List.length_drop, show 11 + 2 * nc = 10 + 2 * nc + 1 by omega]
    exact Nat.min_eq_left (by omega)
  exact ⟨_, _, _, _, _, nc, record_parts d nc _ rfl (by omega), by rw [List.length_take]; omega, hs,
    by rw [u16At_take d _ 0 (by omega), hnc], hil, h⟩

/-- a well-formed simple glyph record by its parts: header (10 + 2·nc bytes), instruction length word `x y`, instructions,
flag runs `R` covering exactly the point count, their coordinate bytes `C` -/
structure SimpleRec where
  hdr : Bytes
  x : Nat
  y : Nat
  instr : Bytes
  nc : Nat
  R : List (Nat × Nat)
  C : Bytes
  hhl : hdr.length = 10 + 2 * nc
  hnc : nc ≠ 0
  hlt : nc < 32768
  hh0 : u16At hdr 0 = nc
  hil : instr.length = x * 256 + y
  hok : ∀ r ∈ R, runOk r
  hcnt : counts R = u16At hdr (10 + 2 * (nc - 1)) + 1
  hC : C.length = xTot R + yTot R

namespace SimpleRec

/-- the record, followed by `extra` (the padding that is trimmed, or whatever follows the record in its loca range) -/
def bytes (S : SimpleRec) (extra : Bytes) : Bytes :=
  S.hdr ++ S.x :: S.y :: (S.instr ++ (encRuns S.R ++ (S.C ++ extra)))

theorem hR (S : SimpleRec) : S.R ≠ [] := fun h => by have := S.hcnt; rw [h] at this; simp [counts] at this

/-- what `subset_simple_glyph` makes of it: instructions dropped under NO_HINTING, the overlap bit on the first run -/
def sub (flags : Nat) (S : SimpleRec) : SimpleRec :=
  { S with
    x := if hasFlag flags F_NO_HINTING then 0 else S.x
    y := if hasFlag flags F_NO_HINTING then 0 else S.y
    instr := if hasFlag flags F_NO_HINTING then [] else S.instr
    R := ovlRuns flags S.R
    hil := by split <;> simp [S.hil]
    hok := ovlRuns_ok flags S.R S.hok
    hcnt := by rw [ovlRuns_counts]; exact S.hcnt
    hC := by rw [ovlRuns_xTot, ovlRuns_yTot]; exact S.hC }

theorem sub_sub (flags : Nat) (S : SimpleRec) : (S.sub flags).sub flags = S.sub flags := by
  unfold sub
  congr 1 <;> simp only [ovlRuns_idem] <;> split <;> rfl

theorem subset_bytes (flags : Nat) (gmap : Nat → Option Nat) (S : SimpleRec) (extra : Bytes) :
    subsetGlyphBytes flags gmap (S.bytes extra) = .bytes ((S.sub flags).bytes []) := by
  have hR := S.hR
  -- the trim walk stops exactly behind the coordinate bytes
  have htrim : trimSimpleGlyphPadding (encRuns S.R ++ (S.C ++ extra)) (u16At S.hdr (10 + 2 * (S.nc - 1)) + 1) =
      (encRuns S.R ++ S.C).length := by
    unfold trimSimpleGlyphPadding
    rw [trimGo_runs _ S.R (S.C ++ extra) 0 0 0 S.hok hR (by have := S.hcnt; omega), List.length_append]
    have := coordTot_eq S.R
    have := S.hC
    unfold coordTot
    omega
  unfold bytes
  rw [subsetGlyphBytes_parts flags gmap S.hdr S.instr _ S.x S.y S.nc S.hhl S.hlt S.hh0 S.hil,
    subsetSimple_eq flags S.hdr S.instr _ S.x S.y S.nc S.hhl S.hnc S.hil, htrim,
    if_neg (by have := List.length_pos_iff.mpr (encRuns_ne_nil S.R hR); simp only [List.length_append]; omega),
    ← List.append_assoc (encRuns S.R), List.take_left', ovl_runs flags S.R S.C hR]
  · simp only [sub, List.append_nil]
    split <;> simp
  · rfl

theorem of_kept (flags : Nat) (gmap : Nat → Option Nat) (d out : Bytes) (hs : u16At d 0 < 32768)
    (h : subsetGlyphBytes flags gmap d = .bytes out) (hne : out ≠ []) :
    ∃ (S : SimpleRec) (extra : Bytes), d = S.bytes extra ∧ out = (S.sub flags).bytes [] := by
  obtain ⟨hdr, instr, gd, x, y, nc, hd, hhl, hlt, hh0, hil, hsub⟩ := simple_record flags gmap d out hs h
  have hnc : nc ≠ 0 := by
    intro h0
    rw [h0] at hsub
    simp only [subsetSimple, if_true, GlyphRes.bytes.injEq] at hsub
    exact hne hsub.symm
  rw [hd, subsetSimple_eq flags hdr instr gd x y nc hhl hnc hil] at hsub
  split at hsub
  · exact absurd (GlyphRes.bytes.inj hsub).symm hne
  rename_i hk
  -- the trim walk succeeded: the glyph data starts with flag runs `R`, and holds their coordinate bytes
  obtain ⟨R, hok, ⟨M, hM⟩, hcnt, hkk⟩ := trimGo_spec _ gd 0 0 0 _ rfl (fun h0 => hk (Or.inl h0))
  rw [coordTot_eq] at hkk
  have hgl : gd.length = (encRuns R).length + M.length := by rw [← hM, List.length_append]
  have hk' : trimGo (u16At hdr (10 + 2 * (nc - 1)) + 1) gd 0 0 0 ≤ gd.length := Nat.le_of_not_lt (fun h' => hk (Or.inr h'))
  let S : SimpleRec := ⟨hdr, x, y, instr, nc, R, M.take (xTot R + yTot R), hhl, hnc, hlt, hh0, hil, hok,
    by unfold counts; omega, by rw [List.length_take]; omega⟩
  have hdS : d = S.bytes (M.drop (xTot R + yTot R)) := by
    rw [hd, ← hM]; simp only [bytes, S, List.take_append_drop]
  refine ⟨S, _, hdS, ?_⟩
  rw [hdS, subset_bytes] at h
  exact (GlyphRes.bytes.inj h).symm

def view (S : SimpleRec) (extra : Bytes) : Glyf.SimpleView := viewOf S.hdr S.instr (encRuns S.R ++ (S.C ++ extra)) S.nc

theorem read (S : SimpleRec) (extra : Bytes) : Glyf.readSimple (S.bytes extra) = some (S.view extra) :=
  readSimple_parts S.hdr S.instr _ S.nc S.x S.y S.hhl (by rw [gu16_eq S.hdr 0 (by have := S.hhl; omega), S.hh0]) S.hlt S.hil

theorem view_last (S : SimpleRec) (extra : Bytes) :
    (S.view extra).endPts.getLast? = some (u16At S.hdr (10 + 2 * (S.nc - 1))) :=
  viewOf_last S.hdr S.instr _ S.nc S.hhl S.hnc

theorem points (S : SimpleRec) (extra : Bytes) (h256 : ∀ r ∈ S.R, r.2 ≤ 256) :
    (S.view extra).points = if u16At S.hdr (10 + 2 * (S.nc - 1)) + 1 > 65535 then [] else ptsOfRuns S.R S.C :=
  (points_fast_of_runs _ _ S.R S.C extra (S.view_last extra) rfl S.hok S.hcnt S.hC).1 h256

theorem fast (S : SimpleRec) (extra : Bytes) : (S.view extra).readPointsFast = fastOfRuns S.R S.C :=
  (points_fast_of_runs _ _ S.R S.C extra (S.view_last extra) rfl S.hok S.hcnt S.hC).2

end SimpleRec

theorem simple_decodes_equal (flags : Nat) (gmap : Nat → Option Nat) (d out pad : Bytes)
    (hb : ∀ b ∈ d, b < 256) (hs : u16At d 0 < 32768)
    (h : subsetGlyphBytes flags gmap d = .bytes out) (hne : out ≠ []) :
    ∃ v v', Glyf.readSimple d = some v ∧ Glyf.readSimple (out ++ pad) = some v' ∧
      v'.nContours = v.nContours ∧ v'.xMin = v.xMin ∧ v'.yMin = v.yMin ∧ v'.xMax = v.xMax ∧ v'.yMax = v.yMax ∧
      v'.endPts = v.endPts ∧
      v'.instructions = (if hasFlag flags F_NO_HINTING then [] else v.instructions) ∧
      v'.points = v.points ∧
      v'.readPointsFast = v.readPointsFast ∧
      (∀ j, j < 10 → out.getD j 0 = d.getD j 0) := by
  obtain ⟨S, extra, hd, hout⟩ := SimpleRec.of_kept flags gmap d out hs h hne
  have h256 : ∀ r ∈ S.R, r.2 ≤ 256 :=
    counts_256_of_bytes S.R S.hok (fun b hbm => hb b (by rw [hd]; simp [SimpleRec.bytes, hbm]))
  have hpad : out ++ pad = (S.sub flags).bytes pad := by rw [hout]; simp [SimpleRec.bytes]
  have hhl := S.hhl
  refine ⟨S.view extra, (S.sub flags).view pad, hd ▸ S.read extra, hpad ▸ (S.sub flags).read pad, rfl, rfl, rfl, rfl, rfl,
    rfl, rfl, ?_, ?_, ?_⟩
  · -- OVERLAP_SIMPLE on the first flag changes no decoded point
    rw [S.points extra h256, (S.sub flags).points pad (ovlRuns_256 flags S.R h256)]
    exact congrArg _ (ptsOfRuns_ovl flags S.R S.C)
  · rw [S.fast, (S.sub flags).fast]; exact fastOfRuns_ovl flags S.R S.C
  · intro j hj
    rw [hd, hout]
    exact (getD_append_left' _ _ _ (by show j < S.hdr.length; omega)).trans
      (getD_append_left' _ _ _ (by show j < S.hdr.length; omega)).symm

end FontVerif.SubsetOutline
