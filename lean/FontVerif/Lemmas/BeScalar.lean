/-
The big-endian scalar codecs of Model/Fixed.lean at an arbitrary byte width: recursion on the most
significant byte, the round trips, byte order = order of the unsigned values, and `BigEndian<T>::cmp` / `eq` at
width `n` (`be_cmp_s`, `be_cmp_u`, `be_eq_iff_s`, `be_eq_iff_u`).
-/
import FontVerif.Model.Scalars
namespace FontVerif.BeScalar
open FontVerif.Fixed FontVerif.Scalars

theorem pow256_pos (n : Nat) : 0 < (256 : Int) ^ n := Int.pow_pos (by decide)

def Bytes (bs : List Int) : Prop := ∀ b ∈ bs, inU8 b

theorem toBeU_succ (n : Nat) (v : Int) : toBeU (n + 1) v = (v / 256 ^ n % 256) :: toBeU n v := by
  simp only [toBeU, List.range_succ_eq_map, List.map_cons, List.map_map]
  congr 1
  apply List.map_congr_left
  intro i _
  simp only [Function.comp, Nat.succ_eq_add_one]
  congr 3
  omega

theorem length_toBeU (n : Nat) (v : Int) : (toBeU n v).length = n := by simp [toBeU]

theorem bytes_toBeU (n : Nat) (v : Int) : Bytes (toBeU n v) := by
  intro b hb
  simp only [toBeU, List.mem_map] at hb
  obtain ⟨i, _, rfl⟩ := hb
  unfold inU8; omega

theorem fromBeU_cons (b : Int) (bs : List Int) :
    fromBeU (b :: bs) = b * 256 ^ bs.length + fromBeU bs := by
  have foldl_acc : ∀ (bs : List Int) (acc : Int),
      bs.foldl (fun acc b => acc * 256 + b) acc = acc * 256 ^ bs.length + fromBeU bs := by
    intro bs
    induction bs with
    | nil => intro acc; simp [fromBeU]
    | cons c cs ih =>
      intro acc
      rw [fromBeU, List.foldl_cons, List.foldl_cons, ih, ih (0 * 256 + c), List.length_cons,
        Int.pow_succ]
      grind
  rw [fromBeU, List.foldl_cons, foldl_acc]; simp

theorem fromBeU_range {bs : List Int} (h : Bytes bs) :
    0 ≤ fromBeU bs ∧ fromBeU bs < 256 ^ bs.length := by
  induction bs with
  | nil => simp [fromBeU]
  | cons b bs ih =>
    have hb : inU8 b := h b (by simp)
    have ih := ih (fun c hc => h c (by simp [hc]))
    unfold inU8 at hb
    rw [fromBeU_cons, List.length_cons, Int.pow_succ]
    have h1 : 0 ≤ b * 256 ^ bs.length := Int.mul_nonneg hb.1 (Int.le_of_lt (pow256_pos _))
    have h2 : b * 256 ^ bs.length ≤ 255 * 256 ^ bs.length :=
      Int.mul_le_mul_of_nonneg_right (by omega) (Int.le_of_lt (pow256_pos _))
    omega

theorem toBeU_add_mul (n : Nat) (v k : Int) : toBeU n (v + k * 256 ^ n) = toBeU n v := by
  induction n generalizing k with
  | zero => rfl
  | succ n ih =>
    have e : v + k * 256 ^ (n + 1) = v + k * 256 * 256 ^ n := by rw [Int.pow_succ]; grind
    rw [toBeU_succ, toBeU_succ, e, ih, Int.add_mul_ediv_right _ _ (Int.ne_of_gt (pow256_pos n)),
      Int.add_mul_emod_self_right]

theorem fromBeU_toBeU (n : Nat) (v : Int) : fromBeU (toBeU n v) = v % 256 ^ n := by
  induction n with
  | zero => simp [toBeU, fromBeU]
  | succ n ih =>
    rw [toBeU_succ, fromBeU_cons, length_toBeU, ih, Int.pow_succ]
    have hM := pow256_pos n
    generalize (256 : Int) ^ n = M at *
    -- quotient `v / M / 256` and remainder `(v / M % 256) * M + v % M` of `v` by `M * 256`
    have h1 := Int.mul_ediv_add_emod v M
    have h2 := Int.emod_nonneg v (Int.ne_of_gt hM)
    have h3 := Int.emod_lt_of_pos v hM
    have h4 : 0 ≤ v / M % 256 * M := Int.mul_nonneg (by omega) (Int.le_of_lt hM)
    have h5 : v / M % 256 * M ≤ 255 * M := Int.mul_le_mul_of_nonneg_right (by omega) (Int.le_of_lt hM)
    refine ((Int.ediv_emod_unique (q := v / M / 256) (by omega)).2 ⟨?_, by omega, by omega⟩).2.symm
    have h6 := Int.mul_ediv_add_emod (v / M) 256
    grind

theorem fromBeU_toBeU_of_range (n : Nat) {v : Int} (h : 0 ≤ v ∧ v < 256 ^ n) :
    fromBeU (toBeU n v) = v := by
  rw [fromBeU_toBeU, Int.emod_eq_of_lt h.1 h.2]

theorem toBeU_fromBeU (n : Nat) {bs : List Int} (hl : bs.length = n) (h : Bytes bs) :
    toBeU n (fromBeU bs) = bs := by
  subst hl
  induction bs with
  | nil => rfl
  | cons b bs ih =>
    have hb : inU8 b := h b (by simp)
    have hbs : Bytes bs := fun c hc => h c (by simp [hc])
    have hr := fromBeU_range hbs
    unfold inU8 at hb
    rw [List.length_cons, toBeU_succ, fromBeU_cons, Int.add_comm, toBeU_add_mul, ih hbs,
      Int.add_mul_ediv_right _ _ (Int.ne_of_gt (pow256_pos _)), Int.ediv_eq_zero_of_lt hr.1 hr.2,
      Int.zero_add, Int.emod_eq_of_lt hb.1 hb.2]

theorem fromBeS_toBeS (n : Nat) {v : Int} (h : -(256 ^ n / 2) ≤ v ∧ v < 256 ^ n / 2) :
    fromBeS n (toBeS n v) = v := by
  have hM := pow256_pos n
  simp only [fromBeS, toBeS, fromBeU_toBeU, Int.emod_emod]
  generalize (256 : Int) ^ n = M at *
  by_cases hv : 0 ≤ v
  · rw [Int.emod_eq_of_lt hv (by omega), if_pos h.2]
  · rw [← Int.add_emod_right, Int.emod_eq_of_lt (by omega) (by omega), if_neg (by omega)]; omega

theorem toBeS_fromBeS (n : Nat) {bs : List Int} (hl : bs.length = n) (h : Bytes bs) :
    toBeS n (fromBeS n bs) = bs := by
  subst hl
  have hr := fromBeU_range h
  have e : fromBeS bs.length bs % 256 ^ bs.length = fromBeU bs := by
    unfold fromBeS; simp only []
    split
    · exact Int.emod_eq_of_lt hr.1 hr.2
    · rw [Int.sub_emod_right, Int.emod_eq_of_lt hr.1 hr.2]
  rw [toBeS, e, toBeU_fromBeU _ rfl h]

theorem cmpInt_eq_compare (a b : Int) : cmpInt a b = compare a b := rfl

theorem cmp_eq_iff (a b : Int) : cmpInt a b = .eq ↔ a = b := Int.compare_eq_eq

theorem cmp_lt_iff (a b : Int) : cmpInt a b = .lt ↔ a < b := Int.compare_eq_lt

theorem cmp_gt_iff (a b : Int) : cmpInt a b = .gt ↔ b < a := Int.compare_eq_gt

theorem cmp_add_left (z x y : Int) : cmpInt (z + x) (z + y) = cmpInt x y := by
  simp only [cmpInt, Int.add_lt_add_iff_left, Int.add_right_inj]

theorem lex_cons (a b : Int) (as bs : List Int) :
    lexCmp (a :: as) (b :: bs) = (cmpInt a b).then (lexCmp as bs) := by
  unfold cmpInt
  rw [lexCmp]
  by_cases h1 : a < b
  · simp [h1, Ordering.then]
  · by_cases h2 : a = b
    · simp [h2, Ordering.then]
    · simp [h1, h2, Ordering.then]

theorem lex_singleton (a b : Int) : lexCmp [a] [b] = cmpInt a b := by
  rw [lex_cons, lexCmp]; cases cmpInt a b <;> rfl

theorem lex_eq_iff : ∀ (a b : List Int), lexCmp a b = .eq ↔ a = b
  | [], [] => by simp [lexCmp]
  | [], _ :: _ => by simp [lexCmp]
  | _ :: _, [] => by simp [lexCmp]
  | a :: as, b :: bs => by
    unfold lexCmp
    by_cases h1 : a < b
    · simp [h1]; intro h; omega
    · by_cases h2 : a = b
      · subst h2; simp [lex_eq_iff as bs]
      · simp [h1, h2]

theorem cmp_digits (a b x y K : Int) (hx : 0 ≤ x ∧ x < K) (hy : 0 ≤ y ∧ y < K) :
    cmpInt (a * K + x) (b * K + y) = (cmpInt a b).then (cmpInt x y) := by
  have hK : 0 ≤ K := by omega
  rcases Int.lt_trichotomy a b with h | h | h
  · have h1 : (a + 1) * K ≤ b * K := Int.mul_le_mul_of_nonneg_right (by omega) hK
    rw [Int.add_mul, Int.one_mul] at h1
    rw [(cmp_lt_iff a b).mpr h, (cmp_lt_iff _ _).mpr (by omega)]; rfl
  · subst h
    rw [(cmp_eq_iff a a).mpr rfl, cmp_add_left]; rfl
  · have h1 : (b + 1) * K ≤ a * K := Int.mul_le_mul_of_nonneg_right (by omega) hK
    rw [Int.add_mul, Int.one_mul] at h1
    rw [(cmp_gt_iff a b).mpr h, (cmp_gt_iff _ _).mpr (by omega)]; rfl

theorem lex_bytes_is_unsigned_order : ∀ {as bs : List Int}, as.length = bs.length → Bytes as → Bytes bs →
    lexCmp as bs = cmpInt (fromBeU as) (fromBeU bs)
  | [], [], _, _, _ => rfl
  | a :: as, b :: bs, hl, ha, hb => by
    have hl : as.length = bs.length := by simpa using hl
    have ha' : Bytes as := fun c hc => ha c (by simp [hc])
    have hb' : Bytes bs := fun c hc => hb c (by simp [hc])
    rw [lex_cons, fromBeU_cons, fromBeU_cons, hl,
      cmp_digits _ _ _ _ _ (hl ▸ fromBeU_range ha') (fromBeU_range hb'),
      lex_bytes_is_unsigned_order hl ha' hb']

theorem lex_toBeU (n : Nat) {x y : Int} (hx : 0 ≤ x ∧ x < 256 ^ n) (hy : 0 ≤ y ∧ y < 256 ^ n) :
    lexCmp (toBeU n x) (toBeU n y) = cmpInt x y := by
  rw [lex_bytes_is_unsigned_order (by simp only [length_toBeU]) (bytes_toBeU n x) (bytes_toBeU n y),
    fromBeU_toBeU_of_range n hx, fromBeU_toBeU_of_range n hy]

theorem lex_toBeS (n : Nat) (a b : Int) :
    lexCmp (toBeS n a) (toBeS n b) = cmpInt (a % 256 ^ n) (b % 256 ^ n) :=
  have r (v : Int) : 0 ≤ v % 256 ^ n ∧ v % 256 ^ n < 256 ^ n :=
    ⟨Int.emod_nonneg v (Int.ne_of_gt (pow256_pos n)), Int.emod_lt_of_pos v (pow256_pos n)⟩
  lex_toBeU n (r a) (r b)

theorem lex_toBeS_signed (n : Nat) {a b : Int} (ha : -(256 ^ n / 2) ≤ a ∧ a < 256 ^ n / 2)
    (hb : -(256 ^ n / 2) ≤ b ∧ b < 256 ^ n / 2) :
    (a < 0 ∧ 0 ≤ b → lexCmp (toBeS n a) (toBeS n b) = .gt) ∧
    ((a < 0 ∧ b < 0) ∨ (0 ≤ a ∧ 0 ≤ b) → lexCmp (toBeS n a) (toBeS n b) = cmpInt a b) := by
  have hM := pow256_pos n
  rw [lex_toBeS]
  generalize (256 : Int) ^ n = M at *
  have neg_mod : ∀ v : Int, -(M / 2) ≤ v → v < 0 → v % M = M + v := fun v h1 h2 => by
    rw [← Int.add_emod_right, Int.emod_eq_of_lt (by omega) (by omega)]; omega
  have pos_mod : ∀ v : Int, 0 ≤ v → v < M / 2 → v % M = v := fun v h1 h2 =>
    Int.emod_eq_of_lt h1 (by omega)
  refine ⟨fun h => ?_, fun h => ?_⟩
  · rw [neg_mod a ha.1 h.1, pos_mod b h.2 hb.2, cmp_gt_iff]; omega
  · rcases h with h | h
    · rw [neg_mod a ha.1 h.1, neg_mod b hb.1 h.2, cmp_add_left]
    · rw [pos_mod a h.1 ha.2, pos_mod b h.2 hb.2]

theorem be_cmp_s (n : Nat) {a b : Int} (ha : -(256 ^ n / 2) ≤ a ∧ a < 256 ^ n / 2)
    (hb : -(256 ^ n / 2) ≤ b ∧ b < 256 ^ n / 2) :
    beCmp (.s n) (toBeS n a) (toBeS n b) = cmpInt a b := by
  simp only [beCmp, key, fromBeS_toBeS n ha, fromBeS_toBeS n hb, lex_singleton]

theorem be_cmp_u (n : Nat) {a b : Int} (ha : 0 ≤ a ∧ a < 256 ^ n) (hb : 0 ≤ b ∧ b < 256 ^ n) :
    beCmp (.u n) (toBeU n a) (toBeU n b) = cmpInt a b := by
  simp only [beCmp, key, fromBeU_toBeU_of_range n ha, fromBeU_toBeU_of_range n hb, lex_singleton]

theorem be_eq_iff_s (n : Nat) {as bs : List Int} (hla : as.length = n) (hlb : bs.length = n)
    (ha : Bytes as) (hb : Bytes bs) : key (.s n) as = key (.s n) bs ↔ as = bs := by
  constructor
  · intro h
    have h' : fromBeS n as = fromBeS n bs := by simpa [key] using h
    rw [← toBeS_fromBeS n hla ha, h', toBeS_fromBeS n hlb hb]
  · intro h; rw [h]

theorem be_eq_iff_u (n : Nat) {as bs : List Int} (hla : as.length = n) (hlb : bs.length = n)
    (ha : Bytes as) (hb : Bytes bs) : key (.u n) as = key (.u n) bs ↔ as = bs := by
  constructor
  · intro h
    have h' : fromBeU as = fromBeU bs := by simpa [key] using h
    rw [← toBeU_fromBeU n hla ha, h', toBeU_fromBeU n hlb hb]
  · intro h; rw [h]

end FontVerif.BeScalar
