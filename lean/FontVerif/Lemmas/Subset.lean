/- The five closure / plan / hmtx / loca / trim lemma modules Props/C17 rests on, under one import. -/
import FontVerif.Lemmas.SubsetClosure
import FontVerif.Lemmas.SubsetPlan
import FontVerif.Lemmas.SubsetHmtx
import FontVerif.Lemmas.SubsetLoca
import FontVerif.Lemmas.SubsetTrim
