/-
Facts about the definitions of Model/Base.lean (two's-complement wrapping, big-endian bytes), products and
quotients of bounded integers, and the `Except` plumbing that every property's lemmas need (`Do`).
-/
import FontVerif.Model.Base
import FontVerif.Lemmas.Lists
namespace FontVerif

theorem wrapI16_of_in {x : Int} (h1 : -32768 ≤ x) (h2 : x < 32768) : wrapI16 x = x := by
  unfold wrapI16; simp only []; split <;> omega

theorem wrapI16_id {x : Int} (h : inI16 x) : wrapI16 x = x := wrapI16_of_in h.1 h.2

/-- `as i16` sees only the low 16 bits -/
theorem wrapI16_emod (x : Int) : wrapI16 x % 65536 = x % 65536 := by
  unfold wrapI16; simp only []; split <;> omega

theorem wrapI16_congr {a b : Int} (h : a % 65536 = b % 65536) : wrapI16 a = wrapI16 b := by
  unfold wrapI16; rw [h]

theorem wrapI32_of_in {x : Int} (h1 : -2147483648 ≤ x) (h2 : x < 2147483648) : wrapI32 x = x := by
  unfold wrapI32; simp only []; split <;> omega

theorem wrapI32_id {x : Int} (h : inI32 x) : wrapI32 x = x := wrapI32_of_in h.1 h.2

theorem wrapI64_of_in {x : Int} (h1 : -9223372036854775808 ≤ x) (h2 : x < 9223372036854775808) :
    wrapI64 x = x := by
  unfold wrapI64; simp only []; split <;> omega

theorem wrapI64_id {x : Int} (h : inI64 x) : wrapI64 x = x := wrapI64_of_in h.1 h.2

theorem wrapI32_in (x : Int) : inI32 (wrapI32 x) := by
  unfold inI32 wrapI32; simp only []; split <;> omega

theorem wrapI32_emod (x : Int) : wrapI32 x % 4294967296 = x % 4294967296 := by
  unfold wrapI32; simp only []; split <;> omega

/-- `wrapI32` reads its argument modulo 2^32: every "wrap an operand first" fact is this -/
theorem wrapI32_congr {a b : Int} (h : a % 4294967296 = b % 4294967296) : wrapI32 a = wrapI32 b := by
  unfold wrapI32; rw [h]

theorem wrapI32_wrap_add (a b : Int) : wrapI32 (wrapI32 a + b) = wrapI32 (a + b) :=
  wrapI32_congr (by have := wrapI32_emod a; omega)

theorem wrapI32_add_wrap (a b : Int) : wrapI32 (a + wrapI32 b) = wrapI32 (a + b) :=
  wrapI32_congr (by have := wrapI32_emod b; omega)

theorem wrapI32_idem (a : Int) : wrapI32 (wrapI32 a) = wrapI32 a := wrapI32_id (wrapI32_in a)

theorem mul_bound {a b A B : Int} (ha : -A ≤ a ∧ a ≤ A) (hb : -B ≤ b ∧ b ≤ B) :
    -(A * B) ≤ a * b ∧ a * b ≤ A * B := by
  -- the four products of the slacks are non-negative; the rest is linear in the products
  have h1 : 0 ≤ (A - a) * (B - b) := Int.mul_nonneg (by omega) (by omega)
  have h2 : 0 ≤ (A + a) * (B + b) := Int.mul_nonneg (by omega) (by omega)
  have h3 : 0 ≤ (A - a) * (B + b) := Int.mul_nonneg (by omega) (by omega)
  have h4 : 0 ≤ (A + a) * (B - b) := Int.mul_nonneg (by omega) (by omega)
  simp only [Int.sub_mul, Int.mul_sub, Int.add_mul, Int.mul_add] at h1 h2 h3 h4
  generalize A * B = p1 at *
  generalize a * b = p2 at *
  generalize A * b = p3 at *
  generalize a * B = p4 at *
  omega

theorem mul_bound_nonneg {a b A B : Int} (ha : 0 ≤ a ∧ a ≤ A) (hb : 0 ≤ b ∧ b ≤ B) :
    0 ≤ a * b ∧ a * b ≤ A * B :=
  ⟨Int.mul_nonneg ha.1 hb.1, Int.mul_le_mul ha.2 hb.2 hb.1 (by omega)⟩

theorem pow_toNat_add (x y : Int) (hx : 0 ≤ x) (hy : 0 ≤ y) :
    (2 : Nat) ^ (x + y).toNat = 2 ^ x.toNat * 2 ^ y.toNat := by
  rw [Int.toNat_add hx hy, Nat.pow_add]

theorem ediv_range {n d : Int} (hn : 0 ≤ n) (hd : 0 < d) : 0 ≤ n / d ∧ n / d ≤ n := by
  refine ⟨Int.ediv_nonneg hn (by omega), ?_⟩
  apply Int.ediv_le_of_le_mul hd
  have : n * 1 ≤ n * d := Int.mul_le_mul_of_nonneg_left (by omega) hn
  omega

theorem tdiv_range {n d : Int} (hn : 0 ≤ n) (hd : 0 < d) : 0 ≤ Int.tdiv n d ∧ Int.tdiv n d ≤ n := by
  rw [Int.tdiv_eq_ediv_of_nonneg hn]; exact ediv_range hn hd

/-- truncating division by a positive divisor shrinks towards zero … -/
theorem tdiv_bounds {n d : Int} (hd : 0 < d) :
    (0 ≤ n → 0 ≤ Int.tdiv n d ∧ Int.tdiv n d ≤ n) ∧ (n < 0 → n ≤ Int.tdiv n d ∧ Int.tdiv n d ≤ 0) := by
  constructor
  · intro hn; exact tdiv_range hn hd
  · intro hn
    have h := tdiv_range (n := -n) (by omega) hd
    rw [Int.neg_tdiv] at h
    omega

/-- … and multiplying back by the divisor does not leave `[min(n,0), max(n,0)]`. -/
theorem tdiv_mul_bounds {n d : Int} (hd : 0 < d) :
    (0 ≤ n → 0 ≤ Int.tdiv n d * d ∧ Int.tdiv n d * d ≤ n) ∧
    (n < 0 → n ≤ Int.tdiv n d * d ∧ Int.tdiv n d * d ≤ 0) := by
  have key : ∀ m : Int, 0 ≤ m → 0 ≤ Int.tdiv m d * d ∧ Int.tdiv m d * d ≤ m := by
    intro m hm
    rw [Int.tdiv_eq_ediv_of_nonneg hm]
    exact ⟨Int.mul_nonneg (Int.ediv_nonneg hm (by omega)) (by omega), Int.ediv_mul_le m (by omega)⟩
  constructor
  · intro hn; exact key n hn
  · intro hn
    have h := key (-n) (by omega)
    rw [Int.neg_tdiv, Int.neg_mul] at h
    omega

/-- truncating division in terms of floor division (which `omega` understands), by the sign of the dividend. -/
theorem tdiv_by_sign (x d : Int) : Int.tdiv x d = if 0 ≤ x then x / d else -((-x) / d) := by
  split
  · rename_i h; exact Int.tdiv_eq_ediv_of_nonneg h
  · rw [show x = -(-x) by omega, Int.neg_tdiv, Int.tdiv_eq_ediv_of_nonneg (by omega), Int.neg_neg]

theorem beBytes_length (n v : Nat) : (beBytes n v).length = n := by simp [beBytes]

theorem mem_beBytes_lt {n v b : Nat} (h : b ∈ beBytes n v) : b < 256 := by
  obtain ⟨i, -, rfl⟩ := List.mem_map.1 h
  exact Nat.mod_lt _ (by decide)

theorem beValue_append_one (xs : List Nat) (b : Nat) : beValue (xs ++ [b]) = beValue xs * 256 + b := by
  simp [beValue, List.foldl_append]

theorem beBytes_succ (n v : Nat) : beBytes (n + 1) v = beBytes n (v / 256) ++ [v % 256] := by
  unfold beBytes
  rw [List.range_succ, List.map_append]
  congr 1
  · apply List.map_congr_left
    intro i hi
    have hi' : i < n := List.mem_range.mp hi
    rw [show n + 1 - 1 - i = (n - 1 - i) + 1 by omega, Nat.pow_succ, Nat.mul_comm, Nat.div_div_eq_div_mul]
  · simp

theorem beValue_beBytes (n v : Nat) (h : v < 256 ^ n) : beValue (beBytes n v) = v := by
  induction n generalizing v with
  | zero => simp at h; subst h; simp [beBytes, beValue]
  | succ n ih =>
    rw [beBytes_succ, beValue_append_one, ih (v / 256) (by rw [Nat.pow_succ] at h; omega)]
    omega

/-- the four base-256 digits of a 32-bit value (one `omega` over four divisions, paid here once) -/
theorem digits4_mod (v : Nat) :
    v / 16777216 % 256 * 16777216 + v / 65536 % 256 * 65536 + v / 256 % 256 * 256 + v % 256 = v % 4294967296 := by
  omega

theorem digits4 {v : Nat} (h : v < 4294967296) :
    v / 16777216 % 256 * 16777216 + v / 65536 % 256 * 65536 + v / 256 % 256 * 256 + v % 256 = v := by
  rw [digits4_mod, Nat.mod_eq_of_lt h]

theorem foldl_be_lt : ∀ (bs : List Nat) (acc : Nat), (∀ b ∈ bs, b < 256) →
    bs.foldl (fun a b => a * 256 + b) acc < (acc + 1) * 256 ^ bs.length := by
  intro bs
  induction bs with
  | nil => intro acc _; simp
  | cons b r ih =>
    intro acc h
    have hb : b < 256 := h b (by simp)
    simp only [List.foldl_cons, List.length_cons]
    calc _ < (acc * 256 + b + 1) * 256 ^ r.length := ih _ (fun x hx => h x (by simp [hx]))
      _ ≤ ((acc + 1) * 256) * 256 ^ r.length := Nat.mul_le_mul_right _ (by omega)
      _ = (acc + 1) * 256 ^ (r.length + 1) := by rw [Nat.pow_succ, Nat.mul_assoc, Nat.mul_comm 256]

theorem beValue_lt (bs : List Nat) (h : ∀ b ∈ bs, b < 256) : beValue bs < 256 ^ bs.length := by
  simpa [beValue] using foldl_be_lt bs 0 h

theorem beValue_zero_cons (l : List Nat) : beValue (0 :: l) = beValue l := by
  simp [beValue]

theorem beValue_drop_zeros : ∀ (l : List Nat) (k : Nat), k ≤ (l.takeWhile (· = 0)).length →
    beValue (l.drop k) = beValue l
  | _, 0, _ => rfl
  | [], k + 1, _ => rfl
  | a :: l, k + 1, h => by
    by_cases ha : a = 0
    · subst ha
      rw [List.drop_succ_cons, beValue_zero_cons]
      exact beValue_drop_zeros l k (by simpa [List.takeWhile] using h)
    · simp [List.takeWhile, ha] at h

/-! ## a successful run of a `do` block in `Except`

`h : f .. = .ok r` for a `do` block is taken apart one `←` at a time with `bind_ok`, `ite_bind_ok`
and `guard_ok`, through which the do-elaborator's join points unify; `error_else_ok` and `map_ok` are the same for a plain
`if .. then .error e else x` and for `x.map f`. -/

namespace Do

theorem bind_ok {ε α β : Type} {x : Except ε α} {f : α → Except ε β} {b : β}
    (h : x >>= f = .ok b) : ∃ a, x = .ok a ∧ f a = .ok b := by
  cases x with
  | error e => cases h
  | ok a => exact ⟨a, rfl, h⟩

/-- a conditional whose branches both continue with `k` succeeded: so did `k` -/
theorem ite_bind_ok {ε α β : Type} {c : Prop} [Decidable c] {x y : Except ε α} {k : α → Except ε β}
    {b : β} (h : (if c then x >>= k else y >>= k) = .ok b) : ∃ a, k a = .ok b := by
  split at h <;> exact (bind_ok h).imp fun _ => And.right

/-- `if c then throw e` in front of a continuation that succeeded: the guard did not fire -/
theorem guard_ok {ε β : Type} {c : Prop} [Decidable c] {e : ε} {k : Unit → Except ε β} {b : β}
    (h : (if c then throw e >>= k else k ()) = .ok b) : ¬ c ∧ k () = .ok b := by
  split at h
  · cases h
  · exact ⟨‹_›, h⟩

/-- a plain `if c then .error e else x` that succeeded: the guard did not fire -/
theorem error_else_ok {ε α : Type} {c : Prop} [Decidable c] {e : ε} {x : Except ε α} {a : α}
    (h : (if c then Except.error e else x) = .ok a) : ¬c ∧ x = .ok a := by
  by_cases hc : c
  · rw [if_pos hc] at h; cases h
  · rw [if_neg hc] at h; exact ⟨hc, h⟩

theorem map_ok {ε α β : Type} {x : Except ε α} {f : α → β} {b : β} (h : f <$> x = .ok b) :
    ∃ a, x = .ok a ∧ b = f a := by
  cases x with
  | error e => cases h
  | ok a => exact ⟨a, rfl, by cases h; rfl⟩

end Do

theorem ok_of_toOption {ε α : Type} (e : Except ε α) (x : α) (h : e.toOption = some x) : e = .ok x := by
  cases e with
  | error _ => simp [Except.toOption] at h
  | ok a => simp [Except.toOption] at h; rw [h]

end FontVerif
