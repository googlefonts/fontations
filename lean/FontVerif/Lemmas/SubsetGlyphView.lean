/-
What a glyph record decodes to (through the read-fonts reader model Model/Glyf.lean) and the glyph-id renaming of a
decoded glyph: the vocabulary of the combined statement for `subset_glyph` (Props/C17Outline.lean).
-/
import FontVerif.Lemmas.SubsetSimple
import FontVerif.Lemmas.SubsetComposite
namespace FontVerif.SubsetOutline
open FontVerif.Subset

/-- what drawing looks at in a glyph record: contour structure, bounding box, points with their on-curve flags
(simple glyph) / components with flags, glyph id, anchor and transform (composite glyph) -/
inductive Decoded where
  | simple (nContours xMin yMin xMax yMax : Int) (endPts : List Nat) (points : List Glyf.Point)
  | composite (xMin yMin xMax yMax : Int) (components : List Glyf.RComponent)
deriving DecidableEq, Repr

/-- `Glyph::read` (dispatch on the sign of numberOfContours, as `subset_glyph`'s caller sees it) followed by the
accessors `end_pts_of_contours`, `points()` / `components()` of the read-fonts reader model -/
def decodeGlyph (d : Bytes) : Option Decoded :=
  if u16At d 0 < 32768 then
    (Glyf.readSimple d).map (fun v => .simple v.nContours v.xMin v.yMin v.xMax v.yMax v.endPts v.points)
  else
    (Glyf.readComposite d).map (fun v => .composite v.xMin v.yMin v.xMax v.yMax v.components)

/-- the glyph-id renaming of a decoded glyph (`none`: a component glyph without image) -/
def renameDecoded (flags : Nat) (gmap : Nat → Option Nat) : Decoded → Option Decoded
  | .simple nc a b c e eps pts => some (.simple nc a b c e eps pts)
  | .composite a b c e comps => (mapComps flags gmap true comps).map (fun cs => .composite a b c e cs)

end FontVerif.SubsetOutline
