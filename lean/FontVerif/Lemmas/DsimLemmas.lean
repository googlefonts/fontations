/-
DeltaSetIndexMap: `DeltaSetIndexMap::get` (Model/Tent.lean `dsimGet`) on entries packed in a given format, and the
writer (`get_entry_format`, `pack_map_data`, Model/Ivs.lean), which always chooses a format wide enough for every
entry: the packed value is a bit-subset (`Sub`) of the union the format was computed from.
-/
import FontVerif.Lemmas.IvsLemmas
namespace FontVerif.Tent

theorem entryFormat_fields {es bc : Nat} (h1 : 1 ≤ es) (h2 : es ≤ 4) (h3 : 1 ≤ bc) (h4 : bc ≤ 16) :
    ((es - 1) * 16 + (bc - 1)) / 16 % 4 + 1 = es ∧ ((es - 1) * 16 + (bc - 1)) % 16 + 1 = bc := by
  omega

theorem dsimGet_packed (es bc : Nat) (hes : es = 1 ∨ es = 2 ∨ es = 3 ∨ es = 4) (hbc1 : 1 ≤ bc)
    (hbc2 : bc ≤ 16) (entries : List (Nat × Nat))
    (hfit : ∀ e ∈ entries, e.2 < 2 ^ bc ∧ e.1 < 65536 ∧ e.1 * 2 ^ bc + e.2 < 256 ^ es)
    (index : Nat) (hne : 0 < entries.length) :
    dsimGet ((es - 1) * 16 + (bc - 1)) entries.length
      (entries.flatMap fun e => beBytes es (e.1 * 2 ^ bc + e.2)) index =
      entries[min index (entries.length - 1)]? := by
  unfold dsimGet
  dsimp only
  have hidx : min index (entries.length - 1) < entries.length := by omega
  generalize min index (entries.length - 1) = idx at *
  obtain ⟨e1, e2⟩ := entryFormat_fields (es := es) (by omega) (by omega) hbc1 hbc2
  rw [e1, e2]
  have hL : ∀ e ∈ entries, (beBytes es (e.1 * 2 ^ bc + e.2)).length = es := fun e _ => FontVerif.beBytes_length _ _
  have hlen := flatMap_uniform_length (fun e : Nat × Nat => beBytes es (e.1 * 2 ^ bc + e.2)) es entries hL
  have hle : idx * es + es ≤ (entries.flatMap fun e => beBytes es (e.1 * 2 ^ bc + e.2)).length := by
    rw [hlen]
    have : (idx + 1) * es ≤ entries.length * es := Nat.mul_le_mul_right _ (by omega)
    rw [Nat.add_mul] at this
    rw [Nat.mul_comm es]; omega
  simp only [hle, if_true]
  rw [Nat.mul_comm idx es, flatMap_uniform_chunk _ es entries idx hidx hL]
  have hf := hfit entries[idx] (List.getElem_mem hidx)
  rw [FontVerif.beValue_beBytes es _ hf.2.2, List.getElem?_eq_getElem hidx]
  have hp : 0 < 2 ^ bc := Nat.pos_of_ne_zero (by simp)
  have h1 : (entries[idx].1 * 2 ^ bc + entries[idx].2) / 2 ^ bc = entries[idx].1 := by
    rw [Nat.add_comm, Nat.add_mul_div_right _ _ hp, Nat.div_eq_of_lt hf.1]; omega
  have h2 : (entries[idx].1 * 2 ^ bc + entries[idx].2) % 2 ^ bc = entries[idx].2 := by
    rw [Nat.add_comm, Nat.add_mul_mod_self_right, Nat.mod_eq_of_lt hf.1]
  have h3 : 2 ^ bc ≤ 2 ^ 16 := Nat.pow_le_pow_right (by omega) hbc2
  rw [h1, h2, Nat.mod_eq_of_lt hf.2.1, Nat.mod_eq_of_lt (by omega : entries[idx].2 < 65536)]

/-- the reader on what a writer wrote: any list `xs` whose element `x` is written (`enc`) as the big-endian bytes of
`outer << bc | inner`, `(outer, inner) = split x`. -/
theorem dsimGet_written {α : Type} (es bc : Nat) (hes : es = 1 ∨ es = 2 ∨ es = 3 ∨ es = 4) (hbc1 : 1 ≤ bc)
    (hbc2 : bc ≤ 16) (xs : List α) (split : α → Nat × Nat) (enc : α → List Nat)
    (h : ∀ x ∈ xs, (split x).2 < 2 ^ bc ∧ (split x).1 < 65536 ∧ (split x).1 * 2 ^ bc + (split x).2 < 256 ^ es ∧
      enc x = beBytes es ((split x).1 * 2 ^ bc + (split x).2))
    (index : Nat) (hne : 0 < xs.length) :
    dsimGet ((es - 1) * 16 + (bc - 1)) xs.length (xs.flatMap enc) index =
      (xs[min index (xs.length - 1)]?).map split := by
  have hd : xs.flatMap enc = (xs.map split).flatMap fun e => beBytes es (e.1 * 2 ^ bc + e.2) := by
    rw [List.flatMap_map, List.flatMap_def, List.flatMap_def, List.map_congr_left fun x hx => (h x hx).2.2.2]
  have hl : xs.length = (xs.map split).length := (List.length_map split).symm
  rw [hd, hl, dsimGet_packed es bc hes hbc1 hbc2 (xs.map split) ?_ index (by omega), List.getElem?_map]
  intro e he
  obtain ⟨x, hx, rfl⟩ := List.mem_map.mp he
  exact ⟨(h x hx).1, (h x hx).2.1, (h x hx).2.2.1⟩

end FontVerif.Tent

namespace FontVerif.Ivs

/-- `a ⊆ b` as sets of bits. -/
def Sub (a b : Nat) : Prop := a ||| b = b

theorem Sub.le {a b : Nat} (h : Sub a b) : a ≤ b := by
  unfold Sub at h; rw [← h]; exact Nat.left_le_or

theorem Sub.refl (a : Nat) : Sub a a := Nat.or_self a

theorem Sub.trans {a b c : Nat} (h1 : Sub a b) (h2 : Sub b c) : Sub a c := by
  unfold Sub at *; rw [← h2, ← Nat.or_assoc, h1]

theorem Sub.or {a b c : Nat} (h1 : Sub a c) (h2 : Sub b c) : Sub (a ||| b) c := by
  unfold Sub at *; rw [Nat.or_assoc, h2, h1]

theorem sub_or_left (a b : Nat) : Sub a (a ||| b) := by
  unfold Sub; rw [← Nat.or_assoc, Nat.or_self]

theorem sub_or_right (a b : Nat) : Sub b (a ||| b) := by
  unfold Sub; rw [Nat.or_comm a b, ← Nat.or_assoc, Nat.or_self]

theorem Sub.div {a b : Nat} (h : Sub a b) (k : Nat) : Sub (a / 2 ^ k) (b / 2 ^ k) := by
  unfold Sub at *; rw [← Nat.or_div_two_pow, h]

theorem Sub.mod {a b : Nat} (h : Sub a b) (k : Nat) : Sub (a % 2 ^ k) (b % 2 ^ k) := by
  unfold Sub at *; rw [← Nat.or_mod_two_pow, h]

theorem sub_fold (l : List Nat) : ∀ (acc : Nat), Sub acc (l.foldl (· ||| ·) acc) ∧
    ∀ x ∈ l, Sub x (l.foldl (· ||| ·) acc) := by
  induction l with
  | nil => intro acc; exact ⟨Sub.refl acc, fun x hx => by simp at hx⟩
  | cons a l ih =>
    intro acc
    have := ih (acc ||| a)
    simp only [List.foldl_cons]
    refine ⟨(sub_or_left acc a).trans this.1, ?_⟩
    intro x hx
    rcases List.mem_cons.mp hx with rfl | h
    · exact (sub_or_right acc x).trans this.1
    · exact this.2 x h

theorem mul_add_eq_or {k b : Nat} (h : b < 2 ^ k) (a : Nat) : a * 2 ^ k + b = a * 2 ^ k ||| b := by
  rw [Nat.mul_comm]; exact Nat.two_pow_add_eq_or_of_lt h a

/-! ### `bitLen` (= `16 − leading_zeros` for a u16) -/

theorem lt_two_pow_bitLen : ∀ (n : Nat), n < 2 ^ bitLen n := by
  intro n
  induction n using Nat.strongRecOn with
  | _ n ih =>
    cases n with
    | zero => simp [bitLen]
    | succ m =>
      rw [bitLen]
      have := ih ((m + 1) / 2) (by omega)
      rw [Nat.pow_succ]
      omega

theorem bitLen_le_of_lt : ∀ k n, n < 2 ^ k → bitLen n ≤ k := by
  intro k
  induction k with
  | zero => intro n h; have : n = 0 := by simpa using h
            subst this; simp [bitLen]
  | succ k ih =>
    intro n h
    cases n with
    | zero => simp [bitLen]
    | succ m =>
      rw [bitLen]
      have : (m + 1) / 2 < 2 ^ k := by rw [Nat.pow_succ] at h; omega
      have := ih _ this
      omega

theorem bitLen_le_16 {n : Nat} (h : n < 65536) : bitLen n ≤ 16 := bitLen_le_of_lt 16 n h

/-- inner-bit count chosen by `get_entry_format`. -/
def innerBitsOf (mapping : List Nat) : Nat := max (bitLen (mapping.foldl (· ||| ·) 0 % 65536)) 1

/-- entry size chosen by `get_entry_format`. -/
def entrySizeOf (mapping : List Nat) : Nat :=
  let ored := mapping.foldl (· ||| ·) 0
  let ib := innerBitsOf mapping
  let ored2 := (ored / 2 ^ (16 - ib)) ||| (ored % 2 ^ ib)
  if ored2 ≤ 0xFF then 1 else if ored2 ≤ 0xFFFF then 2 else if ored2 ≤ 0xFFFFFF then 3 else 4

theorem innerBits_range (mapping : List Nat) : 1 ≤ innerBitsOf mapping ∧ innerBitsOf mapping ≤ 16 := by
  unfold innerBitsOf
  have := bitLen_le_16 (Nat.mod_lt (mapping.foldl (· ||| ·) 0) (by omega : 65536 > 0))
  omega

theorem entrySize_range (mapping : List Nat) :
    entrySizeOf mapping = 1 ∨ entrySizeOf mapping = 2 ∨ entrySizeOf mapping = 3 ∨ entrySizeOf mapping = 4 := by
  unfold entrySizeOf; simp only []; repeat' split
  all_goals simp

theorem entryFormat_eq (mapping : List Nat) :
    entryFormat mapping = (entrySizeOf mapping - 1) * 16 + (innerBitsOf mapping - 1) := by
  have hr := innerBits_range mapping
  unfold entryFormat
  show ((entrySizeOf mapping - 1) * 16) ||| (innerBitsOf mapping - 1) = _
  have : innerBitsOf mapping - 1 < 2 ^ 4 := by omega
  have e : (16 : Nat) = 2 ^ 4 := by decide
  rw [e, ← mul_add_eq_or this]

theorem sub_floor (a k : Nat) : Sub (a / 2 ^ k * 2 ^ k) a := by
  have := sub_or_left (a / 2 ^ k * 2 ^ k) (a % 2 ^ k)
  rwa [← mul_add_eq_or (Nat.mod_lt a (Nat.two_pow_pos k)), Nat.div_add_mod'] at this

/-- packing is monotone in the bit order.  `pack_map_data` clears the inner half before the shift (`idx & 0xFFFF0000`),
`get_entry_format` does not when it forms `ored2`: the right side only gets larger. -/
theorem pack_sub {x o : Nat} (h : Sub x o) (ib : Nat) :
    Sub ((x / 65536 * 65536) / 2 ^ (16 - ib) ||| x % 2 ^ ib) (o / 2 ^ (16 - ib) ||| o % 2 ^ ib) :=
  Sub.or ((((sub_floor x 16).trans h).div _).trans (sub_or_left _ _)) ((h.mod ib).trans (sub_or_right _ _))

theorem pack_eq {ib x : Nat} (hib : ib ≤ 16) (hin : x % 65536 < 2 ^ ib) :
    (x / 65536 * 65536) / 2 ^ (16 - ib) ||| x % 2 ^ ib = x / 65536 * 2 ^ ib + x % 65536 := by
  have hsplit : (65536 : Nat) = 2 ^ ib * 2 ^ (16 - ib) := by
    rw [← Nat.pow_add, show ib + (16 - ib) = 16 by omega]
  have hout : (x / 65536 * 65536) / 2 ^ (16 - ib) = x / 65536 * 2 ^ ib := by
    rw [hsplit, ← Nat.mul_assoc, Nat.mul_div_cancel _ (Nat.two_pow_pos _)]
  have hmod : x % 2 ^ ib = x % 65536 := by
    rw [← Nat.mod_eq_of_lt hin, hsplit, Nat.mod_mul_right_mod]
  rw [hout, hmod, mul_add_eq_or hin]

theorem lt_pow_entrySize {v o2 : Nat} (hle : v ≤ o2) (h : o2 < 2 ^ 32) :
    v < 256 ^ (if o2 ≤ 0xFF then 1 else if o2 ≤ 0xFFFF then 2 else if o2 ≤ 0xFFFFFF then 3 else 4) := by
  repeat' split
  all_goals omega

/-- the value `pack_map_data` writes for `x = outer << 16 | inner`. -/
theorem packed_value (mapping : List Nat) (x : Nat) (hx : x ∈ mapping) (h32 : ∀ y ∈ mapping, y < 4294967296) :
    (((x / 65536 * 65536) / 2 ^ (16 - innerBitsOf mapping)) ||| (x % 2 ^ innerBitsOf mapping)) % 4294967296 =
      (x / 65536) * 2 ^ innerBitsOf mapping + x % 65536 ∧
    x % 65536 < 2 ^ innerBitsOf mapping ∧
    (x / 65536) * 2 ^ innerBitsOf mapping + x % 65536 < 256 ^ entrySizeOf mapping := by
  have hsub : Sub x (mapping.foldl (· ||| ·) 0) := (sub_fold mapping 0).2 x hx
  -- the inner bits of `x` are among those `innerBitsOf` was computed from
  have hin : x % 65536 < 2 ^ innerBitsOf mapping :=
    Nat.lt_of_le_of_lt (hsub.mod 16).le (Nat.lt_of_lt_of_le (lt_two_pow_bitLen _)
      (Nat.pow_le_pow_right (by omega) (Nat.le_max_left _ _)))
  have hv := pack_eq (innerBits_range mapping).2 hin
  -- the packed value is a bit-subset of `ored2`, a u32 (so `as u32` keeps it), and that fits the size chosen for it
  have hored : mapping.foldl (· ||| ·) 0 < 2 ^ 32 :=
    foldl_inv (· < 2 ^ 32) _ mapping (fun b y hy hb => Nat.or_lt_two_pow hb (h32 y hy)) 0 (by decide)
  have hle := (pack_sub hsub (innerBitsOf mapping)).le
  have ho2 := Nat.or_lt_two_pow (Nat.lt_of_le_of_lt (Nat.div_le_self _ (2 ^ (16 - innerBitsOf mapping))) hored)
    (Nat.lt_of_le_of_lt (Nat.mod_le _ (2 ^ innerBitsOf mapping)) hored)
  exact ⟨by rw [Nat.mod_eq_of_lt (Nat.lt_of_le_of_lt hle ho2), hv], hin, lt_pow_entrySize (hv ▸ hle) ho2⟩

theorem getElem?_le_takeWhile (x : Nat) : ∀ (xs : List Nat) (j : Nat),
    j ≤ (xs.takeWhile (· = x)).length → (x :: xs)[j]? = some x
  | _, 0, _ => rfl
  | [], j + 1, h => by simp at h
  | a :: xs, j + 1, h => by
    by_cases ha : a = x
    · subst ha
      rw [List.takeWhile_cons_of_pos (by simp)] at h
      exact getElem?_le_takeWhile a xs j (by simpa using h)
    · rw [List.takeWhile_cons_of_neg (by simpa using ha)] at h; simp at h

theorem trimmedCount_spec (l : List Nat) (hne : l ≠ []) :
    1 ≤ trimmedCount l ∧ trimmedCount l ≤ l.length ∧
    ∀ i, trimmedCount l - 1 ≤ i → i < l.length → l[i]? = l[l.length - 1]? := by
  match l, hne with
  | [a], _ => simp [trimmedCount]
  | a :: b :: rest, _ =>
    have hcnt : trimmedCount (a :: b :: rest) = (a :: b :: rest).length -
        ((a :: b :: rest).reverse.tail.takeWhile (· = (a :: b :: rest).reverse.head!)).length := rfl
    have hlen : 2 ≤ (a :: b :: rest).length := by simp
    generalize a :: b :: rest = L at hcnt hlen ⊢
    -- in the reversed list the dropped entries are the run of copies behind the head
    obtain ⟨x, xs, hr⟩ : ∃ x xs, L.reverse = x :: xs := by
      cases h : L.reverse with
      | nil => rw [List.reverse_eq_nil_iff.mp h] at hlen; simp at hlen
      | cons x xs => exact ⟨x, xs, rfl⟩
    rw [hr] at hcnt
    change _ = _ - (xs.takeWhile (· = x)).length at hcnt
    have hxs : xs.length + 1 = L.length := by
      have := congrArg List.length hr; simpa using this.symm
    have hd : (xs.takeWhile (· = x)).length ≤ xs.length := (List.takeWhile_sublist _).length_le
    have hrev : ∀ i, i < L.length → L[i]? = (x :: xs)[L.length - 1 - i]? := by
      intro i hi
      rw [← hr, List.getElem?_reverse (by omega)]; congr 1; omega
    rw [hcnt]
    refine ⟨by omega, by omega, fun i h1 h2 => ?_⟩
    rw [hrev i h2, hrev (L.length - 1) (by omega), getElem?_le_takeWhile x xs _ (by omega),
      getElem?_le_takeWhile x xs _ (by omega)]

end FontVerif.Ivs
