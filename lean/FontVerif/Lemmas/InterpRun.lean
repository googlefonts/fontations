/-
Lemmas for the whole-run composition (Props/C02Run.lean): `step` on a decoded instruction and where its
error comes from; the skip loops decode at most `fuel` instructions, so the control part of one dispatch is bounded;
what one iteration does to the data side and what it costs (`step_data`).
-/
import FontVerif.Lemmas.Interp
namespace FontVerif.InterpRunLemmas
open FontVerif.Interp FontVerif.InterpLemmas FontVerif.InterpLoops FontVerif.InterpCost

theorem decode_op_lt {code : Array Nat} {pc op ipc next : Nat} {ops : List Nat}
    (hb : ∀ i (h : i < code.size), code[i] < 256) (h : decode code pc = .ins op ops ipc next) : op < 256 := by
  unfold decode at h
  split at h
  · cases h
  · rename_i o ho
    split at h
    · cases h
    · simp only [] at h
      split at h
      · have h0 := Decoded.ins.inj h
        rw [← h0.1]
        have hlt : pc < code.size := by
          by_cases hlt : pc < code.size
          · exact hlt
          · rw [Array.getElem?_eq_none (by omega)] at ho; cases ho
        have := hb pc hlt
        rw [Array.getElem?_eq_getElem hlt] at ho
        rw [← Option.some.inj ho]; exact this
      · cases h

theorem step_ins {D} (c : Cfg D) (s : St D) (hr : s.status = .running) {op ipc next : Nat} {operands : List Nat}
    (hd : decode (c.code s.current) s.pc = .ins op operands ipc next) :
    step c s =
      match dispatch c { s with pc := next } op operands with
      | none => { s with status := .stuck }
      | some (.error e) => { s with status := .failed e }
      | some (.ok s2) =>
        if s2.count + 1 > MAX_RUN_INSTRUCTIONS then { s2 with count := s2.count + 1, pc := ipc, status := .failed .budget }
        else { s2 with count := s2.count + 1 } := by
  obtain ⟨ini, cur, pc, calls, funcs, idefs, bj, lc, cnt, vs, data, status⟩ := s
  simp only [] at hr hd ⊢
  subst hr
  unfold step
  simp only [hd]
  rfl

theorem step_err {D} {c : Cfg D} {s : St D} {e : Err} (hr : s.status = .running) (h : (step c s).status = .failed e) :
    CtlErr e ∨ ∃ op ops ipc next, decode (c.code s.current) s.pc = .ins op ops ipc next ∧
      c.sem op ops (s.vs, s.data) = .error e := by
  cases hd : decode (c.code s.current) s.pc with
  | eof =>
    rw [step_eof c s hr hd] at h; cases h
  | bad =>
    rw [step_bad c s hr hd] at h; cases h; exact .inl (ctlErr_ctor nofun)
  | ins op ops ipc next =>
    rw [step_ins c s hr hd] at h
    cases hdis : dispatch c { s with pc := next } op ops with
    | none => exact absurd hdis (dispatch_ne_none _ _ _ _)
    | some r =>
      rw [hdis] at h
      cases r with
      | error e1 => cases h; exact (dispatch_err hdis).imp id fun hs => ⟨op, ops, ipc, next, rfl, hs⟩
      | ok s2 =>
        -- only the instruction budget can fail a successful dispatch
        have hst : s2.status = .running := (dispatch_rel hdis).2.1.trans hr
        dsimp only at h
        split at h
        · cases h; exact .inl (ctlErr_ctor nofun)
        · rw [show ({ s2 with count := s2.count + 1 } : St D).status = s2.status from rfl, hst] at h; cases h

theorem scanIfSteps_le (code : Array Nat) : ∀ (fuel pc d : Nat), scanIfSteps code fuel pc d ≤ fuel := by
  intro fuel
  induction fuel with
  | zero => intro pc d; exact Nat.le_refl 0
  | succ n ih =>
    intro pc d
    have one : 1 ≤ n + 1 := Nat.succ_pos n
    have more : ∀ pc d, 1 + scanIfSteps code n pc d ≤ n + 1 := fun pc d => by have := ih pc d; omega
    unfold scanIfSteps
    cases decode code pc with
    | eof => exact one
    | bad => exact one
    | ins op ops ipc next =>
      dsimp only
      repeat' apply ite_le
      all_goals first | exact one | exact more _ _

theorem scanElseSteps_le (code : Array Nat) : ∀ (fuel pc d : Nat), scanElseSteps code fuel pc d ≤ fuel := by
  intro fuel
  induction fuel with
  | zero => intro pc d; exact Nat.le_refl 0
  | succ n ih =>
    intro pc d
    have one : 1 ≤ n + 1 := Nat.succ_pos n
    have more : ∀ pc d, 1 + scanElseSteps code n pc d ≤ n + 1 := fun pc d => by have := ih pc d; omega
    unfold scanElseSteps
    cases decode code pc with
    | eof => exact one
    | bad => exact one
    | ins op ops ipc next =>
      dsimp only
      repeat' apply ite_le
      all_goals first | exact one | exact more _ _

theorem scanDefSteps_le (code : Array Nat) : ∀ (fuel pc : Nat), scanDefSteps code fuel pc ≤ fuel := by
  intro fuel
  induction fuel with
  | zero => intro pc; exact Nat.le_refl 0
  | succ n ih =>
    intro pc
    have one : 1 ≤ n + 1 := Nat.succ_pos n
    unfold scanDefSteps
    cases decode code pc with
    | eof => exact one
    | bad => exact one
    | ins op ops ipc next =>
      dsimp only
      repeat' apply ite_le
      all_goals first | exact one | (have := ih next; omega)

theorem code_size_le {D} (c : Cfg D) (p : Nat) : (c.code p).size ≤ c.maxCode := by
  unfold Cfg.code Cfg.maxCode
  split
  · exact Nat.le_max_left _ _
  · split
    · exact Nat.le_trans (Nat.le_max_left _ _) (Nat.le_max_right _ _)
    · exact Nat.le_trans (Nat.le_max_right _ _) (Nat.le_max_right _ _)

theorem ctlCost_le {D} (c : Cfg D) (s : St D) (op : Nat) :
    ctlCost c s op ≤ (c.maxCode + 1) + (s.funcs.length + s.idefs.length) := by
  have hc := code_size_le c s.current
  have hi := scanIfSteps_le (c.code s.current) ((c.code s.current).size + 1) s.pc 1
  have he := scanElseSteps_le (c.code s.current) ((c.code s.current).size + 1) s.pc 1
  have hd := scanDefSteps_le (c.code s.current) ((c.code s.current).size + 1) s.pc
  unfold ctlCost
  simp only []
  repeat' apply ite_le
  · split
    · apply ite_le <;> omega
    · omega
  all_goals omega

theorem stepCost_ins {D} (c : Cfg D) (proj : D → G) (s : St D) (hr : s.status = .running) {op ipc next : Nat}
    {operands : List Nat} (hd : decode (c.code s.current) s.pc = .ins op operands ipc next) :
    stepCost c proj s = 1 + ctlCost c { s with pc := next } op + ((proj (step c s).data).iters - (proj s.data).iters) := by
  obtain ⟨ini, cur, pc, calls, funcs, idefs, bj, lc, cnt, vs, data, status⟩ := s
  simp only [] at hr hd ⊢
  subst hr
  unfold stepCost
  simp only [hd]

theorem stepCost_noins {D} (c : Cfg D) (proj : D → G) (s : St D) (hr : s.status = .running)
    (hd : decode (c.code s.current) s.pc = .eof ∨ decode (c.code s.current) s.pc = .bad) : stepCost c proj s = 1 := by
  unfold stepCost
  simp only [hr]
  rcases hd with hd | hd <;> rw [hd]

theorem stepCost_halted {D} (c : Cfg D) (proj : D → G) (s : St D) (hr : s.status ≠ .running) : stepCost c proj s = 0 := by
  unfold stepCost
  split
  · rename_i hh; exact absurd hh hr
  · rfl

/-- the data side of one iteration from a running state: either the data state is left alone, the definition
    tables keep their lengths and the stack only pops (`Ctl`), at the cost of the control part, or they are what ONE successful call of
    `c.sem` returned, at the cost of that opcode's loop iterations -/
theorem step_data {D} (c : Cfg D) (proj : D → G) (s : St D) (hr : s.status = .running) :
    (Ctl s (step c s) ∧ stepCost c proj s ≤ 1 + ((c.maxCode + 1) + (s.funcs.length + s.idefs.length))) ∨
    ∃ op ops, c.sem op ops (s.vs, s.data) = .ok ((step c s).vs, (step c s).data) ∧
      (step c s).funcs = s.funcs ∧ (step c s).idefs = s.idefs ∧
      stepCost c proj s = 1 + ((proj (step c s).data).iters - (proj s.data).iters) := by
  cases hd : decode (c.code s.current) s.pc with
  | eof =>
    rw [stepCost_noins c proj s hr (.inl hd), step_eof c s hr hd]
    exact .inl ⟨Ctl.refl s, Nat.le_add_right ..⟩
  | bad =>
    rw [stepCost_noins c proj s hr (.inr hd), step_bad c s hr hd]
    exact .inl ⟨Ctl.refl s, Nat.le_add_right ..⟩
  | ins op ops ipc next =>
    have hctl := ctlCost_le c { s with pc := next } op
    rw [stepCost_ins c proj s hr hd, step_ins c s hr hd]
    cases hdis : dispatch c { s with pc := next } op ops with
    | none => exact absurd hdis (dispatch_ne_none _ _ _ _)
    | some r =>
      cases r with
      | error e => exact .inl ⟨Ctl.refl s, by dsimp only at hctl ⊢; omega⟩
      | ok s2 =>
        -- after the dispatch only `count`, `pc`, `status` change
        dsimp only at hctl ⊢
        generalize hst : (if s2.count + 1 > MAX_RUN_INSTRUCTIONS then
          ({ s2 with count := s2.count + 1, pc := ipc, status := .failed .budget } : St D)
          else { s2 with count := s2.count + 1 }) = t
        obtain ⟨td, tv, tf, ti⟩ : t.data = s2.data ∧ t.vs = s2.vs ∧ t.funcs = s2.funcs ∧ t.idefs = s2.idefs := by
          rw [← hst]; split <;> exact ⟨rfl, rfl, rfl, rfl⟩
        rcases dispatch_shape hdis with ⟨c1, c2, c3, c4⟩ | ⟨hsem, hf, hi, hz⟩
        · dsimp only at c1 c2 c3 c4
          exact .inl ⟨⟨td.trans c1, tv ▸ c2, tf ▸ c3, ti ▸ c4⟩, by rw [td, c1]; omega⟩
        · exact .inr ⟨op, ops, by rw [td, tv]; exact hsem, tf.trans hf, ti.trans hi, by rw [hz, Nat.add_zero]⟩

end FontVerif.InterpRunLemmas
