/-
Helper lemmas for C05 (Model/Graph.lean): reachability; what `update_parents` caches (`updateParents_parents`); graphs that
differ in the annotations of their nodes only (`Annot`); the loop shared by `sort_kahn` and `sort_shortest_distance` and its
invariants (`Inv`, `Run`); both sorts as runs of that loop (`SortRun`): their orders are closed under links and list
only reachable objects, each once (that they list all of them is `SortRun.contains` in GraphTopo).
-/
import FontVerif.Model.Graph
import FontVerif.Lemmas.GraphSer
namespace FontVerif.Graph

/-- `b` is reachable from `a` following links of the objects of `g` -/
inductive Reach (g : Graph) : Nat → Nat → Prop
  | refl (a : Nat) : Reach g a a
  | step {a b : Nat} (l : Link) : Reach g a b → l ∈ (g.obj b).links → Reach g a l.target

theorem Reach.trans {g : Graph} {a b c : Nat} (hab : Reach g a b) (hbc : Reach g b c) : Reach g a c := by
  induction hbc with
  | refl => exact hab
  | step l _ hl ih => exact Reach.step l ih hl

theorem reach_mem (g : Graph) (order : List Nat) (a : Nat) (ha : a ∈ order)
    (hclosed : ∀ id ∈ order, ∀ l ∈ (g.obj id).links, l.target ∈ order) (b : Nat) (h : Reach g a b) :
    b ∈ order := by
  induction h with
  | refl => exact ha
  | step l _ hl ih => exact hclosed _ ih l hl

theorem obj_congr (g g' : Graph) (h : g'.objects = g.objects) (id : Nat) : g'.obj id = g.obj id := by
  simp [Graph.obj, h]

theorem reach_congr (g g' : Graph) (ho : g'.objects = g.objects) (a b : Nat) (h : Reach g' a b) : Reach g a b := by
  induction h with
  | refl => exact Reach.refl _
  | step l _ hl ih => exact Reach.step l ih (by rw [← obj_congr g g' ho]; exact hl)

theorem updateParents_objects (g : Graph) : (updateParents g).objects = g.objects := by
  unfold updateParents
  split <;> rfl

theorem updateParents_root (g : Graph) : (updateParents g).root = g.root := by
  unfold updateParents
  split <;> rfl

theorem updateParents_obj (g : Graph) (id : Nat) : (updateParents g).obj id = g.obj id := by
  simp [Graph.obj, updateParents_objects]

def parentsOf (nodes : Map Node) (id : Nat) : List (Nat × Nat) := ((nodes.find? id).getD default).parents

theorem indeg_eq (g : Graph) (id : Nat) : g.indeg id = (parentsOf g.nodes id).length := rfl

theorem parentsOf_modify (nodes : Map Node) (x : Nat) (f : Node → Node) (hf : ∀ n, (f n).parents = n.parents)
    (id : Nat) : parentsOf (Map.modify nodes x f) id = parentsOf nodes id := by
  unfold parentsOf
  rw [Map.find?_modify]
  split
  · cases nodes.find? id <;> simp [hf]
  · rfl

theorem parentsOf_mapVal (nodes : Map Node) (f : Node → Node) (hf : ∀ n, (f n).parents = n.parents)
    (id : Nat) : parentsOf (nodes.map (fun kv => (kv.1, f kv.2))) id = parentsOf nodes id := by
  unfold parentsOf
  rw [Map.find?_mapVal]
  cases nodes.find? id <;> simp [hf]

/-- the parent entries that the links `links` of object `src` contribute to node `c` -/
def linkParents (src : Nat) (links : List Link) (c : Nat) : List (Nat × Nat) :=
  (links.filter (fun l => l.target = c)).map (fun l => (src, l.width))

/-- the parent list `update_parents` caches for a node `c`: one entry per link into `c`, in object order -/
def cachedParents (objs : List (Nat × Obj)) (c : Nat) : List (Nat × Nat) :=
  objs.flatMap (fun kv => linkParents kv.1 kv.2.links c)

theorem mem_cachedParents {objs : List (Nat × Obj)} {c : Nat} {p : Nat × Nat} (h : p ∈ cachedParents objs c) :
    ∃ kv ∈ objs, ∃ l ∈ kv.2.links, l.target = c ∧ p = (kv.1, l.width) := by
  simp only [cachedParents, linkParents, List.mem_flatMap, List.mem_map, List.mem_filter, decide_eq_true_eq] at h
  obtain ⟨kv, hkv, l, ⟨hl, ht⟩, rfl⟩ := h
  exact ⟨kv, hkv, l, hl, ht, rfl⟩

theorem parentsOf_push (ns : Map Node) (t : Nat) (e : Nat × Nat) (c : Nat) :
    parentsOf (Map.modify ns t (fun n => { n with parents := n.parents ++ [e] })) c
      = parentsOf ns c ++ (if t = c ∧ Map.contains ns c = true then [e] else []) := by
  unfold parentsOf Map.contains
  rw [Map.find?_modify]
  by_cases hc : c = t
  · subst hc
    cases ns.find? c <;> simp
  · rw [if_neg hc, if_neg (fun h => hc h.1.symm), List.append_nil]

theorem updParents_links (src : Nat) (links : List Link) (ns : Map Node) (c : Nat) :
    (links.foldl (fun ns l =>
        Map.modify ns l.target (fun n => { n with parents := n.parents ++ [(src, l.width)] })) ns).keys = ns.keys ∧
    parentsOf (links.foldl (fun ns l =>
        Map.modify ns l.target (fun n => { n with parents := n.parents ++ [(src, l.width)] })) ns) c
      = parentsOf ns c ++ (if Map.contains ns c = true then linkParents src links c else []) := by
  induction links generalizing ns with
  | nil => simp [linkParents]
  | cons l rest ih =>
    obtain ⟨i0, i2⟩ := ih (Map.modify ns l.target (fun n => { n with parents := n.parents ++ [(src, l.width)] }))
    rw [List.foldl_cons, i0, i2, Map.contains_modify, parentsOf_push, Map.keys_modify]
    refine ⟨rfl, ?_⟩
    by_cases hk : Map.contains ns c = true <;> by_cases ht : l.target = c <;>
      simp [hk, ht, linkParents]

theorem updParents_objs (objs : List (Nat × Obj)) (ns : Map Node) (c : Nat) :
    (objs.foldl (fun ns kv =>
        kv.2.links.foldl (fun ns l =>
          Map.modify ns l.target (fun n => { n with parents := n.parents ++ [(kv.1, l.width)] })) ns) ns).keys = ns.keys ∧
    parentsOf (objs.foldl (fun ns kv =>
        kv.2.links.foldl (fun ns l =>
          Map.modify ns l.target (fun n => { n with parents := n.parents ++ [(kv.1, l.width)] })) ns) ns) c
      = parentsOf ns c ++ (if Map.contains ns c = true then cachedParents objs c else []) := by
  induction objs generalizing ns with
  | nil => simp [cachedParents]
  | cons kv rest ih =>
    obtain ⟨a0, a2⟩ := updParents_links kv.1 kv.2.links ns c
    obtain ⟨i0, i2⟩ := ih (kv.2.links.foldl (fun ns l =>
          Map.modify ns l.target (fun n => { n with parents := n.parents ++ [(kv.1, l.width)] })) ns)
    rw [List.foldl_cons, i0, i2, a0, Map.contains_congr a0, a2]
    refine ⟨rfl, ?_⟩
    by_cases hk : Map.contains ns c = true <;> simp [hk, cachedParents]

theorem parentsOf_cleared (ns : Map Node) (c : Nat) :
    parentsOf (ns.map (fun kv => (kv.1, { kv.2 with parents := [] }))) c = [] := by
  unfold parentsOf
  rw [Map.find?_mapVal (β := Node) ns (fun n => { n with parents := [] })]
  cases ns.find? c <;> rfl

/-- **what `update_parents` leaves in the cache** (on a stale cache): for an id with a node, one entry per link
into it; nothing for an id without a node -/
theorem updateParents_parents (g : Graph) (hstale : g.parentsInvalid = true) (c : Nat) :
    parentsOf (updateParents g).nodes c = if Map.contains g.nodes c = true then cachedParents g.objects c else [] := by
  unfold updateParents
  simp only [hstale, Bool.not_true, Bool.false_eq_true, ↓reduceIte]
  rw [(updParents_objs g.objects _ c).2, Map.contains_congr (Map.keys_mapVal g.nodes (fun n => { n with parents := [] })), parentsOf_cleared, List.nil_append]

theorem updateParents_keys (g : Graph) : (updateParents g).nodes.keys = g.nodes.keys := by
  unfold updateParents
  split
  · rfl
  · exact ((updParents_objs g.objects _ 0).1).trans (Map.keys_mapVal g.nodes (fun n => { n with parents := [] }))

theorem contains_updateParents (g : Graph) (c : Nat) : Map.contains (updateParents g).nodes c = Map.contains g.nodes c :=
  Map.contains_congr (updateParents_keys g)

theorem updateParents_indeg_zero (g : Graph) (id : Nat) (hstale : g.parentsInvalid = true)
    (h : ∀ kv ∈ g.objects, ∀ l ∈ kv.2.links, l.target ≠ id) : (updateParents g).indeg id = 0 := by
  rw [indeg_eq, updateParents_parents g hstale]
  split
  · rw [List.length_eq_zero_iff, List.eq_nil_iff_forall_not_mem]
    intro p hp
    obtain ⟨kv, hkv, l, hl, ht, _⟩ := mem_cachedParents hp
    exact h kv hkv l hl ht
  · rfl

/-! ### graphs that differ in the annotations of their nodes only

`update_distances`, `assign_space_0` and the two sort loops write `distance`, `space`, `position` into the node table and
nothing else: the objects, the root, the node ids and the cached parents (hence the in-degrees the loops compare with)
are those of the graph they started from. -/

structure SameParents (ns ns' : Map Node) : Prop where
  keys : ns'.keys = ns.keys
  parents : ∀ x, parentsOf ns' x = parentsOf ns x

theorem SameParents.refl (ns : Map Node) : SameParents ns ns := ⟨rfl, fun _ => rfl⟩

theorem SameParents.trans {a b c : Map Node} (h1 : SameParents a b) (h2 : SameParents b c) : SameParents a c :=
  ⟨h2.keys.trans h1.keys, fun x => (h2.parents x).trans (h1.parents x)⟩

theorem SameParents.modify (ns : Map Node) (x : Nat) (f : Node → Node) (hf : ∀ n, (f n).parents = n.parents) :
    SameParents ns (Map.modify ns x f) :=
  ⟨Map.keys_modify ns x f, parentsOf_modify ns x f hf⟩

theorem SameParents.mapVal (ns : Map Node) (f : Node → Node) (hf : ∀ n, (f n).parents = n.parents) :
    SameParents ns (ns.map (fun kv => (kv.1, f kv.2))) :=
  ⟨Map.keys_mapVal ns f, parentsOf_mapVal ns f hf⟩

/-- `g'` is `g` up to the annotations of its nodes (and `order`, `parentsInvalid`, the space counters) -/
structure Annot (g g' : Graph) : Prop where
  objects : g'.objects = g.objects
  root : g'.root = g.root
  nodes : SameParents g.nodes g'.nodes

theorem Annot.trans {a b c : Graph} (h1 : Annot a b) (h2 : Annot b c) : Annot a c :=
  ⟨h2.objects.trans h1.objects, h2.root.trans h1.root, h1.nodes.trans h2.nodes⟩

theorem Annot.indeg {g g' : Graph} (h : Annot g g') (c : Nat) : g'.indeg c = g.indeg c :=
  congrArg List.length (h.nodes.parents c)

theorem Annot.obj {g g' : Graph} (h : Annot g g') (x : Nat) : g'.obj x = g.obj x := obj_congr g g' h.objects x

theorem cycleCheck_annot {H G : Graph} (hG : Annot H G) (removed : Map Nat) :
    cycleCheck G removed = cycleCheck H removed := by
  unfold cycleCheck
  simp only [hG.indeg]

theorem updDistFold_same (visited : Set) (nd : Nat) (links : List Link) (acc : List (Nat × Nat) × Map Node) :
    SameParents acc.2 (links.foldl (updDistVisitLink visited nd) acc).2 := by
  refine foldl_inv (fun a => SameParents acc.2 a.2) _ links (fun a l _ ha => ha.trans ?_) acc (.refl _)
  unfold updDistVisitLink
  split
  · exact .refl _
  · dsimp only
    split
    · exact SameParents.modify a.2 l.target (fun n => { n with distance := _ }) (fun _ => rfl)
    · exact .refl _

theorem updDistLoop_same (g : Graph) (fuel : Nat) (queue : List (Nat × Nat)) (visited : Set) (nodes nodes' : Map Node)
    (h : updDistLoop g fuel queue visited nodes = some nodes') : SameParents nodes nodes' := by
  induction fuel generalizing queue visited nodes with
  | zero => simp [updDistLoop] at h
  | succ n ih =>
    unfold updDistLoop at h
    split at h
    · simp only [Option.some.injEq] at h; subst h; exact .refl _
    · rename_i d x rest
      split at h
      · exact ih _ _ _ h
      · exact (updDistFold_same (visited.insert x) _ (g.linksOf x) (rest, nodes)).trans (ih _ _ _ h)

theorem space0Loop_same (g : Graph) (fuel : Nat) (queue : List Nat) (nodes nodes' : Map Node)
    (h : space0Loop g fuel queue nodes = some nodes') : SameParents nodes nodes' := by
  induction fuel generalizing queue nodes with
  | zero => simp [space0Loop] at h
  | succ n ih =>
    unfold space0Loop at h
    split at h
    · simp only [Option.some.injEq] at h; subst h; exact .refl _
    · split at h
      · split at h
        · exact SameParents.trans (.modify _ _ _ (by intro; rfl)) (ih _ _ h)
        · exact ih _ _ h
      · exact ih _ _ h

theorem updateDistances_annot (g g' : Graph) (h : updateDistances g = some g') : Annot g g' := by
  unfold updateDistances at h
  simp only [] at h
  split at h
  · simp at h
  · rename_i nodes' hl
    simp only [Option.some.injEq] at h; subst h
    exact ⟨rfl, rfl, SameParents.trans ((SameParents.mapVal g.nodes (fun n => { n with distance := U32_MAX })
      (by intro; rfl)).trans (.modify _ _ _ (by intro; rfl))) (updDistLoop_same g _ _ _ _ _ hl)⟩

theorem assignSpace0_annot (g g' : Graph) (h : assignSpace0 g = some g') : Annot g g' := by
  unfold assignSpace0 at h
  split at h
  · simp at h
  · rename_i nodes' hl
    simp only [Option.some.injEq] at h; subst h
    exact ⟨rfl, rfl, space0Loop_same g _ _ _ _ hl⟩

theorem kahnLoop_same (g : Graph) (fuel : Nat) (st st' : SortSt) (h : kahnLoop g fuel st = some st') :
    SameParents st.nodes st'.nodes := by
  induction fuel generalizing st with
  | zero => simp [kahnLoop] at h
  | succ n ih =>
    unfold kahnLoop at h
    split at h
    · simp only [Option.some.injEq] at h; subst h; exact .refl _
    · refine SameParents.trans ?_ (ih _ h)
      exact SameParents.modify st.nodes _ (fun n => { n with position := st.pos }) (fun _ => rfl)

theorem shortLoop_same (g : Graph) (fuel : Nat) (st st' : ShortSt) (h : shortLoop g fuel st = some st') :
    SameParents st.nodes st'.nodes := by
  induction fuel generalizing st with
  | zero => simp [shortLoop] at h
  | succ n ih =>
    unfold shortLoop at h
    split at h
    · simp only [Option.some.injEq] at h; subst h; exact .refl _
    · refine SameParents.trans ?_ (ih _ h)
      exact SameParents.modify st.nodes _ (fun n => { n with position := st.pos }) (fun _ => rfl)

/-! ### the shared skeleton of both loops

`removed` counts, per target, the links seen so far from processed objects; a target enters the
queue at the moment its count equals the cached in-degree. -/

/-- invariant (for a set `S` of ids: queue ∪ processed): a target whose count equals its
in-degree is in `S` -/
def FullIn (g : Graph) (removed : Map Nat) (S : Nat → Prop) : Prop :=
  ∀ id c, removed.find? id = some c → c = g.indeg id → S id

def Counted (removed : Map Nat) (id : Nat) : Prop := ∃ c, removed.find? id = some c

theorem counted_insert (removed : Map Nat) (k v id : Nat) (h : Counted removed id) :
    Counted (removed.insert k v) id := by
  obtain ⟨c, hc⟩ := h
  unfold Counted
  rw [Map.find?_insert]
  split
  · exact ⟨v, rfl⟩
  · exact ⟨c, hc⟩

/-! `sort_kahn` and `sort_shortest_distance` differ only in the order in which their queues pop; `visit` is
their common link visit on the queued ids and the counts, and every fact about the loops is an invariant
`Inv` of the loop over `visit`. -/

def tally (removed : Map Nat) (l : Link) : Map Nat :=
  removed.insert l.target ((removed.find? l.target).getD 0 + 1)

def visit (g : Graph) (acc : List Nat × Map Nat) (l : Link) : List Nat × Map Nat :=
  (if (acc.2.find? l.target).getD 0 + 1 = g.indeg l.target then l.target :: acc.1 else acc.1, tally acc.2 l)

theorem tally_counted (removed : Map Nat) (l : Link) :
    Counted (tally removed l) l.target ∧ ∀ x, Counted removed x → Counted (tally removed l) x :=
  ⟨⟨_, by rw [tally, Map.find?_insert, if_pos rfl]⟩, fun x hx => counted_insert _ _ _ _ hx⟩

theorem visitAll_snd (g : Graph) (links : List Link) (q : List Nat) (r : Map Nat) :
    (links.foldl (visit g) (q, r)).2 = links.foldl tally r := by
  induction links generalizing q r with
  | nil => rfl
  | cons l rest ih => exact ih _ _

theorem visitAll_perm (g : Graph) (links : List Link) {q q' : List Nat} (r : Map Nat) (h : q.Perm q') :
    (links.foldl (visit g) (q, r)).1.Perm (links.foldl (visit g) (q', r)).1 := by
  induction links generalizing q q' r with
  | nil => exact h
  | cons l rest ih =>
    simp only [List.foldl_cons, visit]
    split
    · exact ih _ (h.cons _)
    · exact ih _ h

theorem fold_visit {σ : Type} (g : Graph) (step : σ → Link → σ) (ids : σ → List Nat) (tal : σ → Map Nat)
    (hstep : ∀ a l, tal (step a l) = tally (tal a) l ∧ (ids (step a l)).Perm (visit g (ids a, tal a) l).1)
    (links : List Link) (a : σ) :
    tal (links.foldl step a) = (links.foldl (visit g) (ids a, tal a)).2 ∧
    (ids (links.foldl step a)).Perm (links.foldl (visit g) (ids a, tal a)).1 := by
  induction links generalizing a with
  | nil => exact ⟨rfl, List.Perm.refl _⟩
  | cons l rest ih =>
    obtain ⟨h1, h2⟩ := hstep a l
    obtain ⟨i1, i2⟩ := ih (step a l)
    simp only [List.foldl_cons]
    rw [h1] at i2
    exact ⟨by rw [i1, visitAll_snd, h1]; exact (visitAll_snd g rest _ _).symm, i2.trans (visitAll_perm g rest _ h2)⟩

theorem kahnFold_visit (g : Graph) (links : List Link) (acc : List Nat × Map Nat) :
    (links.foldl (kahnVisitLink g) acc).2 = (links.foldl (visit g) acc).2 ∧
    (links.foldl (kahnVisitLink g) acc).1.Perm (links.foldl (visit g) acc).1 := by
  refine fold_visit g (kahnVisitLink g) (·.1) (·.2) (fun a l => ?_) links acc
  unfold kahnVisitLink visit
  simp only []
  split
  · exact ⟨rfl, insertBy_perm _ _ _⟩
  · exact ⟨rfl, List.Perm.refl _⟩

/-- the fold of `sort_shortest_distance` runs on an annotated copy `G`; it is `visit` over any graph `H` with the same
in-degrees -/
theorem shortFold_visit (H G : Graph) (hdeg : ∀ c, G.indeg c = H.indeg c) (links : List Link)
    (acc : List QEntry × Map Nat × Nat) :
    (links.foldl (shortVisitLink G) acc).2.1 = (links.foldl (visit H) (acc.1.map (·.id), acc.2.1)).2 ∧
    ((links.foldl (shortVisitLink G) acc).1.map (·.id)).Perm (links.foldl (visit H) (acc.1.map (·.id), acc.2.1)).1 := by
  refine fold_visit H (shortVisitLink G) (·.1.map (·.id)) (·.2.1) (fun a l => ?_) links acc
  unfold shortVisitLink visit
  simp only [hdeg]
  split
  · exact ⟨rfl, by simpa using (insertBy_perm qBefore _ a.1).map (·.id)⟩
  · exact ⟨rfl, List.Perm.refl _⟩

/-- kept by the loops: stable under reordering the queue and under popping an id and visiting its links -/
structure Inv (g : Graph) (I : List Nat → Map Nat → List Nat → Prop) : Prop where
  perm : ∀ {q q' : List Nat} {r : Map Nat} {o : List Nat}, q.Perm q' → I q r o → I q' r o
  step : ∀ id rest r o, I (id :: rest) r o →
    I ((g.obj id).links.foldl (visit g) (rest, r)).1 ((g.obj id).links.foldl (visit g) (rest, r)).2 (id :: o)

theorem kahnLoop_inv {g : Graph} {I : List Nat → Map Nat → List Nat → Prop} (hI : Inv g I) (fuel : Nat)
    (st st' : SortSt) (h : kahnLoop g fuel st = some st') (h0 : I st.queue st.removed st.orderRev) :
    I [] st'.removed st'.orderRev := by
  induction fuel generalizing st with
  | zero => simp [kahnLoop] at h
  | succ n ih =>
    unfold kahnLoop at h
    split at h
    · rename_i hq
      simp only [Option.some.injEq] at h
      subst h
      rw [hq] at h0; exact h0
    · rename_i id rest hq
      simp only [] at h
      rw [hq] at h0
      obtain ⟨e, p⟩ := kahnFold_visit g (g.obj id).links (rest, st.removed)
      generalize (g.obj id).links.foldl (kahnVisitLink g) (rest, st.removed) = res at h e p
      obtain ⟨queue, removed⟩ := res
      refine ih _ h (hI.perm p.symm ?_)
      rw [show removed = _ from e]
      exact hI.step id rest st.removed st.orderRev h0

theorem shortLoop_inv {H G : Graph} (hG : Annot H G) {I : List Nat → Map Nat → List Nat → Prop} (hI : Inv H I)
    (fuel : Nat) (st st' : ShortSt) (h : shortLoop G fuel st = some st')
    (h0 : I (st.queue.map (·.id)) st.removed st.orderRev) : I [] st'.removed st'.orderRev := by
  induction fuel generalizing st with
  | zero => simp [shortLoop] at h
  | succ n ih =>
    unfold shortLoop at h
    split at h
    · rename_i hq
      simp only [Option.some.injEq] at h
      subst h
      rw [hq] at h0; exact h0
    · rename_i e rest hq
      simp only [] at h
      rw [hq, List.map_cons] at h0
      obtain ⟨e', p⟩ := shortFold_visit H G hG.indeg (G.obj e.id).links (rest, st.removed, st.objOrder)
      generalize (G.obj e.id).links.foldl (shortVisitLink G) (rest, st.removed, st.objOrder) = res at h e' p
      obtain ⟨queue, removed, oo⟩ := res
      refine ih _ h (hI.perm p.symm ?_)
      rw [show removed = _ from e', hG.obj]
      exact hI.step e.id (rest.map (·.id)) st.removed st.orderRev h0

/-- a final state of the loop: whatever the loops keep and holds with only the root queued, holds of it -/
def Run (g : Graph) (removed : Map Nat) (orderRev : List Nat) : Prop :=
  ∀ I : List Nat → Map Nat → List Nat → Prop, Inv g I → I [g.root] [] [] → I [] removed orderRev

structure KahnInv (g : Graph) (queue : List Nat) (removed : Map Nat) (orderRev : List Nat) : Prop where
  full : FullIn g removed (fun x => x ∈ queue ∨ x ∈ orderRev)
  counted : ∀ id ∈ orderRev, ∀ l ∈ (g.obj id).links, Counted removed l.target

theorem visit_full (g : Graph) (acc : List Nat × Map Nat) (l : Link) (S : Nat → Prop)
    (hfull : FullIn g acc.2 (fun x => x ∈ acc.1 ∨ S x)) :
    FullIn g (visit g acc l).2 (fun x => x ∈ (visit g acc l).1 ∨ S x) := by
  intro id c hc hci
  simp only [visit, tally, Map.find?_insert] at hc ⊢
  split at hc
  · rename_i heq
    simp only [Option.some.injEq] at hc
    subst heq
    rw [if_pos (hc.trans hci)]
    exact Or.inl List.mem_cons_self
  · rcases hfull id c hc hci with h | h
    · left; split
      · exact List.mem_cons_of_mem _ h
      · exact h
    · exact Or.inr h

theorem kahnInv_inv (g : Graph) : Inv g (KahnInv g) where
  perm := fun hp h => ⟨fun x c hc hci => (h.full x c hc hci).imp hp.mem_iff.mp id, h.counted⟩
  step := fun id rest r o h => by
    let J (pre : List Link) (a : List Nat × Map Nat) : Prop :=
      FullIn g a.2 (fun x => x ∈ a.1 ∨ x ∈ id :: o) ∧ (∀ x, Counted r x → Counted a.2 x) ∧
        ∀ l ∈ pre, Counted a.2 l.target
    have hJ : J (g.obj id).links ((g.obj id).links.foldl (visit g) (rest, r)) := by
      refine foldl_prefix_induct (visit g) _ J (rest, r) ⟨?_, fun x hx => hx, by simp⟩ ?_
      · intro x c hc hci
        rcases h.full x c hc hci with hx | hx
        · rcases List.mem_cons.mp hx with rfl | hx
          · exact Or.inr List.mem_cons_self
          · exact Or.inl hx
        · exact Or.inr (List.mem_cons_of_mem _ hx)
      · intro pre l _ a _ ⟨j1, j2, j3⟩
        obtain ⟨t1, t2⟩ := tally_counted a.2 l
        refine ⟨visit_full g a l _ j1, fun x hx => t2 x (j2 x hx), fun l' hl' => ?_⟩
        rcases List.mem_append.mp hl' with hl' | hl'
        · exact t2 _ (j3 l' hl')
        · rw [List.mem_singleton.mp hl']; exact t1
    refine ⟨hJ.1, fun x hx l hl => ?_⟩
    rcases List.mem_cons.mp hx with rfl | hx
    · exact hJ.2.2 l hl
    · exact hJ.2.1 _ (h.counted x hx l hl)

theorem kahnInv_init (g : Graph) : KahnInv g [g.root] [] [] :=
  ⟨fun id c hc => by simp [Map.find?] at hc, fun id hid => by simp at hid⟩

theorem cycleCheck_spec (g : Graph) (removed : Map Nat) (h : cycleCheck g removed = true)
    (id c : Nat) (hc : removed.find? id = some c) : c = g.indeg id := by
  unfold cycleCheck at h
  rw [List.all_eq_true] at h
  have := h (id, c) (Map.find?_mem removed id c hc)
  simpa using this

theorem rootFirst_inv (g : Graph) :
    Inv g (fun q _ o => (o = [] ∧ q = [g.root]) ∨ ∃ pre, o = pre ++ [g.root]) where
  perm := fun hp h => h.imp (fun ⟨ho, hq⟩ => ⟨ho, (List.singleton_perm.mp (hq ▸ hp)).symm⟩) id
  step := fun id rest r o h => by
    right
    rcases h with ⟨ho, hq⟩ | ⟨pre, ho⟩
    · simp only [List.cons.injEq] at hq
      exact ⟨[], by rw [ho, hq.1]; rfl⟩
    · exact ⟨id :: pre, by rw [ho]; rfl⟩

theorem Run.rootFirst {g : Graph} {removed : Map Nat} {orderRev : List Nat} (h : Run g removed orderRev) :
    ∃ pre, orderRev = pre ++ [g.root] :=
  (h _ (rootFirst_inv g) (Or.inl ⟨rfl, rfl⟩)).resolve_left (fun hq => absurd hq.2 (List.cons_ne_nil _ _).symm)

theorem Run.closed {g : Graph} {removed : Map Nat} {orderRev : List Nat} (h : Run g removed orderRev)
    (hcyc : cycleCheck g removed = true) :
    (∃ tail, orderRev.reverse = g.root :: tail) ∧
    ∀ id ∈ orderRev, ∀ l ∈ (g.obj id).links, l.target ∈ orderRev := by
  constructor
  · obtain ⟨pre, ho⟩ := h.rootFirst
    exact ⟨pre.reverse, by rw [ho]; simp⟩
  · have hinv := h _ (kahnInv_inv g) (kahnInv_init g)
    intro id hid l hl
    obtain ⟨c, hc⟩ := hinv.counted id hid l hl
    simpa using hinv.full _ _ hc (cycleCheck_spec _ _ hcyc _ _ hc)

def qIds (q : List QEntry) (x : Nat) : Prop := ∃ e ∈ q, e.id = x

structure ShortInv (g : Graph) (queue : List QEntry) (removed : Map Nat) (orderRev : List Nat) : Prop where
  full : FullIn g removed (fun x => qIds queue x ∨ x ∈ orderRev)
  counted : ∀ id ∈ orderRev, ∀ l ∈ (g.obj id).links, Counted removed l.target

theorem shortInv_iff (g : Graph) (queue : List QEntry) (removed : Map Nat) (orderRev : List Nat) :
    ShortInv g queue removed orderRev ↔ KahnInv g (queue.map (·.id)) removed orderRev := by
  have e : ∀ x, qIds queue x ↔ x ∈ queue.map (·.id) := fun x => by simp [qIds]
  exact ⟨fun h => ⟨fun x c hc hci => (h.full x c hc hci).imp (e x).mp id, h.counted⟩,
    fun h => ⟨fun x c hc hci => (h.full x c hc hci).imp (e x).mpr id, h.counted⟩⟩

theorem mem_qids (q : List QEntry) (x : Nat) : x ∈ q.map (·.id) ↔ qIds q x := by
  simp [qIds]

/-- everything queued or processed is reachable, listed once, and (unless it
is the root) its count has reached its cached in-degree -/
structure EnumInv (g : Graph) (queue : List Nat) (removed : Map Nat) (orderRev : List Nat) : Prop where
  reach : ∀ x ∈ queue ++ orderRev, Reach g g.root x
  nodup : (queue ++ orderRev).Nodup
  done : ∀ x ∈ queue ++ orderRev, x = g.root ∨ ∃ c, removed.find? x = some c ∧ g.indeg x ≤ c

theorem visit_enum (g : Graph) (acc : List Nat × Map Nat) (l : Link) (src : Nat) (S : List Nat)
    (hroot : g.indeg g.root = 0) (hl : l ∈ (g.obj src).links) (hsrc : Reach g g.root src)
    (hinv : EnumInv g acc.1 acc.2 S) :
    EnumInv g (visit g acc l).1 (visit g acc l).2 S := by
  have hmono : ∀ x, x = g.root ∨ (∃ c, acc.2.find? x = some c ∧ g.indeg x ≤ c) →
      x = g.root ∨ ∃ c, (tally acc.2 l).find? x = some c ∧ g.indeg x ≤ c := by
    intro x hx
    refine hx.imp id (fun ⟨c, hc, hle⟩ => ?_)
    rw [tally, Map.find?_insert]
    split
    · rename_i heq
      subst heq
      exact ⟨_, rfl, by rw [hc]; simp; omega⟩
    · exact ⟨c, hc, hle⟩
  unfold visit
  simp only []
  split
  · rename_i hseen
    -- the target is pushed: it was neither queued nor processed, or its count would be past its in-degree
    have hnew : l.target ∉ acc.1 ++ S := by
      intro hmem
      rcases hinv.done l.target hmem with hr | ⟨c, hc, hle⟩
      · rw [hr, hroot] at hseen; omega
      · rw [hc] at hseen; simp at hseen; omega
    refine ⟨fun x hx => ?_, List.nodup_cons.mpr ⟨hnew, hinv.nodup⟩, fun x hx => ?_⟩
    · rcases List.mem_cons.mp hx with rfl | hx
      · exact Reach.step l hsrc hl
      · exact hinv.reach x hx
    · rcases List.mem_cons.mp hx with rfl | hx
      · exact Or.inr ⟨_, by rw [tally, Map.find?_insert, if_pos rfl], by omega⟩
      · exact hmono x (hinv.done x hx)
  · exact ⟨hinv.reach, hinv.nodup, fun x hx => hmono x (hinv.done x hx)⟩

theorem enum_pop (g : Graph) (id : Nat) (rest : List Nat) (removed : Map Nat) (orderRev : List Nat)
    (hinv : EnumInv g (id :: rest) removed orderRev) : EnumInv g rest removed (id :: orderRev) :=
  have hp : List.Perm (rest ++ id :: orderRev) (id :: rest ++ orderRev) := by simp
  ⟨fun x hx => hinv.reach x (hp.mem_iff.mp hx), hp.nodup_iff.mpr hinv.nodup, fun x hx => hinv.done x (hp.mem_iff.mp hx)⟩

theorem enum_inv (g : Graph) (hroot : g.indeg g.root = 0) : Inv g (EnumInv g) where
  perm := fun {q q' r o} hp h =>
    ⟨fun x hx => h.reach x ((hp.append_right o).mem_iff.mpr hx), ((hp.append_right o).nodup_iff).mp h.nodup,
      fun x hx => h.done x ((hp.append_right o).mem_iff.mpr hx)⟩
  step := fun id rest r o h =>
    foldl_prefix_induct (visit g) _ (fun _ a => EnumInv g a.1 a.2 (id :: o)) (rest, r) (enum_pop g id rest r o h)
      (fun pre l rest' a hsplit ha => visit_enum g a l id (id :: o) hroot (by rw [hsplit]; simp)
        (h.reach id List.mem_cons_self) ha)

theorem enum_init (g : Graph) (removed : Map Nat) : EnumInv g [g.root] removed [] := by
  refine ⟨fun x hx => ?_, by simp, fun x hx => ?_⟩ <;> obtain rfl := List.mem_singleton.mp hx
  · exact Reach.refl _
  · exact Or.inl rfl

theorem Run.enum {g : Graph} {removed : Map Nat} {orderRev : List Nat} (h : Run g removed orderRev)
    (hroot : g.indeg g.root = 0) : orderRev.Nodup ∧ ∀ x ∈ orderRev, Reach g g.root x :=
  let hinv := h _ (enum_inv g hroot) (enum_init g [])
  ⟨by simpa using hinv.nodup, fun x hx => hinv.reach x hx⟩

/-- either sort: a run of the loop over `update_parents g`, then the cycle check; the result is `update_parents g` up to
annotations -/
structure SortRun (g g' : Graph) (removed : Map Nat) : Prop where
  run : Run (updateParents g) removed g'.order.reverse
  check : cycleCheck (updateParents g) removed = true
  same : Annot (updateParents g) g'

theorem SortRun.objects {g g' : Graph} {removed : Map Nat} (s : SortRun g g' removed) :
    g'.objects = g.objects ∧ g'.root = g.root :=
  ⟨s.same.objects.trans (updateParents_objects g), s.same.root.trans (updateParents_root g)⟩

theorem sortKahn_cases (g g' : Graph) (h : sortKahn g = some g') :
    (g.nodes.length ≤ 1 ∧ g' = { g with order := g.order ++ g.nodes.keys }) ∨ ∃ removed, SortRun g g' removed := by
  unfold sortKahn at h
  split at h
  · rename_i hn
    simp only [Option.some.injEq] at h
    exact Or.inl ⟨hn, h.symm⟩
  · simp only [] at h
    split at h
    · simp at h
    · rename_i st hloop
      split at h
      · rename_i hcyc
        simp only [Option.some.injEq] at h
        subst h
        exact Or.inr ⟨st.removed, fun I hI h0 => by simpa using kahnLoop_inv hI _ _ _ hloop h0, hcyc,
          rfl, rfl, kahnLoop_same _ _ _ _ hloop⟩
      · simp at h

theorem sortKahn_run (g g' : Graph) (hn : 1 < g.nodes.length) (h : sortKahn g = some g') :
    ∃ removed, SortRun g g' removed :=
  (sortKahn_cases g g' h).resolve_left (fun h1 => absurd h1.1 (by omega))

theorem sortShortest_run (g g' : Graph) (h : sortShortest g = some g') : ∃ removed, SortRun g g' removed := by
  unfold sortShortest at h
  simp only [Option.bind_eq_bind, Option.bind_eq_some_iff] at h
  obtain ⟨g2, hd, g3, hs, st, hloop, h⟩ := h
  have a3 : Annot (updateParents g) g3 := (updateDistances_annot _ _ hd).trans (assignSpace0_annot _ _ hs)
  split at h
  · rename_i hcyc
    simp only [Option.some.injEq] at h
    subst h
    refine ⟨st.removed, fun I hI h0 => ?_, (cycleCheck_annot a3 _).symm.trans hcyc,
      a3.trans ⟨rfl, rfl, shortLoop_same _ _ _ _ hloop⟩⟩
    simpa using shortLoop_inv a3 hI _ _ _ hloop (by simpa [a3.root] using h0)
  · simp at h

theorem sortKahn_objects (g g' : Graph) (h : sortKahn g = some g') : g'.objects = g.objects ∧ g'.root = g.root := by
  rcases sortKahn_cases g g' h with ⟨_, rfl⟩ | ⟨_, s⟩
  · exact ⟨rfl, rfl⟩
  · exact s.objects

theorem sortShortest_objects (g g' : Graph) (h : sortShortest g = some g') : g'.objects = g.objects ∧ g'.root = g.root :=
  let ⟨_, s⟩ := sortShortest_run g g' h
  s.objects

theorem SortRun.spec {g g' : Graph} {removed : Map Nat} (s : SortRun g g' removed) :
    g'.objects = g.objects ∧ g'.root = g.root ∧
    (∃ tail, g'.order = g.root :: tail) ∧
    (∀ id ∈ g'.order, ∀ l ∈ (g.obj id).links, l.target ∈ g'.order) := by
  obtain ⟨⟨tail, ht⟩, hclosed⟩ := s.run.closed s.check
  refine ⟨s.objects.1, s.objects.2, ⟨tail, by rw [← updateParents_root g, ← ht, List.reverse_reverse]⟩,
    fun id hid l hl => ?_⟩
  rw [← updateParents_obj] at hl
  exact List.mem_reverse.mp (hclosed id (List.mem_reverse.mpr hid) l hl)

theorem SortRun.enum {g g' : Graph} {removed : Map Nat} (s : SortRun g g' removed)
    (hroot : (updateParents g).indeg g.root = 0) : g'.order.Nodup ∧ ∀ x ∈ g'.order, Reach g g.root x := by
  obtain ⟨hnd, hreach⟩ := s.run.enum (by rw [updateParents_root]; exact hroot)
  refine ⟨(List.reverse_perm _).nodup_iff.mp hnd, fun x hx => ?_⟩
  have := hreach x (List.mem_reverse.mpr hx)
  rw [updateParents_root] at this
  exact reach_congr g _ (updateParents_objects g) _ _ this

end FontVerif.Graph
