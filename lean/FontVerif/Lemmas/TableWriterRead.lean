/-
C04 ⇄ C05 bridge: reading a represented table.  From `RepLinks` to C05's `unfold` (the graph the writer builds unfolds
to the value tree), and positions: wherever `dump` placed the objects (`Graph.Placed`), the output holds the tables
themselves and every stored offset leads to the child (`ReadsAs` / `TableAt`); a reader guided by the value's shape then
sees the value.
-/
import FontVerif.Lemmas.TableWriterRun
import FontVerif.Lemmas.GraphPlaced
namespace FontVerif.TableWriter
open FontVerif.Graph

theorem repLinks_skel (s : Store) (fs : Fields) : ∀ len a ls, RepLinks s fs len a ls →
    ls.map (fun l => (l.pos, l.width, l.adj)) = (skelLinks fs len a).map (fun l => (l.pos, l.width, l.adj)) := by
  induction fs with
  | nil => intro len a ls h; simp only [RepLinks] at h; subst h; rfl
  | bytes bs rest ih => intro len a ls h; exact ih _ _ _ h
  | null w rest ih => intro len a ls h; exact ih _ _ _ h
  | pad2 rest ih => intro len a ls h; exact ih _ _ _ h
  | adjust n body rest ihb ihr =>
    intro len a ls h
    obtain ⟨l1, l2, h1, hb, hr⟩ := h
    subst h1
    simp only [skelLinks, List.map_append]
    rw [ihb _ _ _ hb, ihr _ _ _ hr]
  | link w ty child rest ihc ihr =>
    intro len a ls h
    obtain ⟨l, ls', h1, h2, h3, h4, _, hr⟩ := h
    subst h1
    simp only [skelLinks, List.map_cons]
    rw [ihr _ _ _ hr, h2, h3, h4]

theorem repLinks_shape (s : Store) (fs : Fields) (len a : Nat) (ls : List Link) (h : RepLinks s fs len a ls) :
    ls.map (fun l => (l.pos, l.width)) = (skelLinks fs len a).map (fun l => (l.pos, l.width)) := by
  have := congrArg (List.map (fun (p : Nat × Nat × Nat) => (p.1, p.2.1))) (repLinks_skel s fs len a ls h)
  simpa [List.map_map, Function.comp_def] using this

theorem maskedBytes_rep (s : Store) (fs : Fields) (a : Nat) (d : TData) (bs : List Nat) (hb : d.bytes = flat fs 0)
    (hc : RepLinks s fs 0 a d.offsets) : maskedBytes (toObj d) bs = maskedBytes (skel fs a) bs := by
  apply maskedBytes_shape
  · simp only [toObj, skel, hb]
  · simpa only [toObj, skel] using repLinks_shape s fs 0 a d.offsets hc

theorem unfold_node (s : Store) (g : Graph) (hg : ∀ d id, (d, id) ∈ s → g.obj id = toObj d) (id : Nat) (fs : Fields)
    (a n : Nat) (d : TData) (hm : (d, id) ∈ s) (hb : d.bytes = flat fs 0) (hc : RepLinks s fs 0 a d.offsets)
    (hk : d.offsets.map (fun l => unfold g n l.target) = treeKids fs a) : unfold g (n + 1) id = fs.tree a := by
  simp only [unfold, hg d id hm, Fields.tree]
  rw [← maskedBytes_rep s fs a d _ hb hc, ← hb]
  exact congrArg _ hk

theorem unfold_rep (s : Store) (g : Graph) (hg : ∀ d id, (d, id) ∈ s → g.obj id = toObj d) (fs : Fields) :
    ∀ len a ls fuel, RepLinks s fs len a ls → depth fs ≤ fuel →
      ls.map (fun l => unfold g fuel l.target) = treeKids fs a := by
  induction fs with
  | nil => intro len a ls fuel h _; simp only [RepLinks] at h; subst h; rfl
  | bytes bs rest ih => intro len a ls fuel h hd; exact ih _ _ _ _ h hd
  | null w rest ih => intro len a ls fuel h hd; exact ih _ _ _ _ h hd
  | pad2 rest ih => intro len a ls fuel h hd; exact ih _ _ _ _ h hd
  | adjust n body rest ihb ihr =>
    intro len a ls fuel h hd
    obtain ⟨l1, l2, rfl, hb, hr⟩ := h
    obtain ⟨hd1, hd2⟩ := Nat.max_le.mp hd
    rw [List.map_append, ihb _ _ _ _ hb hd1, ihr _ _ _ _ hr hd2]
    rfl
  | link w ty child rest ihc ihr =>
    intro len a ls fuel h hd
    obtain ⟨l, ls', rfl, h2, h3, h4, ⟨d, hm, hb, hc⟩, hr⟩ := h
    obtain ⟨hd1, hd2⟩ := Nat.max_le.mp hd
    obtain ⟨n, rfl⟩ := Nat.exists_eq_succ_of_ne_zero (Nat.ne_of_gt (Nat.lt_of_lt_of_le (Nat.succ_pos _) hd1))
    rw [List.map_cons, ihr _ _ _ _ hr hd2,
      unfold_node s g hg l.target child a n d hm hb hc (ihc _ _ _ _ hc (Nat.le_of_succ_le_succ hd1))]
    rfl

theorem unfold_table (s : Store) (g : Graph) (hg : ∀ d id, (d, id) ∈ s → g.obj id = toObj d) (id : Nat) (fs : Fields)
    (a fuel : Nat) (h : RepTable s id fs a) (hf : depth fs < fuel) : unfold g fuel id = fs.tree a := by
  obtain ⟨d, hm, hb, hc⟩ := h
  obtain ⟨n, rfl⟩ := Nat.exists_eq_succ_of_ne_zero (Nat.ne_of_gt (Nat.lt_of_le_of_lt (Nat.zero_le _) hf))
  exact unfold_node s g hg id fs a n d hm hb hc (unfold_rep s g hg fs 0 a d.offsets n hc (Nat.le_of_lt_succ hf))

/-- what C05's theorems ask of their input graph -/
theorem makeGraph_ready (ids : Nat → Nat) (hinj : Function.Injective ids) (t : Table) (hok : t.Ok)
    (fresh : List Nat) (hnd : fresh.Nodup) (hfr : ∀ j, ids j ∉ fresh) :
    RepTable (addTable ids t (Writer.init 0)).2.tables (addTable ids t (Writer.init 0)).1 t.fields 0 ∧
    (makeGraph ids t).root ∈ (makeGraph ids t).nodes.keys ∧
    (∀ kv ∈ (makeGraph ids t).objects, ∀ l ∈ kv.2.links, l.target ∈ (makeGraph ids t).nodes.keys) ∧
    FreshFor (makeGraph ids t) fresh ∧
    (∀ id o, (makeGraph ids t).objects.find? id = some o → ObjWF o) ∧
    (∀ d id, (d, id) ∈ (addTable ids t (Writer.init 0)).2.tables → (makeGraph ids t).obj id = toObj d) := by
  obtain ⟨hinv, _, _, ⟨j, _, hj⟩, hrep, _⟩ := addTable_spec ids hinj (Writer.init 0) (inv_init ids 0) t hok
  obtain ⟨d, hm, _, _⟩ := id hrep
  have hkeys : (makeGraph ids t).nodes.keys = (addTable ids t (Writer.init 0)).2.tables.objects.keys :=
    keys_fromObjects _ _
  exact ⟨hrep, hkeys ▸ objects_mem_keys _ hinv.nodup d _ hm, hkeys ▸ graph_closed ids _ hinv,
    graph_freshFor ids _ hinv _ fresh hnd hfr (by rw [hj]; exact hfr j), graph_objWF ids _ hinv _,
    fun d id h => graph_obj ids _ hinv _ d id h⟩

/-- the end-to-end statement the C04 composition uses: whatever `dump` returns for an unsorted graph that holds its root and is
closed under its links places the INPUT graph, root at 0 (one-object graphs included) -/
theorem dump_placed (g : Graph) (fresh : List Nat) (out : List Nat) (ho : g.order = []) (hr : g.root ∈ g.nodes.keys)
    (hc : ∀ kv ∈ g.objects, ∀ l ∈ kv.2.links, l.target ∈ g.nodes.keys)
    (hf : FreshFor g fresh) (hwf : ∀ id o, g.objects.find? id = some o → ObjWF o)
    (h : dump g fresh = some (some out)) : ∃ P : Nat → Nat → Prop, P g.root 0 ∧ Placed out g P := by
  obtain ⟨g', fresh', hp, hs⟩ := dump_cases g fresh out h
  obtain ⟨φ, hsim, hroot⟩ := packObjects_simulates g fresh true g' fresh' hf hp
  exact serialized_simulation_placed g g' φ out hsim hroot hwf
    (packObjects_sortedOut_closed g g' fresh fresh' ho hr hc hp) hs

/-- **`out` holds, from `hd` on, the offset slots of `fs` (from byte `len` of the table, adjustment `a`) and everything
behind them**: for every non-null slot the stored big-endian value `v` fits the recorded width, and at
`hd + adjustment + v` the output holds a byte-for-byte copy of the child (outside the child's own non-null slots; the
whole child lies inside the output) whose slots, recursively, read the same way. -/
def ReadsAs (out : List Nat) : Nat → Fields → Nat → Nat → Prop
  | _, .nil, _, _ => True
  | hd, .bytes bs rest, len, a => ReadsAs out hd rest (len + bs.length) a
  | hd, .null w rest, len, a => ReadsAs out hd rest (len + w) a
  | hd, .link w _ child rest, len, a =>
    beValue ((out.drop (hd + len % U32)).take (lenOf w)) ≤ maxValue (lenOf w) ∧
    (out.drop (hd + len % U32)).take (lenOf w) =
      beBytes (lenOf w) (beValue ((out.drop (hd + len % U32)).take (lenOf w))) ∧
    CopyAt out (hd + adjAfter child a + beValue ((out.drop (hd + len % U32)).take (lenOf w))) (skel child a) ∧
    ReadsAs out (hd + adjAfter child a + beValue ((out.drop (hd + len % U32)).take (lenOf w))) child 0 a ∧
    ReadsAs out hd rest (len + min w 4) (adjAfter child a)
  | hd, .adjust n body rest, len, _ =>
    ReadsAs out hd body len n ∧ ReadsAs out hd rest (len + (flat body len).length) 0
  | hd, .pad2 rest, len, a => ReadsAs out hd rest (len + (if len % 2 ≠ 0 then 1 else 0)) a

def TableAt (out : List Nat) (hd : Nat) (fs : Fields) (a : Nat) : Prop :=
  CopyAt out hd (skel fs a) ∧ ReadsAs out hd fs 0 a

theorem readKids_of_readsAs (out : List Nat) (fs : Fields) :
    ∀ hd len a, ReadsAs out hd fs len a → readKids out hd fs len a = treeKids fs a := by
  induction fs with
  | nil => intro _ _ _ _; rfl
  | bytes bs rest ih => intro hd len a h; exact ih _ _ _ h
  | null w rest ih => intro hd len a h; exact ih _ _ _ h
  | pad2 rest ih => intro hd len a h; exact ih _ _ _ h
  | adjust n body rest ihb ihr =>
    intro hd len a h
    show readKids out hd body len n ++ readKids out hd rest _ 0 = treeKids body n ++ treeKids rest 0
    rw [ihb _ _ _ h.1, ihr _ _ _ h.2]
  | link w ty child rest ihc ihr =>
    intro hd len a h
    obtain ⟨_, _, hcopy, hchild, hrest⟩ := h
    show Tree.node _ (readKids out _ child 0 a) :: readKids out hd rest _ _ = Tree.node _ (treeKids child a) :: treeKids rest _
    rw [ihc _ _ _ hchild, ihr _ _ _ hrest, masked_copy out _ _ hcopy]
    rfl

theorem readFields_of_tableAt (out : List Nat) (hd : Nat) (fs : Fields) (a : Nat) (h : TableAt out hd fs a) :
    readFields out hd fs a = fs.tree a := by
  rw [readFields, readKids_of_readsAs out fs hd 0 a h.2, masked_copy out hd _ h.1]
  rfl

theorem copyAt_skel (out : List Nat) (s : Store) (hd : Nat) (d : TData) (fs : Fields) (a : Nat)
    (hb : d.bytes = flat fs 0) (hc : RepLinks s fs 0 a d.offsets) (h : CopyAt out hd (toObj d)) :
    CopyAt out hd (skel fs a) := by
  apply copyAt_shape out hd (toObj d) (skel fs a) (by simp [toObj, skel, hb]) ?_ h
  unfold fieldsOf
  simpa [toObj, skel] using repLinks_skel s fs 0 a d.offsets hc

theorem readsAs_rep (out : List Nat) (s : Store) (g : Graph) (hg : ∀ d id, (d, id) ∈ s → g.obj id = toObj d)
    (P : Nat → Nat → Prop) (hP : Placed out g P) (fs : Fields) :
    ∀ hd len a ls, RepLinks s fs len a ls → (∀ l ∈ ls, LinkPlaced out P hd l) → ReadsAs out hd fs len a := by
  induction fs with
  | nil => intro hd len a ls _ _; trivial
  | bytes bs rest ih => intro hd len a ls h hl; exact ih _ _ _ _ h hl
  | null w rest ih => intro hd len a ls h hl; exact ih _ _ _ _ h hl
  | pad2 rest ih => intro hd len a ls h hl; exact ih _ _ _ _ h hl
  | adjust n body rest ihb ihr =>
    intro hd len a ls h hl
    obtain ⟨l1, l2, h1, hb, hr⟩ := h
    subst h1
    exact ⟨ihb _ _ _ _ hb (fun l hm => hl l (List.mem_append_left _ hm)),
      ihr _ _ _ _ hr (fun l hm => hl l (List.mem_append_right _ hm))⟩
  | link w ty child rest ihc ihr =>
    intro hd len a ls h hl
    obtain ⟨l, ls', h1, h2, h3, h4, ⟨d, hm, hb, hc⟩, hr⟩ := h
    subst h1
    obtain ⟨hfit, henc, hp⟩ := hl l List.mem_cons_self
    have hoff : readOffset out hd l = beValue ((out.drop (hd + len % U32)).take (lenOf w)) := by
      unfold readOffset; rw [h2, h3]
    rw [hoff, h3] at hfit
    rw [hoff, h2, h3] at henc
    rw [hoff, h4] at hp
    obtain ⟨hcopy, hkids⟩ := hP _ _ hp
    rw [hg d l.target hm] at hcopy hkids
    exact ⟨hfit, henc, copyAt_skel out s _ d child a hb hc hcopy, ihc _ _ _ _ hc hkids,
      ihr _ _ _ _ hr (fun l' hm' => hl l' (List.mem_cons_of_mem _ hm'))⟩

end FontVerif.TableWriter
