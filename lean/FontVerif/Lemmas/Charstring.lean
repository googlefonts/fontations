/-
Lemmas about Model/Charstring.lean: the loops inside one operator make progress, one operator is a
bounded amount of work that keeps the operand-stack invariant, and the token loop consumes its input.
-/
import FontVerif.Model.Charstring
import FontVerif.Lemmas.Ite
namespace FontVerif.CharstringLemmas
open FontVerif.Charstring

/-- at most `MAX_STACK` entries; every integer entry came from `parse_int` (16-bit range) -/
def Inv (st : St) : Prop :=
  st.stack.length ≤ 513 ∧ ∀ v : Int, some v ∈ st.stack → -32768 ≤ v ∧ v ≤ 32767

theorem inv_nil (st : St) (h : st.stack = []) : Inv st := by
  unfold Inv; rw [h]; simp

theorem bias_range (c : Nat) : 107 ≤ bias c ∧ bias c ≤ 32768 := by
  unfold bias; repeat' split
  all_goals omega

theorem biasedIndex_some (v : Int) (c : Nat) (h : -32768 ≤ v ∧ v ≤ 32767) : ∃ k, biasedIndex v c = some k := by
  unfold biasedIndex
  have := bias_range c
  simp only []
  rw [if_neg (by omega)]
  exact ⟨_, rfl⟩

theorem wrapI16_range (x : Int) : -32768 ≤ wrapI16 x ∧ wrapI16 x ≤ 32767 := by
  unfold wrapI16; simp only []; split <;> omega

theorem parseInt_spec {b0 : Nat} {rest rest' : List Nat} {v : Int}
    (h : parseInt b0 rest = .ok (v, rest')) :
    -32768 ≤ v ∧ v ≤ 32767 ∧ rest'.length ≤ rest.length := by
  unfold parseInt at h
  rcases ite_eq h with ⟨_, h⟩ | ⟨_, h⟩
  · cases h; exact ⟨by omega, by omega, Nat.le_refl _⟩
  rcases ite_eq h with ⟨_, h⟩ | ⟨_, h⟩
  · match rest, h with
    | b1 :: r, h => cases h; exact ⟨by omega, by omega, Nat.le_succ _⟩
  rcases ite_eq h with ⟨_, h⟩ | ⟨_, h⟩
  · match rest, h with
    | b1 :: r, h => cases h; exact ⟨by omega, by omega, Nat.le_succ _⟩
  · match rest, h with
    | b1 :: b2 :: r, h =>
      obtain ⟨h1, h2⟩ := Prod.mk.inj (Except.ok.inj h)
      have := wrapI16_range (((b1 % 256) * 256 + b2 % 256 : Nat) : Int)
      rw [h1] at this
      exact ⟨this.1, this.2, h2 ▸ Nat.le_trans (Nat.le_succ _) (Nat.le_succ _)⟩

theorem readOperator_len {b0 : Nat} {rest rest' : List Nat} {op : Op}
    (h : readOperator b0 rest = .ok (op, rest')) : rest'.length ≤ rest.length := by
  unfold readOperator at h
  split at h
  · split at h
    · simp at h
    · split at h
      · simp at h; obtain ⟨_, h2⟩ := h; subst h2; simp
      · simp at h
  · split at h
    · simp at h; obtain ⟨_, h2⟩ := h; subst h2; exact Nat.le_refl _
    · simp at h

theorem popI32_spec {stack rest : List (Option Int)} {v : Int} (h : popI32 stack = .ok (v, rest)) :
    stack = some v :: rest := by
  unfold popI32 at h
  split at h <;> simp at h
  obtain ⟨h1, h2⟩ := h; subst h1; subst h2; rfl

theorem inv_pop {st : St} {v : Int} {rest : List (Option Int)} (hi : Inv st) (h : popI32 st.stack = .ok (v, rest)) :
    Inv { st with stack := rest } ∧ -32768 ≤ v ∧ v ≤ 32767 := by
  have hs := popI32_spec h
  unfold Inv at *
  rw [hs] at hi
  obtain ⟨h1, h2⟩ := hi
  refine ⟨⟨?_, ?_⟩, ?_⟩
  · simp at h1 ⊢; omega
  · intro w hw; exact h2 w (List.mem_cons_of_mem _ hw)
  · exact h2 v (List.mem_cons_self ..)

theorem push_spec (st : St) (v : Option Int) (hi : Inv st)
    (hv : ∀ w, v = some w → -32768 ≤ w ∧ w ≤ 32767) :
    match push st v with
    | .ok st' => Inv st' ∧ st'.steps = st.steps ∧ st'.out = st.out
    | .error (f, stE) => f = .err .stackOverflow ∧ stE = st := by
  unfold push MAX_STACK failE
  have := hi.1
  by_cases h1 : st.stack.length = 513
  · rw [if_pos h1]; exact ⟨rfl, rfl⟩
  · rw [if_neg h1, if_neg (by omega)]
    refine ⟨⟨by simp; omega, ?_⟩, rfl, rfl⟩
    intro w hw
    simp at hw
    rcases hw with hw | hw
    · exact hv w hw.symm
    · exact hi.2 w hw

/-- every loop body moves the index forward (below a bound) and emits at most one command per iteration:
    the loop needs at most `bound - ix` iterations and `out.length + (bound - ix)` never grows -/
theorem whileFuel_progress (body : LoopSt → Option (Except Err LoopSt)) (bound : Nat)
    (h : ∀ s s', body s = some (.ok s') → s.ix < bound ∧ s.ix < s'.ix ∧ s'.out.length ≤ s.out.length + 1) :
    ∀ fuel s, bound - s.ix < fuel →
      match whileFuel body fuel s with
      | .ok l => l.out.length + (bound - l.ix) ≤ s.out.length + (bound - s.ix)
      | .error .stuck => False
      | .error (.err _) => True := by
  intro fuel
  induction fuel with
  | zero => intro s hf; omega
  | succ f ih =>
    intro s hf
    unfold whileFuel
    cases hb : body s with
    | none => simp
    | some r =>
      cases r with
      | error e => simp
      | ok s' =>
        simp only []
        have ⟨h1, h2, h3⟩ := h s s' hb
        have := ih s' (by omega)
        revert this
        generalize whileFuel body f s' = r
        intro this
        match r, this with
        | .ok l, this => simp only [] at this ⊢; omega
        | .error .stuck, this => exact this
        | .error (.err e), _ => trivial

theorem getFixed_ok {i : Nat} {u : Unit} (h : getFixed i = .ok u) : i < 513 := by
  unfold getFixed MAX_STACK at h; split at h <;> simp_all

theorem emitCurves_ok : ∀ (modes : List Nat) (c : Nat) (s s' : LoopSt), c ≤ 2 →
    emitCurves modes c s = .ok s' →
    s'.ix = s.ix + modes.sum ∧ s'.out.length = s.out.length + (c + modes.length) / 3 := by
  intro modes
  induction modes with
  | nil => intro c s s' hc h; simp [emitCurves] at h; subst h; simp; omega
  | cons u ms ih =>
    intro c s s' hc h
    unfold emitCurves at h
    split at h
    · simp at h
    · split at h
      · simp at h
      · simp only [] at h
        split at h
        · rename_i hc2
          have := ih 0 _ s' (by omega) h
          simp at this ⊢
          omega
        · have := ih (c + 1) _ s' (by omega) h
          simp at this ⊢
          omega

/-- the shape of the three simple loop bodies: a guard, one checked read, the index moved on, one command -/
theorem guard_progress {g : Prop} [Decidable g] {chk : Except Err Unit} {s s' : LoopSt} {d K n : Nat} (hd : 1 ≤ d)
    (hg : g → s.ix < n)
    (h : (if g then some (match chk with
        | .error e => (Except.error e : Except Err LoopSt)
        | .ok _ => .ok { ix := s.ix + d, out := K :: s.out }) else none) = some (.ok s')) :
    s.ix < n ∧ s.ix < s'.ix ∧ s'.out.length ≤ s.out.length + 1 := by
  rcases ite_eq h with ⟨hc, h⟩ | ⟨_, h⟩
  · cases chk with
    | error e => exact nomatch h
    | ok u => cases h; exact ⟨hg hc, Nat.lt_add_of_pos_right hd, Nat.le_refl _⟩
  · cases h

theorem pairBody_progress (n kind : Nat) (s s' : LoopSt) (h : pairBody n kind s = some (.ok s')) :
    s.ix < n ∧ s.ix < s'.ix ∧ s'.out.length ≤ s.out.length + 1 :=
  guard_progress (by decide) id h

theorem singleBody_progress (n : Nat) (s s' : LoopSt) (h : singleBody n s = some (.ok s')) :
    s.ix < n ∧ s.ix < s'.ix ∧ s'.out.length ≤ s.out.length + 1 :=
  guard_progress (by decide) id h

theorem lineBody_progress (n : Nat) (s s' : LoopSt) (h : lineBody n s = some (.ok s')) :
    s.ix < n ∧ s.ix < s'.ix ∧ s'.out.length ≤ s.out.length + 1 :=
  guard_progress (by decide) (fun hg : n - s.ix > 6 => by omega) h

theorem curveBody_progress (n need : Nat) (modes : List Nat) (hn : 1 ≤ need) (hm : modes.length = 3)
    (hs : 1 ≤ modes.sum) (s s' : LoopSt) (h : curveBody n need modes s = some (.ok s')) :
    s.ix < n ∧ s.ix < s'.ix ∧ s'.out.length ≤ s.out.length + 1 := by
  unfold curveBody at h
  split at h
  · simp at h
    have := emitCurves_ok modes 0 s s' (by omega) h
    rw [hm] at this
    omega
  · simp at h

theorem hvBody_progress (count : Nat) (s s' : LoopSt) (h : hvBody count s = some (.ok s')) :
    s.ix < count ∧ s.ix < s'.ix ∧ s'.out.length ≤ s.out.length + 1 := by
  unfold hvBody at h
  split at h
  · simp at h
    have := emitCurves_ok _ 0 s s' (by omega) h
    simp at this
    omega
  · simp at h

/-- what every operator other than a subroutine call does: an error VALUE with the state untouched, or some of the
    remaining bytes consumed, the stack invariant kept and at most 515 commands emitted -/
def LocalOk (st : St) (rest : List Nat) (r : OpRes) : Prop :=
  match r with
  | .ok (_, rest', st') =>
    rest'.length ≤ rest.length ∧ Inv st' ∧ st'.steps = st.steps ∧ st'.out.length ≤ st.out.length + 515
  | .error (f, stE) => (∃ e, f = .err e) ∧ stE = st

theorem finishOp_inv (st : St) (l : LoopSt) : Inv (finishOp st l) := inv_nil _ rfl

theorem opCurves_ok (modes : List Nat) (hm : modes.length ≤ 6) (rest : List Nat) (st : St) :
    LocalOk st rest (opCurves modes rest st) := by
  unfold opCurves
  split
  · exact ⟨⟨_, rfl⟩, rfl⟩
  · rename_i l hl
    have := emitCurves_ok modes 0 _ l (by omega) hl
    refine ⟨Nat.le_refl _, finishOp_inv _ _, rfl, ?_⟩
    simp [finishOp, St.loopSt] at this ⊢
    omega

theorem opVsindex_ok (b : Option VsLookup) (rest : List Nat) (st : St) (hi : Inv st) :
    LocalOk st rest (opVsindex b rest st) := by
  unfold opVsindex
  split
  · exact ⟨⟨_, rfl⟩, rfl⟩
  · split
    · exact ⟨⟨_, rfl⟩, rfl⟩
    · rename_i v stack hp
      have ⟨hi', _⟩ := inv_pop hi hp
      simp only []
      split
      · exact ⟨Nat.le_refl _, hi', rfl, by simp⟩
      · split
        · exact ⟨⟨_, rfl⟩, rfl⟩
        · exact ⟨Nat.le_refl _, hi', rfl, by simp⟩

theorem opBlend_ok (b : Option VsLookup) (rest : List Nat) (st : St) (hi : Inv st) :
    LocalOk st rest (opBlend b rest st) := by
  unfold opBlend
  split
  · exact ⟨⟨_, rfl⟩, rfl⟩
  · split
    · exact ⟨⟨_, rfl⟩, rfl⟩
    · rename_i v stack hp
      have ⟨hi', _⟩ := inv_pop hi hp
      split
      · exact ⟨⟨_, rfl⟩, rfl⟩
      · simp only []
        split
        · exact ⟨⟨_, rfl⟩, rfl⟩
        · rename_i hlen
          split
          · exact ⟨⟨_, rfl⟩, rfl⟩
          · refine ⟨Nat.le_refl _, ?_, rfl, by simp⟩
            unfold Inv at hi' ⊢
            obtain ⟨h1, h2⟩ := hi'
            simp only [] at h1 h2
            constructor
            · simp only [List.length_append, List.length_replicate, List.length_drop]
              generalize hr : st.regions = r at *
              have : v.toNat * (r + 1) = v.toNat * r + v.toNat := by rw [Nat.mul_succ]
              omega
            · intro w hw
              simp only [List.mem_append, List.mem_replicate] at hw
              rcases hw with hw | hw
              · simp at hw
              · exact h2 w (List.mem_of_mem_drop hw)

theorem opEndchar_ok (rest : List Nat) (st : St) (hi : Inv st) : LocalOk st rest (opEndchar rest st) := by
  unfold opEndchar
  simp only []
  refine ⟨Nat.le_refl _, ?_, ?_, ?_⟩
  · split <;> split <;> first | exact hi | exact inv_nil _ rfl
  · split <;> split <;> rfl
  · split <;> split <;> simp <;> omega

theorem finish_ok {st st' : St} {rest : List Nat} {l : LoopSt} (hs : st'.steps = st.steps)
    (hl : l.out.length ≤ st.out.length + 515) : LocalOk st rest (.ok (true, rest, finishOp st' l)) :=
  ⟨Nat.le_refl _, finishOp_inv _ _, hs, hl⟩

theorem loop_then_ok {st : St} {rest : List Nat} (hi : Inv st) (body : LoopSt → Option (Except Err LoopSt))
    (bound : Nat) (hb : bound ≤ st.stack.length)
    (hp : ∀ s s', body s = some (.ok s') → s.ix < bound ∧ s.ix < s'.ix ∧ s'.out.length ≤ s.out.length + 1)
    (l0 : LoopSt) (hl0 : l0.out = st.out) (k : LoopSt → OpRes)
    (hk : ∀ l, l.out.length ≤ st.out.length + 513 → LocalOk st rest (k l)) :
    LocalOk st rest (match whileFuel body (st.stack.length + 1) l0 with
      | .error f => liftL st (.error f)
      | .ok l => k l) := by
  have := whileFuel_progress body bound hp (st.stack.length + 1) l0 (by omega)
  have h513 := hi.1
  cases hw : whileFuel body (st.stack.length + 1) l0 with
  | error f =>
    rw [hw] at this
    cases f with
    | stuck => exact this.elim
    | err e => exact ⟨⟨_, rfl⟩, rfl⟩
  | ok l =>
    rw [hw] at this
    exact hk l (by rw [← hl0]; omega)

theorem opStem_ok (kind : Nat) (rest : List Nat) (st : St) (hi : Inv st) : LocalOk st rest (opStem kind rest st) := by
  unfold opStem
  exact loop_then_ok hi _ _ (Nat.le_refl _) (pairBody_progress _ _) _ rfl _ (fun l hl => finish_ok rfl (by omega))

theorem opMask_ok (isHint : Bool) (rest : List Nat) (st : St) (hi : Inv st) :
    LocalOk st rest (opMask isHint rest st) := by
  unfold opMask
  refine loop_then_ok hi _ _ (Nat.le_refl _) (pairBody_progress _ _) _ rfl _ (fun l hl => ?_)
  dsimp only
  apply ite_elim <;> intro _
  · exact ⟨⟨_, rfl⟩, rfl⟩
  · exact ⟨by simp, finishOp_inv _ _, rfl, by simp only [finishOp, List.length_cons]; omega⟩

theorem opMove_ok (rel : Bool) (rest : List Nat) (st : St) : LocalOk st rest (opMove rel rest st) := by
  unfold opMove
  simp only []
  split
  · exact ⟨⟨_, rfl⟩, rfl⟩
  · refine ⟨Nat.le_refl _, finishOp_inv _ _, rfl, ?_⟩
    simp [finishOp]
    split <;> simp <;> omega

theorem opRline_ok (rest : List Nat) (st : St) (hi : Inv st) : LocalOk st rest (opRline rest st) := by
  unfold opRline
  exact loop_then_ok hi _ _ (Nat.le_refl _) (pairBody_progress _ _) _ rfl _ (fun l hl => finish_ok rfl (by omega))

theorem opHVline_ok (rest : List Nat) (st : St) (hi : Inv st) : LocalOk st rest (opHVline rest st) := by
  unfold opHVline
  exact loop_then_ok hi _ _ (Nat.le_refl _) (singleBody_progress _) _ rfl _ (fun l hl => finish_ok rfl (by omega))

theorem opHhVv_ok (need : Nat) (hn : 1 ≤ need) (rest : List Nat) (st : St) (hi : Inv st) :
    LocalOk st rest (opHhVv need rest st) := by
  have hgen : ∀ l0 : LoopSt, l0.out = st.out →
      LocalOk st rest (match whileFuel (curveBody st.stack.length need [1, 2, 1]) (st.stack.length + 1) l0 with
        | .error f => liftL st (.error f)
        | .ok l => .ok (true, rest, finishOp st l)) :=
    fun l0 hl0 => loop_then_ok hi _ _ (Nat.le_refl _) (curveBody_progress _ _ _ hn rfl (by simp)) l0 hl0 _
      (fun l hl => finish_ok rfl (by omega))
  unfold opHhVv
  simp only []
  by_cases hodd : st.stack.length % 2 = 1
  · simp only [if_pos hodd]
    cases hg : getFixed 0 with
    | error e => exact ⟨⟨_, rfl⟩, rfl⟩
    | ok u => exact hgen { st.loopSt with ix := 1 } rfl
  · simp only [if_neg hodd]
    exact hgen st.loopSt rfl

theorem opHvVh_ok (rest : List Nat) (st : St) (hi : Inv st) : LocalOk st rest (opHvVh rest st) := by
  unfold opHvVh
  exact loop_then_ok hi _ _ (by split <;> omega) (hvBody_progress _) _ rfl _
    (fun l hl => finish_ok rfl (by omega))

theorem opRrcurve_ok (thenLine : Bool) (rest : List Nat) (st : St) (hi : Inv st) :
    LocalOk st rest (opRrcurve thenLine rest st) := by
  unfold opRrcurve
  refine loop_then_ok hi _ _ (Nat.le_refl _) (curveBody_progress _ _ _ (by omega) rfl (by simp)) _ rfl _
    (fun l hl => ?_)
  apply ite_elim <;> intro _
  · cases fixedArray2 st.stack.length l.ix with
    | error e => exact ⟨⟨_, rfl⟩, rfl⟩
    | ok u => exact finish_ok rfl (by simp only [List.length_cons]; omega)
  · exact finish_ok rfl (by omega)

theorem opRlinecurve_ok (rest : List Nat) (st : St) (hi : Inv st) : LocalOk st rest (opRlinecurve rest st) := by
  unfold opRlinecurve
  refine loop_then_ok hi _ _ (Nat.le_refl _) (lineBody_progress _) _ rfl _ (fun l hl => ?_)
  cases hl2 : emitCurves [2, 2, 2] 0 l with
  | error e => exact ⟨⟨_, rfl⟩, rfl⟩
  | ok l2 =>
    have h2 := emitCurves_ok _ 0 l l2 (by omega) hl2
    simp at h2
    exact finish_ok rfl (by omega)

/-- `st'` is reachable from `st` with at most `C` more loop iterations, and at most 515 commands per iteration -/
def Within (C : Nat) (st st' : St) : Prop :=
  st.steps ≤ st'.steps ∧ st'.steps ≤ st.steps + C ∧ st'.out.length + 515 * st.steps ≤ st.out.length + 515 * st'.steps

/-- an evaluation result: `Ok` with the invariant, or an error VALUE (never `stuck`, never `panic`) -/
def EvalOk (C : Nat) (st : St) (r : Res St) : Prop :=
  match r with
  | .ok st' => Inv st' ∧ Within C st st'
  | .error (f, stE) => (∃ e, f = .err e) ∧ Within C st stE

def CalleeOk (M C : Nat) (callee : List Nat → St → Res St) : Prop :=
  ∀ data st, data.length ≤ M → Inv st → EvalOk C st (callee data st)

def SubrsBounded (env : Env) (M : Nat) : Prop :=
  (∀ i d, env.gsubrs.get i = .ok d → d.length ≤ M) ∧
  (∀ idx, env.subrs = some idx → ∀ i d, idx.get i = .ok d → d.length ≤ M)

/-- one operator (the current loop iteration has already been counted in `st.steps`) -/
def OpOk (C : Nat) (st : St) (rest : List Nat) (r : OpRes) : Prop :=
  match r with
  | .ok (_, rest', st') =>
    rest'.length ≤ rest.length ∧ Inv st' ∧ st.steps ≤ st'.steps ∧ st'.steps ≤ st.steps + C ∧
      st'.out.length + 515 * st.steps ≤ st.out.length + 515 + 515 * st'.steps
  | .error (f, stE) =>
    (∃ e, f = .err e) ∧ st.steps ≤ stE.steps ∧ stE.steps ≤ st.steps + C ∧
      stE.out.length + 515 * st.steps ≤ st.out.length + 515 + 515 * stE.steps

theorem OpOk_of_local {C : Nat} {st : St} {rest : List Nat} {r : OpRes} (h : LocalOk st rest r) : OpOk C st rest r := by
  unfold LocalOk at h
  unfold OpOk
  split
  · rename_i c rest' st'
    simp only [] at h
    obtain ⟨h1, h2, h3, h4⟩ := h
    refine ⟨h1, h2, by omega, by omega, by omega⟩
  · rename_i f stE
    simp only [] at h
    obtain ⟨h1, h2⟩ := h
    subst h2
    refine ⟨h1, by omega, by omega, by omega⟩

theorem opCall_ok {M C : Nat} (idx : Option SubrIndex) (callee : List Nat → St → Res St) (rest : List Nat) (st : St)
    (hi : Inv st) (hc : CalleeOk M C callee)
    (hb : ∀ ix, idx = some ix → ∀ i d, ix.get i = .ok d → d.length ≤ M) :
    OpOk C st rest (opCall idx callee rest st) := by
  unfold opCall
  split
  · exact OpOk_of_local ⟨⟨_, rfl⟩, rfl⟩
  · rename_i ix
    split
    · exact OpOk_of_local ⟨⟨_, rfl⟩, rfl⟩
    · rename_i v stack hp
      have ⟨hi', hv⟩ := inv_pop hi hp
      have ⟨k, hk⟩ := biasedIndex_some v ix.count hv
      rw [hk]
      simp only []
      split
      · exact OpOk_of_local ⟨⟨_, rfl⟩, rfl⟩
      · rename_i data hd
        have hlen := hb ix rfl _ _ hd
        have := hc data { st with stack := stack } hlen hi'
        unfold EvalOk at this
        split
        · rename_i f hf
          rw [hf] at this
          obtain ⟨f, stE⟩ := f
          simp only [] at this
          obtain ⟨h1, h2, h3, h4⟩ := this
          simp only [] at h2 h3 h4
          exact ⟨h1, h2, h3, by omega⟩
        · rename_i st' hs
          rw [hs] at this
          simp only [] at this
          obtain ⟨h0, h2, h3, h4⟩ := this
          simp only [] at h2 h3 h4
          exact ⟨Nat.le_refl _, h0, h2, h3, by omega⟩

theorem evalOperator_ok {M C : Nat} (env : Env) (callee : List Nat → St → Res St) (op : Op) (rest : List Nat) (st : St)
    (hi : Inv st) (hc : CalleeOk M C callee) (hb : SubrsBounded env M) :
    OpOk C st rest (evalOperator env callee op rest st) := by
  unfold evalOperator
  cases op <;> simp only []
  case ret => exact ⟨Nat.le_refl _, hi, by omega, by omega, by omega⟩
  case callsubr => exact opCall_ok _ _ _ _ hi hc hb.2
  case callgsubr =>
    apply opCall_ok _ _ _ _ hi hc
    intro ix hix i d hd
    simp at hix; subst hix
    exact hb.1 i d hd
  all_goals apply OpOk_of_local
  case hstem => exact opStem_ok _ _ _ hi
  case vstem => exact opStem_ok _ _ _ hi
  case hstemhm => exact opStem_ok _ _ _ hi
  case vstemhm => exact opStem_ok _ _ _ hi
  case vmoveto => exact opMove_ok _ _ _
  case hmoveto => exact opMove_ok _ _ _
  case rmoveto => exact opMove_ok _ _ _
  case rlineto => exact opRline_ok _ _ hi
  case hlineto => exact opHVline_ok _ _ hi
  case vlineto => exact opHVline_ok _ _ hi
  case rrcurveto => exact opRrcurve_ok _ _ _ hi
  case rcurveline => exact opRrcurve_ok _ _ _ hi
  case endchar => exact opEndchar_ok _ _ hi
  case vsindex => exact opVsindex_ok _ _ _ hi
  case blend => exact opBlend_ok _ _ _ hi
  case hintmask => exact opMask_ok _ _ _ hi
  case cntrmask => exact opMask_ok _ _ _ hi
  case rlinecurve => exact opRlinecurve_ok _ _ hi
  case vvcurveto => exact opHhVv_ok _ (by omega) _ _ hi
  case hhcurveto => exact opHhVv_ok _ (by omega) _ _ hi
  case vhcurveto => exact opHvVh_ok _ _ hi
  case hvcurveto => exact opHvVh_ok _ _ hi
  case hflex => exact opCurves_ok _ (by simp) _ _
  case flex => exact opCurves_ok _ (by simp) _ _
  case hflex1 => exact opCurves_ok _ (by simp) _ _
  case flex1 => exact opCurves_ok _ (by simp) _ _

theorem Within.mono {A B : Nat} {st st' : St} (h : Within A st st') (hab : A ≤ B) : Within B st st' :=
  ⟨h.1, Nat.le_trans h.2.1 (Nat.add_le_add_left hab _), h.2.2⟩

theorem EvalOk_mono {C C' : Nat} {st : St} {r : Res St} (h : EvalOk C st r) (hc : C ≤ C') : EvalOk C' st r := by
  unfold EvalOk at *
  split <;> exact ⟨h.1, h.2.mono hc⟩

theorem EvalOk.after {A B : Nat} {st st2 : St} {r : Res St} (hw : Within A st st2) (h : EvalOk B st2 r) :
    EvalOk (A + B) st r := by
  obtain ⟨w1, w2, w3⟩ := hw
  unfold EvalOk Within at *
  split <;> simp only [] at h ⊢
  · obtain ⟨h0, h4, h5, h6⟩ := h; exact ⟨h0, by omega, by omega, by omega⟩
  · obtain ⟨h0, h4, h5, h6⟩ := h; exact ⟨h0, by omega, by omega, by omega⟩

/-- where one operator, run after the step counter of `st` was advanced, leaves the evaluation -/
theorem within_op {C : Nat} {st st' : St} (h1 : st.steps + 1 ≤ st'.steps) (h2 : st'.steps ≤ st.steps + 1 + C)
    (h3 : st'.out.length + 515 * (st.steps + 1) ≤ st.out.length + 515 + 515 * st'.steps) : Within (1 + C) st st' :=
  ⟨by omega, by omega, by omega⟩

/-- Every token leads from `st` to a state `st2` within `1 + C` iterations (`Within (1 + C) st st2`); from there the
    loop has three exits: an error value (`err`), the end of the charstring (`stop`), the next token (`cont`). -/
theorem loop_ok {M C : Nat} (env : Env) (callee : List Nat → St → Res St)
    (hc : CalleeOk M C callee) (hb : SubrsBounded env M) :
    ∀ (fuel : Nat) (bytes : List Nat) (st : St), bytes.length < fuel → Inv st →
      EvalOk (bytes.length * (1 + C)) st (loop env callee fuel bytes st) := by
  intro fuel
  induction fuel with
  | zero => intro bytes st h; omega
  | succ f ih =>
    intro bytes st hf hi
    cases bytes with
    | nil =>
      unfold loop
      exact ⟨hi, by omega, by omega, by omega⟩
    | cons b0 rest =>
      unfold loop
      simp only [List.length_cons, Nat.succ_mul]
      have hf : rest.length < f := Nat.lt_of_succ_lt_succ hf
      have hi1 : Inv { st with steps := st.steps + 1 } := hi
      have tick : Within (1 + C) st { st with steps := st.steps + 1 } :=
        within_op (Nat.le_refl _) (Nat.le_add_right _ _) (by dsimp only; omega)
      have err : ∀ st2 e, Within (1 + C) st st2 → EvalOk (rest.length * (1 + C) + (1 + C)) st (failE st2 e) :=
        fun st2 e hw => ⟨⟨_, rfl⟩, hw.mono (Nat.le_add_left _ _)⟩
      have stop : ∀ st2, Inv st2 → Within (1 + C) st st2 → EvalOk (rest.length * (1 + C) + (1 + C)) st (.ok st2) :=
        fun st2 hi2 hw => ⟨hi2, hw.mono (Nat.le_add_left _ _)⟩
      have cont : ∀ rest' st2, rest'.length ≤ rest.length → Inv st2 → Within (1 + C) st st2 →
          EvalOk (rest.length * (1 + C) + (1 + C)) st (loop env callee f rest' st2) := fun rest' st2 hl hi2 hw =>
        EvalOk_mono ((ih rest' st2 (Nat.lt_of_le_of_lt hl hf) hi2).after hw)
          (by rw [Nat.add_comm]; exact Nat.add_le_add_right (Nat.mul_le_mul_right _ hl) _)
      -- an operand is pushed: the stack is full (error) or the loop goes on
      have operand : ∀ (v : Option Int) rest', (∀ w, v = some w → -32768 ≤ w ∧ w ≤ 32767) → rest'.length ≤ rest.length →
          EvalOk (rest.length * (1 + C) + (1 + C)) st
            (match push { st with steps := st.steps + 1 } v with
              | .error f => .error f | .ok st2 => loop env callee f rest' st2) := by
        intro v rest' hv hl
        have hp := push_spec _ v hi1 hv
        cases hpr : push { st with steps := st.steps + 1 } v with
        | error x => rw [hpr] at hp; obtain ⟨_, stE⟩ := x; obtain ⟨rfl, rfl⟩ := hp; exact err _ _ tick
        | ok st2 =>
          rw [hpr] at hp
          exact cont rest' st2 hl hp.1 (by unfold Within; rw [hp.2.1, hp.2.2]; exact tick)
      split
      · -- integer operand
        split
        · exact err _ _ tick
        · rename_i v rest' hp
          have ⟨hv1, hv2, hlen⟩ := parseInt_spec hp
          exact operand _ _ (by intro w hw; cases hw; exact ⟨hv1, hv2⟩) hlen
      · split
        · -- 16.16 operand
          split
          · exact operand _ _ (by intro w hw; cases hw) (by simp only [List.length_cons]; omega)
          · exact err _ _ tick
        · -- operator
          split
          · exact err _ _ tick
          · rename_i op rest' hro
            have hlen := readOperator_len hro
            have hop := evalOperator_ok env callee op rest' { st with steps := st.steps + 1 } hi1 hc hb
            unfold OpOk at hop
            split
            · rename_i x hx
              rw [hx] at hop
              obtain ⟨⟨e, he⟩, h1, h2, h3⟩ := hop
              obtain ⟨f, stE⟩ := x
              cases he
              exact err stE e (within_op h1 h2 h3)
            · rename_i b rest2 st2 hs2
              rw [hs2] at hop
              obtain ⟨hl2, hi2, h1, h2, h3⟩ := hop
              have hw := within_op (st := st) h1 h2 h3
              split
              · exact cont rest2 st2 (Nat.le_trans hl2 hlen) hi2 hw
              · exact stop st2 hi2 hw

/-- `maxSteps M levels`: iterations of the token loop available to an evaluation that may nest `levels` deep when no
    charstring or subroutine is longer than `M` bytes: `M + M² + … + M^levels` -/
def maxSteps (M : Nat) : Nat → Nat
  | 0 => 0
  | n + 1 => M * (1 + maxSteps M n)

theorem evalN_ok {M : Nat} (env : Env) (hb : SubrsBounded env M) :
    ∀ levels, CalleeOk M (maxSteps M levels) (evalN env levels) := by
  intro levels
  induction levels with
  | zero =>
    intro data st hl hi
    unfold evalN
    exact ⟨⟨_, rfl⟩, by omega, by omega, by omega⟩
  | succ n ih =>
    intro data st hl hi
    unfold evalN
    have := loop_ok env (evalN env n) ih hb (data.length + 1) data st (by omega) hi
    apply EvalOk_mono this
    show data.length * (1 + maxSteps M n) ≤ M * (1 + maxSteps M n)
    exact Nat.mul_le_mul_right _ hl

theorem evaluate_ok {M : Nat} (env : Env) (hb : SubrsBounded env M) (data : List Nat) (hd : data.length ≤ M)
    (st0 : St) (hi : Inv st0) : EvalOk (maxSteps M 11) st0 (evaluate env data st0) :=
  evalN_ok env hb (NESTING_DEPTH_LIMIT + 1) data st0 hd hi

end FontVerif.CharstringLemmas
