/-
Helper lemmas for C07 (Props/C07.lean): the id-consuming functions of the model commute with renamings that are
strictly monotone on the ids in use.
-/
import FontVerif.Model.Determinism
import FontVerif.Lemmas.Determinism
namespace FontVerif.Determinism

def MonoOnP (ρ : Nat → Nat) (U : Nat → Prop) : Prop := ∀ a b, U a → U b → a < b → ρ a < ρ b

theorem MonoOnP.lt_iff {ρ U} (h : MonoOnP ρ U) {a b : Nat} (ha : U a) (hb : U b) : ρ a < ρ b ↔ a < b := by
  constructor
  · intro hlt
    rcases Nat.lt_trichotomy a b with h1 | h1 | h1
    · exact h1
    · subst h1; omega
    · have := h b a hb ha h1; omega
  · exact h a b ha hb

theorem MonoOnP.eq_iff {ρ U} (h : MonoOnP ρ U) {a b : Nat} (ha : U a) (hb : U b) : ρ a = ρ b ↔ a = b := by
  constructor
  · intro heq
    rcases Nat.lt_trichotomy a b with h1 | h1 | h1
    · have := h a b ha hb h1; omega
    · exact h1
    · have := h b a hb ha h1; omega
  · intro h1; rw [h1]

theorem MonoOnP.beq {ρ U} (h : MonoOnP ρ U) {a b : Nat} (ha : U a) (hb : U b) : (ρ a == ρ b) = (a == b) := by
  rw [Bool.eq_iff_iff, beq_iff_eq, beq_iff_eq]
  exact h.eq_iff ha hb

theorem MonoOnP.le_iff {ρ U} (h : MonoOnP ρ U) {a b : Nat} (ha : U a) (hb : U b) : ρ a ≤ ρ b ↔ a ≤ b := by
  have h1 := h.lt_iff hb ha
  omega

def Closed (U : Nat → Prop) (m : OMap Obj) : Prop := ∀ e ∈ m, U e.1 ∧ ∀ l ∈ e.2.links, U l.target

theorem get?_rename {ρ U} (h : MonoOnP ρ U) (m : OMap Obj) (hm : ∀ e ∈ m, U e.1) (k : Nat) (hk : U k) :
    OMap.get? (ρ k) (renameMap ρ m) = (OMap.get? k m).map (Obj.rename ρ) := by
  induction m with
  | nil => rfl
  | cons e rest ih =>
    obtain ⟨k', o⟩ := e
    have ihr := ih (fun e he => hm e (by simp [he]))
    simp only [renameMap, List.map_cons, OMap.get?, h.eq_iff hk (hm (k', o) (by simp))] at ihr ⊢
    split
    · rfl
    · exact ihr

theorem popMin_mem (q : List Nat) (a : Nat) (r : List Nat) (hp : popMin q = some (a, r)) :
    a ∈ q ∧ ∀ x ∈ r, x ∈ q := by
  induction q generalizing a r with
  | nil => simp [popMin] at hp
  | cons x xs ih =>
    simp only [popMin] at hp
    cases hx : popMin xs with
    | none => rw [hx] at hp; simp at hp; obtain ⟨rfl, rfl⟩ := hp; simp
    | some p =>
      obtain ⟨m, rest⟩ := p
      rw [hx] at hp
      have := ih m rest hx
      simp only at hp
      split at hp
      · simp at hp; obtain ⟨rfl, rfl⟩ := hp
        exact ⟨by simp, fun y hy => by simp [hy]⟩
      · simp at hp; obtain ⟨rfl, rfl⟩ := hp
        refine ⟨by simp [this.1], ?_⟩
        intro y hy; simp only [List.mem_cons] at hy ⊢
        rcases hy with rfl | hy
        · exact Or.inl rfl
        · exact Or.inr (this.2 y hy)

theorem popMin_map {ρ U} (h : MonoOnP ρ U) (q : List Nat) (hq : ∀ x ∈ q, U x) :
    popMin (q.map ρ) = (popMin q).map (fun p => (ρ p.1, p.2.map ρ)) := by
  induction q with
  | nil => rfl
  | cons x xs ih =>
    have ihx := ih (fun y hy => hq y (by simp [hy]))
    simp only [List.map_cons, popMin, ihx]
    cases hx : popMin xs with
    | none => simp
    | some p =>
      obtain ⟨m, rest⟩ := p
      have hm : U m := hq m (by simp [(popMin_mem xs m rest hx).1])
      have hxU : U x := hq x (by simp)
      simp only [Option.map_some, h.le_iff hxU hm]
      split <;> rfl

theorem filter_links_rename {ρ U} (h : MonoOnP ρ U) (ls : List Link) (hl : ∀ l ∈ ls, U l.target) (id : Nat) (hid : U id) :
    ((ls.map (Link.rename ρ)).filter (fun l => l.target == ρ id)).length =
      (ls.filter (fun l => l.target == id)).length := by
  induction ls with
  | nil => rfl
  | cons l rest ih =>
    have ihr := ih (fun x hx => hl x (by simp [hx]))
    simp only [List.map_cons, List.filter_cons, Link.rename, h.beq (hl l (by simp)) hid]
    split <;> simp only [List.length_cons, ihr]

theorem inDegree_rename {ρ U} (h : MonoOnP ρ U) (m : OMap Obj) (hm : Closed U m) (id : Nat) (hid : U id) :
    inDegree (renameMap ρ m) (ρ id) = inDegree m id := by
  unfold inDegree renameMap
  induction m with
  | nil => rfl
  | cons e rest ih =>
    have := ih (fun x hx => hm x (by simp [hx]))
    simp only [List.map_cons, List.sum_cons, Obj.rename] at this ⊢
    rw [this, filter_links_rename h e.2.links (hm e (by simp)).2 id hid]

def renSeen (ρ : Nat → Nat) (seen : List (Nat × Nat)) : List (Nat × Nat) := seen.map (fun e => (ρ e.1, e.2))

theorem bump_rename {ρ U} (h : MonoOnP ρ U) (seen : List (Nat × Nat)) (hs : ∀ e ∈ seen, U e.1) (k : Nat) (hk : U k) :
    bump (ρ k) (renSeen ρ seen) = renSeen ρ (bump k seen) := by
  induction seen with
  | nil => rfl
  | cons e rest ih =>
    obtain ⟨k', n⟩ := e
    have ihr := ih (fun x hx => hs x (by simp [hx]))
    simp only [renSeen, List.map_cons, bump, h.eq_iff hk (hs (k', n) (by simp))] at ihr ⊢
    split
    · rfl
    · rw [List.map_cons, ihr]

theorem bump_keys (seen : List (Nat × Nat)) (k : Nat) (U : Nat → Prop) (hs : ∀ e ∈ seen, U e.1) (hk : U k) :
    ∀ e ∈ bump k seen, U e.1 := by
  induction seen with
  | nil => intro e he; simp [bump] at he; subst he; exact hk
  | cons e rest ih =>
    obtain ⟨k', n⟩ := e
    simp only [bump]
    split
    · intro e he; simp only [List.mem_cons] at he
      rcases he with rfl | he
      · exact hs (k', n) (by simp)
      · exact hs e (by simp [he])
    · intro e he; simp only [List.mem_cons] at he
      rcases he with rfl | he
      · exact hs (k', n) (by simp)
      · exact ih (fun x hx => hs x (by simp [hx])) e he

theorem seenOf_rename {ρ U} (h : MonoOnP ρ U) (seen : List (Nat × Nat)) (hs : ∀ e ∈ seen, U e.1) (k : Nat) (hk : U k) :
    seenOf (ρ k) (renSeen ρ seen) = seenOf k seen := by
  induction seen with
  | nil => rfl
  | cons e rest ih =>
    obtain ⟨k', n⟩ := e
    have ihr := ih (fun x hx => hs x (by simp [hx]))
    simp only [renSeen, List.map_cons, seenOf, h.eq_iff hk (hs (k', n) (by simp))] at ihr ⊢
    rw [ihr]

theorem kahnLinks_rename {ρ U} (h : MonoOnP ρ U) (m : OMap Obj) (hm : Closed U m) (ls : List Link)
    (hl : ∀ l ∈ ls, U l.target) : ∀ (q : List Nat) (seen : List (Nat × Nat)), (∀ x ∈ q, U x) → (∀ e ∈ seen, U e.1) →
    kahnLinks (renameMap ρ m) (ls.map (Link.rename ρ)) (q.map ρ) (renSeen ρ seen) =
      (((kahnLinks m ls q seen).1.map ρ, renSeen ρ (kahnLinks m ls q seen).2)) ∧
    (∀ x ∈ (kahnLinks m ls q seen).1, U x) ∧ (∀ e ∈ (kahnLinks m ls q seen).2, U e.1) := by
  induction ls with
  | nil => intro q seen hq hs; exact ⟨rfl, hq, hs⟩
  | cons l rest ih =>
    intro q seen hq hs
    have ht : U l.target := hl l (by simp)
    have hrest : ∀ l ∈ rest, U l.target := fun x hx => hl x (by simp [hx])
    have hb := bump_keys seen l.target U hs ht
    simp only [List.map_cons, kahnLinks, Link.rename, bump_rename h seen hs l.target ht,
      seenOf_rename h _ hb l.target ht, inDegree_rename h m hm l.target ht]
    split
    · have hq' : ∀ x ∈ l.target :: q, U x := by
        intro x hx; simp only [List.mem_cons] at hx; rcases hx with rfl | hx
        · exact ht
        · exact hq x hx
      have := ih hrest (l.target :: q) (bump l.target seen) hq' hb
      simpa using this
    · exact ih hrest q (bump l.target seen) hq hb

theorem kahnLoop_rename {ρ U} (h : MonoOnP ρ U) (m : OMap Obj) (hm : Closed U m) (fuel : Nat) :
    ∀ (q : List Nat) (seen : List (Nat × Nat)) (order : List Nat), (∀ x ∈ q, U x) → (∀ e ∈ seen, U e.1) →
    kahnLoop (renameMap ρ m) fuel (q.map ρ) (renSeen ρ seen) (order.map ρ) =
      ((kahnLoop m fuel q seen order).1.map ρ, renSeen ρ (kahnLoop m fuel q seen order).2) := by
  induction fuel with
  | zero => intro q seen order _ _; simp [kahnLoop, List.map_reverse]
  | succ fuel ih =>
    intro q seen order hq hs
    simp only [kahnLoop, popMin_map h q hq]
    cases hp : popMin q with
    | none => simp [List.map_reverse]
    | some p =>
      obtain ⟨id, q'⟩ := p
      have hmem := popMin_mem q id q' hp
      have hid : U id := hq id hmem.1
      have hq' : ∀ x ∈ q', U x := fun x hx => hq x (hmem.2 x hx)
      simp only [Option.map_some, get?_rename h m (fun e he => (hm e he).1) id hid]
      cases hg : OMap.get? id m with
      | none => simp [List.map_reverse]
      | some o =>
        have ho := (hm (id, o) (get?_mem m id o hg)).2
        obtain ⟨e1, e2, e3⟩ := kahnLinks_rename h m hm o.links ho q' seen hq' hs
        simp only [Option.map_some, Obj.rename, e1]
        have := ih (kahnLinks m o.links q' seen).1 (kahnLinks m o.links q' seen).2 (id :: order) e2 e3
        simpa using this

theorem renameMap_length (ρ : Nat → Nat) (m : OMap Obj) : (renameMap ρ m).length = m.length := by
  simp [renameMap]

theorem kahnFuel_rename (ρ : Nat → Nat) (m : OMap Obj) : kahnFuel (renameMap ρ m) = kahnFuel m := by
  unfold kahnFuel renameMap
  simp only [List.length_map, List.map_map]
  congr 3
  apply List.map_congr_left
  intro e _
  simp [Obj.rename]

theorem sortKahn_rename {ρ U} (h : MonoOnP ρ U) (m : OMap Obj) (hm : Closed U m) (root : Nat) (hr : U root) :
    sortKahn (renameMap ρ m) (ρ root) = (sortKahn m root).map ρ := by
  unfold sortKahn
  rw [renameMap_length, kahnFuel_rename]
  split
  · simp [OMap.keys, renameMap, List.map_map]
  · have := kahnLoop_rename h m hm (kahnFuel m) [root] [] []
      (by intro x hx; simp at hx; subst hx; exact hr) (by intro e he; simp at he)
    simp only [List.map_cons, List.map_nil, renSeen] at this
    rw [this]

theorem kahnLoop_order_closed {U : Nat → Prop} (m : OMap Obj) (hm : Closed U m) (fuel : Nat) :
    ∀ (q : List Nat) (seen : List (Nat × Nat)) (order : List Nat), (∀ x ∈ q, U x) → (∀ e ∈ seen, U e.1) →
    (∀ x ∈ order, U x) → ∀ x ∈ (kahnLoop m fuel q seen order).1, U x := by
  induction fuel with
  | zero => intro q seen order _ _ ho x hx; simp [kahnLoop] at hx; exact ho x hx
  | succ fuel ih =>
    intro q seen order hq hs ho
    simp only [kahnLoop]
    cases hp : popMin q with
    | none => intro x hx; simp at hx; exact ho x hx
    | some p =>
      obtain ⟨id, q'⟩ := p
      have hmem := popMin_mem q id q' hp
      have hid : U id := hq id hmem.1
      have hq' : ∀ x ∈ q', U x := fun x hx => hq x (hmem.2 x hx)
      simp only
      cases hg : OMap.get? id m with
      | none => intro x hx; simp at hx; exact ho x hx
      | some o =>
        have hol := (hm (id, o) (get?_mem m id o hg)).2
        obtain ⟨_, e2, e3⟩ := kahnLinks_rename (ρ := fun x => x) (fun _ _ _ _ hab => hab) m hm o.links hol q' seen hq' hs
        simp only
        apply ih _ _ _ e2 e3
        intro x hx; simp only [List.mem_cons] at hx; rcases hx with rfl | hx
        · exact hid
        · exact ho x hx

theorem sortKahn_closed {U : Nat → Prop} (m : OMap Obj) (hm : Closed U m) (root : Nat) (hr : U root) :
    ∀ x ∈ sortKahn m root, U x := by
  unfold sortKahn
  split
  · intro x hx; simp only [OMap.keys, List.mem_map] at hx; obtain ⟨e, he, rfl⟩ := hx; exact (hm e he).1
  · exact kahnLoop_order_closed m hm _ [root] [] [] (by intro x hx; simp at hx; subst hx; exact hr)
      (by intro e he; simp at he) (by intro x hx; simp at hx)

theorem positions_rename {ρ U} (h : MonoOnP ρ U) (m : OMap Obj) (hm : Closed U m) (order : List Nat)
    (ho : ∀ x ∈ order, U x) : ∀ off, positions (renameMap ρ m) (order.map ρ) off =
      (positions m order off).map (fun e => (ρ e.1, e.2)) := by
  induction order with
  | nil => intro off; rfl
  | cons id rest ih =>
    intro off
    have hid : U id := ho id (by simp)
    simp only [List.map_cons, positions, get?_rename h m (fun e he => (hm e he).1) id hid]
    rw [ih (fun x hx => ho x (by simp [hx]))]
    cases OMap.get? id m <;> simp [Obj.rename]

theorem positions_keys (m : OMap Obj) (order : List Nat) (U : Nat → Prop) (ho : ∀ x ∈ order, U x) :
    ∀ off, ∀ e ∈ positions m order off, U e.1 := by
  induction order with
  | nil => intro off e he; simp [positions] at he
  | cons id rest ih =>
    intro off e he
    simp only [positions, List.mem_cons] at he
    rcases he with rfl | he
    · exact ho id (by simp)
    · exact ih (fun x hx => ho x (by simp [hx])) _ e he

theorem posOf_rename {ρ U} (h : MonoOnP ρ U) (ps : List (Nat × Nat)) (hps : ∀ e ∈ ps, U e.1) (id : Nat) (hid : U id) :
    posOf (ps.map (fun e => (ρ e.1, e.2))) (ρ id) = posOf ps id := by
  unfold posOf
  induction ps with
  | nil => rfl
  | cons e rest ih =>
    obtain ⟨k, v⟩ := e
    have ihr := ih (fun x hx => hps x (by simp [hx]))
    simp only [List.map_cons, List.find?_cons, h.beq (hps (k, v) (by simp)) hid]
    cases k == id
    · exact ihr
    · rfl

theorem resolveObj_rename {ρ U} (h : MonoOnP ρ U) (ps : List (Nat × Nat)) (hps : ∀ e ∈ ps, U e.1) (head : Nat)
    (o : Obj) (ho : ∀ l ∈ o.links, U l.target) :
    resolveObj (ps.map (fun e => (ρ e.1, e.2))) head (o.rename ρ) = resolveObj ps head o := by
  unfold resolveObj
  simp only [Obj.rename]
  have key : ∀ (ls : List Link), (∀ l ∈ ls, U l.target) → ∀ bs : List Nat,
      List.foldl (fun bs l => writeAt bs l.pos (beBytes l.width
        (posOf (ps.map (fun e => (ρ e.1, e.2))) l.target - (head + l.adj)))) bs (ls.map (Link.rename ρ)) =
      List.foldl (fun bs l => writeAt bs l.pos (beBytes l.width (posOf ps l.target - (head + l.adj)))) bs ls := by
    intro ls
    induction ls with
    | nil => intro _ bs; rfl
    | cons l rest ih =>
      intro hl bs
      simp only [List.map_cons, List.foldl_cons, Link.rename, posOf_rename h ps hps l.target (hl l (by simp))]
      exact ih (fun x hx => hl x (by simp [hx])) _
  exact key o.links ho o.bytes

theorem serialize_rename {ρ U} (h : MonoOnP ρ U) (m : OMap Obj) (hm : Closed U m) (order : List Nat)
    (ho : ∀ x ∈ order, U x) : serialize (renameMap ρ m) (order.map ρ) = serialize m order := by
  unfold serialize
  simp only [positions_rename h m hm order ho 0, List.map_map]
  congr 1
  apply List.map_congr_left
  intro id hid
  have hU := ho id hid
  have hps := positions_keys m order U ho 0
  simp only [Function.comp, get?_rename h m (fun e he => (hm e he).1) id hU, posOf_rename h _ hps id hU]
  cases hg : OMap.get? id m with
  | none => rfl
  | some o =>
    simp only [Option.map_some]
    exact resolveObj_rename h _ hps _ o (hm (id, o) (get?_mem m id o hg)).2

theorem insert_rename {ρ U} (h : MonoOnP ρ U) (m : OMap Obj) (hm : ∀ e ∈ m, U e.1) (k : Nat) (hk : U k) (o : Obj) :
    OMap.insert (ρ k) (o.rename ρ) (renameMap ρ m) = renameMap ρ (OMap.insert k o m) := by
  induction m with
  | nil => rfl
  | cons e rest ih =>
    obtain ⟨k', o'⟩ := e
    have hk' : U k' := hm (k', o') (by simp)
    have ihr := ih (fun x hx => hm x (by simp [hx]))
    simp only [renameMap, List.map_cons, OMap.insert, h.lt_iff hk hk', h.eq_iff hk hk'] at ihr ⊢
    split
    · rfl
    · split
      · rfl
      · rw [List.map_cons, ihr]

def renameEntries (ρ : Nat → Nat) (es : List (Obj × Nat)) : List (Obj × Nat) := es.map (fun e => (e.1.rename ρ, ρ e.2))

theorem fromObjStore_rename {ρ U} (h : MonoOnP ρ U) (es : List (Obj × Nat)) (hes : ∀ e ∈ es, U e.2) :
    fromObjStore (renameEntries ρ es) = renameMap ρ (fromObjStore es) := by
  unfold fromObjStore OMap.ofList renameEntries
  have key : ∀ (l : List (Obj × Nat)) (acc : OMap Obj), (∀ e ∈ l, U e.2) → (∀ e ∈ acc, U e.1) →
      List.foldl (fun m e => OMap.insert e.1 e.2 m) (renameMap ρ acc)
        ((l.map (fun e => (e.1.rename ρ, ρ e.2))).map (fun e => (e.2, e.1))) =
      renameMap ρ (List.foldl (fun m e => OMap.insert e.1 e.2 m) acc (l.map (fun e => (e.2, e.1)))) := by
    intro l
    induction l with
    | nil => intro acc _ _; rfl
    | cons e rest ih =>
      intro acc hl hacc
      have he : U e.2 := hl e (by simp)
      simp only [List.map_cons, List.foldl_cons]
      rw [insert_rename h acc hacc e.2 he e.1]
      exact ih _ (fun x hx => hl x (by simp [hx])) (insert_keys acc e.2 e.1 U hacc he)
  exact key es [] hes (by intro e he; simp at he)

theorem fromObjStore_closed (U : Nat → Prop) (es : List (Obj × Nat))
    (hes : ∀ e ∈ es, U e.2 ∧ ∀ l ∈ e.1.links, U l.target) : Closed U (fromObjStore es) := by
  unfold fromObjStore OMap.ofList
  have key : ∀ (l : List (Obj × Nat)) (acc : OMap Obj), (∀ e ∈ l, U e.2 ∧ ∀ l ∈ e.1.links, U l.target) →
      Closed U acc → Closed U (List.foldl (fun m e => OMap.insert e.1 e.2 m) acc (l.map (fun e => (e.2, e.1)))) := by
    intro l
    induction l with
    | nil => intro acc _ h; exact h
    | cons e rest ih =>
      intro acc hl hacc
      simp only [List.map_cons, List.foldl_cons]
      apply ih _ (fun x hx => hl x (by simp [hx]))
      intro x hx
      rcases omap_mem_insert acc e.2 e.1 x hx with rfl | h2
      · exact hl e (by simp)
      · exact hacc x h2
  exact key es [] hes (by intro e he; simp at he)

end FontVerif.Determinism
