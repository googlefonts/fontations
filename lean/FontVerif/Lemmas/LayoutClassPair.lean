/-
Helper lemmas for C16: first the generic array fills (`mapOpt`, `setMany`, `anchorRow`) that the matrix
and the mark builders (LayoutMarkBuilder, LayoutMarkLig) share; then `ClassPairPosBuilder` — the greedy
partition of class rules into subtables, the class ids of `build_with_mapping`, the class1 × class2
matrix filled by `ClassPairPosSubtable::build`.
-/
import FontVerif.Lemmas.LayoutLookup
import FontVerif.Props.C16
namespace FontVerif.Layout

theorem mapOpt_eq_some {α β : Type} (f : α → Option β) : ∀ (l : List α) (rs : List β),
    mapOpt f l = some rs → (∀ a ∈ l, (f a).isSome) ∧ ∀ i : Nat, rs[i]? = (l[i]?).bind f := by
  intro l
  induction l with
  | nil => intro rs h; cases h; exact ⟨fun a ha => (nomatch ha), fun i => rfl⟩
  | cons x xs ih =>
    intro rs h
    rw [mapOpt] at h
    cases hx : f x with
    | none => rw [hx] at h; cases h
    | some b =>
      cases hxs : mapOpt f xs with
      | none => rw [hx, hxs] at h; cases h
      | some bs =>
        rw [hx, hxs] at h
        cases h
        obtain ⟨h1, h2⟩ := ih bs hxs
        refine ⟨fun a ha => ?_, fun i => ?_⟩
        · rcases List.mem_cons.mp ha with rfl | ha'
          · rw [hx]; rfl
          · exact h1 a ha'
        · cases i with
          | zero => exact hx.symm
          | succ i => exact h2 i

theorem mapOpt_total {α β : Type} (f : α → Option β) : ∀ (l : List α),
    (∀ a ∈ l, ∃ b, f a = some b) → ∃ rs, mapOpt f l = some rs := by
  intro l
  induction l with
  | nil => intro _; exact ⟨[], rfl⟩
  | cons x xs ih =>
    intro hall
    obtain ⟨b, hb⟩ := hall x (List.mem_cons_self ..)
    obtain ⟨rs, hrs⟩ := ih (fun a ha => hall a (List.mem_cons_of_mem _ ha))
    exact ⟨b :: rs, by rw [mapOpt, hb, hrs]⟩

theorem mapOpt_mem {α β : Type} {f : α → Option β} {l : List α} {rs : List β} (h : mapOpt f l = some rs)
    {r : β} (hr : r ∈ rs) : ∃ a ∈ l, f a = some r := by
  obtain ⟨i, hi⟩ := List.getElem?_of_mem hr
  rw [(mapOpt_eq_some f l rs h).2 i] at hi
  obtain ⟨a, ha, hfa⟩ := Option.bind_eq_some_iff.mp hi
  exact ⟨a, List.mem_of_getElem? ha, hfa⟩

/-- the last assignment to an index wins -/
theorem setMany_last {α β : Type} (step : α → Option (Nat × β)) {n : Nat} :
    ∀ (as : List α) (out : List β), out.length = n →
      (∀ a ∈ as, ∃ i v, step a = some (i, v) ∧ i < n) →
      ∃ res, setMany step as out = some res ∧ res.length = n ∧
        ∀ j, res[j]? =
          match as.reverse.findSome? (fun a =>
            (step a).bind fun p => if p.1 = j then some p.2 else none) with
          | some v => if j < n then some v else none
          | none => out[j]? := by
  intro as
  induction as with
  | nil => intro out hn _; exact ⟨out, rfl, hn, fun j => rfl⟩
  | cons a as ih =>
    intro out hn hall
    obtain ⟨i, v, hs, hi⟩ := hall a (List.mem_cons_self ..)
    obtain ⟨res, hres, hlen, hj⟩ := ih (out.set i v) ((List.length_set ..).trans hn)
      fun a' ha' => hall a' (List.mem_cons_of_mem _ ha')
    refine ⟨res, ?_, hlen, fun j => ?_⟩
    · simp only [setMany, hs, setAt?, hn, hi, ↓reduceIte]
      exact hres
    · rw [hj j, List.reverse_cons, List.findSome?_append]
      cases hf : as.reverse.findSome? (fun a =>
            (step a).bind fun p => if p.1 = j then some p.2 else none) with
      | some w => rfl
      | none =>
        simp only [Option.none_or, List.findSome?_cons, List.findSome?_nil, hs, Option.bind_some]
        rw [List.getElem?_set]
        by_cases hij : i = j
        · subst hij; simp [hi, hn]
        · simp [hij]

theorem setMany_some_all {α β : Type} (step : α → Option (Nat × β)) : ∀ (as : List α) (out res : List β),
    setMany step as out = some res → ∀ a ∈ as, ∃ i v, step a = some (i, v) ∧ i < out.length := by
  intro as
  induction as with
  | nil => intro out res _ a ha; cases ha
  | cons x xs ih =>
    intro out res h a ha
    simp only [setMany] at h
    cases hs : step x with
    | none => rw [hs] at h; cases h
    | some p =>
      obtain ⟨i, v⟩ := p
      rw [hs] at h
      simp only [setAt?] at h
      by_cases hi : i < out.length
      · simp only [hi, ↓reduceIte] at h
        rcases List.mem_cons.mp ha with rfl | ha'
        · exact ⟨i, v, hs, hi⟩
        · obtain ⟨i', v', h1, h2⟩ := ih _ _ h a ha'
          exact ⟨i', v', h1, by rw [List.length_set] at h2; exact h2⟩
      · simp [hi] at h

theorem setMany_length {α β : Type} {step : α → Option (Nat × β)} {as : List α} {out res : List β}
    (h : setMany step as out = some res) : res.length = out.length := by
  obtain ⟨res', hr, hl, _⟩ := setMany_last step as out rfl (setMany_some_all step as out res h)
  rw [h] at hr
  cases hr
  exact hl

/-- a row of optional anchors, `row[idx e] = Some(anchor of e)` for every entry: no index panic when every
index is defined and inside the row, and a later entry for an index overwrites an earlier one -/
theorem anchorRow {α A : Type} (idx : α → Option Nat) (anc : α → A) (es : List α) (n : Nat)
    (hall : ∀ e ∈ es, ∃ i, idx e = some i ∧ i < n) :
    ∃ row, setMany (fun e => (idx e).map (fun i => (i, some (anc e)))) es (List.replicate n none) = some row ∧
      row.length = n ∧ ∀ id, id < n → row[id]? =
        some (es.reverse.findSome? (fun e => if idx e = some id then some (anc e) else none)) := by
  obtain ⟨row, hr, hlen, hj⟩ := setMany_last (fun e => (idx e).map (fun i => (i, some (anc e)))) es
    (List.replicate n none) List.length_replicate (fun e he => by
      obtain ⟨i, hi, hin⟩ := hall e he
      exact ⟨i, some (anc e), by rw [hi]; rfl, hin⟩)
  refine ⟨row, hr, hlen, fun id hid => ?_⟩
  have hf : (fun a => ((idx a).map (fun i => (i, some (anc a)))).bind
        fun p => if p.1 = id then some p.2 else none) =
      Option.map some ∘ fun e => if idx e = some id then some (anc e) else none := funext fun a => by
    show _ = Option.map some (if idx a = some id then some (anc a) else none)
    cases idx a with
    | none => rfl
    | some i => by_cases hi : i = id <;> simp [hi]
  rw [hj id, hf, ← List.map_findSome?, List.getElem?_replicate]
  cases es.reverse.findSome? (fun e => if idx e = some id then some (anc e) else none) with
  | none => simp [hid]
  | some a => simp [hid]

/-- an array filled through an injective id map `idOf` from elements with distinct keys: every assignment
survives, an index that is the id of no element keeps its value -/
theorem setMany_keyed {α β κ : Type} (step : α → Option (Nat × β)) (key : α → κ) (idOf : κ → Option Nat)
    (hinj : ∀ k k' i, idOf k = some i → idOf k' = some i → k = k')
    (as : List α) (out : List β) (hnd : (as.map key).Nodup)
    (hall : ∀ a ∈ as, ∃ i v, step a = some (i, v) ∧ idOf (key a) = some i ∧ i < out.length) :
    ∃ res, setMany step as out = some res ∧
      (∀ a ∈ as, ∀ i v, step a = some (i, v) → res[i]? = some v) ∧
      (∀ j, (∀ a ∈ as, idOf (key a) ≠ some j) → res[j]? = out[j]?) := by
  obtain ⟨res, hres, _, hj⟩ := setMany_last step as out rfl fun a ha => by
    obtain ⟨i, v, h1, _, h3⟩ := hall a ha
    exact ⟨i, v, h1, h3⟩
  refine ⟨res, hres, fun a ha i v hs => ?_, fun j hno => ?_⟩
  · obtain ⟨i', v', hs', hk, hi⟩ := hall a ha
    rw [hs] at hs'; cases hs'
    rw [hj i, findSome?_unique as.reverse _ a v (List.mem_reverse.mpr ha) (by rw [hs]; exact if_pos rfl)
      fun y hy hya => ?_]
    · exact if_pos hi
    · -- another element has another key, hence another id
      obtain ⟨j, w, hy', hky, _⟩ := hall y (List.mem_reverse.mp hy)
      rw [hy']
      exact if_neg fun (e : j = i) => hya (eq_of_nodup_map key as hnd y (List.mem_reverse.mp hy) a ha
        (hinj _ _ _ (e ▸ hky) hk))
  · rw [hj j, List.findSome?_eq_none_iff.mpr fun a ha => ?_]
    obtain ⟨i, v, hs, hk, _⟩ := hall a (List.mem_reverse.mp ha)
    rw [hs]
    exact if_neg fun (e : i = j) => hno a (List.mem_reverse.mp ha) (e ▸ hk)

/-- the invariant of a `ClassDefBuilder` -/
def CDBInv (b : ClassDefBuilder) : Prop := b.classes.Pairwise ClassesDisjoint ∧ b.classes.Nodup

theorem disjoint_of_mem {l : List (List Nat)} (h : l.Pairwise ClassesDisjoint) {a c : List Nat}
    (ha : a ∈ l) (hc : c ∈ l) (hne : a ≠ c) : ClassesDisjoint a c :=
  pairwise_of_mem_ne (fun _ _ h g hg1 hg2 => h g hg2 hg1) h ha hc hne

theorem CDBInv.class_unique {b : ClassDefBuilder} (h : CDBInv b) {a c : List Nat} (ha : a ∈ b.classes)
    (hc : c ∈ b.classes) {g : Nat} (hga : g ∈ a) (hgc : g ∈ c) : a = c :=
  Classical.byContradiction fun hne => disjoint_of_mem h.1 ha hc hne g hga hgc

theorem checkedAdd_inv (b : ClassDefBuilder) (cls : List Nat) (h : CDBInv b) :
    CDBInv (b.checkedAdd cls).1 := by
  refine ⟨C16.classdef_builder_add_keeps_disjoint b cls h.1, ?_⟩
  rw [checkedAdd_classes]
  split
  · next hc => exact nodup_concat h.2 fun hm => Bool.false_ne_true (hc.2.symm.trans (List.contains_iff_mem.mpr hm))
  · exact h.2

theorem checkedAdd_useClass0 (b : ClassDefBuilder) (cls : List Nat) :
    (b.checkedAdd cls).1.useClass0 = b.useClass0 := by
  unfold ClassDefBuilder.checkedAdd
  repeat' split
  all_goals rfl

theorem checkedAdd_mem (b : ClassDefBuilder) (cls : List Nat) (hc : b.canAdd cls = true) (c : List Nat) :
    c ∈ (b.checkedAdd cls).1.classes ↔ c ∈ b.classes ∨ c = cls := by
  rw [checkedAdd_classes]
  by_cases hin : b.classes.contains cls = true
  · rw [if_neg fun h => Bool.false_ne_true (h.2.symm.trans hin)]
    exact ⟨Or.inl, fun h => h.elim id fun e => e ▸ List.contains_iff_mem.mp hin⟩
  · rw [if_pos ⟨hc, Bool.eq_false_iff.mpr hin⟩, List.mem_append, List.mem_singleton]

/-- `can_add` only depends on the set of classes -/
theorem canAdd_eq_classCompat (b : ClassDefBuilder) (classes : List (List Nat))
    (hm : ∀ c, c ∈ b.classes ↔ c ∈ classes) (cls : List Nat) :
    b.canAdd cls = classCompat classes cls := by
  unfold ClassDefBuilder.canAdd classCompat ClassDefBuilder.allGlyphsContains
  have h1 : b.classes.contains cls = classes.contains cls := by
    rw [Bool.eq_iff_iff]
    simp only [List.contains_iff_mem]
    exact hm cls
  have h2 : ∀ g, b.classes.any (fun c => c.contains g) = classes.any (fun c' => c'.contains g) := by
    intro g
    rw [Bool.eq_iff_iff]
    simp only [List.any_eq_true]
    constructor
    · rintro ⟨c, hc, hg⟩; exact ⟨c, (hm c).mp hc, hg⟩
    · rintro ⟨c, hc, hg⟩; exact ⟨c, (hm c).mpr hc, hg⟩
  rw [h1]
  congr 1
  rw [Bool.eq_iff_iff]
  simp only [List.all_eq_true]
  constructor
  · intro h g hg; rw [← h2 g]; exact h g hg
  · intro h g hg; rw [h2 g]; exact h g hg

theorem classCompat_nil (c : List Nat) : classCompat [] c = true := by
  unfold classCompat
  simp

theorem classCompat_of_mem (classes : List (List Nat)) (c : List Nat) (h : c ∈ classes) :
    classCompat classes c = true := by
  unfold classCompat
  rw [List.contains_iff_mem.mpr h]
  rfl

theorem mappingGet_eq_lookup (m : List (List Nat × Nat)) (c : List Nat) : mappingGet m c = m.lookup c :=
  find?_fst_eq_lookup c m

theorem mappingGet_spec (b : ClassDefBuilder) (h : CDBInv b) :
    (∀ c ∈ b.classes, ∃ id, mappingGet b.buildWithMapping.2 c = some id) ∧
    (∀ c id, mappingGet b.buildWithMapping.2 c = some id →
      c ∈ b.classes ∧ (if b.useClass0 then 0 else 1) ≤ id ∧
      id < (if b.useClass0 then 0 else 1) + b.classes.length ∧
      ∀ g ∈ c, b.buildWithMapping.1.get g = id) ∧
    (∀ c c' id, mappingGet b.buildWithMapping.2 c = some id →
      mappingGet b.buildWithMapping.2 c' = some id → c = c') ∧
    b.buildWithMapping.2.length = b.classes.length := by
  obtain ⟨h1, _, h3, h4⟩ := C16.classdef_builder_get b h.1
  generalize b.buildWithMapping.2 = m at *
  generalize b.buildWithMapping.1 = cd at *
  have hfind : ∀ c id, mappingGet m c = some id → (c, id) ∈ m := fun c id hg =>
    mem_of_lookup_eq_some ((mappingGet_eq_lookup m c).symm.trans hg)
  have hids : (m.map (·.2)).Nodup := by
    rw [h4]; exact List.nodup_range'
  refine ⟨?_, ?_, ?_, ?_⟩
  · intro c hc
    rw [mappingGet_eq_lookup]
    exact Option.isSome_iff_exists.mp (mem_keys_iff_lookup_isSome.mp (h3.mem_iff.mpr hc))
  · intro c id hg
    have hmem := hfind c id hg
    have hidm : id ∈ m.map (·.2) := List.mem_map.mpr ⟨_, hmem, rfl⟩
    rw [h4, List.mem_range'] at hidm
    obtain ⟨i, hi, he⟩ := hidm
    refine ⟨h3.mem_iff.mp (List.mem_map.mpr ⟨_, hmem, rfl⟩), by omega, by omega, fun g hg => ?_⟩
    exact h1 _ hmem g hg
  · intro c c' id hg hg'
    have hm1 := hfind c id hg
    have hm2 := hfind c' id hg'
    have := eq_of_nodup_map (·.2) m hids _ hm1 _ hm2 rfl
    exact (Prod.ext_iff.mp this).1
  · have := h3.length_eq
    simpa using this

/-- the rule-level `can_add` of `groupClassRules` -/
def compatR {V : Type} (g : List (ClassRule V)) (r : ClassRule V) : Bool :=
  classCompat (g.map (·.c1)) r.c1 && classCompat (g.map (·.c2)) r.c2

def GroupOK {V : Type} (g : List (ClassRule V)) : Prop :=
  ∀ i (h : i < g.length), compatR (g.take i) g[i] = true

/-- the subtable builder after `add`ing the rules of a group to a fresh one -/
def subOf {V : Type} (g : List (ClassRule V)) : ClassPairSub V :=
  g.foldl (fun s r => s.add r.c1 r.c2 r.v) ClassPairSub.empty

theorem subOf_snoc {V : Type} (g : List (ClassRule V)) (r : ClassRule V) :
    subOf (g ++ [r]) = (subOf g).add r.c1 r.c2 r.v := by
  unfold subOf
  rw [List.foldl_append]
  rfl

theorem GroupOK_nil {V : Type} : GroupOK ([] : List (ClassRule V)) := fun _ h => nomatch h

theorem GroupOK_snoc {V : Type} (g : List (ClassRule V)) (r : ClassRule V) :
    GroupOK (g ++ [r]) ↔ GroupOK g ∧ compatR g r = true := by
  constructor
  · intro h
    constructor
    · intro i hi
      have := h i (by simp; omega)
      rw [List.take_append_of_le_length (Nat.le_of_lt hi), List.getElem_append_left hi] at this
      exact this
    · have := h g.length (by simp)
      simpa using this
  · rintro ⟨hg, hr⟩ i hi
    by_cases hlt : i < g.length
    · rw [List.take_append_of_le_length (Nat.le_of_lt hlt), List.getElem_append_left hlt]
      exact hg i hlt
    · have : i = g.length := by simp at hi; omega
      subst this
      simpa using hr

theorem GroupOK_singleton {V : Type} (r : ClassRule V) : GroupOK [r] := by
  have := (GroupOK_snoc [] r).mpr ⟨GroupOK_nil, by simp [compatR, classCompat_nil]⟩
  simpa using this

/-- a cell holds the value of the LAST rule for its `(class 1, class 2)` pair -/
theorem subOf_lookup {V : Type} (g : List (ClassRule V)) (k : List Nat × List Nat) :
    (subOf g).items.lookup k = (g.reverse.find? (fun r => decide ((r.c1, r.c2) = k))).map (·.v) := by
  induction g using snoc_induction with
  | h0 => rfl
  | hs g r ih =>
    rw [subOf_snoc, ClassPairSub.add, cellInsert_lookup, List.reverse_append, List.reverse_singleton,
      List.singleton_append, List.find?_cons, ih]
    by_cases hk : (r.c1, r.c2) = k
    · simp [hk]
    · have : ¬ k = (r.c1, r.c2) := fun h => hk h.symm
      simp [hk, this]

theorem subOf_keys_nodup {V : Type} (g : List (ClassRule V)) : ((subOf g).items.map (·.1)).Nodup := by
  induction g using snoc_induction with
  | h0 => exact List.nodup_nil
  | hs g r ih => rw [subOf_snoc]; exact cellInsert_keys_nodup _ _ ih

theorem subOf_mem_keys {V : Type} (g : List (ClassRule V)) (k : List Nat × List Nat) :
    k ∈ (subOf g).items.map (·.1) ↔ ∃ r ∈ g, (r.c1, r.c2) = k := by
  rw [mem_keys_iff_lookup_isSome, subOf_lookup, Option.isSome_map, List.find?_isSome]
  simp only [List.mem_reverse, decide_eq_true_eq]

theorem subOf_class1_keys {V : Type} (g : List (ClassRule V)) (k : List Nat) :
    k ∈ (subOf g).items.map (·.1.1) ↔ k ∈ g.map (·.c1) := by
  simp only [List.mem_map]
  constructor
  · rintro ⟨e, he, rfl⟩
    obtain ⟨r, hr, hk⟩ := (subOf_mem_keys g e.1).mp (List.mem_map.mpr ⟨e, he, rfl⟩)
    exact ⟨r, hr, by rw [← hk]⟩
  · rintro ⟨r, hr, rfl⟩
    obtain ⟨e, he, hk⟩ := List.mem_map.mp ((subOf_mem_keys g (r.c1, r.c2)).mpr ⟨r, hr, rfl⟩)
    exact ⟨e, he, by rw [hk]⟩

theorem subOf_classes {V : Type} (g : List (ClassRule V)) (hok : GroupOK g) :
    CDBInv (subOf g).cd1 ∧ CDBInv (subOf g).cd2 ∧
    (subOf g).cd1.useClass0 = true ∧ (subOf g).cd2.useClass0 = false ∧
    (∀ c, c ∈ (subOf g).cd1.classes ↔ c ∈ g.map (·.c1)) ∧
    (∀ c, c ∈ (subOf g).cd2.classes ↔ c ∈ g.map (·.c2)) := by
  induction g using snoc_induction with
  | h0 =>
    refine ⟨⟨List.Pairwise.nil, List.nodup_nil⟩, ⟨List.Pairwise.nil, List.nodup_nil⟩, rfl, rfl, ?_, ?_⟩ <;>
      intro c <;> simp [subOf, ClassPairSub.empty]
  | hs g r ih =>
    obtain ⟨hg, hr⟩ := (GroupOK_snoc g r).mp hok
    obtain ⟨i1, i2, u1, u2, m1, m2⟩ := ih hg
    rw [subOf_snoc]
    simp only [ClassPairSub.add]
    unfold compatR at hr
    rw [Bool.and_eq_true] at hr
    have c1 : (subOf g).cd1.canAdd r.c1 = true := by
      rw [canAdd_eq_classCompat _ _ m1]; exact hr.1
    have c2 : (subOf g).cd2.canAdd r.c2 = true := by
      rw [canAdd_eq_classCompat _ _ m2]; exact hr.2
    refine ⟨checkedAdd_inv _ _ i1, checkedAdd_inv _ _ i2, ?_, ?_, ?_, ?_⟩
    · rw [checkedAdd_useClass0]; exact u1
    · rw [checkedAdd_useClass0]; exact u2
    · intro c
      rw [checkedAdd_mem _ _ c1, m1 c]
      simp only [List.map_append, List.map_cons, List.map_nil, List.mem_append, List.mem_singleton]
    · intro c
      rw [checkedAdd_mem _ _ c2, m2 c]
      simp only [List.map_append, List.map_cons, List.map_nil, List.mem_append, List.mem_singleton]

/-- `ClassPairPosSubtable::can_add` on a group's subtable is the rule-level compatibility -/
theorem subOf_canAdd {V : Type} (g : List (ClassRule V)) (hok : GroupOK g) (r : ClassRule V) :
    (subOf g).canAdd r.c1 r.c2 = compatR g r := by
  obtain ⟨_, _, _, _, m1, m2⟩ := subOf_classes g hok
  unfold ClassPairSub.canAdd compatR
  rw [canAdd_eq_classCompat _ _ m1, canAdd_eq_classCompat _ _ m2]

theorem find?_congr_mem {α : Type} {p q : α → Bool} : ∀ (l : List α), (∀ x ∈ l, p x = q x) →
    l.find? p = l.find? q := by
  intro l
  induction l with
  | nil => intro _; rfl
  | cons a l ih =>
    intro h
    rw [List.find?_cons, List.find?_cons, h a (List.mem_cons_self ..),
      ih (fun x hx => h x (List.mem_cons_of_mem _ hx))]

theorem distinctKeys_spec (ks : List (List Nat)) :
    (distinctKeys ks).Nodup ∧ ∀ k, k ∈ distinctKeys ks ↔ k ∈ ks := by
  induction ks with
  | nil => exact ⟨List.nodup_nil, fun k => Iff.rfl⟩
  | cons k ks ih =>
    unfold distinctKeys
    by_cases h : ks.contains k = true
    · simp only [h, ↓reduceIte]
      refine ⟨ih.1, fun k' => ?_⟩
      rw [ih.2 k', List.mem_cons]
      constructor
      · exact Or.inr
      · rintro (rfl | h')
        · exact List.contains_iff_mem.mp h
        · exact h'
    · simp only [h, Bool.false_eq_true, ↓reduceIte]
      refine ⟨?_, fun k' => by rw [List.mem_cons, List.mem_cons, ih.2 k']⟩
      rw [List.nodup_cons]
      exact ⟨fun hm => h (List.contains_iff_mem.mpr ((ih.2 k).mp hm)), ih.1⟩

theorem mem_stuffOf {V : Type} (items : List ((List Nat × List Nat) × V)) (k : List Nat)
    (e : List Nat × V) : e ∈ stuffOf items k ↔ ((k, e.1), e.2) ∈ items := by
  unfold stuffOf
  simp only [List.mem_map, List.mem_filter, beq_iff_eq]
  constructor
  · rintro ⟨x, ⟨hx, hk⟩, rfl⟩
    have : ((k, x.1.2), x.2) = x := by rw [← hk]
    rw [this]; exact hx
  · intro h; exact ⟨_, ⟨h, rfl⟩, rfl⟩

theorem stuffOf_nodup {V : Type} (items : List ((List Nat × List Nat) × V))
    (hnd : (items.map (·.1)).Nodup) (k : List Nat) : ((stuffOf items k).map (·.1)).Nodup := by
  unfold stuffOf
  rw [List.nodup_iff_pairwise_ne, List.pairwise_map, List.pairwise_map]
  have h1 : items.Pairwise (fun a c => a.1 ≠ c.1) := by
    have := List.nodup_iff_pairwise_ne.mp hnd
    rwa [List.pairwise_map] at this
  have h2 := h1.filter (fun e => e.1.1 == k)
  refine List.Pairwise.imp_of_mem ?_ h2
  intro a c ha hc hne he
  have hak : a.1.1 = k := by simpa using (List.mem_filter.mp ha).2
  have hck : c.1.1 = k := by simpa using (List.mem_filter.mp hc).2
  exact hne (Prod.ext (hak.trans hck.symm) he)

theorem buildRow_spec {V : Type} (b2 : ClassDefBuilder) (h2 : CDBInv b2) (hu : b2.useClass0 = false)
    (items : List ((List Nat × List Nat) × V)) (hnd : (items.map (·.1)).Nodup)
    (hcls : ∀ e ∈ items, e.1.2 ∈ b2.classes) (k : List Nat) :
    ∃ row, buildRow b2.buildWithMapping.2 (stuffOf items k)
        (List.replicate (b2.buildWithMapping.2.length + 1) none) = some row ∧
      row[0]? = some none ∧
      ∀ B id, mappingGet b2.buildWithMapping.2 B = some id → row[id]? = some (items.lookup (k, B)) := by
  obtain ⟨m1, m2, m3, m4⟩ := mappingGet_spec b2 h2
  simp only [hu, Bool.false_eq_true, ↓reduceIte] at m2
  obtain ⟨row, hrow, hset, hkeep⟩ := setMany_keyed
    (fun e : List Nat × V => (mappingGet b2.buildWithMapping.2 e.1).map (fun idx => (idx, some e.2))) (·.1)
    (mappingGet b2.buildWithMapping.2) m3 (stuffOf items k)
    (List.replicate (b2.buildWithMapping.2.length + 1) none) (stuffOf_nodup items hnd k) fun a ha => by
      obtain ⟨id, hid⟩ := m1 a.1 (hcls _ ((mem_stuffOf items k a).mp ha))
      have := (m2 a.1 id hid).2.2.1
      exact ⟨id, some a.2, by simp [hid], hid, by rw [List.length_replicate, m4]; omega⟩
  refine ⟨row, hrow, ?_, fun B id hB => ?_⟩
  · -- no class has id 0
    rw [hkeep 0 fun a _ h0 => by have := (m2 _ _ h0).2.1; omega]
    simp
  · cases hc : items.lookup (k, B) with
    | some v =>
      exact hset (B, v) ((mem_stuffOf items k (B, v)).mpr (mem_of_lookup_eq_some hc)) id (some v) (by simp [hB])
    | none =>
      have hid := (m2 B id hB).2.2.1
      rw [hkeep id fun a ha hx => ?_, List.getElem?_replicate, if_pos (by rw [m4]; omega)]
      -- an entry with the id of `B` would be a cell `(k, B)`
      have hin := (mem_stuffOf items k a).mp ha
      rw [m3 _ _ _ hx hB, ← lookup_eq_some_iff_mem hnd, hc] at hin
      cases hin

/-- the whole matrix of a group's subtable: no panic, one row per class-1 id, row `id(A)` holds for
every class-2 id the cell `(A, B)` (or the empty record), column 0 is empty -/
theorem buildRows_spec {V : Type} (g : List (ClassRule V)) (hok : GroupOK g) :
    let s := subOf g
    ∃ rows, buildRows s.items s.cd1.buildWithMapping.2 s.cd2.buildWithMapping.2
        (distinctKeys (s.items.map (·.1.1)))
        (List.replicate (distinctKeys (s.items.map (·.1.1))).length []) = some rows ∧
      ∀ A idA, mappingGet s.cd1.buildWithMapping.2 A = some idA →
        ∃ row, rows[idA]? = some row ∧ row[0]? = some none ∧
          ∀ B idB, mappingGet s.cd2.buildWithMapping.2 B = some idB →
            row[idB]? = some (s.items.lookup (A, B)) := by
  intro s
  obtain ⟨i1, i2, u1, u2, mem1, mem2⟩ := subOf_classes g hok
  have hnd := subOf_keys_nodup g
  have hkeys := subOf_mem_keys g
  obtain ⟨a1, a2, a3, a4⟩ := mappingGet_spec s.cd1 i1
  simp only [show s.cd1.useClass0 = true from u1, ↓reduceIte, Nat.zero_add] at a2
  obtain ⟨knd, kmem⟩ := distinctKeys_spec (s.items.map (·.1.1))
  -- the keys are exactly the classes of classdef_1
  have hkc : ∀ k, k ∈ distinctKeys (s.items.map (·.1.1)) ↔ k ∈ s.cd1.classes := fun k => by
    rw [kmem k, mem1 k]; exact subOf_class1_keys g k
  have hlen : (distinctKeys (s.items.map (·.1.1))).length = s.cd1.classes.length :=
    ((List.perm_ext_iff_of_nodup knd i1.2).mpr hkc).length_eq
  have hrow := buildRow_spec s.cd2 i2 u2 s.items hnd fun e he => by
    obtain ⟨r, hr, hk⟩ := (hkeys e.1).mp (List.mem_map.mpr ⟨e, he, rfl⟩)
    rw [mem2]
    exact List.mem_map.mpr ⟨r, hr, by rw [← hk]⟩
  obtain ⟨rows, hrows, hset, _⟩ := setMany_keyed (fun k =>
      match mappingGet s.cd1.buildWithMapping.2 k,
        buildRow s.cd2.buildWithMapping.2 (stuffOf s.items k)
          (List.replicate (s.cd2.buildWithMapping.2.length + 1) none) with
      | some idx, some row => some (idx, row)
      | _, _ => none) id (mappingGet s.cd1.buildWithMapping.2) a3
    (distinctKeys (s.items.map (·.1.1)))
    (List.replicate (distinctKeys (s.items.map (·.1.1))).length ([] : List (Option V)))
    (by rw [List.map_id]; exact knd) fun k hk => by
      obtain ⟨idx, hid⟩ := a1 k ((hkc k).mp hk)
      obtain ⟨row, hr, _⟩ := hrow k
      exact ⟨idx, row, by simp only [hid, hr], hid, by rw [List.length_replicate, hlen]; exact (a2 k idx hid).2.2.1⟩
  refine ⟨rows, hrows, fun A idA hA => ?_⟩
  obtain ⟨row, hr, h0, hcell⟩ := hrow A
  exact ⟨row, hset A ((hkc A).mpr (a2 A idA hA).1) idA row (by simp only [hA, hr]), h0, hcell⟩

/-- **one group = one subtable.**  `ClassPairPosSubtable::build` on the subtable made from a
group of mutually compatible rules does not panic, and the compiled PairPos format 2 table answers
every glyph pair as the group's rules say. -/
theorem subOf_build_lookup {V : Type} (fmt : V → Nat × Nat) (g : List (ClassRule V))
    (hok : GroupOK g) (hne : g ≠ []) (hb : ∀ r ∈ g, ∀ x ∈ r.c1, x < 65536) :
    ∃ out, (subOf g).build fmt = some out ∧
      out.vf1 = (computeValueFormats fmt (subOf g).items).1 ∧
      out.vf2 = (computeValueFormats fmt (subOf g).items).2 ∧
      ∀ g1 g2, out.tbl.lookup g1 g2 = classGroupValue g g1 g2 := by
  obtain ⟨rows, hrows, hcell⟩ := buildRows_spec g hok
  obtain ⟨i1, i2, u1, u2, mem1, mem2⟩ := subOf_classes g hok
  have hnd := subOf_keys_nodup g
  have hkeys := subOf_mem_keys g
  have hget := subOf_lookup g
  obtain ⟨knd, kmem⟩ := distinctKeys_spec ((subOf g).items.map (·.1.1))
  obtain ⟨a1, a2, _, _⟩ := mappingGet_spec (subOf g).cd1 i1
  obtain ⟨b1, b2, _, _⟩ := mappingGet_spec (subOf g).cd2 i2
  obtain ⟨_, z2, _, _⟩ := C16.classdef_builder_get (subOf g).cd2 i2.1
  have hitems : (subOf g).items.isEmpty = false := by
    cases g with
    | nil => exact absurd rfl hne
    | cons r rs =>
      have := (hkeys (r.c1, r.c2)).mpr ⟨r, List.mem_cons_self .., rfl⟩
      cases hi : (subOf (r :: rs)).items with
      | nil => rw [hi] at this; cases this
      | cons _ _ => rfl
  refine ⟨⟨⟨buildCoverage ((distinctKeys ((subOf g).items.map (·.1.1))).flatMap id),
      (subOf g).cd1.buildWithMapping.1, (subOf g).cd2.buildWithMapping.1, rows⟩, _, _⟩, ?_, rfl, rfl, ?_⟩
  · unfold ClassPairSub.build
    simp only [hitems, Bool.false_eq_true, ↓reduceIte]
    simp only at hrows
    rw [hrows]
  · intro g1 g2
    have hcovmem : ∀ x, x ∈ (distinctKeys ((subOf g).items.map (·.1.1))).flatMap id ↔
        ∃ r ∈ g, x ∈ r.c1 := by
      intro x
      simp only [List.mem_flatMap, id, kmem, subOf_class1_keys]
      simp only [List.mem_map]
      constructor
      · rintro ⟨k, ⟨r, hr, rfl⟩, hx⟩; exact ⟨r, hr, hx⟩
      · rintro ⟨r, hr, hx⟩; exact ⟨_, ⟨r, hr, rfl⟩, hx⟩
    have hbound : ∀ x ∈ (distinctKeys ((subOf g).items.map (·.1.1))).flatMap id, x < 65536 := by
      intro x hx
      obtain ⟨r, hr, hxr⟩ := (hcovmem x).mp hx
      exact hb r hr x hxr
    have hcov := buildCoverage_covers _ hbound g1
    unfold classGroupValue PairPos2.lookup
    simp only
    by_cases hany : g.any (fun r => r.c1.contains g1) = true
    · simp only [hany, ↓reduceIte]
      obtain ⟨r0, hr0, hg1⟩ := List.any_eq_true.mp hany
      have hg1' : g1 ∈ r0.c1 := List.contains_iff_mem.mp hg1
      obtain ⟨ci, hci⟩ := hcov.mpr ((hcovmem g1).mpr ⟨r0, hr0, hg1'⟩)
      rw [hci]
      simp only
      have hA : r0.c1 ∈ (subOf g).cd1.classes := (mem1 _).mpr (List.mem_map.mpr ⟨r0, hr0, rfl⟩)
      obtain ⟨idA, hidA⟩ := a1 _ hA
      have hcd1 : (subOf g).cd1.buildWithMapping.1.get g1 = idA := (a2 _ _ hidA).2.2.2 g1 hg1'
      obtain ⟨row, hrow, h0, hc⟩ := hcell _ _ hidA
      rw [hcd1, hrow]
      simp only
      -- for the rules of the group, "first class contains g1" means "first class is r0's"
      have hc1 : ∀ r ∈ g, r.c1.contains g1 = true → r.c1 = r0.c1 := fun r hr hcon =>
        i1.class_unique ((mem1 _).mpr (List.mem_map.mpr ⟨r, hr, rfl⟩)) hA (List.contains_iff_mem.mp hcon) hg1'
      by_cases hany2 : g.any (fun r => r.c2.contains g2) = true
      · obtain ⟨r1, hr1, hg2⟩ := List.any_eq_true.mp hany2
        have hg2' : g2 ∈ r1.c2 := List.contains_iff_mem.mp hg2
        have hB : r1.c2 ∈ (subOf g).cd2.classes := (mem2 _).mpr (List.mem_map.mpr ⟨r1, hr1, rfl⟩)
        obtain ⟨idB, hidB⟩ := b1 _ hB
        have hcd2 : (subOf g).cd2.buildWithMapping.1.get g2 = idB := (b2 _ _ hidB).2.2.2 g2 hg2'
        rw [hcd2, hc _ _ hidB, hget]
        refine congrArg (fun o : Option (ClassRule V) => some (o.map (·.v))) (find?_congr_mem _ fun r hr => ?_)
        have hr' : r ∈ g := List.mem_reverse.mp hr
        have hc2 : r.c2.contains g2 = true → r.c2 = r1.c2 := fun hcon =>
          i2.class_unique ((mem2 _).mpr (List.mem_map.mpr ⟨r, hr', rfl⟩)) hB (List.contains_iff_mem.mp hcon) hg2'
        rw [Bool.eq_iff_iff]
        simp only [decide_eq_true_eq, Prod.mk.injEq, Bool.and_eq_true]
        constructor
        · rintro ⟨e1, e2⟩; rw [e1, e2]; exact ⟨hg1, hg2⟩
        · rintro ⟨e1, e2⟩; exact ⟨hc1 r hr' e1, hc2 e2⟩
      · have hno : ∀ c ∈ (subOf g).cd2.classes, g2 ∉ c := by
          intro c hcm hg2
          obtain ⟨r, hr, rfl⟩ := List.mem_map.mp ((mem2 c).mp hcm)
          exact hany2 (List.any_eq_true.mpr ⟨r, hr, List.contains_iff_mem.mpr hg2⟩)
        have : g.reverse.find? (fun r => r.c1.contains g1 && r.c2.contains g2) = none := by
          rw [List.find?_eq_none]
          intro r hr hcon
          rw [Bool.and_eq_true] at hcon
          exact hany2 (List.any_eq_true.mpr ⟨r, List.mem_reverse.mp hr, hcon.2⟩)
        rw [z2 g2 hno, h0, this]; rfl
    · simp only [hany, Bool.false_eq_true, ↓reduceIte]
      rw [buildCoverage_get_none _ hbound fun hm => by
        obtain ⟨r, hr, hx⟩ := (hcovmem g1).mp hm
        exact hany (List.any_eq_true.mpr ⟨r, hr, List.contains_iff_mem.mpr hx⟩)]

/-! ### the greedy partition: builder state = rule groups -/

/-- the rule-level greedy step of `groupClassRules` -/
def groupInsert {V : Type} (b : List (List (ClassRule V))) (r : ClassRule V) : List (List (ClassRule V)) :=
  greedyInsert compatR (fun g r => g ++ [r]) [] b r

theorem groupClassRules_eq {V : Type} (rules : List (ClassRule V)) :
    groupClassRules rules = rules.foldl groupInsert [] := rfl

theorem greedy_step {V : Type} (P : ClassRule V → Prop) (b : List (List (ClassRule V)))
    (hok : ∀ g ∈ b, GroupOK g ∧ g ≠ [] ∧ ∀ r ∈ g, P r) (r : ClassRule V) (hr : P r) :
    ClassPairs.insert (b.map subOf) r = (groupInsert b r).map subOf ∧
    ∀ g ∈ groupInsert b r, GroupOK g ∧ g ≠ [] ∧ ∀ r ∈ g, P r := by
  unfold ClassPairs.insert groupInsert greedyInsert
  rw [List.getLast?_map]
  cases hl : b.getLast? with
  | none =>
    have : b = [] := List.getLast?_eq_none_iff.mp hl
    subst this
    simp only [Option.map_none, List.map_cons, List.map_nil, List.nil_append]
    refine ⟨rfl, fun g hg => ?_⟩
    simp only [List.mem_singleton] at hg
    subst hg
    exact ⟨GroupOK_singleton r, by simp, fun r' hr' => by simp at hr'; rw [hr']; exact hr⟩
  | some last =>
    obtain ⟨ys, rfl⟩ := List.getLast?_eq_some_iff.mp hl
    have hlast := hok last (by simp)
    simp only [Option.map_some]
    rw [subOf_canAdd last hlast.1 r]
    by_cases hc : compatR last r = true
    · simp only [hc, ↓reduceIte]
      refine ⟨?_, fun g hg => ?_⟩
      · simp only [List.map_append, List.map_cons, List.map_nil, List.dropLast_concat, subOf_snoc]
      · simp only [List.dropLast_concat, List.mem_append, List.mem_singleton] at hg
        rcases hg with hg | rfl
        · exact hok g (by simp [hg])
        · refine ⟨(GroupOK_snoc last r).mpr ⟨hlast.1, hc⟩, by simp, fun r' hr' => ?_⟩
          rcases List.mem_append.mp hr' with h | h
          · exact hlast.2.2 r' h
          · simp at h; rw [h]; exact hr
    · simp only [hc, Bool.false_eq_true, ↓reduceIte]
      refine ⟨?_, fun g hg => ?_⟩
      · simp only [List.map_append, List.map_cons, List.map_nil, List.nil_append]
        rfl
      · rcases List.mem_append.mp hg with hg | hg
        · exact hok g hg
        · simp only [List.nil_append, List.mem_singleton] at hg
          subst hg
          exact ⟨GroupOK_singleton r, by simp, fun r' hr' => by simp at hr'; rw [hr']; exact hr⟩

theorem greedy_fold {V : Type} (P : ClassRule V → Prop) (rules : List (ClassRule V)) :
    ∀ (b : List (List (ClassRule V))), (∀ g ∈ b, GroupOK g ∧ g ≠ [] ∧ ∀ r ∈ g, P r) →
      (∀ r ∈ rules, P r) →
      rules.foldl ClassPairs.insert (b.map subOf) = (rules.foldl groupInsert b).map subOf ∧
      ∀ g ∈ rules.foldl groupInsert b, GroupOK g ∧ g ≠ [] ∧ ∀ r ∈ g, P r := by
  induction rules with
  | nil => intro b hok _; exact ⟨rfl, hok⟩
  | cons r rs ih =>
    intro b hok hP
    obtain ⟨h1, h2⟩ := greedy_step P b hok r (hP r (List.mem_cons_self ..))
    simp only [List.foldl_cons]
    rw [h1]
    exact ih _ h2 (fun r' hr' => hP r' (List.mem_cons_of_mem _ hr'))

/-- the builder's subtables are exactly the subtables of the rule groups -/
theorem ofRules_eq_groups {V : Type} (P : ClassRule V → Prop) (rules : List (ClassRule V))
    (hP : ∀ r ∈ rules, P r) :
    ClassPairs.ofRules rules = (groupClassRules rules).map subOf ∧
    ∀ g ∈ groupClassRules rules, GroupOK g ∧ g ≠ [] ∧ ∀ r ∈ g, P r := by
  have := greedy_fold P rules [] (fun g hg => nomatch hg) hP
  exact this

theorem mapOpt_groups {V : Type} (fmt : V → Nat × Nat) :
    ∀ (gs : List (List (ClassRule V))),
      (∀ g ∈ gs, GroupOK g ∧ g ≠ [] ∧ ∀ r ∈ g, ∀ x ∈ r.c1, x < 65536) →
      ∃ outs, mapOpt (ClassPairSub.build fmt) (gs.map subOf) = some outs ∧ outs.length = gs.length ∧
        (∀ g1 g2, (outs.map (·.tbl)).findSome? (fun t => t.lookup g1 g2) =
          gs.findSome? (fun grp => classGroupValue grp g1 g2)) ∧
        (∀ i (h : i < outs.length) (h' : i < gs.length),
          outs[i].vf1 = (computeValueFormats fmt (subOf gs[i]).items).1 ∧
          outs[i].vf2 = (computeValueFormats fmt (subOf gs[i]).items).2) := by
  intro gs
  induction gs with
  | nil => intro _; exact ⟨[], rfl, rfl, fun _ _ => rfl, fun i h => nomatch h⟩
  | cons g gs ih =>
    intro hok
    obtain ⟨hg, hne, hb⟩ := hok g (List.mem_cons_self ..)
    obtain ⟨out, hout, hv1, hv2, hlook⟩ := subOf_build_lookup fmt g hg hne hb
    obtain ⟨outs, houts, hlen, hl, hvf⟩ := ih (fun g' hg' => hok g' (List.mem_cons_of_mem _ hg'))
    refine ⟨out :: outs, by simp [mapOpt, hout, houts], by simp [hlen], fun g1 g2 => ?_, ?_⟩
    · simp only [List.map_cons, List.findSome?_cons, hlook g1 g2, hl g1 g2]
    · intro i h h'
      cases i with
      | zero => exact ⟨hv1, hv2⟩
      | succ i =>
        simp only [List.getElem_cons_succ]
        exact hvf i (by simpa using h) (by simpa using h')

theorem or_absorb {x y z : Nat} (h : (x ||| y) ||| z = z) : x ||| z = z ∧ y ||| z = z := by
  constructor
  · rw [← h, ← Nat.or_assoc, ← Nat.or_assoc, Nat.or_self]
  · rw [← h, ← Nat.or_assoc, Nat.or_comm y (x ||| y), Nat.or_assoc x y y, Nat.or_self]

theorem computeValueFormats_covers {V : Type} (fmt : V → Nat × Nat) :
    ∀ (items : List ((List Nat × List Nat) × V)) (acc : Nat × Nat),
      let F := items.foldl (fun acc e => (acc.1 ||| (fmt e.2).1, acc.2 ||| (fmt e.2).2)) acc
      (acc.1 ||| F.1 = F.1 ∧ acc.2 ||| F.2 = F.2) ∧
      ∀ e ∈ items, (fmt e.2).1 ||| F.1 = F.1 ∧ (fmt e.2).2 ||| F.2 = F.2 := by
  intro items
  induction items with
  | nil => intro acc; exact ⟨⟨Nat.or_self _, Nat.or_self _⟩, fun e he => nomatch he⟩
  | cons x xs ih =>
    intro acc
    simp only [List.foldl_cons]
    obtain ⟨⟨h1, h2⟩, hrest⟩ := ih (acc.1 ||| (fmt x.2).1, acc.2 ||| (fmt x.2).2)
    simp only at h1 h2
    refine ⟨⟨(or_absorb h1).1, (or_absorb h2).1⟩, fun e he => ?_⟩
    rcases List.mem_cons.mp he with rfl | he'
    · exact ⟨(or_absorb h1).2, (or_absorb h2).2⟩
    · exact hrest e he'

theorem find?_of_find?_imp {α : Type} {p q : α → Bool} {r : α} : ∀ (l : List α),
    l.find? p = some r → q r = true → (∀ x ∈ l, q x = true → p x = true) → l.find? q = some r := by
  intro l
  induction l with
  | nil => intro h; cases h
  | cons a l ih =>
    intro h hq himp
    rw [List.find?_cons] at h ⊢
    by_cases hpa : p a = true
    · simp only [hpa] at h
      cases h
      simp [hq]
    · have hqa : q a = false := by
        cases hqa : q a with
        | false => rfl
        | true => exact absurd (himp a (List.mem_cons_self ..) hqa) hpa
      simp only [hpa] at h
      simp only [hqa]
      exact ih h hq (fun x hx => himp x (List.mem_cons_of_mem _ hx))

/-- a value a group's rules give to some pair is the value stored in one of the subtable's cells -/
theorem classGroupValue_mem_items {V : Type} (g : List (ClassRule V)) (g1 g2 : Nat) (v : V)
    (h : classGroupValue g g1 g2 = some (some v)) : ∃ e ∈ (subOf g).items, e.2 = v := by
  unfold classGroupValue at h
  split at h
  · simp only [Option.some.injEq] at h
    cases hf : g.reverse.find? (fun r => r.c1.contains g1 && r.c2.contains g2) with
    | none => rw [hf] at h; cases h
    | some r =>
      rw [hf] at h
      simp only [Option.map_some, Option.some.injEq] at h
      subst h
      have hp := List.find?_some hf
      have hq : g.reverse.find? (fun r' => decide ((r'.c1, r'.c2) = (r.c1, r.c2))) = some r := by
        apply find?_of_find?_imp _ hf (by simp)
        intro x _ hx
        simp only [decide_eq_true_eq, Prod.mk.injEq] at hx
        rw [hx.1, hx.2]; exact hp
      have := subOf_lookup g (r.c1, r.c2)
      rw [hq] at this
      exact ⟨_, mem_of_lookup_eq_some this, rfl⟩
  · cases h

/-! ### `PairPosBuilder::build`: the glyph-pair subtables in front of the class subtables -/

/-- a glyph-pair subtable whose records are wrapped in `some` -/
theorem PairPos1.lookup_wrap {V : Type} (t : PairPos1 V) (g1 g2 : Nat) :
    (⟨t.cov, t.pairSets.map (·.map (fun p => (p.1, some p.2)))⟩ : PairPos1 (Option V)).lookup g1 g2 =
      (t.lookup g1 g2).map some := by
  unfold PairPos1.lookup
  simp only
  cases t.cov.get g1 with
  | none => rfl
  | some i =>
    simp only [List.getElem?_map]
    cases t.pairSets[i]? with
    | none => rfl
    | some ps =>
      simp only [Option.map_some, List.find?_map]
      have : ((fun p : Nat × Option V => p.1 == g2) ∘ fun p : Nat × V => (p.1, some p.2)) =
          fun p => p.1 == g2 := rfl
      rw [this]
      cases ps.find? (fun p => p.1 == g2) <;> rfl

end FontVerif.Layout
