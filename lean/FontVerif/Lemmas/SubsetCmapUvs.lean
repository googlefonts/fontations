/-
Helper lemmas for C17 (Model/SubsetCmap.lean): `copy_default_uvs` — the ranges written cover exactly
the plan's unicodes that lie in a range of the source table.
-/
import FontVerif.Model.SubsetCmap
import FontVerif.Lemmas.Cmap14
import FontVerif.Lemmas.Lists
namespace FontVerif.SubsetCmap
open FontVerif.Cmap

/-- the code points a list of default-UVS ranges (start, additional count) stands for, in order -/
def expandUvs (rs : List (Nat × Nat)) : List Nat := rs.flatMap (fun r => List.range' r.1 (r.2 + 1))

theorem expandUvs_map_zero (l : List Nat) : expandUvs (l.map (·, 0)) = l := by
  induction l with
  | nil => rfl
  | cons x rest ih =>
    simp only [expandUvs, List.map_cons, List.flatMap_cons] at ih ⊢
    rw [ih]; simp [List.range']

/-- `u` lies in one of the source ranges, as the writer's binary search decides it -/
def foundIn (ranges : List (Nat × Nat)) (u : Nat) : Bool := foundDefaultUvs ⟨0, some ranges, none⟩ u

theorem foundIn_iff (ranges : List (Nat × Nat)) (hp : ranges.Pairwise (fun a b => a.1 + a.2 < b.1)) (u : Nat) :
    foundIn ranges u = true ↔ ∃ r ∈ ranges, r.1 ≤ u ∧ u ≤ r.1 + r.2 := by
  unfold foundIn
  rw [foundDefaultUvs_iff ⟨0, some ranges, none⟩ u (fun rs h => by cases h; exact hp)]
  simp [InDefaults]

theorem defaultFew_cons (ranges : List (Nat × Nat)) (start end_ u : Nat) (rest : List Nat) :
    defaultFew ranges start end_ (u :: rest) =
      if foundIn ranges u then
        (if start = INVALID then defaultFew ranges u u rest
         else if end_ + 1 ≠ u ∨ end_ - start = 255 then
           (start, (end_ - start) % 256) :: defaultFew ranges u u rest
         else defaultFew ranges start u rest)
      else defaultFew ranges start end_ rest := by
  rw [defaultFew]
  unfold foundIn foundDefaultUvs
  simp only []
  split <;> rename_i hbs <;> simp [hbs]

/-- the code points of the open block `[start, end]` of the "few unicodes" loop (`INVALID` = none yet) -/
def openBlock (start end_ : Nat) : List Nat := if start = INVALID then [] else List.range' start (end_ - start + 1)

/-- the "few unicodes" branch from any of its states: the ranges written stand for the open block followed by exactly
the remaining unicodes that lie in a source range, in order; no count exceeds 255 -/
theorem defaultFew_spec (ranges : List (Nat × Nat)) : ∀ (us : List Nat) (start end_ : Nat),
    (start ≠ INVALID → start ≤ end_ ∧ end_ - start ≤ 255 ∧ ∀ u ∈ us, end_ < u) →
    us.Pairwise (· < ·) → (∀ u ∈ us, u < INVALID) →
    expandUvs (defaultFew ranges start end_ us) = openBlock start end_ ++ us.filter (foundIn ranges) ∧
    ∀ r ∈ defaultFew ranges start end_ us, r.2 ≤ 255 := by
  intro us
  induction us with
  | nil =>
    intro start end_ hst _ _
    by_cases h1 : start = INVALID
    · simp [defaultFew, h1, expandUvs, openBlock]
    · obtain ⟨h2, h3, _⟩ := hst h1
      have hm : (end_ - start) % 256 = end_ - start := by omega
      simp [defaultFew, h1, expandUvs, openBlock, hm]
      omega
  | cons u rest ih =>
    intro start end_ hst hasc hlt
    have hu2 := hlt u (List.mem_cons_self ..)
    have hasc' := (List.pairwise_cons.1 hasc).2
    have hrest : ∀ v ∈ rest, u < v := (List.pairwise_cons.1 hasc).1
    have hlt' : ∀ v ∈ rest, v < INVALID := fun v hv => hlt v (List.mem_cons_of_mem _ hv)
    have hne : u ≠ INVALID := by omega
    -- a block opened at `u`
    obtain ⟨f1, f2⟩ := ih u u (fun _ => ⟨Nat.le_refl _, by omega, hrest⟩) hasc' hlt'
    rw [openBlock, if_neg hne, Nat.sub_self] at f1
    rw [defaultFew_cons]
    by_cases hf : foundIn ranges u = true
    · simp only [hf, if_true, List.filter_cons]
      by_cases h1 : start = INVALID
      · simp only [h1, if_true, openBlock]
        exact ⟨by rw [f1]; simp, f2⟩
      · obtain ⟨h2, h3, hgt⟩ := hst h1
        have hu := hgt u (List.mem_cons_self ..)
        have hm : (end_ - start) % 256 = end_ - start := by omega
        simp only [h1, if_false, openBlock]
        by_cases hsplit : end_ + 1 ≠ u ∨ end_ - start = 255
        · simp only [hsplit, if_true]
          refine ⟨?_, ?_⟩
          · simp only [expandUvs, List.flatMap_cons] at f1 ⊢
            rw [f1, hm]
            simp
          · intro r hr
            rcases List.mem_cons.1 hr with rfl | hr
            · simp only; omega
            · exact f2 r hr
        · simp only [hsplit, if_false]
          have hadj : end_ + 1 = u := by omega
          obtain ⟨e1, e2⟩ := ih start u (fun _ => ⟨by omega, by omega, hrest⟩) hasc' hlt'
          refine ⟨?_, e2⟩
          rw [e1, openBlock, if_neg h1]
          have : u - start + 1 = (end_ - start + 1) + 1 := by omega
          rw [this, List.range'_concat]
          simp only [Nat.one_mul, List.append_assoc, List.cons_append, List.nil_append]
          congr 2
          omega
    · have hf' : foundIn ranges u = false := eq_false_of_ne_true hf
      simp only [hf', Bool.false_eq_true, if_false, List.filter_cons]
      exact ih start end_ (fun h1 => by
        obtain ⟨a, b', c⟩ := hst h1
        exact ⟨a, b', fun v hv => by have := c u (List.mem_cons_self ..); have := hrest v hv; omega⟩) hasc' hlt'

/-- `iter_after(cur).next()` on an ascending list: the smallest element above `cur` -/
theorem nextAfter_spec (us : List Nat) (hasc : us.Pairwise (· < ·)) (cur : Nat) :
    (nextAfter us cur = none → ∀ v ∈ us, v ≤ cur) ∧
    (∀ e, nextAfter us cur = some e → ∃ as bs, us = as ++ e :: bs ∧ cur < e ∧
      (∀ a ∈ as, a ≤ cur) ∧ (∀ b ∈ bs, e < b)) := by
  unfold nextAfter
  constructor
  · intro h v hv
    have := List.find?_eq_none.1 h v hv
    simpa using this
  · intro e h
    obtain ⟨hp, as, bs, hus, has⟩ := List.find?_eq_some_iff_append.1 h
    refine ⟨as, bs, hus, by simpa using hp, fun a ha => by have := has a ha; simpa using this, ?_⟩
    intro b hb
    rw [hus] at hasc
    have := (List.pairwise_append.1 hasc).2.1
    exact (List.pairwise_cons.1 this).1 b hb

def visited (us : List Nat) (cur end_ : Nat) : List Nat := us.filter (fun u => decide (cur < u ∧ u < end_))

def pend (lastCode : Nat) : List Nat := if lastCode = INVALID then [] else [lastCode]

theorem visited_step (us : List Nat) (cur end_ e : Nat) (as bs : List Nat) (hus : us = as ++ e :: bs)
    (hce : cur < e) (hee : e < end_) (has : ∀ a ∈ as, a ≤ cur) (hbs : ∀ b ∈ bs, e < b) :
    visited us cur end_ = e :: visited us e end_ := by
  unfold visited
  subst hus
  have h1 : as.filter (fun u => decide (cur < u ∧ u < end_)) = [] :=
    List.filter_eq_nil_iff.2 (fun a ha => by have := has a ha; simp; omega)
  have h2 : as.filter (fun u => decide (e < u ∧ u < end_)) = [] :=
    List.filter_eq_nil_iff.2 (fun a ha => by have := has a ha; simp; omega)
  have h3 : bs.filter (fun u => decide (cur < u ∧ u < end_)) = bs.filter (fun u => decide (e < u ∧ u < end_)) :=
    List.filter_congr (fun b hb => by
      have hb1 := hbs b hb
      have hb2 : cur < b := by omega
      simp [hb1, hb2])
  simp only [List.filter_append, List.filter_cons, h1, h2, h3, List.nil_append]
  have : decide (cur < e ∧ e < end_) = true := by simp; omega
  have h4 : decide (e < e ∧ e < end_) = false := by simp
  simp [this]

theorem visited_eq_nil {us : List Nat} {cur end_ : Nat} (h : ∀ u ∈ us, cur < u → end_ ≤ u) : visited us cur end_ = [] :=
  List.filter_eq_nil_iff.2 fun u hu => by have := h u hu; simp only [decide_eq_true_eq]; omega

theorem mem_pend {lastCode x : Nat} : x ∈ pend lastCode ↔ x = lastCode ∧ lastCode ≠ INVALID := by
  unfold pend; split <;> simp [*]

/-- what the "many unicodes" loop has done once the code points `all` (the one pending at the start, then the
visited entries) are through: all but the last are written, each as a range of its own, and the last is pending -/
def flushed (all : List Nat) : List (Nat × Nat) × Nat × Nat :=
  (all.dropLast.map (·, 0), all.getLast?.getD INVALID, 0)

theorem flushed_pend (lastCode : Nat) : flushed (pend lastCode) = ([], lastCode, 0) := by
  unfold flushed pend; split <;> simp [*]

theorem flushed_cons_cons (a b : Nat) (l : List Nat) :
    flushed (a :: b :: l) = ((a, 0) :: (flushed (b :: l)).1, (flushed (b :: l)).2) := by
  simp only [flushed, List.dropLast_cons₂, List.map_cons, List.getLast?_cons_cons]

theorem dropLast_append_pend (all : List Nat) (h : ∀ x ∈ all, x ≠ INVALID) :
    all.dropLast ++ pend (all.getLast?.getD INVALID) = all := by
  conv => rhs; rw [← dropLast_append_getLast? all]
  cases hl : all.getLast? with
  | none => simp [pend]
  | some z => simp [pend, h z (List.mem_of_getLast? hl)]

/-- the loop for one source range.  With `count = 0` the test `last_code + count != entry` never fails
(`last_code ≤ cur < entry`), so `count` stays 0: every trip writes the pending code point and makes the entry pending. -/
theorem defaultManyRange_spec (us : List Nat) (hasc : us.Pairwise (· < ·)) (hlt : ∀ u ∈ us, u < INVALID)
    (end_ : Nat) : ∀ (fuel cur lastCode : Nat), end_ - cur ≤ fuel → (lastCode = INVALID ∨ lastCode ≤ cur) →
    defaultManyRange us end_ fuel cur lastCode 0 = flushed (pend lastCode ++ visited us cur end_) := by
  intro fuel
  induction fuel with
  | zero =>
    intro cur lastCode hf _
    rw [visited_eq_nil (fun u _ _ => by omega), List.append_nil, flushed_pend, defaultManyRange]
  | succ fuel ih =>
    intro cur lastCode hf hlc
    obtain ⟨n1, n2⟩ := nextAfter_spec us hasc cur
    rw [defaultManyRange]
    cases hn : nextAfter us cur with
    | none =>
      rw [visited_eq_nil (fun u hu hc => absurd hc (Nat.not_lt.mpr (n1 hn u hu))), List.append_nil, flushed_pend]
    | some e =>
      obtain ⟨as, bs, hus, hce, has, hbs⟩ := n2 e hn
      have he : e ≠ INVALID := Nat.ne_of_lt (hlt e (by rw [hus]; simp))
      simp only []
      by_cases hge : e ≥ end_
      · rw [if_pos hge, visited_eq_nil, List.append_nil, flushed_pend]
        intro u hu hc
        rw [hus] at hu
        rcases List.mem_append.mp hu with ha | hb
        · exact absurd hc (Nat.not_lt.mpr (has u ha))
        · rcases List.mem_cons.mp hb with rfl | hb
          · exact hge
          · exact Nat.le_trans hge (Nat.le_of_lt (hbs u hb))
      · rw [if_neg hge, visited_step us cur end_ e as bs hus hce (by omega) has hbs]
        have hih := ih e e (by omega) (Or.inr (Nat.le_refl _))
        rw [pend, if_neg he, List.singleton_append] at hih
        by_cases hinv : lastCode = INVALID
        · rw [if_pos hinv, hih, hinv, pend, if_pos rfl, List.nil_append]
        · have hne : lastCode + 0 ≠ e := by have := hlc.resolve_left hinv; omega
          rw [if_neg hinv, if_pos hne, hih, pend, if_neg hinv, List.singleton_append, flushed_cons_cons]

/-- the "many unicodes" branch over all source ranges (ascending, disjoint, no range starting at 0):
single-character ranges for exactly the visited entries, range by range -/
theorem defaultMany_spec (us : List Nat) (hasc : us.Pairwise (· < ·)) (hlt : ∀ u ∈ us, u < INVALID) :
    ∀ (ranges : List (Nat × Nat)) (lastCode : Nat),
    ranges.Pairwise (fun a b => a.1 + a.2 < b.1) → (∀ r ∈ ranges, 1 ≤ r.1) →
    (lastCode = INVALID ∨ ∀ r ∈ ranges, lastCode ≤ r.1 - 1) →
    defaultMany us ranges lastCode 0 =
      some ((pend lastCode ++ ranges.flatMap (fun r => visited us (r.1 - 1) (r.1 + r.2 + 1))).map (·, 0)) := by
  intro ranges
  induction ranges with
  | nil =>
    intro lastCode _ _ _
    rw [defaultMany, List.flatMap_nil, List.append_nil, pend]
    split <;> simp [*]
  | cons r rest ih =>
    intro lastCode hp hpos hlc
    obtain ⟨start, addl⟩ := r
    have hs : 1 ≤ start := hpos (start, addl) List.mem_cons_self
    have hp' := List.pairwise_cons.1 hp
    rw [defaultMany, if_neg (by omega)]
    simp only []
    rw [defaultManyRange_spec us hasc hlt _ _ _ lastCode (by omega)
      (hlc.imp id fun h0 => h0 (start, addl) List.mem_cons_self),
      show start - 1 + addl + 2 = start + addl + 1 by omega]
    generalize hall : pend lastCode ++ visited us (start - 1) (start + addl + 1) = all
    -- the code point left pending: the old one, or an entry of this range
    have hmem : ∀ x ∈ all, x ≠ INVALID ∧ ∀ q ∈ rest, x ≤ q.1 - 1 := by
      intro x hx
      rw [← hall] at hx
      rcases List.mem_append.mp hx with hx | hx
      · obtain ⟨rfl, hne⟩ := mem_pend.mp hx
        exact ⟨hne, fun q hq => hlc.resolve_left hne q (List.mem_cons_of_mem _ hq)⟩
      · obtain ⟨hxu, hb⟩ := List.mem_filter.mp hx
        have := of_decide_eq_true hb
        exact ⟨Nat.ne_of_lt (hlt x hxu), fun q hq => by have := hp'.1 q hq; simp only at this; omega⟩
    simp only [flushed]
    have hlc' : all.getLast?.getD INVALID = INVALID ∨ ∀ q ∈ rest, all.getLast?.getD INVALID ≤ q.1 - 1 := by
      cases hl : all.getLast? with
      | none => exact Or.inl rfl
      | some z => exact Or.inr (hmem z (List.mem_of_getLast? hl)).2
    rw [ih _ hp'.2 (fun q hq => hpos q (List.mem_cons_of_mem _ hq)) hlc']
    simp only []
    rw [← List.map_append, ← List.append_assoc, dropLast_append_pend all (fun x hx => (hmem x hx).1), ← hall,
      List.flatMap_cons, List.append_assoc]

end FontVerif.SubsetCmap
