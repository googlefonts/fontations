/-
Helper lemmas for C08: on any well-formed format-4 table (`Wf4`) `Cmap4Iter` yields the items of row after row
(`iter4_wf`) and agrees with `Cmap4::map_codepoint`; a table compiled from a valid segmentation is well formed, so
it enumerates the mapping in order followed by one `(0xFFFF, 0)` item per terminating row, and answers exactly that.
-/
import FontVerif.Model.Cmap
import FontVerif.Lemmas.Cmap4
namespace FontVerif.Cmap

theorem filterMap_range'_reindex {β : Type} (f : Nat → Option β) (h : Nat → β) :
    ∀ (L a b : Nat), (∀ i, i < L → f (a + i) = some (h (b + i))) →
      (List.range' a L).filterMap f = (List.range' b L).map h := by
  intro L
  induction L with
  | zero => intro a b _; rfl
  | succ L ih =>
    intro a b hf
    rw [List.range'_succ, List.range'_succ, List.filterMap_cons, List.map_cons]
    have h0 := hf 0 (by omega)
    simp only [Nat.add_zero] at h0
    rw [h0]
    simp only
    congr 1
    exact ih (a + 1) (b + 1) (fun i hi => by
      have := hf (i + 1) (by omega)
      rw [show a + 1 + i = a + (i + 1) by omega, show b + 1 + i = b + (i + 1) by omega]
      exact this)

theorem flatMap_range'_getElem {α β : Type} (f : Nat → List β) (g : α → List β) :
    ∀ (l : List α) (k : Nat), (∀ i (hi : i < l.length), f (k + i) = g l[i]) →
      (List.range' k l.length).flatMap f = l.flatMap g := by
  intro l
  induction l with
  | nil => intro k _; rfl
  | cons a l ih =>
    intro k h
    rw [List.length_cons, List.range'_succ, List.flatMap_cons, List.flatMap_cons,
      show f k = g a from h 0 (Nat.zero_lt_succ _),
      ih (k + 1) (fun i hi => by
        rw [show k + 1 + i = k + (i + 1) by omega]; exact h (i + 1) (Nat.succ_lt_succ hi))]

/-- the pairs of the mapping with index in `[lo, hi)` -/
def pairsFrom (cp gid : Nat → Nat) (lo hi : Nat) : Mapping :=
  (List.range' lo (hi - lo)).map (fun k => (cp k, gid k))

theorem pairsFrom_append (cp gid : Nat → Nat) (lo mid hi : Nat) (h1 : lo ≤ mid) (h2 : mid ≤ hi) :
    pairsFrom cp gid lo mid ++ pairsFrom cp gid mid hi = pairsFrom cp gid lo hi := by
  unfold pairsFrom
  rw [← List.map_append]
  congr 1
  have : mid = lo + 1 * (mid - lo) := by omega
  conv => lhs; arg 2; rw [this]
  rw [List.range'_append]
  congr 1
  omega

theorem mem_pairsFrom (cp gid : Nat → Nat) (n c v : Nat) :
    (c, v) ∈ pairsFrom cp gid 0 n ↔ ∃ k, k < n ∧ cp k = c ∧ gid k = v := by
  simp [pairsFrom, List.mem_range'_1]

theorem SegsTile.pairs {cp gid : Nat → Nat} : ∀ {segs : List Seg} {lo n : Nat},
    SegsTile cp gid lo n segs →
      segs.flatMap (fun s => pairsFrom cp gid s.startIx (s.endIx + 1)) = pairsFrom cp gid lo n := by
  intro segs
  induction segs with
  | nil => intro lo n h; cases h; simp [pairsFrom]
  | cons s rest ih =>
    intro lo n h
    obtain ⟨h1, h2, h3⟩ := h
    rw [List.flatMap_cons, ih h3, h1,
      pairsFrom_append cp gid lo (s.endIx + 1) n (by have := h2.le; omega) h3.le]

/-- `Cmap4::iter()` is `Cmap4Iter::next` run from the first row with nothing consumed -/
theorem iter4_eq_from (t : Cmap4) : iter4 t = iter4From t (t.startCode.size + 1) 0 0 := by
  rw [iter4From, iter4]
  cases codeRange t 0 with
  | none => rfl
  | some p => simp only [Nat.max_zero]

theorem mem_iter4Seg (t : Cmap4) (ix lo hi c g : Nat) :
    (c, g) ∈ iter4Seg t ix lo hi ↔
      lo ≤ c ∧ c < hi ∧ lookupGlyphId t (c % 65536) ix (lo % 65536) = some g := by
  unfold iter4Seg
  simp only [List.mem_filterMap, List.mem_range'_1, Option.map_eq_some_iff, Prod.mk.injEq]
  constructor
  · rintro ⟨a, ⟨h1, h2⟩, b, hb, rfl, rfl⟩
    exact ⟨h1, by omega, hb⟩
  · rintro ⟨h1, h2, h3⟩
    exact ⟨c, ⟨h1, by omega⟩, g, h3, rfl, rfl⟩

/-- start / end code arrays as total functions -/
def sCode (t : Cmap4) (i : Nat) : Nat := (t.startCode[i]?).getD 0

def eCode (t : Cmap4) (i : Nat) : Nat := (t.endCode[i]?).getD 0

/-- segment arrays of equal length holding ascending, disjoint, 16-bit ranges -/
structure Wf4 (t : Cmap4) : Prop where
  size : t.endCode.size = t.startCode.size
  sorted : RangesSorted (sCode t) (eCode t) t.startCode.size
  u16 : ∀ i, i < t.startCode.size → eCode t i ≤ 0xFFFF

theorem wf4_codeRange (t : Cmap4) (hw : Wf4 t) (i : Nat) :
    codeRange t i = if i < t.startCode.size then some (sCode t i, eCode t i + 1) else none := by
  unfold codeRange sCode eCode
  by_cases h : i < t.startCode.size
  · have h' : i < t.endCode.size := by rw [hw.size]; exact h
    simp [h, h']
  · simp [h]

/-- no range of a well-formed table reaches back into what was consumed: `Cmap4Iter` yields the items of
row after row -/
theorem iter4From_wf (t : Cmap4) (hw : Wf4 t) :
    ∀ fuel ix curEnd, t.startCode.size - ix ≤ fuel → (ix < t.startCode.size → curEnd ≤ sCode t ix) →
      iter4From t fuel ix curEnd =
        (List.range' ix (t.startCode.size - ix)).flatMap
          (fun i => iter4Seg t i (sCode t i) (eCode t i + 1)) := by
  intro fuel
  induction fuel with
  | zero =>
    intro ix curEnd hf _
    rw [Nat.le_zero.1 hf]; rfl
  | succ f ih =>
    intro ix curEnd hf hcur
    rw [iter4From, wf4_codeRange t hw]
    by_cases hix : ix < t.startCode.size
    · have hle := hw.sorted.le ix hix
      have hc := hcur hix
      rw [if_pos hix]
      simp only []
      rw [Nat.max_eq_left hc, Nat.max_eq_left (by omega),
        ih (ix + 1) (eCode t ix + 1) (by omega) (fun h => hw.sorted.lt ix (ix + 1) (by omega) h),
        show t.startCode.size - ix = (t.startCode.size - (ix + 1)) + 1 by omega, List.range'_succ,
        List.flatMap_cons]
    · rw [if_neg hix, show t.startCode.size - ix = 0 by omega]; rfl

theorem iter4_wf (t : Cmap4) (hw : Wf4 t) :
    iter4 t = (List.range t.startCode.size).flatMap
      (fun i => iter4Seg t i (sCode t i) (eCode t i + 1)) := by
  rw [iter4_eq_from, iter4From_wf t hw _ 0 0 (by omega) (fun _ => Nat.zero_le _), Nat.sub_zero,
    List.range_eq_range']

theorem mem_iter4_wf (t : Cmap4) (hw : Wf4 t) (c g : Nat) :
    (c, g) ∈ iter4 t ↔ ∃ i, i < t.startCode.size ∧ sCode t i ≤ c ∧ c ≤ eCode t i ∧
      lookupGlyphId t c i (sCode t i) = some g := by
  rw [iter4_wf t hw]
  simp only [List.mem_flatMap, List.mem_range, mem_iter4Seg]
  refine exists_congr fun i => and_congr_right fun hi => ?_
  have hle := hw.sorted.le i hi
  have hu := hw.u16 i hi
  constructor
  · rintro ⟨h1, h2, h3⟩
    rw [Nat.mod_eq_of_lt (by omega), Nat.mod_eq_of_lt (by omega)] at h3
    exact ⟨h1, by omega, h3⟩
  · rintro ⟨h1, h2, h3⟩
    rw [Nat.mod_eq_of_lt (by omega), Nat.mod_eq_of_lt (by omega)]
    exact ⟨h1, by omega, h3⟩

theorem iter4_mem_iff_map4 (t : Cmap4) (hw : Wf4 t) (c g : Nat) :
    (c, g) ∈ iter4 t ↔ map4 t c = some g := by
  have hs : ∀ i, i < t.startCode.size → (fun i => t.startCode[i]?) i = some (sCode t i) := by
    intro i hi; simp [sCode, hi]
  have he : ∀ i, i < t.startCode.size → (fun i => t.endCode[i]?) i = some (eCode t i) := by
    intro i hi
    have : i < t.endCode.size := by rw [hw.size]; exact hi
    simp [eCode, this]
  rw [mem_iter4_wf t hw]
  by_cases hex : ∃ i, i < t.startCode.size ∧ sCode t i ≤ c ∧ c ≤ eCode t i
  · obtain ⟨i, hi, h1, h2⟩ := hex
    have hu := hw.u16 i hi
    rw [map4_eq_lookup t (sCode t) (eCode t) hw.size hs he hw.sorted hi h1 h2 (by omega)]
    constructor
    · rintro ⟨j, hj, j1, j2, j3⟩
      have := hw.sorted.unique hj hi j1 j2 h1 h2
      subst this
      exact j3
    · exact fun h => ⟨i, hi, h1, h2, h⟩
  · rw [map4_eq_none t (sCode t) (eCode t) hw.size hs he hw.sorted
      (fun i hi h => hex ⟨i, hi, h.1, h.2⟩)]
    exact ⟨fun ⟨i, hi, h1, h2, _⟩ => absurd ⟨i, hi, h1, h2⟩ hex, fun h => by cases h⟩

theorem iter4Seg_row {x : Nat} {cp gid : Nat → Nat} {n : Nat} {segs : List Seg} {rows : List Row} {g : List Nat}
    (hm : MapOkX x cp gid n) (ht : SegsTile cp gid 0 n segs) (hr : RowsMatchX x cp gid segs rows g)
    (j : Nat) (hj : j < segs.length) :
    iter4Seg (Cmap4.ofRowsX x rows g) j (cp segs[j].startIx) (cp segs[j].endIx + 1) =
      pairsFrom cp gid segs[j].startIx (segs[j].endIx + 1) := by
  obtain ⟨p1, _⟩ := ht.pointwise
  obtain ⟨_, hok, hn⟩ := p1 _ (List.getElem_mem hj)
  have hle := hok.le
  have hcpe := hok.run segs[j].endIx hok.le (Nat.le_refl _)
  unfold iter4Seg pairsFrom
  have hL : cp segs[j].endIx + 1 - cp segs[j].startIx = segs[j].endIx + 1 - segs[j].startIx := by omega
  rw [hL]
  apply filterMap_range'_reindex
  intro i hi
  have hrun := hok.run (segs[j].startIx + i) (by omega) (by omega)
  have hlt := hm.cpLe (segs[j].startIx + i) (by omega)
  have hlt0 := hm.cpLe segs[j].startIx (by omega)
  have e1 : (cp segs[j].startIx + i) % 65536 = cp (segs[j].startIx + i) := by omega
  have e2 : cp segs[j].startIx % 65536 = cp segs[j].startIx := by omega
  rw [e1, e2, lookup_row hm ht hr j hj (segs[j].startIx + i) (by omega) (by omega)]
  simp only [Option.map_some]
  congr 2
  omega

theorem iter4Seg_term (x : Nat) (rows : List Row) (g : List Nat) (j : Nat) (h1 : rows.length ≤ j)
    (h2 : j < rows.length + x) :
    iter4Seg (Cmap4.ofRowsX x rows g) j 0xFFFF (0xFFFF + 1) = [(0xFFFF, 0)] := by
  obtain ⟨_, _, hδ, hoffs⟩ := ofRowsX_term x rows g j h1 h2
  unfold iter4Seg
  rw [show (0xFFFF + 1 : Nat) - 0xFFFF = 1 from rfl]
  simp only [List.range'_one, List.filterMap_cons, List.filterMap_nil]
  rw [lookupGlyphId_delta _ _ _ _ _ hδ hoffs]
  decide

theorem ofRowsX_wf4 {x : Nat} (hx : x ≤ 1) {cp gid : Nat → Nat} {n : Nat} {segs : List Seg} {rows : List Row}
    {g : List Nat} (hm : MapOkX x cp gid n) (ht : SegsTile cp gid 0 n segs)
    (hr : RowsMatchX x cp gid segs rows g) :
    Wf4 (Cmap4.ofRowsX x rows g) ∧
    (Cmap4.ofRowsX x rows g).startCode.size = segs.length + x ∧
    ∀ i, i < segs.length + x → sCode (Cmap4.ofRowsX x rows g) i = sRow cp segs i ∧
      eCode (Cmap4.ofRowsX x rows g) i = eRow cp segs i := by
  obtain ⟨z1, z2, _⟩ := ofRowsX_size x rows g
  have hsz : (Cmap4.ofRowsX x rows g).startCode.size = segs.length + x := by rw [z2, hr.1]
  have hse : ∀ i, i < segs.length + x → sCode (Cmap4.ofRowsX x rows g) i = sRow cp segs i ∧
      eCode (Cmap4.ofRowsX x rows g) i = eRow cp segs i := fun i hi => by
    rw [sCode, eCode, (rows_codes hm ht hr i hi).1, (rows_codes hm ht hr i hi).2]; exact ⟨rfl, rfl⟩
  have hs := rows_sorted hx hm ht
  refine ⟨⟨by rw [z1, z2], ⟨?_, ?_⟩, ?_⟩, hsz, hse⟩
  · intro i hi
    rw [hsz] at hi
    rw [(hse i hi).1, (hse i hi).2]; exact hs.le i hi
  · intro i j hij hj
    rw [hsz] at hj
    rw [(hse i (by omega)).2, (hse j hj).1]; exact hs.lt i j hij hj
  · intro i hi
    rw [hsz] at hi
    rw [(hse i hi).2, eRow]
    split
    · rename_i h
      have := hm.cpLe _ (ht.pointwise.1 _ (List.getElem_mem h)).2.2
      omega
    · exact Nat.le_refl _

theorem iter4_ofRowsX {x : Nat} (hx : x ≤ 1) {cp gid : Nat → Nat} {n : Nat} {segs : List Seg} {rows : List Row}
    {g : List Nat} (hm : MapOkX x cp gid n) (ht : SegsTile cp gid 0 n segs)
    (hr : RowsMatchX x cp gid segs rows g) :
    iter4 (Cmap4.ofRowsX x rows g) = pairsFrom cp gid 0 n ++ List.replicate x (0xFFFF, 0) := by
  obtain ⟨hw, hsz, hse⟩ := ofRowsX_wf4 hx hm ht hr
  have hsplit : List.range' 0 (segs.length + x) = List.range' 0 segs.length ++ List.range' segs.length x := by
    rw [← List.range'_append_1, Nat.zero_add]
  rw [iter4_wf _ hw, hsz, List.range_eq_range', hsplit, List.flatMap_append,
    flatMap_range'_getElem _ (fun s => pairsFrom cp gid s.startIx (s.endIx + 1)) segs 0
      (fun i hi => by
        rw [Nat.zero_add, (hse i (by omega)).1, (hse i (by omega)).2, sRow, eRow, dif_pos hi, dif_pos hi]
        exact iter4Seg_row hm ht hr i hi),
    ht.pairs]
  congr 1
  obtain rfl | rfl : x = 0 ∨ x = 1 := by omega
  · rfl
  · have := hse segs.length (Nat.lt_succ_self _)
    simp only [List.range'_one, List.flatMap_cons, List.flatMap_nil, List.append_nil, this.1,
      this.2, sRow, eRow, Nat.lt_irrefl, dite_false]
    rw [← hr.1, iter4Seg_term 1 rows g rows.length (Nat.le_refl _) (Nat.lt_succ_self _)]
    rfl

/-- `Cmap4::map_codepoint` on a table compiled from a valid segmentation answers exactly the pairs the
iterator lists: the mapping, and glyph 0 for U+FFFF when there is a terminating row -/
theorem map4_ofRowsX_iff {x : Nat} (hx : x ≤ 1) {cp gid : Nat → Nat} {n : Nat} {segs : List Seg}
    {rows : List Row} {g : List Nat} (hm : MapOkX x cp gid n) (ht : SegsTile cp gid 0 n segs)
    (hr : RowsMatchX x cp gid segs rows g) (c v : Nat) :
    map4 (Cmap4.ofRowsX x rows g) c = some v ↔
      (∃ k, k < n ∧ cp k = c ∧ gid k = v) ∨ (x = 1 ∧ c = 0xFFFF ∧ v = 0) := by
  rw [← iter4_mem_iff_map4 _ (ofRowsX_wf4 hx hm ht hr).1, iter4_ofRowsX hx hm ht hr, List.mem_append,
    mem_pairsFrom, List.mem_replicate, Prod.mk.injEq]
  refine or_congr Iff.rfl ⟨fun h => ⟨by omega, h.2⟩, fun h => ⟨by omega, h.2⟩⟩

end FontVerif.Cmap
