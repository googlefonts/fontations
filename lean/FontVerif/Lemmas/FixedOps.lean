/-
The 16.16 operators `Mul`, `Div` and `Fixed::mul_div` (Model/Fixed.lean), unfolded once.  `div` and `mul_div` work on
sign and magnitude: for all operands they are the rounded quotient of the magnitudes, signed, wrapped once (`*_mag`).
All three are the exact result rounded half away from zero, then wrapped to `i32` (`*_eq`).
-/
import FontVerif.Model.Fixed
import FontVerif.Lemmas.Base
import FontVerif.Lemmas.Round
namespace FontVerif

/-- `unsigned_abs` of an `i32`: the bound `2^31` is reached at `i32::MIN`. -/
theorem iabs_range {x : Int} (h : inI32 x) :
    0 ≤ iabs x ∧ iabs x ≤ 2147483648 ∧ (x ≠ 0 → 0 < iabs x) := by
  unfold inI32 at h; unfold iabs; split <;> omega

theorem iabs_le {x : Int} (h : inI32 x) : 0 ≤ iabs x ∧ iabs x ≤ 2147483648 :=
  ⟨(iabs_range h).1, (iabs_range h).2.1⟩

/-- `as u32 as i32`, negate with wrap: one wrap of the signed value -/
theorem wrap_signed (s : Bool) {q q' : Int} (h : q % 4294967296 = q' % 4294967296) :
    (if s then wrapI32 (-(wrapI32 q)) else wrapI32 q) = wrapI32 (if s then -q' else q') := by
  cases s
  · exact wrapI32_congr h
  · apply wrapI32_congr
    have := wrapI32_emod q
    simp only [if_true]
    omega

/-- adding `0x8000 - (ab < 0)` before the shift is rounding half away from zero. -/
theorem Fixed.mul_eq (a b : Int) : Fixed.mul a b = wrapI32 (roundHalfAway (a * b) 65536) := by
  unfold Fixed.mul roundHalfAway
  generalize a * b = p
  simp only []
  congr 1
  split <;> omega

theorem Fixed.mul_inI32 (a b : Int) : inI32 (Fixed.mul a b) := wrapI32_in _

/-- no range needed: the `u32` cast keeps the low 32 bits, which is all `wrapI32` reads. -/
theorem Fixed.div_mag (a b : Int) :
    Fixed.div a b = wrapI32
      (if (a < 0) != (b < 0)
       then -(if iabs b = 0 then 2147483647 else (iabs a * 65536 + iabs b / 2) / iabs b)
       else (if iabs b = 0 then 2147483647 else (iabs a * 65536 + iabs b / 2) / iabs b)) := by
  unfold Fixed.div
  simp only []
  apply wrap_signed
  split
  · rfl
  · unfold wrapU32; omega

theorem Fixed.div_eq (a : Int) {b : Int} (hb : b ≠ 0) :
    Fixed.div a b = wrapI32 (roundHalfAway (if 0 < b then a * 65536 else -(a * 65536)) (iabs b)) := by
  have hub : 0 < iabs b := by unfold iabs; split <;> omega
  have hua : 0 ≤ iabs a * 65536 := by unfold iabs; split <;> omega
  rw [Fixed.div_mag]
  simp only [if_neg (show ¬ iabs b = 0 by omega)]
  rw [signed_rdiv _ hua hub]
  congr 2
  unfold iabs
  by_cases h1 : a < 0 <;> by_cases h2 : b < 0 <;> simp [h1, h2] <;> omega

theorem Fixed.div_inI32 (a b : Int) : inI32 (Fixed.div a b) := Fixed.div_mag a b ▸ wrapI32_in _

theorem Fixed.mulDiv_mag {s a b : Int} (hs : inI32 s) (ha : inI32 a) (hb : inI32 b) :
    Fixed.mulDiv s a b = wrapI32
      (if ((s < 0) != (a < 0)) != (b < 0)
       then -(if iabs b > 0 then (iabs s * iabs a + iabs b / 2) / iabs b else 2147483647)
       else (if iabs b > 0 then (iabs s * iabs a + iabs b / 2) / iabs b else 2147483647)) := by
  have bm := mul_bound_nonneg (iabs_le hs) (iabs_le ha)
  have bb := iabs_le hb
  have w1 : wrapU64 (iabs s * iabs a) = iabs s * iabs a := by unfold wrapU64; omega
  have w2 : wrapU64 (iabs s * iabs a + iabs b / 2) = iabs s * iabs a + iabs b / 2 := by
    unfold wrapU64; omega
  unfold Fixed.mulDiv
  simp only [w1, w2]
  exact wrap_signed _ rfl

theorem Fixed.mulDiv_eq {s a b : Int} (hs : inI32 s) (ha : inI32 a) (hb : inI32 b) (hb0 : b ≠ 0) :
    Fixed.mulDiv s a b = wrapI32 (roundHalfAway (if 0 < b then s * a else -(s * a)) (iabs b)) := by
  have hub : 0 < iabs b := (iabs_range hb).2.2 hb0
  have hp : 0 ≤ iabs s * iabs a := Int.mul_nonneg (iabs_range hs).1 (iabs_range ha).1
  rw [Fixed.mulDiv_mag hs ha hb]
  simp only [if_pos (show iabs b > 0 from hub)]
  rw [signed_rdiv _ hp hub]
  congr 2
  unfold iabs
  by_cases h1 : s < 0 <;> by_cases h2 : a < 0 <;> by_cases h3 : b < 0 <;>
    simp [h1, h2, h3, Int.neg_mul, Int.mul_neg] <;> omega

/-- the cases the callers meet: non-negative operands, quotient in range. -/
theorem Fixed.mulDiv_nonneg {s a b : Int} (hs : 0 ≤ s) (ha : 0 ≤ a) (hb : 0 < b)
    (hs' : s < 2147483648) (ha' : a < 2147483648) (hb' : b < 2147483648)
    (h31 : (s * a + b / 2) / b < 2147483648) :
    Fixed.mulDiv s a b = (s * a + b / 2) / b := by
  have hq : 0 ≤ (s * a + b / 2) / b :=
    Int.ediv_nonneg (by have := Int.mul_nonneg hs ha; omega) (by omega)
  rw [Fixed.mulDiv_mag ⟨by omega, hs'⟩ ⟨by omega, ha'⟩ ⟨by omega, hb'⟩]
  simp only [iabs, if_neg (Int.not_lt.2 hs), if_neg (Int.not_lt.2 ha), if_neg (Int.not_lt.2 (Int.le_of_lt hb)),
    decide_eq_false (Int.not_lt.2 hs), decide_eq_false (Int.not_lt.2 ha),
    decide_eq_false (Int.not_lt.2 (Int.le_of_lt hb)), bne_self_eq_false, Bool.false_eq_true, if_false,
    gt_iff_lt, hb, if_true]
  exact wrapI32_of_in (by omega) h31

theorem Fixed.mulDiv_inI32 (s a b : Int) : inI32 (Fixed.mulDiv s a b) := by
  unfold Fixed.mulDiv; simp only []; split <;> exact wrapI32_in _

end FontVerif
