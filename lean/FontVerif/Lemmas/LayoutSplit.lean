/-
Helper lemmas for C16: `split_off_ppf2` (PairPos format 2) and `split_off_mark_pos` (MarkBasePos) answer
the lookup of the unsplit table restricted to their class range (`inRange`).  `covAt`: an array read through
a coverage table, the form in which the mark lookups are reasoned about (here and for the mark builders).
-/
import FontVerif.Lemmas.LayoutPair
import FontVerif.Lemmas.LayoutClassDef
namespace FontVerif.Layout

/-- `split_off_ppf2`'s class map for the piece `s..t` -/
def pieceClassMap (cov : Coverage) (cd : ClassDef) (s t : Nat) : List (Nat × Nat) :=
  cov.glyphs.filterMap (fun g =>
    let c := cd.get g
    if s ≤ c ∧ c < t then some (g, c - s) else none)

theorem mem_pieceClassMap (cov : Coverage) (cd : ClassDef) (s t : Nat) (p : Nat × Nat) :
    p ∈ pieceClassMap cov cd s t ↔ p.1 ∈ cov.glyphs ∧ s ≤ cd.get p.1 ∧ cd.get p.1 < t ∧ p.2 = cd.get p.1 - s := by
  unfold pieceClassMap
  simp only [List.mem_filterMap]
  constructor
  · rintro ⟨g, hg, h⟩
    by_cases hc : s ≤ cd.get g ∧ cd.get g < t
    · rw [if_pos hc, Option.some.injEq] at h
      subst h
      exact ⟨hg, hc.1, hc.2, rfl⟩
    · rw [if_neg hc] at h; cases h
  · rintro ⟨h1, h2, h3, h4⟩
    refine ⟨p.1, h1, ?_⟩
    simp only [h2, h3, and_self, ↓reduceIte]
    rw [← h4]

/-- the class map names every glyph at most once: the class it assigns in closed form -/
theorem assignedClass_pieceClassMap (cov : Coverage) (cd : ClassDef) (s t g : Nat) :
    assignedClass (pieceClassMap cov cd s t) g =
      if g ∈ cov.glyphs ∧ s ≤ cd.get g ∧ cd.get g < t then cd.get g - s else 0 := by
  by_cases h : g ∈ cov.glyphs ∧ s ≤ cd.get g ∧ cd.get g < t
  · rw [if_pos h]
    refine assignedClass_const (fun p hp hpg => ?_)
      ⟨(g, cd.get g - s), (mem_pieceClassMap ..).mpr ⟨h.1, h.2.1, h.2.2, rfl⟩, rfl⟩
    rw [((mem_pieceClassMap ..).mp hp).2.2.2, hpg]
  · rw [if_neg h]
    refine assignedClass_none fun p hp hpg => h ?_
    have := (mem_pieceClassMap ..).mp hp
    rw [hpg] at this
    exact ⟨this.1, this.2.1, this.2.2.1⟩

theorem mem_pieceGlyphs (cov : Coverage) (cd : ClassDef) (s t g : Nat) :
    g ∈ (pieceClassMap cov cd s t).map (·.1) ↔ g ∈ cov.glyphs ∧ s ≤ cd.get g ∧ cd.get g < t := by
  rw [List.mem_map]
  constructor
  · rintro ⟨p, hp, rfl⟩
    have := (mem_pieceClassMap ..).mp hp
    exact ⟨this.1, this.2.1, this.2.2.1⟩
  · rintro ⟨h1, h2, h3⟩
    exact ⟨(g, cd.get g - s), (mem_pieceClassMap ..).mpr ⟨h1, h2, h3, rfl⟩, rfl⟩

theorem splitOffPpf2_lookup {V : Type} (t : PairPos2 V) (hwf : t.cov.WF) {lo hi : Nat}
    (hlh : lo ≤ hi) :
    ∃ a, splitOffPpf2 t lo hi = some a ∧
      ∀ g1 g2, a.lookup g1 g2 = inRange (t.classDef1.get g1) lo hi (t.lookup g1 g2) := by
  refine ⟨⟨buildCoverage ((pieceClassMap t.cov t.classDef1 lo hi).map (·.1)),
    buildClassDef (pieceClassMap t.cov t.classDef1 lo hi), t.classDef2,
    (t.rows.drop lo).take (hi - lo)⟩, ?_, fun g1 g2 => ?_⟩
  · rw [splitOffPpf2, if_neg (by omega)]; rfl
  have hkeys := mem_pieceGlyphs t.cov t.classDef1 lo hi
  have hb : ∀ g ∈ (pieceClassMap t.cov t.classDef1 lo hi).map (·.1), g < 65536 :=
    fun g hg => Coverage.glyphs_bound hwf g ((hkeys g).mp hg).1
  simp only [PairPos2.lookup, inRange]
  by_cases hr : g1 ∈ t.cov.glyphs ∧ lo ≤ t.classDef1.get g1 ∧ t.classDef1.get g1 < hi
  · -- a glyph of the piece: covered in both, same row, same cell
    obtain ⟨k, hk⟩ := (buildCoverage_covers _ hb g1).mpr ((hkeys g1).mpr hr)
    obtain ⟨i, hi'⟩ := (Coverage.get_isSome_iff hwf g1).mpr hr.1
    rw [hk, hi', if_pos hr.2, buildClassDef_get, assignedClass_pieceClassMap, if_pos hr]
    simp only
    rw [getElem?_slice _ hr.2.1 hr.2.2]
  · rw [buildCoverage_get_none _ hb fun hm => hr ((hkeys g1).mp hm)]
    cases hg : t.cov.get g1 with
    | none => exact (ite_self _).symm
    | some i =>
      exact (if_neg fun h => hr ⟨(Coverage.get_isSome_iff hwf g1).mp ⟨i, hg⟩, h⟩).symm

theorem PairPos2.lookup_none_of_le {V : Type} (t : PairPos2 V) {g1 : Nat} (g2 : Nat)
    (h : t.rows.length ≤ t.classDef1.get g1) : t.lookup g1 g2 = none := by
  rw [PairPos2.lookup]
  cases t.cov.get g1 with
  | none => rfl
  | some i => simp only [List.getElem?_eq_none h]

theorem filterIdx_sublist {α : Type} (sel : Nat → Bool) : ∀ (xs : List α) (o : Nat),
    (filterIdx sel o xs).Sublist xs := by
  intro xs
  induction xs with
  | nil => intro o; exact List.Sublist.slnil
  | cons x xs ih =>
    intro o
    unfold filterIdx
    by_cases h : sel o = true
    · simp only [h, ↓reduceIte]; exact (ih (o + 1)).cons_cons x
    · simp only [h, Bool.false_eq_true, ↓reduceIte]; exact (ih (o + 1)).cons x

/-- filtering the coverage glyphs and a parallel array by the same index set keeps them aligned -/
theorem filterIdx_at {M : Type} (sel : Nat → Bool) : ∀ (gs : List Nat) (ms : List M) (o : Nat),
    gs.length = ms.length → gs.Pairwise (· ≠ ·) → ∀ g,
    (indexIn g (filterIdx sel o gs)).bind (fun k => (filterIdx sel o ms)[k]?) =
      (indexIn g gs).bind (fun i => if sel (o + i) then ms[i]? else none) := by
  intro gs
  induction gs with
  | nil => intro ms o _ _ g; rfl
  | cons x xs ih =>
    intro ms o hlen hpw g
    cases ms with
    | nil => cases hlen
    | cons m ms' =>
      rw [List.pairwise_cons] at hpw
      have ih' := ih ms' (o + 1) (Nat.succ.inj hlen) hpw.2 g
      simp only [Nat.add_assoc, Nat.add_comm 1] at ih'
      rw [filterIdx, filterIdx, indexIn]
      by_cases hx : x = g
      · rw [if_pos hx]
        by_cases ho : sel o = true
        · rw [if_pos ho, if_pos ho, indexIn, if_pos hx]; exact (if_pos ho).symm
        · rw [if_neg ho, if_neg ho, indexIn_none fun hm =>
            hpw.1 g ((filterIdx_sublist sel xs (o + 1)).mem hm) hx]
          exact (if_neg ho).symm
      · rw [if_neg hx, Option.bind_map]
        by_cases ho : sel o = true
        · rw [if_pos ho, if_pos ho, indexIn, if_neg hx, Option.bind_map]; exact ih'
        · rw [if_neg ho, if_neg ho]; exact ih'

/-- the entry that the array `arr`, indexed by coverage index, holds for glyph `g` -/
def covAt {α : Type} (c : Coverage) (arr : List α) (g : Nat) : Option α :=
  (c.get g).bind (fun i => arr[i]?)

theorem covAt_mem {α : Type} {c : Coverage} {arr : List α} {g : Nat} {x : α} (h : covAt c arr g = some x) :
    x ∈ arr := by
  obtain ⟨i, _, hi⟩ := Option.bind_eq_some_iff.mp h
  exact List.mem_of_getElem? hi

theorem covAt_map {α β : Type} (c : Coverage) (f : α → β) (arr : List α) (g : Nat) :
    covAt c (arr.map f) g = (covAt c arr g).map f := by
  unfold covAt
  cases c.get g with
  | none => rfl
  | some i => exact List.getElem?_map ..

/-- coverage table and array filtered by the same index set, the set given by a test on the entries -/
theorem covAt_filterIdx {α : Type} {c : Coverage} (hwf : c.WF) (arr : List α)
    (hlen : arr.length = c.glyphs.length) (sel : Nat → Bool) (P : α → Bool)
    (hsel : ∀ i, sel i = (arr[i]?).any P) (g : Nat) :
    covAt (buildCoverage (filterIdx sel 0 c.glyphs)) (filterIdx sel 0 arr) g = (covAt c arr g).filter P := by
  have hsub := filterIdx_sublist sel c.glyphs 0
  have hs := Coverage.glyphs_sorted hwf
  rw [covAt, buildCoverage_get _ fun g hg => Coverage.glyphs_bound hwf g (hsub.mem hg),
    sortDedup_of_sorted (hs.sublist hsub), filterIdx_at sel _ arr 0 hlen.symm (hs.imp Nat.ne_of_lt),
    covAt, Coverage.get_eq_indexIn hwf]
  cases indexIn g c.glyphs with
  | none => rfl
  | some i =>
    rw [Option.bind_some, Option.bind_some, Nat.zero_add, hsel i]
    cases arr[i]? <;> rfl

theorem MarkBase.lookup_eq {A : Type} (t : MarkBase A) (m b : Nat) :
    t.lookup m b =
      match covAt t.markCov t.marks m, covAt t.baseCov t.bases b with
      | some (cls, am), some row =>
        match row[cls]? with
        | some (some ab) => some (am, ab)
        | _ => none
      | _, _ => none := by
  unfold MarkBase.lookup covAt
  cases t.markCov.get m with
  | none => rfl
  | some mi =>
    cases t.baseCov.get b with
    | none => simp only [Option.bind_some, Option.bind_none]; cases t.marks[mi]? <;> rfl
    | some bi => rfl

/-- the class of the mark's record (0 when there is none: then nothing matches anyway) -/
def MarkBase.key {A : Type} (t : MarkBase A) (m : Nat) : Nat :=
  match covAt t.markCov t.marks m with
  | some rec => rec.1
  | none => 0

theorem MarkBase.lookup_none_of_le {A : Type} (t : MarkBase A)
    (hrows : ∀ row ∈ t.bases, row.length ≤ t.classCount) {m : Nat} (b : Nat)
    (h : t.classCount ≤ t.key m) : t.lookup m b = none := by
  revert h
  rw [MarkBase.key, MarkBase.lookup_eq]
  cases covAt t.markCov t.marks m with
  | none => intro _; rfl
  | some rec =>
    cases hb : covAt t.baseCov t.bases b with
    | none => intro _; rfl
    | some row =>
      intro h
      dsimp only at h ⊢
      rw [List.getElem?_eq_none (Nat.le_trans (hrows row (covAt_mem hb)) h)]

/-- a piece `[lo, hi)` of the mark classes: the marks of those classes keep their records, the base
records their columns -/
theorem splitOffMarkBase_lookup {A : Type} (t : MarkBase A) (hwf : t.markCov.WF)
    (hlen : t.marks.length = t.markCov.glyphs.length) {lo hi : Nat} (hlh : lo ≤ hi)
    (hhi : hi ≤ t.classCount) :
    ∃ a, splitOffMarkBase t lo hi = some a ∧
      ∀ m b, a.lookup m b = inRange (t.key m) lo hi (t.lookup m b) := by
  refine ⟨_, by rw [splitOffMarkBase, if_neg (Nat.not_lt.mpr hlh)], fun m b => ?_⟩
  rw [MarkBase.lookup_eq, MarkBase.lookup_eq, MarkBase.key, inRange]
  dsimp only
  rw [covAt_map, covAt_map, covAt_filterIdx hwf t.marks hlen (markSel t lo hi)
    (fun p => decide (lo ≤ p.1 ∧ p.1 < hi ∧ p.1 < t.classCount))
    (fun i => by rw [markSel]; cases t.marks[i]? <;> rfl)]
  cases covAt t.markCov t.marks m with
  | none => exact (ite_self _).symm
  | some rec =>
    obtain ⟨cls, am⟩ := rec
    rw [Option.filter_some]
    dsimp only
    by_cases hc : lo ≤ cls ∧ cls < hi
    · rw [if_pos (decide_eq_true ⟨hc.1, hc.2, Nat.lt_of_lt_of_le hc.2 hhi⟩), if_pos hc]
      cases covAt t.baseCov t.bases b with
      | none => rfl
      | some row =>
        dsimp only [Option.map_some]
        rw [getElem?_slice _ hc.1 hc.2]
    · rw [if_neg fun h => hc ⟨(of_decide_eq_true h).1, (of_decide_eq_true h).2.1⟩, if_neg hc]
      rfl

end FontVerif.Layout
