/- C14 / concrete BitSet::process: Steps 1-4 glued together.  The in-place algorithm (estimate,
compact, resize, backward merge, appended right pages) computes exactly the page-wise merge of
the two views, and re-establishes the representation invariant. -/
import FontVerif.Lemmas.IntSetConcStep3
import FontVerif.Lemmas.IntSetCompact
import FontVerif.Lemmas.IntSetConcOps
namespace FontVerif.IntSet

theorem length_resizeList {α : Type} (l : List α) (n : Nat) (d : α) : (resizeList l n d).length = n := by
  simp only [resizeList, List.length_append, List.length_take, List.length_replicate]; omega

theorem resizeList_self {α : Type} (l : List α) (n : Nat) (d : α) (h : l.length = n) :
    resizeList l n d = l := by
  subst h; simp [resizeList]

theorem getD_resizeList {α : Type} (l : List α) (n i : Nat) (d : α) (hi : i < n) :
    (resizeList l n d).getD i d = l.getD i d := by
  simp only [resizeList, List.getD_eq_getElem?_getD]
  by_cases h : i < l.length
  · rw [List.getElem?_append_left (by simp; omega)]
    simp [hi]
  · rw [List.getElem?_append_right (by simp; omega)]
    simp only [List.length_take, List.getElem?_replicate]
    rw [List.getElem?_eq_none (by omega)]
    split <;> simp

theorem take_resizeList {α : Type} (l : List α) (n k : Nat) (d : α) (hk : k ≤ n) (hl : k ≤ l.length) :
    (resizeList l n d).take k = l.take k := by
  simp only [resizeList]
  rw [List.take_append_of_le_length (by simp; omega), List.take_take, Nat.min_eq_left hk]

/-- resize, Steps 3 and 4 on a map `M` and pages `P` whose first `l` map entries are the left entries to merge,
re-pointed into `0..l`; `l ≤ count` because each of them produces a page of the merge -/
theorem process_core {cop : CPage → CPage → CPage} {ptl ptr : Bool} {o : CBitSet} {M : PMap}
    {P : List CPage} {l count : Nat} (hl : l ≤ M.length) (hf : S3Fix cop ptl ptr o (M.take l) P count)
    (hnd : ((M.take l).map (·.2)).Nodup) (hlt : ∀ e ∈ M.take l, e.2 < l) (lenB : Nat)
    (hB : o.pageMap.length = lenB) :
    let s3 := processStep3 cop ptl ptr o
      ⟨resizeList M count (0, 0), resizeList P count CPage.zero, l, lenB, count, l⟩
    let s4 := if ptl then processStep4Left s3 else s3
    let s5 := if ptr then processStep4Right o s4 else s4
    s5.pm.length = count ∧ s5.pages.length = count ∧
    cview s5.pm s5.pages = cmerge cop ptl ptr (cview (M.take l) P) (cview o.pageMap o.pages) ∧
    (s5.pm.map (·.2)).Nodup ∧ ∀ e ∈ s5.pm, e.2 < count := by
  intro s3 s4 s5
  have hLl : (M.take l).length = l := by rw [List.length_take]; omega
  have hlc : l ≤ count := by
    have := hf.room (Cut.init _ _) (Nat.le_refl _)
    rw [hLl] at this; omega
  have hcv : cview (M.take l) (resizeList P count CPage.zero) = cview (M.take l) P :=
    cview_congr _ _ _ (fun e he => getD_resizeList _ _ _ _ (by have := hlt e he; omega))
  have hf' : S3Fix cop ptl ptr o (M.take l) (resizeList P count CPage.zero) count :=
    ⟨hf.sL, hf.sB, by rw [hcv]; exact hf.total, hf.matched⟩
  have hinit : S3Inv cop ptl ptr o (M.take l) (resizeList P count CPage.zero) count
      ⟨resizeList M count (0, 0), resizeList P count CPage.zero, (M.take l).length, lenB, count,
        (M.take l).length⟩ := by
    have hd : (resizeList M count (0, 0)).drop count = [] :=
      List.drop_eq_nil_of_le (by rw [length_resizeList]; exact Nat.le_refl _)
    refine ⟨length_resizeList _ _ _, length_resizeList _ _ _, Nat.le_refl _, by simp [hB], ?_, fun _ _ => rfl,
      Nat.add_comm _ _, Nat.le_refl _, ?_, ?_, ?_, hB ▸ Cut.init (M.take l) o.pageMap⟩
    · simp only [List.take_length]; rw [hLl, take_resizeList _ _ _ _ hlc hl]
    · simp only [List.drop_length, ← hB, hd]
      simp [cview, cmerge]
    · simp only [List.take_length, hd, List.append_nil]; exact hnd
    · simp only [List.take_length, hd, List.append_nil]; rw [hLl]; exact hlt
  rw [hLl] at hinit
  obtain ⟨h3, h30⟩ := step3_inv hf' _ hinit
  have h4 : S3Inv cop ptl ptr o (M.take l) (resizeList P count CPage.zero) count s4 ∧ s4.idxA = 0 := by
    show S3Inv _ _ _ _ _ _ _ (if ptl then processStep4Left s3 else s3) ∧
      (if ptl then processStep4Left s3 else s3).idxA = 0
    by_cases hp : ptl = true
    · rw [if_pos hp]
      exact step4Left_inv hf' _ h3 h30
    · rw [if_neg hp]
      exact ⟨h3, h3.idxA_zero_of_nptl hf' (by simpa using hp) h30⟩
  have h5 : S3Inv cop ptl ptr o (M.take l) (resizeList P count CPage.zero) count s5 ∧ s5.idxA = 0 ∧
      (ptr = true → s5.idxB = 0) := by
    show S3Inv _ _ _ _ _ _ _ (if ptr then processStep4Right o s4 else s4) ∧
      (if ptr then processStep4Right o s4 else s4).idxA = 0 ∧
      (ptr = true → (if ptr then processStep4Right o s4 else s4).idxB = 0)
    by_cases hp : ptr = true
    · rw [if_pos hp]
      have := step4Right_inv hf' hp _ h4.1 h4.2
      exact ⟨this.1, this.2.1, fun _ => this.2.2⟩
    · rw [if_neg hp]
      exact ⟨h4.1, h4.2, fun h => absurd h hp⟩
  rw [← hcv]
  exact h5.1.final hf' h5.2.1 h5.2.2

theorem process_finish {cop op} (hr : PageOpRefines cop op) (ptl ptr : Bool) (va vb : CView)
    (hsa : (va.map (·.1)).Pairwise (· < ·)) (hsb : (vb.map (·.1)).Pairwise (· < ·))
    (hoa : ∀ kp ∈ va, CPageOk kp.2) (hob : ∀ kp ∈ vb, CPageOk kp.2)
    (pm : PMap) (pages : List CPage) (count : Nat) (h1 : pm.length = count) (h2 : pages.length = count)
    (hv : cview pm pages = cmerge cop ptl ptr va vb) (hnd : (pm.map (·.2)).Nodup)
    (hlt : ∀ e ∈ pm, e.2 < count) : CInvS pm pages := by
  refine ⟨by omega, ?_, hnd, fun e he => by rw [h2]; exact hlt e he, ?_⟩
  · rw [← cview_keys pm pages, hv]
    exact cmerge_sorted cop ptl ptr va vb hsa hsb
  · intro p hp
    obtain ⟨k, hk, rfl⟩ := List.getElem_of_mem hp
    have hperm := nodup_perm_range count (pm.map (·.2)) hnd
      (fun i hi => by
        simp only [List.mem_map] at hi
        obtain ⟨e, he, rfl⟩ := hi
        exact hlt e he) (by simp [h1])
    have hmem : k ∈ pm.map (·.2) := hperm.mem_iff.2 (by simp; omega)
    simp only [List.mem_map] at hmem
    obtain ⟨e, he, hek⟩ := hmem
    have : (e.1, pages.getD e.2 CPage.zero) ∈ cview pm pages := mem_cview.2 ⟨e, he, rfl⟩
    rw [hv] at this
    have := cmerge_ok hr ptl ptr va vb hoa hob _ this
    simp only at this
    rwa [hek, getD_eq_getElem pages k CPage.zero hk] at this

theorem CBitSet.process_spec {cop op} (hr : PageOpRefines cop op) (s o : CBitSet) (hs : CInv s)
    (ho : CInv o) (hsz : s.pages.length < USIZE_MAX) :
    CInvS (s.process cop o).pageMap (s.process cop o).pages ∧
    cview (s.process cop o).pageMap (s.process cop o).pages =
      cmerge cop (cPassthrough cop).1 (cPassthrough cop).2 (cview s.pageMap s.pages)
        (cview o.pageMap o.pages) ∧
    (s.process cop o).len = cSumLens (s.process cop o).pages := by
  generalize hpt : cPassthrough cop = pt
  obtain ⟨ptl, ptr⟩ := pt
  have hsa : ((cview s.pageMap s.pages).map (·.1)).Pairwise (· < ·) := by rw [cview_keys]; exact hs.sorted
  have hsb : ((cview o.pageMap o.pages).map (·.1)).Pairwise (· < ·) := by rw [cview_keys]; exact ho.sorted
  have hoa := cview_ok hs.idxLt hs.pagesOk
  have hob := cview_ok ho.idxLt ho.pagesOk
  have h1 := step1_spec cop s.pages o.pages ptl ptr o.pageMap s.pages.length o.pages.length ho.lenEq
    s.pageMap 0 0 0 0 hs.lenEq (Nat.le_refl 0)
  simp only [List.drop_zero, List.take_zero, List.nil_append, Nat.zero_add] at h1
  obtain ⟨h1len, h1cnt, h1t, h1f⟩ := h1
  unfold CBitSet.process
  simp only [hpt]
  generalize hr1 : processStep1 ptl ptr o.pageMap s.pages.length o.pages.length s.pageMap 0 0 0 0 = r1 at *
  generalize hcount : r1.count + (if ptl = true then s.pages.length - r1.idxA else 0) +
    (if ptr = true then o.pages.length - r1.idxB else 0) = count at *
  cases ptl with
  | true =>
    have hpm1 : r1.pm = s.pageMap := h1t rfl
    simp only [Bool.not_true, Bool.false_eq_true, if_false, if_true, hpm1]
    have htk : s.pageMap.take s.pages.length = s.pageMap := by rw [← hs.lenEq, List.take_length]
    have hcore := process_core (M := s.pageMap) (P := s.pages) (l := s.pages.length) (count := count)
      (Nat.le_of_eq hs.lenEq.symm)
      (by rw [htk]; exact ⟨hs.sorted, ho.sorted, h1cnt, fun h => by cases h⟩)
      (by rw [htk]; exact hs.idxNodup) (by rw [htk]; exact hs.idxLt) o.pages.length ho.lenEq
    simp only [if_true, htk] at hcore
    obtain ⟨c1, c2, c3, c4, c5⟩ := hcore
    rw [resizeList_self _ _ _ c1, resizeList_self _ _ _ c2]
    exact ⟨process_finish hr true ptr _ _ hsa hsb hoa hob _ _ count c1 c2 c3 c4 c5, c3, trivial⟩
  | false =>
    obtain ⟨h1take, h1w⟩ := h1f rfl
    simp only [Bool.not_false, if_true, Bool.false_eq_true, if_false]
    have hKsub := keptLeft_sublist s.pageMap o.pageMap
    have hwle : r1.writeIdx ≤ r1.pm.length := by
      rw [h1len, h1w, ← hs.lenEq]; exact hKsub.length_le
    have hcs := compact_spec r1.pm s.pages r1.writeIdx hwle (by rw [h1len] at hwle; omega)
      (by rw [h1take]; exact (hKsub.map _).nodup hs.idxNodup)
      (by rw [h1take]; intro e he; exact hs.idxLt e (hKsub.subset he))
    simp only at hcs
    generalize hcmp : compact r1.pm s.pages r1.writeIdx = c at *
    obtain ⟨hc1, hc2, hc3, hc4, hc5, hc6⟩ := hcs
    have hLlen : (c.2.take r1.writeIdx).length = r1.writeIdx := by
      rw [List.length_take, hc2]; omega
    -- the kept entries after compaction denote the same pages
    have hKv : cview (c.2.take r1.writeIdx) c.1 = cview (keptLeft s.pageMap o.pageMap) s.pages := by
      rw [← h1take]
      apply cview_ext _ _ _ _ (by rw [hLlen, List.length_take]; omega)
      intro i hi
      rw [hLlen] at hi
      rw [getD_take _ _ hi, getD_take _ _ hi]
      exact hc3 i hi
    have hKkeys : (c.2.take r1.writeIdx).map (·.1) = (keptLeft s.pageMap o.pageMap).map (·.1) := by
      rw [← cview_keys _ c.1, hKv, cview_keys]
    have hmerge : cmerge cop false ptr (cview (c.2.take r1.writeIdx) c.1) (cview o.pageMap o.pages) =
        cmerge cop false ptr (cview s.pageMap s.pages) (cview o.pageMap o.pages) := by
      rw [hKv, ← cmerge_kept cop ptr s.pageMap o.pageMap s.pages o.pages hs.sorted]
    have hcore := process_core (M := c.2) (P := c.1) (l := r1.writeIdx) (count := count)
      (by rw [hc2]; exact hwle)
      ⟨by rw [hKkeys]; exact List.Pairwise.sublist (hKsub.map _) hs.sorted, ho.sorted,
        by rw [hmerge]; exact h1cnt,
        fun _ k hk => (keptLeft_keys_sublist _ _).subset (hKkeys ▸ hk)⟩
      hc4 hc5 o.pages.length ho.lenEq
    simp only [Bool.false_eq_true, if_false] at hcore
    obtain ⟨c1, c2, c3, c4, c5⟩ := hcore
    rw [hmerge] at c3
    rw [resizeList_self _ _ _ c1, resizeList_self _ _ _ c2]
    exact ⟨process_finish hr false ptr _ _ hsa hsb hoa hob _ _ count c1 c2 c3 c4 c5, c3, trivial⟩

end FontVerif.IntSet
