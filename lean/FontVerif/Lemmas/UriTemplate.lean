/-
Lemmas for C19 (uri templates, Model/UriTemplate.lean): the state machine of `uri_templates.rs` as a
parser into output EVENTS (independent of the id), expansion = rendering of the events; rendering is
injective in the substituted strings when their lengths agree; base32hex and the `{id64}` value are
injective on byte strings of one length, and their lengths are given as functions of the byte length.
-/
import FontVerif.Model.UriTemplate
import FontVerif.Lemmas.Base
namespace FontVerif.UriTemplate

/-- what one step of the expander appends to the output -/
inductive Ev where
  /-- a byte copied verbatim (literal, `%`, hex digit of a `%XX` triplet) -/
  | raw (b : Nat)
  /-- a literal that is percent-encoded (`%XX`, upper case) -/
  | enc (b : Nat)
  | id
  | id64
  /-- `{d1}` … `{d4}` -/
  | digit (n : Nat)
  deriving DecidableEq, Repr

def Ev.out (a b : List Nat) : Ev → List Nat
  | .raw v => [v]
  | .enc v => percentEncoded v
  | .id => a
  | .id64 => b
  | .digit n => [idDigit a n]

def render (a b : List Nat) (evs : List Ev) : List Nat := evs.flatMap (Ev.out a b)

/-- `ParseStateMachine::take_input` with the output replaced by the events -/
def stepEv (st : ParseState × List Ev) (v : Nat) : Option (ParseState × List Ev) :=
  let (state, evs) := st
  match state with
  | .literal =>
    match byteInfo v with
    | .invalid => none
    | .percent => some (.pct false, evs ++ [.raw v])
    | .startExpression => some (.expr .begin, evs)
    | .copiedLiteral | .copiedLiteralHexDigit | .copiedLiteralUnreserved => some (.literal, evs ++ [.raw v])
    | .percentEncodedLiteral => some (.literal, evs ++ [.enc v])
  | .pct second =>
    match byteInfo v with
    | .copiedLiteralHexDigit => some (if second then .literal else .pct true, evs ++ [.raw v])
    | _ => none
  | .expr var =>
    match var, v with
    | .begin, 105 => some (.expr .i, evs)
    | .begin, 100 => some (.expr .d, evs)
    | .i, 100 => some (.expr .id, evs)
    | .id, 54 => some (.expr .id6, evs)
    | .id6, 52 => some (.expr .id64, evs)
    | .d, 49 => some (.expr (.dx 1), evs)
    | .d, 50 => some (.expr (.dx 2), evs)
    | .d, 51 => some (.expr (.dx 3), evs)
    | .d, 52 => some (.expr (.dx 4), evs)
    | .id, 125 => some (.literal, evs ++ [.id])
    | .id64, 125 => some (.literal, evs ++ [.id64])
    | .dx n, 125 => some (.literal, evs ++ [.digit n])
    | _, _ => none

def goEv : List Nat → ParseState × List Ev → Option (ParseState × List Ev)
  | [], st => some st
  | v :: vs, st => match stepEv st v with
    | none => none
    | some st' => goEv vs st'

/-- the template as a list of output events; `none` = `UriTemplateError` (a property of the template
alone) -/
def parseEvents (template : List Nat) : Option (List Ev) :=
  match goEv template (.literal, []) with
  | some (.literal, evs) => some evs
  | _ => none

theorem render_snoc (a b : List Nat) (evs : List Ev) (e : Ev) :
    render a b (evs ++ [e]) = render a b evs ++ e.out a b := by
  simp [render, List.flatMap_append]

theorem takeInput_eq_stepEv (a b : List Nat) (st : ParseState) (evs : List Ev) (v : Nat) :
    takeInput a b (st, render a b evs) v
      = (stepEv (st, evs) v).map (fun p => (p.1, render a b p.2)) := by
  unfold takeInput stepEv
  cases st with
  | literal =>
    simp only []
    cases byteInfo v <;> simp only [Option.map_some, Option.map_none, render_snoc, Ev.out]
  | pct second =>
    simp only []
    cases byteInfo v <;> simp only [Option.map_some, Option.map_none, render_snoc, Ev.out]
  | expr var =>
    simp only []
    split <;> simp only [Option.map_some, Option.map_none, render_snoc, Ev.out]

theorem go_eq_goEv (a b : List Nat) : ∀ (tpl : List Nat) (st : ParseState) (evs : List Ev),
    expandInner.go a b tpl (st, render a b evs)
      = (goEv tpl (st, evs)).map (fun p => (p.1, render a b p.2))
  | [], st, evs => by simp [expandInner.go, goEv]
  | v :: vs, st, evs => by
    rw [expandInner.go, goEv, takeInput_eq_stepEv]
    cases h : stepEv (st, evs) v with
    | none => simp
    | some p => simp only [Option.map_some]; exact go_eq_goEv a b vs p.1 p.2

theorem expandInner_eq (tpl a b : List Nat) :
    expandInner tpl a b = (parseEvents tpl).map (render a b) := by
  unfold expandInner parseEvents
  have := go_eq_goEv a b tpl .literal []
  simp only [render, List.flatMap_nil] at this
  rw [this]
  cases goEv tpl (.literal, []) with
  | none => rfl
  | some p =>
    obtain ⟨st, evs⟩ := p
    cases st <;> simp [render]

theorem ev_out_length (a1 b1 a2 b2 : List Nat) (ha : a1.length = a2.length) (hb : b1.length = b2.length)
    (e : Ev) : (e.out a1 b1).length = (e.out a2 b2).length := by
  cases e <;> simp [Ev.out, percentEncoded, ha, hb]

theorem render_inj (a1 b1 a2 b2 : List Nat) (ha : a1.length = a2.length) (hb : b1.length = b2.length) :
    ∀ evs : List Ev, render a1 b1 evs = render a2 b2 evs →
      (Ev.id ∈ evs → a1 = a2) ∧ (Ev.id64 ∈ evs → b1 = b2)
  | [], _ => ⟨fun h => (by cases h), fun h => (by cases h)⟩
  | e :: rest, h => by
    simp only [render, List.flatMap_cons] at h
    obtain ⟨h1, h2⟩ := List.append_inj h (ev_out_length a1 b1 a2 b2 ha hb e)
    obtain ⟨ih1, ih2⟩ := render_inj a1 b1 a2 b2 ha hb rest h2
    constructor
    · intro hm
      rcases List.mem_cons.1 hm with rfl | hm
      · simpa [Ev.out] using h1
      · exact ih1 hm
    · intro hm
      rcases List.mem_cons.1 hm with rfl | hm
      · simpa [Ev.out] using h1
      · exact ih2 hm

/-- length of a rendering: fixed part + one substitution length per `{id}` / `{id64}` -/
def fixedLen : List Ev → Nat
  | [] => 0
  | .raw _ :: r => 1 + fixedLen r
  | .enc _ :: r => 3 + fixedLen r
  | .digit _ :: r => 1 + fixedLen r
  | _ :: r => fixedLen r

theorem render_length (a b : List Nat) : ∀ evs : List Ev,
    (render a b evs).length
      = fixedLen evs + (evs.count .id) * a.length + (evs.count .id64) * b.length
  | [] => by simp [render, fixedLen]
  | e :: rest => by
    have ih := render_length a b rest
    simp only [render, List.flatMap_cons, List.length_append] at ih ⊢
    rw [ih]
    cases e <;> simp [Ev.out, percentEncoded, fixedLen, Nat.add_mul] <;> omega

theorem byteBits_length (b : Nat) : (byteBits b).length = 8 := rfl

theorem bitsVal_byteBits : ∀ b : Fin 256, bitsVal (byteBits b.val) = b.val := by decide +kernel

theorem byteBits_inj {b c : Nat} (hb : b < 256) (hc : c < 256) (h : byteBits b = byteBits c) : b = c := by
  have h1 := bitsVal_byteBits ⟨b, hb⟩
  have h2 := bitsVal_byteBits ⟨c, hc⟩
  simp only [] at h1 h2
  rw [← h1, ← h2, h]

theorem flatMap_byteBits_inj : ∀ (x y : List Nat), (∀ b ∈ x, b < 256) → (∀ b ∈ y, b < 256) →
    x.length = y.length → x.flatMap byteBits = y.flatMap byteBits → x = y
  | [], [], _, _, _, _ => rfl
  | [], _ :: _, _, _, hl, _ => by simp at hl
  | _ :: _, [], _, _, hl, _ => by simp at hl
  | b :: x, c :: y, hx, hy, hl, h => by
    simp only [List.flatMap_cons] at h
    obtain ⟨h1, h2⟩ := List.append_inj h (by simp [byteBits_length])
    have := byteBits_inj (hx b (List.mem_cons_self ..)) (hy c (List.mem_cons_self ..)) h1
    subst this
    congr 1
    exact flatMap_byteBits_inj x y (fun b hb => hx b (List.mem_cons_of_mem _ hb))
      (fun b hb => hy b (List.mem_cons_of_mem _ hb)) (by simpa using hl) h2

theorem flatMap_byteBits_length (x : List Nat) : (x.flatMap byteBits).length = 8 * x.length := by
  induction x with
  | nil => rfl
  | cons b x ih => simp [List.flatMap_cons, byteBits_length, ih]; omega


/-- a group of at most `n` bits zero-padded to `n`, as `chunkBits` forms it -/
def padTo (n : Nat) (g : List Bool) : List Bool := g ++ List.replicate (n - g.length) false

theorem padTo_length (n : Nat) (bs : List Bool) : (padTo n (bs.take n)).length = n := by
  simp [padTo, List.length_take]; omega

theorem chunk_inj {n : Nat} {ch : Nat → Nat}
    (hch : ∀ g h : List Bool, g.length = n → h.length = n → ch (bitsVal g) = ch (bitsVal h) → g = h) :
    ∀ (fuel : Nat) (x y : List Bool), x.length = y.length →
      (chunkBits n fuel x).map ch = (chunkBits n fuel y).map ch → x.length < fuel * n + 1 → x = y
  | 0, x, y, hl, _, hf => by
    have hx : x = [] := List.eq_nil_of_length_eq_zero (by omega)
    have hy : y = [] := List.eq_nil_of_length_eq_zero (by omega)
    rw [hx, hy]
  | fuel + 1, x, y, hl, h, hf => by
    unfold chunkBits at h
    by_cases hx : x = []
    · subst hx
      exact (List.eq_nil_of_length_eq_zero (by simpa using hl.symm)).symm
    · have hy : y ≠ [] := fun hy => hx (List.eq_nil_of_length_eq_zero (by simpa [hy] using hl))
      simp only [List.isEmpty_iff, hx, hy, if_false, List.map_cons, List.cons.injEq] at h
      obtain ⟨h1, h2⟩ := h
      have hg := hch _ _ (padTo_length n x) (padTo_length n y) h1
      have htake : x.take n = y.take n := (List.append_inj hg (by simp [List.length_take, hl])).1
      have hdrop := chunk_inj hch fuel (x.drop n) (y.drop n) (by simp [hl]) h2
        (by simp only [List.length_drop, Nat.add_mul] at hf ⊢; omega)
      rw [← List.take_append_drop n x, ← List.take_append_drop n y, htake, hdrop]

theorem chunk_length {n : Nat} (hn : 0 < n) : ∀ (fuel : Nat) (x : List Bool), x.length < fuel * n + 1 →
    (chunkBits n fuel x).length = (x.length + (n - 1)) / n
  | 0, x, hf => by
    have : x = [] := List.eq_nil_of_length_eq_zero (by omega)
    subst this
    simp [chunkBits, Nat.div_eq_of_lt (Nat.sub_lt hn Nat.one_pos)]
  | fuel + 1, x, hf => by
    unfold chunkBits
    by_cases hx : x = []
    · subst hx
      simp [Nat.div_eq_of_lt (Nat.sub_lt hn Nat.one_pos)]
    · have hpos : 0 < x.length := List.length_pos_iff.2 hx
      simp only [List.isEmpty_iff, hx, if_false, List.length_cons]
      rw [chunk_length hn fuel (x.drop n) (by simp only [List.length_drop, Nat.add_mul] at hf ⊢; omega),
        List.length_drop]
      by_cases hle : n ≤ x.length
      · rw [← Nat.add_div_right _ hn]
        congr 1; omega
      · rw [Nat.div_eq_of_lt (by omega)]
        exact (Nat.div_eq_of_lt_le (by omega) (by omega)).symm

theorem bits5_char_inj : ∀ (g h : List Bool), g.length = 5 → h.length = 5 →
    base32hexChar (bitsVal g) = base32hexChar (bitsVal h) → g = h := by
  intro g h hg hh
  match g, hg with
  | [a, b, c, d, e], _ =>
    match h, hh with
    | [a', b', c', d', e'], _ =>
      revert a b c d e a' b' c' d' e'
      decide +kernel

theorem base32hex_length (x : List Nat) : (base32hex x).length = (8 * x.length + 4) / 5 := by
  unfold base32hex
  simp only [List.length_map]
  rw [chunk_length (by decide) _ _ (by rw [flatMap_byteBits_length]; omega), flatMap_byteBits_length]

theorem base32hex_inj (x y : List Nat) (hx : ∀ b ∈ x, b < 256) (hy : ∀ b ∈ y, b < 256)
    (hl : x.length = y.length) (h : base32hex x = base32hex y) : x = y := by
  unfold base32hex at h
  simp only [] at h
  have hbl : (x.flatMap byteBits).length = (y.flatMap byteBits).length := by
    rw [flatMap_byteBits_length, flatMap_byteBits_length, hl]
  rw [← hbl] at h
  exact flatMap_byteBits_inj x y hx hy hl (chunk_inj bits5_char_inj _ _ _ hbl h (by omega))


/-- what `expand_template` does to each byte of the base64url string -/
def pe64 (b : Nat) : List Nat :=
  match byteInfo b with
  | .copiedLiteralUnreserved | .copiedLiteralHexDigit => [b]
  | _ => percentEncoded b

/-- the `{id64}` value for id bytes `x` -/
def id64Of (x : List Nat) : List Nat := (base64url x).flatMap pe64

theorem bits6_char_inj : ∀ (g h : List Bool), g.length = 6 → h.length = 6 →
    base64urlChar (bitsVal g) = base64urlChar (bitsVal h) → g = h := by
  intro g h hg hh
  match g, hg with
  | [a, b, c, d, e, f], _ =>
    match h, hh with
    | [a', b', c', d', e', f'], _ =>
      revert a b c d e f a' b' c' d' e' f'
      decide +kernel

theorem bits6_char_pe : ∀ (g : List Bool), g.length = 6 →
    pe64 (base64urlChar (bitsVal g)) = [base64urlChar (bitsVal g)] ∧ base64urlChar (bitsVal g) ≠ 37 := by
  intro g hg
  match g, hg with
  | [a, b, c, d, e, f], _ => revert a b c d e f; decide +kernel

theorem pe64_pad : pe64 61 = [37, 51, 68] := by decide

theorem chunk6_pe : ∀ (fuel : Nat) (x : List Bool),
    ((chunkBits 6 fuel x).map base64urlChar).flatMap pe64 = (chunkBits 6 fuel x).map base64urlChar
  | 0, x => by simp [chunkBits]
  | fuel + 1, x => by
    unfold chunkBits
    by_cases hx : x = []
    · subst hx; simp
    · simp only [List.isEmpty_iff, hx, if_false, List.map_cons, List.flatMap_cons]
      have := (bits6_char_pe _ (padTo_length 6 x)).1
      simp only [padTo] at this
      rw [this, chunk6_pe fuel (x.drop 6)]
      rfl

theorem flatMap_pad (k : Nat) : (List.replicate k 61).flatMap pe64 = (List.replicate k [37, 51, 68]).flatten := by
  induction k with
  | zero => rfl
  | succ k ih => simp [List.replicate_succ, pe64_pad, ih]

/-- data characters, then three characters per `=` of the padding -/
theorem id64Of_length (x : List Nat) : (id64Of x).length =
    (8 * x.length + 5) / 6 + (4 - (8 * x.length + 5) / 6 % 4) % 4 * 3 := by
  unfold id64Of base64url
  simp only [List.flatMap_append, chunk6_pe, flatMap_pad, List.length_append, List.length_map,
    List.length_flatten, List.map_replicate, List.sum_replicate_nat, List.length_cons, List.length_nil]
  rw [chunk_length (by decide) _ _ (by omega), flatMap_byteBits_length]

theorem id64Of_inj (x y : List Nat) (hx : ∀ b ∈ x, b < 256) (hy : ∀ b ∈ y, b < 256)
    (hl : x.length = y.length) (h : id64Of x = id64Of y) : x = y := by
  unfold id64Of base64url at h
  simp only [List.flatMap_append, chunk6_pe, flatMap_pad] at h
  have hbl : (x.flatMap byteBits).length = (y.flatMap byteBits).length := by
    rw [flatMap_byteBits_length, flatMap_byteBits_length, hl]
  rw [← hbl] at h
  have hlen : ((chunkBits 6 ((x.flatMap byteBits).length + 1) (x.flatMap byteBits)).map base64urlChar).length
      = ((chunkBits 6 ((x.flatMap byteBits).length + 1) (y.flatMap byteBits)).map base64urlChar).length := by
    simp only [List.length_map]
    rw [chunk_length (by decide) _ _ (by omega), chunk_length (by decide) _ _ (by omega), hbl]
  have := (List.append_inj h hlen).1
  exact flatMap_byteBits_inj x y hx hy hl (chunk_inj bits6_char_inj _ _ _ hbl this (by omega))


theorem idBytes_num_value (n : Nat) (hn : n < 4294967296) :
    beValue (idBytes (.num n)) = n ∧ ∀ b ∈ idBytes (.num n), b < 256 := by
  unfold idBytes
  refine ⟨?_, fun b hb => ?_⟩
  · rw [beValue_drop_zeros _ _ (Nat.min_le_left _ _)]
    exact beValue_beBytes 4 n hn
  · exact mem_beBytes_lt (List.mem_of_mem_drop hb)

end FontVerif.UriTemplate
