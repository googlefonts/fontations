/-
C08, format 4 end to end: from a mapping (list of pairs) to the index view `cpAt` / `gidAt` the format-4 lemmas speak
of (`mapOkX_list`, `mem_iff_index_list`; the BMP prefix of an in-domain mapping), and `create_format_4` as a whole:
when it succeeds, what the table it returns enumerates and answers.
-/
import FontVerif.Model.Cmap
import FontVerif.Lemmas.Cmap4
import FontVerif.Lemmas.Cmap4Seg
import FontVerif.Lemmas.Cmap4Iter
namespace FontVerif.Cmap

theorem takeWhile_getElem? {α : Type} (p : α → Bool) (l : List α) (k : Nat)
    (h : k < (l.takeWhile p).length) : (l.takeWhile p)[k]? = l[k]? := by
  have hp := List.takeWhile_prefix p (l := l)
  rw [List.getElem?_eq_getElem h, List.getElem?_eq_getElem (Nat.lt_of_lt_of_le h hp.length_le), hp.getElem h]

theorem bmpPrefix_getElem? (m : Mapping) (k : Nat) (hk : k < (bmpPrefix m).length) :
    (bmpPrefix m)[k]? = m[k]? ∧ k < m.length := by
  have h1 : (bmpPrefix m)[k]? = m[k]? := takeWhile_getElem? _ m k hk
  refine ⟨h1, ?_⟩
  rw [List.getElem?_eq_getElem hk] at h1
  rcases Nat.lt_or_ge k m.length with h | h
  · exact h
  · rw [List.getElem?_eq_none h] at h1; cases h1

theorem bmpPrefix_eq_filter (m : Mapping) (hasc : Ascending m) :
    bmpPrefix m = m.filter (fun p => decide (p.1 ≤ 0xFFFF)) := by
  unfold bmpPrefix
  induction m with
  | nil => rfl
  | cons h t ih =>
    have hp := List.pairwise_cons.1 hasc
    by_cases hh : h.1 ≤ 0xFFFF
    · simp only [List.takeWhile_cons, List.filter_cons, decide_eq_true_eq, hh, if_true]
      rw [ih hp.2]
    · simp only [List.takeWhile_cons, List.filter_cons, decide_eq_true_eq, hh, if_false]
      symm
      rw [List.filter_eq_nil_iff]
      intro x hx
      have := hp.1 x hx
      simp only [decide_eq_true_eq]
      omega

theorem mem_bmpPrefix (m : Mapping) (hasc : Ascending m) (x : Nat × Nat) :
    x ∈ bmpPrefix m ↔ x ∈ m ∧ x.1 ≤ 0xFFFF := by
  rw [bmpPrefix_eq_filter m hasc, List.mem_filter, decide_eq_true_eq]

theorem index_view_list (l : Mapping) (k : Nat) (hk : k < l.length) :
    cpAt l.toArray k = l[k].1 ∧ gidAt l.toArray k = l[k].2 := by
  simp [cpAt, gidAt, List.getElem?_eq_getElem hk]

theorem mem_iff_index_list (l : Mapping) (c v : Nat) :
    (c, v) ∈ l ↔ ∃ k, k < l.length ∧ cpAt l.toArray k = c ∧ gidAt l.toArray k = v := by
  constructor
  · intro h
    obtain ⟨k, hk, hk2⟩ := List.getElem_of_mem h
    obtain ⟨e1, e2⟩ := index_view_list l k hk
    exact ⟨k, hk, by rw [e1, hk2], by rw [e2, hk2]⟩
  · rintro ⟨k, hk, h1, h2⟩
    obtain ⟨e1, e2⟩ := index_view_list l k hk
    rw [← show l[k] = (c, v) from Prod.ext (by rw [← e1, h1]) (by rw [← e2, h2])]
    exact List.getElem_mem hk

/-- the pair the index view shows at `k` is listed: what holds of every listed pair holds at every index -/
theorem index_view_mem (l : Mapping) (k : Nat) (hk : k < l.length) : (cpAt l.toArray k, gidAt l.toArray k) ∈ l :=
  (mem_iff_index_list l _ _).2 ⟨k, hk, rfl, rfl⟩

theorem mapOkX_list (x : Nat) (l : Mapping) (hasc : Ascending l) (hcp : ∀ p ∈ l, p.1 + x ≤ 0xFFFF)
    (hg : ∀ p ∈ l, 1 ≤ p.2 ∧ p.2 ≤ 0xFFFF) : MapOkX x (cpAt l.toArray) (gidAt l.toArray) l.length :=
  ⟨fun i j hij hj => by
      rw [(index_view_list l i (by omega)).1, (index_view_list l j hj).1]
      exact (List.pairwise_iff_getElem.1 hasc) i j (by omega) hj hij,
    fun k hk => by rw [(index_view_list l k hk).1]; exact hcp _ (List.getElem_mem hk),
    fun k hk => by rw [(index_view_list l k hk).2]; exact hg _ (List.getElem_mem hk)⟩

theorem prefix_agree (m : Mapping) (k : Nat) (hk : k < (bmpPrefix m).length) :
    cpAt (bmpPrefix m).toArray k = cpAt m.toArray k ∧ gidAt (bmpPrefix m).toArray k = gidAt m.toArray k := by
  obtain ⟨h1, _⟩ := bmpPrefix_getElem? m k hk
  simp [cpAt, gidAt, h1]

/-- the index view of an in-domain mapping: `cpAt`/`gidAt` of the full array restricted to the
length of the BMP prefix -/
theorem mapOk_of_inDomain (m : Mapping) (hd : InDomain m) :
    MapOkX 1 (cpAt m.toArray) (gidAt m.toArray) (bmpPrefix m).length := by
  have hin : ∀ p ∈ bmpPrefix m, p ∈ m ∧ p.1 ≤ 0xFFFF := fun p hp => (mem_bmpPrefix m hd.asc p).1 hp
  refine MapOkX.congr (fun k hk => prefix_agree m k hk) (mapOkX_list 1 (bmpPrefix m) ?_ ?_ ?_)
  · exact hd.asc.sublist (List.takeWhile_sublist _)
  · intro p hp; have := (hd.cp p (hin p hp).1).2; have := (hin p hp).2; omega
  · intro p hp; exact hd.gid p (hin p hp).1

theorem mem_iff_index (m : Mapping) (hd : InDomain m) (c v : Nat) :
    ((c, v) ∈ m ∧ c ≤ 0xFFFF) ↔
      ∃ k, k < (bmpPrefix m).length ∧ cpAt m.toArray k = c ∧ gidAt m.toArray k = v := by
  rw [← mem_bmpPrefix m hd.asc (c, v), mem_iff_index_list (bmpPrefix m)]
  exact exists_congr fun k => and_congr_right fun hk => by
    rw [(prefix_agree m k hk).1, (prefix_agree m k hk).2]

/-- `Format4SegmentComputer::new(mappings).compute()` is a valid segmentation of the BMP part
(stated over the full array, as `create_format_4` indexes it) -/
theorem segments_tile (m : Mapping) :
    SegsTile (cpAt m.toArray) (gidAt m.toArray) 0 (bmpPrefix m).length (segments m) := by
  have h := computeSegs_tile (bmpPrefix m).toArray
  rw [List.size_toArray] at h
  exact SegsTile.congr (fun k hk => prefix_agree m k hk) h

/-- the guard of `create_format_4` against glyph ids above `u16` does not fire -/
theorem no_big_gid (m : Mapping) (hg : ∀ p ∈ m, p.2 ≤ 0xFFFF) :
    (m.any fun p => decide (p.2 > 0xFFFF)) = false := by
  rw [List.any_eq_false]
  intro p hp
  simpa using hg p hp

theorem encode4_rows (m : Mapping) (segs : List Seg) (hg : ∀ p ∈ m, p.2 ≤ 0xFFFF) (hne : segs ≠ []) :
    encode4 m segs = .trap ∨
    ∃ rows g, encode4 m segs = .ok (some (Cmap4.ofRows rows g)) ∧
      RowsMatchX 1 (cpAt m.toArray) (gidAt m.toArray) segs rows g := by
  unfold encode4
  have h1 := no_big_gid m hg
  have h2 : segs.isEmpty = false := by cases segs <;> simp_all
  simp only [h1, h2, Bool.false_eq_true, if_false]
  cases hr : encRows m.toArray (segs.length + 1) 0 0 segs with
  | none => exact Or.inl rfl
  | some rg =>
    obtain ⟨rows, g⟩ := rg
    refine Or.inr ⟨rows, g, rfl, ?_⟩
    obtain ⟨hl, hs⟩ := encRows_spec m.toArray (segs.length + 1) segs 0 0 rows g hr
    refine ⟨hl, fun j hj => ?_⟩
    obtain ⟨row, hrow, hspec⟩ := hs [] rfl j hj
    exact ⟨row, hrow, by simpa using hspec⟩

theorem encode4_some_rows (m : Mapping) (hd : InDomain m) (segs : List Seg) (t : Cmap4)
    (h : encode4 m segs = .ok (some t)) :
    ∃ rows g, t = Cmap4.ofRowsX 1 rows g ∧ RowsMatchX 1 (cpAt m.toArray) (gidAt m.toArray) segs rows g := by
  have hne : segs ≠ [] := by
    intro h0; subst h0
    unfold encode4 at h
    split at h
    · cases h
    · simp at h
  rcases encode4_rows m segs (fun p hp => (hd.gid p hp).2) hne with htrap | ⟨rows, g, hok, hr⟩
  · rw [htrap] at h; cases h
  · rw [hok] at h
    injection h with h
    injection h with h
    exact ⟨rows, g, h.symm.trans (ofRows_eq rows g), hr⟩

/-- number of mappings covered by a list of segments -/
def idsTotal : List Seg → Nat
  | [] => 0
  | s :: rest => (s.endIx + 1 - s.startIx) + idsTotal rest

theorem encRows_some (a : Array (Nat × Nat)) (nSeg : Nat) :
    ∀ (segs : List Seg) (i nIds : Nat), (nSeg - i + nIds + idsTotal segs) * 2 ≤ 65535 →
      ∃ rows g, encRows a nSeg i nIds segs = some (rows, g) ∧ g.length ≤ idsTotal segs := by
  intro segs
  induction segs with
  | nil => intro i nIds _; exact ⟨[], [], rfl, Nat.le_refl _⟩
  | cons s rest ih =>
    intro i nIds hb
    simp only [idsTotal] at hb
    unfold encRows
    cases hd : s.idDelta with
    | some d =>
      obtain ⟨rows, g, h1, h2⟩ := ih (i + 1) nIds (by omega)
      refine ⟨_, g, by simp only [h1]; rfl, ?_⟩
      simp only [idsTotal]; omega
    | none =>
      have hoff : ¬ ((nSeg - i + nIds) * 2 > 65535) := by omega
      simp only [hoff, if_false, List.length_map, List.length_range]
      obtain ⟨rows, g, h1, h2⟩ := ih (i + 1) (nIds + (s.endIx + 1 - s.startIx)) (by omega)
      refine ⟨_, _, by simp only [h1]; rfl, ?_⟩
      simp only [idsTotal, List.length_append, List.length_map, List.length_range]
      omega

theorem SegsTile.count {cp gid : Nat → Nat} : ∀ {segs : List Seg} {lo n : Nat}, SegsTile cp gid lo n segs →
    idsTotal segs = n - lo ∧ segs.length ≤ n - lo := by
  intro segs
  induction segs with
  | nil => intro lo n h; cases h; simp [idsTotal]
  | cons s rest ih =>
    intro lo n h
    obtain ⟨h1, h2, h3⟩ := h
    obtain ⟨i1, i2⟩ := ih h3
    have := h3.le
    have := h2.le
    simp only [idsTotal, List.length_cons]
    omega

theorem encode4_ok (m : Mapping) (segs : List Seg) (n : Nat) (hg : ∀ p ∈ m, p.2 ≤ 0xFFFF)
    (ht : SegsTile (cpAt m.toArray) (gidAt m.toArray) 0 n segs) (hn : n ≤ 6551) (hne : segs ≠ []) :
    ∃ t, encode4 m segs = .ok (some t) ∧ t.lengthFits = true := by
  obtain ⟨c1, c2⟩ := ht.count
  obtain ⟨rows, g, h1, h2⟩ := encRows_some m.toArray (segs.length + 1) segs 0 0 (by omega)
  obtain ⟨hl, _⟩ := encRows_spec m.toArray (segs.length + 1) segs 0 0 rows g h1
  unfold encode4
  have e1 := no_big_gid m hg
  have e2 : segs.isEmpty = false := by cases segs <;> simp_all
  simp only [e1, e2, Bool.false_eq_true, if_false, h1]
  refine ⟨_, rfl, ?_⟩
  simp [Cmap4.lengthFits, Cmap4.ofRows]
  omega

theorem pairsFrom_bmpPrefix (m : Mapping) :
    pairsFrom (cpAt m.toArray) (gidAt m.toArray) 0 (bmpPrefix m).length = bmpPrefix m := by
  apply List.ext_getElem
  · simp [pairsFrom]
  · intro k h1 h2
    obtain ⟨e1, e2⟩ := prefix_agree m k h2
    simp only [pairsFrom, List.getElem_map, List.getElem_range', Nat.zero_add, Nat.one_mul]
    rw [← e1, ← e2]
    simp [cpAt, gidAt, List.getElem?_eq_getElem h2]

theorem encode4_iter (m : Mapping) (hd : InDomain m) (segs : List Seg)
    (hv : SegsTile (cpAt m.toArray) (gidAt m.toArray) 0 (bmpPrefix m).length segs)
    (t : Cmap4) (h : encode4 m segs = .ok (some t)) :
    iter4 t = bmpPrefix m ++ [(0xFFFF, 0)] := by
  have hm := mapOk_of_inDomain m hd
  obtain ⟨rows, g, rfl, hr⟩ := encode4_some_rows m hd segs t h
  rw [iter4_ofRowsX (Nat.le_refl 1) hm hv hr, pairsFrom_bmpPrefix]
  rfl

theorem encode4_lookup (m : Mapping) (hd : InDomain m) (segs : List Seg)
    (hv : SegsTile (cpAt m.toArray) (gidAt m.toArray) 0 (bmpPrefix m).length segs)
    (t : Cmap4) (h : encode4 m segs = .ok (some t)) (c v : Nat) :
    map4 t c = some v ↔ ((c, v) ∈ m ∧ c ≤ 0xFFFF) ∨ (c = 0xFFFF ∧ v = 0) := by
  obtain ⟨rows, g, rfl, hr⟩ := encode4_some_rows m hd segs t h
  rw [map4_ofRowsX_iff (Nat.le_refl 1) (mapOk_of_inDomain m hd) hv hr, mem_iff_index m hd c v]
  exact or_congr Iff.rfl ⟨fun h => h.2, fun h => ⟨rfl, h⟩⟩

theorem createFormat4_none_iff (m : Mapping) (hd : InDomain m) :
    createFormat4 m = .ok none ↔ ∀ p ∈ m, p.1 > 0xFFFF := by
  have hsz : segments m = [] ↔ bmpPrefix m = [] := by
    unfold segments
    rw [computeSegs_nil_iff]
    simp
  have hpre : bmpPrefix m = [] ↔ ∀ p ∈ m, p.1 > 0xFFFF := by
    rw [bmpPrefix_eq_filter m hd.asc, List.filter_eq_nil_iff]
    exact forall₂_congr fun p _ => by rw [decide_eq_true_eq, Nat.not_le]
  rw [← hpre, ← hsz]
  constructor
  · intro h
    by_cases hne : segments m = []
    · exact hne
    · rcases encode4_rows m (segments m) (fun p hp => (hd.gid p hp).2) hne with htrap | ⟨rows, g, hok, _⟩
      · rw [createFormat4, htrap] at h; cases h
      · rw [createFormat4, hok] at h; cases h
  · intro h
    unfold createFormat4 encode4
    have e1 := no_big_gid m (fun p hp => (hd.gid p hp).2)
    simp [e1, h]

theorem createFormat4_ok (m : Mapping) (hd : InDomain m) (hne : bmpPrefix m ≠ [])
    (hn : (bmpPrefix m).length ≤ 6551) : ∃ t, createFormat4 m = .ok (some t) ∧ t.lengthFits = true := by
  have hsegs : segments m ≠ [] := by
    unfold segments
    rw [Ne, computeSegs_nil_iff]
    simpa using hne
  exact encode4_ok m (segments m) _ (fun p hp => (hd.gid p hp).2) (segments_tile m) hn hsegs

end FontVerif.Cmap
