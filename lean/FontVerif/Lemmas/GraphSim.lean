/-
Helper lemmas for C05 (Model/Graph.lean): the simulation of the input graph by the packed one. Transport of `CopyAt` and
`ObjWF` along a renaming `φ` (copy ↦ original) under which every object has the same bytes and the same link shapes;
ids that the graph does not mention (`Unused`); and the graph surgery (`duplicate_subgraph`, `isolate_subgraph_hb`)
maintains such a renaming (`SInv`).
-/
import FontVerif.Model.Graph
import FontVerif.Lemmas.GraphSer
import FontVerif.Lemmas.GraphSort
namespace FontVerif.Graph

theorem obj_insert (g g' : Graph) (k : Nat) (v : Obj) (hg : g'.objects = g.objects.insert k v) (x : Nat) :
    g'.obj x = if k = x then v else g.obj x := by
  simp only [Graph.obj, hg, Map.find?_insert]
  split <;> simp

/-- an object transformer that keeps the default object, so that it commutes with the lookup of a missing id -/
def LinkMap (f : Obj → Obj) : Prop := f default = default

theorem obj_modify (g g' : Graph) (k : Nat) (f : Obj → Obj) (hf : LinkMap f)
    (hg : g'.objects = Map.modify g.objects k f) (x : Nat) :
    g'.obj x = if x = k then f (g.obj x) else g.obj x := by
  simp only [Graph.obj, hg, Map.find?_modify]
  split
  · cases g.objects.find? x with
    | none => simp; exact hf.symm
    | some o => simp
  · rfl

theorem node_insert (g g' : Graph) (k : Nat) (v : Node) (hg : g'.nodes = g.nodes.insert k v) (x : Nat) :
    g'.node x = if k = x then v else g.node x := by
  simp only [Graph.node, hg, Map.find?_insert]
  split <;> simp

theorem node_congr (g g' : Graph) (h : g'.nodes = g.nodes) (id : Nat) : g'.node id = g.node id := by
  simp [Graph.node, h]

theorem node_parents_eq (g : Graph) (x : Nat) : (g.node x).parents = parentsOf g.nodes x := rfl

def fieldsOf (o : Obj) : List (Nat × Nat × Nat) := o.links.map (fun l => (l.pos, l.width, l.adj))

theorem fields_of_shape (o' o : Obj) (φ : Nat → Nat) (h : o'.links.map (linkShape φ) = o.links.map (linkShape id)) :
    fieldsOf o' = fieldsOf o := by
  have := congrArg (List.map (fun (s : Nat × Nat × Nat × Nat) => (s.1, s.2.1, s.2.2.1))) h
  simpa [fieldsOf, linkShape, List.map_map, Function.comp_def] using this

theorem exists_of_map_eq {α β : Type} (f g : α → β) (L' L : List α) (h : L'.map f = L.map g) (l : α) (hl : l ∈ L) :
    ∃ l' ∈ L', f l' = g l :=
  List.mem_map.mp (h ▸ List.mem_map_of_mem hl)

theorem mem_fields (o' o : Obj) (h : fieldsOf o' = fieldsOf o) (l' : Link) (hl : l' ∈ o'.links) :
    ∃ l ∈ o.links, l.pos = l'.pos ∧ l.width = l'.width ∧ l.adj = l'.adj := by
  obtain ⟨l, hlm, he⟩ := exists_of_map_eq _ _ _ _ h.symm l' hl
  simp only [Prod.mk.injEq] at he
  exact ⟨l, hlm, he.1, he.2.1, he.2.2⟩

theorem objWF_len (o' o : Obj) (hb : o'.bytes.length = o.bytes.length) (hf : fieldsOf o' = fieldsOf o) (h : ObjWF o) :
    ObjWF o' := by
  constructor
  · intro l' hl'
    obtain ⟨l, hl, h1, h2, _⟩ := mem_fields o' o hf l' hl'
    have := h.1 l hl
    rw [h1, h2, ← hb] at this
    exact this
  · have hp : (fieldsOf o).Pairwise (fun a b => a.1 + a.2.1 ≤ b.1 ∨ b.1 + b.2.1 ≤ a.1) := by
      unfold fieldsOf
      rw [List.pairwise_map]
      exact h.2
    rw [← hf] at hp
    unfold fieldsOf at hp
    rw [List.pairwise_map] at hp
    exact hp

theorem objWF_shape (o' o : Obj) (hb : o'.bytes = o.bytes) (hf : fieldsOf o' = fieldsOf o) (h : ObjWF o) : ObjWF o' :=
  objWF_len o' o (congrArg List.length hb) hf h

theorem plainByte_shape (o' o : Obj) (hf : fieldsOf o' = fieldsOf o) (k : Nat) (h : PlainByte o' k) : PlainByte o k := by
  intro l hl
  obtain ⟨l', hl', h1, h2, _⟩ := mem_fields o o' hf.symm l hl
  have := h l' hl'
  rw [h1, h2] at this
  exact this

theorem copyAt_shape (out : List Nat) (hd : Nat) (o' o : Obj) (hb : o'.bytes = o.bytes) (hf : fieldsOf o' = fieldsOf o)
    (h : CopyAt out hd o') : CopyAt out hd o := by
  constructor
  · rw [← hb]; exact h.1
  · intro k hk hp
    rw [← hb] at hk ⊢
    exact h.2 k hk (plainByte_shape o o' hf.symm k hp)

theorem objWF_default : ObjWF (default : Obj) := by
  constructor
  · intro l hl; exact absurd hl List.not_mem_nil
  · exact List.Pairwise.nil

theorem objWF_obj (g : Graph) (hwf : ∀ id o, g.objects.find? id = some o → ObjWF o) (x : Nat) : ObjWF (g.obj x) := by
  unfold Graph.obj
  cases hf : g.objects.find? x with
  | none => exact objWF_default
  | some o => exact hwf x o hf

/-- `n` is neither the id of an object, nor the target of a link, nor a cached parent -/
def Unused (g : Graph) (n : Nat) : Prop :=
  g.objects.find? n = none ∧ (∀ x, ∀ l ∈ (g.obj x).links, l.target ≠ n) ∧
    (∀ x, ∀ p ∈ (g.node x).parents, p.1 ≠ n)

theorem unused_congr (g g' : Graph) (h : g'.objects = g.objects) (hn : g'.nodes = g.nodes) (n : Nat)
    (hu : Unused g n) : Unused g' n := by
  refine ⟨by rw [h]; exact hu.1, ?_, ?_⟩
  · intro x; rw [obj_congr g g' h]; exact hu.2.1 x
  · intro x; rw [node_congr g g' hn]; exact hu.2.2 x

theorem Annot.unused {g g' : Graph} (h : Annot g g') (n : Nat) (hu : Unused g n) : Unused g' n := by
  refine ⟨by rw [h.objects]; exact hu.1, fun x => by rw [h.obj]; exact hu.2.1 x, fun x p hp => ?_⟩
  rw [node_parents_eq, h.nodes.parents x] at hp
  exact hu.2.2 x p hp

theorem updateParents_unused (g : Graph) (n : Nat) (h : Unused g n) : Unused (updateParents g) n := by
  refine ⟨by rw [updateParents_objects]; exact h.1, fun x => by rw [updateParents_obj]; exact h.2.1 x, ?_⟩
  by_cases hs : g.parentsInvalid = true
  · intro x p hp
    rw [node_parents_eq, updateParents_parents g hs] at hp
    split at hp
    · -- a cached parent is the id of an object
      obtain ⟨kv, hkv, l, _, _, rfl⟩ := mem_cachedParents hp
      exact fun he => Map.mem_find?_isSome g.objects kv hkv (he ▸ h.1)
    · exact absurd hp List.not_mem_nil
  · unfold updateParents
    rw [if_pos (by simpa using hs)]
    exact h.2.2

theorem map_shape_congr (φ ψ : Nat → Nat) (ls : List Link) (h : ∀ l ∈ ls, φ l.target = ψ l.target) :
    ls.map (linkShape φ) = ls.map (linkShape ψ) := by
  apply List.map_congr_left
  intro l hl
  simp only [linkShape, h l hl]

theorem simulates_congr (g g' g0 : Graph) (φ : Nat → Nat) (h : g'.objects = g.objects)
    (hs : Simulates g g0 φ) : Simulates g' g0 φ := by
  intro x
  rw [obj_congr g g' h]
  exact hs x

def SameShape (φ : Nat → Nat) (o' o : Obj) : Prop :=
  o'.bytes = o.bytes ∧ o'.links.map (linkShape φ) = o.links.map (linkShape φ)

theorem simulates_of_sameShape (g g' g0 : Graph) (φ : Nat → Nat) (hs : Simulates g g0 φ)
    (h : ∀ x, SameShape φ (g'.obj x) (g.obj x)) : Simulates g' g0 φ := by
  intro x
  obtain ⟨hb, hl⟩ := h x
  obtain ⟨sb, sl⟩ := hs x
  exact ⟨hb.trans sb, hl.trans sl⟩

/-- invariant of the graph surgery: the current graph simulates the input graph `g0` under `φ`;
the ids still to be handed out (`s.fresh`) and the ones held by enclosing calls (`hold`) are
distinct and unused; `dupes` maps originals to copies that `φ` sends to the same place -/
structure SInv (g0 : Graph) (φ : Nat → Nat) (s : Surg) (hold : List Nat) : Prop where
  sim : Simulates s.g g0 φ
  nodup : (hold ++ s.fresh).Nodup
  unused : ∀ n ∈ hold ++ s.fresh, Unused s.g n
  dupes : ∀ k v, s.dupes.find? k = some v → k ∉ hold ++ s.fresh ∧ v ∉ hold ++ s.fresh ∧ φ v = φ k

/-- the invariant reads the graph through its objects and nodes, and the reserved ids as a set -/
theorem sinv_congr {g0 : Graph} {φ : Nat → Nat} {g g' : Graph} {d : Map Nat} {fr fr' hold hold' : List Nat}
    (h : SInv g0 φ ⟨g, d, fr⟩ hold) (ho : g'.objects = g.objects) (hn : g'.nodes = g.nodes)
    (hp : (hold' ++ fr').Perm (hold ++ fr)) : SInv g0 φ ⟨g', d, fr'⟩ hold' :=
  ⟨simulates_congr g g' g0 φ ho h.sim, hp.nodup_iff.mpr h.nodup,
    fun n hm => unused_congr g g' ho hn n (h.unused n (hp.mem_iff.mp hm)),
    fun k v hkv => ⟨fun hm => (h.dupes k v hkv).1 (hp.mem_iff.mp hm), fun hm => (h.dupes k v hkv).2.1 (hp.mem_iff.mp hm),
      (h.dupes k v hkv).2.2⟩⟩

theorem sinv_weaken_dupes (g0 : Graph) (φ : Nat → Nat) (g : Graph) (d : Map Nat) (fr hold : List Nat)
    (h : SInv g0 φ ⟨g, d, fr⟩ hold) : SInv g0 φ ⟨g, [], fr⟩ hold :=
  ⟨h.sim, h.nodup, h.unused, fun k v hkv => by simp [Map.find?] at hkv⟩

theorem sinv_updateParents (g0 : Graph) (φ : Nat → Nat) (g : Graph) (d : Map Nat) (fr hold : List Nat)
    (h : SInv g0 φ ⟨g, d, fr⟩ hold) : SInv g0 φ ⟨updateParents g, d, fr⟩ hold :=
  ⟨simulates_congr g _ g0 φ (updateParents_objects g) h.sim, h.nodup,
    fun n hn => updateParents_unused g n (h.unused n hn), h.dupes⟩

/-- a link transformer that keeps a link or re-targets it at the recorded copy of its target -/
def Retarget (dupes : Map Nat) (r : Link → Link) : Prop :=
  ∀ l, r l = l ∨ ∃ v, dupes.find? l.target = some v ∧ r l = { l with target := v }

/-- a re-targeted link under the invariant: `φ` sends the copy where it sends the original, and a copy is not reserved -/
theorem retarget_link {g0 : Graph} {φ : Nat → Nat} {s : Surg} {hold : List Nat} {r : Link → Link}
    (hr : Retarget s.dupes r) (hinv : SInv g0 φ s hold) (l : Link) :
    linkShape φ (r l) = linkShape φ l ∧ ∀ n ∈ hold ++ s.fresh, l.target ≠ n → (r l).target ≠ n := by
  rcases hr l with h | ⟨v, hv, h⟩ <;> rw [h]
  · exact ⟨rfl, fun _ _ hl => hl⟩
  · obtain ⟨_, hv2, hv3⟩ := hinv.dupes _ _ hv
    exact ⟨by simp only [linkShape, hv3], fun n hn _ (he : v = n) => hv2 (he ▸ hn)⟩

theorem sinv_modify (g0 : Graph) (φ : Nat → Nat) (g g' : Graph) (dupes : Map Nat) (fr hold : List Nat)
    (k : Nat) (r : Link → Link) (hr : Retarget dupes r)
    (hinv : SInv g0 φ ⟨g, dupes, fr⟩ hold)
    (ho : g'.objects = Map.modify g.objects k (fun o => { o with links := o.links.map r }))
    (hpar : ∀ x, (g'.node x).parents = (g.node x).parents) :
    SInv g0 φ ⟨g', dupes, fr⟩ hold := by
  have hobj := obj_modify g g' k _ (show LinkMap fun o : Obj => { o with links := o.links.map r } from rfl) ho
  have hlink := retarget_link (s := ⟨g, dupes, fr⟩) hr hinv
  refine ⟨simulates_of_sameShape g g' g0 φ hinv.sim fun x => ?_, hinv.nodup, fun n hn => ?_, hinv.dupes⟩
  · rw [hobj x]
    split
    · exact ⟨rfl, by rw [List.map_map]; exact List.map_congr_left fun l _ => (hlink l).1⟩
    · exact ⟨rfl, rfl⟩
  · obtain ⟨u1, u2, u3⟩ := hinv.unused n hn
    refine ⟨?_, fun x l hl => ?_, fun x p hp => u3 x p (hpar x ▸ hp)⟩
    · show g'.objects.find? n = none
      rw [ho, Map.find?_modify]
      split <;> simp [show g.objects.find? n = none from u1]
    · rw [hobj x] at hl
      split at hl
      · obtain ⟨l0, hl0, rfl⟩ := List.mem_map.mp hl
        exact (hlink l0).2 n hn (u2 x l0 hl0)
      · exact u2 x l hl

/-- the other edit of the surgery: a copy of the object at `k` is stored under the reserved id `n` (held by the caller,
so nothing points at it yet), `φ` sends `n` where it sends `k`, and `dupes` records the pair -/
theorem sinv_insert {g0 : Graph} {φ : Nat → Nat} {g g' : Graph} {dupes : Map Nat} {fr hold : List Nat} {n k : Nat}
    {o : Obj} {nd : Node} (hinv : SInv g0 φ ⟨g, dupes, fr⟩ (n :: hold)) (hk : k ∉ hold ++ fr)
    (hb : o.bytes = (g0.obj (φ k)).bytes) (hs : o.links.map (linkShape φ) = (g0.obj (φ k)).links.map (linkShape id))
    (ht : ∀ l ∈ o.links, l.target ∉ (n :: hold) ++ fr) (hpar : nd.parents = [])
    (ho : g'.objects = g.objects.insert n o) (hn : g'.nodes = g.nodes.insert n nd) :
    SInv g0 (fun x => if x = n then φ k else φ x) ⟨g', dupes.insert k n, fr⟩ hold := by
  have hobj := obj_insert g g' n o ho
  have hnR : n ∉ hold ++ fr := (List.nodup_cons.mp hinv.nodup).1
  have hup : ∀ m ∈ hold ++ fr, m ∈ (n :: hold) ++ fr := fun m hm => List.mem_cons_of_mem _ hm
  -- no link of the new graph points at a reserved id
  have htgt : ∀ m ∈ (n :: hold) ++ fr, ∀ x, ∀ l ∈ (g'.obj x).links, l.target ≠ m := by
    intro m hm x l hl he
    rw [hobj x] at hl
    split at hl
    · exact ht l hl (he ▸ hm)
    · exact (hinv.unused m hm).2.1 x l hl he
  constructor
  · intro x
    rw [map_shape_congr _ φ _ fun l hl => if_neg (htgt n List.mem_cons_self x l hl)]
    simp only [hobj x]
    by_cases hx : n = x
    · subst hx
      simp only [↓reduceIte]
      exact ⟨hb, hs⟩
    · simp only [if_neg hx, if_neg fun e : x = n => hx e.symm]
      exact hinv.sim x
  · exact (List.nodup_cons.mp hinv.nodup).2
  · intro m hm
    obtain ⟨u1, _, u3⟩ := hinv.unused m (hup m hm)
    refine ⟨?_, htgt m (hup m hm), fun x p hp => ?_⟩
    · show g'.objects.find? m = none
      rw [ho, Map.find?_insert, if_neg fun e : n = m => hnR (e ▸ hm)]
      exact u1
    · rw [node_insert g g' n nd hn x] at hp
      split at hp
      · rw [hpar] at hp; cases hp
      · exact u3 x p hp
  · intro a v hav
    replace hav : (dupes.insert k n).find? a = some v := hav
    rw [Map.find?_insert] at hav
    split at hav
    · rename_i hka
      cases hav
      subst hka
      exact ⟨hk, hnR, by simp only [↓reduceIte, ite_self]⟩
    · obtain ⟨h1, h2, h3⟩ := hinv.dupes a v hav
      refine ⟨fun hm => h1 (hup _ hm), fun hm => h2 (hup _ hm), ?_⟩
      rw [if_neg fun e : v = n => h2 (e ▸ List.mem_cons_self), if_neg fun e : a = n => h1 (e ▸ List.mem_cons_self)]
      exact h3

theorem retarget_remap (dupes : Map Nat) :
    Retarget dupes (fun l => match dupes.find? l.target with | some n => { l with target := n } | none => l) := by
  intro l
  cases h : dupes.find? l.target with
  | none => left; simp only [h]
  | some v => right; exact ⟨v, rfl, by simp only [h]⟩

theorem retarget_root (dupes : Map Nat) (root newId : Nat) (h : dupes.find? root = some newId) :
    Retarget dupes (fun l => if l.target = root ∧ l.width ≠ 2 then { l with target := newId } else l) := by
  intro l
  by_cases hc : l.target = root ∧ l.width ≠ 2
  · right
    refine ⟨newId, by rw [hc.1]; exact h, ?_⟩
    simp only [hc, ne_eq, not_false_eq_true, and_self, ↓reduceIte]
  · left
    simp only [hc, ↓reduceIte]

theorem foldl_sinv {α : Type} (g0 : Graph) (φ : Nat → Nat) (dupes : Map Nat) (fr hold : List Nat)
    (f : Graph → α → Graph) (xs : List α)
    (hf : ∀ g x, SInv g0 φ ⟨g, dupes, fr⟩ hold → SInv g0 φ ⟨f g x, dupes, fr⟩ hold ∧ (f g x).root = g.root)
    (g : Graph) (hinv : SInv g0 φ ⟨g, dupes, fr⟩ hold) :
    SInv g0 φ ⟨xs.foldl f g, dupes, fr⟩ hold ∧ (xs.foldl f g).root = g.root := by
  refine foldl_inv (fun g' => SInv g0 φ ⟨g', dupes, fr⟩ hold ∧ g'.root = g.root) f xs (fun g' x _ h => ?_) g ⟨hinv, rfl⟩
  exact ⟨(hf g' x h.1).1, (hf g' x h.1).2.trans h.2⟩

theorem remap_sinv (g0 : Graph) (φ : Nat → Nat) (dupes : Map Nat) (fr hold : List Nat) (sp : Nat) (g : Graph) (id : Nat)
    (hinv : SInv g0 φ ⟨g, dupes, fr⟩ hold) :
    SInv g0 φ ⟨{ g with nodes := Map.modify g.nodes id (fun n => { n with space := sp }),
                         objects := Map.modify g.objects id (fun o => { o with links := remapLinks dupes o.links }) },
      dupes, fr⟩ hold := by
  apply sinv_modify g0 φ g _ dupes fr hold id _ (retarget_remap dupes) hinv rfl
  intro x
  rw [node_parents_eq, node_parents_eq]
  exact parentsOf_modify g.nodes id (fun n => { n with space := sp }) (fun n => rfl) x

theorem repointParent_sinv (g0 : Graph) (φ : Nat → Nat) (dupes : Map Nat) (fr hold : List Nat)
    (root newId : Nat) (hd : dupes.find? root = some newId) (g : Graph) (p : Nat × Nat)
    (hinv : SInv g0 φ ⟨g, dupes, fr⟩ hold) :
    SInv g0 φ ⟨if p.2 ≠ 2 then
        { g with objects := Map.modify g.objects p.1 (fun o =>
            { o with links := o.links.map (fun l =>
                if l.target = root ∧ l.width ≠ 2 then { l with target := newId } else l) }) }
      else g, dupes, fr⟩ hold := by
  split
  · exact sinv_modify g0 φ g _ dupes fr hold p.1 _ (retarget_root dupes root newId hd) hinv rfl (fun x => rfl)
  · exact hinv

theorem repointRoot_sinv (g0 : Graph) (φ : Nat → Nat) (dupes : Map Nat) (fr hold : List Nat) (g : Graph) (root : Nat)
    (hinv : SInv g0 φ ⟨g, dupes, fr⟩ hold) :
    let g' : Graph := match dupes.find? root with
      | none => g
      | some newId =>
        ({ g with parentsInvalid := true } : Graph).node root |>.parents.foldl (fun (g : Graph) p =>
          if p.2 ≠ 2 then
            { g with objects := Map.modify g.objects p.1 (fun o =>
                { o with links := o.links.map (fun l =>
                    if l.target = root ∧ l.width ≠ 2 then { l with target := newId } else l) }) }
          else g) { g with parentsInvalid := true }
    SInv g0 φ ⟨g', dupes, fr⟩ hold ∧ g'.root = g.root := by
  cases hd : dupes.find? root with
  | none => exact ⟨hinv, rfl⟩
  | some newId =>
    have h0 : SInv g0 φ ⟨{ g with parentsInvalid := true }, dupes, fr⟩ hold :=
      sinv_congr hinv rfl rfl (List.Perm.refl _)
    exact foldl_sinv g0 φ dupes fr hold _ _
      (fun g p h => ⟨repointParent_sinv g0 φ dupes fr hold root newId hd g p h, by split <;> rfl⟩) _ h0

/-- one iteration of `for link in &mut obj.offsets` in `duplicate_subgraph` -/
def dupStep (fuel space : Nat) (acc : Option (List Link × Surg)) (l : Link) : Option (List Link × Surg) :=
  match acc with
  | none => none
  | some (ls, s) =>
    match duplicateSubgraph fuel l.target space s with
    | none => none
    | some (t, s) => some (ls ++ [{ l with target := t }], s)

def DupSpec (g0 : Graph) (fuel : Nat) : Prop :=
  ∀ (root space : Nat) (s : Surg) (hold : List Nat) (φ : Nat → Nat) (r : Nat) (s' : Surg),
    SInv g0 φ s hold → root ∉ hold ++ s.fresh →
    duplicateSubgraph fuel root space s = some (r, s') →
    ∃ φ', SInv g0 φ' s' hold ∧ s'.dupes.find? root = some r ∧ s'.fresh <:+ s.fresh ∧
      (∀ x, x ∉ s.fresh → φ' x = φ x) ∧ s'.g.root = s.g.root

theorem suffix_notMem {hold a b : List Nat} {x : Nat} (h : a <:+ b) (hx : x ∉ hold ++ b) : x ∉ hold ++ a := by
  intro hm
  apply hx
  rcases List.mem_append.mp hm with hm | hm
  · exact List.mem_append_left _ hm
  · exact List.mem_append_right _ (h.subset hm)

theorem dupFold_spec (g0 : Graph) (fuel space : Nat) (ih : DupSpec g0 fuel)
    (links : List Link) (ls : List Link) (s : Surg) (hold : List Nat) (φ : Nat → Nat)
    (ls' : List Link) (s' : Surg)
    (hinv : SInv g0 φ s hold) (ht : ∀ l ∈ links, l.target ∉ hold ++ s.fresh)
    (h : links.foldl (dupStep fuel space) (some (ls, s)) = some (ls', s')) :
    ∃ φ' new, SInv g0 φ' s' hold ∧ s'.fresh <:+ s.fresh ∧ (∀ x, x ∉ s.fresh → φ' x = φ x) ∧
      s'.g.root = s.g.root ∧ ls' = ls ++ new ∧
      new.map (linkShape φ') = links.map (linkShape φ) ∧
      (∀ l ∈ new, l.target ∉ hold ++ s'.fresh) := by
  induction links generalizing ls s φ with
  | nil =>
    simp only [List.foldl_nil, Option.some.injEq, Prod.mk.injEq] at h
    obtain ⟨rfl, rfl⟩ := h
    exact ⟨φ, [], hinv, List.suffix_refl _, fun _ _ => rfl, rfl, by simp, rfl, by simp⟩
  | cons l rest ihl =>
    simp only [List.foldl_cons] at h
    cases hd : duplicateSubgraph fuel l.target space s with
    | none =>
      simp only [dupStep, hd] at h
      rw [foldl_none _ (fun _ => rfl)] at h
      simp at h
    | some res =>
      obtain ⟨t, s1⟩ := res
      simp only [dupStep, hd] at h
      have htl := ht l List.mem_cons_self
      obtain ⟨φ1, hinv1, hfind1, hsuf1, hag1, hroot1⟩ := ih l.target space s hold φ t s1 hinv htl hd
      have ht1 : ∀ l' ∈ rest, l'.target ∉ hold ++ s1.fresh :=
        fun l' hl' => suffix_notMem hsuf1 (ht l' (List.mem_cons_of_mem _ hl'))
      obtain ⟨φ', new, hinv', hsuf', hag', hroot', hls', hshape, hnew⟩ :=
        ihl (ls ++ [{ l with target := t }]) s1 φ1 hinv1 ht1 h
      have hd1 := hinv1.dupes l.target t hfind1
      have hnotfresh : ∀ x, x ∉ hold ++ s.fresh → x ∉ s.fresh := fun x hx hm => hx (List.mem_append_right _ hm)
      have hnotfresh1 : ∀ x, x ∉ hold ++ s1.fresh → x ∉ s1.fresh := fun x hx hm => hx (List.mem_append_right _ hm)
      refine ⟨φ', { l with target := t } :: new, hinv', hsuf'.trans hsuf1, ?_, hroot'.trans hroot1, ?_, ?_, ?_⟩
      · intro x hx
        rw [hag' x (fun hm => hx (hsuf1.subset hm)), hag1 x hx]
      · rw [hls']; simp
      · simp only [List.map_cons, List.cons.injEq]
        refine ⟨?_, ?_⟩
        · simp only [linkShape, Prod.mk.injEq, true_and]
          rw [hag' t (hnotfresh1 t hd1.2.1), hd1.2.2, hag1 _ (hnotfresh _ htl)]
        · rw [hshape]
          apply map_shape_congr
          intro l' hl'
          exact hag1 _ (hnotfresh _ (ht l' (List.mem_cons_of_mem _ hl')))
      · intro l' hl'
        rcases List.mem_cons.mp hl' with rfl | hl'
        · exact suffix_notMem hsuf' hd1.2.1
        · exact hnew l' hl'

theorem dup_spec (g0 : Graph) (fuel : Nat) : DupSpec g0 fuel := by
  induction fuel with
  | zero =>
    intro root space s hold φ r s' _ _ h
    simp [duplicateSubgraph] at h
  | succ n ih =>
    intro root space s hold φ r s' hinv hroot h
    unfold duplicateSubgraph at h
    split at h
    · rename_i existing he
      simp only [Option.some.injEq, Prod.mk.injEq] at h
      obtain ⟨rfl, rfl⟩ := h
      exact ⟨φ, hinv, he, List.suffix_refl _, fun _ _ => rfl, rfl⟩
    · rename_i hnone
      split at h
      · simp at h
      · rename_i newRoot fresh hfresh
        simp only [] at h
        generalize hfold : List.foldl _ _ _ = res at h
        have hfold' : (s.g.obj root).links.foldl (dupStep n space)
            (some ([], { s with g := { s.g with parentsInvalid := true }, fresh := fresh })) = res := hfold
        clear hfold
        cases res with
        | none => simp at h
        | some pr =>
          obtain ⟨links, s1⟩ := pr
          simp only [Option.some.injEq, Prod.mk.injEq] at h
          obtain ⟨rfl, rfl⟩ := h
          -- the invariant for the recursive calls, holding `newRoot`
          have hperm : ((newRoot :: hold) ++ fresh).Perm (hold ++ s.fresh) := hfresh ▸ List.perm_middle.symm
          have hinv0 : SInv g0 φ { s with g := { s.g with parentsInvalid := true }, fresh := fresh } (newRoot :: hold) :=
            sinv_congr hinv rfl rfl hperm
          have ht0 : ∀ l ∈ (s.g.obj root).links, l.target ∉ (newRoot :: hold) ++ fresh := fun l hl hm =>
            (hinv.unused _ (hperm.mem_iff.mp hm)).2.1 root l hl rfl
          obtain ⟨φ1, new, hinv1, hsuf1, hag1, hroot1, hls, hshape, hnew⟩ :=
            dupFold_spec g0 n space ih (s.g.obj root).links [] _ (newRoot :: hold) φ links s1 hinv0 ht0 hfold'
          simp only [List.nil_append] at hls
          subst hls
          rename_i links
          have hroot_fresh : root ∉ fresh := fun hm =>
            hroot (hfresh ▸ List.mem_append_right _ (List.mem_cons_of_mem _ hm))
          have hφroot := hag1 root hroot_fresh
          obtain ⟨sb, sl⟩ := hinv.sim root
          have hsuf : s1.fresh <:+ s.fresh := hfresh ▸ hsuf1.trans (List.suffix_cons _ _)
          refine ⟨fun x => if x = newRoot then φ1 root else φ1 x,
            sinv_insert hinv1 (suffix_notMem hsuf hroot) (hφroot ▸ sb) (hφroot ▸ hshape.trans sl) hnew rfl rfl rfl,
            ?_, hsuf, fun x hx => ?_, hroot1⟩
          · show (s1.dupes.insert root newRoot).find? root = some newRoot
            rw [Map.find?_insert, if_pos rfl]
          · rw [hfresh] at hx
            show (if x = newRoot then φ1 root else φ1 x) = φ x
            rw [if_neg fun e : x = newRoot => hx (e ▸ List.mem_cons_self)]
            exact hag1 x fun hm => hx (List.mem_cons_of_mem _ hm)

theorem findSubgraphMap_keys (g : Graph) (P : Nat → Prop) (hP : ∀ x, ∀ l ∈ (g.obj x).links, P l.target)
    (fuel idx : Nat) (m : Map Nat) (hm : ∀ kv ∈ m, P kv.1) :
    ∀ kv ∈ findSubgraphMap g fuel idx m, P kv.1 := by
  induction fuel generalizing idx m with
  | zero => exact hm
  | succ n ih =>
    unfold findSubgraphMap
    refine foldl_inv (fun m => ∀ kv ∈ m, P kv.1) _ _ (fun m l hl hm => ?_) m hm
    have hins := fun c => Map.forall_keys_insert m l.target c P hm (hP idx l hl)
    split
    · exact ih _ _ (hins 1)
    · exact hins _

theorem subgraph_keys (g : Graph) (P : Nat → Prop) (hP : ∀ x, ∀ l ∈ (g.obj x).links, P l.target)
    (fuel : Nat) (wide : Nat → Nat) (roots : List Nat) (m : Map Nat) (hr : ∀ r ∈ roots, P r) (hm : ∀ kv ∈ m, P kv.1) :
    ∀ kv ∈ roots.foldl (fun m root => findSubgraphMap g fuel root (m.insert root (wide root))) m, P kv.1 := by
  refine foldl_inv (fun m => ∀ kv ∈ m, P kv.1) _ _ (fun m r hr' hm => ?_) m hm
  exact findSubgraphMap_keys g P hP _ _ _ (Map.forall_keys_insert m r _ P hm (hr r hr'))

/-- one iteration of `for (id, incoming_edges_in_subgraph) in &subgraph` -/
def isoDupStep (nextSpace : Nat) (acc : Option Surg) (kv : Nat × Nat) : Option Surg :=
  match acc with
  | none => none
  | some s =>
    if kv.2 < s.g.indeg kv.1 then
      match duplicateSubgraph (depthFuel s.g) kv.1 nextSpace s with
      | none => none
      | some (_, s) => some s
    else some s

theorem isoDupFold_spec (g0 : Graph) (ns : Nat) (sub : List (Nat × Nat)) (s s' : Surg) (φ : Nat → Nat)
    (hinv : SInv g0 φ s []) (hk : ∀ kv ∈ sub, kv.1 ∉ s.fresh)
    (h : sub.foldl (isoDupStep ns) (some s) = some s') :
    ∃ φ', SInv g0 φ' s' [] ∧ s'.fresh <:+ s.fresh ∧ (∀ x, x ∉ s.fresh → φ' x = φ x) ∧ s'.g.root = s.g.root := by
  refine foldl_some_induct (isoDupStep ns) (fun _ => rfl)
    (fun s' => ∃ φ', SInv g0 φ' s' [] ∧ s'.fresh <:+ s.fresh ∧ (∀ x, x ∉ s.fresh → φ' x = φ x) ∧ s'.g.root = s.g.root)
    sub ?_ s s' ⟨φ, hinv, List.suffix_refl _, fun _ _ => rfl, rfl⟩ h
  intro s1 kv s2 hmem ⟨φ1, hinv1, hsuf1, hag1, hroot1⟩ hstep
  simp only [isoDupStep] at hstep
  by_cases hc : kv.2 < s1.g.indeg kv.1
  · rw [if_pos hc] at hstep
    cases hd : duplicateSubgraph (depthFuel s1.g) kv.1 ns s1 with
    | none => rw [hd] at hstep; exact absurd hstep (by simp)
    | some res =>
      obtain ⟨t, s2'⟩ := res
      rw [hd] at hstep
      obtain rfl := Option.some.inj hstep
      obtain ⟨φ2, hinv2, _, hsuf2, hag2, hroot2⟩ :=
        dup_spec g0 _ kv.1 ns s1 [] φ1 t s2' hinv1 (by simpa using fun hm => hk kv hmem (hsuf1.subset hm)) hd
      exact ⟨φ2, hinv2, hsuf2.trans hsuf1, fun x hx => by rw [hag2 x (fun hm => hx (hsuf1.subset hm)), hag1 x hx],
        hroot2.trans hroot1⟩
  · rw [if_neg hc] at hstep
    obtain rfl := Option.some.inj hstep
    exact ⟨φ1, hinv1, hsuf1, hag1, hroot1⟩

theorem isolate_spec (g0 : Graph) (φ : Nat → Nat) (g : Graph) (roots : Set) (fresh : List Nat)
    (b : Bool) (g' : Graph) (roots' : Set) (fresh' : List Nat)
    (hinv : SInv g0 φ ⟨g, [], fresh⟩ []) (hr : ∀ r ∈ roots, r ∉ fresh)
    (h : isolateSubgraph g roots fresh = some (b, g', roots', fresh')) :
    ∃ φ', SInv g0 φ' ⟨g', [], fresh'⟩ [] ∧ fresh' <:+ fresh ∧ (∀ x, x ∉ fresh → φ' x = φ x) ∧ g'.root = g.root := by
  unfold isolateSubgraph at h
  simp only [Option.bind_eq_bind, Option.bind_eq_some_iff] at h
  obtain ⟨s, hs, h⟩ := h
  have hinvU := sinv_updateParents g0 φ g [] fresh [] hinv
  have hinv0 : SInv g0 φ ⟨{ updateParents g with nextSpace := (updateParents g).nextSpace + 1, numRoots := (updateParents g).numRoots.insert ((updateParents g).nextSpace + 1) roots.length }, [], fresh⟩ [] :=
    sinv_congr hinvU rfl rfl (List.Perm.refl _)
  have hP : ∀ x, ∀ l ∈ ((updateParents g).obj x).links, l.target ∉ fresh := by
    intro x l hl hm
    exact (hinvU.unused l.target (by simpa using hm)).2.1 x l hl rfl
  have hk := subgraph_keys (updateParents g) (fun k => k ∉ fresh) hP (depthFuel (updateParents g))
    (fun root => (List.filter (fun p => decide (p.snd ≠ 2)) ((updateParents g).node root).parents).length)
    roots [] hr (by simp)
  have hs' : List.foldl (isoDupStep ((updateParents g).nextSpace + 1)) (some _) _ = some s := hs
  obtain ⟨φ1, hinv1, hsuf1, hag1, hroot1⟩ := isoDupFold_spec g0 _ _ _ s φ hinv0 hk hs'
  have hroot1' : s.g.root = g.root := by rw [hroot1]; exact updateParents_root g
  have hinv1' : SInv g0 φ1 ⟨s.g, s.dupes, s.fresh⟩ [] := hinv1
  have hrem := fun ids : List Nat => foldl_sinv g0 φ1 s.dupes s.fresh [] _ ids
    (fun g1 id h => ⟨remap_sinv g0 φ1 s.dupes s.fresh [] ((updateParents g).nextSpace + 1) g1 id h, rfl⟩) s.g hinv1'
  split at h
  · simp only [Option.some.injEq, Prod.mk.injEq] at h
    obtain ⟨rfl, rfl, rfl, rfl⟩ := h
    exact ⟨φ1, sinv_weaken_dupes _ _ _ _ _ _ (hrem _).1, hsuf1, hag1, (hrem _).2.trans hroot1'⟩
  · simp only [Option.some.injEq, Prod.mk.injEq] at h
    obtain ⟨rfl, rfl, rfl, rfl⟩ := h
    have hrep := fun ids => foldl_sinv g0 φ1 s.dupes s.fresh [] _ roots
      (fun g1 root h => repointRoot_sinv g0 φ1 s.dupes s.fresh [] g1 root h) _ (hrem ids).1
    exact ⟨φ1, sinv_weaken_dupes _ _ _ _ _ _ (hrep _).1, hsuf1, hag1, (hrep _).2.trans ((hrem _).2.trans hroot1')⟩

end FontVerif.Graph
