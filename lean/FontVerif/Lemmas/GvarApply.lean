/-
Applying one tuple's deltas to a simple glyph.  The run-at-a-time fast path reads what the slow
iterator reads, on any valid runs (`readSparse_runs`); `accumulate_sparse_deltas` is a fold of
`List.modify` at distinct indices (`foldl_modify_getD`); a `Jiggler` call leaves alone what it does not
cover (`applyCall_not_covers`); and one trip of the contour loop, for a contour anywhere in the glyph,
leaves every point `Near` the specification's inference (`contour_contribution_at`).
-/
import FontVerif.Model.GvarApply
import FontVerif.Lemmas.Packed
import FontVerif.Lemmas.GvarApplyArith
import FontVerif.Lemmas.Iup
import FontVerif.Lemmas.Base
namespace FontVerif.GvarApply
open FontVerif.PackedDeltas FontVerif.GvarData

theorem takePts_list : ∀ (n : Nat) (pts : List Nat),
    takePts n (.list pts) = (pts.take n, .list (pts.drop n)) := by
  intro n
  induction n with
  | zero => intro pts; simp [takePts]
  | succ n ih =>
    intro pts
    cases pts with
    | nil => simp [takePts, PtIter.next]
    | cons p ps => simp [takePts, PtIter.next, ih]

theorem readArray_vals (ty : RunType) : ∀ (vals : List Int) (rest : List Nat),
    (∀ v ∈ vals, fits ty v) →
    readArray ty vals.length (vals.flatMap (valBytes ty) ++ rest) = some (vals, rest) := by
  intro vals
  induction vals with
  | nil => intro rest _; simp [readArray]
  | cons v vs ih =>
    intro rest hf
    have hv := readVal_valBytes ty v (vs.flatMap (valBytes ty) ++ rest) (hf v (by simp))
    simp only [List.length_cons, readArray, List.flatMap_cons, List.append_assoc, hv,
      ih rest (fun x hx => hf x (by simp [hx]))]

theorem readSparse_runs : ∀ (runs : List Run) (fuel cur count : Nat) (pts : List Nat) (rest : List Nat),
    (∀ r ∈ runs, ValidRun r) → cur + total runs = count → total runs ≤ pts.length →
    runs.length + 1 ≤ fuel →
    readSparse fuel cur count (.list pts) (runs.flatMap serializeRun ++ rest)
      = some ((pts.take (total runs)).zip (runs.flatMap (·.2)), rest) := by
  intro runs
  induction runs with
  | nil =>
    intro fuel cur count pts rest _ hc _ hf
    obtain ⟨f, rfl⟩ : ∃ f, fuel = f + 1 := ⟨fuel - 1, by omega⟩
    have : ¬ cur < count := by simp [total] at hc; omega
    simp [readSparse, this, total]
  | cons r rs ih =>
    intro fuel cur count pts rest hv hc hp hf
    obtain ⟨f, rfl⟩ : ∃ f, fuel = f + 1 := ⟨fuel - 1, by omega⟩
    obtain ⟨h1, h2, hfit⟩ := hv r (by simp)
    have ht := total_cons r rs
    rw [ht] at hc hp
    have hlt : cur < count := by omega
    simp only [List.flatMap_cons, List.append_assoc, serializeRun, List.cons_append, readSparse, hlt,
      if_true, flag_count _ _ h1 h2, flag_type _ _ h1 h2]
    rw [readArray_vals r.1 r.2 _ hfit, takePts_list]
    simp only []
    have hlen : ¬ ((pts.take r.2.length).length < r.2.length) := by simp; omega
    have hcond : ¬ (r.1 = RunType.zero ∧ (pts.take r.2.length).length < r.2.length) := fun h => hlen h.2
    simp only [hcond, if_false]
    rw [ih f (cur + r.2.length) count (pts.drop r.2.length) rest (fun x hx => hv x (by simp [hx]))
      (by omega) (by simp; omega) (by simp at hf; omega)]
    simp only [Option.some.injEq, Prod.mk.injEq, and_true]
    rw [ht, List.take_add, List.zip_append (by simp; omega)]

theorem readSparse_xy (xr yr : List Run) (pts : List Nat) (rest : List Nat)
    (hx : ∀ r ∈ xr, ValidRun r) (hy : ∀ r ∈ yr, ValidRun r)
    (hnx : total xr = pts.length) (hny : total yr = pts.length) :
    readSparse (pts.length + 1) 0 pts.length (.list pts)
        (xr.flatMap serializeRun ++ (yr.flatMap serializeRun ++ rest))
      = some (pts.zip (xr.flatMap (·.2)), yr.flatMap serializeRun ++ rest) ∧
    readSparse (pts.length + 1) 0 pts.length (.list pts) (yr.flatMap serializeRun ++ rest)
      = some (pts.zip (yr.flatMap (·.2)), rest) := by
  have lx := length_le_total xr hx
  have ly := length_le_total yr hy
  constructor
  · have := readSparse_runs xr (pts.length + 1) 0 pts.length pts (yr.flatMap serializeRun ++ rest) hx
      (by omega) (by omega) (by omega)
    rw [this, hnx, List.take_length]
  · have := readSparse_runs yr (pts.length + 1) 0 pts.length pts rest hy (by omega) (by omega) (by omega)
    rw [this, hny, List.take_length]

theorem addAt_eq_modify : ∀ (l : List Pt) (ix : Nat) (f : Pt → Pt), addAt l ix f = l.modify ix f := by
  intro l
  induction l with
  | nil => intro ix f; simp [addAt]
  | cons p ps ih => intro ix f; cases ix <;> simp [addAt, ih]

theorem setAt_eq_modify : ∀ (l : List Bool) (ix : Nat), setAt l ix = l.modify ix (fun _ => true) := by
  intro l
  induction l with
  | nil => intro ix; simp [setAt]
  | cons p ps ih => intro ix; cases ix <;> simp [setAt, ih]

theorem addAt_length (l : List Pt) (ix : Nat) (f : Pt → Pt) : (addAt l ix f).length = l.length := by
  rw [addAt_eq_modify, List.length_modify]

theorem addAt_getD (l : List Pt) (ix : Nat) (f : Pt → Pt) (k : Nat) (d : Pt) :
    (addAt l ix f).getD k d = if ix = k ∧ k < l.length then f (l.getD k d) else l.getD k d := by
  rw [addAt_eq_modify, getD_modify]

theorem setAt_length (l : List Bool) (ix : Nat) : (setAt l ix).length = l.length := by
  rw [setAt_eq_modify, List.length_modify]

theorem setAt_getD (l : List Bool) (ix k : Nat) :
    (setAt l ix).getD k false = if ix = k ∧ k < l.length then true else l.getD k false := by
  rw [setAt_eq_modify, getD_modify]

/-- value listed for point `k` in a list of calls `(point, value)` (first match) -/
def lookupV {α : Type} (calls : List (Nat × α)) (k : Nat) : Option α :=
  (calls.find? fun c => c.1 == k).map (·.2)

theorem lookupV_cons_ne {α : Type} (p : Nat) (v : α) (rest : List (Nat × α)) (k : Nat) (h : p ≠ k) :
    lookupV ((p, v) :: rest) k = lookupV rest k := by
  simp [lookupV, h]

theorem lookupV_cons_self {α : Type} (p : Nat) (v : α) (rest : List (Nat × α)) :
    lookupV ((p, v) :: rest) p = some v := by
  simp [lookupV]

/-- the one membership rule of `lookupV`: a point has a value iff it is among the listed points -/
theorem lookupV_isSome {α : Type} (calls : List (Nat × α)) (k : Nat) :
    (lookupV calls k).isSome = true ↔ k ∈ calls.map (·.1) := by
  unfold lookupV
  rw [Option.isSome_map, List.find?_isSome, List.mem_map]
  exact ⟨fun ⟨c, hc, e⟩ => ⟨c, hc, beq_iff_eq.mp e⟩, fun ⟨c, hc, e⟩ => ⟨c, hc, beq_iff_eq.mpr e⟩⟩

theorem lookupV_none_of_not_mem {α : Type} (calls : List (Nat × α)) (k : Nat) (h : k ∉ calls.map (·.1)) :
    lookupV calls k = none :=
  Option.not_isSome_iff_eq_none.mp (mt (lookupV_isSome calls k).mp h)

theorem lookupV_mem {α : Type} (calls : List (Nat × α)) (k : Nat) (v : α) (h : lookupV calls k = some v) :
    (k, v) ∈ calls := by
  unfold lookupV at h
  cases hf : calls.find? (fun c => c.1 == k) with
  | none => simp [hf] at h
  | some c =>
    simp only [hf, Option.map_some, Option.some.injEq] at h
    have h1 := List.mem_of_find?_eq_some hf
    have h2 := List.find?_some hf
    simp only [beq_iff_eq] at h2
    rw [← h, ← h2]; exact h1

theorem lookupV_zip_isSome {α : Type} (pts : List Nat) (vs : List α) (k : Nat) (h : pts.length ≤ vs.length) :
    (lookupV (pts.zip vs) k).isSome = true ↔ k ∈ pts := by
  rw [lookupV_isSome, List.map_fst_zip h]

/-- `List.modify` past the end is the identity: the range test of `xStep` / `yStep` decides nothing -/
theorem ite_modify {β : Type} (l : List β) (p : Nat) (f : β → β) :
    (if p < l.length then l.modify p f else l) = l.modify p f := by
  split
  · rfl
  · exact (List.modify_eq_self (by omega)).symm

/-- folding "modify entry `c.1` with `g c.2`" over calls with distinct point numbers -/
theorem foldl_modify_getD {α β : Type} (g : α → β → β) (k : Nat) (d : β) :
    ∀ (calls : List (Nat × α)) (l : List β), (calls.map (·.1)).Nodup →
    (calls.foldl (fun b c => b.modify c.1 (g c.2)) l).length = l.length ∧
    (calls.foldl (fun b c => b.modify c.1 (g c.2)) l).getD k d
      = match lookupV calls k with
        | some v => if k < l.length then g v (l.getD k d) else l.getD k d
        | none => l.getD k d := by
  intro calls
  induction calls with
  | nil => intro l _; simp [lookupV]
  | cons c rest ih =>
    intro l hnd
    obtain ⟨p, v⟩ := c
    simp only [List.map_cons, List.nodup_cons] at hnd
    simp only [List.foldl_cons]
    obtain ⟨i1, i2⟩ := ih (l.modify p (g v)) hnd.2
    refine ⟨by rw [i1, List.length_modify], ?_⟩
    rw [i2, List.length_modify, getD_modify]
    by_cases hk : p = k
    · subst hk
      rw [lookupV_none_of_not_mem rest p hnd.1, lookupV_cons_self]
      by_cases hp : p < l.length <;> simp [hp]
    · rw [lookupV_cons_ne p v rest k hk, if_neg (fun h => hk h.1)]

theorem yStep_eq (s : Int) :
    yStep s = fun b c => b.modify c.1 (fun p => (p.1, Iup.fxAdd p.2 (fxScaled s c.2))) := by
  funext b c
  unfold yStep
  rw [addAt_eq_modify, ite_modify]

theorem xStep_eq (s : Int) (st : List Pt × List Bool) (c : Nat × Int) (hl : st.1.length = st.2.length) :
    xStep s st c = (st.1.modify c.1 (fun p => (Iup.fxAdd p.1 (fxScaled s c.2), p.2)),
      st.2.modify c.1 (fun _ => true)) := by
  unfold xStep
  rw [addAt_eq_modify, setAt_eq_modify]
  by_cases h : c.1 < st.1.length
  · rw [if_pos ⟨h, hl ▸ h⟩]
  · rw [if_neg (fun hh => h hh.1), List.modify_eq_self (by omega), List.modify_eq_self (by omega)]

/-- the x pass keeps buffer and flags at the same length and acts on them separately -/
theorem foldl_xStep (s : Int) : ∀ (calls : List (Nat × Int)) (st : List Pt × List Bool),
    st.1.length = st.2.length →
    calls.foldl (xStep s) st
      = (calls.foldl (fun b c => b.modify c.1 (fun p => (Iup.fxAdd p.1 (fxScaled s c.2), p.2))) st.1,
         calls.foldl (fun b c => b.modify c.1 (fun _ => true)) st.2) := by
  intro calls
  induction calls with
  | nil => intro st _; rfl
  | cons c rest ih =>
    intro st hl
    rw [List.foldl_cons, xStep_eq s st c hl, ih _ (by simp only [List.length_modify, hl])]
    rfl

theorem accSparse_pointwise (pts : List Nat) (xs ys : List Int) (ptBytes dBytes bs rest : List Nat)
    (s : Int) (buf : List Pt) (flags : List Bool) (n : Nat) (hb : buf.length = n) (hf : flags.length = n)
    (hcount : (countAndCountBytes ptBytes).1 = pts.length) (hit : ptIterOf ptBytes = .list pts)
    (hx : readSparse (pts.length + 1) 0 pts.length (.list pts) dBytes = some (pts.zip xs, bs))
    (hy : readSparse (pts.length + 1) 0 pts.length (.list pts) bs = some (pts.zip ys, rest))
    (hnd : pts.Nodup) (hlx : xs.length = pts.length) (hly : ys.length = pts.length) :
    ∃ buf' has', accSparse ptBytes dBytes s buf flags = some (buf', has') ∧
      buf'.length = n ∧ has'.length = n ∧
      ∀ k, k < n →
        (buf'.getD k (0, 0)).1 = (match lookupV (pts.zip xs) k with
          | some x => Iup.fxAdd (buf.getD k (0, 0)).1 (fxScaled s x)
          | none => (buf.getD k (0, 0)).1) ∧
        (buf'.getD k (0, 0)).2 = (match lookupV (pts.zip ys) k with
          | some y => Iup.fxAdd (buf.getD k (0, 0)).2 (fxScaled s y)
          | none => (buf.getD k (0, 0)).2) ∧
        has'.getD k false = ((lookupV (pts.zip xs) k).isSome || flags.getD k false) := by
  unfold accSparse
  simp only [hcount, hit, hx, hy, yStep_eq, foldl_xStep s (pts.zip xs) (buf, flags) (hb.trans hf.symm)]
  have ndx : ((pts.zip xs).map (·.1)).Nodup := by rw [List.map_fst_zip (by omega)]; exact hnd
  have ndy : ((pts.zip ys).map (·.1)).Nodup := by rw [List.map_fst_zip (by omega)]; exact hnd
  -- three folds of `List.modify` at distinct points: x into the buffer, the flags, y into the x result
  have hX := fun k => foldl_modify_getD (fun v (p : Pt) => (Iup.fxAdd p.1 (fxScaled s v), p.2)) k (0, 0) (pts.zip xs) buf ndx
  have hF := fun k => foldl_modify_getD (fun (_ : Int) (_ : Bool) => true) k false (pts.zip xs) flags ndx
  have hY := fun k => foldl_modify_getD (fun v (p : Pt) => (p.1, Iup.fxAdd p.2 (fxScaled s v))) k (0, 0) (pts.zip ys)
    ((pts.zip xs).foldl (fun b c => b.modify c.1 (fun p => (Iup.fxAdd p.1 (fxScaled s c.2), p.2))) buf) ndy
  refine ⟨_, _, rfl, by rw [(hY 0).1, (hX 0).1, hb], by rw [(hF 0).1, hf], fun k hk => ?_⟩
  rw [(hY k).2, (hX k).2, (hX k).1, (hF k).2, hb, hf]
  cases lookupV (pts.zip ys) k <;> cases lookupV (pts.zip xs) k <;> simp [hk]

theorem compositeSparseTuple_pointwise (t : RawTuple) (sp : Option (List Nat)) (s : Int)
    (deltas : List Pt) (hnd : ((t.deltas sp).map (·.1)).Nodup) (k : Nat) (hk : k < deltas.length) :
    (compositeSparseTuple t sp s deltas).length = deltas.length ∧
    (compositeSparseTuple t sp s deltas).getD k (0, 0) = (match lookupV (t.deltas sp) k with
      | some d => ptAdd (deltas.getD k (0, 0))
          (Fixed.mul (Fixed.fromI32 d.1) s, Fixed.mul (Fixed.fromI32 d.2) s)
      | none => deltas.getD k (0, 0)) := by
  unfold compositeSparseTuple
  simp only [addAt_eq_modify, ite_modify]
  have := foldl_modify_getD (fun (d : Int × Int) (p : Pt) =>
    ptAdd p (Fixed.mul (Fixed.fromI32 d.1) s, Fixed.mul (Fixed.fromI32 d.2) s)) k (0, 0) (t.deltas sp) deltas hnd
  refine ⟨this.1, ?_⟩
  rw [this.2]
  cases lookupV (t.deltas sp) k <;> simp [hk]

open FontVerif.Iup

theorem getP_map_range (n : Nat) (f : Nat → Iup.Pt) (k : Nat) :
    getP ((List.range n).map f) k = if k < n then f k else (0, 0) :=
  getD_map_range f n k (0, 0)

theorem getP_take (l : List Iup.Pt) (n k : Nat) (hk : k < n) : getP (l.take n) k = getP l k := by
  unfold getP
  rw [List.getD_eq_getElem?_getD, List.getD_eq_getElem?_getD, List.getElem?_take_of_lt hk]

theorem getP_drop (l : List Iup.Pt) (d i : Nat) : getP (l.drop d) i = getP l (d + i) := by
  unfold getP
  rw [List.getD_eq_getElem?_getD, List.getD_eq_getElem?_getD, List.getElem?_drop]

theorem getP_slice (l : List Iup.Pt) (p n : Nat) {x : Nat} (h1 : p ≤ x) (h2 : x < p + n) :
    getP ((l.drop p).take n) (x - p) = getP l x := by
  rw [getP_take _ _ _ (by omega), getP_drop, Nat.add_sub_cancel' h1]

theorem getP_scale (ds : List Iup.Pt) (s : Int) (i : Nat) :
    getP (ds.map fun d => (d.1 * s, d.2 * s)) i = ((getP ds i).1 * s, (getP ds i).2 * s) := by
  unfold getP
  rw [List.getD_eq_getElem?_getD, List.getD_eq_getElem?_getD, List.getElem?_map]
  cases ds[i]? <;> simp

theorem ext_getP (l1 l2 : List Iup.Pt) (hl : l1.length = l2.length)
    (h : ∀ k, k < l1.length → getP l1 k = getP l2 k) : l1 = l2 := by
  apply List.ext_getElem hl
  intro k h1 h2
  have := h k h1
  unfold getP at this
  rw [List.getD_eq_getElem?_getD, List.getD_eq_getElem?_getD, List.getElem?_eq_getElem h1,
    List.getElem?_eq_getElem h2] at this
  simpa using this

theorem lt_length_of_flag {l : List Bool} {i : Nat} (h : l.getD i false = true) : i < l.length := by
  by_contra hge
  rw [getD_of_length_le false (by omega)] at h
  cases h

theorem applyCall_length (pts out : List Iup.Pt) (c : Call) : (applyCall pts out c).length = out.length := by
  unfold applyCall
  simp only [apply_ite List.length, List.length_map, List.length_range, ite_self]

/-- the value an `interpolate` call writes into point `k` -/
def interpValue (pts out : List Iup.Pt) (r1 r2 k : Nat) : Iup.Pt :=
  (fxInterpAxis (getP pts r1).1 (getP out r1).1 (getP pts r2).1 (getP out r2).1 (getP pts k).1 (getP out k).1,
   fxInterpAxis (getP pts r1).2 (getP out r1).2 (getP pts r2).2 (getP out r2).2 (getP pts k).2 (getP out k).2)

/-- what a call writes into a point it covers -/
def callValue (p1 o1 p2 o2 pk ok : Iup.Pt) (shift : Bool) : Iup.Pt :=
  if shift then
    if fxSub o1.1 (fxFromI32 p1.1) = 0 ∧ fxSub o1.2 (fxFromI32 p1.2) = 0 then ok
    else (fxAdd ok.1 (fxSub o1.1 (fxFromI32 p1.1)), fxAdd ok.2 (fxSub o1.2 (fxFromI32 p1.2)))
  else (fxInterpAxis p1.1 o1.1 p2.1 o2.1 pk.1 ok.1, fxInterpAxis p1.2 o1.2 p2.2 o2.2 pk.2 ok.2)

/-- `applyCall` point by point: the points it `covers` get `callValue`, the others stay (an empty
range `hi < lo` covers nothing) -/
theorem applyCall_getP (pts out : List Iup.Pt) (c : Call) (k : Nat) (hk : k < out.length) :
    getP (applyCall pts out c) k =
      if covers c k = true then
        callValue (getP pts c.r1) (getP out c.r1) (getP pts c.r2) (getP out c.r2) (getP pts k) (getP out k) c.shift
      else getP out k := by
  simp only [covers_iff]
  unfold applyCall callValue
  by_cases h : c.hi < c.lo
  · rw [if_pos h, if_neg (fun hc => by omega)]
  · rw [if_neg h]
    cases hs : c.shift with
    | true =>
      simp only [if_true, true_and]
      by_cases hz : fxSub (getP out c.r1).1 (fxFromI32 (getP pts c.r1).1) = 0 ∧
          fxSub (getP out c.r1).2 (fxFromI32 (getP pts c.r1).2) = 0
      · rw [if_pos hz, if_pos hz, ite_self]
      · rw [if_neg hz, if_neg hz, getP_map_range, if_pos hk]
    | false =>
      simp only [Bool.false_eq_true, false_and, not_false_eq_true, and_true, if_false]
      rw [getP_map_range, if_pos hk]

theorem applyCall_interp_getP (pts out : List Iup.Pt) (c : Call) (hs : c.shift = false) (k : Nat)
    (hk : k < out.length) :
    getP (applyCall pts out c) k = if covers c k then interpValue pts out c.r1 c.r2 k else getP out k := by
  rw [applyCall_getP pts out c k hk, hs]
  rfl

theorem applyCall_shift_getP (pts out : List Iup.Pt) (lo hi r : Nat) (k : Nat) (hk : k < out.length) :
    getP (applyCall pts out ⟨lo, hi, r, r, true⟩) k =
      if lo ≤ k ∧ k ≤ hi ∧ k ≠ r ∧
          ¬ (fxSub (getP out r).1 (fxFromI32 (getP pts r).1) = 0 ∧ fxSub (getP out r).2 (fxFromI32 (getP pts r).2) = 0)
      then (fxAdd (getP out k).1 (fxSub (getP out r).1 (fxFromI32 (getP pts r).1)),
            fxAdd (getP out k).2 (fxSub (getP out r).2 (fxFromI32 (getP pts r).2)))
      else getP out k := by
  rw [applyCall_getP pts _ _ k hk]
  simp only [covers_iff, callValue, true_and, if_true]
  by_cases hz : fxSub (getP out r).1 (fxFromI32 (getP pts r).1) = 0 ∧ fxSub (getP out r).2 (fxFromI32 (getP pts r).2) = 0
  · simp [hz]
  · simp [hz]

theorem ite_absorb {α : Type} (c : Prop) [Decidable c] (x y : α) :
    (if c then x else if c then x else y) = if c then x else y := by
  by_cases h : c
  · rw [if_pos h, if_pos h]
  · rw [if_neg h, if_neg h]

theorem fxInterpAxis_idem (p1 o1 p2 o2 c old : Int) :
    fxInterpAxis p1 o1 p2 o2 c (fxInterpAxis p1 o1 p2 o2 c old) = fxInterpAxis p1 o1 p2 o2 c old := by
  unfold fxInterpAxis
  exact ite_absorb _ _ _

theorem applyCall_not_covers (pts out : List Iup.Pt) (c : Call) (k : Nat) (hk : k < out.length)
    (h : covers c k = false) : getP (applyCall pts out c) k = getP out k := by
  rw [applyCall_getP pts out c k hk, h, if_neg Bool.false_ne_true]

theorem foldl_applyCall_length (pts : List Iup.Pt) : ∀ (calls : List Call) (out : List Iup.Pt),
    (calls.foldl (applyCall pts) out).length = out.length := by
  intro calls
  induction calls with
  | nil => intro out; rfl
  | cons c cs ih => intro out; rw [List.foldl_cons, ih, applyCall_length]

theorem foldl_applyCall_keep (pts : List Iup.Pt) (k : Nat) : ∀ (calls : List Call) (out : List Iup.Pt),
    k < out.length → (∀ c ∈ calls, covers c k = false) →
    getP (calls.foldl (applyCall pts) out) k = getP out k := by
  intro calls
  induction calls with
  | nil => intro out _ _; rfl
  | cons c cs ih =>
    intro out hk h
    rw [List.foldl_cons, ih _ (by rw [applyCall_length]; exact hk) (fun x hx => h x (List.mem_cons_of_mem _ hx)),
      applyCall_not_covers pts out c k hk (h c (List.mem_cons_self ..))]

theorem interpValue_congr (pts out out' : List Iup.Pt) (r1 r2 k : Nat) (h1 : getP out r1 = getP out' r1)
    (h2 : getP out r2 = getP out' r2) (hk : getP out k = getP out' k) :
    interpValue pts out r1 r2 k = interpValue pts out' r1 r2 k := by
  unfold interpValue; rw [h1, h2, hk]

/-- If every call is an `interpolate` whose references carry explicit
deltas and which only writes points without one, and all calls that write a point `k` use the same
references `refs k`, then after all calls a written point holds the interpolation between its
references' ORIGINAL working values (the points no call writes: `foldl_applyCall_keep`). -/
theorem foldl_applyCall_interp (pts : List Iup.Pt) (has : List Bool) (refs : Nat → Nat × Nat)
    (out0 : List Iup.Pt) (hlen : has.length = out0.length) :
    ∀ (calls : List Call),
      (∀ c ∈ calls, c.shift = false ∧
        (c.lo ≤ c.hi → has.getD c.r1 false = true ∧ has.getD c.r2 false = true) ∧
        ∀ k, covers c k = true → has.getD k false = false ∧ refs k = (c.r1, c.r2)) →
      ∀ k, k < out0.length → calls.any (covers · k) = true →
        getP (calls.foldl (applyCall pts) out0) k = interpValue pts out0 (refs k).1 (refs k).2 k := by
  intro calls
  induction calls using snoc_induction with
  | h0 => intro _ k _ h; cases h
  | hs calls c ih =>
    intro hall k hk hany
    have hall' := fun x hx => hall x (List.mem_append_left _ hx)
    obtain ⟨hs, href, hcov⟩ := hall c (by simp)
    rw [List.foldl_append, List.foldl_cons, List.foldl_nil,
      applyCall_interp_getP pts _ c hs k (by rw [foldl_applyCall_length]; exact hk)]
    by_cases hck : covers c k = true
    · obtain ⟨_, hrk⟩ := hcov k hck
      have hlohi : c.lo ≤ c.hi := by
        unfold covers at hck
        simp only [Bool.and_eq_true, decide_eq_true_eq] at hck
        omega
      obtain ⟨h1, h2⟩ := href hlohi
      -- the references have explicit deltas, so no earlier call wrote them
      have hexp : ∀ j, has.getD j false = true → getP (calls.foldl (applyCall pts) out0) j = getP out0 j := fun j hj =>
        foldl_applyCall_keep pts j calls out0 (hlen ▸ lt_length_of_flag hj) fun x hx =>
          Bool.eq_false_iff.mpr fun hc => by rw [((hall' x hx).2.2 j hc).1] at hj; cases hj
      rw [if_pos hck, hrk]
      unfold interpValue
      rw [hexp _ h1, hexp _ h2]
      by_cases hprev : calls.any (covers · k) = true
      · rw [ih hall' k hk hprev, hrk]
        simp only [interpValue, fxInterpAxis_idem]
      · rw [foldl_applyCall_keep pts k calls out0 hk fun x hx =>
          Bool.eq_false_iff.mpr fun hc => hprev (List.any_eq_true.mpr ⟨x, hx, hc⟩)]
    · rw [if_neg hck]
      refine ih hall' k hk ?_
      simpa only [List.any_append, List.any_cons, List.any_nil, Bool.or_false, Bool.eq_false_iff.mpr hck] using hany

theorem iupAxis_scale (c1 d1 c2 d2 c s : Int) (hs : s ≠ 0) :
    iupAxis c1 (d1 * s) c2 (d2 * s) c = ((iupAxis c1 d1 c2 d2 c).1 * s, (iupAxis c1 d1 c2 d2 c).2) := by
  unfold iupAxis
  by_cases h : c1 = c2
  · simp only [h, if_true]
    by_cases hd : d1 = d2
    · simp [hd]
    · have : ¬ d1 * s = d2 * s := fun e => hd (Int.eq_of_mul_eq_mul_right hs e)
      simp [hd, this]
  · simp only [h, if_false]
    by_cases hgt : c1 > c2
    · simp only [hgt, if_true]
      split
      · rfl
      · split
        · rfl
        · simp only [Prod.mk.injEq, and_true]; ring
    · simp only [hgt, if_false]
      split
      · rfl
      · split
        · rfl
        · simp only [Prod.mk.injEq, and_true]; ring

theorem inferSpec_scale (cs ds : List Iup.Pt) (enc : List Bool) (k : Nat) (s : Int) (hs : s ≠ 0) :
    inferSpec cs (ds.map fun d => (d.1 * s, d.2 * s)) enc k =
      (((inferSpec cs ds enc k).1.1 * s, (inferSpec cs ds enc k).1.2),
       ((inferSpec cs ds enc k).2.1 * s, (inferSpec cs ds enc k).2.2)) := by
  unfold inferSpec
  simp only [List.length_map, getP_scale]
  split
  · rfl
  · split
    · simp only [iupPoint, iupAxis_scale _ _ _ _ _ s hs]
    · simp

/-- the specification for the contour `p ..= e` of a glyph, at its point `k`, with the references
given in glyph indices -/
theorem inferSpec_slice_refs (points ex : List Iup.Pt) (has : List Bool) (p e k a b : Nat)
    (hel : e < ex.length) (hk1 : p ≤ k) (hk2 : k ≤ e) (ha1 : p ≤ a) (ha2 : a ≤ e) (hb1 : p ≤ b) (hb2 : b ≤ e)
    (h : H has k = false)
    (hpa : prevReq (has.drop p) (e - p + 1) (k - p) = some (a - p))
    (hpb : nextReq (has.drop p) (e - p + 1) (k - p) = some (b - p)) :
    inferSpec (points.drop p) ((ex.drop p).take (e - p + 1)) (has.drop p) (k - p) =
      iupPoint (getP points a) (getP ex a) (getP points b) (getP ex b) (getP points k) := by
  have hdl : ((ex.drop p).take (e - p + 1)).length = e - p + 1 := by
    rw [List.length_take, List.length_drop]; omega
  rw [inferSpec_refs _ _ _ _ (a - p) (b - p) ((H_drop_sub has hk1).trans h)
    (by rw [hdl]; exact hpa) (by rw [hdl]; exact hpb),
    getP_slice ex p _ ha1 (by omega), getP_slice ex p _ hb1 (by omega),
    getP_drop, getP_drop, getP_drop, Nat.add_sub_cancel' ha1, Nat.add_sub_cancel' hb1,
    Nat.add_sub_cancel' hk1]

/-- working points: the glyph's points in 16.16 plus the (already scaled) explicit deltas -/
def workOf (points ex : List Iup.Pt) : List Iup.Pt :=
  (List.range points.length).map fun k =>
    ((getP points k).1 * 65536 + (getP ex k).1, (getP points k).2 * 65536 + (getP ex k).2)

theorem getP_workOf (points ex : List Iup.Pt) (k : Nat) (hk : k < points.length) :
    getP (workOf points ex) k =
      ((getP points k).1 * 65536 + (getP ex k).1, (getP points k).2 * 65536 + (getP ex k).2) := by
  unfold workOf; rw [getP_map_range, if_pos hk]

/-- the six facts relating a 16.16 working value `o` of the point `p` to an inferred delta `I`:
positive denominators and `|den * (o - p * 65536) - num| ≤ den * (den - 1) / 2` on both axes -/
def Near (I : (Int × Int) × (Int × Int)) (o p : Iup.Pt) : Prop :=
  0 < I.1.2 ∧ 0 < I.2.2 ∧
  2 * (I.1.2 * (o.1 - p.1 * 65536) - I.1.1) ≤ I.1.2 * (I.1.2 - 1) ∧
  2 * (I.1.1 - I.1.2 * (o.1 - p.1 * 65536)) ≤ I.1.2 * (I.1.2 - 1) ∧
  2 * (I.2.2 * (o.2 - p.2 * 65536) - I.2.1) ≤ I.2.2 * (I.2.2 - 1) ∧
  2 * (I.2.1 - I.2.2 * (o.2 - p.2 * 65536)) ≤ I.2.2 * (I.2.2 - 1)

theorem Near_exact (a b : Int) (p : Iup.Pt) : Near ((a, 1), (b, 1)) (p.1 * 65536 + a, p.2 * 65536 + b) p := by
  unfold Near; simp only []; refine ⟨by omega, by omega, by omega, by omega, by omega, by omega⟩

/-- the ranges under which no 16.16 operation of `interpolate_deltas` wraps: coordinates within
`±M`, scaled explicit deltas within `±E` -/
structure InRange (points ex : List Iup.Pt) (M E : Int) : Prop where
  hM : 0 ≤ M ∧ M ≤ 16383
  hE : 0 ≤ E
  hfit : 131072 * M + 4 * E + 65536 ≤ 2147483647
  hpts : ∀ k, (-M ≤ (Iup.getP points k).1 ∧ (Iup.getP points k).1 ≤ M) ∧
    (-M ≤ (Iup.getP points k).2 ∧ (Iup.getP points k).2 ≤ M)
  hex : ∀ k, (-E ≤ (Iup.getP ex k).1 ∧ (Iup.getP ex k).1 ≤ E) ∧
    (-E ≤ (Iup.getP ex k).2 ∧ (Iup.getP ex k).2 ≤ E)

theorem scaled_no_wrap (p d s M Δ : Int) (hp : -M ≤ p ∧ p ≤ M) (hd : -Δ ≤ d ∧ d ≤ Δ)
    (hs : 0 ≤ s ∧ s ≤ 65536) (hMΔ : M + Δ ≤ 32767) :
    fxScaled s d = d * s ∧ Fixed.fromI32 p = p * 65536 ∧
      Iup.fxAdd (p * 65536) (d * s) = p * 65536 + d * s ∧
      Iup.fxSub (p * 65536 + d * s) (p * 65536) = d * s := by
  obtain ⟨b1, b2⟩ := mul_bound hd (show -65536 ≤ s ∧ s ≤ 65536 by omega)
  refine ⟨fxScaled_exact s d (by omega) (by omega), wrapI32_of_in (by omega) (by omega),
    wrapI32_of_in (by omega) (by omega), ?_⟩
  unfold Iup.fxSub
  rw [show p * 65536 + d * s - p * 65536 = d * s by omega]
  exact wrapI32_of_in (by omega) (by omega)

theorem InRange.scale (points ds : List Iup.Pt) (M Δ s : Int) (hM : 0 ≤ M ∧ M ≤ 16383) (hΔ : 0 ≤ Δ)
    (hs : 0 < s ∧ s ≤ 65536) (hfit : 131072 * M + 4 * (Δ * 65536) + 65536 ≤ 2147483647)
    (hpts : ∀ k, (-M ≤ (getP points k).1 ∧ (getP points k).1 ≤ M) ∧ (-M ≤ (getP points k).2 ∧ (getP points k).2 ≤ M))
    (hds : ∀ k, (-Δ ≤ (getP ds k).1 ∧ (getP ds k).1 ≤ Δ) ∧ (-Δ ≤ (getP ds k).2 ∧ (getP ds k).2 ≤ Δ)) :
    InRange points (ds.map fun d => (d.1 * s, d.2 * s)) M (Δ * 65536) :=
  ⟨hM, by omega, hfit, hpts, fun k => by
    rw [getP_scale]
    have hs' : -65536 ≤ s ∧ s ≤ 65536 := by omega
    exact ⟨mul_bound (hds k).1 hs', mul_bound (hds k).2 hs'⟩⟩

theorem interpValue_near (points ex : List Iup.Pt) (M E : Int) (hr : InRange points ex M E)
    (r1 r2 k : Nat) (h1 : r1 < points.length) (h2 : r2 < points.length) (hk : k < points.length)
    (hek : getP ex k = (0, 0)) :
    Near (readerAxis (getP points r1).1 (getP ex r1).1 (getP points r2).1 (getP ex r2).1 (getP points k).1,
          readerAxis (getP points r1).2 (getP ex r1).2 (getP points r2).2 (getP ex r2).2 (getP points k).2)
      (interpValue points (workOf points ex) r1 r2 k) (getP points k) := by
  unfold interpValue
  rw [getP_workOf points ex r1 h1, getP_workOf points ex r2 h2, getP_workOf points ex k hk, hek]
  simp only [Int.add_zero]
  obtain ⟨bx0, bx1, bx2⟩ := fxInterpAxis_bound _ _ _ _ _ M E (hr.hpts r1).1 (hr.hpts r2).1 (hr.hpts k).1
    (hr.hex r1).1 (hr.hex r2).1 hr.hM hr.hfit
  obtain ⟨by0, by1, by2⟩ := fxInterpAxis_bound _ _ _ _ _ M E (hr.hpts r1).2 (hr.hpts r2).2 (hr.hpts k).2
    (hr.hex r1).2 (hr.hex r2).2 hr.hM hr.hfit
  have mx := Int.mul_le_mul_of_nonneg_left (interpDist_lt_den (getP points r1).1 (getP ex r1).1
    (getP points r2).1 (getP ex r2).1 (getP points k).1).2 (Int.le_of_lt bx0)
  have my := Int.mul_le_mul_of_nonneg_left (interpDist_lt_den (getP points r1).2 (getP ex r1).2
    (getP points r2).2 (getP ex r2).2 (getP points k).2).2 (Int.le_of_lt by0)
  exact ⟨bx0, by0, Int.le_trans bx1 mx, Int.le_trans bx2 mx, Int.le_trans by1 my, Int.le_trans by2 my⟩

theorem applyCall_shift_value (points ex out : List Iup.Pt) (M E : Int) (hr : InRange points ex M E)
    (lo hi r k : Nat) (hrl : r < points.length) (hkl : k < points.length) (hko : k < out.length)
    (hk1 : lo ≤ k) (hk2 : k ≤ hi) (hkr : k ≠ r)
    (hor : getP out r = getP (workOf points ex) r) (hok : getP out k = getP (workOf points ex) k)
    (hek : getP ex k = (0, 0)) :
    getP (applyCall points out ⟨lo, hi, r, r, true⟩) k =
      ((getP points k).1 * 65536 + (getP ex r).1, (getP points k).2 * 65536 + (getP ex r).2) := by
  obtain ⟨f1, s1, a1⟩ := fx_no_wrap _ _ _ M E (hr.hpts r).1 (hr.hpts k).1 (hr.hex r).1 hr.hM.2 hr.hfit
  obtain ⟨f2, s2, a2⟩ := fx_no_wrap _ _ _ M E (hr.hpts r).2 (hr.hpts k).2 (hr.hex r).2 hr.hM.2 hr.hfit
  rw [applyCall_shift_getP points _ lo hi r k hko, hor, hok,
    getP_workOf points ex r hrl, getP_workOf points ex k hkl, hek]
  simp only [f1, f2, s1, s2, Int.add_zero, a1, a2]
  by_cases hz : (getP ex r).1 = 0 ∧ (getP ex r).2 = 0
  · rw [if_neg (fun h => h.2.2.2 hz), hz.1, hz.2, Int.add_zero, Int.add_zero]
  · rw [if_pos ⟨hk1, hk2, hkr, hz⟩]

/-- the predicate of one contour: every point is `Near` the specification's inference on the
contour's own slice of the glyph -/
def ContourNear (points ex : List Iup.Pt) (has : List Bool) (out : List Iup.Pt) (first last : Nat) : Prop :=
  ∀ k, first ≤ k → k ≤ last →
    Near (inferSpec (points.drop first) ((ex.drop first).take (last - first + 1)) (has.drop first) (k - first))
      (getP out k) (getP points k)

/-- One trip of the contour loop, for the contour at `p ..= e` of a glyph with `np` points: the
trip changes only the contour's own points, to values `Near` the specification's inference on the
contour's slice, and moves on to `e + 1`.  `out` holds the working values from `p` on. -/
theorem contour_contribution_at (np : Nat) (points ex : List Iup.Pt) (has : List Bool)
    (hpl : points.length = np) (hhl : has.length = np) (hel : ex.length = np)
    (M E : Int) (hr : InRange points ex M E) (hex0 : ∀ k, has.getD k false = false → getP ex k = (0, 0))
    (p e : Nat) (hpe : p ≤ e) (hen : e < np) (out : List Iup.Pt) (hl : out.length = np)
    (hw : ∀ k, p ≤ k → k < np → getP out k = getP (workOf points ex) k) :
    ∃ calls, readerContourCalls has np p e = some (calls, e + 1) ∧
      (calls.foldl (applyCall points) out).length = np ∧
      (∀ k, k < p → getP (calls.foldl (applyCall points) out) k = getP out k) ∧
      ContourNear points ex has (calls.foldl (applyCall points) out) p e ∧
      (∀ k, e < k → k < np → getP (calls.foldl (applyCall points) out) k = getP (workOf points ex) k) := by
  obtain ⟨calls, ecalls, hA, hB, hC, hshape⟩ := readerContourCalls_spec_at has np p e hpe hen
  refine ⟨calls, ecalls, ?_⟩
  have hdl : ((ex.drop p).take (e - p + 1)).length = e - p + 1 := by
    rw [List.length_take, List.length_drop]; omega
  have hwk : ∀ k, p ≤ k → k < np → getP out k =
      ((getP points k).1 * 65536 + (getP ex k).1, (getP points k).2 * 65536 + (getP ex k).2) :=
    fun k h1 h2 => by rw [hw k h1 h2, getP_workOf points ex k (by omega)]
  -- a call writes only points of the contour that have no explicit delta: all others keep their value
  have hkeep : ∀ k, k < np → ¬ (p ≤ k ∧ k ≤ e) ∨ has.getD k false = true →
      getP (calls.foldl (applyCall points) out) k = getP out k := by
    intro k hk hor
    refine foldl_applyCall_keep points k calls out (by omega) fun c hc => Bool.eq_false_iff.mpr fun hcv => ?_
    obtain ⟨a, b, c0, _⟩ := hB c hc k hcv
    rcases hor with h | h
    · exact h ⟨a, b⟩
    · rw [show has.getD k false = false from c0] at h; cases h
  refine ⟨by rw [foldl_applyCall_length, hl], fun k hk => hkeep k (by omega) (Or.inl (by omega)),
    fun k h1 h2 => ?_, fun k h1 h2 => by rw [hkeep k h2 (Or.inl (by omega))]; exact hw k (by omega) h2⟩
  cases hh : has.getD k false with
  | true =>
    -- an explicit point holds its working value, which is exact
    rw [hkeep k (by omega) (Or.inr hh), inferSpec_kept _ _ _ _ ((H_drop_sub has h1).trans hh),
      getP_slice ex p _ h1 (by omega), hwk k h1 (by omega)]
    exact Near_exact _ _ _
  | false =>
    by_cases hany : ∃ j, p ≤ j ∧ j ≤ e ∧ H has j = true
    swap
    · -- no explicit delta in the contour: no calls, and the specification infers zero
      have hnone : ∀ j, p ≤ j → j ≤ e → has.getD j false = false := fun j h1 h2 =>
        Bool.eq_false_iff.mpr fun hh => hany ⟨j, h1, h2, hh⟩
      rw [hA hnone, List.foldl_nil, inferSpec_none _ _ _ _ (by rw [hdl]; omega)
        (fun j hj => by rw [hdl] at hj; exact (H_drop has p j).trans (hnone _ (by omega) (by omega))),
        hwk k h1 (by omega), hex0 k hh]
      exact Near_exact 0 0 _
    obtain ⟨c, hc, hcv⟩ := hC k h1 h2 hh hany
    obtain ⟨_, _, g1, g2, g3⟩ := hB c hc k hcv
    rcases hshape with rfl | ⟨r, rfl, hr1, hr2, hrt⟩ | hinterp
    · cases hc
    · -- a single explicit point: the contour is shifted by its delta
      cases List.mem_singleton.mp hc
      have hkr : k ≠ r := fun h => by rw [h, show has.getD r false = true from hrt] at hh; cases hh
      simp only [List.foldl_cons, List.foldl_nil]
      rw [inferSpec_slice_refs points ex has p e k r r (by omega) h1 h2 hr1 hr2 hr1 hr2 g1 g2 g3,
        iupPoint_same,
        applyCall_shift_value points ex out M E hr p e r k (by omega) (by omega) (by omega) h1 h2 hkr
          (hw r (by omega) (by omega)) (hw k h1 (by omega)) (hex0 k hh)]
      exact Near_exact _ _ _
    · -- interpolate calls only: every written point lies between its two references
      let refs : Nat → Nat × Nat := fun k =>
        (p + (prevReq (has.drop p) (e - p + 1) (k - p)).getD 0, p + (nextReq (has.drop p) (e - p + 1) (k - p)).getD 0)
      have hrefs : ∀ c ∈ calls, ∀ k, covers c k = true →
          has.getD k false = false ∧ refs k = (c.r1, c.r2) := fun c hc k hcv => by
        obtain ⟨_, _, k0, g4, g5⟩ := hB c hc k hcv
        obtain ⟨_, _, _, m1, _, m3, _⟩ := hinterp c hc
        exact ⟨k0, by simp only [refs, g4, g5, Option.getD_some]; congr 1 <;> omega⟩
      have fv := foldl_applyCall_interp points has refs out (by rw [hhl, hl]) calls
        (fun c hc => ⟨(hinterp c hc).1, fun _ => ⟨(hinterp c hc).2.1, (hinterp c hc).2.2.1⟩, hrefs c hc⟩)
      obtain ⟨_, _, _, m1, m2, m3, m4⟩ := hinterp c hc
      rw [fv k (by omega) (List.any_eq_true.mpr ⟨c, hc, hcv⟩), (hrefs c hc k hcv).2,
        inferSpec_slice_refs points ex has p e k c.r1 c.r2 (by omega) h1 h2 m1 m2 m3 m4 g1 g2 g3,
        interpValue_congr points out (workOf points ex) c.r1 c.r2 k (hw _ (by omega) (by omega))
          (hw _ (by omega) (by omega)) (hw k h1 (by omega))]
      simp only [iupPoint, ← readerAxis_eq_iupAxis]
      exact interpValue_near points ex M E hr c.r1 c.r2 k (by omega) (by omega) (by omega) (hex0 k hh)

end FontVerif.GvarApply
