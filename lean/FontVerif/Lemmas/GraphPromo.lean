/-
Helper lemmas for C05 (Model/Graph.lean): extension promotion (`actually_promote_subtables`), for ANY selection: what the
promoted graph looks like relative to the graph before (`PromoStep`, `PromoInv`); every lookup keeps its reader's view
through extension indirection (`lookupView`); the remaining fresh ids stay unused and the objects well formed, so that the
rest of `pack_objects` runs through the simulation argument.
-/
import FontVerif.Model.Graph
import FontVerif.Lemmas.GraphSimPack
namespace FontVerif.Graph

theorem obj_addObject (g : Graph) (id : Nat) (o : Obj) (x : Nat) :
    (addObject g id o).obj x = if id = x then o else g.obj x :=
  obj_insert g (addObject g id o) id o rfl x

theorem node_addObject (g : Graph) (id : Nat) (o : Obj) (x : Nat) :
    (addObject g id o).node x = if id = x then Node.new o.size else g.node x :=
  node_insert g (addObject g id o) id (Node.new o.size) rfl x

theorem makeExtension_links (r t : Nat) : (makeExtension r t).links = [⟨4, 4, t, 0⟩] := rfl

theorem objWF_makeExtension (r t : Nat) : ObjWF (makeExtension r t) := by
  constructor
  · intro l hl
    rw [makeExtension_links] at hl
    simp only [List.mem_singleton] at hl
    subst hl
    simp [makeExtension]
  · rw [makeExtension_links]
    exact List.pairwise_singleton _ _

theorem writeOverU16_some (o o' : Obj) (v : Nat) (h : writeOverU16 o v = some o') :
    o'.links = o.links ∧ o'.bytes.drop 2 = o.bytes.drop 2 ∧ o'.bytes.length = o.bytes.length := by
  unfold writeOverU16 at h
  split at h
  · simp at h
  · split at h
    · simp only [Option.some.injEq] at h; subst h; exact ⟨rfl, rfl, rfl⟩
    · simp only [Option.some.injEq] at h; subst h
      rename_i h1 h2
      refine ⟨rfl, by simp, ?_⟩
      simp only [List.length_append, List.length_cons, List.length_nil, List.length_drop] at h2 ⊢
      omega

/-- the extension lookup type of the table a lookup type belongs to -/
def TType.extRaw : TType → Nat
  | .gpos _ => 9
  | .gsub _ => 7
  | .other => 0

/-- same table (GPOS / GSUB) -/
def TType.sameKind : TType → TType → Prop
  | .gpos _, .gpos _ => True
  | .gsub _, .gsub _ => True
  | .other, .other => True
  | _, _ => False

theorem TType.promote?_spec (t pt : TType) (raw : Nat) (hraw : t.raw? = some raw) (hpt : t.promote? = some pt) :
    raw ≠ t.extRaw ∧ pt.raw? = some t.extRaw ∧ t.sameKind pt := by
  cases t with
  | other => simp [TType.raw?] at hraw
  | gpos n =>
    simp only [TType.raw?, Option.some.injEq] at hraw
    simp only [TType.promote?, Option.ite_none_left_eq_some, Option.some.injEq] at hpt
    obtain ⟨hne, rfl⟩ := hpt
    exact ⟨hraw ▸ hne, rfl, trivial⟩
  | gsub n =>
    simp only [TType.raw?, Option.some.injEq] at hraw
    simp only [TType.promote?, Option.ite_none_left_eq_some, Option.some.injEq] at hpt
    obtain ⟨hne, rfl⟩ := hpt
    exact ⟨hraw ▸ hne, rfl, trivial⟩

theorem sameKind_extRaw (a b : TType) (h : a.sameKind b) : a.extRaw = b.extRaw := by
  cases a <;> cases b <;> simp_all [TType.sameKind, TType.extRaw]

theorem promote_none_of_ext (t : TType) (h : t.raw? = some t.extRaw) : t.promote? = none := by
  cases t with
  | other => rfl
  | gpos n => simp only [TType.raw?, TType.extRaw, Option.some.injEq] at h; simp [TType.promote?, h]
  | gsub n => simp only [TType.raw?, TType.extRaw, Option.some.injEq] at h; simp [TType.promote?, h]

theorem typeOf_insert (tg tg' : TGraph) (id : Nat) (pt : TType) (h : tg'.types = tg.types.insert id pt) (x : Nat) :
    tg'.typeOf x = if id = x then pt else tg.typeOf x := by
  unfold TGraph.typeOf
  simp only [h, Map.find?_insert]
  split <;> rfl

theorem promoteOne_some (tg : TGraph) (fresh : List Nat) (id : Nat) (tg' : TGraph) (fresh' : List Nat)
    (h : promoteOne tg fresh id = some (tg', fresh')) :
    ∃ lookup raw links g1 pt praw lookup',
      tg.g.objects.find? id = some lookup ∧ (tg.typeOf id).raw? = some raw ∧
      lookup.links.foldl (promoteLink raw) (some ([], { tg.g with objects := Map.erase tg.g.objects id }, fresh))
        = some (links, g1, fresh') ∧
      (tg.typeOf id).promote? = some pt ∧ pt.raw? = some praw ∧
      writeOverU16 { lookup with links := links } praw = some lookup' ∧
      tg' = { g := { g1 with objects := g1.objects.insert id lookup' }, types := tg.types.insert id pt } := by
  unfold promoteOne at h
  split at h
  · simp at h
  · rename_i lookup hlook
    split at h
    · simp at h
    · rename_i raw hraw
      simp only [] at h
      split at h
      · simp at h
      · rename_i links g1 fr1 hfold
        split at h
        · simp at h
        · rename_i pt hpt
          split at h
          · simp at h
          · rename_i praw hpraw
            split at h
            · simp at h
            · rename_i lookup' hwo
              simp only [Option.some.injEq, Prod.mk.injEq] at h
              obtain ⟨rfl, rfl⟩ := h
              exact ⟨lookup, raw, links, g1, pt, praw, lookup', hlook, hraw, hfold, hpt, hpraw, hwo, rfl⟩

theorem promoteOne_present (tg : TGraph) (fresh : List Nat) (id : Nat) (r : TGraph × List Nat)
    (h : promoteOne tg fresh id = some r) :
    tg.g.objects.find? id ≠ none ∧ (tg.typeOf id).raw? ≠ none ∧ (tg.typeOf id).promote? ≠ none := by
  obtain ⟨_, _⟩ := r
  obtain ⟨lookup, raw, _, _, pt, _, _, hlook, hraw, _, hpt, _⟩ := promoteOne_some tg fresh id _ _ h
  exact ⟨by rw [hlook]; simp, by rw [hraw]; simp, by rw [hpt]; simp⟩

/-- the `for subtable_ref in &mut lookup.offsets` loop: one fresh id per link, an extension object
behind each, everything else untouched -/
theorem promoteFold_spec (raw : Nat) (links : List Link) (ls : List Link) (g : Graph) (fresh : List Nat)
    (ls' : List Link) (g' : Graph) (fresh' : List Nat) (hnd : fresh.Nodup)
    (h : links.foldl (promoteLink raw) (some (ls, g, fresh)) = some (ls', g', fresh')) :
    ∃ new, ls' = ls ++ new ∧ fresh' <:+ fresh ∧
      (∀ x, (x ∉ fresh ∨ x ∈ fresh') → g'.obj x = g.obj x ∧ g'.node x = g.node x ∧
        g'.objects.find? x = g.objects.find? x) ∧
      new.map (fun l' => (l'.pos, l'.width, l'.adj, g'.obj l'.target)) =
        links.map (fun l => (l.pos, l.width, l.adj, makeExtension raw l.target)) ∧
      (∀ l' ∈ new, l'.target ∈ fresh ∧ l'.target ∉ fresh') ∧
      (∀ x, x ∈ fresh → x ∉ fresh' → g'.node x = Node.new 8 ∧ ∃ t, g'.obj x = makeExtension raw t ∧ ∃ l ∈ links, l.target = t) ∧
      g'.root = g.root := by
  induction links generalizing ls g fresh with
  | nil =>
    simp only [List.foldl_nil, Option.some.injEq, Prod.mk.injEq] at h
    obtain ⟨rfl, rfl, rfl⟩ := h
    exact ⟨[], by simp, List.suffix_refl _, fun x _ => ⟨rfl, rfl, rfl⟩, rfl, by simp, fun x h1 h2 => absurd h1 h2, rfl⟩
  | cons l rest ih =>
    simp only [List.foldl_cons] at h
    cases fresh with
    | nil =>
      simp only [promoteLink] at h
      rw [foldl_none _ (fun _ => rfl)] at h
      simp at h
    | cons e fr1 =>
      simp only [promoteLink] at h
      rw [List.nodup_cons] at hnd
      obtain ⟨new, hls, hsuf, hframe, hmap, hnew, hext, hroot⟩ := ih _ _ fr1 hnd.2 h
      have he' : e ∉ fresh' := fun hm => hnd.1 (hsuf.subset hm)
      have hge : g'.obj e = makeExtension raw l.target := by
        rw [(hframe e (Or.inl hnd.1)).1, obj_addObject]; simp
      refine ⟨{ l with target := e } :: new, by rw [hls]; simp, hsuf.trans (List.suffix_cons _ _), ?_, ?_, ?_, ?_, hroot⟩
      · intro x hx
        have hx1 : x ∉ fr1 ∨ x ∈ fresh' := by
          rcases hx with hx | hx
          · left; exact fun hm => hx (List.mem_cons_of_mem _ hm)
          · right; exact hx
        have hne : e ≠ x := by
          rintro rfl
          rcases hx with hx | hx
          · exact hx List.mem_cons_self
          · exact he' hx
        obtain ⟨f1, f2, f3⟩ := hframe x hx1
        refine ⟨?_, ?_, ?_⟩
        · rw [f1, obj_addObject, if_neg hne]
        · rw [f2, node_addObject, if_neg hne]
        · rw [f3]
          show (g.objects.insert e _).find? x = _
          rw [Map.find?_insert, if_neg hne]
      · simp only [List.map_cons, List.cons.injEq]
        exact ⟨by rw [hge], hmap⟩
      · intro l' hl'
        rcases List.mem_cons.mp hl' with rfl | hl'
        · exact ⟨List.mem_cons_self, he'⟩
        · exact ⟨List.mem_cons_of_mem _ (hnew l' hl').1, (hnew l' hl').2⟩
      · intro x hx hx'
        rcases List.mem_cons.mp hx with rfl | hx
        · refine ⟨?_, l.target, hge, l, List.mem_cons_self, rfl⟩
          rw [(hframe x (Or.inl hnd.1)).2.1, node_addObject]; simp [makeExtension]
        · obtain ⟨n1, t, ht, l0, hl0, hl0t⟩ := hext x hx hx'
          exact ⟨n1, t, ht, l0, List.mem_cons_of_mem _ hl0, hl0t⟩

/-- what one `for id in to_promote` iteration does -/
structure PromoStep (tg : TGraph) (fresh : List Nat) (id : Nat) (tg' : TGraph) (fresh' : List Nat) : Prop where
  suffix : fresh' <:+ fresh
  frame : ∀ x, x ≠ id → (x ∉ fresh ∨ x ∈ fresh') →
    tg'.g.obj x = tg.g.obj x ∧ tg'.g.node x = tg.g.node x ∧ tg'.g.objects.find? x = tg.g.objects.find? x
  present : tg.g.objects.find? id ≠ none ∧ tg'.g.objects.find? id ≠ none
  nodeId : tg'.g.node id = tg.g.node id
  raw : ∃ r, (tg.typeOf id).raw? = some r ∧ r ≠ (tg.typeOf id).extRaw ∧
    (tg'.typeOf id).raw? = some (tg.typeOf id).extRaw ∧ (tg.typeOf id).sameKind (tg'.typeOf id) ∧
    (tg'.g.obj id).links.map (fun l' => (l'.pos, l'.width, l'.adj, tg'.g.obj l'.target)) =
      (tg.g.obj id).links.map (fun l => (l.pos, l.width, l.adj, makeExtension r l.target)) ∧
    (∀ x, x ∈ fresh → x ∉ fresh' → tg'.g.node x = Node.new 8 ∧
      ∃ t, tg'.g.obj x = makeExtension r t ∧ ∃ l ∈ (tg.g.obj id).links, l.target = t)
  bytes : (tg'.g.obj id).bytes.drop 2 = (tg.g.obj id).bytes.drop 2
  blen : (tg'.g.obj id).bytes.length = (tg.g.obj id).bytes.length
  newTargets : ∀ l' ∈ (tg'.g.obj id).links, l'.target ∈ fresh ∧ l'.target ∉ fresh'
  types : ∀ x, x ≠ id → tg'.typeOf x = tg.typeOf x
  root : tg'.g.root = tg.g.root

theorem promoteOne_spec (tg : TGraph) (fresh : List Nat) (id : Nat) (tg' : TGraph) (fresh' : List Nat)
    (hnd : fresh.Nodup) (hid : id ∉ fresh) (h : promoteOne tg fresh id = some (tg', fresh')) :
    PromoStep tg fresh id tg' fresh' := by
  obtain ⟨lookup, raw, links, g1, pt, praw, lookup', hlook, hraw, hfold, hpt, hpraw, hwo, he⟩ :=
    promoteOne_some tg fresh id tg' fresh' h
  -- `tg'` stays a variable: the fields below are all that is read of it
  have ho : tg'.g.objects = g1.objects.insert id lookup' := by rw [he]
  have hn : tg'.g.nodes = g1.nodes := by rw [he]
  have hr : tg'.g.root = g1.root := by rw [he]
  have ht : tg'.types = tg.types.insert id pt := by rw [he]
  obtain ⟨new, hls, hsuf, hframe, hmap, hnew, hext, hroot⟩ :=
    promoteFold_spec raw lookup.links [] _ fresh links g1 fresh' hnd hfold
  simp only [List.nil_append] at hls
  subst hls
  have hobjid : tg.g.obj id = lookup := obj_of_find hlook
  have hobj' := obj_insert g1 tg'.g id lookup' ho
  have hnode' := node_congr g1 tg'.g hn
  have htype' := typeOf_insert tg tg' id pt ht
  have hobjI : tg'.g.obj id = lookup' := by rw [hobj' id, if_pos rfl]
  have hl' := writeOverU16_some _ lookup' praw hwo
  have hne : ∀ l' ∈ links, id ≠ l'.target := fun l' hl1 he => hid (he ▸ (hnew l' hl1).1)
  have hkind := TType.promote?_spec (tg.typeOf id) pt raw hraw hpt
  constructor
  · exact hsuf
  · intro x hx hfr
    have hne' : ¬ id = x := fun e => hx e.symm
    obtain ⟨f1, f2, f3⟩ := hframe x hfr
    refine ⟨?_, ?_, ?_⟩
    · rw [hobj' x, if_neg hne', f1]
      simp only [Graph.obj, Map.find?_erase, hx, ↓reduceIte]
    · rw [hnode' x, f2]
      rfl
    · rw [ho, Map.find?_insert, if_neg hne', f3, Map.find?_erase, if_neg hx]
  · refine ⟨by rw [hlook]; simp, ?_⟩
    rw [ho, Map.find?_insert]; simp
  · rw [hnode' id, (hframe id (Or.inl hid)).2.1]
    rfl
  · refine ⟨raw, hraw, hkind.1, ?_, ?_, ?_, ?_⟩
    · rw [htype' id, if_pos rfl]; exact hkind.2.1
    · rw [htype' id, if_pos rfl]; exact hkind.2.2
    · rw [hobjI, hl'.1, hobjid, ← hmap]
      apply List.map_congr_left
      intro l1 hl1
      rw [hobj' l1.target, if_neg (hne l1 hl1)]
    · intro x hx hx'
      obtain ⟨n1, t, ht, l0, hl0, hl0t⟩ := hext x hx hx'
      refine ⟨(hnode' x).trans n1, t, ?_, l0, by rw [hobjid]; exact hl0, hl0t⟩
      rw [hobj' x, if_neg fun e : id = x => hid (e ▸ hx)]
      exact ht
  · rw [hobjI, hl'.2.1, hobjid]
  · rw [hobjI, hl'.2.2, hobjid]
  · rw [hobjI, hl'.1]
    exact hnew
  · intro x hx
    rw [htype' x, if_neg (fun e => hx e.symm)]
  · exact hr.trans hroot

/-- lookup `id` of `tg0` has been promoted in `tg` -/
structure Promoted (tg0 tg : TGraph) (fr0 fr : List Nat) (id : Nat) : Prop where
  present : tg0.g.objects.find? id ≠ none ∧ tg.g.objects.find? id ≠ none
  nodeId : tg.g.node id = tg0.g.node id
  raw : ∃ r, (tg0.typeOf id).raw? = some r ∧ r ≠ (tg0.typeOf id).extRaw ∧
    (tg.typeOf id).raw? = some (tg0.typeOf id).extRaw ∧ (tg0.typeOf id).sameKind (tg.typeOf id) ∧
    (tg.g.obj id).links.map (fun l' => (l'.pos, l'.width, l'.adj, tg.g.obj l'.target)) =
      (tg0.g.obj id).links.map (fun l => (l.pos, l.width, l.adj, makeExtension r l.target))
  bytes : (tg.g.obj id).bytes.drop 2 = (tg0.g.obj id).bytes.drop 2
  blen : (tg.g.obj id).bytes.length = (tg0.g.obj id).bytes.length
  newTargets : ∀ l' ∈ (tg.g.obj id).links, l'.target ∈ fr0 ∧ l'.target ∉ fr

structure PromoInv (tg0 : TGraph) (fr0 : List Nat) (done : List Nat) (tg : TGraph) (fr : List Nat) : Prop where
  suffix : fr <:+ fr0
  frame : ∀ x, x ∉ done → (x ∉ fr0 ∨ x ∈ fr) →
    tg.g.obj x = tg0.g.obj x ∧ tg.g.node x = tg0.g.node x ∧ tg.g.objects.find? x = tg0.g.objects.find? x ∧
    tg.typeOf x = tg0.typeOf x
  doneOK : ∀ id ∈ done, Promoted tg0 tg fr0 fr id
  consumed : ∀ x, x ∈ fr0 → x ∉ fr → tg.typeOf x = TType.other ∧ tg.g.node x = Node.new 8 ∧
    ∃ r t, tg.g.obj x = makeExtension r t ∧ ∃ y, ∃ l ∈ (tg0.g.obj y).links, l.target = t
  root : tg.g.root = tg0.g.root

structure PromoHyp (tg0 : TGraph) (fr0 : List Nat) : Prop where
  nodup : fr0.Nodup
  unused : ∀ n ∈ fr0, Unused tg0.g n
  typed : ∀ x, tg0.typeOf x ≠ TType.other → tg0.g.objects.find? x ≠ none

theorem promoInv_init (tg0 : TGraph) (fr0 : List Nat) : PromoInv tg0 fr0 [] tg0 fr0 :=
  ⟨List.suffix_refl _, fun x _ _ => ⟨rfl, rfl, rfl, rfl⟩, fun id h => by simp at h,
    fun x h1 h2 => absurd h1 h2, rfl⟩

theorem promoInv_step (tg0 : TGraph) (fr0 : List Nat) (hh : PromoHyp tg0 fr0) (done : List Nat) (tg : TGraph)
    (fr : List Nat) (id : Nat) (tg' : TGraph) (fr' : List Nat) (hinv : PromoInv tg0 fr0 done tg fr)
    (h : promoteOne tg fr id = some (tg', fr')) : PromoInv tg0 fr0 (id :: done) tg' fr' := by
  obtain ⟨hpres, hrawne, hpromne⟩ := promoteOne_present tg fr id _ h
  have hfrnd : fr.Nodup := hh.nodup.sublist hinv.suffix.sublist
  -- `id` is neither done nor a fresh id
  have hnotdone : id ∉ done := by
    intro hd
    obtain ⟨r, _, _, hr3, hk, _⟩ := (hinv.doneOK id hd).raw
    apply hpromne
    apply promote_none_of_ext
    rw [hr3, sameKind_extRaw _ _ hk]
  have hnotfr0 : id ∉ fr0 := by
    intro hm
    by_cases hf : id ∈ fr
    · have := (hinv.frame id hnotdone (Or.inr hf)).2.2.1
      rw [this] at hpres
      exact hpres (hh.unused id hm).1
    · have := (hinv.consumed id hm hf).1
      rw [this] at hrawne
      exact hrawne rfl
  have hnotfr : id ∉ fr := fun hm => hnotfr0 (hinv.suffix.subset hm)
  have hstep := promoteOne_spec tg fr id tg' fr' hfrnd hnotfr h
  obtain ⟨f1, f2, f3, f4⟩ := hinv.frame id hnotdone (Or.inl hnotfr0)
  constructor
  · exact hstep.suffix.trans hinv.suffix
  · intro x hx hfr
    have hxid : x ≠ id := fun e => hx (e ▸ List.mem_cons_self)
    have hxd : x ∉ done := fun hm => hx (List.mem_cons_of_mem _ hm)
    have hc1 : x ∉ fr ∨ x ∈ fr' := by
      rcases hfr with h1 | h1
      · left; exact fun hm => h1 (hinv.suffix.subset hm)
      · right; exact h1
    have hc2 : x ∉ fr0 ∨ x ∈ fr := by
      rcases hfr with h1 | h1
      · left; exact h1
      · right; exact hstep.suffix.subset h1
    obtain ⟨s1, s2, s3⟩ := hstep.frame x hxid hc1
    obtain ⟨o1, o2, o3, o4⟩ := hinv.frame x hxd hc2
    exact ⟨s1.trans o1, s2.trans o2, s3.trans o3, (hstep.types x hxid).trans o4⟩
  · intro id' hid'
    rcases List.mem_cons.mp hid' with rfl | hid'
    · obtain ⟨r, r1, r2, r3, r4, r5, _⟩ := hstep.raw
      constructor
      · rw [← f3]; exact hstep.present
      · rw [hstep.nodeId, f2]
      · refine ⟨r, by rw [← f4]; exact r1, by rw [← f4]; exact r2, by rw [← f4]; exact r3, by rw [← f4]; exact r4, ?_⟩
        rw [r5, f1]
      · rw [hstep.bytes, f1]
      · rw [hstep.blen, f1]
      · intro l' hl'
        obtain ⟨n1, n2⟩ := hstep.newTargets l' hl'
        exact ⟨hinv.suffix.subset n1, n2⟩
    · have hp := hinv.doneOK id' hid'
      have hne : id' ≠ id := fun e => hnotdone (e ▸ hid')
      have hid'fr0 : id' ∉ fr0 := fun hm => hp.present.1 (hh.unused id' hm).1
      obtain ⟨s1, s2, s3⟩ := hstep.frame id' hne (Or.inl (fun hm => hid'fr0 (hinv.suffix.subset hm)))
      obtain ⟨r, r1, r2, r3, r4, r5⟩ := hp.raw
      constructor
      · rw [s3]; exact hp.present
      · rw [s2]; exact hp.nodeId
      · refine ⟨r, r1, r2, by rw [hstep.types id' hne]; exact r3, by rw [hstep.types id' hne]; exact r4, ?_⟩
        rw [s1, ← r5]
        apply List.map_congr_left
        intro l' hl'
        obtain ⟨n1, n2⟩ := hp.newTargets l' hl'
        have : l'.target ≠ id := fun e => hnotfr0 (e ▸ n1)
        rw [(hstep.frame l'.target this (Or.inl n2)).1]
      · rw [s1]; exact hp.bytes
      · rw [s1]; exact hp.blen
      · intro l' hl'
        rw [s1] at hl'
        obtain ⟨n1, n2⟩ := hp.newTargets l' hl'
        exact ⟨n1, fun hm => n2 (hstep.suffix.subset hm)⟩
  · intro x hx hx'
    have hxid : x ≠ id := fun e => hnotfr0 (e ▸ hx)
    by_cases hf : x ∈ fr
    · -- consumed in this step
      obtain ⟨r, _, _, _, _, _, r6⟩ := hstep.raw
      obtain ⟨n1, t, ht, l, hl, hlt⟩ := r6 x hf hx'
      refine ⟨?_, n1, r, t, ht, id, l, by rw [← f1]; exact hl, hlt⟩
      rw [hstep.types x hxid, (hinv.frame x (fun hd => (hinv.doneOK x hd).present.1 (hh.unused x hx).1) (Or.inr hf)).2.2.2]
      cases hty : tg0.typeOf x with
      | other => rfl
      | gpos t' => exact absurd (hh.unused x hx).1 (hh.typed x (by rw [hty]; simp))
      | gsub t' => exact absurd (hh.unused x hx).1 (hh.typed x (by rw [hty]; simp))
    · obtain ⟨c1, c2, r, t, c3, c4⟩ := hinv.consumed x hx hf
      obtain ⟨s1, s2, _⟩ := hstep.frame x hxid (Or.inl hf)
      exact ⟨by rw [hstep.types x hxid]; exact c1, by rw [s2]; exact c2, r, t, by rw [s1]; exact c3, c4⟩
  · rw [hstep.root, hinv.root]

theorem promoFold_inv (tg0 : TGraph) (fr0 : List Nat) (hh : PromoHyp tg0 fr0) (sel : List Nat) (done : List Nat)
    (tg : TGraph) (fr : List Nat) (tg' : TGraph) (fr' : List Nat) (hinv : PromoInv tg0 fr0 done tg fr)
    (h : sel.foldl (fun (acc : Option (TGraph × List Nat)) id =>
      match acc with
      | none => none
      | some (tg, fresh) => promoteOne tg fresh id) (some (tg, fr)) = some (tg', fr')) :
    ∃ done', PromoInv tg0 fr0 done' tg' fr' := by
  refine foldl_some_induct _ (fun _ => rfl) (fun r => ∃ done', PromoInv tg0 fr0 done' r.1 r.2) sel ?_
    (tg, fr) (tg', fr') ⟨done, hinv⟩ h
  intro ⟨tg1, fr1⟩ id ⟨tg2, fr2⟩ _ ⟨done1, hinv1⟩ hstep
  exact ⟨id :: done1, promoInv_step tg0 fr0 hh done1 tg1 fr1 id tg2 fr2 hinv1 hstep⟩

theorem actuallyPromote_inv (tg tg' : TGraph) (sel fresh fresh' : List Nat) (hh : PromoHyp tg fresh)
    (h : actuallyPromote tg sel fresh = some (tg', fresh')) :
    ∃ done tg1, PromoInv tg fresh done tg1 fresh' ∧ tg'.g.objects = tg1.g.objects ∧ tg'.g.nodes = tg1.g.nodes ∧
      tg'.types = tg1.types ∧ tg'.g.root = tg1.g.root := by
  unfold actuallyPromote at h
  split at h
  · simp at h
  · rename_i tg1 fr1 hfold
    simp only [Option.some.injEq, Prod.mk.injEq] at h
    obtain ⟨rfl, rfl⟩ := h
    obtain ⟨done, hinv⟩ := promoFold_inv tg fresh hh sel [] tg fresh tg1 fr1 (promoInv_init tg fresh) hfold
    exact ⟨done, tg1, hinv, rfl, rfl, rfl, rfl⟩

/-- during promotion every id is a promoted lookup, an extension object made for one, or untouched -/
theorem PromoInv.obj_cases {tg0 tg : TGraph} {fr0 done fr : List Nat} (hinv : PromoInv tg0 fr0 done tg fr) (x : Nat) :
    Promoted tg0 tg fr0 fr x ∨
    (tg.g.node x = Node.new 8 ∧ ∃ r t, tg.g.obj x = makeExtension r t ∧ ∃ y, ∃ l ∈ (tg0.g.obj y).links, l.target = t) ∨
    (tg.g.obj x = tg0.g.obj x ∧ tg.g.node x = tg0.g.node x) := by
  by_cases hd : x ∈ done
  · exact .inl (hinv.doneOK x hd)
  · by_cases h1 : x ∈ fr0
    · by_cases h2 : x ∈ fr
      · exact .inr (.inr ⟨(hinv.frame x hd (.inr h2)).1, (hinv.frame x hd (.inr h2)).2.1⟩)
      · exact .inr (.inl (hinv.consumed x h1 h2).2)
    · exact .inr (.inr ⟨(hinv.frame x hd (.inl h1)).1, (hinv.frame x hd (.inl h1)).2.1⟩)

theorem promoInv_unused (tg0 : TGraph) (fr0 : List Nat) (hh : PromoHyp tg0 fr0) (done : List Nat) (tg : TGraph)
    (fr : List Nat) (hinv : PromoInv tg0 fr0 done tg fr) : ∀ n ∈ fr, Unused tg.g n := by
  intro n hn
  obtain ⟨u1, u2, u3⟩ := hh.unused n (hinv.suffix.subset hn)
  have hnd : n ∉ done := fun hd => (hinv.doneOK n hd).present.1 u1
  refine ⟨by rw [(hinv.frame n hnd (Or.inr hn)).2.2.1]; exact u1, fun x l hl => ?_, fun x p hp => ?_⟩
  · rcases hinv.obj_cases x with hp | ⟨_, r, t, ho, y, l0, hl0, hl0t⟩ | ⟨ho, _⟩
    · exact fun he => (hp.newTargets l hl).2 (he ▸ hn)
    · rw [ho, makeExtension_links, List.mem_singleton] at hl
      rw [hl]
      exact hl0t ▸ u2 y l0 hl0
    · exact u2 x l (ho ▸ hl)
  · rcases hinv.obj_cases x with hpr | ⟨hnode, _⟩ | ⟨_, hnode⟩
    · exact u3 x p (hpr.nodeId ▸ hp)
    · rw [hnode] at hp; exact absurd hp List.not_mem_nil
    · exact u3 x p (hnode ▸ hp)

theorem promote_freshFor (tg tg' : TGraph) (sel fresh fresh' : List Nat) (hh : PromoHyp tg fresh)
    (hroot : tg.g.root ∉ fresh) (h : actuallyPromote tg sel fresh = some (tg', fresh')) :
    FreshFor tg'.g fresh' := by
  obtain ⟨done, tg1, hinv, ho, hn, ht, hr⟩ := actuallyPromote_inv tg tg' sel fresh fresh' hh h
  refine ⟨hh.nodup.sublist hinv.suffix.sublist, ?_, ?_⟩
  · rw [hr, hinv.root]
    exact fun hm => hroot (hinv.suffix.subset hm)
  · intro n hn'
    exact unused_congr tg1.g tg'.g ho hn n (promoInv_unused tg fresh hh done tg1 fresh' hinv n hn')

theorem promote_wf (tg tg' : TGraph) (sel fresh fresh' : List Nat) (hh : PromoHyp tg fresh)
    (hwf : ∀ id o, tg.g.objects.find? id = some o → ObjWF o)
    (h : actuallyPromote tg sel fresh = some (tg', fresh')) :
    ∀ id o, tg'.g.objects.find? id = some o → ObjWF o := by
  obtain ⟨done, tg1, hinv, ho, hn, ht, hr⟩ := actuallyPromote_inv tg tg' sel fresh fresh' hh h
  intro x o hfo
  rw [ho] at hfo
  rw [← obj_of_find hfo]
  rcases hinv.obj_cases x with hp | ⟨_, r, t, hox, _⟩ | ⟨hox, _⟩
  · obtain ⟨r, _, _, _, _, r5⟩ := hp.raw
    apply objWF_len _ (tg.g.obj x) hp.blen ?_ (objWF_obj tg.g hwf x)
    have := congrArg (List.map (fun (q : Nat × Nat × Nat × Obj) => (q.1, q.2.1, q.2.2.1))) r5
    simpa [fieldsOf, List.map_map, Function.comp_def] using this
  · rw [hox]
    exact objWF_makeExtension r t
  · rw [hox]
    exact objWF_obj tg.g hwf x

/-- read an object as an extension subtable `{u16 format = 1, u16 extensionLookupType, Offset32}`:
the lookup type it announces and the object behind its offset -/
def extView (o : Obj) : Option (Nat × Nat) :=
  match o.bytes, o.links with
  | [0, 1, hi, lo, _, _, _, _], [el] =>
    if el.pos = 4 ∧ el.width = 4 ∧ el.adj = 0 then some (hi * 256 + lo, el.target) else none
  | _, _ => none

/-- resolve one subtable offset of a lookup whose lookup type is `t` in a table whose extension lookup
type is `ext`: `(effective lookup type, subtable object)` -/
def subtableOf (g : Graph) (ext t : Nat) (l : Link) : Option (Nat × Nat) :=
  if t ≠ ext then some (t, l.target) else extView (g.obj l.target)

/-- a lookup as a reader sees it: its table (GPOS/GSUB, via the extension type), its bytes after the
lookup type field, and per subtable offset (position, width, adjustment) the effective lookup type
and the unfolding of the subtable, extension subtables being looked through -/
def lookupView (tg : TGraph) (fuel : Nat) (id : Nat) :
    Option (Nat × List Nat × List (Nat × Nat × Nat × Option (Nat × Tree))) :=
  match (tg.typeOf id).raw? with
  | none => none
  | some t =>
    let ext := (tg.typeOf id).extRaw
    some (ext, (tg.g.obj id).bytes.drop 2,
      (tg.g.obj id).links.map (fun l => (l.pos, l.width, l.adj,
        (subtableOf tg.g ext t l).map (fun p => (p.1, unfold tg.g fuel p.2)))))

theorem extView_makeExtension (r t : Nat) (hr : r < 65536) : extView (makeExtension r t) = some (r, t) := by
  unfold extView makeExtension
  simp only [and_self, ↓reduceIte, Option.some.injEq, Prod.mk.injEq, and_true]
  omega

theorem extView_some (o : Obj) (p : Nat × Nat) (h : extView o = some p) : ∃ el ∈ o.links, el.target = p.2 := by
  unfold extView at h
  split at h
  · rename_i hi lo b1 b2 b3 b4 el hb hl1
    split at h
    · simp only [Option.some.injEq] at h
      exact ⟨el, by rw [hl1]; simp, by rw [← h]⟩
    · simp at h
  · simp at h

theorem unfold_congr_reach (g' g : Graph) (fuel : Nat) (s : Nat) (h : ∀ y, Reach g s y → g'.obj y = g.obj y) :
    unfold g' fuel s = unfold g fuel s := by
  induction fuel generalizing s with
  | zero => rfl
  | succ n ih =>
    simp only [unfold]
    rw [h s (Reach.refl s)]
    congr 1
    apply List.map_congr_left
    intro l hl
    apply ih
    intro y hy
    apply h
    exact (Reach.step l (Reach.refl s) hl).trans hy

theorem unfold_objects_congr (g' g : Graph) (h : g'.objects = g.objects) (fuel x : Nat) :
    unfold g' fuel x = unfold g fuel x :=
  unfold_congr_reach g' g fuel x (fun y _ => obj_congr g g' h y)

/-- the subtable a link resolves to is itself the target of a link, and can be reached from the link's target -/
theorem subtableOf_some (g : Graph) (ext t x : Nat) (l : Link) (p : Nat × Nat) (hl : l ∈ (g.obj x).links)
    (h : subtableOf g ext t l = some p) : (∃ y, ∃ l' ∈ (g.obj y).links, l'.target = p.2) ∧ Reach g l.target p.2 := by
  unfold subtableOf at h
  split at h
  · cases h
    exact ⟨⟨x, l, hl, rfl⟩, Reach.refl _⟩
  · obtain ⟨el, hel, helt⟩ := extView_some _ p h
    exact ⟨⟨l.target, el, hel, helt⟩, helt ▸ Reach.step el (Reach.refl _) hel⟩

/-- `lookupView` reads the type and the object of the lookup, the objects behind its links, and what unfolds below the
subtables these resolve to -/
theorem lookupView_congr_of (a b : TGraph) (fuel id : Nat) (hty : a.typeOf id = b.typeOf id)
    (ho : a.g.obj id = b.g.obj id) (hl : ∀ l ∈ (b.g.obj id).links, a.g.obj l.target = b.g.obj l.target)
    (hu : ∀ l ∈ (b.g.obj id).links, ∀ ext t p, subtableOf b.g ext t l = some p →
      unfold a.g fuel p.2 = unfold b.g fuel p.2) :
    lookupView a fuel id = lookupView b fuel id := by
  unfold lookupView
  rw [hty, ho]
  cases (b.typeOf id).raw? with
  | none => rfl
  | some t =>
    simp only []
    congr 3
    apply List.map_congr_left
    intro l hlm
    have : subtableOf a.g (b.typeOf id).extRaw t l = subtableOf b.g (b.typeOf id).extRaw t l := by
      unfold subtableOf
      rw [hl l hlm]
    rw [this]
    cases hst : subtableOf b.g (b.typeOf id).extRaw t l with
    | none => rfl
    | some p => simp only [Option.map_some, hu l hlm _ t p hst]

theorem lookupView_congr (a b : TGraph) (ho : a.g.objects = b.g.objects) (ht : a.types = b.types) (fuel id : Nat) :
    lookupView a fuel id = lookupView b fuel id :=
  lookupView_congr_of a b fuel id (by unfold TGraph.typeOf; rw [ht]) (obj_congr b.g a.g ho id)
    (fun l _ => obj_congr b.g a.g ho _) (fun _ _ _ _ p _ => unfold_objects_congr a.g b.g ho fuel p.2)

theorem promote_preserves_views (tg tg' : TGraph) (sel fresh fresh' : List Nat)
    (hh : PromoHyp tg fresh)
    (hu16 : ∀ x r, (tg.typeOf x).raw? = some r → r < 65536)
    (hsub : ∀ id, tg.typeOf id ≠ TType.other → ∀ l ∈ (tg.g.obj id).links, ∀ y, Reach tg.g l.target y →
      tg.typeOf y = TType.other)
    (h : actuallyPromote tg sel fresh = some (tg', fresh')) :
    (∀ id fuel, tg.typeOf id ≠ TType.other → lookupView tg' fuel id = lookupView tg fuel id) ∧
    (∀ x, tg.typeOf x = TType.other → x ∉ fresh → tg'.g.obj x = tg.g.obj x) ∧
    tg'.g.root = tg.g.root := by
  obtain ⟨done, tg1, hinv, ho, _, ht, hr⟩ := actuallyPromote_inv tg tg' sel fresh fresh' hh h
  have hdone_typed : ∀ y, y ∈ done → tg.typeOf y ≠ TType.other := by
    intro y hd he
    obtain ⟨r, r1, _⟩ := (hinv.doneOK y hd).raw
    rw [he] at r1
    simp [TType.raw?] at r1
  -- an untyped link target is untouched
  have hstable : ∀ y, tg.typeOf y = TType.other → (∃ x, ∃ l ∈ (tg.g.obj x).links, l.target = y) →
      tg1.g.obj y = tg.g.obj y := by
    intro y hy ⟨x, l, hl, hlt⟩
    have hnf : y ∉ fresh := fun hm => (hh.unused y hm).2.1 x l hl hlt
    exact (hinv.frame y (fun hd => hdone_typed y hd hy) (Or.inl hnf)).1
  -- hence so is the subtree below a link target from which only untyped objects are reachable
  have hunf : ∀ s, (∃ x, ∃ l ∈ (tg.g.obj x).links, l.target = s) →
      (∀ y, Reach tg.g s y → tg.typeOf y = TType.other) → ∀ fuel, unfold tg1.g fuel s = unfold tg.g fuel s := by
    intro s hs hty fuel
    refine unfold_congr_reach _ _ fuel s (fun y hy => hstable y (hty y hy) ?_)
    cases hy with
    | refl => exact hs
    | step l _ hl => exact ⟨_, l, hl, rfl⟩
  refine ⟨fun id fuel hty => ?_, fun x hx hxf => ?_, hr.trans hinv.root⟩
  · rw [lookupView_congr tg' tg1 ho ht fuel id]
    by_cases hd : id ∈ done
    · have hp := hinv.doneOK id hd
      obtain ⟨r, r1, r2, r3, r4, r5⟩ := hp.raw
      have hr16 := hu16 id r r1
      have hext := sameKind_extRaw _ _ r4
      unfold lookupView
      rw [r3, r1]
      simp only [← hext]
      rw [hp.bytes]
      congr 3
      have e1 : (tg1.g.obj id).links.map (fun l => (l.pos, l.width, l.adj,
            (subtableOf tg1.g (tg.typeOf id).extRaw (tg.typeOf id).extRaw l).map
              (fun p => (p.1, unfold tg1.g fuel p.2))))
          = ((tg1.g.obj id).links.map (fun l' => (l'.pos, l'.width, l'.adj, tg1.g.obj l'.target))).map
              (fun q => (q.1, q.2.1, q.2.2.1, (extView q.2.2.2).map (fun p => (p.1, unfold tg1.g fuel p.2)))) := by
        rw [List.map_map]
        apply List.map_congr_left
        intro l _
        simp only [Function.comp, subtableOf, ne_eq, not_true_eq_false, ↓reduceIte]
      rw [e1, r5, List.map_map]
      apply List.map_congr_left
      intro l hl
      simp only [Function.comp, subtableOf, ne_eq, r2, not_false_eq_true, ↓reduceIte, Option.map_some,
        extView_makeExtension r l.target hr16]
      rw [hunf l.target ⟨id, l, hl, rfl⟩ (hsub id hty l hl) fuel]
    · -- not promoted: the lookup object and everything below it are untouched
      have hidf : id ∉ fresh := fun hm => hh.typed id hty (hh.unused id hm).1
      obtain ⟨f1, _, _, f4⟩ := hinv.frame id hd (Or.inl hidf)
      refine lookupView_congr_of tg1 tg fuel id f4 f1
        (fun l hl => hstable l.target (hsub id hty l hl _ (Reach.refl _)) ⟨id, l, hl, rfl⟩) (fun l hl ext t p hst => ?_)
      obtain ⟨hp, hr⟩ := subtableOf_some tg.g ext t id l p hl hst
      exact hunf p.2 hp (fun y hy => hsub id hty l hl y (hr.trans hy)) fuel
  · rw [obj_congr tg1.g tg'.g ho]
    exact (hinv.frame x (fun hd => hdone_typed x hd hx) (Or.inl hxf)).1

/-- **typed `pack_objects` for any selection**: what it packs is the input after promotion, `tgP` — every lookup keeps
its reader's view, non-lookups and the root are untouched, objects stay well formed — and the graph it returns simulates
`tgP.g`; on success it is sorted out. -/
theorem packObjectsWith_spec (sel : TGraph → List Nat → Nat → Option (List Nat)) (tg tg' : TGraph)
    (fresh fresh' : List Nat) (ok : Bool) (hn : 1 < tg.g.nodes.length) (hf : FreshFor tg.g fresh)
    (htyped : ∀ x, tg.typeOf x ≠ TType.other → tg.g.objects.find? x ≠ none)
    (hu16 : ∀ x r, (tg.typeOf x).raw? = some r → r < 65536)
    (hsub : ∀ id, tg.typeOf id ≠ TType.other → ∀ l ∈ (tg.g.obj id).links, ∀ y, Reach tg.g l.target y →
      tg.typeOf y = TType.other)
    (hwf : ∀ id o, tg.g.objects.find? id = some o → ObjWF o)
    (h : packObjectsWith sel tg fresh = some (ok, tg', fresh')) :
    ∃ tgP : TGraph,
      (∀ id fuel, tg.typeOf id ≠ TType.other → lookupView tgP fuel id = lookupView tg fuel id) ∧
      (∀ x, tg.typeOf x = TType.other → x ∉ fresh → tgP.g.obj x = tg.g.obj x) ∧
      tgP.g.root = tg.g.root ∧ (∀ id o, tgP.g.objects.find? id = some o → ObjWF o) ∧
      PInv tgP.g tg'.g fresh' ∧ (ok = true → SortedOut tg'.g) := by
  obtain ⟨hnd, hroot, hun⟩ := hf
  have hp1 : ∀ ok g1, basicSort tg.g = some (ok, g1) → PInv tg.g g1 fresh := fun ok g1 hb =>
    pinv_basicSort tg.g tg.g g1 fresh ok hb (pinv_init tg.g fresh ⟨hnd, hroot, hun⟩)
  rcases packObjectsWith_cases sel tg fresh _ h with ⟨g1, hb, he⟩ | ⟨g1, tg2, fr2, ok3, g3, fr3, hb, hpro, htail, he⟩
  · -- sorted at once: nothing is promoted, `tgP` is the input
    simp only [Prod.mk.injEq] at he
    obtain ⟨rfl, rfl, rfl⟩ := he
    exact ⟨tg, fun _ _ _ => rfl, fun _ _ _ => rfl, rfl, hwf, hp1 true g1 hb,
      fun _ => basicSort_sortedOut tg.g g1 true hn hb⟩
  · simp only [Prod.mk.injEq] at he
    obtain ⟨rfl, rfl, rfl⟩ := he
    -- the sorted graph has the objects and the root of the input, so it satisfies what is asked of the input
    obtain ⟨ho1, hr1⟩ := basicSort_objects tg.g g1 false hb
    obtain ⟨_, hinv1, _, hroot1⟩ := hp1 false g1 hb
    have hun1 : ∀ n ∈ fresh, Unused g1 n := fun n hn' => hinv1.unused n (by simpa using hn')
    have hwf1 : ∀ id o, g1.objects.find? id = some o → ObjWF o := by rw [ho1]; exact hwf
    have hview1 : ∀ fuel id, lookupView ({ tg with g := g1 } : TGraph) fuel id = lookupView tg fuel id :=
      fun fuel id => lookupView_congr ({ tg with g := g1 } : TGraph) tg ho1 rfl fuel id
    have hh1 : PromoHyp ({ tg with g := g1 } : TGraph) fresh :=
      ⟨hnd, hun1, fun x hx => by show g1.objects.find? x ≠ none; rw [ho1]; exact htyped x hx⟩
    have hsub1 : ∀ id, ({ tg with g := g1 } : TGraph).typeOf id ≠ TType.other →
        ∀ l ∈ (({ tg with g := g1 } : TGraph).g.obj id).links, ∀ y,
          Reach ({ tg with g := g1 } : TGraph).g l.target y → ({ tg with g := g1 } : TGraph).typeOf y = TType.other := by
      intro id hty l hl y hy
      exact hsub id hty l (by rw [← obj_congr tg.g g1 ho1 id]; exact hl) y (reach_congr tg.g g1 ho1 _ _ hy)
    have key : (∀ id fuel, tg.typeOf id ≠ TType.other → lookupView tg2 fuel id = lookupView tg fuel id) ∧
        (∀ x, tg.typeOf x = TType.other → x ∉ fresh → tg2.g.obj x = tg.g.obj x) ∧
        tg2.g.root = tg.g.root ∧ FreshFor tg2.g fr2 ∧
        (∀ id o, tg2.g.objects.find? id = some o → ObjWF o) := by
      unfold tryPromotingWith at hpro
      split at hpro
      · simp at hpro
      · simp only [Option.some.injEq, Prod.mk.injEq] at hpro
        obtain ⟨rfl, rfl⟩ := hpro
        exact ⟨fun id fuel _ => hview1 fuel id, fun x _ _ => obj_congr tg.g g1 ho1 x, hr1, ⟨hnd, hroot1, hun1⟩, hwf1⟩
      · split at hpro
        · simp at hpro
        · rename_i toPromote _
          obtain ⟨v1, v2, v3⟩ := promote_preserves_views _ tg2 toPromote fresh fr2 hh1 hu16 hsub1 hpro
          exact ⟨fun id fuel hty => (v1 id fuel hty).trans (hview1 fuel id),
            fun x hx hxf => (v2 x hx hxf).trans (obj_congr tg.g g1 ho1 x), v3.trans hr1,
            promote_freshFor _ tg2 toPromote fresh fr2 hh1 hroot1 hpro, promote_wf _ tg2 toPromote fresh fr2 hh1 hwf1 hpro⟩
    obtain ⟨k1, k2, k3, k4, k5⟩ := key
    refine ⟨tg2, k1, k2, k3, k5, pinv_packTail tg2.g tg2.g fr2 ok g3 _ (pinv_init tg2.g fr2 k4) htail, ?_⟩
    rintro rfl
    exact packTail_sortedOut tg2.g g3 fr2 _ htail

end FontVerif.Graph
