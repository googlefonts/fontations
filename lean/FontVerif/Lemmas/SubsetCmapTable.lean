/-
Helper lemmas for C17 (Model/SubsetCmap.lean): `serialize_cmap` — which encoding records are written,
in which order, and what the object behind each of them is.
-/
import FontVerif.Model.SubsetCmap
namespace FontVerif.SubsetCmap
open FontVerif.Cmap

/-- the (code point, new gid) list handed to the writer of a format 4 subtable -/
def list4 (p : PlanIn) (t : Cmap4) : List (Nat × Nat) :=
  p.u2g.filter (fun x => memSet (mkSet (collect4 t)) x.1)

/-- `cmap12_subset_unicodes` -/
def sub12Of (p : PlanIn) (gs : List Group) : List Nat :=
  p.unicodes.filter (fun u => memSet (mkSet (collect12 gs p.numGlyphs)) u)

/-- the list handed to the writer of a format 12 subtable -/
def list12 (p : PlanIn) (gs : List Group) : List (Nat × Nat) :=
  p.u2g.filter (fun x => memSet (mkSet (sub12Of p gs)) x.1)

/-- does a retained record write an encoding record?  `d` = the format 4 subtables are being dropped
(retry after a 64 KiB overflow) -/
def survives (p : PlanIn) (all : List RecIn) (d : Bool) (r : RecIn) : Bool :=
  match r.sub with
  | .f4 lang t =>
    !d && (match serialize4 lang (list4 p t) with
           | .ok [] => false
           | _ => true)
  | .f12 _ gs => !(!d && canDropFormat12 r (sub12Of p gs) all p)
  | .f14 recs =>
    (match uvsRetained p recs with
     | some objs => !objs.all (fun x => x.2.1.isNone && x.2.2.isNone)
     | none => true)
  | _ => false

def keepNonDefault (p : PlanIn) (m : Nat × Nat) : Bool :=
  p.unicodes.contains m.1 || p.glyphsRequested.contains m.2

/-- `copy_non_default_uvs` in closed form: the kept mappings, each glyph looked up in the plan's glyph map (the
`unwrap`: one missing glyph fails the whole), written as (character, new glyph as `u16`) and counted -/
theorem copyNonDefault_eq (p : PlanIn) (maps : List (Nat × Nat)) :
    copyNonDefault p maps =
      ((maps.filter (keepNonDefault p)).mapM (fun m => lookupMap p.glyphMap m.2)).map fun news =>
        ((List.zip (maps.filter (keepNonDefault p)) news).flatMap (fun x => be24 x.1.1 ++ be16 (x.2 % 65536)),
          news.length) := by
  induction maps with
  | nil => rfl
  | cons m rest ih =>
    obtain ⟨u, g⟩ := m
    -- the test of the loop is `!keepNonDefault`
    rw [copyNonDefault, ← Bool.not_or, show (p.unicodes.contains u || p.glyphsRequested.contains g) =
      keepNonDefault p (u, g) from rfl, ih]
    cases hk : keepNonDefault p (u, g) with
    | false => rw [Bool.not_false, if_pos rfl, List.filter_cons_of_neg (by simp [hk])]
    | true =>
      rw [Bool.not_true, if_neg Bool.false_ne_true, List.filter_cons_of_pos hk, List.mapM_cons]
      cases lookupMap p.glyphMap g with
      | none => rfl
      | some ng =>
        cases (rest.filter (keepNonDefault p)).mapM (fun m => lookupMap p.glyphMap m.2) with
        | none => rfl
        | some news => simp

def recKey (x : Nat × Nat × Nat) : Nat × Nat := (x.1, x.2.1)

theorem packShared_spec (packed : List Obj) (o : Obj) :
    packed <+: (packShared packed o).1 ∧ (packShared packed o).1[(packShared packed o).2]? = some o := by
  unfold packShared
  cases hf : packed.findIdx? (· == o) with
  | none =>
    simp only
    exact ⟨List.prefix_append _ _, by simp⟩
  | some i =>
    simp only
    refine ⟨List.prefix_refl _, ?_⟩
    obtain ⟨hlt, hi, _⟩ := List.findIdx?_eq_some_iff_getElem.1 hf
    rw [List.getElem?_eq_getElem hlt]
    congr 1
    simpa using hi

theorem packOpt_prefix (packed : List Obj) (o : Option Obj) : packed <+: (packOpt packed o).1 := by
  cases o with
  | none => exact List.prefix_refl _
  | some o => exact (packShared_spec packed o).1

theorem packUvs_prefix : ∀ (objs : List (VarSelIn × Option Obj × Option Obj)) (packed : List Obj),
    packed <+: (packUvs objs packed).1 := by
  intro objs
  induction objs with
  | nil => intro packed; exact List.prefix_refl _
  | cons x rest ih =>
    intro packed
    obtain ⟨r, d, n⟩ := x
    simp only [packUvs]
    exact (ih packed).trans ((packOpt_prefix _ n).trans (packOpt_prefix _ d))

theorem serialize14_prefix (p : PlanIn) (recs : List VarSelIn) (packed pk : List Obj) (o : Option Obj)
    (h : serialize14 p recs packed = .ok (pk, o)) : packed <+: pk := by
  unfold serialize14 at h
  split at h
  · cases h
  · rename_i objs _
    split at h
    · cases h; exact List.prefix_refl _
    · cases h; exact packUvs_prefix objs packed

def ObjFor (p : PlanIn) (r : RecIn) (o : Obj) : Prop :=
  match r.sub with
  | .f4 lang t => serialize4 lang (list4 p t) = .ok o.bytes ∧ o.bytes ≠ [] ∧ o.links = []
  | .f12 lang gs => serialize12 lang (list12 p gs) = .ok o.bytes ∧ o.links = []
  | .f14 recs => ∃ pk pk', serialize14 p recs pk = .ok (pk', some o)
  | _ => False

/-- one record of the loop of `serialize_cmap`: a record that does not survive leaves the state alone; one that
survives appends its encoding record, pointing at the object its writer produced -/
theorem serializeCmapGo_cons (p : PlanIn) (all : List RecIn) (d : Bool) (r : RecIn) (rest : List RecIn)
    (st st' : CmapSer) (h : serializeCmapGo p all d (r :: rest) st = .ok st') :
    ∃ st1, serializeCmapGo p all d rest st1 = .ok st' ∧
      ((survives p all d r = false ∧ st1 = st) ∨
       (survives p all d r = true ∧ ∃ pk i o has12, st.packed <+: pk ∧ pk[i]? = some o ∧ ObjFor p r o ∧
          st1 = { records := st.records ++ [(r.platform, r.encoding, i)], packed := pk, has12 := has12 })) := by
  rw [serializeCmapGo] at h
  cases hs : r.sub with
  | unreadable =>
    simp only [hs] at h
    exact ⟨st, h, Or.inl ⟨by simp [survives, hs], rfl⟩⟩
  | other f l =>
    simp only [hs] at h
    exact ⟨st, h, Or.inl ⟨by simp [survives, hs], rfl⟩⟩
  | f4 lang t =>
    simp only [hs] at h
    cases d with
    | true =>
      simp only [if_true] at h
      exact ⟨st, h, Or.inl ⟨by simp [survives, hs], rfl⟩⟩
    | false =>
      simp only [Bool.false_eq_true, if_false] at h
      have hlist : p.u2g.filter (fun x => memSet (mkSet (collect4 t)) x.1) = list4 p t := rfl
      rw [hlist] at h
      cases hser : serialize4 lang (list4 p t) with
      | trap => simp [hser] at h
      | err e => simp [hser] at h
      | ok bytes =>
        cases bytes with
        | nil =>
          simp only [hser] at h
          exact ⟨st, h, Or.inl ⟨by simp [survives, hs, hser], rfl⟩⟩
        | cons b bs =>
          simp only [hser] at h
          have hps := packShared_spec st.packed { bytes := b :: bs, links := [] }
          exact ⟨_, h, Or.inr ⟨by simp [survives, hs, hser], _, _, _, _, hps.1, hps.2,
            by simp only [ObjFor, hs]; exact ⟨hser, by simp, trivial⟩, rfl⟩⟩
  | f12 lang gs =>
    simp only [hs] at h
    have hsub12 : p.unicodes.filter (fun u => memSet (mkSet (collect12 gs p.numGlyphs)) u) = sub12Of p gs := rfl
    rw [hsub12] at h
    by_cases hdrop : (!d && canDropFormat12 r (sub12Of p gs) all p) = true
    · simp only [hdrop, if_true] at h
      exact ⟨st, h, Or.inl ⟨by simp [survives, hs, hdrop], rfl⟩⟩
    · have hdrop' : (!d && canDropFormat12 r (sub12Of p gs) all p) = false := by
        cases hq : (!d && canDropFormat12 r (sub12Of p gs) all p) <;> simp_all
      simp only [hdrop', Bool.false_eq_true, if_false] at h
      have hlist : p.u2g.filter (fun x => memSet (mkSet (sub12Of p gs)) x.1) = list12 p gs := rfl
      rw [hlist] at h
      cases hser : serialize12 lang (list12 p gs) with
      | trap => simp [hser] at h
      | err e => simp [hser] at h
      | ok bytes =>
        simp only [hser] at h
        have hps := packShared_spec st.packed { bytes := bytes, links := [] }
        exact ⟨_, h, Or.inr ⟨by simp [survives, hs, hdrop'], _, _, _, _, hps.1, hps.2,
          by simp only [ObjFor, hs]; exact ⟨hser, trivial⟩, rfl⟩⟩
  | f14 recs =>
    simp only [hs] at h
    cases hser : serialize14 p recs st.packed with
    | trap => simp [hser] at h
    | err e => simp [hser] at h
    | ok res =>
      obtain ⟨pk, oo⟩ := res
      have hsurv : survives p all d r = oo.isSome := by
        simp only [survives, hs]
        unfold serialize14 at hser
        cases hu : uvsRetained p recs with
        | none => simp [hu] at hser
        | some objs =>
          simp only [hu] at hser ⊢
          by_cases hall : objs.all (fun x => x.2.1.isNone && x.2.2.isNone) = true
          · simp only [hall, if_true] at hser
            cases hser
            simp [hall]
          · simp only [hall] at hser
            cases hser
            simp [hall]
      cases oo with
      | none =>
        simp only [hser] at h
        exact ⟨st, h, Or.inl ⟨hsurv, rfl⟩⟩
      | some o =>
        simp only [hser] at h
        have hps := packShared_spec pk o
        exact ⟨_, h, Or.inr ⟨hsurv, _, _, _, _, (serialize14_prefix p recs st.packed pk (some o) hser).trans hps.1,
          hps.2, by simp only [ObjFor, hs]; exact ⟨st.packed, pk, hser⟩, rfl⟩⟩

theorem exists_zip_of_mem {α β : Type} : ∀ {l₁ : List α} {l₂ : List β}, l₁.length = l₂.length → ∀ {x : α}, x ∈ l₁ →
    ∃ y, (x, y) ∈ l₁.zip l₂
  | [], _, _, _, h => by cases h
  | a :: l₁, [], hl, _, _ => by simp at hl
  | a :: l₁, b :: l₂, hl, x, h => by
    rcases List.mem_cons.mp h with rfl | h
    · exact ⟨b, by simp⟩
    · obtain ⟨y, hy⟩ := exists_zip_of_mem (l₂ := l₂) (by simpa using hl) h
      exact ⟨y, by simp [hy]⟩

/-- the loop of `serialize_cmap`: the encoding records written stand one for one, in order, for the surviving
records; each has the key of ITS record and points at the object that record's writer produced -/
theorem serializeCmapGo_spec (p : PlanIn) (all : List RecIn) (d : Bool) :
    ∀ (rs : List RecIn) (st st' : CmapSer), serializeCmapGo p all d rs st = .ok st' →
      st.packed <+: st'.packed ∧ ∃ new, st'.records = st.records ++ new ∧
        new.map recKey = (rs.filter (survives p all d)).map (fun r => (r.platform, r.encoding)) ∧
        ∀ xr ∈ new.zip (rs.filter (survives p all d)), recKey xr.1 = (xr.2.platform, xr.2.encoding) ∧
          ∃ o, st'.packed[xr.1.2.2]? = some o ∧ ObjFor p xr.2 o := by
  intro rs
  induction rs with
  | nil =>
    intro st st' h
    simp only [serializeCmapGo] at h
    cases h
    exact ⟨List.prefix_refl _, [], by simp, rfl, by simp⟩
  | cons r rest ih =>
    intro st st' h
    obtain ⟨st1, h', ⟨hs, rfl⟩ | ⟨hs, pk, i, o, has12, hext, hi, ho, rfl⟩⟩ :=
      serializeCmapGo_cons p all d r rest st st' h
    · rw [List.filter_cons_of_neg (by simp [hs])]
      exact ih _ st' h'
    · obtain ⟨e, new, hrec, hkeys, hall⟩ := ih _ st' h'
      rw [List.filter_cons_of_pos hs]
      refine ⟨hext.trans e, (r.platform, r.encoding, i) :: new, by rw [hrec, List.append_assoc]; rfl,
        by simp [recKey, hkeys], fun xr hxr => ?_⟩
      rcases List.mem_cons.mp (List.zip_cons_cons ▸ hxr) with rfl | hxr
      · obtain ⟨ex, hex⟩ := e
        exact ⟨rfl, o, by rw [← hex]; exact (List.getElem?_append_left (List.getElem?_eq_some_iff.mp hi).1).trans hi, ho⟩
      · exact hall xr hxr

end FontVerif.SubsetCmap
