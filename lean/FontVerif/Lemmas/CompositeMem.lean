/-
The memory metrics `Outlines::outline_rec` accumulates (Model/Composite.lean): bounds in terms of the
number of activations, and the shape invariant the HarfBuzz-style carve relies on.
-/
import FontVerif.Lemmas.Composite
import FontVerif.Lemmas.Carve
namespace FontVerif.CompositeMemLemmas
open FontVerif.Composite

/-- per-glyph limits of the glyph table: a simple glyph has at most `P` points and `P` contours, a composite at most
    `C` components (in a font: `P ≤ 65536`, `C` below the glyph's byte length / 6) -/
def GOk (P C : Nat) : GlyphInfo → Prop
  | .simple p c _ => p ≤ P ∧ c ≤ P
  | .composite cs _ => cs.length ≤ C
  | _ => True

/-- what holds of the accumulated counters at every moment -/
structure Bnd (P : Nat) (o : Out) : Prop where
  pts : o.points ≤ P * o.visits
  ctr : o.contours ≤ P * o.visits
  ms : o.maxSimple ≤ P + 4
  mo : o.maxOther ≤ o.points + 4

theorem bnd_init (P : Nat) : Bnd P {} := ⟨by simp, by simp, by simp, by simp⟩

/-- what one activation (and everything below it) does to the counters -/
def Grow (P C f cd : Nat) (o o' : Out) : Prop :=
  Bnd P o' ∧ o'.maxDeltaStack ≤ max o.maxDeltaStack (cd + f * (C + 4))

/-- the component loop runs at one recursion depth and one delta-stack depth: whatever reflexive, transitive relation
    between the counters before and after holds of every activation one level deeper holds of the loop -/
theorem loop_rel (G : Nat → GlyphInfo) {ok : GlyphInfo → Prop} (hG : ∀ i, ok (G i)) (R : Out → Out → Prop)
    (refl : ∀ o, R o o) (trans : ∀ {o o1 o2}, R o o1 → R o1 o2 → R o o2) (prev : Rec) (cd : Nat)
    (hprev : ∀ g o o', ok g → prev g o cd = .ok o' → R o o') :
    ∀ (cs : List Nat) (o o' : Out), loop G prev cs o cd = .ok o' → R o o' := by
  intro cs
  induction cs with
  | nil => intro o o' h; cases h; exact refl o
  | cons c rest ih =>
    intro o o' h
    obtain ⟨o1, h1, ⟨-, rfl⟩ | ⟨-, hp⟩⟩ := CompositeLemmas.loop_cons_ok h
    · exact ih _ _ h1
    · exact trans (hprev _ _ _ (hG c) hp) (ih _ _ h1)

theorem Grow.refl {P C f cd : Nat} {o : Out} (hb : Bnd P o) : Grow P C f cd o o := ⟨hb, Nat.le_max_left _ _⟩

theorem Grow.trans {P C f cd : Nat} {o o1 o2 : Out} (h1 : Bnd P o → Grow P C f cd o o1)
    (h2 : Bnd P o1 → Grow P C f cd o1 o2) (hb : Bnd P o) : Grow P C f cd o o2 := by
  obtain ⟨b1, m1⟩ := h1 hb
  obtain ⟨b2, m2⟩ := h2 b1
  exact ⟨b2, by omega⟩

theorem recF_grow (G : Nat → GlyphInfo) (P C : Nat) (hG : ∀ i, GOk P C (G i)) :
    ∀ (f : Nat) (g : GlyphInfo) (o : Out) (cd : Nat) (o' : Out), GOk P C g → Bnd P o →
      recF G f g o cd = .ok o' → Grow P C f cd o o' := by
  intro f
  induction f with
  | zero => intro g o cd o' _ _ h; simp [recF] at h
  | succ f ih =>
    intro g o cd o' hg hb h
    unfold recF level at h
    cases g with
    | readErr =>
      simp only [] at h
      have := Except.ok.inj h; subst this
      exact Grow.refl hb
    | empty =>
      simp only [] at h
      have := Except.ok.inj h; subst this
      exact Grow.refl hb
    | simple p c hh =>
      simp only [] at h
      have := Except.ok.inj h; subst this
      obtain ⟨hp, hc⟩ := hg
      obtain ⟨b1, b2, b3, b4⟩ := hb
      refine ⟨⟨?_, ?_, ?_, ?_⟩, ?_⟩
      · simp only []; rw [Nat.mul_add]; omega
      · simp only []; rw [Nat.mul_add]; omega
      · simp only [PHANTOM]; omega
      · simp only [PHANTOM]; omega
      · simp only []; exact Nat.le_max_left _ _
    | composite cs hh =>
      simp only [] at h
      split at h
      · cases h
      · rename_i o1 hl
        have hlen : cs.length ≤ C := hg
        have hb1 : Bnd P { o with visits := o.visits + 1 } := by
          obtain ⟨b1, b2, b3, b4⟩ := hb
          refine ⟨?_, ?_, b3, b4⟩
          · simp only []; rw [Nat.mul_add]; omega
          · simp only []; rw [Nat.mul_add]; omega
        obtain ⟨c1, c4⟩ := loop_rel G hG (fun o o' => Bnd P o → Grow P C f (cd + (cs.length + PHANTOM)) o o')
          (fun _ => Grow.refl) Grow.trans (recF G f) _
          (fun g o o' hg h hb => ih g o _ o' hg hb h) cs _ _ hl hb1
        simp only [] at c4
        have := Except.ok.inj h; subst this
        have hmul : (f + 1) * (C + 4) = f * (C + 4) + (C + 4) := by rw [Nat.add_mul]; omega
        simp only [PHANTOM] at c4
        obtain ⟨b1, b2, b3, b4⟩ := c1
        cases hh
        · -- no instructions: only the delta stack depth is updated
          simp only [Bool.false_eq_true, if_false, Bool.or_false, PHANTOM]
          refine ⟨⟨b1, b2, b3, b4⟩, ?_⟩
          simp only []; omega
        · simp only [if_true, Bool.or_true, PHANTOM]
          refine ⟨⟨b1, b2, b3, ?_⟩, ?_⟩
          · simp only []; omega
          · simp only []; omega

theorem outline_bnd (G : Nat → GlyphInfo) (P C : Nat) (hG : ∀ i, GOk P C (G i)) (gid : Nat) (o : Out)
    (h : Composite.outline G gid = .ok o) : Bnd P o ∧ o.maxDeltaStack ≤ 33 * (C + 4) := by
  rcases CompositeLemmas.outline_ok h with rfl | h
  · exact ⟨bnd_init P, by simp⟩
  · have := recF_grow G P C hG _ _ _ _ _ (hG gid) (bnd_init P) h
    refine ⟨this.1, ?_⟩
    have := this.2
    simp only [RECURSION_LIMIT] at this
    omega

/-- as soon as anything has been counted, `max_other_points` is non-zero (no limits on the glyph table needed, so this is
    not a field of `Bnd`) -/
def Shape (o : Out) : Prop := o.maxOther = 0 → o.points = 0 ∧ o.contours = 0 ∧ o.maxSimple = 0

theorem recF_shape (G : Nat → GlyphInfo) :
    ∀ (f : Nat) (g : GlyphInfo) (o : Out) (cd : Nat) (o' : Out), Shape o → recF G f g o cd = .ok o' → Shape o' := by
  intro f
  induction f with
  | zero => intro g o cd o' _ h; simp [recF] at h
  | succ f ih =>
    intro g o cd o' hb h
    unfold recF level at h
    cases g with
    | readErr => simp only [] at h; have := Except.ok.inj h; subst this; exact hb
    | empty => simp only [] at h; have := Except.ok.inj h; subst this; exact hb
    | simple p c hh =>
      simp only [] at h
      have := Except.ok.inj h; subst this
      intro h0; simp only [PHANTOM] at h0; omega
    | composite cs hh =>
      simp only [] at h
      split at h
      · cases h
      · rename_i o1 hl
        have hs1 : Shape { o with visits := o.visits + 1 } := hb
        have c1 := loop_rel G (ok := fun _ => True) (fun _ => trivial) (fun o o' => Shape o → Shape o') (fun _ h => h)
          (fun h1 h2 h => h2 (h1 h)) (recF G f) _ (fun g o o' _ h hs => ih g o _ o' hs h) cs _ _ hl hs1
        have := Except.ok.inj h; subst this
        cases hh
        · simp only [Bool.false_eq_true, if_false, Bool.or_false]; exact c1
        · simp only [if_true, Bool.or_true, PHANTOM]
          intro h0; simp only [] at h0; omega

theorem outline_shape (G : Nat → GlyphInfo) (gid : Nat) (o : Out) (h : Composite.outline G gid = .ok o) : Shape o := by
  have h0 : Shape {} := fun _ => ⟨rfl, rfl, rfl⟩
  rcases CompositeLemmas.outline_ok h with rfl | h
  · exact h0
  · exact recF_shape G _ _ _ _ _ h0 h

/-- 8 + 1 bytes per point, 16 per point of the largest hinted composite, 2 per contour, 16 per point of the largest
    simple glyph, 8 per delta stack slot, the interpreter's arrays, 4 of slack -/
theorem requiredBufferSize_le (c : Carve.Counts) (embedded : Bool) :
    Carve.requiredBufferSize c embedded ≤
      9 * c.points + 16 * c.maxOtherPoints + 2 * c.contours + 16 * c.maxSimplePoints + 8 * c.maxComponentDeltaStack
        + 4 * c.maxStack + 4 * (c.cvtCount + c.storageCount) + 17 * c.maxTwilightPoints + 4 := by
  have slack : ∀ x : Nat, (if x ≠ 0 then x + 4 else x) ≤ x + 4 := by intro x; split <;> omega
  unfold Carve.requiredBufferSize
  simp only []
  refine Nat.le_trans (slack _) (Nat.add_le_add_right ?_ 4)
  cases (c.hasHinting && embedded) <;> cases c.hasVariations <;>
    simp only [Bool.false_eq_true, if_false, if_true] <;> omega

theorem total_le_need : ∀ (prog : List Carve.Entry) (a : Nat), Carve.total prog ≤ Carve.need prog a := by
  intro prog
  induction prog with
  | nil => intro a; simp [Carve.total, Carve.need]
  | cons e es ih =>
    intro a
    unfold Carve.total Carve.need
    split
    · rename_i h0; rw [h0]; have := ih a; omega
    · have := ih (a + Carve.pad a e.align + e.count * e.size); omega

end FontVerif.CompositeMemLemmas
