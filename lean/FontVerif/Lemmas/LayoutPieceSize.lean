/-
Helper lemmas for C16: the size loops of the three splitters.  Their split points are strictly increasing
and end at the count (`PointsBelow`); with device tables the estimate of every piece is the piece's true size
(each device object once) for the loops that re-count the record starting a piece after clearing the visited set
(`fixed = true`: `split_pair_pos_format_2` since /repo 2b4b586; for `split_pair_pos_format_1` that is a repair
/repo does not have — Props/C16Ppf1Dev has a witness where the code as it is under-estimates).
-/
import FontVerif.Model.LayoutLookup
namespace FontVerif.Layout

theorem idxLoop_inv {σ α : Type} {loop : σ → Nat → List α → σ} {step : σ → Nat → α → σ}
    (hnil : ∀ st i, loop st i [] = st)
    (hcons : ∀ st i x rest, loop st i (x :: rest) = loop (step st i x) (i + 1) rest)
    (xs : List α) (P : σ → Nat → Prop)
    (hstep : ∀ st i x, xs[i]? = some x → P st i → P (step st i x) (i + 1)) :
    ∀ (rest : List α) (st : σ) (i : Nat), xs.drop i = rest → P st i →
      P (loop st i rest) (i + rest.length) := by
  intro rest
  induction rest with
  | nil => intro st i _ h; rw [hnil]; exact h
  | cons x rest ih =>
    intro st i hd h
    have hx : xs[i]? = some x := by
      have := List.getElem?_drop (xs := xs) (i := i) (j := 0)
      rw [hd] at this
      exact this.symm
    have hd' : xs.drop (i + 1) = rest := by
      rw [← List.drop_drop, hd]; rfl
    rw [hcons, List.length_cons, ← Nat.add_assoc, Nat.add_right_comm]
    exact ih _ (i + 1) hd' (hstep st i x hx h)

/-- the points recorded before index `i` (latest first): strictly decreasing and below `i` -/
def PointsBelow (pts : List Nat) (i : Nat) : Prop := pts.Pairwise (· > ·) ∧ ∀ p ∈ pts, p < i

/-- one iteration records nothing or the current index -/
theorem PointsBelow.step {pts pts' : List Nat} {i : Nat} (h : PointsBelow pts i)
    (hs : pts' = pts ∨ pts' = i :: pts) : PointsBelow pts' (i + 1) := by
  rcases hs with rfl | rfl
  · exact ⟨h.1, fun p hp => Nat.lt_succ_of_lt (h.2 p hp)⟩
  · refine ⟨List.pairwise_cons.mpr ⟨h.2, h.1⟩, fun p hp => ?_⟩
    rcases List.mem_cons.mp hp with rfl | hp
    · exact Nat.lt_succ_self _
    · exact Nat.lt_succ_of_lt (h.2 p hp)

/-- what the three heuristics return (`none` = nothing to split): the points in order, then the
count -/
theorem PointsBelow.of_result {pts res : List Nat} {n : Nat} (h : PointsBelow pts n)
    (hr : (if pts.isEmpty then none else some (pts.reverse ++ [n])) = some res) :
    res.Pairwise (· < ·) ∧ res.getLast? = some n ∧ ∀ p ∈ res, p ≤ n := by
  by_cases he : pts.isEmpty
  · rw [if_pos he] at hr; cases hr
  · rw [if_neg he, Option.some.injEq] at hr
    subst hr
    refine ⟨List.pairwise_append.mpr ⟨List.pairwise_reverse.mpr (h.1.imp id),
      List.pairwise_singleton _ _, fun a ha b hb => ?_⟩, List.getLast?_concat .., fun p hp => ?_⟩
    · rw [List.mem_singleton.mp hb]; exact h.2 a (List.mem_reverse.mp ha)
    · rcases List.mem_append.mp hp with hp | hp
      · exact Nat.le_of_lt (h.2 p (List.mem_reverse.mp hp))
      · exact Nat.le_of_eq (List.mem_singleton.mp hp)

theorem idxLoop_pointsBelow {σ α : Type} {loop : σ → Nat → List α → σ} {step : σ → Nat → α → σ}
    (hnil : ∀ st i, loop st i [] = st)
    (hcons : ∀ st i x rest, loop st i (x :: rest) = loop (step st i x) (i + 1) rest)
    (points : σ → List Nat)
    (hstep : ∀ st i x, points (step st i x) = points st ∨ points (step st i x) = i :: points st)
    (xs : List α) (st : σ) (h0 : points st = []) : PointsBelow (points (loop st 0 xs)) xs.length := by
  have := idxLoop_inv hnil hcons xs (fun st i => PointsBelow (points st) i)
    (fun st i x _ hp => hp.step (hstep st i x)) xs st 0 rfl
    (h0 ▸ ⟨List.Pairwise.nil, fun _ hp => nomatch hp⟩)
  rwa [Nat.zero_add] at this

theorem ppf1Step_points (cs : Nat) (st : Ppf1Acc) (i : Nat) (ps : Nat × Nat) :
    (ppf1Step cs st i ps).points = st.points ∨ (ppf1Step cs st i ps).points = i :: st.points := by
  unfold ppf1Step
  simp only [apply_ite Ppf1Acc.points]
  split <;> simp <;> omega

theorem ppf1Loop_points_ge {cs : Nat} : ∀ (sizes : List (Nat × Nat)) (st : Ppf1Acc) (i : Nat),
    ∀ p ∈ (ppf1Loop cs st i sizes).points, p ∈ st.points ∨ i ≤ p := by
  intro sizes
  induction sizes with
  | nil => intro st i p hp; exact Or.inl hp
  | cons ps rest ih =>
    intro st i p hp
    simp only [ppf1Loop] at hp
    rcases ih _ (i + 1) p hp with h | h
    · rcases ppf1Step_points cs st i ps with e | e <;> rw [e] at h
      · exact Or.inl h
      · rcases List.mem_cons.mp h with rfl | h
        · exact Or.inr (Nat.le_refl _)
        · exact Or.inl h
    · exact Or.inr (by omega)

theorem ppf2Step_points (e : Ppf2Est) (recSize cd2Size : Nat) (st : Ppf2Acc) (idx : Nat) :
    (ppf2Step e recSize cd2Size st idx).points = st.points ∨
    (ppf2Step e recSize cd2Size st idx).points = idx :: st.points := by
  unfold ppf2Step
  simp only [apply_ite Ppf2Acc.points]
  split <;> simp

theorem ppf2_fold_pointsBelow (e : Ppf2Est) (recSize cd2Size : Nat) : ∀ (n : Nat),
    PointsBelow ((List.range n).foldl (ppf2Step e recSize cd2Size) ⟨16, 4, 4, []⟩).points n := by
  intro n
  induction n with
  | zero => exact ⟨List.Pairwise.nil, fun _ hp => nomatch hp⟩
  | succ k ih =>
    rw [List.range_succ, List.foldl_append, List.foldl_cons, List.foldl_nil]
    exact ih.step (ppf2Step_points e recSize cd2Size _ k)

theorem mbStep_points (obj : Nat → AnchorObj) (minSize baseCount : Nat) (st : MbAcc) (i : Nat)
    (info : MbClassInfo) :
    (mbStep obj minSize baseCount st i info).points = st.points ∨
    (mbStep obj minSize baseCount st i info).points = i :: st.points := by
  unfold mbStep
  simp only
  split <;> simp

/-! ## the size loops with device tables: every piece's estimate is its true size -/

def csStep (acc : Nat × List Nat) (d : Nat × Nat) : Nat × List Nat :=
  if acc.2.contains d.1 then acc else (acc.1 + d.2, d.1 :: acc.2)

theorem childrenSize_def (devs : List (Nat × Nat)) (visited : List Nat) :
    childrenSize devs visited = devs.foldl csStep (0, visited) := rfl

/-- the fold counts every object not yet seen exactly once -/
theorem csFold_eq : ∀ (devs : List (Nat × Nat)) (s : Nat) (v : List Nat),
    devs.foldl csStep (s, v) =
      (s + ((dedupDevs devs v).map (·.2)).sum, ((dedupDevs devs v).map (·.1)).reverse ++ v) := by
  intro devs
  induction devs with
  | nil => intro s v; simp [dedupDevs]
  | cons d rest ih =>
    intro s v
    simp only [List.foldl_cons, csStep, dedupDevs]
    by_cases hc : v.contains d.1 = true
    · simp only [hc, ↓reduceIte]
      exact ih s v
    · simp only [hc, Bool.false_eq_true, ↓reduceIte]
      rw [ih]
      simp only [List.map_cons, List.sum_cons, List.reverse_cons, List.append_assoc,
        List.singleton_append]
      congr 1
      omega

theorem childrenSize_eq (devs : List (Nat × Nat)) (v : List Nat) :
    childrenSize devs v =
      (((dedupDevs devs v).map (·.2)).sum, ((dedupDevs devs v).map (·.1)).reverse ++ v) := by
  rw [childrenSize_def, csFold_eq]; simp

/-- counting `a ++ b` = counting `a`, then `b` against what `a` left in the set -/
theorem childrenSize_append (a b : List (Nat × Nat)) (v : List Nat) :
    childrenSize (a ++ b) v =
      ((childrenSize a v).1 + (childrenSize b (childrenSize a v).2).1,
       (childrenSize b (childrenSize a v).2).2) := by
  rw [childrenSize_def, List.foldl_append, ← childrenSize_def]
  generalize childrenSize a v = r
  obtain ⟨s, w⟩ := r
  rw [csFold_eq, childrenSize_eq]

/-- device offsets of records `s..e` in writing order -/
def flatRows (rows : List (List (Nat × Nat))) (s e : Nat) : List (Nat × Nat) :=
  ((rows.drop s).take (e - s)).flatten

theorem flatRows_self (rows : List (List (Nat × Nat))) (s : Nat) : flatRows rows s s = [] := by
  simp [flatRows]

theorem flatRows_step (rows : List (List (Nat × Nat))) (s idx : Nat) (hs : s ≤ idx)
    (row : List (Nat × Nat)) (hrow : rows[idx]? = some row) :
    flatRows rows s (idx + 1) = flatRows rows s idx ++ row := by
  unfold flatRows
  have : idx + 1 - s = (idx - s) + 1 := by omega
  rw [this, List.take_add_one, List.flatten_append]
  have : (rows.drop s)[idx - s]? = some row := by
    rw [List.getElem?_drop]
    rw [show s + (idx - s) = idx by omega]; exact hrow
  rw [this]
  simp

theorem flatRows_singletons (ps : List (Nat × Nat)) (s e : Nat) :
    flatRows (ps.map ([·])) s e = (ps.drop s).take (e - s) := by
  rw [flatRows, ← List.map_drop, ← List.map_take, List.flatten_eq_flatMap, List.flatMap_map]
  exact List.flatMap_singleton' _

/-- the state describes the piece `start..idx` exactly -/
def PieceGood (hdr r : Nat) (rows : List (List (Nat × Nat))) (start acc : Nat) (visited : List Nat)
    (idx : Nat) : Prop :=
  start ≤ idx ∧
  acc = hdr + (idx - start) * r + (childrenSize (flatRows rows start idx) []).1 ∧
  visited = (childrenSize (flatRows rows start idx) []).2

def PieceOK (hdr r : Nat) (rows : List (List (Nat × Nat))) (p : Nat × Nat × Nat) : Prop :=
  p.1 ≤ p.2.1 ∧
  p.2.2 = hdr + (p.2.1 - p.1) * r + ((dedupDevs (flatRows rows p.1 p.2.1) []).map (·.2)).sum

theorem PieceGood.ok {hdr r : Nat} {rows : List (List (Nat × Nat))} {start acc idx : Nat}
    {visited : List Nat} (h : PieceGood hdr r rows start acc visited idx) :
    PieceOK hdr r rows (start, idx, acc) :=
  ⟨h.1, by rw [h.2.1, childrenSize_eq]⟩

theorem pieceGood_init (hdr r : Nat) (rows : List (List (Nat × Nat))) :
    PieceGood hdr r rows 0 hdr [] 0 :=
  ⟨Nat.le_refl _, by rw [flatRows_self, Nat.sub_self, Nat.zero_mul]; rfl, by rw [flatRows_self]; rfl⟩

theorem pieceGood_restart (hdr r : Nat) {rows : List (List (Nat × Nat))} {idx : Nat}
    {row : List (Nat × Nat)} (hrow : rows[idx]? = some row) :
    PieceGood hdr r rows idx (hdr + (r + (childrenSize row []).1)) (childrenSize row []).2 (idx + 1) := by
  have hf : flatRows rows idx (idx + 1) = row := by
    rw [flatRows_step rows idx idx (Nat.le_refl _) row hrow, flatRows_self]; rfl
  refine ⟨Nat.le_succ _, ?_, by rw [hf]⟩
  rw [hf, Nat.add_sub_cancel_left, Nat.one_mul, Nat.add_assoc]

theorem pieceGood_extend {hdr r : Nat} {rows : List (List (Nat × Nat))} {start acc idx : Nat}
    {visited : List Nat} (h : PieceGood hdr r rows start acc visited idx)
    {row : List (Nat × Nat)} (hrow : rows[idx]? = some row) :
    PieceGood hdr r rows start (acc + (r + (childrenSize row visited).1))
      (childrenSize row visited).2 (idx + 1) := by
  obtain ⟨h1, h2, h3⟩ := h
  refine ⟨Nat.le_succ_of_le h1, ?_, ?_⟩
  · rw [flatRows_step rows start idx h1 row hrow, childrenSize_append, h2, ← h3,
      show idx + 1 - start = (idx - start) + 1 by omega, Nat.add_mul]
    simp only
    omega
  · rw [flatRows_step rows start idx h1 row hrow, childrenSize_append, ← h3]

theorem pieces_ok {hdr r : Nat} {rows : List (List (Nat × Nat))} {start acc : Nat}
    {visited : List Nat} {pieces : List (Nat × Nat × Nat)}
    (hg : PieceGood hdr r rows start acc visited rows.length)
    (hp : ∀ p ∈ pieces, PieceOK hdr r rows p) :
    ∀ p ∈ pieces.reverse ++ [(start, rows.length, acc)], PieceOK hdr r rows p := by
  intro p hpm
  rcases List.mem_append.mp hpm with hm | hm
  · exact hp p (List.mem_reverse.mp hm)
  · rw [List.mem_singleton.mp hm]; exact hg.ok

theorem ppf2DStep_good (e : Ppf2Est) (recSize cd2Size : Nat) (rows : List (List (Nat × Nat)))
    (st : Ppf2DAcc) (idx : Nat) (row : List (Nat × Nat)) (hrow : rows[idx]? = some row)
    (hg : PieceGood 16 recSize rows st.start st.accumulated st.visited idx ∧
      ∀ p ∈ st.pieces, PieceOK 16 recSize rows p) :
    PieceGood 16 recSize rows (ppf2DStep true e recSize cd2Size st idx row).start
      (ppf2DStep true e recSize cd2Size st idx row).accumulated
      (ppf2DStep true e recSize cd2Size st idx row).visited (idx + 1) ∧
    ∀ p ∈ (ppf2DStep true e recSize cd2Size st idx row).pieces, PieceOK 16 recSize rows p := by
  unfold ppf2DStep
  extract_lets covSize cd1Size ch delta accumulated largest total
  by_cases hsplit : total > 65535
  · -- a split: the finished piece is recorded, the new piece starts with this record re-counted
    rw [if_pos hsplit]
    refine ⟨pieceGood_restart 16 recSize hrow, fun p hp => ?_⟩
    rcases List.mem_cons.mp hp with rfl | hp
    · exact hg.1.ok
    · exact hg.2 p hp
  · rw [if_neg hsplit]
    exact ⟨pieceGood_extend hg.1 hrow, hg.2⟩

theorem ppf2DLoop_good (e : Ppf2Est) (recSize cd2Size : Nat) (rows : List (List (Nat × Nat))) :
    ∀ p ∈ (ppf2DLoop true e recSize cd2Size ⟨0, 16, 4, 4, [], []⟩ 0 rows).pieces.reverse ++
        [((ppf2DLoop true e recSize cd2Size ⟨0, 16, 4, 4, [], []⟩ 0 rows).start, rows.length,
          (ppf2DLoop true e recSize cd2Size ⟨0, 16, 4, 4, [], []⟩ 0 rows).accumulated)],
      PieceOK 16 recSize rows p := by
  have h := idxLoop_inv (loop := ppf2DLoop true e recSize cd2Size)
    (step := ppf2DStep true e recSize cd2Size) (fun _ _ => rfl)
    (fun _ _ _ _ => ppf2DLoop.eq_2 ..) rows
    (fun st i => PieceGood 16 recSize rows st.start st.accumulated st.visited i ∧
      ∀ p ∈ st.pieces, PieceOK 16 recSize rows p)
    (ppf2DStep_good e recSize cd2Size rows) rows ⟨0, 16, 4, 4, [], []⟩ 0 rfl
    ⟨pieceGood_init 16 recSize rows, fun p hp => nomatch hp⟩
  rw [Nat.zero_add] at h
  exact pieces_ok h.1 h.2

theorem ppf1DStep_good (cs : Nat) (ps : List (Nat × Nat)) (st : Ppf1DAcc) (i : Nat)
    (row : List (Nat × Nat)) (hrow : (ps.map ([·]))[i]? = some row)
    (hg : PieceGood 10 2 (ps.map ([·])) st.start st.accumulated st.visited i ∧
      ∀ q ∈ st.pieces, PieceOK 10 2 (ps.map ([·])) q) :
    ∀ p, row = [p] →
    PieceGood 10 2 (ps.map ([·])) (ppf1DStep true cs st i p).start
      (ppf1DStep true cs st i p).accumulated (ppf1DStep true cs st i p).visited (i + 1) ∧
    ∀ q ∈ (ppf1DStep true cs st i p).pieces, PieceOK 10 2 (ps.map ([·])) q := by
  rintro p rfl
  unfold ppf1DStep
  extract_lets ch delta partialCov accumulated
  by_cases hsplit : accumulated + min cs partialCov > 65535
  · rw [if_pos hsplit]
    refine ⟨pieceGood_restart 10 2 hrow, fun q hq => ?_⟩
    rcases List.mem_cons.mp hq with rfl | hq
    · exact hg.1.ok
    · exact hg.2 q hq
  · rw [if_neg hsplit]
    exact ⟨pieceGood_extend hg.1 hrow, hg.2⟩

theorem ppf1DLoop_good (cs : Nat) (ps : List (Nat × Nat)) :
    ∀ p ∈ (ppf1DLoop true cs ⟨0, 4, 10, [], []⟩ 0 ps).pieces.reverse ++
        [((ppf1DLoop true cs ⟨0, 4, 10, [], []⟩ 0 ps).start, ps.length,
          (ppf1DLoop true cs ⟨0, 4, 10, [], []⟩ 0 ps).accumulated)],
      PieceOK 10 2 (ps.map ([·])) p := by
  have h := idxLoop_inv (loop := ppf1DLoop true cs) (step := ppf1DStep true cs) (fun _ _ => rfl)
    (fun _ _ _ _ => ppf1DLoop.eq_2 ..) ps
    (fun st i => PieceGood 10 2 (ps.map ([·])) st.start st.accumulated st.visited i ∧
      ∀ q ∈ st.pieces, PieceOK 10 2 (ps.map ([·])) q)
    (fun st i p hp hg => ppf1DStep_good cs ps st i [p] (by rw [List.getElem?_map, hp]; rfl) hg p rfl)
    ps ⟨0, 4, 10, [], []⟩ 0 rfl ⟨pieceGood_init 10 2 _, fun p hp => nomatch hp⟩
  have hl : (ps.map ([·])).length = ps.length := List.length_map ..
  rw [Nat.zero_add, ← hl] at h
  have := pieces_ok h.1 h.2
  rwa [hl] at this

end FontVerif.Layout
