/-
The glyph closure over composite components (Model/Subset.lean `closureGo`, `closureAll`): reachability, the three ways a
call ends (`closureGo_inv`), soundness; the same walk with a flag that records whether a limit stopped it
(`closureGoF`, a specification device erased by `closureGoF_erase`) and its DFS invariant, the transitive relation `Walk`.
-/
import FontVerif.Model.Subset
import FontVerif.Lemmas.Lists
namespace FontVerif.Subset

inductive Reach (comps : List (List Nat)) : Nat → Nat → Prop where
  | refl (a : Nat) : Reach comps a a
  | step {a b c : Nat} : b ∈ compsOf comps a → Reach comps b c → Reach comps a c

theorem Reach.trans {comps : List (List Nat)} {a b c : Nat} (h1 : Reach comps a b) (h2 : Reach comps b c) :
    Reach comps a c := by
  induction h1 with
  | refl => exact h2
  | step hm _ ih => exact Reach.step hm (ih h2)

theorem closureGo_unfold (comps : List (List Nat)) (rem gid : Nat) (set : List Nat) (ops : Int) :
    closureGo comps rem gid (set, ops) =
      if set.contains gid then (set, ops) else
      match rem with
      | 0 => (gid :: set, ops)
      | r + 1 =>
        if ops - 1 < 0 then (gid :: set, ops - 1) else
        (compsOf comps gid).foldl (fun st c => closureGo comps r c st) (gid :: set, ops - 1) := by
  cases rem <;> simp [closureGo]

/-- the three ways a call ends: glyph already there, a limit reached, the fold over the components -/
theorem closureGo_inv (comps : List (List Nat)) (P : List Nat × Int → Prop) (rem gid : Nat) (set : List Nat) (ops : Int)
    (hin : set.contains gid = true → P (set, ops))
    (hadd : ∀ ops', P (gid :: set, ops'))
    (hstep : ∀ r, rem = r + 1 → ∀ c ∈ compsOf comps gid, ∀ st, P st → P (closureGo comps r c st)) :
    P (closureGo comps rem gid (set, ops)) := by
  rw [closureGo_unfold]
  by_cases hc : set.contains gid = true
  · rw [if_pos hc]; exact hin hc
  rw [if_neg hc]
  cases rem with
  | zero => exact hadd _
  | succ r =>
    simp only
    by_cases ho : ops - 1 < 0
    · rw [if_pos ho]; exact hadd _
    · rw [if_neg ho]; exact foldl_inv P _ _ (fun st c hc => hstep r rfl c hc st) _ (hadd _)

theorem closureGo_mono (comps : List (List Nat)) :
    ∀ (rem gid : Nat) (st : List Nat × Int) (x : Nat), x ∈ st.1 → x ∈ (closureGo comps rem gid st).1 := by
  intro rem
  induction rem with
  | zero =>
    intro gid st x hx
    exact closureGo_inv comps (fun st => x ∈ st.1) 0 gid st.1 st.2 (fun _ => hx)
      (fun _ => List.mem_cons_of_mem _ hx) (fun r h => by cases h)
  | succ r ih =>
    intro gid st x hx
    exact closureGo_inv comps (fun st => x ∈ st.1) (r + 1) gid st.1 st.2 (fun _ => hx)
      (fun _ => List.mem_cons_of_mem _ hx) (fun r' h c _ st' h' => by cases h; exact ih c st' x h')

theorem closureGo_root (comps : List (List Nat)) (rem gid : Nat) (st : List Nat × Int) :
    gid ∈ (closureGo comps rem gid st).1 :=
  closureGo_inv comps (fun s => gid ∈ s.1) rem gid st.1 st.2 (fun h => by simpa using h)
    (fun _ => List.mem_cons_self ..) (fun r _ c _ st' h' => closureGo_mono comps r c st' gid h')

theorem closureGo_sound (comps : List (List Nat)) :
    ∀ (rem gid : Nat) (st : List Nat × Int) (x : Nat), x ∈ (closureGo comps rem gid st).1 →
      x ∈ st.1 ∨ Reach comps gid x := by
  intro rem
  induction rem with
  | zero =>
    intro gid st
    exact closureGo_inv comps (fun s => ∀ x ∈ s.1, x ∈ st.1 ∨ Reach comps gid x) 0 gid st.1 st.2
      (fun _ x hx => Or.inl hx)
      (fun _ x hx => (List.mem_cons.mp hx).elim (fun e => e ▸ Or.inr (Reach.refl _)) Or.inl)
      (fun r h => by cases h)
  | succ r ih =>
    intro gid st
    refine closureGo_inv comps (fun s => ∀ x ∈ s.1, x ∈ st.1 ∨ Reach comps gid x) (r + 1) gid st.1 st.2
      (fun _ x hx => Or.inl hx)
      (fun _ x hx => (List.mem_cons.mp hx).elim (fun e => e ▸ Or.inr (Reach.refl _)) Or.inl)
      (fun r' h c hc st' h' x hx => ?_)
    cases h
    -- what the call for the component `c` adds is reachable from `c`, a component of `gid`
    rcases ih c st' x hx with h1 | h2
    · exact h' x h1
    · exact Or.inr (Reach.step hc h2)

theorem closureAll_mono (comps : List (List Nat)) (budget : Int) (roots set : List Nat) (x : Nat) (h : x ∈ set) :
    x ∈ closureAll comps budget roots set :=
  foldl_inv (fun s => x ∈ s) _ roots (fun s g _ hs => closureGo_mono comps _ g (s, budget) x hs) set h

theorem foldl_adds {α β : Type _} (S : β → List α) (f : β → α → β) (hroot : ∀ b x, x ∈ S (f b x))
    (hmono : ∀ b x, ∀ y ∈ S b, y ∈ S (f b x)) : ∀ (l : List α) (b : β), ∀ x ∈ l, x ∈ S (l.foldl f b)
  | x :: t, b, y, hy => by
    rw [List.foldl_cons]
    rcases List.mem_cons.mp hy with rfl | hy
    · exact foldl_inv (fun s => y ∈ S s) f t (fun s z _ h => hmono s z y h) _ (hroot b y)
    · exact foldl_adds S f hroot hmono t _ y hy

theorem closureAll_roots (comps : List (List Nat)) (budget : Int) (roots set : List Nat) :
    ∀ g ∈ roots, g ∈ closureAll comps budget roots set :=
  foldl_adds id _ (fun s g => closureGo_root comps _ g (s, budget)) (fun s g => closureGo_mono comps _ g (s, budget))
    roots set

theorem closureAll_sound (comps : List (List Nat)) (budget : Int) (roots set : List Nat) (x : Nat)
    (h : x ∈ closureAll comps budget roots set) : x ∈ set ∨ ∃ g ∈ roots, Reach comps g x := by
  refine foldl_inv (fun s => ∀ x ∈ s, x ∈ set ∨ ∃ g ∈ roots, Reach comps g x) _ roots (fun s g hg hs x hx => ?_) set
    (fun x hx => Or.inl hx) x h
  rcases closureGo_sound comps _ g (s, budget) x hx with h1 | h2
  · exact hs x h1
  · exact Or.inr ⟨g, hg, h2⟩

/-- `closureGo` instrumented with a flag that records whether the nesting limit or the operation
budget stopped the descent into a glyph that has components. -/
def closureGoF (comps : List (List Nat)) : Nat → Nat → (List Nat × Int × Bool) → (List Nat × Int × Bool)
  | rem, gid, (set, ops, cut) =>
    if set.contains gid then (set, ops, cut) else
    match rem with
    | 0 => (gid :: set, ops, cut || !(compsOf comps gid).isEmpty)
    | r + 1 =>
      if ops - 1 < 0 then (gid :: set, ops - 1, cut || !(compsOf comps gid).isEmpty) else
      (compsOf comps gid).foldl (fun st c => closureGoF comps r c st) (gid :: set, ops - 1, cut)

def closureAllF (comps : List (List Nat)) (budget : Int) (roots : List Nat) (st : List Nat × Bool) : List Nat × Bool :=
  roots.foldl (fun s g =>
    let r := closureGoF comps NESTING_LEVELS g (s.1, budget, s.2)
    (r.1, r.2.2)) st

/-- did the nesting limit or the operation budget stop the composite closure of this plan anywhere? -/
def planLimitFired (p : PlanIn) : Bool :=
  (closureAllF p.comps (planBudget p) (planColred p) ([], false)).2

theorem closureGoF_zero (comps : List (List Nat)) (gid : Nat) (set : List Nat) (ops : Int) (cut : Bool) :
    closureGoF comps 0 gid (set, ops, cut) =
      if set.contains gid then (set, ops, cut) else (gid :: set, ops, cut || !(compsOf comps gid).isEmpty) := by
  simp [closureGoF]

theorem closureGoF_succ (comps : List (List Nat)) (r gid : Nat) (set : List Nat) (ops : Int) (cut : Bool) :
    closureGoF comps (r + 1) gid (set, ops, cut) =
      if set.contains gid then (set, ops, cut) else
      if ops - 1 < 0 then (gid :: set, ops - 1, cut || !(compsOf comps gid).isEmpty) else
      (compsOf comps gid).foldl (fun st c => closureGoF comps r c st) (gid :: set, ops - 1, cut) := by
  simp [closureGoF]

theorem closureGoF_erase (comps : List (List Nat)) :
    ∀ (rem gid : Nat) (st : List Nat × Int × Bool),
      ((closureGoF comps rem gid st).1, (closureGoF comps rem gid st).2.1) = closureGo comps rem gid (st.1, st.2.1) := by
  intro rem
  induction rem with
  | zero =>
    intro gid st
    obtain ⟨set, ops, cut⟩ := st
    rw [closureGoF_zero, closureGo_unfold]
    split <;> rfl
  | succ r ih =>
    intro gid st
    obtain ⟨set, ops, cut⟩ := st
    rw [closureGoF_succ, closureGo_unfold]
    split
    · rfl
    simp only
    split
    · rfl
    -- the two folds over the components run in step
    exact (List.foldl_hom (fun st : List Nat × Int × Bool => (st.1, st.2.1)) fun st c => (ih c st).symm).symm

theorem closureGoF_fst (comps : List (List Nat)) (rem gid : Nat) (st : List Nat × Int × Bool) :
    (closureGoF comps rem gid st).1 = (closureGo comps rem gid (st.1, st.2.1)).1 :=
  congrArg Prod.fst (closureGoF_erase comps rem gid st)

theorem closureGoF_mono (comps : List (List Nat)) (rem gid : Nat) (st : List Nat × Int × Bool) (x : Nat)
    (hx : x ∈ st.1) : x ∈ (closureGoF comps rem gid st).1 :=
  closureGoF_fst comps rem gid st ▸ closureGo_mono comps rem gid _ x hx

theorem closureGoF_root (comps : List (List Nat)) (rem gid : Nat) (st : List Nat × Int × Bool) :
    gid ∈ (closureGoF comps rem gid st).1 :=
  closureGoF_fst comps rem gid st ▸ closureGo_root comps rem gid _

/-- `(S', f')` continues the walk `(S, f)` (glyph set, limit flag): no glyph is lost, a raised flag stays raised, and
while the flag is down every glyph added since `S` has its components in `S'`. Transitive, so it passes through
the folds over components and over roots. -/
structure Walk (comps : List (List Nat)) (S : List Nat) (f : Bool) (S' : List Nat) (f' : Bool) : Prop where
  sub : ∀ x ∈ S, x ∈ S'
  down : f' = false → f = false
  closed : f' = false → ∀ x ∈ S', x ∉ S → ∀ c ∈ compsOf comps x, c ∈ S'

theorem Walk.refl {comps : List (List Nat)} {S : List Nat} {f : Bool} : Walk comps S f S f :=
  ⟨fun _ h => h, id, fun _ _ hx hnx => absurd hx hnx⟩

theorem Walk.trans {comps : List (List Nat)} {S S1 S2 : List Nat} {f f1 f2 : Bool} (h1 : Walk comps S f S1 f1)
    (h2 : Walk comps S1 f1 S2 f2) : Walk comps S f S2 f2 :=
  ⟨fun x hx => h2.sub x (h1.sub x hx), fun h => h1.down (h2.down h), fun h x hx hnx c hc =>
    if hm : x ∈ S1 then h2.sub c (h1.closed (h2.down h) x hm hnx c hc) else h2.closed h x hx hm c hc⟩

/-- entering `gid`: what continues `gid :: S` and, flag down, holds the components of `gid` continues `S` -/
theorem Walk.enter {comps : List (List Nat)} {S S' : List Nat} {f f' : Bool} {gid : Nat}
    (h : Walk comps (gid :: S) f S' f') (hg : f' = false → ∀ c ∈ compsOf comps gid, c ∈ S') : Walk comps S f S' f' :=
  ⟨fun x hx => h.sub x (List.mem_cons_of_mem _ hx), h.down, fun hf x hx hnx c hc =>
    if hxg : x = gid then hg hf c (hxg ▸ hc) else h.closed hf x hx (by simp [hxg, hnx]) c hc⟩

/-- a limit stops the descent at `gid`: the flag stays down only if `gid` has no components -/
theorem Walk.stop (comps : List (List Nat)) (S : List Nat) (f : Bool) (gid : Nat) :
    Walk comps S f (gid :: S) (f || !(compsOf comps gid).isEmpty) :=
  Walk.enter ⟨fun _ h => h, fun h => (Bool.or_eq_false_iff.mp h).1, fun _ _ hx hnx => absurd hx hnx⟩
    fun h c hc => by simp only [Bool.or_eq_false_iff, Bool.not_eq_false', List.isEmpty_iff] at h; rw [h.2] at hc; cases hc

/-- the DFS invariant of one call: in particular, flag down, every glyph the call added has its components in the set -/
theorem closureGoF_walk (comps : List (List Nat)) : ∀ (rem gid : Nat) (st : List Nat × Int × Bool),
    Walk comps st.1 st.2.2 (closureGoF comps rem gid st).1 (closureGoF comps rem gid st).2.2 := by
  intro rem
  induction rem with
  | zero =>
    intro gid ⟨set, ops, cut⟩
    rw [closureGoF_zero]
    by_cases hg : set.contains gid = true
    · rw [if_pos hg]; exact .refl
    · rw [if_neg hg]; exact .stop comps set cut gid
  | succ r ih =>
    intro gid ⟨set, ops, cut⟩
    rw [closureGoF_succ]
    by_cases hg : set.contains gid = true
    · rw [if_pos hg]; exact .refl
    rw [if_neg hg]
    by_cases ho : ops - 1 < 0
    · rw [if_pos ho]; exact .stop comps set cut gid
    rw [if_neg ho]
    exact .enter (foldl_inv (fun s => Walk comps (gid :: set) cut s.1 s.2.2) _ _ (fun s c _ h => h.trans (ih c s)) _ .refl)
      fun _ => foldl_adds (·.1) _ (fun s c => closureGoF_root comps r c s) (fun s c => closureGoF_mono comps r c s) _ _

theorem closureAllF_erase (comps : List (List Nat)) (budget : Int) (roots : List Nat) (st : List Nat × Bool) :
    (closureAllF comps budget roots st).1 = closureAll comps budget roots st.1 :=
  (List.foldl_hom (fun s : List Nat × Bool => s.1) fun s g => (closureGoF_fst comps NESTING_LEVELS g (s.1, budget, s.2)).symm).symm

theorem closureAllF_walk (comps : List (List Nat)) (budget : Int) (roots : List Nat) (st : List Nat × Bool) :
    Walk comps st.1 st.2 (closureAllF comps budget roots st).1 (closureAllF comps budget roots st).2 :=
  foldl_inv (fun s => Walk comps st.1 st.2 s.1 s.2) _ roots
    (fun s g _ h => h.trans (closureGoF_walk comps _ g (s.1, budget, s.2))) st .refl

end FontVerif.Subset
