/- C14 / concrete BitSet: `process_refines` at the level of the abstraction function, the
`IntSet` mode tables over the concrete `BitSet`, and operation histories run on the concrete
representation. -/
import FontVerif.Lemmas.IntSetConcProcess
import FontVerif.Lemmas.IntSetOps
namespace FontVerif.IntSet

theorem one_abs_bits : (CPage.zero.insert 0).1.abs.bits = 1 := by decide

theorem cPassthrough_eq {cop op} (hr : PageOpRefines cop op) : cPassthrough cop = passthrough op := by
  have hz := cpageOk_zero
  have h1 := CPage.insert_ok CPage.zero 0 hz
  unfold cPassthrough passthrough
  simp only
  rw [CPage.contains_abs _ _ (hr.ok _ _ h1 hz), CPage.contains_abs _ _ (hr.ok _ _ hz h1),
    hr.abs _ _ h1 hz, hr.abs _ _ hz h1, one_abs_bits, CPage.abs_zero]
  rfl

/-- **refinement square of `BitSet::process`** for any bitwise page operator -/
theorem CBitSet.process_refines {cop op f} (hr : PageOpRefines cop op) (hop : BitwiseOp op f)
    (s o : CBitSet) (hs : CInv s) (ho : CInv o) (hsz : s.pages.length < USIZE_MAX) :
    CInv (s.process cop o) ∧ (s.process cop o).abs = BitSet.process op s.abs o.abs := by
  obtain ⟨hS, hv, hl⟩ := CBitSet.process_spec hr s o hs ho hsz
  have hp : RepS (s.process cop o)
      (processPages op (passthrough op).1 (passthrough op).2 s.abs.pages o.abs.pages) := by
    refine ⟨hS, ?_⟩
    show absView (cview _ _) = _
    rw [hv, cPassthrough_eq hr,
      absView_cmerge hr _ _ _ _ (cview_ok hs.idxLt hs.pagesOk) (cview_ok ho.idxLt ho.pagesOk)]
    rfl
  have := Rep.of_struct hp (hl.trans hp.sumLens.symm)
    (BitSet.process_inv hop _ _ (CBitSet.abs_inv s hs) (CBitSet.abs_inv o ho))
  exact ⟨this.inv, this.abs⟩

theorem CBitSet.abs_numPages (s : CBitSet) (h : CInv s) : s.abs.pages.length = s.numPages := by
  simp [CBitSet.abs, cview, CBitSet.numPages, h.lenEq]

theorem Rep.process {cop op f} (hr : PageOpRefines cop op) (hop : BitwiseOp op f) {s o : CBitSet} {t u : BitSet}
    (h : Rep s t) (h' : Rep o u) (hsz : t.pages.length < USIZE_MAX) :
    Rep (s.process cop o) (BitSet.process op t u) := by
  obtain ⟨hi, rfl⟩ := h
  obtain ⟨hj, rfl⟩ := h'
  have := CBitSet.process_refines hr hop s o hi hj (by rw [CBitSet.abs_numPages s hi] at hsz; exact hsz)
  exact ⟨this.1, this.2⟩

def CIInv (s : CIntSet) : Prop := CInv s.set

/-- run a history on the concrete representation -/
def Hist.runC (d : Domain) : Hist → CIntSet
  | .empty => CIntSet.empty
  | .all => CIntSet.all
  | .insert h v => ((h.runC d).insert v).1
  | .remove h v => ((h.runC d).remove v).1
  | .insertRange h a b => (h.runC d).insertRange d a b
  | .removeRange h a b => (h.runC d).removeRange d a b
  | .extend h vs => (h.runC d).extend vs
  | .removeAll h vs => (h.runC d).removeAll vs
  | .invert h => (h.runC d).invert
  | .clear h => (h.runC d).clear
  | .union h o => (h.runC d).union (o.runC d)
  | .intersect h o => (h.runC d).intersect (o.runC d)
  | .subtract h o => (h.runC d).subtract (o.runC d)

/-- the machine-size side conditions of a history: every value handed to `extend` / `remove_all`
(the ranges of a discontinuous domain go the same way) is a `u32`, so its major is not `u32::MAX`,
the sentinel the page-index caches start from; and the left operand of every `process` has fewer
than `usize::MAX` pages (`compact` uses `usize::MAX` as a sentinel). Both hold for every
`IntSet<T>` that fits in memory. -/
def Hist.Fits (d : Domain) : Hist → Prop
  | .empty => True
  | .all => True
  | .insert h _ => h.Fits d
  | .remove h _ => h.Fits d
  | .insertRange h a b => h.Fits d ∧ ∀ v ∈ expand (d.rangeValues a b), v < 2 ^ 32
  | .removeRange h a b => h.Fits d ∧ ∀ v ∈ expand (d.rangeValues a b), v < 2 ^ 32
  | .extend h vs => h.Fits d ∧ ∀ v ∈ vs, v < 2 ^ 32
  | .removeAll h vs => h.Fits d ∧ ∀ v ∈ vs, v < 2 ^ 32
  | .invert h => h.Fits d
  | .clear h => h.Fits d
  | .union h o => h.Fits d ∧ o.Fits d ∧ (h.run d).set.pages.length < USIZE_MAX
  | .intersect h o => h.Fits d ∧ o.Fits d ∧ (h.run d).set.pages.length < USIZE_MAX
  | .subtract h o => h.Fits d ∧ o.Fits d ∧ (h.run d).set.pages.length < USIZE_MAX

theorem CIntSet.abs_mk (i : Bool) (s : CBitSet) : (CIntSet.mk i s).abs = ⟨i, s.abs⟩ := rfl

/-- `Rep` lifted to the `IntSet` wrapper: same mode, the stored set represented -/
structure IRep (s : CIntSet) (t : IntSet) : Prop where
  mode : s.inverted = t.inverted
  set : Rep s.set t.set

namespace IRep
variable {s o : CIntSet} {t u : IntSet}

theorem mk' {i : Bool} {b : CBitSet} {c : BitSet} (h : Rep b c) : IRep ⟨i, b⟩ ⟨i, c⟩ := ⟨rfl, h⟩

theorem refl (h : CIInv s) : IRep s s.abs := ⟨rfl, Rep.refl h⟩

theorem abs_eq (h : IRep s t) : s.abs = t := by
  obtain ⟨i, b⟩ := s; obtain ⟨j, c⟩ := t; obtain ⟨hm, hs⟩ := h
  simp only at hm; subst hm
  show (⟨i, b.abs⟩ : IntSet) = _
  rw [hs.abs]

/-- the mode tables branch on `inverted`, which is the same on both sides -/
theorem ite {α β : Type} (R : α → β → Prop) (h : IRep s t) {a b : α} {a' b' : β} (ha : R a a') (hb : R b b') :
    R (if s.inverted then a else b) (if t.inverted then a' else b') := by
  rw [h.mode]; split <;> assumption

theorem insert (h : IRep s t) (v : Nat) :
    IRep (s.insert v).1 (t.insert v).1 ∧ (s.insert v).2 = (t.insert v).2 :=
  h.ite (fun (p : CIntSet × Bool) (p' : IntSet × Bool) => IRep p.1 p'.1 ∧ p.2 = p'.2) ⟨mk' (h.set.remove v).1, (h.set.remove v).2⟩
    ⟨mk' (h.set.insert v).1, (h.set.insert v).2⟩

theorem remove (h : IRep s t) (v : Nat) :
    IRep (s.remove v).1 (t.remove v).1 ∧ (s.remove v).2 = (t.remove v).2 :=
  h.ite (fun (p : CIntSet × Bool) (p' : IntSet × Bool) => IRep p.1 p'.1 ∧ p.2 = p'.2) ⟨mk' (h.set.insert v).1, (h.set.insert v).2⟩
    ⟨mk' (h.set.remove v).1, (h.set.remove v).2⟩

theorem extend (h : IRep s t) {vs : List Nat} (hv : ∀ v ∈ vs, v < 2 ^ 32) : IRep (s.extend vs) (t.extend vs) :=
  h.ite IRep (mk' (h.set.removeAll hv)) (mk' (h.set.extend hv))

theorem removeAll (h : IRep s t) {vs : List Nat} (hv : ∀ v ∈ vs, v < 2 ^ 32) :
    IRep (s.removeAll vs) (t.removeAll vs) :=
  h.ite IRep (mk' (h.set.extend hv)) (mk' (h.set.removeAll hv))

theorem extendUnsorted (h : IRep s t) {vs : List Nat} (hv : ∀ v ∈ vs, v < 2 ^ 32) :
    IRep (s.extendUnsorted vs) (t.extend vs) :=
  h.ite IRep (mk' (h.set.removeAll hv)) (mk' (h.set.extendUnsorted vs))

theorem insertRange (d : Domain) (h : IRep s t) {a b : Nat}
    (hv : ∀ v ∈ expand (d.rangeValues a b), v < 2 ^ 32) : IRep (s.insertRange d a b) (t.insertRange d a b) := by
  unfold CIntSet.insertRange IntSet.insertRange
  split
  · exact h.ite IRep (mk' (h.set.removeRange a b)) (mk' (h.set.insertRange a b))
  · exact h.ite IRep (mk' (h.set.removeAll hv)) (mk' (h.set.extend hv))

theorem removeRange (d : Domain) (h : IRep s t) {a b : Nat}
    (hv : ∀ v ∈ expand (d.rangeValues a b), v < 2 ^ 32) : IRep (s.removeRange d a b) (t.removeRange d a b) := by
  unfold CIntSet.removeRange IntSet.removeRange
  split
  · exact h.ite IRep (mk' (h.set.insertRange a b)) (mk' (h.set.removeRange a b))
  · exact h.ite IRep (mk' (h.set.extend hv)) (mk' (h.set.removeAll hv))

theorem union (h : IRep s t) (h' : IRep o u) (hsz : t.set.pages.length < USIZE_MAX) :
    IRep (s.union o) (t.union u) := by
  obtain ⟨i, x⟩ := s; obtain ⟨j, c⟩ := t; obtain ⟨hm, hs⟩ := h
  obtain ⟨i', y⟩ := o; obtain ⟨j', c'⟩ := u; obtain ⟨hm', hs'⟩ := h'
  simp only at hm hs hm' hs' hsz; subst hm; subst hm'
  cases i <;> cases i'
  · exact mk' (Rep.process refines_union bitwise_union hs hs' hsz)
  · exact mk' (Rep.process refines_revSubtract bitwise_revSubtract hs hs' hsz)
  · exact mk' (Rep.process refines_subtract bitwise_subtract hs hs' hsz)
  · exact mk' (Rep.process refines_intersect bitwise_intersect hs hs' hsz)

theorem intersect (h : IRep s t) (h' : IRep o u) (hsz : t.set.pages.length < USIZE_MAX) :
    IRep (s.intersect o) (t.intersect u) := by
  obtain ⟨i, x⟩ := s; obtain ⟨j, c⟩ := t; obtain ⟨hm, hs⟩ := h
  obtain ⟨i', y⟩ := o; obtain ⟨j', c'⟩ := u; obtain ⟨hm', hs'⟩ := h'
  simp only at hm hs hm' hs' hsz; subst hm; subst hm'
  cases i <;> cases i'
  · exact mk' (Rep.process refines_intersect bitwise_intersect hs hs' hsz)
  · exact mk' (Rep.process refines_subtract bitwise_subtract hs hs' hsz)
  · exact mk' (Rep.process refines_revSubtract bitwise_revSubtract hs hs' hsz)
  · exact mk' (Rep.process refines_union bitwise_union hs hs' hsz)

theorem subtract (h : IRep s t) (h' : IRep o u) (hsz : t.set.pages.length < USIZE_MAX) :
    IRep (s.subtract o) (t.subtract u) := by
  obtain ⟨i, x⟩ := s; obtain ⟨j, c⟩ := t; obtain ⟨hm, hs⟩ := h
  obtain ⟨i', y⟩ := o; obtain ⟨j', c'⟩ := u; obtain ⟨hm', hs'⟩ := h'
  simp only at hm hs hm' hs' hsz; subst hm; subst hm'
  cases i <;> cases i'
  · exact mk' (Rep.process refines_subtract bitwise_subtract hs hs' hsz)
  · exact mk' (Rep.process refines_intersect bitwise_intersect hs hs' hsz)
  · exact mk' (Rep.process refines_union bitwise_union hs hs' hsz)
  · exact mk' (Rep.process refines_revSubtract bitwise_revSubtract hs hs' hsz)

theorem contains (h : IRep s t) (v : Nat) : s.contains v = t.contains v := by
  unfold CIntSet.contains IntSet.contains
  rw [h.mode, h.set.contains v]

end IRep

theorem Hist.runC_rep (d : Domain) (h : Hist) (hf : h.Fits d) : IRep (h.runC d) (h.run d) := by
  induction h with
  | empty => exact ⟨rfl, Rep.empty⟩
  | all => exact ⟨rfl, Rep.empty⟩
  | insert h v ih => exact ((ih hf).insert v).1
  | remove h v ih => exact ((ih hf).remove v).1
  | insertRange h a b ih => exact (ih hf.1).insertRange d hf.2
  | extend h vs ih => exact (ih hf.1).extend hf.2
  | union h o ih1 ih2 => exact (ih1 hf.1).union (ih2 hf.2.1) hf.2.2
  | invert h ih => exact ⟨by simp only [Hist.runC, Hist.run, CIntSet.invert, IntSet.invert, (ih hf).mode], (ih hf).set⟩
  | clear h ih => exact ⟨rfl, Rep.empty⟩
  | removeRange h a b ih => exact (ih hf.1).removeRange d hf.2
  | removeAll h vs ih => exact (ih hf.1).removeAll hf.2
  | intersect h o ih1 ih2 => exact (ih1 hf.1).intersect (ih2 hf.2.1) hf.2.2
  | subtract h o ih1 ih2 => exact (ih1 hf.1).subtract (ih2 hf.2.1) hf.2.2


end FontVerif.IntSet
