/-
`write_glyf_loca` (Model/Subset.lean `locaOffsets`): the specification `offAt` of a loca entry, the emitted offsets in
closed form, the glyf bytes a loca range cuts out, and the two loca encodings read back by `decodeShortLoca` / `decodeLongLoca`, readers of a loca table written out here for
the statement of `C17.loca_encoding_exact`.
-/
import FontVerif.Model.Subset
import FontVerif.Lemmas.Base
namespace FontVerif.Subset

/-- bytes a kept glyph occupies in the output glyf table -/
def slotSize (pad : Bool) (g : Bytes) : Nat := if pad then paddedSize g.length else g.length

/-- the glyph bytes as embedded (with the padding byte of the short format) -/
def slotBytes (pad : Bool) (g : Bytes) : Bytes := if pad ∧ g.length % 2 = 1 then g ++ [0] else g

theorem slotBytes_length (pad : Bool) (g : Bytes) : (slotBytes pad g).length = slotSize pad g := by
  unfold slotBytes slotSize paddedSize
  cases pad <;> simp
  split <;> simp <;> omega

/-- specification of loca entry `j`: total size of the kept glyphs whose new id is below `j` -/
def offAt (pad : Bool) (gs : List (Nat × Bytes)) (j : Nat) : Nat :=
  ((gs.filter (fun p => p.1 < j)).map (fun p => slotSize pad p.2)).sum

/-- the total the format decision looks at -/
def totalSize (pad : Bool) (gs : List (Nat × Bytes)) : Nat := (gs.map (fun p => slotSize pad p.2)).sum

theorem offAt_nil (pad : Bool) (j : Nat) : offAt pad [] j = 0 := by simp [offAt]

theorem offAt_cons_lt (pad : Bool) (gid : Nat) (g : Bytes) (rest : List (Nat × Bytes)) (j : Nat) (h : gid < j) :
    offAt pad ((gid, g) :: rest) j = slotSize pad g + offAt pad rest j := by
  simp [offAt, h]

theorem offAt_cons_ge (pad : Bool) (gid : Nat) (g : Bytes) (rest : List (Nat × Bytes)) (j : Nat) (h : ¬ gid < j) :
    offAt pad ((gid, g) :: rest) j = offAt pad rest j := by
  simp [offAt, h]

theorem offAt_of_all_ge (pad : Bool) (j : Nat) : ∀ (gs : List (Nat × Bytes)), (∀ p ∈ gs, j ≤ p.1) → offAt pad gs j = 0 := by
  intro gs
  induction gs with
  | nil => intro _; exact offAt_nil pad j
  | cons hd tl ih =>
    obtain ⟨a, b⟩ := hd
    intro h
    have ha : ¬ a < j := by have := h (a, b) (by simp); simp at this; omega
    rw [offAt_cons_ge pad a b tl j ha]
    exact ih (fun p hp => h p (by simp [hp]))

theorem offAt_of_all_lt (pad : Bool) (j : Nat) (gs : List (Nat × Bytes)) (h : ∀ p ∈ gs, p.1 < j) :
    offAt pad gs j = totalSize pad gs := by
  rw [offAt, List.filter_eq_self.mpr (fun p hp => decide_eq_true (h p hp))]; rfl

theorem offAt_append (pad : Bool) (a b : List (Nat × Bytes)) (j : Nat) :
    offAt pad (a ++ b) j = offAt pad a j + offAt pad b j := by
  simp only [offAt, List.filter_append, List.map_append, List.sum_append]

theorem offAt_succ_of_ne (pad : Bool) (gs : List (Nat × Bytes)) (k : Nat) (hne : ∀ p ∈ gs, p.1 ≠ k) :
    offAt pad gs (k + 1) = offAt pad gs k := by
  unfold offAt
  congr 2
  apply List.filter_congr
  intro p hp
  have := hne p hp
  simp only [decide_eq_decide]
  omega

theorem offAt_split (pad : Bool) (pre : List (Nat × Bytes)) (gid : Nat) (g : Bytes) (post : List (Nat × Bytes))
    (hs : ((pre ++ (gid, g) :: post).map (·.1)).Pairwise (· < ·)) :
    offAt pad (pre ++ (gid, g) :: post) gid = totalSize pad pre ∧
    offAt pad (pre ++ (gid, g) :: post) (gid + 1) = totalSize pad pre + slotSize pad g := by
  rw [List.map_append, List.map_cons, List.pairwise_append, List.pairwise_cons] at hs
  obtain ⟨_, ⟨hpost, _⟩, hpre⟩ := hs
  have hpre' : ∀ p ∈ pre, p.1 < gid := fun p hp => hpre p.1 (List.mem_map_of_mem hp) gid (List.mem_cons_self ..)
  have hpost' : ∀ p ∈ post, gid + 1 ≤ p.1 := fun p hp => hpost p.1 (List.mem_map_of_mem hp)
  rw [offAt_append, offAt_append, offAt_of_all_lt pad gid pre hpre',
    offAt_of_all_lt pad (gid + 1) pre (fun p hp => Nat.lt_succ_of_lt (hpre' p hp)),
    offAt_cons_ge pad gid g post gid (Nat.lt_irrefl _), offAt_cons_lt pad gid g post _ (Nat.lt_succ_self _),
    offAt_of_all_ge pad _ post hpost', offAt_of_all_ge pad _ post (fun p hp => Nat.le_of_succ_le (hpost' p hp))]
  exact ⟨rfl, rfl⟩

theorem offAt_mono (pad : Bool) (j k : Nat) (hjk : j ≤ k) : ∀ (gs : List (Nat × Bytes)), offAt pad gs j ≤ offAt pad gs k := by
  intro gs
  induction gs with
  | nil => simp [offAt_nil]
  | cons hd tl ih =>
    obtain ⟨a, b⟩ := hd
    by_cases h1 : a < j
    · rw [offAt_cons_lt pad a b tl j h1, offAt_cons_lt pad a b tl k (by omega)]; omega
    · rw [offAt_cons_ge pad a b tl j h1]
      by_cases h2 : a < k
      · rw [offAt_cons_lt pad a b tl k h2]; omega
      · rw [offAt_cons_ge pad a b tl k h2]; exact ih

theorem offAt_even (j : Nat) : ∀ (gs : List (Nat × Bytes)), offAt true gs j % 2 = 0 := by
  intro gs
  induction gs with
  | nil => simp [offAt_nil]
  | cons hd tl ih =>
    obtain ⟨a, b⟩ := hd
    by_cases h1 : a < j
    · rw [offAt_cons_lt true a b tl j h1]
      have : slotSize true b % 2 = 0 := by unfold slotSize paddedSize; simp; omega
      omega
    · rw [offAt_cons_ge true a b tl j h1]; exact ih

theorem offAt_le_total (pad : Bool) (j : Nat) : ∀ (gs : List (Nat × Bytes)), offAt pad gs j ≤ totalSize pad gs := by
  intro gs
  induction gs with
  | nil => simp [offAt_nil]
  | cons hd tl ih =>
    obtain ⟨a, b⟩ := hd
    by_cases h1 : a < j
    · rw [offAt_cons_lt pad a b tl j h1]; simp [totalSize] at ih ⊢; omega
    · rw [offAt_cons_ge pad a b tl j h1]; simp [totalSize] at ih ⊢; omega

theorem offAt_le_padded (pad : Bool) (j : Nat) (gs : List (Nat × Bytes)) : offAt pad gs j ≤ totalSize true gs := by
  refine Nat.le_trans (offAt_le_total pad j gs) ?_
  cases pad
  · exact sum_map_le gs (fun p _ => by simp [slotSize, paddedSize])
  · exact Nat.le_refl _

theorem locaOffsetsGo_eq (pad : Bool) (nout : Nat) : ∀ (gs : List (Nat × Bytes)) (last offset : Nat),
    (gs.map (·.1)).Pairwise (· < ·) → (∀ p ∈ gs, last ≤ p.1 ∧ p.1 < nout) →
    locaOffsetsGo pad nout gs last offset =
      (List.range' (last + 1) (nout - last)).map (fun j => offset + offAt pad gs j) := by
  intro gs
  induction gs with
  | nil =>
    intro last offset _ _
    simp only [locaOffsetsGo, offAt_nil, Nat.add_zero, List.map_const', List.length_range']
  | cons hd tl ih =>
    obtain ⟨gid, g⟩ := hd
    intro last offset hs hb
    have hg := hb (gid, g) (List.mem_cons_self ..)
    simp only at hg
    simp only [List.map_cons, List.pairwise_cons] at hs
    have htl : ∀ p ∈ tl, gid + 1 ≤ p.1 ∧ p.1 < nout := fun p hp =>
      ⟨hs.1 p.1 (List.mem_map_of_mem hp), (hb p (List.mem_cons_of_mem _ hp)).2⟩
    have h0 : ∀ j, j ≤ gid + 1 → offAt pad tl j = 0 := fun j hj =>
      offAt_of_all_ge pad j tl (fun p hp => Nat.le_trans hj (htl p hp).1)
    have hnext : (if last < gid then gid else last) + 1 = gid + 1 := by split <;> omega
    -- ids up to `gid` (gaps: the previous end offset), `gid + 1` (this glyph's end offset), the rest
    have hsplit : List.range' (last + 1) (nout - last) =
        List.range' (last + 1) (gid - last) ++ (gid + 1) :: List.range' (gid + 1 + 1) (nout - (gid + 1)) := by
      rw [← List.range'_succ, ← show last + 1 + (gid - last) = gid + 1 by omega, List.range'_append_1]
      congr 1; omega
    rw [locaOffsetsGo, hnext, ih (gid + 1) _ hs.2 htl, hsplit, List.map_append, List.map_cons]
    congr 1
    · refine (List.eq_replicate_iff.mpr ⟨?_, fun b hb' => ?_⟩).symm
      · rw [List.length_map, List.length_range']
      · obtain ⟨j, hj, rfl⟩ := List.mem_map.mp hb'
        rw [offAt_cons_ge pad gid g tl j (by have := List.mem_range'_1.mp hj; omega),
          h0 j (by have := List.mem_range'_1.mp hj; omega), Nat.add_zero]
    · have e : (if pad = true then paddedSize g.length else g.length) = slotSize pad g := rfl
      rw [e, offAt_cons_lt pad gid g tl _ (Nat.lt_succ_self _), h0 _ (Nat.le_refl _)]
      congr 1
      apply List.map_congr_left
      intro j hj
      rw [offAt_cons_lt pad gid g tl j (by have := List.mem_range'_1.mp hj; omega), Nat.add_assoc]

theorem locaOffsets_eq (pad : Bool) (nout : Nat) (gs : List (Nat × Bytes))
    (hs : (gs.map (·.1)).Pairwise (· < ·)) (hb : ∀ p ∈ gs, p.1 < nout) :
    locaOffsets pad nout gs = (List.range (nout + 1)).map (offAt pad gs) := by
  rw [locaOffsets, locaOffsetsGo_eq pad nout gs 0 0 hs (fun p hp => ⟨Nat.zero_le _, hb p hp⟩), List.range_eq_range',
    List.range'_succ, List.map_cons, offAt_of_all_ge pad 0 gs (fun p _ => Nat.zero_le _)]
  simp only [Nat.zero_add, Nat.sub_zero]

theorem locaOffsets_mem (pad : Bool) (nout : Nat) (gs : List (Nat × Bytes))
    (hs : (gs.map (·.1)).Pairwise (· < ·)) (hb : ∀ p ∈ gs, p.1 < nout) :
    ∀ o ∈ locaOffsets pad nout gs, o ≤ totalSize true gs ∧ (pad = true → o % 2 = 0) := by
  intro o ho
  rw [locaOffsets_eq pad nout gs hs hb] at ho
  obtain ⟨j, _, rfl⟩ := List.mem_map.mp ho
  exact ⟨offAt_le_padded pad j gs, fun hp => by subst hp; exact offAt_even j gs⟩

theorem locaOffsets_length (pad : Bool) (nout : Nat) (gs : List (Nat × Bytes))
    (hs : (gs.map (·.1)).Pairwise (· < ·)) (hb : ∀ p ∈ gs, p.1 < nout) :
    (locaOffsets pad nout gs).length = nout + 1 := by
  rw [locaOffsets_eq pad nout gs hs hb, List.length_map, List.length_range]

theorem locaOffsets_getElem (pad : Bool) (nout : Nat) (gs : List (Nat × Bytes))
    (hs : (gs.map (·.1)).Pairwise (· < ·)) (hb : ∀ p ∈ gs, p.1 < nout) (j : Nat) (hj : j ≤ nout) :
    (locaOffsets pad nout gs)[j]? = some (offAt pad gs j) := by
  rw [locaOffsets_eq pad nout gs hs hb, List.getElem?_map, List.getElem?_range (by omega)]; rfl

theorem glyfBytes_cons (pad : Bool) (g : Bytes) (gs : List Bytes) :
    glyfBytes pad (g :: gs) = slotBytes pad g ++ glyfBytes pad gs := rfl

theorem glyfBytes_append (pad : Bool) (a b : List Bytes) : glyfBytes pad (a ++ b) = glyfBytes pad a ++ glyfBytes pad b :=
  List.flatMap_append

theorem glyfBytes_length (pad : Bool) : ∀ (ks : List (Nat × Bytes)),
    (glyfBytes pad (ks.map (·.2))).length = totalSize pad ks
  | [] => rfl
  | k :: rest => by
    rw [List.map_cons, glyfBytes_cons, List.length_append, slotBytes_length, glyfBytes_length pad rest]; rfl

theorem glyfBytes_slot (pad : Bool) (pre : List (Nat × Bytes)) (g : Bytes) (post : List Bytes) :
    ((glyfBytes pad (pre.map (·.2) ++ g :: post)).drop (totalSize pad pre)).take (slotSize pad g) = slotBytes pad g := by
  rw [glyfBytes_append, glyfBytes_cons, ← glyfBytes_length, ← slotBytes_length, List.drop_left, List.take_left]

def decodeShortLoca : Bytes → List Nat
  | a :: b :: rest => (a * 256 + b) * 2 :: decodeShortLoca rest
  | _ => []

def decodeLongLoca : Bytes → List Nat
  | a :: b :: c :: d :: rest => (a * 16777216 + b * 65536 + c * 256 + d) :: decodeLongLoca rest
  | _ => []

theorem decodeShortLoca_encode : ∀ (offs : List Nat), (∀ o ∈ offs, o % 2 = 0 ∧ o < 131072) →
    decodeShortLoca (offs.flatMap (fun o => be16 (o / 2 % 65536))) = offs := by
  intro offs
  induction offs with
  | nil => intro _; simp [decodeShortLoca]
  | cons o tl ih =>
    intro h
    have ho := h o (by simp)
    have ih' := ih (fun x hx => h x (by simp [hx]))
    simp only [be16] at ih'
    simp only [List.flatMap_cons, be16, List.cons_append, List.nil_append, decodeShortLoca]
    rw [ih']
    congr 1
    omega

theorem decodeLongLoca_encode : ∀ (offs : List Nat), (∀ o ∈ offs, o < 4294967296) →
    decodeLongLoca (offs.flatMap (fun o => be32 (o % 4294967296))) = offs := by
  intro offs
  induction offs with
  | nil => intro _; rfl
  | cons o tl ih =>
    intro h
    have ho := h o (List.mem_cons_self ..)
    rw [List.flatMap_cons, Nat.mod_eq_of_lt ho]
    show (_ :: decodeLongLoca (tl.flatMap _)) = _
    rw [ih (fun x hx => h x (List.mem_cons_of_mem _ hx))]
    exact congrArg (· :: tl) (digits4 ho)

theorem writeGlyfLoca_fmt (nout : Nat) (news : List Nat) (gs : List Bytes) :
    (writeGlyfLoca nout news gs).fmt = if (gs.map (fun g => paddedSize g.length)).sum < 0x1FFFF then 0 else 1 := by
  unfold writeGlyfLoca; simp only

theorem writeGlyfLoca_loca (nout : Nat) (news : List Nat) (gs : List Bytes) :
    (writeGlyfLoca nout news gs).loca =
      if (gs.map (fun g => paddedSize g.length)).sum < 0x1FFFF
      then (locaOffsets true nout (news.zip gs)).flatMap (fun o => be16 (o / 2 % 65536))
      else (locaOffsets false nout (news.zip gs)).flatMap (fun o => be32 (o % 4294967296)) := by
  unfold writeGlyfLoca
  by_cases h : (gs.map (fun g => paddedSize g.length)).sum < 0x1FFFF <;> simp only [h, decide_true, decide_false, if_true, if_false]

end FontVerif.Subset
