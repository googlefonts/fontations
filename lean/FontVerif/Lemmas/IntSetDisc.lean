/- C14 / IntSet: `iter_ranges` on discontinuous domains (`RangeIter::InclusiveDiscontinuous` =
`mergeDomainAdjacent`, `RangeIter::ExclusiveDiscontinuous` = `discontinuousRuns`) yields the
canonical runs of consecutive domain values; hence `ranges_canonical` (same ranges, so same hash
input, iff same members), `==` and `intersects_set` on every domain. -/
import FontVerif.Lemmas.IntSetEq
import FontVerif.Lemmas.IntSetView
set_option linter.unusedVariables false
namespace FontVerif.IntSet

/-- a domain value lies strictly between the two ranges -/
def DGap (D : List Nat) (p q : Nat × Nat) : Prop := ∃ g ∈ D, p.2 < g ∧ g < q.1

/-- range list in *domain* normal form: end points are domain values, ranges are sorted,
disjoint, well formed, and two ranges are never adjacent in the domain (a domain value lies
between them) — what `iter_ranges` yields for a discontinuous domain -/
def DRInv (D : List Nat) (rs : List (Nat × Nat)) : Prop :=
  rs.Pairwise (fun p q => p.2 < q.1 ∧ DGap D p q) ∧ ∀ p ∈ rs, p.1 ≤ p.2 ∧ p.1 ∈ D ∧ p.2 ∈ D

theorem drinv_nil (D : List Nat) : DRInv D [] := ⟨List.Pairwise.nil, by simp⟩

theorem drinv_cons {D : List Nat} {p : Nat × Nat} {rs : List (Nat × Nat)} :
    DRInv D (p :: rs) ↔
      (∀ q ∈ rs, p.2 < q.1 ∧ DGap D p q) ∧ (p.1 ≤ p.2 ∧ p.1 ∈ D ∧ p.2 ∈ D) ∧ DRInv D rs := by
  simp only [DRInv, List.pairwise_cons, List.mem_cons, forall_eq_or_imp]
  constructor
  · rintro ⟨⟨h1, h2⟩, h3, h4⟩; exact ⟨h1, h3, h2, h4⟩
  · rintro ⟨h1, h3, h2, h4⟩; exact ⟨⟨h1, h2⟩, h3, h4⟩

theorem DRInv.rsorted {D : List Nat} {rs : List (Nat × Nat)} (h : DRInv D rs) : RSorted rs :=
  ⟨List.Pairwise.imp (fun h => h.1) h.1, fun p hp => (h.2 p hp).1⟩

theorem DRInv.mono {D D' : List Nat} {rs : List (Nat × Nat)} (hsub : ∀ x ∈ D, x ∈ D')
    (h : DRInv D rs) : DRInv D' rs := by
  refine ⟨List.Pairwise.imp ?_ h.1, fun p hp => ?_⟩
  · rintro p q ⟨h1, g, hg, h2, h3⟩
    exact ⟨h1, g, hsub g hg, h2, h3⟩
  · have := h.2 p hp
    exact ⟨this.1, hsub _ this.2.1, hsub _ this.2.2⟩

/-- RangeSet normal form is domain normal form over any `D` that holds the end points and the
value following each range that has a successor -/
theorem NRInv.drinv {D : List Nat} {rs : List (Nat × Nat)} (h : NRInv rs)
    (hD : ∀ p ∈ rs, p.1 ∈ D ∧ p.2 ∈ D)
    (hgap : ∀ p ∈ rs, ∀ q ∈ rs, p.2 + 1 < q.1 → p.2 + 1 ∈ D) : DRInv D rs :=
  ⟨h.1.imp_of_mem (fun hp hq hpq =>
      ⟨Nat.lt_of_succ_lt hpq, _, hgap _ hp _ hq hpq, Nat.lt_succ_self _, hpq⟩),
    fun p hp => ⟨h.2 p hp, hD p hp⟩⟩

theorem drinv_ext {D : List Nat} {as bs : List (Nat × Nat)} (ha : DRInv D as) (hb : DRInv D bs)
    (h : ∀ x ∈ D, (NMem as x ↔ NMem bs x)) : as = bs := by
  induction as generalizing bs with
  | nil =>
    cases bs with
    | nil => rfl
    | cons b bs =>
      have hb' := (drinv_cons.1 hb).2.1
      exact absurd ((h b.1 hb'.2.1).2 (nmem_cons.2 (Or.inl ⟨Nat.le_refl _, hb'.1⟩))) nmem_nil
  | cons a as ih =>
    cases bs with
    | nil =>
      have ha' := (drinv_cons.1 ha).2.1
      exact absurd ((h a.1 ha'.2.1).1 (nmem_cons.2 (Or.inl ⟨Nat.le_refl _, ha'.1⟩))) nmem_nil
    | cons b bs =>
      -- both lists start at their least covered domain value
      have hs : a.1 = b.1 := by
        have ca := (drinv_cons.1 ha).2.1
        have cb := (drinv_cons.1 hb).2.1
        have h1 := nmem_ge_head hb.rsorted
          ((h a.1 ca.2.1).1 (nmem_cons.2 (Or.inl ⟨Nat.le_refl _, ca.1⟩)))
        have h2 := nmem_ge_head ha.rsorted
          ((h b.1 cb.2.1).2 (nmem_cons.2 (Or.inl ⟨Nat.le_refl _, cb.1⟩)))
        omega
      -- the first range of one list cannot end before that of the other: its end `y.2` would be
      -- covered by a later range `r` of the first list, and the domain value in the gap before `r`
      -- would be covered by the second list only
      have key : ∀ {x y : Nat × Nat} {xs ys : List (Nat × Nat)}, x.1 = y.1 →
          DRInv D (x :: xs) → DRInv D (y :: ys) →
          (∀ z ∈ D, (NMem (x :: xs) z ↔ NMem (y :: ys) z)) → ¬ x.2 < y.2 := by
        intro x y xs ys hxy hx hy hm hlt
        have cx := drinv_cons.1 hx
        have cy := (drinv_cons.1 hy).2.1
        rcases nmem_cons.1 ((hm y.2 cy.2.2).2 (nmem_cons.2 (Or.inl ⟨cy.1, Nat.le_refl _⟩)))
          with h1 | h1
        · omega
        · cases xs with
          | nil => exact nmem_nil h1
          | cons r xs' =>
            obtain ⟨_, g, hg, hg1, hg2⟩ := cx.1 r (List.mem_cons_self ..)
            have hry := nmem_ge_head cx.2.2.rsorted h1
            have hx1 := cx.2.1.1
            rcases nmem_cons.1 ((hm g hg).2 (nmem_cons.2 (Or.inl ⟨by omega, by omega⟩)))
              with h2 | h2
            · omega
            · have := nmem_ge_head cx.2.2.rsorted h2; omega
      have he : a.2 = b.2 := by
        have k1 := key hs ha hb h
        have k2 := key hs.symm hb ha (fun z hz => (h z hz).symm)
        omega
      have hab : a = b := Prod.ext hs he
      subst hab
      -- beyond the common first range the two tails cover the same domain values
      have tail : ∀ {xs ys : List (Nat × Nat)}, DRInv D (a :: xs) →
          (∀ z ∈ D, NMem (a :: xs) z → NMem (a :: ys) z) → ∀ z ∈ D, NMem xs z → NMem ys z := by
        intro xs ys hx hm z hz hzx
        have := nmem_tail_gt hx.rsorted hzx
        exact (nmem_cons.1 (hm z hz (nmem_cons.2 (Or.inr hzx)))).resolve_left (fun h1 => by omega)
      rw [ih (drinv_cons.1 ha).2.2 (drinv_cons.1 hb).2.2 (fun z hz =>
        ⟨tail ha (fun z hz => (h z hz).1) z hz, tail hb (fun z hz => (h z hz).2) z hz⟩)]

theorem exists_end_bound (rs : List (Nat × Nat)) : ∃ N, ∀ p ∈ rs, p.2 < N := by
  induction rs with
  | nil => exact ⟨0, fun _ hp => absurd hp List.not_mem_nil⟩
  | cons r rs ih =>
    obtain ⟨N, hN⟩ := ih
    refine ⟨max N (r.2 + 1), fun p hp => ?_⟩
    rcases List.mem_cons.1 hp with rfl | hp
    · omega
    · have := hN p hp; omega

theorem nrinv_ext {as bs : List (Nat × Nat)} (ha : NRInv as) (hb : NRInv bs)
    (h : ∀ x, NMem as x ↔ NMem bs x) : as = bs := by
  -- RangeSet normal form is domain normal form over an initial segment of the naturals
  obtain ⟨Na, hNa⟩ := exists_end_bound as
  obtain ⟨Nb, hNb⟩ := exists_end_bound bs
  have key : ∀ {rs : List (Nat × Nat)}, NRInv rs → (∀ p ∈ rs, p.2 < Na + Nb) →
      DRInv (List.range (Na + Nb)) rs := fun hr hN =>
    hr.drinv
      (fun p hp => ⟨List.mem_range.2 (Nat.lt_of_le_of_lt (hr.2 p hp) (hN p hp)),
        List.mem_range.2 (hN p hp)⟩)
      (fun p _ q hq hpq => List.mem_range.2 (by have := hr.2 q hq; have := hN q hq; omega))
  exact drinv_ext (key ha (fun p hp => Nat.lt_add_right _ (hNa p hp)))
    (key hb (fun p hp => Nat.lt_add_left _ (hNb p hp))) (fun x _ => h x)

theorem discontinuousRuns_nil (inSet : Nat → Bool) : discontinuousRuns inSet [] = [] := rfl

/-- what the rest of the output looks like when a call is in the middle of a run `(a, e)` -/
def extendRun (f : Nat → Bool) (cur : Nat × Nat) (L : List Nat) : List (Nat × Nat) :=
  match L with
  | [] => [cur]
  | w :: _ =>
    if f w then cur :: discontinuousRuns f L
    else match discontinuousRuns f L with
      | (_, e') :: rest => (cur.1, e') :: rest
      | [] => [cur]

theorem extendRun_nil (f : Nat → Bool) (cur : Nat × Nat) : extendRun f cur [] = [cur] := rfl

theorem dRuns_cons_in {f : Nat → Bool} {v : Nat} (vs : List Nat) (h : f v = true) :
    discontinuousRuns f (v :: vs) = discontinuousRuns f vs := by
  conv => lhs; unfold discontinuousRuns
  rw [if_pos h]

theorem dRuns_cons_out {f : Nat → Bool} {v : Nat} (L : List Nat) (h : f v = false) :
    discontinuousRuns f (v :: L) = extendRun f (v, v) L := by
  conv => lhs; unfold discontinuousRuns
  rw [if_neg (by rw [h]; exact Bool.false_ne_true)]
  cases L with
  | nil => rfl
  | cons w t =>
    cases hr : discontinuousRuns f (w :: t) with
    | nil => cases hw : f w <;> simp [extendRun, hr, hw]
    | cons r rest => obtain ⟨s, e⟩ := r; cases hw : f w <;> simp [extendRun, hr, hw]

theorem extendRun_in {f : Nat → Bool} (cur : Nat × Nat) {w : Nat} (t : List Nat)
    (hw : f w = true) : extendRun f cur (w :: t) = cur :: discontinuousRuns f t := by
  simp [extendRun, hw, dRuns_cons_in t hw]

theorem extendRun_start (f : Nat → Bool) (b : Nat) (L : List Nat) :
    ∃ e rest, ∀ a, extendRun f (a, b) L = (a, e) :: rest := by
  cases L with
  | nil => exact ⟨b, [], fun _ => rfl⟩
  | cons w t =>
    cases hw : f w
    · cases hr : discontinuousRuns f (w :: t) with
      | nil => exact ⟨b, [], fun a => by simp [extendRun, hw, hr]⟩
      | cons r rest => exact ⟨r.2, rest, fun a => by simp [extendRun, hw, hr]⟩
    · exact ⟨b, discontinuousRuns f (w :: t), fun a => by simp [extendRun, hw]⟩

theorem extendRun_out {f : Nat → Bool} (cur : Nat × Nat) {w : Nat} (t : List Nat)
    (hw : f w = false) : extendRun f cur (w :: t) = extendRun f (cur.1, w) t := by
  obtain ⟨e, rest, h⟩ := extendRun_start f w t
  have hr : discontinuousRuns f (w :: t) = (w, e) :: rest := (dRuns_cons_out t hw).trans (h w)
  rw [h cur.1]
  simp [extendRun, hw, hr]

/-- `discontinuousRuns` together with `extendRun` for a run `(a, b)` in progress before values all
beyond `b`: the two call each other -/
theorem dRuns_extendRun_spec (f : Nat → Bool) (L : List Nat) (hL : Asc L) :
    (DRInv L (discontinuousRuns f L) ∧
      ∀ x ∈ L, (NMem (discontinuousRuns f L) x ↔ f x = false)) ∧
    ∀ a b, a ≤ b → (∀ x ∈ L, b < x) →
      (∃ e rest, extendRun f (a, b) L = (a, e) :: rest ∧ b ≤ e) ∧
      DRInv (a :: b :: L) (extendRun f (a, b) L) ∧
      ∀ x ∈ L, (NMem (extendRun f (a, b) L) x ↔ f x = false) := by
  induction L with
  | nil =>
    refine ⟨⟨drinv_nil _, fun x hx => absurd hx List.not_mem_nil⟩, fun a b hab _ => ?_⟩
    exact ⟨⟨b, [], rfl, Nat.le_refl _⟩,
      drinv_cons.2 ⟨fun q hq => absurd hq List.not_mem_nil, ⟨hab, by simp, by simp⟩, drinv_nil _⟩,
      fun x hx => absurd hx List.not_mem_nil⟩
  | cons w t ih =>
    have hL' := asc_cons.1 hL
    obtain ⟨⟨s1, s2⟩, xt⟩ := ih hL'.2
    have hstart : ∀ q ∈ discontinuousRuns f t, w < q.1 := fun q hq => hL'.1 _ (s1.2 q hq).2.1
    have hnotw : ¬ NMem (discontinuousRuns f t) w := fun ⟨q, hq, h1, _⟩ =>
      absurd (hstart q hq) (Nat.not_lt.2 h1)
    refine ⟨?_, fun a b hab hlt => ?_⟩
    · cases hw : f w
      · obtain ⟨⟨e, rest, he, hwe⟩, x2, x3⟩ := xt w w (Nat.le_refl _) hL'.1
        rw [dRuns_cons_out t hw]
        refine ⟨x2.mono (fun x hx => by simpa using hx), fun x hx => ?_⟩
        rcases List.mem_cons.1 hx with rfl | hx
        · exact iff_of_true (he ▸ nmem_cons.2 (Or.inl ⟨Nat.le_refl _, hwe⟩)) hw
        · exact x3 x hx
      · rw [dRuns_cons_in t hw]
        refine ⟨s1.mono (fun x hx => List.mem_cons_of_mem _ hx), fun x hx => ?_⟩
        rcases List.mem_cons.1 hx with rfl | hx
        · exact iff_of_false hnotw (by rw [hw]; exact Bool.noConfusion)
        · exact s2 x hx
    · have hbw : b < w := hlt w (List.mem_cons_self ..)
      cases hw : f w
      · obtain ⟨⟨e, rest, he, hwe⟩, x2, x3⟩ :=
          xt a w (Nat.le_of_lt (Nat.lt_of_le_of_lt hab hbw)) hL'.1
        rw [show extendRun f (a, b) (w :: t) = extendRun f (a, w) t from extendRun_out (a, b) t hw]
        refine ⟨⟨e, rest, he, Nat.le_trans (Nat.le_of_lt hbw) hwe⟩,
          x2.mono (fun x hx => (List.mem_cons.1 hx).elim (fun h => h ▸ List.mem_cons_self ..)
            (fun h => List.mem_cons_of_mem _ (List.mem_cons_of_mem _ h))), fun x hx => ?_⟩
        rcases List.mem_cons.1 hx with rfl | hx
        · exact iff_of_true (he ▸ nmem_cons.2 (Or.inl
            ⟨Nat.le_of_lt (Nat.lt_of_le_of_lt hab hbw), hwe⟩)) hw
        · exact x3 x hx
      · rw [extendRun_in (a, b) t hw]
        refine ⟨⟨b, _, rfl, Nat.le_refl _⟩, drinv_cons.2 ⟨fun q hq => ?_, ⟨hab, by simp, by simp⟩,
          s1.mono (fun x hx => by simp [hx])⟩, fun x hx => ?_⟩
        · exact ⟨Nat.lt_trans hbw (hstart q hq), w, by simp, hbw, hstart q hq⟩
        · have hbx : b < x := hlt x hx
          rw [nmem_cons, or_iff_right (fun h => absurd h.2 (Nat.not_le.2 hbx))]
          rcases List.mem_cons.1 hx with rfl | hx
          · exact iff_of_false hnotw (by rw [hw]; exact Bool.noConfusion)
          · exact s2 x hx

theorem discontinuousRuns_spec (inSet : Nat → Bool) (D : List Nat) (hD : Asc D) :
    DRInv D (discontinuousRuns inSet D) ∧
    ∀ x ∈ D, (NMem (discontinuousRuns inSet D) x ↔ inSet x = false) :=
  (dRuns_extendRun_spec inSet D hD).1

theorem discontinuousRuns_congr (f g : Nat → Bool) (D : List Nat) (h : ∀ x ∈ D, f x = g x) :
    discontinuousRuns f D = discontinuousRuns g D := by
  induction D with
  | nil => rfl
  | cons v vs ih =>
    have ih' := ih (fun x hx => h x (by simp [hx]))
    unfold discontinuousRuns
    rw [h v (by simp), ih']
    cases vs with
    | nil => rfl
    | cons w t =>
      have hw := h w (by simp)
      cases discontinuousRuns g (w :: t) with
      | nil => rfl
      | cons r rest =>
        obtain ⟨s, e⟩ := r
        simp only [hw]

/-- `RangeIter::are_values_adjacent(a, b)` for two domain values `a < b`: no domain value lies
strictly between them -/
theorem adjacent_spec {d : Domain} (hd : DomWF d) {a b : Nat} (ha : d.contains a = true)
    (hb : d.contains b = true) (hab : a < b) :
    d.adjacent a b = true ↔ ¬ ∃ g ∈ expand d.ranges, a < g ∧ g < b := by
  have hD := expand_asc hd.sorted
  -- the domain values of `[a, b]` are `a`, then the least domain value `c` above `a`, …
  obtain ⟨c, t, hc, hac, hcb, hmin⟩ := seg_head hD (Domain.contains_iff_mem.1 hb) (show a + 1 ≤ b from hab)
  have hcD : c ∈ expand d.ranges := (mem_seg.1 (hc ▸ List.mem_cons_self ..)).1
  unfold Domain.adjacent
  rw [expandTake_eq, expand_rangeValues hd,
    seg_cons_self hD (Domain.contains_iff_mem.1 ha) (Nat.le_of_lt hab), hc]
  simp only [List.take_succ_cons, List.take_zero, beq_iff_eq]
  constructor
  · rintro rfl ⟨g, hg, h1, h2⟩
    have := hmin g hg h1
    omega
  · intro hno
    apply Classical.byContradiction
    intro hne
    exact hno ⟨c, hcD, hac, by omega⟩

theorem mergeGo_nil (d : Domain) (cur : Nat × Nat) : mergeDomainAdjacent.go d cur [] = [cur] := by
  simp [mergeDomainAdjacent.go]

theorem mergeGo_cons (d : Domain) (cur n : Nat × Nat) (more : List (Nat × Nat)) :
    mergeDomainAdjacent.go d cur (n :: more) =
      if d.adjacent cur.2 n.1 then mergeDomainAdjacent.go d (cur.1, n.2) more
      else cur :: mergeDomainAdjacent.go d n more := by
  simp [mergeDomainAdjacent.go]

theorem mergeGo_spec {d : Domain} (hd : DomWF d) (rest : List (Nat × Nat)) (cur : Nat × Nat)
    (hs : RSorted (cur :: rest))
    (hD : ∀ p ∈ cur :: rest, p.1 ∈ expand d.ranges ∧ p.2 ∈ expand d.ranges) :
    DRInv (expand d.ranges) (mergeDomainAdjacent.go d cur rest) ∧
    (∀ x ∈ expand d.ranges,
      (NMem (mergeDomainAdjacent.go d cur rest) x ↔ NMem (cur :: rest) x)) := by
  induction rest generalizing cur with
  | nil =>
    rw [mergeGo_nil]
    have c := rsorted_cons.1 hs
    have hc := hD cur (by simp)
    exact ⟨drinv_cons.2 ⟨by simp, ⟨c.2.1, hc.1, hc.2⟩, drinv_nil _⟩, fun x _ => Iff.rfl⟩
  | cons n more ih =>
    rw [mergeGo_cons]
    have c := rsorted_cons.1 hs
    have cn := rsorted_cons.1 c.2.2
    obtain ⟨hcur, hrest⟩ := List.forall_mem_cons.1 hD
    obtain ⟨hn, hmore⟩ := List.forall_mem_cons.1 hrest
    have hlt : cur.2 < n.1 := c.1 n (by simp)
    have hadj := adjacent_spec hd (Domain.contains_iff_mem.2 hcur.2) (Domain.contains_iff_mem.2 hn.1) hlt
    split
    · rename_i ha
      have hno := hadj.1 ha
      have hs' : RSorted ((cur.1, n.2) :: more) :=
        rsorted_cons.2 ⟨cn.1, by simp only; omega, cn.2.2⟩
      obtain ⟨i1, i2⟩ := ih (cur.1, n.2) hs' (List.forall_mem_cons.2 ⟨⟨hcur.1, hn.2⟩, hmore⟩)
      refine ⟨i1, fun x hx => ?_⟩
      rw [i2 x hx, nmem_cons, nmem_cons, nmem_cons, ← or_assoc]
      refine or_congr_left ⟨fun h1 => ?_, fun h1 => by simp only at h1 ⊢; omega⟩
      have : ¬ (cur.2 < x ∧ x < n.1) := fun h => hno ⟨x, hx, h.1, h.2⟩
      simp only at h1 ⊢
      omega
    · rename_i ha
      obtain ⟨g, hg, hg1, hg2⟩ : ∃ g ∈ expand d.ranges, cur.2 < g ∧ g < n.1 :=
        Classical.byContradiction (fun hno => ha (hadj.2 hno))
      obtain ⟨i1, i2⟩ := ih n c.2.2 hrest
      refine ⟨drinv_cons.2 ⟨fun q hq => ?_, ⟨c.2.1, hcur.1, hcur.2⟩, i1⟩, fun x hx => ?_⟩
      · -- the start of `q` is a domain value it covers, hence covered by `n :: more`
        have hq' := i1.2 q hq
        have := nmem_ge_head c.2.2 ((i2 q.1 hq'.2.1).1 ⟨q, hq, Nat.le_refl _, hq'.1⟩)
        exact ⟨by omega, g, hg, hg1, by omega⟩
      · rw [nmem_cons, i2 x hx, nmem_cons (p := cur)]

theorem mergeDomainAdjacent_spec {d : Domain} (hd : DomWF d) (rs : List (Nat × Nat))
    (hs : RSorted rs) (hD : ∀ p ∈ rs, p.1 ∈ expand d.ranges ∧ p.2 ∈ expand d.ranges) :
    DRInv (expand d.ranges) (mergeDomainAdjacent d rs) ∧
    ∀ x ∈ expand d.ranges, (NMem (mergeDomainAdjacent d rs) x ↔ NMem rs x) := by
  cases rs with
  | nil => exact ⟨drinv_nil _, fun x _ => Iff.rfl⟩
  | cons r rest => exact mergeGo_spec hd rest r hs hD

theorem IntSet.rangesInvertible_disc {d : Domain} (hd : DomWF d) (hc : d.continuous = false)
    {s : IntSet} (h : IInvD d s) (inv : Bool) :
    DRInv (expand d.ranges) (s.rangesInvertible d inv) ∧
    ∀ x ∈ expand d.ranges,
      (NMem (s.rangesInvertible d inv) x ↔ (s.contains x ^^ inv) = true) := by
  obtain ⟨r1, r2⟩ := BitSet.ranges_spec _ h.1
  unfold IntSet.rangesInvertible
  by_cases hm : s.inverted = inv
  · rw [if_pos hm, if_neg (by rw [hc]; exact Bool.false_ne_true)]
    have hD : ∀ p ∈ s.set.ranges, p.1 ∈ expand d.ranges ∧ p.2 ∈ expand d.ranges := fun p hp =>
      ⟨Domain.contains_iff_mem.1 (h.ranges_ends p hp).1,
        Domain.contains_iff_mem.1 (h.ranges_ends p hp).2⟩
    obtain ⟨m1, m2⟩ := mergeDomainAdjacent_spec hd s.set.ranges r1.rsorted hD
    refine ⟨m1, fun x hx => ?_⟩
    rw [m2 x hx, r2, IntSet.contains_eq, hm, xor_xor_cancel]
  · rw [if_neg hm, if_neg (by rw [hc]; exact Bool.false_ne_true)]
    obtain ⟨d1, d2⟩ := discontinuousRuns_spec s.set.contains (expand d.ranges)
      (expand_asc hd.sorted)
    refine ⟨d1, fun x hx => ?_⟩
    rw [d2 x hx, IntSet.contains_eq, Bool.eq_not_of_ne hm, not_xor_xor, Bool.not_eq_true']

/-- `iter_ranges_invertible(inv)` on every well-formed domain: domain normal form, covering exactly the
members resp. non-members (on a continuous domain the RangeSet normal form is a domain normal form,
because the domain has no holes) -/
theorem IntSet.rangesInvertible_drinv {d : Domain} (hd : DomWF d) {s : IntSet} (h : IInvD d s)
    (inv : Bool) :
    DRInv (expand d.ranges) (s.rangesInvertible d inv) ∧
    ∀ x ∈ expand d.ranges,
      (NMem (s.rangesInvertible d inv) x ↔ (s.contains x ^^ inv) = true) := by
  cases hc : d.continuous with
  | false => exact IntSet.rangesInvertible_disc hd hc h inv
  | true =>
    obtain ⟨h1, h2⟩ := IntSet.rangesInvertible_spec hd hc h inv
    obtain ⟨lo, hi, hr⟩ := hd.cont hc
    have hends : ∀ p ∈ s.rangesInvertible d inv,
        d.contains p.1 = true ∧ d.contains p.2 = true :=
      forall_ends_of_nmem h1.2 (fun x hx => ((h2 x).1 hx).1)
    refine ⟨h1.drinv (fun p hp => ⟨Domain.contains_iff_mem.1 (hends p hp).1,
      Domain.contains_iff_mem.1 (hends p hp).2⟩) (fun p hp q hq hpq => ?_), fun x hx => ?_⟩
    · have h3 := (contains_single hr _).1 (hends p hp).2
      have h4 := (contains_single hr _).1 (hends q hq).1
      exact Domain.contains_iff_mem.1 ((contains_single hr _).2 ⟨by omega, by omega⟩)
    · rw [h2 x]; exact and_iff_right (Domain.contains_iff_mem.2 hx)

/-- `iter_ranges_invertible(inv)` yields the maximal runs of consecutive domain values that are
members (`inv = false`) resp. non-members: every well-formed domain, both modes -/
theorem IntSet.rangesInvertible_eq_runs {d : Domain} (hd : DomWF d) {s : IntSet} (h : IInvD d s)
    (inv : Bool) :
    s.rangesInvertible d inv =
      discontinuousRuns (fun x => !(s.contains x ^^ inv)) (expand d.ranges) := by
  obtain ⟨h1, h2⟩ := IntSet.rangesInvertible_drinv hd h inv
  obtain ⟨d1, d2⟩ := discontinuousRuns_spec (fun x => !(s.contains x ^^ inv)) _
    (expand_asc hd.sorted)
  exact drinv_ext h1 d1 (fun x hx => by rw [h2 x hx, d2 x hx, Bool.not_eq_false'])

/-- what every consumer of `iter_ranges()` relies on, for every well-formed domain: ranges are
well formed with domain values as end points, and a domain value is covered iff it is a member -/
theorem IntSet.ranges_iface {d : Domain} (hd : DomWF d) {s : IntSet} (h : IInvD d s) :
    (∀ r ∈ s.ranges d, r.1 ≤ r.2 ∧ d.contains r.1 = true ∧ d.contains r.2 = true) ∧
    (∀ x, d.contains x = true → (NMem (s.ranges d) x ↔ s.contains x = true)) := by
  obtain ⟨h1, h2⟩ := IntSet.rangesInvertible_drinv hd h false
  refine ⟨fun r hr => ?_, fun x hx => ?_⟩
  · have := h1.2 r hr
    exact ⟨this.1, Domain.contains_iff_mem.2 this.2.1, Domain.contains_iff_mem.2 this.2.2⟩
  · unfold IntSet.ranges
    rw [h2 x (Domain.contains_iff_mem.1 hx), Bool.xor_false]

theorem IntSet.ranges_canonical {d : Domain} (hd : DomWF d) {a b : IntSet} (ha : IInvD d a)
    (hb : IInvD d b) :
    a.ranges d = b.ranges d ↔ ∀ x, d.contains x = true → a.contains x = b.contains x := by
  constructor
  · intro he x hx
    have ia := (IntSet.ranges_iface hd ha).2 x hx
    have ib := (IntSet.ranges_iface hd hb).2 x hx
    rw [Bool.eq_iff_iff, ← ia, ← ib, he]
  · intro hx
    unfold IntSet.ranges
    rw [IntSet.rangesInvertible_eq_runs hd ha, IntSet.rangesInvertible_eq_runs hd hb]
    exact discontinuousRuns_congr _ _ _ (fun x hxD => by
      rw [hx x (Domain.contains_iff_mem.2 hxD)])

theorem IntSet.beq_iff {d : Domain} (hd : DomWF d) {a b : IntSet} (ha : IInvD d a)
    (hb : IInvD d b) :
    a.beq d b = true ↔ ∀ x, d.contains x = true → a.contains x = b.contains x := by
  unfold IntSet.beq
  by_cases hm : a.inverted = b.inverted
  · rw [if_pos hm, BitSet.beq_spec _ _ ha.1 hb.1, same_mode_set_eq ha hb hm]
  · rw [if_neg hm, IntSet.len_spec hd ha, IntSet.len_spec hd hb, ← IntSet.ranges_canonical hd ha hb]
    split
    · exact beq_iff_eq
    · rename_i hlen
      -- equal range lists would give equal member sequences, hence equal lengths
      refine iff_of_false Bool.false_ne_true (fun he => hlen ?_)
      rw [(elems_eq_iff hd a b).2 ((IntSet.ranges_canonical hd ha hb).1 he)]

/-- `IntSet == IntSet` ⇔ same members, all four mode combinations (continuous domain) -/
theorem IntSet.beq_spec {d : Domain} (hd : DomWF d) (hc : d.continuous = true)
    {a b : IntSet} (ha : IInvD d a) (hb : IInvD d b) :
    a.beq d b = true ↔ ∀ x, d.contains x = true → a.contains x = b.contains x :=
  IntSet.beq_iff hd ha hb

theorem IntSet.intersectsSet_iff {d : Domain} (hd : DomWF d) {a b : IntSet} (ha : IInvD d a)
    (hb : IInvD d b) :
    a.intersectsSet d b = true ↔
      ∃ v, d.contains v = true ∧ a.contains v = true ∧ b.contains v = true := by
  have key : ∀ {x y : IntSet}, IInvD d x → IInvD d y →
      ((y.ranges d).any (fun r => x.intersectsRange d r.1 r.2) = true ↔
        ∃ v, d.contains v = true ∧ x.contains v = true ∧ y.contains v = true) := by
    intro x y hx hy
    obtain ⟨r1, r2⟩ := IntSet.ranges_iface hd hy
    rw [List.any_eq_true]
    constructor
    · rintro ⟨r, hr, hi⟩
      rw [IntSet.intersectsRange_spec hd hx r.1 r.2 (r1 r hr).2.1] at hi
      obtain ⟨v, h1, h2, h3, h4⟩ := hi
      exact ⟨v, h3, h4, (r2 v h3).1 ⟨r, hr, h1, h2⟩⟩
    · rintro ⟨v, h1, h2, h3⟩
      obtain ⟨r, hr, h4, h5⟩ := (r2 v h1).2 h3
      refine ⟨r, hr, ?_⟩
      rw [IntSet.intersectsRange_spec hd hx r.1 r.2 (r1 r hr).2.1]
      exact ⟨v, h4, h5, h1, h2⟩
  unfold IntSet.intersectsSet
  by_cases hlen : a.set.pages.length > b.set.pages.length
  · simp only [hlen, if_true]
    rw [key ha hb]
  · simp only [hlen, if_false]
    rw [key hb ha]
    exact exists_congr (fun v => and_congr_right (fun _ => and_comm))

/-- `IntSet::intersects_set`, every mode combination, whichever side is iterated -/
theorem IntSet.intersectsSet_spec {d : Domain} (hd : DomWF d) (hc : d.continuous = true)
    {a b : IntSet} (ha : IInvD d a) (hb : IInvD d b) :
    a.intersectsSet d b = true ↔
      ∃ v, d.contains v = true ∧ a.contains v = true ∧ b.contains v = true :=
  IntSet.intersectsSet_iff hd ha hb

end FontVerif.IntSet
