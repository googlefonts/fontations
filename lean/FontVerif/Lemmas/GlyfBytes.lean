/-
C09, simple glyphs at the byte level: 16-bit fields at a position of a concatenation; what `write_into` returned
(`writeSimple_some`); end points and the generated `SimpleGlyph::read` on that layout (`readSimple_canon`); then the
point data: `resolve_coords_len`, `points()` and `read_points_fast` on any list of flag items followed by coordinate
bytes (`resolve_items`, `points_of_items`, `fast_of_items`), and the fast reader on the writer's own bytes (`fast_of_data`).
-/
import FontVerif.Lemmas.Glyf
import FontVerif.Lemmas.Base
namespace FontVerif.Glyf

theorem be16_length (v : Int) : (be16 v).length = 2 := rfl

theorem be16_nat (n : Nat) (h : n < 65536) : be16 (n : Int) = [n / 256, n % 256] := by
  rw [be16_eq]
  have e : ((n : Int) % 65536).toNat = n := by omega
  rw [e]

theorem u16At_raw (pre post : List Nat) (a b : Nat) :
    u16At (pre ++ a :: b :: post) pre.length = some (a * 256 + b) := by
  unfold u16At
  have h1 : (pre ++ a :: b :: post).getD pre.length 0 = a := by
    simp [List.getD_eq_getElem?_getD]
  have h2 : (pre ++ a :: b :: post).getD (pre.length + 1) 0 = b := by
    simp [List.getD_eq_getElem?_getD]
  rw [h1, h2]
  have : pre.length + 2 ≤ (pre ++ a :: b :: post).length := by
    simp only [List.length_append, List.length_cons]; omega
  simp only [this, ↓reduceIte]

theorem u16At_mid (pre post : List Nat) (v : Int) :
    u16At (pre ++ (be16 v ++ post)) pre.length = some (v % 65536).toNat := by
  rw [be16_eq]
  simp only [List.cons_append, List.nil_append]
  rw [u16At_raw]
  congr 1
  omega

theorem i16At_mid (pre post : List Nat) (v : Int) (h : inI16 v) :
    i16At (pre ++ (be16 v ++ post)) pre.length = some v := by
  unfold i16At
  rw [u16At_mid]
  simp
  unfold wrapI16 inI16 at *
  simp only []
  split <;> omega

theorem u16At_at (data pre post : List Nat) (n pos : Nat) (hn : n < 65536) (hpos : pos = pre.length)
    (hd : data = pre ++ (be16 (n : Int) ++ post)) : u16At data pos = some n := by
  subst hpos; subst hd; rw [u16At_mid]; congr 1; omega

theorem i16At_at (data pre post : List Nat) (v : Int) (pos : Nat) (h : inI16 v)
    (hpos : pos = pre.length) (hd : data = pre ++ (be16 v ++ post)) : i16At data pos = some v := by
  subst hpos; subst hd; exact i16At_mid pre post v h

theorem header_reads (a b c d e : Int) (rest : List Nat)
    (ha : inI16 a) (hb : inI16 b) (hc : inI16 c) (hd : inI16 d) (he : inI16 e) :
    i16At (be16 a ++ (be16 b ++ (be16 c ++ (be16 d ++ (be16 e ++ rest))))) 0 = some a ∧
    i16At (be16 a ++ (be16 b ++ (be16 c ++ (be16 d ++ (be16 e ++ rest))))) 2 = some b ∧
    i16At (be16 a ++ (be16 b ++ (be16 c ++ (be16 d ++ (be16 e ++ rest))))) 4 = some c ∧
    i16At (be16 a ++ (be16 b ++ (be16 c ++ (be16 d ++ (be16 e ++ rest))))) 6 = some d ∧
    i16At (be16 a ++ (be16 b ++ (be16 c ++ (be16 d ++ (be16 e ++ rest))))) 8 = some e ∧
    (be16 a ++ (be16 b ++ (be16 c ++ (be16 d ++ (be16 e ++ rest))))).drop 10 = rest := by
  refine ⟨i16At_at _ [] _ a 0 ha rfl rfl, i16At_at _ (be16 a) _ b 2 hb rfl rfl,
    i16At_at _ (be16 a ++ be16 b) (be16 d ++ (be16 e ++ rest)) c 4 hc rfl
      (by simp only [List.append_assoc]),
    i16At_at _ (be16 a ++ be16 b ++ be16 c) (be16 e ++ rest) d 6 hd rfl
      (by simp only [List.append_assoc]),
    i16At_at _ (be16 a ++ be16 b ++ be16 c ++ be16 d) rest e 8 he rfl
      (by simp only [List.append_assoc]), ?_⟩
  rw [show be16 a ++ (be16 b ++ (be16 c ++ (be16 d ++ (be16 e ++ rest))))
      = (be16 a ++ be16 b ++ be16 c ++ be16 d ++ be16 e) ++ rest by simp only [List.append_assoc]]
  exact List.drop_left' rfl

theorem padEven_cases (bs : List Nat) : ∃ pad, padEven bs = bs ++ pad ∧ (pad = [] ∨ pad = [0]) := by
  unfold padEven
  split
  · exact ⟨[], by simp, Or.inl rfl⟩
  · exact ⟨[0], rfl, Or.inr rfl⟩

theorem padEven_length (bs : List Nat) : (padEven bs).length % 2 = 0 := by
  unfold padEven
  split
  · assumption
  · simp only [List.length_append, List.length_cons, List.length_nil]; omega

theorem writeSimple_some (g : SimpleGlyph) (b : List Nat) (h : writeSimple g = some b) :
    g.contours.length < 32767 ∧ g.instructions.length < 65536 ∧
    ((g.contours = [] ∧ b = []) ∨ (g.contours ≠ [] ∧ ∃ eps ds, endPts 0 g.contours = some eps ∧
      computePointDeltas 0 0 g.contours.flatten = some ds ∧
      b = padEven (be16 g.contours.length ++ be16 g.xMin ++ be16 g.yMin ++ be16 g.xMax
          ++ be16 g.yMax ++ eps.flatMap (fun (e : Nat) => be16 (e : Int)) ++ be16 g.instructions.length
          ++ g.instructions ++ flagBytes ds ++ xBytes ds ++ yBytes ds))) := by
  unfold writeSimple at h
  by_cases hlim : ¬ (g.contours.length < 32767) ∨ ¬ (g.instructions.length < 65536)
  · rw [if_pos hlim] at h; cases h
  rw [if_neg hlim] at h
  refine ⟨by omega, by omega, ?_⟩
  by_cases h0 : g.contours.length = 0
  · rw [if_pos h0] at h
    exact .inl ⟨List.eq_nil_of_length_eq_zero h0, by cases h; rfl⟩
  rw [if_neg h0] at h
  refine .inr ⟨fun e => h0 (by rw [e]; rfl), ?_⟩
  cases heps : endPts 0 g.contours with
  | none => rw [heps] at h; cases h
  | some eps =>
    cases hds : computePointDeltas 0 0 g.contours.flatten with
    | none => rw [heps, hds] at h; cases h
    | some ds => rw [heps, hds] at h; exact ⟨eps, ds, rfl, rfl, (Option.some.inj h).symm⟩

theorem writeSimple_isSome (g : SimpleGlyph) :
    (writeSimple g).isSome ↔ g.contours.length < 32767 ∧ g.instructions.length < 65536 ∧
      (g.contours = [] ∨ ((endPts 0 g.contours).isSome ∧
        (computePointDeltas 0 0 g.contours.flatten).isSome)) := by
  constructor
  · intro h
    obtain ⟨b, hb⟩ := Option.isSome_iff_exists.1 h
    obtain ⟨h1, h2, ⟨he, _⟩ | ⟨_, eps, ds, heps, hds, _⟩⟩ := writeSimple_some g b hb
    · exact ⟨h1, h2, .inl he⟩
    · exact ⟨h1, h2, .inr ⟨by rw [heps]; rfl, by rw [hds]; rfl⟩⟩
  · rintro ⟨h1, h2, h3⟩
    unfold writeSimple
    rw [if_neg (by omega)]
    by_cases h0 : g.contours.length = 0
    · rw [if_pos h0]; rfl
    · rw [if_neg h0]
      rcases h3 with he | ⟨he, hd⟩
      · exact absurd (by rw [he]; rfl) h0
      · obtain ⟨eps, heps⟩ := Option.isSome_iff_exists.1 he
        obtain ⟨ds, hds⟩ := Option.isSome_iff_exists.1 hd
        rw [heps, hds]; rfl

theorem writeGlyph_simple_ok (g : SimpleGlyph) (b : List Nat) (h : writeGlyph (.simple g) = .ok b) :
    g.instructions.length ≤ 65535 ∧ (g.contours.map List.length).sum ≤ 65535 ∧
      writeSimple g = some b := by
  simp only [writeGlyph] at h
  split at h
  · cases h
  · cases hw : writeSimple g with
    | none => rw [hw] at h; cases h
    | some bb => rw [hw] at h; cases h; exact ⟨by omega, by omega, rfl⟩

/-- end points as the format defines them: index of the last point of each contour -/
def endSpec : Nat → List (List Point) → List Nat
  | _, [] => []
  | cur, c :: cs => (cur + c.length - 1) :: endSpec (cur + c.length) cs

theorem endPts_cons {cur : Nat} {c : List Point} {cs : List (List Point)} {eps : List Nat}
    (h : endPts cur (c :: cs) = some eps) :
    (cur + c.length) % 65536 ≠ 0 ∧ ∃ r, endPts (cur + c.length) cs = some r ∧
      eps = ((cur + c.length) % 65536 - 1) :: r := by
  rw [endPts] at h
  by_cases hz : (cur + c.length) % 65536 = 0
  · simp only [hz, if_true] at h; cases h
  · simp only [hz, if_false] at h
    obtain ⟨r, hr, rfl⟩ := Option.map_eq_some_iff.1 h
    exact ⟨hz, r, hr, rfl⟩

theorem endPts_length (cs : List (List Point)) : ∀ cur eps, endPts cur cs = some eps →
    eps.length = cs.length ∧ ∀ e ∈ eps, e < 65536 := by
  induction cs with
  | nil => intro cur eps h; simp [endPts] at h; subst h; simp
  | cons c cs ih =>
    intro cur eps h
    obtain ⟨_, r, hr, rfl⟩ := endPts_cons h
    have := ih _ r hr
    refine ⟨by simp [this.1], ?_⟩
    intro e he
    rcases List.mem_cons.1 he with rfl | he
    · omega
    · exact this.2 e he

theorem endPts_spec (cs : List (List Point)) : ∀ cur eps, endPts cur cs = some eps →
    cur + cs.flatten.length ≤ 65535 →
    eps = endSpec cur cs ∧ (cs ≠ [] → eps.getLast? = some (cur + cs.flatten.length - 1)
      ∧ 0 < cur + cs.flatten.length) := by
  induction cs with
  | nil => intro cur eps h _; simp [endPts] at h; subst h; simp [endSpec]
  | cons c cs ih =>
    intro cur eps h hb
    simp only [List.flatten_cons, List.length_append] at hb
    obtain ⟨hz, r, hr, rfl⟩ := endPts_cons h
    have hmod : (cur + c.length) % 65536 = cur + c.length := by omega
    have ⟨e1, e2⟩ := ih _ r hr (by omega)
    rw [hmod] at hz ⊢
    refine ⟨by simp [endSpec, e1], fun _ => ?_⟩
    simp only [List.flatten_cons, List.length_append]
    cases cs with
    | nil =>
      simp [endPts] at hr; subst hr
      simp; omega
    | cons c2 cs2 =>
      have := e2 (by simp)
      have hl := (endPts_length _ _ r hr).1
      cases r with
      | nil => simp at hl
      | cons r0 r' =>
        rw [List.getLast?_cons_cons, this.1]
        refine ⟨?_, by omega⟩
        congr 1; omega

theorem contoursOf_spec (cs : List (List Point)) : ∀ cur eps rest, endPts cur cs = some eps →
    cur + cs.flatten.length ≤ 65535 → contoursOf cur eps (cs.flatten ++ rest) = some cs := by
  induction cs with
  | nil => intro cur eps rest h _; simp [endPts] at h; subst h; simp [contoursOf]
  | cons c cs ih =>
    intro cur eps rest h hb
    simp only [List.flatten_cons, List.length_append] at hb
    obtain ⟨hz, r, hr, rfl⟩ := endPts_cons h
    have hmod : (cur + c.length) % 65536 = cur + c.length := by omega
    rw [hmod] at hz ⊢
    have e1 : cur + c.length - 1 + 1 = cur + c.length := by omega
    have e2 : cur + c.length - cur = c.length := by omega
    have hlt : ¬ (cur + c.length < cur) := by omega
    simp only [contoursOf, e1, e2, hlt, ↓reduceIte, List.flatten_cons, List.append_assoc,
      List.drop_left, List.take_left]
    rw [ih _ r rest hr (by omega)]
    rfl

def epsBytes (eps : List Nat) : List Nat := eps.flatMap (fun (e : Nat) => be16 (e : Int))

theorem epsBytes_length (eps : List Nat) : (epsBytes eps).length = 2 * eps.length := by
  induction eps with
  | nil => rfl
  | cons e es ih => simp only [epsBytes, List.flatMap_cons, List.length_append, List.length_cons] at ih ⊢
                    rw [ih]; simp [be16_eq]; omega

theorem eps_get (eps : List Nat) : ∀ (pre post : List Nat) (i : Nat) (hi : i < eps.length),
    (∀ e ∈ eps, e < 65536) →
    u16At (pre ++ (epsBytes eps ++ post)) (pre.length + 2 * i) = some eps[i] := by
  induction eps with
  | nil => intro pre post i hi; simp at hi
  | cons e es ih =>
    intro pre post i hi he
    cases i with
    | zero =>
      simp only [epsBytes, List.flatMap_cons, List.append_assoc, Nat.mul_zero, Nat.add_zero,
        List.getElem_cons_zero]
      exact u16At_at _ pre _ e _ (he e List.mem_cons_self) rfl rfl
    | succ j =>
      have hj : j < es.length := by simpa using hi
      have := ih (pre ++ be16 (e : Int)) post j hj (fun x hx => he x (by simp [hx]))
      simp only [List.length_append, be16_length, List.append_assoc] at this
      simp only [epsBytes, List.flatMap_cons, List.append_assoc, List.getElem_cons_succ]
      have e2 : pre.length + 2 * (j + 1) = pre.length + 2 + 2 * j := by omega
      rw [e2]
      exact this

theorem eps_read (eps : List Nat) (pre post : List Nat) (he : ∀ e ∈ eps, e < 65536) :
    (List.range eps.length).map
      (fun i => (u16At (pre ++ (epsBytes eps ++ post)) (pre.length + 2 * i)).getD 0) = eps := by
  apply List.ext_getElem
  · simp
  · intro i h1 h2
    simp only [List.getElem_map, List.getElem_range]
    have hi : i < eps.length := by simpa using h1
    rw [eps_get eps pre post i hi he]
    rfl

/-- a read at `p + q` is the read at `q` of what is left after `p` bytes -/
theorem u16At_drop (data : List Nat) (p q : Nat) : u16At (data.drop p) q = u16At data (p + q) := by
  unfold u16At
  simp only [List.getD_eq_getElem?_getD, List.getElem?_drop, List.length_drop, Nat.add_assoc]
  by_cases h : p + (q + 2) ≤ data.length
  · rw [if_pos h, if_pos (by omega)]
  · rw [if_neg h, if_neg (by omega)]

theorem readSimple_canon (nc : Nat) (xMin yMin xMax yMax : Int) (eps instr tail : List Nat)
    (hnc : nc < 32768) (hn : eps.length = nc) (he : ∀ e ∈ eps, e < 65536)
    (hi : instr.length < 65536)
    (h1 : inI16 xMin) (h2 : inI16 yMin) (h3 : inI16 xMax) (h4 : inI16 yMax) :
    readSimple (be16 (nc : Int) ++ (be16 xMin ++ (be16 yMin ++ (be16 xMax ++ (be16 yMax ++
      (epsBytes eps ++ (be16 (instr.length : Int) ++ (instr ++ tail)))))))) =
      some { nContours := nc, xMin := xMin, yMin := yMin, xMax := xMax, yMax := yMax,
             endPts := eps, instructions := instr, glyphData := tail } := by
  obtain ⟨r0, r2, r4, r6, r8, k1⟩ := header_reads nc xMin yMin xMax yMax
    (epsBytes eps ++ (be16 (instr.length : Int) ++ (instr ++ tail))) (by unfold inI16; omega) h1 h2 h3 h4
  generalize (be16 (nc : Int) ++ (be16 xMin ++ (be16 yMin ++ (be16 xMax ++ (be16 yMax ++
      (epsBytes eps ++ (be16 (instr.length : Int) ++ (instr ++ tail)))))))) = data at *
  -- what is left of the data after the header, the end points, the instruction length, the instructions
  have k2 : data.drop (10 + 2 * nc) = be16 (instr.length : Int) ++ (instr ++ tail) := by
    rw [← List.drop_drop, k1, List.drop_left' (by rw [epsBytes_length, hn])]
  have k3 : data.drop (10 + 2 * nc + 2) = instr ++ tail := by
    rw [← List.drop_drop, k2, List.drop_left' (be16_length _)]
  have k4 : data.drop (10 + 2 * nc + 2 + instr.length) = tail := by
    rw [← List.drop_drop, k3, List.drop_left]
  have reps : (List.range nc).map (fun i => (u16At data (10 + 2 * i)).getD 0) = eps := by
    have := eps_read eps [] (be16 (instr.length : Int) ++ (instr ++ tail)) he
    simp only [List.nil_append, List.length_nil, Nat.zero_add, ← k1, u16At_drop, hn] at this
    exact this
  have ril : u16At data (10 + 2 * nc) = some instr.length := by
    rw [← Nat.add_zero (10 + 2 * nc), ← u16At_drop, k2]
    exact u16At_at _ [] _ _ 0 hi rfl rfl
  have hdl := congrArg List.length k2
  simp only [List.length_drop, List.length_append, be16_length] at hdl
  unfold readSimple
  rw [r0]
  simp only []
  rw [if_neg (by omega : ¬ ((nc : Int) < 0)), Int.toNat_natCast, ril]
  simp only []
  rw [if_pos (by omega), r2, r4, r6, r8, reps, k3, k4, List.take_left]
  rfl

def xSize (f : Nat) : Nat :=
  (if hasBit f X_SHORT then 1 else 0) + (if (f &&& (X_SHORT ||| X_SAME)) = 0 then 2 else 0)

def ySize (f : Nat) : Nat :=
  (if hasBit f Y_SHORT then 1 else 0) + (if (f &&& (Y_SHORT ||| Y_SAME)) = 0 then 2 else 0)

theorem and_or_zero (f a b : Nat) :
    (f &&& (a ||| b) = 0) ↔ (hasBit f a = false ∧ hasBit f b = false) := by
  unfold hasBit
  rw [Nat.and_or_distrib_left, Nat.or_eq_zero_iff]
  simp

theorem size_flagAndDelta (v : Int) (S P : Nat) (f : Nat)
    (hS : hasBit S S = true) (hP : hasBit P P = true) (hSP : hasBit S P = false)
    (hPS : hasBit P S = false)
    (h1 : hasBit f S = hasBit (flagAndDelta v S P).1 S)
    (h2 : hasBit f P = hasBit (flagAndDelta v S P).1 P) :
    (if hasBit f S then 1 else 0) + (if (f &&& (S ||| P)) = 0 then 2 else 0)
      = (flagAndDelta v S P).2.bytes.length := by
  simp only [and_or_zero]
  rcases flagAndDelta_forms v S P f hS hP hSP hPS h1 h2 with
    ⟨_, a, b, e⟩ | ⟨_, _, a, b, e⟩ | ⟨_, _, a, b, e⟩ | ⟨_, a, b, e⟩ <;> rw [a, b, e]
  · rfl
  · rfl
  · rfl
  · simp [be16_eq]

theorem sizes_eq (pts : List Point) :
    ∀ (lx ly : Int) (ds : List PointDelta) (efs : List Nat),
    computePointDeltas lx ly pts = some ds → efs.map clearRepeat = ds.map (·.flag) →
    (efs.map xSize).sum = (xBytes ds).length ∧ (efs.map ySize).sum = (yBytes ds).length := by
  induction pts with
  | nil =>
    intro lx ly ds efs h he
    simp [computePointDeltas] at h; subst h
    simp at he; subst he; simp [xBytes, yBytes]
  | cons p ps ih =>
    intro lx ly ds efs h he
    obtain ⟨_, rest, hrec, rfl⟩ := computePointDeltas_cons h
    cases efs with
    | nil => simp at he
    | cons ef efs' =>
      simp only [List.map_cons, List.cons.injEq] at he
      obtain ⟨he1, he2⟩ := he
      obtain ⟨_, b2, b3, b4, b5⟩ := flag_bits_agree ef p.on (p.x - lx) (p.y - ly) he1
      have sx := size_flagAndDelta (p.x - lx) X_SHORT X_SAME ef
        X_bits.1 X_bits.2.1 X_bits.2.2.1 X_bits.2.2.2 b2 b3
      have sy := size_flagAndDelta (p.y - ly) Y_SHORT Y_SAME ef
        Y_bits.1 Y_bits.2.1 Y_bits.2.2.1 Y_bits.2.2.2 b4 b5
      have := ih p.x p.y rest efs' hrec he2
      simp only [xBytes, yBytes, List.flatMap_cons, List.length_append, List.map_cons,
        List.sum_cons] at this ⊢
      simp only [xSize, ySize]
      rw [sx, sy]
      omega

theorem resolve_nil (more : List Nat) (pos xl yl : Nat) :
    resolveCoordsLen more pos 0 xl yl = some (pos, xl, yl) := by
  cases more <;> simp [resolveCoordsLen]

theorem size_scale (c d : Prop) [Decidable c] [Decidable d] (r : Nat) :
    (if c then r else 0) + (if d then r * 2 else 0)
      = r * ((if c then 1 else 0) + (if d then 2 else 0)) := by
  by_cases hc : c <;> by_cases hd : d <;> simp only [hc, hd, if_true, if_false] <;> omega

theorem resolve_item (i : RepeatableFlag) (rest : List Nat) (pos n xl yl : Nat) (hn : i.count ≤ n) :
    resolveCoordsLen (i.bytes ++ rest) pos n xl yl =
      resolveCoordsLen rest (pos + i.cost) (n - i.count)
        (xl + i.count * xSize i.flag) (yl + i.count * ySize i.flag) := by
  have hn0 : ¬ n = 0 := by have := count_pos i; omega
  rcases i.forms with ⟨hb, hby, hc, hk⟩ | ⟨hb, hby, hc, hk⟩ <;> rw [hc] at hn <;> rw [hby, hc, hk]
  · simp only [List.cons_append, List.nil_append, resolveCoordsLen, hn0, if_false, hb, if_true,
      if_neg (Nat.not_lt.2 hn), Nat.add_assoc, size_scale, xSize, ySize]
  · simp only [List.cons_append, List.nil_append, resolveCoordsLen, hn0, if_false, hb,
      Bool.false_eq_true, Nat.one_mul, Nat.add_assoc, xSize, ySize]

theorem resolve_items (items : List RepeatableFlag) :
    ∀ (more : List Nat) (pos xl yl : Nat),
      resolveCoordsLen (items.flatMap RepeatableFlag.bytes ++ more) pos (expandRaw items).length xl yl
        = some (pos + rleCost items, xl + ((expandRaw items).map xSize).sum,
                yl + ((expandRaw items).map ySize).sum) := by
  induction items with
  | nil => intro more pos xl yl; simp [expandRaw, rleCost, resolve_nil]
  | cons i rest ih =>
    intro more pos xl yl
    rw [expandRaw_cons, List.flatMap_cons, List.append_assoc, List.length_append,
      List.length_replicate, resolve_item i _ _ _ _ _ (Nat.le_add_right _ _),
      Nat.add_sub_cancel_left, ih]
    simp only [rleCost, List.map_cons, List.sum_cons, List.map_append, List.map_replicate,
      List.sum_append, List.sum_replicate_nat, Nat.add_assoc]

theorem flagBytes_length (ds : List PointDelta) :
    (flagBytes ds).length = rleCost (iterFromFlags none (ds.map (·.flag))) := by
  unfold flagBytes; exact flatMap_bytes_length _

theorem expand_length (fs : List Nat) (h : ∀ f ∈ fs, FlagOk f) :
    (expandRaw (iterFromFlags none fs)).length = fs.length := by
  have := congrArg List.length (iterFromFlags_expand fs h)
  simpa using this

theorem points_of_items (v : SimpleView) (items : List RepeatableFlag) (xs ys pad : List Nat)
    (last : Nat) (hl : v.endPts.getLast? = some last) (hn : last + 1 = (expandRaw items).length)
    (hmax : (expandRaw items).length ≤ 65535)
    (hx : xs.length = ((expandRaw items).map xSize).sum)
    (hy : ys.length = ((expandRaw items).map ySize).sum)
    (hc : (expandRaw items).length ≤ 256 * rleCost items)
    (hg : v.glyphData = items.flatMap RepeatableFlag.bytes ++ (xs ++ (ys ++ pad))) :
    v.points = (decodeRun (expandRaw items) ⟨xs, ys ++ pad, 0, 0⟩).1 := by
  have hcl := flatMap_bytes_length items
  have hres := resolve_items items (xs ++ (ys ++ pad)) 0 0 0
  simp only [Nat.zero_add] at hres
  unfold SimpleView.points
  rw [hl]
  simp only []
  simp only [hn, hg, hres]
  have h2 : ¬ ((items.flatMap RepeatableFlag.bytes ++ (xs ++ (ys ++ pad))).length
      < rleCost items + ((expandRaw items).map xSize).sum + ((expandRaw items).map ySize).sum) := by
    simp only [List.length_append, hcl]; omega
  simp only [h2, ↓reduceIte]
  rw [← hcl, ← hx]
  simp only [List.take_left', List.drop_left']
  unfold PointIter.new
  rw [collect_items]
  · rw [if_neg (by omega)]
  · rw [hcl]; exact hc

theorem fast_of_items (v : SimpleView) (items : List RepeatableFlag) (rest : List Nat) (last : Nat)
    (hl : v.endPts.getLast? = some last) (hn : last + 1 = (expandRaw items).length)
    (hg : v.glyphData = items.flatMap RepeatableFlag.bytes ++ rest) :
    v.readPointsFast =
      match fastCoords X_SHORT X_SAME (expandRaw items) rest 0 with
      | none => none
      | some (xs, cur) =>
        match fastCoords Y_SHORT Y_SAME (expandRaw items) cur 0 with
        | none => none
        | some (ys, _) =>
          some ((xs.zip (ys.zip (expandRaw items))).map (fun t => (t.1, t.2.1, t.2.2 &&& 1))) := by
  have hne : items ≠ [] := by
    intro e; rw [e] at hn; simp [expandRaw] at hn
  have hcl := flatMap_bytes_length items
  have hnp : v.numPoints = (expandRaw items).length := by
    unfold SimpleView.numPoints; rw [hl]; exact hn
  unfold SimpleView.readPointsFast
  simp only [hnp, hg]
  have hn0 : ¬ ((expandRaw items).length = 0) := by omega
  simp only [hn0, ↓reduceIte]
  rw [List.take_append]
  have hk : (items.flatMap RepeatableFlag.bytes).length
      ≤ min (2 * (expandRaw items).length) ((items.flatMap RepeatableFlag.bytes ++ rest).length) := by
    have := cost_le_two items
    simp only [List.length_append, hcl]; omega
  rw [List.take_of_length_le hk, fastFlags_items items _ hne]
  simp only [ne_eq, not_true_eq_false, ↓reduceIte]
  rw [← hcl, List.drop_left]
  cases fastCoords X_SHORT X_SAME (expandRaw items) rest 0 with
  | none => rfl
  | some p => cases fastCoords Y_SHORT Y_SAME (expandRaw items) p.2 0 <;> rfl

theorem zip3_map {α : Type} (pts : List α) (fx fy : α → Int) (fo : α → Nat) :
    ∀ (cs : List Nat), cs.map (fun f => f &&& 1) = pts.map fo →
    (((pts.map fx).zip ((pts.map fy).zip cs)).map (fun t => (t.1, t.2.1, t.2.2 &&& 1)))
      = pts.map (fun p => (fx p, fy p, fo p)) := by
  induction pts with
  | nil => intro cs h; simp
  | cons p ps ih =>
    intro cs h
    cases cs with
    | nil => simp at h
    | cons c cs' =>
      simp only [List.map_cons, List.cons.injEq] at h
      simp only [List.map_cons, List.zip_cons_cons, List.cons.injEq]
      exact ⟨by rw [h.1], ih cs' h.2⟩

theorem fast_of_data (v : SimpleView) (pts : List Point) (ds : List PointDelta) (pad : List Nat)
    (last : Nat) (hr : PointsInRange pts) (hd : computePointDeltas 0 0 pts = some ds)
    (hl : v.endPts.getLast? = some last) (hn : last + 1 = pts.length)
    (hg : v.glyphData = flagBytes ds ++ (xBytes ds ++ (yBytes ds ++ pad))) :
    v.readPointsFast = some (pts.map (fun p => (p.x, p.y, if p.on then 1 else 0))) := by
  have hfl := computePointDeltas_flags pts 0 0 ds hd
  have hlen := computePointDeltas_length pts 0 0 ds hd
  have hexp := iterFromFlags_expand _ hfl
  have hel := expand_length _ hfl
  simp only [List.length_map] at hel
  have hfb : flagBytes ds = (iterFromFlags none (ds.map (·.flag))).flatMap RepeatableFlag.bytes := rfl
  rw [hfb] at hg
  rw [fast_of_items v _ _ last hl (by omega) hg]
  rw [(fastCoords_xy pts 0 0 ds _ (yBytes ds ++ pad) pad hr hd hexp).1]
  simp only []
  rw [(fastCoords_xy pts 0 0 ds _ (yBytes ds ++ pad) pad hr hd hexp).2]
  simp only []
  have hon := on_bits pts 0 0 ds _ hd hexp
  rw [zip3_map pts (·.x) (·.y) (fun p => if p.on then 1 else 0) _ hon]

end FontVerif.Glyf
