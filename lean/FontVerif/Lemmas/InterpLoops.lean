/-
Lemmas about Model/InterpLoops.lean: how many iterations each loop skeleton performs and which errors it
can raise, and ONE contract per loop-carrying opcode on its whole result (`OpSat`: the bound `OpOK` of a value, an error
that is not the panic marker of Model/InterpData.lean).
-/
import FontVerif.Model.InterpData
import FontVerif.Lemmas.Interp

namespace FontVerif.InterpDataLemmas
open FontVerif.Interp FontVerif.InterpLoops FontVerif.InterpData

/-- an error value the Rust returns: anything but the marker `E_PANIC` of a place where it would panic -/
def Kind (e : Err) : Prop := e ≠ E_PANIC

theorem kind_point : Kind E_POINT := by unfold Kind; decide
theorem kind_underflow : Kind Err.vsUnderflow := by unfold Kind; decide
theorem kind_overflow : Kind Err.vsOverflow := by unfold Kind; decide
theorem kind_lit {e : Err} (h : e ≠ E_PANIC := by decide) : Kind e := h

def EP {α} (r : Except Err α) : Prop := ∀ e, r = .error e → Kind e

theorem EP_ok {α} (a : α) : EP (Except.ok a : Except Err α) := by intro e h; cases h
theorem EP_err {α} {e : Err} (h : Kind e) : EP (Except.error e : Except Err α) := by
  intro e' h'; rw [← Except.error.inj h']; exact h

theorem EP_checkPoint (g : G) (z i : Nat) : EP (checkPoint g z i) := by
  unfold checkPoint; split
  · exact EP_ok _
  · exact EP_err kind_point

theorem EP_checkMoveZp2 (g : G) (i : Nat) (t : Bool) : EP (checkMoveZp2 g i t) := by
  unfold checkMoveZp2; split
  · exact EP_checkPoint _ _ _
  · exact EP_ok _

theorem EP_pointDisplacement (g : G) (op : Nat) : EP (pointDisplacement g op) := by
  unfold pointDisplacement
  simp only []
  split
  · rename_i e he; intro e' h'; rw [← Except.error.inj h']; exact EP_checkPoint _ _ _ _ he
  · exact EP_ok _

theorem EP_zoneOf (v : Int) : EP (zoneOf v) := by
  unfold zoneOf
  repeat' split
  · exact EP_ok _
  · exact EP_ok _
  · exact EP_err (by unfold Kind; decide)

end FontVerif.InterpDataLemmas

namespace FontVerif.InterpLoopsLemmas
open FontVerif.Interp FontVerif.InterpLoops FontVerif.InterpLemmas FontVerif.InterpDataLemmas

theorem popLoop_res {ped : Bool} {body : Nat → Except Err Unit} {E : Err → Prop} (hu : E .vsUnderflow)
    (hb : ∀ i e, body i = .error e → E e) :
    ∀ {n : Nat} {vs : List Int} {k : Nat} {x : Except Err (List Int × Nat)}, popLoop ped body n vs k = x →
      Res E (fun r => r.2 = k + n ∧ r.1.length ≤ vs.length) x := by
  intro n
  induction n with
  | zero => intro vs k x hx; subst hx; exact ⟨rfl, Nat.le_refl _⟩
  | succ n ih =>
    intro vs k x hx
    subst hx
    unfold popLoop
    refine pop_bind hu fun v vs1 hl => ?_
    cases hx : body (asUsize v) with
    | error e => exact hb _ e hx
    | ok u => exact (ih rfl).mono (fun _ => id) fun _ h => ⟨by omega, by omega⟩

/-- in pedantic mode an empty stack ends the loop: a successful loop of `count` iterations needs `count` values -/
theorem popLoop_pedantic (body : Nat → Except Err Unit) :
    ∀ (n : Nat) (vs vs' : List Int) (k k' : Nat), popLoop true body n vs k = .ok (vs', k') → n ≤ vs.length := by
  intro n
  induction n with
  | zero => intro vs vs' k k' h; omega
  | succ n ih =>
    intro vs vs' k k' h
    unfold popLoop at h
    split at h
    · simp at h
    · rename_i v vs1 hp
      split at h
      · simp at h
      · have := ih _ _ _ _ h
        unfold pop at hp
        split at hp
        · simp at hp; obtain ⟨_, h3⟩ := hp; subst h3; simp; omega
        · simp at hp


theorem rangeLoop_res {body : Nat → Except Err Unit} {skip : Option Nat} {E : Err → Prop}
    (hb : ∀ i e, body i = .error e → E e) :
    ∀ {n i k : Nat} {x : Except Err Nat}, rangeLoop body skip n i k = x → Res E (· = k + n) x := by
  intro n
  induction n with
  | zero => intro i k x hx; subst hx; exact rfl
  | succ n ih =>
    intro i k x hx
    subst hx
    unfold rangeLoop
    cases hx : (if skip = some i then Except.ok () else body i) with
    | error e =>
      exact ite_elim (P := fun x => x = Except.error e → E e) (fun _ h => by cases h) (fun _ h => hb i e h) hx
    | ok u => exact (ih rfl).mono (fun _ => id) fun _ h => by omega

/-- a range loop over checked point indices that succeeded made at most `zoneLen - i + 1` iterations (`+ 1`: the skipped
    point is not checked) -/
theorem rangeLoop_in_zone (g : G) (z : Nat) (skip : Option Nat) :
    ∀ (n i k k' : Nat), rangeLoop (fun i => checkPoint g z i) skip n i k = .ok k' → n ≤ (g.zoneLen z - i) + 1 := by
  intro n
  induction n with
  | zero => intro i k k' h; omega
  | succ n ih =>
    intro i k k' h
    unfold rangeLoop at h
    split at h
    · simp at h
    · rename_i u hb
      have h2 := ih _ _ _ h
      by_cases hs : skip = some i
      · -- the skipped point: the rest of the range must be in the zone or empty
        cases n with
        | zero => omega
        | succ m =>
          unfold rangeLoop at h
          split at h
          · simp at h
          · rename_i u2 hb2
            have hne : skip ≠ some (i + 1) := by rw [hs]; simp
            rw [if_neg hne] at hb2
            unfold checkPoint at hb2
            split at hb2
            · omega
            · simp at hb2
      · rw [if_neg hs] at hb
        unfold checkPoint at hb
        split at hb
        · omega
        · simp at hb


theorem deltaLoop_res {ped : Bool} {body : Int → Nat → Except Err Unit} {E : Err → Prop} (hu : E .vsUnderflow)
    (hb : ∀ b i e, body b i = .error e → E e) :
    ∀ {n : Nat} {vs : List Int} {k : Nat} {x : Except Err (List Int × Nat)}, deltaLoop ped body n vs k = x →
      Res E (fun r => r.2 = k + n ∧ r.1.length ≤ vs.length) x := by
  intro n
  induction n with
  | zero => intro vs k x hx; subst hx; exact ⟨rfl, Nat.le_refl _⟩
  | succ n ih =>
    intro vs k x hx
    subst hx
    unfold deltaLoop
    refine pop_bind hu fun ix vs1 l1 => pop_bind hu fun b vs2 l2 => ?_
    cases hx : body b (asUsize ix) with
    | error e => exact hb _ _ e hx
    | ok u => exact (ih rfl).mono (fun _ => id) fun _ h => ⟨by omega, by omega⟩

theorem iupContour_spec (touched : Nat → Bool) (e : Nat) :
    ∀ (fuel point k : Nat), fuel = e + 1 - point →
      let r := iupContour touched e fuel point k
      point ≤ r.1 ∧ r.2 - k = r.1 - point ∧ k ≤ r.2 ∧ (r.1 ≤ e + 1 ∨ r.1 = point) := by
  intro fuel
  induction fuel with
  | zero => intro point k h; simp [iupContour]
  | succ f ih =>
    intro point k h
    unfold iupContour
    split
    · have := ih (point + 1) (k + 1) (by omega)
      simp only [] at this ⊢
      omega
    · simp

/-- `1 ≤ n`: a glyph zone that has a contour has its four phantom points -/
theorem iup_le (touched : Nat → Bool) (n : Nat) (hn : 1 ≤ n) :
    ∀ (cs : List Nat) (point k : Nat), point ≤ n → iup touched n cs point k ≤ k + 4 * (n - point) := by
  intro cs
  induction cs with
  | nil => intro point k h; simp [iup]
  | cons c rest ih =>
    intro point k h
    unfold iup
    simp only []
    generalize he : (if c ≥ n then n - 1 else c) = e
    have hen : e + 1 ≤ n := by
      rw [← he]; split <;> omega
    have hs := iupContour_spec touched e (e + 1 - point) point k rfl
    simp only [] at hs
    generalize iupContour touched e (e + 1 - point) point k = r at hs
    obtain ⟨p1, k1⟩ := r
    simp only [] at hs ⊢
    split
    · rename_i hle
      have := ih (e + 1) (k1 + (e + 1 - p1) + 2 * (e + 1 - point)) (by omega)
      omega
    · rename_i hgt
      have : p1 ≤ n := by omega
      have := ih p1 k1 this
      omega

theorem contour_lt (g : G) (hw : Wf g) (z : Nat) (e : Nat) (h : e ∈ g.zoneContours z) : e < 65536 := by
  unfold G.zoneContours at h
  split at h
  · simp at h; omega
  · exact hw.2 e h


/-- `contours[c]` + 1 as SHC reads it: a `u16` end point + 1, or InvalidContourIndex -/
theorem contourEnd_res (g : G) (z c : Nat) :
    Res Kind (fun stop => Wf g → stop ≤ 65536)
      (match (g.zoneContours z)[c]? with | some e => (Except.ok (e + 1) : Except Err Nat) | none => .error E_CONTOUR) := by
  cases he : (g.zoneContours z)[c]? with
  | none => exact kind_lit
  | some e => exact fun hw => contour_lt g hw z e (List.mem_of_getElem? he)

theorem shz_stop_le (g : G) (hw : Wf g) : shzStop g ≤ 65536 + g.twiPts := by
  unfold shzStop
  split
  · simp [G.zoneLen]
  · split
    · rename_i e he
      have := contour_lt g hw g.zp2 e (List.mem_of_getLast? he)
      omega
    · omega

def OpOK (g : G) (vs : List Int) (r : List Int × G) : Prop :=
  r.1.length ≤ vs.length ∧ (Wf g → Step g vs r.2)

theorem opOK_iters {g g' : G} {vs vs' : List Int} (k : Nat) (hlen : vs'.length ≤ vs.length)
    (hloop : g'.loop = g.loop ∨ g'.loop ≤ 65535) (hit : g'.iters = g.iters + k) (hk : Wf g → k ≤ work g vs)
    (h1 : g'.glyphPts = g.glyphPts) (h2 : g'.twiPts = g.twiPts) (h3 : g'.glyphContours = g.glyphContours)
    (h4 : g'.cap = g.cap) : OpOK g vs (vs', g') := by
  refine ⟨hlen, fun hw => ⟨⟨?_, h3 ▸ hw.2⟩, ?_, h1, h2, h3, h4⟩⟩
  · rcases hloop with hl | hl
    · exact hl ▸ hw.1
    · exact hl
  · show g'.iters ≤ g.iters + work g vs
    have := hk hw; omega

theorem opOK_regs {g g' : G} {vs : List Int} (hloop : g'.loop = g.loop) (hit : g'.iters = g.iters)
    (h1 : g'.glyphPts = g.glyphPts) (h2 : g'.twiPts = g.twiPts) (h3 : g'.glyphContours = g.glyphContours)
    (h4 : g'.cap = g.cap) : OpOK g vs (vs, g') :=
  opOK_iters 0 (Nat.le_refl _) (.inl hloop) hit (fun _ => Nat.zero_le _) h1 h2 h3 h4

theorem OpOK.mono {g : G} {vs1 vs : List Int} {r : List Int × G} (h : OpOK g vs1 r) (hl : vs1.length ≤ vs.length) :
    OpOK g vs r := by
  refine ⟨Nat.le_trans h.1 hl, fun hw => ?_⟩
  obtain ⟨a, b, c⟩ := h.2 hw
  refine ⟨a, ?_, c⟩
  unfold work at *; omega


abbrev OpSat (g : G) (vs : List Int) : OpR → Prop := Res Kind (OpOK g vs)

theorem OpSat.mono {g : G} {vs1 vs : List Int} {x : OpR} (h : OpSat g vs1 x) (hl : vs1.length ≤ vs.length) :
    OpSat g vs x :=
  Res.mono h (fun _ => id) fun _ hr => hr.mono hl

theorem OpSat.ep {g : G} {vs : List Int} {x : OpR} (h : OpSat g vs x) : EP x := by
  intro e he; subst he; exact h

theorem popThen_sat {ped : Bool} {vs : List Int} {g : G} {f : Int → List Int → OpR}
    (hf : ∀ v vs1, OpSat g vs1 (f v vs1)) : OpSat g vs (popThen ped vs f) :=
  pop_bind kind_underflow fun v vs1 hl => (hf v vs1).mono hl

/-- the SLOOP-driven loops: exactly `loop_counter ≤ 0xFFFF` iterations, then `loop_counter = 1` -/
theorem counted_sat {ped : Bool} {vs : List Int} {g : G} {body : Nat → Except Err Unit} (hb : ∀ i, EP (body i)) :
    OpSat g vs (counted ped vs g body) := by
  unfold counted
  generalize hx : popLoop ped body g.loop vs 0 = x
  have h := popLoop_res kind_underflow hb hx
  cases x with
  | error e => exact h
  | ok r =>
    refine opOK_iters r.2 h.2 (.inr (by show 1 ≤ 65535; decide)) rfl (fun hw => ?_) rfl rfl rfl rfl
    have := hw.1; have := h.1; unfold work; omega

theorem range_sat {g : G} {vs : List Int} {body : Nat → Except Err Unit} {skip : Option Nat} {n i : Nat}
    (hb : ∀ i, EP (body i)) (hn : Wf g → n ≤ 65536 + g.twiPts) :
    OpSat g vs (match rangeLoop body skip n i 0 with
      | .error e => .error e
      | .ok k => .ok (vs, { g with iters := g.iters + k })) := by
  generalize hx : rangeLoop body skip n i 0 = x
  have h := rangeLoop_res hb hx
  cases x with
  | error e => exact h
  | ok k =>
    refine opOK_iters k (Nat.le_refl _) (.inl rfl) rfl (fun hw => ?_) rfl rfl rfl rfl
    have := hn hw; have : k = 0 + n := h; unfold work; omega

theorem opSloop_sat (ped : Bool) (vs : List Int) (g : G) : OpSat g vs (opSloop ped vs g) := by
  refine popThen_sat fun n vs1 => ?_
  apply ite_elim <;> intro _
  · exact kind_lit
  · exact opOK_iters 0 (Nat.le_refl _) (.inr (Nat.min_le_right _ _)) rfl (fun _ => Nat.zero_le _) rfl rfl rfl rfl

theorem opSrp_sat (ped : Bool) (w : Nat) (vs : List Int) (g : G) : OpSat g vs (opSrp ped w vs g) := by
  refine popThen_sat fun p vs1 => ?_
  show OpOK g vs1 (vs1, _)
  repeat' split
  all_goals exact opOK_regs rfl rfl rfl rfl rfl rfl

theorem opSzp_sat (ped : Bool) (w : Nat) (vs : List Int) (g : G) : OpSat g vs (opSzp ped w vs g) := by
  refine popThen_sat fun n vs1 => ?_
  cases hz : zoneOf n with
  | error e => exact EP_zoneOf _ e hz
  | ok z =>
    show OpOK g vs1 (vs1, _)
    repeat' split
    all_goals exact opOK_regs rfl rfl rfl rfl rfl rfl

theorem opFlipRange_sat (ped : Bool) (vs : List Int) (g : G) : OpSat g vs (opFlipRange ped vs g) := by
  refine popThen_sat fun hi vs1 => popThen_sat fun lo vs2 => ?_
  dsimp only
  apply ite_elim <;> intro _
  · exact kind_lit
  apply ite_elim <;> intro _
  · exact opOK_regs rfl rfl rfl rfl rfl rfl
  apply ite_elim <;> intro _
  · exact opOK_iters _ (Nat.le_refl _) (.inl rfl) rfl (fun _ => by unfold work; omega) rfl rfl rfl rfl
  · exact kind_lit

theorem opShp_sat (ped : Bool) (op : Nat) (vs : List Int) (g : G) : OpSat g vs (opShp ped op vs g) := by
  unfold opShp
  cases hpd : pointDisplacement g op with
  | error e => exact EP_pointDisplacement _ _ e hpd
  | ok zr => exact counted_sat fun _ => EP_checkMoveZp2 _ _ _

theorem opShc_sat (ped : Bool) (op : Nat) (vs : List Int) (g : G) : OpSat g vs (opShc ped op vs g) := by
  refine popThen_sat fun c vs1 => ?_
  dsimp only
  apply ite_elim <;> intro _
  · exact opOK_regs rfl rfl rfl rfl rfl rfl
  cases hpd : pointDisplacement g op with
  | error e => exact EP_pointDisplacement _ _ e hpd
  | ok zr =>
    dsimp only
    generalize hstart : (if asUsize c ≠ 0 then _ else Except.ok 0 : Except Err Nat) = start
    have h1 : Res Kind (fun _ => True) start :=
      hstart ▸ ite_elim (fun _ => (contourEnd_res g _ _).mono (fun _ => id) fun _ _ => trivial) (fun _ => trivial)
    cases start with
    | error e => exact h1
    | ok start =>
      dsimp only
      generalize hstop : (if g.zp2 = 0 then Except.ok (g.zoneLen 0) else _ : Except Err Nat) = stop
      have h2 : Res Kind (fun stop => Wf g → stop ≤ 65536 + g.twiPts) stop :=
        hstop ▸ ite_elim (fun _ _ => by simp [G.zoneLen]) fun _ =>
          (contourEnd_res g _ _).mono (fun _ => id) fun _ h hw => Nat.le_trans (h hw) (Nat.le_add_right _ _)
      cases stop with
      | error e => exact h2
      | ok stop => exact range_sat (fun _ => EP_checkMoveZp2 _ _ _) fun hw => Nat.le_trans (Nat.sub_le _ _) (h2 hw)

theorem opShz_sat (ped : Bool) (op : Nat) (vs : List Int) (g : G) : OpSat g vs (opShz ped op vs g) := by
  refine popThen_sat fun e vs1 => ?_
  cases hz : zoneOf e with
  | error e1 => exact EP_zoneOf _ e1 hz
  | ok z =>
    dsimp only
    cases hpd : pointDisplacement g op with
    | error e1 => exact EP_pointDisplacement _ _ e1 hpd
    | ok zr => exact range_sat (fun _ => EP_checkMoveZp2 _ _ _) fun hw => shz_stop_le g hw

theorem opIp_sat (ped : Bool) (vs : List Int) (g : G) : OpSat g vs (opIp ped vs g) := by
  unfold opIp
  dsimp only
  apply ite_elim <;> intro _
  · exact opOK_iters 0 (Nat.le_refl _) (.inr (by show 1 ≤ 65535; decide)) rfl (fun _ => Nat.zero_le _) rfl rfl rfl rfl
  cases h1 : checkPoint g g.zp0 g.rp1 with
  | error e => exact EP_checkPoint _ _ _ e h1
  | ok _ =>
    dsimp only
    cases h2 : checkPoint g g.zp1 g.rp2 with
    | error e => exact EP_checkPoint _ _ _ e h2
    | ok _ =>
      dsimp only
      generalize hx : popLoop _ _ _ _ _ = x
      have h := popLoop_res kind_underflow (fun p => ite_elim (fun _ => EP_ok _) fun _ => EP_checkPoint _ _ _) hx
      cases x with
      | error e => exact h
      | ok r =>
        refine opOK_iters r.2 h.2 (.inr (by show 1 ≤ 65535; decide)) rfl (fun hw => ?_) rfl rfl rfl rfl
        have := hw.1; have := h.1; unfold work; omega

theorem opDelta_sat (ped : Bool) (op : Nat) (vs : List Int) (g : G) : OpSat g vs (opDelta ped op vs g) := by
  refine popThen_sat fun n vs1 => ?_
  apply ite_elim <;> intro _
  · exact kind_lit
  extract_lets n' isC bias body
  generalize hx : deltaLoop ped body n' vs1 0 = x
  have h := deltaLoop_res kind_underflow (fun b i =>
    ite_elim (fun _ => ite_elim (fun _ => EP_ok _) fun _ => EP_err kind_lit) fun _ => EP_ok _) hx
  cases x with
  | error e => exact h
  | ok r =>
    refine opOK_iters r.2 h.2 (.inl rfl) rfl (fun _ => ?_) rfl rfl rfl rfl
    have : n' ≤ vs1.length / 2 := Nat.min_le_right _ _
    have := h.1; unfold work; omega

theorem opCindex_sat (vs : List Int) (g : G) : OpSat g vs (opCindex vs g) := by
  unfold opCindex
  cases vs with
  | nil => exact kind_lit
  | cons top rest =>
    dsimp only
    cases (top :: rest)[asUsize top]? with
    | none => exact kind_lit
    | some v => exact opOK_iters 0 (by simp) (.inl rfl) rfl (fun _ => Nat.zero_le _) rfl rfl rfl rfl

theorem opMindex_sat (vs : List Int) (g : G) : OpSat g vs (opMindex vs g) := by
  unfold opMindex
  cases vs with
  | nil => exact kind_lit
  | cons top rest =>
    dsimp only
    cases hv : (top :: rest)[asUsize top]? with
    | none => exact kind_lit
    | some v =>
      dsimp only
      apply ite_elim <;> intro _
      · exact kind_lit
      have hk : asUsize top < (top :: rest).length := by
        by_cases hlt : asUsize top < (top :: rest).length
        · exact hlt
        · rw [List.getElem?_eq_none (by omega)] at hv; cases hv
      refine opOK_iters (asUsize top) ?_ (.inl rfl) rfl (fun _ => by unfold work; omega) rfl rfl rfl rfl
      rw [List.length_set, List.length_eraseIdx, if_pos hk]; omega

end FontVerif.InterpLoopsLemmas
