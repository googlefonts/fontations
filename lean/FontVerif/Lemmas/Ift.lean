/-
C18 — table-keyed patches (Model/TableKeyed.lean): the `FontBuilder` map, the per-entry loop as a run
`tkRun` over the resolved entries, and which dictionary the decoder receives; the two outcomes of a round
(`applyRound_cases`).  Also: equality of `Except` results is decidable (for the test vectors of Props/C18.lean).
-/
import FontVerif.Model.PatchRound
import FontVerif.Lemmas.SortedMap
namespace FontVerif.Ift

/-- equality of results is decidable, so that test vectors (errors included) are checked by evaluation -/
instance {ε α : Type} [DecidableEq ε] [DecidableEq α] : DecidableEq (Except ε α)
  | .ok a, .ok b => if h : a = b then isTrue (h ▸ rfl) else isFalse (fun e => h (Except.ok.inj e))
  | .error a, .error b => if h : a = b then isTrue (h ▸ rfl) else isFalse (fun e => h (Except.error.inj e))
  | .ok _, .error _ => isFalse nofun
  | .error _, .ok _ => isFalse nofun

theorem insertTable_eq (t : Tag) (d : Bytes) (f : Font) : insertTable t d f = SMap.insert t d f := by
  induction f with
  | nil => rfl
  | cons e r ih => obtain ⟨k', v'⟩ := e; simp only [insertTable, SMap.insert, ih]

theorem lookup_insertTable_self (t : Tag) (d : Bytes) (f : Font) :
    (insertTable t d f).lookup t = some d := by
  rw [insertTable_eq, SMap.lookup_insert, if_pos rfl]

theorem lookup_insertTable_ne (t u : Tag) (d : Bytes) (f : Font) (h : u ≠ t) :
    (insertTable t d f).lookup u = f.lookup u := by
  rw [insertTable_eq, SMap.lookup_insert, if_neg h]

/-- tags of a font are pairwise distinct (what the sfnt table directory guarantees) -/
def UniqueTags (f : Font) : Prop := (f.map (·.1)).Nodup

theorem lookup_none_of_not_mem (f : Font) (t : Tag) (h : t ∉ f.map (·.1)) : f.lookup t = none :=
  lookup_eq_none_of_not_mem fun p hp e => h (List.mem_map.mpr ⟨p, hp, e⟩)

theorem copyUnprocessed_lookup (font : Font) (processed : List Tag) (b : Font) (t : Tag)
    (hu : UniqueTags font) :
    (copyUnprocessed font processed b).lookup t =
      if t ∈ processed then b.lookup t else (font.lookup t).or (b.lookup t) := by
  unfold copyUnprocessed
  induction font generalizing b with
  | nil => by_cases hp : t ∈ processed <;> simp [hp]
  | cons hd tl ih =>
    obtain ⟨t', d'⟩ := hd
    obtain ⟨hnot, hu'⟩ := List.nodup_cons.mp hu
    rw [List.foldl_cons, ih _ hu', SMap.lookup_cons]
    by_cases htt : t = t'
    · -- the later records do not name `t` again
      subst htt
      rw [lookup_none_of_not_mem tl t hnot]
      by_cases hp : t ∈ processed
      · simp [hp]
      · simp [hp, lookup_insertTable_self]
    · rw [if_neg htt]
      have hb : (if processed.contains t' = true then b else insertTable t' d' b).lookup t = b.lookup t := by
        split
        · rfl
        · exact lookup_insertTable_ne t' t d' b htt
      rw [hb]

def tkRun (font : Font) (dec : Decoder) : List TKEntry → TKAcc → Except PErr TKAcc
  | [], acc => .ok acc
  | e :: rest, acc =>
    match tkStep font dec acc e with
    | .error x => .error x
    | .ok acc' => tkRun font dec rest acc'

theorem tkLoop_ok (p : Bytes) (font : Font) (dec : Decoder) (n i : Nat) (acc acc' : TKAcc)
    (h : tkLoop p font dec i n acc = .ok acc') :
    ∃ es : List TKEntry, es.length = n ∧ (∀ j (hj : j < es.length), tkEntryAt p (i + j) = .ok es[j]) ∧
      tkRun font dec es acc = .ok acc' := by
  induction n generalizing i acc with
  | zero =>
    refine ⟨[], rfl, ?_, ?_⟩
    · intro j hj; simp at hj
    · simpa [tkLoop, tkRun] using h
  | succ n ih =>
    unfold tkLoop at h
    split at h
    · cases h
    · rename_i ent hent
      split at h
      · cases h
      · rename_i acc1 hstep
        obtain ⟨es, hlen, hent', hrun⟩ := ih (i + 1) acc1 h
        refine ⟨ent :: es, by simp [hlen], ?_, ?_⟩
        · intro j hj
          cases j with
          | zero => simpa using hent
          | succ j =>
            have := hent' j (by simpa using hj)
            simpa [Nat.add_assoc, Nat.add_comm 1 j] using this
        · simp [tkRun, hstep, hrun]

/-- the dictionary `apply_table_patch` hands to the decoder for entry `e` -/
def dictFor (font : Font) (e : TKEntry) : Option Bytes := if e.replace then none else font.get e.tag

/-- `tkStep` with its two-column match read once: the decoder is called with `dictFor font e`, unless the
entry needs a base table that is missing -/
theorem tkStep_eq (font : Font) (dec : Decoder) (acc : TKAcc) (e : TKEntry) :
    tkStep font dec acc e =
      if e.tag ∈ acc.processed then .ok acc
      else if e.drop then .ok { acc with processed := e.tag :: acc.processed }
      else if e.replace = false ∧ font.get e.tag = none then
        .error (.invalidPatch "Trying to patch a base table that doesn't exist.")
      else match dec acc.calls e.stream (dictFor font e) e.maxLen with
        | .error d => .error (PErr.ofDec d)
        | .ok newTable => .ok { processed := e.tag :: acc.processed,
                                builder := insertTable e.tag newTable acc.builder, calls := acc.calls + 1 } := by
  unfold tkStep dictFor
  refine ite_congr (propext List.contains_iff_mem) (fun _ => rfl) fun _ => ite_congr rfl (fun _ => rfl) fun _ => ?_
  cases e.replace <;> cases font.get e.tag <;>
    simp only [and_self, and_false, false_and, if_true, if_false, Bool.false_eq_true, reduceCtorEq] <;>
    cases dec acc.calls e.stream _ e.maxLen <;> rfl

/-- one step of the loop: the same four facts whether the entry is skipped (its tag was processed before),
drops its table, or has it decoded -/
theorem tkStep_ok (font : Font) (dec : Decoder) (acc acc1 : TKAcc) (e : TKEntry)
    (h : tkStep font dec acc e = .ok acc1) :
    (acc.calls ≤ acc1.calls ∧ acc1.calls ≤ acc.calls + 1) ∧
    (∀ t, t ∈ acc1.processed ↔ t ∈ acc.processed ∨ t = e.tag) ∧
    (∀ t, t ∈ acc.processed ∨ t ≠ e.tag → acc1.builder.lookup t = acc.builder.lookup t) ∧
    (e.tag ∉ acc.processed →
      if e.drop then acc1.builder.lookup e.tag = acc.builder.lookup e.tag
      else ∃ r, acc.calls < acc1.calls ∧ dec acc.calls e.stream (dictFor font e) e.maxLen = .ok r ∧
        acc1.builder.lookup e.tag = some r ∧ (e.replace = false → (font.get e.tag).isSome)) := by
  rw [tkStep_eq] at h
  by_cases hmem : e.tag ∈ acc.processed
  · rw [if_pos hmem] at h
    cases h
    exact ⟨⟨Nat.le_refl _, Nat.le_succ _⟩, fun t => ⟨Or.inl, fun h => h.elim id (fun e' => e' ▸ hmem)⟩, fun _ _ => rfl,
      fun hn => absurd hmem hn⟩
  rw [if_neg hmem] at h
  by_cases hdrop : e.drop = true
  · rw [if_pos hdrop] at h
    cases h
    exact ⟨⟨Nat.le_refl _, Nat.le_succ _⟩, fun t => by rw [List.mem_cons, or_comm], fun _ _ => rfl,
      fun _ => by rw [if_pos hdrop]⟩
  rw [if_neg hdrop] at h
  by_cases hbase : e.replace = false ∧ font.get e.tag = none
  · rw [if_pos hbase] at h; cases h
  rw [if_neg hbase] at h
  cases hcall : dec acc.calls e.stream (dictFor font e) e.maxLen with
  | error d => rw [hcall] at h; cases h
  | ok newTable =>
    rw [hcall] at h
    cases h
    refine ⟨⟨Nat.le_succ _, Nat.le_refl _⟩, fun t => by rw [List.mem_cons, or_comm], fun t ht => ?_, fun _ => ?_⟩
    · exact lookup_insertTable_ne _ _ _ _ (ht.elim (fun hm e' => hmem (e' ▸ hm)) id)
    · rw [if_neg hdrop]
      exact ⟨newTable, Nat.lt_succ_self _, rfl, lookup_insertTable_self _ _ _,
        fun hr => Option.isSome_iff_ne_none.2 fun hg => hbase ⟨hr, hg⟩⟩

/-- for a tag not processed before, the FIRST entry naming it decides -/
theorem tkRun_spec (font : Font) (dec : Decoder) (es : List TKEntry) (acc acc' : TKAcc)
    (h : tkRun font dec es acc = .ok acc') :
    (acc.calls ≤ acc'.calls ∧ acc'.calls ≤ acc.calls + es.length) ∧
    (∀ t, t ∈ acc'.processed ↔ (t ∈ acc.processed ∨ t ∈ es.map (·.tag))) ∧
    (∀ t, t ∈ acc.processed → acc'.builder.lookup t = acc.builder.lookup t) ∧
    (∀ t, t ∉ acc.processed →
      match es.find? (fun e => e.tag == t) with
      | none => acc'.builder.lookup t = acc.builder.lookup t
      | some e =>
        if e.drop then acc'.builder.lookup t = acc.builder.lookup t
        else ∃ k r, k < acc'.calls ∧
          dec k e.stream (if e.replace then none else font.get t) e.maxLen = .ok r ∧
          acc'.builder.lookup t = some r ∧ (e.replace = false → (font.get t).isSome)) := by
  induction es generalizing acc with
  | nil =>
    simp only [tkRun] at h
    cases h
    exact ⟨⟨Nat.le_refl _, Nat.le_refl _⟩, fun t => by simp, fun t _ => rfl, fun t _ => by simp⟩
  | cons e rest ih =>
    simp only [tkRun] at h
    split at h
    · cases h
    · rename_i acc1 hstep
      obtain ⟨⟨hc, hc'⟩, hp, hin, hout⟩ := ih acc1 h
      obtain ⟨⟨s1, s1'⟩, s2, s3, s4⟩ := tkStep_ok font dec acc acc1 e hstep
      refine ⟨⟨Nat.le_trans s1 hc, by rw [List.length_cons]; omega⟩,
        fun t => by rw [hp t, s2 t, List.map_cons, List.mem_cons, or_assoc], ?_, ?_⟩
      · intro t ht
        rw [hin t ((s2 t).mpr (Or.inl ht)), s3 t (Or.inl ht)]
      · intro t ht
        by_cases heq : e.tag = t
        · -- `e` is the first entry naming `t`; afterwards `t` counts as processed
          subst heq
          simp only [List.find?, beq_self_eq_true]
          rw [hin e.tag ((s2 _).mpr (Or.inr rfl))]
          have := s4 ht
          by_cases hd : e.drop = true
          · rw [if_pos hd] at this ⊢; exact this
          · rw [if_neg hd] at this ⊢
            obtain ⟨r, hk, hcall, hb, hsome⟩ := this
            exact ⟨acc.calls, r, Nat.lt_of_lt_of_le hk hc, hcall, hb, hsome⟩
        · have hb : (e.tag == t) = false := by simp [heq]
          simp only [List.find?, hb]
          have := hout t (fun hm => ((s2 t).mp hm).elim ht (fun e' => heq e'.symm))
          rw [s3 t (Or.inr (fun e' => heq e'.symm))] at this
          exact this

theorem tkStep_congr_dec (font : Font) (dec dec' : Decoder) (acc : TKAcc) (e : TKEntry)
    (h : dec acc.calls e.stream (dictFor font e) e.maxLen = dec' acc.calls e.stream (dictFor font e) e.maxLen) :
    tkStep font dec acc e = tkStep font dec' acc e := by
  rw [tkStep_eq, tkStep_eq, h]

theorem tkLoop_congr_dec (p : Bytes) (font : Font) (dec dec' : Decoder)
    (h : ∀ k (e : TKEntry), dec k e.stream (dictFor font e) e.maxLen = dec' k e.stream (dictFor font e) e.maxLen)
    (i n : Nat) (acc : TKAcc) : tkLoop p font dec i n acc = tkLoop p font dec' i n acc := by
  induction n generalizing i acc with
  | zero => rfl
  | succ n ih =>
    unfold tkLoop
    cases tkEntryAt p i with
    | error e => rfl
    | ok ent =>
      simp only
      rw [tkStep_congr_dec font dec dec' acc ent (h _ ent)]
      cases tkStep font dec' acc ent with
      | error e => rfl
      | ok acc' => exact ih _ _

/-! ## the round -/

/-- a round either fails and hands the status map back as it got it, or succeeds and marks the patches
of some list applied -/
theorem applyRound_cases (font : Font) (inv noninv : List PatchInfo) (st : StatusMap) (dec : Decoder) :
    (∃ e, applyRound font inv noninv st dec = (.error e, st)) ∨
    ∃ f, ∃ l : List PatchInfo, applyRound font inv noninv st dec =
      (.ok f, l.foldl (fun m info => m.setApplied info.uri) st) := by
  have hnon : (∃ e, applyNonInvalidating font noninv st dec = (.error e, st)) ∨
      ∃ f, ∃ l : List PatchInfo, applyNonInvalidating font noninv st dec =
        (.ok f, l.foldl (fun m info => m.setApplied info.uri) st) := by
    unfold applyNonInvalidating
    split
    · exact .inl ⟨_, rfl⟩
    · split
      · exact .inl ⟨_, rfl⟩
      · split
        · exact .inl ⟨_, rfl⟩
        · exact .inr ⟨_, _, rfl⟩
  unfold applyRound
  split
  · split
    · exact .inl ⟨_, rfl⟩
    · split
      · exact .inl ⟨_, rfl⟩
      · exact .inr ⟨_, [_], rfl⟩
    · exact hnon
  · exact hnon

end FontVerif.Ift
