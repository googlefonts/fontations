/-
Invariant of the lazy metrics slot (Model/LazySlot.lean) under the protocol of
`UnscaledStyleMetricsSet::get`: the slot holds `None` or the final value, at every step of every schedule.
-/
import FontVerif.Model.LazySlot
namespace FontVerif.LazySlot

def ThreadGood (final : Nat) (t : Thread) : Prop :=
  (t.seen = none ∨ t.seen = some none ∨ t.seen = some (some final)) ∧
  (5 ≤ t.pc → t.mine = some final) ∧
  (t.ret = none ∨ t.ret = some (some final))

def Good (final : Nat) (s : Sys) : Prop :=
  (s.slot = none ∨ s.slot = some final) ∧ ∀ t ∈ s.threads, ThreadGood final t

theorem release_slot (s : Sys) (t : Thread) : (release s t).1.slot = s.slot ∧ (release s t).1.threads = s.threads ∧
    (release s t).2.seen = t.seen ∧ (release s t).2.mine = t.mine ∧ (release s t).2.ret = t.ret ∧
    (release s t).2.pc = t.pc := by
  simp [release]

theorem stepThread_good (final other : Nat) (s : Sys) (t : Thread) (hs : s.slot = none ∨ s.slot = some final)
    (ht : ThreadGood final t) :
    ((stepThread lazyGetModel final other s t).1.slot = none ∨ (stepThread lazyGetModel final other s t).1.slot = some final) ∧
    (stepThread lazyGetModel final other s t).1.threads = s.threads ∧
    ThreadGood final (stepThread lazyGetModel final other s t).2 := by
  obtain ⟨hseen, hmine, hret⟩ := ht
  unfold stepThread
  split
  · exact ⟨hs, rfl, hseen, hmine, hret⟩
  · have hpc : t.pc = 0 ∨ t.pc = 1 ∨ t.pc = 2 ∨ t.pc = 3 ∨ t.pc = 4 ∨ t.pc = 5 ∨ t.pc = 6 ∨ t.pc = 7 ∨ 8 ≤ t.pc := by omega
    rcases hpc with h | h | h | h | h | h | h | h | h
    · simp only [lazyGetModel, h, List.getElem?_cons_zero]
      split <;> simp_all [ThreadGood]
    · simp only [lazyGetModel, h, List.getElem?_cons_succ, List.getElem?_cons_zero]
      rcases hs with h1 | h1 <;> simp_all [ThreadGood]
    · simp only [lazyGetModel, h, List.getElem?_cons_succ, List.getElem?_cons_zero]
      rcases hseen with h1 | h1 | h1 <;> simp_all [ThreadGood, release]
    · simp only [lazyGetModel, h, List.getElem?_cons_succ, List.getElem?_cons_zero]
      simp_all [ThreadGood, release]
    · -- `compute`: from here on `5 ≤ pc`
      simp only [lazyGetModel, h, List.getElem?_cons_succ, List.getElem?_cons_zero]
      simp_all [ThreadGood]
    · simp only [lazyGetModel, h, List.getElem?_cons_succ, List.getElem?_cons_zero]
      have hm := hmine (by omega)
      split <;> simp_all [ThreadGood]
    · simp only [lazyGetModel, h, List.getElem?_cons_succ, List.getElem?_cons_zero]
      have hm := hmine (by omega)
      simp_all [ThreadGood]
    · simp only [lazyGetModel, h, List.getElem?_cons_succ, List.getElem?_cons_zero]
      have hm := hmine (by omega)
      simp_all [ThreadGood, release]
    · have : lazyGetModel[t.pc]? = none := by
        simp only [lazyGetModel]
        apply List.getElem?_eq_none
        simp; omega
      rw [this]
      exact ⟨hs, rfl, hseen, hmine, hret⟩

theorem step_good (final other : Nat) (s : Sys) (i : Nat) (h : Good final s) :
    Good final (step lazyGetModel final other s i) := by
  unfold step
  split
  · exact h
  · rename_i t ht
    have htm : t ∈ s.threads := List.mem_of_getElem? ht
    have := stepThread_good final other s t h.1 (h.2 t htm)
    refine ⟨this.1, ?_⟩
    intro u hu
    simp only [this.2.1] at hu
    rcases List.mem_or_eq_of_mem_set hu with hu | hu
    · exact h.2 u hu
    · rw [hu]; exact this.2.2

theorem run_good (final other : Nat) : ∀ (sched : List Nat) (s : Sys), Good final s →
    Good final (run lazyGetModel final other s sched)
  | [], _, h => h
  | i :: rest, s, h => run_good final other rest _ (step_good final other s i h)


end FontVerif.LazySlot
