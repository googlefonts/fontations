/-
Lemmas about Model/InterpData.lean: the invariant of the data state, what `F.apply` / `Cow.write` /
`deltaCLoop` / the stack plumbing keep, and the single walks over the two small dispatchers (`semLoopOp_out`,
`semSubset_out`).
-/
import FontVerif.Model.InterpData
import FontVerif.Lemmas.InterpLoops
namespace FontVerif.InterpDataLemmas
open FontVerif.Interp FontVerif.InterpLoops FontVerif.InterpData FontVerif.InterpLoopsLemmas
open FontVerif.InterpLemmas

/-- invariant of the data state: the loop state is well formed, both copy-on-write slices were created with equal
    lengths (`CowSlice::new` succeeded) or are already mutable, `delta_shift ≤ 6` (`Default` = 3, `op_sds` checks), and
    a glyph zone that has a contour has a point (the loader always appends four phantom points) -/
def FInv (f : F) : Prop :=
  Wf f.g ∧ f.storage.Ok ∧ f.cvt.Ok ∧ f.deltaShift ≤ 6 ∧ (f.g.glyphContours ≠ [] → 1 ≤ f.g.glyphPts)

def Keep (f f' : F) : Prop :=
  f'.storage.len = f.storage.len ∧ f'.cvt.len = f.cvt.len ∧ f'.prog = f.prog ∧ f'.axes = f.axes

theorem Keep.refl (f : F) : Keep f f := ⟨rfl, rfl, rfl, rfl⟩
theorem Keep.trans {a b d : F} (h1 : Keep a b) (h2 : Keep b d) : Keep a d :=
  ⟨h2.1.trans h1.1, h2.2.1.trans h1.2.1, h2.2.2.1.trans h1.2.2.1, h2.2.2.2.trans h1.2.2.2⟩

theorem cow_write_len (c : Cow) (i : Nat) (v : Int) : (c.write i v).len = c.len := by
  unfold Cow.write Cow.len
  cases hu : c.useMut <;> simp <;> split <;> simp

theorem cow_write_ok (c : Cow) (i : Nat) (v : Int) : (c.write i v).Ok := by
  unfold Cow.write Cow.Ok; simp

theorem cow_okb_iff (c : Cow) : c.okb = true ↔ c.Ok := by
  unfold Cow.okb Cow.Ok; simp

/-- on a slice that `CowSlice::new` accepted, `set` is `write` and reports whether the index was in range -/
theorem cow_set_write (c : Cow) (i : Nat) (v : Int) (h : c.Ok) :
    c.set i v = .ok (c.write i v, decide (i < (if c.useMut then c.dataMut else c.data).length)) := by
  have hg : (!c.useMut && c.data.length != c.dataMut.length) = false := by
    rcases h with h | h <;> simp [h]
  unfold Cow.set Cow.write
  rw [hg, if_neg Bool.false_ne_true]
  by_cases hi : i < (if c.useMut then c.dataMut else c.data).length
  · simp only [if_pos hi, decide_eq_true hi]
  · simp only [if_neg hi, decide_eq_false hi]

theorem cow_set_ok (c : Cow) (i : Nat) (v : Int) (h : c.Ok) :
    ∃ c' b, c.set i v = .ok (c', b) ∧ c'.len = c.len ∧ c'.Ok :=
  ⟨_, _, cow_set_write c i v h, cow_write_len _ _ _, cow_write_ok _ _ _⟩

theorem apply_g (f : F) (u : Upd) :
    (f.apply u).g.glyphPts = f.g.glyphPts ∧ (f.apply u).g.twiPts = f.g.twiPts ∧
    (f.apply u).g.glyphContours = f.g.glyphContours ∧ (f.apply u).g.cap = f.g.cap ∧
    (f.apply u).g.iters = f.g.iters ∧ (f.apply u).g.loop = f.g.loop := by
  unfold F.apply
  cases u.rp <;> cases u.fv <;> cases u.deltaBase <;> cases u.bc <;> exact ⟨rfl, rfl, rfl, rfl, rfl, rfl⟩

theorem apply_keep (f : F) (u : Upd) : Keep f (f.apply u) := by
  unfold F.apply Keep
  simp only []
  refine ⟨?_, ?_, ?_, ?_⟩
  · split
    · exact cow_write_len _ _ _
    · rfl
  · split
    · exact cow_write_len _ _ _
    · rfl
  · first | rfl | trivial
  · first | rfl | trivial

theorem apply_inv (f : F) (u : Upd) (h : FInv f) : FInv (f.apply u) := by
  obtain ⟨⟨h1, h1b⟩, h2, h3, h4, h5⟩ := h
  have hg := apply_g f u
  refine ⟨⟨by rw [hg.2.2.2.2.2]; exact h1, by rw [hg.2.2.1]; exact h1b⟩, ?_, ?_, ?_, ?_⟩
  · unfold F.apply; simp only []; split
    · exact cow_write_ok _ _ _
    · exact h2
  · unfold F.apply; simp only []; split
    · exact cow_write_ok _ _ _
    · exact h3
  · unfold F.apply; simp only []; split
    · split <;> omega
    · exact h4
  · rw [hg.2.2.1, hg.1]; exact h5

/-- closes `EP (match x with | .error e => .error e | .ok a => k a)` style goals leaf by leaf -/
theorem EP_bind {α β} {x : Except Err α} {k : α → Except Err β} (hx : EP x) (hk : ∀ a, EP (k a)) :
    EP (match x with | .error e => .error e | .ok a => k a) := by
  cases x with
  | error e => exact EP_err (hx e rfl)
  | ok a => exact hk a

theorem derr_kind (e : DErr) : Kind e.toErr := by
  cases e <;> (unfold Kind DErr.toErr; decide)

theorem popN_res {E : Err → Prop} (hu : E .vsUnderflow) (ped : Bool) : ∀ (n : Nat) (vs : List Int),
    Res E (fun r => r.1.length = n ∧ r.2.length ≤ vs.length) (popN ped n vs)
  | 0, vs => ⟨rfl, Nat.le_refl _⟩
  | n + 1, vs => pop_bind hu fun v vs1 h => by
    have hr := popN_res hu ped n vs1
    generalize popN ped n vs1 = y at hr ⊢
    cases y with
    | error e => exact hr
    | ok q => exact ⟨congrArg (· + 1) hr.1, Nat.le_trans hr.2 h⟩

theorem pushAll_res {E : Err → Prop} (ho : E .vsOverflow) (cap : Nat) (vs outs : List Int) :
    Res E (fun vs' => vs'.length ≤ cap ∧ vs.length + outs.length ≤ cap) (pushAll cap vs outs) := by
  unfold pushAll
  apply ite_elim <;> intro h
  · show (outs.reverse ++ vs).length ≤ cap ∧ _
    rw [List.length_append, List.length_reverse]; omega
  · exact ho

theorem opRoll_res (ped : Bool) (cap : Nat) (vs : List Int) :
    Res Kind (fun vs' => vs'.length ≤ cap) (opRoll ped cap vs) := by
  unfold opRoll
  have hp := popN_res kind_underflow ped 3 vs
  generalize popN ped 3 vs = x at hp ⊢
  cases x with
  | error e => exact hp
  | ok r =>
    -- three popped values: the pattern `[a, b, c]` matches
    match r, hp.1 with
    | ([a, b, c], vs1), _ => exact (pushAll_res kind_overflow cap vs1 [b, a, c]).mono (fun _ => id) fun _ h => h.1

theorem deltaCLoop_res (ped : Bool) (ppem bias shift : Nat) :
    ∀ (n : Nat) (vs : List Int) (c : Cow) (k : Nat), c.Ok →
      Res Kind (fun r => r.2.2 = k + n ∧ r.1.length ≤ vs.length ∧ r.2.1.len = c.len ∧ r.2.1.Ok)
        (deltaCLoop ped ppem bias shift n vs c k) := by
  intro n
  induction n with
  | zero => intro vs c k hc; exact ⟨rfl, Nat.le_refl _, rfl, hc⟩
  | succ n ih =>
    intro vs c k hc
    unfold deltaCLoop
    refine pop_bind kind_underflow fun ix vs1 h1 => pop_bind kind_underflow fun b vs2 h2 => ?_
    have next : ∀ c', c'.len = c.len → c'.Ok →
        Res Kind (fun r => r.2.2 = k + (n + 1) ∧ r.1.length ≤ vs.length ∧ r.2.1.len = c.len ∧ r.2.1.Ok)
          (deltaCLoop ped ppem bias shift n vs2 c' (k + 1)) := fun c' hlen hok =>
      (ih vs2 c' (k + 1) hok).mono (fun _ => id) fun _ h =>
        ⟨by omega, Nat.le_trans h.2.1 (Nat.le_trans h2 h1), h.2.2.1.trans hlen, h.2.2.2⟩
    apply ite_elim <;> intro _
    · cases c.get (asUsize ix) with
      | none => exact kind_lit
      | some v =>
        dsimp only
        obtain ⟨c', ok, hs, hlen, hok⟩ := cow_set_ok c (asUsize ix) (wrapI32 (v + (if b % 16 - 8 ≥ 0 then b % 16 - 8 + 1
          else b % 16 - 8) * 2 ^ (6 - shift))) hc
        rw [hs]
        dsimp only
        apply ite_elim <;> intro _
        · exact next c' hlen hok
        · exact kind_lit
    · exact next c rfl hc

def LoopOut (g : G) (vs : List Int) : Option OpR → Prop
  | none => True
  | some x => OpSat g vs x

theorem semLoopOp_out (ped : Bool) (op : Nat) (vs : List Int) (g : G) : LoopOut g vs (semLoopOp ped op vs g) := by
  have regs : ∀ g' : G, g'.loop = g.loop → g'.iters = g.iters → g'.glyphPts = g.glyphPts → g'.twiPts = g.twiPts →
      g'.glyphContours = g.glyphContours → g'.cap = g.cap → LoopOut g vs (some (.ok (vs, g'))) :=
    fun g' h1 h2 h3 h4 h5 h6 => opOK_regs h1 h2 h3 h4 h5 h6
  unfold semLoopOp
  apply ite_elim <;> intro _
  · exact opSloop_sat ..
  iterate 3 apply ite_elim <;> intro _; · exact opSrp_sat ..
  iterate 4 apply ite_elim <;> intro _; · exact opSzp_sat ..
  apply ite_elim <;> intro _
  · -- FLIPPT
    apply ite_elim <;> intro _
    · exact opOK_iters 0 (Nat.le_refl _) (.inr (by show 1 ≤ 65535; decide)) rfl (fun _ => Nat.zero_le _) rfl rfl rfl rfl
    · exact counted_sat fun i => EP_checkPoint _ _ _
  apply ite_elim <;> intro _
  · exact opFlipRange_sat ..
  apply ite_elim <;> intro _
  · exact opShp_sat ..
  apply ite_elim <;> intro _
  · exact opShc_sat ..
  apply ite_elim <;> intro _
  · exact opShz_sat ..
  apply ite_elim <;> intro _
  · -- SHPIX
    exact popThen_sat fun _ _ => counted_sat fun i => ite_elim (fun _ => EP_ok _) fun _ => EP_checkPoint _ _ _
  apply ite_elim <;> intro _
  · exact opIp_sat ..
  apply ite_elim <;> intro _
  · -- ALIGNRP
    refine counted_sat fun i => ?_
    cases h1 : checkPoint g g.zp1 i with
    | error e => exact EP_err (EP_checkPoint _ _ _ e h1)
    | ok _ => exact EP_checkPoint _ _ _
  apply ite_elim <;> intro _
  · exact opDelta_sat ..
  apply ite_elim <;> intro _
  · exact opCindex_sat ..
  apply ite_elim <;> intro _
  · exact opMindex_sat ..
  apply ite_elim <;> intro _
  · -- IUP: only the `did_iup` flags
    repeat' split
    all_goals exact regs _ rfl rfl rfl rfl rfl rfl
  -- SVTCA / SFVTCA: only the freedom vector
  apply ite_elim <;> intro _
  · exact regs _ rfl rfl rfl rfl rfl rfl
  apply ite_elim <;> intro _
  · exact regs _ rfl rfl rfl rfl rfl rfl
  · exact trivial

theorem semLoopOp_opOK {ped : Bool} {op : Nat} {vs : List Int} {g : G} {r : List Int × G}
    (h : semLoopOp ped op vs g = some (.ok r)) : OpOK g vs r :=
  show LoopOut g vs (some (.ok r)) from h ▸ semLoopOp_out ped op vs g

/-- they only pop; CINDEX replaces the top, MINDEX removes one element -/
theorem semLoopOp_len (ped : Bool) (op : Nat) (vs vs' : List Int) (g g' : G)
    (h : semLoopOp ped op vs g = some (.ok (vs', g'))) : vs'.length ≤ vs.length :=
  (semLoopOp_opOK h).1

theorem semLoopOp_kind (ped : Bool) (op : Nat) (vs : List Int) (g : G) (r : OpR)
    (h : semLoopOp ped op vs g = some r) : EP r :=
  OpSat.ep (show LoopOut g vs (some r) from h ▸ semLoopOp_out ped op vs g)

theorem semLoopOp_iup (ped : Bool) (op : Nat) (hop : op = 0x30 ∨ op = 0x31) (vs : List Int) (g : G) :
    ∃ g', semLoopOp ped op vs g = some (.ok (vs, g')) ∧ g'.iters = g.iters ∧ g'.loop = g.loop ∧
      g'.glyphPts = g.glyphPts ∧ g'.twiPts = g.twiPts ∧ g'.glyphContours = g.glyphContours ∧ g'.cap = g.cap := by
  rcases hop with hop | hop <;> subst hop <;> simp [semLoopOp] <;> split <;> simp

/-- CINDEX / MINDEX and DELTAP1..3 are opcodes of `semLoopOp` (the conditions are those of `semCore`'s arms) -/
theorem semLoopOp_ne_none (ped : Bool) (op : Nat)
    (hop : (op = 0x25 ∨ op = 0x26) ∨ (op = 0x5D ∨ op = 0x71 ∨ op = 0x72)) (vs : List Int) (g : G) :
    semLoopOp ped op vs g ≠ none := by
  rcases hop with (h | h) | (h | h | h) <;> subst h <;> simp [semLoopOp]

/-- an error is ValueStackOverflow / ValueStackUnderflow, or `Err.data op` for an opcode outside the subset, which is
    not the panic marker for an opcode BYTE -/
def SubOut (cap : Nat) (vs : List Int) (op : Nat) : Except Err (List Int × Nat) → Prop :=
  Res (fun e => Kind e ∨ e = .data op) fun r => (vs.length ≤ cap → r.1.length ≤ cap) ∧ r.2 = cap

/-- `Err.data op` of an opcode BYTE is not the panic marker -/
theorem kind_of_data {op : Nat} {e : Err} (hop : op < 256) (h : Kind e ∨ e = .data op) : Kind e := by
  rcases h with hk | rfl
  · exact hk
  · intro h
    have := Err.data.inj h
    omega

theorem subOut_ret {cap : Nat} {vs : List Int} {op : Nat} {r : Except Err (List Int)}
    (h : Res Kind (fun vs' => vs.length ≤ cap → vs'.length ≤ cap) r) :
    SubOut cap vs op (match (generalizing := false) r with
      | .ok vs => (Except.ok (vs, cap) : Except Err (List Int × Nat)) | .error e => .error e) := by
  cases r with
  | error e => exact .inl h
  | ok v => exact ⟨h, rfl⟩

theorem subOut_pop {ped : Bool} {cap : Nat} {vs : List Int} {op : Nat} :
    SubOut cap vs op (match (pop ped vs).map (·.2) with
      | .ok vs => (Except.ok (vs, cap) : Except Err (List Int × Nat)) | .error e => .error e) := by
  refine subOut_ret ?_
  have hp := pop_res kind_underflow ped vs
  generalize pop ped vs = x at hp ⊢
  cases x with
  | error e => exact hp
  | ok r => exact fun hl => Nat.le_trans hp hl

theorem semSubset_out (ped : Bool) (op : Nat) (bytes : List Nat) (vs : List Int) (cap : Nat) :
    SubOut cap vs op (semSubset ped op bytes (vs, cap)) := by
  have ret : ∀ r, Res Kind (fun vs' => vs'.length ≤ cap) r → SubOut cap vs op (match r with
      | .ok vs => (Except.ok (vs, cap) : Except Err (List Int × Nat)) | .error e => .error e) :=
    fun r h => subOut_ret (h.mono (fun _ => id) fun _ h _ => h)
  have hpush := fun vs1 v => ret _ (push_res kind_overflow cap vs1 v)
  have hbin := fun f => ret _ (applyBinary_res kind_underflow kind_overflow ped cap vs f)
  have hun := fun f => ret _ (applyUnary_res kind_underflow kind_overflow ped cap vs f)
  unfold semSubset
  dsimp only
  apply ite_elim <;> intro _
  · apply ite_elim <;> intro h
    · exact ⟨fun _ => by simp only [List.length_append, List.length_reverse]; omega, rfl⟩
    · exact .inl kind_overflow
  apply ite_elim <;> intro _
  · -- DUP
    cases vs with
    | nil => exact ite_elim (fun _ => .inl kind_underflow) (fun _ => hpush _ _)
    | cons v rest => exact hpush _ _
  apply ite_elim <;> intro _
  · exact subOut_pop
  apply ite_elim <;> intro _
  · exact ⟨fun _ => Nat.zero_le _, rfl⟩
  apply ite_elim <;> intro _
  · -- SWAP
    refine pop_bind (.inl kind_underflow) fun a vs1 _ => pop_bind (.inl kind_underflow) fun b vs2 _ => ?_
    have hp := push_res kind_overflow cap vs2 a
    generalize push cap vs2 a = x at hp ⊢
    cases x with
    | error e => exact .inl hp
    | ok vs3 => exact hpush _ _
  apply ite_elim <;> intro _
  · exact hpush _ _
  iterate 2 apply ite_elim <;> intro _; · exact hbin _
  apply ite_elim <;> intro _
  · exact hun _
  iterate 5 apply ite_elim <;> intro _; · exact hbin _
  apply ite_elim <;> intro _
  · exact hun _
  apply ite_elim <;> intro _
  · exact subOut_pop
  exact ite_elim (fun _ => ⟨fun h => h, rfl⟩) (fun _ => .inr rfl)

theorem semSubset_len (ped : Bool) (op : Nat) (bytes : List Nat) (vs vs' : List Int) (cap cap' : Nat)
    (hl : vs.length ≤ cap) (h : semSubset ped op bytes (vs, cap) = .ok (vs', cap')) : vs'.length ≤ cap ∧ cap' = cap := by
  have := semSubset_out ped op bytes vs cap
  rw [h] at this
  exact ⟨this.1 hl, this.2⟩

theorem semSubset_push (ped : Bool) {op : Nat} (bytes : List Nat) (vs : List Int) (cap : Nat)
    (hop : op = 0x40 ∨ op = 0x41 ∨ (0xB0 ≤ op ∧ op ≤ 0xBF)) :
    semSubset ped op bytes (vs, cap) =
      if vs.length + (operandValues op bytes).length ≤ cap then .ok ((operandValues op bytes).reverse ++ vs, cap)
      else .error .vsOverflow := by
  unfold semSubset
  dsimp only
  rw [if_pos hop]

end FontVerif.InterpDataLemmas
