/-
Helper lemmas for C05 (Model/Graph.lean): lookups of objects, `writeAt`, the layout (`placements`) and the two passes of
`serialize`; the reader's vocabulary of the property (`ObjWF`, `CopyAt`, `readOffset`, `unfold`, `readBack`) with
`serialize_sound_fields`, and renamings that keep what a reader sees (`Simulates`).
-/
import FontVerif.Model.Graph
import FontVerif.Lemmas.GraphMap
import FontVerif.Lemmas.Base
namespace FontVerif.Graph

theorem default_obj_links : (default : Obj).links = [] := rfl


theorem keys_fromObjects (objs : Map Obj) (root : Nat) : (Graph.fromObjects objs root).nodes.keys = objs.keys := by
  unfold Graph.fromObjects Map.keys
  simp only [List.map_map]
  rfl

theorem obj_of_find {g : Graph} {id : Nat} {o : Obj} (h : g.objects.find? id = some o) : g.obj id = o := by
  simp [Graph.obj, h]

theorem mem_links_find {g : Graph} {x : Nat} {l : Link} (h : l ∈ (g.obj x).links) :
    ∃ o, g.objects.find? x = some o ∧ l ∈ o.links := by
  unfold Graph.obj at h
  cases hf : g.objects.find? x with
  | none => rw [hf] at h; exact absurd h List.not_mem_nil
  | some o => rw [hf] at h; exact ⟨o, rfl, h⟩

theorem key_of_links_ne_nil {g : Graph} {x : Nat} (h : (g.obj x).links ≠ []) : x ∈ g.objects.keys :=
  let ⟨_, hl⟩ := List.exists_mem_of_ne_nil _ h
  let ⟨o, ho, _⟩ := mem_links_find hl
  Map.find?_some_mem_keys _ _ o ho

theorem forall_links_of_objects {g : Graph} {P : Nat → Link → Prop}
    (h : ∀ kv ∈ g.objects, ∀ l ∈ kv.2.links, P kv.1 l) (x : Nat) : ∀ l ∈ (g.obj x).links, P x l := by
  intro l hl
  obtain ⟨o, ho, hlo⟩ := mem_links_find hl
  exact h (x, o) (Map.find?_mem _ _ _ ho) l hlo

theorem writeAt_zero (out bs : List Nat) : writeAt out 0 bs = bs ++ out.drop bs.length := by
  cases out <;> rfl

theorem writeAt_getElem? (out : List Nat) (p : Nat) (bs : List Nat) (k : Nat) (h : p ≤ out.length) :
    (writeAt out p bs)[k]? = if k < p then out[k]? else if k < p + bs.length then bs[k - p]? else out[k]? := by
  induction p generalizing out k with
  | zero =>
    rw [writeAt_zero, if_neg (Nat.not_lt_zero k), Nat.zero_add, Nat.sub_zero]
    by_cases hk : k < bs.length
    · rw [if_pos hk, List.getElem?_append_left hk]
    · rw [if_neg hk, List.getElem?_append_right (Nat.le_of_not_lt hk), List.getElem?_drop,
        Nat.add_sub_cancel' (Nat.le_of_not_lt hk)]
  | succ n ih =>
    cases out with
    | nil => exact absurd h (Nat.not_succ_le_zero n)
    | cons o rest =>
      cases k with
      | zero => simp [writeAt]
      | succ k =>
        simp only [writeAt, List.getElem?_cons_succ, ih rest k (Nat.le_of_succ_le_succ h), Nat.add_lt_add_iff_right,
          Nat.add_sub_add_right, Nat.add_right_comm n 1]

theorem writeAt_length (out : List Nat) (p : Nat) (bs : List Nat) (h : p + bs.length ≤ out.length) :
    (writeAt out p bs).length = out.length := by
  induction p generalizing out with
  | zero =>
    rw [writeAt_zero, List.length_append, List.length_drop]
    omega
  | succ n ih =>
    cases out with
    | nil => simp at h
    | cons o rest => simp only [writeAt, List.length_cons, ih rest (by simp only [List.length_cons] at h; omega)]

theorem field_eq (out : List Nat) (p w : Nat) (bs : List Nat) (hl : bs.length = w)
    (h : ∀ j, j < w → out[p + j]? = bs[j]?) : (out.drop p).take w = bs := by
  apply List.ext_getElem?
  intro j
  by_cases hj : j < w
  · rw [List.getElem?_take_of_lt hj, List.getElem?_drop, h j hj]
  · rw [List.getElem?_eq_none (by simp; omega), List.getElem?_eq_none (by omega)]

theorem beValue_beBytes_of_width (w v : Nat) (hw : w = 2 ∨ w = 3 ∨ w = 4) (hv : v ≤ maxValue w) :
    beValue (beBytes w v) = v := by
  apply FontVerif.beValue_beBytes
  rcases hw with rfl | rfl | rfl <;> exact Nat.lt_of_le_of_lt hv (by decide)

/-- the layout `serialize` computes: `(id, position)` in order -/
def placements (g : Graph) : List Nat → Nat → List (Nat × Nat)
  | [], _ => []
  | id :: rest, base => (id, base) :: placements g rest (base + (g.obj id).bytes.length)

def flat (g : Graph) : List Nat → List Nat
  | [] => []
  | id :: rest => (g.obj id).bytes ++ flat g rest

theorem placements_fst (g : Graph) (order : List Nat) (base : Nat) :
    (placements g order base).map (·.1) = order := by
  induction order generalizing base with
  | nil => rfl
  | cons id rest ih => simp [placements, ih]

theorem placements_ge (g : Graph) (order : List Nat) (base : Nat) (id h : Nat)
    (hm : (id, h) ∈ placements g order base) :
    base ≤ h ∧ h + (g.obj id).bytes.length ≤ base + (flat g order).length := by
  induction order generalizing base with
  | nil => simp [placements] at hm
  | cons id' rest ih =>
    simp only [placements, List.mem_cons, Prod.mk.injEq] at hm
    simp only [flat, List.length_append]
    rcases hm with ⟨rfl, rfl⟩ | hm
    · omega
    · have := ih _ hm; omega

theorem placements_mem_order (g : Graph) (order : List Nat) (base id hd : Nat)
    (hm : (id, hd) ∈ placements g order base) : id ∈ order := by
  rw [← placements_fst g order base]
  exact List.mem_map.mpr ⟨(id, hd), hm, rfl⟩

theorem flat_getElem? (g : Graph) (order : List Nat) (base : Nat) (id h k : Nat)
    (hm : (id, h) ∈ placements g order base) (hk : k < (g.obj id).bytes.length) :
    (flat g order)[h - base + k]? = (g.obj id).bytes[k]? := by
  induction order generalizing base with
  | nil => simp [placements] at hm
  | cons id' rest ih =>
    simp only [placements, List.mem_cons, Prod.mk.injEq] at hm
    simp only [flat]
    rcases hm with ⟨rfl, rfl⟩ | hm
    · rw [show h - h + k = k by omega, List.getElem?_append_left hk]
    · have hge := (placements_ge g rest _ id h hm).1
      rw [List.getElem?_append_right (by omega)]
      rw [← ih _ hm]
      congr 1
      omega

def inField (head : Nat) (l : Link) (k : Nat) : Prop := head + l.pos ≤ k ∧ k < head + l.pos + l.width

def Disjoint (a b : Link) : Prop := a.pos + a.width ≤ b.pos ∨ b.pos + b.width ≤ a.pos

/-- what `serialize` leaves for one link of an object placed at `head`: the target has a recorded
position `abs`, the subtraction does not underflow, the value fits the width, and the field holds
the big-endian bytes of the value. -/
def LinkResolved (offs : Map Nat) (head : Nat) (out : List Nat) (l : Link) : Prop :=
  ∃ abs, offs.find? l.target = some abs ∧ head + l.adj ≤ abs ∧ abs - (head + l.adj) ≤ maxValue l.width ∧
    ∀ j, j < l.width → out[head + l.pos + j]? = (beBytes l.width (abs - (head + l.adj)))[j]?

theorem not_inField_of_disjoint (head : Nat) (l l2 : Link) (j : Nat) (hj : j < l.width) (hd : Disjoint l l2) :
    ¬ inField head l2 (head + l.pos + j) := by
  unfold Disjoint at hd; unfold inField; omega

theorem LinkResolved.congr {offs : Map Nat} {head : Nat} {out out' : List Nat} {l : Link} (h : LinkResolved offs head out l)
    (he : ∀ j, j < l.width → out'[head + l.pos + j]? = out[head + l.pos + j]?) : LinkResolved offs head out' l := by
  obtain ⟨abs, h1, h2, h3, h4⟩ := h
  exact ⟨abs, h1, h2, h3, fun j hj => (he j hj).trans (h4 j hj)⟩

theorem patchLink_spec (offs : Map Nat) (head : Nat) (out out' : List Nat) (l : Link)
    (h : patchLink offs head out l = some out') :
    out'.length = out.length ∧ (∀ k, ¬ inField head l k → out'[k]? = out[k]?) ∧ LinkResolved offs head out' l := by
  unfold patchLink at h
  cases habs : offs.find? l.target with
  | none => simp [habs] at h
  | some abs =>
    -- each failed check returns `none`, so all four passed
    simp only [habs, Option.ite_none_left_eq_some, Option.some.injEq] at h
    obtain ⟨h1, h2, h3, h4, rfl⟩ := h
    have hin : head + l.pos ≤ out.length := Nat.not_lt.mp h2
    refine ⟨writeAt_length _ _ _ (by rw [beBytes_length]; omega), fun k hk => ?_,
      abs, habs, Nat.not_lt.mp h1, Nat.not_lt.mp h4, fun j hj => ?_⟩
    · unfold inField at hk
      rw [writeAt_getElem? _ _ _ _ hin, beBytes_length]
      by_cases hlt : k < head + l.pos
      · rw [if_pos hlt]
      · rw [if_neg hlt, if_neg (by omega)]
    · rw [writeAt_getElem? _ _ _ _ hin, if_neg (Nat.not_lt.mpr (Nat.le_add_right _ _)),
        if_pos (by rw [beBytes_length]; exact Nat.add_lt_add_left hj _), Nat.add_sub_cancel_left]

theorem patchLinks_spec (offs : Map Nat) (head : Nat) (links : List Link) (out out' : List Nat)
    (h : patchLinks offs head links out = some out')
    (hdisj : links.Pairwise Disjoint) :
    out'.length = out.length ∧
    (∀ k, (∀ l ∈ links, ¬ inField head l k) → out'[k]? = out[k]?) ∧
    (∀ l ∈ links, LinkResolved offs head out' l) := by
  induction links generalizing out with
  | nil =>
    simp only [patchLinks, Option.some.injEq] at h
    subst h
    simp
  | cons l rest ih =>
    simp only [patchLinks] at h
    split at h
    · simp at h
    · rename_i out1 h1
      obtain ⟨hlen1, hframe1, hres1⟩ := patchLink_spec offs head out out1 l h1
      rw [List.pairwise_cons] at hdisj
      obtain ⟨hlen, hframe, hres⟩ := ih out1 h hdisj.2
      refine ⟨hlen.trans hlen1, fun k hk => ?_, fun l' hl' => ?_⟩
      · exact (hframe k fun l' hl' => hk l' (List.mem_cons_of_mem _ hl')).trans (hframe1 k (hk l List.mem_cons_self))
      · rcases List.mem_cons.mp hl' with rfl | hl'
        -- the later links are disjoint from this one, so they leave its field alone
        · exact hres1.congr fun j hj => hframe _ fun l2 hl2 =>
            not_inField_of_disjoint head l' l2 j hj (hdisj.1 l2 hl2)
        · exact hres l' hl'

theorem layout_spec (g : Graph) (order : List Nat) (offs0 : Map Nat) (out0 : List Nat) (off0 : Nat)
    (offs : Map Nat) (out : List Nat)
    (h : layout g order offs0 out0 off0 = some (offs, out)) :
    out = out0 ++ flat g order ∧
    (∀ id ∈ order, ∃ o, g.objects.find? id = some o) ∧
    (∀ id p, offs.find? id = some p → offs0.find? id = some p ∨ (id, p) ∈ placements g order off0) := by
  induction order generalizing offs0 out0 off0 with
  | nil =>
    simp only [layout, Option.some.injEq, Prod.mk.injEq] at h
    obtain ⟨rfl, rfl⟩ := h
    exact ⟨by simp [flat], by simp, fun id p hp => Or.inl hp⟩
  | cons id rest ih =>
    simp only [layout] at h
    split at h
    · simp at h
    · rename_i o ho
      obtain ⟨h1, h2, h3⟩ := ih _ _ _ h
      have hobj := obj_of_find ho
      refine ⟨?_, ?_, ?_⟩
      · rw [h1]; simp [flat, hobj]
      · intro id' hid'
        rcases List.mem_cons.mp hid' with rfl | hid'
        · exact ⟨o, ho⟩
        · exact h2 id' hid'
      · intro id' p hp
        rcases h3 id' p hp with hq | hq
        · rw [Map.find?_insert] at hq
          split at hq
          · rename_i heq
            simp only [Option.some.injEq] at hq
            right; rw [← heq, ← hq]; simp [placements]
          · left; exact hq
        · right
          simp only [placements, List.mem_cons]
          right; rw [hobj]; exact hq

/-- byte `k` of object `o` belongs to none of its link fields -/
def PlainByte (o : Obj) (k : Nat) : Prop := ∀ l ∈ o.links, ¬ (l.pos ≤ k ∧ k < l.pos + l.width)

theorem patchAll_spec (g : Graph) (offs : Map Nat) (order : List Nat) (head : Nat) (out out' : List Nat)
    (h : patchAll g offs order head out = some out')
    (hwf : ∀ id ∈ order, (g.obj id).links.Pairwise Disjoint ∧
        ∀ l ∈ (g.obj id).links, l.pos + l.width ≤ (g.obj id).bytes.length) :
    out'.length = out.length ∧ (∀ k, k < head → out'[k]? = out[k]?) ∧
    ∀ id hd, (id, hd) ∈ placements g order head →
      (∀ k, k < (g.obj id).bytes.length → PlainByte (g.obj id) k → out'[hd + k]? = out[hd + k]?) ∧
      ∀ l ∈ (g.obj id).links, LinkResolved offs hd out' l := by
  induction order generalizing head out with
  | nil =>
    simp only [patchAll, Option.some.injEq] at h
    subst h
    simp [placements]
  | cons id rest ih =>
    simp only [patchAll] at h
    split at h
    · simp at h
    · rename_i o ho
      have hobj := obj_of_find ho
      split at h
      · simp at h
      · rename_i out1 h1
        obtain ⟨hdisj, hin⟩ := hwf id List.mem_cons_self
        rw [hobj] at hdisj hin
        obtain ⟨hlen1, hframe1, hres1⟩ := patchLinks_spec offs head o.links out out1 h1 hdisj
        obtain ⟨hlen, hlow, hrest⟩ := ih (head + o.bytes.length) out1 h
          (fun id' hid' => hwf id' (List.mem_cons_of_mem _ hid'))
        -- the fields of `o` lie in its own bytes; what is written for the later objects lies behind them
        have hout : ∀ k, k < head ∨ head + o.bytes.length ≤ k → out1[k]? = out[k]? := fun k hk =>
          hframe1 k fun l hl => by have := hin l hl; unfold inField; omega
        refine ⟨hlen.trans hlen1, fun k hk => (hlow k (by omega)).trans (hout k (.inl hk)), fun id' hd' hm => ?_⟩
        simp only [placements, List.mem_cons, Prod.mk.injEq] at hm
        rcases hm with ⟨rfl, rfl⟩ | hm
        · rw [hobj]
          refine ⟨fun k hk hp => (hlow _ (Nat.add_lt_add_left hk _)).trans (hframe1 _ fun l hl => ?_), fun l hl => ?_⟩
          · have := hp l hl; unfold inField; omega
          · exact (hres1 l hl).congr fun j hj => hlow _ (by have := hin l hl; omega)
        · rw [hobj] at hm
          have hge := (placements_ge g rest _ id' hd' hm).1
          exact ⟨fun k hk hp => ((hrest id' hd' hm).1 k hk hp).trans (hout _ (.inr (by omega))), (hrest id' hd' hm).2⟩

/-- What `TableData` guarantees for one object by construction (`add_offset` appends `len`
placeholder bytes at the current end of the buffer and records their position): link widths are
2, 3 or 4, each link field lies inside the object's bytes, and fields do not overlap. -/
def ObjWF (o : Obj) : Prop :=
  (∀ l ∈ o.links, (l.width = 2 ∨ l.width = 3 ∨ l.width = 4) ∧ l.pos + l.width ≤ o.bytes.length) ∧
  o.links.Pairwise Disjoint

/-- the offset a reader finds in the field of link `l` of an object placed at `hd` -/
def readOffset (out : List Nat) (hd : Nat) (l : Link) : Nat :=
  beValue ((out.drop (hd + l.pos)).take l.width)

/-- `out` holds at `hd` a copy of `o`: all bytes outside `o`'s own link fields are `o`'s -/
def CopyAt (out : List Nat) (hd : Nat) (o : Obj) : Prop :=
  hd + o.bytes.length ≤ out.length ∧
  ∀ k, k < o.bytes.length → PlainByte o k → out[hd + k]? = o.bytes[k]?

/-- the semantic object a reader sees: bytes (link fields blanked) and the subtrees behind the links -/
inductive Tree where
  | node : List Nat → List Tree → Tree

def inSomeField (o : Obj) (k : Nat) : Bool := o.links.any (fun l => decide (l.pos ≤ k) && decide (k < l.pos + l.width))

/-- the first `|o.bytes|` bytes of `bs` with `o`'s link fields blanked -/
def maskedBytes (o : Obj) (bs : List Nat) : List Nat :=
  (List.range o.bytes.length).map (fun k => if inSomeField o k then 0 else bs.getD k 0)

/-- unfold the graph from `id` into the tree a reader is meant to see (to depth `fuel`) -/
def unfold (g : Graph) : Nat → Nat → Tree
  | 0, _ => Tree.node [] []
  | fuel + 1, id =>
    Tree.node (maskedBytes (g.obj id) (g.obj id).bytes) ((g.obj id).links.map (fun l => unfold g fuel l.target))

/-- read the output from `pos` as an object shaped like `id` (lengths and link fields as in `g`),
following every offset with its width and base (to depth `fuel`) -/
def readBack (out : List Nat) (g : Graph) : Nat → Nat → Nat → Tree
  | 0, _, _ => Tree.node [] []
  | fuel + 1, pos, id =>
    Tree.node (maskedBytes (g.obj id) (out.drop pos))
      ((g.obj id).links.map (fun l => readBack out g fuel (pos + l.adj + readOffset out pos l) l.target))

theorem inSomeField_false (o : Obj) (k : Nat) : inSomeField o k = false ↔ PlainByte o k := by
  unfold inSomeField PlainByte
  simp only [List.any_eq_false, Bool.and_eq_true, decide_eq_true_eq]

theorem masked_copy (out : List Nat) (hd : Nat) (o : Obj) (h : CopyAt out hd o) :
    maskedBytes o (out.drop hd) = maskedBytes o o.bytes := by
  unfold maskedBytes
  apply List.map_congr_left
  intro k hk
  simp only [List.mem_range] at hk
  cases hf : inSomeField o k with
  | true => simp
  | false =>
    simp only [Bool.false_eq_true, ↓reduceIte]
    have := h.2 k hk ((inSomeField_false o k).mp hf)
    simp only [List.getD_eq_getElem?_getD, List.getElem?_drop, this]

theorem serialize_sound_fields (g : Graph) (out : List Nat)
    (hwf : ∀ id o, g.objects.find? id = some o → ObjWF o)
    (h : serialize g = some out) :
    out.length = (flat g g.order).length ∧
    ∀ id hd, (id, hd) ∈ placements g g.order 0 →
      ∃ o, g.objects.find? id = some o ∧ CopyAt out hd o ∧
        ∀ l ∈ o.links, ∃ tpos t, (l.target, tpos) ∈ placements g g.order 0 ∧
          g.objects.find? l.target = some t ∧ CopyAt out tpos t ∧
          readOffset out hd l ≤ maxValue l.width ∧
          hd + l.adj + readOffset out hd l = tpos ∧
          (out.drop (hd + l.pos)).take l.width = beBytes l.width (readOffset out hd l) := by
  unfold serialize at h
  split at h
  · simp at h
  · split at h
    · simp at h
    · rename_i offs out0 hlay
      obtain ⟨hout0, hfound, hoffs⟩ := layout_spec g g.order [] [] 0 offs out0 hlay
      simp only [List.nil_append] at hout0
      have hwf' : ∀ id ∈ g.order, (g.obj id).links.Pairwise Disjoint ∧
          ∀ l ∈ (g.obj id).links, l.pos + l.width ≤ (g.obj id).bytes.length := by
        intro id hid
        obtain ⟨o, ho⟩ := hfound id hid
        rw [obj_of_find ho]
        exact ⟨(hwf id o ho).2, fun l hl => ((hwf id o ho).1 l hl).2⟩
      obtain ⟨hlen, _, hobjs⟩ := patchAll_spec g offs g.order 0 out0 out h hwf'
      have hlen' : out.length = (flat g g.order).length := by rw [hlen, hout0]
      have hcopy : ∀ id hd, (id, hd) ∈ placements g g.order 0 → ∀ o, g.objects.find? id = some o →
          CopyAt out hd o := by
        intro id hd hm o ho
        have hobj := obj_of_find ho
        have hge := placements_ge g g.order 0 id hd hm
        have hflat := fun k hk => flat_getElem? g g.order 0 id hd k hm hk
        have hkeep := (hobjs id hd hm).1
        rw [hobj] at hge hflat hkeep
        refine ⟨by omega, fun k hk hplain => ?_⟩
        rw [hkeep k hk hplain, hout0, ← hflat k hk, Nat.sub_zero]
      refine ⟨hlen', ?_⟩
      intro id hd hm
      obtain ⟨o, ho⟩ := hfound id (placements_mem_order g g.order 0 id hd hm)
      have hobj := obj_of_find ho
      refine ⟨o, ho, hcopy id hd hm o ho, ?_⟩
      intro l hl
      obtain ⟨abs, ha1, ha2, ha3, ha4⟩ := (hobjs id hd hm).2 l (by rw [hobj]; exact hl)
      have hplace : (l.target, abs) ∈ placements g g.order 0 := by
        rcases hoffs l.target abs ha1 with hc | hc
        · simp [Map.find?] at hc
        · exact hc
      obtain ⟨t, ht⟩ := hfound l.target (placements_mem_order g g.order 0 _ _ hplace)
      have hw := ((hwf id o ho).1 l hl).1
      have hfield : (out.drop (hd + l.pos)).take l.width = beBytes l.width (abs - (hd + l.adj)) :=
        field_eq out (hd + l.pos) l.width _ (beBytes_length _ _) ha4
      have hval : readOffset out hd l = abs - (hd + l.adj) := by
        unfold readOffset
        rw [hfield, beValue_beBytes_of_width _ _ hw ha3]
      refine ⟨abs, t, hplace, ht, hcopy _ _ hplace t ht, ?_, ?_, ?_⟩
      · rw [hval]; exact ha3
      · rw [hval]; omega
      · rw [hval]; exact hfield

/-- the shape of a link as a reader sees it, with the target renamed by `φ` -/
def linkShape (φ : Nat → Nat) (l : Link) : Nat × Nat × Nat × Nat := (l.pos, l.width, l.adj, φ l.target)

/-- `φ` maps every object of `g'` to an object of `g` with the same bytes and the same links up to `φ` -/
def Simulates (g' g : Graph) (φ : Nat → Nat) : Prop :=
  ∀ x, (g'.obj x).bytes = (g.obj (φ x)).bytes ∧
    (g'.obj x).links.map (linkShape φ) = (g.obj (φ x)).links.map (linkShape id)

theorem map_shape {β : Type} (F : Nat × Nat × Nat × Nat → β) (φ ψ : Nat → Nat) (ls' ls : List Link)
    (h : ls'.map (linkShape φ) = ls.map (linkShape ψ)) :
    ls'.map (fun l => F (linkShape φ l)) = ls.map (fun l => F (linkShape ψ l)) := by
  simpa [List.map_map, Function.comp_def] using congrArg (List.map F) h

theorem shape_fields (φ ψ : Nat → Nat) (ls' ls : List Link) (h : ls'.map (linkShape φ) = ls.map (linkShape ψ)) :
    ls'.map (fun l => (l.pos, l.width)) = ls.map (fun l => (l.pos, l.width)) := by
  have := congrArg (List.map (fun (s : Nat × Nat × Nat × Nat) => (s.1, s.2.1))) h
  simpa [linkShape, List.map_map, Function.comp_def] using this

theorem inSomeField_shape (o o' : Obj)
    (hl : o.links.map (fun l => (l.pos, l.width)) = o'.links.map (fun l => (l.pos, l.width))) (k : Nat) :
    inSomeField o k = inSomeField o' k := by
  unfold inSomeField
  have e : ∀ (ls : List Link), ls.any (fun l => decide (l.pos ≤ k) && decide (k < l.pos + l.width)) =
      (ls.map (fun l => (l.pos, l.width))).any (fun p => decide (p.1 ≤ k) && decide (k < p.1 + p.2)) := by
    intro ls; simp [List.any_map, Function.comp_def]
  rw [e, e, hl]

theorem maskedBytes_shape (o o' : Obj) (bs : List Nat) (hb : o.bytes.length = o'.bytes.length)
    (hl : o.links.map (fun l => (l.pos, l.width)) = o'.links.map (fun l => (l.pos, l.width))) :
    maskedBytes o bs = maskedBytes o' bs := by
  unfold maskedBytes
  rw [hb]
  apply List.map_congr_left
  intro k _
  rw [inSomeField_shape o o' hl k]

theorem unfold_simulation (g' g : Graph) (φ : Nat → Nat) (h : Simulates g' g φ) (fuel : Nat) (x : Nat) :
    unfold g' fuel x = unfold g fuel (φ x) := by
  induction fuel generalizing x with
  | zero => rfl
  | succ n ih =>
    obtain ⟨hb, hl⟩ := h x
    simp only [unfold]
    congr 1
    · rw [maskedBytes_shape _ _ _ (congrArg List.length hb) (shape_fields φ id _ _ hl), hb]
    · rw [List.map_congr_left (fun l _ => ih l.target)]
      exact map_shape (fun s => unfold g n s.2.2.2) φ id _ _ hl

end FontVerif.Graph
