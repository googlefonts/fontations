/-
Packed deltas and packed point numbers.  Every reader loop is specified on ANY list of valid runs
(`ValidRun`, `RunsOk`): it returns the runs' values and stops behind them.  The writer enters only
through `runsOf_props` / `ptRunsOf_props`: its runs are valid and concatenate to the input.
-/
import FontVerif.Model.PackedDeltas
import FontVerif.Lemmas.Lists
namespace FontVerif.PackedDeltas

def fits : RunType → Int → Prop
  | .zero, v => v = 0
  | .i8, v => inI8 v
  | .i16, v => inI16 v
  | .i32, v => inI32 v

theorem wrapI8_mod (v : Int) (h : inI8 v) : wrapI8 ((v % 256).toNat : Int) = v := by
  unfold inI8 at h
  rw [Int.toNat_of_nonneg (by omega)]
  simp only [wrapI8]; split <;> omega

theorem wrapI16_mod (v : Int) (h : inI16 v) : wrapI16 ((v % 65536).toNat : Int) = v := by
  unfold inI16 at h
  rw [Int.toNat_of_nonneg (by omega)]
  simp only [wrapI16]; split <;> omega

theorem wrapI32_mod (v : Int) (h : inI32 v) : wrapI32 ((v % 4294967296).toNat : Int) = v := by
  unfold inI32 at h
  rw [Int.toNat_of_nonneg (by omega)]
  simp only [wrapI32]; split <;> omega

theorem bytes2 (u : Nat) : u / 256 * 256 + u % 256 = u := Nat.div_add_mod' u 256

theorem bytes4 (u : Nat) :
    ((u / 16777216 * 256 + u / 65536 % 256) * 256 + u / 256 % 256) * 256 + u % 256 = u := by
  have e1 : u / 16777216 = u / 65536 / 256 := by rw [Nat.div_div_eq_div_mul]
  have e2 : u / 65536 = u / 256 / 256 := by rw [Nat.div_div_eq_div_mul]
  rw [e1, bytes2, e2, bytes2, bytes2]

theorem readVal_valBytes (ty : RunType) (v : Int) (rest : List Nat) (h : fits ty v) :
    readVal ty (valBytes ty v ++ rest) = some (v, rest) := by
  cases ty with
  | zero => simp only [fits] at h; simp [valBytes, readVal, h]
  | i8 => simp only [valBytes, readVal, List.cons_append, List.nil_append, wrapI8_mod v h]
  | i16 => simp only [valBytes, readVal, List.cons_append, List.nil_append, bytes2, wrapI16_mod v h]
  | i32 => simp only [valBytes, readVal, List.cons_append, List.nil_append, bytes4, wrapI32_mod v h]

def ValidRun (r : Run) : Prop := 1 ≤ r.2.length ∧ r.2.length ≤ 64 ∧ ∀ v ∈ r.2, fits r.1 v

theorem valBytes_length (ty : RunType) (v : Int) : (valBytes ty v).length = ty.size := by
  cases ty <;> simp [valBytes, RunType.size]

theorem body_length (ty : RunType) (vals : List Int) :
    (vals.flatMap (valBytes ty)).length = vals.length * ty.size := by
  induction vals with
  | nil => simp
  | cons v vs ih => simp [List.flatMap_cons, valBytes_length, ih, Nat.add_mul]; omega

theorem drop_body (ty : RunType) (vals : List Int) (rest : List Nat) :
    (vals.flatMap (valBytes ty) ++ rest).drop (vals.length * ty.size) = rest := by
  rw [← body_length ty vals, List.drop_left]

theorem serializeRun_length (r : Run) : (serializeRun r).length = r.2.length * r.1.size + 1 := by
  simp only [serializeRun, List.length_cons, body_length]

theorem flatMap_ser_length (rs : List Run) : rs.length ≤ (rs.flatMap serializeRun).length := by
  induction rs with
  | nil => simp
  | cons r rs ih => simp only [List.flatMap_cons, List.length_append, List.length_cons, serializeRun_length]; omega

theorem decNext_vals (ty : RunType) (vals : List Int) (rest : List Nat) :
    ∀ (limit rem : Nat), vals.length ≤ limit → vals.length ≤ rem → (∀ v ∈ vals, fits ty v) →
    decNext limit rem ty (vals.flatMap (valBytes ty) ++ rest)
      = vals ++ decNext (limit - vals.length) (rem - vals.length) ty rest := by
  induction vals with
  | nil => intro limit rem _ _ _; simp
  | cons v vs ih =>
    intro limit rem hl hr hf
    simp only [List.length_cons] at hl hr
    obtain ⟨l, rfl⟩ : ∃ l, limit = l + 1 := ⟨limit - 1, by omega⟩
    have hrem : rem ≠ 0 := by omega
    have hv := readVal_valBytes ty v (vs.flatMap (valBytes ty) ++ rest) (hf v (by simp))
    simp only [List.flatMap_cons, List.append_assoc, decNext, hrem, if_false, hv, List.cons_append]
    rw [ih l (rem - 1) (by omega) (by omega) (fun x hx => hf x (by simp [hx]))]
    have e1 : l + 1 - (vs.length + 1) = l - vs.length := by omega
    have e2 : rem - (vs.length + 1) = rem - 1 - vs.length := by omega
    simp only [List.length_cons, e1, e2]

theorem decNext_control (l : Nat) (ty0 : RunType) (c : Nat) (bs : List Nat) :
    decNext (l + 1) 0 ty0 (c :: bs) = decNext (l + 1) (c % 64 + 1) (runTypeOf c) bs := by
  simp [decNext, readControl]

theorem decNext_rem0_ty (l : Nat) (ty ty' : RunType) (bs : List Nat) :
    decNext l 0 ty bs = decNext l 0 ty' bs := by
  cases l with
  | zero => simp [decNext]
  | succ l => cases bs <;> simp [decNext, readControl]

theorem decNext_nil (l rem : Nat) (ty : RunType) (h : rem = 0) : decNext l rem ty [] = [] := by
  subst h; cases l <;> simp [decNext, readControl]

theorem flagByte_eq (ty : RunType) (k : Nat) :
    flagByte ty (k + 1) = k + 64 * (match ty with | .i8 => 0 | .i16 => 1 | .zero => 2 | .i32 => 3) := by
  cases ty <;> simp only [flagByte, Nat.add_sub_cancel] <;> omega

theorem flag_count (ty : RunType) (n : Nat) (h1 : 1 ≤ n) (h2 : n ≤ 64) :
    flagByte ty n % 64 + 1 = n := by
  obtain ⟨k, rfl⟩ : ∃ k, n = k + 1 := ⟨n - 1, by omega⟩
  rw [flagByte_eq, Nat.add_mul_mod_self_left, Nat.mod_eq_of_lt (by omega)]

theorem flag_type (ty : RunType) (n : Nat) (h1 : 1 ≤ n) (h2 : n ≤ 64) :
    runTypeOf (flagByte ty n) = ty := by
  obtain ⟨k, rfl⟩ : ∃ k, n = k + 1 := ⟨n - 1, by omega⟩
  have hk : k / 64 = 0 := Nat.div_eq_of_lt (by omega)
  unfold runTypeOf
  rw [← Nat.div_div_eq_div_mul _ 64 2, flagByte_eq, Nat.add_mul_div_left _ _ (by omega), hk]
  cases ty <;> rfl

theorem readControl_run (r : Run) (hr : ValidRun r) (rest : List Nat) :
    readControl (serializeRun r ++ rest)
      = some (r.2.length, r.1, r.2.flatMap (valBytes r.1) ++ rest) := by
  obtain ⟨h1, h2, _⟩ := hr
  simp [serializeRun, readControl, flag_count _ _ h1 h2, flag_type _ _ h1 h2]

theorem decNext_run (r : Run) (hr : ValidRun r) (limit : Nat) (ty0 : RunType) (rest : List Nat)
    (hl : r.2.length ≤ limit) :
    decNext limit 0 ty0 (serializeRun r ++ rest) = r.2 ++ decNext (limit - r.2.length) 0 ty0 rest := by
  obtain ⟨h1, h2, hf⟩ := hr
  obtain ⟨l, rfl⟩ : ∃ l, limit = l + 1 := ⟨limit - 1, by omega⟩
  simp only [serializeRun, List.cons_append]
  rw [decNext_control, flag_count _ _ h1 h2, flag_type _ _ h1 h2,
    decNext_vals r.1 r.2 rest (l + 1) r.2.length hl (Nat.le_refl _) hf, Nat.sub_self]
  rw [decNext_rem0_ty _ r.1 ty0]

def total (runs : List Run) : Nat := (runs.flatMap (·.2)).length

theorem total_cons (r : Run) (rs : List Run) : total (r :: rs) = r.2.length + total rs := by
  simp [total]

theorem length_le_total : ∀ (rs : List Run), (∀ r ∈ rs, ValidRun r) → rs.length ≤ total rs := by
  intro rs
  induction rs with
  | nil => intro _; exact Nat.zero_le _
  | cons r rs ih =>
    intro h
    have := ih (fun x hx => h x (List.mem_cons_of_mem _ hx))
    have h1 := (h r (List.mem_cons_self ..)).1
    rw [total_cons, List.length_cons]; omega

theorem decNext_runs (runs : List Run) :
    ∀ (limit : Nat) (ty0 : RunType) (rest : List Nat), (∀ r ∈ runs, ValidRun r) → total runs ≤ limit →
    decNext limit 0 ty0 (runs.flatMap serializeRun ++ rest)
      = runs.flatMap (·.2) ++ decNext (limit - total runs) 0 ty0 rest := by
  induction runs with
  | nil => intro limit ty0 rest _ _; simp [total]
  | cons r rs ih =>
    intro limit ty0 rest hv hl
    have hl' : r.2.length + total rs ≤ limit := total_cons r rs ▸ hl
    simp only [List.flatMap_cons, List.append_assoc]
    rw [decNext_run r (hv r (by simp)) limit ty0 _ (by omega),
      ih (limit - r.2.length) ty0 rest (fun x hx => hv x (by simp [hx])) (by omega)]
    rw [total_cons, Nat.sub_sub]

theorem clz_props : ∀ (cap : Nat) (l : List Int),
    countLeadingZeros cap l ≤ cap ∧ countLeadingZeros cap l ≤ l.length ∧
    ∀ v ∈ l.take (countLeadingZeros cap l), v = 0 := by
  intro cap
  induction cap with
  | zero => intro l; simp [countLeadingZeros]
  | succ cap ih =>
    intro l
    cases l with
    | nil => simp [countLeadingZeros]
    | cons v vs =>
      simp only [countLeadingZeros]
      split
      · rename_i hv
        obtain ⟨a, b, c⟩ := ih vs
        exact ⟨by omega, by simp; omega, List.forall_mem_cons.mpr ⟨hv, c⟩⟩
      · simp

theorem prefType_fits (v : Int) (h : inI32 v) : fits (prefType v) v := by
  unfold prefType
  unfold inI32 at h
  split
  · simpa [fits]
  · split
    · simp only [fits, inI32]; omega
    · split
      · simp only [fits, inI16]; omega
      · simp only [fits, inI8]; omega

theorem noStop_fits (ty : RunType) (hty : ty ≠ .zero) (cur : Int) (nxt : Option RunType)
    (hc : inI32 cur) (h : stopHere ty (prefType cur) nxt = false) : fits ty cur := by
  have hp := prefType_fits cur hc
  unfold inI32 at hc
  cases ty with
  | zero => exact absurd rfl hty
  | i32 => simpa [fits, inI32] using hc
  | i8 =>
    cases hpt : prefType cur <;> rw [hpt] at h hp <;> simp [stopHere] at h
    · simp only [fits] at hp ⊢; subst hp; simp [inI8]
    · exact hp
  | i16 =>
    cases hpt : prefType cur <;> rw [hpt] at h hp <;> simp [stopHere] at h
    · simp only [fits, inI8, inI16] at hp ⊢; omega
    · exact hp

theorem scan_props (ty : RunType) (hty : ty ≠ .zero) : ∀ (cap : Nat) (l : List Int),
    (∀ d ∈ l, inI32 d) →
    runScan ty cap l ≤ cap ∧ runScan ty cap l ≤ l.length ∧
    ∀ x ∈ l.take (runScan ty cap l), fits ty x := by
  intro cap
  induction cap with
  | zero => intro l _; simp [runScan]
  | succ cap ih =>
    intro l hl
    cases l with
    | nil => simp [runScan]
    | cons v vs =>
      simp only [runScan]
      split
      · simp
      · rename_i hs
        obtain ⟨a, b, c⟩ := ih vs (fun d hd => hl d (by simp [hd]))
        exact ⟨by omega, by simp; omega,
          List.forall_mem_cons.mpr ⟨noStop_fits ty hty v _ (hl v (by simp)) (by simpa using hs), c⟩⟩

/-- the first run the writer cuts off, a run of zeros or not: a valid run `(ty, l.take n)`, and
the writer goes on with `l.drop n` -/
theorem runsOf_cons (fuel : Nat) (v : Int) (rest : List Int) (hd : ∀ d ∈ v :: rest, inI32 d) :
    ∃ ty n, ValidRun (ty, (v :: rest).take n) ∧
      runsOf (fuel + 1) (v :: rest) = (ty, (v :: rest).take n) :: runsOf fuel ((v :: rest).drop n) := by
  by_cases hv : v = 0
  · obtain ⟨a, b, c⟩ := clz_props 64 (v :: rest)
    have hn : 1 ≤ countLeadingZeros 64 (v :: rest) := by simp [countLeadingZeros, hv]
    exact ⟨.zero, _, ⟨by simp [List.length_take]; omega, by simp [List.length_take]; omega, c⟩,
      by simp only [runsOf, hv, if_true]⟩
  · have hty : prefType v ≠ .zero := by
      unfold prefType; simp only [hv, if_false]; split
      · simp
      · split <;> simp
    obtain ⟨a, b, c⟩ := scan_props (prefType v) hty 63 rest (fun d hd' => hd d (by simp [hd']))
    exact ⟨prefType v, runScan (prefType v) 63 rest + 1,
      ⟨by simp [List.length_take], by simp [List.length_take]; omega,
        List.forall_mem_cons.mpr ⟨prefType_fits v (hd v (by simp)), c⟩⟩,
      by simp only [runsOf, hv, if_false, nextRunLen]⟩

theorem runsOf_props : ∀ (fuel : Nat) (ds : List Int), ds.length ≤ fuel → (∀ d ∈ ds, inI32 d) →
    (∀ r ∈ runsOf fuel ds, ValidRun r) ∧ (runsOf fuel ds).flatMap (·.2) = ds := by
  intro fuel
  induction fuel with
  | zero =>
    intro ds hl _
    have : ds = [] := List.length_eq_zero_iff.mp (by omega)
    subst this; simp [runsOf]
  | succ fuel ih =>
    intro ds hl hd
    cases ds with
    | nil => simp [runsOf]
    | cons v rest =>
      obtain ⟨ty, n, hr, e⟩ := runsOf_cons fuel v rest hd
      have hn : 1 ≤ n := by have := hr.1; simp only [List.length_take] at this; omega
      obtain ⟨ihv, ihc⟩ := ih ((v :: rest).drop n) (by simp at hl ⊢; omega)
        (fun d hd' => hd d (List.mem_of_mem_drop hd'))
      rw [e]
      exact ⟨List.forall_mem_cons.mpr ⟨hr, ihv⟩, by simp only [List.flatMap_cons, ihc, List.take_append_drop]⟩

theorem runsOf_total (ds : List Int) (h : ∀ d ∈ ds, inI32 d) : total (runsOf ds.length ds) = ds.length := by
  unfold total; rw [(runsOf_props ds.length ds (Nat.le_refl _) h).2]

theorem countAll_runs (runs : List Run) : ∀ fuel, (runs.flatMap serializeRun).length ≤ fuel →
    (∀ r ∈ runs, ValidRun r) → countAll fuel (runs.flatMap serializeRun) = total runs := by
  induction runs with
  | nil => intro fuel _ _; cases fuel <;> simp [countAll, total]
  | cons r rs ih =>
    intro fuel hl hv
    obtain ⟨h1, h2, hf⟩ := hv r (by simp)
    simp only [List.flatMap_cons, List.length_append, serializeRun_length] at hl
    obtain ⟨f, rfl⟩ : ∃ f, fuel = f + 1 := ⟨fuel - 1, by omega⟩
    simp only [List.flatMap_cons, serializeRun, List.cons_append, countAll,
      flag_count _ _ h1 h2, flag_type _ _ h1 h2]
    rw [drop_body, ih f (by omega) (fun x hx => hv x (by simp [hx]))]
    simp [total]

/-- `skip_fast` over whole runs, from any state with `vals` of type `ty` still pending (none at the start) -/
theorem skipLoop_runs (n : Nat) (rs : List Run) :
    ∀ (ty : RunType) (vals : List Int) (fuel wanted limit : Nat) (rest : List Nat),
    (∀ x ∈ rs, ValidRun x) → rs.length + 1 ≤ fuel → wanted = vals.length + total rs →
    ∃ ty', skipLoop n fuel wanted
        { limit := limit, rem := vals.length, ty := ty,
          bs := vals.flatMap (valBytes ty) ++ (rs.flatMap serializeRun ++ rest) }
      = { limit := limit - n, rem := 0, ty := ty', bs := rest } := by
  induction rs with
  | nil =>
    intro ty vals fuel wanted limit rest _ hf hw
    obtain ⟨f, rfl⟩ : ∃ f, fuel = f + 1 := ⟨fuel - 1, by omega⟩
    simp only [total, List.flatMap_nil, List.length_nil, Nat.add_zero] at hw
    subst hw
    refine ⟨ty, ?_⟩
    simp only [skipLoop, Nat.lt_irrefl, gt_iff_lt, if_false, Nat.sub_self, List.flatMap_nil, List.nil_append,
      drop_body]
  | cons r2 more ih =>
    intro ty vals fuel wanted limit rest hv hf hw
    simp only [List.length_cons] at hf
    obtain ⟨f, rfl⟩ : ∃ f, fuel = f + 1 := ⟨fuel - 1, by omega⟩
    have hr2 := hv r2 (by simp)
    rw [total_cons] at hw
    have hgt : wanted > vals.length := by have := hr2.1; omega
    simp only [skipLoop, hgt, if_true, drop_body, List.flatMap_cons, List.append_assoc, readControl_run r2 hr2]
    exact ih r2.1 r2.2 f (wanted - vals.length) limit rest (fun x hx => hv x (by simp [hx])) (by omega) (by omega)

theorem yDeltas_runs (xr yr : List Run) (rest : List Nat) (hx : ∀ r ∈ xr, ValidRun r)
    (hy : ∀ r ∈ yr, ValidRun r) (hn : total xr = total yr) :
    yDeltas (xr.flatMap serializeRun ++ (yr.flatMap serializeRun ++ rest)) (2 * total xr)
      = yr.flatMap (·.2) := by
  have hhalf : 2 * total xr / 2 = total xr := by omega
  unfold yDeltas skipFast
  simp only [hhalf]
  obtain ⟨ty', h⟩ := skipLoop_runs (total xr) xr .i8 [] ((xr.flatMap serializeRun ++
    (yr.flatMap serializeRun ++ rest)).length + 2) (total xr) (2 * total xr) (yr.flatMap serializeRun ++ rest)
    hx (by have := flatMap_ser_length xr; simp only [List.length_append]; omega) (by simp)
  simp only [List.flatMap_nil, List.nil_append, List.length_nil] at h
  rw [h]
  simp only []
  have e : 2 * total xr - total xr = total yr := by omega
  rw [e, decNext_runs yr (total yr) ty' rest hy (Nat.le_refl _), Nat.sub_self]
  simp [decNext]

/-- points of a run are ascending from `last`, below 65536, and byte runs have gaps ≤ 255 -/
def PtOk (words : Bool) : Nat → List Nat → Prop
  | _, [] => True
  | last, p :: ps => last ≤ p ∧ p ≤ 65535 ∧ (words = false → p - last ≤ 255) ∧ PtOk words p ps

theorem readPtVal_bytes (words : Bool) (last p : Nat) (rest : List Nat)
    (h1 : last ≤ p) (h2 : p ≤ 65535) (h3 : words = false → p - last ≤ 255) :
    readPtVal words ((if words then [(p - last) / 256 % 256, (p - last) % 256] else [(p - last) % 256]) ++ rest)
      = some (p - last, rest) := by
  cases words with
  | false =>
    have := h3 rfl
    simp only [Bool.false_eq_true, if_false, List.cons_append, List.nil_append, readPtVal]
    congr 2; omega
  | true =>
    simp only [if_true, List.cons_append, List.nil_append, readPtVal]
    congr 2; omega

theorem ptNext_vals (words : Bool) (pts : List Nat) (rest : List Nat) :
    ∀ (n rem last : Nat), pts.length ≤ n → pts.length ≤ rem → PtOk words last pts →
    ptNext n rem words last (ptDeltaBytes words last pts ++ rest)
      = pts ++ ptNext (n - pts.length) (rem - pts.length) words (pts.getLastD last) rest := by
  induction pts with
  | nil => intro n rem last _ _ _; simp [ptDeltaBytes]
  | cons p ps ih =>
    intro n rem last hn hr hok
    obtain ⟨h1, h2, h3, h4⟩ := hok
    simp only [List.length_cons] at hn hr
    obtain ⟨m, rfl⟩ : ∃ m, n = m + 1 := ⟨n - 1, by omega⟩
    have hrem : rem ≠ 0 := by omega
    have hv := readPtVal_bytes words last p (ptDeltaBytes words p ps ++ rest) h1 h2 h3
    have hsum : last + (p - last) = p := by omega
    have hle : ¬ (p > 65535) := by omega
    simp only [ptDeltaBytes, List.append_assoc, ptNext, hrem, if_false, hv, hsum, hle, List.cons_append]
    rw [ih m (rem - 1) p (by omega) (by omega) h4]
    have e1 : m + 1 - (ps.length + 1) = m - ps.length := by omega
    have e2 : rem - (ps.length + 1) = rem - 1 - ps.length := by omega
    simp only [List.length_cons, e1, e2, List.getLastD_cons]

theorem ptNext_control (m : Nat) (two0 : Bool) (last c : Nat) (bs : List Nat) :
    ptNext (m + 1) 0 two0 last (c :: bs)
      = ptNext (m + 1) (c % 128 + 1) (decide (c / 128 % 2 = 1)) last bs := by
  simp [ptNext, readPtControl]

theorem ptNext_rem0_two (n last : Nat) (t t' : Bool) (bs : List Nat) :
    ptNext n 0 t last bs = ptNext n 0 t' last bs := by
  cases n with
  | zero => simp [ptNext]
  | succ n => cases bs <;> simp [ptNext, readPtControl]

def ValidPtRun (r : PtRun) : Prop :=
  1 ≤ r.pts.length ∧ r.pts.length ≤ 128 ∧ PtOk r.words r.last r.pts

theorem ptFlag (words : Bool) (len : Nat) (h1 : 1 ≤ len) (h2 : len ≤ 128) :
    ((len - 1) + (if words then 128 else 0)) % 128 + 1 = len ∧
    decide (((len - 1) + (if words then 128 else 0)) / 128 % 2 = 1) = words := by
  obtain ⟨k, rfl⟩ : ∃ k, len = k + 1 := ⟨len - 1, by omega⟩
  cases words <;> simp <;> omega

theorem ptNext_run (r : PtRun) (hr : ValidPtRun r) (n : Nat) (two0 : Bool) (rest : List Nat)
    (hn : r.pts.length ≤ n) :
    ptNext n 0 two0 r.last (serializePtRun r ++ rest)
      = r.pts ++ ptNext (n - r.pts.length) 0 two0 (r.pts.getLastD r.last) rest := by
  obtain ⟨h1, h2, hok⟩ := hr
  obtain ⟨m, rfl⟩ : ∃ m, n = m + 1 := ⟨n - 1, by omega⟩
  obtain ⟨f1, f2⟩ := ptFlag r.words r.pts.length h1 h2
  simp only [serializePtRun, List.cons_append]
  rw [ptNext_control, f1, f2, ptNext_vals r.words r.pts rest (m + 1) r.pts.length r.last hn
    (Nat.le_refl _) hok, Nat.sub_self, ptNext_rem0_two _ _ r.words two0]

/-- consecutive runs chain: each run's `last` is the previous run's final point -/
def RunsOk : Nat → List PtRun → Prop
  | _, [] => True
  | last, r :: rs => r.last = last ∧ ValidPtRun r ∧ RunsOk (r.pts.getLastD last) rs

def ptTotal (rs : List PtRun) : Nat := (rs.flatMap (·.pts)).length

theorem ptTotal_cons (r : PtRun) (rs : List PtRun) : ptTotal (r :: rs) = r.pts.length + ptTotal rs := by
  simp [ptTotal]

theorem ptNext_runs (rs : List PtRun) : ∀ (n last : Nat) (two0 : Bool) (rest : List Nat),
    RunsOk last rs → ptTotal rs ≤ n →
    ∃ last', ptNext n 0 two0 last (rs.flatMap serializePtRun ++ rest)
      = rs.flatMap (·.pts) ++ ptNext (n - ptTotal rs) 0 two0 last' rest := by
  induction rs with
  | nil => intro n last two0 rest _ _; exact ⟨last, by simp [ptTotal]⟩
  | cons r rs ih =>
    intro n last two0 rest hok hn
    obtain ⟨hl, hr, hrest⟩ := hok
    have hn' : r.pts.length + ptTotal rs ≤ n := ptTotal_cons r rs ▸ hn
    obtain ⟨last', h⟩ := ih (n - r.pts.length) (r.pts.getLastD last) two0 rest hrest (by omega)
    refine ⟨last', ?_⟩
    subst hl
    simp only [List.flatMap_cons, List.append_assoc]
    rw [ptNext_run r hr n two0 _ (by omega), h]
    rw [ptTotal_cons, Nat.sub_sub]

/-- ascending (not necessarily strictly) chain from `prev`, all below 65536 -/
def Asc : Nat → List Nat → Prop
  | _, [] => True
  | prev, p :: ps => prev ≤ p ∧ p ≤ 65535 ∧ Asc p ps

theorem ptRunLen_props (words : Bool) : ∀ (cap prev : Nat) (l : List Nat), Asc prev l →
    ∃ k, ptRunLen words cap prev l = some k ∧ k ≤ cap ∧ k ≤ l.length ∧
      PtOk words prev (l.take k) ∧ Asc ((l.take k).getLastD prev) (l.drop k) := by
  intro cap
  induction cap with
  | zero => intro prev l h; exact ⟨0, by simp [ptRunLen, PtOk, h]⟩
  | succ cap ih =>
    intro prev l h
    cases l with
    | nil => exact ⟨0, by simp [ptRunLen, PtOk, Asc]⟩
    | cons p ps =>
      obtain ⟨h1, h2, h3⟩ := h
      have hlt : ¬ p < prev := by omega
      by_cases ht : (if words = true then p - prev > 255 else p - prev ≤ 255)
      · obtain ⟨k, e, a, b, c, d⟩ := ih p ps h3
        refine ⟨k + 1, by simp only [ptRunLen, hlt, if_false, ht, if_true, e, Option.map_some],
          by omega, by simp only [List.length_cons]; omega, ?_, ?_⟩
        · simp only [List.take_succ_cons, PtOk]
          refine ⟨h1, h2, ?_, c⟩
          intro hw; subst hw; simpa using ht
        · rw [List.take_succ_cons, List.getLastD_cons, List.drop_succ_cons]; exact d
      · refine ⟨0, by simp only [ptRunLen, hlt, if_false, ht], by omega, by omega, ?_, ?_⟩
        · simp [PtOk]
        · simpa [Asc] using ⟨h1, h2, h3⟩

theorem ptRunLen_first (cap prev p : Nat) (ps : List Nat) (h : prev ≤ p) :
    ptRunLen (decide (p - prev > 255)) (cap + 1) prev (p :: ps)
      = (ptRunLen (decide (p - prev > 255)) cap p ps).map (· + 1) := by
  have hlt : ¬ p < prev := by omega
  by_cases hw : p - prev > 255
  · simp [ptRunLen, hlt, hw]
  · simp only [ptRunLen, hlt, if_false, hw, decide_false]
    have : p - prev ≤ 255 := by omega
    simp [this]

theorem ptRunsOf_props : ∀ (fuel prev : Nat) (pts : List Nat), pts.length ≤ fuel → Asc prev pts →
    ∃ rs, ptRunsOf fuel prev pts = some rs ∧ RunsOk prev rs ∧ rs.flatMap (·.pts) = pts := by
  intro fuel
  induction fuel with
  | zero =>
    intro prev pts hl _
    have : pts = [] := List.length_eq_zero_iff.mp (by omega)
    subst this; exact ⟨[], by simp [ptRunsOf, RunsOk]⟩
  | succ fuel ih =>
    intro prev pts hl ha
    cases pts with
    | nil => exact ⟨[], by simp [ptRunsOf, RunsOk]⟩
    | cons p ps =>
      obtain ⟨h1, h2, h3⟩ := ha
      have hlt : ¬ p < prev := by omega
      obtain ⟨k, e, a, b, c, d⟩ := ptRunLen_props (decide (p - prev > 255)) 127 p ps h3
      have hrl := ptRunLen_first 127 prev p ps h1
      rw [e] at hrl
      simp only [Option.map_some] at hrl
      simp only [List.length_cons] at hl
      obtain ⟨rs, e2, ok2, cat2⟩ := ih ((p :: List.take k ps).getLastD prev) (ps.drop k)
        (by simp; omega) (by rw [List.getLastD_cons]; exact d)
      refine ⟨{ last := prev, words := decide (p - prev > 255), pts := p :: ps.take k } :: rs, ?_, ?_, ?_⟩
      · simp only [ptRunsOf, hlt, if_false, hrl, List.take_succ_cons, List.drop_succ_cons, e2]
      · refine ⟨rfl, ⟨by simp, by simp; omega, ?_⟩, ok2⟩
        simp only [PtOk]
        refine ⟨h1, h2, ?_, c⟩
        intro hw
        have : ¬ (p - prev > 255) := by simpa using hw
        omega
      · simp only [List.flatMap_cons, cat2, List.cons_append, List.take_append_drop]

theorem count_header (n : Nat) (h1 : 1 ≤ n) (h2 : n ≤ 32767) (tail : List Nat) :
    countAndCountBytes (ptCountBytes n ++ tail) = (n, (ptCountBytes n).length) := by
  unfold ptCountBytes
  by_cases h : n ≤ 127
  · have h0 : n ≠ 0 := by omega
    simp [h, countAndCountBytes, h0]
  · -- two bytes: the count with the top bit set, which makes the first byte at least 128
    have hv : n % 65536 % 32768 + 32768 = n + 32768 := by
      rw [Nat.mod_eq_of_lt (by omega), Nat.mod_eq_of_lt (by omega)]
    have a : ¬ ((n + 32768) / 256 = 0) := by omega
    have b : ¬ ((n + 32768) / 256 ≤ 127) := by omega
    simp only [h, if_false, hv, List.cons_append, List.nil_append, countAndCountBytes, a, b, bytes2,
      Nat.add_mod_right, Nat.mod_eq_of_lt (show n < 32768 by omega), List.length_cons, List.length_nil]

theorem ptDeltaBytes_length (words : Bool) : ∀ (last : Nat) (pts : List Nat),
    (ptDeltaBytes words last pts).length = pts.length * (if words then 2 else 1) := by
  intro last pts
  induction pts generalizing last with
  | nil => simp [ptDeltaBytes]
  | cons p ps ih =>
    cases words <;> simp [ptDeltaBytes, ih] <;> omega

theorem serializePtRun_length (r : PtRun) :
    (serializePtRun r).length = r.pts.length * (if r.words then 2 else 1) + 1 := by
  simp [serializePtRun, ptDeltaBytes_length]

theorem totalLen_runs (rs : List PtRun) : ∀ (fuel nBytes nSeen nPoints last : Nat) (rest : List Nat),
    RunsOk last rs → nSeen + ptTotal rs = nPoints → rs.length + 1 ≤ fuel →
    totalLenLoop fuel nBytes nSeen nPoints (rs.flatMap serializePtRun ++ rest)
      = nBytes + (rs.flatMap serializePtRun).length := by
  induction rs with
  | nil =>
    intro fuel nBytes nSeen nPoints last rest _ hs hf
    obtain ⟨f, rfl⟩ : ∃ f, fuel = f + 1 := ⟨fuel - 1, by omega⟩
    have : ¬ nSeen < nPoints := by simp [ptTotal] at hs; omega
    simp [totalLenLoop, this]
  | cons r rs ih =>
    intro fuel nBytes nSeen nPoints last rest hok hs hf
    obtain ⟨hl, ⟨h1, h2, hpt⟩, hrest⟩ := hok
    simp only [List.length_cons] at hf
    obtain ⟨f, rfl⟩ : ∃ f, fuel = f + 1 := ⟨fuel - 1, by omega⟩
    rw [ptTotal_cons] at hs
    have hlt : nSeen < nPoints := by omega
    obtain ⟨f1, f2⟩ := ptFlag r.words r.pts.length h1 h2
    -- the run size the reader computes from the control byte is the length of the run's body
    have hsz : (1 + if r.words = true then 1 else 0) * r.pts.length
        = (ptDeltaBytes r.words r.last r.pts).length := by
      rw [ptDeltaBytes_length]; cases r.words <;> simp <;> omega
    simp only [List.flatMap_cons, List.append_assoc, serializePtRun, List.cons_append, totalLenLoop,
      hlt, if_true, readPtControl, f1, f2, hsz, List.drop_left]
    rw [ih f _ (nSeen + r.pts.length) nPoints _ rest hrest (by omega) (by omega)]
    simp only [List.length_append, List.length_cons]
    omega

theorem asc_of_sorted : ∀ (l : List Nat) (prev : Nat), (∀ p ∈ l, prev ≤ p ∧ p ≤ 65535) →
    l.Pairwise (· ≤ ·) → Asc prev l := by
  intro l
  induction l with
  | nil => intro _ _ _; trivial
  | cons p ps ih =>
    intro prev hb hp
    rw [List.pairwise_cons] at hp
    refine ⟨(hb p (by simp)).1, (hb p (by simp)).2, ih p ?_ hp.2⟩
    intro q hq
    exact ⟨hp.1 q hq, (hb q (by simp [hq])).2⟩

theorem flatMap_ptser_length (rs : List PtRun) : rs.length ≤ (rs.flatMap serializePtRun).length := by
  induction rs with
  | nil => simp
  | cons r rs ih =>
    simp only [List.flatMap_cons, List.length_append, List.length_cons, serializePtRun_length]; omega

theorem runs_le_total (rs : List PtRun) : ∀ last, RunsOk last rs → rs.length ≤ ptTotal rs := by
  induction rs with
  | nil => intro _ _; simp
  | cons r rs ih =>
    intro last hok
    obtain ⟨_, ⟨h1, _, _⟩, hrest⟩ := hok
    have := ih _ hrest
    rw [ptTotal_cons, List.length_cons]; omega

theorem deltas_roundtrip (ds : List Int) (h : ∀ d ∈ ds, inI32 d) (rest : List Nat) :
    decodeDeltas (encodeDeltas ds ++ rest) ds.length = ds := by
  obtain ⟨hv, hc⟩ := runsOf_props ds.length ds (Nat.le_refl _) h
  unfold decodeDeltas encodeDeltas
  rw [decNext_runs _ ds.length .i8 rest hv (by rw [runsOf_total ds h]; omega), hc, runsOf_total ds h,
    Nat.sub_self]
  simp [decNext]

theorem xy_roundtrip (xs ys : List Int) (hx : ∀ d ∈ xs, inI32 d) (hy : ∀ d ∈ ys, inI32 d)
    (hlen : xs.length = ys.length) (rest : List Nat) :
    xDeltas (encodeDeltas xs ++ (encodeDeltas ys ++ rest)) (2 * xs.length) = xs ∧
    yDeltas (encodeDeltas xs ++ (encodeDeltas ys ++ rest)) (2 * xs.length) = ys := by
  obtain ⟨hvx, hcx⟩ := runsOf_props xs.length xs (Nat.le_refl _) hx
  obtain ⟨hvy, hcy⟩ := runsOf_props ys.length ys (Nat.le_refl _) hy
  constructor
  · unfold xDeltas
    rw [show 2 * xs.length / 2 = xs.length by omega]
    exact deltas_roundtrip xs hx _
  · have := yDeltas_runs (runsOf xs.length xs) (runsOf ys.length ys) rest hvx hvy
      (by rw [runsOf_total xs hx, runsOf_total ys hy, hlen])
    rw [runsOf_total xs hx, hcy] at this
    exact this

/-- `fold(start, |acc, r| acc.checked_add(size(r)).unwrap())`: when it does not trap, the result is the
start plus the length of what is written, for any writer `ser` whose pieces have the sizes counted -/
theorem checkedSizes_eq {α : Type} (sz : α → Nat) (ser : α → List Nat) (hs : ∀ r, (ser r).length = sz r) :
    ∀ (rs : List α) (a n : Nat),
      rs.foldl (fun acc r => match acc with
        | none => none
        | some a => if a + sz r > 65535 then none else some (a + sz r)) (some a) = some n →
      n = a + (rs.flatMap ser).length := by
  intro rs
  induction rs with
  | nil => intro a n h; simp only [List.foldl_nil, Option.some.injEq] at h; simp [h]
  | cons r rs ih =>
    intro a n h
    rw [List.foldl_cons] at h
    by_cases hc : a + sz r > 65535
    · simp only [hc, if_true] at h
      rw [foldl_none _ (fun _ => rfl)] at h
      cases h
    · simp only [hc, if_false] at h
      rw [ih _ _ h, List.flatMap_cons, List.length_append, hs, Nat.add_assoc]

theorem computeSize_eq_length (ds : List Int) (n : Nat) (h : computeSize ds = some n) :
    n = (encodeDeltas ds).length := by
  have := checkedSizes_eq runSize serializeRun serializeRun_length (runsOf ds.length ds) 0 n h
  rwa [Nat.zero_add] at this

theorem points_roundtrip (pts : List Nat) (h0 : pts ≠ []) (hlen : pts.length ≤ 32767)
    (hb : ∀ p ∈ pts, p ≤ 65535) (hs : pts.Pairwise (· ≤ ·)) :
    ∃ bs, encodePoints pts = some bs ∧ ∀ rest : List Nat, (countAndCountBytes (bs ++ rest)).1 = pts.length ∧
      decodePoints (bs ++ rest) = some pts ∧ splitRemainder (bs ++ rest) = rest := by
  have hasc : Asc 0 pts := asc_of_sorted pts 0 (fun p hp => ⟨Nat.zero_le _, hb p hp⟩) hs
  obtain ⟨rs, e, ok, cat⟩ := ptRunsOf_props pts.length 0 pts (Nat.le_refl _) hasc
  have hne : pts.length ≠ 0 := fun h => h0 (List.length_eq_zero_iff.mp h)
  have htot : ptTotal rs = pts.length := by unfold ptTotal; rw [cat]
  refine ⟨ptCountBytes pts.length ++ rs.flatMap serializePtRun, by simp [encodePoints, e], fun rest => ?_⟩
  have hhead := count_header pts.length (by omega) hlen (List.flatMap serializePtRun rs ++ rest)
  have hd : (ptCountBytes pts.length ++ (List.flatMap serializePtRun rs ++ rest)).drop
      (ptCountBytes pts.length).length = List.flatMap serializePtRun rs ++ rest := by simp
  refine ⟨by rw [List.append_assoc, hhead], ?_, ?_⟩
  · unfold decodePoints
    rw [List.append_assoc, hhead]
    simp only [hne, if_false]
    obtain ⟨last', h⟩ := ptNext_runs rs pts.length 0 false rest ok (by omega)
    rw [hd, h, cat, htot, Nat.sub_self]
    simp [ptNext]
  · unfold splitRemainder totalLen
    rw [List.append_assoc, hhead]
    simp only [hne, if_false]
    rw [hd, totalLen_runs rs _ _ 0 pts.length 0 rest ok (by omega)
      (by have := runs_le_total rs 0 ok; omega)]
    rw [← List.length_append, ← List.append_assoc]
    simp

end FontVerif.PackedDeltas
