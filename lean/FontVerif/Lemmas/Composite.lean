/-
Lemmas about Model/Composite.lean: the component loop and `outline` inverted once (`loop_cons_ok`,
`outline_ok`); a chain of `n` component edges (`Deep`) with fuel at most `n` makes `outline_rec` fail; a glyph on a
component cycle has chains of every length below it, so cycles are errors too.
-/
import FontVerif.Model.Composite
namespace FontVerif.CompositeLemmas
open FontVerif.Composite

def isErr {α} : Except Err α → Prop
  | .error _ => True
  | .ok _ => False

/-- a component loop that returns `Ok` skipped its first glyph (`Ok(None)`) or ran `prev` on it, and went on from there -/
theorem loop_cons_ok {G : Nat → GlyphInfo} {prev : Rec} {x : Nat} {xs : List Nat} {o o' : Out} {cd : Nat}
    (h : loop G prev (x :: xs) o cd = .ok o') :
    ∃ o1, loop G prev xs o1 cd = .ok o' ∧
      (G x = .empty ∧ o1 = o ∨ (G x).present = true ∧ prev (G x) o cd = .ok o1) := by
  unfold loop at h
  cases hg : G x <;> rw [hg] at h <;> dsimp only at h
  · cases h
  · exact ⟨o, h, .inl ⟨rfl, rfl⟩⟩
  all_goals
    split at h
    · cases h
    · exact ⟨_, h, .inr ⟨rfl, ‹_›⟩⟩

theorem outline_present {G : Nat → GlyphInfo} {g : Nat} (hp : (G g).present = true) :
    outline G g = recF G (RECURSION_LIMIT + 1) (G g) {} 0 := by
  unfold outline
  cases hg : G g with
  | readErr | empty => rw [hg] at hp; cases hp
  | simple | composite => rfl

theorem outline_ok {G : Nat → GlyphInfo} {g : Nat} {o : Out} (h : outline G g = .ok o) :
    o = {} ∨ recF G (RECURSION_LIMIT + 1) (G g) {} 0 = .ok o := by
  unfold outline at h
  cases hg : G g <;> rw [hg] at h
  · cases h
  · exact .inl (Except.ok.inj h).symm
  all_goals exact .inr h

/-- a chain of `n` component edges through present glyphs starts at `g` -/
inductive Deep (G : Nat → GlyphInfo) : Nat → Nat → Prop
  | zero (g : Nat) : (G g).present = true → Deep G 0 g
  | succ (g c : Nat) (cs : List Nat) (h : Bool) (n : Nat) :
      G g = .composite cs h → c ∈ cs → Deep G n c → Deep G (n + 1) g

theorem loop_error (G : Nat → GlyphInfo) (prev : Rec) (c : Nat) (hp : (G c).present = true)
    (herr : ∀ o cd, isErr (prev (G c) o cd)) :
    ∀ (cs : List Nat) (o : Out) (cd : Nat), c ∈ cs → isErr (loop G prev cs o cd) := by
  intro cs
  induction cs with
  | nil => intro o cd h; cases h
  | cons x xs ih =>
    intro o cd hmem
    cases hl : loop G prev (x :: xs) o cd with
    | error e => trivial
    | ok o' =>
      obtain ⟨o1, h1, hx⟩ := loop_cons_ok hl
      rcases List.mem_cons.mp hmem with rfl | hmem'
      · rcases hx with ⟨he, -⟩ | ⟨-, hq⟩
        · rw [he] at hp; cases hp
        · exact (hq ▸ herr o cd : isErr (.ok o1))
      · exact (h1 ▸ ih o1 cd hmem' : isErr (.ok o'))

theorem deep_is_error (G : Nat → GlyphInfo) (n : Nat) (g : Nat) (hd : Deep G n g) :
    ∀ (f : Nat), f ≤ n → ∀ o cd, isErr (recF G f (G g) o cd) := by
  induction hd with
  | zero g hp =>
    intro f hf o cd
    have : f = 0 := by omega
    subst this; simp [recF, isErr]
  | succ g c cs h n hg hmem hdc ih =>
    intro f hf o cd
    cases f with
    | zero => simp [recF, isErr]
    | succ f' =>
      have hp : (G c).present = true := by
        cases hdc with
        | zero _ hp => exact hp
        | succ _ _ _ _ _ hgc _ _ => rw [hgc]; rfl
      have hl := loop_error G (recF G f') c hp (ih f' (by omega)) cs
      simp only [recF, hg, level]
      have := hl { o with visits := o.visits + 1 } (cd + (cs.length + PHANTOM)) hmem
      cases hq : loop G (recF G f') cs { o with visits := o.visits + 1 } (cd + (cs.length + PHANTOM)) with
      | error e => simp [isErr]
      | ok v => rw [hq] at this; exact absurd this (by simp [isErr])

/-- `a` reaches `b` along `k` component edges, every glyph on the way being a composite -/
inductive Walk (G : Nat → GlyphInfo) : Nat → Nat → Nat → Prop
  | nil (a : Nat) : Walk G 0 a a
  | cons (a b c : Nat) (cs : List Nat) (h : Bool) (k : Nat) :
      G a = .composite cs h → b ∈ cs → Walk G k b c → Walk G (k + 1) a c

theorem walk_deep (G : Nat → GlyphInfo) (k a b : Nat) (hw : Walk G k a b) :
    ∀ n, Deep G n b → Deep G (n + k) a := by
  induction hw with
  | nil a => intro n h; exact h
  | cons a b c cs h k hg hmem _ ih =>
    intro n hd
    have := ih n hd
    exact Deep.succ a b cs h (n + k) hg hmem this

theorem cycle_deep (G : Nat → GlyphInfo) (k g : Nat) (hw : Walk G (k + 1) g g) : ∀ m, Deep G (m * (k + 1)) g := by
  have hp : (G g).present = true := by
    cases hw with
    | cons _ _ _ _ _ _ hg _ _ => rw [hg]; rfl
  intro m
  induction m with
  | zero => simpa using Deep.zero g hp
  | succ m ih =>
    have := walk_deep G (k + 1) g g hw _ ih
    have he : (m + 1) * (k + 1) = m * (k + 1) + (k + 1) := by rw [Nat.succ_mul]
    rw [he]; exact this

theorem deep_mono (G : Nat → GlyphInfo) (n g : Nat) (hd : Deep G (n + 1) g) : Deep G n g := by
  induction n generalizing g with
  | zero =>
    cases hd with
    | succ _ _ _ _ _ hg _ _ => exact Deep.zero g (by rw [hg]; rfl)
  | succ n ih =>
    cases hd with
    | succ _ c cs h _ hg hmem hdc => exact Deep.succ g c cs h n hg hmem (ih c hdc)
end FontVerif.CompositeLemmas
