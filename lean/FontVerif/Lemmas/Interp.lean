/-
Lemmas about Model/Interp.lean.  A result is judged as a whole (`Res E P`: `P` of a value, `E` of an error):
the checked stack operations, the skip loops (`ScanSpec`: enough fuel, their errors, where they land) and every control
operation (`CtlRes` / `CtlOut`) are each walked once against one such contract, `dispatch_out` is the only walk over the
dispatcher, and the run loop is reasoned about through one iteration (`step_running`, `iter_induct`).
-/
import FontVerif.Model.InterpCost
import FontVerif.Lemmas.Ite
import FontVerif.Lemmas.Base

namespace FontVerif.InterpRunLemmas
open FontVerif.Interp

def CtlErr (e : Err) : Prop := ∀ n, e ≠ .data n

theorem ctlErr_lit {e : Err} (h : ∀ n, e ≠ .data n := by intro n; decide) : CtlErr e := h

end FontVerif.InterpRunLemmas

namespace FontVerif.InterpLemmas
open FontVerif.Interp FontVerif.InterpRunLemmas

theorem ctlErr_ctor {e : Err} (h : ∀ n, e = .data n → False) : CtlErr e := h

def Res {ε α : Type} (E : ε → Prop) (P : α → Prop) : Except ε α → Prop
  | .ok a => P a
  | .error e => E e

theorem Res.mono {ε α : Type} {E E' : ε → Prop} {P P' : α → Prop} {x : Except ε α} (h : Res E P x)
    (hE : ∀ e, E e → E' e) (hP : ∀ a, P a → P' a) : Res E' P' x := by
  cases x with
  | error e => exact hE e h
  | ok a => exact hP a h

theorem opcodeLen_pos_or_neg (op : Nat) : 1 ≤ opcodeLen op ∨ opcodeLen op = -1 ∨ opcodeLen op = -2 := by
  unfold opcodeLen; repeat' split
  all_goals omega

theorem insLen_pos {code : Array Nat} {pc op len : Nat} (h : insLen code pc op = some len) : 1 ≤ len := by
  unfold insLen at h
  simp only [] at h
  rcases opcodeLen_pos_or_neg op with h1 | h1 | h1
  · rw [if_neg (by omega)] at h; simp at h; omega
  · rw [if_pos (by omega)] at h; split at h <;> simp at h; omega
  · rw [if_pos (by omega)] at h; split at h <;> simp at h; omega

theorem decode_advances {code : Array Nat} {pc op ipc next : Nat} {ops : List Nat}
    (h : decode code pc = .ins op ops ipc next) : ipc = pc ∧ pc < next ∧ next ≤ code.size := by
  unfold decode at h
  split at h
  · simp at h
  · split at h
    · simp at h
    · rename_i len hl
      have := insLen_pos hl
      simp only [] at h
      split at h
      · simp at h; omega
      · simp at h

theorem pop_res {E : Err → Prop} (hu : E .vsUnderflow) (ped : Bool) (vs : List Int) :
    Res E (fun r => r.2.length ≤ vs.length) (pop ped vs) := by
  unfold pop
  cases vs with
  | nil =>
    cases ped
    · exact Nat.le_refl 0
    · exact hu
  | cons v rest => exact Nat.le_succ _

/-- one `let (v, vs) = pop()?;` of a transcribed opcode: the rest runs on a stack that did not grow -/
theorem pop_bind {β : Type} {E : Err → Prop} {P : β → Prop} (hu : E .vsUnderflow) {ped : Bool} {vs : List Int}
    {k : Int → List Int → Except Err β} (hk : ∀ v vs1, vs1.length ≤ vs.length → Res E P (k v vs1)) :
    Res E P (match pop ped vs with | .error e => .error e | .ok (v, vs1) => k v vs1) := by
  have hp := pop_res hu ped vs
  generalize pop ped vs = x at hp ⊢
  cases x with
  | error e => exact hp
  | ok r => exact hk r.1 r.2 hp

theorem push_res {E : Err → Prop} (ho : E .vsOverflow) (cap : Nat) (vs : List Int) (v : Int) :
    Res E (fun vs' => vs'.length ≤ cap) (push cap vs v) := by
  unfold push
  apply ite_elim <;> intro h
  · exact h
  · exact ho

theorem applyUnary_res {E : Err → Prop} (hu : E .vsUnderflow) (ho : E .vsOverflow) (ped : Bool) (cap : Nat)
    (vs : List Int) (f : Int → Int) : Res E (fun vs' => vs'.length ≤ cap) (applyUnary ped cap vs f) :=
  pop_bind hu fun _ vs1 _ => push_res ho cap vs1 _

theorem applyBinary_res {E : Err → Prop} (hu : E .vsUnderflow) (ho : E .vsOverflow) (ped : Bool) (cap : Nat)
    (vs : List Int) (f : Int → Int → Int) : Res E (fun vs' => vs'.length ≤ cap) (applyBinary ped cap vs f) :=
  pop_bind hu fun _ _ _ => pop_bind hu fun _ vs2 _ => push_res ho cap vs2 _

theorem allocate_len {defs defs' : List Def} {key : Int} {i : Nat} (h : allocate defs key = .ok (i, defs')) :
    defs'.length = defs.length := by
  unfold allocate at h
  simp only [] at h
  split at h
  · cases h
  · split at h <;> cases h
    exact List.length_set ..

theorem allocate_ctlErr {defs : List Def} {key : Int} {e : Err} (h : allocate defs key = .error e) : CtlErr e := by
  unfold allocate at h
  simp only [] at h
  split at h
  · cases h; exact ctlErr_ctor nofun
  · split at h <;> cases h
    exact ctlErr_ctor nofun

def ScanSpec {α : Type} (size pc fuel : Nat) (E : Err → Prop) (pos : α → Nat) : Option (Except Err α) → Prop
  | none => fuel + pc ≤ size ∨ fuel = 0
  | some (.error e) => E e
  | some (.ok a) => pc < pos a ∧ pos a ≤ size

theorem ScanSpec.step {α : Type} {size pc next n : Nat} {E : Err → Prop} {pos : α → Nat}
    {r : Option (Except Err α)} (h : ScanSpec size next n E pos r) (h1 : pc < next) (h2 : next ≤ size) :
    ScanSpec size pc (n + 1) E pos r := by
  match r, h with
  | none, h => exact .inl (by rcases h with h | h <;> omega)
  | some (.error e), h => exact h
  | some (.ok a), h => exact ⟨Nat.lt_trans h1 h.1, h.2⟩

theorem scanIf_spec (code : Array Nat) : ∀ (fuel pc depth : Nat),
    ScanSpec code.size pc fuel (· = .unexpectedEnd) id (scanIf code fuel pc depth) := by
  intro fuel
  induction fuel with
  | zero => intro pc depth; exact .inr rfl
  | succ n ih =>
    intro pc depth
    unfold scanIf
    cases hd : decode code pc with
    | eof => exact rfl
    | bad => exact rfl
    | ins op ops ipc next =>
      have ⟨_, h1, h2⟩ := decode_advances hd
      have ih' := fun d => (ih next d).step h1 h2
      dsimp only
      repeat' (apply ite_elim <;> intro _)
      all_goals first | exact ih' _ | exact ⟨h1, h2⟩

theorem scanElse_spec (code : Array Nat) : ∀ (fuel pc depth : Nat),
    ScanSpec code.size pc fuel (· = .unexpectedEnd) id (scanElse code fuel pc depth) := by
  intro fuel
  induction fuel with
  | zero => intro pc depth; exact .inr rfl
  | succ n ih =>
    intro pc depth
    unfold scanElse
    cases hd : decode code pc with
    | eof => exact rfl
    | bad => exact rfl
    | ins op ops ipc next =>
      have ⟨_, h1, h2⟩ := decode_advances hd
      have ih' := fun d => (ih next d).step h1 h2
      dsimp only
      repeat' (apply ite_elim <;> intro _)
      all_goals first | exact ih' _ | exact ⟨h1, h2⟩

theorem scanDef_spec (code : Array Nat) : ∀ (fuel pc : Nat),
    ScanSpec code.size pc fuel (fun e => e = .unexpectedEnd ∨ e = .nestedDef) Prod.snd (scanDef code fuel pc) := by
  intro fuel
  induction fuel with
  | zero => intro pc; exact .inr rfl
  | succ n ih =>
    intro pc
    unfold scanDef
    cases hd : decode code pc with
    | eof => exact .inl rfl
    | bad => exact .inl rfl
    | ins op ops ipc next =>
      have ⟨_, h1, h2⟩ := decode_advances hd
      dsimp only
      apply ite_elim <;> intro _
      · exact .inr rfl
      · apply ite_elim <;> intro _
        · exact ⟨h1, h2⟩
        · exact (ih next).step h1 h2

theorem ScanSpec.out {α : Type} {size pc : Nat} {E : Err → Prop} {pos : α → Nat} {r : Option (Except Err α)}
    (h : ScanSpec size pc (size + 1) E pos r) (hE : ∀ e, E e → CtlErr e) :
    ∃ x, r = some x ∧ ∀ e, x = .error e → CtlErr e := by
  match r, h with
  | none, h => exact absurd (show size + 1 + pc ≤ size ∨ size + 1 = 0 from h) (by omega)
  | some (.error e), h => exact ⟨_, rfl, fun e' he => by cases he; exact hE _ h⟩
  | some (.ok a), _ => exact ⟨_, rfl, fun e' he => by cases he⟩

def CtlInv {D} (c : Cfg D) (s : St D) : Prop :=
  s.calls.length ≤ MAX_DEPTH ∧ s.backJumps ≤ c.limit ∧ s.loopCalls ≤ c.limit

/-- what one dispatch may change -/
def Rel {D} (c : Cfg D) (s s2 : St D) : Prop :=
  s2.count = s.count ∧ s2.status = s.status ∧ (CtlInv c s → CtlInv c s2)

theorem Rel.refl {D} (c : Cfg D) (s : St D) : Rel c s s := ⟨rfl, rfl, id⟩
theorem Rel.trans {D} {c : Cfg D} {a b d : St D} (h1 : Rel c a b) (h2 : Rel c b d) : Rel c a d :=
  ⟨h2.1.trans h1.1, h2.2.1.trans h1.2.1, fun h => h2.2.2 (h1.2.2 h)⟩

def Ctl {D} (s s2 : St D) : Prop :=
  s2.data = s.data ∧ s2.vs.length ≤ s.vs.length ∧ s2.funcs.length = s.funcs.length ∧
  s2.idefs.length = s.idefs.length

theorem Ctl.refl {D} (s : St D) : Ctl s s := ⟨rfl, Nat.le_refl _, rfl, rfl⟩
theorem Ctl.trans {D} {a b d : St D} (h1 : Ctl a b) (h2 : Ctl b d) : Ctl a d :=
  ⟨h2.1.trans h1.1, Nat.le_trans h2.2.1 h1.2.1, h2.2.2.1.trans h1.2.2.1, h2.2.2.2.trans h1.2.2.2⟩

def CtlStep {D} (c : Cfg D) (s s2 : St D) : Prop := Rel c s s2 ∧ Ctl s s2

theorem CtlStep.refl {D} (c : Cfg D) (s : St D) : CtlStep c s s := ⟨Rel.refl c s, Ctl.refl s⟩
theorem CtlStep.trans {D} {c : Cfg D} {a b d : St D} (h1 : CtlStep c a b) (h2 : CtlStep c b d) : CtlStep c a d :=
  ⟨h1.1.trans h2.1, h1.2.trans h2.2⟩

theorem ctlStep_of {D} {c : Cfg D} {s s2 : St D} (hcnt : s2.count = s.count) (hst : s2.status = s.status)
    (hcalls : s2.calls.length ≤ s.calls.length ∨ s2.calls.length ≤ MAX_DEPTH)
    (hbj : s2.backJumps = s.backJumps ∨ s2.backJumps ≤ c.limit)
    (hlc : s2.loopCalls = s.loopCalls ∨ s2.loopCalls ≤ c.limit) (hd : s2.data = s.data)
    (hvs : s2.vs.length ≤ s.vs.length) (hf : s2.funcs.length = s.funcs.length)
    (hi : s2.idefs.length = s.idefs.length) : CtlStep c s s2 := by
  refine ⟨⟨hcnt, hst, fun ⟨i1, i2, i3⟩ => ⟨?_, ?_, ?_⟩⟩, hd, hvs, hf, hi⟩
  · rcases hcalls with h | h
    · exact Nat.le_trans h i1
    · exact h
  · rcases hbj with h | h
    · exact h ▸ i2
    · exact h
  · rcases hlc with h | h
    · exact h ▸ i3
    · exact h

theorem ctlStep_vs {D} {c : Cfg D} {s s2 : St D} (hcnt : s2.count = s.count) (hst : s2.status = s.status)
    (hcalls : s2.calls = s.calls) (hbj : s2.backJumps = s.backJumps)
    (hlc : s2.loopCalls = s.loopCalls) (hd : s2.data = s.data) (hvs : s2.vs.length ≤ s.vs.length)
    (hf : s2.funcs = s.funcs) (hi : s2.idefs = s.idefs) : CtlStep c s s2 :=
  ctlStep_of hcnt hst (.inl (hcalls ▸ Nat.le_refl _)) (.inl hbj) (.inl hlc) hd hvs (hf ▸ rfl) (hi ▸ rfl)

theorem ctlStep_pop {D} (c : Cfg D) (s : St D) {vs : List Int} (hl : vs.length ≤ s.vs.length) :
    CtlStep c s { s with vs := vs } :=
  ctlStep_vs rfl rfl rfl rfl rfl rfl hl rfl rfl

def CtlRes {D} (c : Cfg D) (s : St D) : Except Err (St D) → Prop := Res CtlErr (CtlStep c s)

/-- `none` = out of scan fuel -/
def CtlOut {D} (c : Cfg D) (s : St D) : Option (Except Err (St D)) → Prop
  | none => False
  | some r => CtlRes c s r

theorem CtlRes.after {D} {c : Cfg D} {s s1 : St D} {r : Except Err (St D)} (h1 : CtlStep c s s1)
    (h : CtlRes c s1 r) : CtlRes c s r :=
  Res.mono h (fun _ => id) fun _ => h1.trans

theorem CtlOut.after {D} {c : Cfg D} {s s1 : St D} {r : Option (Except Err (St D))} (h1 : CtlStep c s s1)
    (h : CtlOut c s1 r) : CtlOut c s r := by
  cases r with
  | none => exact h
  | some r => exact CtlRes.after h1 h

theorem doJump_res {D} (c : Cfg D) (s : St D) (t : Bool) : CtlRes c s (doJump c s t) := by
  unfold doJump
  refine pop_bind (ctlErr_ctor nofun) fun v vs hl => ?_
  dsimp only
  apply ite_elim <;> intro _
  · apply ite_elim <;> intro _
    · apply ite_elim <;> intro _
      · exact ctlErr_ctor nofun
      · apply ite_elim <;> intro hb
        · exact ctlErr_ctor nofun
        · exact ctlStep_of rfl rfl (.inl (Nat.le_refl _)) (.inr (Nat.le_of_not_gt hb)) (.inl rfl) rfl hl rfl rfl
    · exact ctlStep_pop c s hl
  · exact ctlStep_pop c s hl

/-- `v` above `i32::MIN`: the `v - 1` of `do_jump` does not wrap -/
theorem doJump_taken {D} (c : Cfg D) (s : St D) {v : Int} {rest : List Int} (hvs : s.vs = v :: rest)
    (hv : -2147483648 < v ∧ v < 2147483648) :
    doJump c s true =
      if v = 0 then .error .invalidJump
      else if v < 0 then
        if s.backJumps + 1 > c.limit then .error .budget
        else .ok { s with vs := rest, backJumps := s.backJumps + 1, pc := wrapAddPc s.pc (v - 1) }
      else .ok { s with vs := rest, pc := wrapAddPc s.pc (v - 1) } := by
  unfold doJump pop
  rw [hvs]
  dsimp only
  rw [wrapI32_of_in (by omega) (by omega), if_pos rfl]
  by_cases h0 : v = 0
  · rw [if_pos h0, h0]; rfl
  · rw [if_neg h0]
    by_cases hn : v < 0
    · rw [if_pos hn, if_pos (by omega), if_neg (by omega)]
    · rw [if_neg hn, if_neg (by omega)]

theorem enter_res {D} (c : Cfg D) (s : St D) (d : Def) (n : Nat) : CtlRes c s (enter s d n) := by
  unfold enter
  apply ite_elim <;> intro h
  · exact ctlStep_of rfl rfl (.inr h) (.inl rfl) (.inl rfl) rfl (Nat.le_refl _) rfl rfl
  · exact ctlErr_ctor nofun

theorem doCall_res {D} (c : Cfg D) (s : St D) (f : Bool) (n : Nat) (k : Int) : CtlRes c s (doCall s f n k) := by
  unfold doCall
  apply ite_elim <;> intro _
  · exact CtlStep.refl c s
  · cases getDef (if f = true then s.funcs else s.idefs) k with
    | none => cases f <;> exact ctlErr_ctor (fun _ h => nomatch h)
    | some d => exact enter_res c s d n

theorem leave_res {D} (c : Cfg D) (s : St D) : CtlRes c s (leave s) := by
  unfold leave
  cases hc : s.calls with
  | nil => exact ctlErr_ctor nofun
  | cons f rest =>
    dsimp only
    apply ite_elim <;> intro _
    · exact ctlStep_of rfl rfl (.inl (by rw [hc]; exact Nat.le_refl _)) (.inl rfl) (.inl rfl) rfl (Nat.le_refl _)
        rfl rfl
    · exact ctlStep_of rfl rfl (.inl (by rw [hc]; exact Nat.le_succ _)) (.inl rfl) (.inl rfl) rfl (Nat.le_refl _)
        rfl rfl

theorem doDef_out {D} (c : Cfg D) (s : St D) (f : Bool) (k : Int) : CtlOut c s (doDef c s f k) := by
  unfold doDef
  apply ite_elim <;> intro _
  · exact ctlErr_ctor nofun
  · cases ha : allocate (if f = true then s.funcs else s.idefs) k with
    | error e => exact allocate_ctlErr ha
    | ok r =>
      obtain ⟨ix, defs⟩ := r
      have hl := allocate_len ha
      cases f
      all_goals
        simp only [Bool.false_eq_true, if_false, if_true] at hl ⊢
        obtain ⟨x, hx, hxe⟩ := (scanDef_spec (c.code s.current) ((c.code s.current).size + 1) s.pc).out
          (fun e he => by rcases he with he | he <;> exact he ▸ ctlErr_ctor nofun)
        rw [hx]
        match x, hxe with
        | .error e, hxe => exact hxe e rfl
        | .ok r, _ =>
          dsimp only
          apply ite_elim <;> intro _
          · exact ctlErr_ctor nofun
          · exact ctlStep_of rfl rfl (.inl (Nat.le_refl _)) (.inl rfl) (.inl rfl) rfl (Nat.le_refl _)
              (by simp only [List.length_set, hl]) (by simp only [List.length_set, hl])

theorem opIf_out {D} (c : Cfg D) (s : St D) : CtlOut c s (opIf c s) := by
  unfold opIf
  have hl := pop_res (E := CtlErr) (ctlErr_ctor nofun) c.pedantic s.vs
  generalize pop c.pedantic s.vs = x at hl ⊢
  cases x with
  | error e => exact hl
  | ok r =>
    dsimp only
    apply ite_elim <;> intro _
    · obtain ⟨x, hx, hxe⟩ := (scanIf_spec (c.code s.current) ((c.code s.current).size + 1) s.pc 1).out
        (fun e he => he ▸ ctlErr_ctor nofun)
      rw [hx]
      match x, hxe with
      | .error e, hxe => exact hxe e rfl
      | .ok next, _ => exact ctlStep_vs rfl rfl rfl rfl rfl rfl hl rfl rfl
    · exact ctlStep_pop c s hl

theorem opElse_out {D} (c : Cfg D) (s : St D) : CtlOut c s (opElse c s) := by
  unfold opElse
  obtain ⟨x, hx, hxe⟩ := (scanElse_spec (c.code s.current) ((c.code s.current).size + 1) s.pc 1).out
    (fun e he => he ▸ ctlErr_ctor nofun)
  dsimp only
  rw [hx]
  match x, hxe with
  | .error e, hxe => exact hxe e rfl
  | .ok next, _ => exact ctlStep_vs rfl rfl rfl rfl rfl rfl (Nat.le_refl _) rfl rfl

theorem opJr_res {D} (c : Cfg D) (s : St D) (t : Bool) : CtlRes c s (opJr c s t) :=
  pop_bind (ctlErr_ctor nofun) fun _ _ h => CtlRes.after (ctlStep_pop c s h) (doJump_res c _ _)

theorem opCall_res {D} (c : Cfg D) (s : St D) : CtlRes c s (opCall c s) :=
  pop_bind (ctlErr_ctor nofun) fun _ _ h => CtlRes.after (ctlStep_pop c s h) (doCall_res c _ _ _ _)

theorem opLoopcall_res {D} (c : Cfg D) (s : St D) : CtlRes c s (opLoopcall c s) :=
  pop_bind (ctlErr_ctor nofun) fun f vs1 h1 => pop_bind (ctlErr_ctor nofun) fun count vs2 h2 => by
    have hl := Nat.le_trans h2 h1
    dsimp only
    apply ite_elim <;> intro _
    · apply ite_elim <;> intro hb
      · exact ctlErr_ctor nofun
      · refine CtlRes.after ?_ (doCall_res c _ _ _ _)
        exact ctlStep_of rfl rfl (.inl (Nat.le_refl _)) (.inl rfl) (.inr (Nat.le_of_not_gt hb)) rfl hl rfl rfl
    · exact ctlStep_pop c s hl

theorem opDef_out {D} (c : Cfg D) (s : St D) (f : Bool) : CtlOut c s (opDef c s f) := by
  unfold opDef
  have hl := pop_res (E := CtlErr) (ctlErr_ctor nofun) c.pedantic s.vs
  generalize pop c.pedantic s.vs = x at hl ⊢
  cases x with
  | error e => exact hl
  | ok r => exact CtlOut.after (ctlStep_pop c s hl) (doDef_out c _ _ _)

theorem opData_rel {D} {c : Cfg D} {s s2 : St D} {op : Nat} {ops : List Nat}
    (h : opData c s op ops = .ok s2) : Rel c s s2 := by
  unfold opData at h
  split at h <;> cases h
  exact ⟨rfl, rfl, id⟩

def DispOut {D} (c : Cfg D) (s : St D) (op : Nat) (ops : List Nat) (r : Option (Except Err (St D))) : Prop :=
  CtlOut c s r ∨ (r = some (opData c s op ops) ∧ InterpCost.ctlCost c s op = 0)

theorem dispatch_out {D} (c : Cfg D) (s : St D) (op : Nat) (ops : List Nat) :
    DispOut c s op ops (dispatch c s op ops) := by
  unfold dispatch
  apply ite_elim <;> intro h1
  · exact .inl (opIf_out c s)
  apply ite_elim <;> intro h2
  · exact .inl (opElse_out c s)
  apply ite_elim <;> intro h3
  · exact .inl (CtlStep.refl c s)
  apply ite_elim <;> intro h4
  · exact .inl (doJump_res c s true)
  apply ite_elim <;> intro h5
  · exact .inl (opJr_res c s true)
  apply ite_elim <;> intro h6
  · exact .inl (opJr_res c s false)
  apply ite_elim <;> intro h7
  · exact .inl (opCall_res c s)
  apply ite_elim <;> intro h8
  · exact .inl (opLoopcall_res c s)
  apply ite_elim <;> intro h9
  · exact .inl (opDef_out c s true)
  apply ite_elim <;> intro h10
  · exact .inl (opDef_out c s false)
  apply ite_elim <;> intro h11
  · exact .inl (leave_res c s)
  apply ite_elim <;> intro h12
  · exact .inl (doCall_res c s false 1 op)
  refine .inr ⟨rfl, ?_⟩
  unfold InterpCost.ctlCost
  dsimp only
  rw [if_neg h1, if_neg h2, if_neg h9, if_neg h10, if_neg (by omega), if_neg h12]

theorem dispatch_ne_none {D} (c : Cfg D) (s : St D) (op : Nat) (ops : List Nat) : dispatch c s op ops ≠ none := by
  intro h
  rcases dispatch_out c s op ops with ho | ⟨hd, _⟩
  · rw [h] at ho; exact ho
  · rw [h] at hd; cases hd

theorem dispatch_rel {D} {c : Cfg D} {s s2 : St D} {op : Nat} {ops : List Nat}
    (h : dispatch c s op ops = some (.ok s2)) : Rel c s s2 := by
  rcases dispatch_out c s op ops with ho | ⟨hd, _⟩
  · rw [h] at ho; exact ho.1
  · rw [h] at hd; exact opData_rel (Option.some.inj hd).symm

theorem dispatch_shape {D} {c : Cfg D} {s s2 : St D} {op : Nat} {ops : List Nat}
    (h : dispatch c s op ops = some (.ok s2)) :
    Ctl s s2 ∨ (c.sem op ops (s.vs, s.data) = .ok (s2.vs, s2.data) ∧ s2.funcs = s.funcs ∧ s2.idefs = s.idefs ∧
                InterpCost.ctlCost c s op = 0) := by
  rcases dispatch_out c s op ops with ho | ⟨hd, hz⟩
  · rw [h] at ho; exact .inl ho.2
  · rw [h] at hd
    have hd := (Option.some.inj hd).symm
    unfold opData at hd
    split at hd <;> cases hd
    rename_i vs d hs
    exact .inr ⟨hs, rfl, rfl, hz⟩

theorem dispatch_err {D} {c : Cfg D} {s : St D} {op : Nat} {ops : List Nat} {e : Err}
    (h : dispatch c s op ops = some (.error e)) : CtlErr e ∨ c.sem op ops (s.vs, s.data) = .error e := by
  rcases dispatch_out c s op ops with ho | ⟨hd, _⟩
  · rw [h] at ho; exact .inl ho
  · rw [h] at hd
    have hd := (Option.some.inj hd).symm
    unfold opData at hd
    split at hd <;> cases hd
    rename_i e1 hs
    exact .inr hs

theorem step_halted {D} (c : Cfg D) (s : St D) (h : s.status ≠ .running) : step c s = s := by
  unfold step
  split
  · rename_i hr; exact absurd hr h
  · rfl

theorem step_eof {D} (c : Cfg D) (s : St D) (hr : s.status = .running) (hd : decode (c.code s.current) s.pc = .eof) :
    step c s = { s with status := .done } := by
  unfold step; simp only [hr, hd]

theorem step_bad {D} (c : Cfg D) (s : St D) (hr : s.status = .running) (hd : decode (c.code s.current) s.pc = .bad) :
    step c s = { s with status := .failed .unexpectedEnd } := by
  unfold step; simp only [hr, hd]

theorem step_running {D} (c : Cfg D) (s : St D) (hr : s.status = .running) :
    (step c s).status ≠ .stuck ∧ (CtlInv c s → CtlInv c (step c s)) ∧
    ((step c s).status = .running → (step c s).count = s.count + 1 ∧ (step c s).count ≤ MAX_RUN_INSTRUCTIONS) ∧
    (step c s).count ≤ s.count + 1 := by
  unfold step
  simp only [hr]
  split
  · refine ⟨by simp, id, by simp, by simp⟩
  · refine ⟨by simp, id, by simp, by simp⟩
  · rename_i op ops ipc next hd
    split
    · rename_i hn; exact absurd hn (dispatch_ne_none _ _ _ _)
    · refine ⟨by simp, id, by simp, by simp⟩
    · rename_i s2 hs2
      have hrel := dispatch_rel hs2
      obtain ⟨hc, hst, hinv⟩ := hrel
      simp only [] at hc hst
      have hinv' : CtlInv c s → CtlInv c s2 := fun h => hinv (by unfold CtlInv at *; exact h)
      split
      · refine ⟨by simp, fun h => by have := hinv' h; unfold CtlInv at *; exact this, by simp, by simp; omega⟩
      · rename_i hle
        refine ⟨by simp [hst], fun h => by have := hinv' h; unfold CtlInv at *; exact this, ?_, by simp; omega⟩
        intro _; simp; omega

/-- reachable-state invariant -/
def Good {D} (c : Cfg D) (s : St D) : Prop :=
  CtlInv c s ∧ s.status ≠ .stuck ∧ (s.status = .running → s.count ≤ MAX_RUN_INSTRUCTIONS) ∧
  s.count ≤ MAX_RUN_INSTRUCTIONS + 1

theorem step_good {D} (c : Cfg D) (s : St D) (h : Good c s) : Good c (step c s) := by
  by_cases hr : s.status = .running
  · obtain ⟨h1, h3, h4, h5⟩ := step_running c s hr
    obtain ⟨g1, g2, g3, g4⟩ := h
    have := g3 hr
    exact ⟨h3 g1, h1, fun hh => (h4 hh).2, by omega⟩
  · rw [step_halted c s hr]; exact h

theorem iter_halted {D} (c : Cfg D) (n : Nat) (s : St D) (h : s.status ≠ .running) : iter c n s = s := by
  induction n with
  | zero => rfl
  | succ n ih => unfold iter; rw [step_halted c s h]; exact ih

theorem iter_induct {D} {c : Cfg D} {P : St D → Prop} (hstep : ∀ s, P s → s.status = .running → P (step c s)) :
    ∀ (n : Nat) (s : St D), P s → P (iter c n s) := by
  intro n
  induction n with
  | zero => intro s h; exact h
  | succ n ih =>
    intro s h
    by_cases hr : s.status = .running
    · exact ih _ (hstep s h hr)
    · rw [iter_halted c _ s hr]; exact h

theorem iter_good {D} (c : Cfg D) (n : Nat) (s : St D) (h : Good c s) : Good c (iter c n s) :=
  iter_induct (fun s h _ => step_good c s h) n s h

theorem iter_running_count {D} (c : Cfg D) (n : Nat) (s : St D)
    (h : (iter c n s).status = .running) : (iter c n s).count = s.count + n ∧ s.status = .running := by
  induction n generalizing s with
  | zero => exact ⟨rfl, h⟩
  | succ n ih =>
    have ⟨h1, h2⟩ := ih (step c s) h
    by_cases hr : s.status = .running
    · have := (step_running c s hr).2.2.1 h2
      simp only [iter] at *
      exact ⟨by omega, hr⟩
    · rw [step_halted c s hr] at h2; exact absurd h2 hr

theorem halts_after {D} (c : Cfg D) (s : St D) (hg : Good c s) (n : Nat) (hn : MAX_RUN_INSTRUCTIONS < s.count + n) :
    (iter c n s).status ≠ .running := by
  intro hr
  have ⟨h1, _⟩ := iter_running_count c n s hr
  have := (iter_good c n s hg).2.2.1 hr
  omega

end FontVerif.InterpLemmas
