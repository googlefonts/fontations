/-
C10 — write → read of one glyph's variation data, with the stream structure of the written tuples
(`StreamOf`).  The tuples read back are matched with the tuples written by Mathlib's `List.Forall₂`
(core has no pointwise relation of two lists).
-/
import FontVerif.Lemmas.GvarData
import Mathlib.Data.List.Forall2

namespace FontVerif.GvarData
open FontVerif.PackedDeltas

/-- the raw tuple `r` read back carries exactly the writer's streams of the input tuple `t`: its point
number bytes (private, or the glyph's shared ones) start with the packed `t.best`, and its delta bytes
are `encodeDeltas` of the selected x deltas followed by the selected y deltas -/
def StreamOf (t : TupleIn) (r : RawTuple) (sd : Option (List Nat)) : Prop :=
  ∃ sq junk xs ys, ppnBytes t.best = some sq ∧ selectDeltas t.best t.deltas = some (xs, ys) ∧
    r.ptsAndDeltas sd = (sq ++ junk, encodeDeltas xs ++ encodeDeltas ys)

theorem built_view_s (ax : Nat) (shared : List (List Int)) (sidx : Option Nat)
    (sharedPts : Option PPN) (sd : Option (List Nat)) (t : TupleIn)
    (hbest : pickBest t.deltas = some t.best)
    (hlen : t.deltas.length ≤ 32767) (hd : ∀ d ∈ t.deltas, inI32 d.1 ∧ inI32 d.2.1)
    (hshared : ∀ i, sidx = some i → i < 4096 ∧ shared[i]? = some t.peak)
    (hsd : ∀ q, sharedPts = some q → ∃ sq junk, ppnBytes q = some sq ∧ sd = some (sq ++ junk))
    (hpk : t.peak.length = ax ∧ ∀ v ∈ t.peak, inI16 v)
    (hit : ∀ s e, t.inter = some (s, e) →
      s.length = ax ∧ e.length = ax ∧ (∀ v ∈ s, inI16 v) ∧ ∀ v ∈ e, inI16 v)
    (h : Header) (d : List Nat) (hb : buildTuple sidx sharedPts t = some (h, d)) :
    ∃ b : Built, b.h = h ∧ b.d = d ∧ b.Ok ax ∧ b.raw.view shared sd = t.view ∧ StreamOf t b.raw sd := by
  obtain ⟨pb, xs, ys, hsel, hpb, hdd, hok, hlow⟩ :=
    buildTuple_ok ax sidx sharedPts t (decide (some t.best ≠ sharedPts)) rfl
      (fun i hi => (hshared i hi).1) hpk hit h d hb
  have hpriv := hok.1.priv_bit
  have hemb := hok.1.emb_bit
  have hpriv' : (h.tupleIndex / 8192 % 2 = 1) ↔ decide (some t.best ≠ sharedPts) = true := hpriv
  have hemb' : (h.tupleIndex / 32768 % 2 = 1) ↔ (if sidx.isSome then none else some t.peak).isSome = true := hemb
  have k1 : (RawTuple.mk h.tupleIndex (if sidx.isSome then none else some t.peak) t.inter d).peakOf shared
      = t.peak := by
    simp only [RawTuple.peakOf]
    cases sidx with
    | none =>
      have : h.tupleIndex / 32768 % 2 = 1 := by simpa using hemb'
      simp [this]
    | some i =>
      obtain ⟨h1, h2⟩ := hlow i rfl
      have : ¬ (h.tupleIndex / 32768 % 2 = 1) := by omega
      simp [this, h1, (hshared i rfl).2]
  have k2 : ((RawTuple.mk h.tupleIndex (if sidx.isSome then none else some t.peak) t.inter d).allPoints sd
        = t.best.isNone ∧
      (RawTuple.mk h.tupleIndex (if sidx.isSome then none else some t.peak) t.inter d).deltas sd
        = listed t.best.isNone t.deltas) ∧
      StreamOf t (Built.mk h d (if sidx.isSome then none else some t.peak) t.inter
        (decide (some t.best ≠ sharedPts))).raw sd := by
    by_cases hp : some t.best = sharedPts
    · have hpf : decide (some t.best ≠ sharedPts) = false := by simp [hp]
      rw [hpf] at hpriv' hpb
      have hbit : ¬ (h.tupleIndex / 8192 % 2 = 1) := by simpa using hpriv'
      obtain ⟨sq, junk, hsq, hsd'⟩ := hsd t.best hp.symm
      simp only [Bool.false_eq_true, if_false, optPpnBytes, Option.some.injEq] at hpb
      subst hpb
      simp only [List.nil_append] at hdd
      obtain ⟨v1, v2, _⟩ := stream_view t.deltas t.best hbest hlen hd sq hsq junk xs ys hsel
      refine ⟨?_, sq, junk, xs, ys, hsq, hsel, ?_⟩
      · simp only [RawTuple.allPoints, RawTuple.deltas, RawTuple.ptsAndDeltas, hbit, if_false, hsd',
          Option.getD_some, hdd, v1, v2, and_self]
      · simp only [Built.raw, RawTuple.ptsAndDeltas, hbit, if_false, hsd', Option.getD_some, hdd]
    · have hpt : decide (some t.best ≠ sharedPts) = true := by simp [hp]
      rw [hpt] at hpriv' hpb
      have hbit : h.tupleIndex / 8192 % 2 = 1 := by simpa using hpriv'
      simp only [if_true, optPpnBytes] at hpb
      obtain ⟨v1, v2, v3⟩ := stream_view t.deltas t.best hbest hlen hd pb hpb
        (encodeDeltas xs ++ encodeDeltas ys) xs ys hsel
      have hdd' : d = pb ++ (encodeDeltas xs ++ encodeDeltas ys) := by rw [hdd]; simp
      refine ⟨?_, pb, encodeDeltas xs ++ encodeDeltas ys, xs, ys, hpb, hsel, ?_⟩
      · simp only [RawTuple.allPoints, RawTuple.deltas, RawTuple.ptsAndDeltas, hbit, if_true, hdd',
          v1, v2, v3, and_self]
      · simp only [Built.raw, RawTuple.ptsAndDeltas, hbit, if_true, hdd', v3]
  refine ⟨_, rfl, rfl, hok, ?_, k2.2⟩
  simp only [Built.raw, RawTuple.view, TupleIn.view, k1, k2.1.1, k2.1.2]

theorem built_view (ax : Nat) (shared : List (List Int)) (sidx : Option Nat)
    (sharedPts : Option PPN) (sd : Option (List Nat)) (t : TupleIn)
    (hbest : pickBest t.deltas = some t.best)
    (hlen : t.deltas.length ≤ 32767) (hd : ∀ d ∈ t.deltas, inI32 d.1 ∧ inI32 d.2.1)
    (hshared : ∀ i, sidx = some i → i < 4096 ∧ shared[i]? = some t.peak)
    (hsd : ∀ q, sharedPts = some q → ∃ sq junk, ppnBytes q = some sq ∧ sd = some (sq ++ junk))
    (hpk : t.peak.length = ax ∧ ∀ v ∈ t.peak, inI16 v)
    (hit : ∀ s e, t.inter = some (s, e) →
      s.length = ax ∧ e.length = ax ∧ (∀ v ∈ s, inI16 v) ∧ ∀ v ∈ e, inI16 v)
    (h : Header) (d : List Nat) (hb : buildTuple sidx sharedPts t = some (h, d)) :
    ∃ b : Built, b.h = h ∧ b.d = d ∧ b.Ok ax ∧ b.raw.view shared sd = t.view := by
  obtain ⟨b, b1, b2, b3, b4, -⟩ := built_view_s ax shared sidx sharedPts sd t hbest hlen hd hshared hsd hpk hit h d hb
  exact ⟨b, b1, b2, b3, b4⟩

theorem built_list_s (ax : Nat) (shared : List (List Int)) (lookup : List Int → Option Nat)
    (hlk : ∀ p i, lookup p = some i → i < 4096 ∧ shared[i]? = some p)
    (sharedPts : Option PPN) (sd : Option (List Nat))
    (hsd : ∀ q, sharedPts = some q → ∃ sq junk, ppnBytes q = some sq ∧ sd = some (sq ++ junk)) :
    ∀ (ts : List TupleIn) (built : List (Header × List Nat)),
      ts.mapM (fun t => buildTuple (lookup t.peak) sharedPts t) = some built →
      (∀ t ∈ ts, TupleOk ax t) →
      ∃ bs : List Built, bs.map (fun b => (b.h, b.d)) = built ∧ (∀ b ∈ bs, b.Ok ax) ∧
        bs.map (fun b => b.raw.view shared sd) = ts.map TupleIn.view ∧
        List.Forall₂ (fun b t => StreamOf t b.raw sd) bs ts := by
  intro ts
  induction ts with
  | nil => intro built h _; simp at h; subst h; exact ⟨[], rfl, by simp, rfl, List.Forall₂.nil⟩
  | cons t ts ih =>
    intro built h hok
    rw [mapM_cons_opt] at h
    cases hb : buildTuple (lookup t.peak) sharedPts t with
    | none => simp [hb] at h
    | some hd =>
      obtain ⟨hh, d⟩ := hd
      simp only [hb] at h
      cases hr : ts.mapM (fun t => buildTuple (lookup t.peak) sharedPts t) with
      | none => simp [hr] at h
      | some built' =>
        simp only [hr, Option.map_some, Option.some.injEq] at h
        subst h
        obtain ⟨bs, e1, e2, e3, e4⟩ := ih built' hr (fun x hx => hok x (by simp [hx]))
        have tok := hok t (by simp)
        obtain ⟨b, b1, b2, b3, b4, b5⟩ := built_view_s ax shared (lookup t.peak) sharedPts sd t tok.best tok.len
          tok.vals (fun i hi => hlk t.peak i hi) hsd tok.peak tok.inter hh d hb
        refine ⟨b :: bs, by simp [b1, b2, e1], ?_, by simp [b4, e3], List.Forall₂.cons b5 e4⟩
        intro x hx
        rcases List.mem_cons.mp hx with rfl | hx
        · exact b3
        · exact e2 x hx

theorem built_list (ax : Nat) (shared : List (List Int)) (lookup : List Int → Option Nat)
    (hlk : ∀ p i, lookup p = some i → i < 4096 ∧ shared[i]? = some p)
    (sharedPts : Option PPN) (sd : Option (List Nat))
    (hsd : ∀ q, sharedPts = some q → ∃ sq junk, ppnBytes q = some sq ∧ sd = some (sq ++ junk)) :
    ∀ (ts : List TupleIn) (built : List (Header × List Nat)),
      ts.mapM (fun t => buildTuple (lookup t.peak) sharedPts t) = some built →
      (∀ t ∈ ts, TupleOk ax t) →
      ∃ bs : List Built, bs.map (fun b => (b.h, b.d)) = built ∧ (∀ b ∈ bs, b.Ok ax) ∧
        bs.map (fun b => b.raw.view shared sd) = ts.map TupleIn.view := by
  intro ts built h hok
  obtain ⟨bs, e1, e2, e3, -⟩ := built_list_s ax shared lookup hlk sharedPts sd hsd ts built h hok
  exact ⟨bs, e1, e2, e3⟩

theorem writeGlyphWith_roundtrip_s (ax : Nat) (shared : List (List Int)) (lookup : List Int → Option Nat)
    (hlk : ∀ p i, lookup p = some i → i < 4096 ∧ shared[i]? = some p)
    (sharedPts : Option PPN)
    (hsp : ∀ q, sharedPts = some q → ∃ sq, ppnBytes q = some sq ∧ ∀ tail, splitRemainder (sq ++ tail) = tail)
    (ts : List TupleIn) (hne : ts ≠ []) (hok : ∀ t ∈ ts, TupleOk ax t)
    (bytes : List Nat) (hw : writeGlyphWith lookup sharedPts ts = some bytes) (rest : List Nat) :
    ∃ g, readGlyph ax (bytes ++ rest) = some g ∧
      g.tuples.map (RawTuple.view shared g.sharedPts) = ts.map TupleIn.view ∧
      List.Forall₂ (fun r t => StreamOf t r g.sharedPts) g.tuples ts := by
  unfold writeGlyphWith at hw
  have hemp : ts.isEmpty = false := by cases ts <;> simp at hne ⊢
  simp only [hemp, Bool.false_eq_true, if_false] at hw
  cases hm : ts.mapM (fun t => buildTuple (lookup t.peak) sharedPts t) with
  | none => simp [hm] at hw
  | some built =>
    simp only [hm] at hw
    obtain ⟨sp, hspb, hsplit⟩ : ∃ sp, optPpnBytes sharedPts = some sp ∧
        (sharedPts.isSome → ∀ tail, splitRemainder (sp ++ tail) = tail) := by
      cases sharedPts with
      | none => exact ⟨[], rfl, by simp⟩
      | some q =>
        obtain ⟨sq, h1, h2⟩ := hsp q rfl
        exact ⟨sq, h1, fun _ => h2⟩
    let sd : Option (List Nat) :=
      if sharedPts.isSome then some (sp ++ (built.flatMap (·.2) ++ rest)) else none
    have hsd : ∀ q, sharedPts = some q → ∃ sq junk, ppnBytes q = some sq ∧ sd = some (sq ++ junk) := by
      intro q hq
      subst hq
      exact ⟨sp, built.flatMap (·.2) ++ rest, hspb, by simp [sd]⟩
    obtain ⟨bs, e1, e2, e3, e4⟩ := built_list_s ax shared lookup hlk sharedPts sd hsd ts built hm hok
    rw [← e1] at hw
    obtain ⟨g, g1, g2, g3⟩ := readGlyph_serialize ax sharedPts bs e2 bytes hw sp hspb hsplit rest
    have hfl : bs.flatMap (·.d) = built.flatMap (·.2) := by
      rw [← e1]; simp [List.flatMap_map]
    have hgs : g.sharedPts = sd := by rw [g2, hfl]
    refine ⟨g, g1, ?_, ?_⟩
    · rw [g3, hgs, List.map_map]
      exact e3
    · rw [g3, hgs]
      exact List.forall₂_map_left_iff.mpr e4

/-- **write → read, one glyph, any choice of shared tuples and shared point numbers** -/
theorem writeGlyphWith_roundtrip (ax : Nat) (shared : List (List Int)) (lookup : List Int → Option Nat)
    (hlk : ∀ p i, lookup p = some i → i < 4096 ∧ shared[i]? = some p)
    (sharedPts : Option PPN)
    (hsp : ∀ q, sharedPts = some q → ∃ sq, ppnBytes q = some sq ∧ ∀ tail, splitRemainder (sq ++ tail) = tail)
    (ts : List TupleIn) (hne : ts ≠ []) (hok : ∀ t ∈ ts, TupleOk ax t)
    (bytes : List Nat) (hw : writeGlyphWith lookup sharedPts ts = some bytes) (rest : List Nat) :
    ∃ g, readGlyph ax (bytes ++ rest) = some g ∧
      g.tuples.map (RawTuple.view shared g.sharedPts) = ts.map TupleIn.view := by
  obtain ⟨g, g1, g2, -⟩ := writeGlyphWith_roundtrip_s ax shared lookup hlk sharedPts hsp ts hne hok bytes hw rest
  exact ⟨g, g1, g2⟩

theorem writeGlyph_roundtrip_s (ax : Nat) (shared : List (List Int)) (hshared : shared.length ≤ 4096)
    (ts : List TupleIn) (hne : ts ≠ []) (hok : ∀ t ∈ ts, TupleOk ax t)
    (bytes : List Nat) (hw : writeGlyph shared ts = some bytes) (rest : List Nat) :
    ∃ g, readGlyph ax (bytes ++ rest) = some g ∧
      g.tuples.map (RawTuple.view shared g.sharedPts) = ts.map TupleIn.view ∧
      List.Forall₂ (fun r t => StreamOf t r g.sharedPts) g.tuples ts := by
  unfold writeGlyph at hw
  cases hc : computeSharedPoints ts with
  | none => simp [hc] at hw
  | some sp =>
    simp only [hc] at hw
    refine writeGlyphWith_roundtrip_s ax shared (lookupIn shared)
      (fun p i h => by obtain ⟨h1, h2⟩ := lookupIn_spec shared p i h; exact ⟨by omega, h2⟩)
      sp ?_ ts hne hok bytes hw rest
    intro q hq
    subst hq
    obtain ⟨t, ht, hb⟩ := computeSharedPoints_mem ts q hc
    have tok := hok t ht
    rw [← hb]
    exact sharedOk_best _ _ tok.best tok.len

/-- `GlyphVariations::build` + `write_into` → reader, on well-formed `GlyphDeltas` -/
theorem writeGlyph_roundtrip (ax : Nat) (shared : List (List Int)) (hshared : shared.length ≤ 4096)
    (ts : List TupleIn) (hne : ts ≠ []) (hok : ∀ t ∈ ts, TupleOk ax t)
    (bytes : List Nat) (hw : writeGlyph shared ts = some bytes) (rest : List Nat) :
    ∃ g, readGlyph ax (bytes ++ rest) = some g ∧
      g.tuples.map (RawTuple.view shared g.sharedPts) = ts.map TupleIn.view := by
  obtain ⟨g, g1, g2, -⟩ := writeGlyph_roundtrip_s ax shared hshared ts hne hok bytes hw rest
  exact ⟨g, g1, g2⟩

end FontVerif.GvarData
