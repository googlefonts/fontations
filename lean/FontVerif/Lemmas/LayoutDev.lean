/-
Helper lemmas for C16: the device-offset bookkeeping of `split_off_ppf2` / `copy_value_rec`
(per-record re-slicing of the subtable's offset list, `seen_offsets`, `next_device_offset`)
re-links every device offset of every copied value record to the object it pointed to.
-/
import FontVerif.Lemmas.LayoutSplit
namespace FontVerif.Layout

theorem copyDevs_drop (offs : List Nat) (a : Nat) :
    ∀ (fl : List Bool) (s : Nat), a + s + countDevs fl ≤ offs.length →
      copyDevs (offs.drop a) s fl = some (resolveDevs offs (a + s) fl, s + countDevs fl) := by
  intro fl
  induction fl with
  | nil => intro s _; simp [copyDevs, resolveDevs, countDevs]
  | cons f fs ih =>
    intro s h
    cases f with
    | true =>
      have hc : countDevs (true :: fs) = countDevs fs + 1 := by simp [countDevs]
      rw [hc] at h
      have hlt : a + s < offs.length := by omega
      have hget : (offs.drop a)[s]? = some offs[a + s] := by
        rw [List.getElem?_drop, List.getElem?_eq_getElem hlt]
      have := ih (s + 1) (by omega)
      simp only [copyDevs, hget, this, resolveDevs, hc]
      rw [List.getElem?_eq_getElem hlt]
      have e1 : a + (s + 1) = a + s + 1 := by omega
      have e2 : s + 1 + countDevs fs = s + (countDevs fs + 1) := by omega
      rw [e1, e2]
    | false =>
      have hc : countDevs (false :: fs) = countDevs fs := by simp [countDevs]
      rw [hc] at h
      have := ih s h
      simp only [copyDevs, this, resolveDevs, hc]

theorem copyClass2Rec_eq {S : Type} (offs : List Nat) (first seen : Nat) (c : RawVR S × RawVR S)
    (h : first + seen + cellDevs c ≤ offs.length) :
    copyClass2Rec offs first seen c = some (resolveCell offs (first + seen) c, seen + cellDevs c) := by
  unfold cellDevs at h
  have h1 : first + seen ≤ offs.length := by omega
  have hd1 := copyDevs_drop offs (first + seen) c.1.devs 0 (by omega)
  have hlen : (offs.drop (first + seen)).length = offs.length - (first + seen) := List.length_drop
  have h2 : 0 + countDevs c.1.devs ≤ (offs.drop (first + seen)).length := by omega
  have hdd : (offs.drop (first + seen)).drop (0 + countDevs c.1.devs) =
      offs.drop (first + seen + countDevs c.1.devs) := by
    rw [List.drop_drop]; congr 1; omega
  have hd2 := copyDevs_drop offs (first + seen + countDevs c.1.devs) c.2.devs 0 (by omega)
  simp only [Nat.add_zero, Nat.zero_add] at hd1 h2 hdd hd2
  simp only [copyClass2Rec, sliceFrom, h1, ↓reduceIte, copyValueRec, hd1, h2, hdd, hd2, resolveCell,
    cellDevs]
  congr 2
  omega

theorem copyCells_eq {S : Type} (offs : List Nat) (first : Nat) :
    ∀ (cs : List (RawVR S × RawVR S)) (seen : Nat), first + seen + rowDevs cs ≤ offs.length →
      copyCells offs first seen cs = some (resolveCells offs (first + seen) cs, seen + rowDevs cs) := by
  intro cs
  induction cs with
  | nil => intro seen _; simp [copyCells, resolveCells, rowDevs]
  | cons c cs ih =>
    intro seen h
    have hr : rowDevs (c :: cs) = cellDevs c + rowDevs cs := by simp [rowDevs]
    rw [hr] at h
    have h1 := copyClass2Rec_eq offs first seen c (by omega)
    have h2 := ih (seen + cellDevs c) (by omega)
    simp only [copyCells, h1, h2, resolveCells, hr]
    have e1 : first + (seen + cellDevs c) = first + seen + cellDevs c := by omega
    have e2 : seen + cellDevs c + rowDevs cs = seen + (cellDevs c + rowDevs cs) := by omega
    rw [e1, e2]

theorem copyRows_eq {S : Type} (offs : List Nat) (first : Nat) :
    ∀ (rows : List (List (RawVR S × RawVR S))) (seen : Nat),
      first + seen + rowsDevs rows ≤ offs.length →
      copyRows offs first seen rows =
        some (resolveRows offs (first + seen) rows, seen + rowsDevs rows) := by
  intro rows
  induction rows with
  | nil => intro seen _; simp [copyRows, resolveRows, rowsDevs]
  | cons r rs ih =>
    intro seen h
    have hr : rowsDevs (r :: rs) = rowDevs r + rowsDevs rs := by simp [rowsDevs]
    rw [hr] at h
    have h1 := copyCells_eq offs first r seen (by omega)
    have h2 := ih (seen + rowDevs r) (by omega)
    simp only [copyRows, h1, h2, resolveRows, hr]
    have e1 : first + (seen + rowDevs r) = first + seen + rowDevs r := by omega
    have e2 : seen + rowDevs r + rowsDevs rs = seen + (rowDevs r + rowsDevs rs) := by omega
    rw [e1, e2]

theorem rowsDevs_append {S : Type} (a b : List (List (RawVR S × RawVR S))) :
    rowsDevs (a ++ b) = rowsDevs a + rowsDevs b := by
  simp [rowsDevs]

theorem resolveRows_length {S : Type} (offs : List Nat) :
    ∀ (a : List (List (RawVR S × RawVR S))) (k : Nat), (resolveRows offs k a).length = a.length := by
  intro a
  induction a with
  | nil => intro k; rfl
  | cons r rs ih => intro k; simp [resolveRows, ih]

theorem resolveRows_take {S : Type} (offs : List Nat) :
    ∀ (rows : List (List (RawVR S × RawVR S))) (k n : Nat),
      (resolveRows offs k rows).take n = resolveRows offs k (rows.take n)
  | [], _, _ => by rw [List.take_nil, resolveRows, List.take_nil]
  | _ :: _, _, 0 => rfl
  | r :: rs, k, n + 1 => by
    rw [resolveRows, List.take_succ_cons, List.take_succ_cons, resolveRows, resolveRows_take offs rs]

/-- dropping rows moves the start by the device offsets of the rows dropped -/
theorem resolveRows_drop {S : Type} (offs : List Nat) :
    ∀ (rows : List (List (RawVR S × RawVR S))) (k lo : Nat),
      (resolveRows offs k rows).drop lo = resolveRows offs (k + rowsDevs (rows.take lo)) (rows.drop lo)
  | _, _, 0 => rfl
  | [], _, _ + 1 => by simp only [resolveRows, List.drop_nil]
  | r :: rs, k, lo + 1 => by
    rw [resolveRows, List.drop_succ_cons, List.drop_succ_cons, List.take_succ_cons, resolveRows_drop offs rs,
      Nat.add_assoc]
    rfl

/-- a slice of the resolved matrix is the resolution of the slice, started at the number of
device offsets before it -/
theorem resolveRows_slice {S : Type} (offs : List Nat) (rows : List (List (RawVR S × RawVR S)))
    (k lo n : Nat) :
    ((resolveRows offs k rows).drop lo).take n =
      resolveRows offs (k + rowsDevs (rows.take lo)) ((rows.drop lo).take n) := by
  rw [resolveRows_drop, resolveRows_take]

theorem rowsDevs_take_le {S : Type} (rows : List (List (RawVR S × RawVR S))) (n : Nat) :
    rowsDevs (rows.take n) ≤ rowsDevs rows := by
  have : rowsDevs rows = rowsDevs (rows.take n) + rowsDevs (rows.drop n) := by
    rw [← rowsDevs_append, List.take_append_drop]
  omega

theorem rowsDevs_take_add {S : Type} (rows : List (List (RawVR S × RawVR S))) {lo hi : Nat}
    (h : lo ≤ hi) :
    rowsDevs (rows.take lo) + rowsDevs ((rows.drop lo).take (hi - lo)) = rowsDevs (rows.take hi) := by
  rw [← rowsDevs_append]
  congr 1
  have : hi = lo + (hi - lo) := by omega
  rw [this, List.take_add]
  simp

/-- one `split_off_ppf2` call with the `next_device_offset` the loop hands it re-links every device
offset exactly as the unsplit subtable has it -/
theorem splitOffPpf2G_eq {S : Type} (t : PairPos2G S) (hwf : t.WF) {lo hi : Nat} (hlh : lo ≤ hi) :
    ∃ a, splitOffPpf2 t.resolved lo hi = some a ∧
      splitOffPpf2G t lo hi (3 + rowsDevs (t.tbl.rows.take lo)) =
        some (a, rowsDevs ((t.tbl.rows.drop lo).take (hi - lo))) := by
  have hnl : ¬ hi < lo := by omega
  unfold PairPos2G.WF at hwf
  have hle : rowsDevs (t.tbl.rows.take hi) ≤ rowsDevs t.tbl.rows := rowsDevs_take_le _ _
  have hadd := rowsDevs_take_add t.tbl.rows hlh
  have hcopy := copyRows_eq t.offsets (3 + rowsDevs (t.tbl.rows.take lo))
    ((t.tbl.rows.drop lo).take (hi - lo)) 0 (by omega)
  simp only [Nat.add_zero, Nat.zero_add] at hcopy
  simp only [splitOffPpf2G, splitOffPpf2, if_neg hnl]
  refine ⟨_, rfl, ?_⟩
  simp only [hcopy, PairPos2G.resolved, resolveRows_slice]
  rfl

theorem splitPpf2GGo_eq {S : Type} (t : PairPos2G S) (hwf : t.WF) :
    ∀ (pts : List Nat) (prev : Nat), (prev :: pts).Pairwise (· ≤ ·) →
      splitPpf2GGo t prev (3 + rowsDevs (t.tbl.rows.take prev)) pts =
        splitLoop (splitOffPpf2 t.resolved) prev pts := by
  intro pts
  induction pts with
  | nil => intro prev _; rfl
  | cons p ps ih =>
    intro prev hpw
    have hpw' := List.pairwise_cons.mp hpw
    have hle : prev ≤ p := hpw'.1 p (List.mem_cons_self ..)
    obtain ⟨a, ha, hg⟩ := splitOffPpf2G_eq t hwf hle
    have hadd := rowsDevs_take_add t.tbl.rows hle
    have e : 3 + rowsDevs (t.tbl.rows.take prev) + rowsDevs ((t.tbl.rows.drop prev).take (p - prev)) =
        3 + rowsDevs (t.tbl.rows.take p) := by omega
    simp only [splitPpf2GGo, hg, e, ih p hpw'.2, splitLoop, ha]
    cases splitLoop (splitOffPpf2 t.resolved) p ps <;> rfl

end FontVerif.Layout
