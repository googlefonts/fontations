/-
`compute_delta` on a store produced by the builder (`encodeAll`) is the weighted sum `denseSum` of the added deltas
over ALL canonical regions: the pruned, renumbered region list and the reordered active columns do not show.
-/
import FontVerif.Lemmas.IvsLemmas
import FontVerif.Lemmas.DeltaLemmas
namespace FontVerif.Ivs
open FontVerif.Tent

def sumOver (h : Nat → Int) : List Nat → Int
  | [] => 0
  | r :: l => h r + sumOver h l

theorem sumOver_append (h : Nat → Int) (a b : List Nat) :
    sumOver h (a ++ b) = sumOver h a + sumOver h b := by
  induction a with
  | nil => simp [sumOver]
  | cons x a ih => simp only [List.cons_append, sumOver, ih]; omega

theorem specSum_map (regions : List (List (Int × Int × Int))) (coords : List Int) (g : Nat → Int)
    (f : Nat → Nat) : ∀ (l : List Nat),
    specSum regions coords (l.map g) (l.map f) =
      sumOver (fun r => g r * computeScalar (regions.getD (f r) []) coords) l := by
  intro l
  induction l with
  | nil => rfl
  | cons r l ih => simp only [List.map_cons, specSum, sumOver, ih]

theorem sumOver_congr (h h' : Nat → Int) : ∀ (l : List Nat), (∀ r ∈ l, h r = h' r) →
    sumOver h l = sumOver h' l := by
  intro l
  induction l with
  | nil => intro _; rfl
  | cons r l ih =>
    intro hh
    simp only [sumOver]
    rw [hh r (by simp), ih (fun x hx => hh x (by simp [hx]))]

/-- columns with offset (generalises `idxWith` for induction). -/
def idxWithK (b : Nat) (s : List Nat) (k : Nat) : List Nat :=
  (s.zipIdx k).filterMap (fun p => if p.1 = b then some p.2 else none)

theorem idxWith_eq (b : Nat) (s : List Nat) : idxWith b s = idxWithK b s 0 := rfl

theorem sum_split (h : Nat → Int) : ∀ (s : List Nat) (k : Nat), ShapeOk s →
    (∀ i, (hi : i < s.length) → s[i] = 0 → h (k + i) = 0) →
    sumOver h (List.range' k s.length) =
      sumOver h (idxWithK 4 s k) + sumOver h (idxWithK 2 s k) + sumOver h (idxWithK 1 s k) := by
  intro s
  induction s with
  | nil => intro k _ _; simp [idxWithK, sumOver]
  | cons a s ih =>
    intro k hs hz
    have hs' : ShapeOk s := fun b hb => hs b (by simp [hb])
    have ih' := ih (k + 1) hs' (by
      intro i hi h0
      have := hz (i + 1) (by simpa using hi) (by simpa using h0)
      rw [← this]; congr 1; omega)
    simp only [List.length_cons, List.range'_succ, sumOver, ih']
    unfold idxWithK
    simp only [List.zipIdx_cons, List.filterMap_cons]
    rcases hs a (by simp) with h0 | h1 | h2 | h4
    · have hk := hz 0 (by simp) (by simpa using h0)
      simp only [Nat.add_zero] at hk
      subst h0; simp [hk]
    · subst h1; simp [sumOver]; omega
    · subst h2; simp [sumOver]; omega
    · subst h4; simp [sumOver]; omega

theorem sumOver_indices (h : Nat → Int) (s : List Nat) (hs : ShapeOk s)
    (hz : ∀ i, (hi : i < s.length) → s[i] = 0 → h i = 0) :
    sumOver h (indices s) = sumOver h (List.range s.length) := by
  unfold indices
  rw [sumOver_append, sumOver_append, idxWith_eq, idxWith_eq, idxWith_eq, List.range_eq_range']
  rw [sum_split h s 0 hs (by intro i hi h0; simpa using hz i hi h0)]

/-- the weighted sum over *all* canonical regions of a dense row. -/
def denseSum (canon : List (List (Int × Int × Int))) (coords : List Int) (row : List Int) : Int :=
  specSum canon coords row (List.range row.length)

theorem denseSum_eq (canon : List (List (Int × Int × Int))) (coords : List Int) (row : List Int) :
    denseSum canon coords row =
      sumOver (fun r => row.getD r 0 * computeScalar (canon.getD r []) coords) (List.range row.length) := by
  unfold denseSum
  conv => lhs; arg 3; rw [← map_getD_range row 0]
  have : List.range row.length = (List.range row.length).map id := by simp
  conv => lhs; arg 4; rw [this]
  rw [specSum_map]
  rfl

theorem getD_map_idxOf {β} (rm : List Nat) (f : Nat → β) (d : β) {x : Nat} (hx : x ∈ rm) :
    (rm.map f).getD (rm.idxOf x) d = f x := by
  have hl : rm.idxOf x < rm.length := List.idxOf_lt_length_iff.mpr hx
  rw [List.getD_eq_getElem?_getD, List.getElem?_map, List.getElem?_eq_getElem hl, List.getElem_idxOf hl]
  rfl

theorem specSum_pruned (regions : List (List (Int × Int × Int))) (used : List Nat) (coords : List Int)
    (g : Nat → Int) (ri : Nat → Nat) (cols : List Nat) (hmem : ∀ c ∈ cols, ri c ∈ used) :
    specSum (used.map fun r => regions.getD r []) coords (cols.map g) (cols.map fun c => used.idxOf (ri c)) =
      sumOver (fun c => g c * computeScalar (regions.getD (ri c) []) coords) cols := by
  rw [specSum_map]
  exact sumOver_congr _ _ cols (fun c hc => by
    rw [getD_map_idxOf used (fun r => regions.getD r []) [] (hmem c hc)])

theorem pos_computeDelta (n : Nat) (canon : List (List (Int × Int × Int)))
    (encs : List Enc) (hwf : EncsWf n encs) (hn : n < 32768)
    (ei mi : Nat) (e' : Enc) (m : Member) (he : (chunked encs)[ei]? = some e')
    (hm : e'.2[mi]? = some m) (coords : List Int) (hne : coords ≠ []) :
    computeDelta ((encodeAll n encs).usedRegions.map fun r => canon.getD r [])
      (encodeAll n encs).subtables ei mi coords =
      .ok (roundAccum (denseSum canon coords (dense m.1 n))) := by
  obtain ⟨hlen, hshape, hcov, hused, st, hsub, _, hri, hdata, hdec⟩ :=
    built_subtable n encs hwf hn ei mi e' m he hm
  obtain ⟨s, members⟩ := e'
  simp only at hlen hshape hcov hused hri hdec
  generalize (encodeAll n encs).usedRegions = used at *
  rw [computeDelta_of_loopOk _ _ _ _ _ st hne hsub (Nat.le_of_not_lt hdata) (by
    rw [hdec, hri]
    exact loopOk_of_lt _ _ _ (by simp [rawRow]) (fun ri hri => by
      obtain ⟨r, hr, rfl⟩ := List.mem_map.mp hri
      rw [List.length_map]; exact List.idxOf_lt_length_iff.mpr (hused r hr)))]
  congr 2
  rw [hdec, hri, rawRow]
  refine (specSum_pruned canon used coords _ id _ hused).trans ?_
  rw [denseSum_eq, dense_length, show List.range n = List.range s.length by rw [hlen]]
  apply sumOver_indices _ s hshape
  intro i hi h0
  have := hcov.2 i
  rw [List.getD_eq_getElem?_getD (l := s), List.getElem?_eq_getElem hi, h0] at this
  simp only [Option.getD_some] at this
  rw [forVal_le_zero this]; simp

theorem encodeAll_delta (n : Nat) (canon : List (List (Int × Int × Int)))
    (encs : List Enc) (hwf : EncsWf n encs) (hn : n < 32768)
    (hsub : (encodeAll n encs).subtables.length ≤ 65536) (coords : List Int) (hne : coords ≠ []) :
    ∀ id o i, (id, o, i) ∈ (encodeAll n encs).remap → ∃ e ∈ encs, ∃ m ∈ e.2, m.2 = id ∧
      computeDelta ((encodeAll n encs).usedRegions.map fun r => canon.getD r [])
        (encodeAll n encs).subtables o i coords =
        .ok (roundAccum (denseSum canon coords (dense m.1 n))) := by
  rw [subtables_length] at hsub
  intro id o i h
  obtain ⟨e', m, hei, hmi, hid⟩ := (mem_remap n encs hsub).mp h
  obtain ⟨⟨e, he, hme⟩, _⟩ := chunk_member hei hmi
  exact ⟨e, he, m, hme, hid, pos_computeDelta n canon encs hwf hn _ _ e' m hei hmi coords hne⟩

end FontVerif.Ivs
