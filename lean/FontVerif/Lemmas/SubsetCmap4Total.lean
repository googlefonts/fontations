/-
Helper lemmas for C17 (Model/SubsetCmap.lean): with the implemented cost heuristic `to_ranges` and the
array writer never fail on a list the plan can produce (no `u16` overflow, every code point of a
glyphIdArray range found), and the subtable fits 64 KiB for up to 6551 characters.
-/
import FontVerif.Lemmas.SubsetCmap4Top
namespace FontVerif.SubsetCmap
open FontVerif.Cmap

theorem commit_total (st : St) (final : Bool) (h : st.endCp + 1 = st.runStart + st.runLength)
    (hl : st.runLength ≤ 32767) : ∃ c, commit implHeur st final = some c := by
  have hst : implHeur.splitTail st final =
      some (decide ((st.endCp - st.runStart + 1) * 2 ≥ (if final then 8 else splitCost st.first))) := by
    have : ¬ (st.endCp - st.runStart + 1) * 2 > 65535 := by omega
    simp [implHeur, this]
  unfold commit
  simp only [hst]
  cases decide ((st.endCp - st.runStart + 1) * 2 ≥ (if final then 8 else splitCost st.first)) <;>
    split <;> exact ⟨_, rfl⟩

/-- the two loops from any state: no overflow check fires and no cost decision fails while the code points still to be
read ascend from `endCp + 1` within the BMP, the glyph ids stay below 0xFFFF and the run cannot pass 32767 pairs -/
theorem go_total : ∀ (l : Mapping) (st : St), AscFrom (st.endCp + 1) l →
    (∀ p ∈ l, p.1 ≤ 0xFFFF ∧ p.2 < 0xFFFF) → st.lastGid < 0xFFFF → st.runLength + l.length ≤ 32767 →
    st.endCp + 1 = st.runStart + st.runLength → ∃ rs, go implHeur st l = some rs := by
  intro l
  induction l with
  | nil =>
    intro st _ _ _ hlen hrun
    obtain ⟨c, hc⟩ := commit_total st true hrun hlen
    rw [go, hc]
    exact ⟨_, rfl⟩
  | cons p rest ih =>
    intro st hasc hb hlg hlen hrun
    obtain ⟨c, g⟩ := p
    obtain ⟨hce, hasc'⟩ := hasc
    obtain ⟨hc, hg⟩ := hb (c, g) List.mem_cons_self
    have hb' : ∀ q ∈ rest, q.1 ≤ 0xFFFF ∧ q.2 < 0xFFFF := fun q hq => hb q (List.mem_cons_of_mem _ hq)
    rw [List.length_cons] at hlen
    -- a state that has just read `(c, g)` and opened a run there
    have next : ∀ (cm : List Range) (st' : St), st'.endCp = c → st'.lastGid = g → st'.runLength = 1 → st'.runStart = c →
        ∃ rs, (match go implHeur st' rest with
               | none => none
               | some r => some (cm ++ r)) = some rs := by
      intro cm st' e1 e2 e3 e4
      obtain ⟨r, hr⟩ := ih st' (by rw [e1]; exact hasc') hb' (by rw [e2]; exact hg) (by omega) (by omega)
      exact ⟨cm ++ r, by rw [hr]⟩
    obtain ⟨c1, hc1⟩ := commit_total st true hrun (by omega)
    obtain ⟨c2, hc2⟩ := commit_total st false hrun (by omega)
    rw [go_cons _ st _ _ _ hc (Nat.le_of_lt hg), if_neg (by omega)]
    by_cases hbrk : c ≠ st.endCp + 1
    · rw [if_pos hbrk, hc1, initSt_eq hc (Nat.le_of_lt hg)]
      exact next c1 _ rfl rfl rfl rfl
    have hnext : c = st.endCp + 1 := Decidable.not_not.mp hbrk
    rw [if_neg hbrk, if_neg (by omega)]
    by_cases hcont : g = st.lastGid + 1
    · rw [if_pos hcont, if_neg (by omega)]
      exact ih _ hasc' hb' hg (by simp only; omega) (by simp only; omega)
    rw [if_neg hcont]
    have hca : implHeur.commitAtRun st = some (decide (st.runLength * 2 ≥ splitCost st.first)) := by
      have : ¬ st.runLength * 2 > 65535 := by omega
      simp [implHeur, this]
    rw [hca]
    cases decide (st.runLength * 2 ≥ splitCost st.first) with
    | true => simp only [if_true, hc2]; exact next c2 _ rfl rfl rfl rfl
    | false => exact next [] _ rfl rfl rfl rfl

theorem toRanges_total (l : Mapping) (hasc : Ascending l) (hb : ∀ p ∈ l, p.1 ≤ 0xFFFF ∧ p.2 < 0xFFFF)
    (hlen : l.length ≤ 32767) : ∃ rs, toRanges l = some rs := by
  cases l with
  | nil => exact ⟨_, rfl⟩
  | cons p rest =>
    obtain ⟨c, g⟩ := p
    obtain ⟨hc, hg⟩ := hb (c, g) List.mem_cons_self
    have hp := List.pairwise_cons.1 hasc
    rw [toRanges, toRangesWith, initSt_eq hc (Nat.le_of_lt hg)]
    exact go_total rest _ (Ascending.ascFrom rest _ hp.2 hp.1) (fun q hq => hb q (List.mem_cons_of_mem _ hq)) hg
      (by rw [List.length_cons] at hlen; simp only; omega) rfl

theorem build4_total (l : Mapping) (hd : InDomain l) (hb : ∀ p ∈ l, p.1 ≤ 0xFFFF) (hg : ∀ p ∈ l, p.2 < 0xFFFF)
    (hne : l ≠ []) (hlen : l.length ≤ 6551) : ∃ t, build4 l = .ok t := by
  have hn : 0 < l.length := List.length_pos_iff.2 hne
  have hm := mapOkX_of_list l ⟨hd.asc, hb, hd.gid⟩
  obtain ⟨rs, hrs⟩ := toRanges_total l hd.asc (fun p hp => ⟨hb p hp, hg p hp⟩) (by omega)
  obtain ⟨body, rows, g, hr, _, hrl, hbl, hgl, heq, _⟩ := build4With_rows implHeur l ⟨hd.asc, hb, hd.gid⟩ hne rs hrs
  have hsl := sentinel_length_le (cpAt l.toArray (l.length - 1))
  have h1 : ¬ rs.length > 65535 := by rw [hr, List.length_append]; omega
  have h2 : ¬ length4 (Cmap4.ofRowsX (sentinel (cpAt l.toArray (l.length - 1))).length rows g) > 65535 := by
    simp only [length4, Cmap4.ofRowsX, List.size_toArray, List.length_map, List.length_append, List.length_replicate]
    omega
  exact ⟨_, by rw [build4, heq, if_neg h1, if_neg h2]⟩

end FontVerif.SubsetCmap
