/-
Helper lemmas for C05 (Model/Graph.lean): on an acyclic graph all of whose objects are reachable from the root both sorts
return: the loops stay within their fuel, the final "cycle or something?" check passes, and the preparation walks of
`sort_shortest_distance` (`update_distances`, `assign_space_0`) stay within their fuel.
-/
import FontVerif.Model.Graph
import FontVerif.Lemmas.GraphTopo
namespace FontVerif.Graph

theorem totalLinks_eq (g : Graph) : totalLinks g = (g.objects.map (fun kv => kv.2.links.length)).sum := by
  unfold totalLinks
  have key : ∀ (objs : List (Nat × Obj)) (n : Nat),
      objs.foldl (fun n kv => n + kv.2.links.length) n = n + (objs.map (fun kv => kv.2.links.length)).sum := by
    intro objs
    induction objs with
    | nil => intro n; simp
    | cons kv rest ih => intro n; simp only [List.foldl_cons, List.map_cons, List.sum_cons]; rw [ih]; omega
  rw [key]; simp

theorem totalLinks_keys (g : Graph) (hK : g.objects.keys.Nodup) :
    totalLinks g = (g.objects.keys.map (fun k => (g.obj k).links.length)).sum := by
  rw [totalLinks_eq]
  unfold Map.keys
  rw [List.map_map]
  congr 1
  apply List.map_congr_left
  intro kv hkv
  simp only [Function.comp, Graph.obj, Map.find?_of_mem_nodup g.objects hK kv hkv, Option.getD_some]

theorem contains_fromObjects (objs : Map Obj) (root c : Nat) (h : c ∈ objs.keys) :
    Map.contains (Graph.fromObjects objs root).nodes c = true :=
  (Map.contains_iff _ _).mpr (keys_fromObjects objs root ▸ h)

theorem sum_map_one_add (xs : List Nat) (f : Nat → Nat) :
    (xs.map (fun k => 1 + f k)).sum = xs.length + (xs.map f).sum := by
  induction xs with
  | nil => simp
  | cons x rest ih => simp only [List.map_cons, List.sum_cons, List.length_cons, ih]; omega

theorem updDistFold_length (visited : Set) (nd : Nat) (links : List Link) (acc : List (Nat × Nat) × Map Node) :
    (links.foldl (updDistVisitLink visited nd) acc).1.length ≤ acc.1.length + links.length := by
  induction links generalizing acc with
  | nil => simp
  | cons l rest ih =>
    simp only [List.foldl_cons, List.length_cons]
    have hstep : (updDistVisitLink visited nd acc l).1.length ≤ acc.1.length + 1 := by
      unfold updDistVisitLink
      split
      · omega
      · simp only []
        split
        · simp only []
          rw [(insertBy_perm distBefore _ acc.1).length_eq]
          simp
        · omega
    have := ih (updDistVisitLink visited nd acc l)
    omega

theorem space0_queue_len (links : List Link) (q : List Nat) :
    (links.foldl (fun q l => if l.width ≠ 4 then q ++ [l.target] else q) q).length ≤ q.length + links.length := by
  induction links generalizing q with
  | nil => simp
  | cons l rest ih =>
    simp only [List.foldl_cons, List.length_cons]
    by_cases hw : l.width ≠ 4
    · rw [if_pos hw]
      have := ih (q ++ [l.target])
      simp only [List.length_append, List.length_cons, List.length_nil] at this
      omega
    · rw [if_neg hw]
      have := ih q
      omega

def LinksHaveNodes (G : Graph) : Prop := ∀ x, ∀ l ∈ (G.obj x).links, Map.contains G.nodes l.target = true

structure Acyclic (G : Graph) : Prop where
  rank : ∃ rank : Nat → Nat, ∀ x, ∀ l ∈ (G.obj x).links, rank x < rank l.target

/-- what the loops need of the graph they run on to return with the cycle check passed: exact in-degrees, node ids
closed under links, a root nobody targets, every object reachable from it, no cycle -/
structure Sortable (G : Graph) : Prop where
  deg : DegExact G
  nodes : LinksHaveNodes G
  root : G.indeg G.root = 0
  noparent : ∀ p, ¬ IsParent G p G.root
  reach : ∀ k ∈ G.objects.keys, Reach G G.root k
  acyclic : Acyclic G

theorem reach_root_or_node (G : Graph) (hcl : LinksHaveNodes G) (x : Nat) (h : Reach G G.root x) :
    x = G.root ∨ Map.contains G.nodes x = true := by
  cases h with
  | refl => left; rfl
  | step l _ hl => right; exact hcl _ l hl

theorem reach_rank (G : Graph) (rank : Nat → Nat) (hrank : ∀ x, ∀ l ∈ (G.obj x).links, rank x < rank l.target)
    (a b : Nat) (h : Reach G a b) : rank a ≤ rank b := by
  induction h with
  | refl => exact Nat.le_refl _
  | step l _ hl ih => have := hrank _ l hl; omega

structure RemInv (removed : Map Nat) : Prop where
  pos : ∀ c k, removed.find? c = some k → 1 ≤ k
  srt : removed.keys.Pairwise (· < ·)

theorem remInv_insert (removed : Map Nat) (t : Nat) (h : RemInv removed) :
    RemInv (removed.insert t ((removed.find? t).getD 0 + 1)) := by
  constructor
  · intro c k hk
    rw [Map.find?_insert] at hk
    split at hk
    · simp only [Option.some.injEq] at hk; omega
    · exact h.pos c k hk
  · exact Map.insert_sorted _ _ _ h.srt

theorem rem_inv (g : Graph) : Inv g (fun _ r _ => RemInv r) where
  perm := fun _ h => h
  step := fun id rest r o h => by
    rw [visitAll_snd]
    exact foldl_inv RemInv tally _ (fun r l _ hr => remInv_insert r l.target hr) r h

theorem remInv_mem_find (removed : Map Nat) (h : RemInv removed) (kv : Nat × Nat) (hm : kv ∈ removed) :
    removed.find? kv.1 = some kv.2 := by
  apply Map.find?_of_mem_nodup removed ?_ kv hm
  exact h.srt.imp (fun hlt => Nat.ne_of_lt hlt)

theorem enum_bound (G : Graph) (hcl : LinksHaveNodes G) (queue : List Nat) (removed : Map Nat) (orderRev : List Nat)
    (h : EnumInv G queue removed orderRev) : (queue ++ orderRev).length ≤ G.nodes.length + 1 := by
  have := h.nodup.length_le_of_subset (l₂ := G.root :: G.nodes.keys) (by
    intro x hx
    rcases reach_root_or_node G hcl x (h.reach x hx) with h1 | h1
    · rw [h1]; exact List.mem_cons_self
    · exact List.mem_cons_of_mem _ ((Map.contains_iff _ _).mp h1))
  simpa [Map.keys] using this

theorem kahnLoop_fuel (G : Graph) (hcl : LinksHaveNodes G) (hroot : G.indeg G.root = 0) (fuel : Nat) (st : SortSt)
    (hinv : EnumInv G st.queue st.removed st.orderRev) (hf : G.nodes.length + 2 ≤ fuel + st.orderRev.length) :
    ∃ st', kahnLoop G fuel st = some st' := by
  induction fuel generalizing st with
  | zero =>
    have := enum_bound G hcl _ _ _ hinv
    simp only [List.length_append] at this
    omega
  | succ n ih =>
    unfold kahnLoop
    split
    · exact ⟨st, rfl⟩
    · rename_i id rest hq
      simp only []
      rw [hq] at hinv
      obtain ⟨e, p⟩ := kahnFold_visit G (G.obj id).links (rest, st.removed)
      generalize (G.obj id).links.foldl (kahnVisitLink G) (rest, st.removed) = res at e p
      obtain ⟨queue, removed⟩ := res
      refine ih _ ((enum_inv G hroot).perm p.symm ?_) (by simp only [List.length_cons]; omega)
      rw [show removed = _ from e]
      exact (enum_inv G hroot).step id rest st.removed st.orderRev hinv

theorem shortLoop_fuel {H G : Graph} (hG : Annot H G) (hcl : LinksHaveNodes H) (hroot : H.indeg H.root = 0) (fuel : Nat)
    (st : ShortSt) (hinv : EnumInv H (st.queue.map (·.id)) st.removed st.orderRev)
    (hf : H.nodes.length + 2 ≤ fuel + st.orderRev.length) : ∃ st', shortLoop G fuel st = some st' := by
  induction fuel generalizing st with
  | zero =>
    have := enum_bound H hcl _ _ _ hinv
    simp only [List.length_append] at this
    omega
  | succ n ih =>
    unfold shortLoop
    split
    · exact ⟨st, rfl⟩
    · rename_i e rest hq
      simp only []
      rw [hq, List.map_cons] at hinv
      obtain ⟨e', p⟩ := shortFold_visit H G hG.indeg (G.obj e.id).links (rest, st.removed, st.objOrder)
      generalize (G.obj e.id).links.foldl (shortVisitLink G) (rest, st.removed, st.objOrder) = res at e' p
      obtain ⟨queue, removed, oo⟩ := res
      refine ih _ ((enum_inv H hroot).perm p.symm ?_) (by simp only [List.length_cons]; omega)
      rw [show removed = _ from e', hG.obj]
      exact (enum_inv H hroot).step e.id (rest.map (·.id)) st.removed st.orderRev hinv

theorem all_processed (G : Graph) (hd : DegExact G) (hcl : LinksHaveNodes G)
    (hall : ∀ k ∈ G.objects.keys, Reach G G.root k) (rank : Nat → Nat)
    (hrank : ∀ x, ∀ l ∈ (G.obj x).links, rank x < rank l.target)
    (removed : Map Nat) (orderRev : List Nat)
    (hroot : G.root ∈ orderRev) (hnd : orderRev.Nodup)
    (hcnt : ∀ c, (removed.find? c).getD 0 = Lto G c orderRev)
    (hfull : FullIn G removed (fun x => x ∈ orderRev)) :
    ∀ u, Reach G G.root u → u ∈ orderRev := by
  intro u
  induction hn : rank u using Nat.strongRecOn generalizing u with
  | ind n ih =>
    intro hreach
    cases hreach with
    | refl => exact hroot
    | @step a l _ hl =>
      -- the parents of the target rank lower, so all are processed and its count is complete
      have hpar : ∀ p, IsParent G p l.target → p ∈ orderRev := fun p hp => by
        obtain ⟨l', hl', ht⟩ := hp
        exact ih (rank p) (hn ▸ ht ▸ hrank p l' hl') p rfl (hall p (isParent_key G p l.target ⟨l', hl', ht⟩))
      have hdeg := hd.lto_eq l.target orderRev hnd (hcl a l hl) hpar
      have hpos := (lto_pos_iff G l.target orderRev).mpr ⟨a, hpar a ⟨l, hl, rfl⟩, l, hl, rfl⟩
      have hc := hcnt l.target
      cases hf : removed.find? l.target with
      | none => rw [hf] at hc; simp at hc; omega
      | some k => rw [hf] at hc; exact hfull l.target k hf (hc.trans hdeg)

theorem Run.check {G : Graph} {removed : Map Nat} {orderRev : List Nat} (h : Run G removed orderRev)
    (hG : Sortable G) : cycleCheck G removed = true := by
  obtain ⟨hd, hcl, hroot, hnop, hall, hac⟩ := hG
  obtain ⟨rank, hrank⟩ := hac.rank
  have hk := h _ (kahnInv_inv G) (kahnInv_init G)
  have ht := h.topo hd hroot hnop
  have hr : RemInv removed := h _ (rem_inv G) ⟨by intro c k h; simp [Map.find?] at h, by simp [Map.keys]⟩
  have hrootin : G.root ∈ orderRev := by obtain ⟨pre, ho⟩ := h.rootFirst; simp [ho]
  have hnd : orderRev.Nodup := by simpa using ht.enum.nodup
  have hfull : FullIn G removed (fun x => x ∈ orderRev) := fun x c hc hci => by simpa using hk.full x c hc hci
  have hproc := all_processed G hd hcl hall rank hrank removed orderRev hrootin hnd ht.cnt hfull
  unfold cycleCheck
  rw [List.all_eq_true]
  intro kv hkv
  simp only [decide_eq_true_eq]
  have hfind := remInv_mem_find removed hr kv hkv
  have hc := ht.cnt kv.1
  rw [hfind] at hc
  -- kv.1 has a processed parent, hence a node
  obtain ⟨a, _, l, hl, hlt⟩ := (lto_pos_iff G kv.1 orderRev).mp (hc ▸ hr.pos kv.1 kv.2 hfind)
  exact hc.trans (hd.lto_eq kv.1 orderRev hnd (hlt ▸ hcl a l hl)
    fun p hp => hproc p (hall p (isParent_key G p kv.1 hp)))

theorem kahn_returns_core (G : Graph) (hG : Sortable G) :
    ∃ st, kahnLoop G (G.nodes.length + 2)
        { queue := [G.root], removed := [], orderRev := [], nodes := G.nodes, pos := 0 } = some st ∧
      cycleCheck G st.removed = true := by
  obtain ⟨st, hloop⟩ := kahnLoop_fuel G hG.nodes hG.root (G.nodes.length + 2)
    { queue := [G.root], removed := [], orderRev := [], nodes := G.nodes, pos := 0 } (enum_init G []) (by simp)
  exact ⟨st, hloop, Run.check (fun I hI h0 => kahnLoop_inv hI _ _ _ hloop h0) hG⟩

theorem short_returns_core {H G : Graph} (hG : Annot H G) (hH : Sortable H) :
    ∃ st, shortLoop G (G.nodes.length + 2)
        { queue := [⟨0, 0, 0, G.root⟩], removed := [], orderRev := [], nodes := G.nodes, pos := 0, objOrder := 1 } = some st ∧
      cycleCheck G st.removed = true := by
  have hlen : G.nodes.length = H.nodes.length := by simpa [Map.keys] using congrArg List.length hG.nodes.keys
  have h0 : EnumInv H [G.root] [] [] := hG.root ▸ enum_init H []
  obtain ⟨st, hloop⟩ := shortLoop_fuel hG hH.nodes hH.root (G.nodes.length + 2)
    { queue := [⟨0, 0, 0, G.root⟩], removed := [], orderRev := [], nodes := G.nodes, pos := 0, objOrder := 1 }
    h0 (by simp [hlen])
  have hrun : Run H st.removed st.orderRev :=
    fun I hI h0 => shortLoop_inv hG hI _ _ _ hloop (by simpa [hG.root] using h0)
  exact ⟨st, hloop, (cycleCheck_annot hG _).trans (hrun.check hH)⟩

/-- links of the objects not yet visited -/
def linksLeft (g : Graph) (visited : Set) : Nat :=
  ((g.objects.keys.filter (fun k => !visited.contains k)).map (fun k => (g.obj k).links.length)).sum

theorem linksLeft_insert (g : Graph) (visited : Set) (id : Nat) (hv : visited.contains id = false) :
    linksLeft g (visited.insert id) + (g.obj id).links.length ≤ linksLeft g visited := by
  unfold linksLeft
  have hmono := not_contains_mono visited (visited.insert id) (fun x hx => Set.mem_insert_of_mem visited id x hx)
  by_cases hk : id ∈ g.objects.keys
  · apply filter_sum_strict _ _ _ _ hmono id hk
    · simp [hv]
    · simp only [Bool.not_eq_eq_eq_not, Bool.not_false]
      exact (Set.contains_iff _ _).mpr (Set.mem_insert_self visited id)
  · have hl : (g.obj id).links = [] := Classical.byContradiction fun hne => hk (key_of_links_ne_nil hne)
    rw [hl]
    simp only [List.length_nil, Nat.add_zero]
    exact filter_sum_mono _ _ _ _ hmono

theorem linksLeft_nil_le (g : Graph) (hK : g.objects.keys.Nodup) : linksLeft g [] ≤ totalLinks g := by
  rw [totalLinks_keys g hK]
  exact filter_sum_le _ _ _

theorem updDistLoop_fuel (g : Graph) (fuel : Nat) (queue : List (Nat × Nat)) (visited : Set) (nodes : Map Node)
    (h : queue.length + linksLeft g visited < fuel) : ∃ ns, updDistLoop g fuel queue visited nodes = some ns := by
  induction fuel generalizing queue visited nodes with
  | zero => omega
  | succ n ih =>
    unfold updDistLoop
    split
    · exact ⟨nodes, rfl⟩
    · rename_i d id rest
      simp only [List.length_cons] at h
      split
      · exact ih rest visited nodes (by omega)
      · rename_i hv
        simp only []
        have hlen := updDistFold_length (visited.insert id) ((nodes.find? id).getD default).distance (g.linksOf id) (rest, nodes)
        generalize hfold : (g.linksOf id).foldl (updDistVisitLink (visited.insert id) ((nodes.find? id).getD default).distance) (rest, nodes) = res at hlen
        obtain ⟨q, ns⟩ := res
        simp only []
        apply ih
        have := linksLeft_insert g visited id (by simpa using hv)
        simp only [] at hlen
        unfold Graph.linksOf at hlen
        omega

theorem updateDistances_returns (g : Graph) (hK : g.objects.keys.Nodup) : ∃ g', updateDistances g = some g' := by
  unfold updateDistances
  simp only []
  obtain ⟨ns, hns⟩ := updDistLoop_fuel g (totalLinks g + 2) [(0, g.root)] []
    (Map.modify (g.nodes.map (fun kv => (kv.1, { kv.2 with distance := U32_MAX }))) g.root (fun n => { n with distance := 0 }))
    (by have := linksLeft_nil_le g hK; simp only [List.length_cons, List.length_nil]; omega)
  rw [hns]
  exact ⟨_, rfl⟩

/-- `1 + number of links` of the nodes not yet in space 0 -/
def spaceLeft (g : Graph) (nodes : Map Node) : Nat :=
  ((nodes.keys.filter (fun k => decide (((nodes.find? k).getD default).space ≠ 0))).map
    (fun k => 1 + (g.obj k).links.length)).sum

theorem spaceLeft_modify (g : Graph) (nodes : Map Node) (next : Nat) (node : Node)
    (hf : nodes.find? next = some node) (hs : node.space ≠ 0) :
    spaceLeft g (Map.modify nodes next (fun n => { n with space := 0 })) + (1 + (g.obj next).links.length)
      ≤ spaceLeft g nodes := by
  unfold spaceLeft
  rw [Map.keys_modify]
  apply filter_sum_strict _ _ _ _ ?_ next (Map.find?_some_mem_keys nodes next node hf)
  · simp [hf, hs]
  · rw [Map.find?_modify]
    simp [hf]
  · intro k hk
    rw [Map.find?_modify] at hk
    split at hk
    · rename_i hkn
      subst hkn
      simp [hf] at hk
    · exact hk

theorem spaceLeft_le (g : Graph) (hK : g.objects.keys.Nodup) (hN : g.nodes.keys.Nodup) :
    spaceLeft g g.nodes ≤ g.nodes.length + totalLinks g := by
  unfold spaceLeft
  have h1 := filter_sum_le g.nodes.keys (fun k => decide (((g.nodes.find? k).getD default).space ≠ 0))
    (fun k => 1 + (g.obj k).links.length)
  rw [sum_map_one_add g.nodes.keys] at h1
  have h2 := sum_map_sub (fun k => (g.obj k).links.length) g.objects.keys g.nodes.keys hN (by
    intro x _ hx
    exact key_of_links_ne_nil (fun h0 => hx (by rw [h0]; rfl)))
  rw [totalLinks_keys g hK]
  have h3 : g.nodes.keys.length = g.nodes.length := by simp [Map.keys]
  omega

theorem space0Loop_fuel (g : Graph) (fuel : Nat) (queue : List Nat) (nodes : Map Node)
    (h : queue.length + spaceLeft g nodes < fuel) : ∃ ns, space0Loop g fuel queue nodes = some ns := by
  induction fuel generalizing queue nodes with
  | zero => omega
  | succ n ih =>
    unfold space0Loop
    split
    · exact ⟨nodes, rfl⟩
    · rename_i next rest
      simp only [List.length_cons] at h
      split
      · rename_i node hf
        split
        · rename_i hs
          simp only []
          apply ih
          have h1 := spaceLeft_modify g nodes next node hf hs
          unfold Graph.obj at h1
          cases hfo : g.objects.find? next with
          | none =>
            rw [hfo] at h1
            simp only [Option.getD_none, default_obj_links, List.length_nil, List.foldl_nil] at h1 ⊢
            omega
          | some o =>
            rw [hfo] at h1
            simp only [Option.getD_some] at h1 ⊢
            have h2 := space0_queue_len o.links rest
            omega
        · exact ih rest nodes (by omega)
      · exact ih rest nodes (by omega)

theorem assignSpace0_returns (g : Graph) (hK : g.objects.keys.Nodup) (hN : g.nodes.keys.Nodup) :
    ∃ g', assignSpace0 g = some g' := by
  unfold assignSpace0
  obtain ⟨ns, hns⟩ := space0Loop_fuel g (g.nodes.length + totalLinks g + 2) [g.root] g.nodes
    (by have := spaceLeft_le g hK hN; simp only [List.length_cons, List.length_nil]; omega)
  rw [hns]
  exact ⟨_, rfl⟩

/-- what `TableWriter`/`ObjectStore` hand to `Graph::from_objects`: distinct ids, every link target
is an object, the link relation is acyclic (there is a rank that strictly increases along every
link), and every object is reachable from the root -/
structure GoodInput (objs : Map Obj) (root : Nat) : Prop where
  keys : objs.keys.Nodup
  closed : ∀ kv ∈ objs, ∀ l ∈ kv.2.links, l.target ∈ objs.keys
  reach : ∀ k ∈ objs.keys, Reach (Graph.fromObjects objs root) root k
  acyclic : ∃ rank : Nat → Nat, ∀ kv ∈ objs, ∀ l ∈ kv.2.links, rank kv.1 < rank l.target

theorem GoodInput.noroot {objs : Map Obj} {root : Nat} (h : GoodInput objs root) :
    ∀ kv ∈ objs, ∀ l ∈ kv.2.links, l.target ≠ root := by
  obtain ⟨rank, hrank⟩ := h.acyclic
  intro kv hkv l hl he
  have h1 := reach_rank (Graph.fromObjects objs root) rank
    (forall_links_of_objects (P := fun x l => rank x < rank l.target) hrank) root kv.1 (h.reach kv.1 (List.mem_map.mpr ⟨kv, hkv, rfl⟩))
  have h2 := hrank kv hkv l hl
  rw [he] at h2
  omega

theorem GoodInput.sortable {objs : Map Obj} {root : Nat} (h : GoodInput objs root) :
    Sortable (updateParents (Graph.fromObjects objs root)) := by
  generalize hH : updateParents (Graph.fromObjects objs root) = H
  have hobj : H.objects = (Graph.fromObjects objs root).objects := hH ▸ updateParents_objects _
  have hr : H.root = root := hH ▸ updateParents_root _
  have hkeys : ∀ c, Map.contains H.nodes c = Map.contains (Graph.fromObjects objs root).nodes c := hH ▸ contains_updateParents _
  have hlinks : ∀ {P : Nat → Link → Prop}, (∀ kv ∈ objs, ∀ l ∈ kv.2.links, P kv.1 l) → ∀ x, ∀ l ∈ (H.obj x).links, P x l :=
    fun hP => forall_links_of_objects (g := H) (hobj ▸ hP)
  refine ⟨hH ▸ degExact_updateParents _ rfl h.keys, ?_, ?_, ?_, ?_, ?_⟩
  · intro x l hl
    rw [hkeys]
    exact contains_fromObjects objs root _ (hlinks (P := fun _ l => l.target ∈ objs.keys) h.closed x l hl)
  · rw [hr, ← hH]
    exact updateParents_indeg_zero _ root rfl h.noroot
  · rintro p ⟨l, hl, ht⟩
    exact hlinks (P := fun _ l => l.target ≠ root) h.noroot p l hl (ht.trans hr)
  · intro k hk
    rw [hobj] at hk
    rw [hr]
    exact reach_congr H (Graph.fromObjects objs root) hobj.symm root k (h.reach k hk)
  · obtain ⟨rank, hrank⟩ := h.acyclic
    exact ⟨rank, hlinks (P := fun x l => rank x < rank l.target) hrank⟩

theorem sortKahn_returns (objs : Map Obj) (root : Nat) (h : GoodInput objs root) :
    ∃ g', sortKahn (Graph.fromObjects objs root) = some g' := by
  unfold sortKahn
  split
  · exact ⟨_, rfl⟩
  · simp only []
    obtain ⟨st, hloop, hcyc⟩ := kahn_returns_core _ h.sortable
    rw [hloop]
    simp only [hcyc, ↓reduceIte]
    exact ⟨_, rfl⟩

theorem sortShortest_returns (objs : Map Obj) (root : Nat) (h : GoodInput objs root) :
    ∃ g', sortShortest (Graph.fromObjects objs root) = some g' := by
  have hKu : (updateParents (Graph.fromObjects objs root)).objects.keys.Nodup := by
    rw [updateParents_objects]; exact h.keys
  obtain ⟨g2, hd2⟩ := updateDistances_returns (updateParents (Graph.fromObjects objs root)) hKu
  have a2 := updateDistances_annot _ _ hd2
  obtain ⟨g3, hs3⟩ := assignSpace0_returns g2 (by rw [a2.objects]; exact hKu)
    (by rw [a2.nodes.keys, updateParents_keys, keys_fromObjects]; exact h.keys)
  obtain ⟨st, hloop, hcyc⟩ := short_returns_core (a2.trans (assignSpace0_annot _ _ hs3)) h.sortable
  unfold sortShortest
  simp only [Option.bind_eq_bind, hd2, hs3, hloop, Option.bind_some, hcyc, ↓reduceIte]
  exact ⟨_, rfl⟩

end FontVerif.Graph
