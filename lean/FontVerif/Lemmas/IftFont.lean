/-
C18 — grouping independence of `apply_glyph_keyed_patches` at font level, for patches naming any mix
of glyf / gvar / CFF / CFF2 / ignored tags: per-arm two-step lemmas (glyf here, gvar in IftGvar,
CFF / CFF2 in IftCff) assembled table by table.
-/
import FontVerif.Lemmas.IftCff
import FontVerif.Lemmas.IftGvar
namespace FontVerif.Ift

theorem glyfArm_two_step (font font1 : Font) (gps1 gps2 : List GlyphPatches) (m : Nat)
    (outs1 outs2 outs12 : List (Tag × Bytes)) (hagree : Agree TAG_glyf (gps1 ++ gps2))
    (h1 : glyfArm font gps1 m = .ok outs1)
    (hf1 : ∀ td ∈ outs1, font1.get td.1 = some td.2) (hhead : font1.get TAG_head = font.get TAG_head)
    (h2 : glyfArm font1 gps2 m = .ok outs2)
    (h12 : glyfArm font (gps1 ++ gps2) m = .ok outs12) : outs2 = outs12 := by
  obtain ⟨a, repl1, data1, offs1, ha, hd1, hp1, e1⟩ := glyfArm_ok font gps1 m outs1 h1
  obtain ⟨a2, repl2, data2, offs2, ha2, hd2, hp2, e2⟩ := glyfArm_ok font1 gps2 m outs2 h2
  obtain ⟨a12, repl12, data12, offs12, ha12, hd12, hp12, e12⟩ := glyfArm_ok font (gps1 ++ gps2) m outs12 h12
  rw [ha] at ha12; cases ha12
  subst e1 e2 e12
  have hg1' : font1.get TAG_glyf = some data1 := hf1 (TAG_glyf, data1) (by simp)
  have hl1' : font1.get TAG_loca = some offs1 := hf1 (TAG_loca, offs1) (by simp)
  have sr1 := (dedup_spec TAG_glyf gps1 repl1 hd1).1
  have sr2 := (dedup_spec TAG_glyf gps2 repl2 hd2).1
  have sr12 := (dedup_spec TAG_glyf (gps1 ++ gps2) repl12 hd12).1
  have hrb := glyf_splice_readback font font1 a repl1 m data1 offs1 ha sr1 hp1 hg1' hl1' hhead
  rw [hrb] at ha2; cases ha2
  have S2 := patchOffsetArray_spec _ repl2 _ (OffsetArray.rebase_ascSound a (chunks a a.offsetType repl1 m)) sr2 _
    data2 offs2 hp2
  have S12 := patchOffsetArray_spec a repl12 _ (glyfAndLoca_ascSound font a ha) sr12 _ data12 offs12 hp12
  have hrt : (a.rebase (chunks a a.offsetType repl1 m)).offsetType = a.offsetType := rfl
  rw [S2.data_eq, S2.offs_eq, S12.data_eq, S12.offs_eq, hrt,
    chunks_two_step TAG_glyf a _ a.offsetType a.offsetType a.offsetType gps1 gps2 repl1 repl2 repl12 m hagree
      hd1 hd2 hd12 rfl rfl rfl rfl]

/-- CFF / CFF2 tables of the two routes: identical, or identical up to the offSize of the charstrings
INDEX at `at_` (same prefix of length `at_`, same count, same decoded offsets, same object data) -/
def CffAgree (v2 : Bool) (at_ : Option Nat) (x y : Option Bytes) : Prop :=
  x = y ∨ ∃ a pre count os data t t', at_ = some a ∧ pre.length = a ∧ IsCffType t ∧ IsCffType t' ∧
    x = some (cffEmit v2 pre count t (encodeOffs t os) data) ∧
    y = some (cffEmit v2 pre count t' (encodeOffs t' os) data)

/-- the offSize byte of the charstrings INDEX of a CFF / CFF2 table -/
def cffOffSizeAt (v2 : Bool) (at_ : Option Nat) (x : Option Bytes) : Nat :=
  match at_, x with
  | some a, some b => (b.drop (a + cffCountWidth v2)).headD 0
  | _, _ => 0

theorem CffAgree.eq_of_offSize (v2 : Bool) (at_ : Option Nat) (x y : Option Bytes) (h : CffAgree v2 at_ x y)
    (hw : cffOffSizeAt v2 at_ x = cffOffSizeAt v2 at_ y) : x = y := by
  rcases h with e | ⟨a, pre, count, os, data, t, t', ea, hl, ht, ht', ex, ey⟩
  · exact e
  · subst ea ex ey hl
    simp only [cffOffSizeAt, cffEmit_offSize] at hw
    have := IsCffType.eq_of_width ht ht' hw
    subst this
    rfl

def GvarWidthsAgree (font1 out2 out12 : Font) : Prop :=
  ∀ x1 x2 x12, font1.get TAG_gvar = some x1 → out2.get TAG_gvar = some x2 → out12.get TAG_gvar = some x12 →
    gvarLongBit x1 = gvarLongBit x12 ∧ gvarLongBit x2 = gvarLongBit x12

/-- hypotheses on the base font under which the two-step lemmas of the width-changing arms apply -/
structure BaseOk (font : Font) : Prop where
  /-- `maxp.numGlyphs` is a u16 -/
  numGlyphs_lt : numGlyphs font < 65536
  /-- gvar's glyph count is maxp's (a font where they differ is patched, but not read back here) -/
  gvar_count : ∀ b v, font.get TAG_gvar = some b → gvarRead b = some v → v.glyphCount = numGlyphs font
  /-- the charstrings INDEX of CFF / CFF2 at the offset recorded in `IFT ` has ascending offsets, the
  last one included (the code's own check skips the last one) -/
  cff_ascending : ∀ v2 b at_ ix t0, font.get (cffTag v2) = some b →
    iftCharstringsOffset (font.get TAG_IFT) v2 = some at_ →
    cffView v2 b at_ (numGlyphs font - 1) = .ok (ix, t0) → ascending (cffOffsets ix) = true

def TableAgree (font font1 out2 out12 : Font) (t : Tag) : Prop :=
  if t = TAG_gvar then GvarWidthsAgree font1 out2 out12 → out2.get t = out12.get t
  else if t = TAG_CFF then
    CffAgree false (iftCharstringsOffset (font.get TAG_IFT) false) (out2.get t) (out12.get t)
  else if t = TAG_CFF2 then
    CffAgree true (iftCharstringsOffset (font.get TAG_IFT) true) (out2.get t) (out12.get t)
  else out2.get t = out12.get t

theorem TableAgree.of_eq (font font1 out2 out12 : Font) (t : Tag) (h : out2.get t = out12.get t) :
    TableAgree font font1 out2 out12 t := by
  unfold TableAgree
  split
  · intro _; exact h
  · split
    · exact Or.inl h
    · split
      · exact Or.inl h
      · exact h

theorem TableAgree.cff_iff (font font1 out2 out12 : Font) (v2 : Bool) :
    TableAgree font font1 out2 out12 (cffTag v2) ↔
      CffAgree v2 (iftCharstringsOffset (font.get TAG_IFT) v2) (out2.get (cffTag v2)) (out12.get (cffTag v2)) := by
  unfold TableAgree
  cases v2
  · rw [if_neg (by decide), if_pos (show cffTag false = TAG_CFF from rfl)]
  · rw [if_neg (by decide), if_neg (by decide), if_pos (show cffTag true = TAG_CFF2 from rfl)]

/-- grouping independence, table by table (known finding C18-offset-width-history-dependent: the offset
width is only ever widened, hence `TableAgree` and not equality for gvar / CFF / CFF2). -/
theorem applyGlyphPatches_split_core (ps1 ps2 : List (PatchInfo × GlyphPatches)) (font font1 out2 out12 : Font)
    (hu : UniqueTags font)
    (hagree : ∀ tag, IsArmTag tag → (∃ gp ∈ (ps1 ++ ps2).map (·.2), tag ∈ gp.tables) →
      Agree tag ((ps1 ++ ps2).map (·.2)))
    (h1 : applyGlyphPatches (ps1.map (·.1)) (ps1.map (·.2)) font = .ok font1)
    (h2 : applyGlyphPatches (ps2.map (·.1)) (ps2.map (·.2)) font1 = .ok out2)
    (h12 : applyGlyphPatches ((ps1 ++ ps2).map (·.1)) ((ps1 ++ ps2).map (·.2)) font = .ok out12)
    (hG : ∀ tag, (tag = TAG_gvar ∨ tag = TAG_CFF ∨ tag = TAG_CFF2) →
      (∃ gp ∈ (ps1 ++ ps2).map (·.2), tag ∈ gp.tables) →
      BaseOk font ∧
      (∀ v2, iftCharstringsOffset (font1.get TAG_IFT) v2 = iftCharstringsOffset (font.get TAG_IFT) v2) ∧
      (∀ b, font1.get TAG_gvar = some b → b.length < 2 ^ 32)) :
    SortedGids out2 ∧ SortedGids out12 ∧ ∀ t, out2.get t = out12.get t ∨
      ∃ tag, (tag = TAG_gvar ∨ tag = TAG_CFF ∨ tag = TAG_CFF2) ∧
        (∃ gp ∈ (ps1 ++ ps2).map (·.2), tag ∈ gp.tables) ∧ TableAgree font font1 out2 out12 t := by
  rw [List.map_append, List.map_append] at h12
  rw [List.map_append] at hagree hG ⊢
  generalize hg1 : ps1.map (·.2) = gps1 at h1 h12 hagree hG ⊢
  generalize hg2 : ps2.map (·.2) = gps2 at h2 h12 hagree hG ⊢
  generalize hi1 : ps1.map (·.1) = infos1 at h1 h12
  generalize hi2 : ps2.map (·.1) = infos2 at h2 h12
  obtain ⟨ift1, iftx1, hn1, hma1, hs1, hI1, hX1, harm1, hout1⟩ := applyGlyphPatches_char infos1 gps1 font font1 hu h1
  obtain ⟨ift2, iftx2, hn2, hma2, hs2, hI2, hX2, harm2, hout2⟩ :=
    applyGlyphPatches_char infos2 gps2 font1 out2 (sorted_unique font1 hs1) h2
  obtain ⟨ift12, iftx12, hn12, hma12, hs12, hI12, hX12, harm12, hout12⟩ :=
    applyGlyphPatches_char (infos1 ++ infos2) (gps1 ++ gps2) font out12 hu h12
  -- tables no arm owns are copied through both steps
  have hcopy1 : ∀ t, t ≠ TAG_IFT → t ≠ TAG_IFTX → ownerOf t = none → font1.get t = font.get t := fun t a b c =>
    (hout1 t a b).trans (tableAfter_untouched font gps1 _ t (fun tg e => by rw [c] at e; cases e))
  have hng : numGlyphs font1 = numGlyphs font :=
    numGlyphs_congr font font1 (hcopy1 TAG_maxp (by decide) (by decide) (by decide))
  have hhead1 : font1.get TAG_head = font.get TAG_head := hcopy1 TAG_head (by decide) (by decide) (by decide)
  rw [hng] at harm2 hout2
  generalize hmm : numGlyphs font - 1 = m at *
  have hmsucc : m + 1 = numGlyphs font := by omega
  have hbits : ift2 = ift12 ∧ iftx2 = iftx12 := by
    rw [markApplied_append, hma1] at hma12
    change markApplied infos2 (ift1, iftx1) = _ at hma12
    rw [hI1, hX1] at hma2
    rw [hma2] at hma12
    simp only [Except.ok.injEq, Prod.mk.injEq] at hma12
    exact hma12
  refine ⟨hs2, hs12, ?_⟩
  intro t
  by_cases e1 : t = TAG_IFT
  · subst e1; exact Or.inl (by rw [hI2, hI12, hbits.1])
  by_cases e2 : t = TAG_IFTX
  · subst e2; exact Or.inl (by rw [hX2, hX12, hbits.2])
  cases ho : ownerOf t with
  | none =>
    refine Or.inl ?_
    rw [hout2 t e1 e2, hout12 t e1 e2, tableAfter_untouched font1 gps2 m t (fun tg e => by rw [ho] at e; cases e),
      tableAfter_untouched font _ m t (fun tg e => by rw [ho] at e; cases e)]
    exact hcopy1 t e1 e2 ho
  | some tag =>
    have howner : ∀ tg, ownerOf t = some tg → tg = tag := fun tg e => by rw [ho] at e; exact (Option.some.inj e).symm
    have named : tag ∈ (gps1 ++ gps2).flatMap (·.tables) → ∃ gp ∈ gps1 ++ gps2, tag ∈ gp.tables := List.mem_flatMap.mp
    by_cases c1 : tag ∈ gps1.flatMap (·.tables)
    case neg =>
      -- the first group does not name the arm: font1 still has the arm's base tables
      have hsame : ∀ x, ownerOf x = some tag → font1.get x = font.get x := by
        intro x hx
        rw [hout1 x (fun e => by rw [ownerOf_mapping x (Or.inl e)] at hx; cases hx)
          (fun e => by rw [ownerOf_mapping x (Or.inr e)] at hx; cases hx)]
        exact tableAfter_untouched font gps1 m x (fun tg e => by rw [hx] at e; cases e; exact c1)
      refine Or.inl ?_
      rw [hout2 t e1 e2, hout12 t e1 e2, tableAfter_append_right font gps1 gps2 m t (fun tg e => howner tg e ▸ c1)]
      refine tableAfter_congr font font1 gps2 m t (hsame t ho) (fun tg e c2 => ?_)
      cases howner tg e
      exact armOf_congr_font font font1 gps2 m tag hsame hhead1 (fun hc =>
        (hG tag (by rcases hc with e | e <;> simp [e]) (named (by
          rw [List.flatMap_append]; exact List.mem_append_right _ c2))).2.1)
    by_cases c2 : tag ∈ gps2.flatMap (·.tables)
    case neg =>
      -- only the first group names the arm: the second step copies its tables
      refine Or.inl ?_
      rw [hout2 t e1 e2, hout12 t e1 e2, tableAfter_append_left font gps1 gps2 m t (fun tg e => howner tg e ▸ c2),
        tableAfter_untouched font1 gps2 m t (fun tg e => howner tg e ▸ c2)]
      exact hout1 t e1 e2
    -- both groups run the arm
    have c12 : tag ∈ (gps1 ++ gps2).flatMap (·.tables) := by
      rw [List.flatMap_append]; exact List.mem_append_left _ c1
    have harmtag : IsArmTag tag := ownerOf_some t tag ho
    obtain ⟨outs1, ha1, hin1⟩ := char_arm font font1 gps1 m harm1 hout1 tag (List.mem_flatMap.mp c1) harmtag
    obtain ⟨outs2, ha2⟩ := harm2 tag c2 harmtag
    obtain ⟨outs12, ha12⟩ := harm12 tag c12 harmtag
    have hget2 : out2.get t = outs2.lookup t := by
      rw [hout2 t e1 e2, tableAfter_named font1 gps2 m t tag ho c2, armOuts_ok _ _ _ _ _ ha2]
    have hget12 : out12.get t = outs12.lookup t := by
      rw [hout12 t e1 e2, tableAfter_named font _ m t tag ho c12, armOuts_ok _ _ _ _ _ ha12]
    rcases harmtag.cases with eg | eg | ⟨v2, eg⟩ <;> subst eg
    · have := glyfArm_two_step font font1 gps1 gps2 m outs1 outs2 outs12
        (hagree TAG_glyf (Or.inl rfl) (named c12)) (Option.some.inj ha1) hin1 hhead1
        (Option.some.inj ha2) (Option.some.inj ha12)
      subst this
      exact Or.inl (by rw [hget2, hget12])
    · have tg : t = TAG_gvar := (ownerOf_single_iff t _ (Or.inl rfl)).mp ho
      subst tg
      refine Or.inr ⟨TAG_gvar, Or.inl rfl, named c12, ?_⟩
      unfold TableAgree
      rw [if_pos rfl]
      intro hwid
      obtain ⟨b, o1, hb, p1, rfl⟩ := armOf_gvar_ok font gps1 m outs1 ha1
      obtain ⟨b1, o2, hb1, p2, rfl⟩ := armOf_gvar_ok font1 gps2 m outs2 ha2
      obtain ⟨b', o12, hb', p12, rfl⟩ := armOf_gvar_ok font (gps1 ++ gps2) m outs12 ha12
      rw [hb] at hb'; cases hb'
      have hf1g : font1.get TAG_gvar = some o1 := hin1 (TAG_gvar, o1) (by simp)
      rw [hf1g] at hb1; cases hb1
      have hw := hwid o1 o2 o12 hf1g (by rw [hget2]; simp [List.lookup]) (by rw [hget12]; simp [List.lookup])
      obtain ⟨hbase, hift, hsz⟩ := hG TAG_gvar (Or.inl rfl) (named c12)
      have := gvarPatch_two_step b gps1 gps2 m o1 o2 o12
        (fun v hv => by rw [hmsucc]; exact hbase.gvar_count b v hb hv)
        (hsz o1 hf1g) (hagree TAG_gvar (Or.inr (Or.inl rfl)) (named c12)) p1 p2 p12 hw.1 hw.2
      subst this
      rw [hget2, hget12]
    · have tg : t = cffTag v2 := (ownerOf_single_iff t _ (cffTag_cases v2)).mp ho
      subst tg
      refine Or.inr ⟨cffTag v2, cffTag_cases v2, named c12, ?_⟩
      rw [TableAgree.cff_iff]
      obtain ⟨b, o1, hb, p1, rfl⟩ := armOf_cff_ok font gps1 m v2 outs1 ha1
      obtain ⟨b1, o2, hb1, p2, rfl⟩ := armOf_cff_ok font1 gps2 m v2 outs2 ha2
      obtain ⟨b', o12, hb', p12, rfl⟩ := armOf_cff_ok font (gps1 ++ gps2) m v2 outs12 ha12
      rw [hb] at hb'; cases hb'
      have hf1g : font1.get (cffTag v2) = some o1 := hin1 (cffTag v2, o1) (by simp)
      rw [hf1g] at hb1; cases hb1
      obtain ⟨hbase, hift, hsz⟩ := hG (cffTag v2) (cffTag_cases v2) (named c12)
      have p2' : cffPatch v2 (font.get TAG_IFT) (some o1) gps2 m = .ok o2 := by
        unfold cffPatch at p2 ⊢
        rw [← hift v2]; exact p2
      obtain ⟨at_, os, data, t2, t12, r1, r2, r3, r4, r5, r6, _, _⟩ :=
        cffPatch_two_step v2 (font.get TAG_IFT) b gps1 gps2 m o1 o2 o12
          (by rw [hmsucc]; exact hbase.numGlyphs_lt)
          (fun a ix t0 hx hy => hbase.cff_ascending v2 b a ix t0 hb hx (by rw [hmm]; exact hy))
          (hagree (cffTag v2) (isArmTag_cffTag v2) (named c12)) p1 p2' p12
      refine Or.inr ⟨at_, b.take at_, m + 1, os, data, t2, t12, r1,
        by rw [List.length_take]; exact Nat.min_eq_left r2, r3, r4, ?_, ?_⟩
      · rw [hget2]; simp [List.lookup, r5]
      · rw [hget12]; simp [List.lookup, r6]

theorem applyGlyphPatches_split (ps1 ps2 : List (PatchInfo × GlyphPatches)) (font font1 out2 out12 : Font)
    (hu : UniqueTags font) (hagree : AgreeAll ((ps1 ++ ps2).map (·.2)))
    (h1 : applyGlyphPatches (ps1.map (·.1)) (ps1.map (·.2)) font = .ok font1)
    (h2 : applyGlyphPatches (ps2.map (·.1)) (ps2.map (·.2)) font1 = .ok out2)
    (h12 : applyGlyphPatches ((ps1 ++ ps2).map (·.1)) ((ps1 ++ ps2).map (·.2)) font = .ok out12)
    (hbase : BaseOk font)
    (hift : ∀ v2, iftCharstringsOffset (font1.get TAG_IFT) v2 = iftCharstringsOffset (font.get TAG_IFT) v2)
    (hsz : ∀ b, font1.get TAG_gvar = some b → b.length < 2 ^ 32) :
    SortedGids out2 ∧ SortedGids out12 ∧ ∀ t, TableAgree font font1 out2 out12 t := by
  obtain ⟨s2, s12, hall⟩ := applyGlyphPatches_split_core ps1 ps2 font font1 out2 out12 hu
    (fun tag ha _ => hagree tag ha) h1 h2 h12 (fun _ _ _ => ⟨hbase, hift, hsz⟩)
  exact ⟨s2, s12, fun t => (hall t).elim (TableAgree.of_eq _ _ _ _ t) (fun ⟨_, _, _, ha⟩ => ha)⟩

end FontVerif.Ift
