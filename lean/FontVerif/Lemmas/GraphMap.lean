/-
Helper lemmas for C05 (Model/Graph.lean): the finite maps and sets of the model (sorted association lists,
sorted lists), the ordered insertion of its queues, and induction rules for its folds.
-/
import FontVerif.Model.Graph
import FontVerif.Lemmas.Lists
import FontVerif.Lemmas.SortedMap
namespace FontVerif.Graph

/-! `Map` / `Set` are the key-sorted lists of Lemmas/SortedMap.lean: insertion, lookup after insertion, membership and
sortedness come from there. -/

theorem Map.insert_eq {α : Type} (m : Map α) (k : Nat) (v : α) : Map.insert m k v = SMap.insert k v m := by
  induction m with
  | nil => rfl
  | cons e r ih => obtain ⟨k', v'⟩ := e; simp only [Map.insert, SMap.insert, ih]

theorem Map.find?_eq {α : Type} (m : Map α) (x : Nat) : Map.find? m x = List.lookup x m := by
  induction m with
  | nil => rfl
  | cons e r ih =>
    obtain ⟨k', v'⟩ := e
    rw [Map.find?, SMap.lookup_cons, ih]; simp only [eq_comm]

theorem Map.find?_insert {α : Type} (m : Map α) (k : Nat) (v : α) (x : Nat) :
    (Map.insert m k v).find? x = if k = x then some v else m.find? x := by
  rw [Map.find?_eq, Map.find?_eq, Map.insert_eq, SMap.lookup_insert]; simp only [eq_comm]

theorem Map.mem_insert {α : Type} (m : Map α) (k : Nat) (v : α) (kv : Nat × α) (h : kv ∈ Map.insert m k v) :
    kv = (k, v) ∨ kv ∈ m :=
  SMap.mem_insert (Map.insert_eq m k v ▸ h)

theorem Map.forall_keys_insert {α : Type} (m : Map α) (k : Nat) (v : α) (P : Nat → Prop) (hm : ∀ kv ∈ m, P kv.1) (hk : P k) :
    ∀ kv ∈ Map.insert m k v, P kv.1 := by
  intro kv hkv
  rcases Map.mem_insert m k v kv hkv with h | h
  · rw [h]; exact hk
  · exact hm kv h

theorem Map.insert_sorted {α : Type} (m : Map α) (k : Nat) (v : α) (h : m.keys.Pairwise (· < ·)) :
    (Map.insert m k v).keys.Pairwise (· < ·) := by
  rw [Map.insert_eq]
  exact List.pairwise_map.2 (SMap.insert_sorted k v (List.pairwise_map.1 h))

theorem Map.find?_mem {α : Type} (m : Map α) (k : Nat) (v : α) (h : m.find? k = some v) : (k, v) ∈ m :=
  mem_of_lookup_eq_some (Map.find?_eq m k ▸ h)

theorem Map.mem_find?_isSome {α : Type} (m : Map α) (kv : Nat × α) (h : kv ∈ m) : m.find? kv.1 ≠ none := by
  rw [Map.find?_eq]
  exact fun hn => by simpa using List.lookup_eq_none_iff.mp hn kv h

theorem Map.find?_some_mem_keys {α : Type} (m : Map α) (k : Nat) (v : α) (h : m.find? k = some v) : k ∈ m.keys :=
  List.mem_map.mpr ⟨(k, v), Map.find?_mem m k v h, rfl⟩

theorem Map.find?_of_mem_nodup {α : Type} (m : Map α) (hK : m.keys.Nodup) (kv : Nat × α) (h : kv ∈ m) :
    m.find? kv.1 = some kv.2 :=
  Map.find?_eq m kv.1 ▸ (lookup_eq_some_iff_mem hK kv.1 kv.2).mpr h

theorem Map.contains_iff {α : Type} (m : Map α) (k : Nat) : Map.contains m k = true ↔ k ∈ m.keys := by
  unfold Map.contains
  constructor
  · intro h
    cases hf : m.find? k with
    | none => rw [hf] at h; exact absurd h (by simp)
    | some v => exact Map.find?_some_mem_keys m k v hf
  · intro h
    obtain ⟨kv, hkv, rfl⟩ := List.mem_map.mp h
    exact Option.isSome_iff_ne_none.mpr (Map.mem_find?_isSome m kv hkv)

theorem Map.contains_congr {α β : Type} {m : Map α} {m' : Map β} (h : m'.keys = m.keys) {c : Nat} :
    Map.contains m' c = Map.contains m c :=
  Bool.eq_iff_iff.mpr (by rw [Map.contains_iff, Map.contains_iff, h])

theorem Map.exists_absent {α : Type} (m : Map α) : ∃ n, ∀ k, n ≤ k → m.find? k = none := by
  induction m with
  | nil => exact ⟨0, fun k _ => rfl⟩
  | cons kv rest ih =>
    obtain ⟨k0, v0⟩ := kv
    obtain ⟨n, hn⟩ := ih
    refine ⟨max n (k0 + 1), ?_⟩
    intro k hk
    simp only [Map.find?]
    have h1 : ¬ k0 = k := by omega
    simp only [h1, ↓reduceIte]
    exact hn k (by omega)

theorem Map.find?_modify {α : Type} (m : Map α) (x : Nat) (f : α → α) (y : Nat) :
    (Map.modify m x f).find? y = if y = x then (m.find? y).map f else m.find? y := by
  induction m with
  | nil => simp [Map.modify, Map.find?]
  | cons kv rest ih =>
    obtain ⟨k, v⟩ := kv
    simp only [Map.modify, List.map_cons] at ih ⊢
    by_cases hk : k = x
    · simp only [hk, ↓reduceIte, Map.find?]
      by_cases hy : x = y
      · simp [hy]
      · simp only [hy, ↓reduceIte]
        rw [ih]
    · simp only [hk, ↓reduceIte, Map.find?]
      by_cases hy : k = y
      · subst hy; simp [hk]
      · simp only [hy, ↓reduceIte]
        rw [ih]

theorem Map.contains_modify {α : Type} (m : Map α) (t : Nat) (f : α → α) (c : Nat) :
    Map.contains (Map.modify m t f) c = Map.contains m c := by
  unfold Map.contains
  rw [Map.find?_modify]
  split <;> simp

theorem Map.keys_modify {α : Type} (m : Map α) (x : Nat) (f : α → α) : (Map.modify m x f).keys = m.keys := by
  unfold Map.modify Map.keys
  rw [List.map_map]
  apply List.map_congr_left
  intro kv _
  simp only [Function.comp]
  split <;> rfl

theorem Map.find?_mapVal {α β : Type} (m : Map α) (h : α → β) (y : Nat) :
    Map.find? (m.map (fun kv => (kv.1, h kv.2))) y = (m.find? y).map h := by
  induction m with
  | nil => simp [Map.find?]
  | cons kv rest ih =>
    obtain ⟨k, v⟩ := kv
    simp only [List.map_cons, Map.find?]
    split <;> simp [ih]

theorem Map.keys_mapVal {α : Type} (m : Map α) (h : α → α) :
    Map.keys (m.map (fun kv => (kv.1, h kv.2))) = m.keys := by
  unfold Map.keys
  rw [List.map_map]
  rfl

theorem Map.find?_filter {α : Type} (m : Map α) (p : Nat → Bool) (x : Nat) :
    Map.find? (m.filter (fun kv => p kv.1)) x = if p x then m.find? x else none := by
  induction m with
  | nil => simp [Map.find?]
  | cons kv rest ih =>
    obtain ⟨k, v⟩ := kv
    simp only [List.filter_cons]
    by_cases hk : k = x
    · subst hk
      by_cases hp : p k
      · simp [hp, Map.find?]
      · simp only [hp, Bool.false_eq_true, ↓reduceIte]
        rw [ih]; simp [hp]
    · by_cases hp : p k
      · simp only [hp, ↓reduceIte, Map.find?, hk]
        exact ih
      · simp only [hp, Bool.false_eq_true, ↓reduceIte, Map.find?, hk]
        exact ih

theorem Map.find?_erase {α : Type} (m : Map α) (k x : Nat) :
    (Map.erase m k).find? x = if x = k then none else m.find? x := by
  unfold Map.erase
  rw [Map.find?_filter m (fun y => decide (y ≠ k)) x]
  by_cases h : x = k <;> simp [h]

theorem Set.insert_eq (s : Set) (x : Nat) : Set.insert s x = SSet.insert x s := by
  induction s with
  | nil => rfl
  | cons y r ih => simp only [Set.insert, SSet.insert, ih]

theorem Set.contains_iff (s : Set) (x : Nat) : s.contains x = true ↔ x ∈ s := by
  unfold Set.contains
  exact List.elem_iff

theorem Set.mem_insert_iff (s : Set) (x y : Nat) : y ∈ Set.insert s x ↔ y = x ∨ y ∈ s := by
  rw [Set.insert_eq]; exact SSet.mem_insert

theorem Set.mem_insert (s : Set) (x y : Nat) (h : y ∈ Set.insert s x) : y = x ∨ y ∈ s :=
  (Set.mem_insert_iff s x y).mp h

theorem Set.mem_insert_self (s : Set) (x : Nat) : x ∈ Set.insert s x :=
  (Set.mem_insert_iff s x x).mpr (Or.inl rfl)

theorem Set.mem_insert_of_mem (s : Set) (x y : Nat) (h : y ∈ s) : y ∈ Set.insert s x :=
  (Set.mem_insert_iff s x y).mpr (Or.inr h)

theorem Set.mem_erase (s : Set) (x y : Nat) (h : y ∈ Set.erase s x) : y ∈ s := by
  unfold Set.erase at h
  exact (List.mem_filter.mp h).1

theorem not_contains_mono (s t : Set) (h : ∀ x, x ∈ s → x ∈ t) (k : Nat) (hk : (!t.contains k) = true) :
    (!s.contains k) = true := by
  cases hs : s.contains k with
  | false => rfl
  | true => rw [(Set.contains_iff t k).mpr (h k ((Set.contains_iff s k).mp hs))] at hk; exact hk

theorem insertBy_eq {α : Type} (before : α → α → Bool) (x : α) (q : List α) :
    insertBy before x q = SSort.insertBy before x q := by
  induction q with
  | nil => rfl
  | cons y r ih => simp only [insertBy, SSort.insertBy, ih]

theorem insertBy_perm {α : Type} (before : α → α → Bool) (x : α) (q : List α) :
    List.Perm (insertBy before x q) (x :: q) :=
  insertBy_eq before x q ▸ SSort.insertBy_perm before x q

theorem filter_sum_mono {α : Type} (l : List α) (p q : α → Bool) (f : α → Nat) (h : ∀ k, p k = true → q k = true) :
    ((l.filter p).map f).sum ≤ ((l.filter q).map f).sum := by
  induction l with
  | nil => simp
  | cons a rest ih =>
    simp only [List.filter_cons]
    by_cases hp : p a = true
    · simp only [hp, h a hp, ↓reduceIte, List.map_cons, List.sum_cons]; omega
    · simp only [hp, Bool.false_eq_true, ↓reduceIte]
      split
      · simp only [List.map_cons, List.sum_cons]; omega
      · exact ih

theorem filter_sum_strict {α : Type} (l : List α) (p q : α → Bool) (f : α → Nat) (h : ∀ k, p k = true → q k = true)
    (a : α) (ha : a ∈ l) (hq : q a = true) (hp : p a = false) :
    ((l.filter p).map f).sum + f a ≤ ((l.filter q).map f).sum := by
  induction l with
  | nil => simp at ha
  | cons b rest ih =>
    simp only [List.filter_cons]
    rcases List.mem_cons.mp ha with rfl | ha
    · simp only [hp, hq, Bool.false_eq_true, ↓reduceIte, List.map_cons, List.sum_cons]
      have := filter_sum_mono rest p q f h
      omega
    · have := ih ha
      by_cases hpb : p b = true
      · simp only [hpb, h b hpb, ↓reduceIte, List.map_cons, List.sum_cons]; omega
      · simp only [hpb, Bool.false_eq_true, ↓reduceIte]
        split
        · simp only [List.map_cons, List.sum_cons]; omega
        · exact this

theorem filter_sum_le {α : Type} (l : List α) (p : α → Bool) (f : α → Nat) :
    ((l.filter p).map f).sum ≤ (l.map f).sum := by
  have := filter_sum_mono l p (fun _ => true) f (fun _ _ => rfl)
  rwa [List.filter_eq_self.mpr (fun _ _ => rfl)] at this

theorem length_eq_sum_one {α : Type} (l : List α) : l.length = (l.map (fun _ => 1)).sum := by
  induction l with
  | nil => rfl
  | cons a rest ih => simp only [List.length_cons, List.map_cons, List.sum_cons, ih]; omega

theorem foldl_prefix_induct {α β : Type} (f : β → α → β) (xs : List α) (J : List α → β → Prop) (b : β)
    (h0 : J [] b) (hs : ∀ pre x rest c, xs = pre ++ x :: rest → J pre c → J (pre ++ [x]) (f c x)) :
    J xs (xs.foldl f b) := by
  suffices ∀ rest pre c, xs = pre ++ rest → J pre c → J xs (rest.foldl f c) from this xs [] b rfl h0
  intro rest
  induction rest with
  | nil => intro pre c hx hc; rw [hx, List.append_nil]; exact hc
  | cons x rest ih =>
    intro pre c hx hc
    exact ih (pre ++ [x]) (f c x) (by rw [hx]; simp) (hs pre x rest c hx hc)

theorem foldl_some_induct {α β : Type} (f : Option β → α → Option β) (hf : ∀ x, f none x = none) (P : β → Prop)
    (xs : List α) (hstep : ∀ b x b', x ∈ xs → P b → f (some b) x = some b' → P b')
    (b b' : β) (hb : P b) (h : xs.foldl f (some b) = some b') : P b' := by
  induction xs generalizing b with
  | nil => exact Option.some.inj h ▸ hb
  | cons x rest ih =>
    rw [List.foldl_cons] at h
    cases hx : f (some b) x with
    | none => rw [hx, foldl_none f hf] at h; exact absurd h (by simp)
    | some b1 =>
      rw [hx] at h
      exact ih (fun b x b' hm => hstep b x b' (List.mem_cons_of_mem _ hm)) b1
        (hstep b x b1 List.mem_cons_self hb hx) h

theorem foldl_some_prefix_induct {α β : Type} (f : Option β → α → Option β) (hf : ∀ x, f none x = none)
    (P : List α → β → Prop) (xs : List α)
    (hstep : ∀ pre x rest b b', xs = pre ++ x :: rest → P pre b → f (some b) x = some b' → P (pre ++ [x]) b')
    (b b' : β) (hb : P [] b) (h : xs.foldl f (some b) = some b') : P xs b' := by
  suffices ∀ rest pre c, xs = pre ++ rest → P pre c → rest.foldl f (some c) = some b' → P xs b' from
    this xs [] b rfl hb h
  intro rest
  induction rest with
  | nil => intro pre c hx hc h; rw [hx, List.append_nil]; exact Option.some.inj h ▸ hc
  | cons x rest ih =>
    intro pre c hx hc h
    rw [List.foldl_cons] at h
    cases hfx : f (some c) x with
    | none => rw [hfx, foldl_none f hf] at h; exact absurd h (by simp)
    | some c1 =>
      rw [hfx] at h
      exact ih (pre ++ [x]) c1 (by rw [hx]; simp) (hstep pre x rest c c1 hx hc hfx) h

end FontVerif.Graph
