/-
Helper lemmas for C05 (Model/Graph.lean): the overflow gate and the control flow of `pack_objects`.
-/
import FontVerif.Model.Graph
import FontVerif.Lemmas.GraphSort
namespace FontVerif.Graph

/-- the gate's view of one link: the subtraction `child.position - parent.position` does not
underflow and the difference fits the link's width -/
def LinkFits (g : Graph) (parent : Nat) (l : Link) : Prop :=
  (g.node parent).position ≤ (g.node l.target).position ∧
  (g.node l.target).position - (g.node parent).position ≤ maxValue l.width

/-- no link of any object of the graph overflows (or underflows), judged on `Node.position` -/
def NoOverflow (g : Graph) : Prop := ∀ kv ∈ g.objects, ∀ l ∈ kv.2.links, LinkFits g kv.1 l

theorem hasOverflowsLinks_false (g : Graph) (parent : Nat) (links : List Link) :
    hasOverflowsLinks g (g.node parent).position links = some false ↔ ∀ l ∈ links, LinkFits g parent l := by
  induction links with
  | nil => simp [hasOverflowsLinks]
  | cons l rest ih =>
    simp only [hasOverflowsLinks, List.mem_cons, forall_eq_or_imp]
    split
    · simp only [reduceCtorEq, false_iff, not_and]
      intro h; unfold LinkFits at h; omega
    · split
      · simp only [Option.some.injEq, Bool.true_eq_false, false_iff, not_and]
        intro h; unfold LinkFits at h; omega
      · rw [ih]
        constructor
        · intro h; exact ⟨by unfold LinkFits; omega, h⟩
        · intro h; exact h.2

theorem hasOverflowsObjs_false (g : Graph) (objs : List (Nat × Obj)) :
    hasOverflowsObjs g objs = some false ↔ ∀ kv ∈ objs, ∀ l ∈ kv.2.links, LinkFits g kv.1 l := by
  induction objs with
  | nil => simp [hasOverflowsObjs]
  | cons kv rest ih =>
    simp only [hasOverflowsObjs, List.mem_cons, forall_eq_or_imp]
    have hl := hasOverflowsLinks_false g kv.1 kv.2.links
    split
    · rename_i heq
      rw [ih]
      exact ⟨fun h => ⟨hl.mp heq, h⟩, fun h => h.2⟩
    · rename_i hne
      constructor
      · intro h; exact absurd h (hne)
      · intro h; exact absurd (hl.mpr h.1) hne

theorem hasOverflows_false_iff (g : Graph) : hasOverflows g = some false ↔ NoOverflow g :=
  hasOverflowsObjs_false g g.objects

def ovfStep (g : Graph) (parent : Nat) (acc : Option (List Overflow)) (l : Link) : Option (List Overflow) :=
  match acc with
  | none => none
  | some res =>
    let pp := (g.node parent).position
    let cp := (g.node l.target).position
    if cp < pp then none
    else if maxValue l.width < cp - pp then some (res ++ [(parent, l.target, cp - pp, l.width)])
    else some res

theorem ovfStep_some (g : Graph) (parent : Nat) (a a1 : List Overflow) (l : Link)
    (h : ovfStep g parent (some a) l = some a1) :
    (a1 = a ∧ LinkFits g parent l) ∨ ∃ d, a1 = a ++ [(parent, l.target, d, l.width)] := by
  simp only [ovfStep] at h
  split at h
  · simp at h
  · split at h <;> (simp only [Option.some.injEq] at h; subst h)
    · exact Or.inr ⟨_, rfl⟩
    · exact Or.inl ⟨rfl, by unfold LinkFits; omega⟩

theorem findOverflows_eq (g : Graph) :
    findOverflows g = g.objects.foldl (fun acc kv => kv.2.links.foldl (ovfStep g kv.1) acc) (some []) := rfl

theorem findOverflows_nil (g : Graph) (h : findOverflows g = some []) : NoOverflow g := by
  rw [findOverflows_eq] at h
  -- an empty result was empty all along, and every link visited on the way fits
  refine foldl_some_prefix_induct (fun acc kv => kv.2.links.foldl (ovfStep g kv.1) acc)
    (fun kv => foldl_none _ (fun _ => rfl) _)
    (fun pre a => a = [] → ∀ kv ∈ pre, ∀ l ∈ kv.2.links, LinkFits g kv.1 l) g.objects ?_ [] [] (by simp) h rfl
  intro pre kv _ a a1 _ ha hstep ha1
  obtain ⟨ha0, hfit⟩ := foldl_some_prefix_induct (ovfStep g kv.1) (fun _ => rfl)
    (fun pre' b => b = [] → a = [] ∧ ∀ l ∈ pre', LinkFits g kv.1 l) kv.2.links
    (fun pre' l _ b b1 _ hb hs hb1 => by
      rcases ovfStep_some g kv.1 b b1 l hs with ⟨rfl, hf⟩ | ⟨d, rfl⟩
      · obtain ⟨h0, hp⟩ := hb hb1
        exact ⟨h0, fun l' hl' => (List.mem_append.mp hl').elim (hp l') (fun h1 => List.mem_singleton.mp h1 ▸ hf)⟩
      · simp at hb1)
    a a1 (fun h0 => ⟨h0, by simp⟩) hstep ha1
  intro kv' hkv'
  rcases List.mem_append.mp hkv' with h1 | h1
  · exact ha ha0 kv' h1
  · rw [List.mem_singleton.mp h1]; exact hfit

macro "bsimp" " at " h:ident : tactic =>
  `(tactic| simp only [Bool.not_true, Bool.not_false, Bool.false_eq_true, ↓reduceIte, Option.bind_eq_some_iff,
      Option.some.injEq, Prod.mk.injEq, Prod.exists, Bool.true_eq_false, false_and, and_false, exists_false,
      exists_const, true_and, Bool.not_eq_true', Bool.not_eq_eq_eq_not, reduceCtorEq] at $h:ident)

theorem basicSort_cases (g g' : Graph) (ok : Bool) (h : basicSort g = some (ok, g')) :
    (ok = true ∧ sortKahn g = some g' ∧ hasOverflows g' = some false) ∨
    ∃ g1, sortKahn g = some g1 ∧ sortShortest g1 = some g' ∧ hasOverflows g' = some (!ok) := by
  unfold basicSort at h
  simp only [Option.bind_eq_bind, Option.bind_eq_some_iff] at h
  obtain ⟨g1, hk, ov, hov, h⟩ := h
  cases ov with
  | false =>
    bsimp at h
    obtain ⟨rfl, rfl⟩ := h
    exact Or.inl ⟨rfl, hk, hov⟩
  | true =>
    bsimp at h
    obtain ⟨g2, hs, ov2, hov2, rfl, rfl⟩ := h
    exact Or.inr ⟨g1, hk, hs, by simpa using hov2⟩

theorem basicSort_objects (g g' : Graph) (ok : Bool) (h : basicSort g = some (ok, g')) :
    g'.objects = g.objects ∧ g'.root = g.root := by
  rcases basicSort_cases g g' ok h with ⟨_, hk, _⟩ | ⟨g1, hk, hs, _⟩
  · exact sortKahn_objects g g' hk
  · have h1 := sortKahn_objects g g1 hk
    have h2 := sortShortest_objects g1 g' hs
    exact ⟨h2.1.trans h1.1, h2.2.trans h1.2⟩

theorem packLoop_cases (fuel : Nat) (g : Graph) (fresh : List Nat) (r : Bool × Graph × List Nat)
    (h : packLoop (fuel + 1) g fresh = some r) :
    (findOverflows g = some [] ∧ r = (true, g, fresh)) ∨
    ∃ ovs ch g1 fr1, findOverflows g = some ovs ∧ tryIsolating g ovs fresh = some (ch, g1, fr1) ∧
      ((ch = false ∧ r = (false, g1, fr1)) ∨
       (ch = true ∧ ∃ g2, sortShortest (removeOrphans g1) = some g2 ∧ packLoop fuel g2 fr1 = some r)) := by
  unfold packLoop at h
  simp only [Option.bind_eq_bind, Option.bind_eq_some_iff] at h
  obtain ⟨ovs, hov, h⟩ := h
  by_cases he : ovs.isEmpty
  · simp only [he, ↓reduceIte, Option.some.injEq] at h
    rw [List.isEmpty_iff] at he
    exact Or.inl ⟨he ▸ hov, h.symm⟩
  · simp only [he, Bool.false_eq_true, ↓reduceIte, Option.bind_eq_some_iff] at h
    obtain ⟨⟨ch, g1, fr1⟩, hiso, h⟩ := h
    refine Or.inr ⟨ovs, ch, g1, fr1, hov, hiso, ?_⟩
    cases ch with
    | false => exact Or.inl ⟨rfl, by simpa using h.symm⟩
    | true =>
      bsimp at h
      exact Or.inr ⟨rfl, h⟩

theorem packTail_cases (g : Graph) (fresh : List Nat) (r : Bool × Graph × List Nat)
    (h : packTail g fresh = some r) :
    ∃ b g2 fr2 g3, assignSpaces g fresh = some (b, g2, fr2) ∧ sortShortest (removeOrphans g2) = some g3 ∧
      ((hasOverflows g3 = some false ∧ r = (true, g3, fr2)) ∨ packLoop (g3.objects.length + 2) g3 fr2 = some r) := by
  unfold packTail at h
  simp only [Option.bind_eq_bind, Option.bind_eq_some_iff] at h
  obtain ⟨⟨b, g2, fr2⟩, ha, g3, hs, ov, hov, h⟩ := h
  refine ⟨b, g2, fr2, g3, ha, hs, ?_⟩
  cases ov with
  | false => exact Or.inl ⟨hov, by simpa using h.symm⟩
  | true => exact Or.inr (by simpa using h)

theorem packObjects_cases (g : Graph) (fresh : List Nat) (r : Bool × Graph × List Nat)
    (h : packObjects g fresh = some r) :
    (∃ g1, basicSort g = some (true, g1) ∧ r = (true, g1, fresh)) ∨
    ∃ g1, basicSort g = some (false, g1) ∧ packTail g1 fresh = some r := by
  unfold packObjects at h
  simp only [Option.bind_eq_bind, Option.bind_eq_some_iff] at h
  obtain ⟨⟨ok, g1⟩, hb, h⟩ := h
  cases ok with
  | true => exact Or.inl ⟨g1, hb, by simpa using h.symm⟩
  | false => exact Or.inr ⟨g1, hb, by simpa using h⟩
theorem packObjectsWith_cases (sel : TGraph → List Nat → Nat → Option (List Nat)) (tg : TGraph) (fresh : List Nat)
    (r : Bool × TGraph × List Nat) (h : packObjectsWith sel tg fresh = some r) :
    (∃ g1, basicSort tg.g = some (true, g1) ∧ r = (true, { tg with g := g1 }, fresh)) ∨
    ∃ g1 tg2 fr2 ok g3 fr3, basicSort tg.g = some (false, g1) ∧
      tryPromotingWith sel { tg with g := g1 } fresh = some (tg2, fr2) ∧
      packTail tg2.g fr2 = some (ok, g3, fr3) ∧ r = (ok, { tg2 with g := g3 }, fr3) := by
  unfold packObjectsWith at h
  simp only [Option.bind_eq_bind, Option.bind_eq_some_iff] at h
  obtain ⟨⟨ok, g1⟩, hb, h⟩ := h
  cases ok with
  | true => exact Or.inl ⟨g1, hb, by simpa using h.symm⟩
  | false =>
    simp only [Bool.false_eq_true, ↓reduceIte, Option.bind_eq_some_iff, Option.some.injEq] at h
    obtain ⟨⟨tg2, fr2⟩, hpro, ⟨ok3, g3, fr3⟩, htail, h⟩ := h
    exact Or.inr ⟨g1, tg2, fr2, ok3, g3, fr3, hb, hpro, htail, h.symm⟩

theorem dump_cases (g : Graph) (fresh out : List Nat) (h : dump g fresh = some (some out)) :
    ∃ g' fresh', packObjects g fresh = some (true, g', fresh') ∧ serialize g' = some out := by
  unfold dump at h
  split at h
  · simp at h
  · simp at h
  · rename_i g' fresh' hp
    split at h
    · simp at h
    · rename_i out' hs
      exact ⟨g', fresh', hp, by rw [hs]; exact congrArg some (Option.some.inj (Option.some.inj h))⟩

theorem dumpWith_cases (sel : TGraph → List Nat → Nat → Option (List Nat)) (tg : TGraph) (fresh out : List Nat)
    (h : dumpWith sel tg fresh = some (some out)) :
    ∃ tg' fresh', packObjectsWith sel tg fresh = some (true, tg', fresh') ∧ serialize tg'.g = some out := by
  unfold dumpWith at h
  split at h
  · simp at h
  · simp at h
  · rename_i tgF frF hp
    split at h
    · simp at h
    · rename_i out' hs
      exact ⟨tgF, frF, hp, by rw [hs]; exact congrArg some (Option.some.inj (Option.some.inj h))⟩

/-- the retry loop: `P` holds of the graph at the head of every round, `Q` of what the loop returns -/
theorem packLoop_induct (P : Graph → List Nat → Prop) (Q : Bool × Graph × List Nat → Prop)
    (hdone : ∀ g fr, P g fr → findOverflows g = some [] → Q (true, g, fr))
    (hstuck : ∀ g fr ovs g1 fr1, P g fr → findOverflows g = some ovs →
      tryIsolating g ovs fr = some (false, g1, fr1) → Q (false, g1, fr1))
    (hstep : ∀ g fr ovs g1 fr1 g2, P g fr → findOverflows g = some ovs →
      tryIsolating g ovs fr = some (true, g1, fr1) → sortShortest (removeOrphans g1) = some g2 → P g2 fr1)
    (fuel : Nat) (g : Graph) (fr : List Nat) (r : Bool × Graph × List Nat)
    (h : packLoop fuel g fr = some r) (hp : P g fr) : Q r := by
  induction fuel generalizing g fr with
  | zero => simp [packLoop] at h
  | succ n ih =>
    rcases packLoop_cases n g fr r h with ⟨hov, rfl⟩ | ⟨ovs, ch, g1, fr1, hov, hiso, ⟨rfl, rfl⟩ | ⟨rfl, g2, hs, h'⟩⟩
    · exact hdone g fr hp hov
    · exact hstuck g fr ovs g1 fr1 hp hov hiso
    · exact ih g2 fr1 h' (hstep g fr ovs g1 fr1 g2 hp hov hiso hs)

theorem basicSort_gate (g g' : Graph) (h : basicSort g = some (true, g')) : hasOverflows g' = some false := by
  rcases basicSort_cases g g' true h with ⟨_, _, hov⟩ | ⟨_, _, _, hov⟩
  · exact hov
  · exact hov

theorem packLoop_gate (fuel : Nat) (g g' : Graph) (fresh fresh' : List Nat)
    (h : packLoop fuel g fresh = some (true, g', fresh')) : findOverflows g' = some [] :=
  packLoop_induct (fun _ _ => True) (fun r => r.1 = true → findOverflows r.2.1 = some [])
    (fun _ _ _ hov _ => hov) (fun _ _ _ _ _ _ _ _ hf => Bool.noConfusion hf) (fun _ _ _ _ _ _ _ _ _ _ => trivial)
    fuel g fresh (true, g', fresh') h trivial rfl

theorem packTail_gate (g g' : Graph) (fresh fresh' : List Nat)
    (h : packTail g fresh = some (true, g', fresh')) : NoOverflow g' := by
  obtain ⟨b, g2, fr2, g3, _, _, ⟨hov, he⟩ | hl⟩ := packTail_cases g fresh _ h
  · simp only [Prod.mk.injEq, true_and] at he
    exact (hasOverflows_false_iff g').mp (he.1 ▸ hov)
  · exact findOverflows_nil g' (packLoop_gate _ g3 g' fr2 fresh' hl)

/-- the order starts with the root and is closed under the links of the graph's objects -/
def SortedOut (g : Graph) : Prop :=
  (∃ tail, g.order = g.root :: tail) ∧ ∀ id ∈ g.order, ∀ l ∈ (g.obj id).links, l.target ∈ g.order

theorem SortRun.sortedOut {g g' : Graph} {removed : Map Nat} (s : SortRun g g' removed) : SortedOut g' := by
  obtain ⟨ho, hr, ht, hc⟩ := s.spec
  refine ⟨by rw [hr]; exact ht, ?_⟩
  intro id hid l hl
  rw [obj_congr g g' ho] at hl
  exact hc id hid l hl

theorem sortKahn_sortedOut (g g' : Graph) (hn : 1 < g.nodes.length) (h : sortKahn g = some g') :
    SortedOut g' :=
  let ⟨_, s⟩ := sortKahn_run g g' hn h
  s.sortedOut

theorem sortShortest_sortedOut (g g' : Graph) (h : sortShortest g = some g') :
    SortedOut g' :=
  let ⟨_, s⟩ := sortShortest_run g g' h
  s.sortedOut

/-- `sort_kahn` leaves the order sorted-out also on its trivial branch (at most one object), for a graph that has not
been sorted yet, contains its root and is closed under its offsets: the order is then the root alone -/
theorem sortKahn_sortedOut_closed (g g' : Graph) (ho : g.order = []) (hr : g.root ∈ g.nodes.keys)
    (hc : ∀ kv ∈ g.objects, ∀ l ∈ kv.2.links, l.target ∈ g.nodes.keys)
    (h : sortKahn g = some g') : SortedOut g' := by
  by_cases hn : 1 < g.nodes.length
  · exact sortKahn_sortedOut g g' hn h
  · rw [sortKahn, if_pos (Nat.le_of_not_lt hn)] at h
    cases h
    have hlen : g.nodes.keys.length ≤ 1 := Nat.le_trans (Nat.le_of_eq (List.length_map _)) (Nat.le_of_not_lt hn)
    have hk : g.nodes.keys = [g.root] :=
      match g.nodes.keys, hr, hlen with
      | [x], hx, _ => by rw [List.mem_singleton.mp hx]
    refine ⟨⟨[], by rw [ho, hk]; rfl⟩, fun id _ l hl => ?_⟩
    show l.target ∈ g.order ++ g.nodes.keys
    rw [ho]
    exact forall_links_of_objects (g := g) (P := fun _ l => l.target ∈ g.nodes.keys) hc id l hl

theorem basicSort_sortedOut (g g' : Graph) (ok : Bool) (hn : 1 < g.nodes.length)
    (h : basicSort g = some (ok, g')) : SortedOut g' := by
  rcases basicSort_cases g g' ok h with ⟨_, hk, _⟩ | ⟨g1, _, hs, _⟩
  · exact sortKahn_sortedOut g g' hn hk
  · exact sortShortest_sortedOut g1 g' hs

theorem packLoop_sortedOut (fuel : Nat) (g g' : Graph) (fresh fresh' : List Nat) (hs : SortedOut g)
    (h : packLoop fuel g fresh = some (true, g', fresh')) : SortedOut g' :=
  packLoop_induct (fun g _ => SortedOut g) (fun r => SortedOut r.2.1 ∨ r.1 = false)
    (fun _ _ hp _ => Or.inl hp) (fun _ _ _ _ _ _ _ _ => Or.inr rfl)
    (fun _ _ _ _ _ g2 _ _ _ hs2 => sortShortest_sortedOut _ g2 hs2)
    fuel g fresh (true, g', fresh') h hs |>.resolve_right (fun hf => Bool.noConfusion hf)

theorem packTail_sortedOut (g g' : Graph) (fresh fresh' : List Nat)
    (h : packTail g fresh = some (true, g', fresh')) : SortedOut g' := by
  obtain ⟨b, g2, fr2, g3, _, hs, ⟨_, he⟩ | hl⟩ := packTail_cases g fresh _ h
  · simp only [Prod.mk.injEq, true_and] at he
    exact he.1 ▸ sortShortest_sortedOut _ g3 hs
  · exact packLoop_sortedOut _ g3 g' fr2 fresh' (sortShortest_sortedOut _ g3 hs) hl

theorem packObjects_sortedOut (g g' : Graph) (fresh fresh' : List Nat) (hn : 1 < g.nodes.length)
    (h : packObjects g fresh = some (true, g', fresh')) : SortedOut g' := by
  rcases packObjects_cases g fresh _ h with ⟨g1, hb, he⟩ | ⟨g1, _, ht⟩
  · simp only [Prod.mk.injEq, true_and] at he
    exact he.1 ▸ basicSort_sortedOut g g1 true hn hb
  · exact packTail_sortedOut g1 g' fresh fresh' ht

theorem packObjects_sortedOut_closed (g g' : Graph) (fresh fresh' : List Nat) (ho : g.order = [])
    (hr : g.root ∈ g.nodes.keys) (hc : ∀ kv ∈ g.objects, ∀ l ∈ kv.2.links, l.target ∈ g.nodes.keys)
    (h : packObjects g fresh = some (true, g', fresh')) : SortedOut g' := by
  rcases packObjects_cases g fresh _ h with ⟨g1, hb, he⟩ | ⟨g1, _, ht⟩
  · simp only [Prod.mk.injEq, true_and] at he
    rw [he.1]
    rcases basicSort_cases g g1 true hb with ⟨_, hk, _⟩ | ⟨g2, hk, hs, _⟩
    · exact sortKahn_sortedOut_closed g g1 ho hr hc hk
    · exact sortShortest_sortedOut g2 g1 hs
  · exact packTail_sortedOut g1 g' fresh fresh' ht

end FontVerif.Graph
