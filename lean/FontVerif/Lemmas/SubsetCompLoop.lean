/-
The `while more` loop of `subset_composite_glyph` (Model/Subset.lean `compLoop`), without the read-fonts reader: one
round on the bytes (`compRound`), the successful runs without fuel (`CompWalk`), what a run leaves behind.  `compIds` (the component ids as this walk meets them) is written out here for the statements of
Props/C17; `compCut` (the length kept of the rewritten buffer) for `subsetComposite_eq` and `composite_kept`.
-/
import FontVerif.Lemmas.SubsetBytes
namespace FontVerif.Subset

/-- the rewrite touches WE_HAVE_INSTRUCTIONS (0x0100) and OVERLAP_COMPOUND (0x0400) only -/
theorem compFlags_bit (flags i f m : Nat) (hm : 0x1EEF &&& m = m ∧ 0x0400 &&& m = 0) :
    compFlags flags i f &&& m = f &&& m := by
  unfold compFlags
  simp only
  split <;> split <;> simp only [Nat.and_or_distrib_right, Nat.and_assoc, hm.1, hm.2, Nat.or_zero]

theorem compFlags_known (flags i x : Nat) :
    compFlags flags i (x &&& COMPOSITE_KNOWN_BITS) &&& COMPOSITE_KNOWN_BITS = compFlags flags i (x &&& COMPOSITE_KNOWN_BITS) := by
  unfold compFlags COMPOSITE_KNOWN_BITS
  simp only
  have e1 : (0x1FEF : Nat) &&& 0x1FEF = 0x1FEF := rfl
  have e2 : (0x1EEF : Nat) &&& 0x1FEF = 0x1EEF := rfl
  have e3 : (0x0400 : Nat) &&& 0x1FEF = 0x0400 := rfl
  split <;> split <;> simp only [Nat.and_or_distrib_right, Nat.and_assoc, e1, e2, e3]

theorem compRecSize_compFlags (flags i f : Nat) : compRecSize (compFlags flags i f) = compRecSize f := by
  unfold compRecSize
  rw [compFlags_bit flags i f 0x0001 ⟨rfl, rfl⟩, compFlags_bit flags i f 0x0008 ⟨rfl, rfl⟩,
      compFlags_bit flags i f 0x0040 ⟨rfl, rfl⟩, compFlags_bit flags i f 0x0080 ⟨rfl, rfl⟩]

theorem compRecSize_ge (f : Nat) : 6 ≤ compRecSize f := by
  unfold compRecSize; split <;> omega

theorem compFlags_instr (flags i f : Nat) :
    compFlags flags i f &&& 0x0100 = if hasFlag flags F_NO_HINTING then 0 else f &&& 0x0100 := by
  have e1 : ∀ g : Nat, (g ||| 0x0400) &&& 0x0100 = g &&& 0x0100 := fun g => by
    rw [Nat.and_or_distrib_right]; simp
  have e2 : (f &&& 0x1EEF) &&& 0x0100 = 0 := by rw [Nat.and_assoc]; simp
  unfold compFlags
  by_cases hn : hasFlag flags F_NO_HINTING = true
  · by_cases hf : f &&& 0x0100 = 0 <;> simp only [hn, hf, and_true, bne_iff_ne, ne_eq, not_true_eq_false,
      not_false_eq_true, if_true, if_false] <;> split <;> simp only [e1, e2, hf]
  · simp only [hn, and_false, if_false, Bool.false_eq_true]
    split <;> simp only [e1]

theorem compFlags_idem (flags i f : Nat) : compFlags flags i (compFlags flags i f) = compFlags flags i f := by
  generalize hg : compFlags flags i f = g
  have hi := compFlags_instr flags i f
  rw [hg] at hi
  have h1 : ¬ ((g &&& 0x0100 != 0) = true ∧ hasFlag flags F_NO_HINTING = true) := by
    intro ⟨a, b⟩
    rw [hi, if_pos b] at a
    simp at a
  have h2 : hasFlag flags F_SET_OVERLAPS = true ∧ i = 10 → g ||| 0x0400 = g := by
    intro hB
    rw [← hg]
    unfold compFlags
    simp only [hB, and_self, if_true, Nat.or_assoc, Nat.or_self]
  unfold compFlags
  simp only [h1, if_false]
  split
  · rename_i hB; exact h2 hB
  · rfl

theorem putU16_length (l : Bytes) (i v : Nat) : (putU16 l i v).length = l.length := by
  simp [putU16]

theorem putU16_getD_ne (l : Bytes) (i v j : Nat) (h1 : j ≠ i) (h2 : j ≠ i + 1) :
    (putU16 l i v).getD j 0 = l.getD j 0 :=
  SubsetOutline.getD_set_set_ne l i _ _ j h1 h2

theorem putU16_bytes (L : Bytes) (i v : Nat) (hi : i + 1 < L.length) :
    (putU16 L i v).getD i 0 = v / 256 ∧ (putU16 L i v).getD (i + 1) 0 = v % 256 :=
  SubsetOutline.set_set_bytes L i _ _ hi

theorem putU16_read (l : Bytes) (i v : Nat) (hi : i + 1 < l.length) :
    u16At (putU16 l i v) i = v := by
  obtain ⟨h0, h1⟩ := putU16_bytes l i v hi
  unfold u16At
  rw [h0, h1]
  omega

theorem putU16_self (L : Bytes) (i v : Nat)
    (h0 : L.getD i 0 = v / 256) (h1 : L.getD (i + 1) 0 = v % 256) : putU16 L i v = L := by
  unfold putU16
  rw [← h0, set_getD_self, ← h1, set_getD_self]

theorem compWriteFlags_cases (flags i f0 : Nat) (out : Bytes) :
    compWriteFlags flags i f0 out = out ∧ compFlags flags i f0 = f0 ∨
    compWriteFlags flags i f0 out = putU16 out i (compFlags flags i f0) ∨
    compWriteFlags flags i f0 out = putU16 (putU16 out i (f0 &&& 0x1EEF)) i (compFlags flags i f0) := by
  by_cases hA : (f0 &&& 0x0100 != 0) ∧ hasFlag flags F_NO_HINTING
  · by_cases hB : hasFlag flags F_SET_OVERLAPS ∧ i = 10
    · right; right
      simp only [compWriteFlags, hA, hB, and_self, if_true]
    · right; left
      simp only [compWriteFlags, compFlags, hA, hB, and_self, if_true, if_false]
  · by_cases hB : hasFlag flags F_SET_OVERLAPS ∧ i = 10
    · right; left
      simp only [compWriteFlags, hA, hB, and_self, if_true, if_false]
    · left
      simp only [compWriteFlags, compFlags, hA, hB, if_false, and_self]

theorem compWriteFlags_length (flags i f0 : Nat) (out : Bytes) :
    (compWriteFlags flags i f0 out).length = out.length := by
  rcases compWriteFlags_cases flags i f0 out with ⟨h, _⟩ | h | h <;> rw [h] <;> simp [putU16_length]

theorem compWriteFlags_getD_ne (flags i f0 : Nat) (out : Bytes) (j : Nat) (h1 : j ≠ i) (h2 : j ≠ i + 1) :
    (compWriteFlags flags i f0 out).getD j 0 = out.getD j 0 := by
  rcases compWriteFlags_cases flags i f0 out with ⟨h, _⟩ | h | h <;> rw [h]
  · rw [putU16_getD_ne _ _ _ _ h1 h2]
  · rw [putU16_getD_ne _ _ _ _ h1 h2, putU16_getD_ne _ _ _ _ h1 h2]

theorem compWriteFlags_read (flags i : Nat) (out : Bytes) (hi : i + 1 < out.length) :
    u16At (compWriteFlags flags i (u16At out i &&& COMPOSITE_KNOWN_BITS) out) i &&& COMPOSITE_KNOWN_BITS =
      compFlags flags i (u16At out i &&& COMPOSITE_KNOWN_BITS) := by
  have hk := compFlags_known flags i (u16At out i)
  rcases compWriteFlags_cases flags i (u16At out i &&& COMPOSITE_KNOWN_BITS) out with ⟨h, h'⟩ | h | h <;> rw [h]
  · rw [h']
  · rw [putU16_read _ _ _ hi, hk]
  · rw [putU16_read _ _ _ (by rw [putU16_length]; exact hi), hk]

/-- needs the canonical bytes: the stored word may carry unknown bits, which the second store would drop -/
theorem compWriteFlags_fixed (flags i f : Nat) (Y : Bytes)
    (hcanon : hasFlag flags F_SET_OVERLAPS = true ∧ i = 10 →
      Y.getD i 0 = compFlags flags i f / 256 ∧ Y.getD (i + 1) 0 = compFlags flags i f % 256) :
    compWriteFlags flags i (compFlags flags i f) Y = Y := by
  have hidem := compFlags_idem flags i f
  have hinstr := compFlags_instr flags i f
  generalize compFlags flags i f = g at *
  have hA : ¬ ((g &&& 0x0100 != 0) = true ∧ hasFlag flags F_NO_HINTING = true) := by
    intro ⟨a, b⟩
    rw [hinstr, if_pos b] at a
    simp at a
  unfold compWriteFlags
  simp only [hA, if_false]
  split
  · rename_i hB
    obtain ⟨c0, c1⟩ := hcanon hB
    rw [hidem]
    exact putU16_self Y i _ c0 c1
  · rfl

def flagsAt (d : Bytes) (i : Nat) : Nat := u16At d i &&& COMPOSITE_KNOWN_BITS

/-- one round at the record at `i`: the flag stores, then the new glyph id `as u16` -/
def compRound (flags i new : Nat) (out : Bytes) : Bytes :=
  putU16 (compWriteFlags flags i (flagsAt out i) out) (i + 2) (new % 65536)

theorem compRound_length (flags i new : Nat) (out : Bytes) : (compRound flags i new out).length = out.length := by
  unfold compRound; rw [putU16_length, compWriteFlags_length]

theorem compRound_getD (flags i new : Nat) (out : Bytes) (j : Nat) (h : j < i ∨ i + 4 ≤ j) :
    (compRound flags i new out).getD j 0 = out.getD j 0 := by
  unfold compRound
  rw [putU16_getD_ne _ _ _ _ (by omega) (by omega), compWriteFlags_getD_ne _ _ _ _ _ (by omega) (by omega)]

theorem compRound_flags (flags i new : Nat) (out : Bytes) (hi : i + 1 < out.length) :
    flagsAt (compRound flags i new out) i = compFlags flags i (flagsAt out i) := by
  have e : u16At (compRound flags i new out) i = u16At (compWriteFlags flags i (flagsAt out i) out) i :=
    u16At_congr _ _ _ (putU16_getD_ne _ _ _ _ (by omega) (by omega)) (putU16_getD_ne _ _ _ _ (by omega) (by omega))
  unfold flagsAt at e ⊢
  rw [e]; exact compWriteFlags_read flags i out hi

theorem compRound_glyphBytes (flags i new : Nat) (out : Bytes) (hi : i + 3 < out.length) :
    (compRound flags i new out).getD (i + 2) 0 = new % 65536 / 256 ∧
    (compRound flags i new out).getD (i + 3) 0 = new % 65536 % 256 :=
  putU16_bytes _ (i + 2) _ (by rw [compWriteFlags_length]; omega)

theorem compRound_glyph (flags i new : Nat) (out : Bytes) (hi : i + 3 < out.length) :
    u16At (compRound flags i new out) (i + 2) = new % 65536 :=
  putU16_read _ _ _ (by rw [compWriteFlags_length]; omega)

theorem compRound_record (flags i new : Nat) (X Y : Bytes) (hi : i + 3 < X.length)
    (h : ∀ j, i ≤ j → j < i + 4 → Y.getD j 0 = (compRound flags i new X).getD j 0) :
    flagsAt Y i = compFlags flags i (flagsAt X i) ∧ u16At Y (i + 2) = new % 65536 := by
  rw [← compRound_flags flags i new X (by omega), ← compRound_glyph flags i new X hi]
  exact ⟨congrArg (· &&& COMPOSITE_KNOWN_BITS) (u16At_congr _ _ _ (h _ (by omega) (by omega)) (h _ (by omega) (by omega))),
    u16At_congr _ _ _ (h _ (by omega) (by omega)) (h _ (by omega) (by omega))⟩

theorem compRound_fixed (flags i new : Nat) (out Y : Bytes) (hi : i + 3 < out.length)
    (h : ∀ j, i ≤ j → j < i + 4 → Y.getD j 0 = (compRound flags i new out).getD j 0) :
    compRound flags i (new % 65536) Y = Y := by
  have hf := (compRound_record flags i new out Y hi h).1
  obtain ⟨g0, g1⟩ := compRound_glyphBytes flags i new out hi
  unfold compRound
  rw [hf, compWriteFlags_fixed flags i (flagsAt out i) Y, Nat.mod_mod]
  · exact putU16_self Y (i + 2) _ (by rw [h _ (by omega) (by omega), g0])
      (by rw [h _ (by omega) (by omega), g1])
  · -- the flag bytes are canonical when the first run stored the word for the overlap bit
    intro hB
    have hw : compWriteFlags flags i (flagsAt out i) out =
        putU16 (if (flagsAt out i &&& 0x0100 != 0) ∧ hasFlag flags F_NO_HINTING = true
                then putU16 out i (flagsAt out i &&& 0x1EEF) else out) i (compFlags flags i (flagsAt out i)) := by
      unfold compWriteFlags; simp only [hB, and_self, if_true]
    have hb := putU16_bytes (if (flagsAt out i &&& 0x0100 != 0) ∧ hasFlag flags F_NO_HINTING = true
        then putU16 out i (flagsAt out i &&& 0x1EEF) else out) i (compFlags flags i (flagsAt out i))
        (by split
            · rw [putU16_length]; omega
            · omega)
    rw [← hw] at hb
    rw [h i (by omega) (by omega), h (i + 1) (by omega) (by omega)]
    unfold compRound
    rw [putU16_getD_ne _ _ _ _ (by omega) (by omega), putU16_getD_ne _ _ _ _ (by omega) (by omega)]
    exact hb

/-- the record size and MORE_COMPONENTS may be taken from the flag word as stored before the round: the rewrite keeps
those bits -/
theorem compLoop_succ (flags : Nat) (gmap : Nat → Option Nat) (len fuel : Nat) (out : Bytes) (i : Nat) (whi : Bool) :
    compLoop flags gmap len (fuel + 1) out i whi =
      if i + 3 ≥ len then none else
      match gmap (u16At out (i + 2)) with
      | none => none
      | some new =>
        if flagsAt out i &&& 0x0020 != 0 then
          compLoop flags gmap len fuel (compRound flags i new out) (i + compRecSize (flagsAt out i))
            (whi || (flagsAt out i &&& 0x0100 != 0))
        else some (compRound flags i new out, i + compRecSize (flagsAt out i), whi || (flagsAt out i &&& 0x0100 != 0)) := by
  have hgid : u16At (compWriteFlags flags i (flagsAt out i) out) (i + 2) = u16At out (i + 2) :=
    u16At_congr _ _ _ (compWriteFlags_getD_ne _ _ _ _ _ (by omega) (by omega))
      (compWriteFlags_getD_ne _ _ _ _ _ (by omega) (by omega))
  have hmore : compFlags flags i (flagsAt out i) &&& 0x0020 = flagsAt out i &&& 0x0020 :=
    compFlags_bit flags i _ 0x0020 ⟨rfl, rfl⟩
  have hnext : i + 4 + (if compFlags flags i (flagsAt out i) &&& 0x0001 != 0 then 4 else 2) +
      (if compFlags flags i (flagsAt out i) &&& 0x0008 != 0 then 2
       else if compFlags flags i (flagsAt out i) &&& 0x0040 != 0 then 4
       else if compFlags flags i (flagsAt out i) &&& 0x0080 != 0 then 8 else 0) = i + compRecSize (flagsAt out i) := by
    have := compRecSize_compFlags flags i (flagsAt out i)
    unfold compRecSize at this ⊢
    omega
  rw [compLoop]
  simp only
  rw [show u16At out i &&& COMPOSITE_KNOWN_BITS = flagsAt out i from rfl, hgid, hmore, hnext]
  rfl

/-- the component glyph ids of a composite record, walking the records the way the subsetter (and
read-fonts) does; `none` when a record header does not fit -/
def compIds (d : Bytes) (len : Nat) : Nat → Nat → Option (List Nat)
  | 0, _ => none
  | fuel + 1, i =>
    if i + 3 ≥ len then none else
    let f := u16At d i &&& COMPOSITE_KNOWN_BITS
    let rest := if f &&& 0x0020 != 0 then compIds d len fuel (i + compRecSize f) else some []
    rest.map (u16At d (i + 2) :: ·)

theorem compIds_succ (d : Bytes) (len fuel i : Nat) (hi : i + 3 < len) :
    compIds d len (fuel + 1) i =
      (if flagsAt d i &&& 0x0020 != 0 then compIds d len fuel (i + compRecSize (flagsAt d i)) else some []).map
        (u16At d (i + 2) :: ·) := by
  rw [compIds, if_neg (by omega)]; rfl

theorem compIds_congr (len : Nat) : ∀ (fuel : Nat) (a b : Bytes) (i : Nat),
    (∀ j, i ≤ j → a.getD j 0 = b.getD j 0) → compIds a len fuel i = compIds b len fuel i := by
  intro fuel
  induction fuel with
  | zero => intro a b i _; rfl
  | succ n ih =>
    intro a b i h
    unfold compIds
    have e0 : u16At a i = u16At b i := u16At_congr a b i (h i (Nat.le_refl _)) (h (i + 1) (by omega))
    have e2 : u16At a (i + 2) = u16At b (i + 2) := u16At_congr a b (i + 2) (h _ (by omega)) (h _ (by omega))
    rw [e0, e2]
    split
    · rfl
    · simp only
      rw [ih a b _ (fun j hj => h j (by omega))]

/-- the walk started at the record at `i` on the bytes `out` ends with `res` (bytes, end position, we_have_instructions) -/
inductive CompWalk (flags : Nat) (gmap : Nat → Option Nat) (len : Nat) : Bytes → Nat → Bool → Bytes × Nat × Bool → Prop
  | last {out : Bytes} {i : Nat} {whi : Bool} {new : Nat} (hi : i + 3 < len) (hg : gmap (u16At out (i + 2)) = some new)
      (hm : (flagsAt out i &&& 0x0020 != 0) = false) :
      CompWalk flags gmap len out i whi
        (compRound flags i new out, i + compRecSize (flagsAt out i), whi || (flagsAt out i &&& 0x0100 != 0))
  | more {out : Bytes} {i : Nat} {whi : Bool} {new : Nat} {res : Bytes × Nat × Bool} (hi : i + 3 < len)
      (hg : gmap (u16At out (i + 2)) = some new) (hm : (flagsAt out i &&& 0x0020 != 0) = true)
      (hrest : CompWalk flags gmap len (compRound flags i new out) (i + compRecSize (flagsAt out i))
        (whi || (flagsAt out i &&& 0x0100 != 0)) res) :
      CompWalk flags gmap len out i whi res

theorem compLoop_walk (flags : Nat) (gmap : Nat → Option Nat) (len : Nat) :
    ∀ (fuel : Nat) (out : Bytes) (i : Nat) (whi : Bool) (res : Bytes × Nat × Bool),
      compLoop flags gmap len fuel out i whi = some res → CompWalk flags gmap len out i whi res
  | 0, _, _, _, _, h => by simp [compLoop] at h
  | fuel + 1, out, i, whi, res, h => by
    rw [compLoop_succ] at h
    split at h
    · cases h
    rename_i hi
    split at h
    · cases h
    rename_i new hg
    split at h
    · rename_i hm
      exact .more (by omega) hg hm (compLoop_walk flags gmap len fuel _ _ _ res h)
    · rename_i hm
      cases h
      exact .last (by omega) hg (by simpa using hm)

namespace CompWalk

/-- every round advances by at least 6 bytes -/
theorem run {flags : Nat} {gmap : Nat → Option Nat} {len : Nat} {out : Bytes} {i : Nat} {whi : Bool}
    {res : Bytes × Nat × Bool} (h : CompWalk flags gmap len out i whi res) :
    ∀ fuel, len ≤ i + 6 * fuel → compLoop flags gmap len fuel out i whi = some res := by
  induction h with
  | last hi hg hm =>
    intro fuel hf
    cases fuel with
    | zero => omega
    | succ k => rw [compLoop_succ]; simp only [hg, hm]; simp; omega
  | @more out i whi new res hi hg hm hrest ih =>
    intro fuel hf
    cases fuel with
    | zero => omega
    | succ k =>
      rw [compLoop_succ]
      simp only [hg, hm, if_true]
      have := compRecSize_ge (flagsAt out i)
      rw [if_neg (by omega)]
      exact ih k (by omega)

theorem frame {flags : Nat} {gmap : Nat → Option Nat} {len : Nat} {out : Bytes} {i : Nat} {whi : Bool}
    {res : Bytes × Nat × Bool} (h : CompWalk flags gmap len out i whi res) :
    res.1.length = out.length ∧ i + 6 ≤ res.2.1 ∧
    ∀ j, j < i ∨ res.2.1 ≤ j → res.1.getD j 0 = out.getD j 0 := by
  induction h with
  | @last out i whi new hi hg hm =>
    have := compRecSize_ge (flagsAt out i)
    exact ⟨compRound_length _ _ _ _, by simp only; omega, fun j hj => compRound_getD _ _ _ _ _ (by simp only at hj; omega)⟩
  | @more out i whi new res hi hg hm hrest ih =>
    have := compRecSize_ge (flagsAt out i)
    obtain ⟨h1, h2, h3⟩ := ih
    refine ⟨by rw [h1, compRound_length], by omega, fun j hj => ?_⟩
    rw [h3 j (by omega), compRound_getD _ _ _ _ _ (by omega)]

theorem ids {flags : Nat} {gmap : Nat → Option Nat} {len : Nat} {out : Bytes} {i : Nat} {whi : Bool}
    {res : Bytes × Nat × Bool} (h : CompWalk flags gmap len out i whi res) :
    len ≤ out.length → ∀ fuel, len ≤ i + 6 * fuel →
      ∃ ids news, compIds out len fuel i = some ids ∧ ids.mapM gmap = some news ∧
        compIds res.1 len fuel i = some (news.map (· % 65536)) := by
  induction h with
  | @last out i whi new hi hg hm =>
    intro hlen fuel hf
    obtain ⟨fuel, rfl⟩ : ∃ k, fuel = k + 1 := ⟨fuel - 1, by omega⟩
    obtain ⟨e1, e2⟩ := compRound_record flags i new out _ (by omega) (fun _ _ _ => rfl)
    refine ⟨[u16At out (i + 2)], [new], ?_, by rw [List.mapM_cons, hg]; rfl, ?_⟩
    · rw [compIds_succ _ _ _ _ hi, hm]; rfl
    · rw [compIds_succ _ _ _ _ hi, e1, e2, compFlags_bit flags i _ 0x0020 ⟨rfl, rfl⟩, hm]; rfl
  | @more out i whi new res hi hg hm hrest ih =>
    intro hlen fuel hf
    obtain ⟨fuel, rfl⟩ : ∃ k, fuel = k + 1 := ⟨fuel - 1, by omega⟩
    have hsz := compRecSize_ge (flagsAt out i)
    obtain ⟨ids, news, r3, r4, r5⟩ := ih (by rw [compRound_length]; exact hlen) fuel (by omega)
    obtain ⟨_, _, hfr⟩ := hrest.frame
    obtain ⟨e1, e2⟩ := compRound_record flags i new out res.1 (by omega) (fun j _ hj => hfr j (Or.inl (by omega)))
    refine ⟨u16At out (i + 2) :: ids, new :: news, ?_, by rw [List.mapM_cons, hg, r4]; rfl, ?_⟩
    · rw [compIds_succ _ _ _ _ hi, hm, if_pos rfl, compIds_congr len fuel out (compRound flags i new out) _
        (fun j hj => (compRound_getD _ _ _ _ _ (by omega)).symm), r3]; rfl
    · rw [compIds_succ _ _ _ _ hi, e1, e2, compFlags_bit flags i _ 0x0020 ⟨rfl, rfl⟩, compRecSize_compFlags, hm,
        if_pos rfl, r5]; rfl

end CompWalk

theorem compIterGo_prefix (d : Bytes) : ∀ (fuel i : Nat) (ids : List Nat),
    compIds d d.length fuel i = some ids → compIterGo d fuel i <+: ids := by
  intro fuel
  induction fuel with
  | zero => intro i ids h; simp [compIds] at h
  | succ n ih =>
    intro i ids h
    unfold compIds at h
    split at h
    · cases h
    · simp only at h
      unfold compIterGo
      simp only
      split
      · exact List.nil_prefix
      · split at h
        · rename_i hm
          cases hrest : compIds d d.length n (i + compRecSize (u16At d i &&& COMPOSITE_KNOWN_BITS)) with
          | none => simp [hrest] at h
          | some rest =>
            simp [hrest] at h
            subst h
            simp only [hm, if_true]
            exact List.prefix_cons_inj _ |>.mpr (ih _ rest hrest)
        · rename_i hm
          simp at h
          subst h
          simp only [hm]
          exact List.prefix_refl _

/-- the length `subset_composite_glyph` keeps of the rewritten buffer -/
def compCut (flags len : Nat) (full : Bytes) (i : Nat) (whi : Bool) : Nat :=
  if whi ∧ !hasFlag flags F_NO_HINTING then (if i + 1 ≥ len then i else i + 2 + u16At full i) else i

theorem compCut_drop {flags len : Nat} {full : Bytes} {i : Nat} {whi : Bool}
    (h : hasFlag flags F_NO_HINTING = true ∨ whi = false) : compCut flags len full i whi = i := by
  unfold compCut
  rcases h with h | h <;> simp [h]

theorem compCut_instr {flags len : Nat} {full : Bytes} {i : Nat} (hnh : hasFlag flags F_NO_HINTING = false) :
    compCut flags len full i true = if i + 1 ≥ len then i else i + 2 + u16At full i := by
  unfold compCut
  simp [hnh]

theorem le_compCut (flags len : Nat) (full : Bytes) (i : Nat) (whi : Bool) : i ≤ compCut flags len full i whi := by
  unfold compCut; split <;> (try split) <;> omega

theorem subsetComposite_eq (flags : Nat) (gmap : Nat → Option Nat) (d : Bytes) :
    subsetComposite flags gmap d =
      match compLoop flags gmap d.length (d.length + 1) d 10 false with
      | none => []
      | some (full, i, whi) => full.take (compCut flags d.length full i whi) := by
  unfold subsetComposite compCut
  simp only
  cases compLoop flags gmap d.length (d.length + 1) d 10 false with
  | none => rfl
  | some r => simp only; split <;> (try split) <;> rfl

theorem subsetComposite_kept (flags : Nat) (gmap : Nat → Option Nat) (d out : Bytes)
    (h : subsetComposite flags gmap d = out) (hne : out ≠ []) :
    ∃ full i whi, compLoop flags gmap d.length (d.length + 1) d 10 false = some (full, i, whi) ∧
      out = full.take (compCut flags d.length full i whi) := by
  rw [subsetComposite_eq] at h
  split at h
  · exact absurd h.symm hne
  · exact ⟨_, _, _, by assumption, h.symm⟩

end FontVerif.Subset
