/-
Rust's `BTreeMap<u32, _>::insert` / `BTreeSet::insert` as the models write them: an insertion into a list that is
strictly ascending in its keys.  Model/Graph (`Map.insert`, `Set.insert`), Model/Determinism (`OMap.insert`,
`OSet.insert`), Model/Layout (`insertItem`), Model/TableKeyed (`insertTable`), Model/GlyphKeyed (`insertSorted`) and Model/Sfnt (`insert`)
each spell this recursion out; their lemma modules prove `X.insert = SMap.insert` (`SSet.insert`) by one induction
and take lookup-after-insert, membership and sortedness from here.  Model/IntSet's `ensurePage` is the insertion of
the page stored already, or of the zero page (`IntSet.ensurePage_eq_insert`; its `lookup` is `List.lookup`,
`IntSet.lookup_eq_list`).
-/
import FontVerif.Lemmas.Lists
namespace FontVerif.SMap


def insert {α : Type} (k : Nat) (v : α) : List (Nat × α) → List (Nat × α)
  | [] => [(k, v)]
  | (k', v') :: r =>
    if k < k' then (k, v) :: (k', v') :: r else if k = k' then (k, v) :: r else (k', v') :: insert k v r

def Sorted {α : Type} (m : List (Nat × α)) : Prop := m.Pairwise (fun a b => a.1 < b.1)

theorem insert_cons {α : Type} (k : Nat) (v : α) (k' : Nat) (v' : α) (r : List (Nat × α)) :
    insert k v ((k', v') :: r) =
      if k < k' then (k, v) :: (k', v') :: r else if k = k' then (k, v) :: r else (k', v') :: insert k v r := rfl

theorem lookup_cons {α : Type} (x k : Nat) (v : α) (r : List (Nat × α)) :
    List.lookup x ((k, v) :: r) = if x = k then some v else List.lookup x r := by
  rw [List.lookup_cons]
  by_cases h : x = k
  · rw [if_pos h, beq_iff_eq.2 h]
  · rw [if_neg h, beq_eq_false_iff_ne.2 h]

theorem lookup_insert {α : Type} (k : Nat) (v : α) (x : Nat) (m : List (Nat × α)) :
    (insert k v m).lookup x = if x = k then some v else m.lookup x := by
  induction m with
  | nil => rw [insert, lookup_cons]
  | cons e r ih =>
    obtain ⟨k', v'⟩ := e
    rw [insert_cons]
    by_cases h1 : k < k'
    · rw [if_pos h1, lookup_cons]
    · rw [if_neg h1]
      by_cases h2 : k = k'
      · subst h2; rw [if_pos rfl, lookup_cons, lookup_cons]
        by_cases h : x = k
        · rw [if_pos h, if_pos h]
        · rw [if_neg h, if_neg h, if_neg h]
      · rw [if_neg h2, lookup_cons, lookup_cons, ih]
        by_cases h : x = k'
        · rw [if_pos h, if_neg (fun e => h2 (e.symm.trans h)), if_pos h]
        · rw [if_neg h, if_neg h]

theorem mem_insert {α : Type} {k : Nat} {v : α} {m : List (Nat × α)} {p : Nat × α} (h : p ∈ insert k v m) :
    p = (k, v) ∨ p ∈ m := by
  induction m with
  | nil => exact .inl (List.mem_singleton.1 h)
  | cons e r ih =>
    obtain ⟨k', v'⟩ := e
    rw [insert_cons] at h
    by_cases h1 : k < k'
    · rw [if_pos h1] at h; exact (List.mem_cons.1 h).imp id id
    · rw [if_neg h1] at h
      by_cases h2 : k = k'
      · rw [if_pos h2] at h; exact (List.mem_cons.1 h).imp id (List.mem_cons_of_mem _)
      · rw [if_neg h2] at h
        rcases List.mem_cons.1 h with rfl | h
        · exact .inr List.mem_cons_self
        · exact (ih h).imp id (List.mem_cons_of_mem _)

theorem insert_sorted {α : Type} (k : Nat) (v : α) {m : List (Nat × α)} (h : Sorted m) : Sorted (insert k v m) := by
  unfold Sorted at *
  induction m with
  | nil => simp [insert]
  | cons e r ih =>
    obtain ⟨k', v'⟩ := e
    obtain ⟨hk, hr⟩ := List.pairwise_cons.1 h
    rw [insert_cons]
    by_cases h1 : k < k'
    · rw [if_pos h1]
      refine List.pairwise_cons.2 ⟨fun a ha => ?_, h⟩
      rcases List.mem_cons.1 ha with rfl | ha
      · exact h1
      · exact Nat.lt_trans h1 (hk a ha)
    · rw [if_neg h1]
      by_cases h2 : k = k'
      · subst h2; rw [if_pos rfl]; exact List.pairwise_cons.2 ⟨hk, hr⟩
      · rw [if_neg h2]
        refine List.pairwise_cons.2 ⟨fun a ha => ?_, ih hr⟩
        rcases mem_insert ha with rfl | ha
        · show k' < k; omega
        · exact hk a ha

theorem insert_cons_lt {α : Type} {k k' : Nat} (h : k < k') (v v' : α) (r : List (Nat × α)) :
    insert k v ((k', v') :: r) = (k, v) :: (k', v') :: r := by
  simp only [insert, if_pos h]

theorem insert_cons_eq {α : Type} (k : Nat) (v v' : α) (r : List (Nat × α)) :
    insert k v ((k, v') :: r) = (k, v) :: r := by
  simp only [insert, Nat.lt_irrefl, if_false, if_true]

theorem insert_cons_gt {α : Type} {k k' : Nat} (h : k' < k) (v v' : α) (r : List (Nat × α)) :
    insert k v ((k', v') :: r) = (k', v') :: insert k v r := by
  simp only [insert, if_neg (Nat.lt_asymm h), if_neg (Nat.ne_of_gt h)]

theorem insert_comm_lt {α : Type} (k1 k2 : Nat) (v1 v2 : α) (m : List (Nat × α)) (h : k1 < k2) :
    insert k1 v1 (insert k2 v2 m) = insert k2 v2 (insert k1 v1 m) := by
  induction m with
  | nil =>
    show insert k1 v1 [(k2, v2)] = insert k2 v2 [(k1, v1)]
    rw [insert_cons_lt h, insert_cons_gt h]; rfl
  | cons e rest ih =>
    obtain ⟨t, d⟩ := e
    -- where `t` stands relative to `k1 < k2` decides which equation of `insert` applies at each step
    rcases Nat.lt_trichotomy k2 t with b | rfl | b
    · simp (disch := omega) only [insert_cons_lt, insert_cons_gt]
    · simp (disch := omega) only [insert_cons_lt, insert_cons_eq, insert_cons_gt]
    · rcases Nat.lt_trichotomy k1 t with a | rfl | a
      · simp (disch := omega) only [insert_cons_lt, insert_cons_gt]
      · simp (disch := omega) only [insert_cons_eq, insert_cons_gt]
      · simp (disch := omega) only [insert_cons_gt, ih]

/-- insertions of different keys commute (no sortedness needed) -/
theorem insert_comm {α : Type} (k1 k2 : Nat) (v1 v2 : α) (m : List (Nat × α)) (h : k1 ≠ k2) :
    insert k1 v1 (insert k2 v2 m) = insert k2 v2 (insert k1 v1 m) := by
  rcases Nat.lt_or_gt_of_ne h with h | h
  · exact insert_comm_lt k1 k2 v1 v2 m h
  · exact (insert_comm_lt k2 k1 v2 v1 m h).symm

/-- `collect::<BTreeMap>()` / a sequence of `insert`s of entries with distinct keys does not depend on their order -/
theorem foldl_insert_perm {α : Type} {l₁ l₂ : List (Nat × α)} (hp : l₁.Perm l₂) (hk : (l₁.map (·.1)).Nodup)
    (m : List (Nat × α)) :
    l₁.foldl (fun m e => insert e.1 e.2 m) m = l₂.foldl (fun m e => insert e.1 e.2 m) m := by
  refine hp.foldl_eq' (fun x hx y hy z => ?_) m
  by_cases hxy : x.1 = y.1
  · rw [eq_of_nodup_map (·.1) l₁ hk x hx y hy hxy]
  · exact (insert_comm x.1 y.1 x.2 y.2 z hxy).symm

end FontVerif.SMap

namespace FontVerif.SSet


def insert (k : Nat) : List Nat → List Nat
  | [] => [k]
  | y :: r => if k < y then k :: y :: r else if k = y then y :: r else y :: insert k r

theorem insert_cons (k y : Nat) (r : List Nat) :
    insert k (y :: r) = if k < y then k :: y :: r else if k = y then y :: r else y :: insert k r := rfl

theorem mem_insert {k x : Nat} {s : List Nat} : x ∈ insert k s ↔ x = k ∨ x ∈ s := by
  induction s with
  | nil => simp [insert]
  | cons y r ih =>
    rw [insert_cons]
    by_cases h1 : k < y
    · rw [if_pos h1]; exact List.mem_cons
    · rw [if_neg h1]
      by_cases h2 : k = y
      · subst h2; rw [if_pos rfl, List.mem_cons]
        exact ⟨.inr, fun h => h.elim .inl id⟩
      · rw [if_neg h2, List.mem_cons, List.mem_cons, ih]
        exact ⟨fun h => h.elim (fun h => .inr (.inl h)) (fun h => h.imp id .inr),
          fun h => h.elim (fun h => .inr (.inl h)) (fun h => h.imp id .inr)⟩

theorem insert_sorted (k : Nat) {s : List Nat} (h : s.Pairwise (· < ·)) : (insert k s).Pairwise (· < ·) := by
  induction s with
  | nil => simp [insert]
  | cons y r ih =>
    obtain ⟨hy, hr⟩ := List.pairwise_cons.1 h
    rw [insert_cons]
    by_cases h1 : k < y
    · rw [if_pos h1]
      refine List.pairwise_cons.2 ⟨fun a ha => ?_, h⟩
      rcases List.mem_cons.1 ha with rfl | ha
      · exact h1
      · exact Nat.lt_trans h1 (hy a ha)
    · rw [if_neg h1]
      by_cases h2 : k = y
      · rw [if_pos h2]; exact h
      · rw [if_neg h2]
        refine List.pairwise_cons.2 ⟨fun a ha => ?_, ih hr⟩
        rcases mem_insert.1 ha with rfl | ha
        · omega
        · exact hy a ha

theorem mem_foldl_insert (l : List Nat) : ∀ (s : List Nat) (y : Nat),
    y ∈ l.foldl (fun s x => insert x s) s ↔ y ∈ s ∨ y ∈ l := by
  induction l with
  | nil => intro s y; simp
  | cons x l ih => intro s y; rw [List.foldl_cons, ih, mem_insert, List.mem_cons, or_comm (a := y = x), or_assoc]
theorem foldl_insert_sorted (l : List Nat) : ∀ (s : List Nat), s.Pairwise (· < ·) →
    (l.foldl (fun s x => insert x s) s).Pairwise (· < ·) := by
  induction l with
  | nil => intro s h; exact h
  | cons x l ih => intro s h; exact ih _ (insert_sorted x h)

end FontVerif.SSet

/-! Stable insertion by a Boolean order (`x` goes in front of the first element it is `le` to) and the insertion sort built
from it, as the models write `BinaryHeap` pop orders and `sort_by_key`: Model/Graph (`insertBy`), Model/Determinism
(`insertByKey`), Model/SubsetMeta (`insertRec`), Model/Layout (`insertClass`).  Their lemma modules prove
`X.insert.. = SSort.insertBy le ..` by one induction. -/
namespace FontVerif.SSort

def insertBy {α : Type} (le : α → α → Bool) (x : α) : List α → List α
  | [] => [x]
  | y :: r => if le x y then x :: y :: r else y :: insertBy le x r

theorem insertBy_cons {α : Type} (le : α → α → Bool) (x y : α) (r : List α) :
    insertBy le x (y :: r) = if le x y then x :: y :: r else y :: insertBy le x r := rfl

theorem insertBy_perm {α : Type} (le : α → α → Bool) (x : α) (l : List α) : (insertBy le x l).Perm (x :: l) := by
  induction l with
  | nil => exact .refl _
  | cons y r ih =>
    rw [insertBy_cons]
    split
    · exact .refl _
    · exact (ih.cons y).trans (.swap x y r)

theorem mem_insertBy {α : Type} (le : α → α → Bool) (x y : α) (l : List α) : y ∈ insertBy le x l ↔ y = x ∨ y ∈ l :=
  (insertBy_perm le x l).mem_iff.trans List.mem_cons

theorem foldr_insertBy_perm {α : Type} (le : α → α → Bool) (l : List α) : (l.foldr (insertBy le) []).Perm l := by
  induction l with
  | nil => exact .refl _
  | cons x xs ih => exact (insertBy_perm le x _).trans (ih.cons x)

theorem insertBy_sorted {α : Type} (le : α → α → Bool) (total : ∀ a b, le a b = true ∨ le b a = true)
    (trans : ∀ a b c, le a b = true → le b c = true → le a c = true) (x : α) (l : List α)
    (h : l.Pairwise (le · · = true)) : (insertBy le x l).Pairwise (le · · = true) := by
  induction l with
  | nil => exact List.pairwise_singleton _ _
  | cons y ys ih =>
    rw [insertBy_cons]
    have hy := List.pairwise_cons.mp h
    split
    · rename_i hxy
      exact List.pairwise_cons.mpr
        ⟨fun b hb => (List.mem_cons.mp hb).elim (· ▸ hxy) (fun hb => trans _ _ _ hxy (hy.1 b hb)), h⟩
    · rename_i hxy
      refine List.pairwise_cons.mpr ⟨fun b hb => ?_, ih hy.2⟩
      rcases (mem_insertBy le x b ys).mp hb with rfl | hb
      · exact (total _ _).resolve_left hxy
      · exact hy.1 b hb

theorem foldr_insertBy_sorted {α : Type} (le : α → α → Bool) (total : ∀ a b, le a b = true ∨ le b a = true)
    (trans : ∀ a b c, le a b = true → le b c = true → le a c = true) (l : List α) :
    (l.foldr (insertBy le) []).Pairwise (le · · = true) := by
  induction l with
  | nil => exact .nil
  | cons x xs ih => exact insertBy_sorted le total trans x _ ih

/-- the insertion sort by an order that is antisymmetric on the elements does not depend on the order of its input: a
sorted permutation is unique -/
theorem foldr_insertBy_perm_eq {α : Type} (le : α → α → Bool) (total : ∀ a b, le a b = true ∨ le b a = true)
    (trans : ∀ a b c, le a b = true → le b c = true → le a c = true) {l₁ l₂ : List α} (hp : l₁.Perm l₂)
    (anti : ∀ a ∈ l₁, ∀ b ∈ l₁, le a b = true → le b a = true → a = b) :
    l₁.foldr (insertBy le) [] = l₂.foldr (insertBy le) [] :=
  have p1 := foldr_insertBy_perm le l₁
  have p2 := foldr_insertBy_perm le l₂
  (p1.trans (hp.trans p2.symm)).eq_of_pairwise
    (fun a b ha hb => anti a (p1.mem_iff.mp ha) b (hp.mem_iff.mpr (p2.mem_iff.mp hb)))
    (foldr_insertBy_sorted le total trans l₁) (foldr_insertBy_sorted le total trans l₂)

end FontVerif.SSort
