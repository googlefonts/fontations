/-
Helper lemmas for C07 (Props/C07.lean): permutation-invariant folds, strictly ascending lists as canonical forms
(`sorted_ext` of Lemmas/Lists), commutation of ordered-map / ordered-set updates, a sort by an injective key as the unique
sorted permutation.
-/
import FontVerif.Model.Determinism
import FontVerif.Lemmas.Lists
import FontVerif.Lemmas.SortedMap
namespace FontVerif.Determinism

/-- folding a list with an operation that commutes on compatible elements (while an invariant holds) gives the same
    result for every permutation of the list -/
theorem foldl_perm_inv {α β : Type} (f : β → α → β) (P : β → Prop) (C : α → α → Prop)
    (hsymm : ∀ x y, C x y → C y x) (hP : ∀ z x, P z → P (f z x))
    (hc : ∀ z x y, P z → C x y → f (f z x) y = f (f z y) x)
    {l₁ l₂ : List α} (hp : l₁.Perm l₂) : ∀ z, P z → l₁.Pairwise C → l₁.foldl f z = l₂.foldl f z := by
  induction hp with
  | nil => intros; rfl
  | cons x _ ih =>
    intro z hz hpw
    rw [List.pairwise_cons] at hpw
    simp only [List.foldl_cons]
    exact ih (f z x) (hP z x hz) hpw.2
  | swap x y l =>
    intro z hz hpw
    simp only [List.foldl_cons]
    rw [List.pairwise_cons] at hpw
    rw [hc z y x hz (hpw.1 x (by simp))]
  | trans h₁ h₂ ih₁ ih₂ =>
    intro z hz hpw
    rw [ih₁ z hz hpw]
    exact ih₂ z hz ((h₁.pairwise_iff (fun h => hsymm _ _ h)).mp hpw)

def SortedSet (s : List Nat) : Prop := s.Pairwise (· < ·)

/-! `OSet` / `OMap` are the key-sorted lists of Lemmas/SortedMap.lean. -/

theorem OSet.insert_eq (k : Nat) (s : OSet) : OSet.insert k s = SSet.insert k s := by
  induction s with
  | nil => rfl
  | cons y r ih => simp only [OSet.insert, SSet.insert, ih]

theorem OMap.insert_eq {α : Type} (k : Nat) (v : α) (m : OMap α) : OMap.insert k v m = SMap.insert k v m := by
  induction m with
  | nil => rfl
  | cons e r ih => obtain ⟨k', v'⟩ := e; simp only [OMap.insert, SMap.insert, ih]

theorem oset_mem_insert (k x : Nat) (s : List Nat) : x ∈ OSet.insert k s ↔ x = k ∨ x ∈ s := by
  rw [OSet.insert_eq]; exact SSet.mem_insert

theorem oset_insert_sorted (k : Nat) (s : List Nat) (h : SortedSet s) : SortedSet (OSet.insert k s) := by
  rw [OSet.insert_eq]; exact SSet.insert_sorted k h

theorem oset_mem_erase (k x : Nat) (s : List Nat) (h : SortedSet s) : x ∈ OSet.erase k s ↔ x ≠ k ∧ x ∈ s := by
  induction s with
  | nil => simp [OSet.erase]
  | cons y ys ih =>
    unfold SortedSet at h
    rw [List.pairwise_cons] at h
    simp only [OSet.erase]
    split
    · subst_vars
      constructor
      · intro hx; have := h.1 x hx; exact ⟨by omega, by simp [hx]⟩
      · intro ⟨hne, hx⟩; simp only [List.mem_cons] at hx; rcases hx with hx | hx
        · exact absurd hx hne
        · exact hx
    · simp only [List.mem_cons, ih h.2]
      constructor
      · intro hx; rcases hx with rfl | hx
        · exact ⟨by omega, Or.inl rfl⟩
        · exact ⟨hx.1, Or.inr hx.2⟩
      · intro ⟨hne, hx⟩; rcases hx with hx | hx
        · exact Or.inl hx
        · exact Or.inr ⟨hne, hx⟩

theorem oset_erase_sorted (k : Nat) (s : List Nat) (h : SortedSet s) : SortedSet (OSet.erase k s) := by
  induction s with
  | nil => simp [OSet.erase, SortedSet]
  | cons y ys ih =>
    unfold SortedSet at h ⊢
    rw [List.pairwise_cons] at h
    simp only [OSet.erase]
    split
    · exact h.2
    · rw [List.pairwise_cons]; refine ⟨?_, ih h.2⟩
      intro a ha
      rw [oset_mem_erase _ _ _ h.2] at ha
      exact h.1 a ha.2

theorem OMap.get?_eq {α : Type} (k : Nat) (m : OMap α) : OMap.get? k m = List.lookup k m := by
  induction m with
  | nil => rfl
  | cons e rest ih => rw [SMap.lookup_cons, OMap.get?, ih]

theorem get?_mem {α : Type} (m : OMap α) (k : Nat) (v : α) (h : OMap.get? k m = some v) : (k, v) ∈ m :=
  mem_of_lookup_eq_some (OMap.get?_eq k m ▸ h)

theorem omap_mem_insert {α : Type} (m : OMap α) (k : Nat) (v : α) (x : Nat × α) (hx : x ∈ OMap.insert k v m) :
    x = (k, v) ∨ x ∈ m :=
  SMap.mem_insert (OMap.insert_eq k v m ▸ hx)

theorem insert_keys {α : Type} (m : OMap α) (k : Nat) (v : α) (U : Nat → Prop) (hm : ∀ e ∈ m, U e.1) (hk : U k) :
    ∀ e ∈ OMap.insert k v m, U e.1 := by
  intro e he
  rcases omap_mem_insert m k v e he with rfl | h
  · exact hk
  · exact hm e h

theorem erase_comm {α : Type} (k₁ k₂ : Nat) (m : OMap α) :
    OMap.erase k₁ (OMap.erase k₂ m) = OMap.erase k₂ (OMap.erase k₁ m) := by
  induction m with
  | nil => rfl
  | cons e rest ih =>
    obtain ⟨k', v'⟩ := e
    by_cases b1 : k₁ = k' <;> by_cases b2 : k₂ = k' <;> simp [OMap.erase, *]

def stepRoots (r : List Nat) (e : Nat × Nat) : List Nat :=
  if r.contains e.1 then OSet.insert e.2 (OSet.erase e.1 r) else r

theorem renameRoots_eq (m : List (Nat × Nat)) (r : List Nat) : renameRoots m r = m.foldl stepRoots r := rfl

theorem stepRoots_sorted (r : List Nat) (e : Nat × Nat) (h : SortedSet r) : SortedSet (stepRoots r e) := by
  unfold stepRoots; split
  · exact oset_insert_sorted _ _ (oset_erase_sorted _ _ h)
  · exact h

theorem mem_stepRoots (r : List Nat) (e : Nat × Nat) (h : SortedSet r) (x : Nat) :
    x ∈ stepRoots r e ↔ if e.1 ∈ r then x = e.2 ∨ (x ≠ e.1 ∧ x ∈ r) else x ∈ r := by
  unfold stepRoots
  by_cases hc : e.1 ∈ r
  · simp [hc, oset_mem_insert, oset_mem_erase _ _ _ h]
  · simp [hc]

theorem mem_stepRoots_of_ne (r : List Nat) (e : Nat × Nat) (h : SortedSet r) (x : Nat) (h1 : x ≠ e.1) (h2 : x ≠ e.2) :
    x ∈ stepRoots r e ↔ x ∈ r := by
  rw [mem_stepRoots r e h]; split <;> simp [h1, h2]

/-- compatibility of two `(old, new)` entries of `id_map`: different keys, different fresh ids, and no fresh id is
    an old id -/
def Compat (e e' : Nat × Nat) : Prop := e.1 ≠ e'.1 ∧ e.2 ≠ e'.2 ∧ e.2 ≠ e'.1 ∧ e'.2 ≠ e.1

theorem stepRoots_comm (r : List Nat) (e e' : Nat × Nat) (h : SortedSet r) (hc : Compat e e') :
    stepRoots (stepRoots r e) e' = stepRoots (stepRoots r e') e := by
  obtain ⟨h1, h2, h3, h4⟩ := hc
  have hs := stepRoots_sorted r e h
  have hs' := stepRoots_sorted r e' h
  apply sorted_ext (stepRoots_sorted _ e' hs) (stepRoots_sorted _ e hs')
  intro x
  -- neither entry changes whether the other one fires
  simp only [mem_stepRoots _ _ hs, mem_stepRoots _ _ hs', mem_stepRoots_of_ne r e h e'.1 (Ne.symm h1) (Ne.symm h3),
    mem_stepRoots_of_ne r e' h e.1 h1 (Ne.symm h4), mem_stepRoots r e h, mem_stepRoots r e' h]
  by_cases a : e.1 ∈ r <;> by_cases b : e'.1 ∈ r <;> simp only [a, b, if_true, if_false]
  -- both fire
  by_cases c : x = e.2
  · simp [c, h2, h3]
  · by_cases d : x = e'.2
    · simp [d, Ne.symm h2, h4]
    · simp only [c, d, false_or]; exact and_left_comm

theorem insertByKey_eq {α : Type} (key : α → Nat) (x : α) (l : List α) :
    insertByKey key x l = SSort.insertBy (fun a b => decide (key a ≤ key b)) x l := by
  induction l with
  | nil => rfl
  | cons y ys ih => simp only [insertByKey, SSort.insertBy, decide_eq_true_eq, ih]

theorem sortByKey_perm {α : Type} (key : α → Nat) {l₁ l₂ : List α} (hp : l₁.Perm l₂)
    (hinj : ∀ a ∈ l₁, ∀ b ∈ l₁, key a = key b → a = b) : sortByKey key l₁ = sortByKey key l₂ := by
  unfold sortByKey
  rw [funext fun x => funext (insertByKey_eq key x)]
  exact SSort.foldr_insertBy_perm_eq _ (fun a b => by simpa using Nat.le_total (key a) (key b))
    (fun a b c h1 h2 => by simp only [decide_eq_true_eq] at *; omega) hp
    (fun a ha b hb h1 h2 => hinj a ha b hb (by simp only [decide_eq_true_eq] at h1 h2; omega))

theorem maxByKey_spec {α : Type} (key : α → Nat) (l : List α) (hne : l ≠ []) :
    ∃ m, maxByKey key l = some m ∧ m ∈ l ∧ ∀ x ∈ l, key x ≤ key m := by
  induction l with
  | nil => exact absurd rfl hne
  | cons x xs ih =>
    cases xs with
    | nil => exact ⟨x, by simp [maxByKey], by simp, by simp⟩
    | cons y ys =>
      obtain ⟨m, hm, hmem, hmax⟩ := ih (by simp)
      simp only [maxByKey] at hm ⊢
      rw [hm]
      by_cases c : key x > key m
      · refine ⟨x, by simp [c], by simp, ?_⟩
        intro z hz
        simp only [List.mem_cons] at hz
        rcases hz with rfl | hz
        · omega
        · have := hmax z (by simpa using hz); omega
      · refine ⟨m, by simp [c], by simp only [List.mem_cons] at hmem ⊢; exact Or.inr hmem, ?_⟩
        intro z hz
        simp only [List.mem_cons] at hz
        rcases hz with rfl | hz
        · omega
        · exact hmax z (by simpa using hz)

end FontVerif.Determinism
