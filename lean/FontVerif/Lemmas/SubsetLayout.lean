/-
Helper lemmas for C17 (layout part): the plan's glyph map as a monotone partial function, the two
strategies of the coverage subsetters agree, the coverage writer is C16's `iter_for_glyphs`, positions
in filtered lists.
-/
import FontVerif.Model.SubsetLayout
import FontVerif.Lemmas.Layout
import FontVerif.Lemmas.LayoutCov
namespace FontVerif.SubsetLayout
open FontVerif.Layout

/-- what `Plan::new` establishes for the layout subsetters: `glyph_map_gsub` has exactly the glyphs of
`glyphset_gsub` as keys (ascending), its values ascend with the keys (compact renumbering or
retain-gids), every new id fits `u16`, every glyph is below `font_num_glyphs`. -/
structure PlanOk (p : LPlan) : Prop where
  keys : p.gmap.map Prod.fst = p.glyphset
  sorted : p.gmap.Pairwise (fun a b => a.1 < b.1 ∧ a.2 < b.2)
  newLt : ∀ kv ∈ p.gmap, kv.2 < 65536
  keyLt : ∀ kv ∈ p.gmap, kv.1 < p.numGlyphs

theorem PlanOk.get_iff {p : LPlan} (hp : PlanOk p) (g n : Nat) : p.get g = some n ↔ (g, n) ∈ p.gmap :=
  lookup_eq_some_iff_mem (List.pairwise_map.mpr (hp.sorted.imp fun h => Nat.ne_of_lt h.1)) g n

theorem PlanOk.get_mono {p : LPlan} (hp : PlanOk p) {a a' b b' : Nat} (h : a < a')
    (hb : p.get a = some b) (hb' : p.get a' = some b') : b < b' := by
  have m1 := (hp.get_iff a b).mp hb
  have m2 := (hp.get_iff a' b').mp hb'
  have hpw := hp.sorted
  rw [List.pairwise_iff_getElem] at hpw
  obtain ⟨i, hi, ei⟩ := List.getElem_of_mem m1
  obtain ⟨j, hj, ej⟩ := List.getElem_of_mem m2
  rcases Nat.lt_trichotomy i j with hij | hij | hij
  · have := hpw i j hi hj hij; rw [ei, ej] at this; exact this.2
  · subst hij; rw [ei] at ej; injection ej with e1 e2; omega
  · have := hpw j i hj hi hij; rw [ei, ej] at this; have := this.1; simp at this; omega

theorem PlanOk.get_inj {p : LPlan} (hp : PlanOk p) {a a' b : Nat}
    (hb : p.get a = some b) (hb' : p.get a' = some b) : a = a' := by
  rcases Nat.lt_trichotomy a a' with h | h | h
  · have := hp.get_mono h hb hb'; omega
  · exact h
  · have := hp.get_mono h hb' hb; omega

theorem PlanOk.get_lt {p : LPlan} (hp : PlanOk p) {g n : Nat} (h : p.get g = some n) :
    n < 65536 ∧ g < p.numGlyphs ∧ g ∈ p.glyphset := by
  have m := (hp.get_iff g n).mp h
  refine ⟨hp.newLt _ m, hp.keyLt _ m, ?_⟩
  rw [← hp.keys]
  exact List.mem_map.mpr ⟨(g, n), m, rfl⟩

theorem PlanOk.mem_glyphset {p : LPlan} (hp : PlanOk p) {g : Nat} (h : g ∈ p.glyphset) :
    ∃ n, p.get g = some n := by
  rw [← hp.keys] at h
  obtain ⟨kv, hm, e⟩ := List.mem_map.mp h
  exact ⟨kv.2, (hp.get_iff g kv.2).mpr (by rw [← e]; exact hm)⟩

theorem PlanOk.glyphset_sorted {p : LPlan} (hp : PlanOk p) : p.glyphset.Pairwise (· < ·) := by
  rw [← hp.keys, List.pairwise_map]
  exact hp.sorted.imp (fun h => h.1)

theorem sorted_length_le_aux {l : List Nat} (h : l.Pairwise (· < ·)) (lo n : Nat)
    (hb : ∀ x ∈ l, lo ≤ x ∧ x < n) : l.length ≤ n - lo :=
  nodup_length_le (sorted_nodup h) hb

theorem sorted_length_le {l : List Nat} (h : l.Pairwise (· < ·)) (n : Nat) (hb : ∀ x ∈ l, x < n) :
    l.length ≤ n :=
  nodup_length_le (sorted_nodup h) (lo := 0) fun x hx => ⟨Nat.zero_le _, hb x hx⟩

theorem bsFound_iff {n : Nat} {cmpAt : Nat → Ordering} (hm : Mono n cmpAt) :
    bsFound n cmpAt = true ↔ ∃ j, j < n ∧ cmpAt j = .eq := by
  unfold bsFound
  cases hr : binarySearchBy n cmpAt with
  | ok i =>
    have := BinSearch.ok_lt hr
    simp only [true_iff]
    exact ⟨i, this.1, this.2⟩
  | err i =>
    have hne := bs_err_no_eq hm hr
    simp only [Bool.false_eq_true, false_iff]
    rintro ⟨j, hj, he⟩
    exact hne j hj he

theorem bsFound_array {xs : List Nat} (hs : xs.Pairwise (· < ·)) (g : Nat) :
    bsFound xs.length (fun i => natCmp (xs.getD i 0) g) = true ↔ g ∈ xs := by
  have hm : Mono xs.length (fun i => natCmp (xs.getD i 0) g) := mono_natCmp xs 0 id g hs
  rw [bsFound_iff hm]
  constructor
  · rintro ⟨j, hj, he⟩
    have := natCmp_eq.mp he
    rw [← this]
    simp only [List.getD, List.getElem?_eq_getElem hj, Option.getD_some]
    exact List.getElem_mem hj
  · intro hmem
    obtain ⟨k, hk, e⟩ := List.getElem_of_mem hmem
    refine ⟨k, hk, ?_⟩
    simp only [List.getD, List.getElem?_eq_getElem hk, Option.getD_some, e]
    exact natCmp_eq.mpr rfl

theorem bsFound_ranges {rs : List RangeRec} {c : Nat} (h : WFRanges c rs) (g : Nat) :
    bsFound rs.length (fun i => rangeCmp (rs.getD i default) g) = true ↔ g ∈ expandRanges rs := by
  rw [bsFound_iff (rangeCmp_mono h g), mem_expandRanges]
  constructor
  · rintro ⟨j, hj, he⟩
    have ej : rs.getD j default = rs[j] := by simp [List.getD, List.getElem?_eq_getElem hj]
    rw [ej] at he
    exact ⟨rs[j], List.getElem_mem hj, rangeCmp_eq.mp he⟩
  · rintro ⟨r, hr, hin⟩
    obtain ⟨k, hk, e⟩ := List.getElem_of_mem hr
    refine ⟨k, hk, ?_⟩
    have ek : rs.getD k default = rs[k] := by simp [List.getD, List.getElem?_eq_getElem hk]
    rw [ek, e]
    exact rangeCmp_eq.mpr hin

theorem kept_sorted {p : LPlan} (hp : PlanOk p) {ys : List Nat} (hs : ys.Pairwise (· < ·)) :
    (ys.filterMap p.get).Pairwise (· < ·) := by
  apply List.Pairwise.filterMap p.get _ hs
  intro a a' haa b hb b' hb'
  exact hp.get_mono haa (by simpa using hb) (by simpa using hb')

theorem strategies_agree {p : LPlan} (hp : PlanOk p) {ys : List Nat} (hs : ys.Pairwise (· < ·))
    (mem : Nat → Bool) (hmem : ∀ g, mem g = true ↔ g ∈ ys) :
    p.glyphset.filterMap (fun g => if mem g then p.get g else none) = ys.filterMap p.get := by
  apply sorted_ext
  · apply List.Pairwise.filterMap _ _ hp.glyphset_sorted
    intro a a' haa b hb b' hb'
    by_cases h1 : mem a = true <;> by_cases h2 : mem a' = true <;> simp [h1, h2] at hb hb'
    exact hp.get_mono haa hb hb'
  · exact kept_sorted hp hs
  · intro n
    simp only [List.mem_filterMap]
    constructor
    · rintro ⟨g, hg, e⟩
      by_cases h1 : mem g = true
      · simp only [h1, ↓reduceIte] at e
        exact ⟨g, (hmem g).mp h1, e⟩
      · simp [h1] at e
    · rintro ⟨g, hg, e⟩
      refine ⟨g, (hp.get_lt e).2.2, ?_⟩
      simp [(hmem g).mpr hg, e]

/-- `CoverageFormat1::subset` retains the new ids of the kept covered glyphs, in coverage order,
whichever strategy runs and also when the array is longer than the font has glyphs -/
theorem cov1Retained_eq {p : LPlan} (hp : PlanOk p) {xs : List Nat} (hs : xs.Pairwise (· < ·)) :
    cov1Retained p xs = xs.filterMap p.get := by
  have htake : (xs.take (min xs.length p.numGlyphs)).filterMap p.get = xs.filterMap p.get := by
    conv => rhs; rw [← List.take_append_drop (min xs.length p.numGlyphs) xs]
    rw [List.filterMap_append, List.self_eq_append_right, List.filterMap_eq_nil_iff]
    intro g hg
    cases hgg : p.get g with
    | none => rfl
    | some n =>
      -- the glyphs in front of the cut are below `g`, so there are at most `g < numGlyphs` of them: nothing was cut off
      have hlt := (hp.get_lt hgg).2.1
      have hs' := hs
      rw [← List.take_append_drop (min xs.length p.numGlyphs) xs, List.pairwise_append] at hs'
      have := sorted_length_le hs'.1 g fun a ha => hs'.2.2 a ha g hg
      rw [List.length_take] at this
      rw [List.drop_eq_nil_of_le (by omega)] at hg
      cases hg
  have hsub : (xs.take (min xs.length p.numGlyphs)).Pairwise (· < ·) :=
    hs.sublist (List.take_sublist _ _)
  unfold cov1Retained
  simp only []
  split
  · rw [← htake]
    apply strategies_agree hp hsub
    intro g
    exact bsFound_array hsub g
  · exact htake

theorem wf_length_le_expand {c : Nat} {rs : List RangeRec} (h : WFRanges c rs) :
    rs.length ≤ (expandRanges rs).length := by
  induction rs generalizing c with
  | nil => simp
  | cons r0 rest ih =>
    obtain ⟨h1, h2, h3, h4⟩ := h
    have := ih h4
    simp only [expandRanges, List.length_append, List.length_cons, RangeRec.glyphs, List.length_range']
    omega

theorem flatMap_filterMap_expand (f : Nat → Option Nat) (rs : List RangeRec) :
    (rs.flatMap fun r => r.glyphs.filterMap f) = (expandRanges rs).filterMap f := by
  induction rs with
  | nil => rfl
  | cons r0 rest ih => simp [List.flatMap_cons, expandRanges, List.filterMap_append, ih]

/-- `CoverageFormat2::subset` likewise (well-formed records of glyphs the font has) -/
theorem cov2Retained_eq {p : LPlan} (hp : PlanOk p) {rs : List RangeRec} (h : WFRanges 0 rs)
    (hb : ∀ g ∈ expandRanges rs, g < p.numGlyphs) :
    cov2Retained p rs = .ok ((expandRanges rs).filterMap p.get) := by
  have hlen : rs.length ≤ p.numGlyphs :=
    Nat.le_trans (wf_length_le_expand h) (sorted_length_le (wf_expand_sorted h) _ hb)
  unfold cov2Retained
  have : ¬ rs.length > p.numGlyphs := by omega
  simp only [this, ↓reduceIte]
  split
  · congr 1
    apply strategies_agree hp (wf_expand_sorted h)
    intro g
    exact bsFound_ranges h g
  · congr 1
    exact flatMap_filterMap_expand _ _

theorem rangesGo_length (rest : List Nat) : ∀ (a b len : Nat),
    (rangesGo a b len rest).length = 1 + countBreaks (b :: rest) := by
  induction rest with
  | nil => intro a b len; simp [rangesGo, countBreaks]
  | cons g t ih =>
    intro a b len
    simp only [rangesGo, countBreaks]
    by_cases h : areSequential b g = true
    · have hg := (areSequential_iff b g).mp h
      simp only [h, ↓reduceIte, ih]
      have : ¬ (b + 1 ≠ g) := by omega
      simp [this]
    · have hg : ¬ g = b + 1 := fun e => h ((areSequential_iff b g).mpr e)
      simp only [h, Bool.false_eq_true, ↓reduceIte, List.length_cons, ih]
      have : b + 1 ≠ g := by omega
      simp only [this, ne_eq, not_false_eq_true, ↓reduceIte]
      omega

theorem numRanges_eq {gs : List Nat} (hne : gs ≠ []) :
    1 + countBreaks gs = (iterForGlyphs gs).length := by
  cases gs with
  | nil => exact absurd rfl hne
  | cons g rest => simp [iterForGlyphs, rangesGo_length]

theorem cov2Go_eq (rest : List Nat) : ∀ (a b len idx : Nat), (∀ x ∈ rest, x < 65536) →
    idx = len + (b - a) + 1 → a ≤ b → idx + rest.length ≤ 65536 →
    cov2Go a b len idx rest = rangesGo a b len rest := by
  induction rest with
  | nil => intro a b len idx _ _ _ _; rfl
  | cons g t ih =>
    intro a b len idx hb hidx hab hlen
    have hg := hb g (List.mem_cons_self ..)
    simp only [List.length_cons] at hlen
    simp only [cov2Go, rangesGo]
    by_cases h : areSequential b g = true
    · have e := (areSequential_iff b g).mp h
      have c : b + 1 < 65536 ∧ b + 1 = g := by omega
      rw [if_pos c]
      simp only [h, ↓reduceIte]
      exact ih a g len (idx + 1) (fun x hx => hb x (List.mem_cons_of_mem _ hx)) (by omega) (by omega) (by omega)
    · have e : ¬ g = b + 1 := fun e => h ((areSequential_iff b g).mpr e)
      have c : ¬ (b + 1 < 65536 ∧ b + 1 = g) := by omega
      rw [if_neg c]
      simp only [h, Bool.false_eq_true, ↓reduceIte]
      have hm : idx % 65536 = len + 1 + (b - a) := by omega
      rw [hm]
      congr 1
      exact ih g g (len + 1 + (b - a)) (idx + 1) (fun x hx => hb x (List.mem_cons_of_mem _ hx))
        (by omega) (Nat.le_refl _) (by omega)

theorem cov2Recs_eq {gs : List Nat} (hb : ∀ x ∈ gs, x < 65536) (hlen : gs.length ≤ 65536) :
    cov2Recs gs = iterForGlyphs gs := by
  cases gs with
  | nil => rfl
  | cons g rest =>
    simp only [cov2Recs, iterForGlyphs]
    simp only [List.length_cons] at hlen
    exact cov2Go_eq rest g g 0 1 (fun x hx => hb x (List.mem_cons_of_mem _ hx)) (by omega)
      (Nat.le_refl _) (by omega)

theorem map_mod_id {gs : List Nat} (hb : ∀ x ∈ gs, x < 65536) : gs.map (· % 65536) = gs := by
  induction gs with
  | nil => rfl
  | cons a t ih =>
    simp only [List.map_cons]
    rw [ih (fun x hx => hb x (List.mem_cons_of_mem _ hx))]
    have := hb a (List.mem_cons_self ..)
    congr 1
    omega

/-- the table `CoverageTable::serialize` writes for a non-empty strictly ascending list of `u16`
glyph ids: format 1 holding the list or format 2 holding C16's `iter_for_glyphs` records, by the
code's size rule -/
theorem serializeCoverage_sorted {gs : List Nat} (hne : gs ≠ []) (hs : gs.Pairwise (· < ·))
    (hb : ∀ x ∈ gs, x < 65536) (hlen : gs.length < 65536) :
    serializeCoverage gs = .ok
      (if gs.length ≤ (iterForGlyphs gs).length * 3 then .f1 gs.length gs
       else .f2 (iterForGlyphs gs).length (iterForGlyphs gs)) := by
  unfold serializeCoverage
  have h1 : gs.isEmpty = false := by cases gs <;> simp_all
  simp only [h1, Bool.false_eq_true, ↓reduceIte, numRanges_eq hne, map_mod_id hb]
  -- every record holds at least one glyph
  have hle := wf_length_le_expand (iterForGlyphs_spec hs).1
  rw [(iterForGlyphs_spec hs).2.1] at hle
  have h2 : ¬ (iterForGlyphs gs).length ≥ 65536 := by omega
  simp only [h2, ↓reduceIte]
  split
  · have : gs.length % 65536 = gs.length := by omega
    rw [this]; rfl
  · rw [cov2Recs_eq hb (by omega)]
    simp
    rfl

theorem serializeCoverage_get {gs : List Nat} (hne : gs ≠ []) (hs : gs.Pairwise (· < ·))
    (hb : ∀ x ∈ gs, x < 65536) (hlen : gs.length < 65536) :
    ∃ w, serializeCoverage gs = .ok w ∧ w.toCoverage.glyphs = gs ∧
      ∀ g, w.toCoverage.get g = indexIn g gs := by
  rw [serializeCoverage_sorted hne hs hb hlen]
  obtain ⟨wf, ex, en⟩ := iterForGlyphs_spec hs
  split
  · refine ⟨_, rfl, ?_, ?_⟩
    · simp [CovW.toCoverage, Coverage.glyphs]
    · intro g
      simp only [CovW.toCoverage, List.take_length]
      exact get_fmt1 hs hb g
  · refine ⟨_, rfl, ?_, ?_⟩
    · simp [CovW.toCoverage, Coverage.glyphs, ex]
    · intro g
      simp only [CovW.toCoverage, List.take_length]
      rw [get_fmt2 wf (fun r hr => hb _ (en r hr)) g, ex]

theorem indexIn_filter (q : Nat → Bool) : ∀ (ys : List Nat) (g i : Nat), indexIn g ys = some i →
    q g = true → indexIn g (ys.filter q) = some ((ys.take i).countP q) := by
  intro ys
  induction ys with
  | nil => intro g i h; simp [indexIn] at h
  | cons x xs ih =>
    intro g i h hq
    simp only [indexIn] at h
    by_cases e : x = g
    · subst e
      simp only [↓reduceIte, Option.some.injEq] at h
      subst h
      simp [List.filter, hq, indexIn]
    · simp only [e, ↓reduceIte, Option.map_eq_some_iff] at h
      obtain ⟨j, hj, rfl⟩ := h
      have := ih g j hj hq
      by_cases hx : q x = true
      · simp [List.filter, hx, indexIn, e, this]
      · simp [List.filter, hx, this]

theorem indexIn_filter_none (q : Nat → Bool) (ys : List Nat) (g : Nat) (h : indexIn g ys = none) :
    indexIn g (ys.filter q) = none := by
  apply indexIn_none
  intro hm
  have : g ∈ ys := (List.mem_filter.mp hm).1
  induction ys with
  | nil => simp at this
  | cons x xs ih =>
    simp only [indexIn] at h
    by_cases e : x = g
    · simp [e] at h
    · simp only [e, ↓reduceIte, Option.map_eq_none_iff] at h
      rcases List.mem_cons.mp this with e' | hm'
      · exact e e'.symm
      · exact ih h (List.mem_filter.mpr ⟨hm', (List.mem_filter.mp hm).2⟩) hm'

/-- `filterMap` by a partial function that is injective at `n`: positions agree with the plain filter -/
theorem indexIn_filterMap (f : Nat → Option Nat) (g n : Nat) (hf : f g = some n) :
    ∀ (ys : List Nat), (∀ a ∈ ys, f a = some n → a = g) →
    indexIn n (ys.filterMap f) = indexIn g (ys.filter (fun a => (f a).isSome)) := by
  intro ys
  induction ys with
  | nil => intro _; rfl
  | cons x xs ih =>
    intro hinj
    have ih' := ih (fun a ha => hinj a (List.mem_cons_of_mem _ ha))
    cases hx : f x with
    | none => simp [hx, List.filter, ih']
    | some m =>
      simp only [List.filterMap_cons, hx, List.filter, Option.isSome_some, indexIn]
      by_cases e : m = n
      · subst e
        have := hinj x (List.mem_cons_self ..) hx
        simp [this]
      · have : ¬ x = g := by
          intro e'; subst e'; rw [hf] at hx; injection hx with hx; exact e hx.symm
        simp [e, this, ih']

/-- **parallel arrays stay aligned**: an array indexed by coverage index, restricted by the same
filter as the coverage glyphs, holds at the new position of a retained glyph what the original held
at its old position -/
theorem aligned {α : Type} (q : Nat → Bool) : ∀ (ys : List Nat) (arr : List α) (g i : Nat),
    indexIn g ys = some i → q g = true →
    ((ys.zip arr).filterMap (fun x => if q x.1 then some x.2 else none))[(ys.take i).countP q]? = arr[i]? := by
  intro ys
  induction ys with
  | nil => intro arr g i h; simp [indexIn] at h
  | cons x xs ih =>
    intro arr g i h hq
    cases arr with
    | nil => simp
    | cons a as =>
      simp only [indexIn] at h
      by_cases e : x = g
      · subst e
        simp only [↓reduceIte, Option.some.injEq] at h
        subst h
        simp [hq]
      · simp only [e, ↓reduceIte, Option.map_eq_some_iff] at h
        obtain ⟨j, hj, rfl⟩ := h
        have := ih as g j hj hq
        by_cases hx : q x = true
        · simp [hx, this]
        · simp [hx, this]

/-- positions in a filtered list keep the order of the positions in the original list -/
theorem countP_take_lt (q : Nat → Bool) (ys : List Nat) {i1 i2 : Nat} {g1 : Nat}
    (h1 : ys[i1]? = some g1) (hq : q g1 = true) (hlt : i1 < i2) :
    (ys.take i1).countP q < (ys.take i2).countP q := by
  have hi1 : i1 < ys.length := (List.getElem?_eq_some_iff.mp h1).1
  have : ys.take i2 = ys.take i1 ++ (ys.drop i1).take (i2 - i1) := by
    rw [← List.take_add]
    congr 1; omega
  rw [this, List.countP_append]
  have hd : (ys.drop i1).take (i2 - i1) = g1 :: ((ys.drop (i1 + 1)).take (i2 - i1 - 1)) := by
    have e1 : ys.drop i1 = ys[i1] :: ys.drop (i1 + 1) := (List.drop_eq_getElem_cons hi1)
    have e2 : ys[i1] = g1 := by
      have := List.getElem?_eq_getElem hi1; rw [this] at h1; injection h1
    rw [e1, e2]
    obtain ⟨k, hk⟩ : ∃ k, i2 - i1 = k + 1 := ⟨i2 - i1 - 1, by omega⟩
    rw [hk, List.take_succ_cons]
    simp
  rw [hd, List.countP_cons]
  simp [hq]

end FontVerif.SubsetLayout
