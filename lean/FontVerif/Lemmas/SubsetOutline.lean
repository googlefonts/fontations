/-
Read-fonts' three views of the flag / coordinate data of a simple glyph (`resolve_coords_len`, `PointIter`,
`read_points_fast`; model: Model/Glyf.lean) on data that starts with well-formed flag runs covering exactly the point
count — which is what a non-zero result of klippa's `trim_simple_glyph_padding` certifies (`trimGo_spec`).  A run is a
`RepeatableFlag` item (`toItem`), so the three walks are those of Lemmas/GlyfRuns; what is proved here is that the overlap
bit on the first flag changes none of them.
-/
import FontVerif.Lemmas.SubsetTrim
import FontVerif.Lemmas.GlyfRuns
namespace FontVerif.SubsetOutline
open FontVerif.Subset

def xSz (f : Nat) : Nat := if f &&& 0x02 != 0 then 1 else if f &&& 0x10 == 0 then 2 else 0
def ySz (f : Nat) : Nat := if f &&& 0x04 != 0 then 1 else if f &&& 0x20 == 0 then 2 else 0

theorem coordSize_eq (f : Nat) : coordSize f = xSz f + ySz f := rfl

theorem xSz_eq (f : Nat) : xSz f = Glyf.xSize f := by
  have h : f &&& (2 ||| 16) = (f &&& 2) ||| (f &&& 16) := Nat.and_or_distrib_left ..
  simp only [Glyf.xSize, Glyf.hasBit, Glyf.X_SHORT, Glyf.X_SAME, xSz, h, Nat.or_eq_zero_iff, bne_iff_ne, ne_eq, beq_iff_eq]
  by_cases h2 : f &&& 2 = 0 <;> by_cases h16 : f &&& 16 = 0 <;> simp [h2, h16]

theorem ySz_eq (f : Nat) : ySz f = Glyf.ySize f := by
  have h : f &&& (4 ||| 32) = (f &&& 4) ||| (f &&& 32) := Nat.and_or_distrib_left ..
  simp only [Glyf.ySize, Glyf.hasBit, Glyf.Y_SHORT, Glyf.Y_SAME, ySz, h, Nat.or_eq_zero_iff, bne_iff_ne, ne_eq, beq_iff_eq]
  by_cases h2 : f &&& 4 = 0 <;> by_cases h16 : f &&& 32 = 0 <;> simp [h2, h16]

def counts (runs : List (Nat × Nat)) : Nat := (runs.map (·.2)).sum
def xTot (runs : List (Nat × Nat)) : Nat := (runs.map (fun r => xSz r.1 * r.2)).sum
def yTot (runs : List (Nat × Nat)) : Nat := (runs.map (fun r => ySz r.1 * r.2)).sum
def expand (runs : List (Nat × Nat)) : List Nat := runs.flatMap (fun r => List.replicate r.2 r.1)

theorem encRuns_cons (r : Nat × Nat) (rs : List (Nat × Nat)) : encRuns (r :: rs) = encRun r ++ encRuns rs := by
  simp [encRuns]

theorem counts_cons (f n : Nat) (rs : List (Nat × Nat)) : counts ((f, n) :: rs) = n + counts rs := by
  simp [counts]

theorem expand_cons (f n : Nat) (rs : List (Nat × Nat)) : expand ((f, n) :: rs) = List.replicate n f ++ expand rs := by
  simp [expand]

theorem run_cases (f n : Nat) (h : runOk (f, n)) :
    ((f &&& 0x08 != 0) = true ∧ encRun (f, n) = [f, n - 1] ∧ 1 ≤ n) ∨
    ((f &&& 0x08 != 0) = false ∧ encRun (f, n) = [f] ∧ n = 1) := by
  unfold runOk at h
  unfold encRun
  cases hb : (f &&& 0x08 != 0)
  · exact Or.inr ⟨rfl, rfl, by simpa [hb] using h⟩
  · exact Or.inl ⟨rfl, rfl, by simpa [hb] using h⟩

theorem encRun_head (f n : Nat) : (encRun (f, n)).getD 0 0 = f := by
  unfold encRun; split <;> simp

theorem encRun_ne_nil (r : Nat × Nat) : encRun r ≠ [] := by
  unfold encRun; split <;> simp

theorem encRuns_ne_nil (R : List (Nat × Nat)) (h : R ≠ []) : encRuns R ≠ [] := by
  cases R with
  | nil => exact absurd rfl h
  | cons r rs => rw [encRuns_cons]; exact fun h' => encRun_ne_nil r (List.append_eq_nil_iff.mp h').1

theorem runs_nil_of_counts (rs : List (Nat × Nat)) (hok : ∀ r ∈ rs, runOk r) (hz : counts rs = 0) : rs = [] := by
  cases rs with
  | nil => rfl
  | cons r rs' =>
    obtain ⟨f, n⟩ := r
    rw [counts_cons] at hz
    rcases run_cases f n (hok _ (List.mem_cons_self ..)) with ⟨_, _, h⟩ | ⟨_, _, h⟩ <;> omega

theorem counts_pos_of_ne_nil (runs : List (Nat × Nat)) (hok : ∀ r ∈ runs, runOk r) (h : runs ≠ []) : 0 < counts runs :=
  Nat.pos_of_ne_zero (fun hz => h (runs_nil_of_counts runs hok hz))

theorem expand_length : ∀ (R : List (Nat × Nat)), (expand R).length = counts R
  | [] => rfl
  | (f, n) :: rs => by
    rw [expand_cons]; simp [counts, expand_length rs]

theorem sum_expand (w : Nat → Nat) : ∀ (R : List (Nat × Nat)),
    ((expand R).map w).sum = (R.map (fun r => w r.1 * r.2)).sum
  | [] => rfl
  | (f, n) :: rs => by
    rw [expand_cons, List.map_append, List.sum_append, sum_expand w rs, List.map_replicate, List.sum_replicate_nat,
      Nat.mul_comm]
    rfl

theorem coordTot_eq : ∀ (R : List (Nat × Nat)), (R.map (fun r => coordSize r.1 * r.2)).sum = xTot R + yTot R
  | [] => rfl
  | (f, n) :: rs => by
    have := coordTot_eq rs
    simp only [xTot, yTot, List.map_cons, List.sum_cons, coordSize_eq, Nat.add_mul] at *
    omega

theorem counts_256_of_bytes : ∀ (R : List (Nat × Nat)), (∀ r ∈ R, runOk r) → (∀ b ∈ encRuns R, b < 256) → ∀ r ∈ R, r.2 ≤ 256
  | [], _, _ => by simp
  | (f, n) :: rs, hok, hb => by
    intro r hr
    rw [encRuns_cons] at hb
    rcases List.mem_cons.mp hr with h | h
    · subst h
      have hk := hok (f, n) (List.mem_cons_self ..)
      unfold runOk at hk
      simp only at hk ⊢
      split at hk
      · rename_i hrep
        have : n - 1 < 256 := hb (n - 1) (by simp [encRun, hrep])
        omega
      · omega
    · exact counts_256_of_bytes rs (fun r hr => hok r (List.mem_cons_of_mem _ hr))
        (fun b hb' => hb b (List.mem_append_right _ hb')) r h

/-- a run `(f, n)` with `runOk` is a `RepeatableFlag` item of Lemmas/GlyfRuns -/
def toItem (r : Nat × Nat) : Glyf.RepeatableFlag := ⟨r.1, r.2 - 1⟩

theorem toItem_count (r : Nat × Nat) (h : runOk r) : (toItem r).count = r.2 := by
  unfold runOk at h
  unfold Glyf.RepeatableFlag.count toItem
  show (if (r.1 &&& 0x08 != 0) = true then r.2 - 1 + 1 else 1) = r.2
  split at h <;> rename_i hb <;> simp only [hb, if_true, if_false, Bool.false_eq_true] <;> omega

theorem encRuns_items (R : List (Nat × Nat)) : encRuns R = (R.map toItem).flatMap Glyf.RepeatableFlag.bytes := by
  unfold encRuns; rw [List.flatMap_map]; rfl

theorem expand_items : ∀ (R : List (Nat × Nat)), (∀ r ∈ R, runOk r) → expand R = Glyf.expandRaw (R.map toItem)
  | [], _ => rfl
  | r :: rs, hok => by
    rw [List.map_cons, Glyf.expandRaw_cons, toItem_count r (hok r (List.mem_cons_self ..)),
      ← expand_items rs (fun x hx => hok x (List.mem_cons_of_mem _ hx))]
    exact expand_cons r.1 r.2 rs

theorem xTot_items (R : List (Nat × Nat)) (hok : ∀ r ∈ R, runOk r) :
    xTot R = ((Glyf.expandRaw (R.map toItem)).map Glyf.xSize).sum := by
  rw [← expand_items R hok, ← funext xSz_eq]; exact (sum_expand xSz R).symm

theorem yTot_items (R : List (Nat × Nat)) (hok : ∀ r ∈ R, runOk r) :
    yTot R = ((Glyf.expandRaw (R.map toItem)).map Glyf.ySize).sum := by
  rw [← expand_items R hok, ← funext ySz_eq]; exact (sum_expand ySz R).symm

theorem counts_items (R : List (Nat × Nat)) (hok : ∀ r ∈ R, runOk r) :
    counts R = (Glyf.expandRaw (R.map toItem)).length := by
  rw [← expand_items R hok, expand_length]

theorem resolve_runs (runs : List (Nat × Nat)) (more : Bytes) (pos xl yl : Nat) (hok : ∀ r ∈ runs, runOk r) :
    Glyf.resolveCoordsLen (encRuns runs ++ more) pos (counts runs) xl yl =
      some (pos + (encRuns runs).length, xl + xTot runs, yl + yTot runs) := by
  rw [xTot_items runs hok, yTot_items runs hok, counts_items runs hok, encRuns_items, Glyf.flatMap_bytes_length]
  exact Glyf.resolve_items _ more pos xl yl

/-- the decoded points of `flag runs R ++ coordinate bytes C` -/
def ptsOfRuns (R : List (Nat × Nat)) (C : Bytes) : List Glyf.Point :=
  (Glyf.decodeRun (expand R) ⟨C.take (xTot R), C.drop (xTot R), 0, 0⟩).1

/-- what `read_points_fast` answers for `flag runs R ++ coordinate bytes C` -/
def fastOfRuns (R : List (Nat × Nat)) (C : Bytes) : Option (List (Int × Int × Nat)) :=
  match Glyf.fastCoords Glyf.X_SHORT Glyf.X_SAME (expand R) C 0 with
  | none => none
  | some (xs, cur) =>
    match Glyf.fastCoords Glyf.Y_SHORT Glyf.Y_SAME (expand R) cur 0 with
    | none => none
    | some (ys, _) => some ((xs.zip (ys.zip (expand R))).map (fun t => (t.1, t.2.1, t.2.2 &&& 1)))

theorem points_fast_of_runs (v : Glyf.SimpleView) (last : Nat) (R : List (Nat × Nat)) (C extra : Bytes)
    (hlast : v.endPts.getLast? = some last) (hgd : v.glyphData = encRuns R ++ (C ++ extra))
    (hok : ∀ r ∈ R, runOk r) (hcnt : counts R = last + 1) (hC : C.length = xTot R + yTot R) :
    ((∀ r ∈ R, r.2 ≤ 256) → v.points = if last + 1 > 65535 then [] else ptsOfRuns R C) ∧
    v.readPointsFast = fastOfRuns R C := by
  have hx : (C.take (xTot R)).length = ((Glyf.expandRaw (R.map toItem)).map Glyf.xSize).sum := by
    rw [← xTot_items R hok, List.length_take]; omega
  have hy : (C.drop (xTot R)).length = ((Glyf.expandRaw (R.map toItem)).map Glyf.ySize).sum := by
    rw [← yTot_items R hok, List.length_drop]; omega
  obtain ⟨X, Y, _, _, h⟩ := Glyf.coords_agree _ _ _ 0 0 hx hy
  have hCx : ∀ t : Bytes, C ++ t = C.take (xTot R) ++ (C.drop (xTot R) ++ t) := fun t => by
    rw [← List.append_assoc, List.take_append_drop]
  constructor
  · intro h256
    by_cases hbig : last + 1 > 65535
    · rw [if_pos hbig]; unfold Glyf.SimpleView.points; rw [hlast]; simp only [hbig, if_true]
    · rw [if_neg hbig, Glyf.points_of_items v (R.map toItem) (C.take (xTot R)) (C.drop (xTot R)) extra last hlast
        (by rw [← counts_items R hok, hcnt]) (by rw [← counts_items R hok]; omega) hx hy
        (Glyf.length_le_256_cost _ (fun i hi => by
          obtain ⟨r, hr, rfl⟩ := List.mem_map.mp hi
          have := h256 r hr
          show r.2 - 1 ≤ 255
          omega))
        (by rw [hgd, encRuns_items, hCx])]
      unfold ptsOfRuns
      rw [expand_items R hok]
      have e1 := (h [] [] [] extra).2.2
      have e2 := (h [] [] [] []).2.2
      simp only [List.append_nil] at e1 e2
      exact e1.trans e2.symm
  · rw [Glyf.fast_of_items v (R.map toItem) (C ++ extra) last hlast (by rw [← counts_items R hok, hcnt])
      (by rw [hgd, encRuns_items])]
    unfold fastOfRuns
    rw [expand_items R hok, hCx extra, (h (C.drop (xTot R) ++ extra) extra [] []).1]
    simp only
    rw [(h [] extra [] []).2.1]
    have := hCx []
    rw [List.append_nil] at this
    rw [this, (h (C.drop (xTot R) ++ []) [] [] []).1]
    simp only
    rw [List.append_nil, ← List.append_nil (C.drop (xTot R)), (h [] [] [] []).2.1]

/-- only the six low flag bits are looked at -/
theorem hasBit_mask (f m : Nat) (hm : 0x3F &&& m = m) : Glyf.hasBit (f &&& 0x3F) m = Glyf.hasBit f m := by
  simp only [Glyf.hasBit, Nat.and_assoc, hm]

theorem decodeRun_mask : ∀ (fs : List Nat) (c : Glyf.CS), Glyf.decodeRun (fs.map (· &&& 0x3F)) c = Glyf.decodeRun fs c
  | [], _ => rfl
  | f :: fs, c => by
    simp only [List.map_cons, Glyf.decodeRun, Glyf.stepCS, hasBit_mask f Glyf.X_SHORT rfl, hasBit_mask f Glyf.X_SAME rfl,
      hasBit_mask f Glyf.Y_SHORT rfl, hasBit_mask f Glyf.Y_SAME rfl, hasBit_mask f Glyf.ON_CURVE rfl, decodeRun_mask fs]

theorem fastCoords_mask (short same : Nat) (hs : 0x3F &&& short = short) (hm : 0x3F &&& same = same) :
    ∀ (fs cur : List Nat) (acc : Int),
      Glyf.fastCoords short same (fs.map (· &&& 0x3F)) cur acc = Glyf.fastCoords short same fs cur acc
  | [], _, _ => rfl
  | f :: fs, cur, acc => by
    simp only [List.map_cons, Glyf.fastCoords, hasBit_mask f short hs, hasBit_mask f same hm,
      fastCoords_mask short same hs hm fs]

theorem zip3_mask (xs ys : List Int) (F : List Nat) :
    (xs.zip (ys.zip (F.map (· &&& 0x3F)))).map (fun t => (t.1, t.2.1, t.2.2 &&& 1)) =
    (xs.zip (ys.zip F)).map (fun t => (t.1, t.2.1, t.2.2 &&& 1)) := by
  rw [List.zip_map_right, List.zip_map_right, List.map_map]
  exact List.map_congr_left (fun t _ => by simp only [Function.comp, Prod.map, id, Nat.and_assoc]; rfl)

/-- `out[first] |= OVERLAP_SIMPLE` -/
def ovl (flags : Nat) (t : Bytes) : Bytes :=
  if hasFlag flags F_SET_OVERLAPS then t.set 0 (t.getD 0 0 ||| 0x40) else t

def ovlRuns (flags : Nat) : List (Nat × Nat) → List (Nat × Nat)
  | [] => []
  | (f, n) :: rs => if hasFlag flags F_SET_OVERLAPS then (f ||| 0x40, n) :: rs else (f, n) :: rs

theorem or40_and (f m : Nat) (hm : 0x40 &&& m = 0) : (f ||| 0x40) &&& m = f &&& m := by
  rw [Nat.and_or_distrib_right, hm, Nat.or_zero]

theorem xSz_or40 (f : Nat) : xSz (f ||| 0x40) = xSz f := by
  unfold xSz; rw [or40_and f 0x02 rfl, or40_and f 0x10 rfl]

theorem ySz_or40 (f : Nat) : ySz (f ||| 0x40) = ySz f := by
  unfold ySz; rw [or40_and f 0x04 rfl, or40_and f 0x20 rfl]

theorem encRun_or40 (f n : Nat) : encRun (f ||| 0x40, n) = (encRun (f, n)).set 0 (f ||| 0x40) := by
  unfold encRun
  simp only [or40_and f 0x08 rfl]
  split <;> simp

theorem ovl_runs (flags : Nat) (R : List (Nat × Nat)) (c : Bytes) (hne : R ≠ []) :
    ovl flags (encRuns R ++ c) = encRuns (ovlRuns flags R) ++ c := by
  cases R with
  | nil => exact absurd rfl hne
  | cons r rs =>
    obtain ⟨f, n⟩ := r
    simp only [ovl, ovlRuns]
    split
    · rw [encRuns_cons, encRuns_cons, encRun_or40]
      have hl : 0 < (encRun (f, n)).length := List.length_pos_iff.mpr (encRun_ne_nil _)
      rw [List.append_assoc, List.set_append_left _ _ hl, List.append_assoc]
      congr 2
      rw [List.getD_eq_getElem?_getD, List.getElem?_append_left hl, ← List.getD_eq_getElem?_getD, encRun_head]
    · rfl

theorem ovlRuns_elim (flags : Nat) (R : List (Nat × Nat)) (P : List (Nat × Nat) → List (Nat × Nat) → Prop)
    (hsame : ∀ R, P R R) (hset : ∀ f n rs, P ((f, n) :: rs) ((f ||| 0x40, n) :: rs)) : P R (ovlRuns flags R) := by
  cases R with
  | nil => exact hsame []
  | cons r rs =>
    simp only [ovlRuns]
    split
    · exact hset _ _ _
    · exact hsame _

theorem ovlRuns_idem (flags : Nat) (R : List (Nat × Nat)) : ovlRuns flags (ovlRuns flags R) = ovlRuns flags R := by
  cases R with
  | nil => rfl
  | cons r rs =>
    by_cases h : hasFlag flags F_SET_OVERLAPS = true
    · simp only [ovlRuns, h, if_true, Nat.or_assoc, Nat.or_self]
    · simp only [ovlRuns, h, if_false, Bool.false_eq_true]

theorem ovlRuns_forall (flags : Nat) (R : List (Nat × Nat)) (Q : Nat × Nat → Prop)
    (hQ : ∀ f n, Q (f, n) → Q (f ||| 0x40, n)) (h : ∀ r ∈ R, Q r) : ∀ r ∈ ovlRuns flags R, Q r :=
  ovlRuns_elim flags R (fun R R' => (∀ r ∈ R, Q r) → ∀ r ∈ R', Q r) (fun _ h => h)
    (fun f n _ h r hr => (List.mem_cons.mp hr).elim (fun e => e ▸ hQ f n (h _ (List.mem_cons_self ..)))
      (fun hr => h r (List.mem_cons_of_mem _ hr))) h

theorem ovlRuns_ok (flags : Nat) (R : List (Nat × Nat)) (hok : ∀ r ∈ R, runOk r) : ∀ r ∈ ovlRuns flags R, runOk r :=
  ovlRuns_forall flags R runOk (fun f n h => by unfold runOk at h ⊢; simpa only [or40_and f 0x08 rfl] using h) hok

theorem ovlRuns_256 (flags : Nat) (R : List (Nat × Nat)) (h : ∀ r ∈ R, r.2 ≤ 256) : ∀ r ∈ ovlRuns flags R, r.2 ≤ 256 :=
  ovlRuns_forall flags R (·.2 ≤ 256) (fun _ _ h => h) h

theorem ovlRuns_counts (flags : Nat) (R : List (Nat × Nat)) : counts (ovlRuns flags R) = counts R :=
  ovlRuns_elim flags R (fun R R' => counts R' = counts R) (fun _ => rfl) (fun f n rs => by simp [counts])

theorem ovlRuns_xTot (flags : Nat) (R : List (Nat × Nat)) : xTot (ovlRuns flags R) = xTot R :=
  ovlRuns_elim flags R (fun R R' => xTot R' = xTot R) (fun _ => rfl) (fun f n rs => by simp [xTot, xSz_or40])

theorem ovlRuns_yTot (flags : Nat) (R : List (Nat × Nat)) : yTot (ovlRuns flags R) = yTot R :=
  ovlRuns_elim flags R (fun R R' => yTot R' = yTot R) (fun _ => rfl) (fun f n rs => by simp [yTot, ySz_or40])

theorem ovlRuns_encLen (flags : Nat) (R : List (Nat × Nat)) : (encRuns (ovlRuns flags R)).length = (encRuns R).length := by
  refine ovlRuns_elim flags R (fun R R' => (encRuns R').length = (encRuns R).length) (fun _ => rfl) (fun f n rs => ?_)
  rw [encRuns_cons, encRuns_cons, encRun_or40]; simp

theorem ovlRuns_expand (flags : Nat) (R : List (Nat × Nat)) :
    (expand (ovlRuns flags R)).map (· &&& 0x3F) = (expand R).map (· &&& 0x3F) := by
  refine ovlRuns_elim flags R (fun R R' => (expand R').map (· &&& 0x3F) = (expand R).map (· &&& 0x3F)) (fun _ => rfl)
    (fun f n rs => ?_)
  rw [expand_cons, expand_cons]
  simp only [List.map_append, List.map_replicate, or40_and f 0x3F rfl]

theorem ptsOfRuns_ovl (flags : Nat) (R : List (Nat × Nat)) (C : Bytes) :
    ptsOfRuns (ovlRuns flags R) C = ptsOfRuns R C := by
  unfold ptsOfRuns
  rw [ovlRuns_xTot, ← decodeRun_mask (expand (ovlRuns flags R)), ovlRuns_expand, decodeRun_mask]

theorem fastOfRuns_ovl (flags : Nat) (R : List (Nat × Nat)) (C : Bytes) :
    fastOfRuns (ovlRuns flags R) C = fastOfRuns R C := by
  unfold fastOfRuns
  rw [← fastCoords_mask Glyf.X_SHORT Glyf.X_SAME rfl rfl (expand (ovlRuns flags R)),
    ← fastCoords_mask Glyf.X_SHORT Glyf.X_SAME rfl rfl (expand R), ovlRuns_expand]
  split
  · rfl
  · rename_i xs cur _
    rw [← fastCoords_mask Glyf.Y_SHORT Glyf.Y_SAME rfl rfl (expand (ovlRuns flags R)),
      ← fastCoords_mask Glyf.Y_SHORT Glyf.Y_SAME rfl rfl (expand R), ovlRuns_expand]
    split
    · rfl
    · rw [← zip3_mask _ _ (expand (ovlRuns flags R)), ovlRuns_expand, zip3_mask]

end FontVerif.SubsetOutline
