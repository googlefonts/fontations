/-
Helper lemmas for C03 (skrifa fixed-point / round-state kernels = FreeType's): the two casts and the option
plumbing of the overflow-checked skrifa model, FreeType's mul-div kernels with their wraps resolved (sign and
magnitude) and the bound on `FT_MulDiv`, the 16.16 product of bounded operands, AND with `-64` / `-32` and its
range, the 256-row SROUND/S45ROUND selector table.
-/
import FontVerif.Lemmas.FixedOps
import FontVerif.Model.FtCalc
import FontVerif.Model.FtRound
import FontVerif.Model.HintMath
import FontVerif.Model.HintRound
namespace FontVerif.C03

/-- skrifa's wrapping operators and FreeType's `*_LONG` macros compute the exact result whenever it fits 32 bits:
`neg_fits`, `sub_fits`, `add_fits`, `abs_fits` are this lemma at `-a`, `a - b`, `a + b`, stated for the named
operators so that they rewrite. -/
theorem wrap_fits {x : Int} (h : inI32 x) : wrapI32 x = x ∧ wrapI64 x = x :=
  ⟨wrapI32_id h, wrapI64_of_in (by unfold inI32 at h; omega) (by unfold inI32 at h; omega)⟩

theorem neg_fits {a : Int} (h : inI32 (-a)) : HintRound.wneg a = -a ∧ FtCalc.negLong a = -a := wrap_fits h

theorem chk_iff {x r : Int} : HintMath.chk x = some r ↔ (inI32 x ∧ x = r) := by
  unfold HintMath.chk inI32
  split
  · simp; omega
  · simp; omega

theorem chk_fits {x : Int} (h : inI32 x) : HintMath.chk x = some x := chk_iff.2 ⟨h, rfl⟩

theorem chk_bind_iff {x : Int} {f : Int → Option Int} {r : Int} :
    (HintMath.chk x).bind f = some r ↔ (inI32 x ∧ f x = some r) := by
  unfold HintMath.chk inI32
  split
  · simp; omega
  · simp; omega

theorem chk_map_iff {x : Int} {f : Int → Int} {r : Int} :
    (HintMath.chk x).map f = some r ↔ (inI32 x ∧ f x = r) := by
  unfold HintMath.chk inI32
  split
  · simp; omega
  · simp; omega

theorem chk64_some {x r : Int} (h : HintMath.chk64 x = some r) : r = x ∧ inI64 x := by
  unfold HintMath.chk64 at h; unfold inI64; split at h <;> simp at h; omega

/-! `FT_MulDiv`, `FT_MulDiv_No_Round`, `FT_DivFix` and their skrifa counterparts compute an unsigned quotient
from the operands' magnitudes and then apply the sign: FreeType to the 64-bit value, skrifa to its 32-bit
truncation with a wrapping negate (`wrap_signed`, `Fixed.mulDiv_mag`, `Fixed.div_mag` in Lemmas/FixedOps.lean). -/

theorem moveSign_abs {x : Int} (h : inI64 x) : FtCalc.moveSign x = iabs x := by
  unfold FtCalc.moveSign iabs wrapU64 inI64 at *; split <;> omega

theorem i32_i64 {x : Int} (h : inI32 x) : inI64 x := by unfold inI32 inI64 at *; omega

theorem iabs_le_of {x A : Int} (h : -A ≤ x ∧ x ≤ A) : iabs x ≤ A := by
  unfold iabs; split <;> omega

theorem ft_signed (s : Bool) {q : Int} (h0 : 0 ≤ q) (h1 : q < 9223372036854775808) :
    (if s then FtCalc.negLong (wrapI64 q) else wrapI64 q) = if s then -q else q := by
  unfold FtCalc.negLong
  rw [wrapI64_of_in (by omega) h1, wrapI64_of_in (by omega) (by omega)]

theorem uquot_bound {n c : Int} (h0 : 0 ≤ n) (h1 : n < 9223372036854775808) :
    0 ≤ (if c > 0 then n / c else 2147483647) ∧
      (if c > 0 then n / c else 2147483647) < 9223372036854775808 := by
  split
  · exact ⟨Int.ediv_nonneg h0 (by omega), Int.lt_of_le_of_lt (Int.ediv_le_self _ h0) h1⟩
  · exact ⟨by decide, by decide⟩

theorem u64_muladd {p r : Int} (hp : 0 ≤ p ∧ p ≤ 4611686018427387904) (hr : 0 ≤ r ∧ r ≤ 1073741824) :
    wrapU64 (wrapU64 p + r) = p + r := by
  unfold wrapU64; omega

theorem ft_mulDiv_i32 {a b c : Int} (ha : inI32 a) (hb : inI32 b) (hc : inI32 c) :
    FtCalc.mulDiv a b c =
      if FtCalc.sign3 a b c
      then -(if iabs c > 0 then (iabs a * iabs b + iabs c / 2) / iabs c else 2147483647)
      else (if iabs c > 0 then (iabs a * iabs b + iabs c / 2) / iabs c else 2147483647) := by
  unfold FtCalc.mulDiv
  rw [moveSign_abs (i32_i64 ha), moveSign_abs (i32_i64 hb), moveSign_abs (i32_i64 hc)]
  have bm := mul_bound_nonneg (iabs_le ha) (iabs_le hb)
  have bc := iabs_le hc
  have hq := uquot_bound (n := iabs a * iabs b + iabs c / 2) (c := iabs c) (by omega) (by omega)
  simp only [u64_muladd bm (show 0 ≤ iabs c / 2 ∧ iabs c / 2 ≤ 1073741824 by omega)]
  exact ft_signed _ hq.1 hq.2

theorem ft_divFix_i32 {a b : Int} (ha : inI32 a) (hb : inI32 b) :
    FtCalc.divFix a b =
      if (a < 0) != (b < 0)
      then -(if iabs b > 0 then (iabs a * 65536 + iabs b / 2) / iabs b else 2147483647)
      else (if iabs b > 0 then (iabs a * 65536 + iabs b / 2) / iabs b else 2147483647) := by
  unfold FtCalc.divFix
  rw [moveSign_abs (i32_i64 ha), moveSign_abs (i32_i64 hb)]
  have ba := iabs_le ha
  have bb := iabs_le hb
  have hq := uquot_bound (n := iabs a * 65536 + iabs b / 2) (c := iabs b) (by omega) (by omega)
  simp only [u64_muladd (show 0 ≤ iabs a * 65536 ∧ iabs a * 65536 ≤ 4611686018427387904 by omega)
    (show 0 ≤ iabs b / 2 ∧ iabs b / 2 ≤ 1073741824 by omega)]
  exact ft_signed _ hq.1 hq.2

theorem ft_mulDiv_le {a b c A B m : Int} (ha : inI32 a) (hb : inI32 b) (hc : inI32 c)
    (hA : iabs a ≤ A) (hB : iabs b ≤ B) (hm : 0 < m) (hcm : m ≤ iabs c) :
    -(A * B / m + 1) ≤ FtCalc.mulDiv a b c ∧ FtCalc.mulDiv a b c ≤ A * B / m + 1 := by
  rw [ft_mulDiv_i32 ha hb hc, if_pos (show iabs c > 0 by omega)]
  have bm := mul_bound_nonneg ⟨(iabs_le ha).1, hA⟩ ⟨(iabs_le hb).1, hB⟩
  generalize iabs a * iabs b = p at bm ⊢
  generalize iabs c = u at hcm ⊢
  have hu : 0 < u := by omega
  -- the rounded quotient is at most `p / u + 1`, and `p / u ≤ A·B / m` because `m ≤ u`
  have h1 : (p + u / 2) / u ≤ (p + 1 * u) / u := Int.ediv_le_ediv hu (by omega)
  rw [Int.add_mul_ediv_right p 1 (by omega)] at h1
  have h2 : p / u * m ≤ p / u * u := Int.mul_le_mul_of_nonneg_left hcm (Int.ediv_nonneg bm.1 (by omega))
  have h3 := Int.ediv_mul_le p (show u ≠ 0 by omega)
  have h4 : p / u ≤ A * B / m := Int.le_ediv_of_mul_le hm (by omega)
  have h0 : 0 ≤ (p + u / 2) / u := Int.ediv_nonneg (by omega) (by omega)
  split <;> omega

theorem ft_muldiv_i64 (a b c : Int) (ha : inI32 a) (hb : inI32 b) (hc : inI32 c) :
    -4611686020574871552 ≤ FtCalc.mulDiv a b c ∧ FtCalc.mulDiv a b c ≤ 4611686020574871552 := by
  by_cases h0 : iabs c > 0
  · have h := ft_mulDiv_le (m := 1) ha hb hc (iabs_le ha).2 (iabs_le hb).2 (by decide) (by omega)
    omega
  · rw [ft_mulDiv_i32 ha hb hc, if_neg h0]
    split <;> omega

theorem mulFix_wrap_right (a b : Int) : FtCalc.mulFix a b = FtCalc.mulFix a (wrapI32 b) := by
  unfold FtCalc.mulFix FtCalc.mulFixX8664
  rw [wrapI32_congr (wrapI32_emod b)]

theorem math_mulfix_eq (a b : Int) (ha : inI32 a) (hb : inI32 b) :
    Fixed.mul a b = FtCalc.mulFix a b := by
  unfold Fixed.mul FtCalc.mulFix FtCalc.mulFixX8664
  rw [wrapI32_id ha, wrapI32_id hb]
  simp only []
  generalize a * b = p
  by_cases hp : p < 0 <;> simp [hp] <;> congr 1 <;> omega

theorem fixmul_bound {a b A B : Int} (ha : -A ≤ a ∧ a ≤ A) (hb : -B ≤ b ∧ b ≤ B)
    (hA : A ≤ 2147483647) (hB : B ≤ 2147483647) (hAB : A * B ≤ 70368744177664) :
    Fixed.mul a b = FtCalc.mulFix a b ∧
    -(A * B / 65536 + 1) ≤ FtCalc.mulFix a b ∧ FtCalc.mulFix a b ≤ A * B / 65536 + 1 := by
  have hm := mul_bound ha hb
  have e := math_mulfix_eq a b (by unfold inI32; omega) (by unfold inI32; omega)
  refine ⟨e, ?_⟩
  unfold FtCalc.mulFix FtCalc.mulFixX8664
  have ea : wrapI32 a = a := wrapI32_of_in (by omega) (by omega)
  have eb : wrapI32 b = b := wrapI32_of_in (by omega) (by omega)
  simp only [ea, eb]
  generalize a * b = p at hm ⊢
  generalize A * B = M at hm hAB ⊢
  have hq : -(M / 65536 + 1) ≤ (p + (32768 + if p < 0 then -1 else 0)) / 65536 ∧
      (p + (32768 + if p < 0 then -1 else 0)) / 65536 ≤ M / 65536 + 1 := by split <;> omega
  rw [wrapI32_of_in (by omega) (by omega)]
  exact hq

/-- a coordinate times a scale of at most 64 px per font unit. -/
theorem scaled_eq {a A scale : Int} (hs : 0 ≤ scale ∧ scale ≤ 4194304) (ha : -A ≤ a ∧ a ≤ A)
    (hA : A ≤ 16777216) :
    Fixed.mul a scale = FtCalc.mulFix a scale ∧
    -(64 * A + 1) ≤ FtCalc.mulFix a scale ∧ FtCalc.mulFix a scale ≤ 64 * A + 1 := by
  have h := fixmul_bound (b := scale) (B := 4194304) ha (by omega) (by omega) (by decide) (by omega)
  exact ⟨h.1, by omega, by omega⟩

theorem dot14_some (dx dy px py : Int) (hdx : -1073741824 ≤ dx ∧ dx ≤ 1073741824)
    (hdy : -1073741824 ≤ dy ∧ dy ≤ 1073741824) (hpx : -32767 ≤ px ∧ px ≤ 32767)
    (hpy : -32767 ≤ py ∧ py ≤ 32767) :
    HintMath.dot14 dx dy px py = some (FtCalc.dotFix14 dx dy px py) := by
  have m1 := mul_bound (A := 1073741824) (B := 32767) hdx hpx
  have m2 := mul_bound (A := 1073741824) (B := 32767) hdy hpy
  unfold HintMath.dot14 FtCalc.dotFix14
  have hp : -70366596694016 ≤ dx * px + dy * py ∧ dx * px + dy * py ≤ 70366596694016 := by omega
  generalize dx * px + dy * py = p at hp ⊢
  have c1 : HintMath.chk64 p = some p := by unfold HintMath.chk64; rw [if_pos (by omega)]
  simp only [c1, Option.bind_some]
  have c2 : HintMath.chk64 (p + (8192 + if p < 0 then -1 else 0)) = some (p + (8192 + if p < 0 then -1 else 0)) := by
    unfold HintMath.chk64; rw [if_pos (by split <;> omega)]
  simp only [c2, Option.map_some]
  have e1 : wrapI64 p = p := wrapI64_of_in (by omega) (by omega)
  rw [e1]
  have e2 : wrapI64 (p + (8192 + if p < 0 then -1 else 0)) = p + (8192 + if p < 0 then -1 else 0) :=
    wrapI64_of_in (by split <;> omega) (by split <;> omega)
  rw [e2]

theorem dotFix14_small {D : Int} (dx dy px py : Int) (hD : D ≤ 268435456) (hdx : -D ≤ dx ∧ dx ≤ D)
    (hdy : -D ≤ dy ∧ dy ≤ D) (hpx : -32767 ≤ px ∧ px ≤ 32767) (hpy : -32767 ≤ py ∧ py ≤ 32767) :
    -(4 * D + 1) ≤ FtCalc.dotFix14 dx dy px py ∧ FtCalc.dotFix14 dx dy px py ≤ 4 * D + 1 := by
  have m1 := mul_bound hdx hpx
  have m2 := mul_bound hdy hpy
  unfold FtCalc.dotFix14
  have hp : -(2 * (D * 32767)) ≤ dx * px + dy * py ∧ dx * px + dy * py ≤ 2 * (D * 32767) := by omega
  generalize dx * px + dy * py = p at hp ⊢
  clear m1 m2
  simp only [wrapI64_of_in (x := p) (by omega) (by omega)]
  rw [wrapI64_of_in (by split <;> omega) (by split <;> omega)]
  have hq : -(4 * D + 1) ≤ (p + (8192 + if p < 0 then -1 else 0)) / 16384 ∧
      (p + (8192 + if p < 0 then -1 else 0)) / 16384 ≤ 4 * D + 1 := by split <;> omega
  rw [wrapI32_of_in (by omega) (by omega)]
  exact hq

theorem landN_neg_one (n : Nat) : ∀ a : Int, -(2:Int)^n ≤ a → a < (2:Int)^n → landN n a (-1) = a := by
  induction n with
  | zero => intro a h1 h2; simp [landN] at *; omega
  | succ n ih =>
    intro a h1 h2
    rw [landN]
    have e1 : (-1 : Int) % 2 = 1 := by decide
    have e2 : (-1 : Int) / 2 = -1 := by decide
    rw [e1, e2, ih (a / 2) (by rw [Int.pow_succ] at h1; omega) (by rw [Int.pow_succ] at h2; omega)]
    omega

theorem landN_even (n : Nat) (x c : Int) : landN (n + 1) x (2 * c) = 2 * landN n (x / 2) c := by
  rw [landN]
  have e1 : (2 * c) % 2 = 0 := by omega
  have e2 : (2 * c) / 2 = c := by omega
  rw [e1, e2]; omega

theorem land_neg64 (x : Int) (h : inI64 x) : landInt x (-64) = x - x % 64 := by
  unfold landInt inI64 at *
  rw [show (64 : Nat) = 58 + 1 + 1 + 1 + 1 + 1 + 1 from rfl,
      show (-64 : Int) = 2 * (2 * (2 * (2 * (2 * (2 * (-1)))))) from by decide]
  rw [landN_even, landN_even, landN_even, landN_even, landN_even, landN_even]
  have e : (2 : Int) ^ 58 = 288230376151711744 := by decide
  rw [landN_neg_one 58 _ (by rw [e]; omega) (by rw [e]; omega)]
  omega

theorem land_neg32 (x : Int) (h : inI64 x) : landInt x (-32) = x - x % 32 := by
  unfold landInt inI64 at *
  rw [show (64 : Nat) = 59 + 1 + 1 + 1 + 1 + 1 from rfl,
      show (-32 : Int) = 2 * (2 * (2 * (2 * (2 * (-1))))) from by decide]
  rw [landN_even, landN_even, landN_even, landN_even, landN_even]
  have e : (2 : Int) ^ 59 = 576460752303423488 := by decide
  rw [landN_neg_one 59 _ (by rw [e]; omega) (by rw [e]; omega)]
  omega

theorem landN_zero_left (n : Nat) (b : Int) : landN n 0 b = 0 := by
  induction n generalizing b with
  | zero => simp [landN]
  | succ n ih => rw [landN]; simp [ih]

theorem landN_zero_right (n : Nat) (a : Int) : landN n a 0 = 0 := by
  induction n generalizing a with
  | zero => simp [landN]
  | succ n ih => rw [landN]; simp [ih]

theorem landN_neg1_neg1 (n : Nat) : landN n (-1) (-1) = -1 := by
  induction n with
  | zero => simp [landN]
  | succ n ih =>
    rw [landN, show (-1 : Int) / 2 = -1 from by decide, show (-1 : Int) % 2 = 1 from by decide, ih]
    decide

theorem landN_nonneg_left (n : Nat) : ∀ a b : Int, 0 ≤ a → 0 ≤ landN n a b ∧ landN n a b ≤ a := by
  induction n with
  | zero => intro a b h; simp [landN]; split <;> omega
  | succ n ih =>
    intro a b h
    rw [landN]
    have := ih (a / 2) (b / 2) (by omega)
    have hb : 0 ≤ b % 2 ∧ b % 2 ≤ 1 := by omega
    have ha : 0 ≤ a % 2 ∧ a % 2 ≤ 1 := by omega
    have hm : 0 ≤ a % 2 * (b % 2) ∧ a % 2 * (b % 2) ≤ a % 2 := by
      rcases (show b % 2 = 0 ∨ b % 2 = 1 by omega) with e | e <;> rw [e] <;> omega
    generalize a % 2 * (b % 2) = m at *
    omega

theorem landN_bound (n : Nat) : ∀ (k : Nat) (a b : Int), -(2:Int)^k ≤ a → a < (2:Int)^k →
    -(2:Int)^k ≤ b → b < (2:Int)^k → -(2:Int)^k ≤ landN n a b ∧ landN n a b < (2:Int)^k := by
  induction n with
  | zero =>
    intro k a b _ _ _ _
    have : (0:Int) < 2 ^ k := Int.pow_pos (by decide)
    simp [landN]; split <;> omega
  | succ n ih =>
    intro k a b ha1 ha2 hb1 hb2
    cases k with
    | zero =>
      simp at ha1 ha2 hb1 hb2
      rcases (show a = 0 ∨ a = -1 by omega) with e | e
      · subst e; rw [landN_zero_left]; simp
      · rcases (show b = 0 ∨ b = -1 by omega) with e' | e'
        · subst e'; rw [landN_zero_right]; simp
        · subst e; subst e'; rw [landN_neg1_neg1]; simp
    | succ k =>
      rw [landN]
      rw [Int.pow_succ] at ha1 ha2 hb1 hb2 ⊢
      have := ih k (a / 2) (b / 2) (by omega) (by omega) (by omega) (by omega)
      have hm : 0 ≤ a % 2 * (b % 2) ∧ a % 2 * (b % 2) ≤ 1 := by
        rcases (show b % 2 = 0 ∨ b % 2 = 1 by omega) with e | e <;> rw [e] <;> omega
      generalize a % 2 * (b % 2) = m at *
      omega

/-- the AND of `Round_Super`: a shifted distance against minus the period. -/
theorem land_super_bound (s m : Int) (hs : -4194304 ≤ s ∧ s ≤ 1077936128)
    (hm : -4194304 ≤ m ∧ m < 4194304) :
    -4194304 ≤ landInt s m ∧ landInt s m ≤ 1077936128 := by
  unfold landInt
  by_cases h0 : 0 ≤ s
  · have := landN_nonneg_left 64 s m h0; omega
  · have e : (2:Int)^22 = 4194304 := by decide
    have := landN_bound 64 22 s m (by rw [e]; omega) (by rw [e]; omega) (by rw [e]; omega) (by rw [e]; omega)
    rw [e] at this; omega

theorem super_round_byte (g sel : Int) :
    HintRound.superRound g sel = HintRound.superRound g (sel % 256) ∧
    FtRound.setSuperRound g sel = FtRound.setSuperRound g (sel % 256) := by
  unfold HintRound.superRound FtRound.setSuperRound
  have e1 : sel % 256 / 64 % 4 = sel / 64 % 4 := by omega
  have e2 : sel % 256 / 16 % 4 = sel / 16 % 4 := by omega
  have e3 : sel % 256 % 16 = sel % 16 := by omega
  rw [e1, e2, e3]
  exact ⟨rfl, rfl⟩

/-- the grid periods of the two call sites: 0x4000 (SROUND), 0x2D41 (S45ROUND). -/
theorem super_round_table : ∀ k : Fin 256, ∀ g ∈ [(16384 : Int), 11585],
    HintRound.superRound g k.val = some (FtRound.setSuperRound g k.val) ∧
    22 ≤ (FtRound.setSuperRound g k.val).1 ∧ (FtRound.setSuperRound g k.val).1 ≤ 128 ∧
    0 ≤ (FtRound.setSuperRound g k.val).2.1 ∧ (FtRound.setSuperRound g k.val).2.1 ≤ 96 ∧
    -64 ≤ (FtRound.setSuperRound g k.val).2.2 ∧ (FtRound.setSuperRound g k.val).2.2 ≤ 176 := by
  decide +kernel

theorem super_round_sel (g sel : Int) (hg : g = 16384 ∨ g = 11585) :
    HintRound.superRound g sel = some (FtRound.setSuperRound g sel) ∧
    22 ≤ (FtRound.setSuperRound g sel).1 ∧ (FtRound.setSuperRound g sel).1 ≤ 128 ∧
    0 ≤ (FtRound.setSuperRound g sel).2.1 ∧ (FtRound.setSuperRound g sel).2.1 ≤ 96 ∧
    -64 ≤ (FtRound.setSuperRound g sel).2.2 ∧ (FtRound.setSuperRound g sel).2.2 ≤ 176 := by
  have hk : 0 ≤ sel % 256 ∧ sel % 256 < 256 := by omega
  rw [(super_round_byte g sel).1, (super_round_byte g sel).2]
  generalize sel % 256 = k at hk
  have := super_round_table ⟨k.toNat, by omega⟩ g (by rcases hg with rfl | rfl <;> simp)
  rwa [show ((k.toNat : Nat) : Int) = k by omega] at this

end FontVerif.C03
