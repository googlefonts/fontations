/-
Lemmas about the CPAL subsetter model (`Model/SubsetCpal.lean`): the colour records, the run of `Cpal::subset` as a whole
(`Shape`), the laid-out header and colours, which object `subset_v1` hangs behind each of its three offsets (`V1Leaves`).
-/
import FontVerif.Lemmas.SubsetColrSer
import FontVerif.Lemmas.SubsetLayout
import FontVerif.Model.SubsetCpal
import FontVerif.Props.C17ColrPal
namespace FontVerif.SubsetCpal
open FontVerif.ColrSer

theorem rdList16_length (b : List Nat) : ∀ (n p : Nat) (xs : List Nat), rdList16 b p n = some xs → xs.length = n
  | 0, p, xs, h => by simp only [rdList16] at h; cases h; rfl
  | n + 1, p, xs, h => by
    simp only [rdList16] at h
    cases h1 : rd16 b p with
    | none => rw [h1] at h; cases h
    | some v =>
      cases h2 : rdList16 b (p + 2) n with
      | none => rw [h1, h2] at h; cases h
      | some rest =>
        rw [h1, h2] at h
        simp only [Option.bind_eq_bind, Option.bind_some, pure] at h
        cases h
        simp [rdList16_length b n (p + 2) rest h2]

theorem rdList16_congr (X Y : List Nat) : ∀ (n p : Nat),
    (∀ i, i < n → rd16 X (p + 2 * i) = rd16 Y (p + 2 * i)) → rdList16 X p n = rdList16 Y p n
  | 0, p, _ => by simp [rdList16]
  | n + 1, p, h => by
    simp only [rdList16]
    have h0 := h 0 (by omega)
    simp only [Nat.mul_zero, Nat.add_zero] at h0
    rw [h0, rdList16_congr X Y n (p + 2) (fun i hi => by
      have := h (i + 1) (by omega)
      rw [show p + 2 * (i + 1) = p + 2 + 2 * i by omega] at this
      exact this)]

theorem rdList16_flatMap : ∀ (xs pre post : List Nat), (∀ x ∈ xs, x < 65536) →
    rdList16 (pre ++ (xs.flatMap (beBytes 2) ++ post)) pre.length xs.length = some xs
  | [], pre, post, _ => by simp [rdList16]
  | x :: xs, pre, post, h => by
    simp only [List.flatMap_cons, List.length_cons, rdList16, List.append_assoc]
    have h1 : rd16 (pre ++ (beBytes 2 x ++ (xs.flatMap (beBytes 2) ++ post))) pre.length = some x := by
      have := @rdN_append_right 2 pre (beBytes 2 x ++ (xs.flatMap (beBytes 2) ++ post)) 0
      simp only [Nat.add_zero] at this
      unfold rd16
      rw [this]
      exact rdN_beBytes (by have := h x (by simp); omega)
    rw [h1]
    have h2 := rdList16_flatMap xs (pre ++ beBytes 2 x) post (fun y hy => h y (by simp [hy]))
    simp only [List.length_append, beBytes_length, List.append_assoc] at h2
    rw [h2]
    rfl

theorem readHeader_fields (b : List Nat) (hd : Header) (h : readHeader b = some hd) :
    rd16 b 0 = some hd.version ∧ rd16 b 4 = some hd.numPalettes ∧
    rdList16 b 12 hd.numPalettes = some hd.indices := by
  unfold readHeader at h
  split at h
  · rename_i version numEntries numPalettes numColorRecords recordsOffset h0 h2 h4 h6 h8
    split at h
    · rename_i indices hl
      simp only [] at h
      split at h
      · split at h
        · simp only [Option.some.injEq] at h
          subst h
          exact ⟨h0, h4, hl⟩
        · cases h
      · simp only [Option.some.injEq] at h
        subst h
        exact ⟨h0, h4, hl⟩
    · cases h
  · cases h

theorem v0Bytes_length (ver n p c : Nat) (idx : List Nat) :
    (v0Bytes ver n p c idx).length = 12 + 2 * idx.length := by
  unfold v0Bytes
  simp only [List.length_append, beBytes_length, List.length_cons, List.length_nil]
  have : (idx.flatMap (beBytes 2)).length = 2 * idx.length := by
    induction idx with
    | nil => simp
    | cons x xs ih => simp [List.flatMap_cons, beBytes_length, ih]; omega
  omega

theorem v0Bytes_fields (ver n p c : Nat) (idx ext : List Nat)
    (hv : ver < 65536) (hn : n < 65536) (hp : p < 65536) (hc : c < 65536) (hi : ∀ x ∈ idx, x < 65536) :
    let X := v0Bytes ver n p c idx ++ ext
    rd16 X 0 = some ver ∧ rd16 X 2 = some n ∧ rd16 X 4 = some p ∧ rd16 X 6 = some c ∧
    rdList16 X 12 idx.length = some idx := by
  simp only [v0Bytes, List.append_assoc]
  have e2 : ∀ v, (beBytes 2 v).length = 2 := fun v => beBytes_length 2 v
  refine ⟨?_, ?_, ?_, ?_, ?_⟩
  · exact rdN_beBytes (by omega)
  · unfold rd16
    rw [show (2 : Nat) = 2 + 0 by rfl, rdN_append_right_of_length (e2 ver)]
    exact rdN_beBytes (by omega)
  · unfold rd16
    rw [show (4 : Nat) = 2 + (2 + 0) by rfl, rdN_append_right_of_length (e2 ver), rdN_append_right_of_length (e2 n)]
    exact rdN_beBytes (by omega)
  · unfold rd16
    rw [show (6 : Nat) = 2 + (2 + (2 + 0)) by rfl, rdN_append_right_of_length (e2 ver), rdN_append_right_of_length (e2 n),
      rdN_append_right_of_length (e2 p)]
    exact rdN_beBytes (by omega)
  · have := rdList16_flatMap idx (beBytes 2 ver ++ (beBytes 2 n ++ (beBytes 2 p ++ (beBytes 2 c ++ [0, 0, 0, 0]))))
      ext hi
    simp only [List.length_append, beBytes_length, List.length_cons, List.length_nil, List.append_assoc] at this
    exact this

/-- a table that agrees with a version 0 header (and whatever follows it) except in the offset at 8, and is long enough
for the version 1 fields if there are any, reads back as that header -/
theorem readHeader_of_v0Bytes {ver n p c off : Nat} {idx ext X : List Nat}
    (hv : ver < 65536) (hn : n < 65536) (hp : p < 65536) (hc : c < 65536) (hi : ∀ x ∈ idx, x < 65536)
    (hlen : idx.length = p)
    (hlow : ∀ w q, q + w ≤ 8 → rdN w X q = rdN w (v0Bytes ver n p c idx ++ ext) q)
    (hoff : rdN 4 X 8 = some off)
    (hmid : ∀ w q, 12 ≤ q → q + w ≤ 12 + 2 * idx.length → rdN w X q = rdN w (v0Bytes ver n p c idx ++ ext) q)
    (hfin : ver ≥ 1 → 12 + 2 * p + 12 ≤ X.length) :
    readHeader X = some { version := ver, numEntries := n, numPalettes := p, numColorRecords := c,
                          recordsOffset := off, indices := idx,
                          v1Pos := if ver ≥ 1 then some (12 + 2 * p) else none } := by
  obtain ⟨x0, x2, x4, x6, xl⟩ := v0Bytes_fields ver n p c idx ext hv hn hp hc hi
  have o0 : rd16 X 0 = some ver := (hlow 2 0 (by omega)).trans x0
  have o2 : rd16 X 2 = some n := (hlow 2 2 (by omega)).trans x2
  have o4 : rd16 X 4 = some p := (hlow 2 4 (by omega)).trans x4
  have o6 : rd16 X 6 = some c := (hlow 2 6 (by omega)).trans x6
  have ol : rdList16 X 12 p = some idx := by
    rw [← hlen, ← xl]
    exact rdList16_congr _ _ _ _ fun i hi => hmid 2 _ (by omega) (by omega)
  unfold readHeader
  rw [o0, o2, o4, o6, show rd32 X 8 = some off from hoff]
  simp only [ol]
  by_cases hge : ver ≥ 1
  · rw [if_pos hge, if_pos (hfin hge), if_pos hge]
  · rw [if_neg hge, if_neg hge]

theorem recordsOf_spec (records : List Nat) (first : Nat) :
    ∀ (es : List Nat) (bs : List Nat), recordsOf records first es = .ok bs →
      bs.length = 4 * es.length ∧
      ∀ j (hj : j < es.length), slice bs (4 * j) 4 = slice records (4 * (first + es[j])) 4 := by
  intro es
  induction es with
  | nil =>
    intro bs h
    simp only [recordsOf, pure, Except.pure] at h
    cases h
    exact ⟨rfl, fun j hj => absurd hj (by simp)⟩
  | cons e es ih =>
    intro bs h
    simp only [recordsOf] at h
    cases hs : slice records (4 * (first + e)) 4 with
    | none => rw [hs] at h; cases h
    | some r =>
      rw [hs] at h
      cases hr : recordsOf records first es with
      | error err => rw [hr] at h; cases h
      | ok rest =>
        rw [hr] at h
        simp only [bind, Except.bind, pure, Except.pure] at h
        cases h
        obtain ⟨hl, hrest⟩ := ih rest hr
        have hrl : r.length = 4 := slice_length hs
        refine ⟨by simp [hl, hrl]; omega, ?_⟩
        intro j hj
        cases j with
        | zero =>
          simp only [Nat.mul_zero, List.getElem_cons_zero]
          rw [hs, ← hrl]
          exact slice_prefix
        | succ j =>
          simp only [List.getElem_cons_succ]
          have := hrest j (by simpa using hj)
          rw [← this, show 4 * (j + 1) = 4 + 4 * j by omega]
          exact slice_append_right_of_length hrl

/-- what the loop has established so far: every mapped first index owns a block of `n` records in the
output that are the source records `first + e` -/
structure RecInv (records retained : List Nat) (map : List (Nat × Nat)) (newIdx : Nat) (out : List Nat) : Prop where
  idx : newIdx = map.length * retained.length
  len : out.length = 4 * newIdx
  blocks : ∀ f nf, map.lookup f = some nf → ∃ k, k < map.length ∧ nf = (k * retained.length) % 65536 ∧
    ∀ j (hj : j < retained.length),
      slice out (4 * (k * retained.length + j)) 4 = slice records (4 * (f + retained[j])) 4

theorem recInv_init (records retained : List Nat) : RecInv records retained [] 0 [] :=
  ⟨by simp, by simp, fun f nf h => by simp at h⟩

theorem map_values_lt (records retained : List Nat) (map : List (Nat × Nat)) (newIdx : Nat) (out : List Nat)
    (inv : RecInv records retained map newIdx out) (f : Nat) : (map.lookup f).getD 0 < 65536 := by
  cases h : map.lookup f with
  | none => simp
  | some nf =>
    obtain ⟨k, _, hnf, _⟩ := inv.blocks f nf h
    simp only [Option.getD_some]
    rw [hnf]
    exact Nat.mod_lt _ (by omega)

theorem lookup_append_of_none {β : Type} (m : List (Nat × β)) (k k' : Nat) (v : β) (h : m.lookup k' = none) :
    (m ++ [(k', v)]).lookup k = if k = k' then some v else m.lookup k := by
  rw [List.lookup_append, lookup_cons_ite, List.lookup_nil]
  by_cases hk : k = k'
  · subst hk; rw [if_pos rfl, if_pos rfl, h]; rfl
  · rw [if_neg hk, if_neg hk, Option.or_none]

/-- a first index that is not mapped yet gets the next block -/
theorem RecInv.push {records retained : List Nat} {map : List (Nat × Nat)} {newIdx : Nat} {out : List Nat}
    (inv : RecInv records retained map newIdx out) {first : Nat} {recs : List Nat}
    (hnone : map.lookup first = none) (hr : recordsOf records first retained = .ok recs) :
    RecInv records retained (map ++ [(first, newIdx % 65536)]) (newIdx + retained.length) (out ++ recs) := by
  obtain ⟨hrl, hrecs⟩ := recordsOf_spec records first retained recs hr
  refine ⟨?_, ?_, ?_⟩
  · rw [inv.idx]; simp [Nat.succ_mul]
  · simp [inv.len, hrl]; omega
  · intro f nf hf
    rw [lookup_append_of_none map f first _ hnone] at hf
    by_cases hff : f = first
    · rw [if_pos hff] at hf
      cases hf
      refine ⟨map.length, by simp, by rw [inv.idx], ?_⟩
      intro j hj
      have hol : out.length = 4 * (map.length * retained.length) := by rw [inv.len, inv.idx]
      rw [show 4 * (map.length * retained.length + j) = out.length + 4 * j by omega]
      rw [slice_append_right, hrecs j hj, hff]
    · rw [if_neg hff] at hf
      obtain ⟨k, hk, hnf, hb⟩ := inv.blocks f nf hf
      refine ⟨k, by simp; omega, hnf, ?_⟩
      intro j hj
      rw [← hb j hj]
      apply slice_append_left
      rw [inv.len, inv.idx]
      have : (k + 1) * retained.length ≤ map.length * retained.length :=
        Nat.mul_le_mul_right _ hk
      rw [Nat.succ_mul] at this
      omega

/-- the loop keeps the invariant, and its map only grows: every index it was given ends up mapped -/
theorem recordsGo_spec (records retained : List Nat) (hN : retained.length < 65536) :
    ∀ (inds : List Nat) (map : List (Nat × Nat)) (newIdx : Nat) (out : List Nat)
      (map' : List (Nat × Nat)) (out' : List Nat),
      RecInv records retained map newIdx out →
      recordsGo records retained inds map newIdx out = .ok (map', out') →
      RecInv records retained map' (map'.length * retained.length) out' ∧
      ∀ f, f ∈ inds ∨ (map.lookup f).isSome → (map'.lookup f).isSome := by
  intro inds
  induction inds with
  | nil =>
    intro map newIdx out map' out' inv h
    simp only [recordsGo, pure, Except.pure] at h
    cases h
    exact ⟨inv.idx ▸ inv, fun f hf => hf.resolve_left (by simp)⟩
  | cons first rest ih =>
    intro map newIdx out map' out' inv h
    simp only [recordsGo] at h
    by_cases hl : (map.lookup first).isSome
    · rw [if_pos hl] at h
      obtain ⟨i1, i2⟩ := ih map newIdx out map' out' inv h
      refine ⟨i1, fun f hf => i2 f ?_⟩
      rcases hf with hf | hf
      · rcases List.mem_cons.mp hf with rfl | hf
        · exact Or.inr hl
        · exact Or.inl hf
      · exact Or.inr hf
    · rw [if_neg hl] at h
      obtain ⟨recs, hr, h⟩ := Do.bind_ok h
      rw [Nat.mod_eq_of_lt hN] at h
      obtain ⟨i1, i2⟩ := ih _ _ _ map' out' (inv.push (Option.not_isSome_iff_eq_none.mp hl) hr) h
      refine ⟨i1, fun f hf => i2 f ?_⟩
      rw [List.lookup_append, Option.isSome_or]
      rcases hf with hf | hf
      · rcases List.mem_cons.mp hf with rfl | hf
        · exact Or.inr (by simp)
        · exact Or.inl hf
      · exact Or.inr (by simp [hf])

theorem packLeaf_spec (packed : List Obj) (bytes : List Nat) (pos : Nat) (links : List Link)
    (pk : List Obj) (ls : List Link) (h : packLeaf packed bytes pos links = .ok (pk, ls)) :
    ∃ i extra, ls = links ++ [⟨pos, 4, i⟩] ∧ pk = packed ++ extra ∧ (∀ o ∈ extra, o.links = []) ∧
      pk[i]? = some ⟨bytes, []⟩ := by
  unfold packLeaf at h
  rcases popPack_spec packed ⟨bytes, []⟩ with hp | ⟨i, hi, hget, hp⟩ | hp
  · rw [hp] at h; cases h
  · rw [hp] at h
    simp only [pure, Except.pure] at h
    cases h
    exact ⟨i, [], rfl, by simp, by simp, hget⟩
  · rw [hp] at h
    simp only [pure, Except.pure] at h
    cases h
    refine ⟨packed.length, [⟨bytes, []⟩], rfl, rfl, by simp, by simp⟩

/-- the first object packed has index 0: nothing to share with (in general `popPack` shares, and the index is not the
length of the list) -/
theorem packLeaf_nil {bytes : List Nat} {pos : Nat} {links : List Link} {pk : List Obj} {ls : List Link}
    (h : packLeaf [] bytes pos links = .ok (pk, ls)) : pk = [⟨bytes, []⟩] ∧ ls = links ++ [⟨pos, 4, 0⟩] := by
  unfold packLeaf at h
  rcases popPack_spec [] ⟨bytes, []⟩ with hp | ⟨j, hj, _⟩ | hp
  · rw [hp] at h; cases h
  · cases hj
  · rw [hp] at h
    simp only [pure, Except.pure] at h
    cases h
    exact ⟨rfl, rfl⟩


theorem optLeaf_cases (present : Bool) (src : Option (List Nat)) (f : List Nat → List Nat) (pos : Nat)
    (packed : List Obj) (links : List Link) (pk : List Obj) (ls : List Link)
    (h : optLeaf present src f pos packed links = .ok (pk, ls)) :
    (present = false ∧ pk = packed ∧ ls = links) ∨
    (present = true ∧ ∃ s i extra, src = some s ∧ pk = packed ++ extra ∧ (∀ o ∈ extra, o.links = []) ∧
      ls = links ++ [⟨pos, 4, i⟩] ∧ pk[i]? = some ⟨f s, []⟩) := by
  unfold optLeaf at h
  cases present with
  | false => cases h; exact Or.inl ⟨rfl, rfl, rfl⟩
  | true =>
    rw [if_pos rfl] at h
    cases src with
    | none => cases h
    | some s =>
      obtain ⟨i, extra, hls, hpk, hnl, hget⟩ := packLeaf_spec _ _ _ _ _ _ h
      exact Or.inr ⟨rfl, s, i, extra, rfl, hpk, hnl, hls, hget⟩

theorem optLeaf_spec (present : Bool) (src : Option (List Nat)) (f : List Nat → List Nat) (pos : Nat)
    (packed : List Obj) (links : List Link) (pk : List Obj) (ls : List Link)
    (h : optLeaf present src f pos packed links = .ok (pk, ls)) :
    ∃ extra ls', pk = packed ++ extra ∧ (∀ o ∈ extra, o.links = []) ∧ ls = links ++ ls' ∧
      ∀ l ∈ ls', l.pos = pos ∧ l.width = 4 := by
  rcases optLeaf_cases _ _ _ _ _ _ _ _ h with ⟨_, rfl, rfl⟩ | ⟨_, s, i, extra, _, hpk, hnl, hls, hget⟩
  · exact ⟨[], [], by simp, by simp, by simp, by simp⟩
  · refine ⟨extra, [⟨pos, 4, i⟩], hpk, hnl, hls, fun l hl => ?_⟩
    cases List.mem_singleton.mp hl
    exact ⟨rfl, rfl⟩

theorem subsetV1_steps (b : List Nat) (h : Header) (palettes : List (Nat × Nat)) (typesPos : Nat)
    (packed : List Obj) (links : List Link) (pk : List Obj) (ls : List Link)
    (hok : subsetV1 b h palettes typesPos packed links = .ok (pk, ls)) :
    ∃ p o1 o2 o3 pk1 ls1 pk2 ls2, h.v1Pos = some p ∧ rd32 b p = some o1 ∧ rd32 b (p + 4) = some o2 ∧
      rd32 b (p + 8) = some o3 ∧
      optLeaf (o1 != 0) (slice b o1 (4 * h.numPalettes)) id typesPos packed links = .ok (pk1, ls1) ∧
      optLeaf (o2 != 0) (slice b o2 (2 * h.numPalettes)) id (typesPos + 4) pk1 ls1 = .ok (pk2, ls2) ∧
      optLeaf (o3 != 0) (slice b o3 (2 * h.numEntries)) (keptLabels h.numEntries palettes) (typesPos + 8) pk2 ls2 =
        .ok (pk, ls) := by
  unfold subsetV1 at hok
  cases hp : h.v1Pos with
  | none => rw [hp] at hok; cases hok
  | some p =>
  rw [hp] at hok
  simp only [] at hok
  cases h1 : rd32 b p with
  | none => rw [h1] at hok; cases hok
  | some o1 =>
  cases h2 : rd32 b (p + 4) with
  | none => rw [h1, h2] at hok; cases hok
  | some o2 =>
  cases h3 : rd32 b (p + 8) with
  | none => rw [h1, h2, h3] at hok; cases hok
  | some o3 =>
  rw [h1, h2, h3] at hok
  simp only [] at hok
  obtain ⟨⟨pk1, ls1⟩, hs1, hok⟩ := Do.bind_ok hok
  obtain ⟨⟨pk2, ls2⟩, hs2, hok⟩ := Do.bind_ok hok
  exact ⟨p, o1, o2, o3, pk1, ls1, pk2, ls2, rfl, h1, h2, h3, hs1, hs2, hok⟩

/-- `subset_v1` packs leaves only; its links are the three offset fields behind `typesPos` -/
theorem subsetV1_spec (b : List Nat) (h : Header) (palettes : List (Nat × Nat)) (typesPos : Nat)
    (packed : List Obj) (links : List Link) (pk : List Obj) (ls : List Link)
    (hok : subsetV1 b h palettes typesPos packed links = .ok (pk, ls)) :
    ∃ extra ls', pk = packed ++ extra ∧ (∀ o ∈ extra, o.links = []) ∧ ls = links ++ ls' ∧
      ∀ l ∈ ls', typesPos ≤ l.pos ∧ l.pos + l.width ≤ typesPos + 12 := by
  obtain ⟨p, o1, o2, o3, pk1, ls1, pk2, ls2, _, _, _, _, hs1, hs2, hok⟩ := subsetV1_steps _ _ _ _ _ _ _ _ hok
  obtain ⟨e1, l1, hpk1, hn1, hls1, hl1⟩ := optLeaf_spec _ _ _ _ _ _ _ _ hs1
  obtain ⟨e2, l2, hpk2, hn2, hls2, hl2⟩ := optLeaf_spec _ _ _ _ _ _ _ _ hs2
  obtain ⟨e3, l3, hpk3, hn3, hls3, hl3⟩ := optLeaf_spec _ _ _ _ _ _ _ _ hok
  refine ⟨e1 ++ e2 ++ e3, l1 ++ l2 ++ l3, ?_, ?_, ?_, ?_⟩
  · rw [hpk3, hpk2, hpk1]; simp
  · intro o ho
    simp only [List.mem_append] at ho
    rcases ho with (ho | ho) | ho
    · exact hn1 o ho
    · exact hn2 o ho
    · exact hn3 o ho
  · rw [hls3, hls2, hls1]; simp
  · intro l hl
    simp only [List.mem_append] at hl
    rcases hl with (hl | hl) | hl
    · obtain ⟨a, c⟩ := hl1 l hl; omega
    · obtain ⟨a, c⟩ := hl2 l hl; omega
    · obtain ⟨a, c⟩ := hl3 l hl; omega

/-- what stands behind one of the three offsets (source offset `off`, written at `pos`): a NULL offset gets no link
beyond the given `links`; otherwise a link to a leaf holding `f` of the source array -/
def Field (pos off : Nat) (src : Option (List Nat)) (f : List Nat → List Nat) (links : List Link)
    (pk : List Obj) (ls : List Link) : Prop :=
  (off = 0 → ∀ l ∈ ls, l ∉ links → l.pos ≠ pos) ∧
  (off ≠ 0 → ∃ s i, src = some s ∧ (⟨pos, 4, i⟩ : Link) ∈ ls ∧ pk[i]? = some ⟨f s, []⟩)

theorem optLeaf_field {off : Nat} {src : Option (List Nat)} {f : List Nat → List Nat} {pos : Nat}
    {packed : List Obj} {lsIn : List Link} {pk : List Obj} {ls : List Link} (links : List Link)
    (h : optLeaf (off != 0) src f pos packed lsIn = .ok (pk, ls))
    (hin : ∀ l ∈ lsIn, l ∉ links → l.pos ≠ pos) :
    (∃ extra, pk = packed ++ extra) ∧ (∀ l ∈ lsIn, l ∈ ls) ∧ (∀ l ∈ ls, l ∉ lsIn → l.pos = pos) ∧
    Field pos off src f links pk ls := by
  rcases optLeaf_cases _ _ _ _ _ _ _ _ h with ⟨hoff, rfl, rfl⟩ | ⟨hoff, s, i, extra, hs, hpk, _, rfl, hget⟩
  · refine ⟨⟨[], by simp⟩, fun _ h => h, fun l hl hn => absurd hl hn, fun _ => hin, fun hne => ?_⟩
    simp [hne] at hoff
  · refine ⟨⟨extra, hpk⟩, fun l hl => List.mem_append_left _ hl, fun l hl hn => ?_, fun h0 => ?_,
      fun _ => ⟨s, i, hs, by simp, hget⟩⟩
    · rcases List.mem_append.mp hl with hl | hl
      · exact absurd hl hn
      · cases List.mem_singleton.mp hl; rfl
    · simp [h0] at hoff

theorem field_mono {pos off : Nat} {src : Option (List Nat)} {f : List Nat → List Nat} {links : List Link}
    {pk pk' : List Obj} {ls ls' : List Link} (hF : Field pos off src f links pk ls)
    (hpk : ∃ extra, pk' = pk ++ extra) (hsub : ∀ l ∈ ls, l ∈ ls') (hnew : ∀ l ∈ ls', l ∉ ls → l.pos ≠ pos) :
    Field pos off src f links pk' ls' := by
  obtain ⟨extra, rfl⟩ := hpk
  refine ⟨fun h0 l hl hn => ?_, fun hne => ?_⟩
  · by_cases hl' : l ∈ ls
    · exact hF.1 h0 l hl' hn
    · exact hnew l hl hl'
  · obtain ⟨s, i, hs, hl, hg⟩ := hF.2 hne
    exact ⟨s, i, hs, hsub _ hl, by rw [List.getElem?_append_left (List.getElem?_eq_some_iff.mp hg).1]; exact hg⟩

structure V1Leaves (b : List Nat) (h : Header) (palettes : List (Nat × Nat)) (typesPos : Nat)
    (links : List Link) (pk : List Obj) (ls : List Link) : Prop where
  types : ∀ p off, h.v1Pos = some p → rd32 b p = some off →
    (off = 0 → ∀ l ∈ ls, l ∉ links → l.pos ≠ typesPos) ∧
    (off ≠ 0 → ∃ s i, slice b off (4 * h.numPalettes) = some s ∧ (⟨typesPos, 4, i⟩ : Link) ∈ ls ∧ pk[i]? = some ⟨s, []⟩)
  labels : ∀ p off, h.v1Pos = some p → rd32 b (p + 4) = some off →
    (off = 0 → ∀ l ∈ ls, l ∉ links → l.pos ≠ typesPos + 4) ∧
    (off ≠ 0 → ∃ s i, slice b off (2 * h.numPalettes) = some s ∧ (⟨typesPos + 4, 4, i⟩ : Link) ∈ ls ∧ pk[i]? = some ⟨s, []⟩)
  entryLabels : ∀ p off, h.v1Pos = some p → rd32 b (p + 8) = some off →
    (off = 0 → ∀ l ∈ ls, l ∉ links → l.pos ≠ typesPos + 8) ∧
    (off ≠ 0 → ∃ s i, slice b off (2 * h.numEntries) = some s ∧ (⟨typesPos + 8, 4, i⟩ : Link) ∈ ls ∧
      pk[i]? = some ⟨keptLabels h.numEntries palettes s, []⟩)

theorem subsetV1_leaves (b : List Nat) (h : Header) (palettes : List (Nat × Nat)) (typesPos : Nat)
    (packed : List Obj) (links : List Link) (pk : List Obj) (ls : List Link)
    (hok : subsetV1 b h palettes typesPos packed links = .ok (pk, ls)) :
    V1Leaves b h palettes typesPos links pk ls := by
  obtain ⟨p, typesOff, labelsOff, entryLabelsOff, pk1, ls1, pk2, ls2, hp, h1, h2, h3, hs1, hs2, hok⟩ :=
    subsetV1_steps _ _ _ _ _ _ _ _ hok
  obtain ⟨x1, s1, n1, f1⟩ := optLeaf_field links hs1 (fun l hl hn => absurd hl hn)
  obtain ⟨x2, s2, n2, f2⟩ := optLeaf_field links hs2 (fun l hl hn => by rw [n1 l hl hn]; omega)
  obtain ⟨x3, s3, n3, f3⟩ := optLeaf_field links hok (fun l hl hn => by
    by_cases hl1 : l ∈ ls1
    · rw [n1 l hl1 hn]; omega
    · rw [n2 l hl hl1]; omega)
  refine ⟨?_, ?_, ?_⟩
  · intro p' off hp' hoff
    cases hp.symm.trans hp'
    cases h1.symm.trans hoff
    exact field_mono (field_mono f1 x2 s2 (fun l hl hn => by rw [n2 l hl hn]; omega)) x3 s3
      (fun l hl hn => by rw [n3 l hl hn]; omega)
  · intro p' off hp' hoff
    cases hp.symm.trans hp'
    cases h2.symm.trans hoff
    exact field_mono f2 x3 s3 (fun l hl hn => by rw [n3 l hl hn]; omega)
  · intro p' off hp' hoff
    cases hp.symm.trans hp'
    cases h3.symm.trans hoff
    exact f3

structure Shape (b : List Nat) (palettes : List (Nat × Nat)) (packed : List Obj) (root : Obj) where
  hd : Header
  records : List Nat
  map : List (Nat × Nat)
  recBytes : List Nat
  more : List Obj
  ext : List Nat
  ls : List Link
  hhd : readHeader b = some hd
  hoff : hd.recordsOffset ≠ 0
  hrec : slice b hd.recordsOffset (4 * hd.numColorRecords) = some records
  hgo : recordsGo records (retainedOf palettes) hd.indices [] 0 [] = .ok (map, recBytes)
  hfit : map.length * ((retainedOf palettes).length % 65536) < 65536
  hpacked : packed = ⟨recBytes, []⟩ :: more
  hmore : ∀ o ∈ more, o.links = []
  hbytes : root.bytes = v0Bytes hd.version ((retainedOf palettes).length % 65536) hd.numPalettes
      (map.length * ((retainedOf palettes).length % 65536))
      (hd.indices.map fun f => (map.lookup f).getD 0) ++ ext
  hext1 : hd.version = 1 → ext = List.replicate 12 0
  hlinks : root.links = ⟨8, 4, 0⟩ :: ls
  /-- the links of version 1 lie behind the version 0 part -/
  hls : ∀ l ∈ ls, (v0Bytes hd.version ((retainedOf palettes).length % 65536) hd.numPalettes
      (map.length * ((retainedOf palettes).length % 65536))
      (hd.indices.map fun f => (map.lookup f).getD 0)).length ≤ l.pos ∧ l.pos + l.width ≤ root.bytes.length
  hv1 : hd.version = 1 → V1Leaves b hd palettes (v0Bytes hd.version ((retainedOf palettes).length % 65536) hd.numPalettes
      (map.length * ((retainedOf palettes).length % 65536))
      (hd.indices.map fun f => (map.lookup f).getD 0)).length [⟨8, 4, 0⟩] packed root.links

theorem cpalObjects_shape (b : List Nat) (palettes : List (Nat × Nat)) (packed : List Obj) (root : Obj)
    (h : cpalObjects b palettes = .ok (packed, root)) : Nonempty (Shape b palettes packed root) := by
  unfold cpalObjects at h
  cases hhd : readHeader b with
  | none => rw [hhd] at h; cases h
  | some hd =>
  rw [hhd] at h
  simp only [] at h
  obtain ⟨_, h⟩ := ite_throw_ok h
  obtain ⟨hoff, h⟩ := ite_throw_ok h
  cases hrec : slice b hd.recordsOffset (4 * hd.numColorRecords) with
  | none => rw [hrec] at h; cases h
  | some records =>
  rw [hrec] at h
  obtain ⟨⟨map, recBytes⟩, hgo, h⟩ := Do.bind_ok h
  obtain ⟨⟨pk0, ls0⟩, hpl, h⟩ := Do.bind_ok h
  obtain ⟨hfit, h⟩ := ite_throw_ok h
  simp only [] at h hpl hfit
  obtain ⟨rfl, rfl⟩ := packLeaf_nil hpl
  split at h
  · -- version ≠ 1: no extension
    rename_i hv
    simp only [pure, Except.pure] at h
    cases h
    exact ⟨{ hd, records, map, recBytes, more := [], ext := [], ls := [], hhd, hoff, hrec, hgo,
             hfit := by omega, hpacked := rfl, hmore := by simp,
             hbytes := by simp, hext1 := fun e => absurd e hv,
             hlinks := rfl, hls := by intro l hl; simp at hl, hv1 := fun e => absurd e hv }⟩
  · obtain ⟨⟨pk1, ls1⟩, hs, h⟩ := Do.bind_ok h
    simp only [pure, Except.pure] at h
    cases h
    obtain ⟨extra1, ls', hpk1, hnl1, hls1, hv1l⟩ := subsetV1_spec _ _ _ _ _ _ _ _ hs
    exact ⟨{ hd, records, map, recBytes, more := extra1, ext := List.replicate 12 0, ls := ls', hhd, hoff,
             hrec, hgo, hfit := by omega, hpacked := hpk1, hmore := hnl1,
             hbytes := rfl, hext1 := fun _ => rfl,
             hlinks := hls1,
             hls := fun l hl => by
               rw [List.length_append, List.length_replicate]
               exact hv1l l hl,
             hv1 := fun _ => subsetV1_leaves _ _ _ _ _ _ _ _ hs }⟩

/-- the laid-out table when the packed objects are leaves and the root's first link, at 8, leads to object 0: the root
object's bytes apart from that offset (and from the later links, which lie behind `n`), and object 0 stands where the
offset says -/
theorem layout_root8 {packed more : List Obj} {root o0 : Obj} {out : List Nat} {ls : List Link} {n : Nat}
    (hpacked : packed = o0 :: more) (hnl : ∀ o ∈ packed, o.links = []) (hlinks : root.links = ⟨8, 4, 0⟩ :: ls)
    (hn : 12 ≤ n) (hnr : n ≤ root.bytes.length)
    (hls : ∀ l ∈ ls, n ≤ l.pos ∧ l.pos + l.width ≤ root.bytes.length) (hout : layout packed root = .ok out) :
    root.bytes.length ≤ out.length ∧
    (∀ w p, p + w ≤ 8 → rdN w out p = rdN w root.bytes p) ∧
    (∃ off, root.bytes.length ≤ off ∧ rdN 4 out 8 = some off ∧ slice out off o0.bytes.length = some o0.bytes) ∧
    (∀ w p, 12 ≤ p → p + w ≤ n → rdN w out p = rdN w root.bytes p) := by
  unfold layout at hout
  split at hout
  · cases hout
  rename_i hov
  simp only [pure, Except.pure] at hout
  cases hout
  have hk0 : 0 < packed.length := hpacked ▸ Nat.succ_pos _
  have hp0 : packed[0] = o0 := List.getElem_of_eq hpacked hk0
  have hsmall : rootOff root.bytes.length packed 0 < 256 ^ 4 := by
    simp only [linkOverflow, Bool.or_eq_true, not_or] at hov
    have h1 := hov.1
    rw [hlinks] at h1
    simp only [List.any_cons, Bool.or_eq_true, not_or, decide_eq_true_eq] at h1
    omega
  have h8 : 8 + 4 ≤ root.bytes.length := Nat.le_trans hn hnr
  have hls' : ∀ l ∈ ls, n ≤ l.pos ∧
      l.pos + l.width ≤ (writeBE root.bytes 8 4 (rootOff root.bytes.length packed 0)).length := fun l hl => by
    rw [writeBE_length h8]
    exact hls l hl
  have hpatch : patchRoot packed root =
      ls.foldl (fun b l => writeBE b l.pos l.width (rootOff root.bytes.length packed l.target))
        (writeBE root.bytes 8 4 (rootOff root.bytes.length packed 0)) := by
    unfold patchRoot
    rw [hlinks]
    rfl
  obtain ⟨hlen, hrd⟩ := foldl_writeBE_before (fun l => rootOff root.bytes.length packed l.target) n ls _ hls'
  rw [← hpatch] at hlen hrd
  have hlen' : (patchRoot packed root).length = root.bytes.length := hlen.trans (writeBE_length h8)
  -- reads in front of the later links see the root object with the offset at 8 filled in
  have rdB : ∀ w p, p + w ≤ n →
      rdN w (patchRoot packed root ++ bodyUpTo packed packed.length) p =
        rdN w (writeBE root.bytes 8 4 (rootOff root.bytes.length packed 0)) p :=
    fun w p hp => (rdN_append_left (hlen' ▸ Nat.le_trans hp hnr)).trans (hrd w p hp)
  refine ⟨by rw [List.length_append, hlen']; exact Nat.le_add_right _ _, fun w p hp => ?_, ?_, fun w p hp1 hp2 => ?_⟩
  · rw [rdB w p (by omega)]
    exact rdN_writeBE_before hp (Nat.le_of_add_right_le h8)
  · refine ⟨rootOff root.bytes.length packed 0, Nat.le_add_right _ _, ?_, ?_⟩
    · rw [rdB 4 8 hn]
      exact rdN_writeBE_same h8 hsmall
    · -- object 0 stands at its offset
      have := slice_in_object packed (WF_of_leaves packed hnl) (patchRoot packed root) 0 hk0 o0.bytes.length 0
        (by rw [hp0]; exact Nat.le_of_eq (Nat.zero_add _))
      rw [hlen', Nat.add_zero, hp0, patchObj_nolinks _ _ _ (hnl o0 (hpacked ▸ List.mem_cons_self ..))] at this
      exact this.trans (slice_all _)
  · rw [rdB w p hp2]
    exact rdN_writeBE_after hp1 h8

theorem subsetCpal_objects (b : List Nat) (palettes : List (Nat × Nat)) (out : List Nat)
    (hok : subsetCpal b palettes = .ok out) :
    ∃ packed root, cpalObjects b palettes = .ok (packed, root) ∧ layout packed root = .ok out := by
  unfold subsetCpal at hok
  obtain ⟨⟨packed, root⟩, h1, h2⟩ := Do.bind_ok hok
  exact ⟨packed, root, h1, h2⟩

/-- the version 0 part of the subset table: its header, and its colour records are what the loop over the source's
records wrote -/
theorem subset_header (b out : List Nat) (palettes : List (Nat × Nat)) (hb : ∀ x ∈ b, x < 256)
    (hN : (retainedOf palettes).length < 65536) (hok : subsetCpal b palettes = .ok out)
    (hd : Header) (hhd : readHeader b = some hd) (hv : hd.version ≤ 1) :
    ∃ records map recBytes hd', hd.recordsOffset ≠ 0 ∧
      slice b hd.recordsOffset (4 * hd.numColorRecords) = some records ∧
      RecInv records (retainedOf palettes) map (map.length * (retainedOf palettes).length) recBytes ∧
      (∀ f ∈ hd.indices, (map.lookup f).isSome) ∧ hd.indices.length = hd.numPalettes ∧
      readHeader out = some hd' ∧ hd'.version = hd.version ∧
      hd'.numEntries = (retainedOf palettes).length ∧ hd'.numPalettes = hd.numPalettes ∧
      hd'.numColorRecords = map.length * (retainedOf palettes).length ∧ hd'.numColorRecords < 65536 ∧
      hd'.indices = hd.indices.map (fun f => (map.lookup f).getD 0) ∧
      12 ≤ hd'.recordsOffset ∧ slice out hd'.recordsOffset (4 * hd'.numColorRecords) = some recBytes := by
  obtain ⟨packed, root, hobj, hout⟩ := subsetCpal_objects b palettes out hok
  obtain ⟨hd0, records, map, recBytes, more, ext, ls, hhd0, hoffne, hrec, hgo, hfit, hpacked,
    hmore, hbytes, hext1, hlinks, hls'⟩ := cpalObjects_shape b palettes packed root hobj
  cases hhd0.symm.trans hhd
  obtain ⟨hlen, hlow, ⟨off, hoffge, hoff, hslice⟩, hmidr⟩ := layout_root8 hpacked
    (hpacked ▸ List.forall_mem_cons.mpr ⟨rfl, hmore⟩) hlinks (by rw [v0Bytes_length]; omega)
    (by rw [hbytes, List.length_append]; omega) hls' hout
  rw [v0Bytes_length, List.length_map] at hmidr
  have hmod : (retainedOf palettes).length % 65536 = (retainedOf palettes).length := Nat.mod_eq_of_lt hN
  rw [hmod] at hbytes hfit
  obtain ⟨f0, f4, fl⟩ := readHeader_fields b hd hhd
  have hil : hd.indices.length = hd.numPalettes := rdList16_length b _ _ _ fl
  obtain ⟨inv, hall⟩ := recordsGo_spec records (retainedOf palettes) hN hd.indices [] 0 [] map recBytes
    (recInv_init _ _) hgo
  have hrl : root.bytes.length = 12 + 2 * hd.indices.length + ext.length := by
    rw [hbytes, List.length_append, v0Bytes_length]; simp
  rw [hbytes] at hlow hmidr
  refine ⟨records, map, recBytes, _, hoffne, hrec, inv, fun f hf => hall f (Or.inl hf), hil,
    readHeader_of_v0Bytes (by have := rdN_lt hb f0; omega) hN (by have := rdN_lt hb f4; omega) hfit
      (fun x hx => by
        obtain ⟨f, _, rfl⟩ := List.mem_map.mp hx
        exact map_values_lt _ _ _ _ _ inv f)
      (by rw [List.length_map, hil]) hlow hoff (by rw [List.length_map]; exact hmidr)
      (fun hge => by rw [hrl, hext1 (by omega), List.length_replicate, hil] at hlen; exact hlen),
    rfl, rfl, rfl, rfl, hfit, rfl, by simp only []; omega, inv.len ▸ hslice⟩

theorem color_eq {b records : List Nat} {hd : Header} {p e first : Nat} (hhd : readHeader b = some hd)
    (he : e < hd.numEntries) (hp : hd.indices[p]? = some first) (hoff : hd.recordsOffset ≠ 0)
    (hrec : slice b hd.recordsOffset (4 * hd.numColorRecords) = some records) :
    color b p e = slice records (4 * (first + e)) 4 := by
  unfold color
  rw [hhd]
  simp only []
  rw [if_neg (Nat.not_le.mpr he), hp]
  simp only []
  rw [if_neg hoff, hrec]

/-- entry `j` of the subset (the j-th retained entry `e`) has the colour of entry `e` of the source, in
every palette -/
theorem subset_color (b out : List Nat) (palettes : List (Nat × Nat)) (hb : ∀ x ∈ b, x < 256)
    (hN : (retainedOf palettes).length < 65536)
    (hok : subsetCpal b palettes = .ok out) (hd : Header) (hhd : readHeader b = some hd) (hv : hd.version ≤ 1)
    (p j e : Nat) (hp : p < hd.numPalettes) (hj : (retainedOf palettes)[j]? = some e) (he : e < hd.numEntries) :
    color out p j = color b p e := by
  obtain ⟨records, map, recBytes, hd', hoffne, hrec, inv, hall, hil, hrd, _, hne', _, hnc', hfit, hidx', hoff', hout⟩ :=
    subset_header b out palettes hb hN hok hd hhd hv
  have hjlt : j < (retainedOf palettes).length := (List.getElem?_eq_some_iff.mp hj).1
  have hje : (retainedOf palettes)[j] = e := by
    rw [List.getElem?_eq_getElem hjlt] at hj; cases hj; rfl
  have hplt : p < hd.indices.length := by omega
  obtain ⟨nf, hnf⟩ := Option.isSome_iff_exists.mp (hall _ (List.getElem_mem hplt))
  obtain ⟨k, hk, hnfk, hblock⟩ := inv.blocks _ _ hnf
  have hkN : k * (retainedOf palettes).length < 65536 := by
    have : (k + 1) * (retainedOf palettes).length ≤ map.length * (retainedOf palettes).length :=
      Nat.mul_le_mul_right _ hk
    rw [Nat.succ_mul] at this
    omega
  rw [Nat.mod_eq_of_lt hkN] at hnfk
  have hp' : hd'.indices[p]? = some nf := by
    simp only [hidx', List.getElem?_map, List.getElem?_eq_getElem hplt, Option.map_some, hnf, Option.getD_some]
  rw [color_eq hhd he (List.getElem?_eq_getElem hplt) hoffne hrec, color_eq hrd (by omega) hp' (by omega) hout,
    hnfk, hblock j hjlt, hje]

/-- the pairs `remap_palette_indices` produces for the keys from position `k0` on -/
def remapFrom (k0 : Nat) (keys : List Nat) : List (Nat × Nat) :=
  (keys.zipIdx k0).map fun (x, i) => if x = 0xFFFF then (0xFFFF, 0xFFFF) else (x, i % 65536)

theorem remapPaletteIndices_eq (keys : List Nat) : remapPaletteIndices keys = remapFrom 0 keys := rfl

theorem remapFrom_cons (k0 x : Nat) (xs : List Nat) :
    remapFrom k0 (x :: xs) =
      (if x = 0xFFFF then (0xFFFF, 0xFFFF) else (x, k0 % 65536)) :: remapFrom (k0 + 1) xs := by
  simp [remapFrom, List.zipIdx_cons]

theorem retainedOf_remap (keys : List Nat) :
    retainedOf (remapPaletteIndices keys) = keys.filter (· ≠ 0xFFFF) := by
  unfold retainedOf
  rw [C17ColrPal.remap_keys]

theorem retained_length_lt (keys : List Nat) (hs : keys.Pairwise (· < ·)) (hk : ∀ k ∈ keys, k < 65536) :
    (keys.filter (· ≠ 0xFFFF)).length < 65536 := by
  have h2 : ∀ x ∈ keys.filter (· ≠ 0xFFFF), x < 65535 := by
    intro x hx
    obtain ⟨hm, hne⟩ := List.mem_filter.mp hx
    have := hk x hm
    have hne' : x ≠ 65535 := by simpa using hne
    omega
  have := SubsetLayout.sorted_length_le (hs.sublist List.filter_sublist) 65535 h2
  omega

/-- the new index the plan assigns to a retained entry is its position among the retained entries -/
theorem remap_lookup (e e' : Nat) (hne : e ≠ 0xFFFF) : ∀ (keys : List Nat) (k0 : Nat),
    keys.Pairwise (· < ·) → (∀ k ∈ keys, k0 ≤ k ∧ k < 65536) →
    (remapFrom k0 keys).lookup e = some e' →
    ∃ i, e' = k0 + i ∧ (keys.filter (· ≠ 0xFFFF))[i]? = some e
  | [], k0, _, _, h => by simp [remapFrom] at h
  | x :: xs, k0, hp, hk, h => by
    rw [remapFrom_cons] at h
    have hx := hk x (by simp)
    have hgt : ∀ z ∈ xs, x < z := (List.pairwise_cons.mp hp).1
    by_cases hxf : x = 0xFFFF
    · -- 0xFFFF can only be the last key
      have hxs : xs = [] := by
        cases xs with
        | nil => rfl
        | cons y ys =>
          have h1 := hgt y (by simp)
          have h2 := (hk y (by simp)).2
          omega
      subst hxs
      rw [if_pos hxf] at h
      simp only [remapFrom, List.zipIdx_nil, List.map_nil, List.lookup_cons, List.lookup_nil] at h
      have : (e == 65535) = false := by simpa using hne
      rw [this] at h
      cases h
    · rw [if_neg hxf] at h
      simp only [List.lookup_cons] at h
      by_cases hex : e = x
      · subst hex
        simp only [BEq.rfl] at h
        cases h
        refine ⟨0, by rw [Nat.mod_eq_of_lt (by omega)]; rfl, ?_⟩
        have hf : List.filter (· ≠ 0xFFFF) (e :: xs) = e :: List.filter (· ≠ 0xFFFF) xs := by
          simp [hxf]
        rw [hf]
        rfl
      · have : (e == x) = false := by simpa using hex
        rw [this] at h
        obtain ⟨i, hi, hget⟩ := remap_lookup e e' hne xs (k0 + 1) (List.pairwise_cons.mp hp).2
          (fun z hz => ⟨by have := hgt z hz; omega, (hk z (by simp [hz])).2⟩) h
        refine ⟨i + 1, by omega, ?_⟩
        have hf : List.filter (· ≠ 0xFFFF) (x :: xs) = x :: List.filter (· ≠ 0xFFFF) xs := by
          simp [hxf]
        rw [hf, List.getElem?_cons_succ]
        exact hget

/-- the entries `&[BigEndian<NameId>]::subset` keeps a label for: source entry indices that are keys of `colr_palettes` -/
def keptEntries (numEntries : Nat) (palettes : List (Nat × Nat)) : List Nat :=
  (List.range numEntries).filter fun e => (palettes.lookup e).isSome

end FontVerif.SubsetCpal
