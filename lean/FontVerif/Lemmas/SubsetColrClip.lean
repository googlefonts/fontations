/-
Lemmas for C17 COLR ClipList subsetting (klippa/src/colr.rs `ClipList::subset`, `serialize_clips`; model
`SubsetColr.clipMap` / `clipRuns`): the (new gid → box offset) map is 'last write wins' over the program-order writes,
its keys ascend, the merged runs are sorted / disjoint and answer every glyph id exactly as the map does.
-/
import FontVerif.Model.SubsetColr
import FontVerif.Lemmas.Lists
import FontVerif.Lemmas.SortedMap
namespace FontVerif.SubsetColr

def amLookup (k : Nat) : List (Nat × Nat) → Option Nat
  | [] => none
  | (k', v) :: rest => if k = k' then some v else amLookup k rest

/-- `new_gids_offset_map.insert` is the insertion into a key-sorted list, `amLookup` the list lookup -/
theorem amInsert_eq (k v : Nat) : ∀ m : List (Nat × Nat), amInsert k v m = SMap.insert k v m
  | [] => rfl
  | (k', v') :: rest => by rw [amInsert, SMap.insert_cons, amInsert_eq k v rest]

theorem amLookup_eq (x : Nat) : ∀ m : List (Nat × Nat), amLookup x m = m.lookup x
  | [] => rfl
  | (k, v) :: rest => by rw [amLookup, SMap.lookup_cons, amLookup_eq x rest]

def AscAbove : Nat → List (Nat × Nat) → Prop
  | _, [] => True
  | lb, (k, _) :: rest => lb < k ∧ AscAbove k rest

/-- read-fonts / skrifa `ClipList` lookup of a glyph id in the written Clip records (start, end, box): the record whose
range contains the id (the records are sorted and disjoint, `clipRuns_sorted`, so the binary search finds the
first = only match) -/
def clipLookup (g : Nat) : List (Nat × Nat × Nat) → Option Nat
  | [] => none
  | (s, e, o) :: rest => if s ≤ g ∧ g ≤ e then some o else clipLookup g rest

theorem amLookup_none_of_above : ∀ (m : List (Nat × Nat)) (lb g : Nat), AscAbove lb m → g ≤ lb → amLookup g m = none
  | [], _, _, _, _ => rfl
  | (k, v) :: rest, lb, g, h, hg => by
    obtain ⟨h1, h2⟩ := h
    have : g ≠ k := by omega
    simp only [amLookup, this, if_false]
    exact amLookup_none_of_above rest k g h2 (by omega)

/-- **runs = map**: looking a glyph id up in the merged runs gives what the (new gid → box) map says; the open run
`[start, prev]` carries `off` -/
theorem clipRuns_lookup : ∀ (rest : List (Nat × Nat)) (start prev off g : Nat), start ≤ prev → AscAbove prev rest →
    clipLookup g (clipRuns rest start prev off) =
      if start ≤ g ∧ g ≤ prev then some off else amLookup g rest
  | [], start, prev, off, g, _, _ => by simp [clipRuns, clipLookup, amLookup]
  | (k, o) :: rest, start, prev, off, g, hsp, hasc => by
    obtain ⟨h1, h2⟩ := hasc
    unfold clipRuns
    by_cases hm : k = prev + 1 ∧ o = off
    · obtain ⟨hk, ho⟩ := hm
      subst hk; subst ho
      simp only [and_self, if_true]
      rw [clipRuns_lookup rest start (prev + 1) o g (by omega) h2]
      by_cases hin : start ≤ g ∧ g ≤ prev
      · have : start ≤ g ∧ g ≤ prev + 1 := by omega
        simp [hin, this]
      · by_cases hg : g = prev + 1
        · subst hg
          have : start ≤ prev + 1 ∧ prev + 1 ≤ prev + 1 := by omega
          simp [this, amLookup]
        · have h3 : ¬ (start ≤ g ∧ g ≤ prev + 1) := by omega
          simp only [h3, hin, if_false, amLookup, hg]
    · simp only [hm, if_false, clipLookup]
      by_cases hin : start ≤ g ∧ g ≤ prev
      · simp [hin]
      · simp only [hin, if_false]
        rw [clipRuns_lookup rest k k o g (Nat.le_refl _) h2]
        by_cases hg : g = k
        · subst hg; simp [amLookup]
        · have : ¬ (k ≤ g ∧ g ≤ k) := by omega
          simp only [this, if_false, amLookup, hg]

/-- the written Clip records are well formed: start ≤ end, ascending, disjoint (what the binary search needs) -/
def RunsSorted : Nat → List (Nat × Nat × Nat) → Prop
  | _, [] => True
  | lb, (s, e, _) :: rest => lb ≤ s ∧ s ≤ e ∧ RunsSorted (e + 1) rest

theorem clipRuns_sorted : ∀ (rest : List (Nat × Nat)) (start prev off : Nat), start ≤ prev → AscAbove prev rest →
    RunsSorted start (clipRuns rest start prev off)
  | [], start, prev, off, h, _ => by simp [clipRuns, RunsSorted, h]
  | (k, o) :: rest, start, prev, off, hsp, hasc => by
    obtain ⟨h1, h2⟩ := hasc
    unfold clipRuns
    split
    · rename_i hm
      exact clipRuns_sorted rest start k off (by omega) h2
    · refine ⟨Nat.le_refl _, hsp, ?_⟩
      have := clipRuns_sorted rest k k o (Nat.le_refl _) h2
      cases hr : clipRuns rest k k o with
      | nil => trivial
      | cons r rs =>
        rw [hr] at this
        obtain ⟨s, e, o'⟩ := r
        exact ⟨by have := this.1; omega, this.2.1, this.2.2⟩

/-- adjacent runs never share a box AND touch: merging is maximal -/
def RunsMaximal : List (Nat × Nat × Nat) → Prop
  | [] => True
  | [_] => True
  | (_, e, o) :: (s', e', o') :: rest => ¬ (s' = e + 1 ∧ o' = o) ∧ RunsMaximal ((s', e', o') :: rest)

theorem clipRuns_head : ∀ (rest : List (Nat × Nat)) (start prev off : Nat),
    ∃ e tl, clipRuns rest start prev off = (start, e, off) :: tl ∧ prev ≤ e
  | [], start, prev, off => ⟨prev, [], rfl, Nat.le_refl _⟩
  | (k, o) :: rest, start, prev, off => by
    unfold clipRuns
    split
    · rename_i hm
      obtain ⟨e, tl, h1, h2⟩ := clipRuns_head rest start k off
      exact ⟨e, tl, h1, by omega⟩
    · exact ⟨prev, _, rfl, Nat.le_refl _⟩

/-- the writes of the first loop of `ClipList::subset`, in program order: (new gid as u16, box offset) -/
def clipWrites (p : PlanIn) (clips : List (Nat × Nat × Nat)) : List (Nat × Nat) :=
  match p.colred.head?, p.colred.getLast? with
  | some first, some last =>
    clips.flatMap (fun (c : Nat × Nat × Nat) =>
      if c.2.1 < first ∨ c.1 > last then []
      else (p.colred.filter fun g => c.1 ≤ g ∧ g ≤ c.2.1).filterMap (fun g =>
        (p.glyphMap.lookup g).map (fun ng => (ng % 65536, c.2.2))))
  | _, _ => []

def applyWrites (ws : List (Nat × Nat)) (m : List (Nat × Nat)) : List (Nat × Nat) :=
  ws.foldl (fun m w => amInsert w.1 w.2 m) m

theorem applyWrites_append (a b : List (Nat × Nat)) (m : List (Nat × Nat)) :
    applyWrites (a ++ b) m = applyWrites b (applyWrites a m) := by
  simp [applyWrites, List.foldl_append]

theorem inner_fold_eq (p : PlanIn) (o : Nat) : ∀ (gs : List Nat) (m : List (Nat × Nat)),
    gs.foldl (fun m g => match p.glyphMap.lookup g with | none => m | some ng => amInsert (ng % 65536) o m) m =
    applyWrites (gs.filterMap (fun g => (p.glyphMap.lookup g).map (fun ng => (ng % 65536, o)))) m
  | [], m => rfl
  | g :: gs, m => by
    simp only [List.foldl_cons, List.filterMap_cons]
    cases hl : p.glyphMap.lookup g with
    | none => simp only [Option.map_none]; exact inner_fold_eq p o gs m
    | some ng =>
      simp only [Option.map_some, applyWrites, List.foldl_cons]
      exact inner_fold_eq p o gs _

theorem outer_fold_eq (p : PlanIn) (first last : Nat) : ∀ (clips : List (Nat × Nat × Nat)) (m0 : List (Nat × Nat)),
    clips.foldl (fun m (c : Nat × Nat × Nat) =>
      if c.2.1 < first ∨ c.1 > last then m
      else (p.colred.filter fun g => c.1 ≤ g ∧ g ≤ c.2.1).foldl (fun m g =>
        match p.glyphMap.lookup g with
        | none => m
        | some ng => amInsert (ng % 65536) c.2.2 m) m) m0 =
    applyWrites (clips.flatMap (fun (c : Nat × Nat × Nat) =>
      if c.2.1 < first ∨ c.1 > last then []
      else (p.colred.filter fun g => c.1 ≤ g ∧ g ≤ c.2.1).filterMap (fun g =>
        (p.glyphMap.lookup g).map (fun ng => (ng % 65536, c.2.2))))) m0
  | [], m0 => rfl
  | c :: cs, m0 => by
    simp only [List.foldl_cons, List.flatMap_cons, applyWrites_append]
    rw [outer_fold_eq p first last cs]
    congr 1
    split
    · rfl
    · exact inner_fold_eq p c.2.2 _ m0

theorem clipMap_eq_writes (p : PlanIn) (clips : List (Nat × Nat × Nat)) :
    clipMap p clips = applyWrites (clipWrites p clips) [] := by
  unfold clipMap clipWrites
  cases hh : p.colred.head? with
  | none => rfl
  | some first =>
    cases hl : p.colred.getLast? with
    | none => rfl
    | some last => exact outer_fold_eq p first last clips []

theorem applyWrites_asc : ∀ (ws m : List (Nat × Nat)), SMap.Sorted m → SMap.Sorted (applyWrites ws m)
  | [], m, h => h
  | w :: ws, m, h => by
    simp only [applyWrites, List.foldl_cons]
    exact applyWrites_asc ws _ (amInsert_eq w.1 w.2 m ▸ SMap.insert_sorted w.1 w.2 h)

/-- last write wins -/
theorem applyWrites_lookup (x : Nat) : ∀ (ws m : List (Nat × Nat)),
    amLookup x (applyWrites ws m) = (match amLookup x ws.reverse with | some v => some v | none => amLookup x m)
  | [], m => by simp [applyWrites, amLookup]
  | (k, v) :: ws, m => by
    simp only [applyWrites, List.foldl_cons]
    have ih := applyWrites_lookup x ws (amInsert k v m)
    simp only [applyWrites] at ih
    rw [ih, amLookup_eq x (amInsert _ _ _), amInsert_eq, SMap.lookup_insert, ← amLookup_eq,
      List.reverse_cons, amLookup_eq x (_ ++ _), List.lookup_append, ← amLookup_eq,
      SMap.lookup_cons, List.lookup_nil]
    cases amLookup x ws.reverse with
    | some v => rfl
    | none => by_cases hx : x = k <;> simp [hx]

theorem ascAbove_of_sorted : ∀ (m : List (Nat × Nat)) (k v : Nat), SMap.Sorted ((k, v) :: m) → AscAbove k m
  | [], _, _, _ => trivial
  | (k', v') :: rest, _, _, h =>
    ⟨(List.pairwise_cons.mp h).1 _ (List.mem_cons_self ..), ascAbove_of_sorted rest k' v' (List.pairwise_cons.mp h).2⟩

theorem amLookup_mem (l : List (Nat × Nat)) (x v : Nat) (h : amLookup x l = some v) : (x, v) ∈ l :=
  mem_of_lookup_eq_some (amLookup_eq x l ▸ h)

theorem amLookup_of_mem_unique : ∀ (l : List (Nat × Nat)) (x v : Nat), (x, v) ∈ l →
    (∀ v', (x, v') ∈ l → v' = v) → amLookup x l = some v
  | [], _, _, h, _ => by simp at h
  | (k, w) :: rest, x, v, h, hu => by
    unfold amLookup
    split
    · rename_i hx
      subst hx
      rw [hu w (List.mem_cons_self ..)]
    · rename_i hx
      rcases List.mem_cons.mp h with h' | h'
      · simp only [Prod.mk.injEq] at h'; exact absurd h'.1 hx
      · exact amLookup_of_mem_unique rest x v h' (fun v' hv' => hu v' (List.mem_cons_of_mem _ hv'))

/-- new gid `ng` (as u16) is the image of a kept colour glyph that lies in a source Clip record with box offset `o` -/
def ClipOf (p : PlanIn) (clips : List (Nat × Nat × Nat)) (ng o : Nat) : Prop :=
  ∃ g ∈ p.colred, ∃ n, p.glyphMap.lookup g = some n ∧ n % 65536 = ng ∧
    ∃ c ∈ clips, c.1 ≤ g ∧ g ≤ c.2.1 ∧ c.2.2 = o

theorem mem_clipWrites (p : PlanIn) (clips : List (Nat × Nat × Nat)) (hs : p.colred.Pairwise (· < ·)) (ng o : Nat) :
    (ng, o) ∈ clipWrites p clips ↔ ClipOf p clips ng o := by
  unfold clipWrites ClipOf
  cases hh : p.colred.head? with
  | none => simp [List.head?_eq_none_iff.mp hh]
  | some first =>
    cases hl : p.colred.getLast? with
    | none => rw [List.getLast?_eq_none_iff.mp hl] at hh; cases hh
    | some last =>
      simp only [List.mem_flatMap]
      constructor
      · rintro ⟨c, hc, hmem⟩
        split at hmem
        · simp at hmem
        · simp only [List.mem_filterMap, List.mem_filter, decide_eq_true_eq, Option.map_eq_some_iff, Prod.mk.injEq] at hmem
          obtain ⟨g, ⟨hg, hr1, hr2⟩, n, hn, hng, ho⟩ := hmem
          exact ⟨g, hg, n, hn, hng, c, hc, hr1, hr2, ho⟩
      · rintro ⟨g, hg, n, hn, hng, c, hc, hr1, hr2, ho⟩
        refine ⟨c, hc, ?_⟩
        have h1 := sorted_head_le hs hh g hg
        have h2 := sorted_le_getLast hs hl g hg
        have hskip : ¬ (c.2.1 < first ∨ c.1 > last) := by omega
        simp only [hskip, if_false, List.mem_filterMap, List.mem_filter, decide_eq_true_eq, Option.map_eq_some_iff, Prod.mk.injEq]
        exact ⟨g, ⟨hg, hr1, hr2⟩, n, hn, hng, ho⟩

theorem clipList_lookup (p : PlanIn) (clips : List (Nat × Nat × Nat)) (g0 o0 : Nat) (rest : List (Nat × Nat))
    (hm : clipMap p clips = (g0, o0) :: rest) :
    RunsSorted g0 (clipRuns rest g0 g0 o0) ∧
    ∀ ng, clipLookup ng (clipRuns rest g0 g0 o0) = amLookup ng (clipWrites p clips).reverse := by
  have hasc : SMap.Sorted (clipMap p clips) := by
    rw [clipMap_eq_writes]; exact applyWrites_asc _ [] List.Pairwise.nil
  rw [hm] at hasc
  have ha := ascAbove_of_sorted rest g0 o0 hasc
  refine ⟨clipRuns_sorted rest g0 g0 o0 (Nat.le_refl _) ha, fun ng => ?_⟩
  rw [clipRuns_lookup rest g0 g0 o0 ng (Nat.le_refl _) ha]
  have hl := applyWrites_lookup ng (clipWrites p clips) []
  rw [← clipMap_eq_writes, hm] at hl
  have this : amLookup ng ((g0, o0) :: rest) = if g0 ≤ ng ∧ ng ≤ g0 then some o0 else amLookup ng rest := by
    simp only [amLookup]
    by_cases h : ng = g0
    · subst h; simp
    · have : ¬ (g0 ≤ ng ∧ ng ≤ g0) := by omega
      simp [h, this]
  rw [← this, hl]
  cases amLookup ng (clipWrites p clips).reverse <;> rfl

/-- an insertion never leaves the map empty -/
theorem amInsert_ne_nil (k v : Nat) (m : List (Nat × Nat)) : amInsert k v m ≠ [] := fun e => by
  have := SMap.lookup_insert k v k m
  rw [← amInsert_eq, e, if_pos rfl] at this
  cases this

theorem applyWrites_ne_nil : ∀ (ws m : List (Nat × Nat)), m ≠ [] → applyWrites ws m ≠ []
  | [], _, h => h
  | w :: ws, m, _ => applyWrites_ne_nil ws _ (amInsert_ne_nil w.1 w.2 m)

theorem clipMap_nil_iff (p : PlanIn) (clips : List (Nat × Nat × Nat)) :
    clipMap p clips = [] ↔ clipWrites p clips = [] := by
  rw [clipMap_eq_writes]
  cases clipWrites p clips with
  | nil => exact ⟨fun _ => rfl, fun _ => rfl⟩
  | cons w ws => exact ⟨fun h => absurd h (applyWrites_ne_nil ws _ (amInsert_ne_nil w.1 w.2 [])), nofun⟩

end FontVerif.SubsetColr
