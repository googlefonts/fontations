/- C14 / IntSet helper lemmas: `BitSet::process` (union / intersect / subtract /
reversed subtract) as a page-wise merge. -/
import FontVerif.Lemmas.IntSetBits
namespace FontVerif.IntSet

/-- a page operator that acts bitwise through the Boolean function `f` and keeps 512-bit storage -/
structure BitwiseOp (op : Nat → Nat → Nat) (f : Bool → Bool → Bool) : Prop where
  bit : ∀ a b i, (op a b).testBit i = f (a.testBit i) (b.testBit i)
  ff : f false false = false

theorem BitwiseOp.lt {op f} (h : BitwiseOp op f) {a b : Nat} (ha : a < 2 ^ 512) (hb : b < 2 ^ 512) :
    op a b < 2 ^ 512 := by
  apply Nat.lt_pow_two_of_testBit
  intro i hi
  rw [h.bit]
  have h1 : a.testBit i = false :=
    Nat.testBit_lt_two_pow (Nat.lt_of_lt_of_le ha (Nat.pow_le_pow_right (by omega) hi))
  have h2 : b.testBit i = false :=
    Nat.testBit_lt_two_pow (Nat.lt_of_lt_of_le hb (Nat.pow_le_pow_right (by omega) hi))
  rw [h1, h2, h.ff]

theorem BitwiseOp.passthrough {op f} (h : BitwiseOp op f) :
    passthrough op = (f true false, f false true) := by
  unfold IntSet.passthrough
  rw [h.bit, h.bit]
  simp

theorem bitwise_union : BitwiseOp opUnion (fun a b => a || b) := ⟨testBit_opUnion, rfl⟩
theorem bitwise_intersect : BitwiseOp opIntersect (fun a b => a && b) := ⟨testBit_opIntersect, rfl⟩
theorem bitwise_subtract : BitwiseOp opSubtract (fun a b => a && !b) := ⟨testBit_opSubtract, rfl⟩
theorem bitwise_revSubtract : BitwiseOp opRevSubtract (fun a b => !a && b) :=
  ⟨testBit_opRevSubtract, rfl⟩

/-- the page stored for major `k` after `process` -/
def mergePage (op : Nat → Nat → Nat) (ptl ptr : Bool) : Option Page → Option Page → Option Page
  | some a, some b => some (Page.ofBits (op a.bits b.bits))
  | some a, none => if ptl then some a else none
  | none, some b => if ptr then some b else none
  | none, none => none

/-- the step of `process` on the side whose head key `k0` is the smaller: the head page stays iff
that side is passed through (`c`); `g` merges with what the other side stores at `k`, which at `k0`
is nothing -/
theorem lookup_pass {c : Bool} {k0 k : Nat} {p0 : Page} {A rest : Pages}
    {g : Option Page → Option Page} (hA : Sorted ((k0, p0) :: A))
    (hg : k0 = k → g (some p0) = (if c then some p0 else none) ∧ g none = none)
    (hrest : lookup rest k = g (lookup A k)) :
    lookup (if c then (k0, p0) :: rest else rest) k = g (lookup ((k0, p0) :: A) k) := by
  by_cases hk : k0 = k
  · subst hk
    obtain ⟨h1, h2⟩ := hg rfl
    rw [lookup_tail_self hA, h2] at hrest
    rw [lookup_cons, if_pos rfl, h1]
    cases c
    · exact hrest
    · exact (lookup_cons ..).trans (if_pos rfl)
  · rw [lookup_cons, if_neg hk, ← hrest]
    cases c
    · rfl
    · exact (lookup_cons ..).trans (if_neg hk)

theorem lookup_processPages (op : Nat → Nat → Nat) (ptl ptr : Bool) (as bs : Pages)
    (ha : Sorted as) (hb : Sorted bs) (k : Nat) :
    lookup (processPages op ptl ptr as bs) k = mergePage op ptl ptr (lookup as k) (lookup bs k) := by
  fun_induction processPages op ptl ptr as bs with
  | case1 bs hptr => cases h : lookup bs k <;> simp [mergePage, lookup, hptr]
  | case2 bs hptr => cases h : lookup bs k <;> simp [mergePage, lookup, hptr]
  | case3 a as hptl => cases h : lookup (a :: as) k <;> simp [mergePage, lookup, hptl]
  | case4 a as hptl => cases h : lookup (a :: as) k <;> simp [mergePage, lookup, hptl]
  | case5 pa as kb pb bs ih =>
    simp only [lookup]
    by_cases hk : kb = k
    · simp [hk, mergePage]
    · rw [if_neg hk, if_neg hk, if_neg hk]
      exact ih (sorted_cons.1 ha).2 (sorted_cons.1 hb).2
  | case6 ka pa as kb pb bs hne hlt rest hptl ih | case7 ka pa as kb pb bs hne hlt rest hptl ih =>
    simpa only [hptl, Bool.false_eq_true, ↓reduceIte] using lookup_pass (c := ptl) (rest := rest)
      (g := fun a => mergePage op ptl ptr a (lookup ((kb, pb) :: bs) k)) ha
      (fun hk => by rw [← hk, lookup_cons_lt hb hlt]; exact ⟨rfl, rfl⟩) (ih (sorted_cons.1 ha).2 hb)
  | case8 ka pa as kb pb bs hne hlt rest hptr ih | case9 ka pa as kb pb bs hne hlt rest hptr ih =>
    simpa only [hptr, Bool.false_eq_true, ↓reduceIte] using lookup_pass (c := ptr) (rest := rest)
      (g := fun b => mergePage op ptl ptr (lookup ((ka, pa) :: as) k) b) hb
      (fun hk => by rw [← hk, lookup_cons_lt ha (by omega)]; exact ⟨rfl, rfl⟩)
      (ih ha (sorted_cons.1 hb).2)

/-- a major below every key of both operands is stored on neither side, hence not in the result -/
theorem processPages_key_gt (op : Nat → Nat → Nat) (ptl ptr : Bool) (as bs : Pages) (k0 : Nat)
    (hsa : Sorted as) (hsb : Sorted bs) (ha : ∀ q ∈ as, k0 < q.1) (hb : ∀ q ∈ bs, k0 < q.1) :
    ∀ q ∈ processPages op ptl ptr as bs, k0 < q.1 := by
  intro q hq
  apply Nat.lt_of_not_le
  intro hle
  apply lookup_ne_none_of_mem hq
  rw [lookup_processPages op ptl ptr as bs hsa hsb,
    lookup_none_of_lt (fun p hp => Nat.lt_of_le_of_lt hle (ha p hp)),
    lookup_none_of_lt (fun p hp => Nat.lt_of_le_of_lt hle (hb p hp))]
  rfl

theorem processPages_inv {op f} (hop : BitwiseOp op f) (ptl ptr : Bool) (as bs : Pages)
    (ha : PagesInv as) (hb : PagesInv bs) : PagesInv (processPages op ptl ptr as bs) := by
  fun_induction processPages op ptl ptr as bs with
  | case1 bs hptr => exact hb
  | case2 bs hptr => exact pagesInv_nil
  | case3 a as hptl => exact ha
  | case4 a as hptl => exact pagesInv_nil
  | case5 pa as kb pb bs ih =>
    rw [pagesInv_cons] at ha hb ⊢
    refine ⟨processPages_key_gt _ _ _ _ _ _ ha.2.2.1 hb.2.2.1 ha.1 hb.1, ?_, ih ha.2.2 hb.2.2⟩
    exact pageOk_ofBits (hop.lt ha.2.1.1 hb.2.1.1)
  | case6 ka pa as kb pb bs hne hlt rest hptl ih =>
    have ha' := pagesInv_cons.1 ha
    exact pagesInv_cons.2 ⟨processPages_key_gt _ _ _ _ _ _ ha'.2.2.1 hb.1 ha'.1 (List.forall_mem_cons.2
      ⟨hlt, fun q hq => Nat.lt_trans hlt ((pagesInv_cons.1 hb).1 q hq)⟩), ha'.2.1, ih ha'.2.2 hb⟩
  | case7 ka pa as kb pb bs hne hlt rest hptl ih =>
    exact ih (pagesInv_cons.1 ha).2.2 hb
  | case8 ka pa as kb pb bs hne hlt rest hptr ih =>
    have hb' := pagesInv_cons.1 hb
    have hlt' : kb < ka := Nat.lt_of_le_of_ne (Nat.le_of_not_lt hlt) (Ne.symm hne)
    exact pagesInv_cons.2 ⟨processPages_key_gt _ _ _ _ _ _ ha.1 hb'.2.2.1 (List.forall_mem_cons.2
      ⟨hlt', fun q hq => Nat.lt_trans hlt' ((pagesInv_cons.1 ha).1 q hq)⟩) hb'.1, hb'.2.1,
      ih ha hb'.2.2⟩
  | case9 ka pa as kb pb bs hne hlt rest hptr ih =>
    exact ih ha (pagesInv_cons.1 hb).2.2

theorem BitSet.process_inv {op f} (hop : BitwiseOp op f) (s o : BitSet) (hs : BInv s) (ho : BInv o) :
    BInv (BitSet.process op s o) :=
  ⟨processPages_inv hop _ _ _ _ hs.1 ho.1, rfl⟩

theorem BitSet.process_contains {op f} (hop : BitwiseOp op f) (s o : BitSet) (hs : BInv s)
    (ho : BInv o) (x : Nat) :
    (BitSet.process op s o).contains x = f (s.contains x) (o.contains x) := by
  unfold BitSet.process
  simp only [BitSet.contains_eq, containsP]
  rw [lookup_processPages _ _ _ _ _ hs.1.1 ho.1.1, hop.passthrough]
  have hff := hop.ff
  cases h1 : lookup s.pages (majorOf x) <;> cases h2 : lookup o.pages (majorOf x) <;>
    simp only [mergePage]
  · exact hff.symm
  · rename_i b
    cases hb : pageContains b x <;> cases f false true <;> simp [hff, hb]
  · rename_i a
    cases ha : pageContains a x <;> cases f true false <;> simp [hff, ha]
  · rename_i a b
    simp only [pageContains, Page.ofBits, hop.bit]

end FontVerif.IntSet
