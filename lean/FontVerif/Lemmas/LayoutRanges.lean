/-
Helper lemmas for C16: the ClassDef table the builder emits is never larger than 4 + 6 per range, and a
class definition has at most as many ranges as its classes have runs of consecutive glyphs (the bound
behind `ClassDefSizeEstimator::increment_class_def_size`).
-/
import FontVerif.Model.LayoutLookup
import FontVerif.Lemmas.LayoutSplit
namespace FontVerif.Layout

theorem sum_two_len {α : Type} (f : α → List Nat) : ∀ (l : List α),
    (l.map (fun c => 2 * (f c).length)).sum = 2 * (l.flatMap f).length := by
  intro l
  induction l with
  | nil => rfl
  | cons a l ih =>
    simp only [List.map_cons, List.sum_cons, List.flatMap_cons, List.length_append, ih]
    omega

/-- `ClassDefBuilderImpl::build` emits format 1 only when it is smaller than format 2: never more
than 4 + 6·(number of class ranges) -/
theorem buildClassDefItems_byteSize_le (items : List (Nat × Nat)) :
    (buildClassDefItems items).byteSize ≤ 4 + 6 * (iterClassRanges items).length := by
  unfold buildClassDefItems
  split
  · rename_i h
    unfold preferFormat1 at h
    split at h
    · rename_i f l hf hl
      simp only [decide_eq_true_eq] at h
      simp only [ClassDef.byteSize, List.length_map, List.length_range']
      omega
    · cases h
  · simp [ClassDef.byteSize]

/-- the acceptance test of the split loops adds up everything but the largest of three tables: that sum
grows with each table -/
theorem sum_sub_max_mono (a x y z x' y' : Nat) (hx : x ≤ x') (hy : y ≤ y') :
    a + x + y + z - max (max x y) z ≤ a + x' + y' + z - max (max x' y') z := by
  omega

/-- the glyphs of class `k` in an item list, in list order -/
def keysOf (k : Nat) (l : List (Nat × Nat)) : List Nat := (l.filter (fun p => p.2 == k)).map (·.1)

theorem keysOf_cons (k : Nat) (p : Nat × Nat) (l : List (Nat × Nat)) :
    keysOf k (p :: l) = if p.2 = k then p.1 :: keysOf k l else keysOf k l := by
  unfold keysOf
  by_cases h : p.2 = k
  · simp [h]
  · simp [h]

theorem countRanges_cons (e : Nat) (l : List Nat) :
    countRanges (e :: l) = countRanges l + if l.head? = some (e + 1) then 0 else 1 := by
  cases l with
  | nil => rfl
  | cons x xs =>
    simp only [countRanges, countRangesGo, beq_iff_eq, List.head?_cons, Option.some.injEq]
    omega

theorem sum_add_indicator (F : Nat → Nat) (a : Nat) : ∀ (K : List Nat), a ∈ K →
    (K.map F).sum + 1 ≤ (K.map (fun k => F k + if k = a then 1 else 0)).sum := by
  intro K
  induction K with
  | nil => intro h; cases h
  | cons x xs ih =>
    intro h
    simp only [List.map_cons, List.sum_cons]
    by_cases hx : x = a
    · have : (xs.map F).sum ≤ (xs.map (fun k => F k + if k = a then 1 else 0)).sum := by
        clear ih h
        induction xs with
        | nil => exact Nat.le_refl _
        | cons y ys ih2 => simp only [List.map_cons, List.sum_cons]; omega
      simp only [hx, ↓reduceIte]; omega
    · have h' : a ∈ xs := by
        rcases List.mem_cons.mp h with e | e
        · exact absurd e.symm hx
        · exact e
      have := ih h'
      simp only [hx, ↓reduceIte]; omega

theorem keysOf_gt (k e : Nat) (l : List (Nat × Nat)) (h : ∀ p ∈ l, e < p.1) : ∀ x ∈ keysOf k l, e < x := by
  intro x hx
  unfold keysOf at hx
  obtain ⟨p, hp, rfl⟩ := List.mem_map.mp hx
  exact h p (List.mem_filter.mp hp).1

/-- in a list sorted by glyph and beyond `e`, glyph `e + 1` can only be the first item -/
theorem keysOf_head_succ (k e : Nat) (l : List (Nat × Nat)) (hs : (e :: l.map (·.1)).Pairwise (· < ·)) :
    (keysOf k l).head? = some (e + 1) ↔ l.head? = some (e + 1, k) := by
  cases l with
  | nil => simp [keysOf]
  | cons p rest =>
    obtain ⟨g, cl⟩ := p
    simp only [List.map_cons, List.pairwise_cons] at hs
    have hge : e < g := hs.1 g (List.mem_cons_self ..)
    rw [keysOf_cons]
    by_cases hcl : cl = k
    · simp [hcl]
    · simp only [hcl, ↓reduceIte, List.head?_cons, Option.some.injEq, Prod.mk.injEq, and_false, iff_false]
      intro h
      have := keysOf_gt k g rest (fun p hp => hs.2.1 p.1 (List.mem_map.mpr ⟨p, hp, rfl⟩)) _ (List.mem_of_head? h)
      omega

/-- what one more item `(e, c)` in front of a list sorted by glyph does to the runs of class `k`: it starts a run
of its own class unless the list goes on with `(e + 1, c)` -/
theorem countRanges_keysOf_cons (k e c : Nat) (l : List (Nat × Nat))
    (hs : (e :: l.map (·.1)).Pairwise (· < ·)) :
    countRanges (keysOf k ((e, c) :: l)) =
      countRanges (keysOf k l) + if k = c ∧ l.head? ≠ some (e + 1, c) then 1 else 0 := by
  rw [keysOf_cons]
  by_cases hk : c = k
  · subst hk
    rw [if_pos rfl, countRanges_cons]
    simp only [keysOf_head_succ c e l hs]
    by_cases hh : l.head? = some (e + 1, c) <;> simp [hh]
  · have : ¬ k = c := fun h => hk h.symm
    simp only [this, ↓reduceIte, hk, false_and, Nat.add_zero]

theorem runs_cons (K : List Nat) (e c : Nat) (l : List (Nat × Nat)) (hc : c ∈ K)
    (hs : (e :: l.map (·.1)).Pairwise (· < ·)) :
    (K.map (fun k => countRanges (keysOf k l))).sum + (if l.head? = some (e + 1, c) then 0 else 1) ≤
      (K.map (fun k => countRanges (keysOf k ((e, c) :: l)))).sum := by
  rw [List.map_congr_left fun k _ => countRanges_keysOf_cons k e c l hs]
  by_cases hh : l.head? = some (e + 1, c)
  · simp [hh]
  · have := sum_add_indicator (fun k => countRanges (keysOf k l)) c K hc
    simpa [hh] using this

theorem classRangesGo_le (K : List Nat) : ∀ (rest : List (Nat × Nat)) (s e c : Nat),
    (e :: rest.map (·.1)).Pairwise (· < ·) → c ∈ K → (∀ p ∈ rest, p.2 ∈ K) →
    (classRangesGo s e c rest).length ≤ (K.map (fun k => countRanges (keysOf k ((e, c) :: rest)))).sum := by
  intro rest
  induction rest with
  | nil =>
    intro s e c hs hc _
    have := runs_cons K e c [] hc hs
    simp only [List.head?_nil, reduceCtorEq, ↓reduceIte] at this
    exact Nat.le_trans (Nat.le_add_left 1 _) this
  | cons p rest ih =>
    intro s e c hs hc hK
    obtain ⟨g, cl⟩ := p
    have hs' : (g :: rest.map (·.1)).Pairwise (· < ·) := (List.pairwise_cons.mp hs).2
    have hcl : cl ∈ K := hK (g, cl) (List.mem_cons_self ..)
    have hK' : ∀ p ∈ rest, p.2 ∈ K := fun p hp => hK p (List.mem_cons_of_mem _ hp)
    have hrun := runs_cons K e c ((g, cl) :: rest) hc hs
    simp only [classRangesGo]
    by_cases hcont : (areSequential e g && c == cl) = true
    · -- the range continues
      rw [if_pos hcont]
      have hc' : c = cl := by simp only [Bool.and_eq_true, beq_iff_eq] at hcont; exact hcont.2
      subst hc'
      have := ih s g c hs' hc hK'
      omega
    · -- a new range starts with `(g, cl)`
      rw [if_neg hcont, List.length_cons]
      have hh : ¬ (((g, cl) :: rest).head? = some (e + 1, c)) := by
        intro h
        simp only [List.head?_cons, Option.some.injEq, Prod.mk.injEq] at h
        exact hcont (by simp [areSequential, h.1, h.2])
      have := ih g g cl hs' hcl hK'
      rw [if_neg hh] at hrun
      omega

/-- **a class definition has at most as many ranges as its classes have runs.** -/
theorem iterClassRanges_le (K : List Nat) (items : List (Nat × Nat))
    (hs : (items.map (·.1)).Pairwise (· < ·)) (hK : ∀ p ∈ items, p.2 ∈ K) :
    (iterClassRanges items).length ≤ (K.map (fun k => countRanges (keysOf k items))).sum := by
  cases items with
  | nil => simp [iterClassRanges]
  | cons p rest =>
    exact classRangesGo_le K rest p.1 p.1 p.2 hs (hK p (List.mem_cons_self ..))
      (fun q hq => hK q (List.mem_cons_of_mem _ hq))

/-- the glyphs of new class `k ≠ 0` in the piece's class definition are the glyphs the estimator
keeps for the original class `s + k` -/
theorem keysOf_collectItems_piece (cov : Coverage) (cd : ClassDef) (s t k : Nat) (hk : k ≠ 0)
    (hkt : s + k < t) :
    keysOf k (collectItems (pieceClassMap cov cd s t)) = (⟨gcOf cov cd⟩ : Ppf2Est).glyphsOf (s + k) := by
  refine sorted_ext ?_ (sortDedup_pairwise _) fun x => ?_
  · rw [keysOf, List.pairwise_map]
    exact ((collectItems_sorted _).filter _).imp (fun h => h)
  · have hl : x ∈ keysOf k (collectItems (pieceClassMap cov cd s t)) ↔
        (x, k) ∈ collectItems (pieceClassMap cov cd s t) := by
      simp only [keysOf, List.mem_map, List.mem_filter, beq_iff_eq]
      exact ⟨fun ⟨p, ⟨hp, hpk⟩, hpx⟩ => by rw [← hpx, ← hpk]; exact hp, fun h => ⟨_, ⟨h, rfl⟩, rfl⟩⟩
    have hr : x ∈ (⟨gcOf cov cd⟩ : Ppf2Est).glyphsOf (s + k) ↔ x ∈ cov.glyphs ∧ cd.get x = s + k := by
      simp only [Ppf2Est.glyphsOf, mem_sortDedup, gcOf, List.mem_map, List.mem_filter, beq_iff_eq]
      exact ⟨fun ⟨p, ⟨⟨g, hg, hgp⟩, hpk⟩, hpx⟩ => by subst hgp; subst hpx; exact ⟨hg, hpk⟩,
        fun h => ⟨(x, cd.get x), ⟨⟨x, h.1, rfl⟩, h.2⟩, rfl⟩⟩
    -- an entry of the collected map is the closed-form class of the piece's class map
    rw [hl, hr, mem_collectItems, assignedClass_pieceClassMap]
    by_cases h : x ∈ cov.glyphs ∧ s ≤ cd.get x ∧ cd.get x < t
    · rw [if_pos h]; exact ⟨fun h' => ⟨h.1, by omega⟩, fun h' => ⟨hk, by omega⟩⟩
    · rw [if_neg h]; exact ⟨fun h' => absurd h'.2.symm hk, fun h' => absurd ⟨h'.1, by omega, by omega⟩ h⟩

/-- **the class-definition estimate is sound**: the class definition 1 `split_off_ppf2` builds for
the piece `s..t` has at most as many ranges as the estimator's per-class run counts add up to -/
theorem ppf2_cd1_ranges_le (cov : Coverage) (cd : ClassDef) (s t : Nat) :
    4 + 6 * (iterClassRanges (collectItems (pieceClassMap cov cd s t))).length ≤
      ppf2Cd1Estimate ⟨gcOf cov cd⟩ s t := by
  have hsorted := collectItems_sorted (pieceClassMap cov cd s t)
  have hitem : ∀ p ∈ collectItems (pieceClassMap cov cd s t), p.2 ≠ 0 ∧ p.2 < t - s := by
    intro p hp
    obtain ⟨hnz, hc⟩ := (mem_collectItems _ p.1 p.2).mp hp
    rw [assignedClass_pieceClassMap] at hc
    refine ⟨hnz, ?_⟩
    by_cases h : p.1 ∈ cov.glyphs ∧ s ≤ cd.get p.1 ∧ cd.get p.1 < t
    · rw [if_pos h] at hc; omega
    · rw [if_neg h] at hc; exact absurd hc.symm hnz
  have hle := iterClassRanges_le (List.range (t - s)) (collectItems (pieceClassMap cov cd s t))
    (by
      have : (collectItems (pieceClassMap cov cd s t)).Pairwise (fun a b => a.1 < b.1) := hsorted
      rw [List.pairwise_map]; exact this)
    (fun p hp => List.mem_range.mpr (hitem p hp).2)
  unfold ppf2Cd1Estimate
  rw [List.range'_eq_map_range, List.map_map]
  have hsum := sum_map_le (f := fun k => 6 * countRanges (keysOf k (collectItems (pieceClassMap cov cd s t))))
    (g := (⟨gcOf cov cd⟩ : Ppf2Est).incClassDef ∘ fun x => s + x) (List.range (t - s)) (by
      intro k hk
      have hkt : k < t - s := List.mem_range.mp hk
      simp only [Function.comp]
      unfold Ppf2Est.incClassDef
      by_cases hk0 : k = 0
      · subst hk0
        have : keysOf 0 (collectItems (pieceClassMap cov cd s t)) = [] := by
          unfold keysOf
          rw [List.map_eq_nil_iff, List.filter_eq_nil_iff]
          intro p hp
          have := (hitem p hp).1
          simpa using this
        rw [this]; simp [countRanges]
      · have hne : ¬ s + k = 0 := by omega
        rw [if_neg hne, keysOf_collectItems_piece cov cd s t k hk0 (by omega)]
        exact Nat.le_refl _)
  rw [sum_map_mul_left] at hsum
  omega

end FontVerif.Layout
