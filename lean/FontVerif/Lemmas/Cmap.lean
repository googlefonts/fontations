/-
C08: the range search shared by `Cmap4::map_codepoint` and `Cmap12::map_codepoint` (`segSearch_found` / `_none` over
`RangesSorted`); format 12 — what a list of groups stands for, the reader on well-formed groups, `create_format_12`;
and the domain of the property (`Ascending`, `InDomain`).
-/
import FontVerif.Model.Cmap
import FontVerif.Lemmas.Lists
namespace FontVerif.Cmap

/-- ascending, pairwise disjoint inclusive ranges `[s i, e i]`, `i < n` -/
structure RangesSorted (s e : Nat → Nat) (n : Nat) : Prop where
  le : ∀ i, i < n → s i ≤ e i
  lt : ∀ i j, i < j → j < n → e i < s j

theorem RangesSorted.unique {s e : Nat → Nat} {n : Nat} (H : RangesSorted s e n) {i j c : Nat}
    (hi : i < n) (hj : j < n) (hi1 : s i ≤ c) (hi2 : c ≤ e i) (hj1 : s j ≤ c) (hj2 : c ≤ e j) :
    i = j := by
  rcases Nat.lt_trichotomy i j with h | h | h
  · have := H.lt i j h hj; omega
  · exact h
  · have := H.lt j i h hi; omega

theorem RangesSorted.above {s e : Nat → Nat} {n : Nat} (H : RangesSorted s e n) {m i c : Nat}
    (hc : c < s m) (hmi : m ≤ i) (hi : i < n) : c < s i := by
  rcases Nat.eq_or_lt_of_le hmi with rfl | h
  · exact hc
  · have := H.lt m i h hi
    have := H.le m (by omega)
    omega

theorem RangesSorted.below {s e : Nat → Nat} {n : Nat} (H : RangesSorted s e n) {m i c : Nat}
    (hc : e m < c) (him : i ≤ m) (hm : m < n) : e i < c := by
  rcases Nat.eq_or_lt_of_le him with rfl | h
  · exact hc
  · have := H.lt i m h hm
    have := H.le m hm
    omega

/-- the search on the window `[lo, hi)`; the halves it drops hold no range with `c` because the ranges ascend -/
theorem segSearch_spec (startAt endAt : Nat → Option Nat) (s e : Nat → Nat) (n c : Nat)
    (hs : ∀ i, i < n → startAt i = some (s i)) (he : ∀ i, i < n → endAt i = some (e i))
    (H : RangesSorted s e n) :
    ∀ fuel lo hi, hi ≤ n → hi - lo < fuel →
      match segSearch startAt endAt c fuel lo hi with
      | some i => i < hi ∧ s i ≤ c ∧ c ≤ e i
      | none => ∀ i, lo ≤ i → i < hi → ¬ (s i ≤ c ∧ c ≤ e i) := by
  intro fuel
  induction fuel with
  | zero => intro lo hi _ h; omega
  | succ f ih =>
    intro lo hi hhn hf
    unfold segSearch
    by_cases hlt : lo < hi
    · have hm : lo ≤ (lo + hi) / 2 ∧ (lo + hi) / 2 < hi := by omega
      have hmn : (lo + hi) / 2 < n := by omega
      simp only [hlt, if_true, hs _ hmn, he _ hmn]
      -- only `lo ≤ m < hi` matters of the midpoint
      generalize (lo + hi) / 2 = m at *
      by_cases h1 : c < s m
      · simp only [h1, if_true]
        have := ih lo m (by omega) (by omega)
        generalize segSearch startAt endAt c f lo m = r at this ⊢
        cases r with
        | some i => exact ⟨by omega, this.2⟩
        | none =>
          intro i hi1 hi2 hc
          rcases Nat.lt_or_ge i m with h | h
          · exact this i hi1 h hc
          · have := H.above h1 h (by omega); omega
      · simp only [h1, if_false]
        by_cases h2 : c > e m
        · simp only [h2, if_true]
          have := ih (m + 1) hi hhn (by omega)
          generalize segSearch startAt endAt c f (m + 1) hi = r at this ⊢
          cases r with
          | some i => exact this
          | none =>
            intro i hi1 hi2 hc
            rcases Nat.lt_or_ge m i with h | h
            · exact this i h hi2 hc
            · have := H.below h2 h hmn; omega
        · simp only [h2, if_false]
          exact ⟨hm.2, by omega, by omega⟩
    · simp only [hlt, if_false]
      exact fun i h1 h2 => by omega

theorem segSearch_found (startAt endAt : Nat → Option Nat) (s e : Nat → Nat) (n c i : Nat)
    (hs : ∀ i, i < n → startAt i = some (s i)) (he : ∀ i, i < n → endAt i = some (e i))
    (H : RangesSorted s e n) (hi : i < n) (h1 : s i ≤ c) (h2 : c ≤ e i) :
    segSearch startAt endAt c (n + 1) 0 n = some i := by
  have := segSearch_spec startAt endAt s e n c hs he H (n + 1) 0 n (Nat.le_refl _) (by omega)
  generalize segSearch startAt endAt c (n + 1) 0 n = r at this ⊢
  cases r with
  | none => exact absurd ⟨h1, h2⟩ (this i (Nat.zero_le _) hi)
  | some j => rw [H.unique this.1 hi this.2.1 this.2.2 h1 h2]

theorem segSearch_none (startAt endAt : Nat → Option Nat) (s e : Nat → Nat) (n c : Nat)
    (hs : ∀ i, i < n → startAt i = some (s i)) (he : ∀ i, i < n → endAt i = some (e i))
    (H : RangesSorted s e n) (hno : ∀ i, i < n → ¬ (s i ≤ c ∧ c ≤ e i)) :
    segSearch startAt endAt c (n + 1) 0 n = none := by
  have := segSearch_spec startAt endAt s e n c hs he H (n + 1) 0 n (Nat.le_refl _) (by omega)
  generalize segSearch startAt endAt c (n + 1) 0 n = r at this ⊢
  cases r with
  | none => rfl
  | some j => exact absurd this.2 (hno j this.1)

/-- `Cmap12::iter()` is `Cmap12Iter::next` run from the first group with nothing consumed -/
theorem iter12_eq_from (gs : Array Group) (limits : Limits) :
    iter12 gs limits = iter12From gs limits (gs.size + 1) 0 0 := by
  rw [iter12From, iter12]
  cases group12 gs 0 limits with
  | none => rfl
  | some r => simp only [Nat.not_lt_zero, if_false]

theorem group12_limits (gs : Array Group) (ix maxChar glyphCount : Nat)
    (h : ∀ g, gs[ix]? = some g → g.1 ≤ g.2.1 ∧ g.2.1 ≤ maxChar ∧ g.2.2 + (g.2.1 - g.1) < glyphCount) :
    group12 gs ix (some (maxChar, glyphCount)) = group12 gs ix none := by
  unfold group12
  cases hg : gs[ix]? with
  | none => rfl
  | some g =>
    obtain ⟨s, e, gid⟩ := g
    obtain ⟨h1, h2, h3⟩ := h _ hg
    simp only at h1 h2 h3 ⊢
    congr 3
    omega

theorem iter12From_limits (gs : Array Group) (maxChar glyphCount : Nat)
    (h : ∀ (ix : Nat) (g : Group), gs[ix]? = some g → g.1 ≤ g.2.1 ∧ g.2.1 ≤ maxChar ∧ g.2.2 + (g.2.1 - g.1) < glyphCount) :
    ∀ fuel ix curEnd, iter12From gs (some (maxChar, glyphCount)) fuel ix curEnd = iter12From gs none fuel ix curEnd := by
  intro fuel
  induction fuel with
  | zero => intro ix curEnd; rfl
  | succ f ih =>
    intro ix curEnd
    unfold iter12From
    rw [group12_limits gs ix maxChar glyphCount (h ix)]
    cases group12 gs ix none with
    | none => rfl
    | some r =>
      obtain ⟨lo, hi, s, g⟩ := r
      simp only [ih]

theorem iter12_limits (gs : Array Group) (maxChar glyphCount : Nat)
    (h : ∀ (ix : Nat) (g : Group), gs[ix]? = some g → g.1 ≤ g.2.1 ∧ g.2.1 ≤ maxChar ∧ g.2.2 + (g.2.1 - g.1) < glyphCount) :
    iter12 gs (some (maxChar, glyphCount)) = iter12 gs none := by
  rw [iter12_eq_from, iter12_eq_from, iter12From_limits gs maxChar glyphCount h]

theorem iter12Seg_length (lo hi s g : Nat) : (iter12Seg lo hi s g).length = hi - lo := by
  simp [iter12Seg]

theorem iter12SegN_eq (lo hi s g n : Nat) : iter12SegN lo hi s g n = (iter12Seg lo hi s g).take n := by
  unfold iter12SegN iter12Seg
  rw [← List.map_take, take_range']

theorem iter12FromN_eq (gs : Array Group) (limits : Limits) :
    ∀ fuel ix curEnd n, iter12FromN gs limits fuel ix curEnd n = (iter12From gs limits fuel ix curEnd).take n := by
  intro fuel
  induction fuel with
  | zero => intro ix curEnd n; simp [iter12FromN, iter12From]
  | succ f ih =>
    intro ix curEnd n
    unfold iter12FromN iter12From
    cases group12 gs ix limits with
    | none => simp
    | some r =>
      obtain ⟨lo, hi, s, g⟩ := r
      simp only
      rw [List.take_append, iter12Seg_length, iter12SegN_eq, ih]
      congr 2
      omega

theorem createFormat12_some (m : Mapping) (hne : m ≠ []) : ∃ gs, createFormat12 m = some gs := by
  cases m with
  | nil => exact absurd rfl hne
  | cons p rest => exact ⟨_, rfl⟩

/-- the pairs a `SequentialMapGroup` stands for -/
def expandGroup (g : Group) : Mapping :=
  (List.range' g.1 (g.2.1 + 1 - g.1)).map (fun c => (c, g.2.2 + (c - g.1)))

def expandGroups (gs : List Group) : Mapping := gs.flatMap expandGroup

/-- groups are well formed (`start ≤ end`), ascending and disjoint, all at or above `lb` -/
def GroupsOk : Nat → List Group → Prop
  | _, [] => True
  | lb, g :: rest => lb ≤ g.1 ∧ g.1 ≤ g.2.1 ∧ GroupsOk (g.2.1 + 1) rest

/-- nothing wraps in 32 bits -/
def GroupsBounded (gs : List Group) : Prop :=
  ∀ g ∈ gs, g.2.1 < 4294967296 ∧ g.2.2 + (g.2.1 - g.1) < 4294967296

theorem mem_expandGroup (g : Group) (c v : Nat) :
    (c, v) ∈ expandGroup g ↔ g.1 ≤ c ∧ c ≤ g.2.1 ∧ v = g.2.2 + (c - g.1) := by
  unfold expandGroup
  simp only [List.mem_map, List.mem_range'_1, Prod.mk.injEq]
  constructor
  · rintro ⟨a, ⟨h1, h2⟩, rfl, rfl⟩
    exact ⟨h1, by omega, rfl⟩
  · rintro ⟨h1, h2, rfl⟩
    exact ⟨c, ⟨h1, by omega⟩, rfl, rfl⟩

theorem mem_expandGroups (gs : List Group) (c v : Nat) :
    (c, v) ∈ expandGroups gs ↔ ∃ g ∈ gs, g.1 ≤ c ∧ c ≤ g.2.1 ∧ v = g.2.2 + (c - g.1) := by
  unfold expandGroups
  simp only [List.mem_flatMap, mem_expandGroup]

theorem expandGroup_snoc (sc ec g : Nat) (h : sc ≤ ec) :
    expandGroup (sc, ec + 1, g) = expandGroup (sc, ec, g) ++ [(ec + 1, g + (ec + 1 - sc))] := by
  unfold expandGroup
  simp only
  have : ec + 1 + 1 - sc = (ec + 1 - sc) + 1 := by omega
  rw [this, List.range'_concat]
  simp only [List.map_append, List.map_cons, List.map_nil, Nat.one_mul]
  congr 3
  · omega
  · omega

def sAt (gs : List Group) (i : Nat) : Nat := (gs[i]?.getD (0, 0, 0)).1

def eAt (gs : List Group) (i : Nat) : Nat := (gs[i]?.getD (0, 0, 0)).2.1

theorem sAt_lt {gs : List Group} {i : Nat} (h : i < gs.length) : sAt gs i = gs[i].1 := by
  rw [sAt, List.getElem?_eq_getElem h, Option.getD_some]

theorem eAt_lt {gs : List Group} {i : Nat} (h : i < gs.length) : eAt gs i = gs[i].2.1 := by
  rw [eAt, List.getElem?_eq_getElem h, Option.getD_some]

theorem GroupsOk.pairwise : ∀ (gs : List Group) (lb : Nat), GroupsOk lb gs →
    (∀ g ∈ gs, lb ≤ g.1 ∧ g.1 ≤ g.2.1) ∧ gs.Pairwise (fun a b => a.2.1 < b.1) := by
  intro gs
  induction gs with
  | nil => intro lb _; exact ⟨fun _ hg => (nomatch hg), List.Pairwise.nil⟩
  | cons g rest ih =>
    intro lb h
    obtain ⟨h1, h2, h3⟩ := h
    obtain ⟨ih1, ih2⟩ := ih _ h3
    refine ⟨fun x hx => ?_, List.pairwise_cons.2 ⟨fun x hx => (ih1 x hx).1, ih2⟩⟩
    rcases List.mem_cons.1 hx with rfl | hx
    · exact ⟨h1, h2⟩
    · exact ⟨by have := (ih1 x hx).1; omega, (ih1 x hx).2⟩

theorem GroupsOk.sorted : ∀ (gs : List Group) (lb : Nat), GroupsOk lb gs →
    (∀ i, i < gs.length → lb ≤ sAt gs i) ∧ RangesSorted (sAt gs) (eAt gs) gs.length := by
  intro gs lb h
  obtain ⟨h1, h2⟩ := GroupsOk.pairwise gs lb h
  refine ⟨fun i hi => ?_, ⟨fun i hi => ?_, fun i j hij hj => ?_⟩⟩
  · rw [sAt_lt hi]; exact (h1 _ (List.getElem_mem hi)).1
  · rw [sAt_lt hi, eAt_lt hi]; exact (h1 _ (List.getElem_mem hi)).2
  · rw [eAt_lt (Nat.lt_trans hij hj), sAt_lt hj]; exact List.pairwise_iff_getElem.1 h2 i j _ hj hij

/-- neither of the two wrapping operations of `lookup_glyph_id` wraps inside a group that stays below 2^32 -/
theorem lookup12_eq {c s g : Nat} (hs : s ≤ c) (hc : c < 4294967296) (hg : g + (c - s) < 4294967296) :
    lookup12 c s g = g + (c - s) := by
  unfold lookup12; omega

/-- `Cmap12::map_codepoint` on ascending groups of any size: the one group that holds `c` answers, with the two
wrapping operations of `lookup_glyph_id` -/
theorem map12_eq_some (gs : List Group) (lb : Nat) (hok : GroupsOk lb gs) (c v : Nat) :
    map12 gs.toArray c = some v ↔ ∃ g ∈ gs, g.1 ≤ c ∧ c ≤ g.2.1 ∧ v = lookup12 c g.1 g.2.2 := by
  obtain ⟨_, hsorted⟩ := hok.sorted
  have hs : ∀ i, i < gs.length → (gs.toArray[i]?).map (·.1) = some (sAt gs i) := fun i hi => by
    rw [sAt_lt hi, List.getElem?_toArray, List.getElem?_eq_getElem hi, Option.map_some]
  have he : ∀ i, i < gs.length → (gs.toArray[i]?).map (·.2.1) = some (eAt gs i) := fun i hi => by
    rw [eAt_lt hi, List.getElem?_toArray, List.getElem?_eq_getElem hi, Option.map_some]
  have hsp := segSearch_spec _ _ (sAt gs) (eAt gs) gs.length c hs he hsorted (gs.length + 1) 0 gs.length
    (Nat.le_refl _) (by omega)
  unfold map12
  rw [List.size_toArray]
  generalize segSearch _ _ c (gs.length + 1) 0 gs.length = r at hsp ⊢
  cases r with
  | none =>
    refine ⟨fun h => (by cases h), ?_⟩
    rintro ⟨g, hg, hg1, hg2, _⟩
    obtain ⟨j, hj, rfl⟩ := List.getElem_of_mem hg
    exact absurd ⟨by rwa [sAt_lt hj], by rwa [eAt_lt hj]⟩ (hsp j (Nat.zero_le _) hj)
  | some i =>
    obtain ⟨hi, h1, h2⟩ := hsp
    simp only [List.getElem?_toArray, List.getElem?_eq_getElem hi, Option.some.injEq]
    constructor
    · rintro rfl
      exact ⟨gs[i], List.getElem_mem hi, by rwa [← sAt_lt hi], by rwa [← eAt_lt hi], rfl⟩
    · rintro ⟨g, hg, hg1, hg2, rfl⟩
      -- the containing group is unique
      obtain ⟨j, hj, rfl⟩ := List.getElem_of_mem hg
      cases hsorted.unique hi hj h1 h2 (by rwa [sAt_lt hj]) (by rwa [eAt_lt hj])
      rfl

theorem map12_iff (gs : List Group) (lb : Nat) (hok : GroupsOk lb gs) (hb : GroupsBounded gs)
    (c v : Nat) : map12 gs.toArray c = some v ↔ (c, v) ∈ expandGroups gs := by
  rw [map12_eq_some gs lb hok, mem_expandGroups]
  refine exists_congr fun g => and_congr_right fun hg => and_congr_right fun h1 => and_congr_right fun h2 => ?_
  have := hb g hg
  rw [lookup12_eq h1 (by omega) (by omega)]

theorem iter12Seg_eq (s e g : Nat) (h1 : e < 4294967296) (h2 : g + (e - s) < 4294967296) :
    iter12Seg s (e + 1) s g = expandGroup (s, e, g) := by
  unfold iter12Seg expandGroup
  apply List.map_congr_left
  intro c hc
  rw [List.mem_range'_1] at hc
  rw [Nat.mod_eq_of_lt (by omega), lookup12_eq hc.1 (by omega) (by omega)]

theorem iter12From_eq (gs : List Group) (hb : GroupsBounded gs) :
    ∀ fuel ix curEnd, gs.length - ix ≤ fuel → GroupsOk curEnd (gs.drop ix) →
      iter12From gs.toArray none fuel ix curEnd = expandGroups (gs.drop ix) := by
  intro fuel
  induction fuel with
  | zero =>
    intro ix curEnd h _
    have : gs.drop ix = [] := List.drop_eq_nil_of_le (by omega)
    simp [iter12From, this, expandGroups]
  | succ f ih =>
    intro ix curEnd h hok
    by_cases hix : ix < gs.length
    · rw [List.drop_eq_getElem_cons hix] at hok ⊢
      obtain ⟨h1, h2, h3⟩ := hok
      have hbi := hb _ (List.getElem_mem hix)
      unfold iter12From
      simp only [group12, List.getElem?_toArray, List.getElem?_eq_getElem hix]
      have : ¬ (gs[ix].1 < curEnd) := by omega
      simp only [this, if_false]
      rw [ih (ix + 1) (gs[ix].2.1 + 1) (by omega) h3]
      rw [iter12Seg_eq _ _ _ hbi.1 hbi.2]
      simp only [expandGroups, List.flatMap_cons]
    · have : gs.drop ix = [] := List.drop_eq_nil_of_le (by omega)
      have hnone : gs.toArray[ix]? = none := by simp; omega
      unfold iter12From
      simp [group12, hnone, this, expandGroups]

theorem iter12_eq (gs : List Group) (lb : Nat) (hok : GroupsOk lb gs) (hb : GroupsBounded gs) :
    iter12 gs.toArray none = expandGroups gs := by
  have h0 : GroupsOk 0 gs := by
    cases gs with
    | nil => trivial
    | cons g rest => exact ⟨Nat.zero_le _, hok.2⟩
  rw [iter12_eq_from, iter12From_eq gs hb _ 0 0 (by simp) h0, List.drop_zero]

/-- all code points and glyph ids fit 32 bits with room for `+ 1` -/
def Small (m : Mapping) : Prop := ∀ p ∈ m, p.1 < 4294967295 ∧ p.2 < 4294967295

theorem groups12Go_expand : ∀ (rest : Mapping) (sc sg lc lg : Nat), Small rest →
    sc ≤ lc → lg = sg + (lc - sc) → lc < 4294967295 → lg < 4294967295 →
    expandGroups (groups12Go sc sg lc lg rest) = expandGroup (sc, lc, sg) ++ rest := by
  intro rest
  induction rest with
  | nil => intro sc sg lc lg _ _ _ _ _; simp [groups12Go, expandGroups]
  | cons p rest ih =>
    intro sc sg lc lg hsm h1 h2 h3 h4
    obtain ⟨c, g⟩ := p
    have hp := hsm (c, g) (List.mem_cons_self ..)
    have hsm' : Small rest := fun q hq => hsm q (List.mem_cons_of_mem _ hq)
    have e1 : (lg + 1) % 4294967296 = lg + 1 := by omega
    have e2 : (lc + 1) % 4294967296 = lc + 1 := by omega
    unfold groups12Go
    simp only [e1, e2]
    by_cases hsplit : g ≠ lg + 1 ∨ c ≠ lc + 1
    · simp only [hsplit, if_true]
      have := ih c g c g hsm' (Nat.le_refl _) (by omega) hp.1 hp.2
      simp only [expandGroups, List.flatMap_cons] at this ⊢
      rw [this]
      simp [expandGroup]
    · simp only [hsplit, if_false]
      have hg : g = lg + 1 := by omega
      have hc : c = lc + 1 := by omega
      subst hg hc
      rw [ih sc sg (lc + 1) (lg + 1) hsm' (by omega) (by omega) hp.1 hp.2, expandGroup_snoc sc lc sg h1,
        List.append_assoc, show sg + (lc + 1 - sc) = lg + 1 by omega]
      rfl

/-- strictly ascending code points, all above `lb` -/
def AscFrom : Nat → Mapping → Prop
  | _, [] => True
  | lb, p :: rest => lb ≤ p.1 ∧ AscFrom (p.1 + 1) rest

theorem groups12Go_ok : ∀ (rest : Mapping) (lb sc sg lc lg : Nat),
    lb ≤ sc → sc ≤ lc → AscFrom (lc + 1) rest → Small rest → lc < 4294967295 →
    GroupsOk lb (groups12Go sc sg lc lg rest) := by
  intro rest
  induction rest with
  | nil => intro lb sc sg lc lg h1 h2 _ _ _; exact ⟨h1, h2, trivial⟩
  | cons p rest ih =>
    intro lb sc sg lc lg h1 h2 hasc hsm h3
    obtain ⟨c, g⟩ := p
    have hp := hsm (c, g) (List.mem_cons_self ..)
    have hsm' : Small rest := fun q hq => hsm q (List.mem_cons_of_mem _ hq)
    obtain ⟨ha1, ha2⟩ := hasc
    unfold groups12Go
    split
    · exact ⟨h1, h2, ih (lc + 1) c g c g ha1 (Nat.le_refl _) ha2 hsm' hp.1⟩
    · exact ih lb sc sg c g h1 (by simp at ha1; omega) ha2 hsm' hp.1

theorem createFormat12_spec (m : Mapping) (lb : Nat) (hne : m ≠ []) (hasc : AscFrom lb m) (hsm : Small m) :
    ∃ gs, createFormat12 m = some gs ∧ GroupsOk lb gs ∧ expandGroups gs = m := by
  cases m with
  | nil => exact absurd rfl hne
  | cons p rest =>
    obtain ⟨c, g⟩ := p
    have hp := hsm (c, g) (List.mem_cons_self ..)
    have hsm' : Small rest := fun q hq => hsm q (List.mem_cons_of_mem _ hq)
    obtain ⟨ha1, ha2⟩ := hasc
    -- first loop iteration: never a split
    have e1 : ((g + 4294967295) % 4294967296 + 1) % 4294967296 = g := by omega
    have e2 : ((c + 4294967295) % 4294967296 + 1) % 4294967296 = c := by omega
    have hgo : createFormat12 ((c, g) :: rest) = some (groups12Go c g c g rest) := by
      rw [createFormat12, groups12Go]
      simp only [e1, e2, ne_eq, not_true_eq_false, or_self, if_false]
    refine ⟨_, hgo, groups12Go_ok rest lb c g c g ha1 (Nat.le_refl _) ha2 hsm' hp.1, ?_⟩
    rw [groups12Go_expand rest c g c g hsm' (Nat.le_refl _) (by omega) hp.1 hp.2]
    simp [expandGroup]

theorem groupsBounded_of_expand (gs : List Group) (lb : Nat) (hok : GroupsOk lb gs)
    (hsm : Small (expandGroups gs)) : GroupsBounded gs := by
  intro g hg
  have hle : g.1 ≤ g.2.1 := ((GroupsOk.pairwise gs lb hok).1 g hg).2
  have hmem : (g.2.1, g.2.2 + (g.2.1 - g.1)) ∈ expandGroups gs :=
    (mem_expandGroups gs _ _).2 ⟨g, hg, hle, Nat.le_refl _, rfl⟩
  have := hsm _ hmem
  simp only at this
  omega

/-- strictly ascending code points: what `from_mappings` hands to the subtable builders for a
conflict-free input (sorted, deduplicated, each character once) -/
def Ascending (m : Mapping) : Prop := m.Pairwise (fun a b => a.1 < b.1)

/-- a conflict-free mapping in the property's domain: Unicode scalar range, U+FFFF excepted,
glyph ids non-zero and 16 bit -/
structure InDomain (m : Mapping) : Prop where
  asc : Ascending m
  cp : ∀ p ∈ m, p.1 ≤ 0x10FFFF ∧ p.1 ≠ 0xFFFF
  gid : ∀ p ∈ m, 1 ≤ p.2 ∧ p.2 ≤ 0xFFFF

theorem Ascending.ascFrom : ∀ (m : Mapping) (lb : Nat), Ascending m → (∀ p ∈ m, lb ≤ p.1) → AscFrom lb m := by
  intro m
  induction m with
  | nil => intro _ _ _; trivial
  | cons p rest ih =>
    intro lb h hlb
    have h' := List.pairwise_cons.1 h
    exact ⟨hlb p (List.mem_cons_self ..), ih _ h'.2 (fun q hq => h'.1 q hq)⟩

theorem InDomain.small {m : Mapping} (h : InDomain m) : Small m := by
  intro p hp
  have := h.cp p hp
  have := h.gid p hp
  omega

theorem createFormat12_groups (m : Mapping) (hd : InDomain m) (gs : List Group)
    (h : createFormat12 m = some gs) : GroupsOk 0 gs ∧ GroupsBounded gs ∧ expandGroups gs = m := by
  have hne : m ≠ [] := by intro h0; subst h0; simp [createFormat12] at h
  obtain ⟨gs', h1, h2, h3⟩ := createFormat12_spec m 0 hne
    (Ascending.ascFrom m 0 hd.asc (fun _ _ => Nat.zero_le _)) hd.small
  rw [h] at h1
  cases h1
  exact ⟨h2, groupsBounded_of_expand gs 0 h2 (h3 ▸ hd.small), h3⟩

theorem createFormat12_lookup (m : Mapping) (hd : InDomain m) (gs : List Group)
    (h : createFormat12 m = some gs) (c v : Nat) : map12 gs.toArray c = some v ↔ (c, v) ∈ m := by
  obtain ⟨h2, hb, h3⟩ := createFormat12_groups m hd gs h
  rw [map12_iff gs 0 h2 hb c v, h3]

theorem createFormat12_iter_limits (m : Mapping) (hd : InDomain m) (gs : List Group)
    (h : createFormat12 m = some gs) (numGlyphs : Nat) (hng : ∀ p ∈ m, p.2 < numGlyphs) :
    iter12 gs.toArray (some (0x10FFFF, numGlyphs)) = m := by
  obtain ⟨h2, hb, h3⟩ := createFormat12_groups m hd gs h
  rw [iter12_limits, iter12_eq gs 0 h2 hb, h3]
  intro ix g hg
  rw [List.getElem?_toArray] at hg
  have hmem : g ∈ gs := List.mem_of_getElem? hg
  have hle : g.1 ≤ g.2.1 := by
    obtain ⟨j, hj, rfl⟩ := List.getElem_of_mem hmem
    have := (h2.sorted).2.le j hj
    simpa [sAt, eAt, List.getElem?_eq_getElem hj] using this
  have hlast : (g.2.1, g.2.2 + (g.2.1 - g.1)) ∈ m := by
    rw [← h3]
    exact (mem_expandGroups gs _ _).2 ⟨g, hmem, hle, Nat.le_refl _, rfl⟩
  exact ⟨hle, (hd.cp _ hlast).1, hng _ hlast⟩

end FontVerif.Cmap
