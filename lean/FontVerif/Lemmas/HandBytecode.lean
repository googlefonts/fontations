/- Helper lemmas for Props/C01HandBytecode.lean: the opcode length table by evaluation, and the one characterisation of
`Decoder::decode_inner` (an `Err` with `pc` unchanged, or an instruction inside the bytecode). -/
import FontVerif.Model.HandBytecode
namespace FontVerif.HandBytecode

theorem opcodeLengths_range : ∀ l ∈ OPCODE_LENGTHS, l = -1 ∨ l = -2 ∨ (1 ≤ l ∧ l ≤ 17) := by decide +kernel

theorem opcodeLengths_length : OPCODE_LENGTHS.length = 256 := by decide +kernel

theorem opLen_range (b : Nat) (hb : b < 256) :
    ∃ l, opLen b = some l ∧ (l = -1 ∨ l = -2 ∨ (1 ≤ l ∧ l ≤ 17)) :=
  have hb' : b < OPCODE_LENGTHS.length := opcodeLengths_length ▸ hb
  ⟨OPCODE_LENGTHS[b], List.getElem?_eq_getElem hb', opcodeLengths_range _ (List.getElem_mem hb')⟩

theorem uadd_small (a b : Nat) (h : a + b ≤ 18446744073709551615) : uadd a b = some (a + b) := by
  simp [uadd, HandRead.checkedAdd, HandRead.MAXU, h]

theorem usub_le {a b : Nat} (h : b ≤ a) : usub a b = some (a - b) := if_pos h

theorem decodeInner_cases (d : List Nat) (pc b : Nat) (hb : b < 256) (hpc : pc < d.length)
    (hlen : d.length ≤ 9223372036854775807) (hbytes : ∀ x ∈ d, x < 256) :
    decodeInner d pc b = (.err, pc) ∨
    ∃ st sz w n, decodeInner d pc b = (.ok b pc st sz w, pc + n) ∧ 0 < n ∧ pc + n ≤ d.length ∧
      st + sz ≤ d.length := by
  obtain ⟨l, hl, hr⟩ := opLen_range b hb
  have hu1 : uadd pc 1 = some (pc + 1) := uadd_small _ _ (by omega)
  generalize hres : decodeInner d pc b = res
  unfold decodeInner at hres
  rw [hl] at hres
  dsimp only at hres
  -- all the tail needs of the length step: `cl` count bytes inside the data, `1 + cl ≤ L ≤ 512`
  generalize hs : (if l < 0 then _ else _ : Option (Option (Int × Nat))) = s at hres
  have hstep : s = some none ∨ ∃ L cl, s = some (some (L, cl)) ∧
      cl ≤ 1 ∧ (cl : Int) + 1 ≤ L ∧ L ≤ 512 ∧ pc + 1 + cl ≤ d.length := by
    subst hs
    by_cases hneg : l < 0
    · rw [if_pos hneg, hu1]
      dsimp only
      cases hc : d[pc + 1]? with
      | none => exact .inl rfl
      | some cnt =>
        have hcnt : cnt < 256 := hbytes cnt (List.mem_of_getElem? hc)
        have hp1 : pc + 1 < d.length := (List.getElem?_eq_some_iff.mp hc).1
        have hL : 2 ≤ -l * (cnt : Int) + 2 ∧ -l * (cnt : Int) + 2 ≤ 512 := by
          have : -l = 1 ∨ -l = 2 := by omega
          rcases this with h | h <;> (rw [h]; omega)
        dsimp only
        rw [if_pos hneg, if_pos (by omega)]
        exact .inr ⟨_, 1, rfl, by omega, by omega, by omega, by omega⟩
    · rw [if_neg hneg]
      exact .inr ⟨l, 0, rfl, by omega, by omega, by omega, by omega⟩
  clear hs
  rcases hstep with rfl | ⟨L, cl, rfl, hcl, hlo, hhi, hin⟩
  · exact .inl hres.symm
  · dsimp only at hres
    generalize hn : L.toNat = n at hres
    have hn1 : cl + 1 ≤ n ∧ n ≤ 512 := by omega
    rw [uadd_small pc n (by omega), hu1, Option.bind_some, uadd_small (pc + 1) cl (by omega)] at hres
    dsimp only at hres
    rw [usub_le (by omega)] at hres
    dsimp only at hres
    by_cases hsz : pc + n - (pc + 1 + cl) > 0
    · rw [if_pos hsz, uadd_small _ _ (by omega)] at hres
      dsimp only at hres
      by_cases he : pc + 1 + cl + (pc + n - (pc + 1 + cl)) ≤ d.length
      · rw [if_pos he] at hres
        exact .inr ⟨_, _, _, n, hres.symm, by omega, by omega, he⟩
      · rw [if_neg he] at hres
        exact .inl hres.symm
    · rw [if_neg hsz] at hres
      exact .inr ⟨0, 0, false, n, hres.symm, by omega, by omega, by omega⟩

end FontVerif.HandBytecode
