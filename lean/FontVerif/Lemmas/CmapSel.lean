/-
Helper lemmas for C08: skrifa `MappingSelection::new` picks, among the supported candidate records,
one of the greatest `MappingKind` (symbol > full repertoire > BMP), the last such record in the table.
-/
import FontVerif.Model.Cmap
namespace FontVerif.Cmap

/-- the `MappingKind` a record is a candidate for (0 = not a candidate: unsupported subtable format,
the variation-selector record, or a platform/encoding pair the selection ignores) -/
def recKind (r : Record) : Nat :=
  if r.2.2.supported then
    match r.1, r.2.1 with
    | 0, 5 => 0
    | 3, 0 => 3
    | 3, 10 => 2
    | 0, 4 => 2
    | 2, _ => 1
    | 0, _ => 1
    | 3, 1 => 1
    | _, _ => 0
  else 0

theorem selectStep_spec (sel : Selection) (i : Nat) (r : Record) :
    (recKind r > sel.kind →
      (selectStep sel i r).kind = recKind r ∧ (selectStep sel i r).codepointIx = some i ∧
      (selectStep sel i r).isSymbol = (recKind r == 3)) ∧
    (¬ recKind r > sel.kind →
      (selectStep sel i r).kind = sel.kind ∧ (selectStep sel i r).codepointIx = sel.codepointIx ∧
      (selectStep sel i r).isSymbol = sel.isSymbol) := by
  obtain ⟨p, e, k⟩ := r
  unfold selectStep recKind
  simp only [kindSymbol, kindFull, kindBmp]
  by_cases hs : k.supported = true
  · simp only [hs, if_true, true_and]
    -- per (platform, encoding) row of the match both sides are literals: `selectStep` assigns the row's kind iff it is greater
    split <;> grind
  · have hs' : k.supported = false := by simpa using hs
    simp only [hs', Bool.false_eq_true, if_false, false_and]
    split <;> grind

/-- what the reverse loop over the encoding records has selected -/
structure SelSpec (recs : List Record) (base : Nat) (sel : Selection) : Prop where
  maxKind : ∀ j (hj : j < recs.length), recKind recs[j] ≤ sel.kind
  noneIff : sel.codepointIx = none ↔ sel.kind = 0
  chosen : ∀ i, sel.codepointIx = some i → ∃ k, ∃ hk : k < recs.length, i = base + k ∧
    recKind recs[k] = sel.kind ∧ ∀ j (hj : j < recs.length), k < j → recKind recs[j] < sel.kind
  symbol : sel.isSymbol = (sel.kind == 3)

theorem selectGo_spec : ∀ (recs : List Record) (base : Nat), SelSpec recs base (selectGo recs base) := by
  intro recs
  induction recs with
  | nil =>
    intro base
    exact ⟨fun j hj => by simp at hj, by simp [selectGo], fun i h => by simp [selectGo] at h, by simp [selectGo]⟩
  | cons r rest ih =>
    intro base
    have ih' := ih (base + 1)
    obtain ⟨s1, s2⟩ := selectStep_spec (selectGo rest (base + 1)) base r
    unfold selectGo
    by_cases hgt : recKind r > (selectGo rest (base + 1)).kind
    · obtain ⟨e1, e2, e3⟩ := s1 hgt
      refine ⟨?_, ?_, ?_, ?_⟩
      · intro j hj
        rw [e1]
        cases j with
        | zero => exact Nat.le_refl _
        | succ j' =>
          have := ih'.maxKind j' (by simpa using hj)
          simp only [List.getElem_cons_succ]
          omega
      · rw [e1, e2]
        constructor
        · intro h; cases h
        · intro h; omega
      · intro i hi
        rw [e2] at hi
        injection hi with hi
        refine ⟨0, by simp, by omega, by simp [e1], ?_⟩
        intro j hj hj0
        cases j with
        | zero => omega
        | succ j' =>
          have := ih'.maxKind j' (by simpa using hj)
          simp only [List.getElem_cons_succ, e1]
          omega
      · rw [e3, e1]
    · obtain ⟨e1, e2, e3⟩ := s2 hgt
      refine ⟨?_, ?_, ?_, ?_⟩
      · intro j hj
        rw [e1]
        cases j with
        | zero => simp only [List.getElem_cons_zero]; omega
        | succ j' => exact ih'.maxKind j' (by simpa using hj)
      · rw [e1, e2]; exact ih'.noneIff
      · intro i hi
        rw [e2] at hi
        obtain ⟨k, hk, h1, h2, h3⟩ := ih'.chosen i hi
        refine ⟨k + 1, by simpa using hk, by omega, by simpa [e1] using h2, ?_⟩
        intro j hj hkj
        cases j with
        | zero => omega
        | succ j' =>
          rw [e1]
          simpa using h3 j' (by simpa using hj) (by omega)
      · rw [e3, e1]; exact ih'.symbol

end FontVerif.Cmap
