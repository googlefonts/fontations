/-
Helper lemmas for Props/C01HandText.lean (Model/HandText.lean).  Each small function of the model is characterised
once by a `_cases` / `_spec` lemma (what it returns, when it traps); the iterator theorems read the step lemmas
`c14Step_elim` and `charStep_cases` through Lemmas/ReadIter.
-/
import FontVerif.Model.HandText
import FontVerif.Lemmas.ReadIter
import FontVerif.Lemmas.HandRead
import FontVerif.Lemmas.NameStr
namespace FontVerif.HandText
open FontVerif.ReadIter FontVerif.HandRead

/-! ## segment search, `lookup_glyph_id` -/

theorem seek_no_trap (sA eA : Nat → Option Nat) (c : Nat) :
    ∀ fuel lo hi, lo ≤ hi → 2 * hi ≤ MAXU → seek sA eA c fuel lo hi ≠ .trap := by
  intro fuel lo hi
  fun_induction seek sA eA c fuel lo hi with
  | case3 f lo hi _ hgt => intro _ _; omega
  | case5 f lo hi _ _ i sc _ _ ih => intro _ _; exact ih (by omega) (by omega)
  | case7 f lo hi _ _ i sc _ _ ec _ _ ih => intro _ _; exact ih (by omega) (by omega)
  | _ => intro _ _; nofun

theorem seek_no_getFail (sA eA : Nat → Option Nat) (c : Nat) :
    ∀ fuel lo hi, (∀ i, i < hi → (sA i).isSome ∧ (eA i).isSome) → seek sA eA c fuel lo hi ≠ .getFail := by
  intro fuel lo hi
  fun_induction seek sA eA c fuel lo hi with
  | case4 f lo hi _ _ i hs => intro hall; have := (hall i (by omega)).1; simp [hs] at this
  | case5 f lo hi _ _ i sc _ _ ih => intro hall; exact ih fun j hj => hall j (by omega)
  | case6 f lo hi _ _ i sc _ _ he => intro hall; have := (hall i (by omega)).2; simp [he] at this
  | case7 f lo hi _ _ i sc _ _ ec _ _ ih => intro hall; exact ih hall
  | _ => intro _; nofun

theorem seekFuel_ok (n : Nat) : n - 0 < 2 ^ seekFuel n := by
  unfold seekFuel
  have := Nat.lt_log2_self (n := n)
  simpa using this

/-- the trap is the `u16` subtraction `codepoint - start_code` -/
theorem lookupGlyphId_cases (t : Cmap4) (cp i sc : Nat) :
    t.lookupGlyphId cp i sc = .none ∨ (∃ g, t.lookupGlyphId cp i sc = .gid g ∧ g < 65536) ∨
    (t.lookupGlyphId cp i sc = .trap ∧ cp < sc) := by
  have hm : ∀ x dl, addDeltaU16 x dl < 65536 := fun x dl => by unfold addDeltaU16; omega
  generalize h : t.lookupGlyphId cp i sc = r
  unfold Cmap4.lookupGlyphId at h
  split at h
  · exact .inl h.symm
  split at h
  · exact .inl h.symm
  split at h
  · exact .inr (.inl ⟨_, h.symm, hm _ _⟩)
  split at h
  · exact .inr (.inr ⟨h.symm, ‹_›⟩)
  dsimp only at h
  split at h
  · exact .inl h.symm
  split at h
  · exact .inl h.symm
  · exact .inr (.inl ⟨_, h.symm, hm _ _⟩)

/-! ## `DefaultUvsIter` -/

theorem uvsEnd_some {r : Nat × Nat} {e : Nat} (h : uvsEnd r = some e) : e = r.1 + r.2 + 1 := by
  unfold uvsEnd at h
  split at h
  · exact (Option.some.inj h).symm
  · cases h

theorem uvsEnd_of_fields (r : Nat × Nat) (h1 : r.1 < 16777216) (h2 : r.2 < 256) : uvsEnd r ≠ none := by
  unfold uvsEnd; split <;> simp; omega

def sumRem (rest : List (Nat × Nat)) : Nat := (rest.map (fun r => r.2 + 1)).sum

theorem duSkip_spec : ∀ (rest : List (Nat × Nat)) (lo hi : Nat), hi ≤ lo →
    duRem (duSkip lo hi rest).2 ≤ sumRem rest ∧
    ((duSkip lo hi rest).1 ≠ .done → duRem (duSkip lo hi rest).2 < sumRem rest) ∧
    (RestOk rest → (duSkip lo hi rest).1 ≠ .trap ∧ RestOk (duSkip lo hi rest).2.rest) := by
  intro rest
  induction rest with
  | nil => intro lo hi h; exact ⟨by simp [duSkip, duRem, sumRem]; omega, fun h => absurd rfl h, fun h => ⟨nofun, h⟩⟩
  | cons r rs ih =>
    intro lo hi h
    have hrs : RestOk (r :: rs) → RestOk rs := fun h x hx => h x (List.mem_cons_of_mem _ hx)
    unfold duSkip
    cases he : uvsEnd r with
    | none =>
      exact ⟨by simp [duRem, sumRem]; omega, fun _ => by simp [duRem, sumRem]; omega,
        fun h => absurd he (h r (List.mem_cons_self ..))⟩
    | some e =>
      have hev := uvsEnd_some he
      dsimp only
      by_cases hlt : r.1 < e
      · rw [if_pos hlt]
        exact ⟨by simp [duRem, sumRem]; omega, fun _ => by simp [duRem, sumRem]; omega, fun h => ⟨nofun, hrs h⟩⟩
      · rw [if_neg hlt]
        obtain ⟨h1, h2, h3⟩ := ih r.1 e (by omega)
        simp only [sumRem, List.map_cons, List.sum_cons] at h1 h2 ⊢
        exact ⟨by omega, fun hd => by have := h2 hd; omega, fun h => h3 (hrs h)⟩

theorem duNext_spec (s : DuSt) :
    duRem (duNext s).2 ≤ duRem s ∧ ((duNext s).1 ≠ .done → duRem (duNext s).2 < duRem s) ∧
    (RestOk s.rest → (duNext s).1 ≠ .trap ∧ RestOk (duNext s).2.rest) := by
  unfold duNext
  by_cases hlt : s.lo < s.hi
  · rw [if_pos hlt]
    exact ⟨by simp [duRem]; omega, fun _ => by simp [duRem]; omega, fun h => ⟨nofun, h⟩⟩
  · rw [if_neg hlt]
    obtain ⟨h1, h2, h3⟩ := duSkip_spec s.rest s.lo s.hi (by omega)
    simp only [duRem, sumRem] at h1 h2 ⊢
    rw [show s.hi - s.lo = 0 by omega]
    exact ⟨by omega, fun hd => by have := h2 hd; omega, h3⟩

theorem duNew_spec (ranges : List (Nat × Nat)) :
    match duNew ranges with
    | none => ¬ RestOk ranges
    | some d => duRem d = duTotal ranges ∧ (RestOk ranges → RestOk d.rest) := by
  cases ranges with
  | nil => exact ⟨rfl, fun h => h⟩
  | cons r rs =>
    cases he : uvsEnd r with
    | none =>
      simp only [duNew, he]
      exact fun h => absurd he (h r (List.mem_cons_self ..))
    | some e =>
      have hev := uvsEnd_some he
      simp only [duNew, he]
      exact ⟨by simp [duRem, duTotal]; omega, fun h x hx => h x (List.mem_cons_of_mem _ hx)⟩

/-! ## `Cmap14Iter` -/

def duRemO : Option DuSt → Nat
  | some d => duRem d
  | none => 0

def ndRem : Option (List (Nat × Nat)) → Nat
  | some ms => ms.length
  | none => 0

/-- trips still to make (termination measure) -/
def c14Mu (t : List Cmap.VarSel) (s : C14St) : Nat :=
  match s.sel with
  | none => 0
  | some _ => duRemO s.du + ndRem s.nd + ((t.drop (s.ix + 1)).map c14Weight).sum + 1

/-- items still to yield -/
def c14Nu (t : List Cmap.VarSel) (s : C14St) : Nat :=
  match s.sel with
  | none => 0
  | some _ => duRemO s.du + ndRem s.nd + ((t.drop (s.ix + 1)).map c14Items).sum

def C14Inv (s : C14St) : Prop := ∀ d, s.du = some d → RestOk d.rest

theorem c14Weight_eq (r : Cmap.VarSel) : c14Weight r = c14Items r + 1 := rfl

theorem c14Weight_pos (t : List Cmap.VarSel) (h : t ≠ []) : 1 ≤ (t.map c14Weight).sum := by
  cases t with
  | nil => exact absurd rfl h
  | cons r rs => simp [c14Weight]; omega

theorem duRemO_next (du : Option DuSt) : duRemO (du.map fun d => (duNext d).2) ≤ duRemO du := by
  cases du with
  | none => exact Nat.le_refl _
  | some d => exact (duNext_spec d).1

theorem c14Load_spec (t : List Cmap.VarSel) (ix : Nat) :
    match c14Load t ix with
    | none => ¬ C14Wf t
    | some s' => c14Mu t s' = ((t.drop ix).map c14Weight).sum ∧ c14Nu t s' = ((t.drop ix).map c14Items).sum ∧
        (C14Wf t → C14Inv s') := by
  cases ht : t[ix]? with
  | none =>
    have : t.length ≤ ix := List.getElem?_eq_none_iff.mp ht
    simp only [c14Load, ht]
    exact ⟨by simp [c14Mu, List.drop_eq_nil_of_le this], by simp [c14Nu, List.drop_eq_nil_of_le this], fun _ d hd => by cases hd⟩
  | some r =>
    rw [sum_map_drop ht c14Weight, sum_map_drop ht c14Items]
    cases hd : r.defaults with
    | none =>
      simp only [c14Load, ht, hd]
      refine ⟨?_, ?_, fun _ d hd' => by cases hd'⟩ <;>
        (simp [c14Mu, c14Nu, duRemO, ndRem, c14Weight, c14Items, hd]; cases r.nonDefaults <;> simp <;> omega)
    | some ranges =>
      have hs := duNew_spec ranges
      have hok : C14Wf t → RestOk ranges := fun hw x hx =>
        uvsEnd_of_fields x (hw r (List.mem_of_getElem? ht) ranges hd x hx).1 (hw r (List.mem_of_getElem? ht) ranges hd x hx).2
      cases hn : duNew ranges with
      | none =>
        rw [hn] at hs
        simp only [c14Load, ht, hd, hn]
        exact fun hw => hs (hok hw)
      | some d =>
        rw [hn] at hs
        simp only [c14Load, ht, hd, hn]
        refine ⟨?_, ?_, fun hw d' hd' => by cases hd'; exact hs.2 (hok hw)⟩ <;>
          (simp [c14Mu, c14Nu, duRemO, ndRem, c14Weight, c14Items, hd, hs.1]; cases r.nonDefaults <;> simp <;> omega)

/-- the five ways round the loop of `Cmap14Iter::next` -/
theorem c14Step_elim {t : List Cmap.VarSel} {s : C14St} {P : Out (Nat × Nat × Cmap.MapVariant) × C14St → Prop}
    (hdone : s.sel = none → P (.done, s))
    (hdef : ∀ r d cp, s.sel = some r → s.du = some d → (duNext d).1 = .yield cp →
      P (.yield (cp, r.selector, .useDefault), { s with du := some (duNext d).2 }))
    (htrap : ∀ r d, s.sel = some r → s.du = some d → (duNext d).1 = .trap → P (.trap, c14Dead s.ix))
    (hnd : ∀ r m ms, s.sel = some r → s.nd = some (m :: ms) →
      P (.yield (m.1, r.selector, .variant m.2), { s with du := s.du.map fun d => (duNext d).2, nd := some ms }))
    (hnext : ∀ r, s.sel = some r → ndRem s.nd = 0 →
      P (match c14Load t (s.ix + 1) with | none => (.trap, c14Dead (s.ix + 1)) | some s' => (.cont, s'))) :
    P (c14Step t s) := by
  obtain ⟨sel, du, nd, ix⟩ := s
  unfold c14Step
  cases sel with
  | none => exact hdone rfl
  | some r =>
    dsimp only
    -- what is left once the default iterator has not yielded
    have hrest : P (match (generalizing := false) nd with
        | some (m :: ms) => (.yield (m.1, r.selector, .variant m.2),
            { sel := some r, du := du.map fun d => (duNext d).2, nd := some ms, ix := ix })
        | _ => match c14Load t (ix + 1) with
          | none => (.trap, c14Dead (ix + 1))
          | some s' => (.cont, s')) := by
      cases nd with
      | none => exact hnext r rfl rfl
      | some l =>
        cases l with
        | nil => exact hnext r rfl rfl
        | cons m ms => exact hnd r m ms rfl rfl
    cases du with
    | none => exact hrest
    | some d =>
      dsimp only
      cases ho : (duNext d).1 with
      | yield cp => exact hdef r d cp rfl rfl ho
      | trap => exact htrap r d rfl rfl ho
      | done => exact hrest
      | cont => exact hrest

theorem c14Step_measures (t : List Cmap.VarSel) (s : C14St) :
    ((c14Step t s).1 ≠ .done → c14Mu t (c14Step t s).2 < c14Mu t s) ∧
    (∀ a, (c14Step t s).1 = .yield a → c14Nu t (c14Step t s).2 < c14Nu t s) ∧
    ((c14Step t s).1 = .cont → c14Nu t (c14Step t s).2 ≤ c14Nu t s) := by
  refine c14Step_elim (P := fun o => (o.1 ≠ .done → c14Mu t o.2 < c14Mu t s) ∧
    (∀ a, o.1 = .yield a → c14Nu t o.2 < c14Nu t s) ∧ (o.1 = .cont → c14Nu t o.2 ≤ c14Nu t s)) ?_ ?_ ?_ ?_ ?_
  · intro _; exact ⟨fun h => absurd rfl h, nofun, nofun⟩
  · intro r d cp hs hd ho
    have := (duNext_spec d).2.1 (by rw [ho]; nofun)
    simp only [c14Mu, c14Nu, hs, hd, duRemO]
    exact ⟨fun _ => by omega, fun _ _ => by omega, nofun⟩
  · intro r d hs hd ho
    simp only [c14Dead, c14Mu, hs]
    exact ⟨fun _ => by omega, nofun, nofun⟩
  · intro r m ms hs hn
    have := duRemO_next s.du
    simp only [c14Mu, c14Nu, hs, hn, ndRem, List.length_cons]
    exact ⟨fun _ => by omega, fun _ _ => by omega, nofun⟩
  · intro r hs hn
    cases hl : c14Load t (s.ix + 1) with
    | none =>
      simp only [c14Dead, c14Mu, hs]
      exact ⟨fun _ => by omega, nofun, nofun⟩
    | some s' =>
      have hs' := c14Load_spec t (s.ix + 1)
      rw [hl] at hs'
      obtain ⟨h1, h2, -⟩ := hs'
      simp only [c14Mu, c14Nu, hs, hn] at h1 h2 ⊢
      exact ⟨fun _ => by omega, nofun, fun _ => by omega⟩

theorem c14Step_ok (t : List Cmap.VarSel) (hw : C14Wf t) (s : C14St) (hi : C14Inv s) :
    (c14Step t s).1 ≠ .trap ∧ C14Inv (c14Step t s).2 := by
  refine c14Step_elim (P := fun o => o.1 ≠ .trap ∧ C14Inv o.2) ?_ ?_ ?_ ?_ ?_
  · intro _; exact ⟨nofun, hi⟩
  · intro r d cp _ hd _
    exact ⟨nofun, fun d' hd' => by cases hd'; exact ((duNext_spec d).2.2 (hi d hd)).2⟩
  · intro r d _ hd ho
    exact absurd ho ((duNext_spec d).2.2 (hi d hd)).1
  · intro r m ms _ _
    refine ⟨nofun, fun d' hd' => ?_⟩
    cases hd : s.du with
    | none => rw [hd] at hd'; cases hd'
    | some d => rw [hd] at hd'; cases hd'; exact ((duNext_spec d).2.2 (hi d hd)).2
  · intro r _ _
    have hs := c14Load_spec t (s.ix + 1)
    cases hl : c14Load t (s.ix + 1) with
    | none => rw [hl] at hs; exact absurd hw hs
    | some s' => rw [hl] at hs; exact ⟨nofun, hs.2.2 hw⟩

/-! ## Mac Roman -/

theorem macDecodeTable_isChar : ∀ v ∈ NameStr.macDecodeTable, NameStr.isChar v = true := by decide +kernel

theorem macDecodeTable_length : NameStr.macDecodeTable.length = 128 := by decide +kernel

/-- no entry of the decode table is a surrogate: `char::from_u32(..).unwrap()` succeeds, the result is the C04 model's
`NameStr.macDecode` -/
theorem macDecodeT_cases (c : Nat) :
    (macDecodeT c = none ∧ 256 ≤ c) ∨
    (macDecodeT c = some (NameStr.macDecode c) ∧ NameStr.isChar (NameStr.macDecode c) = true) := by
  unfold macDecodeT NameStr.macDecode
  by_cases h : c < 128
  · rw [if_pos h, if_pos h]
    exact .inr ⟨rfl, by unfold NameStr.isChar; rw [Bool.or_eq_true, decide_eq_true_eq]; omega⟩
  rw [if_neg h, if_neg h, List.getD_eq_getElem?_getD]
  by_cases hi : c - 128 < NameStr.macDecodeTable.length
  · have hv := macDecodeTable_isChar _ (List.getElem_mem hi)
    rw [List.getElem?_eq_getElem hi]
    dsimp only [Option.getD]
    rw [if_pos hv]
    exact .inr ⟨rfl, hv⟩
  · rw [List.getElem?_eq_none_iff.mpr (by omega)]
    exact .inl ⟨rfl, by rw [macDecodeTable_length] at hi; omega⟩

theorem macEncodeTable_byte : ∀ e ∈ NameStr.macEncodeTable, e.2 < 256 := by decide +kernel

/-- the encode table is inverted by the decode table: the sweep is `NameStr.macTable_inverse` (the write side's) -/
theorem macEncodeTable_roundtrip : ∀ e ∈ NameStr.macEncodeTable, e.2 < 256 ∧ macDecodeT e.2 = some e.1 := by
  intro e he
  have hb := macEncodeTable_byte e he
  rcases macDecodeT_cases e.2 with ⟨-, h⟩ | ⟨h, -⟩
  · omega
  · exact ⟨hb, NameStr.macTable_inverse e he ▸ h⟩

/-! ## `CharIter` -/

theorem isChar_charOrRep (raw : Nat) : NameStr.isChar (charOrRep raw) = true := by
  unfold charOrRep
  split
  · assumption
  · decide

theorem bumpU8_cases (d : List Nat) (pos : Nat) (hlt : pos < d.length) :
    (bumpU8 d pos = .trap ∧ MAXU < d.length + 2) ∨ bumpU8 d pos = .val d[pos] (pos + 1) := by
  unfold bumpU8
  rw [List.getElem?_eq_getElem hlt]
  dsimp only
  by_cases hM : pos + 1 > MAXU
  · rw [if_pos hM]; exact .inl ⟨rfl, by omega⟩
  · rw [if_neg hM]; exact .inr rfl

theorem bumpU16_cases (d : List Nat) (pos : Nat) (hp : pos ≤ d.length) :
    (bumpU16 d pos = .none ∧ (d.drop pos).length < 2) ∨ (bumpU16 d pos = .trap ∧ MAXU < d.length + 2) ∨
    ∃ a b, bumpU16 d pos = .val (a * 256 + b) (pos + 2) ∧ pos + 2 ≤ d.length ∧
      d.drop pos = a :: b :: d.drop (pos + 2) := by
  unfold bumpU16
  by_cases hM : pos + 2 > MAXU
  · rw [if_pos hM]; exact .inr (.inl ⟨rfl, by omega⟩)
  rw [if_neg hM]
  by_cases hle : pos + 2 ≤ d.length
  · rw [if_pos hle]
    have hl : (d.drop pos).length = d.length - pos := List.length_drop
    match hd : d.drop pos, hl with
    | a :: b :: rest, _ =>
      refine .inr (.inr ⟨a, b, rfl, hle, ?_⟩)
      have : d.drop (pos + 2) = rest := by rw [← List.drop_drop, hd]; rfl
      rw [this]
    | [_], h => simp at h; omega
    | [], h => simp at h; omega
  · rw [if_neg hle]; exact .inl ⟨rfl, by rw [List.length_drop]; omega⟩

theorem charStep_cases (enc : NameStr.Encoding) (d : List Nat) (pos : Nat) (hp : pos ≤ d.length) :
    (charStep enc d pos = (.done, pos) ∧ NameStr.decodeString enc (d.drop pos) = []) ∨
    (pos < d.length ∧ charStep enc d pos = (.trap, d.length) ∧ ¬(d.length + 2 ≤ MAXU ∧ ∀ b ∈ d, b < 256)) ∨
    ∃ v p, charStep enc d pos = (.yield v, p) ∧ NameStr.isChar v = true ∧ pos < p ∧ p ≤ d.length ∧
      (enc = .macRoman ∨ enc = .utf16be ∧ pos + 2 ≤ p) ∧
      NameStr.decodeString enc (d.drop pos) = v :: NameStr.decodeString enc (d.drop p) := by
  generalize hres : charStep enc d pos = res
  unfold charStep at hres
  by_cases hge : pos ≥ d.length
  · rw [if_pos hge] at hres
    refine .inl ⟨hres.symm, ?_⟩
    rw [List.drop_eq_nil_of_le hge]
    cases enc <;> simp [NameStr.decodeString, NameStr.decodeUtf16, NameStr.decodeMac]
  rw [if_neg hge] at hres
  have hlt : pos < d.length := by omega
  cases enc with
  | unknown => exact .inl ⟨hres.symm, rfl⟩
  | macRoman =>
    dsimp only at hres
    rcases bumpU8_cases d pos hlt with ⟨hb, hM⟩ | hb <;> rw [hb] at hres
    · exact .inr (.inl ⟨hlt, hres.symm, fun hA => by omega⟩)
    dsimp only at hres
    rcases macDecodeT_cases d[pos] with ⟨hm, hge⟩ | ⟨hm, hv⟩ <;> rw [hm] at hres
    · exact .inr (.inl ⟨hlt, hres.symm, fun hA => by have := hA.2 _ (List.getElem_mem hlt); omega⟩)
    · refine .inr (.inr ⟨_, _, hres.symm, isChar_charOrRep _, by omega, by omega, .inl rfl, ?_⟩)
      rw [List.drop_eq_getElem_cons hlt, charOrRep, if_pos hv]
      rfl
  | utf16be =>
    dsimp only at hres
    rcases bumpU16_cases d pos hp with ⟨hb, hshort⟩ | ⟨hb, hM⟩ | ⟨a1, b1, hb, hle1, hd1⟩ <;> rw [hb] at hres
    · exact .inl ⟨hres.symm, NameStr.decodeUtf16_short _ hshort⟩
    · exact .inr (.inl ⟨hlt, hres.symm, fun hA => by omega⟩)
    have hdec : NameStr.decodeString .utf16be (d.drop pos) = NameStr.decodeUtf16 (a1 :: b1 :: d.drop (pos + 2)) := by
      rw [hd1]; rfl
    dsimp only at hres
    by_cases hsur : 0xD800 ≤ a1 * 256 + b1 ∧ a1 * 256 + b1 < 0xDC00
    · rw [if_pos hsur] at hres
      rcases bumpU16_cases d (pos + 2) hle1 with ⟨hb2, hshort⟩ | ⟨hb2, hM⟩ | ⟨a2, b2, hb2, hle2, hd2⟩ <;> rw [hb2] at hres
      · refine .inr (.inr ⟨_, _, hres.symm, by decide, by omega, hle1, .inr ⟨rfl, by omega⟩, ?_⟩)
        rw [hdec, NameStr.decodeUtf16_cons_lone a1 b1 _ hsur hshort, NameStr.decodeString, NameStr.decodeUtf16_short _ hshort]
      · exact .inr (.inl ⟨hlt, hres.symm, fun hA => by omega⟩)
      · dsimp only at hres
        rw [if_neg (by omega)] at hres
        refine .inr (.inr ⟨_, _, hres.symm, isChar_charOrRep _, by omega, hle2, .inr ⟨rfl, by omega⟩, ?_⟩)
        rw [hdec, hd2, NameStr.decodeUtf16_cons_pair a1 b1 a2 b2 _ hsur]
        rfl
    · rw [if_neg hsur] at hres
      refine .inr (.inr ⟨_, _, hres.symm, isChar_charOrRep _, by omega, hle1, .inr ⟨rfl, by omega⟩, ?_⟩)
      rw [hdec, NameStr.decodeUtf16_cons a1 b1 _ hsur]
      rfl

theorem charStep_spec (enc : NameStr.Encoding) (d : List Nat) (pos : Nat) (hp : pos ≤ d.length) :
    (charStep enc d pos).2 ≤ d.length ∧
    ((charStep enc d pos).1 ≠ .done → pos < (charStep enc d pos).2) ∧
    ((charStep enc d pos).1 ≠ .cont) ∧
    (∀ a, (charStep enc d pos).1 = .yield a →
        NameStr.isChar a = true ∧ charNu enc d.length (charStep enc d pos).2 < charNu enc d.length pos) := by
  rcases charStep_cases enc d pos hp with ⟨h, -⟩ | ⟨hlt, h, -⟩ | ⟨v, p, h, hv, h1, h2, h3, -⟩ <;> rw [h]
  · exact ⟨hp, fun h => absurd rfl h, nofun, nofun⟩
  · exact ⟨Nat.le_refl _, fun _ => hlt, nofun, nofun⟩
  · refine ⟨h2, fun _ => h1, nofun, fun a ha => ?_⟩
    injection ha with ha
    subst ha
    refine ⟨hv, ?_⟩
    rcases h3 with rfl | ⟨rfl, h3⟩ <;> simp only [charNu] <;> omega

theorem charStep_no_trap (enc : NameStr.Encoding) (d : List Nat) (pos : Nat) (hp : pos ≤ d.length)
    (hm : d.length + 2 ≤ MAXU) (hb : ∀ b ∈ d, b < 256) : (charStep enc d pos).1 ≠ .trap := by
  rcases charStep_cases enc d pos hp with ⟨h, -⟩ | ⟨_, _, h⟩ | ⟨v, p, h, _⟩
  · rw [h]; nofun
  · exact absurd ⟨hm, hb⟩ h
  · rw [h]; nofun

theorem charRun (enc : NameStr.Encoding) (d : List Nat) :
    ∀ fuel pos evs, pos ≤ d.length → run (charStep enc d) fuel pos = some evs → trapped evs = false →
      items evs = NameStr.decodeString enc (d.drop pos) :=
  run_items_eq (charStep enc d) (· ≤ d.length) (fun pos => NameStr.decodeString enc (d.drop pos)) fun s hs => by
    rcases charStep_cases enc d s hs with ⟨h, hd⟩ | ⟨_, h, -⟩ | ⟨v, p, h, -, -, h2, -, hd⟩ <;> rw [h]
    · exact hd
    · trivial
    · exact ⟨h2, hd⟩

/-! ## `PString`, `Post::read` -/

theorem validUtf8_ascii : ∀ (s : List Nat), (s.all (· < 128)) = true → validUtf8 s = true := by
  intro s
  induction s with
  | nil => intro _; simp [validUtf8]
  | cons b r ih =>
    intro h
    simp at h
    unfold validUtf8
    simp [h.1]
    apply ih
    simp; exact h.2

theorem readAt_byte (d : List Nat) (v : Nat) (h : readAt d 0 1 = some v) : d[0]? = some v :=
  (readAt_u8 d 0 (.inl (by decide))).symm.trans h

theorem postRead_v2 (d : List Nat) (t : PostT) (h : postRead d = some t) :
    (t.version / 65536 = 2 → t.numGlyphs.isSome ∧ ∃ k, t.sdata = some (d.drop k)) := by
  intro hv
  unfold postRead at h
  split at h
  · simp at h
  · simp only [] at h
    split at h
    · split at h
      · simp at h
      · split at h
        · simp at h
        · split at h
          · split at h
            · simp at h
            · split at h
              · injection h with h; subst h; exact ⟨rfl, _, rfl⟩
              · simp at h
          · simp at h
    · rename_i hn
      split at h
      · injection h with h; subst h; exact absurd hv hn
      · simp at h

/-- what `Post::glyph_name` promises of each kind of answer (`A`: the table consists of bytes) -/
def GName.Good (A : Prop) : GName → Prop
  | .std i => i < 258
  | .str s => ∀ b ∈ s, b < 128
  | .trap => ¬A
  | .none => True

theorem GName.Good.spec {A : Prop} {r : GName} (h : r.Good A) :
    (A → r ≠ .trap) ∧ (∀ i, r = .std i → i < 258) ∧ (∀ s, r = .str s → ∀ b ∈ s, b < 128) :=
  ⟨fun a e => by subst e; exact h a, fun _ e => by subst e; exact h, fun _ e => by subst e; exact h⟩

end FontVerif.HandText
