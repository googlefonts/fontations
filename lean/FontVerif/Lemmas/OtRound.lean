/-
`OtRound` (write-fonts/src/round.rs) on the exact IEEE model: `floor(x + 0.5)` equals exact
"round half up" whenever the float addition `x + 0.5` does not round; analysis of the cases where
it does.
-/
import FontVerif.Lemmas.FixedConv
namespace FontVerif.FixedConv
open FontVerif.Ieee

theorem ceil_div (m G : Int) (hG : 0 < G) : (m + G - 1) / G = -((-m) / G) := by
  have h1 := Int.mul_ediv_add_emod (-m) G
  have h2 := Int.emod_nonneg (-m) (Int.ne_of_gt hG)
  have h3 := Int.emod_lt_of_pos (-m) hG
  generalize (-m) / G = q at *
  generalize (-m) % G = r at *
  have e1 : m + G - 1 = (G - 1 - r) + G * (-q) := by
    rw [Int.mul_neg]; omega
  rw [e1, Int.add_mul_ediv_left _ _ (by omega : G ≠ 0), Int.ediv_eq_zero_of_lt (by omega) (by omega)]
  omega

theorem two_pow_pred (p : Nat) (hp : 1 ≤ p) : 2 ^ p = 2 * 2 ^ (p - 1) := by
  have : p = (p - 1) + 1 := by omega
  rw [this, Nat.pow_succ]; simp; omega

theorem bitLen_le_of_lt' {n p : Nat} (h : n < 2 ^ p) : bitLen n ≤ p := bitLen_le_of_lt h

/-- the value of a finite float's floor, as an integer. -/
def floorInt (neg : Bool) (m : Nat) (e : Int) : Int :=
  if e ≥ 0 then (if neg then -1 else 1) * ((m : Int) * 2 ^ e.toNat)
  else ((if neg then -1 else 1) * (m : Int)) / 2 ^ (-e).toNat

theorem floorInt_nonpos (n : Nat) (k : Int) (hk : k ≤ 0) :
    floorInt false n k = (n : Int) / 2 ^ (-k).toNat := by
  by_cases h0 : k = 0
  · subst h0; simp [floorInt]
  · simp [floorInt, show ¬ 0 ≤ k by omega]

/-- `floor` of a float with a negative exponent, as sign and magnitude of the integer floor. -/
theorem floor_value (s : Bool) (m : Nat) (e : Int) (he : e < 0) :
    floor (.fin s m e) = .fin s (floorInt s m e).natAbs 0 ∧
      (if s then -1 else 1) * ((floorInt s m e).natAbs : Int) = floorInt s m e := by
  have hG := int_pow_pos (-e).toNat
  have hGn : 1 ≤ 2 ^ (-e).toNat := two_pow_pos _
  have hne : ¬ e ≥ 0 := by omega
  unfold floor floorInt
  simp only [hne, if_false]
  cases s
  · simp only [Bool.false_eq_true, if_false, Int.one_mul]
    have h0 : 0 ≤ (m : Int) / 2 ^ (-e).toNat := Int.ediv_nonneg (Int.natCast_nonneg m) (by omega)
    have : ((m / 2 ^ (-e).toNat : Nat) : Int) = (m : Int) / 2 ^ (-e).toNat := by
      rw [Int.natCast_ediv, int_two_pow]
    constructor
    · congr 1 <;> omega
    · omega
  · simp only [if_true]
    have e2 : (-1 : Int) * (m : Int) = -(m : Int) := by omega
    rw [e2]
    have hc := ceil_div (m : Int) ((2 : Int) ^ (-e).toNat) hG
    have h0 : 0 ≤ ((m : Int) + 2 ^ (-e).toNat - 1) / 2 ^ (-e).toNat := Int.ediv_nonneg (by omega) (by omega)
    have : (((m + 2 ^ (-e).toNat - 1) / 2 ^ (-e).toNat : Nat) : Int)
        = ((m : Int) + 2 ^ (-e).toNat - 1) / 2 ^ (-e).toNat := by
      rw [Int.natCast_ediv, int_two_pow]
      congr 1; omega
    constructor
    · congr 1 <;> omega
    · omega

theorem floor_shape (x : FVal) (hx : x ≠ .nan) :
    (∃ s, floor x = .inf s) ∨ ∃ s n k, floor x = .fin s n k ∧ 0 ≤ k := by
  cases x with
  | nan => exact absurd rfl hx
  | inf s => exact Or.inl ⟨s, rfl⟩
  | fin s m e =>
    right
    unfold floor
    by_cases h : e ≥ 0
    · simp only [h, if_true]; exact ⟨_, _, _, rfl, h⟩
    · simp only [h, if_false]
      cases s
      · exact ⟨_, _, _, rfl, Int.le_refl 0⟩
      · exact ⟨_, _, _, rfl, Int.le_refl 0⟩

theorem toIntSat_int (lo hi : Int) (s : Bool) (n : Nat) (k : Int) (hk : 0 ≤ k) :
    toIntSat lo hi (.fin s n k) = clampI lo hi ((if s then -1 else 1) * ((n : Int) * 2 ^ k.toNat)) := by
  rw [toIntSat_fin, if_pos hk]

theorem toIntSat_floor (lo hi : Int) (neg : Bool) (m : Nat) (e : Int) :
    toIntSat lo hi (floor (.fin neg m e)) = clampI lo hi (floorInt neg m e) := by
  by_cases h : e ≥ 0
  · rw [floor, if_pos h, toIntSat_int _ _ _ _ _ h, floorInt, if_pos h]
  · have hv := floor_value neg m e (by omega)
    rw [hv.1, toIntSat_int _ _ _ _ _ (Int.le_refl 0), Int.toNat_zero, Int.pow_zero, Int.mul_one, hv.2]

theorem toIntSat_big (lo hi : Int) (P : Nat) (hhi : hi < P) (hlo : -(P : Int) ≤ lo) (hlh : lo ≤ 0 ∧ 0 ≤ hi)
    (sg : Bool) (n : Nat) (k : Int) (hk : 0 ≤ k) (hn : P ≤ n) :
    toIntSat lo hi (floor (.fin sg n k)) = if sg then lo else hi := by
  have : (n : Int) * 1 ≤ (n : Int) * 2 ^ k.toNat :=
    Int.mul_le_mul_of_nonneg_left (by have := int_pow_pos k.toNat; omega) (by omega)
  rw [floor, if_pos hk, toIntSat_int _ _ _ _ _ hk]
  exact clampI_big lo hi P _ hhi hlo hlh sg (by omega)

/-- exact `floor(x + 1/2)` of `x = ±m·2^e` ("round half up"). -/
def halfUp (neg : Bool) (m : Nat) (e : Int) : Int :=
  if e ≥ 0 then (if neg then -1 else 1) * ((m : Int) * 2 ^ e.toNat)
  else (2 * ((if neg then -1 else 1) * (m : Int)) + 2 ^ (-e).toNat) / (2 * 2 ^ (-e).toNat)

theorem halfUp_ofInt (i : Int) : halfUp (decide (i < 0)) i.natAbs 0 = i := by
  rw [halfUp, if_pos (Int.le_refl 0), Int.toNat_zero, Int.pow_zero, Int.mul_one, sgn_natAbs_decide]

/-- the exact sum `x + 1/2` as an integer multiple of `2^(min e (-1))`. -/
theorem exactSum_half (s : Bool) (m : Nat) (e : Int) :
    exactSum s m e false 1 (-1) =
      if e ≥ 0 then ((if s then -1 else 1) * ((m : Int) * 2 ^ (e + 1).toNat) + 1, -1)
      else ((if s then -1 else 1) * (m : Int) + 2 ^ (-1 - e).toNat, e) := by
  unfold exactSum
  by_cases h : e ≥ 0
  · have h1 : ¬ e ≤ -1 := by omega
    have h2 : (e - -1).toNat = (e + 1).toNat := by omega
    simp [h, h1]
  · have h1 : e ≤ -1 := by omega
    simp [h, h1]

theorem halfUp_of_sum (neg : Bool) (m : Nat) (e : Int) (hlt : e < 0) (a : Int)
    (ha : (if neg then -1 else 1) * (m : Int) + 2 ^ (-1 - e).toNat = a) :
    halfUp neg m e = a / (2 * 2 ^ (-1 - e).toNat) := by
  have hG : (2 : Int) ^ (-e).toNat = 2 * 2 ^ (-1 - e).toNat := by
    have : (-e).toNat = (-1 - e).toNat + 1 := by omega
    rw [this, Int.pow_succ]; omega
  unfold halfUp
  rw [if_neg (by omega), hG, ← ha]
  generalize (if neg = true then (-1 : Int) else 1) * (m : Int) = M
  generalize (2 : Int) ^ (-1 - e).toNat = H
  rw [show 2 * M + 2 * H = (M + H) * 2 by omega, show 2 * (2 * H) = 2 * H * 2 by omega,
    Int.mul_ediv_mul_of_pos_left _ _ (by omega : (0 : Int) < 2)]

/-- integer floor of the exact sum `x + 1/2` is `halfUp`. -/
theorem floorInt_sum (neg : Bool) (m : Nat) (e : Int) :
    floorInt (decide ((exactSum neg m e false 1 (-1)).1 < 0)) (exactSum neg m e false 1 (-1)).1.natAbs
      (exactSum neg m e false 1 (-1)).2 = halfUp neg m e := by
  rw [exactSum_half]
  unfold floorInt halfUp
  by_cases h : e ≥ 0
  · simp only [h, if_true]
    have h1 : ¬ ((-1 : Int) ≥ 0) := by omega
    simp only [h1, if_false, sgn_natAbs_decide]
    have h2 : (e + 1).toNat = e.toNat + 1 := by omega
    rw [h2, Int.pow_succ]
    have : (-(-1 : Int)).toNat = 1 := by decide
    rw [this]
    rw [← Int.mul_assoc (m : Int)]
    generalize (m : Int) * 2 ^ e.toNat = X
    cases neg <;> simp <;> omega
  · simp only [h, if_false, sgn_natAbs_decide]
    have hH := int_pow_pos (-1 - e).toNat
    have h2 : (-e).toNat = (-1 - e).toNat + 1 := by omega
    rw [h2, Int.pow_succ]
    generalize (2 : Int) ^ (-1 - e).toNat = H at *
    generalize (if neg = true then (-1 : Int) else 1) * (m : Int) = M
    have e1 : 2 * M + H * 2 = (M + H) * 2 := by omega
    have e2 : 2 * (H * 2) = (H * 2) * 2 := by omega
    rw [e1, e2, Int.mul_ediv_mul_of_pos_left _ _ (by omega : (0 : Int) < 2)]

theorem add_half_ne_nan (f : Fmt) (neg : Bool) (m : Nat) (e : Int) :
    add f (.fin neg m e) half ≠ .nan := by
  unfold half add
  simp only []
  split
  · simp
  · rcases roundNE_shape f (decide ((exactSum neg m e false 1 (-1)).1 < 0))
      (exactSum neg m e false 1 (-1)).1.natAbs (exactSum neg m e false 1 (-1)).2 with h | ⟨a, b, h⟩
    · rw [h]; simp
    · rw [h]; simp

/-- "`x + 0.5` is computed without rounding": the exact sum has at most `p` significant bits
(and is in the exponent range). -/
def AddHalfExact (f : Fmt) (neg : Bool) (m : Nat) (e : Int) : Prop :=
  (exactSum neg m e false 1 (-1)).1.natAbs < 2 ^ f.p ∧ f.emin ≤ (exactSum neg m e false 1 (-1)).2 ∧
    (exactSum neg m e false 1 (-1)).2 + (bitLen (exactSum neg m e false 1 (-1)).1.natAbs : Int) ≤ f.etop

/-- a simple sufficient condition for `x + 0.5` to be exact: the exact sum fits `p` bits. -/
theorem addHalfExact_of_bound (f : Fmt) (hp : (f.p : Int) ≤ f.etop) (hemin : f.emin ≤ -1)
    (neg : Bool) (m : Nat) (e : Int) (he : f.emin ≤ e)
    (hb : (if e ≥ 0 then m * 2 ^ (e + 1).toNat + 1 else m + 2 ^ (-1 - e).toNat) < 2 ^ f.p) :
    AddHalfExact f neg m e := by
  unfold AddHalfExact
  rw [exactSum_half]
  by_cases h : e ≥ 0
  · simp only [h, if_true] at hb ⊢
    have hcast : ((m * 2 ^ (e + 1).toNat : Nat) : Int) = (m : Int) * 2 ^ (e + 1).toNat := by
      rw [Int.natCast_mul, int_two_pow]
    generalize hX : (m : Int) * 2 ^ (e + 1).toNat = X at *
    generalize m * 2 ^ (e + 1).toNat = Xn at *
    have hA : ((if neg = true then (-1 : Int) else 1) * X + 1).natAbs < 2 ^ f.p := by
      cases neg <;> simp <;> omega
    have hL := bitLen_le_of_lt hA
    exact ⟨hA, by omega, by omega⟩
  · simp only [h, if_false] at hb ⊢
    have hcast : ((2 ^ (-1 - e).toNat : Nat) : Int) = (2 : Int) ^ (-1 - e).toNat := (int_two_pow _).symm
    generalize (2 : Int) ^ (-1 - e).toNat = H at *
    generalize 2 ^ (-1 - e).toNat = Hn at *
    have hA : ((if neg = true then (-1 : Int) else 1) * (m : Int) + H).natAbs < 2 ^ f.p := by
      cases neg <;> simp <;> omega
    have hL := bitLen_le_of_lt hA
    exact ⟨hA, he, by omega⟩

/-- `ot_round` to the float type itself, when `x + 0.5` is exact: the integer `halfUp` exactly. -/
theorem otRoundF_of_exact (f : Fmt) (neg : Bool) (m : Nat) (e : Int) (hex : AddHalfExact f neg m e) :
    ∃ s n, otRoundF f (.fin neg m e) = .fin s n 0 ∧ (if s then -1 else 1) * (n : Int) = halfUp neg m e := by
  unfold otRoundF half add
  simp only []
  obtain ⟨h1, h2, h3⟩ := hex
  have hneg : (exactSum neg m e false 1 (-1)).2 < 0 := by
    rw [exactSum_half]; split <;> simp <;> omega
  by_cases hA : (exactSum neg m e false 1 (-1)).1 = 0
  · simp only [hA, if_true]
    have := floorInt_sum neg m e
    rw [hA] at this
    rw [← this]
    refine ⟨false, 0, ?_, ?_⟩
    · simp [floor]
    · simp [floorInt]
  · simp only [hA, if_false]
    rw [roundNE_exact f _ _ _ h1 h2 h3]
    have hn : (exactSum neg m e false 1 (-1)).1.natAbs ≠ 0 := by omega
    simp only [hn, if_false]
    have hv := floor_value (decide ((exactSum neg m e false 1 (-1)).1 < 0))
      (exactSum neg m e false 1 (-1)).1.natAbs _ hneg
    rw [floorInt_sum] at hv
    exact ⟨_, _, hv.1, hv.2⟩

theorem otRoundInt_of_exact (f : Fmt) (lo hi : Int) (neg : Bool) (m : Nat) (e : Int)
    (hex : AddHalfExact f neg m e) :
    otRoundInt f lo hi (.fin neg m e) = clampI lo hi (halfUp neg m e) := by
  obtain ⟨s, n, h, hv⟩ := otRoundF_of_exact f neg m e hex
  rw [otRoundInt, h, toIntSat_int _ _ _ _ _ (Int.le_refl 0), Int.toNat_zero, Int.pow_zero, Int.mul_one, hv]

structure FmtOk (f : Fmt) : Prop where
  hp2 : 2 ≤ f.p
  hpt : (f.p : Int) + 1 ≤ f.etop
  hemin : f.emin ≤ -1

theorem bitLen_of_not_exact (f : Fmt) (ok : FmtOk f) (neg : Bool) (m : Nat) (e : Int)
    (he : f.emin ≤ e) (hne : ¬ AddHalfExact f neg m e) :
    f.p < bitLen (exactSum neg m e false 1 (-1)).1.natAbs := by
  obtain ⟨hp2, hpt, hemin⟩ := ok
  apply Classical.byContradiction; intro hc
  apply hne
  have hlt := lt_of_bitLen_le (Nat.le_of_not_lt hc)
  have h2 : (exactSum neg m e false 1 (-1)).2 = if e ≥ 0 then -1 else e := by
    rw [exactSum_half]; split <;> rfl
  refine ⟨hlt, ?_, ?_⟩
  · rw [h2]; split <;> omega
  · rw [h2]; split <;> omega

/-- case `e ≥ 0` (`x` is an integer of magnitude `≥ 2^(p-1)`): both sides saturate. -/
theorem otRound_case_int (f : Fmt) (ok : FmtOk f) (lo hi : Int) (hlh : lo ≤ 0 ∧ 0 ≤ hi)
    (hhi : hi < ((2 ^ (f.p - 1) : Nat) : Int)) (hlo : -((2 ^ (f.p - 1) : Nat) : Int) ≤ lo)
    (neg : Bool) (m : Nat) (e : Int) (hge : e ≥ 0)
    (hL : f.p < bitLen (exactSum neg m e false 1 (-1)).1.natAbs) :
    otRoundInt f lo hi (.fin neg m e) = clampI lo hi (halfUp neg m e) := by
  obtain ⟨hp2, hpt, hemin⟩ := ok
  have hb := rnd_bounds _ f.p (by omega) hL
  have hbig := pow_le_of_lt_bitLen hL
  have hpp := two_pow_pred f.p (by omega)
  unfold otRoundInt otRoundF half add halfUp
  simp only [hge, if_true]
  have hA := exactSum_half neg m e
  simp only [hge, if_true] at hA
  have hY : (m : Int) * 2 ^ (e + 1).toNat = 2 * ((m : Int) * 2 ^ e.toNat) := by
    have : (e + 1).toNat = e.toNat + 1 := by omega
    rw [this, Int.pow_succ, ← Int.mul_assoc]; omega
  have hX0 : 0 ≤ (m : Int) * 2 ^ e.toNat :=
    Int.mul_nonneg (Int.natCast_nonneg m) (Int.le_of_lt (int_pow_pos _))
  rw [hY] at hA
  generalize hXd : (m : Int) * 2 ^ e.toNat = X at *
  have hne : (exactSum neg m e false 1 (-1)).1 ≠ 0 := by
    intro h0; rw [h0] at hbig; simp at hbig
  have hsgn : decide ((exactSum neg m e false 1 (-1)).1 < 0) = neg := by
    rw [hA] at hbig ⊢
    cases neg <;> simp at hbig ⊢ <;> omega
  have hA2 : (exactSum neg m e false 1 (-1)).2 = -1 := by rw [hA]
  simp only [hne, if_false, hsgn]
  rw [roundNE_inexact f neg _ _ hL (by omega), hA2]
  have hXbig : ((2 ^ (f.p - 1) : Nat) : Int) ≤ X := by
    rw [hA] at hbig
    cases neg <;> simp at hbig <;> omega
  have hrhs := clampI_big lo hi _ X hhi hlo hlh neg hXbig
  rw [hrhs]
  split
  · simp [floor, toIntSat]
  · exact toIntSat_big lo hi _ hhi hlo hlh neg _ _ (by omega) hb.1

theorem otRoundInt_inexact (f : Fmt) (lo hi : Int) (neg : Bool) (m : Nat) (e : Int)
    (he : f.emin ≤ e) (hlt : e < 0) (a : Nat)
    (ha : (if neg then -1 else 1) * (m : Int) + 2 ^ (-1 - e).toNat = (a : Int)) (hL : f.p < bitLen a) :
    otRoundInt f lo hi (.fin neg m e) =
      if e + ((bitLen a - f.p : Nat) : Int) + (bitLen (rnd a (bitLen a - f.p)) : Int) > f.etop then hi
      else clampI lo hi (floorInt false (rnd a (bitLen a - f.p)) (e + ((bitLen a - f.p : Nat) : Int))) := by
  have ha0 : a ≠ 0 := by intro h; subst h; rw [bitLen_zero] at hL; omega
  have hd : decide ((a : Int) < 0) = false := by simp
  unfold otRoundInt otRoundF half add
  simp only [exactSum_half, show ¬ e ≥ 0 by omega, if_false, ha, hd, Int.natAbs_natCast]
  rw [if_neg (by omega), roundNE_inexact f false a e hL he]
  split
  · simp [floor, toIntSat]
  · exact toIntSat_floor lo hi _ _ _

/-- rounding up to `2^p` from a sum `m + H` with `m < H = 2^(L-1)`, `m < 2^p`, happens only for
`m = 2^p - 1`, `L = p + 1`. -/
theorem rnd_eq_pow (p m H s : Nat) (hp : 2 ≤ p) (hs : 1 ≤ s) (hH : 2 * H = 2 ^ p * 2 ^ s)
    (hm : m < 2 ^ p) (hr : rnd (m + H) s = 2 ^ p) (hn : (m + H) / 2 ^ s < 2 ^ p) :
    s = 1 ∧ m = 2 ^ p - 1 := by
  unfold rnd at hr
  have hP4 : 4 ≤ 2 ^ p := by
    have : 2 ^ 2 ≤ 2 ^ p := Nat.pow_le_pow_right (by decide) hp
    omega
  have hdm := Nat.div_add_mod (m + H) (2 ^ s)
  have hrlt := Nat.mod_lt (m + H) (two_pow_pos s)
  generalize hP : 2 ^ p = P at *
  generalize hn' : (m + H) / 2 ^ s = n at *
  generalize hr' : (m + H) % 2 ^ s = r at *
  split at hr
  · rename_i hc
    have hn1 : n = P - 1 := by omega
    have h2r : 2 ^ s ≤ 2 * r := by omega
    by_cases hs1 : s = 1
    · subst hs1
      simp at hH hdm h2r hrlt
      omega
    · exfalso
      have hS : 2 ^ s = 4 * 2 ^ (s - 2) := by
        have : s = (s - 2) + 2 := by omega
        rw [this, Nat.pow_add]; simp; omega
      have hU := two_pow_pos (s - 2)
      generalize 2 ^ (s - 2) = U at *
      rw [hS] at hH hdm h2r
      subst hn1
      have hW : P * (4 * U) = 4 * (P * U) := by rw [Nat.mul_left_comm]
      have hV : (P - 1) * U + U = P * U := by
        have : P = (P - 1) + 1 := by omega
        rw [this, Nat.add_mul]; simp
      have hV1 : (P - 1) * 1 ≤ (P - 1) * U := Nat.mul_le_mul_left _ hU
      have hX : 4 * U * (P - 1) = 4 * ((P - 1) * U) := by
        rw [Nat.mul_comm (4 * U), Nat.mul_left_comm]
      rw [hW] at hH
      rw [hX] at hdm
      generalize (P - 1) * U = V at *
      generalize P * U = W at *
      omega
  · omega

/-- `a = ±m + 2^n1` has `L > p` bits: rounding off `L - p` of them does not carry into what is left
after cutting `n1 + 1 + p - L` more, except for `m = 2^p - 1`, `n1 = p`. -/
theorem rnd_no_carry (p m n1 a L : Nat) (hp2 : 2 ≤ p) (hm : m < 2 ^ p) (ha1 : a ≤ m + 2 ^ n1)
    (ha2 : 2 ^ n1 ≤ a → a = m + 2 ^ n1) (hL : p < L) (hlo : 2 ^ (L - 1) ≤ a)
    (hd : a / 2 ^ (L - p) < 2 ^ p) (hx : ¬ (2 ^ n1 ≤ a ∧ m = 2 ^ p - 1 ∧ n1 = p)) :
    rnd a (L - p) = a / 2 ^ (L - p) ∨ (a / 2 ^ (L - p) + 1) % 2 ^ (n1 + 1 + p - L) ≠ 0 := by
  have hH := two_pow_pos n1
  have hrn : rnd a (L - p) = a / 2 ^ (L - p) ∨ rnd a (L - p) = a / 2 ^ (L - p) + 1 := by
    unfold rnd; split <;> simp
  by_cases hA : L ≤ n1 + 1
  · -- at least `p` more bits are cut: both quotients vanish unless the significand rounds up to `2^p`
    have hKp : 2 ^ p ≤ 2 ^ (n1 + 1 + p - L) := Nat.pow_le_pow_right (by decide) (by omega)
    by_cases hlt' : a / 2 ^ (L - p) + 1 < 2 ^ (n1 + 1 + p - L)
    · exact Or.inr (by rw [Nat.mod_eq_of_lt hlt']; exact Nat.succ_ne_zero _)
    · left
      apply Classical.byContradiction; intro hne
      have hLn : L = n1 + 1 := by
        apply Classical.byContradiction; intro hc
        have : 2 ^ (p + 1) ≤ 2 ^ (n1 + 1 + p - L) := Nat.pow_le_pow_right (by decide) (by omega)
        rw [Nat.pow_succ] at this; omega
      have hHa : 2 ^ n1 ≤ a := by rw [show L - 1 = n1 by omega] at hlo; exact hlo
      have hae := ha2 hHa
      subst hae
      have h2H : 2 * 2 ^ n1 = 2 ^ p * 2 ^ (L - p) := by
        rw [← Nat.pow_add, ← Nat.pow_succ']; congr 1; omega
      have := rnd_eq_pow p m _ (L - p) hp2 (by omega) h2H hm (by omega) hd
      exact hx ⟨hHa, this.2, by omega⟩
  · -- `a ≥ 2H`: `a = m + H` has `p + 1` bits, one bit is dropped and `n1 < p` are cut
    have h2H : 2 ^ (n1 + 1) ≤ 2 ^ (L - 1) := Nat.pow_le_pow_right (by decide) (by omega)
    rw [Nat.pow_succ] at h2H
    have hae := ha2 (by omega)
    have hn1p : n1 < p := (Nat.pow_lt_pow_iff_right (by decide)).mp (by omega : 2 ^ n1 < 2 ^ p)
    have hLp : L = p + 1 := by
      apply Classical.byContradiction; intro hc
      have : 2 ^ (p + 1) ≤ 2 ^ (L - 1) := Nat.pow_le_pow_right (by decide) (by omega)
      rw [Nat.pow_succ] at this; omega
    subst hLp
    rw [show p + 1 - 1 = p by omega] at hlo
    rw [show p + 1 - p = 1 by omega, show n1 + 1 + p - (p + 1) = n1 by omega, Nat.pow_one]
    have hpp := two_pow_pred p (by omega)
    by_cases h0 : n1 = 0
    · -- `e = -1`: the sum is `2^p` exactly
      rw [h0, Nat.pow_zero] at hae
      left; unfold rnd; rw [Nat.pow_one, if_neg (by omega)]
    · right
      have hc : 2 ^ (p - 1) = 2 ^ n1 * 2 ^ (p - 1 - n1) := by
        rw [← Nat.pow_add]; congr 1; omega
      have hhh := two_pow_pred n1 (by omega)
      have hh0 := two_pow_pos (n1 - 1)
      rw [show a / 2 + 1 = 2 ^ n1 * 2 ^ (p - 1 - n1) + ((a - 2 ^ p) / 2 + 1) by omega,
        Nat.mul_add_mod, Nat.mod_eq_of_lt (by omega)]
      omega

/-- case `e ≤ -1` with an inexact sum `x + 1/2 = a · 2^e`, `a > 0`. -/
theorem otRound_inexact_neg_exp (f : Fmt) (ok : FmtOk f) (lo hi : Int) (neg : Bool) (m : Nat)
    (e : Int) (hm : m < 2 ^ f.p) (he : f.emin ≤ e) (hlt : e < 0) (a : Nat)
    (ha : (if neg then -1 else 1) * (m : Int) + 2 ^ (-1 - e).toNat = (a : Int)) (hL : f.p < bitLen a)
    (hx : ¬ (neg = false ∧ m = 2 ^ f.p - 1 ∧ e = -((f.p : Int) + 1))) :
    otRoundInt f lo hi (.fin neg m e) = clampI lo hi (halfUp neg m e) := by
  obtain ⟨hp2, hpt, hemin⟩ := ok
  rw [otRoundInt_inexact f lo hi neg m e he hlt a ha hL, halfUp_of_sum neg m e hlt _ ha]
  rw [int_two_pow] at ha ⊢
  obtain ⟨n1, hn1⟩ : ∃ n1 : Nat, (-1 - e).toNat = n1 := ⟨_, rfl⟩
  rw [hn1] at ha ⊢
  have hH := two_pow_pos n1
  have ha1 : a ≤ m + 2 ^ n1 ∧ (2 ^ n1 ≤ a → a = m + 2 ^ n1) := by
    cases neg <;> simp only [↓reduceIte, Bool.false_eq_true, Int.one_mul] at ha <;> omega
  have hsg : 2 ^ n1 ≤ a → neg = false ∨ m = 0 := by
    cases neg
    · exact fun _ => Or.inl rfl
    · simp only [↓reduceIte] at ha; exact fun h => Or.inr (by omega)
  have ha0 : a ≠ 0 := by intro h; subst h; rw [bitLen_zero] at hL; omega
  have hb := rnd_bounds a f.p (by omega) hL
  have hd := div_bounds a f.p (by omega) hL
  have hlo := pow_bitLen_le ha0
  have hP4 : 2 ^ 2 ≤ 2 ^ f.p := Nat.pow_le_pow_right (by decide) hp2
  -- `a < 2^p + 2^n1`: at most `n1 + 1 + p` bits
  have hLK : bitLen a ≤ n1 + f.p + 1 := by
    apply bitLen_le_of_lt
    have h1 : 2 ^ n1 ≤ 2 ^ (n1 + f.p) := Nat.pow_le_pow_right (by decide) (by omega)
    have h2 : 2 ^ f.p ≤ 2 ^ (n1 + f.p) := Nat.pow_le_pow_right (by decide) (by omega)
    rw [Nat.pow_succ]; omega
  have hx' : ¬ (2 ^ n1 ≤ a ∧ m = 2 ^ f.p - 1 ∧ n1 = f.p) := by
    intro h
    rcases hsg h.1 with h' | h'
    · exact hx ⟨h', h.2.1, by omega⟩
    · omega
  have key := rnd_no_carry f.p m n1 a (bitLen a) hp2 hm ha1.1 ha1.2 hL hlo hd.2 hx'
  clear hsg ha1 hx hx' hlo hd ha
  generalize bitLen a = L at *
  have hn'L : bitLen (rnd a (L - f.p)) ≤ f.p + 1 :=
    bitLen_le_of_lt (Nat.lt_of_le_of_lt hb.2 (Nat.pow_lt_pow_right (by decide) (by omega)))
  rw [if_neg (by omega), floorInt_nonpos _ _ (by omega),
    show (-(e + ((L - f.p : Nat) : Int))).toNat = n1 + 1 + f.p - L by omega, int_two_pow,
    ← Int.natCast_ediv, rnd_div a _ _ key, show (L - f.p) + (n1 + 1 + f.p - L) = n1 + 1 by omega,
    Nat.pow_succ, Int.natCast_ediv]
  congr 2
  omega

end FontVerif.FixedConv
