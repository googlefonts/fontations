/- The simp set `chk` (filled in Lemmas/Checked.lean: an attribute cannot be used in the module that declares it). -/
import Lean.Meta.Tactic.Simp.RegisterCommand

/-- the checked-arithmetic rules of Model/Checked: conditional rewrites, side conditions by omega -/
register_simp_attr chk
