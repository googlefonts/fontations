/-
C06: `FontBuilder::build` as the concatenation of named pieces (`build_eq`: `dirOf m ++ bodyBytes (adjOf m) (ents m)`
within the size limits `Fits`), what each directory record says about the bytes at its offset (`rec_props`), and
`FontRef::new` / `table_data` on those bytes.  `table_data`'s search is core's `binary_search_by` (`binarySearch_eq`).
-/
import FontVerif.Model.Sfnt
import FontVerif.Lemmas.Sfnt
import FontVerif.Lemmas.Layout
namespace FontVerif.Sfnt

theorem withAdj_length (adj t : Nat) (d : Bytes) : (withAdj adj t d).length = d.length := by
  unfold withAdj
  split
  · rename_i h
    simp only [List.length_append, List.length_take, List.length_drop, be4_length]
    omega
  · rfl

theorem zeroAdj_eq (t : Nat) (d : Bytes) : zeroAdj t d = withAdj 0 t d := rfl

theorem zeroAdj_length (t : Nat) (d : Bytes) : (zeroAdj t d).length = d.length :=
  withAdj_length 0 t d

theorem take8_splice (d x y : Bytes) (h : 8 ≤ d.length) : (d.take 8 ++ x ++ y).take 8 = d.take 8 := by
  have h8 : (d.take 8).length = 8 := by rw [List.length_take]; omega
  rw [List.append_assoc, List.take_left' h8]

theorem drop12_splice (d x y : Bytes) (h : 8 ≤ d.length) (hx : x.length = 4) :
    (d.take 8 ++ x ++ y).drop 12 = y := by
  have h12 : (d.take 8 ++ x).length = 12 := by rw [List.length_append, List.length_take, hx]; omega
  rw [List.drop_left' h12]

theorem withAdj_withAdj (a b t : Nat) (d : Bytes) : withAdj a t (withAdj b t d) = withAdj a t d := by
  unfold withAdj
  by_cases h : t = TAG_head ∧ 12 ≤ d.length
  · have hl : 12 ≤ (d.take 8 ++ be4 b ++ d.drop 12).length := by
      simp only [List.length_append, List.length_take, List.length_drop, be4_length]; omega
    rw [if_pos h, if_pos ⟨h.1, hl⟩, take8_splice _ _ _ (by omega),
      drop12_splice _ _ _ (by omega) (be4_length b), if_pos h]
  · rw [if_neg h, if_neg h]

theorem withAdj_zeroAdj (adj t : Nat) (d : Bytes) : withAdj adj t (zeroAdj t d) = withAdj adj t d :=
  withAdj_withAdj adj 0 t d

theorem zeroAdj_withAdj (adj t : Nat) (d : Bytes) : zeroAdj t (withAdj adj t d) = zeroAdj t d :=
  withAdj_withAdj 0 adj t d

theorem zeroAdj_idem (t : Nat) (d : Bytes) : zeroAdj t (zeroAdj t d) = zeroAdj t d :=
  withAdj_withAdj 0 0 t d

theorem rd32_be4 (v : Nat) (rest : Bytes) (h : v < 4294967296) : rd32 (be4 v ++ rest) = v := by
  simp only [be4, List.cons_append, List.nil_append, rd32, be32_be4, Nat.mod_eq_of_lt h]

theorem recBytes_length (r : Rec) : (recBytes r).length = 16 := by
  simp only [recBytes, List.length_append, be4_length]

theorem flatMap_recBytes_length (recs : List Rec) :
    (recs.flatMap recBytes).length = 16 * recs.length := by
  induction recs with
  | nil => rfl
  | cons r rest ih =>
    simp only [List.flatMap_cons, List.length_append, recBytes_length, ih, List.length_cons]; omega

def RecWF (r : Rec) : Prop :=
  r.tag < 4294967296 ∧ r.checksum < 4294967296 ∧ r.offset < 4294967296 ∧ r.length < 4294967296

theorem parseRecs_flatMap (recs : List Rec) (rest : Bytes) (h : ∀ r ∈ recs, RecWF r) :
    parseRecs recs.length (recs.flatMap recBytes ++ rest) = recs := by
  induction recs with
  | nil => rfl
  | cons r rs ih =>
    obtain ⟨h1, h2, h3, h4⟩ := h r (by simp)
    have e : (r :: rs).flatMap recBytes ++ rest
        = be4 r.tag ++ (be4 r.checksum ++ (be4 r.offset ++ (be4 r.length ++ (rs.flatMap recBytes ++ rest)))) := by
      simp only [List.flatMap_cons, recBytes, List.append_assoc]
    rw [e]
    simp only [List.length_cons, parseRecs]
    have d4 : ∀ (v : Nat) (x : Bytes), List.drop 4 (be4 v ++ x) = x := by
      intro v x; simp [be4]
    have d8 : ∀ (v w : Nat) (x : Bytes), List.drop 8 (be4 v ++ (be4 w ++ x)) = x := by
      intro v w x; simp [be4]
    have d12 : ∀ (v w u : Nat) (x : Bytes), List.drop 12 (be4 v ++ (be4 w ++ (be4 u ++ x))) = x := by
      intro v w u x; simp [be4]
    have d16 : ∀ (v w u z : Nat) (x : Bytes),
        List.drop 16 (be4 v ++ (be4 w ++ (be4 u ++ (be4 z ++ x)))) = x := by
      intro v w u z x; simp [be4]
    rw [d4, d8, d12, d16, rd32_be4 _ _ h1, rd32_be4 _ _ h2, rd32_be4 _ _ h3, rd32_be4 _ _ h4,
      ih (fun r hr => h r (by simp [hr]))]

theorem dirBytes_eq (sr es rs : Nat) (recs : List Rec) :
    dirBytes sr es rs recs = 0 :: 1 :: 0 :: 0 :: (recs.length / 256 % 256) :: (recs.length % 256) ::
      (be2 sr ++ (be2 es ++ (be2 rs ++ recs.flatMap recBytes))) := by
  simp [dirBytes, be4, be2]

theorem dirBytes_length (sr es rs : Nat) (recs : List Rec) :
    (dirBytes sr es rs recs).length = 12 + 16 * recs.length := by
  simp only [dirBytes, List.length_append, be4_length, be2_length, flatMap_recBytes_length]

/-- The directory written by `build` is read back by `FontRef::new` + `table_records()`. -/
theorem open_dir (sr es rs : Nat) (recs : List Rec) (body : Bytes) (hn : recs.length < 65536)
    (hwf : ∀ r ∈ recs, RecWF r) :
    openFont (dirBytes sr es rs recs ++ body)
        = .ok { data := dirBytes sr es rs recs ++ body, numTables := recs.length } ∧
      records { data := dirBytes sr es rs recs ++ body, numTables := recs.length } = recs := by
  have hlen := dirBytes_length sr es rs recs
  constructor
  · unfold openFont
    have h6 : ¬ (dirBytes sr es rs recs ++ body).length < 6 := by
      simp only [List.length_append, hlen]; omega
    rw [if_neg h6]
    have hn' : rd16 ((dirBytes sr es rs recs ++ body).drop 4) = recs.length := by
      rw [dirBytes_eq]; simp [rd16]; omega
    have hv : rd32 (dirBytes sr es rs recs ++ body) = 65536 := by
      rw [dirBytes_eq]; simp [rd32, be32]
    simp only [hn', hv]
    rw [if_neg (by simp only [List.length_append, hlen]; omega)]
    simp
  · unfold records
    simp only []
    have : (dirBytes sr es rs recs ++ body).drop 12 = recs.flatMap recBytes ++ body := by
      rw [dirBytes_eq]; simp [be2]
    rw [this]
    exact parseRecs_flatMap recs body hwf

/-- the fuel-indexed loop is `Layout.bsLoop` (core's `binary_search_by`) with `rec.tag.cmp(&tag)` -/
theorem bsLoop_eq (tags : List Nat) (tag : Nat) : ∀ fuel size base, size ≤ fuel →
    bsLoop tags tag fuel size base
      = Layout.bsLoop (fun i => Layout.natCmp (tags.getD i 0) tag) size base := by
  intro fuel
  induction fuel with
  | zero =>
    intro size base h
    rw [bsLoop, Layout.bsLoop_one (by omega)]
  | succ fuel ih =>
    intro size base h
    rw [bsLoop]
    by_cases hs : 1 < size
    · rw [if_pos hs]
      simp only []
      rw [ih _ _ (by omega)]
      by_cases hc : tag < tags.getD (base + size / 2) 0
      · rw [if_pos hc, Layout.bsLoop_gt hs (by
          rw [Layout.natCmp, if_neg (by omega), if_neg (by omega)])]
      · rw [if_neg hc, Layout.bsLoop_not_gt hs (by
          rw [Layout.natCmp]; split
          · simp
          · rw [if_pos (by omega)]; simp)]
    · rw [if_neg hs, Layout.bsLoop_one hs]

theorem binarySearch_eq (tags : List Nat) (tag : Nat) :
    binarySearch tags tag =
      match Layout.binarySearchBy tags.length (fun i => Layout.natCmp (tags.getD i 0) tag) with
      | .ok i => some i
      | .err _ => none := by
  unfold binarySearch Layout.binarySearchBy
  by_cases h0 : tags.length = 0
  · rw [if_pos h0, if_pos h0]
  · rw [if_neg h0, if_neg h0]
    simp only []
    rw [bsLoop_eq tags tag _ _ _ (Nat.le_refl _)]
    generalize Layout.bsLoop _ tags.length 0 = b
    rw [Layout.natCmp]
    by_cases h1 : tags.getD b 0 < tag
    · rw [if_pos h1, if_neg (by omega)]
    · rw [if_neg h1]
      by_cases h2 : tags.getD b 0 = tag
      · rw [if_pos h2, if_pos h2]
      · rw [if_neg h2, if_neg h2]

theorem binarySearch_found (tags : List Nat) (hs : tags.Pairwise (· < ·)) (i : Nat)
    (hi : i < tags.length) : binarySearch tags tags[i] = some i := by
  have := (Layout.bs_list tags 0 (fun x => Layout.natCmp x tags[i])
    (Layout.mono_natCmp tags 0 id tags[i] hs) (Layout.key_unique (key := id) tags[i] hs)).1 i hi
    (Layout.natCmp_eq.2 rfl)
  rw [binarySearch_eq]
  simp only [List.getD_eq_getElem?_getD] at this ⊢
  rw [this]

theorem binarySearch_some (tags : List Nat) (t idx : Nat) (h : binarySearch tags t = some idx) :
    ∃ hi : idx < tags.length, tags[idx] = t := by
  rw [binarySearch_eq] at h
  split at h
  · rename_i i hb
    obtain ⟨hlt, _, he⟩ := BinSearch.ok_getD (cmp := fun x => Layout.natCmp x t) hb
    cases h
    exact ⟨hlt, Layout.natCmp_eq.1 he⟩
  · cases h

theorem binarySearch_absent (tags : List Nat) (t : Nat) (h : t ∉ tags) : binarySearch tags t = none := by
  cases hb : binarySearch tags t with
  | none => rfl
  | some idx =>
    obtain ⟨hi, he⟩ := binarySearch_some tags t idx hb
    exact absurd (he ▸ List.getElem_mem hi) h

theorem copyMissing_inv (P : Tables → Prop) (f : Font) (m : Tables) (h0 : P m)
    (hstep : ∀ m t d, P m → contains m t = false → P (insert t d m)) : P (copyMissing f m) := by
  refine foldl_inv P _ _ (fun m r _ hm => ?_) m h0
  split
  · exact hm
  · rename_i hc
    split
    · exact hstep _ _ _ hm (by simpa using hc)
    · exact hm

theorem log2_le_15 (n : Nat) (h : n ≤ 65535) : Nat.log2 n ≤ 15 := by
  by_cases h0 : n = 0
  · subst h0; decide
  · have : Nat.log2 n < 16 := (Nat.log2_lt h0).2 (by omega)
    omega

theorem searchRange_sat (n : Nat) (h1 : 4096 ≤ n) (h2 : n ≤ 65535) :
    searchRange n 16 = (65535, Nat.log2 n, min (n * 16 - 2 ^ Nat.log2 n * 16) 65535) := by
  unfold searchRange
  have hl := log2_le_15 n h2
  have hp : 4096 ≤ 2 ^ Nat.log2 n := by
    have h12 : 12 ≤ Nat.log2 n := (Nat.le_log2 (by omega)).2 (by omega)
    have : 2 ^ 12 ≤ 2 ^ Nat.log2 n := Nat.pow_le_pow_right (by omega) h12
    omega
  simp only []
  rw [if_neg (by omega), if_pos (by omega)]
  congr 2
  split <;> omega

theorem searchRange_u16 (n sz : Nat) :
    (searchRange n sz).1 < 65536 ∧ (searchRange n sz).2.1 < 65536 ∧ (searchRange n sz).2.2 < 65536 := by
  unfold searchRange
  simp only []
  refine ⟨?_, ?_, ?_⟩ <;> split <;> omega

theorem wrappingSum_eq (xs : List Nat) : wrappingSum xs = xs.sum % 4294967296 := by
  unfold wrappingSum
  suffices h : ∀ a, a < 4294967296 →
      xs.foldl (fun a c => (a + c) % 4294967296) a = (a + xs.sum) % 4294967296 by
    simpa using h 0 (by omega)
  induction xs with
  | nil => intro a ha; simp only [List.foldl_nil, List.sum_nil]; omega
  | cons x rest ih =>
    intro a ha
    simp only [List.foldl_cons, List.sum_cons]
    rw [ih _ (Nat.mod_lt _ (by omega))]
    omega

theorem orderedEntries_perm (m : Tables) : (orderedEntries m).Perm m := by
  unfold orderedEntries
  exact List.mergeSort_perm _ _

/-- bytes occupied by the padded tables -/
def bodyLen : Tables → Nat
  | [] => 0
  | e :: rest => round4 e.2.length + bodyLen rest

/-- size of the file `build` produces: header, 16 bytes per record, padded tables -/
def fileSize (m : Tables) : Nat := 12 + 16 * m.length + bodyLen m

theorem bodyLen_perm {a b : Tables} (h : a.Perm b) : bodyLen a = bodyLen b := by
  induction h with
  | nil => rfl
  | cons x _ ih => simp only [bodyLen, ih]
  | swap x y l => simp only [bodyLen]; omega
  | trans _ _ ih1 ih2 => omega

theorem bodyLen_map_zeroAdj (es : Tables) :
    bodyLen (es.map (fun e => (e.1, zeroAdj e.1 e.2))) = bodyLen es := by
  induction es with
  | nil => rfl
  | cons e rest ih => simp only [List.map_cons, bodyLen, zeroAdj_length, ih]

theorem bodyBytes_cons (adj : Nat) (e : Nat × Bytes) (rest : Tables) : bodyBytes adj (e :: rest)
    = (withAdj adj e.1 e.2 ++ zeros (round4 e.2.length - e.2.length)) ++ bodyBytes adj rest := by
  simp only [bodyBytes, List.flatMap_cons]

/-- a table as `build` lays it down, padding included -/
theorem chunk_length (adj t : Nat) (d : Bytes) :
    (withAdj adj t d ++ zeros (round4 d.length - d.length)).length = round4 d.length := by
  have := round4_ge d.length
  simp only [List.length_append, withAdj_length, zeros, List.length_replicate]; omega

theorem bodyBytes_length (adj : Nat) (es : Tables) : (bodyBytes adj es).length = bodyLen es := by
  induction es with
  | nil => rfl
  | cons e rest ih => rw [bodyBytes_cons, List.length_append, chunk_length, ih, bodyLen]

/-- the records `layout` produces when nothing overflows -/
def layoutRecs : Tables → Nat → List Rec
  | [], _ => []
  | e :: rest, pos =>
    { tag := e.1, checksum := checksum e.2, offset := pos, length := e.2.length } ::
      layoutRecs rest (pos + round4 e.2.length)

theorem layout_eq (es : Tables) (pos : Nat) (h : pos + bodyLen es < 4294967296) :
    layout es pos = some (layoutRecs es pos) := by
  induction es generalizing pos with
  | nil => rfl
  | cons e rest ih =>
    obtain ⟨t, d⟩ := e
    simp only [bodyLen] at h
    have h1 := round4_ge d.length
    have h2 := round4_lt d.length
    have hl : d.length % 4294967296 = d.length := Nat.mod_eq_of_lt (by omega)
    have hp : (round4 d.length - d.length) % 4294967296 = round4 d.length - d.length :=
      Nat.mod_eq_of_lt (by omega)
    have hpos : pos + d.length + (round4 d.length - d.length) = pos + round4 d.length := by omega
    simp only [layout, hl, hp, hpos]
    rw [if_neg (by omega), if_neg (by omega), ih (pos + round4 d.length) (by omega)]
    simp only [layoutRecs]

theorem layoutRecs_length (es : Tables) (pos : Nat) : (layoutRecs es pos).length = es.length := by
  induction es generalizing pos with
  | nil => rfl
  | cons e rest ih => simp only [layoutRecs, List.length_cons, ih]

theorem layoutRecs_tags (es : Tables) (pos : Nat) :
    (layoutRecs es pos).map (·.tag) = es.map Prod.fst := by
  induction es generalizing pos with
  | nil => rfl
  | cons e rest ih => simp only [layoutRecs, List.map_cons, ih]

theorem layoutRecs_checksums (es : Tables) (pos : Nat) :
    (layoutRecs es pos).map (·.checksum) = es.map (fun e => checksum e.2) := by
  induction es generalizing pos with
  | nil => rfl
  | cons e rest ih => simp only [layoutRecs, List.map_cons, ih]

theorem layout_slice (adj : Nat) : ∀ (es : Tables) (pos : Nat) (pre : Bytes),
    pre.length = pos → ∀ r ∈ layoutRecs es pos, ∃ d, (r.tag, d) ∈ es ∧ r.length = d.length ∧
      r.checksum = checksum d ∧ pos ≤ r.offset ∧ (r.offset - pos) % 4 = 0 ∧
      r.offset + round4 d.length ≤ pos + bodyLen es ∧
      ((pre ++ bodyBytes adj es).drop r.offset).take (round4 d.length)
        = withAdj adj r.tag d ++ zeros (round4 d.length - d.length) := by
  intro es
  induction es with
  | nil => intro pos pre _ r hr; simp [layoutRecs] at hr
  | cons e rest ih =>
    intro pos pre hpre r hr
    obtain ⟨t, d⟩ := e
    have hge := round4_ge d.length
    have hchunk := chunk_length adj t d
    simp only [layoutRecs, List.mem_cons] at hr
    rw [bodyBytes_cons]
    rcases hr with rfl | hr
    · refine ⟨d, by simp, rfl, rfl, Nat.le_refl _, by simp, by simp only [bodyLen]; omega, ?_⟩
      simp only []
      rw [List.drop_left' hpre, List.take_left' hchunk]
    · have := ih (pos + round4 d.length) (pre ++ (withAdj adj t d ++ zeros (round4 d.length - d.length)))
        (by rw [List.length_append, hchunk, hpre]) r hr
      obtain ⟨d', hmem, hlen, hcs, hpos, hmod, hend, hsl⟩ := this
      refine ⟨d', by simp [hmem], hlen, hcs, by omega, ?_, by simp only [bodyLen]; omega, ?_⟩
      · have := round4_mod d.length
        omega
      · rw [← List.append_assoc]; exact hsl

/-- the tables in `ordered_tags` order with the head adjustment zeroed (state after loop 1) -/
def ents (m : Tables) : Tables := (orderedEntries m).map (fun e => (e.1, zeroAdj e.1 e.2))

def recsOf (m : Tables) : List Rec := layoutRecs (ents m) (12 + m.length * 16)

def sortedOf (m : Tables) : List Rec := (recsOf m).mergeSort (fun a b => decide (a.tag ≤ b.tag))

def dirOf (m : Tables) : Bytes :=
  dirBytes (searchRange m.length 16).1 (searchRange m.length 16).2.1 (searchRange m.length 16).2.2
    (sortedOf m)

def adjOf (m : Tables) : Nat :=
  (0xB1B0AFBA + 4294967296
    - wrappingSum ((recsOf m).map (·.checksum) ++ [checksum (dirOf m)])) % 4294967296

/-- the container's size limits: the table count fits the `u16` `numTables`, positions fit `u32` -/
def Fits (m : Tables) : Prop := m.length ≤ 65535 ∧ fileSize m < 4294967296

/-- builder invariant plus "tags are `u32`s" -/
def WFMap (m : Tables) : Prop := Sorted m ∧ ∀ e ∈ m, e.1 < 4294967296

theorem ents_bodyLen (m : Tables) : bodyLen (ents m) = bodyLen m := by
  unfold ents
  rw [bodyLen_map_zeroAdj, bodyLen_perm (orderedEntries_perm m)]

theorem ents_length (m : Tables) : (ents m).length = m.length := by
  unfold ents
  rw [List.length_map, (orderedEntries_perm m).length_eq]

theorem build_eq (m : Tables) (h : Fits m) :
    build m = some (dirOf m ++ bodyBytes (adjOf m) (ents m)) := by
  obtain ⟨hn, hsz⟩ := h
  unfold fileSize at hsz
  have hhdr : (4 + 2 * 4 + m.length * 16) % 4294967296 = 12 + m.length * 16 := by omega
  have hlay := layout_eq (ents m) (12 + m.length * 16) (by rw [ents_bodyLen]; omega)
  simp only [ents] at hlay
  unfold build
  simp only [hhdr, hlay]
  rw [if_neg (by omega)]
  rfl

theorem mem_ents (m : Tables) (t : Nat) (d' : Bytes) :
    (t, d') ∈ ents m ↔ ∃ d, (t, d) ∈ m ∧ d' = zeroAdj t d := by
  unfold ents
  simp only [List.mem_map]
  constructor
  · rintro ⟨e, he, heq⟩
    have := Prod.mk.inj heq
    refine ⟨e.2, ?_, ?_⟩
    · rw [← this.1]; exact (orderedEntries_perm m).mem_iff.1 he
    · rw [← this.1]; exact this.2.symm
  · rintro ⟨d, hd, rfl⟩
    exact ⟨(t, d), (orderedEntries_perm m).mem_iff.2 hd, rfl⟩

theorem sortedOf_perm (m : Tables) : (sortedOf m).Perm (recsOf m) := by
  unfold sortedOf
  exact List.mergeSort_perm _ _

theorem sortedOf_length (m : Tables) : (sortedOf m).length = m.length := by
  rw [(sortedOf_perm m).length_eq]
  unfold recsOf
  rw [layoutRecs_length, ents_length]

theorem dirOf_length (m : Tables) : (dirOf m).length = 12 + m.length * 16 := by
  unfold dirOf
  rw [dirBytes_length, sortedOf_length]; omega

theorem sortedOf_tags (m : Tables) (h : Sorted m) : (sortedOf m).map (·.tag) = m.map Prod.fst := by
  have hp : ((sortedOf m).map (·.tag)).Perm (m.map Prod.fst) := by
    have h1 := (sortedOf_perm m).map (·.tag)
    have h2 : (recsOf m).map (·.tag) = (orderedEntries m).map Prod.fst := by
      unfold recsOf ents
      rw [layoutRecs_tags, List.map_map]; rfl
    rw [h2] at h1
    exact h1.trans ((orderedEntries_perm m).map Prod.fst)
  have hs1 : ((sortedOf m).map (·.tag)).Pairwise (· ≤ ·) := by
    unfold sortedOf
    rw [List.pairwise_map]
    have := List.pairwise_mergeSort (le := fun (a b : Rec) => decide (a.tag ≤ b.tag))
      (by intro a b c; simp only [decide_eq_true_eq]; omega)
      (by intro a b; simp only [Bool.or_eq_true, decide_eq_true_eq]; omega) (recsOf m)
    simpa only [decide_eq_true_eq] using this
  have hs2 : (m.map Prod.fst).Pairwise (· ≤ ·) := by
    unfold Sorted at h
    rw [List.pairwise_map]
    exact h.imp (fun h => Nat.le_of_lt h)
  exact hp.eq_of_pairwise (fun a b _ _ h1 h2 => Nat.le_antisymm h1 h2) hs1 hs2

theorem rec_props (m : Tables) (r : Rec) (hr : r ∈ sortedOf m) :
    ∃ d, (r.tag, d) ∈ m ∧ r.length = d.length ∧ r.checksum = checksum (zeroAdj r.tag d) ∧
      12 + m.length * 16 ≤ r.offset ∧ r.offset % 4 = 0 ∧
      r.offset + round4 d.length ≤ (dirOf m ++ bodyBytes (adjOf m) (ents m)).length ∧
      ((dirOf m ++ bodyBytes (adjOf m) (ents m)).drop r.offset).take (round4 d.length)
        = withAdj (adjOf m) r.tag (zeroAdj r.tag d) ++ zeros (round4 d.length - d.length) := by
  have hr' : r ∈ recsOf m := (sortedOf_perm m).mem_iff.1 hr
  unfold recsOf at hr'
  obtain ⟨d', hmem, hlen, hcs, hpos, hmod, hend, hsl⟩ :=
    layout_slice (adjOf m) (ents m) (12 + m.length * 16) (dirOf m) (dirOf_length m) r hr'
  obtain ⟨d, hd, rfl⟩ := (mem_ents m r.tag d').1 hmem
  rw [zeroAdj_length] at hlen hend hsl
  refine ⟨d, hd, hlen, hcs, hpos, by omega, ?_, ?_⟩
  · rw [List.length_append, dirOf_length, bodyBytes_length]; exact hend
  · exact hsl

theorem rec_wf (m : Tables) (hw : WFMap m) (hf : Fits m) (r : Rec) (hr : r ∈ sortedOf m) : RecWF r := by
  obtain ⟨d, hd, hlen, hcs, hpos, hmod, hend, hsl⟩ := rec_props m r hr
  have hsz := hf.2
  unfold fileSize at hsz
  rw [List.length_append, dirOf_length, bodyBytes_length, ents_bodyLen] at hend
  have := round4_ge d.length
  refine ⟨hw.2 _ hd, ?_, by omega, by omega⟩
  rw [hcs]; exact checksum_lt _

theorem rec_exists (m : Tables) (hw : WFMap m) (t : Nat) (d : Bytes) (h : (t, d) ∈ m) :
    ∃ i, ∃ hi : i < (sortedOf m).length, ∃ hi' : i < (m.map Prod.fst).length,
      (sortedOf m)[i].tag = t ∧ (m.map Prod.fst)[i] = t := by
  obtain ⟨i, hi, he⟩ := List.getElem_of_mem h
  have htags := sortedOf_tags m hw.1
  have hi1 : i < (sortedOf m).length := by rw [sortedOf_length]; exact hi
  have hi2 : i < (m.map Prod.fst).length := by rw [List.length_map]; exact hi
  refine ⟨i, hi1, hi2, ?_, ?_⟩
  · have : ((sortedOf m).map (·.tag))[i]'(by rw [List.length_map]; exact hi1) = (m.map Prod.fst)[i] := by
      simp only [htags]
    rw [List.getElem_map] at this
    rw [this, List.getElem_map, he]
  · rw [List.getElem_map, he]

theorem checksum_bodyBytes (adj : Nat) (es : Tables) :
    checksum (bodyBytes adj es)
      = (es.map (fun e => checksum (withAdj adj e.1 e.2))).sum % 4294967296 := by
  induction es with
  | nil => simp [bodyBytes, checksum, checksumAux]
  | cons e rest ih =>
    have hlen : (withAdj adj e.1 e.2 ++ zeros (round4 e.2.length - e.2.length)).length % 4 = 0 := by
      rw [chunk_length]; exact round4_mod e.2.length
    have hpad : checksum (withAdj adj e.1 e.2 ++ zeros (round4 e.2.length - e.2.length))
        = checksum (withAdj adj e.1 e.2) := by
      have := checksum_pad (withAdj adj e.1 e.2)
      rw [withAdj_length] at this
      exact this
    rw [bodyBytes_cons, checksum_append _ _ hlen, hpad, ih]
    simp only [List.map_cons, List.sum_cons]
    omega

theorem checksum_withAdj_head (adj : Nat) (d : Bytes) (h : 12 ≤ d.length) :
    checksum (withAdj adj TAG_head (zeroAdj TAG_head d))
      = (checksum (zeroAdj TAG_head d) + adj) % 4294967296 := by
  rw [withAdj_zeroAdj]
  unfold withAdj zeroAdj
  rw [if_pos ⟨rfl, h⟩, if_pos ⟨rfl, h⟩]
  have h8 : (d.take 8).length % 4 = 0 := by rw [List.length_take]; omega
  simp only [checksum_eq, List.append_assoc]
  rw [csSpec_append _ _ h8, csSpec_append _ _ h8,
    csSpec_append (be4 adj) _ (by rw [be4_length]), csSpec_append [0, 0, 0, 0] _ (by rfl), csSpec_be4]
  have : csSpec [0, 0, 0, 0] = 0 := by simp [csSpec, be32]
  rw [this]
  omega

theorem sum_withAdj_nohead (adj : Nat) (E : Tables)
    (h : ∀ e ∈ E, ¬ (e.1 = TAG_head ∧ 12 ≤ e.2.length)) :
    E.map (fun e => checksum (withAdj adj e.1 (zeroAdj e.1 e.2)))
      = E.map (fun e => checksum (zeroAdj e.1 e.2)) := by
  apply List.map_congr_left
  intro e he
  have := h e he
  rw [withAdj_zeroAdj]
  unfold withAdj zeroAdj
  rw [if_neg this, if_neg this]

theorem sum_withAdj_head (adj : Nat) (E : Tables)
    (hn : (E.map Prod.fst).Nodup) (d : Bytes) (hd : (TAG_head, d) ∈ E) (hl : 12 ≤ d.length) :
    (E.map (fun e => checksum (withAdj adj e.1 (zeroAdj e.1 e.2)))).sum % 4294967296
      = ((E.map (fun e => checksum (zeroAdj e.1 e.2))).sum + adj) % 4294967296 := by
  induction E with
  | nil => simp at hd
  | cons e rest ih =>
    simp only [List.map_cons, List.nodup_cons, List.mem_map, not_exists, not_and] at hn
    simp only [List.mem_cons] at hd
    simp only [List.map_cons, List.sum_cons]
    rcases hd with rfl | hd
    · have hno : ∀ x ∈ rest, ¬ (x.1 = TAG_head ∧ 12 ≤ x.2.length) := by
        intro x hx hc
        exact hn.1 x hx hc.1
      dsimp only
      rw [sum_withAdj_nohead adj rest hno, checksum_withAdj_head adj d hl]
      omega
    · have hne : ¬ (e.1 = TAG_head ∧ 12 ≤ e.2.length) := by
        intro hc
        exact hn.1 (TAG_head, d) hd hc.1.symm
      have he : checksum (withAdj adj e.1 (zeroAdj e.1 e.2)) = checksum (zeroAdj e.1 e.2) := by
        rw [withAdj_zeroAdj]
        unfold withAdj zeroAdj
        rw [if_neg hne, if_neg hne]
      have := ih hn.2 hd
      rw [he]
      omega

theorem whole_checksum (m : Tables) (hs : Sorted m) (d : Bytes) (hd : (TAG_head, d) ∈ m)
    (hl : 12 ≤ d.length) :
    checksum (dirOf m ++ bodyBytes (adjOf m) (ents m)) = 0xB1B0AFBA := by
  have hA : adjOf m < 4294967296 := by unfold adjOf; exact Nat.mod_lt _ (by omega)
  have hdir : (dirOf m).length % 4 = 0 := by rw [dirOf_length]; omega
  have hnodup : ((orderedEntries m).map Prod.fst).Nodup :=
    ((orderedEntries_perm m).map Prod.fst).nodup_iff.2 (sorted_nodup_tags m hs)
  have hmem : (TAG_head, d) ∈ orderedEntries m := (orderedEntries_perm m).mem_iff.2 hd
  have key := sum_withAdj_head (adjOf m) (orderedEntries m) hnodup d hmem hl
  have hbody : ((ents m).map (fun e => checksum (withAdj (adjOf m) e.1 e.2)))
      = (orderedEntries m).map (fun e => checksum (withAdj (adjOf m) e.1 (zeroAdj e.1 e.2))) := by
    unfold ents; rw [List.map_map]; rfl
  have hrecs : (recsOf m).map (·.checksum)
      = (orderedEntries m).map (fun e => checksum (zeroAdj e.1 e.2)) := by
    unfold recsOf ents; rw [layoutRecs_checksums, List.map_map]; rfl
  have hadj : adjOf m = (0xB1B0AFBA + 4294967296
      - (((orderedEntries m).map (fun e => checksum (zeroAdj e.1 e.2))).sum
          + checksum (dirOf m)) % 4294967296) % 4294967296 := by
    have e : adjOf m = (0xB1B0AFBA + 4294967296
        - wrappingSum ((recsOf m).map (·.checksum) ++ [checksum (dirOf m)])) % 4294967296 := rfl
    rw [e, wrappingSum_eq, hrecs, List.sum_append]
    simp only [List.sum_cons, List.sum_nil, Nat.add_zero]
  rw [checksum_append _ _ hdir, checksum_bodyBytes, hbody]
  generalize ((orderedEntries m).map
    (fun e => checksum (withAdj (adjOf m) e.1 (zeroAdj e.1 e.2)))).sum = S1 at key ⊢
  generalize ((orderedEntries m).map (fun e => checksum (zeroAdj e.1 e.2))).sum = S0 at key hadj
  generalize checksum (dirOf m) = C at hadj ⊢
  generalize adjOf m = A at key hadj hA
  omega

theorem built_font (m : Tables) (hw : WFMap m) (hf : Fits m) (f : Bytes) (hb : build m = some f) :
    f = dirOf m ++ bodyBytes (adjOf m) (ents m) ∧
      openFont f = .ok { data := f, numTables := m.length } ∧
      records { data := f, numTables := m.length } = sortedOf m := by
  rw [build_eq m hf] at hb
  simp only [Option.some.injEq] at hb
  subst hb
  have hn : (sortedOf m).length < 65536 := by rw [sortedOf_length]; have := hf.1; omega
  have := open_dir (searchRange m.length 16).1 (searchRange m.length 16).2.1
    (searchRange m.length 16).2.2 (sortedOf m) (bodyBytes (adjOf m) (ents m)) hn
    (fun r hr => rec_wf m hw hf r hr)
  rw [sortedOf_length] at this
  exact ⟨rfl, this.1, this.2⟩

theorem built_tableData (m : Tables) (hw : WFMap m) (hf : Fits m) (f : Bytes) (hb : build m = some f)
    (t : Nat) (d : Bytes) (h : (t, d) ∈ m) :
    tableData { data := f, numTables := m.length } t = some (withAdj (adjOf m) t d) := by
  obtain ⟨rfl, _, hrecs⟩ := built_font m hw hf f hb
  rw [tableData, hrecs]
  obtain ⟨i, hi1, hi2, ht1, ht2⟩ := rec_exists m hw t d h
  have hbs : binarySearch ((sortedOf m).map (·.tag)) t = some i := by
    rw [sortedOf_tags m hw.1, ← ht2]
    exact binarySearch_found _ (sorted_tags_pairwise m hw.1) i hi2
  have hr : (sortedOf m)[i] ∈ sortedOf m := List.getElem_mem hi1
  obtain ⟨d', hd', hlen, hcs, hpos, hmod, hend, hsl⟩ := rec_props m _ hr
  rw [ht1] at hd' hsl
  have hdd : d' = d := sorted_unique m hw.1 t d' d hd' h
  subst hdd
  have hge := round4_ge d'.length
  unfold tableDataIn
  simp only [hbs, List.getElem?_eq_getElem hi1]
  rw [if_neg (by omega), if_pos (by omega), hlen]
  have hx : (withAdj (adjOf m) t (zeroAdj t d')).length = d'.length := by
    rw [withAdj_length, zeroAdj_length]
  have : List.take d'.length (List.drop (sortedOf m)[i].offset
      (dirOf m ++ bodyBytes (adjOf m) (ents m)))
      = List.take d'.length (List.take (round4 d'.length) (List.drop (sortedOf m)[i].offset
          (dirOf m ++ bodyBytes (adjOf m) (ents m)))) := by
    rw [List.take_take, Nat.min_eq_left hge]
  rw [this, hsl, List.take_left' hx, withAdj_zeroAdj]

theorem built_tableData_absent (m : Tables) (hw : WFMap m) (hf : Fits m) (f : Bytes) (hb : build m = some f)
    (t : Nat) (h : t ∉ m.map Prod.fst) : tableData { data := f, numTables := m.length } t = none := by
  rw [tableData, (built_font m hw hf f hb).2.2, tableDataIn, sortedOf_tags m hw.1, binarySearch_absent _ _ h]

end FontVerif.Sfnt
