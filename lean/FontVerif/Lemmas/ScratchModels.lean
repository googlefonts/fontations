/-
The value stack and `read_points_fast` read only what they have written
(Model/ScratchModels.lean).
-/
import FontVerif.Model.ScratchModels
import FontVerif.Lemmas.Lists
namespace FontVerif.ScratchModels

/-- same shape, and equal contents below `len` -/
def Sim (a b : VS) : Prop :=
  a.cap = b.cap ∧ a.len = b.len ∧ a.pedantic = b.pedantic ∧ a.len ≤ a.cap ∧ ∀ j, j < a.len → a.vals j = b.vals j

/-- two results of a stack operation agree: same answer, states still in step -/
def SimR {ρ : Type} (x y : VS × ρ) : Prop := x.2 = y.2 ∧ Sim x.1 y.1

theorem push_sim (a b : VS) (v : Int) (h : Sim a b) : SimR (a.push v) (b.push v) := by
  obtain ⟨av, ac, al, ap⟩ := a
  obtain ⟨bv, bc, bl, bp⟩ := b
  simp only [Sim] at h
  obtain ⟨rfl, rfl, rfl, hle, hv⟩ := h
  simp only [VS.push]
  split
  · refine ⟨rfl, rfl, rfl, rfl, by simp only; omega, ?_⟩
    intro j hj
    simp only at hj
    simp only [upd]
    split
    · rfl
    · exact hv j (by omega)
  · exact ⟨rfl, rfl, rfl, rfl, hle, hv⟩

theorem writeMany_spec : ∀ (vs : List Int) (f : Nat → Int) (base j : Nat),
    writeMany f base vs j = if base ≤ j ∧ j < base + vs.length then vs.getD (j - base) 0 else f j
  | [], f, base, j => by
    simp only [writeMany, List.length_nil, Nat.add_zero]
    split
    · omega
    · rfl
  | v :: vs, f, base, j => by
    simp only [writeMany, writeMany_spec vs, List.length_cons, upd]
    by_cases h1 : j = base
    · subst h1
      have : ¬ (j + 1 ≤ j ∧ j < j + 1 + vs.length) := by omega
      simp [this]
    · by_cases h2 : base + 1 ≤ j ∧ j < base + 1 + vs.length
      · have h3 : base ≤ j ∧ j < base + (vs.length + 1) := by omega
        simp only [h2, h3, and_self, if_true]
        have : j - base = (j - (base + 1)) + 1 := by omega
        rw [this]; simp
      · have h3 : ¬ (base ≤ j ∧ j < base + (vs.length + 1)) := by omega
        simp [h2, h3, h1]

theorem pushMany_sim (a b : VS) (vs : List Int) (h : Sim a b) : SimR (a.pushMany vs) (b.pushMany vs) := by
  obtain ⟨av, ac, al, ap⟩ := a
  obtain ⟨bv, bc, bl, bp⟩ := b
  simp only [Sim] at h
  obtain ⟨rfl, rfl, rfl, hle, hv⟩ := h
  simp only [VS.pushMany]
  split
  · refine ⟨rfl, rfl, rfl, rfl, by simp only; omega, ?_⟩
    intro j hj
    simp only at hj
    simp only [writeMany_spec]
    split
    · rfl
    · exact hv j (by omega)
  · exact ⟨rfl, rfl, rfl, rfl, hle, hv⟩

theorem peek_sim (a b : VS) (h : Sim a b) : a.peek = b.peek := by
  obtain ⟨hc, hl, hp, hle, hv⟩ := h
  unfold VS.peek
  rw [← hl]
  split
  · rw [hv _ (by omega)]
  · rfl

theorem pop_sim (a b : VS) (h : Sim a b) : SimR a.pop b.pop := by
  have hpk := peek_sim a b h
  obtain ⟨hc, hl, hp, hle, hv⟩ := h
  unfold VS.pop
  rw [← hpk]
  cases hk : a.peek with
  | some v =>
    refine ⟨rfl, hc, by simp [hl], hp, by simp; omega, ?_⟩
    intro j hj
    exact hv j (by simp at hj; omega)
  | none =>
    simp only [← hp]
    split <;> exact ⟨rfl, hc, hl, hp, hle, hv⟩

theorem dup_sim (a b : VS) (h : Sim a b) : SimR a.dup b.dup := by
  have hpk := peek_sim a b h
  unfold VS.dup
  rw [← hpk]
  cases hk : a.peek with
  | some v => exact push_sim a b v h
  | none =>
    simp only [← h.2.2.1]
    split
    · exact ⟨rfl, h⟩
    · exact push_sim a b 0 h

/-- `let v = pop()?; k(v)` on two stacks in step -/
theorem SimR.popThen {a b : VS} {k : VS → Int → VS × Option VErr} (h : Sim a b)
    (hk : ∀ a' b' v, Sim a' b' → SimR (k a' v) (k b' v)) :
    SimR (match a.pop with | (s, .error e) => (s, some e) | (s, .ok v) => k s v)
         (match b.pop with | (s, .error e) => (s, some e) | (s, .ok v) => k s v) := by
  obtain ⟨hr, hs⟩ := pop_sim a b h
  rcases ha : a.pop with ⟨a1, ra⟩
  rcases hb : b.pop with ⟨b1, rb⟩
  rw [ha, hb] at hr hs
  cases hr
  cases ra with
  | error e => exact ⟨rfl, hs⟩
  | ok v => exact hk a1 b1 v hs

/-- `push(v)?; k` on two stacks in step -/
theorem SimR.pushThen {a b : VS} (v : Int) {k : VS → VS × Option VErr} (h : Sim a b)
    (hk : ∀ a' b', Sim a' b' → SimR (k a') (k b')) :
    SimR (match a.push v with | (s, some e) => (s, some e) | (s, none) => k s)
         (match b.push v with | (s, some e) => (s, some e) | (s, none) => k s) := by
  obtain ⟨hr, hs⟩ := push_sim a b v h
  rcases ha : a.push v with ⟨a1, ra⟩
  rcases hb : b.push v with ⟨b1, rb⟩
  rw [ha, hb] at hr hs
  cases hr
  cases ra with
  | some e => exact ⟨rfl, hs⟩
  | none => exact hk a1 b1 hs

theorem swap_sim (a b : VS) (h : Sim a b) : SimR a.swap b.swap :=
  SimR.popThen h fun _ _ x h1 => SimR.popThen h1 fun _ _ y h2 =>
    SimR.pushThen x h2 fun _ _ h3 => push_sim _ _ y h3

theorem roll_sim (a b : VS) (h : Sim a b) : SimR a.roll b.roll :=
  SimR.popThen h fun _ _ x h1 => SimR.popThen h1 fun _ _ y h2 => SimR.popThen h2 fun _ _ z h3 =>
    SimR.pushThen y h3 fun _ _ h4 => SimR.pushThen x h4 fun _ _ h5 => push_sim _ _ z h5

theorem copyIndex_sim (a b : VS) (h : Sim a b) : SimR a.copyIndex b.copyIndex := by
  obtain ⟨av, ac, al, ap⟩ := a
  obtain ⟨bv, bc, bl, bp⟩ := b
  simp only [Sim] at h
  obtain ⟨rfl, rfl, rfl, hle, hv⟩ := h
  simp only [VS.copyIndex]
  split
  · exact ⟨rfl, rfl, rfl, rfl, hle, hv⟩
  · rename_i hne
    have htop := hv (al - 1) (by omega)
    simp only [← htop]
    split
    · exact ⟨rfl, rfl, rfl, rfl, hle, hv⟩
    · rename_i hidx
      refine ⟨rfl, rfl, rfl, rfl, hle, ?_⟩
      intro j hj
      simp only at hj
      simp only [upd]
      split
      · exact hv _ (by omega)
      · exact hv j hj

theorem moveIndex_sim (a b : VS) (h : Sim a b) : SimR a.moveIndex b.moveIndex := by
  obtain ⟨av, ac, al, ap⟩ := a
  obtain ⟨bv, bc, bl, bp⟩ := b
  simp only [Sim] at h
  obtain ⟨rfl, rfl, rfl, hle, hv⟩ := h
  simp only [VS.moveIndex]
  split
  · exact ⟨rfl, rfl, rfl, rfl, hle, hv⟩
  · rename_i hne
    have htop := hv (al - 1) (by omega)
    simp only [← htop]
    split
    · exact ⟨rfl, rfl, rfl, rfl, hle, hv⟩
    · rename_i hidx
      split
      · exact ⟨rfl, rfl, rfl, rfl, hle, hv⟩
      · rename_i htz
        refine ⟨rfl, rfl, rfl, rfl, by simp only at hle ⊢; omega, ?_⟩
        intro j hj
        simp only at hj hne
        simp only [upd]
        split
        · exact hv _ (by omega)
        · split
          · exact hv _ (by omega)
          · exact hv j (by omega)

theorem SimR.map {ρ σ : Type} {x y : VS × ρ} (f : ρ → σ) (h : SimR x y) : SimR (x.1, f x.2) (y.1, f y.2) :=
  ⟨congrArg f h.1, h.2⟩

theorem step_sim (a b : VS) (op : VOp) (h : Sim a b) : SimR (a.step op) (b.step op) := by
  cases op with
  | push v => exact (push_sim a b v h).map errObs
  | pushMany vs => exact (pushMany_sim a b vs h).map errObs
  | pop =>
    have := (pop_sim a b h).map fun r => match r with | .ok v => VObs.ok [v] | .error e => VObs.err e
    simp only [VS.step]
    generalize a.pop = x at this ⊢
    generalize b.pop = y at this ⊢
    obtain ⟨a1, _ | _⟩ := x <;> obtain ⟨b1, _ | _⟩ := y <;> exact this
  | peek => simp only [VS.step, peek_sim a b h]; exact ⟨rfl, h⟩
  | dup => exact (dup_sim a b h).map errObs
  | swap => exact (swap_sim a b h).map errObs
  | clear => exact ⟨rfl, h.1, rfl, h.2.2.1, Nat.zero_le _, fun j hj => absurd hj (Nat.not_lt_zero _)⟩
  | copyIndex => exact (copyIndex_sim a b h).map errObs
  | moveIndex => exact (moveIndex_sim a b h).map errObs
  | roll => exact (roll_sim a b h).map errObs
  | len => simp only [VS.step, h.2.1]; exact ⟨rfl, h⟩
  | values =>
    refine ⟨?_, h⟩
    simp only [VS.step, ← h.2.1]
    congr 1
    apply List.map_congr_left
    intro j hj
    exact h.2.2.2.2 j (List.mem_range.mp hj)

theorem run_sim : ∀ (ops : List VOp) (a b : VS), Sim a b → a.run ops = b.run ops
  | [], _, _, _ => rfl
  | op :: ops, a, b, h => by
    have := step_sim a b op h
    simp only [VS.run, this.1, run_sim ops _ _ this.2]

theorem eq_of_take_length {n : Nat} {b1 b2 : List Nat} (h1 : b1.length = n) (h2 : b2.length = n)
    (h : b1.take n = b2.take n) : b1 = b2 := by
  rwa [List.take_of_length_le (by omega), List.take_of_length_le (by omega)] at h

theorem take_fill (b : List Nat) (i c f : Nat) (h : i + c ≤ b.length) :
    (b.take i ++ List.replicate c f ++ b.drop (i + c)).take (i + c) = b.take i ++ List.replicate c f := by
  rw [List.take_append_of_le_length (by simp; omega), List.take_of_length_le (by simp; omega)]

theorem fastFlagsBuf_indep (n : Nat) : ∀ (bytes : List Nat) (rfb i : Nat) (b1 b2 : List Nat),
    b1.length = n → b2.length = n → i ≤ n → b1.take i = b2.take i →
    fastFlagsBuf n bytes rfb i b1 = fastFlagsBuf n bytes rfb i b2
  | [], rfb, i, b1, b2, h1, h2, hi, ht => by
    simp only [fastFlagsBuf]
    split
    · rename_i h; subst h; rw [eq_of_take_length h1 h2 ht]
    · rfl
  | f :: rest, rfb, i, b1, b2, h1, h2, hi, ht => by
    -- a full buffer is the same buffer
    rcases Nat.eq_or_lt_of_le hi with rfl | hi'
    · rw [eq_of_take_length h1 h2 ht]
    rw [fastFlagsBuf.eq_def n (f :: rest) rfb i b1, fastFlagsBuf.eq_def n (f :: rest) rfb i b2]
    simp only
    split
    · cases rest with
      | nil => rfl
      | cons r rest' =>
        simp only
        generalize hc : min (r + 1) (n - i) = c
        have hcount : i + c ≤ n := by omega
        have hl : ∀ b : List Nat, b.length = n →
            (b.take i ++ List.replicate c f ++ b.drop (i + c)).length = n := by
          intro b hb; simp; omega
        have hk : (b1.take i ++ List.replicate c f ++ b1.drop (i + c)).take (i + c) =
            (b2.take i ++ List.replicate c f ++ b2.drop (i + c)).take (i + c) := by
          rw [take_fill b1 i c f (by omega), take_fill b2 i c f (by omega), ht]
        split
        · rename_i he; rw [eq_of_take_length (hl b1 h1) (hl b2 h2) (he ▸ hk)]
        · exact fastFlagsBuf_indep n rest' _ _ _ _ (hl b1 h1) (hl b2 h2) hcount hk
    · have hl : ∀ b : List Nat, b.length = n → (b.set i f).length = n := fun b hb => by simp [hb]
      have hk : (b1.set i f).take (i + 1) = (b2.set i f).take (i + 1) := by
        rw [take_succ_set b1 i f (by omega), take_succ_set b2 i f (by omega), ht]
      split
      · rename_i he; rw [eq_of_take_length (hl b1 h1) (hl b2 h2) (he ▸ hk)]
      · exact fastFlagsBuf_indep n rest _ _ _ _ (hl b1 h1) (hl b2 h2) (by omega) hk

theorem zipWrite_indep : ∀ (p1 p2 : List (Int × Int)) (xs ys : List Int), p1.length = p2.length →
    zipWrite (zipWrite p1 xs true) ys false = zipWrite (zipWrite p2 xs true) ys false
  | [], [], _, _, _ => rfl
  | [], _ :: _, _, _, h => by simp at h
  | _ :: _, [], _, _, h => by simp at h
  | a :: p1, b :: p2, xs, ys, h => by
    cases xs with
    | nil => simp [zipWrite]
    | cons x xs =>
      cases ys with
      | nil => simp [zipWrite]
      | cons y ys =>
        have := zipWrite_indep p1 p2 xs ys (by simpa using h)
        simp only [zipWrite, if_true, Bool.false_eq_true, if_false] at this ⊢
        simp only [List.zip_cons_cons, List.map_cons, List.cons.injEq, true_and]
        exact this

end FontVerif.ScratchModels
