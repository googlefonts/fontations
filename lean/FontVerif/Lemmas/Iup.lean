/-
The writer keeps a sound set of deltas and the reader finds the specification's references.
Writer (`contourEncode_sound`): the dynamic program's `chain` only holds pairs that `can_iup_in_between`
accepted (`ChainOk`); a walk down the chain that ends at its limit certifies every skipped point
(`Walk.cert`); a `Chart` lays the contour on the positions the DP ran on, rotated or doubled.
Reader (`readerContourCalls_spec_at`): the calls `interpolate_deltas` makes for a contour anywhere in the glyph.
-/
import FontVerif.Model.Iup
import FontVerif.Lemmas.Ite
import FontVerif.Lemmas.Lists
namespace FontVerif.Iup

theorem readerAxis_eq_iupAxis (in1 d1 in2 d2 c : Int) :
    readerAxis in1 d1 in2 d2 c = iupAxis in1 d1 in2 d2 c := by
  unfold readerAxis iupAxis
  by_cases h : in1 = in2
  · subst h
    by_cases hd : d1 = d2
    · subst hd
      by_cases hc : c ≤ in1
      · simp [hc]
      · have : in1 ≤ c := by omega
        simp [hc, this]
    · have : ¬ (in1 + d1 = in1 + d2) := by omega
      simp [hd, this]
  · -- the reader interpolates positions `in + d`, the writer deltas: same fraction
    by_cases hg : in1 > in2
    · have h1 : ¬ (in2 = in1) := by omega
      simp only [h, hg, if_true, if_false, h1, ne_eq, not_false_eq_true, true_or]
      split
      · rfl
      · split
        · rfl
        · exact Prod.ext (by simp only []; grind) rfl
    · simp only [h, hg, if_false, ne_eq, not_false_eq_true, true_or, if_true]
      split
      · rfl
      · split
        · rfl
        · exact Prod.ext (by simp only []; grind) rfl

theorem iupAxis_den_pos (c1 d1 c2 d2 c : Int) : 0 < (iupAxis c1 d1 c2 d2 c).2 := by
  unfold iupAxis
  split
  · exact Int.one_pos
  · extract_lets lo hi dlo dhi
    have hlt : lo < hi := by simp only [lo, hi]; split <;> omega
    split
    · exact Int.one_pos
    · split
      · exact Int.one_pos
      · exact Int.sub_pos.mpr hlt

theorem iupPoint_same (c d x : Pt) : iupPoint c d c d x = ((d.1, 1), (d.2, 1)) := by
  simp [iupPoint, iupAxis]

theorem withinTol_self (t : Tol) (d : Pt) : withinTol t d (d.1, 1) (d.2, 1) = true := by
  unfold withinTol
  simp only [Int.mul_one, Int.sub_self, Int.mul_zero, Int.zero_mul, Int.add_zero, decide_eq_true_eq]
  rcases Int.le_total 0 t.n with h | h
  · exact Int.mul_nonneg h h
  · exact Int.mul_nonneg_of_nonpos_of_nonpos h h

theorem okAt_congr (t : Tol) (D C ds cs : List Pt) {a b k a2 b2 k2 : Nat}
    (ha : getP D a = getP ds a2 ∧ getP C a = getP cs a2)
    (hb : getP D b = getP ds b2 ∧ getP C b = getP cs b2)
    (hk : getP D k = getP ds k2 ∧ getP C k = getP cs k2) :
    okAt t D C a b k = okAt t ds cs a2 b2 k2 := by
  unfold okAt; rw [ha.1, ha.2, hb.1, hb.2, hk.1, hk.2]

theorem all_range {n : Nat} {p : Nat → Bool} (h : (List.range n).all p = true) (k : Nat) (hk : k < n) :
    p k = true := by
  rw [List.all_eq_true] at h
  exact h k (List.mem_range.mpr hk)

theorem canIup_some (t : Tol) (D C : List Pt) (j i : Nat) (h : canIup t D C (j : Int) i = true)
    (k : Nat) (h1 : j < k) (h2 : k < i) : okAt t D C j i k = true := by
  unfold canIup at h
  have hj : ¬ ((j : Int) < 0) := by omega
  simp only [hj, if_false] at h
  have e1 : ((j : Int)).toNat = j := by omega
  have e2 : ((j : Int) + 1).toNat = j + 1 := by omega
  rw [e1, e2] at h
  have := all_range h (k - (j + 1)) (by omega)
  have e3 : j + 1 + (k - (j + 1)) = k := by omega
  rw [e3] at this
  exact this

theorem canIup_neg (t : Tol) (D C : List Pt) (i : Nat) (h : canIup t D C (-1) i = true)
    (k : Nat) (h2 : k < i) : okAt t D C (D.length - 1) i k = true := by
  unfold canIup at h
  have hj : ((-1 : Int) < 0) := by omega
  simp only [hj, if_true] at h
  have e2 : ((-1 : Int) + 1).toNat = 0 := by omega
  rw [e2] at h
  have := all_range h k (by omega)
  simpa using this

theorem succC_spec (n k : Nat) : (k + 1 < n ∧ succC n k = k + 1) ∨ (n ≤ k + 1 ∧ succC n k = 0) := by
  unfold succC; split <;> omega

theorem predC_succC {n x : Nat} (h : x < n) : predC n (succC n x) = x := by
  unfold predC succC; split <;> split <;> omega

theorem prevFrom_none (enc : List Bool) (n : Nat) (h : ∀ j, j < n → enc.getD j false = false) :
    ∀ f p, p < n → prevFrom enc n f p = none := by
  intro f; induction f with
  | zero => intro p _; rfl
  | succ f ih =>
    intro p hp
    simp only [prevFrom, h p hp, Bool.false_eq_true, if_false]
    exact ih _ (by unfold predC; split <;> omega)

theorem inferSpec_kept (cs ds : List Pt) (enc : List Bool) (k : Nat) (h : enc.getD k false = true) :
    inferSpec cs ds enc k = (((getP ds k).1, 1), ((getP ds k).2, 1)) := by
  unfold inferSpec; rw [if_pos h]

theorem inferSpec_refs (cs ds : List Pt) (enc : List Bool) (k a b : Nat) (h : enc.getD k false = false)
    (ha : prevReq enc ds.length k = some a) (hb : nextReq enc ds.length k = some b) :
    inferSpec cs ds enc k = iupPoint (getP cs a) (getP ds a) (getP cs b) (getP ds b) (getP cs k) := by
  unfold inferSpec; rw [if_neg (by rw [h]; exact Bool.false_ne_true), ha, hb]

theorem inferSpec_none (cs ds : List Pt) (enc : List Bool) (k : Nat) (hk : k < ds.length)
    (h : ∀ j, j < ds.length → enc.getD j false = false) : inferSpec cs ds enc k = ((0, 1), (0, 1)) := by
  unfold inferSpec prevReq
  rw [if_neg (by rw [h k hk]; exact Bool.false_ne_true),
    prevFrom_none enc ds.length h _ _ (by unfold predC; split <;> omega)]

theorem inferSpec_den_pos (cs ds : List Pt) (enc : List Bool) (k : Nat) :
    0 < (inferSpec cs ds enc k).1.2 ∧ 0 < (inferSpec cs ds enc k).2.2 := by
  unfold inferSpec
  split
  · simp
  · split
    · exact ⟨iupAxis_den_pos .., iupAxis_den_pos ..⟩
    · simp

/-- position `z < 2 * n` of a contour laid out twice, as a point index (`z % n` without `%`) -/
def wrapIx (n z : Nat) : Nat := if z < n then z else z - n

theorem wrapIx_lt {n z : Nat} (h : z < n) : wrapIx n z = z := if_pos h

theorem wrapIx_self (n : Nat) : wrapIx n n = 0 := by simp [wrapIx]

theorem wrapIx_add (n z : Nat) : wrapIx n (z + n) = z := by unfold wrapIx; split <;> omega

theorem mod_eq_wrapIx {n x : Nat} (h : x < 2 * n) : x % n = wrapIx n x := by
  unfold wrapIx
  split
  · exact Nat.mod_eq_of_lt (by assumption)
  · rw [Nat.mod_eq_sub_mod (by omega)]
    exact Nat.mod_eq_of_lt (by omega)

theorem wrapIx_spec (n z : Nat) : (z < n ∧ wrapIx n z = z) ∨ (n ≤ z ∧ wrapIx n z + n = z) := by
  unfold wrapIx; split <;> omega

theorem getP_rotateRight (l : List Pt) (mid i : Nat) (hmid : mid < l.length) (hi : i < l.length) :
    getP (rotateRight l mid) i = getP l (wrapIx l.length (i + (l.length - mid))) := by
  unfold rotateRight getP wrapIx
  have h0 : l.length ≠ 0 := by omega
  simp only [h0, if_false, Nat.mod_eq_of_lt hmid, List.getD_eq_getElem?_getD]
  by_cases h : i < mid
  · have e : i + (l.length - mid) < l.length := by omega
    rw [List.getElem?_append_left (by simp; omega)]
    simp only [e, if_true, List.getElem?_drop]
    congr 2; omega
  · have e : ¬ (i + (l.length - mid) < l.length) := by omega
    rw [List.getElem?_append_right (by simp; omega)]
    simp only [e, if_false, List.length_drop, List.getElem?_take]
    have : i - (l.length - (l.length - mid)) < l.length - mid := by omega
    simp only [this, if_true]
    congr 2; omega

theorem getP_double (l : List Pt) (z : Nat) : getP (l ++ l) z = getP l (wrapIx l.length z) := by
  unfold getP wrapIx
  simp only [List.getD_eq_getElem?_getD]
  by_cases h : z < l.length
  · simp only [h, if_true, List.getElem?_append_left h]
  · simp only [h, if_false, List.getElem?_append_right (by omega : l.length ≤ z)]

theorem length_rotateRight {α} (l : List α) (k : Nat) : (rotateRight l k).length = l.length := by
  unfold rotateRight
  split
  · rfl
  · simp only [List.length_append, List.length_drop, List.length_take]
    have : k % l.length < l.length := Nat.mod_lt _ (by omega)
    omega

theorem rotate_back (n mid z : Nat) (hmid : mid < n) (hz : z < n) :
    (wrapIx n (z + (n - mid)) + mid) % n = z := by
  rcases wrapIx_spec n (z + (n - mid)) with ⟨h1, h2⟩ | ⟨h1, h2⟩
  · rw [h2, show z + (n - mid) + mid = z + n by omega, Nat.add_mod_right, Nat.mod_eq_of_lt hz]
  · rw [show wrapIx n (z + (n - mid)) + mid = z by omega, Nat.mod_eq_of_lt hz]

theorem getP_of_all (ds : List Pt) (first : Pt) (h : ds.all (· == first) = true) (k : Nat)
    (hk : k < ds.length) : getP ds k = first := by
  rw [List.all_eq_true] at h
  unfold getP
  have : ds.getD k (0, 0) = ds[k] := by simp [List.getD_eq_getElem?_getD, hk]
  rw [this]
  have := h ds[k] (List.getElem_mem hk)
  exact eq_of_beq this

/-- `σ` lays the `n` points of a closed contour out on the positions `lo ..= hi`, one after the
other in cyclic order.  Both DP branches and the reader's loops see the contour through such a
chart, cut open behind a retained point; there the nearest retained neighbours of a point are
found by a linear search, with a single wrap to the last position. -/
structure Chart (n lo hi : Nat) (σ : Nat → Nat) : Prop where
  len : lo + n = hi + 1
  lt : ∀ z, lo ≤ z → z ≤ hi → σ z < n
  succ : ∀ z, lo ≤ z → z < hi → succC n (σ z) = σ (z + 1)
  wrap : succC n (σ hi) = σ lo
  onto : ∀ k, k < n → ∃ z, lo ≤ z ∧ z ≤ hi ∧ σ z = k

theorem chart_wrapIx (n lo hi r : Nat) (hn : 0 < n) (hlen : lo + n = hi + 1) (h : lo + r ≤ n) :
    Chart n lo hi (fun z => wrapIx n (z + r)) where
  len := hlen
  lt z h1 h2 := by have := wrapIx_spec n (z + r); show wrapIx n (z + r) < n; omega
  succ z h1 h2 := by
    have a := wrapIx_spec n (z + r)
    have b := wrapIx_spec n (z + 1 + r)
    have c := succC_spec n (wrapIx n (z + r))
    show succC n (wrapIx n (z + r)) = wrapIx n (z + 1 + r)
    omega
  wrap := by
    have a := wrapIx_spec n (hi + r)
    have b := wrapIx_spec n (lo + r)
    have c := succC_spec n (wrapIx n (hi + r))
    show succC n (wrapIx n (hi + r)) = wrapIx n (lo + r)
    omega
  onto k hk := by
    by_cases hkr : lo + r ≤ k
    · exact ⟨k - r, by omega, by omega, by
        show wrapIx n (k - r + r) = k
        rw [Nat.sub_add_cancel (by omega)]; exact wrapIx_lt hk⟩
    · exact ⟨k + n - r, by omega, by omega, by
        show wrapIx n (k + n - r + r) = k
        rw [Nat.sub_add_cancel (by omega)]; exact wrapIx_add n k⟩

theorem chart_wrapIx_window (n lo hi : Nat) (hn : 0 < n) (hlen : lo + n = hi + 1) (h : lo ≤ n) :
    Chart n lo hi (wrapIx n) :=
  chart_wrapIx n lo hi 0 hn hlen h

def PrevZ (m : Nat → Bool) (lo R k a : Nat) : Prop :=
  (lo ≤ a ∧ a < k ∧ m a = true ∧ ∀ j, a < j → j < k → m j = false) ∨
  (a = R ∧ ∀ j, lo ≤ j → j < k → m j = false)

def NextZ (m : Nat → Bool) (hi k b : Nat) : Prop :=
  k < b ∧ b ≤ hi ∧ m b = true ∧ ∀ j, k < j → j < b → m j = false

namespace Chart

theorem pred {n lo hi : Nat} {σ : Nat → Nat} (c : Chart n lo hi σ) {z : Nat} (h1 : lo < z)
    (h2 : z ≤ hi) : predC n (σ z) = σ (z - 1) := by
  have := c.succ (z - 1) (by omega) (by omega)
  rw [show z - 1 + 1 = z by omega] at this
  rw [← this, predC_succC (c.lt _ (by omega) (by omega))]

theorem pred_lo {n lo hi : Nat} {σ : Nat → Nat} (c : Chart n lo hi σ) (h : lo ≤ hi) :
    predC n (σ lo) = σ hi := by
  rw [← c.wrap, predC_succC (c.lt _ h (Nat.le_refl _))]

theorem prevFrom_lin {n lo hi : Nat} {σ : Nat → Nat} (c : Chart n lo hi σ) (enc : List Bool)
    (m : Nat → Bool) (hm : ∀ z, lo ≤ z → z ≤ hi → enc.getD (σ z) false = m z) (a : Nat) (hlo : lo ≤ a)
    (ha : m a = true) :
    ∀ (d f : Nat), d < f → a + d ≤ hi → (∀ j, a < j → j ≤ a + d → m j = false) →
      prevFrom enc n f (σ (a + d)) = some (σ a) := by
  intro d
  induction d with
  | zero =>
    intro f hf hz _
    obtain ⟨f, rfl⟩ : ∃ f', f = f' + 1 := ⟨f - 1, by omega⟩
    simp only [Nat.add_zero, prevFrom, hm a hlo hz, ha, if_true]
  | succ d ih =>
    intro f hf hz hno
    obtain ⟨f, rfl⟩ : ∃ f', f = f' + 1 := ⟨f - 1, by omega⟩
    rw [prevFrom, hm _ (by omega) hz, hno _ (by omega) (Nat.le_refl _), if_neg Bool.false_ne_true,
      c.pred (by omega) hz]
    exact ih f (by omega) (by omega) (fun j h1 h2 => hno j h1 (by omega))

theorem prevFrom_wrap {n lo hi : Nat} {σ : Nat → Nat} (c : Chart n lo hi σ) (enc : List Bool)
    (m : Nat → Bool) (hm : ∀ z, lo ≤ z → z ≤ hi → enc.getD (σ z) false = m z) (hlast : m hi = true) :
    ∀ (d f : Nat), d + 1 < f → lo + d ≤ hi → (∀ j, lo ≤ j → j ≤ lo + d → m j = false) →
      prevFrom enc n f (σ (lo + d)) = some (σ hi) := by
  intro d
  induction d with
  | zero =>
    intro f hf hz hno
    obtain ⟨f, rfl⟩ : ∃ f', f = f' + 1 := ⟨f - 1, by omega⟩
    rw [prevFrom, hm _ (by omega) hz, hno _ (by omega) (Nat.le_refl _), if_neg Bool.false_ne_true,
      Nat.add_zero, c.pred_lo hz]
    exact c.prevFrom_lin enc m hm hi hz hlast 0 f (by omega) (by omega) (fun j h1 h2 => by omega)
  | succ d ih =>
    intro f hf hz hno
    obtain ⟨f, rfl⟩ : ∃ f', f = f' + 1 := ⟨f - 1, by omega⟩
    rw [prevFrom, hm _ (by omega) hz, hno _ (by omega) (Nat.le_refl _), if_neg Bool.false_ne_true,
      c.pred (by omega) hz]
    exact ih f (by omega) (by omega) (fun j h1 h2 => hno j h1 (by omega))

theorem nextFrom_lin {n lo hi : Nat} {σ : Nat → Nat} (c : Chart n lo hi σ) (enc : List Bool)
    (m : Nat → Bool) (hm : ∀ z, lo ≤ z → z ≤ hi → enc.getD (σ z) false = m z) (b : Nat) (hb : b ≤ hi)
    (hmb : m b = true) :
    ∀ (d f z : Nat), z + d = b → d < f → lo ≤ z → (∀ j, z ≤ j → j < b → m j = false) →
      nextFrom enc n f (σ z) = some (σ b) := by
  intro d
  induction d with
  | zero =>
    intro f z hz hf hlo _
    obtain ⟨f, rfl⟩ : ∃ f', f = f' + 1 := ⟨f - 1, by omega⟩
    obtain rfl : z = b := by omega
    simp only [nextFrom, hm z hlo hb, hmb, if_true]
  | succ d ih =>
    intro f z hz hf hlo hno
    obtain ⟨f, rfl⟩ : ∃ f', f = f' + 1 := ⟨f - 1, by omega⟩
    rw [nextFrom, hm _ hlo (by omega), hno _ (Nat.le_refl _) (by omega), if_neg Bool.false_ne_true,
      c.succ z hlo (by omega)]
    exact ih f (z + 1) (by omega) (by omega) (by omega) (fun j h1 h2 => hno j (by omega) h2)

theorem prevReq_eq {n lo hi : Nat} {σ : Nat → Nat} (c : Chart n lo hi σ) (enc : List Bool)
    (m : Nat → Bool) (hm : ∀ z, lo ≤ z → z ≤ hi → enc.getD (σ z) false = m z) (hlast : m hi = true)
    (R : Nat) (hR : σ R = σ hi) {z a : Nat} (hz1 : lo ≤ z) (hz2 : z ≤ hi) (h : PrevZ m lo R z a) :
    prevReq enc n (σ z) = some (σ a) := by
  have hn := c.len
  unfold prevReq
  by_cases hzlo : z = lo
  · subst hzlo
    rcases h with ⟨h1, h2, _⟩ | ⟨rfl, _⟩
    · omega
    · rw [c.pred_lo hz2, hR]
      exact c.prevFrom_lin enc m hm hi hz2 hlast 0 n (by omega) (by omega) (fun j h1 h2 => by omega)
  · obtain ⟨z', rfl⟩ : ∃ z', z = z' + 1 := ⟨z - 1, by omega⟩
    rw [c.pred (by omega) hz2, Nat.add_sub_cancel]
    rcases h with ⟨h1, h2, h3, h4⟩ | ⟨rfl, h4⟩
    · obtain ⟨d, rfl⟩ : ∃ d, z' = a + d := ⟨z' - a, by omega⟩
      exact c.prevFrom_lin enc m hm a h1 h3 d n (by omega) (by omega)
        (fun j j1 j2 => h4 j j1 (by omega))
    · obtain ⟨d, rfl⟩ : ∃ d, z' = lo + d := ⟨z' - lo, by omega⟩
      rw [hR]
      exact c.prevFrom_wrap enc m hm hlast d n (by omega) (by omega)
        (fun j j1 j2 => h4 j j1 (by omega))

theorem nextReq_eq {n lo hi : Nat} {σ : Nat → Nat} (c : Chart n lo hi σ) (enc : List Bool)
    (m : Nat → Bool) (hm : ∀ z, lo ≤ z → z ≤ hi → enc.getD (σ z) false = m z)
    {z b : Nat} (hz1 : lo ≤ z) (h : NextZ m hi z b) : nextReq enc n (σ z) = some (σ b) := by
  have hn := c.len
  obtain ⟨h1, h2, h3, h4⟩ := h
  unfold nextReq
  obtain ⟨d, rfl⟩ : ∃ d, b = z + 1 + d := ⟨b - (z + 1), by omega⟩
  rw [c.succ z hz1 (by omega)]
  exact c.nextFrom_lin enc m hm _ h2 h3 d n (z + 1) rfl (by omega) (by omega)
    (fun j j1 j2 => h4 j (by omega) j2)

end Chart

theorem reqs_of_gap (enc : List Bool) (n a P : Nat) (ha : a < n) (hP1 : a < P) (hP2 : P ≤ a + n)
    (hea : enc.getD a false = true) (heb : enc.getD (wrapIx n P) false = true)
    (hgap : ∀ j, a < j → j < P → enc.getD (wrapIx n j) false = false) (z : Nat) (hz1 : a < z)
    (hz2 : z < P) :
    prevReq enc n (wrapIx n z) = some a ∧ nextReq enc n (wrapIx n z) = some (wrapIx n P) := by
  have c := chart_wrapIx_window n (a + 1) (a + n) (by omega) (by omega) (by omega)
  have hm : ∀ z, a + 1 ≤ z → z ≤ a + n → enc.getD (wrapIx n z) false = enc.getD (wrapIx n z) false :=
    fun _ _ _ => rfl
  constructor
  · have := c.prevReq_eq enc _ hm (by rw [wrapIx_add]; exact hea) (a + n) rfl (by omega) (by omega)
      (Or.inr ⟨rfl, fun j j1 j2 => hgap j (by omega) (by omega)⟩ : PrevZ _ (a + 1) (a + n) z (a + n))
    rwa [wrapIx_add] at this
  · exact c.nextReq_eq enc _ hm (by omega) ⟨hz2, hP2, heb, fun j j1 j2 => hgap j (by omega) j2⟩

/-- the DP's invariant for one `chain` entry -/
def ChainOk (t : Tol) (ds cs : List Pt) (i : Nat) : Option Nat → Prop
  | some j => j + 1 = i ∨ (j + 2 ≤ i ∧ canIup t ds cs (j : Int) i = true)
  | none => i = 0 ∨ canIup t ds cs (-1) i = true

theorem chainOk_update (t : Tol) (ds cs : List Pt) (i : Nat) (j : Int) (ch new : Option Nat)
    (hnew : new = if j ≥ 0 then some j.toNat else none) (h1 : -1 ≤ j) (h2 : j ≤ (i : Int) - 2)
    (hch : ChainOk t ds cs i ch) (upd : Bool) (hupd : upd = true → canIup t ds cs j i = true) :
    ChainOk t ds cs i (if upd = true then new else ch) := by
  split
  · rename_i hu
    subst hnew
    split
    · rename_i h0
      refine Or.inr ⟨by omega, ?_⟩
      rw [Int.toNat_of_nonneg h0]; exact hupd hu
    · have e : j = -1 := by omega
      exact Or.inr (e ▸ hupd hu)
  · exact hch

theorem dpInner_ok (t : Tol) (ds cs : List Pt) (must : List Bool) (costs : List Int) (i : Nat) :
    ∀ (steps : Nat) (j best : Int) (ch : Option Nat), j ≤ (i : Int) - 2 → -2 ≤ j - steps →
    ChainOk t ds cs i ch → ChainOk t ds cs i (dpInner t ds cs must costs i steps j best ch).2 := by
  intro steps
  induction steps with
  | zero => intro j best ch _ _ h; simpa [dpInner] using h
  | succ s ih =>
    intro j best ch hj hlow hch
    simp only [dpInner]
    split
    · rename_i h0
      have hch' := chainOk_update t ds cs i j ch _ (if_pos h0).symm (by omega) hj hch
      split
      · exact hch' _ (fun h => (Bool.and_eq_true_iff.mp h).2)
      · exact ih (j - 1) _ _ (by omega) (by omega) (hch' _ (fun h => (Bool.and_eq_true_iff.mp h).2))
    · rename_i h0
      simp only [Bool.false_eq_true, if_false]
      exact ih (j - 1) _ _ (by omega) (by omega)
        (chainOk_update t ds cs i j ch _ (if_neg h0).symm (by omega) hj hch _
          (fun h => (Bool.and_eq_true_iff.mp h).2))

def ChainsOk (t : Tol) (ds cs : List Pt) (chain : List (Option Nat)) : Prop :=
  ∀ k, k < chain.length → ChainOk t ds cs k (chain.getD k none)

theorem chainsOk_snoc (t : Tol) (ds cs : List Pt) (chain : List (Option Nat)) (ch : Option Nat)
    (h : ChainsOk t ds cs chain) (hc : ChainOk t ds cs chain.length ch) :
    ChainsOk t ds cs (chain ++ [ch]) := by
  intro k hk
  simp only [List.length_append, List.length_cons, List.length_nil] at hk
  by_cases hlt : k < chain.length
  · have : (chain ++ [ch]).getD k none = chain.getD k none := by
      simp [List.getD_eq_getElem?_getD, List.getElem?_append_left hlt]
    rw [this]; exact h k hlt
  · have hk' : k = chain.length := by omega
    subst hk'
    have : (chain ++ [ch]).getD chain.length none = ch := by
      simp [List.getD_eq_getElem?_getD]
    rw [this]; exact hc

theorem chainOk_init (t : Tol) (ds cs : List Pt) (i : Nat) :
    ChainOk t ds cs i (if i > 0 then some (i - 1) else none) := by
  split <;> exact Or.inl (by omega)

theorem dpOuter_ok (t : Tol) (ds cs : List Pt) (must : List Bool) (lb n : Nat) :
    ∀ (fuel i : Nat) (costs : List Int) (chain : List (Option Nat)), chain.length = i →
    ChainsOk t ds cs chain → ChainsOk t ds cs (dpOuter t ds cs must lb n fuel i costs chain).2 := by
  intro fuel
  induction fuel with
  | zero => intro i costs chain _ h; simpa [dpOuter] using h
  | succ f ih =>
    intro i costs chain hlen h
    have step : ∀ (c : Int) (o : Option Nat), ChainOk t ds cs i o →
        ChainsOk t ds cs (dpOuter t ds cs must lb n f (i + 1) (costs ++ [c]) (chain ++ [o])).2 :=
      fun c o ho => ih (i + 1) _ _ (by rw [List.length_append, hlen]; rfl)
        (chainsOk_snoc _ _ _ _ _ h (hlen ▸ ho))
    rw [dpOuter]
    split
    · exact h
    · extract_lets best init
      split
      · exact step _ _ (chainOk_init t ds cs i)
      · exact step _ _ (dpInner_ok t ds cs must costs i _ _ _ _ (by omega) (by omega)
          (chainOk_init t ds cs i))

theorem contourDp_ok (t : Tol) (ds cs : List Pt) (must : List Bool) (lb : Nat) :
    ChainsOk t ds cs (contourDp t ds cs must lb).2 := by
  unfold contourDp
  simp only []
  split
  · intro k hk
    simp only [List.length_map, List.length_range] at hk
    have : ((List.range ds.length).map fun i => if i > 0 then some (i - 1) else none).getD k none
        = if k > 0 then some (k - 1) else none := by
      simp [List.getD_eq_getElem?_getD, hk]
    rw [this]
    exact chainOk_init t ds cs k
  · apply dpOuter_ok _ _ _ _ _ _ _ 0 [] [] rfl
    intro k hk; simp at hk

theorem dpOuter_length (t : Tol) (ds cs : List Pt) (must : List Bool) (lb n : Nat) :
    ∀ (fuel i : Nat) (costs : List Int) (chain : List (Option Nat)), costs.length = i →
      chain.length = i → i ≤ n → n - i ≤ fuel →
      (dpOuter t ds cs must lb n fuel i costs chain).1.length = n ∧
      (dpOuter t ds cs must lb n fuel i costs chain).2.length = n := by
  intro fuel
  induction fuel with
  | zero => intro i costs chain hc hl hi hf; simp only [dpOuter]; omega
  | succ f ih =>
    intro i costs chain hc hl hi hf
    have step : ¬ i ≥ n → ∀ (c : Int) (o : Option Nat),
        (dpOuter t ds cs must lb n f (i + 1) (costs ++ [c]) (chain ++ [o])).1.length = n ∧
        (dpOuter t ds cs must lb n f (i + 1) (costs ++ [c]) (chain ++ [o])).2.length = n :=
      fun hin c o => ih (i + 1) _ _ (by rw [List.length_append, hc]; rfl) (by rw [List.length_append, hl]; rfl)
        (by omega) (by omega)
    rw [dpOuter]
    split
    · exact ⟨by show costs.length = n; omega, by show chain.length = n; omega⟩
    · extract_lets best init
      split
      · exact step ‹_› _ _
      · exact step ‹_› _ _

theorem contourDp_length (t : Tol) (ds cs : List Pt) (must : List Bool) (lb : Nat) :
    (contourDp t ds cs must lb).1.length ≤ ds.length ∧ (contourDp t ds cs must lb).2.length = ds.length := by
  unfold contourDp
  simp only []
  split
  · simp
  · have := dpOuter_length t ds cs must lb ds.length ds.length 0 [] [] rfl rfl (by omega) (by omega)
    omega

theorem chain_desc (t : Tol) (D C : List Pt) (chain : List (Option Nat)) (h : ChainsOk t D C chain)
    (i j : Nat) (hij : chain.getD i none = some j) : j < i := by
  by_cases hi : i < chain.length
  · have := h i hi
    rw [hij] at this
    simp only [ChainOk] at this
    omega
  · have : chain.getD i none = none := by
      simp [List.getD_eq_getElem?_getD, List.getElem?_eq_none (by omega : chain.length ≤ i)]
    rw [this] at hij; cases hij

/-- the window above a limit (or skipped by a chain entry) starts at `loOf`; its points refer to
`refOf`: the limit itself, or for `none` the last point, as `can_iup_in_between(-1, ..)` does -/
def loOf : Option Nat → Nat
  | none => 0
  | some l => l + 1

def refOf (N : Nat) : Option Nat → Nat
  | none => N - 1
  | some l => l

theorem gtLim_iff (lim : Option Nat) (i : Nat) : gtLim lim i = true ↔ loOf lim ≤ i := by
  cases lim with
  | none => simp [gtLim, loOf]
  | some l => simp only [gtLim, loOf, decide_eq_true_eq]; omega

theorem chainOk_seg (t : Tol) (D C : List Pt) (i : Nat) (ch : Option Nat) (h : ChainOk t D C i ch) (k : Nat)
    (h1 : loOf ch ≤ k) (h2 : k < i) : okAt t D C (refOf D.length ch) i k = true := by
  cases ch with
  | none =>
    rcases h with h0 | h0
    · omega
    · exact canIup_neg t D C i h0 k h2
  | some j =>
    rcases h with h0 | ⟨_, h0⟩
    · simp only [loOf] at h1; omega
    · exact canIup_some t D C j i h0 k h1 h2

theorem walkLim_none (chain : List (Option Nat)) (lim : Option Nat) (f : Nat) :
    walkLim chain lim f none = ([], none) := by cases f <;> rfl

theorem walkLim_fin_none (t : Tol) (D C : List Pt) (chain : List (Option Nat)) (h : ChainsOk t D C chain) :
    ∀ (f i : Nat), i < f → (walkLim chain none f (some i)).2 = none := by
  intro f
  induction f with
  | zero => intro i hi; omega
  | succ f ih =>
    intro i hi
    have hgt : gtLim none i = true := rfl
    simp only [walkLim, hgt, if_true]
    cases hc : chain.getD i none with
    | none => rw [walkLim_none]
    | some j =>
      have := chain_desc t D C chain h i j hc
      exact ih j (by omega)

/-- the walk without its fuel, when it ended exactly at `lim`: `l` goes down the chain from `i`
inside the window above `lim`, and the chain entry of its last index is `lim` itself -/
inductive Walk (chain : List (Option Nat)) (lim : Option Nat) : Nat → List Nat → Prop
  | last {i : Nat} : loOf lim ≤ i → chain.getD i none = lim → Walk chain lim i [i]
  | step {i j : Nat} {l : List Nat} : chain.getD i none = some j → Walk chain lim j l →
      Walk chain lim i (i :: l)

theorem walkLim_walk (chain : List (Option Nat)) (lim : Option Nat) :
    ∀ (f i : Nat), loOf lim ≤ i → (walkLim chain lim f (some i)).2 = lim →
      Walk chain lim i (walkLim chain lim f (some i)).1 := by
  intro f
  induction f with
  | zero =>
    intro i hi hfin
    simp only [walkLim] at hfin
    subst hfin
    simp only [loOf] at hi; omega
  | succ f ih =>
    intro i hi hfin
    simp only [walkLim, (gtLim_iff lim i).mpr hi, if_true] at hfin ⊢
    generalize hc : chain.getD i none = ch at hfin ⊢
    cases ch with
    | none =>
      rw [walkLim_none] at hfin ⊢
      exact .last hi (hc.trans hfin)
    | some j =>
      by_cases hj : loOf lim ≤ j
      · exact .step hc (ih j hj hfin)
      · -- the walk stops behind `i`: `fin = lim` makes `lim` the chain entry of `i` itself
        have hw : walkLim chain lim f (some j) = ([], some j) := by
          cases f with
          | zero => rfl
          | succ f' =>
            have hg : gtLim lim j = false := Bool.eq_false_iff.mpr fun hh => hj ((gtLim_iff lim j).mp hh)
            simp only [walkLim, hg, Bool.false_eq_true, if_false]
        rw [hw] at hfin ⊢
        exact .last hi (hc.trans hfin)

namespace Walk

theorem mem {t : Tol} {D C : List Pt} {chain : List (Option Nat)} (h : ChainsOk t D C chain)
    {lim : Option Nat} {i : Nat} {l : List Nat} (w : Walk chain lim i l) :
    i ∈ l ∧ ∀ e ∈ l, loOf lim ≤ e ∧ e ≤ i := by
  induction w with
  | last hi _ =>
    exact ⟨List.mem_singleton_self _, fun e he => by
      cases List.mem_singleton.mp he; exact ⟨hi, Nat.le_refl _⟩⟩
  | step hc _ ih =>
    have hji := chain_desc t D C chain h _ _ hc
    refine ⟨List.mem_cons_self .., fun e he => ?_⟩
    rcases List.mem_cons.mp he with rfl | he
    · exact ⟨by have := (ih.2 _ ih.1).1; omega, Nat.le_refl _⟩
    · have := ih.2 e he; omega

/-- the walk's certificate: every unvisited index of the window `(lim, i]` lies between two
consecutive visited ones (or the wrap reference and the lowest visited one) and
`can_iup_in_between` was checked for that pair.  `m` is the visited set on the window only, so
that it can stay the same when the induction drops the head of the list. -/
theorem cert (t : Tol) (D C : List Pt) (chain : List (Option Nat)) (h : ChainsOk t D C chain)
    (lim : Option Nat) (m : Nat → Bool) {i : Nat} {l : List Nat} (w : Walk chain lim i l) :
    i < chain.length → (∀ e, loOf lim ≤ e → e ≤ i → (m e = true ↔ e ∈ l)) →
      ∀ k, loOf lim ≤ k → k < i → m k = false →
        ∃ a b, PrevZ m (loOf lim) (refOf D.length lim) k a ∧ NextZ m i k b ∧ okAt t D C a b k = true := by
  induction w with
  | @last i hi hc =>
    intro hil hm k hk1 hk2 hmk
    have hno : ∀ e, loOf lim ≤ e → e < i → m e = false := fun e h1 h2 =>
      Bool.eq_false_iff.mpr fun hme => by
        have := List.mem_singleton.mp ((hm e h1 (by omega)).mp hme); omega
    exact ⟨refOf D.length lim, i, Or.inr ⟨rfl, fun e h1 h2 => hno e h1 (by omega)⟩,
      ⟨hk2, Nat.le_refl _, (hm i hi (Nat.le_refl _)).mpr (List.mem_singleton_self _),
        fun e h1 h2 => hno e (by omega) h2⟩,
      chainOk_seg t D C i lim (hc ▸ h i hil) k hk1 hk2⟩
  | @step i j l hc w ih =>
    intro hil hm k hk1 hk2 hmk
    have hji := chain_desc t D C chain h i j hc
    obtain ⟨hjl, hb⟩ := w.mem h
    have hjlo := (hb j hjl).1
    have hmi : m i = true := (hm i (by omega) (Nat.le_refl _)).mpr (List.mem_cons_self ..)
    have hmj : m j = true := (hm j hjlo (by omega)).mpr (List.mem_cons_of_mem _ hjl)
    -- the rest of the walk lies at or below `j`: nothing is visited strictly between `j` and `i`
    have hbetween : ∀ e, j < e → e < i → m e = false := fun e h1 h2 =>
      Bool.eq_false_iff.mpr fun hme => by
        rcases List.mem_cons.mp ((hm e (by omega) (by omega)).mp hme) with rfl | h3
        · omega
        · have := (hb e h3).2; omega
    rcases Nat.lt_trichotomy k j with hkj | rfl | hkj
    · obtain ⟨a, b, hp, ⟨n1, n2, n3, n4⟩, hok⟩ := ih (by omega) (fun e h1 h2 => by
        rw [hm e h1 (by omega), List.mem_cons]
        exact ⟨fun h3 => h3.resolve_left (by omega), Or.inr⟩) k hk1 hkj hmk
      exact ⟨a, b, hp, ⟨n1, by omega, n3, n4⟩, hok⟩
    · rw [hmj] at hmk; cases hmk
    · exact ⟨j, i, Or.inl ⟨hjlo, hkj, hmj, fun e h1 h2 => hbetween e h1 (by omega)⟩,
        ⟨hk2, Nat.le_refl _, hmi, fun e h1 h2 => hbetween e (by omega) h2⟩,
        chainOk_seg t D C i (some j) (hc ▸ h i hil) k hkj hk2⟩

end Walk

/-- soundness of a set `enc` of retained deltas for one contour: every omitted delta is
reproduced by the specification's inference within the tolerance -/
def Sound (t : Tol) (ds cs : List Pt) (enc : List Bool) : Prop :=
  ∀ k, k < ds.length → enc.getD k false = false →
    withinTol t (getP ds k) (inferSpec cs ds enc k).1 (inferSpec cs ds enc k).2 = true

/-- a DP walk that ended exactly at its limit certifies the kept set.  `D`, `C` are the lists the
DP ran on, `σ` the chart that takes the window `(lim, i]` of DP positions to the points of the
contour `ds`, `cs`, and `enc` the kept set in point indices. -/
theorem sound_of_walk (t : Tol) (ds cs D C : List Pt) (enc : List Bool) (chain : List (Option Nat))
    (hch : ChainsOk t D C chain) (lim : Option Nat) (i : Nat) (l : List Nat) (w : Walk chain lim i l)
    (σ : Nat → Nat) (c : Chart ds.length (loOf lim) i σ) (hic : i < chain.length)
    (hR : σ (refOf D.length lim) = σ i)
    (hDC : ∀ z, z ≤ i ∨ z = refOf D.length lim →
      getP D z = getP ds (σ z) ∧ getP C z = getP cs (σ z))
    (henc : ∀ z, loOf lim ≤ z → z ≤ i → enc.getD (σ z) false = l.contains z) :
    Sound t ds cs enc := by
  have hlen := c.len
  intro k hk hek
  obtain ⟨z, hz1, hz2, rfl⟩ := c.onto k hk
  have hlast : l.contains i = true := List.contains_iff_mem.mpr (w.mem hch).1
  have hmz : l.contains z = false := by
    rw [← henc z hz1 hz2]; exact hek
  have hz3 : z < i := by
    rcases Nat.lt_or_ge z i with h | h
    · exact h
    · obtain rfl : z = i := by omega
      rw [hlast] at hmz; cases hmz
  obtain ⟨a, b, hp, hnx, hok⟩ := w.cert t D C chain hch lim _ hic (fun e _ _ => List.contains_iff_mem)
    z hz1 hz3 hmz
  have ha : a ≤ i ∨ a = refOf D.length lim := by
    rcases hp with ⟨_, h, _⟩ | ⟨h, _⟩
    · exact Or.inl (by omega)
    · exact Or.inr h
  rw [inferSpec_refs cs ds enc _ _ _ hek (c.prevReq_eq enc _ henc hlast _ hR hz1 hz2 hp)
    (c.nextReq_eq enc _ henc hz1 hnx)]
  rw [okAt_congr t D C ds cs (hDC a ha) (hDC b (Or.inl hnx.2.1)) (hDC z (Or.inl hz2))] at hok
  exact hok

theorem sound_rotated (t : Tol) (ds cs : List Pt) (must' : List Bool) (lb mid n : Nat)
    (hn : n = ds.length) (hlen : cs.length = n) (hmid : mid < n) :
    Sound t ds cs ((List.range n).map fun i =>
      ((List.range n).map fun i =>
        (walkLim (contourDp t (rotateRight ds mid) (rotateRight cs mid) must' lb).2 none (2 * n + 2)
          (some (n - 1))).1.contains i).getD ((i + mid) % n) false) := by
  subst hn
  generalize hdp : contourDp t (rotateRight ds mid) (rotateRight cs mid) must' lb = dp
  have hD : (rotateRight ds mid).length = ds.length := length_rotateRight ds mid
  have hch : ChainsOk t (rotateRight ds mid) (rotateRight cs mid) dp.2 := hdp ▸ contourDp_ok t _ _ must' lb
  have hcl : dp.2.length = ds.length := by rw [← hdp, ← hD]; exact (contourDp_length ..).2
  -- DP position `z` is point `(z + n - mid) mod n`
  have c := chart_wrapIx ds.length 0 (ds.length - 1) (ds.length - mid) (by omega) (by omega) (by omega)
  refine sound_of_walk t ds cs _ _ _ dp.2 hch none (ds.length - 1) _
    (walkLim_walk dp.2 none (2 * ds.length + 2) _ (Nat.zero_le _) (walkLim_fin_none t _ _ dp.2 hch _ _ (by omega))) _ c (by omega) ?_ ?_ ?_
  · rw [hD]; rfl
  · intro z hz
    have hz' : z < ds.length := by
      rcases hz with h | h
      · omega
      · rw [h, hD]; exact Nat.sub_lt (by omega) Nat.one_pos
    exact ⟨getP_rotateRight ds mid z hmid hz',
      by rw [getP_rotateRight cs mid z (by omega) (by omega), hlen]⟩
  · intro z _ hz
    have hz' : z < ds.length := by omega
    rw [getD_map_range, if_pos (c.lt z (Nat.zero_le _) hz), rotate_back _ mid z hmid hz',
      getD_map_range, if_pos hz']

theorem sound_doubled (t : Tol) (ds cs : List Pt) (must : List Bool) (lb start n : Nat)
    (hn : n = ds.length) (hlen : cs.length = n) (h1 : n - 1 ≤ start) (h2 : start + 2 ≤ 2 * n)
    (hfin : (walkLim (contourDp t (ds ++ ds) (cs ++ cs) must lb).2 (checkedSub start n) (2 * n + 2)
      (some start)).2 = checkedSub start n) :
    Sound t ds cs ((List.range n).map fun i =>
      ((walkLim (contourDp t (ds ++ ds) (cs ++ cs) must lb).2 (checkedSub start n) (2 * n + 2)
        (some start)).1.map (· % n)).contains i) := by
  subst hn
  generalize hdp : contourDp t (ds ++ ds) (cs ++ cs) must lb = dp at hfin ⊢
  generalize hlim : checkedSub start ds.length = lim at hfin ⊢
  have hpos : 0 < ds.length := by omega
  have hD : (ds ++ ds).length = 2 * ds.length := by rw [List.length_append]; omega
  have hch : ChainsOk t (ds ++ ds) (cs ++ cs) dp.2 := hdp ▸ contourDp_ok t _ _ must lb
  have hcl : dp.2.length = 2 * ds.length := by rw [← hdp, ← hD]; exact (contourDp_length ..).2
  have hlo : loOf lim + ds.length = start + 1 ∧
      wrapIx ds.length (refOf (2 * ds.length) lim) = wrapIx ds.length start := by
    rw [← hlim, checkedSub]
    split
    · obtain rfl : start = ds.length - 1 := by omega
      refine ⟨by simp only [loOf]; omega, ?_⟩
      rw [show refOf (2 * ds.length) none = ds.length - 1 + ds.length by simp only [refOf]; omega,
        wrapIx_add]
      exact (wrapIx_lt (by omega)).symm
    · obtain ⟨s, rfl⟩ : ∃ s, start = s + ds.length := ⟨start - ds.length, by omega⟩
      refine ⟨by simp only [loOf]; omega, ?_⟩
      rw [wrapIx_add, Nat.add_sub_cancel]
      exact wrapIx_lt (show s < ds.length by omega)
  -- DP position `z` of the window is point `z mod n`
  have c := chart_wrapIx_window ds.length (loOf lim) start hpos hlo.1 (by omega)
  have w := walkLim_walk dp.2 lim (2 * ds.length + 2) start (by omega) hfin
  refine sound_of_walk t ds cs _ _ _ dp.2 hch lim start _ w _ c (by omega)
    (hD ▸ hlo.2) (fun z _ => ⟨getP_double ds z, by rw [getP_double cs z, hlen]⟩) ?_
  intro z hz1 hz2
  rw [getD_map_range, if_pos (c.lt z hz1 hz2), Bool.eq_iff_iff, List.contains_iff_mem,
    List.contains_iff_mem, List.mem_map]
  constructor
  · rintro ⟨e, he, hez⟩
    have e12 := (w.mem hch).2 e he
    rw [mod_eq_wrapIx (by omega)] at hez
    have a := wrapIx_spec ds.length e
    have b := wrapIx_spec ds.length z
    obtain rfl : e = z := by omega
    exact he
  · exact fun hz => ⟨z, hz, mod_eq_wrapIx (by omega)⟩

theorem sound_all_zero (t : Tol) (ds cs : List Pt) (h : ∀ k, k < ds.length → getP ds k = (0, 0)) :
    Sound t ds cs (List.replicate ds.length false) := by
  intro k hk hek
  have hall : ∀ j, (List.replicate ds.length false).getD j false = false := by
    intro j; simp only [List.getD_eq_getElem?_getD, List.getElem?_replicate]; split <;> rfl
  rw [inferSpec_none cs ds _ k hk (fun j _ => hall j), h k hk]
  exact withinTol_self t (0, 0)

theorem sound_all_equal (t : Tol) (ds cs : List Pt) (first : Pt)
    (h : ∀ k, k < ds.length → getP ds k = first) :
    Sound t ds cs ((List.range ds.length).map (· == 0)) := by
  intro k hk hek
  have hk0 : 0 < k := by
    rw [getD_map_range, if_pos hk] at hek
    exact Nat.pos_of_ne_zero (by simpa using hek)
  have h0 : ((List.range ds.length).map (· == 0)).getD 0 false = true :=
    (getD_map_range _ _ _ _).trans (if_pos (by omega))
  obtain ⟨hp, hn⟩ := reqs_of_gap _ ds.length 0 ds.length (by omega) (by omega) (by omega) h0
    (by rw [wrapIx_self]; exact h0)
    (fun j j1 j2 => by
      rw [wrapIx_lt j2, getD_map_range, if_pos j2]
      exact beq_false_of_ne (by omega)) k hk0 hk
  rw [wrapIx_lt hk] at hp hn
  rw [wrapIx_self] at hn
  rw [inferSpec_refs cs ds _ k 0 0 hek hp hn, iupPoint_same, h k hk, h 0 (by omega)]
  exact withinTol_self t first

theorem contourEncode_sound (t : Tol) (ds cs : List Pt) (enc : List Bool)
    (hlen : cs.length = ds.length) (h : contourEncode t ds cs = some enc) :
    enc.length = ds.length ∧ Sound t ds cs enc := by
  unfold contourEncode at h
  extract_lets n must mid ds' cs' must' dpR walk encB dpD starts r at h
  cases hds : ds with
  | nil =>
    rw [hds] at h
    simp only [Option.some.injEq] at h
    subst h
    exact ⟨rfl, fun k hk => by simp at hk⟩
  | cons first rest =>
    rw [← hds]
    have hpos : 0 < n := by simp only [n, hds, List.length_cons]; omega
    rw [hds] at h
    simp (config := { zeta := false }) only at h
    rw [← hds] at h
    split at h
    · -- all deltas equal
      rename_i hall
      have hg := getP_of_all ds first hall
      split at h
      · rename_i hz
        simp only [Option.some.injEq] at h
        subst h
        exact ⟨by simp [n], sound_all_zero t ds cs (fun k hk => by rw [hg k hk, eq_of_beq hz])⟩
      · simp only [Option.some.injEq] at h
        subst h
        exact ⟨by simp [n], sound_all_equal t ds cs first hg⟩
    · split at h
      · -- rotated branch
        split at h
        · simp only [Option.some.injEq] at h
          subst h
          exact ⟨by simp [n], sound_rotated t ds cs must' (lookback n) mid n rfl hlen (by omega)⟩
        · cases h
      · -- doubled branch: every candidate the `for start in …` loop accepts is sound
        split at h
        · cases h
        · rename_i sol hsol
          simp only [Option.some.injEq] at h
          subst h
          refine ⟨by simp [n], ?_⟩
          have hcl : dpD.1.length ≤ n + n := by
            have := (contourDp_length t (ds ++ ds) (cs ++ cs) must (lookback n)).1
            rwa [List.length_append] at this
          let P : Option (List Nat) × Int → Prop := fun acc =>
            ∀ s, acc.1 = some s → Sound t ds cs ((List.range n).map fun i => s.contains i)
          refine foldl_inv P _ _ ?_ _ (fun s hs => by cases hs) sol hsol
          intro acc start hmem hP
          simp only [starts, List.mem_map, List.mem_range] at hmem
          obtain ⟨q, hq, rfl⟩ := hmem
          refine ite_elim (P := P) (fun hbeq => ite_elim (P := P) (fun _ s hs => ?_) (fun _ => hP)) (fun _ => hP)
          simp only [Option.some.injEq] at hs
          subst hs
          exact sound_doubled t ds cs must (lookback n) (q + (n - 1)) n rfl hlen (by omega) (by omega)
            (eq_of_beq hbeq)

/-- what `iup_delta_optimize` returns, contour slice by contour slice (`ends` = the sorted contour
ends followed by the four phantom points, each its own slice): the output for the slice
`start ..= e` carries the slice's deltas (through `ot_round`) and a kept-set that is sound for
that slice. -/
def GlyphSound (t : Tol) (ds cs : List Pt) : List Nat → Nat → List (Int × Int × Bool) → Prop
  | [], _, out => out = []
  | e :: ends, start, out =>
    let dsl := (ds.drop start).take (e + 1 - start)
    let csl := (cs.drop start).take (e + 1 - start)
    ∃ enc, enc.length = dsl.length ∧ Sound t dsl csl enc ∧
      out.take dsl.length = (List.range dsl.length).map (fun i =>
        (otRound16 (getP dsl i).1, otRound16 (getP dsl i).2, enc.getD i false)) ∧
      GlyphSound t ds cs ends (e + 1) (out.drop dsl.length)

theorem optimizeLoop_sound (t : Tol) (ds cs : List Pt) (hlen : cs.length = ds.length) :
    ∀ (ends : List Nat) (start : Nat) (acc l : List (Int × Int × Bool)),
      optimizeLoop t ds cs ends start acc = .ok l →
      ∃ out, l = acc ++ out ∧ GlyphSound t ds cs ends start out := by
  intro ends
  induction ends with
  | nil =>
    intro start acc l h
    simp only [optimizeLoop, OptResult.ok.injEq] at h
    exact ⟨[], by simp [h], rfl⟩
  | cons e ends ih =>
    intro start acc l h
    simp only [optimizeLoop] at h
    generalize hds : (ds.drop start).take (e + 1 - start) = dsl at h
    generalize hcs : (cs.drop start).take (e + 1 - start) = csl at h
    have hl2 : csl.length = dsl.length := by
      rw [← hds, ← hcs]; simp only [List.length_take, List.length_drop, hlen]
    unfold contourOptimize at h
    cases hce : contourEncode t dsl csl with
    | none => rw [hce] at h; cases h
    | some enc =>
      rw [hce] at h
      simp only at h
      obtain ⟨out, hout, hrest⟩ := ih (e + 1) _ l h
      obtain ⟨he1, he2⟩ := contourEncode_sound t dsl csl enc hl2 hce
      refine ⟨(List.range dsl.length).map (fun i =>
        (otRound16 (getP dsl i).1, otRound16 (getP dsl i).2, enc.getD i false)) ++ out,
        by rw [hout, List.append_assoc], ?_⟩
      simp only [GlyphSound, hds, hcs]
      refine ⟨enc, he1, he2, ?_, ?_⟩
      · rw [List.take_left']; simp
      · rw [List.drop_left']
        · exact hrest
        · simp

abbrev H (has : List Bool) (i : Nat) : Bool := has.getD i false

theorem covers_iff (c : Call) (k : Nat) :
    covers c k = true ↔ c.lo ≤ k ∧ k ≤ c.hi ∧ ¬ (c.shift = true ∧ k = c.r1) := by
  unfold covers
  simp only [Bool.and_eq_true, decide_eq_true_eq, Bool.not_eq_true', Bool.and_eq_false_iff,
    decide_eq_false_iff_not]
  constructor
  · rintro ⟨⟨h1, h2⟩, h3⟩
    refine ⟨h1, h2, fun ⟨a, b⟩ => ?_⟩
    rcases h3 with h3 | h3
    · rw [a] at h3; cases h3
    · exact h3 b
  · rintro ⟨h1, h2, h3⟩
    refine ⟨⟨h1, h2⟩, ?_⟩
    cases hs : c.shift with
    | false => exact Or.inl rfl
    | true => exact Or.inr (fun hk => h3 ⟨hs, hk⟩)

theorem innerLoop_done (has : List Bool) (np last fuel p cur : Nat) (calls : List Call) (h : last < p) :
    innerLoop has np last fuel p cur calls = some (calls, cur) := by
  cases fuel with
  | zero => rfl
  | succ f => simp only [innerLoop, Nat.not_le.mpr h, if_false]

theorem scanFirst_spec (has : List Bool) (np last : Nat) (hl : last < np) :
    ∀ (fuel p : Nat), p ≤ last + 1 → last + 1 - p ≤ fuel →
      ∃ fd, scanFirst has np last fuel p = some fd ∧ p ≤ fd ∧ fd ≤ last + 1 ∧
        (∀ j, p ≤ j → j < fd → H has j = false) ∧ (fd ≤ last → H has fd = true) := by
  intro fuel
  induction fuel with
  | zero =>
    intro p hp hf
    have : p = last + 1 := by omega
    subst this
    exact ⟨last + 1, rfl, Nat.le_refl _, Nat.le_refl _, fun j h1 h2 => by omega, fun h => by omega⟩
  | succ f ih =>
    intro p hp hf
    simp only [scanFirst]
    by_cases hpl : p ≤ last
    · have hnp : ¬ (p ≥ np) := by omega
      simp only [hpl, if_true, hnp, if_false]
      cases hh : has.getD p false with
      | true =>
        simp only [if_true]
        exact ⟨p, rfl, Nat.le_refl _, by omega, fun j h1 h2 => by omega, fun _ => hh⟩
      | false =>
        simp only [Bool.false_eq_true, if_false]
        obtain ⟨fd, e, h1, h2, h3, h4⟩ := ih (p + 1) (by omega) (by omega)
        refine ⟨fd, e, by omega, h2, fun j hj1 hj2 => ?_, h4⟩
        by_cases hjp : j = p
        · subst hjp; exact hh
        · exact h3 j (by omega) hj2
    · have : p = last + 1 := by omega
      subst this
      simp only [hpl, if_false]
      exact ⟨last + 1, rfl, Nat.le_refl _, Nat.le_refl _, fun j h1 h2 => by omega, fun h => by omega⟩

def Consec (has : List Bool) (a b : Nat) : Prop :=
  H has a = true ∧ H has b = true ∧ a < b ∧ ∀ j, a < j → j < b → H has j = false

/-- a call made by the inner loop: interpolate strictly between two consecutive explicit points -/
def IsMid (has : List Bool) (c : Call) : Prop :=
  c.shift = false ∧ Consec has c.r1 c.r2 ∧ c.lo = c.r1 + 1 ∧ c.hi = c.r2 - 1

theorem innerLoop_spec (has : List Bool) (np last : Nat) (hl : last < np) :
    ∀ (fuel p cur : Nat) (calls : List Call), cur < p → p ≤ last + 1 → last + 1 - p ≤ fuel →
      H has cur = true → (∀ j, cur < j → j < p → H has j = false) →
      ∃ news cur', innerLoop has np last fuel p cur calls = some (calls ++ news, cur') ∧
        H has cur' = true ∧ cur ≤ cur' ∧ cur' ≤ last ∧ (∀ j, cur' < j → j ≤ last → H has j = false) ∧
        (∀ c ∈ news, IsMid has c ∧ cur ≤ c.r1 ∧ c.r2 ≤ cur') ∧
        (∀ k, cur < k → k < cur' → H has k = false → ∃ c ∈ news, covers c k = true) := by
  intro fuel p cur calls h1 h2 h3 h4 h5
  -- by induction on the distance to the end of the contour: behind it the loop is done
  obtain ⟨d, hd⟩ : ∃ d, last + 1 - p = d := ⟨_, rfl⟩
  induction d generalizing fuel p cur calls with
  | zero =>
    exact ⟨[], cur, by rw [innerLoop_done has np last fuel p cur calls (by omega), List.append_nil], h4,
      Nat.le_refl _, by omega, fun j a b => h5 j a (by omega), fun c hc => (by cases hc),
      fun k a b => (by omega)⟩
  | succ d ih =>
    obtain ⟨f, rfl⟩ : ∃ f, fuel = f + 1 := ⟨fuel - 1, by omega⟩
    have hpl : p ≤ last := by omega
    simp only [innerLoop]
    have hnp : ¬ (p ≥ np) := by omega
    simp only [hpl, if_true, hnp, if_false]
    cases hh : has.getD p false with
    | true =>
      simp only [if_true]
      obtain ⟨news, cur', e, g1, g2, g3, g4, g5, g6⟩ :=
        ih f (p + 1) p (calls ++ [⟨cur + 1, p - 1, cur, p, false⟩]) (by omega) (by omega) (by omega) hh
          (fun j a b => by omega) (by omega)
      refine ⟨⟨cur + 1, p - 1, cur, p, false⟩ :: news, cur', by rw [e]; simp, g1, by omega, g3, g4,
        fun c hc => ?_, fun k hk1 hk2 hk0 => ?_⟩
      · simp only [List.mem_cons] at hc
        rcases hc with rfl | hc
        · exact ⟨⟨rfl, ⟨h4, hh, h1, h5⟩, rfl, rfl⟩, Nat.le_refl _, g2⟩
        · obtain ⟨q1, q2, q3⟩ := g5 c hc
          exact ⟨q1, by omega, q3⟩
      · -- a point before `p` is written by the new call, a point behind `p` by a later one
        rcases Nat.lt_trichotomy k p with h | rfl | h
        · exact ⟨_, List.mem_cons_self .., (covers_iff _ k).mpr
            ⟨by simp only; omega, by simp only; omega, fun ⟨h, _⟩ => by cases h⟩⟩
        · rw [show H has k = true from hh] at hk0; cases hk0
        · obtain ⟨c, hc1, hc2⟩ := g6 k h hk2 hk0
          exact ⟨c, List.mem_cons_of_mem _ hc1, hc2⟩
    | false =>
      simp only [Bool.false_eq_true, if_false]
      exact ih f (p + 1) cur calls (by omega) (by omega) (by omega) h4 (fun j a b => by
        by_cases hjp : j = p
        · subst hjp; exact hh
        · exact h5 j a (by omega)) (by omega)

theorem reqs_of_consec (has : List Bool) (n a b k : Nat) (h : Consec has a b) (hb : b < n)
    (h1 : a < k) (h2 : k < b) : prevReq has n k = some a ∧ nextReq has n k = some b := by
  obtain ⟨m2, m3, m4, m5⟩ := h
  have := reqs_of_gap has n a b (by omega) m4 (by omega) m2 (by rw [wrapIx_lt hb]; exact m3)
    (fun j j1 j2 => by rw [wrapIx_lt (by omega)]; exact m5 j j1 j2) k h1 h2
  rwa [wrapIx_lt (by omega), wrapIx_lt hb] at this

theorem reqs_of_ends (has : List Bool) (n fd cur : Nat) (h1 : fd ≤ cur) (h2 : cur < n)
    (hfd : H has fd = true) (hcur : H has cur = true) (hbefore : ∀ j, j < fd → H has j = false)
    (hafter : ∀ j, cur < j → j < n → H has j = false) (k : Nat) (hk : k < n) (hout : k < fd ∨ cur < k) :
    H has k = false ∧ prevReq has n k = some cur ∧ nextReq has n k = some fd := by
  have hwrap : ∀ z, cur < z → z < fd + n →
      prevReq has n (wrapIx n z) = some cur ∧ nextReq has n (wrapIx n z) = some fd := by
    intro z hz1 hz2
    have := reqs_of_gap has n cur (fd + n) h2 (by omega) (by omega) hcur
      (by rw [wrapIx_add]; exact hfd)
      (fun j j1 j2 => by
        rcases wrapIx_spec n j with ⟨h1, h2⟩ | ⟨h1, h2⟩
        · rw [h2]; exact hafter j j1 h1
        · exact hbefore _ (by omega)) z hz1 hz2
    rwa [wrapIx_add] at this
  rcases hout with h | h
  · have := hwrap (k + n) (by omega) (by omega)
    rw [wrapIx_add] at this
    exact ⟨hbefore k h, this⟩
  · have := hwrap k h (by omega)
    rw [wrapIx_lt hk] at this
    exact ⟨hafter k h hk, this⟩

theorem H_drop (has : List Bool) (d i : Nat) : H (has.drop d) i = H has (d + i) := getD_drop has d i false

theorem H_drop_sub (has : List Bool) {d x : Nat} (h : d ≤ x) : H (has.drop d) (x - d) = H has x := by
  rw [H_drop, Nat.add_sub_cancel' h]

theorem Consec.drop {has : List Bool} {a b : Nat} (h : Consec has a b) {d : Nat} (hd : d ≤ a) :
    Consec (has.drop d) (a - d) (b - d) := by
  obtain ⟨h1, h2, h3, h4⟩ := h
  refine ⟨by rw [H_drop_sub has hd]; exact h1, by rw [H_drop_sub has (by omega)]; exact h2, by omega,
    fun j j1 j2 => ?_⟩
  rw [H_drop]; exact h4 _ (by omega) (by omega)

/-- what a call that writes point `k` of the contour `first ..= first + n - 1` must look like: `k`
has no explicit delta and the call's references are the specification's for the contour's own slice -/
def GoodAt (has : List Bool) (first n : Nat) (c : Call) (k : Nat) : Prop :=
  H has k = false ∧ prevReq (has.drop first) n (k - first) = some (c.r1 - first) ∧
    nextReq (has.drop first) n (k - first) = some (c.r2 - first)

theorem isMid_good {has : List Bool} {c : Call} (h : IsMid has c) {first last k : Nat}
    (h1 : first ≤ c.r1) (h2 : c.r2 ≤ last) (hcov : covers c k = true) :
    first ≤ k ∧ k ≤ last ∧ GoodAt has first (last - first + 1) c k := by
  obtain ⟨_, hcon, m6, m7⟩ := h
  obtain ⟨c1, c2, _⟩ := (covers_iff c k).mp hcov
  have hlt := hcon.2.2.1
  have := reqs_of_consec (has.drop first) (last - first + 1) _ _ (k - first) (hcon.drop h1)
    (by omega) (by omega) (by omega)
  exact ⟨by omega, by omega, hcon.2.2.2 k (by omega) (by omega), this.1, this.2⟩

theorem reqs_of_ends_at (has : List Bool) (first last fd cur : Nat) (h0 : first ≤ fd) (h1 : fd ≤ cur)
    (h2 : cur ≤ last) (hfd : H has fd = true) (hcur : H has cur = true)
    (hbefore : ∀ j, first ≤ j → j < fd → H has j = false)
    (hafter : ∀ j, cur < j → j ≤ last → H has j = false) (k : Nat) (hk1 : first ≤ k) (hk2 : k ≤ last)
    (hout : k < fd ∨ cur < k) :
    H has k = false ∧ prevReq (has.drop first) (last - first + 1) (k - first) = some (cur - first) ∧
      nextReq (has.drop first) (last - first + 1) (k - first) = some (fd - first) := by
  have := reqs_of_ends (has.drop first) (last - first + 1) (fd - first) (cur - first) (by omega) (by omega)
    (by rw [H_drop_sub has h0]; exact hfd) (by rw [H_drop_sub has (by omega)]; exact hcur)
    (fun j hj => by rw [H_drop]; exact hbefore _ (by omega) (by omega))
    (fun j j1 j2 => by rw [H_drop]; exact hafter _ (by omega) (by omega))
    (k - first) (by omega) (by omega)
  rwa [H_drop_sub has hk1] at this

/-- the calls behind the inner loop's: what lies outside `fd ..= cur` is written from the pair
`(cur, fd)` around the end of the contour, by one `shift` when `fd = cur` is the only explicit point -/
def wrapCalls (first last fd cur : Nat) : List Call :=
  if cur = fd then [⟨first, last, cur, cur, true⟩]
  else [⟨cur + 1, last, cur, fd, false⟩] ++ (if fd > 0 then [⟨first, fd - 1, cur, fd, false⟩] else [])

theorem wrapCalls_spec (first last fd cur : Nat) (h0 : first ≤ fd) (h1 : fd ≤ cur) (h2 : cur ≤ last) :
    (∀ c ∈ wrapCalls first last fd cur, c.r1 = cur ∧ c.r2 = fd ∧ (cur ≠ fd → c.shift = false) ∧
      ∀ k, covers c k = true → first ≤ k ∧ k ≤ last ∧ (k < fd ∨ cur < k)) ∧
    (∀ k, first ≤ k → k ≤ last → k < fd ∨ cur < k → ∃ c ∈ wrapCalls first last fd cur, covers c k = true) := by
  unfold wrapCalls
  by_cases hs : cur = fd
  · subst hs
    rw [if_pos rfl]
    refine ⟨fun c hc => ?_, fun k hk1 hk2 hout => ⟨_, List.mem_singleton_self _,
      (covers_iff _ k).mpr ⟨hk1, hk2, fun ⟨_, h⟩ => by simp only at h; omega⟩⟩⟩
    cases List.mem_singleton.mp hc
    refine ⟨rfl, rfl, fun h => absurd rfl h, fun k hcov => ?_⟩
    obtain ⟨a, b, c3⟩ := (covers_iff _ k).mp hcov
    have : k ≠ cur := fun h => c3 ⟨rfl, h⟩
    exact ⟨a, b, by omega⟩
  · rw [if_neg hs]
    refine ⟨fun c hc => ?_, fun k hk1 hk2 hout => ?_⟩
    · have hc' : c = ⟨cur + 1, last, cur, fd, false⟩ ∨ (fd > 0 ∧ c = ⟨first, fd - 1, cur, fd, false⟩) := by
        by_cases hfd0 : fd > 0
        · simpa [hfd0] using hc
        · simpa [hfd0] using hc
      rcases hc' with rfl | ⟨hfd0, rfl⟩
      · refine ⟨rfl, rfl, fun _ => rfl, fun k hcov => ?_⟩
        obtain ⟨a, b, _⟩ := (covers_iff _ k).mp hcov
        simp only at a b
        exact ⟨by omega, b, Or.inr (by omega)⟩
      · refine ⟨rfl, rfl, fun _ => rfl, fun k hcov => ?_⟩
        obtain ⟨a, b, _⟩ := (covers_iff _ k).mp hcov
        simp only at a b
        exact ⟨a, by omega, Or.inl (by omega)⟩
    · rcases hout with h | h
      · exact ⟨⟨first, fd - 1, cur, fd, false⟩, by simp [show fd > 0 by omega],
          (covers_iff _ k).mpr ⟨hk1, by simp only; omega, fun ⟨h, _⟩ => by cases h⟩⟩
      · exact ⟨⟨cur + 1, last, cur, fd, false⟩, by simp,
          (covers_iff _ k).mpr ⟨by simp only; omega, hk2, fun ⟨h, _⟩ => by cases h⟩⟩

/-- For a contour occupying points
`first ..= last` of a glyph: `interpolate_deltas` makes no call when the contour has no explicit
delta; otherwise every point without an explicit delta is written by some call, and every call that
writes a point `k` uses as its references exactly the nearest explicit points before and after `k`
in the contour's cyclic order (`shift`: the single explicit point, for both).  The head call is
guarded by `first_delta_ix > 0`, not `> first`: when the contour's first point is explicit and
`first > 0` it is made with the empty range `first ..= first - 1` and writes nothing. -/
theorem readerContourCalls_spec_at (has : List Bool) (np first last : Nat) (hfl : first ≤ last)
    (hl : last < np) :
    ∃ calls, readerContourCalls has np first last = some (calls, last + 1) ∧
      ((∀ j, first ≤ j → j ≤ last → H has j = false) → calls = []) ∧
      (∀ c ∈ calls, ∀ k, covers c k = true →
        first ≤ k ∧ k ≤ last ∧ GoodAt has first (last - first + 1) c k) ∧
      (∀ k, first ≤ k → k ≤ last → H has k = false → (∃ j, first ≤ j ∧ j ≤ last ∧ H has j = true) →
        ∃ c ∈ calls, covers c k = true) ∧
      (calls = [] ∨
       (∃ r, calls = [⟨first, last, r, r, true⟩] ∧ first ≤ r ∧ r ≤ last ∧ H has r = true) ∨
       (∀ c ∈ calls, c.shift = false ∧ H has c.r1 = true ∧ H has c.r2 = true ∧
          first ≤ c.r1 ∧ c.r1 ≤ last ∧ first ≤ c.r2 ∧ c.r2 ≤ last)) := by
  unfold readerContourCalls
  obtain ⟨fd, e1, s1, s2, s3, s4⟩ :=
    scanFirst_spec has np last hl (last + 2 - first) first (by omega) (by omega)
  rw [e1]
  simp only []
  by_cases hfd : fd > last
  · -- no explicit delta in the contour
    simp only [hfd, if_true]
    refine ⟨[], by rw [show fd = last + 1 by omega], fun _ => rfl, fun c hc => by simp at hc,
      fun k _ _ _ ⟨j, hj1, hj2, hjt⟩ => ?_, Or.inl rfl⟩
    have := s3 j hj1 (by omega); rw [this] at hjt; cases hjt
  · simp only [hfd, if_false]
    have hfdt : H has fd = true := s4 (by omega)
    obtain ⟨news, cur', e2, g1, g2, g3, g4, g5, g6⟩ :=
      innerLoop_spec has np last hl (last + 1 - fd) (fd + 1) fd [] (by omega) (by omega) (by omega) hfdt
        (fun j a b => by omega)
    rw [e2]
    simp only [List.nil_append]
    -- the calls: the inner loop's, between consecutive explicit points, then those around the end
    obtain ⟨w1, w2⟩ := wrapCalls_spec first last fd cur' s1 g2 g3
    have hends := reqs_of_ends_at has first last fd cur' s1 g2 g3 hfdt g1 s3 g4
    refine ⟨news ++ wrapCalls first last fd cur', ?_, fun hall => ?_, fun c hc k hcov => ?_,
      fun k hk1 hk2 hk0 _ => ?_, ?_⟩
    · unfold wrapCalls
      by_cases hsingle : cur' = fd
      · rw [if_pos hsingle, if_pos hsingle]
      · rw [if_neg hsingle, if_neg hsingle, List.append_assoc]
    · have := hall fd s1 (by omega); rw [this] at hfdt; cases hfdt
    · rcases List.mem_append.mp hc with hc | hc
      · obtain ⟨hm, m8, m9⟩ := g5 c hc
        exact isMid_good hm (by omega) (by omega) hcov
      · obtain ⟨r1, r2, _, hcv⟩ := w1 c hc
        obtain ⟨a, b, hout⟩ := hcv k hcov
        obtain ⟨q0, q1, q2⟩ := hends k a b hout
        exact ⟨a, b, q0, r1 ▸ q1, r2 ▸ q2⟩
    · by_cases hout : k < fd ∨ cur' < k
      · obtain ⟨c, hc, hcv⟩ := w2 k hk1 hk2 hout
        exact ⟨c, List.mem_append_right _ hc, hcv⟩
      · have hkfd : k ≠ fd := by intro h; rw [h, hfdt] at hk0; cases hk0
        have hkcur : k ≠ cur' := by intro h; rw [h, g1] at hk0; cases hk0
        obtain ⟨c, hc1, hc2⟩ := g6 k (by omega) (by omega) hk0
        exact ⟨c, List.mem_append_left _ hc1, hc2⟩
    · by_cases hsingle : cur' = fd
      · -- a single explicit delta: no consecutive pair, one shift
        have hnews : news = [] := by
          cases news with
          | nil => rfl
          | cons c cs =>
            obtain ⟨⟨_, ⟨_, _, m4, _⟩, _, _⟩, m8, m9⟩ := g5 c (List.mem_cons_self ..)
            omega
        exact Or.inr (Or.inl ⟨fd, by rw [hnews, hsingle, List.nil_append, wrapCalls, if_pos rfl], s1,
          by omega, hfdt⟩)
      · refine Or.inr (Or.inr fun c hc => ?_)
        rcases List.mem_append.mp hc with hc | hc
        · obtain ⟨⟨m1, ⟨m2, m3, m4, _⟩, m6, m7⟩, m8, m9⟩ := g5 c hc
          exact ⟨m1, m2, m3, by omega, by omega, by omega, by omega⟩
        · obtain ⟨r1, r2, hsh, _⟩ := w1 c hc
          exact ⟨hsh hsingle, r1 ▸ g1, r2 ▸ hfdt, by omega, by omega, by omega, by omega⟩

/-- If the calls leave a contour without explicit delta
alone, write every other point without one, and write a point only with the specification's
references (`readerContourCalls_spec_at`), then with exact per-point arithmetic every point of the
contour gets exactly the delta the specification's inference assigns. -/
theorem readerExact_eq_spec (cs ds : List Pt) (has : List Bool) (calls : List Call)
    (hA : (∀ j, j < ds.length → H has j = false) → calls = [])
    (hB : ∀ c ∈ calls, ∀ k, k < ds.length → covers c k = true →
      H has k = false ∧ prevReq has ds.length k = some c.r1 ∧ nextReq has ds.length k = some c.r2)
    (hC : ∀ k, k < ds.length → H has k = false → (∃ j, j < ds.length ∧ H has j = true) →
      ∃ c ∈ calls, covers c k = true) (k : Nat) (hk : k < ds.length) :
    readerExactAt cs ds has calls k = inferSpec cs ds has k := by
  unfold readerExactAt
  cases hh : has.getD k false with
  | true => rw [inferSpec_kept cs ds has k hh, if_pos rfl]
  | false =>
    rw [if_neg Bool.false_ne_true]
    by_cases hex : ∃ j, j < ds.length ∧ H has j = true
    · obtain ⟨c0, hc0, hcov0⟩ := hC k hk hh hex
      cases hf : calls.find? (fun c => covers c k) with
      | none =>
        have := List.find?_eq_none.mp hf c0 hc0
        simp [hcov0] at this
      | some c =>
        have hcm : c ∈ calls := List.mem_of_find?_eq_some hf
        have hcc : covers c k = true := by
          have := List.find?_some hf; simpa using this
        obtain ⟨_, g2, g3⟩ := hB c hcm k hk hcc
        rw [inferSpec_refs cs ds has k _ _ hh g2 g3]
        simp only [readerPoint, iupPoint, readerAxis_eq_iupAxis]
    · have hall : ∀ j, j < ds.length → has.getD j false = false := by
        intro j hj
        cases hj2 : has.getD j false with
        | false => rfl
        | true => exact absurd ⟨j, hj, hj2⟩ hex
      have hcalls := hA hall
      subst hcalls
      rw [inferSpec_none cs ds has k hk hall]
      rfl

end FontVerif.Iup
