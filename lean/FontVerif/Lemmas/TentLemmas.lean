/-
One iteration of `VariationRegion::compute_scalar` (Model/Tent.lean `axisStep`) on operands that come from
F2Dot14 values: the wrapping subtractions are exact and `mul_div` is the rounded quotient.  The specification of
the multi-axis scalar stands here too: `tentFactors` lists the exact per-axis factors `n_i / d_i`, `prodN / prodD`
is their product.
-/
import FontVerif.Model.Tent
import FontVerif.Lemmas.Round
import FontVerif.Lemmas.Base
import FontVerif.Lemmas.FixedOps
namespace FontVerif.Tent

theorem getD_zero (l : List Int) : l.getD 0 0 = l.headD 0 := by cases l <;> rfl

theorem getD_tail (l : List Int) (j : Nat) : l.tail.getD j 0 = l.getD (j + 1) 0 := by
  cases l <;> simp

theorem mulDiv_comm (s a b : Int) : Fixed.mulDiv s a b = Fixed.mulDiv a s b := by
  unfold Fixed.mulDiv
  have : (decide (s < 0) != decide (a < 0)) = (decide (a < 0) != decide (s < 0)) := by
    cases decide (s < 0) <;> cases decide (a < 0) <;> rfl
  simp only [Int.mul_comm (iabs s), this]

/-- a `Fixed` value obtained from an `F2Dot14` (`to_fixed` = `× 4`). -/
def inF (x : Int) : Prop := -131072 ≤ x ∧ x ≤ 131068

theorem inF_of_f2dot14 {x : Int} (h : inI16 x) : inF (Fixed.f2dot14ToFixed x) := by
  unfold inI16 at h; unfold inF Fixed.f2dot14ToFixed; omega

theorem fsub_id {a b : Int} (ha : inF a) (hb : inF b) : fsub a b = a - b := by
  unfold inF at *; unfold fsub; apply wrapI32_id; unfold inI32; omega

/-! `to_fixed` is `× 4`: it keeps order and equality, and differences of F2Dot14 values do not wrap.  With these as
rewrite rules a case split on `to_fixed` operands becomes the same split on the F2Dot14 bits. -/
theorem f2dot14_lt (x y : Int) : Fixed.f2dot14ToFixed x < Fixed.f2dot14ToFixed y ↔ x < y := by
  unfold Fixed.f2dot14ToFixed; omega

theorem f2dot14_le (x y : Int) : Fixed.f2dot14ToFixed x ≤ Fixed.f2dot14ToFixed y ↔ x ≤ y := by
  unfold Fixed.f2dot14ToFixed; omega

theorem f2dot14_inj (x y : Int) : Fixed.f2dot14ToFixed x = Fixed.f2dot14ToFixed y ↔ x = y := by
  unfold Fixed.f2dot14ToFixed; omega

theorem f2dot14_eq_zero (x : Int) : Fixed.f2dot14ToFixed x = 0 ↔ x = 0 := by
  unfold Fixed.f2dot14ToFixed; omega

theorem fsub_f2dot14 {x y : Int} (hx : inI16 x) (hy : inI16 y) :
    fsub (Fixed.f2dot14ToFixed x) (Fixed.f2dot14ToFixed y) = (x - y) * 4 := by
  rw [fsub_id (inF_of_f2dot14 hx) (inF_of_f2dot14 hy)]; unfold Fixed.f2dot14ToFixed; omega

/-- a tent factor `n / d ≤ 1` applied to a scalar in `[0, ONE]`; `d ≤ 2^19` holds for every difference of
two `inF` values. -/
theorem mulDiv_tent {s n d : Int} (hs0 : 0 ≤ s) (hs1 : s ≤ 65536) (hn0 : 0 ≤ n) (hnd : n ≤ d)
    (hd0 : 0 < d) (hd1 : d ≤ 524288) :
    Fixed.mulDiv s n d = (s * n + d / 2) / d ∧ 0 ≤ (s * n + d / 2) / d ∧ (s * n + d / 2) / d ≤ s := by
  have hb := rdiv_between hs0 hn0 hnd hd0
  exact ⟨Fixed.mulDiv_nonneg hs0 hn0 hd0 (by omega) (by omega) (by omega) (by omega), hb⟩

/-- the axis is skipped by `compute_scalar` (first `if`). -/
def Ignored (start peak end_ : Int) : Prop :=
  start > peak ∨ peak > end_ ∨ peak = 0 ∨ (start < 0 ∧ end_ > 0)

instance (s p e : Int) : Decidable (Ignored s p e) := by unfold Ignored; infer_instance

theorem f2dot14_ignored (s p e : Int) :
    Ignored (Fixed.f2dot14ToFixed s) (Fixed.f2dot14ToFixed p) (Fixed.f2dot14ToFixed e) ↔ Ignored s p e := by
  unfold Ignored Fixed.f2dot14ToFixed; omega

/-- the OpenType per-axis factors of a region at a location, in 16.16 units: `none` when the
location is outside the support on some non-ignored axis (scalar 0); otherwise one
`(numerator, denominator)` pair for every axis that is neither ignored nor sitting at its peak:
`(c − start, peak − start)` on the rising leg, `(end − c, end − peak)` on the falling leg. -/
def tentFactors : List (Int × Int × Int) → List Int → Option (List (Int × Int))
  | [], _ => some []
  | (s, p, e) :: rest, coords =>
    let c := Fixed.f2dot14ToFixed (coords.headD 0)
    let S := Fixed.f2dot14ToFixed s
    let P := Fixed.f2dot14ToFixed p
    let E := Fixed.f2dot14ToFixed e
    if Ignored S P E then tentFactors rest coords.tail
    else if c < S ∨ c > E then none
    else if c = P then tentFactors rest coords.tail
    else if c < P then (tentFactors rest coords.tail).map ((c - S, P - S) :: ·)
    else (tentFactors rest coords.tail).map ((E - c, E - P) :: ·)

def prodN : List (Int × Int) → Int
  | [] => 1
  | f :: r => f.1 * prodN r
def prodD : List (Int × Int) → Int
  | [] => 1
  | f :: r => f.2 * prodD r

theorem tentFactors_cons (s p e : Int) (rest : List (Int × Int × Int)) (coords : List Int) :
    tentFactors ((s, p, e) :: rest) coords =
      if Ignored s p e then tentFactors rest coords.tail
      else if coords.headD 0 < s ∨ coords.headD 0 > e then none
      else if coords.headD 0 = p then tentFactors rest coords.tail
      else if coords.headD 0 < p then
        (tentFactors rest coords.tail).map ((4 * (coords.headD 0 - s), 4 * (p - s)) :: ·)
      else (tentFactors rest coords.tail).map ((4 * (e - coords.headD 0), 4 * (e - p)) :: ·) := by
  have f2_sub : ∀ x y : Int, Fixed.f2dot14ToFixed x - Fixed.f2dot14ToFixed y = 4 * (x - y) := by
    intro x y; unfold Fixed.f2dot14ToFixed; omega
  simp only [tentFactors, f2dot14_ignored, gt_iff_lt, f2dot14_lt, f2dot14_inj, f2_sub]

end FontVerif.Tent

namespace FontVerif.C11
open FontVerif.Tent

theorem axisStep_ignored {s p e : Int} (h : Ignored s p e) (sc c : Int) :
    axisStep sc c s p e = some sc := if_pos h

theorem axisStep_outside {c s p e : Int} (hi : ¬ Ignored s p e) (ho : c < s ∨ c > e) (sc : Int) :
    axisStep sc c s p e = none := by
  unfold axisStep; rw [if_neg (id hi : ¬ (s > p ∨ _)), if_pos ho]

theorem axisStep_peak (sc s p e : Int) : axisStep sc p s p e = some sc := by
  unfold axisStep
  split
  · rfl
  · rw [if_neg (by omega), if_pos rfl]

end FontVerif.C11
