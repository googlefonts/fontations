/-
Sparse-bit-set codec: output bit stream against input bit stream.  Reading the nodes of a
written stream returns the written nodes and ends exactly at the end of the data.
-/
import FontVerif.Lemmas.SbsStream
import FontVerif.Lemmas.SbsHeight
import FontVerif.Lemmas.Base
namespace FontVerif.SparseBitSet

/-- two byte strings give the same nodes at every node position ending at or before bit `P` -/
def AgreeBelow (bf P : Nat) (d d' : List Nat) : Prop :=
  ∀ st, StOk bf st → pos st + bf ≤ P → nextNode bf d' st = nextNode bf d st

theorem readNodes_agree {bf : Nat} (hbf : BfOk bf) {P : Nat} {d d' : List Nat}
    (ha : AgreeBelow bf P d d') :
    ∀ (n : Nat) (st : BitIn), StOk bf st → pos st + n * bf ≤ P →
      readNodes bf d' n st = readNodes bf d n st
  | 0, st, _, _ => by simp [readNodes]
  | n + 1, st, hst, hp => by
    rw [Nat.add_mul] at hp
    simp only [readNodes]
    rw [ha st hst (by omega)]
    cases h1 : nextNode bf d st with
    | none => rfl
    | some r =>
      obtain ⟨v, st'⟩ := r
      have a := nextNode_some hbf hst h1
      simp only []
      rw [readNodes_agree hbf ha n st' a.1 (by omega)]

/-- writer state invariant: at least the header byte, all bytes `< 256`, for `BF ∈ {2,4}` the
unused high bits of a partially filled last byte are zero, otherwise no sub-byte index -/
def BitOut.WF (bf : Nat) (o : BitOut) : Prop :=
  o.rev ≠ [] ∧ (∀ b ∈ o.rev, b < 256) ∧
    (if bf = 2 ∨ bf = 4 then
      o.subIndex < 8 / bf ∧ (o.subIndex ≠ 0 → ∀ last ∈ o.rev.head?, last < 2 ^ (o.subIndex * bf))
    else o.subIndex = 0)

/-- the reader position corresponding to a writer state -/
def stOf (bf : Nat) (o : BitOut) : BitIn :=
  ⟨if o.subIndex = 0 then o.rev.length else o.rev.length - 1, o.subIndex * bf⟩

theorem wf_new {bf : Nat} (hbf : BfOk bf) (height : Nat) : (BitOut.new bf height).WF bf := by
  have := header_lt bf height
  rcases hbf with h | h | h | h <;> subst h <;> simp [BitOut.WF, BitOut.new] <;> omega

theorem stOf_new (bf height : Nat) : stOf bf (BitOut.new bf height) = BitIn.start := by
  simp [stOf, BitOut.new, BitIn.start]

theorem bytesConsumed_stOf (bf : Nat) (hbf : 0 < bf) (o : BitOut) (h : o.rev ≠ []) :
    bytesConsumed (stOf bf o) = o.bytes.length := by
  have hl : 0 < o.rev.length := List.length_pos_iff.mpr h
  simp only [bytesConsumed, stOf, BitOut.bytes, List.length_reverse]
  by_cases h0 : o.subIndex = 0
  · simp [h0]
  · have : 0 < o.subIndex * bf := Nat.mul_pos (Nat.pos_of_ne_zero h0) hbf
    simp [h0, this]; omega

private theorem or_eq_add {a c i : Nat} (ha : a < 2 ^ i) : a ||| (2 ^ i * c) = a + 2 ^ i * c := by
  rw [Nat.or_comm, ← Nat.two_pow_add_eq_or_of_lt ha c, Nat.add_comm]

theorem agree_append {bf : Nat} (hbf : BfOk bf) (d extra : List Nat) :
    AgreeBelow bf (8 * d.length) d (d ++ extra) := by
  intro st hst hp
  unfold pos at hp
  rcases or_assoc.2 hbf with h | rfl | rfl
  · rw [nextNode_small h, nextNode_small h, List.getElem?_append_left (by omega)]
  · rw [nextNode_8, nextNode_8, List.getElem?_append_left (by omega)]
  · rw [nextNode_32, nextNode_32, List.getElem?_append_left (by omega), List.getElem?_append_left (by omega),
      List.getElem?_append_left (by omega), List.getElem?_append_left (by omega)]

theorem agree_last {bf : Nat} (hbf : bf = 2 ∨ bf = 4) (pre : List Nat) (b b' t : Nat) (ht : t ≤ 8)
    (h : ∀ s, s % bf = 0 → s + bf ≤ t → b' / 2 ^ s % 2 ^ bf = b / 2 ^ s % 2 ^ bf) :
    AgreeBelow bf (8 * pre.length + t) (pre ++ [b]) (pre ++ [b']) := by
  intro st hst hp
  unfold pos at hp
  rw [nextNode_small hbf, nextNode_small hbf]
  by_cases hk : st.byteIndex < pre.length
  · rw [List.getElem?_append_left hk, List.getElem?_append_left hk]
  · have hk' : st.byteIndex = pre.length := by omega
    rw [hk', List.getElem?_concat_length, List.getElem?_concat_length]
    dsimp only
    rw [h st.subIndex hst.1 (by omega)]

def WriteStep (bf : Nat) (o : BitOut) (w : Nat) : Prop :=
  (writeNode bf o w).WF bf ∧ StOk bf (stOf bf o) ∧
    pos (stOf bf (writeNode bf o w)) = pos (stOf bf o) + bf ∧
    AgreeBelow bf (pos (stOf bf o)) o.bytes (writeNode bf o w).bytes ∧
    nextNode bf (writeNode bf o w).bytes (stOf bf o) = some (w, stOf bf (writeNode bf o w))

private theorem shift_lt {a w k b : Nat} (ha : a < 2 ^ k) (hw : w < 2 ^ b) :
    a + 2 ^ k * w < 2 ^ (k + b) :=
  calc a + 2 ^ k * w < 2 ^ k + 2 ^ k * w := Nat.add_lt_add_right ha _
    _ = 2 ^ k * (w + 1) := by rw [Nat.mul_succ, Nat.add_comm]
    _ ≤ 2 ^ k * 2 ^ b := Nat.mul_le_mul_left _ hw
    _ = 2 ^ (k + b) := (Nat.pow_add ..).symm

private theorem shift_div {a k : Nat} (ha : a < 2 ^ k) (w : Nat) : (a + 2 ^ k * w) / 2 ^ k = w := by
  rw [Nat.add_mul_div_left _ _ (Nat.two_pow_pos k), Nat.div_eq_of_lt ha, Nat.zero_add]

private theorem shift_low (a w : Nat) {s b k : Nat} (h : s + b ≤ k) :
    (a + 2 ^ k * w) / 2 ^ s % 2 ^ b = a / 2 ^ s % 2 ^ b := by
  obtain ⟨r, rfl⟩ := Nat.exists_eq_add_of_le h
  rw [Nat.pow_add, Nat.pow_add, Nat.mul_assoc, Nat.mul_assoc,
    Nat.add_mul_div_left _ _ (Nat.two_pow_pos s), Nat.add_mul_mod_self_left]

private theorem sub_cases {bf : Nat} (hbf : bf = 2 ∨ bf = 4) : ∀ sub, sub < 8 / bf →
    sub * bf + bf ≤ 8 ∧
    ((sub + 1) % (8 / bf) = sub + 1 ∧ (sub * bf + bf) % 8 = sub * bf + bf ∧ sub * bf + bf < 8 ∨
      (sub + 1) % (8 / bf) = 0 ∧ (sub * bf + bf) % 8 = 0 ∧ sub * bf + bf = 8) := by
  rcases hbf with rfl | rfl
  · decide
  · decide

/-- at a byte boundary `write_node` appends whole bytes `bs`; the advance of the position is the reader's own -/
private theorem writeStep_bytes {bf : Nat} (hbf : BfOk bf) {rev bs : List Nat} {w s' : Nat}
    (he : writeNode bf ⟨rev, 0⟩ w = ⟨bs.reverse ++ rev, s'⟩) (hne : rev ≠ [])
    (hb : ∀ b ∈ rev, b < 256) (hbs : ∀ b ∈ bs, b < 256)
    (hsub : if bf = 2 ∨ bf = 4 then
        s' < 8 / bf ∧ (s' ≠ 0 → ∀ last ∈ (bs.reverse ++ rev).head?, last < 2 ^ (s' * bf))
      else s' = 0)
    (hread : nextNode bf (rev.reverse ++ bs) ⟨rev.length, 0⟩
      = some (w, stOf bf ⟨bs.reverse ++ rev, s'⟩)) :
    WriteStep bf ⟨rev, 0⟩ w := by
  have hst : stOf bf ⟨rev, 0⟩ = ⟨rev.length, 0⟩ := by
    simp only [stOf, if_pos, Nat.zero_mul]
  have hok : StOk bf ⟨rev.length, 0⟩ := ⟨Nat.zero_mod _, Nat.zero_lt_succ _⟩
  have hbytes : BitOut.bytes ⟨bs.reverse ++ rev, s'⟩ = rev.reverse ++ bs := by
    simp only [BitOut.bytes, List.reverse_append, List.reverse_reverse]
  have hagree := agree_append hbf rev.reverse bs
  rw [List.length_reverse] at hagree
  rw [WriteStep, he, hst, hbytes]
  refine ⟨⟨?_, ?_, hsub⟩, hok, (nextNode_some hbf hok hread).2.1, hagree, hread⟩
  · intro h; exact hne (List.append_eq_nil_iff.mp h).2
  · intro b hb'
    rcases List.mem_append.mp hb' with h | h
    · exact hbs b (List.mem_reverse.mp h)
    · exact hb b h

private theorem writeStep_zero {bf : Nat} (hbf : bf = 2 ∨ bf = 4) (rev : List Nat) (w : Nat)
    (hw : w < 2 ^ bf) (hne : rev ≠ []) (hb : ∀ b ∈ rev, b < 256) : WriteStep bf ⟨rev, 0⟩ w := by
  have hbf8 : bf < 8 := by omega
  have h1 : 1 % (8 / bf) = 1 := by rcases hbf with rfl | rfl <;> rfl
  have h256 : w < 256 := Nat.lt_of_lt_of_le hw (Nat.pow_le_pow_right (by decide) (Nat.le_of_lt hbf8))
  have hst' : stOf bf ⟨[w].reverse ++ rev, 1⟩ = ⟨rev.length, bf⟩ := by
    simp only [stOf, if_neg Nat.one_ne_zero, List.reverse_singleton, List.singleton_append,
      List.length_cons, Nat.add_sub_cancel, Nat.one_mul]
  refine writeStep_bytes (bs := [w]) (s' := 1) (or_assoc.1 (Or.inl hbf)) ?_ hne hb
    (fun b hb => List.mem_singleton.mp hb ▸ h256) ?_ ?_
  · rw [writeNode, if_pos hbf]
    dsimp only
    rw [if_pos rfl, Nat.mod_eq_of_lt hw, Nat.zero_mul, Nat.pow_zero, Nat.mul_one, Nat.mod_eq_of_lt h256, h1]
    rfl
  · rw [if_pos hbf]
    refine ⟨by rcases hbf with rfl | rfl <;> decide, fun _ x hx => ?_⟩
    cases hx
    rw [Nat.one_mul]; exact hw
  · rw [hst', nextNode_small hbf]
    dsimp only
    rw [← List.length_reverse, List.getElem?_concat_length]
    dsimp only
    rw [Nat.pow_zero, Nat.div_one, Nat.mod_eq_of_lt hw, Nat.zero_add, Nat.mod_eq_of_lt hbf8,
      if_neg (by omega), List.length_reverse]

private theorem writeStep_sub {bf : Nat} (hbf : bf = 2 ∨ bf = 4) (last w sub : Nat) (more : List Nat)
    (hw : w < 2 ^ bf) (hs0 : sub ≠ 0) (hs : sub < 8 / bf) (hlast : last < 2 ^ (sub * bf))
    (hmore : ∀ b ∈ more, b < 256) : WriteStep bf ⟨last :: more, sub⟩ w := by
  obtain ⟨hk, hc⟩ := sub_cases hbf sub hs
  have hbf0 : 0 < bf := by rcases hbf with rfl | rfl <;> decide
  have hnz : ¬ sub * bf + bf = 0 := Nat.ne_of_gt (Nat.add_pos_right _ hbf0)
  have hnew : last + 2 ^ (sub * bf) * w < 2 ^ (sub * bf + bf) := shift_lt hlast hw
  have h256 : last + 2 ^ (sub * bf) * w < 256 :=
    Nat.lt_of_lt_of_le hnew (Nat.pow_le_pow_right (by decide) hk)
  have e : writeNode bf ⟨last :: more, sub⟩ w
      = ⟨(last + 2 ^ (sub * bf) * w) :: more, (sub + 1) % (8 / bf)⟩ := by
    rw [writeNode, if_pos hbf]
    dsimp only
    rw [if_neg hs0, Nat.mod_eq_of_lt hw, Nat.mul_comm w, Nat.mod_eq_of_lt
      (Nat.lt_of_le_of_lt (Nat.le_add_left _ _) h256), or_eq_add hlast]
  have hpos : pos (stOf bf ⟨last :: more, sub⟩) = 8 * more.reverse.length + sub * bf := by
    simp only [pos, stOf, if_neg hs0, List.length_cons, List.length_reverse, Nat.add_sub_cancel]
  have hst' : stOf bf ⟨(last + 2 ^ (sub * bf) * w) :: more, (sub + 1) % (8 / bf)⟩
      = ⟨if (sub * bf + bf) % 8 = 0 then more.length + 1 else more.length, (sub * bf + bf) % 8⟩ := by
    rcases hc with ⟨e1, e2, _⟩ | ⟨e1, e2, _⟩
    · simp only [stOf, e1, e2, Nat.succ_mul, List.length_cons, Nat.add_sub_cancel,
        if_neg (Nat.succ_ne_zero sub)]
      rw [if_neg hnz]
    · simp only [stOf, e1, e2, Nat.zero_mul, List.length_cons, if_pos]
  rw [WriteStep, e]
  refine ⟨⟨List.cons_ne_nil _ _, ?_, ?_⟩, ⟨Nat.mul_mod_left _ _,
    Nat.lt_of_lt_of_le (Nat.lt_add_of_pos_right hbf0) hk⟩, ?_, ?_, ?_⟩
  · intro b hb
    rcases List.mem_cons.1 hb with rfl | hb
    · exact h256
    · exact hmore b hb
  · rw [if_pos hbf]
    refine ⟨Nat.mod_lt _ (Nat.lt_of_le_of_lt (Nat.zero_le _) hs), fun hne x hx => ?_⟩
    cases hx
    rcases hc with ⟨e1, _⟩ | ⟨e1, _⟩
    · rw [e1, Nat.succ_mul]; exact hnew
    · exact absurd e1 hne
  · rw [hst', hpos]
    dsimp only [pos]
    rcases hc with ⟨_, e2, _⟩ | ⟨_, e2, e3⟩
    · rw [e2, if_neg hnz, List.length_reverse, Nat.add_assoc]
    · rw [e2, if_pos rfl, List.length_reverse, Nat.add_assoc, e3, Nat.mul_succ, Nat.add_zero]
  · simp only [BitOut.bytes, List.reverse_cons, hpos]
    exact agree_last hbf _ _ _ _ (Nat.le_trans (Nat.le_add_right _ _) hk) fun s _ hsk => shift_low last w hsk
  · rw [hst']
    simp only [BitOut.bytes, List.reverse_cons, stOf, if_neg hs0, List.length_cons, Nat.add_sub_cancel]
    rw [nextNode, if_pos hbf, ← List.length_reverse, List.getElem?_concat_length]
    dsimp only
    rw [shift_div hlast, Nat.mod_eq_of_lt hw, List.length_reverse]

theorem writeNode_step_small {bf : Nat} (hbf : bf = 2 ∨ bf = 4) (o : BitOut) (w : Nat)
    (hw : w < 2 ^ bf) (hwf : o.WF bf) : WriteStep bf o w := by
  obtain ⟨rev, sub⟩ := o
  obtain ⟨hne, hbytes, hsub⟩ := hwf
  rw [if_pos hbf] at hsub
  by_cases h0 : sub = 0
  · subst h0; exact writeStep_zero hbf rev w hw hne hbytes
  · cases rev with
    | nil => exact absurd rfl hne
    | cons last more =>
      exact writeStep_sub hbf last w sub more hw h0 hsub.1 (hsub.2 h0 last rfl)
        fun b hb => hbytes b (List.mem_cons_of_mem _ hb)

private theorem writeStep_8 (rev : List Nat) (w : Nat) (hw : w < 256) (hne : rev ≠ [])
    (hb : ∀ b ∈ rev, b < 256) : WriteStep 8 ⟨rev, 0⟩ w := by
  refine writeStep_bytes (bs := [w]) (s' := 0) (by simp [BfOk]) ?_ hne hb
    (fun b hb => List.mem_singleton.mp hb ▸ hw) (by rw [if_neg (by decide)]) ?_
  · rw [writeNode, if_neg (by decide), if_pos rfl, Nat.mod_eq_of_lt hw]; rfl
  · rw [nextNode_8]
    dsimp only
    rw [← List.length_reverse, List.getElem?_concat_length, List.length_reverse]; rfl

private theorem writeStep_32 (rev : List Nat) (w : Nat) (hw : w < 2 ^ 32) (hne : rev ≠ [])
    (hb : ∀ b ∈ rev, b < 256) : WriteStep 32 ⟨rev, 0⟩ w := by
  refine writeStep_bytes (bs := [w % 256, w / 256 % 256, w / 65536 % 256, w / 16777216 % 256])
    (s' := 0) (by simp [BfOk]) ?_ hne hb ?_ (by rw [if_neg (by decide)]) ?_
  · rw [writeNode, if_neg (by decide), if_neg (by decide)]; rfl
  · intro b hb
    simp only [List.mem_cons, List.mem_nil_iff, or_false] at hb
    rcases hb with rfl | rfl | rfl | rfl <;> exact Nat.mod_lt _ (by decide)
  · rw [nextNode_32]
    simp [stOf]
    have := digits4 (v := w) hw
    omega

/-- one `write_node`: the writer invariant is kept, the reader position advances by one node,
earlier nodes read the same, and the node just written reads back -/
theorem writeNode_step {bf : Nat} (hbf : BfOk bf) (o : BitOut) (w : Nat)
    (hw : w < 2 ^ bf) (hwf : o.WF bf) : WriteStep bf o w := by
  rcases hbf with h | h | h | h
  · exact writeNode_step_small (Or.inl h) o w hw hwf
  · exact writeNode_step_small (Or.inr h) o w hw hwf
  · subst h
    obtain ⟨rev, sub⟩ := o
    obtain ⟨hne, hb, hs⟩ := hwf
    simp at hs; subst hs
    exact writeStep_8 rev w (by simpa using hw) hne hb
  · subst h
    obtain ⟨rev, sub⟩ := o
    obtain ⟨hne, hb, hs⟩ := hwf
    simp at hs; subst hs
    exact writeStep_32 rev w hw hne hb

theorem readNodes_foldl_writeNode {bf : Nat} (hbf : BfOk bf) :
    ∀ (ws : List Nat) (o : BitOut), (∀ w ∈ ws, w < 2 ^ bf) → o.WF bf →
      (ws.foldl (writeNode bf) o).WF bf ∧
      pos (stOf bf (ws.foldl (writeNode bf) o)) = pos (stOf bf o) + ws.length * bf ∧
      AgreeBelow bf (pos (stOf bf o)) o.bytes (ws.foldl (writeNode bf) o).bytes ∧
      readNodes bf (ws.foldl (writeNode bf) o).bytes ws.length (stOf bf o)
        = some (ws, stOf bf (ws.foldl (writeNode bf) o))
  | [], o, _, hwf => by
    refine ⟨hwf, by simp, fun st _ _ => rfl, by simp [readNodes]⟩
  | w :: rest, o, hws, hwf => by
    obtain ⟨s1, s2, s3, s4, s5⟩ := writeNode_step hbf o w (hws w (by simp)) hwf
    obtain ⟨i1, i2, i3, i4⟩ := readNodes_foldl_writeNode hbf rest (writeNode bf o w)
      (fun x hx => hws x (by simp [hx])) s1
    simp only [List.foldl_cons, List.length_cons]
    refine ⟨i1, ?_, ?_, ?_⟩
    · rw [i2, s3, Nat.add_mul]; omega
    · intro st hst hp
      rw [i3 st hst (by omega), s4 st hst hp]
    · simp only [readNodes]
      rw [i3 (stOf bf o) s2 (by omega), s5]
      simp only [i4]

/-- `write_node` never touches the first byte once it is not the byte being filled -/
theorem getLast?_writeNode (bf : Nat) (o : BitOut) (w : Nat) (hne : o.rev ≠ [])
    (hs : o.subIndex = 0 ∨ 2 ≤ o.rev.length) :
    (writeNode bf o w).rev.getLast? = o.rev.getLast? ∧ 2 ≤ (writeNode bf o w).rev.length := by
  obtain ⟨rev, sub⟩ := o
  cases rev with
  | nil => exact absurd rfl hne
  | cons a more =>
    simp only [writeNode]
    split
    · by_cases h0 : sub = 0
      · simp [h0]
      · simp only [h0, if_false]
        cases more with
        | nil => simp at hs; exact absurd hs h0
        | cons b more' => simp
    · split <;> simp

theorem head_foldl_writeNode (bf : Nat) :
    ∀ (ws : List Nat) (o : BitOut), o.rev ≠ [] → (o.subIndex = 0 ∨ 2 ≤ o.rev.length) →
      (ws.foldl (writeNode bf) o).bytes.head? = o.bytes.head?
  | [], o, _, _ => rfl
  | w :: rest, o, hne, hs => by
    have h := getLast?_writeNode bf o w hne hs
    have hne' : (writeNode bf o w).rev ≠ [] := by
      intro hc; rw [hc] at h; simp at h
    simp only [List.foldl_cons]
    rw [head_foldl_writeNode bf rest (writeNode bf o w) hne' (Or.inr h.2)]
    simp only [BitOut.bytes, List.head?_reverse]
    exact h.1

theorem readNodes_written {bf : Nat} (hbf : BfOk bf) (height : Nat) (ws : List Nat)
    (hws : ∀ w ∈ ws, w < 2 ^ bf) :
    ∃ st, readNodes bf (ws.foldl (writeNode bf) (BitOut.new bf height)).bytes ws.length BitIn.start
        = some (ws, st) ∧
      bytesConsumed st = (ws.foldl (writeNode bf) (BitOut.new bf height)).bytes.length ∧
      (∀ b ∈ (ws.foldl (writeNode bf) (BitOut.new bf height)).bytes, b < 256) ∧
      (ws.foldl (writeNode bf) (BitOut.new bf height)).bytes.head?
        = some ((height % 32) * 4 + bitId bf) := by
  obtain ⟨h1, h2, h3, h4⟩ := readNodes_foldl_writeNode hbf ws (BitOut.new bf height) hws
    (wf_new hbf height)
  rw [stOf_new] at h4 h3
  refine ⟨_, h4, bytesConsumed_stOf bf (bfOk_pos hbf) _ h1.1, ?_, ?_⟩
  · intro b hb
    exact h1.2.1 b (by simpa [BitOut.bytes] using hb)
  · rw [head_foldl_writeNode bf ws (BitOut.new bf height) (by simp [BitOut.new])
      (Or.inl (by simp [BitOut.new]))]
    simp [BitOut.new, BitOut.bytes]

end FontVerif.SparseBitSet
