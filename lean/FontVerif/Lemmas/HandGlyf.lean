/-
Per-step facts of the glyf models of Model/HandGlyf.lean (`resolve_coords_len`, `PointIter`, `points_impl`,
`read_points_fast`, the two component iterators) from which Props/C01HandGlyf.lean derives its theorems, and that
file's standing hypotheses (`Bytes`, `U16s`, `LocaWf`).  The three walks over flag bytes are stated through one decoder,
`flagRun` (first run of a flag array), and one count, `cnt` (points a flag array stands for).
-/
import FontVerif.Model.HandGlyf
import FontVerif.Lemmas.ReadIter
import FontVerif.Lemmas.HandRead
import FontVerif.Lemmas.Ite
namespace FontVerif.C01HandGlyf
open FontVerif.ReadIter FontVerif.HandRead FontVerif.HandGlyf
open FontVerif.Glyf (hasBit ON_CURVE X_SHORT Y_SHORT REPEAT X_SAME Y_SAME
  ARG_WORDS ARGS_XY HAVE_SCALE MORE_COMPONENTS HAVE_XY_SCALE HAVE_2X2 HAVE_INSTR COMPOSITE_ALL)

def Bytes (d : List Nat) : Prop := ∀ b ∈ d, b < 256

def U16s (l : List Nat) : Prop := ∀ e ∈ l, e < 65536

def LocaWf (l : Loca) : Prop := l.long = false → ∀ v ∈ l.entries, v < 65536

theorem addU16_eq {a b : Nat} (h : a + b ≤ 65535) : addU16 a b = some (a + b) := by
  unfold addU16 U16_MAX; simp [h]

theorem addU32_eq {a b : Nat} (h : a + b ≤ 4294967295) : addU32 a b = some (a + b) := by
  unfold addU32 U32_MAX; simp [h]

theorem mulU32_eq {a b : Nat} (h : a * b ≤ 4294967295) : mulU32 a b = some (a * b) := by
  unfold mulU32 U32_MAX; simp [h]

theorem addUsize_eq {a b : Nat} (h : a + b ≤ MAXU) : addUsize a b = some (a + b) := by
  unfold addUsize; simp [h]

theorem subU_eq {a b : Nat} (h : b ≤ a) : subU a b = some (a - b) := by
  unfold subU; simp [h]

theorem read_u8 (d : List Nat) (c : Cur) (h : c.pos < MAXU ∨ d.length ≤ MAXU) :
    c.read d 1 = (d[c.pos]?, c.advanceBy 1) := by
  rw [Cur.read, readAt_u8 d c.pos h]

theorem read2_lt {d : List Nat} (hb : Bytes d) {c c' : Cur} {v : Nat} (h : c.read d 2 = (some v, c')) : v < 65536 := by
  injection h with h1 _
  exact readAt2_lt d hb _ v h1

theorem readArray_u8 (d : List Nat) (hl : d.length ≤ MAXU) (c : Cur) (k : Nat) (hk : c.pos + k ≤ d.length) :
    (c.readArray d k 1).1 = .ok k := by
  unfold Cur.readArray checkedMul checkedAdd
  have h1 : k ≤ MAXU := by omega
  have h2 : c.pos + k ≤ MAXU := by omega
  have h3 : c.pos ≤ c.pos + k ∧ c.pos + k ≤ d.length := ⟨by omega, hk⟩
  simp [h1, h2, HandRead.readArray, getRange, h3, Nat.mod_one]

theorem readArray_u8_ok {d : List Nat} {c : Cur} {n k : Nat} (h : (c.readArray d n 1).1 = .ok k) :
    k = n ∧ c.pos + n ≤ d.length := by
  have := Cur.readArray_eq_ok (c' := (c.readArray d n 1).2) (Prod.ext h rfl)
  rw [Nat.mul_one] at this
  exact ⟨this.2.1, this.2.2.1⟩

/-- the first run of a flag array: (flag, points, bytes) -/
def flagRun : List Nat → Option (Nat × Nat × Nat)
  | [] => none
  | f :: rest =>
    if hasBit f REPEAT then
      match rest with
      | [] => none
      | r :: _ => some (f, r + 1, 2)
    else some (f, 1, 1)

theorem flagRun_some {l : List Nat} {f rep k : Nat} (h : flagRun l = some (f, rep, k)) :
    1 ≤ k ∧ k ≤ l.length ∧ k ≤ 2 * rep := by
  cases l with
  | nil => cases h
  | cons f' rest =>
    unfold flagRun at h; dsimp only at h
    by_cases hr : hasBit f' REPEAT = true
    · rw [if_pos hr] at h
      cases rest with
      | nil => cases h
      | cons r _ => cases h; simp only [List.length_cons]; omega
    · rw [if_neg hr] at h; cases h; simp only [List.length_cons]; omega

/-- the number of points a sequence of flag bytes stands for: a flag with `REPEAT_FLAG` and its count
byte `r` are `r + 1` points (1 point when the count byte is missing), any other flag is one point -/
def cnt : List Nat → Nat
  | [] => 0
  | [_] => 1
  | f :: r :: rest => if hasBit f REPEAT then r + 1 + cnt rest else 1 + cnt (r :: rest)

theorem cnt_norep (f : Nat) (t : List Nat) (h : hasBit f REPEAT = false) : cnt (f :: t) = 1 + cnt t := by
  cases t with
  | nil => simp [cnt]
  | cons r rest => simp [cnt, h]

theorem cnt_rep (f r : Nat) (t : List Nat) (h : hasBit f REPEAT = true) : cnt (f :: r :: t) = r + 1 + cnt t := by
  simp [cnt, h]

theorem cnt_le (l : List Nat) (hb : Bytes l) : cnt l ≤ 256 * l.length := by
  induction l using cnt.induct with
  | case1 => simp [cnt]
  | case2 f => simp [cnt]
  | case3 f r rest h ih =>
    have hr : r < 256 := hb r (by simp)
    have := ih (fun b hb' => hb b (by simp [hb']))
    simp only [cnt, h, if_true, List.length_cons]; omega
  | case4 f r rest h ih =>
    have := ih (fun b hb' => hb b (List.mem_cons_of_mem _ hb'))
    have h' : hasBit f REPEAT = false := by simpa using h
    rw [cnt_norep f _ h']
    simp only [List.length_cons] at this ⊢; omega

theorem cnt_take_flagRun {l : List Nat} {f rep k : Nat} (h : flagRun l = some (f, rep, k)) {n : Nat}
    (hk : k ≤ n) : cnt (l.take n) = rep + cnt ((l.drop k).take (n - k)) := by
  cases l with
  | nil => cases h
  | cons f' rest =>
    unfold flagRun at h; dsimp only at h
    by_cases hr : hasBit f' REPEAT = true
    · rw [if_pos hr] at h
      cases rest with
      | nil => cases h
      | cons r rest' =>
        cases h
        obtain ⟨m, rfl⟩ : ∃ m, n = m + 2 := ⟨n - 2, by omega⟩
        simp only [List.take_succ_cons, List.drop_succ_cons, List.drop_zero, Nat.add_sub_cancel]
        exact cnt_rep f r _ hr
    · rw [if_neg hr] at h
      cases h
      obtain ⟨m, rfl⟩ : ∃ m, n = m + 1 := ⟨n - 1, by omega⟩
      simp only [List.take_succ_cons, List.drop_succ_cons, List.drop_zero, Nat.add_sub_cancel]
      exact cnt_norep f _ (by simpa using hr)

theorem short_not_long (f a b : Nat) (h : (f &&& a) ≠ 0) : (f &&& (a ||| b)) ≠ 0 := by
  intro h0
  rw [Nat.and_or_distrib_left] at h0
  exact h (Nat.or_eq_zero_iff.mp h0).1

/-- the coordinate bytes `r` points with flag `f` take on one axis (`s` the short-vector bit, `m` the
same/positive bit): one each for short vectors, two each for long ones; the two tests of the branchless
sum exclude each other -/
theorem coordLen_le (f s m r : Nat) :
    (if hasBit f s then r else 0) + (if (f &&& (s ||| m)) = 0 then r * 2 else 0) ≤ 2 * r := by
  by_cases h : (f &&& s) = 0
  · simp only [hasBit, h, bne_self_eq_false, Bool.false_eq_true, if_false]; split <;> omega
  · simp only [short_not_long f s m h, if_false]; split <;> omega

theorem ite_zero_mul (c : Prop) [Decidable c] (r k : Nat) :
    (if c then r else 0) * k = if c then r * k else 0 := by
  split <;> simp

theorem ite_one_mul (c : Prop) [Decidable c] (k : Nat) : (if c then 1 else 0) * k = if c then k else 0 := by
  split <;> simp

theorem rclAccum_exact (f repeats x y left : Nat) (hr : repeats ≤ left)
    (hx : x + 2 * left ≤ U32_MAX) (hy : y + 2 * left ≤ U32_MAX) :
    rclAccum f repeats x y left = some
      (x + (if hasBit f X_SHORT then repeats else 0) + (if (f &&& (X_SHORT ||| X_SAME)) = 0 then repeats * 2 else 0),
       y + (if hasBit f Y_SHORT then repeats else 0) + (if (f &&& (Y_SHORT ||| Y_SAME)) = 0 then repeats * 2 else 0),
       left - repeats) := by
  unfold rclAccum
  simp only [ite_one_mul, beq_iff_eq, ← ite_zero_mul]
  generalize ha : (if (f &&& X_SHORT != 0) = true then repeats else 0) = a
  generalize hb : (if f &&& (X_SHORT ||| X_SAME) = 0 then repeats else 0) = b
  generalize hc : (if (f &&& Y_SHORT != 0) = true then repeats else 0) = c
  generalize he : (if f &&& (Y_SHORT ||| Y_SAME) = 0 then repeats else 0) = e
  have hxl : a + b * 2 ≤ 2 * repeats := by
    rw [← ha, ← hb, ite_zero_mul]; exact coordLen_le f X_SHORT X_SAME repeats
  have hyl : c + e * 2 ≤ 2 * repeats := by
    rw [← hc, ← he, ite_zero_mul]; exact coordLen_le f Y_SHORT Y_SAME repeats
  simp (disch := clear ha hb hc he; omega) only [if_neg]
  subst ha hc
  rfl

/-- loop invariant of `resolve_coords_len` for `points_total = T`: the cursor is inside the data and
every counter is bounded by twice the points already accounted for -/
def RInv (d : List Nat) (T : Nat) (s : RclSt) : Prop :=
  s.c.pos ≤ d.length ∧ s.c.pos + 2 * s.left ≤ 2 * T ∧ s.x + 2 * s.left ≤ 2 * T ∧ s.y + 2 * s.left ≤ 2 * T

theorem rinv_init (d : List Nat) (T : Nat) : RInv d T ⟨Cur.init, T, 0, 0⟩ := by
  simp [RInv, Cur.init]

theorem rclBody_eq (d : List Nat) (hb : Bytes d) (T : Nat) (hT : T ≤ 65535) (s : RclSt) (hi : RInv d T s) :
    rclBody d s =
      match flagRun (d.drop s.c.pos) with
      | none => .ret (.err .oob)
      | some (f, rep, k) =>
        if rep > s.left then .ret (.err .malformed)
        else .next ⟨⟨s.c.pos + k⟩, s.left - rep,
          s.x + (if hasBit f X_SHORT then rep else 0) + (if (f &&& (X_SHORT ||| X_SAME)) = 0 then rep * 2 else 0),
          s.y + (if hasBit f Y_SHORT then rep else 0) + (if (f &&& (Y_SHORT ||| Y_SAME)) = 0 then rep * 2 else 0)⟩ := by
  obtain ⟨hp, hf, hx, hy⟩ := hi
  have acc := fun f rep (hr : ¬ rep > s.left) =>
    rclAccum_exact f rep s.x s.y s.left (by omega) (by unfold U32_MAX; omega) (by unfold U32_MAX; omega)
  unfold rclBody
  have hm : s.c.pos + 2 ≤ MAXU := by unfold MAXU; omega
  rw [read_u8 d s.c (.inl (by omega)), advanceBy_eq _ 1 (by omega)]
  cases h1 : d[s.c.pos]? with
  | none => rw [drop_of_getElem?.2 h1]; rfl
  | some f =>
    rw [drop_of_getElem?.1 f h1]
    unfold flagRun
    dsimp only
    by_cases hrep : hasBit f REPEAT = true
    · rw [if_pos hrep, if_pos hrep, read_u8 d _ (.inl (by show s.c.pos + 1 < MAXU; omega)),
        advanceBy_eq _ 1 (by show s.c.pos + 1 + 1 ≤ MAXU; omega)]
      cases h2 : d[s.c.pos + 1]? with
      | none => rw [drop_of_getElem?.2 h2]
      | some r =>
        have hr : r < 256 := hb r (List.mem_of_getElem? h2)
        rw [drop_of_getElem?.1 r h2]
        dsimp only
        rw [addU32, if_pos (by unfold U32_MAX; omega)]
        dsimp only
        by_cases hgt : r + 1 > s.left
        · rw [if_pos hgt, if_pos hgt]
        · rw [if_neg hgt, if_neg hgt, acc _ _ hgt]
    · rw [if_neg hrep, if_neg hrep]
      dsimp only
      by_cases hgt : 1 > s.left
      · rw [if_pos hgt, if_pos hgt]
      · rw [if_neg hgt, if_neg hgt, acc _ _ hgt]

theorem rinv_next {d : List Nat} {T : Nat} {s : RclSt} (hi : RInv d T s) {f rep k : Nat}
    (hr : flagRun (d.drop s.c.pos) = some (f, rep, k)) (hgt : ¬ rep > s.left) :
    RInv d T ⟨⟨s.c.pos + k⟩, s.left - rep,
      s.x + (if hasBit f X_SHORT then rep else 0) + (if (f &&& (X_SHORT ||| X_SAME)) = 0 then rep * 2 else 0),
      s.y + (if hasBit f Y_SHORT then rep else 0) + (if (f &&& (Y_SHORT ||| Y_SAME)) = 0 then rep * 2 else 0)⟩ := by
  obtain ⟨hp, hf, hx, hy⟩ := hi
  obtain ⟨_, hk, hk2⟩ := flagRun_some hr
  rw [List.length_drop] at hk
  have := coordLen_le f X_SHORT X_SAME rep
  have := coordLen_le f Y_SHORT Y_SAME rep
  refine ⟨?_, ?_, ?_, ?_⟩ <;> dsimp only <;> omega

theorem rclFinish_ok (d : List Nat) (T : Nat) (hT : T ≤ 65535) (s : RclSt) (hi : RInv d T s) (h0 : s.left = 0) :
    rclFinish d s = .ok ⟨s.c.pos, s.x, s.y⟩ := by
  obtain ⟨hp, hf, hx, hy⟩ := hi
  unfold rclFinish Cur.position
  simp only [hp, if_true]
  have : s.c.pos % 4294967296 = s.c.pos := Nat.mod_eq_of_lt (by omega)
  rw [this]

def lensOpt : R Lens → Option (Nat × Nat × Nat)
  | .ok l => some (l.flags, l.x, l.y)
  | _ => none

theorem glyf_rcl_eq (l : List Nat) (pos left x y : Nat) (h0 : left ≠ 0) :
    Glyf.resolveCoordsLen l pos left x y =
      match flagRun l with
      | none => none
      | some (f, rep, k) =>
        if rep > left then none
        else Glyf.resolveCoordsLen (l.drop k) (pos + k) (left - rep)
          (x + (if hasBit f X_SHORT then rep else 0) + (if (f &&& (X_SHORT ||| X_SAME)) = 0 then rep * 2 else 0))
          (y + (if hasBit f Y_SHORT then rep else 0) + (if (f &&& (Y_SHORT ||| Y_SAME)) = 0 then rep * 2 else 0)) := by
  cases l with
  | nil => simp [Glyf.resolveCoordsLen, flagRun, h0]
  | cons f rest =>
    rw [Glyf.resolveCoordsLen, if_neg h0]
    unfold flagRun
    dsimp only
    by_cases hr : hasBit f REPEAT = true
    · rw [if_pos hr, if_pos hr]
      cases rest with
      | nil => rfl
      | cons r rest' => rfl
    · rw [if_neg hr, if_neg hr]
      dsimp only
      rw [if_neg (by omega : ¬ 1 > left)]
      rfl

theorem rclLoop_spec (d : List Nat) (hb : Bytes d) (T : Nat) (hT : T ≤ 65535) :
    ∀ (fuel : Nat) (s : RclSt), RInv d T s → d.length - s.c.pos < fuel →
      (Glyf.resolveCoordsLen (d.drop s.c.pos) s.c.pos s.left s.x s.y = none ∧ ∃ e, rclLoop d fuel s = .err e) ∨
      (∃ l, Glyf.resolveCoordsLen (d.drop s.c.pos) s.c.pos s.left s.x s.y = some (l.flags, l.x, l.y) ∧
        rclLoop d fuel s = .ok l ∧ s.c.pos ≤ l.flags ∧ l.flags ≤ d.length ∧ l.flags ≤ 2 * T ∧
        l.x ≤ 2 * T ∧ l.y ≤ 2 * T ∧ cnt ((d.drop s.c.pos).take (l.flags - s.c.pos)) = s.left) := by
  intro fuel
  induction fuel with
  | zero => intro s _ h; omega
  | succ fuel ih =>
    intro s hi hf
    unfold rclLoop
    by_cases h0 : s.left = 0
    · rw [if_pos h0, rclFinish_ok d T hT s hi h0]
      obtain ⟨hp, hfl, hx, hy⟩ := hi
      refine .inr ⟨_, ?_, rfl, Nat.le_refl _, hp, ?_, ?_, ?_, by simp [h0, cnt]⟩
      · cases hd : d.drop s.c.pos <;> simp [Glyf.resolveCoordsLen, h0]
      all_goals (dsimp only; omega)
    · rw [if_neg h0, rclBody_eq d hb T hT s hi, glyf_rcl_eq _ _ _ _ _ h0]
      cases hr : flagRun (d.drop s.c.pos) with
      | none => exact .inl ⟨rfl, _, rfl⟩
      | some t =>
        obtain ⟨f, rep, k⟩ := t
        dsimp only
        by_cases hgt : rep > s.left
        · rw [if_pos hgt, if_pos hgt]; exact .inl ⟨rfl, _, rfl⟩
        · rw [if_neg hgt, if_neg hgt, List.drop_drop]
          dsimp only
          obtain ⟨hk, hk2, _⟩ := flagRun_some hr
          rw [List.length_drop] at hk2
          rcases ih _ (rinv_next hi hr hgt) (by dsimp only; omega) with h | ⟨l, hg, hl, h1, h2, h3, h4, h5, h6⟩
          · exact .inl h
          · dsimp only at h1 h6 hg
            refine .inr ⟨l, hg, hl, by omega, h2, h3, h4, h5, ?_⟩
            rw [cnt_take_flagRun hr (by omega), List.drop_drop, Nat.sub_sub, h6]
            omega

theorem resolveCoordsLen_facts (d : List Nat) (hb : Bytes d) (T : Nat) (hT : T ≤ 65535) :
    (∃ e, resolveCoordsLen d T = .err e) ∨
    (∃ l, resolveCoordsLen d T = .ok l ∧ l.flags ≤ d.length ∧ l.flags ≤ 2 * T ∧ l.x ≤ 2 * T ∧ l.y ≤ 2 * T ∧
      cnt (d.take l.flags) = T) := by
  rcases rclLoop_spec d hb T hT (d.length + 1) _ (rinv_init d T) (by simp [Cur.init]) with
    ⟨_, h⟩ | ⟨l, _, hl, _, h2, h3, h4, h5, h6⟩
  · exact .inl h
  · exact .inr ⟨l, hl, h2, h3, h4, h5, by simpa [Cur.init] using h6⟩

def PInv (s : PiSt) : Prop := s.rep ≤ 255 ∧ Bytes s.fd ∧ s.fd.length ≤ MAXU ∧ s.fc.pos ≤ MAXU

theorem pinv_new (f x y : List Nat) (hb : Bytes f) (hl : f.length ≤ MAXU) : PInv (PiSt.new f x y) := by
  simp [PInv, PiSt.new, Cur.init, hb, hl]

/-- the number of points a `PointIter` still yields -/
def phi (s : PiSt) : Nat := s.rep + cnt (s.fd.drop s.fc.pos)

theorem advanceFlags_facts (s : PiSt) (hi : PInv s) :
    (phi s = 0 → ∃ s1, advanceFlags s = .none s1) ∧
    (0 < phi s → ∃ s1, advanceFlags s = .ok s1 ∧ PInv s1 ∧ phi s1 + 1 = phi s) := by
  obtain ⟨hrep, hb, hlen, hpos⟩ := hi
  unfold advanceFlags
  by_cases h0 : s.rep = 0
  · rw [if_pos h0, read_u8 s.fd s.fc (.inr hlen)]
    cases h1 : s.fd[s.fc.pos]? with
    | none =>
      refine ⟨fun _ => ⟨_, rfl⟩, fun hphi => ?_⟩
      simp [phi, h0, drop_of_getElem?.2 h1, cnt] at hphi
    | some f =>
      have hlt : s.fc.pos < s.fd.length := (List.getElem?_eq_some_iff.mp h1).1
      have hd := drop_of_getElem?.1 f h1
      dsimp only
      rw [advanceBy_eq _ 1 (by omega)]
      by_cases hr : hasBit f REPEAT = true
      · rw [if_pos hr, read_u8 s.fd _ (.inr hlen)]
        dsimp only
        cases h2 : s.fd[s.fc.pos + 1]? with
        | some r =>
          have hrl : r < 256 := hb r (List.mem_of_getElem? h2)
          have hlt2 : s.fc.pos + 1 < s.fd.length := (List.getElem?_eq_some_iff.mp h2).1
          rw [Option.getD_some, addU16_eq (by omega), advanceBy_eq _ 1 (by dsimp only; omega)]
          dsimp only
          rw [subU_eq (by omega)]
          have hphi : phi s = r + 1 + cnt (s.fd.drop (s.fc.pos + 1 + 1)) := by
            rw [phi, h0, hd, drop_of_getElem?.1 r h2, cnt_rep f r _ hr]; omega
          refine ⟨by omega, fun _ => ⟨_, rfl, ⟨?_, hb, hlen, ?_⟩, ?_⟩⟩
          · dsimp only; omega
          · dsimp only; omega
          · rw [hphi]; simp only [phi]; omega
        | none =>
          -- the count byte is missing: one point
          have hd2 := drop_of_getElem?.2 h2
          have hge : s.fd.length ≤ s.fc.pos + 1 := List.getElem?_eq_none_iff.mp h2
          have hc2 := advanceBy_mono ⟨s.fc.pos + 1⟩ 1 (by dsimp only; omega)
          rw [Option.getD_none, addU16_eq (by omega)]
          dsimp only
          rw [subU_eq (by omega)]
          have hphi : phi s = 1 := by simp [phi, h0, hd, hd2, cnt]
          refine ⟨by omega, fun _ => ⟨_, rfl, ⟨by simp, hb, hlen, hc2.2⟩, ?_⟩⟩
          rw [hphi]
          simp only [phi, List.drop_eq_nil_of_le (Nat.le_trans hge hc2.1), cnt]
      · rw [if_neg hr]
        dsimp only
        rw [addU16_eq (by omega)]
        dsimp only
        rw [subU_eq (by omega)]
        have hphi : phi s = 1 + cnt (s.fd.drop (s.fc.pos + 1)) := by
          rw [phi, h0, hd, cnt_norep f _ (by simpa using hr)]; omega
        refine ⟨by omega, fun _ => ⟨_, rfl, ⟨by simp, hb, hlen, by dsimp only; omega⟩, ?_⟩⟩
        rw [hphi]; simp only [phi]; omega
  · rw [if_neg h0, subU_eq (by omega)]
    refine ⟨fun h => by simp [phi] at h; omega, fun _ => ⟨_, rfl, ⟨by dsimp only; omega, hb, hlen, hpos⟩, ?_⟩⟩
    simp only [phi]; omega

theorem piStep_facts (s : PiSt) (hi : PInv s) :
    (piStep s).1 ≠ .trap ∧ (piStep s).1 ≠ .cont ∧ ((piStep s).1 = .done → phi s = 0) ∧
    ((piStep s).1 ≠ .done → PInv (piStep s).2 ∧ phi (piStep s).2 + 1 = phi s) := by
  have h := advanceFlags_facts s hi
  unfold piStep
  rcases Nat.eq_zero_or_pos (phi s) with h0 | hp
  · obtain ⟨s1, hs1⟩ := h.1 h0
    rw [hs1]
    exact ⟨nofun, nofun, fun _ => h0, fun hd => absurd rfl hd⟩
  · obtain ⟨s1, hs1, hi1, hphi⟩ := h.2 hp
    rw [hs1]
    exact ⟨nofun, nofun, nofun, fun _ => ⟨hi1, hphi⟩⟩

theorem pi_run (fuel : Nat) (s : PiSt) (hi : PInv s) (hf : phi s < fuel) :
    ∃ evs, run piStep fuel s = some evs ∧ evs.length = phi s ∧ (items evs).length = phi s ∧
      trapped evs = false :=
  run_exact_yields piStep phi PInv piStep_facts fuel s hi hf

theorem pointsImpl_facts (ends gd : List Nat) (hb : Bytes gd) :
    pointsImpl ends gd = .none ∨
    ∃ (l : Lens) (last : Nat), ends.getLast? = some last ∧ last + 1 ≤ 65535 ∧ l.flags + l.x + l.y ≤ gd.length ∧
      pointsImpl ends gd = .some (PiSt.new (gd.take l.flags) ((gd.drop l.flags).take l.x) ((gd.drop l.flags).drop l.x)) ∧
      cnt (gd.take l.flags) = last + 1 := by
  unfold pointsImpl
  cases hlast : ends.getLast? with
  | none => left; rfl
  | some last =>
    dsimp only
    by_cases hov : last + 1 > U16_MAX
    · rw [if_pos hov]; exact .inl rfl
    · rw [if_neg hov]
      have hT : last + 1 ≤ 65535 := Nat.le_of_not_lt hov
      rcases resolveCoordsLen_facts gd hb (last + 1) hT with ⟨e, he⟩ | ⟨l, hl, h1, h2, h3, h4, h5⟩
      · rw [he]; exact .inl rfl
      · rw [hl]
        dsimp only
        rw [addU32_eq (by omega : l.flags + l.x ≤ 4294967295)]
        dsimp only
        rw [addU32_eq (by omega : l.flags + l.x + l.y ≤ 4294967295)]
        dsimp only
        by_cases hlen : gd.length < l.flags + l.x + l.y
        · rw [if_pos hlen]; exact .inl rfl
        · rw [if_neg hlen, if_neg (by omega : ¬ l.flags > gd.length),
            if_neg (by rw [List.length_drop]; omega : ¬ l.x > (gd.drop l.flags).length)]
          exact .inr ⟨l, last, rfl, hT, by omega, rfl, h5⟩

theorem numPoints_some (ends : List Nat) (he : U16s ends) :
    ∃ n, numPoints ends = some n ∧ n ≤ 65536 ∧ (∀ last, ends.getLast? = some last → n = last + 1) := by
  unfold numPoints
  cases h : ends.getLast? with
  | none => exact ⟨0, rfl, by omega, fun _ h' => by cases h'⟩
  | some last =>
    have hl : last < 65536 := he last (List.mem_of_getLast? h)
    refine ⟨last + 1, ?_, by omega, fun l h' => (by injection h' with h'; omega)⟩
    exact addUsize_eq (by unfold MAXU; omega)

theorem fastFlags_eq (n : Nat) (hn : n ≤ MAXU) (l : List Nat) (hby : Bytes l) (rfb i : Nat) (buf : List Nat)
    (hi : i < n) (hb : buf.length = n) (hr : rfb + l.length ≤ MAXU) :
    fastFlags n l rfb i buf =
      match flagRun l with
      | none => .err .oob
      | some (f, rep, k) =>
        let e := i + min rep (n - i)
        let buf' := buf.take i ++ List.replicate (min rep (n - i)) f ++ buf.drop e
        if e = n then .ok (rfb + k, buf') else fastFlags n (l.drop k) (rfb + k) e buf' := by
  cases l with
  | nil => rw [fastFlags, if_neg (by omega)]; rfl
  | cons f rest =>
    simp only [List.length_cons] at hr
    rw [fastFlags, addUsize_eq (by omega)]
    unfold flagRun
    dsimp only
    by_cases hrep : hasBit f REPEAT = true
    · rw [if_pos hrep, if_pos hrep]
      cases rest with
      | nil => rfl
      | cons r rest' =>
        have hr256 : r < 256 := hby r (by simp)
        simp only [List.length_cons] at hr
        dsimp only
        rw [addUsize_eq (a := r) (b := 1) (by unfold MAXU; omega), subU_eq (a := n) (b := i) (by omega)]
        dsimp only
        have hcnt : min (r + 1) (n - i) ≤ n - i := Nat.min_le_right _ _
        rw [addUsize_eq (a := rfb + 1) (b := 1) (by omega), addUsize_eq (a := i) (b := min (r + 1) (n - i)) (by omega)]
        dsimp only
        rw [if_neg (by omega : ¬ i + min (r + 1) (n - i) > buf.length)]
        rfl
    · rw [if_neg hrep, if_neg hrep, if_pos (by omega : i < buf.length), addUsize_eq (by omega)]
      have h1 : min 1 (n - i) = 1 := by omega
      dsimp only
      rw [h1, List.set_eq_take_append_cons_drop, if_pos (by omega : i < buf.length)]
      simp only [List.replicate_one, List.append_assoc, List.singleton_append, List.drop_succ_cons, List.drop_zero]

/-- while a slot is free (`i < n`) the flag loop ends in `Ok` with the buffer's length unchanged or in `OutOfBounds` -/
theorem fastFlags_facts (n : Nat) (hn : n ≤ MAXU) (l : List Nat) :
    ∀ (rfb i : Nat) (buf : List Nat), Bytes l → buf.length = n → i < n → rfb + l.length ≤ MAXU →
      (fastFlags n l rfb i buf = .err .oob) ∨
      (∃ rfb' buf', fastFlags n l rfb i buf = .ok (rfb', buf') ∧ buf'.length = n) := by
  induction hk : l.length using Nat.strongRecOn generalizing l with
  | ind k ih =>
    subst hk
    intro rfb i buf hby hb hi hr
    rw [fastFlags_eq n hn l hby rfb i buf hi hb hr]
    cases hfr : flagRun l with
    | none => exact .inl rfl
    | some t =>
      obtain ⟨f, rep, w⟩ := t
      obtain ⟨hw1, hw2, _⟩ := flagRun_some hfr
      have hcnt : min rep (n - i) ≤ n - i := Nat.min_le_right _ _
      have hlen' : (buf.take i ++ List.replicate (min rep (n - i)) f ++ buf.drop (i + min rep (n - i))).length = n := by
        simp; omega
      dsimp only
      by_cases hend : i + min rep (n - i) = n
      · rw [if_pos hend]; exact .inr ⟨_, _, rfl, hlen'⟩
      · rw [if_neg hend]
        exact ih _ (by rw [List.length_drop]; omega) (l.drop w) rfl (rfb + w) (i + min rep (n - i)) _ (bytes_of_drop hby _)
          hlen' (by omega) (by rw [List.length_drop]; omega)

theorem fastCoords_facts (short same : Nat) (d : List Nat) :
    ∀ (fs : List Nat) (c : Cur) (acc : Int),
      (fastCoords short same d fs c acc = .err .oob) ∨
      (∃ l c', fastCoords short same d fs c acc = .ok (l, c') ∧ l.length = fs.length) := by
  intro fs
  induction fs with
  | nil => intro c acc; right; exact ⟨[], c, rfl, rfl⟩
  | cons f fs ih =>
    intro c acc
    unfold fastCoords
    cases hd : fastDelta (hasBit f short) (hasBit f same) d c with
    | none => left; rfl
    | some p =>
      obtain ⟨dl, c1⟩ := p
      dsimp only
      rcases ih c1 (wrapI32 (acc + dl)) with h | ⟨l, c', h1, h2⟩
      · left; rw [h]
      · right; rw [h1]; exact ⟨_, _, rfl, by simp [h2]⟩

theorem readSeq_some (d : List Nat) : ∀ (sizes : List Nat) (c c' : Cur) (vals : List Nat),
    c.pos ≤ d.length → readSeq d sizes c = (some vals, c') →
      c'.pos = c.pos + sizes.sum ∧ c'.pos ≤ d.length := by
  intro sizes
  induction sizes with
  | nil =>
    intro c c' vals hc h
    simp only [readSeq, Prod.mk.injEq, Option.some.injEq] at h
    obtain ⟨h1, h2⟩ := h
    subst h1 h2
    simp [hc]
  | cons sz rest ih =>
    intro c c' vals hc0 h
    unfold readSeq at h
    rcases read_cases d c sz with ⟨c1, h1, _⟩ | ⟨v, c1, h1, r1⟩ <;> rw [h1] at h
    · simp at h
    dsimp only at h
    cases h2 : readSeq d rest c1 with
    | mk o2 c2 =>
      rw [h2] at h
      cases o2 with
      | none => simp at h
      | some vs =>
        simp only [Prod.mk.injEq, Option.some.injEq] at h
        obtain ⟨hv, hc⟩ := h
        subst hv hc
        have := ih c1 c2 vs (by omega) h2
        simp only [List.sum_cons]
        omega

theorem argSizes_sum (flags : Nat) : 2 ≤ (argSizes flags).sum := by
  unfold argSizes; split <;> simp

theorem compStep_facts (d : List Nat) (s : CSt) :
    (compStep d s).1 ≠ .trap ∧ (compStep d s).1 ≠ .cont ∧
    (∀ a, (compStep d s).1 = .yield a →
      s.c.pos + 6 ≤ (compStep d s).2.c.pos ∧ (compStep d s).2.c.pos ≤ d.length) := by
  unfold compStep
  by_cases hd : s.done = true
  · simp [hd]
  · simp only [hd, Bool.false_eq_true, if_false]
    rcases read_cases d s.c 2 with ⟨c1, h1, _⟩ | ⟨raw, c1, h1, r1⟩ <;> rw [h1]
    · simp
    dsimp only
    rcases read_cases d c1 2 with ⟨c2, h2, _⟩ | ⟨gid, c2, h2, r2⟩ <;> rw [h2]
    · simp
    dsimp only
    cases h3 : readSeq d (argSizes (raw &&& COMPOSITE_ALL) ++ transformSizes (raw &&& COMPOSITE_ALL)) c2 with
    | mk o3 c3 =>
      cases o3 with
      | none => simp
      | some vals =>
        have r3 := readSeq_some d _ c2 c3 vals (by omega) h3
        have ha := argSizes_sum (raw &&& COMPOSITE_ALL)
        simp only [List.sum_append] at r3
        refine ⟨by simp, by simp, ?_⟩
        intro a _
        dsimp only
        exact ⟨by omega, r3.2⟩

theorem gfStep_facts (d : List Nat) (hl : d.length ≤ MAXU) (s : CSt) (hp : s.c.pos ≤ MAXU) :
    (gfStep d s).1 ≠ .trap ∧ (gfStep d s).1 ≠ .cont ∧ (gfStep d s).2.c.pos ≤ MAXU ∧
    s.c.pos ≤ (gfStep d s).2.c.pos ∧
    (∀ a, (gfStep d s).1 = .yield a → s.c.pos + 4 ≤ d.length ∧
      (s.c.pos + 6 ≤ (gfStep d s).2.c.pos ∨ d.length ≤ (gfStep d s).2.c.pos)) := by
  unfold gfStep
  by_cases hd : s.done = true
  · simp [hd, hp]
  · rw [if_neg hd]
    rcases read_cases d s.c 2 with ⟨c1, h1, m1⟩ | ⟨raw, c1, h1, r1⟩ <;> rw [h1]
    · exact ⟨nofun, nofun, (m1 hp).2.1, (m1 hp).1, nofun⟩
    dsimp only
    rcases read_cases d c1 2 with ⟨c2, h2, m2⟩ | ⟨gid, c2, h2, r2⟩ <;> rw [h2]
    · have := m2 (by omega)
      exact ⟨nofun, nofun, this.2.1, Nat.le_trans (by omega : s.c.pos ≤ c1.pos) this.1, nofun⟩
    dsimp only
    -- the argument skip is at least two bytes (saturating); the transform skip does not go back
    generalize hc3 : c2.advanceBy (if hasBit (raw &&& COMPOSITE_ALL) ARG_WORDS then 4 else 2) = c3
    have h3 : min (c2.pos + 2) MAXU ≤ c3.pos ∧ c3.pos ≤ MAXU := by
      subst hc3
      show min (c2.pos + 2) MAXU ≤ satAdd c2.pos _ ∧ satAdd c2.pos _ ≤ MAXU
      rw [satAdd_eq_min]; split <;> omega
    have h4 := fun n => advanceBy_mono c3 n h3.2
    generalize hc4 : ite (hasBit (raw &&& COMPOSITE_ALL) HAVE_SCALE = true) _ _ = c4
    have h5 : c3.pos ≤ c4.pos ∧ c4.pos ≤ MAXU := by
      rw [← hc4]
      have pick := @ite_both Cur fun c => c3.pos ≤ c.pos ∧ c.pos ≤ MAXU
      exact pick (h4 2) (pick (h4 4) (pick (h4 8) ⟨Nat.le_refl _, h3.2⟩))
    exact ⟨nofun, nofun, h5.2, by omega, fun a _ => ⟨by omega, by omega⟩⟩

/-- the component-counting loop and the light iterator run in lock step -/
theorem gf_run (d : List Nat) (hl : d.length ≤ MAXU) :
    ∀ (fuel : Nat) (s : CSt) (count : Nat), s.c.pos ≤ MAXU → d.length - s.c.pos < fuel →
      count + (d.length - s.c.pos + 2) / 6 ≤ (d.length + 2) / 6 →
      ∃ evs c' s', run (gfStep d) fuel s = some evs ∧ countLoop d fuel s count = .ok (c', s') ∧
        c' = count + (items evs).length ∧ c' ≤ (d.length + 2) / 6 ∧ trapped evs = false := by
  intro fuel
  induction fuel with
  | zero => intro s _ _ h; omega
  | succ fuel ih =>
    intro s count hp hf hc
    have hs := gfStep_facts d hl s hp
    unfold run countLoop
    cases hst : gfStep d s with
    | mk o s' =>
      rw [hst] at hs
      dsimp only at hs
      cases o with
      | trap => exact absurd rfl hs.1
      | cont => exact absurd rfl hs.2.1
      | done => exact ⟨[], count, s', rfl, rfl, by simp [items], by omega, rfl⟩
      | «yield» a =>
        obtain ⟨_, _, hp', hmono, hy⟩ := hs
        obtain ⟨h4, h6⟩ := hy a rfl
        dsimp only
        have hlim : (d.length + 2) / 6 ≤ MAXU := by omega
        have h1 : 1 ≤ (d.length - s.c.pos + 2) / 6 := by omega
        have h2 : (d.length - s'.c.pos + 2) / 6 + 1 ≤ (d.length - s.c.pos + 2) / 6 := by omega
        rw [addUsize_eq (by omega)]
        dsimp only
        obtain ⟨evs, c', s'', he, hcl, hc', hle, ht⟩ := ih s' (count + 1) hp' (by omega) (by omega)
        refine ⟨.yield a :: evs, c', s'', by simp [he], hcl, ?_, hle, by simpa [trapped] using ht⟩
        simp only [items, List.length_cons]; omega

end FontVerif.C01HandGlyf
