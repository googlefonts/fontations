/-
The reader DSL of Model/Shape.lean, for the generic reader theorem (Props/C01.lean).  A well-formed read body is the
concatenation of per-field statement groups (`stepsOf`), so the proofs work one level above `step`: `fieldSem` says what
the statements of one field do, `Extends` what they can change.  `FieldGood` is what a successful read establishes about
one field; it is set up by `field_step`, carried across later fields by `FieldGood_extends`, and `core` is the induction.
The getter side: `getterCompat_*` (what a licence says of the field's kind), `getterWFAux_split` and `rangeById_prog`
(the getter's field and its range fn), `gargVals_ok` (getter arguments evaluate to the locals `read` used).
At the end, for the error side of Props/C01.lean: a well-formed body never reaches the artefact error `stuck`
(`prog_not_stuck`), and the hand-written sizes of the concrete `Ext`.
-/
import FontVerif.Model.Shape
import FontVerif.Model.ShapeExt
import FontVerif.Lemmas.Lists

namespace FontVerif.Shape

theorem satAdd_exact {a b L : Nat} (h : satAdd a b ≤ L) (hL : L < MAXU) : satAdd a b = a + b := by
  unfold satAdd at *
  split at h <;> simp_all <;> omega

theorem checkedAdd_of_le {a b L : Nat} (h : a + b ≤ L) (hL : L < MAXU) : checkedAdd a b = some (a + b) := by
  unfold checkedAdd; rw [if_pos]; omega

theorem runSteps_append_eq (ext : Ext) (d : Data) : ∀ (a b : List Step) (st : St),
    runSteps ext d (a ++ b) st = (runSteps ext d a st).bind (runSteps ext d b)
  | [], b, st => rfl
  | s :: a, b, st => by
    simp only [List.cons_append, runSteps]
    cases step ext d st s with
    | error e => rfl
    | ok st1 => exact runSteps_append_eq ext d a b st1

theorem fieldOf_id (fp : FieldP) : (fieldOf fp).id = fp.id := by
  unfold fieldOf; split <;> rfl

theorem boundVars_cons (fp : FieldP) (rest : List FieldP) :
    boundVars (fp :: rest) = (match fp.readsVar with | some x => x :: boundVars rest | none => boundVars rest) := by
  unfold boundVars
  rw [List.filterMap_cons]
  split <;> simp_all

theorem mem_boundVars {l : List FieldP} {x : Nat} : x ∈ boundVars l ↔ ∃ fp ∈ l, fp.readsVar = some x :=
  List.mem_filterMap

theorem boundVars_reverse (l : List FieldP) : boundVars l.reverse = (boundVars l).reverse :=
  List.filterMap_reverse

theorem evalLen_elem {ext : Ext} {d : Data} {pos : Nat} {vars : Env} {l : Len} {elem n : Nat}
    (hk : lenElemOk elem l = true) (h : evalLen ext d pos vars l = .ok n) : n % elem = 0 := by
  cases l with
  | mul c sz =>
    cases sz with
    | const k =>
      simp [lenElemOk] at hk; subst hk
      simp only [evalLen, evalSize] at h
      split at h
      · cases h
      · rename_i v hv
        unfold checkedMul at hv
        split at hv
        · cases hv; cases h; exact Nat.mul_mod_left _ _
        · cases hv
    | compute r xs => simp [lenElemOk] at hk
  | one sz =>
    cases sz with
    | const k =>
      simp [lenElemOk] at hk; subst hk
      simp only [evalLen, evalSize] at h
      cases h; exact Nat.mod_self _
    | compute r xs => simp [lenElemOk] at hk
  | remFloor k =>
    simp [lenElemOk] at hk; subst hk
    simp only [evalLen] at h
    cases h; exact Nat.mul_mod_left _ _
  | rem => simp [lenElemOk] at hk
  | varLen k c => simp [lenElemOk] at hk

theorem start_cons_self (v : Env) (s l : OEnv) (f : Nat) (o : Option Nat) :
    Marker.start ⟨v, (f, o) :: s, l⟩ f = o := by
  simp only [Marker.start, List.lookup_cons_self]

def FKind.uncond : FKind → FKind
  | .condScalar _ sz rd => .scalar sz rd
  | .condComputed _ l => .computed l
  | k => k

theorem uncond_uncond (k : FKind) : k.uncond.uncond = k.uncond := by cases k <;> rfl

def FKind.cond? : FKind → Option Cond
  | .condScalar c _ _ => some c
  | .condComputed c _ => some c
  | _ => none

theorem uncond_readsVar (fp : FieldP) : ∀ sz rd, fp.kind.uncond = .scalar sz rd → fp.readsVar = rd := by
  obtain ⟨fid, k⟩ := fp
  cases k <;> intro sz rd h <;> cases h <;> rfl

theorem fieldOf_uncond_len (id : Nat) (k : FKind) : (fieldOf ⟨id, k.uncond⟩).len = (fieldOf ⟨id, k⟩).len := by
  cases k <;> rfl

theorem fieldOf_cond (fid : Nat) (k : FKind) : (fieldOf ⟨fid, k⟩).cond = k.cond?.isSome := by
  cases k <;> rfl

theorem getterCompat_readAt {args : List Nat} {pre : List FieldP} {k : FKind} {sz : Nat}
    (h : getterCompat args pre k (.readAt sz) = true) : ∃ rd, k.uncond = .scalar sz rd := by
  cases k with
  | scalar sz' rd | condScalar _ sz' rd => exact ⟨rd, by rw [of_decide_eq_true (p := sz = sz') h]; rfl⟩
  | computed | condComputed => cases h

theorem getterCompat_readArray {args : List Nat} {pre : List FieldP} {k : FKind} {elem : Nat}
    (h : getterCompat args pre k (.readArray elem) = true) :
    elem ≠ 0 ∧ ∃ l, k.uncond = .computed l ∧ lenElemOk elem l = true := by
  have h := Bool.and_eq_true_iff.mp h
  refine ⟨of_decide_eq_true h.1, ?_⟩
  cases k with
  | computed l | condComputed _ l => exact ⟨l, rfl, h.2⟩
  | scalar | condScalar => cases h.2

theorem getterCompat_readArgsArray {args : List Nat} {pre : List FieldP} {k : FKind} {r : Nat} {gas : List GArg}
    (h : getterCompat args pre k (.readArgsArray r gas) = true) :
    ∃ c xs, k.uncond = .computed (.mul c (.compute r xs)) ∧ gargsMatch args pre gas xs = true := by
  cases k with
  | scalar | condScalar => cases h
  | computed l | condComputed _ l =>
    rcases l with ⟨c, _ | ⟨r', xs⟩⟩ | _ | _ | _ | _ <;> first | cases h | skip
    have h := Bool.and_eq_true_iff.mp h
    exact ⟨c, xs, by rw [of_decide_eq_true (p := r = r') h.1]; rfl, h.2⟩

theorem getterCompat_readArgsStruct {args : List Nat} {pre : List FieldP} {k : FKind} {r : Nat} {gas : List GArg}
    (h : getterCompat args pre k (.readArgsStruct r gas) = true) :
    ∃ xs, k.uncond = .computed (.one (.compute r xs)) ∧ gargsMatch args pre gas xs = true := by
  cases k with
  | scalar | condScalar => cases h
  | computed l | condComputed _ l =>
    rcases l with _ | ⟨_ | ⟨r', xs⟩⟩ | _ | _ | _ <;> first | cases h | skip
    have h := Bool.and_eq_true_iff.mp h
    exact ⟨xs, by rw [of_decide_eq_true (p := r = r') h.1]; rfl, h.2⟩

/-- the statements of a field that is present (unconditional, or its condition holds and the start is marked);
`k` is the kind without its condition -/
def bodySem (ext : Ext) (d : Data) (id : Nat) (st : St) : FKind → Except RErr St
  | .scalar sz none => .ok { st with pos := satAdd st.pos sz }
  | .scalar sz (some x) =>
    match readAt d st.pos sz with
    | none => .error .oob
    | some v => .ok { st with pos := satAdd st.pos sz, vars := (x, v) :: st.vars }
  | .computed l =>
    match evalLen ext d st.pos st.vars l with
    | .error e => .error e
    | .ok n => .ok { st with pos := satAdd st.pos n, lens := (id, some n) :: st.lens }
  | _ => .ok st

/-- the statements of a conditional field whose condition fails (`then_some(L)` still evaluates `L`) -/
def absentSem (ext : Ext) (d : Data) (id : Nat) (st : St) : FKind → Except RErr St
  | .scalar _ (some x) => .ok { st with starts := (id, none) :: st.starts, vars := (x, 0) :: st.vars }
  | .computed l =>
    match evalLen ext d st.pos st.vars l with
    | .error e => .error e
    | .ok _ => .ok { st with starts := (id, none) :: st.starts, lens := (id, none) :: st.lens }
  | _ => .ok { st with starts := (id, none) :: st.starts }

def fieldSem (ext : Ext) (d : Data) (fp : FieldP) (st : St) : Except RErr St :=
  match fp.kind.cond? with
  | none => bodySem ext d fp.id st fp.kind.uncond
  | some c =>
    if evalCond st.vars c then
      if st.pos ≤ d.len then
        bodySem ext d fp.id { st with starts := (fp.id, some st.pos) :: st.starts } fp.kind.uncond
      else .error .oob
    else absentSem ext d fp.id st fp.kind.uncond

theorem runSteps_stepsOf (ext : Ext) (d : Data) (fp : FieldP) (st : St) :
    runSteps ext d (stepsOf fp) st = fieldSem ext d fp st := by
  obtain ⟨fid, k⟩ := fp
  cases k with
  | scalar sz rd =>
    cases rd with
    | none => rfl
    | some x =>
      simp only [stepsOf, runSteps, step, fieldSem, FKind.cond?, FKind.uncond, bodySem]
      cases readAt d st.pos sz <;> rfl
  | computed l =>
    simp only [stepsOf, runSteps, step, fieldSem, FKind.cond?, FKind.uncond, bodySem]
    cases evalLen ext d st.pos st.vars l <;> simp only [List.lookup_cons_self]
  | condScalar c sz rd =>
    cases rd with
    | none =>
      simp only [stepsOf, runSteps, step, fieldSem, FKind.cond?, FKind.uncond, bodySem, absentSem]
      by_cases hc : evalCond st.vars c = true
      · by_cases hp : st.pos ≤ d.len <;> simp [hc, hp]
      · simp [hc]
    | some x =>
      simp only [stepsOf, runSteps, step, fieldSem, FKind.cond?, FKind.uncond, bodySem, absentSem]
      by_cases hc : evalCond st.vars c = true
      · by_cases hp : st.pos ≤ d.len
        · simp only [hc, hp, if_true]; cases readAt d st.pos sz <;> rfl
        · simp [hc, hp]
      · simp [hc]
  | condComputed c l =>
    simp only [stepsOf, runSteps, step, fieldSem, FKind.cond?, FKind.uncond, bodySem, absentSem]
    by_cases hc : evalCond st.vars c = true
    · by_cases hp : st.pos ≤ d.len
      · simp only [hc, hp, if_true]
        cases evalLen ext d st.pos st.vars l <;> simp only [List.lookup_cons_self]
      · simp [hc, hp]
    · simp only [hc, if_false, Bool.false_eq_true]
      cases evalLen ext d st.pos st.vars l <;> simp only [List.lookup_cons_self]

theorem runSteps_prog_cons (ext : Ext) (d : Data) (fp : FieldP) (rest : List FieldP) (st : St) :
    runSteps ext d ((fp :: rest).flatMap stepsOf) st =
      (fieldSem ext d fp st).bind (runSteps ext d (rest.flatMap stepsOf)) := by
  rw [List.flatMap_cons, runSteps_append_eq, runSteps_stepsOf]

theorem runSteps_prog_snoc_ok {ext : Ext} {d : Data} {init : List FieldP} {fp : FieldP} {st st' : St}
    (h : runSteps ext d ((init ++ [fp]).flatMap stepsOf) st = .ok st') :
    ∃ st1, runSteps ext d (init.flatMap stepsOf) st = .ok st1 ∧ fieldSem ext d fp st1 = .ok st' := by
  rw [List.flatMap_append, runSteps_append_eq, List.flatMap_cons, List.flatMap_nil, List.append_nil] at h
  cases h1 : runSteps ext d (init.flatMap stepsOf) st with
  | error e => rw [h1] at h; cases h
  | ok st1 => rw [h1] at h; exact ⟨st1, rfl, (runSteps_stepsOf ext d fp st1).symm.trans h⟩

/-- `st'` arises from `st` by moving the cursor forward and binding entries of field `id` / the local `rd` -/
def Extends (id : Nat) (rd : Option Nat) (st st' : St) : Prop :=
  (st'.pos = st.pos ∨ ∃ n, st'.pos = satAdd st.pos n) ∧
  (st'.vars = st.vars ∨ ∃ x v, rd = some x ∧ st'.vars = (x, v) :: st.vars) ∧
  (st'.starts = st.starts ∨ ∃ v, st'.starts = (id, v) :: st.starts) ∧
  (st'.lens = st.lens ∨ ∃ v, st'.lens = (id, v) :: st.lens)

theorem Extends.lookups {id : Nat} {rd : Option Nat} {st st' : St} (h : Extends id rd st st') :
    (∀ i, i ≠ id → st'.starts.lookup i = st.starts.lookup i ∧ st'.lens.lookup i = st.lens.lookup i) ∧
    (∀ x, rd ≠ some x → st'.vars.lookup x = st.vars.lookup x) := by
  obtain ⟨_, hv, hs, hl⟩ := h
  refine ⟨fun i hi => ⟨?_, ?_⟩, fun x hx => ?_⟩
  · rcases hs with e | ⟨v, e⟩ <;> rw [e]; exact lookup_cons_of_ne _ _ hi
  · rcases hl with e | ⟨v, e⟩ <;> rw [e]; exact lookup_cons_of_ne _ _ hi
  · rcases hv with e | ⟨y, v, rfl, e⟩ <;> rw [e]; exact lookup_cons_of_ne _ _ (fun e' => hx (by rw [e']))

/-- (read backwards from a successful `finish`) -/
theorem Extends.pos_le {id : Nat} {rd : Option Nat} {st st' : St} (h : Extends id rd st st') {L : Nat}
    (hp : st'.pos ≤ L) (hL : L < MAXU) : st.pos ≤ L := by
  rcases h.1 with e | ⟨n, e⟩
  · rw [← e]; exact hp
  · rw [e] at hp; have := satAdd_exact hp hL; omega

def FieldErr (ext : Ext) (d : Data) (e : RErr) : Prop := e = .oob ∨ ∃ l pos vars, evalLen ext d pos vars l = .error e

/-- what reading a present field of kind `k` (taken without its condition) at `p` establishes; `n` is its length,
`vars` the locals afterwards.  The length expression of a computed field is evaluated in locals `vars0` that
agree with `vars` on everything bound before the field. -/
def KindGood (ext : Ext) (d : Data) (args : List Nat) (rp : List FieldP) (vars : Env) (p n : Nat) : FKind → Prop
  | .scalar sz rd => n = sz ∧ ∀ x, rd = some x → readAt d p sz = some (getVar vars x)
  | .computed l => ∃ vars0,
      (∀ x, x ∈ args ∨ x ∈ boundVars rp → getVar vars0 x = getVar vars x) ∧ evalLen ext d p vars0 l = .ok n
  | _ => True

theorem bodySem_spec (ext : Ext) (d : Data) (id : Nat) (st : St) (k : FKind) (rd : Option Nat)
    (hrd : ∀ sz r, k = .scalar sz r → rd = r) (hk : k.uncond = k) (args : List Nat) (rp : List FieldP) :
    match bodySem ext d id st k with
    | .ok st1 => Extends id rd st st1 ∧ st1.starts = st.starts ∧ ∃ n, st1.pos = satAdd st.pos n ∧
        ((fieldOf ⟨id, k⟩).len = .const n ∨ ((fieldOf ⟨id, k⟩).len = .stored ∧ st1.lens.lookup id = some (some n))) ∧
        KindGood ext d args rp st1.vars st.pos n k
    | .error e => FieldErr ext d e := by
  cases k with
  | scalar sz r =>
    cases r with
    | none => exact ⟨⟨.inr ⟨_, rfl⟩, .inl rfl, .inl rfl, .inl rfl⟩, rfl, sz, rfl, .inl rfl, rfl, nofun⟩
    | some x =>
      simp only [bodySem]
      cases hv : readAt d st.pos sz with
      | none => exact .inl rfl
      | some v =>
        refine ⟨⟨.inr ⟨_, rfl⟩, .inr ⟨x, v, hrd _ _ rfl, rfl⟩, .inl rfl, .inl rfl⟩, rfl, sz, rfl, .inl rfl, rfl, fun y hy => ?_⟩
        cases hy
        rw [getVar, List.lookup_cons_self]; exact hv
  | computed l =>
    simp only [bodySem]
    cases hl : evalLen ext d st.pos st.vars l with
    | error e => exact .inr ⟨_, _, _, hl⟩
    | ok n =>
      exact ⟨⟨.inr ⟨_, rfl⟩, .inl rfl, .inl rfl, .inr ⟨_, rfl⟩⟩, rfl, n, rfl, .inr ⟨rfl, List.lookup_cons_self⟩,
        st.vars, fun _ _ => rfl, hl⟩
  | condScalar c sz r => cases hk
  | condComputed c l => cases hk

theorem absentSem_spec (ext : Ext) (d : Data) (id : Nat) (st : St) (k : FKind) (rd : Option Nat)
    (hrd : ∀ sz r, k = .scalar sz r → rd = r) :
    match absentSem ext d id st k with
    | .ok st1 => Extends id rd st st1 ∧ st1.pos = st.pos ∧ st1.starts = (id, none) :: st.starts
    | .error e => FieldErr ext d e := by
  cases k with
  | scalar sz r =>
    cases r with
    | none => exact ⟨⟨.inl rfl, .inl rfl, .inr ⟨_, rfl⟩, .inl rfl⟩, rfl, rfl⟩
    | some x => exact ⟨⟨.inl rfl, .inr ⟨x, 0, hrd _ _ rfl, rfl⟩, .inr ⟨_, rfl⟩, .inl rfl⟩, rfl, rfl⟩
  | computed l =>
    simp only [absentSem]
    cases hl : evalLen ext d st.pos st.vars l with
    | error e => exact .inr ⟨_, _, _, hl⟩
    | ok n => exact ⟨⟨.inl rfl, .inl rfl, .inr ⟨_, rfl⟩, .inr ⟨_, rfl⟩⟩, rfl, rfl⟩
  | condScalar c sz r => exact ⟨⟨.inl rfl, .inl rfl, .inr ⟨_, rfl⟩, .inl rfl⟩, rfl, rfl⟩
  | condComputed c l => exact ⟨⟨.inl rfl, .inl rfl, .inr ⟨_, rfl⟩, .inl rfl⟩, rfl, rfl⟩

theorem fieldSem_spec (ext : Ext) (d : Data) (fp : FieldP) (st : St) (args : List Nat) (rp : List FieldP) :
    match fieldSem ext d fp st with
    | .ok st1 => Extends fp.id fp.readsVar st st1 ∧
      ((∃ n, st1.pos = satAdd st.pos n ∧ (fp.kind.cond?.isSome = true → st1.marker.start fp.id = some st.pos) ∧
          ((fieldOf fp).len = .const n ∨ ((fieldOf fp).len = .stored ∧ st1.lens.lookup fp.id = some (some n))) ∧
          KindGood ext d args rp st1.vars st.pos n fp.kind.uncond) ∨
        (fp.kind.cond?.isSome = true ∧ st1.pos = st.pos ∧ st1.marker.start fp.id = none))
    | .error e => FieldErr ext d e := by
  have hrd := uncond_readsVar fp
  have hb := fun st0 => bodySem_spec ext d fp.id st0 fp.kind.uncond fp.readsVar hrd (uncond_uncond _) args rp
  have hlen : (fieldOf ⟨fp.id, fp.kind.uncond⟩).len = (fieldOf fp).len := fieldOf_uncond_len fp.id fp.kind
  unfold fieldSem
  cases hc : fp.kind.cond? with
  | none =>
    have hb := hb st
    revert hb; cases bodySem ext d fp.id st fp.kind.uncond with
    | error e => exact id
    | ok st1 => exact fun ⟨he, _, n, h1, h2, h3⟩ => ⟨he, .inl ⟨n, h1, nofun, hlen ▸ h2, h3⟩⟩
  | some c =>
    dsimp only
    by_cases hv : evalCond st.vars c = true
    · rw [if_pos hv]
      by_cases hp : st.pos ≤ d.len
      · rw [if_pos hp]
        have hb := hb { st with starts := (fp.id, some st.pos) :: st.starts }
        revert hb
        cases bodySem ext d fp.id { st with starts := (fp.id, some st.pos) :: st.starts } fp.kind.uncond with
        | error e => exact id
        | ok st1 => exact fun ⟨he, hs, n, h1, h2, h3⟩ => ⟨⟨he.1, he.2.1, .inr ⟨_, hs⟩, he.2.2.2⟩,
            .inl ⟨n, h1, fun _ => by rw [St.marker, hs]; exact start_cons_self _ _ _ _ _, hlen ▸ h2, h3⟩⟩
      · rw [if_neg hp]; exact .inl rfl
    · rw [if_neg hv]
      have hb := absentSem_spec ext d fp.id st fp.kind.uncond fp.readsVar hrd
      revert hb; cases absentSem ext d fp.id st fp.kind.uncond with
      | error e => exact id
      | ok st1 => exact fun ⟨he, e1, e2⟩ => ⟨he, .inr ⟨rfl, e1, by rw [St.marker, e2]; exact start_cons_self _ _ _ _ _⟩⟩

theorem fieldSem_extends {ext : Ext} {d : Data} {fp : FieldP} {st st1 : St} (h : fieldSem ext d fp st = .ok st1) :
    Extends fp.id fp.readsVar st st1 := by
  have := fieldSem_spec ext d fp st [] []; rw [h] at this; exact this.1

def EntAgree (m m' : Marker) (id : Nat) : Prop :=
  m.starts.lookup id = m'.starts.lookup id ∧ m.lens.lookup id = m'.lens.lookup id

theorem condRange_congr {m m' : Marker} {f : Field} (h : EntAgree m m' f.id) :
    condRange m f = condRange m' f := by
  unfold condRange Marker.start Marker.olen
  rw [h.1, h.2]

theorem prevEnd_congr {m m' : Marker} : ∀ (rp : List Field), (∀ f ∈ rp, EntAgree m m' f.id) →
    prevEnd m rp = prevEnd m' rp := by
  intro rp
  induction rp with
  | nil => intro _; rfl
  | cons f rest ih =>
    intro h
    have hf := h f (by simp)
    have hr := ih (fun g hg => h g (by simp [hg]))
    unfold prevEnd
    rw [condRange_congr hf, hr]
    unfold Marker.len
    rw [hf.2]

theorem fieldRange_congr {m m' : Marker} {rp : List Field} {f : Field}
    (hf : EntAgree m m' f.id) (hr : ∀ g ∈ rp, EntAgree m m' g.id) :
    fieldRange m rp f = fieldRange m' rp f := by
  unfold fieldRange
  rw [condRange_congr hf, prevEnd_congr rp hr]
  unfold Marker.len
  rw [hf.2]

theorem prevEnd_fresh {m m' : Marker} (rp : List FieldP) (fid : Nat)
    (hfresh : ∀ f ∈ rp, f.id ≠ fid)
    (hs : ∀ id, id ≠ fid → m'.starts.lookup id = m.starts.lookup id)
    (hl : ∀ id, id ≠ fid → m'.lens.lookup id = m.lens.lookup id) :
    prevEnd m' (rp.map fieldOf) = prevEnd m (rp.map fieldOf) := by
  apply prevEnd_congr
  intro g hg
  rcases List.mem_map.mp hg with ⟨fp, hfp, rfl⟩
  rw [fieldOf_id]
  exact ⟨hs _ (hfresh fp hfp), hl _ (hfresh fp hfp)⟩

theorem range_present {m : Marker} {rp : List Field} {f : Field} {p n L : Nat} (hL : L < MAXU) (hn : p + n ≤ L)
    (hs : (f.cond = false ∧ prevEnd m rp = some p) ∨ (f.cond = true ∧ m.start f.id = some p))
    (hlen : f.len = .const n ∨ (f.len = .stored ∧ m.lens.lookup f.id = some (some n))) :
    prevEnd m (f :: rp) = some (p + n) ∧ fieldRange m rp f = .range p (p + n) := by
  have hadd := checkedAdd_of_le hn hL
  rcases hs with ⟨hc, hp⟩ | ⟨hc, hp⟩
  · rw [prevEnd, fieldRange, if_neg (by simp [hc]), if_neg (by simp [hc]), hp]
    rcases hlen with h | ⟨h, h'⟩ <;> rw [h] <;> dsimp only
    · rw [hadd]; exact ⟨rfl, rfl⟩
    · rw [Marker.len, h']; dsimp only; rw [hadd]; exact ⟨rfl, rfl⟩
  · have hr : condRange m f = .range p (p + n) := by
      rw [condRange, hp]
      rcases hlen with h | ⟨h, h'⟩ <;> rw [h] <;> dsimp only
      · rw [hadd]
      · rw [Marker.olen, h']; dsimp only; rw [hadd]
    rw [prevEnd, fieldRange, if_pos hc, if_pos hc, hr]
    exact ⟨rfl, rfl⟩

theorem range_absent {m : Marker} {rp : List Field} {f : Field} (hc : f.cond = true) (hs : m.start f.id = none) :
    prevEnd m (f :: rp) = prevEnd m rp ∧ fieldRange m rp f = .absent := by
  have hr : condRange m f = .absent := by rw [condRange, hs]
  rw [prevEnd, fieldRange, if_pos hc, if_pos hc, hr]
  exact ⟨rfl, rfl⟩

theorem rangeById_split (m : Marker) : ∀ (a : List FieldP) (pre : List FieldP) (fp : FieldP) (b : List FieldP),
    (∀ f ∈ a, f.id ≠ fp.id) →
    rangeById m (pre.map fieldOf) ((a ++ fp :: b).map fieldOf) fp.id =
      some (fieldRange m ((a.reverse ++ pre).map fieldOf) (fieldOf fp)) := by
  intro a
  induction a with
  | nil =>
    intro pre fp b _
    simp [rangeById, fieldOf_id]
  | cons a0 a ih =>
    intro pre fp b hne
    have h0 : a0.id ≠ fp.id := hne a0 (by simp)
    simp only [List.cons_append, List.map_cons, rangeById, fieldOf_id, if_neg h0]
    have := ih (a0 :: pre) fp b (fun f hf => hne f (by simp [hf]))
    simpa [List.reverse_cons, List.append_assoc] using this

theorem nodup_split_ne {a b : List FieldP} {fp : FieldP}
    (h : ((a ++ fp :: b).map FieldP.id).Nodup) : ∀ f ∈ a, f.id ≠ fp.id := by
  intro f hf e
  rw [List.map_append, List.map_cons] at h
  have := (List.nodup_append.mp h).2.2 f.id (List.mem_map.mpr ⟨f, hf, rfl⟩) fp.id (by simp)
  exact this e

theorem rangeById_prog {s : Shape} (m : Marker) (hfields : s.fields = s.prog.map fieldOf)
    (hnd : (s.prog.map FieldP.id).Nodup) {a b : List FieldP} {fp : FieldP} (hsplit : s.prog = a ++ fp :: b) :
    rangeById m [] s.fields fp.id = some (fieldRange m (a.reverse.map fieldOf) (fieldOf fp)) := by
  rw [hfields, hsplit, ← a.reverse.append_nil]
  exact rangeById_split m a [] fp b (nodup_split_ne (hsplit ▸ hnd))

/-- Facts about field `fp`, whose range fn is evaluated in marker `m` with the preceding fields
`rp` (most recent first). -/
def FieldGood (ext : Ext) (d : Data) (args : List Nat) (m : Marker) (rp : List FieldP) (fp : FieldP) : Prop :=
  match fieldRange m (rp.map fieldOf) (fieldOf fp) with
  | .panic => False
  | .absent => (fieldOf fp).cond = true
  | .range s e => s ≤ e ∧ e ≤ d.len ∧ KindGood ext d args rp m.vars s (e - s) fp.kind.uncond

theorem FieldGood_range {ext : Ext} {d : Data} {args : List Nat} {m : Marker} {rp : List FieldP} {fp : FieldP}
    {s e : Nat} (h : FieldGood ext d args m rp fp)
    (hr : fieldRange m (rp.map fieldOf) (fieldOf fp) = .range s e) :
    s ≤ e ∧ e ≤ d.len ∧ (∀ sz rd, fp.kind.uncond = .scalar sz rd → e = s + sz) ∧
    (∀ l, fp.kind.uncond = .computed l → ∃ vars0,
      (∀ x, x ∈ args ∨ x ∈ boundVars rp → getVar vars0 x = getVar m.vars x) ∧
      evalLen ext d s vars0 l = .ok (e - s)) := by
  unfold FieldGood at h
  rw [hr] at h
  obtain ⟨h1, h2, h3⟩ := h
  exact ⟨h1, h2, fun sz rd hu => by rw [hu] at h3; have := h3.1; omega, fun l hu => by rw [hu] at h3; exact h3⟩

theorem field_step {ext : Ext} {d : Data} (hL : d.len < MAXU) (args : List Nat)
    (fp : FieldP) (st st1 : St) (rp : List FieldP)
    (h : fieldSem ext d fp st = .ok st1) (hp1 : st1.pos ≤ d.len)
    (hfresh : ∀ f ∈ rp, f.id ≠ fp.id)
    (hinv : prevEnd st.marker (rp.map fieldOf) = some st.pos) :
    prevEnd st1.marker ((fp :: rp).map fieldOf) = some st1.pos ∧
    FieldGood ext d args st1.marker rp fp := by
  have hspec := fieldSem_spec ext d fp st args rp
  rw [h] at hspec
  obtain ⟨he, hcases⟩ := hspec
  -- the chain of the preceding fields is unaffected by new entries for `fp.id`
  have hl := he.lookups.1
  have hpe : prevEnd st1.marker (rp.map fieldOf) = some st.pos :=
    hinv ▸ prevEnd_fresh rp fp.id hfresh (fun i hi => (hl i hi).1) (fun i hi => (hl i hi).2)
  have hcond : (fieldOf fp).cond = fp.kind.cond?.isSome := fieldOf_cond fp.id fp.kind
  rcases hcases with ⟨n, hpos, hstart, hlen, hgood⟩ | ⟨hc, e1, e2⟩
  · have hx : st1.pos = st.pos + n := by rw [hpos] at hp1 ⊢; exact satAdd_exact hp1 hL
    obtain ⟨r1, r2⟩ := range_present (m := st1.marker) (rp := rp.map fieldOf) (f := fieldOf fp) hL (hx ▸ hp1)
      (by
        rw [hcond, fieldOf_id]
        cases hc : fp.kind.cond?.isSome
        · exact .inl ⟨rfl, hpe⟩
        · exact .inr ⟨rfl, hstart hc⟩)
      (by rw [fieldOf_id]; exact hlen)
    refine ⟨by rw [List.map_cons, hx]; exact r1, ?_⟩
    unfold FieldGood
    rw [r2]
    exact ⟨Nat.le_add_right _ _, hx ▸ hp1, by rw [Nat.add_sub_cancel_left]; exact hgood⟩
  · -- an absent field: the cursor stays
    rw [← hcond] at hc
    obtain ⟨r1, r2⟩ := range_absent (m := st1.marker) (rp := rp.map fieldOf) hc (by rw [fieldOf_id]; exact e2)
    refine ⟨?_, by unfold FieldGood; rw [r2]; exact hc⟩
    rw [List.map_cons, r1, e1]
    exact hpe

theorem FieldGood_congr {ext : Ext} {d : Data} {args : List Nat} {m m' : Marker}
    {rp : List FieldP} {fp : FieldP}
    (hf : EntAgree m m' fp.id) (hr : ∀ g ∈ rp, EntAgree m m' g.id)
    (hv : ∀ x, (x ∈ args ∨ x ∈ boundVars rp ∨ fp.readsVar = some x) → getVar m.vars x = getVar m'.vars x)
    (h : FieldGood ext d args m rp fp) : FieldGood ext d args m' rp fp := by
  unfold FieldGood at h ⊢
  have hfr : fieldRange m (rp.map fieldOf) (fieldOf fp) = fieldRange m' (rp.map fieldOf) (fieldOf fp) := by
    apply fieldRange_congr
    · rw [fieldOf_id]; exact hf
    · intro g hg
      rcases List.mem_map.mp hg with ⟨gp, hgp, rfl⟩
      rw [fieldOf_id]; exact hr gp hgp
  rw [← hfr]
  cases hrr : fieldRange m (rp.map fieldOf) (fieldOf fp) with
  | panic => rw [hrr] at h; exact h
  | absent => rw [hrr] at h; exact h
  | range s e =>
    rw [hrr] at h
    simp only [] at h ⊢
    obtain ⟨h1, h2, h3⟩ := h
    refine ⟨h1, h2, ?_⟩
    cases hk : fp.kind.uncond with
    | scalar sz rd =>
      rw [hk] at h3
      refine ⟨h3.1, fun x hx => ?_⟩
      rw [← hv x (Or.inr (Or.inr ((uncond_readsVar fp _ _ hk).trans hx)))]
      exact h3.2 x hx
    | computed l =>
      rw [hk] at h3
      obtain ⟨vars0, ha, hl⟩ := h3
      refine ⟨vars0, fun x hx => ?_, hl⟩
      rw [ha x hx]
      rcases hx with hx | hx
      · exact hv x (Or.inl hx)
      · exact hv x (Or.inr (Or.inl hx))
    | condScalar c sz rd => trivial
    | condComputed c l => trivial

theorem FieldGood_extends {ext : Ext} {d : Data} {args : List Nat} {st st' : St} {id : Nat} {rd : Option Nat}
    {rp : List FieldP} {fp : FieldP} (he : Extends id rd st st')
    (hid : ∀ g ∈ fp :: rp, g.id ≠ id)
    (hv : ∀ x, rd = some x → x ∉ args ∧ ∀ g ∈ fp :: rp, g.readsVar ≠ some x)
    (h : FieldGood ext d args st.marker rp fp) : FieldGood ext d args st'.marker rp fp := by
  obtain ⟨hl, hvars⟩ := he.lookups
  have ent : ∀ g ∈ fp :: rp, EntAgree st.marker st'.marker g.id := fun g hg =>
    ⟨((hl g.id (hid g hg)).1).symm, ((hl g.id (hid g hg)).2).symm⟩
  refine FieldGood_congr (ent fp List.mem_cons_self) (fun g hg => ent g (List.mem_cons_of_mem _ hg)) (fun x hx => ?_) h
  show getVar st.vars x = getVar st'.vars x
  rw [getVar, getVar, hvars x fun e => ?_]
  obtain ⟨ha, hg⟩ := hv x e
  rcases hx with hx | hx | hx
  · exact ha hx
  · obtain ⟨g, hg', hgx⟩ := mem_boundVars.mp hx
    exact hg g (List.mem_cons_of_mem _ hg') hgx
  · exact hg fp List.mem_cons_self hx

/-- `r` are the fields read so far, most recent first (the order the range fns use): the last one is `field_step`, the
facts about the earlier ones are carried across it by `FieldGood_extends`. -/
theorem core {ext : Ext} {d : Data} (hL : d.len < MAXU) (args : List Nat) (st : St) (h0 : st.pos = 0) :
    ∀ (r : List FieldP) (st' : St),
      runSteps ext d (r.reverse.flatMap stepsOf) st = .ok st' → st'.pos ≤ d.len →
      (r.map FieldP.id).Nodup → (boundVars r).Nodup → (∀ x ∈ args, x ∉ boundVars r) →
      prevEnd st'.marker (r.map fieldOf) = some st'.pos ∧
      ∀ b fp a, r = b ++ fp :: a → FieldGood ext d args st'.marker a fp
  | [], st', h, _, _, _, _ => by cases h; exact ⟨by rw [h0]; rfl, fun b fp a hab => by simp at hab⟩
  | last :: r, st', h, hp, hnd, hvnd, hargs => by
    rw [List.reverse_cons] at h
    obtain ⟨st1, h1, h2⟩ := runSteps_prog_snoc_ok h
    have he := fieldSem_extends h2
    rw [List.map_cons, List.nodup_cons] at hnd
    have hfresh : ∀ g ∈ r, g.id ≠ last.id := fun g hg e => hnd.1 (List.mem_map.mpr ⟨g, hg, e⟩)
    -- the local of `last` is neither an argument nor bound by an earlier field
    have hvar : ∀ x, last.readsVar = some x → x ∉ args ∧ ∀ g ∈ r, g.readsVar ≠ some x := fun x hx =>
      ⟨fun ha => hargs x ha (mem_boundVars.mpr ⟨last, List.mem_cons_self, hx⟩), fun g hg hgx => by
        rw [boundVars_cons, hx] at hvnd
        exact (List.nodup_cons.mp hvnd).1 (mem_boundVars.mpr ⟨g, hg, hgx⟩)⟩
    have hsub : ∀ x, x ∈ boundVars r → x ∈ boundVars (last :: r) := fun x hx =>
      let ⟨g, hg, hgx⟩ := mem_boundVars.mp hx; mem_boundVars.mpr ⟨g, List.mem_cons_of_mem _ hg, hgx⟩
    obtain ⟨hinv1, hall⟩ := core hL args st h0 r st1 h1 (he.pos_le hp hL) hnd.2
      (by
        rw [boundVars_cons] at hvnd
        cases hr : last.readsVar with
        | none => rw [hr] at hvnd; exact hvnd
        | some y => rw [hr] at hvnd; exact (List.nodup_cons.mp hvnd).2)
      (fun x hx hin => hargs x hx (hsub x hin))
    obtain ⟨hinv, hgood⟩ := field_step hL args last st1 st' r h2 hp hfresh hinv1
    refine ⟨hinv, fun b fp a hab => ?_⟩
    cases b with
    | nil => cases hab; exact hgood
    | cons b0 b =>
      cases hab
      have hsuf : ∀ g ∈ fp :: a, g ∈ b ++ fp :: a := fun g hg => List.mem_append_right _ hg
      exact FieldGood_extends he (fun g hg => hfresh g (hsuf g hg))
        (fun x hx => ⟨(hvar x hx).1, fun g hg => (hvar x hx).2 g (hsuf g hg)⟩) (hall b fp a rfl)

theorem getterWFAux_split (args : List Nat) (g : Getter) : ∀ (suf pre : List FieldP),
    getterWFAux args g pre suf = true →
    ∃ a fp b, suf = a ++ fp :: b ∧ fp.id = g.field ∧
      getterCompat args (a.reverse ++ pre) fp.kind g.kind = true := by
  intro suf
  induction suf with
  | nil => intro pre h; simp [getterWFAux] at h
  | cons fp rest ih =>
    intro pre h
    simp only [getterWFAux] at h
    split at h
    · rename_i hid
      exact ⟨[], fp, rest, rfl, hid, by simpa using h⟩
    · obtain ⟨a, fq, b, hsplit, hfq, hc⟩ := ih (fp :: pre) h
      exact ⟨fp :: a, fq, b, by simp [hsplit], hfq, by simpa [List.reverse_cons, List.append_assoc] using hc⟩

theorem gargVal_ok {ext : Ext} {d : Data} {s : Shape} {m : Marker}
    (hfields : s.fields = s.prog.map fieldOf) (hnd : (s.prog.map FieldP.id).Nodup)
    (hall : ∀ a fp b, s.prog = a ++ fp :: b → FieldGood ext d s.args m a.reverse fp)
    (a : List FieldP) (fp : FieldP) (b : List FieldP) (hsplit : s.prog = a ++ fp :: b)
    (vars0 : Env)
    (hagree : ∀ x, x ∈ s.args ∨ x ∈ boundVars a.reverse → getVar vars0 x = getVar m.vars x)
    (ga : GArg) (x : Nat) (hm : gargMatches s.args a.reverse ga x = true) :
    gargVal s d m ga = some (getVar vars0 x) := by
  cases ga with
  | arg y =>
    simp [gargMatches] at hm
    obtain ⟨rfl, hx⟩ := hm
    simp [gargVal, hagree y (Or.inl hx)]
  | field f sz =>
    simp only [gargMatches, List.any_eq_true, Bool.and_eq_true, decide_eq_true_eq] at hm
    obtain ⟨fq, hfq, hfid, hkind⟩ := hm
    have hfqa : fq ∈ a := by simpa using hfq
    obtain ⟨a1, a2, ha⟩ := List.append_of_mem hfqa
    have hsplit' : s.prog = a1 ++ fq :: (a2 ++ fp :: b) := by
      rw [hsplit, ha]; simp
    have hgood := hall a1 fq (a2 ++ fp :: b) hsplit'
    have hx : x ∈ boundVars a.reverse := mem_boundVars.mpr ⟨fq, hfq, by simp [FieldP.readsVar, hkind]⟩
    subst hfid
    simp only [gargVal]
    rw [rangeById_prog m hfields hnd hsplit']
    unfold FieldGood at hgood
    cases hr : fieldRange m (a1.reverse.map fieldOf) (fieldOf fq) with
    | panic => rw [hr] at hgood; exact absurd hgood (by simp)
    | absent =>
      rw [hr] at hgood
      simp [fieldOf, hkind] at hgood
    | range s0 e0 =>
      rw [hr] at hgood
      simp only [hkind] at hgood
      obtain ⟨_, _, _, hread⟩ := hgood
      simp only []
      rw [hread x rfl, hagree x (Or.inr hx)]

theorem gargVals_ok {ext : Ext} {d : Data} {s : Shape} {m : Marker}
    (hfields : s.fields = s.prog.map fieldOf) (hnd : (s.prog.map FieldP.id).Nodup)
    (hall : ∀ a fp b, s.prog = a ++ fp :: b → FieldGood ext d s.args m a.reverse fp)
    (a : List FieldP) (fp : FieldP) (b : List FieldP) (hsplit : s.prog = a ++ fp :: b)
    (vars0 : Env)
    (hagree : ∀ x, x ∈ s.args ∨ x ∈ boundVars a.reverse → getVar vars0 x = getVar m.vars x) :
    ∀ (gas : List GArg) (xs : List Nat), gargsMatch s.args a.reverse gas xs = true →
      gargVals s d m gas = some (xs.map (getVar vars0)) := by
  intro gas
  induction gas with
  | nil =>
    intro xs h
    cases xs with
    | nil => rfl
    | cons x xs => simp [gargsMatch] at h
  | cons ga gas ih =>
    intro xs h
    cases xs with
    | nil => simp [gargsMatch] at h
    | cons x xs =>
      simp only [gargsMatch, Bool.and_eq_true] at h
      have h1 := gargVal_ok hfields hnd hall a fp b hsplit vars0 hagree ga x h.1
      have h2 := ih xs h.2
      simp [gargVals, h1, h2]

end FontVerif.Shape

namespace FontVerif.C01
open FontVerif.Shape

theorem evalLen_not_stuck (ext : Ext) (hext : ∀ r vs, ext.size r vs ≠ .error .stuck)
    (d : Data) (pos : Nat) (vars : Env) (l : Len) : evalLen ext d pos vars l ≠ .error .stuck := by
  have hsz : ∀ sz, evalSize ext vars sz ≠ .error .stuck := by
    intro sz; cases sz with
    | const n => simp [evalSize]
    | compute r args => simpa [evalSize] using hext r _
  cases l with
  | mul c sz =>
    simp only [evalLen]
    have := hsz sz
    split
    · rename_i e he; intro h; cases h; exact this he
    · split <;> simp
  | one sz => simpa [evalLen] using hsz sz
  | remFloor n => simp [evalLen]
  | rem => simp [evalLen]
  | varLen k c =>
    simp only [evalLen]
    split
    · split <;> simp
    · simp

/-- the statements of a well-formed body never reach an unbound local: an error of a field is `OutOfBounds` or
comes from a length expression -/
theorem prog_not_stuck (ext : Ext) (hext : ∀ r vs, ext.size r vs ≠ .error .stuck) (d : Data) :
    ∀ (fps : List FieldP) (st : St), runSteps ext d (fps.flatMap stepsOf) st ≠ .error .stuck
  | [], st => nofun
  | fp :: rest, st => by
    rw [runSteps_prog_cons]
    have hs := fieldSem_spec ext d fp st [] []
    cases h : fieldSem ext d fp st with
    | error e =>
      rw [h] at hs
      intro h'; cases h'
      rcases hs with h0 | ⟨l, pos, vars, h1⟩
      · cases h0
      · exact evalLen_not_stuck ext hext d pos vars l h1
    | ok st1 => exact prog_not_stuck ext hext d rest st1

theorem sizeFn_hand (t : Tables) (f r : Nat) (args : List Nat) (name : String) (k : Nat)
    (hn : t.sizeNames[r]? = some name) (hs : handSize name args = some k) :
    sizeFn t (f + 1) r args = .ok k := by
  simp [sizeFn, hn, hs]

end FontVerif.C01
