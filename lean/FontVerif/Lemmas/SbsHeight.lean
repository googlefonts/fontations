/-
Sparse-bit-set codec: `tree_height_for` characterisation, header byte round trip.
-/
import FontVerif.Lemmas.SbsStream
namespace FontVerif.SparseBitSet

theorem two_pow_log2Bf {bf : Nat} (h : BfOk bf) : 2 ^ log2Bf bf = bf := by
  rcases h with h | h | h | h <;> subst h <;> decide

/-- the loop of `tree_height_for` adds to the running height the least `k + 1` with `v < bf^(k+1)` -/
theorem treeHeightFor_go_spec {bf : Nat} (hbf : BfOk bf) :
    ∀ (fuel height v : Nat), v < bf ^ (fuel + 1) →
      ∃ k, treeHeightFor.go bf (fuel + 1) height v = height + (k + 1) ∧ v < bf ^ (k + 1) ∧
        (0 < v → bf ^ k ≤ v) := by
  intro fuel height v hv
  have hpos := bfOk_pos hbf
  rw [treeHeightFor.go, two_pow_log2Bf hbf]
  by_cases h0 : v / bf = 0
  · rw [if_pos h0]
    exact ⟨0, rfl, by rw [Nat.pow_one]; exact (Nat.div_eq_zero_iff_lt hpos).1 h0, fun h => by
      rw [Nat.pow_zero]; exact h⟩
  · rw [if_neg h0]
    cases fuel with
    | zero => exact absurd (Nat.div_eq_of_lt (by rw [Nat.pow_one] at hv; exact hv)) h0
    | succ fuel =>
      obtain ⟨k, e, h2, h3⟩ := treeHeightFor_go_spec hbf fuel (height + 1) (v / bf)
        (by rw [Nat.div_lt_iff_lt_mul hpos, ← Nat.pow_succ]; exact hv)
      refine ⟨k + 1, by rw [e, Nat.add_assoc, Nat.add_comm 1], ?_, fun _ => ?_⟩
      · rw [Nat.pow_succ, ← Nat.div_lt_iff_lt_mul hpos]; exact h2
      · rw [Nat.pow_succ]; exact (Nat.le_div_iff_mul_le hpos).mp (h3 (Nat.pos_of_ne_zero h0))

/-- the least height whose tree covers `max`; the loop's 33 rounds suffice for every `max < bf^33`, in particular every `u32` -/
theorem treeHeightFor_spec {bf : Nat} (hbf : BfOk bf) (maxValue : Nat) (hm : maxValue < bf ^ 33) :
    1 ≤ treeHeightFor bf maxValue ∧ maxValue < bf ^ treeHeightFor bf maxValue ∧
      (0 < maxValue → bf ^ (treeHeightFor bf maxValue - 1) ≤ maxValue) := by
  obtain ⟨k, e, h1, h2⟩ := treeHeightFor_go_spec hbf 32 0 maxValue hm
  rw [treeHeightFor, e, Nat.zero_add]
  exact ⟨Nat.succ_pos k, h1, h2⟩

theorem u32_lt_pow33 {bf : Nat} (hbf : BfOk bf) {m : Nat} (hm : m ≤ U32_MAX) : m < bf ^ 33 := by
  have h1 : m < 2 ^ 33 := by simp only [U32_MAX] at hm; omega
  exact Nat.lt_of_lt_of_le h1 (Nat.pow_le_pow_left (bfOk_two_le hbf) 33)

theorem treeHeightFor_le_maxHeight {bf : Nat} (hbf : bf = 4 ∨ bf = 8 ∨ bf = 32) {m : Nat}
    (hm : m ≤ U32_MAX) : treeHeightFor bf m ≤ maxHeight bf := by
  have hok : BfOk bf := by rcases hbf with h | h | h <;> simp [BfOk, h]
  have sp := treeHeightFor_spec hok m (u32_lt_pow33 hok hm)
  rcases Nat.eq_zero_or_pos m with h0 | h0
  · subst h0
    have : treeHeightFor bf 0 = 1 := by
      rcases hbf with h | h | h <;> subst h <;> decide
    rw [this]; rcases hbf with h | h | h <;> subst h <;> decide
  · have h3 := sp.2.2 h0
    have hlt : bf ^ (treeHeightFor bf m - 1) < bf ^ maxHeight bf := by
      refine Nat.lt_of_le_of_lt h3 (Nat.lt_of_le_of_lt hm ?_)
      rcases hbf with h | h | h <;> subst h <;> decide
    have := (Nat.pow_lt_pow_iff_right (bfOk_two_le hok)).mp hlt
    omega

theorem bfOfBits_header {bf : Nat} (hbf : BfOk bf) (height : Nat) :
    bfOfBits ((height % 32) * 4 + bitId bf) = bf := by
  rcases hbf with h | h | h | h <;> subst h <;> simp only [bfOfBits, bitId] <;> simp <;> omega

theorem bitId_lt (bf : Nat) : bitId bf < 4 := by
  unfold bitId
  split
  · decide
  · split
    · decide
    · split <;> decide

theorem height_header (bf height : Nat) :
    ((height % 32) * 4 + bitId bf) / 4 % 32 = height % 32 := by
  have := bitId_lt bf
  generalize bitId bf = b at this
  omega

theorem header_lt (bf height : Nat) : (height % 32) * 4 + bitId bf < 256 := by
  have := bitId_lt bf
  omega

end FontVerif.SparseBitSet
