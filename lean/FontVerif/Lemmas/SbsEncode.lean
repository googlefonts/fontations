/-
Sparse-bit-set codec: `to_sparse_bit_set_with_bf` / `to_sparse_bit_set` against the
specification decoder.
-/
import FontVerif.Lemmas.SbsRound
import FontVerif.Lemmas.Ite
namespace FontVerif.SparseBitSet

/-- the branch factor actually used (`BF = 2` falls back to 4 when the height exceeds 31) -/
def usedBf (bf maxValue : Nat) : Nat :=
  if treeHeightFor bf maxValue > maxHeight bf ∧ bf = 2 then 4 else bf

theorem encodeBf_nil (bf : Nat) : encodeBf bf [] = some [(0 % 32) * 4 + bitId bf] := by
  simp [encodeBf, BitOut.new, BitOut.bytes]

theorem encodeBf_some (bf : Nat) (members : List Nat) (mx : Nat)
    (h : members.getLast? = some mx) :
    encodeBf bf members =
      if treeHeightFor (usedBf bf mx) mx > maxHeight (usedBf bf mx) then none
      else some (encBytes (usedBf bf mx) members (treeHeightFor (usedBf bf mx) mx)) := by
  simp only [encodeBf, h, usedBf, encBytes]
  rfl

theorem usedBf_ok {bf : Nat} (hbf : BfOk bf) (mx : Nat) : BfOk (usedBf bf mx) := by
  simp only [usedBf]; split
  · simp [BfOk]
  · exact hbf

theorem maxHeight_le_31 (bf : Nat) : maxHeight bf ≤ 31 :=
  ite_le (Nat.le_refl _) (ite_le (by decide) (ite_le (by decide) (by decide)))

theorem usedBf_height {bf : Nat} (hbf : BfOk bf) {mx : Nat} (hmx : mx ≤ U32_MAX) :
    treeHeightFor (usedBf bf mx) mx ≤ maxHeight (usedBf bf mx) := by
  simp only [usedBf]
  split
  · exact treeHeightFor_le_maxHeight (Or.inl rfl) hmx
  · rename_i hc
    rcases hbf with h | h | h | h
    · subst h
      simp only [and_true] at hc
      omega
    · exact treeHeightFor_le_maxHeight (Or.inl h) hmx
    · exact treeHeightFor_le_maxHeight (Or.inr (Or.inl h)) hmx
    · exact treeHeightFor_le_maxHeight (Or.inr (Or.inr h)) hmx

/-- `to_sparse_bit_set_with_bf` of an ascending list of `u32` members never panics, and the
specification decoder reads the bytes back to exactly the members, consuming everything; the
header's height is within `max_height` of its branch factor -/
theorem encodeBf_spec {bf : Nat} (hbf : BfOk bf) (members : List Nat)
    (hsorted : members.Pairwise (· < ·)) (hu32 : ∀ m ∈ members, m ≤ U32_MAX) :
    ∃ bytes ivs, encodeBf bf members = some bytes ∧ specDecode bytes = some (ivs, []) ∧
      (∀ x, InsMem ivs x ↔ x ∈ members) ∧ (∀ b ∈ bytes, b < 256) ∧
      (∀ b0 tl, bytes = b0 :: tl → b0 / 4 % 32 ≤ maxHeight (bfOfBits b0)) := by
  cases hl : members.getLast? with
  | none =>
    have hnil : members = [] := List.getLast?_eq_none_iff.mp hl
    subst hnil
    refine ⟨_, [], encodeBf_nil bf, ?_, by simp [insMem_nil], ?_, ?_⟩
    · rcases hbf with rfl | rfl | rfl | rfl <;> simp [specDecode, bitId]
    · intro b hb
      simp only [List.mem_singleton] at hb
      rw [hb]; exact header_lt _ 0
    · intro b0 tl h
      simp only [List.cons.injEq] at h
      rw [← h.1, height_header]; omega
  | some mx =>
    have hne : members ≠ [] := by
      intro h; rw [h] at hl; simp at hl
    have hmxmem : mx ∈ members := List.mem_of_getLast? hl
    have hmx : mx ≤ U32_MAX := hu32 mx hmxmem
    have hok := usedBf_ok hbf mx
    have hheight := usedBf_height hbf hmx
    have sp := treeHeightFor_spec hok mx (u32_lt_pow33 hok hmx)
    rw [encodeBf_some bf members mx hl, if_neg (by omega)]
    generalize usedBf bf mx = bf' at *
    generalize hH : treeHeightFor bf' mx = H' at *
    obtain ⟨H, rfl⟩ : ∃ H, H' = H + 1 := ⟨H' - 1, by omega⟩
    have h31 := maxHeight_le_31 bf'
    have hS : ∀ m ∈ members, m < bf' ^ (H + 1) := fun m hm =>
      Nat.lt_of_le_of_lt (sorted_le_getLast hsorted hl m hm) sp.2.1
    obtain ⟨ivs, h1, h2, h3, h4⟩ := spec_roundtrip hok members hsorted hne H (by omega) hS
    refine ⟨_, ivs, rfl, h1, h2, h3, ?_⟩
    intro b0 tl h
    rw [h] at h4
    simp only [List.head?_cons, Option.some.injEq] at h4
    rw [h4, height_header, bfOfBits_header hok]
    omega

/-- `min_by_key(|f| f.len())` as the model's fold: the result splits the candidate list into
strictly longer candidates before it and not shorter candidates after it -/
theorem foldl_min_spec : ∀ (cs pre : List (List Nat)) (best : List Nat) (post : List (List Nat)),
    (∀ y ∈ pre, best.length < y.length) → (∀ y ∈ post, best.length ≤ y.length) →
    ∃ pre' post',
      pre ++ best :: post ++ cs
        = pre' ++ (cs.foldl (fun best x => if x.length < best.length then x else best) best)
            :: post' ∧
      (∀ y ∈ pre', (cs.foldl (fun best x => if x.length < best.length then x else best) best).length
        < y.length) ∧
      (∀ y ∈ post', (cs.foldl (fun best x => if x.length < best.length then x else best) best).length
        ≤ y.length)
  | [], pre, best, post, h1, h2 => ⟨pre, post, by simp, h1, h2⟩
  | x :: cs, pre, best, post, h1, h2 => by
    simp only [List.foldl_cons]
    by_cases hx : x.length < best.length
    · rw [if_pos hx]
      obtain ⟨pre', post', e, a, b⟩ := foldl_min_spec cs (pre ++ best :: post) x [] (by
        intro y hy
        simp only [List.mem_append, List.mem_cons] at hy
        rcases hy with hy | rfl | hy
        · have := h1 y hy; omega
        · exact hx
        · have := h2 y hy; omega) (by simp)
      exact ⟨pre', post', by rw [← e]; simp, a, b⟩
    · rw [if_neg hx]
      obtain ⟨pre', post', e, a, b⟩ := foldl_min_spec cs pre best (post ++ [x]) h1 (by
        intro y hy
        simp only [List.mem_append, List.mem_singleton] at hy
        rcases hy with hy | rfl
        · exact h2 y hy
        · omega)
      exact ⟨pre', post', by rw [← e]; simp, a, b⟩

/-- the candidate list of `to_sparse_bit_set` -/
def encodeCands (members : List Nat) (mx : Nat) : List (List Nat) :=
  [2, 4, 8, 32].filterMap (fun bf =>
    if treeHeightFor bf mx ≤ maxHeight bf then encodeBf bf members else none)

theorem encode_nil : encode [] = [(0 % 32) * 4 + bitId 2] := by
  simp [encode, BitOut.new, BitOut.bytes]

theorem encode_some (members : List Nat) (mx : Nat) (h : members.getLast? = some mx) :
    encode members =
      match encodeCands members mx with
      | [] => []
      | c :: cs => cs.foldl (fun best x => if x.length < best.length then x else best) c := by
  simp only [encode, h, encodeCands]
  rfl

theorem mem_encodeCands {members : List Nat} {mx : Nat} {c : List Nat}
    (h : c ∈ encodeCands members mx) :
    ∃ bf, BfOk bf ∧ treeHeightFor bf mx ≤ maxHeight bf ∧ encodeBf bf members = some c := by
  simp only [encodeCands, List.mem_filterMap] at h
  obtain ⟨bf, hbf, hc⟩ := h
  split at hc
  · rename_i hh
    refine ⟨bf, ?_, hh, hc⟩
    simp only [List.mem_cons, List.not_mem_nil, or_false] at hbf
    exact hbf
  · simp at hc

/-- the branch factor 4 candidate is always present for `u32` members -/
theorem encodeCands_ne_nil {members : List Nat} {mx : Nat} (hmx : mx ≤ U32_MAX)
    (hsorted : members.Pairwise (· < ·)) (hu32 : ∀ m ∈ members, m ≤ U32_MAX) :
    encodeCands members mx ≠ [] := by
  obtain ⟨bytes, _, he, _⟩ := encodeBf_spec (bf := 4) (by simp [BfOk]) members hsorted hu32
  have : bytes ∈ encodeCands members mx := by
    simp only [encodeCands, List.mem_filterMap]
    refine ⟨4, by simp, ?_⟩
    rw [if_pos (treeHeightFor_le_maxHeight (Or.inl rfl) hmx)]
    exact he
  intro hc
  rw [hc] at this
  simp at this

end FontVerif.SparseBitSet
