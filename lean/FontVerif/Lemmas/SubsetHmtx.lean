/-
`Hmtx::subset` (Model/Subset.lean): what the trimming loop of `compute_new_num_h_metrics` guarantees, and the read-fonts
accessors on the tables the subsetter writes.  `newGidLsb` names the side-bearing getter that the model writes inline in
`subsetHmtx` (its sibling `newGidAdvance` is in the model).
-/
import FontVerif.Model.Subset
import FontVerif.Lemmas.Base
namespace FontVerif.Subset

theorem trimMetrics_spec (adv : Nat → Nat) (last : Nat) : ∀ n, trimMetrics adv last n ≤ n ∧
    (1 ≤ n → 1 ≤ trimMetrics adv last n) ∧ ∀ j, trimMetrics adv last n - 1 ≤ j → j + 1 < n → adv j = last := by
  intro n
  induction n using trimMetrics.induct adv last with
  | case1 => exact ⟨Nat.le_refl _, id, fun j _ h => by omega⟩
  | case2 => exact ⟨Nat.le_refl _, id, fun j _ h => by omega⟩
  | case3 n h =>
    rw [trimMetrics, if_pos h]
    exact ⟨Nat.le_refl _, fun _ => by omega, fun j h1 h2 => by omega⟩
  | case4 n h ih =>
    rw [trimMetrics, if_neg h]
    refine ⟨by omega, fun _ => ih.2.1 (by omega), fun j h1 h2 => ?_⟩
    by_cases hj : j = n
    · subst hj; simpa using h
    · exact ih.2.2 j h1 (by omega)

theorem newNumHMetrics_spec (longs : List (Nat × Nat)) (n2o : List (Nat × Nat)) {nout : Nat} (h1 : 1 ≤ nout)
    (hn : nout ≤ 0xFFFF) :
    1 ≤ newNumHMetrics longs n2o nout ∧ newNumHMetrics longs n2o nout ≤ nout ∧
    ∀ j, newNumHMetrics longs n2o nout - 1 ≤ j → j < nout →
      newGidAdvance longs n2o j = newGidAdvance longs n2o (nout - 1) := by
  unfold newNumHMetrics
  rw [show min nout 0xFFFF = nout by omega]
  obtain ⟨hle, hpos, htail⟩ := trimMetrics_spec (newGidAdvance longs n2o) (newGidAdvance longs n2o (nout - 1)) nout
  refine ⟨hpos h1, hle, fun j hj1 hj2 => ?_⟩
  by_cases hq : j + 1 < nout
  · exact htail j hj1 hq
  · rw [show j = nout - 1 by omega]

/-- `get_new_gid_lsb`: the side bearing (bit pattern) written for a new glyph id, 0 for a retain-gids gap -/
def newGidLsb (longs : List (Nat × Nat)) (lsbs : List Nat) (n2o : List (Nat × Nat)) (new : Nat) : Nat :=
  match newToOld n2o new with
  | none => 0
  | some old => (hmtxLsb longs lsbs old).getD 0

theorem subsetHmtx_ok {longs : List (Nat × Nat)} {lsbs : List Nat} {n2o : List (Nat × Nat)} {nout : Nat} {o : HmtxOut}
    (h : subsetHmtx longs lsbs n2o nout = .ok o) :
    nout ≠ 0 ∧ (∀ no ∈ n2o, (hmtxAdvance longs no.2).isSome ∧ (hmtxLsb longs lsbs no.2).isSome) ∧
    o = { numH := newNumHMetrics longs n2o nout,
          longs := (List.range (newNumHMetrics longs n2o nout)).map
            (fun new => (newGidAdvance longs n2o new, newGidLsb longs lsbs n2o new)),
          lsbs := (List.range (nout - newNumHMetrics longs n2o nout)).map
            (fun k => newGidLsb longs lsbs n2o (newNumHMetrics longs n2o nout + k)) } := by
  unfold subsetHmtx at h
  obtain ⟨h0, h⟩ := Do.error_else_ok h
  obtain ⟨_, h⟩ := Do.error_else_ok h
  obtain ⟨hany, h⟩ := Do.error_else_ok h
  refine ⟨h0, fun no hno => ?_, (Except.ok.inj h).symm⟩
  simp only [List.any_eq_true, not_exists, not_and, Bool.or_eq_true, not_or, Option.isNone_iff_eq_none] at hany
  exact ⟨Option.isSome_iff_ne_none.mpr (hany no hno).1, Option.isSome_iff_ne_none.mpr (hany no hno).2⟩

theorem hmtxAdvance_map_range (f : Nat → Nat × Nat) (nh new : Nat) (h1 : 1 ≤ nh) :
    hmtxAdvance ((List.range nh).map f) new = some (if new < nh then (f new).1 else (f (nh - 1)).1) := by
  unfold hmtxAdvance
  by_cases hc : new < nh
  · simp [hc]
  · have hnone : ((List.range nh).map f)[new]? = none := by simp; omega
    rw [hnone]
    have hne : ¬ nh = 0 := by omega
    simp [List.getLast?_map, List.getLast?_range, hne, hc]

theorem hmtxLsb_map_range (f : Nat → Nat × Nat) (g : Nat → Nat) (nh k new : Nat) (h : new < nh + k) :
    hmtxLsb ((List.range nh).map f) ((List.range k).map g) new =
      some (if new < nh then (f new).2 else g (new - nh)) := by
  unfold hmtxLsb
  by_cases hc : new < nh
  · simp [hc]
  · have hnone : ((List.range nh).map f)[new]? = none := by simp; omega
    rw [hnone]
    have hlt2 : new - nh < k := by omega
    simp [hlt2, hc]

end FontVerif.Subset
