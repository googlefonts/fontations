/-
C11 (continued) — the floating point variation path and avar version 2.
Models: Model/FloatDelta.lean (compute_scalar_f32, compute_float_delta, apply_float_delta, avar 2 step of
        Fvar::user_to_normalized) over the exact IEEE model Model/Ieee.lean + Model/IeeeArith.lean.
(accuracy for any axis count: Props/C11FloatAcc.lean)
-/
import FontVerif.Model.FloatDelta
import FontVerif.Lemmas.FixedConv
import FontVerif.Lemmas.IeeeArith
import FontVerif.Lemmas.FloatDelta
import FontVerif.Lemmas.FloatAcc
namespace FontVerif.C11
open FontVerif.Ieee FontVerif.FloatDelta

/-! ## 1. avar version 2 -/

theorem clampUnit_range (v : Int) : -16384 ≤ clampUnit v ∧ clampUnit v ≤ 16384 := by
  unfold clampUnit; split <;> (try split) <;> omega

theorem clampUnit_id (v : Int) (h : -16384 ≤ v ∧ v ≤ 16384) : clampUnit v = v := by
  unfold clampUnit; split <;> (try split) <;> omega

/-- a coordinate either keeps its version-1 value (no index, no store,
unreadable row) or is replaced by a value in `[-1, 1]`: `from_f32` of ANY float — NaN, infinities,
huge sums — is clamped (after `fix:` f904e32; the code clamped to `[-2, 2)` before). -/
theorem avar2_coord_range (t : Avar2) (coords : List Int) (i : Nat) (v : Int) :
    avar2Coord t coords i v = v ∨
    (-16384 ≤ avar2Coord t coords i v ∧ avar2Coord t coords i v ≤ 16384) := by
  unfold avar2Coord
  split
  · split
    · right; exact clampUnit_range _
    · left; rfl
  · left; rfl

/-- when the version-1 coordinates are in `[-1, 1]` (they are for every valid
segment map: `user_to_normalized_avar_laws`), so is every coordinate after the avar-2 step. -/
theorem avar2_range (t : Avar2) (axisCount : Nat) (out : List Int)
    (hout : ∀ x ∈ out, -16384 ≤ x ∧ x ≤ 16384) :
    ∀ x ∈ applyAvar2 t axisCount out, -16384 ≤ x ∧ x ≤ 16384 := by
  intro x hx
  unfold applyAvar2 at hx
  simp only [] at hx
  split at hx
  · exact hout x hx
  · rw [List.mem_append] at hx
    rcases hx with hx | hx
    · rw [List.mem_map] at hx
      obtain ⟨vi, hvi, rfl⟩ := hx
      rcases avar2_coord_range t (out.take (min axisCount out.length)) vi.2 vi.1 with h | h
      · rw [h]
        have hm : vi.1 ∈ out.take (min axisCount out.length) := by
          have := List.mem_zipIdx hvi
          rcases vi with ⟨a, b⟩
          simp only at this ⊢
          rw [this.2.2]
          exact List.getElem_mem _
        exact hout _ (List.mem_of_mem_take hm)
      · exact h
    · exact hout x (List.mem_of_mem_drop hx)

/-- the step never resizes the slice. -/
theorem avar2_length (t : Avar2) (axisCount : Nat) (out : List Int) :
    (applyAvar2 t axisCount out).length = out.length := by
  unfold applyAvar2
  simp only []
  split
  · rfl
  · simp only [List.length_append, List.length_map, List.length_zipIdx, List.length_take,
      List.length_drop]
    omega

/-- a NULL / unreadable variation store leaves every coordinate at its
version-1 value (whatever the axis index map says). -/
theorem avar2_without_store (m : Option (Nat × Nat × List Nat)) (axisCount : Nat) (out : List Int) :
    applyAvar2 ⟨m, none⟩ axisCount out = out := by
  unfold applyAvar2
  simp only []
  split
  · rfl
  · have : ∀ (l : List Int) (k : Nat),
        (l.zipIdx k).map (fun vi => avar2Coord ⟨m, none⟩ (out.take (min axisCount out.length)) vi.2 vi.1) = l := by
      intro l
      induction l with
      | nil => intro k; rfl
      | cons a rest ih =>
        intro k
        simp only [List.zipIdx_cons, List.map_cons, ih]
        congr 1
        unfold avar2Coord
        cases avar2Index ⟨m, none⟩ k <;> rfl
    rw [this]
    exact List.take_append_drop _ _

/-- with more than 64 active axes the step is skipped
("No avar2 for monster fonts"). -/
theorem avar2_beyond_64_axes (t : Avar2) (axisCount : Nat) (out : List Int)
    (h : 64 < min axisCount out.length) : applyAvar2 t axisCount out = out := by
  unfold applyAvar2; simp [h]

/-- what the step computes, spelled out — slot `i` (below the active length, at most
64) is `clamp(from_f32(v₁ᵢ.to_f32() + (Δ · 2⁻¹⁴) as f32))` where `Δ` is `compute_float_delta` of the
delta set chosen by the axis index map (or `(0, i)` without a map) evaluated at the WHOLE version-1
location; slots beyond the active length are untouched. -/
theorem avar2_slot (t : Avar2) (axisCount : Nat) (out : List Int)
    (h64 : min axisCount out.length ≤ 64) (i : Nat) (hi : i < out.length) :
    (applyAvar2 t axisCount out)[i]? =
      if i < min axisCount out.length then
        some (avar2Coord t (out.take (min axisCount out.length)) i out[i])
      else some out[i] := by
  unfold applyAvar2
  simp only []
  have : ¬ (min axisCount out.length > 64) := by omega
  simp only [this, if_false]
  by_cases hlt : i < min axisCount out.length
  · simp only [hlt, if_true]
    rw [List.getElem?_append_left (by simp; omega)]
    simp only [List.getElem?_map, List.getElem?_zipIdx, List.getElem?_take, hlt, if_true,
      Nat.zero_add]
    simp [List.getElem?_eq_getElem hi]
  · simp only [hlt, if_false]
    rw [List.getElem?_append_right (by simp; omega)]
    simp only [List.length_map, List.length_zipIdx, List.length_take, List.getElem?_drop]
    have : min axisCount out.length + (i - min (min axisCount out.length) out.length) = i := by
      omega
    rw [this, List.getElem?_eq_getElem hi]

/-- the whole of `Fvar::user_to_normalized`: version 1 (or no avar) is the settings loop alone. -/
theorem user_to_normalized_full_v1 (axes : List Normalize.AxisRec)
    (maps : Option (List (List (Int × Int)))) (settings : List (Nat × Int)) (outLen : Nat) :
    userToNormalizedFull axes maps none settings outLen =
      Normalize.userToNormalizedAll axes maps settings outLen := rfl

/-! ## 2. `compute_float_delta` walks the table exactly like `compute_delta` -/

theorem floatLoop_some_iff (regions : List (List (Int × Int × Int))) (coords : List Int) :
    ∀ (ds : List Int) (ris : List Nat) (accF : FVal) (accI : Int),
      (floatLoop regions coords ds ris accF).isSome =
      (Tent.deltaLoop regions coords ds ris accI).isSome := by
  intro ds
  induction ds with
  | nil => intro ris accF accI; simp [floatLoop, Tent.deltaLoop]
  | cons d rest ih =>
    intro ris accF accI
    cases ris with
    | nil => simp [floatLoop, Tent.deltaLoop]
    | cons ri ris =>
      simp only [floatLoop, Tent.deltaLoop]
      cases regions[ri]? with
      | none => rfl
      | some axes => exact ih ris _ _

/-- `compute_float_delta` returns `Ok` on exactly the inputs on which
`compute_delta` does (same subtable / row / region-index checks; `compute_delta_ok_iff` of
Props/C11.lean says when that is). -/
theorem float_delta_ok_iff (regions : List (List (Int × Int × Int)))
    (subtables : List (Option Tent.SubTable)) (outer inner : Nat) (coords : List Int) :
    (computeFloatDelta regions subtables outer inner coords).isSome =
      (match Tent.computeDelta regions subtables outer inner coords with
       | .ok _ => true
       | .err => false) := by
  unfold computeFloatDelta Tent.computeDelta
  by_cases hc : coords.isEmpty
  · simp [hc]
  · simp only [hc, Bool.false_eq_true, if_false]
    cases subtables[outer]? with
    | none => rfl
    | some st =>
      cases st with
      | none => rfl
      | some st =>
        simp only []
        split
        · rfl
        · have := floatLoop_some_iff regions coords
            (Tent.deltaSet st.wordDeltaCount st.regionIndexes.length
              (st.data.take (Tent.deltaRowLen st.wordDeltaCount st.regionIndexes.length * st.itemCount)) inner)
            st.regionIndexes zero 0
          revert this
          cases floatLoop regions coords _ st.regionIndexes zero <;>
            cases Tent.deltaLoop regions coords _ st.regionIndexes 0 <;> simp

/-! ## 3. the f32 tent scalar (`VariationRegion::compute_scalar_f32`)

Region records and coordinates are F2Dot14 bit patterns (`AxesI16`, `CoordsI16`); `dle m e n g` is
the exact comparison `m·2^e ≤ n·2^g`. -/

/-- for every region and location the f32 scalar is a finite, non-negative
float that is at most `1.0` — never NaN / infinite / above one, for any number of axes (each
`(scalar · a) / b` step rounds twice; rounding never crosses the representable bounds). -/
theorem scalar_f32_range (axes : List (Int × Int × Int)) (coords : List Int)
    (ha : AxesI16 axes) (hc : CoordsI16 coords) :
    ∃ n q, computeScalarF32 axes coords = .fin false n q ∧ dle n q 1 0 :=
  scalarGoF_inUnit axes coords one ha hc (inUnit_one f32)

/-- outside `[start, end]` on an axis the region uses, the scalar is
`0.0` (same support as the 16.16 scalar: `scalar_outside_zero`). -/
theorem scalar_f32_outside_zero (axes : List (Int × Int × Int)) (coords : List Int)
    (ha : AxesI16 axes) (hc : CoordsI16 coords) (i : Nat) (a : Int × Int × Int)
    (h : axes[i]? = some a) (hi : ¬ Tent.Ignored a.1 a.2.1 a.2.2)
    (ho : coords.getD i 0 < a.1 ∨ coords.getD i 0 > a.2.2) : computeScalarF32 axes coords = zero :=
  scalarGoF_outside axes coords one i a ha hc h hi ho

/-- on the peak of every axis the region uses the scalar is exactly `1.0`. -/
theorem scalar_f32_at_peak (axes : List (Int × Int × Int)) (coords : List Int)
    (ha : AxesI16 axes) (hc : CoordsI16 coords)
    (h : ∀ i a, axes[i]? = some a → Tent.Ignored a.1 a.2.1 a.2.2 ∨ coords.getD i 0 = a.2.1) :
    computeScalarF32 axes coords = one :=
  scalarGoF_peaks axes coords one ha hc h

/-- with one contributing axis on its rising leg the scalar is the single
f32 quotient `(coord − start) / (peak − start)` of two exactly represented differences
(`1.0 · x` is exact), i.e. the exact rational tent value rounded ONCE. -/
theorem scalar_f32_one_axis (s p e c : Int) (hs : inI16 s) (hp : inI16 p) (he : inI16 e)
    (hc : inI16 c) (hi : ¬ Tent.Ignored s p e) (h1 : s < c) (h2 : c < p) :
    ∃ mA eA mB eB, computeScalarF32 [(s, p, e)] [c] = div f32 (.fin false mA eA) (.fin false mB eB) ∧
      mA < 2 ^ 24 ∧ -14 ≤ eA ∧ eA ≤ 16 ∧ mB < 2 ^ 24 ∧ -14 ≤ eB ∧ eB ≤ 16 ∧
      (mA : Int) * 2 ^ (eA + 14).toNat = c - s ∧ (mB : Int) * 2 ^ (eB + 14).toNat = p - s := by
  have hco : CoordsI16 [c] := fun x hx => by simp at hx; subst hx; exact hc
  unfold computeScalarF32
  simp only [scalarGoF]
  have hC : Val14 (coordF [c]) c := val14_f2 c hc
  rw [stepF_eq one [c] s p e hco hs hp he, List.headD_cons, if_neg hi,
    if_neg (show ¬ (c < s ∨ c > e) by unfold Tent.Ignored at hi; omega), if_neg (by omega : ¬ c = p),
    if_pos h2]
  simp only []
  have hA := val14_sub_i16 hC (val14_f2 s hs) hc hs
  have hB := val14_sub_i16 (val14_f2 p hp) (val14_f2 s hs) hp hs
  obtain ⟨mA, eA, hAe, hmA, heA1, heA2, hvA⟩ := val14_nonneg hA (by omega)
  obtain ⟨mB, eB, hBe, hmB, heB1, heB2, hvB⟩ := val14_nonneg hB (by omega)
  refine ⟨mA, eA, mB, eB, ?_, hmA, heA1, heA2, hmB, heB1, heB2, hvA, hvB⟩
  rw [hAe, hBe]
  -- 1.0 · A = A
  have hne : mA ≠ 0 := by
    intro h; rw [h, Int.natCast_zero, Int.zero_mul] at hvA; omega
  have : mul f32 one (.fin false mA eA) = .fin false mA eA := by
    simp only [mul, one, Bool.bne_false, Nat.one_mul, Int.zero_add]
    exact roundNE_fits f32 _ hne hmA (by show (-149 : Int) ≤ eA; omega) (by show eA + 24 ≤ 128; omega)
  rw [this]

/-- accuracy of the f32 tent, sharp constant for one axis: on
the rising leg of a one-axis region the result `n · 2^q` satisfies
`2 · |n · (peak − start) − (coord − start) · 2^(−q)| ≤ peak − start`, i.e. it is within HALF a unit in
the last place (`2^q`) of the exact tent value `(coord − start) / (peak − start)`: one correctly
rounded operation; that last place is `≤ 2⁻²³` relative (`n ≥ 2²³`) unless the result is subnormal.
For any number of axes see `scalar_f32_product_spec` (Props/C11FloatAcc.lean):
`|scalar − Π tents| ≤ k · (2⁻²³ + 2⁻¹³⁵)`. -/
theorem scalar_f32_one_axis_half_ulp (s p e c : Int) (hs : inI16 s) (hp : inI16 p) (he : inI16 e)
    (hc : inI16 c) (hi : ¬ Tent.Ignored s p e) (h1 : s < c) (h2 : c < p) :
    ∃ n q, computeScalarF32 [(s, p, e)] [c] = .fin false n q ∧ q ≤ 0 ∧
      2 * ((n : Int) * (p - s)) ≤ 2 * ((c - s) * 2 ^ (-q).toNat) + (p - s) ∧
      2 * ((c - s) * 2 ^ (-q).toNat) ≤ 2 * ((n : Int) * (p - s)) + (p - s) ∧
      (2 ^ 23 ≤ n ∨ q = -149) := by
  have hax : AxesI16 [(s, p, e)] := fun a ha => by simp at ha; subst ha; exact ⟨hs, hp, he⟩
  have hco : CoordsI16 [c] := fun x hx => by simp at hx; subst hx; exact hc
  obtain ⟨n, q, hres, hle1⟩ := scalar_f32_range [(s, p, e)] [c] hax hco
  obtain ⟨mA, eA, mB, eB, hdiv, hmA, heA, heA2, hmB, heB, heB2, hvA, hvB⟩ :=
    scalar_f32_one_axis s p e c hs hp he hc hi h1 h2
  rw [hres] at hdiv
  have hmA0 : mA ≠ 0 := by intro h; rw [h, Int.natCast_zero, Int.zero_mul] at hvA; omega
  have hmB0 : mB ≠ 0 := by intro h; rw [h, Int.natCast_zero, Int.zero_mul] at hvB; omega
  -- the half ulp of the quotient on the `2^-300` scale
  obtain ⟨hq, hnorm, hY1, hY2⟩ :=
    div_err_V mA eA mB eB n q hmA0 hmB0 hmB (by omega) heB heB2 hdiv.symm
  -- a normalised significand at a positive exponent would exceed one
  have hq0 : q ≤ 0 := by
    rcases hnorm with hn | hq'
    · apply Classical.byContradiction; intro hpos
      have h1 : n * 2 ^ (q + 0).toNat ≤ 1 * 2 ^ ((0 : Int) + 0).toNat :=
        (dle_shift 0 (by omega) (by omega)).mp hle1
      have h2 : n ≤ n * 2 ^ (q + 0).toNat := Nat.le_mul_of_pos_right _ (two_pow_pos _)
      have h3 : (1 : Nat) * 2 ^ ((0 : Int) + 0).toNat = 1 := rfl
      have h4 : (2 : Nat) ^ 23 = 8388608 := by decide
      omega
    · omega
  generalize hb : mB * 2 ^ (eB + 14).toNat = b at hY1 hY2
  -- all three terms are multiples of `H = 2^(q+299)`
  have eY : V n q = 2 * n * 2 ^ (q + 299).toNat := by
    unfold V
    rw [show q + 300 = 1 + (q + 299) by omega, pow_toNat_add _ _ (by omega) (by omega),
      Nat.mul_assoc 2 n, ← Nat.mul_left_comm]
    rfl
  have eX : V mA eA * 2 ^ 14 =
      2 * (mA * 2 ^ (eA + 14).toNat * 2 ^ (-q).toNat) * 2 ^ (q + 299).toNat := by
    have h300 : (2 : Nat) ^ (286 : Int).toNat * 2 ^ 14 = 2 * (2 ^ (-q).toNat * 2 ^ (q + 299).toNat) := by
      rw [← pow_toNat_add _ _ (by omega) (by omega), show -q + (q + 299) = 299 by omega]; rfl
    unfold V
    rw [show eA + 300 = (eA + 14) + 286 by omega, pow_toNat_add _ _ (by omega) (by omega),
      ← Nat.mul_assoc mA, Nat.mul_assoc (mA * _), h300, Nat.mul_left_comm _ 2, Nat.mul_assoc 2,
      Nat.mul_assoc (mA * _)]
  rw [eY, eX] at hY1 hY2
  have hH : 0 < 2 ^ (q + 299).toNat := two_pow_pos _
  generalize 2 ^ (q + 299).toNat = H at *
  have g1 : 2 * n * b ≤ 2 * (mA * 2 ^ (eA + 14).toNat * 2 ^ (-q).toNat) + b := by
    apply Nat.le_of_mul_le_mul_right _ hH
    rw [Nat.add_mul, Nat.mul_right_comm, Nat.mul_comm b H]; exact hY1
  have g2 : 2 * (mA * 2 ^ (eA + 14).toNat * 2 ^ (-q).toNat) ≤ 2 * n * b + b := by
    apply Nat.le_of_mul_le_mul_right _ hH
    rw [Nat.add_mul, Nat.mul_right_comm (2 * n), Nat.mul_comm b H]; exact hY2
  have hvA' : c - s = ((mA * 2 ^ (eA + 14).toNat : Nat) : Int) := by
    rw [← hvA, Int.natCast_mul, Int.natCast_pow]; rfl
  have hvB' : p - s = ((b : Nat) : Int) := by
    rw [← hb, ← hvB, Int.natCast_mul, Int.natCast_pow]; rfl
  have hpw : (2 : Int) ^ (-q).toNat = ((2 ^ (-q).toNat : Nat) : Int) := by
    rw [Int.natCast_pow]; rfl
  rw [Nat.mul_assoc 2 n b] at g1 g2
  refine ⟨n, q, hres, hq0, ?_, ?_, hnorm⟩
  · rw [hvA', hvB', hpw]; exact_mod_cast g1
  · rw [hvA', hvB', hpw]; exact_mod_cast g2

-- non-vacuity: (1 − 0) / (3 − 0) in f32 is 0x3EAAAAAB = 11184811 · 2⁻²⁵ (within half an ulp of 1/3)
example : computeScalarF32 [(0, 3, 16384)] [1] = .fin false 11184811 (-25) := by decide +kernel
example : encode f32 (computeScalarF32 [(0, 8192, 16384), (-16384, -16384, 0)] [4096, -16384]) =
    0x3F000000 := by decide +kernel
example : AxesI16 [(0, 3, 16384)] ∧ CoordsI16 [1] ∧ ¬ Tent.Ignored 0 3 16384 := by
  refine ⟨fun a ha => ?_, fun c hc => ?_, by decide⟩
  · simp at ha; subst ha; decide
  · simp at hc; subst hc; decide

/-! ## 4. float deltas that are exact -/

/-- sum of the deltas whose region scalar is exactly `1.0`. -/
def peakSum (regions : List (List (Int × Int × Int))) (coords : List Int) : List Int → List Nat → Int
  | d :: ds, ri :: ris =>
    (match regions[ri]? with
     | some axes => if computeScalarF32 axes coords = one then d else 0
     | none => 0) + peakSum regions coords ds ris
  | _, _ => 0

theorem floatLoop_at_peaks (regions : List (List (Int × Int × Int))) (coords : List Int) :
    ∀ (ds : List Int) (ris : List Nat) (S : Int), ds.length ≤ ris.length →
      (∀ p ∈ ds.zip ris, p.1.natAbs < 2 ^ 31 ∧ ∃ axes, regions[p.2]? = some axes ∧
        (computeScalarF32 axes coords = one ∨ computeScalarF32 axes coords = zero)) →
      S.natAbs + 2 ^ 31 * ds.length < 2 ^ 52 →
      floatLoop regions coords ds ris (ofInt f64 S) =
        some (ofInt f64 (S + peakSum regions coords ds ris)) := by
  intro ds
  induction ds with
  | nil => intro ris S _ _ _; cases ris <;> simp [floatLoop, peakSum]
  | cons d rest ih =>
    intro ris S hlen hall hb
    cases ris with
    | nil => simp at hlen
    | cons ri ris =>
      obtain ⟨hd, axes, hax, hsc⟩ := hall (d, ri) (by simp)
      simp only [floatLoop, peakSum, hax]
      simp only [List.length_cons] at hb hlen
      have hrest : ∀ p ∈ rest.zip ris, p.1.natAbs < 2 ^ 31 ∧ ∃ axes, regions[p.2]? = some axes ∧
          (computeScalarF32 axes coords = one ∨ computeScalarF32 axes coords = zero) :=
        fun p hp => hall p (by simp [List.zip_cons_cons, hp])
      have h31 : (2 : Nat) ^ 31 * (rest.length + 1) = 2 ^ 31 * rest.length + 2 ^ 31 := by
        rw [Nat.mul_add, Nat.mul_one]
      rcases hsc with h1 | h0
      · rw [h1, acc_int_step S d (by omega) (by omega)]
        simp only [if_true]
        rw [ih ris (S + d) (by omega) hrest (by omega)]
        congr 2; omega
      · have hne : ¬ (zero = one) := by decide
        rw [h0, acc_zero_step S d (by omega) (by omega)]
        simp only [hne, if_false]
        rw [ih ris S (by omega) hrest (by omega)]
        congr 2; omega

/-- when every region of the row is at its peak (scalar `1.0`) or does
not apply (`0.0`) — e.g. at the masters of the font — `compute_float_delta` is EXACTLY the integer
sum of the applicable deltas (no rounding anywhere: products and `f64` sums of integers below
`2⁵²`). -/
theorem float_delta_at_peaks (regions : List (List (Int × Int × Int)))
    (subtables : List (Option Tent.SubTable)) (outer inner : Nat) (coords : List Int)
    (st : Tent.SubTable) (hc : coords ≠ []) (hst : subtables[outer]? = some (some st))
    (hlen : Tent.deltaRowLen st.wordDeltaCount st.regionIndexes.length * st.itemCount ≤ st.data.length)
    (hri : st.regionIndexes.length ≤ 65535)
    (hall : ∀ p ∈ (Tent.deltaSet st.wordDeltaCount st.regionIndexes.length
        (st.data.take (Tent.deltaRowLen st.wordDeltaCount st.regionIndexes.length * st.itemCount)) inner).zip
        st.regionIndexes,
      p.1.natAbs < 2 ^ 31 ∧ ∃ axes, regions[p.2]? = some axes ∧
        (computeScalarF32 axes coords = one ∨ computeScalarF32 axes coords = zero))
    (hrow : (Tent.deltaSet st.wordDeltaCount st.regionIndexes.length
        (st.data.take (Tent.deltaRowLen st.wordDeltaCount st.regionIndexes.length * st.itemCount)) inner).length
        ≤ st.regionIndexes.length) :
    computeFloatDelta regions subtables outer inner coords =
      some (ofInt f64 (peakSum regions coords
        (Tent.deltaSet st.wordDeltaCount st.regionIndexes.length
          (st.data.take (Tent.deltaRowLen st.wordDeltaCount st.regionIndexes.length * st.itemCount)) inner)
        st.regionIndexes)) := by
  unfold computeFloatDelta
  have hce : coords.isEmpty = false := by cases coords <;> simp_all
  simp only [hce, Bool.false_eq_true, if_false, hst]
  have : ¬ st.data.length < Tent.deltaRowLen st.wordDeltaCount st.regionIndexes.length * st.itemCount := by omega
  simp only [this, if_false]
  have hz : zero = ofInt f64 0 := by decide
  rw [hz, floatLoop_at_peaks regions coords _ _ 0 hrow hall (by
    have : (2 : Nat) ^ 31 * 65535 < 2 ^ 52 := by decide
    have h2 := Nat.mul_le_mul_left (2 ^ 31) (Nat.le_trans hrow hri)
    simp only [Int.natAbs_zero, Nat.zero_add]
    omega)]
  simp

theorem floatLoop_zero_deltas (regions : List (List (Int × Int × Int))) (coords : List Int)
    (hr : ∀ r ∈ regions, AxesI16 r) (hc : CoordsI16 coords) :
    ∀ (ds : List Int) (ris : List Nat), (∀ d ∈ ds, d = 0) →
      floatLoop regions coords ds ris zero = some zero ∨ floatLoop regions coords ds ris zero = none := by
  intro ds
  induction ds with
  | nil => intro ris _; left; cases ris <;> rfl
  | cons d rest ih =>
    intro ris hz
    cases ris with
    | nil => right; rfl
    | cons ri ris =>
      simp only [floatLoop]
      cases hax : regions[ri]? with
      | none => right; rfl
      | some axes =>
        simp only []
        have hd : d = 0 := hz d (by simp)
        subst hd
        have hu := scalarGoF_inUnit axes coords one (hr axes (List.mem_of_getElem? hax)) hc (inUnit_one f32)
        have := zero_term (computeScalarF32 axes coords) hu
        rw [this]
        exact ih ris (fun d hd => hz d (by simp [hd]))

/-- a row of zero deltas evaluates to `+0.0` (or the lookup fails) —
`0 · scalar` never produces NaN because the scalar is always finite (`scalar_f32_range`). -/
theorem float_delta_zero_rows (regions : List (List (Int × Int × Int)))
    (subtables : List (Option Tent.SubTable)) (outer inner : Nat) (coords : List Int)
    (hr : ∀ r ∈ regions, AxesI16 r) (hc : CoordsI16 coords)
    (hz : ∀ st, subtables[outer]? = some (some st) →
      ∀ d ∈ Tent.deltaSet st.wordDeltaCount st.regionIndexes.length
        (st.data.take (Tent.deltaRowLen st.wordDeltaCount st.regionIndexes.length * st.itemCount)) inner, d = 0) :
    computeFloatDelta regions subtables outer inner coords = some zero ∨
    computeFloatDelta regions subtables outer inner coords = none := by
  unfold computeFloatDelta
  by_cases hce : coords.isEmpty
  · simp [hce]
  · simp only [hce, Bool.false_eq_true, if_false]
    cases hst : subtables[outer]? with
    | none => right; rfl
    | some o =>
      cases o with
      | none => left; rfl
      | some st =>
        simp only []
        split
        · right; rfl
        · exact floatLoop_zero_deltas regions coords hr hc _ _ (hz st hst)

theorem clampUnit_clampI (x : Int) : clampUnit (FixedConv.clampI (-32768) 32767 x) = clampUnit x := by
  unfold clampUnit FixedConv.clampI
  split <;> split <;> (try split) <;> (try split) <;> omega

/-- FULL statement wanted: for every float delta `Δ` the new coordinate is
`clamp(round(v₁ + Δ), −1, 1)` (round half away from zero).  That is NOT literally true of the code:
`Δ · 2⁻¹⁴` is narrowed to f32 and added in f32 before `from_f32` rounds, so within ~2⁻⁷ units of a
rounding tie the result may be the other neighbour (the harness oracle
`avar2=clamp(round(v1+sum(delta*tent)))` allows exactly that slack).  PROVED here: when the float
delta is an integer `D` (in F2Dot14 units; `float_delta_at_peaks` says when — e.g. at the masters)
the new coordinate is EXACTLY `clamp(v₁ + D, −1, 1)`: every float step (`to_f32`, `· 2⁻¹⁴`,
`as f32`, `+`, `from_f32`) is exact on these values. -/
theorem avar2_coord_value_partial (t : Avar2) (coords : List Int) (i : Nat) (v : Int)
    (regions : List (List (Int × Int × Int))) (subs : List (Option Tent.SubTable))
    (o inner : Nat) (D : Int) (hstore : t.store = some (regions, subs))
    (hidx : avar2Index t i = some (o, inner))
    (hdelta : computeFloatDelta regions subs o inner coords = some (ofInt f64 D))
    (hv : inI16 v) (hD : D.natAbs < 2 ^ 23) :
    avar2Coord t coords i v = clampUnit (v + D) := by
  unfold avar2Coord
  simp only [hidx, hstore, hdelta]
  unfold applyF2Dot14
  have hsum : (v + D).natAbs < 2 ^ 24 := by unfold inI16 at hv; omega
  have h := val14_add (val14_f2 v hv) (delta_term_val14 D (by omega)) hsum
  rw [fromFloat_val14 h, clampUnit_clampI]

/-- a zero float delta (all-zero row: `float_delta_zero_rows`) leaves the
version-1 coordinate unchanged, up to the clamp. -/
theorem avar2_coord_zero_delta (t : Avar2) (coords : List Int) (i : Nat) (v : Int)
    (regions : List (List (Int × Int × Int))) (subs : List (Option Tent.SubTable))
    (o inner : Nat) (hstore : t.store = some (regions, subs))
    (hidx : avar2Index t i = some (o, inner))
    (hdelta : computeFloatDelta regions subs o inner coords = some zero)
    (hv : inI16 v) : avar2Coord t coords i v = clampUnit v := by
  have hz : zero = ofInt f64 0 := by decide
  rw [hz] at hdelta
  have := avar2_coord_value_partial t coords i v regions subs o inner 0 hstore hidx hdelta hv (by decide)
  simpa using this

-- non-vacuity: one axis, identity map, store with one region (0, 1, 1) and delta 8192 (0.5):
-- at the maximum 1.0 + 0.5 is clamped to 1.0; at 0.5 the result is 0.5 + 0.25
example : applyAvar2 ⟨none, some ([[(0, 16384, 16384)]],
    [some ⟨1, 1, [0], [32, 0]⟩])⟩ 1 [16384] = [16384] := by decide +kernel
example : applyAvar2 ⟨none, some ([[(0, 16384, 16384)]],
    [some ⟨1, 1, [0], [32, 0]⟩])⟩ 1 [8192] = [12288] := by decide +kernel

end FontVerif.C11
