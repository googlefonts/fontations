/-
C17 — the COLRv1 half of the palette closure: the parameter `v1` of Props/C17ColrPal.lean is the model of the traversal.
Traversal model: C01's transcription of read-fonts closure.rs (`HandColr.v1ClosureOf`: `Colr::v1_closure` with
`Colrv1ClosureContext::dispatch` — visited set on paint positions, nesting limit 64 — over the byte-level paint graph
`graphOf`), tied to the real API by C01's `hc.clos` group and by C17's own `colr-v1pal` group (harness/src/bin/c17/palx.rs).
-/
import FontVerif.Lemmas.SubsetColrPalV1
import FontVerif.Props.C17ColrPal
namespace FontVerif.C17ColrPalV1
open FontVerif.HandColr FontVerif.SubsetColrPal FontVerif.SubsetColrPalV1 FontVerif.SubsetCpal

/-- `plan.colr_palettes` with BOTH halves of the closure modelled: `remap_palette_indices` of the `IntSet<u16>` that
`v1_closure` and `v0_closure_palette_indices` fill for `glyphset_colred` -/
def colrPalettesFull (t : Colr) (records : List (Nat × Nat × Nat)) (layers : List (Nat × Nat)) (colred : List Nat) :
    List (Nat × Nat) :=
  colrPalettes (v1Palettes t colred) records layers colred

/-- SOUNDNESS of the COLRv1 palette collection, for every table, glyph set, sharing and
cycle structure (the visited set and the fuel make the traversal total): every palette index `v1_closure` collects is the
palette index of a `PaintSolid` / `PaintVarSolid` or of a colour stop of a gradient (all six kinds) that is REACHABLE in the
paint graph — through `PaintColrLayers` layers, `PaintGlyph` / transform children, `PaintColrGlyph` base paints,
`PaintComposite` source and backdrop — from the root paint of a BaseGlyphPaintRecord whose glyph is in the glyph set. -/
theorem v1_palette_indices_sound (t : Colr) (gs : List Nat) (p : Nat) (hp : p ∈ v1Palettes t gs) :
    ∃ r ∈ rootsOf (graphOf t) gs, ∃ pos n, Reach (graphOf t) r pos ∧ (graphOf t).node pos = some n ∧ p ∈ palOf n :=
  v1Palettes_sound t gs p hp

/-- `cpal_entries_kept_are_closure` without an input: the CPAL entries
`Cpal::subset` keeps are exactly the indices the modelled `v1_closure` traversal collects for `glyphset_colred` plus the
COLRv0 layer indices of its glyphs, never 0xFFFF. -/
theorem cpal_entries_kept_are_closure_full (t : Colr) (records : List (Nat × Nat × Nat)) (layers : List (Nat × Nat))
    (colred : List Nat) (e : Nat) :
    e ∈ retainedOf (colrPalettesFull t records layers colred) ↔
      e ≠ 0xFFFF ∧ (e ∈ v1Palettes t colred ∨ ∃ g ∈ colred, e ∈ v0PalOfGlyph records layers g) :=
  C17ColrPal.cpal_entries_kept_are_closure (v1Palettes t colred) records layers colred e

/-- Nothing unreferenced is kept: every retained CPAL entry is the palette index of
a COLRv0 layer of a retained colour glyph or of a paint reachable from a retained colour glyph's COLRv1 root paint.
(The converse "every reachable paint's index is kept" is `cpal_entries_kept_iff_referenced_below_limit`; it holds only while the
nesting limit 64 does not fire — a paint first met at depth 64 is marked visited with its children unexplored and is not
re-explored when met again at a smaller depth; known finding C17-colr-nesting-limit; the `colr-v1pal` correspondence and the
paint-event oracle cover it on the corpus.) -/
theorem cpal_entries_kept_are_referenced (t : Colr) (records : List (Nat × Nat × Nat)) (layers : List (Nat × Nat))
    (colred : List Nat) (e : Nat) (he : e ∈ retainedOf (colrPalettesFull t records layers colred)) :
    e ≠ 0xFFFF ∧
    ((∃ r ∈ rootsOf (graphOf t) colred, ∃ pos n, Reach (graphOf t) r pos ∧ (graphOf t).node pos = some n ∧ e ∈ palOf n) ∨
     ∃ g ∈ colred, e ∈ v0PalOfGlyph records layers g) := by
  obtain ⟨h1, h2⟩ := (cpal_entries_kept_are_closure_full t records layers colred e).1 he
  refine ⟨h1, ?_⟩
  rcases h2 with h | h
  · exact Or.inl (v1_palette_indices_sound t colred e h)
  · exact Or.inr h

/-- an abstract paint graph with sharing and a cycle: root 10 = layers → 20 (solid 3), 30 (glyph → 40 = gradient stops 5, 7),
50 = composite (20, 10: back edge) -/
def exG : Graph :=
  { node := fun p => if p = 10 then some (.layers 3 0) else if p = 20 then some (.solid 3 none)
      else if p = 30 then some (.glyph 9 (some 40)) else if p = 40 then some (.gradient (some [(5, none), (7, some 0)]) none)
      else if p = 50 then some (.composite (some 20) (some 10)) else none
    layerList := some [some 20, some 30, some 50]
    baseList := some [(4, some 10), (6, some 50)] }

example : rootsOf exG [4] = [10] := by decide
example : Reach exG 10 40 := by
  have h1 : Reach exG 10 30 := Reach.tail (b := 10) (c := 30) (n := .layers 3 0) (Reach.refl 10) (by decide) (by decide)
  exact Reach.tail (b := 30) (c := 40) (n := .glyph 9 (some 40)) h1 (by decide) (by decide)

/-- COMPLETENESS under the decidable hypothesis `BelowLimit` (every path of
the paint graph from a retained colour glyph's root paint has fewer than 64 edges: a DAG of height < 64 below the roots,
sharing allowed), for a version ≥ 1 table whose paints lie below 2^32: the palette index of EVERY solid / colour stop
reachable from a retained colour glyph's root paint IS collected by `v1_closure`.  (DFS invariant `dispatch_complete`, by
induction on the height bound.)  With `v1_palette_indices_sound`: collected = referenced. -/
theorem v1_palette_indices_complete_below_limit (t : Colr) (hv : ¬ t.version < 1)
    (hsmall : ∀ x m, (graphOf t).node x = some m → x < 4294967296) (gs : List Nat)
    (hbl : BelowLimit (graphOf t) gs = true) (r : Nat) (hr : r ∈ rootsOf (graphOf t) gs) (y : Nat) (m : PNode)
    (hreach : Reach (graphOf t) r y) (hm : (graphOf t).node y = some m) (p : Nat) (hp : p ∈ palOf m) :
    p ∈ v1Palettes t gs :=
  (mem_v1Palettes t hv gs p).mpr (v1Roots_complete (graphOf t) hsmall gs hbl r hr y m hreach hm p hp)

/-- Under `BelowLimit`: the CPAL entries `Cpal::subset` keeps are EXACTLY
the palette indices (≠ 0xFFFF) of the COLRv0 layers of the retained colour glyphs and of the solids / colour stops
reachable from their COLRv1 root paints — kept = referenced. -/
theorem cpal_entries_kept_iff_referenced_below_limit (t : Colr) (hv : ¬ t.version < 1)
    (hsmall : ∀ x m, (graphOf t).node x = some m → x < 4294967296)
    (records : List (Nat × Nat × Nat)) (layers : List (Nat × Nat)) (colred : List Nat)
    (hbl : BelowLimit (graphOf t) colred = true) (e : Nat) :
    e ∈ retainedOf (colrPalettesFull t records layers colred) ↔
      e ≠ 0xFFFF ∧
      ((∃ r ∈ rootsOf (graphOf t) colred, ∃ pos n, Reach (graphOf t) r pos ∧ (graphOf t).node pos = some n ∧ e ∈ palOf n) ∨
       ∃ g ∈ colred, e ∈ v0PalOfGlyph records layers g) := by
  constructor
  · exact cpal_entries_kept_are_referenced t records layers colred e
  · rintro ⟨h1, h2⟩
    apply (cpal_entries_kept_are_closure_full t records layers colred e).2
    refine ⟨h1, ?_⟩
    rcases h2 with ⟨r, hr, pos, n, hreach, hn, hp⟩ | h
    · exact Or.inl (v1_palette_indices_complete_below_limit t hv hsmall colred hbl r hr pos n hreach hn e hp)
    · exact Or.inr h

/-- base glyph 1 → a chain of `n` PaintTranslate → PaintSolid(palette 7)  (the synthetic family `syn:colr-nest-n`) -/
def chainG (n : Nat) : Graph :=
  { node := fun p => if p < n then some (.unary (some (p + 1)) none) else if p = n then some (.solid 7 none) else none
    layerList := none
    baseList := some [(1, some 0)] }

/-- 63 nested transforms: below the limit, and the closure collects the solid's palette index -/
example : BelowLimit (chainG 63) [1] = true := by decide +kernel
example : (v1Roots (chainG 63) [1]).palettes = [7] := by decide +kernel
/-- 64 nested transforms (the shape of known finding C17-colr-nesting-limit): the hypothesis fails and the reachable
solid's palette index is NOT collected — completeness is false without the hypothesis -/
example : BelowLimit (chainG 64) [1] = false := by decide +kernel
example : (v1Roots (chainG 64) [1]).palettes = [] := by decide +kernel
example : Reach (chainG 2) 0 2 := by
  have h1 : Reach (chainG 2) 0 1 := Reach.tail (b := 0) (c := 1) (n := .unary (some 1) none) (Reach.refl 0) (by decide) (by decide)
  exact Reach.tail (b := 1) (c := 2) (n := .unary (some 2) none) h1 (by decide) (by decide)
/-- a cyclic graph is never below the limit (but the traversal still terminates: visited set) -/
example : BelowLimit exG [6] = false := by decide +kernel

end FontVerif.C17ColrPalV1
