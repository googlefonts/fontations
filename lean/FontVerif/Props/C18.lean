/-
C18 — IFT patches change exactly what they say, atomically and order-independently.
Models: Model/TableKeyed.lean ⇄ table_keyed.rs + font_patch.rs,
        Model/GlyphSplice.lean ⇄ glyph_keyed.rs (containers, dedup, the shared offset-array builder, glyf/loca),
        Model/GvarKeyed.lean, Model/CffKeyed.lean ⇄ the gvar and CFF / CFF2 implementations of `GlyphDataOffsetArray`,
        Model/GlyphKeyed.lean ⇄ `apply_glyph_keyed_patches` (all four arms wired into the font-level loop),
        Model/PatchRound.lean ⇄ patch_group.rs `apply_next_patches_with_decoder`.
The theorems about the table-keyed patch, the round and the glyph-keyed entry point quantify over the
decoder `dec`, which covers "a decoder that fails on its k-th call with each error kind, for every k";
the others are about already decoded patches and take none.
-/
import FontVerif.Model.PatchRound
import FontVerif.Lemmas.Ift
import FontVerif.Lemmas.IftGlyph
import FontVerif.Lemmas.IftOrder
import FontVerif.Lemmas.IftPipeline
import FontVerif.Lemmas.IftGvar
import FontVerif.Lemmas.IftCff
import FontVerif.Lemmas.IftFont
namespace FontVerif.C18
open FontVerif.Ift

/-- If `apply_table_keyed_patch` succeeds on ANY decoder, then every one of
the `count` entries of the container resolved (`es`), and for every tag `t` the FIRST entry naming
`t` decides: no entry ⇒ the table is the base font's, byte for byte (or still absent); DROP ⇒ absent;
REPLACE ⇒ it is `dec k stream none maxLen` for a decoder call `k` that was made; otherwise the base
table exists and it is `dec k stream (some base) maxLen`.  In particular success implies that every
decoder call needed returned `ok`: any decoder error ⇒ `Err`. -/
theorem table_keyed_spec (p : Bytes) (count : Nat) (font : Font) (dec : Decoder) (out : Font)
    (calls : Nat) (hu : UniqueTags font)
    (h : applyTableKeyedCore p count font dec = .ok (out, calls)) :
    ∃ es : List TKEntry, es.length = count ∧
      (∀ j (hj : j < es.length), tkEntryAt p j = .ok es[j]) ∧
      ∀ t, match es.find? (fun e => e.tag == t) with
        | none => out.get t = font.get t
        | some e =>
          if e.drop then out.get t = none
          else ∃ k r, k < calls ∧
            dec k e.stream (if e.replace then none else font.get t) e.maxLen = .ok r ∧
            out.get t = some r ∧ (e.replace = false → (font.get t).isSome) := by
  unfold applyTableKeyedCore at h
  split at h
  · cases h
  · split at h
    · cases h
    · rename_i acc hloop
      simp only [Except.ok.injEq, Prod.mk.injEq] at h
      obtain ⟨hout, hcalls⟩ := h
      obtain ⟨es, hlen, hent, hrun⟩ := tkLoop_ok p font dec count 0 _ acc hloop
      obtain ⟨_, hp, _, hspec⟩ := tkRun_spec font dec es _ acc hrun
      refine ⟨es, hlen, ?_, ?_⟩
      · intro j hj; simpa using hent j hj
      · intro t
        have hs := hspec t (by simp)
        have hproc : t ∈ acc.processed ↔ (es.find? (fun e => e.tag == t)).isSome := by
          rw [hp t, List.find?_isSome]; simp [List.mem_map]
        subst hout hcalls
        unfold Font.get
        rw [copyUnprocessed_lookup font acc.processed acc.builder t hu]
        cases hfind : es.find? (fun e => e.tag == t) with
        | none =>
          rw [hfind] at hs hproc
          rw [if_neg (by simpa using hproc), hs]
          exact Option.or_none
        | some e =>
          rw [hfind] at hs hproc
          rw [if_pos (by simpa using hproc)]
          by_cases hd : e.drop = true
          · simp only [hd, if_true] at hs ⊢
            rw [hs]; rfl
          · simp only [hd, if_false, Bool.false_eq_true] at hs ⊢
            exact hs

/-- non-vacuity: a two-entry patch (replace `tab1`, drop `tab2`) applied with an identity decoder -/
example :
    let p : Bytes := [0x69,0x66,0x74,0x6b, 0,0,0,0, 1,1,1,1,1,1,1,1,1,1,1,1,1,1,1,1, 0,2,
                      0,0,0,38, 0,0,0,49, 0,0,0,58,
                      0x74,0x61,0x62,0x31, 1, 0,0,0,9, 7,7,
                      0x74,0x61,0x62,0x32, 2, 0,0,0,0]
    let font : Font := [(0x74616231, [1]), (0x74616232, [2]), (0x74616233, [3])]
    applyTableKeyedCore p 2 font (fun _ s _ _ => .ok s)
      = .ok ([(0x74616231, [7,7]), (0x74616233, [3])], 1) := by
  -- evaluated once, by the kernel (`rfl` is evaluated by the elaborator and then again by the kernel)
  intros; decide +kernel

/-- Which dictionary `apply_table_keyed_patch` hands to
the decoder: `dictFor font e` = none for an entry with REPLACE_TABLE set, the base font's table of that
tag otherwise.  Formally: two decoders that agree on every call `(k, stream, dictFor font e, maxLen)`
give the same result (tables, call count or error) on every patch — so the function never consults
the decoder with any other dictionary (a replacement never sees the base table, a diff never runs
without it).  For a non-replacement entry whose base table is missing no call is made at all: the
result is the same error for every decoder. -/
theorem decoder_receives_base_iff_not_replacement (p : Bytes) (count : Nat) (font : Font) (dec dec' : Decoder)
    (h : ∀ k (e : TKEntry), dec k e.stream (dictFor font e) e.maxLen = dec' k e.stream (dictFor font e) e.maxLen) :
    applyTableKeyedCore p count font dec = applyTableKeyedCore p count font dec' ∧
    (∀ e : TKEntry, (dictFor font e = none ↔ (e.replace = true ∨ font.get e.tag = none))) ∧
    (∀ (acc : TKAcc) (e : TKEntry), acc.processed.contains e.tag = false → e.drop = false →
      e.replace = false → font.get e.tag = none →
      tkStep font dec acc e = .error (.invalidPatch "Trying to patch a base table that doesn't exist.")) := by
  refine ⟨?_, ?_, ?_⟩
  · unfold applyTableKeyedCore
    rw [tkLoop_congr_dec p font dec dec' h]
  · intro e
    unfold dictFor
    cases e.replace <;> simp
  · intro acc e h1 h2 h3 h4
    rw [tkStep_eq, if_neg (by simpa using h1), if_neg (by simp [h2]), if_pos ⟨h3, h4⟩]

/-- non-vacuity, with a decoder that prepends the dictionary it is given: the REPLACE entry gets none
(tab1 = the stream), the other entry gets the base table (tab2 = base ++ stream) -/
example :
    let p : Bytes := [0x69,0x66,0x74,0x6b, 0,0,0,0, 1,1,1,1,1,1,1,1,1,1,1,1,1,1,1,1, 0,2,
                      0,0,0,38, 0,0,0,49, 0,0,0,58,
                      0x74,0x61,0x62,0x31, 1, 0,0,0,9, 7,7,
                      0x74,0x61,0x62,0x32, 0, 0,0,0,9]
    let font : Font := [(0x74616231, [1]), (0x74616232, [2]), (0x74616233, [3])]
    let spy : Decoder := fun _ s b _ => match b with | none => .ok s | some base => .ok (base ++ s)
    applyTableKeyedCore p 2 font spy
      = .ok ([(0x74616231, [7,7]), (0x74616232, [2]), (0x74616233, [3])], 2) := by intros; decide +kernel

/-- If the id of the mapping table named by the
`PatchInfo` differs from the id recorded in the info, or — for a patch whose header parses — from the id
in the patch header, the result is `IncompatiblePatch` for EVERY decoder — the decoder is never consulted. -/
theorem compat_mismatch_is_error_before_decode (info : PatchInfo) (p : Bytes) (font : Font)
    (id : Bytes) (hid : fontCompatId font info.tag = .ok id)
    (hm : id ≠ info.compat ∨ ∃ c, tkRead p = .ok c ∧ sliceLen p 8 16 ≠ id) :
    ∀ dec : Decoder, applyTableKeyed info p font dec = .error .incompatiblePatch := by
  intro dec
  unfold applyTableKeyed
  rw [hid]
  simp only
  by_cases h1 : id = info.compat
  · rcases hm with hm | ⟨c, hc, hne⟩
    · exact absurd h1 hm
    · simp [hc, hne, ← h1]
  · simp [h1]

/-- a missing mapping table is an error before anything is parsed or decoded -/
theorem missing_mapping_table_is_error (info : PatchInfo) (p : Bytes) (font : Font)
    (h : font.get info.tag = none) :
    ∀ dec : Decoder, applyTableKeyed info p font dec
      = .error (.fontParsingFailed (.tableIsMissing info.tag)) := by
  intro dec
  unfold applyTableKeyed fontCompatId
  simp [h]

example : fontCompatId [(TAG_IFT, [2,0,0,0,0, 1,1,1,1,1,1,1,1,1,1,1,1,1,1,1,1, 3])] TAG_IFT
    = .ok [1,1,1,1,1,1,1,1,1,1,1,1,1,1,1,1] := by intros; decide +kernel

/-- Whatever the decoder does (any error kind at any call), if the round fails
the caller's status map is returned exactly as it was passed in. -/
theorem round_atomic (font : Font) (inv noninv : List PatchInfo) (st : StatusMap) (dec : Decoder)
    (e : PErr) (h : (applyRound font inv noninv st dec).1 = .error e) :
    (applyRound font inv noninv st dec).2 = st := by
  rcases applyRound_cases font inv noninv st dec with ⟨_, he⟩ | ⟨_, _, hf⟩
  · rw [he]
  · rw [hf] at h; cases h

/-- on success only statuses change, never the set of URIs the caller tracks -/
theorem round_keeps_keys (font : Font) (inv noninv : List PatchInfo) (st : StatusMap) (dec : Decoder) :
    (applyRound font inv noninv st dec).2.map (·.1) = st.map (·.1) := by
  rcases applyRound_cases font inv noninv st dec with ⟨_, he⟩ | ⟨_, l, hf⟩
  · rw [he]
  · rw [hf]
    exact foldl_inv (fun m' : StatusMap => m'.map (·.1) = st.map (·.1)) _ l
      (fun b x _ hb => (map_set_value_keys b x.uri UriStatus.applied).trans hb) st rfl

/-! ## glyph keyed patches (after decoding and parsing: `applyGlyphPatches`)

Vocabulary (Lemmas/IftSplice.lean, IftDedup.lean, IftGlyph.lean; `glyfAndLoca` in Model/GlyphSplice.lean,
`armOf` in Model/GlyphKeyed.lean):
  `glyfAndLoca font`        the font's glyf bytes + loca offsets (short offsets already ×2), as the code reads them
  `glyphAt offsets data g`  the bytes between offsets g and g+1
  `firstWins tag gps g`     data of the FIRST patch of the list that lists gid g for table `tag`
  `padTo t d`               d followed by (len % divisor) zero bytes — the padding the code adds (short loca: to even)
  `numGlyphs font`          maxp.numGlyphs
  `bitAt d k`               bit k of a mapping table (byte k/8, LSB first), `bitsFor iftx infos` the patches' bit indices
  `armOf font gps m tag`    the arm of the per-tag loop a tag selects (glyf / gvar / CFF / CFF2; `none` = ignored tag)
                            and the tables it adds: `glyfArm`, `gvarPatch (font.get gvar)`, `cffPatch v2 (font.get IFT) (font.get CFF|CFF2)`
  `ownerOf t`               the arm that writes table t: glyf ↦ glyf, loca ↦ glyf, gvar ↦ gvar, CFF ↦ CFF, CFF2 ↦ CFF2, else none
  `IsArmTag tag`            tag ∈ {glyf, gvar, CFF, CFF2}
-/

/-- If `apply_glyph_keyed_patches` succeeds and some patch names `glyf`:
the base font had a readable glyf/loca, the new font's glyf/loca read back with the same offset
width, `numGlyphs + 1` offsets, first offset 0, last offset = glyf length, offsets ascending; every
gid listed by any patch is below `numGlyphs`; and for EVERY gid the new glyph bytes are the padded
data of the FIRST patch listing it, or — if no patch lists it — the old bytes unchanged. -/
theorem glyph_keyed_splice_spec (infos : List PatchInfo) (gps : List GlyphPatches) (font out : Font)
    (hu : UniqueTags font) (h : applyGlyphPatches infos gps font = .ok out)
    (hglyf : ∃ gp ∈ gps, TAG_glyf ∈ gp.tables) :
    ∃ a a', glyfAndLoca font = some a ∧ glyfAndLoca out = some a' ∧
      a'.offsetType = a.offsetType ∧
      a'.offsets.length = numGlyphs font + 1 ∧
      a'.offsets.getD 0 0 = 0 ∧ a'.offsets.getD (numGlyphs font) 0 = a'.data.length ∧
      a'.offsets.Pairwise (· ≤ ·) ∧
      (∀ g d, firstWins TAG_glyf gps g = some d → g < numGlyphs font) ∧
      ∀ g, g < numGlyphs font →
        glyphAt a'.offsets a'.data g =
          match firstWins TAG_glyf gps g with
          | some d => padTo a.offsetType d
          | none => glyphAt a.offsets a.data g := by
  obtain ⟨ift, iftx, hn, _, _, _, _, harm, hout⟩ := applyGlyphPatches_char infos gps font out hu h
  obtain ⟨outs, hr, hin⟩ := char_arm font out gps _ harm hout TAG_glyf hglyf (Or.inl rfl)
  obtain ⟨a, repl, data, offs, ha, hd, hp, eo⟩ := glyfArm_ok font gps _ outs (Option.some.inj hr)
  subst eo
  have hg : out.get TAG_glyf = some data := hin (TAG_glyf, data) (by simp)
  have hl : out.get TAG_loca = some offs := hin (TAG_loca, offs) (by simp)
  have hsort := (dedup_spec TAG_glyf gps repl hd).1
  have hhead := (hout TAG_head (by decide) (by decide)).trans (tableAfter_untouched font gps _ TAG_head
    (fun tag ho => by rw [show ownerOf TAG_head = none by decide] at ho; cases ho))
  have hrb := glyf_splice_readback font out a repl _ data offs ha hsort hp hg hl hhead
  obtain ⟨s1, s2, s3, s4, s5⟩ := chunks_newOffsets a a.offsetType repl (numGlyphs font - 1)
  have hn1 : numGlyphs font - 1 + 1 = numGlyphs font := by omega
  rw [show numGlyphs font - 1 + 2 = numGlyphs font + 1 by omega] at s1
  rw [hn1] at s3
  refine ⟨a, _, ha, hrb, rfl, s1, s2, s3, s4, ?_, ?_⟩
  · intro g d hfw
    have := firstWins_le TAG_glyf gps repl hd _ (patchOffsetArray_gids_le a repl _ hsort _ data offs hp) g d hfw
    omega
  · intro g hg'
    show glyphAt (newOffsets _) (List.flatten _) g = _
    rw [s5 g (by omega), chunkFor_firstWins TAG_glyf gps repl hd]
    cases firstWins TAG_glyf gps g <;> rfl

/-- non-vacuity: a 2-glyph short-loca font; two patches that DISAGREE on gid 1 — the first one wins,
its odd-length data is padded to even, glyph 0 comes from the second patch, bits 170 and 3 are set -/
example :
    let font : Font := [(TAG_IFT, [2,0,0,0,0, 1,1,1,1,1,1,1,1,1,1,1,1,1,1,1,1, 0]), (TAG_glyf, [1,2,3,4]),
      (TAG_head, List.replicate 54 0), (TAG_loca, [0,0, 0,1, 0,2]), (TAG_maxp, [0,0,0x50,0, 0,2])]
    let gp0 : GlyphPatches := { glyphCount := 1, tables := [TAG_glyf], gids := [1], offsets := [3, 6], raw := [9,9,9,7,7,7] }
    let gp1 : GlyphPatches := { glyphCount := 2, tables := [TAG_glyf], gids := [0, 1], offsets := [1, 2, 5], raw := [9,5,8,8,8] }
    let i0 : PatchInfo := { uri := "a", iftx := false, compat := [], bit := 170 }
    let i1 : PatchInfo := { uri := "b", iftx := false, compat := [], bit := 3 }
    applyGlyphPatches [i0, i1] [gp0, gp1] font =
      .ok [(TAG_IFT, [10,0,0,0,0, 1,1,1,1,1,1,1,1,1,1,1,1,1,1,1,1, 4]), (TAG_glyf, [5,0,7,7,7,0]),
        (TAG_head, List.replicate 54 0), (TAG_loca, [0,0, 0,1, 0,3]), (TAG_maxp, [0,0,0x50,0, 0,2])] := by intros; decide +kernel

/-- On success, for patches naming ANY mix of tables: a table
other than the two mapping tables is the base font's, byte for byte (or still absent), unless it
belongs to an arm some patch names — i.e. every table outside {IFT, IFTX, glyf, loca, gvar, CFF, CFF2}
is unchanged; glyf and loca are unchanged when no patch names glyf; gvar when none names gvar; `CFF `
when none names `CFF `; CFF2 when none names CFF2.  (Tags other than these four are ignored: a patch
naming only `aaaa` changes nothing but the applied bits.) -/
theorem glyph_keyed_other_tables_unchanged (infos : List PatchInfo) (gps : List GlyphPatches)
    (font out : Font) (hu : UniqueTags font) (h : applyGlyphPatches infos gps font = .ok out) :
    (∀ t, t ≠ TAG_IFT → t ≠ TAG_IFTX →
      (∀ tag, ownerOf t = some tag → ¬ ∃ gp ∈ gps, tag ∈ gp.tables) → out.get t = font.get t) ∧
    (∀ t, t ≠ TAG_IFT → t ≠ TAG_IFTX → t ≠ TAG_glyf → t ≠ TAG_loca → t ≠ TAG_gvar → t ≠ TAG_CFF →
      t ≠ TAG_CFF2 → out.get t = font.get t) ∧
    ((¬ ∃ gp ∈ gps, TAG_glyf ∈ gp.tables) →
      out.get TAG_glyf = font.get TAG_glyf ∧ out.get TAG_loca = font.get TAG_loca) ∧
    ((¬ ∃ gp ∈ gps, TAG_gvar ∈ gp.tables) → out.get TAG_gvar = font.get TAG_gvar) ∧
    ((¬ ∃ gp ∈ gps, TAG_CFF ∈ gp.tables) → out.get TAG_CFF = font.get TAG_CFF) ∧
    ((¬ ∃ gp ∈ gps, TAG_CFF2 ∈ gp.tables) → out.get TAG_CFF2 = font.get TAG_CFF2) := by
  obtain ⟨ift, iftx, hn, _, _, _, _, _, hout⟩ := applyGlyphPatches_char infos gps font out hu h
  have main : ∀ t, t ≠ TAG_IFT → t ≠ TAG_IFTX →
      (∀ tag, ownerOf t = some tag → ¬ ∃ gp ∈ gps, tag ∈ gp.tables) → out.get t = font.get t := by
    intro t h1 h2 hno
    rw [hout t h1 h2]
    exact tableAfter_untouched font gps _ t (fun tag ho hm => hno tag ho (List.mem_flatMap.mp hm))
  -- a table that only the arm `tag` writes, when no patch names `tag`
  have own : ∀ t tag, ownerOf t = some tag → t ≠ TAG_IFT → t ≠ TAG_IFTX → (¬ ∃ gp ∈ gps, tag ∈ gp.tables) →
      out.get t = font.get t := fun t tag ho h1 h2 hno =>
    main t h1 h2 fun tag' ho' => by rw [ho] at ho'; cases ho'; exact hno
  refine ⟨main, ?_, fun hno => ⟨own TAG_glyf TAG_glyf (by decide) (by decide) (by decide) hno,
      own TAG_loca TAG_glyf (by decide) (by decide) (by decide) hno⟩,
    own TAG_gvar TAG_gvar (by decide) (by decide) (by decide),
    own TAG_CFF TAG_CFF (by decide) (by decide) (by decide),
    own TAG_CFF2 TAG_CFF2 (by decide) (by decide) (by decide)⟩
  -- a table that no arm writes
  intro t h1 h2 h3 h4 h5 h6 h7
  refine main t h1 h2 fun tag ho => ?_
  rw [ownerOf, if_neg (not_or.2 ⟨h3, h4⟩), if_neg h5, if_neg h6, if_neg h7] at ho
  cases ho

/-- On success, for each of gvar / `CFF ` / CFF2 that some patch names: the
base font has the table, and the output's table is exactly what the one-table arm function computes
from it (`gvarPatch`, `cffPatch` — characterised by `gvar_patch_spec`, `cff_patch_spec`; CFF / CFF2
take the charstrings offset from the base font's `IFT ` table).  So a patch naming a table the font
lacks — or CFF without a charstrings offset in `IFT ` — is an error (`patch_names_missing_table_is_error`). -/
theorem glyph_keyed_arm_tables (infos : List PatchInfo) (gps : List GlyphPatches) (font out : Font)
    (hu : UniqueTags font) (h : applyGlyphPatches infos gps font = .ok out) :
    ((∃ gp ∈ gps, TAG_gvar ∈ gp.tables) → ∃ b o, font.get TAG_gvar = some b ∧ out.get TAG_gvar = some o ∧
      gvarPatch (some b) gps (numGlyphs font - 1) = .ok o) ∧
    (∀ v2, (∃ gp ∈ gps, cffTag v2 ∈ gp.tables) → ∃ b o, font.get (cffTag v2) = some b ∧
      out.get (cffTag v2) = some o ∧
      cffPatch v2 (font.get TAG_IFT) (some b) gps (numGlyphs font - 1) = .ok o) := by
  obtain ⟨ift, iftx, hn, _, _, _, _, harm, hout⟩ := applyGlyphPatches_char infos gps font out hu h
  refine ⟨?_, ?_⟩
  · intro hg
    obtain ⟨outs, hr, hin⟩ := char_arm font out gps _ harm hout TAG_gvar hg (Or.inr (Or.inl rfl))
    obtain ⟨b, o, hb, po, rfl⟩ := armOf_gvar_ok font gps _ outs hr
    exact ⟨b, o, hb, hin (TAG_gvar, o) (by simp), po⟩
  · intro v2 hg
    obtain ⟨outs, hr, hin⟩ := char_arm font out gps _ harm hout (cffTag v2) hg (isArmTag_cffTag v2)
    obtain ⟨b, o, hb, po, rfl⟩ := armOf_cff_ok font gps _ v2 outs hr
    exact ⟨b, o, hb, hin (cffTag v2, o) (by simp), po⟩

/-- On success, in each mapping table (IFT for `iftx = false`, IFTX for
`true`): the length is unchanged, every patch bit index is inside the table, and bit `k` is set
afterwards iff it was set before or it is the applied bit of one of the patches of this call —
exactly the patches' bits.  A mapping table the font lacks stays absent (and then no patch may refer
to it).  On error there is no output at all (`Except`), so no bit is set. -/
theorem applied_bits_exact (infos : List PatchInfo) (gps : List GlyphPatches) (font out : Font)
    (hu : UniqueTags font) (h : applyGlyphPatches infos gps font = .ok out) (iftx : Bool) :
    let tag := if iftx then TAG_IFTX else TAG_IFT
    match font.get tag with
    | none => bitsFor iftx infos = [] ∧ out.get tag = none
    | some d => ∃ d', out.get tag = some d' ∧ d'.length = d.length ∧
        (∀ b ∈ bitsFor iftx infos, b < 8 * d.length) ∧
        ∀ k, bitAt d' k = (bitAt d k || (bitsFor iftx infos).contains k) := by
  obtain ⟨ift, iftx', _, hma, _, h1, h2, _, _⟩ := applyGlyphPatches_char infos gps font out hu h
  obtain ⟨m1, m2⟩ := markApplied_spec infos _ _ _ _ hma
  have key : ∀ (orig res : Option Bytes) (bits : List Nat), markedTable orig bits = some res →
      match orig with
      | none => bits = [] ∧ res = none
      | some d => ∃ d', res = some d' ∧ d'.length = d.length ∧ (∀ b ∈ bits, b < 8 * d.length) ∧
          ∀ k, bitAt d' k = (bitAt d k || bits.contains k) := by
    intro orig res bits hm
    cases orig with
    | none =>
      simp only [markedTable] at hm
      split at hm
      · rename_i hb; simp only [Option.some.injEq] at hm; exact ⟨hb, hm.symm⟩
      · cases hm
    | some d =>
      simp only [markedTable, Option.map_eq_some_iff] at hm
      obtain ⟨d', hs, hr⟩ := hm
      obtain ⟨s1, s2, s3⟩ := setBits_spec d d' bits hs
      exact ⟨d', hr.symm, s1, s2, s3⟩
  cases iftx with
  | false =>
    simp only [Bool.false_eq_true, if_false]
    have := key _ _ _ m1
    rw [h1]; exact this
  | true =>
    simp only [if_true]
    have := key _ _ _ m2
    rw [h2]; exact this

/-! ## order and grouping independence

`Agree tag gps` (Lemmas/IftOrder.lean): any two patches of the list that both carry data for a gid
(for table `tag`) carry the SAME data for it.  `AgreeAll gps`: `Agree tag gps` for each of the four
patchable tables glyf, gvar, `CFF `, CFF2.  A patch = (its `PatchInfo`, its decoded `GlyphPatches`). -/

/-- For patches — naming ANY mix of glyf / gvar / CFF / CFF2 /
ignored tags — that agree on shared gids, if the original order succeeds then so does ANY permutation
of the patch list, with identical tables (the whole table directory, mapping tables with their
applied bits included). -/
theorem glyph_keyed_order_independent (ps ps' : List (PatchInfo × GlyphPatches)) (font out : Font)
    (hperm : ps.Perm ps') (hagree : AgreeAll (ps.map (·.2)))
    (h : applyGlyphPatches (ps.map (·.1)) (ps.map (·.2)) font = .ok out) :
    applyGlyphPatches (ps'.map (·.1)) (ps'.map (·.2)) font = .ok out := by
  have hp2 := hperm.map (·.2)
  have e1 : tableTagList (ps.map (·.2)) = tableTagList (ps'.map (·.2)) := by
    rcases tableTagList_perm _ _ hp2 with ⟨e, a, b⟩ | ⟨t, a, b⟩ <;> rw [a, b]
  rw [← applyGlyphPatches_congr_arms _ _ _ _ font e1 (markApplied_perm _ _ (hperm.map (·.1)) _) ?_]
  · exact h
  · intro tags ht tag htag m
    by_cases harm : IsArmTag tag
    · obtain ⟨outs, ha⟩ := applyGlyphPatches_arms_ok _ _ font out h tag ((tableTagList_mem _ tags ht tag).mp htag) harm
      obtain ⟨repl, hd⟩ := arm_ok_dedup font _ _ tag outs ha
      exact armOf_congr_dedup font _ _ _ tag (by rw [hd, dedup_perm tag _ _ hp2 (hagree tag harm) repl hd])
    · exact armOf_congr_ignored font _ _ _ tag harm

/-- Sequential partition, patches naming ANY mix of tables:
applying the patches `ps1`, then applying `ps2` to the resulting font, against applying `ps1 ++ ps2` in
one call (whenever the three applications succeed; patches agree on shared gids).  `TableAgree … t`
says for every tag `t`:
  * t ∉ {gvar, `CFF `, CFF2} (the mapping tables, glyf, loca, every other table): the two routes give the
    SAME bytes (or both no table);
  * `CFF ` / CFF2: the same bytes, or — `CffAgree` — two tables `cffEmit v2 pre count t (encodeOffs t os) data`
    with the same prefix before the charstrings INDEX (of the length recorded in `IFT `), the same count,
    the same decoded offsets `os`, the same charstring data, and offset types `t`, `t'` that may differ;
  * gvar: the same bytes provided the intermediate font's gvar and the two final gvar tables carry the
    same long-offsets flag (`GvarWidthsAgree`).
This is exactly known finding C18-offset-width-history-dependent: the offset width is only ever
widened, so a grouping with a larger intermediate table can leave wider offsets behind.
Hypotheses on the base font (`BaseOk`): maxp.numGlyphs < 65536 (a u16), gvar.glyphCount = maxp.numGlyphs,
the charstrings INDEX at the recorded offset has ascending offsets including the last one (the
code's own check skips the last entry).  `hift`: the applied bits of `ps1` do not disturb the
charstrings-offset fields of `IFT ` (genuine bit indices point into the applied-entries bitmap /
entry records, never into the header).  `hsz`: the intermediate gvar is below 4 GiB. -/
theorem glyph_keyed_grouping_independent (ps1 ps2 : List (PatchInfo × GlyphPatches))
    (font font1 out2 out12 : Font) (hu : UniqueTags font)
    (hagree : AgreeAll ((ps1 ++ ps2).map (·.2)))
    (h1 : applyGlyphPatches (ps1.map (·.1)) (ps1.map (·.2)) font = .ok font1)
    (h2 : applyGlyphPatches (ps2.map (·.1)) (ps2.map (·.2)) font1 = .ok out2)
    (h12 : applyGlyphPatches ((ps1 ++ ps2).map (·.1)) ((ps1 ++ ps2).map (·.2)) font = .ok out12)
    (hbase : BaseOk font)
    (hift : ∀ v2, iftCharstringsOffset (font1.get TAG_IFT) v2 = iftCharstringsOffset (font.get TAG_IFT) v2)
    (hsz : ∀ b, font1.get TAG_gvar = some b → b.length < 2 ^ 32) :
    ∀ t, TableAgree font font1 out2 out12 t :=
  (applyGlyphPatches_split ps1 ps2 font font1 out2 out12 hu hagree h1 h2 h12 hbase hift hsz).2.2

/-- … and when the offset widths agree — the three
gvar long-offsets flags, and the offSize bytes of the two final CFF / CFF2 charstrings INDEXes — the two
routes give the identical font (every table, the directory included).  For patches naming only glyf
and ignored tags both conditions hold trivially (`glyph_keyed_grouping_independent_glyf`). -/
theorem glyph_keyed_grouping_independent_same_widths (ps1 ps2 : List (PatchInfo × GlyphPatches))
    (font font1 out2 out12 : Font) (hu : UniqueTags font)
    (hagree : AgreeAll ((ps1 ++ ps2).map (·.2)))
    (h1 : applyGlyphPatches (ps1.map (·.1)) (ps1.map (·.2)) font = .ok font1)
    (h2 : applyGlyphPatches (ps2.map (·.1)) (ps2.map (·.2)) font1 = .ok out2)
    (h12 : applyGlyphPatches ((ps1 ++ ps2).map (·.1)) ((ps1 ++ ps2).map (·.2)) font = .ok out12)
    (hbase : BaseOk font)
    (hift : ∀ v2, iftCharstringsOffset (font1.get TAG_IFT) v2 = iftCharstringsOffset (font.get TAG_IFT) v2)
    (hsz : ∀ b, font1.get TAG_gvar = some b → b.length < 2 ^ 32)
    (hgw : GvarWidthsAgree font1 out2 out12)
    (hcw : ∀ v2, cffOffSizeAt v2 (iftCharstringsOffset (font.get TAG_IFT) v2) (out2.get (cffTag v2))
                = cffOffSizeAt v2 (iftCharstringsOffset (font.get TAG_IFT) v2) (out12.get (cffTag v2))) :
    out2 = out12 := by
  obtain ⟨s2, s12, hall⟩ :=
    applyGlyphPatches_split ps1 ps2 font font1 out2 out12 hu hagree h1 h2 h12 hbase hift hsz
  apply sorted_lookup_ext _ _ s2 s12
  intro t
  show out2.get t = out12.get t
  have := hall t
  unfold TableAgree at this
  by_cases c1 : t = TAG_gvar
  · rw [if_pos c1] at this; exact this hgw
  · rw [if_neg c1] at this
    by_cases c2 : t = TAG_CFF
    · rw [if_pos c2] at this
      subst c2
      exact CffAgree.eq_of_offSize false _ _ _ this (hcw false)
    · rw [if_neg c2] at this
      by_cases c3 : t = TAG_CFF2
      · rw [if_pos c3] at this
        subst c3
        exact CffAgree.eq_of_offSize true _ _ _ this (hcw true)
      · rw [if_neg c3] at this; exact this

/-- Patches naming neither gvar nor `CFF ` nor CFF2 (glyf
and ignored tags only): ps1 then ps2 on the result = ps1 ++ ps2 in one call — the whole font is equal,
with no condition on the base font. -/
theorem glyph_keyed_grouping_independent_glyf (ps1 ps2 : List (PatchInfo × GlyphPatches))
    (font font1 out2 out12 : Font) (hu : UniqueTags font)
    (hagree : Agree TAG_glyf ((ps1 ++ ps2).map (·.2)))
    (hnone : ∀ x ∈ ps1 ++ ps2, TAG_gvar ∉ x.2.tables ∧ TAG_CFF ∉ x.2.tables ∧ TAG_CFF2 ∉ x.2.tables)
    (h1 : applyGlyphPatches (ps1.map (·.1)) (ps1.map (·.2)) font = .ok font1)
    (h2 : applyGlyphPatches (ps2.map (·.1)) (ps2.map (·.2)) font1 = .ok out2)
    (h12 : applyGlyphPatches ((ps1 ++ ps2).map (·.1)) ((ps1 ++ ps2).map (·.2)) font = .ok out12) :
    out2 = out12 := by
  have hno : ∀ tag, (tag = TAG_gvar ∨ tag = TAG_CFF ∨ tag = TAG_CFF2) →
      ¬ ∃ gp ∈ (ps1 ++ ps2).map (·.2), tag ∈ gp.tables := by
    rintro tag ht ⟨gp, hgp, hx⟩
    obtain ⟨x, hxm, hxe⟩ := List.mem_map.mp hgp
    subst hxe
    obtain ⟨a, b, c⟩ := hnone x hxm
    rcases ht with e | e | e <;> subst e
    · exact a hx
    · exact b hx
    · exact c hx
  obtain ⟨s2, s12, hall⟩ := applyGlyphPatches_split_core ps1 ps2 font font1 out2 out12 hu
    (fun tag ha hn => by
      rcases ha with e | e | e | e
      · subst e; exact hagree
      · exact absurd hn (hno tag (Or.inl e))
      · exact absurd hn (hno tag (Or.inr (Or.inl e)))
      · exact absurd hn (hno tag (Or.inr (Or.inr e))))
    h1 h2 h12 (fun tag ht hn => absurd hn (hno tag ht))
  apply sorted_lookup_ext _ _ s2 s12
  intro t
  exact (hall t).elim id (fun ⟨tag, ht, hn, _⟩ => absurd hn (hno tag ht))

/-- non-vacuity: two AGREEING patches in both orders and split give the same font (the example after
`glyph_keyed_splice_spec` has two patches that disagree on gid 1: there the first one wins) -/
example :
    let font : Font := [(TAG_IFT, [2,0,0,0,0, 1,1,1,1,1,1,1,1,1,1,1,1,1,1,1,1, 0]), (TAG_glyf, [1,2,3,4]),
      (TAG_head, List.replicate 54 0), (TAG_loca, [0,0, 0,1, 0,2]), (TAG_maxp, [0,0,0x50,0, 0,2])]
    let gp0 : GlyphPatches := { glyphCount := 1, tables := [TAG_glyf], gids := [1], offsets := [3, 6], raw := [9,9,9,7,7,7] }
    let gp1 : GlyphPatches := { glyphCount := 2, tables := [TAG_glyf], gids := [0, 1], offsets := [1, 2, 5], raw := [9,5,7,7,7] }
    let i0 : PatchInfo := { uri := "a", iftx := false, compat := [], bit := 170 }
    let i1 : PatchInfo := { uri := "b", iftx := false, compat := [], bit := 3 }
    applyGlyphPatches [i0, i1] [gp0, gp1] font = applyGlyphPatches [i1, i0] [gp1, gp0] font ∧
    (match applyGlyphPatches [i1] [gp1] font with
     | .ok f1 => applyGlyphPatches [i0] [gp0] f1
     | .error e => .error e) = applyGlyphPatches [i0, i1] [gp0, gp1] font ∧
    (applyGlyphPatches [i0, i1] [gp0, gp1] font).toBool = true := by
  intros; decide +kernel

/-! ## error paths (an error carries no output: `Except`, so "not partial output" holds by type) -/

/-- If any patch carries data — for glyf, gvar, `CFF ` or CFF2 — for a
gid ≥ maxp.numGlyphs, the application fails, whatever else the patches contain. -/
theorem gid_beyond_maxp_is_error (infos : List PatchInfo) (gps : List GlyphPatches) (font : Font)
    (hu : UniqueTags font) (tag : Tag) (harm : IsArmTag tag) (g : Nat) (d : Bytes)
    (hl : firstWins tag gps g = some d) (hg : numGlyphs font ≤ g) :
    ∃ e, applyGlyphPatches infos gps font = .error e := by
  cases h : applyGlyphPatches infos gps font with
  | error e => exact ⟨e, rfl⟩
  | ok out =>
    exfalso
    have hnamed : ∃ gp ∈ gps, tag ∈ gp.tables := by
      apply Classical.byContradiction
      intro hno
      rw [firstWins_none_of_no_tag tag gps hno g] at hl
      cases hl
    obtain ⟨_, _, hn, _, _, _, _, harms, _⟩ := applyGlyphPatches_char infos gps font out hu h
    obtain ⟨outs, ha⟩ := harms tag (List.mem_flatMap.mpr hnamed) harm
    have := arm_ok_gids_le font gps _ tag outs ha g d hl
    omega

/-- If a patch (as parsed by `GlyphPatches::read`) that names glyf, gvar,
`CFF ` or CFF2 has glyph ids that are not strictly ascending (unsorted or duplicated), the application
fails. -/
theorem unsorted_gids_is_error (infos : List PatchInfo) (gps : List GlyphPatches) (font : Font)
    (raw : Bytes) (wide : Bool) (gp : GlyphPatches) (hr : gpRead raw wide = .ok gp)
    (hmem : gp ∈ gps) (tag : Tag) (harm : IsArmTag tag) (hnamed : tag ∈ gp.tables)
    (hbad : ¬ gp.gids.Pairwise (· < ·)) :
    ∃ e, applyGlyphPatches infos gps font = .error e := by
  cases h : applyGlyphPatches infos gps font with
  | error e => exact ⟨e, rfl⟩
  | ok out =>
    exfalso
    obtain ⟨repl, hd⟩ := apply_ok_dedup infos gps font out h gp hmem tag harm hnamed
    obtain ⟨ti, hti⟩ := indexOfTag_some_of_mem tag gp.tables 0 hnamed
    obtain ⟨hpw, _⟩ := dedup_items_ok tag gps repl hd gp hmem ti hti
    obtain ⟨_, hm, _⟩ := tableItems_spec raw wide gp hr ti (by have := indexOfTag_lt _ _ _ _ hti; omega)
    apply hbad
    rw [← hm, List.pairwise_map]
    exact hpw

/-- If for some glyph `j` of a patch naming glyf / gvar / `CFF ` /
CFF2 (table index `ti`) the data offsets `(s, e)` are null, descending or beyond the decoded payload,
the application fails. -/
theorem glyph_offset_out_of_bounds_is_error (infos : List PatchInfo) (gps : List GlyphPatches)
    (font : Font) (raw : Bytes) (wide : Bool) (gp : GlyphPatches) (hr : gpRead raw wide = .ok gp)
    (hmem : gp ∈ gps) (tag : Tag) (harm : IsArmTag tag) (ti : Nat)
    (hti : indexOfTag tag gp.tables 0 = some ti)
    (j : Nat) (hj : j < gp.glyphCount)
    (hbad : gp.offsets.getD (ti * gp.glyphCount + j) 0 = 0 ∨
            gp.offsets.getD (ti * gp.glyphCount + j + 1) 0 < gp.offsets.getD (ti * gp.glyphCount + j) 0 ∨
            raw.length < gp.offsets.getD (ti * gp.glyphCount + j + 1) 0) :
    ∃ e, applyGlyphPatches infos gps font = .error e := by
  cases h : applyGlyphPatches infos gps font with
  | error e => exact ⟨e, rfl⟩
  | ok out =>
    exfalso
    have hlt := indexOfTag_lt _ _ _ _ hti
    have hnamed : tag ∈ gp.tables := by
      apply Classical.byContradiction
      intro hn; rw [indexOfTag_none _ _ _ hn] at hti; cases hti
    obtain ⟨repl, hd⟩ := apply_ok_dedup infos gps font out h gp hmem tag harm hnamed
    obtain ⟨_, hb⟩ := dedup_items_ok tag gps repl hd gp hmem ti hti
    obtain ⟨hlen, _, hidx⟩ := tableItems_spec raw wide gp hr ti (by omega)
    obtain ⟨_, _, _, hraw⟩ := gpRead_ok raw wide gp hr
    have hj' : j < (tableItems gp ti).length := by rw [hlen]; exact hj
    obtain ⟨e1, e2⟩ := hidx j hj'
    have := hb _ (List.getElem_mem hj')
    rw [e1, e2, hraw] at this
    omega

/-- A patch listing a table the font cannot offer is an
error, never a silently skipped table: glyf without glyf / loca / head in the font; gvar without gvar;
`CFF ` / CFF2 without that table or without a charstrings offset for it in the font's `IFT ` table
(the offset is never looked for in `IFTX` or in the Top DICT). -/
theorem patch_names_missing_table_is_error (infos : List PatchInfo) (gps : List GlyphPatches) (font : Font)
    (hu : UniqueTags font) (gp : GlyphPatches) (hmem : gp ∈ gps)
    (hbad : (TAG_glyf ∈ gp.tables ∧
              (font.get TAG_glyf = none ∨ font.get TAG_loca = none ∨ font.get TAG_head = none)) ∨
            (TAG_gvar ∈ gp.tables ∧ font.get TAG_gvar = none) ∨
            (∃ v2, cffTag v2 ∈ gp.tables ∧
              (font.get (cffTag v2) = none ∨ iftCharstringsOffset (font.get TAG_IFT) v2 = none))) :
    ∃ e, applyGlyphPatches infos gps font = .error e := by
  cases h : applyGlyphPatches infos gps font with
  | error e => exact ⟨e, rfl⟩
  | ok out =>
    exfalso
    obtain ⟨a1, a2⟩ := glyph_keyed_arm_tables infos gps font out hu h
    rcases hbad with ⟨hn, hmiss⟩ | ⟨hn, hmiss⟩ | ⟨v2, hn, hmiss⟩
    · obtain ⟨a, _, ha, _⟩ := glyph_keyed_splice_spec infos gps font out hu h ⟨gp, hmem, hn⟩
      obtain ⟨_, _, _, g1, g2, g3, _⟩ := glyfAndLoca_some font a ha
      rcases hmiss with e | e | e
      · rw [e] at g1; cases g1
      · rw [e] at g3; cases g3
      · rw [e] at g2; cases g2
    · obtain ⟨b, _, hb, _⟩ := a1 ⟨gp, hmem, hn⟩
      rw [hmiss] at hb; cases hb
    · obtain ⟨b, o, hb, _, hp⟩ := a2 v2 ⟨gp, hmem, hn⟩
      rcases hmiss with e | e
      · rw [e] at hb; cases hb
      · unfold cffPatch at hp
        rw [e] at hp; cases hp

/-- `apply_glyph_keyed_patches` checks the compatibility id of
EVERY patch of the group, not only the first one under a mapping table: if ANY patch in the list (at
any position) was selected under a mapping-table id that differs from the font's current id for
that table, or carries a different id in its own header, the result is an error, and the SAME error
for every decoder — the decoder is never consulted. -/
theorem every_patch_compat_checked (patches : List (PatchInfo × Bytes)) (font : Font)
    (info : PatchInfo) (p : Bytes) (hmem : (info, p) ∈ patches) (id : Bytes)
    (hid : fontCompatId font info.tag = .ok id)
    (hm : id ≠ info.compat ∨ ∃ hd, gkRead p = .ok hd ∧ hd.compat ≠ id) :
    ∃ e, ∀ dec : Decoder, applyGlyphKeyed patches font dec = .error e := by
  cases hc : checkGlyphKeyed font patches with
  | error e => exact ⟨e, fun dec => by simp [applyGlyphKeyed, hc]⟩
  | ok hs =>
    exfalso
    obtain ⟨_, hall⟩ := checkGlyphKeyed_all font patches hs hc
    obtain ⟨c1, hd, c2, c3⟩ := hall (info, p) hmem
    simp only at c1 c2 c3
    rw [hid] at c1
    simp only [Except.ok.injEq] at c1
    rcases hm with hm | ⟨hd', g1, g2⟩
    · exact hm c1
    · rw [c2] at g1
      simp only [Except.ok.injEq] at g1
      subst g1
      exact g2 (by rw [c3, c1])

/-- a missing mapping table for ANY patch of the group is an error before anything is decoded -/
theorem glyph_keyed_missing_mapping_table_is_error (patches : List (PatchInfo × Bytes)) (font : Font)
    (info : PatchInfo) (p : Bytes) (hmem : (info, p) ∈ patches) (h : font.get info.tag = none) :
    ∃ e, ∀ dec : Decoder, applyGlyphKeyed patches font dec = .error e := by
  cases hc : checkGlyphKeyed font patches with
  | error e => exact ⟨e, fun dec => by simp [applyGlyphKeyed, hc]⟩
  | ok hs =>
    exfalso
    obtain ⟨_, hall⟩ := checkGlyphKeyed_all font patches hs hc
    obtain ⟨c1, _⟩ := hall (info, p) hmem
    simp only [fontCompatId, h] at c1
    cases c1

/-- non-vacuity of `every_patch_compat_checked`: the SECOND patch of a group carries a foreign id -/
example :
    let font : Font := [(TAG_IFT, [2,0,0,0,0, 1,1,1,1,1,1,1,1,1,1,1,1,1,1,1,1, 0])]
    let good : Bytes := [0x69,0x66,0x67,0x6b, 0,0,0,0, 0, 1,1,1,1,1,1,1,1,1,1,1,1,1,1,1,1, 0,0,0,9]
    let bad : Bytes := [0x69,0x66,0x67,0x6b, 0,0,0,0, 0, 1,1,1,1,1,1,1,1,1,1,1,1,1,1,1,2, 0,0,0,9]
    let i : PatchInfo := { uri := "a", iftx := false, compat := [1,1,1,1,1,1,1,1,1,1,1,1,1,1,1,1], bit := 0 }
    checkGlyphKeyed font [(i, good), (i, bad)] = .error .incompatiblePatch ∧
    checkGlyphKeyed font [(i, bad), (i, good)] = .error .incompatiblePatch ∧
    (checkGlyphKeyed font [(i, good), (i, good)]).toBool = true := by
  refine ⟨by rfl, by rfl, by decide +kernel⟩

/-- For ANY decoder: if the decoder fails (any error kind)
on the call made for the k-th patch of the group (calls are made in patch order, `dec k …`),
`apply_glyph_keyed_patches` returns an error — success implies
that every one of the `n` decoder calls returned `ok`.  (The caller's status map is then untouched:
`round_atomic`.) -/
theorem glyph_keyed_decoder_failure_is_error (hs : List (PatchInfo × GKHeader)) (font : Font)
    (dec : Decoder) (k : Nat) (hk : k < hs.length) (e : DErr)
    (hfail : dec k hs[k].2.stream none hs[k].2.maxLen = .error e) :
    ∃ e', applyGlyphKeyedCore hs font dec = .error e' := by
  cases h : applyGlyphKeyedCore hs font dec with
  | error e' => exact ⟨e', rfl⟩
  | ok out =>
    exfalso
    unfold applyGlyphKeyedCore at h
    cases hd : decodeAll dec (hs.map (·.2)) 0 with
    | error x => rw [hd] at h; cases h
    | ok raws =>
      obtain ⟨raw, hr⟩ := decodeAll_ok dec _ 0 raws hd k (by simpa using hk)
      simp only [List.getElem_map, Nat.zero_add] at hr
      rw [hfail] at hr
      cases hr

/-- Generic `patch_offset_array`, any offset type family (glyf/loca, gvar, CFF/CFF2 charstrings):
on success the chosen offset type can represent the new
total data size; it is the table's current type whenever that fits; otherwise it is the FIRST
available type (ascending order) that fits.  With `patchOffsetArray_spec` (Lemmas/IftSplice.lean) the
data / offset array are the concatenation / running starts of the per-glyph chunks for that type. -/
theorem offset_width_widened_iff_needed (a : OffsetArray) (repl : List (Nat × Bytes)) (maxGid : Nat)
    (t : OffsetType) (data offs : Bytes) (h : patchOffsetArray a repl maxGid = .ok (t, data, offs)) :
    ∃ total, totalDataSize a repl maxGid = .ok total ∧ total ≤ t.maxRepresentable ∧
      (total ≤ a.offsetType.maxRepresentable → t = a.offsetType) ∧
      (a.offsetType.maxRepresentable < total →
        ∃ pre post, a.available = pre ++ t :: post ∧ ∀ c ∈ pre, c.maxRepresentable < total) := by
  obtain ⟨total, h1, h2, _, _⟩ := patchOffsetArray_ok a repl maxGid t data offs h
  obtain ⟨c1, c2, c3⟩ := chooseOffsetType_spec a total t h2
  exact ⟨total, h1, c1, c2, fun hlt => (c3 hlt).2⟩

/-- glyf/loca offers no other offset type: when the patched glyf would
exceed what the font's loca format can address (short loca: 0x1FFFE bytes) the result is the
offset-overflow error, never a widened or truncated table. -/
theorem glyf_loca_never_widens (font : Font) (a : OffsetArray) (ha : glyfAndLoca font = some a)
    (repl : List (Nat × Bytes)) (maxGid total : Nat) (ht : totalDataSize a repl maxGid = .ok total)
    (hbig : a.offsetType.maxRepresentable < total) :
    patchOffsetArray a repl maxGid = .error (.serializationError SER_OFFSET_OVERFLOW) := by
  obtain ⟨_, _, _, _, _, _, ea, _⟩ := glyfAndLoca_some font a ha
  have hav : a.available = [a.offsetType] := by rw [ea]; rfl
  unfold patchOffsetArray
  rw [ht]
  simp only
  have : chooseOffsetType a total = .error (.serializationError SER_OFFSET_OVERFLOW) := by
    unfold chooseOffsetType
    rw [if_pos hbig, hav]
    have : decide (a.offsetType.maxRepresentable ≥ total) = false := by
      simp only [decide_eq_false_iff_not]; omega
    simp [List.find?, this]
  rw [this]

example : OffsetType.shortDivByTwo.maxRepresentable = 0x1FFFE := by decide

/-! ## order / grouping independence at the entry point `apply_glyph_keyed_patches` (patch BYTES + decoder)

`Stateless dec`: the decoder is a function of (stream, dictionary, max length) — like the real brotli
decoders; the fault-injecting decoders (fail on the k-th call) are deliberately excluded here, for
them the outcome depends on the order by construction.  `prepAll font dec patches` (Lemmas/
IftPipeline.lean) = the list of (info, decoded + parsed payload) the front half of the function
computes, `none` if any patch fails a compat check, the header read, the tag check, decoding or
parsing (`applyGlyphKeyed_ok_iff`). -/

/-- Whole entry point, any stateless decoder, patches naming
any mix of tables: if the decoded patches agree on shared gids, every permutation of the
(info, patch bytes) list yields the same font. -/
theorem glyph_keyed_order_independent_entry (patches patches' : List (PatchInfo × Bytes)) (font out : Font)
    (dec : Decoder) (hst : Stateless dec) (hperm : patches.Perm patches')
    (hagree : ∀ ps, prepAll font dec patches = some ps → AgreeAll (ps.map (·.2)))
    (h : applyGlyphKeyed patches font dec = .ok out) :
    applyGlyphKeyed patches' font dec = .ok out := by
  obtain ⟨ps, hp, ha⟩ := (applyGlyphKeyed_ok_iff font dec hst patches out).mp h
  obtain ⟨ps', hp', hperm'⟩ := prepAll_perm font dec patches patches' hperm ps hp
  exact (applyGlyphKeyed_ok_iff font dec hst patches' out).mpr
    ⟨ps', hp', glyph_keyed_order_independent ps ps' font out hperm' (hagree ps hp) ha⟩

/-- Whole entry point, any stateless decoder, any mix of
tables: applying the patch bytes `p1`, then `p2` to the result, against applying `p1 ++ p2` in one call:
every table agrees in the sense of `glyph_keyed_grouping_independent` (`TableAgree`: identical bytes,
except gvar under the long-flag condition and CFF / CFF2 up to offSize). -/
theorem glyph_keyed_grouping_independent_entry (p1 p2 : List (PatchInfo × Bytes))
    (font font1 out2 out12 : Font) (dec : Decoder) (hst : Stateless dec) (hu : UniqueTags font)
    (hagree : ∀ ps, prepAll font dec (p1 ++ p2) = some ps → AgreeAll (ps.map (·.2)))
    (h1 : applyGlyphKeyed p1 font dec = .ok font1)
    (h2 : applyGlyphKeyed p2 font1 dec = .ok out2)
    (h12 : applyGlyphKeyed (p1 ++ p2) font dec = .ok out12)
    (hbase : BaseOk font)
    (hift : ∀ v2, iftCharstringsOffset (font1.get TAG_IFT) v2 = iftCharstringsOffset (font.get TAG_IFT) v2)
    (hsz : ∀ b, font1.get TAG_gvar = some b → b.length < 2 ^ 32) :
    ∀ t, TableAgree font font1 out2 out12 t := by
  obtain ⟨ps1, ps2, hp12, ha1, ha2, ha12⟩ :=
    applyGlyphKeyed_two_step font font1 out2 out12 dec hst p1 p2 h1 h2 h12
  exact (applyGlyphPatches_split ps1 ps2 font font1 out2 out12 hu (hagree _ hp12) ha1 ha2 ha12
    hbase hift hsz).2.2

/-- … and for patches naming neither gvar nor `CFF ` nor
CFF2 the two routes give the identical font, with no condition on the base font. -/
theorem glyph_keyed_grouping_independent_entry_glyf (p1 p2 : List (PatchInfo × Bytes))
    (font font1 out2 out12 : Font) (dec : Decoder) (hst : Stateless dec) (hu : UniqueTags font)
    (hagree : ∀ ps, prepAll font dec (p1 ++ p2) = some ps →
      Agree TAG_glyf (ps.map (·.2)) ∧
      ∀ x ∈ ps, TAG_gvar ∉ x.2.tables ∧ TAG_CFF ∉ x.2.tables ∧ TAG_CFF2 ∉ x.2.tables)
    (h1 : applyGlyphKeyed p1 font dec = .ok font1)
    (h2 : applyGlyphKeyed p2 font1 dec = .ok out2)
    (h12 : applyGlyphKeyed (p1 ++ p2) font dec = .ok out12) :
    out2 = out12 := by
  obtain ⟨ps1, ps2, hp12, ha1, ha2, ha12⟩ :=
    applyGlyphKeyed_two_step font font1 out2 out12 dec hst p1 p2 h1 h2 h12
  obtain ⟨g1, g2⟩ := hagree _ hp12
  exact glyph_keyed_grouping_independent_glyf ps1 ps2 font font1 out2 out12 hu g1 g2 ha1 ha2 ha12

/-! ### the same for a pure decoder function (no `Stateless` hypothesis left)

ASSUMPTION about the real code, not proved: the brotli decoders behind `SharedBrotliDecoder` (c_brotli.rs,
rust_brotli.rs) compute a pure function of (encoded stream, optional dictionary, max length) — they keep no
state between calls.  `pureDecoder f` is the model's decoder for such a function `f`. -/

/-- For ANY pure decoding function `f`: if the decoded patches
agree on shared gids, every permutation of the (info, patch bytes) list yields the same font. -/
theorem glyph_keyed_order_independent_pure (f : Bytes → Option Bytes → Nat → Except DErr Bytes)
    (patches patches' : List (PatchInfo × Bytes)) (font out : Font) (hperm : patches.Perm patches')
    (hagree : ∀ ps, prepAll font (pureDecoder f) patches = some ps → AgreeAll (ps.map (·.2)))
    (h : applyGlyphKeyed patches font (pureDecoder f) = .ok out) :
    applyGlyphKeyed patches' font (pureDecoder f) = .ok out :=
  glyph_keyed_order_independent_entry patches patches' font out (pureDecoder f) (pureDecoder_stateless f)
    hperm hagree h

/-- For ANY pure decoding function `f`, any mix of tables:
`p1` then `p2` on the result against `p1 ++ p2` in one call — every table agrees (`TableAgree`, see
`glyph_keyed_grouping_independent`). -/
theorem glyph_keyed_grouping_independent_pure (f : Bytes → Option Bytes → Nat → Except DErr Bytes)
    (p1 p2 : List (PatchInfo × Bytes)) (font font1 out2 out12 : Font) (hu : UniqueTags font)
    (hagree : ∀ ps, prepAll font (pureDecoder f) (p1 ++ p2) = some ps → AgreeAll (ps.map (·.2)))
    (h1 : applyGlyphKeyed p1 font (pureDecoder f) = .ok font1)
    (h2 : applyGlyphKeyed p2 font1 (pureDecoder f) = .ok out2)
    (h12 : applyGlyphKeyed (p1 ++ p2) font (pureDecoder f) = .ok out12)
    (hbase : BaseOk font)
    (hift : ∀ v2, iftCharstringsOffset (font1.get TAG_IFT) v2 = iftCharstringsOffset (font.get TAG_IFT) v2)
    (hsz : ∀ b, font1.get TAG_gvar = some b → b.length < 2 ^ 32) :
    ∀ t, TableAgree font font1 out2 out12 t :=
  glyph_keyed_grouping_independent_entry p1 p2 font font1 out2 out12 (pureDecoder f)
    (pureDecoder_stateless f) hu hagree h1 h2 h12 hbase hift hsz

/-- … and for patches naming neither gvar nor `CFF ` nor
CFF2 the two routes give the identical font. -/
theorem glyph_keyed_grouping_independent_pure_glyf (f : Bytes → Option Bytes → Nat → Except DErr Bytes)
    (p1 p2 : List (PatchInfo × Bytes)) (font font1 out2 out12 : Font) (hu : UniqueTags font)
    (hagree : ∀ ps, prepAll font (pureDecoder f) (p1 ++ p2) = some ps →
      Agree TAG_glyf (ps.map (·.2)) ∧
      ∀ x ∈ ps, TAG_gvar ∉ x.2.tables ∧ TAG_CFF ∉ x.2.tables ∧ TAG_CFF2 ∉ x.2.tables)
    (h1 : applyGlyphKeyed p1 font (pureDecoder f) = .ok font1)
    (h2 : applyGlyphKeyed p2 font1 (pureDecoder f) = .ok out2)
    (h12 : applyGlyphKeyed (p1 ++ p2) font (pureDecoder f) = .ok out12) :
    out2 = out12 :=
  glyph_keyed_grouping_independent_entry_glyf p1 p2 font font1 out2 out12 (pureDecoder f)
    (pureDecoder_stateless f) hu hagree h1 h2 h12

/-- non-vacuity: the harness's identity decoder is `pureDecoder` of a function, and applies a real patch -/
example :
    let f : Bytes → Option Bytes → Nat → Except DErr Bytes := fun s _ _ => .ok s
    let font : Font := [(TAG_IFT, [2,0,0,0,0, 1,1,1,1,1,1,1,1,1,1,1,1,1,1,1,1, 0])]
    let p : Bytes := [0x69,0x66,0x67,0x6b, 0,0,0,0, 0, 1,1,1,1,1,1,1,1,1,1,1,1,1,1,1,1, 0,0,0,21,
                      0,0,0,1, 1, 0,1, 0x67,0x6c,0x79,0x66, 0,0,0,19, 0,0,0,21, 7,7]
    let i : PatchInfo := { uri := "a", iftx := false, compat := [1,1,1,1,1,1,1,1,1,1,1,1,1,1,1,1], bit := 0 }
    (prepAll font (pureDecoder f) [(i, p)]).isSome = true := by intros; decide +kernel

/-- For ANY decoder (fault-injecting ones included): a successful
`apply_glyph_keyed_patches` on patch bytes is compat checks ✓ for every patch, `n` successful decoder
calls `dec 0 … dec (n-1)` in patch order, `n` successful payload parses, and then `applyGlyphPatches`
on the patches' infos and the parsed payloads — so `glyph_keyed_splice_spec`,
`glyph_keyed_other_tables_unchanged`, `applied_bits_exact` and the error-path theorems speak about
the output of the entry point. -/
theorem glyph_keyed_entry_reduces (patches : List (PatchInfo × Bytes)) (font out : Font) (dec : Decoder)
    (h : applyGlyphKeyed patches font dec = .ok out) :
    ∃ hs raws gps, checkGlyphKeyed font patches = .ok hs ∧ hs.map (·.1) = patches.map (·.1) ∧
      decodeAll dec (hs.map (·.2)) 0 = .ok raws ∧
      parseAll (List.zip raws (hs.map (·.2))) = .ok gps ∧
      applyGlyphPatches (patches.map (·.1)) gps font = .ok out := by
  obtain ⟨hs, raws, gps, hc, hd, hp, h⟩ := (applyGlyphKeyed_iff_loops patches font out dec).mp h
  have hm := (checkGlyphKeyed_all font patches hs hc).1
  exact ⟨hs, raws, gps, hc, hm, hd, hp, by rw [← hm]; exact h⟩

/-- non-vacuity: `prepAll` on a real (info, patch bytes) pair with the identity decoder -/
example :
    let font : Font := [(TAG_IFT, [2,0,0,0,0, 1,1,1,1,1,1,1,1,1,1,1,1,1,1,1,1, 0])]
    let p : Bytes := [0x69,0x66,0x67,0x6b, 0,0,0,0, 0, 1,1,1,1,1,1,1,1,1,1,1,1,1,1,1,1, 0,0,0,21,
                      0,0,0,1, 1, 0,1, 0x67,0x6c,0x79,0x66, 0,0,0,19, 0,0,0,21, 7,7]
    let i : PatchInfo := { uri := "a", iftx := false, compat := [1,1,1,1,1,1,1,1,1,1,1,1,1,1,1,1], bit := 0 }
    (prepAll font (fun _ s _ _ => .ok s) [(i, p)]).map (fun ps => ps.map (fun x => (x.2.gids, x.2.tables, patchData TAG_glyf x.2)))
      = some [([1], [TAG_glyf], [(1, [7,7])])] := by rfl

/-! ## gvar (Model/GvarKeyed.lean: the `Gvar::TAG` arm — `font.gvar()`, `patch_offset_array`,
`Gvar::add_to_font` — as a function `gvarPatch gvarTable patches maxGid` of the one table; tied to the
real `apply_glyph_keyed_patches` by the `gvar_patch` correspondence group) -/

/-- If the gvar arm succeeds (emitted table below 4 GiB): the offset type `t` of
the new table is short or long, it can address the new total, and it is the old type whenever that
still fits (widening only when needed).  When gvar's glyph count matches maxp, the new table reads
back (`gvarRead`, the reader used on the input) with the same axis count, shared tuple count and
glyph count, the long-offsets flag set iff `t` is long, the SAME shared tuples, `maxGid+2` ascending
offsets from 0 to the length of the data area, every listed gid ≤ maxGid, and for EVERY gid the
glyph variation data is the first-wins patch data (padded to even under short offsets), else the
old data. -/
theorem gvar_patch_spec (b : Bytes) (gps : List GlyphPatches) (m : Nat) (out : Bytes)
    (h : gvarPatch (some b) gps m = .ok out) (hsz : out.length < 2 ^ 32) :
    ∃ v t, gvarRead b = some v ∧ (t = .long ∨ t = .shortDivByTwo) ∧
      (∃ repl total, dedup TAG_gvar gps = .ok repl ∧ totalDataSize (gvarArray b v) repl m = .ok total ∧
          total ≤ t.maxRepresentable ∧ (total ≤ (gvarCurType v).maxRepresentable → t = gvarCurType v)) ∧
      (v.glyphCount = m + 1 →
        ∃ v', gvarRead out = some v' ∧ v'.axisCount = v.axisCount ∧ v'.sharedTupleCount = v.sharedTupleCount ∧
          v'.glyphCount = v.glyphCount ∧ v'.long = decide (t = .long) ∧
          gvarSharedTuples out v' = gvarSharedTuples b v ∧
          v'.offsets.length = m + 2 ∧ v'.offsets.getD 0 0 = 0 ∧
          v'.offsets.getD (m + 1) 0 = (out.drop v'.arrayOffset).length ∧
          v'.offsets.Pairwise (· ≤ ·) ∧
          (∀ g d, firstWins TAG_gvar gps g = some d → g ≤ m) ∧
          ∀ g, g ≤ m → glyphAt v'.offsets (out.drop v'.arrayOffset) g =
            match firstWins TAG_gvar gps g with
            | some d => padTo t d
            | none => glyphAt v.offsets (b.drop v.arrayOffset) g) := by
  obtain ⟨v, repl, t, tuples, total, hr, hd, htype, hst, ht1, ht2, hle, hout, hdiv, hfit⟩ :=
    gvarPatch_parts b gps m out h
  obtain ⟨c1, c2, _⟩ := chooseOffsetType_spec _ total t ht2
  refine ⟨v, t, hr, htype, ⟨repl, total, hd, ht1, c1, c2⟩, ?_⟩
  intro hgc
  obtain ⟨s1, s2, s3, s4, s5⟩ := chunks_newOffsets (gvarArray b v) t repl m
  obtain ⟨v', r0, r1, r2, r3, r4, r5, r6, r7⟩ := gvarRead_emit b v hr t htype _ tuples _ hst
    (by rw [s1, hgc]) hdiv hfit (by rw [← hout]; exact hsz)
  rw [← hout] at r0 r6 r7
  refine ⟨v', r0, r1, r2, r3, r4, by rw [r7, hst], by rw [r5]; exact s1, by rw [r5]; exact s2,
    by rw [r5, r6]; exact s3, by rw [r5]; exact s4, firstWins_le TAG_gvar gps repl hd m hle, ?_⟩
  intro g hg
  rw [r5, r6, s5 g hg, chunkFor_firstWins TAG_gvar gps repl hd]
  cases firstWins TAG_gvar gps g <;> rfl

/-- The new gvar table does not depend on the order of patches
that agree on shared gids (one call; across calls the offset width may differ — known finding
C18-offset-width-history-dependent). -/
theorem gvar_patch_order_independent (g : Option Bytes) (gps gps' : List GlyphPatches) (m : Nat)
    (out : Bytes) (hp : gps.Perm gps') (ha : Agree TAG_gvar gps) (h : gvarPatch g gps m = .ok out) :
    gvarPatch g gps' m = .ok out := by
  unfold gvarPatch at h ⊢
  cases hg : g.bind (fun b => (gvarRead b).map (fun v => (b, v))) with
  | none => rw [hg] at h; cases h
  | some bv =>
    obtain ⟨b, v⟩ := bv
    rw [hg] at h
    simp only at h ⊢
    cases hd : dedup TAG_gvar gps with
    | error e => rw [hd] at h; cases h
    | ok repl =>
      rw [hd] at h
      rw [dedup_perm TAG_gvar gps gps' hp ha repl hd]
      exact h

/-- The gvar arm in two steps: when the intermediate table and the
two final tables carry the same long-offsets flag, `gps1` then `gps2` on the result gives byte for byte
the table of `gps1 ++ gps2` in one go (base gvar with glyphCount = maxGid + 1, intermediate table below
4 GiB).  Without the flag condition the tables may differ in the flag, the offset encoding and the zero
pad byte short offsets force — known finding C18-offset-width-history-dependent.  The condition on the
INTERMEDIATE table is needed too: odd-length data written while the table still had short offsets keeps
its pad byte when a later patch widens the table, whereas the one-call result (long from the start)
has none (harness: `boundary#gvar-pad-history`, both final tables long, 1 byte apart). -/
theorem gvar_patch_grouping_independent (b : Bytes) (gps1 gps2 : List GlyphPatches) (m : Nat)
    (out1 out2 out12 : Bytes)
    (hgc : ∀ v, gvarRead b = some v → v.glyphCount = m + 1) (hsz : out1.length < 2 ^ 32)
    (hagree : Agree TAG_gvar (gps1 ++ gps2))
    (h1 : gvarPatch (some b) gps1 m = .ok out1)
    (h2 : gvarPatch (some out1) gps2 m = .ok out2)
    (h12 : gvarPatch (some b) (gps1 ++ gps2) m = .ok out12)
    (hw1 : gvarLongBit out1 = gvarLongBit out12) (hw2 : gvarLongBit out2 = gvarLongBit out12) :
    out2 = out12 :=
  gvarPatch_two_step b gps1 gps2 m out1 out2 out12 hgc hsz hagree h1 h2 h12 hw1 hw2

/-- Known finding C18-gvar-all-glyph-data-empty as the model has it, stated of the last step
`gvarAssemble` (`Gvar::add_to_font`) that the gvar arm ends in: handed spliced data of no bytes at all,
and the offsets length check `hlen` not firing, it answers `SerializationError(NONE)` instead of
emitting the table. -/
theorem gvar_without_glyph_data_is_error (b : Bytes) (v : GvarView) (t : OffsetType) (offs : Bytes)
    (hlen : ¬ (t = gvarCurType v ∧ offs.length ≠ (v.glyphCount + 1) * v.width)) :
    gvarAssemble b v t [] offs = .error (.serializationError 0) := by
  unfold gvarAssemble
  rw [if_neg hlen]
  simp

/-- non-vacuity: a 2-glyph short gvar (1 axis, 1 shared tuple), gid 0 := 3 bytes (padded to 4) -/
example :
    let gv : Bytes := [0,1,0,0, 0,1, 0,1, 0,0,0,26, 0,2, 0,0, 0,0,0,28, 0,0, 0,1, 0,2, 0xAA,0xBB, 1,2,3,4]
    let gp : GlyphPatches := { glyphCount := 1, tables := [TAG_gvar], gids := [0], offsets := [1, 4], raw := [9,7,7,7] }
    gvarPatch (some gv) [gp] 1 =
      .ok [0,1,0,0, 0,1, 0,1, 0,0,0,26, 0,2, 0,0, 0,0,0,28, 0,0, 0,2, 0,3, 0xAA,0xBB, 7,7,7,0, 3,4] := by intros; decide +kernel

/-! ## CFF / CFF2 (Model/CffKeyed.lean: the `Cff::TAG` / `Cff2::TAG` arms — charstrings offset from the font's
`IFT ` table, `Cff::read` / `Cff2::read`, `Index1::read` / `Index2::read` at that offset, `patch_offset_array`,
`CFFAndCharStrings::add_to_font` — as a function `cffPatch v2 ift table patches maxGid` of the two tables;
tied to the real `apply_glyph_keyed_patches` by the `cff_patch` and `gk` correspondence groups)

Vocabulary: `cffView v2 b at m` = the charstrings INDEX the code finds (`IndexView`: count, offSize, offset
bytes, data) and its offset type; `cffOffsets ix` = the decoded offsets (bias 1 removed); `cffTag v2` =
`CFF ` / CFF2; `cffCountWidth v2` = 2 / 4; `IsCffType t` = t is one of the four CFF offset types
(width 1..4, divisor 1, bias 1, max representable 2^(8w) - 2). -/

/-- If the CFF / CFF2 arm succeeds (maxGid + 1 < 65536: maxp.numGlyphs is a u16): the
charstrings offset `at` comes from the `IFT ` table, the base table passed `cffView`; the new offset type
`t` is a CFF type that can address the new total, it is the old one whenever that still fits, otherwise
the FIRST of offSize 1, 2, 3, 4 that fits (`offset_width_widened_iff_needed` instantiated); every
listed gid is ≤ maxGid.  When the base INDEX's decoded offsets ascend (the last one included — the
code's own check skips it): the new table keeps the bytes before `at` unchanged, an INDEX reads back
at `at` with count = maxGid + 1, offSize = the width of `t`, all `maxGid + 2` offsets readable, ascending
from 0 to the length of the data area — which ends the table — and for EVERY gid the charstring is the
data of the FIRST patch listing it, else the old charstring. -/
theorem cff_patch_spec (v2 : Bool) (ift : Option Bytes) (b : Bytes) (gps : List GlyphPatches) (m : Nat)
    (out : Bytes) (h : cffPatch v2 ift (some b) gps m = .ok out) (hm : m + 1 < 65536) :
    ∃ at_ ix t0 t, iftCharstringsOffset ift v2 = some at_ ∧ cffView v2 b at_ m = .ok (ix, t0) ∧
      IsCffType t0 ∧ IsCffType t ∧
      (∃ repl total, dedup (cffTag v2) gps = .ok repl ∧
        totalDataSize (cffArray ix t0) repl m = .ok total ∧ total ≤ t.maxRepresentable ∧
        (total ≤ t0.maxRepresentable → t = t0) ∧
        (t0.maxRepresentable < total →
          ∃ pre post, [OffsetType.cffOne, .cffTwo, .cffThree, .cffFour] = pre ++ t :: post ∧
            ∀ c ∈ pre, c.maxRepresentable < total)) ∧
      (∀ g d, firstWins (cffTag v2) gps g = some d → g ≤ m) ∧
      (ascending (cffOffsets ix) = true →
        at_ ≤ out.length ∧ out.take at_ = b.take at_ ∧
        ∃ ix', indexRead (cffCountWidth v2) (out.drop at_) = .ok ix' ∧
          ix'.count = m + 1 ∧ ix'.offSize = t.width ∧
          cffOffsetOpts ix' = (cffOffsets ix').map some ∧
          (cffOffsets ix').length = m + 2 ∧ (cffOffsets ix').getD 0 0 = 0 ∧
          (cffOffsets ix').getD (m + 1) 0 = ix'.data.length ∧
          (cffOffsets ix').Pairwise (· ≤ ·) ∧
          ∀ g, g ≤ m → glyphAt (cffOffsets ix') ix'.data g =
            match firstWins (cffTag v2) gps g with
            | some d => d
            | none => glyphAt (cffOffsets ix) ix.data g) := by
  obtain ⟨at_, ix, t0, repl, t, ha, hv, hd, ht0, ht, ⟨total, t1, t2, t3, t4⟩, hrepl, hrest⟩ :=
    cffPatch_parts v2 ift b gps m out hm h
  refine ⟨at_, ix, t0, t, ha, hv, ht0, ht, ⟨repl, total, hd, t1, t2, t3, t4⟩,
    firstWins_le (cffTag v2) gps repl hd m hrepl, ?_⟩
  intro hasc
  obtain ⟨_, _, r1, r2, ix', r3, r4, r5, r6, r7, r8⟩ := hrest hasc
  obtain ⟨s1, s2, s3, s4, s5⟩ := chunks_newOffsets (cffArray ix t0) t repl m
  refine ⟨r1, r2, ix', r3, r4, r5, by rw [r8, r7], by rw [r8]; exact s1, by rw [r8]; exact s2,
    by rw [r8, r6]; exact s3, by rw [r8]; exact s4, ?_⟩
  intro g hg
  rw [r8, r6, s5 g hg, chunkFor_firstWins (cffTag v2) gps repl hd]
  cases firstWins (cffTag v2) gps g with
  | none => rfl
  | some d => exact padTo_cff t ht d

/-- The new CFF / CFF2 table does not depend on the order of patches that
agree on shared gids (one call: same bytes, offSize included). -/
theorem cff_order_independent (v2 : Bool) (ift table : Option Bytes) (gps gps' : List GlyphPatches) (m : Nat)
    (out : Bytes) (hp : gps.Perm gps') (ha : Agree (cffTag v2) gps)
    (h : cffPatch v2 ift table gps m = .ok out) : cffPatch v2 ift table gps' m = .ok out := by
  obtain ⟨b, rfl⟩ := cffPatch_some v2 ift table gps m out h
  obtain ⟨_, _, _, repl, _, _, _, _, _, hd, _⟩ := cffPatch_ok v2 ift b gps m out h
  have := dedup_perm (cffTag v2) gps gps' hp ha repl hd
  unfold cffPatch at h ⊢
  rw [this, ← hd]
  exact h

/-- The arm in two steps (`gps1`, then `gps2` on the result) against
`gps1 ++ gps2` in one go: both results are `cffEmit v2 (b.take at) (maxGid+1) t (encodeOffs t os) data`
— the same bytes before the charstrings INDEX, the same count, the same decoded offsets `os`, the same
charstring data — with CFF offset types `t2`, `t12` that may differ only in the way known finding
C18-offset-width-history-dependent says: the two-step offSize is never narrower than the one-call
offSize (`t12.width ≤ t2.width`), and when the intermediate table keeps the base table's offSize (no
widening in the first step) the two results are byte-identical.  Equal offSize ⇒ equal bytes. -/
theorem cff_grouping_independent (v2 : Bool) (ift : Option Bytes) (b : Bytes) (gps1 gps2 : List GlyphPatches)
    (m : Nat) (out1 out2 out12 : Bytes) (hm : m + 1 < 65536)
    (hasc : ∀ at_ ix t0, iftCharstringsOffset ift v2 = some at_ → cffView v2 b at_ m = .ok (ix, t0) →
      ascending (cffOffsets ix) = true)
    (hagree : Agree (cffTag v2) (gps1 ++ gps2))
    (h1 : cffPatch v2 ift (some b) gps1 m = .ok out1)
    (h2 : cffPatch v2 ift (some out1) gps2 m = .ok out2)
    (h12 : cffPatch v2 ift (some b) (gps1 ++ gps2) m = .ok out12) :
    ∃ at_ os data t2 t12, iftCharstringsOffset ift v2 = some at_ ∧ at_ ≤ b.length ∧
      IsCffType t2 ∧ IsCffType t12 ∧
      out2 = cffEmit v2 (b.take at_) (m + 1) t2 (encodeOffs t2 os) data ∧
      out12 = cffEmit v2 (b.take at_) (m + 1) t12 (encodeOffs t12 os) data ∧
      t12.width ≤ t2.width ∧
      (t2.width = t12.width → out2 = out12) ∧
      (∀ ix t0, cffView v2 b at_ m = .ok (ix, t0) →
        (out1.drop (at_ + cffCountWidth v2)).headD 0 = t0.width → out2 = out12) := by
  obtain ⟨at_, os, data, t2, t12, a1, a2, a3, a4, a5, a6, a7, a8⟩ :=
    cffPatch_two_step v2 ift b gps1 gps2 m out1 out2 out12 hm hasc hagree h1 h2 h12
  refine ⟨at_, os, data, t2, t12, a1, a2, a3, a4, a5, a6, a7, ?_, a8⟩
  intro hw
  have := IsCffType.eq_of_width a3 a4 hw
  subst this
  rw [a5, a6]

/-- Without a charstrings offset for the table in the
font's `IFT ` mapping table (no `IFT ` table, one `Ift::read` rejects, or the field-presence bit
clear) the arm fails before it looks at the CFF / CFF2 table or at any patch. -/
theorem cff_missing_charstrings_offset_is_error (v2 : Bool) (ift table : Option Bytes)
    (gps : List GlyphPatches) (m : Nat) (h : iftCharstringsOffset ift v2 = none) :
    cffPatch v2 ift table gps m = .error (.invalidPatch (cffMissingMsg v2)) := by
  unfold cffPatch; rw [h]

/-- A recorded charstrings offset beyond the end of
the table, or one that leaves fewer bytes than count + offSize + `(count+1)·offSize` offset bytes, is
`FontParsingFailed(OutOfBounds)` — whatever the patches contain. -/
theorem cff_charstrings_offset_out_of_bounds_is_error (v2 : Bool) (ift : Option Bytes) (b : Bytes)
    (gps : List GlyphPatches) (m at_ : Nat) (ha : iftCharstringsOffset ift v2 = some at_)
    (hr : (if v2 then cff2TableRead b else cffTableRead b) = .ok ())
    (hbad : b.length < at_ ∨ indexRead (cffCountWidth v2) (b.drop at_) = .error .outOfBounds) :
    cffPatch v2 ift (some b) gps m = .error (.fontParsingFailed .outOfBounds) := by
  unfold cffPatch
  rw [ha]
  simp only
  have : cffView v2 b at_ m = .error .outOfBounds := by
    unfold cffView
    rw [hr]
    simp only
    rcases hbad with e | e
    · rw [if_pos e]
    · by_cases c : b.length < at_
      · rw [if_pos c]
      · rw [if_neg c, e]
  rw [this]

/-- An INDEX at the recorded offset whose offSize is not 1..=4, or
whose count differs from maxp.numGlyphs (= maxGid + 1), is `FontParsingFailed(MalformedData(…))`. -/
theorem cff_malformed_index_is_error (v2 : Bool) (ift : Option Bytes) (b : Bytes)
    (gps : List GlyphPatches) (m at_ : Nat) (ix : IndexView) (ha : iftCharstringsOffset ift v2 = some at_)
    (hr : (if v2 then cff2TableRead b else cffTableRead b) = .ok ()) (hle : at_ ≤ b.length)
    (hix : indexRead (cffCountWidth v2) (b.drop at_) = .ok ix)
    (hbad : (ix.offSize < 1 ∨ 4 < ix.offSize) ∨ ix.count ≠ m + 1) :
    ∃ msg, cffPatch v2 ift (some b) gps m = .error (.fontParsingFailed (.malformedData msg)) := by
  unfold cffPatch
  rw [ha]
  simp only
  have : ∃ msg, cffView v2 b at_ m = .error (.malformedData msg) := by
    unfold cffView
    rw [hr]
    simp only
    rw [if_neg (by omega), hix]
    simp only
    rcases cffOffsetType_cases ix.offSize with ⟨t, ht⟩ | ht
    · rw [ht]
      simp only
      rcases hbad with hb | hb
      · exfalso
        obtain ⟨hc, hw⟩ := cffOffsetType_ok _ _ ht
        have := hc.width_pos
        omega
      · rw [if_pos hb]; exact ⟨_, rfl⟩
    · rw [ht]; exact ⟨_, rfl⟩
  obtain ⟨msg, hm⟩ := this
  rw [hm]
  exact ⟨msg, rfl⟩

/-- non-vacuity: a 2-glyph CFF2 table (header, empty global subrs, charstrings INDEX at 11 as recorded in
a format-2 `IFT ` table with field flag bit 1), patch gid 1 := one byte -/
example :
    let cff2 : Bytes := [2,0,5,0,0, 0,0,0,0,1,1, 0,0,0,2,1, 1,2,4, 0xA,0xB,0xC]
    let ift : Bytes := [2,0,0,0, 2, 1,1,1,1,1,1,1,1,1,1,1,1,1,1,1,1, 3, 0,0,0, 0,0,0,0, 0,0,0,0, 0,0, 0,0,0,11, 0]
    let gp : GlyphPatches := { glyphCount := 1, tables := [TAG_CFF2], gids := [1], offsets := [1, 2], raw := [9,0xD] }
    cffPatch true (some ift) (some cff2) [gp] 1 =
      .ok [2,0,5,0,0, 0,0,0,0,1,1, 0,0,0,2,1, 1,2,3, 0xA,0xD] := by intros; decide +kernel

/-- the known finding C18-offset-width-history-dependent in the model: base CFF charstrings g0 = 200 B,
g1 = 10 B (offSize 1); A: g1 := 100 B; B: g0 := 5 B.  [A, B] in one call → total 105, offSize stays 1
(table of 139 bytes); A then B → offSize 2 after A (total 300 > 254) and B keeps it (142 bytes).  Both
tables decode to the same INDEX: offsets 0, 5, 105 and the same 105 bytes of charstring data. -/
example :
    let cff : Bytes := [1,0,4,1, 0,1,1,1,2,7, 0,1,1,1,2,7, 0,1,1,1,2,7, 0,1,1,1,2,7, 0,2, 1, 1,201,211]
      ++ List.replicate 200 3 ++ List.replicate 10 4
    let ift : Bytes := [2,0,0,0, 1, 1,1,1,1,1,1,1,1,1,1,1,1,1,1,1,1, 3, 0,0,0, 0,0,0,0, 0,0,0,0, 0,0, 0,0,0,28, 0]
    let gA : GlyphPatches := { glyphCount := 1, tables := [TAG_CFF], gids := [1], offsets := [1, 101], raw := 9 :: List.replicate 100 5 }
    let gB : GlyphPatches := { glyphCount := 1, tables := [TAG_CFF], gids := [0], offsets := [1, 6], raw := [9,6,6,6,6,6] }
    let one := cffPatch false (some ift) (some cff) [gA, gB] 1
    let two := match cffPatch false (some ift) (some cff) [gA] 1 with
      | .ok o => cffPatch false (some ift) (some o) [gB] 1
      | .error e => .error e
    let view := fun (r : Except PErr Bytes) => r.toOption.bind (fun o =>
      (indexRead 2 (o.drop 28)).toOption.map (fun ix => (o.take 28 == cff.take 28, ix.count, ix.offSize, cffOffsets ix, ix.data)))
    view one = some (true, 2, 1, [0, 5, 105], List.replicate 5 6 ++ List.replicate 100 5) ∧
    view two = some (true, 2, 2, [0, 5, 105], List.replicate 5 6 ++ List.replicate 100 5) := by
  refine ⟨by decide +kernel, by decide +kernel⟩

/-- non-vacuity: ONE patch naming glyf + gvar on a 2-glyph short-loca font with a short gvar: glyph 0 :=
[5,5], gvar data of glyph 0 := [7,7,7] (padded to 4 under short offsets); head, loca (same lengths), maxp
untouched; applied bit 170 set -/
example :
    let gv : Bytes := [0,1,0,0, 0,1, 0,1, 0,0,0,26, 0,2, 0,0, 0,0,0,28, 0,0, 0,1, 0,2, 0xAA,0xBB, 1,2,3,4]
    let font : Font := [(TAG_IFT, [2,0,0,0,0, 1,1,1,1,1,1,1,1,1,1,1,1,1,1,1,1, 0]), (TAG_glyf, [1,2,3,4]),
      (TAG_gvar, gv), (TAG_head, List.replicate 54 0), (TAG_loca, [0,0, 0,1, 0,2]), (TAG_maxp, [0,0,0x50,0, 0,2])]
    let gp : GlyphPatches := { glyphCount := 1, tables := [TAG_glyf, TAG_gvar], gids := [0], offsets := [1, 3, 6], raw := [9,5,5,7,7,7] }
    let i : PatchInfo := { uri := "a", iftx := false, compat := [], bit := 170 }
    applyGlyphPatches [i] [gp] font =
      .ok [(TAG_IFT, [2,0,0,0,0, 1,1,1,1,1,1,1,1,1,1,1,1,1,1,1,1, 4]), (TAG_glyf, [5,5,3,4]),
        (TAG_gvar, [0,1,0,0, 0,1, 0,1, 0,0,0,26, 0,2, 0,0, 0,0,0,28, 0,0, 0,2, 0,3, 0xAA,0xBB, 7,7,7,0, 3,4]),
        (TAG_head, List.replicate 54 0), (TAG_loca, [0,0, 0,1, 0,2]), (TAG_maxp, [0,0,0x50,0, 0,2])] := by intros; decide +kernel

/-- non-vacuity: a patch naming CFF2 + gvar and one naming CFF2 only, on a font with CFF2, `IFT ` (cff2
charstrings offset 11), gvar and maxp: both orders and the two-step application give the same font;
CFF2 gid 0 := [6,6,6], gid 1 := [0xD]; gvar gid 1 := [8,8]; applied bits 312 and 313 set -/
example :
    let gv : Bytes := [0,1,0,0, 0,1, 0,1, 0,0,0,26, 0,2, 0,0, 0,0,0,28, 0,0, 0,1, 0,2, 0xAA,0xBB, 1,2,3,4]
    let cff2 : Bytes := [2,0,5,0,0, 0,0,0,0,1,1, 0,0,0,2,1, 1,2,4, 0xA,0xB,0xC]
    let ift : Bytes := [2,0,0,0, 2, 1,1,1,1,1,1,1,1,1,1,1,1,1,1,1,1, 3, 0,0,0, 0,0,0,0, 0,0,0,0, 0,0, 0,0,0,11, 0]
    let font : Font := [(TAG_CFF2, cff2), (TAG_IFT, ift), (TAG_gvar, gv), (TAG_maxp, [0,0,0x50,0, 0,2])]
    let gp1 : GlyphPatches := { glyphCount := 1, tables := [TAG_CFF2, TAG_gvar], gids := [1], offsets := [1, 2, 4], raw := [9,0xD,8,8] }
    let gp2 : GlyphPatches := { glyphCount := 1, tables := [TAG_CFF2], gids := [0], offsets := [1, 4], raw := [9,6,6,6] }
    let i1 : PatchInfo := { uri := "a", iftx := false, compat := [], bit := 312 }
    let i2 : PatchInfo := { uri := "b", iftx := false, compat := [], bit := 313 }
    let want : Font := [(TAG_CFF2, [2,0,5,0,0, 0,0,0,0,1,1, 0,0,0,2,1, 1,4,5, 6,6,6,0xD]),
      (TAG_IFT, [2,0,0,0, 2, 1,1,1,1,1,1,1,1,1,1,1,1,1,1,1,1, 3, 0,0,0, 0,0,0,0, 0,0,0,0, 0,0, 0,0,0,11, 3]),
      (TAG_gvar, [0,1,0,0, 0,1, 0,1, 0,0,0,26, 0,2, 0,0, 0,0,0,28, 0,0, 0,1, 0,2, 0xAA,0xBB, 1,2,8,8]),
      (TAG_maxp, [0,0,0x50,0, 0,2])]
    applyGlyphPatches [i1, i2] [gp1, gp2] font = .ok want ∧
    applyGlyphPatches [i2, i1] [gp2, gp1] font = .ok want ∧
    (match applyGlyphPatches [i1] [gp1] font with
     | .ok f1 => applyGlyphPatches [i2] [gp2] f1
     | .error e => .error e) = .ok want := by
  intros; decide +kernel

/-- non-vacuity of the `hift` hypothesis and of `BaseOk.cff_ascending` for that font: setting
bits 312 / 313 (byte 39) leaves the recorded offset alone, and its CFF2 INDEX ascends -/
example :
    let ift : Bytes := [2,0,0,0, 2, 1,1,1,1,1,1,1,1,1,1,1,1,1,1,1,1, 3, 0,0,0, 0,0,0,0, 0,0,0,0, 0,0, 0,0,0,11, 0]
    let ift' : Bytes := [2,0,0,0, 2, 1,1,1,1,1,1,1,1,1,1,1,1,1,1,1,1, 3, 0,0,0, 0,0,0,0, 0,0,0,0, 0,0, 0,0,0,11, 3]
    let cff2 : Bytes := [2,0,5,0,0, 0,0,0,0,1,1, 0,0,0,2,1, 1,2,4, 0xA,0xB,0xC]
    (∀ v2, iftCharstringsOffset (some ift') v2 = iftCharstringsOffset (some ift) v2) ∧
    (cffView true cff2 11 1).toOption.map (fun r => ascending (cffOffsets r.1)) = some true := by
  refine ⟨by intro v2; cases v2 <;> rfl, by decide +kernel⟩

end FontVerif.C18
