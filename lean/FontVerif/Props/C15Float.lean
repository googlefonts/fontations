/-
C15 — float conversions of the fixed-point types (font-types/src/fixed.rs `float_conv!`,
`Fixed::to_f32`, `F26Dot6::to_f32`).  Property theorems only; the arithmetic lives in
Lemmas/Ieee.lean and Lemmas/FixedConv.lean.
Model: Model/Ieee.lean (exact IEEE-754 binary32 / binary64: one rounding per operation) and
Model/FixedConv.lean ⇄ the Rust after `fix:` 79f4476.

A float is `nan`, `inf neg` or `fin neg m e` = `(-1)^neg · m · 2^e`; every f32 / f64 bit pattern
decodes to a value satisfying `IsFloat` (`decode_is_float32/64`), and the theorems quantify over
all such values.  `scaledNum / scaledDen` is the exact rational `x · 2^FRACT_BITS`.
-/
import FontVerif.Model.FixedConv
import FontVerif.Lemmas.FixedConv
namespace FontVerif.C15Float
open FontVerif.Ieee FontVerif.FixedConv

/-- a value of the format: at most `p` significant bits, exponent not below `emin`. -/
def IsFloat (f : Fmt) : FVal → Prop
  | .nan => True
  | .inf _ => True
  | .fin _ m e => m < 2 ^ f.p ∧ f.emin ≤ e

theorem decode_is_float32 (bits : Nat) : IsFloat f32 (decode f32 bits) := by
  cases h : decode f32 bits <;> simp only [IsFloat]
  exact decode_fin f32 (by decide) bits h

theorem decode_is_float64 (bits : Nat) : IsFloat f64 (decode f64 bits) := by
  cases h : decode f64 bits <;> simp only [IsFloat]
  exact decode_fin f64 (by decide) bits h

theorem f2dot14_ok : F2Dot14.Ok := FixedConv.f2dot14_ok
theorem f4dot12_ok : F4Dot12.Ok := by constructor <;> decide
theorem f6dot10_ok : F6Dot10.Ok := by constructor <;> decide
theorem fixed_ok : Fixed.Ok := by constructor <;> decide
theorem f26dot6_ok : F26Dot6.Ok := by constructor <;> decide

/-- `from_fN` of every finite float is the exact scaled value `x · 2^FRACT_BITS` rounded to the
nearest integer with ties away from zero, clamped to `MIN ..= MAX` (closed form). -/
theorem from_float_closed_form (t : FxTy) (ok : t.Ok) (neg : Bool) (m : Nat) (e : Int)
    (hx : IsFloat t.fmt (.fin neg m e)) :
    fromFloat t (.fin neg m e) = fromFloatSpec t neg m e :=
  fromFloat_finite t ok neg m e hx.1 hx.2

/-- "conversions from floats round to nearest": whenever the exact scaled value
`scaledNum / scaledDen` rounded half away from zero is a representable `r`, `from_fN` returns `r`
(every finite float, including subnormals; no exception after the fix). -/
theorem from_float_nearest (t : FxTy) (ok : t.Ok) (neg : Bool) (m : Nat) (e : Int)
    (hx : IsFloat t.fmt (.fin neg m e)) (r : Int) (hr : t.lo ≤ r ∧ r ≤ t.hi)
    (h : IsRHA (scaledNum t.k neg m e) (scaledDen t.k e) r) :
    fromFloat t (.fin neg m e) = r := by
  rw [from_float_closed_form t ok neg m e hx, fromFloatSpec, ← (isRHA_iff (scaledDen_pos t.k e)).1 h,
    clampI_id _ _ _ hr]

/-- the result is always within half a unit of the scaled value when that lies in the range:
`|from_fN(x) · den - num| · 2 ≤ den`. -/
theorem from_float_error_bound (t : FxTy) (ok : t.Ok) (neg : Bool) (m : Nat) (e : Int)
    (hx : IsFloat t.fmt (.fin neg m e))
    (hin : t.lo * scaledDen t.k e ≤ scaledNum t.k neg m e ∧ scaledNum t.k neg m e ≤ t.hi * scaledDen t.k e) :
    2 * (scaledDen t.k e * fromFloat t (.fin neg m e)) - scaledDen t.k e ≤ 2 * scaledNum t.k neg m e ∧
    2 * scaledNum t.k neg m e ≤ 2 * (scaledDen t.k e * fromFloat t (.fin neg m e)) + scaledDen t.k e := by
  have hd := scaledDen_pos t.k e
  have h := roundHalfAway_isRHA (scaledNum t.k neg m e) hd
  -- in range because `N / D` is
  rw [from_float_closed_form t ok neg m e hx, fromFloatSpec,
    clampI_id _ _ _ ⟨(roundHalfAway_bounds t.lo hd).1 hin.1, (roundHalfAway_bounds t.hi hd).2 hin.2⟩]
  exact isRHA_near h

/-- saturation: a scaled value at or beyond `MAX` converts to `MAX`, at or below `MIN` to `MIN`
(this is what the seeded wrap-around `as i32 as i16` breaks). -/
theorem from_float_saturates_high (t : FxTy) (ok : t.Ok) (neg : Bool) (m : Nat) (e : Int)
    (hx : IsFloat t.fmt (.fin neg m e)) (h : t.hi * scaledDen t.k e ≤ scaledNum t.k neg m e) :
    fromFloat t (.fin neg m e) = t.hi := by
  rw [from_float_closed_form t ok neg m e hx, fromFloatSpec]
  exact clampI_of_ge _ _ _ ok.lo_le_hi ((roundHalfAway_bounds t.hi (scaledDen_pos t.k e)).1 h)

theorem from_float_saturates_low (t : FxTy) (ok : t.Ok) (neg : Bool) (m : Nat) (e : Int)
    (hx : IsFloat t.fmt (.fin neg m e)) (h : scaledNum t.k neg m e ≤ t.lo * scaledDen t.k e) :
    fromFloat t (.fin neg m e) = t.lo := by
  rw [from_float_closed_form t ok neg m e hx, fromFloatSpec]
  exact clampI_of_le _ _ _ ok.lo_le_hi ((roundHalfAway_bounds t.lo (scaledDen_pos t.k e)).2 h)

/-- infinities saturate, NaN converts to zero (Rust's `as` cast). -/
theorem from_float_inf (t : FxTy) (ok : t.Ok) (s : Bool) :
    fromFloat t (.inf s) = if s then t.lo else t.hi :=
  fromFloat_of_scaled_inf t ok _ s (by simp [mulPow2])

theorem from_float_nan (t : FxTy) : fromFloat t .nan = 0 := by
  simp [fromFloat, mulPow2, toIntSat, sub, add, geHalf, leNegHalf, FVal.neg]

/-- the result is always a value of the storage type. -/
theorem from_float_in_range (t : FxTy) (ok : t.Ok) (x : FVal) (hx : IsFloat t.fmt x) :
    t.lo ≤ fromFloat t x ∧ fromFloat t x ≤ t.hi := by
  have hlo := ok.hlo; have hhi := ok.hhi
  cases x with
  | nan => rw [from_float_nan]; omega
  | inf s => rw [from_float_inf t ok]; split <;> omega
  | fin s m e =>
    rw [from_float_closed_form t ok s m e hx]
    exact clampI_range _ _ _ ok.lo_le_hi

/-- monotone: `x ≤ y → from_fN(x) ≤ from_fN(y)` for all non-NaN floats (`le` is the IEEE `<=`). -/
theorem from_float_monotone (t : FxTy) (ok : t.Ok) (x y : FVal) (hx : IsFloat t.fmt x)
    (hy : IsFloat t.fmt y) (h : le x y = true) : fromFloat t x ≤ fromFloat t y := by
  have hlo := ok.hlo; have hhi := ok.hhi
  have rx := from_float_in_range t ok x hx
  have ry := from_float_in_range t ok y hy
  cases x with
  | nan => simp [le] at h
  | inf s =>
    cases y with
    | nan => simp [le] at h
    | inf s' =>
      rw [from_float_inf t ok, from_float_inf t ok]
      cases s <;> cases s' <;> simp [le] at h ⊢ <;> omega
    | fin s' n g =>
      rw [from_float_inf t ok] at rx ⊢
      cases s <;> simp [le] at h ⊢; omega
  | fin s m e =>
    cases y with
    | nan => simp [le] at h
    | inf s' =>
      rw [from_float_inf t ok] at ry ⊢
      cases s' <;> simp [le] at h ⊢; omega
    | fin s' n g =>
      rw [from_float_closed_form t ok s m e hx, from_float_closed_form t ok s' n g hy]
      exact fromFloatSpec_mono t ok.lo_le_hi s m e s' n g h

/-- `to_fN` is exact for every raw value: the result is a finite float of the format whose value
times `2^FRACT_BITS` is exactly `raw` (`scaledNum = raw · scaledDen`). -/
theorem to_float_exact (t : FxTy) (ok : t.Ok) (raw : Int) (h : t.lo ≤ raw ∧ raw ≤ t.hi) :
    ∃ s m e, toFloat t raw = .fin s m e ∧ IsFloat t.fmt (.fin s m e) ∧
      scaledNum t.k s m e = raw * scaledDen t.k e := by
  obtain ⟨s, m, e, h1, h2, h3, h4, h5⟩ := toFloat_scaledInt t ok raw h
  refine ⟨s, m, e, h1, ⟨h2, h3⟩, ?_⟩
  unfold scaledNum scaledDen
  have : e + (t.k : Int) ≥ 0 := by omega
  simp only [this, if_true, Int.mul_one]
  exact h5

/-- "ordering of values equals ordering of raw bits": the float values of two fixed-point numbers
compare like their raw bits (as signed integers). -/
theorem to_float_order (t : FxTy) (ok : t.Ok) (a b : Int) (ha : t.lo ≤ a ∧ a ≤ t.hi)
    (hb : t.lo ≤ b ∧ b ≤ t.hi) : le (toFloat t a) (toFloat t b) = true ↔ a ≤ b :=
  scaledInt_le (toFloat_scaledInt t ok a ha) (toFloat_scaledInt t ok b hb)

/-- "every fixed-point value converts to the documented floating-point type and back unchanged":
F2Dot14 / F4Dot12 / F6Dot10 through `f32`, Fixed / F26Dot6 through `f64`, every raw value. -/
theorem float_roundtrip (t : FxTy) (ok : t.Ok) (raw : Int) (h : t.lo ≤ raw ∧ raw ≤ t.hi) :
    fromFloat t (toFloat t raw) = raw := by
  rw [fromFloat_scaledInt t ok (toFloat_scaledInt t ok raw h), clampI_id _ _ _ h]

theorem f2dot14_f32_roundtrip (raw : Int) (h : inI16 raw) :
    fromFloat F2Dot14 (toFloat F2Dot14 raw) = raw :=
  float_roundtrip _ f2dot14_ok raw (by unfold inI16 at h; simp [F2Dot14]; omega)

theorem f4dot12_f32_roundtrip (raw : Int) (h : inI16 raw) :
    fromFloat F4Dot12 (toFloat F4Dot12 raw) = raw :=
  float_roundtrip _ f4dot12_ok raw (by unfold inI16 at h; simp [F4Dot12]; omega)

theorem f6dot10_f32_roundtrip (raw : Int) (h : inI16 raw) :
    fromFloat F6Dot10 (toFloat F6Dot10 raw) = raw :=
  float_roundtrip _ f6dot10_ok raw (by unfold inI16 at h; simp [F6Dot10]; omega)

theorem fixed_f64_roundtrip (raw : Int) (h : inI32 raw) :
    fromFloat Fixed (toFloat Fixed raw) = raw :=
  float_roundtrip _ fixed_ok raw (by unfold inI32 at h; simp [Fixed]; omega)

theorem f26dot6_f64_roundtrip (raw : Int) (h : inI32 raw) :
    fromFloat F26Dot6 (toFloat F26Dot6 raw) = raw :=
  float_roundtrip _ f26dot6_ok raw (by unfold inI32 at h; simp [F26Dot6]; omega)

/-- `Fixed::to_f32` / `F26Dot6::to_f32` (documented as lossy: the `i32 → f32` conversion keeps 24
significant bits) are exact for every `|raw| < 2^24`, i.e. for 16.16 values of magnitude below 256
and 26.6 values below 262144. -/
theorem to_f32_exact_below_2_24 (k : Nat) (hk : k ≤ 149) (raw : Int) (h : raw.natAbs < 2 ^ 24) :
    toF32Lossy k raw =
      if raw = 0 then .fin false 0 0 else .fin (decide (raw < 0)) raw.natAbs (-(k : Int)) := by
  unfold toF32Lossy
  rw [ofInt_exact f32 raw (by decide) (by decide) h]
  simp only [mulPow2, Int.zero_add]
  by_cases h0 : raw = 0
  · subst h0; simp [roundNE_zero]
  · rw [if_neg h0, roundNE_fits f32 _ (by omega) h (by show (-149 : Int) ≤ _; omega)
      (by show _ + (24 : Int) ≤ 128; omega)]

/-- … and not beyond: `Fixed(0x0100_0001).to_f32()` is `256.0`, one unit is lost, so
`Fixed → f32 → Fixed` is not the identity (the documented lossless type of `Fixed` is `f64`). -/
example : toF32Lossy 16 16777217 = .fin false 8388608 (-15)
    ∧ fromFloat Fixed (.fin false 8388608 (-15)) = 16777216 := by decide

/-! non-vacuity and the fixed defect -/

-- 1.75 → 0x7000; 2.0 saturates to 0x7FFF; -2.5 saturates to MIN; NaN → 0
example : fromFloat F2Dot14 (decode f32 0x3FE00000) = 0x7000
    ∧ fromFloat F2Dot14 (decode f32 0x40000000) = 32767
    ∧ fromFloat F2Dot14 (decode f32 0xC0200000) = -32768
    ∧ fromFloat F2Dot14 (decode f32 0x7FC00000) = 0 := by decide

-- the largest f32 below one half, scaled by 2^-14 (bits 0x37FFFFFF): the nearest 2.14 value is 0;
-- the pre-fix code (`x * ONE + 0.5` rounds up to 1.0) returned 1
example : decode f32 0x37FFFFFF = .fin false 16777215 (-39)
    ∧ fromFloatPreFix F2Dot14 (decode f32 0x37FFFFFF) = 1
    ∧ fromFloat F2Dot14 (decode f32 0x37FFFFFF) = 0
    ∧ IsRHA (scaledNum 14 false 16777215 (-39)) (scaledDen 14 (-39)) 0 := by decide

example : toFloat Fixed (-196608) = .fin true 3 0 ∧ toFloat Fixed 98305 = .fin false 98305 (-16) := by
  decide

end FontVerif.C15Float
