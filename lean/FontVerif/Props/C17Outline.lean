/-
C17 — drawn-outline preservation of the per-glyph rewrite (klippa/src/glyf_loca.rs `subset_glyph`,
`subset_simple_glyph`, `subset_composite_glyph`; model `FontVerif.Subset.subsetGlyphBytes`, Model/Subset.lean) stated
THROUGH C09's model of the read-fonts glyph reader (Model/Glyf.lean: `SimpleGlyph::read`, `points()` = `PointIter`,
`read_points_fast`, `CompositeGlyph::read`, `components()` = `ComponentIter`).

What the rewritten record decodes to is what the original record decodes to, with component glyph ids renamed by the
plan's glyph map: the outline of a kept glyph is preserved by construction, not only on the sampled fonts.
-/
import FontVerif.Lemmas.SubsetGlyphView
namespace FontVerif.C17Outline
open FontVerif.Subset FontVerif.SubsetOutline

/-- For every glyph record `d` (bytes < 256) with a non-negative contour count,
every flag combination (NO_HINTING, SET_OVERLAPS_FLAG, …) and every glyph map: if `subset_glyph` writes the glyph
non-empty, then read-fonts parses both records (`SimpleGlyph::read`), and the subset has the same contour count, bounding
box and contour end points, the same points — coordinates and on-curve flags, as yielded by `points()` (`PointIter` over
`resolve_coords_len`) —, its instructions are the original's (none under NO_HINTING), and `read_points_fast` (what skrifa
draws from; read-fonts after `fix:` d12a1b2, which widened its flag window to two bytes per point, see reports/C17.md)
answers the same on both.  Removing the padding after the
coordinate data and setting OVERLAP_SIMPLE on the first flag change none of these decoded values.  `pad` =
whatever follows the rewritten record inside its loca range (klippa's own alignment byte in the short loca format): it
is never read. -/
theorem subset_simple_glyph_decodes_equal (flags : Nat) (gmap : Nat → Option Nat) (d out pad : Bytes)
    (hb : ∀ b ∈ d, b < 256) (hs : u16At d 0 < 32768)
    (h : subsetGlyphBytes flags gmap d = .bytes out) (hne : out ≠ []) :
    ∃ v v', Glyf.readSimple d = some v ∧ Glyf.readSimple (out ++ pad) = some v' ∧
      v'.nContours = v.nContours ∧ v'.xMin = v.xMin ∧ v'.yMin = v.yMin ∧ v'.xMax = v.xMax ∧ v'.yMax = v.yMax ∧
      v'.endPts = v.endPts ∧
      v'.instructions = (if hasFlag flags F_NO_HINTING then [] else v.instructions) ∧
      v'.points = v.points ∧
      v'.readPointsFast = v.readPointsFast := by
  obtain ⟨v, v', h1, h2, e1, e2, e3, e4, e5, e6, e7, e8, e9, _⟩ := simple_decodes_equal flags gmap d out pad hb hs h hne
  exact ⟨v, v', h1, h2, e1, e2, e3, e4, e5, e6, e7, e8, e9⟩

/-- For every composite record, flag combination and glyph map: if
`subset_glyph` writes the glyph non-empty then read-fonts parses both records, the bounding box is unchanged, and the
component list of the subset (`components()`, i.e. `ComponentIter` — flags, glyph id, anchor = offsets or point numbers,
2x2 transform) is the original's component list with every glyph id replaced by its image under the glyph map (`as u16`)
— every component HAS an image —, anchors and transforms untouched, and flag words changed only by
`compFlags`: WE_HAVE_INSTRUCTIONS removed under NO_HINTING, OVERLAP_COMPOUND set on the first component under
SET_OVERLAPS_FLAG (see `component_flag_bits_kept`). -/
theorem subset_composite_glyph_decodes_equal (flags : Nat) (gmap : Nat → Option Nat) (d out : Bytes)
    (hs : ¬ u16At d 0 < 32768) (h : subsetGlyphBytes flags gmap d = .bytes out) (hne : out ≠ []) :
    ∃ v v', Glyf.readComposite d = some v ∧ Glyf.readComposite out = some v' ∧
      v'.xMin = v.xMin ∧ v'.yMin = v.yMin ∧ v'.xMax = v.xMax ∧ v'.yMax = v.yMax ∧
      mapComps flags gmap true v.components = some v'.components := by
  obtain ⟨v, v', h1, h2, e1, e2, e3, e4, e5, _⟩ := composite_decodes_equal flags gmap d out hs h hne
  exact ⟨v, v', h1, h2, e1, e2, e3, e4, e5⟩

/-- A composite record whose component list is complete (read-fonts read every
record: the last one it yields has no MORE_COMPONENTS — preserved by the rewrite, `component_flag_bits_kept`) decodes to
the same bounding box and components when anything is appended to it: the alignment byte `write_glyf_loca` adds after an
odd-length glyph in the short loca format is never read.  (For simple glyphs this is the `pad` parameter of
`subset_simple_glyph_decodes_equal`.)  With `loca_resolves_to_glyph_bytes` (Props/C17): what the subset's loca cuts out
for a kept glyph decodes to the renaming of what the original's record decodes to. -/
theorem composite_alignment_byte_never_read (out pad : Bytes) (h10 : 10 ≤ out.length)
    (hc : complete (Glyf.readComponents ((out.drop 10).length + 1) (out.drop 10))) :
    ∃ v v', Glyf.readComposite out = some v ∧ Glyf.readComposite (out ++ pad) = some v' ∧
      v'.xMin = v.xMin ∧ v'.yMin = v.yMin ∧ v'.xMax = v.xMax ∧ v'.yMax = v.yMax ∧ v'.components = v.components := by
  obtain ⟨v, v', h1, h2, e1, e2, e3, e4, c1, c2⟩ := readComposite_header out (out ++ pad) h10
    (by rw [List.length_append]; omega) (fun j hj => getD_append_left' out pad j (by omega))
  refine ⟨v, v', h1, h2, e1, e2, e3, e4, ?_⟩
  -- the longer record gives the reader more fuel, which it does not need
  have hfuel := readComponents_fuel ((out.drop 10).length + 1) ((out.drop 10 ++ pad).length + 1) (out.drop 10)
    (by omega) (by rw [List.length_append]; omega)
  rw [c1, c2, List.drop_append_of_le_length h10, readComponents_append _ _ pad (by rw [hfuel]; exact hc), hfuel]

/-- What `mapComps` means, component by component: same number of components; the
k-th component of the subset is the k-th of the original with its glyph id mapped and its flag word passed through
`compFlags` (position 10 = first component). -/
theorem components_renamed_pointwise (flags : Nat) (gmap : Nat → Option Nat) (first : Bool)
    (cs cs' : List Glyf.RComponent) (h : mapComps flags gmap first cs = some cs') :
    cs'.length = cs.length ∧
    ∀ k, k < cs.length → ∃ c n, cs[k]? = some c ∧ gmap c.glyph = some n ∧
      cs'[k]? = some { c with flags := compFlags flags (if first && k == 0 then 10 else 0) c.flags, glyph := n % 65536 } := by
  induction cs generalizing first cs' with
  | nil =>
    simp only [mapComps, Option.some.injEq] at h
    subst h
    exact ⟨rfl, fun k hk => by simp at hk⟩
  | cons c cs ih =>
    unfold mapComps at h
    split at h
    · rename_i n rest hn hrest
      simp only [Option.some.injEq] at h
      subst h
      obtain ⟨hl, hk⟩ := ih false rest hrest
      refine ⟨by simp [hl], fun k hklt => ?_⟩
      cases k with
      | zero => exact ⟨c, n, rfl, hn, by cases first <;> simp⟩
      | succ k =>
        obtain ⟨c', n', h1, h2, h3⟩ := hk k (by simp at hklt; omega)
        exact ⟨c', n', by simpa using h1, h2, by simp [h3]⟩
    · cases h

/-- The flag rewrite keeps every bit that positions or draws a component:
ARG_1_AND_2_ARE_WORDS, ARGS_ARE_XY_VALUES, ROUND_XY_TO_GRID, the three scale bits, MORE_COMPONENTS, USE_MY_METRICS,
SCALED_COMPONENT_OFFSET, UNSCALED_COMPONENT_OFFSET (any mask inside 0x1EEF without 0x0400), for every flag word as
read-fonts yields it (`from_bits_truncate`). -/
theorem component_flag_bits_kept (flags i x m : Nat) (hm : 0x1EEF &&& m = m ∧ 0x0400 &&& m = 0) :
    Glyf.hasBit (compFlags flags i (x &&& COMPOSITE_KNOWN_BITS)) m = Glyf.hasBit (x &&& COMPOSITE_KNOWN_BITS) m :=
  hasBit_compFlags flags i _ m hm

/-- Both cases in one statement: whenever `subset_glyph` writes a glyph non-empty, the
written record decodes (contours, end points, points with on-curve flags, bounding box / components with anchors and
transforms) to the glyph-id renaming of what the original record decodes to. -/
theorem subset_glyph_decodes_equal (flags : Nat) (gmap : Nat → Option Nat) (d out : Bytes)
    (hb : ∀ b ∈ d, b < 256) (h : subsetGlyphBytes flags gmap d = .bytes out) (hne : out ≠ []) :
    ∃ g g', decodeGlyph d = some g ∧ decodeGlyph out = some g' ∧ renameDecoded flags gmap g = some g' := by
  by_cases hs : u16At d 0 < 32768
  · obtain ⟨v, v', h1, h2, e1, e2, e3, e4, e5, e6, _, e8, _, hh⟩ := simple_decodes_equal flags gmap d out [] hb hs h hne
    rw [List.append_nil] at h2
    have hs' : u16At out 0 < 32768 := by rw [u16At_head out d hh]; exact hs
    refine ⟨.simple v.nContours v.xMin v.yMin v.xMax v.yMax v.endPts v.points,
      .simple v'.nContours v'.xMin v'.yMin v'.xMax v'.yMax v'.endPts v'.points, ?_, ?_, ?_⟩
    · unfold decodeGlyph; simp only [hs, if_true, h1, Option.map_some]
    · unfold decodeGlyph; simp only [hs', if_true, h2, Option.map_some]
    · simp only [renameDecoded, e1, e2, e3, e4, e5, e6, e8]
  · obtain ⟨v, v', h1, h2, e2, e3, e4, e5, hm, hh⟩ := composite_decodes_equal flags gmap d out hs h hne
    have hs' : ¬ (u16At out 0 < 32768) := by rw [u16At_head out d hh]; exact hs
    refine ⟨.composite v.xMin v.yMin v.xMax v.yMax v.components,
      .composite v'.xMin v'.yMin v'.xMax v'.yMax v'.components, ?_, ?_, ?_⟩
    · unfold decodeGlyph; simp only [hs, if_false, h1, Option.map_some]
    · unfold decodeGlyph; simp only [hs', if_false, h2, Option.map_some]
    · simp only [renameDecoded, hm, Option.map_some, e2, e3, e4, e5]

/-- The other direction for simple glyphs: a record with at least one
contour that read-fonts parses is written EMPTY by `subset_glyph` only if read-fonts' checked point reader
(`points()`: `resolve_coords_len` + the length check) yields no points for it — the flag runs do not cover exactly the
point count (too few flags, a repeat run that overshoots, a repeat flag without its count) or the coordinate bytes are
cut short.  (The lenient `read_points_fast` clamps an overshooting repeat run and still draws such a record: known
finding `C17-repeat-overshoot-glyph-emptied`, behaviour copied from HarfBuzz's `trim_padding`.) -/
theorem simple_glyph_emptied_only_if_undecodable (flags : Nat) (gmap : Nat → Option Nat) (d : Bytes)
    (hs : u16At d 0 < 32768) (hnc : u16At d 0 ≠ 0) (h : subsetGlyphBytes flags gmap d = .bytes []) :
    ∃ v, Glyf.readSimple d = some v ∧ v.points = [] := by
  obtain ⟨hdr, instr, gd, x, y, nc, hd, hhl, hlt, hh0, hil, hsub⟩ := simple_record flags gmap d [] hs h
  have hnc' : nc ≠ 0 := by
    rw [← hh0, ← sU16At_append_left hdr (x :: y :: (instr ++ gd)) 0 (by omega), ← hd]; exact hnc
  have hg0 : Glyf.u16At hdr 0 = some nc := by rw [gu16_eq hdr 0 (by omega), hh0]
  refine ⟨_, by rw [hd]; exact readSimple_parts hdr instr gd nc x y hhl hg0 hlt hil, ?_⟩
  -- the trim walk failed, or asks for more bytes than there are
  rw [hd, subsetSimple_eq flags hdr instr gd x y nc hhl hnc' hil] at hsub
  generalize hlast : u16At hdr (10 + 2 * (nc - 1)) = last at hsub
  have hk : trimSimpleGlyphPadding gd (last + 1) = 0 ∨ gd.length < trimSimpleGlyphPadding gd (last + 1) := by
    apply Classical.byContradiction
    intro hk
    rw [if_neg hk] at hsub
    have := congrArg List.length (GlyphRes.bytes.inj hsub)
    rw [List.length_append] at this
    simp only [List.length_nil] at this
    omega
  unfold Glyf.SimpleView.points
  rw [viewOf_last hdr instr gd nc hhl hnc', hlast]
  simp only
  split
  · rfl
  -- whenever read-fonts resolves the flags, the trim walk succeeds with the same three lengths
  cases hres : Glyf.resolveCoordsLen (viewOf hdr instr gd nc).glyphData 0 (last + 1) 0 0 with
  | none => rfl
  | some r =>
    obtain ⟨fl, xl, yl⟩ := r
    have hk0 := trimGo_ne_zero_of_resolve (last + 1) gd 0 0 0 0 _ 0 0 _ (by omega) (by omega) hres
    obtain ⟨R, hok, ⟨M, hM⟩, hcnt, hkk⟩ := trimGo_spec _ gd 0 0 0 _ rfl hk0
    rw [coordTot_eq] at hkk
    have hres2 := resolve_runs R M 0 0 0 hok
    rw [hM, show counts R = last + 1 by unfold counts; omega] at hres2
    rw [show (viewOf hdr instr gd nc).glyphData = gd from rfl, hres2] at hres
    simp only [Option.some.injEq, Prod.mk.injEq] at hres
    have hshort : gd.length < fl + xl + yl := by
      rcases hk with hk | hk
      · exact absurd hk hk0
      · unfold trimSimpleGlyphPadding at hk; omega
    simp only [show (viewOf hdr instr gd nc).glyphData = gd from rfl, hshort, if_true]

/-- The other direction for composites (klippa after fix
0b24b65): if read-fonts reads the component list completely (`complete`: the last component it yields has no
MORE_COMPONENTS, i.e. no record was cut off) and every component glyph has an image under the glyph map — what the
closure theorems of Props/C17 give, whenever no limit fired, for `componentsOfRecord`, the subsetter model's transcription
of the same read-fonts iterator; that the two transcriptions agree is not proved — then `subset_glyph` writes the glyph NON-empty, for
every flag combination, whatever follows the last component (instructions, missing instructions, padding).  Together
with `subset_composite_glyph_decodes_equal`: such a glyph keeps its component list up to the renaming. -/
theorem composite_glyph_not_emptied_when_components_mapped (flags : Nat) (gmap : Nat → Option Nat) (d : Bytes)
    (hlen : 10 ≤ d.length) (hs : ¬ u16At d 0 < 32768)
    (hc : complete (Glyf.readComponents ((d.drop 10).length + 1) (d.drop 10)))
    (hm : ∀ c ∈ Glyf.readComponents ((d.drop 10).length + 1) (d.drop 10), (gmap c.glyph).isSome) :
    ∃ out, subsetGlyphBytes flags gmap d = .bytes out ∧ out ≠ [] := by
  have hloop := compLoop_succeeds flags gmap d.length ((d.drop 10).length + 1) (d.length + 1) d 10 false rfl
    (by simp only [List.length_drop]; omega) hc hm
  obtain ⟨⟨full, i, whi⟩, hl⟩ := Option.isSome_iff_exists.mp hloop
  obtain ⟨hfl, hiend, _⟩ := (compLoop_walk _ _ _ _ _ _ _ _ hl).frame
  have hcut := le_compCut flags d.length full i whi
  refine ⟨subsetComposite flags gmap d, ?_, fun h0 => ?_⟩
  · rw [subsetGlyphBytes_composite flags gmap d hs, if_neg (by omega)]
  · -- the kept prefix reaches at least to the end of the first component
    rw [subsetComposite_eq, hl] at h0
    have := congrArg List.length h0
    simp only [List.length_take, List.length_nil] at this hfl hiend
    omega

/-- Re-subsetting idempotence of the per-glyph rewrite, simple glyphs: a record
that `subset_glyph` wrote non-empty is a fixed point of `subset_glyph` under the same flags (and any glyph map — simple
glyphs do not consult it): nothing is left to trim, the instruction length is already 0 under NO_HINTING, the overlap bit
is already set under SET_OVERLAPS_FLAG. -/
theorem resubset_simple_glyph_unchanged (flags : Nat) (gmap gmap' : Nat → Option Nat) (d out : Bytes)
    (hs : u16At d 0 < 32768) (h : subsetGlyphBytes flags gmap d = .bytes out) (hne : out ≠ []) :
    subsetGlyphBytes flags gmap' out = .bytes out := by
  obtain ⟨S, extra, _, hout⟩ := SimpleRec.of_kept flags gmap d out hs h hne
  rw [hout, SimpleRec.subset_bytes, SimpleRec.sub_sub]

/-- Re-subsetting idempotence of the per-glyph rewrite, composites: a composite
that `subset_glyph` wrote non-empty is a fixed point of `subset_glyph` under the same flags and every second glyph map
that fixes the new glyph ids the first run wrote (the identity plan of a re-subset, see `plan_everything_identity`):
the flag rewrite is idempotent, the component ids map to themselves, the record is cut at the same place.
Together with `resubset_simple_glyph_unchanged`: the glyf bytes of a kept glyph do not change when a subset is subset
again with the same flags and a glyph map that satisfies `hid`. -/
theorem resubset_composite_glyph_unchanged (flags : Nat) (gmap gmap' : Nat → Option Nat) (d out : Bytes)
    (hs : ¬ u16At d 0 < 32768) (h : subsetGlyphBytes flags gmap d = .bytes out) (hne : out ≠ [])
    (hid : ∀ o n, gmap o = some n → gmap' (n % 65536) = some (n % 65536)) :
    subsetGlyphBytes flags gmap' out = .bytes out := by
  obtain ⟨h10, full, i, whi, hwalk, hout⟩ := composite_kept flags gmap d out hs h hne
  obtain ⟨hfl, hiend, hfr⟩ := hwalk.frame
  have hcut := le_compCut flags d.length full i whi
  simp only at hfl hiend hfr
  have holen : out.length = min (compCut flags d.length full i whi) d.length := by rw [hout, List.length_take, hfl]
  have hs' : ¬ (u16At out 0 < 32768) := by
    rw [u16At_head out d (fun j hj => by rw [hout, getD_take _ _ (by omega), hfr j (by omega)])]; exact hs
  -- the second walk ends where the first did, having written nothing
  obtain ⟨whi2, hw2, hwhi⟩ := walk_second hwalk hid rfl _ hcut false
  rw [← hout] at hw2
  have hrun := hw2.run (out.length + 1) (by omega)
  rw [subsetGlyphBytes_composite flags gmap' out hs', if_neg (by omega), subsetComposite_eq, hrun]
  simp only
  have hc2 : compCut flags out.length out i whi2 = compCut flags d.length full i whi := by
    by_cases hnh : hasFlag flags F_NO_HINTING = true
    · rw [compCut_drop (Or.inl hnh), compCut_drop (Or.inl hnh)]
    have hnh' : hasFlag flags F_NO_HINTING = false := by simpa using hnh
    rw [hwhi hnh' rfl]
    cases whi with
    | false => rw [compCut_drop (Or.inr rfl), compCut_drop (Or.inr rfl)]
    | true =>
      rw [compCut_instr hnh'] at holen ⊢
      rw [compCut_instr hnh']
      by_cases hge : i + 1 ≥ d.length
      · rw [if_pos hge] at holen ⊢; rw [if_pos (by omega)]
      · rw [if_neg hge] at holen ⊢
        rw [if_neg (by omega), hout, u16At_take _ _ _ (by rw [compCut_instr hnh', if_neg hge]; omega)]
  rw [hc2, hout, List.take_take, Nat.min_self]

/-- The instruction handling of `subset_composite_glyph`, byte level, for every
composite the subsetter keeps (written non-empty), every flag combination and glyph map.  Let `i` be where the component walk
ends (the first byte after the last component record: 4 bytes + 2 / 4 argument bytes + 0 / 2 / 4 / 8 transform bytes per
component, by its flag word) and `whi` = some component carried WE_HAVE_INSTRUCTIONS.  The walk writes only flag words and
glyph ids inside the component records (`components_remapped`, `subset_composite_glyph_decodes_equal`): every byte from `i`
on is the source's.  Then
* under NO_HINTING, or when no component has WE_HAVE_INSTRUCTIONS: the record is cut at `i` — the instructions are dropped
  exactly then;
* otherwise, when the instruction length word fits (`i + 1 < len`): everything before `i` is the rewritten component list
  and the tail is EXACTLY the source's `2 + instructionLength` bytes at `i` (length word + instructions; fewer only if the
  record is shorter) — the instructions are preserved byte for byte;
* otherwise (no room for the length word, fix 0b24b65): the record is kept up to `i`. -/
theorem composite_instruction_tail_preserved (flags : Nat) (gmap : Nat → Option Nat) (d out : Bytes)
    (h : subsetComposite flags gmap d = out) (hne : out ≠ []) :
    ∃ full i whi, compLoop flags gmap d.length (d.length + 1) d 10 false = some (full, i, whi) ∧
      full.length = d.length ∧ (∀ j, i ≤ j → full.getD j 0 = d.getD j 0) ∧
      (hasFlag flags F_NO_HINTING = true → out = full.take i) ∧
      (whi = false → out = full.take i) ∧
      (hasFlag flags F_NO_HINTING = false → whi = true → i + 1 < d.length →
        out.take i = full.take i ∧ out.drop i = (d.drop i).take (2 + u16At d i)) ∧
      (hasFlag flags F_NO_HINTING = false → whi = true → ¬ (i + 1 < d.length) → out = full.take i) := by
  obtain ⟨full, i, whi, hloop, hout⟩ := subsetComposite_kept flags gmap d out h hne
  obtain ⟨hfl, _, hfr⟩ := (compLoop_walk _ _ _ _ _ _ _ _ hloop).frame
  have htail : ∀ j, i ≤ j → full.getD j 0 = d.getD j 0 := fun j hj => hfr j (Or.inr hj)
  refine ⟨full, i, whi, hloop, hfl, htail, fun hnh => ?_, fun hw => ?_, fun hnh hw hlt => ?_, fun hnh hw hlt => ?_⟩
  · rw [hout, compCut_drop (Or.inl hnh)]
  · rw [hout, compCut_drop (Or.inr hw)]
  · have hu : u16At full i = u16At d i := u16At_congr _ _ _ (htail i (Nat.le_refl _)) (htail (i + 1) (by omega))
    rw [hw, compCut_instr hnh, if_neg (by omega), hu, Nat.add_assoc] at hout
    subst hout
    exact ⟨by rw [List.take_take]; congr 1; omega, drop_take_congr full d i _ hfl htail⟩
  · rw [hout, hw, compCut_instr hnh, if_pos (by omega)]

/-- a 1-contour glyph with 3 points (flag 0x37 repeated twice: short positive x and y deltas), one instruction byte
and two bytes of padding; NO_HINTING + SET_OVERLAPS_FLAG: instructions dropped, padding trimmed, bit 0x40 set -/
def exSimple : Bytes := [0, 1, 0, 0, 0, 0, 0, 9, 0, 9, 0, 2, 0, 1, 0xB0, 0x3F, 2, 1, 2, 3, 4, 5, 6, 0, 0]

example : subsetGlyphBytes 0x11 (fun _ => none) exSimple =
    .bytes [0, 1, 0, 0, 0, 0, 0, 9, 0, 9, 0, 2, 0, 0, 0x7F, 2, 1, 2, 3, 4, 5, 6] := by decide +kernel

example : decodeGlyph exSimple =
    some (.simple 1 0 0 9 9 [2] [⟨1, 4, true⟩, ⟨3, 9, true⟩, ⟨6, 15, true⟩]) := by decide +kernel

example : decodeGlyph [0, 1, 0, 0, 0, 0, 0, 9, 0, 9, 0, 2, 0, 0, 0x7F, 2, 1, 2, 3, 4, 5, 6] =
    some (.simple 1 0 0 9 9 [2] [⟨1, 4, true⟩, ⟨3, 9, true⟩, ⟨6, 15, true⟩]) := by decide +kernel

/-- two components (5 with byte offsets + USE_MY_METRICS + MORE_COMPONENTS, 7 with word offsets and a scale +
WE_HAVE_INSTRUCTIONS), two instruction bytes, padding; glyph map 5 ↦ 2, 7 ↦ 3 -/
def exComposite : Bytes :=
  [0xFF, 0xFF, 0, 0, 0, 0, 0, 9, 0, 9, 0x02, 0x22, 0, 5, 1, 0xFF, 0x01, 0x0B, 0, 7, 0, 100, 0xFF, 0xFE, 0x20, 0x00, 0, 2, 0xB0, 0xB1, 0, 0]

def exMap : Nat → Option Nat := fun g => if g = 5 then some 2 else if g = 7 then some 3 else none

example : subsetGlyphBytes 0 exMap exComposite = .bytes (exComposite.take 30 |>.set 13 2 |>.set 19 3) := by decide +kernel

example : (decodeGlyph exComposite).bind (renameDecoded 0 exMap) =
    decodeGlyph (exComposite.take 30 |>.set 13 2 |>.set 19 3) := by decide +kernel

example : decodeGlyph exComposite = some (.composite 0 0 9 9
    [⟨0x0222, 5, .offset 1 (-1), ⟨16384, 0, 0, 16384⟩⟩, ⟨0x010B, 7, .offset 100 (-2), ⟨8192, 0, 0, 8192⟩⟩]) := by decide +kernel

/-- the hypotheses of `composite_glyph_not_emptied_when_components_mapped` hold for `exComposite` / `exMap`, also when
the record is cut right after its last component although that component says WE_HAVE_INSTRUCTIONS -/
example : (Glyf.readComponents 23 (exComposite.drop 10)).getLast?.map (fun c => Glyf.hasBit c.flags Glyf.MORE_COMPONENTS) =
    some false := by decide +kernel

example : (Glyf.readComponents 23 (exComposite.drop 10)).all (fun c => (exMap c.glyph).isSome) = true := by decide +kernel

example : subsetGlyphBytes 0 exMap (exComposite.take 26) = .bytes ((exComposite.take 26).set 13 2 |>.set 19 3) := by decide +kernel

/-- `resubset_composite_glyph_unchanged` has instances (identity second map) -/
example : subsetGlyphBytes 0 (fun g => some g) (exComposite.take 30 |>.set 13 2 |>.set 19 3) =
    .bytes (exComposite.take 30 |>.set 13 2 |>.set 19 3) := by decide +kernel

/-- flag arrays longer than the point count (repeat runs of count 0) are decoded by both readers -/
example : (Glyf.readSimple [0, 1, 0, 0, 0, 0, 1, 244, 1, 244, 0, 2, 0, 0, 0x3F, 0, 0x3F, 0, 0x3F, 0, 1, 2, 3, 4, 5, 6]).map
    (fun v => (v.points, v.readPointsFast)) =
    some ([⟨1, 4, true⟩, ⟨3, 9, true⟩, ⟨6, 15, true⟩], some [(1, 4, 1), (3, 9, 1), (6, 15, 1)]) := by decide +kernel

/-- `simple_glyph_emptied_only_if_undecodable` has instances: 4 points, one repeat run of 5 -/
example : subsetGlyphBytes 0 (fun _ => none) [0, 1, 0, 0, 0, 0, 0, 9, 0, 9, 0, 3, 0, 0, 0x3F, 4, 1, 2, 3, 4, 5, 6, 7, 8, 0, 0] =
    .bytes [] := by decide +kernel

/-- `composite_instruction_tail_preserved` on `exComposite` (walk ends at 26, 2 instruction bytes B0 B1, 2 padding bytes):
kept without NO_HINTING, dropped with it -/
example : (subsetComposite 0 exMap exComposite).drop 26 = [0, 2, 0xB0, 0xB1] := by decide +kernel
example : (subsetComposite 1 exMap exComposite).length = 26 := by decide +kernel

end FontVerif.C17Outline
