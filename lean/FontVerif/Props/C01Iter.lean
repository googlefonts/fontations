/-
C01 (hand-written iterators) — the iterators of read-fonts that walk font-controlled counts
terminate, with explicit bounds on the number of loop trips and of yielded items, and never hit an
arithmetic trap.  Model: Model/ReadIter.lean ⇄ read-fonts/src/tables/{cmap,variations}.rs,
array.rs, read.rs; generic machinery (`run_bounded`, `yields_le`): Lemmas/ReadIter.lean.

The iterator theorems are of the form "for every input, the model's fuel-driven run returns `some evs`
(the fuel always suffices = the loop terminates), `evs.length ≤ bound` (trips round the loop),
`trapped evs = false`"; `packedPoints_totalLen_total`, `countAllDeltas_total`, `skipFast_total` say of a loop
of the model that it returns `some` (its `none` is running out of fuel or an overflow), `groupEnd_limited`
bounds a group length.  The correspondence harness compares `evs` (items and trip counts) with the real
iterators.
-/
import FontVerif.Lemmas.ReadIterBounds
namespace FontVerif.C01Iter
open FontVerif.ReadIter

/-- **`Cmap4Iter` terminates, never traps, and is bounded**: for every format-4 subtable (arrays of
any lengths holding 16-bit values) `cmap4.iter()` finishes after at most `65536 + segCount` trips
round the loop of `next` — the fuel `Cmap4.fuel` of the model always suffices —, never reaches the
`codepoint - start_code` underflow of `lookup_glyph_id`, and yields at most 65536 pairs.  The clamp
`next.start.max(cur.end)` is what makes this true. -/
theorem cmap4_iter_bounded (t : Cmap4) (hwf : t.wf = true) :
    ∃ evs, t.trace = some evs ∧ evs.length ≤ 65536 + t.segCount ∧ trapped evs = false ∧
      (items evs).length ≤ 65536 := by
  have hf := step4_facts t hwf
  have h0 := inv4_init t hwf
  have hmu := mu4_init t hwf
  obtain ⟨evs, he, hl, ht⟩ := run_bounded t.step (mu4 t) Inv4
    (fun s hi => ⟨(hf s hi).1, (hf s hi).2.1, (hf s hi).2.2.1⟩) t.fuel t.init h0 (by unfold Cmap4.fuel; omega)
  have hy := yields_le t.step nu4 Inv4 (fun s hi => (hf s hi).1) (fun s a hi => (hf s hi).2.2.2.1 a)
    (fun s hi => (hf s hi).2.2.2.2) _ _ _ h0 he
  unfold Inv4 at h0
  unfold nu4 at hy
  exact ⟨evs, he, by omega, ht, by omega⟩

/-- **`Cmap12Iter` terminates and is bounded** (with or without `Cmap12IterLimits`): for every list
of groups the iterator finishes after at most `Σ len + #groups` trips round the loop of `next`
(`fuel12` always suffices) and yields at most `Σ len` pairs, where `len` is the length of a group's
codepoint range after the limits were applied (`groupEnd`) — the clamp of an overlapping group's
start to the previous group's end can only shorten a range. -/
theorem cmap12_iter_bounded (gs : List Group) (lim : Option Limits) :
    ∃ evs, trace12 gs lim = some evs ∧ evs.length ≤ groupLenSum gs lim + gs.length ∧
      trapped evs = false ∧ (items evs).length ≤ groupLenSum gs lim := by
  have h0 := init12_nu gs lim
  have hmu : mu12 gs lim (init12 gs lim) ≤ groupLenSum gs lim + gs.length := by
    unfold mu12; simp only [init12] at h0 ⊢; omega
  have hf := step12_facts gs lim
  obtain ⟨evs, he, hl, ht⟩ := run_bounded (step12 gs lim) (mu12 gs lim) (fun _ => True)
    (fun s _ => ⟨trivial, (hf s).1, (hf s).2.1⟩) (fuel12 gs lim) (init12 gs lim) trivial (by unfold fuel12; omega)
  have hy := yields_le (step12 gs lim) (nu12 gs lim) (fun _ => True) (fun _ _ => trivial)
    (fun s a _ => (hf s).2.2.1 a) (fun s _ => (hf s).2.2.2) _ _ _ trivial he
  exact ⟨evs, he, by omega, ht, by omega⟩

/-- with limits every group is cut to at most `min(max_char + 1, glyph_count)` codepoints -/
theorem groupEnd_limited (g : Group) (l : Limits) :
    groupEnd g (some l) - g.startChar ≤ min (l.maxChar + 1) l.glyphCount := by
  unfold groupEnd
  simp only []
  omega

/-- **`VarLenArray::iter` terminates within `len` items**: every call of the closure either stops or
consumes at least one byte of the remaining data, so the iterator makes at most `data.len()` trips
(and the model's fuel `len + 1` always suffices) — the "time proportional to the input" clause for
variable-length arrays. -/
theorem varlen_iter_bounded (k : VarKind) (hk : VarKind.ok k) (d : List Nat) :
    ∃ evs, varIterTrace k d = some evs ∧ evs.length ≤ d.length ∧ trapped evs = false := by
  have hdec : ∀ s : List Nat, True → (varIterStep k s).1 ≠ .done → (varIterStep k s).2.length < s.length := by
    intro s _ hnd
    unfold varIterStep at hnd ⊢
    by_cases he : s.isEmpty = true
    · simp [he] at hnd
    · simp only [he] at hnd ⊢
      have hne : s ≠ [] := by intro h; subst h; simp at he
      cases hl : readLenAt k s 0 with
      | none => simp [hl] at hnd
      | some l =>
        simp only [hl] at hnd ⊢
        have := readLenAt_pos hk hne hl
        by_cases hle : l ≤ s.length
        · simp only [hle, if_true, Bool.false_eq_true, if_false, List.length_drop]
          have : 0 < s.length := List.length_pos_iff.mpr hne
          omega
        · simp [hle] at hnd
  have hnt : ∀ s : List Nat, True → (varIterStep k s).1 ≠ .trap := by
    intro s _
    unfold varIterStep
    split
    · simp
    · split
      · simp
      · split <;> simp
  exact run_bounded (varIterStep k) List.length (fun _ => True) (fun s h => ⟨trivial, hnt s h, hdec s h⟩)
    (d.length + 1) d trivial (by omega)

/-- **`ComputedArray::iter` terminates after `len` items**, `len = data.len() / item_len` (0 for a
zero item length, `checked_div`). -/
theorem computed_iter_bounded (dataLen itemLen : Nat) :
    ∃ evs, run (computedIterStep dataLen itemLen) (computedLen dataLen itemLen + 1) 0 = some evs ∧
      evs.length ≤ computedLen dataLen itemLen ∧ computedLen dataLen itemLen ≤ dataLen ∧ trapped evs = false := by
  let L := computedLen dataLen itemLen
  have hstep : ∀ s, s ≤ L → (computedIterStep dataLen itemLen s).2 ≤ L ∧
      (computedIterStep dataLen itemLen s).1 ≠ .trap ∧
      ((computedIterStep dataLen itemLen s).1 ≠ .done → L - (computedIterStep dataLen itemLen s).2 < L - s) := by
    intro s hs
    unfold computedIterStep
    by_cases h : s = computedLen dataLen itemLen
    · rw [if_pos h]; exact ⟨hs, nofun, fun hnd => absurd rfl hnd⟩
    · rw [if_neg h]
      have : s < L := Nat.lt_of_le_of_ne hs h
      by_cases h2 : itemLen * s ≤ dataLen
      · rw [if_pos h2]; exact ⟨this, nofun, fun _ => by show L - (s + 1) < L - s; omega⟩
      · rw [if_neg h2]; exact ⟨this, nofun, fun hnd => absurd rfl hnd⟩
  obtain ⟨evs, he, hl, ht⟩ := run_bounded (computedIterStep dataLen itemLen) (fun s => L - s) (fun s => s ≤ L)
    hstep (L + 1) 0 (Nat.zero_le _) (by omega)
  exact ⟨evs, he, by simpa using hl, computedLen_le dataLen itemLen, ht⟩

/-- **`PackedPointNumbers::total_len` terminates without trapping**: the `while n_seen < n_points`
loop runs at most `n_points ≤ 32767` times and the `u16` addition `n_seen += count` cannot overflow
(`n_seen < 32767`, `count ≤ 128`). -/
theorem packedPoints_totalLen_total (d : List Nat) : ∃ r, totalLen d = some r :=
  totalLen_some d

/-- **`PackedPointNumbersIter` terminates, never traps, and yields at most 65535 numbers**: the bound of the
"all points" form, which counts up to `u16::MAX` and stops at the `checked_add` (an explicit count is smaller,
at most 32767; the statement gives the common bound only). -/
theorem packedPoints_iter_bounded (d : List Nat) :
    ∃ evs, ptTrace d = some evs ∧ evs.length ≤ 65535 ∧ trapped evs = false := by
  have hmu := muPt_init_le d
  obtain ⟨evs, he, hl, ht⟩ := run_bounded (ptNext d) muPt (fun s => s.seen ≤ s.count)
    (fun s hi => ⟨(ptNext_facts d s hi).1, (ptNext_facts d s hi).2.1, (ptNext_facts d s hi).2.2.1⟩) ptFuel (ptInit d) (by simp [ptInit])
    (by unfold ptFuel; omega)
  exact ⟨evs, he, by omega, ht⟩

/-- **`count_all_deltas` terminates** (one control byte per trip, the offset strictly increases) and
counts at most 64 deltas per byte of data. -/
theorem countAllDeltas_total (d : List Nat) : ∃ r, countAllDeltas d = some r ∧ r ≤ 64 * d.length := by
  obtain ⟨r, hr, hb⟩ := countAllLoop_some d (d.length + 1) 0 0 (by omega)
  exact ⟨r, hr, by omega⟩

/-- **`PackedDeltas::consume_all(data).iter()` terminates within 64 trips per byte of data**: its limit
is `count_all_deltas(data)`, at most 64 per byte, and the `DeltaRunIter` limit strictly decreases on
every call of `next` that returns `Some`. -/
theorem packedDeltas_iter_bounded (d : List Nat) :
    ∃ evs, consumeAllIter d = some evs ∧ evs.length ≤ 64 * d.length ∧ trapped evs = false := by
  obtain ⟨c, hc, hb⟩ := countAllDeltas_total d
  unfold consumeAllIter
  rw [hc]
  simp only []
  obtain ⟨evs, he, hl, ht⟩ := run_bounded (dlNext d) muDl (fun s => s.limit.isSome) (dlNext_facts d)
    (dlFuel d) (dlInit (some c)) (by simp [dlInit]) (by simp [muDl, dlInit, dlFuel]; omega)
  refine ⟨evs, he, ?_, ht⟩
  simp [muDl, dlInit] at hl
  omega

/-- **`DeltaRunIter::skip_fast` terminates**: every trip round its loop reads one control byte at a
strictly larger cursor position, so `len + 2` trips always suffice. -/
theorem skipFast_total (d : List Nat) (n : Nat) (s : DlSt) : ∃ r, skipFast d n s = some r :=
  skipFastLoop_some d n _ _ s (by omega)

/-- **`TupleVariation::deltas()` (`TupleDeltaIter`, gvar and cvar) terminates without trapping** on
every serialized tuple (private packed points followed by packed deltas, arbitrary bytes): the
set-up (`total_len`, `count_all_deltas`, `skip_fast`) completes, and the `loop` of `next` makes at
most `128·len + 131204` trips — every trip either consumes a point number (≤ 65535 of them), or
advances `cur` towards the next point (`≤ u16::MAX`), or consumes a delta (≤ 64 per byte). -/
theorem tupleDeltas_iter_bounded (ser : List Nat) (isPoint : Bool) :
    ∃ evs, tdTrace ser isPoint = some evs ∧ evs.length ≤ 128 * ser.length + 131204 ∧ trapped evs = false := by
  obtain ⟨dd, s0, hinit, hdd, hinv, hmu⟩ := tdInit_some ser isPoint
  unfold tdTrace
  rw [hinit]
  obtain ⟨evs, he, hl, ht⟩ := run_bounded (tdStep ser dd) muTd TdInv (tdStep_facts ser dd) (tdFuel dd) s0 hinv hmu
  unfold tdFuel at hmu
  exact ⟨evs, he, by omega, ht⟩

/-- two overlapping segments `[10,20]`, `[15,30]` (delta 1) and the closing `0xFFFF` segment: the clamp makes
the iterator yield each of the 21 codepoints 10..30 once, then 0xFFFF (22 pairs) -/
def exCmap4 : Cmap4 :=
  { endCode := [20, 30, 65535], startCode := [10, 15, 65535], idDelta := [1, 1, 1],
    idRangeOffset := [0, 0, 0], glyphIdArray := [] }

example : exCmap4.wf = true := by decide

example : exCmap4.iter.length = 22 := by decide +kernel

example : exCmap4.iter.head? = some (10, 11) := by decide +kernel

example : iter12 [⟨5, 9, 100⟩, ⟨7, 12, 200⟩] none = [(5, 100), (6, 101), (7, 102), (8, 103), (9, 104),
    (10, 203), (11, 204), (12, 205)] := by decide +kernel

example : groupLenSum [⟨5, 9, 100⟩, ⟨7, 12, 200⟩] none = 11 := by decide

example : VarKind.ok (.plain 1) := by simp [VarKind.ok]

example : (varIterTrace (.plain 1) [2, 65, 66, 0, 1, 67]).map (·.length) = some 3 := by decide +kernel

example : (ptTrace [3, 2, 1, 2, 3]).map items = some [1, 3, 6] := by decide +kernel

example : countAllDeltas [0x03, 1, 2, 3, 4, 0x81] = some 6 := by decide +kernel
/-- two private points (1, 3) with x/y deltas: the gvar iterator yields both -/
example : (tdTrace [2, 1, 1, 2, 0x03, 10, 20, 30, 40] true).map items = some [(1, 10, 30), (3, 20, 40)] := by
  decide +kernel

end FontVerif.C01Iter
