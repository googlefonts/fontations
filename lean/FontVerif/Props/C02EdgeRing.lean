/-
C02 — the `edge_next_ix` ring of an autohinter edge (Model/EdgeRing.lean) is a ring after ANY admissible sequence
of the operations that build it, and therefore the walks over it terminate within (number of segments of the edge)
steps.
-/
import FontVerif.Lemmas.EdgeRing
namespace FontVerif.C02
open FontVerif.EdgeRing

theorem edge_ring_new (next : Nat → Option Nat) (seg : Nat) : RingInv (newEdge next seg) := by
  unfold RingInv newEdge upd ChainRev; simp

theorem edge_ring_step (r : Ring) (op : Op) (hI : RingInv r) (hok : op.ok r) : RingInv (op.run r) := by
  obtain ⟨hnd, hhd, hch, hcl⟩ := hI
  cases op with
  | append seg =>
    simp only [Op.ok] at hok
    simp only [Op.run, FontVerif.EdgeRing.append, RingInv]
    cases hms : r.ms with
    | nil => rw [hms] at hch; exact absurd hch (by simp [ChainRev])
    | cons b rest =>
      rw [hms] at hnd hhd hch hok
      simp at hhd; subst hhd
      have hne : seg ≠ r.last := fun h => hok (by simp [h])
      refine ⟨by simp [List.nodup_cons, hok]; simpa using hnd, by simp, ?_, ?_⟩
      · unfold ChainRev
        refine ⟨by simp [upd], ?_⟩
        apply chainRev_congr r.next _ r.first _ _ hch
        intro a ha
        have h1 : a ≠ r.last := fun h => by subst h; simp at hnd; exact hnd.1 ha
        have h2 : a ≠ seg := fun h => by subst h; simp at ha; exact hok (by simp [ha])
        simp [upd, h1, h2]
      · simp [upd, hne]
  | foreign x v =>
    exact ringInv_congr _ ⟨hnd, hhd, hch, hcl⟩ fun a ha => if_neg fun (h : a = x) => hok (h ▸ ha)

/-- **The ring invariant holds after any admissible sequence of operations** on a freshly created edge. -/
theorem edge_ring_invariant (ops : List Op) : ∀ (r : Ring), RingInv r →
    (∀ (pre : List Op) (op : Op) (post : List Op), ops = pre ++ op :: post → op.ok (pre.foldl Op.run r)) →
    RingInv (ops.foldl Op.run r) := by
  induction ops with
  | nil => intro r h _; exact h
  | cons op rest ih =>
    intro r hI hok
    have h0 : op.ok r := hok [] op rest rfl
    apply ih (op.run r) (edge_ring_step r op hI h0)
    intro pre op' post heq
    exact hok (op :: pre) op' post (by simp [heq])

theorem walk_extend (next : Nat → Option Nat) (a b : Nat) (hab : next a = some b) :
    ∀ (f x : Nat), walk next a f x = true → walk next b (f + 1) x = true := by
  intro f
  induction f with
  | zero => intro x h; simp [walk] at h
  | succ f ih =>
    intro x h
    unfold walk at h ⊢
    by_cases hxb : x = b
    · simp [hxb]
    · simp only [hxb, if_false]
      by_cases hxa : x = a
      · subst hxa; simp [hab, walk]
      · simp only [hxa, if_false] at h
        cases hn : next x with
        | none =>
          simp [hn] at h ⊢
          -- `unwrap_or(last)`: the walk jumps to its own target
          cases f with
          | zero => simp [walk] at h
          | succ f => simp [walk]
        | some y => simp [hn] at h ⊢; exact ih y h

/-- from every segment of the ring the walk reaches `last_ix` within (number of segments) steps -/
theorem chain_walk (next : Nat → Option Nat) (first : Nat) :
    ∀ l : List Nat, ChainRev next first l → ∀ x ∈ l, walk next (l.head?.getD 0) l.length x = true
  | [], h, _, _ => absurd h (by simp [ChainRev])
  | [a], h, x, hx => by simp at hx; subst hx; simp [walk]
  | b :: a :: rest, h, x, hx => by
    unfold ChainRev at h
    by_cases hxb : x = b
    · subst hxb; simp [walk]
    · have hx' : x ∈ a :: rest := by simp at hx ⊢; rcases hx with h | h; exact absurd h hxb; exact h
      have := chain_walk next first (a :: rest) h.2 x hx'
      simp at this ⊢
      exact walk_extend next a b h.1 _ x this

/-- **The ring walks terminate**: under the invariant, `link_segments_to_edges` / `compute_edge_properties`, started
at `first_ix` (or at any segment of the edge), break within `number of segments of the edge` iterations. -/
theorem edge_ring_walk_terminates (r : Ring) (hI : RingInv r) (x : Nat) (hx : x ∈ r.ms) :
    walk r.next r.last r.ms.length x = true := by
  obtain ⟨_, hhd, hch, _⟩ := hI
  have := chain_walk r.next r.first r.ms hch x hx
  simpa [hhd] using this

/-- a walk that exits at "`edge_next_ix` closes the ring" exits wherever the `last_ix` walk does -/
theorem walk_cjk_of_walk (next : Nat → Option Nat) (first last : Nat) (stop valid : Nat → Bool)
    (hcl : next last = some first) :
    ∀ (f x : Nat), walk next last f x = true → walkCjk next first stop valid f x = true := by
  intro f
  induction f with
  | zero => intro x h; simp [walk] at h
  | succ f ih =>
    intro x h
    unfold walk at h
    unfold walkCjk
    by_cases hs : stop x = true
    · simp [hs]
    · by_cases hx : x = last
      · subst hx; simp [hs, hcl]
      · simp only [hx, if_false] at h
        by_cases hnf : next x = some first
        · simp [hs, hnf]
        · cases hn : next x with
          | none => simp [hs]
          | some y =>
            simp only [hn, Option.getD_some] at h
            by_cases hv : valid y = true
            · have := ih y h
              simp [hs, hn, hv, this] at hnf ⊢
            · simp [hs, hv]

/-- **The CJK link walk of `compute_edges` terminates**: under the ring invariant of the candidate edge, started at
its `first_ix` (or any of its segments), whatever the data exit and the table bounds do, it breaks within
(number of segments of the edge) iterations — at the latest at `last_ix`, whose `edge_next_ix` is `first_ix`. -/
theorem edge_ring_cjk_walk_terminates (r : Ring) (hI : RingInv r) (stop valid : Nat → Bool) (x : Nat) (hx : x ∈ r.ms) :
    walkCjk r.next r.first stop valid r.ms.length x = true :=
  walk_cjk_of_walk r.next r.first r.last stop valid hI.2.2.2 _ x (edge_ring_walk_terminates r hI x hx)

/-- **Every segment is linked at most once by `compute_edges`** (topo/edges.rs; loop headers, skip conditions and the
two `append_segment_to_edge` call sites are compared textually on every run).  Pass 1 runs `for segment_ix in
0..segments.len()` and links (new edge or append) a subset `link1` of the indices, which for the Default script group
excludes `segment.dir == None`; pass 2 runs only for the Default group, over the same range, and links a subset `link2`
of the indices with `segment.dir == None`.  The sequence of linked indices has no repetition — the admissibility
hypothesis of `edge_ring_invariant` for the `append` operations (a freshly linked segment is in no ring yet). -/
theorem compute_edges_links_each_segment_once (N : Nat) (isDefault : Bool) (dirNone link1 link2 : Nat → Bool)
    (h1 : ∀ i, isDefault = true → dirNone i = true → link1 i = false)
    (h2 : ∀ i, link2 i = true → dirNone i = true) :
    ((List.range N).filter link1 ++ (if isDefault = true then (List.range N).filter link2 else [])).Nodup := by
  rw [List.nodup_append]
  refine ⟨List.Nodup.sublist List.filter_sublist List.nodup_range, ?_, ?_⟩
  · split
    · exact List.Nodup.sublist List.filter_sublist List.nodup_range
    · simp
  · intro a ha b hb hab
    subst hab
    split at hb
    · rename_i hd
      simp at ha hb
      have := h1 a hd (h2 a hb.2)
      simp [this] at ha
    · simp at hb

/-- the invariant of the whole axis: every edge's ring is a ring, rings are pairwise disjoint, and only linked
segments are members -/
def AxisInv (g : Axis) : Prop :=
  (∀ j, j < g.count → RingInv (g.ring j)) ∧
  (∀ i j, i < g.count → j < g.count → i ≠ j → ∀ x, x ∈ (g.edge i).ms → x ∉ (g.edge j).ms) ∧
  (∀ j, j < g.count → ∀ x, x ∈ (g.edge j).ms → x ∈ g.linked)

/-- one admissible operation of `compute_edges` keeps the invariant of the whole axis: on the edge it targets it is
`append`, on every other edge it is two foreign writes (at the fresh segment and at the target's old `last_ix`), both
outside that edge's ring -/
theorem axis_step (g : Axis) (op : GOp) (hI : AxisInv g) (hok : op.ok g) : AxisInv (op.run g) := by
  obtain ⟨hR, hD, hL⟩ := hI
  have fresh : ∀ j, j < g.count → op.seg ∉ (g.edge j).ms := fun j hj hm => by
    have := hL j hj _ hm
    cases op with
    | newEdge seg => exact hok this
    | append k seg => exact hok.1 this
  obtain ⟨hlk, t, hmem⟩ := run_mem g op hok
  refine ⟨?_, fun i j hi hj hij x hxi hxj => ?_, fun j hj x hx => ?_⟩
  · cases op with
    | newEdge seg =>
      intro j hj
      by_cases hjc : j = g.count
      · have : (GOp.run g (.newEdge seg)).ring j = newEdge g.next seg := by simp [GOp.run, Axis.ring, newEdge, hjc]
        exact this ▸ edge_ring_new g.next seg
      · have hj' : j < g.count := Nat.lt_of_le_of_ne (Nat.le_of_lt_succ hj) hjc
        have : (GOp.run g (.newEdge seg)).ring j = { g.ring j with next := upd g.next seg (some seg) } := by
          simp [GOp.run, Axis.ring, hjc]
        exact this ▸ ringInv_congr _ (hR j hj') fun a ha => if_neg fun (h : a = seg) => fresh j hj' (h ▸ ha)
    | append k seg =>
      intro j hj
      by_cases hjk : j = k
      · have : (GOp.run g (.append k seg)).ring j = Op.run (g.ring j) (.append seg) := by
          simp [GOp.run, Axis.ring, Op.run, FontVerif.EdgeRing.append, hjk]
        exact this ▸ edge_ring_step (g.ring j) (.append seg) (hR j hj) (fresh j hj)
      · -- the two writes are at the fresh segment and at the old `last_ix` of ring `k`, which is disjoint from ring `j`
        have : (GOp.run g (.append k seg)).ring j =
            { g.ring j with next := upd (upd g.next seg (some (g.edge k).first)) (g.edge k).last (some seg) } := by
          simp [GOp.run, Axis.ring, hjk]
        refine this ▸ ringInv_congr _ (hR j hj) fun a ha => ?_
        have h1 : a ≠ (g.edge k).last := fun h =>
          hD k j hok.2 hj (Ne.symm hjk) _ (ringInv_last_mem (g.ring k) (hR k hok.2)) (h ▸ ha : (g.edge k).last ∈ _)
        have h2 : a ≠ seg := fun h => fresh j hj (h ▸ ha)
        exact (if_neg h1).trans (if_neg h2)
  · rcases hmem i hi x hxi with ⟨hx, hit⟩ | ⟨hi', hxi'⟩ <;> rcases hmem j hj x hxj with ⟨hx', hjt⟩ | ⟨hj', hxj'⟩
    · exact hij (hit.trans hjt.symm)
    · exact fresh j hj' (hx ▸ hxj')
    · exact fresh i hi' (hx' ▸ hxi')
    · exact hD i j hi' hj' hij x hxi' hxj'
  · rw [hlk]
    rcases hmem j hj x hx with ⟨hx, _⟩ | ⟨hj', hx'⟩
    · exact hx ▸ List.mem_cons_self ..
    · exact List.mem_cons_of_mem _ (hL j hj' x hx')

/-- **Every edge's ring is a ring after any admissible sequence of `compute_edges` operations** — the admissibility
of the foreign writes is not a hypothesis: it follows from freshness and disjointness (`axis_step`). -/
theorem axis_invariant (ops : List GOp) : ∀ g : Axis, AxisInv g → AllOk g ops → AxisInv (ops.foldl GOp.run g) := by
  induction ops with
  | nil => intro g h _; exact h
  | cons op rest ih => intro g hI hok; exact ih _ (axis_step g op hI hok.1) hok.2

/-- a sequence of operations whose segment indices never repeat (`compute_edges_links_each_segment_once`) and whose
append targets exist is admissible from the empty axis -/
theorem allOk_of_nodup (ops : List GOp) : ∀ g : Axis,
    (∀ x, x ∈ g.linked → x ∉ ops.map GOp.seg) → (ops.map GOp.seg).Nodup →
    (∀ (pre : List GOp) (k seg : Nat) (post : List GOp), ops = pre ++ .append k seg :: post →
      k < (pre.foldl GOp.run g).count) → AllOk g ops := by
  induction ops with
  | nil => intro g _ _ _; trivial
  | cons op rest ih =>
    intro g hdis hnd hk
    simp only [List.map_cons, List.nodup_cons] at hnd
    have hfresh : op.seg ∉ g.linked := fun h => hdis _ h (by simp)
    refine ⟨?_, ih (op.run g) ?_ hnd.2 ?_⟩
    · cases op with
      | newEdge seg => exact hfresh
      | append k seg => exact ⟨hfresh, hk [] k seg rest rfl⟩
    · intro x hx
      have : x = op.seg ∨ x ∈ g.linked := by
        cases op <;> simpa [GOp.run, GOp.seg] using hx
      rcases this with h | h
      · subst h; exact hnd.1
      · intro hm; exact hdis x h (by simp [hm])
    · intro pre k seg post heq
      exact hk (op :: pre) k seg post (by simp [heq])

/-- **All ring walks of the final state terminate**: after `compute_edges` has linked any sequence of pairwise
distinct segment indices (appends only to existing edges), for EVERY edge the walks of `link_segments_to_edges` /
`compute_edge_properties` from its `first_ix` break within its number of segments, and so does the CJK link walk. -/
theorem axis_walks_terminate (next0 : Nat → Option Nat) (ops : List GOp) (hnd : (ops.map GOp.seg).Nodup)
    (hk : ∀ (pre : List GOp) (k seg : Nat) (post : List GOp), ops = pre ++ .append k seg :: post →
      k < (pre.foldl GOp.run (Axis.empty next0)).count) :
    let g := ops.foldl GOp.run (Axis.empty next0)
    ∀ j, j < g.count → ∀ x, x ∈ (g.edge j).ms →
      walk g.next (g.edge j).last (g.edge j).ms.length x = true ∧
      ∀ stop valid, walkCjk g.next (g.edge j).first stop valid (g.edge j).ms.length x = true := by
  intro g j hj x hx
  have hI : AxisInv g := axis_invariant ops (Axis.empty next0)
    ⟨fun j hj => by simp [Axis.empty] at hj, fun i j hi => by simp [Axis.empty] at hi,
     fun j hj => by simp [Axis.empty] at hj⟩
    (allOk_of_nodup ops _ (by simp [Axis.empty]) hnd hk)
  exact ⟨edge_ring_walk_terminates (g.ring j) (hI.1 j hj) x hx,
    fun stop valid => edge_ring_cjk_walk_terminates (g.ring j) (hI.1 j hj) stop valid x hx⟩

/-- two edges built interleaved: edge 0 = 7 → 3 → 5, edge 1 = 2 → 9; every ring closes -/
example : ([GOp.newEdge 7, .newEdge 2, .append 0 3, .append 1 9, .append 0 5].foldl GOp.run (Axis.empty fun _ => none)).next 5 = some 7 ∧ ([GOp.newEdge 7, .newEdge 2, .append 0 3, .append 1 9, .append 0 5].foldl GOp.run (Axis.empty fun _ => none)).next 7 = some 3 ∧
    ([GOp.newEdge 7, .newEdge 2, .append 0 3, .append 1 9, .append 0 5].foldl GOp.run (Axis.empty fun _ => none)).next 9 = some 2 := by decide
example : (([GOp.newEdge 7, .newEdge 2, .append 0 3, .append 1 9, .append 0 5].foldl GOp.run (Axis.empty fun _ => none)).edge 0).last = 5 ∧ ([GOp.newEdge 7, .newEdge 2, .append 0 3, .append 1 9, .append 0 5].foldl GOp.run (Axis.empty fun _ => none)).count = 2 := by decide

example : walkCjk (append (append (newEdge (fun _ => none) 7) 3) 9).next 7 (fun _ => false) (fun _ => true) 3 7 = true := by decide
example : walkCjk (append (append (newEdge (fun _ => none) 7) 3) 9).next 7 (fun _ => false) (fun _ => true) 2 7 = false := by decide

example : walk (append (append (newEdge (fun _ => none) 7) 3) 9).next 9 3 7 = true := by decide
example : (append (append (newEdge (fun _ => none) 7) 3) 9).next 9 = some 7 := by decide

end FontVerif.C02
