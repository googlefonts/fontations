/-
C14 — the CONCRETE `BitSet` of bitset.rs refines the abstract one.
Property theorems only (lemmas: Lemmas/IntSetConc*.lean, IntSetCompact.lean, IntSetPageConc.lean).

Concrete model: Model/BitSetConc.lean ⇄ read-fonts/src/collections/int_set/bitset.rs
  `CBitSet = ⟨pages : List CPage /- Vec<BitPage>, CREATION order -/,
              pageMap : List (major × index) /- Vec<PageInfo>, sorted by major -/, len⟩`
  with `process` transcribed as the in-place algorithm (Step 1 estimate + move kept map entries to
  the front, Step 2 `compact` / `compact_pages` / `resize`, Step 3 backward merge writing
  `page_map[count]`, pages present on both sides overwritten in place, right-hand pages cloned to
  `pages[next_page]`, Step 4 tails).  Pages are `[u64; 8]` (Model/BitPageConc.lean).

Vocabulary
* `CPageOk p` : 8 words, each `< 2^64`, cached length = Σ count_ones
* `CInv s`    : `page_map.len() == pages.len()`, map strictly sorted by major, map indices pairwise
                distinct and in bounds (a bijection onto `pages`: none unreferenced, none shared),
                all pages `CPageOk`, `length` = Σ page lengths over the `pages` vector
* `CInvS pm pages` : the part of `CInv` that speaks about the map and the pages only (everything but
                the cached `length`)
* `s.abs`     : the abstract `BitSet` (`Model/IntSet.lean`): pages read through the map in map
                order, each packed into one 512-bit natural
* `Rep s t`   : `CInv s ∧ s.abs = t`, the refinement relation; every operation maps related arguments to related
                results (`Rep.insert`, …, `Rep.process`); `RepS` is the same without the cached `length`, `IRep` the same
                for the `IntSet` wrapper
* `cview pm pages` : `(major, page)` read through the map;  `cmerge` : the page-wise merge
* `PageOpRefines cop op` : the concrete page operator refines the 512-bit operator `op`
* `Hist.runC`  : a history run on the concrete representation; `Hist.Fits` : machine-size side
                conditions (the values handed to `extend` / `remove_all` are u32; a left operand of
                `process` has fewer than `usize::MAX` pages)
-/
import FontVerif.Lemmas.IntSetConcHist
namespace FontVerif.C14Conc
open FontVerif.IntSet

/-! ## 1. The representation invariant is preserved by every operation -/

/-- `CInv` holds for `BitSet::empty()` and is preserved by `insert`, `remove`, `insert_range`,
`remove_range`, `extend` (BitSetBuilder), `extend_unsorted`, `remove_all`, `clear` -/
theorem cinv_preserved (s : CBitSet) (h : CInv s) :
    CInv CBitSet.empty ∧
    (∀ v, CInv (s.insert v).1 ∧ CInv (s.remove v).1) ∧
    (∀ a b, CInv (s.insertRange a b) ∧ CInv (s.removeRange a b)) ∧
    (∀ vs, (∀ v ∈ vs, v < 2 ^ 32) → CInv (s.extend vs) ∧ CInv (s.extendUnsorted vs) ∧ CInv (s.removeAll vs)) ∧
    CInv s.clear :=
  have r := Rep.refl h
  ⟨cInv_empty, fun v => ⟨(r.insert v).1.inv, (r.remove v).1.inv⟩,
   fun a b => ⟨(r.insertRange a b).inv, (r.removeRange a b).inv⟩,
   fun vs hv => ⟨(r.extend hv).inv, (r.extendUnsorted vs).inv, (r.removeAll hv).inv⟩,
   cInv_empty⟩

/-- … and by `process` with any page operator that refines a bitwise one — in particular by
`union`, `intersect`, `subtract`, `reversed_subtract` -/
theorem cinv_preserved_process {cop op f} (hr : PageOpRefines cop op) (hop : BitwiseOp op f)
    (s o : CBitSet) (hs : CInv s) (ho : CInv o) (hsz : s.pages.length < USIZE_MAX) :
    CInv (s.process cop o) :=
  (CBitSet.process_refines hr hop s o hs ho hsz).1

/-- the invariant of the concrete set gives the invariant of the abstract one, so every theorem
of `Props/C14IntSet.lean` applies to `s.abs` -/
theorem abs_invariant (s : CBitSet) (h : CInv s) : BInv s.abs := CBitSet.abs_inv s h

/-! ## 2. Refinement squares: `abs (cop s args) = aop (abs s) args` -/

theorem empty_refines : CBitSet.empty.abs = BitSet.empty := rfl

/-- `ensure_page_index_for_major`: a missing page is pushed at the END of `pages` and its
`PageInfo` inserted at the search position of the map; the abstract view gets a zero page at
the sorted position -/
theorem ensure_page_refines (s : CBitSet) (m : Nat) (h : CInv s) :
    CInv (s.ensurePageIndexForMajor m).1 ∧
    (s.ensurePageIndexForMajor m).1.abs = ⟨ensurePage s.abs.pages m, s.abs.len⟩ ∧
    (s.ensurePageIndexForMajor m).2 < (s.ensurePageIndexForMajor m).1.pages.length ∧
    (m, (s.ensurePageIndexForMajor m).2) ∈ (s.ensurePageIndexForMajor m).1.pageMap :=
  have e := (Rep.refl h).ensure m
  ⟨e.1.inv, e.1.abs, e.1.inv.idxLt _ e.2, e.2⟩

theorem insert_refines (s : CBitSet) (v : Nat) (h : CInv s) :
    (s.insert v).1.abs = (s.abs.insert v).1 ∧ (s.insert v).2 = (s.abs.insert v).2 :=
  ⟨((Rep.refl h).insert v).1.abs, ((Rep.refl h).insert v).2⟩

theorem remove_refines (s : CBitSet) (v : Nat) (h : CInv s) :
    (s.remove v).1.abs = (s.abs.remove v).1 ∧ (s.remove v).2 = (s.abs.remove v).2 :=
  ⟨((Rep.refl h).remove v).1.abs, ((Rep.refl h).remove v).2⟩

theorem contains_refines (s : CBitSet) (v : Nat) (h : CInv s) : s.contains v = s.abs.contains v :=
  (Rep.refl h).contains v

theorem insert_range_refines (s : CBitSet) (a b : Nat) (h : CInv s) :
    (s.insertRange a b).abs = s.abs.insertRange a b := ((Rep.refl h).insertRange a b).abs

/-- `remove_range` incl. the clearing of inner pages and `recompute_length` over the vector -/
theorem remove_range_refines (s : CBitSet) (a b : Nat) (h : CInv s) :
    (s.removeRange a b).abs = s.abs.removeRange a b := ((Rep.refl h).removeRange a b).abs

theorem extend_refines (s : CBitSet) (vs : List Nat) (h : CInv s) (hv : ∀ v ∈ vs, v < 2 ^ 32) :
    (s.extend vs).abs = s.abs.extend vs ∧ (s.extendUnsorted vs).abs = s.abs.extend vs ∧
    (s.removeAll vs).abs = s.abs.removeAll vs :=
  ⟨((Rep.refl h).extend hv).abs, ((Rep.refl h).extendUnsorted vs).abs, ((Rep.refl h).removeAll hv).abs⟩

theorem clear_refines (s : CBitSet) : s.clear.abs = BitSet.empty := rfl

/-- the page-index caches of `BitSetBuilder` and `remove_all` never change a result -/
theorem page_index_cache_transparent :
    (∀ (s : CBitSet) (vs : List Nat), CInv s → (∀ v ∈ vs, v < 2 ^ 32) →
      (vs.foldl CBuilder.insert (CBuilder.start s)).CacheOk ∧
      s.extend vs = vs.foldl (fun acc v => (acc.insert v).1) s) ∧
    (∀ (s : CBitSet) (vs : List Nat), (∀ v ∈ vs, v < 2 ^ 32) →
      (vs.foldl CRemoveAll.step ⟨s, none, U32_MAX, 0⟩).CacheOk ∧
      s.removeAll vs = vs.foldl (fun acc v => (acc.remove v).1) s) :=
  ⟨fun s vs h hv => builder_fold vs (CBuilder.start s) h (Or.inl rfl) hv,
   fun s vs hv => removeAll_fold vs ⟨s, none, U32_MAX, 0⟩ (Or.inl rfl) hv⟩

/-! ## 3. `process` -/

/-- `passthrough_behavior` evaluated on concrete pages is the abstract one -/
theorem passthrough_refines {cop op} (hr : PageOpRefines cop op) : cPassthrough cop = passthrough op :=
  cPassthrough_eq hr

/-- **The in-place `process` on the concrete layout.**  For any page operator, with the pages of
either operand stored in ANY order: the result's map read through its pages is exactly the
page-wise merge of the two input views (passthrough rule included), the map is sorted, its indices
are a bijection onto the (resized) pages vector, and all pages are well formed. -/
theorem process_layout {cop op} (hr : PageOpRefines cop op) (s o : CBitSet) (hs : CInv s) (ho : CInv o)
    (hsz : s.pages.length < USIZE_MAX) :
    CInvS (s.process cop o).pageMap (s.process cop o).pages ∧
    cview (s.process cop o).pageMap (s.process cop o).pages =
      cmerge cop (cPassthrough cop).1 (cPassthrough cop).2 (cview s.pageMap s.pages)
        (cview o.pageMap o.pages) ∧
    (s.process cop o).len = cSumLens (s.process cop o).pages :=
  CBitSet.process_spec hr s o hs ho hsz

/-- for any bitwise page operator the concrete in-place `BitSet::process` commutes with the
abstraction function -/
theorem process_refines {cop op f} (hr : PageOpRefines cop op) (hop : BitwiseOp op f)
    (s o : CBitSet) (hs : CInv s) (ho : CInv o) (hsz : s.pages.length < USIZE_MAX) :
    CInv (s.process cop o) ∧ (s.process cop o).abs = BitSet.process op s.abs o.abs :=
  CBitSet.process_refines hr hop s o hs ho hsz

/-- `union` / `intersect` / `subtract` / `reversed_subtract` -/
theorem set_ops_refine (s o : CBitSet) (hs : CInv s) (ho : CInv o) (hsz : s.pages.length < USIZE_MAX) :
    (CInv (s.union o) ∧ (s.union o).abs = s.abs.union o.abs) ∧
    (CInv (s.intersect o) ∧ (s.intersect o).abs = s.abs.intersect o.abs) ∧
    (CInv (s.subtract o) ∧ (s.subtract o).abs = s.abs.subtract o.abs) ∧
    (CInv (s.reversedSubtract o) ∧ (s.reversedSubtract o).abs = s.abs.reversedSubtract o.abs) :=
  ⟨CBitSet.process_refines refines_union bitwise_union s o hs ho hsz,
   CBitSet.process_refines refines_intersect bitwise_intersect s o hs ho hsz,
   CBitSet.process_refines refines_subtract bitwise_subtract s o hs ho hsz,
   CBitSet.process_refines refines_revSubtract bitwise_revSubtract s o hs ho hsz⟩

/-- membership after a concrete set operation is the Boolean combination of the memberships -/
theorem set_ops_contains (s o : CBitSet) (hs : CInv s) (ho : CInv o) (hsz : s.pages.length < USIZE_MAX)
    (x : Nat) :
    (s.union o).contains x = (s.contains x || o.contains x) ∧
    (s.intersect o).contains x = (s.contains x && o.contains x) ∧
    (s.subtract o).contains x = (s.contains x && !o.contains x) ∧
    (s.reversedSubtract o).contains x = (!s.contains x && o.contains x) := by
  obtain ⟨hu, hi, hd, hr⟩ := set_ops_refine s o hs ho hsz
  have ha := CBitSet.abs_inv s hs
  have hb := CBitSet.abs_inv o ho
  rw [contains_refines _ x hu.1, contains_refines _ x hi.1, contains_refines _ x hd.1,
    contains_refines _ x hr.1, hu.2, hi.2, hd.2, hr.2, contains_refines s x hs, contains_refines o x ho]
  exact ⟨BitSet.process_contains bitwise_union _ _ ha hb x,
    BitSet.process_contains bitwise_intersect _ _ ha hb x,
    BitSet.process_contains bitwise_subtract _ _ ha hb x,
    BitSet.process_contains bitwise_revSubtract _ _ ha hb x⟩

/-! ## 4. `compact` -/

/-- `compact(w)` keeps every kept entry's major and page CONTENT for map entries whose page
indices are pairwise distinct and in bounds — in ANY order —, re-points them to `0..w` (pairwise
distinct) and leaves lengths and the entries `≥ w` alone -/
theorem compact_preserves_contents (pm : PMap) (pages : List CPage) (w : Nat) (hw : w ≤ pm.length)
    (hmax : pm.length < USIZE_MAX)
    (hnd : ((pm.take w).map (·.2)).Nodup) (hlt : ∀ e ∈ pm.take w, e.2 < pages.length) :
    (compact pm pages w).1.length = pages.length ∧ (compact pm pages w).2.length = pm.length ∧
    (∀ i, i < w → ((compact pm pages w).2.getD i (0, 0)).1 = (pm.getD i (0, 0)).1 ∧
        (compact pm pages w).1.getD ((compact pm pages w).2.getD i (0, 0)).2 CPage.zero =
          pages.getD (pm.getD i (0, 0)).2 CPage.zero) ∧
    (((compact pm pages w).2.take w).map (·.2)).Nodup ∧ (∀ e ∈ (compact pm pages w).2.take w, e.2 < w) ∧
    (compact pm pages w).2.drop w = pm.drop w :=
  compact_spec pm pages w hw (by omega) hnd hlt

/-- **the compaction never reads a page after it was overwritten** (the property seeded change
C14-2 violated): whenever `compact_pages` reaches old page index `i = pre.length`, its
`write_index ≤ i` and every position `≥ i` of `pages` — in particular the one it reads — still
holds the ORIGINAL page; a referenced page is therefore copied with its original content. -/
theorem compact_reads_before_overwrite (pm : PMap) (pages : List CPage) (w : Nat)
    (hw : w ≤ pm.length) (hmax : pm.length < USIZE_MAX)
    (hnd : ((pm.take w).map (·.2)).Nodup) (hlt : ∀ e ∈ pm.take w, e.2 < pages.length)
    (pre rest : List Nat) (pmi : Nat)
    (hsplit : compactTable pm pages.length w = pre ++ pmi :: rest) :
    ∃ wi P M,
      compactPagesLoop (compactTable pm pages.length w) 0 0 pages pm
        = compactPagesLoop (pmi :: rest) pre.length wi P M ∧
      wi ≤ pre.length ∧
      P.length = pages.length ∧
      (∀ j, pre.length ≤ j → P.getD j CPage.zero = pages.getD j CPage.zero) ∧
      (pmi ≠ USIZE_MAX → pmi < w ∧ (pm.getD pmi (0, 0)).2 = pre.length ∧
        P.getD pre.length CPage.zero = pages.getD (pm.getD pmi (0, 0)).2 CPage.zero) :=
  IntSet.compact_reads_before_overwrite pm pages w hw hmax hnd hlt pre rest pmi hsplit

/-! ## 5. Histories on the concrete representation -/

/-- the `IntSet` mode tables over the concrete `BitSet` commute with the abstraction -/
theorem intset_ops_refine (d : Domain) (s t : CIntSet) (hs : CIInv s) (ht : CIInv t)
    (hsz : s.set.pages.length < USIZE_MAX) :
    (∀ v, (s.insert v).1.abs = (s.abs.insert v).1 ∧ (s.insert v).2 = (s.abs.insert v).2 ∧
          (s.remove v).1.abs = (s.abs.remove v).1 ∧ (s.remove v).2 = (s.abs.remove v).2 ∧
          s.contains v = s.abs.contains v) ∧
    (∀ a b, (∀ v ∈ expand (d.rangeValues a b), v < 2 ^ 32) →
          (s.insertRange d a b).abs = s.abs.insertRange d a b ∧
          (s.removeRange d a b).abs = s.abs.removeRange d a b) ∧
    (∀ vs, (∀ v ∈ vs, v < 2 ^ 32) → (s.extend vs).abs = s.abs.extend vs ∧
          (s.extendUnsorted vs).abs = s.abs.extend vs ∧ (s.removeAll vs).abs = s.abs.removeAll vs) ∧
    (s.union t).abs = s.abs.union t.abs ∧ (s.intersect t).abs = s.abs.intersect t.abs ∧
    (s.subtract t).abs = s.abs.subtract t.abs :=
  have r := IRep.refl hs
  have r' := IRep.refl ht
  have hsz' : s.abs.set.pages.length < USIZE_MAX := by
    rw [show s.abs.set = s.set.abs from rfl, CBitSet.abs_numPages _ hs]; exact hsz
  ⟨fun v => ⟨(r.insert v).1.abs_eq, (r.insert v).2, (r.remove v).1.abs_eq, (r.remove v).2, r.contains v⟩,
   fun a b hv => ⟨(r.insertRange d hv).abs_eq, (r.removeRange d hv).abs_eq⟩,
   fun vs hv => ⟨(r.extend hv).abs_eq, (r.extendUnsorted hv).abs_eq, (r.removeAll hv).abs_eq⟩,
   (r.union r' hsz').abs_eq, (r.intersect r' hsz').abs_eq, (r.subtract r' hsz').abs_eq⟩

/-- any operation history (a tree: the operands of union / intersect /
subtract are themselves arbitrary histories; pages get created in any order, removals leave empty
pages, `process` is interleaved with inserts) run on the CONCRETE representation keeps `CInv`,
abstracts to the run on the abstract model, and therefore denotes the same mathematical set:
`contains` on the concrete structure is the characteristic function `spec` of the history. -/
theorem conc_history_refines (d : Domain) (h : Hist) (hf : h.Fits d) :
    CIInv (h.runC d) ∧ (h.runC d).abs = h.run d ∧ IInv (h.runC d).abs ∧
    ∀ x, (h.runC d).contains x = h.spec d x := by
  have hr := Hist.runC_rep d h hf
  have h3 := Hist.run_spec d h
  exact ⟨hr.set.inv, hr.abs_eq, hr.abs_eq ▸ h3.1, fun x => (hr.contains x).trans (h3.2 x)⟩

/-! ## Non-vacuity -/

/-- pages created out of major order: values 2000, 5, 1000 -/
example : CInv (((CBitSet.empty.insert 2000).1.insert 5).1.insert 1000).1 :=
  (((Rep.empty.insert 2000).1.insert 5).1.insert 1000).1.inv
example : (((CBitSet.empty.insert 2000).1.insert 5).1.insert 1000).1.pageMap = [(0, 1), (1, 2), (3, 0)] := by
  decide
/-- the C14-2 shape: left pages created out of order, intersect keeps a proper subset (the
hypotheses of `set_ops_refine` are satisfiable; the driver evaluates this case to
`page_map = [(0,0),(1,1)]`) -/
example : CInv ((((CBitSet.empty.insert 2000).1.insert 5).1.insert 1000).1.intersect
    ((CBitSet.empty.insert 1001).1.insert 7).1) :=
  (set_ops_refine _ _ (((Rep.empty.insert 2000).1.insert 5).1.insert 1000).1.inv
    ((Rep.empty.insert 1001).1.insert 7).1.inv (by decide)).2.1.1
example : Hist.Fits Domain.u32 (Hist.union (Hist.insert (Hist.insert Hist.empty 2000) 5)
    (Hist.invert (Hist.extend Hist.empty [1000, 3]))) := by
  refine ⟨trivial, ⟨trivial, ?_⟩, ?_⟩
  · intro v hv; simp at hv; rcases hv with rfl | rfl <;> decide
  · decide
example : PageOpRefines CPage.revSubtract opRevSubtract := refines_revSubtract

end FontVerif.C14Conc
