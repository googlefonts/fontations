/-
C17 — gvar subsetting preserves the variation data of every glyph it keeps.

Model: `FontVerif.SubsetGvar.subsetGvar` (klippa/src/gvar.rs after the repairs 78d5004, 9ff1630, ba2710f),
reader: `readGvar` / `dataForGid` / `sharedTuplesOf` (read-fonts `Gvar::read`, `data_for_gid`, `shared_tuples`).
Both are tied to the real code by the `gvar` / `gvar-read` correspondence groups of harness/src/bin/c17/gvar.rs.

Klippa does not parse per-glyph variation data and does not renumber shared tuples: blobs and the shared tuple
block are copied byte for byte (`gvar_data_roundtrip`, `gvar_shared_tuples_unchanged`), hence `gvar_applied_deltas_equal`.

Hypotheses that recur: `subsetGvar inp = .ok (lay, out)` (the subsetter succeeded; this includes the plan
shape `planOk`: new ids ascending and below `num_output_glyphs <= 0xFFFF`, which `Plan::new` guarantees:
C17 theorem `glyph_map_monotone_bijection`), and for reading data back `out.length < 2^32` (an sfnt table
record cannot describe a longer table; without it the reader's u32 `checked_add` fails).
-/
import FontVerif.Lemmas.SubsetGvar
namespace FontVerif.C17Gvar
open FontVerif.SubsetGvar
open FontVerif.Subset (Bytes offAt slotBytes slotSize u16At)

/-- The emitted glyphVariationDataOffsets array has glyphCount + 1 =
`num_output_glyphs + 1` entries; entry `j` is the total (in the short format: padded) size of the kept glyphs
with new id below `j`; the first entry is 0; entries ascend; in the short format all are even — no parity
hypothesis on the source is needed because odd blobs are padded — and `Gvar::read` on the emitted table
decodes the stored array (doubling u16 entries in the short format) to exactly these byte offsets. -/
theorem gvar_offsets_correct (inp : GvarIn) (lay : Layout) (out : Bytes)
    (h : subsetGvar inp = .ok (lay, out)) :
    let short := !lay.long
    let ks := keptEntries inp
    let offs := offsets short inp.nout ks
    offs.length = inp.nout + 1 ∧
    (∀ j, j ≤ inp.nout → offs[j]? = some (offAt short ks j)) ∧
    offAt short ks 0 = 0 ∧
    (∀ j k, j ≤ k → offAt short ks j ≤ offAt short ks k) ∧
    (short = true → ∀ j, offAt short ks j % 2 = 0) ∧
    (∃ r, readGvar out = some r ∧ r.glyphCount = inp.nout ∧ r.long = lay.long ∧ r.offs = offs) := by
  intro short ks offs
  obtain ⟨hp, hsz, hlay, hdo⟩ := subsetGvar_ok inp lay out h
  obtain ⟨hs, hb, hn⟩ := kept_sorted_of_ok inp hp
  obtain ⟨r, hr, hgc, hl, _, _, _, _, hoffs⟩ := readGvar_subset inp lay out h
  have e : offs = Subset.locaOffsets short inp.nout ks := offsets_eq short inp.nout ks
  refine ⟨by rw [e]; exact Subset.locaOffsets_length short inp.nout ks hs hb,
    fun j hj => by rw [e]; exact Subset.locaOffsets_getElem short inp.nout ks hs hb j hj,
    Subset.offAt_of_all_ge short 0 ks (fun _ _ => Nat.zero_le _),
    fun j k hjk => Subset.offAt_mono short j k hjk ks,
    fun hsh j => by rw [hsh]; exact Subset.offAt_even j ks,
    r, hr, hgc, hl, hoffs⟩

/-- The short format is chosen exactly when the padded total is at most
0x1FFFE, and then every byte offset is even and its stored value `offset / 2` fits a u16 (so the `as u16`
truncation never changes a value); the long format is chosen only when the total exceeds 0x1FFFE, and every
offset fits a u32. -/
theorem gvar_format_choice_sound (inp : GvarIn) (lay : Layout) (out : Bytes)
    (h : subsetGvar inp = .ok (lay, out)) :
    (lay.long = false ↔ dataSize (keptEntries inp) ≤ 0x1FFFE) ∧
    (lay.long = false → ∀ o ∈ offsets true inp.nout (keptEntries inp), o % 2 = 0 ∧ o / 2 ≤ 0xFFFF ∧
        o / 2 % 65536 * 2 = o) ∧
    (lay.long = true → ∀ o ∈ offsets false inp.nout (keptEntries inp), o < 4294967296) := by
  obtain ⟨hp, hsz, hlay, hdo⟩ := subsetGvar_ok inp lay out h
  obtain ⟨hs, hb, hn⟩ := kept_sorted_of_ok inp hp
  have hlong : lay.long = decide (dataSize (keptEntries inp) > 0x1FFFE) := by rw [hlay]; rfl
  rw [dataSize_eq_total] at hsz hlong ⊢
  refine ⟨by rw [hlong]; simp, fun hl o ho => ?_, fun hl o ho => ?_⟩
  · rw [offsets_eq] at ho
    have ⟨h1, h2⟩ := Subset.locaOffsets_mem true inp.nout _ hs hb o ho
    have h3 : ¬ _ > 0x1FFFE := of_decide_eq_false (hlong.symm.trans hl)
    have := h2 rfl
    omega
  · rw [offsets_eq] at ho
    have := (Subset.locaOffsets_mem false inp.nout _ hs hb o ho).1
    omega

/-- Reading the emitted table back with the read-fonts reader:
for every plan entry (new, old) whose `data_for_gid(old)` result in the source was `s`
 * new id 0 without NOTDEF_OUTLINE: no data (the notdef rule);
 * `s` was `Ok(None)`, an error, or empty: no data;
 * otherwise, in the long format or for an even-sized blob: exactly the original bytes;
 * in the short format for an odd-sized blob: the original bytes followed by one zero byte (the offsets of
   the short format address 2-byte units; this is the precise parity statement);
and every id below `num_output_glyphs` that is not a new id of the plan (retain-gids gap) has no data. -/
theorem gvar_data_roundtrip (inp : GvarIn) (lay : Layout) (out : Bytes)
    (h : subsetGvar inp = .ok (lay, out)) (hlen : out.length < 4294967296) :
    ∃ r, readGvar out = some r ∧
      (∀ (i new old : Nat) (s : Slot), inp.n2o[i]? = some (new, old) → inp.slots[i]? = some s →
        (keeps inp.flags new = false → dataForGid out r new = .none) ∧
        (keeps inp.flags new = true → s.bytes = [] → dataForGid out r new = .none) ∧
        (keeps inp.flags new = true → s.bytes ≠ [] → (lay.long = true ∨ s.bytes.length % 2 = 0) →
          dataForGid out r new = .data s.bytes) ∧
        (keeps inp.flags new = true → lay.long = false → s.bytes.length % 2 = 1 →
          dataForGid out r new = .data (s.bytes ++ [0]))) ∧
      (∀ k, k < inp.nout → (∀ p : Nat × Nat, p ∈ inp.n2o → p.1 ≠ k) → dataForGid out r k = Slot.none) := by
  obtain ⟨r, hr, hkept, hgap⟩ := dataForGid_subset inp lay out h hlen
  refine ⟨r, hr, fun i new old s hn hsl => ?_, hgap⟩
  have e := hkept i new old s hn hsl
  refine ⟨fun hk => by rw [e, hk]; rfl, fun hk he => by rw [e, hk, he]; rfl, fun hk hne hpar => ?_,
    fun hk hl hodd => ?_⟩
  · rw [e, hk]
    exact readBack_same hne (hpar.imp_left (fun hl => by rw [hl]; rfl))
  · rw [e, hk, hl]
    exact readBack_pad hodd

/-- The same end to end on raw bytes: for a source table `t` that read-fonts accepts,
with the subsetter's inputs read off `t` by the reader model (`ofTable`), the data the reader finds for `new`
in the emitted table is the data it finds for `old` in the source (`Err` counting as no data), up to the
padding byte of the short format; new id 0 without NOTDEF_OUTLINE has none. -/
theorem gvar_roundtrip_raw (t : Bytes) (rt : Reader) (flags nout src : Nat) (n2o : List (Nat × Nat))
    (lay : Layout) (out : Bytes)
    (h : subsetGvar (ofTable t rt flags nout src n2o) = .ok (lay, out)) (hlen : out.length < 4294967296) :
    ∃ r, readGvar out = some r ∧ ∀ new old, (new, old) ∈ n2o →
      dataForGid out r new =
        if keeps flags new then readBack (!lay.long) (dataForGid t rt old).bytes else .none := by
  obtain ⟨r, hr, hkept, _⟩ := dataForGid_subset _ lay out h hlen
  refine ⟨r, hr, fun new old hmem => ?_⟩
  obtain ⟨i, hi⟩ := List.getElem?_of_mem hmem
  exact hkept i new old _ hi (by show (n2o.map _)[i]? = _; rw [List.getElem?_map, hi]; rfl)

/-- axisCount and sharedTupleCount of the emitted table are those of
the source; the shared tuple block the reader resolves is byte-identical to the source's block and sits
directly after the offsets array, the glyph variation data directly after it:
 * count != 0, source offset != 0: sharedTuplesOffset = 20 + array size (non-null) and the
   `2 * axisCount * sharedTupleCount` bytes there are the source's;
 * count = 0: sharedTuplesOffset = 20 + array size (non-null, so that read-fonts does not fail with
   NullOffset) and the block is empty;
 * count != 0 with a null source offset: the offset stays null (the source had no readable tuples);
and glyphVariationDataArrayOffset = 20 + array size + size of the copied block.  No tuple is dropped,
reordered or renumbered, so an index embedded in per-glyph data denotes the same tuple. -/
theorem gvar_shared_tuples_unchanged (inp : GvarIn) (lay : Layout) (out : Bytes)
    (h : subsetGvar inp = .ok (lay, out)) :
    let axis := u16At inp.header 4
    let cnt := u16At inp.header 6
    let soff := u32At inp.header 8
    ∃ r shared, readGvar out = some r ∧ sharedSource inp cnt soff = some shared ∧
      r.axisCount = axis ∧ r.sharedCount = cnt ∧
      r.dao = 20 + arrSize inp.nout lay.long + shared.length ∧
      (cnt ≠ 0 → soff ≠ 0 → r.sharedOff = 20 + arrSize inp.nout lay.long ∧
        sharedTuplesOf out r = some shared ∧ inp.sharedSlice = some shared) ∧
      (cnt = 0 → r.sharedOff = 20 + arrSize inp.nout lay.long ∧ sharedTuplesOf out r = some [] ∧ shared = []) ∧
      (cnt ≠ 0 → soff = 0 → r.sharedOff = 0 ∧ sharedTuplesOf out r = none ∧ shared = []) := by
  intro axis cnt soff
  obtain ⟨r, shared, hr, hsrc, hax, hcn, hdao, hso, hst, _⟩ := sharedTuples_subset inp lay out h
  change sharedSource inp cnt soff = some shared at hsrc
  change r.sharedOff = sharedOffOf cnt soff (arrSize inp.nout lay.long) at hso
  -- the three cases are the three values of `hasShared` / `sharedOffOf`
  refine ⟨r, shared, hr, hsrc, hax, hcn, hdao, fun hc hs => ?_, fun hc => ?_, fun hc hs => ?_⟩
  · have hhs : hasShared cnt soff = true := by simp [hasShared, hc, hs]
    have e1 : r.sharedOff = 20 + arrSize inp.nout lay.long := by rw [hso]; simp [sharedOffOf, hhs]
    exact ⟨e1, by rw [hst, if_neg (by omega)], by simpa [sharedSource, hhs] using hsrc⟩
  · have hhs : hasShared cnt soff = false := by simp [hasShared, hc]
    have e1 : r.sharedOff = 20 + arrSize inp.nout lay.long := by rw [hso]; simp [sharedOffOf, hc]
    have e2 : shared = [] := by simpa [sharedSource, hhs] using hsrc.symm
    exact ⟨e1, by rw [hst, if_neg (by omega), e2], e2⟩
  · have hhs : hasShared cnt soff = false := by simp [hasShared, hs]
    have e1 : r.sharedOff = 0 := by rw [hso]; simp [sharedOffOf, hc, hhs]
    exact ⟨e1, by rw [hst, if_pos e1], by simpa [sharedSource, hhs] using hsrc.symm⟩

/-- Corollary of `gvar_data_roundtrip` and `gvar_shared_tuples_unchanged`.  For any decoder of a glyph's variation data that
depends only on the shared tuple block, the axis count and the glyph's bytes, and that ignores the padding
byte after an odd-sized blob (`hpad`: tuple variation headers delimit the serialized data; the byte that
write-fonts / fontTools / klippa append for 2-byte alignment is never reached), the decoded result for a kept
glyph in the subset equals the decoded result in the source. -/
theorem gvar_applied_deltas_equal {α : Type} (decode : Bytes → Nat → Bytes → α)
    (hpad : ∀ sh ax d, d.length % 2 = 1 → decode sh ax (d ++ [0]) = decode sh ax d)
    (inp : GvarIn) (lay : Layout) (out : Bytes)
    (h : subsetGvar inp = .ok (lay, out)) (hlen : out.length < 4294967296) :
    ∃ r, readGvar out = some r ∧
      ∀ (i new old : Nat) (b : Bytes), inp.n2o[i]? = some (new, old) → inp.slots[i]? = some (Slot.data b) → b ≠ [] →
        keeps inp.flags new = true →
        ∃ b', dataForGid out r new = Slot.data b' ∧
          decode ((sharedTuplesOf out r).getD []) r.axisCount b' =
            decode ((sharedSource inp (u16At inp.header 6) (u32At inp.header 8)).getD []) (u16At inp.header 4) b := by
  obtain ⟨r, hr, hkept, _⟩ := dataForGid_subset inp lay out h hlen
  obtain ⟨r', shared, hr', hsrc, hax, _, _, _, hst, hnull⟩ := sharedTuples_subset inp lay out h
  obtain rfl : r = r' := Option.some.inj (hr.symm.trans hr')
  refine ⟨r, hr, ?_⟩
  intro i new old b hn hsl hne hk
  have e := hkept i new old (.data b) hn hsl
  rw [hk] at e
  have hshared : (sharedTuplesOf out r).getD [] = shared := by
    rw [hst]
    by_cases h0 : r.sharedOff = 0
    · rw [if_pos h0, hnull h0]; rfl
    · rw [if_neg h0]; rfl
  rw [hshared, hsrc, hax]
  by_cases hpar : lay.long = true ∨ b.length % 2 = 0
  · exact ⟨b, e.trans (readBack_same hne (hpar.imp_left (fun hl => by rw [hl]; rfl))), rfl⟩
  · have hl : lay.long = false := Bool.eq_false_iff.mpr (fun hl => hpar (Or.inl hl))
    have hodd : b.length % 2 = 1 := by omega
    rw [hl] at e
    exact ⟨b ++ [0], e.trans (readBack_pad hodd), hpad _ _ _ hodd⟩

/-- axis count 1, one shared tuple at source offset 30; plan keeps old 0 as new 0 and old 5 as new 2 of 3
output glyphs (retain-gids gap at 1); the blob of old 5 has odd length -/
def exIn : GvarIn :=
  { flags := 0, nout := 3, tableLen := 100, srcGlyphs := 6,
    header := [0, 1, 0, 0, 0, 1, 0, 1, 0, 0, 0, 30], sharedSlice := some [0x40, 0],
    n2o := [(0, 0), (2, 5)], slots := [.data [9, 9], .data [1, 2, 3]] }

def exOut : Bytes :=
  [0, 1, 0, 0, 0, 1, 0, 1, 0, 0, 0, 28, 0, 3, 0, 0, 0, 0, 0, 30, 0, 0, 0, 0, 0, 0, 0, 2, 0x40, 0, 1, 2, 3, 0]

example : subsetGvar exIn = .ok ({ numGlyphs := 3, long := false, sharedOff := 28, dataOff := 30 }, exOut) :=
  ok_of_toOption _ _ (by decide +kernel)

example : exOut.length < 4294967296 := by decide

example : (readGvar exOut).map (fun r => (dataForGid exOut r 0, dataForGid exOut r 1, dataForGid exOut r 2,
    sharedTuplesOf exOut r)) = some (.none, .none, .data [1, 2, 3, 0], some [0x40, 0]) := by decide +kernel

/-- with NOTDEF_OUTLINE the data of glyph 0 is kept -/
example : (subsetGvar { exIn with flags := 0x40 }).toOption.map (·.2) =
    some [0, 1, 0, 0, 0, 1, 0, 1, 0, 0, 0, 28, 0, 3, 0, 0, 0, 0, 0, 30, 0, 0, 0, 1, 0, 1, 0, 3, 0x40, 0, 9, 9, 1, 2, 3, 0] := by
  decide

/-- a decoder satisfying `hpad` that is not constant -/
example : ∀ (sh : Bytes) (ax : Nat) (d : Bytes), d.length % 2 = 1 →
    (fun (sh : Bytes) (ax : Nat) (d : Bytes) => (sh, ax, d.head?)) sh ax (d ++ [0]) =
    (fun (sh : Bytes) (ax : Nat) (d : Bytes) => (sh, ax, d.head?)) sh ax d := by
  intro sh ax d hd
  cases d with
  | nil => simp at hd
  | cons x xs => simp


/-- `gvar_data_roundtrip` at this instance: the odd blob of new id 2 is read back with its padding byte -/
example : ∃ r, readGvar exOut = some r ∧ dataForGid exOut r 2 = Slot.data [1, 2, 3, 0] := by
  have hok : subsetGvar exIn = .ok ({ numGlyphs := 3, long := false, sharedOff := 28, dataOff := 30 }, exOut) :=
    ok_of_toOption _ _ (by decide +kernel)
  obtain ⟨r, hr, hk, _⟩ := gvar_data_roundtrip exIn _ exOut hok (by decide)
  exact ⟨r, hr, (hk 1 2 5 (.data [1, 2, 3]) rfl rfl).2.2.2 (by decide) rfl (by decide)⟩

/-- the long format: any 131071-byte blob (e.g. `List.replicate 131071 7`) kept alone -/
example (b : Bytes) (hb : b.length = 131071) :
    ∃ lay out, subsetGvar (bigIn b) = .ok (lay, out) ∧ lay.long = true ∧ out.length < 4294967296 := by
  have hne : b.isEmpty = false := by
    cases b with
    | nil => cases hb
    | cons _ _ => rfl
  have hsz : dataSize (keptEntries (bigIn b)) = 131072 := by
    rw [bigIn_kept]; simp [dataSize, hb]
  have hlong : (layoutOf (bigIn b) 1 0 0).long = true := by
    simp [layoutOf, hsz]
  have hlay : layoutOf (bigIn b) 1 0 0 = { numGlyphs := 2, long := true, sharedOff := 32, dataOff := 32 } := by
    unfold layoutOf
    rw [hsz]
    simp [arrSize, sharedOffOf, sharedSizeOf, hasShared, bigIn]
  have hlen : (assemble [0, 1, 0, 0, 0, 1, 0, 0] (layoutOf (bigIn b) 1 0 0) (bigIn b).nout (keptEntries (bigIn b)) []).length
      = 32 + 131071 := by
    rw [hlay, bigIn_kept]
    simp [assemble, offsets, offsetsGo, dataGo, stepBytes, stepOffset, encodeOffsets, Subset.be32, Subset.be16, bigIn, hne, hb]
  refine ⟨layoutOf (bigIn b) 1 0 0,
    assemble [0, 1, 0, 0, 0, 1, 0, 0] (layoutOf (bigIn b) 1 0 0) (bigIn b).nout (keptEntries (bigIn b)) [], ?_, hlong, ?_⟩
  · show emit (bigIn b) [0, 1, 0, 0, 0, 1, 0, 0] 1 0 0 = _
    exact emit_of (bigIn b) _ 1 0 0 [] (by simp [planOk, bigIn, ascBelow]) (by omega) (by rw [hlay]; decide)
      (by simp [sharedSource, hasShared]) (by simp [sharedSizeOf, hasShared]) (by rw [hlen]; show 32 + 131071 ≤ room 140000 2 2; decide)
      (by rw [hlong]; show 20 + arrSize 2 true ≤ room 140000 2 2; decide)
  · rw [hlen]; decide

example : (List.replicate 131071 7 : Bytes).length = 131071 := List.length_replicate ..

end FontVerif.C17Gvar
