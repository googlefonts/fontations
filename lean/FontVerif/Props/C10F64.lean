/-
C10 — the f64 side of the IUP optimiser: the values written for a delta (`ot_round`) and
where the f64 interpolation of `iup_segment` coincides with the exact rational one.
Model: Model/IupF64.lean (bit exact on the IEEE model, tied to write-fonts by hooks) and
Model/Iup.lean (integer inputs, exact rationals).  `OtRound` itself is C15's (Props/C15Round.lean).
-/
import FontVerif.Model.IupF64
import FontVerif.Model.Iup
import FontVerif.Lemmas.Ieee
import FontVerif.Lemmas.IupF64
import FontVerif.Lemmas.OtRound
import FontVerif.Props.C15Round
namespace FontVerif.C10
open FontVerif.Ieee FontVerif.IupF64 FontVerif.FixedConv

/-- **values written for integer deltas.**  The integer model of the optimiser (Model/Iup.lean) writes
`otRound16 d` (saturation to i16); for a delta that is an integer below `2^53` the Rust's
`delta.to_point().ot_round()` — `(x + 0.5).floor() as i16` in f64 — gives exactly that. -/
theorem written_value_integer (dx dy : Int) (hx : dx.natAbs < 2 ^ 53) (hy : dy.natAbs < 2 ^ 53) :
    writtenValue (ofI dx) (ofI dy) = (Iup.otRound16 dx, Iup.otRound16 dy) := by
  unfold writtenValue FixedConv.otRoundPoint
  rw [ofI_eq dx hx, ofI_eq dy hy]
  rw [C15Round.ot_round_int_idempotent f64 C15Round.f64_ok (-32768) 32767 (by decide) (by decide) (by decide) dx hx,
    C15Round.ot_round_int_idempotent f64 C15Round.f64_ok (-32768) 32767 (by decide) (by decide) (by decide) dy hy]
  unfold clampI Iup.otRound16
  congr 1 <;> (split <;> split <;> omega)

/-- **values written for any finite delta**: round half up (`⌊x + 1/2⌋`), then saturate — for every
finite f64 except the largest one below one half (where `x + 0.5` rounds up to `1.0`; known
finding C15-otround-below-half, shared with fontTools). -/
theorem written_value_half_up (nx : Bool) (mx : Nat) (ex : Int) (ny : Bool) (my : Nat) (ey : Int)
    (hmx : mx < 2 ^ 53) (hex : -1074 ≤ ex) (hmy : my < 2 ^ 53) (hey : -1074 ≤ ey)
    (hnx : ¬ C15Round.IsBelowHalf f64 nx mx ex) (hny : ¬ C15Round.IsBelowHalf f64 ny my ey) :
    writtenValue (.fin nx mx ex) (.fin ny my ey)
      = (clampI (-32768) 32767 (halfUp nx mx ex), clampI (-32768) 32767 (halfUp ny my ey)) := by
  unfold writtenValue FixedConv.otRoundPoint
  rw [C15Round.ot_round_f64_i16 nx mx ex hmx hex hnx, C15Round.ot_round_f64_i16 ny my ey hmy hey hny]

/-- **where the f64 `iup_segment` is exact without any assumption**: integer inputs below `2^53`
and a point that is not strictly between the two references (or references with the same
coordinate).  There the Rust performs no arithmetic — it copies a reference delta or writes `0.0` —
and the result is the exact model's value (`iupAxis`, denominator 1).
For a point strictly inside, the f64 result is `d1 + (c − c1) · ((d2 − d1) / (c2 − c1))` with three
roundings (`segAxis`, bit exact by correspondence); it equals the exact rational whenever the scale
`(d2 − d1) / (c2 − c1)` is a dyadic rational and all inputs are below `2^26` — this last statement
is an ASSUMPTION checked by the harness oracle `f64-interpolation-exact-when-scale-is-dyadic`, not
proved here; otherwise the two differ by at most a few units in the last place, which can flip the
tolerance comparison only on knife-edge inputs (counted and excluded from the hard diff). -/
theorem seg_f64_exact_outside (c1 d1 c2 d2 c : Int)
    (h1 : c1.natAbs < 2 ^ 53) (h2 : d1.natAbs < 2 ^ 53) (h3 : c2.natAbs < 2 ^ 53)
    (h4 : d2.natAbs < 2 ^ 53) (h5 : c.natAbs < 2 ^ 53)
    (hout : c1 = c2 ∨ c ≤ min c1 c2 ∨ c ≥ max c1 c2) :
    segAxis (ofI c1) (ofI d1) (ofI c2) (ofI d2) (ofI c) = ofI (Iup.iupAxis c1 d1 c2 d2 c).1 ∧
    (Iup.iupAxis c1 d1 c2 d2 c).2 = 1 := by
  unfold segAxis Iup.iupAxis
  rw [feq_ofI c1 c2 h1 h3, feq_ofI d1 d2 h2 h4, gt_ofI c1 c2 h1 h3]
  by_cases hc : c1 = c2
  · subst hc
    by_cases hd : d1 = d2
    · simp [hd]
    · simp [hd, ofI, ofInt, roundNE, zero]
  · simp only [hc, decide_false, Bool.false_eq_true, if_false]
    by_cases hgt : c1 > c2
    · simp only [hgt, decide_true, if_true]
      exact seg_outside c2 d2 c1 d1 c h3 h1 h5 (by omega) _ _
    · simp only [hgt, decide_false, Bool.false_eq_true, if_false]
      exact seg_outside c1 d1 c2 d2 c h1 h3 h5 (by omega) _ _

-- non-vacuity: ties go up, negative ties too; saturation; a point strictly inside with a dyadic scale
example : writtenValue (.fin false 5 (-1)) (.fin true 5 (-1)) = (3, -2) := by decide
example : writtenValue (ofI 40000) (ofI (-40000)) = (32767, -32768) := by decide +kernel
example : (segAxis (ofI 0) (ofI 0) (ofI 4) (ofI 2) (ofI 1)).show = "1e-1" := by decide +kernel

end FontVerif.C10
