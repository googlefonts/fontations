/-
C03 — the one arithmetic step of the CFF hinting set-up that is not structurally shared code:
the hinter's scale `(scale + 32) / 64` (skrifa cff/mod.rs ⇄ FreeType psaux/psft.c).
-/
import FontVerif.Lemmas.FtEq
import FontVerif.Model.CffScale
namespace FontVerif.C03

/-- **CFF hint scale**: for every 16.16 scale that fits an `i32` with `scale + 32` not overflowing, skrifa's
`(scale + 32) / 64` does not trap and is FreeType's `ADD_INT32( x_scale, 32 ) / 64` — a ROUNDING division
(truncation towards zero of `scale + 32`), not the shift `scale >> 6`. -/
theorem cff_hint_scale_eq (scale : Int) (h : -2147483648 ≤ scale ∧ scale ≤ 2147483615) :
    CffScale.skHintScale scale = some (CffScale.ftHintScale scale) := by
  unfold CffScale.skHintScale CffScale.ftHintScale
  rw [chk_fits (x := scale + 32) ⟨by omega, by omega⟩]
  have e : wrapI32 (wrapU32 scale + 32) = scale + 32 := by unfold wrapI32 wrapU32; simp only []; split <;> omega
  rw [e]; rfl

/-- for a non-negative scale the value is `⌊(scale + 32) / 64⌋`: it differs from `scale >> 6` exactly when
the low six bits are ≥ 32. -/
theorem cff_hint_scale_rounds (scale : Int) (h : 0 ≤ scale ∧ scale ≤ 2147483615) :
    CffScale.ftHintScale scale = (scale + 32) / 64 ∧
    (CffScale.ftHintScale scale = scale / 64 ↔ scale % 64 < 32) := by
  unfold CffScale.ftHintScale
  have e : wrapI32 (wrapU32 scale + 32) = scale + 32 := by unfold wrapI32 wrapU32; simp only []; split <;> omega
  rw [e, Int.tdiv_eq_ediv_of_nonneg (by omega)]
  constructor
  · rfl
  · omega

-- 13 ppem at 1024 units per em: scale 53248 → 832 either way; 11 ppem: 45056 → 704; a scale ending in
-- 0b100000 rounds up: 45088 → 705 (the shift gives 704); at the top skrifa traps, FreeType wraps
example : CffScale.skHintScale 53248 = some 832 ∧ CffScale.ftHintScale 45056 = 704
    ∧ CffScale.skHintScale 45088 = some 705 ∧ CffScale.ftHintScale 45088 = 705 ∧ (45088 : Int) / 64 = 704
    ∧ CffScale.skHintScale 2147483616 = none ∧ CffScale.ftHintScale 2147483616 = -33554432 := by decide +kernel

end FontVerif.C03
