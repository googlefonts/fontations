/-
C10 — the glyph variation DATA between the packed streams and the table layout:
`TupleVariationHeader`s, shared / private point numbers, shared / embedded peak tuples, intermediate
regions.  Property theorems only (helper lemmas: Lemmas/GvarData.lean, Lemmas/GvarStreams.lean).
Model: Model/GvarData.lean ⇄ write-fonts `tables/gvar.rs`, `tables/variations.rs`;
       read-fonts `tables/gvar.rs`, `tables/variations.rs`.
-/
import FontVerif.Model.GvarData
import FontVerif.Model.GvarLayout
import FontVerif.Lemmas.GvarData
import FontVerif.Lemmas.GvarStreams
import FontVerif.Props.C10
namespace FontVerif.C10
open FontVerif.PackedDeltas FontVerif.GvarData

/-- **The intermediate region is dropped exactly when it is implied.**  For every list of tents,
`GlyphDeltas::new` leaves the start / end tuples out of the header iff EVERY tent's `(min, max)`
equals `(min(peak, 0), max(peak, 0))`; otherwise it writes the tents' `min`s and `max`es, all of
them.  (Seed C10-6 turned the per-tent test into "both ends differ".) -/
theorem intermediate_dropped_iff_implied (tents : List Tent) (ds : List GDelta) (t : TupleIn)
    (h : glyphDeltasNew tents ds = some t) :
    (t.inter = none ↔ ∀ x ∈ tents, x.min = min x.peak 0 ∧ x.max = max x.peak 0) ∧
    (t.inter ≠ none → t.inter = some (tents.map (·.min), tents.map (·.max))) ∧
    t.peak = tents.map (·.peak) := by
  unfold glyphDeltasNew at h
  cases hb : pickBest ds with
  | none => simp [hb] at h
  | some b =>
    simp only [hb, Option.some.injEq] at h
    subst h
    have key : ∀ x : Tent, x.requiresIntermediate = false ↔ (x.min = min x.peak 0 ∧ x.max = max x.peak 0) := by
      intro x
      simp only [Tent.requiresIntermediate, impliedFor, ne_eq, decide_not, Bool.not_eq_false',
        decide_eq_true_eq, Prod.mk.injEq]
      constructor
      · rintro ⟨h1, h2⟩; rw [h1, h2]; constructor <;> (split <;> omega)
      · rintro ⟨h1, h2⟩; rw [h1, h2]; constructor <;> (split <;> omega)
    refine ⟨?_, ?_, rfl⟩
    · simp only []
      constructor
      · intro hn x hx
        have : tents.any Tent.requiresIntermediate = false := by
          cases ha : tents.any Tent.requiresIntermediate
          · rfl
          · simp [ha] at hn
        rw [List.any_eq_false] at this
        exact (key x).mp (by simpa using this x hx)
      · intro hall
        have : tents.any Tent.requiresIntermediate = false := by
          rw [List.any_eq_false]
          intro x hx
          simpa using (key x).mpr (hall x hx)
        simp [this]
    · simp only []
      intro hne
      split
      · rfl
      · rename_i hf; simp [hf] at hne

/-- what `listed` contains: with `all` every point `k` with its deltas, otherwise exactly the
required points (membership only; that the list ascends in `k` is not part of the statement). -/
theorem listed_spec (all : Bool) (ds : List GDelta) (k : Nat) (x y : Int) :
    (k, x, y) ∈ listed all ds ↔ ∃ r, ds[k]? = some (x, y, r) ∧ (all = true ∨ r = true) := by
  simp only [listed, List.mem_map, List.mem_filter, mem_indexed, Nat.zero_le, true_and, Nat.sub_zero]
  constructor
  · rintro ⟨e, ⟨h1, h2⟩, h3⟩
    obtain ⟨ek, ex, ey, er⟩ := e
    simp only [Prod.mk.injEq] at h3
    obtain ⟨rfl, rfl, rfl⟩ := h3
    exact ⟨er, h1, by simpa using h2⟩
  · rintro ⟨r, h1, h2⟩
    exact ⟨(k, x, y, r), ⟨h1, by simpa using h2⟩, rfl⟩

/-- Take any non-empty list of tuples as the public API accepts
them — each a list of tents (with or without explicit intermediates) and a list of deltas with
required / optional marks, all tuples over `ax` axes — ANY list `shared` of shared peak tuples with
ANY lookup into it that returns valid indices below 4096, and ANY choice `sharedPts` of shared point
numbers that is itself a skippable packed point-number block.  If write-fonts serialises the glyph
(`hw`: no panic), then read-fonts' `GlyphVariationData::new` on those bytes — followed by anything,
e.g. the padding byte of short offsets — succeeds and its tuple iterator returns exactly one tuple
per written tuple, in order, and for each of them
* `peak()` is the tents' peaks (embedded, or found through the shared tuple index),
* the intermediate start / end tuples are what `GlyphDeltas::new` kept (`intermediate_dropped_iff_implied`),
* `has_deltas_for_all_points()` says whether the writer chose the "all points" form, and
* `deltas()` yields `(point, x, y)` for every point (all-points form) or for exactly the required
  points (explicit form: private or shared point numbers), each with its own index and its own
  deltas, in ascending point order (`listed`, characterised by `listed_spec`).
Sizes: at most 32767 deltas per tuple (the 15-bit point count), i16 values (the Rust types). -/
theorem glyph_variations_roundtrip (ax : Nat) (shared : List (List Int))
    (lookup : List Int → Option Nat)
    (hlk : ∀ p i, lookup p = some i → i < 4096 ∧ shared[i]? = some p)
    (sharedPts : Option PPN)
    (hsp : ∀ q, sharedPts = some q →
      ∃ sq, ppnBytes q = some sq ∧ ∀ tail, splitRemainder (sq ++ tail) = tail)
    (inputs : List (List Tent × List GDelta)) (hne : inputs ≠ [])
    (hax : ∀ i ∈ inputs, i.1.length = ax)
    (ht16 : ∀ i ∈ inputs, ∀ x ∈ i.1, inI16 x.peak ∧ inI16 x.min ∧ inI16 x.max)
    (hlen : ∀ i ∈ inputs, i.2.length ≤ 32767)
    (hd16 : ∀ i ∈ inputs, ∀ d ∈ i.2, inI16 d.1 ∧ inI16 d.2.1)
    (ts : List TupleIn) (hnew : inputs.mapM (fun i => glyphDeltasNew i.1 i.2) = some ts)
    (bytes : List Nat) (hw : writeGlyphWith lookup sharedPts ts = some bytes) (rest : List Nat) :
    ∃ g, readGlyph ax (bytes ++ rest) = some g ∧
      g.tuples.map (RawTuple.view shared g.sharedPts) = ts.map TupleIn.view ∧
      ts.map (·.deltas) = inputs.map (·.2) := by
  obtain ⟨hok, hds⟩ := glyphDeltasNew_all_ok ax inputs hax ht16 hlen hd16 ts hnew
  have hne' : ts ≠ [] := by
    intro h; subst h; exact hne (List.map_eq_nil_iff.mp hds.symm)
  obtain ⟨g, g1, g2⟩ := writeGlyphWith_roundtrip ax shared lookup hlk sharedPts hsp ts hne' hok bytes hw rest
  exact ⟨g, g1, g2, hds⟩

/-- **the implemented heuristics round-trip** (corollary): with the shared point numbers chosen by
`compute_shared_points` (most bytes saved, first wins on ties) and the shared peak tuples looked up
in any list of at most 4096 tuples — in particular the one `compute_shared_peak_tuples` builds
(`sharedPeakTuples`, at most 4095 entries) — `GlyphVariations::build` + `write_into` is read back
as in `glyph_variations_roundtrip`. -/
theorem glyph_variations_roundtrip_heuristics (ax : Nat) (shared : List (List Int))
    (hshared : shared.length ≤ 4096)
    (inputs : List (List Tent × List GDelta)) (hne : inputs ≠ [])
    (hax : ∀ i ∈ inputs, i.1.length = ax)
    (ht16 : ∀ i ∈ inputs, ∀ x ∈ i.1, inI16 x.peak ∧ inI16 x.min ∧ inI16 x.max)
    (hlen : ∀ i ∈ inputs, i.2.length ≤ 32767)
    (hd16 : ∀ i ∈ inputs, ∀ d ∈ i.2, inI16 d.1 ∧ inI16 d.2.1)
    (ts : List TupleIn) (hnew : inputs.mapM (fun i => glyphDeltasNew i.1 i.2) = some ts)
    (bytes : List Nat) (hw : writeGlyph shared ts = some bytes) (rest : List Nat) :
    ∃ g, readGlyph ax (bytes ++ rest) = some g ∧
      g.tuples.map (RawTuple.view shared g.sharedPts) = ts.map TupleIn.view ∧
      ts.map (·.deltas) = inputs.map (·.2) := by
  unfold writeGlyph at hw
  cases hc : computeSharedPoints ts with
  | none => simp [hc] at hw
  | some sp =>
    simp only [hc] at hw
    refine glyph_variations_roundtrip ax shared (lookupIn shared)
      (fun p i h => by obtain ⟨h1, h2⟩ := lookupIn_spec shared p i h; exact ⟨by omega, h2⟩)
      sp ?_ inputs hne hax ht16 hlen hd16 ts hnew bytes hw rest
    intro q hq
    subst hq
    obtain ⟨t, ht, hb⟩ := computeSharedPoints_mem ts q hc
    have tok := (glyphDeltasNew_all_ok ax inputs hax ht16 hlen hd16 ts hnew).1 t ht
    rw [← hb]
    exact sharedOk_best _ _ tok.best tok.len

/-- `compute_shared_peak_tuples` never yields more than 4095 tuples, so every shared tuple index
fits the 12 index bits of `tupleIndex` next to the three flag bits. -/
theorem shared_peak_tuples_fit (glyphs : List (List TupleIn)) :
    (sharedPeakTuples glyphs).length ≤ 4095 := by
  simp only [sharedPeakTuples, List.length_map, List.length_take]
  omega

open FontVerif.GvarLayout in
/-- **`Gvar::new` → table → `glyph_variation_data(gid)`, end to end.**  If `Gvar::new` accepts the
glyphs (`.ok`: no `GvarInputError`, no panic) and every `GlyphDeltas` is well formed (`TupleOk`:
what `GlyphDeltas::new`, the Rust types and `validate` guarantee, `glyphDeltasNew_ok`), then in the
table write-fonts lays out (`hdr` = the 20 header bytes + offsets array, short or long offsets as
`compute_flags` decides) glyph `i` — in gid order — resolves through `data_for_gid` to
* no data at all iff the glyph has no tuples, and otherwise
* bytes (its data, plus the padding byte of short offsets) on which `GlyphVariationData::new` and
  the tuple iterator return the glyph's tuples exactly as in `glyph_variations_roundtrip`, peaks
  looked up in the table's shared tuples (`sharedPeakTuples`). -/
theorem gvar_new_roundtrip (glyphs : List (Nat × List TupleIn)) (ax : Nat)
    (shared : List (List Int)) (blobs : List (List Nat))
    (h : gvarNew glyphs ax = .ok shared blobs)
    (hok : ∀ g ∈ glyphs, ∀ t ∈ g.2, TupleOk ax t)
    (hdr : List Nat) (hhdr : hdr.length = dataArrayOffset (useLong blobs) blobs.length)
    (hsz : (hdr ++ writeData (useLong blobs) hdr.length blobs).length < 4294967296)
    (i : Nat) (hi : i < blobs.length) :
    blobs.length = (glyphs.foldr insertByGid []).length ∧
    ∃ ts, ((glyphs.foldr insertByGid [])[i]?).map (·.2) = some ts ∧
      match dataForGid (hdr ++ writeData (useLong blobs) hdr.length blobs) (useLong blobs)
          (dataArrayOffset (useLong blobs) blobs.length) (storedOffsets (useLong blobs) blobs) i with
      | some none => ts = []
      | some (some data) => ts ≠ [] ∧ ∃ g, readGlyph ax data = some g ∧
          g.tuples.map (RawTuple.view shared g.sharedPts) = ts.map TupleIn.view
      | none => False := by
  unfold gvarNew at h
  split at h
  · cases h
  · split at h
    · cases h
    · simp only [] at h
      split at h
      · cases h
      · rename_i blobs' hm
        injection h with h1 h2
        subst h1; subst h2
        obtain ⟨hl, hv⟩ := mapM_some_length _ _ _ hm
        have hi' : i < (glyphs.foldr insertByGid []).length := by omega
        refine ⟨hl, ((glyphs.foldr insertByGid [])[i]).2, by simp [List.getElem?_eq_getElem hi'], ?_⟩
        have hwi := hv i hi'
        rw [List.getElem?_eq_getElem hi] at hwi
        have hmem : (glyphs.foldr insertByGid [])[i] ∈ glyphs :=
          (mem_sorted glyphs _).mp (List.getElem_mem hi')
        have hres := gvar_offsets_resolve blobs' (useLong blobs') hdr hhdr hsz i hi
        rw [hres]
        have hget : blobs'.getD i [] = blobs'[i] := by
          rw [List.getD_eq_getElem?_getD, List.getElem?_eq_getElem hi]; rfl
        rw [hget]
        by_cases hts : ((glyphs.foldr insertByGid [])[i]).2 = []
        · rw [hts, writeGlyph_empty] at hwi
          injection hwi with hwi
          rw [← hwi]
          simpa using hts
        · have hne := writeGlyph_nonempty _ _ hts _ hwi
          have hemp : blobs'[i].isEmpty = false := by
            cases hb : blobs'[i] with
            | nil => exact absurd hb hne
            | cons _ _ => rfl
          simp only [hemp, Bool.false_eq_true, if_false]
          refine ⟨hts, ?_⟩
          exact writeGlyph_roundtrip ax _ (by have := shared_peak_tuples_fit (glyphs.map (·.2)); omega)
            _ hts (hok _ hmem) _ hwi _

-- non-vacuity: a triangle (+4 phantom points) with a sparse tuple and an all-points tuple, one axis;
-- the peak is used twice so it is a shared tuple; the second tent needs its intermediate region.
example :
    let t1 := glyphDeltasNew [Tent.new 16384 none]
      [(10, 0, true), (20, 5, false), (-7, 9, false), (0, 0, false), (0, 0, false), (0, 0, false), (0, 0, false)]
    let t2 := glyphDeltasNew [Tent.new 16384 (some (8192, 16384))]
      [(1, 1, true), (2, 2, true), (3, 3, true), (0, 0, true), (0, 0, true), (0, 0, true), (0, 0, true)]
    (t1.map (·.best) = some (some [0])) ∧ (t2.map (·.best) = some none) ∧
    (t2.bind (·.inter) = some ([8192], [16384])) ∧ (t1.bind (·.inter) = none) := by decide +kernel

set_option synthInstance.maxSize 1024 in
example :
    ((glyphDeltasNew [Tent.new 16384 none]
        [(10, 0, true), (20, 5, false), (-7, 9, false), (0, 0, false), (0, 0, false), (0, 0, false), (0, 0, false)]).bind
      fun t1 => (glyphDeltasNew [Tent.new 16384 (some (8192, 16384))]
        [(1, 1, true), (2, 2, true), (3, 3, true), (0, 0, true), (0, 0, true), (0, 0, true), (0, 0, true)]).bind
      fun t2 => (writeGlyph [[16384]] [t1, t2]).bind
      fun bytes => (readGlyph 1 (bytes ++ [0])).map
      fun g => g.tuples.map (RawTuple.view [[16384]] g.sharedPts))
    = some [([16384], none, false, [(0, 10, 0)]),
            ([16384], some ([8192], [16384]), true,
              [(0, 1, 1), (1, 2, 2), (2, 3, 3), (3, 0, 0), (4, 0, 0), (5, 0, 0), (6, 0, 0)])] := by
  decide +kernel

end FontVerif.C10
