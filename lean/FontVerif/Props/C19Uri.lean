/-
C19 — uri template expansion (Model/UriTemplate.lean ⇄ uri_templates.rs).
Helper lemmas: Lemmas/UriTemplate.lean.

Vocabulary:
* `parseEvents tpl` — the template read by the state machine of `take_input` as a list of output
  EVENTS (`raw b`: byte copied verbatim — allowed literal, `%`, the two hex digits of a `%XX` triplet;
  `enc b`: literal that gets percent-encoded; `id`; `id64`; `digit n` for `{d1}`…`{d4}`); `none` =
  `UriTemplateError` (invalid literal byte, `%` not followed by two hex digits, unknown or unterminated
  expression).  It does not look at the id.
* `render a b evs` — concatenation of the events' outputs with `{id}` ↦ `a`, `{id64}` ↦ `b`,
  `{dN}` ↦ the N-th character of `a` from the end (`_` when `a` is shorter).
* `idBytes id` — the id's bytes (numeric: big-endian `u32` without leading zero bytes, at least one);
  `base32hex` — `BASE32HEX_NO_PADDING`; `id64Of` — `BASE64URL` with `=` padding, each `=` percent-encoded.
-/
import FontVerif.Lemmas.UriTemplate
namespace FontVerif.C19
open FontVerif.PatchMap FontVerif.UriTemplate

/-- For every template and every patch id, `expand_template` is the rendering
of the template's events with the id's base32hex / base64url strings; in particular it fails
(`UriTemplateError`) exactly when the TEMPLATE does not parse — never depending on the id — and
otherwise returns the concatenation of the events' outputs. -/
theorem uri_expand_total (tpl : List Nat) (id : PatchId) :
    expandTemplate tpl id
      = (parseEvents tpl).map (render (base32hex (idBytes id)) (id64Of (idBytes id))) ∧
    (expandTemplate tpl id = none ↔ parseEvents tpl = none) := by
  have h : expandTemplate tpl id
      = (parseEvents tpl).map (render (base32hex (idBytes id)) (id64Of (idBytes id))) := by
    unfold expandTemplate
    simp only []
    rw [expandInner_eq]
    rfl
  refine ⟨h, ?_⟩
  rw [h]
  cases parseEvents tpl <;> simp

/-- Two patch ids that expand to the SAME uri under one template
(`u`) — the exact condition under which they must have the same bytes (`idBytes`; every byte `< 256`):

* the template parses (`evs`), and the lengths satisfy
  `#{id}·|base32hex₁| + #{id64}·|id64₁| = #{id}·|base32hex₂| + #{id64}·|id64₂|` (always);
* if the template contains `{id}` or `{id64}` and the two ids have the same number of bytes, their
  bytes are equal;
* if the template contains `{id}` and no `{id64}`, their bytes are equal (whatever their lengths:
  `|base32hex|` is strictly increasing in the number of bytes).

Contrapositive: ids with different bytes give different uris whenever the template contains `{id}` or `{id64}`,
unless it mixes in `{id64}` AND the ids differ in byte length AND the substituted lengths collide
(`{id}{id64}`: 1-byte and 2-byte ids both give 10 characters) — for that residue the uris are still
compared as strings by `select_next_patches_from_candidates` (`group_no_duplicate_uri` does not rely
on injectivity). -/
theorem uri_expand_injective_on_ids (tpl : List Nat) (id1 id2 : PatchId) (u : List Nat)
    (hb1 : ∀ b ∈ idBytes id1, b < 256) (hb2 : ∀ b ∈ idBytes id2, b < 256)
    (h1 : expandTemplate tpl id1 = some u) (h2 : expandTemplate tpl id2 = some u) :
    ∃ evs, parseEvents tpl = some evs ∧
      evs.count .id * (base32hex (idBytes id1)).length + evs.count .id64 * (id64Of (idBytes id1)).length
        = evs.count .id * (base32hex (idBytes id2)).length + evs.count .id64 * (id64Of (idBytes id2)).length ∧
      ((idBytes id1).length = (idBytes id2).length → (Ev.id ∈ evs ∨ Ev.id64 ∈ evs) →
        idBytes id1 = idBytes id2) ∧
      (Ev.id ∈ evs → Ev.id64 ∉ evs → idBytes id1 = idBytes id2) := by
  rw [(uri_expand_total tpl id1).1] at h1
  rw [(uri_expand_total tpl id2).1] at h2
  cases hp : parseEvents tpl with
  | none => rw [hp] at h1; cases h1
  | some evs =>
    rw [hp] at h1 h2
    simp only [Option.map_some, Option.some.injEq] at h1 h2
    have heq := h1.trans h2.symm
    have hlen := congrArg List.length heq
    rw [render_length, render_length] at hlen
    have same : (idBytes id1).length = (idBytes id2).length → (Ev.id ∈ evs ∨ Ev.id64 ∈ evs) →
        idBytes id1 = idBytes id2 := by
      intro hl hmem
      have ha : (base32hex (idBytes id1)).length = (base32hex (idBytes id2)).length := by
        rw [base32hex_length, base32hex_length, hl]
      have hb : (id64Of (idBytes id1)).length = (id64Of (idBytes id2)).length := by
        rw [id64Of_length, id64Of_length, hl]
      obtain ⟨r1, r2⟩ := render_inj _ _ _ _ ha hb evs heq
      rcases hmem with hm | hm
      · exact base32hex_inj _ _ hb1 hb2 hl (r1 hm)
      · exact id64Of_inj _ _ hb1 hb2 hl (r2 hm)
    refine ⟨evs, rfl, by omega, same, ?_⟩
    intro hid hno
    have hc0 : evs.count .id64 = 0 := List.count_eq_zero.2 hno
    have hc1 : 0 < evs.count .id := List.count_pos_iff.2 hid
    rw [hc0] at hlen
    simp only [Nat.zero_mul, Nat.add_zero] at hlen
    have hmul : evs.count .id * (base32hex (idBytes id1)).length
        = evs.count .id * (base32hex (idBytes id2)).length := by omega
    have hs := Nat.eq_of_mul_eq_mul_left hc1 hmul
    rw [base32hex_length, base32hex_length] at hs
    exact same (by omega) (Or.inl hid)

/-- Numeric entry ids (`u32`, what format 1 and format 2
without id strings produce): under a template that contains `{id}` and no `{id64}`, or that contains
`{id}` / `{id64}` and the two ids need the same number of bytes, different ids expand to different
uris. -/
theorem uri_expand_injective_on_numeric_ids (tpl : List Nat) (n m : Nat) (hn : n < 4294967296)
    (hm : m < 4294967296) (u : List Nat)
    (h1 : expandTemplate tpl (.num n) = some u) (h2 : expandTemplate tpl (.num m) = some u) :
    ∃ evs, parseEvents tpl = some evs ∧
      ((idBytes (.num n)).length = (idBytes (.num m)).length → (Ev.id ∈ evs ∨ Ev.id64 ∈ evs) → n = m) ∧
      (Ev.id ∈ evs → Ev.id64 ∉ evs → n = m) := by
  obtain ⟨v1, b1⟩ := idBytes_num_value n hn
  obtain ⟨v2, b2⟩ := idBytes_num_value m hm
  obtain ⟨evs, hp, _, hs, hd⟩ := uri_expand_injective_on_ids tpl (.num n) (.num m) u b1 b2 h1 h2
  refine ⟨evs, hp, ?_, ?_⟩
  · intro hl hmem
    have := hs hl hmem
    rw [← v1, ← v2, this]
  · intro hi hno
    have := hd hi hno
    rw [← v1, ← v2, this]

/-! ## non-vacuity / the specification's examples -/

section Examples

private def str (s : String) : List Nat := s.toList.map (·.toNat)

example : expandTemplate (str "//foo.bar/{id}") (.num 123) = some (str "//foo.bar/FC") := by decide +kernel
example : expandTemplate (str "//foo.bar/{id}") (.num 0) = some (str "//foo.bar/00") := by decide +kernel
example : expandTemplate (str "//foo.bar/{d1}/{d2}/{id}") (.num 478) = some (str "//foo.bar/0/F/07F0") := by
  decide +kernel
example : expandTemplate (str "{id64}") (.num 14000000) = some (str "1Z-A") := by decide +kernel
/-- `=` padding of base64url is percent-encoded -/
example : expandTemplate (str "{id64}") (.num 0) = some (str "AA%3D%3D") := by decide +kernel
/-- literals: copied, percent-encoded (space is not allowed at all, non-ASCII is encoded), `%XX` kept -/
example : expandTemplate [97, 0xC9, 37, 50, 48] (.num 1) = some (str "a%C9%20") := by decide +kernel
example : parseEvents (str "a b") = none := by decide +kernel
/-- unknown / unterminated expressions, bad percent triplets -/
example : parseEvents (str "{x}") = none ∧ parseEvents (str "{id") = none ∧ parseEvents (str "{id6}") = none ∧
    parseEvents (str "{d5}") = none ∧ parseEvents (str "{}") = none ∧ parseEvents (str "%4") = none ∧
    parseEvents (str "%zz") = none ∧ parseEvents (str "}") = none := by decide +kernel
example : parseEvents (str "a{d1}{id}%4f{id64}") = some [.raw 97, .digit 1, .id, .raw 37, .raw 52, .raw 102, .id64] := by
  decide +kernel
/-- the length collision that keeps the general statement conditional -/
example : ((expandTemplate (str "{id}{id64}") (.str [7])).map List.length,
           (expandTemplate (str "{id}{id64}") (.str [7, 7])).map List.length) = (some 10, some 10) := by
  decide +kernel

end Examples

end FontVerif.C19
