/-
C15 — Scalar and fixed-point types encode, convert and round exactly as specified.
Property theorems and one private step (`wrapU32_id`); helper lemmas live in Lemmas/Round.lean, Lemmas/FixedOps.lean,
Lemmas/BeScalar.lean.
Model: Model/Fixed.lean ⇄ font-types/src/{fixed,int24,uint24,raw}.rs.
-/
import FontVerif.Model.Fixed
import FontVerif.Lemmas.Round
import FontVerif.Lemmas.FixedOps
import FontVerif.Lemmas.BeScalar
set_option linter.unusedVariables false
namespace FontVerif.C15
open FontVerif.Fixed FontVerif.BeScalar

/-! ### multiplication, division, multiply-divide: exact result rounded half away from zero
whenever representable -/

/-- `a * b` (16.16): for all i32 operands, if the exactly computed product `a·b / 2^16`
rounded half away from zero is some representable `r`, the operator returns `r`. -/
theorem mul_spec (a b r : Int) (ha : inI32 a) (hb : inI32 b) (hr : inI32 r)
    (h : IsRHA (a * b) 65536 r) : mul a b = r := by
  rw [Fixed.mul_eq, ← (isRHA_iff (by decide)).1 h, wrapI32_id hr]

example : inI32 98304 ∧ inI32 (-163840) ∧ IsRHA (98304 * -163840) 65536 (-245760)
    ∧ mul 98304 (-163840) = -245760 := by decide

private theorem wrapU32_id {q : Int} (h0 : 0 ≤ q) (h1 : q ≤ 2147483648) : wrapU32 q = q := by
  unfold wrapU32; omega

/-- `a / b` (16.16): for all i32 operands with `b ≠ 0`, if the exact quotient `a·2^16 / b`
rounded half away from zero is a representable `r`, the operator returns `r`
(this includes `i32::MIN / ONE = i32::MIN`, which the pre-fix code got wrong). -/
theorem div_spec (a b r : Int) (ha : inI32 a) (hb : inI32 b) (hb0 : b ≠ 0) (hr : inI32 r)
    (h : IsRHAq (a * 65536) b r) : div a b = r := by
  rw [Fixed.div_eq a hb0, ← (isRHAq_iff hb0).1 h, wrapI32_id hr]

example : div (-2147483648) 65536 = -2147483648 ∧ IsRHAq (-2147483648 * 65536) 65536 (-2147483648) := by
  decide

/-- division by zero saturates: `x / 0 = ±0x7FFFFFFF` with the sign of `x` (documented). -/
theorem div_by_zero_saturates (a : Int) (ha : inI32 a) :
    div a 0 = if a < 0 then -2147483647 else 2147483647 := by
  unfold div iabs wrapI32 wrapU32
  simp

/-- `s.mul_div(a, b)`: for all i32 operands with `b ≠ 0`, if the exact value `s·a / b`
rounded half away from zero is a representable `r`, `mul_div` returns `r`. -/
theorem mul_div_spec (s a b r : Int) (hs : inI32 s) (ha : inI32 a) (hb : inI32 b) (hb0 : b ≠ 0)
    (hr : inI32 r) (h : IsRHAq (s * a) b r) : mulDiv s a b = r := by
  rw [Fixed.mulDiv_eq hs ha hb hb0, ← (isRHAq_iff hb0).1 h, wrapI32_id hr]

example : mulDiv (-2147483648) 65536 65536 = -2147483648 := by decide

/-- `Fixed::to_f2dot14` is the specification's rule: add 2, arithmetic shift right by 2
(i.e. `⌊(x + 2) / 4⌋`), for every value whose result fits 2.14. -/
theorem to_f2dot14_spec (a : Int) (ha : inI32 a) (hfit : inI16 ((a + 2) / 4)) :
    toF2Dot14 a = (a + 2) / 4 := by
  have hnw : inI32 (a + 2) := by unfold inI32 inI16 at *; omega
  rw [toF2Dot14, wrapI32_id hnw, wrapI16_id hfit]

/-- 2.14 → 16.16 is exact and `to_f2dot14 ∘ to_fixed = id` for every 2.14 value. -/
theorem f2dot14_fixed_roundtrip (x : Int) (hx : inI16 x) :
    toF2Dot14 (f2dot14ToFixed x) = x := by
  have hnw : inI32 (x * 4 + 2) := by unfold inI32 inI16 at *; omega
  rw [toF2Dot14, f2dot14ToFixed, wrapI32_id hnw, wrapI16_id (by unfold inI16 at *; omega)]
  omega

/-- `Fixed::to_i32` rounds to nearest (half up) when `a + 0x8000` does not wrap. -/
theorem to_i32_spec (a : Int) (ha : inI32 a) (h : a + 32768 < 2147483648) :
    toI32 a = (a + 32768) / 65536 := by
  rw [toI32, wrapI32_id (by unfold inI32 at *; omega)]

theorem to_f26dot6_spec (a : Int) (ha : inI32 a) (h : a + 512 < 2147483648) :
    toF26Dot6 a = (a + 512) / 1024 := by
  rw [toF26Dot6, wrapI32_id (by unfold inI32 at *; omega)]

/-- `from_i32 ∘ to_i32` on integers: `to_i32 (from_i32 i) = i` for every 16-bit integer. -/
theorem from_to_i32 (i : Int) (hi : inI16 i) : toI32 (fromI32 i) = i := by
  rw [toI32, fromI32, wrapI32_id (x := i * 65536) (by unfold inI32 inI16 at *; omega),
    wrapI32_id (by unfold inI32 inI16 at *; omega)]
  omega

/-- floor/fract decomposition: `floor x + fract x = x`, `0 ≤ fract x < 1`,
`floor x` is a multiple of one. -/
theorem floor_fract_16 (a : Int) :
    floorBits 16 a + fractBits 16 a = a ∧ 0 ≤ fractBits 16 a ∧ fractBits 16 a < 65536
      ∧ floorBits 16 a % 65536 = 0 := by
  unfold floorBits fractBits
  have : (2 : Int) ^ 16 = 65536 := by decide
  rw [this]; omega

theorem floor_fract_6 (a : Int) :
    floorBits 6 a + fractBits 6 a = a ∧ 0 ≤ fractBits 6 a ∧ fractBits 6 a < 64
      ∧ floorBits 6 a % 64 = 0 := by
  unfold floorBits fractBits
  have : (2 : Int) ^ 6 = 64 := by decide
  rw [this]; omega

/-- `round` (16.16) returns the multiple of one nearest to `a` (ties up) when no wrap occurs. -/
theorem round_16_spec (a : Int) (ha : inI32 a) (h : a + 32768 < 2147483648) :
    roundBits 16 a = (a + 32768) / 65536 * 65536 := by
  unfold roundBits wrapI32; unfold inI32 at ha
  have : (2 : Int) ^ 16 = 65536 := by decide
  rw [this]; simp only []; split <;> omega

/-- the float view is exact: `int + fract/one` with `int·one + fract = bits`, `0 ≤ fract < one`
(so `to_f64`'s two terms are each exactly representable and sum to `bits / 2^16`). -/
theorem to_float_parts_16 (a : Int) :
    (toFloatParts 16 a).1 * 65536 + (toFloatParts 16 a).2 = a ∧
      0 ≤ (toFloatParts 16 a).2 ∧ (toFloatParts 16 a).2 < 65536 := by
  unfold toFloatParts
  have : (2 : Int) ^ 16 = 65536 := by decide
  simp only [this]; omega

theorem to_float_parts_14 (a : Int) :
    (toFloatParts 14 a).1 * 16384 + (toFloatParts 14 a).2 = a ∧
      0 ≤ (toFloatParts 14 a).2 ∧ (toFloatParts 14 a).2 < 16384 := by
  unfold toFloatParts
  have : (2 : Int) ^ 14 = 16384 := by decide
  simp only [this]; omega

theorem int24_new_saturates (raw : Int) :
    inI32 raw → (-8388608 ≤ int24New raw ∧ int24New raw ≤ 8388607) ∧
      ((-8388608 ≤ raw ∧ raw ≤ 8388607) → int24New raw = raw) ∧
      (raw > 8388607 → int24New raw = 8388607) ∧ (raw < -8388608 → int24New raw = -8388608) := by
  intro _; unfold int24New; split <;> (try split) <;> omega

theorem uint24_new_saturates (raw : Int) (h : inU32 raw) :
    uint24New raw ≤ 16777215 ∧ (raw ≤ 16777215 → uint24New raw = raw) ∧
      (raw > 16777215 → uint24New raw = 16777215) := by
  unfold uint24New; split <;> omega

/-- every 24-bit signed value survives `to_be_bytes` then `from_be_bytes`. -/
theorem int24_be_roundtrip (v : Int) (h : -8388608 ≤ v ∧ v ≤ 8388607) :
    (match int24ToBe v with
     | [b0, b1, b2] => int24FromBe b0 b1 b2
     | _ => 0) = v := by
  unfold int24ToBe int24FromBe int24New wrapU32
  simp only []
  split <;> split <;> (try split) <;> omega

/-- every 3-byte pattern survives `from_be_bytes` then `to_be_bytes` (sign extension is exact). -/
theorem int24_bytes_roundtrip (b0 b1 b2 : Int) (h0 : inU8 b0) (h1 : inU8 b1) (h2 : inU8 b2) :
    int24ToBe (int24FromBe b0 b1 b2) = [b0, b1, b2] := by
  unfold int24ToBe int24FromBe int24New wrapU32; unfold inU8 at *
  simp only []
  split <;> split <;> (try split) <;> simp <;> omega

theorem uint24_be_roundtrip (v : Int) (h : 0 ≤ v ∧ v ≤ 16777215) :
    (match uint24ToBe v with
     | [b0, b1, b2] => uint24FromBe b0 b1 b2
     | _ => 0) = v := by
  unfold uint24ToBe uint24FromBe uint24New
  simp only []
  split <;> omega

theorem uint24_bytes_roundtrip (b0 b1 b2 : Int) (h0 : inU8 b0) (h1 : inU8 b1) (h2 : inU8 b2) :
    uint24ToBe (uint24FromBe b0 b1 b2) = [b0, b1, b2] := by
  unfold uint24ToBe uint24FromBe uint24New; unfold inU8 at *
  split
  · omega
  · simp only [List.cons.injEq, and_true]; omega

/-- 16-bit unsigned scalars: value → bytes → value (bytes → value → bytes is `u16_bytes_roundtrip`). -/
theorem u16_be_roundtrip (v : Int) (h : inU16 v) : fromBeU (toBeU 2 v) = v :=
  fromBeU_toBeU_of_range 2 h

theorem u16_bytes_roundtrip (b0 b1 : Int) (h0 : inU8 b0) (h1 : inU8 b1) :
    toBeU 2 (fromBeU [b0, b1]) = [b0, b1] :=
  toBeU_fromBeU 2 rfl (by simp [Bytes, h0, h1])

theorem u32_be_roundtrip (v : Int) (h : inU32 v) : fromBeU (toBeU 4 v) = v :=
  fromBeU_toBeU_of_range 4 h

theorem u32_bytes_roundtrip (b0 b1 b2 b3 : Int) (h0 : inU8 b0) (h1 : inU8 b1) (h2 : inU8 b2)
    (h3 : inU8 b3) : toBeU 4 (fromBeU [b0, b1, b2, b3]) = [b0, b1, b2, b3] :=
  toBeU_fromBeU 4 rfl (by simp [Bytes, h0, h1, h2, h3])

theorem i16_be_roundtrip (v : Int) (h : inI16 v) : fromBeS 2 (toBeS 2 v) = v := fromBeS_toBeS 2 h

theorem i32_be_roundtrip (v : Int) (h : inI32 v) : fromBeS 4 (toBeS 4 v) = v := fromBeS_toBeS 4 h

/-- ordering of fixed values is ordering of raw bits: the model *is* the raw bits; the right side compares
`int · 2^16 + fract` of `toFloatParts 16`, which is the raw value again (`to_float_parts_16`).  The order of
the float values is `C15Float.to_float_order`. -/
theorem fixed_ord_is_bits_ord (a b : Int) :
    (a < b ↔ (toFloatParts 16 a).1 * 65536 + (toFloatParts 16 a).2 <
             (toFloatParts 16 b).1 * 65536 + (toFloatParts 16 b).2) := by
  have ha := (to_float_parts_16 a).1
  have hb := (to_float_parts_16 b).1
  omega

/-! ### `impl Neg` and `abs`

After `fix:` 7d0f778 they never trap (the unfixed code did on `i32::MIN`), return the mathematical
negation / absolute value whenever that is representable, and at `MIN` wrap to `MIN`
(the same convention as `Add`/`Sub`). -/

theorem neg_total (a : Int) : (neg a).isSome := by simp [neg]

theorem abs_total (a : Int) : (Fixed.abs a).isSome := by simp [Fixed.abs]

theorem neg_exact (a : Int) (h : inI32 a) (hm : a ≠ I32_MIN) : neg a = some (-a) := by
  unfold inI32 at h; unfold I32_MIN at hm
  simp only [neg, wrapI32]; congr 1; omega

theorem abs_exact (a : Int) (h : inI32 a) (hm : a ≠ I32_MIN) : Fixed.abs a = some (iabs a) := by
  unfold inI32 at h; unfold I32_MIN at hm
  simp only [Fixed.abs, wrapI32, iabs]; congr 1; split <;> omega

theorem neg_min : neg I32_MIN = some I32_MIN := by decide

theorem abs_min : Fixed.abs I32_MIN = some I32_MIN := by decide

theorem neg_involutive (a : Int) (h : inI32 a) : (neg a).bind neg = some a := by
  unfold inI32 at h
  simp only [neg, Option.bind, wrapI32]; congr 1; omega

example : neg (-98304) = some 98304 ∧ Fixed.abs (-98304) = some 98304 := by decide

end FontVerif.C15
