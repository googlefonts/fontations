/-
C14 — sparse-bit-set codec part: decoding is total, equals the specification's decoder, and
decode ∘ encode is the identity for every branch factor.
Property theorems only (helper lemmas live in Lemmas/Sbs*.lean).
Model: Model/SparseBitSet.lean ⇄ read-fonts/src/collections/int_set/{sparse_bit_set.rs,
input_bit_stream.rs, output_bit_stream.rs}
-/
import FontVerif.Model.SparseBitSet
import FontVerif.Lemmas.SbsStream
import FontVerif.Lemmas.SbsTotal
import FontVerif.Lemmas.SbsSpecMem
import FontVerif.Lemmas.SbsEncode
import FontVerif.Lemmas.SbsBits
import FontVerif.Lemmas.SbsHeight
namespace FontVerif.C14Codec
open FontVerif.SparseBitSet

/-! ## 1. decoding arbitrary bytes terminates with `error` or `ok` -/

/-- `from_sparse_bit_set_bounded` on ANY byte string, bias and maximum: the model's loop fuel
`4 * data.length + 2` is never exhausted (every iteration of the `'outer` loop consumes one node
of at least two bits from the stream, or ends), so the result is `Err` or `Ok`; when `Ok`, the
returned remainder is a suffix of the input and every inserted range `s..=e` satisfies
`s ≤ e ≤ min(max_value, u32::MAX)` (nothing outside the domain is ever inserted). -/
theorem decode_total (data : List Nat) (bias maxValue : Nat) :
    decode data bias maxValue ≠ .outOfFuel ∧
    ∀ ins rest, decode data bias maxValue = .ok ins rest →
      rest <:+ data ∧ ∀ r ∈ ins, r.1 ≤ r.2 ∧ r.2 ≤ maxValue ∧ r.2 ≤ U32_MAX := by
  cases data with
  | nil => simp [decode]
  | cons b0 tl =>
    have hbf := bfOk_bfOfBits b0
    have hst := stOk_start _ hbf
    simp only [decode]
    split
    · simp
    · split
      · refine ⟨by simp, ?_⟩
        intro ins rest h
        simp at h
        obtain ⟨rfl, rfl⟩ := h
        exact ⟨List.suffix_cons _ _, by simp⟩
      · refine ⟨decodeLoop_ne_outOfFuel hbf _ _ _ _ _ _ _ _ hst ?_ ?_, ?_⟩
        · simp [pos_start]; omega
        · simp [pos_start]; omega
        · intro ins rest h
          have := decodeLoop_ok hbf _ _ _ _ _ _ _ _ (by intro r hr; simp at hr) h
          exact ⟨this.2, this.1⟩

example : decode [0x0e, 0x21, 0x11, 0x01, 0x04, 0x02, 0x08] 0 U32_MAX
    = .ok [(2, 2), (33, 33), (323, 323)] [] := by decide +kernel
/-- truncated stream -/
example : decode [0x0e, 0x21, 0x11, 0x01, 0x04, 0x02] 0 U32_MAX = .error := by decide +kernel
/-- trailing bytes are returned -/
example : decode [0x0e, 0x21, 0x11, 0x01, 0x04, 0x02, 0x08, 0xaa, 0xbb] 0 U32_MAX
    = .ok [(2, 2), (33, 33), (323, 323)] [0xaa, 0xbb] := by decide +kernel

/-! ## 2. the queue decoder equals the specification's layer-wise decoder -/

/-- For every byte string whose header height is within `max_height` of its branch factor, and
every bias and maximum:
* if `from_sparse_bit_set_bounded` returns `Ok((set, rest))`, the specification's decoding
  algorithm (`specDecode`, layer by layer, no bias/maximum) succeeds with the SAME unread
  remainder, and the members inserted are exactly the specification's members shifted by the
  bias and cut at `min(max_value, u32::MAX)` (`SpecMem`);
* it returns `Err` exactly when the specification's algorithm fails (stream too short);
* hence whenever the specification's algorithm succeeds, so does the decoder.
The early `break 'outer` in the leaf loop followed by `skip_nodes(queue.len())` is covered: it
is sound because the starts of the nodes of one layer ascend and are at least one node size
apart (`SepFrom`, preserved from layer to layer because a node has only `BF` child bits), so
everything still queued lies above the first out-of-range value.  `hbytes` only says that the
model's `Nat`s are bytes. -/
theorem decode_eq_spec (data : List Nat) (bias maxValue : Nat) (hbytes : ∀ b ∈ data, b < 256)
    (hh : ∀ b0 tl, data = b0 :: tl → b0 / 4 % 32 ≤ maxHeight (bfOfBits b0)) :
    (∀ ins rest, decode data bias maxValue = .ok ins rest →
      ∃ ivs, specDecode data = some (ivs, rest) ∧
        ∀ x, (∃ r ∈ ins, r.1 ≤ x ∧ x ≤ r.2) ↔ SpecMem ivs bias maxValue x) ∧
    (decode data bias maxValue = .error ↔ specDecode data = none) ∧
    (∀ ivs rest, specDecode data = some (ivs, rest) →
      ∃ ins, decode data bias maxValue = .ok ins rest) := by
  -- both decoders fail, or both succeed with the same remainder and the same members
  suffices h : (decode data bias maxValue = .error ∧ specDecode data = none) ∨
      ∃ ins ivs rest, decode data bias maxValue = .ok ins rest ∧
        specDecode data = some (ivs, rest) ∧ ∀ x, InsMem ins x ↔ SpecMem ivs bias maxValue x by
    rcases h with ⟨hd, hs⟩ | ⟨ins, ivs, rest, hd, hs, hm⟩
    · rw [hd, hs]
      exact ⟨nofun, ⟨fun _ => rfl, fun _ => rfl⟩, nofun⟩
    · rw [hd, hs]
      refine ⟨?_, ⟨nofun, nofun⟩, ?_⟩
      · intro ins' rest' h; cases h; exact ⟨ivs, rfl, hm⟩
      · intro ivs' rest' h; cases h; exact ⟨ins, rfl⟩
  cases data with
  | nil => exact Or.inl ⟨rfl, rfl⟩
  | cons b0 tl =>
    have hmax := hh b0 tl rfl
    have hdef : decode (b0 :: tl) bias maxValue =
        if b0 / 4 % 32 = 0 then .ok [] tl
        else decodeLoop (bfOfBits b0) (b0 / 4 % 32) bias maxValue (b0 :: tl)
          (4 * (b0 :: tl).length + 2) BitIn.start [(0, 1)] [] := by
      simp only [decode]; rw [if_neg (Nat.not_lt.mpr hmax)]; rfl
    simp only [specDecode]
    by_cases h0 : b0 / 4 % 32 = 0
    · rw [hdef, if_pos h0, if_pos h0]
      exact Or.inr ⟨[], [], tl, rfl, rfl, fun x => by simp [insMem_nil, specMem_nil]⟩
    · have hbf := bfOk_bfOfBits b0
      have hst := stOk_start _ hbf
      have hle : pos BitIn.start ≤ 8 * (b0 :: tl).length := by
        rw [pos_start, List.length_cons]; omega
      -- the decoder's own fuel suffices, so it may be exchanged for the fuel of `LayersAgree`
      have hdec : ∀ N r,
          decodeLoop (bfOfBits b0) (b0 / 4 % 32) bias maxValue (b0 :: tl) (0 + N) BitIn.start
            ([0].map (fun s => (s, 1))) [] = r → r ≠ .outOfFuel →
          decode (b0 :: tl) bias maxValue = r := by
        intro N r hN hr
        rw [hdef, if_neg h0, ← hN]
        exact decodeLoop_fuel_irrel _ _ _ _ _ _ _ _ _ _
          (decodeLoop_ne_outOfFuel hbf _ _ _ _ _ _ _ _ hst hle (by rw [pos_start]; omega))
          (fun h => hr (hN.symm.trans h))
      have L := decodeLoop_layers hbf (b0 / 4 % 32) bias maxValue (b0 :: tl) hbytes
        (b0 / 4 % 32 - 1) 1 (by omega) [0] 0 BitIn.start ⟨Nat.le_refl _, trivial⟩ hst hle
      rw [show b0 / 4 % 32 - 1 + 1 = b0 / 4 % 32 by omega] at L
      rw [if_neg h0]
      cases hl : specLayers (bfOfBits b0) (b0 / 4 % 32) (b0 :: tl) (b0 / 4 % 32) 1 [0]
          BitIn.start with
      | none =>
        rw [hl] at L
        obtain ⟨N, hN⟩ := L
        exact Or.inl ⟨hdec N _ (hN 0 []) nofun, rfl⟩
      | some r =>
        obtain ⟨ivs, st2⟩ := r
        rw [hl] at L
        obtain ⟨ins, N, hN, hmem⟩ := L
        exact Or.inr ⟨_, ivs, _, hdec N _ (hN 0 []) nofun, rfl, hmem⟩

/-- early break: bias pushes the second leaf value over the maximum; the rest of the leaf layer
is skipped, and the remainder is still the specification's remainder -/
example : decode [0x0e, 0x21, 0x11, 0x01, 0x04, 0x02, 0x08, 0x77] 10 50
    = .ok [(12, 12), (43, 43)] [0x77] := by decide +kernel
example : specDecode [0x0e, 0x21, 0x11, 0x01, 0x04, 0x02, 0x08, 0x77]
    = some ([(2, 2), (33, 33), (323, 323)], [0x77]) := by decide +kernel
/-- a filled node (zero node) below the root -/
example : decode [0x09, 0x05, 0x00] 0 U32_MAX = .ok [(0, 3), (8, 11)] [] := by decide +kernel

/-! ## 3. decoding the encoding of a set returns that set, for every branch factor -/

/-- `to_sparse_bit_set_with_bf::<BF>` never reaches its `panic!("Height value exceeds the maximum
for this branch factor.")` for ascending `u32` members (`BF = 2` falls back to `BF = 4`). -/
theorem encodeBf_total (bf : Nat) (hbf : bf = 2 ∨ bf = 4 ∨ bf = 8 ∨ bf = 32) (members : List Nat)
    (hsorted : members.Pairwise (· < ·)) (hu32 : ∀ m ∈ members, m ≤ U32_MAX) :
    encodeBf bf members ≠ none := by
  obtain ⟨bytes, _, he, _⟩ := encodeBf_spec hbf members hsorted hu32
  rw [he]; simp

/-- Round trip, general form: for every branch factor, every ascending duplicate-free list of
`u32` members (of any size, with any number of filled nodes at any level), every bias and every
maximum, `from_sparse_bit_set_bounded(to_sparse_bit_set_with_bf::<BF>(set), bias, max)` is
`Ok`, leaves no unread bytes, and its members are exactly `{m + bias | m ∈ set}` cut at
`min(max, u32::MAX)`. -/
theorem decode_encodeBf_bounded (bf : Nat) (hbf : bf = 2 ∨ bf = 4 ∨ bf = 8 ∨ bf = 32)
    (members : List Nat) (hsorted : members.Pairwise (· < ·)) (hu32 : ∀ m ∈ members, m ≤ U32_MAX)
    (bytes : List Nat) (he : encodeBf bf members = some bytes) (bias maxValue : Nat) :
    ∃ ins, decode bytes bias maxValue = .ok ins [] ∧
      ∀ x, (∃ r ∈ ins, r.1 ≤ x ∧ x ≤ r.2) ↔
        (x ≤ maxValue ∧ x ≤ U32_MAX ∧ ∃ m ∈ members, x = m + bias) := by
  obtain ⟨bytes', ivs, he', hspec, hmem, hb, hh⟩ := encodeBf_spec hbf members hsorted hu32
  cases he.symm.trans he'
  -- the decoder agrees with the specification decoder, which reads the bytes back to the members
  obtain ⟨h1, _, h3⟩ := decode_eq_spec bytes bias maxValue hb hh
  obtain ⟨ins, hdec⟩ := h3 ivs [] hspec
  obtain ⟨ivs', hs', hm'⟩ := h1 ins [] hdec
  cases hspec.symm.trans hs'
  refine ⟨ins, hdec, fun x => ?_⟩
  rw [hm' x]
  simp only [SpecMem]
  constructor
  · rintro ⟨a, b, p, hp, hp1, hp2⟩
    refine ⟨a, b, x - bias, (hmem _).mp ⟨p, hp, by omega, by omega⟩, by omega⟩
  · rintro ⟨a, b, m, hm, rfl⟩
    obtain ⟨p, hp, hp1, hp2⟩ := (hmem m).mpr hm
    exact ⟨a, b, p, hp, by omega, by omega⟩

/-- Round trip: `from_sparse_bit_set(to_sparse_bit_set_with_bf::<BF>(set)) == set`, nothing left
unread, for every branch factor and every set of `u32`s. -/
theorem decode_encodeBf (bf : Nat) (hbf : bf = 2 ∨ bf = 4 ∨ bf = 8 ∨ bf = 32)
    (members : List Nat) (hsorted : members.Pairwise (· < ·)) (hu32 : ∀ m ∈ members, m ≤ U32_MAX)
    (bytes : List Nat) (he : encodeBf bf members = some bytes) :
    ∃ ins, decode bytes 0 U32_MAX = .ok ins [] ∧
      ∀ x, (∃ r ∈ ins, r.1 ≤ x ∧ x ≤ r.2) ↔ x ∈ members := by
  obtain ⟨ins, hd, hm⟩ := decode_encodeBf_bounded bf hbf members hsorted hu32 bytes he 0 U32_MAX
  refine ⟨ins, hd, fun x => ?_⟩
  rw [hm x]
  constructor
  · rintro ⟨_, _, m, hm, rfl⟩; exact hm
  · intro hx; exact ⟨hu32 x hx, hu32 x hx, x, hx, rfl⟩

/-- `to_sparse_bit_set` returns the FIRST SHORTEST of the admissible candidates
(`min_by_key(len)`): the candidate list (branch factors 2, 4, 8, 32 whose height is within
`max_height`, in this order) splits around the result into strictly longer candidates before
it and not shorter ones after it. -/
theorem encode_first_shortest (members : List Nat) (mx : Nat)
    (hlast : members.getLast? = some mx) (hsorted : members.Pairwise (· < ·))
    (hu32 : ∀ m ∈ members, m ≤ U32_MAX) :
    ∃ pre post,
      [2, 4, 8, 32].filterMap (fun bf =>
          if treeHeightFor bf mx ≤ maxHeight bf then encodeBf bf members else none)
        = pre ++ encode members :: post ∧
      (∀ c ∈ pre, (encode members).length < c.length) ∧
      (∀ c ∈ post, (encode members).length ≤ c.length) := by
  have hmx : mx ≤ U32_MAX := hu32 mx (List.mem_of_getLast? hlast)
  have hne := encodeCands_ne_nil hmx hsorted hu32
  rw [encode_some members mx hlast]
  change ∃ pre post, encodeCands members mx = _ ∧ _
  cases hc : encodeCands members mx with
  | nil => exact absurd hc hne
  | cons c cs =>
    obtain ⟨pre, post, e, a, b⟩ := foldl_min_spec cs [] c [] (by simp) (by simp)
    exact ⟨pre, post, by simpa using e, a, b⟩

/-- Round trip for `to_sparse_bit_set` (the automatically chosen branch factor), with bias and
maximum. -/
theorem decode_encode_bounded (members : List Nat) (hsorted : members.Pairwise (· < ·))
    (hu32 : ∀ m ∈ members, m ≤ U32_MAX) (bias maxValue : Nat) :
    ∃ ins, decode (encode members) bias maxValue = .ok ins [] ∧
      ∀ x, (∃ r ∈ ins, r.1 ≤ x ∧ x ≤ r.2) ↔
        (x ≤ maxValue ∧ x ≤ U32_MAX ∧ ∃ m ∈ members, x = m + bias) := by
  cases hl : members.getLast? with
  | none =>
    have hnil : members = [] := List.getLast?_eq_none_iff.mp hl
    subst hnil
    have : encode [] = [(0 % 32) * 4 + bitId 2] := encode_nil
    have he : encodeBf 2 [] = some (encode []) := by rw [this]; exact encodeBf_nil 2
    exact decode_encodeBf_bounded 2 (Or.inl rfl) [] hsorted hu32 _ he bias maxValue
  | some mx =>
    obtain ⟨pre, post, e, _, _⟩ := encode_first_shortest members mx hl hsorted hu32
    have hin : encode members ∈ encodeCands members mx := by
      simp only [encodeCands]; rw [e]; simp
    obtain ⟨bf, hbf, _, he⟩ := mem_encodeCands hin
    exact decode_encodeBf_bounded bf hbf members hsorted hu32 _ he bias maxValue

/-- Round trip: `from_sparse_bit_set(set.to_sparse_bit_set()) == set`. -/
theorem decode_encode (members : List Nat) (hsorted : members.Pairwise (· < ·))
    (hu32 : ∀ m ∈ members, m ≤ U32_MAX) :
    ∃ ins, decode (encode members) 0 U32_MAX = .ok ins [] ∧
      ∀ x, (∃ r ∈ ins, r.1 ≤ x ∧ x ≤ r.2) ↔ x ∈ members := by
  obtain ⟨ins, hd, hm⟩ := decode_encode_bounded members hsorted hu32 0 U32_MAX
  refine ⟨ins, hd, fun x => ?_⟩
  rw [hm x]
  constructor
  · rintro ⟨_, _, m, hm, rfl⟩; exact hm
  · intro hx; exact ⟨hu32 x hx, hu32 x hx, x, hx, rfl⟩

/-- an encoding with a filled node: {0,1,2,3,8} with BF = 4 is header (height 2), root `0101`,
a zero node for 0..=3, and the leaf `0001` for 8 -/
example : encodeBf 4 [0, 1, 2, 3, 8] = some [9, 5, 1] := by decide +kernel
example : decode [9, 5, 1] 0 U32_MAX = .ok [(0, 3), (8, 8)] [] := by decide +kernel
example : [0, 1, 2, 3, 8].Pairwise (· < ·) ∧ ∀ m ∈ [0, 1, 2, 3, 8], m ≤ U32_MAX := by decide +kernel
/-- BF = 2 cannot hold `u32::MAX` (height 32 > 31): the encoder falls back to BF = 4 -/
example : encodeBf 2 [4294967295] = some [65, 136, 136, 136, 136, 136, 136, 136, 136] := by
  decide
/-- the automatic choice takes the first shortest candidate (here BF = 2, 3 bytes, before the
equally short BF = 4 candidate `[9, 5, 1]`) -/
example : encode [0, 1, 2, 3, 8] = [16, 23, 5] := by decide +kernel
example : decode [16, 23, 5] 0 U32_MAX = .ok [(0, 3), (8, 8)] [] := by decide +kernel

/-! ## 4. building blocks -/

/-- `BranchFactor::tree_height_for(max)` is the least height whose tree covers `max`:
`h ≥ 1`, `max < BF^h`, and `BF^(h-1) ≤ max` when `max > 0`; and it is within `max_height` for
every `u32` unless `BF = 2`. -/
theorem treeHeightFor_char (bf : Nat) (hbf : bf = 2 ∨ bf = 4 ∨ bf = 8 ∨ bf = 32) (maxValue : Nat)
    (hm : maxValue ≤ U32_MAX) :
    1 ≤ treeHeightFor bf maxValue ∧ maxValue < bf ^ treeHeightFor bf maxValue ∧
      (0 < maxValue → bf ^ (treeHeightFor bf maxValue - 1) ≤ maxValue) ∧
      (bf ≠ 2 → treeHeightFor bf maxValue ≤ maxHeight bf) := by
  have sp := treeHeightFor_spec hbf maxValue (u32_lt_pow33 hbf hm)
  refine ⟨sp.1, sp.2.1, sp.2.2, fun h2 => ?_⟩
  rcases hbf with h | h | h | h
  · exact absurd h h2
  · exact treeHeightFor_le_maxHeight (Or.inl h) hm
  · exact treeHeightFor_le_maxHeight (Or.inr (Or.inl h)) hm
  · exact treeHeightFor_le_maxHeight (Or.inr (Or.inr h)) hm

/-- header byte round trip: `decode_header(write_header(bf, height))` for heights `≤ 31` -/
theorem header_roundtrip (bf : Nat) (hbf : bf = 2 ∨ bf = 4 ∨ bf = 8 ∨ bf = 32) (height : Nat)
    (hh : height ≤ 31) :
    (BitOut.new bf height).bytes = [(height % 32) * 4 + bitId bf] ∧
      bfOfBits ((height % 32) * 4 + bitId bf) = bf ∧
      ((height % 32) * 4 + bitId bf) / 4 % 32 = height ∧ (height % 32) * 4 + bitId bf < 256 := by
  refine ⟨by simp [BitOut.new, BitOut.bytes], bfOfBits_header hbf height, ?_, header_lt bf height⟩
  rw [height_header]; omega

/-- bit-stream round trip: after `write_header` and any sequence of `write_node(w)` (each `w`
fitting in `BF` bits), `InputBitStream::next` called as many times returns exactly the written
nodes, ends exactly at the end of the data (`bytes_consumed() == len`), and all bytes are
bytes. -/
theorem writeNode_nextNode_roundtrip (bf : Nat) (hbf : bf = 2 ∨ bf = 4 ∨ bf = 8 ∨ bf = 32)
    (height : Nat) (ws : List Nat) (hws : ∀ w ∈ ws, w < 2 ^ bf) :
    ∃ st, readNodes bf (ws.foldl (writeNode bf) (BitOut.new bf height)).bytes ws.length BitIn.start
        = some (ws, st) ∧
      bytesConsumed st = (ws.foldl (writeNode bf) (BitOut.new bf height)).bytes.length ∧
      (∀ b ∈ (ws.foldl (writeNode bf) (BitOut.new bf height)).bytes, b < 256) := by
  obtain ⟨st, h1, h2, h3, _⟩ := readNodes_written hbf height ws hws
  exact ⟨st, h1, h2, h3⟩

example : ([1, 2, 3, 0, 1].foldl (writeNode 2) (BitOut.new 2 3)).bytes = [12, 0x39, 0x01] := by
  decide

end FontVerif.C14Codec
