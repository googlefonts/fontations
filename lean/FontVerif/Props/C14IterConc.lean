/- C14 / the iterator state machines of bitpage.rs / bitset.rs over the concrete representation
(Model/IntSetIterConc.lean) yield exactly what the abstract model (Model/IntSet.lean) says. -/
import FontVerif.Lemmas.IntSetIterConc
namespace FontVerif.C14IterConc
open FontVerif.IntSet

/-- bitpage.rs `RangeIter` (`next_range_in_element` + the merging loop of `next`), run to
exhaustion on a well-formed page, yields exactly the maximal runs of consecutive members of the
page, ascending, merged across the eight `u64` element boundaries. -/
theorem page_range_iter_yields_runs (p : CPage) (hp : CPageOk p) :
    p.ranges = runsOfList (pageMembers p.abs.bits) :=
  pcollect_fuel p hp 513 (Nat.le_refl _)

/-- the fuel of the page-level `collect` suffices: any larger fuel yields the same list (the inner
`loop` fuel 9 of `next` is shown sufficient inside the proof: `pnextLoop_some` / `pnextLoop_none`) -/
theorem page_range_iter_fuel_suffices (p : CPage) (hp : CPageOk p) (fuel : Nat) (h : 513 ≤ fuel) :
    PRangeIter.collect fuel p.iterRanges = p.ranges := by
  rw [pcollect_fuel p hp fuel h, page_range_iter_yields_runs p hp]

-- non-vacuity / transcription checks: a run across the element 0 / element 1 boundary, a full page
example : (CPage.mk [2 ^ 63, 1, 0, 0, 0, 0, 0, 0] 2).ranges = [(63, 64)] := by decide +kernel
example : (CPage.mk (List.replicate 8 (2 ^ 64 - 1)) 512).ranges = [(0, 511)] := by decide +kernel
example : CPage.zero.ranges = [] := by decide +kernel

/-- bitset.rs `BitSetRangeIter` (`new`, `page_iter`, `move_to_next_page`, `reset_page_iter`,
`next_range`, the merging loop of `next`), run to exhaustion on a set satisfying the
representation invariant (pages stored in ARBITRARY order and reached through the sorted map,
zero pages allowed), yields exactly the abstract ranges `runsOfList s.abs.membersAll`: a run is
continued across a page end exactly when the next map entry has the adjacent major AND its bit 0
is set; zero pages and missing majors end it. -/
theorem range_iter_yields_abstract_ranges (s : CBitSet) (hs : CInv s) :
    s.iterRanges = s.abs.ranges :=
  scollect_fuel s hs _ (Nat.le_refl _)

/-- the fuel of the set-level `collect` suffices (the inner `loop` fuel `page_map.len() + 1` of
`next` is shown sufficient inside the proof: `snextLoop_some` / `snextLoop_from`) -/
theorem range_iter_fuel_suffices (s : CBitSet) (hs : CInv s) (fuel : Nat)
    (h : 512 * s.pageMap.length + 1 ≤ fuel) :
    SRangeIter.collect fuel (SRangeIter.new s) = s.iterRanges := by
  rw [scollect_fuel s hs fuel h, range_iter_yields_abstract_ranges s hs]

/-- the same, spelled out: the ranges are the maximal runs of all members of all mapped pages -/
theorem range_iter_yields_runs_of_members (s : CBitSet) (hs : CInv s) :
    s.iterRanges = runsOfList s.abs.membersAll :=
  range_iter_yields_abstract_ranges s hs

-- the merge condition (`continuation.start() == range.end() + 1`; seeded bug C14-5 compared with
-- the start of the next page IN THE MAP instead): majors 0 and 2, bit 511 of page 0 and bit 0 of
-- page 2 — two separate ranges, the gap of the missing major 1 is not bridged.  The pages are
-- stored in reverse order (`pages[1]` is major 0).
example :
    (CBitSet.mk [⟨[1, 0, 0, 0, 0, 0, 0, 0], 1⟩, ⟨[0, 0, 0, 0, 0, 0, 0, 2 ^ 63], 1⟩]
      [(0, 1), (2, 0)] 2).iterRanges = [(511, 511), (1024, 1024)] := by decide +kernel
-- adjacent majors 0 and 1: one range across the page end; a zero page at major 2 ends it
example :
    (CBitSet.mk [⟨[1, 0, 0, 0, 0, 0, 0, 0], 1⟩, ⟨[0, 0, 0, 0, 0, 0, 0, 2 ^ 63], 1⟩, CPage.zero]
      [(0, 1), (1, 0), (2, 2)] 2).iterRanges = [(511, 512)] := by decide +kernel
-- the invariant is satisfiable by such a set
example : CInv (CBitSet.mk [⟨[1, 0, 0, 0, 0, 0, 0, 0], 1⟩, ⟨[0, 0, 0, 0, 0, 0, 0, 2 ^ 63], 1⟩]
    [(0, 1), (2, 0)] 2) := by
  refine ⟨rfl, by decide, by decide, by decide, ?_, by decide⟩
  intro p hp
  simp only [List.mem_cons, List.not_mem_nil, or_false] at hp
  rcases hp with rfl | rfl <;> refine ⟨rfl, ?_, by decide⟩ <;> intro e he <;>
    simp only [List.mem_cons, List.not_mem_nil, or_false] at he <;> omega

/-- `BitSet::iter` (`iter_pages` through the map, `iter_non_empty_pages` filtering on the
CACHED page length, `BitPage::iter` skipping zero elements) yields exactly the abstract members
front to back, and their reverse when driven from the back only.  (The per-`u64` `Iter` is the
ascending list of set bits; `DoubleEndedIterator` is the deque `DEIter` over the item sequence —
see Model/IntSetIterConc.lean.) -/
theorem iter_forward_backward (s : CBitSet) (hs : CInv s) :
    s.iter = s.abs.members ∧ s.iterRev = s.abs.members.reverse := by
  refine ⟨iter_eq_members hs, ?_⟩
  unfold CBitSet.iterRev CBitSet.deIter
  rw [deIter_rev _ _ (Nat.le_succ _), iter_eq_members hs]

/-- double-ended consistency: after ANY interleaving of `next` (`false`) / `next_back` (`true`)
calls, the items handed out at the front (in call order), the items not yet handed out, and the
items handed out at the back (in reverse call order) concatenate to the abstract members — every
member is yielded at most once, from exactly one end, fronts ascending and backs descending. -/
theorem iter_double_ended_consistent (s : CBitSet) (hs : CInv s) (sched : List Bool) :
    (DEIter.run sched s.deIter).1 ++ (DEIter.run sched s.deIter).2.2.rest ++
      (DEIter.run sched s.deIter).2.1.reverse = s.abs.members := by
  unfold CBitSet.deIter
  rw [deIter_run_spec, iter_eq_members hs]

/-- `BitSet::iter_after(value)` (binary search `Ok` → partial first page through
`BitPage::iter_after`, NOT filtered by `is_empty`; `Err` → no partial page; follow-on pages
filtered by the cached `is_empty`) yields exactly the abstract members above `value`. -/
theorem iter_after_yields_members_above (s : CBitSet) (hs : CInv s) (v : Nat) :
    s.iterAfter v = s.abs.members.filter (· > v) := by
  rw [iterAfter_eq hs v]

/-- `BitSet::iter` / `iter_after`, all of it: forward, backward, `iter_after`, and any `next` /
`next_back` schedule. -/
theorem iter_yields_members (s : CBitSet) (hs : CInv s) :
    s.iter = s.abs.members ∧ s.iterRev = s.abs.members.reverse ∧
      (∀ v, s.iterAfter v = s.abs.members.filter (· > v)) ∧
      ∀ sched : List Bool,
        (DEIter.run sched s.deIter).1 ++ (DEIter.run sched s.deIter).2.2.rest ++
          (DEIter.run sched s.deIter).2.1.reverse = s.abs.members :=
  ⟨(iter_forward_backward s hs).1, (iter_forward_backward s hs).2,
    iter_after_yields_members_above s hs, iter_double_ended_consistent s hs⟩

/-- the page-level pieces: `BitPage::iter` / `BitPage::iter_after(value)` on a well-formed page -/
theorem page_iter_yields_members (p : CPage) (hp : CPageOk p) (v : Nat) :
    p.iterL = pageMembers p.abs.bits ∧
      p.iterAfterL v = (pageMembers p.abs.bits).filter (fun x => decide (v % 512 < x)) :=
  ⟨iterL_eq hp, iterAfterL_eq hp v⟩

example :
    let s := CBitSet.mk [⟨[1, 0, 0, 0, 0, 0, 0, 0], 1⟩, ⟨[6, 0, 0, 0, 0, 0, 0, 2 ^ 63], 3⟩]
      [(0, 1), (2, 0)] 4
    s.iterAfter 1 = [2, 511, 1024] ∧ s.iterAfter 511 = [1024] ∧ s.iterAfter 700 = [1024] ∧
      s.iterAfter 1024 = [] := by
  decide +kernel

example :
    let s := CBitSet.mk [⟨[1, 0, 0, 0, 0, 0, 0, 0], 1⟩, ⟨[6, 0, 0, 0, 0, 0, 0, 2 ^ 63], 3⟩]
      [(0, 1), (2, 0)] 4
    s.iter = [1, 2, 511, 1024] ∧ s.iterRev = [1024, 511, 2, 1] ∧
      (DEIter.run [false, true, true, false, false, true] s.deIter) = ([1, 2], [1024, 511], ⟨[]⟩) := by
  decide +kernel

end FontVerif.C14IterConc
