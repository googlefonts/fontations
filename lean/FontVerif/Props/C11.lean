/-
C11 — Variation stores, metric deltas and axis normalisation compute specified values.
Continued in Props/C11Scalar.lean (multi-axis product / monotonicity, uses Mathlib), C11Coords.lean
(`Fvar::user_to_normalized` as a whole), C11Float.lean and C11FloatAcc.lean (f32 path, avar 2), C11Metrics.lean
(scaled metrics, HVAR / VVAR / MVAR / VORG) and C11Bytes.lean (the compiled store at byte level).
Models: Model/Tent.lean      ⇄ read-fonts/src/tables/variations.rs (compute_scalar, compute_delta, delta_set,
                               DeltaSetIndexMap::get, advance_delta)
        Model/Normalize.lean ⇄ read-fonts/src/tables/{fvar,avar}.rs (normalize, SegmentMaps::apply, user_to_normalized)
        Model/Ivs.lean       ⇄ write-fonts/src/tables/variations/ivs_builder.rs (+ variations.rs DeltaSetIndexMap writer)
        Model/Metrics.lean   ⇄ skrifa/src/metrics.rs
-/
import FontVerif.Model.Tent
import FontVerif.Model.Normalize
import FontVerif.Model.Ivs
import FontVerif.Model.Metrics
import FontVerif.Lemmas.Round
import FontVerif.Lemmas.TentLemmas
import FontVerif.Lemmas.NormalizeLemmas
import FontVerif.Lemmas.DeltaLemmas
import FontVerif.Lemmas.IvsLemmas
import FontVerif.Lemmas.MetricsLemmas
import FontVerif.Lemmas.DsimLemmas
import FontVerif.Lemmas.BuiltDelta
set_option linter.unusedVariables false
namespace FontVerif.C11
open FontVerif.Tent

/-! ## 1. the tent scalar (`VariationRegion::compute_scalar`) -/

/-- one loop iteration on `Fixed` operands that come from F2Dot14 values, scalar in `[0, ONE]`:
the subtractions do not wrap and `mul_div` is the quotient rounded to nearest (ties up). -/
theorem axisStep_eq (sc c s p e : Int) (hc : inF c) (hs : inF s) (hp : inF p) (he : inF e)
    (hs0 : 0 ≤ sc) (hs1 : sc ≤ 65536) :
    axisStep sc c s p e =
      if Ignored s p e then some sc
      else if c < s ∨ c > e then none
      else if c = p then some sc
      else if c < p then some ((sc * (c - s) + (p - s) / 2) / (p - s))
      else some ((sc * (e - c) + (e - p) / 2) / (e - p)) := by
  unfold axisStep
  by_cases hi : Ignored s p e
  · rw [if_pos hi, if_pos (id hi : s > p ∨ _)]
  by_cases ho : c < s ∨ c > e
  · rw [if_neg hi, if_neg (id hi : ¬ (s > p ∨ _)), if_pos ho, if_pos ho]
  by_cases hpk : c = p
  · rw [if_neg hi, if_neg (id hi : ¬ (s > p ∨ _)), if_neg ho, if_neg ho, if_pos hpk, if_pos hpk]
  rw [if_neg hi, if_neg (id hi : ¬ (s > p ∨ _)), if_neg ho, if_neg ho, if_neg hpk, if_neg hpk,
    fsub_id hc hs, fsub_id hp hs, fsub_id he hc, fsub_id he hp]
  unfold Ignored inF at *
  by_cases hlt : c < p
  · rw [if_pos hlt, if_pos hlt, (mulDiv_tent hs0 hs1 (by omega) (by omega) (by omega) (by omega)).1]
  · rw [if_neg hlt, if_neg hlt, (mulDiv_tent hs0 hs1 (by omega) (by omega) (by omega) (by omega)).1]

/-- every way one loop iteration can go, with the exact value it produces
(`Fixed` operands coming from F2Dot14 values, scalar in `[0, ONE]`). -/
theorem axisStep_cases (sc c s p e : Int) (hc : inF c) (hs : inF s) (hp : inF p) (he : inF e)
    (hs0 : 0 ≤ sc) (hs1 : sc ≤ 65536) :
    (Ignored s p e ∧ axisStep sc c s p e = some sc) ∨
    (¬ Ignored s p e ∧ (c < s ∨ c > e) ∧ axisStep sc c s p e = none) ∨
    (¬ Ignored s p e ∧ c = p ∧ axisStep sc c s p e = some sc) ∨
    (¬ Ignored s p e ∧ s ≤ c ∧ c < p ∧
      axisStep sc c s p e = some ((sc * (c - s) + (p - s) / 2) / (p - s))) ∨
    (¬ Ignored s p e ∧ p < c ∧ c ≤ e ∧
      axisStep sc c s p e = some ((sc * (e - c) + (e - p) / 2) / (e - p))) := by
  rw [axisStep_eq sc c s p e hc hs hp he hs0 hs1]
  by_cases hi : Ignored s p e
  · exact .inl ⟨hi, if_pos hi⟩
  by_cases ho : c < s ∨ c > e
  · exact .inr (.inl ⟨hi, ho, by rw [if_neg hi, if_pos ho]⟩)
  by_cases hpk : c = p
  · exact .inr (.inr (.inl ⟨hi, hpk, by rw [if_neg hi, if_neg ho, if_pos hpk]⟩))
  by_cases hlt : c < p
  · exact .inr (.inr (.inr (.inl ⟨hi, by omega, hlt,
      by rw [if_neg hi, if_neg ho, if_neg hpk, if_pos hlt]⟩)))
  · exact .inr (.inr (.inr (.inr ⟨hi, by omega, by omega,
      by rw [if_neg hi, if_neg ho, if_neg hpk, if_neg hlt]⟩)))

/-- **step_spec (rising leg)**: on `start ≤ coord < peak` the new scalar is the exact value
`scalar · (coord − start) / (peak − start)` rounded to the nearest 16.16 value (ties up). -/
theorem step_spec_up (sc c s p e : Int) (hc : inF c) (hs : inF s) (hp : inF p) (he : inF e)
    (hs0 : 0 ≤ sc) (hs1 : sc ≤ 65536) (hi : ¬ Ignored s p e) (h1 : s ≤ c) (h2 : c < p) :
    ∃ r, axisStep sc c s p e = some r ∧ IsRHA (sc * (c - s)) (p - s) r ∧ 0 ≤ r ∧ r ≤ sc := by
  have ho : ¬ (c < s ∨ c > e) := by unfold Ignored at hi; omega
  rw [axisStep_eq sc c s p e hc hs hp he hs0 hs1, if_neg hi, if_neg ho, if_neg (by omega), if_pos h2]
  unfold inF at *
  exact ⟨_, rfl, isRHA_formula (Int.mul_nonneg hs0 (by omega)) (by omega),
    (mulDiv_tent hs0 hs1 (by omega) (by omega) (by omega) (by omega)).2⟩

/-- **step_spec (falling leg)**: on `peak < coord ≤ end` the new scalar is
`scalar · (end − coord) / (end − peak)` rounded to nearest. -/
theorem step_spec_down (sc c s p e : Int) (hc : inF c) (hs : inF s) (hp : inF p) (he : inF e)
    (hs0 : 0 ≤ sc) (hs1 : sc ≤ 65536) (hi : ¬ Ignored s p e) (h1 : p < c) (h2 : c ≤ e) :
    ∃ r, axisStep sc c s p e = some r ∧ IsRHA (sc * (e - c)) (e - p) r ∧ 0 ≤ r ∧ r ≤ sc := by
  have ho : ¬ (c < s ∨ c > e) := by unfold Ignored at hi; omega
  rw [axisStep_eq sc c s p e hc hs hp he hs0 hs1, if_neg hi, if_neg ho, if_neg (by omega),
    if_neg (by omega)]
  unfold inF at *
  exact ⟨_, rfl, isRHA_formula (Int.mul_nonneg hs0 (by omega)) (by omega),
    (mulDiv_tent hs0 hs1 (by omega) (by omega) (by omega) (by omega)).2⟩

/-- one step never leaves `[0, scalar]`. -/
theorem axisStep_range (sc c s p e : Int) (hc : inF c) (hs : inF s) (hp : inF p) (he : inF e)
    (hs0 : 0 ≤ sc) (hs1 : sc ≤ 65536) :
    ∀ r, axisStep sc c s p e = some r → 0 ≤ r ∧ r ≤ sc := by
  intro r hr
  by_cases hi : Ignored s p e
  · rw [axisStep_ignored hi] at hr; cases hr; omega
  by_cases ho : c < s ∨ c > e
  · rw [axisStep_outside hi ho] at hr; cases hr
  rcases Int.lt_trichotomy c p with h | h | h
  · obtain ⟨r', h1, _, h3⟩ := step_spec_up sc c s p e hc hs hp he hs0 hs1 hi (by omega) h
    rw [h1] at hr; cases hr; exact h3
  · subst h; rw [axisStep_peak] at hr; cases hr; omega
  · obtain ⟨r', h1, _, h3⟩ := step_spec_down sc c s p e hc hs hp he hs0 hs1 hi h (by omega)
    rw [h1] at hr; cases hr; exact h3

/-- all region records / coordinates are F2Dot14 bit patterns. -/
def AxesOk (axes : List (Int × Int × Int)) : Prop :=
  ∀ a ∈ axes, inI16 a.1 ∧ inI16 a.2.1 ∧ inI16 a.2.2
def CoordsOk (coords : List Int) : Prop := ∀ c ∈ coords, inI16 c

theorem coordsOk_head {coords : List Int} (h : CoordsOk coords) : inI16 (coords.headD 0) := by
  cases coords with
  | nil => simp [inI16]
  | cons c cs => exact h c (by simp)

theorem coordsOk_tail {coords : List Int} (h : CoordsOk coords) : CoordsOk coords.tail :=
  fun c hc => h c (List.mem_of_mem_tail hc)

theorem axesOk_tail {a : Int × Int × Int} {rest : List (Int × Int × Int)} (h : AxesOk (a :: rest)) :
    AxesOk rest := fun x hx => h x (List.mem_cons_of_mem a hx)

theorem operands_inF {s p e : Int} {rest : List (Int × Int × Int)} {coords : List Int}
    (ha : AxesOk ((s, p, e) :: rest)) (hc : CoordsOk coords) :
    inF (Fixed.f2dot14ToFixed (coords.headD 0)) ∧ inF (Fixed.f2dot14ToFixed s) ∧
    inF (Fixed.f2dot14ToFixed p) ∧ inF (Fixed.f2dot14ToFixed e) :=
  have hh := ha (s, p, e) List.mem_cons_self
  ⟨inF_of_f2dot14 (coordsOk_head hc), inF_of_f2dot14 hh.1, inF_of_f2dot14 hh.2.1, inF_of_f2dot14 hh.2.2⟩

theorem scalarGo_range (axes : List (Int × Int × Int)) :
    ∀ (coords : List Int) (sc : Int), AxesOk axes → CoordsOk coords → 0 ≤ sc → sc ≤ 65536 →
      0 ≤ computeScalarGo sc axes coords ∧ computeScalarGo sc axes coords ≤ sc := by
  induction axes with
  | nil => intro coords sc _ _ h0 h1; simp [computeScalarGo, h0]
  | cons a rest ih =>
    intro coords sc ha hcs h0 h1
    obtain ⟨s, p, e⟩ := a
    obtain ⟨hC, hS, hP, hE⟩ := operands_inF ha hcs
    simp only [computeScalarGo]
    split
    · omega
    · rename_i sc' heq
      have := axisStep_range sc _ _ _ _ hC hS hP hE h0 h1 sc' heq
      have := ih coords.tail sc' (axesOk_tail ha) (coordsOk_tail hcs) this.1 (by omega)
      omega

/-- for every region and every location the scalar lies in `[0, 1]` (16.16). -/
theorem scalar_range (axes : List (Int × Int × Int)) (coords : List Int)
    (ha : AxesOk axes) (hc : CoordsOk coords) :
    0 ≤ computeScalar axes coords ∧ computeScalar axes coords ≤ 65536 :=
  scalarGo_range axes coords 65536 ha hc (by omega) (by omega)

/-- raw-unit version of `Ignored` (scale invariant). -/
theorem ignored_scale (s p e : Int) :
    Ignored (Fixed.f2dot14ToFixed s) (Fixed.f2dot14ToFixed p) (Fixed.f2dot14ToFixed e) ↔ Ignored s p e :=
  f2dot14_ignored s p e

theorem scalarGo_outside (axes : List (Int × Int × Int)) :
    ∀ (coords : List Int) (sc : Int) (i : Nat) (a : Int × Int × Int), axes[i]? = some a →
      ¬ Ignored a.1 a.2.1 a.2.2 → (coords.getD i 0 < a.1 ∨ coords.getD i 0 > a.2.2) →
      computeScalarGo sc axes coords = 0 := by
  induction axes with
  | nil => intro coords sc i a h; simp at h
  | cons b rest ih =>
    intro coords sc i a hget hi ho
    obtain ⟨s, p, e⟩ := b
    simp only [computeScalarGo]
    cases i with
    | zero =>
      cases List.getElem?_cons_zero.symm.trans hget
      rw [getD_zero] at ho
      have ho' : coords.headD 0 < s ∨ coords.headD 0 > e := ho
      rw [axisStep_outside (mt (ignored_scale s p e).mp hi)
        (by unfold Fixed.f2dot14ToFixed; omega)]
    | succ j =>
      split
      · rfl
      · exact ih coords.tail _ j a hget hi (by rw [getD_tail]; exact ho)

/-- if the location lies outside `[start, end]` on some axis that the
region does not ignore, the scalar is 0 — whatever the other axes are. -/
theorem scalar_outside_zero (axes : List (Int × Int × Int)) (coords : List Int) (i : Nat)
    (a : Int × Int × Int) (h : axes[i]? = some a) (hi : ¬ Ignored a.1 a.2.1 a.2.2)
    (ho : coords.getD i 0 < a.1 ∨ coords.getD i 0 > a.2.2) : computeScalar axes coords = 0 :=
  scalarGo_outside axes coords 65536 i a h hi ho

/-- an axis whose record is skipped (`start > peak`, `peak > end`,
`peak = 0`, or `start < 0 < end`) does not influence the scalar. -/
theorem ignored_axis_skipped (sc : Int) (a : Int × Int × Int) (rest : List (Int × Int × Int))
    (coords : List Int) (h : Ignored a.1 a.2.1 a.2.2) :
    computeScalarGo sc (a :: rest) coords = computeScalarGo sc rest coords.tail := by
  obtain ⟨s, p, e⟩ := a
  simp only [computeScalarGo]
  rw [axisStep_ignored ((ignored_scale s p e).mpr h)]

theorem scalarGo_peaks (axes : List (Int × Int × Int)) :
    ∀ (coords : List Int) (sc : Int),
      (∀ i a, axes[i]? = some a → Ignored a.1 a.2.1 a.2.2 ∨ coords.getD i 0 = a.2.1) →
      computeScalarGo sc axes coords = sc := by
  induction axes with
  | nil => intro coords sc _; rfl
  | cons b rest ih =>
    intro coords sc h
    obtain ⟨s, p, e⟩ := b
    have hrest := ih coords.tail sc fun i a hget => by
      rw [getD_tail]; exact h (i + 1) a hget
    rcases h 0 (s, p, e) rfl with h0 | h0
    · rw [ignored_axis_skipped sc _ rest coords h0, hrest]
    · rw [getD_zero] at h0
      simp only [computeScalarGo]
      rw [show coords.headD 0 = p from h0, axisStep_peak]
      exact hrest

/-- a location that sits on the peak of every axis the region uses has
scalar exactly 1 (`Fixed::ONE`). -/
theorem scalar_at_peak (axes : List (Int × Int × Int)) (coords : List Int)
    (h : ∀ i a, axes[i]? = some a → Ignored a.1 a.2.1 a.2.2 ∨ coords.getD i 0 = a.2.1) :
    computeScalar axes coords = 65536 :=
  scalarGo_peaks axes coords 65536 h

/-! ## 2. axis normalisation (`VariationAxisRecord::normalize`, `Fvar::user_to_normalized`)

All values are raw `Fixed` 16.16 bit patterns (`ONE = 65536`); the F2Dot14 output of
`user_to_normalized` has `ONE = 16384`.  The laws hold for every `Int`, in particular for every
i32 bit pattern; the only hypotheses are the ones a law needs to be meaningful (`min < default`
for "min ↦ −1", etc.). -/

open Normalize

/-- **normalize_range**: the result is always within `[−1, 1]`, for any axis record at all. -/
theorem normalize_range (minV defV maxV value : Int) :
    -65536 ≤ normalize minV defV maxV value ∧ normalize minV defV maxV value ≤ 65536 :=
  Normalize.normalize_range minV defV maxV value

/-- the default maps to 0 (`min ≤ default ≤ max`). -/
theorem normalize_default (minV defV maxV : Int) (h1 : minV ≤ defV) (h2 : defV ≤ maxV) :
    normalize minV defV maxV defV = 0 := by
  rw [normalize_eq]
  have e : ¬ maxV < minV := by omega
  simp only [e, if_false]
  rw [clamp_id h1 h2, core_eq]; unfold clamp; simp

/-- the minimum maps to −1 (whenever `min < default`; any `max`, any
magnitude — also when `default − min` saturates the i32 subtraction). -/
theorem normalize_min (minV defV maxV : Int) (h : minV < defV) :
    normalize minV defV maxV minV = -65536 := by
  rw [normalize_eq]
  generalize hM : (if maxV < minV then minV else maxV) = M
  have hM' : minV ≤ M := by subst hM; split <;> omega
  rw [clamp_id (by omega) hM']
  have := core_below (maxV' := M) (Int.le_refl minV) h
  rw [this.1, divQ_self (satSub_pos h)]; unfold clamp; simp

/-- the maximum maps to +1 (whenever `default < max` and `min ≤ max`). -/
theorem normalize_max (minV defV maxV : Int) (h : defV < maxV) (hm : minV ≤ maxV) :
    normalize minV defV maxV maxV = 65536 := by
  rw [normalize_eq]
  have e : ¬ maxV < minV := by omega
  simp only [e, if_false]
  rw [clamp_id hm (Int.le_refl maxV)]
  have := core_above (minV := minV) (Int.le_refl maxV) h
  rw [this.1, divQ_self (satSub_pos h)]; unfold clamp; simp

/-- **normalize_clamps (low)**: every value at or below the minimum normalises like the minimum. -/
theorem normalize_clamps_low (minV defV maxV value : Int) (h : value ≤ minV) :
    normalize minV defV maxV value = normalize minV defV maxV minV := by
  rw [normalize_eq, normalize_eq]
  have hM : minV ≤ (if maxV < minV then minV else maxV) := by split <;> omega
  rw [clamp_le_lo h hM, clamp_id (Int.le_refl _) hM]

/-- **normalize_clamps (high)**: every value at or above the maximum normalises like the maximum. -/
theorem normalize_clamps_high (minV defV maxV value : Int) (h : maxV ≤ value) (hm : minV ≤ maxV) :
    normalize minV defV maxV value = normalize minV defV maxV maxV := by
  rw [normalize_eq, normalize_eq, if_neg (by omega : ¬ maxV < minV), clamp_ge_hi h hm,
    clamp_id hm (Int.le_refl _)]

/-- non-decreasing in the user coordinate — for every axis record
(also malformed ones: `max < min`, default outside `[min, max]`). -/
theorem normalize_monotone (minV defV maxV v1 v2 : Int) (h : v1 ≤ v2) :
    normalize minV defV maxV v1 ≤ normalize minV defV maxV v2 := by
  rw [normalize_eq, normalize_eq]
  generalize hM : (if maxV < minV then minV else maxV) = M
  have hM' : minV ≤ M := by subst hM; split <;> omega
  apply clamp_mono _ (by omega)
  have r1 := clamp_range (v := v1) hM'
  have r2 := clamp_range (v := v2) hM'
  exact core_mono r1.1 (clamp_mono h hM') r2.2

/-- **normalize_spec (below default)**: for `min ≤ v < default` the result is
`−(default − v)/(default − min)` in 16.16, rounded to nearest (no saturation: `default − min < 2³¹`). -/
theorem normalize_spec_below (minV defV maxV v : Int)
    (hsat : defV - minV < 2147483648) (h1 : minV ≤ v) (h2 : v < defV) (h3 : defV ≤ maxV) :
    ∃ q, IsRHA ((defV - v) * 65536) (defV - minV) q ∧ normalize minV defV maxV v = -q := by
  refine ⟨divQ (defV - v) (defV - minV), divQ_isRHA (by omega) (by omega), ?_⟩
  rw [normalize_eq]
  have e : ¬ maxV < minV := by omega
  simp only [e, if_false]
  rw [clamp_id h1 (by omega)]
  have := core_below (maxV' := maxV) h1 h2
  have s1 : satSub defV v = defV - v := satSub_exact (by omega) (by omega)
  have s2 : satSub defV minV = defV - minV := satSub_exact (by omega) (by omega)
  rw [s1, s2] at this
  rw [this.1]; exact clamp_id (by omega) (by omega)

/-- **normalize_spec (above default)**: for `default < v ≤ max` the result is
`(v − default)/(max − default)` in 16.16, rounded to nearest. -/
theorem normalize_spec_above (minV defV maxV v : Int)
    (hsat : maxV - defV < 2147483648) (h0 : minV ≤ defV) (h1 : defV < v) (h2 : v ≤ maxV) :
    ∃ q, IsRHA ((v - defV) * 65536) (maxV - defV) q ∧ normalize minV defV maxV v = q := by
  refine ⟨divQ (v - defV) (maxV - defV), divQ_isRHA (by omega) (by omega), ?_⟩
  rw [normalize_eq]
  have e : ¬ maxV < minV := by omega
  simp only [e, if_false]
  rw [clamp_id (by omega) h2]
  have := core_above (minV := minV) h2 h1
  have s1 : satSub v defV = v - defV := satSub_exact (by omega) (by omega)
  have s2 : satSub maxV defV = maxV - defV := satSub_exact (by omega) (by omega)
  rw [s1, s2] at this
  rw [this.1]; exact clamp_id (by omega) (by omega)

example : normalize (100 * 65536) (400 * 65536) (900 * 65536) (250 * 65536) = -32768 := by decide
example : normalize (100 * 65536) (400 * 65536) (900 * 65536) (650 * 65536) = 32768 := by decide
example : normalize (-2147483648) 0 2147483647 (-2147483648) = -65536 := by decide

/-! ## 3. avar segment maps (`SegmentMaps::apply`)

`maps` are the stored F2Dot14 `(from, to)` records; coordinates are `Fixed`.  `to_fixed` is
`× 4`.  A *valid* map has strictly increasing `from`s (`Before`: and non-decreasing `to`s). -/

/-- all records are F2Dot14 bit patterns. -/
def MapOk (maps : List (Int × Int)) : Prop := ∀ m ∈ maps, inI16 m.1 ∧ inI16 m.2

/-- an empty segment map is the identity. -/
theorem avar_empty_identity (c : Int) : avarApply [] c = c := by simp [avarApply, applyGo]

/-- degenerate map: a one-record map changes nothing except its
own point. -/
theorem avar_single_identity (f t c : Int) (h : c ≠ Fixed.f2dot14ToFixed f) :
    avarApply [(f, t)] c = c := by
  unfold avarApply
  simp only [List.map_cons, List.map_nil, applyGo]
  have e1 : ¬ Fixed.f2dot14ToFixed f = c := fun h' => h h'.symm
  simp only [e1, if_false]
  split <;> rfl

/-- below the first point and above every point the map is the
identity (no sortedness needed). -/
theorem avar_outside_identity (maps : List (Int × Int)) (c : Int) :
    (∀ m, maps.head? = some m → c < Fixed.f2dot14ToFixed m.1) ∨
    (∀ m ∈ maps, Fixed.f2dot14ToFixed m.1 < c) → avarApply maps c = c := by
  rintro (h | h)
  · cases maps with
    | nil => exact avar_empty_identity c
    | cons m rest => obtain ⟨f, t⟩ := m; exact avarApply_before_first (h (f, t) rfl)
  · unfold avarApply
    apply applyGo_beyond
    intro m hm
    simp only [List.mem_map] at hm
    obtain ⟨m0, hm0, rfl⟩ := hm
    exact h m0 hm0

/-- every map point is hit exactly — `apply(from_i) = to_i` whenever all
earlier `from`s are smaller (in particular for every strictly sorted map). -/
theorem avar_hits_point (maps : List (Int × Int)) (i : Nat) (m : Int × Int)
    (hget : maps[i]? = some m)
    (hlt : ∀ j, j < i → ∀ m', maps[j]? = some m' → m'.1 < m.1) :
    avarApply maps (Fixed.f2dot14ToFixed m.1) = Fixed.f2dot14ToFixed m.2 :=
  avarApply_hit maps i m hget hlt

/-- strictly between two consecutive points `a`, `b` (all earlier `from`s
below the coordinate) the result is `a.to + (b.to − a.to)·(c − a.from)/(b.from − a.from)`,
the quotient rounded to the nearest 16.16 value (ties away from zero) — linear interpolation. -/
theorem avar_interpolates (maps : List (Int × Int)) (hok : MapOk maps) (i : Nat) (a b : Int × Int)
    (ha : maps[i]? = some a) (hb : maps[i + 1]? = some b) (c : Int)
    (hlt : ∀ j, j ≤ i → ∀ m', maps[j]? = some m' → Fixed.f2dot14ToFixed m'.1 < c)
    (hcb : c < Fixed.f2dot14ToFixed b.1) :
    ∃ q, IsRHA ((Fixed.f2dot14ToFixed b.2 - Fixed.f2dot14ToFixed a.2) * (c - Fixed.f2dot14ToFixed a.1))
          (Fixed.f2dot14ToFixed b.1 - Fixed.f2dot14ToFixed a.1) q ∧
      avarApply maps c = Fixed.f2dot14ToFixed a.2 + q := by
  have hma : a ∈ maps := List.mem_of_getElem? ha
  have hmb : b ∈ maps := List.mem_of_getElem? hb
  have hac : Fixed.f2dot14ToFixed a.1 < c := hlt i (Nat.le_refl i) a ha
  have iA1 : Tent.inF (Fixed.f2dot14ToFixed a.1) := Tent.inF_of_f2dot14 (hok a hma).1
  have iA2 : Tent.inF (Fixed.f2dot14ToFixed a.2) := Tent.inF_of_f2dot14 (hok a hma).2
  have iB1 : Tent.inF (Fixed.f2dot14ToFixed b.1) := Tent.inF_of_f2dot14 (hok b hmb).1
  have iB2 : Tent.inF (Fixed.f2dot14ToFixed b.2) := Tent.inF_of_f2dot14 (hok b hmb).2
  have hApp : avarApply maps c = interp (Fixed.f2dot14ToFixed a.1) (Fixed.f2dot14ToFixed a.2)
      (Fixed.f2dot14ToFixed b.1) (Fixed.f2dot14ToFixed b.2) c := by
    have e : ∀ (k : Nat) (x : Int × Int), maps[k]? = some x →
        (scaled maps)[k]? = some (Fixed.f2dot14ToFixed x.1, Fixed.f2dot14ToFixed x.2) := by
      intro k x hx; rw [scaled_getElem?, hx]; rfl
    have hlt' : ∀ j, j ≤ i → ∀ m', (scaled maps)[j]? = some m' → m'.1 < c := by
      intro j hj m' hm'
      rw [scaled_getElem?] at hm'
      obtain ⟨mj, hmj, rfl⟩ := Option.map_eq_some_iff.mp hm'
      exact hlt j hj mj hmj
    have key := applyGo_interp (c := c) (maps := scaled maps) (0, 0) true i
      (Fixed.f2dot14ToFixed a.1, Fixed.f2dot14ToFixed a.2)
      (Fixed.f2dot14ToFixed b.1, Fixed.f2dot14ToFixed b.2) (e i a ha) (e (i + 1) b hb) hlt' hcb
    exact key
  rw [hApp]
  clear hApp hlt
  generalize Fixed.f2dot14ToFixed a.1 = A1 at *
  generalize Fixed.f2dot14ToFixed a.2 = A2 at *
  generalize Fixed.f2dot14ToFixed b.1 = B1 at *
  generalize Fixed.f2dot14ToFixed b.2 = B2 at *
  have iC : Tent.inF c := by unfold Tent.inF at *; omega
  have hI := interp_eq iA1 iA2 iB1 iB2 iC (Int.le_of_lt hac) (Int.le_of_lt hcb) (Int.lt_trans hac hcb)
  have h0 : 0 ≤ c - A1 := by omega
  have h1 : 0 < B1 - A1 := by omega
  refine ⟨mdQ (B2 - A2) (c - A1) (B1 - A1), mdQ_isRHA h0 h1, ?_⟩
  exact hI

/-- if the map is monotone (`from` strictly increasing, `to` non-decreasing)
then `apply` is non-decreasing on the span of the map (between its first and last `from`). -/
theorem avar_monotone (maps : List (Int × Int)) (hok : MapOk maps) (hs : maps.Pairwise Before)
    (c1 c2 : Int) (h12 : c1 ≤ c2) (hlo : ∃ m ∈ maps, Fixed.f2dot14ToFixed m.1 ≤ c1)
    (hhi : ∃ m ∈ maps, c2 ≤ Fixed.f2dot14ToFixed m.1) :
    avarApply maps c1 ≤ avarApply maps c2 :=
  avarApply_mono_core hok hs h12 hlo hhi

/-- the map contains the three records the OpenType specification requires. -/
def HasRequired (maps : List (Int × Int)) : Prop :=
  (-16384, -16384) ∈ maps ∧ ((0 : Int), (0 : Int)) ∈ maps ∧ ((16384 : Int), (16384 : Int)) ∈ maps

theorem before_strict {maps : List (Int × Int)} (hs : maps.Pairwise Before) :
    maps.Pairwise (fun a b => a.1 < b.1) := hs.imp (fun h => h.1)

/-- a valid monotone map (with the required −1, 0, 1 records) is
monotone on all of `[−1, 1]`, keeps −1, 0, 1 fixed, and stays within `[−1, 1]`. -/
theorem avar_valid_monotone_range (maps : List (Int × Int)) (hok : MapOk maps)
    (hs : maps.Pairwise Before) (hr : HasRequired maps) :
    avarApply maps (-65536) = -65536 ∧ avarApply maps 0 = 0 ∧ avarApply maps 65536 = 65536 ∧
    (∀ c1 c2, -65536 ≤ c1 → c1 ≤ c2 → c2 ≤ 65536 → avarApply maps c1 ≤ avarApply maps c2) ∧
    (∀ c, -65536 ≤ c → c ≤ 65536 → -65536 ≤ avarApply maps c ∧ avarApply maps c ≤ 65536) := by
  have hA := avarApply_hit_mem (before_strict hs) hr.1
  have hB := avarApply_hit_mem (before_strict hs) hr.2.1
  have hC := avarApply_hit_mem (before_strict hs) hr.2.2
  simp only [Fixed.f2dot14ToFixed] at hA hB hC
  have hmono : ∀ c1 c2, -65536 ≤ c1 → c1 ≤ c2 → c2 ≤ 65536 → avarApply maps c1 ≤ avarApply maps c2 := by
    intro c1 c2 h1 h12 h2
    exact avarApply_mono_core hok hs h12 ⟨_, hr.1, by simp [Fixed.f2dot14ToFixed]; omega⟩
      ⟨_, hr.2.2, by simp [Fixed.f2dot14ToFixed]; omega⟩
  refine ⟨by simpa using hA, by simpa using hB, by simpa using hC, hmono, ?_⟩
  intro c h1 h2
  have := hmono (-65536) c (by omega) h1 h2
  have := hmono c 65536 h1 h2 (by omega)
  simp at hA hC
  omega

example : avarApply [(-16384, -16384), (0, 0), (8192, 4096), (16384, 16384)] 16384 = 8192 := by decide
example : avarApply [(-16384, -16384), (0, 0), (8192, 4096), (16384, 16384)] 49152 = 40960 := by decide
example : ([(-16384, -16384), (0, 0), (8192, 4096), (16384, 16384)] : List (Int × Int)).Pairwise Before := by
  unfold Before; decide

/-! ### the whole per-axis step of `Fvar::user_to_normalized` (normalize → avar → F2Dot14) -/

theorem normalized_laws_of_map (minV defV maxV : Int) (φ : Int → Int)
    (hA : φ (-65536) = -65536) (hB : φ 0 = 0) (hC : φ 65536 = 65536)
    (hmono : ∀ c1 c2, -65536 ≤ c1 → c1 ≤ c2 → c2 ≤ 65536 → φ c1 ≤ φ c2)
    (hrange : ∀ c, -65536 ≤ c → c ≤ 65536 → -65536 ≤ φ c ∧ φ c ≤ 65536) :
    (minV < defV → Fixed.toF2Dot14 (φ (normalize minV defV maxV minV)) = -16384) ∧
    (minV ≤ defV → defV ≤ maxV → Fixed.toF2Dot14 (φ (normalize minV defV maxV defV)) = 0) ∧
    (defV < maxV → minV ≤ maxV → Fixed.toF2Dot14 (φ (normalize minV defV maxV maxV)) = 16384) ∧
    (∀ v, -16384 ≤ Fixed.toF2Dot14 (φ (normalize minV defV maxV v)) ∧
          Fixed.toF2Dot14 (φ (normalize minV defV maxV v)) ≤ 16384) ∧
    (∀ v1 v2, v1 ≤ v2 → Fixed.toF2Dot14 (φ (normalize minV defV maxV v1)) ≤
          Fixed.toF2Dot14 (φ (normalize minV defV maxV v2))) := by
  refine ⟨fun h => ?_, fun h1 h2 => ?_, fun h1 h2 => ?_, fun v => ?_, fun v1 v2 h => ?_⟩
  · rw [normalize_min minV defV maxV h, hA]; decide
  · rw [normalize_default minV defV maxV h1 h2, hB]; decide
  · rw [normalize_max minV defV maxV h1 h2, hC]; decide
  · have := normalize_range minV defV maxV v
    have := hrange _ this.1 this.2
    rw [toF2Dot14_small this.1 this.2]; omega
  · have r1 := normalize_range minV defV maxV v1
    have r2 := normalize_range minV defV maxV v2
    have a1 := hrange _ r1.1 r1.2
    have a2 := hrange _ r2.1 r2.2
    have := hmono _ _ r1.1 (normalize_monotone minV defV maxV v1 v2 h) r2.2
    rw [toF2Dot14_small a1.1 a1.2, toF2Dot14_small a2.1 a2.2]; omega

/-- **user_to_normalized (no avar)**: min ↦ −1, default ↦ 0, max ↦ 1 (F2Dot14 `ONE = 16384`),
range `[−1, 1]`, monotone. -/
theorem user_to_normalized_laws (minV defV maxV : Int) :
    (minV < defV → userToNormalized minV defV maxV none minV = -16384) ∧
    (minV ≤ defV → defV ≤ maxV → userToNormalized minV defV maxV none defV = 0) ∧
    (defV < maxV → minV ≤ maxV → userToNormalized minV defV maxV none maxV = 16384) ∧
    (∀ v, -16384 ≤ userToNormalized minV defV maxV none v ∧
          userToNormalized minV defV maxV none v ≤ 16384) ∧
    (∀ v1 v2, v1 ≤ v2 → userToNormalized minV defV maxV none v1 ≤
          userToNormalized minV defV maxV none v2) :=
  normalized_laws_of_map minV defV maxV id rfl rfl rfl (fun _ _ _ h _ => h) (fun _ h1 h2 => ⟨h1, h2⟩)

/-- **user_to_normalized (with a valid avar map)**: the same laws survive a valid monotone
segment map. -/
theorem user_to_normalized_avar_laws (minV defV maxV : Int) (maps : List (Int × Int))
    (hok : MapOk maps) (hs : maps.Pairwise Before) (hr : HasRequired maps) :
    (minV < defV → userToNormalized minV defV maxV (some maps) minV = -16384) ∧
    (minV ≤ defV → defV ≤ maxV → userToNormalized minV defV maxV (some maps) defV = 0) ∧
    (defV < maxV → minV ≤ maxV → userToNormalized minV defV maxV (some maps) maxV = 16384) ∧
    (∀ v, -16384 ≤ userToNormalized minV defV maxV (some maps) v ∧
          userToNormalized minV defV maxV (some maps) v ≤ 16384) ∧
    (∀ v1 v2, v1 ≤ v2 → userToNormalized minV defV maxV (some maps) v1 ≤
          userToNormalized minV defV maxV (some maps) v2) := by
  obtain ⟨hA, hB, hC, hmono, hrange⟩ := avar_valid_monotone_range maps hok hs hr
  exact normalized_laws_of_map minV defV maxV (avarApply maps) hA hB hC hmono hrange

/-! ## 4. `ItemVariationStore::compute_delta` = Σ_regions scalar × delta, rounded

`specSum regions coords deltas regionIndexes = Σ_i deltas[i] · computeScalar(regions[ri_i], coords)`
with the scalar as raw 16.16 bits (Section 1 proves that scalar is the specified tent).  The code
accumulates in i64 and finishes with `((accum + 0x8000) >> 16) as i32`. -/

/-- whenever `compute_delta` returns `Ok(v)` on a present subtable,
`v` is the weighted sum of the decoded row's deltas with their regions' tent scalars, divided by
2¹⁶ and rounded to nearest (ties up), then truncated to i32 exactly as `as i32` does. -/
theorem compute_delta_spec (regions : List (List (Int × Int × Int)))
    (subtables : List (Option SubTable)) (outer inner : Nat) (coords : List Int) (st : SubTable)
    (v : Int) (hne : coords ≠ []) (hst : subtables[outer]? = some (some st))
    (h : computeDelta regions subtables outer inner coords = .ok v) :
    v = wrapI32 ((specSum regions coords (decodedRow st inner) st.regionIndexes + 32768) / 65536) ∧
    LoopOk regions (decodedRow st inner) st.regionIndexes := by
  classical
  rw [computeDelta_present regions subtables outer inner coords st hne hst] at h
  split at h
  · rename_i hc; cases h; exact ⟨rfl, hc.2⟩
  · cases h

theorem scalar_range_getD (regions : List (List (Int × Int × Int))) (coords : List Int)
    (hr : AllAxesOk regions) (hc : CoordsOk coords) (ri : Nat) :
    0 ≤ computeScalar (regions.getD ri []) coords ∧ computeScalar (regions.getD ri []) coords ≤ 65536 := by
  apply scalar_range _ _ _ hc
  intro a ha
  rw [List.getD_eq_getElem?_getD] at ha
  cases h : regions[ri]? with
  | none => rw [h] at ha; simp at ha
  | some r => rw [h] at ha; exact hr r (List.mem_of_getElem? h) a ha

/-- the call succeeds whenever the table is well-formed (subtable
present, delta-set array inside the data, every decoded delta has a region index that names a
region) — and the error cases are exactly the complement. -/
theorem compute_delta_ok_iff (regions : List (List (Int × Int × Int)))
    (subtables : List (Option SubTable)) (outer inner : Nat) (coords : List Int) (st : SubTable)
    (hne : coords ≠ []) (hst : subtables[outer]? = some (some st)) :
    (∃ v, computeDelta regions subtables outer inner coords = .ok v) ↔
      (deltaRowLen st.wordDeltaCount st.regionIndexes.length * st.itemCount ≤ st.data.length ∧
       LoopOk regions (decodedRow st inner) st.regionIndexes) := by
  classical
  rw [computeDelta_present regions subtables outer inner coords st hne hst]
  split
  · rename_i hc; exact ⟨fun _ => hc, fun _ => ⟨_, rfl⟩⟩
  · rename_i hc; exact ⟨fun h => (by obtain ⟨_, h⟩ := h; cases h), fun h => absurd h hc⟩

/-- the final shift `(acc + 0x8000) >> 16` of `roundAccum`, as arithmetic on the accumulator: the quotient `v` is
`acc / 2¹⁶` rounded to nearest, ties towards +∞ (`v · 2¹⁶ − 2¹⁵ ≤ acc < v · 2¹⁶ + 2¹⁵`). -/
theorem compute_delta_round_spec (acc : Int) :
    65536 * ((acc + 32768) / 65536) - 32768 ≤ acc ∧
    acc < 65536 * ((acc + 32768) / 65536) + 32768 := by
  omega

/-- for table bytes (`< 256`) and F2Dot14 regions/coordinates, every
partial sum of the loop fits i64 (at most 65535 region indexes of i32 deltas × scalar ≤ 2¹⁶) —
the `Int` accumulator of the model is the i64 accumulator of the code, and the overflow-checked
`accum +=` never traps. -/
theorem accumulator_fits_i64 (regions : List (List (Int × Int × Int))) (coords : List Int)
    (st : SubTable) (inner : Nat) (hr : AllAxesOk regions) (hc : CoordsOk coords)
    (hb : ∀ b ∈ st.data, b < 256) (hn : st.regionIndexes.length ≤ 65535) (k : Nat) :
    inI64 (specSum regions coords ((decodedRow st inner).take k) st.regionIndexes) := by
  have hrow := deltaSet_inI32 st.wordDeltaCount st.regionIndexes.length
    (st.data.take (deltaRowLen st.wordDeltaCount st.regionIndexes.length * st.itemCount)) inner
    (fun b hbm => hb b (List.mem_of_mem_take hbm))
  have hsc := scalar_range_getD regions coords hr hc
  have hbound := specSum_bound regions coords 2147483648 (by omega) hsc
    ((decodedRow st inner).take k) st.regionIndexes
    (fun d hd => by have := hrow.1 d (List.mem_of_mem_take hd); unfold inI32 at this; omega)
  have hlen : (((decodedRow st inner).take k).length : Int) ≤ 65535 := by
    have : ((decodedRow st inner).take k).length ≤ (decodedRow st inner).length := by
      simp [List.length_take]; omega
    have := hrow.2
    unfold decodedRow at *
    omega
  generalize (((decodedRow st inner).take k).length : Int) = n at *
  unfold inI64
  omega

/-- with 16-bit deltas (no `LONG_WORDS`) nothing wraps: the
result is exactly `⌊(Σ + 2¹⁵) / 2¹⁶⌋`. -/
theorem compute_delta_no_wrap (regions : List (List (Int × Int × Int))) (coords : List Int)
    (deltas : List Int) (ris : List Nat) (hr : AllAxesOk regions) (hc : CoordsOk coords)
    (hd : ∀ d ∈ deltas, inI16 d) (hn : deltas.length ≤ 65535) :
    roundAccum (specSum regions coords deltas ris) =
      (specSum regions coords deltas ris + 32768) / 65536 := by
  have hsc := scalar_range_getD regions coords hr hc
  have hbound := specSum_bound regions coords 32768 (by omega) hsc deltas ris
    (fun d hdm => by have := hd d hdm; unfold inI16 at this; omega)
  have hlen : (deltas.length : Int) ≤ 65535 := by omega
  generalize (deltas.length : Int) = n at *
  apply roundAccum_nowrap <;> omega

example : computeDelta [[(0, 16384, 16384)], [(-16384, -16384, 0)]]
    [some { itemCount := 1, wordDeltaCount := 1, regionIndexes := [0, 1], data := [0, 100, 0xF6] }]
    0 0 [8192] = .ok 50 := by
  simp [computeDelta, deltaRowLen, deltaSet, itemDeltas, readW, colWidth, readS1, readS2, deltaLoop,
    computeScalar, computeScalarGo, axisStep, Fixed.f2dot14ToFixed, roundAccum]
  decide
example : specSum [[(0, 16384, 16384)], [(-16384, -16384, 0)]] [8192] [100, -10] [0, 1] = 100 * 32768 := by
  decide

/-! ## 5. the variation-store builder: every delta set is retrievable

`Ivs.retrieve b n outer inner` is what the *reader model* (Section 4's `decodedRow`, i.e.
`ItemVariationData::delta_set`) gets from the built store for a `VariationIndex`, attributed to the
builder's canonical regions through the pruned region list.  The partition of delta sets into
encodings chosen by `Encoder::optimize` is a *parameter* (`groups`): the theorems hold for every
partition, every member order and every order of the encodings. -/

open Ivs

/-- 8/16/32-bit narrowing preserves values: if the shape covers the row
(`for_val(value) ≤ column bits` in every column), reading back the bytes written by
`encode_raw_delta_values` yields exactly the value of every active column — whatever follows. -/
theorem row_roundtrip (s : List Nat) (row : List Int) (tail : List Nat) (hc : Covers s row)
    (hi : RowI32 row) :
    itemDeltas (nLong s) (longWords s) (indices s).length 0 (encodeRow s row ++ tail) =
      (indices s).map (fun r => row.getD r 0) :=
  row_decode s row tail hc hi

/-- the shape of an encoding obtained by *any* sequence of `merge_with` over a
set of members (their join) has one column per region, valid `ColumnBits`, and covers every
member — the invariant that makes every optimiser choice safe. -/
theorem merge_covers (n : Nat) (sets : List (List (Nat × Int))) :
    (joinShape n sets).length = n ∧ ShapeOk (joinShape n sets) ∧
    ∀ ds ∈ sets, Covers (joinShape n sets) (dense ds n) :=
  joinShape_spec n sets

/-- region pruning keeps every non-zero column: the active columns of a
covering shape, put back at their canonical region indices, rebuild the whole dense row — columns
dropped from the subtable were zero. -/
theorem scatter_rebuilds_row (s : List Nat) (row : List Int) (n : Nat) (hs : ShapeOk s)
    (hn : s.length = n) (hc : Covers s row) :
    dense ((indices s).zip ((indices s).map fun r => row.getD r 0)) n = row :=
  scatter_eq s row n hs hn hc

/-- for any list of encodings that satisfies the model's
well-formedness condition `EncsWf` (each shape covers its members), with fewer than 32768 regions
and at most 65536 subtables: every member has a remap entry under its temporary id through which
exactly its dense row is read back, and every remap entry reads back the row of a member with
that id. -/
theorem builder_retrievable_core (n : Nat) (encs : List Enc) (hwf : EncsWf n encs) (hn : n < 32768)
    (hsub : (encodeAll n encs).subtables.length ≤ 65536) :
    (∀ e ∈ encs, ∀ m ∈ e.2, ∃ o i, (m.2, o, i) ∈ (encodeAll n encs).remap ∧
        retrieve (encodeAll n encs) n o i = some (dense m.1 n)) ∧
    (∀ id o i, (id, o, i) ∈ (encodeAll n encs).remap → ∃ e ∈ encs, ∃ m ∈ e.2, m.2 = id ∧
        retrieve (encodeAll n encs) n o i = some (dense m.1 n)) := by
  rw [subtables_length] at hsub
  constructor
  · intro e he m hm
    obtain ⟨ei, mi, e', hei, hmi⟩ := pos_of_member encs e he m hm
    exact ⟨ei, mi, (mem_remap n encs hsub).mpr ⟨e', m, hei, hmi, rfl⟩,
      pos_retrieve n encs hwf hn _ _ e' m hei hmi⟩
  · intro id o i h
    obtain ⟨e', m, hei, hmi, hid⟩ := (mem_remap n encs hsub).mp h
    obtain ⟨⟨e, he, hme⟩, _⟩ := chunk_member hei hmi
    exact ⟨e, he, m, hme, hid, pos_retrieve n encs hwf hn _ _ e' m hei hmi⟩

/-- the encodings `buildOptimized` hands to `encodeAll` are well-formed, whatever the partition. -/
theorem optimized_encs_wf (n : Nat) (groups : List (List Member))
    (hd : ∀ g ∈ groups, ∀ m ∈ g, ∀ rd ∈ m.1, inI32 rd.2) :
    EncsWf n (((groups.map fun g => g.map fun m => (normalizeDeltaSet m.1, m.2)).map
      fun g => (joinShape n (g.map (·.1)), g.mergeSort rowLe)).mergeSort
        fun a b => shapeLe a.1 b.1) := by
  rw [List.map_map]; exact optEncs_wf n groups hd

/-- de-duplicating storage, `VariationStoreBuilder::build` after
`optimize`: for *every* partition `groups` of the added `(delta set, temporary id)` pairs into
encodings — every merge/reorder the optimiser may choose — each added delta set is read back,
through the `(outer, inner)` the remapping gives for its id, with exactly its per-region deltas
(`dense (normalizeDeltaSet ds) n`: the delta for each canonical region, 0 where it names none);
and nothing else is in the remapping.  Hypotheses: i32 deltas, fewer than 32768 regions, at most
65536 subtables in the output. -/
theorem builder_retrievable (n : Nat) (groups : List (List Member))
    (hd : ∀ g ∈ groups, ∀ m ∈ g, ∀ rd ∈ m.1, inI32 rd.2) (hn : n < 32768)
    (hsub : (buildOptimized n groups).subtables.length ≤ 65536) :
    (∀ g ∈ groups, ∀ m ∈ g, ∃ o i, (m.2, o, i) ∈ (buildOptimized n groups).remap ∧
        retrieve (buildOptimized n groups) n o i = some (dense (normalizeDeltaSet m.1) n)) ∧
    (∀ id o i, (id, o, i) ∈ (buildOptimized n groups).remap → ∃ g ∈ groups, ∃ m ∈ g, m.2 = id ∧
        retrieve (buildOptimized n groups) n o i = some (dense (normalizeDeltaSet m.1) n)) := by
  rw [buildOptimized_eq] at hsub ⊢
  have hcore := builder_retrievable_core n _ (optEncs_wf n groups hd) hn hsub
  constructor
  · intro g hg m hm
    exact hcore.1 _ (mem_optEncs.mpr ⟨g, hg, rfl⟩) _ (mem_groupEnc.mpr ⟨m, hm, rfl⟩)
  · intro id o i h
    obtain ⟨e, he, m, hm, hid, hr⟩ := hcore.2 id o i h
    obtain ⟨g, hg, rfl⟩ := mem_optEncs.mp he
    obtain ⟨m0, hm0, rfl⟩ := mem_groupEnc.mp hm
    exact ⟨g, hg, m0, hm0, hid, hr⟩

/-- the subtable-count hypothesis is implied by simple size bounds on the partition. -/
theorem optimized_subtable_count (n : Nat) (groups : List (List Member))
    (h : ∀ g ∈ groups, g.length ≤ 65535) :
    (buildOptimized n groups).subtables.length = groups.length := by
  rw [buildOptimized_eq, subtables_length, chunked_length_small]
  · simp [optEncs, List.length_mergeSort]
  · intro e he
    obtain ⟨g, hg, rfl⟩ := mem_optEncs.mp he
    simpa [groupEnc, List.length_mergeSort] using h g hg

/-- non-vacuity: a concrete partition satisfies every hypothesis, so its members are retrievable. -/
example : ∃ o i, (0, o, i) ∈ (buildOptimized 3
      [[([(0, 5), (2, -300)], 0)], [([(1, 70000)], 1), ([(1, 0)], 2)]]).remap ∧
    retrieve (buildOptimized 3 [[([(0, 5), (2, -300)], 0)], [([(1, 70000)], 1), ([(1, 0)], 2)]]) 3 o i =
      some (dense (normalizeDeltaSet [(0, 5), (2, -300)]) 3) :=
  (builder_retrievable 3 [[([(0, 5), (2, -300)], 0)], [([(1, 70000)], 1), ([(1, 0)], 2)]]
    (by decide) (by omega)
    (by rw [optimized_subtable_count _ _ (by decide)]; decide)).1
    [([(0, 5), (2, -300)], 0)] (by simp) ([(0, 5), (2, -300)], 0) (by simp)

/-- `new_with_implicit_indices` / `build_unoptimized`, used for
HVAR: item `k` of at most 0xFFFF items is stored under the implicit index `(0, k)` — its id is
`k` — and is read back with exactly its per-region deltas. -/
theorem builder_retrievable_direct (n : Nat) (sets : List (List (Nat × Int)))
    (hd : ∀ ds ∈ sets, ∀ rd ∈ ds, inI32 rd.2) (hn : n < 32768) (hlen : sets.length ≤ 65535)
    (k : Nat) (hk : k < sets.length) :
    (k, 0, k) ∈ (buildDirect n sets).remap ∧
    retrieve (buildDirect n sets) n 0 k = some (dense (normalizeDeltaSet sets[k]) n) := by
  have hk' : k < (sets.map normalizeDeltaSet).length := by simpa using hk
  have hget : (sets.map normalizeDeltaSet).zipIdx[k]? = some (normalizeDeltaSet sets[k], k) := by
    rw [List.getElem?_zipIdx, List.getElem?_eq_getElem hk']; simp
  constructor
  · unfold buildDirect
    simp only []
    have hne : (sets.map normalizeDeltaSet).isEmpty = false := by
      cases hs : sets with
      | nil => rw [hs] at hk; simp at hk
      | cons _ _ => rfl
    rw [hne]
    simp only [Bool.false_eq_true, if_false]
    refine List.mem_map.mpr ⟨(normalizeDeltaSet sets[k], k), List.mem_of_getElem? hget, ?_⟩
    simp only [Nat.mod_eq_of_lt (by omega : k < 65536)]
  · have hf := buildDirect_fields n sets hlen
    simp only [] at hf
    rw [retrieve_congr hf.1 hf.2]
    have hwf := joinEnc_wf n (sets.map normalizeDeltaSet) (sets.map normalizeDeltaSet).zipIdx fun m hm => by
      have hm1 : m.1 ∈ sets.map normalizeDeltaSet := by
        have := List.mem_map_of_mem (f := Prod.fst) hm
        rwa [List.zipIdx_map_fst] at this
      obtain ⟨ds, hds, hmd⟩ := List.mem_map.mp hm1
      exact ⟨hm1, fun rd hrd => hd ds hds rd (normalize_mem (hmd ▸ hrd))⟩
    have hch : (chunked [(joinShape n (sets.map normalizeDeltaSet), (sets.map normalizeDeltaSet).zipIdx)])[0]? =
        some (joinShape n (sets.map normalizeDeltaSet), (sets.map normalizeDeltaSet).zipIdx) := by
      unfold chunked
      simp only [List.flatMap_cons, List.flatMap_nil, List.append_nil]
      rw [chunks_small _ _ (by simp; exact hlen)]
      rfl
    exact pos_retrieve n _ hwf hn 0 k _ (normalizeDeltaSet sets[k], k) hch hget

/-- `add_deltas` on the de-duplicating builder returns the same temporary id
for two inputs iff they are equal as delta sets (after sorting; an all-zero set equals the empty
one) — equal rows share one index, different rows never do. -/
theorem dedup_same_index (sets : List (List (Nat × Int))) (hlen : sets.length ≤ 4294967296)
    (i j : Nat) (a b : List (Nat × Int)) (ia ib : Nat) (hi : sets[i]? = some a) (hj : sets[j]? = some b)
    (hia : (addAllDedup [] sets).2[i]? = some ia) (hib : (addAllDedup [] sets).2[j]? = some ib) :
    ia = ib ↔ normalizeDeltaSet a = normalizeDeltaSet b := by
  have hs := addAllDedup_spec sets [] storeInv_nil (by simpa using hlen)
  have ea := hs.2.2 i a ia hi hia
  have eb := hs.2.2 j b ib hj hib
  constructor
  · intro h; subst h
    rw [ea] at eb
    simp at eb; exact eb
  · intro h
    -- equal keys sit at equal positions (keys are unique)
    have hka : ((addAllDedup [] sets).1.map (·.1))[ia]? = some (normalizeDeltaSet a) := by
      rw [List.getElem?_map, ea]; rfl
    have hkb : ((addAllDedup [] sets).1.map (·.1))[ib]? = some (normalizeDeltaSet a) := by
      rw [List.getElem?_map, eb, h]; rfl
    have hlt : ia < ((addAllDedup [] sets).1.map (·.1)).length := (List.getElem?_eq_some_iff.mp hka).1
    exact (List.getElem?_inj hlt hs.1.2).mp (by rw [hka, hkb])

/-- `canonical_index_for_region` returns an index that names the region
in the (append-only, duplicate-free) canonical region list. -/
theorem canonical_region_index (all : List (List (Int × Int × Int))) (r : List (Int × Int × Int)) :
    (canonIndex all r).1[(canonIndex all r).2]? = some r ∧
    (∃ suffix, (canonIndex all r).1 = all ++ suffix) ∧
    (all.Nodup → (canonIndex all r).1.Nodup) := by
  unfold canonIndex
  by_cases h : all.contains r
  · simp only [h, if_true]
    have hm : r ∈ all := List.contains_iff_mem.mp h
    have hlt := List.idxOf_lt_length_iff.mpr hm
    refine ⟨?_, ⟨[], by simp⟩, id⟩
    rw [List.getElem?_eq_getElem hlt, List.getElem_idxOf hlt]
  · simp only [h, Bool.false_eq_true, if_false]
    have hm : r ∉ all := fun hh => h (List.contains_iff_mem.mpr hh)
    refine ⟨?_, ⟨_, rfl⟩, ?_⟩
    · simp
    · exact fun hn => nodup_concat hn hm

/-- end to end, the property's first sentence: add any sequence of
delta sets with `add_deltas`; let the optimiser split the stored `(set, id)` entries into encodings
in *any* way (`groups` is any rearrangement of the storage); build.  Then for the id returned for
the `k`-th added set the remapping has an index, and *every* index the remapping holds for that id
reads back exactly the per-region deltas of that set — however rows were merged, reordered,
narrowed to 8/16/32 bits, and regions pruned and renumbered. -/
theorem add_then_build_retrievable (n : Nat) (sets : List (List (Nat × Int)))
    (groups : List (List Member)) (hperm : groups.flatten.Perm (addAllDedup [] sets).1)
    (hd : ∀ ds ∈ sets, ∀ rd ∈ ds, inI32 rd.2) (hn : n < 32768) (hcount : sets.length ≤ 4294967296)
    (hsub : (buildOptimized n groups).subtables.length ≤ 65536)
    (k : Nat) (ds : List (Nat × Int)) (id : Nat) (hk : sets[k]? = some ds)
    (hid : (addAllDedup [] sets).2[k]? = some id) :
    (∃ o i, (id, o, i) ∈ (buildOptimized n groups).remap) ∧
    ∀ o i, (id, o, i) ∈ (buildOptimized n groups).remap →
      retrieve (buildOptimized n groups) n o i = some (dense (normalizeDeltaSet ds) n) := by
  obtain ⟨hd', ⟨g, hg, hmg⟩, huniq⟩ := storage_partition sets groups hperm hd hcount k ds id hk hid
  have hb := builder_retrievable n groups hd' hn hsub
  constructor
  · obtain ⟨o, i, h, _⟩ := hb.1 g hg _ hmg
    exact ⟨o, i, h⟩
  · intro o i h
    obtain ⟨g', hg', m, hm, hmid, hr⟩ := hb.2 id o i h
    rw [hr, huniq g' hg' m hm hmid, normalizeDeltaSet_idem]

/-- non-vacuity of the direct theorem's hypotheses. -/
example : retrieve (buildDirect 2 [[(0, 5)], [], [(1, -40000), (0, 1)]]) 2 0 2 =
    some (dense (normalizeDeltaSet [(1, -40000), (0, 1)]) 2) :=
  (builder_retrievable_direct 2 [[(0, 5)], [], [(1, -40000), (0, 1)]] (by decide) (by omega)
    (by decide) 2 (by decide)).2

/-! ## 6. metric lookup (`GlyphMetrics::advance_width` / `left_side_bearing`, hmtx + HVAR)

`hMetrics` are the `numberOfHMetrics` long records `(advance, lsb)`, `lsbs` the trailing side
bearings; values are in font units before `FixedScaleFactor::apply`. -/

open Metrics

/-- a glyph with a long metric gets its own advance; every later glyph repeats
the *last* long metric's advance. -/
theorem advance_lookup (hMetrics : List (Int × Int)) (gid : Nat) :
    (∀ h : gid < hMetrics.length, baseAdvance hMetrics gid = hMetrics[gid].1) ∧
    (∀ h : hMetrics ≠ [], hMetrics.length ≤ gid → baseAdvance hMetrics gid = (hMetrics.getLast h).1) ∧
    (hMetrics = [] → baseAdvance hMetrics gid = 0) := by
  unfold baseAdvance
  refine ⟨fun h => ?_, fun h hg => ?_, fun h => ?_⟩
  · rw [List.getElem?_eq_getElem h]
  · rw [List.getElem?_eq_none hg, List.getLast?_eq_some_getLast h]
  · subst h; rfl

/-- a glyph with a long metric gets that record's side bearing; a later glyph gets
entry `gid − numberOfHMetrics` of the trailing array (0 if the array is too short). -/
theorem lsb_lookup (hMetrics : List (Int × Int)) (lsbs : List Int) (gid : Nat) :
    (∀ h : gid < hMetrics.length, baseLsb hMetrics lsbs gid = hMetrics[gid].2) ∧
    (hMetrics.length ≤ gid → baseLsb hMetrics lsbs gid = lsbs.getD (gid - hMetrics.length) 0) := by
  unfold baseLsb
  refine ⟨fun h => ?_, fun hg => ?_⟩
  · rw [List.getElem?_eq_getElem h]
  · rw [List.getElem?_eq_none hg, List.getD_eq_getElem?_getD]

/-- the amount added to the base metric is
`Fixed::from_i32(delta).to_f64() as i32`: exactly `delta` whenever `|delta| < 2¹⁵` — and in general
`delta as i16` (this wrap is known finding `C11-metric-delta-wraps-16bit`). -/
theorem metric_delta_integer_part (d : Int) :
    deltaInt d = wrapI16 d ∧ (inI16 d → deltaInt d = d) :=
  ⟨deltaInt_eq d, fun h => by rw [deltaInt_eq, wrapI16_id h]⟩

/-- `None` beyond the glyph count; otherwise the hmtx advance plus
the (integer) HVAR delta, or the bare hmtx advance when no delta applies. -/
theorem advance_is_base_plus_delta (glyphCount : Nat) (hMetrics : List (Int × Int)) (gid : Nat) :
    (glyphCount ≤ gid → ∀ delta, advanceUnits glyphCount hMetrics gid delta = none) ∧
    (gid < glyphCount → advanceUnits glyphCount hMetrics gid none = some (baseAdvance hMetrics gid)) ∧
    (gid < glyphCount → ∀ d, inI16 d →
      advanceUnits glyphCount hMetrics gid (some d) = some (baseAdvance hMetrics gid + d)) := by
  unfold advanceUnits
  refine ⟨fun h delta => by simp [h], fun h => ?_, fun h d hd => ?_⟩
  · have e : ¬ gid ≥ glyphCount := by omega
    simp [e]
  · have e : ¬ gid ≥ glyphCount := by omega
    simp only [e, if_false]
    rw [(metric_delta_integer_part d).2 hd]

/-- the same for the left side bearing: `None` beyond the glyph count; otherwise the hmtx bearing plus
the (integer) HVAR delta, or the bare hmtx bearing when no delta applies. -/
theorem lsb_is_base_plus_delta (glyphCount : Nat) (hMetrics : List (Int × Int)) (lsbs : List Int)
    (gid : Nat) :
    (glyphCount ≤ gid → ∀ delta, lsbUnits glyphCount hMetrics lsbs gid delta = none) ∧
    (gid < glyphCount →
      lsbUnits glyphCount hMetrics lsbs gid none = some (baseLsb hMetrics lsbs gid)) ∧
    (gid < glyphCount → ∀ d, inI16 d →
      lsbUnits glyphCount hMetrics lsbs gid (some d) = some (baseLsb hMetrics lsbs gid + d)) := by
  unfold lsbUnits
  refine ⟨fun h delta => by simp [h], fun h => ?_, fun h d hd => ?_⟩
  · have e : ¬ gid ≥ glyphCount := by omega
    simp [e]
  · have e : ¬ gid ≥ glyphCount := by omega
    simp only [e, if_false]
    rw [(metric_delta_integer_part d).2 hd]

/-- reading a `DeltaSetIndexMap` whose entries are packed as
`outer << bitCount | inner` in `entrySize` big-endian bytes returns entry `min(gid, mapCount − 1)`
(glyphs beyond the map reuse the last entry) split back into exactly `(outer, inner)`. -/
theorem delta_set_index_map_get (es bc : Nat) (hes : es = 1 ∨ es = 2 ∨ es = 3 ∨ es = 4)
    (hbc1 : 1 ≤ bc) (hbc2 : bc ≤ 16) (entries : List (Nat × Nat))
    (hfit : ∀ e ∈ entries, e.2 < 2 ^ bc ∧ e.1 < 65536 ∧ e.1 * 2 ^ bc + e.2 < 256 ^ es)
    (gid : Nat) (hne : 0 < entries.length) :
    dsimGet ((es - 1) * 16 + (bc - 1)) entries.length
      (entries.flatMap fun e => beBytes es (e.1 * 2 ^ bc + e.2)) gid =
      entries[min gid (entries.length - 1)]? :=
  dsimGet_packed es bc hes hbc1 hbc2 entries hfit gid hne

/-- writer ∘ reader, write-fonts `DeltaSetIndexMap::from_iter` ⇄
read-fonts `DeltaSetIndexMap::get`: for every non-empty list of `outer << 16 | inner` u32 entries,
whatever entry format (`get_entry_format`: 1–16 inner bits, 1–4 bytes) and trailing-duplicate
trimming `pack_map_data` chooses, `get(gid)` returns exactly `(outer, inner)` of entry
`min(gid, len − 1)` of the original list — this is the index through which an HVAR delta is added. -/
theorem delta_set_index_map_roundtrip (mapping : List Nat) (hne : mapping ≠ [])
    (h32 : ∀ y ∈ mapping, y < 4294967296) (gid : Nat) :
    dsimGet (packMap mapping).1 (packMap mapping).2.1 (packMap mapping).2.2 gid =
      (mapping[min gid (mapping.length - 1)]?).map fun x => (x / 65536, x % 65536) := by
  have hib := innerBits_range mapping
  have hes := entrySize_range mapping
  obtain ⟨hc1, hc2, hlast⟩ := trimmedCount_spec mapping hne
  obtain ⟨e2, e1⟩ := Tent.entryFormat_fields (es := entrySizeOf mapping) (by omega) (by omega) hib.1 hib.2
  have hlen : (mapping.take (trimmedCount mapping)).length = trimmedCount mapping := by
    rw [List.length_take]; omega
  unfold packMap
  dsimp only
  rw [entryFormat_eq, e1, e2]
  rw (occs := .pos [1]) [← hlen]
  rw [dsimGet_written (entrySizeOf mapping) (innerBitsOf mapping) hes hib.1 hib.2 _
    (fun x => (x / 65536, x % 65536)) _ ?_ gid (by omega), hlen, List.getElem?_take_of_lt (by omega)]
  · congr 1
    -- the entries from `cnt − 1` on all equal the last one
    by_cases hg : gid ≤ trimmedCount mapping - 1
    · rw [Nat.min_eq_left hg, Nat.min_eq_left (by omega)]
    · rw [Nat.min_eq_right (by omega), hlast _ (Nat.le_refl _) (by omega),
        hlast (min gid (mapping.length - 1)) (by omega) (by omega)]
  · intro x hx
    have hxm := List.mem_of_mem_take hx
    obtain ⟨hv, hin, hfit⟩ := packed_value mapping x hxm h32
    exact ⟨hin, by have := h32 x hxm; omega, hfit, by rw [hv]⟩

example : dsimGet (packMap [0x10005, 0x20003, 0x20003]).1 (packMap [0x10005, 0x20003, 0x20003]).2.1
    (packMap [0x10005, 0x20003, 0x20003]).2.2 7 = some (2, 3) := by
  rw [delta_set_index_map_roundtrip _ (by simp) (by decide)]; decide

/-- without an advance map the delta set is `(0, gid)`. -/
theorem implicit_index (gid : Nat) (h : gid < 65536) : implicitIndex gid = (0, gid) := by
  unfold implicitIndex; rw [Nat.mod_eq_of_lt h]

/-- with `Size::unscaled()` (scale `0x10000·64`) `FixedScaleFactor::apply`
returns the value itself as 16.16 — for every `|value| < 2¹⁵` (beyond that the 16.16 result wraps:
known finding `C11-unscaled-metric-wraps-at-32768`). -/
theorem unscaled_apply_exact (v : Int) (h : -32768 ≤ v ∧ v < 32768) :
    applyScale 4194304 v = v * 65536 := by
  unfold applyScale
  have hq : mdQ v 4194304 64 = v * 65536 := by unfold mdQ; split <;> omega
  rw [mulDiv_comm, mulDiv_eq_mdQ ⟨by omega, by omega⟩ (by omega) (by omega) (by omega) (by omega), hq]
  exact wrapI32_of_in (by omega) (by omega)

example : baseAdvance [(500, 10), (600, 20)] 5 = 600 := by decide
example : baseLsb [(500, 10), (600, 20)] [7, 8, 9] 3 = 8 := by decide
example : advanceUnits 9 [(500, 10), (600, 20)] 5 (some (-25)) = some 575 := by decide
example : dsimGet 0x11 2 [0, 5, 1, 3] 7 = some (64, 3) := by decide

/-! ## 7. builder ∘ reader: the delta evaluated on a built store

`denseSum canon coords row = Σ_r row[r] · computeScalar(canon[r], coords)` over *all* canonical
regions `r` of the builder (`canon` = the builder's regions in canonical order); the store's region
list is `usedRegions.map canon` (pruned, renumbered). -/

/-- first and second sentence of the property together: add any delta
sets, build with any partition the optimiser may choose, then evaluate `compute_delta` at any
non-empty location through *any* index the remapping holds for the id returned for the `k`-th
set: the result is `⌊(Σ_regions delta_r · scalar_r + 2¹⁵) / 2¹⁶⌋ as i32` with the deltas exactly
as added (0 for regions the set does not name) and the tent scalars of Section 1 — merges,
reordering, narrowing, pruning and renumbering are invisible. -/
theorem add_then_build_delta (n : Nat) (canon : List (List (Int × Int × Int)))
    (hcl : canon.length = n) (sets : List (List (Nat × Int))) (groups : List (List Member))
    (hperm : groups.flatten.Perm (addAllDedup [] sets).1)
    (hd : ∀ ds ∈ sets, ∀ rd ∈ ds, inI32 rd.2) (hn : n < 32768) (hcount : sets.length ≤ 4294967296)
    (hsub : (buildOptimized n groups).subtables.length ≤ 65536)
    (k : Nat) (ds : List (Nat × Int)) (id : Nat) (hk : sets[k]? = some ds)
    (hid : (addAllDedup [] sets).2[k]? = some id) (coords : List Int) (hne : coords ≠ []) :
    ∀ o i, (id, o, i) ∈ (buildOptimized n groups).remap →
      computeDelta ((buildOptimized n groups).usedRegions.map fun r => canon.getD r [])
        (buildOptimized n groups).subtables o i coords =
        .ok (roundAccum (denseSum canon coords (dense (normalizeDeltaSet ds) n))) := by
  obtain ⟨hd', _, huniq⟩ := storage_partition sets groups hperm hd hcount k ds id hk hid
  rw [buildOptimized_eq] at hsub ⊢
  intro o i h
  obtain ⟨e, he, m, hm, hmid, hr⟩ :=
    encodeAll_delta n canon _ (optEncs_wf n groups hd') hn hsub coords hne id o i h
  obtain ⟨g, hg, rfl⟩ := mem_optEncs.mp he
  obtain ⟨m0, hm0, rfl⟩ := mem_groupEnc.mp hm
  rw [hr, huniq g hg m0 hm0 hmid, normalizeDeltaSet_idem]

/-- the weighted sum on the right-hand side, spelled out: a sum over all canonical regions. -/
theorem denseSum_spelled_out (canon : List (List (Int × Int × Int))) (coords : List Int)
    (row : List Int) :
    denseSum canon coords row =
      sumOver (fun r => row.getD r 0 * computeScalar (canon.getD r []) coords)
        (List.range row.length) :=
  denseSum_eq canon coords row

/-- concrete storage used by the non-vacuity examples below. -/
private theorem ex_store : addAllDedup [] [[(0, 5)], [(0, 5)], [(0, 0)]] =
    ([([(0, 5)], 0), ([], 1)], [0, 0, 1]) := by
  simp [addAllDedup, dedupAdd, normalizeDeltaSet]

/-- non-vacuity of `add_then_build_retrievable` / `add_then_build_delta`: all hypotheses hold for a
concrete sequence of additions (with a duplicate and an all-zero set) and a concrete partition. -/
example : ∀ o i, (0, o, i) ∈ (buildOptimized 1 [[([], 1)], [([(0, 5)], 0)]]).remap →
    retrieve (buildOptimized 1 [[([], 1)], [([(0, 5)], 0)]]) 1 o i =
      some (dense (normalizeDeltaSet [(0, 5)]) 1) :=
  (add_then_build_retrievable 1 [[(0, 5)], [(0, 5)], [(0, 0)]] [[([], 1)], [([(0, 5)], 0)]]
    (by rw [ex_store]; decide) (by decide) (by omega) (by decide)
    (by rw [optimized_subtable_count _ _ (by decide)]; decide) 1 [(0, 5)] 0 (by decide)
    (by rw [ex_store]; decide)).2

example : ∀ o i, (0, o, i) ∈ (buildOptimized 1 [[([], 1)], [([(0, 5)], 0)]]).remap →
    computeDelta ((buildOptimized 1 [[([], 1)], [([(0, 5)], 0)]]).usedRegions.map
        fun r => [[(0, 16384, 16384)]].getD r [])
      (buildOptimized 1 [[([], 1)], [([(0, 5)], 0)]]).subtables o i [8192] =
      .ok (roundAccum (denseSum [[(0, 16384, 16384)]] [8192] (dense (normalizeDeltaSet [(0, 5)]) 1))) :=
  add_then_build_delta 1 [[(0, 16384, 16384)]] rfl [[(0, 5)], [(0, 5)], [(0, 0)]]
    [[([], 1)], [([(0, 5)], 0)]]
    (by rw [ex_store]; decide) (by decide) (by omega) (by decide)
    (by rw [optimized_subtable_count _ _ (by decide)]; decide) 1 [(0, 5)] 0 (by decide)
    (by rw [ex_store]; decide) [8192] (by simp)

end FontVerif.C11
