/-
C16 (Device tables) — the writer `Device::new` (write-fonts/src/tables/layout.rs: format choice from
the delta range, `encode_delta` / `encode_chunk` packing into `u16` words) against the reader
`Device::iter` / `iter_packed_values` (read-fonts/src/tables/layout.rs, transcribed for C01 as
`HandLayout.devIter`; C01's `device_iter_exact` shows that reader never panics).  Model:
Model/LayoutDevice.lean; helper lemmas: Lemmas/LayoutDevice.lean.
-/
import FontVerif.Lemmas.LayoutDevice
namespace FontVerif.C16
open FontVerif.Layout FontVerif.HandLayout

/-- `Device::new` picks the SMALLEST delta format that represents every
delta: 2-bit exactly when all deltas are in −2..=1, 4-bit exactly when all are in −8..=7 but not all
in −2..=1, 8-bit otherwise (an empty list: 2-bit, the default). -/
theorem device_format_minimal (vs : List Int) :
    (chooseFormat vs = 1 ↔ ∀ v ∈ vs, -2 ≤ v ∧ v ≤ 1) ∧
    (chooseFormat vs = 2 ↔ (∀ v ∈ vs, -8 ≤ v ∧ v ≤ 7) ∧ ¬ ∀ v ∈ vs, -2 ≤ v ∧ v ≤ 1) ∧
    (chooseFormat vs = 3 ↔ ¬ ∀ v ∈ vs, -8 ≤ v ∧ v ≤ 7) := by
  have hr := chooseFormat_range vs
  have h1 := chooseFormat_le vs 1 (Nat.le_refl _)
  have h2 := chooseFormat_le vs 2 (by omega)
  have e1 : (∀ v ∈ vs, deltaFormatOf v ≤ 1) ↔ ∀ v ∈ vs, -2 ≤ v ∧ v ≤ 1 :=
    ⟨fun h v hv => (deltaFormatOf_le_one v).mp (h v hv), fun h v hv => (deltaFormatOf_le_one v).mpr (h v hv)⟩
  have e2 : (∀ v ∈ vs, deltaFormatOf v ≤ 2) ↔ ∀ v ∈ vs, -8 ≤ v ∧ v ≤ 7 :=
    ⟨fun h v hv => (deltaFormatOf_le_two v).mp (h v hv), fun h v hv => (deltaFormatOf_le_two v).mpr (h v hv)⟩
  rw [e1] at h1
  rw [e2] at h2
  refine ⟨⟨fun h => h1.mp (by omega), fun h => by have := h1.mpr h; omega⟩,
    ⟨fun h => ⟨h2.mp (by omega), fun hh => by have := h1.mpr hh; omega⟩,
      fun ⟨ha, hb⟩ => by
        have := h2.mpr ha
        have : ¬ chooseFormat vs ≤ 1 := fun hc => hb (h1.mp hc)
        omega⟩,
    ⟨fun h hh => by have := h2.mpr hh; omega, fun h => by
      have : ¬ chooseFormat vs ≤ 2 := fun hc => h (h2.mp hc)
      omega⟩⟩

/-- For EVERY start size and EVERY non-empty list of `i8` deltas (`end_size =
start_size + len − 1`, the `debug_assert` of `Device::new`): decoding the Device table that
`Device::new` writes — format word, deltas masked to the format's width and OR-ed into `u16` words
from the high bits down, the last word padded with zero fields — with `Device::iter` yields EXACTLY
the deltas given, for each of the three formats the choice can make.  (Were the 4-bit range
−8..=8, the delta +8 would be masked to `0b1000` and read back as −8: the statement would be false
for `[8]`.) -/
theorem device_roundtrip (start : Nat) (vs : List Int) (hne : vs ≠ [])
    (hr : ∀ v ∈ vs, -128 ≤ v ∧ v ≤ 127) :
    devIter (deviceNew start (start + vs.length - 1) vs) = .val vs := by
  have hpos : 0 < vs.length := List.length_pos_iff.mpr hne
  obtain ⟨m1, m2, m3⟩ := device_format_minimal vs
  have hrange := chooseFormat_range vs
  unfold devIter deviceNew encodeDelta
  simp only
  have hn : start + vs.length - 1 - start + 1 = vs.length := by omega
  rw [hn]
  rcases (by omega : chooseFormat vs = 1 ∨ chooseFormat vs = 2 ∨ chooseFormat vs = 3) with h | h | h
  · rw [h]
    exact devWords_roundtrip 1 2 (by decide) (by decide) rfl vs.length vs rfl
      (fun v hv => by have := m1.mp h v hv; omega)
  · rw [h]
    exact devWords_roundtrip 2 4 (by decide) (by decide) rfl vs.length vs rfl
      (fun v hv => by have := (m2.mp h).1 v hv; omega)
  · rw [h]
    exact devWords_roundtrip 3 8 (by decide) (by decide) rfl vs.length vs rfl
      (fun v hv => by have := hr v hv; omega)

example : deviceNew 9 12 [7, 3, -8, 0] = ⟨9, 12, 2, [0x7380]⟩ ∧
    devIter (deviceNew 9 12 [7, 3, -8, 0]) = .val [7, 3, -8, 0] := by decide +kernel
/-- +8 needs the 8-bit format (the seeded change packs it into 4 bits: it would read back as −8) -/
example : (deviceNew 9 12 [8, 3, -5, 0]).fmt = 3 ∧
    devIter (deviceNew 9 12 [8, 3, -5, 0]) = .val [8, 3, -5, 0] := by decide +kernel
example : chooseFormat [1, -2, 0] = 1 ∧ chooseFormat [2] = 2 ∧ chooseFormat [-3] = 2 ∧
    chooseFormat [-8, 7] = 2 ∧ chooseFormat [-9] = 3 ∧ chooseFormat [8] = 3 ∧ chooseFormat [] = 1 := by decide
/-- nine 2-bit deltas: two words, the second with one field -/
example : (deviceNew 10 18 [1, -2, 0, -1, 1, 1, 0, -2, -1]).words.length = 2 := by decide +kernel

end FontVerif.C16
