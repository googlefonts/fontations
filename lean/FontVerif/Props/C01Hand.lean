/-
C01 (hand-written code) — the byte-access primitives of read-fonts (`FontData`, `Cursor`) and the
hand-written iterators built on them terminate within a bound given by the input length and never
reach a panic.  Models: Model/HandRead.lean, Model/HandIter.lean ⇄ read-fonts/src/font_data.rs,
tables/varc.rs, tables/postscript/{index,dict,stack,charset,fd_select}.rs, tables/aat.rs; tied to the
real functions by the `hand` part of the C01 harness (`hd.*` driver commands, exhaustive small
buffers for the primitives).  Also here: `ComputedArray::get` and the traversal of computed-size record arrays
(array.rs, traversal.rs), and the per-call budget of the Debug printer (traversal.rs `DebugGuard`).

The cursor facts are the ones the iterators rely on: the position saturates and moves forward even
when a read fails, so *after a failed read the cursor is at or past the end* and `is_empty()` —
`pos >= len`, not `pos == len` — is exactly "nothing more can be read".
-/
import FontVerif.Lemmas.HandIter
namespace FontVerif.C01Hand
open FontVerif.ReadIter FontVerif.HandRead FontVerif.HandIter

/-- **a successful `read_at` lies inside the data** and a failing one means the scalar does not fit:
`read_at::<T>(off)` is `Some` exactly when `off + size ≤ len` (no wrap-around: the sum is `checked`). -/
theorem readAt_some_iff (d : List Nat) (off sz : Nat) :
    (readAt d off sz).isSome = true ↔ off + sz ≤ d.length ∧ off + sz ≤ MAXU := by
  constructor
  · intro h
    obtain ⟨v, hv⟩ := Option.isSome_iff_exists.mp h
    exact ⟨(readAt_eq_some hv).1, (readAt_eq_some hv).2.1⟩
  · intro ⟨h1, h2⟩
    rw [readAt_some d off sz h1 h2]; rfl

/-- **`read_array` hands out only whole elements inside the data**: `Ok(n)` implies
`a ≤ b ≤ len`, `elem ∣ b − a` and `n · elem = b − a`. -/
theorem readArray_ok (d : List Nat) (a b elem n : Nat) (h : readArray d a b elem = .ok n) :
    a ≤ b ∧ b ≤ d.length ∧ elem ≠ 0 ∧ n * elem = b - a :=
  let ⟨h1, h2, h3, h4⟩ := readArray_eq_ok h; ⟨h1, h2, h3, h4.symm⟩

/-- the position never exceeds `usize::MAX`: the saturating model is faithful to the `usize` -/
theorem cursor_pos_le_maxu (d : List Nat) (c : Cur) (op : Op) (h : c.pos ≤ MAXU) :
    (op.run d c).2.pos ≤ MAXU := by
  have hr : ∀ (c : Cur) sz, c.pos ≤ MAXU → (c.read d sz).2.pos ≤ MAXU :=
    fun c sz hc => (read_mono d c sz hc).2
  cases op with
  | read sz => simp only [Op.run]; have := hr c sz h; revert this; cases c.read d sz with | mk a b => cases a <;> simp
  | adv sz => exact satAdd_le _ _
  | advBy n => exact satAdd_le _ _
  | var => simp only [Op.run]; have := (readU32Var_facts d c h).2.1; revert this; cases c.readU32Var d with | mk a b => cases a <;> simp
  | arr elem n =>
    simp only [Op.run]
    have : (c.readArray d n elem).2.pos ≤ MAXU := by
      unfold Cur.readArray
      split
      · exact h
      · split
        · exact h
        · exact satAdd_le _ _
    revert this
    cases c.readArray d n elem with
    | mk a b => cases a with
      | ok k => simp
      | error e => cases e <;> simp

/-- **after a failed read the cursor is empty**: `Cursor::read::<T>()` advances the (saturating)
position even when it returns `Err`, so a failed read leaves `pos ≥ len` — `is_empty()` is `true`
and an `if cursor.is_empty() { return None }` loop stops.  (`len ≤ usize::MAX` always holds.) -/
theorem read_fail_isEmpty (d : List Nat) (c : Cur) (sz : Nat) (hlen : d.length ≤ MAXU) (hp : c.pos ≤ MAXU)
    (h : (c.read d sz).1 = none) : (c.read d sz).2.isEmpty d = true := by
  rcases read_cases d c sz with ⟨c', hc, m⟩ | ⟨v, c', hc, _⟩ <;> rw [hc] at h ⊢
  · simp [Cur.isEmpty, (m hp).2.2 hlen]
  · cases h

/-- the same for the variable-length integer read (`read_u32_var`) -/
theorem readU32Var_fail_isEmpty (d : List Nat) (c : Cur) (hlen : d.length ≤ MAXU)
    (h : (c.readU32Var d).1 = none) : (c.readU32Var d).2.isEmpty d = true := by
  by_cases hp : c.pos ≤ MAXU
  · have := (readU32Var_facts d c hp).2.2.1 h hlen
    simp [Cur.isEmpty, this]
  · -- no real position: the byte read fails and saturation puts the position at `MAXU ≥ len`
    unfold Cur.readU32Var
    have hr : c.read d 1 = (none, ⟨MAXU⟩) := by
      have h1 : ¬ (c.pos + 1 ≤ MAXU) := by omega
      simp [Cur.read, Cur.advanceBy, readAt, checkedAdd, satAdd, h1]
    rw [hr]
    simpa [Cur.isEmpty] using hlen

/-- **`is_empty()` is exactly "no byte can be read"**: it is `true` iff `remaining_bytes() == 0` iff
a one-byte read fails; when it is `false` the next `read::<u8>()` succeeds and the cursor moves by
exactly one byte. -/
theorem isEmpty_iff (d : List Nat) (c : Cur) (hlen : d.length ≤ MAXU) (hp : c.pos ≤ MAXU) :
    (c.isEmpty d = true ↔ c.remainingBytes d = 0) ∧
    (c.isEmpty d = true ↔ (c.read d 1).1 = none) ∧
    (c.isEmpty d = false → (c.read d 1).2.pos = c.pos + 1 ∧ (c.read d 1).2.pos ≤ d.length) := by
  have hsome := readAt_some_iff d c.pos 1
  refine ⟨?_, ?_, ?_⟩
  · simp only [Cur.isEmpty, Cur.remainingBytes, decide_eq_true_eq]; omega
  · simp only [Cur.isEmpty, decide_eq_true_eq]
    show c.pos ≥ d.length ↔ readAt d c.pos 1 = none
    cases hr : readAt d c.pos 1 with
    | none =>
      simp only [hr, Option.isSome_none, Bool.false_eq_true, false_iff] at hsome
      simp only [iff_true]; omega
    | some v =>
      simp only [hr, Option.isSome_some, true_iff] at hsome
      simp; omega
  · intro he
    simp only [Cur.isEmpty, decide_eq_false_iff_not] at he
    have : (c.read d 1).2.pos = c.pos + 1 := satAdd_exact _ _ (by omega)
    omega

/-- `position()`, `remaining()` and `finish()` succeed exactly when `pos ≤ len`, and then agree with
`remaining_bytes()` -/
theorem cursor_bounds_checks (d : List Nat) (c : Cur) :
    ((c.position d).isSome = true ↔ c.pos ≤ d.length) ∧
    ((c.remaining d).isSome = true ↔ c.pos ≤ d.length) ∧
    (c.finish d = true ↔ c.pos ≤ d.length) ∧
    (∀ r, c.remaining d = some r → r = c.remainingBytes d) := by
  simp only [Cur.position, Cur.remaining, Cur.finish, Cur.remainingBytes, splitOff, decide_eq_true_eq]
  refine ⟨?_, ?_, trivial, ?_⟩
  · by_cases h : c.pos ≤ d.length <;> simp [h]
  · by_cases h : c.pos ≤ d.length <;> simp [h]
  · intro r; by_cases h : c.pos ≤ d.length <;> simp [h]; intro h2; omega

/-- **every cursor-driven `while !is_empty()` loop is bounded by the data length**: an iterator whose
`next` is `if cursor.is_empty() { None } else { Some(f(&mut cursor)) }` and whose `f` starts with a
read of at least one byte and never moves the cursor backwards makes at most `len` calls of `f`
(the shape of the kern/kerx/morx subtable iterators; `VarcComponentIter` and `dict::tokens`, whose state is more than a
cursor over fixed data, have theorems of their own below). -/
theorem cursor_loop_bounded (d : List Nat) (f : Cur → Cur)
    (hf : ∀ c : Cur, c.pos < d.length → c.pos < (f c).pos) (c0 : Cur) :
    ∃ evs, run (fun c => if c.isEmpty d then (Out.done, c) else (Out.yield (), f c)) (d.length + 1) c0 = some evs ∧
      evs.length ≤ d.length - c0.pos ∧ trapped evs = false := by
  let step : Cur → Out Unit × Cur := fun c => if c.isEmpty d then (Out.done, c) else (Out.yield (), f c)
  have hdec : ∀ s : Cur, True → (step s).1 ≠ .done → d.length - (step s).2.pos < d.length - s.pos := by
    intro s _ hnd
    simp only [step] at hnd ⊢
    by_cases he : s.isEmpty d = true
    · simp [he] at hnd
    · simp only [he] at hnd ⊢
      simp only [Cur.isEmpty, decide_eq_true_eq] at he
      have := hf s (by omega)
      simp only [Bool.false_eq_true, if_false]
      omega
  have hnt : ∀ s : Cur, True → (step s).1 ≠ .trap := by
    intro s _; simp only [step]; split <;> simp
  exact run_bounded step (fun s => d.length - s.pos) (fun _ => True) (fun s h => ⟨trivial, hnt s h, hdec s h⟩)
    (d.length + 1) c0 trivial (by omega)

/-- **an item handed out by `ComputedArray::get` lies wholly inside the data**: `get(i) = Ok` implies
the item starts at `i · item_len` and `start + item_len ≤ data.len()` (no overflow: `checked_mul`). -/
theorem computedGet_in_bounds (dataLen itemLen idx off : Nat) (h : compGet dataLen itemLen idx = some off) :
    off = idx * itemLen ∧ off + itemLen ≤ dataLen :=
  compGet_eq_some h

/-- for a non-zero item size `get` only answers indices below `len()` … -/
theorem computedGet_lt_len (dataLen itemLen idx off : Nat) (hpos : 0 < itemLen)
    (h : compGet dataLen itemLen idx = some off) : idx < compLen dataLen itemLen := by
  obtain ⟨h1, h2⟩ := computedGet_in_bounds _ _ _ _ h
  subst h1
  unfold compLen
  have hz : itemLen ≠ 0 := by omega
  simp only [hz, if_false]
  have h3 : (idx + 1) * itemLen ≤ dataLen := by rw [Nat.succ_mul]; exact h2
  exact (Nat.le_div_iff_mul_le hpos).mpr h3

/-- … but **zero-sized items are answered at every index** (`len()` is 0: the count is not
recoverable from the byte length), so a loop over `get` must not run "until the first error" -/
theorem computedGet_zero_item (dataLen idx : Nat) : compGet dataLen 0 idx = some 0 := by
  simp [compGet, checkedMul, MAXU]

/-- **the traversal of a computed-size record array is bounded by `len()`**: the array printer and
`SomeArray::iter` (which walk `SomeArray::get` until the first `None`) make at most
`len() ≤ data.len()` trips, for every item size including 0 — `SomeArray::get` returns `None` for
`idx >= len()` whatever `ComputedArray::get` would answer. -/
theorem traverse_computed_array_bounded (dataLen itemLen : Nat) :
    ∃ evs, travTrace dataLen itemLen = some evs ∧ evs.length ≤ compLen dataLen itemLen ∧
      compLen dataLen itemLen ≤ dataLen ∧ trapped evs = false := by
  let L := compLen dataLen itemLen
  have hstep : ∀ s, (travStep dataLen itemLen s).1 ≠ .trap ∧
      ((travStep dataLen itemLen s).1 ≠ .done → L - (travStep dataLen itemLen s).2 < L - s) := by
    intro s
    unfold travStep travGet
    by_cases hge : s ≥ compLen dataLen itemLen
    · rw [if_pos hge]; exact ⟨nofun, fun hnd => absurd rfl hnd⟩
    · rw [if_neg hge]
      cases compGet dataLen itemLen s with
      | none => exact ⟨nofun, fun hnd => absurd rfl hnd⟩
      | some off => exact ⟨nofun, fun _ => by show L - (s + 1) < L - s; omega⟩
  obtain ⟨evs, he, hl, ht⟩ := run_bounded (travStep dataLen itemLen) (fun s => L - s) (fun _ => True)
    (fun s _ => ⟨trivial, hstep s⟩) (L + 1) 0 trivial (by omega)
  -- `compLen` is `computedLen` of Model/ReadIter.lean, transcribed a second time
  exact ⟨evs, he, by simpa using hl, C01Iter.computedLen_le dataLen itemLen, ht⟩

theorem dbgEnter_facts (s : DbgSt) :
    ((dbgEnter s).1 = false → (dbgEnter s).2 = s) ∧
    ((dbgEnter s).1 = true → (dbgEnter s).2.depth = s.depth + 1) := by
  unfold dbgEnter
  simp only []
  generalize (if s.depth = 0 then 0 else s.nodes) = n
  by_cases hc : s.depth ≥ MAX_DEBUG_DEPTH ∨ n ≥ MAX_DEBUG_NODES
  · simp [hc]
  · simp [hc]

mutual
/-- printing a table / array leaves the nesting depth as it found it (guards are balanced, a refused
entry does not touch the state) -/
theorem dbgPrint_depth : ∀ (t : DTree) (s : DbgSt), (dbgPrint s t).1.depth = s.depth
  | .node kids, s => by
    unfold dbgPrint
    have hf := dbgEnter_facts s
    cases he : dbgEnter s with
    | mk ok s' =>
      rw [he] at hf
      dsimp only at hf
      cases ok with
      | false => dsimp only; rw [hf.1 rfl]
      | true =>
        simp only [dbgLeave]
        rw [dbgPrintAll_depth kids s', hf.2 rfl]
        omega
theorem dbgPrintAll_depth : ∀ (ts : List DTree) (s : DbgSt), (dbgPrintAll s ts).1.depth = s.depth
  | [], s => by simp [dbgPrintAll]
  | t :: ts, s => by
    unfold dbgPrintAll
    simp only []
    rw [dbgPrintAll_depth ts, dbgPrint_depth t]
end

/-- a top-level call (`depth == 0`) behaves as on a fresh thread, whatever node count earlier calls left
behind: `enter` discards the stale count -/
theorem dbgPrint_top_level_fresh (t : DTree) (s : DbgSt) (h : s.depth = 0) :
    dbgPrint s t = dbgPrint ⟨0, 0⟩ t := by
  have he : dbgEnter s = dbgEnter ⟨0, 0⟩ := by
    unfold dbgEnter
    simp [h, MAX_DEBUG_DEPTH, MAX_DEBUG_NODES]
  cases t with
  | node kids => unfold dbgPrint; rw [he]

/-- **the printer's budget is reset per top-level call**: after ANY sequence of top-level `{:?}` calls on
a thread (however many nodes they printed, whether or not they ran into the limits) the state at the
start of the next top-level call has depth 0 and the call enters with the initial budget (node count 1
after entering, exactly as on a fresh thread). -/
theorem debug_budget_reset_per_top_level_call (ts : List DTree) (s0 : DbgSt) (h0 : s0.depth = 0) :
    (dbgCalls s0 ts).1.depth = 0 ∧ dbgEnter (dbgCalls s0 ts).1 = (true, ⟨1, 1⟩) := by
  have hd : ∀ (ts : List DTree) (s : DbgSt), s.depth = 0 → (dbgCalls s ts).1.depth = 0 := by
    intro ts
    induction ts with
    | nil => intro s h; simpa [dbgCalls] using h
    | cons t ts ih =>
      intro s h
      unfold dbgCalls
      simp only []
      exact ih _ (by rw [dbgPrint_depth]; exact h)
  have h := hd ts s0 h0
  refine ⟨h, ?_⟩
  unfold dbgEnter
  simp [h, MAX_DEBUG_DEPTH, MAX_DEBUG_NODES]

/-- **the Debug output is a function of the printed table alone** — the same on a later call and on
another thread: every call of a sequence prints what a fresh thread prints. -/
theorem debug_output_pure (ts : List DTree) (s0 : DbgSt) (h0 : s0.depth = 0) :
    (dbgCalls s0 ts).2 = ts.map (fun t => (dbgPrint ⟨0, 0⟩ t).2) := by
  induction ts generalizing s0 with
  | nil => simp [dbgCalls]
  | cons t ts ih =>
    unfold dbgCalls
    simp only [List.map_cons]
    rw [ih _ (by rw [dbgPrint_depth]; exact h0), dbgPrint_top_level_fresh t s0 h0]

/-- **`VarcComponentIter` terminates within one component per byte**: for every glyph record `d`
(any bytes) and every axis-indices table (`ax`), `glyph.components()` yields at most `d.len()` items
(`Ok` or `Err`) and then `None`; the model's fuel `len + 1` always suffices.  Every call of
`VarcComponent::parse` consumes at least the first flag byte, no read moves the cursor backwards, the
jump over the packed axis values lands inside the remaining data, and a truncated record leaves the
cursor past the end, where `is_empty()` (`pos >= len`) holds. -/
theorem varc_components_bounded (ax : Nat → Option Nat) (d : List Nat) (hlen : d.length ≤ MAXU) :
    ∃ evs, varcTrace ax d = some evs ∧ evs.length ≤ d.length ∧ trapped evs = false := by
  obtain ⟨evs, he, hl, ht⟩ := run_bounded (varcStep ax) VSt.rem VInv (varcStep_facts ax) (d.length + 1)
    ⟨d, Cur.init⟩ ⟨hlen, Nat.zero_le _⟩ (by simp [VSt.rem, Cur.init])
  exact ⟨evs, he, by simpa [VSt.rem, Cur.init] using hl, ht⟩

/-- **the jump over the packed axis values always completes**: `DeltaRunIter::end`
(`while self.next().is_some() {}`) stops after at most `count` items — the model's fuel `count + 1`
never runs out, so the `unreachable` branch of `Act.run` is indeed unreachable. -/
theorem deltaIter_end_total (d : List Nat) (n : Nat) : ∃ e, dlEndLoop d (n + 1) (dlInit (some n)) = some e :=
  dlEndLoop_some d (n + 1) (dlInit (some n)) (by simp [dlInit]) (by simp [C01Iter.muDl, dlInit])

/-- **an INDEX object handed out by `get` lies inside the object data**: `Index1/Index2::get(i) = Ok(a..b)` implies
`i < count`, `a ≤ b ≤ data.len()`; the offset size is 1–4. -/
theorem index_get_in_bounds (ix : Idx) (i a b : Nat) (h : idxGet ix i = .ok (a, b)) :
    i < ix.count ∧ a ≤ b ∧ b ≤ ix.data.length ∧ 1 ≤ ix.offSize ∧ ix.offSize ≤ 4 := by
  unfold idxGet at h
  cases h1 : readOffset ix i with
  | error e => simp [h1] at h
  | ok a' =>
    cases h2 : readOffset ix (i + 1) with
    | error e => simp [h1, h2] at h
    | ok b' =>
      simp only [h1, h2] at h
      by_cases hr : a' ≤ b' ∧ b' ≤ ix.data.length
      · simp only [hr, and_self, if_true] at h
        injection h with h
        injection h with ha hb
        subst ha; subst hb
        unfold readOffset at h2
        by_cases hc : i + 1 > ix.count
        · simp [hc] at h2
        · simp only [hc, if_false] at h2
          by_cases ho : 1 ≤ ix.offSize ∧ ix.offSize ≤ 4
          · exact ⟨by omega, hr.1, hr.2, ho.1, ho.2⟩
          · simp [ho] at h2
      · simp [hr] at h

/-- **`Blues::new` never indexes outside its 7-pair array**: whatever number `n` of values the
operand stack offers (0 … 513), the loop over `values.take(14).enumerate()` writes only pairs
`0..7` and returns `len = min(n, 14) / 2`. -/
theorem blues_new_safe (n : Nat) : bluesNew n = some (min n 14 / 2) := bluesNew_eq n

/-- **`dict::entries` terminates within one trip per byte and never panics**: for every DICT byte
string the closure's `loop` makes at most `len` trips in total (every token consumes at least one
byte; tokens end when `remaining_bytes() == 0`), the operand stack index stays within its 513 slots
(`top ≤ 513` is an invariant: `push` refuses at `top == MAX_STACK`), and `Blues::new` /
`StemSnaps::new` stay inside their fixed arrays whatever the operand count. -/
theorem dict_entries_bounded (d : List Nat) (hlen : d.length ≤ MAXU) :
    ∃ evs, dictTrace d = some evs ∧ evs.length ≤ d.length ∧ trapped evs = false := by
  obtain ⟨evs, he, hl, ht⟩ := run_bounded (dictStep d) (fun s => s.c.remainingBytes d) DInv
    (dictStep_facts d hlen) (d.length + 1) ⟨Cur.init, Stack.new⟩ dinv_init (by simp [Cur.remainingBytes, Cur.init])
  exact ⟨evs, he, by simpa [Cur.remainingBytes, Cur.init] using hl, ht⟩

/-- **`Charset::iter` terminates within `num_glyphs` items** for custom charsets of every format:
each `Some` advances the glyph id, which is checked against `num_glyphs` first (and the inner
`while gid >= self.end` loop consumes one range per trip). -/
theorem charset_iter_bounded (k : CharsetK) (numGlyphs : Nat) :
    ∃ evs, charsetTrace k numGlyphs = some evs ∧ evs.length ≤ numGlyphs ∧ trapped evs = false := by
  cases k with
  | f0 sids =>
    obtain ⟨evs, he, hl, ht⟩ := run_bounded (simpleNext sids numGlyphs) (fun c => numGlyphs - c) (fun _ => True)
      (fun s _ => ⟨trivial, simpleNext_facts sids numGlyphs s⟩) (numGlyphs + 1) 0 trivial (by omega)
    exact ⟨evs, he, by simpa using hl, ht⟩
  | ranges rs =>
    have h0 : (rangeInit rs).gid = 0 := by unfold rangeInit; split <;> rfl
    obtain ⟨evs, he, hl, ht⟩ := run_bounded (rangeNext numGlyphs) (fun s => numGlyphs - s.gid) (fun _ => True)
      (fun s _ => ⟨trivial, rangeNext_facts numGlyphs s⟩) (numGlyphs + 1) (rangeInit rs) trivial (by omega)
    exact ⟨evs, he, by omega, ht⟩

/-- **the index both branches of the binary search produce is in range**: for a non-empty key array
`match search { Ok(i) => i, Err(k) => k.saturating_sub(1) }` is a valid index, so `ranges.get(ix)`
is `Some` and nothing is indexed out of bounds. -/
theorem lastLe_lt (keys : List Nat) (g : Nat) (h : keys ≠ []) : lastLe keys g < keys.length := by
  unfold lastLe
  have h1 : (keys.filter (· ≤ g)).length ≤ keys.length := List.length_filter_le _ _
  have h2 : 0 < keys.length := List.length_pos_iff.mpr h
  omega

/-- `FdSelect::font_index` (formats 3 and 4) answers for every glyph id when there is at least one
range, and never when there is none -/
theorem fdSelect_total (rs : List (Nat × Nat)) (g : Nat) :
    (fdSelectRanges rs g).isSome = !rs.isEmpty := by
  unfold fdSelectRanges
  cases rs with
  | nil => simp
  | cons r rest =>
    have := lastLe_lt ((r :: rest).map (·.1)) g (by simp)
    rw [List.length_map] at this
    rw [List.getElem?_eq_getElem this]
    simp

/-- an AAT format 2 lookup (`lookup2`) only returns a value for a glyph inside the chosen segment -/
theorem lookup2_in_segment (segs : List (Nat × Nat × Nat)) (g v : Nat) (h : lookup2 segs g = some v) :
    ∃ s ∈ segs, s.2.1 ≤ g ∧ g ≤ s.1 ∧ s.2.2 = v := by
  unfold lookup2 at h
  cases hs : segs[lastLe (segs.map (·.2.1)) g]? with
  | none => simp [hs] at h
  | some s =>
    obtain ⟨last, first, val⟩ := s
    simp only [hs] at h
    by_cases hc : first ≤ g ∧ g ≤ last
    · simp only [hc, and_self, if_true] at h
      injection h with h
      exact ⟨(last, first, val), List.mem_of_getElem? hs, hc.1, hc.2, h⟩
    · simp [hc] at h

/-- an AAT format 10 lookup (`lookup10`) never reads in front of its value array (`checked_sub`) and reads
exactly `unit_size ∈ {1, 2, 4}` bytes inside it -/
theorem lookup10_in_bounds (first unitSize : Nat) (vals : List Nat) (g v : Nat)
    (h : lookup10 first unitSize vals g = some v) :
    first ≤ g ∧ (unitSize = 1 ∨ unitSize = 2 ∨ unitSize = 4) ∧ (g - first) * unitSize + unitSize ≤ vals.length := by
  unfold lookup10 at h
  by_cases h1 : g < first
  · simp [h1] at h
  · simp only [h1, if_false] at h
    by_cases h2 : unitSize = 1 ∨ unitSize = 2 ∨ unitSize = 4
    · simp only [h2, if_true] at h
      have := (readAt_some_iff vals ((g - first) * unitSize) unitSize).mp (by simp [h])
      exact ⟨by omega, h2, this.1⟩
    · simp [h2] at h

/-- flags = 0 (16-bit gid), then a second component truncated inside its gid: `Ok`, `Err`, end -/
example : (varcTrace (fun _ => none) [0, 0, 5, 0, 1]).map items = some [true, false] := by decide +kernel

/-- the seeded shape: 2 bytes `00 01` — one `Err`, then `None` (not an endless stream of `Err`) -/
example : (varcTrace (fun _ => none) [0, 1]).map items = some [false] := by decide +kernel

/-- HAVE_AXES with a 2-value axis list: flags 2, gid, index 0, packed deltas `01 05 06` -/
example : (varcTrace (fun i => if i = 0 then some 2 else none) [2, 0, 7, 0, 1, 5, 6]).map items = some [true] := by
  decide +kernel

example : bluesNew 16 = some 7 := by decide

/-- 16 operands in front of BlueValues (the seeded shape): 7 pairs, no panic -/
example : (dictTrace (List.replicate 16 139 ++ [6])).map items = some [ER.ok "BlueValues:7"] := by decide +kernel

example : (dictTrace [139, 140, 18]).map items = some [ER.ok "PrivateDictRange:1:1"] := by decide +kernel

example : (charsetTrace (.ranges [(10, 2), (40, 0)]) 100).map items =
    some [(0, 0), (1, 10), (2, 11), (3, 12), (4, 40)] := by decide +kernel

example : fdSelectRanges [(0, 7), (10, 8)] 9 = some 7 := by decide
example : fdSelectRanges [(5, 7), (10, 8)] 3 = some 7 := by decide
example : lookup2 [(9, 5, 77)] 7 = some 77 := by decide

example : compGet 7 2 2 = some 4 ∧ compGet 7 2 3 = none ∧ compGet 7 0 100000 = some 0 := by decide
example : (travTrace 7 2).map items = some [0, 2, 4] ∧ (travTrace 7 0).map items = some [] := by decide

/-- a table with two children, printed after a call that left 2^20 nodes behind: printed in full -/
example : (dbgPrint ⟨0, 1048576⟩ (.node [.node [], .node []])).2 = [true, true, true] := by decide

/-- the hypothesis of `cursor_loop_bounded` is satisfiable: a one-byte read -/
example (d : List Nat) (hlen : d.length ≤ MAXU) : ∀ c : Cur, c.pos < d.length → c.pos < (c.read d 1).2.pos := by
  intro c h
  simp only [Cur.read, Cur.advanceBy, satAdd]
  split <;> omega

end FontVerif.C01Hand
