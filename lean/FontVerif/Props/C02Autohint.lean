/-
C02 — skrifa is total on hostile fonts: the other hand-written cyclic scan loops of the autohinter terminate.

Companion of Props/C02Blues.lean.  The models are regenerated from the Rust on every `./check C02` by
`translate/c02_autohint_loops.py` (Gen/AutohintLoops.lean, see its header for what is exact / oracle / dropped):

  * `dirsStep`, `dirsInterStep` — `Outline::compute_directions` (autohint/outline.rs): the `loop` that accumulates
    deltas around a contour until `next_ix` is back at `first_ix` — like the long-blue scan a port of a C `do … while`
    with a `continue`, which needs its own copy of the exit test — and its nested `while inter_ix != next_ix`;
  * `segStartStep` — `build_segments` (autohint/topo/segments.rs): the backward walk to the start of the edge a
    contour begins on;
  * `edgePtsStep` — `align_edge_points` (autohint/hint/outline.rs): the walk over the points of a segment along
    `Point::next` links, from `segment.first()` to `segment.last()`.

The other generated skeletons of that file (`dirsBackStep`, `segMainStep`, `weakStep` with its two nested loops,
`insertEdgeStep`, glyf `deltaFirstStep` / `deltaNextStep`, `widthsStep`) and the hand-written loops of Model/LoopIter.lean
(`bsearch`, the CFF `charsetSeek`, `consumeLoop` for `parse_bcd` and the DICT `entries` iterator) terminate here as well.

Indices are offsets from `contour.first()`; `n` is the number of points of the contour; the entry invariants are the
hypotheses (both indices inside the contour).  For `edgePtsStep` the link function is arbitrary and the ring invariant
`lnk i = cnext n i` — what `Outline::link_points` establishes: `next_ix = ix + 1`, the last point of a contour links to
the first — is an explicit hypothesis.  All theorems hold for every oracle `o` and havoc `h`.
-/
import FontVerif.Gen.AutohintLoops
import FontVerif.Lemmas.LoopIter
namespace FontVerif.C02
open FontVerif.LoopIter FontVerif.LoopIterLemmas FontVerif.Gen.AutohintLoops

/-! In the step theorems a path that continued without the exit test, or without moving the index, would leave a
false arithmetic goal. -/

/-- the nested `while inter_ix != next_ix { …; inter_ix = contour.next(inter_ix) }` continues only from
`inter_ix ≠ next_ix`, with `inter_ix` advanced cyclically: one step nearer to `next_ix` -/
theorem dirs_inter_step_advances (o : Nat → Nat → Bool) (h : Nat → Nat → Nat) (s : St)
    (hl : s.last < s.n) (hf : s.segFirst < s.n) :
    ScanOK (fun s => cdist s.n s.last s.segFirst) 1 s (dirsInterStep o h s) := by
  have hc := cnext_lt s.n s.last (by omega)
  have hd := cdist_cnext s.n s.last s.segFirst hl hf
  unfold dirsInterStep
  simp only []
  repeat' (apply ite_elim <;> intro _)
  all_goals simp only [ScanOK, true_and] <;> omega

/-- **compute_directions, nested while**: exits within `n` body executions -/
theorem dirs_inter_loop_terminates (o : Nat → Nat → Bool) (h : Nat → Nat → Nat) (s : St)
    (hl : s.last < s.n) (hf : s.segFirst < s.n) :
    ∃ s', iter (dirsInterStep o h) (s.n + 1) s = some s' ∧ s'.n = s.n ∧ s.tick < s'.tick ∧ s'.tick ≤ s.tick + s.n := by
  obtain ⟨s', h1, h2, -, h4, h5⟩ := iter_scan_contour 1 _ _ s
    (fun t _ => dirs_inter_step_advances o h t) hl hf (cdist_lt _ _ _ hl hf)
  exact ⟨s', h1, h2, h4, by omega⟩

/-- every `continue` / end of body of the outer loop of compute_directions is reached with `next_ix` advanced
cyclically and `next_ix ≠ first_ix`, and the nested `while` never leaves it stuck — whatever index `ix` holds -/
theorem dirs_step_advances (o : Nat → Nat → Bool) (h : Nat → Nat → Nat) (N : Nat) :
    Advances N (N + 1) (dirsStep o h) := by
  refine advances_of fun s hN hl hf => ?_
  have hnx := next_eq s
  have hlt := fun i => cnext_lt s.n i (Nat.zero_lt_of_lt hl)
  have hc := hlt s.last
  -- the nested `while` returns from the state in which the body starts it, so its `none` arm is dead
  obtain ⟨r, hr, -, hr0, hr1⟩ := dirs_inter_loop_terminates o h
    ⟨cnext s.n (h 0 (s.tick + 1)), cnext s.n s.last, s.n, s.tick + 1⟩ (hlt _) (hlt _)
  dsimp only at hr hr0 hr1
  unfold dirsStep
  simp only [hr]
  repeat' (apply ite_elim <;> intro _)
  all_goals simp only [AdvOK, true_and] <;> omega

/-- **compute_directions terminates**: for every oracle / havoc and every contour of `n` points with `next_ix`,
`first_ix` inside it, the loop exits within `n + 1` body executions and at most `(n + 1) * (n + 2)` loop-body entries
(its own plus those of the nested `while`), never stuck. -/
theorem autohint_compute_directions_terminates (o : Nat → Nat → Bool) (h : Nat → Nat → Nat) (s : St)
    (hl : s.last < s.n) (hf : s.segFirst < s.n) :
    ∃ s', iter (dirsStep o h) (s.n + 1) s = some s' ∧ s.tick < s'.tick ∧
      s'.tick ≤ s.tick + (s.n + 1) * (s.n + 2) := by
  obtain ⟨s', h1, _, _, h4, h5⟩ :=
    iter_advances s.n (s.n + 1) (dirsStep o h) (dirs_step_advances o h s.n) s rfl hl hf
  have : s.n * (s.n + 1) ≤ (s.n + 1) * (s.n + 2) := Nat.mul_le_mul (by omega) (by omega)
  exact ⟨s', h1, h4, by omega⟩

/-- every end of body is reached with `point_ix` moved back cyclically and `point_ix ≠ last_ix`: the measure is the
distance from `last_ix` to the PREVIOUS position -/
theorem seg_start_step_retreats (o : Nat → Nat → Bool) (h : Nat → Nat → Nat) (s : St)
    (hl : s.last < s.n) (hf : s.segFirst < s.n) :
    ScanOK (fun s => cdist s.n s.segFirst (cprev s.n s.last)) 1 s (segStartStep o h s) := by
  have hp := cprev_lt s.n s.last hl
  have hc := cnext_lt s.n (cprev s.n s.last) (by omega)
  have hd := cdist_cprev s.n (cprev s.n s.last) s.segFirst hp hf
  unfold segStartStep
  simp only []
  repeat' (apply ite_elim <;> intro _)
  all_goals simp only [ScanOK, true_and] <;> omega

/-- **build_segments start search terminates** within `n` body executions -/
theorem autohint_segment_start_search_terminates (o : Nat → Nat → Bool) (h : Nat → Nat → Nat) (s : St)
    (hl : s.last < s.n) (hf : s.segFirst < s.n) :
    ∃ s', iter (segStartStep o h) (s.n + 1) s = some s' ∧ s.tick < s'.tick ∧ s'.tick ≤ s.tick + s.n := by
  obtain ⟨s', h1, -, -, h4, h5⟩ := iter_scan_contour 1 _ _ s
    (fun t _ => seg_start_step_retreats o h t) hl hf (cdist_lt _ _ _ hf (cprev_lt _ _ hl))
  exact ⟨s', h1, h4, by omega⟩

/-- under the ring invariant the body continues only from `point_ix ≠ last_ix`, with `point_ix` advanced -/
theorem edge_pts_step_advances (o : Nat → Nat → Bool) (h : Nat → Nat → Nat) (lnk : Nat → Nat) (s : St)
    (hring : ∀ i, i < s.n → lnk i = cnext s.n i) (hl : s.last < s.n) (hf : s.segFirst < s.n) :
    ScanOK (fun s => cdist s.n s.last s.segFirst) 1 s (edgePtsStep o h lnk s) := by
  have hc := cnext_lt s.n s.last (by omega)
  have hd := cdist_cnext s.n s.last s.segFirst hl hf
  unfold edgePtsStep
  simp only [hring s.last hl]
  repeat' (apply ite_elim <;> intro _)
  all_goals simp only [ScanOK, true_and] <;> omega

/-- **align_edge_points terminates** within `n` body executions, PROVIDED the `next` links of the contour's points
are the cyclic successor (`Outline::link_points`) and `segment.first()`, `segment.last()` lie in one contour. -/
theorem autohint_align_edge_points_terminates (o : Nat → Nat → Bool) (h : Nat → Nat → Nat) (lnk : Nat → Nat) (s : St)
    (hring : ∀ i, i < s.n → lnk i = cnext s.n i) (hl : s.last < s.n) (hf : s.segFirst < s.n) :
    ∃ s', iter (edgePtsStep o h lnk) (s.n + 1) s = some s' ∧ s.tick < s'.tick ∧ s'.tick ≤ s.tick + s.n := by
  obtain ⟨s', h1, -, -, h4, h5⟩ := iter_scan_contour 1 _ _ s
    (fun t ht => edge_pts_step_advances o h lnk t (ht ▸ hring)) hl hf (cdist_lt _ _ _ hl hf)
  exact ⟨s', h1, h4, by omega⟩

/-- the `while prev_ix != first_ix` body continues only from `prev_ix ≠ first_ix`, with `prev_ix` moved back -/
theorem dirs_back_step_retreats (o : Nat → Nat → Bool) (h : Nat → Nat → Nat) (s : St)
    (hl : s.last < s.n) (hf : s.segFirst < s.n) :
    ScanOK (fun s => cdist s.n s.segFirst s.last) 1 s (dirsBackStep o h s) := by
  have hp := cprev_lt s.n s.last hl
  have hd := cdist_cprev s.n s.last s.segFirst hl hf
  unfold dirsBackStep
  simp only []
  repeat' (apply ite_elim <;> intro _)
  all_goals simp only [ScanOK, true_and] <;> omega

/-- **compute_directions, backward walk terminates** within `n` body executions -/
theorem autohint_compute_directions_backward_walk_terminates (o : Nat → Nat → Bool) (h : Nat → Nat → Nat) (s : St)
    (hl : s.last < s.n) (hf : s.segFirst < s.n) :
    ∃ s', iter (dirsBackStep o h) (s.n + 1) s = some s' ∧ s.tick < s'.tick ∧ s'.tick ≤ s.tick + s.n := by
  obtain ⟨s', h1, -, -, h4, h5⟩ := iter_scan_contour 1 _ _ s
    (fun t _ => dirs_back_step_retreats o h t) hl hf (cdist_lt _ _ _ hf hl)
  exact ⟨s', h1, h4, by omega⟩

/-- one body execution of the main loop either leaves (second visit of `last_ix`, or the `> 1000 segments` return) or
continues, indices in range, with a smaller measure: every path to the end of the body advances `point_ix`, and
`passed` is set at the first visit of `last_ix` -/
theorem seg_main_step_decreases (o : Nat → Nat → Bool) (h : Nat → Nat → Nat) (s : StF)
    (hl : s.last < s.n) (hf : s.segFirst < s.n) :
    StepG (fun s : StF => s.last < s.n ∧ s.segFirst < s.n) segMainMeasure (fun _ _ => True) (fun _ => True)
      (fun _ => False) s (segMainStep o h s) := by
  have hc := cnext_lt s.n s.last (by omega)
  have hd := cdist_cnext s.n s.last s.segFirst hl hf
  have hlt := cdist_lt s.n (cnext s.n s.last) s.segFirst hc hf
  unfold segMainStep
  -- with `passed` known, the test on it and the first summand of the measure are decided
  cases hfl : s.flag
  all_goals
    simp only [Bool.false_eq_true, if_false, if_true]
    repeat' (apply ite_elim <;> intro _)
    all_goals simp only [StepG, segMainMeasure, hfl, Bool.false_eq_true, if_false, if_true, true_and, and_true] <;> omega

/-- **build_segments main loop terminates**: for every oracle, from any state with both indices inside the contour,
within `measure + 1 ≤ 2 n` body executions … -/
theorem autohint_build_segments_main_loop_terminates (o : Nat → Nat → Bool) (h : Nat → Nat → Nat) (s : StF)
    (hl : s.last < s.n) (hf : s.segFirst < s.n) :
    ∃ s', iterG (segMainStep o h) (segMainMeasure s + 1) s = some (false, s') :=
  let ⟨s', h1, _⟩ := iterG_measure_brk (segMainStep o h) (fun s => s.last < s.n ∧ s.segFirst < s.n)
    segMainMeasure (fun _ _ => True) (fun _ _ _ _ _ => trivial)
    (fun s hI => seg_main_step_decreases o h s hI.1 hI.2) (segMainMeasure s + 1) s ⟨hl, hf⟩ (Nat.lt_succ_self _)
  ⟨s', h1⟩

/-- … and from the state in which the Rust enters it (`last_ix = point_ix`, `passed = false`) within `n + 1` -/
theorem autohint_build_segments_main_loop_entry_bound (o : Nat → Nat → Bool) (h : Nat → Nat → Nat) (s : StF)
    (hl : s.last < s.n) (he : s.segFirst = s.last) (hp : s.flag = false) :
    ∃ s', iterG (segMainStep o h) (s.n + 1) s = some (false, s') := by
  have hm : segMainMeasure s = s.n := by
    unfold segMainMeasure cdist; simp [hp, he]
  have := autohint_build_segments_main_loop_terminates o h s hl (by omega)
  rwa [hm] at this

/-- nested `while point_ix < last_ix && …touched…`: exits within `last_ix - point_ix + 1` executions; `point_ix` only grows -/
theorem weak_skip_loop_terminates (o : Nat → Nat → Bool) (h : Nat → Nat → Nat) (s : St) :
    ∃ e s', iterG (weakSkipStep o h) (s.segFirst + 2) s = some (e, s') ∧ Grows s s' := by
  obtain ⟨e, s', h1, h2, _⟩ := iterG_measure (weakSkipStep o h) (fun _ => True) (fun s => s.segFirst - s.last) Grows
    (fun _ => True) (fun _ => True) grows_trans (by
      intro s _
      unfold weakSkipStep
      simp only []
      repeat' (apply ite_elim <;> intro _)
      all_goals simp only [StepG, Grows, true_and, and_true] <;> omega)
    (s.segFirst + 2) s trivial (by omega)
  exact ⟨e, s', h1, h2⟩

/-- nested `loop` "find the next touched point": exits within `last_ix + 2 - point_ix` executions, by `break` only with
`point_ix ≤ last_ix`, otherwise by `break 'outer` -/
theorem weak_find_loop_terminates (o : Nat → Nat → Bool) (h : Nat → Nat → Nat) (s : St) :
    ∃ e s', iterG (weakFindStep o h) (s.segFirst + 2) s = some (e, s') ∧ Grows s s' ∧
      (e = false → s'.last ≤ s.segFirst) := by
  obtain ⟨e, s', h1, h2, h3⟩ := iterG_measure (weakFindStep o h) (fun _ => True) (fun s => s.segFirst + 1 - s.last) Grows
    (fun s' => s'.last ≤ s'.segFirst) (fun _ => True) grows_trans (by
      intro s _
      unfold weakFindStep
      simp only []
      repeat' (apply ite_elim <;> intro _)
      all_goals simp only [StepG, Grows, true_and, and_true] <;> omega)
    (s.segFirst + 2) s trivial (by omega)
  refine ⟨e, s', h1, h2, ?_⟩
  intro he; subst he
  have := h2.1
  simp at h3; omega

/-- **align_weak_points terminates**: for every oracle and every `point_ix`, `last_ix`, the `'outer` loop exits within
`last_ix + 2` executions of its body (each of which increments `point_ix`), and neither nested loop runs out of its
fuel `last_ix + 2`; `point_ix` never decreases; and the checked `point_ix - 1` of the `iup_interpolate` call never traps
(`iterG` would return `none`). -/
theorem autohint_align_weak_points_terminates (o : Nat → Nat → Bool) (h : Nat → Nat → Nat) (s : St) :
    ∃ s', iterG (weakStep o h) (s.segFirst + 2) s = some (false, s') ∧ s'.segFirst = s.segFirst ∧ s.last ≤ s'.last :=
  iterG_measure_brk (weakStep o h) (fun _ => True) (fun s => s.segFirst + 1 - s.last)
    (fun a b => b.segFirst = a.segFirst ∧ a.last ≤ b.last) (by intro a b c h1 h2; omega) (by
      intro s _
      obtain ⟨e1, r1, hr1, hg1⟩ := weak_skip_loop_terminates o h ⟨s.last, s.segFirst, s.n, s.tick + 1⟩
      obtain ⟨e2, r2, hr2, hg2, hb2⟩ := weak_find_loop_terminates o h ⟨r1.last + 1, s.segFirst, s.n, r1.tick⟩
      unfold Grows at hg1 hg2
      dsimp only at hr1 hg1 hr2 hg2 hb2
      unfold weakStep
      simp only [hr1]
      cases e1
      · simp only [hr2]
        cases e2
        · -- the `.trap` path of `point_ix - 1`: `point_ix` has been incremented before
          have hb2 := hb2 rfl
          simp only []
          split
          all_goals simp only [StepG, true_and] <;> omega
        · simp only [StepG, true_and, and_true]; omega
      · simp only [StepG, true_and, and_true]; omega)
    (s.segFirst + 2) s trivial (by omega)

/-- **insert_edge terminates**: `while ix > 0 { …; ix -= 1 }` exits within `ix + 1` body executions for every oracle,
and neither `ix - 1` (the `prev_ix`) nor `ix -= 1` underflows (a `.trap` would make `iterG` return `none`) -/
theorem autohint_insert_edge_terminates (o : Nat → Nat → Bool) (h : Nat → Nat → Nat) (s : St) :
    ∃ s', iterG (insertEdgeStep o h) (s.last + 1) s = some (false, s') ∧ s'.last ≤ s.last :=
  iterG_measure_brk (insertEdgeStep o h) (fun _ => True) (fun s => s.last)
    (fun a b => b.last ≤ a.last) (by intro a b c h1 h2; omega) (by
      intro s _
      unfold insertEdgeStep
      simp only []
      repeat' (apply ite_elim <;> intro _)
      all_goals simp only [StepG, true_and, and_true] <;> omega)
    (s.last + 1) s trivial (Nat.lt_succ_self _)

/-- **The edge binary search terminates** for every comparison oracle: `mid = (min + max) >> 1` satisfies
`min ≤ mid < max`, so `max = mid` and `min = mid + 1` both shrink `max - min`; it exits within `max - min + 1`
iterations (the real bound is logarithmic). -/
theorem autohint_align_strong_points_bsearch_terminates (cmp : Nat → Nat → Ordering) :
    ∀ (fuel tick mn mx : Nat), mx - mn < fuel → ∃ r, bsearch cmp fuel tick mn mx = some r := by
  intro fuel
  induction fuel with
  | zero => intro _ _ _ h; omega
  | succ f ih =>
    intro tick mn mx hf
    unfold bsearch
    by_cases hlt : mn < mx
    · simp only [hlt, if_true]
      have hmid : mn ≤ (mn + mx) >>> 1 ∧ (mn + mx) >>> 1 < mx := by
        rw [Nat.shiftRight_eq_div_pow]; omega
      cases cmp ((mn + mx) >>> 1) tick with
      | lt => exact ih _ _ _ (by omega)
      | gt => exact ih _ _ _ (by omega)
      | eq => exact ⟨_, rfl⟩
    · simp [hlt]

example : bsearch (fun mid _ => compare 5 mid) 9 0 0 8 = some (true, 5) := by decide
example : bsearch (fun _ _ => .gt) 9 0 0 8 = some (false, 8) := by decide
example : bsearch (fun _ _ => .lt) 2 0 0 8 = none := by decide

/-- **interpolate_deltas, search for the first delta**: `while point_ix <= end_point_ix && …` exits within
`end_point_ix + 2 - point_ix` body executions for every flag oracle (or returns through `?`) -/
theorem glyf_interpolate_deltas_first_search_terminates (o : Nat → Nat → Bool) (h : Nat → Nat → Nat) (s : St) :
    ∃ s', iterG (deltaFirstStep o h) (s.segFirst + 2) s = some (false, s') ∧ s.last ≤ s'.last := by
  obtain ⟨s', h1, h2⟩ := iterG_measure_brk (deltaFirstStep o h) (fun _ => True) (fun s => s.segFirst + 1 - s.last)
    Grows grows_trans (by
      intro s _
      unfold deltaFirstStep
      simp only []
      repeat' (apply ite_elim <;> intro _)
      all_goals simp only [StepG, Grows, true_and, and_true] <;> omega)
    (s.segFirst + 2) s trivial (by omega)
  exact ⟨s', h1, h2.2.1⟩

/-- **interpolate_deltas, walk to the end of the contour**: entered after `point_ix += 1` (so `1 ≤ point_ix`), exits
within `end_point_ix + 2 - point_ix` body executions, and the checked `point_ix - 1` of the interpolation range
never underflows -/
theorem glyf_interpolate_deltas_next_search_terminates (o : Nat → Nat → Bool) (h : Nat → Nat → Nat) (s : St) (hp : 1 ≤ s.last) :
    ∃ s', iterG (deltaNextStep o h) (s.segFirst + 2) s = some (false, s') ∧ s.last ≤ s'.last := by
  obtain ⟨s', h1, h2⟩ := iterG_measure_brk (deltaNextStep o h) (fun s => 1 ≤ s.last) (fun s => s.segFirst + 1 - s.last)
    Grows grows_trans (by
      intro s hI
      unfold deltaNextStep
      simp only []
      repeat' (apply ite_elim <;> intro _)
      all_goals simp only [StepG, Grows, true_and, and_true] <;> omega)
    (s.segFirst + 2) s hp (by omega)
  exact ⟨s', h1, h2.2.1⟩

/-- **sort_and_quantize_widths**: `while ix < table.len()` with `ix` advanced by 1 or 2 on every path exits within
`table.len() - ix + 1` body executions -/
theorem autohint_sort_and_quantize_widths_terminates (o : Nat → Nat → Bool) (h : Nat → Nat → Nat) (s : St) :
    ∃ s', iterG (widthsStep o h) (s.segFirst + 1) s = some (false, s') ∧ s.last ≤ s'.last := by
  obtain ⟨s', h1, h2⟩ := iterG_measure_brk (widthsStep o h) (fun _ => True) (fun s => s.segFirst - s.last)
    Grows grows_trans (by
      intro s _
      unfold widthsStep
      simp only []
      repeat' (apply ite_elim <;> intro _)
      all_goals simp only [StepG, Grows, true_and, and_true] <;> omega)
    (s.segFirst + 1) s trivial (by omega)
  exact ⟨s', h1, h2.2.1⟩

/-- **The range-seeking loop of the charset iterator terminates** within (remaining ranges + 1) body entries, for
every gid and every range table — each turn takes one element off the slice iterator (also a range that does not
move `end` past `gid`), and an exhausted iterator or an overflowing `end` returns through `?` -/
theorem cff_charset_range_seek_terminates (gid : Nat) : ∀ (rs : List (Nat × Nat)) (e t : Nat),
    (charsetSeek gid rs e t).1 ≤ t + rs.length + 1 := by
  intro rs
  induction rs with
  | nil => intro e t; unfold charsetSeek; split <;> simp
  | cons r rest ih =>
    intro e t
    obtain ⟨f, len⟩ := r
    unfold charsetSeek
    split
    · split
      · simp <;> omega
      · have := ih (e + len) (t + 1); simp at this ⊢; omega
    · simp <;> omega

example : charsetSeek 10 [(5, 3), (9, 1), (20, 40)] 2 0 = (3, false) := by decide
example : charsetSeek 10 [(5, 3)] 2 0 = (2, true) := by decide

/-- a one-item-per-turn consumer loop runs at most (items left + 1) turns and never lengthens its source -/
theorem consume_loop_terminates {α : Type} (stop : α → Bool) : ∀ (l : List α) (t : Nat),
    (consumeLoop stop l t).1 ≤ t + l.length + 1 ∧ (consumeLoop stop l t).2.length ≤ l.length := by
  intro l
  induction l with
  | nil => intro t; simp [consumeLoop]
  | cons a rest ih =>
    intro t
    unfold consumeLoop
    split
    · simp <;> omega
    · have := ih (t + 1); simp at this ⊢; omega

/-- **`parse_bcd` terminates** within (remaining bytes of the cursor + 1) turns of its `'outer: loop`, whatever the
nibbles are -/
theorem cff_parse_bcd_terminates (stop : Nat → Bool) (bytes : List Nat) :
    (consumeLoop stop bytes 0).1 ≤ bytes.length + 1 := by
  have := (consume_loop_terminates stop bytes 0).1; omega

/-- **one `next()` of the DICT `entries` iterator terminates** within (remaining tokens + 1) turns of its `loop`, and
leaves no more tokens than it found -/
theorem cff_dict_entries_next_terminates {Tok : Type} (stop : Tok → Bool) (tokens : List Tok) :
    (consumeLoop stop tokens 0).1 ≤ tokens.length + 1 ∧ (consumeLoop stop tokens 0).2.length ≤ tokens.length := by
  have := consume_loop_terminates stop tokens 0; omega

example : consumeLoop (fun b => b % 16 == 15 || b / 16 == 15) [0x12, 0x34, 0x5f, 0x99] 0 = (3, [0x99]) := by decide
example : consumeLoop (fun _ : Nat => false) [1, 2, 3] 0 = (4, []) := by decide

/-! ### From the entry states of the Rust

Indices are offsets from `contour.first()`, so `contour.first()` is 0 and a contour (`first_ix ..= last_ix`) has
`n ≥ 1` points.  translate/c02_autohint_loops.py checks the statements that set up each loop (table `ENTRY`). -/

/-- compute_directions, backward walk: entered with `first_ix = contour.first()`, `prev_ix = contour.prev(first_ix)` -/
theorem autohint_compute_directions_backward_walk_terminates_from_entry (o : Nat → Nat → Bool) (h : Nat → Nat → Nat)
    (n tick : Nat) (hn : 0 < n) :
    ∃ s', iter (dirsBackStep o h) (n + 1) ⟨cprev n 0, 0, n, tick⟩ = some s' :=
  let ⟨s', h1, _⟩ := autohint_compute_directions_backward_walk_terminates o h ⟨cprev n 0, 0, n, tick⟩
    (cprev_lt n 0 hn) hn
  ⟨s', h1⟩

/-- compute_directions: entered with `next_ix = first_ix`, where `first_ix` is `contour.first()` or one of the values
`prev_ix` took in the backward walk — in any case a point of the contour -/
theorem autohint_compute_directions_terminates_from_entry (o : Nat → Nat → Bool) (h : Nat → Nat → Nat)
    (n firstIx tick : Nat) (hf : firstIx < n) :
    ∃ s', iter (dirsStep o h) (n + 1) ⟨firstIx, firstIx, n, tick⟩ = some s' :=
  let ⟨s', h1, _⟩ := autohint_compute_directions_terminates o h ⟨firstIx, firstIx, n, tick⟩ hf hf
  ⟨s', h1⟩

/-- build_segments start search: entered with `point_ix = contour.first()`, `last_ix = point_ix` -/
theorem autohint_segment_start_search_terminates_from_entry (o : Nat → Nat → Bool) (h : Nat → Nat → Nat)
    (n tick : Nat) (hn : 0 < n) :
    ∃ s', iter (segStartStep o h) (n + 1) ⟨0, 0, n, tick⟩ = some s' :=
  let ⟨s', h1, _⟩ := autohint_segment_start_search_terminates o h ⟨0, 0, n, tick⟩ hn hn
  ⟨s', h1⟩

/-! ### `Contour::next` / `Contour::prev` (autohint/outline.rs; bodies compared textually on every run)

A `Contour` has `first_ix ≤ last_ix` (`UnscaledOutlineSink::push` creates it with `first_ix = last_ix` and only ever
increments `last_ix`). -/

/-- `Contour::next` of a point of the contour is a point of the contour, and in offsets from `first_ix` it is the
`cnext` the loop skeletons use -/
theorem contour_next_in_contour (first last i : Nat) (hfl : first ≤ last) (h1 : first ≤ i) (h2 : i ≤ last) :
    first ≤ contourNext first last i ∧ contourNext first last i ≤ last ∧
    contourNext first last i - first = cnext (last - first + 1) (i - first) := by
  unfold contourNext cnext
  split <;> split <;> omega

/-- `Contour::prev` of a point of the contour never underflows, is a point of the contour, and in offsets from
`first_ix` it is `cprev` -/
theorem contour_prev_in_contour (first last i : Nat) (hfl : first ≤ last) (h1 : first ≤ i) (h2 : i ≤ last) :
    ∃ j, contourPrev first last i = some j ∧ first ≤ j ∧ j ≤ last ∧
      j - first = cprev (last - first + 1) (i - first) := by
  unfold contourPrev cprev
  by_cases h : i ≤ first
  · exact ⟨last, by simp [h], hfl, Nat.le_refl _, by split <;> omega⟩
  · exact ⟨i - 1, by simp [h]; omega, by omega, by omega, by split <;> omega⟩

/-- entry of `align_weak_points`: `points` is the slice `contour.range() = first_ix .. last_ix + 1`, which is not empty, so
`let last_ix = points.len() - 1` does not underflow -/
theorem autohint_align_weak_points_entry_no_underflow (first last : Nat) (hfl : first ≤ last) :
    ¬ (last + 1 - first < 1) := by omega

/-- the check is not vacuous: `prev` of the first point wraps to the last, also in a contour that does not start at 0;
with the `index <= first_ix` guard removed, `prev` of point 0 would be `0 - 1` -/
example : contourPrev 0 3 0 = some 3 ∧ contourPrev 2 5 2 = some 5 ∧ contourPrev 2 5 4 = some 3 := by decide

/-- interpolate_deltas #2, every point has a delta and nothing returns (oracle id of the flag test found by search):
1 → 2 → 3 → 4, the 4th execution sees `point_ix > end_point_ix` -/
example : ∃ k, k < 4 ∧ iterGCount (deltaNextStep (fun c _ => c == k) (fun _ => fun _ => 0)) 5 ⟨1, 3, 0, 0⟩
    = some (false, ⟨4, 3, 0, 4⟩, 4) := by decide
/-- widths: the double step at the end of the table -/
example : iterGCount (widthsStep (fun _ _ => true) (fun _ _ => 0)) 5 ⟨1, 4, 0, 0⟩ = some (false, ⟨5, 4, 0, 3⟩, 3) := by decide

/-- insert_edge, never ordered: 3 → 2 → 1 → 0, the 4th execution sees `ix = 0` -/
example : iterGCount (insertEdgeStep (fun _ _ => false) (fun _ _ => 0)) 4 ⟨3, 0, 0, 0⟩ = some (false, ⟨0, 0, 0, 4⟩, 4) := by decide

/-- compute_directions, every point "near": once around a 4-point contour from `first_ix = 2` -/
example : iterCount (dirsStep (fun _ _ => true) (fun _ _ => 0)) 5 ⟨2, 2, 4, 0⟩ = some (⟨2, 2, 4, 4⟩, 4) := by decide
/-- no point near: each of the 4 outer executions runs the nested `while` from `contour.next(ix)` (havoc 0 ↦ 1)
to `next_ix`: 3 + 4 + 1 + 2 body entries of the nested loop, 14 ticks in all -/
example : iterCount (dirsStep (fun _ _ => false) (fun _ _ => 0)) 5 ⟨2, 2, 4, 0⟩ = some (⟨2, 2, 4, 14⟩, 4) := by decide
/-- the nested while alone: 1 → 2 → 3 → 0, the fourth execution sees `inter_ix = next_ix` and breaks -/
example : iterCount (dirsInterStep (fun _ _ => false) (fun _ _ => 0)) 5 ⟨1, 0, 4, 0⟩ = some (⟨0, 0, 4, 4⟩, 4) := by decide
/-- start search: every point on the major axis: back around, 1 → 0 → 3 → 2 → 1 -/
example : iterCount (segStartStep (fun _ _ => false) (fun _ _ => 0)) 5 ⟨1, 1, 4, 0⟩ = some (⟨1, 1, 4, 4⟩, 4) := by decide
/-- start search: the third point back is off axis: step forward again and stop, 1 → 0 → 3 → 2 ↦ 3 -/
example : iter (segStartStep (fun _ t => t == 3) (fun _ _ => 0)) 5 ⟨1, 1, 4, 0⟩ = some ⟨3, 1, 4, 3⟩ := by decide
/-- align_edge_points with the ring links: 3 → 0 → 1, three executions -/
example : iterCount (edgePtsStep (fun _ _ => false) (fun _ _ => 0) (cnext 4)) 5 ⟨3, 1, 4, 0⟩ = some (⟨1, 1, 4, 3⟩, 3) := by decide
/-- the ring hypothesis matters: links that cycle 0 ↔ 1 never reach point 3 -/
example : iter (edgePtsStep (fun _ _ => false) (fun _ _ => 0) (fun i => 1 - i)) 5 ⟨0, 3, 4, 0⟩ = none := by decide
/-- backward walk of compute_directions, no point far enough: 3 → 2 → 1 → 0, the 4th execution sees `prev_ix = first_ix` -/
example : iterCount (dirsBackStep (fun _ _ => false) (fun _ _ => 0)) 5 ⟨3, 0, 4, 0⟩ = some (⟨0, 0, 4, 4⟩, 4) := by decide
/-- main loop of build_segments from its entry state on a 4-point contour: exactly n + 1 = 5 executions, `passed` set -/
example : iterGCount (segMainStep (fun _ _ => false) (fun _ _ => 0)) 5 ⟨⟨2, 2, 4, 0⟩, false⟩
    = some (false, ⟨⟨2, 2, 4, 5⟩, true⟩, 5) := by decide
example : iterG (segMainStep (fun _ _ => false) (fun _ _ => 0)) 4 ⟨⟨2, 2, 4, 0⟩, false⟩ = none := by decide
/-- align_weak_points, no other point touched: skip nothing, step to 1, scan 1..5, leave by `break 'outer` at 6 > 5 -/
example : iterGCount (weakStep (fun _ _ => false) (fun _ _ => 0)) 7 ⟨0, 5, 0, 0⟩ = some (false, ⟨6, 5, 0, 8⟩, 1) := by decide
/-- every point touched (conditions true, `?` never returns: oracle id of the `?` found by search): the while skips to
`last_ix`, then `point_ix = last_ix + 1` leaves -/
example : ∃ k, k < 4 ∧ (iterG (weakStep (fun c _ => c != k) (fun _ _ => 0)) 7 ⟨0, 5, 0, 0⟩).map (fun r => r.2.last) = some 6 := by decide
/-- the hypothesis is satisfiable -/
example : ∀ i, i < 4 → cnext 4 i = cnext 4 i := fun _ _ => rfl

end FontVerif.C02
