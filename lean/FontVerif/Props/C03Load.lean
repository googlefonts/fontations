/-
C03 — the glyph loader for composite glyphs (components: simple glyphs without instructions):
skrifa glyf/mod.rs (Model/HintLoad.lean) = FreeType 2.12.1 ttgload.c (Model/FtLoad.lean).

Covered: horizontal phantom points (`setup_phantom_points` ⇄ `tt_loader_set_pp`), scaling of the component
and of its phantom points, the phantom point rounding of `TT_Hint_Glyph` for instruction-free components
when hinting is requested and backward compatibility is off (⇄ `round_phantom_points`), USE_MY_METRICS
propagation, the 2x2 transform (`FT_Outline_Transform`), offsets (SCALED_COMPONENT_OFFSET with the two
vector lengths as inputs, scaling, ROUND_XY_TO_GRID on y only), point anchors, translation, the final
shift by the first phantom point, the advance (hdmx only when hinted, not in backward compatibility mode
and not fixed pitch — after fix 20350f1) and its rounding when hinting is requested.
Ranges: font-unit coordinates, bearings and offsets within ±2^15 / advances within [0, 2^16), scale at
most 64 px per font unit (2^22 in 16.16), transform entries F2Dot14, vector lengths at most 2^18,
and every accumulated point within ±2^29 (`AccOk`: the running outline of FreeType stays in range —
with n components it is bounded by (2n + 1)·2^25).
-/
import FontVerif.Lemmas.LoadEq
import FontVerif.Props.C03Vec
namespace FontVerif.C03
open FontVerif.Tt FontVerif.HintLoad

/-- metrics of a glyph in range: i16 header box and bearing, u16 advance. -/
def GMOk (m : GM) : Prop :=
  (-32768 ≤ m.xMin ∧ m.xMin ≤ 32767) ∧ (-32768 ≤ m.lsb ∧ m.lsb ≤ 32767) ∧ (0 ≤ m.adv ∧ m.adv ≤ 65535)

/-- a 16.16 scale of at most 64 px per font unit. -/
def ScaleOk (s : Int) : Prop := 0 ≤ s ∧ s ≤ 4194304

/-- **phantom points** (horizontal pair): same values, skrifa's checked subtraction does not trap. -/
theorem phantom_eq (m : GM) (hm : GMOk m) : HintLoad.setupPhantom m = some (FtLoad.setPp m) := by
  obtain ⟨hx, hl, ha⟩ := hm
  unfold HintLoad.setupPhantom FtLoad.setPp HintLoad.wadd
  rw [chk_fits (x := m.xMin - m.lsb) ⟨by omega, by omega⟩]
  simp only [Option.map_some, Option.some.injEq, Prod.mk.injEq, true_and]
  exact wrapI32_of_in (by omega) (by omega)

theorem setPp_bound (m : GM) (hm : GMOk m) :
    (-131072 ≤ (FtLoad.setPp m).1 ∧ (FtLoad.setPp m).1 ≤ 131072) ∧
    (-131072 ≤ (FtLoad.setPp m).2 ∧ (FtLoad.setPp m).2 ≤ 131072) := by
  obtain ⟨hx, hl, ha⟩ := hm
  unfold FtLoad.setPp; simp only []; omega

def Unit15 (q : Vec) : Prop := (-32768 ≤ q.x ∧ q.x ≤ 32768) ∧ (-32768 ≤ q.y ∧ q.y ≤ 32768)

/-- a scaled point within ±2^22 (the scaled image of a `Unit15` point at a scale ≤ 64 px / unit is
within ±(2^21 + 1)). -/
def Pos22 (q : Vec) : Prop := (-4194304 ≤ q.x ∧ q.x ≤ 4194304) ∧ (-4194304 ≤ q.y ∧ q.y ≤ 4194304)

/-- the phantom coordinate after an instruction-free component, for a scaled value within ±2^24. -/
theorem ph_round_eq (hinted bc : Bool) (v : Int) (hv : -16777216 ≤ v ∧ v ≤ 16777216) :
    HintLoad.phRound hinted bc v = FtLoad.phRound hinted bc v ∧
    -16777280 ≤ FtLoad.phRound hinted bc v ∧ FtLoad.phRound hinted bc v ≤ 16777280 := by
  unfold HintLoad.phRound FtLoad.phRound
  rw [rnd_eq v (by omega)]
  refine ⟨rfl, ?_⟩
  split
  · unfold FtLoad.pixRound; omega
  · omega

/-- **loading a simple component**: scaled points, the phantom pair it leaves (rounded when hinting is
requested, there are no instructions and backward compatibility is off), and the bounds used below. -/
theorem load_simple_eq (hinted bc : Bool) (scale : Int) (m : GM) (pts : List Vec) (hs : ScaleOk scale)
    (hm : GMOk m) (hp : ∀ q ∈ pts, Unit15 q) :
    HintLoad.loadSimple hinted bc scale m pts = some (FtLoad.loadSimple hinted bc scale m pts) ∧
    (∀ q ∈ (FtLoad.loadSimple hinted bc scale m pts).1, Pos22 q) ∧
    (-16777280 ≤ (FtLoad.loadSimple hinted bc scale m pts).2.1 ∧ (FtLoad.loadSimple hinted bc scale m pts).2.1 ≤ 16777280) ∧
    (-16777280 ≤ (FtLoad.loadSimple hinted bc scale m pts).2.2 ∧ (FtLoad.loadSimple hinted bc scale m pts).2.2 ≤ 16777280) := by
  have hpp := setPp_bound m hm
  unfold HintLoad.loadSimple FtLoad.loadSimple
  rw [phantom_eq m hm]
  simp only [Option.map_some]
  have b0 := scaled_eq hs hpp.1 (by decide)
  have b1 := scaled_eq hs hpp.2 (by decide)
  have hpt := map_eq_and_all (l := pts) (f := fun q => Vec.mk (Fixed.mul q.x scale) (Fixed.mul q.y scale))
      (g := fun q => Vec.mk (FtCalc.mulFix q.x scale) (FtCalc.mulFix q.y scale)) (P := Pos22) (by
    intro q hq
    have bx := scaled_eq hs (hp q hq).1 (by decide)
    have by_ := scaled_eq hs (hp q hq).2 (by decide)
    exact ⟨by rw [bx.1, by_.1], by unfold Pos22; simp only []; omega⟩)
  rw [hpt.1, b0.1, b1.1]
  have r0 := ph_round_eq hinted bc (FtCalc.mulFix (FtLoad.setPp m).1 scale) (by omega)
  have r1 := ph_round_eq hinted bc (FtCalc.mulFix (FtLoad.setPp m).2 scale) (by omega)
  rw [r0.1, r1.1]
  exact ⟨rfl, hpt.2, r0.2, r1.2⟩

/-- **the phantom points handed to the interpreter** (glyph with instructions): the original positions are
the UNROUNDED scaled phantom points and the current positions have pp1.x, pp2.x, pp3.y, pp4.y rounded, on
both sides (copy first, round second), for coordinates away from the i32 boundary. -/
theorem hint_phantom_eq (pp : List Vec)
    (h : ∀ q ∈ pp, (-2147483648 ≤ q.x ∧ q.x < 2147483616) ∧ (-2147483648 ≤ q.y ∧ q.y < 2147483616)) :
    HintLoad.hintPhantom pp = FtLoad.hintPhantom pp := by
  unfold HintLoad.hintPhantom FtLoad.hintPhantom
  match pp, h with
  | [p1, p2, p3, p4], h =>
    have h1 := h p1 (by simp)
    have h2 := h p2 (by simp)
    have h3 := h p3 (by simp)
    have h4 := h p4 (by simp)
    simp only [rnd_eq _ h1.1, rnd_eq _ h2.1, rnd_eq _ h3.2, rnd_eq _ h4.2]
  | [], _ => rfl
  | [_], _ => rfl
  | [_, _], _ => rfl
  | [_, _, _], _ => rfl
  | _ :: _ :: _ :: _ :: _ :: _, _ => rfl

-- advance 549 at scale 1.0: the interpreter sees pp2 at 549 originally and at 576 currently (not 576 / 576,
-- which the reverse order would give); vertical phantom points round in y only
example : HintLoad.hintPhantom [⟨0, 0⟩, ⟨549, 0⟩, ⟨274, 816⟩, ⟨274, -204⟩]
      = ([⟨0, 0⟩, ⟨549, 0⟩, ⟨274, 816⟩, ⟨274, -204⟩], [⟨0, 0⟩, ⟨576, 0⟩, ⟨274, 832⟩, ⟨274, -192⟩])
    ∧ FtLoad.hintPhantom [⟨0, 0⟩, ⟨549, 0⟩, ⟨274, 816⟩, ⟨274, -204⟩]
      = ([⟨0, 0⟩, ⟨549, 0⟩, ⟨274, 816⟩, ⟨274, -204⟩], [⟨0, 0⟩, ⟨576, 0⟩, ⟨274, 832⟩, ⟨274, -192⟩]) := by decide +kernel

/-- a component whose transform entries are F2Dot14 values, whose arguments are i16 and whose two vector
lengths are at most 2^18. -/
def CompOk (c : Comp) : Prop :=
  (-32768 ≤ c.xx ∧ c.xx ≤ 32767) ∧ (-32768 ≤ c.yx ∧ c.yx ≤ 32767) ∧ (-32768 ≤ c.xy ∧ c.xy ≤ 32767) ∧
  (-32768 ≤ c.yy ∧ c.yy ≤ 32767) ∧ (-32768 ≤ c.arg1 ∧ c.arg1 ≤ 32767) ∧ (-32768 ≤ c.arg2 ∧ c.arg2 ≤ 32767) ∧
  (0 ≤ c.hx ∧ c.hx ≤ 262144) ∧ (0 ≤ c.hy ∧ c.hy ≤ 262144) ∧ GMOk c.m ∧ (∀ q ∈ c.pts, Unit15 q)

/-- **the 2x2 transform** of a scaled point: `point.x * xx + point.y * xy` (wrapping) =
`FT_MulFix( x, xx ) + FT_MulFix( y, xy )`, and the image is within ±2^25. -/
theorem xform_eq (c : Comp) (q : Vec) (hc : CompOk c) (hq : Pos22 q) :
    HintLoad.xform c q = FtLoad.xform c q ∧
    (-33554432 ≤ (FtLoad.xform c q).x ∧ (FtLoad.xform c q).x ≤ 33554432) ∧
    (-33554432 ≤ (FtLoad.xform c q).y ∧ (FtLoad.xform c q).y ≤ 33554432) := by
  obtain ⟨hxx, hyx, hxy, hyy, _⟩ := hc
  unfold Pos22 at hq
  unfold HintLoad.xform FtLoad.xform HintLoad.wadd
  simp only []
  -- a scaled coordinate times an F2Dot14 entry (`<< 2` to 16.16): within ±(2^23 + 1)
  have xf : ∀ {a e : Int}, (-4194304 ≤ a ∧ a ≤ 4194304) → (-32768 ≤ e ∧ e ≤ 32767) →
      Fixed.mul a (e * 4) = FtCalc.mulFix a (e * 4) ∧
      -8388609 ≤ FtCalc.mulFix a (e * 4) ∧ FtCalc.mulFix a (e * 4) ≤ 8388609 := fun ha he =>
    fixmul_bound (A := 4194304) (B := 131072) ha (by omega) (by decide) (by decide) (by decide)
  have b1 := xf hq.1 hxx
  have b2 := xf hq.2 hxy
  have b3 := xf hq.1 hyx
  have b4 := xf hq.2 hyy
  rw [b1.1, b2.1, b3.1, b4.1]
  rw [wrapI32_of_in (by omega) (by omega), wrapI32_of_in (by omega) (by omega)]
  refine ⟨rfl, ?_, ?_⟩ <;> omega

/-- **the offset of an `ARGS_ARE_XY_VALUES` component**: SCALED_COMPONENT_OFFSET (`Fixed * hypot` ⇄
`FT_MulFix( x, FT_Hypot(…) )`), scaling, ROUND_XY_TO_GRID on y when hinting is requested; FreeType's early
return for a zero offset gives the same (zero) translation. -/
theorem offset_eq (hinted : Bool) (scale : Int) (c : Comp) (hs : ScaleOk scale) (hc : CompOk c) :
    HintLoad.offsetXY hinted scale c = FtLoad.offsetXY hinted scale c ∧
    (-33554500 ≤ (FtLoad.offsetXY hinted scale c).x ∧ (FtLoad.offsetXY hinted scale c).x ≤ 33554500) ∧
    (-33554500 ≤ (FtLoad.offsetXY hinted scale c).y ∧ (FtLoad.offsetXY hinted scale c).y ≤ 33554500) := by
  obtain ⟨_, _, _, _, ha1, ha2, hhx, hhy, _, _⟩ := hc
  unfold ScaleOk at hs
  unfold HintLoad.offsetXY FtLoad.offsetXY
  have hsame : HintLoad.haveXform c = FtLoad.haveScale c := rfl
  simp only [hsame]
  have sx := fixmul_bound (A := 32768) (B := 262144) (a := c.arg1) (b := c.hx) (by omega) (by omega) (by decide) (by decide) (by decide)
  have sy := fixmul_bound (A := 32768) (B := 262144) (a := c.arg2) (b := c.hy) (by omega) (by omega) (by decide) (by decide) (by decide)
  by_cases hz : c.arg1 = 0 ∧ c.arg2 = 0
  · -- FreeType returns before doing anything; skrifa computes a zero offset
    simp only [hz, and_self, if_true]
    simp only [fixmul_zero c.hx, fixmul_zero c.hy, ite_self, fixmul_zero scale,
      show HintLoad.rnd 0 = 0 from by decide]
    refine ⟨by trivial, by omega, by omega⟩
  · simp only [hz, if_false]
    -- the offset before scaling, on both sides, within ±(2^17 + 1)
    rw [sx.1, sy.1]
    have bx : -131073 ≤ (if FtLoad.haveScale c = true ∧ flag c.flags SCALED_OFFSET = true
          then FtCalc.mulFix c.arg1 c.hx else c.arg1) ∧
        (if FtLoad.haveScale c = true ∧ flag c.flags SCALED_OFFSET = true
          then FtCalc.mulFix c.arg1 c.hx else c.arg1) ≤ 131073 := by split <;> omega
    have by_ : -131073 ≤ (if FtLoad.haveScale c = true ∧ flag c.flags SCALED_OFFSET = true
          then FtCalc.mulFix c.arg2 c.hy else c.arg2) ∧
        (if FtLoad.haveScale c = true ∧ flag c.flags SCALED_OFFSET = true
          then FtCalc.mulFix c.arg2 c.hy else c.arg2) ≤ 131073 := by split <;> omega
    generalize (if FtLoad.haveScale c = true ∧ flag c.flags SCALED_OFFSET = true then FtCalc.mulFix c.arg1 c.hx else c.arg1) = x at bx ⊢
    generalize (if FtLoad.haveScale c = true ∧ flag c.flags SCALED_OFFSET = true then FtCalc.mulFix c.arg2 c.hy else c.arg2) = y at by_ ⊢
    have tx := scaled_eq hs bx (by decide)
    have ty := scaled_eq hs by_ (by decide)
    rw [tx.1, ty.1, rnd_eq _ (by omega)]
    by_cases hr : hinted = true ∧ flag c.flags ROUND_XY = true
    · simp only [hr, and_self, if_true]
      refine ⟨by trivial, by omega, ?_⟩
      unfold FtLoad.pixRound; omega
    · have hr' : ¬ (flag c.flags ROUND_XY = true ∧ hinted = true) := fun h => hr ⟨h.2, h.1⟩
      simp only [hr, hr', if_false]
      refine ⟨by trivial, by omega, by omega⟩


def AllPos29 (l : List Vec) : Prop := ∀ q ∈ l, Pos29 q

/-- a transformed, not yet translated point of a component: within ±2^25. -/
def Pos25 (q : Vec) : Prop := (-33554432 ≤ q.x ∧ q.x ≤ 33554432) ∧ (-33554432 ≤ q.y ∧ q.y ≤ 33554432)

/-- **point anchors**: `base - component` (wrapping ⇄ `SUB_LONG`), within ±2^30. -/
theorem point_anchor_eq (acc sp : List Vec) (a1 a2 : Int) (hacc : AllPos29 acc) (hsp : ∀ q ∈ sp, Pos25 q) :
    HintLoad.pointAnchor acc sp a1 a2 = FtLoad.pointAnchor acc sp a1 a2 ∧
    ∀ off, FtLoad.pointAnchor acc sp a1 a2 = some off →
      (-1073741824 ≤ off.x ∧ off.x ≤ 1073741824) ∧ (-1073741824 ≤ off.y ∧ off.y ≤ 1073741824) := by
  unfold HintLoad.pointAnchor FtLoad.pointAnchor
  by_cases hneg : a1 < 0 ∨ a2 < 0
  · simp only [hneg, if_true, true_and]
    intro off e; exact absurd e (by simp)
  · simp only [hneg, if_false]
    cases hb : acc[a1.toNat]? with
    | none => simp
    | some b =>
      cases hq : sp[a2.toNat]? with
      | none => simp
      | some q =>
        have hbm := hacc b (List.mem_of_getElem? hb)
        have hqm := hsp q (List.mem_of_getElem? hq)
        unfold Pos29 Dist29 at hbm
        unfold Pos25 at hqm
        -- `HintLoad.wsub` is `HintMove.wsub`
        have ex : HintLoad.wsub b.x q.x = b.x - q.x ∧ FtCalc.subLong b.x q.x = b.x - q.x :=
          sub_fits ⟨by omega, by omega⟩
        have ey : HintLoad.wsub b.y q.y = b.y - q.y ∧ FtCalc.subLong b.y q.y = b.y - q.y :=
          sub_fits ⟨by omega, by omega⟩
        simp only [ex.1, ex.2, ey.1, ey.2, true_and, Option.some.injEq]
        intro off e
        rw [← e]; simp only []; omega

/-- **translation** by an offset within ±2^30 of points within ±2^25. -/
theorem translate_eq (sp : List Vec) (off : Vec) (hsp : ∀ q ∈ sp, Pos25 q)
    (ho : (-1073741824 ≤ off.x ∧ off.x ≤ 1073741824) ∧ (-1073741824 ≤ off.y ∧ off.y ≤ 1073741824)) :
    HintLoad.translate sp off = FtLoad.translate sp off := by
  unfold HintLoad.translate FtLoad.translate
  by_cases hnz : off.x ≠ 0 ∨ off.y ≠ 0
  · simp only [hnz, if_true]
    apply List.map_congr_left
    intro q hq
    have hqb := hsp q hq
    unfold Pos25 at hqb
    exact congr (congrArg Vec.mk (wadd_addLong ⟨by omega, by omega⟩)) (wadd_addLong ⟨by omega, by omega⟩)
  · simp only [hnz, if_false]

/-- **one component of `load_composite`** = one iteration of FreeType's subglyph loop +
`TT_Process_Composite_Component`: same accumulated points, same phantom pair (USE_MY_METRICS), for a
non-empty component (FreeType skips components without points; skrifa's point-anchor lookup for such a
component reads past its points — a malformed-font case that is not compared). -/
theorem component_eq (hinted bc : Bool) (scale : Int) (acc : List Vec) (ph : Int × Int) (c : Comp)
    (hs : ScaleOk scale) (hc : CompOk c) (hacc : AllPos29 acc) (hne : c.pts ≠ []) :
    HintLoad.component hinted bc scale acc ph c = FtLoad.component hinted bc scale acc ph c := by
  have hls := load_simple_eq hinted bc scale c.m c.pts hs hc.2.2.2.2.2.2.2.2.1 hc.2.2.2.2.2.2.2.2.2
  unfold HintLoad.component FtLoad.component
  rw [hls.1]
  simp only [Option.bind_some]
  have hne' : (FtLoad.loadSimple hinted bc scale c.m c.pts).1.isEmpty = false := by
    unfold FtLoad.loadSimple; simp only [List.isEmpty_map]
    cases hp : c.pts with
    | nil => exact absurd hp hne
    | cons a t => rfl
  generalize hL : FtLoad.loadSimple hinted bc scale c.m c.pts = L at hls hne' ⊢
  obtain ⟨sp, c0, c1⟩ := L
  simp only [] at hls hne' ⊢
  simp only [hne', Bool.false_eq_true, if_false]
  have hsame : HintLoad.haveXform c = FtLoad.haveScale c := rfl
  simp only [hsame]
  -- the transformed points: equal, within ±2^25
  have hx : (if FtLoad.haveScale c = true then sp.map (HintLoad.xform c) else sp) =
      (if FtLoad.haveScale c = true then sp.map (FtLoad.xform c) else sp) ∧
      ∀ q ∈ (if FtLoad.haveScale c = true then sp.map (FtLoad.xform c) else sp), Pos25 q := by
    by_cases h : FtLoad.haveScale c = true
    · simp only [h, if_true]
      exact map_eq_and_all fun q hq => xform_eq c q hc (hls.2.1 q hq)
    · rw [if_neg h, if_neg h]
      refine ⟨rfl, fun q hq => ?_⟩
      have := hls.2.1 q hq
      unfold Pos22 at this; unfold Pos25; omega
  rw [hx.1]
  generalize (if FtLoad.haveScale c = true then sp.map (FtLoad.xform c) else sp) = tp at hx ⊢
  have hoff := offset_eq hinted scale c hs hc
  have hpa := point_anchor_eq acc tp c.arg1 c.arg2 hacc hx.2
  rw [hoff.1, hpa.1]
  cases ho : (if flag c.flags ARGS_ARE_XY = true then some (FtLoad.offsetXY hinted scale c)
      else FtLoad.pointAnchor acc tp c.arg1 c.arg2) with
  | none => simp only [Option.map_none]
  | some off =>
    have hob : (-1073741824 ≤ off.x ∧ off.x ≤ 1073741824) ∧ (-1073741824 ≤ off.y ∧ off.y ≤ 1073741824) := by
      by_cases hxy : flag c.flags ARGS_ARE_XY = true
      · rw [if_pos hxy] at ho
        simp only [Option.some.injEq] at ho
        rw [← ho]; omega
      · rw [if_neg hxy] at ho
        exact hpa.2 off ho
    simp only [Option.map_some, translate_eq tp off hx.2 hob]

/-- the accumulated outline of FreeType stays within ±2^29 from component to component (an explicit range
condition on the input: with n components the outline is bounded by (2n + 1)·2^25). -/
def AccOk (hinted bc : Bool) (scale : Int) : List Comp → List Vec → (Int × Int) → Prop
  | [], acc, _ => AllPos29 acc
  | c :: rest, acc, pp =>
    AllPos29 acc ∧
    match FtLoad.component hinted bc scale acc pp c with
    | some (acc', pp') => AccOk hinted bc scale rest acc' pp'
    | none => True

theorem components_eq (hinted bc : Bool) (scale : Int) (hs : ScaleOk scale) :
    ∀ (cs : List Comp) (acc : List Vec) (ph : Int × Int), (∀ c ∈ cs, CompOk c ∧ c.pts ≠ []) →
      AccOk hinted bc scale cs acc ph →
      HintLoad.components hinted bc scale cs acc ph = FtLoad.components hinted bc scale cs acc ph := by
  intro cs
  induction cs with
  | nil => intro acc ph _ _; rfl
  | cons c rest ih =>
    intro acc ph hcs hok
    have hc := hcs c List.mem_cons_self
    unfold AccOk at hok
    simp only [HintLoad.components, FtLoad.components]
    rw [component_eq hinted bc scale acc ph c hs hc.1 hok.1 hc.2]
    cases hr : FtLoad.component hinted bc scale acc ph c with
    | none => rfl
    | some r =>
      obtain ⟨acc', pp'⟩ := r
      simp only [Option.bind_some]
      have hok2 := hok.2
      rw [hr] at hok2
      exact ih acc' pp' (fun c' hc' => hcs c' (List.mem_cons_of_mem c hc')) hok2

def PhOk (pp : Int × Int) : Prop := (-16777280 ≤ pp.1 ∧ pp.1 ≤ 16777280) ∧ (-16777280 ≤ pp.2 ∧ pp.2 ≤ 16777280)

/-- what `AccOk` gives at the end: the final outline is in range and so is the phantom pair. -/
theorem components_final (hinted bc : Bool) (scale : Int) (hs : ScaleOk scale) :
    ∀ (cs : List Comp) (acc : List Vec) (pp : Int × Int) (r : List Vec × (Int × Int)),
      (∀ c ∈ cs, CompOk c) → AccOk hinted bc scale cs acc pp → PhOk pp →
      FtLoad.components hinted bc scale cs acc pp = some r → AllPos29 r.1 ∧ PhOk r.2 := by
  intro cs
  induction cs with
  | nil =>
    intro acc pp r _ hok hpp h
    simp only [FtLoad.components, Option.some.injEq] at h
    rw [← h]; exact ⟨hok, hpp⟩
  | cons c rest ih =>
    intro acc pp r hcs hok hpp h
    have hc := hcs c List.mem_cons_self
    unfold AccOk at hok
    simp only [FtLoad.components] at h
    cases hr : FtLoad.component hinted bc scale acc pp c with
    | none => rw [hr] at h; simp at h
    | some r1 =>
      obtain ⟨acc', pp'⟩ := r1
      rw [hr] at h
      simp only [Option.bind_some] at h
      have hok2 := hok.2
      rw [hr] at hok2
      -- the phantom pair after the component: the old one, or the component's (bounded by `load_simple_eq`)
      have hpp' : PhOk pp' := by
        have hls := load_simple_eq hinted bc scale c.m c.pts hs hc.2.2.2.2.2.2.2.2.1 hc.2.2.2.2.2.2.2.2.2
        unfold FtLoad.component at hr
        generalize FtLoad.loadSimple hinted bc scale c.m c.pts = L at hls hr
        obtain ⟨sp, c0, c1⟩ := L
        simp only [] at hls hr
        have hcand : PhOk (if flag c.flags USE_MY_METRICS = true then (c0, c1) else pp) := by
          split
          · exact ⟨hls.2.2.1, hls.2.2.2⟩
          · exact hpp
        split at hr
        · simp only [Option.some.injEq, Prod.mk.injEq] at hr
          rw [← hr.2]; exact hcand
        · simp only [Option.map_eq_some_iff, Prod.mk.injEq] at hr
          obtain ⟨_, _, _, e⟩ := hr
          rw [← e]; exact hcand
      exact ih acc' pp' r (fun c' hc' => hcs c' (List.mem_cons_of_mem c hc')) hok2 hpp' h

/-- **the final shift** by the first phantom point (`ScaledOutline::new` ⇄ `FT_Outline_Translate( -pp1.x, 0 )`). -/
theorem final_shift_eq (pts : List Vec) (q0 : Int) (hp : AllPos29 pts) (hq : -16777280 ≤ q0 ∧ q0 ≤ 16777280) :
    (if q0 ≠ 0 then pts.map fun q => Vec.mk (HintLoad.wsub q.x q0) q.y else pts) =
    (if q0 ≠ 0 then pts.map fun q => Vec.mk (FtCalc.addLong q.x (-q0)) q.y else pts) := by
  by_cases hz : q0 ≠ 0
  · rw [if_pos hz, if_pos hz]
    apply List.map_congr_left
    intro q hq'
    have hqb := hp q hq'
    unfold Pos29 Dist29 at hqb
    unfold HintLoad.wsub FtCalc.addLong
    rw [wrapI32_of_in (by omega) (by omega), wrapI64_of_in (by omega) (by omega)]
    congr 1
  · rw [if_neg hz, if_neg hz]

/-- **the advance**: hdmx (a `u8`) or the phantom pair, rounded when hinting is requested. -/
theorem advance_eq (hinted : Bool) (sel : Option Int) (q0 q1 : Int) (hq : PhOk (q0, q1))
    (hh : ∀ w, sel = some w → 0 ≤ w ∧ w ≤ 255) :
    (if hinted = true then HintLoad.rnd (HintLoad.advPick sel q0 q1) else HintLoad.advPick sel q0 q1) =
    (if hinted = true then FtLoad.pixRound (FtLoad.advPick sel q0 q1) else FtLoad.advPick sel q0 q1) := by
  unfold PhOk at hq
  simp only [] at hq
  have e : HintLoad.advPick sel q0 q1 = FtLoad.advPick sel q0 q1 ∧
      -33554560 ≤ FtLoad.advPick sel q0 q1 ∧ FtLoad.advPick sel q0 q1 ≤ 33554560 := by
    unfold HintLoad.advPick FtLoad.advPick
    cases sel with
    | none =>
      simp only []
      unfold HintLoad.wsub FtCalc.subLong
      rw [wrapI32_of_in (by omega) (by omega), wrapI64_of_in (by omega) (by omega)]; omega
    | some w =>
      have hwb := hh w rfl
      simp only []
      rw [wrapI32_of_in (by omega) (by omega)]; omega
  rw [e.1, rnd_eq _ (by omega)]

/-- **the whole composite glyph**: same final points (after the shift by the first phantom point) and
the same advance — from the phantom pair, or from `hdmx` when hinting is requested, backward compatibility
is off and the font is not fixed pitch — rounded to the pixel grid when hinting is requested. -/
theorem load_eq (hinted bc fixedPitch : Bool) (scale : Int) (hdmx : Option Int) (m : GM) (cs : List Comp)
    (hs : ScaleOk scale) (hm : GMOk m) (hcs : ∀ c ∈ cs, CompOk c ∧ c.pts ≠ [])
    (hh : ∀ w, hdmx = some w → 0 ≤ w ∧ w ≤ 255)
    (hok : AccOk hinted bc scale cs [] (FtCalc.mulFix (FtLoad.setPp m).1 scale, FtCalc.mulFix (FtLoad.setPp m).2 scale)) :
    HintLoad.load hinted bc fixedPitch scale hdmx m cs = FtLoad.load hinted bc fixedPitch scale hdmx m cs := by
  have hpp := setPp_bound m hm
  have b0 := scaled_eq hs hpp.1 (by decide)
  have b1 := scaled_eq hs hpp.2 (by decide)
  have hpp0 : PhOk (FtCalc.mulFix (FtLoad.setPp m).1 scale, FtCalc.mulFix (FtLoad.setPp m).2 scale) := by
    unfold PhOk; simp only []; omega
  have hce := components_eq hinted bc scale hs cs [] _ hcs hok
  unfold HintLoad.load FtLoad.load
  rw [phantom_eq m hm]
  simp only [Option.bind_some]
  rw [b0.1, b1.1, hce]
  generalize hr : FtLoad.components hinted bc scale cs [] (FtCalc.mulFix (FtLoad.setPp m).1 scale, FtCalc.mulFix (FtLoad.setPp m).2 scale) = res
  cases res with
  | none => simp only [Option.map_none]
  | some r =>
    have hfin := components_final hinted bc scale hs cs [] _ r (fun c hc => (hcs c hc).1) hok hpp0 hr
    obtain ⟨pts, q0, q1⟩ := r
    simp only [Option.map_some, Option.some.injEq, Prod.mk.injEq]
    have hq0 : -16777280 ≤ q0 ∧ q0 ≤ 16777280 := hfin.2.1
    refine ⟨final_shift_eq pts q0 hfin.1 hq0, ?_⟩
    have hsel : ∀ w, (if hinted = true ∧ ¬ bc = true ∧ ¬ fixedPitch = true then hdmx else none) = some w → 0 ≤ w ∧ w ≤ 255 := by
      intro w hw
      split at hw
      · exact hh w hw
      · exact absurd hw (by simp)
    exact advance_eq hinted _ q0 q1 hfin.2 hsel

-- a composite of one component shifted by (64, 32) at scale 1.0 with ROUND_XY_TO_GRID: hinted rounds y only
example : HintLoad.load true false false 65536 none ⟨0, 0, 500⟩
      [⟨2 + 4, 16384, 0, 0, 16384, 70, 40, 65536, 65536, ⟨0, 0, 400⟩, [⟨0, 0⟩, ⟨100, 0⟩, ⟨100, 200⟩]⟩]
      = some ([⟨70, 64⟩, ⟨170, 64⟩, ⟨170, 264⟩], 512)
    ∧ FtLoad.load true false false 65536 none ⟨0, 0, 500⟩
      [⟨2 + 4, 16384, 0, 0, 16384, 70, 40, 65536, 65536, ⟨0, 0, 400⟩, [⟨0, 0⟩, ⟨100, 0⟩, ⟨100, 200⟩]⟩]
      = some ([⟨70, 64⟩, ⟨170, 64⟩, ⟨170, 264⟩], 512)
    ∧ HintLoad.load false false false 65536 none ⟨0, 0, 500⟩
      [⟨2 + 4, 16384, 0, 0, 16384, 70, 40, 65536, 65536, ⟨0, 0, 400⟩, [⟨0, 0⟩, ⟨100, 0⟩, ⟨100, 200⟩]⟩]
      = some ([⟨70, 40⟩, ⟨170, 40⟩, ⟨170, 240⟩], 500) := by decide +kernel
-- USE_MY_METRICS (512): the component's advance 400 replaces 500; hdmx (7 px) wins when hinted without
-- backward compatibility — unless the font is fixed pitch
example : (HintLoad.load false false false 65536 none ⟨0, 0, 500⟩
      [⟨2 + 512, 16384, 0, 0, 16384, 0, 0, 65536, 65536, ⟨0, 0, 400⟩, [⟨0, 0⟩, ⟨100, 0⟩, ⟨100, 200⟩]⟩]).map Prod.snd = some 400
    ∧ (FtLoad.load true false false 65536 (some 7) ⟨0, 0, 500⟩
      [⟨2, 16384, 0, 0, 16384, 0, 0, 65536, 65536, ⟨0, 0, 400⟩, [⟨0, 0⟩, ⟨100, 0⟩, ⟨100, 200⟩]⟩]).map Prod.snd = some 448
    ∧ (FtLoad.load true false true 65536 (some 7) ⟨0, 0, 500⟩
      [⟨2, 16384, 0, 0, 16384, 0, 0, 65536, 65536, ⟨0, 0, 400⟩, [⟨0, 0⟩, ⟨100, 0⟩, ⟨100, 200⟩]⟩]).map Prod.snd = some 512
    ∧ (FtLoad.load true true false 65536 (some 7) ⟨0, 0, 500⟩
      [⟨2, 16384, 0, 0, 16384, 0, 0, 65536, 65536, ⟨0, 0, 400⟩, [⟨0, 0⟩, ⟨100, 0⟩, ⟨100, 200⟩]⟩]).map Prod.snd = some 512 := by decide +kernel

end FontVerif.C03
