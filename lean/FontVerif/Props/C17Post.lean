/-
C17 — "post part": the `post` version 2.0 rebuild, maxp / head / hhea, VORG, vmtx pass-through.

Model: `FontVerif.SubsetPost` (klippa/src/post.rs after repairs 4f39551, d201e53, ffa8a1c; head.rs;
glyf_loca.rs `subset_head`; hmtx.rs hhea tail; vorg.rs; lib.rs dispatch) and `Subset.subsetMaxp` (maxp.rs), tied to
the real code by the `post2*` / `head` / `hhea` / `maxp2` / `vorg*` / `vmtx` correspondence groups of
harness/src/bin/c17/postx.rs.  Readers: read-fonts `Post::read` / `Post::glyph_name` (`glyphName`),
`VarLenArray::get` / `iter` (`pstrGet` / `pstrAll`), `Vorg::vertical_origin_y` (`vorgOriginY`), `hmtx::advance` /
`side_bearing` (`Subset.hmtxAdvance` / `hmtxLsb`, shared by hmtx and vmtx).
-/
import FontVerif.Lemmas.SubsetPost
import FontVerif.Lemmas.SubsetMeta
import FontVerif.Lemmas.Layout
import FontVerif.Props.C17
set_option linter.unusedVariables false
namespace FontVerif.C17Post
open FontVerif.Subset FontVerif.SubsetMeta FontVerif.SubsetPost

/-! `plan_hypotheses_hold` below derives the plan part of `PostReq` (Lemmas/SubsetPost.lean) from `Subset.makePlan`. -/

/-- the 258 standard names are pairwise distinct: `standard_glyphs` (a HashMap collected from them, last entry
wins) has exactly one index per name, the one `stdIndex` finds -/
theorem stdNames_nodup : stdNames.Pairwise (· ≠ ·) :=
  -- key: the name read as a base-256 number, reduced by the least modulus that keeps the 258 keys apart
  pairwise_ne_of_keys (fun s => s.foldl (fun a b => a * 256 + b) 0 % 4482) stdNames (by decide +kernel)

/-- GLYPH_NAMES, version 2.0, a successful `Post::subset`.  Then the emitted
table is readable, is version 2.0 (`post_v2_num_glyphs`), and for EVERY entry (new, old) of the plan read-fonts' `glyph_name(new)` on the subset is the
original's `glyph_name(old)` when that is defined; when the original has no name for `old` — `old` beyond the
table's numGlyphs, an index ≥ 258 without a readable string (beyond the string list, in or after a truncated
string, a non-ASCII string) — the subset says `.notdef` (index 0).  Duplicate names (two string indices holding
the same name, several glyphs sharing one index) all resolve to that name; names are at most 255 bytes
(Pascal strings), the length byte is never truncated.  Ids of the subset that no kept glyph owns (retain-gids
holes) are `.notdef`.  The `u16` name counter (`i`, wrapping since fix ffa8a1c) never wraps before its last use:
every emitted string needs its own glyphNameIndex value 258..=65535 in the source (`pool_size_bound`). -/
theorem post_v2_glyph_names_preserved (inp : PostIn) (out : Bytes) (hr : PostReq inp)
    (h : subsetPost inp = .ok out) :
    (∀ new old, (new, old) ∈ inp.n2o →
      glyphName out new = some ((glyphName inp.t old).getD notdefName)) ∧
    (∀ new, new < inp.nout → (∀ old, (new, old) ∉ inp.n2o) → glyphName out new = some notdefName) := by
  have hcap : (v2tail inp).strs.length ≤ 65278 := pool_size_bound inp hr.bytes
  obtain ⟨hrd, hout⟩ := subsetPost_v2_ok inp out hr h
  obtain ⟨ro, vo, ng, rarr, rstr⟩ := out_reader inp out hr h
  have hascii := v2tail_strs_ascii inp hr.bytes
  have hread : ∀ new k, new < inp.nout → (v2tail inp).arr[new]? = some k → k < 65536 →
      glyphName out new = decodeIdx (v2tail inp).strs k := by
    intro new k hnew hk hk16
    unfold glyphName
    simp only [ro, Bool.not_true, Bool.false_eq_true, if_false, vo]
    simp only [show ¬ (0x00020000 = 0x00010000) by decide, if_false, if_true, ng, hnew]
    have : (v2tail inp).arr.getD new 0 = k := by simp [List.getD_eq_getElem?_getD, hk]
    rw [rarr new hnew, this, Nat.mod_eq_of_lt hk16]
    unfold decodeIdx
    by_cases hs : k < 258
    · simp [hs]
    · simp only [hs, if_false]
      rw [rstr, pstrGet_eq, pstrGetD_enc _ _ hascii]
  constructor
  · intro new old hno
    have hnew : new < inp.nout := hr.plan.bound _ hno
    cases hm : inp.maxOld with
    | none => rw [hr.maxNone hm] at hno; simp at hno
    | some m =>
      obtain ⟨k, hk, hk16, hd⟩ := v2tail_entry inp m hm hr.plan (hr.maxSome m hm) hcap new old hno
      rw [hread new k hnew hk hk16, hd, glyphName_v2 _ hrd hr.ver]
  · intro new hnew hhole
    have hk := v2tail_hole inp hr.plan new hnew hhole
    rw [hread new 0 hnew hk (by omega)]
    simp [decodeIdx, stdNames_zero]

/-- corollary in the form of the property: a defined name is kept -/
theorem post_v2_defined_names_kept (inp : PostIn) (out : Bytes) (hr : PostReq inp)
    (h : subsetPost inp = .ok out)
    (new old : Nat) (hno : (new, old) ∈ inp.n2o) (name : Bytes) (hname : glyphName inp.t old = some name) :
    glyphName out new = some name := by
  rw [(post_v2_glyph_names_preserved inp out hr h).1 new old hno, hname]; rfl

/-- the pool never exceeds what the u16 index space of the source can denote -/
theorem post_v2_name_counter_never_wraps (inp : PostIn) (hb : ∀ b ∈ inp.t, b < 256) :
    (v2tail inp).strs.length ≤ 65536 - 258 := pool_size_bound inp hb

/-- The rebuilt table is readable, says version 2.0, its numGlyphs field is
`num_output_glyphs` and it has exactly that many index entries followed by the string pool. -/
theorem post_v2_num_glyphs (inp : PostIn) (out : Bytes) (hr : PostReq inp) (h : subsetPost inp = .ok out) :
    postReadable out = true ∧ u32At out 0 = 0x00020000 ∧ postNumGlyphs out = inp.nout ∧
    out.length = 34 + 2 * inp.nout + ((v2tail inp).strs.flatMap pstrEnc).length ∧
    out.take 32 = inp.t.take 32 := by
  obtain ⟨hrd, hout⟩ := subsetPost_v2_ok inp out hr h
  obtain ⟨ro, vo, ng, _, _⟩ := out_reader inp out hr h
  have hlen := readable_v2_length inp.t hr.bytes hr.ver hrd
  have hh : (inp.t.take 32).length = 32 := by simp; omega
  obtain ⟨_, _, _, _, l5⟩ := v2bytes_layout (inp.t.take 32) inp.nout (v2tail inp) hh hr.nout (v2tail_arr_length inp)
  refine ⟨ro, vo, ng, by rw [hout]; exact l5, ?_⟩
  rw [hout]
  unfold v2bytes
  rw [List.append_assoc, List.append_assoc, List.take_left' hh]

/-- The emitted string pool has no string twice, no string equal to one of
the 258 standard names, and every string is the original name of some kept glyph (hence, by
`post_v2_glyph_names_preserved`, the name of that glyph in the subset): nothing unused is emitted. -/
theorem post_v2_string_pool_minimal (inp : PostIn) (out : Bytes) (hr : PostReq inp)
    (h : subsetPost inp = .ok out) :
    (v2tail inp).strs.Pairwise (· ≠ ·) ∧
    (∀ s ∈ (v2tail inp).strs, s ∉ stdNames) ∧
    (∀ s ∈ (v2tail inp).strs, ∃ new old, (new, old) ∈ inp.n2o ∧ glyphName inp.t old = some s) := by
  obtain ⟨hrd, _⟩ := subsetPost_v2_ok inp out hr h
  obtain ⟨hd, hmem⟩ := v2tail_strs inp
  refine ⟨hd, fun s hs => indexIn_none.mp ((hmem s).mp hs).1, fun s hs => ?_⟩
  obtain ⟨_, new, hj⟩ := (hmem s).mp hs
  obtain ⟨m, old, _, hin, _, hge, hg, hget⟩ := (mem_v2jobs inp new s).mp hj
  refine ⟨new, old, (oldToNew_iff hr.plan _ _).mp hg, ?_⟩
  rw [glyphName_v2 _ hrd hr.ver, origName?, if_pos hin, if_neg hge, hget]
  rfl

/-- the converse direction of minimality: a kept glyph's custom (non-standard) name is in the pool -/
theorem post_v2_custom_names_in_pool (inp : PostIn) (out : Bytes) (hr : PostReq inp)
    (h : subsetPost inp = .ok out) (new old : Nat) (hno : (new, old) ∈ inp.n2o) (name : Bytes)
    (hidx : ¬ u16At inp.t (34 + 2 * old) < 258) (hname : glyphName inp.t old = some name) (hstd : name ∉ stdNames) :
    name ∈ (v2tail inp).strs := by
  obtain ⟨hrd, _⟩ := subsetPost_v2_ok inp out hr h
  rw [glyphName_v2 _ hrd hr.ver, origName?] at hname
  by_cases hin : old < postNumGlyphs inp.t
  · rw [if_pos hin, if_neg hidx] at hname
    cases hm : inp.maxOld with
    | none => rw [hr.maxNone hm] at hno; cases hno
    | some m =>
      refine ((v2tail_strs inp).2 name).mpr ⟨indexIn_none.mpr hstd, new, (mem_v2jobs inp new name).mpr
        ⟨m, old, hm, hin, hr.maxSome m hm _ hno, hidx, (oldToNew_iff hr.plan _ _).mpr hno, ?_⟩⟩
      cases hg : (pstrAll (stringData inp.t))[u16At inp.t (34 + 2 * old) - 258]? with
      | none => rw [hg] at hname; cases hname
      | some item =>
        rw [hg] at hname
        cases item with
        | none => cases hname
        | some nm => rw [← Option.some.inj hname]
  · rw [if_neg hin] at hname; cases hname

/-- Without GLYPH_NAMES every readable post table (any version) becomes
its 32 header bytes with the version replaced by 3.0 and the other 28 bytes unchanged; read-fonts reads no glyph
name from it. -/
theorem post_non_glyph_names_is_v3_header (inp : PostIn) (out : Bytes)
    (hflag : hasFlag inp.flags F_GLYPH_NAMES = false) (h : subsetPost inp = .ok out) :
    out.length = 32 ∧ out.take 4 = [0, 3, 0, 0] ∧ out.drop 4 = (inp.t.take 32).drop 4 ∧
    ∀ gid, glyphName out gid = none := by
  unfold subsetPost at h
  by_cases hrd : postReadable inp.t = true
  · simp only [hrd, Bool.not_true, Bool.false_eq_true, if_false, hflag, false_and] at h
    simp only [Except.ok.injEq] at h
    have hlen : 32 ≤ inp.t.length := by
      unfold postReadable at hrd
      split at hrd <;> simp only [decide_eq_true_eq] at hrd <;> omega
    have hh : (inp.t.take 32).length = 32 := by simp; omega
    subst h
    rw [patch_zero]
    refine ⟨by rw [List.length_append, List.length_drop, hh]; rfl, List.take_left' rfl, List.drop_left' rfl, fun gid => ?_⟩
    have hv : ∀ r : Bytes, u32At ([0, 3, 0, 0] ++ r) 0 = 0x00030000 := u32At_zero_cons 0 3 0 0
    exact glyphName_other_version _ gid (by rw [hv]; decide) (by rw [hv]; decide)
  · simp [hrd] at h


/-- For every plan `Plan::new` builds (C17 `glyph_map_monotone_bijection`), with and
without retain-gids: the new→old list is strictly monotone in both components (`PlanMono`, hence `PlanOk`),
every new id is below `num_output_glyphs`, `plan.glyphset.last()` bounds every kept old id and is `None` only
when nothing is kept — the hypotheses of the theorems in this file. -/
theorem plan_hypotheses_hold (p : PlanIn) (pl : Plan) (h : makePlan p = some pl) (hn : p.num ≤ 65536) :
    PlanMono pl.n2o ∧ (∀ no ∈ pl.n2o, no.1 < pl.nout) ∧
    (∀ m, pl.glyphset.getLast? = some m → ∀ no ∈ pl.n2o, no.2 ≤ m) ∧
    (pl.glyphset.getLast? = none → pl.n2o = []) := by
  obtain ⟨hsorted, hren, hret⟩ := C17.glyph_map_monotone_bijection p pl h hn
  have key : pl.n2o.map (·.2) = pl.glyphset ∧ PlanMono pl.n2o ∧ ∀ no ∈ pl.n2o, no.1 < pl.nout := by
    unfold PlanMono
    cases hf : hasFlag p.flags F_RETAIN_GIDS with
    | false =>
      obtain ⟨h1, h2, h3⟩ := hren hf
      have a : pl.n2o.Pairwise (fun a b => a.1 < b.1) := by
        rw [← List.pairwise_map (f := fun x : Nat × Nat => x.1) (R := (· < ·)), h1]; exact List.pairwise_lt_range
      have b : pl.n2o.Pairwise (fun a b => a.2 < b.2) := by
        rw [← List.pairwise_map (f := fun x : Nat × Nat => x.2) (R := (· < ·)), h2]; exact hsorted
      refine ⟨h2, a.and b, fun no hno => ?_⟩
      have : no.1 ∈ pl.n2o.map (·.1) := List.mem_map_of_mem hno
      rw [h1] at this
      rw [h3]; simpa using this
    | true =>
      obtain ⟨h1, h2⟩ := hret hf
      rw [h1, List.pairwise_map]
      refine ⟨by simp [List.map_map, Function.comp_def], hsorted.imp (fun h => ⟨h, h⟩), fun no hno => ?_⟩
      obtain ⟨g, hg, rfl⟩ := List.mem_map.mp hno
      exact h2 g hg
  obtain ⟨holds, hmono, hbound⟩ := key
  refine ⟨hmono, hbound, ?_, ?_⟩
  · intro m hm no hno
    exact sorted_le_getLast hsorted hm _ (by rw [← holds]; exact List.mem_map_of_mem hno)
  · intro hnone
    have : pl.glyphset = [] := by
      cases hg : pl.glyphset with
      | nil => rfl
      | cons a tl => rw [hg] at hnone; simp [List.getLast?_cons] at hnone
    rw [this] at holds
    exact List.map_eq_nil_iff.mp holds

/-- the version 1.0 + NO_HINTING rewrite applies -/
def maxpDropsHints (flags : Nat) (d : Bytes) : Prop :=
  u16At d 0 * 65536 + u16At d 2 = 0x00010000 ∧ hasFlag flags F_NO_HINTING = true

instance (flags : Nat) (d : Bytes) : Decidable (maxpDropsHints flags d) := by unfold maxpDropsHints; infer_instance

/-- `Maxp::subset`: the output has the source's length, its numGlyphs
field reads `min(num_output_glyphs, 0xFFFF)`, and EVERY other byte is the source's byte — except, for a version
1.0 table under NO_HINTING, exactly the fourteen bytes 14..28 of the seven hinting limits, which read maxZones = 1
and maxTwilightPoints = maxStorage = maxFunctionDefs = maxInstructionDefs = maxStackElements =
maxSizeOfInstructions = 0.
Note: maxPoints, maxContours, maxCompositePoints, maxCompositeContours, maxComponentElements and
maxComponentDepth are COPIED, not recomputed for the kept glyphs (see `maxp_limits_still_bound`). -/
theorem maxp_num_glyphs_and_copied_bytes (flags nout : Nat) (d out : Bytes) (h : subsetMaxp flags nout d = some out) :
    out.length = d.length ∧ maxpNumGlyphs out = min nout 0xFFFF ∧
    (∀ i, i ≠ 4 → i ≠ 5 → (maxpDropsHints flags d → i < 14 ∨ 28 ≤ i) → out[i]? = d[i]?) ∧
    (maxpDropsHints flags d →
      u16At out 14 = 1 ∧ u16At out 16 = 0 ∧ u16At out 18 = 0 ∧ u16At out 20 = 0 ∧ u16At out 22 = 0 ∧
      u16At out 24 = 0 ∧ u16At out 26 = 0) := by
  unfold subsetMaxp at h
  extract_lets version d1 at h
  split at h
  · cases h
  rename_i hlen
  have hmin : min nout 0xFFFF < 65536 := by omega
  split at h
  · rename_i hv
    have hl : 32 ≤ d.length := by
      by_cases h32 : d.length < 32
      · exact absurd (Or.inr ⟨hv.1, h32⟩) hlen
      · omega
    -- after numGlyphs, seven writes at pairwise disjoint positions inside 14..28
    have e : out = setU16s (setU16 d 4 (min nout 0xFFFF)) [(14, 1), (16, 0), (18, 0), (20, 0), (22, 0), (24, 0), (26, 0)] := by
      simp only [setU16s, List.foldl_cons, List.foldl_nil]
      exact (Option.some.inj h).symm
    have hpos : ∀ w ∈ [(14, 1), (16, 0), (18, 0), (20, 0), (22, 0), (24, 0), (26, 0)],
        14 ≤ w.1 ∧ w.1 < 27 ∧ w.2 < 65536 := by decide
    have hfield : ∀ p v, (p, v) ∈ [(14, 1), (16, 0), (18, 0), (20, 0), (22, 0), (24, 0), (26, 0)] → u16At out p = v := by
      intro p v hm
      have := hpos _ hm
      rw [e]
      exact u16At_setU16s _ _ p v (by decide) hm this.2.2 (by rw [setU16_length]; omega)
    refine ⟨by rw [e, setU16s_length, setU16_length], ?_, ?_, fun _ => ?_⟩
    · rw [e]
      exact (u16At_setU16s_ne _ _ 4 (fun w hw => by have := hpos w hw; omega)).trans
        (u16At_setU16 d 4 _ hmin (by omega))
    · intro i h4 h5 hr
      have hr' := hr ⟨hv.1, hv.2⟩
      rw [e, setU16s_getElem?_ne _ _ i (fun w hw => by have := hpos w hw; omega)]
      exact setU16_getElem?_ne d 4 _ i h4 h5
    · exact ⟨hfield 14 1 (by decide), hfield 16 0 (by decide), hfield 18 0 (by decide), hfield 20 0 (by decide),
        hfield 22 0 (by decide), hfield 24 0 (by decide), hfield 26 0 (by decide)⟩
  · rename_i hv
    obtain rfl := Option.some.inj h
    have hl : 6 ≤ d.length := by
      by_cases h6 : d.length < 6
      · exact absurd (Or.inl h6) hlen
      · omega
    refine ⟨setU16_length _ _ _, u16At_setU16 _ _ _ hmin (by omega),
      fun i h4 h5 _ => setU16_getElem?_ne _ _ _ _ h4 (by omega), fun hd => absurd ⟨hd.1, hd.2⟩ hv⟩

/-- The six outline limits (maxPoints @6, maxContours @8, maxCompositePoints @10,
maxCompositeContours @12, maxComponentElements @28, maxComponentDepth @30) of a version 1.0 table are copied
unchanged, so whatever statistic they bounded over ALL glyphs of the source they still bound over any kept SUBSET
of those glyphs ("a maximum over a sublist is at most the maximum over the list").  The limits may thus be larger
than necessary; that the statistic of a kept glyph is the same in the subset as in the source is not part of this
statement (the harness recomputes it on the real subset: oracle `maxp-limits-still-bound-kept-glyphs`). -/
theorem maxp_limits_still_bound (flags nout : Nat) (d out : Bytes) (h : subsetMaxp flags nout d = some out)
    (field : Nat) (hf : field ∈ [6, 8, 10, 12, 28, 30])
    (stat : Nat → Nat) (all kept : List Nat) (hsub : ∀ g ∈ kept, g ∈ all)
    (hbound : ∀ g ∈ all, stat g ≤ u16At d field) :
    u16At out field = u16At d field ∧ ∀ g ∈ kept, stat g ≤ u16At out field := by
  obtain ⟨_, _, hcopy, _⟩ := maxp_num_glyphs_and_copied_bytes flags nout d out h
  have hfield : u16At out field = u16At d field := by
    have hpos : 6 ≤ field ∧ (field + 1 < 14 ∨ 28 ≤ field) := by
      simp only [List.mem_cons, List.not_mem_nil, or_false] at hf
      omega
    clear hf
    simp only [u16At, List.getD_eq_getElem?_getD]
    rw [hcopy field (by omega) (by omega) (fun _ => by omega),
        hcopy (field + 1) (by omega) (by omega) (fun _ => by omega)]
  exact ⟨hfield, fun g hg => by rw [hfield]; exact hbound g (hsub g hg)⟩

example : subsetMaxp 1 3 ([0, 1, 0, 0, 0, 9] ++ List.replicate 26 5) =
    some ([0, 1, 0, 0, 0, 3] ++ List.replicate 8 5 ++ [0, 1] ++ List.replicate 12 0 ++ List.replicate 4 5) := by decide +kernel

/-- `subset_head` (head of a glyf font): same length, indexToLocFormat reads
the format `write_glyf_loca` was run with, every byte other than 50 and 51 is the source's.  (checkSumAdjustment
at 8..12 is later recomputed for the new file by write-fonts' `FontBuilder::build`, outside klippa.)  A head
table shorter than 54 bytes is not readable (`font.head()`): `Glyf::subset` fails with it and glyf, loca and
head are all absent from the subset.  Without a glyf table `Head::subset` copies the table unchanged. -/
theorem head_only_loca_format_changed (head out : Bytes) (fmt : Nat) (hfmt : fmt < 256)
    (h : subsetHead head fmt = some out) :
    out.length = head.length ∧ headLocFormat out = fmt ∧ ∀ i, i ≠ 50 → i ≠ 51 → out[i]? = head[i]? := by
  unfold subsetHead at h
  split at h
  · cases h
  rename_i hl
  simp only [Option.some.injEq] at h
  subst h
  refine ⟨by simp, ?_, ?_⟩
  · exact (SubsetOutline.u16At_set_set head 50 0 fmt (by omega)).trans (Nat.zero_add _)
  · intro i h50 h51
    simp only [List.getElem?_set]
    rw [if_neg (fun e => h51 e.symm), if_neg (fun e => h50 e.symm)]

/-- the format the head receives is the one `write_glyf_loca` encoded the loca table with -/
theorem head_format_is_loca_format (head out : Bytes) (nout : Nat) (news : List Nat) (gs : List Bytes)
    (h : subsetHead head (writeGlyfLoca nout news gs).fmt = some out) :
    headLocFormat out = (writeGlyfLoca nout news gs).fmt ∧
    (headLocFormat out = 0 ↔ (gs.map (fun g => paddedSize g.length)).sum < 0x1FFFF) := by
  rw [writeGlyfLoca_fmt] at h ⊢
  by_cases hs : (gs.map (fun g => paddedSize g.length)).sum < 0x1FFFF
  · rw [if_pos hs] at h ⊢
    obtain ⟨_, hf, _⟩ := head_only_loca_format_changed head out 0 (by decide) h
    exact ⟨hf, fun _ => hs, fun _ => hf⟩
  · rw [if_neg hs] at h ⊢
    obtain ⟨_, hf, _⟩ := head_only_loca_format_changed head out 1 (by decide) h
    exact ⟨hf, fun e => absurd (hf.symm.trans e) (by decide), fun e => absurd e hs⟩

theorem head_no_glyf_unchanged (head out : Bytes) (h : subsetHeadNoGlyf head = some out) : out = head := by
  unfold subsetHeadNoGlyf at h
  split at h
  · cases h
  · simp only [Option.some.injEq] at h; exact h.symm

/-- The hhea tail of `Hmtx::subset`: same length, numberOfHMetrics reads
`new_num_h_metrics as u16`, every byte other than 34 and 35 is the source's.  The `unwrap()` on
`get_mut(34..36)` cannot fail: `font.hhea()` only succeeds on at least 36 bytes (and `font.hmtx()`, which comes
first, needs a readable hhea). -/
theorem hhea_only_num_h_metrics_changed (hhea out : Bytes) (numH : Nat) (h : subsetHhea hhea numH = some out) :
    out.length = hhea.length ∧ hheaNumH out = numH % 65536 ∧ ∀ i, i ≠ 34 → i ≠ 35 → out[i]? = hhea[i]? := by
  unfold subsetHhea at h
  split at h
  · cases h
  rename_i hl
  simp only [Option.some.injEq] at h
  subst h
  exact ⟨setU16_length _ _ _, u16At_setU16 _ _ _ (Nat.mod_lt _ (by omega)) (by omega),
    fun i h1 h2 => setU16_getElem?_ne _ _ _ _ h1 h2⟩

/-- Link to `C17.hmtx_preserved`: the numberOfHMetrics stored in the
subset's hhea is the `numH` = number of long metrics `Hmtx::subset` laid the subset's hmtx out with, so a reader
that splits hmtx by hhea.numberOfHMetrics (read-fonts `TableProvider::hmtx`) reads exactly the `longs` / `lsbs`
arrays `hmtx_preserved` speaks about, whose byte image has the length that split needs. -/
theorem hhea_num_h_metrics_is_hmtx_split (longs : List (Nat × Nat)) (lsbs : List Nat) (n2o : List (Nat × Nat))
    (nout : Nat) (o : HmtxOut) (h : subsetHmtx longs lsbs n2o nout = .ok o) (hn : nout ≤ 0xFFFF)
    (hhea out : Bytes) (hh : subsetHhea hhea o.numH = some out) :
    hheaNumH out = o.longs.length ∧ o.longs.length + o.lsbs.length = nout ∧
    o.bytes.length = 4 * hheaNumH out + 2 * (nout - hheaNumH out) := by
  obtain ⟨_, hnum, _⟩ := hhea_only_num_h_metrics_changed hhea out o.numH hh
  obtain ⟨h0, _, rfl⟩ := subsetHmtx_ok h
  have hle := (newNumHMetrics_spec longs n2o (Nat.pos_of_ne_zero h0) hn).2.1
  simp only [List.length_map, List.length_range] at hnum ⊢
  have hm : newNumHMetrics longs n2o nout % 65536 = newNumHMetrics longs n2o nout := Nat.mod_eq_of_lt (by omega)
  rw [hnum, hm]
  refine ⟨rfl, by omega, ?_⟩
  unfold HmtxOut.bytes
  rw [List.length_append, flatMap_uniform_length _ 4 _ (fun _ _ => rfl), flatMap_uniform_length _ 2 _ (fun _ _ => rfl)]
  simp only [List.length_map, List.length_range]


example : subsetHead (List.replicate 54 9) 1 = some (List.replicate 50 9 ++ [0, 1] ++ List.replicate 2 9) ∧
    subsetHead (List.replicate 53 9) 1 = none := by decide +kernel
example : subsetHhea (List.replicate 36 9) 5 = some (List.replicate 34 9 ++ [0, 5]) ∧
    subsetHhea (List.replicate 35 9) 5 = none := by decide +kernel

/-- `Vorg::subset` keeps the records of kept glyphs in SOURCE order with the new
glyph index.  With the plan's strictly monotone renumbering (`PlanMono`, C17 `glyph_map_monotone_bijection`) and
a source table sorted by glyph index (what `Vorg::vertical_origin_y`'s binary search presupposes), the emitted
table is readable, is STILL sorted by glyph index, keeps defaultVertOriginY, and for every kept glyph
`vertical_origin_y(subset, new) = vertical_origin_y(original, old)` — the record's value if the glyph is listed,
the default otherwise.  `count: u16` cannot overflow (at most 65535 source records). -/
theorem vorg_origin_preserved (n2o : List (Nat × Nat)) (srcGlyphs nout : Nat) (t out : Bytes)
    (hb : ∀ b ∈ t, b < 256) (hmono : PlanMono n2o) (hbound : ∀ no ∈ n2o, no.1 < nout) (hn : nout ≤ 65536)
    (hsorted : ((vorgRecords t).map (·.1)).Pairwise (· < ·))
    (h : subsetVorg n2o srcGlyphs nout t = .ok out) :
    vorgReadable out = true ∧
    ((vorgRecords out).map (·.1)).Pairwise (· < ·) ∧
    u16At out 4 = u16At t 4 ∧
    (∀ new old, (new, old) ∈ n2o →
      vorgOriginY out new = vorgOriginY t old ∧
      vorgOriginY t old = some (vorgLookup (vorgRecords t) old (u16At t 4))) := by
  obtain ⟨hr, hout⟩ := subsetVorg_ok n2o srcGlyphs nout t out h
  have hok := planMono_ok hmono hbound
  have hlen : 8 ≤ t.length := by
    unfold vorgReadable at hr
    simp only [Bool.and_eq_true, decide_eq_true_eq] at hr; exact hr.1
  have hh : (t.take 6).length = 6 := by simp; omega
  have hrecs : (vorgRecords t).length < 65536 := by
    unfold vorgRecords; simp only [List.length_map, List.length_range]; exact u16At_lt t hb 6
  have hc : (vorgKept (oldToNew n2o) (vorgRecords t)).length < 65536 :=
    Nat.lt_of_le_of_lt (List.length_filterMap_le _ _) hrecs
  have hv : ∀ r ∈ vorgKept (oldToNew n2o) (vorgRecords t), r.1 < 65536 ∧ r.2 < 65536 := by
    intro r hr'
    unfold vorgKept at hr'
    simp only [List.mem_filterMap] at hr'
    obtain ⟨x, hx, hx2⟩ := hr'
    split at hx2
    · cases hx2
    · simp only [Option.some.injEq] at hx2
      subst hx2
      refine ⟨Nat.mod_lt _ (by omega), ?_⟩
      unfold vorgRecords at hx
      simp only [List.mem_map, List.mem_range] at hx
      obtain ⟨k, _, rfl⟩ := hx
      exact u16At_lt t hb _
  obtain ⟨r1, r2, r3⟩ := vorgOut_reader (t.take 6) _ hh hc hv
  rw [← hout] at r1 r2 r3
  have hks := vorgKept_sorted hmono hbound hn (vorgRecords t) hsorted
  refine ⟨r1, by rw [r2]; exact hks, by rw [r3, SubsetOutline.u16At_take _ _ _ (by omega)], ?_⟩
  intro new old hno
  have hg : oldToNew n2o old = some new := (oldToNew_iff hok old new).mpr hno
  have e1 := vorgOriginY_sorted t hr hsorted old
  have e2 := vorgOriginY_sorted out r1 (by rw [r2]; exact hks) new
  refine ⟨?_, e1⟩
  rw [e2, e1, r2, r3, SubsetOutline.u16At_take _ _ _ (by omega), vorgLookup_kept hok hn new old _ hg]

/-- non-vacuity: records for glyphs 1 and 3, glyphs 0 and 3 kept -/
example : (subsetVorg [(0, 0), (1, 3)] 4 2 [0, 1, 0, 0, 3, 112, 0, 2, 0, 1, 3, 99, 0, 3, 3, 56]).toOption =
    some [0, 1, 0, 0, 3, 112, 0, 1, 0, 1, 3, 56] ∧
    vorgOriginY [0, 1, 0, 0, 3, 112, 0, 1, 0, 1, 3, 56] 1 = some 824 ∧
    vorgOriginY [0, 1, 0, 0, 3, 112, 0, 2, 0, 1, 3, 99, 0, 3, 3, 56] 3 = some 824 := by decide +kernel

/-- At this commit klippa has no vmtx subsetter: `subset_table` copies vmtx and
vhea byte for byte.  Stated here: the emitted table IS the source table (`passthrough t = t`, by the model's
definition), so reading it at a NEW glyph id answers what the ORIGINAL table answers at that same numeric id.  That
this is in general the metric of another glyph than the kept one (`old`) is not part of the statement: the example
below shows it.  This is the model side of known finding
`C17-vmtx-not-subset`; the harness oracle `vmtx-vertical-metrics-preserved` shows it on the real code. -/
theorem vmtx_passthrough_reads_new_id (t : Bytes) (numLong numGlyphs : Nat) (longs : List (Nat × Nat)) (tsbs : List Nat)
    (h : metricsOf t numLong numGlyphs = some (longs, tsbs)) (new : Nat) :
    passthrough t = t ∧
    ∃ longs' tsbs', metricsOf (passthrough t) numLong numGlyphs = some (longs', tsbs') ∧
      hmtxAdvance longs' new = hmtxAdvance longs new ∧ hmtxLsb longs' tsbs' new = hmtxLsb longs tsbs new :=
  ⟨rfl, longs, tsbs, h, rfl, rfl⟩

/-- concrete instance of the finding: 3 glyphs with advances 1000 / 1001 / 1002, glyphs 0 and 2 kept and
renumbered 0, 1: the subset reports 1001 (old glyph 1's advance) for new glyph 1 instead of 1002 -/
example : metricsOf (passthrough [3, 232, 0, 10, 3, 233, 0, 11, 3, 234, 0, 12]) 3 3 =
      some ([(1000, 10), (1001, 11), (1002, 12)], []) ∧
    hmtxAdvance [(1000, 10), (1001, 11), (1002, 12)] 1 = some 1001 ∧
    hmtxAdvance [(1000, 10), (1001, 11), (1002, 12)] 2 = some 1002 := by decide +kernel

/-- non-vacuity: a version 2.0 table with 3 glyphs (`.notdef`; custom "x"; custom "ab" = the third string, the
second string is empty and unused) subset to glyphs 0 and 2 -/
def exTable : Bytes :=
  [0, 2, 0, 0] ++ List.replicate 28 7 ++ [0, 3] ++ [0, 0, 1, 2, 1, 4] ++ [1, 120] ++ [0] ++ [2, 97, 98]
def exIn : PostIn := { flags := 0x80, nout := 2, maxOld := some 2, n2o := [(0, 0), (1, 2)], srcGlyphs := 3, t := exTable }
def exIn0 : PostIn := { flags := 0, nout := 2, maxOld := some 2, n2o := [(0, 0), (1, 2)], srcGlyphs := 3, t := exTable }
def exOut : Bytes := [0, 2, 0, 0] ++ List.replicate 28 7 ++ [0, 2] ++ [0, 0, 1, 2] ++ [2, 97, 98]

set_option maxRecDepth 100000 in
example : PostReq exIn := by
  refine ⟨by decide +kernel, by decide +kernel, by decide +kernel,
    ⟨by decide +kernel, by decide +kernel, by decide +kernel⟩, by decide +kernel, ?_, by simp [exIn]⟩
  intro m hm no hno
  simp only [exIn, Option.some.injEq] at hm
  subst hm
  simp only [exIn, List.mem_cons, List.not_mem_nil, or_false] at hno
  rcases hno with rfl | rfl <;> decide

set_option maxRecDepth 100000 in
example : (subsetPost exIn).toOption = some exOut ∧ glyphName exOut 1 = some [97, 98] ∧ glyphName exTable 2 = some [97, 98] ∧
    (v2tail exIn).strs = [[97, 98]] := by decide +kernel

set_option maxRecDepth 100000 in
example : (subsetPost exIn0).toOption = some ([0, 3, 0, 0] ++ List.replicate 28 7) := by decide +kernel

end FontVerif.C17Post
