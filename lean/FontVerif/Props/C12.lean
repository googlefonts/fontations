/-
C12 — drawing is well-formed and independent of buffers, history and threads.  Here: the pen grammar and the exact
success condition of `to_path`; the scratch-memory carve against the advertised size (both scalers); the zero-location
elision; copy-on-write slices and history-independent reconfiguring; the tie of the carve program and size formula to
the source text.  Continued in Props/C12Wbr.lean (write-before-read of the scratch buffer, instance state, threads).
-/
import FontVerif.Lemmas.ToPath
import FontVerif.Lemmas.Carve
import FontVerif.Model.DrawInst
import FontVerif.Lemmas.HintState
import FontVerif.Gen.C12Src
set_option linter.unusedVariables false
namespace FontVerif.C12
open FontVerif.ToPath FontVerif.Carve FontVerif.DrawInst FontVerif.HintState

/-! ## path grammar -/

/-- **Path grammar.** Whenever `to_path` returns `Ok`, the pen has received `(MoveTo Seg* Close)*`:
every contour is exactly one move, then line/quad/cubic segments, then one close, and no command
lies outside a contour.  For every coordinate type, both path styles, all point/flag/contour arrays. -/
theorem to_path_grammar (C : Coord) (style : Style) (pts : List (Int × Int)) (flags : List Nat)
    (contours : List Nat) (h : (toPath C style pts flags contours).2 = none) :
    Grammar (toPath C style pts flags contours).1 := by
  have := toPathGo_wf C style pts flags contours 0 0 h
  exact wellFormed_grammar _ _ (Nat.le_refl _) this

/-- the executable check the harness runs on real pen streams accepts exactly the grammar -/
theorem wellFormed_iff_grammar (l : List Cmd) : wellFormed l = true ↔ Grammar l :=
  ⟨wellFormed_grammar _ l (Nat.le_refl _), grammar_wellFormed l⟩

/-- **Totality without cubic flags.** If no flag has the `OFF_CURVE_CUBIC` bit and the contour end
points are non-decreasing and inside both arrays, `to_path` cannot fail (so every `glyf` simple glyph
without cubic flags yields a grammatical path). -/
theorem to_path_total_without_cubics (C : Coord) (style : Style) (pts : List (Int × Int))
    (flags : List Nat) (contours : List Nat) (hf : ∀ f ∈ flags, isCubic f = false)
    (hv : ContoursValid pts.length flags.length contours 0) :
    (toPath C style pts flags contours).2 = none :=
  toPathGo_total C style pts flags hf contours 0 0 hv

/-- **Error characterisation per contour.** `contour_to_path` succeeds exactly when the flag *kinds* of
the points it feeds to `PendingState::emit` are accepted by the four-state automaton `stepK`
(`contourOk` spells out which points are fed, per style). Coordinates never influence success. -/
theorem contour_error_iff_bad_flag_sequence (C : Coord) (style : Style) (pts : List Pt) (last : Pt) :
    (contourToPath C style pts last).2 = none ↔ contourOk style (pts.map (·.flags)) last.flags = true :=
  contourToPath_ok_iff C style pts last

/-- **Exact success condition for the whole outline.** `to_path` returns `Ok` iff the contour end
points are non-decreasing, inside the point and flag arrays, and every contour's flag sequence is
accepted (`toPathOkGo` is a function of the path style, the *number* of points, the flags and the
contour ends only): coordinates never decide between success and error. -/
theorem to_path_ok_iff (C : Coord) (style : Style) (pts : List (Int × Int)) (flags : List Nat)
    (contours : List Nat) :
    (toPath C style pts flags contours).2 = none ↔
      toPathOkGo style pts.length flags contours 0 = true :=
  toPathGo_ok_iff C style pts flags contours 0 0

/-- **Start point.** The first pen call of a contour is the `MoveTo` to: the first point if it is
on-curve; otherwise (off-curve quad) for FreeType style the last point if that is on-curve, else the
midpoint of last and first; for HarfBuzz style the second point if on-curve, else the midpoint of
first and second.  (An off-curve cubic first point, an empty contour and a HarfBuzz single off-curve
point produce no pen call at all.) -/
theorem contour_start_point (C : Coord) (style : Style) (pts : List Pt) (last : Pt) :
    (contourToPath C style pts last).1.head? =
      (startPoint C style pts last).map (fun p => Cmd.move (C.out p.x) (C.out p.y)) :=
  contourToPath_ind C style pts last (fun _ => True)
    (fun r => r.1.head? = (startPoint C style pts last).map (fun p => Cmd.move (C.out p.x) (C.out p.y)))
    (fun _ _ => trivial) trivial (fun _ _ _ _ => trivial) (fun h => by rw [h]; rfl) (fun _ _ _ h => by rw [h]; rfl)
    (fun start body h _ _ => by rw [h, runContour_head]; rfl)

/-- **Finite coordinates** (26.6 / 16.16 / i32 instantiation). If all input coordinates are `i32`s,
every coordinate handed to the pen — also on the error path — is `v as f32` of an `i32`, an integer of
magnitude ≤ 2³¹ before the constant power-of-two scale: never NaN or infinite.  (The wrapping
midpoint `a.wrapping_add(b) / 2` stays an `i32`.) -/
theorem to_path_coords_finite (style : Style) (pts : List (Int × Int)) (flags : List Nat)
    (contours : List Nat) (hp : ∀ xy ∈ pts, inI32 xy.1 ∧ inI32 xy.2) :
    ∀ c ∈ (toPath fixedCoord style pts flags contours).1, ∀ v ∈ c.coords,
      -2147483648 ≤ v ∧ v ≤ 2147483648 :=
  toPathGo_coords fixedCoord inI32 (fun v => -2147483648 ≤ v ∧ v ≤ 2147483648)
    (fun a b _ _ => midI32_inI32 a b) (fun v hv => f32RoundInt_bound v hv) style pts flags hp contours 0 0

-- non-vacuity: a triangle with an off-curve start, both styles; an error case
example : toPath fixedCoord .freeType [(640, 128), (256, 64), (640, 64), (128, 128)] [0, 0, 0, 0] [3]
    = ([.move 384 128, .quad 640 128 448 96, .quad 256 64 448 64, .quad 640 64 384 96,
        .quad 128 128 384 128, .close], none) := by decide
example : toPath fixedCoord .harfBuzz [(640, 128), (256, 64), (640, 64), (128, 128)] [0, 1, 0, 0] [3]
    = ([.move 256 64, .quad 640 64 384 96, .quad 128 128 384 128, .quad 640 128 256 64, .close], none) := by
  decide
example : (toPath fixedCoord .freeType [(0, 0), (1, 1), (2, 2)] [1, 128, 0] [2]).2
    = some (.expectedCubic 2) := by decide
example : (toPath fixedCoord .freeType [(0, 0)] [1] [0, 0]).2 = some (.contourOrder 1) := by decide
example : wellFormed [.move 0 0, .close, .move 1 1, .line 2 2, .close] = true := by decide
example : wellFormed [.move 0 0, .move 1 1, .close] = false := by decide
example : wellFormed [.move 0 0, .line 1 1] = false := by decide
example : wellFormed [.line 1 1, .close] = false := by decide

/-! ## scratch-memory carving -/

/-- what the caller is promised about a successful carve of `prog` out of `b` -/
def GoodLayout (prog : List Entry) (b : Buf) (ss : List Slice) : Prop :=
  -- one slice per `alloc_slice` call, with the requested name / element count / element size
  ss.map (fun s => (s.name, s.count, s.size)) = prog.map (fun e => (e.name, e.count, e.size)) ∧
  -- every non-empty slice lies inside the caller's buffer
  (∀ s ∈ ss, s.count ≠ 0 → b.addr ≤ s.addr ∧ s.addr + s.bytes ≤ b.addr + b.len) ∧
  -- non-empty slices are pairwise disjoint
  ss.Pairwise (fun s t => s.count ≠ 0 → t.count ≠ 0 → s.addr + s.bytes ≤ t.addr) ∧
  -- every non-empty slice is aligned for its element type
  (∀ p ∈ prog.zip ss, p.2.count ≠ 0 → p.2.addr % p.1.align = 0)

theorem carve_good (prog : List Entry) (b : Buf) (ss : List Slice) (hal : AllAlign prog)
    (h : carve prog b = some ss) : GoodLayout prog b ss := by
  exact laid_all _ _ _ _ (carve_laid prog b ss hal h)

/-- a buffer that holds the `need`ed bytes is carved, and well: for every program over the alignments in
use, at every base address.  The three sufficiency theorems below bound `need` by the advertised size. -/
theorem carve_sufficient (prog : List Entry) (b : Buf) (hal : AllAlign prog)
    (h : need prog b.addr ≤ b.len) : ∃ ss, carve prog b = some ss ∧ GoodLayout prog b ss := by
  obtain ⟨ss, hss⟩ := Option.isSome_iff_exists.mp ((carve_isSome_iff prog b hal).mpr h)
  exact ⟨ss, hss, carve_good prog b ss hal hss⟩

/-- **Buffer independence core (FreeType-style scaler).** For every glyph metric record, hinting
choice, base address (any alignment) and every buffer at least as long as
`Outline::required_buffer_size` advertises, `FreeTypeOutlineMemory::new` succeeds, and the slices have
the requested lengths, lie inside the buffer, are pairwise disjoint and aligned. -/
theorem ft_carve_sufficient (c : Counts) (embedded : Bool) (b : Buf)
    (hb : b.addr + b.len < 18446744073709551616) (hlen : requiredBufferSize c embedded ≤ b.len) :
    ∃ ss, ftCarve c embedded b = some ss ∧ GoodLayout (ftProgram c embedded) b ss := by
  exact carve_sufficient _ b (chain_allAlign _ 4 (ft_chain c embedded))
    (Nat.le_trans (ft_need_le c embedded b.addr) hlen)

/-- whenever `FreeTypeOutlineMemory::new` succeeds (also on buffers shorter than advertised), the
layout is good -/
theorem ft_carve_good (c : Counts) (embedded : Bool) (b : Buf) (ss : List Slice)
    (hb : b.addr + b.len < 18446744073709551616) (h : ftCarve c embedded b = some ss) :
    GoodLayout (ftProgram c embedded) b ss :=
  carve_good _ b ss (chain_allAlign _ 4 (ft_chain c embedded)) h

/-- **Exact failure condition.** The carve fails (`InsufficientMemory`) iff the buffer is shorter than
the payload plus the padding the base address forces (`need`); in particular a buffer smaller than
the payload always fails. -/
theorem ft_carve_none_iff (c : Counts) (embedded : Bool) (b : Buf)
    (hb : b.addr + b.len < 18446744073709551616) :
    ftCarve c embedded b = none ↔ b.len < need (ftProgram c embedded) b.addr := by
  have := carve_isSome_iff (ftProgram c embedded) b (chain_allAlign _ 4 (ft_chain c embedded))
  unfold ftCarve
  cases h : carve (ftProgram c embedded) b with
  | none => rw [h] at this; simp at this; simp; omega
  | some ss => rw [h] at this; simp at this; simp; omega

/-- the advertised size is tight up to the alignment slack: 4 bytes less than advertised already
fails at a suitably misaligned base -/
example : ftCarve ⟨10, 4, 4, 4, 4, 0, 0, 0, 0, false, true⟩ false ⟨1, 230 - 4⟩ = none := by decide
example : requiredBufferSize ⟨10, 4, 4, 4, 4, 0, 0, 0, 0, false, true⟩ false = 230 := by decide
example : (ftCarve ⟨10, 4, 4, 4, 4, 0, 0, 0, 0, false, true⟩ false ⟨1, 230⟩).isSome = true := by decide

/-- **The layout does not depend on the buffer length.** Two successful carves at the same base
address give the same slices, however long the buffers are. -/
theorem ft_carve_length_independent (c : Counts) (embedded : Bool) (a l1 l2 : Nat) (s1 s2 : List Slice)
    (h1 : a + l1 < 18446744073709551616) (h2 : a + l2 < 18446744073709551616)
    (hs1 : ftCarve c embedded ⟨a, l1⟩ = some s1) (hs2 : ftCarve c embedded ⟨a, l2⟩ = some s2) : s1 = s2 := by
  have hal := chain_allAlign _ 4 (ft_chain c embedded)
  rw [carve_eq_layoutAt _ _ s1 hal hs1, carve_eq_layoutAt _ _ s2 hal hs2]

/-- **The layout depends on the base address only through its residue modulo 4.** Moving the buffer by
a multiple of 4 moves every non-empty slice by exactly that amount (so offsets relative to the
buffer start are unchanged). -/
theorem ft_carve_base_shift (c : Counts) (embedded : Bool) (a k l1 l2 : Nat) (s1 s2 : List Slice)
    (h1 : a + l1 < 18446744073709551616) (h2 : a + 4 * k + l2 < 18446744073709551616)
    (hs1 : ftCarve c embedded ⟨a, l1⟩ = some s1) (hs2 : ftCarve c embedded ⟨a + 4 * k, l2⟩ = some s2) :
    s2 = s1.map (fun s => if s.count = 0 then s else { s with addr := s.addr + 4 * k }) := by
  have hal := chain_allAlign _ 4 (ft_chain c embedded)
  rw [carve_eq_layoutAt _ _ s1 hal hs1, carve_eq_layoutAt _ _ s2 hal hs2]
  exact layoutAt_shift _ a k hal

/-- a buffer sized for `Hinting::Embedded` is also large enough for the unhinted fallback that a
disabled hinting instance takes (`OutlineGlyph::draw`, `!hinting_instance.is_enabled()`) -/
theorem required_size_monotone_in_hinting (c : Counts) :
    requiredBufferSize c false ≤ requiredBufferSize c true := by
  have : total (ftProgram c false) ≤ total (ftProgram c true) := by
    rw [total_ftProgram, total_ftProgram, Bool.and_false]; exact Nat.le_add_right _ _
  rw [ft_total, ft_total]
  split <;> split <;> omega

/-- **HarfBuzz-style scaler.** `HarfBuzzOutlineMemory::new` interleaves 4-aligned slices with the
`u16`/`u8` slices, so it may pad twice (≤ 6 bytes) while `required_buffer_size` adds 4 bytes of slack.
It is nevertheless sufficient because the advertised size also counts the `unscaled` buffer
(`max_other_points · 8`) that this scaler never carves — or because there are no variation buffers. -/
theorem hb_carve_sufficient (c : Counts) (b : Buf)
    (hb : b.addr + b.len < 18446744073709551616) (hlen : requiredBufferSize c false ≤ b.len)
    (hslack : 1 ≤ c.maxOtherPoints ∨ c.hasVariations = false) :
    ∃ ss, hbCarve c b = some ss ∧ GoodLayout (hbProgram c) b ss := by
  refine carve_sufficient _ b (hb_allAlign c) ?_
  rw [ft_total, total_ftProgram, Bool.and_false, show ∀ n, Carve.cond false n = 0 from fun _ => rfl,
    Nat.add_zero] at hlen
  rcases hslack with h1 | h0
  · have := hb_need_le c b.addr
    split at hlen <;> omega
  · -- no variation buffers: only `hbHead` is carved
    have hz : need (hbTail c) (b.addr + need (hbHead c) b.addr) = 0 := by
      apply need_zero
      intro e he
      simp only [hbTail, h0, Carve.cond, List.mem_cons, List.mem_nil_iff, or_false] at he
      rcases he with rfl | rfl | rfl <;> rfl
    have ht : total (hbProgram c) = total (hbHead c) := by
      rw [total_hbProgram, h0]; simp only [hbHead, total, Carve.cond, Bool.false_eq_true, if_false]; omega
    rw [hb_split, need_append, hz]
    by_cases ht0 : total (hbHead c) = 0
    · have hc0 : ∀ e ∈ hbHead c, e.count = 0 := by
        apply total_zero_counts _ _ ht0
        intro e he
        simp only [hbHead, List.mem_cons, List.mem_nil_iff, or_false] at he
        rcases he with rfl | rfl | rfl <;> simp
      rw [need_zero _ _ hc0]; omega
    · have := need_le (hbHead c) b.addr 4 (by omega) (hbHead_chain c)
      split at hlen <;> omega

/-- the phantom-points-only case: no second padding can occur -/
theorem hb_need_phantom_only (c : Counts) (a : Nat)
    (h : c.points = 4 ∧ c.contours = 0 ∧ c.maxSimplePoints = 0) :
    need (hbProgram c) a ≤ requiredBufferSize c false := by
  obtain ⟨hp, hc, hs⟩ := h
  -- after `points` (32 bytes) and `flags` (4 bytes) the address is 4-aligned again
  have hhead : need (hbHead c) a = pad a 4 + 36 := by
    simp [hbHead, need, hp, hc, pad]; omega
  have hal : (a + need (hbHead c) a) % 4 = 0 := by
    have := pad_aligned a 4 (.inr (.inr rfl)); omega
  have hpad := pad_lt a 4 (.inr (.inr rfl))
  have hh : total (hbHead c) = 36 := by simp [hbHead, total, hp, hc]
  rw [hb_split, need_append, need_aligned _ _ 4 (hbTail_chain c) hal, hhead, ft_total,
    total_ftProgram, hb_split, total_append, hh]
  split <;> omega

/-- **HarfBuzz-style scaler on real glyphs.** For every metric record that `Outlines::outline`
can return (any glyph tree, any font limits), a buffer of the advertised size suffices for
`HarfBuzzOutlineMemory::new` at every base address: either a simple glyph was reached (then
`max_other_points ≥ 1` buys at least 8 spare bytes) or only the four phantom points are carved. -/
theorem hb_carve_sufficient_for_outlines (f : FontLimits) (g : Option Glyph) (c : Counts) (b : Buf)
    (hc : outlineCounts f g = some c)
    (hb : b.addr + b.len < 18446744073709551616) (hlen : requiredBufferSize c false ≤ b.len) :
    ∃ ss, hbCarve c b = some ss ∧ GoodLayout (hbProgram c) b ss := by
  rcases outlineCounts_inv f g c hc with h1 | h2
  · exact hb_carve_sufficient c b hb hlen (Or.inl h1)
  · exact carve_sufficient _ b (hb_allAlign c) (Nat.le_trans (hb_need_phantom_only c b.addr h2) hlen)

-- non-vacuity: a composite of a simple glyph, an empty glyph and a hinted nested composite
example : outlineCounts ⟨10, 5, 6, 7, true⟩
    (some (.composite [some (.simple 3 2 false), none, some (.composite [some (.simple 1 1 false)] true)] false))
    = some ⟨8, 3, 7, 7, 12, 10, 5, 6, 7, true, true⟩ := by decide
-- a composite whose components are all empty: phantom points only, `max_other_points = 0`
example : outlineCounts ⟨0, 0, 0, 0, true⟩ (some (.composite [none, none] false))
    = some ⟨4, 0, 0, 0, 6, 0, 0, 0, 0, false, true⟩ := by decide

/-- the side condition of `hb_carve_sufficient` is needed: for metric records that
`Outlines::outline` never produces (`max_other_points = 0` with points and variation buffers), a
buffer of the advertised size at base address ≡ 1 (mod 4) is too small -/
example : hbCarve ⟨1, 0, 1, 0, 0, 0, 0, 0, 0, false, true⟩ ⟨1, requiredBufferSize ⟨1, 0, 1, 0, 0, 0, 0, 0, 0, false, true⟩ false⟩
    = none := by decide

/-! ## zero-location elision -/

/-- **All-zero location ≙ no location.** `effective_coords` of an all-zero coordinate vector (of
any length) is the empty slice — the same value `LocationRef::default()` yields. -/
theorem effective_coords_zero (coords : List Int) (h : ∀ c ∈ coords, c = 0) :
    effectiveCoords coords = effectiveCoords [] := by
  unfold effectiveCoords isDefault
  have : coords.all (fun c => c == 0) = true := by
    rw [List.all_eq_true]; intro c hc; simp [h c hc]
  simp [this]

/-- a vector with a non-zero entry is passed through unchanged -/
theorem effective_coords_nonzero (coords : List Int) (h : ∃ c ∈ coords, c ≠ 0) :
    effectiveCoords coords = coords := by
  unfold effectiveCoords isDefault
  obtain ⟨c, hc, hne⟩ := h
  have h1 : coords.isEmpty = false := by cases coords <;> simp_all
  have h2 : coords.all (fun c => c == 0) = false := by
    rw [List.all_eq_false]; exact ⟨c, hc, by simp [hne]⟩
  simp [h1, h2]

example : effectiveCoords [0, 0, 0] = [] := by decide
example : effectiveCoords [0, 5, 0] = [0, 5, 0] := by decide

/-! ## per-draw copies and instance reuse (interpreter abstracted) -/

/-- **The copy-on-write CVT / storage slices do not depend on the scratch buffer.** Whatever bytes the
caller's buffer held (`g`, `g'`), every sequence of interpreter reads and writes observes exactly
what a private array initialised from the instance's values would show. -/
theorem cow_buffer_independent (data g g' : List Int) (ops : List CowOp)
    (hg : g.length = data.length) (hg' : g'.length = data.length) :
    (Cow.new data g).map (·.run ops) = some (arrRun data ops) ∧
    (Cow.new data g').map (·.run ops) = some (arrRun data ops) := by
  unfold Cow.new
  simp only [hg, hg', ne_eq, not_true_eq_false, if_false, Option.map_some]
  exact ⟨by rw [cow_run_view]; rfl, by rw [cow_run_view]; rfl⟩

/-- **Glyph programs never write through to the shared instance**: the `data` side (the
`HintInstance`'s `cvt` / `storage`) is unchanged by every operation. -/
theorem cow_never_writes_shared (c : Cow) (op : CowOp) : (c.step op).1.data = c.data :=
  (cow_step_view c op).2.2

/-- mismatching lengths are rejected: `CowSlice::new` returns `Err`, which `HintInstance::hint` unwraps (instance.rs) -/
example : Cow.new [1, 2, 3] [0, 0] = none := by decide
example : (Cow.new [1, 2, 3] [9, 9, 9]).map (·.run [.get 1, .set 1 7, .get 1, .get 0, .set 5 1, .len])
    = some [.got (some 2), .didSet true, .got (some 7), .got (some 1), .didSet false, .length 3] := by decide

/-- **Reconfiguring is history independent.** For every interpreter (`run`: any function of the state
handed to `Engine::new`), every previous instance state `s`, `s'` and every configuration, the result
of `HintInstance::reconfigure` is the same.  (All vectors but `instructions` are cleared before being
resized; `instructions` is only resized and is safe because `Engine::reset(Program::Font)` fills both
definition maps with the default — the proof uses exactly that.) -/
theorem reconfigure_history_independent {G E : Type} (run : EngineState G → Except E (EngineState G))
    (s s' : Inst G) (c : Cfg G) : reconfigure run s c = reconfigure run s' c := by
  unfold reconfigure setup
  simp only [resetDefs_resize]

/-- in particular a reused instance equals a fresh (`Default`) one -/
theorem reconfigure_reused_eq_fresh {G E : Type} (run : EngineState G → Except E (EngineState G))
    (s : Inst G) (c : Cfg G) (g0 : G) :
    reconfigure run s c = reconfigure run ⟨[], [], [], [], g0, [], [], [], 0, 0⟩ c :=
  reconfigure_history_independent run s _ c

-- non-vacuity: an "interpreter" that defines instruction 0 and writes storage; a dirty previous state
def exRun : EngineState Nat → Except Unit (EngineState Nat) := fun es =>
  .ok { es with instructions := es.instructions.set 0 (some (1, 2, 165, 0)), storage := es.storage.set 1 640 }
def exDirty : Inst Nat :=
  ⟨[some (0, 0, 0, 0)], [some (5, 6, 7, 8), some (1, 1, 1, 1)], [1], [2, 3], 9, [(1, 1)], [(2, 2)], [1], 3, 4⟩
def exCfg : Cfg Nat := ⟨1, 2, [64], 3, 1, 0, 8, 0, 1⟩
example : (reconfigure exRun exDirty exCfg).toOption.map
      (fun i => (i.instructions, i.storage, i.functions, i.graphics, i.twilightScaled))
    = some ([some (1, 2, 165, 0), none], [0, 640, 0], [none], 1, [(0, 0)]) := by rfl

/-! ## tie to the source text (data regenerated by translate/c12_src.py on every run) -/

theorem cond_true (n : Nat) : Carve.cond true n = n := rfl

open FontVerif.Gen.C12Src in
/-- the model's carve program *is* the sequence of `alloc_slice` calls found in
`FreeTypeOutlineMemory::new` (order, element sizes/alignments from the struct's field types, count
fields, conditions) -/
theorem ft_program_is_source (c : Counts) (embedded : Bool) :
    ftProgram c embedded = ftShapeSrc.map (instantiate c embedded) := by
  simp [ftProgram, ftShapeSrc, instantiate, condHolds, Counts.field, cond_true]

open FontVerif.Gen.C12Src in
theorem hb_program_is_source (c : Counts) :
    hbProgram c = hbShapeSrc.map (instantiate c false) := by
  simp [hbProgram, hbShapeSrc, instantiate, condHolds, Counts.field, cond_true]

open FontVerif.Gen.C12Src in
/-- the model's size formula is the linear form obtained by executing the statements of
`Outline::required_buffer_size` symbolically -/
theorem required_size_is_source (c : Counts) (embedded : Bool) :
    requiredBufferSize c embedded = evalSizeTable sizeTableSrc c (c.hasHinting && embedded) := by
  have slack : ∀ s t : Nat, s = t → (if s = 0 then 0 else s + 4) = if t = 0 then 0 else t + 4 :=
    fun _ _ h => h ▸ rfl
  rw [ft_total, total_ftProgram, total_hbProgram]
  unfold evalSizeTable
  cases (c.hasHinting && embedded) <;> cases c.hasVariations <;> refine slack _ _ ?_ <;>
    simp only [Carve.cond, Counts.field, List.map, List.sum, List.foldr, if_true, if_false,
      Bool.false_eq_true] <;>
    omega

open FontVerif.Gen.C12Src in
/-- struct declaration orders used for rendering; field/action table of `HintInstance::setup`; and
the completeness of the reset: no field of `struct HintInstance` survives a reconfigure -/
theorem source_tables_match_model :
    ftFieldOrder = ftFieldOrderSrc ∧
    instFieldsSrc = setupActions ∧
    resetComplete instFieldsSrc fontResetSrc = true := by decide

end FontVerif.C12
