/-
C13 — exact visit count of the shared-child composite DAG, and closed forms of the visit bound.
(Known finding C13-nested-paintglyph-exponential / DESIGN §6-7 and the shared-child PaintComposite DAG
found by C02: tables of a few hundred bytes whose painting is only stopped by the depth limit 64.)
-/
import FontVerif.Model.Paint
import FontVerif.Model.PaintBytes
import FontVerif.Lemmas.Paint
import FontVerif.Lemmas.PaintDepth
import FontVerif.Lemmas.PaintChain
import FontVerif.Props.C13
namespace FontVerif.C13Visits
open FontVerif.Paint

/-- **Exact: a DAG of `d` `PaintComposite` tables whose source and backdrop are the same next paint**
(`d + 1` paint tables, `8·d + 5` bytes, `d ≤ 63`) paints successfully and visits `2^(d+1) − 1` paint
nodes, for every client: both `Offset24`s are followed in full, nothing is shared at run time. -/
theorem composite_dag_visits (c : Client) (d : Nat) (h : d < MAX_TRAVERSAL_DEPTH) :
    ∃ st, paintV1 (compDag d) c 0 = some (none, st) ∧ st.visits = compVisits d ∧
      st.visits + 1 = 2 ^ (d + 1) := by
  obtain ⟨n, hn⟩ := comp_resolve_some d 0 (Nat.zero_le d)
  obtain ⟨ha, hv⟩ := comp_step d c d 0 (by omega) MAX_TRAVERSAL_DEPTH
    (by simp only [MAX_TRAVERSAL_DEPTH] at h ⊢; omega) n hn [0] St.init
  rw [paintV1_no_clip (pid := 0) rfl rfl hn]
  refine ⟨_, by rw [← ha], by rw [hv]; exact Nat.zero_add _, ?_⟩
  rw [hv]; simp only [St.init, Nat.zero_add]; exact compVisits_closed d

/-- **General upper bound, closed form**: with `k ≥ 2` bounding the length of every `PaintColrLayers`,
`visits · (k − 1) < k^64`. -/
theorem visit_bound_closed (inst : Instance) (c : Client) (k : Nat) (hk : 2 ≤ k) (hl : LayersBounded inst k)
    (gid : Gid) (r : Option PErr) (st : St) (h : paintV1 inst c gid = some (r, st)) :
    st.visits * (k - 1) < k ^ MAX_TRAVERSAL_DEPTH := by
  have hb := C13.visit_bound inst c k hk hl gid r st h
  have hc := geom_closed k (by omega) MAX_TRAVERSAL_DEPTH
  have : st.visits * (k - 1) ≤ geom k MAX_TRAVERSAL_DEPTH * (k - 1) := Nat.mul_le_mul_right _ hb
  omega

/-- **Graphs whose `PaintColrLayers` have at most two layers** (in particular graphs without any): fewer
than `2^64` visits — and `composite_dag_visits` / `C13.glyph_chain_visits` show that `2^64 − 1`
(`d = 63`) resp. `3·2^62 − 1` are reached, so the exponent is exact: `visits ≤ 2^depth − 1` with
`depth ≤ 64`. -/
theorem visit_bound_binary (inst : Instance) (c : Client) (hl : LayersBounded inst 2)
    (gid : Gid) (r : Option PErr) (st : St) (h : paintV1 inst c gid = some (r, st)) :
    st.visits < 2 ^ MAX_TRAVERSAL_DEPTH := by
  have := visit_bound_closed inst c 2 (by omega) hl gid r st h
  simpa using this

/-! ### non-vacuity, also from table bytes -/

private def unimpl : Client := Client.ofModes 1 0

example : (paintV1 (compDag 5) unimpl 0).map (fun r => (r.1, r.2.visits)) = some (none, 63) := by decide

/-- the tight case of `visit_bound_binary`'s hypothesis: `compDag` has no `PaintColrLayers` at all -/
example (d : Nat) : LayersBounded (compDag d) 2 := by
  intro id first num h
  simp only [compDag] at h
  split at h
  · cases h
  · split at h <;> cases h

/-- the COLR table bytes of the composite DAG of depth 3 (header, base glyph list: glyph 1 → paint @44,
three `PaintComposite`s of 8 bytes whose two offsets are both 8, one `PaintSolid`): 15 visits = 2^4 − 1 -/
private def compDagBytes3 : List Nat :=
  [0,1, 0,0, 0,0,0,0, 0,0,0,0, 0,0,
   0,0,0,34, 0,0,0,0, 0,0,0,0, 0,0,0,0, 0,0,0,0,
   0,0,0,1, 0,1, 0,0,0,10,
   32, 0,0,8, 3, 0,0,8,
   32, 0,0,8, 3, 0,0,8,
   32, 0,0,8, 3, 0,0,8,
   2, 0,0, 0x40,0]

example : (PaintBytes.paintBytes compDagBytes3 unimpl 1).map (fun r => (r.1, r.2.visits)) = some (none, 15) := by
  decide +kernel

/-- the bytes of a chain of three nested `PaintGlyph`s over a solid: 11 = 3·2^2 − 1 visits -/
private def glyphChainBytes3 : List Nat :=
  [0,1, 0,0, 0,0,0,0, 0,0,0,0, 0,0,
   0,0,0,34, 0,0,0,0, 0,0,0,0, 0,0,0,0, 0,0,0,0,
   0,0,0,1, 0,1, 0,0,0,10,
   10, 0,0,6, 0,9,
   10, 0,0,6, 0,9,
   10, 0,0,6, 0,9,
   2, 0,0, 0x40,0]

example : (PaintBytes.paintBytes glyphChainBytes3 unimpl 1).map (fun r => (r.1, r.2.visits)) = some (none, 11) := by
  decide +kernel

end FontVerif.C13Visits
