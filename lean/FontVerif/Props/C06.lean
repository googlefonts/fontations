/-
C06 — Built font files are well-formed sfnt containers that return the tables put in.
Property theorems only (helper lemmas and the vocabulary `Sorted`, `WFMap`, `Fits`, `fileSize` live in
Lemmas/Sfnt.lean and Lemmas/SfntBuild.lean).
Model: Model/Sfnt.lean ⇄ write-fonts/src/font_builder.rs, write-fonts/src/util.rs (SearchRange),
read-fonts/src/tables.rs (compute_checksum), read-fonts/src/lib.rs (FontRef::new, table_data).
-/
import FontVerif.Model.Sfnt
import FontVerif.Lemmas.Sfnt
import FontVerif.Lemmas.SfntBuild
namespace FontVerif.C06
open FontVerif.Sfnt

/-- Key lemma: the checksum of a concatenation whose first part is a whole number of 32-bit words
is the wrapping sum of the parts' checksums — for all byte lists. -/
theorem checksum_append_aligned (a b : Bytes) (h : a.length % 4 = 0) :
    checksum (a ++ b) = (checksum a + checksum b) % 4294967296 :=
  checksum_append a b h

example : checksum ([1, 2, 3, 4] ++ [255]) = (checksum [1, 2, 3, 4] + checksum [255]) % 4294967296 := by
  decide

/-- Zero padding a table to the next multiple of four does not change its checksum. -/
theorem checksum_zero_padding (d : Bytes) :
    checksum (d ++ zeros (round4 d.length - d.length)) = checksum d :=
  checksum_pad d

/-- The checksum is a `u32`. -/
theorem checksum_is_u32 (d : Bytes) : checksum d < 4294967296 := checksum_lt d

/-- every history of `add_raw` / `copy_missing_tables` leaves a strictly ascending map -/
theorem history_sorted (ops : List Op) : Sorted (runOps ops) := by
  refine foldl_inv Sorted applyOp ops (fun m op _ hm => ?_) [] (by simp [Sorted])
  cases op with
  | add t d => exact insert_sorted t d m hm
  | copy src =>
    simp only [applyOp]
    split
    · exact copyMissing_inv Sorted _ m hm (fun m t d h _ => insert_sorted t d m h)
    · exact hm

/-- `add_raw` all of `ops` (tag, bytes) in order -/
def addAll (ops : List (Nat × Bytes)) (m : Tables) : Tables :=
  ops.foldl (fun m op => addRaw m op.1 op.2) m

/-- The builder's state — hence the built file — does not depend on the order in which distinct
tags were added: for every permutation of an add-history with pairwise distinct tags, starting
from any builder state. -/
theorem insertion_order_irrelevant (ops ops' : List (Nat × Bytes)) (m : Tables)
    (hp : ops.Perm ops') (hd : (ops.map Prod.fst).Nodup) :
    addAll ops m = addAll ops' m ∧ build (addAll ops m) = build (addAll ops' m) := by
  have key : addAll ops m = addAll ops' m := by
    simp only [addAll, addRaw, insert_eq]
    exact SMap.foldl_insert_perm hp hd m
  exact ⟨key, by rw [key]⟩

example : ([(1, [7]), (2, [8]), (3, [])] : List (Nat × Bytes)).Perm [(3, []), (1, [7]), (2, [8])]
    ∧ (([(1, [7]), (2, [8]), (3, [])] : List (Nat × Bytes)).map Prod.fst).Nodup := by
  refine ⟨?_, by decide⟩
  exact List.perm_append_comm (l₁ := [(1, [7]), (2, [8])]) (l₂ := [(3, [])])

/-- A table supplied to the builder is what `get` returns, whatever is added for other tags later. -/
theorem add_raw_then_lookup (m : Tables) (t : Nat) (d : Bytes) :
    lookup (addRaw m t d) t = some d ∧ ∀ t', t' ≠ t → lookup (addRaw m t d) t' = lookup m t' :=
  ⟨lookup_insert_self t d m, fun t' h => lookup_insert_ne t t' d m h⟩

/-- Copying missing tables from any opened font (well-formed or not) never overrides a table the
builder already has, and never removes one. -/
theorem copy_missing_never_overrides (f : Font) (m : Tables) (t : Nat) (d : Bytes)
    (h : lookup m t = some d) : lookup (copyMissing f m) t = some d := by
  refine copyMissing_inv (fun m => lookup m t = some d) f m h (fun m t' d' hm hc => ?_)
  have hne : t ≠ t' := by
    intro e
    rw [contains_eq, ← e, hm] at hc
    cases hc
  rw [lookup_insert_ne _ _ _ _ hne]; exact hm

/-- … and the same through a whole history: once `add_raw t d` is the last add for `t`, later
`copy_missing_tables` operations leave `t ↦ d` in place. -/
theorem copies_after_add_keep (m : Tables) (t : Nat) (d : Bytes) (srcs : List Bytes) :
    lookup ((srcs.map Op.copy).foldl applyOp (addRaw m t d)) t = some d := by
  refine foldl_inv (fun m => lookup m t = some d) applyOp _ (fun m op hop hm => ?_) _
    (lookup_insert_self t d m)
  obtain ⟨s, _, rfl⟩ := List.mem_map.1 hop
  simp only [applyOp]
  split
  · exact copy_missing_never_overrides _ _ _ _ hm
  · exact hm

/-! ### the built file

Hypotheses, all explicit:
* `WFMap m`  — the builder's map invariant (strictly ascending tags: `history_sorted`) and every
  tag is a `u32`;
* `Fits m`   — the container's own size limits: at most 65535 tables (`numTables` is a `u16`:
  `TableDirectory::from_table_records` asserts it) and `fileSize m` = 12 + 16·n + Σ round4(len)
  < 2^32 (`u32` positions).  (The model follows /repo 0cd8c18: from 4096 tables on the `u16` search fields of
  `SearchRange::compute` saturate instead of panicking.);
* `build m = some f` — `f` is the file `FontBuilder::build` returns. -/

/-- Within the size limits `build` does not trap. -/
theorem build_total (m : Tables) (hf : Fits m) : ∃ f, build m = some f :=
  ⟨_, build_eq m hf⟩

/-- The built file has exactly the advertised size: header, directory, padded tables, nothing else. -/
theorem built_size (m : Tables) (hf : Fits m) (f : Bytes) (hb : build m = some f) :
    f.length = fileSize m := by
  rw [build_eq m hf] at hb
  simp only [Option.some.injEq] at hb
  subst hb
  rw [List.length_append, dirOf_length, bodyBytes_length, ents_bodyLen]
  unfold fileSize; omega

/-- The built file opens (`FontRef::new` succeeds) and announces one record per supplied table. -/
theorem build_opens (m : Tables) (hw : WFMap m) (hf : Fits m) (f : Bytes) (hb : build m = some f) :
    openFont f = .ok { data := f, numTables := m.length } :=
  (built_font m hw hf f hb).2.1

/-- The directory lists exactly the supplied tags, in strictly ascending order. -/
theorem dir_sorted_exact_tags (m : Tables) (hw : WFMap m) (hf : Fits m) (f : Bytes)
    (hb : build m = some f) :
    (records { data := f, numTables := m.length }).map (·.tag) = m.map Prod.fst ∧
      ((records { data := f, numTables := m.length }).map (·.tag)).Pairwise (· < ·) := by
  have h := (built_font m hw hf f hb).2.2
  rw [h, sortedOf_tags m hw.1]
  exact ⟨rfl, sorted_tags_pairwise m hw.1⟩

/-- `table_data(tag)` on the built file returns exactly the supplied bytes — for `head` of at
least 12 bytes with bytes 8..12 replaced by some `u32` `adj` (the checksum adjustment), see
`withAdj` — and `None` for every tag that was not supplied. -/
theorem table_data_returns (m : Tables) (hw : WFMap m) (hf : Fits m) (f : Bytes)
    (hb : build m = some f) :
    ∃ adj, adj < 4294967296 ∧
      (∀ t d, lookup m t = some d →
        tableData { data := f, numTables := m.length } t = some (withAdj adj t d)) ∧
      (∀ t, lookup m t = none → tableData { data := f, numTables := m.length } t = none) := by
  refine ⟨adjOf m, by unfold adjOf; exact Nat.mod_lt _ (by omega), ?_, ?_⟩
  · intro t d h
    exact built_tableData m hw hf f hb t d (mem_of_lookup_eq_some (lookup_eq m t ▸ h))
  · intro t h
    apply built_tableData_absent m hw hf f hb
    intro hmem
    obtain ⟨e, he, rfl⟩ := List.mem_map.1 hmem
    rw [lookup_eq, (lookup_eq_some_iff_mem (sorted_nodup_tags m hw.1) e.1 e.2).2 he] at h
    exact absurd h (by simp)

/-- … spelled out: same length; identical bytes unless the table is a `head` of ≥ 12 bytes, and
then identical outside bytes 8..12. -/
theorem table_data_same_but_adjustment (adj t : Nat) (d : Bytes) :
    (withAdj adj t d).length = d.length ∧
      (¬ (t = TAG_head ∧ 12 ≤ d.length) → withAdj adj t d = d) ∧
      (withAdj adj t d).take 8 = d.take 8 ∧ (withAdj adj t d).drop 12 = d.drop 12 := by
  refine ⟨withAdj_length adj t d, ?_, ?_, ?_⟩
  · intro h; unfold withAdj; rw [if_neg h]
  · unfold withAdj
    split
    · rename_i h; exact take8_splice _ _ _ (by omega)
    · rfl
  · unfold withAdj
    split
    · rename_i h; exact drop12_splice _ _ _ (by omega) (be4_length adj)
    · rfl

/-- Every table starts after the directory at a 4-byte aligned offset, lies inside the file
together with its padding, and the padding bytes are zero. -/
theorem aligned_zero_padded (m : Tables) (hw : WFMap m) (hf : Fits m) (f : Bytes)
    (hb : build m = some f) :
    ∀ r ∈ records { data := f, numTables := m.length },
      r.offset % 4 = 0 ∧ 12 + 16 * m.length ≤ r.offset ∧
      r.offset + round4 r.length ≤ f.length ∧
      (f.drop (r.offset + r.length)).take (round4 r.length - r.length)
        = zeros (round4 r.length - r.length) := by
  obtain ⟨hfeq, _, hrecs⟩ := built_font m hw hf f hb
  intro r hr
  rw [hrecs] at hr
  obtain ⟨d, hd, hlen, hcs, hpos, hmod, hend, hsl⟩ := rec_props m r hr
  rw [← hfeq] at hend hsl
  rw [hlen]
  refine ⟨hmod, by omega, hend, ?_⟩
  have hx : (withAdj (adjOf m) r.tag (zeroAdj r.tag d)).length = d.length := by
    rw [withAdj_length, zeroAdj_length]
  have hge := round4_ge d.length
  have e1 : List.drop (r.offset + d.length) f = List.drop d.length (List.drop r.offset f) := by
    rw [List.drop_drop]
  rw [e1, List.take_drop]
  have e2 : d.length + (round4 d.length - d.length) = round4 d.length := by omega
  rw [e2, hsl, List.drop_left' hx]

/-- Every directory checksum is the checksum of the table the file returns for that tag, with the
head table's adjustment field zeroed; the directory length is the table's length. -/
theorem dir_checksums (m : Tables) (hw : WFMap m) (hf : Fits m) (f : Bytes)
    (hb : build m = some f) :
    ∀ r ∈ records { data := f, numTables := m.length },
      ∃ got, tableData { data := f, numTables := m.length } r.tag = some got ∧
        r.length = got.length ∧ r.checksum = checksum (zeroAdj r.tag got) := by
  intro r hr
  have hr' := hr
  rw [(built_font m hw hf f hb).2.2] at hr'
  obtain ⟨d, hd, hlen, hcs, _⟩ := rec_props m r hr'
  refine ⟨withAdj (adjOf m) r.tag d, ?_, ?_, ?_⟩
  · exact built_tableData m hw hf f hb r.tag d hd
  · rw [withAdj_length]; exact hlen
  · rw [zeroAdj_withAdj]; exact hcs

/-- With a head table of at least 12 bytes the checksum of the whole file is 0xB1B0AFBA. -/
theorem whole_file_checksum (m : Tables) (hw : WFMap m) (hf : Fits m) (f : Bytes)
    (hb : build m = some f) (d : Bytes) (hh : lookup m TAG_head = some d) (hl : 12 ≤ d.length) :
    checksum f = 0xB1B0AFBA := by
  rw [build_eq m hf] at hb
  simp only [Option.some.injEq] at hb
  subst hb
  exact whole_checksum m hw.1 d (mem_of_lookup_eq_some (lookup_eq m _ ▸ hh)) hl

/-! ### the binary-search assist fields of the header

`searchRange`, `entrySelector`, `rangeShift` only speed up a binary search (`FontRef` ignores
them).  Below 4096 tables they are the OpenType formula; from 4096 tables on `16·2^⌊log₂ n⌋` does
not fit the `u16` field and saturates (`SearchRange::compute` after /repo 0cd8c18). -/

/-- The first twelve bytes of the built file: version 0x00010000, `numTables`, and the three
search fields `SearchRange::compute(n, 16)` yields, each a `u16`. -/
theorem header_fields (m : Tables) (hf : Fits m) (f : Bytes) (hb : build m = some f) :
    f.take 12 = be4 0x00010000 ++ be2 m.length ++ be2 (searchRange m.length 16).1 ++
        be2 (searchRange m.length 16).2.1 ++ be2 (searchRange m.length 16).2.2 ∧
      (searchRange m.length 16).1 < 65536 ∧ (searchRange m.length 16).2.1 < 65536 ∧
      (searchRange m.length 16).2.2 < 65536 := by
  rw [build_eq m hf] at hb
  simp only [Option.some.injEq] at hb
  subst hb
  refine ⟨?_, searchRange_u16 _ _⟩
  unfold dirOf dirBytes
  rw [sortedOf_length]
  simp [be4, be2]

/-- Fewer than 4096 tables: the fields are exactly the OpenType formula
(`searchRange = 16·2^⌊log₂ n⌋`, `entrySelector = ⌊log₂ n⌋`, `rangeShift = 16·n − searchRange`). -/
theorem search_fields_spec (n : Nat) (h : n < 4096) :
    searchRange n 16 = (2 ^ Nat.log2 n * 16, Nat.log2 n, n * 16 - 2 ^ Nat.log2 n * 16) := by
  unfold searchRange
  have hl : Nat.log2 n < 12 := by
    by_cases h0 : n = 0
    · subst h0; decide
    · exact (Nat.log2_lt h0).2 (by omega)
  have hp : 2 ^ Nat.log2 n ≤ 2048 := by
    have : 2 ^ Nat.log2 n ≤ 2 ^ 11 := Nat.pow_le_pow_right (by omega) (by omega)
    omega
  simp only []
  rw [if_pos (by omega), if_pos (by omega), if_pos (by omega)]

/-- 4096 to 65535 tables: `searchRange` saturates at 65535, `entrySelector` is still `⌊log₂ n⌋`
(at most 15), `rangeShift` is `16·n − 16·2^⌊log₂ n⌋` (computed from the unclamped search range)
saturated at 65535. -/
theorem search_fields_saturated (n : Nat) (h1 : 4096 ≤ n) (h2 : n ≤ 65535) :
    searchRange n 16 = (65535, Nat.log2 n, min (n * 16 - 2 ^ Nat.log2 n * 16) 65535) ∧
      12 ≤ Nat.log2 n ∧ Nat.log2 n ≤ 15 :=
  ⟨searchRange_sat n h1 h2, (Nat.le_log2 (by omega)).2 (by omega), log2_le_15 n h2⟩

example : searchRange 4095 16 = (32768, 11, 32752) := by decide
example : searchRange 4096 16 = (65535, 12, 0) := by decide
example : searchRange 4097 16 = (65535, 12, 16) := by decide
example : searchRange 8191 16 = (65535, 12, 65520) := by decide
example : searchRange 8192 16 = (65535, 13, 0) := by decide
example : searchRange 65535 16 = (65535, 15, 65535) := by decide

/-- every `add_raw` history whose tags are `u32`s yields a well-formed map (so the theorems above apply to
the result of any sequence of `add_raw`, given the size limits).  Partial: the full statement is the same for
`runOps` over `add_raw` / `copy_missing_tables` histories; `history_sorted` gives `Sorted` for those, that the tags
`copy_missing_tables` takes from a source font's directory are `u32`s is not proved. -/
theorem history_wf_partial (ops : List (Nat × Bytes)) (h : ∀ op ∈ ops, op.1 < 4294967296) :
    WFMap (addAll ops []) := by
  refine ⟨?_, ?_⟩
  · have := history_sorted (ops.map (fun op => Op.add op.1 op.2))
    unfold runOps at this
    unfold addAll
    rw [List.foldl_map] at this
    exact this
  · exact foldl_inv (fun m : Tables => ∀ e ∈ m, e.1 < 4294967296) _ ops
      (fun m op hop hm e he => (mem_insert he).elim (fun h' => h' ▸ h op hop) (hm e)) [] (by simp)

/-- non-vacuity: a concrete three-table map (head of 12 bytes, an odd-length table, an empty one)
satisfies every hypothesis, builds, and the conclusions can be observed on it. -/
example :
    let m : Tables := [(0x44534947, [1, 2, 3]), (0x68656164, [0, 1, 2, 3, 4, 5, 6, 7, 8, 9, 10, 11]),
      (0x7a7a7a7a, [])]
    WFMap m ∧ Fits m ∧ lookup m TAG_head = some [0, 1, 2, 3, 4, 5, 6, 7, 8, 9, 10, 11] ∧
      (build m).isSome = true := by
  refine ⟨⟨by simp [Sorted], by simp⟩, ⟨by simp, by simp [fileSize, bodyLen, round4]⟩, by decide, ?_⟩
  rw [build_eq _ ⟨by simp, by simp [fileSize, bodyLen, round4]⟩]; rfl

/-- non-vacuity where the search fields saturate: 4096 empty tables (tags 0..4095) satisfy `WFMap` and `Fits`,
so the font builds, opens and its header carries the saturated fields — obtained from the theorems,
without evaluating the 4096-table build. -/
example :
    let m : Tables := (List.range 4096).map (fun i => (i, []))
    WFMap m ∧ Fits m ∧ ∃ f, build m = some f ∧ f.length = 65548 ∧
      openFont f = .ok { data := f, numTables := 4096 } ∧
      f.take 12 = [0, 1, 0, 0, 16, 0, 255, 255, 0, 12, 0, 0] := by
  intro m
  have hlen : m.length = 4096 := by simp [m]
  have hbody : ∀ k, bodyLen ((List.range k).map (fun i => ((i, []) : Nat × Bytes))) = 0 := by
    intro k
    induction k with
    | zero => rfl
    | succ k ih =>
      rw [List.range_succ, List.map_append, bodyLen_perm List.perm_append_comm]
      simp [bodyLen, round4, ih]
  have hw : WFMap m := by
    refine ⟨?_, ?_⟩
    · unfold Sorted
      simp only [m, List.pairwise_map]
      exact List.pairwise_lt_range
    · intro e he
      simp only [m, List.mem_map, List.mem_range] at he
      obtain ⟨i, hi, rfl⟩ := he
      simp only []; omega
  have hfits : Fits m := by
    refine ⟨by omega, ?_⟩
    unfold fileSize
    rw [hlen, hbody 4096]; omega
  obtain ⟨f, hb⟩ := build_total m hfits
  refine ⟨hw, hfits, f, hb, ?_, ?_, ?_⟩
  · rw [built_size m hfits f hb]; unfold fileSize; rw [hlen, hbody 4096]
  · have := build_opens m hw hfits f hb
    rw [hlen] at this; exact this
  · have := (header_fields m hfits f hb).1
    rw [hlen] at this
    rw [this]
    decide

end FontVerif.C06
