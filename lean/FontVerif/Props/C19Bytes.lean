/-
C19 — the mapping tables FROM THEIR BYTES (Model/PatchMapBytes.lean ⇄ generated_ift.rs readers,
tables/ift.rs accessors, the order in which patchmap.rs consults them).
Helper lemmas: Lemmas/PatchMapBytes.lean.

`BR` = `ok` value / `err` = an `Err(ReadError)` VALUE / `trap` = a panic (`unwrap` of a getter that is
out of range, `usize` underflow, exhausted loop fuel of the sparse-bit-set model).
`d.length ≤ MAXU` (= `usize::MAX`) holds for every Rust slice.
-/
import FontVerif.Lemmas.PatchMapBytes
import FontVerif.Props.C19
namespace FontVerif.C19
open FontVerif.HandRead FontVerif.PatchMap FontVerif.PatchMapBytes FontVerif.PatchGroup

/-- For EVERY byte string: reading a format-2 table header, all its
mapping entries (`EntryData::read` + getters + sparse bit sets) and intersecting it with any subset
definition yields entries / uris or a `ReadError` value — never a panic.  (The getters' `unwrap`s
are in range after a successful `read`; the consumed-bytes subtraction cannot underflow because the
sparse-bit-set decoder returns a suffix of its input: C14 `decode_total`.) -/
theorem format2_decode_total (tag : TableTag) (d : List Nat) (hl : d.length ≤ MAXU) (sd : SubsetDef) :
    (∀ x, f2ReadHdr d = x → x ≠ .trap) ∧ (∀ x, decodeF2Bytes tag d = x → x ≠ .trap) ∧
    (∀ x, intersectF2Bytes tag d sd = x → x ≠ .trap) := by
  have hdr : f2ReadHdr d ≠ .trap := fun h => (f2ReadHdr_sat d).of_trap h hl
  have hdec : decodeF2Bytes tag d ≠ .trap := fun h => hdr ((decodeF2Bytes_sat tag d).of_trap h)
  refine ⟨fun x hx => hx ▸ hdr, fun x hx => hx ▸ hdec, fun x hx => ?_⟩
  subst hx
  unfold intersectF2Bytes
  cases hes : decodeF2Bytes tag d with
  | trap => exact absurd hes hdec
  | err e => nofun
  | ok es => nofun

/-- The same for format 1: header, glyph map, feature map (records and
entry-map records) from any byte string, any maxp glyph count and character map, then the
intersection with any subset definition: a value or a `ReadError` value, never a panic. -/
theorem format1_decode_total (tag : TableTag) (d : List Nat) (hl : d.length ≤ MAXU) (maxp : Nat)
    (cmap : List (Nat × Nat)) (sd : SubsetDef) :
    (∀ x, f1ReadHdr d = x → x ≠ .trap) ∧ (∀ x, f1TableOfBytes d maxp cmap = x → x ≠ .trap) ∧
    (∀ x, intersectF1Bytes tag d maxp cmap sd = x → x ≠ .trap) := by
  have hdr : f1ReadHdr d ≠ .trap := fun h => (f1ReadHdr_sat d).of_trap h hl
  have htab : f1TableOfBytes d maxp cmap ≠ .trap := fun h => hdr ((f1TableOfBytes_sat d maxp cmap).of_trap h)
  refine ⟨fun x hx => hx ▸ hdr, fun x hx => hx ▸ htab, fun x hx => ?_⟩
  subst hx
  unfold intersectF1Bytes
  cases ht : f1TableOfBytes d maxp cmap with
  | trap => exact absurd ht htab
  | err e => nofun
  | ok t => dsimp only; cases intersectF1 tag t sd <;> nofun

/-- When a format-2 table decodes, the decoded entry list is the
field-level decoding (`decodeF2`, the object of the theorems of Props/C19.lean) of the table read from the bytes with no
read error left over; entry `i` starts at byte `entries_offset + Σ_{j<i} size_j` of the table, that
byte EXISTS (`< d.length`), the entry ends inside the table, and its application (= ignored) bit index
is `start · 8 + 6` — bit 6 of the entry's own format-flags byte.  So the bit `glyph_keyed.rs` sets to
mark an entry applied always addresses a byte of the table. -/
theorem decoded_entries_within_table (tag : TableTag) (d : List Nat) (es : List Entry)
    (h : decodeF2Bytes tag d = .ok es) :
    ∃ t, f2TableOfBytes d = .ok (t, none) ∧ decodeF2 tag t = .ok es ∧ es.length = t.raws.length ∧
      t.entriesOffset ≤ d.length ∧
      ∀ i e, es[i]? = some e → ∃ r, t.raws[i]? = some r ∧
        e.uri.bit = (t.entriesOffset + sizeSum t.raws i) * 8 + 6 ∧
        t.entriesOffset + sizeSum t.raws i < d.length ∧
        t.entriesOffset + sizeSum t.raws i + r.size ≤ d.length ∧ e.uri.bit / 8 < d.length := by
  obtain ⟨t, ht, hes⟩ := (decodeF2Bytes_sat tag d).of_ok h
  obtain ⟨hoff, hasIds, n, hr⟩ := (f2TableOfBytes_sat d).of_ok ht
  dsimp only at hoff hr
  obtain ⟨enc, st, hst, rfl⟩ := decodeF2_ok hes
  -- the field-level decoder's start bytes are the sums of the sizes the entry loop read
  obtain ⟨es, hes, hlen, hbits⟩ := decodeEntries_start tag t enc _ _ _ hst
  rw [List.nil_append] at hes
  subst hes
  refine ⟨t, ht, hes, hlen, hoff, fun i e hi => ?_⟩
  have hir : i < t.raws.length := hlen ▸ (List.getElem?_eq_some_iff.1 hi).1
  have hb : e.uri.bit = (t.entriesOffset + sizeSum t.raws i) * 8 + 6 := hbits i e hi
  have hs := readRawEntries_sizes hasIds n (d.drop t.entriesOffset) i _
    (by rw [hr]; exact List.getElem?_eq_getElem hir)
  rw [hr, List.length_drop] at hs
  dsimp only at hs
  exact ⟨_, List.getElem?_eq_getElem hir, hb, by omega, by omega, by rw [hb]; omega⟩

/-- Format 2.  For the table BYTES: a successful
`add_intersecting_format2_patches` returns, in entry order and once each, exactly the uris of the
entries decoded from these bytes that are not ignored / applied and match the definition in the
declarative sense (`SpecMatch`: own conditions, conjunctive / disjunctive child entries); children
refer to prior entries; every uri carries the table's tag and compat id. -/
theorem offered_set_from_bytes_equals_spec (tag : TableTag) (d : List Nat) (sd : SubsetDef)
    (us : List PatchUri) (h : intersectF2Bytes tag d sd = .ok us) :
    ∃ (t : F2Table) (es : List Entry) (idx : List Nat),
      f2TableOfBytes d = .ok (t, none) ∧ decodeF2Bytes tag d = .ok es ∧ decodeF2 tag t = .ok es ∧
      WF es ∧ FromTable tag t.compat es ∧ idx.Pairwise (· < ·) ∧
      (∀ i, i ∈ idx ↔ ∃ e, es[i]? = some e ∧ e.ignored = false ∧ SpecMatch es sd i) ∧
      us = idx.map (fun i => offeredUri sd i (es.getD i default)) := by
  unfold intersectF2Bytes at h
  split at h
  · cases h
  · cases h
  · next es hes =>
    cases h
    obtain ⟨t, ht, hdec, _⟩ := decoded_entries_within_table tag d es hes
    have hinv := decodeF2_inv hdec
    exact ⟨t, es, offeredIdx es sd, ht, hes, hdec, hinv.1, hinv.2, offered_order es sd,
      fun i => offered_exact es sd hinv.1 i, rfl⟩

/-- For the table BYTES (plus the font's maxp glyph
count and character map): a successful `add_intersecting_format1_patches` offers exactly the entries
`k > 0` whose application bit — bit `k` of the bitmap at byte 36 of the table — is clear and that are
glyph-map entries of a requested codepoint or named by a firing entry-map record of a used feature
record (`format1_offer_exact` on the table read from the bytes). -/
theorem offered_set_from_bytes_equals_spec_format1 (tag : TableTag) (d : List Nat) (maxp : Nat)
    (cmap : List (Nat × Nat)) (sd : SubsetDef) (us : List PatchUri)
    (h : intersectF1Bytes tag d maxp cmap sd = .ok us) :
    ∃ t, f1TableOfBytes d maxp cmap = .ok t ∧ intersectF1 tag t sd = .ok us ∧ t.bitmapStart = 36 ∧
      ∃ enc, PatchFormat.ofNumber t.patchFormat = some enc ∧
      (∀ u, u ∈ us → ∃ k,
        stripInfo u = { template := t.template, id := .num k, enc := enc, table := tag,
                        compat := t.compat, bit := 36 * 8 + k, info := IntersectionInfo.zero }) ∧
      ∀ k, (∃ u, u ∈ us ∧ u.id = .num k) ↔
        (k > 0 ∧ isEntryApplied t.bitmap k = false ∧
          let G := glyphKey t (t.cmap.filter fun (p : Nat × Nat) => rMem (p.1 : Int) sd.cps)
          (G k ∨ (t.hasFeatureMap = true ∧ ∃ q, q ∈ selectedRecs t sd.feats ∧
              ∃ i, i ∈ List.range q.1.count ∧ fires t G q.1 q.2 i k))) := by
  unfold intersectF1Bytes at h
  cases ht : f1TableOfBytes d maxp cmap with
  | trap => rw [ht] at h; cases h
  | err e => rw [ht] at h; cases h
  | ok t =>
    rw [ht] at h
    dsimp only at h
    cases hus : intersectF1 tag t sd with
    | error e => rw [hus] at h; cases h
    | ok us' =>
      rw [hus] at h
      cases h
      obtain ⟨hd, hh, hb⟩ := (f1TableOfBytes_sat d maxp cmap).of_ok ht
      rw [(f1ReadHdr_sat d).of_ok hh] at hb
      obtain ⟨enc, henc, h1, h2⟩ := format1_offer_exact tag t sd us hus
      refine ⟨t, rfl, hus, hb, enc, henc, fun u hu => ?_, h2⟩
      obtain ⟨k, hk⟩ := h1 u hu
      exact ⟨k, by rw [hk, hb]⟩

/-! ## non-vacuity -/

section Examples

/-- a 41-byte format-2 table: one entry (flags 0x10, sparse bit set `0D 03 31` = {0..17}), template
"{id}", default format 2 -/
private def sampleBytes : List Nat :=
  [2, 0, 0, 0, 0, 1, 1, 1, 1, 1, 1, 1, 1, 1, 1, 1, 1, 1, 1, 1, 1, 2, 0, 0, 1, 0, 0, 0, 39, 0, 0, 0, 0,
   0, 4, 123, 105, 100, 125, 16, 13, 3, 49]

example : (match decodeF2Bytes .ift sampleBytes with
    | .ok es => es.map fun e => (e.sd.cps, e.uri.bit)
    | _ => []) = [([(0, 17)], 39 * 8 + 6)] := by decide +kernel

example : (match intersectF2Bytes .ift sampleBytes ⟨[(5, 5)], .set [], .ranges []⟩ with
    | .ok us => us.map fun u => (u.bit, u.info.cps)
    | _ => []) = [(39 * 8 + 6, 1)] := by decide +kernel

/-- truncated anywhere: an error value (here: inside the sparse bit set, inside the header) -/
example : (match decodeF2Bytes .ift (sampleBytes.take 42) with | .err e => e | _ => "?")
    = "err:Malformed:Failed_to_decode_sparse_bit_set_data_stream." := by decide +kernel
example : (match decodeF2Bytes .ift (sampleBytes.take 30) with | .err e => e | _ => "?")
    = "err:OutOfBounds" := by decide +kernel

end Examples

end FontVerif.C19
