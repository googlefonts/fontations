/-
C02 — skrifa and IFT client APIs are total on hostile fonts and arguments.

Core 1d: EVERY data opcode of the TrueType interpreter (Model/InterpData.lean `semAll`: storage, cvt, zone pointers,
reference points, point getters / movers, stack manipulation, pushes, arithmetic, rounding, GETINFO / GETVARIATION /
GETDATA, delta exceptions, IUP, and the loop-carrying opcodes of Model/InterpLoops.lean) with checked indices.

* `data_opcode_total`: for every opcode byte, every value stack within capacity and every data state satisfying the
  invariant `FInv`, `semAll` returns `Ok(stack', state')` with the invariant kept, the stack within capacity, the zone
  sizes / stack capacity / storage / cvt lengths unchanged and at most `work` loop iterations — or an error VALUE,
  never the panic marker `E_PANIC` that models an out-of-bounds index, a `copy_from_slice` length mismatch, a shift
  overflow or a `usize` underflow.
* `dispatch_total_concrete` / `run_returns_concrete` / `run_total_work_le_concrete`: the control machine of
  Model/Interp.lean instantiated with `semAll`: no hypothesis about the data opcodes is left.  The only parameter is
  `Arith` (rounding and the values read from point coordinates): total functions, see Props/C20.lean
  (`roundStateRound_no_trap`, `hMul_no_trap`, `hMulDiv_no_trap`, `hMulDivNoRound_no_trap`, `hMul14_no_trap`) and
  Props/C15.lean for the arithmetic behind them.
-/
import FontVerif.Lemmas.InterpData
import FontVerif.Props.C02Run
namespace FontVerif.C02
open FontVerif.Interp FontVerif.InterpLemmas FontVerif.InterpLoops FontVerif.InterpCost FontVerif.InterpData
open FontVerif.InterpRunLemmas FontVerif.InterpDataLemmas FontVerif.InterpLoopsLemmas

/-- how every arm of `semCore_out` reaches the conclusion of `semAll_ok`: `Step` on the loop state (which carries
    well-formedness and the unchanged sizes), the stack within the old capacity, and what the arm did to the rest -/
theorem coreOut_ok {f f' : F} {vs vs' : List Int} (hinv : FInv f) (hst : Step f.g vs f'.g) (hlen : vs'.length ≤ f.g.cap)
    (hs : f'.storage.Ok) (hc : f'.cvt.Ok) (hd : f'.deltaShift ≤ 6) (hk : Keep f f') :
    Step f.g vs f'.g ∧ vs'.length ≤ f'.g.cap ∧ FInv f' ∧ Keep f f' :=
  ⟨hst, hst.2.2.2.2.2 ▸ hlen, ⟨hst.1, hs, hc, hd, by rw [hst.2.2.2.2.1, hst.2.2.1]; exact hinv.2.2.2.2⟩, hk⟩

/-- a loop-carrying opcode run on the loop part of the state -/
theorem loop_branch (ped : Bool) (op : Nat) (f : F) (vs vs' : List Int) (g' : G) (hinv : FInv f)
    (hstk : vs.length ≤ f.g.cap) (h : semLoopOp ped op vs f.g = some (.ok (vs', g'))) :
    Step f.g vs ({ f with g := g' } : F).g ∧ vs'.length ≤ ({ f with g := g' } : F).g.cap ∧ FInv { f with g := g' } ∧
    Keep f { f with g := g' } := by
  exact coreOut_ok hinv (loop_opcode_bounded ped op vs vs' f.g g' hinv.1 h)
    (Nat.le_trans (semLoopOp_len ped op vs vs' f.g g' h) hstk) hinv.2.1 hinv.2.2.1 hinv.2.2.2.1 (Keep.refl _)

def CoreOut (f0 : F) (vs : List Int) (op : Nat) : ER → Prop :=
  Res (fun e => Kind e ∨ e = .data op) fun r => Step f0.g vs r.2.g ∧ r.1.length ≤ r.2.g.cap ∧ FInv r.2 ∧ Keep f0 r.2

theorem loop_wrap_out (ped : Bool) (op : Nat) (vs : List Int) (f0 : F) (x : Err) (hinv0 : FInv f0)
    (hstk0 : vs.length ≤ f0.g.cap) (hx : semLoopOp ped op vs f0.g = none → Kind x ∨ x = .data op) :
    CoreOut f0 vs op (match semLoopOp ped op vs f0.g with
      | some (.ok (vs', g')) => (Except.ok (vs', { f0 with g := g' }) : ER)
      | some (.error e) => .error e
      | none => .error x) := by
  cases hl : semLoopOp ped op vs f0.g with
  | none => exact hx hl
  | some r =>
    cases r with
    | ok y => exact loop_branch ped op f0 vs y.1 y.2 hinv0 hstk0 hl
    | error e => exact .inl (semLoopOp_kind ped op vs f0.g _ hl e rfl)

theorem semCore_out (A : Arith) (ped : Bool) (op : Nat) (bytes : List Nat) (vs : List Int) (f0 : F)
    (hinv0 : FInv f0) (hstk0 : vs.length ≤ f0.g.cap) : CoreOut f0 vs op (semCore A ped op bytes vs f0) := by
  unfold semCore
  dsimp only
  apply ite_elim <;> intro c1
  · by_cases c2 : 0x20 ≤ op ∧ op ≤ 0x24
    · -- DUP POP CLEAR SWAP DEPTH: only the stack changes
      have hs := semSubset_out ped op bytes vs f0.g.cap
      generalize semSubset ped op bytes (vs, f0.g.cap) = x at hs ⊢
      cases x with
      | error e => exact hs
      | ok r => dsimp only; rw [if_pos c2]; exact ⟨step_refl _ _ hinv0.1, hs.1 hstk0, hinv0, Keep.refl _⟩
    · -- pushes: one copy per operand, and they fit
      rw [semSubset_push ped bytes vs f0.g.cap (c1.imp_right (·.imp_right (·.resolve_right c2)))]
      by_cases h : vs.length + (operandValues op bytes).length ≤ f0.g.cap
      · rw [if_pos h]
        dsimp only
        rw [if_neg c2]
        refine coreOut_ok hinv0 ⟨hinv0.1, ?_, rfl, rfl, rfl, rfl⟩
          (by rw [List.length_append, List.length_reverse]; omega) hinv0.2.1 hinv0.2.2.1 hinv0.2.2.2.1 (Keep.refl _)
        simp only [work]; omega
      · rw [if_neg h]; exact .inl kind_overflow
  -- ROLL
  apply ite_elim <;> intro c2
  · have h := opRoll_res ped f0.g.cap vs
    generalize opRoll ped f0.g.cap vs = r at h
    cases r with
    | error e => exact .inl h
    | ok vs1 => exact ⟨step_refl _ _ hinv0.1, h, hinv0, Keep.refl _⟩
  -- CINDEX / MINDEX
  apply ite_elim <;> intro c3
  · rw [if_neg (by omega)]
    exact loop_wrap_out ped op vs f0 _ hinv0 hstk0 fun hn => absurd hn (semLoopOp_ne_none ped op (.inl c3) vs f0.g)
  -- DELTAP
  apply ite_elim <;> intro c4
  · rw [if_neg (by have := hinv0.2.2.2.1; omega)]
    exact loop_wrap_out ped op vs f0 _ hinv0 hstk0 fun hn => absurd hn (semLoopOp_ne_none ped op (.inr c4) vs f0.g)
  -- DELTAC
  apply ite_elim <;> intro c5
  · rw [if_neg (by have := hinv0.2.2.2.1; omega)]
    unfold opDeltaC
    refine pop_bind (.inl kind_underflow) fun n vs1 hl1 => ?_
    dsimp only
    apply ite_elim <;> intro _
    · exact .inl kind_lit
    · have hd := deltaCLoop_res ped f0.g.ppem ((if op = 0x74 then 16 else if op = 0x75 then 32 else 0) + f0.g.deltaBase)
        f0.deltaShift (min (if n < 0 then 0 else n.toNat) (vs1.length / 2)) vs1 f0.cvt 0 hinv0.2.2.1
      generalize deltaCLoop ped f0.g.ppem _ f0.deltaShift _ vs1 f0.cvt 0 = x at hd
      cases x with
      | error e => exact .inl hd
      | ok y =>
        obtain ⟨vs2, c2, k⟩ := y
        obtain ⟨k1, k2, k3, k4⟩ := hd
        dsimp only at k1 k2 k3 k4
        refine coreOut_ok hinv0 ⟨hinv0.1, ?_, rfl, rfl, rfl, rfl⟩ (show vs2.length ≤ f0.g.cap by omega) hinv0.2.1 k4 hinv0.2.2.2.1 ⟨rfl, k3, rfl, rfl⟩
        simp only [work]
        have : min (if n < 0 then 0 else n.toNat) (vs1.length / 2) ≤ vs1.length / 2 := Nat.min_le_right _ _
        omega
  -- IUP
  apply ite_elim <;> intro c6
  · have hng : ¬ ((!(f0.g.bc && f0.g.didX && f0.g.didY)) = true ∧ f0.g.glyphContours ≠ [] ∧ f0.g.glyphPts = 0) := by
      intro ⟨_, h2, h3⟩
      have := hinv0.2.2.2.2 h2
      omega
    rw [if_neg hng]
    obtain ⟨g1, hl, q1, q2, q3, q4, q5, q6⟩ := semLoopOp_iup ped op c6 vs f0.g
    rw [hl]
    dsimp only
    obtain ⟨i1, i2, i3, i4, i5⟩ := hinv0
    -- the scan work: nothing when IUP is skipped or there is no contour, else at most 4 × points
    have hw : (if (!(f0.g.bc && f0.g.didX && f0.g.didY)) = true then
                 InterpLoops.iup (A.touched f0.nAbs) f0.g.glyphPts f0.g.glyphContours 0 0 else 0) ≤ 4 * f0.g.glyphPts := by
      split
      · by_cases hc : f0.g.glyphContours = []
        · rw [hc]; simp [InterpLoops.iup]
        · have := iup_work_le (A.touched f0.nAbs) f0.g.glyphPts (i5 hc) f0.g.glyphContours
          exact this
      · omega
    refine coreOut_ok ⟨i1, i2, i3, i4, i5⟩
      ⟨⟨by simp only []; rw [q2]; exact i1.1, by simp only []; rw [q5]; exact i1.2⟩, ?_, q3, q4, q5, q6⟩ hstk0 i2 i3 i4
      ⟨rfl, rfl, rfl, rfl⟩
    simp only [work]; rw [q1]; omega
  -- the fixed-arity opcodes
  apply ite_elim <;> intro c7
  · have hp := popN_res kind_underflow ped (arity op) vs
    generalize popN ped (arity op) vs = x at hp ⊢
    cases x with
    | error e => exact .inl hp
    | ok r =>
      obtain ⟨args, vs1⟩ := r
      have hl1 : vs1.length ≤ vs.length := hp.2
      dsimp only
      have hs : f0.storage.okb = true := (cow_okb_iff _).2 hinv0.2.1
      have hc : f0.cvt.okb = true := (cow_okb_iff _).2 hinv0.2.2.1
      rw [if_neg (by simp [hs, hc])]
      cases he : effect A ped op args f0 with
      | error e => exact .inl (derr_kind e)
      | ok y =>
        obtain ⟨outs, u⟩ := y
        dsimp only
        have hpu := pushAll_res kind_overflow f0.g.cap vs1 outs
        generalize pushAll f0.g.cap vs1 outs = x at hpu ⊢
        cases x with
        | error e => exact .inl hpu
        | ok vs2 =>
          obtain ⟨p1, p2⟩ := hpu
          have ⟨a1, a2, a3, a4, a5, a6⟩ := apply_g f0 u
          obtain ⟨i1, i2, i3, i4, _⟩ := apply_inv f0 u hinv0
          refine coreOut_ok hinv0 ⟨i1, ?_, a1, a2, a3, a4⟩ p1 i2 i3 i4 (apply_keep f0 u)
          simp only [work]; rw [a5]; omega
  -- the remaining loop-carrying opcodes
  exact loop_wrap_out ped op vs f0 _ hinv0 hstk0 (fun _ => .inr rfl)

/-- **a successful data opcode**: `Step` on the loop state (well-formedness, zone sizes, contour list and stack
    capacity unchanged, at most `work` iterations), the stack within capacity, the invariant kept, and the storage /
    cvt lengths, the program and the axis count unchanged -/
theorem semCore_ok (A : Arith) (ped : Bool) (op : Nat) (bytes : List Nat) (vs vs' : List Int) (f0 f' : F)
    (hinv0 : FInv f0) (hstk0 : vs.length ≤ f0.g.cap) (h : semCore A ped op bytes vs f0 = .ok (vs', f')) :
    Step f0.g vs f'.g ∧ vs'.length ≤ f'.g.cap ∧ FInv f' ∧ Keep f0 f' := by
  have := semCore_out A ped op bytes vs f0 hinv0 hstk0
  rw [h] at this; exact this

theorem semAll_ok (A : Arith) (ped : Bool) (op : Nat) (bytes : List Nat) (vs vs' : List Int) (f f' : F)
    (hinv : FInv f) (hstk : vs.length ≤ f.g.cap) (h : semAll A ped op bytes (vs, f) = .ok (vs', f')) :
    Step f.g vs f'.g ∧ vs'.length ≤ f'.g.cap ∧ FInv f' ∧ Keep f f' :=
  semCore_ok A ped op bytes vs vs' { f with pend := false } f' hinv hstk h

/-- **no data opcode panics**: on a state satisfying the invariant, with the stack within capacity, every error of
    every opcode byte is an error value other than `E_PANIC`, the marker of an out-of-bounds index, a `copy_from_slice`
    length mismatch, a shift overflow or a `usize` underflow -/
theorem semCore_kind (A : Arith) (ped : Bool) (op : Nat) (hop : op < 256) (bytes : List Nat) (vs : List Int) (f0 : F)
    (hinv0 : FInv f0) (hstk0 : vs.length ≤ f0.g.cap) : EP (semCore A ped op bytes vs f0) := by
  intro e he
  have := semCore_out A ped op bytes vs f0 hinv0 hstk0
  rw [he] at this
  exact kind_of_data hop this

/-- **every data opcode is total with checked indices** (`Cfg.sem = semAll`): for every opcode byte 0..=255, every
    value stack within capacity and every data state satisfying `FInv`, the result is `Ok(stack', state')` with the
    invariant kept, the stack within capacity, zone sizes / capacities / storage and cvt lengths unchanged and at most
    `work` loop iterations — or `Err(e)` with `e` not the panic marker `E_PANIC` -/
theorem data_opcode_total (A : Arith) (ped : Bool) (op : Nat) (hop : op < 256) (bytes : List Nat) (vs : List Int) (f : F)
    (hinv : FInv f) (hstk : vs.length ≤ f.g.cap) :
    (∃ vs' f', semAll A ped op bytes (vs, f) = .ok (vs', f') ∧
        Step f.g vs f'.g ∧ vs'.length ≤ f'.g.cap ∧ FInv f' ∧ Keep f f') ∨
    (∃ e, semAll A ped op bytes (vs, f) = .error e ∧ e ≠ E_PANIC) := by
  cases h : semAll A ped op bytes (vs, f) with
  | ok r =>
    left
    obtain ⟨vs', f'⟩ := r
    exact ⟨vs', f', rfl, semAll_ok A ped op bytes vs vs' f f' hinv hstk h⟩
  | error e =>
    right
    exact ⟨e, rfl, semCore_kind A ped op hop bytes vs { f with pend := false } hinv hstk e h⟩

/-- the machine of Model/Interp.lean instantiated with `semAll` -/
def fullCfg (A : Arith) (font cv glyph : Array Nat) (limit : Nat) (ped : Bool) (axes : Nat) : Cfg F :=
  { font := font, cv := cv, glyph := glyph, limit := limit, pedantic := ped, sem := semAll A ped, axisCount := axes }

/-- a program is a byte string -/
def Bytes (a : Array Nat) : Prop := ∀ i (h : i < a.size), a[i] < 256

/-- `semAll` honours the per-dispatch contract of Props/C02Run.lean, with `FInv` as the invariant of the data state -/
theorem semAll_semOk (A : Arith) (ped : Bool) : SemOk (semAll A ped) (fun f => f.g) FInv := by
  intro op bytes vs f vs' f' hI hw hstk h
  have := semAll_ok A ped op bytes vs vs' f f' hI hstk h
  exact ⟨this.1, this.2.1, this.2.2.1⟩

/-- **`dispatch` is total for every opcode byte, with no assumption about the data opcodes**: on a state whose data part satisfies the
    invariant and whose stack is within capacity, the dispatch of ANY opcode byte returns `Ok(next state)` — invariant
    kept, stack within capacity, zone sizes / stack capacity / storage and cvt lengths / definition-table lengths
    unchanged — or `Err(e)` with `e` not the panic marker `E_PANIC`: never an index panic -/
theorem dispatch_total_concrete (A : Arith) (font cv glyph : Array Nat) (limit : Nat) (ped : Bool) (axes : Nat)
    (s : St F) (op : Nat) (hop : op < 256) (ops : List Nat) (hinv : FInv s.data) (hstk : s.vs.length ≤ s.data.g.cap) :
    let c := fullCfg A font cv glyph limit ped axes
    (∃ s2, dispatch c s op ops = some (.ok s2) ∧ FInv s2.data ∧ s2.vs.length ≤ s2.data.g.cap ∧
        s2.data.g.glyphPts = s.data.g.glyphPts ∧ s2.data.g.twiPts = s.data.g.twiPts ∧
        s2.data.g.cap = s.data.g.cap ∧ Keep s.data s2.data ∧
        s2.funcs.length = s.funcs.length ∧ s2.idefs.length = s.idefs.length) ∨
    (∃ e, dispatch c s op ops = some (.error e) ∧ e ≠ E_PANIC) := by
  intro c
  obtain ⟨r, hr⟩ := dispatch_total c s op ops
  cases r with
  | ok s2 =>
    left
    refine ⟨s2, hr, ?_⟩
    rcases dispatch_shape hr with ⟨c1, c2, c3, c4⟩ | ⟨hs, hf, hi, _⟩
    · rw [c1]
      exact ⟨hinv, Nat.le_trans c2 hstk, rfl, rfl, rfl, Keep.refl _, c3, c4⟩
    · have := semAll_ok A ped op ops s.vs s2.vs s.data s2.data hinv hstk hs
      obtain ⟨⟨_, _, e1, e2, _, e4⟩, h2, h3, h4⟩ := this
      exact ⟨h3, h2, e1, e2, e4, h4, by rw [hf], by rw [hi]⟩
  | error e =>
    right
    refine ⟨e, hr, ?_⟩
    rcases dispatch_err hr with hc | hs
    · exact hc 1999
    · exact semCore_kind A ped op hop ops s.vs { s.data with pend := false } hinv hstk e hs

/-- one iteration of the run loop never produces the panic marker -/
theorem step_failed_kind (A : Arith) (font cv glyph : Array Nat) (hb : Bytes font ∧ Bytes cv ∧ Bytes glyph)
    (limit : Nat) (ped : Bool) (axes : Nat) (s : St F) (hr : s.status = .running)
    (hinv : FInv s.data) (hstk : s.vs.length ≤ s.data.g.cap) (e : Err)
    (h : (step (fullCfg A font cv glyph limit ped axes) s).status = .failed e) : e ≠ E_PANIC := by
  have hbytes : Bytes ((fullCfg A font cv glyph limit ped axes).code s.current) := by
    unfold Cfg.code fullCfg
    exact ite_elim (fun _ => hb.1) fun _ => ite_elim (fun _ => hb.2.1) fun _ => hb.2.2
  rcases step_err hr h with hce | ⟨op, ops, ipc, next, hd, hs⟩
  · exact hce 1999
  · exact semCore_kind A ped op (decode_op_lt hbytes hd) ops s.vs { s.data with pend := false } hinv hstk e hs

/-- **`Engine::run` returns, with NO assumption about the data opcodes**: for every three byte-string programs, every
    budget, pedantic or not, any axis count, any definition tables, any value stack within capacity and any data state
    satisfying the invariant (any zone sizes, storage / cvt contents, graphics state), and any arithmetic oracle, the
    run ends `Ok(())` or with an error value other than the panic marker `E_PANIC` — it never gets stuck, never runs on,
    and no data opcode indexes out of range -/
theorem run_returns_concrete (A : Arith) (font cv glyph : Array Nat) (hb : Bytes font ∧ Bytes cv ∧ Bytes glyph)
    (limit : Nat) (ped : Bool) (axes : Nat) (p : Nat) (fs ids : List Def) (vs : List Int) (f : F)
    (hinv : FInv f) (hstk : vs.length ≤ f.g.cap) :
    let c := fullCfg A font cv glyph limit ped axes
    (run c (initSt p fs ids vs f)).status = .done ∨
    ∃ e, (run c (initSt p fs ids vs f)).status = .failed e ∧ e ≠ E_PANIC := by
  intro c
  rcases run_returns c p fs ids vs f with hd | ⟨e, he⟩
  · exact Or.inl hd
  · right
    refine ⟨e, he, ?_⟩
    unfold run at he
    rw [runLoop_eq_iter] at he
    -- along the run: the invariant holds, and a failed status never carries the panic marker
    refine (iter_induct (c := c)
      (P := fun s => RunInv c (fun f => f.g) FInv f.g fs.length ids.length s ∧ ∀ e, s.status = .failed e → e ≠ E_PANIC)
      (fun s hs hr => ⟨(step_inv c (fun f => f.g) (semAll_semOk A ped) f.g _ _ s hs.1).1, fun e1 he1 =>
        step_failed_kind A font cv glyph hb limit ped axes s hr hs.1.inv (hs.1.cap ▸ hs.1.stack) e1 he1⟩)
      _ _ ⟨initSt_runInv c _ p fs ids vs f hinv hinv.1 hstk, nofun⟩).2 e he

/-- **whole-run work bound with NO assumption about the data opcodes** (`run_total_work_le` for `semAll`) -/
theorem run_total_work_le_concrete (A : Arith) (font cv glyph : Array Nat) (limit : Nat) (ped : Bool) (axes : Nat)
    (p : Nat) (fs ids : List Def) (vs : List Int) (f : F) (hinv : FInv f) (hstk : vs.length ≤ f.g.cap) (n : Nat) :
    let c := fullCfg A font cv glyph limit ped axes
    runCost c (fun f => f.g) n (initSt p fs ids vs f)
      ≤ (MAX_RUN_INSTRUCTIONS + 1) * perStep c (fs.length + ids.length) f.g :=
  run_total_work_le _ (fun f => f.g) (semAll_semOk A ped) p fs ids vs f hinv hinv.1 hstk n

/-- **everything the per-dispatch bounds depend on is invariant over the whole run** of the complete machine: zone
    sizes, contour list, stack capacity, definition-table lengths; the value stack stays within capacity, the loop
    counter ≤ 0xFFFF and the data-state invariant (copy-on-write slices consistent, `delta_shift ≤ 6`) holds at every
    dispatch (the storage-area and cvt lengths: `run_table_lengths_invariant`) -/
theorem run_sizes_invariant_concrete (A : Arith) (font cv glyph : Array Nat) (limit : Nat) (ped : Bool) (axes : Nat)
    (p : Nat) (fs ids : List Def) (vs : List Int) (f : F) (hinv : FInv f) (hstk : vs.length ≤ f.g.cap) (n : Nat) :
    let s := iter (fullCfg A font cv glyph limit ped axes) n (initSt p fs ids vs f)
    s.data.g.glyphPts = f.g.glyphPts ∧ s.data.g.twiPts = f.g.twiPts ∧ s.data.g.glyphContours = f.g.glyphContours ∧
    s.data.g.cap = f.g.cap ∧ s.vs.length ≤ f.g.cap ∧ s.funcs.length = fs.length ∧ s.idefs.length = ids.length ∧
    s.data.g.loop ≤ 65535 ∧ FInv s.data :=
  run_sizes_invariant _ (fun f => f.g) (semAll_semOk A ped) p fs ids vs f hinv hinv.1 hstk n

/-- the storage-area and cvt lengths are those of the start after any number of loop iterations -/
theorem run_table_lengths_invariant (A : Arith) (font cv glyph : Array Nat) (limit : Nat) (ped : Bool) (axes : Nat)
    (p : Nat) (fs ids : List Def) (vs : List Int) (f : F) (hinv : FInv f) (hstk : vs.length ≤ f.g.cap) (n : Nat) :
    Keep f (iter (fullCfg A font cv glyph limit ped axes) n (initSt p fs ids vs f)).data := by
  -- `Keep f` rides along as part of the data invariant of the run
  have hsem : SemOk (semAll A ped) (fun f => f.g) (fun d => FInv d ∧ Keep f d) := by
    intro op bytes vs d vs' d' hI hw hstk h
    have := semAll_ok A ped op bytes vs vs' d d' hI.1 hstk h
    exact ⟨this.1, this.2.1, this.2.2.1, hI.2.trans this.2.2.2⟩
  exact (iter_inv (fullCfg A font cv glyph limit ped axes) (fun f : F => f.g) hsem f.g fs.length ids.length n _
    (initSt_runInv _ _ p fs ids vs f ⟨hinv, Keep.refl f⟩ hinv.1 hstk)).inv.2

def exA : Arith := { round := fun _ _ _ _ d => d, coord := fun _ => 0, vec := fun _ => (0x4000, 0), touched := fun _ _ => false }
/-- glyph zone of 7 points in one contour, twilight zone of 4, storage of 2 slots, cvt of 3 entries (copy-on-write, as
    in a glyph program), stack capacity 8 -/
def fEx : F :=
  { g := { cap := 8, glyphPts := 7, glyphContours := [2], twiPts := 4, ppem := 16 }, prog := 2,
    storage := ⟨[10, 20], [0, 0], false⟩, cvt := ⟨[64, 128, 192], [0, 0, 0], false⟩ }
example : FInv fEx := ⟨⟨by decide, by decide⟩, Or.inr rfl, Or.inr rfl, by decide, by decide⟩
def stackOf (r : ER) : Option (List Int) := r.toOption.map (·.1)
def errIs (r : ER) (e : Err) : Bool := match r with | .error e' => e' == e | _ => false
/-- RS 1 reads the instance's storage through the copy-on-write slice; RS 2 is InvalidStorageIndex in pedantic mode and
    pushes 0 otherwise -/
example : stackOf (semAll exA true 0x43 [] ([1], fEx)) = some [20] := by decide +kernel
example : errIs (semAll exA true 0x43 [] ([2], fEx)) E_STORAGE = true := by decide +kernel
example : stackOf (semAll exA false 0x43 [] ([2], fEx)) = some [0] := by decide +kernel
/-- WS 0 := 7 copies the slice on first write: slot 1 keeps the instance's value -/
example : (match semAll exA true 0x42 [] ([7, 0], fEx) with
    | .ok (_, f) => f.storage.dataMut == [7, 20] && f.storage.useMut | _ => false) = true := by decide +kernel
/-- RCVT 3 / WCVTP 3: InvalidCvtIndex (pedantic), ignored otherwise; MIRP with cvt entry 3: InvalidCvtIndex -/
example : errIs (semAll exA true 0x45 [] ([3], fEx)) E_CVT = true := by decide +kernel
example : errIs (semAll exA true 0x44 [] ([5, 3], fEx)) E_CVT = true := by decide +kernel
example : stackOf (semAll exA false 0x44 [] ([5, 3], fEx)) = some [] := by decide +kernel
example : errIs (semAll exA true 0xE0 [] ([3, 1], fEx)) E_CVT = true := by decide +kernel
/-- SZP0 2: InvalidZoneIndex; GC on point 7 of the 7-point glyph zone: InvalidPointIndex (even when not pedantic:
    `in_bounds` accepts index = len, `Zone::point` does not) -/
example : errIs (semAll exA true 0x13 [] ([2], fEx)) E_ZONE = true := by decide +kernel
example : errIs (semAll exA false 0x46 [] ([7], fEx)) E_POINT = true := by decide +kernel
example : stackOf (semAll exA false 0x46 [] ([8], fEx)) = some [0] := by decide +kernel
/-- DIV by zero: DivideByZero; 128 / 64 (26.6) = 128; MUL 128 * 32 (26.6) = 64 -/
example : errIs (semAll exA true 0x62 [] ([0, 5], fEx)) E_DIVZERO = true := by decide +kernel
example : stackOf (semAll exA true 0x62 [] ([64, 128], fEx)) = some [128] := by decide +kernel
example : stackOf (semAll exA true 0x63 [] ([32, 128], fEx)) = some [64] := by decide +kernel
/-- SDS 7: InvalidStackValue (so `1 << (6 - delta_shift)` never sees a shift > 6) -/
example : errIs (semAll exA true 0x5F [] ([7], fEx)) E_STACKVAL = true := by decide +kernel
/-- ROLL on [a, b, c] (top first) gives [c, a, b]; on a full stack of two in non-pedantic mode it overflows -/
example : stackOf (semAll exA true 0x8A [] ([1, 2, 3], fEx)) = some [3, 1, 2] := by decide +kernel
example : errIs (semAll exA false 0x8A [] ([1, 2], { fEx with g := { fEx.g with cap := 2 } })) .vsOverflow = true := by
  decide +kernel
/-- the panic marker is reachable in the MODEL when the invariant is violated (mismatched copy-on-write buffers,
    `delta_shift` 7, a contour without points): the invariant is what excludes it -/
example : errIs (semAll exA true 0x42 [] ([7, 0], { fEx with storage := ⟨[1, 2], [0], false⟩ })) E_PANIC = true := by
  decide +kernel
example : errIs (semAll exA true 0x5D [] ([0], { fEx with deltaShift := 7 })) E_PANIC = true := by decide +kernel
example : errIs (semAll exA true 0x30 [] ([], { fEx with g := { fEx.g with glyphPts := 0 } })) E_PANIC = true := by
  decide +kernel
/-- a whole run: `PUSHB 1; RS; PUSHB 20; EQ; IF; PUSHB 9; RCVT; EIF` — storage[1] = 20, so RCVT 9 runs: InvalidCvtIndex -/
example : (run (fullCfg exA #[] #[] #[0xB0, 1, 0x43, 0xB0, 20, 0x54, 0x58, 0xB0, 9, 0x45, 0x59] 50 true 0)
    (initSt 2 [] [] [] fEx)).status = .failed E_CVT := by decide +kernel

end FontVerif.C02
