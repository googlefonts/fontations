/-
C03 — interpreter CONTROL FLOW: FreeType 2.12.1 (`Model/FtControl.lean`) against skrifa (C02's `Model/Interp.lean`),
for every bytecode, pc, stack.  The two instruction decoders and the IF / ELSE / FDEF skip loops are the same functions;
the jump core, the budgets, capacities and limits agree under the side conditions of `Model/CtlCompare.lean`, and the
`*_differs*` theorems show that the machines really differ outside them.  The n-step lock step is stated, and proved for
its fetch component only, at `control_simulation_partial`.
-/
import FontVerif.Model.CtlCompare
import FontVerif.Lemmas.Base
import FontVerif.Props.C02
set_option linter.unusedVariables false
namespace FontVerif.C03Control
open FontVerif.CtlCompare

/-- the instruction at `pc` as both decoders see it: opcode fetch, `opcode_length` / `OPCODE_LENGTHS`, NPUSHB / NPUSHW
counts and truncated operands are the same function -/
theorem fetch_eq (code : Array Nat) (pc : Nat) :
    match Interp.decode code pc with
    | .eof => FtControl.insLength code pc = none ∧ code.size ≤ pc
    | .bad => FtControl.insLength code pc = none ∧ pc < code.size
    | .ins op bytes ipc next =>
      ipc = pc ∧ ∃ len, FtControl.insLength code pc = some (op, len) ∧ next = pc + len ∧
        bytes = FtControl.inlineBytes code pc op len := by
  unfold Interp.decode FtControl.insLength Interp.insLen
  cases h : code[pc]? with
  | none =>
    simp only []
    exact ⟨trivial, by simpa using h⟩
  | some op =>
    have hlt : pc < code.size := by
      rcases Nat.lt_or_ge pc code.size with h1 | h1
      · exact h1
      · have : code[pc]? = none := by simp [h1]
        rw [this] at h; cases h
    have hl : Interp.opcodeLen op = FtControl.opcodeLength op := rfl
    simp only [hl]
    by_cases hneg : FtControl.opcodeLength op < 0
    · simp only [hneg, if_true]
      cases h1 : code[pc + 1]? with
      | none => simp [hlt]
      | some n =>
        simp only []
        have e : (-FtControl.opcodeLength op).toNat * n + 2 = 2 + (-FtControl.opcodeLength op).toNat * n := by omega
        by_cases hfit : pc + ((-FtControl.opcodeLength op).toNat * n + 2) ≤ code.size
        · simp only [hfit, if_true]
          refine ⟨trivial, _, ?_, rfl, ?_⟩
          · rw [← e]; simp [hfit]
          · unfold FtControl.inlineBytes; simp [hneg, e]
        · simp only [hfit, if_false]
          refine ⟨?_, hlt⟩
          rw [← e]; simp [hfit]
    · simp only [hneg, if_false]
      by_cases hfit : pc + (FtControl.opcodeLength op).toNat ≤ code.size
      · simp only [hfit, if_true]
        refine ⟨trivial, _, rfl, rfl, ?_⟩
        unfold FtControl.inlineBytes; simp [hneg]
      · simp only [hfit, if_false]
        exact ⟨trivial, hlt⟩


/-- `fetch_eq` as a case split -/
theorem fetch_cases (code : Array Nat) (pc : Nat) :
    ((Interp.decode code pc = .eof ∨ Interp.decode code pc = .bad) ∧ FtControl.insLength code pc = none) ∨
    ∃ op bytes len, Interp.decode code pc = .ins op bytes pc (pc + len) ∧ FtControl.insLength code pc = some (op, len) := by
  have h := fetch_eq code pc
  cases hd : Interp.decode code pc with
  | eof => rw [hd] at h; exact .inl ⟨.inl rfl, h.1⟩
  | bad => rw [hd] at h; exact .inl ⟨.inr rfl, h.1⟩
  | ins op bytes ipc next =>
    rw [hd] at h
    obtain ⟨rfl, len, h1, rfl, _⟩ := h
    exact .inr ⟨op, bytes, len, rfl, h1⟩

/-- error kinds of the scans: a nested definition ↦ `Nested_DEFS`, running off the code ↦ `Code_Overflow` -/
def scanErr : Interp.Err → FtControl.Err
  | .nestedDef => .nestedDefs
  | _ => .codeOverflow

def mapScan {α : Type} (r : Option (Except Interp.Err α)) : Option (Except FtControl.Err α) :=
  r.map fun x => match x with
    | .ok a => .ok a
    | .error e => .error (scanErr e)

/-- `Ins_IF`'s `SkipCode` loop = `op_if`'s decode loop: same landing pc (after the ELSE / EIF), same failure -/
theorem scan_if_eq (code : Array Nat) (fuel pos n : Nat) :
    FtControl.scanIf code fuel pos n = mapScan (Interp.scanIf code fuel pos n) := by
  induction fuel generalizing pos n with
  | zero => rfl
  | succ k ih =>
    unfold FtControl.scanIf Interp.scanIf
    rcases fetch_cases code pos with ⟨h1 | h1, h2⟩ | ⟨op, bytes, len, h1, h2⟩
    · rw [h1, h2]; rfl
    · rw [h1, h2]; rfl
    · rw [h1, h2]
      simp only [apply_ite mapScan, ih]
      rfl

/-- `Ins_ELSE` = `op_else` -/
theorem scan_else_eq (code : Array Nat) (fuel pos n : Nat) :
    FtControl.scanElse code fuel pos n = mapScan (Interp.scanElse code fuel pos n) := by
  induction fuel generalizing pos n with
  | zero => rfl
  | succ k ih =>
    unfold FtControl.scanElse Interp.scanElse
    rcases fetch_cases code pos with ⟨h1 | h1, h2⟩ | ⟨op, bytes, len, h1, h2⟩
    · rw [h1, h2]; rfl
    · rw [h1, h2]; rfl
    · rw [h1, h2]
      simp only [apply_ite mapScan, ih]
      rfl

/-- the scan of `Ins_FDEF` / `Ins_IDEF` = `do_def`'s: same ENDF, same pc afterwards; nested definition and end of code
fail on both sides with related kinds -/
theorem scan_def_eq (code : Array Nat) (fuel pos : Nat) :
    FtControl.scanDef code fuel pos = mapScan (Interp.scanDef code fuel pos) := by
  induction fuel generalizing pos with
  | zero => rfl
  | succ k ih =>
    unfold FtControl.scanDef Interp.scanDef
    rcases fetch_cases code pos with ⟨h1 | h1, h2⟩ | ⟨op, bytes, len, h1, h2⟩
    · rw [h1, h2]; rfl
    · rw [h1, h2]; rfl
    · rw [h1, h2]
      -- the two sides test for FDEF / IDEF in opposite order
      simp only [apply_ite mapScan, ih, or_comm (a := op = 0x89)]
      rfl

theorem scan_errors_related (e : Interp.Err) (h : e = .unexpectedEnd ∨ e = .nestedDef) : errRel e (scanErr e) = true := by
  rcases h with rfl | rfl <;> rfl


theorem pastEnd_indep {D} (t : FtControl.St D) (ip : Nat) (st : List Int) (x : Int) :
    FtControl.pastEnd ({ t with ip := ip, stack := st } : FtControl.St D) x = FtControl.pastEnd t x := rfl

/-- JMPR (and the taken branch of JROT / JROF): with the operand `v` on top, the pc of the jump instruction `ipc` and
no clause of `jumpCond` firing, skrifa's `do_jump` and FreeType's `Ins_JMPR` go to the same pc with the same backward
jump count, or fail with related errors. -/
theorem jump_sim {D} (c : Interp.Cfg D) (fc : FtControl.Cfg D) (s : Interp.St D) (t : FtControl.St D)
    (v : Int) (rest : List Int) (ipc argsIx : Nat)
    (hpc : s.pc = ipc + 1) (hip : t.ip = ipc) (hvs : s.vs = v :: rest) (hbj : s.backJumps = t.negJumps)
    (hsmall : ipc < 4294967296)
    (hc : jumpCond c fc s t v ipc (decide (argsIx ≠ 0)) = none) :
    match Interp.doJump c s true, FtControl.insJmpr fc { t with stack := rest } v argsIx with
    | .ok s', .ok t' => s'.pc = t'.ip ∧ s'.backJumps = t'.negJumps ∧ s'.vs = t'.stack
    | .error e, .error f => errRel e f = true
    | _, _ => False := by
  -- the clauses of `jumpCond` are the tests of the two machines, in their order: one case split serves all three
  unfold jumpCond at hc
  by_cases hr : ¬ (-2147483648 < v ∧ v < 2147483648)
  · rw [if_pos hr] at hc; cases hc
  rw [if_neg hr] at hc
  replace hr := Decidable.not_not.mp hr
  rw [InterpLemmas.doJump_taken c s hvs hr]
  unfold FtControl.insJmpr
  by_cases h0 : v = 0
  · rw [if_pos h0] at hc
    have ha : argsIx = 0 := Decidable.by_contra fun h => by rw [if_pos (decide_eq_true h)] at hc; cases hc
    rw [if_pos h0, if_pos ⟨h0, ha⟩]
    rfl
  rw [if_neg h0] at hc
  by_cases hneg : (ipc : Int) + v < 0
  · rw [if_pos hneg] at hc; cases hc
  rw [if_neg hneg] at hc
  cases hpe : FtControl.pastEnd t ((ipc : Int) + v) with
  | true => rw [hpe, if_pos rfl] at hc; cases hc
  | false =>
    rw [hpe, if_neg Bool.false_ne_true] at hc
    have hw : wrapI64 ((ipc : Int) + v) = (ipc : Int) + v := wrapI64_of_in (by omega) (by omega)
    have hwrap : Interp.wrapAddPc s.pc (v - 1) = ((ipc : Int) + v).toNat := by
      unfold Interp.wrapAddPc; rw [hpc]
      have : ((((ipc + 1 : Nat) : Int) + (v - 1)) % 18446744073709551616) = (ipc : Int) + v := by omega
      rw [this]
    rw [if_neg h0, if_neg (c := v = 0 ∧ argsIx = 0) (fun h => h0 h.1)]
    dsimp only
    have hin : ¬ ((ipc : Int) + v < 0 ∨ FtControl.pastEnd t ((ipc : Int) + v) = true) := by
      rw [hpe]; exact fun h => h.elim hneg Bool.false_ne_true
    rw [hip, hw, pastEnd_indep, if_neg hin]
    by_cases hlt : v < 0
    · rw [if_pos hlt, if_pos hlt]
      have hb : s.backJumps + 1 > c.limit ↔ t.negJumps + 1 > fc.negJumpMax := Decidable.by_contra fun hne => by
        rw [if_pos ⟨hlt, fun e => hne (decide_eq_decide.mp e)⟩] at hc; cases hc
      by_cases hx : s.backJumps + 1 > c.limit
      · rw [if_pos hx, if_pos (hb.mp hx)]; rfl
      · rw [if_neg hx, if_neg (mt hb.mpr hx)]; exact ⟨hwrap, by rw [hbj], rfl⟩
    · rw [if_neg hlt, if_neg hlt]; exact ⟨hwrap, hbj, rfl⟩


/-- outside the side condition: a zero offset with further cells below. skrifa fails with InvalidJump; FreeType does
NOT fail and stays on the jump instruction (it will take the next cell as the offset). -/
theorem jump_zero_offset_differs {D} (c : Interp.Cfg D) (fc : FtControl.Cfg D) (s : Interp.St D) (t : FtControl.St D)
    (rest : List Int) (argsIx : Nat) (hvs : s.vs = 0 :: rest) (hdeep : argsIx ≠ 0) (hcall : t.callStack = [])
    (hip : (t.ip : Int) < 9223372036854775808) :
    Interp.doJump c s true = .error .invalidJump ∧
    FtControl.insJmpr fc { t with stack := rest } 0 argsIx = .ok { t with stack := rest } := by
  refine ⟨C02.jump_in_place_is_error c s rest hvs, ?_⟩
  · unfold FtControl.insJmpr FtControl.pastEnd
    have hw : wrapI64 (t.ip : Int) = (t.ip : Int) := wrapI64_of_in (by omega) (by omega)
    have hnn : ¬ ((t.ip : Int) < 0) := by omega
    simp [hdeep, hcall, hw, hnn]

/-- a backward jump to a negative address: FreeType fails with Bad_Argument, skrifa's pc wraps around (the next decode
is past the end: the program ENDS WITH `Ok`). -/
theorem jump_negative_target_differs {D} (c : Interp.Cfg D) (fc : FtControl.Cfg D) (s : Interp.St D) (t : FtControl.St D)
    (v : Int) (rest : List Int) (argsIx : Nat) (hvs : s.vs = v :: rest)
    (hv : -2147483648 < v ∧ v < 0) (hneg : (t.ip : Int) + v < 0) (hip : (t.ip : Int) < 4294967296)
    (hbud : s.backJumps + 1 ≤ c.limit) :
    FtControl.insJmpr fc { t with stack := rest } v argsIx = .error .badArgument ∧
    ∃ s', Interp.doJump c s true = .ok s' := by
  constructor
  · unfold FtControl.insJmpr
    have hw : wrapI64 ((t.ip : Int) + v) = (t.ip : Int) + v := wrapI64_of_in (by omega) (by omega)
    have h0 : ¬ (v = 0 ∧ argsIx = 0) := by omega
    simp only [h0, if_false, hw, hneg, true_or, if_true]
  · rw [InterpLemmas.doJump_taken c s hvs (by omega), if_neg (by omega), if_pos hv.2, if_neg (by omega)]
    exact ⟨_, rfl⟩

/-- the two cells skrifa's successive `pop`s see (top first) and what is left -/
def skPop2 (vs : List Int) : Int × Int × List Int :=
  match Interp.pop false vs with
  | .ok (a, r1) =>
    match Interp.pop false r1 with
    | .ok (b, r2) => (a, b, r2)
    | .error _ => (a, 0, [])
  | .error _ => (0, 0, [])

/-- the two cells FreeType's handler sees after `prepArgs` -/
def ftPop2 (vs : List Int) : Int × Int × List Int :=
  match FtControl.prepArgs false 2 vs with
  | .ok st =>
    let (a, r1) := FtControl.pop1 st
    let (b, r2) := FtControl.pop1 r1
    (a, b, r2)
  | .error _ => (0, 0, [])

/-- stack underflow of the two-argument control opcodes (JROT, JROF, LOOPCALL) in non-pedantic mode -/
theorem two_pop_underflow_differs_only_when (vs : List Int) :
    skPop2 vs = ftPop2 vs ↔ (2 ≤ vs.length ∨ ∀ v ∈ vs, v = 0) := by
  match vs with
  | [] => simp [skPop2, ftPop2, Interp.pop, FtControl.prepArgs, FtControl.pop1]
  | [a] =>
    simp [skPop2, ftPop2, Interp.pop, FtControl.prepArgs, FtControl.pop1]
  | a :: b :: rest =>
    have h : ¬ (rest.length + 1 + 1 < 2) := by omega
    simp [skPop2, ftPop2, Interp.pop, FtControl.prepArgs, FtControl.pop1, h]

/-- in pedantic mode both fail -/
theorem two_pop_underflow_pedantic (vs : List Int) (h : vs.length < 2) :
    FtControl.prepArgs true 2 vs = .error .tooFewArguments ∧
    (match Interp.pop true vs with
     | .error e => e = .vsUnderflow
     | .ok (_, r) => Interp.pop true r = .error .vsUnderflow) := by
  match vs with
  | [] => simp [FtControl.prepArgs, Interp.pop]
  | [a] => simp [FtControl.prepArgs, Interp.pop]
  | a :: b :: rest => simp at h; omega

/-- the loop / backward-jump budget of FreeType 2.12.1; `n` = points of the glyph zone (0 for fpgm / prep). -/
theorem loopMax_eq_min (n cvt glyphs : Nat) :
    FtControl.loopMax n cvt glyphs =
      min (HintControl.skLimit (if n ≠ 0 then some n else none) cvt) (100 * glyphs) := by
  unfold FtControl.loopMax HintControl.skLimit
  by_cases h : n = 0
  · subst h; simp only [ne_eq, not_true_eq_false, if_false]; split <;> omega
  · simp only [ne_eq, h, not_false_eq_true, if_true]
    rw [show max 50 (10 * n) + max 50 (cvt / 10) = max (n * 10) 50 + max (cvt / 10) 50 by omega]
    split <;> omega

/-- known finding C03-loop-budget-glyph-count-clamp. -/
theorem budget_differs_only_when (n cvt glyphs : Nat) :
    FtControl.loopMax n cvt glyphs ≠ HintControl.skLimit (if n ≠ 0 then some n else none) cvt ↔
      100 * glyphs < HintControl.skLimit (if n ≠ 0 then some n else none) cvt := by
  rw [loopMax_eq_min]; omega

/-- … and when it differs FreeType's is the smaller one -/
theorem budget_ft_le (n cvt glyphs : Nat) :
    FtControl.loopMax n cvt glyphs ≤ HintControl.skLimit (if n ≠ 0 then some n else none) cvt := by
  rw [loopMax_eq_min]; omega

/-- function table capacity: since fix 1409846 skrifa sizes the table like FreeType (`max(maxp.maxFunctionDefs, 64)`) -/
theorem def_capacity_eq (n : Nat) : Interp.functionSlots n = FtControl.maxFDefsOf n := by
  unfold FtControl.maxFDefsOf Interp.functionSlots Interp.MIN_FUNCTION_DEFS; split <;> omega

/-- … the `maxp` value itself is the capacity exactly from 64 on -/
theorem def_capacity_differs_only_when (n : Nat) : FtControl.maxFDefsOf n ≠ n ↔ n < 64 := by
  unfold FtControl.maxFDefsOf; split <;> omega

/-- the stack `prep` starts with: `[]` on both sides since fix 83e5236 (`Engine::reset` clears the value stack;
FreeType `exec->top = 0`) -/
theorem prep_initial_stack_eq (fpgmFinal : List Int) : HintControl.prepStack fpgmFinal = [] := rfl

/-- call stack: both refuse the 33rd nested call -/
theorem call_depth_limit_eq {D} (c : Interp.Cfg D) (fc : FtControl.Cfg D) (s : Interp.St D) (t : FtControl.St D)
    (d : Interp.Def) (i : Nat) (fd : FtControl.DefRec) (n : Nat) (v : Int)
    (hlen : s.calls.length = t.callStack.length) (hsz : fc.callSize = 32)
    (hl : FtControl.lookupFunc t v = some (i, fd)) :
    (Interp.enter s d n = .error .csOverflow ↔ 32 ≤ s.calls.length) ∧
    (32 ≤ t.callStack.length → FtControl.insCall fc t v = .error .stackOverflow) := by
  constructor
  · unfold Interp.enter Interp.MAX_DEPTH; split <;> simp <;> omega
  · intro h; unfold FtControl.insCall; simp [hl, hsz, h]

/-- the instruction cap is the same number -/
theorem instruction_cap_eq : Interp.MAX_RUN_INSTRUCTIONS = FtControl.MAX_RUNNABLE_OPCODES := rfl

/-- at the end of the code skrifa returns Ok whatever the call stack; FreeType returns Ok only at top level and
`Code_Overflow` inside a call (side condition `end-of-code-inside-call`). -/
theorem eof_sim {D} (c : Interp.Cfg D) (fc : FtControl.Cfg D) (s : Interp.St D) (t : FtControl.St D)
    (hs : s.status = .running) (ht : t.status = .running)
    (hcode : c.code s.current = fc.code t.curRange) (hpc : s.pc = t.ip) (heof : (c.code s.current).size ≤ s.pc) :
    (Interp.step c s).status = .done ∧
    (FtControl.step fc t).status = (if t.callStack = [] then .done else .failed .codeOverflow) := by
  refine ⟨C02.pc_out_of_range_ends c s hs heof, ?_⟩
  · unfold FtControl.step
    have h2 : t.ip ≥ (fc.code t.curRange).size := by rw [← hcode, ← hpc]; exact heof
    simp only [ht, h2, if_true]
    cases hcs : t.callStack with
    | nil => simp
    | cons r rs => simp

/-- what skrifa's `Engine::run` decodes next -/
def skFetch {D} (c : Interp.Cfg D) (s : Interp.St D) : Option (Nat × Nat) :=
  match s.status with
  | .running =>
    match Interp.decode (c.code s.current) s.pc with
    | .ins op _ ipc _ => some (ipc, op)
    | _ => none
  | _ => none

/-- FULL simulation statement aimed at: for all configurations with the same bytecode, capacities and
pedantic flag and data semantics that agree (`sideCond`'s data clause), for related initial states (`R`: same pc,
program, stacks, data, counters, frame-wise related call stacks, definition tables with equal lookups) and every `n`:
if `sideCond` is `none` at each of the first `n` state pairs, then the two machines fetch the same `n` (pc, opcode)
pairs and end related (same outcome class through `errRel`).
PROVED below: the fetch component for one related pair (`control_simulation_partial`); the per-opcode components are the
theorems above (`scan_*_eq` for IF / ELSE / FDEF / IDEF scans, `jump_sim` for JMPR / JROT / JROF, `call_depth_limit_eq`,
`eof_sim`, the `*_differs*` theorems for the complement of the side conditions).
MISSING: the assembly into one inductive invariant — in particular the preservation of "equal lookups" by
`DefinitionMap::allocate` versus FreeType's append-or-overwrite table, and the frame relation through CALL / ENDF.
That part is covered by the lock-step execution of the two models (`cmp.ctl`) against both real interpreters only. -/
theorem control_simulation_partial {D} (c : Interp.Cfg D) (fc : FtControl.Cfg D) (s : Interp.St D) (t : FtControl.St D)
    (hst : (s.status = .running ↔ t.status = .running))
    (hcode : c.code s.current = fc.code t.curRange) (hpc : s.pc = t.ip) :
    skFetch c s = FtControl.fetch fc t := by
  unfold skFetch FtControl.fetch
  cases hs : s.status with
  | running =>
    have ht : t.status = .running := hst.mp hs
    simp only [ht]
    rw [← hcode, ← hpc]
    rcases fetch_cases (c.code s.current) s.pc with ⟨h1 | h1, h2⟩ | ⟨op, bytes, len, h1, h2⟩
    · rw [h1, h2]; simp
    · rw [h1, h2]; simp
    · rw [h1, h2]
      have hlt : ¬ s.pc ≥ (c.code s.current).size := by
        intro hge
        unfold FtControl.insLength at h2
        have : (c.code s.current)[s.pc]? = none := by simp [hge]
        rw [this] at h2; cases h2
      simp [hlt]
  | _ =>
    have ht : t.status ≠ .running := fun h => by rw [hst.mpr h] at hs; cases hs
    cases h : t.status <;> simp_all


example : skPop2 [1] ≠ ftPop2 [1] := by decide +kernel
example : skPop2 [0] = ftPop2 [0] := by decide +kernel
example : FtControl.loopMax 0 40 2 = 200 ∧ HintControl.skLimit none 40 = 1180 := by decide +kernel
example : FtControl.loopMax 9 0 2 = 140 ∧ HintControl.skLimit (some 9) 0 = 140 := by decide +kernel
example : FtControl.maxFDefsOf 4 = 64 ∧ FtControl.maxFDefsOf 100 = 100 := by decide +kernel
-- IF(false) … nested IF … EIF, ELSE taken at depth 1
example : (match FtControl.scanIf #[0x58, 0x58, 0x59, 0x1B, 0xB0, 7, 0x59] 8 1 1 with | some (.ok 4) => true | _ => false) = true := by decide +kernel
example : (match Interp.scanIf #[0x58, 0x58, 0x59, 0x1B, 0xB0, 7, 0x59] 8 1 1 with | some (.ok 4) => true | _ => false) = true := by decide +kernel
-- a truncated push inside the skipped branch
example : (match FtControl.scanIf #[0x58, 0xB8, 1] 4 1 1 with | some (.error .codeOverflow) => true | _ => false) = true := by decide +kernel
example : (match Interp.scanIf #[0x58, 0xB8, 1] 4 1 1 with | some (.error .unexpectedEnd) => true | _ => false) = true := by decide +kernel
example : (match FtControl.scanDef #[0x2C, 0x18, 0x2C] 4 1 with | some (.error .nestedDefs) => true | _ => false) = true := by decide +kernel
-- NPUSHB with a count running past the end
example : FtControl.insLength #[0x40, 3, 1, 2] 0 = none ∧ Interp.decode #[0x40, 3, 1, 2] 0 = .bad := by decide +kernel

def demoSk : Interp.Cfg FtControl.Dat :=
  { font := #[], cv := #[], glyph := #[0xB1, 5, 0, 0x1C, 0xB1, 0, 11, 0x48, 0xB1, 1, 22, 0x48], limit := 100, pedantic := false,
    sem := HintControl.semSubset }
def demoFt : FtControl.Cfg FtControl.Dat :=
  { font := #[], cvt := #[], glyph := demoSk.glyph, stackSize := 40, maxFDefs := 64, maxIDefs := 0, loopcallMax := 100,
    negJumpMax := 100, pedantic := false, sem := FtControl.semSubset }
def demoDat : FtControl.Dat := { xs := [100, 142, 184], store := [], stackSize := 40, pedantic := false }

-- the recorded finding C03-ctl-jump-zero-offset on the two models: skrifa stops with InvalidJump, FreeType moves point 1 only
example : (Interp.iter demoSk 4 (Interp.initSt 2 [] [] [] demoDat)).status = .failed .invalidJump := by decide +kernel
example : (FtControl.iter demoFt 8 (FtControl.initSt 3 [] [] 0 0 [] demoDat)).status = .done := by decide +kernel
example : (FtControl.iter demoFt 8 (FtControl.initSt 3 [] [] 0 0 [] demoDat)).data.xs = [100, 22, 184] := by decide +kernel
-- … and the side condition names it at the second step
example : sideCond demoSk demoFt (Interp.iter demoSk 1 (Interp.initSt 2 [] [] [] demoDat))
    (FtControl.iter demoFt 1 (FtControl.initSt 3 [] [] 0 0 [] demoDat)) = some "jump:zero-offset-with-deeper-stack" := by
  decide +kernel
-- hypotheses of `jump_sim` are satisfiable: a backward jump by 2 from pc 4 with budget left
example : jumpCond demoSk demoFt { Interp.initSt 2 [] [] [-2] demoDat with pc := 5 }
    { FtControl.initSt 3 [] [] 0 0 [] demoDat with ip := 4 } (-2) 4 false = none := by decide +kernel

end FontVerif.C03Control
