/-
C17 — klippa's cmap subsetter (klippa/src/cmap.rs): the format 4 and format 12 subtables it writes
answer exactly the (code point, new glyph id) list they were given.
Model: Model/SubsetCmap.lean (writer) + Model/Cmap.lean (C08's reader model of
read-fonts `Cmap4::map_codepoint` / `Cmap12::map_codepoint`).
-/
import FontVerif.Model.SubsetCmap
import FontVerif.Lemmas.SubsetCmap12
import FontVerif.Lemmas.SubsetCmap4
import FontVerif.Lemmas.SubsetCmap4Top
import FontVerif.Lemmas.SubsetCmap4Total
import FontVerif.Lemmas.SubsetCmapTable
import FontVerif.Lemmas.SubsetCmapUvs
set_option linter.unusedVariables false
namespace FontVerif.C17Cmap
open FontVerif.Cmap FontVerif.SubsetCmap

/-- VALID SEGMENTATION, for every outcome of the cost heuristic.  For every list of BMP pairs with
16-bit glyph ids (no sortedness needed) and ANY pair of decision functions `h` (when to commit a run,
when to split a range in front of its last run — including decisions that "panic"): if `to_ranges`
finishes, what it wrote is `body ++ terminator` where `body` tiles the list (`BodyOk`: every range is a
block of consecutive listed code points starting where the previous one stopped; a range with a
non-zero idDelta has constant `gid − cp` equal to that delta mod 65536) and the terminator
(0xFFFF, 0xFFFF, 1) is present exactly when the last listed code point is not U+FFFF. -/
theorem fmt4_ranges_valid_any_heuristic (h : Heur) (l : Mapping)
    (hb : ∀ p ∈ l, p.1 ≤ 0xFFFF ∧ p.2 ≤ 0xFFFF) (hne : l ≠ [])
    (rs : List Range) (hr : toRangesWith h l = some rs) :
    ∃ body, rs = body ++ sentinel (cpAt l.toArray (l.length - 1)) ∧
      BodyOk (cpAt l.toArray) (gidAt l.toArray) 0 l.length body :=
  toRangesWith_spec h l hb hne rs hr

/-- … in particular for the heuristic klippa implements (split costs 8 / 16, `run_length * 2`) -/
theorem fmt4_ranges_valid (l : Mapping) (hb : ∀ p ∈ l, p.1 ≤ 0xFFFF ∧ p.2 ≤ 0xFFFF) (hne : l ≠ [])
    (rs : List Range) (hr : toRanges l = some rs) :
    ∃ body, rs = body ++ sentinel (cpAt l.toArray (l.length - 1)) ∧
      BodyOk (cpAt l.toArray) (gidAt l.toArray) 0 l.length body :=
  toRangesWith_spec implHeur l hb hne rs hr

/-- the array-level reading of "valid segmentation": in C08's index form the ranges are a tiling
(`SegsTile`) of the list -/
theorem fmt4_ranges_tile (h : Heur) (l : Mapping) (hb : ∀ p ∈ l, p.1 ≤ 0xFFFF ∧ p.2 ≤ 0xFFFF) (hne : l ≠ [])
    (rs : List Range) (hr : toRangesWith h l = some rs) :
    ∃ body, rs = body ++ sentinel (cpAt l.toArray (l.length - 1)) ∧
      SegsTile (cpAt l.toArray) (gidAt l.toArray) 0 l.length
        (segsOf (cpAt l.toArray) (gidAt l.toArray) 0 body) := by
  obtain ⟨body, h1, h2⟩ := toRangesWith_spec h l hb hne rs hr
  exact ⟨body, h1, segsTile_of_bodyOk _ _ body 0 l.length h2⟩

/-- non-vacuity + the shape the seeded defect C17-1 broke: two short runs then a long one in one
block are written as a glyphIdArray range (idDelta 0) followed by a delta range -/
example : toRanges [(336, 15), (337, 16), (338, 7), (339, 8), (340, 17), (341, 18), (342, 9), (343, 10),
    (344, 11), (345, 12), (346, 13)] = some [(336, 341, 0), (342, 346, -333), (0xFFFF, 0xFFFF, 1)] := by decide
/-- a prefix that is a single run keeps its own delta -/
example : toRanges [(48, 9), (49, 10), (50, 20), (51, 21), (52, 22), (53, 23)] =
    some [(48, 49, -39), (50, 53, -30), (0xFFFF, 0xFFFF, 1)] := by decide
/-- no terminator after U+FFFF -/
example : toRanges [(0xFFFE, 3), (0xFFFF, 4)] = some [(0xFFFE, 0xFFFF, 5)] := by decide

/-- LOOKUP, for every outcome of the cost heuristic.  For every strictly ascending list of BMP pairs
(no U+FFFF, glyph ids 1..=0xFFFF: C08's `InDomain`) and ANY heuristic `h`: if `Cmap4::serialize`
returns a table, read-fonts' `Cmap4::map_codepoint` on it answers `some v` for `c` exactly when
`(c, v)` is a listed pair — or `c` is U+FFFF, which the terminating segment maps to glyph 0.  So every
listed code point gets its new glyph id and every unlisted code point (any `c`, also above the BMP)
gets nothing. -/
theorem fmt4_lookup_any_heuristic (h : Heur) (l : Mapping) (hd : InDomain l) (hb : ∀ p ∈ l, p.1 ≤ 0xFFFF)
    (hne : l ≠ []) (t : Cmap4) (ht : build4With h l = .ok t) (c v : Nat) :
    map4 t c = some v ↔ (c, v) ∈ l ∨ (c = 0xFFFF ∧ v = 0) := by
  rw [build4With_lookup h l ⟨hd.asc, hb, hd.gid⟩ hne t ht c v]
  -- no U+FFFF is listed: the terminating segment is always written
  have hn : l.length - 1 < l.length := by have := List.length_pos_iff.2 hne; omega
  have hlast : cpAt l.toArray (l.length - 1) ≠ 0xFFFF := (hd.cp _ (index_view_mem l _ hn)).2
  exact or_congr Iff.rfl ⟨fun h => ⟨h.1, h.2.1⟩, fun h => ⟨h.1, h.2, hlast⟩⟩

/-- LOOKUP for the implemented heuristic -/
theorem fmt4_lookup (l : Mapping) (hd : InDomain l) (hb : ∀ p ∈ l, p.1 ≤ 0xFFFF) (hne : l ≠ [])
    (t : Cmap4) (ht : build4 l = .ok t) (c v : Nat) :
    map4 t c = some v ↔ (c, v) ∈ l ∨ (c = 0xFFFF ∧ v = 0) :=
  fmt4_lookup_any_heuristic implHeur l hd hb hne t ht c v

/-- every listed character maps to its new glyph id -/
theorem fmt4_lookup_listed (l : Mapping) (hd : InDomain l) (hb : ∀ p ∈ l, p.1 ≤ 0xFFFF)
    (t : Cmap4) (ht : build4 l = .ok t) (c g : Nat) (hmem : (c, g) ∈ l) : map4 t c = some g :=
  (fmt4_lookup l hd hb (List.ne_nil_of_mem hmem) t ht c g).2 (Or.inl hmem)

/-- every unlisted code point (U+FFFF excepted: glyph 0) maps to nothing -/
theorem fmt4_lookup_unlisted (l : Mapping) (hd : InDomain l) (hb : ∀ p ∈ l, p.1 ≤ 0xFFFF) (hne : l ≠ [])
    (t : Cmap4) (ht : build4 l = .ok t) (c : Nat) (hc : c ≠ 0xFFFF) (hno : ∀ v, (c, v) ∉ l) :
    map4 t c = none := by
  cases hq : map4 t c with
  | none => rfl
  | some v =>
    rcases (fmt4_lookup l hd hb hne t ht c v).1 hq with h1 | ⟨h1, _⟩
    · exact absurd h1 (hno v)
    · exact absurd h1 hc

/-- SUCCESS + LOOKUP together, for the implemented writer: for every strictly ascending list of at most
6551 BMP pairs (10·n + 24 ≤ 65535: what a 16-bit subtable length always holds) without U+FFFF and with
glyph ids in 1..=0xFFFE, `Cmap4::serialize` neither panics (no `u16` overflow in `to_ranges`) nor
fails, and the subtable answers exactly the list (plus glyph 0 for U+FFFF). -/
theorem fmt4_roundtrip (l : Mapping) (hd : InDomain l) (hb : ∀ p ∈ l, p.1 ≤ 0xFFFF) (hg : ∀ p ∈ l, p.2 < 0xFFFF)
    (hne : l ≠ []) (hlen : l.length ≤ 6551) :
    ∃ t, build4 l = .ok t ∧ ∀ c v, map4 t c = some v ↔ (c, v) ∈ l ∨ (c = 0xFFFF ∧ v = 0) := by
  obtain ⟨t, ht⟩ := build4_total l hd hb hg hne hlen
  exact ⟨t, ht, fmt4_lookup l hd hb hne t ht⟩

example : InDomain [(336, 15), (337, 16), (338, 7), (339, 8), (340, 17), (341, 18), (342, 9), (343, 10),
    (344, 11), (345, 12), (346, 13)] := ⟨by unfold Ascending; decide, by decide, by decide⟩
example : build4 [(336, 15), (337, 16), (338, 7), (339, 8), (340, 17), (341, 18), (342, 9), (343, 10),
    (344, 11), (345, 12), (346, 13)] =
    .ok { endCode := #[341, 346, 0xFFFF], startCode := #[336, 342, 0xFFFF], idDelta := #[0, -333, 1],
          idRangeOffsets := #[6, 0, 0], glyphIdArray := #[15, 16, 7, 8, 17, 18] } := by decide

/-- `entrySelector = ⌊log2 segCount⌋`, `searchRange = 2·2^entrySelector ≤ 2·segCount`,
`rangeShift = 2·segCount − searchRange` for every segment count ≥ 1 -/
theorem fmt4_search_fields (n : Nat) (hn : 1 ≤ n) :
    2 ^ entrySelector n ≤ n ∧ n < 2 ^ (entrySelector n + 1) ∧
    searchRange n = 2 * 2 ^ entrySelector n ∧ rangeShift n = 2 * n - searchRange n := by
  have hne : n ≠ 0 := by omega
  have hes : entrySelector n = Nat.log2 n := by
    unfold entrySelector
    simp only [hne, if_false]
    omega
  have h1 : 2 ^ Nat.log2 n ≤ n := Nat.log2_self_le hne
  have h2 : n < 2 ^ (Nat.log2 n + 1) := Nat.lt_log2_self
  refine ⟨by rw [hes]; exact h1, by rw [hes]; exact h2, rfl, ?_⟩
  unfold rangeShift searchRange
  rw [hes]
  split <;> omega

example : (entrySelector 39, searchRange 39, rangeShift 39) = (5, 64, 14) := by decide

/-- `Cmap12::serialize`'s loop on a listed mapping never traps; the groups are ascending, disjoint and well formed
(`start ≤ end`), and expand to exactly the list -/
theorem fmt12_groups_valid (l : Mapping) (hl : Listed l) :
    ∃ gs, groups12 l = some gs ∧ GroupsOk 0 gs ∧ expandGroups gs = l := by
  cases l with
  | nil => exact ⟨[], by simp [groups12, SubsetCmap.groups12Go, INVALID], trivial, by simp [expandGroups]⟩
  | cons p rest =>
    obtain ⟨cp, gid⟩ := p
    have hp := hl.bound (cp, gid) (List.mem_cons_self ..)
    simp only at hp
    have hasc : AscFrom (cp + 1) rest :=
      Ascending.ascFrom rest (cp + 1) hl.tail.asc (fun q hq => by
        have := (List.pairwise_cons.1 hl.asc).1 q hq
        simp only at this
        omega)
    obtain ⟨gs, e1, e2, e3⟩ := k12_spec rest 0 cp cp gid (Nat.zero_le _) (Nat.le_refl _) hp.1 hp.2 hasc
      (fun q hq => hl.bound q (List.mem_cons_of_mem _ hq))
    refine ⟨gs, ?_, e2, ?_⟩
    · unfold groups12
      rw [SubsetCmap.groups12Go]
      simp [e1]
    · rw [e3]
      simp [expandGroup]

/-- For EVERY strictly ascending list of pairs with code points up to U+10FFFF and 16-bit glyph ids
(`Listed`; U+FFFF, glyph 0 and an empty list allowed) `Cmap12::serialize`'s group merging never traps,
and `Cmap12::map_codepoint` on the groups it writes answers `some v` for `c` exactly when `(c, v)` is
listed — for every 32-bit `c`, so also for every code point above U+FFFF. -/
theorem fmt12_lookup (l : Mapping) (hl : Listed l) :
    ∃ gs, groups12 l = some gs ∧
      ∀ c v, c < 4294967296 → (map12 gs.toArray c = some v ↔ (c, v) ∈ l) := by
  obtain ⟨gs, h1, h2, h3⟩ := fmt12_groups_valid l hl
  refine ⟨gs, h1, fun c v _ => ?_⟩
  have hb : GroupsBounded gs := groupsBounded_of_expand gs 0 h2 (h3 ▸ listed_small hl)
  rw [map12_iff gs 0 h2 hb c v, h3]

/-- unlisted code points get nothing -/
theorem fmt12_lookup_unlisted (l : Mapping) (hl : Listed l) (gs : List Group) (h : groups12 l = some gs)
    (c : Nat) (hc : c < 4294967296) (hno : ∀ v, (c, v) ∉ l) : map12 gs.toArray c = none := by
  obtain ⟨gs', h1, h2⟩ := fmt12_lookup l hl
  rw [h] at h1
  cases h1
  cases hq : map12 gs.toArray c with
  | none => rfl
  | some v => exact absurd ((h2 c v hc).1 hq) (hno v)

example : Listed [(65, 5), (66, 6), (67, 9), (0xFFFF, 2), (0x1F600, 10), (0x1F601, 11), (0x10FFFF, 12)] :=
  ⟨by unfold Ascending; decide, by decide⟩
example : groups12 [(65, 5), (66, 6), (67, 9), (0xFFFF, 2), (0x1F600, 10), (0x1F601, 11), (0x10FFFF, 12)] =
    some [(65, 66, 5), (67, 67, 9), (0xFFFF, 0xFFFF, 2), (0x1F600, 0x1F601, 10), (0x10FFFF, 0x10FFFF, 12)] := by
  decide

/-- `retain_encoding_record_for_subset`: a record is considered at all iff it is one of the four
Unicode / Windows Unicode records (0,3) (0,4) (3,1) (3,10) or points at a format 14 subtable -/
theorem encoding_record_rule (r : RecIn) :
    retainRecord r = true ↔
      (r.platform = 0 ∧ r.encoding = 3) ∨ (r.platform = 0 ∧ r.encoding = 4) ∨
      (r.platform = 3 ∧ r.encoding = 1) ∨ (r.platform = 3 ∧ r.encoding = 10) ∨ r.sub.format? = some 14 := by
  simp [retainRecord, or_assoc]

/-- `Cmap::subset` + `serialize_cmap`, for EVERY list of source records and every plan: if a table is
produced (`d` = the format 4 subtables were dropped after overflowing 64 KiB), its encoding records are —
in source order — exactly the retained source records that `survives` keeps:
a format 4 record survives iff `d` is false and its writer wrote something (its list is non-empty);
a format 12 record survives unless (`d` false and) `can_drop_format12` holds; a format 14 record
survives iff some default / non-default table of a requested selector is non-empty; records of other
formats and unreadable subtables never survive.  And every written record points at an object that the
writer of SOME retained source record with the same (platform, encoding) produced from the plan's list
restricted to that subtable's own code points (`ObjFor`: `Cmap4::serialize` on `list4`, `Cmap12::serialize` on
`list12`, `Cmap14::serialize`); that it is the record at the same position among the survivors is
`SubsetCmap.serializeCmapGo_spec`, not this statement. -/
theorem cmap_records_are_survivors (recs : List RecIn) (p : PlanIn) (st : CmapSer) (d : Bool)
    (h : subsetCmapSt recs p = .ok (st, d)) :
    st.records.map recKey =
      ((recs.filter retainRecord).filter (survives p (recs.filter retainRecord) d)).map
        (fun r => (r.platform, r.encoding)) ∧
    ∀ x ∈ st.records, ∃ r ∈ recs, retainRecord r = true ∧ (r.platform, r.encoding) = recKey x ∧
      ∃ o, st.packed[x.2.2]? = some o ∧ ObjFor p r o := by
  have key : ∀ dd st', serializeCmapGo p (recs.filter retainRecord) dd (recs.filter retainRecord) emptySer = .ok st' →
      st'.records.map recKey =
        ((recs.filter retainRecord).filter (survives p (recs.filter retainRecord) dd)).map
          (fun r => (r.platform, r.encoding)) ∧
      ∀ x ∈ st'.records, ∃ r ∈ recs, retainRecord r = true ∧ (r.platform, r.encoding) = recKey x ∧
        ∃ o, st'.packed[x.2.2]? = some o ∧ ObjFor p r o := by
    intro dd st' hgo
    obtain ⟨_, new, hrec, hkeys, hall⟩ := serializeCmapGo_spec p _ dd _ emptySer st' hgo
    rw [show st'.records = new from hrec.trans (List.nil_append _)]
    refine ⟨hkeys, fun x hx => ?_⟩
    -- the source record a written record stands for
    have hlen := congrArg List.length hkeys
    rw [List.length_map, List.length_map] at hlen
    obtain ⟨r, hxr⟩ := exists_zip_of_mem hlen hx
    obtain ⟨hk, o, ho1, ho2⟩ := hall _ hxr
    have hr' := List.mem_filter.1 (List.mem_filter.1 (List.of_mem_zip hxr).2).1
    exact ⟨r, hr'.1, hr'.2, hk.symm, o, ho1, ho2⟩
  unfold subsetCmapSt at h
  simp only [] at h
  split at h
  · cases h
  · split at h
    · cases h
    · unfold serializeCmapSt at h
      simp only [] at h
      split at h
      · cases h
      · rename_i st0 hgo
        split at h
        · cases h
        · split at h
          · cases h
          · cases h
            exact key false st hgo
      · split at h
        · cases h
        · cases h
        · rename_i st1 hgo1
          split at h
          · cases h
          · split at h
            · cases h
            · cases h
              exact key true st hgo1
      · cases h

/-- when a table is produced the source has a BMP Unicode record or a format 12 subtable, and a
format 12 subtable only together with a full-repertoire record ((0,4) or (3,10)) — the refusal rules -/
theorem cmap_produced_only_with_unicode_records (recs : List RecIn) (p : PlanIn) (res : CmapSer × Bool)
    (h : subsetCmapSt recs p = .ok res) :
    ((recs.filter retainRecord).any (fun r => r.sub.format? == some 12) ∨
      (recs.filter retainRecord).any (fun r => r.platform == 0 && r.encoding == 3) ∨
      (recs.filter retainRecord).any (fun r => r.platform == 3 && r.encoding == 1)) ∧
    ((recs.filter retainRecord).any (fun r => r.sub.format? == some 12) = true →
      (recs.filter retainRecord).any (fun r => r.platform == 0 && r.encoding == 4) ∨
      (recs.filter retainRecord).any (fun r => r.platform == 3 && r.encoding == 10)) := by
  unfold subsetCmapSt at h
  simp only [] at h
  split at h
  · cases h
  · rename_i h1
    split at h
    · cases h
    · rename_i h2
      constructor
      · by_cases a : (recs.filter retainRecord).any (fun r => r.sub.format? == some 12) = true
        · exact Or.inl a
        · by_cases b : (recs.filter retainRecord).any (fun r => r.platform == 0 && r.encoding == 3) = true
          · exact Or.inr (Or.inl b)
          · by_cases c : (recs.filter retainRecord).any (fun r => r.platform == 3 && r.encoding == 1) = true
            · exact Or.inr (Or.inr c)
            · simp_all
      · intro a
        by_cases b : (recs.filter retainRecord).any (fun r => r.platform == 0 && r.encoding == 4) = true
        · exact Or.inl b
        · by_cases c : (recs.filter retainRecord).any (fun r => r.platform == 3 && r.encoding == 10) = true
          · exact Or.inr c
          · simp_all

/-- `copy_non_default_uvs`, for every source table and plan: if it does not hit its `unwrap`, the
mappings it writes are exactly the source mappings whose character is in the plan's unicodes or whose
glyph was requested (`keepNonDefault`), in source order, each glyph id replaced by its image under the
plan's glyph map (as a `u16`) -/
theorem uvs_non_default_retained (p : PlanIn) (maps : List (Nat × Nat)) (b : List Nat) (n : Nat)
    (h : copyNonDefault p maps = some (b, n)) :
    n = (maps.filter (keepNonDefault p)).length ∧
    ∃ news : List Nat, news.length = n ∧
      (∀ k (hk : k < n), ∃ hk' : k < (maps.filter (keepNonDefault p)).length,
        lookupMap p.glyphMap ((maps.filter (keepNonDefault p))[k]).2 = news[k]?) ∧
      b = (List.zip (maps.filter (keepNonDefault p)) news).flatMap
            (fun x => be24 x.1.1 ++ be16 (x.2 % 65536)) := by
  rw [copyNonDefault_eq] at h
  obtain ⟨news, hm, he⟩ := Option.map_eq_some_iff.mp h
  cases he
  have hmap := (mapM_eq_some_iff _ _ _).mp hm
  have hlen : (maps.filter (keepNonDefault p)).length = news.length := by simpa using congrArg List.length hmap
  refine ⟨hlen.symm, news, rfl, fun k hk => ⟨hlen ▸ hk, ?_⟩, rfl⟩
  have := congrArg (·[k]?) hmap
  simpa [List.getElem?_eq_getElem (hlen ▸ hk), List.getElem?_eq_getElem hk] using this

/-- non-vacuity: one mapping kept through its character, one dropped, one kept through its glyph -/
def examplePlan : PlanIn :=
  { unicodes := [0x4E00, 0xFE00], u2g := [], glyphsRequested := [9], glyphMap := [(7, 1), (9, 2)], numGlyphs := 10 }

example : copyNonDefault examplePlan [(0x4E00, 7), (0x4E01, 8), (0x4E02, 9)] =
    some ([0, 0x4E, 0, 0, 1, 0, 0x4E, 2, 0, 2], 2) := by decide

example : survives examplePlan [] false ⟨1, 0, .other 6 0⟩ = false := by decide
example : retainRecord ⟨3, 10, .unreadable⟩ = true ∧ retainRecord ⟨1, 0, .other 6 0⟩ = false ∧
    retainRecord ⟨0, 5, .f14 []⟩ = true := by decide

/-- `copy_default_uvs` (both of its branches, after fix 2e8ae31), for every well-formed source table
(ranges ascending and disjoint, none starting at U+0000) and every plan (unicodes strictly ascending):
the ranges it writes stand for exactly the plan's unicodes that lie in a source range — the default
variation sequences of the source restricted to the kept characters — and no written count exceeds
255 (one byte). -/
theorem uvs_default_retained (p : PlanIn) (ranges rs : List (Nat × Nat))
    (hw : ranges.Pairwise (fun a b => a.1 + a.2 < b.1)) (hpos : ∀ r ∈ ranges, 1 ≤ r.1)
    (hasc : p.unicodes.Pairwise (· < ·)) (hlt : ∀ u ∈ p.unicodes, u < INVALID)
    (h : copyDefault p ranges = some rs) :
    (∀ c, c ∈ expandUvs rs ↔ c ∈ p.unicodes ∧ ∃ r ∈ ranges, r.1 ≤ c ∧ c ≤ r.1 + r.2) ∧
    ∀ r ∈ rs, r.2 ≤ 255 := by
  unfold copyDefault at h
  split at h
  · cases Option.some.inj h
    obtain ⟨e1, e2⟩ := defaultFew_spec ranges p.unicodes INVALID INVALID (fun h => absurd rfl h) hasc hlt
    refine ⟨fun c => ?_, e2⟩
    rw [e1, openBlock, if_pos rfl, List.nil_append, List.mem_filter, foundIn_iff ranges hw c]
  · rw [defaultMany_spec p.unicodes hasc hlt ranges INVALID hw hpos (Or.inl rfl)] at h
    cases Option.some.inj h
    refine ⟨fun c => ?_, fun r hr => by obtain ⟨x, _, rfl⟩ := List.mem_map.mp hr; exact Nat.zero_le _⟩
    rw [expandUvs_map_zero]
    simp only [pend, if_true, List.nil_append, List.mem_flatMap, visited, List.mem_filter,
      decide_eq_true_eq]
    constructor
    · rintro ⟨r, hr, hc, h1, h2⟩
      exact ⟨hc, r, hr, by omega, by omega⟩
    · rintro ⟨hc, r, hr, h1, h2⟩
      have := hpos r hr
      exact ⟨r, hr, hc, by omega, by omega⟩

/-- non-vacuity (the "many unicodes" branch; the binary search of the other branch is defined by
well-founded recursion and does not reduce by `decide` — it is exercised by the correspondence runs) -/
example : copyDefault { examplePlan with unicodes := [0x4E00, 0x4E01, 0x4E02, 0x4E10] } [(0x4E00, 2), (0x4E10, 0)] =
    some [(0x4E00, 0), (0x4E01, 0), (0x4E02, 0), (0x4E10, 0)] := by decide

end FontVerif.C17Cmap
