/-
C15 — ordering and equality of the scalar types and of `BigEndian<T>` (font-types/src/raw.rs):
"ordering of values equals ordering of raw bits".  Model: Model/Scalars.lean (`cmpInt`, `lexCmp`,
`key`, `beCmp`) over the big-endian codecs of Model/Fixed.lean.

Reading of the statement that is proved: `BigEndian<T>::cmp` (and `T::cmp`) is the comparison of the
decoded raw integer — SIGNED two's complement for `i8/i16/i32/i64`, `Int24`, `FWord`, the
fixed-point types and `LongDateTime`; UNSIGNED for `u8/u16/u32`, `Uint24`, `UfWord`, glyph ids,
`NameId`, offsets, `Version16Dot16`; for the unsigned kinds, `Tag` and `MajorMinor` that is the
same as the lexicographic order of the big-endian bytes; for the signed kinds it is NOT (a negative
value has its top bit set), which is the exact content of the seeded byte-compare defect.
-/
import FontVerif.Model.Scalars
import FontVerif.Lemmas.BeScalar
import FontVerif.Props.C15
namespace FontVerif.C15Ord
open FontVerif.Fixed FontVerif.Scalars FontVerif.BeScalar

/-! ### `cmp` is a total order consistent with equality -/

theorem cmp_swap (a b : Int) : cmpInt b a = (cmpInt a b).swap :=
  (Int.compare_swap a b).symm

theorem cmp_trans (a b c : Int) (h1 : cmpInt a b = .lt) (h2 : cmpInt b c = .lt) :
    cmpInt a c = .lt := by
  rw [cmp_lt_iff] at *; omega

/-- derived `PartialOrd` / `BigEndian::partial_cmp` agree with `Ord`. -/
theorem partial_cmp_is_some_cmp (k : Kind) (a b : List Int) :
    bePartialCmp k a b = some (beCmp k a b) := rfl

/-- `BigEndian<T>::cmp` is `T::cmp` of the decoded values (`self.get().cmp(&other.get())`). -/
theorem be_cmp_is_cmp_of_get (k : Kind) (a b : List Int) :
    beCmp k a b = lexCmp (key k a) (key k b) := rfl

theorem i8_be_roundtrip (v : Int) (h : inI8 v) : fromBeS 1 (toBeS 1 v) = v := fromBeS_toBeS 1 h

theorem i16_be_roundtrip (v : Int) (h : inI16 v) : fromBeS 2 (toBeS 2 v) = v := fromBeS_toBeS 2 h

theorem i32_be_roundtrip (v : Int) (h : inI32 v) : fromBeS 4 (toBeS 4 v) = v := fromBeS_toBeS 4 h

/-- `LongDateTime` / `i64`: 8 bytes. -/
theorem i64_be_roundtrip (v : Int) (h : inI64 v) : fromBeS 8 (toBeS 8 v) = v := fromBeS_toBeS 8 h

theorem u8_be_roundtrip (v : Int) (h : inU8 v) : fromBeU (toBeU 1 v) = v :=
  fromBeU_toBeU_of_range 1 h

/-- `BigEndian<i8 / i16 / i32 / i64>` (and `FWord`, `F2Dot14`, `F4Dot12`, `F6Dot10`, `Fixed`,
`LongDateTime`): comparing two encoded values is the SIGNED comparison of the values. -/
theorem be_cmp_i8 (a b : Int) (ha : inI8 a) (hb : inI8 b) :
    beCmp (.s 1) (toBeS 1 a) (toBeS 1 b) = cmpInt a b := be_cmp_s 1 ha hb

theorem be_cmp_i16 (a b : Int) (ha : inI16 a) (hb : inI16 b) :
    beCmp (.s 2) (toBeS 2 a) (toBeS 2 b) = cmpInt a b := be_cmp_s 2 ha hb

theorem be_cmp_i32 (a b : Int) (ha : inI32 a) (hb : inI32 b) :
    beCmp (.s 4) (toBeS 4 a) (toBeS 4 b) = cmpInt a b := be_cmp_s 4 ha hb

theorem be_cmp_i64 (a b : Int) (ha : inI64 a) (hb : inI64 b) :
    beCmp (.s 8) (toBeS 8 a) (toBeS 8 b) = cmpInt a b := be_cmp_s 8 ha hb

theorem be_cmp_int24 (a b : Int) (ha : -8388608 ≤ a ∧ a ≤ 8388607) (hb : -8388608 ≤ b ∧ b ≤ 8388607) :
    beCmp .i24 (int24ToBe a) (int24ToBe b) = cmpInt a b := by
  have ra := C15.int24_be_roundtrip a ha
  have rb := C15.int24_be_roundtrip b hb
  unfold int24ToBe at *
  simp only [beCmp, key] at *
  rw [ra, rb, lex_singleton]

/-! ### unsigned kinds: value order = lexicographic order of the bytes -/

theorem be_cmp_u8 (a b : Int) (ha : inU8 a) (hb : inU8 b) :
    beCmp (.u 1) (toBeU 1 a) (toBeU 1 b) = cmpInt a b := be_cmp_u 1 ha hb

theorem be_cmp_u16 (a b : Int) (ha : inU16 a) (hb : inU16 b) :
    beCmp (.u 2) (toBeU 2 a) (toBeU 2 b) = cmpInt a b := be_cmp_u 2 ha hb

theorem be_cmp_u32 (a b : Int) (ha : inU32 a) (hb : inU32 b) :
    beCmp (.u 4) (toBeU 4 a) (toBeU 4 b) = cmpInt a b := be_cmp_u 4 ha hb

theorem be_cmp_uint24 (a b : Int) (ha : 0 ≤ a ∧ a ≤ 16777215) (hb : 0 ≤ b ∧ b ≤ 16777215) :
    beCmp .u24 (uint24ToBe a) (uint24ToBe b) = cmpInt a b := by
  have ra := C15.uint24_be_roundtrip a ha
  have rb := C15.uint24_be_roundtrip b hb
  unfold uint24ToBe at *
  simp only [beCmp, key] at *
  rw [ra, rb, lex_singleton]

private theorem then_assoc (a b c : Ordering) : (a.then b).then c = a.then (b.then c) :=
  Ordering.then_assoc a b c

/-- byte-lexicographic order (= derived `Ord` of `Tag`, = what a raw `memcmp` of two encoded
unsigned scalars gives) is the unsigned order of the big-endian integers: 2, 3 and 4 bytes. -/
theorem lex_bytes_is_unsigned_order_2 (a0 a1 b0 b1 : Int) (h : inU8 a0 ∧ inU8 a1 ∧ inU8 b0 ∧ inU8 b1) :
    lexCmp [a0, a1] [b0, b1] = cmpInt (fromBeU [a0, a1]) (fromBeU [b0, b1]) :=
  lex_bytes_is_unsigned_order rfl (by simp [Bytes, h]) (by simp [Bytes, h])

theorem lex_bytes_is_unsigned_order_3 (a0 a1 a2 b0 b1 b2 : Int)
    (h : inU8 a0 ∧ inU8 a1 ∧ inU8 a2 ∧ inU8 b0 ∧ inU8 b1 ∧ inU8 b2) :
    lexCmp [a0, a1, a2] [b0, b1, b2] = cmpInt (fromBeU [a0, a1, a2]) (fromBeU [b0, b1, b2]) :=
  lex_bytes_is_unsigned_order rfl (by simp [Bytes, h]) (by simp [Bytes, h])

theorem lex_bytes_is_unsigned_order_4 (a0 a1 a2 a3 b0 b1 b2 b3 : Int)
    (h : inU8 a0 ∧ inU8 a1 ∧ inU8 a2 ∧ inU8 a3 ∧ inU8 b0 ∧ inU8 b1 ∧ inU8 b2 ∧ inU8 b3) :
    lexCmp [a0, a1, a2, a3] [b0, b1, b2, b3]
      = cmpInt (fromBeU [a0, a1, a2, a3]) (fromBeU [b0, b1, b2, b3]) :=
  lex_bytes_is_unsigned_order rfl (by simp [Bytes, h]) (by simp [Bytes, h])

/-- `Tag`: `#[derive(Ord)]` on `[u8; 4]`, and `BigEndian<Tag>`: the order of the tag read as a
big-endian `u32`. -/
theorem tag_cmp_is_u32_order (a0 a1 a2 a3 b0 b1 b2 b3 : Int)
    (h : inU8 a0 ∧ inU8 a1 ∧ inU8 a2 ∧ inU8 a3 ∧ inU8 b0 ∧ inU8 b1 ∧ inU8 b2 ∧ inU8 b3) :
    beCmp .tag [a0, a1, a2, a3] [b0, b1, b2, b3]
      = cmpInt (fromBeU [a0, a1, a2, a3]) (fromBeU [b0, b1, b2, b3]) :=
  lex_bytes_is_unsigned_order_4 a0 a1 a2 a3 b0 b1 b2 b3 h

/-- `MajorMinor`: derived `Ord` compares `(major, minor)`; through `BigEndian` that is the order of
the packed 32-bit value. -/
theorem majorminor_cmp_is_u32_order (a0 a1 a2 a3 b0 b1 b2 b3 : Int)
    (h : inU8 a0 ∧ inU8 a1 ∧ inU8 a2 ∧ inU8 a3 ∧ inU8 b0 ∧ inU8 b1 ∧ inU8 b2 ∧ inU8 b3) :
    beCmp .mm [a0, a1, a2, a3] [b0, b1, b2, b3]
      = cmpInt (fromBeU [a0, a1, a2, a3]) (fromBeU [b0, b1, b2, b3]) := by
  -- packed value: `major * 2^16 + minor`
  have e : ∀ c0 c1 c2 c3 : Int,
      fromBeU [c0, c1, c2, c3] = fromBeU [c0, c1] * 256 ^ 2 + fromBeU [c2, c3] := by
    intros; simp only [fromBeU, List.foldl]; omega
  have ra := fromBeU_range (bs := [a2, a3]) (by simp [Bytes, h])
  have rb := fromBeU_range (bs := [b2, b3]) (by simp [Bytes, h])
  rw [e, e, cmp_digits _ _ _ _ (256 ^ 2) ra rb]
  rw [beCmp, key, key, lex_cons, lex_singleton]

/-- for a two-byte SIGNED scalar (`i16`, `FWord`, `F2Dot14` …) the lexicographic order of the bytes is wrong
exactly across the sign: a negative value sorts after a non-negative one (what comparing `be_bytes()` would do).
Every width: `BeScalar.lex_toBeS_signed`. -/
theorem lex_bytes_signed_across_sign (a b : Int) (ha : inI16 a) (hb : inI16 b) (h : a < 0 ∧ 0 ≤ b) :
    lexCmp (toBeS 2 a) (toBeS 2 b) = .gt ∧ cmpInt a b = .lt :=
  ⟨(lex_toBeS_signed 2 ha hb).1 h, (cmp_lt_iff a b).mpr (by omega)⟩

/-- … and right when the signs agree. -/
theorem lex_bytes_signed_same_sign (a b : Int) (ha : inI16 a) (hb : inI16 b)
    (h : (a < 0 ∧ b < 0) ∨ (0 ≤ a ∧ 0 ≤ b)) :
    lexCmp (toBeS 2 a) (toBeS 2 b) = cmpInt a b :=
  (lex_toBeS_signed 2 ha hb).2 h

/-! ### equality: raw bytes equal ⟺ values equal -/

theorem be_eq_iff_i16 (a0 a1 b0 b1 : Int) (h : inU8 a0 ∧ inU8 a1 ∧ inU8 b0 ∧ inU8 b1) :
    key (.s 2) [a0, a1] = key (.s 2) [b0, b1] ↔ [a0, a1] = [b0, b1] :=
  be_eq_iff_s 2 rfl rfl (by simp [Bytes, h]) (by simp [Bytes, h])

theorem be_eq_iff_u32 (a0 a1 a2 a3 b0 b1 b2 b3 : Int)
    (h : inU8 a0 ∧ inU8 a1 ∧ inU8 a2 ∧ inU8 a3 ∧ inU8 b0 ∧ inU8 b1 ∧ inU8 b2 ∧ inU8 b3) :
    key (.u 4) [a0, a1, a2, a3] = key (.u 4) [b0, b1, b2, b3] ↔ [a0, a1, a2, a3] = [b0, b1, b2, b3] :=
  be_eq_iff_u 4 rfl rfl (by simp [Bytes, h]) (by simp [Bytes, h])

/-- `cmp = Equal` exactly for equal values, for every kind (`lexCmp` on the decoded keys). -/
theorem be_cmp_eq_iff (k : Kind) (a b : List Int) : beCmp k a b = .eq ↔ key k a = key k b :=
  lex_eq_iff _ _

/-- cross-type comparison `GlyphId ~ GlyphId16`: the `u32` order. -/
theorem gid_cross_cmp (a b : Int) : gidCrossCmp a b = some (cmpInt a b) := rfl

example : beCmp (.s 2) [255, 255] [0, 0] = .lt ∧ lexCmp [255, 255] [0, 0] = .gt
    ∧ beCmp (.u 2) [255, 255] [0, 0] = .gt ∧ beCmp .i24 [128, 0, 0] [127, 255, 255] = .lt
    ∧ beCmp .mm [0, 1, 0, 5] [0, 1, 0, 10] = .lt := by decide

end FontVerif.C15Ord
