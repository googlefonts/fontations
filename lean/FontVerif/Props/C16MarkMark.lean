/-
C16 (MarkToMark / MarkToLig builders) — write-fonts/src/tables/gpos/builders.rs `MarkToMarkBuilder`,
`MarkToLigBuilder` (and the shared `MarkList`).  Model: Model/LayoutMarkLig.lean; helper lemmas:
Lemmas/LayoutMarkLig.lean, Lemmas/LayoutMarkBuilder.lean.  Correspondence: harness case `mm.build` (it sends
the `mb.build` request: same model), `ml.build`.
-/
import FontVerif.Props.C16Builders
import FontVerif.Lemmas.LayoutMarkLig
namespace FontVerif.C16
open FontVerif.Layout

/-- `MarkToMarkBuilder` is the `MarkToBaseBuilder` code under other
names (`insert_mark1` / `insert_mark2`; `.mark` / `.base` of `MbOp`): for ANY sequence of inserts
that does not panic, `build` does not panic and for EVERY (attaching mark, base mark) pair the
compiled MarkMarkPos subtable yields the anchors of the LAST `insert_mark1` of the mark and of the
LAST `insert_mark2` of the base mark for the mark's class, a null offset (no match) otherwise. -/
theorem markmark_builder_reads_back {A : Type} (ops : List (MbOp A))
    (hg : ∀ op ∈ ops, op.glyph < 65536) (b : MarkToMark A)
    (hb : MarkToBase.ofOps ops MarkToBase.empty = some b) :
    ∃ t, MarkToMark.build b = some t ∧ t.classCount = b.marks.classes.length ∧
      ∀ m m2, t.lookup m m2 = mbExpected ops m m2 :=
  markbase_builder_reads_back ops hg b hb

/-- `MarkList::insert` on the mark list of a `MarkToBaseBuilder` / `MarkToMarkBuilder` after ANY
non-panicking sequence of that builder's inserts (the `MarkList` code is shared with `MarkToLigBuilder`,
whose states this theorem does not speak of): inserting glyph `g` into class `n` returns `Ok(class id of n)`
when the glyph is new or was last inserted into the SAME class, and `Err(previous class name)` —
the conflicting-class error — exactly when its last insert named a DIFFERENT class (the entry is
replaced all the same, which `markbase_builder_reads_back` accounts for). -/
theorem mark_insert_result {A : Type} (ops : List (MbOp A)) (hg : ∀ op ∈ ops, op.glyph < 65536)
    (b : MarkToBase A) (hb : MarkToBase.ofOps ops MarkToBase.empty = some b) (g n : Nat) (a : A) :
    ∃ id, classId (b.marks.insert g n a).1.classes n = some id ∧
      (b.marks.insert g n a).2 =
        match lastMark ops g with
        | some p => if p.1 = n then .inl id else .inr p.1
        | none => .inl id := by
  have inv := mbInv_ofOps ops hg b hb
  have hok := inv.classes.intern n
  have hid := classId_intern_self b.marks.classes n
  rw [markList_insert_eq, markList_insert_snd]
  refine ⟨_, hid, ?_⟩
  have hm := inv.marks g
  cases hl : lastMark ops g with
  | none => rw [hl] at hm; rw [hm]
  | some p =>
    rw [hl] at hm
    obtain ⟨id', h1, h2⟩ := hm
    have h1' := classId_intern_of_some n h1
    rw [h2]
    dsimp only
    by_cases hpn : p.1 = n
    · -- the same class again: the same id
      rw [hpn, hid] at h1'
      rw [if_neg (fun hne => hne (Option.some.inj h1').symm), if_pos hpn]
    · -- another class: another id, and the error names the class the glyph was in
      rw [if_pos (fun (e : id' = _) => hpn (hok.id_inj h1' (e ▸ hid))), if_neg hpn, hok.name_of_id h1']

/-- Apply ANY sequence of `insert_mark`, `insert_ligature` (`None`
entries, repeated (ligature, class), shorter component lists) and
`add_ligature_components_directly` calls (glyphs < 65536) that does not panic (`insert_ligature`
with an anchor beyond the ligature's component list panics) to an empty `MarkToLigBuilder`.
Whenever `build` succeeds (it panics only for a class name no mark uses), for EVERY (mark glyph,
ligature glyph, component index) the compiled MarkLigPos subtable yields exactly what the builder's
state `b` holds after the calls (the anchor `b.marks` has for the mark, the anchor the ligature's component
map in `b.ligatures` has for the mark's class; that the state is the last insert per key is not stated) —
mark and ligature coverage in glyph order, class names turned into the mark list's ids, a null offset
(no match) where the component has no anchor for that class, nothing for an uncovered glyph or a
component index beyond the ligature's components. -/
theorem marklig_builder_reads_back {A : Type} (ops : List (MlOp A))
    (hg : ∀ op ∈ ops, op.glyph < 65536) (b : MarkToLig A)
    (hb : MarkToLig.ofOps ops MarkToLig.empty = some b) (t : MarkLig A) (ht : b.build = some t) :
    t.classCount = b.marks.classes.length ∧
    ∀ m l c, t.lookup m l c =
      match bmGet m b.marks.glyphs, bmGet l b.ligatures with
      | some (id, am), some comps =>
        (comps[c]?).bind (fun comp => (compAnchor b.marks.classes comp id).map (fun al => (am, al)))
      | _, _ => none :=
  mlInv_build_lookup b (mlInv_ofOps ops _ mlInv_empty hg b hb) t ht

/-- mark 20 moves from class "1" to class "2" (`Err(1)`), ligature 7 has two components: class "1"
on the first, class "2" on the second (the repeated insert wins), `None` entries leave nulls -/
def exMlOps : List (MlOp Nat) :=
  [.mark 20 1 100, .mark 21 2 101, .mark 20 2 102, .lig 7 1 [some 200, none], .lig 7 2 [none, some 201],
   .lig 7 2 [none, some 202]]

example : ((MarkToLig.ofOps exMlOps MarkToLig.empty).bind MarkToLig.build).map
    (fun t => (t.classCount, t.marks, t.ligs.map (·.map (·.map (·.getD 0))))) =
    some (2, [(1, 102), (1, 101)], [[[200, 0], [0, 202]]]) := by decide +kernel
example : ((MarkToLig.ofOps exMlOps MarkToLig.empty).bind MarkToLig.build).map
    (fun t => [t.lookup 20 7 1, t.lookup 20 7 0, t.lookup 21 7 2]) =
    some [some (102, 202), none, none] := by decide +kernel
/-- an anchor beyond the component list: `insert_ligature` panics; a class no mark uses: `build` panics -/
example : MarkToLig.ofOps [MlOp.mark 20 1 100, .lig 7 1 [some 1], .lig 7 1 [none, some 2]] MarkToLig.empty = none ∧
    ((MarkToLig.ofOps [MlOp.mark 20 1 100, .lig 7 3 [some 1]] MarkToLig.empty).bind MarkToLig.build) = none := by
  decide +kernel
/-- the conflicting-class error names the previous class -/
example : (((MarkToBase.empty : MarkToBase Nat).insertMark 20 1 100).marks.insert 20 2 102).2 = .inr 1 := by
  decide +kernel

end FontVerif.C16
