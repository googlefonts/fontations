/-
C02 — the CFF hinter's hint map never overruns its 96-slot edge array (skrifa/src/outline/cff/hint.rs HintMap::insert).
Model: Model/HintMap.lean (checked array accesses: `none` = index-out-of-bounds panic); helpers: Lemmas/HintMap.lean.
-/
import FontVerif.Lemmas.HintMap
namespace FontVerif.C02
open FontVerif.HintMap

/-- `insert` never indexes out of bounds: on a well-formed map it returns, the map stays well formed
    (`len <= MAX_HINTS`, the invariant every later `edges[..len]` / `edges[i]` relies on) and grows by 0, 1 or 2 edges. -/
theorem insert_total (m : Map) (bottom top : Hint) (h : WF m) :
    ∃ m', HintMap.insert m bottom top = some m' ∧ Step m m' := by
  obtain ⟨m', hm', rfl | ⟨ix, _, _, hw, hl, _⟩⟩ := insert_refines m bottom top h
  · exact ⟨_, hm', step_refl h⟩
  · exact ⟨m', hm', hw, by omega, by have := newEdges_length_le bottom top; omega⟩

/-- any sequence of inserts (one per stem hint, whatever the font says) on a well-formed map returns a well-formed
    map: the 96-slot array is never overrun -/
theorem insertAll_total (ops : List (Hint × Hint)) : ∀ (m : Map), WF m →
    ∃ m', insertAll m ops = some m' ∧ WF m' ∧ m'.len ≤ m.len + 2 * ops.length := by
  induction ops with
  | nil => intro m h; exact ⟨m, rfl, h, by simp⟩
  | cons op rest ih =>
    intro m h
    obtain ⟨b, t⟩ := op
    obtain ⟨m1, h1, hs⟩ := insert_total m b t h
    obtain ⟨m2, h2, hw2, hl2⟩ := ih m1 hs.1
    refine ⟨m2, by simp only [insertAll, h1, h2], hw2, ?_⟩
    have := hs.2.2
    simp only [List.length_cons]; omega

theorem new_wf : WF Map.new := by
  simp [WF, Map.new, MAX_HINTS]

/-- The invariant as the property needs it: starting from `HintMap::new`, after ANY sequence of `insert` calls the
    code has not panicked and `len <= 96`. -/
theorem hint_map_never_overruns (ops : List (Hint × Hint)) :
    ∃ m', insertAll Map.new ops = some m' ∧ m'.len ≤ MAX_HINTS ∧ m'.edges.length = MAX_HINTS := by
  obtain ⟨m', h, hw, _⟩ := insertAll_total ops Map.new new_wf
  exact ⟨m', h, hw.2, hw.1⟩


/-! ### non-vacuity, and what the capacity check is for -/

/-- the off-by-one variant of the capacity check ("is the map already full?") -/
def fullOnly (len _cnt : Nat) : Bool := len ≥ MAX_HINTS

def ghost (y : Int) : Hint × Hint := ({ flags := 1, cs := y, ds := y }, { flags := 0, cs := 0, ds := 0 })
def pair (y : Int) : Hint × Hint := ({ flags := 4, cs := y, ds := y }, { flags := 8, cs := y + 4, ds := y + 4 })
/-- one single-edge ghost stem + 47 stem pairs, ascending: 95 edges -/
def ops95 : List (Hint × Hint) := ghost 79 :: (List.range 47).map (fun (i : Nat) => pair (82 + 7 * (i : Int)))

/-- the map after `ops95`, written out: the ghost edge, 47 x (bottom, top), one free slot -/
def m95 : Map :=
  { edges := (ghost 79).1 :: ((List.range 47).flatMap (fun (i : Nat) => [(pair (82 + 7 * (i : Int))).1, (pair (82 + 7 * (i : Int))).2]))
      ++ [default],
    len := 95 }

-- the hypotheses of the theorems are satisfiable: the map really fills to 95 edges (of 96 slots) ...
example : insertAll Map.new ops95 = some m95 := by decide +kernel
example : WF m95 := by constructor <;> decide +kernel
-- ... a further pair is ignored by the code as it is (above and below the existing edges) ...
example : HintMap.insert m95 (pair 500).1 (pair 500).2 = some m95 := by decide +kernel
example : HintMap.insert m95 (pair 10).1 (pair 10).2 = some m95 := by decide +kernel
-- ... a single edge still fits ...
example : (HintMap.insert m95 (ghost 600).1 (ghost 600).2).map (·.len) = some 96 := by decide +kernel
-- ... and with the off-by-one check the same pair overruns the array: at the end (`edges[insert_ix + 1]`) and in the
-- make-room loop (`edges[dst_index]`): this is why the theorem needs `len + edge_count > MAX_HINTS`
example : insertWith fullOnly m95 (pair 500).1 (pair 500).2 = none := by decide +kernel
example : insertWith fullOnly m95 (pair 10).1 (pair 10).2 = none := by decide +kernel

/-- a sequence of shaped inserts (what `build` performs: the em-box ghosts, one `insert(bottom, top)` per active stem
    with `Hint::setup` flags, the baseline ghost) keeps the active edges a sequence of units — single ghost edges and
    adjacent bottom / top pairs — and the map well formed -/
theorem insertAll_units (ops : List (Hint × Hint)) (hops : ∀ op ∈ ops, Shaped op.1 op.2) : ∀ (m : Map), WF m →
    Units (m.edges.take m.len) →
    ∃ m', insertAll m ops = some m' ∧ WF m' ∧ Units (m'.edges.take m'.len) := by
  induction ops with
  | nil => intro m h hu; exact ⟨m, rfl, h, hu⟩
  | cons op rest ih =>
    intro m h hu
    obtain ⟨b, t⟩ := op
    obtain ⟨m1, h1, hs⟩ := insert_total m b t h
    have hu1 := insert_units m m1 b t h hu (hops (b, t) (by simp)) h1
    obtain ⟨m2, h2, hw2, hu2⟩ := ih (fun op hop => hops op (by simp [hop])) m1 hs.1 hu1
    exact ⟨m2, by simp only [insertAll, h1, h2], hw2, hu2⟩

/-- **`adjust` never indexes outside the edge array or the `saved` array, and never underflows `j - 1`**: on a well
    formed map whose active edges are units, for every outcome of its coordinate comparisons -/
theorem adjust_total (m : Map) (hwf : WF m) (hu : Units (m.edges.take m.len)) (ora : Nat → Nat → Bool) :
    HintMap.adjust m ora = some () := by
  unfold HintMap.adjust
  have hlen : m.len ≤ m.edges.length := by have := hwf.1; have := hwf.2; omega
  obtain ⟨saved, h1, hs⟩ := adjustPass1_ok m.edges m.len ora hlen hwf.2 m.len 0 [] (by omega) (by simpa using hu)
    (by simp) (by intro j hj; cases hj)
  rw [h1]
  exact adjustPass2_ok m.edges m.len hlen saved hs

/-- **`transform` never indexes outside the array**: both scans and the final reads stay below `len` -/
theorem transform_total (m : Map) (hwf : WF m) (ge lt : Nat → Bool) :
    ∃ i, HintMap.transform m ge lt = some i ∧ (m.len = 0 ∨ i < m.len) := by
  unfold HintMap.transform
  by_cases h0 : m.len = 0
  · rw [if_pos h0]; exact ⟨0, rfl, Or.inl h0⟩
  · rw [if_neg h0]
    have hlen : m.len ≤ m.edges.length := by have := hwf.1; have := hwf.2; omega
    obtain ⟨i1, h1, hi1⟩ := transformUp_ok m.edges (m.len - 1) ge (by omega) m.len 0 (by omega)
    rw [h1]
    simp only []
    obtain ⟨i2, h2, hi2⟩ := transformDown_ok m.edges lt (i1 + 1) i1 (by omega)
    rw [h2]
    simp only []
    obtain ⟨v0, hv0⟩ := getAt_ok (l := m.edges) (i := 0) (by omega)
    obtain ⟨v2, hv2⟩ := getAt_ok (l := m.edges) (i := i2) (by omega)
    rw [hv0, hv2]
    exact ⟨i2, rfl, Or.inr (by omega)⟩

/-- **`HintMap::build` never overruns**: starting from `HintMap::new`, after ANY sequence of shaped inserts the map is
    well formed, `adjust` returns for every outcome of its comparisons, and `transform` reads inside the array -/
theorem hint_map_build_never_overruns (ops : List (Hint × Hint)) (hops : ∀ op ∈ ops, Shaped op.1 op.2)
    (ora : Nat → Nat → Bool) (ge lt : Nat → Bool) :
    ∃ m', insertAll Map.new ops = some m' ∧ m'.len ≤ MAX_HINTS ∧ HintMap.adjust m' ora = some () ∧
      ∃ i, HintMap.transform m' ge lt = some i := by
  obtain ⟨m', h, hw, hu⟩ := insertAll_units ops hops Map.new new_wf (by simp [Map.new]; exact Units.nil)
  obtain ⟨i, hi, _⟩ := transform_total m' hw ge lt
  exact ⟨m', h, hw.2, adjust_total m' hw hu ora, i, hi⟩

/-! ### non-vacuity, and what the unit structure is for -/

example : ∀ op ∈ ops95, Shaped op.1 op.2 := by decide +kernel
example : HintMap.adjust m95 (fun _ _ => false) = some () := by decide +kernel
example : HintMap.adjust m95 (fun _ w => w == 2) = some () := by decide +kernel
/-- the full map (96 edges: the ghost, 47 pairs, one more ghost) -/
example : ((HintMap.insert m95 (ghost 600).1 (ghost 600).2).bind (fun m => HintMap.adjust m (fun _ _ => false))) = some () := by
  decide +kernel
/-- an edge flagged PAIR_BOTTOM without its top in the LAST slot would make `adjust` read `edges[96]`: the unit structure
    (which `insert` maintains for the hints `build` passes) is what excludes it -/
def badLast : Map := { edges := (List.replicate 95 { flags := 1, cs := 0, ds := 0 }) ++ [{ flags := 4, cs := 0, ds := 0 }], len := 96 }
example : HintMap.adjust badLast (fun _ _ => false) = none := by decide +kernel
example : HintMap.transform m95 (fun _ => true) (fun _ => false) = some 94 := by decide +kernel
example : HintMap.transform m95 (fun _ => false) (fun _ => true) = some 0 := by decide +kernel

end FontVerif.C02
