/-
C19 — the extension loop of `src/bin/ift_extend.rs` (a binary: not callable by the harness).
Model: `PatchGroup.extendF` (Model/PatchGroup.lean).  Tie to the source: translate/c19_extend.py
re-extracts the loop's statement skeleton on every run (Gen/C19Extend.lean) and checks the token hash
of the loop body against a reviewed normal form.  Helper lemmas: Lemmas/PatchGroupExtend.lean.
-/
import FontVerif.Lemmas.PatchGroupExtend
import FontVerif.Gen.C19Extend
import FontVerif.Props.C19
set_option linter.unusedVariables false
namespace FontVerif.C19
open FontVerif.PatchMap FontVerif.PatchGroup FontVerif.UriTemplate

/-- The statement skeleton of the binary's loop, as extracted from
the CURRENT source — the named steps in order (parse font → select → exit test `!has_uris` → for each
selected uri: status lookup (`contains_key` ⇒ skip) → fetch → enter as `Pending` → apply), the steps
whose failure ends the run, the state carried between rounds, and the control-flow census (one
`break`, one `continue`, no `return`, ONE write to the status map, no `?`) — is exactly the skeleton
of the model `extendF`. -/
theorem extend_model_matches_source :
    Gen.C19Extend.steps = extendSteps ∧ Gen.C19Extend.failing = extendFailing ∧
    Gen.C19Extend.carried = extendCarried ∧ Gen.C19Extend.controlFlow = extendControlFlow := by
  decide +kernel

/-- Fonts are any type `F` with two mapping tables
(`ift`, `iftx`), patch application is ARBITRARY (`applyTk`, `applyGk`: property C18), the server is
any partial function `fetch`.  Let `Inv` be any property of fonts that holds initially and is kept by
successful patch application ("reachable"), and `U` a list containing every uri that
`select_next_patches` can name on a reachable font (e.g. the expanded uris of all entries of all
reachable mapping tables).  Then the loop, started with an empty status map and more than `|U|`
fuel, NEVER runs out of fuel, and

* ends `done` after at most `|U|` rounds with a reachable font whose offered set for the target
  definition is EMPTY (`intersecting_patches = Ok([])`: the fixpoint), or
* ends with an error VALUE (selection error, a failed fetch, or a patch-application error incl.
  `EmptyPatchList` when a round could not make progress), also within `|U|` rounds. -/
theorem extend_terminates_and_reaches_fixpoint {F : Type} (ift iftx : F → MapTable) (d : SubsetDef)
    (applyTk : F → PatchInfo → List Nat → Except String F)
    (applyGk : F → List (PatchInfo × List Nat) → Except String F)
    (fetch : Uri → Option (List Nat)) (Inv : F → Prop) (U : List Uri)
    (hTk : ∀ f p data f', Inv f → applyTk f p data = .ok f' → Inv f')
    (hGk : ∀ f acc f', Inv f → applyGk f acc = .ok f' → Inv f')
    (hU : ∀ f g, Inv f → selectNext (ift f) (iftx f) d = .ok g → ∀ u, u ∈ optUris g → u ∈ U)
    (font0 : F) (h0 : Inv font0) (fuel : Nat) (hfuel : U.length < fuel) :
    match extendF (fun f => selectNext (ift f) (iftx f) d) applyTk applyGk fetch fuel 0 font0 [] with
    | .done f' pd' r => r ≤ U.length ∧ Inv f' ∧ intersectingPatches (ift f') (iftx f') d = .ok []
    | .failed _ r => r ≤ U.length
    | .outOfFuel _ _ => False := by
  have hb := extendF_bounded (fun f => selectNext (ift f) (iftx f) d) applyTk applyGk fetch Inv U hTk hGk hU
    fuel 0 font0 [] h0 (PdOk.nil U) (by simp [appliedCount]; omega)
  cases hr : extendF (fun f => selectNext (ift f) (iftx f) d) applyTk applyGk fetch fuel 0 font0 [] with
  | done f' pd' r =>
    simp only [hr] at hb ⊢
    obtain ⟨h1, h2, _, g, hg, hno⟩ := hb
    refine ⟨by simp [appliedCount] at h1; omega, h2, ?_⟩
    -- no uris selected ⇒ nothing offered
    obtain ⟨cands, hc, hcase⟩ := selectNext_cases hg
    rcases hcase with ⟨he, _⟩ | ⟨hne, _, G, hG, hsel⟩
    · rw [hc, he]
    · exfalso
      have := (select_progress (ift f') (iftx f') d cands g hc hne hg).1
      rw [hno] at this
      cases this
  | failed e r =>
    simp only [hr] at hb ⊢
    simp [appliedCount] at hb; omega
  | outOfFuel f' pd' => simp only [hr] at hb

/-- A round that selects a uri without a status which the server cannot
deliver ends the run with an error value (the binary panics with "Unable to read patch file"). -/
theorem fetch_failure_is_error {F : Type} (select : F → Except String (Option Group))
    (applyTk : F → PatchInfo → List Nat → Except String F)
    (applyGk : F → List (PatchInfo × List Nat) → Except String F)
    (fetch : Uri → Option (List Nat)) (fuel rounds : Nat) (font : F) (pd : PatchData) (g : Option Group)
    (hs : select font = .ok g) (hh : hasUris g = true) (u : Uri) (hu : u ∈ optUris g)
    (hget : pdGet pd u = none) (hf : fetch u = none) :
    extendF select applyTk applyGk fetch (fuel + 1) rounds font pd = .failed "err:fetch-failed" rounds := by
  simp only [extendF, hs, hh, Bool.not_true, Bool.false_eq_true, if_false,
    fetchMissingOpt_none fetch _ pd u hu hget hf]

/-! ## non-vacuity -/

section Examples

private def mkRaw (cps : Ranges) (ignored : Bool) : RawEntry :=
  { flags := 16 + (if ignored then 64 else 0), feats := [], segs := [], childByte := 0, children := [],
    delta := 0, fmt := 0, bias := 0, cps := some cps, size := 2 }

private def tbl (ignored : Bool) : MapTable :=
  .f2 { compat := 7, defaultFormat := 2, entriesOffset := 40, hasIdStrings := false, idData := [],
        template := [123, 105, 100, 125], utf8Ok := true, raws := [mkRaw [(65, 65)] ignored] }

/-- fonts = "is the only entry applied?"; the table-keyed patch marks it -/
private def run (fetch : Uri → Option (List Nat)) (marks : Bool) : RunResult Bool :=
  extendF (F := Bool) (fun f => selectNext (tbl f) .none ⟨[(65, 65)], .set [], .ranges []⟩)
    (fun _ _ _ => .ok marks) (fun f _ => .ok f) fetch 5 0 false []

private def outcome : RunResult Bool → String
  | .done f _ r => s!"done {f} {r}"
  | .failed e r => s!"failed {e} {r}"
  | .outOfFuel _ _ => "fuel"

/-- a server that answers: one round, then nothing is offered -/
example : outcome (run (fun _ => some [1]) true) = "done true 1" := by decide +kernel
/-- a server that fails -/
example : outcome (run (fun _ => none) true) = "failed err:fetch-failed 0" := by decide +kernel
/-- a patch that does not mark its entry: the second round reports `EmptyPatchList` instead of looping -/
example : outcome (run (fun _ => some [1]) false) = "failed err:EmptyPatchList 1" := by decide +kernel

end Examples

end FontVerif.C19
