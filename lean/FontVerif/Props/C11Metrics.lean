/-
C11 (continued) — scaled glyph metrics, the gvar fallback, HVAR / VVAR / MVAR delta lookup and
vertical metric lookup.
Models: Model/Metrics.lean ⇄ skrifa/src/metrics.rs (FixedScaleFactor, GlyphMetrics, metric_deltas_from_gvar),
        skrifa/src/instance.rs (Size::fixed_linear_scale), read-fonts/src/tables/{variations,hvar,vvar,mvar,
        hmtx,vmtx,vorg,gvar}.rs.
-/
import FontVerif.Model.Metrics
import FontVerif.Lemmas.Round
import FontVerif.Lemmas.MetricsLemmas
import FontVerif.Lemmas.Ieee
import FontVerif.Props.C15
import FontVerif.Props.C15Float
namespace FontVerif.C11
open FontVerif.Metrics

/-! ## 1. `FixedScaleFactor::apply` for every scale factor -/

theorem applyScale_inI32 (scale value : Int) : inI32 (applyScale scale value) :=
  Fixed.mulDiv_inI32 scale value 64

/-- every size, scaled or not: `FixedScaleFactor::apply` returns, as
16.16 bits, the exact product `scale · value / 64` rounded to nearest (ties away from zero) —
EXACTLY when that rounded value fits the 16.16 result type; otherwise the result has wrapped
(known finding `C11-unscaled-metric-wraps-at-32768` is the instance `scale = 64·2¹⁶`). -/
theorem apply_scale_exact_iff (scale value : Int) (hs : inI32 scale) (hv : inI32 value) :
    applyScale scale value = roundHalfAway (scale * value) 64 ↔
      inI32 (roundHalfAway (scale * value) 64) := by
  constructor
  · intro h; rw [← h]; exact applyScale_inI32 scale value
  · intro h
    unfold applyScale
    apply C15.mul_div_spec scale value 64 _ hs hv (by decide) (by decide) h
    unfold IsRHAq
    simp only [show (0 : Int) < 64 by decide, if_true]
    exact roundHalfAway_isRHA _ (by decide)

/-- the no-wrap condition in terms of the operands: the rounded magnitude
`⌊(|scale|·|value| + 32) / 64⌋` must stay below `2³¹` (= 32768 pixels in 16.16). -/
theorem apply_scale_exact_of_small (scale value : Int) (hs : inI32 scale) (hv : inI32 value)
    (h : (iabs (scale * value) + 32) / 64 < 2147483648) :
    applyScale scale value = roundHalfAway (scale * value) 64 := by
  rw [apply_scale_exact_iff scale value hs hv, roundHalfAway_eq _ (by decide)]
  unfold inI32 iabs at *
  generalize scale * value = p at *
  by_cases hp : p < 0
  · simp only [hp, if_true] at h ⊢; omega
  · simp only [hp, if_false] at h ⊢; omega

/-- `Size::unscaled()` (and `units_per_em = 0`) use the identity factor `64 · 2¹⁶`. -/
theorem unscaled_scale (upem : Nat) :
    fixedLinearScale none upem = 4194304 ∧ ∀ p, fixedLinearScale (some p) 0 = 4194304 := by
  constructor <;> (intros; simp [fixedLinearScale])

/-- for a size `ppem` and `units_per_em > 0` the factor is the 26.6
size `p64 = (ppem · 64.0) as i32` (an `f32` product, truncated and saturated) divided by
`units_per_em` as a 16.16 quotient rounded to nearest — whenever that quotient fits an `i32`. -/
theorem fixed_linear_scale_spec (p : Ieee.FVal) (upem : Nat) (hu : 0 < upem) (hu2 : upem < 65536)
    (r : Int) (hr : inI32 r)
    (h : IsRHA (Ieee.toIntSat (-2147483648) 2147483647 (Ieee.mul Ieee.f32 p (.fin false 1 6)) * 65536)
          upem r) :
    fixedLinearScale (some p) upem = r := by
  unfold fixedLinearScale
  simp only [hu, if_true]
  have hsat := toIntSat_range (lo := -2147483648) (hi := 2147483647) (by omega) (by omega)
    (Ieee.mul Ieee.f32 p (.fin false 1 6))
  apply C15.div_spec _ _ r (by unfold inI32; omega) (by unfold inI32; omega) (by omega) hr
  unfold IsRHAq
  have : (0 : Int) < (upem : Int) := by omega
  simp only [this, if_true]
  exact h

theorem isRHA_abs {P d r : Int} (h : IsRHA P d r) : 2 * (d * r) - d ≤ 2 * P ∧ 2 * P ≤ 2 * (d * r) + d :=
  isRHA_near h

/-- the two roundings together: with the scale factor
`scale = round(p64 · 2¹⁶ / upem)` (`p64` = the size in 26.6) and the result
`r = round(scale · value / 64)`, the 16.16 result is within `1/2 + |value| / 128` units of `2⁻¹⁶` px of
the exact scaled metric `value · p64 · 2¹⁶ / (64 · upem)` = `value · ppem / upem` pixels:
`2 · |64 · upem · r − 2¹⁶ · p64 · value| ≤ upem · (64 + |value|)`. -/
theorem scaled_metric_error_bound (p64 upem scale value r : Int) (hu : 0 < upem)
    (hs : IsRHA (p64 * 65536) upem scale) (hr : IsRHA (scale * value) 64 r) :
    2 * (64 * upem * r) - upem * (64 + iabs value) ≤ 2 * (65536 * p64 * value) ∧
    2 * (65536 * p64 * value) ≤ 2 * (64 * upem * r) + upem * (64 + iabs value) := by
  have ha := isRHA_abs hs
  have hb := isRHA_abs hr
  -- A = 2 p64 65536 - 2 upem scale ∈ [-upem, upem];  B = 2 scale value - 128 r ∈ [-64, 64]
  generalize hA : 2 * (p64 * 65536) - 2 * (upem * scale) = A at *
  generalize hB : 2 * (scale * value) - 2 * (64 * r) = B at *
  have hAr : -upem ≤ A ∧ A ≤ upem := by omega
  have hBr : -64 ≤ B ∧ B ≤ 64 := by omega
  -- 2·65536·p64·value − 2·64·upem·r = value·A + upem·B
  have key : 2 * (65536 * p64 * value) - 2 * (64 * upem * r) = value * A + upem * B := by
    rw [← hA, ← hB]
    simp only [Int.mul_sub, Int.mul_assoc, Int.mul_comm, Int.mul_left_comm]
    omega
  have hvA := mul_bound (a := value) (A := iabs value) (by unfold iabs; split <;> omega) hAr
  have huB := mul_bound (a := upem) (A := upem) (by omega) hBr
  have e1 : upem * (64 + iabs value) = upem * 64 + iabs value * upem := by
    rw [Int.mul_add, Int.mul_comm upem (iabs value)]
  rw [e1]
  omega

/-! ## 2. advance width / left side bearing: lookup + HVAR delta + scaling, composed -/

/-- for a glyph inside the glyph count, `advance_width` is
`scale(base + delta)`: the hmtx advance (last long metric repeated), plus the integer HVAR delta
(or the gvar phantom difference, or nothing), through `FixedScaleFactor::apply`, converted with
`Fixed::to_f32`; `None` beyond the glyph count. -/
theorem advance_width_composed (scale : Int) (glyphCount : Nat) (hMetrics : List (Int × Int))
    (gid : Nat) (src : DeltaSrc) :
    (glyphCount ≤ gid → advanceWidth scale glyphCount hMetrics gid src = none) ∧
    (gid < glyphCount → advanceWidth scale glyphCount hMetrics gid src =
      some (FixedConv.toF32Lossy 16 (applyScale scale (baseAdvance hMetrics gid + advanceDeltaOf src)))) := by
  unfold advanceWidth applyScaleF32
  constructor
  · intro h; simp [h]
  · intro h
    have : ¬ gid ≥ glyphCount := by omega
    simp [this]

/-- the amounts added: an HVAR delta `d` with `|d| < 2¹⁵` is added as is; a failed lookup
(`Err`, e.g. no lsb mapping ⇒ `NullOffset`) adds nothing; no table adds nothing. -/
theorem delta_amounts (d : Int) (hd : inI16 d) :
    advanceDeltaOf (.hvar (some d)) = d ∧ lsbDeltaOf (.hvar (some d)) = d ∧
    advanceDeltaOf (.hvar none) = 0 ∧ lsbDeltaOf (.hvar none) = 0 ∧
    advanceDeltaOf .none = 0 ∧ lsbDeltaOf .none = 0 ∧
    advanceDeltaOf (.gvar none) = 0 ∧ lsbDeltaOf (.gvar none) = 0 := by
  refine ⟨?_, ?_, rfl, rfl, rfl, rfl, rfl, rfl⟩
  · simp only [advanceDeltaOf]; rw [deltaInt_eq, wrapI16_id hd]
  · simp only [lsbDeltaOf]; rw [deltaInt_eq, wrapI16_id hd]

/-- the whole pipeline for a scaled size, in exact arithmetic — with an
in-range HVAR delta `d` and a product that fits, the advance is
`round(scale · (base + d) / 64) / 2¹⁶` pixels exactly (no `f32` rounding below `2²⁴` 16.16 units,
i.e. below 256 px). -/
theorem scaled_advance_value (scale : Int) (glyphCount : Nat) (hMetrics : List (Int × Int))
    (gid : Nat) (d : Int) (hg : gid < glyphCount) (hd : inI16 d) (hs : inI32 scale)
    (hb : inI32 (baseAdvance hMetrics gid + d))
    (hfit : (roundHalfAway (scale * (baseAdvance hMetrics gid + d)) 64).natAbs < 2 ^ 24) :
    advanceWidth scale glyphCount hMetrics gid (.hvar (some d)) =
      some (let r := roundHalfAway (scale * (baseAdvance hMetrics gid + d)) 64
            if r = 0 then .fin false 0 0 else .fin (decide (r < 0)) r.natAbs (-16)) := by
  rw [(advance_width_composed scale glyphCount hMetrics gid _).2 hg, (delta_amounts d hd).1]
  have hin : inI32 (roundHalfAway (scale * (baseAdvance hMetrics gid + d)) 64) := by
    unfold inI32; omega
  rw [(apply_scale_exact_iff scale _ hs hb).2 hin]
  generalize roundHalfAway (scale * (baseAdvance hMetrics gid + d)) 64 = r at *
  rw [C15Float.to_f32_exact_below_2_24 16 (by decide) r hfit]
  rfl

/-- the same for the left side bearing; without an HVAR lsb mapping
(`src = .hvar none`) the bearing is the scaled hmtx value alone. -/
theorem lsb_composed (scale : Int) (glyphCount : Nat) (hMetrics : List (Int × Int))
    (lsbs : List Int) (gid : Nat) (src : DeltaSrc) :
    (glyphCount ≤ gid → leftSideBearing scale glyphCount hMetrics lsbs gid src = none) ∧
    (gid < glyphCount → leftSideBearing scale glyphCount hMetrics lsbs gid src =
      some (FixedConv.toF32Lossy 16 (applyScale scale (baseLsb hMetrics lsbs gid + lsbDeltaOf src)))) ∧
    (gid < glyphCount → leftSideBearing scale glyphCount hMetrics lsbs gid (.hvar none) =
      some (FixedConv.toF32Lossy 16 (applyScale scale (baseLsb hMetrics lsbs gid)))) := by
  unfold leftSideBearing applyScaleF32
  refine ⟨fun h => by simp [h], fun h => ?_, fun h => ?_⟩
  · have : ¬ gid ≥ glyphCount := by omega
    simp [this]
  · have : ¬ gid ≥ glyphCount := by omega
    simp [this, lsbDeltaOf]

-- 16 ppem at 1000 units per em: scale 67109 (= 1024·65536/1000 rounded), 500 units ↦ 8.0000153 px
example : fixedLinearScale (some (.fin false 1 4)) 1000 = 67109 := by decide
example : applyScale 67109 500 = 524289 ∧ roundHalfAway (67109 * 500) 64 = 524289 := by decide
-- the wrap of the known finding: 40000 units unscaled do not fit
example : ¬ inI32 (roundHalfAway (4194304 * 40000) 64) ∧ applyScale 4194304 40000 = -1673527296 := by
  decide

/-! ## 3. the gvar phantom-point fallback (`metric_deltas_from_gvar`) -/

/-- without HVAR the side-bearing delta is phantom point 0's `x` delta
and the advance delta is the DIFFERENCE of the phantom points' `x` deltas (point 1 − point 0), each
rounded from 16.16 to the nearest integer (half up) — as long as the difference fits an `i32`
(`Fixed -` wraps otherwise) and neither `+ 0x8000` of `to_i32` overflows. -/
theorem gvar_metric_deltas_spec (p0 p1 : Int) (h0 : inI32 p0)
    (hd : inI32 (p1 - p0)) (hr0 : p0 + 32768 < 2147483648) (hr1 : p1 - p0 + 32768 < 2147483648) :
    gvarMetricDeltas p0 p1 = ((p0 + 32768) / 65536, (p1 - p0 + 32768) / 65536) := by
  unfold gvarMetricDeltas
  have e : Tent.fsub p1 p0 = p1 - p0 := by
    exact wrapI32_id hd
  rw [e, C15.to_i32_spec p0 h0 hr0, C15.to_i32_spec (p1 - p0) hd hr1]

/-- at integer phantom deltas `a`, `b` (font units): lsb delta `a`, advance delta `b − a`. -/
theorem gvar_metric_deltas_integer (a b : Int) (ha : -16384 ≤ a ∧ a < 16384)
    (hb : -16384 ≤ b ∧ b < 16384) :
    gvarMetricDeltas (a * 65536) (b * 65536) = (a, b - a) := by
  rw [gvar_metric_deltas_spec _ _ (by unfold inI32; omega) (by unfold inI32; omega) (by omega) (by omega)]
  congr 1 <;> omega

/-- with a gvar fallback the advance is `scale(base + Δadvance)`. -/
theorem gvar_advance_composed (scale : Int) (glyphCount : Nat) (hMetrics : List (Int × Int))
    (gid : Nat) (hg : gid < glyphCount) (p0 p1 : Int) :
    advanceWidth scale glyphCount hMetrics gid (.gvar (some (p0, p1))) =
      some (FixedConv.toF32Lossy 16 (applyScale scale
        (baseAdvance hMetrics gid + (gvarMetricDeltas p0 p1).2))) := by
  rw [(advance_width_composed scale glyphCount hMetrics gid _).2 hg]; rfl

theorem mul_one_fixed (a : Int) (ha : inI32 a) : Fixed.mul a 65536 = a := by
  rw [Fixed.mul_eq, Int.mul_comm, roundHalfAway_mul_self a (by decide), wrapI32_id ha]

theorem fromI32_inI32 (i : Int) : inI32 (Fixed.fromI32 i) := wrapI32_in _

/-- sum of the `x` deltas addressed to position `pos`, all tuples. -/
def xSum (tuples : List TupleX) (pos : Nat) : Int :=
  (tuples.map fun t => ((t.2.filter fun d => d.1 = pos).map (·.2)).sum).sum

theorem inner_fold (ds : List (Nat × Int)) (pos : Nat) : ∀ (acc : Int),
    ds.foldl (fun acc d => if d.1 = pos then Tent.fadd acc (Fixed.mul (Fixed.fromI32 d.2) 65536) else acc)
      (wrapI32 acc) =
    wrapI32 (acc + 65536 * ((ds.filter fun d => d.1 = pos).map (·.2)).sum) := by
  induction ds with
  | nil => intro acc; simp
  | cons d rest ih =>
    intro acc
    simp only [List.foldl_cons]
    by_cases hp : d.1 = pos
    · simp only [hp, if_true, List.filter_cons, decide_true, List.map_cons, List.sum_cons]
      rw [mul_one_fixed _ (fromI32_inI32 _), Tent.fadd, wrapI32_wrap_add]
      rw [show Fixed.fromI32 d.2 = wrapI32 (d.2 * 65536) from rfl, wrapI32_add_wrap, ih]
      congr 1; rw [Int.mul_add]; omega
    · simp only [hp, if_false, List.filter_cons, decide_false]
      exact ih acc

/-- at a location where every active tuple has scalar 1.0
the accumulated phantom `x` is `2¹⁶ ·` the plain sum of the tuples' `x` deltas for that point
(mod `2³²`): the advance delta is then literally (Σ point 1) − (Σ point 0). -/
theorem phantom_accumulation_unit_scalars (tuples : List TupleX) (start k : Nat)
    (hone : ∀ t ∈ tuples, t.1 = 65536) :
    phantomX tuples start k = wrapI32 (65536 * xSum tuples (start + k)) := by
  unfold phantomX xSum
  have : ∀ (ts : List TupleX) (acc : Int), (∀ t ∈ ts, t.1 = 65536) →
      ts.foldl (fun acc t => t.2.foldl (fun acc d =>
        if d.1 = start + k then Tent.fadd acc (Fixed.mul (Fixed.fromI32 d.2) t.1) else acc) acc) (wrapI32 acc) =
      wrapI32 (acc + 65536 * (ts.map fun t => ((t.2.filter fun d => d.1 = start + k).map (·.2)).sum).sum) := by
    intro ts
    induction ts with
    | nil => intro acc _; simp
    | cons t rest ih =>
      intro acc h
      simp only [List.foldl_cons, List.map_cons, List.sum_cons]
      rw [h t (by simp), inner_fold, ih _ (fun t ht => h t (by simp [ht]))]
      congr 1; rw [Int.mul_add]; omega
  have h0 := this tuples 0 hone
  have w0 : wrapI32 0 = 0 := by decide
  rw [w0] at h0
  rw [h0]; simp

/-- a simple glyph uses its own phantom points (after its `numPoints` outline points). -/
theorem find_glyph_simple (glyphs : List GlyphKind) (fuel gid depth n : Nat) (hd : depth ≤ 64)
    (h : glyphs[gid]? = some (.simple n)) :
    findGlyphAndPointCount glyphs (fuel + 1) gid depth = some (gid, n) := by
  unfold findGlyphAndPointCount
  have : ¬ depth > 64 := by omega
  simp [this, h]

/-- an empty glyph uses its own phantom points at index 0; a composite uses the first component that has
USE_MY_METRICS (recursively, one level deeper), else itself with the component count as start. -/
theorem metrics_glyph_rule (glyphs : List GlyphKind) (fuel gid depth : Nat) (hd : depth ≤ 64) :
    (glyphs[gid]? = some .empty → findGlyphAndPointCount glyphs (fuel + 1) gid depth = some (gid, 0)) ∧
    (∀ comps, glyphs[gid]? = some (.composite comps) → comps.find? (fun c => c.2) = none →
      findGlyphAndPointCount glyphs (fuel + 1) gid depth = some (gid, comps.length)) ∧
    (∀ comps c, glyphs[gid]? = some (.composite comps) → comps.find? (fun c => c.2) = some c →
      findGlyphAndPointCount glyphs (fuel + 1) gid depth =
        findGlyphAndPointCount glyphs fuel c.1 (depth + 1)) := by
  have hnd : ¬ depth > 64 := by omega
  refine ⟨fun h => ?_, fun comps h hf => ?_, fun comps c h hf => ?_⟩
  · unfold findGlyphAndPointCount; simp [hnd, h]
  · unfold findGlyphAndPointCount; simp [hnd, h, hf]
  · conv => lhs; unfold findGlyphAndPointCount
    simp [hnd, h, hf]

/-- a USE_MY_METRICS cycle (a composite whose flagged component is itself) is an error, for any
amount of fuel: the recursion is cut at depth 64. -/
theorem metrics_glyph_cycle (glyphs : List GlyphKind) (gid : Nat) (comps : List (Nat × Bool))
    (c : Nat × Bool) (h : glyphs[gid]? = some (.composite comps))
    (hf : comps.find? (fun c => c.2) = some c) (hc : c.1 = gid) :
    ∀ fuel depth, findGlyphAndPointCount glyphs fuel gid depth = none := by
  intro fuel
  induction fuel with
  | zero => intro depth; rfl
  | succ fuel ih =>
    intro depth
    unfold findGlyphAndPointCount
    by_cases hd : depth > 64
    · simp [hd]
    · simp only [hd, if_false, h, hf, hc]
      exact ih (depth + 1)

example : findGlyphAndPointCount [.simple 5, .composite [(0, false), (2, true)], .simple 7] 70 1 0 =
    some (2, 7) := by decide
example : gvarMetricDeltas (10 * 65536) (35 * 65536 + 32768) = (10, 26) := by decide

/-! ## 4. HVAR / VVAR: which delta set, and what comes back -/

/-- `Hvar::advance_width_delta`, `Vvar::advance_height_delta` — the same
function on the other table's store and map: at the default location `0`; without a map the delta
set is `(0, gid as u16)`; with a map it is `map.get(gid)` (last entry beyond the map:
`delta_set_index_map_get`); the result is `Fixed::from_i32(compute_delta(..))`. -/
theorem advance_delta_spec (store : Store) (gid : Nat) (coords : List Int) :
    (∀ dsim st, advanceDelta dsim st gid [] = .ok 0) ∧
    (coords ≠ [] → advanceDelta none (some store) gid coords =
      fromDelta (Tent.computeDelta store.1 store.2 0 (gid % 65536) coords)) ∧
    (coords ≠ [] → ∀ fmt cnt data, advanceDelta (some (fmt, cnt, data)) (some store) gid coords =
      match Tent.dsimGet fmt cnt data gid with
      | some (o, i) => fromDelta (Tent.computeDelta store.1 store.2 o i coords)
      | none => .err) := by
  refine ⟨fun dsim st => by simp [advanceDelta], fun hc => ?_, fun hc fmt cnt data => ?_⟩
  · have : coords.isEmpty = false := by cases coords <;> simp_all
    simp [advanceDelta, this, Tent.implicitIndex]
  · have : coords.isEmpty = false := by cases coords <;> simp_all
    simp only [advanceDelta, this, Bool.false_eq_true, if_false]
    cases Tent.dsimGet fmt cnt data gid with
    | none => rfl
    | some p => rfl

/-- `lsb_delta`, `rsb_delta`, `tsb_delta`, `bsb_delta`, `v_org_delta`: the
same, except that a missing map is an error (`NullOffset`) rather than the implicit index —
skrifa then adds nothing to the side bearing. -/
theorem item_delta_spec (store : Store) (gid : Nat) (coords : List Int) (hc : coords ≠ []) :
    (∀ st, itemDelta none st gid coords = .err) ∧
    (∀ fmt cnt data, itemDelta (some (fmt, cnt, data)) (some store) gid coords =
      match Tent.dsimGet fmt cnt data gid with
      | some (o, i) => fromDelta (Tent.computeDelta store.1 store.2 o i coords)
      | none => .err) := by
  have : coords.isEmpty = false := by cases coords <;> simp_all
  refine ⟨fun st => by simp [itemDelta, this], fun fmt cnt data => ?_⟩
  simp only [itemDelta, this, Bool.false_eq_true, if_false]
  cases Tent.dsimGet fmt cnt data gid with
  | none => rfl
  | some p => rfl

/-- the value that comes back: the integer delta in the high half of a 16.16 number — exactly for
`|delta| < 2¹⁵`, `delta as i16` in general (known finding `C11-metric-delta-wraps-16bit`). -/
theorem from_delta_value (v : Int) :
    fromDelta (.ok v) = .ok (wrapI16 v * 65536) ∧ (inI16 v → fromDelta (.ok v) = .ok (v * 65536)) := by
  simp only [fromDelta]
  refine ⟨by rw [fromI32_eq], fun h => by rw [fromI32_eq, wrapI16_id h]⟩

/-! ## 5. MVAR: binary search by tag -/

theorem mvarSearch_found (records : List (Nat × Nat × Nat)) (tag : Nat)
    (hs : records.Pairwise (fun a b => a.1 < b.1)) (t : Nat) (ht : t < records.length)
    (htag : records[t].1 = tag) :
    ∀ (fuel lo hi : Nat), lo ≤ t → t < hi → hi ≤ records.length → hi - lo < fuel →
      mvarSearch records tag fuel lo hi = some records[t].2 := by
  intro fuel
  induction fuel with
  | zero => intro lo hi _ _ _ h; omega
  | succ fuel ih =>
    intro lo hi hlo hhi hlen hf
    unfold mvarSearch
    have hlt : lo < hi := by omega
    simp only [hlt, if_true]
    have hi_lt : (lo + hi) / 2 < records.length := by omega
    rw [List.getElem?_eq_getElem hi_lt]
    simp only []
    have hord := fun i hi j hj => sorted_lt_iff (key := fun r : Nat × Nat × Nat => r.1) hs (i := i) (j := j) hi hj
    by_cases h1 : tag < records[(lo + hi) / 2].1
    · simp only [h1, if_true]
      have : t < (lo + hi) / 2 := (hord _ ht _ hi_lt).mp (by omega)
      exact ih lo ((lo + hi) / 2) hlo this (by omega) (by omega)
    · simp only [h1, if_false]
      by_cases h2 : tag > records[(lo + hi) / 2].1
      · simp only [h2, if_true]
        have : (lo + hi) / 2 < t := (hord _ hi_lt _ ht).mp (by omega)
        exact ih ((lo + hi) / 2 + 1) hi (by omega) hhi hlen (by omega)
      · simp only [h2, if_false]
        -- equal tags: sortedness makes the midpoint the record itself
        have h3 := mt (hord _ hi_lt _ ht).mpr (by omega)
        have h4 := mt (hord _ ht _ hi_lt).mpr (by omega)
        have : (lo + hi) / 2 = t := by omega
        simp [this]

theorem mvarSearch_some_mem (records : List (Nat × Nat × Nat)) (tag : Nat) :
    ∀ (fuel lo hi : Nat) (r : Nat × Nat), mvarSearch records tag fuel lo hi = some r →
      ∃ x ∈ records, x.1 = tag ∧ x.2 = r := by
  intro fuel
  induction fuel with
  | zero => intro lo hi r h; simp [mvarSearch] at h
  | succ fuel ih =>
    intro lo hi r h
    unfold mvarSearch at h
    split at h
    · simp only [] at h
      split at h
      · cases h
      · rename_i rec hrec
        split at h
        · exact ih _ _ _ h
        · split at h
          · exact ih _ _ _ h
          · cases h
            exact ⟨rec, List.mem_of_getElem? hrec, by omega, rfl⟩
    · cases h

/-- with value records sorted by tag (as the specification requires)
`metric_delta(tag)` evaluates the delta set named by THE record with that tag
(`Fixed::from_i32(compute_delta((outer, inner)))`), and fails (`MetricIsMissing`) exactly when no
record has the tag — for any record count. -/
theorem mvar_metric_delta_spec (records : List (Nat × Nat × Nat)) (store : Store) (tag : Nat)
    (coords : List Int) (hs : records.Pairwise (fun a b => a.1 < b.1)) :
    (∀ o i, (tag, o, i) ∈ records → mvarMetricDelta records (some store) tag coords =
      fromDelta (Tent.computeDelta store.1 store.2 o i coords)) ∧
    ((∀ r ∈ records, r.1 ≠ tag) → ∀ st, mvarMetricDelta records st tag coords = .err) := by
  constructor
  · intro o i hmem
    obtain ⟨t, ht, hrt⟩ := List.getElem_of_mem hmem
    have h1 := mvarSearch_found records tag hs t ht (by rw [hrt]) (records.length + 1) 0 records.length
      (by omega) ht (by omega) (by omega)
    unfold mvarMetricDelta
    rw [h1, hrt]
  · intro hno st
    unfold mvarMetricDelta
    cases h : mvarSearch records tag (records.length + 1) 0 records.length with
    | none => rfl
    | some r =>
      obtain ⟨x, hx, hxt, _⟩ := mvarSearch_some_mem records tag _ _ _ r h
      exact absurd hxt (hno x hx)

example : mvarMetricDelta [(10, 0, 0), (20, 0, 1), (30, 1, 0)] (some ([[(0, 16384, 16384)]],
    [some ⟨2, 1, [0], [0, 100, 255, 206]⟩])) 20 [8192] = .ok (-25 * 65536) := by decide +kernel

/-! ## 6. vertical metrics: vmtx is looked up exactly like hmtx; VORG by glyph id -/

/-- `Vmtx::advance`, `Vmtx::side_bearing` call the hmtx functions: advance =
own long metric, else the LAST long metric (the value `baseAdvance` of the horizontal theorems),
`None` only for an empty table; bearing = own long metric's, else entry `gid − count` of the
trailing array, `None` beyond it (where skrifa's horizontal lookup substitutes 0). -/
theorem vertical_lookup (metrics : List (Int × Int)) (bearings : List Int) (gid : Nat) :
    (metrics ≠ [] → longAdvance metrics gid = some (baseAdvance metrics gid)) ∧
    (metrics = [] → longAdvance metrics gid = none) ∧
    ((longSideBearing metrics bearings gid).getD 0 = baseLsb metrics bearings gid) ∧
    (longSideBearing metrics bearings gid = none ↔
      metrics.length ≤ gid ∧ bearings.length ≤ gid - metrics.length) := by
  unfold longAdvance baseAdvance longSideBearing baseLsb
  refine ⟨fun h => ?_, fun h => by subst h; rfl, ?_, ?_⟩
  · cases hg : metrics[gid]? with
    | some m => rfl
    | none =>
      simp only []
      cases hl : metrics.getLast? with
      | some m => rfl
      | none => exact absurd (List.getLast?_eq_none_iff.mp hl) h
  · cases hg : metrics[gid]? with
    | some m => rfl
    | none => rfl
  · cases hg : metrics[gid]? with
    | some m =>
      simp only []
      have := (List.getElem?_eq_some_iff.mp hg).1
      constructor
      · intro h; cases h
      · intro h; omega
    | none =>
      simp only []
      have := List.getElem?_eq_none_iff.mp hg
      rw [List.getElem?_eq_none_iff]
      constructor
      · intro h; exact ⟨this, h⟩
      · intro h; exact h.2

theorem vorgSearch_inv (records : List (Nat × Int)) (gid : Nat)
    (hs : records.Pairwise (fun a b => a.1 < b.1)) (t : Nat) (ht : t < records.length)
    (htg : records[t].1 = gid) :
    ∀ (fuel base size : Nat), base ≤ t → t < base + size → base + size ≤ records.length →
      size ≤ fuel + 1 → vorgSearch records gid fuel base size = t := by
  intro fuel
  have hord := fun i hi j hj => sorted_lt_iff (key := fun r : Nat × Int => r.1) hs (i := i) (j := j) hi hj
  induction fuel with
  | zero => intro base size h1 h2 h3 h4; simp only [vorgSearch]; omega
  | succ fuel ih =>
    intro base size h1 h2 h3 h4
    unfold vorgSearch
    by_cases hsz : size > 1
    · simp only [hsz, if_true]
      have hmid : base + size / 2 < records.length := by omega
      rw [List.getElem?_eq_getElem hmid]
      simp only []
      by_cases hgt : records[base + size / 2].1 > gid
      · simp only [hgt, if_true]
        have : t < base + size / 2 := (hord _ ht _ hmid).mp (by omega)
        exact ih base (size - size / 2) h1 (by omega) (by omega) (by omega)
      · simp only [hgt, if_false]
        have := mt (hord _ ht _ hmid).mpr (by omega)
        exact ih (base + size / 2) (size - size / 2) (by omega) (by omega) (by omega) (by omega)
    · simp only [hsz, if_false]; omega

theorem vorgSearch_lt (records : List (Nat × Int)) (gid : Nat) :
    ∀ (fuel base size : Nat), 0 < size → base + size ≤ records.length →
      vorgSearch records gid fuel base size < records.length := by
  intro fuel
  induction fuel with
  | zero => intro base size h1 h2; simp only [vorgSearch]; omega
  | succ fuel ih =>
    intro base size h1 h2
    unfold vorgSearch
    by_cases hsz : size > 1
    · simp only [hsz, if_true]
      have hmid : base + size / 2 < records.length := by omega
      rw [List.getElem?_eq_getElem hmid]
      simp only []
      split
      · exact ih _ _ (by omega) (by omega)
      · exact ih _ _ (by omega) (by omega)
    · simp only [hsz, if_false]; omega

/-- with the records sorted by glyph id (required by the format),
`vertical_origin_y(gid)` is the `vertOriginY` of the record for `gid` if there is one and the
table's default otherwise. -/
theorem vorg_lookup (dflt : Int) (records : List (Nat × Int)) (gid : Nat)
    (hs : records.Pairwise (fun a b => a.1 < b.1)) :
    (∀ y, (gid, y) ∈ records → vorgY dflt records gid = y) ∧
    ((∀ r ∈ records, r.1 ≠ gid) → vorgY dflt records gid = dflt) := by
  constructor
  · intro y hmem
    obtain ⟨t, ht, hrt⟩ := List.getElem_of_mem hmem
    have hne : records.isEmpty = false := by cases records <;> simp_all
    have := vorgSearch_inv records gid hs t ht (by rw [hrt]) records.length 0 records.length
      (by omega) (by omega) (by omega) (by omega)
    unfold vorgY
    simp only [hne, Bool.false_eq_true, if_false, this, List.getElem?_eq_getElem ht, hrt, if_true]
  · intro hno
    unfold vorgY
    by_cases hne : records.isEmpty
    · simp [hne]
    · simp only [hne, Bool.false_eq_true, if_false]
      have hpos : 0 < records.length := by cases records <;> simp_all
      have hlt := vorgSearch_lt records gid records.length 0 records.length hpos (by omega)
      rw [List.getElem?_eq_getElem hlt]
      simp only []
      have := hno _ (List.getElem_mem hlt)
      simp [this]

example : vorgY 880 [(1, 867), (3, 824)] 3 = 824 ∧ vorgY 880 [(1, 867), (3, 824)] 2 = 880 := by decide
example : longAdvance [(1000, 10), (900, 20)] 7 = some 900 ∧
    longSideBearing [(1000, 10), (900, 20)] [5, 6] 3 = some 6 ∧
    longSideBearing [(1000, 10), (900, 20)] [5, 6] 4 = none := by decide

end FontVerif.C11
