/-
C15 — the remaining scalar types of font-types (Model/Scalars.lean): `Int24` / `Uint24` checked
constructors, `Version16Dot16`, `MajorMinor`, `FWord` / `UfWord`, offsets, glyph ids, `NameId`, byte patterns of
the signed big-endian scalars, `Tag`.  Property theorems and three private steps of the `Tag` proofs.
-/
import FontVerif.Model.Scalars
import FontVerif.Lemmas.Base
import FontVerif.Lemmas.BeScalar
set_option linter.unusedVariables false
namespace FontVerif.C15Scalar
open FontVerif.Fixed FontVerif.Scalars FontVerif.BeScalar

/-- `checked_new` succeeds exactly on the 24-bit range, returns the value unchanged and agrees with
the saturating `new` there. -/
theorem int24_checked_new_iff (raw v : Int) :
    int24Checked raw = some v ↔ (-8388608 ≤ raw ∧ raw ≤ 8388607 ∧ v = raw) := by
  unfold int24Checked; split <;> simp <;> omega

theorem int24_checked_new_eq_new (raw : Int) (h : -8388608 ≤ raw ∧ raw ≤ 8388607) :
    int24Checked raw = some (int24New raw) := by
  unfold int24Checked int24New; repeat' split
  all_goals first | rfl | (exfalso; omega)

theorem uint24_checked_new_iff (raw v : Int) :
    uint24Checked raw = some v ↔ (raw ≤ 16777215 ∧ v = raw) := by
  unfold uint24Checked; split <;> simp <;> omega

theorem uint24_try_from_usize_iff (x v : Int) (hx : 0 ≤ x) :
    uint24TryFromUsize x = some v ↔ (x ≤ 16777215 ∧ v = x) := by
  unfold uint24TryFromUsize uint24Checked; repeat' split
  all_goals simp
  all_goals omega

/-- `Version16Dot16::new` panics exactly for `minor ≥ 10`. -/
theorem version_new_traps_iff (major minor : Int) : versionNew major minor = none ↔ minor ≥ 10 := by
  unfold versionNew; split <;> simp <;> omega

/-- `to_major_minor ∘ new = id` for every `u16` major and minor `0 … 9`, and the packed value is a
`u32`. -/
theorem version_new_roundtrip (major minor : Int) (hM : inU16 major) (hm : 0 ≤ minor ∧ minor < 10) :
    ∃ v, versionNew major minor = some v ∧ inU32 v ∧ versionToMajorMinor v = (major, minor) := by
  unfold inU16 at hM
  refine ⟨major * 65536 + minor * 4096, ?_, ?_, ?_⟩
  · unfold versionNew; simp; omega
  · unfold inU32; omega
  · unfold versionToMajorMinor; simp; omega

/-- versions built by `new` order like their `(major, minor)` pairs (derived `Ord` on the `u32`). -/
theorem version_order_is_major_minor_order (M1 m1 M2 m2 : Int) (h1 : inU16 M1) (h2 : inU16 M2)
    (hm1 : 0 ≤ m1 ∧ m1 < 10) (hm2 : 0 ≤ m2 ∧ m2 < 10) :
    cmpInt (M1 * 65536 + m1 * 4096) (M2 * 65536 + m2 * 4096) = lexCmp [M1, m1] [M2, m2] := by
  -- `m · 4096` is the low digit in base `65536`
  have e : cmpInt (m1 * 4096) (m2 * 4096) = cmpInt m1 m2 := by
    rcases Int.lt_trichotomy m1 m2 with h | h | h
    · rw [(cmp_lt_iff _ _).mpr h, (cmp_lt_iff _ _).mpr (by omega)]
    · rw [h, (cmp_eq_iff _ _).mpr rfl, (cmp_eq_iff _ _).mpr rfl]
    · rw [(cmp_gt_iff _ _).mpr h, (cmp_gt_iff _ _).mpr (by omega)]
  rw [cmp_digits _ _ _ _ 65536 (by omega) (by omega), e, lex_cons, lex_singleton]

/-- `compatible`: same major, minor at least the other's. -/
theorem version_compatible_spec (M1 m1 M2 m2 : Int) (h1 : inU16 M1) (h2 : inU16 M2)
    (hm1 : 0 ≤ m1 ∧ m1 < 16) (hm2 : 0 ≤ m2 ∧ m2 < 16) :
    versionCompatible (M1 * 65536 + m1 * 4096) (M2 * 65536 + m2 * 4096)
      = (decide (M1 = M2) && decide (m1 ≥ m2)) := by
  unfold inU16 at *
  unfold versionCompatible versionToMajorMinor
  have e1 : (M1 * 65536 + m1 * 4096) / 65536 % 65536 = M1 := by omega
  have e2 : (M2 * 65536 + m2 * 4096) / 65536 % 65536 = M2 := by omega
  have e3 : (M1 * 65536 + m1 * 4096) % 65536 / 4096 = m1 := by omega
  have e4 : (M2 * 65536 + m2 * 4096) % 65536 / 4096 = m2 := by omega
  simp only [e1, e2, e3, e4]

/-- the `(u16, u16)` form goes through `new`: it panics for a minor `≥ 10`. -/
theorem version_compatible_pair_traps_iff (a major minor : Int) :
    versionCompatiblePair a major minor = none ↔ minor ≥ 10 := by
  unfold versionCompatiblePair versionNew; split <;> simp <;> omega

theorem majorminor_be_roundtrip (major minor : Int) (hM : inU16 major) (hm : inU16 minor) :
    (match mmToBe major minor with
     | [b0, b1, b2, b3] => mmFromRaw b0 b1 b2 b3
     | _ => (0, 0)) = (major, minor) := by
  unfold inU16 at *
  simp [mmToBe, mmFromRaw, toBeU, fromBeU, List.range, List.range.loop]; omega

theorem majorminor_bytes_roundtrip (b0 b1 b2 b3 : Int) (h : inU8 b0 ∧ inU8 b1 ∧ inU8 b2 ∧ inU8 b3) :
    mmToBe (mmFromRaw b0 b1 b2 b3).1 (mmFromRaw b0 b1 b2 b3).2 = [b0, b1, b2, b3] := by
  unfold inU8 at h
  simp [mmToBe, mmFromRaw, toBeU, fromBeU, List.range, List.range.loop]; omega

/-- `FWord::to_fixed` is exact (`v · 2^16`, no wrap) and `to_i32` brings the value back. -/
theorem fword_to_fixed_exact (v : Int) (h : inI16 v) :
    fwordToFixed v = v * 65536 ∧ toI32 (fwordToFixed v) = v := by
  have h1 : fwordToFixed v = v * 65536 := by
    rw [fwordToFixed, fromI32, wrapI32_id (by unfold inI32 inI16 at *; omega)]
  refine ⟨h1, ?_⟩
  rw [h1, toI32, wrapI32_id (by unfold inI32 inI16 at *; omega)]
  unfold inI16 at h; omega

/-- `UfWord::to_fixed` is exact below `0x8000` … -/
theorem ufword_to_fixed_exact (v : Int) (h : 0 ≤ v ∧ v < 32768) : fwordToFixed v = v * 65536 := by
  rw [fwordToFixed, fromI32, wrapI32_id (by unfold inI32; omega)]

/-- … and wraps to a negative 16.16 value from `0x8000` on (`i << 16` drops the high bit; 16.16 cannot
represent 32768 … 65535): `UfWord(40000).to_fixed()` is `-25536.0`. -/
theorem ufword_to_fixed_wraps (v : Int) (h : 32768 ≤ v ∧ v < 65536) :
    fwordToFixed v = v * 65536 - 4294967296 := by
  unfold fwordToFixed fromI32 wrapI32; simp only []; split <;> omega

theorem offset_is_null_iff (v : Int) : offsetIsNull v = true ↔ v = 0 := by simp [offsetIsNull]

/-- `GlyphId16 → GlyphId → GlyphId16` is the identity; the conversion fails exactly above `0xFFFF`
and the error carries the offending id. -/
theorem gid16_try_from_ok_iff (v g : Int) : gid16TryFrom v = .ok g ↔ (v ≤ 65535 ∧ g = v) := by
  unfold gid16TryFrom; split <;> simp <;> omega

theorem gid16_try_from_err_iff (v e : Int) : gid16TryFrom v = .error e ↔ (v > 65535 ∧ e = v) := by
  unfold gid16TryFrom; split <;> simp <;> omega

theorem nameid_is_reserved_iff (v : Int) : nameIdIsReserved v = true ↔ v ≤ 255 := by
  simp [nameIdIsReserved]

/-- `NameId::checked_add`: `Some(a + b)` exactly when the sum is at most 32767 (the saturating `u16`
addition cannot produce a small value by wrapping). -/
theorem nameid_checked_add_iff (a b r : Int) (ha : inU16 a) (hb : inU16 b) :
    nameIdCheckedAdd a b = some r ↔ (a + b ≤ 32767 ∧ r = a + b) := by
  unfold inU16 at *
  unfold nameIdCheckedAdd; simp only []
  repeat' split
  all_goals simp
  all_goals omega

example : versionNew 1 1 = some 0x00011000 ∧ versionToMajorMinor 0x00005000 = (0, 5)
    ∧ versionNew 1 10 = none ∧ nameIdCheckedAdd 32767 1 = none ∧ nameIdCheckedAdd 256 1 = some 257
    ∧ fwordToFixed 40000 = -1673527296 := by decide

/-! ### signed big-endian scalars: byte patterns (`i8/i16/i32/i64`, `FWord`, fixed types, `LongDateTime`) -/

/-- `LongDateTime` / `i64`: every 8-byte pattern decodes and re-encodes to itself, every value
survives encode / decode. -/
theorem i64_bytes_roundtrip (b0 b1 b2 b3 b4 b5 b6 b7 : Int)
    (h : inU8 b0 ∧ inU8 b1 ∧ inU8 b2 ∧ inU8 b3 ∧ inU8 b4 ∧ inU8 b5 ∧ inU8 b6 ∧ inU8 b7) :
    toBeS 8 (fromBeS 8 [b0, b1, b2, b3, b4, b5, b6, b7]) = [b0, b1, b2, b3, b4, b5, b6, b7] :=
  toBeS_fromBeS 8 rfl (by simp [Bytes, h])

theorem i64_value_roundtrip (v : Int) (h : inI64 v) : fromBeS 8 (toBeS 8 v) = v := fromBeS_toBeS 8 h

theorem i16_bytes_roundtrip (b0 b1 : Int) (h : inU8 b0 ∧ inU8 b1) :
    toBeS 2 (fromBeS 2 [b0, b1]) = [b0, b1] :=
  toBeS_fromBeS 2 rfl (by simp [Bytes, h])

theorem i32_bytes_roundtrip (b0 b1 b2 b3 : Int) (h : inU8 b0 ∧ inU8 b1 ∧ inU8 b2 ∧ inU8 b3) :
    toBeS 4 (fromBeS 4 [b0, b1, b2, b3]) = [b0, b1, b2, b3] :=
  toBeS_fromBeS 4 rfl (by simp [Bytes, h])

theorem i8_u8_bytes_roundtrip (b0 : Int) (h : inU8 b0) :
    toBeS 1 (fromBeS 1 [b0]) = [b0] ∧ toBeU 1 (fromBeU [b0]) = [b0] :=
  have hb : Bytes [b0] := by simp [Bytes, h]
  ⟨toBeS_fromBeS 1 rfl hb, toBeU_fromBeU 1 rfl hb⟩

private theorem checkedGo_validateGo (l : List Int) : ∀ (i : Nat) (seen : Bool) (l' : List Int),
    checkedGo l i seen = .ok l' ↔ l' = l ∧ validateGo l i seen = .ok () := by
  induction l with
  | nil => intro i seen l'; simp [checkedGo, validateGo, eq_comm]
  | cons b rest ih =>
    intro i seen l'
    have step : ∀ s, (match checkedGo rest (i + 1) s with
        | .ok l => Except.ok (b :: l) | .error e => .error e) = .ok l' ↔
        l' = b :: rest ∧ validateGo rest (i + 1) s = .ok () := by
      intro s
      have hv : validateGo rest (i + 1) s = .ok () ↔ checkedGo rest (i + 1) s = .ok rest := by
        simp [ih]
      rw [hv]
      cases h : checkedGo rest (i + 1) s with
      | error e => simp
      | ok l2 =>
        have := ((ih _ _ l2).1 h).1
        subst this; simp [eq_comm]
    unfold checkedGo validateGo
    by_cases h1 : b = 32 ∧ i = 0
    · simp [h1]
    · by_cases h2 : b = 32
      · subst h2
        rw [if_neg h1, if_neg (by omega), if_neg (fun h => absurd h.1.1 (by decide)), if_neg h1,
          if_pos rfl, decide_eq_true rfl, Bool.or_true]
        exact step true
      · by_cases h3 : b ≤ 31 ∨ b ≥ 127
        · simp [h2, h3]
        · by_cases h4 : (33 ≤ b ∧ b ≤ 126) ∧ seen = true
          · simp [h2, h3, h4]
          · rw [if_neg h1, if_neg h3, if_neg h4, if_neg h1, if_neg h2, if_neg h3, if_neg h4,
              decide_eq_false h2, Bool.or_false]
            exact step seen

private theorem validateGo_spaces : ∀ (n i : Nat), i ≠ 0 → ∀ seen, validateGo (List.replicate n 32) i seen = .ok ()
  | 0, _, _, _ => by simp [validateGo]
  | n + 1, i, hi, seen => by
    rw [List.replicate_succ]
    unfold validateGo
    have h1 : ¬ (True ∧ i = 0) := fun h => hi h.2
    simp only [h1, if_false]
    exact validateGo_spaces n (i + 1) (by omega) true

private theorem validateGo_append_spaces : ∀ (l : List Int) (i : Nat) (seen : Bool) (n : Nat),
    (l ≠ [] ∨ i ≠ 0) → validateGo l i seen = .ok () →
    validateGo (l ++ List.replicate n 32) i seen = .ok ()
  | [], i, seen, n, hne, _ => by
    simp only [List.nil_append]
    rcases hne with h | h
    · exact absurd rfl h
    · exact validateGo_spaces n i h seen
  | b :: rest, i, seen, n, _, h => by
    rw [List.cons_append]
    unfold validateGo at h ⊢
    by_cases h1 : b = 32 ∧ i = 0
    · simp [h1] at h
    · simp only [h1, if_false] at h ⊢
      by_cases h2 : b = 32
      · simp only [h2, if_true] at h ⊢
        exact validateGo_append_spaces rest (i + 1) true n (Or.inr (by omega)) h
      · simp only [h2, if_false] at h ⊢
        by_cases h3 : b ≤ 31 ∨ b ≥ 127
        · simp [h3] at h
        · simp only [h3, if_false] at h ⊢
          by_cases h4 : (33 ≤ b ∧ b ≤ 126) ∧ seen = true
          · simp [h4] at h
          · simp only [h4, if_false] at h ⊢
            exact validateGo_append_spaces rest (i + 1) seen n (Or.inr (by omega)) h

/-- a tag accepted by `Tag::new_checked` passes `Tag::validate` (and is the input padded with spaces). -/
theorem tag_new_checked_validates (src t : List Int) (h : tagNewChecked src = .ok t) :
    t = src ++ List.replicate (4 - src.length) 32 ∧ tagValidate t = .ok () := by
  unfold tagNewChecked at h
  split at h
  · simp at h
  · rename_i hlen
    split at h
    · rename_i l' hl'
      have hcv := (checkedGo_validateGo src 0 false l').1 hl'
      simp at h
      rw [hcv.1] at h
      subst h
      refine ⟨rfl, ?_⟩
      unfold tagValidate
      cases src with
      | nil => simp at hlen
      | cons b rest =>
        have hb : b ≠ 32 := by
          intro hb; subst hb
          unfold checkedGo at hl'; simp at hl'
        have hne : (b :: rest) ++ List.replicate (4 - (b :: rest).length) 32 ≠ [32, 32, 32, 32] := by
          intro hc; simp at hc; exact hb hc.1
        simp only [hne, if_false]
        exact validateGo_append_spaces _ 0 false _ (Or.inl (by simp)) hcv.2
    · simp at h

/-- for a four-byte tag `validate` accepts exactly what `new_checked` accepts. -/
theorem tag_validate_iff_new_checked (a b c d : Int) :
    tagValidate [a, b, c, d] = .ok () ↔ tagNewChecked [a, b, c, d] = .ok [a, b, c, d] := by
  have hcv := checkedGo_validateGo [a, b, c, d] 0 false
  unfold tagValidate tagNewChecked
  by_cases hsp : [a, b, c, d] = [32, 32, 32, 32]
  · simp at hsp
    obtain ⟨rfl, rfl, rfl, rfl⟩ := hsp
    simp [checkedGo]
  · simp only [hsp, if_false]
    have hl : ¬ (([a, b, c, d] : List Int).isEmpty = true ∨ ([a, b, c, d] : List Int).length > 4) := by simp
    simp only [hl, if_false]
    constructor
    · intro h
      rw [(hcv _).2 ⟨rfl, h⟩]; simp
    · intro h
      split at h
      · rename_i l' hl'
        exact ((hcv l').1 hl').2
      · simp at h

example : tagNewChecked [97] = .ok [97, 32, 32, 32] ∧ tagNewChecked [32, 98] = .error (.byte 0 32)
    ∧ tagNewChecked [98, 32, 99] = .error (.byte 2 99) ∧ tagValidate [98, 32, 99, 99] = .error (.after 2)
    ∧ tagNewChecked [] = .error (.len 0) ∧ tagValidate [32, 32, 32, 32] = .error (.len 0)
    ∧ tagNewChecked [127] = .error (.byte 0 127) := ⟨rfl, rfl, rfl, rfl, rfl, rfl, rfl⟩

/-- `Tag::from_u32` / `to_be_bytes` round trip. -/
theorem tag_from_u32_roundtrip (v : Int) (h : inU32 v) : fromBeU (tagFromU32 v) = v :=
  fromBeU_toBeU_of_range 4 h

end FontVerif.C15Scalar
