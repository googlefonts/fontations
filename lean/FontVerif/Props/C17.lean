/-
C17 — subsetting preserves everything about the glyphs and characters it keeps.
Model: Model/Subset.lean ⇄ klippa/src/{lib.rs (Plan::new: populate_unicodes_to_retain,
populate_gids_to_retain, glyf_closure_glyphs, create_old_gid_to_new_gid_map), glyf_loca.rs, hmtx.rs, maxp.rs}.
-/
import FontVerif.Lemmas.Subset
import FontVerif.Lemmas.SubsetCompLoop
namespace FontVerif.C17
open FontVerif.Subset

/-- One call of `glyf_closure_glyphs` retains its root glyph and never
removes a glyph, for every component graph (cyclic ones included), every remaining depth and every
operation budget (exhausted ones included). -/
theorem closure_contains_root (comps : List (List Nat)) (rem gid : Nat) (set : List Nat) (ops : Int) :
    gid ∈ (closureGo comps rem gid (set, ops)).1 ∧
    ∀ x ∈ set, x ∈ (closureGo comps rem gid (set, ops)).1 :=
  ⟨closureGo_root comps rem gid (set, ops), fun x hx => closureGo_mono comps rem gid (set, ops) x hx⟩

/-- Whatever `glyf_closure_glyphs` adds is the root or a transitive
component of the root. -/
theorem closure_nothing_unreachable (comps : List (List Nat)) (rem gid : Nat) (set : List Nat) (ops : Int)
    (x : Nat) (hx : x ∈ (closureGo comps rem gid (set, ops)).1) : x ∈ set ∨ Reach comps gid x :=
  closureGo_sound comps rem gid (set, ops) x hx

/-- The plan's glyph set contains `.notdef`, every requested
glyph id that exists in the font, and the glyph of every requested character (for a character map
with one entry per codepoint). -/
theorem plan_glyphset_contains_requested (p : PlanIn) (pl : Plan) (h : makePlan p = some pl)
    (hc : (p.cmap.map (·.1)).Pairwise (· ≠ ·)) :
    (0 < p.num → 0 ∈ pl.glyphset) ∧
    (∀ g ∈ p.gids, g < p.num → g ∈ pl.glyphset) ∧
    (∀ cp g, (cp, g) ∈ p.cmap → cp ∈ p.unicodes → g < p.num → g ∈ pl.glyphset) := by
  obtain ⟨_, _, hgs, _⟩ := makePlan_some p pl h
  rw [hgs]
  have key := planGsub_sub_glyphset p
  refine ⟨fun h0 => key 0 ((mem_planGsub p 0).mpr ⟨h0, Or.inl rfl⟩), ?_, ?_⟩
  · intro g hg hlt
    exact key g ((mem_planGsub p g).mpr ⟨hlt, Or.inr (Or.inl (unicodesToRetain_gids p g hg hlt))⟩)
  · intro cp g hm hcp hlt
    exact key g ((mem_planGsub p g).mpr
      ⟨hlt, Or.inr (Or.inr (Or.inl ⟨(cp, g), unicodesToRetain_cmap p hc cp g hm hcp hlt, rfl⟩))⟩)

/-- Every glyph of the plan's glyph set is below the font's glyph
count and is a root of the composite closure (a member of `glyphset_colred`) or a transitive component of one;
every root is `.notdef`, a requested glyph, the glyph of a character map entry whose codepoint or
glyph was requested, or was added by the cmap-14 / COLR closures (inputs of the model). -/
theorem plan_glyphset_only_reachable (p : PlanIn) (pl : Plan) (h : makePlan p = some pl) :
    (∀ x ∈ pl.glyphset, x < p.num ∧ ∃ r ∈ pl.colred, Reach p.comps r x) ∧
    (∀ r ∈ pl.colred, r = 0 ∨ r ∈ p.gids ∨ (∃ cp, (cp, r) ∈ p.cmap ∧ (cp ∈ p.unicodes ∨ r ∈ p.gids)) ∨
        r ∈ p.extraGsub ∨ r ∈ p.extraColred) := by
  obtain ⟨_, hcol, hgs, _⟩ := makePlan_some p pl h
  rw [hgs, hcol]
  constructor
  · intro x hx
    rw [mem_planGlyphset] at hx
    refine ⟨hx.1, ?_⟩
    rcases closureAll_sound _ _ _ _ x hx.2 with h1 | h2
    · simp at h1
    · exact h2
  · intro r hr
    rw [mem_planColred] at hr
    rcases hr.2 with hg | hy
    · rcases ((mem_planGsub p r).mp hg).2 with h0 | hreq | ⟨cg, hcg, rfl⟩ | hx
      · exact Or.inl h0
      · exact Or.inr (Or.inl (unicodesToRetain_snd_origin p r hreq).1)
      · obtain ⟨hm, hsel, _⟩ := unicodesToRetain_fst_origin p cg hcg
        exact Or.inr (Or.inr (Or.inl ⟨cg.1, hm, hsel⟩))
      · exact Or.inr (Or.inr (Or.inr (Or.inl hx)))
    · exact Or.inr (Or.inr (Or.inr (Or.inr hy)))

/-- If neither the nesting limit (64) nor the operation
budget (64 per glyph of `glyphset_gsub`, per root) stopped the descent anywhere (`planLimitFired p =
false`; the flag is a specification device, erased by `closureGoF_erase` / `closureAllF_erase`), the
plan's glyph set contains every component (that exists in the font) of every glyph it contains.
The limits are real: see known finding C17-closure-budget for fonts where they fire. -/
theorem closure_closed_when_limits_not_hit (p : PlanIn) (pl : Plan) (h : makePlan p = some pl)
    (hl : planLimitFired p = false) :
    ∀ x ∈ pl.glyphset, ∀ c ∈ compsOf p.comps x, c < p.num → c ∈ pl.glyphset := by
  obtain ⟨_, _, hgs, _⟩ := makePlan_some p pl h
  rw [hgs]
  intro x hx c hc hlt
  rw [mem_planGlyphset] at hx ⊢
  refine ⟨hlt, ?_⟩
  unfold planLimitFired at hl
  have hcl := (closureAllF_walk p.comps _ _ ([], false)).closed hl
  rw [closureAllF_erase] at hcl
  exact hcl x hx.2 List.not_mem_nil c hc

/-- If no limit fired and every component id names a glyph of
the font, the plan's glyph set is exactly the set of glyphs reachable from the roots
(`glyphset_colred`: `.notdef`, requested glyphs, glyphs of requested characters, cmap-14 / COLR
additions) through composite components — the least set containing the roots and closed under
components.  In particular it does not depend on glyph order, iteration order or the budget
bookkeeping, and a cyclic component graph changes nothing. -/
theorem plan_glyphset_is_least_fixed_point (p : PlanIn) (pl : Plan) (h : makePlan p = some pl)
    (hl : planLimitFired p = false) (hwf : ∀ g c, c ∈ compsOf p.comps g → c < p.num) (x : Nat) :
    x ∈ pl.glyphset ↔ ∃ r ∈ pl.colred, Reach p.comps r x := by
  constructor
  · intro hx
    exact ((plan_glyphset_only_reachable p pl h).1 x hx).2
  · rintro ⟨r, hr, hreach⟩
    have hclosed := closure_closed_when_limits_not_hit p pl h hl
    obtain ⟨_, hcol, hgs, _⟩ := makePlan_some p pl h
    have hroot : r ∈ pl.glyphset := by
      rw [hgs]; rw [hcol] at hr; exact planColred_sub_glyphset p r hr
    clear hr
    induction hreach with
    | refl a => exact hroot
    | step hm _ ih => exact ih (hclosed _ hroot _ hm (hwf _ _ hm))

/-- Without retain-gids the new→old list pairs the new ids
`0, 1, …, n-1` (in this order) with the kept glyphs in strictly ascending order: a strictly monotone
bijection from the kept set onto `0..n`, and `num_output_glyphs = n`.  With retain-gids every kept
glyph keeps its id and `num_output_glyphs` exceeds every kept id. (At most 65536 kept glyphs: the
Rust zips with `0u16..`.) -/
theorem glyph_map_monotone_bijection (p : PlanIn) (pl : Plan) (h : makePlan p = some pl)
    (hn : p.num ≤ 65536) :
    pl.glyphset.Pairwise (· < ·) ∧
    (hasFlag p.flags F_RETAIN_GIDS = false →
      pl.n2o.map (·.1) = List.range pl.glyphset.length ∧ pl.n2o.map (·.2) = pl.glyphset ∧
      pl.nout = pl.glyphset.length) ∧
    (hasFlag p.flags F_RETAIN_GIDS = true →
      pl.n2o = pl.glyphset.map (fun g => (g, g)) ∧ ∀ g ∈ pl.glyphset, g < pl.nout) := by
  obtain ⟨_, _, hgs, hn2o, hnout, _⟩ := makePlan_some p pl h
  rw [hgs, hn2o, hnout]
  have hsorted : (planGlyphset p).Pairwise (· < ·) := by
    unfold planGlyphset; exact sortedBelow_pairwise _ _
  have htake : (planGlyphset p).take 65536 = planGlyphset p :=
    List.take_of_length_le (Nat.le_trans (planGlyphset_length_le p) hn)
  refine ⟨hsorted, ?_, ?_⟩
  · intro hf
    refine ⟨?_, ?_, ?_⟩
    · rw [gidMap_renumber_fst _ _ hf, htake]
    · rw [gidMap_renumber_snd _ _ hf, htake]
    · rw [gidMap_renumber_nout _ _ hf, htake]
  · intro hf
    obtain ⟨h1, h2⟩ := gidMap_retain p.flags (planGlyphset p) hf
    refine ⟨h1, ?_⟩
    intro g hg
    rw [h2]
    obtain ⟨m, hm⟩ := Option.isSome_iff_exists.mp (List.getLast?_isSome.mpr (List.ne_nil_of_mem hg))
    have := sorted_le_getLast hsorted hm g hg
    rw [hm]; simp only; omega

/-- After fix 1818a8f the only `unwrap()` of `Plan::new` that depends on font data
(`glyph_map.get(&old_gid).unwrap()` in the rewrite of `unicode_to_new_gid_list`) cannot fail: for
every font (≤ 65536 glyphs), character map, component graph and request a plan is produced. -/
theorem plan_total (p : PlanIn) (hn : p.num ≤ 65536) : (makePlan p).isSome := by
  have hlen : (planGlyphset p).length ≤ 65536 := Nat.le_trans (planGlyphset_length_le p) hn
  have hall := mapM_option_isSome
    (fun cg : Nat × Nat => (oldToNew (gidMap p.flags (planGlyphset p)).1 cg.2).map (fun n => (cg.1, n)))
    (unicodesToRetain p).1 (fun cg hcg => by
      obtain ⟨_, _, hlt⟩ := unicodesToRetain_fst_origin p cg hcg
      have hmem : cg.2 ∈ planGlyphset p :=
        planGsub_sub_glyphset p _ ((mem_planGsub p cg.2).mpr ⟨hlt, Or.inr (Or.inr (Or.inl ⟨cg, hcg, rfl⟩))⟩)
      obtain ⟨n, hn'⟩ := Option.isSome_iff_exists.mp (oldToNew_isSome p.flags _ hlen cg.2 hmem)
      simp only [hn']; rfl)
  obtain ⟨u2g, hu⟩ := Option.isSome_iff_exists.mp hall
  unfold makePlan
  simp only [hu]
  rfl

/-- Subsetting to everything — every glyph id of the font is
requested — keeps every glyph, and without or with retain-gids the glyph map is the identity and
`num_output_glyphs` is the font's glyph count: the plan changes nothing. -/
theorem plan_everything_identity (p : PlanIn) (pl : Plan) (h : makePlan p = some pl)
    (hn : p.num ≤ 65536) (hall : ∀ g, g < p.num → g ∈ p.gids) :
    pl.glyphset = List.range p.num ∧ pl.n2o = (List.range p.num).map (fun g => (g, g)) ∧
    (0 < p.num → pl.nout = p.num) := by
  obtain ⟨_, _, hgs, hn2o, hnout, _⟩ := makePlan_some p pl h
  have hset : planGlyphset p = List.range p.num := by
    have key : ∀ g, g < p.num → g ∈ planGlyphset p := fun g hg =>
      planGsub_sub_glyphset p g ((mem_planGsub p g).mpr ⟨hg, Or.inr (Or.inl (unicodesToRetain_gids p g (hall g hg) hg))⟩)
    have : planGlyphset p = (List.range p.num).filter
        (fun g => (closureAll p.comps (planBudget p) (planColred p) []).contains g) := rfl
    rw [this, List.filter_eq_self]
    intro g hg
    have hlt : g < p.num := by simpa using hg
    simpa using ((mem_planGlyphset p g).mp (key g hlt)).2
  rw [hgs, hn2o, hnout, hset]
  have htake : (List.range p.num).take 65536 = List.range p.num :=
    List.take_of_length_le (by simp; omega)
  by_cases hf : hasFlag p.flags F_RETAIN_GIDS = true
  · obtain ⟨h1, h2⟩ := gidMap_retain p.flags (List.range p.num) hf
    refine ⟨rfl, h1, fun hpos => ?_⟩
    rw [h2, List.getLast?_range]
    have : ¬ p.num = 0 := by omega
    simp [this]; omega
  · have hf' : hasFlag p.flags F_RETAIN_GIDS = false := by simpa using hf
    refine ⟨rfl, ?_, fun _ => ?_⟩
    · -- a list of pairs is the zip of its two projections
      have e1 := gidMap_renumber_fst p.flags (List.range p.num) hf'
      have e2 := gidMap_renumber_snd p.flags (List.range p.num) hf'
      rw [htake, List.length_range] at e1
      rw [htake] at e2
      rw [List.zip_of_prod e1 e2, List.zip_eq_zipWith, List.zipWith_self]
    · rw [gidMap_renumber_nout _ _ hf', htake]; simp

/-- `unicode_to_new_gid_list` (what the cmap subsetter writes) maps a codepoint
to `new` only if the original character map maps it to some `old` with `glyph_map[old] = new` and the
codepoint or that glyph was requested; and every requested codepoint that the original maps is
mapped, to the renumbered image of its glyph (entries naming a glyph the font does not have are
skipped). -/
theorem cmap_commutes (p : PlanIn) (pl : Plan) (h : makePlan p = some pl)
    (hc : (p.cmap.map (·.1)).Pairwise (· ≠ ·)) :
    (∀ cp new, (cp, new) ∈ pl.u2g →
      ∃ old, (cp, old) ∈ p.cmap ∧ (cp ∈ p.unicodes ∨ old ∈ p.gids) ∧ oldToNew pl.n2o old = some new) ∧
    (∀ cp old, (cp, old) ∈ p.cmap → cp ∈ p.unicodes → old < p.num →
      ∃ new, (cp, new) ∈ pl.u2g ∧ oldToNew pl.n2o old = some new) := by
  obtain ⟨_, _, _, hn2o, _, hu⟩ := makePlan_some p pl h
  rw [hn2o]
  obtain ⟨m1, m2⟩ := u2g_spec _ _ _ hu
  constructor
  · intro cp new hm
    obtain ⟨old, hcg, hon⟩ := m1 cp new hm
    obtain ⟨horig, hsel, _⟩ := unicodesToRetain_fst_origin p (cp, old) hcg
    exact ⟨old, horig, hsel, hon⟩
  · intro cp old hm hcp hlt
    exact m2 cp old (unicodesToRetain_cmap p hc cp old hm hcp hlt)

/-- Whenever `Hmtx::subset` succeeds, reading the rewritten table (with its new
numberOfHMetrics) at a kept glyph's new id gives the advance and the side bearing the original
table gives at its old id — for every outcome of the trailing-advance trimming, with and without
retain-gids gaps. (`num_output_glyphs ≤ 0xFFFF`: beyond that the code caps the long metrics.) -/
theorem hmtx_preserved (longs : List (Nat × Nat)) (lsbs : List Nat) (n2o : List (Nat × Nat)) (nout : Nat)
    (o : HmtxOut) (h : subsetHmtx longs lsbs n2o nout = .ok o) (hn : nout ≤ 0xFFFF)
    (new old : Nat) (hno : newToOld n2o new = some old) (hlt : new < nout) :
    o.numH = o.longs.length ∧ o.longs.length + o.lsbs.length = nout ∧ 1 ≤ o.numH ∧
    hmtxAdvance o.longs new = hmtxAdvance longs old ∧
    hmtxLsb o.longs o.lsbs new = hmtxLsb longs lsbs old := by
  obtain ⟨hnz, hsome, rfl⟩ := subsetHmtx_ok h
  obtain ⟨ha', hb'⟩ := hsome (new, old) (lookupNat_mem hno)
  obtain ⟨a, ha⟩ := Option.isSome_iff_exists.mp ha'
  obtain ⟨b, hb⟩ := Option.isSome_iff_exists.mp hb'
  have eadv : newGidAdvance longs n2o new = a := by unfold newGidAdvance; rw [hno]; simp only [ha]; rfl
  have elsb : newGidLsb longs lsbs n2o new = b := by unfold newGidLsb; rw [hno]; simp only [hb]; rfl
  -- the last long metric carries `last_advance`, and so does every trimmed glyph
  obtain ⟨hpos, hle, hlast⟩ := newNumHMetrics_spec longs n2o (by omega : 1 ≤ nout) hn
  generalize newNumHMetrics longs n2o nout = nh at *
  simp only [List.length_map, List.length_range]
  refine ⟨trivial, by omega, hpos, ?_, ?_⟩
  · rw [hmtxAdvance_map_range _ _ _ hpos, ha]
    show some (if new < nh then newGidAdvance longs n2o new else newGidAdvance longs n2o (nh - 1)) = some a
    split
    · rw [eadv]
    · rw [hlast (nh - 1) (Nat.le_refl _) (by omega), ← hlast new (by omega) hlt, eadv]
  · rw [hmtxLsb_map_range _ _ _ _ _ (by omega), hb]
    show some (if new < nh then newGidLsb longs lsbs n2o new else newGidLsb longs lsbs n2o (nh + (new - nh))) = some b
    split
    · rw [elsb]
    · rw [show nh + (new - nh) = new by omega, elsb]

/-- For new ids in strictly ascending order below `num_output_glyphs`
(what `glyph_map_monotone_bijection` gives), the offsets `write_glyf_loca` emits are: one per glyph
id plus one; entry `j` is the total (padded, in the short format) size of the kept glyphs with new id
below `j`; hence entry 0 is 0, entries ascend, and every entry is even in the short format. -/
theorem loca_offsets_correct (pad : Bool) (nout : Nat) (gs : List (Nat × Bytes))
    (hs : (gs.map (·.1)).Pairwise (· < ·)) (hb : ∀ p ∈ gs, p.1 < nout) :
    (locaOffsets pad nout gs).length = nout + 1 ∧
    (∀ j, j ≤ nout → (locaOffsets pad nout gs)[j]? = some (offAt pad gs j)) ∧
    offAt pad gs 0 = 0 ∧
    (∀ j k, j ≤ k → offAt pad gs j ≤ offAt pad gs k) ∧
    (pad = true → ∀ j, offAt pad gs j % 2 = 0) :=
  ⟨locaOffsets_length pad nout gs hs hb,
   fun j hj => locaOffsets_getElem pad nout gs hs hb j hj,
   offAt_of_all_ge pad 0 gs (fun _ _ => Nat.zero_le _),
   fun j k hjk => offAt_mono pad j k hjk gs,
   fun hp j => by subst hp; exact offAt_even j gs⟩

/-- Every kept glyph's loca range `[loca[new], loca[new+1])` cuts
exactly that glyph's rewritten bytes (plus the padding byte of the short format) out of the glyf
bytes that were embedded; and an id that is not a kept glyph (retain-gids gap) has an empty range. -/
theorem loca_resolves_to_glyph_bytes (pad : Bool) (nout : Nat) (gs : List (Nat × Bytes))
    (hs : (gs.map (·.1)).Pairwise (· < ·)) (hb : ∀ p ∈ gs, p.1 < nout) :
    (∀ pre gid g post, gs = pre ++ (gid, g) :: post →
      ∃ a b, (locaOffsets pad nout gs)[gid]? = some a ∧ (locaOffsets pad nout gs)[gid + 1]? = some b ∧
        a ≤ b ∧ ((glyfBytes pad (gs.map (·.2))).drop a).take (b - a) = slotBytes pad g) ∧
    (∀ k, k < nout → (∀ p ∈ gs, p.1 ≠ k) →
      (locaOffsets pad nout gs)[k]? = (locaOffsets pad nout gs)[k + 1]?) := by
  constructor
  · intro pre gid g post hgs
    have hlt : gid < nout := hb (gid, g) (by rw [hgs]; simp)
    refine ⟨offAt pad gs gid, offAt pad gs (gid + 1),
      locaOffsets_getElem pad nout gs hs hb gid (by omega),
      locaOffsets_getElem pad nout gs hs hb (gid + 1) (by omega),
      offAt_mono pad _ _ (by omega) gs, ?_⟩
    subst hgs
    obtain ⟨e0, e1⟩ := offAt_split pad pre gid g post hs
    rw [e0, e1, Nat.add_sub_cancel_left, List.map_append, List.map_cons]
    exact glyfBytes_slot pad pre g _
  · intro k hk hne
    rw [locaOffsets_getElem pad nout gs hs hb k (by omega),
        locaOffsets_getElem pad nout gs hs hb (k + 1) (by omega)]
    rw [offAt_succ_of_ne pad gs k hne]

/-- The long (Offset32, unpadded) branch of `write_glyf_loca`
under retain-gids with ARBITRARY gaps (the instance `pad = false` of the two theorems above, spelled
out): every kept glyph's range is exactly its own bytes, every id that is not a kept glyph — in front of,
between or behind the kept ones — owns no bytes, and the offsets ascend. -/
theorem loca_long_format_retain_gids_gaps (nout : Nat) (gs : List (Nat × Bytes))
    (hs : (gs.map (·.1)).Pairwise (· < ·)) (hb : ∀ p ∈ gs, p.1 < nout) :
    (∀ pre gid g post, gs = pre ++ (gid, g) :: post →
      ∃ a b, (locaOffsets false nout gs)[gid]? = some a ∧ (locaOffsets false nout gs)[gid + 1]? = some b ∧
        a ≤ b ∧ ((glyfBytes false (gs.map (·.2))).drop a).take (b - a) = g) ∧
    (∀ k, k < nout → (∀ p ∈ gs, p.1 ≠ k) →
      (locaOffsets false nout gs)[k]? = (locaOffsets false nout gs)[k + 1]?) ∧
    (∀ j k, j ≤ k → k ≤ nout → ∃ a b, (locaOffsets false nout gs)[j]? = some a ∧
      (locaOffsets false nout gs)[k]? = some b ∧ a ≤ b) := by
  obtain ⟨h1, h2⟩ := loca_resolves_to_glyph_bytes false nout gs hs hb
  obtain ⟨_, g2, _, g4, _⟩ := loca_offsets_correct false nout gs hs hb
  refine ⟨fun pre gid g post hgs => ?_, h2, fun j k hjk hk => ?_⟩
  · obtain ⟨a, b, e1, e2, e3, e4⟩ := h1 pre gid g post hgs
    exact ⟨a, b, e1, e2, e3, by simpa [slotBytes] using e4⟩
  · exact ⟨_, _, g2 j (by omega), g2 k hk, g4 j k hjk⟩

/-- non-vacuity: long format, kept ids 2 and 5 of 7 (gaps 0, 1, 3, 4, 6): the gap ids in front of a kept
glyph repeat the PREVIOUS end offset -/
example : locaOffsets false 7 [(2, [1, 2, 3]), (5, [4, 5])] = [0, 0, 0, 3, 3, 3, 5, 5] := by decide +kernel
example : locaOffsets true 7 [(2, [1, 2, 3]), (5, [4, 5])] = [0, 0, 0, 4, 4, 4, 6, 6] := by decide +kernel

/-- With the format choice of `Glyf::subset` (`max_offset < 0x1FFFF` ⇒ short)
the encoded loca table decodes to exactly the byte offsets: the halved offsets fit `u16` in the short
format (the `u16` accumulator of the short loca writer broke here before /repo c6d38b4), and `u32` in the long
format for any glyf below 4 GiB. -/
theorem loca_encoding_exact (nout : Nat) (news : List Nat) (gs : List Bytes)
    (hlen : news.length = gs.length)
    (hs : news.Pairwise (· < ·)) (hb : ∀ n ∈ news, n < nout)
    (h32 : (gs.map (fun g => paddedSize g.length)).sum < 4294967296) :
    let out := writeGlyfLoca nout news gs
    (out.fmt = 0 → decodeShortLoca out.loca = locaOffsets true nout (news.zip gs)) ∧
    (out.fmt = 1 → decodeLongLoca out.loca = locaOffsets false nout (news.zip gs)) ∧
    (out.fmt = 0 ∨ out.fmt = 1) := by
  intro out
  have hkeys : (news.zip gs).map (·.1) = news := by
    rw [List.map_fst_zip]; omega
  have hs' : ((news.zip gs).map (·.1)).Pairwise (· < ·) := by rw [hkeys]; exact hs
  have hb' : ∀ p ∈ news.zip gs, p.1 < nout := fun p hp => hb p.1 (by
    rw [← hkeys]; exact List.mem_map_of_mem hp)
  have htot : totalSize true (news.zip gs) = (gs.map (fun g => paddedSize g.length)).sum := by
    rw [totalSize, show (fun p : Nat × Bytes => slotSize true p.2) = (fun g => paddedSize g.length) ∘ (·.2) from rfl,
      ← List.map_map, List.map_snd_zip]; omega
  have hmem := fun pad => locaOffsets_mem pad nout (news.zip gs) hs' hb'
  rw [htot] at hmem
  rw [show out.fmt = _ from writeGlyfLoca_fmt .., show out.loca = _ from writeGlyfLoca_loca ..]
  by_cases hshort : (gs.map (fun g => paddedSize g.length)).sum < 0x1FFFF
  · rw [if_pos hshort, if_pos hshort]
    refine ⟨fun _ => decodeShortLoca_encode _ (fun o ho => ?_), fun h => absurd h (by decide), Or.inl rfl⟩
    obtain ⟨h1, h2⟩ := hmem true o ho
    exact ⟨h2 rfl, by omega⟩
  · rw [if_neg hshort, if_neg hshort]
    exact ⟨fun h => absurd h (by decide),
      fun _ => decodeLongLoca_encode _ (fun o ho => Nat.lt_of_le_of_lt (hmem false o ho).1 h32), Or.inr rfl⟩

/-- Without NO_HINTING and SET_OVERLAPS_FLAG, a simple glyph that is
written non-empty is a prefix of its input record: header, end points, instructions, and the first
`k` bytes of flag/coordinate data, where `k ≠ 0` is the result of `trim_simple_glyph_padding` — which
by `trim_exact` is exactly the flags and coordinates of all `num_coords` points.  Nothing but
trailing padding is removed, so the outline data is byte-identical.  (With NO_HINTING the
instructions are removed and instructionLength zeroed, with SET_OVERLAPS_FLAG bit 0x40 of the first
flag is set: those flag combinations are covered, through the read-fonts reader, by
`C17Outline.subset_simple_glyph_decodes_equal`.) -/
theorem simple_glyph_is_prefix (flags : Nat) (d : Bytes) (nc : Nat) (out : Bytes) (il k : Nat)
    (hil : il = u16At d (10 + 2 * nc))
    (hk : k = trimSimpleGlyphPadding (d.drop (12 + 2 * nc + il)) (u16At d (10 + 2 * (nc - 1)) + 1))
    (hf1 : hasFlag flags F_NO_HINTING = false) (hf2 : hasFlag flags F_SET_OVERLAPS = false)
    (h : subsetSimple flags d nc = .bytes out) (hne : out ≠ []) :
    out = d.take (12 + 2 * nc + il + k) ∧ k ≠ 0 ∧ 12 + 2 * nc + il + k ≤ d.length := by
  subst hil
  unfold subsetSimple at h
  split at h
  · exact absurd (GlyphRes.bytes.inj h).symm hne
  simp only [hf1, hf2, show 10 + 2 * nc + 2 = 12 + 2 * nc by omega, show 12 + 2 * nc - 2 = 10 + 2 * nc by omega,
    Bool.false_eq_true, if_false] at h
  rw [← hk] at h
  split at h
  · exact absurd (GlyphRes.bytes.inj h).symm hne
  rename_i hk0
  split at h
  · exact absurd (GlyphRes.bytes.inj h).symm hne
  rename_i t ht
  -- the slice is the first `k` bytes of the glyph data, which are all there
  unfold sliceGet at ht
  split at ht
  · rename_i hc
    simp only [Option.some.injEq, List.drop_zero, Nat.sub_zero] at ht
    refine ⟨?_, hk0, by have := hc.2; rw [List.length_drop] at this; omega⟩
    have e : ∀ a b c : Nat, d.take a ++ (d.drop a).take b ++ (d.drop (a + b)).take c = d.take (a + b + c) :=
      fun a b c => by rw [List.take_add, List.take_add]
    rw [← GlyphRes.bytes.inj h, ← ht]
    exact e _ _ _
  · cases ht

/-- Whenever `subset_composite_glyph` returns a non-empty glyph, the input
record's component list is well formed, every component glyph id has an image under the plan's glyph
map, and the output is a prefix (where it is cut: `C17Outline.composite_instruction_tail_preserved`) of a
record `full` of the input's length, with the input's 10 header bytes, whose component list — read
record for record with the same walk — names exactly the images (as u16), in the same order.  (So a
composite is never written with a component id that was not renumbered consistently with the plan;
if a component has no image the glyph is emptied instead, which is what the closure theorems are
about.) -/
theorem components_remapped (flags : Nat) (gmap : Nat → Option Nat) (d out : Bytes)
    (h : subsetComposite flags gmap d = out) (hne : out ≠ []) :
    ∃ (full : Bytes) (ids news : List Nat), out <+: full ∧ full.length = d.length ∧
      (∀ j, j < 10 → full.getD j 0 = d.getD j 0) ∧
      compIds d d.length (d.length + 1) 10 = some ids ∧ ids.mapM gmap = some news ∧
      compIds full d.length (d.length + 1) 10 = some (news.map (· % 65536)) := by
  obtain ⟨full, i, whi, hloop, hout⟩ := subsetComposite_kept flags gmap d out h hne
  have hwalk := compLoop_walk _ _ _ _ _ _ _ _ hloop
  obtain ⟨ids, news, r3, r4, r5⟩ := hwalk.ids (Nat.le_refl _) (d.length + 1) (by omega)
  obtain ⟨r1, _, r2⟩ := hwalk.frame
  exact ⟨full, ids, news, by rw [hout]; exact List.take_prefix _ _, r1, fun j hj => r2 j (Or.inl hj), r3, r4, r5⟩

/-- The component list the closure iterates (read-fonts
`components()`, modelled by `componentsOfRecord`: none for a record with a non-negative contour count, and only
records that lie wholly inside the data) is a prefix of the component list the rewriter walks (`compIds`, see
`components_remapped`), whenever that walk succeeds.  Together: for a composite that is written non-empty, every
component the closure saw is rewritten to its image, and any further one the rewriter walks also had an image.
(How much shorter the closure's list can be is not stated here.) -/
theorem closure_sees_rewriters_components (d : Bytes) (ids : List Nat)
    (h : compIds d d.length (d.length + 1) 10 = some ids) :
    componentsOfRecord d <+: ids := by
  unfold componentsOfRecord
  split
  · exact List.nil_prefix
  · split
    · exact List.nil_prefix
    · exact compIterGo_prefix d _ _ ids h

/-- A non-zero result `k` of `trim_simple_glyph_padding(glyph_data, num_coords)` means:
`glyph_data` starts with a sequence of flag runs (a flag byte, plus a repeat byte when REPEAT_FLAG is
set, covering `repeat + 1` points) that covers exactly `num_coords` points, and `k` is the length of
those flag bytes plus the x/y coordinate bytes the flags call for — everything after `k` is padding. -/
theorem trim_exact (glyphData : Bytes) (numCoords k : Nat)
    (h : trimSimpleGlyphPadding glyphData numCoords = k) (hk : k ≠ 0) :
    ∃ runs : List (Nat × Nat), (∀ r ∈ runs, runOk r) ∧ encRuns runs <+: glyphData ∧
      (runs.map (·.2)).sum = numCoords ∧
      k = (encRuns runs).length + (runs.map (fun r => coordSize r.1 * r.2)).sum := by
  obtain ⟨runs, h1, h2, h3, h4⟩ := trimGo_spec numCoords glyphData 0 0 0 k h hk
  exact ⟨runs, h1, h2, by omega, by omega⟩

/-- 'A' → glyph 3 = composite of glyph 4 = composite of glyph 1 -/
def exIn1 : PlanIn :=
  { flags := 0, num := 5, cmap := [(65, 3)], comps := [[], [], [], [4], [1]],
    gids := [], unicodes := [65], extraGsub := [], extraColred := [] }

/-- retain-gids and a cyclic component graph 3 → 4 → 3 -/
def exIn2 : PlanIn :=
  { flags := 2, num := 5, cmap := [(65, 3)], comps := [[], [], [], [4], [3, 2]],
    gids := [4], unicodes := [], extraGsub := [], extraColred := [] }

example : (makePlan exIn1).map (fun pl => (pl.n2o, pl.u2g, pl.nout)) =
    some ([(0, 0), (1, 1), (2, 3), (3, 4)], [(65, 2)], 4) := by decide +kernel

/-- the hypothesis of `closure_closed_when_limits_not_hit` holds here … -/
example : planLimitFired exIn1 = false ∧ planLimitFired exIn2 = false := by decide +kernel

/-- … and fails for a chain of 70 nested composites (glyph k+1 = composite of glyph k) -/
def exChain70 : PlanIn :=
  { flags := 0, num := 71, cmap := [], comps := [] :: (List.range 70).map (fun k => [k]),
    gids := [70], unicodes := [], extraGsub := [], extraColred := [] }

example : planLimitFired exChain70 = true := by decide +kernel

example : (makePlan exIn2).map (fun pl => (pl.n2o, pl.u2g, pl.nout)) =
    some ([(0, 0), (2, 2), (3, 3), (4, 4)], [], 5) := by decide +kernel

/-- `hmtx_preserved` has instances: trailing equal advances are trimmed to 2 long metrics -/
example : (subsetHmtx [(500, 1), (600, 2), (600, 3), (700, 4)] [5] [(0, 0), (1, 1), (2, 2)] 3).toOption.map
    (fun o => (o.numH, o.longs, o.lsbs)) = some (2, [(500, 1), (600, 2)], [3]) := by decide +kernel

/-- `trim_exact` has instances: 3 on-curve points with 1-byte x and y deltas (flag 0x37 repeated twice more),
followed by two padding bytes -/
example : trimSimpleGlyphPadding [0x3F, 2, 1, 2, 3, 4, 5, 6, 0, 0] 3 = 8 := by decide +kernel

/-- `components_remapped` has instances: one component (flags ARGS_ARE_XY_VALUES, glyph 5 ↦ 2, byte offsets) -/
example : subsetComposite 0 (fun g => if g = 5 then some 2 else none)
    [0xFF, 0xFF, 0, 0, 0, 0, 0, 0, 0, 0, 0x00, 0x02, 0, 5, 1, 1, 0, 0] =
    [0xFF, 0xFF, 0, 0, 0, 0, 0, 0, 0, 0, 0x00, 0x02, 0, 2, 1, 1] := by decide +kernel

/-- `simple_glyph_is_prefix` has instances: a 1-contour, 1-point glyph (flag 0x37, x = 5, y = 6) with one
instruction byte and two bytes of padding -/
example : subsetSimple 0 [0, 1, 0, 0, 0, 0, 0, 0, 0, 0, 0, 0, 0, 1, 0xB0, 0x37, 5, 6, 0, 0] 1 =
    .bytes [0, 1, 0, 0, 0, 0, 0, 0, 0, 0, 0, 0, 0, 1, 0xB0, 0x37, 5, 6] := by decide +kernel

end FontVerif.C17
