/-
C02 — skrifa is total on hostile fonts: the autohinter's "long blue" scan terminates.

`compute_default_blues` (skrifa/src/outline/autohint/metrics/blues.rs) searches, for each blue-zone character, the
segment next to the extremum of the best contour with

    let mut hit = false;
    loop { …; advance last cyclically; … if last == segment_first { break; } continue; …
           if … { loop { advance last cyclically; … if last == segment_first { break; } } …; break; }
           if last == segment_first { break; } }

a port of FreeType's `do { … } while ( last != segment_first );` (aflatin.c).  In C `continue` jumps to the loop
test; in Rust it skips it, so EVERY `continue` must be preceded by its own `if last == segment_first { break; }`.
One was missing (fixed by /repo 1255bcd): a font whose best contour keeps the first point "too distant" made
the loop spin forever.

The model is NOT hand-written: `translate/c02_blues.py` re-extracts the block from blues.rs on every `./check C02`
and regenerates Gen/BluesScan.lean (`innerStep`, `outerStep`: one body execution of each loop; all data conditions
are oracle calls `o k tick`, data written to a control variable is a havoc `h k tick`; conditions and assignments
on `last` / `segment_first` / `best_contour.len()` are translated exactly).  The theorems below hold for EVERY
oracle and havoc, i.e. for every contour geometry, every threshold, every on/off-curve flag.  They go through the
generated definitions by `unfold`, a case distinction per `if`, and `omega`, so renaming or re-arranging data expressions does not
disturb them, while dropping one of the exit tests, or changing how `last` advances, breaks them.
-/
import FontVerif.Gen.BluesScan
import FontVerif.Lemmas.LoopIter
namespace FontVerif.C02
open FontVerif.LoopIter FontVerif.LoopIterLemmas FontVerif.Gen.BluesScan FontVerif.FindLastContour
set_option linter.unusedVariables false

/-- every `continue` / end of body of the INNER loop is reached with `last` advanced cyclically and
`last ≠ segment_first`; one body execution is one tick -/
theorem blues_inner_step_advances (o : Nat → Nat → Bool) (h : Nat → Nat → Nat) (N : Nat) :
    Advances N 1 (innerStep o h) := by
  refine advances_of fun s hN hl hf => ?_
  have hnx := next_lt s hl
  unfold innerStep
  simp only [← next.eq_1]
  -- a `.trap` path: its underflow condition contradicts the guards in force
  repeat' (apply ite_elim <;> intro _)
  all_goals simp only [AdvOK, true_and] <;> omega

/-- **The inner loop exits**: for every oracle / havoc and every state with both indices inside a non-empty contour,
the generated inner loop breaks within `n + 1` body executions (it never runs out of that fuel), with `last` still in
range, after at least one and at most `n` loop-body entries. -/
theorem blues_long_inner_loop_terminates (o : Nat → Nat → Bool) (h : Nat → Nat → Nat) (s : St)
    (hn : 0 < s.n) (hl : s.last < s.n) (hf : s.segFirst < s.n) :
    ∃ s', iter (innerStep o h) (s.n + 1) s = some s' ∧ s'.n = s.n ∧ s'.last < s.n ∧
      s.tick < s'.tick ∧ s'.tick ≤ s.tick + s.n := by
  simpa using iter_advances s.n 1 (innerStep o h) (blues_inner_step_advances o h s.n) s rfl hl hf

/-- every `continue` / end of body of the OUTER loop is reached with `last` advanced cyclically and
`last ≠ segment_first`, and the nested loop never leaves the body stuck; one body execution is at most
`1 + n` ticks (itself plus the nested loop) -/
theorem blues_outer_step_advances (o : Nat → Nat → Bool) (h : Nat → Nat → Nat) (N : Nat) :
    Advances N (N + 1) (outerStep o h) := by
  refine advances_of fun s hN hl hf => ?_
  have hnx := next_lt s hl
  -- the nested loop returns from the state in which the body starts it, so its `none` arm is dead
  obtain ⟨r, hr, -, hrl, hr0, hr1⟩ :=
    blues_long_inner_loop_terminates o h ⟨next s, s.segFirst, s.n, s.tick + 1⟩ (Nat.zero_lt_of_lt hl) hnx hf
  dsimp only at hr hrl hr0 hr1
  unfold outerStep
  simp only [← next.eq_1, hr]
  repeat' (apply ite_elim <;> intro _)
  all_goals simp only [AdvOK, true_and] <;> omega

/-- the outer body never reports a stuck nested loop -/
theorem blues_long_outer_step_not_stuck (o : Nat → Nat → Bool) (h : Nat → Nat → Nat) (s : St)
    (hn : 0 < s.n) (hl : s.last < s.n) (hf : s.segFirst < s.n) : outerStep o h s ≠ .stuck := by
  rcases blues_outer_step_advances o h s.n s rfl hl hf with ⟨s', hs, _⟩ | ⟨s', hs, _⟩ <;> simp [hs]

/-- **No control subtraction underflows**: every `usize` subtraction of the scan's index arithmetic
(`best_contour.len() - 1`, `last -= 1`) is modelled as checked (`.trap` when it would underflow); with a non-empty
contour and both indices inside it neither loop body traps — `last -= 1` is reached only under `last > 0`. -/
theorem blues_long_scan_no_underflow (o : Nat → Nat → Bool) (h : Nat → Nat → Nat) (s : St)
    (hn : 0 < s.n) (hl : s.last < s.n) (hf : s.segFirst < s.n) :
    innerStep o h s ≠ .trap ∧ outerStep o h s ≠ .trap := by
  constructor
  · rcases blues_inner_step_advances o h s.n s rfl hl hf with ⟨s', hs, _⟩ | ⟨s', hs, _⟩ <;> simp [hs]
  · rcases blues_outer_step_advances o h s.n s rfl hl hf with ⟨s', hs, _⟩ | ⟨s', hs, _⟩ <;> simp [hs]

/-- **The long-blue scan exits**: for every oracle / havoc (= every contour geometry) and every start state with
`last`, `segment_first` inside a non-empty contour of `n` points, the generated outer loop breaks within `n + 1`
executions of its body — it never runs out of that fuel and no execution leaves the nested loop stuck — and the
whole scan, nested loop included, enters a loop body at least once and at most `(n + 1) * (n + 2)` times. -/
theorem blues_long_scan_terminates (o : Nat → Nat → Bool) (h : Nat → Nat → Nat) (s : St)
    (hn : 0 < s.n) (hl : s.last < s.n) (hf : s.segFirst < s.n) :
    ∃ s', iter (outerStep o h) (s.n + 1) s = some s' ∧ s.tick < s'.tick ∧
      s'.tick ≤ s.tick + (s.n + 1) * (s.n + 2) := by
  obtain ⟨s', h1, _, _, h4, h5⟩ :=
    iter_advances s.n (s.n + 1) (outerStep o h) (blues_outer_step_advances o h s.n) s rfl hl hf
  have : s.n * (s.n + 1) ≤ (s.n + 1) * (s.n + 2) := Nat.mul_le_mul (by omega) (by omega)
  exact ⟨s', h1, h4, by omega⟩

/-- **The long-blue scan exits from every state the Rust enters it with.**  `compute_default_blues` starts the scan at
`last = segment_last`, and `segment_first` / `segment_last` are `best_point_ix` or an index yielded by
`cycle_backward(best_contour, best_point_ix)` / `cycle_forward(best_contour, best_point_ix)` (`(ix + start) % len`;
translate/c02_blues.py checks these producers and that nothing else writes the two variables before the scan).  So the
index hypotheses of `blues_long_scan_terminates` are discharged: only `best_point_ix < best_contour.len()`
(the postcondition of `UnscaledOutlineBuf::find_last_contour`) remains. -/
theorem blues_long_scan_terminates_from_entry (o : Nat → Nat → Bool) (h : Nat → Nat → Nat)
    (n bestPointIx segmentFirst segmentLast tick : Nat) (hbp : bestPointIx < n)
    (hsf : segmentFirst = bestPointIx ∨ ∃ ix, segmentFirst = cycleIx n bestPointIx ix)
    (hsl : segmentLast = bestPointIx ∨ ∃ ix, segmentLast = cycleIx n (bestPointIx + 1) ix) :
    ∃ s', iter (outerStep o h) (n + 1) ⟨segmentLast, segmentFirst, n, tick⟩ = some s' ∧
      s'.tick ≤ tick + (n + 1) * (n + 2) ∧
      (∀ s : St, s.n = n → s.last < n → s.segFirst < n → innerStep o h s ≠ .trap ∧ outerStep o h s ≠ .trap) := by
  have hn : 0 < n := by omega
  have h1 : segmentFirst < n := by
    rcases hsf with h | ⟨ix, h⟩
    · omega
    · rw [h]; exact cycleIx_lt _ _ _ hn
  have h2 : segmentLast < n := by
    rcases hsl with h | ⟨ix, h⟩
    · omega
    · rw [h]; exact cycleIx_lt _ _ _ hn
  obtain ⟨s', e1, _, e3⟩ := blues_long_scan_terminates o h ⟨segmentLast, segmentFirst, n, tick⟩ hn h2 h1
  exact ⟨s', e1, e3, fun s hs hl hf => blues_long_scan_no_underflow o h s (by omega) (by omega) (by omega)⟩

/-! ### `find_last_contour`: where `best_contour` and `best_point_ix` come from -/

/-- one iteration of `find_last_contour` keeps its invariant (in particular `point_ix - cur_contour.start` does not
underflow and the new `best_point` is inside `cur_contour`), for ARBITRARY `is_contour_start` flags and predicate -/
theorem find_last_contour_step_inv (isStart f : Nat → Bool) (len p : Nat) (st : FS) (hp : p < len)
    (hI : FlcInv isStart len p st) : FlcInv isStart len (p + 1) (step isStart f len st p) := by
  obtain ⟨h1, h2, h3, h4, h5, h6⟩ := hI
  unfold step
  extract_lets st1
  -- after the update at a contour start (`cur_contour = p..p`), or without it (invariant), `cur_contour` ends at `p`
  have hm : st1.cS ≤ st1.cE ∧ st1.cE = p ∧ st1.bE ≤ p ∧ (st1.found = true → st1.cS + st1.bP < st1.cE) ∧
      (st1.found = false → st1.bS < st1.bE → st1.bS + st1.bP < st1.bE) := by
    cases hs : isStart p
    · simp only [st1, hs, Bool.false_eq_true, if_false]
      exact ⟨h1, h4 hp hs, h3, h5, h6⟩
    · cases hfd : st.found
      · simp only [st1, hs, hfd, if_true, Bool.false_eq_true, if_false]
        exact ⟨Nat.le_refl _, trivial, h3, False.elim, fun _ => h6 hfd⟩
      · simp only [st1, hs, hfd, if_true, Bool.false_eq_true]
        exact ⟨Nat.le_refl _, trivial, h2, False.elim, fun _ _ => h5 hfd⟩
  clear_value st1
  obtain ⟨m1, m2, m3, m4, m5⟩ := hm
  apply ite_elim <;> intro hk
  · -- the next point starts a contour (or there is none): nothing else happens
    exact ⟨m1, by omega, by omega, fun hlt hns => by simp [hk.2 hlt] at hns, m4, m5⟩
  · -- `cur_contour.end += 1`, and `best_point` is taken inside `cur_contour` when the predicate holds
    apply ite_elim <;> intro hf <;> unfold FlcInv <;> simp only []
    · exact ⟨by omega, by omega, by omega, fun _ _ => by omega, fun _ => by omega, (fun h => by cases h)⟩
    · exact ⟨by omega, by omega, by omega, fun _ _ => by omega, fun h => by have := m4 h; omega, m5⟩

theorem find_last_contour_loop_inv (isStart f : Nat → Bool) (len : Nat) :
    ∀ (k p : Nat) (st : FS), p + k = len → FlcInv isStart len p st →
      FlcInv isStart len len (FontVerif.FindLastContour.loop isStart f len p k st) := by
  intro k
  induction k with
  | zero => intro p st hp hI; simp at hp; subst hp; exact hI
  | succ k ih =>
    intro p st hp hI
    exact ih (p + 1) _ (by omega) (find_last_contour_step_inv isStart f len p st (by omega) hI)

/-- **Postcondition of `find_last_contour`**: for every outline (any number of points, ANY `is_contour_start`
flags — no well-formedness is needed) and every predicate, a returned `(best_contour, best_point)` has
`best_contour` a non-empty range inside `0..points.len()` and `best_point < best_contour.len()`. -/
theorem find_last_contour_post (isStart f : Nat → Bool) (len bS bE bP : Nat)
    (h : findLastContour isStart f len = some (bS, bE, bP)) : bS < bE ∧ bE ≤ len ∧ bP < bE - bS := by
  have hI := find_last_contour_loop_inv isStart f len len 0 ⟨0, 0, 0, 0, 0, false⟩ (by omega)
    (by unfold FlcInv; simp)
  unfold findLastContour at h
  obtain ⟨h1, h2, h3, h4, h5, h6⟩ := hI
  generalize FontVerif.FindLastContour.loop isStart f len 0 len ⟨0, 0, 0, 0, 0, false⟩ = st at *
  cases hfd : st.found <;> simp [hfd] at h h5 h6 <;>
    (obtain ⟨hlt, e1, e2, e3⟩ := h; subst e1 e2 e3; omega)

/-- **The long-blue scan exits, with NO index hypothesis left**: `best_contour` / `best_point_ix` are what
`find_last_contour` returned (`n = best_contour.len()`), `segment_first` / `segment_last` are `best_point_ix` or
indices yielded by `cycle_backward` / `cycle_forward` over `best_contour`; then the scan, started at
`last = segment_last`, exits within `n + 1` outer body executions, `(n+1)(n+2)` loop-body entries, and no control
subtraction underflows on the way.  (Both branches of `best_contour_and_point` in `compute_default_blues` call `outline.find_last_contour`;
translate/c02_blues.py checks that and the body of `find_last_contour` on every run.) -/
theorem blues_long_scan_terminates_from_find_last_contour (o : Nat → Nat → Bool) (h : Nat → Nat → Nat)
    (isStart f : Nat → Bool) (len bS bE bestPointIx segmentFirst segmentLast tick : Nat)
    (hflc : findLastContour isStart f len = some (bS, bE, bestPointIx))
    (hsf : segmentFirst = bestPointIx ∨ ∃ ix, segmentFirst = cycleIx (bE - bS) bestPointIx ix)
    (hsl : segmentLast = bestPointIx ∨ ∃ ix, segmentLast = cycleIx (bE - bS) (bestPointIx + 1) ix) :
    bE ≤ len ∧ 0 < bE - bS ∧
    ∃ s', iter (outerStep o h) (bE - bS + 1) ⟨segmentLast, segmentFirst, bE - bS, tick⟩ = some s' ∧
      s'.tick ≤ tick + (bE - bS + 1) * (bE - bS + 2) := by
  obtain ⟨h1, h2, h3⟩ := find_last_contour_post isStart f len bS bE bestPointIx hflc
  obtain ⟨s', e1, e2, _⟩ := blues_long_scan_terminates_from_entry o h (bE - bS) bestPointIx segmentFirst segmentLast tick
    h3 hsf hsl
  exact ⟨h2, by omega, s', e1, e2⟩

/-- find_last_contour on 2 contours (points 0-2 and 3-6), predicate true at points 1 and 5: contour 3..7, point 2 -/
example : findLastContour (fun i => i == 0 || i == 3) (fun i => i == 1 || i == 5) 7 = some (3, 7, 2) := by decide
/-- a single-point contour (4) is ignored; nothing found → None -/
example : findLastContour (fun i => i == 0 || i == 4) (fun _ => false) 5 = none := by decide
/-- flags need not be well formed: no contour start at point 0 -/
example : findLastContour (fun i => i == 2) (fun i => i == 1) 4 = some (0, 2, 1) := by decide

/-! ### Non-vacuity (the generated definitions, evaluated) -/

/-- no data condition ever holds: the outer loop walks once around a 5-point contour, 0 → 1 → 2 → 3, and
exits at `last = segment_first = 3` after 3 body executions -/
example : iterCount (outerStep (fun _ _ => false) (fun _ _ => 0)) 6 ⟨0, 3, 5, 0⟩ = some (⟨3, 3, 5, 3⟩, 3) := by decide

/-- the wrap-around: from `last = 3` to `segment_first = 1` in a 5-point contour, 3 → 4 → 0 → 1 -/
example : iterCount (outerStep (fun _ _ => false) (fun _ _ => 0)) 6 ⟨3, 1, 5, 0⟩ = some (⟨1, 1, 5, 3⟩, 3) := by decide

/-- the longest scan: `last = segment_first` at entry takes exactly `n` body executions (fuel `n` is enough,
fuel `n - 1` is not) -/
example : iterCount (outerStep (fun _ _ => true) (fun _ _ => 0)) 5 ⟨2, 2, 5, 0⟩ = some (⟨2, 2, 5, 5⟩, 5) := by decide
example : iter (outerStep (fun _ _ => true) (fun _ _ => 0)) 4 ⟨2, 2, 5, 0⟩ = none := by decide

/-- every data condition holds (the branch that lost its exit test before /repo 1255bcd: "vertical distance too
large" on every point): the scan still exits after one turn -/
example : iter (outerStep (fun _ _ => true) (fun _ _ => 0)) 6 ⟨0, 3, 5, 0⟩ = some ⟨3, 3, 5, 3⟩ := by decide

/-- the nested loop is entered: for some condition id `k` (the `is_cur_ltr == is_ltr && dx >= length_threshold`
test; found by search so that renumbering does not matter), the oracle "only condition `k` holds" makes ONE outer
body execution break after more than one tick, here after running the inner loop 3 times (ticks 2, 3, 4) up to
`last = segment_first`, and then writing the havoc value 7 to `segment_first` -/
example : ∃ k, k < numConds ∧
    outerStep (fun c _ => c == k) (fun _ _ => 7) ⟨0, 4, 5, 0⟩ = .brk ⟨4, 7, 5, 4⟩ := by decide

/-- the inner loop on its own: walks 1 → 2 → 3 → 4, four body executions -/
example : iterCount (innerStep (fun _ _ => false) (fun _ _ => 0)) 6 ⟨0, 4, 5, 0⟩ = some (⟨4, 4, 5, 4⟩, 4) := by decide

/-- the inner loop's data exit steps `last` back by one (cyclically: from 0 back to n - 1) -/
example : iter (innerStep (fun _ t => t == 2) (fun _ _ => 0)) 6 ⟨3, 2, 5, 0⟩ = some ⟨4, 2, 5, 2⟩ := by decide

/-- the trap is reachable in the model: an empty contour makes `best_contour.len() - 1` underflow -/
example : outerStep (fun _ _ => false) (fun _ _ => 0) ⟨0, 0, 0, 0⟩ = .trap := by decide

/-- the hypotheses matter: with `segment_first` outside the contour the scan never meets it
(the model reports out-of-fuel) -/
example : iter (outerStep (fun _ _ => false) (fun _ _ => 0)) 6 ⟨0, 9, 5, 0⟩ = none := by decide

end FontVerif.C02
