/-
C17 (layout part) — subsetting the OpenType layout COMMON tables and GDEF preserves what they say about
the glyphs that are kept; GSUB / GPOS are NOT subset by klippa (pass-through), which is characterised
at the end.

Models: `FontVerif/Model/SubsetLayout.lean` (klippa `layout.rs`: Coverage / ClassDef subsetters and
writers, post-fix 546e1a4), `FontVerif/Model/SubsetGdef.lean` (klippa `gdef.rs` + the plan side of
`lib.rs`, post-fix 507034d / 87f42c2).  Reader side: C16's models of read-fonts `CoverageTable::get`
and `ClassDef::get` (binary searches) in `FontVerif/Model/Layout.lean`, C11's `computeDelta` for the
variation store.  The theorems are stated on the structured written tables (`CovW.toCoverage`,
`Layout.ClassDef`, `GdefOut`); their byte images (`CovW.bytes`, `classDefBytes`, `encodeGdef`) are
tied to the real output by the byte-exact correspondence runs of `harness/src/bin/c17/layoutx.rs`.

"Kept" means kept FOR LAYOUT: a key of `plan.glyph_map_gsub` (= `glyphset_gsub`: requested glyphs,
cmap closure, .notdef — klippa has no GSUB closure).  Glyphs that are only kept as composite
components or COLR layers are not in that set and lose their GDEF data (as in HarfBuzz).
-/
import FontVerif.Lemmas.SubsetLayoutProps
namespace FontVerif.C17Layout
open FontVerif.Layout FontVerif.SubsetLayout FontVerif.SubsetGdef

/-- the glyphs of the subset coverage are exactly
`{ glyph_map g | g covered, g kept }`, in ascending order (= coverage order of the original) -/
theorem coverage_subset_glyphs {p : LPlan} (hp : PlanOk p) {c : Coverage} (hc : CovOk p c)
    (hsmall : (c.glyphs.filterMap p.get).length < 65536) {w : CovW}
    (h : subsetCoverage p c = .ok w) :
    w.toCoverage.glyphs = c.glyphs.filterMap p.get ∧ w.toCoverage.glyphs.Pairwise (· < ·) ∧
    ∀ n, n ∈ w.toCoverage.glyphs ↔ ∃ g, g ∈ c.glyphs ∧ p.get g = some n := by
  rcases subsetCoverage_spec hp hc hsmall with ⟨_, he⟩ | ⟨w', hw', hg, _⟩
  · rw [he] at h; cases h
  · rw [hw'] at h; injection h with h; subst h
    refine ⟨hg, ?_, ?_⟩
    · rw [hg]; exact kept_sorted hp hc.sorted
    · intro n; rw [hg]; simp [List.mem_filterMap]

/-- through read-fonts' reader: the coverage index of the image of a kept
glyph is the rank of the glyph among the kept covered glyphs (`none` when the glyph is not covered);
an id that is not the image of a kept covered glyph is not covered. -/
theorem coverage_subset_get {p : LPlan} (hp : PlanOk p) {c : Coverage} (hc : CovOk p c)
    (hsmall : (c.glyphs.filterMap p.get).length < 65536) {w : CovW}
    (h : subsetCoverage p c = .ok w) :
    (∀ g n, p.get g = some n →
      w.toCoverage.get n = indexIn g (c.glyphs.filter (kept p))) ∧
    (∀ g n i, p.get g = some n → c.get g = some i →
      w.toCoverage.get n = some ((c.glyphs.take i).countP (kept p))) ∧
    (∀ n, (∀ g, g ∈ c.glyphs → p.get g ≠ some n) → w.toCoverage.get n = none) := by
  rcases subsetCoverage_spec hp hc hsmall with ⟨_, he⟩ | ⟨w', hw', hg, hget⟩
  · rw [he] at h; cases h
  · rw [hw'] at h; injection h with h; subst h
    have h1 : ∀ g n, p.get g = some n →
        w'.toCoverage.get n = indexIn g (c.glyphs.filter (kept p)) := by
      intro g n hgn
      rw [hget n]
      exact indexIn_filterMap p.get g n hgn c.glyphs (fun a _ ha => hp.get_inj ha hgn)
    refine ⟨h1, ?_, ?_⟩
    · intro g n i hgn hci
      rw [h1 g n hgn]
      rw [hc.get_eq] at hci
      exact indexIn_filter (kept p) c.glyphs g i hci (by simp [kept, hgn])
    · intro n hn
      rw [hget n]
      apply indexIn_none
      intro hm
      obtain ⟨g, hg', e⟩ := List.mem_filterMap.mp hm
      exact hn g hg' e

/-- the coverage indices of kept glyphs keep their
relative order (the new index of a glyph is the number of kept covered glyphs before it) -/
theorem coverage_subset_index_order_preserved {p : LPlan} (hp : PlanOk p) {c : Coverage}
    (hc : CovOk p c) (hsmall : (c.glyphs.filterMap p.get).length < 65536) {w : CovW}
    (h : subsetCoverage p c = .ok w) {g1 g2 n1 n2 i1 i2 j1 j2 : Nat}
    (k1 : p.get g1 = some n1) (k2 : p.get g2 = some n2)
    (c1 : c.get g1 = some i1) (c2 : c.get g2 = some i2)
    (s1 : w.toCoverage.get n1 = some j1) (s2 : w.toCoverage.get n2 = some j2) :
    i1 < i2 ↔ j1 < j2 := by
  have hs := (coverage_subset_get hp hc hsmall h).2.1
  have e1 := hs g1 n1 i1 k1 c1
  have e2 := hs g2 n2 i2 k2 c2
  rw [s1] at e1; rw [s2] at e2
  injection e1 with e1; injection e2 with e2
  rw [hc.get_eq] at c1 c2
  have q1 : kept p g1 = true := by simp [kept, k1]
  have q2 : kept p g2 = true := by simp [kept, k2]
  constructor
  · intro hlt
    rw [e1, e2]
    exact countP_take_lt (kept p) c.glyphs (indexIn_getElem? c1) q1 hlt
  · intro hlt
    rcases Nat.lt_trichotomy i1 i2 with hh | hh | hh
    · exact hh
    · subst hh; omega
    · have := countP_take_lt (kept p) c.glyphs (indexIn_getElem? c2) q2 hh
      omega

/-- an array indexed by coverage index (attachment points, ligature
glyphs, later the substitute array of a SingleSubst format 2, …) that is restricted by the same
"glyph kept" filter as the coverage stays aligned with it: the entry at the new coverage index of
`glyph_map g` is the entry the original held at the coverage index of `g`. -/
theorem parallel_array_alignment {α : Type} {p : LPlan} (hp : PlanOk p) {c : Coverage}
    (hc : CovOk p c) (hsmall : (c.glyphs.filterMap p.get).length < 65536) {w : CovW}
    (h : subsetCoverage p c = .ok w) (arr : List α) {g n i : Nat}
    (hk : p.get g = some n) (hi : c.get g = some i) :
    ∃ j, w.toCoverage.get n = some j ∧
      ((c.glyphs.zip arr).filterMap (fun x => if kept p x.1 then some x.2 else none))[j]? = arr[i]? := by
  refine ⟨_, (coverage_subset_get hp hc hsmall h).2.1 g n i hk hi, ?_⟩
  rw [hc.get_eq] at hi
  exact aligned (kept p) c.glyphs arr g i hi (by simp [kept, hk])

/-- `CoverageTable::subset` returns `Err(EMPTY)` exactly when
no covered glyph is kept (every caller then omits the table), and succeeds otherwise -/
theorem coverage_empty_iff_no_kept_glyph {p : LPlan} (hp : PlanOk p) {c : Coverage} (hc : CovOk p c)
    (hsmall : (c.glyphs.filterMap p.get).length < 65536) :
    (subsetCoverage p c = .error .empty ↔ ∀ g ∈ c.glyphs, p.get g = none) ∧
    ((∃ g ∈ c.glyphs, kept p g = true) → ∃ w, subsetCoverage p c = .ok w) :=
  coverage_empty_iff_no_kept_glyph_core hp hc hsmall

example : PlanOk exPlan :=
  ⟨by decide, by simp [exPlan], by simp [exPlan], by simp [exPlan]⟩

example : CovOk exPlan exCov := by
  refine ⟨by simp [WFRanges], ?_⟩
  simp [expandRanges, RangeRec.glyphs, List.range', exPlan]

example : (match subsetCoverage exPlan exCov with
    | .ok w => some w.toCoverage
    | .error _ => none) = some (.fmt1 [1, 2, 3]) := by decide +kernel

/-- for every `ClassDefSubsetStruct`: when `ClassDef::subset` succeeds, reading
the written table with read-fonts' `ClassDef::get` at the image of a kept glyph gives the class map
applied to the original class of the glyph (the original class itself when `remap_class` is false, as
GDEF uses it; class 0 when the glyph filter rejects the glyph), and class 0 at every id that is not
the image of a kept glyph — for both source formats, both strategies of the format 2 subsetter and
both output formats. -/
theorem classdef_subset_get {p : LPlan} (hp : PlanOk' p) {a : CdArgs} {cd : ClassDef}
    (hcd : ClassOk cd) {out : ClassDef} {cm : Option (List (Nat × Nat))}
    (h : subsetClassDef p a cd = .ok (out, cm)) :
    (∀ g n, p.get g = some n → out.get n = remapC cm (wantClass a cd g)) ∧
    (∀ n, (∀ g, p.get g ≠ some n) → out.get n = 0) ∧
    (cm.isSome = a.remapClass) :=
  classdef_subset_get_core hp hcd h

/-- on a well-formed table (classes below 0xFFFF) `ClassDef::subset` fails
only with `Err(EMPTY)`, and then `keep_empty_table` is off and no kept glyph (passing the
filter) has a non-zero class; it never panics and never errors otherwise. -/
theorem classdef_subset_total {p : LPlan} (hp : PlanOk' p) {a : CdArgs} {cd : ClassDef}
    (hcd : ClassOk cd) (hcls : a.remapClass = true → ∀ g n, p.get g = some n → cd.get g < 65535) :
    (∃ r, subsetClassDef p a cd = .ok r) ∨
    (subsetClassDef p a cd = .error .empty ∧ a.keepEmpty = false ∧
      ∀ g n, p.get g = some n → wantClass a cd g = 0) :=
  classdef_subset_total_core hp hcd hcls

/-- the class map returned under `remap_class` is
`0 ↦ 0` (unless class zero is reused) followed by the classes that occur among the kept glyphs
(passing the filter), in ascending order, numbered consecutively from `base` = 0 (class zero reused)
or 1: an order preserving bijection from the occurring classes onto `base .. base + k - 1`. -/
theorem classdef_remap_is_order_preserving_bijection {p : LPlan} (hp : PlanOk' p) {a : CdArgs}
    {cd : ClassDef} (hcd : ClassOk cd) {out : ClassDef} {m : List (Nat × Nat)}
    (h : subsetClassDef p a cd = .ok (out, some m)) :
    ∃ (R : List Nat) (base : Nat),
      R.Pairwise (· < ·) ∧
      (∀ c, c ∈ R ↔ c ≠ 0 ∧ ∃ g n, p.get g = some n ∧ wantClass a cd g = c) ∧
      (base = 0 ∨ (base = 1 ∧ m.lookup 0 = some 0)) ∧
      (∀ i c, R[i]? = some c → m.lookup c = some (base + i)) ∧
      (∀ c c', c ∈ R → c' ∈ R → c < c' →
        ∃ v v', m.lookup c = some v ∧ m.lookup c' = some v' ∧ v < v') ∧
      (∀ j, j < R.length → ∃ c, c ∈ R ∧ m.lookup c = some (base + j)) := by
  obtain ⟨ps, hspec, hc⟩ := subsetClassDef_cases hp a hcd
  rcases hc with ⟨_, _, e⟩ | ⟨_, _, e, _⟩ | ⟨_, _, e⟩ | ⟨_, m', _, hcm, e, _⟩
  · rw [e] at h; cases h
  · rw [e] at h; cases h
  · rw [e] at h; cases h
  · cases e.symm.trans h
    have hR := retainedClasses_spec ps
    have hnz := pairs_classes_nz hspec
    obtain ⟨_, l0, lk⟩ := classMap_lookup hR.1 hnz hcm
    refine ⟨retainedClasses ps, if useClassZero p a ps.length then 0 else 1, hR.1, hspec.mem_retained, ?_, lk, ?_, ?_⟩
    · by_cases hz : useClassZero p a ps.length = true
      · left; simp [hz]
      · right
        simp only [hz, Bool.false_eq_true, ↓reduceIte, true_and]
        exact l0 (by simpa using hz)
    · intro c c' hc hc' hlt
      obtain ⟨i, hi, ei⟩ := List.getElem_of_mem hc
      obtain ⟨j, hj, ej⟩ := List.getElem_of_mem hc'
      have hij : i < j := by
        rcases Nat.lt_trichotomy i j with hh | hh | hh
        · exact hh
        · subst hh; rw [ei] at ej; omega
        · have := List.pairwise_iff_getElem.mp hR.1 j i hj hi hh; rw [ei, ej] at this; omega
      have li := lk i c (by rw [List.getElem?_eq_getElem hi, ei])
      have lj := lk j c' (by rw [List.getElem?_eq_getElem hj, ej])
      exact ⟨_, _, li, lj, by omega⟩
    · intro j hj
      exact ⟨(retainedClasses ps)[j], List.getElem_mem hj, lk j _ (List.getElem?_eq_getElem hj)⟩

/-- non-vacuity: the ClassDef hypotheses hold for the example plan and the format 2 class definition
{3..6 ↦ 2, 9 ↦ 5} -/
example : PlanOk' exPlan :=
  { keys := by decide, sorted := by simp [exPlan], newLt := by simp [exPlan], keyLt := by simp [exPlan],
    newLt' := by simp [exPlan], numLe := by simp [exPlan], nonempty := by simp [exPlan] }

example : ClassOk (.fmt2 [⟨3, 6, 2⟩, ⟨9, 9, 5⟩]) := by
  simp [ClassOk, WFClassRanges]

/-- `glyph_class(subset, glyph_map g) = glyph_class(original, g)` for
every glyph kept for layout, read through read-fonts' `ClassDef::get` (a missing GlyphClassDef —
also one the subsetter dropped because it became empty — is class 0); every other new id has
class 0. -/
theorem gdef_glyph_class_preserved {p : LPlan} (hp : PlanOk' p) {g : GdefIn} {o : GdefOut}
    (hcd : ∀ cd, g.glyphClassDef = .ok cd → ClassOk cd) (h : subsetGdefSem p g = .ok o) :
    (∀ gl n, p.get gl = some n → classOf o.glyphClassDef n = classOf (tblOpt g.glyphClassDef) gl) ∧
    (∀ n, (∀ gl, p.get gl ≠ some n) → classOf o.glyphClassDef n = 0) :=
  gdef_class_preserved_aux hp hcd (gdef_fields h).1

/-- the same for the MarkAttachClassDef -/
theorem gdef_mark_attach_class_preserved {p : LPlan} (hp : PlanOk' p) {g : GdefIn} {o : GdefOut}
    (hcd : ∀ cd, g.markAttachClassDef = .ok cd → ClassOk cd) (h : subsetGdefSem p g = .ok o) :
    (∀ gl n, p.get gl = some n →
      classOf o.markAttachClassDef n = classOf (tblOpt g.markAttachClassDef) gl) ∧
    (∀ n, (∀ gl, p.get gl ≠ some n) → classOf o.markAttachClassDef n = 0) :=
  gdef_class_preserved_aux hp hcd (gdef_fields h).2.2.2.1

/-- the variation store is written only for minor version >= 3 and
the mark glyph sets only for >= 2; the written minor version is the original one when a store is
written, else 2 when mark glyph sets are written, else 0 — and the header has exactly the fields a
reader of that version expects (12 / 14 / 18 bytes), so no written sub-table is hidden behind a
lowered version and no reader looks for a field that was not written; a GDEF is produced only
when some sub-table survives. -/
theorem gdef_version_downgrade_sound {p : LPlan} {g : GdefIn} {o : GdefOut}
    (h : subsetGdefSem p g = .ok o) :
    (o.varStore.isSome → 3 ≤ g.minor ∧ o.minor = g.minor) ∧
    (o.markGlyphSets.isSome → 2 ≤ g.minor ∧ 2 ≤ o.minor) ∧
    (o.varStore = none → o.markGlyphSets.isSome → o.minor = 2) ∧
    (o.varStore = none → o.markGlyphSets = none → o.minor = 0) ∧
    (encodeGdefObj o).1.bytes.length = (if 3 ≤ o.minor then 18 else if 2 ≤ o.minor then 14 else 12) ∧
    (o.glyphClassDef.isSome || o.attachList.isSome || o.ligCaretList.isSome ||
      o.markAttachClassDef.isSome || o.markGlyphSets.isSome || o.varStore.isSome) = true := by
  obtain ⟨_, _, _, _, hsets, hstore, _, hminor, hany⟩ := gdef_fields h
  have hs3 : o.varStore.isSome → 3 ≤ g.minor := fun hs => by
    obtain ⟨x, hx⟩ := Option.isSome_iff_exists.mp hs
    exact (storePart_some (hx ▸ hstore)).1
  have hs2 : o.markGlyphSets.isSome → 2 ≤ g.minor := fun hs => by
    obtain ⟨x, hx⟩ := Option.isSome_iff_exists.mp hs
    exact (setsPart_some (hx ▸ hsets)).1
  have hlen : ∀ (s : S) {α : Type} (t : Option α) (w pos : Nat) (enc : α → Child),
      (encOpt t w pos enc s).cur.bytes = s.cur.bytes := by
    intro s α t w pos enc
    cases t <;> simp [encOpt, linkChild]
  refine ⟨fun hs => ⟨hs3 hs, by simp [hminor, hs]⟩, fun hs => ⟨hs2 hs, ?_⟩, ?_, ?_, ?_, hany⟩
  · rw [hminor]
    by_cases hst : o.varStore.isSome = true
    · have := hs3 hst; simp [hst]; omega
    · simp [hst, hs]
  · intro hn hs; simp [hminor, hn, hs]
  · intro hn hs; simp [hminor, hn, hs]
  · simp only [encodeGdefObj, hlen]
    rw [hminor]
    by_cases hst : o.varStore.isSome = true
    · have := hs3 hst
      have h3 : 3 ≤ g.minor := this
      simp [hst, be16, h3]
    · by_cases hse : o.markGlyphSets.isSome = true
      · simp [hst, hse, be16]
      · simp [hst, hse, be16]

/-- in the written GDEF every glyph kept for layout has the
attachment point table it had in the original (the AttachPoint bytes: point count and point
indices), looked up through the subset's AttachList coverage at the new glyph id; when no AttachList is
written, no covered glyph is kept (this direction only). -/
theorem gdef_attach_points_preserved {p : LPlan} (hp : PlanOk' p) {g : GdefIn} {o : GdefOut}
    {a : AttachListIn} {c : Coverage} (hg : g.attachList = .ok a) (ha : AttachOk p a c)
    (h : subsetGdefSem p g = .ok o) :
    (o.attachList = none ∧ ∀ gl ∈ c.glyphs, p.get gl = none) ∨
    ∃ out, o.attachList = some out ∧
      (∀ gl n i bs, p.get gl = some n → c.get gl = some i → a.points[i]? = some (some bs) →
        ∃ j, out.cov.toCoverage.get n = some j ∧ out.points[j]? = some bs) ∧
      (∀ n, (∀ gl ∈ c.glyphs, p.get gl ≠ some n) → out.cov.toCoverage.get n = none) := by
  have hf := (gdef_fields h).2.1
  rw [hg] at hf
  rcases optSem_ok hf with ⟨e1, _⟩ | ⟨x, e1, hh⟩
  · cases e1
  · injection e1 with e1; subst e1
    rcases attach_list_subset hp ha with ⟨he, hall⟩ | ⟨out, hout, h1, h2⟩
    · left
      rcases hh with ⟨_, e2⟩ | ⟨y, hy, _⟩
      · exact ⟨e2, hall⟩
      · rw [he] at hy; cases hy
    · right
      rcases hh with ⟨he, _⟩ | ⟨y, hy, e2⟩
      · rw [hout] at he; cases he
      · rw [hout] at hy; injection hy with hy; subst hy
        exact ⟨out, e2, h1, h2⟩

/-- in the written GDEF every glyph kept for layout that has caret
values keeps them, in order, looked up through the subset's LigCaretList coverage at the new glyph
id: format 1 coordinate, format 2 contour point index and format 3 coordinate unchanged; a Device
table copied; a VariationIndex replaced by its image under `layout_varidx_delta_map`
(`(varPlan p g).vmap`); ids that are not images of covered kept glyphs are not covered.  (That a kept glyph
WITHOUT caret values is left out of the coverage is `lig_caret_list_subset`, not this statement.) -/
theorem gdef_lig_carets_preserved {p : LPlan} (hp : PlanOk' p) {g : GdefIn} {o : GdefOut}
    {l : LigCaretListIn} {c : Coverage} (hg : g.ligCaretList = .ok l) (hl : LigOk p l c)
    (h : subsetGdefSem p g = .ok o) {out : LigOut} (ho : o.ligCaretList = some out) :
    (∀ gl n i carets, p.get gl = some n → c.get gl = some i → l.ligs[i]? = some (.ok carets) →
      carets ≠ [] →
      ∃ j cs, out.cov.toCoverage.get n = some j ∧ out.ligs[j]? = some cs ∧
        carets.map (wantCaret (varPlan p g).vmap) = cs.map some) ∧
    (∀ n, (∀ gl ∈ c.glyphs, p.get gl ≠ some n) → out.cov.toCoverage.get n = none) := by
  have hf := (gdef_fields h).2.2.1
  rw [hg, ho] at hf
  have hy := optSem_some hf
  obtain ⟨h1, _, h3⟩ := lig_caret_list_subset hp hl hy
  exact ⟨h1, h3⟩

/-- the written MarkGlyphSets are the original sets that have at
least one glyph kept for layout, in their original order (format unchanged); a retained set `i`
becomes set `i' = number of retained sets before i` — which is what `plan.used_mark_sets_map`
records for it — and membership is unchanged: a kept glyph is in the original set `i` iff its image
is in the subset's set `i'`, and no other id is; a set without kept glyph is dropped and is not in
`used_mark_sets_map`.  (NB: the lookups of the passed-through GSUB / GPOS tables keep their OLD
markFilteringSet indices — see `passthrough_*` below and the known finding.) -/
theorem gdef_mark_glyph_sets_preserved {p : LPlan} (hp : PlanOk' p) {g : GdefIn} {o : GdefOut}
    {m : MarkSetsIn} (hg : g.markGlyphSets = .ok m) (hm : MarkSetsOk p m)
    (h : subsetGdefSem p g = .ok o) {fmt : Nat} {ws : List CovW}
    (ho : o.markGlyphSets = some (fmt, ws)) :
    fmt = m.format ∧ ws = m.sets.filterMap (survive p) ∧
    ∀ i c, m.sets[i]? = some (some c) →
      ((∀ gl ∈ c.glyphs, p.get gl = none) →
        survive p (some c) = none ∧ (usedMarkSetsMap p g).lookup i = none) ∧
      ((∃ gl ∈ c.glyphs, kept p gl = true) →
        ∃ w, ws[((m.sets.take i).filterMap (survive p)).length]? = some w ∧
          (usedMarkSetsMap p g).lookup i = some ((m.sets.take i).filterMap (survive p)).length ∧
          (∀ gl n, p.get gl = some n → (w.toCoverage.get n).isSome = (c.get gl).isSome) ∧
          (∀ n, (∀ gl ∈ c.glyphs, p.get gl ≠ some n) → w.toCoverage.get n = none)) := by
  have hf := (setsPart_some (ho ▸ (gdef_fields h).2.2.2.2.1)).2
  rw [hg] at hf
  have hy := optSem_some hf
  unfold markSetsSem at hy
  cases hgo : markSetsGo p m.sets with
  | error e => simp [hgo] at hy
  | ok sets =>
    simp only [hgo] at hy
    split at hy
    · cases hy
    · simp only [pure, Except.pure, Except.ok.injEq, Prod.mk.injEq] at hy
      obtain ⟨e1, e2⟩ := hy
      subst e1; subst e2
      have hws := markSetsGo_spec p m.sets sets hgo
      refine ⟨rfl, hws, ?_⟩
      intro i c hi
      obtain ⟨c', hc', hcov⟩ := hm (some c) (List.mem_of_getElem? hi)
      injection hc' with hc'; subst hc'
      have hsmall := hcov.kept_small hp
      have hlook := usedMarkSetsMap_lookup hp hg hm i
      rw [getD_of_getElem? hi] at hlook
      obtain ⟨hemp, hsucc⟩ := coverage_empty_iff_no_kept_glyph hp.toPlanOk hcov hsmall
      constructor
      · intro hall
        have hsv : survive p (some c) = none := by simp [survive, hemp.mpr hall]
        rw [hsv] at hlook
        exact ⟨hsv, hlook⟩
      · rintro ⟨gl, hgl, hk⟩
        obtain ⟨w, hw⟩ := hsucc ⟨gl, hgl, hk⟩
        have hsv : survive p (some c) = some w := by simp [survive, hw]
        rw [hsv] at hlook
        obtain ⟨h1, _, h3⟩ := coverage_subset_get hp.toPlanOk hcov hsmall hw
        refine ⟨w, by rw [hws]; exact filterMap_getElem (survive p) m.sets i (some c) w hi hsv, hlook, ?_, h3⟩
        -- a kept glyph is covered by the written set iff the original set covers it
        intro gl' n hgn
        rw [h1 gl' n hgn, hcov.get_eq]
        cases hidx : indexIn gl' c.glyphs with
        | none => rw [indexIn_filter_none (kept p) c.glyphs gl' hidx]
        | some k =>
          rw [indexIn_filter (kept p) c.glyphs gl' k hidx (by simp [kept, hgn])]
          rfl

/-- when the GDEF variation store is written, row `i` of the inner map
of source subtable `outer` (i.e. source row `inner_map[i]`) is row `i` of written subtable number
`usedBefore inner outer` (= the number of source subtables with a non-empty inner map before it) and
evaluates — through read-fonts' `compute_delta` — to the same delta at EVERY location, although
unused regions were pruned, regions renumbered and columns repacked.  (Built from the HVAR store
theorem `SubsetHvar.subsetStore_delta`.) -/
theorem gdef_store_rows_preserved {st : StoreIn} {axisCount : Nat}
    {regions : List (List (Int × Int × Int))} (hst : StoreOk st axisCount regions)
    {inner : List (List Nat)} (hinner : ∀ im ∈ inner, im.length < 65536)
    {fmt : Nat} {so : SubsetHvar.StoreOut} (h : storeSem st inner = .ok (fmt, so))
    (outer : Nat) (im : List Nat) (him : inner[outer]? = some im) (i : Nat) (hi : i < im.length)
    (coords : List Int) :
    fmt = st.format ∧
    Tent.computeDelta so.regions (so.subs.map some) (SubsetHvar.usedBefore inner outer) i coords =
      Tent.computeDelta regions (st.subs.map SubsetHvar.SubIn.toReader) outer im[i] coords := by
  unfold storeSem at h
  split at h
  · cases h
  · simp only [hst.regs] at h
    cases hc : SubsetHvar.collectAll st.subs inner [] with
    | error e => cases e <;> simp [hc] at h
    | ok refs =>
      simp only [hc] at h
      split at h
      · cases h
      · cases hs : SubsetHvar.subsetStore axisCount regions st.subs inner with
        | error e => cases e <;> simp [hs] at h
        | ok so' =>
          simp only [hs, pure, Except.pure, Except.ok.injEq, Prod.mk.injEq] at h
          obtain ⟨e1, e2⟩ := h
          subst e1; subst e2
          refine ⟨rfl, SubsetHvar.subsetStore_delta hs (fun s hs' => ?_) hst.regLe hinner him hi coords⟩
          cases s with
          | ok t =>
            obtain ⟨hb, hric, hsok, hsri⟩ := hst.subOk t hs'
            exact ⟨hsok, hb, hric, hsri⟩
          | _ => trivial

/-- for every variation index `(outer, inner)` the plan retains
(`inner = inner_maps[outer][i]`): a ligature caret VariationIndex holding it is rewritten to the new
index `(used subtables before outer, i)`, and read-fonts' `compute_delta` on the written GDEF
variation store at the NEW index equals `compute_delta` on the original store at the OLD index at
every location.
PARTIAL: the link `VarPlanSpec (varPlan p g)` between the plan's `layout_varidx_delta_map` /
`gdef_varstore_inner_maps` (models `remapVarIdx`, `innerMaps`) and "(used subtables before, position in
the inner map)" is a hypothesis here; it is not proved in Lean, it is tested (correspondence group
`gdefplan` against the real plan; oracle `gdef-glyph-data-preserved` compares the deltas of every
kept caret at sampled locations on the real output). -/
theorem gdef_var_deltas_preserved_partial {p : LPlan} {g : GdefIn} {o : GdefOut} {st : StoreIn}
    {axisCount : Nat} {regions : List (List (Int × Int × Int))}
    (hg : g.varStore = .ok st) (hst : StoreOk st axisCount regions)
    (hspec : VarPlanSpec (varPlan p g))
    (hinner : ∀ im ∈ (varPlan p g).inner, im.length < 65536)
    (h : subsetGdefSem p g = .ok o) {fmt : Nat} {so : SubsetHvar.StoreOut}
    (ho : o.varStore = some (fmt, so))
    (outer : Nat) (im : List Nat) (him : (varPlan p g).inner[outer]? = some im) (i : Nat)
    (hi : i < im.length) (coord : Nat) (coords : List Int) :
    let new := SubsetHvar.usedBefore (varPlan p g).inner outer * 65536 + i
    wantCaret (varPlan p g).vmap (.f3 coord (some (.varIdx outer im[i]!))) =
      some (.f3 coord (be32 new ++ be16 0x8000)) ∧
    Tent.computeDelta so.regions (so.subs.map some) (new / 65536) (new % 65536) coords =
      Tent.computeDelta regions (st.subs.map SubsetHvar.SubIn.toReader) outer im[i]! coords := by
  intro new
  have hf := (storePart_some (ho ▸ (gdef_fields h).2.2.2.2.2.1)).2
  rw [hg] at hf
  have hy := optSem_some hf
  have hrows := gdef_store_rows_preserved hst hinner hy outer im him i hi coords
  have hlt : i < 65536 := by have := hinner im (List.mem_of_getElem? him); omega
  have e1 : new / 65536 = SubsetHvar.usedBefore (varPlan p g).inner outer := by
    simp only [new]; omega
  have e2 : new % 65536 = i := by simp only [new]; omega
  have eg : im[i]! = im[i] := by simp [hi]
  refine ⟨?_, ?_⟩
  · simp only [wantCaret, hspec outer im i him hi]
    rfl
  · rw [e1, e2, eg]; exact hrows.2

/-- non-vacuity (GDEF): a version 1.0 GDEF with a format 2 glyph class definition {3..6 ↦ 2, 9 ↦ 5}
under the example plan: the written table is version 1.0 with the classes of the kept glyphs at their
new ids -/
example : (match subsetGdefSem exPlan exGdef with
    | .ok o => some (o.minor, o.glyphClassDef)
    | .error _ => none) = some (0, some (.fmt1 1 [2, 2, 5])) := by decide +kernel

example : AttachOk exPlan { cov := some (.fmt1 [4, 9]), glyphCount := 2, points := [some [0, 0], some [0, 1, 0, 7]] }
    (.fmt1 [4, 9]) :=
  { cov := rfl, covOk := by simp [CovOk, exPlan], count := rfl,
    readable := by
      intro i hi
      simp [Coverage.glyphs] at hi
      rcases (by omega : i = 0 ∨ i = 1) with e | e <;> subst e <;> simp }

/-! ## GSUB / GPOS are passed through: what that means

`subset_table` has no arm for GSUB / GPOS: `passthrough_table` copies the bytes
(`SubsetGdef.passthrough = id`).  The subset's lookups are the ORIGINAL ones — in old glyph ids.
No "subset subtable applied to the renumbered sequence" theorem can be stated about klippa,
because no subtable is subset.  What can be stated is when the verbatim copy happens to be right. -/

theorem passthrough_is_identity (bytes : List Nat) : passthrough bytes = bytes := rfl

/-- SingleSubst: for an injective
glyph map and a set `M` of kept glyphs: the verbatim copy is right for EVERY well-formed SingleSubst
subtable stated in glyphs of `M` if and only if the glyph map fixes every glyph of `M`.  So the
pass-through is right under retain-gids (or whenever the kept glyphs a lookup mentions keep their
ids) and wrong for some subtable as soon as one mentioned kept glyph is renumbered. -/
theorem passthrough_lookup_correct_iff_identity_on_mentioned_glyphs (f : Nat → Option Nat)
    (hinj : GlyphMapInj f) (M : List Nat) (hM : ∀ g ∈ M, (f g).isSome ∧ g < 65536) :
    (∀ t : SingleSubst, SingleWf t → (∀ g ∈ t.mentioned, g ∈ M) → SingleCorrect f t) ↔
    (∀ g ∈ M, f g = some g) := by
  constructor
  · intro hall g hg
    obtain ⟨hsome, hlt⟩ := hM g hg
    obtain ⟨n, hn⟩ := Option.isSome_iff_exists.mp hsome
    -- the subtable "g ↦ g": the renumbered glyph must be covered
    have hc := hall ⟨.fmt1 [g], [g]⟩ ⟨[g], rfl, by simp, by simpa using hlt, rfl⟩
      (fun x hx => by simp [SingleSubst.mentioned, Coverage.glyphs] at hx; exact hx ▸ hg) g n hn
    simp only [SingleSubst.apply, get_fmt1_singleton hlt, if_true, List.getElem?_cons_zero, Option.bind_some, hn] at hc
    by_cases e : g = n
    · rw [← e] at hn; exact hn
    · rw [if_neg e] at hc; cases hc
  · intro hid t hwf hment g n hgn
    -- `apply` answers `none` outside `M`, and its answers lie in `M`
    rw [hinj.eq_of_const_outside hid t.apply none
      (fun x hx => singleApply_of_not_mentioned hwf (fun hm => hx (hment x hm))) hgn]
    cases ho : t.apply g with
    | none => rfl
    | some out => exact (hid out (hment out (mem_mentioned_of_singleApply ho))).symm

/-- the same characterisation for
PairPos format 1 values (C16's `PairPos1.lookup`): the copied subtable gives every renumbered kept
pair its original adjustment, for every subtable over `M`, iff the glyph map fixes `M`. -/
theorem passthrough_pairpos_correct_iff_identity_on_mentioned_glyphs {V : Type} [Inhabited V]
    (f : Nat → Option Nat) (hinj : GlyphMapInj f) (M : List Nat)
    (hM : ∀ g ∈ M, (f g).isSome ∧ g < 65536) :
    (∀ t : PairPos1 V, PairWf t → (∀ g ∈ pairMentioned t, g ∈ M) → PairCorrect f t) ↔
    (∀ g ∈ M, f g = some g) := by
  constructor
  · intro hall g hg
    obtain ⟨hsome, hlt⟩ := hM g hg
    obtain ⟨n, hn⟩ := Option.isSome_iff_exists.mp hsome
    -- the subtable "(g, g) ↦ default": the renumbered pair must be found
    have hc := hall ⟨.fmt1 [g], [[(g, default)]]⟩ ⟨[g], rfl, by simp, by simpa using hlt⟩
      (fun x hx => by simp [pairMentioned, Coverage.glyphs] at hx; exact hx ▸ hg) g n g n hn hn
    simp only [PairPos1.lookup, get_fmt1_singleton hlt, if_true, List.getElem?_cons_zero, List.find?_cons_of_pos,
      beq_self_eq_true, Option.map_some] at hc
    by_cases e : g = n
    · rw [← e] at hn; exact hn
    · rw [if_neg e] at hc; cases hc
  · intro hid t hwf hment g1 n1 g2 n2 h1 h2
    -- `lookup` answers `none` as soon as one of the two glyphs lies outside `M`
    have hout : ∀ x, x ∉ M → x ∉ pairMentioned t := fun x hx hm => hx (hment x hm)
    exact (hinj.eq_of_const_outside hid (t.lookup · n2) none
        (fun x hx => pairLookup_of_first_not_mentioned hwf (hout x hx) n2) h1).trans
      (hinj.eq_of_const_outside hid (t.lookup g1 ·) none
        (fun x hx => pairLookup_of_second_not_mentioned t g1 (hout x hx)) h2)

/-- corollary (retain-gids): with the identity glyph map a passed-through SingleSubst subtable is right, provided the outputs it
gives for kept inputs are kept too (`hout`) -/
theorem passthrough_correct_under_retain_gids (f : Nat → Option Nat)
    (hid : ∀ g n, f g = some n → n = g) (t : SingleSubst) (hout : ∀ g out, t.apply g = some out → (f g).isSome → f out = some out) :
    SingleCorrect f t := by
  intro g n hgn
  have := hid g n hgn
  subst this
  cases ha : t.apply n with
  | none => rfl
  | some out => simp [hout n out ha (by simp [hgn])]

/-- non-vacuity (pass-through): an injective glyph map and a well-formed SingleSubst subtable -/
example : GlyphMapInj (fun g => if g < 10 then some (g + 1) else none) := by
  intro a b n ha hb
  by_cases h1 : a < 10 <;> by_cases h2 : b < 10 <;> simp [h1, h2] at ha hb
  omega

example : SingleWf ⟨.fmt1 [3, 7], [4, 8]⟩ := ⟨[3, 7], rfl, by simp, by simp, rfl⟩

end FontVerif.C17Layout
