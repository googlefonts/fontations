/-
C10 — glyph variation deltas survive encoding, IUP optimisation and application.
Property theorems only (helper lemmas: Lemmas/Packed.lean, Lemmas/Iup.lean, Lemmas/IupRat.lean, Lemmas/GvarLayout.lean).
Models: Model/PackedDeltas.lean ⇄ write-fonts/read-fonts `tables/variations.rs`;
        Model/Iup.lean ⇄ write-fonts `tables/gvar/iup.rs`, skrifa `outline/glyf/deltas.rs`;
        Model/GvarLayout.lean ⇄ write-fonts / read-fonts `tables/gvar.rs`.
-/
import FontVerif.Model.PackedDeltas
import FontVerif.Model.Iup
import FontVerif.Lemmas.Packed
import FontVerif.Lemmas.Iup
import FontVerif.Lemmas.IupRat
import FontVerif.Lemmas.GvarLayout
namespace FontVerif.C10
open FontVerif.PackedDeltas

/-- For every list of i32 deltas (all run kinds, any length, single zeros kept inline, runs split
at 64): reading `ds.length` values from the written bytes — whatever follows them — gives `ds`. -/
theorem deltas_roundtrip (ds : List Int) (h : ∀ d ∈ ds, inI32 d) (rest : List Nat) :
    decodeDeltas (encodeDeltas ds ++ rest) ds.length = ds :=
  PackedDeltas.deltas_roundtrip ds h rest

/-- The unbounded reader (`PackedDeltas::consume_all`, used when a tuple covers all points) first
counts the values in the data and then yields exactly the written list. -/
theorem deltas_roundtrip_consume_all (ds : List Int) (h : ∀ d ∈ ds, inI32 d) :
    decodeAll (encodeDeltas ds) = ds := by
  unfold decodeAll
  have hcount : countAll (encodeDeltas ds).length (encodeDeltas ds) = ds.length := by
    unfold encodeDeltas
    rw [countAll_runs _ _ (Nat.le_refl _) (runsOf_props ds.length ds (Nat.le_refl _) h).1, runsOf_total ds h]
  rw [hcount]
  simpa using deltas_roundtrip ds h []

/-- Point deltas are stored as all x then all y; `x_deltas()` and `y_deltas()` (the latter via
`skip_fast`) return the two written lists, for any equal-length lists and any trailing bytes. -/
theorem xy_roundtrip (xs ys : List Int) (hx : ∀ d ∈ xs, inI32 d) (hy : ∀ d ∈ ys, inI32 d)
    (hlen : xs.length = ys.length) (rest : List Nat) :
    xDeltas (encodeDeltas xs ++ (encodeDeltas ys ++ rest)) (2 * xs.length) = xs ∧
    yDeltas (encodeDeltas xs ++ (encodeDeltas ys ++ rest)) (2 * xs.length) = ys :=
  PackedDeltas.xy_roundtrip xs ys hx hy hlen rest

/-- Decoder yield bound on arbitrary bytes: never more values than requested. -/
theorem decode_yield_bound (bs : List Nat) (count : Nat) : (decodeDeltas bs count).length ≤ count := by
  unfold decodeDeltas
  generalize (0 : Nat) = rem
  generalize RunType.i8 = ty
  induction count generalizing rem ty bs with
  | zero => simp [decNext]
  | succ n ih =>
    unfold decNext
    split
    · simp
    · split
      · simp
      · exact Nat.succ_le_succ (ih _ _ _)

/-- the written size bookkeeping (`compute_size`, used for `variationDataSize`) is the number of
bytes written, whenever it does not trap. -/
theorem compute_size_is_length (ds : List Int) (n : Nat) (h : computeSize ds = some n) :
    n = (encodeDeltas ds).length :=
  computeSize_eq_length ds n h

/-- For every non-empty ascending list of at most 32767 point numbers below 65536 (gaps of any
size: byte runs, word runs, runs split at 128, one- or two-byte count): the writer does not trap,
the reader's iterator returns the list, and `split_off_front` leaves exactly the bytes that
follow (that is where the packed deltas start). -/
theorem points_roundtrip (pts : List Nat) (h0 : pts ≠ []) (hlen : pts.length ≤ 32767)
    (hb : ∀ p ∈ pts, p ≤ 65535) (hs : pts.Pairwise (· ≤ ·)) (rest : List Nat) :
    ∃ bs, encodePoints pts = some bs ∧ decodePoints (bs ++ rest) = some pts ∧
      splitRemainder (bs ++ rest) = rest :=
  (PackedDeltas.points_roundtrip pts h0 hlen hb hs).imp fun _ h => ⟨h.1, (h.2 rest).2⟩

/-- `PackedPointNumbers::Some(vec![])` writes the same single byte as `All`, and the reader
takes it to mean "all points": an empty explicit set cannot be represented.  (Hence the
non-emptiness hypothesis of `points_roundtrip`; the harness reports what the real code does.) -/
theorem empty_some_is_all (rest : List Nat) :
    encodePoints [] = some [0] ∧ decodePoints ([0] ++ rest) = none := by
  constructor <;> rfl

/-- Point-number decoder yield bound on arbitrary bytes: at most `count` numbers, each a u16. -/
theorem points_yield_bound (bs : List Nat) (l : List Nat) (h : decodePoints bs = some l) :
    l.length ≤ (countAndCountBytes bs).1 ∧ ∀ p ∈ l, p ≤ 65535 := by
  unfold decodePoints at h
  generalize hcb : countAndCountBytes bs = cb at h
  obtain ⟨n, nb⟩ := cb
  simp only at h
  split at h
  · cases h
  · injection h with h
    subst h
    have key : ∀ (n rem : Nat) (two : Bool) (last : Nat) (bs : List Nat),
        (ptNext n rem two last bs).length ≤ n ∧ ∀ p ∈ ptNext n rem two last bs, p ≤ 65535 := by
      intro n
      induction n with
      | zero => intro rem two last bs; simp [ptNext]
      | succ n ih =>
        intro rem two last bs
        unfold ptNext
        split
        · simp
        · split
          · simp
          · split
            · simp
            · rename_i hle
              refine ⟨Nat.succ_le_succ (ih _ _ _ _).1, ?_⟩
              intro p hp
              simp only [List.mem_cons] at hp
              rcases hp with rfl | hp
              · omega
              · exact (ih _ _ _ _).2 p hp
    exact key _ _ _ _ _

/-! ### IUP: the optimiser never drops a delta that inference does not recover within tolerance

Model/Iup.lean transcribes `iup_contour_optimize` (must-encode set, rotation, the dynamic
program over `can_iup_in_between`, the doubled-contour search) for INTEGER coordinates and deltas
and a rational tolerance `t.n / t.d`; the one non-integer quantity of the Rust, the interpolated
value `d1 + (c - c1) * ((d2 - d1) / (c2 - c1))`, is kept as the exact fraction (the Rust rounds it
to f64: that rounding is NOT modelled, the harness counts inputs where it could flip a comparison
as knife-edge).  `inferSpec` is the OpenType specification's inference of an omitted delta from
the nearest retained points before and after it in cyclic contour order. -/

open FontVerif.Iup in
/-- **`iup_contour_optimize` is sound.**  For every contour (any length, any integer coordinates
and deltas, any tolerance) and whatever set `enc` of deltas the optimiser decides to keep
(all-equal shortcut, rotated DP branch or doubled-contour branch): applying the specification's
inference to the kept deltas gives back every kept delta exactly and every omitted delta within
the tolerance, `(dx - ix)² + (dy - iy)² ≤ tolerance²` over ℚ. -/
theorem iup_optimize_sound (t : Tol) (ds cs : List Pt) (enc : List Bool)
    (hlen : cs.length = ds.length) (ht : 0 < t.d) (h : contourEncode t ds cs = some enc) :
    enc.length = ds.length ∧ ∀ k, k < ds.length →
      let inf := inferSpec cs ds enc k
      0 < inf.1.2 ∧ 0 < inf.2.2 ∧
      (enc.getD k false = true →
        ((inf.1.1 : ℚ) / inf.1.2 = (getP ds k).1 ∧ (inf.2.1 : ℚ) / inf.2.2 = (getP ds k).2)) ∧
      (enc.getD k false = false →
        (((getP ds k).1 : ℚ) - inf.1.1 / inf.1.2) ^ 2 + (((getP ds k).2 : ℚ) - inf.2.1 / inf.2.2) ^ 2
          ≤ ((t.n : ℚ) / t.d) ^ 2) := by
  obtain ⟨hl, hs⟩ := contourEncode_sound t ds cs enc hlen h
  refine ⟨hl, fun k hk => ?_⟩
  intro inf
  have hpos := inferSpec_den_pos cs ds enc k
  refine ⟨hpos.1, hpos.2, fun hreq => ?_, fun hopt => ?_⟩
  · simp only [inf, inferSpec_kept cs ds enc k hreq]
    simp
  · exact (withinTol_iff_rat t (getP ds k) _ _ hpos.1 hpos.2 ht).mp (hs k hk hopt)

open FontVerif.Iup in
/-- the same statement in the integer form the model computes (no division) -/
theorem iup_optimize_sound_int (t : Tol) (ds cs : List Pt) (enc : List Bool)
    (hlen : cs.length = ds.length) (h : contourEncode t ds cs = some enc) :
    enc.length = ds.length ∧ ∀ k, k < ds.length → enc.getD k false = false →
      withinTol t (getP ds k) (inferSpec cs ds enc k).1 (inferSpec cs ds enc k).2 = true :=
  contourEncode_sound t ds cs enc hlen h

open FontVerif.Iup in
/-- **`iup_delta_optimize` is sound for the whole glyph.**  If the optimiser returns `Ok(l)`, then
for every slice it cuts the glyph into (between consecutive sorted contour ends; each of the four
phantom points is its own slice) the flags in `l` are a kept-set for which the specification's
inference reproduces every omitted delta of that slice within the tolerance, and the values in `l`
are the slice's deltas (`ot_round`ed).  `GlyphSound` (Lemmas/Iup.lean) spells this out slice by
slice; `Sound` is the per-contour statement of `iup_optimize_sound_int`. -/
theorem iup_delta_optimize_sound (t : Tol) (ds cs : List Pt) (ends : List Nat)
    (l : List (Int × Int × Bool)) (h : deltaOptimize t ds cs ends = .ok l) :
    cs.length = ds.length ∧ 4 ≤ ds.length ∧
    GlyphSound t ds cs (sortNat ends ++ [cs.length - 4, cs.length - 3, cs.length - 2, cs.length - 1]) 0 l := by
  unfold deltaOptimize at h
  simp only at h
  by_cases h1 : cs.length < 4
  · rw [if_pos h1] at h; cases h
  · rw [if_neg h1] at h
    by_cases h2 : ds.length ≠ cs.length
    · rw [if_pos h2] at h; cases h
    · rw [if_neg h2] at h
      generalize (match (sortNat ends).getLast? with | some v => v + 1 | none => 0) + 4 = expected at h
      by_cases h3 : cs.length ≠ expected
      · rw [if_pos h3] at h; cases h
      · rw [if_neg h3] at h
        have hlen : cs.length = ds.length := by
          simp only [ne_eq, Decidable.not_not] at h2; exact h2.symm
        obtain ⟨out, hout, hs⟩ := optimizeLoop_sound t ds cs hlen _ 0 [] l h
        simp only [List.nil_append] at hout
        subst hout
        exact ⟨hlen, by omega, hs⟩

open FontVerif.Iup in
/-- building block: a `true` answer of `can_iup_in_between(from, to)` means every point strictly
between is reproduced within tolerance by interpolating between `from` and `to`
(`from = -1` is the last point of the slice). -/
theorem can_iup_in_between_sound (t : Tol) (ds cs : List Pt) (j i : Nat) :
    (canIup t ds cs (j : Int) i = true → ∀ k, j < k → k < i → okAt t ds cs j i k = true) ∧
    (canIup t ds cs (-1) i = true → ∀ k, k < i → okAt t ds cs (ds.length - 1) i k = true) :=
  ⟨fun h k h1 h2 => canIup_some t ds cs j i h k h1 h2, fun h k h2 => canIup_neg t ds cs i h k h2⟩

open FontVerif.Iup in
/-- building block: every `chain` entry the dynamic program produces is either the previous
index or a pair for which `can_iup_in_between` answered `true`. -/
theorem dp_chain_checked (t : Tol) (ds cs : List Pt) (must : List Bool) (lb : Nat) :
    ∀ i, i < (contourDp t ds cs must lb).2.length →
      match (contourDp t ds cs must lb).2.getD i none with
      | some j => j + 1 = i ∨ (j + 2 ≤ i ∧ canIup t ds cs (j : Int) i = true)
      | none => i = 0 ∨ canIup t ds cs (-1) i = true := by
  intro i hi
  have := contourDp_ok t ds cs must lb i hi
  cases hc : (contourDp t ds cs must lb).2.getD i none <;> rw [hc] at this <;> exact this

open FontVerif.Iup in
/-- **reader inference = writer inference.**  The FreeType-style interpolation of the reader
(skrifa `Jiggler::interpolate`: swap so that `in1 ≤ in2`, `scale = (out2 - out1) / (in2 - in1)`,
`out1 + (c - in1) * scale`, "same coordinate, different delta ⇒ untouched"), evaluated in exact
arithmetic, infers for every point the same delta as the writer's `iup_segment`, on all integer
inputs: same denominator, same numerator.  (The reader's 16.16 rounding of `scale` is not part of
this statement: `C10.interpolate_fixed_error_bound` in Props/C10Apply.lean bounds it, one axis of one
point, under the no-wrap hypotheses.) -/
theorem reader_infer_eq_writer_segment (in1 d1 in2 d2 c : Int) :
    readerAxis in1 d1 in2 d2 c = iupAxis in1 d1 in2 d2 c :=
  readerAxis_eq_iupAxis in1 d1 in2 d2 c

open FontVerif.Iup in
/-- **The reader's loops pick the specification's references** (skrifa `interpolate_deltas`: first
explicit point, forward walk, single-delta `shift`, wrap-around to the head and tail of the
contour).  For a contour occupying points `0 ..= n-1` and any set `has` of explicit deltas: no
`Jiggler` call is made when there is no explicit delta; otherwise every point without an explicit
delta is written by some call, and EVERY call that writes a point `k` uses as references exactly the
nearest explicit points before and after `k` in cyclic order. -/
theorem reader_loops_pick_spec_references (has : List Bool) (n np : Nat) (hn : 0 < n) (hnp : n ≤ np) :
    ∃ calls p', readerContourCalls has np 0 (n - 1) = some (calls, p') ∧
      ((∀ j, j < n → has.getD j false = false) → calls = []) ∧
      (∀ c ∈ calls, ∀ k, k < n → covers c k = true →
        has.getD k false = false ∧ prevReq has n k = some c.r1 ∧ nextReq has n k = some c.r2) ∧
      (∀ k, k < n → has.getD k false = false → (∃ j, j < n ∧ has.getD j false = true) →
        ∃ c ∈ calls, covers c k = true) := by
  obtain ⟨calls, e, hA, hB, hC, -⟩ := readerContourCalls_spec_at has np 0 (n - 1) (Nat.zero_le _) (by omega)
  rw [Nat.sub_zero, Nat.sub_add_cancel hn] at hB
  -- `has.drop 0`, `k - 0`, `c.r1 - 0` reduce by evaluation
  exact ⟨calls, _, e, fun h => hA fun j _ hj => h j (by omega),
    fun c hc k _ hcov => (hB c hc k hcov).2.2,
    fun k hk hk0 ⟨j, hj, hjt⟩ => hC k (Nat.zero_le _) (by omega) hk0 ⟨j, Nat.zero_le _, by omega, hjt⟩⟩

open FontVerif.Iup in
/-- **reader = specification** for one contour: the loop-faithful reader model with exact
per-point arithmetic assigns every point exactly the specification's inferred delta.  (The real
reader's 16.16 arithmetic is the separate model `readerInterpolate`, tied bit-exactly to skrifa by
the harness; its deviation from the exact value is bounded, under the no-wrap hypotheses, by
`C10.interpolate_fixed_error_bound` and `C10.apply_deltas_eq_spec` in Props/C10Apply.lean.) -/
theorem reader_contour_eq_spec (cs ds : List Pt) (has : List Bool) (np : Nat) (hn : 0 < ds.length)
    (hnp : ds.length ≤ np) :
    ∃ calls p', readerContourCalls has np 0 (ds.length - 1) = some (calls, p') ∧
      ∀ k, k < ds.length → readerExactAt cs ds has calls k = inferSpec cs ds has k := by
  obtain ⟨calls, p', e, hA, hB, hC⟩ := reader_loops_pick_spec_references has ds.length np hn hnp
  exact ⟨calls, p', e, readerExact_eq_spec cs ds has calls hA hB hC⟩

open FontVerif.Iup in
/-- **writer → reader round trip, one contour.**  Whatever deltas `iup_contour_optimize` keeps, the
reader (loop-faithful model, exact arithmetic) gives back every kept delta exactly and every
dropped delta within the tolerance. -/
theorem iup_writer_reader_roundtrip (t : Tol) (ds cs : List Pt) (enc : List Bool) (np : Nat)
    (hlen : cs.length = ds.length) (ht : 0 < t.d) (hn : 0 < ds.length) (hnp : ds.length ≤ np)
    (h : contourEncode t ds cs = some enc) :
    ∃ calls p', readerContourCalls enc np 0 (ds.length - 1) = some (calls, p') ∧
      ∀ k, k < ds.length →
        let r := readerExactAt cs ds enc calls k
        0 < r.1.2 ∧ 0 < r.2.2 ∧
        (enc.getD k false = true →
          ((r.1.1 : ℚ) / r.1.2 = (getP ds k).1 ∧ (r.2.1 : ℚ) / r.2.2 = (getP ds k).2)) ∧
        (enc.getD k false = false →
          (((getP ds k).1 : ℚ) - r.1.1 / r.1.2) ^ 2 + (((getP ds k).2 : ℚ) - r.2.1 / r.2.2) ^ 2
            ≤ ((t.n : ℚ) / t.d) ^ 2) := by
  obtain ⟨calls, p', e, heq⟩ := reader_contour_eq_spec cs ds enc np hn hnp
  refine ⟨calls, p', e, fun k hk => ?_⟩
  have := (iup_optimize_sound t ds cs enc hlen ht h).2 k hk
  rw [heq k hk]
  exact this

-- non-vacuity: the optimiser does drop deltas (rotated branch, then doubled branch)
open FontVerif.Iup in
example : contourEncode ⟨1, 2⟩ [(0,0),(1,0),(2,0),(0,0)] [(0,0),(10,0),(20,0),(20,10)]
    = some [true, false, true, true] := by decide +kernel
open FontVerif.Iup in
example : contourEncode ⟨1, 2⟩ [(0,0),(1,1),(2,2),(3,3),(4,4),(5,5),(6,6),(7,7)]
    [(0,0),(10,10),(20,20),(30,30),(40,40),(50,50),(60,60),(70,70)]
    = some [true, false, false, false, false, false, false, true] := by decide +kernel
-- the reader's calls for that kept set: interpolate point 1 between 0 and 2, nothing to wrap
open FontVerif.Iup in
example : readerContourCalls [true, false, true, true] 4 0 3
    = some ([⟨1, 1, 0, 2, false⟩, ⟨3, 2, 2, 3, false⟩, ⟨4, 3, 3, 0, false⟩], 4) := by decide +kernel
-- and inference really interpolates: point 1 of the first example gets 1/1 from its neighbours
open FontVerif.Iup in
example : inferSpec [(0,0),(10,0),(20,0),(20,10)] [(0,0),(1,0),(2,0),(0,0)] [true, false, true, true] 1
    = ((20, 20), (0, 1)) := by decide +kernel

open FontVerif.GvarLayout in
/-- For every list of per-glyph variation data (any sizes, empty = glyph without variations) and
both offset formats: in the table `hdr ++ data` that write-fonts lays out (`hdr` = the 20-byte
header plus the offsets array, whose length is `compute_data_array_offset`; the data with
`pad_to_2byte_aligned` after each glyph when offsets are short), read-fonts' `data_for_gid(i)`
with the stored offsets array returns exactly glyph `i`'s bytes (followed by the one padding byte
when offsets are short and the length is odd), and `None` for a glyph without variations. -/
theorem gvar_offsets_resolve (blobs : List (List Nat)) (long : Bool) (hdr : List Nat)
    (hhdr : hdr.length = dataArrayOffset long blobs.length)
    (hsz : (hdr ++ writeData long hdr.length blobs).length < 4294967296)
    (i : Nat) (hi : i < blobs.length) :
    dataForGid (hdr ++ writeData long hdr.length blobs) long (dataArrayOffset long blobs.length)
        (storedOffsets long blobs) i
      = some (if (blobs.getD i []).isEmpty then none
              else some (blobs.getD i [] ++
                (if !long ∧ (blobs.getD i []).length % 2 = 1 then [0] else []))) := by
  have h := dataForGid_writeData long (dataArrayOffset long blobs.length) blobs 0 hdr i
    (by simp [readOffset, hhdr])
    (by intro hl; subst hl; rw [hhdr]; simp [dataArrayOffset]) hsz hi
  exact h

open FontVerif.GvarLayout in
/-- When `compute_flags` chooses short offsets, every stored offset fits the u16 it is written
to (so `last += short_size as u16` neither truncates nor overflows). -/
theorem gvar_short_offsets_fit (blobs : List (List Nat)) (h : useLong blobs = false) :
    ∀ o ∈ storedOffsets false blobs, o ≤ 65535 := by
  intro o ho
  have h1 := offsetsFrom_le blobs 0 o ho
  have h2 := sum_short blobs
  unfold useLong at h
  simp only [decide_eq_false_iff_not] at h
  omega

-- non-vacuity: odd-sized glyph data gets a padding byte with short offsets, none with long
open FontVerif.GvarLayout in
example : storedOffsets false [[1, 2, 3], [], [4, 5]] = [0, 2, 2, 3] ∧
    writeData false 28 [[1, 2, 3], [], [4, 5]] = [1, 2, 3, 0, 4, 5] ∧
    storedOffsets true [[1, 2, 3], [], [4, 5]] = [0, 3, 3, 5] ∧
    writeData true 36 [[1, 2, 3], [], [4, 5]] = [1, 2, 3, 4, 5] := by decide +kernel

end FontVerif.C10
