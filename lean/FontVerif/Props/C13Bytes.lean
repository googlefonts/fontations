/-
C13 at the BYTE level — seven of the ten theorems of Props/C13.lean restated for every COLR table byte string:
the paint graph is not a parameter but `PaintBytes.instOfBytes`, i.e. the composition of
Model/Paint.lean (skrifa traversal) with C01's byte-level models of the read-fonts COLR readers
(Model/HandColr.lean).  Plus what only exists at the byte level: paint ids are byte offsets inside the
table, unguarded edges go strictly forward in the table (so every cycle passes a decycler-guarded edge),
the `u8` layer count discharges the visit bound's hypothesis, the readers never panic, an out-of-bounds COLRv0
layer range is an error, the root clip box brackets the stream, `bounding_box`, and when a gradient arm fills.
Property theorems only (helpers: Lemmas/PaintBytes.lean).
-/
import FontVerif.Model.PaintBytes
import FontVerif.Lemmas.PaintBytes
import FontVerif.Lemmas.Paint
import FontVerif.Props.C13
set_option linter.unusedVariables false
namespace FontVerif.C13Bytes
open FontVerif.Paint FontVerif.PaintBytes FontVerif.HandColr FontVerif.HandRead

/-! ### termination, no panic in the readers -/

/-- `paintBytes` / `paintV0Bytes` are total functions of the table bytes, the client and the glyph id, so
painting terminates for every byte string; the statement is the base of that recursion: with no depth
left the traversal answers `DepthLimitExceeded` without touching the painter … -/
theorem bytes_traverse_terminates (d : List Nat) (t : Colr) (c : Client) (n : Node) (dec : List PaintId)
    (st : St) : trav (instOfBytes t) c 0 n dec st = (some .depth, st) := rfl

/-- … and none of the byte-level lookups the traversal performs can panic (index out of range after
the binary searches), for every table: the `trap ↦ error` clause of `instOfBytes` is never used. -/
theorem bytes_lookups_never_panic (t : Colr) (i g : Nat) :
    v1Layer t i ≠ .trap ∧ v1BaseGlyph t g ≠ .trap ∧ v1ClipBox t g ≠ .trap ∧ v0Layer t i ≠ .trap :=
  ⟨(C01HandColr.v1Layer_safe t i).1, (C01HandColr.v1BaseGlyph_safe t g).1,
   (C01HandColr.v1ClipBox_safe t g).1, C01HandColr.v0Layer_no_trap t i⟩

/-! ### balanced callbacks -/

/-- **For every COLR byte string, glyph id and client: if `ColorGlyph::paint` reports success, the
callback stream is LIFO well nested.** -/
theorem bytes_ok_implies_balanced (d : List Nat) (c : Client) (gid : Gid) (st : St)
    (h : paintBytes d c gid = some (none, st)) : WellNested st.evs := by
  unfold paintBytes at h
  split at h
  · cases h
  · exact C13.ok_implies_balanced _ c gid st h

/-- the same for a COLRv0 glyph of any byte string (layer ranges in or out of bounds) -/
theorem bytes_v0_ok_implies_balanced (d : List Nat) (c : Client) (gid : Gid) (st : St)
    (h : paintV0Bytes d c gid = some (none, st)) : WellNested st.evs := by
  unfold paintV0Bytes at h
  split at h
  · cases h
  · split at h
    · injection h with h
      exact C13.v0_ok_implies_balanced c _ _ _ st h
    · cases h

/-- **COLRv0, out-of-bounds layer range**: if some index of the base glyph's range `first..first+num`
has no layer record, painting answers `Err(ParseError)` — an error value, never a panic. -/
theorem bytes_v0_out_of_bounds_is_error (d : List Nat) (t : Colr) (c : Client) (gid s e i : Nat)
    (ht : colrRead d = some t) (hb : v0BaseGlyph t gid = .ok (some (s, e)))
    (hi : s ≤ i ∧ i < e) (hbad : ∀ l, v0Layer t i ≠ .ok l) :
    ∃ st, paintV0Bytes d c gid = some (some .parse, st) := by
  unfold paintV0Bytes
  simp only [ht, hb]
  unfold paintV0
  have key : ∀ (l : List Nat) (st : St), i ∈ l → ∃ st', travV0 c (v0LayerGid t) l st = (some .parse, st') := by
    intro l
    induction l with
    | nil => intro st hm; cases hm
    | cons j js ih =>
      intro st hm
      simp only [travV0]
      cases hj : v0LayerGid t j with
      | none => exact ⟨st, rfl⟩
      | some g =>
        simp only []
        have : i ≠ j := by
          intro hij; subst hij
          unfold v0LayerGid at hj
          split at hj
          · rename_i l hl; exact hbad l hl
          · cases hj
        have hm' : i ∈ js := by
          cases hm with
          | head => exact absurd rfl this
          | tail _ h => exact h
        exact ih _ hm'
  obtain ⟨st', hs⟩ := key (List.range' s (e - s)) St.init (List.mem_range'_1.mpr ⟨hi.1, by omega⟩)
  exact ⟨st', by rw [hs]⟩

/-! ### cyclic and too-deep graphs are errors -/

/-- **Success means the paint graph in the bytes is shallow below the glyph**: for a client that does not
short-cut `PaintColrGlyph` (`hc`), every descending path from the root paint has fewer than 64 edges. -/
theorem bytes_ok_implies_depth_bounded (d : List Nat) (t : Colr) (ht : colrRead d = some t)
    (c : Client) (hc : ∀ g, c.cached g = .unimplemented) (gid : Gid) (st : St)
    (h : paintBytes d c gid = some (none, st))
    (fmt pid : Nat) (hb : v1BaseGlyph t gid = .ok (some (fmt, pid)))
    (n : Node) (hres : nodeOfBytes d pid = some n) (k : Nat) (hp : Path (instOfBytes t) n k) :
    k < MAX_TRAVERSAL_DEPTH := by
  rw [paintBytes_eq ht] at h
  exact C13.ok_implies_depth_bounded (instOfBytes t) c hc gid st h pid n (inst_base_found hb)
    (inst_resolve ht ▸ hres) k hp

/-- **A too-deep paint graph in the bytes is an error** (client as in `bytes_ok_implies_depth_bounded`). -/
theorem bytes_too_deep_is_error (d : List Nat) (t : Colr) (ht : colrRead d = some t)
    (c : Client) (hc : ∀ g, c.cached g = .unimplemented) (gid : Gid)
    (fmt pid : Nat) (hb : v1BaseGlyph t gid = .ok (some (fmt, pid)))
    (n : Node) (hres : nodeOfBytes d pid = some n) (hp : Path (instOfBytes t) n MAX_TRAVERSAL_DEPTH) :
    ∃ e st, paintBytes d c gid = some (some e, st) := by
  rw [paintBytes_eq ht]
  exact C13.too_deep_is_error (instOfBytes t) c hc gid pid n (inst_base_found hb) (inst_resolve ht ▸ hres) hp

/-- **A cyclic paint graph in the bytes is an error** (client as in `bytes_ok_implies_depth_bounded`). -/
theorem bytes_cycle_is_error (d : List Nat) (t : Colr) (ht : colrRead d = some t)
    (c : Client) (hc : ∀ g, c.cached g = .unimplemented) (gid : Gid)
    (fmt pid : Nat) (hb : v1BaseGlyph t gid = .ok (some (fmt, pid)))
    (n a : Node) (hres : nodeOfBytes d pid = some n) (j k : Nat)
    (hreach : Walk (instOfBytes t) n a j) (hcyc : Walk (instOfBytes t) a a (k + 1)) :
    ∃ e st, paintBytes d c gid = some (some e, st) := by
  rw [paintBytes_eq ht]
  exact C13.cycle_is_error (instOfBytes t) c hc gid pid n a j k (inst_base_found hb) (inst_resolve ht ▸ hres)
    hreach hcyc

/-! ### paint ids are byte offsets; which edges can close a cycle -/

/-- **Every paint id the decycler ever sees is a byte offset inside the table** (`enter` is called
with the id of a layer paint or of a base-glyph paint): the decycler's id set is bounded by the table
length, and `resolve_paint` succeeds only on offsets inside the table. -/
theorem bytes_paint_ids_in_table (t : Colr) :
    (∀ i pid, (instOfBytes t).layer i = some pid → pid < t.d.length) ∧
    (∀ g pid, (instOfBytes t).base g = .found pid → pid < t.d.length) ∧
    (∀ p n, (instOfBytes t).resolve p = some n → p < t.d.length) :=
  ⟨fun _ _ h => inst_layer_lt h, fun _ _ h => inst_base_lt h, fun _ _ h => nodeOfBytes_lt h⟩

/-- **Unguarded edges go strictly forward in the table**: the child of a `PaintGlyph`, of any of the 20
transform paints and both children of a `PaintComposite` are `Offset24`s relative to the parent, non-null,
so the child's byte offset is strictly larger.  Hence a chain of such edges is shorter than the table and
every cycle passes a `PaintColrLayers` or `PaintColrGlyph` edge — exactly the edges on which
`traverse_with_callbacks` calls `decycler.enter`. -/
theorem bytes_unguarded_edges_go_forward (d : List Nat) (p : Nat) :
    (∀ g ch, nodeOfBytes d p = some (.glyph g ch) → p < ch ∧ ch < d.length) ∧
    (∀ tag ch, nodeOfBytes d p = some (.transform tag ch) → p < ch ∧ ch < d.length ∧ tag = p) ∧
    (∀ s m b, nodeOfBytes d p = some (.composite s m b) →
      (p < s ∧ s < d.length) ∧ (p < b ∧ b < d.length) ∧ m ≤ 28) :=
  ⟨fun _ _ h => nodeOfBytes_glyph h, fun _ _ h => nodeOfBytes_transform h,
   fun _ _ _ h => nodeOfBytes_composite h⟩

/-- **A chain of unguarded edges is shorter than the table**: `k` consecutive `PaintGlyph` / transform /
`PaintComposite` edges from the paint at offset `p` end at an offset `≥ p + k` inside the table.  (Each paint
is at least 3 bytes long, so in fact `3·k < len`; the depth limit 64 is what bounds guarded edges.) -/
theorem bytes_unguarded_chain_shorter_than_table (d : List Nat) (p k : Nat) (hp : p < d.length)
    (h : UChain d p k) : p + k < d.length := by
  induction h with
  | here p => omega
  | step he _ ih =>
    have := he.forward
    have := ih this.2
    omega

/-! ### bounded number of visited paint nodes -/

/-- **Visit bound for every byte string** (`Bytes d`: the data consists of bytes): at most
`1 + 255 + … + 255^63` paint nodes, with no hypothesis on the graph — `num_layers` is read as a `u8`. -/
theorem bytes_visit_bound (d : List Nat) (hbytes : Bytes d) (c : Client) (gid : Gid) (r : Option PErr) (st : St)
    (h : paintBytes d c gid = some (r, st)) : st.visits ≤ geom 255 MAX_TRAVERSAL_DEPTH := by
  unfold paintBytes at h
  split at h
  · cases h
  · rename_i t ht
    have hd := colrRead_d ht
    exact C13.visit_bound (instOfBytes t) c 255 (by omega)
      (instOfBytes_layersBounded t (by rw [hd]; exact hbytes)) gid r st h

/-! ### clip boxes and `bounding_box()` -/

/-- **The root clip box brackets the whole stream, with the values of the `ClipBox` record**: if the glyph
has a clip box (`ClipBoxFormat1`, or `ClipBoxFormat2` at the default location; any values — inverted and
empty boxes are pushed as they are) and painting succeeds, the client's stream is
`push_clip_box(x_min, y_min, x_max, y_max) … pop_clip` with the four `FWord`s of the table. -/
theorem bytes_root_clip_box_brackets (d : List Nat) (t : Colr) (ht : colrRead d = some t) (c : Client)
    (gid : Gid) (st : St) (h : paintBytes d c gid = some (none, st))
    (b : ClipBoxV) (hb : clipOfBytes t gid = some b) :
    ∃ mid, st.evs = [.pushClipBox b] ++ mid ++ [.popClip] := by
  rw [paintBytes_eq ht] at h
  exact paintV1_clip_brackets h hb

/-- **`ColorGlyph::bounding_box` is total and never panics**: `None` for every COLRv0 glyph, the clip box
(the same value `paint` pushes) for a COLRv1 glyph, `None` when it has none. -/
theorem bytes_bounding_box (d : List Nat) (gid : Gid) :
    (∀ x, boundingBoxBytes d gid true = some x → x = none) ∧
    (∀ t, colrRead d = some t → ∀ x, boundingBoxBytes d gid false = some x → x = clipOfBytes t gid) := by
  constructor
  · intro x h
    unfold boundingBoxBytes at h
    split at h
    · cases h
    · simp only [if_true] at h
      split at h
      · injection h with h; exact h.symm
      · cases h
  · intro t ht x h
    unfold boundingBoxBytes at h
    simp only [ht, Bool.false_eq_true, if_false] at h
    split at h
    · injection h with h; exact h.symm
    · cases h

/-! ### gradients: when does the arm reach its single `fill()` -/

/-- **Zero colour-stop range with an extend mode other than Pad draws nothing** — Repeat, Reflect and every
unknown extend byte (`Extend::Unknown`; the condition of seeded change C20-7): the radial and sweep arms return
without calling `fill`. -/
theorem zero_range_not_pad_draws_nothing (cl : CLine) (lo : Int)
    (hmin : listMin cl.offs = some lo) (hmax : listMax cl.offs = some lo) (hext : cl.ext ≠ 0) :
    radialCase cl = .zeroRangeNotPad ∧ (∀ sa ea, sweepCase sa ea cl = .zeroRangeNotPad) ∧
    (∀ fmt, gradientBrush fmt cl .zeroRangeNotPad = none) ∧ GCase.zeroRangeNotPad.fills = false := by
  refine ⟨?_, ?_, fun _ => rfl, rfl⟩
  · simp [radialCase, hmin, hmax, hext]
  · intro sa ea; simp [sweepCase, hmin, hmax, hext]

/-- **… and in Pad mode it is filled, with one extra stop appended** (`extra_stop.offset += 1.0`) -/
theorem zero_range_pad_appends_a_stop (cl : CLine) (lo : Int)
    (hmin : listMin cl.offs = some lo) (hmax : listMax cl.offs = some lo) (hext : cl.ext = 0) :
    radialCase cl = .zeroRangePad ∧
    gradientBrush 6 cl .zeroRangePad = some [2, 0, ((cl.stops.length + 1 : Nat) : Int)] := by
  refine ⟨by simp [radialCase, hmin, hmax, hext], ?_⟩
  simp [gradientBrush, extOf, hext]

/-- **A colour line without stops is never filled**, whatever the geometry and extend mode -/
theorem no_stops_never_fills (cl : CLine) (h : cl.stops = []) (fmt : Nat) (x0 y0 x1 y1 x2 y2 sa ea : Int) :
    (linearCase x0 y0 x1 y1 x2 y2 cl).fills = false ∧ (radialCase cl).fills = false ∧
    (sweepCase sa ea cl).fills = false := by
  have ho : cl.offs = [] := by simp [CLine.offs, h]
  refine ⟨?_, by simp [radialCase, ho, listMin, listMax, GCase.fills], by simp [sweepCase, ho, listMin, listMax, GCase.fills]⟩
  unfold linearCase
  split
  · simp [h, GCase.fills]
  · simp [radialCase, ho, listMin, listMax, GCase.fills]

/-- **Degenerate linear gradient** (`p1 == p0` or `p2 == p0`): a solid fill with the first sorted stop, or
nothing when there is no stop — never the gradient, whatever the extend mode -/
theorem linear_degenerate_points (x0 y0 x1 y1 x2 y2 : Int) (cl : CLine)
    (h : (x1 = x0 ∧ y1 = y0) ∨ (x2 = x0 ∧ y2 = y0)) :
    linearCase x0 y0 x1 y1 x2 y2 cl = (if cl.stops.isEmpty then .degenerateEmpty else .degenerateSolid) := by
  unfold linearCase
  rcases h with h | h
  · simp [h]
  · simp [h]

/-! ### non-vacuity: concrete byte strings -/

private def unimpl : Client := Client.ofModes 1 0

/-- glyph 1 = `PaintColrLayers` (1 layer) whose only layer is that paint itself: header (34 bytes), base
glyph list at 34 (gid 1 → paint at 52), layer list at 44 (layer 0 → paint at 52) -/
private def selfLayer : List Nat :=
  [0,1, 0,0, 0,0,0,0, 0,0,0,0, 0,0,            -- version 1, no v0 records
   0,0,0,34, 0,0,0,44, 0,0,0,0, 0,0,0,0, 0,0,0,0,   -- base glyph list @34, layer list @44
   0,0,0,1, 0,1, 0,0,0,18,                    -- @34: 1 record: gid 1, paint @34+18 = 52
   0,0,0,1, 0,0,0,8,                          -- @44: 1 layer: paint @44+8 = 52
   1, 1, 0,0,0,0]                             -- @52: PaintColrLayers num=1 first=0

example : Bytes selfLayer := by unfold Bytes selfLayer; decide

/-- the self-referential layer is reported as a cycle, from the bytes alone -/
example : (paintBytes selfLayer unimpl 1).map (fun r => (r.1, r.2.evs)) = some (some .cycle, []) := by
  decide +kernel

/-- and the hypotheses of `bytes_cycle_is_error` hold for it -/
example : nodeOfBytes selfLayer 52 = some (.colrLayers 0 1) := by decide +kernel

/-- glyph 1 = `PaintGlyph(gid 7, PaintSolid)` with a format-1 clip box -/
private def glyphSolid : List Nat :=
  [0,1, 0,0, 0,0,0,0, 0,0,0,0, 0,0,
   0,0,0,34, 0,0,0,0, 0,0,0,55, 0,0,0,0, 0,0,0,0,   -- base glyph list @34, clip list @55
   0,0,0,1, 0,1, 0,0,0,10,                    -- @34: gid 1 → paint @44
   10, 0,0,6, 0,7,                            -- @44: PaintGlyph child @50 gid 7
   2, 0,3, 0x40,0,                            -- @50: PaintSolid palette 3 alpha 1.0
   1, 0,0,0,1, 0,1, 0,1, 0,0,12,              -- @55: ClipList fmt 1, 1 clip: gids 1..1 box @55+12 = 67
   1, 0,0, 0,0, 0,100, 0,100]                 -- @67: ClipBoxFormat1 (0,0,100,100)

example : (paintBytes glyphSolid unimpl 1).map (fun r => (r.1, r.2.evs, r.2.visits))
    = some (none, [.pushClipBox [0, 0, 100, 100], .fillGlyph 7 none [0, 3, 16384], .popClip], 2) := by decide +kernel

/-- the `PaintGlyph → PaintSolid` edge of that table is an unguarded edge (hypothesis of
`bytes_unguarded_chain_shorter_than_table`) -/
example : UChain glyphSolid 44 1 :=
  .step (.glyph (g := 7) (q := 50) (by decide +kernel)) (.here _)

/-- the same table with an INVERTED clip box (x_min 100 > x_max 0): pushed as is, popped once -/
private def glyphSolidInverted : List Nat := glyphSolid.take 68 ++ [0,100, 0,0, 0,0, 0,100]

example : (paintBytes glyphSolidInverted unimpl 1).map (fun r => (r.1, r.2.evs))
    = some (none, [.pushClipBox [100, 0, 0, 100], .fillGlyph 7 none [0, 3, 16384], .popClip]) := by decide +kernel

example : boundingBoxBytes glyphSolidInverted 1 false = some (some [100, 0, 0, 100]) := by decide +kernel

/-- glyph 1 = `PaintRadialGradient` with two coincident stops; extend byte 7 (`Extend::Unknown`): nothing
drawn; extend 0 (Pad): a radial gradient brush with 3 stops -/
private def radialCoincident (ext : Nat) : List Nat :=
  [0,1, 0,0, 0,0,0,0, 0,0,0,0, 0,0,
   0,0,0,34, 0,0,0,0, 0,0,0,0, 0,0,0,0, 0,0,0,0,
   0,0,0,1, 0,1, 0,0,0,10,
   6, 0,0,16, 0,0, 0,0, 0,10, 0,50, 0,50, 0,100,     -- @44 PaintRadialGradient, colour line @60
   ext, 0,2, 0x20,0, 0,2, 0x40,0,  0x20,0, 0,3, 0x40,0]

example : (paintBytes (radialCoincident 7) unimpl 1).map (fun r => (r.1, r.2.evs)) = some (none, []) := by
  decide +kernel
example : (paintBytes (radialCoincident 0) unimpl 1).map (fun r => (r.1, r.2.evs))
    = some (none, [.fill [2, 0, 3]]) := by decide +kernel
example : gradientCase (radialCoincident 7) 44 6 = some .zeroRangeNotPad := by decide +kernel

/-- a COLRv0 table: glyph 1 has layers 0..3 but only 2 layer records exist -/
private def v0Short : List Nat :=
  [0,0, 0,1, 0,0,0,14, 0,0,0,20, 0,2,
   0,1, 0,0, 0,3,             -- @14 base glyph: gid 1 first 0 num 3
   0,5, 0,0,  0,6, 0xFF,0xFF] -- @20 layers: (5, palette 0), (6, palette 0xFFFF = foreground)

example : (paintV0Bytes v0Short unimpl 1).map (fun r => (r.1, r.2.evs))
    = some (some .parse, [.fillGlyph 5 none [0, 0, 16384], .fillGlyph 6 none [0, 65535, 16384]]) := by decide +kernel

end FontVerif.C13Bytes
