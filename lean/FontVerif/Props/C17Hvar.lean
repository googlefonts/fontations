/-
C17 (HVAR / VVAR part) — subsetting preserves the metric deltas of the glyphs it keeps.

Model: `FontVerif/Model/SubsetHvar.lean` (klippa `hvar.rs`, `vvar.rs`, `variations.rs`,
`inc_bimap.rs`, post-fix 13c1b30 / ba89e32 / 7615279 / 67546f5).  Reader: C11's
`Tent.computeDelta`, `Tent.dsimGet`, `Tent.implicitIndex` (read-fonts `compute_delta`,
`DeltaSetIndexMap::get`, `advance_delta` / `item_delta`).

The headline is `hvar_vvar_deltas_preserved`; the theorems before it are its parts:
row repacking and region pruning / renumbering leave every retained row's evaluation unchanged,
retained subtables are renumbered consistently, the rewritten DeltaSetIndexMap sends every new gid
to the remapped index of its old gid (with `map_count` trimming and the implicit advance map).
-/
import FontVerif.Model.SubsetHvar
import FontVerif.Lemmas.SubsetHvar
namespace FontVerif.C17Hvar
open FontVerif.Tent FontVerif.Ivs FontVerif.SubsetHvar

/-- klippa's random access `get_item_delta(item, region)` into
the delta-set bytes returns exactly the `region`-th value the reader's `ItemDeltas` iterator yields
for that row, for every word-count / LONG_WORDS layout (also when there are more word columns than
region indexes); the iterator yields one value per region index. -/
theorem get_item_delta_is_reader_row (st : SubTable) (hok : SubOk st) (item : Nat)
    (hi : item < st.itemCount) :
    (decodedRow st item).length = st.regionIndexes.length ∧
    ∀ r, r < st.regionIndexes.length → (decodedRow st item)[r]? = some (getItemDelta st item r) := by
  rw [decodedRow_eq st hok item hi]
  exact ⟨by rw [List.length_map, List.length_range], fun r hr => by rw [List.getElem?_map, List.getElem?_range hr]; rfl⟩

/-- for every source table made of bytes and every set of
retained rows: a column classified `Zero` holds only zeros in the retained rows, and every retained
value of a `NonWord` / `Word` column fits the narrow / wide cell width of the LONG_WORDS mode the
subset chose — including the columns decided early by the `short_circuit` and the fallback from
LONG_WORDS to 16-bit words. -/
theorem column_classification_sound (st : SubTable) (hb : ∀ b ∈ st.data, b < 256) (keys : List Nat) :
    (deltaSizes st keys).length = st.regionIndexes.length ∧
    (∀ r, (deltaSizes st keys)[r]? = some 0 → ∀ item ∈ keys, getItemDelta st item r = 0) ∧
    (∀ r, (deltaSizes st keys)[r]? = some 1 → ∀ item ∈ keys,
      FitsW (narrowW (hasLong st keys)) (getItemDelta st item r)) ∧
    (∀ r, (deltaSizes st keys)[r]? = some 2 → ∀ item ∈ keys,
      FitsW (wideW (hasLong st keys)) (getItemDelta st item r)) := by
  obtain ⟨h1, _, _, h4, h5, h6⟩ := deltaSizes_spec st hb keys
  exact ⟨h1, h4, h5, h6⟩

/-- `set_item_delta`'s `i8::try_from` / `i16::try_from` never
fail: every value of every retained row passes the check of the cell it is written to (the
`SERIALIZE_ERROR_OTHER` exits of `set_item_delta` are unreachable on tables made of bytes). -/
theorem classification_never_truncates (st : SubTable) (hb : ∀ b ∈ st.data, b < 256)
    (keys : List Nat) (oldI : Nat) (hi : oldI ∈ keys) :
    rowFits (hasLong st keys) (count 2 (deltaSizes st keys))
      ((riMap (deltaSizes st keys)).map fun c => getItemDelta st oldI c) = true := by
  obtain ⟨_, _, _, _, h1, h2⟩ := deltaSizes_spec st hb keys
  have ⟨ht, hd⟩ := idxWith_take_drop (deltaSizes st keys)
  have hwide : ∀ d ∈ ((riMap (deltaSizes st keys)).map fun c => getItemDelta st oldI c).take
      (count 2 (deltaSizes st keys)), FitsW (wideW (hasLong st keys)) d := by
    intro d hd'
    rw [← List.map_take, ht] at hd'
    obtain ⟨c, hc, rfl⟩ := List.mem_map.mp hd'
    exact h2 c (mem_idxWith.mp hc) oldI hi
  have hnarrow : ∀ d ∈ ((riMap (deltaSizes st keys)).map fun c => getItemDelta st oldI c).drop
      (count 2 (deltaSizes st keys)), FitsW (narrowW (hasLong st keys)) d := by
    intro d hd'
    rw [← List.map_drop, hd] at hd'
    obtain ⟨c, hc, rfl⟩ := List.mem_map.mp hd'
    exact h1 c (mem_idxWith.mp hc) oldI hi
  unfold rowFits
  cases hl : hasLong st keys
  · rw [hl] at hwide hnarrow
    simp only [Bool.false_eq_true, if_false, Bool.and_eq_true, List.all_eq_true, decide_eq_true_eq]
    exact ⟨fun d hd => by simpa [FitsW, wideW] using hwide d hd,
           fun d hd => by simpa [FitsW, narrowW] using hnarrow d hd⟩
  · rw [hl] at hnarrow
    simp only [if_true, List.all_eq_true, decide_eq_true_eq]
    exact fun d hd => by simpa [FitsW, narrowW] using hnarrow d hd

/-- the reader decodes row `i` of the written ItemVariationData as the
retained columns (words first, source order inside each class) of old row `inner_map[i]`, and the
written table holds its delta sets (`SubOk`: at least `delta_row_len × item_count` data bytes). -/
theorem retained_rows_decode {st : SubTable} {im rm : List Nat} {o : SubTable}
    (h : subsetVarData st im rm = .ok o) (hb : ∀ b ∈ st.data, b < 256)
    (hric : st.regionIndexes.length < 32768) (him : im.length < 65536) :
    SubOk o ∧ ∀ i (hi : i < im.length),
      decodedRow o i = (riMap (deltaSizes st im)).map fun c => getItemDelta st im[i] c :=
  decodedRow_subset (subsetVarData_ok h) hb hric him

/-- for every coordinate vector the weighted sum
`Σ delta × scalar(region)` of a written row over the pruned region list equals that of the old row
over the original list: dropped columns are all zero, every retained column still names its region
through `region_map` (a sorted list of old indices; new index = position). -/
theorem row_evaluation_unchanged {st : SubTable} {im rm : List Nat} {o : SubTable}
    (h : subsetVarData st im rm = .ok o) (hb : ∀ b ∈ st.data, b < 256)
    (hric : st.regionIndexes.length < 32768) (him : im.length < 65536) (hsok : SubOk st)
    (regions : List (List (Int × Int × Int))) (hsorted : rm.Pairwise (· < ·))
    (hrm : ∀ x ∈ rm, x < regions.length) (hreg : regions.length ≤ 65536)
    (coords : List Int) (i : Nat) (hi : i < im.length) :
    specSum (rm.map fun r => regions.getD r []) coords (decodedRow o i) o.regionIndexes =
      specSum regions coords (decodedRow st im[i]) st.regionIndexes :=
  row_sum_eq (subsetVarData_ok h) hb hric him hsok regions hsorted hrm hreg coords i hi

/-- the region map of a successful store subset is strictly
ascending, inside the original region list, and the written region list is its image. -/
theorem region_map_is_sorted_restriction {axisCount : Nat} {regions : List (List (Int × Int × Int))}
    {subs : List SubIn} {ims : List (List Nat)} {so : StoreOut}
    (h : subsetStore axisCount regions subs ims = .ok so) :
    so.regionMap.Pairwise (· < ·) ∧ (∀ x ∈ so.regionMap, x < regions.length) ∧
    so.regions = so.regionMap.map (fun r => regions.getD r []) := by
  obtain ⟨h1, h2, h3, _⟩ := subsetStore_ok h
  exact ⟨h1, h2, h3⟩

/-- `compute_delta` of the reader on a written subtable at
new inner index `i` equals `compute_delta` on the original subtable at old inner index
`inner_map[i]` — same `Ok` value, for every coordinate vector (also when the old inner index lies
beyond the item count: both give 0). -/
theorem compute_delta_subtable_preserved {st : SubTable} {im rm : List Nat} {o : SubTable}
    (h : subsetVarData st im rm = .ok o) (hb : ∀ b ∈ st.data, b < 256)
    (hric : st.regionIndexes.length < 32768) (him : im.length < 65536) (hsok : SubOk st)
    (regions : List (List (Int × Int × Int))) (hsorted : rm.Pairwise (· < ·))
    (hrm : ∀ x ∈ rm, x < regions.length) (hreg : regions.length ≤ 65536)
    (hsri : ∀ ri ∈ st.regionIndexes, ri < regions.length)
    (newSubs oldSubs : List (Option SubTable)) (no outer : Nat)
    (hnew : newSubs[no]? = some (some o)) (hold : oldSubs[outer]? = some (some st))
    (coords : List Int) (i : Nat) (hi : i < im.length) :
    computeDelta (rm.map fun r => regions.getD r []) newSubs no i coords =
      computeDelta regions oldSubs outer im[i] coords :=
  computeDelta_subtable (subsetVarData_ok h) hb hric him hsok regions hsorted hrm hreg hsri
    newSubs oldSubs no outer hnew hold coords i hi

/-- after a successful plan and store subset, every outer index
`o` of the (sorted) outer map names a readable original subtable, and the written array holds the
subset of exactly that subtable at position `outer_map[o]`. -/
theorem outer_renumbering_consistent {t : TableIn} {sp : SubsetPlan} {so : StoreOut}
    (hsp : subsetPlan t.subs.length t.maps t.n2o t.glyphset t.retainGids = .ok sp)
    (hso : subsetStore t.axisCount t.regions t.subs sp.innerMaps = .ok so)
    (hgs : t.n2o ≠ [] → t.glyphset ≠ []) (o : Nat) (ho : o ∈ sp.outerMap) :
    ∃ st ov, t.subs[o]? = some (SubIn.ok st) ∧
      subsetVarData st (sp.innerMaps.getD o []) so.regionMap = .ok ov ∧
      so.subs[sp.outerMap.idxOf o]? = some ov := by
  obtain ⟨_, _, homs, hommem, _⟩ := subsetPlan_ok hsp hgs
  obtain ⟨_, _, _, hsubs⟩ := subsetStore_ok hso
  have ⟨hol, hnz⟩ := (hommem o).mp ho
  have himo := getElem?_eq_some_getD ([] : List Nat) hol
  obtain ⟨st, ov, h1, h2, h3⟩ := subsetSubs_get so.regionMap sp.innerMaps t.subs so.subs hsubs o _ himo hnz
  exact ⟨st, ov, h1, h2, by rw [idxOf_eq_usedBefore sp.outerMap sp.innerMaps homs hommem o ho]; exact h3⟩

/-- the backwards scan of `IndexMapSubsetPlan::new` returns the new gid of
the first element of a suffix of `new_to_old_gid_list` on which the (explicit or implicit) map is
constant — all glyphs from there on share the last written entry. -/
theorem map_count_trimming (m : Option MapIn) (l : List (Nat × Nat)) (r : Option Nat)
    (h : scanBack m l.reverse none = .ok r) :
    (l = [] ∧ r = none) ∨
    ∃ pre x suf val, l = pre ++ x :: suf ∧ r = some x.1 ∧
      (∀ p ∈ x :: suf, mapGet m p.2 = some val) :=
  scanBack_spec m l r h

/-- reading the written DeltaSetIndexMap (entry format and width as chosen
by the subsetter, entries packed as `outer << inner_bit_count | inner` in `width` bytes) at the
new gid of ANY retained glyph gives `(outer_map[o], inner_maps[o][i])`, where `(o, i)` is what the
original map — or `gid ↦ (gid >> 16, gid & 0xFFFF)` when there is none — gives for the old gid;
glyphs at or beyond the trimmed `map_count` included. -/
theorem index_map_rewrite (m : Option MapIn) (n2o : List (Nat × Nat)) (om : List Nat)
    (ims : List (List Nat)) (p p' : MapPlan) (mo : MapOut) (lastGid : Option Nat)
    (hpw : n2o.Pairwise (fun a b => a.1 < b.1)) (hnew : ∀ q ∈ n2o, q.1 < 65535)
    (hscan : scanBack m n2o.reverse none = .ok lastGid) (hmc : p.mapCount = mapCountOf lastGid)
    (hremap : remap p m n2o om ims = .ok p') (hser : serializeMap p' = .ok mo)
    (hom : om.Pairwise (· < ·))
    (houter : ∀ q ∈ n2o, ∀ outer inner, mapGet m q.2 = some (outer, inner) →
      outer < ims.length ∧ outer < 2 ^ p.outerBits ∧ outer < 65536)
    (hims : ∀ im ∈ ims, im.length ≤ 65536) :
    ∀ q ∈ n2o, ∀ outer inner, mapGet m q.2 = some (outer, inner) →
      outer ∈ om ∧ inner ∈ ims.getD outer [] ∧
      dsimGet mo.entryFormat mo.mapCount mo.data q.1 =
        some (om.idxOf outer, (ims.getD outer []).idxOf inner) := by
  intro q hq outer inner hget
  obtain ⟨x, val, out, mx, hxm, hmc', hp', hval, hsrc, _, hlook⟩ :=
    remap_facts m n2o om ims p p' lastGid hpw hnew hscan hmc hremap (List.ne_nil_of_mem hq)
  subst hp'
  -- the entry read for `q` is that of a processed glyph with the same original index: `q` itself, or
  -- `x` (the last one written) when `q` lies beyond the trimmed `map_count`
  obtain ⟨a, ha, hle, hga, hmin⟩ : ∃ a ∈ n2o, a.1 ≤ x.1 ∧ mapGet m a.2 = some (outer, inner) ∧
      min q.1 (p.mapCount - 1) = a.1 := by
    rcases Nat.le_total q.1 x.1 with h | h
    · exact ⟨q, hq, h, hget, by omega⟩
    · exact ⟨x, hxm, Nat.le_refl _, (hval x hxm (Nat.le_refl _)).trans ((hval q hq h).symm.trans hget), by omega⟩
  have ⟨hol, _, _⟩ := houter a ha outer inner hga
  obtain ⟨ho, hi, hlk⟩ := hlook a ha hle outer inner hga hol
  refine ⟨ho, hi, ?_⟩
  rw [serializeMap_read hser (Nat.lt_of_lt_of_eq (Nat.succ_pos _) hmc'.symm) mx rfl ?_ q.1]
  · have ⟨d1, d2⟩ := or_decode (om.idxOf outer) _ (idxOf_getD_lt hims hol hi)
    show some (entryOf out (min q.1 (p.mapCount - 1))) = _
    rw [hmin, entryOf, hlk]
    show some (_ / 65536, _ % 65536) = _
    rw [d1, d2]
  · -- every written entry comes from a processed glyph; a sorted outer map renumbers downwards
    intro g v hv
    obtain ⟨⟨old, o', i', hmem, hmg, ho', hi', hveq⟩, hmxv⟩ := hsrc g v hv
    have ⟨h1, h2, h3⟩ := houter (g, old) hmem o' i' hmg
    have hno : v / 65536 ≤ o' := by
      rw [hveq, (or_decode (om.idxOf o') _ (idxOf_getD_lt hims h1 hi')).1]; exact idxOf_le_of_sorted hom ho'
    exact ⟨Nat.lt_of_le_of_lt hno h2, Nat.lt_of_le_of_lt hno h3, hmxv⟩

/-- for EVERY well-formed table and plan (`WellFormed`: the plan's
glyph list is ascending with ids below 65535 and inside `glyphset`; readable subtables hold their
delta sets and name existing regions; map entries of retained glyphs name existing subtables),
whenever `Hvar::subset` / `Vvar::subset` writes a table: for every map `k` (0 = advance width /
height read with `advance_delta`; 1.. = lsb/tsb, rsb/bsb, vorg read with `item_delta`), every
retained glyph `(new, old)` and EVERY coordinate vector, the reader's delta on the subset at `new`
equals the reader's delta on the original at `old` (`none` = read error on both sides, e.g. a side
bearing map that does not exist).  `planRowsOkB`: no subtable of the subset gets ≥ 65536 rows. -/
theorem hvar_vvar_deltas_preserved (t : TableIn) (out : TableOut) (h : subsetTable t = .ok out)
    (wf : WellFormed t) (hrows : planRowsOkB t = true)
    (k : Nat) (hk : k < t.maps.length) (q : Nat × Nat) (hq : q ∈ t.n2o) (coords : List Int) :
    readerDelta out.store.regions (out.store.subs.map some)
        ((out.maps.getD k none).map MapOut.triple) (k == 0) q.1 coords =
      readerDelta t.regions (t.subs.map SubIn.toReader)
        ((t.maps.getD k none).map MapIn.triple) (k == 0) q.2 coords := by
  unfold subsetTable at h
  cases hsp : subsetPlan t.subs.length t.maps t.n2o t.glyphset t.retainGids with
  | error e => rw [hsp] at h; cases h
  | ok sp =>
  rw [hsp] at h
  simp only [] at h
  cases hso : subsetStore t.axisCount t.regions t.subs sp.innerMaps with
  | error e => rw [hso] at h; cases h
  | ok so =>
  rw [hso] at h
  simp only [] at h
  cases hmos : serializeMaps sp.plans with
  | error e => rw [hmos] at h; cases h
  | ok mos =>
  rw [hmos] at h
  simp only [pure, Except.pure, Except.ok.injEq] at h
  subst h
  simp only []
  have hne : t.n2o ≠ [] := List.ne_nil_of_mem hq
  have hgs : t.n2o ≠ [] → t.glyphset ≠ [] := fun _ => List.ne_nil_of_mem (wf.glyphset q hq)
  obtain ⟨hvc, himl, homs, hommem, hplans⟩ := subsetPlan_ok hsp hgs
  have hcnt := planRowsOk_of t hrows sp hsp
  have hmk : t.maps[k]? = some t.maps[k] := List.getElem?_eq_getElem hk
  obtain ⟨p, p', hpf, hremap, hplan⟩ := hplans k t.maps[k] hmk
  have hmem : t.maps[k] ∈ t.maps := List.getElem_mem hk
  rw [getD_of_getElem? (d := none) hmk]
  rcases hpf with ⟨hb, hmn, hmc0⟩ | ⟨hexcl, lastGid, hscan, hmc, hob⟩
  · -- a side bearing map that does not exist: none in the subset either
    have hp'out := remap_zero hmc0 hremap
    rcases serializeMaps_get hmos hplan with ⟨_, hmo⟩ | ⟨hne', _⟩
    · rw [getD_of_getElem? (d := none) hmo, hmn]
      have hk0 : (k == 0) = false := by simpa using hb
      simp [readerDelta, hk0]
    · exact absurd hp'out hne'
  · have houter := mapGet_bounds t wf t.maps[k] hmem hvc p.outerBits hob
    rw [← himl] at houter
    obtain ⟨hdef, hnonempty⟩ := remap_defined t.maps[k] t.n2o sp.outerMap sp.innerMaps p p' lastGid
      wf.n2oSorted wf.newLt hscan hmc hremap
    have hp'ne := hnonempty hne (fun q hq o i hg => (houter q hq o i hg).1)
    rcases serializeMaps_get hmos hplan with ⟨he, _⟩ | ⟨_, mo, hsermo, hmo⟩
    · exact absurd he hp'ne
    obtain ⟨o, i, hoi⟩ := hdef q hq
    obtain ⟨hoom, hiim, hget⟩ := index_map_rewrite t.maps[k] t.n2o sp.outerMap sp.innerMaps p p' mo lastGid
      wf.n2oSorted wf.newLt hscan hmc hremap hsermo homs houter
      (fun im him => Nat.le_of_lt (hcnt im him)) q hq o i hoi
    rw [getD_of_getElem? (d := none) hmo]
    have hol : o < sp.innerMaps.length := (houter q hq o i hoi).1
    have himo := getElem?_eq_some_getD ([] : List Nat) hol
    have hil := List.idxOf_lt_length_iff.mpr hiim
    have hcd := subsetStore_delta hso wf.subs wf.regions hcnt himo hil coords
    rw [List.getElem_idxOf hil, ← idxOf_eq_usedBefore sp.outerMap sp.innerMaps homs hommem o hoom] at hcd
    unfold readerDelta
    by_cases hce : coords.isEmpty = true
    · simp [hce]
    · simp only [hce, Bool.false_eq_true, if_false, Option.map_some, MapOut.triple, hget]
      cases hmm : t.maps[k] with
      | none =>
        have hk0 : (k == 0) = true := by
          cases hkb : (k == 0) with
          | true => rfl
          | false =>
            exfalso; apply hexcl
            have : (k != 0) = true := by simp [bne, hkb]
            exact ⟨this, hmm⟩
        rw [hmm] at hoi
        simp only [mapGet, Option.some.injEq, Prod.mk.injEq] at hoi
        have hlt := wf.oldLt q hq
        have e : implicitIndex q.2 = (o, i) := by
          rw [← hoi.1, ← hoi.2, Nat.div_eq_of_lt hlt]; rfl
        simp only [Option.map_none, hk0, if_true, e]
        rw [hcd]
      | some mm =>
        rw [hmm] at hoi
        simp only [mapGet] at hoi
        simp only [Option.map_some, MapIn.triple, hoi]
        rw [hcd]

/-- HVAR: implicit advance map, an lsb map that also refers to a row of no retained glyph, one
all-zero column (its region is pruned), a 16-bit and two 8-bit columns. -/
def exHvar : TableIn :=
  { axisCount := 1
    regions := [[(0, 16384, 16384)], [(-16384, -16384, 0)], [(0, 8192, 16384)]]
    subs := [SubIn.ok { itemCount := 4, wordDeltaCount := 1, regionIndexes := [0, 2, 1],
                        data := [0, 200, 0, 5,  1, 44, 0, 251,  0, 0, 0, 0,  255, 56, 0, 127] }]
    maps := [none, some { entryFormat := 1, mapCount := 2, data := [1, 3] }, none]
    n2o := [(0, 0), (1, 2), (2, 3)]
    glyphset := [0, 2, 3]
    retainGids := false }

/-- VVAR with retain-gids: explicit advance map over two subtables (one LONG_WORDS source whose
retained values fit 16 bits), trimmed tail, vorg map. -/
def exVvar : TableIn :=
  { axisCount := 2
    regions := [[(0, 16384, 16384), (0, 0, 0)], [(0, 0, 0), (-16384, -16384, 0)]]
    subs := [SubIn.ok { itemCount := 2, wordDeltaCount := 32769, regionIndexes := [1, 0],
                        data := [0, 0, 127, 255, 0, 9,  0, 1, 0, 0, 255, 247] },
             SubIn.ok { itemCount := 3, wordDeltaCount := 0, regionIndexes := [0],
                        data := [7, 249, 0] }]
    maps := [some { entryFormat := 17, mapCount := 5, data := [0, 4, 0, 0, 0, 5, 0, 4, 0, 4] },
             none, none, some { entryFormat := 0, mapCount := 1, data := [1] }]
    n2o := [(0, 0), (2, 2), (3, 3), (4, 4)]
    glyphset := [0, 2, 3, 4]
    retainGids := true }

example : WellFormed exHvar :=
  ⟨by decide +kernel, by decide +kernel, by decide +kernel, by decide +kernel, by decide +kernel, by decide +kernel,
    by decide +kernel⟩
example : WellFormed exVvar :=
  ⟨by decide +kernel, by decide +kernel, by decide +kernel, by decide +kernel, by decide +kernel, by decide +kernel,
    by decide +kernel⟩
example : planRowsOkB exHvar = true := by decide +kernel
example : planRowsOkB exVvar = true := by decide +kernel

/-- the subsetter succeeds on both, pruning region 2 of `exHvar` -/
example : (match subsetTable exHvar with
    | .ok o => o.store.regionMap == [0, 1] && o.store.subs.length == 1 && o.maps.length == 3
    | .error _ => false) = true := by decide +kernel
example : (match subsetTable exVvar with
    | .ok o => o.store.subs.length == 2 && o.maps.length == 4
    | .error _ => false) = true := by decide +kernel

/-- the preserved deltas are not trivially zero: advance delta of old glyph 3 half way up axis 0 -/
example : readerDelta exHvar.regions (exHvar.subs.map SubIn.toReader) none true 3 [8192] = some (-100) := by
  decide +kernel
/-- ... and the original lsb delta of old glyph 0 comes from row 1, which belongs to no retained glyph -/
example : readerDelta exHvar.regions (exHvar.subs.map SubIn.toReader)
    (some (1, 2, [1, 3])) false 0 [16384] = some 300 := by
  decide +kernel

/-- a row whose classification has a zero, a narrow and a wide column -/
example : deltaSizes ({ itemCount := 4, wordDeltaCount := 1, regionIndexes := [0, 2, 1],
                        data := [0, 200, 0, 5,  1, 44, 0, 251,  0, 0, 0, 0,  255, 56, 0, 127] } : SubTable)
    [0, 2, 3, 1] = [2, 0, 1] := by
  decide +kernel

end FontVerif.C17Hvar
