/-
C02 — skrifa and IFT client APIs are total on hostile fonts and arguments.

Core 2b: caller-supplied scratch memory for `glyf` outlines.  `OutlineGlyph::draw_memory_size(hinting)` is
`Outline::required_buffer_size` of the per-glyph metrics that `Outlines::outline` / `outline_rec` accumulate over the
component graph (Model/Composite.lean: points, contours, largest simple glyph, largest hinted composite, deepest
component delta stack, has-instructions flag) and of the per-font limits (`maxp` stack / storage / twilight sizes,
`cvt` length, presence of `gvar`).  Here the graph model is tied to the carve model of C12 (Model/Carve.lean):

* `advertised_memory_suffices_ft` / `_hb`: for EVERY glyph table, glyph id, font limits, hinting choice and buffer
  address, a buffer of the advertised size carves — `draw` does not return `InsufficientMemory` (Props/C12.lean
  `ft_carve_sufficient`, `hb_carve_sufficient`; only `_hb` needs the graph model: its shape invariant `outline_shape`);
* `smaller_memory_is_error`: a buffer shorter than the payload (advertised size − 4 bytes of alignment slack) is
  `InsufficientMemory` — an error VALUE of the checked `split_at_mut` carve (Props/C12.lean `ft_carve_none_iff`), at
  every address; between payload and advertised size the outcome is decided by the address (`ft_carve_none_iff`);
* `outline_counts_fit`: the counters and the advertised size are bounded by the number of activations; so
  (`outline_counts_no_wrap`) the `usize` additions of `outline_rec` and the multiplications of `required_buffer_size`
  cannot wrap for any glyph table whose walk ends in practice (at most 2^40 activations).
-/
import FontVerif.Lemmas.CompositeMem
import FontVerif.Props.C12
namespace FontVerif.C02
open FontVerif.Composite FontVerif.Carve FontVerif.CompositeMemLemmas
set_option linter.unusedVariables false

/-- the `Outline` metric record `Outlines::outline` returns: the accumulated counters (+ 4 phantom points) and the
    per-font limits -/
def countsOf (o : Out) (f : FontLimits) : Counts :=
  { points := o.points + 4, contours := o.contours, maxSimplePoints := o.maxSimple, maxOtherPoints := o.maxOther,
    maxComponentDeltaStack := o.maxDeltaStack, maxStack := f.maxStack, cvtCount := f.cvtCount,
    storageCount := f.storageCount, maxTwilightPoints := f.maxTwilightPoints, hasHinting := o.hasHinting,
    hasVariations := f.hasGvar }

/-- `OutlineGlyph::draw_memory_size(hinting)` of glyph `gid` (`none`: `outline_glyphs().get(gid)` is `None`) -/
def drawMemorySize (G : Nat → GlyphInfo) (f : FontLimits) (gid : Nat) (embedded : Bool) : Option Nat :=
  match Composite.outline G gid with
  | .ok o => some (requiredBufferSize (countsOf o f) embedded)
  | .error _ => none

/-- **FreeType-style draws (unhinted or hinted) with a buffer of the advertised size never fail for lack of memory**,
    whatever the glyph table, the glyph, the font limits, the buffer address -/
theorem advertised_memory_suffices_ft (G : Nat → GlyphInfo) (f : FontLimits) (gid : Nat) (embedded : Bool) (o : Out)
    (ho : Composite.outline G gid = .ok o) (b : Buf) (hb : b.addr + b.len < 18446744073709551616)
    (hlen : requiredBufferSize (countsOf o f) embedded ≤ b.len) :
    ∃ ss, ftCarve (countsOf o f) embedded b = some ss ∧ C12.GoodLayout (ftProgram (countsOf o f) embedded) b ss :=
  C12.ft_carve_sufficient (countsOf o f) embedded b hb hlen

/-- **HarfBuzz-style draws with a buffer of the advertised size never fail for lack of memory** -/
theorem advertised_memory_suffices_hb (G : Nat → GlyphInfo) (f : FontLimits) (gid : Nat) (o : Out)
    (ho : Composite.outline G gid = .ok o) (b : Buf) (hb : b.addr + b.len < 18446744073709551616)
    (hlen : requiredBufferSize (countsOf o f) false ≤ b.len) :
    ∃ ss, hbCarve (countsOf o f) b = some ss ∧ C12.GoodLayout (hbProgram (countsOf o f)) b ss := by
  -- either a simple glyph was reached (`max_other_points ≥ 1`: spare bytes) or only the phantom points are carved
  have hinv : o.maxOther = 0 → o.points = 0 ∧ o.contours = 0 ∧ o.maxSimple = 0 :=
    outline_shape G gid o ho
  by_cases h0 : o.maxOther = 0
  · obtain ⟨h1, h2, h3⟩ := hinv h0
    have hneed := Nat.le_trans (C12.hb_need_phantom_only (countsOf o f) b.addr
      ⟨by simp [countsOf, h1], by simp [countsOf, h2], by simp [countsOf, h3]⟩) hlen
    exact C12.carve_sufficient _ b (hb_allAlign _) hneed
  · exact C12.hb_carve_sufficient (countsOf o f) b hb hlen (Or.inl (by simp only [countsOf]; omega))

/-- **a buffer shorter than the payload is `InsufficientMemory`** at every address: more than 4 bytes (the alignment
    slack) below the advertised size, `FreeTypeOutlineMemory::new` returns `None` — an error value, not a panic: every
    slice is carved with a checked split (Model/Carve.lean `allocSlice`) -/
theorem smaller_memory_is_error (G : Nat → GlyphInfo) (f : FontLimits) (gid : Nat) (embedded : Bool) (o : Out)
    (ho : Composite.outline G gid = .ok o) (b : Buf) (hb : b.addr + b.len < 18446744073709551616)
    (hlen : b.len + 4 < requiredBufferSize (countsOf o f) embedded) :
    ftCarve (countsOf o f) embedded b = none := by
  rw [C12.ft_carve_none_iff _ _ _ hb]
  have ht := ft_total (countsOf o f) embedded
  have hn := total_le_need (ftProgram (countsOf o f) embedded) b.addr
  rw [ht] at hlen
  split at hlen <;> omega

/-- `draw_memory_size` of a glyph that loads is `required_buffer_size` of its metrics: the size the three theorems above
    speak of (between the payload and that size the buffer address decides, `C12.ft_carve_none_iff`) -/
theorem draw_memory_size_eq (G : Nat → GlyphInfo) (f : FontLimits) (gid : Nat) (embedded : Bool) (o : Out)
    (ho : Composite.outline G gid = .ok o) :
    drawMemorySize G f gid embedded = some (requiredBufferSize (countsOf o f) embedded) := by
  unfold drawMemorySize; rw [ho]

/-- a glyph that does not load (`RecursionLimitExceeded`, unreadable glyph data) has no `OutlineGlyph` at all: there
    is nothing to draw and no size to advertise -/
theorem draw_memory_size_none_iff (G : Nat → GlyphInfo) (f : FontLimits) (gid : Nat) (embedded : Bool) :
    drawMemorySize G f gid embedded = none ↔ ∃ e, Composite.outline G gid = .error e := by
  unfold drawMemorySize
  cases h : Composite.outline G gid with
  | ok o => simp
  | error e => simp

/-- **the metric computation fits `usize`**: with at most `P` points / contours per simple glyph and `C` components
    per composite (a `glyf` table: both below 65537), the advertised size is bounded by the number of activations
    `visits` of `outline_rec` -/
theorem outline_counts_fit (G : Nat → GlyphInfo) (P C : Nat) (hG : ∀ i, GOk P C (G i)) (f : FontLimits) (gid : Nat)
    (embedded : Bool) (o : Out) (ho : Composite.outline G gid = .ok o) :
    o.points ≤ P * o.visits ∧ o.contours ≤ P * o.visits ∧ o.maxSimple ≤ P + 4 ∧ o.maxOther ≤ o.points + 4 ∧
    o.maxDeltaStack ≤ 33 * (C + 4) ∧
    requiredBufferSize (countsOf o f) embedded ≤
      27 * (P * o.visits + 4) + 16 * (P + 4) + 264 * (C + 4) + 4 * f.maxStack + 4 * (f.cvtCount + f.storageCount)
        + 17 * f.maxTwilightPoints + 4 := by
  obtain ⟨⟨b1, b2, b3, b4⟩, b6⟩ := outline_bnd G P C hG gid o ho
  refine ⟨b1, b2, b3, b4, b6, ?_⟩
  refine Nat.le_trans (requiredBufferSize_le _ embedded) ?_
  simp only [countsOf]
  omega

/-- in a real font (`P, C ≤ 65536`, limits below 2^32) a walk of at most 2^40 activations (days of CPU time) keeps every
    counter and the advertised size far below 2^64: the plain `usize` `+=` / `*` of `outline_rec` and
    `required_buffer_size` do not wrap -/
theorem outline_counts_no_wrap (G : Nat → GlyphInfo) (hG : ∀ i, GOk 65536 65536 (G i)) (f : FontLimits) (gid : Nat)
    (embedded : Bool) (o : Out) (ho : Composite.outline G gid = .ok o) (hv : o.visits ≤ 1099511627776)
    (hf : f.maxStack < 4294967296 ∧ f.cvtCount < 4294967296 ∧ f.storageCount < 4294967296 ∧
          f.maxTwilightPoints < 4294967296) :
    requiredBufferSize (countsOf o f) embedded < 18446744073709551616 := by
  have := (outline_counts_fit G 65536 65536 hG f gid embedded o ho).2.2.2.2.2
  omega

/-- a composite of a 3-point glyph, an empty glyph and a hinted nested composite of a 1-point glyph; `maxp` stack 10,
    cvt 5, storage 6, twilight 7, variable font -/
def memG : Nat → GlyphInfo := fun i =>
  if i = 0 then .composite [1, 2, 3] false else if i = 1 then .simple 3 2 false else if i = 2 then .empty
  else if i = 3 then .composite [4] true else if i = 4 then .simple 1 1 false else .readErr
def memF : FontLimits := ⟨10, 5, 6, 7, true⟩
example : (Composite.outline memG 0).toOption.map (fun o => countsOf o memF)
    = some ⟨8, 3, 7, 7, 12, 10, 5, 6, 7, true, true⟩ := by decide +kernel
example : drawMemorySize memG memF 0 false = some 346 := by decide +kernel
example : drawMemorySize memG memF 0 true = some 605 := by decide +kernel
example : drawMemorySize memG memF 5 true = none := by decide +kernel
/-- advertised size at a misaligned address: carves; 5 bytes less: InsufficientMemory -/
example : (ftCarve ⟨8, 3, 7, 7, 12, 10, 5, 6, 7, true, true⟩ true ⟨3, 605⟩).isSome = true := by decide +kernel
example : ftCarve ⟨8, 3, 7, 7, 12, 10, 5, 6, 7, true, true⟩ true ⟨3, 600⟩ = none := by decide +kernel

end FontVerif.C02
