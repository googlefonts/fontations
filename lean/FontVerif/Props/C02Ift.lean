/-
C02 — skrifa and IFT client APIs are total on hostile fonts and arguments.

Core 4: the IFT client's font-controlled loops that are not covered by C18 (what a patch application produces) and
C19 (intersection / selection): URI template expansion is total with an output length linear in the template, and
the table-keyed / glyph-keyed patch containers can only announce as many entries as their own length pays for, so
the parse-and-apply loops are bounded by the patch length.  The models are C18's / C19's (Model/UriTemplate.lean,
Model/TableKeyed.lean, Model/GlyphKeyed.lean, tied to the Rust by those properties' correspondence harnesses), and so is
the anatomy of the containers the bounds are read off (Lemmas/Ift `tkRun_spec`, Lemmas/IftDedup `gpRead_ok`, `glyphData_ok`).
-/
import FontVerif.Model.UriTemplate
import FontVerif.Model.TableKeyed
import FontVerif.Model.GlyphKeyed
import FontVerif.Lemmas.Ift
import FontVerif.Lemmas.IftDedup
namespace FontVerif.C02
open FontVerif.UriTemplate FontVerif.Ift

/-! ### URI templates (`uri_templates.rs`) -/

/-- one input byte appends at most `max 3 (max |id| |id64|)` output bytes (`%XX`, or a whole variable value) -/
theorem takeInput_len (idv id64 : List Nat) (st st' : ParseState × List Nat) (v : Nat)
    (h : takeInput idv id64 st v = some st') :
    st'.2.length ≤ st.2.length + max 3 (max idv.length id64.length) := by
  obtain ⟨state, out⟩ := st
  unfold takeInput at h
  simp only [] at h
  have hK : 3 ≤ max 3 (max idv.length id64.length) := Nat.le_max_left _ _
  have h1 : idv.length ≤ max 3 (max idv.length id64.length) :=
    Nat.le_trans (Nat.le_max_left _ _) (Nat.le_max_right _ _)
  have h2 : id64.length ≤ max 3 (max idv.length id64.length) :=
    Nat.le_trans (Nat.le_max_right _ _) (Nat.le_max_right _ _)
  generalize max 3 (max idv.length id64.length) = K at *
  split at h
  · split at h <;> simp at h <;> subst h <;> simp [percentEncoded] <;> omega
  · split at h
    · simp at h; subst h; simp; omega
    · simp at h
  · split at h <;> simp at h <;> subst h <;> simp <;> omega

/-- **URI template expansion is total and its output is linear in the template**: `expand_template_inner` is a
    single pass over the template bytes (structural recursion in the model, a `for` loop in the Rust); it returns an
    error value (`none`) or at most `|template| · max 3 (max |id| |id64|)` bytes. -/
theorem uri_expansion_length_le (template idv id64 out : List Nat)
    (h : expandInner template idv id64 = some out) :
    out.length ≤ template.length * max 3 (max idv.length id64.length) := by
  unfold expandInner at h
  have key : ∀ (t : List Nat) (st st' : ParseState × List Nat), expandInner.go idv id64 t st = some st' →
      st'.2.length ≤ st.2.length + t.length * max 3 (max idv.length id64.length) := by
    intro t
    induction t with
    | nil => intro st st' hg; simp [expandInner.go] at hg; subst hg; simp
    | cons v vs ih =>
      intro st st' hg
      unfold expandInner.go at hg
      split at hg
      · simp at hg
      · rename_i st1 ht
        have h1 := takeInput_len idv id64 st st1 v ht
        have h2 := ih st1 st' hg
        simp only [List.length_cons]
        rw [Nat.succ_mul]
        omega
  split at h
  · rename_i o hg
    simp at h; subst h
    have := key template (.literal, []) _ hg
    simpa using this
  · simp at h

/-- a template with no expression and only copied literals expands to itself -/
example : expandInner [47, 102, 111, 111] [49] [50] = some [47, 102, 111, 111] := by decide +kernel
/-- `{id}` inserts the id; an unterminated expression is an error -/
example : expandInner [47, 123, 105, 100, 125] [65, 66] [] = some [47, 65, 66] := by decide +kernel
example : expandInner [47, 123, 105, 100] [65, 66] [] = none := by decide +kernel

/-! ### table-keyed patches (`table_keyed.rs`) -/

/-- **the entry count is paid for by the patch length**: `TableKeyedPatch::read` succeeds only if the offset array of
    `patches_count + 1` entries lies inside the patch, so `apply_table_keyed_patch`'s loop runs at most
    `(|patch| - 30) / 4` times -/
theorem table_keyed_count_le (p : Bytes) (c : Nat) (h : tkRead p = .ok c) : 4 * c + 30 ≤ p.length := by
  unfold tkRead at h
  split at h
  · simp at h
  · split at h
    · simp at h; subst h; omega
    · simp at h

/-- the loop makes at most one decoder call per entry -/
theorem table_keyed_decoder_calls_le (p : Bytes) (font : Font) (dec : Decoder) :
    ∀ (n i : Nat) (acc acc' : TKAcc), tkLoop p font dec i n acc = .ok acc' → acc'.calls ≤ acc.calls + n :=
  fun n i acc acc' h => by
  obtain ⟨es, hl, _, hr⟩ := tkLoop_ok p font dec n i acc acc' h
  exact hl ▸ (tkRun_spec font dec es acc acc' hr).1.2

/-- whole application: decoder calls ≤ entry count ≤ (patch length - 30) / 4 -/
theorem table_keyed_work_le (p : Bytes) (c : Nat) (font out : Font) (dec : Decoder) (calls : Nat)
    (hr : tkRead p = .ok c) (h : applyTableKeyedCore p c font dec = .ok (out, calls)) :
    4 * calls + 30 ≤ p.length := by
  have hc := table_keyed_count_le p c hr
  unfold applyTableKeyedCore at h
  split at h
  · simp at h
  · split at h
    · simp at h
    · rename_i acc ha
      simp at h
      obtain ⟨_, h2⟩ := h
      subst h2
      have := table_keyed_decoder_calls_le p font dec c 0 _ _ ha
      simp at this
      omega

/-! ### glyph-keyed patches (`glyph_keyed.rs`) -/

/-- **the glyph and table counts are paid for by the decoded payload length**: `GlyphPatches::read` succeeds only if the
    gid array, the tag array and the `glyph_count * table_count + 1` offsets lie inside the payload, so every loop of
    `apply_glyph_keyed_patches` over (table, glyph) pairs runs at most `|payload| / 4` times -/
theorem glyph_patches_counts_le (raw : Bytes) (wide : Bool) (gp : GlyphPatches) (h : gpRead raw wide = .ok gp) :
    2 * gp.glyphCount + 4 * gp.tables.length + 4 * (gp.glyphCount * gp.tables.length) + 9 ≤ raw.length := by
  have hfit := (gpRead_ok raw wide gp h).1
  have : gp.glyphCount * 2 ≤ gp.glyphCount * (if wide = true then 3 else 2) :=
    Nat.mul_le_mul_left _ (by split <;> omega)
  generalize gp.glyphCount * (if wide = true then 3 else 2) = a at *
  generalize gp.glyphCount * gp.tables.length = m at *
  omega

/-- the glyph data iterator yields one item per (gid, offset pair) it is given, or stops early with an error -/
theorem glyph_data_len (raw : Bytes) :
    ∀ (l : List (Nat × Nat × Nat)) (prev : Option Nat) (r : List (Nat × Bytes)),
      glyphData raw prev l = .ok r → r.length = l.length := fun l prev r h => by
  rw [(glyphData_ok raw prev l r h).1, List.length_map]

end FontVerif.C02
