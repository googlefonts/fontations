/-
C01 (hand-written code) — termination, iteration bounds, in-range indices / slices and absence of arithmetic
traps for the models of Model/HandVar.lean ⇄ read-fonts/src/tables/variations.rs / gvar.rs / cvar.rs / hvar.rs / vvar.rs / mvar.rs / avar.rs (tuple variation headers, shared / private point numbers, phantom deltas, DeltaSetIndexMap, ItemVariationStore deltas).
Tied to the real functions by harness group `vars.model` (`hv.*` driver commands).

Standing hypotheses: `ac ≤ 65535` (`axis_count` is a `u16`) and, where values are claimed to be `i16`s,
`Bytes d` (the list holds bytes).  `none` / `.trap` results of the model are panics of the strict profile.
-/
import FontVerif.Lemmas.HandVar
set_option linter.unusedVariables false
namespace FontVerif.C01HandVar
open FontVerif.ReadIter FontVerif.HandRead FontVerif.HandVar

/-- **the `unwrap`s of a successfully read tuple variation header never fire**: if
`TupleVariationHeader::read(data, axis_count)` is `Ok`, then `variation_data_size()`, `tuple_index()`,
`peak_tuple()`, `intermediate_start_tuple()`, `intermediate_end_tuple()`, `intermediate_tuples()` and
`byte_len()` do not panic (no failing `read_array(range).unwrap()`, no overflow in the unchecked range
and length sums), every embedded tuple has exactly `axis_count` values, and `byte_len()` — the sum of the
flag-dependent tuple lengths behind the 4 fixed bytes — does not exceed the data the header was read
from (so every tuple slice lies inside it). -/
theorem header_getters_safe (d : List Nat) (ac : Nat) (h : Hdr) (hac : ac ≤ 65535)
    (hr : tvhRead d ac = some h) :
    h.size.isSome ∧ h.ti.isSome ∧ h.peakTuple ≠ .trap ∧ h.interStartTuple ≠ .trap ∧
    h.interEndTuple ≠ .trap ∧ h.interTuples ≠ .trap ∧
    (∀ v, h.peakTuple = .some v ∨ h.interStartTuple = .some v ∨ h.interEndTuple = .some v → v.length = ac) ∧
    (∃ n, h.byteLen ac = some n ∧ 4 ≤ n ∧ n ≤ d.length ∧ n = 4 + h.peakLen + h.isLen + h.ieLen) := by
  obtain ⟨ti, hTi, ⟨sz, hsz⟩, hpk, his, hie, hit, hbl, hlen⟩ := hdr_getters hac hr
  refine ⟨by simp [hsz], by simp [hTi], ?_, ?_, ?_, ?_, ?_, ⟨_, hbl, by omega, hlen, rfl⟩⟩
  · rw [hpk]; split <;> simp
  · rw [his]; split <;> simp
  · rw [hie]; split <;> simp
  · rw [hit]; split <;> simp
  · intro v hv
    rw [hpk, his, hie] at hv
    rcases hv with hv | hv | hv <;> exact tupleIte_length hv

/-- the header read fails exactly when the flag-dependent length does not fit: `Ok` iff
`4 + (embedded ? 2·axes : 0) + (intermediate ? 4·axes : 0) ≤ data.len()` -/
theorem header_read_iff (d : List Nat) (ac : Nat) (hac : ac ≤ 65535) :
    (tvhRead d ac).isSome ↔
      ∃ ti, readAt d 2 2 = some ti ∧
        4 + (if tiEmbedded ti then 2 * ac else 0) + (if tiInter ti then 4 * ac else 0) ≤ d.length := by
  rw [tvhRead_eq d hac]
  have key : ∀ ti, 4 + (if tiEmbedded ti then 2 * ac else 0) + (if tiInter ti then 4 * ac else 0) =
      4 + tupleLen ti ac 0 * 2 + tupleLen ti ac 1 * 2 + tupleLen ti ac 1 * 2 := by
    intro ti; rw [tupleLen_embedded_mul, tupleLen_inter_mul]; omega
  cases readAt d 2 2 with
  | none => exact ⟨nofun, nofun⟩
  | some ti =>
    simp only []
    constructor
    · intro h
      refine ⟨ti, rfl, ?_⟩
      rw [key]
      exact Decidable.by_contra fun hn => by rw [if_neg hn] at h; cases h
    · rintro ⟨ti', hti, h⟩
      cases hti
      rw [key] at h
      simp only [if_pos h, Option.isSome_some]

/-- **`TupleVariationHeaderIter` yields exactly `n_headers` items and never panics**: for every data,
every count `n ≤ 4095` (`tupleVariationCount & 0x0FFF`) and axis count, the iterator makes exactly `n`
trips (`current` counts up to `n_headers`; the `?` behind `data.split_off(next_len)` never fires, because
`byte_len` of an `Ok` header was validated by the read and is 0 for an `Err`), and the `Ok` headers
together consume at most the data: `4 · #Ok ≤ data.len()`. -/
theorem header_iter_exact (d : List Nat) (n ac : Nat) (hn : n ≤ 4095) (hac : ac ≤ 65535) :
    ∃ evs, tvhTrace d n ac = some evs ∧ evs.length = n ∧ (items evs).length = n ∧
      trapped evs = false ∧ 4 * okHeaders evs ≤ d.length := by
  let Inv : HSt → Prop := fun s => s.current ≤ n
  have E := tvhNext_eq n ac hac hn
  obtain ⟨evs, he, hl, hil, hnt⟩ := run_exact_yields (tvhNext n ac) (fun s => n - s.current) Inv
    (fun s (hi : s.current ≤ n) => by
      rcases E s hi with ⟨hc, e⟩ | ⟨hc, nl, _, _, e⟩ <;> rw [e]
      · exact ⟨nofun, nofun, fun _ => by omega, fun h => absurd rfl h⟩
      · exact ⟨nofun, nofun, nofun, fun _ =>
          ⟨show s.current + 1 ≤ n by omega, show n - (s.current + 1) + 1 = n - s.current by omega⟩⟩)
    (n + 1) ⟨d, 0⟩ (Nat.zero_le _) (Nat.lt_succ_self _)
  -- an `Ok` header takes at least its 4 fixed bytes off the data, an `Err` nothing
  have hw := weight_le (tvhNext n ac) (fun s => s.data.length) (fun o => 4 * (o.toList.length)) Inv
    (fun s (hi : s.current ≤ n) => by
      rcases E s hi with ⟨hc, e⟩ | ⟨hc, nl, _, _, e⟩ <;> rw [e]
      · exact hi
      · exact show s.current + 1 ≤ n by omega)
    (fun s a (hi : s.current ≤ n) hy => by
      rcases E s hi with ⟨hc, e⟩ | ⟨hc, nl, h1, h2, e⟩ <;> rw [e] at hy ⊢
      · cases hy
      · cases Out.yield.inj hy
        simp only [List.length_drop]
        cases hr : tvhRead s.data ac with
        | none => simp
        | some h => have := h2 h hr; simp; omega)
    (fun s (hi : s.current ≤ n) hc => by
      rcases E s hi with ⟨_, e⟩ | ⟨_, nl, _, _, e⟩ <;> rw [e] at hc <;> cases hc) _ _ _ (Nat.zero_le _) he
  exact ⟨evs, he, hl, hil, hnt, weight_okHeaders evs ▸ hw⟩

/-- **`TupleVariationData::tuples()` terminates within the count and the data length, never panics,
and hands out only slices of the serialized data**: for every `TupleVariationData` (any header bytes,
any serialized bytes, any count bits) the iterator makes at most `count & 0x0FFF ≤ 4095` trips; every
yielded tuple has a header that was read successfully (so its unwrapping getters are safe), consumes at
least 4 header bytes — at most `header_data.len() / 4` tuples — and the tuples' `variation_data_size`
slices are consecutive pieces of the serialized data: their lengths add up to at most
`serialized_data.len()` (`take_up_to` refuses a size beyond the rest). -/
theorem tuples_iter_bounded (p : TVD) (hac : p.ac ≤ 65535) :
    ∃ evs, tvTrace p = some evs ∧ evs.length ≤ tvcCount p.countBits ∧ tvcCount p.countBits ≤ 4095 ∧
      trapped evs = false ∧ 4 * (items evs).length ≤ p.headerData.length ∧
      ((items evs).map (fun t => t.varData.length)).sum ≤ p.ser.length ∧
      ∀ t ∈ items evs, ∃ d', tvhRead d' p.ac = some t.hdr ∧ d'.length ≤ p.headerData.length := by
  have h0 : TInv p p.tuplesInit := by simp [TInv, TVD.tuplesInit]
  have hInv : ∀ s, TInv p s → TInv p (tvNext p s).2 := fun s hi => (tvNext_facts p hac s hi).1
  obtain ⟨evs, he, hl, hnt⟩ := run_bounded (tvNext p) (fun s => tvcCount p.countBits - s.current) (TInv p)
    (fun s hi => ⟨hInv s hi, (tvNext_facts p hac s hi).2.1,
      fun hnd => by have := (tvNext_facts p hac s hi).2.2.1 hnd; omega⟩)
    (tvcCount p.countBits + 1) p.tuplesInit h0 (by simp [TVD.tuplesInit])
  have hw1 := weight_le (tvNext p) (fun s => s.h.data.length) (fun _ => 4) (TInv p) hInv
    (fun s a hi hy => ((tvNext_facts p hac s hi).2.2.2.2.2 a hy).2.1)
    (fun s hi _ => by obtain ⟨k, hk⟩ := (tvNext_facts p hac s hi).2.2.2.1; rw [hk, List.length_drop]; omega)
    _ _ _ h0 he
  have hw2 := weight_le (tvNext p) (fun s => s.ser.length) (fun t => t.varData.length) (TInv p) hInv
    (fun s a hi hy => by have := ((tvNext_facts p hac s hi).2.2.2.2.2 a hy).2.2; omega)
    (fun s hi _ => (tvNext_facts p hac s hi).2.2.2.2.1) _ _ _ h0 he
  have hall : ∀ t ∈ items evs, ∃ d', tvhRead d' p.ac = some t.hdr ∧ d'.length ≤ p.headerData.length := fun t ht => by
    obtain ⟨k, hr⟩ := tuples_iter_suffix p hac evs he t ht
    exact ⟨_, hr, by rw [List.length_drop]; exact Nat.sub_le _ _⟩
  refine ⟨evs, he, by simpa [TVD.tuplesInit] using hl, tvcCount_le _, hnt, ?_, ?_, hall⟩
  · have : weight (fun _ : TV => 4) evs = 4 * (items evs).length := by
      unfold weight
      generalize items evs = l
      induction l with
      | nil => simp
      | cons a r ih => simp [ih]; omega
    rw [this] at hw1
    simpa [TVD.tuplesInit] using hw1
  · simpa [weight, TVD.tuplesInit] using hw2

/-- **the accessors of a yielded tuple never panic and index inside the data**: for a tuple whose
header was read successfully, `peak()` (shared tuple by `tuple_records_index`, else the embedded one,
else the empty default), `point_numbers_and_packed_deltas()`, `has_deltas_for_all_points()` and
`compute_scalar_f32()` return; the peak has `axis_count` values or none at all (that a shared peak lies
inside the shared tuple data is `shared_peak_in_bounds`), the packed deltas are no longer than the
tuple's own `variation_data_size` slice, and all tuple values are `i16`s. -/
theorem tuple_accessors_safe (p : TVD) (t : TV) (d' : List Nat) (hac : p.ac ≤ 65535)
    (hr : tvhRead d' p.ac = some t.hdr) (coords : List Int) :
    (∃ v, t.peak p = some v ∧ (v.length = p.ac ∨ v = []) ∧
      (Bytes d' → (∀ sd, p.shared = some sd → Bytes sd) → ∀ x ∈ v, I16 x)) ∧
    (∃ pd dd, t.pointsAndDeltas p = some (pd, dd) ∧ dd.length ≤ t.varData.length) ∧
    (t.hasDeltasForAllPoints p).isSome ∧
    (∃ b, t.computeScalarF32 p coords = .ok b) := by
  obtain ⟨b, hb⟩ := hasAll_some p t d' hac hr
  exact ⟨peak_facts p t d' hac hr, pointsAndDeltas_some p t d' hac hr, by simp [hb], f32_no_trap p t d' hac hr coords⟩

/-- a shared peak tuple is read inside the shared tuple array: `ComputedArray::get(idx)` answers only
when item `idx` of `2 · axis_count` bytes fits -/
theorem shared_peak_in_bounds (sd : List Nat) (ac idx : Nat) (v : List Int)
    (h : sharedTupleGet sd ac idx = some v) : v.length = ac ∧ idx * (2 * ac) + 2 * ac ≤ sd.length := by
  obtain ⟨h1, _, off, h2, h3⟩ := sharedTupleGet_facts sd ac idx v h
  exact ⟨h1, by omega⟩

/-- **`compute_scalar` panics only if the C20 kernel traps**: the loop over the peak values is handed
`axis_count` `i16` peaks, `i16` intermediate tuples of the same length, and the caller's coordinates —
the hypothesis `hk` is the conclusion of C20's theorem `tupleScalar_no_trap` (Props/C20.lean; proved there
for `i16` coordinates), which is not
imported here to keep the two checks independent; with it, `compute_scalar` returns `Some` / `None`
for every tuple and coordinates.
(`…_partial`: the full statement is the one without `hk`; C20 proves `hk` for `i16` coordinates.) -/
theorem computeScalar_no_panic_partial (p : TVD) (t : TV) (d' : List Nat) (hac : p.ac ≤ 65535)
    (hr : tvhRead d' p.ac = some t.hdr) (hb : Bytes d') (hs : ∀ sd, p.shared = some sd → Bytes sd)
    (coords : List Int)
    (hk : ∀ (pk : List Int) (inter : Option (List Int × List Int)), (∀ c ∈ pk, I16 c) →
      (∀ q, inter = some q → (∀ c ∈ q.1, I16 c) ∧ (∀ c ∈ q.2, I16 c)) →
      (Checked.tupleScalar pk inter coords).isSome) :
    ∃ r, t.computeScalar p coords = .ok r := by
  obtain ⟨v, hv, _, hvi⟩ := peak_facts p t d' hac hr
  obtain ⟨ti, hTi, _, hpk, his, hie, hit, _⟩ := hdr_getters hac hr
  unfold TV.computeScalar
  rw [hv]
  simp only []
  split
  · exact ⟨_, rfl⟩
  · rw [hit]
    by_cases hi : tiInter ti = true
    · simp only [hi, if_true]
      have := hk v (some (tupleVals d' (4 + t.hdr.peakLen) p.ac, tupleVals d' (4 + t.hdr.peakLen + t.hdr.isLen) p.ac))
        (hvi hb hs) (by
          intro q hq
          injection hq with hq
          subst hq
          exact ⟨tupleVals_I16 d' hb _ _, tupleVals_I16 d' hb _ _⟩)
      obtain ⟨r, hr⟩ := Option.isSome_iff_exists.mp this
      exact ⟨r, by rw [hr]; rfl⟩
    · simp only [hi]
      have := hk v none (hvi hb hs) (by intro q hq; cases hq)
      obtain ⟨r, hr⟩ := Option.isSome_iff_exists.mp this
      exact ⟨r, by rw [hr]; rfl⟩

/-- **`TupleVariation::deltas()` terminates without panicking for private and shared point numbers**:
for every tuple with a successfully read header (gvar: `is_point`, cvar: scalars) the set-up
(`total_len`, `count_all_deltas`, `skip_fast`) completes and the `TupleDeltaIter` loop makes at most
`128 · len + 131204` trips, `len` = length of the tuple's `variation_data_size` slice. -/
theorem tuple_deltas_bounded (p : TVD) (t : TV) (d' : List Nat) (hac : p.ac ≤ 65535)
    (hr : tvhRead d' p.ac = some t.hdr) (isPoint : Bool) :
    ∃ evs, t.deltasTrace p isPoint = some evs ∧ evs.length ≤ 128 * t.varData.length + 131204 ∧
      trapped evs = false := by
  obtain ⟨pd, dd, h1, h2⟩ := pointsAndDeltas_some p t d' hac hr
  obtain ⟨s, evs, hi, he, hl, ht⟩ := deltas_run pd dd isPoint
  refine ⟨evs, ?_, by omega, ht⟩
  unfold TV.deltasTrace
  rw [h1]
  simp only []
  rw [hi]
  exact he

theorem tuple_walk_safe (p : TVD) (hac : p.ac ≤ 65535) (n : Nat) (hn : p.ser.length ≤ n) (isPoint : Bool) :
    ∃ evs, tvTrace p = some evs ∧ trapped evs = false ∧ evs.length ≤ 4095 ∧
      4 * (items evs).length ≤ p.headerData.length ∧
      ∀ t ∈ items evs, (∃ d', tvhRead d' p.ac = some t.hdr) ∧ t.varData.length ≤ n ∧
        ∃ dv, t.deltasTrace p isPoint = some dv ∧ dv.length ≤ 128 * n + 131204 ∧ trapped dv = false := by
  obtain ⟨evs, he, hl, hc, ht, h4, hsum, hall⟩ := tuples_iter_bounded p hac
  refine ⟨evs, he, ht, Nat.le_trans hl hc, h4, fun t htm => ?_⟩
  obtain ⟨d', hr, _⟩ := hall t htm
  have hvl := le_sum_of_mem (List.mem_map.mpr ⟨t, htm, rfl⟩ : t.varData.length ∈ (items evs).map (fun t => t.varData.length))
  obtain ⟨dv, h1, h2, h3⟩ := tuple_deltas_bounded p t d' hac hr isPoint
  exact ⟨⟨d', hr⟩, by omega, dv, h1, by omega, h3⟩

/-- **`GlyphVariationData::new` never panics** (`raw_tuple_header_data`'s `split_off(4).unwrap()` and the
unwrapping getters are guarded by the generated reader's length check), it fails only with
`OutOfBounds` / `NullOffset`, and what it hands to the iterators lies inside the glyph's data: the
header data is `data[4..]`, the serialized data is at most as long as `data`, the shared point numbers are a
suffix of it. -/
theorem gvdNew_safe (d : List Nat) (ac : Nat) (shared : List Nat) :
    gvdNew d ac shared ≠ .trap ∧
    (∀ e, gvdNew d ac shared = .err e → e = .oob ∨ e = .nullOffset) ∧
    ∀ p, gvdNew d ac shared = .ok p →
      p.ac = ac ∧ p.headerData = d.drop 4 ∧ 4 ≤ d.length ∧ p.ser.length ≤ d.length ∧
      (∀ sp, p.sharedPts = some sp → ∃ off, sp = d.drop off) := by
  obtain ⟨h1, he, h2⟩ := gvdNew_facts d ac shared
  exact ⟨h1, he, fun p hp => by obtain ⟨a, _, b, c, e, f⟩ := h2 p hp; exact ⟨a, b, c, e, f⟩⟩

/-- **`Cvar::variation_data` never panics** (generated `Cvar::read` included): errors are `OutOfBounds`
/ `NullOffset`; header data = `table[8..]`, the serialized data is at most as long as the table, the shared points are a
suffix of it -/
theorem cvar_variation_data_safe (d : List Nat) (ac : Nat) :
    cvarVariationData d ac ≠ .trap ∧
    (∀ e, cvarVariationData d ac = .err e → e = .oob ∨ e = .nullOffset) ∧
    ∀ p, cvarVariationData d ac = .ok p →
      p.ac = ac ∧ p.shared = none ∧ p.headerData = d.drop 8 ∧ 8 ≤ d.length ∧ p.ser.length ≤ d.length ∧
      (∀ sp, p.sharedPts = some sp → ∃ off, sp = d.drop off) := by
  obtain ⟨h1, he, h2⟩ := cvarVariationData_facts d ac
  exact ⟨h1, he, fun p hp => by exact h2 p hp⟩

/-- **the whole cvar walk is safe**: for every table and axis count, `Cvar::read` +
`variation_data(axis_count)` + `tuples()` either fail with a `ReadError` or yield at most
`min(4095, (len − 8) / 4)` tuples, each with a successfully read header (all accessors safe,
`deltas()` bounded), without a panic. -/
theorem cvar_walk_safe (d : List Nat) (ac : Nat) (hac : ac ≤ 65535) (p : TVD)
    (hp : cvarVariationData d ac = .ok p) :
    ∃ evs, tvTrace p = some evs ∧ trapped evs = false ∧ evs.length ≤ 4095 ∧
      4 * (items evs).length + 8 ≤ d.length ∧
      ∀ t ∈ items evs, (∃ d', tvhRead d' ac = some t.hdr) ∧ t.varData.length ≤ d.length ∧
        ∃ dv, t.deltasTrace p false = some dv ∧ dv.length ≤ 128 * d.length + 131204 ∧ trapped dv = false := by
  obtain ⟨rfl, _, hhd, h8, hser, _⟩ := (cvarVariationData_facts d ac).2.2 p hp
  obtain ⟨evs, he, ht, hl, h4, hall⟩ := tuple_walk_safe p hac d.length hser false
  refine ⟨evs, he, ht, hl, ?_, hall⟩
  rw [hhd, List.length_drop] at h4
  omega

/-- **`active_tuples_at` is bounded by `tuples()`**: it yields a sub-sequence of the tuples (at most
`count & 0x0FFF`), each with its `compute_scalar` value.  (`…_partial`: `hk` is C20's
`tupleScalar_no_trap`, see `computeScalar_no_panic_partial`; `hsh` / `hbytes` say the buffers hold bytes.) -/
theorem active_tuples_bounded_partial (p : TVD) (hac : p.ac ≤ 65535) (coords : List Int)
    (hbytes : Bytes p.headerData) (hsh : ∀ sd, p.shared = some sd → Bytes sd)
    (hk : ∀ (pk : List Int) (inter : Option (List Int × List Int)), (∀ c ∈ pk, I16 c) →
      (∀ q, inter = some q → (∀ c ∈ q.1, I16 c) ∧ (∀ c ∈ q.2, I16 c)) →
      (Checked.tupleScalar pk inter coords).isSome) :
    ∃ evs l, tvTrace p = some evs ∧ activeTuples p coords = some (.ok l) ∧ l.length ≤ (items evs).length ∧
      ∀ x ∈ l, x.1 ∈ items evs ∧ x.1.computeScalar p coords = .ok (some x.2) := by
  obtain ⟨evs, he, _, _, ht, _, _, _⟩ := tuples_iter_bounded p hac
  obtain ⟨l, hl, hlen, hmem⟩ := activeFold_ok p coords (items evs) fun t ht' => by
    obtain ⟨k, hr⟩ := tuples_iter_suffix p hac evs he t ht'
    exact computeScalar_no_panic_partial p t _ hac hr (bytes_of_drop hbytes k) hsh coords hk
  refine ⟨evs, l, he, ?_, hlen, hmem⟩
  unfold activeTuples
  rw [he]
  simp only [ht]
  exact congrArg some hl

theorem active_tuples_ready_partial (p : TVD) (hac : p.ac ≤ 65535) (coords : List Int)
    (hbytes : Bytes p.headerData) (hsh : ∀ sd, p.shared = some sd → Bytes sd)
    (hk : ∀ (pk : List Int) (inter : Option (List Int × List Int)), (∀ c ∈ pk, I16 c) →
      (∀ q, inter = some q → (∀ c ∈ q.1, I16 c) ∧ (∀ c ∈ q.2, I16 c)) →
      (Checked.tupleScalar pk inter coords).isSome)
    (hks : ∀ (pk : List Int) (inter : Option (List Int × List Int)) (v : Int),
      Checked.tupleScalar pk inter coords = some (some v) → I32 v) (isPoint : Bool) :
    ∃ l, activeTuples p coords = some (.ok l) ∧
      ∀ x ∈ l, I32 x.2 ∧ ∃ dv, x.1.deltasTrace p isPoint = some dv ∧ trapped dv = false := by
  obtain ⟨evs, l, he, hl, _, hmem⟩ := active_tuples_bounded_partial p hac coords hbytes hsh hk
  obtain ⟨evs', he', _, _, _, _, _, hall⟩ := tuples_iter_bounded p hac
  cases he.symm.trans he'
  refine ⟨l, hl, fun x hx => ?_⟩
  obtain ⟨htm, hcs⟩ := hmem x hx
  obtain ⟨d', hr, _⟩ := hall x.1 htm
  obtain ⟨dv, hdv, _, hdt⟩ := tuple_deltas_bounded p x.1 d' hac hr isPoint
  obtain ⟨pk, inter, hts⟩ := computeScalar_some_of_kernel p x.1 coords x.2 hcs
  exact ⟨hks pk inter x.2 hts, dv, hdv, hdt⟩

/-- **`Cvar::deltas` never indexes outside the caller's buffer**: whatever the table says, the buffer
that comes back has the length that went in (`deltas.get_mut(ix)` skips positions beyond it); the two
nested loops run over the (bounded) active tuples and their (bounded) deltas. -/
theorem cvar_deltas_buffer (d : List Nat) (ac : Nat) (coords : List Int) (buf out : List Int)
    (h : cvarDeltas d ac coords buf = .ok out) : out.length = buf.length := by
  unfold cvarDeltas at h
  split at h
  · cases h
  · cases h
  · rename_i p _
    split at h
    · cases h
    · cases h
    · cases h
    · exact (cvarDeltasLoop_facts p _ buf).2.2 out h

/-- **`Cvar::deltas` panics only if a C20 kernel traps** (`…_partial`): with C20's `tupleScalar_no_trap`
(`hk`), the `i32` range of its results (`hks`; C20 has no theorem for it) and `fxMul_no_trap` (`hm`), the
call returns `Ok` or a `ReadError` for every table, axis count, coordinates and buffer. -/
theorem cvar_deltas_no_panic_partial (d : List Nat) (hb : Bytes d) (ac : Nat) (hac : ac ≤ 65535)
    (coords : List Int) (buf : List Int)
    (hk : ∀ (pk : List Int) (inter : Option (List Int × List Int)), (∀ c ∈ pk, I16 c) →
      (∀ q, inter = some q → (∀ c ∈ q.1, I16 c) ∧ (∀ c ∈ q.2, I16 c)) →
      (Checked.tupleScalar pk inter coords).isSome)
    (hks : ∀ (pk : List Int) (inter : Option (List Int × List Int)) (v : Int),
      Checked.tupleScalar pk inter coords = some (some v) → I32 v)
    (hm : ∀ a b, I32 a → I32 b → (Checked.fxMul a b).isSome) :
    cvarDeltas d ac coords buf ≠ .trap := by
  unfold cvarDeltas
  refine (cvarVariationData_facts d ac).cases (fun _ _ _ => nofun) (fun p _ hp => ?_)
  obtain ⟨hpa, hsh, hhd, _, _, _⟩ := hp
  obtain ⟨l, hl, hready⟩ := active_tuples_ready_partial p (hpa ▸ hac) coords (hhd ▸ bytes_of_drop hb 8)
    (fun sd hsd => by rw [hsh] at hsd; cases hsd) hk hks false
  simp only [hl]
  exact (cvarDeltasLoop_facts p l buf).1 ⟨hm, hready⟩

/-- **the unwrapping getters of a read `Gvar` never panic** and `read` validated the whole offsets
array: `20 + (glyph_count + 1) · (2 | 4) ≤ len` -/
theorem gvar_getters_safe (d : List Nat) (g : Gv) (hb : Bytes d) (hr : gvarRead d = some g) :
    g.axisCount.isSome ∧ g.sharedTupleCount.isSome ∧ g.sharedTuplesOffset.isSome ∧ g.glyphCount.isSome ∧
    g.flags.isSome ∧ g.dao.isSome ∧ 20 + g.offsLen ≤ d.length := by
  obtain ⟨⟨_, h1, _⟩, ⟨_, h2⟩, ⟨_, h3⟩, ⟨_, h4⟩, ⟨_, h5⟩, ⟨_, h6⟩⟩ := gvar_getters hb hr
  obtain ⟨_, hl⟩ := gvarRead_some hb hr
  simp [h1, h2, h3, h4, h5, h6, hl]

/-- **`shared_tuples()` and `data_for_gid()` never panic and hand out slices inside the table**: the
shared tuple array is `table[off .. off + n]`, a glyph's data is the
non-empty range `table[s .. e]` with `e ≤ len` (the two `u32::checked_add`s and `slice` guard it),
for every glyph id. -/
theorem gvar_slices_in_bounds (d : List Nat) (g : Gv) (hb : Bytes d) (hr : gvarRead d = some g) (gid : Nat) :
    g.sharedTuples ≠ .trap ∧
    (∀ sd, g.sharedTuples = .ok sd → ∃ off n, sd = (d.drop off).take n ∧ off + n ≤ d.length) ∧
    g.dataForGid gid ≠ .trap ∧
    (∀ bytes, g.dataForGid gid = .ok (some bytes) →
      ∃ s e, s < e ∧ e ≤ d.length ∧ bytes = (d.drop s).take (e - s)) := by
  obtain ⟨h1, _, h3⟩ := sharedTuples_facts hb hr
  obtain ⟨g1, _, g3⟩ := dataForGid_facts hb hr gid
  exact ⟨h1, h3, g1, fun bytes hbt => by obtain ⟨s, e, a, b, c, _⟩ := g3 _ hbt bytes rfl; exact ⟨s, e, a, b, c⟩⟩

/-- **the whole gvar glyph walk is safe**: for every table, glyph id and coordinates, `Gvar::read` +
`glyph_variation_data(gid)` + `tuples()` either fail with `OutOfBounds` / `NullOffset`, answer `None`, or
yield at most `min(4095, len / 4)` tuples, each with a successfully read header (accessors
safe) and a bounded, panic free `deltas()`. -/
theorem gvar_walk_safe (d : List Nat) (g : Gv) (hb : Bytes d) (hr : gvarRead d = some g) (gid : Nat) :
    g.glyphVariationData gid ≠ .trap ∧
    (∀ e, g.glyphVariationData gid = .err e → e = .oob ∨ e = .nullOffset) ∧
    ∀ p, g.glyphVariationData gid = .ok (some p) →
      ∃ evs, tvTrace p = some evs ∧ trapped evs = false ∧ evs.length ≤ 4095 ∧
        4 * (items evs).length ≤ d.length ∧
        ∀ t ∈ items evs, (∃ d', tvhRead d' p.ac = some t.hdr) ∧ t.varData.length ≤ d.length ∧
          ∃ dv, t.deltasTrace p true = some dv ∧ dv.length ≤ 128 * d.length + 131204 ∧ trapped dv = false := by
  obtain ⟨h1, h2, h3⟩ := glyphVariationData_facts hb hr gid
  refine ⟨h1, h2, ?_⟩
  intro p hp
  obtain ⟨hac, _, _, hhl, hser⟩ := h3 _ hp p rfl
  obtain ⟨evs, he, ht, hl, h4, hall⟩ := tuple_walk_safe p hac d.length hser true
  exact ⟨evs, he, ht, hl, by omega, hall⟩

/-- **`DeltaSetIndexMap::read` + `get(index)` never panic and read inside `map_data`**: for every byte
string and every `u32` index, `read` fails with `OutOfBounds` / `InvalidFormat` or succeeds; then the
index arithmetic of `get` (`index.min(map_count − 1)` with the saturating `− 1`, `· entry_size`, the
`1..4` byte entry read, `>> bit_count`, `(1 << bit_count) − 1`) cannot trap, a failing entry read is
`OutOfBounds`, a successful one lies inside the `entry_size · map_count` bytes of map data
(`clamped_index · entry_size + entry_size ≤ len`), both halves are `u16`s, and the answer is the one of
C11's `Tent.dsimGet`. -/
theorem dsim_get_safe (d : List Nat) (hb : Bytes d) (index : Nat) (hidx : index < 4294967296) :
    dsimRead d ≠ .trap ∧
    (∀ e, dsimRead d = .err e → e = .oob ∨ ∃ n, e = .invalidFormat n) ∧
    ∀ m, dsimRead d = .ok m →
      ∃ ef mc data, m.entryFormat = some ef ∧ m.mapCount = some mc ∧ m.mapData = some data ∧
        data.length = entrySize ef * mc ∧ m.get index ≠ .trap ∧ (∀ e, m.get index = .err e → e = .oob) ∧
        ∀ o i, m.get index = .ok (o, i) → o < 65536 ∧ i < 65536 ∧
          min index (mc - 1) * entrySize ef + entrySize ef ≤ data.length ∧
          Tent.dsimGet ef mc data index = some (o, i) := by
  obtain ⟨h1, h2, _⟩ := dsimRead_facts d hb
  refine ⟨h1, h2, fun m hm => ?_⟩
  obtain ⟨ef, mc, data, a, b, c, e, g1, g2, g3⟩ := dsimGet_facts hb hm index hidx
  exact ⟨ef, mc, data, a, b, c, e, g1, g2, fun o i h => g3 (o, i) h⟩

/-- **`delta_row_len` cannot overflow** for `u16` fields: a row has at most
`4 · 65535` bytes and the value agrees with C11's `Tent.deltaRowLen` -/
theorem delta_row_len_total (wdc ric : Nat) (hw : wdc < 65536) (hr : ric < 65536) :
    ∃ r, deltaRowLen wdc ric = some r ∧ r ≤ 262140 ∧ r = Tent.deltaRowLen wdc ric :=
  deltaRowLen_some wdc ric hr

/-- **`ItemVariationData::read`, `region_indexes()`, `delta_set(inner)` never panic**: the unchecked
`bytes_per_row * item_count` and `bytes_per_row * inner_index` stay far below `usize::MAX`, a row offset
beyond the delta sets yields the empty row (`slice(offset..).unwrap_or_default()`), `ItemDeltas` stops
after `region_index_count ≤ 65535` values without overflowing its `u16` position, and it never yields
more deltas than there are region indices — so `region_indices.get(i)` in `compute_delta` cannot fail. -/
theorem delta_set_safe (d : List Nat) (hb : Bytes d) (inner : Nat) (hin : inner < 65536) :
    ivdRead d ≠ .trap ∧ (∀ e, ivdRead d = .err e → e = .oob) ∧
    ∀ v, ivdRead d = .ok v →
      ∃ ris ds, v.regionIndexes = some ris ∧ v.deltaSet inner = some ds ∧ ds.length ≤ ris.length ∧
        ris.length ≤ 65535 ∧ ∀ x ∈ ds, I32 x := by
  obtain ⟨h1, h2, _⟩ := ivdRead_facts d hb
  refine ⟨h1, h2, ?_⟩
  intro v hv
  obtain ⟨ris, ds, a, b, c, e, f⟩ := ivd_getters hb hv inner hin
  exact ⟨ris, ds, a, b, c, Nat.le_of_lt_succ e, f⟩

/-- **a region handed out by `variation_regions().get(i)` lies inside the region array** and has
`axis_count` triples: the loop of `VariationRegion::compute_scalar` is bounded by the axis count -/
theorem region_get_in_bounds (rl : Vrl) (hb : Bytes rl.d) (hlen : 4 + rl.regLen ≤ rl.d.length) (ac : Nat)
    (hac : rl.axisCount = some ac) (hacl : ac < 65536) (hrl : rl.regLen ≤ 65535 * (65535 * 6)) (idx : Nat) :
    rl.region idx ≠ .trap ∧
    ∀ axes, rl.region idx = .ok axes → axes.length = ac ∧ idx * (6 * ac) + 6 * ac ≤ rl.regLen := by
  obtain ⟨h1, _, h3⟩ := region_facts rl hb hlen ac hac hrl idx
  exact ⟨h1, fun axes ha => ⟨(h3 axes ha).1, (h3 axes ha).2.1⟩⟩

/-- **the walk of `compute_delta` / `compute_float_delta` never panics**: for every store, every outer /
inner index and coordinates, the part in front of the arithmetic (`item_variation_data().get(outer)`,
`variation_region_list()`, `region_indexes()`, `delta_set(inner)`, `regions.get(region_index)`) returns
`Ok(0)` early, fails with `OutOfBounds` / `NullOffset` / `InvalidCollectionIndex(outer)` — never with
the `MalformedData("invalid delta sets")` exit, which is dead — or hands the kernel at most 65535 `i32`
deltas, each with the `i16` axes of its region. -/
theorem ivs_walk_safe (d : List Nat) (s : Ivs) (hb : Bytes d) (h : ivsRead d = some s) (outer inner : Nat)
    (hin : inner < 65536) (ce : Bool) :
    s.deltaWalk outer inner ce ≠ .trap ∧
    (∀ e, s.deltaWalk outer inner ce = .err e → e = .oob ∨ e = .nullOffset ∨ e = .invalidIndex outer) ∧
    ∀ l, s.deltaWalk outer inner ce = .ok (some l) → l.length ≤ 65535 ∧
      ∀ x ∈ l, I32 x.1 ∧ ∀ y ∈ x.2, I16 y.1 ∧ I16 y.2.1 ∧ I16 y.2.2 := by
  obtain ⟨h1, h2, h3⟩ := deltaWalk_facts hb h outer inner hin ce
  exact ⟨h1, h2, fun l hl => h3 _ hl l rfl⟩

/-- **`compute_delta` panics only if the C20 kernel traps** (`…_partial`; `hk` is the statement of
C20's `computeDelta_no_trap`, whose hypotheses `ivs_walk_safe` establishes); `compute_float_delta`
never panics -/
theorem compute_delta_no_panic_partial (d : List Nat) (s : Ivs) (hb : Bytes d) (h : ivsRead d = some s)
    (outer inner : Nat) (hin : inner < 65536) (coords : List Int) (hk : DeltaKernelTotal coords) :
    s.computeDelta outer inner coords ≠ .trap ∧ s.computeFloatDelta outer inner coords ≠ .trap :=
  ⟨(computeDelta_facts hb h outer inner hin coords hk).1.1, (computeDelta_facts hb h outer inner hin coords hk).2⟩

/-- **`Hvar::{advance_width,lsb,rsb}_delta` and `Vvar::{advance_height,tsb,bsb,v_org}_delta` never
panic** on any table bytes, glyph id and coordinates (`…_partial`: modulo the C20 kernel): the mapping
is consulted through `DeltaSetIndexMap::get` (`dsim_get_safe`), the implicit index is
`(0, gid as u16)`, the store through `compute_delta` -/
theorem metrics_delta_no_panic_partial (d : List Nat) (hb : Bytes d) (vvar : Bool) (which gid : Nat)
    (hw : which ≤ (if vvar then 3 else 2)) (hg : gid < 4294967296) (coords : List Int)
    (hk : DeltaKernelTotal coords) : metricsDelta d vvar which gid coords ≠ .trap := by
  unfold metricsDelta
  by_cases hl : d.length < (if vvar then 24 else 20)
  · rw [if_pos hl]; nofun
  · -- the header holds the store offset and `which + 1` map offsets
    have hwl : which ≤ 3 := by split at hw <;> omega
    have h8 : 4 + 4 ≤ d.length := by split at hl <;> omega
    have hm : 8 + 4 * which + 4 ≤ d.length := by cases vvar <;> simp at hl hw <;> omega
    simp only [if_neg hl, readAt_some d 4 4 h8 (by decide), readAt_some d (8 + 4 * which) 4 hm
      (Nat.le_trans (Nat.add_le_add_right (Nat.add_le_add_left (Nat.mul_le_mul_left 4 hwl) 8) 4) (by decide))]
    obtain ⟨d1, d2⟩ := resolveDsim_facts d hb (HandRead.beAt d (8 + 4 * which) 4)
    obtain ⟨a1, a2⟩ := advanceItem_no_trap _ _ d1 d2 (resolveIvs_facts d hb (HandRead.beAt d 4 4)) gid hg coords hk
    split
    · exact a1
    · exact a2

/-- **the binary search of `metric_delta` never indexes outside the records and terminates**: for
every tag array of at most 65535 records the loop makes at most `len + 1` trips (the model's fuel
suffices: `hi − lo` shrinks every trip), `(lo + hi) / 2` cannot overflow, `records[i]` is in range, and
a hit is an index whose tag equals the one asked for -/
theorem mvar_search_safe (tags : List Nat) (tag : Nat) (hn : tags.length ≤ 65535) :
    ∃ r, mvarSearch tags tag (tags.length + 1) 0 tags.length = .ok r ∧
      ∀ i, r = some i → i < tags.length ∧ tags[i]? = some tag := by
  obtain ⟨r, hr, hp⟩ := mvarSearch_facts tags tag hn (tags.length + 1) 0 tags.length (Nat.le_refl _) (by omega)
  exact ⟨r, hr, hp⟩

/-- **`Mvar::read` + `metric_delta` never panic** (`…_partial`: modulo the C20 kernel) -/
theorem mvar_metric_delta_no_panic_partial (d : List Nat) (hb : Bytes d) (tag : Nat) (coords : List Int)
    (hk : DeltaKernelTotal coords) : mvarMetricDelta d tag coords ≠ .trap := by
  unfold mvarMetricDelta
  cases hc : readAt d 8 2 with
  | none => nofun
  | some count =>
    have hcl := Nat.le_of_lt_succ (readAt2_lt d hb 8 count hc)
    have hlen := Nat.mul_le_mul_right 8 hcl
    simp only [checkedMul_of_bounds hcl (Nat.le_refl 8) (by decide), satAdd_of_bounds (Nat.le_refl 12) hlen (by decide)]
    by_cases hle : 12 + count * 8 ≤ d.length
    · simp only [if_pos hle, uadd_some_of_le (Nat.le_refl 12) hlen (by decide), readArray_of_le d 12 count 8 hle (by decide)]
      obtain ⟨r, hr, hp⟩ := mvarSearch_facts ((List.range count).map (fun i => HandRead.beAt d (12 + 8 * i) 4)) tag
        (by simpa using hcl) (count + 1) 0 count (by simp) (by omega)
      rw [hr]
      cases r with
      | none => nofun
      | some i =>
        simp only [readAt_some d 10 2 (Nat.le_trans (by decide) (Nat.le_trans (Nat.le_add_right 12 _) hle)) (by decide)]
        split
        · nofun
        · refine deltaAsFixed_no_trap _ ?_ _ (beAt2_lt d hb _) coords hk
          split
          · exact okOr_ivsRead_facts _ (bytes_of_drop hb _)
          · exact .err trivial
    · rw [if_neg hle]; nofun

/-- **`SegmentMaps::read` + `apply` never panic** (`…_partial`: `hk` is the statement of C20's
`avarApply_no_trap`): the loop runs over the `position_map_count` records that `read_array` validated,
all of them `i16` pairs -/
theorem segment_maps_apply_no_panic_partial (d : List Nat) (hb : Bytes d) (coord : Int)
    (hk : AvarKernelTotal coord) : segmentMapsApply d coord ≠ .trap := by
  unfold segmentMapsApply
  cases readAt d 0 2 with
  | none => simp
  | some count =>
    simp only []
    cases (Cur.readArray d ⟨2⟩ count 4).1 with
    | error e => simp
    | ok n =>
      simp only []
      have := hk ((List.range n).map (fun i =>
        (toI16 (HandRead.beAt d (2 + 4 * i) 2), toI16 (HandRead.beAt d (2 + 4 * i + 2) 2)))) (by
        intro m hm
        simp only [List.mem_map, List.mem_range] at hm
        obtain ⟨i, _, rfl⟩ := hm
        exact ⟨toI16_I16 _ (beAt2_lt d hb _), toI16_I16 _ (beAt2_lt d hb _)⟩)
      obtain ⟨r, hr⟩ := Option.isSome_iff_exists.mp this
      rw [hr]
      simp [unwrapR]

/-- **`accumulate_dense_deltas` terminates, stays inside the caller's buffer and fails only with
`OutOfBounds`**, for every `PointCoord` instantiation: each trip of `while cur < count` consumes a run of
at least one value (the model's fuel `count + 1` suffices), `deltas.get_mut(cur..cur + run_count)` is
`Err` when the run overshoots, and the buffer keeps its length.  With total coordinate arithmetic
(`ArithTotal`: `Fixed` / `F26Dot6`, see `arith_total_wrapping`) it never panics. -/
theorem accumulate_dense_safe (k : DKind) (scalar : Int) (dd : List Nat) (xs ys : List Int)
    (hx : xs.length ≤ 4294967296) (hy : ys.length ≤ 4294967296) :
    (ArithTotal k scalar → accumulateDense k scalar dd xs ys ≠ .trap) ∧
    (∀ e, accumulateDense k scalar dd xs ys = .err e → e = .oob) ∧
    ∀ xs' ys', accumulateDense k scalar dd xs ys = .ok (xs', ys') → xs'.length = xs.length ∧ ys'.length = ys.length := by
  obtain ⟨h1, h2, h3⟩ := accumulateDense_facts k scalar dd xs ys hx hy
  exact ⟨h1, h2, fun xs' ys' h => h3 (xs', ys') h⟩

/-- **`accumulate_sparse_deltas`**: the same for the sparse reader — at most `point_numbers.count() ≤
32767` trips per pass, point indices beyond the buffers are skipped (`get_mut`), running out of point
numbers inside a zero run is `OutOfBounds`, inside a valued run the `zip` just ends; the buffers and the
flags keep their lengths. -/
theorem accumulate_sparse_safe (k : DKind) (scalar : Int) (pd dd : List Nat) (xs ys : List Int) (flags : List Bool)
    (hxy : xs.length = ys.length) :
    (ArithTotal k scalar → accumulateSparse k scalar pd dd xs ys flags ≠ .trap) ∧
    (∀ e, accumulateSparse k scalar pd dd xs ys flags = .err e → e = .oob) ∧
    ∀ xs' ys' f', accumulateSparse k scalar pd dd xs ys flags = .ok (xs', ys', f') →
      xs'.length = xs.length ∧ ys'.length = ys.length ∧ f'.length = flags.length := by
  obtain ⟨h1, h2, h3⟩ := accumulateSparse_facts k scalar pd dd xs ys flags
  exact ⟨h1, h2, fun xs' ys' f' h => h3 (xs', ys', f') h⟩

/-- **the wrapping instantiations have total arithmetic**: for `D = Fixed` / `F26Dot6` (whose `+=` is
`wrapping_add`) and `scalar == Fixed::ONE` unconditionally; for any other `i32` scalar given C20's
`fxMul_no_trap` (`hm`).  For `D = i32` the `+=` is the plain `i32` addition: that is known finding
`C01-accumulate-deltas-i32-overflow`, see the `example` below. -/
theorem arith_total_wrapping (k : DKind) (hk : k ≠ .int) :
    ArithTotal k 65536 ∧
    ∀ scalar, I32 scalar → (∀ a b, I32 a → I32 b → (Checked.fxMul a b).isSome) → ArithTotal k scalar :=
  ⟨arithTotal_one k hk, fun scalar hs hm => arithTotal_scaled k hk scalar hs hm⟩

/-- **`find_glyph_and_point_count` terminates within the nesting limit and never panics**: for every
glyph table (whatever `loca.get_glyf` answers, including cycles of `USE_MY_METRICS` components) the
recursion makes at most 66 nested calls (the model's fuel suffices: `recurse_depth` grows by one per
call and `> 64` is an error), `count += 1` cannot overflow, the error is `MalformedData` (nesting) or one
of `get_glyf`'s own, and the point count returned is a simple glyph's `num_points()` or at most the
component count. -/
theorem find_glyph_bounded (glyph : Nat → GR) (B : Nat) (hB : CompsBounded glyph B) (hBm : B ≤ 4294967296)
    (gid : Nat) :
    findGlyph glyph 66 gid 0 ≠ .trap ∧
    (∀ e, findGlyph glyph 66 gid 0 = .err e → e = .malformed ∨ ∃ g, glyph g = .err e) ∧
    ∀ g n, findGlyph glyph 66 gid 0 = .ok (g, n) → n ≤ B ∨ ∃ k, glyph g = .simple k ∧ n = k := by
  obtain ⟨h1, h2, h3⟩ := findGlyph_facts glyph B hB hBm 66 gid 0 (by decide)
  exact ⟨h1, h2, fun g n h => h3 (g, n) h⟩

/-- **`phantom_point_deltas` never indexes outside its four phantom points and panics only if a C20
kernel traps** (`…_partial`: `hk` / `hks` are C20's `tupleScalar_no_trap` and the `i32` range of its
results, `hm` is `fxMul_no_trap`): `phantom_range = point_count..point_count + 4` cannot overflow,
`phantom_deltas[ix - phantom_range.start]` is guarded by `contains`, the tuples and their deltas are
bounded (`gvar_walk_safe`). -/
theorem phantom_point_deltas_no_panic_partial (d : List Nat) (g : Gv) (hb : Bytes d) (hr : gvarRead d = some g)
    (glyph : Nat → GR) (B : Nat) (hB : CompsBounded glyph B) (hBm : B ≤ 4294967296)
    (hS : ∀ gid k, glyph gid = .simple k → k ≤ 4294967296) (coords : List Int) (gid : Nat)
    (hk : ∀ (pk : List Int) (inter : Option (List Int × List Int)), (∀ c ∈ pk, I16 c) →
      (∀ q, inter = some q → (∀ c ∈ q.1, I16 c) ∧ (∀ c ∈ q.2, I16 c)) →
      (Checked.tupleScalar pk inter coords).isSome)
    (hks : ∀ (pk : List Int) (inter : Option (List Int × List Int)) (v : Int),
      Checked.tupleScalar pk inter coords = some (some v) → I32 v)
    (hm : ∀ a b, I32 a → I32 b → (Checked.fxMul a b).isSome) :
    g.phantomPointDeltas glyph coords gid ≠ .trap ∧
    ∀ ph, g.phantomPointDeltas glyph coords gid = .ok (some ph) → ph.length = 4 := by
  unfold Gv.phantomPointDeltas
  refine (findGlyph_facts glyph B hB hBm 66 gid 0 (by decide)).cases (fun _ _ _ => ⟨nofun, nofun⟩) (fun r _ hr' => ?_)
  obtain ⟨gid', pc⟩ := r
  have hpc : pc ≤ 4294967296 := by
    rcases hr' with h | ⟨k, hk', hpk⟩
    · exact Nat.le_trans h hBm
    · exact (show pc = k from hpk) ▸ hS gid' k hk'
  simp only [uadd_some _ _ (Nat.le_trans (Nat.add_le_add_right hpc 4) (by decide))]
  refine (glyphVariationData_facts hb hr gid').cases (fun _ _ _ => ⟨nofun, nofun⟩) (fun op _ hop => ?_)
  cases op with
  | none => exact ⟨nofun, nofun⟩
  | some p =>
    obtain ⟨hac, hbh, hsh, _, _⟩ := hop p rfl
    obtain ⟨l, hl, hready⟩ := active_tuples_ready_partial p hac coords hbh hsh hk hks true
    obtain ⟨ph', hp1, hp2⟩ := phantomLoop_facts p pc hm l hready [(0, 0), (0, 0), (0, 0), (0, 0)] rfl
    simp only [hl, hp1]
    exact ⟨nofun, fun ph hph => Option.some.inj (R.ok.inj hph) ▸ hp2⟩

/-- an embedded peak + intermediate header for one axis: 4 + 2 + 4 bytes -/
example : (tvhRead [0, 3, 0xC0, 0, 0x40, 0, 0x20, 0, 0x40, 0] 1).map (fun h => (h.peakTuple, h.interTuples, h.byteLen 1)) =
    some (.some [16384], .some [8192] [16384], some 10) := by decide +kernel

/-- the same header one byte short: `Err(OutOfBounds)` -/
example : tvhRead [0, 3, 0xC0, 0, 0x40, 0, 0x20, 0, 0x40] 1 = none := by decide +kernel

/-- three headers announced, the data holds two: `Ok, Ok, Err` (the iterator does not stop early) -/
example : (tvhTrace [0, 1, 0x80, 0, 0x40, 0, 0, 2, 0x80, 0, 0xC0, 0, 9] 3 1).map (fun evs => (items evs).map (·.isSome)) =
    some [true, true, false] := by decide +kernel

example : exCvarWalk = some [([16384], [(0, 5, 0), (1, 6, 0)])] := by decide +kernel

example : exGvarWalk = some [([16384], [(0, 1, 3)])] := by decide +kernel

/-- glyph 0 has 12 bytes of data, glyph 1 is beyond the offsets array: `Err(OutOfBounds)` -/
example : (gvarRead exGvar).map (fun g =>
    (match g.dataForGid 0 with | .ok (some b) => b.length | _ => 0,
     match g.dataForGid 1 with | .err .oob => true | _ => false)) = some (12, true) := by
  decide +kernel

/-- format 0, entry format 0x17 (2 byte entries, 8 bit inner index), 2 entries: index 5 is clamped to
the last entry -/
example : (match dsimRead [0, 0x17, 0, 2, 1, 2, 3, 4] with
    | .ok m => (match m.get 0, m.get 5 with | .ok a, .ok b => some (a, b) | _, _ => none)
    | _ => none) = some ((1, 2), (3, 4)) := by decide +kernel

example : mvarSearch [10, 20, 30, 40] 30 5 0 4 = .ok (some 2) ∧ mvarSearch [10, 20, 30, 40] 35 5 0 4 = .ok none := by
  constructor <;> rfl

/-- the known finding is real in the model: point 1 listed twice with two `i32::MAX` deltas — the `i32`
instantiation panics, `Fixed` wraps -/
example : accumulateSparse .int 65536 [2, 1, 1, 0] [0xC1, 0x7F, 0xFF, 0xFF, 0xFF, 0x7F, 0xFF, 0xFF, 0xFF, 0xC1, 0, 0, 0, 0, 0, 0, 0, 0]
    [0, 0, 0, 0] [0, 0, 0, 0] [false, false, false, false] = .trap := by rfl

example : (match accumulateSparse .fixed 65536 [2, 1, 1, 0] [0xC1, 0x7F, 0xFF, 0xFF, 0xFF, 0x7F, 0xFF, 0xFF, 0xFF, 0xC1, 0, 0, 0, 0, 0, 0, 0, 0]
    [0, 0, 0, 0] [0, 0, 0, 0] [false, false, false, false] with
    | .ok (xs, _, fl) => some (xs, fl) | _ => none) = some ([0, -131072, 0, 0], [false, true, false, false]) := by
  decide +kernel

/-- a dense tuple: two `i8` x deltas, two zero y deltas -/
example : (match accumulateDense .f26dot6 65536 [0x01, 5, 0xFB, 0x81] [7, 7] [7, 7] with
    | .ok r => some r | _ => none) = some ([7 + 5 * 64, 7 - 5 * 64], [7, 7]) := by decide +kernel

/-- a cycle of `USE_MY_METRICS` composites hits the nesting limit; a chain ends at the simple glyph -/
example : findGlyph (fun g => if g = 0 then .composite [(false, 7), (true, 1)] else if g = 1 then .composite [(true, 0)]
    else .none) 66 0 0 = .err .malformed := by rfl

example : findGlyph (fun g => if g = 0 then .composite [(false, 7), (true, 1)] else if g = 1 then .simple 9
    else .none) 66 0 0 = .ok (1, 9) := by rfl

example : CompsBounded (fun g => if g = 0 then GR.composite [(false, 7), (true, 1)] else .none) 2 := by
  intro gid comps h
  simp only [] at h
  split at h
  · injection h with h; rw [← h]; simp
  · cases h

/-- the kernel hypotheses are statements C20 proves (`computeDelta_no_trap` for `i16` coordinates,
`avarApply_no_trap` for every coordinate); here their trivial instances -/
example : DeltaKernelTotal [] := by
  intro cols _ _
  simp [Checked.computeDelta]

example : (Checked.avarApply [(-16384, -16384), (0, 0), (16384, 16384)] 32768).isSome := by decide +kernel

/-- the byte hypothesis is satisfiable -/
example : Bytes exGvar := by unfold Bytes; decide

end FontVerif.C01HandVar
