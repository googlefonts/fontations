/-
C11 (continued) — `Fvar::user_to_normalized` as a whole: the loop over several `(tag, value)`
settings (repeated tags, duplicate axis tags, output slice shorter / longer than the axis list).
Model: Model/Normalize.lean (`setAxesFrom`, `userToNormalizedAll`) ⇄ read-fonts/src/tables/fvar.rs.
The per-axis value (`userToNormalized` = normalize → avar segment map → F2Dot14) has its laws in
Props/C11.lean §2–3 (`user_to_normalized_laws`, `user_to_normalized_avar_laws`).
-/
import FontVerif.Model.Normalize
import FontVerif.Lemmas.NormalizeLemmas
namespace FontVerif.C11
open FontVerif.Normalize

/-- the value the documentation of `user_to_normalized` promises for slot `j`: `0` when the slot has
no axis or no setting names the axis' tag, otherwise `avar(normalize(axis, value))` as F2Dot14 for
the value of the LAST setting that names the tag. -/
def slotSpec (axes : List AxisRec) (maps : Option (List (List (Int × Int))))
    (settings : List (Nat × Int)) (j : Nat) : Int :=
  match axes[j]? with
  | none => 0
  | some a =>
    match settings.reverse.find? (fun s => s.1 = a.tag) with
    | none => 0
    | some s => userToNormalized a.minV a.defV a.maxV (mapFor maps j) s.2

theorem setAxesFrom_length (maps : Option (List (List (Int × Int)))) (tag : Nat) (value : Int)
    (axes : List AxisRec) : ∀ (i : Nat) (out : List Int),
    (setAxesFrom maps tag value i axes out).length = out.length := by
  induction axes with
  | nil => intro i out; rfl
  | cons a rest ih =>
    intro i out
    simp only [setAxesFrom]
    rw [ih]
    split
    · split <;> simp
    · rfl

/-- one setting: slot `j ≥ i` (inside the slice) is overwritten exactly when axis `j − i` of the
remaining axes carries the tag. -/
theorem setAxesFrom_get (maps : Option (List (List (Int × Int)))) (tag : Nat) (value : Int) :
    ∀ (axes : List AxisRec) (i : Nat) (out : List Int) (j : Nat), i ≤ j → j < out.length →
      (setAxesFrom maps tag value i axes out)[j]? =
        match axes[j - i]? with
        | some a => if a.tag = tag then
            some (userToNormalized a.minV a.defV a.maxV (mapFor maps j) value) else out[j]?
        | none => out[j]?
  | [], _, _, _, _, _ => by simp [setAxesFrom]
  | a :: rest, i, out, j, hij, hj => by
    simp only [setAxesFrom]
    rcases Nat.eq_or_lt_of_le hij with rfl | hlt
    · -- this axis is slot `i`; the rest never touches it
      rw [setAxesFrom_get_lt maps tag value rest (i + 1) _ i (Nat.lt_succ_self i), Nat.sub_self,
        List.getElem?_cons_zero]
      by_cases ht : a.tag = tag
      · simp only [ht, if_true, hj]; exact List.getElem?_set_self hj
      · simp only [ht, if_false]
    · -- a later slot: the update at slot `i` does not change it
      rw [setAxesFrom_get maps tag value rest (i + 1) _ j hlt (by split <;> (try split) <;> simp [hj]),
        show j - i = (j - (i + 1)) + 1 by omega, List.getElem?_cons_succ]
      have : ∀ o : List Int, (o.set i (userToNormalized a.minV a.defV a.maxV (mapFor maps i) value))[j]? = o[j]? :=
        fun o => List.getElem?_set_ne (by omega)
      by_cases ht : a.tag = tag <;> by_cases hi : i < out.length <;> simp only [ht, hi, if_true, if_false, this]

theorem foldSettings_length (axes : List AxisRec) (maps : Option (List (List (Int × Int))))
    (settings : List (Nat × Int)) : ∀ (out : List Int),
    (settings.foldl (fun out s => setAxesFrom maps s.1 s.2 0 axes out) out).length = out.length := by
  induction settings with
  | nil => intro out; rfl
  | cons s rest ih => intro out; simp only [List.foldl_cons]; rw [ih, setAxesFrom_length]

/-- the fold over the settings, from any starting slice: slot `j` holds the value of the last
setting that names its axis' tag, or what it held before. -/
theorem foldSettings_get (axes : List AxisRec) (maps : Option (List (List (Int × Int))))
    (settings : List (Nat × Int)) : ∀ (out : List Int) (j : Nat), j < out.length →
    (settings.foldl (fun out s => setAxesFrom maps s.1 s.2 0 axes out) out)[j]? =
      (match axes[j]? with
       | none => out[j]?
       | some a =>
         match settings.reverse.find? (fun s => s.1 = a.tag) with
         | none => out[j]?
         | some s => some (userToNormalized a.minV a.defV a.maxV (mapFor maps j) s.2)) := by
  induction settings with
  | nil => intro out j hj; cases axes[j]? <;> simp
  | cons s rest ih =>
    intro out j hj
    simp only [List.foldl_cons]
    rw [ih _ j (by rw [setAxesFrom_length]; exact hj)]
    rw [setAxesFrom_get maps s.1 s.2 axes 0 out j (Nat.zero_le j) hj]
    simp only [Nat.sub_zero, List.reverse_cons, List.find?_append]
    cases ha : axes[j]? with
    | none => simp
    | some a =>
      simp only []
      cases hf : rest.reverse.find? (fun s => s.1 = a.tag) with
      | some s' => simp
      | none =>
        simp only [Option.none_or, List.find?_cons, List.find?_nil]
        by_cases ht : a.tag = s.1
        · have : s.1 = a.tag := ht.symm
          simp [ht]
        · have : ¬ s.1 = a.tag := fun h => ht h.symm
          simp [ht, this]

/-- the call never resizes the slice, and only the first
`min(axis count, slice length)` slots can become non-zero: a slice longer than the axis list is
zero-filled beyond it, a shorter one simply has no slot for the later axes. -/
theorem out_len_min (axes : List AxisRec) (maps : Option (List (List (Int × Int))))
    (settings : List (Nat × Int)) (outLen : Nat) :
    (userToNormalizedAll axes maps settings outLen).length = outLen ∧
    ∀ j, min axes.length outLen ≤ j → j < outLen →
      (userToNormalizedAll axes maps settings outLen)[j]? = some 0 := by
  unfold userToNormalizedAll
  refine ⟨by rw [foldSettings_length]; simp, fun j hmin hj => ?_⟩
  rw [foldSettings_get axes maps settings _ j (by simpa using hj)]
  have : axes[j]? = none := by
    apply List.getElem?_eq_none; omega
  simp [this, hj]

/-- the whole function, avar version ≤ 1: every slot of the output
slice holds exactly the documented value `slotSpec` — `avar(normalize(axis, value))` of the last
setting naming the axis' tag, `0` otherwise — for ANY axis list (duplicate tags included), any
settings (repeated or unknown tags included) and any slice length. -/
theorem user_to_normalized_slots (axes : List AxisRec) (maps : Option (List (List (Int × Int))))
    (settings : List (Nat × Int)) (outLen : Nat) (j : Nat) (hj : j < outLen) :
    (userToNormalizedAll axes maps settings outLen)[j]? = some (slotSpec axes maps settings j) := by
  unfold userToNormalizedAll slotSpec
  rw [foldSettings_get axes maps settings _ j (by simpa using hj)]
  cases axes[j]? with
  | none => simp [hj]
  | some a =>
    simp only []
    cases settings.reverse.find? (fun s => s.1 = a.tag) with
    | none => simp [hj]
    | some s => rfl

/-- an axis none of whose settings carries its tag stays at the default
location `0`. -/
theorem untouched_axes_zero (axes : List AxisRec) (maps : Option (List (List (Int × Int))))
    (settings : List (Nat × Int)) (outLen : Nat) (j : Nat) (hj : j < outLen) (a : AxisRec)
    (ha : axes[j]? = some a) (hno : ∀ s ∈ settings, s.1 ≠ a.tag) :
    (userToNormalizedAll axes maps settings outLen)[j]? = some 0 := by
  rw [user_to_normalized_slots axes maps settings outLen j hj]
  unfold slotSpec
  simp only [ha]
  have : settings.reverse.find? (fun s => s.1 = a.tag) = none := by
    rw [List.find?_eq_none]
    intro s hs
    have := hno s (by simpa using hs)
    simpa using this
  rw [this]

/-- when the settings are `before ++ [(tag, v)] ++ after` and no setting in
`after` names `tag`, every axis with that tag (there may be several) ends at
`avar(normalize(axis, v))` — whatever `before` contains. -/
theorem last_setting_wins (axes : List AxisRec) (maps : Option (List (List (Int × Int))))
    (before after : List (Nat × Int)) (tag : Nat) (v : Int) (outLen : Nat)
    (hafter : ∀ s ∈ after, s.1 ≠ tag) (j : Nat) (hj : j < outLen) (a : AxisRec)
    (ha : axes[j]? = some a) (ht : a.tag = tag) :
    (userToNormalizedAll axes maps (before ++ (tag, v) :: after) outLen)[j]? =
      some (userToNormalized a.minV a.defV a.maxV (mapFor maps j) v) := by
  rw [user_to_normalized_slots axes maps _ outLen j hj]
  unfold slotSpec
  simp only [ha, List.reverse_append, List.reverse_cons, List.find?_append, List.append_assoc]
  have h1 : after.reverse.find? (fun s => s.1 = a.tag) = none := by
    rw [List.find?_eq_none]
    intro s hs
    have := hafter s (by simpa using hs)
    rw [ht]; simpa using this
  rw [h1]
  simp [ht]

/-- corollary (the form the harness oracle checks): settings that agree on the last value given
to every tag produce the same output. -/
theorem settings_equivalent (axes : List AxisRec) (maps : Option (List (List (Int × Int))))
    (s1 s2 : List (Nat × Int)) (outLen : Nat)
    (h : ∀ tag, (s1.reverse.find? (fun s => s.1 = tag)).map (·.2) =
                (s2.reverse.find? (fun s => s.1 = tag)).map (·.2)) :
    userToNormalizedAll axes maps s1 outLen = userToNormalizedAll axes maps s2 outLen := by
  apply List.ext_getElem?
  intro j
  by_cases hj : j < outLen
  · rw [user_to_normalized_slots axes maps s1 outLen j hj,
        user_to_normalized_slots axes maps s2 outLen j hj]
    unfold slotSpec
    cases ha : axes[j]? with
    | none => rfl
    | some a =>
      simp only []
      have := h a.tag
      cases h1 : s1.reverse.find? (fun s => s.1 = a.tag) <;>
        cases h2 : s2.reverse.find? (fun s => s.1 = a.tag) <;> simp_all
  · have l1 := (out_len_min axes maps s1 outLen).1
    have l2 := (out_len_min axes maps s2 outLen).1
    rw [List.getElem?_eq_none (by omega), List.getElem?_eq_none (by omega)]

/-- each written slot obeys the per-axis laws of Props/C11.lean: e.g. it is always in `[-1, 1]`
when the axis has no segment map. -/
theorem slot_in_range_no_avar (axes : List AxisRec) (settings : List (Nat × Int)) (outLen j : Nat)
    (hj : j < outLen) :
    ∃ x, (userToNormalizedAll axes none settings outLen)[j]? = some x ∧ -16384 ≤ x ∧ x ≤ 16384 := by
  refine ⟨_, user_to_normalized_slots axes none settings outLen j hj, ?_⟩
  unfold slotSpec
  cases axes[j]? with
  | none => simp
  | some a =>
    simp only []
    cases settings.reverse.find? (fun s => s.1 = a.tag) with
    | none => simp
    | some s =>
      simp only [mapFor, userToNormalized]
      have hn := normalize_range a.minV a.defV a.maxV s.2
      rw [toF2Dot14_small hn.1 hn.2]
      omega

-- non-vacuity: two axes share a tag, the slice is longer than the axis list, a tag is repeated
example : userToNormalizedAll
    [⟨1, 0, 65536, 131072⟩, ⟨2, 0, 0, 65536⟩, ⟨1, 0, 0, 131072⟩] none
    [(1, 131072), (2, 65536), (1, 0), (9, 5)] 4 = [-16384, 16384, 0, 0] := by decide
example : userToNormalizedAll
    [⟨1, 0, 65536, 131072⟩, ⟨2, 0, 0, 65536⟩, ⟨1, 0, 0, 131072⟩] none
    [(1, 131072), (2, 65536), (1, 0), (9, 5)] 2 = [-16384, 16384] := by decide

end FontVerif.C11
