/-
C01 — parsing untrusted bytes never panics: the generated table readers.

`shape_getters_safe` is the generic theorem: for every well-formed reader program (`WF`, a decidable
syntactic predicate which `Gen/ReadShapes*.lean` discharges by `decide +kernel` for every table that
`translate/shapes.py` extracts from read-fonts/generated/*.rs), every byte string, every value of
the external read arguments and every interpretation of the hand-written callees, if the generated
`read` returns `Ok(marker)` then every generated getter's `unwrap()` is applied to `Some`/`Ok` and no
`start + len` in the marker's range fns overflows.
-/
import FontVerif.Lemmas.Shape
import FontVerif.Model.ShapeExt
import FontVerif.Gen.ReadShapes

set_option linter.unusedVariables false

namespace FontVerif.C01
open FontVerif.Shape

/-- A successful `read` makes every field's range fn exact and in bounds (and the values re-read by
getters equal to the locals `read` used). -/
theorem run_fields_good (ext : Ext) (s : Shape) (hwf : WF s) (d : Data) (hL : d.len < MAXU)
    (argVals : List Nat) (m : Marker) (hr : run ext s d argVals = .ok m) :
    ∀ a fp b, s.prog = a ++ fp :: b → FieldGood ext d s.args m a.reverse fp := by
  obtain ⟨hsteps, hfields, hnd, hvnd, hvargs, hargs, hget⟩ := hwf
  unfold run at hr
  split at hr
  · cases hr
  · rename_i st hst
    split at hr
    · rename_i hpos
      cases hr
      rw [hsteps, ← List.reverse_reverse s.prog] at hst
      intro a fp b hab
      exact (core hL s.args _ rfl s.prog.reverse st hst hpos
        (by rw [List.map_reverse]; exact nodup_reverse hnd)
        (by rw [boundVars_reverse]; exact nodup_reverse hvnd)
        (fun x hx hin => hvargs x (by rw [boundVars_reverse] at hin; exact List.mem_reverse.mp hin) hx)).2
        b.reverse fp a.reverse (by rw [hab, List.reverse_append, List.reverse_cons, List.append_assoc]; rfl)
    · cases hr

/-- **Generic getter safety.**  `hrec` is the only assumption about hand-written code: a record with
`ComputeSize` can be read from a slice of exactly the computed size (used only by the getters
that return such a record by value, e.g. `SinglePosFormat1::value_record`). -/
theorem shape_getters_safe (ext : Ext)
    (hrec : ∀ r vs n, ext.size r vs = .ok n → ext.recRead r vs n = true)
    (s : Shape) (hwf : WF s) (d : Data) (hL : d.len < MAXU)
    (argVals : List Nat) (m : Marker) (hr : run ext s d argVals = .ok m) :
    ∀ g ∈ s.getters, getterOk ext s d m g := by
  have hall := run_fields_good ext s hwf d hL argVals m hr
  obtain ⟨hsteps, hfields, hnd, hvnd, hvargs, hargs, hget⟩ := hwf
  intro g hg
  have hgwf : getterWF s g = true := (List.all_eq_true.mp hget) g hg
  unfold getterWF at hgwf
  obtain ⟨a, fp, b, hsplit, hfid, hcompat⟩ := getterWFAux_split s.args g s.prog [] hgwf
  rw [List.append_nil] at hcompat
  have hgood := hall a fp b hsplit
  unfold getterOk
  rw [← hfid, rangeById_prog m hfields hnd hsplit]
  cases hrr : fieldRange m (a.reverse.map fieldOf) (fieldOf fp) with
  | panic => unfold FieldGood at hgood; rw [hrr] at hgood; exact hgood
  | absent => trivial
  | range s0 e0 =>
    obtain ⟨hle, hend, hsc, hcp⟩ := FieldGood_range hgood hrr
    obtain ⟨gf, gk⟩ := g
    simp only [] at hcompat ⊢
    -- per getter kind: what the licence says of the field's kind, what `read` established for that kind
    cases gk with
    | rangeOnly => trivial
    | varLen => simp only []; omega
    | varLenSlice => exact ⟨hle, hend⟩
    | readAt sz =>
      obtain ⟨rd, hu⟩ := getterCompat_readAt hcompat
      have := hsc _ _ hu
      have : checkedAdd s0 sz = some (s0 + sz) := checkedAdd_of_le (by omega) hL
      simp [readAt, this]; omega
    | readArray elem =>
      obtain ⟨hne0, l, hu, hel⟩ := getterCompat_readArray hcompat
      obtain ⟨vars0, _, hl⟩ := hcp l hu
      exact ⟨hle, hend, hne0, evalLen_elem hel hl⟩
    | readArgsArray r gas =>
      obtain ⟨c, xs, hu, hmatch⟩ := getterCompat_readArgsArray hcompat
      obtain ⟨vars0, hagree, hl⟩ := hcp _ hu
      refine ⟨hle, hend, _, gargVals_ok hfields hnd hall a _ b hsplit vars0 hagree gas xs hmatch, ?_⟩
      simp only [evalLen, evalSize] at hl
      split at hl
      · cases hl
      · rename_i n hn; exact ⟨n, hn⟩
    | readArgsStruct r gas =>
      obtain ⟨xs, hu, hmatch⟩ := getterCompat_readArgsStruct hcompat
      obtain ⟨vars0, hagree, hl⟩ := hcp _ hu
      exact ⟨hle, hend, _, gargVals_ok hfields hnd hall a _ b hsplit vars0 hagree gas xs hmatch,
        hrec _ _ _ (by simpa only [evalLen, evalSize] using hl)⟩

/-- **`read` is total on the error side too**: a well-formed reader program never reaches the
artefact state `stuck` (use of an unbound `*_byte_len` local), i.e. the model's `run` always
returns `Ok(marker)` or one of the `ReadError`s the Rust can return.  `hext`: the hand-written
`compute_size` impls return their own errors, not the artefact. -/
theorem run_never_stuck (ext : Ext) (hext : ∀ r vs, ext.size r vs ≠ .error .stuck)
    (s : Shape) (hwf : WF s) (d : Data) (argVals : List Nat) :
    run ext s d argVals ≠ .error .stuck := by
  unfold run
  rw [hwf.1]
  split
  · rename_i e he; intro h; cases h; exact prog_not_stuck ext hext d _ _ he
  · split <;> simp

/-- The concrete interpretation of the hand-written callees (Model/ShapeExt.lean, tied to the Rust
by the correspondence harness) satisfies the one hypothesis of `shape_getters_safe`. -/
theorem concreteExt_hrec (t : Tables) :
    ∀ r vs n, (concreteExt t).size r vs = .ok n → (concreteExt t).recRead r vs n = true := by
  intro r vs n h
  simp only [concreteExt] at h ⊢
  unfold recReadFn
  cases hn : t.sizeNames[r]? with
  | none => simp [sizeFn, hn] at h
  | some name =>
    simp only []
    split
    · rename_i fmt
      rw [sizeFn_hand t 7 r [fmt] "ValueRecord" (2 * popcount 8 (fmt % 256)) hn (by simp [handSize])] at h
      simp only [Except.ok.injEq] at h
      simp [handRecRead, h]
    · rename_i off
      rw [sizeFn_hand t 7 r [off] "IdDeltaOrLength" (if off = 0 then 3 else 2) hn (by simp [handSize])] at h
      simp only [Except.ok.injEq] at h
      simp [handRecRead, h]
    · simp [h]

/-- **Every generated table reader of read-fonts is safe to traverse.**  For each reader in the
registry that translate/shapes.py regenerates from read-fonts/generated/*.rs on every run, for every
byte string shorter than `usize::MAX`, every value of the read arguments and every interpretation `ext`
of the hand-written callees that satisfies `hrec` (see `shape_getters_safe`): if `read` /
`read_with_args` succeeds then every generated getter unwraps `Some`/`Ok` and no `*_byte_range()`
overflows. -/
theorem generated_getters_safe (ext : Ext)
    (hrec : ∀ r vs n, ext.size r vs = .ok n → ext.recRead r vs n = true) :
    ∀ p ∈ Gen.ReadShapes.allShapes, ∀ (d : Data), d.len < MAXU →
      ∀ (argVals : List Nat) (m : Marker), run ext p.2 d argVals = .ok m →
        ∀ g ∈ p.2.getters, getterOk ext p.2 d m g :=
  fun p hp d hL argVals m hr =>
    shape_getters_safe ext hrec p.2 (Gen.ReadShapes.allShapes_wf p hp) d hL argVals m hr

/-- … in particular for the transcribed callees the driver runs -/
theorem generated_getters_safe_concrete (t : Tables) :
    ∀ p ∈ Gen.ReadShapes.allShapes, ∀ (d : Data), d.len < MAXU →
      ∀ (argVals : List Nat) (m : Marker), run (concreteExt t) p.2 d argVals = .ok m →
        ∀ g ∈ p.2.getters, getterOk (concreteExt t) p.2 d m g :=
  generated_getters_safe (concreteExt t) (concreteExt_hrec t)

/-- **Resolving any offset to any generated table is safe as well**: `off.resolve::<T>(data)` yields
`NullOffset`, `OutOfBounds`, an error of `T::read`, or a table (over the bytes from `off` on) all of
whose getters are safe — for every offset value, including ones beyond the data. -/
theorem resolved_getters_safe (ext : Ext)
    (hrec : ∀ r vs n, ext.size r vs = .ok n → ext.recRead r vs n = true) :
    ∀ p ∈ Gen.ReadShapes.allShapes, ∀ (d : Data), d.len < MAXU → ∀ (off : Nat) (argVals : List Nat),
      match resolve ext p.2 d off argVals with
      | .null => off = 0
      | .err _ => True
      | .ok m => 0 < off ∧ off ≤ d.len ∧ ∀ g ∈ p.2.getters, getterOk ext p.2 (d.splitOff off) m g := by
  intro p hp d hL off argVals
  unfold resolve
  by_cases h0 : off = 0
  · simp [h0]
  · rw [if_neg h0]
    by_cases hle : off ≤ d.len
    · rw [if_pos hle]
      cases hr : run ext p.2 (d.splitOff off) argVals with
      | error e => trivial
      | ok m =>
        simp only []
        refine ⟨Nat.pos_of_ne_zero h0, hle, ?_⟩
        exact generated_getters_safe ext hrec p hp (d.splitOff off)
          (by simp only [Data.splitOff]; omega) argVals m hr
    · simp [hle]

/-- … and none of them can reach the artefact state -/
theorem generated_never_stuck (ext : Ext) (hext : ∀ r vs, ext.size r vs ≠ .error .stuck) :
    ∀ p ∈ Gen.ReadShapes.allShapes, ∀ (d : Data) (argVals : List Nat),
      run ext p.2 d argVals ≠ .error .stuck :=
  fun p hp d argVals => run_never_stuck ext hext p.2 (Gen.ReadShapes.allShapes_wf p hp) d argVals

/-- a 28-byte table directory with one record is accepted, so the theorem's hypothesis is satisfiable -/
def exDir : Data := ⟨28, fun i => if i = 5 then 1 else 0⟩

example : (match run (concreteExt ⟨[], [], []⟩) Gen.ReadShapes.font_TableDirectory_shape exDir [] with
           | .ok m => rangeById m [] Gen.ReadShapes.font_TableDirectory_shape.fields 5 == some (.range 12 28)
           | .error _ => false) = true := by decide +kernel

/-- one byte less is rejected with `OutOfBounds` -/
example : (match run (concreteExt ⟨[], [], []⟩) Gen.ReadShapes.font_TableDirectory_shape ⟨27, exDir.byte⟩ [] with
           | .ok _ => false
           | .error e => e == .oob) = true := by decide +kernel

example : Gen.ReadShapes.allShapes.length = 256 := by decide +kernel

example : ("font_TableDirectory", Gen.ReadShapes.font_TableDirectory_shape) ∈ Gen.ReadShapes.allShapes := by
  unfold Gen.ReadShapes.allShapes Gen.ReadShapes.chunk0
  iterate 7 apply List.mem_append_left
  exact List.mem_cons_self

/-- `WF` is not vacuous: the program a *missing bounds check* would produce — a getter reading a
4-byte scalar where `read` only advanced over 2 — is rejected, and indeed its getter fails on an
accepted input. -/
def badShape : Shape :=
  { args := [], steps := [.adv 2], fields := [⟨0, false, .const 2⟩], prog := [⟨0, .scalar 2 none⟩],
    getters := [⟨0, .readAt 4⟩] }

example : ¬ WF badShape := by decide +kernel

example : (match run (concreteExt ⟨[], [], []⟩) badShape ⟨2, fun _ => 0⟩ [] with
           | .ok m => !(decide ((readAt ⟨2, fun _ => 0⟩ 0 4).isSome))
           | .error _ => false) = true := by decide +kernel

end FontVerif.C01
