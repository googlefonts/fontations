/-
C01 (hand-written code) — termination, iteration bounds, in-range indices / slices and absence of arithmetic
traps for the models of Model/HandGlyf.lean ⇄ read-fonts/src/tables/glyf.rs / loca.rs (SimpleGlyph points, PointIter, resolve_coords_len, CompositeGlyph components / instructions, Anchor / Transform, Loca::get_raw / get_glyf / all_offsets_are_ascending).
Tied to the real functions by harness group `glyf.model` (`hg.*` driver commands).

Standing hypotheses (all satisfiable, see the `example`s): the data are bytes (`Bytes d`: every element
< 256), end points are u16 values (`U16s`), a slice is no longer than `usize::MAX` (`d.length ≤ MAXU`), a
glyph id is a u32.
-/
import FontVerif.Model.HandGlyf
import FontVerif.Lemmas.ReadIter
import FontVerif.Lemmas.HandGlyf
set_option linter.unusedVariables false
namespace FontVerif.C01HandGlyf
open FontVerif.ReadIter FontVerif.HandRead FontVerif.HandGlyf
open FontVerif.Glyf (hasBit ARG_WORDS ARGS_XY HAVE_SCALE HAVE_XY_SCALE HAVE_2X2)

/-- **`num_points` never overflows and is at most 65536.** -/
theorem numPoints_bounded (ends : List Nat) (he : U16s ends) :
    ∃ n, numPoints ends = some n ∧ n ≤ 65536 := by
  obtain ⟨n, h1, h2, _⟩ := numPoints_some ends he
  exact ⟨n, h1, h2⟩

/-- **`resolve_coords_len` terminates without a panic for every byte string and every point count**:
`data.len() + 1` trips of the `while` loop suffice (the result is never the out-of-fuel artefact), none
of the unchecked `u32` operations (`+ 1`, `* repeats`, `* 2`, `+=`, `-=`) overflows, the result is
`Ok` or a `ReadError`, and the lengths of an `Ok` are bounded: the flags lie inside the data, and no
length exceeds twice the point count (so `flags + x + y` cannot overflow a u32 either). -/
theorem resolveCoordsLen_total (d : List Nat) (hb : Bytes d) (total : Nat) (ht : total ≤ 65535) :
    (∃ e, resolveCoordsLen d total = .err e) ∨
    (∃ l, resolveCoordsLen d total = .ok l ∧ l.flags ≤ d.length ∧ l.flags ≤ 2 * total ∧
      l.x ≤ 2 * total ∧ l.y ≤ 2 * total) := by
  rcases resolveCoordsLen_facts d hb total ht with h | ⟨l, h1, h2, h3, h4, h5, _⟩
  · exact Or.inl h
  · exact Or.inr ⟨l, h1, h2, h3, h4, h5⟩

/-- **the two transcriptions of `resolve_coords_len` agree**: the cursor model with explicit traps used
here and the list-tail value model of Model/Glyf.lean (check C09, `Glyf.resolveCoordsLen`) return the same
`Ok` lengths, and an `Err` here is a `none` there — for all bytes and point counts. -/
theorem resolveCoordsLen_eq_glyf (d : List Nat) (hb : Bytes d) (total : Nat) (ht : total ≤ 65535) :
    Glyf.resolveCoordsLen d 0 total 0 0 = lensOpt (resolveCoordsLen d total) := by
  rcases rclLoop_spec d hb total ht (d.length + 1) ⟨Cur.init, total, 0, 0⟩ (rinv_init d total)
    (by simp [Cur.init]) with ⟨hg, e, he⟩ | ⟨l, hg, hl, _⟩
  · rw [resolveCoordsLen, he]; exact hg
  · rw [resolveCoordsLen, hl]; exact hg

/-- **`points_impl` never panics and splits inside the data**: the unchecked sum
`flags + x_coords + y_coords` does not overflow, both `split_at` positions are in range, and the three
slices handed to `PointIter::new` are consecutive parts of `glyph_data()` of the resolved lengths. -/
theorem pointsImpl_safe (ends gd : List Nat) (hb : Bytes gd) (he : U16s ends) :
    pointsImpl ends gd = .none ∨
    ∃ l : Lens, l.flags + l.x + l.y ≤ gd.length ∧
      pointsImpl ends gd = .some (PiSt.new (gd.take l.flags) ((gd.drop l.flags).take l.x) ((gd.drop l.flags).drop l.x)) := by
  rcases pointsImpl_facts ends gd hb with h | ⟨l, _, _, _, h1, h2, _⟩
  · exact Or.inl h
  · exact Or.inr ⟨l, h1, h2⟩

/-- **`PointIter` is bounded by its flag bytes and its repeat counter never overflows**: for ANY three
slices the iterator stops after at most `256 · flags.len()` points, and neither `as u16 + 1` nor
`flag_repeats -= 1` traps. -/
theorem pointIter_bounded (flags xs ys : List Nat) (hb : Bytes flags) (hl : flags.length ≤ MAXU) :
    ∃ evs, run piStep (256 * flags.length + 1) (PiSt.new flags xs ys) = some evs ∧
      evs.length ≤ 256 * flags.length ∧ (items evs).length = evs.length ∧ trapped evs = false := by
  have hi := pinv_new flags xs ys hb hl
  have hphi : phi (PiSt.new flags xs ys) ≤ 256 * flags.length := by
    simp only [phi, PiSt.new, Cur.init, List.drop_zero, Nat.zero_add]
    exact cnt_le flags hb
  obtain ⟨evs, h1, h2, h3, h4⟩ := pi_run (256 * flags.length + 1) _ hi (by omega)
  exact ⟨evs, h1, by omega, by omega, h4⟩

/-- **`points()` yields exactly `num_points()` points or none at all**, without a panic: when
`points_impl` accepts the glyph the iterator produces precisely the `last end point + 1` points the flag
bytes were resolved for (so at most 65535, and at most 256 per flag byte); otherwise it is empty. -/
theorem points_exact (ends gd : List Nat) (hb : Bytes gd) (he : U16s ends) (hl : gd.length ≤ MAXU) :
    ∃ evs, points ends gd = some evs ∧ trapped evs = false ∧
      ((items evs).length = 0 ∨ numPoints ends = some (items evs).length) ∧
      (items evs).length ≤ 65535 ∧ (items evs).length ≤ 256 * gd.length := by
  unfold points
  rcases pointsImpl_facts ends gd hb with h | ⟨l, last, hlast, hT, hlen, himpl, hcnt⟩
  · rw [h]
    refine ⟨[], ?_, rfl, Or.inl rfl, by simp [items], by simp [items]⟩
    simp [run, piStep, advanceFlags, PiSt.new, Cur.init, Cur.read, readAt, checkedAdd, MAXU]
  · rw [himpl]
    dsimp only
    have hbt := bytes_of_take hb l.flags
    have hlt : (gd.take l.flags).length ≤ gd.length := by
      rw [List.length_take]; exact Nat.min_le_right _ _
    have hle := cnt_le _ hbt
    obtain ⟨evs, h1, h2, h3, h4⟩ := pi_run (256 * (gd.take l.flags).length + 1)
      (PiSt.new (gd.take l.flags) ((gd.drop l.flags).take l.x) ((gd.drop l.flags).drop l.x))
      (pinv_new _ _ _ hbt (by omega))
      (by show 0 + cnt ((gd.take l.flags).drop 0) < _; rw [List.drop_zero]; omega)
    have hphi : (items evs).length = last + 1 := by
      rw [h3]; show 0 + cnt ((gd.take l.flags).drop 0) = _; rw [List.drop_zero, hcnt]; omega
    obtain ⟨n, hn, _, hn2⟩ := numPoints_some ends he
    refine ⟨evs, h1, h4, Or.inr ?_, by omega, by omega⟩
    rw [hn, hn2 last hlast, hphi]

/-- **`read_points_fast` never panics**: `n_points - i` does not underflow, `flags[i..i + count]` and
`flags[i]` are in range, the byte counters do not overflow; the result is `Ok` with `num_points()`
points or `Err(InvalidArrayLen)` (wrong buffer lengths) / `Err(OutOfBounds)` (missing bytes) — for every
glyph, every pair of buffer lengths and every content of the caller's flag buffer. -/
theorem readPointsFast_safe (ends gd : List Nat) (he : U16s ends) (hb : Bytes gd) (hl : gd.length ≤ MAXU)
    (pl : Nat) (flags0 : List Nat) (mask : Nat) :
    readPointsFast ends gd pl flags0 mask = .err .invalidArrayLen ∨
    readPointsFast ends gd pl flags0 mask = .err .oob ∨
    ∃ pts, readPointsFast ends gd pl flags0 mask = .ok pts ∧ numPoints ends = some pts.length ∧
      pl = pts.length ∧ flags0.length = pts.length := by
  obtain ⟨n, hn, hn65, _⟩ := numPoints_some ends he
  have hsat : min (2 * n) MAXU = 2 * n := by unfold MAXU; omega
  unfold readPointsFast
  rw [hn]
  dsimp only
  rw [hsat]
  by_cases hlen : pl ≠ n ∨ flags0.length ≠ n
  · rw [if_pos hlen]; exact .inl rfl
  · rw [if_neg hlen]
    have hpl : pl = n := by omega
    have hfl : flags0.length = n := by omega
    have hk : (Cur.init.readArray gd (min (2 * n) (Cur.init.remainingBytes gd)) 1).1
        = .ok (min (2 * n) gd.length) := by
      have : Cur.init.remainingBytes gd = gd.length := by simp [Cur.remainingBytes, Cur.init]
      rw [this]
      exact readArray_u8 gd hl Cur.init _ (by simp [Cur.init]; exact Nat.min_le_right _ _)
    rw [hk]
    dsimp only
    have hn' : n ≤ MAXU := by unfold MAXU; omega
    have hkl : (gd.take (min (2 * n) gd.length)).length = min (2 * n) gd.length := by simp
    -- a glyph without points has no flag bytes and leaves the loop at once
    have hff : fastFlags n (gd.take (min (2 * n) gd.length)) 0 0 flags0 = .err .oob ∨
        ∃ rfb buf, fastFlags n (gd.take (min (2 * n) gd.length)) 0 0 flags0 = .ok (rfb, buf) ∧ buf.length = n := by
      by_cases h0 : n = 0
      · subst h0; exact .inr ⟨0, flags0, rfl, hfl⟩
      · exact fastFlags_facts n hn' _ 0 0 flags0 (bytes_of_take hb _) hfl (by omega)
          (by rw [hkl]; have := Nat.min_le_right (min (2 * n) MAXU) gd.length; omega)
    rcases hff with h | ⟨rfb, buf, h1, h2⟩
    · rw [h]; exact .inr (.inl rfl)
    · rw [h1]
      dsimp only
      rcases fastCoords_facts Glyf.X_SHORT Glyf.X_SAME gd buf (Cur.init.advanceBy rfb) 0 with h | ⟨xs, c1, hx1, hx2⟩
      · rw [h]; exact .inr (.inl rfl)
      · rw [hx1]
        dsimp only
        rcases fastCoords_facts Glyf.Y_SHORT Glyf.Y_SAME gd buf c1 0 with h | ⟨ys, c2, hy1, hy2⟩
        · rw [h]; exact .inr (.inl rfl)
        · rw [hy1]
          have hlen' : ((xs.zip (ys.zip buf)).map (fun t => (t.1, t.2.1, t.2.2 &&& mask))).length = n := by
            simp [hx2, hy2, h2]
          exact .inr (.inr ⟨_, rfl, by rw [hlen'], by rw [hlen', hpl], by rw [hlen', hfl]⟩)

/-- **`components()` terminates within one component per six bytes**: `len + 1` calls of `next`
suffice, at most `len / 6` components are yielded (each consumed at least flags + glyph id + two
argument bytes, all inside the data), and no call traps. -/
theorem components_bounded (d : List Nat) :
    ∃ evs, components d = some evs ∧ evs.length ≤ d.length ∧ (items evs).length ≤ d.length / 6 ∧
      trapped evs = false := by
  have hf := compStep_facts d
  have hstep : ∀ s, (compStep d s).1 ≠ .done → ∃ a, (compStep d s).1 = .yield a := by
    intro s hnd
    cases h : (compStep d s).1 with
    | done => exact absurd h hnd
    | trap => exact absurd h (hf s).1
    | cont => exact absurd h (hf s).2.1
    | «yield» a => exact ⟨a, rfl⟩
  obtain ⟨evs, he, hl, ht⟩ := run_bounded (compStep d) (fun s => d.length - s.c.pos) (fun _ => True)
    (fun s _ => ⟨trivial, (hf s).1, fun hnd => by
      obtain ⟨a, ha⟩ := hstep s hnd
      have := (hf s).2.2 a ha
      omega⟩)
    (d.length + 1) CSt.init trivial (by simp [CSt.init, Cur.init])
  have hy := yields_le (compStep d) (fun s => (d.length - s.c.pos) / 6) (fun _ => True) (fun _ _ => trivial)
    (fun s a _ hy => by have := (hf s).2.2 a hy; omega) (fun s _ hc => absurd hc (hf s).2.1)
    (d.length + 1) CSt.init evs trivial he
  exact ⟨evs, he, by simpa [CSt.init, Cur.init] using hl, by simpa [CSt.init, Cur.init] using hy, ht⟩

/-- **`component_glyphs_and_flags()` and `count_and_instructions()`**: the light iterator terminates
with at most `(len + 2) / 6 ≤ len / 4` items although it skips with `advance_by` (which may leave the
data); `count += 1` cannot overflow, the count equals the number of items, and an instruction slice
`start .. start + len` handed out lies inside `component_data()`. -/
theorem countAndInstructions_safe (d : List Nat) (hl : d.length ≤ MAXU) :
    ∃ evs count instr, glyphsAndFlags d = some evs ∧ countAndInstructions d = .ok (count, instr) ∧
      count = (items evs).length ∧ count ≤ (d.length + 2) / 6 ∧ count ≤ d.length / 4 ∧
      trapped evs = false ∧ (∀ a k, instr = some (a, k) → a + k ≤ d.length) := by
  obtain ⟨evs, c', s', he, hcl, hc', hle, ht⟩ :=
    gf_run d hl (d.length + 1) CSt.init 0 (by simp [CSt.init, Cur.init])
      (by simp [CSt.init, Cur.init]) (by simp [CSt.init, Cur.init])
  have h4 : c' ≤ d.length / 4 := by omega
  unfold glyphsAndFlags countAndInstructions
  rw [hcl]
  dsimp only
  by_cases hi : hasBit s'.curFlags Glyf.HAVE_INSTR = true
  · simp only [hi, if_true]
    rcases read_cases d s'.c 2 with ⟨c1, h1, _⟩ | ⟨len, c1, h1, r1⟩ <;> rw [h1]
    · exact ⟨evs, c', none, he, rfl, by omega, hle, h4, ht, fun a k h => by cases h⟩
    dsimp only
    cases h2 : (c1.readArray d len 1).1 with
    | error e => exact ⟨evs, c', none, he, rfl, by omega, hle, h4, ht, fun a k h => by cases h⟩
    | ok k =>
      have r2 := readArray_u8_ok h2
      refine ⟨evs, c', some (c1.pos, k), he, rfl, by omega, hle, h4, ht, ?_⟩
      intro a k' h
      injection h with h
      injection h with ha hk
      subst ha hk
      omega
  · simp only [hi, Bool.false_eq_true, if_false]
    exact ⟨evs, c', none, he, rfl, by omega, hle, h4, ht, fun a k h => by cases h⟩

/-- `instructions()` is the second component of `count_and_instructions()` -/
theorem instructions_eq (d : List Nat) (hl : d.length ≤ MAXU) :
    ∃ count instr, countAndInstructions d = .ok (count, instr) ∧ instructions d = .ok instr := by
  obtain ⟨_, count, instr, _, h2, _⟩ := countAndInstructions_safe d hl
  exact ⟨count, instr, h2, by simp [instructions, h2]⟩

/-! `Anchor::compute_flags` / `Transform::compute_flags`: the models are those of check C09, Model/Glyf.lean -/

/-- **a decoded anchor never needs wider arguments than its record had**: `Anchor::compute_flags` of an
anchor read from byte arguments does not ask for `ARG_1_AND_2_ARE_WORDS`, and it reproduces the
record's `ARGS_ARE_XY_VALUES` bit. -/
theorem anchorFlags_consistent (flags a b : Nat) (ha : a < 256) (hb : b < 256)
    (hw : hasBit flags ARG_WORDS = false) :
    (decodeAnchor flags a b).computeFlags = if hasBit flags ARGS_XY then ARGS_XY else 0 := by
  have hi8 : ∀ x : Int, -128 ≤ wrapI8 x ∧ wrapI8 x < 128 := by
    intro x; unfold wrapI8; dsimp only; split <;> omega
  unfold decodeAnchor
  by_cases hxy : hasBit flags ARGS_XY = true
  · rw [hxy, hw, if_pos rfl]
    dsimp only [Glyf.Anchor.computeFlags]
    rw [if_neg (by simp [hi8])]
    rfl
  · have hxy' : hasBit flags ARGS_XY = false := by simpa using hxy
    rw [hxy', if_neg (by simp)]
    dsimp only [Glyf.Anchor.computeFlags]
    rw [if_neg (by omega)]

/-- `Transform::compute_flags` names at most one of the three transform layouts -/
theorem transformFlags_range (t : Glyf.Transform) :
    t.computeFlags = 0 ∨ t.computeFlags = HAVE_SCALE ∨ t.computeFlags = HAVE_XY_SCALE ∨ t.computeFlags = HAVE_2X2 := by
  unfold Glyf.Transform.computeFlags
  split
  · right; right; right; rfl
  · split
    · right; right; left; rfl
    · split
      · right; left; rfl
      · left; rfl

/-- **`all_offsets_are_ascending` is exactly "no entry is larger than its successor"** (the `zip` with
`skip(1)` pairs every entry with the next one and nothing else). -/
theorem allAscending_iff (l : Loca) :
    l.allAscending = true ↔
      ∀ i a b, l.entries[i]? = some a → l.entries[i + 1]? = some b → a ≤ b := by
  unfold Loca.allAscending
  simp only [Bool.not_eq_true', List.any_eq_false, decide_eq_true_eq, Nat.not_lt]
  constructor
  · intro h i a b ha hb
    have hz : (l.entries.zip (l.entries.drop 1))[i]? = some (a, b) := by
      rw [List.getElem?_zip_eq_some]
      refine ⟨ha, ?_⟩
      rw [List.getElem?_drop, Nat.add_comm]; exact hb
    exact h (a, b) (List.mem_of_getElem? hz)
  · intro h p hp
    obtain ⟨i, hi⟩ := List.getElem?_of_mem hp
    have : (l.entries.zip (l.entries.drop 1))[i]? = some (p.1, p.2) := hi
    rw [List.getElem?_zip_eq_some] at this
    obtain ⟨ha, hb⟩ := this
    rw [List.getElem?_drop, Nat.add_comm] at hb
    exact h i p.1 p.2 ha hb

/-- **`Loca::read` succeeds exactly on whole entries**: `Ok` iff the length is a multiple of the entry
size (then `entries · size = len`, and short entries are u16s), else `InvalidArrayLen`. -/
theorem locaRead_total (d : List Nat) (hb : Bytes d) (isLong : Bool) :
    (∃ l, locaRead d isLong = .ok l ∧ l.long = isLong ∧
      l.entries.length * (if isLong then 4 else 2) = d.length ∧ LocaWf l) ∨
    (locaRead d isLong = .error .invalidArrayLen ∧ d.length % (if isLong then 4 else 2) ≠ 0) := by
  unfold locaRead HandRead.readArray getRange
  simp only [Nat.zero_le, Nat.le_refl, and_self, if_true, Nat.sub_zero]
  have hw : (if isLong = true then 4 else 2) ≠ 0 := by split <;> omega
  simp only [hw, if_false]
  by_cases hm : d.length % (if isLong = true then 4 else 2) ≠ 0
  · right; simp [hm]
  · left
    simp only [hm, if_false]
    refine ⟨_, rfl, rfl, ?_, ?_⟩
    · simp only [List.length_map, List.length_range]
      have : d.length % (if isLong = true then 4 else 2) = 0 := by simpa using hm
      exact Nat.div_mul_cancel (Nat.dvd_of_mod_eq_zero this)
    · intro hl v hv
      dsimp only at hl
      subst hl
      simp only [List.mem_map, List.mem_range] at hv
      obtain ⟨i, _, rfl⟩ := hv
      exact beAt2_lt d hb _

/-- **`get_raw` answers exactly the indices below the entry count** and the doubling of a short
entry does not overflow (`< 2^17`). -/
theorem getRaw_in_range (l : Loca) (hw : LocaWf l) (idx : Nat) :
    (idx < l.entries.length → ∃ v, l.getRaw idx = .ok (some v) ∧ (l.long = false → v < 131072)) ∧
    (l.entries.length ≤ idx → l.getRaw idx = .ok none) := by
  unfold Loca.getRaw
  constructor
  · intro h
    have he : l.entries[idx]? = some l.entries[idx] := List.getElem?_eq_getElem h
    rw [he]
    dsimp only
    by_cases hl : l.long = true
    · simp [hl]
    · have hl' : l.long = false := by simpa using hl
      have hv := hw hl' l.entries[idx] (List.getElem_mem h)
      simp only [hl', Bool.false_eq_true, if_false]
      rw [mulU32_eq (by omega)]
      exact ⟨_, rfl, fun _ => by omega⟩
  · intro h
    rw [List.getElem?_eq_none h]

/-- **the range `get_glyf` slices out of the glyf table is in bounds**: for every glyph id (u32) no
panic (`idx + 1` cannot overflow a usize); the only error is `OutOfBounds`; `Ok(None)` and a slice
need `gid + 1 < entries`, i.e. `gid < len()`; a slice satisfies `start < end ≤ glyf.len()`. -/
theorem getGlyf_range (l : Loca) (hw : LocaWf l) (glyfLen gid : Nat) (hg : gid ≤ 4294967295) :
    l.getGlyf glyfLen gid ≠ .trap ∧ (∀ e, l.getGlyf glyfLen gid = .err e → e = .oob) ∧
    (∀ a b, l.getGlyf glyfLen gid = .slice a b → a < b ∧ b ≤ glyfLen ∧ gid < l.len) ∧
    (l.getGlyf glyfLen gid = .none → gid < l.len) := by
  have g0 := getRaw_in_range l hw gid
  have g1 := getRaw_in_range l hw (gid + 1)
  unfold Loca.getGlyf Loca.len
  by_cases h0 : gid < l.entries.length
  · obtain ⟨start, hs, _⟩ := g0.1 h0
    rw [hs]
    dsimp only
    rw [addUsize_eq (by unfold MAXU; omega)]
    dsimp only
    by_cases h1 : gid + 1 < l.entries.length
    · obtain ⟨end_, he, _⟩ := g1.1 h1
      rw [he]
      dsimp only
      have h1' : gid < l.entries.length - 1 := by omega
      by_cases heq : start = end_
      · simp [heq, h1']
      · simp only [heq, if_false]
        unfold getRange
        by_cases hr : start ≤ end_ ∧ end_ ≤ glyfLen
        · simp only [hr, and_self, if_true]
          refine ⟨by simp, by simp, ?_, by simp⟩
          intro a b h
          injection h with ha hb
          subst ha hb
          exact ⟨by omega, hr.2, h1'⟩
        · simp [hr]
    · rw [g1.2 (by omega)]
      simp
  · rw [g0.2 (by omega)]
    simp

example : Bytes [0x09, 0xFF, 0x37] := by unfold Bytes; decide
example : U16s [3, 7, 0xFFFF] := by unfold U16s; decide
example : LocaWf ⟨false, [0, 5, 0xFFFF]⟩ := by unfold LocaWf; decide
example : LocaWf ⟨true, [0, 70000]⟩ := by unfold LocaWf; decide

-- one flag repeated 256 times + one more: 257 points, 513 coordinate bytes each
example : resolveCoordsLen [0x09, 0xFF, 0x37] 257 = .ok ⟨3, 513, 513⟩ := by decide
-- a repeat count beyond the points left is `MalformedData`, a truncated flag array `OutOfBounds`
example : resolveCoordsLen [0x09, 5, 0, 0] 2 = .err .malformed := by decide
example : resolveCoordsLen [0x01] 2 = .err .oob := by decide
-- contour end 0xFFFF: `checked_add(1)` fails, `points()` is empty although `num_points()` is 65536
example : numPoints [0xFFFF] = some 65536 := by decide
example : pointsImpl [0xFFFF] [0x37] = .none := by decide
example : (points [1] [0x37, 0x37, 1, 2, 3, 4]).map items = some [(1, 3, true), (3, 7, true)] := by decide +kernel
-- three points, the flag bytes cover two: `OutOfBounds`
example : readPointsFast [2] [0x37, 0x37] 3 [0, 0, 0] 1 = .err .oob := by decide
example : readPointsFast [1] [0x37, 0x37, 1, 2, 3, 4] 2 [0, 0] 1 = .ok [(1, 3, 1), (3, 7, 1)] := by decide +kernel
example : readPointsFast [1] [0x37, 0x37, 1, 2, 3, 4] 3 [0, 0] 1 = .err .invalidArrayLen := by decide
-- a composite: one component with word arguments and a scale, instructions follow
example : (components [0x01, 0x0B, 0, 5, 0xFF, 0xFE, 0, 2, 0x20, 0, 0, 1, 9]).map items =
    some [⟨0x010B, 5, .offset (-2) 2, ⟨8192, 0, 0, 8192⟩⟩] := by decide
example : countAndInstructions [0x01, 0x0B, 0, 5, 0xFF, 0xFE, 0, 2, 0x20, 0, 0, 1, 9] = .ok (1, some (12, 1)) := by decide
example : (locaRead [0, 0, 0, 5, 0, 5] false).toOption.map (fun l => (l.getGlyf 20 0, l.getGlyf 20 1, l.getGlyf 20 2, l.getGlyf 9 0)) =
    some (.slice 0 10, .none, .err .oob, .err .oob) := by decide

end FontVerif.C01HandGlyf
