/-
C16 (builders) — `PairPosBuilder` class rules (`ClassPairPosBuilder`), the whole `PairPosBuilder`,
`MarkToBaseBuilder`, and the class information / size loop of the MarkToBase split.
Model: Model/LayoutLookup.lean ⇄ write-fonts/src/tables/gpos/builders.rs,
write-fonts/src/graph/splitting/mark2base.rs.  Helper lemmas: Lemmas/LayoutClassPair.lean,
Lemmas/LayoutMarkBuilder.lean.
-/
import FontVerif.Props.C16Lookup
import FontVerif.Lemmas.LayoutClassPair
import FontVerif.Lemmas.LayoutMarkBuilder
namespace FontVerif.C16
open FontVerif.Layout

/-! ## class-pair rules

THE RULE OF THE CODE.  `insert_classes` rules are partitioned greedily into subtables: a rule joins
the current subtable iff each of its two classes either IS one of the subtable's classes (on that
side) or shares no glyph with any of them; otherwise a new subtable is started (never revisited).
Within a subtable a repeated (class 1, class 2) cell is OVERWRITTEN (`BTreeMap::insert`): the LAST
rule wins.  Across subtables the FIRST subtable whose first classes contain `g1` decides — with the
cell's value, or with the all-zero record if the cell has no rule (a PairPos format 2 subtable
matches every covered first glyph): the FIRST subtable wins. -/

/-- Feed ANY sequence of `insert_classes(class1, v,
class2, ..)` rules (glyphs of the first classes < 65536; any classes — overlapping, equal, empty —,
any values, repeated cells) to `ClassPairPosBuilder`.  `build` does not panic (no missing class id,
no row / cell index out of range, no empty subtable), emits one PairPos format 2 subtable per rule
group of `groupClassRules`, and for EVERY glyph pair the first-match lookup over the compiled
subtables is what the rules say (`classRulesValue`): the first group covering `g1` decides, with the
value of the LAST rule of that group whose classes contain `g1` and `g2`, or the empty record. -/
theorem class_pair_first_subtable_last_rule_wins {V : Type} (fmt : V → Nat × Nat)
    (rules : List (ClassRule V)) (hb : ∀ r ∈ rules, ∀ x ∈ r.c1, x < 65536) :
    ∃ outs, buildClassPairs fmt (ClassPairs.ofRules rules) = some outs ∧
      outs.length = (groupClassRules rules).length ∧
      ∀ g1 g2, firstMatch2 (outs.map (·.tbl)) g1 g2 = classRulesValue rules g1 g2 := by
  obtain ⟨heq, hok⟩ := ofRules_eq_groups (fun r => ∀ x ∈ r.c1, x < 65536) rules hb
  obtain ⟨outs, h1, h2, h3, _⟩ := mapOpt_groups fmt (groupClassRules rules) hok
  exact ⟨outs, by unfold buildClassPairs; rw [heq]; exact h1, h2, h3⟩

/-- When all rules fit one subtable, a pair whose glyphs are in
the classes of several rules gets the value of the LAST such rule; a pair whose first glyph is
covered but whose second glyph is in no second class (or in a cell without rule) gets the all-zero
record — it still matches. -/
theorem class_pair_cell_last_rule_wins {V : Type} (fmt : V → Nat × Nat)
    (rules : List (ClassRule V)) (hb : ∀ r ∈ rules, ∀ x ∈ r.c1, x < 65536)
    (hone : groupClassRules rules = [rules]) (g1 g2 : Nat)
    (hcov : ∃ r ∈ rules, g1 ∈ r.c1) :
    ∃ outs, buildClassPairs fmt (ClassPairs.ofRules rules) = some outs ∧
      firstMatch2 (outs.map (·.tbl)) g1 g2 =
        some ((rules.reverse.find? (fun r => r.c1.contains g1 && r.c2.contains g2)).map (·.v)) := by
  obtain ⟨outs, a, _, c⟩ := class_pair_first_subtable_last_rule_wins fmt rules hb
  refine ⟨outs, a, ?_⟩
  rw [c g1 g2]
  unfold classRulesValue
  rw [hone]
  obtain ⟨r, hr, hg⟩ := hcov
  have : rules.any (fun r => r.c1.contains g1) = true :=
    List.any_eq_true.mpr ⟨r, hr, List.contains_iff_mem.mpr hg⟩
  simp [classGroupValue]
  exact ⟨r, hr, hg⟩

/-- A first glyph that is in no first class of any rule matches
no class subtable: the lookup yields nothing for every second glyph. -/
theorem class_pair_no_rule_nothing {V : Type} (fmt : V → Nat × Nat)
    (rules : List (ClassRule V)) (hb : ∀ r ∈ rules, ∀ x ∈ r.c1, x < 65536) (g1 g2 : Nat)
    (hno : ∀ r ∈ rules, g1 ∉ r.c1) :
    ∃ outs, buildClassPairs fmt (ClassPairs.ofRules rules) = some outs ∧
      firstMatch2 (outs.map (·.tbl)) g1 g2 = none := by
  obtain ⟨outs, a, _, c⟩ := class_pair_first_subtable_last_rule_wins fmt rules hb
  refine ⟨outs, a, ?_⟩
  rw [c g1 g2]
  unfold classRulesValue
  rw [List.findSome?_eq_none_iff]
  intro grp hgrp
  have hsub := ((ofRules_eq_groups (fun r => r ∈ rules) rules (fun r hr => hr)).2 grp hgrp).2.2
  unfold classGroupValue
  have : grp.any (fun r => r.c1.contains g1) = false := by
    rw [List.any_eq_false]
    intro r hr hcon
    exact hno r (hsub r hr) (List.contains_iff_mem.mp hcon)
  simp
  exact fun x hx => hno x (hsub x hx)

/-- Every compiled class subtable is written with
value formats (`compute_value_formats`: the union over its cells) that contain every field of
every value the subtable can return: for any pair answered with a rule's value `v`, all bits of
`fmt v` are set in the subtable's two value formats — `with_explicit_value_format` drops nothing. -/
theorem class_pair_value_format_covers_all_cells {V : Type} (fmt : V → Nat × Nat)
    (rules : List (ClassRule V)) (hb : ∀ r ∈ rules, ∀ x ∈ r.c1, x < 65536) :
    ∃ outs, buildClassPairs fmt (ClassPairs.ofRules rules) = some outs ∧
      ∀ out ∈ outs, ∀ g1 g2 v, out.tbl.lookup g1 g2 = some (some v) →
        (fmt v).1 ||| out.vf1 = out.vf1 ∧ (fmt v).2 ||| out.vf2 = out.vf2 := by
  obtain ⟨heq, hok⟩ := ofRules_eq_groups (fun r => ∀ x ∈ r.c1, x < 65536) rules hb
  obtain ⟨outs, h1, h2, _, h4⟩ := mapOpt_groups fmt (groupClassRules rules) hok
  refine ⟨outs, by unfold buildClassPairs; rw [heq]; exact h1, ?_⟩
  intro out hout g1 g2 v hl
  obtain ⟨i, hi, rfl⟩ := List.getElem_of_mem hout
  have hi' : i < (groupClassRules rules).length := by rw [← h2]; exact hi
  obtain ⟨hv1, hv2⟩ := h4 i hi hi'
  -- the subtable is the one compiled from group i
  have hg := hok _ (List.getElem_mem hi')
  obtain ⟨out', hb', _, _, hlook⟩ := subOf_build_lookup fmt _ hg.1 hg.2.1 hg.2.2
  have hsame : out' = outs[i] := by
    have := (mapOpt_eq_some _ _ _ h1).2 i
    rw [List.getElem?_eq_getElem hi, List.getElem?_map, List.getElem?_eq_getElem hi', Option.map_some,
      Option.bind_some, hb'] at this
    exact (Option.some.inj this).symm
  subst hsame
  rw [hlook] at hl
  obtain ⟨e, he, rfl⟩ := classGroupValue_mem_items _ g1 g2 v hl
  have := (computeValueFormats_covers fmt (subOf (groupClassRules rules)[i]).items (0, 0)).2 e he
  rw [hv1, hv2]
  exact this

/-- Feed ANY `insert_pair` rules and ANY `insert_classes` rules (in
any interleaving: the two halves are independent) to `PairPosBuilder`.  `build` emits the glyph-pair
subtables (format 1, one per value-format key) BEFORE the class subtables (format 2, one per rule
group), and for EVERY glyph pair the first match of the compiled lookup is what the input rules say
(`pairRulesValue`): the FIRST `insert_pair` rule for the pair if there is one — whatever its value,
also all-zero —, else the class rules' answer (first group covering `g1`, last rule of the cell, or
the empty record), else nothing. -/
theorem pair_builder_first_match {V : Type} (fmtKey : V → Nat) (fmt : V → Nat × Nat)
    (pairRules : List ((Nat × Nat) × V)) (classRules : List (ClassRule V))
    (hb1 : ∀ r ∈ pairRules, r.1.1 < 65536) (hb2 : ∀ r ∈ classRules, ∀ x ∈ r.c1, x < 65536) :
    ∃ ts, buildPairPos fmtKey fmt (GlyphPairs.ofRules pairRules) (ClassPairs.ofRules classRules) = some ts ∧
      ∀ g1 g2, firstMatchPair ts g1 g2 = pairRulesValue pairRules classRules g1 g2 := by
  obtain ⟨outs, a, _, c⟩ := class_pair_first_subtable_last_rule_wins fmt classRules hb2
  refine ⟨_, by unfold buildPairPos; rw [a], fun g1 g2 => ?_⟩
  unfold firstMatchPair pairRulesValue
  rw [List.findSome?_append, List.findSome?_map, List.findSome?_map]
  have h1 : ((fun t : PairSub (Option V) => t.lookup g1 g2) ∘ fun t : PairPos1 V =>
      PairSub.f1 ⟨t.cov, t.pairSets.map (·.map (fun p => (p.1, some p.2)))⟩) =
      fun t => (t.lookup g1 g2).map some := by
    funext t
    exact PairPos1.lookup_wrap t g1 g2
  have h2 : ((fun t : PairSub (Option V) => t.lookup g1 g2) ∘ fun c : ClassPairOut V => PairSub.f2 c.tbl) =
      fun c => c.tbl.lookup g1 g2 := rfl
  rw [h1, h2]
  have hg := glyph_pair_first_rule_wins fmtKey pairRules hb1 g1 g2
  unfold firstMatch at hg
  have hc := c g1 g2
  unfold firstMatch2 at hc
  rw [List.findSome?_map] at hc
  have hc' : outs.findSome? (fun c => c.tbl.lookup g1 g2) = classRulesValue classRules g1 g2 := hc
  rw [hc']
  rw [show (fun t : PairPos1 V => (t.lookup g1 g2).map some) = Option.map some ∘ fun t => t.lookup g1 g2 from rfl,
    ← List.map_findSome?, hg]
  cases pairRules.find? (fun r => r.1.1 == g1 && r.1.2 == g2) with
  | none => rfl
  | some r => rfl

/-- End to end at the model level: compile ANY `insert_pair`
and `insert_classes` rules with `PairPosBuilder`, then split ANY subset of the resulting subtables at
ANY admissible points (`split_subtables` puts the pieces in place): the lookup does not panic on the
way and for EVERY glyph pair its first match is still what the input rules say. -/
theorem pair_builder_then_split_first_match {V : Type} (fmtKey : V → Nat) (fmt : V → Nat × Nat)
    (pairRules : List ((Nat × Nat) × V)) (classRules : List (ClassRule V))
    (hb1 : ∀ r ∈ pairRules, r.1.1 < 65536) (hb2 : ∀ r ∈ classRules, ∀ x ∈ r.c1, x < 65536)
    (choice : List (Option (List Nat)))
    (hv : ∀ ts, buildPairPos fmtKey fmt (GlyphPairs.ofRules pairRules) (ClassPairs.ofRules classRules) = some ts →
      AllValid PairSub.ValidChoice ts choice) :
    ∃ ts ts', buildPairPos fmtKey fmt (GlyphPairs.ofRules pairRules) (ClassPairs.ofRules classRules) = some ts ∧
      splitLookupWith PairSub.splitAt ts choice = some ts' ∧
      ∀ g1 g2, firstMatchPair ts' g1 g2 = pairRulesValue pairRules classRules g1 g2 := by
  obtain ⟨ts, a, b⟩ := pair_builder_first_match fmtKey fmt pairRules classRules hb1 hb2
  obtain ⟨ts', c, d⟩ := pair_lookup_split_preserves_first_match ts choice (hv ts a)
  exact ⟨ts, ts', a, c, fun g1 g2 => by rw [d, b]⟩

/-- three rules: the second overwrites the first's cell, the third overlaps class {5, 6} and opens
a second subtable -/
def exClassRules : List (ClassRule (Nat × Nat × Nat)) :=
  [⟨[5, 6], [9], (4, 0, 100)⟩, ⟨[7], [8], (5, 4, 200)⟩, ⟨[5, 6], [9], (4, 0, 300)⟩, ⟨[5], [9], (4, 0, 400)⟩]

example : (groupClassRules exClassRules).map (·.map (·.v.2.2)) = [[100, 200, 300], [400]] := by
  decide +kernel
example : (buildClassPairs (fun v => (v.1, v.2.1)) (ClassPairs.ofRules exClassRules)).map
    (·.map (fun o => (o.tbl.rows.map (·.map (fun c => (c.map (·.2.2)).getD 0)), o.vf1, o.vf2))) =
    some [([[0, 0, 300], [0, 200, 0]], 5, 4), ([[0, 400]], 4, 0)] := by decide +kernel
/-- pair (5, 9): the LAST rule of the first subtable's cell (300), not the later subtable (400);
pair (5, 8): covered, no rule for the cell: the empty record; glyph 4: nothing -/
example : classRulesValue exClassRules 5 9 = some (some (4, 0, 300)) ∧
    classRulesValue exClassRules 5 8 = some none ∧ classRulesValue exClassRules 4 9 = none := by
  decide +kernel
/-- `pos A V 0;` before a class rule covering A and V: the explicit zero wins -/
example : pairRulesValue [((5, 9), (4, 0, 0))] exClassRules 5 9 = some (some (4, 0, 0)) := by
  decide +kernel

/-- Apply ANY sequence of `insert_mark(glyph, class name, anchor)`
/ `insert_base(glyph, class name, anchor)` calls (glyphs < 65536) that does not panic (`insert_base`
for a class name no mark has used yet panics: `expect("marks added before bases")`) to an empty
`MarkToBaseBuilder`.  `build` does not panic (every class id indexes the base record), the mark
class count is the number of distinct class names, and for EVERY (mark, base) pair the compiled
MarkBasePos subtable answers what the inserts say: the LAST `insert_mark` of the mark glyph gives
its class and mark anchor (also when it moved the glyph to another class and returned `Err`), the
LAST `insert_base` of the base glyph for that class gives the base anchor; a base without an anchor
for the mark's class has a NULL offset there and does not match. -/
theorem markbase_builder_reads_back {A : Type} (ops : List (MbOp A))
    (hg : ∀ op ∈ ops, op.glyph < 65536) (b : MarkToBase A)
    (hb : MarkToBase.ofOps ops MarkToBase.empty = some b) :
    ∃ t, b.build = some t ∧ t.classCount = b.marks.classes.length ∧
      ∀ m bg, t.lookup m bg = mbExpected ops m bg :=
  mbInv_build_lookup ops b (mbInv_ofOps ops hg b hb)

/-- class ids are handed out in the order in which class names first appear: `0, 1, 2, …` -/
theorem markbase_builder_class_ids {A : Type} (ops : List (MbOp A))
    (hg : ∀ op ∈ ops, op.glyph < 65536) (b : MarkToBase A)
    (hb : MarkToBase.ofOps ops MarkToBase.empty = some b) :
    b.marks.classes.map (·.2) = List.range b.marks.classes.length ∧
    (b.marks.classes.map (·.1)).Nodup :=
  (mbInv_ofOps ops hg b hb).classes

/-- the built subtable meets the mark-side hypotheses of `markbase_split_preserves` (well-formed mark
coverage, one mark record per covered mark); given base records of `classCount` entries (which
`MarkToBase.build_rows_length` proves of it) it can be split at any points without changing a lookup -/
theorem markbase_builder_then_split {A : Type} (ops : List (MbOp A))
    (hg : ∀ op ∈ ops, op.glyph < 65536) (b : MarkToBase A)
    (hb : MarkToBase.ofOps ops MarkToBase.empty = some b) (t : MarkBase A) (ht : b.build = some t)
    (hrows : ∀ row ∈ t.bases, row.length = t.classCount)
    (pts : List Nat) (hinc : pts.Pairwise (· ≤ ·)) (hlast : pts.getLast? = some t.classCount) :
    ∃ ts, splitMarkBaseGo t 0 pts = some ts ∧ ∀ m bg, firstMatchMB ts m bg = mbExpected ops m bg := by
  have inv := mbInv_ofOps ops hg b hb
  obtain ⟨t', ht', _, hl⟩ := mbInv_build_lookup ops b inv
  rw [ht] at ht'; cases ht'
  have hcov : t.markCov = buildCoverage (b.marks.glyphs.map (·.1)) ∧ t.marks = b.marks.glyphs.map (·.2) := by
    unfold MarkToBase.build at ht
    simp only at ht
    split at ht
    · cases ht
    · cases ht; exact ⟨rfl, rfl⟩
  have ⟨w, e⟩ := buildCoverage_wf (b.marks.glyphs.map (·.1)) inv.mwf.keys_bound
  obtain ⟨ts, a, _, c⟩ := markbase_split_preserves t (by rw [hcov.1]; exact w)
    (by rw [hcov.1, hcov.2, e, sortDedup_of_sorted inv.mwf.keys_sorted]; simp) hrows pts hinc hlast
  exact ⟨ts, a, fun m bg => by rw [c, hl]⟩

/-! ## the MarkToBase split: `get_class_info` and the size loop

KNOWN FINDING `C16-markbase-null-anchor-class-info`, as theorems.  `get_class_info` attributes the
base anchors to mark classes by cutting the base array's offset list — which holds only the
NON-NULL anchors — into chunks of `mark_class_count`.  The attribution only feeds the size
estimate (the split points); the marks of a class, which drive the split itself, are taken from the
mark records and are always right. -/

/-- the children of class `c`: its mark anchors, then entry `c` of every complete chunk -/
theorem class_info_children (k : Nat) (recs : List (Nat × Nat)) (offs : List Nat) (c : Nat) (hc : c < k) :
    ((getClassInfo k recs offs)[c]?).map (·.children) =
      some ((((List.range recs.length).filter (fun i => (recs.getD i (0, 0)).1 == c)).map
          (fun i => (recs.getD i (0, 0)).2)) ++
        (chunksExact k offs).filterMap (fun ch => ch[c]?)) := by
  simp [getClassInfo, hc]

/-- When every base record has an anchor for every mark class,
the real attribution IS the column-wise one. -/
theorem class_info_exact_without_nulls (k : Nat) (recs : List (Nat × Nat))
    (rows : List (List (Option Nat))) (hfull : ∀ row ∈ rows, FullRow k row) :
    getClassInfo k recs (baseOffsetsOf rows) = idealClassInfo k recs rows := by
  unfold getClassInfo idealClassInfo
  by_cases hk : k = 0
  · subst hk; rfl
  · have hk' : 0 < k := Nat.pos_of_ne_zero hk
    have hch : chunksExact k (baseOffsetsOf rows) = rows.map (fun row => row.filterMap id) := by
      unfold baseOffsetsOf
      rw [List.flatMap_def]
      apply chunksExact_flatten k hk'
      intro r hr
      obtain ⟨row, hrow, rfl⟩ := List.mem_map.mp hr
      exact (fullRow_filterMap k row (hfull row hrow)).1
    apply List.map_congr_left
    intro c _
    rw [hch, List.filterMap_map]
    have : List.filterMap ((fun ch : List Nat => ch[c]?) ∘ fun row => List.filterMap id row) rows =
        List.filterMap (fun row => (row[c]?).join) rows := by
      apply filterMap_congr'
      intro row hrow
      exact (fullRow_filterMap k row (hfull row hrow)).2 c
    simp only [this]

-- the proof does not use `hp` (for `p ≥ offs.length` both sides are `none`); the linter is off for that binder
set_option linter.unusedVariables false in
/-- The `p`-th non-null base anchor (row-major) is attributed to class
`p % k` (as entry `p / k` of that class' chunk column) — unless it lies in the incomplete last
chunk, which `chunks_exact` drops: then it is attributed to NO class. -/
theorem class_info_chunk_position (k : Nat) (hk : 0 < k) (offs : List Nat) (p : Nat)
    (hp : p < offs.length) :
    ((chunksExact k offs)[p / k]?).bind (·[p % k]?) =
      if p / k < offs.length / k then offs[p]? else none :=
  chunksExact_getElem k hk offs p

/-- Let `cells` be the base anchor matrix in row-major order
(`k` offsets per base record, `none` = null) and let the cell at flat position `f` hold anchor `x`
(so its true mark class is `f % k`).  In the offset list that `get_class_info` chunks, `x` sits at
position `p = f − (number of null cells before f)`, so it is attributed to class `p % k`; that is
the true class EXACTLY when the number of null offsets before it is a multiple of `k`. -/
theorem class_info_misattributes_iff (k : Nat) (hk : 0 < k) (cells : List (Option Nat)) (f x : Nat)
    (h : cells[f]? = some (some x)) :
    (cells.filterMap id)[nonNullBefore cells f]? = some x ∧
    nonNullBefore cells f + nullsBefore cells f = f ∧
    (nonNullBefore cells f % k = f % k ↔ nullsBefore cells f % k = 0) := by
  have hf : f < cells.length := by
    rcases Nat.lt_or_ge f cells.length with h' | h'
    · exact h'
    · rw [List.getElem?_eq_none h'] at h; cases h
  have hsum := nonNull_add_nulls cells f (Nat.le_of_lt hf)
  refine ⟨baseOffsets_position cells f x h, hsum, ?_⟩
  rw [mod_eq_iff_sub_mod k f _ hk (by omega)]
  have : f - nonNullBefore cells f = nullsBefore cells f := by omega
  rw [this]

/-- Whatever the class information says (the real chunked attribution, the
column-wise one, anything) and whatever the object sizes are, the split points the size loop of
`split_mark_to_base_subtable` computes are strictly increasing, never exceed the class count and
end with the class count. -/
theorem mb_points_valid (obj : Nat → AnchorObj) (baseCovSize baseCount : Nat)
    (infos : List MbClassInfo) (pts : List Nat)
    (h : mbSplitPoints obj baseCovSize baseCount infos = some pts) :
    pts.Pairwise (· < ·) ∧ pts.getLast? = some infos.length ∧ ∀ p ∈ pts, p ≤ infos.length :=
  (idxLoop_pointsBelow (loop := mbLoop obj (16 + baseCovSize) baseCount) (fun _ _ => rfl)
    (fun _ _ _ _ => rfl) MbAcc.points (mbStep_points obj _ baseCount) infos
    ⟨4, 16 + baseCovSize, [], []⟩ rfl).of_result h

/-- Take ANY MarkBasePos subtable (well-formed mark
coverage, one record per mark, `classCount` offsets per base record — null or not) and run the
size loop on the class information the REAL `get_class_info` computes from ANY mark-record object
ids, ANY base offset list (in particular the non-null offsets of a matrix with nulls, where the
attribution is wrong) and ANY object sizes.  If it decides to split, the split does not panic and
every (mark, base) pair keeps its anchors: the mis-attribution changes WHERE the subtable is cut
(hence the size of the pieces, hence possibly `PackingFailed`), never WHAT a lookup answers. -/
theorem markbase_split_real_class_info_preserves {A : Type} (t : MarkBase A) (hwf : t.markCov.WF)
    (hlen : t.marks.length = t.markCov.glyphs.length)
    (hrows : ∀ row ∈ t.bases, row.length = t.classCount)
    (obj : Nat → AnchorObj) (baseCovSize baseCount : Nat) (recs : List (Nat × Nat)) (offs : List Nat)
    (pts : List Nat)
    (h : mbSplitPoints obj baseCovSize baseCount (getClassInfo t.classCount recs offs) = some pts) :
    ∃ ts, splitMarkBaseGo t 0 pts = some ts ∧ ts.length = pts.length ∧
      ∀ m b, firstMatchMB ts m b = t.lookup m b := by
  have ⟨pw, last, _⟩ := mb_points_valid obj baseCovSize baseCount _ pts h
  rw [getClassInfo_length] at last
  exact markbase_split_preserves t hwf hlen hrows pts (pw.imp (fun h => Nat.le_of_lt h)) last

/-- marks 20 (class "1", then moved to class "2": `Err`), 21 (class "2"); base 5 gets anchors for
both classes (the second insert for class "2" wins), base 6 only for class "1" -/
def exMbOps : List (MbOp Nat) :=
  [.mark 20 1 100, .mark 21 2 101, .mark 20 2 102, .base 5 1 200, .base 5 2 201, .base 5 2 202, .base 6 1 203]

example : ((MarkToBase.ofOps exMbOps MarkToBase.empty).bind MarkToBase.build).map
    (fun t => (t.classCount, t.marks, t.bases)) =
    some (2, [(1, 102), (1, 101)], [[some 200, some 202], [some 203, none]]) := by decide +kernel
example : mbExpected exMbOps 20 5 = some (102, 202) ∧ mbExpected exMbOps 20 6 = none ∧
    mbExpected exMbOps 22 5 = none := by decide +kernel
/-- a base before any mark of its class: the builder panics -/
example : MarkToBase.ofOps [MbOp.mark 20 1 100, .base 5 2 200] MarkToBase.empty = none := by
  decide +kernel
/-- the finding in miniature: 2 classes, base records `[a1, null]`, `[a2, a3]`.  Column-wise: class 0
has `a1, a2`, class 1 has `a3`.  `get_class_info` chunks `[a1, a2, a3]` by 2: class 0 gets `a1`,
class 1 gets `a2` (wrong), `a3` is dropped. -/
example : (getClassInfo 2 [] (baseOffsetsOf [[some 1, none], [some 2, some 3]])).map (·.children) = [[1], [2]] ∧
    (idealClassInfo 2 [] [[some 1, none], [some 2, some 3]]).map (·.children) = [[1, 2], [3]] := by
  decide +kernel
/-- anchor `a2` (flat position 2, one null before it): 1 % 2 ≠ 0, mis-attributed -/
example : nullsBefore [some 1, none, some 2, some 3] 2 = 1 ∧ nonNullBefore [some 1, none, some 2, some 3] 2 = 1 := by
  decide
/-- the size loop does produce split points: 3 classes of one mark each, 30000-byte anchors -/
example : mbSplitPoints (fun _ => ⟨30000, []⟩) 10 1 (getClassInfo 3 [(0, 1), (1, 2), (2, 3)] []) = some [2, 3] := by
  decide +kernel

end FontVerif.C16
