/-
C09 — glyph outlines written to glyf/loca are the outlines read (and drawn) back.
Property theorems only; helper lemmas live in Lemmas/Glyf*.lean.
Model: Model/Glyf.lean
  writer  write-fonts/src/tables/glyf/simple.rs (compute_point_deltas, flag_and_delta,
          RepeatableFlag::iter_from_flags, SimpleGlyph::write_into), composite.rs, glyf_loca_builder.rs,
          loca.rs (LocaFormat::new, Loca::write_into)
  reader  read-fonts/src/tables/glyf.rs (SimpleGlyph::read, points()/PointIter [the FIXED code, commit
          1fdb446], resolve_coords_len, read_points_fast, ComponentIter, count_and_instructions),
          read-fonts/src/tables/loca.rs (Loca::read, get_raw, get_glyf),
          write-fonts simple.rs `FromObjRef` (contoursOf).
`SimpleGlyph::from_bezpath` is modelled (Model/GlyfPath.lean) for INTEGER-coordinate paths only (f64
rounding and the `isclose` tolerance are not modelled); skrifa's unscaled draw is `drawUnscaled` over
Model/ToPath.lean (C12's model of outline/path.rs).  Non-integer paths are exercised by nobody; integer
paths additionally by the harness oracle `bezpath-draws-back` on the real code.
-/
import FontVerif.Model.Glyf
import FontVerif.Lemmas.Glyf
import FontVerif.Lemmas.GlyfBytes
import FontVerif.Lemmas.GlyfRuns
import FontVerif.Lemmas.GlyfComp
import FontVerif.Lemmas.GlyfPath
namespace FontVerif.C09
open FontVerif.Glyf FontVerif.GlyfPath

/-- For every list of point flags (bytes without the repeat bit — what
`compute_point_deltas` produces, see `point_flags_ok`) the items emitted by
`RepeatableFlag::iter_from_flags` expand, as every reader expands them (`repeat + 1` copies when the
repeat bit is set, repeat bit ignored afterwards), to exactly the input flags.  All run lengths:
1, 2 (split into two plain flags), 3…256 (one item), 257+ (several items). -/
theorem flags_rle_roundtrip (fs : List Nat) (h : ∀ f ∈ fs, FlagOk f) :
    expandItems (iterFromFlags none fs) = fs :=
  iterFromFlags_expand fs h

/-- Every emitted item has `repeat ≤ 255` (the writer's `u8` counter never
overflows: `last.repeat += 1` is guarded by `< u8::MAX`), its flag is a byte, and the repeat bit is set
iff `repeat > 0` — the writer's `debug_assert_eq!` in `RepeatableFlag::write_into` can never fire. -/
theorem rle_items_wf (fs : List Nat) (h : ∀ f ∈ fs, FlagOk f) :
    ∀ i ∈ iterFromFlags none fs,
      i.rep ≤ 255 ∧ i.flag < 256 ∧ hasBit i.flag REPEAT = decide (0 < i.rep) :=
  iterFromFlags_wf fs h

/-- the flags computed by `compute_point_deltas` never carry the repeat bit and fit a byte -/
theorem point_flags_ok (pts : List Point) (lx ly : Int) (ds : List PointDelta)
    (h : computePointDeltas lx ly pts = some ds) : ∀ f ∈ ds.map (·.flag), FlagOk f :=
  computePointDeltas_flags pts lx ly ds h

/-- The number of flag bytes written equals `optCost fs` — the sum over the
maximal runs of equal flags of `runCost L = 2·⌊L/256⌋ + min (L mod 256) 2` — and NO sequence of flag
items (one byte = one flag, two bytes = up to 256 flags) that expands to the same flags is shorter. -/
theorem rle_length_optimal (fs : List Nat) (h : ∀ f ∈ fs, FlagOk f) :
    ((iterFromFlags none fs).flatMap RepeatableFlag.bytes).length = optCost fs ∧
    ∀ items : List RepeatableFlag, (∀ i ∈ items, i.rep ≤ 255) → expandItems items = fs →
      optCost fs ≤ (items.flatMap RepeatableFlag.bytes).length := by
  refine ⟨?_, ?_⟩
  · rw [flatMap_bytes_length, iterFromFlags_cost fs h]
  · intro items hi he
    rw [flatMap_bytes_length, ← he]
    exact optCost_le_any items hi

/-- `runCost` in closed form (what "canonical shortest" means for one run of `n` equal flags). -/
theorem runCost_closed (n : Nat) : runCost n = 2 * (n / 256) + min (n % 256) 2 :=
  runCost_eq_min n

example : runCost 1 = 1 ∧ runCost 2 = 2 ∧ runCost 3 = 2 ∧ runCost 255 = 2 ∧ runCost 256 = 2
    ∧ runCost 257 = 3 ∧ runCost 258 = 4 ∧ runCost 300 = 4 ∧ runCost 512 = 4 ∧ runCost 513 = 5 := by
  decide

/-- fewest bytes a glyf coordinate delta can occupy -/
def coordCost (v : Int) : Nat := if v = 0 then 0 else if -255 ≤ v ∧ v ≤ 255 then 1 else 2

/-- `flag_and_delta` writes 0 bytes iff the delta is 0, 1 byte iff
0 < |delta| ≤ 255, else 2. -/
theorem coord_bytes_written (v : Int) (S P : Nat) :
    (flagAndDelta v S P).2.bytes.length = coordCost v := by
  unfold flagAndDelta coordCost
  split
  · rfl
  · rename_i h0
    split
    · rename_i hn
      rw [if_pos (by omega : -255 ≤ v ∧ v ≤ 255)]; rfl
    · rename_i hn
      split
      · rename_i hp
        rw [if_pos (by omega : -255 ≤ v ∧ v ≤ 255)]; rfl
      · rename_i hp
        rw [if_neg (by omega : ¬ (-255 ≤ v ∧ v ≤ 255))]
        exact be16_length v

/-- Under every (short, same/positive) flag combination, a reader that
decodes the value `v` from a byte stream consumes at least `coordCost v` bytes: together with
`coord_bytes_written`, no glyf encoding of a delta is shorter than the writer's. -/
theorem coord_bytes_minimal (v : Int) (short same : Bool) (cur : List Nat)
    (hb : ∀ b ∈ cur, b < 256) (hv : (readDelta short same cur).1 = v) :
    coordCost v ≤ cur.length - (readDelta short same cur).2.length := by
  have hlen : (readDelta short same cur).2.length ≤ cur.length ∧
      (short = true → (readDelta short same cur).2.length + 1 ≤ cur.length ∨
        (readDelta short same cur).1 = 0) ∧
      (short = false → same = false → (readDelta short same cur).2.length + 2 ≤ cur.length ∨
        (readDelta short same cur).1 = 0) ∧
      (short = true → -255 ≤ (readDelta short same cur).1 ∧ (readDelta short same cur).1 ≤ 255) ∧
      (short = false → same = true → (readDelta short same cur).1 = 0) := by
    cases short <;> cases same
    · cases cur with
      | nil => simp [readDelta, readI16]
      | cons a r =>
        cases r with
        | nil => simp [readDelta, readI16]
        | cons b r' =>
          refine ⟨?_, fun h => (by cases h), fun _ _ => Or.inl ?_, fun h => (by cases h),
            fun _ h => (by cases h)⟩
          · simp only [readDelta, readI16, List.length_cons]; omega
          · simp only [readDelta, readI16, List.length_cons]; omega
    · simp [readDelta]
    · cases cur with
      | nil => simp [readDelta, readU8]
      | cons a r =>
        have := hb a (by simp)
        simp [readDelta, readU8]
        omega
    · cases cur with
      | nil => simp [readDelta, readU8]
      | cons a r =>
        have := hb a (by simp)
        simp [readDelta, readU8]
        omega
  rw [hv] at hlen
  unfold coordCost
  obtain ⟨h1, h2, h3, h4, h5⟩ := hlen
  -- per flag combination `hlen` bounds the bytes consumed from below unless `v = 0`, and bounds `v` when one byte is
  -- read; `coordCost` splits on `v = 0` / `|v| ≤ 255`: linear arithmetic
  cases short <;> cases same <;> simp only [forall_const, Bool.false_eq_true, false_implies]
    at h2 h3 h4 h5 <;> (repeat' split) <;> omega

/-- Take ANY simple glyph with at least one contour whose bounding
box and coordinates are `i16` values and which has at most 65535 points.  If the writer
(`SimpleGlyph::write_into`) does not panic — i.e. (`write_simple_ok_iff`) fewer than 32767 contours,
at most 65535 instruction bytes (`fix:` 60d64c5), a non-empty first contour and successive deltas representable in
`i16` — then the generated reader parses the bytes, and
* contour count, bounding box and instructions are the glyph's;
* the end points are the format's (`endSpec`: index of each contour's last point);
* the slow decoder `points()` (`resolve_coords_len` + `PointIter`) returns exactly the points
  (coordinates and on-curve flags, in order) — for every flag run length, incl. runs > 256 that are
  written with repeat byte 255;
* the fast decoder `read_points_fast` returns the same coordinates and on-curve bits;
* write-fonts' `FromObjRef` cuts those points back into exactly the original contours. -/
theorem simple_glyph_roundtrip (g : SimpleGlyph) (bytes : List Nat)
    (hbox : inI16 g.xMin ∧ inI16 g.yMin ∧ inI16 g.xMax ∧ inI16 g.yMax)
    (hpts : PointsInRange g.contours.flatten)
    (hmax : g.contours.flatten.length ≤ 65535)
    (hne : g.contours ≠ [])
    (hw : writeSimple g = some bytes) :
    ∃ v, readSimple bytes = some v ∧
      v.nContours = g.contours.length ∧
      v.xMin = g.xMin ∧ v.yMin = g.yMin ∧ v.xMax = g.xMax ∧ v.yMax = g.yMax ∧
      v.endPts = endSpec 0 g.contours ∧
      v.instructions = g.instructions ∧
      v.points = g.contours.flatten ∧
      v.readPointsFast =
        some (g.contours.flatten.map (fun p => (p.x, p.y, if p.on then 1 else 0))) ∧
      contoursOf 0 v.endPts v.points = some g.contours := by
  obtain ⟨hlc, hli, ⟨he, _⟩ | ⟨_, eps, ds, heps, hds, hw⟩⟩ := writeSimple_some g bytes hw
  · exact absurd he hne
  obtain ⟨pad, hpad, _⟩ := padEven_cases
    (be16 g.contours.length ++ be16 g.xMin ++ be16 g.yMin ++ be16 g.xMax
    ++ be16 g.yMax ++ eps.flatMap (fun (e : Nat) => be16 (e : Int)) ++ be16 g.instructions.length
    ++ g.instructions ++ flagBytes ds ++ xBytes ds ++ yBytes ds)
  rw [hpad] at hw
  have hel := endPts_length g.contours 0 eps heps
  have hes := endPts_spec g.contours 0 eps heps (by omega)
  have hcanon := readSimple_canon g.contours.length g.xMin g.yMin g.xMax g.yMax eps
    g.instructions (flagBytes ds ++ (xBytes ds ++ (yBytes ds ++ pad)))
    (by omega) hel.1 hel.2 hli hbox.1 hbox.2.1 hbox.2.2.1 hbox.2.2.2
  have hbytes : bytes = be16 (g.contours.length : Int) ++ (be16 g.xMin ++ (be16 g.yMin ++
      (be16 g.xMax ++ (be16 g.yMax ++ (epsBytes eps ++ (be16 (g.instructions.length : Int) ++
      (g.instructions ++ (flagBytes ds ++ (xBytes ds ++ (yBytes ds ++ pad)))))))))) := by
    rw [hw]; simp only [epsBytes, List.append_assoc]
  rw [← hbytes] at hcanon
  refine ⟨_, hcanon, rfl, rfl, rfl, rfl, rfl, hes.1, rfl, ?_⟩
  have hlast := hes.2 hne
  simp only [Nat.zero_add] at hlast
  have hp := points_of_data
    { nContours := g.contours.length, xMin := g.xMin, yMin := g.yMin, xMax := g.xMax,
      yMax := g.yMax, endPts := eps, instructions := g.instructions,
      glyphData := flagBytes ds ++ (xBytes ds ++ (yBytes ds ++ pad)) }
    g.contours.flatten ds pad (g.contours.flatten.length - 1) hpts hds hlast.1
    (by omega) hmax rfl
  have hf := fast_of_data
    { nContours := g.contours.length, xMin := g.xMin, yMin := g.yMin, xMax := g.xMax,
      yMax := g.yMax, endPts := eps, instructions := g.instructions,
      glyphData := flagBytes ds ++ (xBytes ds ++ (yBytes ds ++ pad)) }
    g.contours.flatten ds pad (g.contours.flatten.length - 1) hpts hds hlast.1
    (by omega) rfl
  refine ⟨hp, hf, ?_⟩
  rw [hp]
  have := contoursOf_spec g.contours 0 eps [] heps (by omega)
  simpa using this

/-- (on-curve, dx, dy) of every point, deltas taken from the previous point (the first from 0,0) -/
def deltaList : Int → Int → List Point → List (Bool × Int × Int)
  | _, _, [] => []
  | lx, ly, p :: ps => (p.on, p.x - lx, p.y - ly) :: deltaList p.x p.y ps

/-- size of the canonical shortest encoding of a simple glyph: 10 header bytes, one u16 end point per
contour, instruction length + instructions, the flags (for every delta the smallest of the three
coordinate forms is chosen, which fixes the flag byte `pointFlag`; then equal flags are run-length
coded optimally, `optCost`), the coordinate bytes (`coordCost`), padded to an even length. -/
def canonicalLen (g : SimpleGlyph) : Nat :=
  let ds := deltaList 0 0 g.contours.flatten
  let n := 12 + 2 * g.contours.length + g.instructions.length
    + optCost (ds.map (fun d => pointFlag d.1 d.2.1 d.2.2))
    + (ds.map (fun d => coordCost d.2.1 + coordCost d.2.2)).sum
  n + n % 2

/-- Whenever the writer accepts a simple glyph with contours, the
number of bytes written is exactly `canonicalLen` — never longer than the canonical shortest encoding
(`rle_length_optimal` and `coord_bytes_minimal` say that neither the flag run-length coding nor any
single coordinate could be shorter). -/
theorem simple_glyph_length_canonical (g : SimpleGlyph) (bytes : List Nat) (hne : g.contours ≠ [])
    (hw : writeSimple g = some bytes) : bytes.length = canonicalLen g := by
  have hcanon : ∀ (pts : List Point) (lx ly : Int) (ds : List PointDelta),
      computePointDeltas lx ly pts = some ds →
      ds.map (·.flag) = (deltaList lx ly pts).map (fun d => pointFlag d.1 d.2.1 d.2.2) ∧
      (xBytes ds).length + (yBytes ds).length
        = ((deltaList lx ly pts).map (fun d => coordCost d.2.1 + coordCost d.2.2)).sum := by
    intro pts
    induction pts with
    | nil => intro lx ly ds h; simp [computePointDeltas] at h; subst h; simp [deltaList, xBytes, yBytes]
    | cons p ps ih =>
      intro lx ly ds h
      obtain ⟨_, rest, hrec, rfl⟩ := computePointDeltas_cons h
      have ⟨i1, i2⟩ := ih p.x p.y rest hrec
      simp only [xBytes, yBytes] at i2
      simp only [deltaList, List.map_cons, i1, xBytes, yBytes, List.flatMap_cons,
        List.length_append, List.sum_cons, coord_bytes_written, pointFlag, ← i2, true_and]
      omega
  obtain ⟨_, _, ⟨he, _⟩ | ⟨_, eps, ds, heps, hds, hw⟩⟩ := writeSimple_some g bytes hw
  · exact absurd he hne
  have hel := (endPts_length g.contours 0 eps heps).1
  have ⟨c1, c2⟩ := hcanon _ 0 0 ds hds
  have hfl := computePointDeltas_flags _ 0 0 ds hds
  have hfb : (flagBytes ds).length = optCost (ds.map (·.flag)) := by
    rw [flagBytes_length, iterFromFlags_cost _ hfl]
  have heb := epsBytes_length eps
  unfold epsBytes at heb
  rw [hw]
  unfold canonicalLen padEven
  simp only []
  rw [← c1, ← c2, ← hfb]
  split
  · rename_i hev
    simp only [List.length_append, be16_length, heb, hel] at hev ⊢
    omega
  · rename_i hev
    simp only [List.length_append, be16_length, heb, hel, List.length_cons,
      List.length_nil] at hev ⊢
    omega

/-- successive deltas (from the origin) are representable in `i16` -/
def DeltasRepresentable : Int → Int → List Point → Prop
  | _, _, [] => True
  | lx, ly, p :: ps => inI16 (p.x - lx) ∧ inI16 (p.y - ly) ∧ DeltasRepresentable p.x p.y ps

/-- `compute_point_deltas` panics (overflow-checked `point.x - last_x`) exactly when some delta
between successive points does not fit `i16`. -/
theorem deltas_ok_iff (pts : List Point) : ∀ lx ly,
    (computePointDeltas lx ly pts).isSome ↔ DeltasRepresentable lx ly pts := by
  induction pts with
  | nil => intro lx ly; simp [computePointDeltas, DeltasRepresentable]
  | cons p ps ih =>
    intro lx ly
    simp only [computePointDeltas, DeltasRepresentable]
    split
    · rename_i h
      simp only [Option.isSome_map, ih p.x p.y]
      exact ⟨fun hh => ⟨h.1, h.2, hh⟩, fun hh => hh.2.2⟩
    · rename_i h
      simp only [Option.isSome_none, Bool.false_eq_true, false_iff]
      intro hh; exact h ⟨hh.1, hh.2.1⟩

/-- Exactly which glyphs (with ≤ 65535 points) `SimpleGlyph::write_into`
accepts without panicking: fewer than 32767 contours, at most 65535 instruction bytes, and — unless
there are no contours at all, in which case nothing is written — a non-empty first contour
(`cur as u16 - 1` underflows otherwise) and representable deltas. -/
theorem write_simple_ok_iff (g : SimpleGlyph) (hmax : g.contours.flatten.length ≤ 65535) :
    (writeSimple g).isSome ↔
      g.contours.length < 32767 ∧ g.instructions.length < 65536 ∧
      (g.contours = [] ∨ (g.contours.head? ≠ some [] ∧ DeltasRepresentable 0 0 g.contours.flatten)) := by
  have hend : ∀ (cs : List (List Point)) (cur : Nat), cur + cs.flatten.length ≤ 65535 →
      ((endPts cur cs).isSome ↔ (cs = [] ∨ cur + (cs.head?.getD []).length ≠ 0)) := by
    intro cs
    induction cs with
    | nil => intro cur _; simp [endPts]
    | cons c cs ih =>
      intro cur hb
      simp only [List.flatten_cons, List.length_append] at hb
      simp only [endPts, List.head?_cons, Option.getD_some]
      have hmod : (cur + c.length) % 65536 = cur + c.length := by omega
      rw [hmod]
      split
      · rename_i hz; simp [hz]
      · rename_i hz
        simp only [Option.isSome_map, ih (cur + c.length) (by omega)]
        simp only [reduceCtorEq, false_or, ne_eq, hz, not_false_eq_true, iff_true]
        cases cs with
        | nil => exact Or.inl rfl
        | cons c2 cs2 => right; simp only [List.head?_cons, Option.getD_some]; omega
  rw [writeSimple_isSome]
  refine and_congr Iff.rfl (and_congr Iff.rfl (or_congr Iff.rfl ?_))
  rw [hend g.contours 0 (by omega), deltas_ok_iff]
  refine and_congr ?_ Iff.rfl
  cases g.contours with
  | nil => simp
  | cons c cs =>
    simp only [reduceCtorEq, false_or, Nat.zero_add, List.head?_cons, Option.getD_some, ne_eq,
      Option.some.injEq, List.length_eq_zero_iff]

/-- One component record: for every glyph id (`u16`), anchor (`i16` offsets
or `u16` point numbers), F2Dot14 transform (raw `i16` bits) and user flags, and for each of the three
"extra" flags the writer passes (none, MORE_COMPONENTS, WE_HAVE_INSTRUCTIONS), `ComponentIter::next`
on the bytes of `Component::write_into` yields the same glyph id, anchor (byte form chosen iff both
arguments fit `i8`/`u8`, word form otherwise) and transform (nothing / one scale / x-y scale / 2×2
chosen by `Transform::compute_flags`), consumes exactly those bytes, and the flags word converts back
(`From<CompositeGlyphFlags> for ComponentFlags`) to the user flags. -/
theorem component_roundtrip (c : Component) (hv : c.Valid) (e : Nat) (he : e ∈ [0, 0x20, 0x100])
    (rest : List Nat) :
    ∃ flags, readComponent (c.bytes e ++ rest) = some (⟨flags, c.glyph, c.anchor, c.transform⟩, rest)
      ∧ ComponentFlags.ofBits flags = c.flags
      ∧ hasBit flags MORE_COMPONENTS = (e == 0x20) ∧ hasBit flags HAVE_INSTR = (e == 0x100) := by
  have wf := word_facts c e he
  exact ⟨c.word e, readComponent_bytes c hv e he rest, wf.2.2.2.2.2.2.2.2.2, wf.2.2.2.2.2.2.2.1,
    wf.2.2.2.2.2.2.2.2.1⟩

/-- For ANY composite glyph with at least one component (the
writer's `expect`; `validate` rejects an empty one), `i16` bounding box, valid component fields and at
most 65535 instruction bytes: the written bytes start with a negative contour count (so `Glyph::read`
dispatches to the composite reader), the generated reader parses them, the bounding box is the
glyph's, `components()` yields exactly the components added — ids, anchors, transforms, user flags,
in order, every one but the last flagged MORE_COMPONENTS — and `count_and_instructions` returns the
component count and the instructions (`None` iff there are none). -/
theorem composite_glyph_roundtrip (g : CompositeGlyph) (bytes : List Nat)
    (hbox : inI16 g.xMin ∧ inI16 g.yMin ∧ inI16 g.xMax ∧ inI16 g.yMax)
    (hv : ∀ c ∈ g.components, c.Valid) (hil : g.instructions.length < 65536)
    (hw : writeComposite g = some bytes) :
    i16At bytes 0 = some (-1) ∧
    ∃ v, readComposite bytes = some v ∧
      v.xMin = g.xMin ∧ v.yMin = g.yMin ∧ v.xMax = g.xMax ∧ v.yMax = g.yMax ∧
      v.components.map (fun r => (r.glyph, r.anchor, r.transform, ComponentFlags.ofBits r.flags))
        = g.components.map (fun c => (c.glyph, c.anchor, c.transform, c.flags)) ∧
      v.components.map (fun r => hasBit r.flags MORE_COMPONENTS)
        = (List.range g.components.length).map (fun i => decide (i + 1 < g.components.length)) ∧
      v.count = g.components.length ∧
      v.instructions = (if g.instructions.isEmpty then none else some g.instructions) := by
  obtain ⟨hne', hw⟩ := writeComposite_some g bytes hw
  obtain ⟨pad, hpad, _⟩ := padEven_cases
    (be16 (-1) ++ be16 g.xMin ++ be16 g.yMin ++ be16 g.xMax ++ be16 g.yMax
      ++ componentsBytes (!g.instructions.isEmpty) g.components
      ++ (if (!g.instructions.isEmpty) = true then be16 g.instructions.length ++ g.instructions else []))
  rw [hpad] at hw
  let cd := componentsBytes (!g.instructions.isEmpty) g.components
      ++ ((if (!g.instructions.isEmpty) = true then be16 (g.instructions.length : Int) ++ g.instructions
          else []) ++ pad)
  have hbytes : bytes = be16 (-1) ++ (be16 g.xMin ++ (be16 g.yMin ++ (be16 g.xMax ++
      (be16 g.yMax ++ cd)))) := by
    rw [hw]; simp only [cd, List.append_assoc]
  obtain ⟨r0, r2, r4, r6, r8, hdrop⟩ := header_reads (-1) g.xMin g.yMin g.xMax g.yMax cd
    (by unfold inI16; omega) hbox.1 hbox.2.1 hbox.2.2.1 hbox.2.2.2
  rw [← hbytes] at r0 r2 r4 r6 r8 hdrop
  have hlen : ¬ (bytes.length < 10) := by
    rw [hbytes]; simp only [List.length_append, be16_length]; omega
  refine ⟨r0, ?_⟩
  unfold readComposite
  simp only [hlen, ↓reduceIte, hdrop, r2, r4, r6, r8, Option.getD_some]
  refine ⟨_, rfl, rfl, rfl, rfl, rfl, ?_⟩
  have hcl := comps_len_ge (!g.instructions.isEmpty) g.components
  have hrc := readComponents_bytes (!g.instructions.isEmpty) g.components hne' hv (cd.length + 1)
    ((if (!g.instructions.isEmpty) = true then be16 (g.instructions.length : Int) ++ g.instructions
          else []) ++ pad) (by simp only [cd, List.length_append]; omega)
  have hci := countAndInstructions_bytes g.components g.instructions pad hne' hv hil
  simp only []
  rw [show (componentsBytes (!g.instructions.isEmpty) g.components
      ++ ((if (!g.instructions.isEmpty) = true then be16 (g.instructions.length : Int) ++ g.instructions
          else []) ++ pad)) = cd from rfl] at hrc hci
  rw [hrc, hci]
  refine ⟨expected_proj _ _, expected_more _ _, rfl, ?_⟩
  cases g.instructions.isEmpty <;> rfl

/-- `LocaFormat::new` picks the short format iff the last offset is below
0x20000 and every offset is even. -/
theorem loca_short_iff (offs : List Nat) :
    locaIsLong offs = false ↔ (offs.getLast?.getD 0 < 0x20000 ∧ ∀ o ∈ offs, o % 2 = 0) := by
  unfold locaIsLong
  simp [List.all_eq_true]

/-- For every ascending list of `u32` offsets, the table written in the format
`LocaFormat::new` chooses — whichever it is — reads back (`Loca::read` with that format,
`get_raw(i)` for every `i`) as exactly the offsets. -/
theorem loca_roundtrip (offs : List Nat) (h32 : ∀ o ∈ offs, o < 4294967296)
    (hmono : ∀ o ∈ offs, o ≤ offs.getLast?.getD 0) :
    readLoca (writeLoca offs) (locaIsLong offs) = some offs := by
  unfold readLoca writeLoca
  cases hl : locaIsLong offs with
  | true => simp only [↓reduceIte]; exact chunks4_be32 offs h32
  | false =>
    have := (loca_short_iff offs).mp hl
    simp only [Bool.false_eq_true, ↓reduceIte]
    apply chunks2_half
    intro o ho
    have hm := hmono o ho
    exact ⟨by omega, this.2 o ho⟩

/-- both formats are lossless on their own domain: long for any `u32` offsets, short for even offsets
below 0x20000 (so a caller forcing either format still reads back what was written) -/
theorem loca_long_roundtrip (offs : List Nat) (h32 : ∀ o ∈ offs, o < 4294967296) :
    readLoca (offs.flatMap be32) true = some offs := by
  unfold readLoca; simp only [↓reduceIte]; exact chunks4_be32 offs h32

theorem loca_short_roundtrip (offs : List Nat) (h : ∀ o ∈ offs, o < 0x20000 ∧ o % 2 = 0) :
    readLoca (offs.flatMap (fun o => be16 ((o / 2 % 65536 : Nat) : Int))) false = some offs := by
  unfold readLoca; simp only [Bool.false_eq_true, ↓reduceIte]; exact chunks2_half offs h

/-- `validate` (since `fix:` 006a7c4) rejects what the format
cannot hold: a simple glyph that `dump_table` / `add_glyph` accept has at most 65535 points and at
most 65535 instruction bytes, so the `≤ 65535 points` hypothesis of `simple_glyph_roundtrip` is
implied by acceptance. -/
theorem accepted_simple_le_65535_points (g : SimpleGlyph) (b : List Nat)
    (h : writeGlyph (.simple g) = .ok b) :
    g.contours.flatten.length ≤ 65535 ∧ g.instructions.length ≤ 65535 := by
  obtain ⟨hi, hp, _⟩ := writeGlyph_simple_ok g b h
  exact ⟨by rw [List.length_flatten]; exact hp, hi⟩

/-- Take ANY well-formed simple-glyph point data: a flag
array given as a list of items — a flag byte with the REPEAT bit and a repeat count `0..255` (count 0
included: two bytes for one point), or a plain flag byte — in ANY run-length coding (not only the
shortest one the writer emits), standing for `last + 1 ≤ 65535` points, followed by exactly the
x bytes and y bytes the flags announce (in any of the legal forms: short, long, same) and any padding.
Then `read_points_fast` (fixed code, `fix:` d12a1b2: flag window of two bytes per point) succeeds with
one entry per point, and the slow decoder `points()` yields exactly the same points: the same on-curve
bits, and the same coordinates (`points()` accumulates in `i16`, `read_points_fast::<i32>` in `i32`:
equal after the `as i16` every consumer applies, and literally equal whenever the running sums are
`i16` values, as in every valid glyph). -/
theorem read_points_fast_eq_points_on_valid (v : SimpleView) (items : List RepeatableFlag)
    (xs ys pad : List Nat) (last : Nat)
    (hl : v.endPts.getLast? = some last) (hn : last + 1 = (expandRaw items).length)
    (hmax : (expandRaw items).length ≤ 65535) (hrep : ∀ i ∈ items, i.rep ≤ 255)
    (hx : xs.length = ((expandRaw items).map xSize).sum)
    (hy : ys.length = ((expandRaw items).map ySize).sum)
    (hg : v.glyphData = items.flatMap RepeatableFlag.bytes ++ (xs ++ (ys ++ pad))) :
    ∃ fast : List (Int × Int × Nat), v.readPointsFast = some fast ∧ fast.length = last + 1 ∧
      v.points = fast.map (fun t => (⟨wrapI16 t.1, wrapI16 t.2.1, t.2.2 != 0⟩ : Point)) := by
  obtain ⟨X, Y, hXl, hYl, h⟩ := coords_agree (expandRaw items) xs ys 0 0 hx hy
  obtain ⟨hX, hY, hdec⟩ := h (ys ++ pad) pad [] pad
  have hfast : v.readPointsFast = some ((X.zip (Y.zip (expandRaw items))).map
      (fun t => (t.1, t.2.1, t.2.2 &&& 1))) := by
    rw [fast_of_items v items _ last hl hn hg, hX]
    simp only []
    rw [hY]
  refine ⟨_, hfast, ?_, ?_⟩
  · simp [hXl, hYl, hn]
  · rw [points_of_items v items xs ys pad last hl hn hmax hx hy (length_le_256_cost items hrep) hg]
    have : wrapI16 0 = 0 := by decide
    rw [this] at hdec
    simp only [List.append_nil] at hdec
    rw [hdec]
    simp only [List.map_map]
    apply List.map_congr_left
    intro t _
    simp [hasBit, ON_CURVE]

/-- Let `GlyfLocaBuilder` accept a sequence `gs` of simple / composite / empty
glyphs (no `add_glyph` failed or panicked) and produce `glyf` (shorter than 4 GiB, the `as u32`
limit) and the raw offsets `loca`.  Then
* there is one offset more than glyphs;
* the loca table written in the format `LocaFormat::new` chooses — short iff `glyf` is shorter than
  0x20000 bytes (every glyph is padded to even length) — reads back as exactly those offsets;
* for every `i`, `Loca::get_glyf(i)` hands the glyph reader exactly the bytes that writing glyph `i`
  alone produces, at their position in `glyf` — or reports "no outline" (`Ok(None)`) iff those bytes
  are empty (empty glyph, or simple glyph without contours).
Combined with `simple_glyph_roundtrip` / `composite_glyph_roundtrip` this is: glyph `i` decodes to
the i-th glyph added, in either location format. -/
theorem build_get_glyf (gs : List Glyph) (glyf loca : List Nat)
    (hb : build gs = some (glyf, loca)) (h32 : glyf.length < 4294967296) :
    loca.length = gs.length + 1 ∧
    (locaIsLong loca = false ↔ glyf.length < 0x20000) ∧
    readLoca (writeLoca loca) (locaIsLong loca) = some loca ∧
    ∃ bs : List (List Nat), gs.map writeGlyph = bs.map WriteResult.ok ∧ glyf = bs.flatten ∧
      ∀ i (hi : i < bs.length), getGlyf loca glyf i =
        if bs[i] = [] then GetGlyf.none else GetGlyf.bytes (prefixLen bs i) bs[i] := by
  unfold build at hb
  obtain ⟨bs, h1, h2, h3⟩ := build_spec gs [] [0] glyf loca hb
  simp only [List.nil_append, List.length_nil, List.cons_append] at h2 h3
  have hlen : bs.length = gs.length := by
    have := congrArg List.length h1; simpa using this.symm
  have hev : ∀ b ∈ bs, b.length % 2 = 0 := by
    intro b hb'
    obtain ⟨i, hi, rfl⟩ := List.getElem_of_mem hb'
    exact writeGlyph_even _ _ (writeGlyph_getElem h1 i (by omega)).2
  subst h2
  have hp := offs_props bs 0 (by omega) hev rfl
  simp only [Nat.zero_add] at hp
  have hlast : loca.getLast?.getD 0 = bs.flatten.length := by rw [h3, hp.2]; rfl
  have hloclen : loca.length = gs.length + 1 := by
    rw [h3, ← hlen]
    simp [offsFrom_length]
  refine ⟨hloclen, ?_, ?_, bs, h1, rfl, ?_⟩
  · rw [loca_short_iff, hlast]
    constructor
    · intro h; exact h.1
    · intro h; refine ⟨h, ?_⟩
      intro o ho; rw [h3] at ho; exact (hp.1 o ho).2
  · apply loca_roundtrip
    · intro o ho; rw [h3] at ho; have := (hp.1 o ho).1; omega
    · intro o ho; rw [hlast]; rw [h3] at ho; exact (hp.1 o ho).1
  · intro i hi
    rw [h3]
    exact getGlyf_built bs i hi h32

/-- one step: a glyph that fails validation leaves the builder exactly as it was -/
theorem add_err_leaves_state_unchanged (g : Glyph) (gs : List Glyph) (glyf loca : List Nat)
    (h : addOutcome g = .err) : buildHistFrom (g :: gs) glyf loca = buildHistFrom gs glyf loca := by
  unfold addOutcome at h
  simp only [buildHistFrom]
  split <;> simp_all

/-- a history goes through (no panic) iff no single `add_glyph` call panics -/
theorem buildHistFrom_isSome (gs : List Glyph) (glyf loca : List Nat) :
    (buildHistFrom gs glyf loca).isSome ↔ ∀ g ∈ gs, addOutcome g ≠ .trap := by
  induction gs generalizing glyf loca with
  | nil => simp [buildHistFrom]
  | cons g gs ih =>
    simp only [buildHistFrom, addOutcome, List.mem_cons, forall_eq_or_imp]
    split <;> simp_all [addOutcome]

/-- **history = the accepted glyphs alone.**  The state reached by ANY interleaving of accepted and
rejected `add_glyph` calls is the state reached by adding just the accepted glyphs, in order. -/
theorem buildHistFrom_accepted (gs : List Glyph) (glyf loca : List Nat) (r : List Nat × List Nat)
    (h : buildHistFrom gs glyf loca = some r) : buildGlyfLoca (accepted gs) glyf loca = some r := by
  induction gs generalizing glyf loca with
  | nil => simpa [buildHistFrom, accepted, buildGlyfLoca] using h
  | cons g gs ih =>
    simp only [buildHistFrom] at h
    split at h
    · rename_i b hb
      have : accepted (g :: gs) = g :: accepted gs := by simp [accepted, addOutcome, hb]
      rw [this]; simp only [buildGlyfLoca, hb]; exact ih _ _ h
    · rename_i hb
      have : accepted (g :: gs) = accepted gs := by simp [accepted, addOutcome, hb]
      rw [this]; exact ih _ _ h
    · cases h

/-- a history without rejected glyphs is the plain `build` -/
theorem buildHistFrom_all_accepted (gs : List Glyph) (glyf loca : List Nat)
    (h : ∀ g ∈ gs, addOutcome g = .ok) : buildHistFrom gs glyf loca = buildGlyfLoca gs glyf loca := by
  induction gs generalizing glyf loca with
  | nil => rfl
  | cons g gs ih =>
    have hg := h g (by simp)
    have ih' := fun glyf loca => ih glyf loca (fun g' hg' => h g' (by simp [hg']))
    unfold addOutcome at hg
    simp only [buildHistFrom, buildGlyfLoca]
    split <;> simp_all

theorem buildHist_all_accepted (gs : List Glyph) (h : ∀ g ∈ gs, addOutcome g = .ok) :
    buildHist gs = build gs := buildHistFrom_all_accepted gs [] [0] h

/-- `build_get_glyf` for ANY history of `add_glyph` calls on one builder —
accepted glyphs, `Glyph::Empty`, and glyphs rejected by validation (too many points / instruction
bytes, composite without components) in any interleaving, the caller carrying on after each `Err` —
provided no call panicked.  With `accepted gs` the glyphs whose call returned `Ok`, in order:
* loca has one entry more than accepted glyphs (a rejected glyph gets no glyph id);
* `glyf` is exactly the concatenation of the accepted glyphs' own (even-padded) bytes: a rejected
  glyph occupies no bytes;
* the format `LocaFormat::new` chooses is short iff `glyf` is shorter than 0x20000 bytes and the
  written loca reads back as the offsets;
* for every glyph id `i`, `get_glyf(i)` hands out exactly the bytes of the `i`-th ACCEPTED glyph at
  their position (or `Ok(None)` iff those bytes are empty). -/
theorem build_get_glyf_history (gs : List Glyph) (glyf loca : List Nat)
    (hb : buildHist gs = some (glyf, loca)) (h32 : glyf.length < 4294967296) :
    loca.length = (accepted gs).length + 1 ∧
    (locaIsLong loca = false ↔ glyf.length < 0x20000) ∧
    readLoca (writeLoca loca) (locaIsLong loca) = some loca ∧
    ∃ bs : List (List Nat), (accepted gs).map writeGlyph = bs.map WriteResult.ok ∧ glyf = bs.flatten ∧
      ∀ i (hi : i < bs.length), getGlyf loca glyf i =
        if bs[i] = [] then GetGlyf.none else GetGlyf.bytes (prefixLen bs i) bs[i] :=
  build_get_glyf (accepted gs) glyf loca (buildHistFrom_accepted gs [] [0] (glyf, loca) hb) h32

/-- the outcomes the caller sees are `Ok` exactly for the accepted glyphs (as many `Ok`s as glyph ids) -/
theorem histOutcomes_ok_count (gs : List Glyph) (h : ∀ g ∈ gs, addOutcome g ≠ .trap) :
    histOutcomes gs = gs.map addOutcome ∧
    ((gs.map addOutcome).filter (· = .ok)).length = (accepted gs).length := by
  constructor
  · induction gs with
    | nil => rfl
    | cons g gs ih =>
      have hg := h g (by simp)
      have := ih (fun g' hg' => h g' (by simp [hg']))
      simp only [histOutcomes, List.map_cons]
      -- `histOutcomes` cuts the list only at a `.trap`, which `hg` excludes
      first
        | rw [this]
        | (split <;> simp_all)
  · simp [accepted, List.filter_map, Function.comp_def]

/-- The composition, spelled out for simple glyphs: if glyph `i`
of an accepted sequence is a simple glyph with contours (i16 fields; acceptance itself bounds the
point count by 65535 since `fix:` 006a7c4), then what
`get_glyf(i)` returns from the built tables parses to a glyph whose contours (cut by the end points
from the decoded points), bounding box and instructions are exactly those of the glyph added. -/
theorem built_simple_glyph_reads_back (gs : List Glyph) (glyf loca : List Nat)
    (hb : build gs = some (glyf, loca)) (h32 : glyf.length < 4294967296)
    (i : Nat) (hi : i < gs.length) (g : SimpleGlyph) (hg : gs[i] = .simple g)
    (hbox : inI16 g.xMin ∧ inI16 g.yMin ∧ inI16 g.xMax ∧ inI16 g.yMax)
    (hpts : PointsInRange g.contours.flatten) (hne : g.contours ≠ []) :
    ∃ start data v, getGlyf loca glyf i = .bytes start data ∧ readSimple data = some v ∧
      contoursOf 0 v.endPts v.points = some g.contours ∧
      (v.xMin, v.yMin, v.xMax, v.yMax) = (g.xMin, g.yMin, g.xMax, g.yMax) ∧
      v.instructions = g.instructions := by
  obtain ⟨_, _, _, bs, h1, h2, h3⟩ := build_get_glyf gs glyf loca hb h32
  obtain ⟨hi', hwi⟩ := writeGlyph_getElem h1 i hi
  rw [hg] at hwi
  obtain ⟨_, hmax, hw⟩ := writeGlyph_simple_ok g _ hwi
  obtain ⟨v, hr, _, hx1, hx2, hx3, hx4, _, hins, _, _, hcont⟩ :=
    simple_glyph_roundtrip g _ hbox hpts (by rw [List.length_flatten]; exact hmax) hne hw
  have hbne : bs[i] ≠ [] := by
    intro e; rw [e] at hr; simp [readSimple, i16At, u16At] at hr
  refine ⟨prefixLen bs i, bs[i], v, ?_, hr, hcont, ?_, hins⟩
  · rw [h3 i hi']; simp [hbne]
  · rw [hx1, hx2, hx3, hx4]

/-- The composition for composite glyphs: if glyph `i` of an
accepted sequence is a composite glyph (i16 bbox, valid component fields), then `get_glyf(i)` on the
built tables returns bytes that dispatch to the composite reader and yield exactly the components
added (ids, anchors, transforms, user flags, in order), their count, the bounding box and the
instructions. -/
theorem built_composite_glyph_reads_back (gs : List Glyph) (glyf loca : List Nat)
    (hb : build gs = some (glyf, loca)) (h32 : glyf.length < 4294967296)
    (i : Nat) (hi : i < gs.length) (g : CompositeGlyph) (hg : gs[i] = .composite g)
    (hbox : inI16 g.xMin ∧ inI16 g.yMin ∧ inI16 g.xMax ∧ inI16 g.yMax)
    (hv : ∀ c ∈ g.components, c.Valid) :
    ∃ start data v, getGlyf loca glyf i = .bytes start data ∧ i16At data 0 = some (-1) ∧
      readComposite data = some v ∧
      v.components.map (fun r => (r.glyph, r.anchor, r.transform, ComponentFlags.ofBits r.flags))
        = g.components.map (fun c => (c.glyph, c.anchor, c.transform, c.flags)) ∧
      v.count = g.components.length ∧
      (v.xMin, v.yMin, v.xMax, v.yMax) = (g.xMin, g.yMin, g.xMax, g.yMax) ∧
      v.instructions = (if g.instructions.isEmpty then none else some g.instructions) := by
  obtain ⟨_, _, _, bs, h1, h2, h3⟩ := build_get_glyf gs glyf loca hb h32
  obtain ⟨hi', hwi⟩ := writeGlyph_getElem h1 i hi
  rw [hg] at hwi
  obtain ⟨_, hil, hw⟩ := writeGlyph_composite_ok g _ hwi
  obtain ⟨h0, v, hr, hx1, hx2, hx3, hx4, hcomps, _, hcount, hins⟩ :=
    composite_glyph_roundtrip g _ hbox hv (by omega) hw
  have hbne : bs[i] ≠ [] := by
    intro e; rw [e] at h0; simp [i16At, u16At] at h0
  refine ⟨prefixLen bs i, bs[i], v, ?_, h0, hr, hcomps, hcount, ?_, hins⟩
  · rw [h3 i hi']; simp [hbne]
  · rw [hx1, hx2, hx3, hx4]

/-- `InterpolatableContourBuilder::build` drops point `i` of a contour only if it
is on-curve, both its cyclic neighbours are off-curve, and it is EXACTLY their midpoint (integer
coordinates); off-curve points are never dropped — so both neighbours of a dropped point survive
and the reader's midpoint insertion restores it. -/
theorem elide_sound (l : List Point) (i : Nat) (h : isImplicit l i = true) :
    ∃ p0 p1 p2, l[i]? = some p1 ∧ wrapPrev l i = some p0 ∧ wrapNext l i = some p2 ∧
      p1.on = true ∧ p0.on = false ∧ p2.on = false ∧
      p0.x + p2.x = 2 * p1.x ∧ p0.y + p2.y = 2 * p1.y := by
  unfold isImplicit at h
  split at h
  · rename_i p1 p0 p2 h1 h0 h2
    exact ⟨p0, p1, p2, h1, h0, h2, implicit3_spec _ _ _ h⟩
  · cases h

theorem elide_keeps_off_curve (l : List Point) (i : Nat) (p : Point) (hp : l[i]? = some p)
    (hoff : p.on = false) : isImplicit l i = false := by
  unfold isImplicit
  rw [hp]
  split
  · rename_i p1 p0 p2 h1 _ _
    simp only [Option.some.injEq] at h1
    subst h1
    exact off_not_implicit _ _ _ hoff
  · rfl

/-- For a path made of closed contours `M s (L|Q)* Z` with integer
coordinates, `SimpleGlyph::from_bezpath` succeeds; contour `k` of the glyph is the elision of the
builder's points for contour `k` of the path (`closedPts`: move point, one on-curve point per line,
off+on per quadratic, a final point equal to the move point removed); there are no instructions. -/
theorem from_bezpath_contours (cs : List PContour) :
    ∃ g, fromBezpath (cs.flatMap PContour.els) = .ok g ∧
      g.contours = cs.map (fun c => elide c.pts) ∧ g.instructions = [] := by
  obtain ⟨s', h1, h2⟩ := run_contours cs [] none
  unfold fromBezpath
  rw [h1]
  refine ⟨_, rfl, ?_, rfl⟩
  simp only [St.final, curList, List.append_nil, List.nil_append] at h2
  simp only []
  cases hcur : s'.cur with
  | none =>
    rw [hcur] at h2
    simp only [List.append_nil] at h2
    rw [h2, List.map_map]; rfl
  | some c0 =>
    rw [hcur] at h2
    simp only [] at h2 ⊢
    rw [h2, List.map_map]; rfl

/-- what a pen must receive for a closed contour of the path, in unscaled 26.6 units: `move` to the
start, the segments in order (a last straight segment back to the start is left to `close`),
`close` -/
def contourCmds (c : PContour) : List ToPath.Cmd :=
  ToPath.Cmd.move (64 * c.sx) (64 * c.sy) :: (closeNorm c.sx c.sy c.segs).map Seg.cmd
    ++ [ToPath.Cmd.close]

/-- Any integer-coordinate (i16 range) path made of closed line/quadratic
contours, turned into a glyph by `from_bezpath` and drawn unscaled by skrifa (`to_path`, FreeType
style, over the glyph's points and end points), produces — for EVERY such path, whatever points the
builder elided, including an elided start point — exactly `contourCmds` of each contour: the path's own
`move / line / quad / close` sequence with the same coordinates (×64 in 26.6), except that a last straight
segment back to the start point is not drawn as a `line` but left to `close` (`closeNorm`: the builder removed
the duplicate point), without error. -/
theorem bezpath_draws_back (cs : List PContour) (hb : ∀ c ∈ cs, c.Bounded) (g : SimpleGlyph)
    (hg : fromBezpath (cs.flatMap PContour.els) = .ok g) :
    drawUnscaled (g.contours.flatten.map fastPt) (endSpec 0 g.contours)
      = (cs.flatMap contourCmds, none) := by
  obtain ⟨g', hg', hc, _⟩ := from_bezpath_contours cs
  rw [hg] at hg'
  simp only [Except.ok.injEq] at hg'
  subst hg'
  have hdraw : ∀ c ∈ cs, ToPath.contourToPath ToPath.fixedCoord .freeType ((elide c.pts).map toPt)
      (((elide c.pts).map toPt).getLast?.getD ⟨0, 0, 0⟩) = (contourCmds c, none) :=
    fun c hcm => draw_path_contour c (hb c hcm)
  have hne : ∀ l ∈ g.contours, l ≠ [] := by
    rw [hc]
    intro l hl
    obtain ⟨c, _, rfl⟩ := List.mem_map.mp hl
    obtain ⟨t, ht, _⟩ := closedPts_head ⟨c.sx, c.sy, true⟩ c.segs
    unfold PContour.pts; rw [ht]
    exact elide_ne_nil _ t rfl
  have herr : ∀ l ∈ g.contours, (ToPath.contourToPath ToPath.fixedCoord .freeType (l.map toPt)
      ((l.map toPt).getLast?.getD ⟨0, 0, 0⟩)).2 = none := by
    rw [hc]
    intro l hl
    obtain ⟨c, hcm, rfl⟩ := List.mem_map.mp hl
    rw [hdraw c hcm]
  have := toPathGo_contours g.contours [] g.contours.flatten 0 (by simp) hne herr
  unfold drawUnscaled ToPath.toPath
  simp only [List.map_map, fastPt, Function.comp_def]
  simp only [List.length_nil] at this
  rw [this, hc, List.flatMap_map]
  congr 1
  have hfm : ∀ (l : List PContour) (f g : PContour → List ToPath.Cmd), (∀ c ∈ l, f c = g c) →
      l.flatMap f = l.flatMap g := by
    intro l f g
    induction l with
    | nil => intro _; rfl
    | cons c l ih =>
      intro h
      rw [List.flatMap_cons, List.flatMap_cons, h c (by simp), ih (fun x hx => h x (by simp [hx]))]
  apply hfm
  intro c hcm
  rw [hdraw c hcm]

/-- The same through the bytes: if the glyph built from such a path
is accepted by the writer, then the bytes parse, `read_points_fast` succeeds, and drawing the decoded
points with the decoded end points gives exactly `contourCmds` of each contour (the path's command sequence,
a last straight segment back to the start left to `close`). -/
theorem bezpath_glyph_draws_back (cs : List PContour) (hne : cs ≠ []) (hb : ∀ c ∈ cs, c.Bounded)
    (g : SimpleGlyph) (hg : fromBezpath (cs.flatMap PContour.els) = .ok g) (bytes : List Nat)
    (hw : writeGlyph (.simple g) = .ok bytes) :
    ∃ v pts, readSimple bytes = some v ∧ v.readPointsFast = some pts ∧
      drawUnscaled pts v.endPts = (cs.flatMap contourCmds, none) := by
  obtain ⟨g', hg', hc, hins⟩ := from_bezpath_contours cs
  have hbox := boxPts_bounded cs hb
  have hdraw := bezpath_draws_back cs hb g hg
  have hmax := (accepted_simple_le_65535_points g bytes hw).1
  rw [hg] at hg'
  simp only [Except.ok.injEq] at hg'
  subst hg'
  have hgbox : inI16 g.xMin ∧ inI16 g.yMin ∧ inI16 g.xMax ∧ inI16 g.yMax := by
    unfold fromBezpath at hg
    split at hg
    · cases hg
    · simp only [Except.ok.injEq] at hg
      subst hg
      refine ⟨minL_in _ ?_, minL_in _ ?_, maxL_in _ ?_, maxL_in _ ?_⟩ <;>
      · intro v hv
        obtain ⟨q, hq, rfl⟩ := List.mem_map.mp hv
        first | exact (hbox q hq).1 | exact (hbox q hq).2
  have hpts : PointsInRange g.contours.flatten := by
    intro p hp
    rw [hc] at hp
    obtain ⟨l, hl, hpl⟩ := List.mem_flatten.mp hp
    obtain ⟨c, hcm, rfl⟩ := List.mem_map.mp hl
    have hp' := elide_subset _ p hpl
    obtain ⟨hx, hy, hs⟩ := hb c hcm
    obtain ⟨t, ht, hsub⟩ := closedPts_head ⟨c.sx, c.sy, true⟩ c.segs
    unfold PContour.pts at hp'
    rw [ht] at hp'
    simp only [List.mem_cons] at hp'
    rcases hp' with rfl | hp'
    · exact ⟨hx, hy⟩
    · exact seg_pts_bounded c.segs hs p (hsub p hp')
  have hcne : g.contours ≠ [] := by
    rw [hc]; intro e; exact hne (List.map_eq_nil_iff.mp e)
  obtain ⟨v, hr, _, _, _, _, _, hends, _, _, hfast, _⟩ :=
    simple_glyph_roundtrip g bytes hgbox hpts hmax hcne (writeGlyph_simple_ok g bytes hw).2.2
  exact ⟨v, _, hr, hfast, hends ▸ hdraw⟩

/-- a 300-point glyph (one flag, then a run of 299: items with repeat bytes 255 and 42) satisfies every
hypothesis of `simple_glyph_roundtrip` -/
def g300 : SimpleGlyph :=
  ⟨0, 0, 299, 0, [(List.range 300).map (fun (i : Nat) => ⟨(i : Int), 0, true⟩)], []⟩

example : (writeSimple g300).isSome = true := by decide +kernel
example : (iterFromFlags none (List.replicate 299 0x33)) = [⟨0x3B, 255⟩, ⟨0x3B, 42⟩] := by
  decide +kernel
example : (iterFromFlags none (List.replicate 257 0x33)) = [⟨0x3B, 255⟩, ⟨0x33, 0⟩] := by
  decide +kernel
example : (iterFromFlags none [1, 1, 5, 5, 5]) = [⟨1, 0⟩, ⟨1, 0⟩, ⟨13, 2⟩] := by decide
example : PointsInRange g300.contours.flatten ∧ g300.contours.flatten.length ≤ 65535
    ∧ g300.contours ≠ [] := by
  refine ⟨?_, by decide +kernel, by decide⟩
  intro p hp
  simp only [g300, List.flatten_cons, List.flatten_nil, List.append_nil, List.mem_map,
    List.mem_range] at hp
  obtain ⟨i, hi, rfl⟩ := hp
  simp only [inI16]; omega
example : DeltasRepresentable 0 0 [⟨-32768, 0, true⟩, ⟨-1, 0, true⟩, ⟨32766, 5, false⟩] := by
  simp [DeltasRepresentable, inI16]
example : ¬ DeltasRepresentable 0 0 [⟨-32768, 0, true⟩, ⟨32767, 0, true⟩] := by
  simp [DeltasRepresentable, inI16]
example : locaIsLong [0, 0x1FFFE] = false ∧ locaIsLong [0, 0x20000] = true
    ∧ locaIsLong [0, 7, 8] = true ∧ locaIsLong [] = false := by decide

/-- a composite with a byte-sized offset anchor + plain transform, a word-sized point anchor + 2×2
transform, and instructions: hypotheses of `composite_glyph_roundtrip` are satisfiable -/
def cg2 : CompositeGlyph :=
  ⟨-5, 0, 700, 800,
   [⟨3, .offset 127 (-128), ⟨true, false, false, false, true⟩, ⟨16384, 0, 0, 16384⟩⟩,
    ⟨65535, .point 256 0, ⟨false, true, false, false, false⟩, ⟨8192, -1, 1, -32768⟩⟩],
   [0xB0, 0x01]⟩

example : (writeComposite cg2).isSome = true := by decide +kernel
example : ∀ c ∈ cg2.components, c.Valid := by
  intro c hc
  simp only [cg2, List.mem_cons, List.not_mem_nil, or_false] at hc
  rcases hc with rfl | rfl <;> simp [Component.Valid, Anchor.Valid, Transform.Valid, inI16]
example : (cg2.components.map (fun c => c.anchor.bytes.length + c.transform.bytes.length)) = [2, 12] := by
  decide +kernel

/-- a sequence with an empty glyph, a triangle and the composite above is accepted by the builder -/
def tri : SimpleGlyph :=
  ⟨0, 0, 300, 256, [[⟨0, 0, true⟩, ⟨300, 0, true⟩, ⟨150, 256, false⟩]], [1, 2, 3]⟩

example : (build [.empty, .simple tri, .composite cg2, .simple ⟨0, 0, 0, 0, [], []⟩]).isSome = true := by
  decide +kernel
example : (build [.empty, .simple tri]).map (fun r => r.2) = some [0, 0, 26] := by decide +kernel

/-- the 3-point glyph whose flags are all REPEAT with count 0 (two flag bytes per point — legal, not
optimal; the pre-fix window of `num_points` bytes made `read_points_fast` fail on it): both decoders -/
def repeat0 : List Nat :=
  [0x00, 0x01, 0, 0, 0, 0, 0x01, 0xf4, 0x01, 0xf4, 0x00, 0x02, 0x00, 0x00,
   0x3f, 0x00, 0x3f, 0x00, 0x3f, 0x00, 1, 2, 3, 4, 5, 6]
example : (readSimple repeat0).map (·.readPointsFast) = some (some [(1, 4, 1), (3, 9, 1), (6, 15, 1)]) := by
  decide +kernel
example : (readSimple repeat0).map (·.points) = some [⟨1, 4, true⟩, ⟨3, 9, true⟩, ⟨6, 15, true⟩] := by
  decide +kernel
/-- the hypotheses of `read_points_fast_eq_points_on_valid` hold for it -/
example : (readSimple repeat0).map (·.glyphData) =
    some (([⟨0x3f, 0⟩, ⟨0x3f, 0⟩, ⟨0x3f, 0⟩] : List RepeatableFlag).flatMap RepeatableFlag.bytes
      ++ ([1, 2, 3] ++ ([4, 5, 6] ++ []))) ∧
    (expandRaw [⟨0x3f, 0⟩, ⟨0x3f, 0⟩, ⟨0x3f, 0⟩]).length = 3 ∧
    ((expandRaw [⟨0x3f, 0⟩, ⟨0x3f, 0⟩, ⟨0x3f, 0⟩]).map xSize).sum = 3 := by decide +kernel
/-- flags that end before every point has one: an error in the fast decoder, no points in the slow one -/
example : (readSimple (repeat0.take 18)).map (·.readPointsFast) = some none ∧
    (readSimple (repeat0.take 18)).map (·.points) = some [] := by decide +kernel

/-- a history with rejected glyphs in the middle (composites without components fail validation): the
builder carries on, only the accepted glyphs get glyph ids and bytes, and the plain `build` of the same
list gives up -/
def noComps : CompositeGlyph := ⟨1, 2, 3, 4, [], []⟩
example : addOutcome (.composite noComps) = .err := by decide +kernel
example : (buildHist [.empty, .composite noComps, .simple tri, .composite noComps, .empty]).map (fun r => r.2)
    = some [0, 0, 26, 26] := by decide +kernel
example : accepted [.empty, .composite noComps, .simple tri, .composite noComps, .empty]
    = [.empty, .simple tri, .empty] := by decide +kernel
example : build [.empty, .composite noComps, .simple tri] = none := by decide +kernel
example : buildHist [.empty, .composite noComps, .simple tri] = build [.empty, .simple tri] := by decide +kernel
/-- a panic (an empty first contour underflows `cur as u16 - 1`) ends the history -/
example : histOutcomes [.composite noComps, .simple ⟨0, 0, 0, 0, [[]], []⟩, .empty] = [.err, .trap] := by
  decide +kernel

/-- a "circle" of four quadratics whose on-curve points (including the START point) are all implied:
the glyph keeps only the four off-curve points, and the draw starts at the re-created midpoint -/
def circle : PContour := ⟨0, 1, [.quad 1 1 1 0, .quad 1 (-1) 0 (-1), .quad (-1) (-1) (-1) 0, .quad (-1) 1 0 1]⟩

example : circle.Bounded := by
  refine ⟨by decide, by decide, ?_⟩
  intro s hs
  simp only [circle, List.mem_cons, List.not_mem_nil, or_false] at hs
  rcases hs with rfl | rfl | rfl | rfl <;> simp [Seg.Bounded, inI16]
example : (fromBezpath circle.els).toOption.map (·.contours) =
    some [[⟨1, 1, false⟩, ⟨1, -1, false⟩, ⟨-1, -1, false⟩, ⟨-1, 1, false⟩]] := by decide +kernel
example : contourCmds circle = [.move 0 64, .quad 64 64 64 0, .quad 64 (-64) 0 (-64),
    .quad (-64) (-64) (-64) 0, .quad (-64) 64 0 64, .close] := by decide +kernel
/-- a triangle closed by an explicit line back to the start: the duplicate point is removed and the
closing line is left to `close` -/
example : contourCmds ⟨0, 0, [.line 10 0, .line 5 8, .line 0 0]⟩ =
    [.move 0 0, .line 640 0, .line 320 512, .close] := by decide +kernel
example : isImplicit [⟨0, 1, true⟩, ⟨1, 1, false⟩, ⟨1, 0, true⟩, ⟨1, -1, false⟩] 2 = true := by
  decide +kernel

end FontVerif.C09
