/-
C17 — COLR ClipList subsetting (klippa/src/colr.rs `impl SubsetTable for ClipList`, `serialize_clips`), theorems over the
model `SubsetColr.clipMap` / `clipRuns` (Model/SubsetColr.lean; tied to klippa by the byte-exact COLR correspondence of
harness/src/bin/c17/colrx.rs, whose ClipList object is built from exactly these two functions).
Reader: `clipLookup` = the Clip record whose [start, end] contains the glyph id (read-fonts / skrifa binary-search the
records; they are sorted and disjoint by `cliplist_records_sorted_disjoint`, so the first match is the only one).
-/
import FontVerif.Lemmas.SubsetColrClip
namespace FontVerif.C17ColrClip
open FontVerif.SubsetColr

/-- Whenever `ClipList::subset` writes records (the map of new gids is non-empty),
the Clip records it writes have start ≤ end, ascend, and never overlap or touch out of order: each record starts after
the previous one ended. -/
theorem cliplist_records_sorted_disjoint (p : PlanIn) (clips : List (Nat × Nat × Nat)) (g0 o0 : Nat)
    (rest : List (Nat × Nat)) (hm : clipMap p clips = (g0, o0) :: rest) :
    RunsSorted g0 (clipRuns rest g0 g0 o0) :=
  (clipList_lookup p clips g0 o0 rest hm).1

/-- For EVERY plan and source Clip list (also overlapping / unsorted source records
and non-injective glyph maps): the box a new glyph id gets from the written records is the box of the LAST write
`new_gids_offset_map.insert(new_gid as u16, offset)` of the first loop for that id, and ids that were never written get
no box — merging consecutive ids never pulls a foreign id into a range and never changes a box. -/
theorem cliplist_lookup_is_last_write (p : PlanIn) (clips : List (Nat × Nat × Nat)) (g0 o0 : Nat)
    (rest : List (Nat × Nat)) (hm : clipMap p clips = (g0, o0) :: rest) (ng : Nat) :
    clipLookup ng (clipRuns rest g0 g0 o0) = amLookup ng (clipWrites p clips).reverse :=
  (clipList_lookup p clips g0 o0 rest hm).2 ng

/-- `glyphset_colred` ascending.  If the boxes are unambiguous for the new id `ng` (any two
kept glyphs with that new id — as u16 — that lie in source Clip records have the same box offset: true for a
well-formed ClipList with disjoint records and an injective glyph map), then the written records give `ng` the box
offset `o` exactly when `ng` is the image of a kept colour glyph lying in a source record with box `o`: clip boxes are
kept for the retained glyphs and only for them. -/
theorem cliplist_boxes_kept_exactly (p : PlanIn) (clips : List (Nat × Nat × Nat)) (hs : p.colred.Pairwise (· < ·))
    (g0 o0 : Nat) (rest : List (Nat × Nat)) (hm : clipMap p clips = (g0, o0) :: rest) (ng o : Nat)
    (hu : ∀ o1 o2, ClipOf p clips ng o1 → ClipOf p clips ng o2 → o1 = o2) :
    clipLookup ng (clipRuns rest g0 g0 o0) = some o ↔ ClipOf p clips ng o := by
  rw [cliplist_lookup_is_last_write p clips g0 o0 rest hm ng]
  constructor
  · intro h
    have := amLookup_mem _ _ _ h
    rw [List.mem_reverse] at this
    exact (mem_clipWrites p clips hs ng o).1 this
  · intro h
    apply amLookup_of_mem_unique
    · rw [List.mem_reverse]; exact (mem_clipWrites p clips hs ng o).2 h
    · intro v' hv'
      rw [List.mem_reverse] at hv'
      exact hu v' o ((mem_clipWrites p clips hs ng v').1 hv') h

/-- The ClipList is dropped (`SERIALIZE_ERROR_EMPTY`, offset stays null)
exactly when no kept colour glyph with an image lies in any source Clip record. -/
theorem cliplist_dropped_iff_no_kept_glyph_clipped (p : PlanIn) (clips : List (Nat × Nat × Nat))
    (hs : p.colred.Pairwise (· < ·)) :
    clipMap p clips = [] ↔ ∀ ng o, ¬ ClipOf p clips ng o := by
  rw [clipMap_nil_iff]
  constructor
  · intro h ng o hc
    have := (mem_clipWrites p clips hs ng o).2 hc
    rw [h] at this; simp at this
  · intro h
    cases hw : clipWrites p clips with
    | nil => rfl
    | cons w ws =>
      exfalso
      exact h w.1 w.2 ((mem_clipWrites p clips hs w.1 w.2).1 (by rw [hw]; exact List.mem_cons_self ..))

/-- glyphs 3..9 kept and renumbered 1..7; source records [2,4]→box 100, [5,5]→100, [6,7]→200, [9,12]→100:
new ids 1..3 share box 100 and merge, 4..5 get 200, 7 (old 9) gets 100 in its own record (6 = old 8 has no box) -/
def exPlan : PlanIn :=
  { colred := [3, 4, 5, 6, 7, 8, 9], glyphMap := [(3, 1), (4, 2), (5, 3), (6, 4), (7, 5), (8, 6), (9, 7)],
    palettes := [], layers := [], varIdx := [], innerMaps := [], newDs := [] }
def exClips : List (Nat × Nat × Nat) := [(2, 4, 100), (5, 5, 100), (6, 7, 200), (9, 12, 100)]

example : clipMap exPlan exClips = [(1, 100), (2, 100), (3, 100), (4, 200), (5, 200), (7, 100)] := by decide
example : clipRuns [(2, 100), (3, 100), (4, 200), (5, 200), (7, 100)] 1 1 100 =
    [(1, 3, 100), (4, 5, 200), (7, 7, 100)] := by decide
example : [1, 2, 3, 4, 5, 6, 7, 8].map (fun g => clipLookup g [(1, 3, 100), (4, 5, 200), (7, 7, 100)]) =
    [some 100, some 100, some 100, some 200, some 200, none, some 100, none] := by decide
example : exPlan.colred.Pairwise (· < ·) := by decide

end FontVerif.C17ColrClip
