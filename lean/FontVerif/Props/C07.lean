/-
C07 — compilation is deterministic across threads, runs and history.

Theorems over `Model/Determinism.lean` (see there for the Rust ↔ Lean map):
* the global id counter: whatever the interleaving and the prior history, the ids one compilation draws are strictly
  increasing in its own program order, so two runs differ by a strictly monotone renaming of ids;
* hash-container iteration order: every inventoried consumption pattern is invariant under permutation of the
  iteration order;
* the id-consuming functions commute with strictly monotone renamings.
-/
import FontVerif.Model.Determinism
import FontVerif.Lemmas.Determinism
import FontVerif.Lemmas.DeterminismEquiv
import FontVerif.Gen.Sites
namespace FontVerif.C07
open FontVerif.Determinism

/-! ## 1. the counter under arbitrary schedules -/

private theorem runSched_bounds (c : Nat) (sched : List Nat) (h : c + sched.length ≤ U64) :
    ∀ e ∈ runSched c sched, c ≤ e.2 ∧ e.2 < c + sched.length := by
  induction sched generalizing c with
  | nil => intro e he; simp [runSched] at he
  | cons t ts ih =>
    intro e he
    simp only [runSched, fetchAdd, List.mem_cons] at he
    simp only [List.length_cons] at h ⊢
    rcases he with rfl | he
    · simp
    · have hlt : c + 1 < U64 ∨ ts = [] := by
        cases ts with
        | nil => right; rfl
        | cons _ _ => left; simp at h; omega
      rcases hlt with hlt | rfl
      · rw [Nat.mod_eq_of_lt hlt] at he
        have := ih (c + 1) (by omega) e he
        omega
      · simp [runSched] at he

/-- All ids handed out along a schedule are strictly increasing in schedule order (as long as the 64-bit counter
    does not wrap: `c + #steps ≤ 2^64`). -/
theorem trace_strictly_increasing (c : Nat) (sched : List Nat) (h : c + sched.length ≤ U64) :
    ((runSched c sched).map (·.2)).Pairwise (· < ·) := by
  induction sched generalizing c with
  | nil => simp [runSched]
  | cons t ts ih =>
    simp only [runSched, fetchAdd, List.map_cons, List.pairwise_cons]
    simp only [List.length_cons] at h
    cases ts with
    | nil => simp [runSched]
    | cons t' ts' =>
      have hlt : c + 1 < U64 := by simp at h; omega
      rw [Nat.mod_eq_of_lt hlt]
      refine ⟨?_, ih (c + 1) (by omega)⟩
      intro a ha
      simp only [List.mem_map] at ha
      obtain ⟨e, he, rfl⟩ := ha
      have := runSched_bounds (c + 1) (t' :: ts') (by omega) e he
      omega

/-- **schedule_monotone**: for EVERY schedule (interleaving of any number of threads) and every starting value of
    the counter (prior history), the ids obtained by one thread are strictly increasing in its own program order. -/
theorem schedule_monotone (c : Nat) (sched : List Nat) (t : Nat) (h : c + sched.length ≤ U64) :
    (idsOf t (runSched c sched)).Pairwise (· < ·) := by
  have := trace_strictly_increasing c sched h
  unfold idsOf
  rw [List.pairwise_map] at this ⊢
  exact this.sublist List.filter_sublist

/-- a thread obtains exactly as many ids as it has steps in the schedule -/
theorem ids_length (c : Nat) (sched : List Nat) (t : Nat) :
    (idsOf t (runSched c sched)).length = sched.count t := by
  induction sched generalizing c with
  | nil => simp [runSched, idsOf]
  | cons t' ts ih =>
    have := ih (fetchAdd c).2
    simp only [idsOf, List.length_map] at this ⊢
    simp only [runSched, List.filter_cons, List.count_cons]
    by_cases htt : t' = t
    · subst htt; simp [this]
    · have : (t' == t) = false := by simpa using htt
      simp [*]

def MonoOn (ρ : Nat → Nat) (l : List Nat) : Prop := ∀ a ∈ l, ∀ b ∈ l, a < b → ρ a < ρ b

/-- Two strictly increasing id sequences of the same length are related by a renaming that is strictly monotone on
    the first. -/
theorem monotone_renaming_exists (l₁ l₂ : List Nat) (h₁ : l₁.Pairwise (· < ·)) (h₂ : l₂.Pairwise (· < ·))
    (hlen : l₁.length = l₂.length) : ∃ ρ : Nat → Nat, MonoOn ρ l₁ ∧ l₁.map ρ = l₂ := by
  induction l₁ generalizing l₂ with
  | nil =>
    cases l₂ with
    | nil => exact ⟨id, by intro a ha; simp at ha, rfl⟩
    | cons _ _ => simp at hlen
  | cons a as ih =>
    cases l₂ with
    | nil => simp at hlen
    | cons b bs =>
      rw [List.pairwise_cons] at h₁ h₂
      obtain ⟨ρ', hmono, hmap⟩ := ih bs h₁.2 h₂.2 (by simpa using hlen)
      refine ⟨fun x => if x = a then b else ρ' x, ?_, ?_⟩
      · intro x hx y hy hxy
        simp only [List.mem_cons] at hx hy
        have hmem : ∀ z ∈ as, ρ' z ∈ bs := by
          intro z hz; rw [← hmap]; exact List.mem_map.mpr ⟨z, hz, rfl⟩
        rcases hx with rfl | hx <;> rcases hy with rfl | hy
        · omega
        · have hne : y ≠ x := by have := h₁.1 y hy; omega
          simp only [if_neg hne]
          exact h₂.1 _ (hmem y hy)
        · have := h₁.1 x hx; omega
        · have hx' : x ≠ a := by have := h₁.1 x hx; omega
          have hy' : y ≠ a := by have := h₁.1 y hy; omega
          simp only [if_neg hx', if_neg hy']
          exact hmono x hx y hy hxy
      · simp only [List.map_cons]
        congr 1
        rw [← hmap]
        apply List.map_congr_left
        intro x hx
        have : x ≠ a := by have := h₁.1 x hx; omega
        simp [this]

/-- **runs_differ_by_monotone_renaming**: take the same compilation (a thread performing `n` draws) in two
    arbitrary executions — different starting counters (histories), different interleavings with any other threads,
    different thread names.  The ids it sees in the two executions differ by a renaming that is strictly monotone on
    the ids of the first execution. -/
theorem runs_differ_by_monotone_renaming (c c' : Nat) (sched sched' : List Nat) (t t' : Nat)
    (h : c + sched.length ≤ U64) (h' : c' + sched'.length ≤ U64)
    (hsame : sched.count t = sched'.count t') :
    ∃ ρ : Nat → Nat, MonoOn ρ (idsOf t (runSched c sched)) ∧
      (idsOf t (runSched c sched)).map ρ = idsOf t' (runSched c' sched') :=
  monotone_renaming_exists _ _ (schedule_monotone c sched t h) (schedule_monotone c' sched' t' h')
    (by rw [ids_length, ids_length, hsame])

-- non-vacuity: two threads interleaved; history 0 vs history 1000 and a different interleaving
example : idsOf 7 (runSched 0 [7, 3, 7, 7, 3]) = [0, 2, 3] := by decide
example : idsOf 9 (runSched 1000 [1, 1, 9, 2, 9, 2, 2, 9]) = [1002, 1004, 1007] := by decide
example : (0 : Nat) + [7, 3, 7, 7, 3].length ≤ U64 := by decide
-- at the wrap the hypothesis fails and so does monotonicity: the hypothesis is needed
example : idsOf 0 (runSched (U64 - 1) [0, 0]) = [U64 - 1, 0] := by decide

/-! ## 2. hash-container iteration order: one permutation-invariance lemma per consumption pattern

`std::collections::HashMap` is assumed to yield every entry exactly once, in an arbitrary order: two iterations of
the same container contents are permutations of one another (`List.Perm`). -/

/-- class `collect_ordered`: any `collect::<BTreeMap<_,_>>()` of entries with distinct keys -/
theorem collect_ordered_perm {α : Type} (l₁ l₂ : List (Nat × α)) (hp : l₁.Perm l₂) (hk : (l₁.map (·.1)).Nodup) :
    OMap.ofList l₁ = OMap.ofList l₂ := by
  unfold OMap.ofList
  simp only [OMap.insert_eq]
  exact SMap.foldl_insert_perm hp hk []

/-- **store_perm_invariant** (class `collect_ordered`; `Graph::from_obj_store`): whatever order the
    `HashMap<TableData, ObjectId>` yields its entries in, the `BTreeMap<ObjectId, TableData>` built from them is the
    same — provided the ids are distinct, which `trace_strictly_increasing` guarantees for ids drawn from the counter. -/
theorem store_perm_invariant (es₁ es₂ : List (Obj × Nat)) (hp : es₁.Perm es₂) (hid : (es₁.map (·.2)).Nodup) :
    fromObjStore es₁ = fromObjStore es₂ :=
  collect_ordered_perm _ _ (hp.map _) (by rw [List.map_map]; exact hid)

/-- `collect::<BTreeSet<_>>()` / sorted-and-deduplicated collections (`CoverageTable::from_iter`): no side condition -/
theorem collect_ordered_set_perm (l₁ l₂ : List Nat) (hp : l₁.Perm l₂) : OSet.ofList l₁ = OSet.ofList l₂ := by
  have hs : ∀ l : List Nat, ∀ s, SortedSet s → SortedSet (l.foldl (fun s k => OSet.insert k s) s) := by
    intro l; induction l with
    | nil => intro s h; exact h
    | cons a as ih => intro s h; exact ih _ (oset_insert_sorted a s h)
  have hm : ∀ l : List Nat, ∀ s x, x ∈ l.foldl (fun s k => OSet.insert k s) s ↔ x ∈ l ∨ x ∈ s := by
    intro l; induction l with
    | nil => intro s x; simp
    | cons a as ih =>
      intro s x
      simp only [List.foldl_cons, ih, oset_mem_insert, List.mem_cons]
      constructor
      · intro h; rcases h with h | h | h
        · exact Or.inl (Or.inr h)
        · exact Or.inl (Or.inl h)
        · exact Or.inr h
      · intro h; rcases h with (h | h) | h
        · exact Or.inr (Or.inl h)
        · exact Or.inl h
        · exact Or.inr (Or.inr h)
  apply sorted_ext (hs l₁ [] List.Pairwise.nil) (hs l₂ [] List.Pairwise.nil)
  intro x
  rw [hm, hm, hp.mem_iff]

/-- class `collect_hash`: a set built from the iteration is only asked membership questions -/
theorem collect_hash_perm {α : Type} (l₁ l₂ : List α) (hp : l₁.Perm l₂) (x : α) : x ∈ l₁ ↔ x ∈ l₂ := hp.mem_iff

/-- class `set_algebra` (`remove_orphans`): removing a set of keys from a `BTreeMap`, in any order -/
theorem eraseAll_perm {α : Type} (ks₁ ks₂ : List Nat) (hp : ks₁.Perm ks₂) (m : OMap α) :
    eraseAll ks₁ m = eraseAll ks₂ m := by
  unfold eraseAll
  exact hp.foldl_eq' (fun x _ y _ z => erase_comm y x z) m

/-- class `fold_commutative`: sums (`split_subtables`), counts, maxima -/
theorem sum_perm (l₁ l₂ : List Nat) (hp : l₁.Perm l₂) : l₁.sum = l₂.sum := hp.sum_nat

theorem count_perm {α : Type} (p : α → Bool) (l₁ l₂ : List α) (hp : l₁.Perm l₂) :
    (l₁.filter p).length = (l₂.filter p).length := (hp.filter p).length_eq

theorem max_perm (l₁ l₂ : List Nat) (hp : l₁.Perm l₂) : l₁.foldl max 0 = l₂.foldl max 0 :=
  hp.foldl_eq' (fun x _ y _ z => by simp only [Nat.max_assoc, Nat.max_comm x y]) 0

/-- class `check_only` (`sort_kahn`'s cycle check): "does some entry fail the test" -/
theorem any_perm {α : Type} (p : α → Bool) (l₁ l₂ : List α) (hp : l₁.Perm l₂) : l₁.any p = l₂.any p := hp.any_eq

/-- class `sort_total_key` (`ClassDefBuilder::build_with_mapping`, `SinglePosBuilder::build`,
    `make_region_list`): collected into a `Vec` in iteration order, then sorted by a key that is injective on the
    elements — the sorted vector does not depend on the iteration order. -/
theorem sortByKey_perm_of_injective {α : Type} (key : α → Nat) (l₁ l₂ : List α) (hp : l₁.Perm l₂)
    (hinj : l₁.Pairwise (fun a b => key a ≠ key b)) : sortByKey key l₁ = sortByKey key l₂ :=
  sortByKey_perm key hp (List.Pairwise.forall_of_forall_of_flip (fun _ _ _ => rfl) (hinj.imp fun hne e => absurd e hne)
    (hinj.imp fun hne e => absurd e.symm hne))

/-- class `max_total_tiebreak`: `max_by_key` with a key that is injective on the elements -/
theorem maxByKey_perm_of_injective {α : Type} (key : α → Nat) (l₁ l₂ : List α) (hp : l₁.Perm l₂)
    (hinj : ∀ a ∈ l₁, ∀ b ∈ l₁, key a = key b → a = b) : maxByKey key l₁ = maxByKey key l₂ := by
  cases l₁ with
  | nil => rw [List.nil_perm.mp hp]
  | cons a as =>
    have hne₂ : l₂ ≠ [] := by
      intro h; subst h; exact absurd hp.length_eq (by simp)
    obtain ⟨m₁, e₁, mem₁, max₁⟩ := maxByKey_spec key (a :: as) (by simp)
    obtain ⟨m₂, e₂, mem₂, max₂⟩ := maxByKey_spec key l₂ hne₂
    rw [e₁, e₂]
    have h12 := max₂ m₁ (hp.mem_iff.mp mem₁)
    have h21 := max₁ m₂ (hp.mem_iff.mpr mem₂)
    rw [hinj m₁ mem₁ m₂ (hp.mem_iff.mpr mem₂) (by omega)]

/-- class `unique_match` (`MarkList::insert`, `get_promotable_subtables`): `find` where at most one element can
    match -/
theorem find_perm_of_unique {α : Type} (p : α → Bool) (l₁ l₂ : List α) (hp : l₁.Perm l₂)
    (huniq : ∀ a ∈ l₁, ∀ b ∈ l₁, p a = true → p b = true → a = b) : l₁.find? p = l₂.find? p := by
  cases h₁ : l₁.find? p with
  | none =>
    rw [List.find?_eq_none] at h₁
    symm; rw [List.find?_eq_none]
    intro x hx; exact h₁ x (hp.mem_iff.mpr hx)
  | some a =>
    have ha := List.find?_some h₁
    have hmem := List.mem_of_find?_eq_some h₁
    cases h₂ : l₂.find? p with
    | none =>
      rw [List.find?_eq_none] at h₂
      exact absurd ha (h₂ a (hp.mem_iff.mp hmem))
    | some b =>
      have hb := List.find?_some h₂
      have hmemb := hp.mem_iff.mpr (List.mem_of_find?_eq_some h₂)
      rw [huniq a hmem b hmemb ha hb]

/-- class `remove_insert_disjoint` (`isolate_subgraph_hb`): `for (old, new) in id_map { if roots.remove(&old) {
    roots.insert(new); } }` over a `HashMap<ObjectId, ObjectId>` whose keys are distinct existing ids and whose
    values are distinct fresh ids (`Compat`): the resulting `BTreeSet` does not depend on the iteration order. -/
theorem renameRoots_perm (m₁ m₂ : List (Nat × Nat)) (hp : m₁.Perm m₂) (roots : OSet) (hs : SortedSet roots)
    (hc : m₁.Pairwise Compat) : renameRoots m₁ roots = renameRoots m₂ roots := by
  rw [renameRoots_eq, renameRoots_eq]
  exact foldl_perm_inv stepRoots SortedSet Compat
    (fun x y h => ⟨Ne.symm h.1, Ne.symm h.2.1, h.2.2.2, h.2.2.1⟩)
    (fun z x hz => stepRoots_sorted z x hz) (fun z x y hz h => stepRoots_comm z x y hz h) hp roots hs hc

/-- class `insertion_ordered` (`IndexMap` in gvar.rs / ivs_builder.rs): the model of `entry(k).or_default()` /
    `insert`: an existing key keeps its position, a new key goes last — so the iteration order is the order of first
    insertion, a function of the input sequence alone (that `indexmap` really iterates in insertion order is its
    documented contract, assumed). -/
theorem indexmap_insert_keeps_order {κ α : Type} [DecidableEq κ] (f : Option α → α) (k : κ) (m : List (κ × α)) :
    (IndexMap.insertWith f k m).map (·.1) = if k ∈ m.map (·.1) then m.map (·.1) else m.map (·.1) ++ [k] := by
  induction m with
  | nil => simp [IndexMap.insertWith]
  | cons e rest ih =>
    obtain ⟨k', v⟩ := e
    simp only [IndexMap.insertWith]
    by_cases h : k = k'
    · subst h; simp
    · have hk : (k ∈ k' :: rest.map (·.1)) ↔ k ∈ rest.map (·.1) := by simp [h]
      simp only [if_neg h, List.map_cons, ih, hk]
      split <;> simp

example : IndexMap.countAll [3, 1, 3, 2, 1, 3] = [(3, 3), (1, 2), (2, 1)] := by decide

/-! ## 3. equivariance of the id-consuming functions, and the end-to-end statement -/

/-- **pack_equivariant**: `Graph::from_obj_store`, `sort_kahn` (BinaryHeap tie-break on `ObjectId`) and `serialize`
    commute with every renaming `ρ` of object ids that is strictly monotone on the ids in use (`U`): the write order
    is the renamed write order, and the bytes — which contain offsets, never ids — are equal. -/
theorem pack_equivariant (ρ : Nat → Nat) (U : Nat → Prop) (h : MonoOnP ρ U) (es : List (Obj × Nat)) (root : Nat)
    (hes : ∀ e ∈ es, U e.2 ∧ ∀ l ∈ e.1.links, U l.target) (hr : U root) :
    fromObjStore (renameEntries ρ es) = renameMap ρ (fromObjStore es) ∧
    sortKahn (fromObjStore (renameEntries ρ es)) (ρ root) = (sortKahn (fromObjStore es) root).map ρ ∧
    packSimple (fromObjStore (renameEntries ρ es)) (ρ root) = packSimple (fromObjStore es) root := by
  have hc := fromObjStore_closed U es hes
  have e1 := fromObjStore_rename h es (fun e he => (hes e he).1)
  refine ⟨e1, ?_, ?_⟩
  · rw [e1]; exact sortKahn_rename h _ hc root hr
  · unfold packSimple
    rw [e1, sortKahn_rename h _ hc root hr]
    exact serialize_rename h _ hc _ (sortKahn_closed _ hc root hr)

private theorem instantiate_map (ρ : Nat → Nat) (tmpl : List Obj) (ids : List Nat)
    (hl : ∀ o ∈ tmpl, ∀ l ∈ o.links, l.target < ids.length) :
    instantiate tmpl (ids.map ρ) = renameEntries ρ (instantiate tmpl ids) := by
  unfold instantiate renameEntries
  rw [List.zip_map_right, List.map_map, List.map_map]
  apply List.map_congr_left
  intro p hp
  have hp1 := (List.of_mem_zip hp).1
  simp only [Function.comp, Obj.rename, List.map_map, Prod.map]
  congr 2
  apply List.map_congr_left
  intro l hlm
  simp only [Function.comp, Link.rename, FontVerif.getD_map ρ ids 0 0 (hl p.1 hp1 l hlm)]

private theorem instantiate_ids (tmpl : List Obj) (ids : List Nat) (hlen : ids.length = tmpl.length) :
    (instantiate tmpl ids).map (·.2) = ids := by
  unfold instantiate
  rw [List.map_map]
  have : ((fun x : Obj × Nat => x.2) ∘ fun p : Obj × Nat =>
      (({ bytes := p.1.bytes, links := p.1.links.map (fun l => { l with target := ids.getD l.target 0 }) } : Obj), p.2)) =
      (fun p => p.2) := rfl
  rw [this]
  exact List.map_snd_zip (by omega)

/-- **bytes_independent_of_schedule_history_and_hash_order** — the end-to-end statement for the modelled slice
    (`TableWriter` store → `from_obj_store` → `sort_kahn` → `serialize`).  Fix the VALUE being compiled (`tmpl`:
    its distinct tables in first-insertion order with links by index, and the index of the root).  Take two
    arbitrary executions: any starting value of the global counter (history), any interleaving with any other
    threads' `ObjectId::next` calls (`sched`, `sched'`), any thread, and any iteration order of the
    `HashMap<TableData, ObjectId>` (`es`, `es'` are arbitrary permutations of the store contents).  The bytes are
    the same. -/
theorem bytes_independent_of_schedule_history_and_hash_order
    (tmpl : List Obj) (rootIdx : Nat)
    (hlinks : ∀ o ∈ tmpl, ∀ l ∈ o.links, l.target < tmpl.length) (hroot : rootIdx < tmpl.length)
    (c c' : Nat) (sched sched' : List Nat) (t t' : Nat)
    (hb : c + sched.length ≤ U64) (hb' : c' + sched'.length ≤ U64)
    (hn : sched.count t = tmpl.length) (hn' : sched'.count t' = tmpl.length)
    (es es' : List (Obj × Nat))
    (hp : es.Perm (instantiate tmpl (idsOf t (runSched c sched))))
    (hp' : es'.Perm (instantiate tmpl (idsOf t' (runSched c' sched')))) :
    packSimple (fromObjStore es) ((idsOf t (runSched c sched)).getD rootIdx 0) =
      packSimple (fromObjStore es') ((idsOf t' (runSched c' sched')).getD rootIdx 0) := by
  generalize hids : idsOf t (runSched c sched) = ids at *
  generalize hids' : idsOf t' (runSched c' sched') = ids' at *
  have hlen : ids.length = tmpl.length := by rw [← hids, ids_length, hn]
  have hlen' : ids'.length = tmpl.length := by rw [← hids', ids_length, hn']
  have hsorted : ids.Pairwise (· < ·) := by rw [← hids]; exact schedule_monotone c sched t hb
  have hsorted' : ids'.Pairwise (· < ·) := by rw [← hids']; exact schedule_monotone c' sched' t' hb'
  obtain ⟨ρ, hmono, hmap⟩ := monotone_renaming_exists ids ids' hsorted hsorted' (by omega)
  have hnodup : ∀ l : List Nat, l.Pairwise (· < ·) → l.Nodup := by
    intro l hl; exact hl.imp (fun h => Nat.ne_of_lt h)
  -- the hash order does not matter
  rw [store_perm_invariant es _ hp (by rw [hp.map (·.2) |>.nodup_iff, instantiate_ids tmpl ids hlen]; exact hnodup _ hsorted),
    store_perm_invariant es' _ hp' (by rw [hp'.map (·.2) |>.nodup_iff, instantiate_ids tmpl ids' hlen']; exact hnodup _ hsorted')]
  -- the second run is the first one renamed
  have hl : ∀ o ∈ tmpl, ∀ l ∈ o.links, l.target < ids.length := by rw [hlen]; exact hlinks
  rw [← hmap, instantiate_map ρ tmpl ids hl, FontVerif.getD_map ρ ids 0 0 (by omega)]
  have hU : MonoOnP ρ (· ∈ ids) := fun a b ha hb hab => hmono a ha b hb hab
  refine ((pack_equivariant ρ (· ∈ ids) hU (instantiate tmpl ids) (ids.getD rootIdx 0) ?_ (FontVerif.mem_getD ids rootIdx 0 (by omega))).2.2).symm
  intro e he
  unfold instantiate at he
  simp only [List.mem_map] at he
  obtain ⟨p, hpz, rfl⟩ := he
  refine ⟨(List.of_mem_zip hpz).2, ?_⟩
  intro l hlm
  simp only [List.mem_map] at hlm
  obtain ⟨l0, hl0, rfl⟩ := hlm
  exact FontVerif.mem_getD ids l0.target 0 (hl p.1 (List.of_mem_zip hpz).1 l0 hl0)

-- non-vacuity: a root with two children, one shared grandchild; two different executions and hash orders
example :
    let tmpl : List Obj := [⟨[255, 255, 255, 255, 1], [⟨0, 2, 1, 0⟩, ⟨2, 2, 2, 0⟩]⟩, ⟨[255, 255, 7], [⟨0, 2, 3, 0⟩]⟩,
      ⟨[255, 255, 8, 8], [⟨0, 2, 3, 0⟩]⟩, ⟨[9], []⟩]
    packSimple (fromObjStore (instantiate tmpl (idsOf 0 (runSched 0 [0, 0, 0, 0])))) 0 =
      [0, 5, 0, 8, 1, 0, 7, 7, 0, 4, 8, 8, 9] ∧
    packSimple (fromObjStore (instantiate tmpl (idsOf 5 (runSched 1000 [5, 2, 2, 5, 5, 2, 5]))).reverse) 1000 =
      [0, 5, 0, 8, 1, 0, 7, 7, 0, 4, 8, 8, 9] := by decide +kernel

/-! ## 4. the site inventory -/

/-- Every inventoried hash-container iteration, hash-typed declaration and use of process-global state
    (`translate/sites.py`, regenerated from the Rust sources on every run) is classified into a class whose lemma is
    proved above / below, or which needs none; nothing is unclassified. -/
theorem all_sites_discharged :
    (∀ s ∈ FontVerif.Gen.Sites.sites, s.2.2.discharged = true) ∧ FontVerif.Gen.Sites.unclassifiedCount = 0 := by
  decide +kernel

-- non-vacuity of the permutation lemmas: concrete permutations, hypotheses satisfiable
example : fromObjStore [(⟨[1], []⟩, 7), (⟨[2], []⟩, 3)] = fromObjStore [(⟨[2], []⟩, 3), (⟨[1], []⟩, 7)] := by decide
example : fromObjStore [(⟨[1], []⟩, 7), (⟨[2], []⟩, 3)] = [(3, ⟨[2], []⟩), (7, ⟨[1], []⟩)] := by decide
-- without distinct ids the hypothesis is needed: last writer wins
example : fromObjStore [(⟨[1], []⟩, 7), (⟨[2], []⟩, 7)] ≠ fromObjStore [(⟨[2], []⟩, 7), (⟨[1], []⟩, 7)] := by decide
example : renameRoots [(5, 100), (9, 101), (4, 102)] [2, 5, 9] = [2, 100, 101] := by decide
example : renameRoots [(4, 102), (9, 101), (5, 100)] [2, 5, 9] = [2, 100, 101] := by decide
example : [(5, 100), (9, 101), (4, 102)].Pairwise Compat := by unfold Compat; decide
-- the Compat hypothesis is needed: if a "new" id is another entry's "old" id the order matters
example : renameRoots [(5, 9), (9, 101)] [5] ≠ renameRoots [(9, 101), (5, 9)] [5] := by decide
example : sortByKey (·.1) [(3, 'a'), (1, 'b'), (2, 'c')] = sortByKey (·.1) [(2, 'c'), (3, 'a'), (1, 'b')] := by decide
-- with a non-injective key the result depends on the order: the hypothesis is needed
example : sortByKey (·.1) [(1, 'a'), (1, 'b')] ≠ sortByKey (·.1) [(1, 'b'), (1, 'a')] := by decide
example : maxByKey (·.1) [(1, 'a'), (1, 'b')] ≠ maxByKey (·.1) [(1, 'b'), (1, 'a')] := by decide

end FontVerif.C07
