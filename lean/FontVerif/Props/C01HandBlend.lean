/-
C01 (hand-written code) — the CFF2 blend state (read-fonts/src/tables/postscript/blend.rs ⇄ Model/HandBlend.lean):
for every item variation store (null / dangling offsets, region indexes beyond the region list, any number of
region indexes) and every store index, `BlendState::new` / `set_store_index` return `Ok` or an `Error` and keep the
16-slot scalar cache intact, and `scalars()` never slices outside the cache or the region index list and yields
EXACTLY `region_count()` items — which gives the hypothesis (at most `region_count()` items) under which
`Stack::apply_blend` is proved panic-free (`C01HandStack.applyBlend_total`).  Tied to the real `BlendState` by harness group `ps.blend.model` (`hz.blend`).
-/
import FontVerif.Model.HandBlend
namespace FontVerif.C01HandBlend
open FontVerif.HandBlend

/-- the precompute loop writes only inside the cache: its length never changes (`zip` with the 16 slots) -/
theorem precompute_length (s : Store) (coords : List Int) :
    ∀ (l : List Nat) (k : Nat) (sc : List Int), (precompute s coords l k sc).2.length = sc.length := by
  intro l
  induction l with
  | nil => intro k sc; rfl
  | cons ri rest ih =>
    intro k sc
    unfold precompute
    by_cases hk : k < sc.length
    · simp only [hk, if_true]
      cases regionScalar s coords ri with
      | error e => rfl
      | ok v => simp only []; rw [ih]; simp
    · simp [hk]

/-- **`update_precomputed_scalars` is total and keeps the cache shape**: for every store and store index the result is
`Ok` or an `Error` value; the cache keeps its 16 slots; after an `Err` the state has no region indices (so
`region_count()` is 0 and `scalars()` is empty), after `Ok` it has data. -/
theorem update_total (s : Store) (coords : List Int) (st : BSt) (h : st.scalars.length = 16) :
    (update s coords st).2.scalars.length = 16 ∧
    (∀ e, (update s coords st).1 = .error e → (update s coords st).2.regionIndices = [] ∧ (update s coords st).2.hasData = false) ∧
    ((update s coords st).1 = .ok () → (update s coords st).2.hasData = true) := by
  unfold update
  cases hd : s.datas[st.storeIndex]? with
  | none => simp [h]
  | some da =>
    cases da with
    | absent => simp [h]
    | bad => simp [h]
    | ok ris =>
      simp only []
      by_cases hr : s.regionListOk = true
      · simp only [hr, Bool.not_true, Bool.false_eq_true, if_false]
        have hl := precompute_length s coords (ris.take MAX_PRECOMPUTED_SCALARS) 0 st.scalars
        rcases hp : precompute s coords (ris.take MAX_PRECOMPUTED_SCALARS) 0 st.scalars with ⟨r, sc⟩
        rw [hp] at hl
        simp only at hl
        cases r with
        | error e => simp [hl, h]
        | ok u => cases u; simp [hl, h]
      · simp [hr, h]

/-- `BlendState::new` and `set_store_index` keep the cache shape, whatever they return -/
theorem new_setStoreIndex_shape (s : Store) (coords : List Int) (i : Nat) (st : BSt) (h : st.scalars.length = 16) :
    (HandBlend.new s coords i).2.scalars.length = 16 ∧ (setStoreIndex s coords st i).2.scalars.length = 16 := by
  refine ⟨(update_total s coords _ (by simp)).1, ?_⟩
  unfold setStoreIndex
  by_cases hi : st.storeIndex ≠ i
  · rw [if_pos hi]; exact (update_total s coords { st with storeIndex := i } h).1
  · rw [if_neg hi]; exact h

/-- **`scalars()` never panics and yields exactly `region_count()` items**: `self.scalars[..min(16, n)]` lies inside
the 16-slot cache and `self.region_indices[16..]` is only taken when there are more than 16 indices; each item is a
`Fixed` or an `Error` (a region index beyond the region list, an unreadable region list). -/
theorem scalars_total (s : Store) (coords : List Int) (st : BSt) (h : st.scalars.length = 16) :
    ∃ xs, scalars s coords st = some xs ∧ xs.length = regionCount st := by
  unfold scalars regionCount MAX_PRECOMPUTED_SCALARS
  have h1 : min 16 st.regionIndices.length ≤ st.scalars.length := by omega
  simp only [h1, if_true]
  by_cases h2 : st.regionIndices.length > 16
  · have h3 : 16 ≤ st.regionIndices.length := by omega
    simp only [h2, h3, if_true]
    refine ⟨_, rfl, ?_⟩
    simp [List.length_append, List.length_map, List.length_take, List.length_drop]; omega
  · simp only [h2, if_false]
    refine ⟨_, rfl, ?_⟩
    simp [List.length_map, List.length_take]; omega

/-- two regions on one axis at coordinate 0.5: scalars 0.5 and 0 -/
example :
    let s : Store := ⟨[.ok [0, 1]], true, 1, [[(0, 16384, 16384)], [(-16384, -16384, 0)]]⟩
    let r := HandBlend.new s [8192] 0
    (match r.1 with | .ok _ => true | .error _ => false) = true ∧
    (scalars s [8192] r.2).map (·.map (fun x => match x with | .ok v => some v | .error _ => none)) =
      some [some 32768, some 0] := by decide +kernel

/-- a null data offset is `InvalidVariationStoreIndex`, an index beyond the offsets a read error -/
example :
    (match (HandBlend.new ⟨[.absent], true, 1, []⟩ [] 0).1 with | .error e => some e | .ok _ => none) = some (.invalidStoreIndex 0) ∧
    (match (HandBlend.new ⟨[.absent], true, 1, []⟩ [] 5).1 with | .error e => some e | .ok _ => none) = some .read := by
  decide +kernel

/-- 17 region indexes: the 17th scalar is computed on demand, and is an `Err` item when its region is missing -/
example :
    let s : Store := ⟨[.ok (List.replicate 16 0 ++ [7])], true, 1, [[(0, 16384, 16384)]]⟩
    let r := HandBlend.new s [16384] 0
    (scalars s [16384] r.2).map (·.map (fun x => match x with | .ok v => some v | .error _ => none)) =
      some (List.replicate 16 (some 65536) ++ [none]) := by decide +kernel

end FontVerif.C01HandBlend
