/-
C03 — scaled and hinted outlines match FreeType (static fonts).  PARTIAL by design.  This module: the
fixed-point kernels, the TrueType round-state functions, the unhinted scaling of a simple glyph and the
value MIRP / MIAP / MDRP hand to `move_point`.  The vector machinery and point movement are in
Props/C03Vec.lean, IP / IUP / SHPIX / ALIGN* / MSIRP / MDAP / ISECT / UTP / FLIP* in Props/C03Interp.lean and
Props/C03Iup.lean, control values and delta exceptions in Props/C03Ctl.lean, the composite loader in
Props/C03Load.lean, the CFF hinter's scale in Props/C03Cff.lean, the decoders, skip loops, jump core and limits of
the interpreter's control flow in Props/C03Control.lean.  The n-step simulation of the control flow, error paths, the
CFF hint map, the autohinter and variable fonts are checked differentially against the linked FreeType by the
harness oracle, not proved.

Two transcriptions are related:
  skrifa side   Model/Fixed.lean (font-types `Fixed` operators), Model/HintMath.lean
                (hint/math.rs, projection.rs `dot14`), Model/HintRound.lean (hint/round.rs
                `RoundState::round`, engine/graphics.rs `super_round`) — in the overflow-checked
                profile, `none` = arithmetic-overflow trap;
  FreeType side Model/FtCalc.lean (ftcalc.c FT_MulFix/FT_DivFix/FT_MulDiv/FT_MulDiv_No_Round,
                ttinterp.c TT_MulFix14/TT_DotFix14, FT_PIX_* macros), Model/FtRound.lean
                (ttinterp.c Round_* and SetSuperRound) — 64-bit `long` arithmetic of the x86-64 build.
Shape of the theorems: for ALL i32 operands the skrifa function equals the FreeType function
(truncated to 32 bits where FreeType returns a 64-bit `long` that skrifa's `i32` API cannot hold, with a
corollary of exact equality whenever FreeType's result fits).  Where skrifa wraps at 32 bits and
FreeType's `long` has 64 (rounding a distance next to ±2^31) equality is stated on an explicit range
that is astronomically larger than any outline (|d| ≤ 2^30 26.6 units = 16.7 million pixels), and an
`example` shows the two really differ outside it.  Where skrifa still uses plain (trapping)
operators the statement is `skrifa = some (FreeType)`, i.e. it also proves "does not trap".
Helper lemmas: Lemmas/FtEq.lean, RoundEq.lean, MoveEq.lean.
-/
import FontVerif.Lemmas.FtEq
import FontVerif.Lemmas.MoveEq
import FontVerif.Model.Scale
namespace FontVerif.C03

/-- `Fixed * Fixed` = `FT_MulFix` (the x86-64 inline-assembler variant that is compiled and
exported) for all i32 operands. -/
theorem mulfix_eq (a b : Int) (ha : inI32 a) (hb : inI32 b) :
    Fixed.mul a b = FtCalc.mulFix a b :=
  math_mulfix_eq a b ha hb

example : Fixed.mul (-98304) 163840 = -245760 ∧ FtCalc.mulFix (-98304) 163840 = -245760 := by decide +kernel
example : Fixed.mul (-2147483648) (-2147483648) = FtCalc.mulFix (-2147483648) (-2147483648) := by decide +kernel

/-- `Fixed / Fixed` = `FT_DivFix` truncated to 32 bits, for all i32 operands (division by zero
included: both give ±0x7FFFFFFF). -/
theorem divfix_eq (a b : Int) (ha : inI32 a) (hb : inI32 b) :
    Fixed.div a b = wrapI32 (FtCalc.divFix a b) := by
  rw [ft_divFix_i32 ha hb, Fixed.div_mag]
  have bb := iabs_le hb
  -- skrifa tests `|b| = 0`, FreeType `|b| > 0`
  by_cases hz : iabs b = 0
  · rw [if_pos hz, if_neg (show ¬ iabs b > 0 by omega)]
  · rw [if_neg hz, if_pos (show iabs b > 0 by omega)]

/-- … and exactly `FT_DivFix` whenever FreeType's 64-bit quotient fits an `i32`. -/
theorem divfix_eq_exact (a b : Int) (ha : inI32 a) (hb : inI32 b) (hf : inI32 (FtCalc.divFix a b)) :
    Fixed.div a b = FtCalc.divFix a b := by
  rw [divfix_eq a b ha hb, wrapI32_id hf]

example : inI32 (FtCalc.divFix 98304 (-163840)) ∧ Fixed.div 98304 (-163840) = -39322 := by decide +kernel
example : Fixed.div 5 0 = 2147483647 ∧ FtCalc.divFix 5 0 = 2147483647
    ∧ Fixed.div (-5) 0 = -2147483647 ∧ FtCalc.divFix (-5) 0 = -2147483647 := by decide +kernel
-- the truncation is real: FreeType keeps 48 bits here, skrifa's `i32` cannot.
example : FtCalc.divFix (-2147483648) 1 = -140737488355328 ∧ Fixed.div (-2147483648) 1 = 0 := by decide +kernel

/-- `Fixed::mul_div` = `FT_MulDiv` truncated to 32 bits, for all i32 operands. -/
theorem muldiv_eq (a b c : Int) (ha : inI32 a) (hb : inI32 b) (hc : inI32 c) :
    Fixed.mulDiv a b c = wrapI32 (FtCalc.mulDiv a b c) := by
  rw [ft_mulDiv_i32 ha hb hc, Fixed.mulDiv_mag ha hb hc]
  rfl

theorem muldiv_eq_exact (a b c : Int) (ha : inI32 a) (hb : inI32 b) (hc : inI32 c)
    (hf : inI32 (FtCalc.mulDiv a b c)) : Fixed.mulDiv a b c = FtCalc.mulDiv a b c := by
  rw [muldiv_eq a b c ha hb hc, wrapI32_id hf]

example : inI32 (FtCalc.mulDiv 1000 (-2048) 72) ∧ Fixed.mulDiv 1000 (-2048) 72 = -28444 := by decide +kernel

/-- hint/math.rs `mul_div_no_round` = `FT_MulDiv_No_Round` truncated to 32 bits, for all i32 operands. -/
theorem muldiv_no_round_eq (a b c : Int) (ha : inI32 a) (hb : inI32 b) (hc : inI32 c) :
    HintMath.mulDivNoRound a b c = wrapI32 (FtCalc.mulDivNoRound a b c) := by
  unfold HintMath.mulDivNoRound FtCalc.mulDivNoRound
  rw [moveSign_abs (i32_i64 ha), moveSign_abs (i32_i64 hb), moveSign_abs (i32_i64 hc)]
  have bm := mul_bound_nonneg (iabs_le ha) (iabs_le hb)
  have e : wrapU64 (iabs a * iabs b) = iabs a * iabs b := by unfold wrapU64; omega
  have hq := uquot_bound (n := iabs a * iabs b) (c := iabs c) bm.1 (by omega)
  simp only [e]
  rw [ft_signed _ hq.1 hq.2]
  exact wrap_signed _ rfl

example : HintMath.mulDivNoRound 1000 (-2048) 72 = -28444
    ∧ FtCalc.mulDivNoRound 1000 (-2048) 72 = -28444 := by decide +kernel
example : HintMath.mulDivNoRound (-2147483648) 1 (-1) = -2147483648
    ∧ FtCalc.mulDivNoRound (-2147483648) 1 (-1) = 2147483648 := by decide +kernel

/-- hint/math.rs `mul14` = ttinterp.c `TT_MulFix14` (the two transcriptions coincide term by
term; the correspondence harness is what ties each to its source). -/
theorem mul14_eq (a b : Int) : HintMath.mul14 a b = FtCalc.mulFix14 a b := rfl

/-- projection.rs `dot14` = `TT_DotFix14` whenever the checked i64 additions do not trap. -/
theorem dot14_eq (ax ay bx by_ r : Int) (h : HintMath.dot14 ax ay bx by_ = some r) :
    r = FtCalc.dotFix14 ax ay bx by_ := by
  unfold HintMath.dot14 at h
  unfold FtCalc.dotFix14
  generalize ax * bx + ay * by_ = p at *
  simp only []
  cases h1 : HintMath.chk64 p with
  | none => simp [h1] at h
  | some v1 =>
    have ⟨e1, b1⟩ := chk64_some h1
    subst e1
    simp only [h1, Option.bind_some] at h
    cases h2 : HintMath.chk64 (v1 + (8192 + if v1 < 0 then -1 else 0)) with
    | none => simp [h2] at h
    | some v2 =>
      have ⟨e2, b2⟩ := chk64_some h2
      simp only [h2, Option.map_some, Option.some.injEq] at h
      rw [wrapI64_id b1, wrapI64_id b2, ← e2]; exact h.symm

example : HintMath.dot14 640 (-320) 11585 11585 = some 226 ∧ FtCalc.dotFix14 640 (-320) 11585 11585 = 226 := by decide +kernel

theorem floor_eq (x : Int) : HintMath.floor x = FtCalc.pixFloor x := rfl

/-- the model's arithmetic rendering of `x & !63` is the bitwise AND. -/
theorem floor_is_land (x : Int) (h : inI32 x) : HintMath.floor x = landInt x (notInt 63) := by
  unfold HintMath.floor; rw [show notInt 63 = -64 from by decide, land_neg64 x (i32_i64 h)]

/-- `round(x)` = `FT_PIX_ROUND_LONG(x)` unless `x + 32` leaves the i32 range (skrifa wraps there,
FreeType's 64-bit `long` does not). -/
theorem round_eq (x : Int) (h : inI32 x) (hx : x + 32 < 2147483648) :
    HintMath.round x = FtCalc.pixRoundLong x :=
  math_round_eq x h hx

/-- `ceil(x)` = `FT_PIX_CEIL_LONG(x)` unless `x + 63` leaves the i32 range. -/
theorem ceil_eq (x : Int) (h : inI32 x) (hx : x + 63 < 2147483648) :
    HintMath.ceil x = FtCalc.pixCeilLong x :=
  math_ceil_eq x h hx

/-- `round_pad(x, 32)` = `FT_PAD_ROUND_LONG(x, 32)` unless `x + 16` leaves the i32 range. -/
theorem round_pad32_eq (x : Int) (h : inI32 x) (hx : x + 16 < 2147483648) :
    HintMath.roundPad x 32 = some (FtCalc.padRoundLong32 x) :=
  math_round_pad32_eq x h hx

example : HintMath.round (-33) = -64 ∧ HintMath.ceil (-64) = -64
    ∧ HintMath.roundPad 47 32 = some 32 := by decide +kernel
-- outside the hypothesis the two really differ
example : HintMath.round 2147483647 = -2147483648 ∧ FtCalc.pixRoundLong 2147483647 = 2147483648 := by decide

/-! ### round-state functions: `RoundState::round` vs ttinterp.c `Round_*`
(FreeType's engine compensation is 0 for every colour: ttobjs.c).
skrifa wraps at 32 bits where FreeType's `long` has 64, so equality is stated on ranges in which no
intermediate leaves the i32 range; the ranges are orders of magnitude beyond any rasterised
coordinate (2^30 26.6 units = 16.7 million pixels). -/

/-- modes Grid, HalfGrid, DoubleGrid, DownToGrid, UpToGrid, Off (protocol numbers 0‥5): for every
distance with `|d| ≤ 2^31 - 64` skrifa's function returns exactly what FreeType's `Round_To_Grid` /
`Round_To_Half_Grid` / `Round_To_Double_Grid` / `Round_Down_To_Grid` / `Round_Up_To_Grid` /
`Round_None` return (and never traps). -/
theorem round_fixed_modes_eq (mode thr ph per d : Int) (hm : 0 ≤ mode ∧ mode ≤ 5)
    (hd : -2147483584 ≤ d ∧ d ≤ 2147483584) :
    HintRound.round mode thr ph per d = some (FtRound.round mode thr ph per 0 d) := by
  by_cases h5 : mode = 5
  · subst h5
    show some d = some (FtRound.roundNone 0 d)
    rw [roundNone_zero (by omega)]
  · exact (round_grid_modes mode thr ph per d (by omega) hd).1

/-- `Round_Super`: every threshold, phase, period within ±2^20 (SROUND/S45ROUND produce values below 2^8) and
every distance within ±2^30. The bitwise AND is not specialised to powers of two. -/
theorem round_super_eq (thr ph per d : Int)
    (ht : -1048576 ≤ thr ∧ thr ≤ 1048576) (hph : -1048576 ≤ ph ∧ ph ≤ 1048576)
    (hper : -1048576 ≤ per ∧ per ≤ 1048576) (hd : -1073741824 ≤ d ∧ d ≤ 1073741824) :
    HintRound.round 6 thr ph per d = some (FtRound.round 6 thr ph per 0 d) :=
  (round_super_bound thr ph per d ht hph hper hd).1

/-- `Round_Super_45`, for a positive period (`period = 0` traps in skrifa and faults in FreeType). -/
theorem round_super45_eq (thr ph per d : Int)
    (ht : -1048576 ≤ thr ∧ thr ≤ 1048576) (hph : -1048576 ≤ ph ∧ ph ≤ 1048576)
    (hper : 0 < per ∧ per ≤ 1048576) (hd : -1073741824 ≤ d ∧ d ≤ 1073741824) :
    HintRound.round 7 thr ph per d = some (FtRound.round 7 thr ph per 0 d) :=
  (round_super45_bound thr ph per d ht hph hper hd).1

/-- all eight round modes at once. -/
theorem round_state_eq (mode thr ph per d : Int) (hm : 0 ≤ mode ∧ mode ≤ 7)
    (ht : -1048576 ≤ thr ∧ thr ≤ 1048576) (hph : -1048576 ≤ ph ∧ ph ≤ 1048576)
    (hper : 0 < per ∧ per ≤ 1048576) (hd : -1073741824 ≤ d ∧ d ≤ 1073741824) :
    HintRound.round mode thr ph per d = some (FtRound.round mode thr ph per 0 d) :=
  (round_state_bound mode thr ph per d hm ht hph hper hd).1

example : HintRound.round 0 0 0 64 (-33) = some (-64) ∧ FtRound.round 0 0 0 64 0 (-33) = -64 := by decide +kernel
example : HintRound.round 1 0 0 64 50 = some 32 ∧ HintRound.round 2 0 0 64 47 = some 32
    ∧ HintRound.round 3 0 0 64 (-65) = some (-64) ∧ HintRound.round 4 0 0 64 1 = some 64 := by decide +kernel
-- SROUND 0x48-style state (period 64, phase 0, threshold 32) and an S45ROUND state
example : HintRound.round 6 32 0 64 95 = some 64 ∧ FtRound.round 6 32 0 64 0 95 = 64
    ∧ HintRound.round 7 22 11 45 (-100) = some (-101) ∧ FtRound.round 7 22 11 45 0 (-100) = -101 := by decide +kernel
-- beyond the range skrifa wraps and FreeType computes on in 64 bits
example : HintRound.round 0 0 0 64 2147483647 = some 0 ∧ FtRound.round 0 0 0 64 0 2147483647 = 2147483648 := by decide

/-- `Engine::super_round` never traps at its two call sites (grid period 0x4000 for SROUND,
0x2D41 for S45ROUND) and yields FreeType's `SetSuperRound` (period, phase, threshold) for every
i32 selector. -/
theorem super_round_eq (g sel : Int) (hg : g = 16384 ∨ g = 11585) :
    HintRound.superRound g sel = some (FtRound.setSuperRound g sel) :=
  (super_round_sel g sel hg).1

/-- what `SetSuperRound` can produce: period 22‥128, phase 0‥96, threshold −64‥176. -/
theorem super_round_state_bounds (g sel : Int) (hg : g = 16384 ∨ g = 11585) :
    22 ≤ (FtRound.setSuperRound g sel).1 ∧ (FtRound.setSuperRound g sel).1 ≤ 128 ∧
    0 ≤ (FtRound.setSuperRound g sel).2.1 ∧ (FtRound.setSuperRound g sel).2.1 ≤ 96 ∧
    -64 ≤ (FtRound.setSuperRound g sel).2.2 ∧ (FtRound.setSuperRound g sel).2.2 ≤ 176 :=
  (super_round_sel g sel hg).2

/-- the instruction sequences `SROUND[] n; ROUND[] d` and `S45ROUND[] n; ROUND[] d` as a whole: for every
i32 selector and every distance within ±2^30, skrifa's handlers leave the state FreeType's leave and
round the distance to the value FreeType rounds it to. -/
theorem sround_then_round_eq (is45 : Bool) (sel d p ph t : Int)
    (hd : -1073741824 ≤ d ∧ d ≤ 1073741824)
    (hst : FtRound.setSuperRound (if is45 then 11585 else 16384) sel = (p, ph, t)) :
    HintRound.superRound (if is45 then 11585 else 16384) sel = some (p, ph, t) ∧
    HintRound.round (if is45 then 7 else 6) t ph p d
      = some (FtRound.round (if is45 then 7 else 6) t ph p 0 d) := by
  have hg : (if is45 then (11585 : Int) else 16384) = 16384 ∨
      (if is45 then (11585 : Int) else 16384) = 11585 := by cases is45 <;> simp
  have hb := super_round_state_bounds _ sel hg
  rw [hst] at hb
  simp only at hb
  refine ⟨by rw [super_round_eq _ sel hg, hst], ?_⟩
  exact round_state_eq _ t ph p d (by cases is45 <;> simp)
    (by omega) (by omega) (by omega) hd

example : HintRound.superRound 16384 0x48 = some (64, 0, 32) := by decide +kernel
example : HintRound.superRound 11585 0x9D = some (90, 22, 101) := by decide +kernel

/-- one coordinate: skrifa's `coord * scale` with its own scale = FreeType's with FreeType's scale,
for every i32 coordinate, ppem and units-per-em. -/
theorem scale_coord_eq (c p u : Int) (hc : inI32 c) (hp : inI32 p) (hu : inI32 u) :
    Fixed.mul c (Scale.skScale p u) = FtCalc.mulFix c (Scale.ftScale p u) := by
  unfold Scale.skScale Scale.ftScale
  rw [mulFix_wrap_right, ← divfix_eq p u hp hu]
  exact mulfix_eq c _ hc (Fixed.div_inI32 p u)

/-- the whole unhinted simple-glyph pipeline: for every glyph with i16 coordinates, i16 bearing and
box, u16 advance, and every size whose scale is at most 64 pixels per font unit, skrifa produces
exactly FreeType's outline points and advance. -/
theorem scale_simple_eq (p u : Int) (g : Scale.Simple) (hp : inI32 p) (hu : inI32 u)
    (hs : 0 ≤ Scale.skScale p u ∧ Scale.skScale p u ≤ 4194304)
    (hpts : ∀ q ∈ g.pts, (-32768 ≤ q.1 ∧ q.1 ≤ 32767) ∧ (-32768 ≤ q.2 ∧ q.2 ≤ 32767))
    (hx : -32768 ≤ g.xMin ∧ g.xMin ≤ 32767) (hl : -32768 ≤ g.lsb ∧ g.lsb ≤ 32767)
    (ha : 0 ≤ g.adv ∧ g.adv ≤ 65535) :
    Scale.skSimple (Scale.skScale p u) g = Scale.ftSimple (Scale.ftScale p u) g := by
  unfold Scale.skSimple Scale.ftSimple
  have i32 : ∀ c : Int, -131072 ≤ c ∧ c ≤ 131072 → inI32 c := by intro c h; unfold inI32; omega
  have e2 : wrapI32 (g.xMin - g.lsb + g.adv) = g.xMin - g.lsb + g.adv := wrapI32_of_in (by omega) (by omega)
  have k1 := scale_coord_eq (g.xMin - g.lsb) p u (i32 _ (by omega)) hp hu
  have k2 := scale_coord_eq (g.xMin - g.lsb + g.adv) p u (i32 _ (by omega)) hp hu
  have bnd : ∀ c : Int, -131072 ≤ c ∧ c ≤ 131072 →
      -8388609 ≤ Fixed.mul c (Scale.skScale p u) ∧ Fixed.mul c (Scale.skScale p u) ≤ 8388609 := by
    intro c h
    have b := scaled_eq hs h (by decide)
    rw [b.1]; omega
  have b1 := bnd (g.xMin - g.lsb) (by omega)
  have b2 := bnd (g.xMin - g.lsb + g.adv) (by omega)
  simp only [e2]
  rw [← k1, ← k2]
  generalize Fixed.mul (g.xMin - g.lsb) (Scale.skScale p u) = P1 at *
  generalize Fixed.mul (g.xMin - g.lsb + g.adv) (Scale.skScale p u) = P2 at *
  have eadv : wrapI32 (P2 - P1) = FtCalc.subLong P2 P1 := wsub_subLong ⟨by omega, by omega⟩
  have emap : (g.pts.map fun q => (Fixed.mul q.1 (Scale.skScale p u), Fixed.mul q.2 (Scale.skScale p u)))
      = (g.pts.map fun q => (FtCalc.mulFix q.1 (Scale.ftScale p u), FtCalc.mulFix q.2 (Scale.ftScale p u))) := by
    apply List.map_congr_left
    intro q hq
    have := hpts q hq
    rw [scale_coord_eq q.1 p u (i32 _ (by omega)) hp hu, scale_coord_eq q.2 p u (i32 _ (by omega)) hp hu]
  rw [eadv, ← emap]
  congr 1
  by_cases h0 : P1 = 0
  · simp [h0]
  · simp only [ne_eq, h0, not_false_eq_true, if_true, List.map_map]
    apply List.map_congr_left
    intro q hq
    have hq' := hpts q hq
    have bq := bnd q.1 (by omega)
    simp only [Function.comp]
    exact congrArg (·, _) (wadd_addLong ⟨by omega, by omega⟩)

-- 16 ppem at 1000 units per em: scale 0x10625; the hypotheses hold and the pipelines agree
example : Scale.skScale 1024 1000 = 67109 ∧ Scale.ftScale 1024 1000 = 67109 := by decide +kernel
example :
    let g : Scale.Simple := { pts := [(100, 0), (700, -20), (350, 1462)], xMin := 100, lsb := 37, adv := 1139 }
    Scale.skSimple (Scale.skScale 1024 1000) g = ([(37, 0), (652, -20), (293, 1497)], 1166)
    ∧ Scale.ftSimple (Scale.ftScale 1024 1000) g = ([(37, 0), (652, -20), (293, 1497)], 1166) := by decide +kernel

/-! ### MIRP / MIAP / MDRP: the value handed to `move_point` / `func_move`
(Model/HintMove.lean = skrifa `op_mirp`, `op_miap`, `op_mdrp`; Model/FtMove.lean = ttinterp.c
`Ins_MIRP`, `Ins_MIAP`, `Ins_MDRP`).  For every flag combination, every round state in the range of
`round_state_eq`, every cut-in (MDRP: the single-width cut-in within ±2^29), and distances within ±2^29
(8.4 million pixels) skrifa's handler
computes exactly FreeType's move and does not trap. -/

/-- MIRP, single-width stage. -/
theorem mirp_sw_eq (g : HintMove.Gs) (c : Int) (hg : MoveRange g) (hc : Dist29 c) :
    HintMove.mirpSw g c = FtMove.mirpSw g c ∧ Dist29 (FtMove.mirpSw g c) := by
  obtain ⟨_, _, _, _, _, _, hsw, _⟩ := hg
  have h1 := wabs_wsub hc (show Dist29 g.sw from hsw)
  unfold HintMove.mirpSw FtMove.mirpSw
  rw [h1]
  unfold Dist29 at *
  rw [(neg_fits (a := g.sw) ⟨by omega, by omega⟩).1]
  constructor
  · rfl
  · repeat' split
    all_goals omega

/-- MIRP from the auto-flip test to the move (all 2^4 combinations of round flag, minimum-distance
flag, same-zone and auto-flip). -/
theorem mirp_move_eq (g : HintMove.Gs) (rnd mind same : Bool) (c org cur : Int)
    (hg : MoveRange g) (hc : Dist29 c) (ho : Dist29 org) (hu : Dist29 cur) :
    HintMove.mirpMove g rnd mind same c org cur = some (FtMove.mirpMove g rnd mind same c org cur) := by
  unfold HintMove.mirpMove FtMove.mirpMove
  -- auto-flip: both sides negate under the same condition
  have hneg := neg_fits (a := c) (by unfold Dist29 at hc; exact ⟨by omega, by omega⟩)
  rw [hneg.1, hneg.2]
  generalize hc1 : (if (g.autoFlip = true ∧ lxorInt org c < 0) then -c else c) = c1
  have hc1r : Dist29 c1 := by unfold Dist29 at *; rw [← hc1]; split <;> omega
  simp only []
  rw [wabs_wsub hc1r ho]
  generalize hc2 : (if (same = true ∧ FtMove.absLong (FtCalc.subLong c1 org) > g.cutin) then org else c1) = c2
  have hc2r : Dist29 c2 := by rw [← hc2]; split; exact ho; exact hc1r
  exact round_min_move g rnd mind c2 c1 org cur hg hc2r hc1r hu

/-- **MIRP**: `op_mirp` = `Ins_MIRP`. -/
theorem mirp_eq (g : HintMove.Gs) (rnd mind same : Bool) (c org cur : Int)
    (hg : MoveRange g) (hc : Dist29 c) (ho : Dist29 org) (hu : Dist29 cur) :
    HintMove.mirp g rnd mind same c org cur = some (FtMove.mirp g rnd mind same c org cur) := by
  unfold HintMove.mirp FtMove.mirp
  have h := mirp_sw_eq g c hg hc
  rw [h.1]
  exact mirp_move_eq g rnd mind same _ org cur hg h.2 ho hu

/-- **MIAP**: `op_miap` = `Ins_MIAP`. -/
theorem miap_eq (g : HintMove.Gs) (rnd : Bool) (c cur : Int)
    (hg : MoveRange g) (hc : Dist29 c) (hu : Dist29 cur) :
    HintMove.miap g rnd c cur = some (FtMove.miap g rnd c cur) := by
  obtain ⟨hm, ht, hph, hper, _, _, _, _⟩ := hg
  unfold HintMove.miap FtMove.miap
  rw [wabs_wsub hc hu]
  generalize hc1 : (if FtMove.absLong (FtCalc.subLong c cur) > g.cutin then cur else c) = c1
  have hc1r : Dist29 c1 := by rw [← hc1]; split; exact hu; exact hc
  unfold Dist29 at hc hc1r
  have hr := round_state_bound g.mode g.thr g.ph g.per c1 hm ht hph hper (by omega)
  cases rnd <;> simp only [Bool.false_eq_true, if_false, if_true, hr.1, Option.map_some, Option.some.injEq]
  · exact wsub_far (by omega) hu
  · exact wsub_far hr.2 hu

/-- **MDRP**: `op_mdrp` = `Ins_MDRP` (single-width cut-in, rounding, minimum distance). -/
theorem mdrp_eq (g : HintMove.Gs) (rnd mind : Bool) (org cur : Int)
    (hg : MoveRange g) (hsc : Dist29 g.swci) (ho : Dist29 org) (hu : Dist29 cur) :
    HintMove.mdrp g rnd mind org cur = some (FtMove.mdrp g rnd mind org cur) := by
  have hsw := hg.2.2.2.2.2.2.1
  unfold HintMove.mdrp FtMove.mdrp
  unfold Dist29 at hsc
  rw [(add_fits (a := g.sw) (b := g.swci) ⟨by omega, by omega⟩).1,
    (sub_fits (a := g.sw) (b := g.swci) ⟨by omega, by omega⟩).1, (neg_fits (a := g.sw) ⟨by omega, by omega⟩).1]
  generalize ho1 : (if (g.swci > 0 ∧ org < g.sw + g.swci ∧ org > g.sw - g.swci)
    then (if org ≥ 0 then g.sw else -g.sw) else org) = o1
  have ho1r : Dist29 o1 := by
    unfold Dist29 at *; rw [← ho1]
    split
    · split <;> omega
    · exact ho
  exact round_min_move g rnd mind o1 o1 o1 cur hg ho1r ho1r hu

-- non-vacuity: the default graphics state (RTG, cut-in 17/16 px, minimum distance 1 px, auto-flip on)
example : MoveRange ⟨0, 0, 0, 64, 68, 0, 0, 64, true⟩ ∧ Dist29 368 ∧ Dist29 (-300) := by
  unfold MoveRange Dist29 inI32; decide
-- MIRP[round+min] at the cut-in boundary: |cvt - org| = 68 keeps the cvt value (368 → 384), 69 falls back to
-- the outline distance (300 → 320); both engines; the move is relative to the current distance 290
example : HintMove.mirp ⟨0, 0, 0, 64, 68, 0, 0, 64, true⟩ true true true 368 300 290 = some 94
    ∧ FtMove.mirp ⟨0, 0, 0, 64, 68, 0, 0, 64, true⟩ true true true 368 300 290 = 94
    ∧ HintMove.mirp ⟨0, 0, 0, 64, 68, 0, 0, 64, true⟩ true true true 369 300 290 = some 30
    ∧ FtMove.mirp ⟨0, 0, 0, 64, 68, 0, 0, 64, true⟩ true true true 369 300 290 = 30 := by decide +kernel
-- auto-flip (cvt -368 against a positive outline distance) and the cut-in skipped for different zones
example : HintMove.mirp ⟨0, 0, 0, 64, 68, 0, 0, 64, true⟩ true false true (-368) 300 0 = some 384
    ∧ HintMove.mirp ⟨0, 0, 0, 64, 68, 0, 0, 64, false⟩ true false true (-368) 300 0 = some 320
    ∧ HintMove.mirp ⟨0, 0, 0, 64, 68, 0, 0, 64, false⟩ true false false (-368) 300 0 = some (-384) := by decide +kernel
-- minimum distance with a negative outline distance; single width replacing a cvt value within its cut-in
example : HintMove.mirp ⟨0, 0, 0, 64, 68, 0, 0, 64, true⟩ false true true (-10) (-300) 0 = some (-64)
    ∧ HintMove.mirp ⟨0, 0, 0, 64, 20000, 200, 30, 64, true⟩ false false true 229 300 0 = some 200
    ∧ HintMove.mirp ⟨0, 0, 0, 64, 20000, 200, 30, 64, true⟩ false false true 230 300 0 = some 230 := by decide +kernel
example : HintMove.miap ⟨1, 0, 0, 64, 68, 0, 0, 64, true⟩ true 100 168 = some (-72)
    ∧ FtMove.miap ⟨1, 0, 0, 64, 68, 0, 0, 64, true⟩ true 100 168 = -72
    ∧ HintMove.miap ⟨1, 0, 0, 64, 68, 0, 0, 64, true⟩ true 100 169 = some (-9) := by decide
example : HintMove.mdrp ⟨0, 0, 0, 64, 68, 200, 30, 64, true⟩ true true 229 0 = some 192
    ∧ FtMove.mdrp ⟨0, 0, 0, 64, 68, 200, 30, 64, true⟩ true true 229 0 = 192
    ∧ HintMove.mdrp ⟨0, 0, 0, 64, 68, 200, 30, 64, true⟩ true true 230 0 = some 256
    ∧ HintMove.mdrp ⟨0, 0, 0, 64, 68, 200, 30, 64, true⟩ true true 20 0 = some 64 := by decide +kernel
-- outside the range skrifa wraps at 32 bits, FreeType's long does not
example : HintMove.mirp ⟨5, 0, 0, 64, 68, 0, 0, 64, true⟩ false false true 2147483647 0 (-1) = some (-2147483648)
    ∧ FtMove.mirp ⟨5, 0, 0, 64, 68, 0, 0, 64, true⟩ false false true 2147483647 0 (-1) = 2147483648 := by decide +kernel

end FontVerif.C03
