/-
C02 — skrifa and IFT client APIs are total on hostile fonts and arguments.

Core 3: the CFF / CFF2 charstring evaluator (Model/Charstring.lean ⇄ read-fonts postscript/charstring.rs, stack.rs,
index.rs, driven by skrifa outline/cff/mod.rs `Outlines::draw`) returns `Ok` or an error VALUE for EVERY charstring,
EVERY pair of subroutine indexes and EVERY variation-store behaviour: it never runs out of the model's loop fuel
(= each Rust loop terminates), never reaches one of the two places where the Rust would panic, performs a bounded
number of loop iterations and emits a bounded number of commands; runaway shapes are error values.
-/
import FontVerif.Lemmas.Charstring
namespace FontVerif.C02
open FontVerif.Charstring FontVerif.CharstringLemmas

/-- **`evaluate` returns `Ok(())` or `Err(e)`** — for every charstring, every global / local subroutine index whose
    subroutines are at most `M` bytes long (any INDEX of at most `M` bytes: `index_subrs_bounded`), every variation
    store, from every start state satisfying the operand-stack invariant (the initial state does: `initSt_inv`).
    `Fail.stuck` (a loop of the model ran out of fuel: the token loop's fuel is the number of remaining bytes + 1, an
    operator's loop's fuel is the operand count + 1) and `Fail.panic` (`values[top]` out of range in `push_impl`,
    `i32` overflow adding the subroutine bias) are impossible. -/
theorem evaluate_total (env : Env) (M : Nat) (hb : SubrsBounded env M) (data : List Nat) (hd : data.length ≤ M)
    (st0 : St) (hi : Inv st0) :
    (∃ st', evaluate env data st0 = .ok st') ∨ (∃ e stE, evaluate env data st0 = .error (.err e, stE)) := by
  have := evaluate_ok env hb data hd st0 hi
  unfold EvalOk at this
  cases h : evaluate env data st0 with
  | ok st' => exact Or.inl ⟨_, rfl⟩
  | error p =>
    obtain ⟨f, stE⟩ := p
    rw [h] at this
    obtain ⟨⟨e, he⟩, _⟩ := this
    subst he
    exact Or.inr ⟨_, _, rfl⟩

/-- the state handed to `Evaluator::evaluate` by `Evaluator::new` satisfies the invariant -/
theorem initSt_inv (vs r : Nat) (se : Option Err) : Inv (initSt vs r se) := inv_nil _ rfl

/-- **iteration bound**: whether it succeeds or fails, an evaluation performs at most `maxSteps M 11`
    (`= M + M² + … + M¹¹`, `maxSteps_lt_pow`) iterations of the `while cursor.remaining_bytes() != 0` loop, summed over
    all nesting levels (`steps` is a ghost counter, incremented once per iteration at every level). -/
theorem evaluate_steps_le (env : Env) (M : Nat) (hb : SubrsBounded env M) (data : List Nat) (hd : data.length ≤ M)
    (st0 : St) (hi : Inv st0) :
    match evaluate env data st0 with
    | .ok st' => st'.steps ≤ st0.steps + maxSteps M 11
    | .error (_, stE) => stE.steps ≤ st0.steps + maxSteps M 11 := by
  have := evaluate_ok env hb data hd st0 hi
  unfold EvalOk Within at this
  cases h : evaluate env data st0 with
  | ok st' => rw [h] at this; exact this.2.2.1
  | error p => obtain ⟨f, stE⟩ := p; rw [h] at this; exact this.2.2.1

/-- **command bound**: every loop iteration sends at most 515 commands to the sink (the widest operator, `hlineto`
    on a full stack, sends 513 lines), so a successful evaluation emits at most `515 * maxSteps M 11` commands. -/
theorem evaluate_commands_le (env : Env) (M : Nat) (hb : SubrsBounded env M) (data : List Nat) (hd : data.length ≤ M)
    (st0 : St) (hi : Inv st0) (st' : St) (h : evaluate env data st0 = .ok st') :
    st'.out.length ≤ st0.out.length + 515 * (st'.steps - st0.steps) ∧
    st'.out.length ≤ st0.out.length + 515 * maxSteps M 11 := by
  have := evaluate_ok env hb data hd st0 hi
  rw [h] at this
  unfold EvalOk Within at this
  simp only [] at this
  obtain ⟨_, h1, h2, h3⟩ := this
  constructor
  · have : 515 * (st'.steps - st0.steps) = 515 * st'.steps - 515 * st0.steps := Nat.mul_sub _ _ _
    omega
  · omega

/-- the operand stack never holds more than `MAX_STACK = 513` entries, and every integer entry is a 16-bit value -/
theorem evaluate_stack_le (env : Env) (M : Nat) (hb : SubrsBounded env M) (data : List Nat) (hd : data.length ≤ M)
    (st0 : St) (hi : Inv st0) (st' : St) (h : evaluate env data st0 = .ok st') :
    st'.stack.length ≤ MAX_STACK ∧ ∀ v : Int, some v ∈ st'.stack → -32768 ≤ v ∧ v ≤ 32767 := by
  have := evaluate_ok env hb data hd st0 hi
  rw [h] at this
  exact this.1

/-- `maxSteps M n = M + M² + … + Mⁿ < (M + 1)ⁿ` -/
theorem maxSteps_lt_pow (M n : Nat) : maxSteps M n < (M + 1) ^ n := by
  induction n with
  | zero => simp [maxSteps]
  | succ n ih =>
    unfold maxSteps
    rw [Nat.pow_succ]
    have h1 : M * (1 + maxSteps M n) ≤ M * (M + 1) ^ n := Nat.mul_le_mul_left _ (by omega)
    have h2 : (M + 1) ^ n * (M + 1) = M * (M + 1) ^ n + (M + 1) ^ n := by
      rw [Nat.mul_comm, Nat.succ_mul]
    omega

/-- one operator is a bounded amount of work: its loop gets `operand count + 1 ≤ 514` iterations of fuel and never
    uses them up (`Fail.stuck` is not a possible outcome of any operator, whatever the stack and the input) -/
theorem operator_loops_terminate (env : Env) (M C : Nat) (callee : List Nat → St → Res St) (hc : CalleeOk M C callee)
    (hb : SubrsBounded env M) (op : Op) (rest : List Nat) (st : St) (hi : Inv st) :
    ∀ stE, evalOperator env callee op rest st ≠ .error (.stuck, stE) := by
  intro stE h
  have := evalOperator_ok env callee op rest st hi hc hb
  rw [h] at this
  obtain ⟨⟨e, he⟩, _⟩ := this
  cases he

theorem take_drop_len (l : List Nat) (a b : Nat) : ((l.drop a).take b).length ≤ l.length := by
  simp; omega

/-- every object returned by `Index::get` is at most as long as the INDEX bytes -/
theorem index_subrs_bounded (cff2 : Bool) (bytes : List Nat) (idx : Index) (h : Index.ofBytes cff2 bytes = .ok idx)
    (i : Nat) (d : List Nat) (hg : idx.toSubrs.get i = .ok d) : d.length ≤ bytes.length := by
  cases idx with
  | empty => simp [Index.toSubrs] at hg
  | fmt x =>
    have hx : x.data.length ≤ bytes.length := by
      unfold Index.ofBytes Index.ofBytesW at h
      simp only [] at h
      generalize (if cff2 = true then 4 else 2) = cw at h
      split at h
      · simp at h
      · split at h
        · split at h <;> simp at h
        · split at h
          · simp at h; subst h; simp
          · split at h <;> simp at h
    simp only [Index.toSubrs, IndexData.get] at hg
    split at hg
    · simp at hg
    · rename_i a ha
      split at hg
      · simp at hg
      · rename_i b hb
        split at hg
        · simp at hg
          subst hg
          have := take_drop_len x.data a (b - a)
          omega
        · simp at hg

/-- **closed form for real bytes**: for every global subr INDEX, optional local subr INDEX (as parsed by
    `Index::new`), every variation store behaviour and every charstring, `evaluate` returns `Ok` or an error value. -/
theorem evaluate_bytes_total (cff2 : Bool) (gb lb cs : List Nat) (gi li : Index)
    (hg : Index.ofBytes cff2 gb = .ok gi) (hl : Index.ofBytes cff2 lb = .ok li) (useLocal : Bool)
    (blend : Option VsLookup) (vs r : Nat) (se : Option Err) :
    let env : Env := { gsubrs := gi.toSubrs, subrs := if useLocal then some li.toSubrs else none, blend := blend }
    (∃ st', evaluate env cs (initSt vs r se) = .ok st') ∨
      (∃ e stE, evaluate env cs (initSt vs r se) = .error (.err e, stE)) := by
  intro env
  apply evaluate_total env (gb.length + lb.length + cs.length)
  · constructor
    · intro i d hd
      have := index_subrs_bounded cff2 gb gi hg i d hd
      omega
    · intro idx hidx i d hd
      cases useLocal with
      | false => simp [env] at hidx
      | true =>
        simp [env] at hidx; subst hidx
        have := index_subrs_bounded cff2 lb li hl i d hd
        omega
  · omega
  · exact initSt_inv _ _ _

/-- the nesting check: entering `evaluate` with `nesting_depth = 11` is `CharstringNestingDepthLimitExceeded` -/
theorem nesting_depth_exceeded_is_error (env : Env) (data : List Nat) (st : St) :
    evalN env 0 data st = .error (.err .nestingLimit, st) := rfl

/-- an endless chain of subroutine calls — `d j` pushes a number and calls global subroutine `d (j+1)`, for every j:
    self recursion, mutual recursion of any cycle length, or an infinite family — is an error value at every nesting
    budget and from every state (`CharstringNestingDepthLimitExceeded` once 11 levels are open, or `StackOverflow` if
    the operand stack is full when the number is pushed) -/
theorem endless_call_chain_is_error (env : Env) (d : Nat → List Nat) (k : Nat → Nat) (tail : Nat → List Nat)
    (hk : ∀ j, 32 ≤ k j ∧ k j ≤ 246)
    (hd : ∀ j, d j = k j :: 29 :: tail j)
    (hget : ∀ j, ∃ ix, biasedIndex ((k j : Int) - 139) env.gsubrs.count = some ix ∧ env.gsubrs.get ix = .ok (d (j + 1))) :
    ∀ levels j st, CharstringLemmas.Inv st → ∃ e stE, evalN env levels (d j) st = .error (.err e, stE) := by
  intro levels
  induction levels with
  | zero => intro j st _; exact ⟨_, _, rfl⟩
  | succ n ih =>
    intro j st hi
    have ⟨hk1, hk2⟩ := hk j
    obtain ⟨ix, hix, hgx⟩ := hget j
    unfold evalN
    rw [hd j]
    simp only [List.length_cons]
    unfold loop
    simp only []
    rw [if_pos (Or.inr ⟨hk1, by omega⟩)]
    have hp : parseInt (k j) (29 :: tail j) = .ok ((k j : Int) - 139, 29 :: tail j) := by
      unfold parseInt; rw [if_pos ⟨hk1, hk2⟩]
    rw [hp]
    simp only []
    unfold push MAX_STACK
    by_cases hfull : st.stack.length = 513
    · simp only [hfull, if_true]; exact ⟨_, _, rfl⟩
    · have := hi.1
      simp only []
      rw [if_neg hfull, if_neg (by omega)]
      simp only []
      unfold loop
      simp only []
      rw [if_neg (by omega), if_neg (by omega)]
      have hr : readOperator 29 (tail j) = .ok (.callgsubr, tail j) := by
        unfold readOperator; simp [fromOpcode]
      rw [hr]
      simp only [evalOperator, opCall, popI32, hix, hgx]
      have ⟨e, stE, he⟩ := ih (j + 1)
        { st with steps := st.steps + 1 + 1, stack := st.stack }
        ⟨hi.1, hi.2⟩
      refine ⟨e, stE, ?_⟩
      (try simp only [] at he ⊢)
      rw [he]

/-- pushing onto a full operand stack: `StackOverflow` -/
theorem push_on_full_stack_is_error (st : St) (v : Option Int) (h : st.stack.length = 513) :
    push st v = .error (.err .stackOverflow, st) := by
  unfold push MAX_STACK failE; rw [if_pos h]

/-- `callsubr` / `callgsubr` / `vsindex` / `blend` with nothing on the stack: `StackUnderflow`;
    with a 16.16 value on top: `ExpectedI32StackEntry` -/
theorem pop_empty_is_error : popI32 [] = .error .stackUnderflow := rfl
theorem pop_fixed_is_error (rest : List (Option Int)) : popI32 (none :: rest) = .error (.expectedI32 rest.length) := rfl

theorem call_on_empty_stack_is_error (idx : SubrIndex) (callee : List Nat → St → Res St) (rest : List Nat) (st : St)
    (h : st.stack = []) : opCall (some idx) callee rest st = .error (.err .stackUnderflow, st) := by
  unfold opCall; rw [h]; rfl

/-- `callsubr` without a local subroutine index: `MissingSubroutines`; `blend` / `vsindex` without a variation store:
    `MissingBlendState` -/
theorem callsubr_without_index_is_error (callee : List Nat → St → Res St) (rest : List Nat) (st : St) :
    opCall none callee rest st = .error (.err .missingSubrs, st) := rfl
theorem blend_without_store_is_error (rest : List Nat) (st : St) :
    opBlend none rest st = .error (.err .missingBlend, st) := rfl

/-- `blend` asking for more operands than the stack holds (`n` targets × (`regions` + 1)): `StackUnderflow` -/
theorem blend_underflow_is_error (lookup : VsLookup) (rest : List Nat) (st : St) (n : Int) (stack : List (Option Int))
    (h : st.stack = some n :: stack) (hn : n < 0 ∨ stack.length < n.toNat * (st.regions + 1)) :
    opBlend (some lookup) rest st = .error (.err .stackUnderflow, st) := by
  unfold opBlend popI32
  rw [h]
  simp only []
  by_cases h1 : n < 0 ∨ n.toNat > stack.length
  · rw [if_pos h1]; rfl
  · rw [if_neg h1]
    rcases hn with hn | hn
    · exact absurd (Or.inl hn) h1
    · rw [if_pos hn]; rfl

/-- a hint mask that is cut short — fewer than ⌈stems / 8⌉ bytes left — is `Read(OutOfBounds)`, whatever the stems -/
theorem short_hintmask_is_error (isHint : Bool) (st : St) (h : st.stack = []) (rest : List Nat)
    (hr : rest.length < (st.stemCount + 7) / 8) :
    opMask isHint rest st = .error (.err .read, st) := by
  unfold opMask
  rw [h]
  simp [stemStart, whileFuel, pairBody, failE]
  omega

/-- operator bytes with no meaning (0, 2, 9, 13, 17): `InvalidCharstringOperator` -/
theorem invalid_operator_is_error (b0 : Nat) (rest : List Nat) (h : b0 = 0 ∨ b0 = 2 ∨ b0 = 9 ∨ b0 = 13 ∨ b0 = 17) :
    readOperator b0 rest = .error (.invalidOperator b0) := by
  rcases h with h | h | h | h | h <;> subst h <;> rfl

def noSubrs : SubrIndex := { count := 0, get := fun _ => .error .read }
def env0 : Env := { gsubrs := noSubrs, subrs := none, blend := none }

/-- `1 2 rmoveto 3 4 rlineto endchar` -/
example : (evaluate env0 [140, 141, 21, 142, 143, 5, 14] {}).toOption.map (·.out) = some [3, 1, 0] := by decide +kernel
example : SubrsBounded env0 0 := ⟨by intro i d h; simp [env0, noSubrs] at h, by intro idx h; simp [env0] at h⟩

/-- a subroutine that calls itself: gsubr 0 = `-107 callgsubr` -/
def selfEnv : Env :=
  { gsubrs := { count := 1, get := fun i => if i = 0 then .ok [32, 29] else .error .read }, subrs := none, blend := none }
example : (match evaluate selfEnv [32, 29] {} with | .error (.err .nestingLimit, _) => true | _ => false) = true := by
  decide +kernel

/-- a chain of `n` global subroutines, each calling the next; the last one draws -/
def chainEnv (n : Nat) : Env :=
  { gsubrs := { count := n, get := fun i => if i + 1 < n then .ok [32 + i + 1, 29] else if i + 1 = n then .ok [140, 141, 21] else .error .read },
    subrs := none, blend := none }
/-- 10 nested calls (nesting_depth 10) are allowed … -/
example : (evaluate (chainEnv 10) [32, 29] {}).toOption.map (·.out) = some [0] := by decide +kernel
/-- … 11 are not -/
example : (match evaluate (chainEnv 11) [32, 29] {} with | .error (.err .nestingLimit, _) => true | _ => false) = true := by
  decide +kernel

/-- fan-out: `depth` subroutines, each calling the next one `k` times: the iteration count is exponential in the
    depth although no subroutine is longer than `2 k` bytes (the recorded finding C02-charstring-fanout-exponential) -/
def fanEnv (k depth : Nat) : Env :=
  { gsubrs := { count := depth,
                get := fun i => if i + 1 < depth then .ok ((List.replicate k [32 + i + 1, 29]).flatten) else if i + 1 = depth then .ok [] else .error .read },
    subrs := none, blend := none }
example : (evaluate (fanEnv 2 8) [32, 29] {}).toOption.map (·.steps) = some 510 := by decide +kernel
example : (evaluate (fanEnv 3 6) [32, 29] {}).toOption.map (·.steps) = some 728 := by decide +kernel

/-- 513 operands then `hlineto`: 513 lines; a 514th operand: `StackOverflow` -/
example : (evaluate env0 (List.replicate 513 139 ++ [6]) {}).toOption.map (·.out.length) = some 513 := by decide +kernel
example : (match evaluate env0 (List.replicate 514 139 ++ [6]) {} with | .error (.err .stackOverflow, _) => true | _ => false) = true := by
  decide +kernel

end FontVerif.C02
