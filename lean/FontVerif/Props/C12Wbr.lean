/-
C12 (continued) — whole-draw independence of the scratch buffer by WRITE-BEFORE-READ.

The per-function access data (Gen/C12Wbr.lean) is regenerated from skrifa/src/outline/glyf/{mod.rs,
deltas.rs, hint/instance.rs} by translate/c12_wbr.py on every run; the obligations below are decided
by the kernel on that data.
-/
import FontVerif.Lemmas.ScratchFlow
import FontVerif.Lemmas.HintState
import FontVerif.Lemmas.ScratchModels
import FontVerif.Lemmas.LazySlot
import FontVerif.Props.C12
import FontVerif.Gen.C12Wbr
namespace FontVerif.C12
open FontVerif.ScratchFlow FontVerif.Gen.C12Wbr

/-! ## scratch memory is written before it is read -/

/-- the FreeType-style scaler: `scaled` (2) / `flags` (5) / `contours` (4) / `composite_deltas` (8) of
`FreeTypeOutlineMemory` -/
def ftPipeline : Pipeline :=
  ⟨fns, ftSimple, ftCompPre, ftCompIter, ftCompPost, ftFinal, haveDeltasFt, 2, 5, 4, 8⟩

/-- the HarfBuzz-style scaler: `points` (1) / `flags` (3) / `contours` (2) / `composite_deltas` (6) of
`HarfBuzzOutlineMemory` -/
def hbPipeline : Pipeline :=
  ⟨fns, hbSimple, hbCompPre, hbCompIter, hbCompPost, hbFinal, haveDeltasHb, 1, 3, 2, 6⟩

/-- the field numbers used above are the 1-based positions in the memory structs, the bound symbols of each
segment that has accesses are the ones the skeleton (`ScratchFlow.Trace`) instantiates, `load_simple` advances the two
counters by the point / contour count, and the flag is `have_deltas` of `load_composite` -/
theorem wbr_data_is_wired :
    (ftFields[1]?, ftFields[4]?, ftFields[3]?, ftFields[7]?) =
      (some "scaled", some "flags", some "contours", some "composite_deltas") ∧
    (hbFields[0]?, hbFields[2]?, hbFields[1]?, hbFields[5]?) =
      (some "points", some "flags", some "contours", some "composite_deltas") ∧
    ftSimple.syms.take 4 = ["self.point_count", "glyph.num_points()", "self.contour_count", "contour_end_pts.len()"] ∧
    hbSimple.syms.take 4 = ftSimple.syms.take 4 ∧
    ftCompPre.syms.take 2 = ["self.component_delta_count", "glyph.components().count()"] ∧
    hbCompPre.syms.take 2 = ftCompPre.syms.take 2 ∧
    ftCompIter.syms.take 5 = ["point_base", "@points_before", "@points_loaded", "delta_base", "glyph.components().count()"] ∧
    hbCompIter.syms.take 5 = ftCompIter.syms.take 5 ∧
    ftCompPost.syms.take 4 = ["point_base", "@points_loaded", "contour_base", "@contours_loaded"] ∧
    ftFinal.syms.take 2 = ["self.point_count", "self.contour_count"] ∧
    hbFinal.syms.take 2 = ftFinal.syms.take 2 ∧
    ftSimpleCounters = [lin [1, 1], lin [0, 0, 1, 1]] ∧ hbSimpleCounters = ftSimpleCounters ∧
    flagNames.lookup haveDeltasFt = some "FreeTypeScaler::load_composite have_deltas" ∧
    flagNames.lookup haveDeltasHb = some "HarfBuzzScaler::load_composite have_deltas" ∧
    fns.map (·.name) = ["compute_deltas_for_glyph", "composite_glyph", "simple_glyph", "hint"] := by
  decide +kernel

/-! ### per-function obligations (FreeType-style scaler) -/

/-- `FreeTypeScaler::load_simple` (with `deltas::simple_glyph`, `compute_deltas_for_glyph` and
`HintInstance::hint` inlined): along each of its paths no element of any scratch slice is read before
this call has written it, and the points / flags / contour ends of the glyph are written on return -/
theorem ft_load_simple_wbr :
    segOK fns ftSimple [] [] (fun _ => true) (simplePost ftPipeline) = true := by decide +kernel

/-- `FreeTypeScaler::load_composite` before the component loop (with `deltas::composite_glyph`): the
component delta accumulator is zeroed before tuples are added to it and before it is read -/
theorem ft_load_composite_pre_wbr :
    segOK fns ftCompPre [] [] (fun p => getFlag p.flags haveDeltasFt == some true) (compPrePost ftPipeline) = true := by
  decide +kernel

/-- … per component (transform, anchor by offset / by points, translation), with and without deltas -/
theorem ft_load_composite_component_wbr :
    segOK fns ftCompIter [(haveDeltasFt, true)] (compIterPre ftPipeline true) (fun _ => true) [] = true ∧
    segOK fns ftCompIter [(haveDeltasFt, false)] (compIterPre ftPipeline false) (fun _ => true) [] = true := by
  decide +kernel

/-- … after the loop (hinting of the composite with `HintInstance::hint`) -/
theorem ft_load_composite_post_wbr :
    segOK fns ftCompPost [] (compPostPre ftPipeline) (fun _ => true) [] = true := by decide +kernel

/-- `FreeTypeScaler::scale`: what is handed to `to_path` has been written -/
theorem ft_scale_wbr : segOK fns ftFinal [] (finalPre ftPipeline) (fun _ => true) [] = true := by decide +kernel

theorem ft_pipeline_wbr : pipelineOK ftPipeline = true := by
  have hflag : (paths fns ftCompPre []).all
      (fun p => p.aborted || (getFlag p.flags haveDeltasFt).isSome) = true := by decide +kernel
  simp only [pipelineOK, Bool.and_eq_true]
  exact ⟨⟨⟨⟨⟨⟨ft_load_simple_wbr, ft_load_composite_pre_wbr⟩, hflag⟩, ft_load_composite_component_wbr.1⟩,
    ft_load_composite_component_wbr.2⟩, ft_load_composite_post_wbr⟩, ft_scale_wbr⟩

/-! ### per-function obligations (HarfBuzz-style scaler) -/

theorem hb_load_simple_wbr :
    segOK fns hbSimple [] [] (fun _ => true) (simplePost hbPipeline) = true := by decide +kernel

theorem hb_load_composite_pre_wbr :
    segOK fns hbCompPre [] [] (fun p => getFlag p.flags haveDeltasHb == some true) (compPrePost hbPipeline) = true := by
  decide +kernel

theorem hb_load_composite_component_wbr :
    segOK fns hbCompIter [(haveDeltasHb, true)] (compIterPre hbPipeline true) (fun _ => true) [] = true ∧
    segOK fns hbCompIter [(haveDeltasHb, false)] (compIterPre hbPipeline false) (fun _ => true) [] = true := by
  decide +kernel

theorem hb_load_composite_post_wbr :
    segOK fns hbCompPost [] (compPostPre hbPipeline) (fun _ => true) [] = true := by decide +kernel

theorem hb_scale_wbr : segOK fns hbFinal [] (finalPre hbPipeline) (fun _ => true) [] = true := by decide +kernel

theorem hb_pipeline_wbr : pipelineOK hbPipeline = true := by
  have hflag : (paths fns hbCompPre []).all
      (fun p => p.aborted || (getFlag p.flags haveDeltasHb).isSome) = true := by decide +kernel
  simp only [pipelineOK, Bool.and_eq_true]
  exact ⟨⟨⟨⟨⟨⟨hb_load_simple_wbr, hb_load_composite_pre_wbr⟩, hflag⟩, hb_load_composite_component_wbr.1⟩,
    hb_load_composite_component_wbr.2⟩, hb_load_composite_post_wbr⟩, hb_scale_wbr⟩

/-! ### the callees on their own

Each analysed callee, called on parameter slices of a common arbitrary length in distinct fields,
with exactly the parameters its callers have written marked as initialised. -/

/-- the i-th parameter slice: field i + 1, `n + 4` elements (`n` the only symbol) -/
def paramRng (i : Nat) : SRng := ⟨i + 1, lin [], ⟨[1], 4⟩⟩
def calleeSeg (f nparams : Nat) : Seg :=
  ⟨"callee", [], [.call f ((List.range nparams).map fun i => .abs (paramRng i)) [] none]⟩

/-- `deltas::composite_glyph(…, deltas)`: `deltas` arrives uninitialised (it is a window of the
component delta stack of the scratch buffer) -/
theorem composite_glyph_wbr : segOK fns (calleeSeg 1 1) [] [] (fun _ => true) [paramRng 0] = true := by
  decide +kernel

/-- `deltas::simple_glyph(…, glyph, iup_buffer, deltas)`: points / flags / contours are written by the
caller; `iup_buffer` and `deltas` arrive uninitialised; `deltas` is written on return -/
theorem simple_glyph_wbr :
    segOK fns (calleeSeg 2 5) [] [paramRng 0, paramRng 1, paramRng 2] (fun _ => true) [paramRng 4] = true := by
  decide +kernel

/-- `compute_deltas_for_glyph(…, deltas, closure)` with a closure that accumulates into `deltas` -/
theorem compute_deltas_for_glyph_wbr :
    segOK fns ⟨"callee", [], [.call 0 [.abs (paramRng 0)] [.opaque "+=" [⟨.rw, .cpar 0 .all⟩]] none]⟩ [] []
      (fun _ => true) [paramRng 0] = true := by
  decide +kernel

/-- `HintInstance::hint(outline)`: unscaled / scaled / original_scaled / flags / contours (and the
phantom array, which is not scratch memory) are written by the caller; the value stack, the CVT and
storage copies and the three twilight arrays arrive uninitialised -/
theorem hint_wbr :
    segOK fns (calleeSeg 3 12) [] [paramRng 0, paramRng 1, paramRng 2, paramRng 3, paramRng 4, paramRng 5]
      (fun _ => true) [paramRng 9, paramRng 10, paramRng 11] = true := by
  decide +kernel

/-- the zeroing is needed: the same closure over a callee that does not clear its accumulator first
is rejected (this is seeded change C12-4) -/
example :
    segOK [⟨"compute_deltas_for_glyph", ["deltas"], [.loop "tuples" [.callback [.par 0 .all]]]⟩]
      ⟨"callee", [], [.call 0 [.abs (paramRng 0)] [.opaque "+=" [⟨.rw, .cpar 0 .all⟩]] none]⟩ [] []
      (fun _ => true) [] = false := by decide +kernel

/-- an index bounded only by the length of the whole point buffer is rejected (the defect fixed by
1b759a9: `scaled.get(point_base + base_offset)`) -/
example :
    segOK [] ⟨"component", ["point_base", "@before", "@loaded", "delta_base", "count", "base_offset"],
      [.acc "scaled.get(point_base + base_offset)" [⟨.rd, .abs ⟨2, ⟨[1, 0, 0, 0, 0, 1], 0⟩, ⟨[1, 0, 0, 0, 0, 1], 1⟩⟩⟩]]⟩
      [] (compIterPre ftPipeline false) (fun _ => true) [] = false := by decide +kernel

/-! ### whole draw -/

/-- **Independence of the buffer's prior contents.** Let the scaler be any machine that touches the
scratch buffer only through range accesses, whose next step, written values and result may depend on
the font, the glyph, the size, the location, the hinting configuration and on every value it has read
(`Proc`).  If its access sequence on a buffer with contents `m1` is one that the load skeleton
(`DrawTrace`: `load` → `load_simple` / `load_composite` → … → `scale`, instantiating the access lists
extracted from the source) can produce for some glyph tree, then on a buffer with ANY other contents
`m2` it makes the same accesses and returns the same result.  Stated for every pipeline whose
per-function obligations hold; instantiated below for both scalers. -/
theorem draw_independent_of_buffer_contents_of (P : Pipeline) (hP : pipelineOK P = true)
    (g : Option Carve.Glyph) {R : Type} (p : Proc R) (m1 m2 : Mem) (h : DrawTrace P g (p.trace m1)) :
    p.run m1 = p.run m2 ∧ p.trace m1 = p.trace m2 :=
  proc_independent p m1 m2 (fun _ _ => False) (fun _ _ h => h.elim)
    (draw_trace_wbr P (pipelineOK_facts P hP) g _ h)

/-- the FreeType-style scaler (unhinted and hinted draws) -/
theorem draw_independent_of_buffer_contents (g : Option Carve.Glyph) {R : Type} (p : Proc R) (m1 m2 : Mem)
    (h : DrawTrace ftPipeline g (p.trace m1)) : p.run m1 = p.run m2 ∧ p.trace m1 = p.trace m2 :=
  draw_independent_of_buffer_contents_of ftPipeline ft_pipeline_wbr g p m1 m2 h

/-- the HarfBuzz-style scaler -/
theorem draw_independent_of_buffer_contents_hb (g : Option Carve.Glyph) {R : Type} (p : Proc R) (m1 m2 : Mem)
    (h : DrawTrace hbPipeline g (p.trace m1)) : p.run m1 = p.run m2 ∧ p.trace m1 = p.trace m2 :=
  draw_independent_of_buffer_contents_of hbPipeline hb_pipeline_wbr g p m1 m2 h

/-- every access sequence of the skeleton is write-before-read from a buffer of unknown contents -/
theorem draw_trace_write_before_read (g : Option Carve.Glyph) (cs : List CAcc) :
    (DrawTrace ftPipeline g cs → wbrOK cs (fun _ _ => False)) ∧
    (DrawTrace hbPipeline g cs → wbrOK cs (fun _ _ => False)) :=
  ⟨draw_trace_wbr _ (pipelineOK_facts _ ft_pipeline_wbr) g cs, draw_trace_wbr _ (pipelineOK_facts _ hb_pipeline_wbr) g cs⟩

/-- the address of the buffer does not enter either: `Proc` sees element indices of the carved
slices only, and the carve theorems (`ft_carve_sufficient`, `ft_carve_base_shift`) show that the slices
exist, are disjoint and keep their lengths at every base address -/
theorem proc_result_is_function_of_read_values {R : Type} (p : Proc R) (m1 m2 : Mem) (w : Written)
    (hag : ∀ f i, w f i → m1 f i = m2 f i) (hok : wbrOK (p.trace m1) w) : p.run m1 = p.run m2 :=
  (proc_independent p m1 m2 w hag hok).1

-- non-vacuity: the skeleton has traces (an empty glyph: only `scale` reads, nothing),
-- and the hypothesis matters: a machine that reads before writing does depend on the contents
example : DrawTrace ftPipeline none [⟨[⟨2, 0, 0⟩, ⟨5, 0, 0⟩, ⟨4, 0, 0⟩], []⟩] := by
  have hp : (paths fns ftFinal [])[0]? = some ⟨[.one ⟨"ScaledOutline::new(..) handed to the caller",
      [⟨2, lin [], lin [1]⟩, ⟨5, lin [], lin [1]⟩, ⟨4, lin [], lin [0, 1]⟩], []⟩], [], false, false⟩ := by
    decide +kernel
  have := DrawTrace.done (P := ftPipeline) (g := none) ⟨0, 0⟩ _ [0, 0] [] _ (Trace.empty ⟨0, 0⟩)
    (List.mem_of_getElem? hp) rfl (Conc.one _ _ _ Conc.nil)
  simpa [SAcc.inst, SRng.inst, Lin.eval, lin, dot] using this

def readsFirst : Proc Int := .step ⟨[⟨2, 0, 1⟩], []⟩ (fun _ => fun _ _ => 0) (fun m => .done (m 2 0))
example : readsFirst.run (fun _ _ => 7) = 7 ∧ readsFirst.run (fun _ _ => 9) = 9 := by decide
def writesFirst : Proc Int :=
  .step ⟨[], [⟨2, 0, 1⟩]⟩ (fun _ => fun _ _ => 5) (fun _ => .step ⟨[⟨2, 0, 1⟩], []⟩ (fun m => m) (fun m => .done (m 2 0)))
example : writesFirst.run (fun _ _ => 7) = 5 ∧ writesFirst.run (fun _ _ => 9) = 5 := by decide
example : wbrOK (writesFirst.trace (fun _ _ => 7)) (fun _ _ => False) := by
  simp [writesFirst, Proc.trace, wbrOK, stepW, inAny, CRng.has]

/-- the `modelled` events of the extracted data name no theorem but these three (Props/C12.lean,
Props/C12Wbr.lean); the names are compared as strings -/
theorem modelled_events_are_proved :
    modelledThms.all (fun t => ["cow_buffer_independent", "read_points_writes_all", "value_stack_buffer_independent"].contains t) = true := by
  decide

/-! ## instance history: every field on the reconfigure / draw path -/

open FontVerif.HintState in
/-- the state table re-extracted from the source is the reviewed one, and it is complete: every field
of `HintingInstance` and `glyf::HintInstance` is overwritten by `reconfigure` (or only resized *and*
wiped by `Engine::reset(Program::Font)`: the instruction definitions), every field of the per-draw
objects (`Engine`, `GraphicsState`, `RetainedGraphicsState`, `ValueStack`, `ProgramState`, `LoopBudget`,
`CowSlice`, `Zone`) is named in its constructor or defaulted, `is_pedantic` and the backward
compatibility flag are assigned for every program run -/
theorem state_table_matches_model : persistSrc = persistModel ∧ persistComplete persistSrc = true :=
  ⟨rfl, by decide +kernel⟩

open FontVerif.HintState in
/-- dropping the reset of the instruction definitions (seeded change C12-5) makes the table incomplete -/
example : persistComplete (persistModel.filter (fun r => r.2.1 != "definitions.instructions")) = false := by
  decide +kernel

open FontVerif.HintState in
/-- **Reconfiguring the public instance is history independent**: for every interpreter, whatever
the instance was configured for before (`o`, `o'`: any size, location, target, any state of a previous
`glyf` instance or none), `HintingInstance::reconfigure` produces the same instance and the same
error.  Draws take `&self` (no interior mutability in outline/glyf: `interior_mutability_reviewed`), so
the instance a draw sees is this function of (font, size, location, mode). -/
theorem outer_reconfigure_history_independent {G E : Type} (run : EngineState G → Except E (EngineState G))
    (fresh : Inst G) (o o' : Outer G) (size : Int) (coords : List Int) (target : Nat) (c : Cfg G) :
    outerReconfigure run fresh o size coords target c = outerReconfigure run fresh o' size coords target c := by
  have h : ∀ (a b : Inst G), reconfigure run a c = reconfigure run b c :=
    fun a b => reconfigure_history_independent run a b c
  unfold outerReconfigure
  rw [h (o.inst fresh) (o'.inst fresh)]

open FontVerif.HintState in
example : (outerReconfigure exRun ⟨[], [], [], [], 0, [], [], [], 0, 0⟩ ⟨7, [1], 2, some exDirty⟩ 16 [] 0 exCfg).1.kind.map
      (fun i => (i.instructions, i.storage))
    = some ([some (1, 2, 165, 0), none], [0, 640, 0]) := by rfl

/-! ## threads: the only shared mutable state is the lazy metrics slot -/

/-- every interior-mutability site under skrifa/src/outline/** and skrifa/src/color/** is reviewed
(translate/c12_sites_review.json; a new or changed site breaks the translator), and the only ones that
are shared mutable state are the `RwLock` accesses of `UnscaledStyleMetricsSet::get` -/
theorem interior_mutability_reviewed :
    interiorSitesSrc.all (fun s => ["import_or_type", "construct_all_none", "compute_once_publish_complete",
      "plain_mut_method"].contains s.2) = true ∧
    (interiorSitesSrc.filter (fun s => s.2 == "compute_once_publish_complete")).map (·.1) =
      ["skrifa/src/outline/autohint/metrics/mod.rs::get::.read().unwrap()",
       "skrifa/src/outline/autohint/metrics/mod.rs::get::.write().unwrap()"] ∧
    (interiorSitesSrc.filter (fun s => "skrifa/src/outline/glyf/".toList.isPrefixOf s.1.toList)) = [] :=
  ⟨by decide +kernel, rfl, by decide +kernel⟩

open FontVerif.LazySlot in
/-- the lock protocol extracted from `get` is the modelled one -/
theorem lazy_get_is_model : lazyGetSrc.mapM Act.ofString = some lazyGetModel := by decide


open FontVerif.LazySlot in
/-- **Readers see `None` or the final value.** For any number of threads calling `get` on one shared
slot and every interleaving of their lock-protected actions: the slot only ever holds `None` or the
final value, every thread that looked at the slot saw one of these two, and every call that has
returned returned the final value — no placeholder is ever visible. -/
theorem lazy_slot_readers_see_none_or_final (n final other : Nat) (sched : List Nat) :
    let s := run lazyGetModel final other (Sys.start n) sched
    (s.slot = none ∨ s.slot = some final) ∧
    ∀ t ∈ s.threads, (t.seen = none ∨ t.seen = some none ∨ t.seen = some (some final)) ∧
      (t.ret = none ∨ t.ret = some (some final)) := by
  have h0 : LazySlot.Good final (Sys.start n) := by
    refine ⟨Or.inl rfl, ?_⟩
    intro t ht
    simp only [Sys.start, List.mem_replicate] at ht
    rw [ht.2]
    exact ⟨Or.inl rfl, by simp [Thread.start], Or.inl rfl⟩
  have := LazySlot.run_good final other sched _ h0
  exact ⟨this.1, fun t ht => ⟨(this.2 t ht).1, (this.2 t ht).2.2⟩⟩

open FontVerif.LazySlot in
-- non-vacuity: two threads race, both compute, both return the final value 42, the slot holds it
example : (run lazyGetModel 42 0 (Sys.start 2) [0, 0, 1, 1, 0, 1, 0, 1, 0, 0, 1, 0, 0, 1, 1, 1, 1]).threads.map (·.ret)
    = [some (some 42), some (some 42)] := by decide
open FontVerif.LazySlot in
example : (run lazyGetModel 42 0 (Sys.start 2) [0, 0, 1, 1, 0, 1, 0, 1, 0, 0, 1, 0, 0, 1, 1, 1, 1]).slot = some 42 := by decide
open FontVerif.LazySlot in
/-- a protocol that claims the slot with a placeholder before computing (seeded change C12-6) lets a
second thread return the placeholder (here 0 instead of 42) -/
example : (run [.readLock, .readSlot, .returnIfSome, .unlock, .writeLock, .storeOther, .unlock, .compute, .writeLock,
      .storeFinal, .returnComputed] 42 0 (Sys.start 2) [0, 0, 0, 0, 0, 0, 0, 1, 1, 1]).threads.map (·.ret)
    = [none, some (some 0)] := by decide

/-! ## the data-dependent accesses (`modelled` events) -/

open FontVerif.ScratchModels in
/-- **The interpreter's value stack does not depend on the scratch buffer.** `ValueStack::new` sets
`len = 0` on whatever the backing slice (carved from the caller's buffer, never cleared) contains; every
operation reads below `len` only, and everything below `len` has been pushed since.  So for every
sequence of operations (incl. the non-pedantic "pop of an empty stack yields 0", `CINDEX` / `MINDEX`
with arbitrary — also negative or too large — indices, overflow) the outcomes on two buffers of the
same length with arbitrary contents are identical. -/
theorem value_stack_buffer_independent (g g' : List Int) (h : g.length = g'.length) (pedantic : Bool)
    (ops : List VOp) : (VS.new g pedantic).run ops = (VS.new g' pedantic).run ops :=
  run_sim ops _ _ ⟨h, rfl, rfl, Nat.zero_le _, fun _ hj => absurd hj (Nat.not_lt_zero _)⟩

open FontVerif.ScratchModels in
example : ((VS.new [7, 7, 7, 7] false).run [.pop, .push 5, .push 1, .copyIndex, .values, .push 9, .push 3, .moveIndex,
      .values, .roll, .values, .push 1, .push 2, .push 3]).map renderObs
    = ["ok 0", "ok", "ok", "ok", "ok 5 5", "ok", "ok", "ok", "ok 5 9 5", "ok", "ok 9 5 5",
       "ok", "ValueStackOverflow", "ValueStackOverflow"] := by decide
open FontVerif.ScratchModels in
example : ((VS.new [7, 7, 7, 7] true).run [.pop, .dup, .push 4, .push 6, .push 2, .moveIndex, .values]).map renderObs
    = ["ValueStackUnderflow", "ValueStackUnderflow", "ok", "ok", "ok", "ok", "ok 6 4"] := by decide

open FontVerif.ScratchModels in
/-- **`read_points_fast` writes every point and flag before reading any**: on two pairs of caller
buffers (unscaled points, flags — scratch slices with arbitrary contents) the outcome (error or the
complete buffers afterwards) is the same: the flag loop only ends successfully when `i == n_points`,
and the coordinate passes run after it. -/
theorem read_points_writes_all (gd : List Nat) (n : Nat) (p1 p2 : List (Int × Int)) (f1 f2 : List Nat)
    (hp1 : p1.length = n) (hp2 : p2.length = n) (hf1 : f1.length = n) (hf2 : f2.length = n) :
    readPointsBuf gd n p1 f1 = readPointsBuf gd n p2 f2 := by
  unfold readPointsBuf
  simp only [hp1, hp2, hf1, hf2, ne_eq, not_true_eq_false, or_self, if_false]
  rw [fastFlagsBuf_indep n _ 0 0 f1 f2 hf1 hf2 (Nat.zero_le _) rfl]
  cases fastFlagsBuf n (gd.take (min (2 * n) gd.length)) 0 0 f2 with
  | none => rfl
  | some r =>
    obtain ⟨rfb, buf⟩ := r
    simp only
    cases hx : fastCoords X_SHORT X_SAME buf (gd.drop rfb) 0 with
    | none => rfl
    | some rx =>
      obtain ⟨xs, cur⟩ := rx
      simp only
      cases hy : fastCoords Y_SHORT Y_SAME buf cur 0 with
      | none => rfl
      | some ry =>
        obtain ⟨ys, _⟩ := ry
        simp only [Option.some.injEq, Prod.mk.injEq, and_true]
        exact zipWrite_indep p1 p2 xs ys (hp1.trans hp2.symm)

open FontVerif.ScratchModels in
-- three points: flags 0x33 (x short +, y same), 0x09 repeat ×1 (on curve, i16 deltas); garbage buffers
example : readPointsBuf [0x33, 0x09, 0x01, 10, 0, 5, 0xFF, 0xFE, 0, 7, 0, 1] 3 [(9, 9), (8, 8), (7, 7)] [255, 255, 255]
    = some ([(10, 0), (15, 7), (13, 8)], [1, 1, 1]) := by decide
open FontVerif.ScratchModels in
-- flags that end before every point has one: an error, not stale flags
example : readPointsBuf [0x33] 3 [(9, 9), (8, 8), (7, 7)] [255, 255, 255] = none := by decide

end FontVerif.C12
