/-
C03 — projection / freedom vectors and the point movement primitives of the TrueType
interpreter: skrifa (Model/HintVec.lean) = FreeType 2.12.1 (Model/FtVec.lean).

Shape: the FreeType side keeps coordinates, distances and stack values in 64-bit `long`s and the unit
vectors in 16-bit shorts; skrifa keeps everything in `i32` (wrapping `F26Dot6` operators, but CHECKED
`i32` products in `update_projection_state`).  The theorems state `skrifa = some (FreeType)` (i.e.
also "skrifa does not trap") for ALL operands in explicit ranges — the `_partial` ones only "whenever
skrifa returns, FreeType returns the same"; `example`s show the sides differ outside.  Ranges used throughout:
  * vector components: `Vec16 v` = both components in [-32767, 32767] (FreeType's type is a short;
    normalised vectors have |component| ≤ 0x4000),
  * coordinates: `Dist29` = within ±2^29 26.6 units (8.4 million pixels),
  * the distance handed to `move_point`: within ±2^24 (262144 px) — with |F·P| ≥ 0x400 (both code
    bases clamp smaller values to 0x4000) the move along one axis is then below 2^29 + 1.
`normalize14` ⇄ `Normalize`/`FT_Vector_NormLen`: both are the same 32-bit wrapping Newton iteration
(proved: `norm_loop_eq`, `norm_core_eq` in Lemmas/VecEq.lean, for all i32 operands); they differ only in
how the result is narrowed (skrifa: `i32` sign multiply and `/ 4`; FreeType: 64-bit negate, `/ 4`, cast to
short), so the equality needs the iteration's result below 2^17 (it converges to 2^16·(cos, sin)).
That bound is a convergence property of the iteration that is NOT proved here: theorems that go through
`normalize14` carry the suffix `_partial` and a hypothesis: `NormSmall ux uy` (the iteration started on
`(ux, uy)` ends below 2^17) in `normalize_eq_partial`, `NormConverges` (= `NormSmall` for all positive operands up
to 2^31, defined before `normalize_conv_partial`) in the vector setters; the harness evaluates `NormSmall` on every
generated vector (oracle `normalize:newton-result-below-2^17`).
-/
import FontVerif.Lemmas.VecEq
set_option linter.unusedVariables false
namespace FontVerif.C03
open FontVerif.Tt

/-- the Newton iteration on the magnitudes `(ux, uy)` ended with both components below 2^17. -/
def NormSmall (ux uy : Int) : Prop :=
  ∀ u v, FtVec.normCore ux uy = some (u, v) → u < 131072 ∧ v < 131072

/-- a unit-vector register: FreeType's components are shorts; -32768 is excluded (skrifa's checked
`px * fx + py * fy` traps when both products are 2^30). -/
def Vec16 (v : Vec) : Prop := (-32767 ≤ v.x ∧ v.x ≤ 32767) ∧ (-32767 ≤ v.y ∧ v.y ≤ 32767)

/-- **normalisation, partial**: for all `i32` operands (not both zero) `math::normalize14(x, y)`, when
it returns, equals what `Normalize( x, y, &R )` stores, a 16-bit vector — provided the shared Newton
iteration ended below 2^17 (`NormSmall`; always observed, not proved: FULL statement = this one without
`hs`).  On an axis (`x = 0` or `y = 0`) `hs` is not needed (`normalize_axis_eq`). -/
theorem normalize_eq_partial (x y : Int) (hx : inI32 x) (hy : inI32 y) (hnz : ¬ (x = 0 ∧ y = 0))
    (hs : x ≠ 0 → y ≠ 0 → NormSmall (iabs x) (iabs y)) (r0 r : Vec)
    (h : HintVec.normalize14 x y = some r) : FtVec.normalize x y r0 = some r ∧ Vec16 r := by
  have rx := iabs_range hx
  have ry := iabs_range hy
  unfold HintVec.normalize14 at h
  unfold FtVec.normalize FtVec.normLen
  simp only [hnz, if_false]
  rw [wrapI32_id hx, wrapI32_id hy]
  simp only [moveSign32_abs hx, moveSign32_abs hy] at h ⊢
  unfold inI32 at hx hy
  have e0 : iabs (0:Int) = 0 := rfl
  by_cases hx0 : x = 0
  · -- x = 0, y ≠ 0
    subst hx0
    have hyp : iabs y > 0 := ry.2.2 (by omega)
    simp only [e0, if_true, hyp, Option.some.injEq] at h ⊢
    rw [← h]
    by_cases hyn : y < 0 <;> simp only [hyn, if_true, if_false] <;> exact ⟨by decide, by unfold Vec16; decide⟩
  · have hxp' : iabs x > 0 := rx.2.2 hx0
    have hxp : ¬ iabs x = 0 := by omega
    simp only [hxp, if_false] at h ⊢
    by_cases hy0 : y = 0
    · subst hy0
      simp only [e0, if_true, hxp', Option.some.injEq] at h ⊢
      rw [← h]
      by_cases hxn : x < 0 <;> simp only [hxn, if_true, if_false] <;> exact ⟨by decide, by unfold Vec16; decide⟩
    · have hyr : 0 < iabs y ∧ iabs y ≤ 2147483648 := ⟨ry.2.2 hy0, ry.2.1⟩
      have hyp : ¬ iabs y = 0 := by omega
      simp only [hyp, if_false] at h ⊢
      have hxr : 0 < iabs x ∧ iabs x ≤ 2147483648 := ⟨hxp', rx.2.1⟩
      cases hc : HintVec.normCore (iabs x) (iabs y) with
      | none => simp [hc] at h
      | some uv =>
        obtain ⟨u, v⟩ := uv
        have hf := norm_core_eq _ _ hxr hyr _ hc
        have hsm := hs hx0 hy0 u v hf
        have hrg : (0 ≤ u ∧ u < 4294967296) ∧ (0 ≤ v ∧ v < 4294967296) := by
          unfold FtVec.normCore at hf
          exact norm_loop_range _ _ _ _ _ _ hf
        simp only [hc, hf, Option.map_some, Option.some.injEq] at h ⊢
        rw [← h, wrapI32_of_in (x := u) (by omega) (by omega), wrapI32_of_in (x := v) (by omega) (by omega)]
        have qx := signed_quarter u (if x < 0 then -1 else 1) hrg.1.1 hsm.1 (by split <;> simp)
        have qy := signed_quarter v (if y < 0 then -1 else 1) hrg.2.1 hsm.2 (by split <;> simp)
        rw [qx.1, qy.1]
        exact ⟨rfl, qx.2, qy.2⟩

/-- on an axis the two normalisations agree unconditionally (for every i32 operand). -/
theorem normalize_axis_eq (x y : Int) (hx : inI32 x) (hy : inI32 y) (hnz : ¬ (x = 0 ∧ y = 0))
    (hax : x = 0 ∨ y = 0) (r0 r : Vec) (h : HintVec.normalize14 x y = some r) :
    FtVec.normalize x y r0 = some r :=
  (normalize_eq_partial x y hx hy hnz (by intro h1 h2; omega) r0 r h).1

-- non-vacuity: a diagonal and an unnormalised vector satisfy `NormSmall`; both sides agree
example : HintVec.normalize14 16384 16384 = some ⟨11585, 11585⟩
    ∧ FtVec.normalize 16384 16384 ⟨0, 0⟩ = some ⟨11585, 11585⟩
    ∧ FtVec.normCore 16384 16384 = some (46341, 46341) := by decide +kernel
example : HintVec.normalize14 100 (-37) = some ⟨15366, -5685⟩
    ∧ FtVec.normalize 100 (-37) ⟨0, 0⟩ = some ⟨15366, -5685⟩ := by decide +kernel
-- the zero vector: FreeType leaves `R` untouched; skrifa's callers test for it (see `spvfs`)
example : FtVec.normalize 0 0 ⟨123, 456⟩ = some ⟨123, 456⟩ ∧ HintVec.normalize14 0 0 = some ⟨0, 0⟩ := by decide +kernel
-- operands beyond 32 bits (FreeType's `FT_F26Dot6` is a long; skrifa cannot represent them): the
-- low 32 bits are normalised
example : FtVec.normalize 4294967296 3 ⟨0, 0⟩ = some ⟨0, 16384⟩ := by decide +kernel

/-- **projection state**: after the three vectors are written, skrifa's cached `fdotp` and axes are
FreeType's `F_dot_P` and function pointers (incl. the `|F·P| < 0x400 → 0x4000` clamp), and skrifa's
checked products do not trap. -/
theorem compute_funcs_eq (pv dv fv : Vec) (hp : Vec16 pv) (hf : Vec16 fv) :
    (HintVec.updateProjectionState pv dv fv).map toFuncs = some (FtVec.computeFuncs pv dv fv) := by
  obtain ⟨hpx, hpy⟩ := hp
  have m1 := mul_bound (A := 32767) (B := 32767) hpx hf.1
  have m2 := mul_bound (A := 32767) (B := 32767) hpy hf.2
  -- `F_dot_P` before the clamp: skrifa's checked products do not trap
  have hf0 : (if fv.x = 16384 then some pv.x else if fv.y = 16384 then some pv.y else
        (HintMath.chk (pv.x * fv.x)).bind fun a => (HintMath.chk (pv.y * fv.y)).bind fun b =>
          (HintMath.chk (a + b)).map fun s => s / 16384)
      = some (if fv.x = 16384 then pv.x else if fv.y = 16384 then pv.y
          else (pv.x * fv.x + pv.y * fv.y) / 16384) := by
    split
    · rfl
    · split
      · rfl
      · rw [chk_fits ⟨by omega, by omega⟩, Option.bind_some, chk_fits ⟨by omega, by omega⟩, Option.bind_some,
          chk_fits ⟨by omega, by omega⟩, Option.map_some]
  have hb : -131072 ≤ (if fv.x = 16384 then pv.x else if fv.y = 16384 then pv.y
        else (pv.x * fv.x + pv.y * fv.y) / 16384) ∧
      (if fv.x = 16384 then pv.x else if fv.y = 16384 then pv.y
        else (pv.x * fv.x + pv.y * fv.y) / 16384) ≤ 131072 := by
    split
    · omega
    · split <;> omega
  unfold HintVec.updateProjectionState FtVec.computeFuncs
  rw [hf0]
  generalize (if fv.x = 16384 then pv.x else if fv.y = 16384 then pv.y
    else (pv.x * fv.x + pv.y * fv.y) / 16384) = f0 at hb ⊢
  have ha : HintMath.chk (iabs f0) = some (iabs f0) := chk_fits (by unfold iabs inI32; split <;> omega)
  -- what is left is the translation of the cached axes into function pointers
  simp only [Option.bind_some, ha, Option.map_some, toFuncs, apply_ite axisToProj, apply_ite axisToMove]
  rfl

-- the default state (all vectors on the x axis), a diagonal projection with a vertical freedom vector,
-- nearly perpendicular vectors (clamp), and the corner where skrifa traps
example : (HintVec.updateProjectionState ⟨16384, 0⟩ ⟨16384, 0⟩ ⟨16384, 0⟩).map toFuncs
    = some (FtVec.computeFuncs ⟨16384, 0⟩ ⟨16384, 0⟩ ⟨16384, 0⟩) := by decide +kernel
example : (FtVec.computeFuncs ⟨11585, 11585⟩ ⟨16384, 0⟩ ⟨0, 16384⟩).fDotP = 11585
    ∧ (FtVec.computeFuncs ⟨16384, 0⟩ ⟨16384, 0⟩ ⟨1000, 16353⟩).fDotP = 16384
    ∧ (FtVec.computeFuncs ⟨16384, 0⟩ ⟨16384, 0⟩ ⟨1024, 16352⟩).fDotP = 1024 := by decide +kernel
example : HintVec.updateProjectionState ⟨-32768, -32768⟩ ⟨16384, 0⟩ ⟨-32768, -32768⟩ = none
    ∧ (FtVec.computeFuncs ⟨-32768, -32768⟩ ⟨16384, 0⟩ ⟨-32768, -32768⟩).fDotP = 131072 := by decide +kernel

def Pos29 (v : Vec) : Prop := Dist29 v.x ∧ Dist29 v.y

/-- a cached projection state in the range of the theorems: 16-bit vectors, `fdotp` an `i32` of
magnitude ≥ 0x400 (what `update_projection_state` leaves, see `proj_ok`). -/
def ProjOk (g : HintVec.Proj) : Prop :=
  Vec16 g.pv ∧ Vec16 g.dv ∧ Vec16 g.fv ∧ inI32 g.fdotp ∧ 1024 ≤ iabs g.fdotp

/-- `update_projection_state` establishes `ProjOk`. -/
theorem proj_ok (pv dv fv : Vec) (g : HintVec.Proj) (hp : Vec16 pv) (hd : Vec16 dv) (hf : Vec16 fv)
    (h : HintVec.updateProjectionState pv dv fv = some g) : ProjOk g := by
  unfold HintVec.updateProjectionState at h
  simp only [Option.bind_eq_some_iff, Option.map_eq_some_iff] at h
  obtain ⟨fd, hfd, a, ha, hg⟩ := h
  have ⟨hain, ea⟩ := chk_iff.1 ha
  subst hg
  unfold ProjOk
  refine ⟨hp, hd, hf, ?_, ?_⟩
  · simp only []
    unfold inI32 iabs at *
    split
    · omega
    · split at hain <;> omega
  · simp only []
    subst ea
    split
    · decide
    · omega

theorem project_eq (g : HintVec.Proj) (v1 v2 : Vec) (hg : ProjOk g) (h1 : Pos29 v1) (h2 : Pos29 v2) :
    HintVec.project g v1 v2 = some (FtVec.project (toFuncs g) v1 v2) := by
  obtain ⟨⟨hpx, hpy⟩, _, _, _, _⟩ := hg
  have ex := wsub_exact h1.1 h2.1
  have ey := wsub_exact h1.2 h2.2
  unfold Pos29 Dist29 at *
  unfold HintVec.project FtVec.project FtVec.funcProject toFuncs
  rw [ex.1, ex.2, ey.1, ey.2]
  cases hax : g.projAxis <;> simp only [axisToProj]
  · rw [wrapI32_of_in (by omega) (by omega), wrapI32_of_in (by omega) (by omega)]
    exact dot14_some _ _ _ _ (by omega) (by omega) hpx hpy

/-- the dual projection is the projection along `dv`. -/
theorem dual_project_eq (g : HintVec.Proj) (v1 v2 : Vec) (hg : ProjOk g) (h1 : Pos29 v1) (h2 : Pos29 v2) :
    HintVec.dualProject g v1 v2 = some (FtVec.dualproj (toFuncs g) v1 v2) :=
  project_eq { g with pv := g.dv, projAxis := g.dualAxis } v1 v2 ⟨hg.2.1, hg.2⟩ h1 h2

/-- unscaled (font unit) coordinates: `dual_project_unscaled` = `DUALPROJ` on `orus`. -/
theorem dual_project_unscaled_eq (g : HintVec.Proj) (v1 v2 : Vec) (hg : ProjOk g) (h1 : Pos29 v1)
    (h2 : Pos29 v2) :
    HintVec.dualProjectUnscaled g v1 v2 = some (FtVec.dualproj (toFuncs g) v1 v2) := by
  obtain ⟨_, ⟨hpx, hpy⟩, _, _, _⟩ := hg
  have ex := wsub_exact h1.1 h2.1
  have ey := wsub_exact h1.2 h2.2
  unfold Pos29 Dist29 at *
  unfold HintVec.dualProjectUnscaled FtVec.dualproj FtVec.funcDualproj toFuncs
  rw [ex.2, ey.2]
  have cx : HintMath.chk (v1.x - v2.x) = some (v1.x - v2.x) := chk_fits ⟨by omega, by omega⟩
  have cy : HintMath.chk (v1.y - v2.y) = some (v1.y - v2.y) := chk_fits ⟨by omega, by omega⟩
  cases hax : g.dualAxis <;> simp only [axisToProj, cx, cy, Option.bind_some]
  · rw [wrapI32_of_in (by omega) (by omega), wrapI32_of_in (by omega) (by omega)]
    exact dot14_some _ _ _ _ (by omega) (by omega) hpx hpy

/-- the distance handed to a move: within ±2^24 26.6 units (262144 px). -/
def Dist24 (d : Int) : Prop := -16777216 ≤ d ∧ d ≤ 16777216

def MPos29 (p : HintVec.MPt) : Prop := Dist29 p.x ∧ Dist29 p.y

/-- **`move_point`** = `exc->func_move` (`Direct_Move` through `F_dot_P`, or the `_X` / `_Y` fast paths),
in and out of backward-compatibility mode, before and after both IUPs: same coordinates, same touch flags. -/
theorem move_point_eq (g : HintVec.Proj) (bc iup : Bool) (p : HintVec.MPt) (d : Int) (hg : ProjOk g)
    (hp : MPos29 p) (hd : Dist24 d) :
    HintVec.movePoint g bc iup p d = FtVec.funcMove (toFuncs g) bc iup p d := by
  obtain ⟨_, _, ⟨hfx, hfy⟩, hfi, hfd⟩ := hg
  have ex := wadd_muldiv_small p.x d g.fv.x g.fdotp hp.1 hd hfx hfi hfd
  have ey := wadd_muldiv_small p.y d g.fv.y g.fdotp hp.2 hd hfy hfi hfd
  have hd' : -536870913 ≤ d ∧ d ≤ 536870913 := by unfold Dist24 at hd; omega
  unfold HintVec.movePoint FtVec.funcMove toFuncs
  cases hax : g.freeAxis <;> simp only [axisToMove]
  · -- general: through F_dot_P
    by_cases hx0 : g.fv.x = 0 <;> by_cases hy0 : g.fv.y = 0 <;>
      cases bc <;> cases iup <;> simp [hx0, hy0, ex, ey]
  · cases bc <;> simp [wadd_near hp.1 hd']
  · cases bc <;> cases iup <;> simp [wadd_near hp.2 hd']

/-- **`move_original`** = `exc->func_move_orig`. -/
theorem move_original_eq (g : HintVec.Proj) (p : Vec) (d : Int) (hg : ProjOk g) (hp : Pos29 p)
    (hd : Dist24 d) : HintVec.moveOriginal g p d = FtVec.funcMoveOrig (toFuncs g) p d := by
  obtain ⟨_, _, ⟨hfx, hfy⟩, hfi, hfd⟩ := hg
  have hd' : -536870913 ≤ d ∧ d ≤ 536870913 := by unfold Dist24 at hd; omega
  unfold HintVec.moveOriginal FtVec.funcMoveOrig toFuncs
  cases hax : g.freeAxis <;> simp only [axisToMove]
  · rw [wadd_muldiv_small p.x d g.fv.x g.fdotp hp.1 hd hfx hfi hfd,
      wadd_muldiv_small p.y d g.fv.y g.fdotp hp.2 hd hfy hfi hfd]
  · rw [wadd_near hp.1 hd']
  · rw [wadd_near hp.2 hd']

/-- **`move_zp2_point`** = `Move_Zp2_Point` (SHP / SHC / SHZ / SHPIX), for displacements within ±2^29. -/
theorem move_zp2_point_eq (g : HintVec.Proj) (bc iup touch : Bool) (p : HintVec.MPt) (dx dy : Int)
    (hp : MPos29 p) (hdx : Dist29 dx) (hdy : Dist29 dy) :
    HintVec.moveZp2Point g bc iup p dx dy touch = FtVec.moveZp2Point (toFuncs g) bc iup p dx dy touch := by
  have ex := wadd_near hp.1 (b := dx) (by unfold Dist29 at hdx; omega)
  have ey := wadd_near hp.2 (b := dy) (by unfold Dist29 at hdy; omega)
  unfold HintVec.moveZp2Point FtVec.moveZp2Point toFuncs
  by_cases hx0 : g.fv.x = 0 <;> by_cases hy0 : g.fv.y = 0 <;>
    cases bc <;> cases iup <;> cases touch <;> simp [hx0, hy0, ex, ey]

/-- **`point_displacement`** = `Compute_Point_Displacement` (the displacement of SHP/SHC/SHZ), for a
reference point whose projected distance between current and original position is within ±2^24. -/
theorem point_displacement_eq (g : HintVec.Proj) (cur org : Vec) (hg : ProjOk g) (hc : Pos29 cur)
    (ho : Pos29 org) (hd : Dist24 (FtVec.project (toFuncs g) cur org)) :
    HintVec.pointDisplacement g cur org = some (FtVec.pointDisplacement (toFuncs g) cur org) := by
  have hpj := project_eq g cur org hg hc ho
  obtain ⟨_, _, ⟨hfx, hfy⟩, hfi, hfd⟩ := hg
  unfold HintVec.pointDisplacement FtVec.pointDisplacement
  rw [hpj]
  simp only [Option.map_some, Option.some.injEq]
  generalize FtVec.project (toFuncs g) cur org = d at hd
  rw [(muldiv_small d g.fv.x g.fdotp hd hfx hfi hfd).1, (muldiv_small d g.fv.y g.fdotp hd hfy hfi hfd).1]
  rfl

-- non-vacuity and behaviour: a diagonal freedom vector against the x projection axis
-- (F·P = 11585): moving by 64 along the projection moves the point by (64, 64)
example : ProjOk ⟨⟨16384, 0⟩, ⟨16384, 0⟩, ⟨11585, 11585⟩, 11585, .x, .x, .both⟩ := by
  unfold ProjOk Vec16 inI32 iabs; decide
example : HintVec.movePoint ⟨⟨16384, 0⟩, ⟨16384, 0⟩, ⟨11585, 11585⟩, 11585, .x, .x, .both⟩ false false ⟨100, 200, false, false⟩ 64
      = ⟨164, 264, true, true⟩
    ∧ FtVec.funcMove (toFuncs ⟨⟨16384, 0⟩, ⟨16384, 0⟩, ⟨11585, 11585⟩, 11585, .x, .x, .both⟩) false false ⟨100, 200, false, false⟩ 64
      = ⟨164, 264, true, true⟩ := by decide
-- backward compatibility: x never moves, y not after both IUPs; the flags are still set
example : HintVec.movePoint ⟨⟨16384, 0⟩, ⟨16384, 0⟩, ⟨11585, 11585⟩, 11585, .x, .x, .both⟩ true true ⟨100, 200, false, false⟩ 64
      = ⟨100, 200, true, true⟩
    ∧ HintVec.movePoint ⟨⟨16384, 0⟩, ⟨16384, 0⟩, ⟨11585, 11585⟩, 11585, .x, .x, .both⟩ true false ⟨100, 200, false, false⟩ 64
      = ⟨100, 264, true, true⟩ := by decide +kernel
-- outside the ranges: a move of 2^31 - 1 along x from x = 1: skrifa wraps, FreeType's long does not
example : HintVec.movePoint ⟨⟨16384, 0⟩, ⟨16384, 0⟩, ⟨16384, 0⟩, 16384, .x, .x, .x⟩ false false ⟨1, 0, false, false⟩ 2147483647
      = ⟨-2147483648, 0, true, false⟩
    ∧ FtVec.funcMove (toFuncs ⟨⟨16384, 0⟩, ⟨16384, 0⟩, ⟨16384, 0⟩, 16384, .x, .x, .x⟩) false false ⟨1, 0, false, false⟩ 2147483647
      = ⟨2147483648, 0, true, false⟩ := by decide +kernel

theorem ft_project_zero (f : FtVec.Funcs) (v : Vec) (hv : Pos29 v) :
    FtVec.project f v Vec.zero = FtVec.fastProject f v ∧ FtVec.dualproj f v Vec.zero = FtVec.fastDualproj f v := by
  unfold Pos29 Dist29 at hv
  unfold FtVec.project FtVec.dualproj FtVec.fastProject FtVec.fastDualproj FtCalc.subLong Vec.zero
  simp only [Int.sub_zero]
  rw [wrapI64_of_in (by omega) (by omega), wrapI64_of_in (by omega) (by omega)]
  exact ⟨rfl, rfl⟩

/-- **GC[a]** pushes the same value. -/
theorem gc_eq (g : HintVec.Proj) (a : Bool) (org cur : Vec) (hg : ProjOk g) (ho : Pos29 org)
    (hc : Pos29 cur) : HintVec.gc g a org cur = some (FtVec.gc (toFuncs g) a org cur) := by
  have hz : Pos29 Vec.zero := by unfold Pos29 Dist29 Vec.zero; simp only []; omega
  unfold HintVec.gc FtVec.gc
  cases a
  · simp only [Bool.false_eq_true, if_false]
    rw [project_eq g cur Vec.zero hg hc hz, (ft_project_zero _ cur hc).1]
  · simp only [if_true]
    rw [dual_project_eq g org Vec.zero hg ho hz, (ft_project_zero _ org ho).2]

def MPos20 (p : HintVec.MPt) : Prop := (-1048576 ≤ p.x ∧ p.x ≤ 1048576) ∧ (-1048576 ≤ p.y ∧ p.y ≤ 1048576)

/-- **SCFS**: same resulting coordinates and touch flags, for a point within ±2^20 and a requested
coordinate within ±2^23. -/
theorem scfs_eq (g : HintVec.Proj) (bc iup : Bool) (p : HintVec.MPt) (value : Int) (hg : ProjOk g)
    (hp : MPos20 p) (hv : -8388608 ≤ value ∧ value ≤ 8388608) :
    HintVec.scfs g bc iup p value = some (FtVec.scfs (toFuncs g) bc iup p value) := by
  have hz : Pos29 Vec.zero := by unfold Pos29 Dist29 Vec.zero; simp only []; omega
  have hp29 : Pos29 ⟨p.x, p.y⟩ := by unfold MPos20 at hp; unfold Pos29 Dist29; simp only []; omega
  have hmp : MPos29 p := by unfold MPos20 at hp; unfold MPos29 Dist29; omega
  unfold HintVec.scfs FtVec.scfs
  rw [project_eq g _ Vec.zero hg hp29 hz, (ft_project_zero _ _ hp29).1]
  simp only [Option.map_some, Option.some.injEq]
  -- the projection of the point is within ±(2^22 + 1)
  have hk := funcProject_bound g (D := 1048576) (by decide) hg.1.1 hg.1.2 hp.1 hp.2
  unfold FtVec.fastProject
  generalize FtVec.funcProject (toFuncs g) p.x p.y = k at hk
  have e := sub_fits (a := value) (b := k) ⟨by omega, by omega⟩
  rw [e.1, e.2]
  exact move_point_eq g bc iup p _ hg hmp (by unfold Dist24; omega)

def ZPos29 (p : ZPt) : Prop := Pos29 p.org ∧ Pos29 p.cur ∧ Pos29 p.orus

/-- **MD[a]** pushes the same value (current positions; twilight: original positions; otherwise the
unscaled positions, scaled by the 16.16 scale — any `i32` scale). -/
theorem md_eq (g : HintVec.Proj) (a twilight : Bool) (scale : Int) (p2 p1 : ZPt) (hg : ProjOk g)
    (h2 : ZPos29 p2) (h1 : ZPos29 p1) (hs : inI32 scale) :
    HintVec.md g a twilight scale p2 p1 = some (FtVec.md (toFuncs g) a twilight scale p2 p1) := by
  unfold HintVec.md FtVec.md
  cases a
  · cases twilight
    · simp only [Bool.false_eq_true, if_false]
      rw [dual_project_unscaled_eq g _ _ hg h2.2.2 h1.2.2]
      simp only [Option.map_some, Option.some.injEq]
      have hd := ft_dualproj_i32 g p2.orus p1.orus h2.2.2 h1.2.2
      unfold HintMath.mul
      exact mulfix_eq _ _ hd hs
    · simp only [Bool.false_eq_true, if_false, if_true]
      exact dual_project_eq g _ _ hg h2.1 h1.1
  · simp only [if_true]
    exact project_eq g _ _ hg h2.2.1 h1.2.1

-- GC / SCFS / MD under a diagonal projection vector (11585, 11585) and the x freedom axis
example : HintVec.gc ⟨⟨11585, 11585⟩, ⟨11585, 11585⟩, ⟨16384, 0⟩, 11585, .both, .both, .both⟩ false ⟨0, 0⟩ ⟨640, -320⟩ = some 226
    ∧ FtVec.gc (toFuncs ⟨⟨11585, 11585⟩, ⟨11585, 11585⟩, ⟨16384, 0⟩, 11585, .both, .both, .both⟩) false ⟨0, 0⟩ ⟨640, -320⟩ = 226 := by decide +kernel
example : HintVec.scfs ⟨⟨11585, 11585⟩, ⟨11585, 11585⟩, ⟨16384, 0⟩, 11585, .both, .both, .both⟩ false false ⟨640, -320, false, false⟩ 290
      = some ⟨731, -320, true, false⟩
    ∧ FtVec.scfs (toFuncs ⟨⟨11585, 11585⟩, ⟨11585, 11585⟩, ⟨16384, 0⟩, 11585, .both, .both, .both⟩) false false ⟨640, -320, false, false⟩ 290
      = ⟨731, -320, true, false⟩ := by decide +kernel

/-- the convergence property of the shared Newton iteration that is assumed, not proved:
for magnitudes of `i32` operands it ends with both components below 2^17. -/
def NormConverges : Prop :=
  ∀ ux uy : Int, 0 < ux → ux ≤ 2147483648 → 0 < uy → uy ≤ 2147483648 → NormSmall ux uy

theorem normalize_conv_partial (hn : NormConverges) (x y : Int) (hx : inI32 x) (hy : inI32 y)
    (hnz : ¬ (x = 0 ∧ y = 0)) (r0 r : Vec) (h : HintVec.normalize14 x y = some r) :
    FtVec.normalize x y r0 = some r ∧ Vec16 r := by
  exact normalize_eq_partial x y hx hy hnz (fun h1 h2 =>
    hn _ _ ((iabs_range hx).2.2 h1) (iabs_range hx).2.1 ((iabs_range hy).2.2 h2) (iabs_range hy).2.1) r0 r h

/-- **SVTCA / SPVTCA / SFVTCA** (opcodes 0‥5) write the same vectors. -/
theorem svtca_eq (opcode : Int) (pv dv fv : Vec) (h : 0 ≤ opcode ∧ opcode ≤ 5) :
    HintVec.svtca opcode pv dv fv = FtVec.sxytca opcode pv dv fv := by
  have : opcode = 0 ∨ opcode = 1 ∨ opcode = 2 ∨ opcode = 3 ∨ opcode = 4 ∨ opcode = 5 := by omega
  rcases this with e | e | e | e | e | e <;> subst e <;> rfl

/-- `line_vector(p1, p2, is_parallel)` against the corresponding block of `Ins_SxVTL` / `Ins_SDPVTL`
(`A = 0x4000, opcode = 0` for coincident points, counter-clockwise rotation, `Normalize`). -/
theorem line_vector_partial (hn : NormConverges) (opcode : Int) (p1 p2 : Vec) (h1 : Pos29 p1)
    (h2 : Pos29 p2) (r0 r : Vec) (h : HintVec.lineVector p1 p2 (opcode % 2 = 0) = some r) :
    (FtVec.lineBlock opcode p1 p2 r0).1 = some r ∧ Vec16 r ∧
    (FtVec.lineBlock opcode p1 p2 r0).2 = (if p1 = p2 then 0 else opcode) := by
  have ex := wsub_exact h1.1 h2.1
  have ey := wsub_exact h1.2 h2.2
  unfold Pos29 Dist29 at h1 h2
  unfold HintVec.lineVector at h
  unfold FtVec.lineBlock
  rw [ex.1, ey.1] at h
  rw [ex.2, ey.2]
  by_cases hz : p1.x - p2.x = 0 ∧ p1.y - p2.y = 0
  · have hpe : p1 = p2 := by
      cases p1; cases p2; simp only [Vec.mk.injEq] at *; omega
    simp only [hz, and_self, if_true] at h ⊢
    simp only [show (0:Int) % 2 ≠ 0 ↔ False from by decide, if_false, hpe, if_true, and_true]
    exact normalize_conv_partial hn 16384 0 (by decide) (by decide) (by decide) r0 r h
  · have hpe : ¬ p1 = p2 := by
      intro e; subst e; exact hz ⟨by omega, by omega⟩
    simp only [hz, if_false, hpe, and_true] at h ⊢
    by_cases hpar : opcode % 2 = 0
    · simp only [hpar, decide_true, not_true_eq_false, if_false, ne_eq] at h ⊢
      exact normalize_conv_partial hn _ _ (by unfold inI32; omega) (by unfold inI32; omega) hz r0 r h
    · simp only [hpar, decide_false, not_false_eq_true, if_true, ne_eq] at h ⊢
      have e := neg_fits (a := p1.y - p2.y) ⟨by omega, by omega⟩
      rw [e.1] at h
      rw [e.2]
      exact normalize_conv_partial hn _ _ (by unfold inI32; omega) (by unfold inI32; omega) (by omega) r0 r h

/-- **SPVTL[a] / SFVTL[a]**, partial (assumes `NormConverges`). -/
theorem svtl_eq_partial (hn : NormConverges) (opcode : Int) (p1 p2 pv dv fv : Vec)
    (ho : 6 ≤ opcode ∧ opcode ≤ 9) (h1 : Pos29 p1) (h2 : Pos29 p2) (t : Vec × Vec × Vec)
    (h : HintVec.svtl opcode p1 p2 pv dv fv = some t) : FtVec.svtl opcode p1 p2 pv dv fv = some t := by
  unfold HintVec.svtl at h
  unfold FtVec.svtl
  simp only [Option.map_eq_some_iff] at h
  obtain ⟨v, hv, ht⟩ := h
  by_cases h8 : opcode < 8
  · simp only [h8, if_true] at ht ⊢
    unfold FtVec.sxvtl
    rw [(line_vector_partial hn opcode p1 p2 h1 h2 pv v hv).1]
    simp only [Option.map_some, ht]
  · simp only [h8, if_false] at ht ⊢
    unfold FtVec.sxvtl
    rw [(line_vector_partial hn opcode p1 p2 h1 h2 fv v hv).1]
    simp only [Option.map_some, ht]

/-- **SDPVTL[a]**, partial (assumes `NormConverges`): dual vector from the original, projection vector
from the current positions; coincident ORIGINAL points also cancel the rotation of the projection vector
(FreeType clears its local `opcode`; skrifa after fix 8215eeb). -/
theorem sdpvtl_eq_partial (hn : NormConverges) (opcode : Int) (o1 o2 c1 c2 pv dv fv : Vec)
    (ho1 : Pos29 o1) (ho2 : Pos29 o2) (hc1 : Pos29 c1) (hc2 : Pos29 c2) (t : Vec × Vec × Vec)
    (h : HintVec.sdpvtl opcode o1 o2 c1 c2 fv = some t) :
    FtVec.sdpvtl opcode o1 o2 c1 c2 pv dv fv = some t := by
  unfold HintVec.sdpvtl at h
  unfold FtVec.sdpvtl
  simp only [Option.bind_eq_some_iff, Option.map_eq_some_iff] at h
  obtain ⟨dv', hdv, pv', hpv, ht⟩ := h
  have b1 := line_vector_partial hn opcode o1 o2 ho1 ho2 dv dv' hdv
  simp only [b1.1, b1.2.2, Option.bind_some]
  by_cases he : o1 = o2
  · simp only [he, if_true] at hpv ⊢
    have b2 := line_vector_partial hn 0 c1 c2 hc1 hc2 pv pv' (by simpa using hpv)
    simp only [b2.1, Option.map_some, ht]
  · simp only [he, if_false] at hpv ⊢
    have b2 := line_vector_partial hn opcode c1 c2 hc1 hc2 pv pv' hpv
    simp only [b2.1, Option.map_some, ht]

/-- **SPVFS / SFVFS**, partial (assumes `NormConverges`): any `i32` stack values. -/
theorem spvfs_eq_partial (hn : NormConverges) (x y : Int) (pv dv fv : Vec) (t : Vec × Vec × Vec)
    (h : HintVec.spvfs x y pv dv fv = some t) : FtVec.spvfs x y pv dv fv = some t := by
  unfold HintVec.spvfs HintVec.asI16 at h
  unfold FtVec.spvfs
  have hi : ∀ w : Int, inI32 (wrapI16 w) := by intro w; unfold inI32 wrapI16; simp only []; split <;> omega
  simp only [Option.map_eq_some_iff] at h ⊢
  obtain ⟨v, hv, ht⟩ := h
  refine ⟨v, ?_, ht⟩
  by_cases hz : wrapI16 x = 0 ∧ wrapI16 y = 0
  · simp only [hz, and_self, if_true] at hv
    unfold FtVec.normalize; simp only [hz, and_self, if_true]; exact hv
  · simp only [hz, if_false] at hv
    exact (normalize_conv_partial hn _ _ (hi x) (hi y) hz pv v hv).1

theorem sfvfs_eq_partial (hn : NormConverges) (x y : Int) (pv dv fv : Vec) (t : Vec × Vec × Vec)
    (h : HintVec.sfvfs x y pv dv fv = some t) : FtVec.sfvfs x y pv dv fv = some t := by
  unfold HintVec.sfvfs HintVec.asI16 at h
  unfold FtVec.sfvfs
  have hi : ∀ w : Int, inI32 (wrapI16 w) := by intro w; unfold inI32 wrapI16; simp only []; split <;> omega
  simp only [Option.map_eq_some_iff] at h ⊢
  obtain ⟨v, hv, ht⟩ := h
  refine ⟨v, ?_, ht⟩
  by_cases hz : wrapI16 x = 0 ∧ wrapI16 y = 0
  · simp only [hz, and_self, if_true] at hv
    unfold FtVec.normalize; simp only [hz, and_self, if_true]; exact hv
  · simp only [hz, if_false] at hv
    exact (normalize_conv_partial hn _ _ (hi x) (hi y) hz fv v hv).1

-- SPVFS of an unnormalised vector; SPVFS(0, 0) keeps the projection vector on both sides
example : HintVec.spvfs 3 4 ⟨16384, 0⟩ ⟨16384, 0⟩ ⟨0, 16384⟩ = some (⟨9830, 13107⟩, ⟨9830, 13107⟩, ⟨0, 16384⟩)
    ∧ FtVec.spvfs 3 4 ⟨16384, 0⟩ ⟨16384, 0⟩ ⟨0, 16384⟩ = some (⟨9830, 13107⟩, ⟨9830, 13107⟩, ⟨0, 16384⟩) := by decide +kernel
example : HintVec.spvfs 65536 0 ⟨11585, 11585⟩ ⟨16384, 0⟩ ⟨0, 16384⟩ = some (⟨11585, 11585⟩, ⟨11585, 11585⟩, ⟨0, 16384⟩)
    ∧ FtVec.spvfs 65536 0 ⟨11585, 11585⟩ ⟨16384, 0⟩ ⟨0, 16384⟩ = some (⟨11585, 11585⟩, ⟨11585, 11585⟩, ⟨0, 16384⟩) := by decide +kernel

end FontVerif.C03
