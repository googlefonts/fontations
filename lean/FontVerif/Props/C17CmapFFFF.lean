/-
C17 — cmap format 4 for retained lists that CONTAIN U+FFFF (klippa/src/cmap.rs `to_ranges`: no terminating segment after a
range that ends at 0xFFFF; `Cmap4::serialize`).  Reader = C08's model of read-fonts `Cmap4::map_codepoint` (`map4`), through
C08's reader lemmas for a table with no terminating row (`Cmap4.ofRowsX 0`, Lemmas/Cmap4.lean).  Format 12 needs nothing new:
`C17Cmap.fmt12_lookup` already allows U+FFFF.
-/
import FontVerif.Props.C17Cmap
namespace FontVerif.C17CmapFFFF
open FontVerif.Cmap FontVerif.SubsetCmap

/-- the last code point of a non-empty ascending BMP list that lists U+FFFF is U+FFFF -/
theorem last_is_ffff (l : Mapping) (hd : InDomainF l) (g : Nat) (hmem : (0xFFFF, g) ∈ l) :
    cpAt l.toArray (l.length - 1) = 0xFFFF := by
  obtain ⟨k, hk, hkv⟩ := List.getElem_of_mem hmem
  have hn : 0 < l.length := by omega
  obtain ⟨e1, _⟩ := index_view_list l (l.length - 1) (by omega)
  rw [e1]
  have hle := hd.cp _ (List.getElem_mem (show l.length - 1 < l.length by omega))
  by_cases hkl : k = l.length - 1
  · subst hkl; rw [hkv]
  · have := (List.pairwise_iff_getElem.1 hd.asc) k (l.length - 1) hk (by omega) (by omega)
    rw [hkv] at this
    simp only at this
    omega

/-- For every strictly ascending list of BMP pairs that lists U+FFFF (glyph ids
1..=0xFFFF) and ANY outcome of the cost heuristic: if `Cmap4::serialize` returns a table, read-fonts' `map_codepoint` answers `some v`
for `c` exactly when `(c, v)` is a listed pair: every retained code point, U+FFFF included, gets its remapped glyph id,
nothing else is mapped. -/
theorem fmt4_lookup_with_ffff_any_heuristic (h : Heur) (l : Mapping) (hd : InDomainF l) (g : Nat)
    (hmem : (0xFFFF, g) ∈ l) (t : Cmap4) (ht : build4With h l = .ok t) (c v : Nat) :
    map4 t c = some v ↔ (c, v) ∈ l := by
  rw [build4With_lookup h l hd (List.ne_nil_of_mem hmem) t ht c v]
  exact ⟨fun h => h.elim id fun h' => absurd (last_is_ffff l hd g hmem) h'.2.2, Or.inl⟩

/-- The format 4 lookup statement without the "no U+FFFF" restriction, implemented heuristic:
for EVERY non-empty strictly ascending BMP list with glyph ids 1..=0xFFFF, whenever `Cmap4::serialize` returns a table,
`map_codepoint c = some v` iff `(c, v)` is listed — or `c` is U+FFFF, U+FFFF is NOT listed and `v = 0` (the terminating
segment, which is written exactly in that case). -/
theorem fmt4_lookup_bmp_complete (l : Mapping) (hd : InDomainF l) (hne : l ≠ [])
    (t : Cmap4) (ht : build4 l = .ok t) (c v : Nat) :
    map4 t c = some v ↔ (c, v) ∈ l ∨ (c = 0xFFFF ∧ v = 0 ∧ ∀ g, (0xFFFF, g) ∉ l) := by
  rw [build4With_lookup implHeur l hd hne t ht c v]
  refine or_congr Iff.rfl (and_congr_right fun _ => and_congr_right fun _ =>
    ⟨fun hl g hg => hl (last_is_ffff l hd g hg), fun hno hl => ?_⟩)
  -- the last pair is listed
  have hn : l.length - 1 < l.length := by have := List.length_pos_iff.2 hne; omega
  have : l[l.length - 1] = (0xFFFF, (l[l.length - 1]).2) := Prod.ext (by rw [← (index_view_list l _ hn).1]; exact hl) rfl
  exact hno _ (this ▸ List.getElem_mem hn)

def exL : Mapping := [(0x41, 7), (0x42, 8), (0xFFFD, 3), (0xFFFE, 4), (0xFFFF, 9)]

example : InDomainF exL := ⟨by unfold Ascending exL; decide, by decide, by decide⟩
def exT : Cmap4 :=
  { endCode := #[0x42, 0xFFFF], startCode := #[0x41, 0xFFFD], idDelta := #[-58, 0],
    idRangeOffsets := #[0, 2], glyphIdArray := #[3, 4, 9] }

/-- the writer succeeds and writes no terminator: the last segment ends at 0xFFFF -/
example : build4 exL = .ok exT := by decide
example : [0x41, 0x42, 0x43, 0xFFFC, 0xFFFD, 0xFFFE, 0xFFFF].map (map4 exT) =
    [some 7, some 8, none, none, some 3, some 4, some 9] := by decide

end FontVerif.C17CmapFFFF
