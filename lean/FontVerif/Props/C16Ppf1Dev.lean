/-
C16 (PairPos format 1 split, size bookkeeping with shared pair sets / device tables) —
write-fonts/src/graph/splitting/pairpos.rs `split_pair_pos_format_1`.  Model: `ppf1DStep` /
`ppf1DPieces` (Model/LayoutLookup.lean; `fixed = false` is the code as it is — on the example below its
piece ends are the split points of `ppf1SplitPoints` — tied to the real code by `ppf1.run`); lemmas:
Lemmas/LayoutPieceSize.lean.
-/
import FontVerif.Lemmas.LayoutPieceSize
namespace FontVerif.C16
open FontVerif.Layout

/-- For the loop WITH the repair analogous to /repo 2b4b586
(the pair set that starts a new piece is re-counted after `visited.clear()`): for every list of pair
sets — any sizes, any sharing of pair-set objects within and across pieces — the estimate of every
piece is exactly its true size (10 header bytes + one offset per pair set + every distinct pair-set
object with its device tables once). -/
theorem ppf1_repaired_piece_estimates_exact (cs : Nat) (ps : List (Nat × Nat))
    (pieces : List (Nat × Nat × Nat)) (h : ppf1DPieces true cs ps = some pieces) :
    ∀ p ∈ pieces, p.1 ≤ p.2.1 ∧ p.2.2 = ppf1PieceSize ps p.1 p.2.1 := by
  unfold ppf1DPieces at h
  extract_lets st at h
  by_cases he : st.pieces.isEmpty
  · rw [if_pos he] at h; cases h
  · rw [if_neg he, Option.some.injEq] at h
    subst h
    intro p hp
    have := ppf1DLoop_good cs ps p hp
    rwa [PieceOK, flatRows_singletons] at this

/-- With the repair, a piece whose estimate passes the loop's
test is at most that large in truth. -/
theorem ppf1_repaired_accepted_piece_fits (cs : Nat) (ps : List (Nat × Nat))
    (pieces : List (Nat × Nat × Nat)) (h : ppf1DPieces true cs ps = some pieces)
    (p : Nat × Nat × Nat) (hp : p ∈ pieces) (bound : Nat) (hb : p.2.2 ≤ bound) :
    ppf1PieceSize ps p.1 p.2.1 ≤ bound := by
  rw [← (ppf1_repaired_piece_estimates_exact cs ps pieces h p hp).2]; exact hb

/-! ## the code AS IT IS: the estimate is NOT an upper bound (an observation, not a known finding: the pieces still pack)

Pair sets A (20002 bytes), B (45482), then A fourteen more times (identical pair sets of other first
glyphs: ONE shared object, 2 bytes each), C (45482), D (19602); coverage 10 bytes.  The fifteenth A
does not fit: split point 15.  Its delta was computed against the first piece's `visited` set (A is
in it: 0 bytes) and the set is cleared, so the second piece starts at 12 bytes although it holds A.
The loop then accepts C and D: piece 15..18 is estimated at 65100 bytes, its true size is 85102.
(The real `split_pair_pos_format_1` produces exactly these pieces: `ppf1.run`, scenario
`fixed:shared-pair-set-at-split-point`.)  The repaired loop would cut again before D. -/

def exPairSets : List (Nat × Nat) :=
  [(1, 20002), (2, 45482)] ++ List.replicate 14 (1, 20002) ++ [(3, 45482), (4, 19602)]

example : ppf1DPieces false 10 exPairSets = some [(0, 15, 65524), (15, 18, 65100)] ∧
    ppf1PieceSize exPairSets 15 18 = 85102 ∧ 65100 < 85102 ∧ 65535 < 85102 ∧
    ppf1SplitPoints 10 exPairSets = some [15, 18] := by decide +kernel
example : ppf1DPieces true 10 exPairSets = some [(0, 15, 65524), (15, 17, 65498), (17, 18, 19614)] := by
  decide +kernel

end FontVerif.C16
