/-
C02 — skrifa and IFT client APIs are total on hostile fonts and arguments.

Core 1b: the loop-carrying DATA opcodes of the TrueType interpreter (Model/InterpLoops.lean ⇄ skrifa hint/engine
outline.rs, delta.rs, graphics.rs `op_sloop`, value_stack.rs).  Props/C02.lean (`run_dispatches_le`) proves that `Engine::run`
dispatches at most 1 000 001 instructions whatever the data opcodes do, PROVIDED each of them returns.  Here each loop-carrying
data opcode is given its real loop structure (every loop is a structural recursion on its iteration count, so it
returns) and the work of ONE dispatch is bounded explicitly: `loop_counter` never exceeds 0xFFFF, and no opcode
performs more than `work g vs` = `65536 + 4 × glyph points + twilight points + stack depth + stack capacity` iterations.
-/
import FontVerif.Lemmas.InterpData
namespace FontVerif.C02
open FontVerif.Interp FontVerif.InterpLoops FontVerif.InterpLoopsLemmas

/-! `Wf`, `work`, `Step` (the per-dispatch contract of a data opcode) are defined at the end of Model/InterpLoops.lean. -/

theorem step_refl (g : G) (vs : List Int) (h : Wf g) : Step g vs g :=
  ⟨h, by unfold work; omega, rfl, rfl, rfl, rfl⟩

theorem popThen_ok {ped : Bool} {vs : List Int} {f : Int → List Int → OpR} {r : List Int × G}
    (h : popThen ped vs f = .ok r) : ∃ v vs1, pop ped vs = .ok (v, vs1) ∧ f v vs1 = .ok r := by
  unfold popThen at h
  split at h
  · simp at h
  · rename_i v vs1 hp; exact ⟨v, vs1, hp, h⟩

/-- **SLOOP clamps**: whatever is popped, the new loop counter is at most 0xFFFF -/
theorem sloop_clamped (ped : Bool) (vs vs' : List Int) (g g' : G) (h : opSloop ped vs g = .ok (vs', g')) :
    g'.loop ≤ 65535 := by
  obtain ⟨n, vs1, -, h⟩ := popThen_ok h
  split at h <;> cases h
  exact Nat.min_le_right _ _

theorem zoneLen_le (g : G) (z : Nat) : g.zoneLen z ≤ g.glyphPts + g.twiPts := by
  unfold G.zoneLen; split <;> omega

/-- **one dispatch of a loop-carrying data opcode is bounded**: if it returns `Ok`, it performed at most
    `work g vs` loop iterations, the loop counter is again at most 0xFFFF and the zone
    sizes are unchanged.  (If it returns `Err`, it stopped even earlier: every loop here is a structural recursion on
    its iteration count, which is what makes `semLoopOp` a total function.) -/
theorem loop_opcode_bounded (ped : Bool) (op : Nat) (vs vs' : List Int) (g g' : G) (hw : Wf g)
    (h : semLoopOp ped op vs g = some (.ok (vs', g'))) : Step g vs g' :=
  (InterpDataLemmas.semLoopOp_opOK h).2 hw

/-- **the loop counter stays clamped** across every opcode of the correspondence semantics (the loop opcodes above;
    every other opcode leaves the data state alone) -/
theorem loop_counter_invariant (ped : Bool) (op : Nat) (bytes : List Nat) (vs vs' : List Int) (g g' : G) (hw : Wf g)
    (h : semLoops ped op bytes (vs, g) = .ok (vs', g')) : Wf g' := by
  unfold semLoops at h
  simp only [] at h
  split at h
  · rename_i r hr
    subst h
    exact (loop_opcode_bounded ped op vs vs' g g' hw hr).1
  · split at h
    · simp at h
    · simp at h; obtain ⟨_, h2⟩ := h; subst h2; exact hw

/-- the state `Engine::reset` gives every program is well formed (`loop_counter = 1`; contour end points are `u16`) -/
theorem reset_wf (g : G) (hc : ∀ c ∈ g.glyphContours, c < 65536) : Wf { g with loop := 1 } := ⟨by simp, hc⟩

/-- in PEDANTIC mode a point loop needs one stack value per iteration: it cannot run longer than the stack is deep -/
theorem pedantic_loop_le_stack (body : Nat → Except Err Unit) (vs vs' : List Int) (g g' : G)
    (h : counted true vs g body = .ok (vs', g')) : g.loop ≤ vs.length := by
  unfold counted at h
  split at h
  · simp at h
  · rename_i vs1 k hp
    exact popLoop_pedantic body _ _ _ _ _ hp

/-- in NON-pedantic mode an empty stack yields zeros, so ONLY the clamp bounds the loop: with an empty stack and a
    valid point 0 the loop runs its full count -/
theorem nonpedantic_loop_runs_full_count (n : Nat) (k : Nat) :
    popLoop false (fun _ => .ok ()) n [] k = .ok ([], k + n) := by
  induction n generalizing k with
  | zero => rfl
  | succ n ih => unfold popLoop; simp [pop]; rw [ih]; congr 2; omega

/-- DELTAP / DELTAC: the exception count is cut down to half the stack depth before the loop starts -/
theorem delta_count_le_half_stack (ped : Bool) (op : Nat) (n : Int) (vs vs' : List Int) (g g' : G)
    (h : opDelta ped op (n :: vs) g = .ok (vs', g')) : g'.iters ≤ g.iters + vs.length / 2 := by
  unfold opDelta at h
  obtain ⟨n1, vs1, hp, h⟩ := popThen_ok h
  simp [pop] at hp
  obtain ⟨hp1, hp2⟩ := hp
  subst hp1; subst hp2
  simp only [] at h
  split at h
  · simp at h
  · split at h
    · simp at h
    · rename_i vs2 k hk
      obtain ⟨hk2, -⟩ := deltaLoop_res (E := fun _ => True) trivial (fun _ _ _ _ => trivial) hk
      simp at h; obtain ⟨_, h2⟩ := h; subst h2
      simp; omega

/-- `Zone::iup`: linear in the number of points of the glyph zone -/
theorem iup_work_le (touched : Nat → Bool) (n : Nat) (hn : 1 ≤ n) (contours : List Nat) :
    InterpLoops.iup touched n contours 0 0 ≤ 4 * n := by
  have := iup_le touched n hn contours 0 0 (by omega)
  omega

/-- glyph zone of 7 points (3 + 4 phantom), one contour ending at point 2 -/
def gEx : G := { cap := 32, glyphPts := 7, glyphContours := [2] }
example : Wf gEx := ⟨by decide, by decide⟩
/-- `SLOOP 3; SHP[1]` with points 0 1 2 on the stack: three iterations, loop counter back to 1 -/
example : (semLoopOp true 0x33 [0, 1, 2] { gEx with loop := 3 }).map (·.toOption.map (fun r => (r.1, r.2.loop, r.2.iters)))
    = some (some ([], 1, 3)) := by decide +kernel
/-- SLOOP with 2^31 - 1: clamped -/
example : (semLoopOp false 0x17 [2147483647] gEx).map (·.toOption.map (·.2.loop)) = some (some 65535) := by decide +kernel
/-- SLOOP -1: NegativeLoopCounter -/
example : (match semLoopOp false 0x17 [-1] gEx with | some (.error e) => e == E_NEGLOOP | _ => false) = true := by
  decide +kernel
/-- SHP on point 7 of a 7-point zone: InvalidPointIndex; pedantic empty stack: ValueStackUnderflow -/
example : (match semLoopOp true 0x33 [7] gEx with | some (.error e) => e == E_POINT | _ => false) = true := by
  decide +kernel
example : (match semLoopOp true 0x33 [] gEx with | some (.error e) => e == Err.vsUnderflow | _ => false) = true := by
  decide +kernel
/-- MINDEX 2 on [2, a, b, c] (top first): b moves to the top -/
example : (semLoopOp true 0x26 [2, 10, 20, 30] gEx).map (·.toOption.map (·.1)) = some (some [20, 10, 30]) := by decide +kernel
/-- IUP over a 7-point zone with one touched point -/
example : InterpLoops.iup (fun i => i == 1) 7 [2] 0 0 ≤ 28 := by decide +kernel

end FontVerif.C02
