/-
C11 (continued) — the compiled `ItemVariationStore`: writer ∘ reader at byte level.
Model: Model/Ivs.lean (`storeBytes`, `regionListBytes`, `ivdBytes`; `parseStore`) ⇄ write-fonts generated
`FontWrite` for ItemVariationStore / VariationRegionList / ItemVariationData (field programs
`variations_ItemVariationStore_w`, `variations_VariationRegionList_w`, `variations_ItemVariationData_w` in
Gen/WriteProgs.lean, whose field-level read-back is C04's `read_write` / `read_write_under` via
`variations_ItemVariationStore_compat`, `variations_VariationRegionList_compat_under`,
`variations_ItemVariationData_compat_under`) and read-fonts' generated readers + offset resolution.
The packer's placement of the child tables (order, sharing of identical tables) is a universally
quantified parameter `placed`, observed from the real output by the harness.
-/
import FontVerif.Model.Ivs
import FontVerif.Lemmas.IvsLemmas
import FontVerif.Lemmas.Base
namespace FontVerif.C11
open FontVerif.Ivs

theorem At.split {bs : List Nat} {off : Nat} {xs ys : List Nat} (h : At bs off (xs ++ ys)) :
    At bs off xs ∧ At bs (off + xs.length) ys := At.append_iff.mp h

theorem At.length {bs : List Nat} {off : Nat} {xs : List Nat} (h : At bs off xs) :
    off + xs.length ≤ bs.length ∨ xs = [] := by
  obtain ⟨t, ht⟩ := h
  by_cases hx : xs = []
  · right; exact hx
  · left
    have := congrArg List.length ht
    simp only [List.length_append, List.length_drop] at this
    have : 0 < xs.length := List.length_pos_iff.mpr hx
    omega

theorem beValue_at {bs : List Nat} {off n v : Nat} (h : At bs off (beBytes n v)) (hn : 0 < n)
    (hv : v < 256 ^ n) : off + n ≤ bs.length ∧ beValue ((bs.drop off).take n) = v := by
  have hl := h.length
  obtain ⟨t, ht⟩ := h
  rw [beBytes_length] at hl
  refine ⟨hl.resolve_right fun h0 => ?_, ?_⟩
  · have := congrArg List.length h0; simp [beBytes_length] at this; omega
  · rw [← ht, List.take_left' (beBytes_length n v), beValue_beBytes n v hv]

theorem rdU16_at {bs : List Nat} {off v : Nat} (h : At bs off (be2n v)) (hv : v < 65536) :
    rdU16 bs off = some v := by
  have := beValue_at (n := 2) (by simpa [be2n, beBytes, List.range_succ] using h) (by decide) hv
  unfold rdU16; rw [if_pos this.1, this.2]

theorem rdU32_at {bs : List Nat} {off v : Nat} (h : At bs off (be4n v)) (hv : v < 4294967296) :
    rdU32 bs off = some v := by
  have := beValue_at (n := 4) (by simpa [be4n, beBytes, List.range_succ] using h) (by decide) hv
  unfold rdU32; rw [if_pos this.1, this.2]

theorem be2_form (x : Int) : be2 x = be2n (x % 65536).toNat := by
  have h : (x % 65536).toNat < 65536 := by omega
  show [(x % 65536).toNat / 256, (x % 65536).toNat % 256] = [(x % 65536).toNat / 256 % 256, (x % 65536).toNat % 256]
  rw [Nat.mod_eq_of_lt (by omega : (x % 65536).toNat / 256 < 256)]

theorem rdI16_at {bs : List Nat} {off : Nat} {x : Int} (h : At bs off (be2 x)) (hx : inI16 x) :
    rdI16 bs off = some x := by
  rw [be2_form] at h
  have hu : (x % 65536).toNat < 65536 := by omega
  unfold rdI16
  rw [rdU16_at h hu]
  unfold inI16 at hx
  show some _ = some x
  apply congrArg some
  have hux : (((x % 65536).toNat : Nat) : Int) = x % 65536 := by omega
  generalize (x % 65536).toNat = u at *
  simp only []
  split <;> omega

theorem axisBytes_length (a : Int × Int × Int) : (axisBytes a).length = 6 := by
  simp [axisBytes, be2]

theorem rdAxes_at {bs : List Nat} (axes : List (Int × Int × Int)) :
    ∀ (off : Nat), At bs off (axes.flatMap axisBytes) →
      (∀ a ∈ axes, inI16 a.1 ∧ inI16 a.2.1 ∧ inI16 a.2.2) →
      rdAxes bs axes.length off = some axes := by
  induction axes with
  | nil => intro off _ _; rfl
  | cons a rest ih =>
    intro off h hok
    simp only [List.flatMap_cons, axisBytes, At.append_iff, List.length_append, be2_length] at h
    obtain ⟨⟨⟨h1a, h1c⟩, h1b⟩, h2⟩ := h
    have ha := hok a (by simp)
    simp only [List.length_cons, rdAxes]
    rw [rdI16_at h1a ha.1, rdI16_at h1c ha.2.1, rdI16_at h1b ha.2.2,
      ih (off + 6) h2 (fun x hx => hok x (by simp [hx]))]

theorem regionBytes_length (r : List (Int × Int × Int)) : (r.flatMap axisBytes).length = 6 * r.length :=
  flatMap_uniform_length axisBytes 6 r (fun a _ => axisBytes_length a)

theorem rdRegions_at {bs : List Nat} (ac : Nat) (regions : List (List (Int × Int × Int))) :
    ∀ (off : Nat), At bs off (regions.flatMap (fun r => r.flatMap axisBytes)) →
      (∀ r ∈ regions, r.length = ac ∧ ∀ a ∈ r, inI16 a.1 ∧ inI16 a.2.1 ∧ inI16 a.2.2) →
      rdRegions bs ac regions.length off = some regions := by
  induction regions with
  | nil => intro off _ _; rfl
  | cons r rest ih =>
    intro off h hok
    simp only [List.flatMap_cons] at h
    obtain ⟨h1, h2⟩ := h.split
    have hr := hok r (by simp)
    rw [regionBytes_length, hr.1] at h2
    simp only [List.length_cons, rdRegions]
    have := rdAxes_at r off h1 hr.2
    rw [hr.1] at this
    rw [this, ih (off + 6 * ac) h2 (fun x hx => hok x (by simp [hx]))]

theorem rdU16s_at {bs : List Nat} (vs : List Nat) :
    ∀ (off : Nat), At bs off (vs.flatMap be2n) → (∀ v ∈ vs, v < 65536) →
      rdU16s bs vs.length off = some vs := by
  induction vs with
  | nil => intro off _ _; rfl
  | cons v rest ih =>
    intro off h hok
    simp only [List.flatMap_cons] at h
    obtain ⟨h1, h2⟩ := h.split
    rw [be2n_length] at h2
    simp only [List.length_cons, rdU16s]
    rw [rdU16_at h1 (hok v (by simp)), ih (off + 2) h2 (fun x hx => hok x (by simp [hx]))]

/-- what the reader makes of a written subtable: same counts and region indexes; its `data` (all
bytes after the indexes) starts with the written delta sets. -/
def SubExt (st st' : Tent.SubTable) : Prop :=
  st'.itemCount = st.itemCount ∧ st'.wordDeltaCount = st.wordDeltaCount ∧
  st'.regionIndexes = st.regionIndexes ∧ st.data <+: st'.data

def SubOk (st : Tent.SubTable) : Prop :=
  st.itemCount < 65536 ∧ st.wordDeltaCount < 65536 ∧ st.regionIndexes.length < 65536 ∧
  ∀ r ∈ st.regionIndexes, r < 65536

theorem u16s_length (vs : List Nat) : (vs.flatMap be2n).length = 2 * vs.length :=
  flatMap_uniform_length be2n 2 vs (fun _ _ => rfl)

theorem rdSub_at {bs : List Nat} {off : Nat} (st : Tent.SubTable) (h : At bs off (ivdBytes st))
    (hok : SubOk st) : ∃ st', rdSub bs off = some st' ∧ SubExt st st' := by
  simp only [ivdBytes, At.append_iff, List.length_append, be2n_length, u16s_length] at h
  obtain ⟨⟨⟨⟨hic, hwdc⟩, hrc⟩, hris⟩, hdata⟩ := h
  obtain ⟨o1, o2, o3, o4⟩ := hok
  unfold rdSub
  rw [rdU16_at hic o1, rdU16_at hwdc o2, rdU16_at hrc o3]
  simp only []
  rw [rdU16s_at st.regionIndexes (off + 6) hris o4]
  refine ⟨_, rfl, rfl, rfl, rfl, ?_⟩
  rw [Nat.add_assoc]
  exact hdata

theorem flatten_drop_idx (placed : List (List Nat)) : ∀ (i : Nat) (hi : i < placed.length),
    placed.flatten.drop (((placed.take i).map List.length).sum) = placed[i] ++ (placed.drop (i + 1)).flatten := by
  induction placed with
  | nil => intro i hi; simp at hi
  | cons p rest ih =>
    intro i hi
    cases i with
    | zero => simp
    | succ i =>
      simp only [List.take_succ_cons, List.map_cons, List.sum_cons, List.flatten_cons,
        List.getElem_cons_succ, List.drop_succ_cons]
      rw [List.drop_append, List.drop_eq_nil_of_le (by omega), List.nil_append, Nat.add_sub_cancel_left]
      exact ih i (by simpa using hi)

theorem offset_at (header : List Nat) (placed : List (List Nat)) (obj : List Nat)
    (hm : obj ∈ placed) :
    At (header ++ placed.flatten) (offsetIn header.length placed obj) obj := by
  unfold At offsetIn
  have hi : placed.idxOf obj < placed.length := List.idxOf_lt_length_of_mem hm
  rw [List.drop_append, List.drop_eq_nil_of_le (by omega), List.nil_append, Nat.add_sub_cancel_left,
    flatten_drop_idx placed _ hi]
  have : placed[placed.idxOf obj] = obj := List.getElem_idxOf hi
  rw [this]
  exact List.prefix_append _ _

theorem offsetIn_pos (hdr : Nat) (placed : List (List Nat)) (obj : List Nat) (h : 0 < hdr) :
    0 < offsetIn hdr placed obj := by unfold offsetIn; omega

theorem offsetIn_le (hdr : Nat) (placed : List (List Nat)) (obj : List Nat) :
    offsetIn hdr placed obj ≤ hdr + placed.flatten.length := by
  unfold offsetIn
  have : ∀ (l : List (List Nat)) (k : Nat), ((l.take k).map List.length).sum ≤ l.flatten.length := by
    intro l
    induction l with
    | nil => intro k; simp
    | cons a rest ih =>
      intro k
      cases k with
      | zero => simp
      | succ k => simp only [List.take_succ_cons, List.map_cons, List.sum_cons, List.flatten_cons, List.length_append]; have := ih k; omega
  have := this placed (placed.idxOf obj)
  omega

/-- element-wise relation between the written subtables and what the reader returns. -/
def SubsExt : List (Option Tent.SubTable) → List (Option Tent.SubTable) → Prop
  | [], [] => True
  | none :: a, none :: b => SubsExt a b
  | some s :: a, some s' :: b => SubExt s s' ∧ SubsExt a b
  | _, _ => False

def offBytes (offOf : Tent.SubTable → Nat) (st : Option Tent.SubTable) : List Nat :=
  match st with
  | none => be4n 0
  | some st => be4n (offOf st)

theorem rdSubs_at {bs : List Nat} (offOf : Tent.SubTable → Nat) (subs : List (Option Tent.SubTable)) :
    ∀ (off : Nat), At bs off (subs.flatMap (offBytes offOf)) →
      (∀ st, some st ∈ subs → SubOk st ∧ 0 < offOf st ∧ offOf st < 4294967296 ∧
        At bs (offOf st) (ivdBytes st)) →
      ∃ subs', rdSubs bs subs.length off = some subs' ∧ SubsExt subs subs' := by
  induction subs with
  | nil => intro off _ _; exact ⟨[], rfl, trivial⟩
  | cons st rest ih =>
    intro off h hok
    simp only [List.flatMap_cons] at h
    obtain ⟨h1, h2⟩ := h.split
    have l4 : (offBytes offOf st).length = 4 := by cases st <;> simp [offBytes, be4n]
    rw [l4] at h2
    obtain ⟨rest', hr, hrel⟩ := ih (off + 4) h2 (fun s hs => hok s (by simp [hs]))
    simp only [List.length_cons, rdSubs]
    cases st with
    | none =>
      simp only [offBytes] at h1
      rw [rdU32_at h1 (by decide), hr]
      exact ⟨none :: rest', rfl, hrel⟩
    | some st =>
      simp only [offBytes] at h1
      obtain ⟨o1, o2, o3, o4⟩ := hok st (by simp)
      rw [rdU32_at h1 o3]
      obtain ⟨st', hst', hext⟩ := rdSub_at st o4 o1
      have hne : offOf st ≠ 0 := by omega
      cases ho : offOf st with
      | zero => exact absurd ho hne
      | succ k =>
        simp only []
        rw [← ho, hst', hr]
        exact ⟨some st' :: rest', rfl, hext, hrel⟩

/-- well-formedness of the value being written (what write-fonts' validation / the `u16` casts of
the generated writer require). -/
structure StoreOk (axisCount : Nat) (regions : List (List (Int × Int × Int)))
    (subs : List (Option Tent.SubTable)) : Prop where
  hac : axisCount < 65536
  hrc : regions.length < 65536
  hregions : ∀ r ∈ regions, r.length = axisCount ∧ ∀ a ∈ r, inI16 a.1 ∧ inI16 a.2.1 ∧ inI16 a.2.2
  hsc : subs.length < 65536
  hsubs : ∀ st, some st ∈ subs → SubOk st

theorem regionListBytes_length (ac : Nat) (regions : List (List (Int × Int × Int))) :
    (be2n ac).length = 2 ∧ (be2n regions.length).length = 2 := by simp [be2n]

/-- byte level, writer ∘ reader: for every well-formed store value and
EVERY placement of its child tables after the header (any order, identical tables shared or not —
`placed` only has to contain each child), reading the compiled bytes gives back the axis count,
exactly the region list, a NULL entry for every NULL subtable and, for every other subtable, the
same item count / word-delta count / region indexes with `data` starting with the written delta
sets.  Offsets are assumed to fit 32 bits (total size below 4 GiB). -/
theorem store_bytes_roundtrip (ac : Nat) (regions : List (List (Int × Int × Int)))
    (subs : List (Option Tent.SubTable)) (placed : List (List Nat))
    (hok : StoreOk ac regions subs)
    (hplaced : ∀ obj ∈ childObjects ac regions subs, obj ∈ placed)
    (hsize : 8 + 4 * subs.length + placed.flatten.length < 4294967296) :
    ∃ subs', parseStore (storeBytes ac regions subs placed) = some (ac, regions, subs') ∧
      SubsExt subs subs' := by
  let hdrLen := 8 + 4 * subs.length
  let offOf : Tent.SubTable → Nat := fun st => offsetIn hdrLen placed (ivdBytes st)
  let rlOff := offsetIn hdrLen placed (regionListBytes ac regions)
  let header := be2n 1 ++ be4n rlOff ++ be2n subs.length ++ subs.flatMap (offBytes offOf)
  have hsb : storeBytes ac regions subs placed = header ++ placed.flatten := by
    unfold storeBytes
    simp only [header, offOf, rlOff, hdrLen]
    congr 2
  have hoffs : ∀ (l : List (Option Tent.SubTable)), (l.flatMap (offBytes offOf)).length = 4 * l.length :=
    fun l => flatMap_uniform_length _ 4 l (fun a _ => by cases a <;> simp [offBytes, be4n])
  have hhl : header.length = hdrLen := by
    simp only [header, List.length_append, hoffs, hdrLen]
    simp [be2n, be4n]
  generalize hbs : storeBytes ac regions subs placed = bs at *
  have hat0 : At bs 0 (header ++ placed.flatten) := by
    rw [hsb]; exact ⟨[], by simp⟩
  simp only [header, At.append_iff, List.length_append, be2n_length, be4n_length, Nat.zero_add] at hat0
  obtain ⟨⟨⟨⟨_, hrl⟩, hcnt⟩, harr⟩, _⟩ := hat0
  have hpos : 0 < hdrLen := by simp only [hdrLen]; omega
  -- every child table stands at the offset the header gives for it, and that offset is a u32
  have hchild : ∀ obj ∈ childObjects ac regions subs,
      At bs (offsetIn hdrLen placed obj) obj ∧ offsetIn hdrLen placed obj < 4294967296 := by
    intro obj hobj
    have hat := offset_at header placed obj (hplaced obj hobj)
    have := offsetIn_le hdrLen placed obj
    rw [hhl] at hat; rw [hsb]
    exact ⟨hat, by simp only [hdrLen] at *; omega⟩
  obtain ⟨(hrlat : At bs rlOff _), (hrl_lt : rlOff < _)⟩ := hchild (regionListBytes ac regions) (by simp [childObjects])
  simp only [regionListBytes, At.append_iff, List.length_append, be2n_length] at hrlat
  obtain ⟨⟨hrac, hrcnt⟩, hrbody⟩ := hrlat
  obtain ⟨subs', hs', hrel⟩ := rdSubs_at (bs := bs) offOf subs 8 harr (fun st hst =>
    have hc := hchild (ivdBytes st) (by
      simp only [childObjects, List.mem_cons, List.mem_filterMap]
      right; exact ⟨some st, hst, rfl⟩)
    ⟨hok.hsubs st hst, offsetIn_pos _ _ _ hpos, hc.2, hc.1⟩)
  refine ⟨subs', ?_, hrel⟩
  unfold parseStore
  rw [rdU32_at hrl hrl_lt, rdU16_at hcnt hok.hsc]
  simp only []
  rw [rdU16_at hrac hok.hac, rdU16_at hrcnt hok.hrc]
  simp only []
  rw [rdRegions_at ac regions (rlOff + 4) hrbody hok.hregions, hs']

theorem subsExt_get {subs subs' : List (Option Tent.SubTable)} (h : SubsExt subs subs') :
    ∀ (k : Nat),
      (subs[k]? = none → subs'[k]? = none) ∧
      (subs[k]? = some none → subs'[k]? = some none) ∧
      (∀ st, subs[k]? = some (some st) → ∃ st', subs'[k]? = some (some st') ∧ SubExt st st') := by
  induction subs generalizing subs' with
  | nil =>
    cases subs' with
    | nil => intro k; simp
    | cons b bs => exact absurd h (by simp [SubsExt])
  | cons a as ih =>
    cases subs' with
    | nil => cases a <;> exact absurd h (by simp [SubsExt])
    | cons b bs =>
      intro k
      cases a with
      | none =>
        cases b with
        | none =>
          have h' : SubsExt as bs := h
          cases k with
          | zero => simp
          | succ k => simpa using ih h' k
        | some b => exact absurd h (by simp [SubsExt])
      | some a =>
        cases b with
        | none => exact absurd h (by simp [SubsExt])
        | some b =>
          have h' : SubExt a b ∧ SubsExt as bs := h
          cases k with
          | zero =>
            refine ⟨by simp, by simp, fun st hst => ?_⟩
            simp only [List.getElem?_cons_zero, Option.some.injEq] at hst
            subst hst
            exact ⟨b, by simp, h'.1⟩
          | succ k => simpa using ih h'.2 k

/-- `compute_delta` on the reader's view of the compiled bytes equals
`compute_delta` on the store value that was written — for every index and location — provided each
written subtable carries its full delta-set array (`row length × item count` bytes; the builder's
subtables do).  Together with `add_then_build_delta` (Props/C11.lean §7) this takes a delta set from
`add_deltas` through `build`, `dump_table` and `ItemVariationStore::read` to the specified value. -/
theorem delta_from_bytes (ac : Nat) (regions : List (List (Int × Int × Int)))
    (subs : List (Option Tent.SubTable)) (placed : List (List Nat))
    (hok : StoreOk ac regions subs)
    (hplaced : ∀ obj ∈ childObjects ac regions subs, obj ∈ placed)
    (hsize : 8 + 4 * subs.length + placed.flatten.length < 4294967296)
    (hfull : ∀ st, some st ∈ subs →
      Tent.deltaRowLen st.wordDeltaCount st.regionIndexes.length * st.itemCount ≤ st.data.length)
    (outer inner : Nat) (coords : List Int) :
    ∃ subs', parseStore (storeBytes ac regions subs placed) = some (ac, regions, subs') ∧
      Tent.computeDelta regions subs' outer inner coords =
        Tent.computeDelta regions subs outer inner coords := by
  obtain ⟨subs', hp, hrel⟩ := store_bytes_roundtrip ac regions subs placed hok hplaced hsize
  refine ⟨subs', hp, ?_⟩
  unfold Tent.computeDelta
  by_cases hc : coords.isEmpty
  · simp [hc]
  · simp only [hc, Bool.false_eq_true, if_false]
    obtain ⟨g1, g2, g3⟩ := subsExt_get hrel outer
    cases hk : subs[outer]? with
    | none => rw [g1 hk]
    | some o =>
      cases o with
      | none => rw [g2 hk]
      | some st =>
        obtain ⟨st', hst', e1, e2, e3, ⟨suf, e4⟩⟩ := g3 st hk
        rw [hst']
        simp only [e1, e2, e3]
        have hneed := hfull st (List.mem_of_getElem? hk)
        have hlen : st'.data.length = st.data.length + suf.length := by rw [← e4]; simp
        have c1 : ¬ st.data.length < Tent.deltaRowLen st.wordDeltaCount st.regionIndexes.length * st.itemCount := by omega
        have c2 : ¬ st'.data.length < Tent.deltaRowLen st.wordDeltaCount st.regionIndexes.length * st.itemCount := by omega
        simp only [c1, c2, if_false]
        have : st'.data.take (Tent.deltaRowLen st.wordDeltaCount st.regionIndexes.length * st.itemCount) =
            st.data.take (Tent.deltaRowLen st.wordDeltaCount st.regionIndexes.length * st.itemCount) := by
          rw [← e4, List.take_append_of_le_length hneed]
        rw [this]

/-- the implicit-index builder: at most 0xFFFF items (it panics beyond; with ≤ 0xFFFF every item
`k` is stored at `(0, k)`: `builder_retrievable_direct`). -/
theorem direct_item_limit (n : Nat) (sets : List (List (Nat × Int))) :
    (sets.length ≤ 65535 → buildDirectChecked n sets = some (buildDirect n sets)) ∧
    (65535 < sets.length → buildDirectChecked n sets = none) := by
  unfold buildDirectChecked
  constructor
  · intro h; have : ¬ sets.length > 65535 := by omega
    simp [this]
  · intro h; simp [h]

-- non-vacuity: a store with one region and one subtable, region list placed AFTER the subtable
example : (parseStore (storeBytes 1 [[(0, 16384, 16384)]] [some ⟨1, 1, [0], [0, 100]⟩, none]
    [ivdBytes ⟨1, 1, [0], [0, 100]⟩, regionListBytes 1 [[(0, 16384, 16384)]]])).map (fun p => (p.1, p.2.1)) =
    some (1, [[(0, 16384, 16384)]]) := by decide
example : storeBytes 1 [[(0, 16384, 16384)]] [some ⟨1, 1, [0], [0, 100]⟩]
    [regionListBytes 1 [[(0, 16384, 16384)]], ivdBytes ⟨1, 1, [0], [0, 100]⟩] =
    [0, 1, 0, 0, 0, 12, 0, 1, 0, 0, 0, 22, 0, 1, 0, 1, 0, 0, 64, 0, 64, 0, 0, 1, 0, 1, 0, 1, 0, 0, 0, 100] := by
  decide

end FontVerif.C11
