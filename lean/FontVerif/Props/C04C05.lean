/-
C04 ⇄ C05 — the bridge: `TableWriter` / `ObjectStore` build, from a `FontWrite` value, exactly the object graph whose
unfolding is that value; hence (C05) the compiled bytes read back, following every offset, as the value that was written.

Model: Model/TableWriter.lean ⇄ write-fonts/src/write.rs (TableWriter, TableData, add_offset, adjust_offsets,
dump_table), write-fonts/src/offsets.rs (OffsetMarker / NullableOffsetMarker), write-fonts/src/graph.rs (ObjectStore::add,
Graph::from_obj_store).  Vocabulary: `Fields` / `Table` (the value tree: the calls of a `write_into`), `Table.tree`
(what a reader is meant to see), `readTable` (the reader guided by the value's shape only) in
Lemmas/TableWriterDefs.lean; `Inv`, `RepLinks`, `RepTable`, `Fields.Ok` in Lemmas/TableWriter*.lean; `unfold`, `readBack`,
`ObjWF`, `Tree` are C05's (Lemmas/GraphSer.lean).
-/
import FontVerif.Lemmas.TableWriterRead
import FontVerif.Lemmas.FieldNested
import FontVerif.Props.C05
import FontVerif.Props.C04
set_option linter.unusedVariables false
namespace FontVerif.C04C05
open FontVerif.Graph FontVerif.TableWriter

/-- **`ObjectStore::add` shares an id exactly with equal content.**  In every store the writer can reach (`Inv`), adding
an object returns the id of an object `e` already in the store if and only if `e` has the same bytes and the same offset
records (position, width, target id, adjustment — the `type_` tag is not part of the key).  So sharing never merges
different content (⇒), and equal content is always shared (⇐). -/
theorem store_add_dedup_sound (ids : Nat → Nat) (hinj : Function.Injective ids) (w : Writer) (hinv : Inv ids w)
    (d : TData) (hd : CurOK ids d w) (e : TData × Nat) (he : e ∈ w.tables) :
    (w.add ids d).1 = e.2 ↔ (e.1.bytes = d.bytes ∧ e.1.offsets = d.offsets) := by
  rcases add_cases ids w d with ⟨d', id, hm, hb, ho, ha⟩ | ⟨hnone, ha⟩ <;> rw [ha]
  · -- found: ids are unique one way, contents the other
    constructor
    · intro h
      rw [← entry_unique w.tables hinv.nodup d' e.1 e.2 (h ▸ hm) he]
      exact ⟨hb, ho⟩
    · intro h
      have hs : (d', id).1.same e.1 = true := by simp [TData.same, hb, ho, h.1, h.2]
      rw [← content_unique w.tables hinv.distinct (d', id) e hm he hs]
  · -- not found: the id is new, and no stored object has this content
    constructor
    · intro h
      obtain ⟨j, hj, hid⟩ := hinv.drawn e he
      have := hinj (h.trans hid)
      omega
    · intro h
      have := hnone e he
      simp [TData.same, h.1, h.2] at this

/-- non-vacuity: the second of two equal leaves gets the first one's id, a different leaf a new one -/
example :
    let w1 := (Writer.init 0).add (fun k => k + 10) ⟨.other, [1, 2], []⟩
    let w2 := w1.2.add (fun k => k + 10) ⟨.gpos 1, [1, 2], []⟩
    let w3 := w2.2.add (fun k => k + 10) ⟨.other, [1, 3], []⟩
    (w1.1, w2.1, w3.1, w3.2.tables.length) = (10, 10, 11, 2) := by decide +kernel

/-- **Sharing at the level of values**: if one stored object represents two tables (written under whatever adjustments),
the two tables are the same tree for a reader — same bytes outside offset slots, same children, to every depth. -/
theorem shared_id_same_value (ids : Nat → Nat) (w : Writer) (hinv : Inv ids w) (id : Nat) (fs1 fs2 : Fields) (a1 a2 : Nat)
    (h1 : RepTable w.tables id fs1 a1) (h2 : RepTable w.tables id fs2 a2) : fs1.tree a1 = fs2.tree a2 := by
  have hg := fun d id h => graph_obj ids w hinv 0 d id h
  rw [← unfold_table w.tables _ hg id fs1 a1 (depth fs1 + depth fs2 + 1) h1 (by omega),
    ← unfold_table w.tables _ hg id fs2 a2 (depth fs1 + depth fs2 + 1) h2 (by omega)]

/-- **Unfolding the writer's graph from its root gives back the value tree** — for every value tree (any nesting, any
repetition of equal subtrees, empty tables, null and non-null offsets of any width ≥ 2, `adjust_offsets` blocks, padding; every table below 4 GiB: `Table.Ok`),
from ANY reachable prior state of the writer (so: whatever was written — and is shared — before).  C05's `unfold` of the
graph `Graph::from_obj_store` makes of the store, from the id `add_table` returned, is `t.tree` (bytes with the offset
slots blanked, null slots as the zero bytes they are, and recursively the children behind the non-null slots, in slot
order) at every depth beyond the tree's. -/
theorem writer_graph_unfolds_to_value_from (ids : Nat → Nat) (hinj : Function.Injective ids) (w : Writer)
    (hinv : Inv ids w) (t : Table) (hok : t.Ok) (fuel : Nat) (hf : depth t.fields < fuel) :
    unfold (Graph.fromObjects (addTable ids t w).2.tables.objects (addTable ids t w).1) fuel (addTable ids t w).1
      = t.fields.tree w.adj := by
  have hs := addTable_spec ids hinj w hinv t hok
  exact unfold_table _ _ (fun d id h => graph_obj ids _ hs.inv _ d id h) _ _ _ _ hs.rep hf

/-- `TableWriter::make_graph` (fresh writer) -/
theorem writer_graph_unfolds_to_value (ids : Nat → Nat) (hinj : Function.Injective ids) (t : Table) (hok : t.Ok)
    (fuel : Nat) (hf : depth t.fields < fuel) :
    unfold (makeGraph ids t) fuel (makeGraph ids t).root = t.tree :=
  writer_graph_unfolds_to_value_from ids hinj (Writer.init 0) (inv_init ids 0) t hok fuel hf

/-- non-vacuity: root `[7] link16→A link16→A null16` with `A = [1,2] link32→[9]`: the two equal children are ONE object
(3 objects in all), and the unfolding shows the child twice -/
example :
    (makeGraph id ⟨.other, .bytes [7] (.link 2 .other (.bytes [1, 2] (.link 4 .other (.bytes [9] .nil) .nil))
      (.link 2 .other (.bytes [1, 2] (.link 4 .other (.bytes [9] .nil) .nil)) (.null 2 .nil)))⟩).objects
      = [(0, ⟨1, [9], []⟩), (1, ⟨6, [1, 2, 255, 255, 255, 255], [⟨2, 4, 0, 0⟩]⟩),
         (2, ⟨7, [7, 255, 255, 255, 255, 0, 0], [⟨1, 2, 1, 0⟩, ⟨3, 2, 1, 0⟩]⟩)] := by decide +kernel

example :
    unfold (makeGraph id ⟨.other, .bytes [7] (.link 2 .other (.bytes [1, 2] (.link 4 .other (.bytes [9] .nil) .nil))
      (.link 2 .other (.bytes [1, 2] (.link 4 .other (.bytes [9] .nil) .nil)) (.null 2 .nil)))⟩) 3 2
      = Tree.node [7, 0, 0, 0, 0, 0, 0] [Tree.node [1, 2, 0, 0, 0, 0] [Tree.node [9] []],
          Tree.node [1, 2, 0, 0, 0, 0] [Tree.node [9] []]] := by rfl

/-- **Every graph the writer builds satisfies C05's input assumptions** (`ObjWF` etc.):
* every object is as `TableData` builds it — offset widths 2/3/4, every offset field inside the object's bytes, the
  fields of one object pairwise disjoint (`ObjWF`);
* object ids are distinct; every offset targets an object of the graph; the graph is acyclic (a rank strictly increases
  along every offset);
* the root is an object. -/
theorem writer_graph_wellformed (ids : Nat → Nat) (hinj : Function.Injective ids) (w : Writer) (hinv : Inv ids w)
    (t : Table) (hok : t.Ok) :
    let s := (addTable ids t w).2.tables
    let root := (addTable ids t w).1
    (∀ id o, (Graph.fromObjects s.objects root).objects.find? id = some o → ObjWF o) ∧
    s.objects.keys.Nodup ∧
    (∀ kv ∈ s.objects, ∀ l ∈ kv.2.links, l.target ∈ s.objects.keys) ∧
    (∃ rank : Nat → Nat, ∀ kv ∈ s.objects, ∀ l ∈ kv.2.links, rank kv.1 < rank l.target) ∧
    root ∈ s.objects.keys := by
  obtain ⟨hinv', _, _, _, ⟨d, hm, _, _⟩, _⟩ := addTable_spec ids hinj w hinv t hok
  exact ⟨graph_objWF ids _ hinv' _, objects_keys_nodup _, graph_closed ids _ hinv', graph_acyclic ids hinj _ hinv',
    objects_mem_keys _ hinv'.nodup d _ hm⟩

/-- **The packer's sorts never hit their cycle panic on a graph the writer built.**  The graph `TableWriter::make_graph`
builds for any value tree with `Table.Ok` has distinct ids, is closed under its offsets, acyclic, and every object is reachable from the
root (nothing is written that is not a descendant of the root) — the hypotheses of C05's `sorts_return_on_acyclic`, all
proved here — so `sort_kahn` and `sort_shortest_distance` return on it (no "cycle or something?" panic, loops within
their budgets). -/
theorem writer_graph_sorts_return (ids : Nat → Nat) (hinj : Function.Injective ids) (t : Table) (hok : t.Ok) :
    (∀ k ∈ (makeGraph ids t).objects.keys, Reach (makeGraph ids t) (makeGraph ids t).root k) ∧
    (∃ g', sortKahn (makeGraph ids t) = some g') ∧ (∃ g', sortShortest (makeGraph ids t) = some g') := by
  have hs := addTable_spec ids hinj (Writer.init 0) (inv_init ids 0) t hok
  have hinv := hs.inv
  have hreach : ∀ k ∈ (addTable ids t (Writer.init 0)).2.tables.objects.keys,
      Reach (Graph.fromObjects (addTable ids t (Writer.init 0)).2.tables.objects (addTable ids t (Writer.init 0)).1)
        (addTable ids t (Writer.init 0)).1 k := by
    intro k hk
    obtain ⟨kv, hkv, rfl⟩ := List.mem_map.mp hk
    obtain ⟨d, hd, _⟩ := objects_mem _ kv hkv
    exact reach_of_sreach ids _ hinv _ (hs.reach (d, kv.1) hd (fun h => nomatch h))
  exact ⟨hreach, C05.sorts_return_on_acyclic _ _ (objects_keys_nodup _) (graph_closed ids _ hinv) hreach
    (graph_acyclic ids hinj _ hinv)⟩

/-- non-vacuity of `Table.Ok` (and of everything that assumes it) -/
example : (⟨.other, .bytes [7] (.link 2 .other (.bytes [1, 2] (.link 4 .other (.bytes [9] .nil) .nil)) (.null 2 .nil))⟩ :
    Table).Ok := by
  simp [Table.Ok, Fields.Ok, TableWriter.flat, U32]

/-- **The positional form**: where the nested reader goes, the output holds the tables themselves.  If `dump_table`'s
pipeline returns `out` for `t`, then `out` holds at offset 0 a byte-for-byte copy of the root table outside its non-null
offset slots (the whole table lies inside `out`), every non-null slot holds the big-endian encoding, in its width, of a
value `v` that fits the width, and at `position(parent) + adjustment + v` the same is true of the child, recursively
(`TableAt` / `ReadsAs`, Lemmas/TableWriterRead.lean). -/
theorem compile_places_nested (ids : Nat → Nat) (hinj : Function.Injective ids) (t : Table) (hok : t.Ok)
    (fresh : List Nat) (hnd : fresh.Nodup) (hfr : ∀ j, ids j ∉ fresh) (out : List Nat)
    (h : dumpTable ids t fresh = some (some out)) : TableAt out 0 t.fields 0 := by
  obtain ⟨⟨d, hm, hb, hc⟩, hroot, hclosed, hfresh, hwf, hg⟩ := makeGraph_ready ids hinj t hok fresh hnd hfr
  obtain ⟨P, hr, hP⟩ := dump_placed (makeGraph ids t) fresh out rfl hroot hclosed hfresh hwf h
  obtain ⟨hcopy, hkids⟩ := hP _ _ hr
  have hobj : (makeGraph ids t).obj (makeGraph ids t).root = toObj d := hg d _ hm
  rw [hobj] at hcopy hkids
  exact ⟨copyAt_skel out _ 0 d t.fields 0 hb hc hcopy, readsAs_rep out _ _ hg P hP t.fields 0 0 0 d.offsets hc hkids⟩

/-- **A compiled table reads back, through every offset, as the table that was written.**  If `dump_table`'s pipeline
(`TableWriter::make_graph`, `pack_objects`, `serialize` only on success) returns bytes `out` for the value tree `t`, then
the reader that is guided only by the SHAPE of `t` — field lengths, where the offset slots are, their widths and
adjustments — and that, for every non-null slot of a table starting at `hd`, takes the big-endian number `v` stored in
the slot, goes to `hd + adjustment + v` and reads the child there recursively, sees exactly `t`: every byte outside the
non-null slots as written (null slots read 0), and behind every non-null slot the child that was written, to every
depth.  (So the stored value of a slot is `position(child) − (position(parent) + adjustment)`.)  For every value tree that satisfies
`Table.Ok` (offset slots at least two bytes wide, every table below 4 GiB), whatever sharing the store found and whatever reordering / duplication the packer did.  `fresh`: the ids the packer may
draw, distinct from each other and from the writer's. -/
theorem compile_reads_back_nested (ids : Nat → Nat) (hinj : Function.Injective ids) (t : Table) (hok : t.Ok)
    (fresh : List Nat) (hnd : fresh.Nodup) (hfr : ∀ j, ids j ∉ fresh) (out : List Nat)
    (h : dumpTable ids t fresh = some (some out)) :
    readTable out 0 t = t.tree :=
  readFields_of_tableAt out 0 t.fields 0 (compile_places_nested ids hinj t hok fresh hnd hfr out h)

/-- non-vacuity: the example tree compiles (the shared child `A` is written once, at 7; its leaf at 13) -/
example :
    dumpTable id ⟨.other, .bytes [7] (.link 2 .other (.bytes [1, 2] (.link 4 .other (.bytes [9] .nil) .nil))
      (.link 2 .other (.bytes [1, 2] (.link 4 .other (.bytes [9] .nil) .nil)) (.null 2 .nil)))⟩ []
      = some (some [7, 0, 7, 0, 7, 0, 0, 1, 2, 0, 0, 0, 6, 9]) := by decide +kernel

/-- non-vacuity: an `adjust_offsets(4, …)` block: the stored offset is relative to byte 4 of the parent -/
example :
    dumpTable id ⟨.other, .bytes [7, 7, 7, 7] (.adjust 4 (.link 2 .other (.bytes [9] .nil) .nil) .nil)⟩ []
      = some (some [7, 7, 7, 7, 0, 2, 9]) := by decide +kernel

/-- **failure returns no bytes** (restating C05 for the composed pipeline): if packing fails, `dump_table` yields the
error and the theorem above has nothing to say -/
theorem compile_fail_no_bytes (ids : Nat → Nat) (t : Table) (fresh fresh' : List Nat) (g' : Graph)
    (h : packObjects (makeGraph ids t) fresh = some (false, g', fresh')) : dumpTable ids t fresh = some none :=
  C05.dump_fail_no_bytes _ g' fresh fresh' h

section dsl
open FontVerif.Field FontVerif.FieldNested

/-- **`read_write` lifted to nested tables.**  Take a generated (writer program `ws`, reader layout `rs`) pair of C04
(`compatU as ws rs`), declare which of its scalar `.field` statements are offsets (`slots`, checked against the program
by `slotOK`), and a value of it: the scalars / arrays `o` and, for every offset field, the child subtable or null
(`kids`).  `emitN` is its `write_into` on the `TableWriter` — offset statements call `write_offset` / write a null — and
`fs` the resulting value tree.  Wherever the compiled output `out` holds that table (`TableAt out hd fs 0` — at 0 for the
root by `compile_places_nested`, and at the position this very theorem gives for a child), the generated reader run on
`out` at `hd` (`FontRead::read(data.split_off(hd))`)
* returns for every field that is not an offset exactly what was written (`AgreeOff`: scalars, constants, counts,
  arrays, version-gated fields present exactly when the written version says so) and consumes exactly the table's bytes;
* for every offset field that is present: a null child reads 0; for a non-null child `c`, `resolve` — the child's data
  starts at `hd` + the offset read — lands on the child table: `TableAt out (hd + offset) c 0`, so the child's own reader
  (this theorem again, if it is a DSL table) reads the child that was written.
Proved from `read_write_args` (C04) applied to the owned value whose offset scalars are the offsets the packer stored
(`patchObj`), and the positional read-back of C05 + the writer bridge.  Hypotheses: the hand-written `compute_*` fields do
not depend on offset VALUES (`hext`); the pair's named count/length assumptions hold for the value whatever its offset
scalars are (`hassume`; vacuous for the 203 unconditional pairs); the table is below 4 GiB.

PARTIAL in this: `Slots` declares offset fields that are SCALAR statements (`self.f.write_into(writer)` of an
`OffsetMarker` / `NullableOffsetMarker` field); this theorem and `nested_read_write_root_partial` speak of those only.
Not proved: the property for offsets that are elements `(i, c)` of an array field (`Vec<OffsetMarker<T>>`, records with
offset columns: LookupList, ScriptList, Coverage-offset arrays …).  It would need `kids : field id → row → column →
Option child`, an `emitN` that emits `null` / `link` for those cells inside the array's bytes, and the cell-wise analogue
of `emitN_emit` through `emitRecs` / `emitRecsV`.  For such tables the offsets stay scalars-in-arrays as in Props/C04.lean,
and what is proved about them is the tree-level `compile_reads_back_nested` / `compile_places_nested` (which hold for
every value tree with `Table.Ok`, arrays of offsets included). -/
theorem nested_read_write_partial (ext : Ext) (as : List Assume) (ws : List WF) (rs : List RF) (o : Field.Obj)
    (slots : Slots) (kids : Kids) (args : View) (out : List Nat) (hd : Nat) (fs : Fields) (vN : View)
    (hc : compatU as ws rs = true) (hs : slotOK slots ws = true)
    (he : emitN ext o slots kids ws args = some (fs, vN))
    (hext : ∀ O' : Field.Obj, (∀ f, slotW slots f = none → O'.get f = o.get f) → ∀ k, ext k O' = ext k o)
    (hassume : ∀ (O' : Field.Obj) (view' : View), (∀ f, slotW slots f = none → O'.get f = o.get f) →
      AgreeOff slots vN view' → ∀ x ∈ as, x.holds O' view')
    (hat : TableAt out hd fs 0) (hsmall : lenN fs < U32)
    (hr : usesRest rs = true → hd + lenN fs = out.length) :
    ∃ view', parse rs args (out.drop hd) = some (view', out.drop (hd + lenN fs)) ∧ AgreeOff slots vN view' ∧
      KidsAt slots kids out hd ws view' := by
  have hwf := C04.compatAux_wfW as ws rs [] hc
  have hsimple := emitN_simple ext o slots kids ws args fs vN he hs
  have hseg := segAgrees_of_tableAt out hd fs hsimple hsmall hat
  obtain ⟨vA, hag, hkids, -, hrun⟩ := emitN_emit ext o slots kids out hd ws [] args args 0 fs vN he hwf hs
    (AgreeOff.refl slots args) hseg
  have hO : ∀ f, slotW slots f = none → (patchObj slots o vA).get f = o.get f :=
    fun f hf => patch_get_nonslot slots o vA f hf
  have hemit := hrun (patchObj slots o vA) hO (hext _ hO) (fun w _ hsl x hl => patch_get_slot slots o vA w.id x hsl hl)
  simp only [List.drop_zero] at hemit
  have hrw := C04.read_write_args ext as ws rs (patchObj slots o vA) args ((out.drop hd).take (lenN fs))
    ((out.drop hd).drop (lenN fs)) vA hc (hassume _ vA hO hag) hemit (by
      intro hu
      rw [List.drop_drop, List.drop_eq_nil_iff]
      have := hr hu
      omega)
  rw [List.take_append_drop, List.drop_drop] at hrw
  exact ⟨vA, hrw, hag, hkids⟩

/-- the root table of a compiled value: `nested_read_write_partial` at offset 0 of what `dump_table` returned -/
theorem nested_read_write_root_partial (ext : Ext) (as : List Assume) (ws : List WF) (rs : List RF) (o : Field.Obj)
    (slots : Slots) (kids : Kids) (args : View) (ty : TType) (fs : Fields) (vN : View)
    (ids : Nat → Nat) (hinj : Function.Injective ids) (fresh : List Nat) (hnd : fresh.Nodup) (hfr : ∀ j, ids j ∉ fresh)
    (out : List Nat)
    (hc : compatU as ws rs = true) (hs : slotOK slots ws = true)
    (he : emitN ext o slots kids ws args = some (fs, vN))
    (hext : ∀ O' : Field.Obj, (∀ f, slotW slots f = none → O'.get f = o.get f) → ∀ k, ext k O' = ext k o)
    (hassume : ∀ (O' : Field.Obj) (view' : View), (∀ f, slotW slots f = none → O'.get f = o.get f) →
      AgreeOff slots vN view' → ∀ x ∈ as, x.holds O' view')
    (hok : (⟨ty, fs⟩ : Table).Ok)
    (hr : usesRest rs = true → lenN fs = out.length)
    (h : dumpTable ids ⟨ty, fs⟩ fresh = some (some out)) :
    ∃ view', parse rs args out = some (view', out.drop (lenN fs)) ∧ AgreeOff slots vN view' ∧
      KidsAt slots kids out 0 ws view' := by
  have hat := compile_places_nested ids hinj ⟨ty, fs⟩ hok fresh hnd hfr out h
  have hsimple := emitN_simple ext o slots kids ws args fs vN he hs
  have hsmall : lenN fs < U32 := by
    have := hok.1
    simp only [] at this
    rw [flat_simple fs 0 hsimple] at this
    exact this
  have := nested_read_write_partial ext as ws rs o slots kids args out 0 fs vN hc hs he hext hassume hat hsmall
    (by intro hu; rw [Nat.zero_add]; exact hr hu)
  simpa using this

open FontVerif.Gen.WriteProgs in
/-- instance: the generated `Gdef` pair with all six offsets real -/
theorem gdef_nested_read_write (ext : Ext) (o : Field.Obj) (kids : Kids) (out : List Nat) (hd : Nat) (fs : Fields)
    (vN : View)
    (he : emitN ext o gdefSlots kids gdef_Gdef_w [] = some (fs, vN))
    (hext : ∀ O' : Field.Obj, (∀ f, slotW gdefSlots f = none → O'.get f = o.get f) → ∀ k, ext k O' = ext k o)
    (hat : TableAt out hd fs 0) (hsmall : lenN fs < U32) :
    ∃ view', parse gdef_Gdef_r [] (out.drop hd) = some (view', out.drop (hd + lenN fs)) ∧
      AgreeOff gdefSlots vN view' ∧ KidsAt gdefSlots kids out hd gdef_Gdef_w view' :=
  nested_read_write_partial ext [] _ _ o gdefSlots kids [] out hd fs vN gdef_Gdef_compat (by decide) he hext
    (fun _ _ _ _ x hx => by cases hx) hat hsmall (fun h => absurd h (by decide))

/-- non-vacuity: a GDEF 1.0 with a glyph class def `[0,1,0,5,0,0]` and a lig caret list `[0,2,0,0]`, the other two
offsets null; `compute_version` = 1.0.  The nested writer produces the value tree, the pipeline compiles it, and the
generated reader finds the children where the offsets say. -/
example :
    emitN (fun _ _ => 65536) [] gdefSlots
        (fun f => if f = 1 then some (.other, .bytes [0, 1, 0, 5, 0, 0] .nil)
                  else if f = 3 then some (.other, .bytes [0, 2, 0, 0] .nil) else none)
        FontVerif.Gen.WriteProgs.gdef_Gdef_w []
      = some (.bytes [0, 1, 0, 0] (.link 2 .other (.bytes [0, 1, 0, 5, 0, 0] .nil) (.null 2
          (.link 2 .other (.bytes [0, 2, 0, 0] .nil) (.null 2 .nil)))),
        [(6, .absent), (5, .absent), (4, .num 0), (3, .num 65535), (2, .num 0), (1, .num 65535), (0, .num 65536)]) ∧
    dumpTable id ⟨.other, .bytes [0, 1, 0, 0] (.link 2 .other (.bytes [0, 1, 0, 5, 0, 0] .nil) (.null 2
          (.link 2 .other (.bytes [0, 2, 0, 0] .nil) (.null 2 .nil))))⟩ []
      = some (some [0, 1, 0, 0, 0, 12, 0, 0, 0, 18, 0, 0, 0, 1, 0, 5, 0, 0, 0, 2, 0, 0]) ∧
    parse FontVerif.Gen.WriteProgs.gdef_Gdef_r [] [0, 1, 0, 0, 0, 12, 0, 0, 0, 18, 0, 0, 0, 1, 0, 5, 0, 0, 0, 2, 0, 0]
      = some ([(6, .absent), (5, .absent), (4, .num 0), (3, .num 18), (2, .num 0), (1, .num 12), (0, .num 65536)],
          [0, 1, 0, 5, 0, 0, 0, 2, 0, 0]) := by
  refine ⟨by decide +kernel, by decide +kernel, by decide +kernel⟩

/-- non-vacuity of the theorem itself: every hypothesis of `nested_read_write_root_partial` holds for that GDEF, so the theorem
yields the read-back (here only its shape is kept) -/
example :
    ∃ view', parse FontVerif.Gen.WriteProgs.gdef_Gdef_r []
        [0, 1, 0, 0, 0, 12, 0, 0, 0, 18, 0, 0, 0, 1, 0, 5, 0, 0, 0, 2, 0, 0] = some (view',
          List.drop 12 [0, 1, 0, 0, 0, 12, 0, 0, 0, 18, 0, 0, 0, 1, 0, 5, 0, 0, 0, 2, 0, 0]) := by
  obtain ⟨view', h, _, _⟩ := nested_read_write_root_partial (fun _ _ => 65536) [] FontVerif.Gen.WriteProgs.gdef_Gdef_w
    FontVerif.Gen.WriteProgs.gdef_Gdef_r [] gdefSlots
    (fun f => if f = 1 then some (.other, .bytes [0, 1, 0, 5, 0, 0] .nil)
              else if f = 3 then some (.other, .bytes [0, 2, 0, 0] .nil) else none)
    [] .other
    (.bytes [0, 1, 0, 0] (.link 2 .other (.bytes [0, 1, 0, 5, 0, 0] .nil) (.null 2
      (.link 2 .other (.bytes [0, 2, 0, 0] .nil) (.null 2 .nil)))))
    [(6, .absent), (5, .absent), (4, .num 0), (3, .num 65535), (2, .num 0), (1, .num 65535), (0, .num 65536)]
    id (fun _ _ h => h) [] List.nodup_nil (fun _ h => by cases h)
    [0, 1, 0, 0, 0, 12, 0, 0, 0, 18, 0, 0, 0, 1, 0, 5, 0, 0, 0, 2, 0, 0]
    FontVerif.Gen.WriteProgs.gdef_Gdef_compat (by decide) (by decide +kernel) (fun _ _ _ => rfl)
    (fun _ _ _ _ x hx => by cases hx) (by simp [Table.Ok, Fields.Ok, TableWriter.flat, U32])
    (fun h => absurd h (by decide)) (by decide +kernel)
  exact ⟨view', h⟩

end dsl

end FontVerif.C04C05
