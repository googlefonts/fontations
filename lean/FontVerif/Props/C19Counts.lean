/-
C19 — the recorded `IntersectionInfo` IS the size of the set intersections, and the selected
invalidating patch has the largest real intersection.
Helper lemmas: Lemmas/PatchMapCount.lean (canonical range lists, `RangeSet::insert`, cardinality,
uniqueness of the canonical list, the wrapping design-space sum; candidates traced back to format-2
entries).

Vocabulary:
* `rMem c s` — `c` is a member of the range list `s` (`IntSet::contains` / `RangeSet` membership);
* `Canon s` — `s` is what `IntSet::iter_ranges` / `RangeSet::iter` yield: non-degenerate ranges,
  ascending, neither overlapping nor adjacent (`rsCanonical s = true ↔ Canon s`);
* `spanSum s = Σ (end − start)` — total length of a range list in raw 16.16 units;
  `wrapI32` — reduction to `i32` (`Fixed` `+` / `−` are `wrapping_add` / `wrapping_sub`);
* `sizeInfo e d i = IntersectionInfo::from_subset(e.subset_definition.intersection(d), i)`;
* `IsF2Offer tag m d u i e` — `u` is the uri that format-2 mapping table `m` (the font's `tag` table)
  offers for its decoded entry number `i`, which is `e`.
-/
import FontVerif.Lemmas.PatchMapCount
import FontVerif.Lemmas.PatchMapF1
import FontVerif.Props.C19
namespace FontVerif.C19
open FontVerif.PatchMap FontVerif.PatchGroup FontVerif.UriTemplate

/-- `IntSet::intersect` /
`a.intersection(b).collect::<RangeSet>()` (model `rInter`), for ANY two range lists: the result is
canonical, its members are exactly the common members, and it is the ONLY canonical list with these
members — so everything computed from it (`len`, total length) is a function of the set
intersection alone. -/
theorem range_intersection_is_the_set_intersection (a b : Ranges) :
    Canon (rInter a b) ∧ (∀ c, rMem c (rInter a b) = true ↔ rMem c a = true ∧ rMem c b = true) ∧
    ∀ rs, Canon rs → (∀ c, rMem c rs = true ↔ rMem c a = true ∧ rMem c b = true) → rs = rInter a b := by
  obtain ⟨h1, h2⟩ := rInter_spec a b
  refine ⟨h1, h2, fun rs hc hm => canon_unique rs _ hc h1 (fun c => by rw [hm c, h2 c])⟩

/-- `IntSet::len` of a canonical list (`rCount`) is the length
of every duplicate-free enumeration of its member set; the total length `spanSum` is the number of
members minus the number of ranges (the Lebesgue measure of the union of the closed intervals). -/
theorem canonical_count_is_cardinality (s : Ranges) (hc : Canon s) :
    (∀ l : List Int, l.Nodup → (∀ c, c ∈ l ↔ rMem c s = true) → (rCount s).toNat = l.length) ∧
    spanSum s = rCount s - s.length := by
  refine ⟨fun l hn hm => rCount_card s hc l hn hm, ?_⟩
  clear hc
  induction s with
  | nil => simp [spanSum, rCount]
  | cons r rest ih => rw [spanSum, rCount_cons, ih, List.length_cons]; omega

/-- For every entry subset definition `e`, requested
definition `d` and entry order: the `IntersectionInfo` recorded for an invalidating patch
(`IntersectionInfo::from_subset(e.intersection(d), order)`) consists of

* code points: the CARDINALITY of `e.codepoints ∩ d.codepoints` (length of every duplicate-free
  enumeration of the common members).  No wildcard rule here: an entry without code points records 0;
* layout tags: the cardinality of the tag intersection (for a duplicate-free entry tag list); `All` on one side gives the other side's
  size, `All ∩ All` gives `usize::MAX` (exactly what `FeatureSet::len` returns);
* design space: `All ∩ All` records nothing; `All` on one side records the other side's axes; two
  explicit spaces record, for every axis of the definition that the entry also has and where the two
  segment sets share a point, the total length of the intersection reduced to `i32`
  (`rInter` = THE canonical list of the set intersection: `range_intersection_is_the_set_intersection`);
* the entry order, unchanged. -/
theorem intersection_info_counts_exact (e d : SubsetDef) (order : Nat) :
    let info := IntersectionInfo.fromSubset (e.intersection d) order
    (∀ l : List Int, l.Nodup → (∀ c, c ∈ l ↔ rMem c e.cps = true ∧ rMem c d.cps = true) →
        info.cps = l.length) ∧
    (match e.feats, d.feats with
      | .set a, .set b => a.Nodup →
          ∀ l : List Nat, l.Nodup → (∀ t, t ∈ l ↔ t ∈ a ∧ t ∈ b) → info.tags = l.length
      | .set a, .all => info.tags = a.length
      | .all, .set b => info.tags = b.length
      | .all, .all => info.tags = 18446744073709551615) ∧
    info.ds = (match e.ds, d.ds with
      | .all, .all => []
      | .all, .ranges r => r.map fun p => (p.1, wrapI32 (spanSum p.2))
      | .ranges r, .all => r.map fun p => (p.1, wrapI32 (spanSum p.2))
      | .ranges er, .ranges dr => dr.filterMap fun p =>
          match axLookup p.1 er with
          | none => none
          | some es =>
            if (rInter p.2 es).isEmpty then none else some (p.1, wrapI32 (spanSum (rInter p.2 es)))) ∧
    info.order = order := by
  refine ⟨?_, ?_, ?_, rfl⟩
  · intro l hn hm
    obtain ⟨h1, h2⟩ := rInter_spec e.cps d.cps
    exact rCount_card _ h1 l hn (fun c => by rw [hm c, h2 c])
  · cases he : e.feats <;> cases hd : d.feats <;>
      simp only [IntersectionInfo.fromSubset, SubsetDef.intersection, he, hd, FeatureSet.len]
    intro ha l hn hm
    exact tagInter_card _ _ ha l hn hm
  · cases he : e.ds <;> cases hd : d.ds <;>
      simp only [IntersectionInfo.fromSubset, SubsetDef.intersection, he, hd, dsIntersection,
        designSpaceSize, axisSize_eq]
    rw [List.map_filterMap]
    congr 1
    funext p
    cases axLookup p.1 _ with
    | none => rfl
    | some es =>
      by_cases hx : (rInter p.2 es).isEmpty = true <;> simp [hx]

/-- For a font whose mapping tables are format 2
(or absent): every invalidating patch of the group `select_next_patches` returns comes from a decoded,
un-ignored, matching entry `e` (number `i`) of its table whose recorded info is
`sizeInfo e d i` — by `intersection_info_counts_exact` the REAL sizes of
`e ∩ d` (code points, layout tags, design space) — and no competing offered entry `e'` (number `j`)
has a larger real intersection, nor the same one at an earlier position:
`¬ infoLt (sizeInfo e d i) (sizeInfo e' d j)`.
Competitors: fully invalidating — the fully invalidating offers of both tables; partially
invalidating — those of the same table (for 'IFTX': except offers expanding to the uri already chosen
for 'IFT '). -/
theorem selected_invalidating_has_max_intersection (ift iftx : MapTable) (hf1 : notF1 ift)
    (hf2 : notF1 iftx) (d : SubsetDef) (G : Group) (h : selectNext ift iftx d = .ok (some G)) :
    (∀ p, G = .full p →
      ∃ tag i e u, IsF2Offer tag (match tag with | .ift => ift | .iftx => iftx) d u i e ∧
        u.enc = .tkFull ∧ toPatchInfo u = some p ∧ u.info = sizeInfo e d i ∧
        ∀ tag' j e' v, IsF2Offer tag' (match tag' with | .ift => ift | .iftx => iftx) d v j e' →
          v.enc = .tkFull → ¬ infoLt (sizeInfo e d i) (sizeInfo e' d j)) ∧
    (∀ p B, G = .mixed (.partialInv p) B →
      ∃ i e u, IsF2Offer .ift ift d u i e ∧ u.enc = .tkPartial ∧ toPatchInfo u = some p ∧
        u.info = sizeInfo e d i ∧
        ∀ j e' v, IsF2Offer .ift ift d v j e' → v.enc = .tkPartial →
          ¬ infoLt (sizeInfo e d i) (sizeInfo e' d j)) ∧
    (∀ A q, G = .mixed A (.partialInv q) →
      ∃ i e u, IsF2Offer .iftx iftx d u i e ∧ u.enc = .tkPartial ∧ toPatchInfo u = some q ∧
        u.info = sizeInfo e d i ∧
        ∀ j e' v, IsF2Offer .iftx iftx d v j e' → v.enc = .tkPartial →
          (∀ p, A = .partialInv p → uriString v ≠ some p.uri) →
          ¬ infoLt (sizeInfo e d i) (sizeInfo e' d j)) := by
  obtain ⟨cands, hc, hcase⟩ := selectNext_cases h
  rcases hcase with ⟨_, hg⟩ | ⟨_, hne, G', hg, hsel⟩
  · cases hg
  cases hg
  obtain ⟨a, b, ha, hb, rfl⟩ := intersectingPatches_ok.1 hc
  have hfa := intersectTable_from ha
  have hfb := intersectTable_from hb
  have hma := mem_intersectTable_f2 hf1 ha
  have hmb := mem_intersectTable_f2 hf2 hb
  obtain ⟨mF, mA, mB⟩ := invalidating_choice_is_max _ _ _ _ hsel
  refine ⟨?_, ?_, ?_⟩
  · intro p hp
    obtain ⟨u, hu, hue, hpi, hmax⟩ := mF p hp
    have hinv : u.enc.isInvalidating = true := by rw [hue]; rfl
    have comp : ∀ i e, ∀ tag' j e' v,
        IsF2Offer tag' (match tag' with | .ift => ift | .iftx => iftx) d v j e' →
        v.enc = .tkFull → u.info = sizeInfo e d i → ¬ infoLt (sizeInfo e d i) (sizeInfo e' d j) := by
      intro i e tag' j e' v hv hve hui
      have hvinv : v.enc.isInvalidating = true := by rw [hve]; rfl
      have hvc : v ∈ a ++ b := by
        cases tag' with
        | ift => exact List.mem_append_left _ ((hma v).2 ⟨j, e', hv⟩)
        | iftx => exact List.mem_append_right _ ((hmb v).2 ⟨j, e', hv⟩)
      have := hmax v hvc hve
      rwa [hui, isF2Offer_info hv hvinv] at this
    rcases List.mem_append.1 hu with hu' | hu'
    · obtain ⟨i, e, hoff⟩ := (hma u).1 hu'
      have hui := isF2Offer_info hoff hinv
      exact ⟨.ift, i, e, u, hoff, hue, hpi, hui, fun tag' j e' v hv hve => comp i e tag' j e' v hv hve hui⟩
    · obtain ⟨i, e, hoff⟩ := (hmb u).1 hu'
      have hui := isF2Offer_info hoff hinv
      exact ⟨.iftx, i, e, u, hoff, hue, hpi, hui, fun tag' j e' v hv hve => comp i e tag' j e' v hv hve hui⟩
  · intro p B hp
    obtain ⟨u, hu, hue, hucompat, hpi, hmax⟩ := mA p B hp
    have hinv : u.enc.isInvalidating = true := by rw [hue]; rfl
    have hua : u ∈ a := by
      rcases List.mem_append.1 hu with hu' | hu'
      · exact hu'
      · exact absurd (hucompat.symm.trans (hfb u hu').2) hne
    obtain ⟨i, e, hoff⟩ := (hma u).1 hua
    have hui := isF2Offer_info hoff hinv
    refine ⟨i, e, u, hoff, hue, hpi, hui, ?_⟩
    intro j e' v hv hve
    have hvinv : v.enc.isInvalidating = true := by rw [hve]; rfl
    have hva : v ∈ a := (hma v).2 ⟨j, e', hv⟩
    have := hmax v (List.mem_append_left _ hva) hve (hfa v hva).2
    rwa [hui, isF2Offer_info hv hvinv] at this
  · intro A q hq
    obtain ⟨u, hu, hue, hunot, hucompat, hpi, hmax⟩ := mB A q hq
    have hinv : u.enc.isInvalidating = true := by rw [hue]; rfl
    have hub : u ∈ b := by
      rcases List.mem_append.1 hu with hu' | hu'
      · exact absurd (hfa u hu').2 hunot
      · exact hu'
    obtain ⟨i, e, hoff⟩ := (hmb u).1 hub
    have hui := isF2Offer_info hoff hinv
    refine ⟨i, e, u, hoff, hue, hpi, hui, ?_⟩
    intro j e' v hv hve hexcl
    have hvinv : v.enc.isInvalidating = true := by rw [hve]; rfl
    have hvb : v ∈ b := (hmb v).2 ⟨j, e', hv⟩
    have hvx := (hfb v hvb).2
    have := hmax v (List.mem_append_right _ hvb) hve (fun hx => hne (hx.symm.trans hvx)) hvx hexcl
    rwa [hui, isF2Offer_info hv hvinv] at this

/-! ## non-vacuity -/

section Examples

/-- entry {10..20, 30..40} ∩ definition {15..35}: 6 + 6 = 12 common code points -/
example : (IntersectionInfo.fromSubset
    (SubsetDef.intersection ⟨[(10, 20), (30, 40)], .set [1, 5, 9], .ranges [(7, [(0, 65536)])]⟩
      ⟨[(15, 35)], .set [5, 9, 11], .ranges [(7, [(32768, 131072)]), (8, [(0, 1)])]⟩) 3)
    = ⟨12, 2, [(7, 32768)], 3⟩ := by decide +kernel

example : Canon [(10, 20), (30, 40)] := (rsCanonical_iff _).1 (by decide)
example : ¬ Canon [(10, 20), (21, 40)] := fun h => absurd ((rsCanonical_iff _).2 h) (by decide)

/-- the `Fixed` sum wraps: two segments of length 0x7FFFFFFF record −2 -/
example : designSpaceSize (.ranges [(1, [(-2147483648, -1), (0, 2147483647)])]) = [(1, -2)] := by decide +kernel

/-- a two-entry table, both partially invalidating: the second entry has the larger intersection
with {10..14} and is selected -/
private def rawCp (cps : Ranges) : RawEntry :=
  { flags := 16, feats := [], segs := [], childByte := 0, children := [], delta := 0, fmt := 0,
    bias := 0, cps := some cps, size := 2 }

private def twoEntries : F2Table :=
  { compat := 7, defaultFormat := 2, entriesOffset := 40, hasIdStrings := false, idData := [],
    template := [123, 105, 100, 125], utf8Ok := true, raws := [rawCp [(10, 11)], rawCp [(10, 13)]] }

example : (match selectNext (.f2 twoEntries) .none ⟨[(10, 14)], .set [], .ranges []⟩ with
    | .ok (some g) => g.invalidating.map (·.bit)
    | _ => []) = [40 * 8 + 6 + 16] := by decide +kernel

example : notF1 (.f2 twoEntries) ∧ notF1 .none := ⟨trivial, trivial⟩

end Examples

end FontVerif.C19
