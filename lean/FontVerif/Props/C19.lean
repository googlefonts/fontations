/-
C19 — IFT patch selection follows the specified intersection and grouping rules.
Property theorems and the abbreviation `stripInfo` (helper lemmas: Lemmas/PatchMap.lean, Lemmas/PatchMapF1.lean (format 1),
Lemmas/PatchGroup.lean).
Models: Model/PatchMap.lean + Model/PatchMapDecode.lean ⇄ incremental-font-transfer/src/patchmap.rs,
        Model/UriTemplate.lean ⇄ uri_templates.rs, Model/PatchGroup.lean ⇄ patch_group.rs.

Vocabulary (defined in Lemmas/PatchMap.lean):
* `SubsetDef.le d d'` — the definition grows: codepoint set ⊆, feature set ⊆ (everything ≤ All),
  design space axis-by-axis ⊆ (everything ≤ All);
* `SpecLocal e d` / `SpecMatch es d i` — the declarative IFT rule "check entry intersection"
  (members of sets, empty-means-wildcard; conjunctive / disjunctive child entries) as an inductive
  relation, with no reference to the cache or to evaluation order;
* `WF es` — child indices refer to prior entries (guaranteed by decoding: `decoded_entries_wf`).
For format 2 the "applied" bit of an entry *is* its ignored flag (glyph_keyed.rs sets bit 6 of the
entry's format flags), so "un-applied, un-ignored" is `ignored = false`.
-/
import FontVerif.Lemmas.PatchMap
import FontVerif.Lemmas.PatchGroup
import FontVerif.Lemmas.PatchMapF1
namespace FontVerif.C19
open FontVerif.PatchMap FontVerif.PatchGroup FontVerif.UriTemplate

/-- an offered uri without the recorded intersection size (which legitimately depends on the
definition): template, id, format, source table, compat id, application bit -/
abbrev stripInfo (u : PatchUri) : PatchUri := u.strip

/-! ## (1) monotonicity and containment in the all-inclusive definition -/

/-- `Entry::intersects` stays true when the subset definition
grows in any of its three dimensions (with the empty-means-wildcard and `All` rules). -/
theorem entry_intersects_monotone (e d d' : SubsetDef) (hle : SubsetDef.le d d')
    (h : localIntersects e d = true) : localIntersects e d' = true :=
  localIntersects_mono e d d' hle h

/-- An entry that intersects *some* definition (over `u32` codepoints)
intersects `SubsetDefinition::all()`. -/
theorem entry_intersects_all (e d : SubsetDef) (hd : d.cpsInDomain)
    (h : localIntersects e d = true) : localIntersects e SubsetDef.allDef = true :=
  localIntersects_mono e d _ (SubsetDef.le_all d hd) h

/-- For every format-2 entry list (any child structure, conjunctive or
disjunctive, any ignored flags): the set of offered entries only grows when the definition grows. -/
theorem offered_monotone (es : List Entry) (d d' : SubsetDef) (hle : SubsetDef.le d d') (i : Nat)
    (h : i ∈ offeredIdx es d) : i ∈ offeredIdx es d' := by
  rw [mem_offeredIdx] at h ⊢
  exact ⟨h.1, h.2.1, evalAll_mono es d d' hle i h.2.2⟩

/-- Whatever is offered for some definition is offered for the
all-inclusive definition. -/
theorem offered_subset_all (es : List Entry) (d : SubsetDef) (hd : d.cpsInDomain) (i : Nat)
    (h : i ∈ offeredIdx es d) : i ∈ offeredIdx es SubsetDef.allDef :=
  offered_monotone es d _ (SubsetDef.le_all d hd) i h

/-- The same at the level of a format-2 mapping table
(`add_intersecting_format2_patches` after `decode_format2_entries`): decoding does not depend on
the definition, so the call succeeds for `d'` iff it does for `d`, and every uri offered for `d` is
offered for `d'` with identical template / id / format / table / compat id / application bit. -/
theorem table_offer_monotone (tag : TableTag) (t : F2Table) (d d' : SubsetDef)
    (hle : SubsetDef.le d d') (us : List PatchUri) (h : intersectF2 tag t d = .ok us) :
    ∃ us', intersectF2 tag t d' = .ok us' ∧
      ∀ u, u ∈ us → ∃ u', u' ∈ us' ∧ stripInfo u' = stripInfo u := by
  obtain ⟨es, hes, rfl⟩ := intersectF2_ok.1 h
  refine ⟨_, intersectF2_ok.2 ⟨es, hes, rfl⟩, fun u hu => ?_⟩
  obtain ⟨i, hi, rfl⟩ := List.mem_map.1 hu
  exact ⟨_, List.mem_map.2 ⟨i, offered_monotone es d d' hle i hi, rfl⟩,
    (offeredUri_strip ..).trans (offeredUri_strip ..).symm⟩

/-- … and every uri a format-2 table offers for some definition is offered (same template / id /
format / table / compat id / application bit) for `SubsetDefinition::all()`. -/
theorem table_offer_subset_all (tag : TableTag) (t : F2Table) (d : SubsetDef) (hd : d.cpsInDomain)
    (us : List PatchUri) (h : intersectF2 tag t d = .ok us) :
    ∃ us', intersectF2 tag t SubsetDef.allDef = .ok us' ∧
      ∀ u, u ∈ us → ∃ u', u' ∈ us' ∧ stripInfo u' = stripInfo u :=
  table_offer_monotone tag t d _ (SubsetDef.le_all d hd) us h

/-! ## (2) the offered set is exactly what the IFT rules say -/

/-- Whenever `decode_format2_entries` succeeds, every child index refers
to a prior entry, and every entry's uri carries the tag and compat id of its table. -/
theorem decoded_entries_wf (tag : TableTag) (t : F2Table) (es : List Entry)
    (h : decodeF2 tag t = .ok es) : WF es ∧ FromTable tag t.compat es :=
  decodeF2_inv h

/-- `Entry::intersects` decides the declarative per-dimension rule. -/
theorem entry_intersects_spec (e d : SubsetDef) : localIntersects e d = true ↔ SpecLocal e d :=
  localIntersects_iff_spec e d

/-- On a well-formed entry list, entry `i` is offered **iff** it exists, is not
ignored (= not applied), and matches the definition in the declarative sense (own conditions and
child-entry conditions).  Ignored entries still count as children of later entries. -/
theorem offered_exact (es : List Entry) (d : SubsetDef) (wf : WF es) (i : Nat) :
    i ∈ offeredIdx es d ↔ ∃ e, es[i]? = some e ∧ e.ignored = false ∧ SpecMatch es d i := by
  rw [mem_offeredIdx, evalAll_iff_spec es d wf i]
  constructor
  · rintro ⟨hi, hig, hs⟩
    refine ⟨es[i], List.getElem?_eq_getElem hi, ?_, hs⟩
    simpa [List.getD_eq_getElem?_getD, List.getElem?_eq_getElem hi] using hig
  · rintro ⟨e, he, hig, hs⟩
    obtain ⟨hi, rfl⟩ := List.getElem?_eq_some_iff.1 he
    refine ⟨hi, ?_, hs⟩
    simpa [List.getD_eq_getElem?_getD, List.getElem?_eq_getElem hi] using hig

/-- Offered entries are listed once each, in entry order. -/
theorem offered_order (es : List Entry) (d : SubsetDef) :
    (offeredIdx es d).Pairwise (· < ·) := by
  unfold offeredIdx
  exact List.Pairwise.sublist List.filter_sublist List.pairwise_lt_range

/-- For a format-2 table: a successful `add_intersecting_format2_patches`
returns, in entry order and once each, exactly the uris of the decoded entries that are not
ignored/applied and match declaratively; each uri is the entry's own (only the intersection info of
invalidating formats is filled in). -/
theorem table_offer_exact (tag : TableTag) (t : F2Table) (d : SubsetDef) (us : List PatchUri)
    (h : intersectF2 tag t d = .ok us) :
    ∃ (es : List Entry) (idx : List Nat), decodeF2 tag t = .ok es ∧ idx.Pairwise (· < ·) ∧
      (∀ i, i ∈ idx ↔ ∃ e, es[i]? = some e ∧ e.ignored = false ∧ SpecMatch es d i) ∧
      us = idx.map (fun i => offeredUri d i (es.getD i default)) ∧
      ∀ i, stripInfo (offeredUri d i (es.getD i default)) = stripInfo (es.getD i default).uri := by
  obtain ⟨es, hes, rfl⟩ := intersectF2_ok.1 h
  exact ⟨es, offeredIdx es d, hes, offered_order es d,
    fun i => offered_exact es d (decodeF2_inv hes).1 i, rfl, fun i => offeredUri_strip ..⟩

/-! ## (1b, 2b) format 1 and whole fonts

`FeatureSet.sorted`: the explicit tag list is strictly ascending (how `BTreeSet<Tag>` iterates).
`glyphKey t pairs k`: some requested (codepoint, glyph) pair maps to entry `k` through the glyph map
(entry 0 below `first_mapped_glyph`, else `entry_index[gid - first]` if ≤ `max_glyph_map_entry_index`).
`fires t G r cum i k`: entry-map record `i` of feature record `r` is valid, its range
`first..=last` contains an entry of `G`, and it names entry `k = first_new_entry_index + i`. -/

/-- Closed form of the two-pointer loop over requested tags × feature
records: a feature record is used **iff** its tag is requested and strictly larger than the tags
of all records before it (the specification's "sorted; out-of-order and duplicate records are
skipped"); `cum` is the number of entry-map records before it.  Same for "all features". -/
theorem feature_records_used (tags : List Nat) (hs : tags.Pairwise (· < ·)) (recs : List FeatRec) :
    featLoopSet tags recs 0 none = recHigh (fun x => decide (x ∈ tags)) recs 0 none ∧
    featLoopAll recs 0 none = recHigh (fun _ => true) recs 0 none :=
  ⟨featLoopSet_eq tags recs 0 none none hs (fun _ _ => rfl), featLoopAll_eq recs 0 none⟩

/-- A successful `add_intersecting_format1_patches` offers **exactly**
the entries `k` with `k > 0` (entry 0 = already in the font), application bit clear, that are either
glyph-map entries of a requested codepoint or are named by a firing entry-map record of a used
feature record; every offered uri is (template, id k, the table's format, bit = bitmap start·8 + k). -/
theorem format1_offer_exact (tag : TableTag) (t : F1Table) (d : SubsetDef) (us : List PatchUri)
    (h : intersectF1 tag t d = .ok us) :
    ∃ enc, PatchFormat.ofNumber t.patchFormat = some enc ∧
      (∀ u, u ∈ us → ∃ k,
        stripInfo u = { template := t.template, id := .num k, enc := enc, table := tag,
                        compat := t.compat, bit := t.bitmapStart * 8 + k,
                        info := IntersectionInfo.zero }) ∧
      ∀ k, (∃ u, u ∈ us ∧ u.id = .num k) ↔
        (k > 0 ∧ isEntryApplied t.bitmap k = false ∧
          let G := glyphKey t (t.cmap.filter fun (p : Nat × Nat) => rMem (p.1 : Int) d.cps)
          (G k ∨ (t.hasFeatureMap = true ∧ ∃ q, q ∈ selectedRecs t d.feats ∧
              ∃ i, i ∈ List.range q.1.count ∧ fires t G q.1 q.2 i k))) := by
  obtain ⟨enc, entries, henc, hkeys, hus⟩ := intersectF1_ok h
  refine ⟨enc, henc, ?_, fun k => ?_⟩
  · intro u hu
    obtain ⟨p, _, _, _, rfl⟩ := (hus u).1 hu
    exact ⟨p.1, rfl⟩
  show _ ↔ _ ∧ _ ∧ f1Key t d k
  rw [← hkeys k]
  constructor
  · rintro ⟨u, hu, hid⟩
    obtain ⟨p, hp, hp0, hpa, rfl⟩ := (hus u).1 hu
    cases hid
    exact ⟨hp0, hpa, p, hp, rfl⟩
  · rintro ⟨hk0, hka, p, hp, rfl⟩
    exact ⟨_, (hus _).2 ⟨p, hp, hk0, hka, rfl⟩, rfl⟩

/-- Format 1: when the definition grows (codepoints, features) and
both calls succeed, every offered entry stays offered.  (A larger definition may *fail* where the
smaller one succeeds: a requested codepoint whose glyph is beyond the glyph map is `OutOfBounds`.) -/
theorem format1_offer_monotone (tag : TableTag) (t : F1Table) (d d' : SubsetDef)
    (hle : SubsetDef.le d d') (hs : d.feats.sorted) (hs' : d'.feats.sorted)
    (us us' : List PatchUri) (h : intersectF1 tag t d = .ok us) (h' : intersectF1 tag t d' = .ok us') :
    ∀ u, u ∈ us → ∃ u', u' ∈ us' ∧ stripInfo u' = stripInfo u := by
  obtain ⟨enc, entries, henc, hk, hus⟩ := intersectF1_ok h
  obtain ⟨enc', entries', henc', hk', hus'⟩ := intersectF1_ok h'
  rw [henc] at henc'; cases henc'
  intro u hu
  obtain ⟨p, hp, hp0, hpa, rfl⟩ := (hus u).1 hu
  obtain ⟨p', hp', hpk⟩ := (hk' _).2 (f1Key_mono t hle hs hs' _ ((hk _).1 ⟨p, hp, rfl⟩))
  refine ⟨_, (hus' _).2 ⟨p', hp', by omega, by rw [hpk]; exact hpa, rfl⟩, ?_⟩
  simp only [stripInfo, PatchUri.strip, hpk]

/-- `intersecting_patches` on a whole font (each of 'IFT ' / 'IFTX'
absent, format 1 or format 2, any contents): if it succeeds for `d` and for a larger `d'`, every
uri offered for `d` is offered for `d'` (same template / id / format / table / compat id /
application bit). -/
theorem font_offer_monotone (ift iftx : MapTable) (d d' : SubsetDef) (hle : SubsetDef.le d d')
    (hs : d.feats.sorted) (hs' : d'.feats.sorted) (us us' : List PatchUri)
    (h : intersectingPatches ift iftx d = .ok us) (h' : intersectingPatches ift iftx d' = .ok us') :
    ∀ u, u ∈ us → ∃ u', u' ∈ us' ∧ stripInfo u' = stripInfo u := by
  have htab : ∀ (tag : TableTag) (m : MapTable) (a a' : List PatchUri),
      intersectTable tag d m = .ok a → intersectTable tag d' m = .ok a' →
      ∀ u, u ∈ a → ∃ u', u' ∈ a' ∧ stripInfo u' = stripInfo u := by
    intro tag m a a' ha ha'
    cases m with
    | none => cases ha; nofun
    | f1 t => exact format1_offer_monotone tag t d d' hle hs hs' a a' ha ha'
    | f2 t =>
      obtain ⟨a'', h1, h2⟩ := table_offer_monotone tag t d d' hle a ha
      cases ha'.symm.trans h1
      exact h2
  obtain ⟨a, b, ha, hb, rfl⟩ := intersectingPatches_ok.1 h
  obtain ⟨a', b', ha', hb', rfl⟩ := intersectingPatches_ok.1 h'
  intro u hu
  rcases List.mem_append.1 hu with hu | hu
  · obtain ⟨u', hu', he⟩ := htab .ift ift a a' ha ha' u hu
    exact ⟨u', List.mem_append_left _ hu', he⟩
  · obtain ⟨u', hu', he⟩ := htab .iftx iftx b b' hb hb' u hu
    exact ⟨u', List.mem_append_right _ hu', he⟩

/-- … and is contained in the offer for `SubsetDefinition::all()`. -/
theorem font_offer_subset_all (ift iftx : MapTable) (d : SubsetDef) (hd : d.cpsInDomain)
    (hs : d.feats.sorted) (us us' : List PatchUri)
    (h : intersectingPatches ift iftx d = .ok us)
    (h' : intersectingPatches ift iftx SubsetDef.allDef = .ok us') :
    ∀ u, u ∈ us → ∃ u', u' ∈ us' ∧ stripInfo u' = stripInfo u :=
  font_offer_monotone ift iftx d _ (SubsetDef.le_all d hd) hs trivial us us' h h'

/-! ## (3) the selected group

`selectFromCandidates cands iftId iftxId` is `select_next_patches_from_candidates`; `iftId` /
`iftxId` are the compatibility ids of the font's 'IFT ' / 'IFTX' tables (`select_next_patches`
refuses fonts where they coincide, so a compat id identifies a mapping table).
`infoLt a b` (Lemmas/PatchGroup.lean) is the strict selection order: `a` has a strictly smaller
intersection than `b` (codepoints, then layout tags, then design space), or the same intersection
and a **later** entry order.  It is a strict total order (`infoLt_irrefl/trans/total`), and
`IntersectionInfo::cmp` decides it (`cmp_lt_iff`, `cmp_gt_iff`). -/

/-- A selected group never contains the same uri twice (across the
invalidating and the non-invalidating patches of both tables). -/
theorem group_no_duplicate_uri (cands : List PatchUri) (iftId iftxId : Option Nat) (g : Group)
    (h : selectFromCandidates cands iftId iftxId = .ok g) : g.uris.Nodup :=
  (selectFromCandidates_selected h).nodup

/-- The group is a fully invalidating patch **iff** some candidate is fully
invalidating; and then the group consists of that single uri and nothing else. -/
theorem full_is_alone (cands : List PatchUri) (iftId iftxId : Option Nat) (g : Group)
    (h : selectFromCandidates cands iftId iftxId = .ok g) :
    ((∃ u, u ∈ cands ∧ u.enc = .tkFull) ↔ ∃ p, g = .full p) ∧
    ∀ p, g = .full p → g.uris = [p.uri] ∧ g.invalidating = [p] ∧ g.nonInvalidating = [] := by
  have hs := selectFromCandidates_selected h
  refine ⟨⟨?_, ?_⟩, ?_⟩
  · rintro ⟨u, hu, he⟩
    cases hs with
    | full _ => exact ⟨_, rfl⟩
    | both nf | left nf | right nf | none nf => exact absurd he (nf u hu)
  · rintro ⟨p, rfl⟩
    cases hs with
    | full hb => obtain ⟨u, hu, he, -⟩ := hb.src; exact ⟨u, hu, he⟩
  · rintro p rfl
    exact ⟨rfl, rfl, rfl⟩

/-- Without a fully invalidating candidate the group has
one slot per mapping table; a slot is either exactly one partially invalidating patch or a set of
non-invalidating patches, and everything in the first slot carries the 'IFT ' compat id, everything
in the second the (different) 'IFTX' compat id.  Hence at most two invalidating patches, never two
for the same table, and no non-invalidating patch of a table next to an invalidating one of it. -/
theorem at_most_one_invalidating_per_table (cands : List PatchUri) (iftId iftxId : Option Nat)
    (g : Group) (h : selectFromCandidates cands iftId iftxId = .ok g) :
    (∀ p q, p ∈ g.invalidating → q ∈ g.invalidating → p.compat = q.compat → p = q) ∧
    g.invalidating.length ≤ 2 ∧
    ∀ A B, g = .mixed A B →
      (∀ p, A = .partialInv p → some p.compat = iftId) ∧
      (∀ m, A = .noInv m → ∀ x, x ∈ m → some x.2.compat = iftId) ∧
      (∀ q, B = .partialInv q → some q.compat = iftxId ∧ some q.compat ≠ iftId) ∧
      (∀ m, B = .noInv m → ∀ x, x ∈ m → some x.2.compat = iftxId ∧ some x.2.compat ≠ iftId) := by
  have slots : ∀ A B, g = .mixed A B →
      (∀ p, A = .partialInv p → some p.compat = iftId) ∧
      (∀ m, A = .noInv m → ∀ x, x ∈ m → some x.2.compat = iftId) ∧
      (∀ q, B = .partialInv q → some q.compat = iftxId ∧ some q.compat ≠ iftId) ∧
      (∀ m, B = .noInv m → ∀ x, x ∈ m → some x.2.compat = iftxId ∧ some x.2.compat ≠ iftId) := by
    rintro A B rfl
    obtain ⟨sA, sB⟩ := (selectFromCandidates_selected h).slot_src
    -- a patch has the compat id of the candidate it expands
    have cA : ∀ p, p ∈ A.patches → some p.compat = iftId := fun p hp => by
      obtain ⟨u, -, h2, h3⟩ := sA p hp; rw [(toPatchInfo_fields h3).2.2.1]; exact h2
    have cB : ∀ p, p ∈ B.patches → some p.compat = iftxId ∧ some p.compat ≠ iftId := fun p hp => by
      obtain ⟨u, -, h2, h3⟩ := sB p hp; rw [(toPatchInfo_fields h3).2.2.1]; exact ⟨h2.2, h2.1⟩
    exact ⟨fun p e => cA p (by subst e; exact List.mem_singleton_self p),
      fun m e x hx => cA _ (by subst e; exact List.mem_map_of_mem hx),
      fun q e => cB q (by subst e; exact List.mem_singleton_self q),
      fun m e x hx => cB _ (by subst e; exact List.mem_map_of_mem hx)⟩
  refine ⟨?_, ?_, slots⟩
  · intro p q hp hq hpq
    refine invalidating_eq_of (R := fun p q => p.compat = q.compat) (fun a b hg => ?_) hp hq hpq
    obtain ⟨hA, _, hB, _⟩ := slots _ _ hg
    exact ⟨fun e => (hB b rfl).2 (e ▸ hA a rfl), fun e => (hB b rfl).2 (e.symm ▸ hA a rfl)⟩
  · cases g with
    | full r => simp [Group.invalidating]
    | mixed A B => cases A <;> cases B <;> simp [Group.invalidating]

/-- Each invalidating patch in the group comes from a candidate
`u` of its class (fully invalidating: all tables; partially invalidating: its own table) such that
no competing candidate `v` is better: `¬ infoLt u.info v.info`, i.e. `v` neither has a strictly
larger intersection nor the same intersection with an earlier entry.  For the second table the
competitors exclude candidates expanding to the uri already chosen for the first table. -/
theorem invalidating_choice_is_max (cands : List PatchUri) (iftId iftxId : Option Nat) (g : Group)
    (h : selectFromCandidates cands iftId iftxId = .ok g) :
    (∀ p, g = .full p →
      ∃ u, u ∈ cands ∧ u.enc = .tkFull ∧ toPatchInfo u = some p ∧
        ∀ v, v ∈ cands → v.enc = .tkFull → ¬ infoLt u.info v.info) ∧
    (∀ p B, g = .mixed (.partialInv p) B →
      ∃ u, u ∈ cands ∧ u.enc = .tkPartial ∧ some u.compat = iftId ∧ toPatchInfo u = some p ∧
        ∀ v, v ∈ cands → v.enc = .tkPartial → some v.compat = iftId → ¬ infoLt u.info v.info) ∧
    (∀ A q, g = .mixed A (.partialInv q) →
      ∃ u, u ∈ cands ∧ u.enc = .tkPartial ∧ some u.compat ≠ iftId ∧ some u.compat = iftxId ∧
        toPatchInfo u = some q ∧
        ∀ v, v ∈ cands → v.enc = .tkPartial → some v.compat ≠ iftId → some v.compat = iftxId →
          (∀ p, A = .partialInv p → uriString v ≠ some p.uri) → ¬ infoLt u.info v.info) := by
  have hs := selectFromCandidates_selected h
  refine ⟨?_, ?_, ?_⟩
  · rintro p rfl
    cases hs with
    | full hb =>
      obtain ⟨u, h1, h2, h3, h4⟩ := hb
      exact ⟨u, h1, h2, h3, fun v hv hve => h4 v hv hve trivial⟩
  · rintro p B rfl
    cases hs with
    | both _ ha | left _ ha =>
      obtain ⟨u, h1, h2, h3, h4⟩ := ha
      exact ⟨u, h1, h2.1, h2.2, h3, fun v hv e c => h4 v hv ⟨e, c⟩ trivial⟩
  · rintro A q rfl
    cases hs with
    | both _ _ hb =>
      obtain ⟨u, h1, h2, h3, h4⟩ := hb
      exact ⟨u, h1, h2.1, h2.2.1, h2.2.2, h3, fun v hv e c c' hx => h4 v hv ⟨e, c, c'⟩ (hx _ rfl)⟩
    | right _ _ hb =>
      obtain ⟨u, h1, h2, h3, h4⟩ := hb
      exact ⟨u, h1, h2.1, h2.2.1, h2.2.2, h3, fun v hv e c c' _ => h4 v hv ⟨e, c, c'⟩ trivial⟩

/-- The order used for the choice is a lawful strict total order, so
"maximum" is meaningful: `Ord for IntersectionInfo` never reports `a < b` and `b < a`, is
transitive, and distinguishes any two different infos. -/
theorem selection_order_is_total (a b c : IntersectionInfo) :
    (a.cmp b = .lt ↔ infoLt a b) ∧ (a.cmp b = .gt ↔ infoLt b a) ∧ ¬ infoLt a a ∧
    (infoLt a b → infoLt b c → infoLt a c) ∧ (infoLt a b ∨ a = b ∨ infoLt b a) :=
  ⟨cmp_lt_iff a b, cmp_gt_iff a b, infoLt_irrefl a, infoLt_trans, infoLt_total a b⟩

/-- Every patch in the group is one of the candidates (same uri
expansion, table, compat id and application bit). -/
theorem group_subset_of_offer (cands : List PatchUri) (iftId iftxId : Option Nat) (g : Group)
    (h : selectFromCandidates cands iftId iftxId = .ok g) (p : PatchInfo)
    (hp : p ∈ g.invalidating ++ g.nonInvalidating) :
    ∃ u, u ∈ cands ∧ uriString u = some p.uri ∧ p.table = u.table ∧ p.compat = u.compat ∧
      p.bit = u.bit := by
  suffices key : ∃ u, u ∈ cands ∧ toPatchInfo u = some p by
    obtain ⟨u, hu, hpi⟩ := key
    exact ⟨u, hu, toPatchInfo_fields hpi⟩
  have hs := selectFromCandidates_selected h
  cases g with
  | full q =>
    cases hs with
    | full hb => cases List.mem_singleton.1 hp; exact let ⟨u, h1, _, h3⟩ := hb.src; ⟨u, h1, h3⟩
  | mixed A B =>
    rcases mem_mixed hp with hp | hp
    · exact let ⟨u, h1, _, h3⟩ := hs.slot_src.1 p hp; ⟨u, h1, h3⟩
    · exact let ⟨u, h1, _, h3⟩ := hs.slot_src.2 p hp; ⟨u, h1, h3⟩

/-- At the level of `PatchGroup::select_next_patches` on a
font's two mapping tables (format 1 or format 2, any contents): two invalidating patches of the
selected group never come from the same mapping table, and never share a uri. -/
theorem select_one_invalidating_per_table (ift iftx : MapTable) (d : SubsetDef) (G : Group)
    (h : selectNext ift iftx d = .ok (some G)) :
    (∀ p q, p ∈ G.invalidating → q ∈ G.invalidating → p.table = q.table → p = q) ∧ G.uris.Nodup := by
  obtain ⟨cands, hc, hcase⟩ := selectNext_cases h
  rcases hcase with ⟨_, hg⟩ | ⟨_, hne, G', hg, hsel⟩
  · cases hg
  · cases hg
    refine ⟨?_, group_no_duplicate_uri _ _ _ _ hsel⟩
    have hfrom := intersectingPatches_from hc
    have htab : ∀ p, p ∈ G.invalidating →
        (p.table = .ift ↔ some p.compat = MapTable.compatId ift) := by
      intro p hp
      obtain ⟨u, hu, -, ht, hcp, -⟩ := group_subset_of_offer _ _ _ _ hsel p (List.mem_append_left _ hp)
      rw [ht, hcp]
      rcases hfrom u hu with ⟨h1, h2⟩ | ⟨h1, h2⟩
      · simp [h1, h2]
      · rw [h1, h2]
        constructor
        · intro hx; cases hx
        · intro hx; exact absurd hx.symm hne
    intro p q hp hq hpq
    refine invalidating_eq_of (R := fun p q => p.table = q.table) (fun a b hg => ?_) hp hq hpq
    subst hg
    obtain ⟨hA, _, hB, _⟩ := (at_most_one_invalidating_per_table _ _ _ _ hsel).2.2 _ _ rfl
    have ha : a.table = .ift := (htab a (by simp [Group.invalidating])).2 (hA a rfl)
    have hb : b.table ≠ .ift := fun hx =>
      (hB b rfl).2 ((htab b (by simp [Group.invalidating])).1 hx)
    exact ⟨fun e => hb (e ▸ ha), fun e => hb (e.symm ▸ ha)⟩

/-! ## (4) progress and termination -/

/-- If `intersecting_patches` offers anything and selection succeeds, the
group has uris (`has_uris`): a non-empty offered set yields a non-empty group. -/
theorem select_progress (ift iftx : MapTable) (d : SubsetDef) (cands : List PatchUri)
    (g : Option Group) (hc : intersectingPatches ift iftx d = .ok cands) (hne : cands ≠ [])
    (h : selectNext ift iftx d = .ok g) : hasUris g = true ∧ optUris g ≠ [] := by
  obtain ⟨cands', hc', hcase⟩ := selectNext_cases h
  cases hc.symm.trans hc'
  rcases hcase with ⟨he, _⟩ | ⟨_, _, G, rfl, hsel⟩
  · exact absurd he hne
  suffices hp : hasUris (some G) = true from ⟨hp, optUris_ne_nil hp⟩
  have hfrom : ∀ u, u ∈ cands → some u.compat = MapTable.compatId ift ∨ some u.compat = MapTable.compatId iftx :=
    fun u hu => (intersectingPatches_from hc u hu).imp (·.2) (·.2)
  cases selectFromCandidates_selected hsel with
  | full _ | both _ _ _ _ | left _ _ _ => rfl
  | right _ _ _ _ => simp [hasUris]
  | @none mA mB nf nA nB hA hB =>
    -- the first candidate is glyph keyed, so the map of its table is not empty
    obtain ⟨u, us, rfl⟩ := List.exists_cons_of_ne_nil hne
    have hu : u ∈ u :: us := List.mem_cons_self
    have hgk : u.enc = .glyphKeyed := by
      cases henc : u.enc with
      | tkFull => exact absurd henc (nf u hu)
      | tkPartial =>
        by_cases c : some u.compat = MapTable.compatId ift
        · exact absurd ⟨henc, c⟩ (nA u hu)
        · exact absurd ⟨henc, c, (hfrom u hu).resolve_left c⟩ (nB u hu)
      | glyphKeyed => rfl
    by_cases c : some u.compat = MapTable.compatId ift
    · have := hA.ne ⟨u, hu, hgk, c⟩
      cases mA with
      | nil => exact absurd rfl this
      | cons _ _ => simp [hasUris]
    · have := hB.ne ⟨u, hu, hgk, c, (hfrom u hu).resolve_left c⟩
      cases mA with
      | cons _ _ => simp [hasUris]
      | nil =>
        cases mB with
        | nil => exact absurd rfl this
        | cons _ _ => simp [hasUris]

/-- `select_next_patches` reports "nothing to do" exactly when
nothing is offered. -/
theorem select_none_iff_no_offer (ift iftx : MapTable) (d : SubsetDef) (g : Option Group)
    (h : selectNext ift iftx d = .ok g) :
    g = none ↔ intersectingPatches ift iftx d = .ok [] := by
  obtain ⟨cands, hc, hcase⟩ := selectNext_cases h
  rcases hcase with ⟨he, hg⟩ | ⟨hne, _, G, hg, _⟩
  · subst he; exact ⟨fun _ => hc, fun _ => hg⟩
  · subst hg
    constructor
    · intro hx; cases hx
    · intro hx; rw [hc] at hx; cases hx; exact absurd rfl hne

/-- A successful `apply_next_patches` round — with ARBITRARY table-keyed and
glyph-keyed application functions — flips at least one uri of the group from `Pending` to `Applied`
(a uri that was not applied before), never un-applies a uri, and strictly increases the number of
applied uris.  Otherwise the round reports an error. -/
theorem round_progress {F : Type} (g : Option Group)
    (applyTk : PatchInfo → List Nat → Except String F)
    (applyGk : List (PatchInfo × List Nat) → Except String F)
    (pd pd' : PatchData) (f : F) (h : applyNext g applyTk applyGk pd = .ok (f, pd')) :
    (∃ u data, u ∈ optUris g ∧ pdGet pd u = some (.pending data) ∧ pdGet pd' u = some .applied) ∧
    (∀ k, pdGet pd k = some .applied → pdGet pd' k = some .applied) ∧
    appliedCount pd < appliedCount pd' := by
  have huris : ∀ p, (p ∈ (match g with | none => [] | some g => g.invalidating) ∨
      p ∈ (match g with | none => [] | some g => g.nonInvalidating)) → p.uri ∈ optUris g := by
    intro p hp
    cases g with
    | none => simp at hp
    | some G =>
      simp only [optUris, Group.uris, List.mem_map]
      exact ⟨p, List.mem_append.2 hp, rfl⟩
  rcases applyNext_ok g applyTk applyGk pd pd' f h with
    ⟨p, data, hmem, hd, -, rfl⟩ | ⟨acc, hacc, hne, -, rfl⟩
  · obtain ⟨a, b, c⟩ := setAll_progress (· = p.uri) pd rfl hd
    exact ⟨⟨p.uri, data, huris p (Or.inl hmem), hd, a⟩, b, c⟩
  · obtain ⟨x, xs, rfl⟩ := List.exists_cons_of_ne_nil hne
    obtain ⟨h1, h2⟩ := accumulate_mem pd _ _ hacc x List.mem_cons_self
    rw [fold_setApplied_eq]
    obtain ⟨a, b, c⟩ := setAll_progress (fun k => ∃ p ∈ _, k = p.uri) pd (u := x.1.uri) ⟨x.1, h1, rfl⟩ h2
    exact ⟨⟨x.1.uri, x.2, huris x.1 (Or.inr h1), h2, a⟩, b, c⟩

/-- In the select → fetch-missing → apply loop, for ANY selection
function, patch-application functions and server: the number of completed rounds never exceeds the
number of uris that became applied, and a run that exhausts `fuel` rounds has applied at least
`fuel` distinct status entries. -/
theorem extension_terminates {F : Type} (select : F → Except String (Option Group))
    (applyTk : F → PatchInfo → List Nat → Except String F)
    (applyGk : F → List (PatchInfo × List Nat) → Except String F)
    (fetch : Uri → List Nat) (fuel rounds : Nat) (font : F) (pd : PatchData) :
    match extend select applyTk applyGk fetch fuel rounds font pd with
    | .done _ pd' r' => r' + appliedCount pd ≤ rounds + appliedCount pd'
    | .failed _ r' => rounds ≤ r'
    | .outOfFuel _ pd' => fuel + appliedCount pd ≤ appliedCount pd' := by
  revert fuel rounds font pd
  intro fuel
  induction fuel with
  | zero => intro rounds font pd; simp [extend]
  | succ n ih =>
    intro rounds font pd
    simp only [extend]
    cases hs : select font with
    | error e => simp
    | ok g =>
      simp only []
      by_cases hh : (!hasUris g) = true
      · simp [hh]
      · simp only [hh, Bool.false_eq_true, ↓reduceIte]
        cases happ : applyNext g (applyTk font) (applyGk font) (fetchMissing fetch pd (optUris g)) with
        | error e => simp
        | ok r =>
          obtain ⟨font', pd'⟩ := r
          simp only []
          have hp := (round_progress g (applyTk font) (applyGk font) _ pd' font' happ).2.2
          rw [fetchMissing_count] at hp
          have := ih (rounds + 1) font' pd'
          cases hr : extend select applyTk applyGk fetch n (rounds + 1) font' pd' with
          | done f2 pd2 r2 => simp only [hr] at this ⊢; omega
          | failed e r2 => simp only [hr] at this ⊢; omega
          | outOfFuel f2 pd2 => simp only [hr] at this ⊢; omega

/-! ## non-vacuity -/

section Examples

private def cpEntry (lo hi : Int) (children : List Nat) (conj ignored : Bool) (bit : Nat) : Entry :=
  { sd := { cps := [(lo, hi)], feats := .set [], ds := .ranges [] }
    children := children, conj := conj, ignored := ignored
    uri := { template := [], id := .num bit, enc := .glyphKeyed, table := .ift, compat := 7,
             bit := bit, info := IntersectionInfo.zero } }

/-- entries: 0 = {10..20}; 1 = {30..40} ignored; 2 = wildcard with children 0 ∧ 1;
3 = wildcard with children 0 ∨ 1 -/
private def sampleEntries : List Entry :=
  [cpEntry 10 20 [] false false 0, cpEntry 30 40 [] false true 1,
   { cpEntry 0 0 [0, 1] true false 2 with sd := SubsetDef.empty },
   { cpEntry 0 0 [0, 1] false false 3 with sd := SubsetDef.empty }]

private def defA : SubsetDef := ⟨[(15, 15)], .set [], .ranges []⟩
private def defB : SubsetDef := ⟨[(15, 15), (35, 36)], .set [1], .ranges []⟩

example : WF sampleEntries := by
  intro i hi c hc
  have : i < 4 := hi
  match i, this with
  | 0, _ => simp [sampleEntries, cpEntry] at hc
  | 1, _ => simp [sampleEntries, cpEntry] at hc
  | 2, _ => simp [sampleEntries, cpEntry] at hc; omega
  | 3, _ => simp [sampleEntries, cpEntry] at hc; omega

example : SubsetDef.le defA defB := by
  refine ⟨?_, ?_, ?_⟩
  · intro c hc
    simp only [defA, defB, rMem_iff] at hc ⊢
    obtain ⟨r, hr, h1, h2⟩ := hc
    simp at hr; subst hr
    exact ⟨(15, 15), by simp, h1, h2⟩
  · simp [defA, defB, FeatureSet.le]
  · intro tag ra h; simp [axLookup] at h

example : offeredIdx sampleEntries defA = [0, 3] := by decide +kernel
example : offeredIdx sampleEntries defB = [0, 2, 3] := by decide +kernel
example : offeredIdx sampleEntries SubsetDef.allDef = [0, 2, 3] := by decide +kernel
example : offeredIdx sampleEntries SubsetDef.empty = [] := by decide +kernel

private def mkUri (id : Nat) (enc : PatchFormat) (table : TableTag) (compat bit : Nat)
    (cps order : Nat) : PatchUri :=
  { template := [123, 105, 100, 125], id := .num id, enc := enc, table := table, compat := compat,
    bit := bit, info := ⟨cps, 0, [], order⟩ }

/-- 'IFT ' (compat 7): 9 codepoints at order 1 beats 9 at order 2 and 5 at order 0.  'IFTX' (compat
8): the 50-codepoint candidate expands to the uri already picked for 'IFT ' (id 2), so the
3-codepoint one is taken; the glyph-keyed candidate is not applied alongside. -/
example : (selectFromCandidates
    [mkUri 1 .tkPartial .ift 7 100 5 0, mkUri 2 .tkPartial .ift 7 101 9 1,
     mkUri 3 .tkPartial .ift 7 102 9 2, mkUri 2 .tkPartial .iftx 8 200 50 0,
     mkUri 4 .tkPartial .iftx 8 201 3 1, mkUri 5 .glyphKeyed .iftx 8 202 0 0]
    (some 7) (some 8)).toOption.map (fun g => (g.invalidating.map (·.bit), g.uris.length))
    = some ([101, 201], 2) := by decide +kernel

/-- glyph-keyed candidates of both tables are all taken, the uri shared by both (id 2) once -/
example : (selectFromCandidates
    [mkUri 1 .glyphKeyed .ift 7 100 0 0, mkUri 2 .glyphKeyed .ift 7 101 0 0,
     mkUri 2 .glyphKeyed .iftx 8 200 0 0, mkUri 4 .glyphKeyed .iftx 8 201 0 0]
    (some 7) (some 8)).toOption.map (fun g => (g.invalidating.map (·.bit), g.nonInvalidating.map (·.bit)))
    = some ([], [100, 101, 201]) := by decide +kernel

/-- a fully invalidating candidate (of either table) is selected alone; the larger intersection wins -/
example : (selectFromCandidates
    [mkUri 1 .glyphKeyed .ift 7 100 0 0, mkUri 2 .tkPartial .ift 7 101 90 1,
     mkUri 3 .tkFull .iftx 8 200 4 0, mkUri 4 .tkFull .ift 7 103 6 3]
    (some 7) (some 8)).toOption.map (fun g => (g.invalidating.map (·.bit), g.uris.length))
    = some ([103], 1) := by decide +kernel

/-- a malformed uri template among the candidates is an error, not a partial group -/
example : (match selectFromCandidates [{ mkUri 1 .glyphKeyed .ift 7 100 0 0 with template := [123] }]
    (some 7) (some 8) with | .error e => e | .ok _ => "ok") = "err:Malformed:Malformed_URI_templates." := by
  decide +kernel

/-- one round: the pending uri of the group becomes applied -/
example : (applyNext (F := Unit) (some (.full ⟨[48], .ift, 7, 100⟩)) (fun _ _ => .ok ()) (fun _ => .ok ())
    [([48], .pending [1, 2, 3])]).toOption.map (·.2) = some [([48], .applied)] := by decide +kernel

/-- ... and a group whose uris are all applied already is an error, not a silent no-op -/
example : (match applyNext (F := Unit) (some (.full ⟨[48], .ift, 7, 100⟩)) (fun _ _ => .ok ())
    (fun _ => .ok ()) [([48], .applied)] with | .error e => e | .ok _ => "ok") = "err:EmptyPatchList" := by
  decide +kernel

/-- why the client must not re-insert selected uris (ift_extend before fix 980e661): overwriting
un-applies the uri, so the termination measure of `extension_terminates` is lost -/
example : appliedCount (fetchOverwrite (fun _ => []) [([48], .applied)] [[48]]) = 0 ∧
    appliedCount (fetchMissing (fun _ => []) [([48], .applied)] [[48]]) = 1 := by decide +kernel

/-- a format-1 table: glyphs 1, 2 ↦ entries 1, 2; feature record (tag 5) adds entry 3 when entry 1 is hit -/
private def sampleF1 : F1Table :=
  { compat := 9, maxEntry := 3, maxGm := 2, glyphCount := 3, maxpGlyphs := 3, bitmapStart := 36,
    bitmap := [0], template := [123, 105, 100, 125], utf8Ok := true, patchFormat := 3, firstGid := 0,
    entryIndex := [0, 1, 2], hasFeatureMap := true, featRecs := [⟨5, 3, 1⟩], entryMaps := [(1, 1)],
    entryMapBytes := 2, cmap := [(65, 1), (66, 2)] }

private def idsOf : Except String (List PatchUri) → List Nat
  | .ok us => us.map fun u => match u.id with | .num n => n | .str _ => 0
  | .error _ => [99]

example : idsOf (intersectF1 .ift sampleF1 ⟨[(65, 65)], .set [5], .ranges []⟩) = [1, 3] := by decide +kernel
example : idsOf (intersectF1 .ift sampleF1 ⟨[(65, 65)], .set [], .ranges []⟩) = [1] := by decide +kernel
example : idsOf (intersectF1 .ift sampleF1 ⟨[(66, 66)], .set [5], .ranges []⟩) = [2] := by decide +kernel
example : idsOf (intersectF1 .ift sampleF1 SubsetDef.allDef) = [1, 2, 3] := by decide +kernel
/-- applied entries are not offered (bit 1 of the bitmap set) -/
example : idsOf (intersectF1 .ift { sampleF1 with bitmap := [2] } SubsetDef.allDef) = [2, 3] := by decide +kernel
/-- out-of-order feature records are skipped: only the strict running maxima 3 and 7 are used -/
example : (featLoopAll [⟨3, 0, 1⟩, ⟨2, 0, 2⟩, ⟨3, 0, 4⟩, ⟨7, 0, 8⟩] 0 none).map (fun q => (q.1.tag, q.2))
    = [(3, 0), (7, 7)] := by decide +kernel
example : (featLoopSet [2, 3, 7] [⟨3, 0, 1⟩, ⟨2, 0, 2⟩, ⟨3, 0, 4⟩, ⟨7, 0, 8⟩] 0 none).map
    (fun q => (q.1.tag, q.2)) = [(3, 0), (7, 7)] := by decide +kernel

end Examples

end FontVerif.C19
