/-
C16 (lookup level) — a lookup is an ORDERED list of subtables, the first matching subtable wins;
`split_subtables` (write-fonts/src/graph/splitting.rs) replaces every split subtable IN PLACE by its
pieces and keeps the lookup header.  Model: Model/LayoutLookup.lean; helper lemmas:
Lemmas/LayoutLookup.lean.  The per-subtable split theorems are those of Props/C16.lean.
-/
import FontVerif.Props.C16
import FontVerif.Lemmas.LayoutLookup
set_option linter.unusedVariables false
namespace FontVerif.C16
open FontVerif.Layout

/-- Whatever the split function returns for whichever subtables (also
for a shared subtable object that the lookup lists more than once): the lookup that
`split_subtables` writes has the SAME lookup type, lookup flag and mark filtering set; its offset
array is the old one with every entry replaced — at its own position, the order of all other
entries kept — by the entry's replacement (its pieces, or itself); and the subtable count field
equals the number of offsets written (so the reader sees exactly these subtables; before /repo
4cfebdf this failed for a split subtable that occurs twice). -/
theorem split_subtables_in_place (lk : LookupG) (splitFn : Nat → Nat → Option (List Nat))
    (out : LookupOut) (h : splitSubtables lk splitFn = some out) :
    out.subtables = lk.offsets.flatMap (replacement (collectSplits splitFn 0 lk.offsets [])) ∧
    out.subtableCount = out.offsets.length ∧
    out.lookupType = lk.lookupType ∧ out.flag = lk.flag ∧
    out.markFilteringSet = lk.markFilteringSet := by
  obtain ⟨a, b, c, d, e⟩ := splitSubtables_spec lk splitFn out h
  refine ⟨?_, b, c, d, e⟩
  unfold LookupOut.subtables
  rw [b, List.take_length, a]

/-- a replacement is either the subtable itself or the result of one of the split calls on it -/
theorem split_subtables_replacement (lk : LookupG) (splitFn : Nat → Nat → Option (List Nat)) (o : Nat) :
    replacement (collectSplits splitFn 0 lk.offsets []) o = [o] ∨
    ∃ j, splitFn j o = some (replacement (collectSplits splitFn 0 lk.offsets []) o) := by
  unfold replacement
  cases hg : splitMapGet (collectSplits splitFn 0 lk.offsets []) o with
  | none => exact Or.inl rfl
  | some ps =>
    rcases collectSplits_get splitFn lk.offsets 0 [] o ps hg with h | ⟨j, hj⟩
    · cases h
    · exact Or.inr ⟨j, by simpa using hj⟩

/-- Graph level.  Give every subtable object a meaning
`sem o : Q → Option R` (what it answers to a query — a glyph pair, a (mark, base) pair).  If every
result of the split function is semantically a split (first match over the pieces = the answer of
the subtable that was split), then for EVERY query the first match over the subtables of the lookup
that `split_subtables` writes equals the first match over the original subtables: subtables that
precede a split subtable still shadow all its pieces, and all its pieces still shadow every
subtable that follows. -/
theorem lookup_split_preserves_first_match {Q R : Type} (lk : LookupG)
    (splitFn : Nat → Nat → Option (List Nat)) (sem : Nat → Q → Option R)
    (hsplit : ∀ j o ps, splitFn j o = some ps → ∀ q, ps.findSome? (fun p => sem p q) = sem o q)
    (out : LookupOut) (h : splitSubtables lk splitFn = some out) (q : Q) :
    out.subtables.findSome? (fun p => sem p q) = lk.offsets.findSome? (fun p => sem p q) := by
  rw [(split_subtables_in_place lk splitFn out h).1]
  apply findSome_flatMap_pieces
  intro o _
  rcases split_subtables_replacement lk splitFn o with h1 | ⟨j, hj⟩
  · rw [h1]; simp
  · exact hsplit j o _ hj q

/-- the only failure of `split_subtables` is a subtable count that does not fit `u16` -/
theorem split_subtables_total (lk : LookupG) (splitFn : Nat → Nat → Option (List Nat))
    (hsmall : (lk.offsets.flatMap (replacement (collectSplits splitFn 0 lk.offsets []))).length < 65536)
    (hlk : lk.offsets.length < 65536) :
    ∃ out, splitSubtables lk splitFn = some out := by
  unfold splitSubtables
  simp only
  split
  · exact ⟨_, rfl⟩
  · split
    · rename_i hge
      exfalso
      rw [List.length_flatMap] at hsmall
      have : (lk.offsets.map (fun o => ((splitMapGet (collectSplits splitFn 0 lk.offsets []) o).map
          List.length).getD 1)) = lk.offsets.map (fun a =>
            (replacement (collectSplits splitFn 0 lk.offsets []) a).length) := by
        apply List.map_congr_left
        intro o _
        unfold replacement
        cases splitMapGet (collectSplits splitFn 0 lk.offsets []) o <;> rfl
      rw [this] at hge
      omega
    · exact ⟨_, rfl⟩

/-! ## typed lookups: any subset of the subtables split at any valid points -/

/-- the split points chosen for one PairPos subtable are admissible: `none` (not split), or
non-decreasing points ending at the pair-set / class-1 count of a well-formed subtable -/
def PairSub.ValidChoice {V : Type} : PairSub V → Option (List Nat) → Prop
  | _, none => True
  | .f1 t, some pts => t.cov.WF ∧ t.pairSets.length = t.cov.glyphs.length ∧
      pts.Pairwise (· ≤ ·) ∧ pts.getLast? = some t.pairSets.length
  | .f2 t, some pts => t.cov.WF ∧ pts.Pairwise (· ≤ ·) ∧ pts.getLast? = some t.rows.length

/-- Take ANY PairPos lookup — any sequence of
format 1 and format 2 subtables — and split ANY subset of its subtables at ANY admissible split
points (in particular those of the real heuristics, `ppf1_points_valid` / `ppf2_points_valid`),
every split subtable being replaced in place by its pieces.  The split does not panic and for EVERY
glyph pair the first match of the new lookup equals the first match of the old one: a glyph-pair
subtable in front of a class subtable keeps overriding it however either of them is split. -/
theorem pair_lookup_split_preserves_first_match {V : Type} (ts : List (PairSub V))
    (choice : List (Option (List Nat))) (hv : AllValid PairSub.ValidChoice ts choice) :
    ∃ ts', splitLookupWith PairSub.splitAt ts choice = some ts' ∧
      ∀ g1 g2, firstMatchPair ts' g1 g2 = firstMatchPair ts g1 g2 := by
  obtain ⟨ts', a, b⟩ := splitLookupWith_preserves (Q := Nat × Nat) PairSub.splitAt
    (fun s q => s.lookup q.1 q.2) PairSub.ValidChoice (fun t c hvc => by
      cases c with
      | none => exact ⟨[t], rfl, fun q => by simp⟩
      | some pts =>
        cases t with
        | f1 t =>
          obtain ⟨w, l, inc, last⟩ := hvc
          obtain ⟨ps, hps, _, hq⟩ := ppf1_split_preserves t w l pts inc last
          refine ⟨ps.map .f1, by simp [PairSub.splitAt, hps], fun q => ?_⟩
          rw [List.findSome?_map]
          exact hq q.1 q.2
        | f2 t =>
          obtain ⟨w, inc, last⟩ := hvc
          obtain ⟨ps, hps, _, hq⟩ := ppf2_split_preserves t w pts inc last
          refine ⟨ps.map .f2, by simp [PairSub.splitAt, hps], fun q => ?_⟩
          rw [List.findSome?_map]
          exact hq q.1 q.2) ts choice hv
  exact ⟨ts', a, fun g1 g2 => b (g1, g2)⟩

/-- admissible split points for one MarkBasePos subtable -/
def MarkBase.ValidChoice {A : Type} : MarkBase A → Option (List Nat) → Prop
  | _, none => True
  | t, some pts => t.markCov.WF ∧ t.marks.length = t.markCov.glyphs.length ∧
      (∀ row ∈ t.bases, row.length = t.classCount) ∧
      pts.Pairwise (· ≤ ·) ∧ pts.getLast? = some t.classCount

/-- The same for a MarkToBase lookup with any
number of subtables: every (mark, base) pair gets the same (mark anchor, base anchor) — or nothing —
from the first matching subtable before and after splitting any subset of the subtables. -/
theorem markbase_lookup_split_preserves_first_match {A : Type} (ts : List (MarkBase A))
    (choice : List (Option (List Nat))) (hv : AllValid MarkBase.ValidChoice ts choice) :
    ∃ ts', splitLookupWith MarkBase.splitAt ts choice = some ts' ∧
      ∀ m b, firstMatchMB ts' m b = firstMatchMB ts m b := by
  obtain ⟨ts', a, b⟩ := splitLookupWith_preserves (Q := Nat × Nat) MarkBase.splitAt
    (fun s q => s.lookup q.1 q.2) MarkBase.ValidChoice (fun t c hvc => by
      cases c with
      | none => exact ⟨[t], rfl, fun q => by simp⟩
      | some pts =>
        obtain ⟨w, l, r, inc, last⟩ := hvc
        obtain ⟨ps, hps, _, hq⟩ := markbase_split_preserves t w l r pts inc last
        exact ⟨ps, hps, fun q => hq q.1 q.2⟩) ts choice hv
  exact ⟨ts', a, fun m b' => b (m, b')⟩

/-- With the split points of the REAL size heuristics
(`split_pair_pos_format_1` for sizes `sz`, `split_pair_pos_format_2` for `(gc, recSize, cd2Size)`):
a lookup `[glyph-pair subtable, class subtable]` — the shape `PairPosBuilder` compiles — keeps every
first match when both, either or none of the two subtables is split. -/
theorem pair_lookup_split_heuristic_preserves {V : Type} (t1 : PairPos1 V) (t2 : PairPos2 V)
    (h1 : t1.cov.WF) (hl : t1.pairSets.length = t1.cov.glyphs.length) (h2 : t2.cov.WF)
    (cs : Nat) (sz : List (Nat × Nat)) (hsz : sz.length = t1.pairSets.length)
    (gc : List (Nat × Nat)) (recSize cd2Size : Nat) :
    ∃ ts', splitLookupWith PairSub.splitAt [.f1 t1, .f2 t2]
        [ppf1SplitPoints cs sz, ppf2SplitPoints gc t2.rows.length recSize cd2Size] = some ts' ∧
      ∀ g1 g2, firstMatchPair ts' g1 g2 = firstMatchPair [.f1 t1, .f2 t2] g1 g2 := by
  apply pair_lookup_split_preserves_first_match
  refine ⟨?_, ?_, trivial⟩
  · cases hp : ppf1SplitPoints cs sz with
    | none => trivial
    | some pts =>
      have ⟨pw, last, _⟩ := ppf1_points_valid cs sz pts hp
      exact ⟨h1, hl, pw.imp (fun h => Nat.le_of_lt h), by rw [last, hsz]⟩
  · cases hp : ppf2SplitPoints gc t2.rows.length recSize cd2Size with
    | none => trivial
    | some pts =>
      have ⟨pw, last, _⟩ := ppf2_points_valid gc _ recSize cd2Size pts hp
      exact ⟨h2, pw.imp (fun h => Nat.le_of_lt h), last⟩

/-- `[A, A, B]` with the shared object `A` (id 7) split in two on both visits (fresh ids per call):
five offsets, count five, `B` (id 8) still last, header kept -/
example :
    splitSubtables ⟨2, 16, [7, 7, 8], some 9⟩
      (fun i o => if o = 7 then some [100 * (i + 1), 100 * (i + 1) + 1] else none) =
    some ⟨2, 16, 5, [200, 201, 200, 201, 8], some 9⟩ := by decide
/-- nothing split: the lookup is put back unchanged -/
example : splitSubtables ⟨4, 0, [3, 4], none⟩ (fun _ _ => none) = some ⟨4, 0, 2, [3, 4], none⟩ := by
  decide
/-- a glyph-pair subtable followed by a class subtable: splitting the first at `[1, 2]` keeps the
explicit pair (1, 7) ↦ 70 in front of the class value and pair (2, 7) ↦ 71 too -/
example :
    let t1 : PairPos1 Nat := ⟨.fmt1 [1, 2], [[(7, 70)], [(7, 71)]]⟩
    let t2 : PairPos2 Nat := ⟨.fmt1 [1, 2, 3], .fmt2 [], .fmt2 [⟨7, 7, 1⟩], [[0, 5]]⟩
    AllValid PairSub.ValidChoice [.f1 t1, .f2 t2] [some [1, 2], none] ∧
    ((splitLookupWith PairSub.splitAt [.f1 t1, .f2 t2] [some [1, 2], none]).map
      (fun ts => (ts.length, firstMatchPair ts 2 7, firstMatchPair ts 3 7))) = some (3, some 71, some 5) := by
  refine ⟨⟨⟨?_, rfl, by decide, rfl⟩, trivial, trivial⟩, by decide +kernel⟩
  exact ⟨by decide, by simp⟩

end FontVerif.C16
