/-
C02 — skrifa and IFT client APIs are total on hostile fonts and arguments.

Core 1 (this module): the control logic of the TrueType bytecode interpreter (Model/Interp.lean) terminates and keeps
its bounded resources bounded FOR EVERY PROGRAM AND EVERY SEMANTICS OF THE NON-CONTROL OPCODES (`Cfg.sem` is
universally quantified), and the failure cases named in the property are error values.
Core 2 (this module, second half): composite glyph loading (Model/Composite.lean) — chains deeper than 32 component
edges, cycles and self references are error values.
-/
import FontVerif.Lemmas.Interp
import FontVerif.Lemmas.Composite
namespace FontVerif.C02
open FontVerif.Interp FontVerif.InterpLemmas
open FontVerif.CompositeLemmas
open FontVerif.Composite (GlyphInfo Out recF RECURSION_LIMIT)

/-- a state as produced by `Engine::reset` (any program, definitions, value stack, data state) is Good -/
theorem initSt_good {D} (c : Cfg D) (p : Nat) (fs ids : List Def) (vs : List Int) (d : D) :
    Good c (initSt p fs ids vs d) := by
  unfold Good CtlInv initSt MAX_DEPTH MAX_RUN_INSTRUCTIONS
  simp

/-- **`run` halts**: from any start state (counter 0), after at most 1 000 001 loop iterations the machine
    is not running any more — whatever the three programs contain and whatever the data opcodes do. -/
theorem run_halts {D} (c : Cfg D) (s : St D) (h0 : s.count = 0) (hg : Good c s) :
    (iter c (MAX_RUN_INSTRUCTIONS + 1) s).status ≠ .running :=
  halts_after c s hg _ (by omega)

/-- the number of dispatched instructions never exceeds `MAX_RUN_INSTRUCTIONS + 1`, at any time -/
theorem run_dispatches_le {D} (c : Cfg D) (s : St D) (hg : Good c s) (n : Nat) :
    (iter c n s).count ≤ MAX_RUN_INSTRUCTIONS + 1 :=
  (iter_good c n s hg).2.2.2

/-- each iteration dispatches at most one instruction -/
theorem count_le_iterations {D} (c : Cfg D) (s : St D) (n : Nat) : (iter c n s).count ≤ s.count + n := by
  induction n generalizing s with
  | zero => exact Nat.le_refl _
  | succ n ih =>
    by_cases hr : s.status = .running
    · have := ih (step c s)
      have := (step_running c s hr).2.2.2
      simp only [iter]; omega
    · rw [iter_halted c _ s hr]; omega

/-- the run loop never reaches the model's `stuck` status: the `IF`/`ELSE` skip loops and the `FDEF`/`IDEF` scan are
    bounded by the remaining bytecode (the fuel `code.size + 1` the model gives them is never exhausted) -/
theorem never_stuck {D} (c : Cfg D) (s : St D) (hg : Good c s) (n : Nat) : (iter c n s).status ≠ .stuck :=
  (iter_good c n s hg).2.1

/-- **every single dispatch terminates**: one dispatch returns a result (a new state or an error value) for every opcode
    byte, operand list and state — with no assumption on the state -/
theorem dispatch_total {D} (c : Cfg D) (s : St D) (op : Nat) (ops : List Nat) :
    ∃ r, dispatch c s op ops = some r :=
  match h : dispatch c s op ops with
  | some r => ⟨r, rfl⟩
  | none => absurd h (dispatch_ne_none c s op ops)

/-- the executable run loop is the iterated step function -/
theorem runLoop_eq_iter {D} (c : Cfg D) (n : Nat) (s : St D) : runLoop c n s = iter c n s := by
  induction n generalizing s with
  | zero => rfl
  | succ n ih =>
    unfold runLoop
    split
    · exact ih _
    · rename_i hr
      exact (iter_halted c _ s (fun h => hr h)).symm

/-- **`Engine::run` returns**: `Ok(())` or an error value; never "still running", never stuck. -/
theorem run_returns {D} (c : Cfg D) (p : Nat) (fs ids : List Def) (vs : List Int) (d : D) :
    (run c (initSt p fs ids vs d)).status = .done ∨ ∃ e, (run c (initSt p fs ids vs d)).status = .failed e := by
  have hg := initSt_good c p fs ids vs d
  unfold run
  rw [runLoop_eq_iter]
  have h1 := halts_after c _ hg (MAX_RUN_INSTRUCTIONS + 2)
    (show MAX_RUN_INSTRUCTIONS < 0 + (MAX_RUN_INSTRUCTIONS + 2) by omega)
  have h2 := never_stuck c _ hg (MAX_RUN_INSTRUCTIONS + 2)
  cases hs : (iter c (MAX_RUN_INSTRUCTIONS + 2) (initSt p fs ids vs d)).status with
  | running => exact absurd hs h1
  | done => exact Or.inl rfl
  | failed e => exact Or.inr ⟨e, rfl⟩
  | stuck => exact absurd hs h2

/-- the call stack never holds more than 32 records -/
theorem callstack_depth_le {D} (c : Cfg D) (s : St D) (hg : Good c s) (n : Nat) :
    (iter c n s).calls.length ≤ 32 :=
  (iter_good c n s hg).1.1

/-- backward jumps taken and LOOPCALL iterations granted never exceed `LoopBudget::limit` -/
theorem loop_budgets_le {D} (c : Cfg D) (s : St D) (hg : Good c s) (n : Nat) :
    (iter c n s).backJumps ≤ c.limit ∧ (iter c n s).loopCalls ≤ c.limit :=
  (iter_good c n s hg).1.2

/-- CALL / LOOPCALL / user-defined opcode at depth 32: `CallStackOverflow` -/
theorem call_at_depth_limit_is_error {D} (s : St D) (d : Def) (n : Nat) (h : s.calls.length = 32) :
    enter s d n = .error .csOverflow := by
  unfold enter MAX_DEPTH; rw [if_neg (by omega)]

/-- ENDF with no active call: `CallStackUnderflow` -/
theorem endf_without_call_is_error {D} (s : St D) (h : s.calls = []) : leave s = .error .csUnderflow := by
  unfold leave; rw [h]

/-- a taken jump whose popped offset is 0 (it would re-execute the jump forever): `InvalidJump` -/
theorem jump_in_place_is_error {D} (c : Cfg D) (s : St D) (rest : List Int) (h : s.vs = 0 :: rest) :
    doJump c s true = .error .invalidJump := by
  rw [doJump_taken c s h (by omega), if_pos rfl]

/-- a taken backward jump when the budget is used up: `ExceededExecutionBudget` -/
theorem backward_jump_over_budget_is_error {D} (c : Cfg D) (s : St D) (v : Int) (rest : List Int)
    (h : s.vs = v :: rest) (hv : -2147483647 ≤ v ∧ v < 0) (hb : s.backJumps = c.limit) :
    doJump c s true = .error .budget := by
  rw [doJump_taken c s h (by omega), if_neg (by omega), if_pos hv.2, if_pos (by omega)]

/-- a LOOPCALL asking for more iterations than the budget has left: `ExceededExecutionBudget` -/
theorem loopcall_over_budget_is_error {D} (c : Cfg D) (s : St D) (f n : Int) (rest : List Int)
    (h : s.vs = f :: n :: rest) (hn : 0 < n) (hb : s.loopCalls + n.toNat > c.limit) :
    opLoopcall c s = .error .budget := by
  unfold opLoopcall pop; rw [h]; simp only []
  rw [if_pos hn, if_pos hb]

/-- popping an empty value stack in pedantic mode: `ValueStackUnderflow`; otherwise the value 0 -/
theorem pop_empty (ped : Bool) :
    pop ped [] = if ped then .error .vsUnderflow else .ok (0, []) := rfl

/-- the only error of IF's skip loop (IF (false) with no ELSE/EIF opcode after it) is `UnexpectedEndOfBytecode` -/
theorem scanIf_error_kind (code : Array Nat) (fuel pc d : Nat) (e : Err)
    (h : scanIf code fuel pc d = some (.error e)) : e = .unexpectedEnd := by
  have hs := scanIf_spec code fuel pc d
  rw [h] at hs; exact hs

/-- the skip loop of IF lands strictly ahead, inside the bytecode -/
theorem scanIf_lands_ahead (code : Array Nat) (fuel pc d next : Nat)
    (h : scanIf code fuel pc d = some (.ok next)) : pc < next ∧ next ≤ code.size := by
  have hs := scanIf_spec code fuel pc d
  rw [h] at hs; exact hs

/-- FDEF/IDEF whose body is not closed by ENDF: an error (`UnexpectedEndOfBytecode` or `NestedDefinition`) -/
theorem scanDef_error_kind (code : Array Nat) (fuel pc : Nat) (e : Err)
    (h : scanDef code fuel pc = some (.error e)) : e = .unexpectedEnd ∨ e = .nestedDef := by
  have hs := scanDef_spec code fuel pc
  rw [h] at hs; exact hs

/-- a program counter outside the bytecode (e.g. after a jump to an arbitrary offset) ends the program: `Ok` -/
theorem pc_out_of_range_ends {D} (c : Cfg D) (s : St D) (hr : s.status = .running)
    (h : (c.code s.current).size ≤ s.pc) : (step c s).status = .done := by
  have : decode (c.code s.current) s.pc = .eof := by
    unfold decode
    have : (c.code s.current)[s.pc]? = none := by simp; omega
    rw [this]
  rw [step_eof c s hr this]

/-- PUSHW -3; JMPR  — an endless backward loop -/
def loopCfg : Cfg Nat :=
  { font := #[0xB8, 0xFF, 0xFD, 0x1C], cv := #[], glyph := #[], limit := 3, pedantic := false,
    sem := semSubset false }

example : (iter loopCfg 20 (initSt 0 [] [] [] 8)).status = .failed .budget := by decide +kernel
example : (iter loopCfg 20 (initSt 0 [] [] [] 8)).backJumps = 3 := by decide +kernel
example : Good loopCfg (initSt 0 [] [] [] 8) := initSt_good _ _ _ _ _ _

/-- PUSHB 0; FDEF; PUSHB 0; CALL; ENDF; PUSHB 0; CALL — unbounded recursion -/
def recCfg : Cfg Nat :=
  { font := #[0xB0, 0, 0x2C, 0xB0, 0, 0x2B, 0x2D, 0xB0, 0, 0x2B], cv := #[], glyph := #[], limit := 300,
    pedantic := false, sem := semSubset false }

example : (iter recCfg 200 (initSt 0 [{}] [] [] 8)).status = .failed .csOverflow := by decide +kernel
example : (iter recCfg 60 (initSt 0 [{}] [] [] 8)).calls.length = 29 := by decide +kernel

/-- PUSHB 0; IF; (no EIF) -/
example : (iter { recCfg with font := #[0xB0, 0, 0x58, 0x7F] } 5 (initSt 0 [] [] [] 8)).status
    = .failed .unexpectedEnd := by decide +kernel
/-- a well-formed program ends `done`: PUSHB 1; IF; PUSHB 7; ELSE; PUSHB 9; EIF -/
example : (iter { recCfg with font := #[0xB0, 1, 0x58, 0xB0, 7, 0x1B, 0xB0, 9, 0x59] } 9 (initSt 0 [] [] [] 8)).status
    = .done := by decide +kernel
example : (iter { recCfg with font := #[0xB0, 1, 0x58, 0xB0, 7, 0x1B, 0xB0, 9, 0x59] } 9 (initSt 0 [] [] [] 8)).vs
    = [7] := by decide +kernel


/-- `Outlines::outline` is a total function of the glyph table: the recursion is on `33 - recurse_depth`
    (`recF` is structurally recursive on that number) and each level is a loop over a finite component list.
    A chain of 33 component edges below the glyph is reported as an error, never followed further. -/
theorem composite_depth_exceeded_is_error (G : Nat → GlyphInfo) (g : Nat) (hd : Deep G 33 g) :
    isErr (Composite.outline G g) := by
  have hp : (G g).present = true := by
    cases hd with
    | succ _ _ _ _ _ hg _ _ => rw [hg]; rfl
  rw [outline_present hp]
  exact deep_is_error G 33 g hd 33 (Nat.le_refl _) {} 0

/-- a glyph on a cycle of component references (of any length) is an error -/
theorem composite_cycle_is_error (G : Nat → GlyphInfo) (k g : Nat) (hw : Walk G (k + 1) g g) :
    isErr (Composite.outline G g) := by
  apply composite_depth_exceeded_is_error
  -- a chain of length 33 * (k+1) ≥ 33, cut down to 33
  have h := cycle_deep G k g hw 33
  have cut : ∀ m n, Deep G (n + m) g → Deep G n g := by
    intro m; induction m with
    | zero => intro n h; exact h
    | succ m ih => intro n h; exact ih n (deep_mono G (n + m) g h)
  have he : 33 * (k + 1) = 33 + 33 * k := by omega
  rw [he] at h
  exact cut _ _ h

/-- a glyph that lists itself as a component is an error -/
theorem self_reference_is_error (G : Nat → GlyphInfo) (g : Nat) (cs : List Nat) (h : Bool)
    (hg : G g = .composite cs h) (hm : g ∈ cs) : isErr (Composite.outline G g) :=
  composite_cycle_is_error G 0 g (Walk.cons g g g cs h 0 hg hm (Walk.nil g))

/-- non-vacuity: a chain of exactly 32 component edges loads; 33 is the error; a 3-cycle is an error -/
def chainG (d : Nat) : Nat → GlyphInfo := fun i =>
  if i < d then .composite [i + 1] false else if i = d then .simple 3 1 false else .empty

example : (Composite.outline (chainG 32) 0).toOption.map (·.points) = some 3 := by decide +kernel
example : (match Composite.outline (chainG 33) 0 with | .error .recursionLimit => true | _ => false) = true := by
  decide +kernel
example : (match Composite.outline (fun i => .composite [(i + 1) % 3] false) 0 with
    | .error .recursionLimit => true | _ => false) = true := by decide +kernel
/-- a fan-out-2 DAG of depth `d`: every level lists the next glyph twice, nothing is memoised, so loading it visits
    2^(d+1)-1 glyphs (checked below for d = 10: 2047 visits, 1024 points) -/
def dagG (d : Nat) : Nat → GlyphInfo := fun i =>
  if i < d then .composite [i + 1, i + 1] false else if i = d then .simple 1 1 false else .empty
example : (Composite.outline (dagG 10) 0).toOption.map (·.visits) = some 2047 := by decide +kernel
example : (Composite.outline (dagG 10) 0).toOption.map (·.points) = some 1024 := by decide +kernel

end FontVerif.C02
