/-
C14 — IntSet part: every operation of `IntSet<T>` refines the mathematical set it denotes.
Property theorems only (helper lemmas live in Lemmas/IntSet*.lean).
Model: Model/IntSet.lean ⇄ read-fonts/src/collections/int_set/{mod.rs, bitset.rs, bitpage.rs}

Vocabulary (defined in Lemmas/IntSet*.lean)
* `PageOk p`      : `p.bits < 2^512 ∧ p.len = popCount p.bits`
* `BInv s`        : pages strictly sorted by major ∧ every page `PageOk` ∧ `s.len = sumLens s.pages`
                    (empty pages are allowed: removals leave them behind)
* `IInv s`        : `BInv s.set` (either membership mode)
* `InDom d s`     : every stored value is a value of the element domain `d`
* `Hist`, `Op`    : operation histories (tree / one step of a flat list) with `Hist.run` / `Op.apply`,
                    `runOps` (the model) and `Hist.spec` / `Op.specStep`, `specOps` (the denoted
                    characteristic function `Nat → Bool`)
* `Asc xs`        : strictly ascending;  `NRInv rs` : the RangeSet invariant on `Nat` ranges;
                    `NMem rs x` : membership in the union of the ranges
* `DomWF d`       : the domain's `ordered_values()` are sorted disjoint non-empty ranges, `count()`
                    is their total size, a continuous domain is a single range
* `IInvD d s`     : `IInv s ∧ InDom d s`
* `s.elems d`     : the mathematical member sequence: the domain values `x` (ascending) with
                    `s.contains x`
* `lexOrd`        : lexicographic order on member sequences (the specification of `Ord`)
* `DRInv D rs`    : range list in *domain* normal form (end points are domain values; sorted,
                    disjoint; a domain value lies between any two ranges) — `iter_ranges` on a
                    discontinuous domain
-/
import FontVerif.Model.IntSet
import FontVerif.Lemmas.IntSetObs
import FontVerif.Lemmas.IntSetEq
import FontVerif.Lemmas.IntSetCmp
namespace FontVerif.C14IntSet
open FontVerif.IntSet

/-! ## `BitSet`: invariant and membership refinement of every mutator -/

/-- the empty set satisfies the invariant and has no members -/
theorem bitset_empty : BInv BitSet.empty ∧ ∀ x, BitSet.empty.contains x = false :=
  ⟨bInv_empty, fun _ => rfl⟩

/-- `BitSet::insert`: invariant kept, membership is `x = v ∨ old`, the returned flag is
exactly "was not a member" -/
theorem bitset_insert (s : BitSet) (v : Nat) (h : BInv s) :
    BInv (s.insert v).1 ∧
    (∀ x, (s.insert v).1.contains x = (decide (x = v) || s.contains x)) ∧
    (s.insert v).2 = !s.contains v :=
  ⟨(BitSet.insert_spec s v h).1.1, (BitSet.insert_spec s v h).1.2, (BitSet.insert_spec s v h).2⟩

/-- `BitSet::remove`: invariant kept (the page may become empty and stays in the list),
membership is `x ≠ v ∧ old`, the returned flag is exactly "was a member" -/
theorem bitset_remove (s : BitSet) (v : Nat) (h : BInv s) :
    BInv (s.remove v).1 ∧
    (∀ x, (s.remove v).1.contains x = (!decide (x = v) && s.contains x)) ∧
    (s.remove v).2 = s.contains v :=
  ⟨(BitSet.remove_spec s v h).1.1, (BitSet.remove_spec s v h).1.2, (BitSet.remove_spec s v h).2⟩

/-- `BitSet::insert_range(a..=b)` for every `a`, `b` (also `a > b`, and ranges spanning any
number of pages) -/
theorem bitset_insertRange (s : BitSet) (a b : Nat) (h : BInv s) :
    BInv (s.insertRange a b) ∧
    ∀ x, (s.insertRange a b).contains x = (s.contains x || (decide (a ≤ x) && decide (x ≤ b))) :=
  BitSet.insertRange_spec s a b h

/-- `BitSet::remove_range(a..=b)` (first page partially cleared, inner pages zeroed and kept,
last page partially cleared, pages beyond untouched) -/
theorem bitset_removeRange (s : BitSet) (a b : Nat) (h : BInv s) :
    BInv (s.removeRange a b) ∧
    ∀ x, (s.removeRange a b).contains x = (s.contains x && !(decide (a ≤ x) && decide (x ≤ b))) :=
  BitSet.removeRange_spec s a b h

/-- `BitSet::extend` / `extend_unsorted` -/
theorem bitset_extend (s : BitSet) (vs : List Nat) (h : BInv s) :
    BInv (s.extend vs) ∧ ∀ x, (s.extend vs).contains x = (decide (x ∈ vs) || s.contains x) :=
  BitSet.extend_spec s vs h

/-- `BitSet::remove_all` -/
theorem bitset_removeAll (s : BitSet) (vs : List Nat) (h : BInv s) :
    BInv (s.removeAll vs) ∧
    ∀ x, (s.removeAll vs).contains x = (!decide (x ∈ vs) && s.contains x) :=
  BitSet.removeAll_spec s vs h

/-- `BitSet::process` for ANY page operator that acts bitwise through a Boolean function `f`
with `f false false = false` (the passthrough flags are derived from the operator exactly as
`passthrough_behavior` does): the result satisfies the invariant and membership is `f` of the
two memberships. -/
theorem bitset_process (op : Nat → Nat → Nat) (f : Bool → Bool → Bool) (hop : BitwiseOp op f)
    (s o : BitSet) (hs : BInv s) (ho : BInv o) :
    BInv (BitSet.process op s o) ∧
    ∀ x, (BitSet.process op s o).contains x = f (s.contains x) (o.contains x) :=
  ⟨BitSet.process_inv hop s o hs ho, BitSet.process_contains hop s o hs ho⟩

theorem bitset_union (a b : BitSet) (ha : BInv a) (hb : BInv b) :
    BInv (a.union b) ∧ ∀ x, (a.union b).contains x = (a.contains x || b.contains x) :=
  ⟨BitSet.process_inv bitwise_union a b ha hb, BitSet.process_contains bitwise_union a b ha hb⟩

theorem bitset_intersect (a b : BitSet) (ha : BInv a) (hb : BInv b) :
    BInv (a.intersect b) ∧ ∀ x, (a.intersect b).contains x = (a.contains x && b.contains x) :=
  ⟨BitSet.process_inv bitwise_intersect a b ha hb, BitSet.process_contains bitwise_intersect a b ha hb⟩

theorem bitset_subtract (a b : BitSet) (ha : BInv a) (hb : BInv b) :
    BInv (a.subtract b) ∧ ∀ x, (a.subtract b).contains x = (a.contains x && !b.contains x) :=
  ⟨BitSet.process_inv bitwise_subtract a b ha hb, BitSet.process_contains bitwise_subtract a b ha hb⟩

theorem bitset_reversedSubtract (a b : BitSet) (ha : BInv a) (hb : BInv b) :
    BInv (a.reversedSubtract b) ∧
    ∀ x, (a.reversedSubtract b).contains x = (!a.contains x && b.contains x) :=
  ⟨BitSet.process_inv bitwise_revSubtract a b ha hb, BitSet.process_contains bitwise_revSubtract a b ha hb⟩

/-! ## `IntSet` mutators, both membership modes -/

theorem intset_empty_all :
    IInv IntSet.empty ∧ (∀ x, IntSet.empty.contains x = false) ∧
    IInv IntSet.all ∧ (∀ x, IntSet.all.contains x = true) :=
  ⟨iInv_empty, fun _ => rfl, iInv_all, fun _ => rfl⟩

/-- `IntSet::insert` in either mode; the returned flag is exactly `is_new` -/
theorem intset_insert (s : IntSet) (v : Nat) (h : IInv s) :
    IInv (s.insert v).1 ∧
    (∀ x, (s.insert v).1.contains x = (decide (x = v) || s.contains x)) ∧
    (s.insert v).2 = !s.contains v :=
  ⟨(IntSet.insert_spec s v _ h (fun _ => rfl)).1, (IntSet.insert_spec s v _ h (fun _ => rfl)).2,
    IntSet.insert_snd s v h⟩

/-- `IntSet::remove` in either mode; the returned flag is exactly `was_present` -/
theorem intset_remove (s : IntSet) (v : Nat) (h : IInv s) :
    IInv (s.remove v).1 ∧
    (∀ x, (s.remove v).1.contains x = (!decide (x = v) && s.contains x)) ∧
    (s.remove v).2 = s.contains v :=
  ⟨(IntSet.remove_spec s v _ h (fun _ => rfl)).1, (IntSet.remove_spec s v _ h (fun _ => rfl)).2,
    IntSet.remove_snd s v h⟩

/-- `IntSet::insert_range(a..=b)`, either mode, continuous and discontinuous domains:
`inRange d a b x = a ≤ x ≤ b ∧ (d.continuous ∨ d.contains x)` -/
theorem intset_insertRange (d : Domain) (s : IntSet) (a b : Nat) (h : IInv s) :
    IInv (s.insertRange d a b) ∧
    ∀ x, (s.insertRange d a b).contains x = (s.contains x || inRange d a b x) :=
  IntSet.insertRange_spec d s a b _ h (fun _ => rfl)

/-- … spelled out for a continuous domain … -/
theorem intset_insertRange_continuous (d : Domain) (hc : d.continuous = true) (s : IntSet)
    (a b x : Nat) (h : IInv s) :
    (s.insertRange d a b).contains x = (s.contains x || (decide (a ≤ x) && decide (x ≤ b))) := by
  rw [(IntSet.insertRange_spec d s a b _ h (fun _ => rfl)).2]; simp [inRange, hc]

/-- … and for a discontinuous one (only domain values inside the interval are added, as the
code does through `ordered_values_range`). -/
theorem intset_insertRange_discontinuous (d : Domain) (hc : d.continuous = false) (s : IntSet)
    (a b x : Nat) (h : IInv s) :
    (s.insertRange d a b).contains x =
      (s.contains x || (decide (a ≤ x) && decide (x ≤ b) && d.contains x)) := by
  rw [(IntSet.insertRange_spec d s a b _ h (fun _ => rfl)).2]; simp [inRange, hc]

/-- `IntSet::remove_range(a..=b)`, either mode, continuous and discontinuous domains -/
theorem intset_removeRange (d : Domain) (s : IntSet) (a b : Nat) (h : IInv s) :
    IInv (s.removeRange d a b) ∧
    ∀ x, (s.removeRange d a b).contains x = (s.contains x && !inRange d a b x) :=
  IntSet.removeRange_spec d s a b _ h (fun _ => rfl)

theorem intset_removeRange_continuous (d : Domain) (hc : d.continuous = true) (s : IntSet)
    (a b x : Nat) (h : IInv s) :
    (s.removeRange d a b).contains x = (s.contains x && !(decide (a ≤ x) && decide (x ≤ b))) := by
  rw [(IntSet.removeRange_spec d s a b _ h (fun _ => rfl)).2]; simp [inRange, hc]

theorem intset_removeRange_discontinuous (d : Domain) (hc : d.continuous = false) (s : IntSet)
    (a b x : Nat) (h : IInv s) :
    (s.removeRange d a b).contains x =
      (s.contains x && !(decide (a ≤ x) && decide (x ≤ b) && d.contains x)) := by
  rw [(IntSet.removeRange_spec d s a b _ h (fun _ => rfl)).2]; simp [inRange, hc]

/-- `IntSet::extend` / `extend_unsorted` -/
theorem intset_extend (s : IntSet) (vs : List Nat) (h : IInv s) :
    IInv (s.extend vs) ∧ ∀ x, (s.extend vs).contains x = (decide (x ∈ vs) || s.contains x) :=
  IntSet.extend_spec s vs _ h (fun _ => rfl)

/-- `IntSet::remove_all` -/
theorem intset_removeAll (s : IntSet) (vs : List Nat) (h : IInv s) :
    IInv (s.removeAll vs) ∧
    ∀ x, (s.removeAll vs).contains x = (!decide (x ∈ vs) && s.contains x) :=
  IntSet.removeAll_spec s vs _ h (fun _ => rfl)

/-- `IntSet::invert` flips membership of every value, `IntSet::clear` empties the set (and
returns to inclusive mode) -/
theorem intset_invert_clear (s : IntSet) (h : IInv s) :
    IInv s.invert ∧ (∀ x, s.invert.contains x = !s.contains x) ∧
    IInv s.clear ∧ (∀ x, s.clear.contains x = false) ∧ s.clear.inverted = false :=
  ⟨h, IntSet.invert_contains s, (IntSet.clear_spec s).1, (IntSet.clear_spec s).2, rfl⟩

/-- `IntSet::union`, all four mode combinations -/
theorem intset_union (a b : IntSet) (ha : IInv a) (hb : IInv b) :
    IInv (a.union b) ∧ ∀ x, (a.union b).contains x = (a.contains x || b.contains x) :=
  IntSet.union_spec a b _ _ ha hb (fun _ => rfl) (fun _ => rfl)

/-- `IntSet::intersect`, all four mode combinations -/
theorem intset_intersect (a b : IntSet) (ha : IInv a) (hb : IInv b) :
    IInv (a.intersect b) ∧ ∀ x, (a.intersect b).contains x = (a.contains x && b.contains x) :=
  IntSet.intersect_spec a b _ _ ha hb (fun _ => rfl) (fun _ => rfl)

/-- `IntSet::subtract`, all four mode combinations -/
theorem intset_subtract (a b : IntSet) (ha : IInv a) (hb : IInv b) :
    IInv (a.subtract b) ∧ ∀ x, (a.subtract b).contains x = (a.contains x && !b.contains x) :=
  IntSet.subtract_spec a b _ _ ha hb (fun _ => rfl) (fun _ => rfl)

/-- "stored values are domain values" is preserved by every operation whose arguments are
domain values (which the element type `T` guarantees) -/
theorem intset_inDom_preserved (d : Domain) (s t : IntSet) (hs : IInv s) (ht : IInv t)
    (ds : InDom d s) (dt : InDom d t) :
    (∀ v, d.contains v = true → InDom d (s.insert v).1 ∧ InDom d (s.remove v).1) ∧
    (∀ a b, RangeInDom d a b → InDom d (s.insertRange d a b) ∧ InDom d (s.removeRange d a b)) ∧
    (∀ vs, (∀ v ∈ vs, d.contains v = true) → InDom d (s.extend vs) ∧ InDom d (s.removeAll vs)) ∧
    InDom d s.invert ∧ InDom d s.clear ∧
    InDom d (s.union t) ∧ InDom d (s.intersect t) ∧ InDom d (s.subtract t) :=
  ⟨fun v hv => ⟨IntSet.insert_inDom d s v hs ds hv, IntSet.remove_inDom d s v hs ds hv⟩,
   fun a b hr => ⟨IntSet.insertRange_inDom d s a b hs ds hr, IntSet.removeRange_inDom d s a b hs ds hr⟩,
   fun vs hv => ⟨IntSet.extend_inDom d s vs hs ds hv, IntSet.removeAll_inDom d s vs hs ds hv⟩,
   IntSet.invert_inDom d s ds, IntSet.clear_inDom d s,
   IntSet.union_inDom d s t hs ht ds dt, IntSet.intersect_inDom d s t hs ht ds dt,
   IntSet.subtract_inDom d s t hs ht ds dt⟩

/-! ## Histories: after ANY sequence of operations -/

/-- Every history (a tree: the argument of union / intersect / subtract is itself any
previously built set, so mode flips through mixed-mode unions and empty pages left by removals
are all covered): the invariant holds and `contains` is exactly the characteristic function of
the mathematical set the history denotes. No bound on length, values or sizes. -/
theorem history_refines (d : Domain) (h : Hist) :
    IInv (h.run d) ∧ ∀ x, (h.run d).contains x = h.spec d x :=
  Hist.run_spec d h

/-- … and if every operation argument is a domain value, so is every stored value. -/
theorem history_inDom (d : Domain) (h : Hist) (hw : h.WF d) : InDom d (h.run d) :=
  Hist.run_inDom d h hw

/-- The same for a flat operation list applied, left to right, to any starting set that already
refines `f` — in particular to `IntSet::empty()`. -/
theorem oplist_refines (d : Domain) (ops : List Op) (s : IntSet) (f : Nat → Bool) (h : IInv s)
    (hf : ∀ x, s.contains x = f x) :
    IInv (runOps d ops s) ∧ ∀ x, (runOps d ops s).contains x = specOps d ops f x := by
  induction ops generalizing s f with
  | nil => exact ⟨h, hf⟩
  | cons op ops ih =>
    obtain ⟨h1, h2⟩ := Op.apply_spec d s f op h hf
    exact ih _ _ h1 h2

theorem oplist_from_empty (d : Domain) (ops : List Op) :
    IInv (runOps d ops IntSet.empty) ∧
    (∀ x, (runOps d ops IntSet.empty).contains x = specOps d ops (fun _ => false) x) ∧
    ((∀ op ∈ ops, op.WF d) → InDom d (runOps d ops IntSet.empty)) :=
  ⟨(oplist_refines d ops _ _ iInv_empty (fun _ => rfl)).1,
   (oplist_refines d ops _ _ iInv_empty (fun _ => rfl)).2,
   fun hw => runOps_inDom d ops _ iInv_empty (inDom_empty d) hw⟩

/-! ## Observers of `BitSet` -/

/-- `BitSet::iter` yields the members in strictly ascending order, each exactly once, and
`BitSet::len` (the cached length) is their number -/
theorem bitset_members (s : BitSet) (h : BInv s) :
    Asc s.members ∧ (∀ x, x ∈ s.members ↔ s.contains x = true) ∧ s.len = s.members.length :=
  ⟨BitSet.members_asc s h, BitSet.mem_members s h, BitSet.len_eq s h⟩

/-- `BitSet::iter_ranges` satisfies the RangeSet invariant (sorted, disjoint, non-adjacent, well
formed), covers exactly the members, and expands to the member sequence; the range walk (which
does not consult cached page lengths) sees the same members as `iter` -/
theorem bitset_ranges (s : BitSet) (h : BInv s) :
    NRInv s.ranges ∧ (∀ x, NMem s.ranges x ↔ s.contains x = true) ∧
    expand s.ranges = s.members ∧ s.membersAll = s.members :=
  ⟨(BitSet.ranges_spec s h).1, (BitSet.ranges_spec s h).2, BitSet.expand_ranges s h,
   BitSet.membersAll_eq_members s h⟩

/-- range lists in this normal form are canonical: same members ⇒ same list (this is what makes
`Eq`/`Hash`/`Ord` through `iter_ranges` agree with the mathematical set) -/
theorem ranges_canonical (as bs : List (Nat × Nat)) (ha : NRInv as) (hb : NRInv bs)
    (h : ∀ x, NMem as x ↔ NMem bs x) : as = bs :=
  nrinv_ext ha hb h


/-- `NRInv` / `NMem` are literally the RangeSet invariant `RInv` / membership `Mem` of
Model/RangeSet.lean (Props/C14.lean) on the same ranges read as `Int` pairs: so
`BitSet::iter_ranges` and `IntSet::iter_ranges` (continuous domains) are valid `RangeSet`s -/
theorem ranges_are_rangesets (rs : List (Nat × Nat)) :
    (NRInv rs ↔ RangeSet.RInv (toIntRanges rs)) ∧
    ∀ x : Nat, NMem rs x ↔ RangeSet.Mem (toIntRanges rs) (x : Int) :=
  ⟨nrinv_iff_rinv rs, nmem_iff_mem rs⟩

/-! ## Observers of `IntSet`, both modes -/

/-- the specification object: `elems` lists exactly the members, strictly ascending -/
theorem intset_elems (d : Domain) (hd : DomWF d) (s : IntSet) :
    Asc (s.elems d) ∧ ∀ x, x ∈ s.elems d ↔ d.contains x = true ∧ s.contains x = true :=
  ⟨elems_asc hd s, fun _ => mem_elems⟩

/-- `IntSet::len()` is the number of members in both modes; for an inverted set the `u64`
subtraction `T::count() - s.len()` never underflows (`len` is never `none`). The hypothesis
"stored values are domain values" is part of `IInvD`. -/
theorem intset_len (d : Domain) (hd : DomWF d) (s : IntSet) (h : IInvD d s) :
    s.len d = some (s.elems d).length ∧
    (s.inverted = false → s.set.len = (s.elems d).length) ∧
    (s.inverted = true → s.set.len ≤ d.count ∧ d.count - s.set.len = (s.elems d).length) := by
  have hl := IntSet.len_spec hd h
  refine ⟨hl, fun hi => ?_, fun hi => ?_⟩
  · unfold IntSet.len at hl; rw [hi] at hl; simpa using hl
  · unfold IntSet.len at hl; rw [hi] at hl
    simp only [if_true] at hl
    split at hl
    · rename_i hle; exact ⟨hle, by simpa using hl⟩
    · simp at hl

/-- `iter()`, `iter().rev()` and `iter_after(v)` yield the members in ascending / descending /
ascending-after-`v` order (every prefix length `k`, so the whole sequence) -/
theorem intset_iter (d : Domain) (hd : DomWF d) (s : IntSet) (h : IInvD d s) (k : Nat) :
    s.iterTake d k = (s.elems d).take k ∧
    s.iterBackTake d k = (s.elems d).reverse.take k ∧
    ∀ v, s.iterAfterTake d v k = ((s.elems d).filter (fun x => decide (x > v))).take k :=
  ⟨IntSet.iterTake_eq hd h k, IntSet.iterBackTake_eq hd h k, fun v => IntSet.iterAfterTake_eq hd h v k⟩

/-- `first()` is the minimum member, `None` iff the set is empty -/
theorem intset_first (d : Domain) (hd : DomWF d) (s : IntSet) (h : IInvD d s) :
    (∀ m, s.first d = some m ↔ d.contains m = true ∧ s.contains m = true ∧
      ∀ x, d.contains x = true → s.contains x = true → m ≤ x) ∧
    (s.first d = none ↔ ∀ x, d.contains x = true → s.contains x = false) := by
  rw [IntSet.first_eq hd h]
  refine ⟨fun m => ?_, ?_⟩
  · rw [asc_head?_eq_some (elems_asc hd s), mem_elems, and_assoc]
    exact and_congr_right (fun _ => and_congr_right (fun _ =>
      ⟨fun h3 x hx hs => h3 x (mem_elems.2 ⟨hx, hs⟩),
        fun h3 x hx => h3 x (mem_elems.1 hx).1 (mem_elems.1 hx).2⟩))
  · rw [List.head?_eq_none_iff, elems_eq_nil_iff]

/-- `last()` is the maximum member, `None` iff the set is empty -/
theorem intset_last (d : Domain) (hd : DomWF d) (s : IntSet) (h : IInvD d s) :
    (∀ m, s.last d = some m ↔ d.contains m = true ∧ s.contains m = true ∧
      ∀ x, d.contains x = true → s.contains x = true → x ≤ m) ∧
    (s.last d = none ↔ ∀ x, d.contains x = true → s.contains x = false) := by
  rw [IntSet.last_eq hd h]
  refine ⟨fun m => ?_, ?_⟩
  · rw [asc_getLast?_eq_some (elems_asc hd s), mem_elems, and_assoc]
    exact and_congr_right (fun _ => and_congr_right (fun _ =>
      ⟨fun h3 x hx hs => h3 x (mem_elems.2 ⟨hx, hs⟩),
        fun h3 x hx => h3 x (mem_elems.1 hx).1 (mem_elems.1 hx).2⟩))
  · rw [List.getLast?_eq_none_iff, elems_eq_nil_iff]

/-- `intersects_range(a..=b)` (start point a domain value, as the element type guarantees): true
iff some member lies in `[a, b]`; both modes, continuous and discontinuous domains -/
theorem intset_intersectsRange (d : Domain) (hd : DomWF d) (s : IntSet) (h : IInvD d s)
    (a b : Nat) (ha : d.contains a = true) :
    s.intersectsRange d a b = true ↔
      ∃ x, a ≤ x ∧ x ≤ b ∧ d.contains x = true ∧ s.contains x = true :=
  IntSet.intersectsRange_spec hd h a b ha

/-- `RangeIter::next_exclusive` run to exhaustion is the complement within `[min, max]`, again
in RangeSet normal form -/
theorem complementRanges_correct (min max : Nat) (rs : List (Nat × Nat)) (hr : NRInv rs)
    (hb : ∀ p ∈ rs, min ≤ p.1 ∧ p.2 ≤ max) (hmm : min ≤ max) :
    NRInv (complementRanges min max rs) ∧
    ∀ x, NMem (complementRanges min max rs) x ↔ min ≤ x ∧ x ≤ max ∧ ¬ NMem rs x :=
  complementRanges_spec min max rs hr hb hmm

/-- `iter_ranges()` on a continuous domain, both modes: RangeSet normal form, covers exactly the
members, expands to the member sequence -/
theorem intset_ranges (d : Domain) (hd : DomWF d) (hc : d.continuous = true) (s : IntSet)
    (h : IInvD d s) :
    NRInv (s.ranges d) ∧
    (∀ x, NMem (s.ranges d) x ↔ d.contains x = true ∧ s.contains x = true) ∧
    expand (s.ranges d) = s.elems d := by
  obtain ⟨h1, h2⟩ := IntSet.rangesInvertible_spec hd hc h false
  refine ⟨h1, fun x => by unfold IntSet.ranges; rw [h2 x, Bool.xor_false], ?_⟩
  exact (IntSet.rangesInvertible_expand hd hc h false).trans
    (List.filter_congr (fun x _ => Bool.xor_false _))

/-- `iter_excluded_ranges()` on a continuous domain, both modes: the non-members -/
theorem intset_excludedRanges (d : Domain) (hd : DomWF d) (hc : d.continuous = true) (s : IntSet)
    (h : IInvD d s) :
    NRInv (s.excludedRanges d) ∧
    (∀ x, NMem (s.excludedRanges d) x ↔ d.contains x = true ∧ s.contains x = false) ∧
    expand (s.excludedRanges d) = s.invert.elems d := by
  obtain ⟨h1, h2⟩ := IntSet.rangesInvertible_spec hd hc h true
  refine ⟨h1, fun x => by
    unfold IntSet.excludedRanges; rw [h2 x, Bool.xor_true, Bool.not_eq_true'], ?_⟩
  exact (IntSet.rangesInvertible_expand hd hc h true).trans
    (List.filter_congr (fun x _ => by rw [Bool.xor_true, IntSet.invert_contains]))

/-- `iter_ranges()` / `iter_excluded_ranges()` on a DISCONTINUOUS domain, both modes (the
inclusive walk merges ranges that are adjacent in the domain, the exclusive walk steps through
the domain): both are in domain normal form and cover exactly the members / non-members among
the domain values -/
theorem intset_ranges_discontinuous (d : Domain) (hd : DomWF d) (hc : d.continuous = false)
    (s : IntSet) (h : IInvD d s) :
    DRInv (expand d.ranges) (s.ranges d) ∧
    (∀ x, d.contains x = true → (NMem (s.ranges d) x ↔ s.contains x = true)) ∧
    DRInv (expand d.ranges) (s.excludedRanges d) ∧
    (∀ x, d.contains x = true → (NMem (s.excludedRanges d) x ↔ s.contains x = false)) := by
  obtain ⟨a1, a2⟩ := IntSet.rangesInvertible_disc hd hc h false
  obtain ⟨b1, b2⟩ := IntSet.rangesInvertible_disc hd hc h true
  refine ⟨a1, fun x hx => ?_, b1, fun x hx => ?_⟩
  · have := a2 x (Domain.contains_iff_mem.1 hx)
    unfold IntSet.ranges; rw [this]; simp
  · have := b2 x (Domain.contains_iff_mem.1 hx)
    unfold IntSet.excludedRanges; rw [this]; simp

/-- domain normal form is canonical: same domain members ⇒ same range list -/
theorem ranges_canonical_domain (D : List Nat) (as bs : List (Nat × Nat)) (ha : DRInv D as)
    (hb : DRInv D bs) (h : ∀ x ∈ D, (NMem as x ↔ NMem bs x)) : as = bs :=
  drinv_ext ha hb h

/-- `iter_ranges()` of two sets coincide ⇔ the sets have the same members: every well-formed
domain (continuous or not), all four mode combinations -/
theorem intset_ranges_canonical (d : Domain) (hd : DomWF d) (a b : IntSet) (ha : IInvD d a)
    (hb : IInvD d b) :
    a.ranges d = b.ranges d ↔ ∀ x, d.contains x = true → a.contains x = b.contains x :=
  IntSet.ranges_canonical hd ha hb

/-- `intersects_set`: every well-formed domain, all four mode combinations, whichever side gets
iterated -/
theorem intset_intersectsSet (d : Domain) (hd : DomWF d) (a b : IntSet) (ha : IInvD d a)
    (hb : IInvD d b) :
    a.intersectsSet d b = true ↔
      ∃ v, d.contains v = true ∧ a.contains v = true ∧ b.contains v = true :=
  IntSet.intersectsSet_iff hd ha hb

/-! ## Eq / Hash / Ord agree with the mathematical set -/

/-- `BitSet == BitSet` ⇔ same members (pages that became empty are ignored) -/
theorem bitset_beq (a b : BitSet) (ha : BInv a) (hb : BInv b) :
    a.beq b = true ↔ ∀ x, a.contains x = b.contains x :=
  BitSet.beq_spec a b ha hb

/-- `impl Ord for BitSet` is the lexicographic order on the ascending member sequences -/
theorem bitset_cmp (a b : BitSet) (ha : BInv a) (hb : BInv b) :
    a.cmp b = lexOrd a.members b.members :=
  BitSet.cmp_spec a b ha hb

/-- `lexOrd` is the usual lexicographic order: `Equal` only on equal sequences -/
theorem lexOrd_eq (xs ys : List Nat) : lexOrd xs ys = .eq ↔ xs = ys := by
  induction xs generalizing ys with
  | nil => cases ys <;> simp [IntSet.lexOrd]
  | cons x xs ih =>
    cases ys with
    | nil => simp [IntSet.lexOrd]
    | cons y ys =>
      simp only [IntSet.lexOrd]
      split
      · simp; omega
      · split
        · simp; omega
        · rw [ih ys]
          have : x = y := by omega
          simp [this]

/-- `impl Ord for BitSet`: `Equal` exactly when `==` -/
theorem bitset_cmp_eq (a b : BitSet) (ha : BInv a) (hb : BInv b) :
    a.cmp b = .eq ↔ a.beq b = true := by
  rw [BitSet.cmp_spec a b ha hb, lexOrd_eq, BitSet.beq_spec a b ha hb]
  constructor
  · intro he x
    have h1 := BitSet.mem_members a ha x
    have h2 := BitSet.mem_members b hb x
    rw [he] at h1
    cases hx : a.contains x <;> cases hy : b.contains x <;> simp_all
  · intro hx
    apply asc_ext (BitSet.members_asc a ha) (BitSet.members_asc b hb)
    intro x
    rw [BitSet.mem_members a ha, BitSet.mem_members b hb, hx x]

/-- `IntSet == IntSet` ⇔ same members: every well-formed domain, all four mode combinations (the
mixed-mode comparison goes through `len` and `iter_ranges`) -/
theorem intset_beq (d : Domain) (hd : DomWF d) (a b : IntSet) (ha : IInvD d a) (hb : IInvD d b) :
    a.beq d b = true ↔ ∀ x, d.contains x = true → a.contains x = b.contains x :=
  IntSet.beq_iff hd ha hb

/-- hash agreement: what `impl Hash` feeds the hasher is equal ⇔ the sets have the same members
(so `a == b → hash a = hash b`, and distinct sets feed distinct keys) -/
theorem intset_hashKey (d : Domain) (hd : DomWF d) (a b : IntSet) (ha : IInvD d a)
    (hb : IInvD d b) :
    (a.hashKey d = b.hashKey d ↔ ∀ x, d.contains x = true → a.contains x = b.contains x) ∧
    (a.hashKey d = b.hashKey d ↔ a.beq d b = true) := by
  have h1 := IntSet.ranges_canonical hd ha hb
  exact ⟨h1, h1.trans (IntSet.beq_iff hd ha hb).symm⟩

/-- `impl Ord for IntSet` is the lexicographic order on the ascending member sequences: every
well-formed domain, all four mode combinations; and `cmp = Equal ⇔ ==` -/
theorem intset_cmp (d : Domain) (hd : DomWF d) (a b : IntSet) (ha : IInvD d a) (hb : IInvD d b) :
    a.cmp d b = lexOrd (a.elems d) (b.elems d) ∧
    (a.cmp d b = .eq ↔ a.beq d b = true) := by
  have h1 := IntSet.cmp_eq_lexOrd hd ha hb
  refine ⟨h1, ?_⟩
  rw [h1, lexOrd_eq, elems_eq_iff hd, IntSet.beq_iff hd ha hb]

/-! ## Histories and observers combined: every observer of every history reports the mathematical set -/

/-- For every history whose arguments are domain values: size, first / last, forward / backward
/ after-value iteration and range-intersection tests are those of the mathematical set
`h.spec d`, listed in ascending order: `(expand d.ranges).filter (h.spec d)`. -/
theorem history_observers (d : Domain) (hd : DomWF d) (h : Hist) (hw : h.WF d) :
    (h.run d).len d = some ((expand d.ranges).filter (h.spec d)).length ∧
    (h.run d).first d = ((expand d.ranges).filter (h.spec d)).head? ∧
    (h.run d).last d = ((expand d.ranges).filter (h.spec d)).getLast? ∧
    (∀ k, (h.run d).iterTake d k = ((expand d.ranges).filter (h.spec d)).take k) ∧
    (∀ k, (h.run d).iterBackTake d k = ((expand d.ranges).filter (h.spec d)).reverse.take k) ∧
    (∀ v k, (h.run d).iterAfterTake d v k =
      (((expand d.ranges).filter (h.spec d)).filter (fun x => decide (x > v))).take k) ∧
    (∀ a b, d.contains a = true → ((h.run d).intersectsRange d a b = true ↔
      ∃ x, a ≤ x ∧ x ≤ b ∧ d.contains x = true ∧ h.spec d x = true)) := by
  have hs := Hist.run_spec d h
  have hinv : IInvD d (h.run d) := ⟨hs.1, Hist.run_inDom d h hw⟩
  have hc : (h.run d).contains = h.spec d := funext hs.2
  rw [← hc]
  exact ⟨IntSet.len_spec hd hinv, IntSet.first_eq hd hinv, IntSet.last_eq hd hinv,
    IntSet.iterTake_eq hd hinv, IntSet.iterBackTake_eq hd hinv, IntSet.iterAfterTake_eq hd hinv,
    fun a b ha => IntSet.intersectsRange_spec hd hinv a b ha⟩

/-- For every two histories: `==`, hash-key equality, `cmp` and `intersects_set` of the built
sets are equality / lexicographic order / non-empty intersection of the mathematical sets. -/
theorem history_compare (d : Domain) (hd : DomWF d) (h1 h2 : Hist) (hw1 : h1.WF d)
    (hw2 : h2.WF d) :
    ((h1.run d).beq d (h2.run d) = true ↔
      ∀ x, d.contains x = true → h1.spec d x = h2.spec d x) ∧
    ((h1.run d).hashKey d = (h2.run d).hashKey d ↔
      ∀ x, d.contains x = true → h1.spec d x = h2.spec d x) ∧
    (h1.run d).cmp d (h2.run d) =
      lexOrd ((expand d.ranges).filter (h1.spec d)) ((expand d.ranges).filter (h2.spec d)) ∧
    ((h1.run d).intersectsSet d (h2.run d) = true ↔
      ∃ x, d.contains x = true ∧ h1.spec d x = true ∧ h2.spec d x = true) := by
  have s1 := Hist.run_spec d h1
  have s2 := Hist.run_spec d h2
  have i1 : IInvD d (h1.run d) := ⟨s1.1, Hist.run_inDom d h1 hw1⟩
  have i2 : IInvD d (h2.run d) := ⟨s2.1, Hist.run_inDom d h2 hw2⟩
  rw [← (funext s1.2 : (h1.run d).contains = h1.spec d),
    ← (funext s2.2 : (h2.run d).contains = h2.spec d)]
  exact ⟨IntSet.beq_iff hd i1 i2, IntSet.ranges_canonical hd i1 i2, IntSet.cmp_eq_lexOrd hd i1 i2,
    IntSet.intersectsSet_iff hd i1 i2⟩

/-! ## non-vacuity: concrete states -/

/-- a set with an empty page left behind by a removal … -/
example : ((BitSet.empty.insert 5).1.insert 600).1.remove 600 =
    (⟨[(0, ⟨32, 1⟩), (1, ⟨0, 0⟩)], 1⟩, true) := by decide
/-- … satisfies the invariant … -/
example : BInv ⟨[(0, ⟨32, 1⟩), (1, ⟨0, 0⟩)], 1⟩ := by
  have := (BitSet.remove_spec _ 600
    (BitSet.insert_spec _ 600 (BitSet.insert_spec _ 5 bInv_empty).1.1).1.1).1.1
  have e : ((BitSet.empty.insert 5).1.insert 600).1.remove 600 =
    (⟨[(0, ⟨32, 1⟩), (1, ⟨0, 0⟩)], 1⟩, true) := by decide
  rw [e] at this; exact this
/-- … also in inverted mode (history: insert 5, insert 600, remove 600, invert). -/
example : (Hist.invert (Hist.remove (Hist.insert (Hist.insert Hist.empty 5) 600) 600)).run
    Domain.u32 = ⟨true, ⟨[(0, ⟨32, 1⟩), (1, ⟨0, 0⟩)], 1⟩⟩ := by decide
example : (Hist.invert (Hist.remove (Hist.insert (Hist.insert Hist.empty 5) 600) 600)).WF
    Domain.u32 := by
  simp [Hist.WF, Domain.contains, Domain.u32]
/-- the page operators are bitwise -/
example : BitwiseOp opRevSubtract (fun a b => !a && b) := bitwise_revSubtract
/-- a satisfiable `RangeInDom` on a discontinuous domain and on `u16` -/
example : RangeInDom ⟨[(2, 5), (8, 16)], false, 13⟩ 0 100 := by intro h; simp at h
example : RangeInDom Domain.u16 3 65535 := by
  intro _ x h1 h2; simp [Domain.contains, Domain.u16]; omega
example : NRInv [(2, 5), (7, 9)] := by simp [NRInv]
/-- the built-in domains and a discontinuous one are well formed -/
example : DomWF Domain.u32 := domWF_single (Nat.zero_le _)
example : DomWF Domain.u16 := domWF_single (Nat.zero_le _)
example : DomWF ⟨[(2, 5), (8, 16), (510, 513), (1022, 1030), (65530, 65536),
    (4294967294, 4294967295)], false, 35⟩ :=
  ⟨by simp [RSorted],
   by simp only [length_expand_cons]; rfl,
   fun h => by simp at h⟩
/-- `IInvD` holds of the inverted state with an empty page above -/
example : IInvD Domain.u32
    ((Hist.invert (Hist.remove (Hist.insert (Hist.insert Hist.empty 5) 600) 600)).run Domain.u32) :=
  ⟨(Hist.run_spec _ _).1, Hist.run_inDom _ _ (by simp [Hist.WF, Domain.contains, Domain.u32])⟩
/-- a mixed-mode union flips the membership mode of the result (the set is "everything but 7") -/
example : (Hist.union (Hist.insert Hist.empty 5)
    (Hist.invert (Hist.insert (Hist.insert Hist.empty 5) 7))).run Domain.u32
    = ⟨true, ⟨[(0, ⟨128, 1⟩)], 1⟩⟩ := by decide +kernel
/-- `iter_ranges` of an inverted set on a discontinuous domain: ranges span domain gaps (5 → 8 is
adjacent in the domain, so removing 5, 8, 9 leaves the runs 2..4 and 10..513) -/
example : ((Hist.invert (Hist.insertRange (Hist.insert Hist.empty 5) 8 9)).run
    ⟨[(2, 5), (8, 16), (510, 513)], false, 17⟩).ranges ⟨[(2, 5), (8, 16), (510, 513)], false, 17⟩
    = [(2, 4), (10, 513)] := by decide +kernel
example : DRInv [2, 3, 4, 5, 8, 9] [(2, 4), (8, 9)] := by
  refine ⟨?_, by simp⟩
  simp only [List.pairwise_cons, List.mem_cons, List.mem_nil_iff, or_false, forall_eq, DGap]
  exact ⟨⟨by omega, 5, by simp, by omega, by omega⟩, by simp, by simp⟩

end FontVerif.C14IntSet
