/-
C04 — a compiled table reads back as the table that was written (field level, generated code).

Generic theorems over the field DSL of `Model/Field.lean` (the induction is in `Lemmas/FieldRT.lean`); the
per-(writer, reader) obligations `compat <T>_w <T>_r = true` / `compatU <T>_assumes <T>_w <T>_r = true` are generated
by `translate/writers.py` into `Gen/WriteProgs.lean` on every run and discharged by `decide`.
-/
import FontVerif.Lemmas.FieldRT
import FontVerif.Lemmas.FieldFlat
import FontVerif.Gen.WriteProgs

namespace FontVerif.C04
open FontVerif.Field

/-- **Read-back of a compiled value whose reader takes external arguments** (`FontReadWithArgs::read_with_args`:
the glyph count from `maxp`, the metric count from `hhea`, the mark class count / value formats of the parent
subtable, the axis count …).  The arguments are universally quantified: `args` is any initial view (the translator
gives argument `i` the id `argBase + i`); the writer never reads them.  Whatever the reader derives from them — an
element count, the size of a `ComputedArray` element — must be what the writer wrote: that is the listed,
*named* hypothesis (`Assume.lenIsExpr`: "the array has as many elements as the reader computes from its arguments
and the written fields", `Assume.elemLen`: "every element has the scalars of the layout the reader computes"),
evaluated on `view` = the arguments + what was written.  Under them every field reads back what was written and
exactly the written bytes are consumed. -/
theorem read_write_args (ext : Ext) (as : List Assume) (ws : List WF) (rs : List RF) (o : Obj)
    (args : View) (bytes rest : Bytes) (view : View)
    (hc : compatU as ws rs = true)
    (hassume : ∀ x ∈ as, x.holds o view)
    (he : emit ext o ws args = some (bytes, view))
    (hr : usesRest rs = true → rest = []) :
    parse rs args (bytes ++ rest) = some (view, rest) :=
  parse_emit_aux ext as o view rest hassume ws rs [] args bytes hc
    ⟨fun _ hp => (nomatch hp), fun _ hp => (nomatch hp)⟩ he hr

/-- **The owned value survives the round trip.**  Converting what the reader returns for the compiled bytes back to
an owned value (`FromObjRef`: keep the owned fields) gives the value that was written, except that fields gated by a
version/flag condition that does not hold for the *written* version/flags come back absent (`dropGated`): they were
never written.  `args`: the external arguments of a `FontReadWithArgs` reader (any values). -/
theorem owned_roundtrip_args (ext : Ext) (as : List Assume) (ws : List WF) (rs : List RF) (o : Obj)
    (args : View) (bytes rest : Bytes) (view : View)
    (hc : compatU as ws rs = true)
    (hassume : ∀ x ∈ as, x.holds o view)
    (he : emit ext o ws args = some (bytes, view))
    (hr : usesRest rs = true → rest = []) :
    ∃ view', parse rs args (bytes ++ rest) = some (view', rest) ∧ toObj ws view' = dropGated ws view' o :=
  ⟨view, read_write_args ext as ws rs o args bytes rest view hc hassume he hr,
    toObj_emit ext ws o args bytes view (compatAux_wfW as ws rs [] hc) he⟩

/-- `owned_roundtrip_args` for readers without external arguments (`FontRead`) -/
theorem owned_roundtrip (ext : Ext) (as : List Assume) (ws : List WF) (rs : List RF) (o : Obj)
    (bytes rest : Bytes) (view : View)
    (hc : compatU as ws rs = true)
    (hassume : ∀ x ∈ as, x.holds o view)
    (he : emit ext o ws [] = some (bytes, view))
    (hr : usesRest rs = true → rest = []) :
    ∃ view', parse rs [] (bytes ++ rest) = some (view', rest) ∧ toObj ws view' = dropGated ws view' o :=
  owned_roundtrip_args ext as ws rs o [] bytes rest view hc hassume he hr

/-- **Recompiling the re-read value gives the same bytes.**  If the written value is in normal form (it lists exactly
its owned fields, and a gated field is present exactly when the written version/flags require it: `o = dropGated …`),
the re-read owned value *is* the written value, so compiling it again produces the same bytes (for the same
interpretation of the hand-written computed fields). -/
theorem recompile_same_args (ext : Ext) (as : List Assume) (ws : List WF) (rs : List RF) (o : Obj)
    (args : View) (bytes rest : Bytes) (view : View)
    (hc : compatU as ws rs = true)
    (hassume : ∀ x ∈ as, x.holds o view)
    (he : emit ext o ws args = some (bytes, view))
    (hr : usesRest rs = true → rest = [])
    (hn : o = dropGated ws view o) :
    ∃ view', parse rs args (bytes ++ rest) = some (view', rest) ∧ toObj ws view' = o ∧
      emit ext (toObj ws view') ws args = some (bytes, view) := by
  have ho : toObj ws view = o := (toObj_emit ext ws o args bytes view (compatAux_wfW as ws rs [] hc) he).trans hn.symm
  exact ⟨view, read_write_args ext as ws rs o args bytes rest view hc hassume he hr, ho, ho.symm ▸ he⟩

/-- `recompile_same_args` for readers without external arguments -/
theorem recompile_same (ext : Ext) (as : List Assume) (ws : List WF) (rs : List RF) (o : Obj)
    (bytes rest : Bytes) (view : View)
    (hc : compatU as ws rs = true)
    (hassume : ∀ x ∈ as, x.holds o view)
    (he : emit ext o ws [] = some (bytes, view))
    (hr : usesRest rs = true → rest = [])
    (hn : o = dropGated ws view o) :
    ∃ view', parse rs [] (bytes ++ rest) = some (view', rest) ∧ toObj ws view' = o ∧
      emit ext (toObj ws view') ws [] = some (bytes, view) :=
  recompile_same_args ext as ws rs o [] bytes rest view hc hassume he hr hn

/-- **Read-back of a compiled value (generated code, field level), under listed assumptions.**  `read_write_args` for
readers without external arguments, for the pairs whose writer does not itself tie a count field to its array (or
whose reader computes a count / an element size the writer does not look at): the statement holds for every value
that satisfies the listed conditions (`Assume.holds`; `view` = what was written). -/
theorem read_write_under (ext : Ext) (as : List Assume) (ws : List WF) (rs : List RF) (o : Obj)
    (bytes rest : Bytes) (view : View)
    (hc : compatU as ws rs = true)
    (hassume : ∀ x ∈ as, x.holds o view)
    (he : emit ext o ws [] = some (bytes, view))
    (hr : usesRest rs = true → rest = []) :
    parse rs [] (bytes ++ rest) = some (view, rest) :=
  read_write_args ext as ws rs o [] bytes rest view hc hassume he hr

/-- **Read-back of a compiled value (generated code, field level).**  For every compatible (writer program, reader
layout) pair, every interpretation of the hand-written `compute_*` functions, and every value on which `write_into`
does not panic: the reader, run on the compiled bytes (followed by arbitrary further data `rest`, e.g. the subtables
the packer appends — unless the reader sizes an array by the end of the data), returns for every field exactly the
value the writer put there — every scalar, every constant, every count equal to the (scaled) length of its array,
every array element, and a version/flag-gated field is present exactly when the *written* version/flags require it —
and consumes exactly the bytes written. -/
theorem read_write (ext : Ext) (ws : List WF) (rs : List RF) (o : Obj) (bytes rest : Bytes) (view : View)
    (hc : compat ws rs = true)
    (he : emit ext o ws [] = some (bytes, view))
    (hr : usesRest rs = true → rest = []) :
    parse rs [] (bytes ++ rest) = some (view, rest) :=
  read_write_under ext [] ws rs o bytes rest view hc (by intro x hx; cases hx) he hr

/-- **Format enums read back as the variant that was written.**  The generated `FontWrite` of a format enum delegates
to the variant (`match self { Self::X(item) => item.write_into(writer) }`); the generated `FontRead` reads the format
field and dispatches on it.  If every variant's writer starts with its own format constant, the constants are
pairwise distinct and every variant is a compatible pair (`enumCompat`, checked per generated enum), then for every
variant and every value of it: the reader selects that same variant (it reports `v.fmt`) and returns every field as
written. -/
theorem enum_read_write (ext : Ext) (hw : Nat) (vs : List Variant) (v : Variant) (o : Obj)
    (args : View) (bytes rest : Bytes) (view : View)
    (hc : enumCompat hw vs = true) (hv : v ∈ vs)
    (hassume : ∀ x ∈ v.as, x.holds o view)
    (he : emit ext o v.w args = some (bytes, view))
    (hr : usesRest v.r = true → rest = []) :
    parseEnum hw vs args (bytes ++ rest) = some (v.fmt, view, rest) := by
  obtain ⟨hs, hcv⟩ := enumCompat_mem hw vs v hc hv
  obtain ⟨bs, hb, hlt⟩ := emit_startsWithFormat ext hw v o args bytes view hs he
  have hp := read_write_args ext v.as v.w v.r o args bytes rest view hcv hassume he hr
  unfold parseEnum
  have hl : ¬ (bytes ++ rest).length < hw := by
    rw [hb]
    simp [be_length]
  rw [if_neg hl]
  have ht : (bytes ++ rest).take hw = be hw v.fmt := by
    rw [hb, List.append_assoc, take_be_append]
  rw [ht, beVal_be _ _ hlt, enumCompat_find hw vs v hc hv]
  simp only [hp]

/-! ## array elements that are records with their own pair

The array items of a table describe an element only by scalar widths (`WItem.array elem`, `WItem.arrayV pre tail`).
When the element type is a generated record, the translator emits next to the table's pair the kernel-checked facts
`wShape <R>_w = some (elem, none)` / `some (pre, some tail)` and `rFixed <R>_r = some elem` (`…_elem` in
Gen/WriteProgs.lean); these two theorems are what the facts mean. -/

/-- **The element a table writes is what the record's own `write_into` writes.**  For a record writer program with
flat layout `sh`: whenever the record's program runs successfully, its bytes are the scalars it wrote (`emitVals`), in
order, encoded with the widths `sh` gives them — for `sh = (elem, none)` that is `emitRec elem`, the element writer of
`WItem.array elem`; for `sh = (pre, some tail)` it is `emitRec (wWidths pre tail n)`, the element writer of
`WItem.arrayV pre tail`. -/
theorem record_writes_flat_element (ext : Ext) (o : Obj) (ws : List WF) (view : View) (sh : FlatShape)
    (bytes : Bytes) (view' : View)
    (hs : wShape ws = some sh) (he : emit ext o ws view = some (bytes, view')) :
    ∃ vals, emitVals ext o ws view = some vals ∧ emitRec (shapeWidths sh vals.length) vals = some bytes ∧
      sh.1.length ≤ vals.length ∧ (sh.2 = none → vals.length = sh.1.length) := by
  obtain ⟨vals, widths, hv, hd, hr⟩ := wShape_emit ext o ws view sh bytes view' hs he
  obtain ⟨h1, h2, h3⟩ := hd.widths
  rw [← emitRec_widths_length _ _ _ hr] at h1 h2 h3
  exact ⟨vals, hv, h1.symm ▸ hr, h2, h3⟩

/-- **The element a table reads is what the fixed-size record's own reader reads**: field `i` of the record is scalar
`i` of the element. -/
theorem record_reads_flat_element (rs : List RF) (view : View) (bs : Bytes) (ws : List Nat) (h : rFixed rs = some ws) :
    parse rs view bs =
      match parseRec ws bs with
      | none => none
      | some (xs, rest) => some (pushNums (rs.map (·.id)) xs view, rest) := by
  induction rs generalizing view bs ws with
  | nil =>
    cases h
    rfl
  | cons r rs ih =>
    simp only [rFixed] at h
    split at h
    · rename_i sz ws' hc hi hr
      cases h
      simp only [parse, parseField, hc, condHolds, if_true, hi, parseRec]
      by_cases hl : bs.length < sz
      · simp only [hl, if_true]
      · simp only [hl, if_false, ih _ _ ws' hr]
        cases parseRec ws' (bs.drop sz) <;> rfl
    · cases h

open FontVerif.Gen.WriteProgs in
/-- `hhea`: every `Hhea` value reads back field by field -/
theorem hhea_read_write (ext : Ext) (o : Obj) (bytes rest : Bytes) (view : View)
    (he : emit ext o hhea_Hhea_w [] = some (bytes, view)) :
    parse hhea_Hhea_r [] (bytes ++ rest) = some (view, rest) :=
  read_write ext _ _ o bytes rest view hhea_Hhea_compat he (fun h => absurd h (by decide))

open FontVerif.Gen.WriteProgs in
/-- `maxp`: for whatever version `compute_version` returns, the version-1.0 fields are read back exactly when it is 1.0 -/
theorem maxp_read_write (ext : Ext) (o : Obj) (bytes rest : Bytes) (view : View)
    (he : emit ext o maxp_Maxp_w [] = some (bytes, view)) :
    parse maxp_Maxp_r [] (bytes ++ rest) = some (view, rest) :=
  read_write ext _ _ o bytes rest view maxp_Maxp_compat he (fun h => absurd h (by decide))

open FontVerif.Gen.WriteProgs in
/-- `OS/2`, all versions -/
theorem os2_read_write (ext : Ext) (o : Obj) (bytes rest : Bytes) (view : View)
    (he : emit ext o os2_Os2_w [] = some (bytes, view)) :
    parse os2_Os2_r [] (bytes ++ rest) = some (view, rest) :=
  read_write ext _ _ o bytes rest view os2_Os2_compat he (fun h => absurd h (by decide))

open FontVerif.Gen.WriteProgs in
/-- `gasp` round-trips exactly on the values whose `num_ranges` is the number of ranges: the generated writer
stores the user's `num_ranges` (`compat` is false, see the example below) -/
theorem gasp_read_write (ext : Ext) (o : Obj) (bytes rest : Bytes) (view : View)
    (hcount : ∀ xs, o.get 2 = .arr xs → o.get 1 = .num (1 * xs.length + 0))
    (he : emit ext o gasp_Gasp_w [] = some (bytes, view)) :
    parse gasp_Gasp_r [] (bytes ++ rest) = some (view, rest) :=
  read_write_under ext gasp_Gasp_assumes _ _ o bytes rest view gasp_Gasp_compat_under
    (by
      intro x hx
      simp only [gasp_Gasp_assumes, List.mem_singleton] at hx
      subst hx
      exact hcount)
    he (fun h => absurd h (by decide))

open FontVerif.Gen.WriteProgs in
/-- `hmtx` (a reader with external arguments): for **every** `number_of_h_metrics` (from `hhea`) and `num_glyphs` (from
`maxp`), every value whose long-metric array has `number_of_h_metrics` entries and whose bearing array has
`num_glyphs - number_of_h_metrics` (saturating) entries reads back field by field -/
theorem hmtx_read_write (ext : Ext) (numberOfHMetrics numGlyphs : Nat) (o : Obj) (bytes rest : Bytes) (view : View)
    (hlong : ∀ xs, o.get 0 = .arr xs → xs.length = numberOfHMetrics)
    (hbear : ∀ xs, o.get 1 = .arr xs → xs.length = numGlyphs - numberOfHMetrics)
    (he : emit ext o hmtx_Hmtx_w [(argBase, .num numberOfHMetrics), (argBase + 1, .num numGlyphs)] = some (bytes, view)) :
    parse hmtx_Hmtx_r [(argBase, .num numberOfHMetrics), (argBase + 1, .num numGlyphs)] (bytes ++ rest) =
      some (view, rest) := by
  refine read_write_args ext hmtx_Hmtx_assumes _ _ o _ bytes rest view hmtx_Hmtx_compat_under ?_ he
    (fun h => absurd h (by decide))
  intro x hx
  simp only [hmtx_Hmtx_assumes, List.mem_cons, List.mem_nil_iff, or_false] at hx
  rcases hx with rfl | rfl
  · intro xs hxs
    rw [hlong xs hxs, NExpr.eval_args he _ (by decide)]
    rfl
  · intro xs hxs
    rw [hbear xs hxs, NExpr.eval_args he _ (by decide)]
    rfl

open FontVerif.Gen.WriteProgs in
/-- GPOS `BaseArray` (computed-size records + an external argument): for **every** `mark_class_count` the parent
`MarkBasePosFormat1` passes down, every value whose base records all have exactly `mark_class_count` anchor offsets
(the hypothesis the generated writer does not establish) and — if there are records at all — at least one mark class
(a `ComputedArray` of zero-sized records reads back empty) reads back: the count, and every record with every offset -/
theorem base_array_read_write (ext : Ext) (markClassCount : Nat) (o : Obj) (bytes rest : Bytes) (view : View)
    (hrec : ∀ xs, o.get 1 = .arr xs → ∀ x ∈ xs, x.length = markClassCount)
    (hsz : ∀ xs, o.get 1 = .arr xs → xs ≠ [] → 0 < markClassCount)
    (he : emit ext o gpos_BaseArray_w [(argBase, .num markClassCount)] = some (bytes, view)) :
    parse gpos_BaseArray_r [(argBase, .num markClassCount)] (bytes ++ rest) = some (view, rest) := by
  have hv : evalSegs view [(.field 1000, [2])] = repGroup markClassCount [2] :=
    (evalSegs_args he _ (by decide)).trans (List.append_nil _)
  refine read_write_args ext gpos_BaseArray_assumes _ _ o _ bytes rest view gpos_BaseArray_compat_under ?_ he
    (fun h => absurd h (by decide))
  intro x hx
  simp only [gpos_BaseArray_assumes, List.mem_cons, List.mem_nil_iff, or_false] at hx
  rcases hx with rfl | rfl
  · intro xs hxs y hy
    rw [hrec xs hxs y hy, hv, repGroup_length]
    exact (Nat.mul_one _).symm
  · intro xs hxs hne
    rw [hv, elemSize_repGroup]
    exact Nat.mul_pos (hsz xs hxs hne) (by decide)

open FontVerif.Gen.WriteProgs in
/-- `ClassDef` (a format enum): whichever variant is written, the generated reader's `match format` selects the same
variant and returns every field as written -/
theorem class_def_read_write (ext : Ext) (v : Variant) (hv : v ∈ layout_ClassDef_variants) (o : Obj)
    (bytes rest : Bytes) (view : View)
    (he : emit ext o v.w [] = some (bytes, view)) :
    parseEnum 2 layout_ClassDef_variants [] (bytes ++ rest) = some (v.fmt, view, rest) := by
  have hnone : v.as = [] ∧ usesRest v.r = false := by
    simp only [layout_ClassDef_variants, List.mem_cons, List.mem_nil_iff, or_false] at hv
    rcases hv with hv | hv <;> subst hv <;> exact ⟨rfl, by decide⟩
  refine enum_read_write ext 2 _ v o [] bytes rest view layout_ClassDef_dispatch hv ?_ he ?_
  · intro x hx
    rw [hnone.1] at hx
    cases hx
  · intro h
    rw [hnone.2] at h
    cases h

/-- a table with a version, a count, a counted array of 2-field records and a version-gated trailing scalar -/
def exW : List WF :=
  [⟨0, none, .scalar .field 2⟩, ⟨1, none, .scalar (.count 2 1 0) 2⟩, ⟨2, none, .array [2, 1] none⟩,
   ⟨3, some (0, .geU16 1), .scalar .field 4⟩]
def exR : List RF :=
  [⟨0, none, .scalar 2⟩, ⟨1, none, .scalar 2⟩, ⟨2, none, .array (.affine 1 1 0) [2, 1]⟩,
   ⟨3, some (0, .geU16 1), .scalar 4⟩]
def exObj1 : Obj := [(0, .num 1), (2, .arr [[258, 3], [4, 5]]), (3, .num 65536)]
def exObj0 : Obj := [(0, .num 0), (2, .arr []), (3, .absent)]

example : compat exW exR = true := by decide +kernel
/-- the hypotheses of `read_write` / `recompile_same` are satisfiable: version 1 (gated field written) … -/
example : emit (fun _ _ => 0) exObj1 exW [] =
    some ([0, 1, 0, 2, 1, 2, 3, 0, 4, 5, 0, 1, 0, 0],
      [(3, .num 65536), (2, .arr [[258, 3], [4, 5]]), (1, .num 2), (0, .num 1)]) := by decide +kernel
example : parse exR [] [0, 1, 0, 2, 1, 2, 3, 0, 4, 5, 0, 1, 0, 0, 9, 9] =
    some ([(3, .num 65536), (2, .arr [[258, 3], [4, 5]]), (1, .num 2), (0, .num 1)], [9, 9]) := by decide +kernel
example : exObj1 = dropGated exW [(3, .num 65536), (2, .arr [[258, 3], [4, 5]]), (1, .num 2), (0, .num 1)] exObj1 := by
  decide +kernel
/-- … and version 0 (gated field absent, empty array) -/
example : emit (fun _ _ => 0) exObj0 exW [] =
    some ([0, 0, 0, 0], [(3, .absent), (2, .arr []), (1, .num 0), (0, .num 0)]) := by decide +kernel
/-- a gated field that is present although the written version does not require it is dropped (what `dropGated`
says): the round trip returns `absent` for it -/
example : dropGated exW [(3, .absent), (2, .arr []), (1, .num 0), (0, .num 0)]
    [(0, .num 0), (2, .arr []), (3, .num 7)] = exObj0 := by decide +kernel
/-- `compat` is not vacuous: swapped fields of equal width, a wrong width, a count that belongs to another array,
a reader count with different arithmetic, and a different condition are all rejected -/
example : compat [⟨0, none, .scalar .field 2⟩, ⟨1, none, .scalar .field 2⟩]
    [⟨1, none, .scalar 2⟩, ⟨0, none, .scalar 2⟩] = false := by decide +kernel
example : compat [⟨0, none, .scalar .field 2⟩] [⟨0, none, .scalar 4⟩] = false := by decide +kernel
example : compat [⟨0, none, .scalar (.count 2 1 0) 2⟩, ⟨1, none, .array [2] none⟩, ⟨2, none, .array [2] none⟩]
    [⟨0, none, .scalar 2⟩, ⟨1, none, .array (.affine 0 1 0) [2]⟩, ⟨2, none, .array .rest [2]⟩] = false := by decide +kernel
example : compat [⟨0, none, .scalar (.count 1 1 0) 2⟩, ⟨1, none, .array [2] none⟩]
    [⟨0, none, .scalar 2⟩, ⟨1, none, .array (.affine 0 1 1) [2]⟩] = false := by decide +kernel
example : compat [⟨0, none, .scalar .field 2⟩, ⟨1, some (0, .geU16 1), .scalar .field 2⟩]
    [⟨0, none, .scalar 2⟩, ⟨1, some (0, .geU16 2), .scalar 2⟩] = false := by decide +kernel
/-- the generated `gasp` writer stores the caller's `num_ranges`: not compatible without the assumption -/
example : compat Gen.WriteProgs.gasp_Gasp_w Gen.WriteProgs.gasp_Gasp_r = false := by decide +kernel
/-- and the assumption is necessary: with `num_ranges = 1` and two ranges the reader returns one range -/
example : (emit (fun _ _ => 0) [(0, .num 1), (1, .num 1), (2, .arr [[8, 2], [65535, 3]])]
      Gen.WriteProgs.gasp_Gasp_w []).map (fun p => parse Gen.WriteProgs.gasp_Gasp_r [] p.1) =
    some (some ([(2, .arr [[8, 2]]), (1, .num 1), (0, .num 1)], [255, 255, 0, 3])) := by decide +kernel

/-- a table read with one external argument `n` (id `argBase`): a count, then `count` records of `1 + n` 16-bit
scalars each (a fixed glyph id followed by `n` offsets) -/
def exWV : List WF := [⟨0, none, .scalar (.count 1 1 0) 2⟩, ⟨1, none, .arrayV [2] 2 none⟩]
def exRV : List RF := [⟨0, none, .scalar 2⟩, ⟨1, none, .arrayV (.affine 0 1 0) [(.lit 1, [2]), (.field 1000, [2])] false⟩]
def exAV : List Assume := [.elemLen 1 [(.lit 1, [2]), (.field 1000, [2])]]
example : compatU exAV exWV exRV = true := by decide +kernel
/-- the hypotheses of `read_write_args` are satisfiable: argument 2, two records of 1 + 2 scalars -/
example : emit (fun _ _ => 0) [(1, .arr [[7, 1, 2], [8, 3, 4]])] exWV [(1000, .num 2)] =
    some ([0, 2, 0, 7, 0, 1, 0, 2, 0, 8, 0, 3, 0, 4], [(1, .arr [[7, 1, 2], [8, 3, 4]]), (0, .num 2), (1000, .num 2)]) := by
  decide +kernel
example : parse exRV [(1000, .num 2)] [0, 2, 0, 7, 0, 1, 0, 2, 0, 8, 0, 3, 0, 4, 9] =
    some ([(1, .arr [[7, 1, 2], [8, 3, 4]]), (0, .num 2), (1000, .num 2)], [9]) := by decide +kernel
example : Assume.holds [(1, .arr [[7, 1, 2], [8, 3, 4]])] [(1, .arr [[7, 1, 2], [8, 3, 4]]), (0, .num 2), (1000, .num 2)]
    (.elemLen 1 [(.lit 1, [2]), (.field 1000, [2])]) := by
  intro xs hxs x hx
  have : xs = [[7, 1, 2], [8, 3, 4]] := by
    have h : Obj.get [(1, Val.arr [[7, 1, 2], [8, 3, 4]])] 1 = .arr [[7, 1, 2], [8, 3, 4]] := by decide +kernel
    rw [h] at hxs
    injection hxs with hxs
    exact hxs.symm
  subst this
  simp only [List.mem_cons, List.mem_nil_iff, or_false] at hx
  rcases hx with hx | hx <;> subst hx <;> decide
/-- the named hypothesis is necessary: with argument 1 the same value still compiles (the writer does not look at the
argument), but the reader cuts the 12 record bytes into 2-scalar records and returns something else -/
example : parse exRV [(1000, .num 1)] [0, 2, 0, 7, 0, 1, 0, 2, 0, 8, 0, 3, 0, 4] =
    some ([(1, .arr [[7, 1], [2, 8]]), (0, .num 2), (1000, .num 1)], [0, 3, 0, 4]) := by decide +kernel
/-- `compatU` rejects: a missing element-size hypothesis, a writer whose variable part has another scalar width, a
reader layout that is not "prefix then tail-width scalars", an element layout that reads a field written later -/
example : compatU [] exWV exRV = false := by decide +kernel
example : compatU exAV [⟨0, none, .scalar (.count 1 1 0) 2⟩, ⟨1, none, .arrayV [2] 4 none⟩] exRV = false := by decide +kernel
example : compatU [.elemLen 1 [(.field 1000, [2]), (.lit 1, [4])]] exWV
    [⟨0, none, .scalar 2⟩, ⟨1, none, .arrayV (.affine 0 1 0) [(.field 1000, [2]), (.lit 1, [4])] false⟩] = false := by decide +kernel
example : compatU [.elemLen 1 [(.field 2, [2])]]
    [⟨0, none, .scalar (.count 1 1 0) 2⟩, ⟨1, none, .arrayV [] 2 none⟩, ⟨2, none, .scalar .field 2⟩]
    [⟨0, none, .scalar 2⟩, ⟨1, none, .arrayV (.affine 0 1 0) [(.field 2, [2])] false⟩, ⟨2, none, .scalar 2⟩] = false := by decide +kernel
/-- a `ComputedArray` of zero-sized items reads back empty (`ComputedArray::new`: `len = data.len() / item_len`, 0 for a
zero item length): two records of an empty layout (argument 0) compile to nothing but the count, and the reader returns
no record — the pair is compatible only under the named hypothesis `elemSized` (known finding "zero-size records",
here inside the model) -/
example : parse [⟨0, none, .scalar 2⟩, ⟨1, none, .arrayV (.affine 0 1 0) [(.field 1000, [2])] true⟩] [(1000, .num 0)] [0, 2] =
    some ([(1, .arr []), (0, .num 2), (1000, .num 0)], []) := by decide +kernel
example : compatU [.elemLen 1 [(.field 1000, [2])]] [⟨0, none, .scalar (.count 1 1 0) 2⟩, ⟨1, none, .arrayV [] 2 none⟩]
    [⟨0, none, .scalar 2⟩, ⟨1, none, .arrayV (.affine 0 1 0) [(.field 1000, [2])] true⟩] = false := by decide +kernel
example : compatU [.elemLen 1 [(.field 1000, [2])], .elemSized 1 [(.field 1000, [2])]]
    [⟨0, none, .scalar (.count 1 1 0) 2⟩, ⟨1, none, .arrayV [] 2 none⟩]
    [⟨0, none, .scalar 2⟩, ⟨1, none, .arrayV (.affine 0 1 0) [(.field 1000, [2])] true⟩] = true := by decide +kernel
/-- count expressions: `transforms::add(n, 1)` of an argument; the hypothesis names the length -/
example : compatU [.lenIsExpr 0 (.add (.field 1000) (.lit 1))] [⟨0, none, .array [4] none⟩]
    [⟨0, none, .array (.expr (.add (.field 1000) (.lit 1))) [4]⟩] = true := by decide +kernel
example : compatU [] [⟨0, none, .array [4] none⟩]
    [⟨0, none, .array (.expr (.add (.field 1000) (.lit 1))) [4]⟩] = false := by decide +kernel
/-- the transcribed count functions on sample values (`DeltaFormat::value_count`: 2-bit deltas for sizes 9..=16 are 8
values in one word; `EntryFormat::map_size`; `delta_sets_len` with long words; `tuple_len`) -/
example : CFn.eval .valueCount 1 9 16 = 1 ∧ CFn.eval .valueCount 3 9 11 = 2 ∧ CFn.eval .valueCount 0x8000 9 16 = 0 ∧
    CFn.eval .mapSize 0x31 10 0 = 40 ∧ CFn.eval .deltaSetsLen 3 0x8001 4 = 30 ∧ CFn.eval .tupleLen 0xC000 5 1 = 5 := by
  decide +kernel
/-- length-prefixed elements (`VarLenArray`): two segment maps with 1 and 2 (from, to) pairs -/
example : emit (fun _ _ => 0) [(1, .arr [[5, 6], [1, 2, 3, 4]])]
      [⟨0, none, .scalar (.count 1 1 0) 2⟩, ⟨1, none, .arrayL 2 [2, 2]⟩] [] =
    some ([0, 2, 0, 1, 0, 5, 0, 6, 0, 2, 0, 1, 0, 2, 0, 3, 0, 4], [(1, .arr [[5, 6], [1, 2, 3, 4]]), (0, .num 2)]) := by
  decide +kernel
example : parse [⟨0, none, .scalar 2⟩, ⟨1, none, .arrayL (.affine 0 1 0) 2 [2, 2]⟩] []
      [0, 2, 0, 1, 0, 5, 0, 6, 0, 2, 0, 1, 0, 2, 0, 3, 0, 4, 7] =
    some ([(1, .arr [[5, 6], [1, 2, 3, 4]]), (0, .num 2)], [7]) := by decide +kernel
/-- format enums: the reader dispatches on the written constant; two variants with the same constant, or a variant
that does not start with its constant, are rejected -/
def exV1 : Variant := ⟨1, [⟨0, none, .scalar (.const 1) 2⟩, ⟨1, none, .scalar .field 2⟩], [⟨0, none, .scalar 2⟩, ⟨1, none, .scalar 2⟩], []⟩
def exV2 : Variant := ⟨2, [⟨0, none, .scalar (.const 2) 2⟩, ⟨1, none, .scalar .field 4⟩], [⟨0, none, .scalar 2⟩, ⟨1, none, .scalar 4⟩], []⟩
example : enumCompat 2 [exV1, exV2] = true := by decide +kernel
example : parseEnum 2 [exV1, exV2] [] [0, 2, 0, 0, 1, 0, 9] = some (2, [(1, .num 256), (0, .num 2)], [9]) := by decide +kernel
example : parseEnum 2 [exV1, exV2] [] [0, 3, 0, 0] = none := by decide +kernel
example : enumCompat 2 [exV1, { exV2 with fmt := 1 }] = false := by decide +kernel
example : enumCompat 2 [exV1, ⟨2, [⟨0, none, .scalar .field 2⟩], [⟨0, none, .scalar 2⟩], []⟩] = false := by decide +kernel

end FontVerif.C04
