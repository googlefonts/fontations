/-
C11 (continued) — accuracy of the f32 tent scalar for ANY number of axes.
`compute_scalar_f32` against the exact product of the rational per-axis tents (`tentFactors`,
`prodN / prodD` of Lemmas/TentLemmas.lean — the same specification the 16.16 scalar is measured
against in Props/C11Scalar.lean).  The accumulation step `err_step`
(Lemmas/TentScalar.lean) is shared with that module.  Per-step bound: Lemmas/FloatAcc.lean `step_err` (from `roundNE_half_ulp`,
`div_half_ulp`).
-/
import FontVerif.Props.C11Scalar
import FontVerif.Lemmas.FloatAcc
namespace FontVerif.C11
open FontVerif.Ieee FontVerif.FloatDelta FontVerif.Tent

/-- the unit and the per-step constant on the `2^-300` scale. -/
def U300 : Int := 2 ^ 300
def Cstep : Int := 2 ^ 277 + 2 ^ 165

theorem Cstep_nonneg : 0 ≤ Cstep := by unfold Cstep; positivity

/-- one rising / falling step in integers: from `step_err` with the `Val14` operands. -/
theorem step_err_int (ns : Nat) (qs : Int) (A B : FVal) (a b : Int)
    (hinv : ns = 0 ∨ -149 ≤ qs) (hunit : dle ns qs 1 0)
    (hA : Val14 A a) (hB : Val14 B b) (ha : 0 ≤ a) (hab : a ≤ b) (hb : 0 < b) :
    ∃ nY qY, div f32 (mul f32 (.fin false ns qs) A) B = .fin false nY qY ∧
      (nY = 0 ∨ -149 ≤ qY) ∧ dle nY qY 1 0 ∧
      (V nY qY : Int) * b - (V ns qs : Int) * a ≤ Cstep * b ∧
      -(Cstep * b) ≤ (V nY qY : Int) * b - (V ns qs : Int) * a := by
  obtain ⟨mA, eA, rfl, hmA, heA1, heA2, hvA⟩ := val14_nonneg hA ha
  obtain ⟨mB, eB, rfl, hmB, heB1, heB2, hvB⟩ := val14_nonneg hB (by omega)
  have hmB0 : mB ≠ 0 := by intro h; rw [h] at hvB; simp at hvB; omega
  have hvA' : a = ((mA * 2 ^ (eA + 14).toNat : Nat) : Int) := by
    rw [← hvA, Int.natCast_mul, Int.natCast_pow]; rfl
  have hvB' : b = ((mB * 2 ^ (eB + 14).toNat : Nat) : Int) := by
    rw [← hvB, Int.natCast_mul, Int.natCast_pow]; rfl
  have habN : mA * 2 ^ (eA + 14).toNat ≤ mB * 2 ^ (eB + 14).toNat := by
    rw [hvA', hvB'] at hab; exact_mod_cast hab
  -- a zero start multiplies to `+0` whatever its exponent says: take exponent 0 for it
  obtain ⟨q', hq', hV, hmul, hunit'⟩ : ∃ q', -149 ≤ q' ∧ V ns q' = V ns qs ∧
      mul f32 (.fin false ns q') (.fin false mA eA) = mul f32 (.fin false ns qs) (.fin false mA eA) ∧
      dle ns q' 1 0 := by
    rcases hinv with rfl | hq
    · exact ⟨0, by decide, by rw [V_zero, V_zero], by simp [mul, roundNE], dle_zero _ _ _⟩
    · exact ⟨qs, hq, rfl, rfl, hunit⟩
  obtain ⟨nY, qY, hdiv, hinvY, hdY, h1, h2⟩ :=
    step_err ns q' mA eA mB eB hq' hunit' hmA heA1 heA2 hmB heB1 heB2 hmB0 habN
  rw [hmul] at hdiv
  rw [hV] at h1 h2
  refine ⟨nY, qY, hdiv, Or.inr hinvY, hdY, ?_, ?_⟩
  · rw [hvA', hvB']
    unfold Cstep
    have : ((V nY qY * (mB * 2 ^ (eB + 14).toNat) : Nat) : Int) ≤
        ((V ns qs * (mA * 2 ^ (eA + 14).toNat) + (2 ^ 277 + 2 ^ 165) * (mB * 2 ^ (eB + 14).toNat) : Nat) : Int) := by
      exact_mod_cast h1
    push_cast at this ⊢
    linarith
  · rw [hvA', hvB']
    unfold Cstep
    have : ((V ns qs * (mA * 2 ^ (eA + 14).toNat) : Nat) : Int) ≤
        ((V nY qY * (mB * 2 ^ (eB + 14).toNat) + (2 ^ 277 + 2 ^ 165) * (mB * 2 ^ (eB + 14).toNat) : Nat) : Int) := by
      exact_mod_cast h2
    push_cast at this ⊢
    linarith

/-- the loop from any start value in `[0, 1]`: `0.0` outside the support, otherwise within
`k · (2⁻²³ + 2⁻¹³⁵)` of `start · Π nᵢ/dᵢ`. -/
theorem scalarGoF_product (axes : List (Int × Int × Int)) :
    ∀ (coords : List Int) (ns : Nat) (qs : Int), AxesI16 axes → CoordsI16 coords →
      (ns = 0 ∨ -149 ≤ qs) → dle ns qs 1 0 →
      match tentFactors axes coords with
      | none => scalarGoF (.fin false ns qs) axes coords = zero
      | some fs =>
        0 ≤ prodN fs ∧ prodN fs ≤ prodD fs ∧ 0 < prodD fs ∧
        ∃ n q, scalarGoF (.fin false ns qs) axes coords = .fin false n q ∧
          (V n q : Int) * prodD fs - (V ns qs : Int) * prodN fs ≤ fs.length * Cstep * prodD fs ∧
          -(fs.length * Cstep * prodD fs) ≤ (V n q : Int) * prodD fs - (V ns qs : Int) * prodN fs := by
  induction axes with
  | nil =>
    intro coords ns qs _ _ _ _
    simp [tentFactors, scalarGoF, prodD, prodN]
  | cons ax rest ih =>
    intro coords ns qs hax hco hinv hunit
    obtain ⟨s, p, e⟩ := ax
    have ih := fun n q => ih coords.tail n q (axesI16_tail hax) (coordsI16_tail hco)
    rcases scalarGoF_cons_cases s p e rest coords hax hco with
      ⟨hf, hg⟩ | ⟨hf, hg⟩ | ⟨A, B, a, b, hA, hB, ha0, hab, hb0, hf, hg⟩
    · rw [hf, hg]; exact ih ns qs hinv hunit
    · rw [hf, hg]
    rw [hf, hg]
    obtain ⟨nY, qY, hdiv, hinvY, hdY, e1, e2⟩ := step_err_int ns qs A B a b hinv hunit hA hB ha0 hab hb0
    rw [hdiv]
    have := ih nY qY hinvY hdY
    cases hfs : tentFactors rest coords.tail with
    | none => rw [hfs] at this; exact this
    | some fs =>
      rw [hfs] at this
      obtain ⟨hN0, hND, hD, n, q, hres, hu, hl⟩ := this
      obtain ⟨g1, g2, g3, g4, g5⟩ := err_step (a := V ns qs) (a' := V nY qY) (r := V n q)
        (n := 4 * a) (d := 4 * b) (k := fs.length) (by omega) (by omega) (by omega) hN0 hND hD
        Cstep_nonneg (by linarith [e1]) (by linarith [e2]) hu hl
      simp only [Option.map_some, prodD, prodN, List.length_cons]
      push_cast
      exact ⟨g1, g2, g3, n, q, hres, g4, g5⟩

/-- accuracy of `compute_scalar_f32`, any number of axes: the f32
scalar is `0.0` outside the support of a used axis, and otherwise a finite float `n · 2^q` with
`|n · 2^q − N/D| ≤ k · (2⁻²³ + 2⁻¹³⁵)`, where `N/D = Π (coordᵢ − startᵢ)/(peakᵢ − startᵢ)` (resp. the
falling-leg quotients) is the EXACT rational product of the OpenType per-axis tents and `k` the
number of axes that contribute a factor — on the scale `2⁻³⁰⁰`:
`|V(n, q) · D − 2³⁰⁰ · N| ≤ k · (2²⁷⁷ + 2¹⁶⁵) · D`.  One axis: `scalar_f32_one_axis_half_ulp` (Props/C11Float.lean) has the
sharp half-ulp constant. -/
theorem scalar_f32_product_spec (axes : List (Int × Int × Int)) (coords : List Int)
    (ha : AxesI16 axes) (hc : CoordsI16 coords) :
    match tentFactors axes coords with
    | none => computeScalarF32 axes coords = zero
    | some fs =>
      0 < prodD fs ∧ ∃ n q, computeScalarF32 axes coords = .fin false n q ∧
        (V n q : Int) * prodD fs - U300 * prodN fs ≤ fs.length * Cstep * prodD fs ∧
        -(fs.length * Cstep * prodD fs) ≤ (V n q : Int) * prodD fs - U300 * prodN fs := by
  have hV1 : (V 1 0 : Int) = U300 := by unfold V U300; simp
  have := scalarGoF_product axes coords 1 0 ha hc (Or.inr (by decide)) (dle_refl 1 0)
  rw [hV1] at this
  unfold computeScalarF32
  cases hf : tentFactors axes coords with
  | none => rw [hf] at this; exact this
  | some fs => rw [hf] at this; exact this.2.2

-- non-vacuity: two contributing axes, (1/3) · (1/2); the bound instance `k = 2`
example : tentFactors [(0, 3, 16384), (0, 8192, 16384)] [1, 4096] = some [(4, 12), (16384, 32768)] := by
  decide
example : AxesI16 [(0, 3, 16384), (0, 8192, 16384)] ∧ CoordsI16 [1, 4096] := by
  constructor
  · intro a ha; simp at ha; rcases ha with rfl | rfl <;> decide
  · intro c hc; simp at hc; rcases hc with rfl | rfl <;> decide
example : encode f32 (computeScalarF32 [(0, 3, 16384), (0, 8192, 16384)] [1, 4096]) = 0x3E2AAAAB := by
  decide +kernel

end FontVerif.C11
