/-
C11 (continued) — the multi-axis tent scalar against the exact product of per-axis tents.
Separate module: the error-accumulation argument uses Mathlib's `ring` / `linarith`, and Mathlib is kept out of
the import closure of the other C11 modules except Props/C11FloatAcc.lean, which imports this one (with it loaded
`2 ^ n` on `Nat` elaborates through another instance).
-/
import FontVerif.Lemmas.TentScalar
namespace FontVerif.C11
open FontVerif.Tent

/-- the loop from any start value `sc`: 0 outside the support, otherwise within `k/2` units of
`sc · Π nᵢ/dᵢ` (every contributing axis rounds once; the later factors, being at most 1, do not
enlarge earlier errors). -/
theorem scalarGo_product (axes : List (Int × Int × Int)) :
    ∀ (coords : List Int) (sc : Int), AxesOk axes → CoordsOk coords → 0 ≤ sc → sc ≤ 65536 →
      match tentFactors axes coords with
      | none => computeScalarGo sc axes coords = 0
      | some fs =>
        0 ≤ prodN fs ∧ prodN fs ≤ prodD fs ∧ 0 < prodD fs ∧
        2 * (computeScalarGo sc axes coords * prodD fs - sc * prodN fs) ≤ fs.length * prodD fs ∧
        -(fs.length * prodD fs) ≤ 2 * (computeScalarGo sc axes coords * prodD fs - sc * prodN fs) := by
  induction axes with
  | nil =>
    intro coords sc _ _ _ _
    simp [tentFactors, computeScalarGo, prodD, prodN]
  | cons a rest ih =>
    intro coords sc ha hc h0 h1
    obtain ⟨s, p, e⟩ := a
    have ih := fun q => ih coords.tail q (axesOk_tail ha) (coordsOk_tail hc)
    rcases scalarGo_cons_cases s p e rest coords ha hc with
      ⟨hf, hg⟩ | ⟨hf, hg⟩ | ⟨n, d, hn0, hnd, hd0, hd1, hf, hg⟩
    · rw [hf, hg sc h0 h1]; exact ih sc h0 h1
    · rw [hf, hg sc h0 h1]
    rw [hf, hg sc h0 h1]
    have hr := (mulDiv_tent h0 h1 hn0 hnd hd0 hd1).2
    have hb := (isRHA_formula (mul_nonneg h0 hn0) hd0).1 (mul_nonneg h0 hn0)
    generalize (sc * n + d / 2) / d = q at *
    have := ih q hr.1 (by omega)
    cases hfs : tentFactors rest coords.tail with
    | none => rw [hfs] at this; exact this
    | some fs =>
      rw [hfs] at this
      obtain ⟨hN0, hND, hD, hu, hl⟩ := this
      obtain ⟨g1, g2, g3, g4, g5⟩ := err_step (a := 2 * sc) (a' := 2 * q)
        (r := 2 * computeScalarGo q rest coords.tail) (k := fs.length) (Cc := 1) hn0 hnd hd0 hN0 hND hD
        (Int.one_nonneg) (by linarith [hb.2]) (by linarith [hb.1]) (by linarith [hu]) (by linarith [hl])
      simp only [Option.map_some, prodD, prodN, List.length_cons]
      push_cast
      exact ⟨g1, g2, g3, by linarith, by linarith⟩

/-- for every region (any number of axes) and every location,
`compute_scalar` is 0 when the location is outside the support of a used axis, and otherwise lies
within `k/2` units of 2⁻¹⁶ of the *exact* product `Π nᵢ/dᵢ` of the OpenType per-axis tent factors,
where `k` is the number of axes that contribute a factor (`|scalar·D − 2¹⁶·N| ≤ k·D/2` with
`N/D` the exact product): correctly rounded for one active axis, exact (= 1) when every used axis
sits at its peak, at most half an ulp more per further axis (the code rounds after every axis). -/
theorem scalar_product_spec (axes : List (Int × Int × Int)) (coords : List Int)
    (ha : AxesOk axes) (hc : CoordsOk coords) :
    match tentFactors axes coords with
    | none => computeScalar axes coords = 0
    | some fs =>
      0 < prodD fs ∧
      2 * (computeScalar axes coords * prodD fs - 65536 * prodN fs) ≤ fs.length * prodD fs ∧
      -(fs.length * prodD fs) ≤ 2 * (computeScalar axes coords * prodD fs - 65536 * prodN fs) := by
  have := scalarGo_product axes coords 65536 ha hc (by omega) (by omega)
  unfold computeScalar
  cases hf : tentFactors axes coords with
  | none => rw [hf] at this; exact this
  | some fs => rw [hf] at this; exact this.2.2

/-- the loop is monotone in the scalar it starts from (every step multiplies by a fixed
non-negative factor and rounds). -/
theorem scalarGo_mono_start (axes : List (Int × Int × Int)) :
    ∀ (coords : List Int) (sc sc' : Int), AxesOk axes → CoordsOk coords → 0 ≤ sc → sc ≤ sc' →
      sc' ≤ 65536 → computeScalarGo sc axes coords ≤ computeScalarGo sc' axes coords := by
  induction axes with
  | nil => intro coords sc sc' _ _ _ h _; exact h
  | cons a rest ih =>
    intro coords sc sc' ha hc h0 hle h1
    obtain ⟨s, p, e⟩ := a
    have ih := fun q q' => ih coords.tail q q' (axesOk_tail ha) (coordsOk_tail hc)
    rcases scalarGo_cons_cases s p e rest coords ha hc with
      ⟨_, hg⟩ | ⟨_, hg⟩ | ⟨n, d, hn0, hnd, hd0, hd1, _, hg⟩
    · rw [hg sc h0 (by omega), hg sc' (by omega) h1]; exact ih sc sc' h0 hle h1
    · rw [hg sc h0 (by omega), hg sc' (by omega) h1]
    · rw [hg sc h0 (by omega), hg sc' (by omega) h1]
      exact ih _ _ (mulDiv_tent h0 (by omega) hn0 hnd hd0 hd1).2.1
        (Int.ediv_le_ediv hd0 (by have := Int.mul_le_mul_of_nonneg_right hle hn0; omega))
        (by have := (mulDiv_tent (by omega) h1 hn0 hnd hd0 hd1).2.2; omega)

theorem coordsOk_set {coords : List Int} (h : CoordsOk coords) (i : Nat) {c : Int} (hc : inI16 c) :
    CoordsOk (coords.set i c) := by
  intro x hx
  rcases List.mem_or_eq_of_mem_set hx with h1 | h1
  · exact h x h1
  · rw [h1]; exact hc

theorem scalarGo_mono_coord (axes : List (Int × Int × Int)) :
    ∀ (i : Nat) (coords : List Int) (sc : Int) (a : Int × Int × Int) (c2 : Int), AxesOk axes →
      CoordsOk coords → inI16 c2 → 0 ≤ sc → sc ≤ 65536 → axes[i]? = some a → i < coords.length →
      ¬ Ignored a.1 a.2.1 a.2.2 → coords.getD i 0 ≤ c2 →
      (a.1 ≤ coords.getD i 0 → c2 ≤ a.2.1 →
        computeScalarGo sc axes coords ≤ computeScalarGo sc axes (coords.set i c2)) ∧
      (a.2.1 ≤ coords.getD i 0 → c2 ≤ a.2.2 →
        computeScalarGo sc axes (coords.set i c2) ≤ computeScalarGo sc axes coords) := by
  induction axes with
  | nil => intro i coords sc a c2 _ _ _ _ _ h; simp at h
  | cons b rest ih =>
    intro i coords sc a c2 ha hc hc2 h0 h1 hget hi hni hle
    obtain ⟨s, p, e⟩ := b
    have hrest := axesOk_tail ha
    cases coords with
    | nil => simp at hi
    | cons c1 tl =>
      obtain ⟨(hC1 : inF (Fixed.f2dot14ToFixed c1)), hS, hP, hE⟩ := operands_inF ha hc
      have htl : CoordsOk tl := coordsOk_tail hc
      cases i with
      | zero =>
        cases List.getElem?_cons_zero.symm.trans hget
        simp only [List.getD_cons_zero] at hle ⊢
        simp only [List.set_cons_zero, computeScalarGo, List.headD_cons, List.tail_cons]
        have hni' := mt (ignored_scale s p e).mp hni
        have hC2 := inF_of_f2dot14 hc2
        constructor
        · intro hs1 hp2
          obtain ⟨r1, r2, e1, e2, b0, b12, b2⟩ := axisStep_mono_up sc _ _ _ _ _ hC1 hC2 hS hP hE h0 h1 hni'
            ((f2dot14_le _ _).2 hs1) ((f2dot14_le _ _).2 hle) ((f2dot14_le _ _).2 hp2)
          rw [e1, e2]
          exact scalarGo_mono_start rest tl r1 r2 hrest htl b0 b12 (by omega)
        · intro hp1 he2
          obtain ⟨r1, r2, e1, e2, b0, b21, b1⟩ := axisStep_mono_down sc _ _ _ _ _ hC1 hC2 hS hP hE h0 h1 hni'
            ((f2dot14_le _ _).2 hp1) ((f2dot14_le _ _).2 hle) ((f2dot14_le _ _).2 he2)
          rw [e1, e2]
          exact scalarGo_mono_start rest tl r2 r1 hrest htl b0 b21 (by omega)
      | succ j =>
        simp only [List.getElem?_cons_succ] at hget
        simp only [List.getD_cons_succ] at hle ⊢
        simp only [List.set_cons_succ, computeScalarGo, List.headD_cons, List.tail_cons]
        cases hstep : axisStep sc (Fixed.f2dot14ToFixed c1) (Fixed.f2dot14ToFixed s)
            (Fixed.f2dot14ToFixed p) (Fixed.f2dot14ToFixed e) with
        | none => exact ⟨fun _ _ => Int.le_refl 0, fun _ _ => Int.le_refl 0⟩
        | some sc' =>
          have hr := axisStep_range sc _ _ _ _ hC1 hS hP hE h0 h1 sc' hstep
          exact ih j tl sc' a c2 hrest htl hc2 hr.1 (by omega) hget (by simpa using hi) hni hle

/-- moving one coordinate towards the peak of its (used) axis, all
other coordinates fixed, never decreases the scalar — rising leg `start ≤ c ≤ c' ≤ peak` and,
symmetrically, falling leg `peak ≤ c ≤ c' ≤ end` never increases it; for any number of axes. -/
theorem scalar_monotone_on_leg (axes : List (Int × Int × Int)) (coords : List Int) (i : Nat)
    (a : Int × Int × Int) (c2 : Int) (ha : AxesOk axes) (hc : CoordsOk coords) (hc2 : inI16 c2)
    (hget : axes[i]? = some a) (hi : i < coords.length) (hni : ¬ Ignored a.1 a.2.1 a.2.2)
    (hle : coords.getD i 0 ≤ c2) :
    (a.1 ≤ coords.getD i 0 → c2 ≤ a.2.1 →
      computeScalar axes coords ≤ computeScalar axes (coords.set i c2)) ∧
    (a.2.1 ≤ coords.getD i 0 → c2 ≤ a.2.2 →
      computeScalar axes (coords.set i c2) ≤ computeScalar axes coords) :=
  scalarGo_mono_coord axes i coords 65536 a c2 ha hc hc2 (by omega) (by omega) hget hi hni hle

example : tentFactors [(0, 16384, 16384), (-16384, -8192, 0)] [4096, -4096] =
    some [(16384, 65536), (16384, 32768)] := by decide
example : computeScalar [(0, 16384, 16384), (-16384, -8192, 0)] [4096, -4096] = 8192 := by decide

end FontVerif.C11
