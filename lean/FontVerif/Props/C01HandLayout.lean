/-
C01 (hand-written code) — termination, iteration bounds, in-range indices / slices and absence of arithmetic
traps for the models of Model/HandLayout.lean ⇄ read-fonts/src/tables/layout.rs / gsub.rs / gpos.rs / gdef.rs and the closure modules (Coverage / ClassDef lookups and iterators, Device / VariationIndex decoding, lookup-list walking, context rule walking, the alternate-feature offsets of FeatureVariations; its condition sets are not read).
Tied to the real functions by harness group `layout.model` (`hl.*` driver commands).
-/
import FontVerif.Model.HandLayout
import FontVerif.Lemmas.HandLayout
set_option linter.unusedVariables false
namespace FontVerif.C01HandLayout
open FontVerif.ReadIter FontVerif.HandRead FontVerif.HandLayout FontVerif.Layout

/-! ## Coverage tables

All statements hold for ARBITRARY record data — unsorted, overlapping, inverted (`start > end`) —
because the binary search is the transcription of `core`'s loop, whose index stays inside the slice
whatever the comparison function answers (`BinSearch.loop_range`). -/

/-- **`CoverageFormat1::get` never panics and returns an index only for a covered glyph**: `Some(i)`
implies `gid ≤ 0xFFFF`, `i < glyph_count` and `glyph_array[i] == gid`. -/
theorem coverage1_get_safe (xs : List Nat) (g : Nat) (hlen : xs.length ≤ 65536) :
    cov1Get xs g ≠ .trap ∧
    ∀ i, cov1Get xs g = .val (some i) → g < 65536 ∧ i < xs.length ∧ xs[i]? = some g :=
  ⟨cov1Get_ne_trap xs g, fun _ h => cov1Get_some hlen h⟩

/-- **`CoverageFormat2::get` never panics** — neither the indexing `range_records()[idx]` nor the
`u16` subtraction `gid - start_glyph_id` (the search only answers `Ok(idx)` for a record with
`start ≤ gid ≤ end`) nor the index addition (`checked_add`) — **and returns an index only for a glyph
inside a record**: `Some(i)` implies some record has `start ≤ gid ≤ end` and
`i = start_coverage_index + (gid − start) ≤ 0xFFFF`.  It computes exactly C16's `Layout.Coverage.get`. -/
theorem coverage2_get_safe (rs : List RangeRec) (g : Nat) :
    cov2Get rs g ≠ .trap ∧ cov2Get rs g = .val ((Coverage.fmt2 rs).get g) ∧
    ∀ i, cov2Get rs g = .val (some i) →
      g < 65536 ∧ i < 65536 ∧ ∃ r ∈ rs, r.start ≤ g ∧ g ≤ r.end_ ∧ i = r.startCov + (g - r.start) := by
  refine ⟨?_, cov2Get_val rs g, fun i h => cov2Get_some h⟩
  rw [cov2Get_val]; simp

/-- `CoverageTable::get` for both formats -/
theorem coverage_get_never_traps (c : Coverage) (g : Nat) : covGet c g ≠ .trap := by
  cases c with
  | fmt1 xs => exact cov1Get_ne_trap xs g
  | fmt2 rs => exact (coverage2_get_safe rs g).1

/-- **`CoverageTable::iter` of a format 2 table yields exactly Σ max(0, end − start + 1) glyphs** (a format 1
table yields its glyph array: `covIter (.fmt1 xs) = xs` by definition), at most `65536 · range_count` for `u16`
fields, and every glyph it yields lies inside one of the records: the iterator is a `flat_map` over the record
list of `RangeInclusive<u16>`s, empty for an inverted record. -/
theorem coverage_iter_bounded (rs : List RangeRec) :
    (covIter (.fmt2 rs)).length = popSum (rs.map (fun r => (r.start, r.end_))) ∧
    ((∀ r ∈ rs, r.end_ < 65536) → (covIter (.fmt2 rs)).length ≤ 65536 * rs.length) ∧
    ∀ g ∈ covIter (.fmt2 rs), ∃ r ∈ rs, r.start ≤ g ∧ g ≤ r.end_ := by
  refine ⟨expandRanges_length rs, fun h => ?_, fun g hg => mem_expandRanges.mp hg⟩
  simp only [covIter, expandRanges_length]
  exact popSum_map_le rs _ h

/-- **`population` never overflows** and equals the number of glyphs `iter` yields: the `usize` fold
`acc + record.population()` stays below `65536 · 65535`, and the guarded `end - start + 1` never
underflows (inverted records count 0). -/
theorem coverage_population_total (c : Coverage) (hc : U16Cov c) : covPop c = .val (covIter c).length := by
  cases c with
  | fmt1 xs => rfl
  | fmt2 rs =>
    simp only [covPop, covIter, expandRanges_length]
    exact popFold_u16 rs _ hc.1 (fun r hr => (hc.2 r hr).2.1)

/-- **`intersects` never panics and never reports a glyph that is not covered**, whichever side of the
cost comparison `count > glyphs.len().saturating_mul(num_bits) / 2` is taken: `true` implies a member
of the set lies in the glyph array / inside a record. -/
theorem coverage_intersects_safe (c : Coverage) (s : GSet) (hc : U16Cov c) :
    ∃ b, covIntersects c s = .val b ∧
      (b = true → ∃ g ∈ s, match c with
        | .fmt1 xs => g ∈ xs
        | .fmt2 rs => ∃ r ∈ rs, r.start ≤ g ∧ g ≤ r.end_) := by
  cases c with
  | fmt1 xs =>
    simp only [covIntersects, cov1Intersects]
    split
    · obtain ⟨b, hb, hb2⟩ := anyGet_val (cov1Get xs) (cov1Get_ne_trap xs) s
      refine ⟨b, hb, fun hbt => ?_⟩
      obtain ⟨g, hg, i, hv⟩ := hb2 hbt
      exact ⟨g, hg, List.mem_of_getElem? (cov1Get_some (Nat.le_of_lt hc.1) hv).2.2⟩
    · refine ⟨_, rfl, fun hbt => ?_⟩
      simp only [List.any_eq_true] at hbt
      obtain ⟨g, hg, hs⟩ := hbt
      exact ⟨g, by simpa using hs, hg⟩
  | fmt2 rs =>
    simp only [covIntersects, cov2Intersects]
    split
    · obtain ⟨b, hb, hb2⟩ := anyGet_val (cov2Get rs) (fun g => (coverage2_get_safe rs g).1) s
      refine ⟨b, hb, fun hbt => ?_⟩
      obtain ⟨g, hg, i, hv⟩ := hb2 hbt
      obtain ⟨_, _, r, hr, h1, h2, _⟩ := cov2Get_some hv
      exact ⟨g, hg, r, hr, h1, h2⟩
    · refine ⟨_, rfl, fun hbt => ?_⟩
      simp only [List.any_eq_true, rangeIntersects, GSet.intersectsRange, decide_eq_true_eq] at hbt
      obtain ⟨r, hr, g, hg, h1, h2⟩ := hbt
      exact ⟨g, hg, r, hr, h1, h2⟩

/-- **`ClassDefFormat1::get` never panics** (the `u16` subtraction `gid - start_glyph_id` is guarded by
`gid < start → 0`, the array access is `get(..).unwrap_or(0)`) **and a non-zero class is the array entry
of that glyph**. -/
theorem classdef1_get_safe (start : Nat) (cs : List Nat) (g : Nat) :
    ∃ c, cls1Get start cs g = .val c ∧ (c ≠ 0 → start ≤ g ∧ cs[g - start]? = some c) := by
  unfold cls1Get
  by_cases h : g < start
  · exact ⟨0, by simp [h], by simp⟩
  · simp only [h, if_false, subTrap, Res.bind]
    have hsg : start ≤ g := by omega
    rw [if_pos hsg]
    refine ⟨_, rfl, fun hc => ⟨hsg, ?_⟩⟩
    cases hg : cs[g - start]? with
    | none => simp [hg] at hc
    | some v => simp

/-- **`ClassDefFormat2::get` returns a non-zero class only from a record that contains the glyph**
(`Err(ix) → ix.saturating_sub(1)`, `records.get(ix)`: no index can panic) -/
theorem classdef2_get_safe (rs : List ClassRangeRec) (g c : Nat) (h : cls2Get rs g = .val c) (hc : c ≠ 0) :
    ∃ r ∈ rs, r.start ≤ g ∧ g ≤ r.end_ ∧ r.cls = c := by
  simp only [cls2Get, ClassDef.get] at h
  injection h with h
  split at h
  · rename_i r hr
    split at h
    · rename_i hin
      exact ⟨r, List.mem_of_getElem? hr, hin.1, hin.2, h⟩
    · exact absurd h.symm hc
  · exact absurd h.symm hc

/-- `ClassDef::get` never panics -/
theorem classdef_get_never_traps (c : ClassDef) (g : Nat) : clsGet c g ≠ .trap := by
  rw [clsGet_eq]; nofun

/-- **`ClassDef::iter` is bounded**: format 1 yields `glyph_count` items whose glyph ids stay `u16`s
(`saturating_add`), format 2 yields Σ max(0, end − start + 1) ≤ `65536 · class_range_count` items, each
inside its record and carrying that record's class. -/
theorem classdef_iter_bounded (c : ClassDef) :
    (match c with
      | .fmt1 s cs => (clsIter c).length = cs.length ∧ ∀ p ∈ clsIter c, p.1 ≤ 65535
      | .fmt2 rs => (clsIter c).length = popSum (rs.map (fun r => (r.start, r.end_))) ∧
          ((∀ r ∈ rs, r.end_ < 65536) → (clsIter c).length ≤ 65536 * rs.length) ∧
          ∀ p ∈ clsIter c, ∃ r ∈ rs, r.start ≤ p.1 ∧ p.1 ≤ r.end_ ∧ p.2 = r.cls) := by
  cases c with
  | fmt1 s cs =>
    simp only [clsIter, cls1Iter]
    refine ⟨by simp, ?_⟩
    intro p hp
    obtain ⟨i, hi, hp2⟩ := List.getElem_of_mem hp
    simp only [List.getElem_zipWith] at hp2
    rw [← hp2]
    exact Nat.min_le_right _ _
  | fmt2 rs =>
    simp only [clsIter]
    refine ⟨cls2Iter_length rs, fun h => ?_, fun p hp => mem_cls2Iter hp⟩
    rw [cls2Iter_length]
    exact popSum_map_le rs _ h

/-- `ClassDef::population` never overflows and equals the number of items `iter` yields -/
theorem classdef_population_total (c : ClassDef) (hc : U16Cls c) : clsPop c = .val (clsIter c).length := by
  cases c with
  | fmt1 s cs => simp [clsPop, clsIter, cls1Iter]
  | fmt2 rs =>
    simp only [clsPop, clsIter, cls2Iter_length]
    exact popFold_u16 rs _ hc.1 (fun r hr => (hc.2 r hr).2.1)

/-- the hypotheses `U16Cov` / `U16Cls` hold for everything the generated readers hand out -/
theorem readers_hand_out_u16 (d : List Nat) (hb : ∀ b ∈ d, b < 256) :
    (∀ c, covRead d = .ok c → U16Cov c) ∧ (∀ c, clsRead d = .ok c → U16Cls c) :=
  ⟨covRead_u16 d hb, clsRead_u16 d hb⟩

/-- **`Device::read` accepts exactly `value_count` delta words inside the data** -/
theorem device_read_words (d : List Nat) (v : Dev) (h : devRead d = .ok v) :
    v.words.length = valueCount v.fmt v.start v.end_ ∧ 6 + 2 * v.words.length ≤ d.length := by
  unfold devRead at h
  cases hs : readAt d 0 2 with
  | none => simp [hs] at h
  | some s =>
    cases he : readAt d 2 2 with
    | none => simp [hs, he] at h
    | some e =>
      cases hf : readAt d 4 2 with
      | none => simp [hs, he, hf] at h
      | some f =>
        simp only [hs, he, hf, checkedMul] at h
        by_cases hm : valueCount f s e * 2 ≤ MAXU
        · rw [if_pos hm] at h
          simp only [] at h
          by_cases hl : 6 + valueCount f s e * 2 ≤ d.length
          · rw [if_pos hl] at h
            injection h with h
            subst h
            simp only [u16sAt, List.length_map, List.length_range]
            exact ⟨trivial, by omega⟩
          · rw [if_neg hl] at h; cases h
        · rw [if_neg hm] at h; cases h

/-- **`Device::iter` never panics and yields exactly `end_size − start_size + 1` deltas** for the three
delta formats with `start_size ≤ end_size`, and nothing otherwise (inverted size range, unknown format,
`VariationIndex`) — for every table whose word count is `value_count(..)`, which is what `Device::read`
guarantees.  Every delta is decoded from one word with a shift below 16 into slot `i < 8` and is an
`i8`.  In particular `max_per_word = 16 / bits` is never evaluated with `bits = 0`. -/
theorem device_iter_exact (v : Dev) (hw : v.words.length = valueCount v.fmt v.start v.end_) :
    ∃ vs, devIter v = .val vs ∧
      vs.length = (if (v.fmt = 1 ∨ v.fmt = 2 ∨ v.fmt = 3) ∧ v.start ≤ v.end_ then v.end_ - v.start + 1 else 0) ∧
      ∀ x ∈ vs, -128 ≤ x ∧ x ≤ 127 := by
  rw [valueCount_eq] at hw
  unfold devIter
  by_cases hf : v.fmt = 1 ∨ v.fmt = 2 ∨ v.fmt = 3
  · obtain ⟨vs, h1, h2, h3⟩ := devWords_val v.fmt hf
      (if v.fmt = 1 then 8 else if v.fmt = 2 then 4 else if v.fmt = 3 then 2 else 0)
      (by rcases hf with h | h | h <;> simp [h]) v.words (v.end_ - v.start + 1)
    refine ⟨vs, h1, ?_, h3⟩
    rw [h2]
    simp only [hf, true_and]
    rcases hf with h | h | h <;> simp only [h, if_true, Nat.reduceEqDiff, if_false] at hw ⊢ <;>
      exact devLen_eq _ _ _ _ (by decide) hw
  · have h1 : v.fmt ≠ 1 := fun h => hf (Or.inl h)
    have h2 : v.fmt ≠ 2 := fun h => hf (Or.inr (Or.inl h))
    have h3 : v.fmt ≠ 3 := fun h => hf (Or.inr (Or.inr h))
    simp only [h1, h2, h3, if_false] at hw
    have : v.words = [] := List.eq_nil_of_length_eq_zero hw
    exact ⟨[], by simp [this, devWords], by simp [hf], by simp⟩

/-- the panic is representable: a table of a format without deltas that nevertheless carried a delta
word WOULD divide by zero — `value_count` returning 0 for those formats is what excludes it -/
theorem device_iter_trap_without_value_count (v : Dev) (hf : ¬ (v.fmt = 1 ∨ v.fmt = 2 ∨ v.fmt = 3))
    (hw : v.words ≠ []) : devIter v = .trap := by
  unfold devIter
  cases hws : v.words with
  | nil => exact absurd hws hw
  | cons w rest => simp [devWords, iterPackedValues_trap w v.fmt _ hf, Res.bind]

/-- `Device::read` + `Device::iter` on any bytes: no panic -/
theorem device_read_iter_never_traps (d : List Nat) (v : Dev) (h : devRead d = .ok v) : devIter v ≠ .trap := by
  obtain ⟨vs, hv, _⟩ := device_iter_exact v (device_read_words d v h).1
  simp [hv]

/-- **`index_for_tag` returns only an index whose record carries the tag** (for any record order) -/
theorem index_for_tag_sound (tags : List Nat) (t i : Nat) (hlen : tags.length ≤ 65536)
    (h : indexForTag tags t = some i) : i < tags.length ∧ tags[i]? = some t := by
  obtain ⟨j, rfl, hj, he, hm⟩ := indexForTag_some h
  rw [hm hlen]
  exact ⟨hj, he⟩

theorem selectLoop_sound (recs : List Nat) (hlen : recs.length ≤ 65536) :
    ∀ (ts : List Nat) (t i : Nat), selectLoop recs ts = some (t, i) → t ∈ ts ∧ i < recs.length ∧ recs[i]? = some t := by
  intro ts
  induction ts with
  | nil => intro t i h; simp [selectLoop] at h
  | cons a rest ih =>
    intro t i h
    unfold selectLoop at h
    cases hx : indexForTag recs a with
    | some j =>
      rw [hx] at h
      injection h with h
      injection h with h1 h2
      subst h1; subst h2
      have := index_for_tag_sound recs a j hlen hx
      exact ⟨by simp, this.1, this.2⟩
    | none =>
      rw [hx] at h
      have := ih t i h
      exact ⟨by simp [this.1], this.2.1, this.2.2⟩

/-- **`ScriptList::select` returns a valid record index whose tag is the selected tag**; a
non-fallback selection is one of the requested tags, a fallback is `DFLT` / `dflt` / `latn`.  Both loops
run over their tag lists once (structural recursion): at most `tags.len() + 3` binary searches. -/
theorem select_sound (recs tags : List Nat) (hlen : recs.length ≤ 65536) (t i : Nat) (fb : Bool)
    (h : select recs tags = some (t, i, fb)) :
    i < recs.length ∧ recs[i]? = some t ∧
    (fb = false → t ∈ tags) ∧
    (fb = true → t = tg 'D' 'F' 'L' 'T' ∨ t = tg 'd' 'f' 'l' 't' ∨ t = tg 'l' 'a' 't' 'n') := by
  unfold select at h
  cases h1 : selectLoop recs tags with
  | some p =>
    rw [h1] at h
    cases h
    have := selectLoop_sound recs hlen tags _ _ h1
    exact ⟨this.2.1, this.2.2, fun _ => this.1, nofun⟩
  | none =>
    rw [h1] at h
    cases h2 : selectLoop recs [tg 'D' 'F' 'L' 'T', tg 'd' 'f' 'l' 't', tg 'l' 'a' 't' 'n'] with
    | none => rw [h2] at h; cases h
    | some p =>
      rw [h2] at h
      cases h
      have := selectLoop_sound recs hlen _ _ _ h2
      exact ⟨this.2.1, this.2.2, nofun, fun _ => by simpa using this.1⟩

/-- **`ScriptTags::from_unicode` never indexes outside its `[Tag; 3]`** and `as_slice` (`&tags[..len]`)
never slices past it: for EVERY script tag the result has 1 to 3 tags (`len ≤ 3` by construction: at
most the version-3 tag, the new tag and the old tag). -/
theorem script_tags_from_unicode_safe (u : Nat) :
    ∃ ts, scriptTagsFromUnicode u = .val ts ∧ 1 ≤ ts.length ∧ ts.length ≤ 3 := by
  unfold scriptTagsFromUnicode
  cases hn : newTagFromUnicode u with
  | none => simp [setTag, Res.bind]
  | some nt =>
    by_cases hm : nt ≠ tg 'm' 'y' 'm' '2'
    · simp [hm, setTag, Res.bind]
    · simp [hm, setTag, Res.bind]

/-! ## GSUB glyph closure

Statements are over ARBITRARY parsed tables (`GsubT` with every lazily resolved table an `Ok` value or
any `ReadError`): unsorted / overlapping coverage, lookup and sequence indices beyond their arrays,
null and dangling offsets, contextual lookups that reference themselves. -/

/-- **no subtable's `add_reachable_glyphs` can panic**, in particular not at
`coverage.iter().nth(i).unwrap()` (the index `i` is an index of `coverage.iter().zip(rule_sets())`) nor at
`sequence_index as usize - 1` (taken only for `sequence_index ≠ 0`; an index beyond the input sequence
is skipped by `.get(..)`) nor in `ClassDef::get`.  The glyph set only grows and stays a set of `u16`s,
`finished_lookups` / `cur_glyphs` are untouched, and at most `subCost s` (= the number of sequence
lookup records) todos are pushed. -/
theorem subtable_closure_safe (s : Sub) (c : Cx) (h : Good c) :
    subAdd c s ≠ .trap ∧ ∀ c', subAdd c s = .ok c' → Eff c c' (subCost s) :=
  (subAdd_safe s c h).sat

/-- **`closure_glyphs_once` terminates**: the `while let Some(todo) = ctx.pop_a_todo()` loop, in which
contextual lookups push further (even their own) lookups, makes at most `onceFuel L K R` trips for a
lookup list of `L` lookups each with at most `K` sequence lookup records and `R` reachable lookups —
`needs_to_do_lookup` lets a lookup run again only when the closure grew or its set of already covered
glyphs grows, and both are bounded by the 65536 glyph ids.  No panic; the glyphs only grow. -/
theorem closure_once_terminates (g : GsubT) (reachable : List Nat) (c : Cx) (hG : Good c) (hF : FinOk c)
    (ht : c.todos = []) (fuel : Nat)
    (hfuel : ∀ ls, g.lookups = .ok ls → onceFuel ls.length (maxCost ls) reachable.length ≤ fuel) :
    ∃ r, closureOnce g reachable fuel c = some r ∧ r ≠ .trap ∧
      ∀ c', r = .ok c' → Good c' ∧ (∀ x ∈ c.glyphs, x ∈ c'.glyphs) ∧ c'.todos = [] := by
  obtain ⟨r, hr, hp⟩ := closureOnce_terminates g reachable c hG hF ht fuel hfuel
  exact ⟨r, hr, hp.1, fun c' h => ⟨(hp.2 c' h).1.good, (hp.2 c' h).1.sub, (hp.2 c' h).2⟩⟩

/-- **`Gsub::closure_glyphs` terminates and never panics, for every table and every input set**: the
model's fuel (65538 passes, `onceFuel` todo-loop trips per pass) always suffices — every pass but the
last finds a new glyph id and there are 65536 of them.  The result is `Err(ReadError)` or a set of `u16`
glyph ids that contains the input set. -/
theorem closure_glyphs_terminates (g : GsubT) (glyphs : G16) (hg : Inc16 glyphs) :
    ∃ r, closureGlyphs g glyphs = some r ∧ r ≠ .trap ∧
      ∀ gs, r = .ok gs → Inc16 gs ∧ gs.length ≤ 65536 ∧ ∀ x ∈ glyphs, x ∈ gs := by
  unfold closureGlyphs
  cases hr : findReachable g with
  | error e => exact ⟨.err e, rfl, CR.Sat.err⟩
  | ok reachable =>
    simp only []
    have hfuel : ∀ ls, g.lookups = .ok ls → onceFuel ls.length (maxCost ls) reachable.length ≤
        closureFuel g reachable := by
      intro ls hl; simp [closureFuel, hl]
    have hG : Good ⟨glyphs, none, [], []⟩ := ⟨hg, by simp⟩
    have hF : FinOk ⟨glyphs, none, [], []⟩ := by intro e he; simp at he
    obtain ⟨r, hr2, hp⟩ := closureLoop_terminates g reachable _ hfuel 65538 (0, 0) ⟨glyphs, none, [], []⟩ hG hF rfl
      (by simp only []; omega)
    rw [hr2]
    exact hp.cases (fun e => ⟨.err e, rfl, CR.Sat.err⟩)
      fun c hc => ⟨.ok c.glyphs, rfl, CR.Sat.ok ⟨hc.1.good.1, hc.1.good.1.length_le, hc.1.sub⟩⟩

/-- the fixpoint loop alone: at most `65536 − |glyphs| + 2` passes (`fuelO`) -/
theorem closure_passes_bounded (g : GsubT) (reachable : List Nat) (fuelI : Nat)
    (hfuel : ∀ ls, g.lookups = .ok ls → onceFuel ls.length (maxCost ls) reachable.length ≤ fuelI)
    (c : Cx) (hG : Good c) (hF : FinOk c) (ht : c.todos = []) (prev : Nat × Nat) :
    ∃ r, closureLoop g reachable fuelI (65536 - c.glyphs.length + 2) prev c = some r ∧ r ≠ .trap := by
  obtain ⟨r, hr, hp⟩ := closureLoop_terminates g reachable fuelI hfuel _ prev c hG hF ht (Nat.le_refl _)
  exact ⟨r, hr, hp.1⟩

/-- **`SubstitutionLookup::subtables()` + `Subtables::iter` yield exactly `sub_table_count` items** (each
`Ok` or an error value), for plain and extension lookups alike, and the offsets they are read from lie
inside the lookup table: the iterator walks the offset array once. -/
theorem lookup_subtables_count (d : List Nat) (p : Nat) (lk : Lookup) (subs : List (PR Sub))
    (h : lookupAt d p = .ok lk) (h2 : lk = .ok subs) :
    subs.length = HandRead.beAt d (p + 4) 2 ∧ p + 6 + 2 * subs.length ≤ d.length := by
  subst h2
  unfold lookupAt at h
  obtain ⟨ty, -, h⟩ := Do.bind_ok h
  obtain ⟨flag, -, h⟩ := Do.bind_ok h
  obtain ⟨n, h3, h⟩ := Do.bind_ok h
  obtain ⟨u, h4, h⟩ := Do.bind_ok h
  have hn := rd16_ok h3
  have hlen := need_ok h4
  have key : ∀ g : PR Nat → PR Sub, subs = (offsets16 d p (p + 6) n).map g →
      subs.length = HandRead.beAt d (p + 4) 2 ∧ p + 6 + 2 * subs.length ≤ d.length := by
    intro g hs
    simp only [hs, List.length_map, offsets16, u16sAt, List.length_range]
    exact ⟨hn.1, by omega⟩
  split at h
  · cases h
  · split at h
    · exact key _ (Except.ok.inj (Except.ok.inj h)).symm
    · obtain ⟨first, -, h⟩ := Do.bind_ok (Except.ok.inj h)
      obtain ⟨u2, -, h⟩ := Do.bind_ok h
      extract_lets ety at h
      split at h
      · cases h
      · exact key _ (Except.ok.inj h).symm

/-- **`Gsub/Gpos::collect_features` never panics and returns only indices of wanted features**, for
every script list (unsorted tags, scripts / language systems shared or repeated, any error value), any
`table_head` and all tag-set arguments, plain or inverted: the `u16` counters `script_count`,
`langsys_count` are tested against `MAX_SCRIPTS` / `MAX_LANGSYS` BEFORE `+= 1` and so stay ≤ 501 / 2001;
the feature counter uses `overflowing_add`; `script_records[idx]` / `lang_sys_records[idx]` take an
index the binary search just returned.  All loops run once over their record / tag lists (structural
recursion), so the work is linear in the table — plus the explicit limits. -/
theorem collect_features_safe (head : Nat) (featureTags : List Nat) (recs : List (Nat × PR ScriptT))
    (scripts languages features : TagSet) :
    collectFeatures head featureTags recs scripts languages features ≠ .trap ∧
    ∀ out, collectFeatures head featureTags recs scripts languages features = .val (.ok out) →
      ∀ i ∈ out, ∃ j, j < featureTags.length ∧ i = j % 65536 ∧ features.contains (featureTags.getD j 0) = true := by
  unfold collectFeatures
  simp only []
  have h0 : CFInv (initialFilter featureTags features) ⟨0, 0, 0, [], [], [], initialFilter featureTags features⟩ :=
    ⟨by simp, by simp, by simp, fun i hi => hi⟩
  have hs : RSafe (initialFilter featureTags features)
      (if scripts.inv = true then scriptsInv head scripts languages ⟨0, 0, 0, [], [], [], initialFilter featureTags features⟩ recs
       else scriptsSel head languages recs ⟨0, 0, 0, [], [], [], initialFilter featureTags features⟩ scripts.xs) := by
    split
    · exact scriptsInv_safe _ head scripts languages recs _ h0
    · exact scriptsSel_safe _ head languages recs _ _ h0
  unfold initialFilter at hs h0
  revert hs
  generalize (if scripts.inv = true then _ else _ : RR CF) = r
  intro hs
  cases r with
  | trap => exact absurd hs (by simp [RSafe])
  | val x =>
    simp only [Res.bind]
    refine ⟨by simp, fun out ho => ?_⟩
    injection ho with ho
    cases x with
    | error e => simp [Except.map] at ho
    | ok c =>
      simp only [Except.map] at ho
      injection ho with ho
      subst ho
      intro i hi
      exact initialFilter_lt featureTags features i (hs.2.2.1 i hi)

/-- the spec examples of layout.rs -/
example : (covRead [0, 1, 0, 5, 0, 1, 0, 7, 0, 13, 0, 27, 0, 44]).toOption.map (fun c => (covGet c 7, covGet c 45)) =
    some (.val (some 1), .val none) := by decide +kernel
example : (covRead [0, 2, 0, 2, 0, 5, 0, 9, 0, 0, 0, 30, 0, 39, 0, 5]).toOption.map
    (fun c => (covGet c 32, covGet c 10, (covIter c).length, covPop c)) =
    some (.val (some 7), .val none, 15, .val 15) := by decide +kernel
/-- index overflow: `start_coverage_index + (gid − start) > 0xFFFF` is `None`, not a panic -/
example : cov2Get [⟨10, 20, 65530⟩] 16 = .val none ∧ cov2Get [⟨10, 20, 65530⟩] 15 = .val (some 65535) := by decide +kernel
/-- unsorted records: the answer is determined (here: a covered glyph is missed), never a panic -/
example : cov2Get [⟨30, 39, 0⟩, ⟨5, 9, 10⟩, ⟨1, 2, 15⟩] 7 = .val none := by decide +kernel
/-- inverted record: no glyphs, population 0 -/
example : covIter (.fmt2 [⟨9, 5, 0⟩, ⟨3, 4, 0⟩]) = [3, 4] ∧ covPop (.fmt2 [⟨9, 5, 0⟩, ⟨3, 4, 0⟩]) = .val 2 := by decide
example : U16Cov (.fmt2 [⟨9, 5, 0⟩, ⟨3, 4, 0⟩]) := by simp [U16Cov]
example : cls1Iter 65534 [1, 2, 3] = [(65534, 1), (65535, 2), (65535, 3)] := by decide
example : cls1Get 10 [4, 5] 11 = .val 5 ∧ cls1Get 10 [4, 5] 9 = .val 0 ∧ cls1Get 10 [4, 5] 12 = .val 0 := by decide
/-- `delta_decode_all` of layout.rs -/
example : (devRead [0, 7, 0, 13, 0, 3, 1, 244, 30, 245, 101, 8, 42, 0]).toOption.map devIter =
    some (.val [1, -12, 30, -11, 101, 8, 42]) := by decide +kernel
/-- `start_size > end_size`: no words, no values -/
example : (devRead [0, 1, 0, 0, 0, 1]).toOption.map devIter = some (.val []) := by decide +kernel
example : iterPackedValues 0x8800 1 3 = .val [-2, 0, -2] ∧ iterPackedValues 0x1234 0 3 = .trap := by decide

example : scriptTagsFromUnicode (tg 'B' 'e' 'n' 'g') = .val [tg 'b' 'n' 'g' '3', tg 'b' 'n' 'g' '2', tg 'b' 'e' 'n' 'g'] := by
  decide +kernel
example : scriptTagsFromUnicode (tg 'M' 'y' 'm' 'r') = .val [tg 'm' 'y' 'm' '2', tg 'm' 'y' 'm' 'r'] := by decide +kernel
example : scriptTagsFromUnicode (tg 'Y' 'i' 'i' 'i') = .val [tg 'y' 'i' ' ' ' '] := by decide +kernel
example : select [tg 'D' 'F' 'L' 'T', tg 'c' 'y' 'r' 'l', tg 'l' 'a' 't' 'n'] [tg 't' 'h' 'a' 'i', tg 'l' 'a' 't' 'n'] =
    some (tg 'l' 'a' 't' 'n', 2, false) := by decide +kernel
example : select [tg 'D' 'F' 'L' 'T', tg 'c' 'y' 'r' 'l'] [tg 't' 'h' 'a' 'i'] = some (tg 'D' 'F' 'L' 'T', 0, true) := by
  decide +kernel

/-- a contextual lookup that references itself (rule set of glyph 1, record (0 → lookup 0)) next to a
single substitution 1 → 2: terminates with {1, 2} -/
example : closureGlyphs
    ⟨.ok [.ok [0, 1]], none,
     .ok [.ok (.ok [.ok (.ctx1 (.ok (.fmt1 [1])) [some (.ok [.ok ⟨[], [], [], [⟨0, 0⟩, ⟨0, 1⟩, ⟨7, 0⟩]⟩])])]),
          .ok (.ok [.ok (.single1 (.ok (.fmt1 [1])) 1)])]⟩ [1] = some (.ok [1, 2]) := by decide +kernel
/-- a lookup index beyond the list is an error value, not a panic -/
example : closureGlyphs ⟨.ok [.ok [3]], none, .ok []⟩ [1] = some (.err (.badIndex 3)) := by decide +kernel
example : Good ⟨[1, 5], none, [], [(0, some [5])]⟩ := by
  refine ⟨⟨by simp, by simp⟩, ?_⟩
  intro t ht a ha
  simp at ht; subst ht; injection ha with ha; subst ha
  exact ⟨by simp, by simp⟩

/-- one script, default language system with required feature 1 and features [0, 5]; wanted: everything -/
example : (match collectFeatures 0 [tg 'l' 'i' 'g' 'a', tg 'k' 'e' 'r' 'n']
      [(tg 'l' 'a' 't' 'n', .ok ⟨10, some (.ok ⟨20, 1, [0, 5]⟩), []⟩)] ⟨true, []⟩ ⟨true, []⟩ ⟨true, []⟩ with
    | .val (.ok out) => out == [0, 1]
    | _ => false) = true := by decide +kernel

end FontVerif.C01HandLayout
