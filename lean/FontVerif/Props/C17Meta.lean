/-
C17 — the tables klippa rewrites in place or rebuilds without touching glyph data: OS/2, name, post.

Model: `FontVerif.SubsetMeta` (klippa/src/os2.rs after repair 16bd57d, name.rs after 28aeb3e, post.rs header
part), tied to the real code by the `os2` / `name` / `post` correspondence groups of harness/src/bin/c17/gvar.rs.
The version 2.0 glyph name rebuild of post is in Props/C17Post.lean.
-/
import FontVerif.Lemmas.SubsetMeta
namespace FontVerif.C17Meta
open FontVerif.SubsetMeta
open FontVerif.Subset (Bytes hasFlag u16At be16)

/-- The emitted OS/2 table has the length of the source (whatever its
version) and every byte outside ulUnicodeRange1..4 (42..58) and usFirstCharIndex / usLastCharIndex (64..68) is
the source's byte. -/
theorem os2_other_fields_identical (flags minCp maxCp : Nat) (us : List Nat) (t out : Bytes)
    (h : subsetOs2 flags minCp maxCp us t = .ok out) :
    out.length = t.length ∧
    ∀ i, ¬ (42 ≤ i ∧ i < 58) → ¬ (64 ≤ i ∧ i < 68) → out[i]? = t[i]? := by
  obtain ⟨hl, t2, l2, get2, _, _, hA, hB⟩ := subsetOs2_ok flags minCp maxCp us t out h
  cases hf : hasFlag flags F_NO_PRUNE_UNICODE_RANGES with
  | true =>
    rw [hA hf]
    exact ⟨l2, fun i _ h64 => get2 i h64⟩
  | false =>
    obtain ⟨masked, ml, rfl, _⟩ := hB hf
    have hfit : 42 + masked.length ≤ t2.length := by omega
    refine ⟨(patch_length _ _ _ hfit).trans l2, fun i h42 h64 => ?_⟩
    rw [patch_get _ _ _ _ hfit, if_neg (by omega)]
    exact get2 i h64

/-- usFirstCharIndex / usLastCharIndex are the plan's
`os2_info.{min,max}_cmap_codepoint` capped at 0xFFFF; and `os2_info` (`os2MinCp` / `os2MaxCp`) is the least /
greatest retained cmap code point, 0xFFFF when nothing is retained. -/
theorem os2_first_last_char_index (flags minCp maxCp : Nat) (us : List Nat) (t out : Bytes)
    (h : subsetOs2 flags minCp maxCp us t = .ok out) :
    u16At out 64 = min minCp 0xFFFF ∧ u16At out 66 = min maxCp 0xFFFF ∧
    (∀ cps : List Nat, cps ≠ [] → os2MinCp cps ∈ cps ∧ os2MaxCp cps ∈ cps ∧
      ∀ c ∈ cps, os2MinCp cps ≤ c ∧ c ≤ os2MaxCp cps) ∧
    os2MinCp [] = 0xFFFF ∧ os2MaxCp [] = 0xFFFF := by
  obtain ⟨hl, t2, l2, _, e64, e66, hA, hB⟩ := subsetOs2_ok flags minCp maxCp us t out h
  have hfin : u16At out 64 = min minCp 0xFFFF ∧ u16At out 66 = min maxCp 0xFFFF := by
    cases hf : hasFlag flags F_NO_PRUNE_UNICODE_RANGES with
    | true => rw [hA hf]; exact ⟨e64, e66⟩
    | false =>
      obtain ⟨masked, ml, rfl, _⟩ := hB hf
      have hfit : 42 + masked.length ≤ t2.length := by omega
      exact ⟨(u16At_patch_ne _ _ _ 64 hfit (Or.inr (by omega))).trans e64,
        (u16At_patch_ne _ _ _ 66 hfit (Or.inr (by omega))).trans e66⟩
  refine ⟨hfin.1, hfin.2, ?_, rfl, rfl⟩
  intro cps hne
  cases cps with
  | nil => exact absurd rfl hne
  | cons c rest =>
    obtain ⟨a1, a2, a3⟩ := foldl_min_spec rest c
    obtain ⟨b1, b2', b3⟩ := foldl_max_spec rest c
    refine ⟨?_, ?_, ?_⟩
    · show rest.foldl min c ∈ c :: rest
      rcases a1 with e | e
      · rw [e]; simp
      · simp [e]
    · show rest.foldl max c ∈ c :: rest
      rcases b1 with e | e
      · rw [e]; simp
      · simp [e]
    · intro x hx
      show rest.foldl min c ≤ x ∧ x ≤ rest.foldl max c
      rcases List.mem_cons.mp hx with rfl | hx
      · exact ⟨a2, b2'⟩
      · exact ⟨a3 x hx, b3 x hx⟩

/-- With NO_PRUNE_UNICODE_RANGES the 16 bytes of ulUnicodeRange1..4 are
the source's; otherwise byte `i` of them is the source's byte ANDed with byte `i` of the mask computed from the
plan's code points: a bit is never set that the source did not have, and (`newRanges_bit`) bit `b` of word
`w` of the mask is set exactly when some retained code point lies in a block whose OS/2 bit is `32 w + b`, or
(bit 57) some retained code point lies in 0x10000..=0x110000. -/
theorem os2_unicode_ranges_only_cleared (flags minCp maxCp : Nat) (us : List Nat) (t out : Bytes)
    (h : subsetOs2 flags minCp maxCp us t = .ok out) :
    (hasFlag flags F_NO_PRUNE_UNICODE_RANGES = true → ∀ i, 42 ≤ i → i < 58 → out[i]? = t[i]?) ∧
    (hasFlag flags F_NO_PRUNE_UNICODE_RANGES = false → ∀ i, i < 16 →
      out.getD (42 + i) 0 = t.getD (42 + i) 0 &&& (rangeMaskBytes us).getD i 0) ∧
    (∀ w b, w < 4 → (((newRanges us).getD w 0).testBit b = true ↔
      ∃ cp ∈ us, (∃ bit, unicodeRangeBit cp = some bit ∧ bit < 128 ∧ bit / 32 = w ∧ bit % 32 = b) ∨
        (w = 1 ∧ b = 25 ∧ 0x10000 ≤ cp ∧ cp ≤ 0x110000))) := by
  obtain ⟨hl, t2, l2, get2, _, _, hA, hB⟩ := subsetOs2_ok flags minCp maxCp us t out h
  refine ⟨?_, ?_, fun w b hw => newRanges_bit us w b hw⟩
  · intro hf i h42 h58
    rw [hA hf]; exact get2 i (by omega)
  · intro hf i hi
    obtain ⟨masked, ml, rfl, hmask⟩ := hB hf
    rw [List.getD_eq_getElem?_getD, patch_get _ _ _ _ (by omega), if_pos ⟨by omega, by omega⟩,
      Nat.add_sub_cancel_left, hmask i hi, Option.getD_some, List.getD_eq_getElem?_getD,
      get2 (42 + i) (by omega), ← List.getD_eq_getElem?_getD]

/-- The records of the emitted name table are the source records that pass the plan's
filter (name id among `plan.name_ids`, language among `plan.name_languages`, and a Unicode platform / encoding
unless NAME_LEGACY), each exactly once, ordered by (platform, encoding, language, name id, length). -/
theorem name_retained_records (flags : Nat) (nameIds langs : List Nat) (recs : List NameRec) :
    (nameRetained flags nameIds langs recs).Perm (recs.filter (nameKeeps flags nameIds langs)) ∧
    (nameRetained flags nameIds langs recs).Pairwise (fun a b => nameKeyLe a b = true) ∧
    (∀ r, r ∈ nameRetained flags nameIds langs recs ↔
      r ∈ recs ∧ r.nid ∈ nameIds ∧ r.lang ∈ langs ∧ (hasFlag flags F_NAME_LEGACY = true ∨ r.isUnicode = true)) := by
  refine ⟨sortRecs_perm _, sortRecs_sorted _, ?_⟩
  intro r
  unfold nameRetained
  rw [(sortRecs_perm _).mem_iff, List.mem_filter]
  simp [nameKeeps, and_assoc]

/-- A successful `Name::subset` emits: version 0, the count, storageOffset =
6 + 12 * count, one 12-byte record per retained record that repeats its platform, encoding, language, name id
and length, and a storage area in which every retained record's offset points at that record's own string
bytes (records of length 0 get offset 0). -/
theorem name_strings_resolve (flags : Nat) (nameIds langs : List Nat) (recs : List NameRec) (out : Bytes)
    (hrec : recs.length < 65536)
    (h : subsetName flags nameIds langs recs = .ok out) :
    let kept := nameRetained flags nameIds langs recs
    ∃ p : Packed, kept.length * 12 + 6 < 65536 ∧
      out = be16 0 ++ be16 kept.length ++ be16 (kept.length * 12 + 6) ++
        kept.flatMap (fun r => nameRecordBytes r (nameOffset p r)) ++ storageBytes p ∧
      ∀ r ∈ kept, (r.len = 0 → nameOffset p r = 0) ∧
        (r.len ≠ 0 → ∃ s rest, r.str = some s ∧ (storageBytes p).drop (nameOffset p r) = s ++ rest) := by
  intro kept
  have hkl : kept.length ≤ recs.length := by
    show (nameRetained flags nameIds langs recs).length ≤ _
    unfold nameRetained
    rw [(sortRecs_perm _).length_eq]
    exact List.length_filter_le _ _
  have hmod : kept.length % 65536 = kept.length := Nat.mod_eq_of_lt (by omega)
  unfold subsetName at h
  simp only [] at h
  rw [show (nameRetained flags nameIds langs recs) = kept from rfl, hmod] at h
  obtain ⟨hc, h⟩ := Do.error_else_ok h
  cases hp : packAll kept [] with
  | none => rw [hp] at h; cases h
  | some p =>
    rw [hp] at h
    obtain ⟨_, h⟩ := Do.error_else_ok h
    obtain ⟨hn, _, hall⟩ := packAll_spec kept [] p hp List.nodup_nil
    refine ⟨p, by omega, (Except.ok.inj h).symm, fun r hr => ⟨fun hz => by simp [nameOffset, hz], fun hne => ?_⟩⟩
    obtain ⟨s, hs, hmem⟩ := hall r hr hne
    obtain ⟨rest, hrest⟩ := storage_at p s hn hmem
    refine ⟨s, rest, hs, ?_⟩
    simp only [nameOffset, hne, ↓reduceIte, hs, Option.getD_some]
    exact hrest

/-- Without GLYPH_NAMES the emitted post table is the 32 header bytes of the
source with the version replaced by 3.0 (italicAngle, underline metrics, isFixedPitch and the memory hints are
the source's); with GLYPH_NAMES and a version other than 2.0 it is the unchanged 32-byte header.
MISSING (hence `_partial`): GLYPH_NAMES with a version 2.0 table, where `subset_post_v2tail` rebuilds numGlyphs,
glyphNameIndex and the Pascal strings — `subsetPostHeader` returns `none` there; that case is modelled by
`FontVerif.SubsetPost` and proved in Props/C17Post.lean (`post_v2_glyph_names_preserved`). -/
theorem post_header_preserved_partial (flags : Nat) (t out : Bytes) (h : subsetPostHeader flags t = some out) :
    out.length = 32 ∧ out.drop 4 = (t.take 32).drop 4 ∧
    (hasFlag flags F_GLYPH_NAMES = false → out.take 4 = [0, 3, 0, 0]) ∧
    (hasFlag flags F_GLYPH_NAMES = true → out = t.take 32 ∧ t.take 4 ≠ [0, 2, 0, 0]) := by
  unfold subsetPostHeader at h
  split at h
  · cases h
  · rename_i hl
    have hlen : (t.take 32).length = 32 := by simp; omega
    simp only [] at h
    split at h
    · rename_i hf
      split at h
      · cases h
      · rename_i hv
        simp only [Option.some.injEq] at h
        subst h
        refine ⟨hlen, rfl, ?_, ?_⟩
        · intro hc; rw [hf] at hc; cases hc
        · intro _
          refine ⟨rfl, ?_⟩
          intro hc
          apply hv
          rw [List.take_take]
          simpa using hc
    · rename_i hf
      simp only [Option.some.injEq] at h
      subst h
      have hf' : hasFlag flags F_GLYPH_NAMES = false := by simpa using hf
      rw [patch_zero]
      exact ⟨by rw [List.length_append, List.length_drop, hlen]; rfl, List.drop_left' rfl, fun _ => List.take_left' rfl,
        fun hc => by rw [hf'] at hc; cases hc⟩

/-- an OS/2 version 0 table with every range bit set; 'A' and U+1F600 retained -/
example : (subsetOs2 0 0x41 0x1F600 [0x41, 0x1F600] (List.replicate 78 255)).toOption =
    some (List.replicate 42 255 ++ [0, 0, 0, 1, 2, 0, 0, 0, 0, 0, 0, 0, 0, 0, 0, 0] ++ List.replicate 6 255 ++
      [0, 0x41, 0xFF, 0xFF] ++ List.replicate 10 255) := by decide +kernel

example : (subsetOs2 0x100 0x41 0x1F600 [0x41, 0x1F600] (List.replicate 78 255)).toOption =
    some (List.replicate 64 255 ++ [0, 0x41, 0xFF, 0xFF] ++ List.replicate 10 255) := by decide +kernel

example : os2MinCp [0x41, 0x3B1, 0x1F600] = 0x41 ∧ os2MaxCp [0x41, 0x3B1, 0x1F600] = 0x1F600 := by decide

/-- three records, one filtered by language, one empty string, two sharing one string object -/
def exRecs : List NameRec :=
  [{ pid := 3, eid := 1, lang := 0x409, nid := 2, len := 2, off := 0, str := some [0x41, 0x42] },
   { pid := 3, eid := 1, lang := 0x407, nid := 1, len := 2, off := 2, str := some [0x43, 0x44] },
   { pid := 3, eid := 1, lang := 0x409, nid := 1, len := 0, off := 9, str := none },
   { pid := 0, eid := 3, lang := 0x409, nid := 1, len := 2, off := 0, str := some [0x41, 0x42] },
   { pid := 1, eid := 0, lang := 0x409, nid := 1, len := 1, off := 4, str := some [0x45] }]

example : subsetName 0 [0, 1, 2, 3, 4, 5, 6] [0x409] exRecs = .ok
    [0, 0, 0, 3, 0, 42,
     0, 0, 0, 3, 4, 9, 0, 1, 0, 2, 0, 0,
     0, 3, 0, 1, 4, 9, 0, 1, 0, 0, 0, 0,
     0, 3, 0, 1, 4, 9, 0, 2, 0, 2, 0, 0,
     0x41, 0x42] := ok_of_toOption _ _ (by decide +kernel)

example : exRecs.length < 65536 := by decide

example : subsetPostHeader 0 ([0, 2, 0, 0] ++ List.replicate 30 7) = some ([0, 3, 0, 0] ++ List.replicate 28 7) := by
  decide

example : subsetPostHeader 0x80 ([0, 3, 0, 0] ++ List.replicate 28 7) = some ([0, 3, 0, 0] ++ List.replicate 28 7) := by
  decide

end FontVerif.C17Meta
