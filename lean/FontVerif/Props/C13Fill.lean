/-
C13, BEYOND THE PROPERTY — statements about the model of the `fill_glyph` optimisation
(`CollectFillGlyphPainter`, skrifa/src/color/traversal.rs).  Property C13 speaks about termination, bounded
visits, errors for cyclic / too-deep graphs and LIFO nesting of the callbacks; WHAT is drawn is not part of
it.  The theorems below (after five private steps and a private definition) are true facts about
Model/Paint.lean that go further: the optimised stream is
observationally equal to the un-optimised one on the stream shape the optimisation is meant for, and the
two `example`s show that the equality does not extend to every stream the optimiser accepts.  Nothing here
is checked as an oracle on the real code (the harness only counts the occurrences, informationally).

Observation of a callback stream (`draws`): for every `fill(brush)` the current transformation (product of
the open `push_transform`s, as a word of transform tags), the open glyph clips (each with the transformation
in force when it was pushed) and the brush — what a client that implements only the primitive callbacks
would rasterise.  `expandAll` is the trait's default `ColorPainter::fill_glyph` applied to every
`fill_glyph` call (push_clip_glyph; [push_transform]; fill; [pop_transform]; pop_clip).
-/
import FontVerif.Model.Paint
import FontVerif.Model.PaintObs
set_option linter.unusedVariables false
namespace FontVerif.C13Fill
open FontVerif.Paint

/-- a tail of `pop_transform`s draws nothing, whether the client or a collecting painter receives it -/
private theorem pops_silent (pops : List Event) (hp : ∀ e ∈ pops, IsPop e) :
    (∀ s, draws s (pops ++ [.popClip]) = []) ∧ ∀ o, (optCalls o pops).2 = [] := by
  induction pops with
  | nil => exact ⟨fun _ => rfl, fun _ => rfl⟩
  | cons e es ih =>
    obtain ⟨he, hes⟩ := List.forall_mem_cons.mp hp
    obtain ⟨ih1, ih2⟩ := ih hes
    cases e <;> simp only [IsPop] at he
    · exact ⟨fun _ => ih1 _, fun o => by simp only [optCalls, optPrim, List.nil_append]; exact ih2 _⟩
    · exact ⟨fun _ => ih1 _, fun o => by simp only [optCalls, optPrim, List.nil_append]; exact ih2 _⟩

/-- the scopes open inside the un-optimised `PaintGlyph`: the transforms pushed so far (newest first)
above the glyph clip above the outer scopes -/
private def inner (ts : List TWord) (g : Gid) (S0 : List Scope) : List Scope :=
  ts.map .t ++ .clipG g (ctmOf S0) :: S0

private theorem ctmOf_inner (ts : List TWord) (g : Gid) (S0 : List Scope) :
    ctmOf (inner ts g S0) = ctmOf S0 ++ ts.reverse.flatten := by
  induction ts with
  | nil => simp [inner, ctmOf]
  | cons w ws ih =>
    simp only [inner, List.map_cons, List.cons_append, ctmOf] at ih ⊢
    rw [ih]; simp [List.append_assoc]

private theorem clipsOf_inner (ts : List TWord) (g : Gid) (S0 : List Scope) :
    clipsOf (inner ts g S0) = (g, ctmOf S0) :: clipsOf S0 := by
  induction ts with
  | nil => simp [inner, clipsOf]
  | cons w ws ih => simpa [inner, clipsOf] using ih

private theorem draws_expand (S0 : List Scope) (g : Gid) (bt : Option TWord) (b : Brush) (rest : List Event) :
    draws S0 (expandFillGlyph g bt b ++ rest)
      = ⟨ctmOf S0 ++ bt.getD [], (g, ctmOf S0) :: clipsOf S0, b⟩ :: draws S0 rest := by
  cases bt with
  | none => simp [expandFillGlyph, draws, ctmOf, clipsOf]
  | some w => simp [expandFillGlyph, draws, ctmOf, clipsOf]

private theorem main (g : Gid) (S0 : List Scope) (pops : List Event) (hp : ∀ e ∈ pops, IsPop e) :
    ∀ (pre : List Event), (∀ e ∈ pre, IsPre e) → ∀ (o : Opt) (ts : List TWord),
      o.success = true → o.gid = g → o.bt.getD [] = ts.reverse.flatten →
      draws S0 (expandAll (optCalls o (pre ++ pops)).2) = draws (inner ts g S0) (pre ++ pops ++ [.popClip]) := by
  intro pre
  induction pre with
  | nil =>
    intro _ o ts _ _ _
    simp only [List.nil_append]
    rw [(pops_silent pops hp).2, (pops_silent pops hp).1]
    rfl
  | cons e es ih =>
    intro hpre o ts hs hg hbt
    have he := hpre e (List.mem_cons_self ..)
    have ih' := ih (fun x hx => hpre x (List.mem_cons_of_mem _ hx))
    cases e <;> simp only [IsPre] at he
    case pushT w =>
      have h2 : (optPrim o (.pushT w)).2 = [] := rfl
      have hs' : (optPrim o (.pushT w)).1.success = true := by simp [optPrim, hs]
      have hg' : (optPrim o (.pushT w)).1.gid = g := by simp [optPrim, hs, hg]
      have hb' : (optPrim o (.pushT w)).1.bt.getD [] = (w :: ts).reverse.flatten := by
        simp only [optPrim, hs, if_true, Option.getD_some, List.reverse_cons, List.flatten_append,
          List.flatten_cons, List.flatten_nil, List.append_nil]
        rw [← hbt]; cases o.bt <;> simp
      have := ih' _ (w :: ts) hs' hg' hb'
      simp only [List.cons_append, optCalls, h2, List.nil_append, draws]
      simpa [inner] using this
    case fill b =>
      simp only [List.cons_append, optCalls, optPrim, hs, if_true, draws]
      simp only [expandAll, List.flatMap_cons, List.nil_append]
      have h1 := draws_expand S0 o.gid o.bt b (expandAll (optCalls o (es ++ pops)).2)
      simp only [expandAll] at h1
      rw [h1, ctmOf_inner, clipsOf_inner, hbt, hg]
      congr 1
      have := ih' o ts hs hg hbt
      simpa [expandAll] using this
    case cached q =>
      simp only [List.cons_append, optCalls, optPrim, List.nil_append, draws]
      exact ih' o ts hs hg hbt

/-- **`fill_glyph_optimisation_sound`** (beyond the property: about what is drawn, not about nesting): let `pre ++ pops` be the primitive calls the child subtree of a `PaintGlyph`
makes on its painter, of the shape the optimisation is designed for — transforms and fills, then only
`pop_transform`s (a chain of transform paints over a solid / gradient, a `PaintColrLayers` of plain
fills, …).  Then what a client sees from the OPTIMISED traversal (the `fill_glyph` calls the
`CollectFillGlyphPainter` forwards, under the default `fill_glyph` expansion) draws exactly what the
UN-OPTIMISED traversal (`push_clip_glyph`, the same calls, `pop_clip`) draws: same brushes, same
transformation for every fill, same glyph clip under the same transformation — in any context `S0`. -/
theorem fill_glyph_optimisation_sound (g : Gid) (S0 : List Scope) (pre pops : List Event)
    (hpre : ∀ e ∈ pre, IsPre e) (hpops : ∀ e ∈ pops, IsPop e) :
    draws S0 (expandAll (optCalls { success := true, bt := none, gid := g } (pre ++ pops)).2)
      = draws S0 ([.pushClipGlyph g] ++ (pre ++ pops) ++ [.popClip]) := by
  have := main g S0 pops hpops pre hpre { success := true, bt := none, gid := g } [] rfl rfl rfl
  simpa [inner, draws] using this

/-- such a stream is accepted: the optimiser stays successful, so the un-optimised pass is skipped -/
theorem fill_only_stream_is_accepted (g : Gid) (s : List Event)
    (hs : ∀ e ∈ s, IsPre e ∨ IsPop e) : ∀ o : Opt, o.success = true → (optCalls o s).1.success = true := by
  induction s with
  | nil => intro o h; exact h
  | cons e es ih =>
    intro o h
    have he := hs e (List.mem_cons_self ..)
    have ih' := ih (fun x hx => hs x (List.mem_cons_of_mem _ hx))
    cases e <;> simp only [IsPre, IsPop, or_self, or_false, or_true] at he <;>
      simp only [optCalls, optPrim] <;> first | exact ih' _ h | skip
    · split <;> exact ih' _ (by simpa using h)

/-- **The equality does not extend to every stream the optimiser accepts** (an observation outside the
property, reports/C13.md): `pop_transform` is ignored by the collecting painter, so a
fill that comes after a popped transform is still forwarded with that transform.  `PaintGlyph(g,
PaintColrLayers[PaintTranslate(t, solid a), solid b])`: accepted, but `b` is drawn under `t`. -/
example : let s : List Event := [.pushT [1], .fill [0, 1, 16384], .popT, .fill [0, 2, 16384]]
    (optCalls { success := true, bt := none, gid := 7 } s).1.success = true ∧
    draws [] (expandAll (optCalls { success := true, bt := none, gid := 7 } s).2)
      = [⟨[1], [(7, [])], [0, 1, 16384]⟩, ⟨[1], [(7, [])], [0, 2, 16384]⟩] ∧
    draws [] ([.pushClipGlyph 7] ++ s ++ [.popClip])
      = [⟨[1], [(7, [])], [0, 1, 16384]⟩, ⟨[], [(7, [])], [0, 2, 16384]⟩] := by decide

/-- … and a second transform pushed after a pop is multiplied onto the stale one
(`PaintColrLayers[Translate(t1, a), Translate(t2, b)]`: `b` is drawn under `t1·t2`) -/
example : let s : List Event := [.pushT [1], .fill [0, 1, 16384], .popT, .pushT [2], .fill [0, 2, 16384], .popT]
    draws [] (expandAll (optCalls { success := true, bt := none, gid := 7 } s).2)
      = [⟨[1], [(7, [])], [0, 1, 16384]⟩, ⟨[1, 2], [(7, [])], [0, 2, 16384]⟩] ∧
    draws [] ([.pushClipGlyph 7] ++ s ++ [.popClip])
      = [⟨[1], [(7, [])], [0, 1, 16384]⟩, ⟨[2], [(7, [])], [0, 2, 16384]⟩] := by decide

/-- non-vacuity of the theorem's shape: `PaintGlyph(g, Transform(Transform(solid)))` -/
example : draws [] (expandAll (optCalls { success := true, bt := none, gid := 7 }
      [.pushT [1], .pushT [2], .fill [0, 3, 16384], .popT, .popT]).2)
    = [⟨[1, 2], [(7, [])], [0, 3, 16384]⟩] := by decide

end FontVerif.C13Fill
