/-
C17 — COLR ClipBox subsetting (klippa/src/colr.rs `ClipBox::subset`, `ClipBoxFormat1::subset`, `ClipBoxFormat2::subset`;
model `SubsetColr.clipBoxObj`, the object `clipListObj` packs for every written Clip record and which the byte-exact COLR
correspondence of harness/src/bin/c17/colrx.rs compares; oracle `colr-clip-box-preserved`).
-/
import FontVerif.Lemmas.SubsetColr
namespace FontVerif.C17ColrClipBox
open FontVerif.ColrSer FontVerif.SubsetColr
open FontVerif.SubsetHvar (Err R)

theorem sl_length (b : Array Nat) (p n : Nat) (s : List Nat) (h : sl b p n = some s) : s.length = n :=
  SubsetColr.sl_length h

/-- Whenever `ClipBox::subset` produces an object for the box behind offset `o` of the ClipList at
`off`: it has no links and
* a format 1 box is the 9 source bytes (format, xMin, yMin, xMax, yMax) copied exactly;
* a format 2 box is the 13 source bytes with the first 9 copied exactly and the `varIndexBase` field either left alone
  (0xFFFFFFFF = no variation) or replaced by the big-endian bytes of `plan.colr_varidx_delta_map[varIndexBase]` — which must
  exist, otherwise the subsetter fails; any other format byte fails. -/
theorem clipbox_bytes_copied (b : Array Nat) (p : PlanIn) (off o : Nat) (obj : Obj)
    (h : clipBoxObj b p off o = .ok obj) :
    obj.links = [] ∧
    ((rd 1 b (off + o) = some 1 ∧ sl b (off + o) 9 = some obj.bytes) ∨
     (rd 1 b (off + o) = some 2 ∧ ∃ src, sl b (off + o) 13 = some src ∧
        ((beValue ((src.drop 9).take 4) = NO_VARIATION_INDEX ∧ obj.bytes = src) ∨
         (beValue ((src.drop 9).take 4) ≠ NO_VARIATION_INDEX ∧
            ∃ nv, p.varIdx.lookup (beValue ((src.drop 9).take 4)) = some nv ∧ obj.bytes = src.take 9 ++ beBytes 4 nv)))) := by
  unfold clipBoxObj at h
  split at h
  · cases h
  cases hf : rd 1 b (off + o) with
  | none => rw [hf] at h; cases h
  | some fmt =>
    rw [hf] at h
    simp only at h
    split at h
    · rename_i h1
      subst h1
      cases hs : sl b (off + o) 9 with
      | none => rw [hs] at h; cases h
      | some src =>
        rw [hs] at h
        simp only [pure, Except.pure] at h
        cases h
        exact ⟨rfl, Or.inl ⟨rfl, rfl⟩⟩
    · split at h
      · rename_i _ h2
        subst h2
        cases hs : sl b (off + o) 13 with
        | none => rw [hs] at h; cases h
        | some src =>
          rw [hs] at h
          simp only at h
          obtain ⟨bytes, hpv, hob⟩ := Do.bind_ok h
          simp only [pure, Except.pure] at hob
          cases hob
          refine ⟨rfl, Or.inr ⟨rfl, src, rfl, ?_⟩⟩
          have hlen := sl_length b _ _ _ hs
          rcases patchVar_cases p src 9 bytes hpv with ⟨hno, rfl⟩ | ⟨hno, nv, hnv, rfl⟩
          · exact Or.inl ⟨hno, rfl⟩
          · refine Or.inr ⟨hno, nv, hnv, ?_⟩
            rw [writeBE_eq, List.drop_of_length_le (by omega), List.append_nil]
      · cases h

def exB : Array Nat := #[1, 0, 0, 0, 1,   2, 0, 10, 0, 20, 0, 30, 0, 40, 0, 0, 0, 7]
def exP : PlanIn :=
  { colred := [], glyphMap := [], palettes := [], layers := [], varIdx := [(7, 2)], innerMaps := [], newDs := [] }

/-- a format 2 box at offset 5 with varIndexBase 7 ↦ 2 -/
example : (clipBoxObj exB exP 0 5).toOption = some ⟨[2, 0, 10, 0, 20, 0, 30, 0, 40, 0, 0, 0, 2], []⟩ := by decide

end FontVerif.C17ColrClipBox
