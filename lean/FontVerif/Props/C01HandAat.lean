/-
C01 (hand-written code) — termination, iteration bounds, in-range indices / slices and absence of arithmetic
traps for the models of Model/HandAat.lean ⇄ read-fonts/src/tables/aat.rs `Lookup::value` and state tables (StateTable / ExtendedStateTable class / entry), ankr.rs / feat.rs / ltag.rs accessors, ift.rs patch-map header helpers and `GlyphPatches::glyph_data_for_table`.
Tied to the real functions by harness group `aats.model` (`ha.*` driver commands).

Hypotheses used throughout: `hb` — the table data is a byte string; `hl` — its length is a `usize`
(`MAXU` = 2^64 − 1); `…Read d = true / some n` — the generated `read` of the table succeeded (the
functions are methods of the successfully read table).  A result `R.trap` stands for a panic of the
overflow-checked profile (`unwrap` on `None`, index / slice out of range, unchecked `+` `*` overflow,
division by zero).
-/
import FontVerif.Model.HandAat
import FontVerif.Lemmas.ReadIter
import FontVerif.Lemmas.HandAat
namespace FontVerif.C01HandAat
open FontVerif.HandRead FontVerif.HandAat
open FontVerif.ReadIter (Out run items trapped)

/-- **the index both arms of the binary search produce is in range, whatever the keys**:
`match segments.binary_search_by(..) { Ok(ix) => ix, Err(ix) => ix.saturating_sub(1) }` on a non-empty
slice of ANY (unsorted, duplicated, hostile) keys is a valid index — `core::slice::binary_search_by`
(transcribed in Model/Layout.lean) never leaves `0..len`. -/
theorem bsearch_index_in_range (n : Nat) (cmpAt : Nat → Ordering) (hn : 0 < n) : bsIx n cmpAt < n := by
  unfold bsIx
  cases h : Layout.binarySearchBy n cmpAt with
  | ok i => exact (BinSearch.ok_lt h).1
  | err i => have := BinSearch.err_le h; simp only; omega

/-- a successful binary search returns an in-range index of an element that compares `Equal` -/
theorem bsearch_ok_in_range (n : Nat) (cmpAt : Nat → Ordering) (i : Nat)
    (h : Layout.binarySearchBy n cmpAt = .ok i) : i < n ∧ cmpAt i = .eq := BinSearch.ok_lt h

/-- **`Lookup::read` + `Lookup::value::<T>` (= `TypedLookup`) never panic, and a value they return was
read from inside the table**: for every byte string, every lookup format (0, 2, 4, 6, 8, 10 — anything
else is `InvalidFormat`), `T` of 2 or 4 bytes and every glyph id: the result is `Ok` or an
`Err(ReadError)`; `Ok(v)` is a big-endian number of some `w` bytes at some `p` with
`p + w ≤ data.len()` (truncated to 16 bits by `T::from_u32` for a format 10 table read as `u16`).
The segment / entry index produced by the binary searches of formats 2 / 4 / 6 is in range for
unsorted keys, too; `&entries[ix]`, `&data[..n * size]`, `offset + (index - first) * size` and
`ix * unit_size` cannot trap. -/
theorem lookupValue_safe (d : List Nat) (size g : Nat) (hl : d.length ≤ MAXU) (hb : ∀ b ∈ d, b < 256)
    (hs : size = 2 ∨ size = 4) (hg : g < 65536) :
    lookupValue d size g ≠ .trap ∧ ∀ v, lookupValue d size g = .ok v → ReadsInside d v := by
  refine R.Sat.both.mp ?_
  unfold lookupValue
  cases hf : readAt d 0 2 with
  | none => exact .err
  | some fmt =>
    dsimp only
    refine .ite (fun _ => lookup0v_sat d size g hl hs) fun _ => ?_
    refine .ite (fun _ => lookup2v_sat d size g hl) fun _ => ?_
    refine .ite (fun _ => lookup4v_sat d size g hb hs hg) fun _ => ?_
    refine .ite (fun _ => lookup6v_sat d size g hl) fun _ => ?_
    refine .ite (fun _ => lookup8v_sat d g hl) fun _ => ?_
    exact .ite (fun _ => lookup10v_sat d size g hl hb hg) fun _ => .err

/-- **`StateTable::class` is total and only indexes inside the class array**: for every glyph id the
result is `Ok` / `Err`, never a panic (`glyph_id - first_glyph` is `checked_sub`); `Ok(c)` for a glyph
other than `0xFFFF` means `first_glyph ≤ g`, `g - first_glyph < n_glyphs`, and `c` is the byte at
`class_table_offset + 4 + (g - first_glyph)`, an index below `data.len()`. -/
theorem stClass_total (d : List Nat) (g : Nat) (hr : stRead d = true) (hl : d.length ≤ MAXU) :
    stClass d g ≠ .trap ∧ ∀ c, stClass d g = .ok c →
      (g = 0xFFFF ∧ c = 2) ∨
      (beAt d (beAt d 2 2) 2 ≤ g ∧ g - beAt d (beAt d 2 2) 2 < beAt d (beAt d 2 2 + 2) 2 ∧
        beAt d 2 2 + 4 + (g - beAt d (beAt d 2 2) 2) < d.length ∧
        d[beAt d 2 2 + 4 + (g - beAt d (beAt d 2 2) 2)]? = some c) := by
  refine R.Sat.both.mp ?_
  simp only [stRead, decide_eq_true_eq] at hr
  unfold stClass
  refine .ite (fun hg => .ok (.inl ⟨hg, rfl⟩)) fun _ => ?_
  rw [readAt_of_le (by omega : 2 + 2 ≤ d.length) hl]
  dsimp only
  generalize beAt d 2 2 = co
  refine resolveOff_sat fun hco0 hco => ?_
  cases hcs : classSubRead (d.drop co) with
  | error e => exact .err
  | ok n =>
    obtain ⟨hn4, hnv⟩ := classSubRead_ok hcs
    rw [List.length_drop] at hn4
    dsimp only
    rw [readAt_of_le (by rw [List.length_drop]; omega) (by rw [List.length_drop]; omega)]
    dsimp only
    rw [beAt_drop] at hnv
    rw [beAt_drop, Nat.add_zero]
    generalize beAt d co 2 = first
    refine .ite (fun _ => .err) fun h1 => ?_
    rw [if_pos (by rw [List.length_drop]; omega)]
    refine .ite (fun h2 => ?_) fun _ => .err
    rw [List.getElem?_drop]
    have hidx : co + (4 + (g - first)) < d.length := by omega
    rw [List.getElem?_eq_getElem hidx]
    refine .ok (.inr ⟨by omega, by omega, by omega, ?_⟩)
    rw [List.getElem?_eq_getElem (by omega)]
    congr 2
    omega

/-- `StateEntry::<T>::read` succeeds only when the 4 header bytes and the whole payload fit, and
returns exactly those bytes (no alignment requirement: the payload is copied, /repo 4e41891) -/
theorem stateEntryRead_in_bounds (e : List Nat) (psize ns fl pl : Nat)
    (h : stateEntryRead e psize = .ok (ns, fl, pl)) :
    4 + psize ≤ e.length ∧ ns = beAt e 0 2 ∧ fl = beAt e 2 2 ∧ pl = beAt e 4 psize :=
  stateEntryRead_ok h

/-- **`StateTable::entry` never traps and `Ok` means every array access was in range**: for every
`state: u16`, `class: u8`: `state * n_classes + class` (the `+` is unchecked), `entry_ix * 4`, the
`i32` subtraction / division of the `new_state` conversion cannot overflow or divide by zero
(`n_classes == 0` is answered with `MalformedData` first); when the result is `Ok((new_state, flags))`
the state-array byte was read at `state_array_offset + state * n_classes + class' < data.len()`
(`class'` = the class clamped to `OUT_OF_BOUNDS`), the 4-byte entry lies at
`entry_table_offset + entry_ix * 4 .. + 4 ≤ data.len()`, and `new_state ≤ 65535`. -/
theorem stEntry_safe (d : List Nat) (state cls : Nat) (hr : stRead d = true) (hl : d.length ≤ MAXU)
    (hb : ∀ b ∈ d, b < 256) (hs : state < 65536) (hc : cls < 256) :
    stEntry d state cls ≠ .trap ∧ ∀ ns fl, stEntry d state cls = .ok (ns, fl) →
      ns ≤ 65535 ∧ beAt d 0 2 ≠ 0 ∧
      ∃ eix, d[beAt d 4 2 + (state * beAt d 0 2 + (if cls ≥ beAt d 0 2 then 1 else cls))]? = some eix ∧
        beAt d 6 2 + eix * 4 + 4 ≤ d.length ∧ fl = beAt d (beAt d 6 2 + eix * 4 + 2) 2 := by
  refine R.Sat.pair ?_
  simp only [stRead, decide_eq_true_eq] at hr
  have hM : MAXU = 18446744073709551615 := rfl
  unfold stEntry
  rw [readAt_of_le (by omega : 0 + 2 ≤ d.length) hl, readAt_of_le (by omega : 4 + 2 ≤ d.length) hl,
    readAt_of_le (by omega : 6 + 2 ≤ d.length) hl]
  dsimp only
  have hnc := HandRead.beAt_lt d hb 0 2
  have hao := HandRead.beAt_lt d hb 4 2
  generalize beAt d 0 2 = nc at hnc ⊢
  generalize beAt d 4 2 = ao at hao ⊢
  generalize beAt d 6 2 = eo
  refine .ite (fun _ => .err) fun h0 => ?_
  generalize hcl : (if cls ≥ nc then 1 else cls) = cl
  have hclb : cl < 256 := by rw [← hcl]; split <;> omega
  refine resolveOff_sat fun _ hao' => ?_
  have hm : state * nc ≤ 65536 * 65536 := Nat.mul_le_mul (by omega) (by omega)
  rw [checkedMul_of_fits (by omega)]
  dsimp only
  rw [if_neg (by omega)]
  cases hix : (d.drop ao)[state * nc + cl]? with
  | none => exact .err
  | some eix =>
    have heix : eix < 256 := hb eix (mem_of_getElem?_drop hix)
    dsimp only
    rw [if_neg (by omega)]
    refine resolveOff_sat fun _ heo' => ?_
    refine .ite (fun h4 => ?_) fun _ => .err
    cases hse : stateEntryRead ((d.drop eo).drop (eix * 4)) 0 with
    | error e => exact .err
    | ok r =>
      obtain ⟨ns, fl, pl⟩ := r
      rw [List.length_drop] at h4
      obtain ⟨hlen, hns, hfl, -⟩ := entryAt_ok (by omega) hse
      have hnsb : ns < 65536 := hns ▸ HandRead.beAt_lt d hb _ 2
      dsimp only
      rw [asI32_small hnsb, asI32_small hao, asI32_small hnc, if_neg (by omega), if_neg (by omega)]
      refine .ite (fun hq => .ok ⟨by dsimp only; omega, h0, eix, ?_, by omega, hfl⟩) fun _ => .err
      rwa [List.getElem?_drop] at hix

/-- **`ExtendedStateTable::class` is total**: `Ok` / `Err` for every glyph id, and an `Ok` class other
than the `DELETED_GLYPH` answer for `0xFFFF` was read from inside the table (through the class lookup
table of any format). -/
theorem stxClass_total (d : List Nat) (g : Nat) (hr : stxRead d = true) (hl : d.length ≤ MAXU)
    (hb : ∀ b ∈ d, b < 256) (hg : g < 65536) :
    stxClass d g ≠ .trap ∧ ∀ c, stxClass d g = .ok c → (g = 0xFFFF ∧ c = 2) ∨ ReadsInside d c := by
  refine R.Sat.both.mp ?_
  simp only [stxRead, decide_eq_true_eq] at hr
  unfold stxClass
  refine .ite (fun hg => .ok (.inl ⟨hg, rfl⟩)) fun _ => ?_
  rw [readAt_of_le (by omega : 4 + 4 ≤ d.length) hl]
  dsimp only
  refine resolveOff_sat fun _ hco => ?_
  exact (R.Sat.both.mpr (lookupValue_safe _ 2 g (by rw [List.length_drop]; omega) (bytes_of_drop hb _) (.inl rfl) hg)).mono
    fun c hc => .inr (hc.of_drop hco)

/-- **`ExtendedStateTable::<T>::entry` never traps and `Ok` means every access was in range**: the
unchecked `state as usize * n_classes + class` and `entry_ix * size_of::<StateEntry<T>>()` stay below
`usize::MAX` on 64-bit targets (`state`, `class`, `entry_ix` are `u16`, `n_classes` is `u32`, payload
types of at most 64 KiB); `Ok((new_state, flags, payload))` means the 16-bit state-array word lies at
`state_array_offset + 2·(state · n_classes + class') .. + 2 ≤ data.len()` and the entry — header and
payload — at `entry_table_offset + entry_ix · (4 + psize) .. + 4 + psize ≤ data.len()`; the three
results are exactly those bytes. -/
theorem stxEntry_safe (d : List Nat) (psize state cls : Nat) (hr : stxRead d = true) (hl : d.length ≤ MAXU)
    (hb : ∀ b ∈ d, b < 256) (hp : psize ≤ 65536) (hs : state < 65536) (hc : cls < 65536) :
    stxEntry d psize state cls ≠ .trap ∧ ∀ ns fl pl, stxEntry d psize state cls = .ok (ns, fl, pl) →
      ∃ eix, beAt d 8 4 + 2 * (state * beAt d 0 4 + (if cls ≥ beAt d 0 4 then 1 else cls)) + 2 ≤ d.length ∧
        eix = beAt d (beAt d 8 4 + 2 * (state * beAt d 0 4 + (if cls ≥ beAt d 0 4 then 1 else cls))) 2 ∧
        beAt d 12 4 + eix * (4 + psize) + 4 + psize ≤ d.length ∧
        ns = beAt d (beAt d 12 4 + eix * (4 + psize)) 2 ∧
        fl = beAt d (beAt d 12 4 + eix * (4 + psize) + 2) 2 ∧
        pl = beAt d (beAt d 12 4 + eix * (4 + psize) + 4) psize := by
  refine R.Sat.triple ?_
  simp only [stxRead, decide_eq_true_eq] at hr
  have hM : MAXU = 18446744073709551615 := rfl
  unfold stxEntry
  rw [readAt_of_le (by omega : 0 + 4 ≤ d.length) hl, readAt_of_le (by omega : 8 + 4 ≤ d.length) hl,
    readAt_of_le (by omega : 12 + 4 ≤ d.length) hl]
  dsimp only
  have hnc := HandRead.beAt_lt d hb 0 4
  generalize beAt d 0 4 = nc at hnc ⊢
  generalize beAt d 8 4 = ao
  generalize beAt d 12 4 = eo
  generalize hcl : (if cls ≥ nc then 1 else cls) = cl
  have hclb : cl < 65536 := by rw [← hcl]; split <;> omega
  refine resolveOff_sat fun _ hao' => ?_
  have hm : state * nc ≤ 65536 * 4294967296 := Nat.mul_le_mul (by omega) (by omega)
  rw [if_neg (by omega)]
  refine .ite (fun hix => ?_) fun _ => .err
  rw [List.length_drop] at hix
  rw [readAt_of_le (by rw [List.length_drop]; omega) (by rw [List.length_drop]; omega), beAt_drop]
  have heix := HandRead.beAt_lt d hb (ao + 2 * (state * nc + cl)) 2
  generalize beAt d (ao + 2 * (state * nc + cl)) 2 = eix at heix ⊢
  have hm2 : eix * (4 + psize) ≤ 65536 * 65540 := Nat.mul_le_mul (by omega) (by omega)
  dsimp only
  rw [if_neg (by omega)]
  refine resolveOff_sat fun _ heo' => ?_
  refine .ite (fun h4 => ?_) fun _ => .err
  cases hse : stateEntryRead ((d.drop eo).drop (eix * (4 + psize))) psize with
  | error e => exact .err
  | ok r =>
    obtain ⟨ns, fl, pl⟩ := r
    rw [List.length_drop] at h4
    obtain ⟨hlen, hns, hfl, hpl⟩ := entryAt_ok (by omega) hse
    exact .ok ⟨eix, by omega, rfl, by omega, hns, hfl, hpl⟩

/-- **`Ankr::anchor_points` never panics and the slice it returns lies inside the table**: for every
`GlyphId` (u32) the result is `Ok` / `Err`; `Ok` = `n` points starting at byte `p`, with
`p + 4·n ≤ data.len()`, `n` being the `num_points` word right in front of them. -/
theorem ankrPoints_safe (d : List Nat) (gid : Nat) (hr : ankrRead d = true) (hl : d.length ≤ MAXU)
    (hb : ∀ b ∈ d, b < 256) :
    ankrPoints d gid ≠ .trap ∧ ∀ p n, ankrPoints d gid = .ok (p, n) →
      gid ≤ 0xFFFF ∧ 4 ≤ p ∧ p + 4 * n ≤ d.length ∧ n = beAt d (p - 4) 4 := by
  refine R.Sat.pair ?_
  simp only [ankrRead, decide_eq_true_eq] at hr
  unfold ankrPoints
  refine .ite (fun _ => .err) fun hg => ?_
  rw [readAt_of_le (by omega : 4 + 4 ≤ d.length) hl, readAt_of_le (by omega : 8 + 4 ≤ d.length) hl]
  dsimp only
  refine resolveOff_sat fun _ hco => ?_
  have hlk := (lookupValue_safe (d.drop (beAt d 4 4)) 2 gid (by rw [List.length_drop]; omega)
    (bytes_of_drop hb _) (.inl rfl) (by omega)).1
  cases hv : lookupValue (d.drop (beAt d 4 4)) 2 gid with
  | trap => exact absurd hv hlk
  | err e => exact .err
  | ok v =>
    dsimp only
    cases hadd : checkedAdd (beAt d 8 4) v with
    | none => exact .err
    | some full =>
      dsimp only
      refine .ite (fun hf => ?_) fun _ => .err
      cases hrn : readAt (d.drop full) 0 4 with
      | none => exact .err
      | some n =>
        dsimp only
        cases hmul : checkedMul n 4 with
        | none => exact .err
        | some bl =>
          obtain ⟨rfl, _⟩ := checkedMul_eq_some hmul
          refine .ite (fun hfit => ?_) fun _ => .err
          rw [List.length_drop] at hfit
          have hn := (readAt_eq_some hrn).2.2
          rw [beAt_drop, Nat.add_zero] at hn
          exact .ok ⟨by omega, by omega, by dsimp only; omega, by dsimp only; rw [Nat.add_sub_cancel]; exact hn⟩

/-- **`Feat::find` only returns a record of the table with the requested feature code** — also for
unsorted / duplicated records: `Some(name)` is record `ix < feature_name_count`, lying inside the
data, whose `feature` field equals the argument. -/
theorem featFind_sound (d : List Nat) (n feature ix : Nat) (hr : featRead d = some n)
    (h : featFind d n feature = some ix) :
    ix < n ∧ 12 + (ix + 1) * 12 ≤ d.length ∧ beAt d (12 + ix * 12) 2 = feature := by
  unfold featFind at h
  cases hbs : Layout.binarySearchBy n (fun i => Layout.natCmp (beAt d (12 + i * 12) 2) feature) with
  | err i => simp [hbs] at h
  | ok j =>
    simp only [hbs] at h
    obtain ⟨hj, hcmp⟩ := BinSearch.ok_lt hbs
    simp only [hj, ↓reduceIte] at h
    injection h with h
    subst h
    refine ⟨hj, ?_, ?_⟩
    · unfold featRead at hr
      obtain ⟨-, hr⟩ := readAt_step hr nofun
      obtain ⟨-, hr⟩ := checkedMul_step hr nofun
      obtain ⟨hfit, hr⟩ := else_step hr nofun
      cases hr
      have : (j + 1) * 12 ≤ beAt d 4 2 * 12 := Nat.mul_le_mul_right _ hj
      omega
    · exact Layout.natCmp_eq.mp hcmp

/-- `FeatureName::default_setting_index` is a byte (the flag helpers are plain bit tests) -/
theorem featDefaultIndex_lt (flags : Nat) : featDefaultIndex flags < 256 := by
  unfold featDefaultIndex; split <;> omega

/-- **`Ltag::tag_indices` yields at most one item per range record, each a valid UTF-8 string inside
the table, and never traps** (`start + length` are two `u16`s): the iteration is bounded by
`num_tags ≤ (data.len() − 12) / 4`; every yielded `(index, start, length)` has `index < num_tags` and
`start + length ≤ data.len()`. -/
theorem ltagTags_bounded (d : List Nat) (n : Nat) (hr : ltagRead d = some n) (hl : d.length ≤ MAXU)
    (hb : ∀ b ∈ d, b < 256) :
    ∃ xs, ltagTags d n = .ok xs ∧ xs.length ≤ n ∧ 12 + n * 4 ≤ d.length ∧
      ∀ t ∈ xs, t.1 < n ∧ t.2.1 + t.2.2 ≤ d.length ∧ utf8Valid ((d.drop t.2.1).take t.2.2) = true := by
  have hn := ltagRead_some hr
  obtain ⟨xs, h1, h2, h3⟩ := ltagLoop_facts d hl hb (List.range n) (fun i hi => by
    have := List.mem_range.mp hi
    have : (i + 1) * 4 ≤ n * 4 := Nat.mul_le_mul_right _ this
    omega)
  refine ⟨xs, h1, by simpa using h2, hn, fun t ht => ?_⟩
  obtain ⟨a, b, c⟩ := h3 t ht
  exact ⟨List.mem_range.mp a, b, c⟩

/-- `Ltag::index_for_tag` is total (`Some` index below `num_tags`, or `None`) -/
theorem ltagIndexFor_total (d : List Nat) (n : Nat) (tag : List Nat) (hr : ltagRead d = some n)
    (hl : d.length ≤ MAXU) (hb : ∀ b ∈ d, b < 256) :
    ∃ o, ltagIndexFor d n tag = .ok o ∧ ∀ i, o = some i → i < n := by
  obtain ⟨xs, h1, _, _, h4⟩ := ltagTags_bounded d n hr hl hb
  unfold ltagIndexFor
  simp only [h1]
  refine ⟨_, rfl, fun i hi => ?_⟩
  cases hf : xs.find? (fun t => (d.drop t.2.1).take t.2.2 == tag) with
  | none => simp [hf] at hi
  | some t =>
    simp only [hf, Option.map_some, Option.some.injEq] at hi
    subst hi
    exact (h4 t (List.mem_of_find?_eq_some hf)).1

/-- **`CompatibilityId::from_u32s` never indexes outside its arrays**: the nested `for i in 0..4`,
`for j in 0..4` loops write `data[i * 4 + j]` for exactly the 16 indices and produce the four words in
big-endian order. -/
theorem compatFromU32s_total (a b c e : Nat) :
    compatFromU32s [a, b, c, e] = some (beBytes 4 a ++ beBytes 4 b ++ beBytes 4 c ++ beBytes 4 e) := by
  simp [compatFromU32s, compatOuter, compatInner, beBytes, List.range_succ, List.replicate]

/-- `U8Or16::read_with_args` reads exactly `compute_size` (1 or 2) bytes from the front of the data -/
theorem u8or16Read_in_bounds (d : List Nat) (mei v : Nat) (h : u8or16Read d mei = some v) :
    (u8or16Size mei = 1 ∨ u8or16Size mei = 2) ∧ u8or16Size mei ≤ d.length ∧ v = beAt d 0 (u8or16Size mei) := by
  unfold u8or16Read at h
  obtain ⟨h1, -, h2⟩ := readAt_eq_some h
  exact ⟨u8or16Size_eq mei, by omega, h2⟩

/-- `PatchMapFormat1::entry_count` cannot overflow its `u32`, and `is_entry_applied` only answers `true`
from a byte inside the bitmap (which lies inside the table) -/
theorem f1_entry_helpers (d : List Nat) (h : F1Hdr) (hr : f1Read d = some h) (hb : ∀ b ∈ d, b < 256) :
    f1EntryCount h = some (h.maxEntry + 1) ∧
    ∀ i, f1IsEntryApplied d h i = true → i / 8 < h.bitmapLen ∧ 36 + i / 8 < d.length := by
  obtain ⟨hm, _, hfit⟩ := f1Read_some hr
  have hmb : h.maxEntry < 65536 := by rw [hm]; exact HandRead.beAt_lt d hb 21 2
  refine ⟨?_, fun i hi => ?_⟩
  · unfold f1EntryCount
    have : h.maxEntry + 1 ≤ 4294967295 := by omega
    simp [this]
  · unfold f1IsEntryApplied PatchMap.isEntryApplied at hi
    cases hg : ((d.drop 36).take h.bitmapLen)[i / 8]? with
    | none => simp [hg] at hi
    | some b =>
      have := (List.getElem?_eq_some_iff.mp hg).1
      simp only [List.length_take, List.length_drop] at this
      omega

/-- **`gid_to_entry_iter` terminates within `glyph_count − first_mapped_glyph` trips, never traps, and
every item is in range**: when the glyph map cannot be read the iterator is empty; otherwise the
model's fuel `glyph_count + 2` suffices, the number of trips (items + skipped zero entries) is at most
`glyph_count − first_mapped_glyph`, which — one or two bytes per mapped glyph — is below the table
length; `self.gid += 1` stays far from `u32::MAX` and `cur_gid − first_mapped_glyph` never underflows;
each yielded `(gid, entry)` has `first_mapped_glyph ≤ gid < glyph_count`, `entry > 0`, read from inside
the `entry_index` array. -/
theorem gidToEntryIter_bounded (d : List Nat) (h : F1Hdr) (hr : f1Read d = some h) (hb : ∀ b ∈ d, b < 256) :
    (∀ e, f1GlyphMap d h = .error e → gidTrace d h = some []) ∧
    (∀ g, f1GlyphMap d h = .ok g →
      ∃ evs, gidTrace d h = some evs ∧ evs.length ≤ h.glyphCount - g.first ∧
        (h.glyphCount - g.first) * g.size + 2 ≤ d.length ∧ 1 ≤ g.size ∧
        trapped evs = false ∧ ∀ a ∈ items evs, GidItemOk g h.glyphCount a) := by
  obtain ⟨_, hgc, _⟩ := f1Read_some hr
  have hgcb : h.glyphCount < 16777216 := by rw [hgc]; exact HandRead.beAt_lt d hb 25 3
  refine ⟨fun e he => ?_, fun g hg => ?_⟩
  · unfold gidTrace
    simp only [he]
    simp [run, gidStep]
  · unfold gidTrace
    simp only [hg]
    unfold f1GlyphMap at hg
    cases hres : resolveOff d h.gmOff with
    | error e => simp [hres] at hg
    | ok sub =>
      obtain ⟨_, hoff, hsub⟩ := resolveOff_ok hres
      simp only [hres] at hg
      obtain ⟨hfirst, hsize, hlen, hfit⟩ := glyphMapRead_ok hg
      have hfb : g.first < 65536 := by
        rw [hfirst, hsub, beAt_drop]; exact HandRead.beAt_lt d hb _ 2
      have hsz : 1 ≤ g.size := by have := u8or16Size_eq h.maxEntry; omega
      obtain ⟨evs, he, hl, ht, hp⟩ := ReadIter.run_inv (gidStep (some g) h.glyphCount) (fun s => h.glyphCount - s)
        (fun s => g.first ≤ s ∧ s ≤ max g.first h.glyphCount) (GidItemOk g h.glyphCount)
        (fun s hs => gidStep_facts g h.glyphCount s hgcb hfb hs)
        (h.glyphCount + 2) g.first ⟨Nat.le_refl _, by omega⟩ (by omega)
      refine ⟨evs, he, hl, ?_, hsz, ht, hp⟩
      have : sub.length = d.length - h.gmOff := by rw [hsub]; simp
      rw [← hlen]; omega

/-- **`FeatureMap::entry_records_size` is total**: the loop over the feature records makes
`feature_count` trips (six or eight bytes each, all inside the table), no `record?` fails, the
unchecked `num_bytes += count · field_width · 2` stays below 2^34, and the result is the sum over the
records' `entry_map_count`s. -/
theorem entryRecordsSize_total (sub : List Nat) (meiOwn meiArg n rs : Nat)
    (hr : featureMapRead sub meiOwn = .ok (n, rs)) (hl : sub.length ≤ MAXU) (hb : ∀ b ∈ sub, b < 256) :
    ∃ v, entryRecordsSize sub meiOwn meiArg = .ok v ∧ v ≤ n * (65535 * 4) ∧ n * rs + 2 ≤ sub.length ∧
      v = (List.range n).foldl (fun a i => a + recCount ((sub.drop 2).take (n * rs)) rs (u8or16Size meiOwn) i *
        (if meiArg < 256 then 1 else 2) * 2) 0 := by
  obtain ⟨hrs, hn, hfit⟩ := featureMapRead_ok hr
  have hnb : n < 65536 := by rw [hn]; exact HandRead.beAt_lt sub hb 0 2
  unfold entryRecordsSize
  simp only [hr]
  have hlen : ((sub.drop 2).take (n * rs)).length = n * rs := by
    simp only [List.length_take, List.length_drop]; omega
  have hw := u8or16Size_eq meiOwn
  have hrs6 : 6 ≤ rs := by omega
  have hcl : compLen ((sub.drop 2).take (n * rs)).length rs = n := by
    unfold compLen
    have : rs ≠ 0 := by omega
    simp only [this, ↓reduceIte, hlen]
    exact Nat.mul_div_cancel _ (by omega)
  rw [hcl]
  have hfw : (if meiArg < 256 then 1 else 2) ≤ 2 := by split <;> omega
  obtain ⟨h1, h2⟩ := ersLoop_ok ((sub.drop 2).take (n * rs)) rs (u8or16Size meiOwn) (if meiArg < 256 then 1 else 2) n
    hlen hrs hw hfw (fun b hb' => hb b (List.mem_of_mem_drop (List.mem_of_mem_take hb'))) (by omega)
    (List.range n) 0 (fun i hi => List.mem_range.mp hi) (by
      simp only [List.length_range, MAXU]
      have : n * (65535 * 4) ≤ 65536 * (65535 * 4) := Nat.mul_le_mul_right _ (by omega)
      omega)
  refine ⟨_, h1, ?_, by omega, rfl⟩
  simpa using h2

/-- … and it is the value the C19 decoder model (`PatchMap.entryRecordsSize`, Model/PatchMapDecode.lean)
computes on any parsed view `t` of the table whose feature records carry the `entry_map_count`s found in
the bytes. -/
theorem entryRecordsSize_matches_C19 (sub : List Nat) (meiOwn n rs : Nat) (t : PatchMap.F1Table)
    (hr : featureMapRead sub meiOwn = .ok (n, rs)) (hl : sub.length ≤ MAXU) (hb : ∀ b ∈ sub, b < 256)
    (hc : t.featRecs.map (·.count) =
      (List.range n).map (recCount ((sub.drop 2).take (n * rs)) rs (u8or16Size meiOwn))) :
    entryRecordsSize sub meiOwn t.maxEntry = .ok (PatchMap.entryRecordsSize t) := by
  obtain ⟨v, h1, _, _, h4⟩ := entryRecordsSize_total sub meiOwn t.maxEntry n rs hr hl hb
  rw [h1, h4, entryRecordsSize_eq_C19 t _ hc, List.foldl_map]

/-- **`glyph_data_for_table` terminates within `glyph_count` items, never traps, and every glyph's
data lies inside the table** — for every `table_index: usize` (the start index is a saturating
product): the model's fuel `glyph_count + 2` suffices, at most `glyph_count ≤ (len − 5) / 2` items are
produced, and an `Ok((gid, data))` item is `data = table[start .. start + len]` with
`0 < start`, `start + len ≤ table.len()`. -/
theorem glyphDataForTable_bounded (d : List Nat) (wide : Bool) (h : GpHdr) (ti : Nat)
    (hr : gpRead d wide = some h) (hl : d.length ≤ MAXU) :
    ∃ evs, gdTrace d h ti = some evs ∧ evs.length ≤ h.gc ∧ 5 + h.gc * 2 ≤ d.length ∧
      trapped evs = false ∧ ∀ a ∈ items evs, GdItemOk d a := by
  obtain ⟨hw, hids, h1, h2⟩ := gpRead_some hr
  unfold gdTrace
  obtain ⟨evs, he, hlen, ht, hp⟩ := ReadIter.run_inv (gdStep d h (gdStartIndex h ti)) (gdMu h) (fun _ => True) (GdItemOk d)
    (fun s _ => by
      obtain ⟨a, b, c⟩ := gdStep_out d h (gdStartIndex h ti) s hl h2
      exact ⟨a, fun hnd => ⟨trivial, b hnd⟩, fun x hx => (c x hx).1⟩)
    (h.gc + 2) { k := 0, prev := none, failed := false } trivial (by simp [gdMu])
  refine ⟨evs, he, by simpa [gdMu] using hlen, ?_, ht, hp⟩
  have : h.gc * 2 ≤ h.gc * h.w := Nat.mul_le_mul_left _ (by rw [hw]; split <;> omega)
  omega

/-- **the first `Err` item ends the iteration**: a call of `GlyphDataIterator::next` that yields an
`Err` sets `failed`, and a failed iterator returns `None`. -/
theorem glyphData_error_is_last (d : List Nat) (wide : Bool) (h : GpHdr) (si : Nat) (s : GdSt)
    (hr : gpRead d wide = some h) (hl : d.length ≤ MAXU) :
    (∀ e, (gdStep d h si s).1 = .yield (.error e) → (gdStep d h si s).2.failed = true) ∧
    (s.failed = true → (gdStep d h si s).1 = .done) := by
  obtain ⟨_, _, _, h2⟩ := gpRead_some hr
  refine ⟨fun e he => ((gdStep_out d h si s hl h2).2.2 _ he).2 ⟨e, rfl⟩, fun hf => ?_⟩
  unfold gdStep
  simp [hf]

example : stRead exState = true ∧ stClass exState 5 = .ok 3 ∧ stClass exState 7 = .err .oob ∧
    stClass exState 0xFFFF = .ok 2 ∧ stEntry exState 2 1 = .ok (2, 0x8114) ∧
    stEntry exState 3 0 = .ok (0, 0x8112) ∧ stEntry exState 9 0 = .err .oob := by decide +kernel

example : lookupValue exLookup6 2 2 = .ok 7 := by decide +kernel
example : lookupValue exLookup6 2 5 = .ok 3 := by decide +kernel
/-- key 9 is present (first record) but not found: the records are not sorted -/
example : lookupValue exLookup6 2 9 = .err .oob := by decide +kernel

/-- an extended table: n_classes 1, state array at 16, entries (2-byte payload) at 18 -/
example : stxEntry [0,0,0,1, 0,0,0,0, 0,0,0,16, 0,0,0,18, 0,0, 0,1,0,2,0,3] 2 0 0 = .ok (1, 2, 3) ∧
    stxEntry [0,0,0,1, 0,0,0,0, 0,0,0,16, 0,0,0,18, 0,0, 0,1,0,2,0,3] 2 1 0 = .err .oob ∧
    stxClass [0,0,0,1, 0,0,0,0, 0,0,0,16, 0,0,0,18, 0,0, 0,1,0,2,0,3] 7 = .err .null := by decide +kernel

/-- ltag with three tags, the middle one not UTF-8 (`C3` alone) -/
example : ltagRead [0,0,0,1, 0,0,0,0, 0,0,0,3, 0,24,0,2, 0,26,0,1, 0,27,0,2, 101,110, 0xC3, 115,114] = some 3 ∧
    ltagTags [0,0,0,1, 0,0,0,0, 0,0,0,3, 0,24,0,2, 0,26,0,1, 0,27,0,2, 101,110, 0xC3, 115,114] 3 =
      .ok [(0, 24, 2), (2, 27, 2)] := by decide +kernel

example : utf8Valid [0xE2, 0x82, 0xAC] = true ∧ utf8Valid [0xED, 0xA0, 0x80] = false ∧
    utf8Valid [0xC0, 0x80] = false ∧ utf8Valid [0xF4, 0x90, 0x80, 0x80] = false := by decide +kernel

example : (f1Read exF1).map (·.glyphCount) = some 5 ∧
    ((f1Read exF1).bind (gidTrace exF1)).map items = some [(2, 2), (4, 1)] ∧
    (f1Read exF1).map (fun h => [0, 1, 2, 3, 8].map (f1IsEntryApplied exF1 h)) =
      some [true, false, true, false, false] := by decide +kernel

/-- a feature map with two records (`max_entry_index` < 256: 6-byte records), counts 2 and 1 -/
example : entryRecordsSize [0,2, 108,105,103,97, 1, 2, 108,105,103,98, 3, 1, 9,9,9,9,9,9] 3 3 = .ok 6 ∧
    entryRecordsSize [0,2, 108,105,103,97, 1, 2, 108,105,103,98, 3, 1, 9,9,9,9,9,9] 3 256 = .ok 12 := by
  decide +kernel

example : ((gpRead exGp false).bind (fun h => gdTrace exGp h 0)).map (fun evs => (items evs).map Except.toOption) =
      some [some (5, 25, 2), some (9, 27, 1)] ∧
    ((gpRead exGp false).bind (fun h => gdTrace exGp h 1)).map (fun evs => (items evs).length) = some 0 ∧
    ((gpRead exGp false).bind (fun h => gdTrace exGp h MAXU)).map (fun evs => (items evs).length) = some 0 := by
  decide +kernel

example : compatFromU32s [1, 2, 3, 0x01020304] = some [0,0,0,1, 0,0,0,2, 0,0,0,3, 1,2,3,4] := by decide

end FontVerif.C01HandAat
