/-
C17 — the palette-entry closure equation: which CPAL entries klippa keeps.
`plan.colr_palettes = remap_palette_indices(palette_indices)` where `palette_indices` (an `IntSet<u16>`) collects the COLRv1
closure's indices (the parameter `v1` here; Props/C17ColrPalV1.lean instantiates it with the model of read-fonts
`v1_closure`) and `Colr::v0_closure_palette_indices` over
`glyphset_colred` (Model/SubsetColrPal.lean); `Cpal::subset` keeps exactly the keys ≠ 0xFFFF (`SubsetCpal.retainedOf`,
Model/SubsetCpal.lean; with `C17Colr.cpal_header_preserved`: numPaletteEntries = their number, `cpal_colors_preserved`: each
keeps its colour in every palette).
-/
import FontVerif.Model.SubsetColrPal
import FontVerif.Lemmas.Layout
namespace FontVerif.C17ColrPal
open FontVerif.Layout FontVerif.SubsetColrPal FontVerif.SubsetCpal

theorem remap_keys (xs : List Nat) : (remapPaletteIndices xs).map (·.1) = xs := by
  unfold remapPaletteIndices
  rw [List.map_map]
  have : ∀ (l : List (Nat × Nat)), l.map ((fun (p : Nat × Nat) => p.1) ∘ fun (x : Nat × Nat) =>
      if x.1 = 0xFFFF then (0xFFFF, 0xFFFF) else (x.1, x.2 % 65536)) = l.map (·.1) := by
    intro l
    apply List.map_congr_left
    intro p _
    simp only [Function.comp]
    split
    · rename_i h; exact h.symm
    · rfl
  rw [this]
  exact List.zipIdx_map_fst _ _

/-- The CPAL entries `Cpal::subset` retains (`colr_palettes` keys other than the
foreground marker 0xFFFF) are EXACTLY: the palette indices the COLRv1 closure collected, plus the palette index of every
COLRv0 layer record `v0_closure_palette_indices` visits for a glyph of `glyphset_colred` — nothing else is kept, nothing
referenced is dropped; 0xFFFF is never a CPAL entry (it maps to itself in `colr_palettes`). -/
theorem cpal_entries_kept_are_closure (v1 : List Nat) (records : List (Nat × Nat × Nat)) (layers : List (Nat × Nat))
    (colred : List Nat) (e : Nat) :
    e ∈ retainedOf (colrPalettes v1 records layers colred) ↔
      e ≠ 0xFFFF ∧ (e ∈ v1 ∨ ∃ g ∈ colred, e ∈ v0PalOfGlyph records layers g) := by
  unfold retainedOf colrPalettes paletteSet
  rw [remap_keys]
  simp only [List.mem_filter, mem_sortDedup, List.mem_append, v0Palettes, List.mem_flatMap, decide_eq_true_eq, ne_eq]
  constructor
  · rintro ⟨h1, h2⟩; exact ⟨h2, h1⟩
  · rintro ⟨h1, h2⟩; exact ⟨h2, h1⟩

/-- What `v0_closure_palette_indices` contributes for one glyph: the glyph id fits `GlyphId16`,
`binary_search_by` finds a BaseGlyph record for it, and the index is the palette index of a layer record that exists
(`v0_layer` succeeds) inside that record's `firstLayerIndex .. firstLayerIndex + numLayers`. -/
theorem v0_palette_of_glyph (records : List (Nat × Nat × Nat)) (layers : List (Nat × Nat)) (g e : Nat) :
    e ∈ v0PalOfGlyph records layers g ↔
      g < 65536 ∧ ∃ idx, binarySearchBy records.length (fun i => natCmp ((records.getD i (0, 0, 0)).1) g) = .ok idx ∧
        ∃ li, (records.getD idx (0, 0, 0)).2.1 ≤ li ∧ li < (records.getD idx (0, 0, 0)).2.1 + (records.getD idx (0, 0, 0)).2.2 ∧
          ∃ lg, layers[li]? = some (lg, e) := by
  unfold v0PalOfGlyph
  by_cases hg : g ≥ 65536
  · simp only [hg, if_true, List.not_mem_nil, false_iff]
    rintro ⟨h, _⟩; omega
  · simp only [hg, if_false]
    cases hb : binarySearchBy records.length (fun i => natCmp ((records.getD i (0, 0, 0)).1) g) with
    | err i => simp
    | ok idx =>
      simp only [List.mem_filterMap, List.mem_range', Option.map_eq_some_iff, BsResult.ok.injEq, exists_eq_left']
      constructor
      · rintro ⟨li, ⟨k, hk, rfl⟩, ⟨lg, e'⟩, hl, rfl⟩
        exact ⟨by omega, _, ⟨by omega, by omega, lg, hl⟩⟩
      · rintro ⟨_, li, h1, h2, lg, hl⟩
        exact ⟨li, ⟨li - (records.getD idx (0, 0, 0)).2.1, by omega, by omega⟩, (lg, e), hl, rfl⟩

/-- the keys iterate ascending and without repetition (an `IntSet`) -/
theorem palette_keys_ascending (v1 : List Nat) (records : List (Nat × Nat × Nat)) (layers : List (Nat × Nat))
    (colred : List Nat) : ((colrPalettes v1 records layers colred).map (·.1)).Pairwise (· < ·) := by
  unfold colrPalettes paletteSet
  rw [remap_keys]
  exact sortDedup_pairwise _

/-- base glyphs 5 (layers 0..2) and 9 (layers 2..4); layer palette indices 3, 0xFFFF, 7, 3; kept colour glyphs 5 and 8 -/
example : v0Palettes [(5, 0, 2), (9, 2, 2)] [(20, 3), (21, 0xFFFF), (22, 7), (23, 3)] [5, 8] = [3, 0xFFFF] := by decide +kernel
example : colrPalettes [11] [(5, 0, 2), (9, 2, 2)] [(20, 3), (21, 0xFFFF), (22, 7), (23, 3)] [5, 8] =
    [(3, 0), (11, 1), (0xFFFF, 0xFFFF)] := by decide +kernel
example : retainedOf [(3, 0), (11, 1), (0xFFFF, 0xFFFF)] = [3, 11] := by decide

end FontVerif.C17ColrPal
