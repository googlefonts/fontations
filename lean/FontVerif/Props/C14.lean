/-
C14 — RangeSet part: `RangeSet::insert` / `intersection` keep the map sorted, disjoint and
non-adjacent and act as the mathematical set operations.  (IntSet: Props/C14IntSet.lean and the
C14Conc / C14PageConc / C14IterConc / C14IterMod refinements; codec: Props/C14Codec.lean.)
Property theorems only (helper lemmas live in Lemmas/RangeSet.lean).
Model: Model/RangeSet.lean ⇄ read-fonts/src/collections/range_set.rs
-/
import FontVerif.Model.RangeSet
import FontVerif.Lemmas.RangeSet
namespace FontVerif.C14

section RangeSet
open FontVerif.RangeSet

/-- `RangeSet::insert` keeps the map sorted, disjoint, non-adjacent and well-formed, for every
stored state satisfying the invariant and every (possibly malformed) argument range. -/
theorem rangeset_insert_inv (rs : Ranges) (s e : Int) (h : RInv rs) : RInv (insert rs s e) :=
  (insert_spec rs s e h).1

/-- membership after `insert(s..=e)` is exactly `old ∨ s ≤ x ≤ e`. -/
theorem rangeset_insert_mem (rs : Ranges) (s e x : Int) (h : RInv rs) :
    Mem (insert rs s e) x ↔ Mem rs x ∨ (s ≤ x ∧ x ≤ e) :=
  (insert_spec rs s e h).2 x

/-- every history: after any sequence of inserts starting from the empty set (i.e. `extend`,
`from_iter`, or repeated `insert`) the invariant holds … -/
theorem rangeset_history_inv (ops : List (Int × Int)) : RInv (insertAll [] ops) :=
  (insertAll_spec ops [] rinv_nil).1

/-- … and the set's members are exactly the union of the inserted ranges. -/
theorem rangeset_history_mem (ops : List (Int × Int)) (x : Int) :
    Mem (insertAll [] ops) x ↔ ∃ op ∈ ops, op.1 ≤ x ∧ x ≤ op.2 :=
  ((insertAll_spec ops [] rinv_nil).2 x).trans (or_iff_right Mem_nil)

/-- `RangeSet::intersection`: the yielded ranges are again sorted, disjoint, non-adjacent and
well-formed, and cover exactly the common members. -/
theorem rangeset_intersection_spec (a b : Ranges) (ha : RInv a) (hb : RInv b) :
    RInv (intersection a b) ∧ ∀ x, Mem (intersection a b) x ↔ Mem a x ∧ Mem b x :=
  intersection_spec a b ha hb

example : insertAll [] [(6, 8), (10, 14), (16, 20), (7, 19)] = [(6, 20)] := by decide
example : insertAll [] [(6, 8), (10, 10), (9, 9), (12, 11)] = [(6, 10)] := by decide
example : intersection [(2, 5), (7, 9), (13, 64)] [(1, 3), (5, 8), (13, 64), (67, 69)]
    = [(2, 3), (5, 5), (7, 8), (13, 64)] := by simp [intersection, rangeIntersection]; omega
example : RInv [(2, 5), (7, 9)] := by simp [RInv]

end RangeSet

end FontVerif.C14
