/-
C01 (hand-written code) — the TrueType bytecode decoder of read-fonts
(read-fonts/src/tables/glyf/bytecode/{decode,instruction,opcode}.rs ⇄ Model/HandBytecode.lean): for every byte
string and EVERY program counter (an external `usize`, also past the end or `usize::MAX`) `Decoder::decode` returns
`None`, `Some(Err)` or an instruction whose operand bytes lie inside the bytecode — no `usize` `+` / `-`, no `i32`
product and no table index of `decode_inner` leaves its range — and `decode_all` ends after at most `len − pc` items.
Tied to the real functions by harness group `glyf.bytecode.model` (`hy.dec`, `hy.op`).
-/
import FontVerif.Lemmas.ReadIter
import FontVerif.Lemmas.HandBytecode
namespace FontVerif.C01HandBytecode
open FontVerif.ReadIter FontVerif.HandBytecode

/-- **`OPCODE_LENGTHS[self as usize]` is never out of bounds and every entry is −1, −2 (NPUSHB / NPUSHW) or a
length 1..17**: hence `opcode_len.abs() * inline_count + 2 ≤ 512` fits the `i32` and `next_pc ≥ inline_start`. -/
theorem opcode_len_total (b : Nat) (hb : b < 256) :
    ∃ l, opLen b = some l ∧ (l = -1 ∨ l = -2 ∨ (1 ≤ l ∧ l ≤ 17)) := opLen_range b hb

/-- **`Decoder::decode` is total and hands out in-range operands, for every `pc`**: it is `None` exactly when `pc`
is not inside the bytecode; otherwise `Err` (the decoder's `pc` unchanged) or an instruction at `pc` whose inline
operand bytes `start .. start + size` lie inside the bytecode, with the new `pc` strictly greater and at most `len`.
(`len ≤ isize::MAX` holds for every Rust slice.) -/
theorem decode_total (d : List Nat) (pc : Nat) (hlen : d.length ≤ 9223372036854775807) (hbytes : ∀ x ∈ d, x < 256) :
    (decode d pc).1 ≠ .trap ∧
    ((decode d pc).1 = .none ↔ d.length ≤ pc) ∧
    ((decode d pc).1 = .err → (decode d pc).2 = pc) ∧
    (∀ op p st sz w, (decode d pc).1 = .ok op p st sz w →
      p = pc ∧ pc < (decode d pc).2 ∧ (decode d pc).2 ≤ d.length ∧ st + sz ≤ d.length) := by
  unfold decode
  cases hg : d[pc]? with
  | none =>
    have : d.length ≤ pc := by simpa using hg
    simp [this]
  | some b =>
    have hpc : pc < d.length := (List.getElem?_eq_some_iff.mp hg).1
    have hb : b < 256 := hbytes b (List.mem_of_getElem? hg)
    dsimp only
    rcases decodeInner_cases d pc b hb hpc hlen hbytes with h | ⟨st, sz, w, n, h, hn, hle, hin⟩ <;> rw [h]
    · exact ⟨nofun, ⟨nofun, fun h => by omega⟩, fun _ => rfl, nofun⟩
    · refine ⟨nofun, ⟨nofun, fun h => by omega⟩, nofun, ?_⟩
      intro op p st' sz' w' heq
      injection heq with _ hp hst hsz _
      subst hp hst hsz
      exact ⟨rfl, by omega, hle, hin⟩

/-- **`decode_all` terminates within `len − pc` items and never panics**: every `Ok` item moves the program counter
forward inside the bytecode (`decode_total`) and the iterator stops after the first `Err`, so at most `len − pc` items
are yielded — none for a `pc` outside the bytecode.  The model's fuel `len + 2` always suffices. -/
theorem decodeAll_bounded (d : List Nat) (pc : Nat) (hlen : d.length ≤ 9223372036854775807)
    (hbytes : ∀ x ∈ d, x < 256) :
    ∃ evs, allTrace d pc = some evs ∧ evs.length ≤ d.length - pc ∧ trapped evs = false := by
  let μ : ASt → Nat := fun s => if s.failed then 0 else d.length - s.pc
  have hstep : ∀ s : ASt, (allStep d s).1 ≠ .trap ∧ ((allStep d s).1 ≠ .done → μ (allStep d s).2 < μ s) := by
    intro s
    obtain ⟨t1, t2, t3, t4⟩ := decode_total d s.pc hlen hbytes
    unfold allStep
    by_cases hf : s.failed = true
    · simp [hf]
    · simp only [hf, Bool.false_eq_true, if_false]
      rcases hres : decode d s.pc with ⟨r, pc'⟩
      rw [hres] at t1 t2 t3 t4
      simp only at t1 t2 t3 t4
      cases r with
      | none => simp
      | trap => exact absurd rfl t1
      | err =>
        have hlt : s.pc < d.length := by
          by_cases h : d.length ≤ s.pc
          · have := t2.mpr h; cases this
          · omega
        simp only [μ, hf]
        exact ⟨by simp, fun _ => by simp; omega⟩
      | ok op p st sz w =>
        obtain ⟨_, h2, h3, _⟩ := t4 op p st sz w rfl
        simp only [μ, hf]
        exact ⟨by simp, fun _ => by simp; omega⟩
  obtain ⟨evs, he, hl, ht⟩ := run_bounded (allStep d) μ (fun _ => True)
    (fun s _ => ⟨trivial, (hstep s).1, (hstep s).2⟩) (d.length + 2) ⟨pc, false⟩ trivial (by simp [μ]; omega)
  exact ⟨evs, he, by simpa [μ] using hl, ht⟩

/-- **`InlineOperands::values` yields exactly `InlineOperands::len()` values**: one per byte, or one per whole
pair of bytes for word operands (`chunks_exact(2)`: `chunk[0]`, `chunk[1]` always exist; an odd trailing byte is
dropped) -/
theorem operandValues_length (bytes : List Nat) (words : Bool) :
    (operandValues bytes words).length = operandLen bytes.length words := by
  have hw : ∀ (n : Nat) (bs : List Nat), bs.length ≤ n → (wordValues bs).length = bs.length / 2 := by
    intro n
    induction n with
    | zero => intro bs h; cases bs with
      | nil => rfl
      | cons a r => simp at h
    | succ n ih =>
      intro bs h
      match bs, h with
      | [], _ => rfl
      | [a], _ => simp [wordValues]
      | a :: b :: rest, h =>
        simp only [wordValues, List.length_cons]
        rw [ih rest (by simp at h; omega)]
        omega
  unfold operandValues operandLen
  cases words with
  | true => simpa using hw bytes.length bytes (Nat.le_refl _)
  | false => simp

/-- PUSHB[1] 7 9, then a truncated PUSHW[0]: one instruction, one `Err`, end -/
example : (allTrace [0xB1, 7, 9, 0xB8, 1] 0).map items =
    some [DRes.ok 0xB1 0 1 2 false, DRes.err] := by decide +kernel

/-- NPUSHW with count 2 at pc 1 -/
example : (allTrace [0x01, 0x41, 2, 0xFF, 0xFE, 0, 5] 1).map items = some [DRes.ok 0x41 1 3 4 true] := by decide +kernel

/-- a program counter at `usize::MAX` yields nothing (no `pc + 1` is evaluated) -/
example : (allTrace [0x40] 18446744073709551615).map items = some [] := by decide +kernel

example : operandValues [0xFF, 0xFE, 0, 5] true = [-2, 5] := by decide
example : operandValues [0xFF, 0xFE, 7] true = [-2] := by decide

end FontVerif.C01HandBytecode
