/-
C03 — interpolation, shifting and alignment opcodes of the TrueType interpreter:
skrifa (Model/HintInterp.lean) = FreeType 2.12.1 (Model/FtInterp.lean), on top of the projection /
movement theorems of Props/C03Vec.lean.  Same conventions: `skrifa = some (FreeType)` for all operands
in explicit ranges (`Pos29`, `Dist24`, `ProjOk`, …); where FreeType's intermediate is a 64-bit product or
quotient (IP's `FT_MulDiv`, ISECT's `FT_MulDiv`s and `19 * |discriminant|`, IUP's `FT_DivFix` scale) the
statement is either the truncated equality (IP: for ALL i32 operands; ISECT: for points within ±2^14) or the
exact one under an explicit range hypothesis on FreeType's value, with `example`s of the two sides differing outside.
-/
import FontVerif.Props.C03Vec
import FontVerif.Lemmas.InterpEq
import FontVerif.Model.HintInterp
import FontVerif.Model.FtInterp
namespace FontVerif.C03
open FontVerif.Tt

/-- **IP, the new distance**: `mul_div(original_distance, cur_range, old_range)` is FreeType's
`FT_MulDiv( org_dist, cur_range, old_range )` truncated to 32 bits, for ALL i32 operands, including the
branches `org_dist == 0` and `old_range == 0`. -/
theorem ip_new_dist_eq (o c r : Int) (ho : inI32 o) (hc : inI32 c) (hr : inI32 r) :
    HintInterp.ipNewDist o c r = wrapI32 (FtInterp.ipNewDist o c r) := by
  unfold HintInterp.ipNewDist FtInterp.ipNewDist HintMath.mulDiv
  by_cases h0 : o = 0
  · subst h0; simp only [ne_eq, not_true_eq_false, if_false]; decide
  · by_cases h1 : r = 0
    · simp only [h0, h1, ne_eq, not_false_eq_true, not_true_eq_false, if_true, if_false]
      exact (wrapI32_id ho).symm
    · simp only [h0, h1, ne_eq, not_false_eq_true, if_true]
      exact muldiv_eq o c r ho hc hr

/-- … and exactly FreeType's whenever that fits an `i32`. -/
theorem ip_new_dist_eq_exact (o c r : Int) (ho : inI32 o) (hc : inI32 c) (hr : inI32 r)
    (hf : inI32 (FtInterp.ipNewDist o c r)) :
    HintInterp.ipNewDist o c r = FtInterp.ipNewDist o c r := by
  rw [ip_new_dist_eq o c r ho hc hr, wrapI32_id hf]

example : HintInterp.ipNewDist 640 (-300) 1000 = -192 ∧ FtInterp.ipNewDist 640 (-300) 1000 = -192
    ∧ HintInterp.ipNewDist 640 (-300) 0 = 640 ∧ HintInterp.ipNewDist 0 5 7 = 0 := by decide +kernel
-- FreeType's 64-bit quotient: a huge stretch (cur_range 2^20 over old_range 1) keeps 41 bits
example : FtInterp.ipNewDist 1048576 1048576 1 = 1099511627776
    ∧ HintInterp.ipNewDist 1048576 1048576 1 = 0 := by decide +kernel

theorem zpos_parts {p : ZPt} (h : ZPos29 p) : Pos29 p.org ∧ Pos29 p.cur ∧ Pos29 p.orus := h

/-- **IP, the ranges** `(old_range, cur_range)`. -/
theorem ip_ranges_eq (g : HintVec.Proj) (tw : Bool) (b r2 : ZPt) (hg : ProjOk g) (hb : ZPos29 b)
    (hr : ZPos29 r2) :
    HintInterp.ipRanges g tw b r2 = some (FtInterp.ipRanges (toFuncs g) tw b r2) := by
  unfold HintInterp.ipRanges FtInterp.ipRanges
  cases tw
  · simp only [Bool.false_eq_true, if_false]
    rw [dual_project_eq g _ _ hg hr.2.2 hb.2.2, project_eq g _ _ hg hr.2.1 hb.2.1]
    rfl
  · simp only [if_true]
    rw [dual_project_eq g _ _ hg hr.1 hb.1, project_eq g _ _ hg hr.2.1 hb.2.1]
    rfl

/-- FreeType's `org_dist` of a point in `Ins_IP`. -/
def ipOrgDist (g : HintVec.Proj) (tw : Bool) (b p : ZPt) : Int :=
  if tw then FtVec.dualproj (toFuncs g) p.org b.org else FtVec.dualproj (toFuncs g) p.orus b.orus

/-- **IP, one point**: same resulting coordinates and touch flags, when FreeType's new distance for
this point fits 32 bits and the move it requests is within ±2^24. -/
theorem ip_point_eq (g : HintVec.Proj) (bc iupd tw : Bool) (oldR curR : Int) (b p : ZPt) (hg : ProjOk g)
    (hb : ZPos29 b) (hp : ZPos29 p) (ho : inI32 oldR) (hc : inI32 curR)
    (hfit : inI32 (FtInterp.ipNewDist (ipOrgDist g tw b p) curR oldR))
    (hmv : Dist24 (FtCalc.subLong (FtInterp.ipNewDist (ipOrgDist g tw b p) curR oldR)
      (FtVec.project (toFuncs g) p.cur b.cur))) :
    HintInterp.ipPoint g bc iupd tw oldR curR b p = some (FtInterp.ipPoint (toFuncs g) bc iupd tw oldR curR b p) := by
  unfold HintInterp.ipPoint FtInterp.ipPoint
  have hmp : MPos29 ⟨p.cur.x, p.cur.y, p.tx, p.ty⟩ := hp.2.1
  have fin : ∀ od cd : Int, inI32 od → inI32 cd → inI32 (FtInterp.ipNewDist od curR oldR) →
      Dist24 (FtCalc.subLong (FtInterp.ipNewDist od curR oldR) cd) →
      HintVec.movePoint g bc iupd ⟨p.cur.x, p.cur.y, p.tx, p.ty⟩ (HintMove.wsub (HintInterp.ipNewDist od curR oldR) cd)
      = FtVec.funcMove (toFuncs g) bc iupd ⟨p.cur.x, p.cur.y, p.tx, p.ty⟩ (FtCalc.subLong (FtInterp.ipNewDist od curR oldR) cd) := by
    intro od cd hod hcd hn hd
    rw [ip_new_dist_eq_exact od curR oldR hod hc ho hn]
    refine move_sub_eq g bc iupd _ hg hmp ?_
    unfold inI32 at hn hcd
    rwa [show FtCalc.subLong (FtInterp.ipNewDist od curR oldR) cd = FtInterp.ipNewDist od curR oldR - cd from
      wrapI64_of_in (by omega) (by omega)] at hd
  unfold ipOrgDist at hfit hmv
  cases tw
  · simp only [Bool.false_eq_true, if_false] at hfit hmv ⊢
    rw [dual_project_eq g _ _ hg hp.2.2 hb.2.2, project_eq g _ _ hg hp.2.1 hb.2.1]
    simp only [Option.bind_some, Option.map_some, Option.some.injEq]
    exact fin _ _ (ft_dualproj_i32 g _ _ hp.2.2 hb.2.2) (ft_project_i32 g _ _ hp.2.1 hb.2.1) hfit hmv
  · simp only [if_true] at hfit hmv ⊢
    rw [dual_project_eq g _ _ hg hp.1 hb.1, project_eq g _ _ hg hp.2.1 hb.2.1]
    simp only [Option.bind_some, Option.map_some, Option.some.injEq]
    exact fin _ _ (ft_dualproj_i32 g _ _ hp.1 hb.1) (ft_project_i32 g _ _ hp.2.1 hb.2.1) hfit hmv

-- non-vacuity: y axis, rp1 at 0 → 64 (moved up one pixel), rp2 at 640 → 640, the point at 320:
-- new distance 320 * 576 / 640 = 288 from rp1, i.e. the point goes to y = 352 (a move of +32)
example :
    let g : HintVec.Proj := ⟨⟨0, 16384⟩, ⟨0, 16384⟩, ⟨0, 16384⟩, 16384, .y, .y, .y⟩
    let b : ZPt := ⟨⟨0, 0⟩, ⟨0, 64⟩, ⟨0, 0⟩, true, true, true⟩
    let p : ZPt := ⟨⟨100, 320⟩, ⟨100, 320⟩, ⟨100, 320⟩, false, false, true⟩
    inI32 (FtInterp.ipNewDist (ipOrgDist g false b p) 576 640)
    ∧ Dist24 (FtCalc.subLong (FtInterp.ipNewDist (ipOrgDist g false b p) 576 640) (FtVec.project (toFuncs g) p.cur b.cur))
    ∧ HintInterp.ipPoint g false false false 640 576 b p = some ⟨100, 352, false, true⟩
    ∧ FtInterp.ipPoint (toFuncs g) false false false 640 576 b p = ⟨100, 352, false, true⟩ := by
  unfold inI32 Dist24; decide

/-- **SHPIX**: the displacement `(mul14(amount, fv.x), mul14(amount, fv.y))` = `TT_MulFix14( args[0], … )`
for every i32 amount (FreeType truncates `args[0]` to `FT_Int32`), and the backward-compatibility
condition for moving the point is the same boolean function. -/
theorem shpix_eq (fv : Vec) (amount : Int) (ha : inI32 amount) (bc iupd tw comp ty : Bool) :
    HintInterp.shpixDisp fv amount = FtInterp.shpixDisp fv amount ∧
    HintInterp.shpixMoves bc iupd tw comp fv ty = FtInterp.shpixMoves bc iupd tw comp fv ty := by
  unfold HintInterp.shpixDisp FtInterp.shpixDisp
  rw [wrapI32_id ha]
  exact ⟨rfl, rfl⟩

theorem ft_project_small (g : HintVec.Proj) (v1 v2 : Vec) (hg : ProjOk g)
    (h1 : (-1048576 ≤ v1.x ∧ v1.x ≤ 1048576) ∧ (-1048576 ≤ v1.y ∧ v1.y ≤ 1048576))
    (h2 : (-1048576 ≤ v2.x ∧ v2.x ≤ 1048576) ∧ (-1048576 ≤ v2.y ∧ v2.y ≤ 1048576)) :
    -8388609 ≤ FtVec.project (toFuncs g) v1 v2 ∧ FtVec.project (toFuncs g) v1 v2 ≤ 8388609 := by
  unfold FtVec.project FtCalc.subLong
  rw [wrapI64_of_in (by omega) (by omega), wrapI64_of_in (by omega) (by omega)]
  exact funcProject_bound g (D := 2097152) (by decide) hg.1.1 hg.1.2 (by omega) (by omega)

def Pos20 (v : Vec) : Prop := (-1048576 ≤ v.x ∧ v.x ≤ 1048576) ∧ (-1048576 ≤ v.y ∧ v.y ≤ 1048576)

/-- **ALIGNRP**, one point: moved by minus its projected distance from rp0. -/
theorem alignrp_eq (g : HintVec.Proj) (bc iupd : Bool) (p : HintVec.MPt) (rp0 : Vec) (hg : ProjOk g)
    (hp : MPos20 p) (hr : Pos20 rp0) :
    HintInterp.alignrp g bc iupd p rp0 = some (FtInterp.alignrp (toFuncs g) bc iupd p rp0) := by
  have hb := ft_project_small g ⟨p.x, p.y⟩ rp0 hg hp hr
  unfold HintInterp.alignrp FtInterp.alignrp
  rw [project_eq g ⟨p.x, p.y⟩ _ hg (pos29_of_20 hp) (pos29_of_20 hr)]
  have e := neg_fits (a := FtVec.project (toFuncs g) ⟨p.x, p.y⟩ rp0) ⟨by omega, by omega⟩
  rw [Option.map_some, e.1, e.2]
  exact congrArg some (move_point_eq g bc iupd p _ hg (mpos29_of_20 hp) (by unfold Dist24; omega))

/-- **ALIGNPTS**: half the projected distance, truncating towards zero on both sides. -/
theorem alignpts_eq (g : HintVec.Proj) (p2 p1 : Vec) (hg : ProjOk g) (h2 : Pos29 p2) (h1 : Pos29 p1) :
    HintInterp.alignptsDist g p2 p1 = some (FtInterp.alignptsDist (toFuncs g) p2 p1) := by
  unfold HintInterp.alignptsDist FtInterp.alignptsDist
  rw [project_eq g _ _ hg h2 h1]; rfl

/-- **MSIRP** (glyph-zone part): same resulting coordinates and touch flags. -/
theorem msirp_eq (g : HintVec.Proj) (bc iupd : Bool) (p : HintVec.MPt) (rp0 : Vec) (d : Int) (hg : ProjOk g)
    (hp : MPos20 p) (hr : Pos20 rp0) (hd : -8388607 ≤ d ∧ d ≤ 8388607) :
    HintInterp.msirp g bc iupd p rp0 d = some (FtInterp.msirp (toFuncs g) bc iupd p rp0 d) := by
  have hb := ft_project_small g ⟨p.x, p.y⟩ rp0 hg hp hr
  unfold HintInterp.msirp FtInterp.msirp
  rw [project_eq g ⟨p.x, p.y⟩ _ hg (pos29_of_20 hp) (pos29_of_20 hr)]
  exact congrArg some (move_sub_eq g bc iupd p hg (mpos29_of_20 hp) (by unfold Dist24; omega))

/-- FreeType's rounded value is within 2^23 of its argument.  True for every round state SROUND can
produce; proved here for the six fixed modes (`round_near_fixed`), a hypothesis for Super / Super45. -/
def RoundNear (mode thr ph per d : Int) : Prop :=
  -8388608 ≤ FtRound.round mode thr ph per 0 d - d ∧ FtRound.round mode thr ph per 0 d - d ≤ 8388608

theorem round_near_fixed (mode thr ph per d : Int) (hm : 0 ≤ mode ∧ mode ≤ 5)
    (hd : -1073741824 ≤ d ∧ d ≤ 1073741824) : RoundNear mode thr ph per d := by
  unfold RoundNear
  by_cases h5 : mode = 5
  · subst h5
    show _ ≤ FtRound.roundNone 0 d - d ∧ FtRound.roundNone 0 d - d ≤ _
    rw [roundNone_zero (by omega)]; omega
  · have := (round_grid_modes mode thr ph per d (by omega) (by omega)).2
    omega

/-- **MDAP[a]**: rounding the point's own projection with the current round state (ranges of
`round_state_eq`), or just touching it. -/
theorem mdap_eq (g : HintVec.Proj) (bc iupd a : Bool) (mode thr ph per : Int) (p : HintVec.MPt)
    (hg : ProjOk g) (hp : MPos20 p) (hm : 0 ≤ mode ∧ mode ≤ 7) (ht : -1048576 ≤ thr ∧ thr ≤ 1048576)
    (hph : -1048576 ≤ ph ∧ ph ≤ 1048576) (hper : 0 < per ∧ per ≤ 1048576)
    (hnear : RoundNear mode thr ph per (FtVec.fastProject (toFuncs g) ⟨p.x, p.y⟩)) :
    HintInterp.mdap g bc iupd a mode thr ph per p = some (FtInterp.mdap (toFuncs g) bc iupd a mode thr ph per p) := by
  have hz20 : Pos20 Vec.zero := by unfold Pos20 Vec.zero; simp only []; omega
  have hp29 : Pos29 ⟨p.x, p.y⟩ := pos29_of_20 hp
  unfold HintInterp.mdap FtInterp.mdap
  cases a
  · exact congrArg some (move_point_eq g bc iupd p 0 hg (mpos29_of_20 hp) (by unfold Dist24; omega))
  · have hb := ft_project_small g ⟨p.x, p.y⟩ Vec.zero hg hp hz20
    rw [(ft_project_zero _ _ hp29).1] at hb
    simp only [if_true]
    rw [project_eq g _ _ hg hp29 (pos29_of_20 hz20), (ft_project_zero _ _ hp29).1, Option.bind_some,
      round_state_eq mode thr ph per _ hm ht hph hper (by omega)]
    exact congrArg some
      (move_sub_eq g bc iupd p hg (mpos29_of_20 hp) (by unfold RoundNear at hnear; unfold Dist24; omega))

-- MDAP[1] with round-to-grid on the y axis: y = 100 → 128
example : HintInterp.mdap ⟨⟨0, 16384⟩, ⟨0, 16384⟩, ⟨0, 16384⟩, 16384, .y, .y, .y⟩ false false true 0 0 0 64 ⟨7, 100, false, false⟩
      = some ⟨7, 128, false, true⟩
    ∧ FtInterp.mdap (toFuncs ⟨⟨0, 16384⟩, ⟨0, 16384⟩, ⟨0, 16384⟩, 16384, .y, .y, .y⟩) false false true 0 0 0 64 ⟨7, 100, false, false⟩
      = ⟨7, 128, false, true⟩ := by decide

/-- a point within ±2^14 26.6 units (256 px) per coordinate: the range in which every product of ISECT
(`FT_MulDiv( d, d', 0x40 )`, `19 * |discriminant|`) fits 32 bits. -/
def Pos14 (v : Vec) : Prop := (-16384 ≤ v.x ∧ v.x ≤ 16384) ∧ (-16384 ≤ v.y ∧ v.y ≤ 16384)

/-- **ISECT**: the same branch is taken (incl. the parallel-lines fallback `19·|disc| ≤ |dot|`), the
fallback midpoint is identical, and the intersection point is FreeType's truncated to 32 bits
(FreeType's `FT_MulDiv( val, dax, discriminant )` is a 64-bit quotient: nearly parallel lines put the
intersection arbitrarily far away). -/
theorem isect_eq (a0 a1 b0 b1 : Vec) (ha0 : Pos14 a0) (ha1 : Pos14 a1) (hb0 : Pos14 b0) (hb1 : Pos14 b1) :
    HintInterp.isect a0 a1 b0 b1 =
      ⟨wrapI32 (FtInterp.isect a0 a1 b0 b1).x, wrapI32 (FtInterp.isect a0 a1 b0 b1).y⟩ := by
  unfold Pos14 at *
  -- the six coordinate differences and the negated one are exact on both sides and fit 16 bits
  have sub : ∀ {a b : Int}, (-16384 ≤ a ∧ a ≤ 16384) → (-16384 ≤ b ∧ b ≤ 16384) →
      (HintMove.wsub a b = a - b ∧ FtCalc.subLong a b = a - b) ∧ -32768 ≤ a - b ∧ a - b ≤ 32768 :=
    fun h1 h2 => ⟨sub_fits ⟨by omega, by omega⟩, by omega, by omega⟩
  obtain ⟨s1, hdbx⟩ := sub hb1.1 hb0.1
  obtain ⟨s2, hdby⟩ := sub hb1.2 hb0.2
  obtain ⟨s3, hdax⟩ := sub ha1.1 ha0.1
  obtain ⟨s4, hday⟩ := sub ha1.2 ha0.2
  obtain ⟨s5, hdx⟩ := sub hb0.1 ha0.1
  obtain ⟨s6, hdy⟩ := sub hb0.2 ha0.2
  have hn : -32768 ≤ -(b1.y - b0.y) ∧ -(b1.y - b0.y) ≤ 32768 := by omega
  have n := neg_fits (a := b1.y - b0.y) ⟨by omega, by omega⟩
  unfold HintInterp.isect FtInterp.isect
  simp only [s1.1, s1.2, s2.1, s2.2, s3.1, s3.2, s4.1, s4.2, s5.1, s5.2, s6.1, s6.2, n.1, n.2]
  clear sub s1 s2 s3 s4 s5 s6 n
  obtain ⟨ec1, hdisc⟩ := cross64_eq _ _ _ _ hdax hn hday hdbx
  obtain ⟨ec2, hdot⟩ := cross64_eq _ _ _ _ hdax hdbx hday hdby
  obtain ⟨ec3, hv⟩ := cross64_eq _ _ _ _ hdx hn hdy hdbx
  rw [ec1, ec2, ec3]
  generalize FtCalc.addLong (FtCalc.mulDiv (a1.x - a0.x) (-(b1.y - b0.y)) 64) (FtCalc.mulDiv (a1.y - a0.y) (b1.x - b0.x) 64) = disc at *
  generalize FtCalc.addLong (FtCalc.mulDiv (a1.x - a0.x) (b1.x - b0.x) 64) (FtCalc.mulDiv (a1.y - a0.y) (b1.y - b0.y) 64) = dot at *
  generalize FtCalc.addLong (FtCalc.mulDiv (b0.x - a0.x) (-(b1.y - b0.y)) 64) (FtCalc.mulDiv (b0.y - a0.y) (b1.x - b0.x) 64) = v at *
  clear ec1 ec2 ec3
  -- the parallel-lines test `19·|disc| > |dot|` is exact in 32 bits
  have eabs : ∀ t : Int, (-33554434 ≤ t ∧ t ≤ 33554434) → HintInterp.wabs32 t = FtInterp.absL t ∧
      0 ≤ FtInterp.absL t ∧ FtInterp.absL t ≤ 33554434 := by
    intro t ht
    refine ⟨(abs_fits ⟨by omega, by omega⟩).1, ?_⟩
    unfold FtInterp.absL; split <;> omega
  obtain ⟨ea1, hab⟩ := eabs disc hdisc
  rw [ea1, (eabs dot hdot).1, wrapI32_of_in (x := FtInterp.absL disc * 19) (by omega) (by omega),
    wrapI64_of_in (x := 19 * FtInterp.absL disc) (by omega) (by omega),
    show FtInterp.absL disc * 19 = 19 * FtInterp.absL disc by omega]
  have i32 : ∀ x : Int, (-33554434 ≤ x ∧ x ≤ 33554434) → inI32 x := fun x h => ⟨by omega, by omega⟩
  split
  · exact congr (congrArg Vec.mk (wadd_muldiv a0.x v _ disc (i32 _ (by omega)) (i32 v hv) (i32 _ (by omega)) (i32 _ hdisc)))
      (wadd_muldiv a0.y v _ disc (i32 _ (by omega)) (i32 v hv) (i32 _ (by omega)) (i32 _ hdisc))
  · exact congr (congrArg Vec.mk (mean4_eq _ _ _ _ ha0.1 ha1.1 hb0.1 hb1.1)) (mean4_eq _ _ _ _ ha0.2 ha1.2 hb0.2 hb1.2)

-- perpendicular lines meeting at (100, 200); parallel lines → the middle of the four points
example : HintInterp.isect ⟨0, 200⟩ ⟨400, 200⟩ ⟨100, 0⟩ ⟨100, 300⟩ = ⟨100, 200⟩
    ∧ FtInterp.isect ⟨0, 200⟩ ⟨400, 200⟩ ⟨100, 0⟩ ⟨100, 300⟩ = ⟨100, 200⟩
    ∧ HintInterp.isect ⟨0, 0⟩ ⟨400, 0⟩ ⟨0, 100⟩ ⟨400, 100⟩ = ⟨200, 50⟩
    ∧ FtInterp.isect ⟨0, 0⟩ ⟨400, 0⟩ ⟨0, 100⟩ ⟨400, 100⟩ = ⟨200, 50⟩ := by decide +kernel
-- outside the range (segments 8192 px long): the dot product needs 33 bits; FreeType finds the lines
-- nearly parallel (midpoint), skrifa's wrapped value does not
example : (HintInterp.isect ⟨8120, -13097⟩ ⟨532367, 3552⟩ ⟨4788, -12655⟩ ⟨532367, 3552⟩).x = 532367
    ∧ (FtInterp.isect ⟨8120, -13097⟩ ⟨532367, 3552⟩ ⟨4788, -12655⟩ ⟨532367, 3552⟩).x = 269410 := by decide +kernel

/-- the interpolation term of `_iup_worker_interpolate` for a point with unscaled coordinate `u`:
`FT_MulFix( u - orus1, FT_DivFix( cur2 - cur1, orus2 - orus1 ) )`. -/
def iupTermCore (orus1 orus2 cur1 cur2 u : Int) : Int :=
  FtCalc.mulFix (FtCalc.subLong u orus1) (FtCalc.divFix (FtCalc.subLong cur2 cur1) (FtCalc.subLong orus2 orus1))

def iupTerm (ax : Bool) (r1 r2 : ZPt) (u : Int) : Int :=
  iupTermCore (FtInterp.co ax r1.orus) (FtInterp.co ax r2.orus) (FtInterp.co ax r1.cur) (FtInterp.co ax r2.cur) u

/-- **IUP, one interpolated point** on the six reference coordinates: the `<= org1` / `>= org2` shifts,
the snap `cur1` when the references coincide, and the interpolation
`cur1 + mul(u - orus1, div(cur2 - cur1, orus2 - orus1))`.  FreeType's `scale` is a 64-bit `FT_DivFix` that
`FT_MulFix` truncates to 32 bits, exactly what skrifa's `i32` `div` holds, so no bound on the stretch is
needed; the only hypothesis beyond ±2^29 coordinates is that the interpolation term itself is within
±2^30. -/
theorem iup_interp_core_eq (orus1 orus2 org1 org2 cur1 cur2 a u : Int)
    (hu1 : Dist29 orus1) (hu2 : Dist29 orus2) (ho1 : Dist29 org1) (ho2 : Dist29 org2)
    (hc1 : Dist29 cur1) (hc2 : Dist29 cur2) (ha : Dist29 a) (hu : Dist29 u)
    (hterm : -1073741824 ≤ iupTermCore orus1 orus2 cur1 cur2 u ∧ iupTermCore orus1 orus2 cur1 cur2 u ≤ 1073741824) :
    HintInterp.interpCore orus1 orus2 org1 org2 cur1 cur2 a u
      = some (FtInterp.interpCore orus1 orus2 org1 org2 cur1 cur2 a u) := by
  unfold iupTermCore at hterm
  unfold HintInterp.interpCore FtInterp.interpCore
  simp only []
  unfold Dist29 at *
  rw [(wsub_exact hc1 ho1).1, (wsub_exact hc1 ho1).2, (wsub_exact hc2 ho2).1, (wsub_exact hc2 ho2).2]
  have e1 := add_fits (a := a) (b := cur1 - org1) ⟨by omega, by omega⟩
  have e2 := add_fits (a := a) (b := cur2 - org2) ⟨by omega, by omega⟩
  by_cases hsnap : cur1 = cur2 ∨ orus1 = orus2
  · simp only [hsnap, if_true, e1.1, e1.2, e2.1, e2.2]
  · simp only [hsnap, if_false]
    have cd : HintMath.chk (orus2 - orus1) = some (orus2 - orus1) := chk_fits ⟨by omega, by omega⟩
    simp only [cd, Option.bind_some]
    by_cases hlo : a ≤ org1
    · simp only [hlo, if_true, e1.1, e1.2]
    · by_cases hhi : a ≥ org2
      · simp only [hlo, hhi, if_true, if_false, e2.1, e2.2]
      · simp only [hlo, hhi, if_false]
        have cu : HintMath.chk (u - orus1) = some (u - orus1) := chk_fits ⟨by omega, by omega⟩
        simp only [cu, Option.map_some, Option.some.injEq]
        rw [(wsub_exact hc2 hc1).2, (wsub_exact hu2 hu1).2, (wsub_exact hu hu1).2] at hterm
        rw [(wsub_exact hc2 hc1).1, (wsub_exact hc2 hc1).2, (wsub_exact hu2 hu1).2, (wsub_exact hu hu1).2]
        -- skrifa's scale is FreeType's truncated to 32 bits, which is all FT_MulFix looks at: `scale_coord_eq`
        rw [show HintMath.mul (u - orus1) (HintMath.div (cur2 - cur1) (orus2 - orus1)) = _ from
          scale_coord_eq _ _ _ (by unfold inI32; omega) (by unfold inI32; omega) (by unfold inI32; omega)]
        unfold Scale.ftScale
        generalize FtCalc.mulFix (u - orus1) (FtCalc.divFix (cur2 - cur1) (orus2 - orus1)) = t at hterm ⊢
        have e3 := add_fits (a := cur1) (b := t) ⟨by omega, by omega⟩
        rw [e3.1, e3.2]

theorem iup_interp_coord_eq (ax : Bool) (r1 r2 : ZPt) (a u : Int) (h1 : ZPos29 r1) (h2 : ZPos29 r2)
    (ha : Dist29 a) (hu : Dist29 u)
    (hterm : -1073741824 ≤ iupTerm ax r1 r2 u ∧ iupTerm ax r1 r2 u ≤ 1073741824) :
    HintInterp.interpCoord ax r1 r2 a u = some (FtInterp.interpCoord ax r1 r2 a u) := by
  unfold HintInterp.interpCoord FtInterp.interpCoord
  simp only [co_eq]
  exact iup_interp_core_eq _ _ _ _ _ _ a u (co_dist29 ax h1.2.2) (co_dist29 ax h2.2.2) (co_dist29 ax h1.1) (co_dist29 ax h2.1)
    (co_dist29 ax h1.2.1) (co_dist29 ax h2.2.1) ha hu hterm

-- interpolation between references moved by +64 and +128: the midpoint moves by +96
example : HintInterp.interpCore 0 1000 0 1000 64 1128 500 500 = some 596
    ∧ FtInterp.interpCore 0 1000 0 1000 64 1128 500 500 = 596
    ∧ HintInterp.interpCore 0 1000 0 1000 64 1128 (-10) (-10) = some 54
    ∧ HintInterp.interpCore 0 1000 0 1000 64 1128 1000 1000 = some 1128 := by decide +kernel

/-- **IUP, one shifted point**: `point += delta` with `delta = cur[p] - org[p]` of the single touched point. -/
theorem iup_shift_coord_eq (c rc ro : Int) (hc : Dist29 c) (hrc : Dist29 rc) (hro : Dist29 ro) :
    HintMove.wsub rc ro = FtCalc.subLong rc ro ∧
    HintMove.wadd c (HintMove.wsub rc ro) = FtCalc.addLong c (FtCalc.subLong rc ro) := by
  unfold Dist29 at *
  have s := sub_fits (a := rc) (b := ro) ⟨by omega, by omega⟩
  have a := add_fits (a := c) (b := rc - ro) ⟨by omega, by omega⟩
  rw [s.1, s.2, a.1, a.2]
  exact ⟨rfl, rfl⟩

/-- **IUP, one `iup_interpolate` call on a zone**: same resulting zone, for a zone whose positions are all
within ±2^29 and whose interpolation terms (`iupTerm`) are within ±2^30. -/
theorem iup_interpolate_eq (ax : Bool) (pts : List ZPt) (p1 p2 ref1 ref2 : Nat)
    (hall : ∀ p ∈ pts, ZPos29 p)
    (hterm : ∀ r1 r2 p : ZPt, r1 ∈ pts → r2 ∈ pts → p ∈ pts →
      -1073741824 ≤ iupTerm ax r1 r2 (FtInterp.co ax p.orus) ∧ iupTerm ax r1 r2 (FtInterp.co ax p.orus) ≤ 1073741824) :
    HintInterp.iupInterpolate ax pts p1 p2 ref1 ref2 = some (FtInterp.iupInterpolate ax pts p1 p2 ref1 ref2) := by
  refine interpolate_of_kernel (P := (· ∈ pts)) ax pts p1 p2 ref1 ref2 (fun _ h => List.mem_of_getElem? h)
    (fun _ h => List.mem_of_getElem? h) fun a b ha hb q hq => ?_
  have hz := hall q hq
  exact iup_interp_coord_eq ax a b _ _ (hall a ha) (hall b hb) (co_dist29 ax hz.1) (co_dist29 ax hz.2.2)
    (hterm a b q ha hb hq)

/-- **IUP, one `iup_shift` call on a zone** (the only call site passes `p1 ≤ p ≤ p2`: first point of the
contour, its only touched point, end point): same resulting zone. -/
theorem iup_shift_eq (ax : Bool) (pts : List ZPt) (p1 p2 p : Nat) (hall : ∀ q ∈ pts, ZPos29 q)
    (hord : p1 ≤ p ∧ p ≤ p2) :
    HintInterp.iupShift ax pts p1 p2 p = some (FtInterp.iupShift ax pts p1 p2 p) :=
  shift_of_kernel ax pts p1 p2 p hord
    (fun r h => have z := hall r (List.mem_of_getElem? h); ⟨co_dist29 ax z.2.1, co_dist29 ax z.1⟩)
    (fun _ q h _ _ _ => co_dist29 ax (hall q (List.mem_of_getElem? h)).2.1)

/-- **UTP**: the same flags are cleared (along the non-zero components of the freedom vector). -/
theorem utp_eq (fv : Vec) (p : ZPt) : HintInterp.utp fv p = FtInterp.utp fv p := rfl

/-- **FLIPPT** (one point) and **FLIPRGON / FLIPRGOFF** (inclusive range): same on-curve flags.  What
happens to the arguments of a FLIPPT that backward compatibility blocks is part of the step functions
(fix 2e3eaf9). -/
theorem flip_eq (p : ZPt) (pts : List ZPt) (lo hi : Nat) (on : Bool) :
    HintInterp.flipPt p = FtInterp.flipPt p ∧ HintInterp.flipRange pts lo hi on = FtInterp.flipRange pts lo hi on :=
  ⟨rfl, rfl⟩

end FontVerif.C03
