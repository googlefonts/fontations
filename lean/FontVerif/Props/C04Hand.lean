/-
C04 — hand-written write-side conversions brought into the model: the GPOS `ValueRecord` (write / read / to-owned for
every `ValueFormat`) and the `name` table string encodings (length field vs. encoded bytes, decode ∘ encode).
Models: Model/ValueRecord.lean, Model/NameStr.lean (each cites the Rust it transcribes).
-/
import FontVerif.Lemmas.ValueRecord
import FontVerif.Lemmas.NameStr
set_option linter.unusedVariables false

namespace FontVerif.C04Hand
open FontVerif.Field FontVerif.ValueRecord

/-- **ValueRecord round trip, all formats.**  For every owned value record `o` (any explicit or computed format, any
combination of present / absent scalars and device slots) whose scalars fit 16 bits and whose non-null device slots hold
non-zero 16-bit offsets, and any following data: reading the written bytes with the written format consumes exactly the
record, and converting the parsed record to its owned form gives `normalize o` — the format made explicit, every field
of the format present with the value written (absent scalars as 0), every field outside the format absent, and **each of
the four device slots holding its own offset** (not another slot's). -/
theorem value_record_roundtrip (o : Owned) (rest : Bytes) (h : WellSized o) :
    ∃ p, read (format o) (write o ++ rest) = some (p, rest) ∧ toOwned p = normalize o :=
  read_write_normalize o rest h

/-- a record is in normal form when it is what a reader produces: explicit format, scalars present exactly in the format,
no device outside the format -/
def NormalForm (o : Owned) : Prop := normalize o = o

/-- normal-form records (every re-read record, and every record the harness generates) read back unchanged -/
theorem value_record_roundtrip_normal (o : Owned) (rest : Bytes) (h : WellSized o) (hn : NormalForm o) :
    ∃ p, read (format o) (write o ++ rest) = some (p, rest) ∧ toOwned p = o := by
  obtain ⟨p, hp, ho⟩ := value_record_roundtrip o rest h
  exact ⟨p, hp, by rw [ho]; exact hn⟩

/-- the re-read record recompiles to the same bytes -/
theorem value_record_recompile (o : Owned) (h : WellSized o) : write (normalize o) = write o :=
  write_normalize o

/-- `encoded_size` (write side) = `record_byte_len` (read side) = the number of bytes written, for formats `< 256` -/
theorem value_record_size (o : Owned) : (write o).length = encodedSize (format o) :=
  write_length o

/-- non-vacuity: format 0xFF with four different device offsets and four scalars; the y-advance device reads back as
the y-advance device (the seeded defect C04-2 breaks exactly this) -/
example :
    let o : Owned := { explicitFormat := some 0xFF, xPlacement := some 1, yPlacement := some 65535, xAdvance := some 3,
                       yAdvance := some 4, xPlaDev := some 40, yPlaDev := some 50, xAdvDev := some 60, yAdvDev := some 70 }
    (read (format o) (write o ++ [9, 9])).map (fun r => (toOwned r.1, r.2)) = some (o, [9, 9]) := by decide +kernel

/-- non-vacuity: computed format (no explicit one), only y-advance and its device: format 0x88, 4 bytes -/
example :
    let o : Owned := { explicitFormat := none, xPlacement := none, yPlacement := none, xAdvance := none,
                       yAdvance := some 7, xPlaDev := none, yPlaDev := none, xAdvDev := none, yAdvDev := some 12 }
    format o = 0x88 ∧ write o = [0, 7, 0, 12] ∧ WellSized o := by
  refine ⟨by decide, by decide, ?_⟩
  simp [WellSized, optLt, devOk]

/-- **Arrays of value records (computed-size records).**  `n` records written one after the other, all of the format `f`
the reader is given, read back as `n` records — each the normal form of the one written — consuming exactly the written
bytes. -/
theorem value_records_roundtrip (f : Nat) (rs : List Owned) (rest : Bytes)
    (h : ∀ r ∈ rs, WellSized r ∧ format r = f) :
    ∃ ps, readMany f rs.length (writeMany rs ++ rest) = some (ps, rest) ∧ ps.map toOwned = rs.map normalize :=
  readMany_writeMany f rs rest h

/-- **SinglePosFormat1** (generated writer + hand-written `compute_value_format` and record): the table reads back with
`pos_format = 1`, the coverage offset, and the record in normal form; exactly the written bytes are consumed. -/
theorem single_pos_format1_roundtrip (t : SinglePos1) (rest : Bytes) (hc : t.coverageOffset < 65536)
    (hf : format t.record < 65536) (hw : WellSized t.record) :
    ∃ p, readSP1 (writeSP1 t ++ rest) = some (1, t.coverageOffset, p, rest) ∧ p.format = format t.record
      ∧ toOwned p = normalize t.record := by
  obtain ⟨p, hp, ho⟩ := read_write_normalize t.record rest hw
  refine ⟨p, ?_, ?_, ho⟩
  · simp only [readSP1, writeSP1, List.append_assoc, readU16_be 1 _ (by omega), readU16_be _ _ hc, readU16_be _ _ hf, hp]
  · have := congrArg Owned.explicitFormat ho
    simp only [toOwned, normalize] at this
    exact Option.some.inj this

/-- **SinglePosFormat2** (count + computed-size record array): under the condition the writer does not establish
itself — every record has the format of the first one — and for a non-empty format, the table reads back with the
coverage offset, the first record's format, `value_count = len`, and every record in normal form.  `writeSP2 = none`
(the `u16::try_from(len).unwrap()` panic) only for 65536+ records. -/
theorem single_pos_format2_roundtrip (t : SinglePos2) (rest : Bytes) (hc : t.coverageOffset < 65536)
    (hn : t.records.length < 65536) (hf : valueFormat2 t < 65536)
    (h : ∀ r ∈ t.records, WellSized r ∧ format r = valueFormat2 t) (hz : encodedSize (valueFormat2 t) ≠ 0) :
    ∃ bytes ps, writeSP2 t = some bytes
      ∧ readSP2 (bytes ++ rest) = some (2, t.coverageOffset, valueFormat2 t, t.records.length, ps, rest)
      ∧ ps.map toOwned = t.records.map normalize := by
  obtain ⟨ps, hps, hmap⟩ := readComputed_writeMany (valueFormat2 t) t.records rest h hz
  refine ⟨be 2 2 ++ be 2 t.coverageOffset ++ be 2 (valueFormat2 t) ++ be 2 t.records.length ++ writeMany t.records,
    ps, by simp [writeSP2, hn], ?_, hmap⟩
  rw [List.append_assoc, readSP2_header _ _ _ _ hc hf hn, hps]
  rfl

/-- the same for every table that passes validation (`check_format_consistency` establishes the format condition, the
generated length check the count) -/
theorem single_pos_format2_validated_roundtrip (t : SinglePos2) (rest : Bytes) (hv : validateSP2 t = true)
    (hc : t.coverageOffset < 65536) (hf : valueFormat2 t < 65536) (hw : ∀ r ∈ t.records, WellSized r)
    (hz : encodedSize (valueFormat2 t) ≠ 0) :
    ∃ bytes ps, writeSP2 t = some bytes
      ∧ readSP2 (bytes ++ rest) = some (2, t.coverageOffset, valueFormat2 t, t.records.length, ps, rest)
      ∧ ps.map toOwned = t.records.map normalize := by
  simp only [validateSP2, Bool.and_eq_true, decide_eq_true_eq, List.all_eq_true, beq_iff_eq] at hv
  exact single_pos_format2_roundtrip t rest hc (by omega) hf (fun r hr => ⟨hw r hr, hv.2 r hr⟩) hz

/-- the known finding C04-empty-value-records inside the model: records of the empty format are not read back at all -/
theorem single_pos_format2_empty_format_loses_records (cov n : Nat) (rest : Bytes) (hc : cov < 65536) (hn : n < 65536) :
    readSP2 (be 2 2 ++ be 2 cov ++ be 2 0 ++ be 2 n ++ rest) = some (2, cov, 0, n, [], rest) := by
  rw [readSP2_header _ _ _ _ hc (by omega) hn, readComputed_zero_size 0 n rest (by decide)]
  rfl

/-- non-vacuity: two records of format 0x41 (x placement + x advance device) -/
example :
    ((writeSP2 { coverageOffset := 20, records := [{ explicitFormat := some 0x41, xPlacement := some 5, yPlacement := none, xAdvance := none, yAdvance := none, xPlaDev := none, yPlaDev := none, xAdvDev := some 30, yAdvDev := none }, { explicitFormat := some 0x41, xPlacement := some 65000, yPlacement := none, xAdvance := none, yAdvance := none, xPlaDev := none, yPlaDev := none, xAdvDev := some 44, yAdvDev := none }] }).bind (fun b => readSP2 (b ++ [7]))).map
        (fun x => (x.1, x.2.1, x.2.2.1, x.2.2.2.1, x.2.2.2.2.1.map toOwned, x.2.2.2.2.2))
      = some (2, 20, 0x41, 2, [({ explicitFormat := some 0x41, xPlacement := some 5, yPlacement := none, xAdvance := none, yAdvance := none, xPlaDev := none, yPlaDev := none, xAdvDev := some 30, yAdvDev := none } : Owned), { explicitFormat := some 0x41, xPlacement := some 65000, yPlacement := none, xAdvance := none, yAdvance := none, xPlaDev := none, yPlaDev := none, xAdvDev := some 44, yAdvDev := none }], [7]) := by rfl

open FontVerif.NameStr

/-- **The `length` field equals the number of encoded bytes** (UTF-16BE: two bytes per UTF-16 code unit, i.e. four per
supplementary-plane char; MacRoman: one byte per char).  For every encoding, every string on which the string writer
and `compute_length` do not panic: the value `compute_length` returns is the length of the bytes the writer emits. -/
theorem name_length_eq_encoded_bytes (enc : Encoding) (s : List Nat) (bytes : Bytes) (n : Nat)
    (hw : encodeString enc s = some bytes) (hl : computeLength enc s = some n) : n = bytes.length := by
  rw [computeLength_eq enc s bytes hw] at hl
  split at hl
  · exact (Option.some.inj hl).symm
  · cases hl

/-- and `compute_length` is defined (does not panic) whenever the encoded bytes fit the 16-bit length field -/
theorem name_length_defined (enc : Encoding) (s : List Nat) (bytes : Bytes)
    (hw : encodeString enc s = some bytes) (hfit : bytes.length < 65536) :
    computeLength enc s = some bytes.length := by
  rw [computeLength_eq enc s bytes hw, if_pos hfit]

/-- **Validated name strings compile**: whenever `validate_string_data` accepts a record's string, neither the string
writer nor `compute_length` panics, and the length field is the number of bytes written (which fits 16 bits). -/
theorem name_validated_no_panic (enc : Encoding) (s : List Nat) (hv : validateString enc s = true) :
    ∃ bytes, encodeString enc s = some bytes ∧ computeLength enc s = some bytes.length ∧ bytes.length < 65536 := by
  cases enc with
  | unknown => simp [validateString] at hv
  | utf16be =>
    simp only [validateString, decide_eq_true_eq] at hv
    have hfit : (s.flatMap charBytes).length < 65536 := by
      rw [utf16_bytes_length, sum_len_double]; omega
    exact ⟨_, encodeString_utf16 s, name_length_defined .utf16be s _ (encodeString_utf16 s) hfit, hfit⟩
  | macRoman =>
    simp only [validateString, Bool.and_eq_true, decide_eq_true_eq] at hv
    obtain ⟨bs, hb⟩ := mapM_macEncode_some s hv.2
    have hl := (mapM_macEncode s bs hb).1
    have hfit : bs.length < 65536 := by omega
    exact ⟨bs, hb, name_length_defined .macRoman s bs hb hfit, hfit⟩

/-- **Name strings read back**: for the two real encodings, every string of Unicode scalar values the writer can encode
decodes (`CharIter`, i.e. the `FromObjRef<NameString> for String` conversion) to the string that was written. -/
theorem name_string_roundtrip (enc : Encoding) (s : List Nat) (bytes : Bytes) (henc : enc ≠ .unknown)
    (hc : ∀ c ∈ s, isChar c = true) (hw : encodeString enc s = some bytes) : decodeString enc bytes = s := by
  cases enc with
  | utf16be =>
    rw [encodeString_utf16] at hw
    injection hw with hw
    subst hw
    exact decodeUtf16_encode s hc
  | macRoman => exact (mapM_macEncode s bytes hw).2
  | unknown => exact absurd rfl henc

/-- non-vacuity: "a😀" (U+1F600 is a surrogate pair): 3 code units = 6 bytes; the seeded defect C04-1 computed 4 -/
example : encodeString .utf16be [0x61, 0x1F600] = some [0, 0x61, 0xD8, 0x3D, 0xDE, 0x00]
    ∧ computeLength .utf16be [0x61, 0x1F600] = some 6
    ∧ decodeString .utf16be [0, 0x61, 0xD8, 0x3D, 0xDE, 0x00] = [0x61, 0x1F600] := by decide +kernel

/-- non-vacuity: MacRoman "Ä™" = bytes 0x80 0xAA; a char outside MacRoman makes the writer panic -/
example : encodeString .macRoman [0xC4, 0x2122] = some [0x80, 0xAA] ∧ computeLength .macRoman [0xC4, 0x2122] = some 2
    ∧ encodeString .macRoman [0x3A9, 0x4E00] = none ∧ Encoding.new 1 0 = .macRoman ∧ Encoding.new 3 10 = .utf16be
    ∧ Encoding.new 3 3 = .unknown := by decide +kernel

/-! ## the value record as an element of the field DSL (Props/C04.lean, generated pairs of Gen/WriteProgs.lean)

The translator gives a `ValueRecord` field / `Vec` of records that contain value records the writer item
`WItem.arrayV [] 2` ("any number of 16-bit scalars") and the reader segments `[(popcnt 8 value_format, [2])]`
(`ValueFormat::record_byte_len`).  These two theorems tie that reading to the hand model of this file. -/

/-- **The hand-written `FontWrite for ValueRecord` is the DSL's element writer.**  For every owned record whose scalars
fit 16 bits: writing the flat element `flat o` (the raw values of the slots the format contains, in source order) with
the DSL's `arrayV [] 2` element writer produces exactly `ValueRecord.write o`. -/
theorem value_record_is_arrayV_element (o : Owned) (h : WellSized o) :
    emitRecsV [] 2 [flat o] = some (ValueRecord.write o) := by
  have := emitRec_slotVals (slots o) (slots_lt o h)
  simp only [emitRecsV, List.length_nil, Nat.zero_le, if_true, wWidths, List.nil_append, Nat.sub_zero]
  simp only [flat, this, ValueRecord.write, List.append_nil]

/-- **The element size the generated readers compute is the size the record has.**  The flat element has
`popcount 8 (format o)` scalars — the `popcnt 8` segment of the reader layouts (`<ValueRecord as
ComputeSize>::compute_size(&value_format)` = `count_ones * 2`) — so the hypothesis `Assume.elemLen` of the PairPos /
SinglePos pairs says: every record was written with the table's value format. -/
theorem value_record_flat_length (o : Owned) : (flat o).length = popcount 8 (format o) := by
  have h1 : (flat o).length = (((slots o).map (·.1)).filter id).length := by
    simp only [flat, slotVals, List.length_map, List.filter_map]
    rfl
  rw [h1, slots_bits, fmtBits, List.filter_map, List.length_map]
  exact filter_hasBit_length 8 (format o)

def exFlatRec : Owned :=
  { explicitFormat := none, xPlacement := none, yPlacement := some 7, xAdvance := some 65535, yAdvance := none,
    xPlaDev := some 40, yPlaDev := none, xAdvDev := none, yAdvDev := none }
example : flat exFlatRec = [7, 65535, 40] := by decide +kernel

end FontVerif.C04Hand
