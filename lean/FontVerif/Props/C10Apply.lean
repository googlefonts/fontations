/-
C10 — APPLICATION of glyph variation deltas: tuple scalar, the run-at-a-time fast paths,
16.16 accumulation, inference of untouched points, final rounding; composite glyphs.
Headline bound (skrifa's adjusted coordinate against `point + Σ_t scalar_t · (explicit or IUP-inferred
delta_t)`): `applied_outline_within_rounding` / `_y` from the decoded tuples, `simple_glyph_within_rounding`
from the table bytes; `written_then_applied_within_tolerance_partial` composes it with the writer's tolerance.
Helper lemmas and the definitions the statements use (`DTuple`, `SparseWF`, `DenseWF`, `Term`, `ContoursWF`,
`InterOk`): Lemmas/GvarApply*.lean, GvarContours, GvarSum, GvarHeadline, GvarScalar, GvarStreams, GvarData, Packed.
Model: Model/GvarApply.lean ⇄ read-fonts `tables/variations.rs` (compute_scalar,
accumulate_*_deltas, read_*_deltas), skrifa `outline/glyf/deltas.rs`, `outline/glyf/mod.rs`.
-/
import FontVerif.Model.GvarApply
import FontVerif.Lemmas.GvarApply
import FontVerif.Lemmas.GvarContours
import FontVerif.Lemmas.GvarSum
import FontVerif.Lemmas.GvarHeadline
import FontVerif.Lemmas.GvarScalar
import FontVerif.Lemmas.GvarStreams
set_option linter.unusedVariables false
namespace FontVerif.C10
open FontVerif.PackedDeltas FontVerif.GvarData FontVerif.GvarApply

/-- **A dropped intermediate region changes nothing.**  When `GlyphDeltas::new` leaves the
start / end tuples out (all tents implied, `intermediate_dropped_iff_implied`), the reader computes
for EVERY location the same scalar it would compute from the explicit region
`(min(peak, 0), peak, max(peak, 0))` — in the reader's own 16.16 arithmetic, bit for bit. -/
theorem tuple_scalar_implied_region (ax : Nat) (peak coords : List Int)
    (hp : ∀ v ∈ peak, inI16 v) (hc : ∀ v ∈ coords, inI16 v) :
    tupleScalar ax peak none coords
      = tupleScalar ax peak (some (peak.map fun p => min p 0, peak.map fun p => max p 0)) coords := by
  unfold tupleScalar
  simp only [Option.isSome_none, Option.isSome_some, Option.map_none, Option.map_some,
    Option.getD_none, Option.getD_some]
  rw [scalarGo_implied peak hp 65536 coords hc]

/-- **`compute_scalar` against its own case split in exact fractions** (`tentGo`: the specification's
tent on every axis whose region has `start ≤ peak ≤ end`; on an axis with `start > peak` or
`peak > end`, which the specification ignores, the 16.16 code still applies its formula, and `tentGo`
follows the code).  For i16 peaks / coordinates and well-formed
intermediate tuples (i16, no region straddling zero — for those the code follows FreeType and
switches the tuple off at coordinate 0): if the location lies outside the region on some axis the
tuple is not applied; otherwise, with `N / D` the exact product of the per-axis factors and
`k ≤ axes` the number of axes that needed a rounding (`mul_div`) step, the tuple is applied with a
16.16 scalar `s ∈ (0, 1]` with `|s - 65536 · N/D| ≤ k / 2`, or it is dropped because that scalar
rounded to zero (`65536 · N/D ≤ k / 2`). -/
theorem tuple_scalar_error_bound (peak coords : List Int) (inter : Option (List Int × List Int))
    (hp : ∀ v ∈ peak, inI16 v) (hc : ∀ v ∈ coords, inI16 v)
    (hi : InterOk ((inter.map (·.1)).getD []) ((inter.map (·.2)).getD [])) :
    match tentGo inter.isSome (1, 1, 0) peak ((inter.map (·.1)).getD []) ((inter.map (·.2)).getD []) coords with
    | none => tupleScalar peak.length peak inter coords = none
    | some (N, D, k) =>
      0 < D ∧ 0 ≤ N ∧ k ≤ peak.length ∧
      match tupleScalar peak.length peak inter coords with
      | some s => 0 < s ∧ s ≤ 65536 ∧ 2 * (s * D - 65536 * N) ≤ k * D ∧ 2 * (65536 * N - s * D) ≤ k * D
      | none => 2 * (65536 * N) ≤ k * D := by
  have h := scalarGo_tent inter.isSome peak ((inter.map (·.1)).getD []) ((inter.map (·.2)).getD []) coords
    65536 1 1 0 hp hc hi ⟨by omega, by omega, by omega, by simp, by simp⟩
  unfold tupleScalar
  simp only [ne_eq, not_true_eq_false, if_false]
  cases htg : tentGo inter.isSome (1, 1, 0) peak ((inter.map (·.1)).getD []) ((inter.map (·.2)).getD []) coords with
  | none => rw [htg] at h; simp only [] at h; simp [h]
  | some r =>
    obtain ⟨N, D, k⟩ := r
    rw [htg] at h
    obtain ⟨s', e, ⟨s0, s1⟩, d0, n0, b1, b2⟩ := h
    simp only [e]
    refine ⟨d0, n0, by simpa using tentGo_steps _ _ _ _ _ _ _ _ _ htg, ?_⟩
    by_cases hz : s' = 0
    · subst hz
      simp only [if_true]
      omega
    · simp only [hz, if_false]
      exact ⟨by omega, s1, b1, b2⟩

/-- **`read_sparse_deltas` = `TupleDeltaIter`, for every packed stream.**  Take any explicit point
numbers `p0 :: ps` (strictly ascending u16) as the reader decodes them from `ptBytes`, and ANY two
sequences of valid runs — every run type, length and splitting, not only what write-fonts chooses —
carrying one x and one y value per point.  Then the two passes of the fast path (behind
`accumulate_sparse_deltas`, which skrifa uses for simple glyphs) visit exactly `(point, x)` and
`(point, y)` in point order and leave the cursor at the end, and the slow iterator
(`TupleVariation::deltas()`, used for composite glyphs and phantom points) yields exactly
`(point, x, y)` for the same points.  (Seed C10-5 made the fast path skip a point per typed run.) -/
theorem sparse_fast_path_eq_iterator (p0 : Nat) (ps : List Nat) (ptBytes rest : List Nat)
    (xr yr : List Run) (hvx : ∀ r ∈ xr, ValidRun r) (hvy : ∀ r ∈ yr, ValidRun r)
    (hnx : total xr = (p0 :: ps).length) (hny : total yr = (p0 :: ps).length)
    (hp0 : p0 ≤ 65535) (hasc : SAsc p0 ps)
    (hcc : (countAndCountBytes ptBytes).1 = (p0 :: ps).length)
    (hdec : decodePoints ptBytes = some (p0 :: ps)) :
    readSparse ((p0 :: ps).length + 1) 0 (p0 :: ps).length (ptIterOf ptBytes)
        (xr.flatMap serializeRun ++ (yr.flatMap serializeRun ++ rest))
      = some ((p0 :: ps).zip (xr.flatMap (·.2)), yr.flatMap serializeRun ++ rest) ∧
    readSparse ((p0 :: ps).length + 1) 0 (p0 :: ps).length (ptIterOf ptBytes)
        (yr.flatMap serializeRun ++ rest)
      = some ((p0 :: ps).zip (yr.flatMap (·.2)), rest) ∧
    tupleDeltas ptBytes (xr.flatMap serializeRun ++ yr.flatMap serializeRun)
      = zipPts (p0 :: ps) (xr.flatMap (·.2)) (yr.flatMap (·.2)) := by
  have hit : ptIterOf ptBytes = .list (p0 :: ps) := by simp [ptIterOf, hdec]
  rw [hit]
  obtain ⟨a, b⟩ := readSparse_xy xr yr (p0 :: ps) rest hvx hvy hnx hny
  exact ⟨a, b, tupleDeltas_runs p0 ps ptBytes xr yr hvx hvy hnx hny hp0 hasc hcc hdec⟩

/-- **what `accumulate_sparse_deltas` leaves behind** (HAS_DELTA discipline inside one tuple): for
distinct listed points, entry `k` of the 16.16 buffer is incremented by `fxScaled s x_k`,
`fxScaled s y_k` and flagged iff `k` is listed; nothing else changes.  (`simple_glyph` starts every
tuple from cleared flags — `simpleSparseTuple` — which seed C10-3 broke.) -/
theorem accumulate_sparse_pointwise (pts : List Nat) (xs ys : List Int) (ptBytes dBytes bs rest : List Nat)
    (s : Int) (buf : List GvarApply.Pt) (flags : List Bool) (n : Nat) (hb : buf.length = n) (hf : flags.length = n)
    (hcount : (countAndCountBytes ptBytes).1 = pts.length) (hit : ptIterOf ptBytes = .list pts)
    (hx : readSparse (pts.length + 1) 0 pts.length (.list pts) dBytes = some (pts.zip xs, bs))
    (hy : readSparse (pts.length + 1) 0 pts.length (.list pts) bs = some (pts.zip ys, rest))
    (hnd : pts.Nodup) (hlx : xs.length = pts.length) (hly : ys.length = pts.length) :
    ∃ buf' has', accSparse ptBytes dBytes s buf flags = some (buf', has') ∧
      buf'.length = n ∧ has'.length = n ∧
      ∀ k, k < n →
        (buf'.getD k (0, 0)).1 = (match lookupV (pts.zip xs) k with
          | some x => Iup.fxAdd (buf.getD k (0, 0)).1 (fxScaled s x)
          | none => (buf.getD k (0, 0)).1) ∧
        (buf'.getD k (0, 0)).2 = (match lookupV (pts.zip ys) k with
          | some y => Iup.fxAdd (buf.getD k (0, 0)).2 (fxScaled s y)
          | none => (buf.getD k (0, 0)).2) ∧
        has'.getD k false = ((lookupV (pts.zip xs) k).isSome || flags.getD k false) :=
  accSparse_pointwise pts xs ys ptBytes dBytes bs rest s buf flags n hb hf hcount hit hx hy hnd hlx hly

/-- **scalar × delta is exact**: `Fixed::from_i32(d) * scalar` (and the `scalar == ONE` shortcut)
is the integer product `d * scalar` — no rounding happens when a delta is scaled. -/
theorem scaled_delta_exact (s d : Int) (hd : -32768 ≤ d ∧ d ≤ 32767)
    (hp : -2147483648 ≤ d * s ∧ d * s < 2147483648) : fxScaled s d = d * s :=
  fxScaled_exact s d hd hp

/-- **one axis of `Jiggler::interpolate` in 16.16 against exact interpolation.**  Reference points
with coordinates `p1`, `p2` whose working values are `p * 65536 + e` (`e` = the scaled explicit
delta in units of 2⁻¹⁶), untouched point at `c`; coordinates within `±M ≤ 16383`, scaled deltas
within `±E`, `131072 M + 4 E + 65536 < 2³¹` (nothing wraps).  With `num / den` the exact inference
(`readerAxis` = the writer's `iup_segment`, `reader_infer_eq_writer_segment`) of the 16.16 deltas:
`|den · δ − num| ≤ den · dist / 2`, where `δ` is the 16.16 delta the code infers and `dist` is how
far `c` lies inside the reference interval — exact (`dist = 0`) at and outside the references. -/
theorem interpolate_fixed_error_bound (p1 p2 c e1 e2 M E : Int)
    (hp1 : -M ≤ p1 ∧ p1 ≤ M) (hp2 : -M ≤ p2 ∧ p2 ≤ M) (hc : -M ≤ c ∧ c ≤ M)
    (he1 : -E ≤ e1 ∧ e1 ≤ E) (he2 : -E ≤ e2 ∧ e2 ≤ E)
    (hM : 0 ≤ M ∧ M ≤ 16383) (hE : 0 ≤ E) (hfit : 131072 * M + 4 * E + 65536 ≤ 2147483647) :
    let nd := Iup.readerAxis p1 e1 p2 e2 c
    let δ := Iup.fxInterpAxis p1 (p1 * 65536 + e1) p2 (p2 * 65536 + e2) c (c * 65536) - c * 65536
    0 < nd.2 ∧ 2 * (nd.2 * δ - nd.1) ≤ nd.2 * interpDist p1 p2 c ∧
      2 * (nd.1 - nd.2 * δ) ≤ nd.2 * interpDist p1 p2 c ∧
      0 ≤ interpDist p1 p2 c ∧ interpDist p1 p2 c ≤ nd.2 - 1 := by
  intro nd δ
  obtain ⟨a, b, c'⟩ := fxInterpAxis_bound p1 p2 c e1 e2 M E hp1 hp2 hc he1 he2 hM hfit
  obtain ⟨d, e⟩ := interpDist_lt_den p1 e1 p2 e2 c
  exact ⟨a, b, c', d, e⟩

/-- **one tuple, ANY list of contours.**  `ends` are the contour end points
(`ContoursWF`: ascending, inside the glyph; contours are `0 ..= e₀`, `e₀+1 ..= e₁`, …), the points
from `endOf 0 ends` on (the phantom points) belong to no contour.  With coordinates within `±M`, deltas
within `±Δ` (zero where `has` is false), scalar `0 < s ≤ 65536` and `131072 M + 4·Δ·65536 + 65536 < 2³¹`
(nothing wraps), `interpolate_deltas` over the whole glyph succeeds, and by induction over the
contour list (`glyphLoop_contribution`: one trip of the loop, `contour_contribution_at`, changes only
the contour's own points, and later contours never touch earlier points):
for EVERY contour `first ..= last` and every point `k` of it, the delta added for this tuple,
`δ_k = working_k − point_k·65536`, satisfies on each axis `|den · δ_k − s · num| ≤ den · (den − 1) / 2`,
where `num / den` is the SPECIFICATION's inference applied to that contour on its own
(`inferSpec` on the contour's slice of the points, deltas and explicit flags, index `k − first`),
with `δ_k = s · d_k` exactly for explicit points; the points after the last contour keep
`point·65536 + s · d` (explicit) or the point itself (`d = 0`). -/
theorem apply_deltas_eq_spec (np : Nat) (points ds : List Iup.Pt) (has : List Bool) (s : Int) (ends : List Nat)
    (hpl : points.length = np) (hhl : has.length = np) (hdl : ds.length = np)
    (hwf : ContoursWF np 0 ends)
    (M Δ : Int) (hM : 0 ≤ M ∧ M ≤ 16383) (hΔ : 0 ≤ Δ) (hs : 0 < s ∧ s ≤ 65536)
    (hfit : 131072 * M + 4 * (Δ * 65536) + 65536 ≤ 2147483647)
    (hpts : ∀ k, (-M ≤ (Iup.getP points k).1 ∧ (Iup.getP points k).1 ≤ M) ∧
      (-M ≤ (Iup.getP points k).2 ∧ (Iup.getP points k).2 ≤ M))
    (hds : ∀ k, (-Δ ≤ (Iup.getP ds k).1 ∧ (Iup.getP ds k).1 ≤ Δ) ∧ (-Δ ≤ (Iup.getP ds k).2 ∧ (Iup.getP ds k).2 ≤ Δ))
    (hds0 : ∀ k, has.getD k false = false → Iup.getP ds k = (0, 0)) :
    ∃ out, Iup.readerInterpolate points has ends
        (workOf points (ds.map fun d => (d.1 * s, d.2 * s))) = some out ∧ out.length = np ∧
      ContoursAll (fun first last => ∀ k, first ≤ k → k ≤ last →
        let I := Iup.inferSpec (points.drop first) ((ds.drop first).take (last - first + 1)) (has.drop first) (k - first)
        let δx := (Iup.getP out k).1 - (Iup.getP points k).1 * 65536
        let δy := (Iup.getP out k).2 - (Iup.getP points k).2 * 65536
        0 < I.1.2 ∧ 0 < I.2.2 ∧
        2 * (I.1.2 * δx - I.1.1 * s) ≤ I.1.2 * (I.1.2 - 1) ∧ 2 * (I.1.1 * s - I.1.2 * δx) ≤ I.1.2 * (I.1.2 - 1) ∧
        2 * (I.2.2 * δy - I.2.1 * s) ≤ I.2.2 * (I.2.2 - 1) ∧ 2 * (I.2.1 * s - I.2.2 * δy) ≤ I.2.2 * (I.2.2 - 1) ∧
        (has.getD k false = true → δx = (Iup.getP ds k).1 * s ∧ δy = (Iup.getP ds k).2 * s)) 0 ends ∧
      (∀ k, endOf 0 ends ≤ k → k < np →
        Iup.getP out k = ((Iup.getP points k).1 * 65536 + (Iup.getP ds k).1 * s,
                          (Iup.getP points k).2 * 65536 + (Iup.getP ds k).2 * s)) := by
  obtain ⟨out, e, hl, hall, htail⟩ := tuple_near np points ds has s ends hpl hhl hdl hwf M Δ hM hΔ hs hfit hpts hds hds0
  refine ⟨out, e, hl, ContoursAll_mono ends 0 (fun first last hnear k hk1 hk2 => ?_) hall, htail⟩
  · obtain ⟨n1, n2, n3, n4, n5, n6⟩ := hnear k hk1 hk2
    refine ⟨n1, n2, n3, n4, n5, n6, fun hh => ?_⟩
    -- an explicit point: the denominators are 1
    have hI : Iup.inferSpec (points.drop first) ((ds.drop first).take (last - first + 1)) (has.drop first) (k - first)
        = (((Iup.getP ds k).1, 1), ((Iup.getP ds k).2, 1)) := by
      rw [Iup.inferSpec_kept _ _ _ _ ((Iup.H_drop_sub has hk1).trans hh), getP_slice ds first _ hk1 (by omega)]
    rw [hI] at n3 n4 n5 n6
    simp only [] at n3 n4 n5 n6
    constructor <;> omega

/-- **one tuple, one contour (+ the four phantom points)**: the one-contour case of `apply_deltas_eq_spec`.
`points` = the `n` contour points then the phantom points (coordinates within `±M`); the tuple lists
explicit deltas `ds` (zero where `has` is false, magnitudes within `Δ`) and is applied with the
16.16 scalar `0 < s ≤ 65536`; `131072 M + 4·Δ·65536 + 65536 < 2³¹`.  The working buffer after
`accumulate_sparse_deltas` is `workOf points (ds · s)` (`accumulate_sparse_pointwise`,
`scaled_delta_exact`).  Then `interpolate_deltas` succeeds and, for every contour point `k`, the
delta `simple_glyph` adds for this tuple, `δ_k = working_k − point_k·65536`, satisfies on each axis

  `|den · δ_k − s · num| ≤ den · (den − 1) / 2`,

where `num / den = inferSpec points (ds.take n) has k` is the SPECIFICATION's inferred delta (unscaled):
`den = 1` — i.e. `δ_k = s · d_k` exactly — for explicit points, for the shifted points of a contour
with one explicit point and for points clamped to a reference; `den` = the coordinate distance of
the two reference points for interpolated points (error ≤ (den−1)/2 units of 2⁻¹⁶).  The phantom
points keep their working values (their delta is explicit or zero). -/
theorem apply_deltas_eq_spec_one_contour (n : Nat) (hn : 0 < n) (points ds : List Iup.Pt) (has : List Bool) (s : Int)
    (hpl : points.length = n + 4) (hhl : has.length = n + 4) (hdl : ds.length = n + 4)
    (M Δ : Int) (hM : 0 ≤ M ∧ M ≤ 16383) (hΔ : 0 ≤ Δ) (hs : 0 < s ∧ s ≤ 65536)
    (hfit : 131072 * M + 4 * (Δ * 65536) + 65536 ≤ 2147483647)
    (hpts : ∀ k, (-M ≤ (Iup.getP points k).1 ∧ (Iup.getP points k).1 ≤ M) ∧
      (-M ≤ (Iup.getP points k).2 ∧ (Iup.getP points k).2 ≤ M))
    (hds : ∀ k, (-Δ ≤ (Iup.getP ds k).1 ∧ (Iup.getP ds k).1 ≤ Δ) ∧ (-Δ ≤ (Iup.getP ds k).2 ∧ (Iup.getP ds k).2 ≤ Δ))
    (hds0 : ∀ k, has.getD k false = false → Iup.getP ds k = (0, 0)) :
    ∃ out, Iup.readerInterpolate points has [n - 1]
        (workOf points (ds.map fun d => (d.1 * s, d.2 * s))) = some out ∧ out.length = n + 4 ∧
      (∀ k, k < n →
        let I := Iup.inferSpec points (ds.take n) has k
        let δx := (Iup.getP out k).1 - (Iup.getP points k).1 * 65536
        let δy := (Iup.getP out k).2 - (Iup.getP points k).2 * 65536
        0 < I.1.2 ∧ 0 < I.2.2 ∧
        2 * (I.1.2 * δx - I.1.1 * s) ≤ I.1.2 * (I.1.2 - 1) ∧ 2 * (I.1.1 * s - I.1.2 * δx) ≤ I.1.2 * (I.1.2 - 1) ∧
        2 * (I.2.2 * δy - I.2.1 * s) ≤ I.2.2 * (I.2.2 - 1) ∧ 2 * (I.2.1 * s - I.2.2 * δy) ≤ I.2.2 * (I.2.2 - 1) ∧
        (has.getD k false = true → δx = (Iup.getP ds k).1 * s ∧ δy = (Iup.getP ds k).2 * s)) ∧
      (∀ k, n ≤ k → k < n + 4 →
        Iup.getP out k = ((Iup.getP points k).1 * 65536 + (Iup.getP ds k).1 * s,
                          (Iup.getP points k).2 * 65536 + (Iup.getP ds k).2 * s)) := by
  obtain ⟨out, e, hl, ⟨hall, -⟩, htail⟩ := apply_deltas_eq_spec (n + 4) points ds has s [n - 1] hpl hhl hdl
    ⟨Nat.zero_le _, by omega, trivial⟩ M Δ hM hΔ hs hfit hpts hds hds0
  refine ⟨out, e, hl, fun k hk => ?_, fun k hk1 hk2 => htail k (by simp only [endOf]; omega) hk2⟩
  have := hall k (Nat.zero_le _) (by omega)
  simp only [List.drop_zero, Nat.sub_zero, Nat.sub_add_cancel hn] at this
  exact this

/-- `simple_glyph`'s sparse path adds, for every point, exactly `working − point` (wrapping 16.16)
to the accumulated deltas; entries beyond the points are untouched. -/
theorem simple_sparse_tuple_adds (points : List GvarApply.Pt) (ends : List Nat) (t : RawTuple)
    (sp : Option (List Nat)) (scalar : Int) (deltas deltas' : List GvarApply.Pt)
    (h : simpleSparseTuple points ends t sp scalar deltas = some deltas') :
    ∃ buf has out, accSparse (t.ptsAndDeltas sp).1 (t.ptsAndDeltas sp).2 scalar
        (points.map ptFromI32) (points.map fun _ => false) = some (buf, has) ∧
      Iup.readerInterpolate points has ends buf = some out ∧
      deltas'.length = deltas.length ∧
      ∀ k, k < deltas.length → k < points.length →
        deltas'.getD k (0, 0) = ptAdd (deltas.getD k (0, 0))
          (ptSub (out.getD k (0, 0)) (ptFromI32 (points.getD k (0, 0)))) := by
  unfold simpleSparseTuple at h
  simp only [] at h
  split at h
  · cases h
  · rename_i buf has hacc
    split at h
    · cases h
    · rename_i out hout
      injection h with h
      subst h
      refine ⟨buf, has, out, hacc, hout, by simp, fun k hk hkp => ?_⟩
      rw [getD_map_range, if_pos hk, if_pos hkp]

/-- **the scaler's final rounding**: `Fixed::to_i32` of an accumulated 16.16 delta `T` (no wrap) is
`⌊T / 65536 + 1/2⌋`: the adjusted coordinate is `point + R` exactly when
`65536·R − 32768 ≤ T < 65536·R + 32768`.  Hence, with `|T − 65536·E| ≤ B` from the theorems above,
the drawn (unscaled) coordinate is `round(point + E)` whenever `E` is at least `B / 65536` away from
a rounding boundary. -/
theorem final_rounding (T R : Int) (hT : -2147483648 ≤ T ∧ T < 2147450880) :
    Fixed.toI32 T = R ↔ (65536 * R - 32768 ≤ T ∧ T < 65536 * R + 32768) :=
  toI32_iff T R hT

/-- **the fold over the tuples is a sum.**  skrifa's `simple_glyph` (deltas.rs: `compute_deltas_for_glyph`
visits `var_data.active_tuples_at(coords)` in tuple order; a tuple with deltas for all points goes
through `accumulate_dense_deltas`, any other through the closure `*delta += *iup_point - point`) returns,
whenever it returns `Ok`, for every point `k` exactly

  `delta_k = ( Σ_t c_t(k).x  mod 2³² , Σ_t c_t(k).y  mod 2³² )`   (wrapping 16.16, `wrapI32`),

one contribution list `c_t` per active tuple, in order, each characterised by `TupleContribution`:
the scaled listed deltas for an all-points tuple, `working − point` after
`accumulate_sparse_deltas` + `interpolate_deltas` on a FRESH buffer with CLEARED flags for the others
(this is where `apply_deltas_eq_spec` applies).  When the column sum fits an i32 nothing wraps and
`delta_k` IS the sum. -/
theorem simple_glyph_closed_formula (ax : Nat) (shared : List (List Int)) (bytes : List Nat)
    (coords : List Int) (points : List GvarApply.Pt) (ends : List Nat) (g : GlyphRead) (deltas : List GvarApply.Pt)
    (hr : readGlyph ax bytes = some g) (hne : activeTuples ax shared g coords ≠ [])
    (h : simpleGlyph ax shared (some bytes) coords points ends = some deltas) :
    ∃ cs : List (List GvarApply.Pt), cs.length = (activeTuples ax shared g coords).length ∧
      (∀ p ∈ (activeTuples ax shared g coords).zip cs, TupleContribution points ends g.sharedPts p.1 p.2) ∧
      deltas.length = points.length ∧
      ∀ k, k < points.length →
        deltas.getD k (0, 0) = (wrapI32 (colX cs k), wrapI32 (colY cs k)) ∧
        ((-2147483648 ≤ colX cs k ∧ colX cs k < 2147483648) → (deltas.getD k (0, 0)).1 = colX cs k) ∧
        ((-2147483648 ≤ colY cs k ∧ colY cs k < 2147483648) → (deltas.getD k (0, 0)).2 = colY cs k) := by
  unfold simpleGlyph at h
  split at h
  · cases h
  · simp only [hr] at h
    have hz : (points.map fun _ => ((0 : Int), (0 : Int))).length = points.length := by simp
    obtain ⟨cs, l1, l2, l3⟩ := foldl_steps points.length
      (fun d (ts : RawTuple × Int) => if ts.1.allPoints g.sharedPts then accDense (ts.1.ptsAndDeltas g.sharedPts).2 ts.2 d
        else simpleSparseTuple points ends ts.1 g.sharedPts ts.2 d)
      (TupleContribution points ends g.sharedPts)
      (fun acc a acc' hl hs => step_contribution points ends g.sharedPts acc a acc' hl hs)
      (activeTuples ax shared g coords) _ deltas hz h
    have hzero : (points.map fun _ => ((0 : Int), (0 : Int))) = (List.range points.length).map fun _ => ((0 : Int), (0 : Int)) := by
      apply List.ext_getElem (by simp)
      intro i h1 h2; simp
    refine ⟨cs, l1, l2, by rw [l3, foldl_stepAdd_length, hz], fun k hk => ?_⟩
    have := accumulate_closed cs points.length k hk
    rw [← hzero, ← l3] at this
    refine ⟨this, fun hx => ?_, fun hy => ?_⟩
    · rw [this]; exact wrapI32_of_in hx.1 hx.2
    · rw [this]; exact wrapI32_of_in hy.1 hy.2

/-- **the order of the tuples does not matter** (wrapping addition is commutative and associative
mod 2³²): accumulating the same contributions in any other order gives the same deltas, entry by
entry — with or without wrap-around. -/
theorem tuple_order_irrelevant (cs cs' : List (List GvarApply.Pt)) (h : cs.Perm cs') (np k : Nat)
    (hk : k < np) (hne : cs ≠ []) :
    (cs.foldl stepAdd ((List.range np).map fun _ => ((0 : Int), (0 : Int)))).getD k (0, 0)
      = (cs'.foldl stepAdd ((List.range np).map fun _ => ((0 : Int), (0 : Int)))).getD k (0, 0) := by
  rw [accumulate_closed cs np k hk, accumulate_closed cs' np k hk, colX_perm cs cs' h, colY_perm cs cs' h]

/-- **headline: every output coordinate is within the stated rounding error of
`original + Σ_t scalar_t · (explicit or IUP-inferred delta_t)`.**  One axis of one point.  `terms`
lists, for every active tuple in order, its 16.16 contribution `δ_t` (a column of
`simple_glyph_closed_formula`), its 16.16 scalar `s_t` and the specification's inferred delta
`num_t / den_t`, related by `Term.Ok` — which is exactly the conclusion of `apply_deltas_eq_spec`
for a tuple with explicit points (its hypothesis on the working buffer being
`accumulate_sparse_pointwise` + `scaled_delta_exact`) and holds with `den = 1` for an all-points
tuple (`scaled_delta_exact`).  No-wrap hypothesis summed over the tuples: the total `T = Σ_t δ_t`
lies in `[-2³¹, 2³¹ - 32768)` — e.g. `T` tuples each with `|δ_t| ≤ B` and `T·B < 2³¹ - 32768`.  Then the
scaler's unscaled coordinate `p + Fixed::to_i32(T)` (skrifa glyf/mod.rs `load_simple`:
`*unscaled += delta.map(Fixed::to_i32)`, `Fixed::to_i32 = (x + 0x8000) >> 16`; the scaled path
rounds with `Fixed::to_f26dot6 = (x + 0x200) >> 10` instead) satisfies

  `| (p + R) − ( p + Σ_t (s_t / 65536) · num_t / den_t ) |  ≤  1/2 + Σ_t (den_t − 1) / 131072`,

`1/2` being the final rounding and `(den_t − 1)/131072` font units the 16.16 interpolation error of
tuple `t` (zero for explicit, shifted and clamped points).  With `tuple_scalar_error_bound`
(`|s_t − 65536·S_t| ≤ k_t/2`) the same holds against the exact scalars `S_t` of `tentGo` with
`Σ_t k_t·|num_t/den_t| / 131072` added. -/
theorem applied_coordinate_within_rounding (terms : List Term) (hok : ∀ t ∈ terms, t.Ok) (p : Int)
    (hfit : -2147483648 ≤ (terms.map (·.δ)).sum ∧ (terms.map (·.δ)).sum < 2147450880) :
    |(((p + Fixed.toI32 (terms.map (·.δ)).sum : Int) : ℚ))
        - ((p : ℚ) + (terms.map fun t => (t.s : ℚ) * ((t.num : ℚ) / t.den)).sum / 65536)|
      ≤ 1 / 2 + (terms.map fun t => ((t.den : ℚ) - 1) / 2).sum / 65536 :=
  coordinate_within_rounding terms hok p hfit

/-- **the headline as ONE theorem, from the decoded tuples to the output coordinate** (x axis; the y axis is the same statement with the second components).
Glyph: `np` points with coordinates within `±M ≤ 16383`, contour ends `ends` (`ContoursWF`).  Tuples:
any non-empty list of decoded tuples `t` (16.16 scalar `0 < t.s ≤ 65536`, explicit flags `t.has`,
deltas `t.ds` within `±Δ`, zero where not explicit; a dense tuple has every flag set), with
`131072 M + 4·Δ·65536 + 65536 < 2³¹`.  Point: `k` in the contour `c = (first, last)`.  With
`I_t = inferSpec` on that contour's slice (the specification's explicit-or-inferred delta of tuple
`t` at `k`, as `num_t / den_t`) and the no-wrap bound on the total
`|Σ_t s_t · I_t| + Σ_t (den_t − 1)/2 < 2³¹ − 32768`:
`applyDecoded` — skrifa's `simple_glyph` fold on the decoded tuples: per tuple a fresh working buffer
`point·65536 + s·d` (= what `accumulate_sparse_deltas` leaves, `accSparse_eq_workOf`), `interpolate_deltas`,
`delta += working − point` with wrapping addition in tuple order — succeeds, and the scaler's unscaled
coordinate `p + Fixed::to_i32(delta_k)` satisfies

  `| (p + R) − ( p + Σ_t (s_t/65536) · num_t/den_t ) |  ≤  1/2 + Σ_t (den_t − 1)/131072`. -/
theorem applied_outline_within_rounding (np : Nat) (points : List Iup.Pt) (ends : List Nat) (ts : List DTuple)
    (hpl : points.length = np) (hwf : ContoursWF np 0 ends) (hne : ts ≠ [])
    (M Δ : Int) (hM : 0 ≤ M ∧ M ≤ 16383) (hΔ : 0 ≤ Δ)
    (hfit : 131072 * M + 4 * (Δ * 65536) + 65536 ≤ 2147483647)
    (hpts : ∀ k, (-M ≤ (Iup.getP points k).1 ∧ (Iup.getP points k).1 ≤ M) ∧
      (-M ≤ (Iup.getP points k).2 ∧ (Iup.getP points k).2 ≤ M))
    (hts : ∀ t ∈ ts, t.has.length = np ∧ t.ds.length = np ∧ (0 < t.s ∧ t.s ≤ 65536) ∧
      (∀ k, (-Δ ≤ (Iup.getP t.ds k).1 ∧ (Iup.getP t.ds k).1 ≤ Δ) ∧ (-Δ ≤ (Iup.getP t.ds k).2 ∧ (Iup.getP t.ds k).2 ≤ Δ)) ∧
      (∀ k, t.has.getD k false = false → Iup.getP t.ds k = (0, 0)))
    (c : Nat × Nat) (hc : c ∈ contoursOf 0 ends) (k : Nat) (hk1 : c.1 ≤ k) (hk2 : k ≤ c.2)
    (hwrap : |(ts.map fun t => (t.s : ℚ) *
          (((Iup.inferSpec (points.drop c.1) ((t.ds.drop c.1).take (c.2 - c.1 + 1)) (t.has.drop c.1) (k - c.1)).1.1 : ℚ) /
            (Iup.inferSpec (points.drop c.1) ((t.ds.drop c.1).take (c.2 - c.1 + 1)) (t.has.drop c.1) (k - c.1)).1.2)).sum|
        + (ts.map fun t =>
          (((Iup.inferSpec (points.drop c.1) ((t.ds.drop c.1).take (c.2 - c.1 + 1)) (t.has.drop c.1) (k - c.1)).1.2 : ℚ) - 1) / 2).sum
        < 2147450880) :
    ∃ deltas, applyDecoded points ends ts = some deltas ∧
      |(((Iup.getP points k).1 + Fixed.toI32 (deltas.getD k (0, 0)).1 : Int) : ℚ)
        - (((Iup.getP points k).1 : ℚ) + (ts.map fun t => (t.s : ℚ) *
          (((Iup.inferSpec (points.drop c.1) ((t.ds.drop c.1).take (c.2 - c.1 + 1)) (t.has.drop c.1) (k - c.1)).1.1 : ℚ) /
            (Iup.inferSpec (points.drop c.1) ((t.ds.drop c.1).take (c.2 - c.1 + 1)) (t.has.drop c.1) (k - c.1)).1.2)).sum / 65536)|
      ≤ 1 / 2 + (ts.map fun t =>
          (((Iup.inferSpec (points.drop c.1) ((t.ds.drop c.1).take (c.2 - c.1 + 1)) (t.has.drop c.1) (k - c.1)).1.2 : ℚ) - 1) / 2).sum / 65536 := by
  obtain ⟨deltas, e, hget, hok⟩ := applyDecoded_column np points ends ts hpl hwf M Δ hM hΔ hfit hpts hts c hc k
    hk1 hk2
  refine ⟨deltas, e, ?_⟩
  rw [hget]
  exact column_within_rounding ts _ (·.s) (fun t => (Iup.inferSpec (points.drop c.1) ((t.ds.drop c.1).take (c.2 - c.1 + 1)) (t.has.drop c.1) (k - c.1)).1.1)
    (fun t => (Iup.inferSpec (points.drop c.1) ((t.ds.drop c.1).take (c.2 - c.1 + 1)) (t.has.drop c.1) (k - c.1)).1.2) (fun t ht => (hok t ht).1) _ hwrap

/-- the y-axis twin of `applied_outline_within_rounding`: the same statement and proof with the second
components (together they cover both coordinates of every point). -/
theorem applied_outline_within_rounding_y (np : Nat) (points : List Iup.Pt) (ends : List Nat) (ts : List DTuple)
    (hpl : points.length = np) (hwf : ContoursWF np 0 ends) (hne : ts ≠ [])
    (M Δ : Int) (hM : 0 ≤ M ∧ M ≤ 16383) (hΔ : 0 ≤ Δ)
    (hfit : 131072 * M + 4 * (Δ * 65536) + 65536 ≤ 2147483647)
    (hpts : ∀ k, (-M ≤ (Iup.getP points k).1 ∧ (Iup.getP points k).1 ≤ M) ∧
      (-M ≤ (Iup.getP points k).2 ∧ (Iup.getP points k).2 ≤ M))
    (hts : ∀ t ∈ ts, t.has.length = np ∧ t.ds.length = np ∧ (0 < t.s ∧ t.s ≤ 65536) ∧
      (∀ k, (-Δ ≤ (Iup.getP t.ds k).1 ∧ (Iup.getP t.ds k).1 ≤ Δ) ∧ (-Δ ≤ (Iup.getP t.ds k).2 ∧ (Iup.getP t.ds k).2 ≤ Δ)) ∧
      (∀ k, t.has.getD k false = false → Iup.getP t.ds k = (0, 0)))
    (c : Nat × Nat) (hc : c ∈ contoursOf 0 ends) (k : Nat) (hk1 : c.1 ≤ k) (hk2 : k ≤ c.2)
    (hwrap : |(ts.map fun t => (t.s : ℚ) *
          (((Iup.inferSpec (points.drop c.1) ((t.ds.drop c.1).take (c.2 - c.1 + 1)) (t.has.drop c.1) (k - c.1)).2.1 : ℚ) /
            (Iup.inferSpec (points.drop c.1) ((t.ds.drop c.1).take (c.2 - c.1 + 1)) (t.has.drop c.1) (k - c.1)).2.2)).sum|
        + (ts.map fun t =>
          (((Iup.inferSpec (points.drop c.1) ((t.ds.drop c.1).take (c.2 - c.1 + 1)) (t.has.drop c.1) (k - c.1)).2.2 : ℚ) - 1) / 2).sum
        < 2147450880) :
    ∃ deltas, applyDecoded points ends ts = some deltas ∧
      |(((Iup.getP points k).2 + Fixed.toI32 (deltas.getD k (0, 0)).2 : Int) : ℚ)
        - (((Iup.getP points k).2 : ℚ) + (ts.map fun t => (t.s : ℚ) *
          (((Iup.inferSpec (points.drop c.1) ((t.ds.drop c.1).take (c.2 - c.1 + 1)) (t.has.drop c.1) (k - c.1)).2.1 : ℚ) /
            (Iup.inferSpec (points.drop c.1) ((t.ds.drop c.1).take (c.2 - c.1 + 1)) (t.has.drop c.1) (k - c.1)).2.2)).sum / 65536)|
      ≤ 1 / 2 + (ts.map fun t =>
          (((Iup.inferSpec (points.drop c.1) ((t.ds.drop c.1).take (c.2 - c.1 + 1)) (t.has.drop c.1) (k - c.1)).2.2 : ℚ) - 1) / 2).sum / 65536 := by
  obtain ⟨deltas, e, hget, hok⟩ := applyDecoded_column np points ends ts hpl hwf M Δ hM hΔ hfit hpts hts c hc k
    hk1 hk2
  refine ⟨deltas, e, ?_⟩
  rw [hget]
  exact column_within_rounding ts _ (·.s) (fun t => (Iup.inferSpec (points.drop c.1) ((t.ds.drop c.1).take (c.2 - c.1 + 1)) (t.has.drop c.1) (k - c.1)).2.1)
    (fun t => (Iup.inferSpec (points.drop c.1) ((t.ds.drop c.1).take (c.2 - c.1 + 1)) (t.has.drop c.1) (k - c.1)).2.2) (fun t ht => (hok t ht).2) _ hwrap

/-- **an all-points tuple contributes exactly its scaled deltas**: for the all-explicit decoded tuple
(every flag set, deltas `(x_k, y_k)` within `±Δ`), `interpolate_deltas` changes nothing —
every point is explicit (`apply_deltas_eq_spec`: `δ_k = s·d_k`) or behind the last contour
(`point_in_contour_or_tail`) — so its decoded contribution is `fxScaled s d` per point, which is what
`accumulate_dense_deltas` adds. -/
theorem dense_contribution_eq (np : Nat) (points : List Iup.Pt) (ends : List Nat) (s : Int) (xs ys : List Int)
    (hpl : points.length = np) (hwf : ContoursWF np 0 ends)
    (M Δ : Int) (hM : 0 ≤ M ∧ M ≤ 16383) (hΔ : 0 ≤ Δ)
    (hfit : 131072 * M + 4 * (Δ * 65536) + 65536 ≤ 2147483647)
    (hpts : ∀ k, (-M ≤ (Iup.getP points k).1 ∧ (Iup.getP points k).1 ≤ M) ∧
      (-M ≤ (Iup.getP points k).2 ∧ (Iup.getP points k).2 ≤ M))
    (hs : 0 < s ∧ s ≤ 65536)
    (hbx : ∀ k, -Δ ≤ xs.getD k 0 ∧ xs.getD k 0 ≤ Δ) (hby : ∀ k, -Δ ≤ ys.getD k 0 ∧ ys.getD k 0 ≤ Δ) :
    decodedContribution points ends ⟨s, (List.range points.length).map fun k => (xs.getD k 0, ys.getD k 0),
        (List.range points.length).map fun _ => true⟩
      = some ((List.range points.length).map fun k => (fxScaled s (xs.getD k 0), fxScaled s (ys.getD k 0))) := by
  have hgd : ∀ k, Iup.getP ((List.range points.length).map fun k => (xs.getD k 0, ys.getD k 0)) k
      = if k < points.length then (xs.getD k 0, ys.getD k 0) else (0, 0) := fun k => getP_map_range _ _ k
  have hgh : ∀ k, ((List.range points.length).map fun _ => true).getD k false = decide (k < points.length) := by
    intro k
    rw [getD_map_range]
    by_cases hk : k < points.length <;> simp [hk]
  obtain ⟨out, e, hl, hall, htail⟩ := apply_deltas_eq_spec np points
    ((List.range points.length).map fun k => (xs.getD k 0, ys.getD k 0))
    ((List.range points.length).map fun _ => true) s ends hpl (by simp [hpl]) (by simp [hpl]) hwf M Δ hM hΔ hs hfit hpts
    (fun k => by rw [hgd k]; split
                 · exact ⟨hbx k, hby k⟩
                 · simp only []; omega)
    (fun k hk => by rw [hgh k] at hk; rw [hgd k]; simp only [decide_eq_false_iff_not] at hk; rw [if_neg hk])
  unfold decodedContribution DTuple.work
  simp only []
  rw [e]
  simp only [Option.map_some, Option.some.injEq]
  apply List.map_congr_left
  intro k hk
  have hk' : k < points.length := by simpa using hk
  have hout : Iup.getP out k = ((Iup.getP points k).1 * 65536 + xs.getD k 0 * s, (Iup.getP points k).2 * 65536 + ys.getD k 0 * s) := by
    rcases point_in_contour_or_tail np ends 0 hwf k (Nat.zero_le _) with ⟨c, hc, hc1, hc2⟩ | ht
    · have := ContoursAll_mem ends 0 hall c hc k hc1 hc2
      simp only [] at this
      obtain ⟨_, _, _, _, _, _, hexp⟩ := this
      have := hexp (by rw [hgh k]; simp [hk'])
      rw [hgd k, if_pos hk'] at this
      obtain ⟨t1, t2⟩ := this
      simp only [] at t1 t2
      exact Prod.ext (Int.sub_eq_iff_eq_add'.mp t1) (Int.sub_eq_iff_eq_add'.mp t2)
    · rw [htail k ht (by omega), hgd k, if_pos hk']
  have hMΔ : M + Δ ≤ 32767 := by omega
  obtain ⟨sx, fx, -, bx⟩ := scaled_no_wrap _ _ s M Δ (hpts k).1 (hbx k) ⟨Int.le_of_lt hs.1, hs.2⟩ hMΔ
  obtain ⟨sy, fy, -, by'⟩ := scaled_no_wrap _ _ s M Δ (hpts k).2 (hby k) ⟨Int.le_of_lt hs.1, hs.2⟩ hMΔ
  show ptSub (Iup.getP out k) (ptFromI32 (Iup.getP points k)) = _
  rw [hout, sx, sy]
  simp only [ptSub, ptFromI32, fx, fy, bx, by']

/-- **bytes → decoded tuples**, either kind of tuple: when every active tuple's step is the decoded
step (`StepDecodes`: from `SparseWF` or `DenseWF`), `simple_glyph` on the bytes is `applyDecoded`. -/
theorem simple_glyph_eq_applyDecoded (ax : Nat) (shared : List (List Int)) (bytes : List Nat)
    (coords : List Int) (points : List Iup.Pt) (ends : List Nat) (g : GlyphRead) (dts : List DTuple)
    (hr : readGlyph ax bytes = some g) (h4 : 4 ≤ points.length)
    (hlen : (activeTuples ax shared g coords).length = dts.length)
    (hdec : ∀ p ∈ (activeTuples ax shared g coords).zip dts, StepDecodes points ends g.sharedPts p.1 p.2) :
    simpleGlyph ax shared (some bytes) coords points ends = applyDecoded points ends dts := by
  unfold simpleGlyph applyDecoded
  have : ¬ points.length < 4 := by omega
  simp only [this, if_false, hr]
  have hzero : (points.map fun _ => ((0 : Int), (0 : Int))) = (List.range points.length).map fun _ => ((0 : Int), (0 : Int)) := by
    apply List.ext_getElem (by simp)
    intro i h1 h2; simp
  rw [hzero]
  exact fold_eq_decoded points ends g.sharedPts _ dts _ hlen (by simp) hdec

/-- the scalar of every ACTIVE tuple is in `(0, 65536]`, derived from `compute_scalar` (`tupleScalar`):
peaks, intermediate coordinates and the location are F2Dot14 (i16) values and no intermediate region
straddles zero (`InterOk`, where the code follows FreeType). -/
theorem active_tuple_scalar_range (ax : Nat) (shared : List (List Int)) (g : GlyphRead) (coords : List Int)
    (hco : ∀ v ∈ coords, inI16 v)
    (hreg : ∀ t ∈ g.tuples, (∀ v ∈ t.peakOf shared, inI16 v) ∧
      InterOk ((t.inter.map (·.1)).getD []) ((t.inter.map (·.2)).getD [])) :
    ∀ a ∈ activeTuples ax shared g coords, 0 < a.2 ∧ a.2 ≤ 65536 := by
  intro a ha
  unfold activeTuples at ha
  obtain ⟨t, ht, hm⟩ := List.mem_filterMap.mp ha
  obtain ⟨hp, hi⟩ := hreg t ht
  cases hs : tupleScalar ax (t.peakOf shared) t.inter coords with
  | none => rw [hs] at hm; cases hm
  | some s =>
    rw [hs] at hm
    simp only [Option.map_some, Option.some.injEq] at hm
    subst hm
    show 0 < s ∧ s ≤ 65536
    have hlen : (t.peakOf shared).length = ax := by
      by_contra hl; simp [tupleScalar, hl] at hs
    have h := tuple_scalar_error_bound (t.peakOf shared) coords t.inter hp hco hi
    rw [hlen, hs] at h
    cases htg : tentGo t.inter.isSome (1, 1, 0) (t.peakOf shared) ((t.inter.map (·.1)).getD [])
        ((t.inter.map (·.2)).getD []) coords with
    | none => rw [htg] at h; cases h
    | some r => rw [htg] at h; exact ⟨h.2.2.2.1, h.2.2.2.2.1⟩

/-- from the glyph-variation-data BYTES to both output coordinates
of every contour point, for sparse (`SparseWF`) and all-points (`DenseWF`) active tuples alike. -/
theorem simple_glyph_within_rounding (ax : Nat) (shared : List (List Int)) (bytes : List Nat)
    (coords : List Int) (g : GlyphRead) (hr : readGlyph ax bytes = some g)
    (np : Nat) (points : List Iup.Pt) (ends : List Nat) (ts : List DTuple)
    (hpl : points.length = np) (hwf : ContoursWF np 0 ends) (hne : ts ≠ [])
    (M Δ : Int) (hM : 0 ≤ M ∧ M ≤ 16383) (hΔ : 0 ≤ Δ)
    (hfit : 131072 * M + 4 * (Δ * 65536) + 65536 ≤ 2147483647)
    (hpts : ∀ k, (-M ≤ (Iup.getP points k).1 ∧ (Iup.getP points k).1 ≤ M) ∧
      (-M ≤ (Iup.getP points k).2 ∧ (Iup.getP points k).2 ≤ M))
    (hco : ∀ v ∈ coords, inI16 v)
    (hreg : ∀ t ∈ g.tuples, (∀ v ∈ t.peakOf shared, inI16 v) ∧
      InterOk ((t.inter.map (·.1)).getD []) ((t.inter.map (·.2)).getD []))
    (c : Nat × Nat) (hc : c ∈ contoursOf 0 ends) (k : Nat) (hk1 : c.1 ≤ k) (hk2 : k ≤ c.2)
    (h4 : 4 ≤ points.length)
    (hlen : (activeTuples ax shared g coords).length = ts.length)
    (hswf : ∀ p ∈ (activeTuples ax shared g coords).zip ts,
      SparseWF points g.sharedPts Δ p.1 p.2 ∨ DenseWF points g.sharedPts Δ p.1 p.2)
    (hwrap : |(ts.map fun t => (t.s : ℚ) *
          (((Iup.inferSpec (points.drop c.1) ((t.ds.drop c.1).take (c.2 - c.1 + 1)) (t.has.drop c.1) (k - c.1)).1.1 : ℚ) /
            (Iup.inferSpec (points.drop c.1) ((t.ds.drop c.1).take (c.2 - c.1 + 1)) (t.has.drop c.1) (k - c.1)).1.2)).sum|
        + (ts.map fun t =>
          (((Iup.inferSpec (points.drop c.1) ((t.ds.drop c.1).take (c.2 - c.1 + 1)) (t.has.drop c.1) (k - c.1)).1.2 : ℚ) - 1) / 2).sum
        < 2147450880)
    (hwrapy : |(ts.map fun t => (t.s : ℚ) *
          (((Iup.inferSpec (points.drop c.1) ((t.ds.drop c.1).take (c.2 - c.1 + 1)) (t.has.drop c.1) (k - c.1)).2.1 : ℚ) /
            (Iup.inferSpec (points.drop c.1) ((t.ds.drop c.1).take (c.2 - c.1 + 1)) (t.has.drop c.1) (k - c.1)).2.2)).sum|
        + (ts.map fun t =>
          (((Iup.inferSpec (points.drop c.1) ((t.ds.drop c.1).take (c.2 - c.1 + 1)) (t.has.drop c.1) (k - c.1)).2.2 : ℚ) - 1) / 2).sum
        < 2147450880) :
    ∃ deltas, simpleGlyph ax shared (some bytes) coords points ends = some deltas ∧
      |(((Iup.getP points k).1 + Fixed.toI32 (deltas.getD k (0, 0)).1 : Int) : ℚ)
        - (((Iup.getP points k).1 : ℚ) + (ts.map fun t => (t.s : ℚ) *
          (((Iup.inferSpec (points.drop c.1) ((t.ds.drop c.1).take (c.2 - c.1 + 1)) (t.has.drop c.1) (k - c.1)).1.1 : ℚ) /
            (Iup.inferSpec (points.drop c.1) ((t.ds.drop c.1).take (c.2 - c.1 + 1)) (t.has.drop c.1) (k - c.1)).1.2)).sum / 65536)|
      ≤ 1 / 2 + (ts.map fun t =>
          (((Iup.inferSpec (points.drop c.1) ((t.ds.drop c.1).take (c.2 - c.1 + 1)) (t.has.drop c.1) (k - c.1)).1.2 : ℚ) - 1) / 2).sum / 65536 ∧
      |(((Iup.getP points k).2 + Fixed.toI32 (deltas.getD k (0, 0)).2 : Int) : ℚ)
        - (((Iup.getP points k).2 : ℚ) + (ts.map fun t => (t.s : ℚ) *
          (((Iup.inferSpec (points.drop c.1) ((t.ds.drop c.1).take (c.2 - c.1 + 1)) (t.has.drop c.1) (k - c.1)).2.1 : ℚ) /
            (Iup.inferSpec (points.drop c.1) ((t.ds.drop c.1).take (c.2 - c.1 + 1)) (t.has.drop c.1) (k - c.1)).2.2)).sum / 65536)|
      ≤ 1 / 2 + (ts.map fun t =>
          (((Iup.inferSpec (points.drop c.1) ((t.ds.drop c.1).take (c.2 - c.1 + 1)) (t.has.drop c.1) (k - c.1)).2.2 : ℚ) - 1) / 2).sum / 65536 := by
  have hscal := active_tuple_scalar_range ax shared g coords hco hreg
  -- either kind of tuple: the side conditions of the decoded tuple, and the model's step is the decoded step
  have hpair : ∀ a t, (a, t) ∈ (activeTuples ax shared g coords).zip ts →
      (t.has.length = np ∧ t.ds.length = np ∧ (0 < t.s ∧ t.s ≤ 65536) ∧
        (∀ k, (-Δ ≤ (Iup.getP t.ds k).1 ∧ (Iup.getP t.ds k).1 ≤ Δ) ∧
          (-Δ ≤ (Iup.getP t.ds k).2 ∧ (Iup.getP t.ds k).2 ≤ Δ)) ∧
        (∀ k, t.has.getD k false = false → Iup.getP t.ds k = (0, 0))) ∧
      StepDecodes points ends g.sharedPts a t := by
    intro a t hp
    have hs := hscal a (List.of_mem_zip hp).1
    rcases hswf (a, t) hp with hw | hw
    · obtain ⟨e1, e2, e3, e4, e5⟩ := SparseWF.bounds points _ Δ hΔ a t hw
      exact ⟨⟨by rw [e2, hpl], by rw [e3, hpl], by rw [e1]; exact hs, e4, e5⟩,
        (hw.decodes points g.sharedPts Δ M a t hM.1 hΔ (by omega) (by omega) hpts).step points ends
          g.sharedPts a t⟩
    · obtain ⟨e1, e2, e3, e4, e5⟩ := DenseWF.bounds points _ Δ hΔ a t hw
      exact ⟨⟨by rw [e2, hpl], by rw [e3, hpl], by rw [e1]; exact hs, e4, e5⟩,
        hw.step points ends g.sharedPts Δ a t (fun xs ys hbx hby =>
          dense_contribution_eq np points ends a.2 xs ys hpl hwf M Δ hM hΔ hfit hpts hs hbx hby)⟩
  have hts := fun t (ht : t ∈ ts) =>
    (mem_zip_of_mem_right _ ts hlen t ht).elim fun a ha => (hpair a t ha).1
  rw [simple_glyph_eq_applyDecoded ax shared bytes coords points ends g ts hr h4 hlen
    (fun p hp => (hpair p.1 p.2 hp).2)]
  obtain ⟨d1, e1, b1⟩ := applied_outline_within_rounding np points ends ts hpl hwf hne M Δ hM hΔ hfit hpts hts c hc k hk1 hk2 hwrap
  obtain ⟨d2, e2, b2⟩ := applied_outline_within_rounding_y np points ends ts hpl hwf hne M Δ hM hΔ hfit hpts hts c hc k hk1 hk2 hwrapy
  rw [e1] at e2
  injection e2 with e2
  subst e2
  exact ⟨d1, e1, b1, b2⟩

/-- the writer's explicit point numbers are distinct: `pick_best_point_number_repr` lists the
required indices in strictly ascending order, so the packed-point-number writer never emits a
duplicate (the `pts.Nodup` of `SparseWF` holds for every tuple write-fonts writes). -/
theorem writer_point_numbers_distinct (tents : List Tent) (ds : List GDelta) (t : TupleIn)
    (h : glyphDeltasNew tents ds = some t) (hlen : ds.length ≤ 65536) (pts : List Nat)
    (hb : t.best = some pts) : pts.Nodup := by
  unfold glyphDeltasNew at h
  cases hp : pickBest ds with
  | none => simp [hp] at h
  | some b =>
    simp only [hp, Option.some.injEq] at h
    subst h
    simp only at hb
    subst hb
    rcases pickBest_cases ds _ hp with hc | ⟨hc, hne⟩
    · cases hc
    · injection hc with hc
      rw [hc]
      cases hr : requiredIdx 0 ds with
      | nil => simp
      | cons p0 ps =>
        obtain ⟨_, hasc⟩ := requiredIdx_head ds 0 (by omega) p0 ps hr
        exact sasc_nodup ps p0 hasc

/-- **one written tuple with explicit point numbers meets the stream conjuncts of `SparseWF`**: the bytes the
writer emits for a tuple whose kept set is `requiredIdx 0 ds = p0 :: ps` — packed point numbers `pb`,
then `encodeDeltas` of the kept x deltas, then of the kept y deltas — satisfy every stream conjunct of
`SparseWF`: skrifa's point iterator is the list of kept indices, the count matches, both
`read_sparse_deltas` passes succeed, the numbers are distinct; and the values read are EXACTLY the
input deltas of the kept points (`(ds.filter required).map x / y`): required deltas are exact. -/
theorem written_sparse_tuple_stream_wf (ds : List GDelta) (p0 : Nat) (ps : List Nat)
    (hpts : requiredIdx 0 ds = p0 :: ps) (hlen : ds.length ≤ 32767)
    (hd : ∀ d ∈ ds, inI32 d.1 ∧ inI32 d.2.1)
    (pb : List Nat) (hpb : ppnBytes (some (p0 :: ps)) = some pb) (junk rest : List Nat) :
    ptIterOf (pb ++ junk) = .list (p0 :: ps) ∧
    (countAndCountBytes (pb ++ junk)).1 = (p0 :: ps).length ∧
    readSparse ((p0 :: ps).length + 1) 0 (p0 :: ps).length (.list (p0 :: ps))
        (encodeDeltas ((ds.filter (·.2.2)).map (·.1)) ++ (encodeDeltas ((ds.filter (·.2.2)).map (·.2.1)) ++ rest))
      = some ((p0 :: ps).zip ((ds.filter (·.2.2)).map (·.1)),
          encodeDeltas ((ds.filter (·.2.2)).map (·.2.1)) ++ rest) ∧
    readSparse ((p0 :: ps).length + 1) 0 (p0 :: ps).length (.list (p0 :: ps))
        (encodeDeltas ((ds.filter (·.2.2)).map (·.2.1)) ++ rest)
      = some ((p0 :: ps).zip ((ds.filter (·.2.2)).map (·.2.1)), rest) ∧
    (p0 :: ps).Nodup ∧
    ((ds.filter (·.2.2)).map (·.1)).length = (p0 :: ps).length ∧
    ((ds.filter (·.2.2)).map (·.2.1)).length = (p0 :: ps).length := by
  obtain ⟨hp0, hasc⟩ := requiredIdx_head ds 0 (by omega) p0 ps hpts
  have hl : (p0 :: ps).length = (ds.filter (·.2.2)).length := by
    rw [← hpts]; exact requiredIdx_length ds 0
  have hfl : (ds.filter (·.2.2)).length ≤ ds.length := List.length_filter_le _ _
  have hx : ∀ v ∈ (ds.filter (·.2.2)).map (·.1), inI32 v := by
    intro v hv; obtain ⟨d, hd', rfl⟩ := List.mem_map.mp hv
    exact (hd d (List.mem_of_mem_filter hd')).1
  have hy : ∀ v ∈ (ds.filter (·.2.2)).map (·.2.1), inI32 v := by
    intro v hv; obtain ⟨d, hd', rfl⟩ := List.mem_map.mp hv
    exact (hd d (List.mem_of_mem_filter hd')).2
  simp only [ppnBytes] at hpb
  obtain ⟨hb, hpw⟩ := sasc_cons p0 ps hp0 hasc
  obtain ⟨bs, e1, h⟩ := PackedDeltas.points_roundtrip (p0 :: ps) (by simp) (by omega) hb hpw
  rw [hpb] at e1
  injection e1 with e1
  subst e1
  obtain ⟨h2, e2, -⟩ := h junk
  obtain ⟨hvx, hcx⟩ := runsOf_props _ ((ds.filter (·.2.2)).map (·.1)) (Nat.le_refl _) hx
  obtain ⟨hvy, hcy⟩ := runsOf_props _ ((ds.filter (·.2.2)).map (·.2.1)) (Nat.le_refl _) hy
  have hxy := readSparse_xy (runsOf _ ((ds.filter (·.2.2)).map (·.1))) (runsOf _ ((ds.filter (·.2.2)).map (·.2.1)))
    (p0 :: ps) rest hvx hvy (by unfold total; rw [hcx]; simp [hl]) (by unfold total; rw [hcy]; simp [hl])
  rw [hcx, hcy] at hxy
  exact ⟨by simp [ptIterOf, e2], h2, hxy.1, hxy.2, sasc_nodup ps p0 hasc, by simp [hl], by simp [hl]⟩

/-- `read_dense_deltas` over any sequence of valid runs covering exactly the remaining entries: it
succeeds, returns the values in order and leaves the cursor behind the runs -/
theorem read_dense_runs : ∀ (runs : List Run) (fuel cur count : Nat) (rest : List Nat),
    (∀ r ∈ runs, ValidRun r) → cur + total runs = count → runs.length + 1 ≤ fuel →
    readDense fuel cur count (runs.flatMap serializeRun ++ rest) = some (runs.flatMap (·.2), rest) := by
  intro runs
  induction runs with
  | nil =>
    intro fuel cur count rest _ hc hf
    obtain ⟨f, rfl⟩ : ∃ f, fuel = f + 1 := ⟨fuel - 1, by omega⟩
    have : ¬ cur < count := by simp [total] at hc; omega
    simp [readDense, this]
  | cons r rs ih =>
    intro fuel cur count rest hv hc hf
    obtain ⟨f, rfl⟩ : ∃ f, fuel = f + 1 := ⟨fuel - 1, by omega⟩
    obtain ⟨h1, h2, hfit⟩ := hv r (by simp)
    have ht : total (r :: rs) = r.2.length + total rs := by simp [total]
    rw [ht] at hc
    have hlt : cur < count := by omega
    have hgt : ¬ (cur + r.2.length > count) := by omega
    simp only [List.flatMap_cons, List.append_assoc, serializeRun, List.cons_append, readDense, hlt,
      if_true, flag_count _ _ h1 h2, flag_type _ _ h1 h2, hgt, if_false]
    rw [readArray_vals r.1 r.2 _ hfit]
    simp only []
    rw [ih f (cur + r.2.length) count rest (fun x hx => hv x (by simp [hx])) (by omega)
      (by simp at hf; omega)]

/-- **one written ALL-POINTS tuple meets the stream conjuncts of `DenseWF`**: the delta bytes the writer
emits (`encodeDeltas` of all x deltas, then of all y deltas) satisfy the stream conjuncts of `DenseWF`
— both `read_dense_deltas` passes over `ds.length` entries succeed — and the values read are EXACTLY
the input deltas. -/
theorem written_dense_tuple_stream_wf (ds : List GDelta) (hd : ∀ d ∈ ds, inI32 d.1 ∧ inI32 d.2.1)
    (rest : List Nat) :
    readDense (ds.length + 1) 0 ds.length
        (encodeDeltas (ds.map (·.1)) ++ (encodeDeltas (ds.map (·.2.1)) ++ rest))
      = some (ds.map (·.1), encodeDeltas (ds.map (·.2.1)) ++ rest) ∧
    readDense (ds.length + 1) 0 ds.length (encodeDeltas (ds.map (·.2.1)) ++ rest)
      = some (ds.map (·.2.1), rest) := by
  have hx : ∀ v ∈ ds.map (·.1), inI32 v := by
    intro v hv; obtain ⟨d, hd', rfl⟩ := List.mem_map.mp hv; exact (hd d hd').1
  have hy : ∀ v ∈ ds.map (·.2.1), inI32 v := by
    intro v hv; obtain ⟨d, hd', rfl⟩ := List.mem_map.mp hv; exact (hd d hd').2
  obtain ⟨hvx, hcx⟩ := runsOf_props _ (ds.map (·.1)) (Nat.le_refl _) hx
  obtain ⟨hvy, hcy⟩ := runsOf_props _ (ds.map (·.2.1)) (Nat.le_refl _) hy
  have tx : total (runsOf (ds.map (·.1)).length (ds.map (·.1))) = ds.length := by
    unfold total; rw [hcx]; simp
  have ty : total (runsOf (ds.map (·.2.1)).length (ds.map (·.2.1))) = ds.length := by
    unfold total; rw [hcy]; simp
  have a := read_dense_runs _ (ds.length + 1) 0 ds.length (encodeDeltas (ds.map (·.2.1)) ++ rest) hvx
    (by rw [tx]; simp) (by have := length_le_total _ hvx; omega)
  have b := read_dense_runs _ (ds.length + 1) 0 ds.length rest hvy
    (by rw [ty]; simp) (by have := length_le_total _ hvy; omega)
  rw [hcx] at a
  rw [hcy] at b
  exact ⟨a, b⟩

/-- **glyph-level plumbing of the written streams**: for every glyph `writeGlyph` serialises (any choice of
shared peak tuples; shared point numbers as `compute_shared_points` picks them), the reader returns
raw tuples that pair up one-to-one with the input tuples, and each raw tuple's point-number bytes and
delta bytes AS SKRIFA SELECTS THEM (`RawTuple.ptsAndDeltas g.sharedPts`: private bytes when the
PRIVATE_POINT_NUMBERS bit is set, otherwise the glyph's shared bytes) are the writer's streams of its
input tuple (`StreamOf`: packed `t.best` followed by anything, and `encodeDeltas xs ++ encodeDeltas ys`
of the selected deltas) — the inputs of `written_sparse_tuple_stream_wf` /
`written_dense_tuple_stream_wf`.  The reader's view equality of `glyph_variations_roundtrip` comes
along (it fixes `allPoints`). -/
theorem written_glyph_streams (ax : Nat) (shared : List (List Int)) (hshared : shared.length ≤ 4096)
    (ts : List TupleIn) (hne : ts ≠ []) (hok : ∀ t ∈ ts, TupleOk ax t)
    (bytes : List Nat) (hw : writeGlyph shared ts = some bytes) (rest : List Nat) :
    ∃ g, readGlyph ax (bytes ++ rest) = some g ∧
      g.tuples.map (RawTuple.view shared g.sharedPts) = ts.map TupleIn.view ∧
      List.Forall₂ (fun r t => StreamOf t r g.sharedPts) g.tuples ts :=
  writeGlyph_roundtrip_s ax shared hshared ts hne hok bytes hw rest

/-- The full statement (`written_then_applied_within_tolerance`, not proved) would say: for every input to `Gvar::new`
(tuples whose deltas went through `iup_delta_optimize` at tolerance τ), skrifa's output coordinate computed
from the WRITTEN bytes is within `1/2 + Σ_t ((den_t − 1)/131072 + (s_t/65536)·τ)` of
`original + Σ_t (s_t/65536)·δ_t(input)`.
Proved: the composition from the bytes (`simple_glyph_within_rounding`) under the per-tuple tolerance
hypothesis `|I_t − δ_t(input)| ≤ τ` — what `iup_delta_optimize_sound` gives per axis for the tuples
write-fonts emits (required deltas exact, omitted ones within τ of the specification's inference) — and,
for the written streams: `writer_point_numbers_distinct` (the `Nodup` of `SparseWF`),
`written_sparse_tuple_stream_wf` (one written tuple with explicit point numbers: every stream conjunct of
`SparseWF`, values read = input deltas of the kept points), `written_dense_tuple_stream_wf` (the all-points
analogue), `written_glyph_streams` (each raw tuple `readGlyph` returns carries the writer's streams of its
input tuple, private or shared point numbers), `active_tuple_scalar_range`.
Not proved: assembling these into `SparseWF ∨ DenseWF` per active tuple (bounds ±Δ on the input deltas,
`points.length = deltas.length`, zip with the scalars), identifying the decoded tuples' `ds` with the input
deltas restricted to the kept set, and feeding `iup_delta_optimize_sound` for the τ hypothesis. -/
theorem written_then_applied_within_tolerance_partial (ax : Nat) (shared : List (List Int)) (bytes : List Nat)
    (coords : List Int) (g : GlyphRead) (hr : readGlyph ax bytes = some g)
    (np : Nat) (points : List Iup.Pt) (ends : List Nat) (ts : List DTuple)
    (hpl : points.length = np) (hwf : ContoursWF np 0 ends) (hne : ts ≠ [])
    (M Δ : Int) (hM : 0 ≤ M ∧ M ≤ 16383) (hΔ : 0 ≤ Δ)
    (hfit : 131072 * M + 4 * (Δ * 65536) + 65536 ≤ 2147483647)
    (hpts : ∀ k, (-M ≤ (Iup.getP points k).1 ∧ (Iup.getP points k).1 ≤ M) ∧
      (-M ≤ (Iup.getP points k).2 ∧ (Iup.getP points k).2 ≤ M))
    (hco : ∀ v ∈ coords, inI16 v)
    (hreg : ∀ t ∈ g.tuples, (∀ v ∈ t.peakOf shared, inI16 v) ∧
      InterOk ((t.inter.map (·.1)).getD []) ((t.inter.map (·.2)).getD []))
    (c : Nat × Nat) (hc : c ∈ contoursOf 0 ends) (k : Nat) (hk1 : c.1 ≤ k) (hk2 : k ≤ c.2)
    (h4 : 4 ≤ points.length)
    (hlen : (activeTuples ax shared g coords).length = ts.length)
    (hswf : ∀ p ∈ (activeTuples ax shared g coords).zip ts,
      SparseWF points g.sharedPts Δ p.1 p.2 ∨ DenseWF points g.sharedPts Δ p.1 p.2)
    (hwrap : |(ts.map fun t => (t.s : ℚ) *
          (((Iup.inferSpec (points.drop c.1) ((t.ds.drop c.1).take (c.2 - c.1 + 1)) (t.has.drop c.1) (k - c.1)).1.1 : ℚ) /
            (Iup.inferSpec (points.drop c.1) ((t.ds.drop c.1).take (c.2 - c.1 + 1)) (t.has.drop c.1) (k - c.1)).1.2)).sum|
        + (ts.map fun t =>
          (((Iup.inferSpec (points.drop c.1) ((t.ds.drop c.1).take (c.2 - c.1 + 1)) (t.has.drop c.1) (k - c.1)).1.2 : ℚ) - 1) / 2).sum
        < 2147450880)
    (hwrapy : |(ts.map fun t => (t.s : ℚ) *
          (((Iup.inferSpec (points.drop c.1) ((t.ds.drop c.1).take (c.2 - c.1 + 1)) (t.has.drop c.1) (k - c.1)).2.1 : ℚ) /
            (Iup.inferSpec (points.drop c.1) ((t.ds.drop c.1).take (c.2 - c.1 + 1)) (t.has.drop c.1) (k - c.1)).2.2)).sum|
        + (ts.map fun t =>
          (((Iup.inferSpec (points.drop c.1) ((t.ds.drop c.1).take (c.2 - c.1 + 1)) (t.has.drop c.1) (k - c.1)).2.2 : ℚ) - 1) / 2).sum
        < 2147450880)
    (τ : ℚ) (dx dy : DTuple → ℚ)
    (htolx : ∀ t ∈ ts, |(((Iup.inferSpec (points.drop c.1) ((t.ds.drop c.1).take (c.2 - c.1 + 1)) (t.has.drop c.1) (k - c.1)).1.1 : ℚ) /
            (Iup.inferSpec (points.drop c.1) ((t.ds.drop c.1).take (c.2 - c.1 + 1)) (t.has.drop c.1) (k - c.1)).1.2) - dx t| ≤ τ)
    (htoly : ∀ t ∈ ts, |(((Iup.inferSpec (points.drop c.1) ((t.ds.drop c.1).take (c.2 - c.1 + 1)) (t.has.drop c.1) (k - c.1)).2.1 : ℚ) /
            (Iup.inferSpec (points.drop c.1) ((t.ds.drop c.1).take (c.2 - c.1 + 1)) (t.has.drop c.1) (k - c.1)).2.2) - dy t| ≤ τ) :
    ∃ deltas, simpleGlyph ax shared (some bytes) coords points ends = some deltas ∧
      |(((Iup.getP points k).1 + Fixed.toI32 (deltas.getD k (0, 0)).1 : Int) : ℚ)
        - (((Iup.getP points k).1 : ℚ) + (ts.map fun t => (t.s : ℚ) * dx t).sum / 65536)|
      ≤ 1 / 2 + (ts.map fun t =>
          (((Iup.inferSpec (points.drop c.1) ((t.ds.drop c.1).take (c.2 - c.1 + 1)) (t.has.drop c.1) (k - c.1)).1.2 : ℚ) - 1) / 2).sum / 65536 + (ts.map fun t => (t.s : ℚ) * τ).sum / 65536 ∧
      |(((Iup.getP points k).2 + Fixed.toI32 (deltas.getD k (0, 0)).2 : Int) : ℚ)
        - (((Iup.getP points k).2 : ℚ) + (ts.map fun t => (t.s : ℚ) * dy t).sum / 65536)|
      ≤ 1 / 2 + (ts.map fun t =>
          (((Iup.inferSpec (points.drop c.1) ((t.ds.drop c.1).take (c.2 - c.1 + 1)) (t.has.drop c.1) (k - c.1)).2.2 : ℚ) - 1) / 2).sum / 65536 + (ts.map fun t => (t.s : ℚ) * τ).sum / 65536 := by
  have hscal := active_tuple_scalar_range ax shared g coords hco hreg
  obtain ⟨deltas, e, b1, b2⟩ := simple_glyph_within_rounding ax shared bytes coords g hr np points ends ts hpl hwf hne M Δ hM hΔ hfit hpts hco hreg c hc k hk1 hk2 h4 hlen hswf hwrap hwrapy
  have hwpos : ∀ t ∈ ts, (0 : ℚ) ≤ (t.s : ℚ) := by
    intro t ht
    obtain ⟨a, ha⟩ := mem_zip_of_mem_right _ ts hlen t ht
    have hs := hscal a (List.of_mem_zip ha).1
    have e1 : t.s = a.2 := by
      rcases hswf (a, t) ha with h | h
      · exact (SparseWF.bounds points _ Δ hΔ a t h).1
      · exact (DenseWF.bounds points _ Δ hΔ a t h).1
    exact_mod_cast (by omega : (0 : Int) ≤ t.s)
  have hx := sum_weighted_tol τ (fun t : DTuple => (t.s : ℚ)) (fun t => (((Iup.inferSpec (points.drop c.1) ((t.ds.drop c.1).take (c.2 - c.1 + 1)) (t.has.drop c.1) (k - c.1)).1.1 : ℚ) /
            (Iup.inferSpec (points.drop c.1) ((t.ds.drop c.1).take (c.2 - c.1 + 1)) (t.has.drop c.1) (k - c.1)).1.2)) dx ts
    (fun t ht => ⟨hwpos t ht, htolx t ht⟩)
  have hy := sum_weighted_tol τ (fun t : DTuple => (t.s : ℚ)) (fun t => (((Iup.inferSpec (points.drop c.1) ((t.ds.drop c.1).take (c.2 - c.1 + 1)) (t.has.drop c.1) (k - c.1)).2.1 : ℚ) /
            (Iup.inferSpec (points.drop c.1) ((t.ds.drop c.1).take (c.2 - c.1 + 1)) (t.has.drop c.1) (k - c.1)).2.2)) dy ts
    (fun t ht => ⟨hwpos t ht, htoly t ht⟩)
  exact ⟨deltas, e, abs_sub_swap_sum _ _ _ _ _ _ b1 hx, abs_sub_swap_sum _ _ _ _ _ _ b2 hy⟩

/-- **the glue between the byte-level fast path and the decoded tuples**: with the calls of the two
passes as in `sparse_fast_path_eq_iterator` (`pts.zip xs`, `pts.zip ys`, distinct points), values
within `±Δ`, coordinates within `±M`, `M + Δ ≤ 32767` and a scalar in `[0, 65536]`, the buffer and
flags `accumulate_sparse_deltas` leaves on a fresh buffer are — as LISTS — `workOf points (scaled
explicit deltas)` and the listed-point flags: exactly the `DTuple.work` / `DTuple.has` from which
`applied_outline_within_rounding` starts. -/
theorem accumulate_sparse_buffer_eq_workOf (pts : List Nat) (xs ys : List Int) (ptBytes dBytes bs rest : List Nat)
    (s : Int) (points : List Iup.Pt)
    (hcount : (countAndCountBytes ptBytes).1 = pts.length) (hit : ptIterOf ptBytes = .list pts)
    (hx : readSparse (pts.length + 1) 0 pts.length (.list pts) dBytes = some (pts.zip xs, bs))
    (hy : readSparse (pts.length + 1) 0 pts.length (.list pts) bs = some (pts.zip ys, rest))
    (hnd : pts.Nodup) (hlx : xs.length = pts.length) (hly : ys.length = pts.length)
    (M Δ : Int) (hM : 0 ≤ M) (hΔ : 0 ≤ Δ) (hMΔ : M + Δ ≤ 32767) (hs : 0 ≤ s ∧ s ≤ 65536)
    (hpts : ∀ k, (-M ≤ (Iup.getP points k).1 ∧ (Iup.getP points k).1 ≤ M) ∧
      (-M ≤ (Iup.getP points k).2 ∧ (Iup.getP points k).2 ≤ M))
    (hxs : ∀ v ∈ xs, -Δ ≤ v ∧ v ≤ Δ) (hys : ∀ v ∈ ys, -Δ ≤ v ∧ v ≤ Δ) :
    accSparse ptBytes dBytes s (points.map ptFromI32) (points.map fun _ => false)
      = some (workOf points (scaledEx pts xs ys s points.length), listedFlags pts xs points.length) :=
  accSparse_eq_workOf pts xs ys ptBytes dBytes bs rest s points hcount hit hx hy hnd hlx hly M Δ hΔ hMΔ hs
    hpts hxs hys

/-- **`composite_glyph`, one sparse tuple**: every component / phantom point the tuple lists gets
`(x · s, y · s)` added in 16.16 — the exact integer products (no inference, no rounding: `den = 1`
in the terms of `apply_deltas_eq_spec_one_contour`); unlisted entries are untouched.  The scaler then adds
`Fixed::to_i32` of the accumulated value to the component's offset and to the phantom points
(`final_rounding`). -/
theorem composite_deltas_exact (t : RawTuple) (sp : Option (List Nat)) (s : Int)
    (deltas : List GvarApply.Pt) (hnd : ((t.deltas sp).map (·.1)).Nodup) (k : Nat) (hk : k < deltas.length)
    (hi16 : ∀ d ∈ t.deltas sp, (-32768 ≤ d.2.1 ∧ d.2.1 ≤ 32767) ∧ (-32768 ≤ d.2.2 ∧ d.2.2 ≤ 32767))
    (hfit : ∀ d ∈ t.deltas sp, (-2147483648 ≤ d.2.1 * s ∧ d.2.1 * s < 2147483648) ∧
      (-2147483648 ≤ d.2.2 * s ∧ d.2.2 * s < 2147483648)) :
    (compositeSparseTuple t sp s deltas).length = deltas.length ∧
    (compositeSparseTuple t sp s deltas).getD k (0, 0) = (match lookupV (t.deltas sp) k with
      | some d => ptAdd (deltas.getD k (0, 0)) (d.1 * s, d.2 * s)
      | none => deltas.getD k (0, 0)) := by
  obtain ⟨h1, h2⟩ := compositeSparseTuple_pointwise t sp s deltas hnd k hk
  refine ⟨h1, ?_⟩
  rw [h2]
  cases hl : lookupV (t.deltas sp) k with
  | none => rfl
  | some d =>
    simp only []
    have hmem : (k, d) ∈ t.deltas sp := lookupV_mem _ k d hl
    obtain ⟨a1, a2⟩ := hi16 _ hmem
    obtain ⟨b1, b2⟩ := hfit _ hmem
    rw [fxMul_int_exact d.1 s a1 b1, fxMul_int_exact d.2 s a2 b2]

-- non-vacuity: a tent (0.25, 0.5, 1.0) at 0.75: exact 1/2, 16.16 scalar 32768, one rounding step
example : tupleScalar 1 [8192] (some ([4096], [16384])) [12288] = some 32768 ∧
    tentGo true (1, 1, 0) [8192] [4096] [16384] [12288] = some (4096, 8192, 1) := by decide +kernel
-- the implied region and a location outside it
example : tupleScalar 1 [16384] none [8192] = some 32768 ∧ tupleScalar 1 [16384] none [-1] = none ∧
    tupleScalar 1 [16384] (some ([0], [16384])) [8192] = some 32768 := by decide +kernel
-- 16.16 interpolation: references at x = 0 (delta 0) and x = 3 (delta 1.0 = 65536), point at x = 1:
-- exact 65536/3 = 21845.33…, the code gives 21845 (scale rounds to 21845)
example : Iup.fxInterpAxis 0 0 3 (3 * 65536 + 65536) 1 65536 - 65536 = 21845 ∧
    Iup.readerAxis 0 0 3 65536 1 = (65536, 3) := by decide +kernel

-- `SparseWF` is satisfiable: one explicit point 0 with delta (5, 7) in a glyph of 5 points …
example : SparseWF [(0, 0), (0, 0), (500, 0), (0, 0), (0, 0)] none 10
    (⟨0xA000, some [16384], none, [1, 0, 0, 0, 5, 0, 7]⟩, 65536)
    ⟨65536, listedDs [0] [5] [7] 5, listedFlags [0] [5] 5⟩ := by
  refine ⟨by decide, [0], [5], [7], [0, 7], [], rfl, by decide, by decide, by decide, by decide, rfl, rfl,
    by decide, by decide, rfl⟩
-- … and violated by a stream that lists point 0 twice (skrifa would add its deltas twice)
example (dt : DTuple) : ¬ SparseWF [(0, 0), (0, 0), (500, 0), (0, 0), (0, 0)] none 10
    (⟨0xA000, some [16384], none, [2, 1, 0, 0, 1, 5, 5, 1, 7, 7]⟩, 65536) dt := by
  rintro ⟨_, pts, xs, ys, bs, rest, hit, _, _, _, hnd, _⟩
  have : PackedDeltas.ptIterOf ((⟨0xA000, some [16384], none, [2, 1, 0, 0, 1, 5, 5, 1, 7, 7]⟩ : RawTuple).ptsAndDeltas none).1
      = .list [0, 0] := rfl
  rw [this] at hit
  injection hit with hit
  subst hit
  simp at hnd

end FontVerif.C10
