/-
C15 — `OtRound` (write-fonts/src/round.rs): `(x + 0.5).floor()` computed in the float type, then
(for integer targets) Rust's saturating `as` cast.  The cases of the analysis (exact sum, integer `x`,
inexact sum with a negative exponent) are lemmas of Lemmas/OtRound.lean.  Model: Model/Ieee.lean,
Model/FixedConv.lean (`otRoundF`, `otRoundInt`, `otRoundPoint`, `otRoundVec2`).

`halfUp neg m e` is the exact integer `⌊x + 1/2⌋` of `x = (-1)^neg · m · 2^e` ("round half up",
toward +∞ on ties), `clampI lo hi` the saturation.  The statement "OtRound = half up" is TRUE for
every finite float EXCEPT the largest float below one half (`(2^p - 1) · 2^-(p+1)`: the float sum
`x + 0.5` rounds to `1.0`), and, for the float → float impls, for magnitudes `≥ 2^(p-1)` (where
`x + 0.5` itself is not representable).  Both exceptions are what fontTools' `otRound` does too;
they are recorded as known findings C15-otround-below-half / C15-otround-odd-integer-tie.
-/
import FontVerif.Model.FixedConv
import FontVerif.Lemmas.OtRound
namespace FontVerif.C15Round
open FontVerif.Ieee FontVerif.FixedConv

theorem f32_ok : FmtOk f32 := by constructor <;> decide
theorem f64_ok : FmtOk f64 := by constructor <;> decide

/-- the one exceptional input of a format: the largest float below one half. -/
def IsBelowHalf (f : Fmt) (neg : Bool) (m : Nat) (e : Int) : Prop :=
  neg = false ∧ m = 2 ^ f.p - 1 ∧ e = -((f.p : Int) + 1)

/-- `OtRound<i16>` / `OtRound<u16>` for `f32` / `f64` (any target range within `±2^(p-1)`):
for every finite float except the largest one below one half, the result is the exact value
rounded half up (toward +∞), then saturated. -/
theorem ot_round_int_is_half_up (f : Fmt) (ok : FmtOk f) (lo hi : Int) (hlh : lo ≤ 0 ∧ 0 ≤ hi)
    (hhi : hi < ((2 ^ (f.p - 1) : Nat) : Int)) (hlo : -((2 ^ (f.p - 1) : Nat) : Int) ≤ lo)
    (neg : Bool) (m : Nat) (e : Int) (hm : m < 2 ^ f.p) (he : f.emin ≤ e)
    (hx : ¬ IsBelowHalf f neg m e) :
    otRoundInt f lo hi (.fin neg m e) = clampI lo hi (halfUp neg m e) := by
  by_cases hex : AddHalfExact f neg m e
  · exact otRoundInt_of_exact f lo hi neg m e hex
  have hL := bitLen_of_not_exact f ok neg m e he hex
  by_cases hge : e ≥ 0
  · exact otRound_case_int f ok lo hi hlh hhi hlo neg m e hge hL
  have hlt : e < 0 := by omega
  -- the exact sum `(±m + H) · 2^e`, `H = 2^(-1-e)`, is positive: a negative one would be below `2^p`
  rw [exactSum_half, if_neg hge] at hL
  obtain ⟨a, ha⟩ : ∃ a : Nat, (if neg then -1 else 1) * (m : Int) + 2 ^ (-1 - e).toNat = (a : Int) := by
    apply Int.eq_ofNat_of_zero_le
    apply Classical.byContradiction; intro hc
    have hH := int_pow_pos (-1 - e).toNat
    have := bitLen_le_of_lt (show ((if neg then -1 else 1) * (m : Int) +
      2 ^ (-1 - e).toNat).natAbs < 2 ^ f.p by cases neg <;> simp only [↓reduceIte, Bool.false_eq_true] at hc ⊢ <;> omega)
    exact absurd hL (by simp only []; omega)
  simp only [ha, Int.natAbs_natCast] at hL
  exact otRound_inexact_neg_exp f ok lo hi neg m e hm he hlt a ha hL hx

/-- the four scalar impls. -/
theorem ot_round_f64_i16 (neg : Bool) (m : Nat) (e : Int) (hm : m < 2 ^ 53) (he : -1074 ≤ e)
    (hx : ¬ IsBelowHalf f64 neg m e) :
    otRoundInt f64 (-32768) 32767 (.fin neg m e) = clampI (-32768) 32767 (halfUp neg m e) :=
  ot_round_int_is_half_up f64 f64_ok _ _ (by decide) (by decide) (by decide) neg m e hm he hx

theorem ot_round_f64_u16 (neg : Bool) (m : Nat) (e : Int) (hm : m < 2 ^ 53) (he : -1074 ≤ e)
    (hx : ¬ IsBelowHalf f64 neg m e) :
    otRoundInt f64 0 65535 (.fin neg m e) = clampI 0 65535 (halfUp neg m e) :=
  ot_round_int_is_half_up f64 f64_ok _ _ (by decide) (by decide) (by decide) neg m e hm he hx

theorem ot_round_f32_i16 (neg : Bool) (m : Nat) (e : Int) (hm : m < 2 ^ 24) (he : -149 ≤ e)
    (hx : ¬ IsBelowHalf f32 neg m e) :
    otRoundInt f32 (-32768) 32767 (.fin neg m e) = clampI (-32768) 32767 (halfUp neg m e) :=
  ot_round_int_is_half_up f32 f32_ok _ _ (by decide) (by decide) (by decide) neg m e hm he hx

theorem ot_round_f32_u16 (neg : Bool) (m : Nat) (e : Int) (hm : m < 2 ^ 24) (he : -149 ≤ e)
    (hx : ¬ IsBelowHalf f32 neg m e) :
    otRoundInt f32 0 65535 (.fin neg m e) = clampI 0 65535 (halfUp neg m e) :=
  ot_round_int_is_half_up f32 f32_ok _ _ (by decide) (by decide) (by decide) neg m e hm he hx

/-- the exception is real (both formats): exact half-up of `0.5 - ulp/2` is 0, the code returns 1. -/
example : halfUp false (2 ^ 53 - 1) (-54) = 0
    ∧ otRoundInt f64 (-32768) 32767 (.fin false (2 ^ 53 - 1) (-54)) = 1
    ∧ decode f64 0x3FDFFFFFFFFFFFFF = .fin false (2 ^ 53 - 1) (-54) := by decide
example : halfUp false (2 ^ 24 - 1) (-25) = 0
    ∧ otRoundInt f32 0 65535 (.fin false (2 ^ 24 - 1) (-25)) = 1
    ∧ decode f32 0x3EFFFFFF = .fin false (2 ^ 24 - 1) (-25) := by decide

/-- infinities saturate, NaN casts to 0. -/
theorem ot_round_int_specials (f : Fmt) (lo hi : Int) :
    otRoundInt f lo hi .nan = 0 ∧ otRoundInt f lo hi (.inf false) = hi
      ∧ otRoundInt f lo hi (.inf true) = lo := by
  simp [otRoundInt, otRoundF, add, half, floor, toIntSat]

/-- `OtRound<f64> for f64` / `OtRound<f32> for f32`: for every finite float (except the largest
below one half) whose rounded value is below `2^(p-1)` in magnitude, the result is exactly the
integer `⌊x + 1/2⌋` (an integer-valued float `±n·2^k`, `k ≥ 0`). -/
theorem ot_round_float_is_half_up (f : Fmt) (ok : FmtOk f) (neg : Bool) (m : Nat) (e : Int)
    (hm : m < 2 ^ f.p) (he : f.emin ≤ e) (hx : ¬ IsBelowHalf f neg m e)
    (hb : (halfUp neg m e).natAbs + 1 < 2 ^ (f.p - 1)) :
    ∃ s n k, otRoundF f (.fin neg m e) = .fin s n k ∧ 0 ≤ k ∧
      (if s then -1 else 1) * ((n : Int) * 2 ^ k.toNat) = halfUp neg m e := by
  have hP := two_pow_pos (f.p - 1)
  have key := ot_round_int_is_half_up f ok (-(((2 ^ (f.p - 1) : Nat) : Int) - 1)) (((2 ^ (f.p - 1) : Nat) : Int) - 1)
    (by omega) (by omega) (by omega) neg m e hm he hx
  unfold otRoundInt at key
  rw [clampI_id _ _ _ (by omega)] at key
  have hsh := floor_shape (add f (.fin neg m e) half) (add_half_ne_nan f neg m e)
  unfold otRoundF at key ⊢
  rcases hsh with ⟨s, h⟩ | ⟨s, n, k, h, hk⟩
  · rw [h] at key; simp only [toIntSat] at key
    cases s
    · simp only [Bool.false_eq_true, if_false] at key; omega
    · simp only [if_true] at key; omega
  · rw [h] at key ⊢
    rw [toIntSat_int _ _ s n k hk] at key
    refine ⟨s, n, k, rfl, hk, ?_⟩
    generalize (if s = true then (-1 : Int) else 1) * ((n : Int) * 2 ^ k.toNat) = v at key ⊢
    unfold clampI at key
    by_cases h1 : v < -(((2 ^ (f.p - 1) : Nat) : Int) - 1)
    · simp only [h1, if_true] at key; omega
    · by_cases h2 : v > ((2 ^ (f.p - 1) : Nat) : Int) - 1
      · simp only [h1, h2, if_false, if_true] at key; omega
      · simp only [h1, h2, if_false] at key; exact key

/-- beyond `2^(p-1)` the float → float impl is not even the identity on integers:
`ot_round(4503599627370497.0) = 4503599627370498.0` (`x + 0.5` is a tie, rounds to even). -/
example : otRoundF f64 (.fin false (2 ^ 52 + 1) 0) = .fin false (2 ^ 52 + 2) 0 := by decide

/-- idempotence on integers: the integer targets return an integer `i` with `|i| < 2^p` (as a float)
saturated; for the float targets an integer with `|i| + 1 < 2^(p-1)` is a fixed point. -/
theorem ot_round_int_idempotent (f : Fmt) (ok : FmtOk f) (lo hi : Int) (hlh : lo ≤ 0 ∧ 0 ≤ hi)
    (hhi : hi < ((2 ^ (f.p - 1) : Nat) : Int)) (hlo : -((2 ^ (f.p - 1) : Nat) : Int) ≤ lo)
    (i : Int) (hi' : i.natAbs < 2 ^ f.p) :
    otRoundInt f lo hi (.fin (decide (i < 0)) i.natAbs 0) = clampI lo hi i := by
  have hemin := ok.hemin
  rw [ot_round_int_is_half_up f ok lo hi hlh hhi hlo _ _ 0 hi' (by omega)
    (by intro h; have := h.2.2; omega), halfUp_ofInt]

theorem ot_round_float_idempotent (f : Fmt) (ok : FmtOk f) (i : Int)
    (hi' : i.natAbs + 1 < 2 ^ (f.p - 1)) :
    ∃ s n k, otRoundF f (.fin (decide (i < 0)) i.natAbs 0) = .fin s n k ∧ 0 ≤ k ∧
      (if s then -1 else 1) * ((n : Int) * 2 ^ k.toNat) = i := by
  have hemin := ok.hemin
  have hpp := two_pow_pred f.p (by have := ok.hp2; omega)
  have hh := halfUp_ofInt i
  have := ot_round_float_is_half_up f ok (decide (i < 0)) i.natAbs 0 (by omega) (by omega)
    (by intro h; have := h.2.2; omega) (by rw [hh]; exact hi')
  rw [hh] at this
  exact this

/-- `OtRound<(i16, i16)> for kurbo::Point` and `OtRound<Vec2> for Vec2` are the scalar rule applied
to each component (this is what the seeded `kurbo::Point::round` variant breaks on negative halves). -/
theorem ot_round_point_componentwise (x y : FVal) :
    otRoundPoint x y = (otRoundInt f64 (-32768) 32767 x, otRoundInt f64 (-32768) 32767 y) := rfl

theorem ot_round_vec2_componentwise (x y : FVal) :
    otRoundVec2 x y = (otRoundF f64 x, otRoundF f64 y) := rfl

/-- negative exact halves round toward +∞ (not away from zero): `-0.5 ↦ 0`, `-1.5 ↦ -1`,
`-2.5 ↦ -2`, in general `-(n + 1/2) ↦ -n` (f64 to i16). -/
theorem ot_round_negative_half (n : Nat) (hn : 2 * n + 1 < 2 ^ 52) :
    otRoundInt f64 (-32768) 32767 (.fin true (2 * n + 1) (-1)) = clampI (-32768) 32767 (-(n : Int)) := by
  rw [ot_round_f64_i16 true (2 * n + 1) (-1) (by omega) (by omega) (by intro h; exact absurd h.1 (by decide))]
  congr 1
  unfold halfUp
  simp
  omega

example : otRoundPoint (decode f64 0xBFE0000000000000) (decode f64 0xBFF8000000000000) = (0, -1)
    ∧ otRoundPoint (decode f64 0x3FE0000000000000) (decode f64 0x4004000000000000) = (1, 3)
    ∧ otRoundVec2 (decode f64 0xC004000000000000) (decode f64 0x3FE0000000000000)
        = (.fin true 2 0, .fin false 1 0) := by decide

end FontVerif.C15Round
