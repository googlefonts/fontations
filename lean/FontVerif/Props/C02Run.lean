/-
C02 — skrifa and IFT client APIs are total on hostile fonts and arguments.

Core 1c: the WHOLE-RUN bound of the TrueType interpreter.  Props/C02.lean bounds the number of dispatches of
`Engine::run` for arbitrary data opcodes, Props/C02Loops.lean bounds the loop iterations of one dispatched data opcode.
Here the two are composed: for every bytecode, every zone size, every stack capacity and every initial graphics state,
the total number of elementary steps of `Engine::run` (Model/InterpCost.lean `runCost`: decode/dispatch, skip-loop
instructions, definition-table walks, data-opcode loop iterations) is at most

    (MAX_RUN_INSTRUCTIONS + 1) × (1 + (code length + 1) + definition-table lengths + 65536 + 4 × glyph points + twilight points + 2 × stack capacity)

and along the whole run the zone sizes, the contour list, the stack capacity and the definition-table lengths never
change, the value stack stays within its capacity and `loop_counter ≤ 0xFFFF` at every dispatch — which is what keeps
the per-dispatch bounds valid at every later dispatch.

The theorems are stated for ANY data semantics that honours the per-dispatch contract `SemOk` (`Step` of
Model/InterpLoops.lean + stack within capacity).  `semLoops_ok` discharges the contract for the loop-opcode model
(`semLoops`; the opcodes it does not model are `Err.data` there, i.e. outside), Props/C02Data.lean discharges it for the
model of ALL data opcodes, which removes the hypothesis altogether (`run_total_work_le_concrete`).
-/
import FontVerif.Lemmas.InterpRun
import FontVerif.Lemmas.InterpData
import FontVerif.Props.C02Loops
import FontVerif.Props.C02
namespace FontVerif.C02
open FontVerif.Interp FontVerif.InterpLemmas FontVerif.InterpLoops FontVerif.InterpCost
open FontVerif.InterpRunLemmas

/-- the per-dispatch contract of a data semantics `sem` whose data state projects to the loop state `G`:
    on a well-formed state with the stack within capacity (and satisfying an invariant `I` of the rest of the data
    state), a successful opcode satisfies `Step` (well-formedness kept, sizes unchanged, at most `work` iterations),
    leaves the stack within capacity and keeps `I` -/
def SemOk {D} (sem : Nat → List Nat → List Int × D → Except Err (List Int × D)) (proj : D → G)
    (I : D → Prop := fun _ => True) : Prop :=
  ∀ op bytes vs d vs' d', I d → Wf (proj d) → vs.length ≤ (proj d).cap → sem op bytes (vs, d) = .ok (vs', d') →
    Step (proj d) vs (proj d') ∧ vs'.length ≤ (proj d').cap ∧ I d'

/-- the invariant of the whole run, relative to the sizes `g0` and table lengths `nF`, `nI` at its start -/
structure RunInv {D} (c : Cfg D) (proj : D → G) (I : D → Prop) (g0 : G) (nF nI : Nat) (s : St D) : Prop where
  good : Good c s
  inv : I s.data
  wf : Wf (proj s.data)
  pts : (proj s.data).glyphPts = g0.glyphPts
  twi : (proj s.data).twiPts = g0.twiPts
  contours : (proj s.data).glyphContours = g0.glyphContours
  cap : (proj s.data).cap = g0.cap
  stack : s.vs.length ≤ g0.cap
  nf : s.funcs.length = nF
  ni : s.idefs.length = nI

/-- one iteration of the run loop keeps the invariant and costs at most `perStep` -/
theorem step_inv {D} (c : Cfg D) (proj : D → G) {I : D → Prop} (hsem : SemOk c.sem proj I) (g0 : G) (nF nI : Nat) (s : St D)
    (h : RunInv c proj I g0 nF nI s) :
    RunInv c proj I g0 nF nI (step c s) ∧ stepCost c proj s ≤ perStep c (nF + nI) g0 := by
  by_cases hr : s.status = .running
  rotate_left
  · rw [step_halted c s hr, stepCost_halted c proj s hr]
    exact ⟨h, Nat.zero_le _⟩
  have hgood := step_good c s h.good
  rcases step_data c proj s hr with ⟨⟨c1, c2, c3, c4⟩, hcost⟩ | ⟨op, ops, hsem1, hf, hi, hcost⟩
  · refine ⟨⟨hgood, c1 ▸ h.inv, c1 ▸ h.wf, c1 ▸ h.pts, c1 ▸ h.twi, c1 ▸ h.contours, c1 ▸ h.cap,
      Nat.le_trans c2 h.stack, c3.trans h.nf, c4.trans h.ni⟩, ?_⟩
    rw [h.nf, h.ni] at hcost
    unfold perStep; omega
  · have hstk : s.vs.length ≤ (proj s.data).cap := by rw [h.cap]; exact h.stack
    obtain ⟨⟨hw', hit, hp, ht, hcn, hcp⟩, hstk', hI'⟩ := hsem _ _ _ _ _ _ h.inv h.wf hstk hsem1
    refine ⟨⟨hgood, hI', hw', hp.trans h.pts, ht.trans h.twi, hcn.trans h.contours, hcp.trans h.cap, ?_,
      hf ▸ h.nf, hi ▸ h.ni⟩, ?_⟩
    · rw [hcp, h.cap] at hstk'; exact hstk'
    · unfold work at hit
      rw [h.pts, h.twi, h.cap] at hit
      have := h.stack
      rw [hcost]; unfold perStep; omega

/-- the invariant holds along the whole run -/
theorem iter_inv {D} (c : Cfg D) (proj : D → G) {I : D → Prop} (hsem : SemOk c.sem proj I) (g0 : G) (nF nI : Nat) (n : Nat) (s : St D)
    (h : RunInv c proj I g0 nF nI s) : RunInv c proj I g0 nF nI (iter c n s) :=
  iter_induct (fun s h _ => (step_inv c proj hsem g0 nF nI s h).1) n s h

/-- the state `Engine::reset` hands to `run` satisfies the invariant, relative to its own sizes -/
theorem initSt_runInv {D} (c : Cfg D) (proj : D → G) {I : D → Prop} (p : Nat) (fs ids : List Def) (vs : List Int) (d : D)
    (hI : I d) (hw : Wf (proj d)) (hstk : vs.length ≤ (proj d).cap) :
    RunInv c proj I (proj d) fs.length ids.length (initSt p fs ids vs d) := by
  refine ⟨initSt_good c p fs ids vs d, hI, hw, rfl, rfl, rfl, rfl, hstk, ?_, ?_⟩
  · unfold initSt; simp only []; split <;> simp
  · unfold initSt; simp only []; split <;> simp

/-- run-loop iterations that can still do work: none once the machine has halted -/
def remaining {D} (s : St D) : Nat :=
  match s.status with
  | .running => MAX_RUN_INSTRUCTIONS + 1 - s.count
  | _ => 0

theorem runCost_le_remaining {D} (c : Cfg D) (proj : D → G) {I : D → Prop} (hsem : SemOk c.sem proj I) (g0 : G) (nF nI : Nat) (n : Nat)
    (s : St D) (h : RunInv c proj I g0 nF nI s) :
    runCost c proj n s ≤ remaining s * perStep c (nF + nI) g0 := by
  induction n generalizing s with
  | zero => simp [runCost]
  | succ n ih =>
    have ⟨hinv, hcost⟩ := step_inv c proj hsem g0 nF nI s h
    have := ih _ hinv
    unfold runCost
    by_cases hr : s.status = .running
    · have hcnt := h.good.2.2.1 hr
      have hrem : remaining s = MAX_RUN_INSTRUCTIONS + 1 - s.count := by unfold remaining; simp only [hr]
      have hrem2 : remaining (step c s) + 1 ≤ remaining s := by
        by_cases hr2 : (step c s).status = .running
        · have := ((step_running c s hr).2.2.1 hr2).1
          have h2 : remaining (step c s) = MAX_RUN_INSTRUCTIONS + 1 - (step c s).count := by
            unfold remaining; simp only [hr2]
          omega
        · have h2 : remaining (step c s) = 0 := by
            unfold remaining; split
            · rename_i hh; exact absurd hh hr2
            · rfl
          omega
      generalize perStep c (nF + nI) g0 = B at *
      calc stepCost c proj s + runCost c proj n (step c s)
          ≤ B + remaining (step c s) * B := by omega
        _ = (remaining (step c s) + 1) * B := by rw [Nat.add_mul]; omega
        _ ≤ remaining s * B := Nat.mul_le_mul_right B hrem2
    · rw [step_halted c s hr] at this ⊢
      rw [stepCost_halted c proj s hr]
      omega

/-- **whole-run work bound** (generic in the data semantics): from a start state of `Engine::run_program` — any
    program, any definition tables, any value stack within capacity, any well-formed data state — the total number of
    elementary steps of `Engine::run`, over ANY number `n` of loop iterations, is at most
    `(MAX_RUN_INSTRUCTIONS + 1) × perStep`, `perStep = 1 + (longest program + 1) + both definition-table lengths +
    65536 + 4 × glyph points + twilight points + 2 × stack capacity`. -/
theorem run_total_work_le {D} (c : Cfg D) (proj : D → G) {I : D → Prop} (hsem : SemOk c.sem proj I)
    (p : Nat) (fs ids : List Def) (vs : List Int) (d : D) (hI : I d) (hw : Wf (proj d)) (hstk : vs.length ≤ (proj d).cap) (n : Nat) :
    runCost c proj n (initSt p fs ids vs d)
      ≤ (MAX_RUN_INSTRUCTIONS + 1) * perStep c (fs.length + ids.length) (proj d) := by
  have hinv := initSt_runInv c proj p fs ids vs d hI hw hstk
  have := runCost_le_remaining c proj hsem (proj d) fs.length ids.length n _ hinv
  have hr : remaining (initSt p fs ids vs d) = MAX_RUN_INSTRUCTIONS + 1 := by
    unfold remaining initSt; simp
  rw [hr] at this
  exact this

/-- **sizes are invariant over the whole run and the loop counter stays clamped**: after any number of loop
    iterations the zone sizes, contour list, stack capacity and definition-table lengths are those of the start, the
    value stack is within capacity and `loop_counter ≤ 0xFFFF` — so the per-dispatch bounds of Props/C02Loops.lean
    apply at EVERY dispatch of the run -/
theorem run_sizes_invariant {D} (c : Cfg D) (proj : D → G) {I : D → Prop} (hsem : SemOk c.sem proj I)
    (p : Nat) (fs ids : List Def) (vs : List Int) (d : D) (hI : I d) (hw : Wf (proj d)) (hstk : vs.length ≤ (proj d).cap) (n : Nat) :
    let s := iter c n (initSt p fs ids vs d)
    (proj s.data).glyphPts = (proj d).glyphPts ∧ (proj s.data).twiPts = (proj d).twiPts ∧
    (proj s.data).glyphContours = (proj d).glyphContours ∧ (proj s.data).cap = (proj d).cap ∧
    s.vs.length ≤ (proj d).cap ∧ s.funcs.length = fs.length ∧ s.idefs.length = ids.length ∧
    (proj s.data).loop ≤ 65535 ∧ I s.data := by
  have hinv := initSt_runInv c proj p fs ids vs d hI hw hstk
  have h := iter_inv c proj hsem (proj d) fs.length ids.length n _ hinv
  exact ⟨h.pts, h.twi, h.contours, h.cap, h.stack, h.nf, h.ni, h.wf.1, h.inv⟩

/-- the loop-opcode semantics `semLoops` (Model/InterpLoops.lean) honours the per-dispatch contract -/
theorem semLoops_ok (ped : Bool) : SemOk (semLoops ped) id := by
  intro op bytes vs g vs' g' _ hw hstk h
  unfold semLoops at h
  simp only [] at h
  split at h
  · rename_i r hr
    subst h
    have h1 := loop_opcode_bounded ped op vs vs' g g' hw hr
    have h2 := FontVerif.InterpDataLemmas.semLoopOp_len ped op vs vs' g g' hr
    refine ⟨h1, ?_, trivial⟩
    simp only [id] at *
    rw [h1.2.2.2.2.2]; omega
  · cases hs : semSubset ped op bytes (vs, g.cap) with
    | error e => rw [hs] at h; cases h
    | ok r =>
      rw [hs] at h
      obtain ⟨vs1, cap1⟩ := r
      have h0 := Prod.mk.inj (Except.ok.inj h)
      obtain ⟨e1, e2⟩ := h0
      subst e1; subst e2
      have := InterpDataLemmas.semSubset_len ped op bytes vs vs1 g.cap cap1 hstk hs
      exact ⟨step_refl g vs hw, this.1, trivial⟩

/-- **whole-run work bound for the loop-opcode model**: every program over the control opcodes, the loop-carrying data
    opcodes and the stack / arithmetic subset — started on any well-formed graphics state — performs at most
    `(MAX_RUN_INSTRUCTIONS + 1) × perStep` elementary steps -/
theorem run_total_work_le_loops (font cv glyph : Array Nat) (limit : Nat) (ped : Bool) (axes : Nat)
    (p : Nat) (fs ids : List Def) (vs : List Int) (g : G) (hw : Wf g) (hstk : vs.length ≤ g.cap) (n : Nat) :
    let c : Cfg G := { font := font, cv := cv, glyph := glyph, limit := limit, pedantic := ped, sem := semLoops ped,
                       axisCount := axes }
    runCost c id n (initSt p fs ids vs g) ≤ (MAX_RUN_INSTRUCTIONS + 1) * perStep c (fs.length + ids.length) g :=
  run_total_work_le _ id (semLoops_ok ped) p fs ids vs g trivial hw hstk n

/-- `PUSHB 0; SZPS; PUSHW 300; SLOOP; SHP[1]` on an empty stack in non-pedantic mode, twilight zone of 4 points, rp1 = 0: the loop
    runs its 300 iterations on zeros (only the clamp bounds it) -/
def workCfg : Cfg G :=
  { font := #[], cv := #[0xB0, 0, 0x16, 0xB8, 0x01, 0x2C, 0x17, 0x33], glyph := #[], limit := 300, pedantic := false,
    sem := semLoops false }
def workG : G := { cap := 8, twiPts := 4 }
example : Wf workG := ⟨by decide, by decide⟩
example : (iter workCfg 10 (initSt 1 [] [] [] workG)).status = .done := by decide +kernel
example : runCost workCfg id 10 (initSt 1 [] [] [] workG) = 306 := by decide +kernel
example : perStep workCfg 0 workG = 65566 := by decide +kernel

end FontVerif.C02
