/-
C16 (split size estimates) — the Coverage / ClassDef size estimates of `split_pair_pos_format_2`
(`ClassDefSizeEstimator::{increment_coverage_size, increment_class_def_size}`) against the tables the
builders actually emit for a piece (`CoverageTableBuilder::build`, `ClassDefBuilderImpl::build`:
format 1 vs 2 as the code chooses), composed with `ppf2_piece_estimates_exact`.
Model: Model/LayoutLookup.lean (`Coverage.byteSize`, `ClassDef.byteSize`, `ppf2CovEstimate`,
`ppf2Cd1Estimate`); helper lemmas: Lemmas/LayoutRanges.lean.
-/
import FontVerif.Props.C16Ppf2Dev
import FontVerif.Lemmas.LayoutRanges
namespace FontVerif.C16
open FontVerif.Layout

/-- For EVERY glyph list the coverage table the builder emits (format
2 exactly when it is smaller) takes at most 4 + 2·(distinct glyphs) bytes. -/
theorem coverage_emitted_size_le (gs : List Nat) :
    (buildCoverage gs).byteSize ≤ 4 + 2 * (sortDedup gs).length := by
  unfold buildCoverage buildCoverageSorted shouldChooseFormat2
  split
  · rename_i h
    simp only [decide_eq_true_eq] at h
    simp only [Coverage.byteSize]
    omega
  · simp [Coverage.byteSize]

/-- For EVERY glyph → class list the class definition the builder
emits (format 1 exactly when it is smaller) takes at most 4 + 6·(class ranges) bytes. -/
theorem classdef_emitted_size_le (ps : List (Nat × Nat)) :
    (buildClassDef ps).byteSize ≤ 4 + 6 * (iterClassRanges (collectItems ps)).length :=
  buildClassDefItems_byteSize_le _

/-- For EVERY coverage table, class definition 1 and class range
`s..t`: the coverage table `split_off_ppf2` builds for the piece is never larger than the loop's
running `coverage_size` for that piece (4 + 2 bytes per glyph of every class in the range). -/
theorem ppf2_coverage_estimate_sound (cov : Coverage) (cd : ClassDef) (s t : Nat) :
    (buildCoverage (pieceGlyphs cov cd s t)).byteSize ≤ ppf2CovEstimate ⟨gcOf cov cd⟩ s t := by
  refine Nat.le_trans (coverage_emitted_size_le _) ?_
  unfold ppf2CovEstimate
  have hinc : (fun c => (⟨gcOf cov cd⟩ : Ppf2Est).incCov c) =
      fun c => 2 * ((⟨gcOf cov cd⟩ : Ppf2Est).glyphsOf c).length := rfl
  rw [show (List.range' s (t - s)).map (⟨gcOf cov cd⟩ : Ppf2Est).incCov =
      (List.range' s (t - s)).map (fun c => 2 * ((⟨gcOf cov cd⟩ : Ppf2Est).glyphsOf c).length) from rfl,
    sum_two_len]
  have hnd : (sortDedup (pieceGlyphs cov cd s t)).Nodup :=
    List.nodup_iff_pairwise_ne.mpr ((sortDedup_pairwise _).imp (fun h => Nat.ne_of_lt h))
  have := hnd.length_le_of_subset (l₂ := (List.range' s (t - s)).flatMap (⟨gcOf cov cd⟩ : Ppf2Est).glyphsOf)
    (by
      intro x hx
      obtain ⟨hg, h1, h2⟩ := (mem_pieceGlyphs cov cd s t x).mp (mem_sortDedup.mp hx)
      refine List.mem_flatMap.mpr ⟨cd.get x, by rw [List.mem_range'_1]; omega, ?_⟩
      rw [Ppf2Est.glyphsOf, mem_sortDedup]
      exact List.mem_map.mpr ⟨(x, cd.get x),
        List.mem_filter.mpr ⟨List.mem_map.mpr ⟨x, hg, rfl⟩, beq_self_eq_true _⟩, rfl⟩)
  omega

/-- For EVERY coverage table, class definition 1 and class range
`s..t`: the class definition 1 `split_off_ppf2` builds for the piece (classes shifted down, the first
class of the range dropped as the new class 0, format 1 or 2 as the builder chooses) is never larger
than the loop's running `class_def_1_size` (4 + 6 bytes per run of consecutive glyphs of every class
in the range, original class 0 skipped): a class definition has at most as many ranges as its classes
have runs (`iterClassRanges_le`). -/
theorem ppf2_classdef_estimate_sound (cov : Coverage) (cd : ClassDef) (s t : Nat) :
    (buildClassDef (pieceClassMap cov cd s t)).byteSize ≤ ppf2Cd1Estimate ⟨gcOf cov cd⟩ s t :=
  Nat.le_trans (classdef_emitted_size_le _) (ppf2_cd1_ranges_le cov cd s t)

/-- the piece `split_off_ppf2` builds: exactly these coverage and class-definition tables -/
theorem splitOffPpf2_tables {V : Type} (tbl : PairPos2 V) (s t : Nat) (p : PairPos2 V)
    (h : splitOffPpf2 tbl s t = some p) :
    p.cov = buildCoverage (pieceGlyphs tbl.cov tbl.classDef1 s t) ∧
    p.classDef1 = buildClassDef (pieceClassMap tbl.cov tbl.classDef1 s t) ∧ p.classDef2 = tbl.classDef2 := by
  rw [splitOffPpf2] at h
  by_cases hts : t < s
  · rw [if_pos hts] at h; cases h
  · rw [if_neg hts, Option.some.injEq] at h
    subst h
    exact ⟨rfl, rfl, rfl⟩

/-- The size estimates composed: an accepted piece is as small as estimated.  Take a piece `(s, t)` of the repaired
loop (`ppf2DPieces true`) on ANY coverage / class definitions / record size / device-offset pattern.
If the loop's acceptance test holds for the piece — estimated records + device tables + coverage +
class definitions − the largest of the three tables ≤ 65535 — then the same bound holds for the TRUE
sizes of what `split_off_ppf2` builds: the subtable, its device tables (each distinct object once) and
all but the largest of its coverage / class-definition tables sum to at most 65535 bytes (an inequality
on sizes; packing and offsets are not modelled).  (Records / device part exact:
`ppf2_piece_estimates_exact`; coverage: `ppf2_coverage_estimate_sound`; class definition 1:
`ppf2_classdef_estimate_sound`; class definition 2 is reused unchanged.) -/
theorem ppf2_accepted_piece_fits (cov : Coverage) (cd cd2 : ClassDef) (recSize : Nat)
    (rows : List (List (Nat × Nat))) (ps : List (Nat × Nat × Nat))
    (h : ppf2DPieces true (gcOf cov cd) recSize cd2.byteSize rows = some ps)
    (p : Nat × Nat × Nat) (hp : p ∈ ps)
    (haccept : p.2.2 + ppf2CovEstimate ⟨gcOf cov cd⟩ p.1 p.2.1 + ppf2Cd1Estimate ⟨gcOf cov cd⟩ p.1 p.2.1 +
      cd2.byteSize - max (max (ppf2CovEstimate ⟨gcOf cov cd⟩ p.1 p.2.1)
        (ppf2Cd1Estimate ⟨gcOf cov cd⟩ p.1 p.2.1)) cd2.byteSize ≤ 65535) :
    ppf2PieceSize recSize rows p.1 p.2.1 + (buildCoverage (pieceGlyphs cov cd p.1 p.2.1)).byteSize +
      (buildClassDef (pieceClassMap cov cd p.1 p.2.1)).byteSize + cd2.byteSize -
      max (max (buildCoverage (pieceGlyphs cov cd p.1 p.2.1)).byteSize
        (buildClassDef (pieceClassMap cov cd p.1 p.2.1)).byteSize) cd2.byteSize ≤ 65535 := by
  have h1 := (ppf2_piece_estimates_exact _ recSize _ rows ps h p hp).2
  have h2 := ppf2_coverage_estimate_sound cov cd p.1 p.2.1
  have h3 := ppf2_classdef_estimate_sound cov cd p.1 p.2.1
  rw [← h1]
  exact Nat.le_trans (sum_sub_max_mono _ _ _ _ _ _ h2 h3) haccept

example : (buildCoverage [1, 2, 3, 4, 5, 6, 7, 9]).byteSize = 16 ∧ (buildCoverage [5, 3, 9]).byteSize = 10 := by
  decide
example : (buildClassDef [(3, 4), (4, 6), (5, 1), (9, 5), (10, 2), (11, 3)]).byteSize = 24 ∧
    (iterClassRanges (collectItems [(3, 4), (4, 6), (5, 1), (9, 5), (10, 2), (11, 3)])).length = 6 := by decide
/-- glyphs 1..4 with classes 0, 1, 1, 2: the piece of classes 1..3 covers 2, 3, 4 (format 1: 10 bytes),
the loop's estimate is 4 + 2·2 + 2·1 = 10 -/
example : (buildCoverage (pieceGlyphs (.fmt1 [1, 2, 3, 4]) (.fmt2 [⟨2, 3, 1⟩, ⟨4, 4, 2⟩]) 1 3)).byteSize = 10 ∧
    ppf2CovEstimate ⟨gcOf (.fmt1 [1, 2, 3, 4]) (.fmt2 [⟨2, 3, 1⟩, ⟨4, 4, 2⟩])⟩ 1 3 = 10 := by decide +kernel

end FontVerif.C16
