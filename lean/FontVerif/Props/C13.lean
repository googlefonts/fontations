/-
C13 — Colour glyph painting terminates with balanced, correctly nested callbacks.
Property theorems and two private steps (helper lemmas live in Lemmas/Paint.lean, PaintDepth.lean, PaintChain.lean).
Model: Model/Paint.lean ⇄ skrifa/src/color/{traversal,mod}.rs, skrifa/src/decycler.rs.
-/
import FontVerif.Model.Paint
import FontVerif.Lemmas.Paint
import FontVerif.Lemmas.PaintDepth
import FontVerif.Lemmas.PaintChain
namespace FontVerif.C13
open FontVerif.Paint

/-! ### termination

`paintV1` / `paintV0` / `trav` are total Lean functions (structural recursion on
`MAX_TRAVERSAL_DEPTH - recurse_depth` and on the layer range), so every painting terminates in the
model; the explicit bound on the number of visited paint nodes is `visit_bound` below. -/

/-- `traverse_with_callbacks` at `recurse_depth = MAX_TRAVERSAL_DEPTH` answers
`DepthLimitExceeded` without touching the painter: this is what makes the recursion well founded. -/
theorem traverse_terminates (inst : Instance) (c : Client) (n : Node) (dec : List PaintId) (st : St) :
    trav inst c 0 n dec st = (some .depth, st) := rfl

/-! ### balanced callbacks -/

/-- **Whenever painting a COLRv1 glyph reports success, the callback stream received by the client
is well nested**: every pushed transform / clip / layer is popped exactly once, in LIFO order, by
the pop of the matching kind (and the matching composite mode), nothing is popped that was not
pushed and nothing is left open.  For every paint graph (cyclic, dangling, any formats), every glyph,
every client (`fill_glyph` overridden or defaulted, any `paint_cached_color_glyph` policy) — including
the two-pass `PaintGlyph` fill optimisation at any nesting. -/
theorem ok_implies_balanced (inst : Instance) (c : Client) (gid : Gid) (st : St)
    (h : paintV1 inst c gid = some (none, st)) : WellNested st.evs :=
  (paintV1_inv h).wellNested rfl

/-- COLRv0 glyphs: the stream is well nested on success (it consists of `fill_glyph` calls, or of
their default expansion `push_clip_glyph · fill · pop_clip`). -/
theorem v0_ok_implies_balanced (c : Client) (layers : Nat → Option (Gid × Nat)) (first num : Nat) (st : St)
    (h : paintV0 c layers first num = (none, st)) : WellNested st.evs := by
  have hi := travV0_inv c layers (List.range' first num) St.init
  rw [← paintV0, h] at hi
  exact hi.wellNested rfl

/-! ### cyclic and too-deep graphs are errors -/

private theorem enter_nil (pid : PaintId) : enter [] pid = .ok [pid] := rfl

/-- a glyph with a v1 base record always gets a verdict -/
private theorem paintV1_verdict {inst : Instance} {c : Client} {gid : Gid} {pid : PaintId}
    (hb : inst.base gid = .found pid) : ∃ r, paintV1 inst c gid = some r := by
  cases hres : inst.resolve pid with
  | none => exact ⟨_, paintV1_unresolved hb hres⟩
  | some n => exact ⟨_, paintV1_found hb hres⟩

/-- **Success means the graph below the glyph is shallow**: if painting succeeds (client does not
short-cut `PaintColrGlyph`), every descending path from the root paint has fewer than
`MAX_TRAVERSAL_DEPTH = 64` edges.  Cyclic and too-deep graphs are the two corollaries below. -/
theorem ok_implies_depth_bounded (inst : Instance) (c : Client) (hc : ∀ g, c.cached g = .unimplemented)
    (gid : Gid) (st : St) (h : paintV1 inst c gid = some (none, st))
    (pid : PaintId) (n : Node) (hb : inst.base gid = .found pid) (hres : inst.resolve pid = some n)
    (k : Nat) (hp : Path inst n k) : k < MAX_TRAVERSAL_DEPTH := by
  rw [paintV1_found hb hres] at h
  refine trav_ok_paths inst c hc _ n [pid] (pushClip c (inst.clip gid) St.init) ?_ k hp
  generalize trav inst c MAX_TRAVERSAL_DEPTH n [pid] (pushClip c (inst.clip gid) St.init) = t at h
  obtain ⟨_ | e, st'⟩ := t <;> cases h
  rfl

/-- **A too-deep graph is reported as an error**: for a client that does not short-cut `PaintColrGlyph`
(`hc`), a descending path of 64 edges below the root paint (65 nested paints) makes `paint` return `Err`,
whatever else the graph contains. -/
theorem too_deep_is_error (inst : Instance) (c : Client) (hc : ∀ g, c.cached g = .unimplemented)
    (gid : Gid) (pid : PaintId) (n : Node) (hb : inst.base gid = .found pid)
    (hres : inst.resolve pid = some n) (hp : Path inst n MAX_TRAVERSAL_DEPTH) :
    ∃ e st, paintV1 inst c gid = some (some e, st) := by
  obtain ⟨⟨r1, st⟩, hr⟩ := paintV1_verdict (c := c) hb
  cases r1 with
  | some e => exact ⟨e, st, hr⟩
  | none =>
    have := ok_implies_depth_bounded inst c hc gid st hr pid n hb hres _ hp
    exact absurd this (Nat.lt_irrefl _)

/-- **A cyclic graph is reported as an error** (never recursed into forever): for a client that does
not short-cut `PaintColrGlyph` (`hc`), if some paint `a`
reachable from the root paint lies on a cycle, `paint` returns `Err` — through `ColrLayers`,
`ColrGlyph` or any mixture, with any tail, whether the tortoise–hare decycler or the depth limit
fires first. -/
theorem cycle_is_error (inst : Instance) (c : Client) (hc : ∀ g, c.cached g = .unimplemented)
    (gid : Gid) (pid : PaintId) (n a : Node) (t k : Nat) (hb : inst.base gid = .found pid)
    (hres : inst.resolve pid = some n) (hreach : Walk inst n a t) (hcyc : Walk inst a a (k + 1)) :
    ∃ e st, paintV1 inst c gid = some (some e, st) := by
  obtain ⟨⟨r1, st⟩, hr⟩ := paintV1_verdict (c := c) hb
  cases r1 with
  | some e => exact ⟨e, st, hr⟩
  | none =>
    have hw := hreach.trans (hcyc.pump MAX_TRAVERSAL_DEPTH)
    have := ok_implies_depth_bounded inst c hc gid st hr pid n hb hres _ hw.toPath
    have h2 : MAX_TRAVERSAL_DEPTH ≤ MAX_TRAVERSAL_DEPTH * (k + 1) := Nat.le_mul_of_pos_right _ (by omega)
    omega

/-- the decycler never cries wolf: `CycleDetected` is only answered for an id that is on the
current path (ids identify paints, so that is a genuine cycle) -/
theorem decycler_cycle_sound (path : List PaintId) (id : PaintId)
    (h : enter path id = .error .cycle) : id ∈ path :=
  enter_cycle_mem h

/-- entering appends to the path and is refused once 64 ids are on it -/
theorem decycler_enter_ok (path path' : List PaintId) (id : PaintId) (h : enter path id = .ok path') :
    path' = path ++ [id] ∧ path.length < MAX_TRAVERSAL_DEPTH :=
  enter_ok h

/-! ### bounded number of visited paint nodes -/

/-- **Visit bound**: painting visits at most `1 + k + … + k^63` paint nodes, where `k ≥ 2` bounds the
length of every `PaintColrLayers` (255 for any font: `num_layers` is a `u8`).  The bound is
exponential in the depth limit and cannot be improved to anything polynomial in the table size:
see `glyph_chain_visits`. -/
theorem visit_bound (inst : Instance) (c : Client) (k : Nat) (hk : 2 ≤ k) (hl : LayersBounded inst k)
    (gid : Gid) (r : Option PErr) (st : St) (h : paintV1 inst c gid = some (r, st)) :
    st.visits ≤ geom k MAX_TRAVERSAL_DEPTH := by
  obtain ⟨pid, hb⟩ := paintV1_some h
  have h0 : (pushClip c (inst.clip gid) St.init).visits = 0 := pushClip_visits ..
  cases hres : inst.resolve pid with
  | none => rw [paintV1_unresolved hb hres] at h; cases h; rw [h0]; exact Nat.zero_le _
  | some n =>
    rw [paintV1_found hb hres] at h
    have hv := trav_visits inst c k hk hl MAX_TRAVERSAL_DEPTH n [pid] (pushClip c (inst.clip gid) St.init)
      fun first num hn => hl pid first num (hn ▸ hres)
    rw [h0, Nat.zero_add] at hv
    generalize trav inst c MAX_TRAVERSAL_DEPTH n [pid] (pushClip c (inst.clip gid) St.init) = t at h hv
    obtain ⟨_ | e, st'⟩ := t <;> cases h
    · rw [popClipIf_visits]; exact hv
    · exact hv

/-- **Known finding (DESIGN §6-7), exact**: a tree-shaped chain of `d` nested `PaintGlyph` tables over
one `PaintSolid` (`1 ≤ d ≤ 63`, about `6·d` bytes, no sharing, no cycle) paints successfully but
visits `3·2^(d-1) − 1` paint nodes, for every client: each nested `PaintGlyph` makes the enclosing
`CollectFillGlyphPainter` fail, so every level traverses its subtree twice.  Only the depth limit
bounds it (`d = 63`: ≈ 1.4·10^19 visits). -/
theorem glyph_chain_visits (c : Client) (d : Nat) (h1 : 1 ≤ d) (h2 : d < MAX_TRAVERSAL_DEPTH) :
    ∃ st, paintV1 (glyphChain d) c 0 = some (none, st) ∧ st.visits = chainVisits d ∧
      st.visits + 1 = 3 * 2 ^ (d - 1) := by
  obtain ⟨j, rfl⟩ : ∃ j, d = j + 1 := ⟨d - 1, by omega⟩
  obtain ⟨ha, hv, _⟩ := chain_step (j + 1) c j 0 (by omega) MAX_TRAVERSAL_DEPTH
    (by simp only [MAX_TRAVERSAL_DEPTH] at h2 ⊢; omega) [0] St.init
  rw [paintV1_no_clip (pid := 0) rfl rfl (chain_resolve_inner _ _ (by omega))]
  refine ⟨_, by rw [← ha], by rw [hv]; exact Nat.zero_add _, ?_⟩
  rw [hv]; simp only [St.init, Nat.zero_add, Nat.add_sub_cancel]; exact chainVisits_closed j

/-! ### non-vacuity: concrete graphs -/

/-- result class and recorded stream -/
private def outcome (r : Option Res) : Option (Option PErr × List Event) := r.map (fun x => (x.1, x.2.evs))

private def unimpl : Client := Client.ofModes 1 0
private def defaultFg : Client := Client.ofModes 0 0

/-- a `PaintColrLayers` whose only layer is itself: reported as `PaintCycleDetected`, no callback -/
example : outcome (paintV1 (Instance.ofTables [(10, .colrLayers 0 1)] [(0, some 10)] [(1, some 10)] []) unimpl 1)
    = some (some .cycle, []) := by decide

/-- two colour glyphs referring to each other: the tortoise–hare check only fires on the fourth
entry (path `[10, 20, 10]`, compares with index 1) -/
example : outcome (paintV1 (Instance.ofTables [(10, .colrGlyph 2), (20, .colrGlyph 1)] []
    [(1, some 10), (2, some 20)] []) unimpl 1) = some (some .cycle, [.cached 2, .cached 1]) := by decide

/-- the hypotheses of `cycle_is_error` are satisfiable: that graph has a walk root → root of length 2 -/
example : Walk (Instance.ofTables [(10, .colrGlyph 2), (20, .colrGlyph 1)] [] [(1, some 10), (2, some 20)] [])
    (.colrGlyph 2) (.colrGlyph 2) (1 + 1) :=
  .step (.colrGlyph (pid := 20) rfl rfl) (.step (.colrGlyph (pid := 10) rfl rfl) (.here _))

/-- transform chain: paint `i < len` is a transform of paint `i+1`, paint `len` is a solid -/
private def transformChain (len : Nat) : Instance where
  resolve := fun i => if i < len then some (.transform i (i + 1)) else if i = len then some (.leaf (some [])) else none
  layer := fun _ => none
  base := fun g => if g = 1 then .found 0 else .notFound
  clip := fun _ => none

/-- 64 nested paints (63 edges) still paint … -/
example : (paintV1 (transformChain 63) unimpl 1).map (fun r => (r.1, r.2.evs.length, r.2.visits))
    = some (none, 127, 64) := by decide +kernel
/-- … 65 nested paints (64 edges) are `DepthLimitExceeded`: the limit in `too_deep_is_error` is tight -/
example : (paintV1 (transformChain 64) unimpl 1).map (fun r => (r.1, r.2.visits))
    = some (some .depth, 64) := by decide +kernel

/-- a layered glyph with a clip box: both layers are optimised into `fill_glyph` (the second with a
brush transform), inside the clip box push/pop -/
example : outcome (paintV1 (Instance.ofTables
      [(10, .colrLayers 0 2), (20, .glyph 5 21), (21, .leaf (some [])), (30, .glyph 6 31), (31, .transform 31 32),
       (32, .leaf (some []))]
      [(0, some 20), (1, some 30)] [(1, some 10)] [(1, [0, 0, 9, 9])]) unimpl 1)
    = some (none, [.pushClipBox [0, 0, 9, 9], .fillGlyph 5 none [], .fillGlyph 6 (some [31]) [], .popClip]) := by decide

/-- the same glyph for a client relying on the default `fill_glyph` -/
example : outcome (paintV1 (Instance.ofTables
      [(10, .colrLayers 0 2), (20, .glyph 5 21), (21, .leaf (some [])), (30, .glyph 6 31), (31, .transform 31 32),
       (32, .leaf (some []))]
      [(0, some 20), (1, some 30)] [(1, some 10)] [(1, [0, 0, 9, 9])]) defaultFg 1)
    = some (none, [.pushClipBox [0, 0, 9, 9], .pushClipGlyph 5, .fill [], .popClip,
                   .pushClipGlyph 6, .pushT [31], .fill [], .popT, .popClip, .popClip]) := by decide

/-- failed optimisation after a first successful `fill`: `PaintGlyph(ColrLayers[solid, composite])`.
The first (collecting) pass already sent `fill_glyph` to the client before giving up, then the
un-optimised pass paints the solid again — balanced, but the first layer is painted twice. -/
example : outcome (paintV1 (Instance.ofTables
      [(10, .glyph 5 11), (11, .colrLayers 0 2), (20, .leaf (some [])), (30, .composite 31 12 32),
       (31, .leaf (some [])), (32, .leaf (some []))]
      [(0, some 20), (1, some 30)] [(1, some 10)] []) unimpl 1)
    = some (none, [.fillGlyph 5 none [], .pushClipGlyph 5, .fill [], .pushLayer 3, .fill [], .pushLayer 12, .fill [],
                   .popLayer 12, .popLayer 3, .popClip]) := by decide

/-- glyph chain of depth 5: 47 = 3·2^4 − 1 visits for 6 paint tables -/
example : (paintV1 (glyphChain 5) unimpl 0).map (fun r => (r.1, r.2.visits)) = some (none, 47) := by decide

/-- `paint_cached_color_glyph = Ok`: the sub-glyph is not traversed, the stream stays balanced -/
example : outcome (paintV1 (Instance.ofTables [(10, .transform 10 11), (11, .colrGlyph 2), (20, .leaf (some []))] []
    [(1, some 10), (2, some 20)] [(2, [0, 0, 1, 1])]) (Client.ofModes 1 1) 1)
    = some (none, [.pushT [10], .cached 2, .popT]) := by decide

end FontVerif.C13
