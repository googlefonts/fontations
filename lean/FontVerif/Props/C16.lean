/-
C16 — layout builders and overflow splitting preserve glyph-level lookup semantics.
Helper lemmas: Lemmas/Layout.lean (binary search, `sortDedup`), LayoutCov.lean, LayoutClassDef.lean,
LayoutPair.lean (coverage tables, `split_coverage`, the split loop `splitLoop_preserves`, PairPos format 1),
LayoutSplit.lean (PairPos format 2, MarkBasePos), LayoutDev.lean, LayoutBuilder.lean, LayoutPieceSize.lean (split
points of the size loops).  Model: Model/Layout.lean ⇄
  write-fonts/src/tables/layout/builders.rs (CoverageTableBuilder, ClassDefBuilderImpl, iter_class_ranges),
  write-fonts/src/tables/layout.rs (RangeRecord::iter_for_glyphs),
  read-fonts/src/tables/layout.rs (CoverageFormat1/2::get, ClassDefFormat1/2::get, with the
    transcribed `core::slice::binary_search_by` loop),
  write-fonts/src/graph/splitting.rs (split_coverage, split_range_record),
  write-fonts/src/graph/splitting/pairpos.rs (split_pair_pos_format_1, split_pair_pos_format_2: size
    heuristic + split loop, split_off_ppf1, split_off_ppf2),
  write-fonts/src/graph/splitting/mark2base.rs (split_mark_to_base_subtable, split_off_mark_pos).
Glyph ids are `Nat`s; every theorem about real tables assumes them `< 65536` (they are `u16`).
-/
import FontVerif.Lemmas.LayoutBuilder
import FontVerif.Lemmas.LayoutDev
import FontVerif.Lemmas.LayoutPieceSize
namespace FontVerif.C16
open FontVerif.Layout

/-- `sort_unstable(); dedup()` as modelled: the strictly increasing list with the same members
(this pins down `sortDedup`, which the statements below use as "the sorted set"). -/
theorem sortDedup_spec (gs : List Nat) :
    (sortDedup gs).Pairwise (· < ·) ∧ ∀ g, g ∈ sortDedup gs ↔ g ∈ gs :=
  ⟨sortDedup_pairwise gs, fun _ => mem_sortDedup⟩

/-- The table `CoverageTableBuilder::from_glyphs(gs).build()` — whichever of
the two binary formats the size rule picks — answers, for EVERY glyph id `g` (also ids above
`0xFFFF`), exactly the position of `g` in the sorted duplicate-free glyph set, and `None` for
glyphs outside the set. -/
theorem coverage_get (gs : List Nat) (hb : ∀ g ∈ gs, g < 65536) (g : Nat) :
    (buildCoverage gs).get g = indexIn g (sortDedup gs) :=
  buildCoverage_get gs hb g

/-- membership form: a glyph is covered iff it was given -/
theorem coverage_member (gs : List Nat) (hb : ∀ g ∈ gs, g < 65536) (g : Nat) :
    ((buildCoverage gs).get g).isSome ↔ g ∈ gs :=
  Option.isSome_iff_exists.trans (buildCoverage_covers gs hb g)

/-- the coverage iterator (`CoverageTable::iter`) yields the sorted set in index order -/
theorem coverage_iter (gs : List Nat) (hb : ∀ g ∈ gs, g < 65536) :
    (buildCoverage gs).glyphs = sortDedup gs :=
  (buildCoverage_wf gs hb).2

/-- For any sorted glyph set the format 1 serialisation and the
format 2 serialisation (`RangeRecord::iter_for_glyphs`) answer every query identically, so the
builder's size-based choice cannot change an answer. -/
theorem coverage_format_irrelevant (xs : List Nat) (hs : xs.Pairwise (· < ·))
    (hb : ∀ x ∈ xs, x < 65536) (g : Nat) :
    (Coverage.fmt1 xs).get g = (Coverage.fmt2 (iterForGlyphs xs)).get g := by
  have ⟨w, e, en⟩ := iterForGlyphs_spec hs
  rw [get_fmt1 hs hb, get_fmt2 w (fun r hr => hb _ (en r hr)), e]

/-- The `ClassDef` collected from ANY list of `(glyph, class)` pairs
(`FromIterator`: class-0 pairs dropped, last pair for a glyph wins) — in whichever format
`prefer_format_1` picks — answers for every glyph the class given, and 0 for every other glyph. -/
theorem classdef_get (ps : List (Nat × Nat)) (g : Nat) :
    (buildClassDef ps).get g = assignedClass ps g :=
  buildClassDef_get ps g

/-- a glyph that appears in no pair has class 0 -/
theorem classdef_unassigned (ps : List (Nat × Nat)) (g : Nat) (h : ∀ p ∈ ps, p.1 ≠ g) :
    (buildClassDef ps).get g = 0 :=
  (classdef_get ps g).trans (assignedClass_none h)

/-- with one pair per glyph the answer is that pair's class -/
theorem classdef_get_unique (ps : List (Nat × Nat)) (hu : ps.Pairwise (fun a b => a.1 ≠ b.1))
    (p : Nat × Nat) (hp : p ∈ ps) : (buildClassDef ps).get p.1 = p.2 := by
  have hnd : (ps.map (·.1)).Nodup := List.pairwise_map.mpr hu
  rw [classdef_get]
  exact assignedClass_const (fun q hq hq1 => by rw [eq_of_nodup_map (·.1) ps hnd q hq p hp hq1])
    ⟨p, hp, rfl⟩

/-- For any glyph→class map the format 1 array and the format 2
range records (`iter_class_ranges`) answer every query identically. -/
theorem classdef_format_irrelevant (items : List (Nat × Nat)) (hs : SortedItems items)
    (hne : items ≠ []) (g : Nat) :
    (classDefFmt1 items).get g = (classDefFmt2 items).get g := by
  rw [classDefFmt1_get hs hne, classDefFmt2_get hs]

/-- `ClassDefBuilderImpl::build` is one of the two serialisations -/
theorem classdef_build_is_fmt1_or_fmt2 (items : List (Nat × Nat)) :
    buildClassDefItems items = classDefFmt1 items ∨ buildClassDefItems items = classDefFmt2 items := by
  rw [buildClassDefItems_eq]
  by_cases h : preferFormat1 items = true <;> simp [h]

/-! ## `ClassDefBuilder` (glyph sets → class ids) -/

/-- `ClassDefBuilder::build_with_mapping` on pairwise disjoint classes
(the invariant `checked_add` maintains, see `classdef_builder_add_keeps_disjoint`): every glyph of
a class reads back as the id the mapping gives that class, every other glyph as class 0, every
class has an id, and the ids are `0..n` (with `new_using_class_0`) resp. `1..=n` (which class gets
which id is not stated) — these ids index the PairPos format 2 matrix. -/
theorem classdef_builder_get (b : ClassDefBuilder) (hdis : b.classes.Pairwise ClassesDisjoint) :
    (∀ p ∈ b.buildWithMapping.2, ∀ g ∈ p.1, b.buildWithMapping.1.get g = p.2) ∧
    (∀ g, (∀ c ∈ b.classes, g ∉ c) → b.buildWithMapping.1.get g = 0) ∧
    (b.buildWithMapping.2.map (·.1)).Perm b.classes ∧
    b.buildWithMapping.2.map (·.2) =
      List.range' (if b.useClass0 then 0 else 1) b.classes.length := by
  have hperm := sortClasses_perm b.classes
  simp only [ClassDefBuilder.buildWithMapping, zipWith_range_eq_zipIdx]
  generalize sortClasses b.classes = sorted at hperm
  generalize (if b.useClass0 then 0 else 1) = addOne
  have hfst : (sorted.zipIdx addOne).map (·.1) = sorted := List.zipIdx_map_fst addOne sorted
  have hsym : ∀ x y : List Nat, ClassesDisjoint x y → ClassesDisjoint y x := fun _ _ h g hg hx => h g hx hg
  have hdm : (sorted.zipIdx addOne).Pairwise (fun p q => ClassesDisjoint p.1 q.1) :=
    List.pairwise_map.mp (hfst.symm ▸ (hperm.pairwise_iff (hsym _ _)).mpr hdis)
  -- two entries of the mapping that share a glyph are one entry
  have huniq : ∀ {p q}, p ∈ sorted.zipIdx addOne → q ∈ sorted.zipIdx addOne → ∀ g, g ∈ p.1 → g ∈ q.1 → p = q :=
    fun hp hq g h1 h2 => Classical.byContradiction fun hne =>
      pairwise_of_mem_ne (fun p q => hsym p.1 q.1) hdm hp hq hne g h1 h2
  refine ⟨fun p hp g hg => ?_, fun g hno => ?_, hfst.symm ▸ hperm, ?_⟩
  · rw [buildClassDef_get]
    refine assignedClass_const (fun q hq hqg => ?_) ⟨(g, p.2), mem_classPairs.mpr ⟨p.1, hp, hg⟩, rfl⟩
    obtain ⟨c, hc, hgc⟩ := mem_classPairs.mp hq
    exact congrArg (·.2) (huniq hc hp g (hqg ▸ hgc) hg)
  · rw [buildClassDef_get]
    refine assignedClass_none fun q hq hqg => ?_
    obtain ⟨c, hc, hgc⟩ := mem_classPairs.mp hq
    exact hno c (hperm.mem_iff.mp (hfst ▸ List.mem_map_of_mem (f := (·.1)) hc)) (hqg ▸ hgc)
  · rw [List.zipIdx_map_snd, hperm.length_eq]

/-- `checked_add` (accepting or rejecting) keeps the accepted classes pairwise disjoint -/
theorem classdef_builder_add_keeps_disjoint (b : ClassDefBuilder) (cls : List Nat)
    (hdis : b.classes.Pairwise ClassesDisjoint) :
    (b.checkedAdd cls).1.classes.Pairwise ClassesDisjoint := by
  rw [checkedAdd_classes]
  split
  · next h =>
    obtain ⟨hc, hin⟩ := h
    rw [List.pairwise_append]
    refine ⟨hdis, List.pairwise_singleton _ _, ?_⟩
    intro a ha c hcm
    simp at hcm; subst hcm
    intro g hga hgc
    unfold ClassDefBuilder.canAdd at hc
    simp only [hin, Bool.false_or, List.all_eq_true] at hc
    have := hc g hgc
    simp only [ClassDefBuilder.allGlyphsContains, Bool.not_eq_eq_eq_not, Bool.not_true,
      List.any_eq_false] at this
    have := this a ha
    simp [hga] at this
  · exact hdis

/-- For a well-formed coverage table in EITHER format and any
`start ≤ end ≤ glyph count`, `split_coverage(cov, start, end)` does not panic and the new table
covers exactly the glyphs whose coverage index lies in `[start, end)`, re-indexed from 0:
`get' g = (get g).filter (start ≤ · < end) − start` for every glyph `g`.
(The empty range `start = end` relies on /repo fix 5c740c8; before it format 2 panicked.) -/
theorem split_coverage_spec (c : Coverage) (h : c.WF) (s e : Nat) (hse : s ≤ e)
    (he : e ≤ c.glyphs.length) :
    ∃ c', splitCoverage c s e = some c' ∧ c'.WF ∧
      ∀ g, c'.get g = ((c.get g).filter (fun i => decide (s ≤ i ∧ i < e))).map (· - s) :=
  splitCoverage_spec h hse he

/-- the same for the tables the builder makes -/
theorem split_coverage_of_built (gs : List Nat) (hb : ∀ g ∈ gs, g < 65536) (s e : Nat)
    (hse : s ≤ e) (he : e ≤ (sortDedup gs).length) :
    ∃ c', splitCoverage (buildCoverage gs) s e = some c' ∧
      ∀ g, c'.get g =
        ((indexIn g (sortDedup gs)).filter (fun i => decide (s ≤ i ∧ i < e))).map (· - s) := by
  have w := buildCoverage_wf gs hb
  have he' : e ≤ (buildCoverage gs).glyphs.length := by rw [coverage_iter gs hb]; exact he
  obtain ⟨c', a, _, d⟩ := splitCoverage_spec (c := buildCoverage gs) w.1 hse he'
  refine ⟨c', a, fun g => ?_⟩
  rw [d g, coverage_get gs hb g]

/-- Take ANY PairPos format 1 subtable with a well-formed coverage
table (either format) and one pair set per covered glyph, and ANY non-decreasing list of split
points `0 ≤ p₁ ≤ … ≤ pₖ = pair-set count` (the size heuristic is a parameter; a point 0 or a
repeated point yields an empty subtable).  Then the split loop
of `split_pair_pos_format_1` does not panic, produces `k` subtables, and for EVERY glyph pair the
first-match lookup over the new subtables returns exactly what the unsplit subtable returned — in
particular nothing for pairs that had no rule. -/
theorem ppf1_split_preserves {V : Type} (t : PairPos1 V) (hwf : t.cov.WF)
    (hlen : t.pairSets.length = t.cov.glyphs.length) (pts : List Nat)
    (hinc : pts.Pairwise (· ≤ ·)) (hlast : pts.getLast? = some t.pairSets.length) :
    ∃ ts, splitPpf1Go t 0 pts = some ts ∧ ts.length = pts.length ∧
      ∀ g1 g2, firstMatch ts g1 g2 = t.lookup g1 g2 := by
  obtain ⟨ts, a, b, c⟩ := splitLoop_preserves (Q := Nat × Nat) (splitOffPpf1 t)
    (fun q a => a.lookup q.1 q.2) (fun q => t.key q.1) (fun q => t.lookup q.1 q.2) _
    (fun lo hi h1 h2 => by
      obtain ⟨a, ha, hl⟩ := splitOffPpf1_lookup t hwf h1 (hlen ▸ h2)
      exact ⟨a, ha, fun q => hl q.1 q.2⟩)
    (fun q hq => t.lookup_none_of_le hwf q.2 (hlen ▸ hq)) pts hinc hlast
  exact ⟨ts, by rw [splitPpf1Go_eq, a], b, fun g1 g2 => c (g1, g2)⟩

/-- pairs without a rule stay without a value after splitting -/
theorem ppf1_no_rule_no_value {V : Type} (t : PairPos1 V) (hwf : t.cov.WF)
    (hlen : t.pairSets.length = t.cov.glyphs.length) (pts : List Nat)
    (hinc : pts.Pairwise (· ≤ ·)) (hlast : pts.getLast? = some t.pairSets.length)
    (ts : List (PairPos1 V)) (hts : splitPpf1Go t 0 pts = some ts) (g1 g2 : Nat)
    (hno : t.lookup g1 g2 = none) : firstMatch ts g1 g2 = none := by
  obtain ⟨ts', a, _, c⟩ := ppf1_split_preserves t hwf hlen pts hinc hlast
  rw [hts] at a; cases a
  rw [c, hno]

/-- Whatever sizes the graph reports, the split points the heuristic of
`split_pair_pos_format_1` computes are strictly increasing, never exceed the pair-set count, and end
with the pair-set count. -/
theorem ppf1_points_valid (cs : Nat) (sizes : List (Nat × Nat)) (pts : List Nat)
    (h : ppf1SplitPoints cs sizes = some pts) :
    pts.Pairwise (· < ·) ∧ pts.getLast? = some sizes.length ∧ ∀ p ∈ pts, p ≤ sizes.length :=
  (idxLoop_pointsBelow (loop := ppf1Loop cs) (fun _ _ => rfl) (fun _ _ _ _ => rfl) Ppf1Acc.points
    (ppf1Step_points cs) sizes ⟨4, 10, [], []⟩ rfl).of_result h

/-- if the first pair set fits a subtable on its own, no split point is 0 -/
theorem ppf1_points_pos (cs : Nat) (first : Nat × Nat) (rest : List (Nat × Nat)) (pts : List Nat)
    (hfit : 10 + (first.2 + 2) + min cs 6 ≤ 65535)
    (h : ppf1SplitPoints cs (first :: rest) = some pts) : ∀ p ∈ pts, 0 < p := by
  unfold ppf1SplitPoints at h
  have hstep : (ppf1Step cs ⟨4, 10, [], []⟩ 0 first).points = [] := by
    unfold ppf1Step
    have : ¬ (10 + (first.2 + 2) + min cs (4 + 2) > 65535) := by omega
    simp [this]
  have hge := ppf1Loop_points_ge (cs := cs) rest (ppf1Step cs ⟨4, 10, [], []⟩ 0 first) (0 + 1)
  have e : ppf1Loop cs ⟨4, 10, [], []⟩ 0 (first :: rest) =
      ppf1Loop cs (ppf1Step cs ⟨4, 10, [], []⟩ 0 first) (0 + 1) rest := rfl
  rw [← e] at hge
  generalize ppf1Loop cs ⟨4, 10, [], []⟩ 0 (first :: rest) = st at h hge
  simp only at h
  split at h
  · cases h
  · cases h
    intro p hp
    rcases List.mem_append.mp hp with hp | hp
    · rcases hge p (List.mem_reverse.mp hp) with h' | h'
      · rw [hstep] at h'; cases h'
      · omega
    · simp at hp; omega

/-- The two together: with the split points the real
heuristic computes, for ANY object sizes (also when the first pair set alone exceeds 64 KiB and the
heuristic emits the split point 0), splitting a well-formed PairPos format 1 subtable does not
panic and preserves every pair lookup. -/
theorem ppf1_split_heuristic_preserves {V : Type} (t : PairPos1 V) (hwf : t.cov.WF)
    (hlen : t.pairSets.length = t.cov.glyphs.length) (cs : Nat) (sizes : List (Nat × Nat))
    (hsz : sizes.length = t.pairSets.length) (pts : List Nat)
    (h : ppf1SplitPoints cs sizes = some pts) :
    ∃ ts, splitPpf1Go t 0 pts = some ts ∧ ∀ g1 g2, firstMatch ts g1 g2 = t.lookup g1 g2 := by
  have ⟨pw, hl, _⟩ := ppf1_points_valid cs _ pts h
  obtain ⟨ts, a, _, c⟩ := ppf1_split_preserves t hwf hlen pts
    (pw.imp (fun h => Nat.le_of_lt h)) (by rw [hl, hsz])
  exact ⟨ts, a, c⟩

/-! ## PairPosBuilder: glyph pairs are kept, first rule wins, and they shadow later subtables -/

/-- Feed ANY sequence of `insert_pair(g1, v, g2, ..)` rules
(first glyphs < 65536; any values, any value-format keys `fmt v`, repeated pairs, any order) to the
glyph-pair half of `PairPosBuilder`.  `GlyphPairPosBuilder::build` distributes the pairs over one
PairPos format 1 subtable per value-format key; for EVERY glyph pair the first-match lookup over
those subtables yields the value of the FIRST rule inserted for that pair — whatever that value is,
in particular also when it is all zero: no rule is dropped — and nothing when there is no rule. -/
theorem glyph_pair_first_rule_wins {V : Type} (fmt : V → Nat) (rules : List ((Nat × Nat) × V))
    (hb : ∀ r ∈ rules, r.1.1 < 65536) (g1 g2 : Nat) :
    firstMatch (buildGlyphPairs fmt (GlyphPairs.ofRules rules)) g1 g2 =
      (rules.find? (fun r => r.1.1 == g1 && r.1.2 == g2)).map (·.2) := by
  obtain ⟨hu, hf, hm⟩ := ofRules_spec rules
  rw [buildGlyphPairs_lookup fmt _ hu (fun e he => hb e (hm e he)) g1 g2, hf g1 g2]
  rfl

/-- `PairPosBuilder::build` emits the glyph-pair
subtables BEFORE the class-pair subtables (`out = pairs.build(); out.extend(classes.build())`).
So whenever the first rule inserted for `(g1, g2)` has value `v` — e.g. the explicit zero of
`pos A V 0;` — the first-match result over the whole lookup is `v`, whatever subtables `later`
follow (in particular a class rule `pos @A @V -50;` covering the same glyphs cannot apply). -/
theorem explicit_pair_shadows_later_subtables {V : Type} (fmt : V → Nat)
    (rules : List ((Nat × Nat) × V)) (hb : ∀ r ∈ rules, r.1.1 < 65536) (g1 g2 : Nat) (v : V)
    (hfirst : (rules.find? (fun r => r.1.1 == g1 && r.1.2 == g2)).map (·.2) = some v)
    (later : List (Nat → Nat → Option V)) :
    (((buildGlyphPairs fmt (GlyphPairs.ofRules rules)).map (fun t => t.lookup)) ++ later).findSome?
      (fun look => look g1 g2) = some v := by
  have h := glyph_pair_first_rule_wins fmt rules hb g1 g2
  rw [hfirst] at h
  unfold firstMatch at h
  rw [List.findSome?_append, List.findSome?_map]
  have : ((fun look : Nat → Nat → Option V => look g1 g2) ∘ fun t : PairPos1 V => t.lookup) =
      fun t => t.lookup g1 g2 := rfl
  rw [this, h]
  rfl

/-- no rule for a pair: the glyph-pair subtables yield nothing (the lookup falls through) -/
theorem glyph_pair_no_rule_nothing {V : Type} (fmt : V → Nat) (rules : List ((Nat × Nat) × V))
    (hb : ∀ r ∈ rules, r.1.1 < 65536) (g1 g2 : Nat) (hno : ∀ r ∈ rules, r.1 ≠ (g1, g2)) :
    firstMatch (buildGlyphPairs fmt (GlyphPairs.ofRules rules)) g1 g2 = none := by
  rw [glyph_pair_first_rule_wins fmt rules hb g1 g2]
  have : rules.find? (fun r => r.1.1 == g1 && r.1.2 == g2) = none := by
    rw [List.find?_eq_none]
    intro r hr hk
    simp only [Bool.and_eq_true, beq_iff_eq] at hk
    exact hno r hr (Prod.ext hk.1 hk.2)
  rw [this]; rfl

/-- Take ANY PairPos format 2 subtable with a well-formed coverage table
(any two class definitions, any class1 × class2 matrix — also one whose class definition 1 names
classes beyond the matrix) and ANY non-decreasing list of split points ending with the class-1
count.  `split_off_ppf2` rebuilds, for each class range, a coverage table (through
`CoverageTableBuilder`) and a class definition 1 (through `ClassDef: FromIterator`, classes shifted
down, the first class of each range becoming the implicit class 0).  For EVERY glyph pair the
first-match lookup over the new subtables equals the lookup in the unsplit subtable — the same
matrix cell, or no match. -/
theorem ppf2_split_preserves {V : Type} (t : PairPos2 V) (hwf : t.cov.WF) (pts : List Nat)
    (hinc : pts.Pairwise (· ≤ ·)) (hlast : pts.getLast? = some t.rows.length) :
    ∃ ts, splitPpf2Go t 0 pts = some ts ∧ ts.length = pts.length ∧
      ∀ g1 g2, firstMatch2 ts g1 g2 = t.lookup g1 g2 := by
  obtain ⟨ts, a, b, c⟩ := splitLoop_preserves (Q := Nat × Nat) (splitOffPpf2 t)
    (fun q a => a.lookup q.1 q.2) (fun q => t.classDef1.get q.1) (fun q => t.lookup q.1 q.2) _
    (fun lo hi h _ => by
      obtain ⟨a, ha, hl⟩ := splitOffPpf2_lookup t hwf h
      exact ⟨a, ha, fun q => hl q.1 q.2⟩)
    (fun q hq => t.lookup_none_of_le q.2 hq) pts hinc hlast
  exact ⟨ts, a, b, fun g1 g2 => c (g1, g2)⟩

/-- The split points the size heuristic of `split_pair_pos_format_2`
computes (any coverage / class assignment / record and class-definition sizes) are strictly
increasing, never exceed the class-1 count, and end with the class-1 count. -/
theorem ppf2_points_valid (gc : List (Nat × Nat)) (class1Count recSize cd2Size : Nat)
    (pts : List Nat) (h : ppf2SplitPoints gc class1Count recSize cd2Size = some pts) :
    pts.Pairwise (· < ·) ∧ pts.getLast? = some class1Count ∧ ∀ p ∈ pts, p ≤ class1Count :=
  (ppf2_fold_pointsBelow ⟨gc⟩ recSize cd2Size class1Count).of_result h

/-- With the split points the real heuristic computes, splitting
a PairPos format 2 subtable whose matrix has one row per class-1 value preserves every pair
lookup. -/
theorem ppf2_split_heuristic_preserves {V : Type} (t : PairPos2 V) (hwf : t.cov.WF)
    (gc : List (Nat × Nat)) (recSize cd2Size : Nat) (pts : List Nat)
    (h : ppf2SplitPoints gc t.rows.length recSize cd2Size = some pts) :
    ∃ ts, splitPpf2Go t 0 pts = some ts ∧ ∀ g1 g2, firstMatch2 ts g1 g2 = t.lookup g1 g2 := by
  have ⟨pw, hl, _⟩ := ppf2_points_valid gc _ recSize cd2Size pts h
  obtain ⟨ts, a, _, c⟩ := ppf2_split_preserves t hwf pts (pw.imp (fun h => Nat.le_of_lt h)) hl
  exact ⟨ts, a, c⟩

/-- The same at the level of the packing graph, where a value
record is its scalar fields plus four device / variation-index offset slots and the subtable's
`offsets` list names the linked objects in writing order (coverage, class definition 1, class
definition 2, then every NON-NULL device offset, row-major, value record 1 before value record 2).
Take ANY such subtable (any per-record pattern of null / non-null device offsets, any object ids —
also repeated ones, i.e. shared device tables) whose offset list has an entry for every non-null
device offset, and ANY non-decreasing split points ending with the class-1 count.  The record loop of
`split_off_ppf2` (`first_device_idx + seen_offsets`, re-slicing the offset list before each of the
two value records, `copy_value_rec` indexing the slice by its own running count, `next_device_offset
+= offsets_used` between subtables) never indexes out of bounds, and for EVERY glyph pair the
first-match lookup over the new subtables yields the SAME two value records as the unsplit subtable:
the same scalar fields and, in each of the eight device slots, a link to the same object (or null). -/
theorem ppf2_split_preserves_devices {S : Type} (t : PairPos2G S) (hcov : t.tbl.cov.WF) (hwf : t.WF)
    (pts : List Nat) (hinc : pts.Pairwise (· ≤ ·)) (hlast : pts.getLast? = some t.tbl.rows.length) :
    ∃ ts, splitPpf2GGo t 0 3 pts = some ts ∧ ts.length = pts.length ∧
      ∀ g1 g2, firstMatch2 ts g1 g2 = t.resolved.lookup g1 g2 := by
  have hpw : (0 :: pts).Pairwise (· ≤ ·) := List.pairwise_cons.mpr ⟨fun _ _ => Nat.zero_le _, hinc⟩
  have hlen : t.resolved.rows.length = t.tbl.rows.length := resolveRows_length _ _ _
  have h := ppf2_split_preserves t.resolved hcov pts hinc (by rw [hlen]; exact hlast)
  have e := splitPpf2GGo_eq t hwf pts 0 hpw
  simp only [List.take_zero, rowsDevs, List.map_nil, List.sum_nil, Nat.add_zero] at e
  rw [e]
  exact h

/-- PairPos format 1: the split re-links whole pair-set objects
(`split_off_ppf1` copies `data.offsets[1 + start..]`), value records and their device tables are
never rewritten; so with value records that carry device links (`DevVR × DevVR`) every pair keeps
both records including all eight device slots.  (Instance of `ppf1_split_preserves`.) -/
theorem ppf1_split_preserves_devices {S : Type} (t : PairPos1 (DevVR S × DevVR S)) (hwf : t.cov.WF)
    (hlen : t.pairSets.length = t.cov.glyphs.length) (pts : List Nat)
    (hinc : pts.Pairwise (· ≤ ·)) (hlast : pts.getLast? = some t.pairSets.length) :
    ∃ ts, splitPpf1Go t 0 pts = some ts ∧ ts.length = pts.length ∧
      ∀ g1 g2, firstMatch ts g1 g2 = t.lookup g1 g2 :=
  ppf1_split_preserves t hwf hlen pts hinc hlast

/-- Take ANY MarkBasePos subtable with a well-formed mark coverage
table, one mark record per covered mark, base records with one optional anchor per mark class, and
ANY non-decreasing list of split points ending with the mark class count.  `split_off_mark_pos`
filters the mark coverage and the mark array by class range (re-numbering the classes from 0) and
prunes every base record to that class range.  For EVERY (mark, base) pair the first-match lookup
over the new subtables yields exactly the (mark anchor, base anchor) pair of the unsplit subtable,
and nothing where the unsplit subtable had no anchor. -/
theorem markbase_split_preserves {A : Type} (t : MarkBase A) (hwf : t.markCov.WF)
    (hlen : t.marks.length = t.markCov.glyphs.length)
    (hrows : ∀ row ∈ t.bases, row.length = t.classCount) (pts : List Nat)
    (hinc : pts.Pairwise (· ≤ ·)) (hlast : pts.getLast? = some t.classCount) :
    ∃ ts, splitMarkBaseGo t 0 pts = some ts ∧ ts.length = pts.length ∧
      ∀ m b, firstMatchMB ts m b = t.lookup m b := by
  have hrows' : ∀ row ∈ t.bases, row.length ≤ t.classCount := fun row hr => Nat.le_of_eq (hrows row hr)
  obtain ⟨ts, a, b, c⟩ := splitLoop_preserves (Q := Nat × Nat) (splitOffMarkBase t)
    (fun q a => a.lookup q.1 q.2) (fun q => t.key q.1) (fun q => t.lookup q.1 q.2) _
    (fun lo hi h hN => by
      obtain ⟨a, ha, hl⟩ := splitOffMarkBase_lookup t hwf hlen h hN
      exact ⟨a, ha, fun q => hl q.1 q.2⟩)
    (fun q hq => t.lookup_none_of_le hrows' q.2 hq) pts hinc hlast
  exact ⟨ts, a, b, fun m b' => c (m, b')⟩

/-! ## non-vacuity: the hypotheses are satisfiable and the functions compute -/

example : buildCoverage [5, 3, 9, 3] = .fmt1 [3, 5, 9] := by decide
example : buildCoverage [1, 2, 3, 4, 5, 6, 7, 9] = .fmt2 [⟨1, 7, 0⟩, ⟨9, 9, 7⟩] := by decide
example : (buildCoverage [1, 2, 3, 4, 5, 6, 7, 9]).get 9 = some 7 ∧
    (buildCoverage [1, 2, 3, 4, 5, 6, 7, 9]).get 8 = none := by decide +kernel
example : (buildCoverage [65535, 0]).get 65535 = some 1 := by decide +kernel
example : buildClassDef [(3, 4), (4, 6), (5, 1), (9, 5), (10, 2), (11, 3)] =
    .fmt1 3 [4, 6, 1, 0, 0, 0, 5, 2, 3] := by decide
example : buildClassDef [(1, 1), (2, 1), (3, 1), (7, 2), (7, 0)] = .fmt2 [⟨1, 3, 1⟩, ⟨7, 7, 2⟩] := by
  decide
example : (buildClassDef [(1, 1), (2, 1), (3, 1), (7, 2)]).get 7 = 2 ∧
    (buildClassDef [(1, 1), (2, 1), (3, 1), (7, 2)]).get 4 = 0 := by decide +kernel
example : (Coverage.fmt2 [⟨1, 4, 0⟩, ⟨9, 9, 4⟩]).WF := by
  refine ⟨⟨by decide, rfl, ?_, ⟨by decide, rfl, ?_, trivial⟩⟩, ?_⟩ <;> simp
example : splitCoverage (.fmt2 [⟨1, 4, 0⟩, ⟨9, 12, 4⟩]) 2 6 = some (.fmt2 [⟨3, 4, 0⟩, ⟨9, 10, 2⟩]) := by
  decide
example : splitCoverage (.fmt1 [3, 5, 9, 11]) 1 3 = some (.fmt1 [5, 9]) := by decide
/-- a split that satisfies every hypothesis of `ppf1_split_preserves` -/
example :
    let t : PairPos1 Nat := ⟨.fmt2 [⟨1, 4, 0⟩], [[(7, 70)], [(7, 71)], [(8, 72)], [(9, 73)]]⟩
    [1, 3, 4].Pairwise (· ≤ ·) ∧ [1, 3, 4].getLast? = some t.pairSets.length ∧
    (splitPpf1Go t 0 [1, 3, 4]).map (·.map (·.cov)) =
      some [.fmt2 [⟨1, 1, 0⟩], .fmt2 [⟨2, 3, 0⟩], .fmt2 [⟨4, 4, 0⟩]] ∧
    ((splitPpf1Go t 0 [1, 3, 4]).map (fun ts => firstMatch ts 3 8)) = some (some 72) := by
  decide +kernel
/-- the heuristic does produce split points (three 30 000-byte pair sets) -/
example : ppf1SplitPoints 100 [(1, 30000), (2, 30000), (3, 30000)] = some [2, 3] := by decide
example : ppf1SplitPoints 100 [(1, 30000), (2, 30000)] = none := by decide
/-- a MarkBasePos split: marks 20,21,22 of classes 1,0,1; bases 5,6; split at class 1 -/
def exMarkBase : MarkBase Nat :=
  ⟨.fmt1 [20, 21, 22], .fmt1 [5, 6], 2, [(1, 201), (0, 210), (1, 221)],
    [[some 50, some 51], [none, some 61]]⟩
example : (splitMarkBaseGo exMarkBase 0 [1, 2]).map (·.map (·.markCov)) =
    some [.fmt1 [21], .fmt1 [20, 22]] := by decide +kernel
example : (splitMarkBaseGo exMarkBase 0 [1, 2]).map (·.map (·.marks)) =
    some [[(0, 210)], [(0, 201), (0, 221)]] := by decide +kernel
example : (splitMarkBaseGo exMarkBase 0 [1, 2]).map (·.map (·.bases)) =
    some [[[some 50], [none]], [[some 51], [some 61]]] := by decide +kernel
example : (splitMarkBaseGo exMarkBase 0 [1, 2]).map (fun ts => firstMatchMB ts 22 6) =
    some (some (221, 61)) := by decide +kernel
example : (splitMarkBaseGo exMarkBase 0 [1, 2]).map (fun ts => firstMatchMB ts 21 6) =
    some none := by decide +kernel
/-- a builder run: two classes, the larger one gets the smaller id -/
example : (((⟨[], false⟩ : ClassDefBuilder).checkedAdd [7]).1.checkedAdd [3, 4]).1.buildWithMapping =
    (.fmt2 [⟨3, 4, 1⟩, ⟨7, 7, 2⟩], [([3, 4], 1), ([7], 2)]) := by decide
/-- the format 2 heuristic does produce split points: 3 classes with 30000-byte rows -/
example : ppf2SplitPoints [(1, 0), (2, 1), (3, 1), (4, 2)] 3 30000 10 = some [2, 3] := by decide
/-- a PairPos format 2 split: glyphs 1..4 with classes 0,1,1,2; rows split at class 1 -/
example :
    let t : PairPos2 Nat := ⟨.fmt1 [1, 2, 3, 4], .fmt2 [⟨2, 3, 1⟩, ⟨4, 4, 2⟩], .fmt2 [⟨7, 7, 1⟩],
      [[0, 10], [0, 11], [0, 12]]⟩
    (splitPpf2Go t 0 [1, 3]).map (·.map (fun s => (s.cov, s.classDef1, s.rows))) =
      some [(.fmt1 [1], .fmt2 [], [[0, 10]]),
            (.fmt1 [2, 3, 4], .fmt1 4 [1], [[0, 11], [0, 12]])] := by
  decide +kernel
/-- `pos A V 0; pos A V 7; pos A W 5;` (value = (format key, amount)): the explicit zero is the
first rule for (10, 20) and is what the compiled glyph subtables answer; hypotheses satisfiable -/
example :
    firstMatch (buildGlyphPairs (·.1) (GlyphPairs.ofRules [((10, 20), (4, 0)), ((10, 20), (4, 7)), ((10, 21), (5, 5))]))
      10 20 = some (4, 0) := by
  rw [glyph_pair_first_rule_wins _ _ (by decide)]; decide
example : GlyphPairs.ofRules [((10, 20), (4, 0)), ((10, 20), (4, 7)), ((10, 21), (5, 5))] =
    [((10, 20), (4, 0)), ((10, 21), (5, 5))] := by decide
/-- a graph-level PairPos format 2 split with device offsets: 3 class-1 records × 2 class-2 records;
record 1 / record 2 device patterns differ per cell, object ids 101.. in writing order, one object
(104) shared.  All hypotheses of `ppf2_split_preserves_devices` hold, and e.g. the cell (class 1,
class 1) keeps x_placement_device → 104 in record 1 and y_advance_device → 105 in record 2. -/
def exPpf2G : PairPos2G Nat :=
  ⟨⟨.fmt1 [1, 2, 3, 4], .fmt2 [⟨2, 3, 1⟩, ⟨4, 4, 2⟩], .fmt2 [⟨7, 7, 1⟩],
    [[(⟨10, [true, false, true, false]⟩, ⟨11, [false, true, false, false]⟩),
      (⟨12, [false, false, false, false]⟩, ⟨13, [false, false, false, false]⟩)],
     [(⟨20, [false, false, false, false]⟩, ⟨21, [true, false, false, false]⟩),
      (⟨22, [true, false, false, false]⟩, ⟨23, [false, false, false, true]⟩)],
     [(⟨30, [true, true, true, true]⟩, ⟨31, [true, true, true, true]⟩),
      (⟨32, [false, false, false, false]⟩, ⟨33, [false, false, true, false]⟩)]]⟩,
   [1, 2, 3, 101, 102, 103, 104, 104, 105, 106, 107, 108, 109, 110, 111, 112, 113, 114]⟩
example : exPpf2G.WF ∧ [1, 3].Pairwise (· ≤ ·) ∧ [1, 3].getLast? = some exPpf2G.tbl.rows.length :=
  ⟨by unfold PairPos2G.WF; decide, by decide, by decide⟩
example : (splitPpf2GGo exPpf2G 0 3 [1, 3]).map (fun ts => firstMatch2 ts 3 7) =
    some (some (⟨22, [some 104, none, none, none]⟩, ⟨23, [none, none, none, some 105]⟩)) := by
  decide +kernel
example : (splitPpf2GGo exPpf2G 0 3 [1, 3]).map (fun ts => firstMatch2 ts 4 9) =
    some (some (⟨30, [some 106, some 107, some 108, some 109]⟩,
                ⟨31, [some 110, some 111, some 112, some 113]⟩)) := by
  decide +kernel
/-- an offset list that is too short is an index panic in `copy_value_rec`, not a wrong link -/
example : splitPpf2GGo (⟨exPpf2G.tbl, [1, 2, 3, 101]⟩ : PairPos2G Nat) 0 3 [1, 3] = none := by
  decide +kernel
/-- a first pair set above 64 KiB makes the heuristic emit the split point 0 … -/
example : ppf1SplitPoints 10 [(1, 65602), (2, 65602), (3, 22)] = some [0, 1, 2, 3] := by decide
/-- … and the empty range is split off without a trap in both formats -/
example : splitCoverage (.fmt2 [⟨10, 16, 0⟩]) 0 0 = some (.fmt2 []) ∧
    splitCoverage (.fmt1 [10, 12]) 0 0 = some (.fmt1 []) := by decide

end FontVerif.C16
