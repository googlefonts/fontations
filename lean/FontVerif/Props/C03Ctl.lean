/-
C03 — control values, delta exceptions and the "state" opcodes of the TrueType interpreter:
skrifa (Model/HintStep.lean kernels) = FreeType 2.12.1 (Model/FtStep.lean kernels).

  * CVT scaling at size setup (`HintInstance::setup` ⇄ `tt_size_run_prep`), WCVTF / SSW (`mul(v, scale)` ⇄
    `FT_MulFix( args, tt_metrics.scale )`; `FT_DivFix` appears only in FreeType's *stretched* CVT
    functions, which a square pixel size never installs), WCVTP / RCVT (plain stores and loads);
  * DELTAP1‑3 / DELTAC1‑3: the ppem an exception applies to, its step, and its application;
  * MPS, GETINFO (selector → result word for the emulated v40 interpreter), INSTCTRL (prep and glyph
    program), the state a glyph program starts in after the prep, SCANCTRL.
Stack cells are `i32` in skrifa and 64-bit longs in FreeType: statements are for i32 cells.
-/
import FontVerif.Props.C03Vec
import FontVerif.Model.HintStep
import FontVerif.Model.FtStep
namespace FontVerif.C03
open FontVerif.Tt

/-- **CVT scaling at size setup**: for every `cvt ` entry (i16 font units) and every i32 scale skrifa's
`(units * 64) * (scale >> 6)` (16.16 multiply) is FreeType's `FT_MulFix( face->cvt[i], scale >> 6 )`, and
the `* 64` does not trap. -/
theorem cvt_setup_eq (units scale : Int) (hu : inI16 units) (hs : inI32 scale) :
    HintStep.cvtSetup units scale = some (FtStep.cvtSetup units scale) := by
  unfold inI16 at hu
  unfold inI32 at hs
  unfold HintStep.cvtSetup FtStep.cvtSetup
  rw [chk_fits (x := units * 64) ⟨by omega, by omega⟩]
  simp only [Option.map_some, Option.some.injEq]
  exact mulfix_eq _ _ (by unfold inI32; omega) (by unfold inI32; omega)

example : HintStep.cvtSetup 300 53248 = some 244 ∧ FtStep.cvtSetup 300 53248 = 244
    ∧ HintStep.cvtSetup (-37) 65536 = some (-37) ∧ FtStep.cvtSetup (-37) 53248 = -30 := by decide +kernel

/-- **WCVTF / SSW**: the value written is the same for every i32 stack cell and scale. -/
theorem wcvtf_eq (v scale : Int) (hv : inI32 v) (hs : inI32 scale) :
    HintMath.mul v scale = FtCalc.mulFix v scale := by
  unfold HintMath.mul; exact mulfix_eq v scale hv hs

/-- **DELTA, which ppem**: `((b as u32 & 0xF0) >> 4) + bias` = `( (FT_ULong)B & 0xF0 ) >> 4 (+16/32) +
delta_base` for every cell `b` (only the low byte matters on either side). -/
theorem delta_ppem_eq (b bias : Int) : HintStep.deltaPpem b bias = FtStep.deltaPpem b bias := by
  unfold HintStep.deltaPpem FtStep.deltaPpem wrapU32 wrapU64; omega

/-- an exception fires on both sides together: the comparison `ppem as u32 == c` = `(FT_ULong)ppem == C` for an
i32 ppem and an exception ppem `c` below 2^31 (bias ≤ 2^17). -/
theorem delta_fires_eq (ppem b bias : Int) (hp : inI32 ppem) (hb : 0 ≤ bias ∧ bias ≤ 131072) :
    (wrapU32 ppem = HintStep.deltaPpem b bias) ↔ (wrapU64 ppem = FtStep.deltaPpem b bias) := by
  rw [delta_ppem_eq]
  unfold inI32 at hp; unfold FtStep.deltaPpem wrapU32 wrapU64; omega

/-- **DELTA, the step**: `b = (b & 0xF) - 8; if b >= 0 { b += 1 }; b *= 1 << (6 - delta_shift)` — the same
value, skrifa's checked multiply does not trap, and the magnitude is at most 8 px. -/
theorem delta_step_eq (b shift : Int) (hs : 0 ≤ shift ∧ shift ≤ 6) :
    HintStep.deltaStep b shift = some (FtStep.deltaStep b shift) ∧
    -512 ≤ FtStep.deltaStep b shift ∧ FtStep.deltaStep b shift ≤ 512 := by
  unfold HintStep.deltaStep FtStep.deltaStep
  rw [show wrapU32 b % 16 = wrapU64 b % 16 by unfold wrapU32 wrapU64; omega]
  extract_lets n m
  -- at most 8 steps of at most 2^6 units
  have hm : -8 ≤ m ∧ m ≤ 8 := by
    have : 0 ≤ wrapU64 b % 16 ∧ wrapU64 b % 16 ≤ 15 := by omega
    show -8 ≤ (if n ≥ 0 then n + 1 else n) ∧ (if n ≥ 0 then n + 1 else n) ≤ 8
    split <;> omega
  have hp : ∀ k : Fin 7, 1 ≤ (2 : Int) ^ k.val ∧ (2 : Int) ^ k.val ≤ 64 := by decide
  have hk : 1 ≤ (2 : Int) ^ (6 - shift).toNat ∧ (2 : Int) ^ (6 - shift).toNat ≤ 64 :=
    hp ⟨(6 - shift).toNat, by omega⟩
  have hb := mul_bound (A := 8) (B := 64) hm ⟨by omega, hk.2⟩
  exact ⟨chk_fits ⟨by omega, by omega⟩, by omega, by omega⟩

-- magnitudes: nibble 0 → -8 steps, 7 → -1, 8 → +1, 15 → +8; delta_shift 3 → step 1/8 px = 8 units
example : FtStep.deltaStep 0x70 3 = -64 ∧ FtStep.deltaStep 0x77 3 = -8 ∧ FtStep.deltaStep 0x78 3 = 8
    ∧ FtStep.deltaStep 0x7F 3 = 64 ∧ FtStep.deltaStep 0x7F 0 = 512 ∧ FtStep.deltaStep 0x7F 6 = 8
    ∧ HintStep.deltaPpem 0x7F 9 = 16 ∧ HintStep.deltaPpem 0x7F (16 + 9) = 32 := by decide +kernel

/-- **DELTAP, application**: a firing exception moves the point by its step along the freedom vector
(`move_point` ⇄ `func_move`), same coordinates and touch flags. -/
theorem deltap_move_eq (g : HintVec.Proj) (bc iup : Bool) (p : HintVec.MPt) (b shift : Int) (hg : ProjOk g)
    (hp : MPos29 p) (hs : 0 ≤ shift ∧ shift ≤ 6) :
    (HintStep.deltaStep b shift).map (HintVec.movePoint g bc iup p) =
      some (FtVec.funcMove (toFuncs g) bc iup p (FtStep.deltaStep b shift)) := by
  have h := delta_step_eq b shift hs
  rw [h.1]
  simp only [Option.map_some, Option.some.injEq]
  exact move_point_eq g bc iup p _ hg hp (by unfold Dist24; omega)

/-- **DELTAC, application**: `cvt + step` (wrapping add ⇄ `ADD_LONG`) for a cvt value within ±2^29. -/
theorem deltac_apply_eq (v b shift : Int) (hv : Dist29 v) (hs : 0 ≤ shift ∧ shift ≤ 6) :
    HintMove.wadd v (FtStep.deltaStep b shift) = FtCalc.addLong v (FtStep.deltaStep b shift) := by
  have h := delta_step_eq b shift hs
  unfold Dist29 at hv
  exact wadd_addLong ⟨by omega, by omega⟩

/-- **one DELTAP1‑3 exception, whole**: for EVERY argument word `b`, every i32 ppem, every bias (0 / 16 / 32
+ delta_base ≤ 2^17), delta_shift 0‥6, in and out of backward compatibility (before / after both IUPs,
composite or not, point touched in y or not): the same decision whether the exception fires, the same
decoded step (magnitude nibble → −8‥−1, +1‥+8 steps of 2^(6−shift), the zero skipped), and the same
resulting point and touch flags (`move_point` ⇄ `func_move`, coordinates within ±2^29). -/
theorem deltap_exception_eq (g : HintVec.Proj) (ppem bias shift : Int) (bc iup composite : Bool) (b : Int)
    (p : HintVec.MPt) (hg : ProjOk g) (hp : MPos29 p) (hpp : inI32 ppem) (hb : 0 ≤ bias ∧ bias ≤ 131072)
    (hs : 0 ≤ shift ∧ shift ≤ 6) :
    HintStep.deltapOne g ppem bias shift bc iup composite b p =
      some (FtStep.deltapOne (toFuncs g) ppem bias shift bc iup composite b p) := by
  unfold HintStep.deltapOne FtStep.deltapOne
  simp only [delta_fires_eq ppem b bias hpp hb]
  have hst := delta_step_eq b shift hs
  have hmv := move_point_eq g bc iup p (FtStep.deltaStep b shift) hg hp (by unfold Dist24; omega)
  by_cases hf : wrapU64 ppem = FtStep.deltaPpem b bias
  · rw [if_pos hf, if_pos hf, hst.1]
    simp only [Option.map_some, Option.some.injEq, hmv]
    rfl
  · rw [if_neg hf, if_neg hf]

/-- **one DELTAC1‑3 exception, whole**: the same new cvt value for every argument word, for a cvt value
within ±2^29. -/
theorem deltac_exception_eq (ppem bias shift b v : Int) (hpp : inI32 ppem) (hb : 0 ≤ bias ∧ bias ≤ 131072)
    (hs : 0 ≤ shift ∧ shift ≤ 6) (hv : Dist29 v) :
    HintStep.deltacOne ppem bias shift b v = some (FtStep.deltacOne ppem bias shift b v) := by
  unfold HintStep.deltacOne FtStep.deltacOne
  simp only [delta_fires_eq ppem b bias hpp hb]
  by_cases hf : wrapU64 ppem = FtStep.deltaPpem b bias
  · rw [if_pos hf, if_pos hf, (delta_step_eq b shift hs).1]
    exact congrArg some (deltac_apply_eq v b shift hv hs)
  · rw [if_neg hf, if_neg hf]

-- the magnitude nibble around the skipped zero: 7 → −1 step, 8 → +1 step (not 0, not +2); y axis, ppem 16,
-- delta_base 9 (nibble 7), delta_shift 3: the point moves by −8 / +8
example :
    let g : HintVec.Proj := ⟨⟨0, 16384⟩, ⟨0, 16384⟩, ⟨0, 16384⟩, 16384, .y, .y, .y⟩
    HintStep.deltapOne g 16 9 3 false false false 0x77 ⟨0, 100, false, false⟩ = some ⟨0, 92, false, true⟩
    ∧ HintStep.deltapOne g 16 9 3 false false false 0x78 ⟨0, 100, false, false⟩ = some ⟨0, 108, false, true⟩
    ∧ FtStep.deltapOne (toFuncs g) 16 9 3 false false false 0x78 ⟨0, 100, false, false⟩ = ⟨0, 108, false, true⟩
    ∧ HintStep.deltapOne g 17 9 3 false false false 0x78 ⟨0, 100, false, false⟩ = some ⟨0, 100, false, false⟩
    ∧ HintStep.deltapOne g 16 9 3 true false false 0x78 ⟨0, 100, false, false⟩ = some ⟨0, 100, false, false⟩
    ∧ HintStep.deltacOne 16 9 3 0x78 500 = some 508 ∧ FtStep.deltacOne 16 9 3 0x70 500 = 436 := by decide +kernel

/-- **MPS**: `ppem.saturating_mul(64)` = `exc->pointSize` = `FT_MulDiv( ppem, 64 * 72, 72 )` for every
ppem a size request can produce (0 ≤ ppem < 2^25). -/
theorem mps_eq (ppem : Int) (h : 0 ≤ ppem ∧ ppem < 33554432) :
    (if ppem * 64 > 2147483647 then 2147483647 else if ppem * 64 < -2147483648 then -2147483648 else ppem * 64)
      = FtCalc.mulDiv ppem 4608 72 := by
  have hs : FtCalc.sign3 ppem 4608 72 = false := by
    unfold FtCalc.sign3; rw [decide_eq_false (show ¬ ppem < 0 by omega)]; rfl
  rw [if_neg (by omega), if_neg (by omega), ft_mulDiv_i32 ⟨by omega, by omega⟩ (by decide) (by decide), hs,
    show iabs ppem = ppem by unfold iabs; rw [if_neg (by omega)]]
  show ppem * 64 = (ppem * 4608 + 72 / 2) / 72
  omega

/-- **GETINFO**: the same result word for every selector, when skrifa's target predicates are FreeType's
loader flags: `is_smooth` = `subpixel_hinting_lean` (target ≠ mono), `is_vertical_lcd` =
`vertical_lcd_lean`, `symmetric_rendering` = true for smooth targets (what the comparison tool's
`SmoothMode::….into()` sets), `is_grayscale_cleartype` = `grayscale_cleartype`.
(Version 40; `exc->grayscale` — selector bit 5 — is constantly false in the v40 loader; static,
unrotated, unstretched.) -/
theorem getinfo_eq (sel : Int) (lean vlcd grayCt : Bool) :
    HintStep.getinfo sel lean vlcd lean grayCt = FtStep.getinfo sel lean vlcd grayCt := by
  unfold HintStep.getinfo FtStep.getinfo
  cases lean <;> cases vlcd <;> cases grayCt <;> simp

example : HintStep.getinfo 0x1FFF true false true true = 40 + 8192 + 131072 + 262144 + 524288
    ∧ FtStep.getinfo 0x1FFF true false true = 925736 ∧ HintStep.getinfo 0x1FFF false false false false = 40 := by decide +kernel

/-- **INSTCTRL** (prep: edits `instruct_control`; glyph program: selector 3 toggles backward
compatibility): the same new state for non-negative i32 stack cells. -/
theorem instctrl_eq (s : St) (sel v : Int) (hs : inI32 sel) (hv : inI32 v) (hnn : 0 ≤ sel ∧ 0 ≤ v) :
    HintStep.instctrl s sel v = FtStep.instctrl s sel v := by
  unfold inI32 at hs hv
  unfold HintStep.instctrl FtStep.instctrl
  have e1 : wrapU32 sel = sel := by unfold wrapU32; omega
  have e2 : wrapU64 sel = sel := by unfold wrapU64; omega
  have e3 : wrapU32 v = v := by unfold wrapU32; omega
  have e4 : wrapU64 v = v := by unfold wrapU64; omega
  simp only [e1, e2, e3, e4]
  by_cases h1 : 1 ≤ sel ∧ sel ≤ 3
  · have h1' : ¬ (sel < 1 ∨ sel > 3) := by omega
    rw [if_neg (by simpa using h1), if_neg h1']
  · have h1' : sel < 1 ∨ sel > 3 := by omega
    rw [if_pos (by simpa using h1), if_pos h1']

/-- **SCANCTRL**: the same threshold logic (bits 8 and 11 against the ppem; the rotated / stretched bits
never fire for the unrotated square sizes of the comparison). -/
theorem scanctrl_eq (n ppem : Int) (sc : Bool) : HintStep.scanctrl n ppem sc = FtStep.scanctrl n ppem sc := rfl

example : HintStep.scanctrl (256 + 16) 16 false = true ∧ HintStep.scanctrl (256 + 16) 17 false = false
    ∧ HintStep.scanctrl (2048 + 16) 17 true = false ∧ HintStep.scanctrl (2048 + 16) 16 true = true
    ∧ HintStep.scanctrl 0x1FF 5 false = true ∧ HintStep.scanctrl 0x100 5 true = false := by decide +kernel

/-- **start of a glyph program after the prep**: the same state (retained graphics state, cvt, storage,
twilight zone, backward compatibility from the target and instruct control bit 2) — provided the prep
did not set instruct control bit 1 and left the default round-state parameters alone. -/
theorem start_glyph_eq (p : St) (smooth : Bool) (glyph : List ZPt) (ends : List Nat)
    (h2 : p.instructControl / 2 % 2 = 0) (hr : p.rthr = 0 ∧ p.rph = 0 ∧ p.rper = 64) :
    HintStep.startGlyph p smooth glyph ends = FtStep.startGlyph p smooth glyph ends := by
  unfold HintStep.startGlyph FtStep.startGlyph
  have h2' : ¬ (p.instructControl / 2 % 2 = 1) := by omega
  simp only [h2', if_false, hr.1, hr.2.1, hr.2.2]

-- instruct control bit 1 ("use the default graphics state in glyph programs"): skrifa resets the retained
-- state, FreeType 2.12.1 restores the prep's (known finding C03-instctrl-selector2-…): minimum distance 20
example :
    let p : St := { (default : St) with instructControl := 2, md := 20 }
    (HintStep.startGlyph p false [] []).md = 64 ∧ (FtStep.startGlyph p false [] []).md = 20 := by decide +kernel

end FontVerif.C03
