/-
C16 (PairPos format 2 split, size bookkeeping with device tables) —
write-fonts/src/graph/splitting/pairpos.rs `split_pair_pos_format_2`: the size loop with
`size_of_class1_record_children` / `size_of_value_record_children` and the `visited` set, as
repaired in /repo 2b4b586.  Model: `ppf2DStep` / `ppf2DLoop` / `ppf2DPieces` (Model/LayoutLookup.lean);
helper lemmas: Lemmas/LayoutPieceSize.lean; correspondence `ppf2.dpoints` (piece ends AND the estimate
of every piece against the bytes of the real pieces).  The lookup-preservation theorems
(`ppf2_split_preserves`, `ppf2_split_preserves_devices`) hold for ANY split points, so also for these.
-/
import FontVerif.Lemmas.LayoutPieceSize
namespace FontVerif.C16
open FontVerif.Layout

/-- For EVERY class1 × class2 matrix (record size `recSize`), every
coverage / class assignment, and EVERY pattern of device / variation-index offsets — any object
ids, i.e. any sharing of tables within a record, between records of one piece and ACROSS pieces,
any byte lengths — the running size the (repaired) loop holds for a piece when it closes it is
EXACTLY the piece's true size: 16 header bytes + its class1 records + each DISTINCT device object
it links counted once (`ppf2PieceSize`).  In particular the estimate is never below the true size:
a piece the loop accepted (estimate + coverage / class-def estimates ≤ 65535) does not exceed
64 KiB because of device tables. -/
theorem ppf2_piece_estimates_exact (gc : List (Nat × Nat)) (recSize cd2Size : Nat)
    (rows : List (List (Nat × Nat))) (ps : List (Nat × Nat × Nat))
    (h : ppf2DPieces true gc recSize cd2Size rows = some ps) :
    ∀ p ∈ ps, p.1 ≤ p.2.1 ∧ p.2.2 = ppf2PieceSize recSize rows p.1 p.2.1 := by
  unfold ppf2DPieces at h
  extract_lets st at h
  by_cases he : st.pieces.isEmpty
  · rw [if_pos he] at h; cases h
  · rw [if_neg he, Option.some.injEq] at h
    subst h
    exact ppf2DLoop_good ⟨gc⟩ recSize cd2Size rows

/-- `ppf2_piece_estimates_exact` as an inequality: whenever the loop's estimate of a piece
is at most a bound, so is the piece's true size. -/
theorem ppf2_estimate_bounds_piece (gc : List (Nat × Nat)) (recSize cd2Size : Nat)
    (rows : List (List (Nat × Nat))) (ps : List (Nat × Nat × Nat))
    (h : ppf2DPieces true gc recSize cd2Size rows = some ps) (p : Nat × Nat × Nat) (hp : p ∈ ps)
    (bound : Nat) (hb : p.2.2 ≤ bound) : ppf2PieceSize recSize rows p.1 p.2.1 ≤ bound := by
  rw [← (ppf2_piece_estimates_exact gc recSize cd2Size rows ps h p hp).2]; exact hb

/-- `childrenSize` is "each object not seen before, once" -/
theorem children_size_counts_each_object_once (devs : List (Nat × Nat)) (visited : List Nat) :
    (childrenSize devs visited).1 = ((dedupDevs devs visited).map (·.2)).sum := by
  rw [childrenSize_eq]

/-! ## the defect repaired in /repo 2b4b586, as a minimal witness

Three class1 records of 30 000 bytes; records 0 and 1 link the SAME 6 000-byte device table (object
1), record 2 a 5 500-byte one (object 2).  Record 1 does not fit the first piece.  The OLD loop sized
it against the first piece's `visited` set — object 1 counted 0 — and started the second piece at
30 016 bytes, so record 2 still "fitted": one piece of records 1..3 estimated at 65 516 bytes whose
true size is 71 516 > 65 535 (the e2e scenario `pairdev:3626:1` in miniature: 'Table packing
failed').  The repaired loop re-counts object 1 and cuts again. -/

def exRows : List (List (Nat × Nat)) := [[(1, 6000)], [(1, 6000)], [(2, 5500)]]

/-- the pre-fix estimate is BELOW the true size of the piece, which exceeds 64 KiB -/
example : ppf2DPieces false [] 30000 0 exRows = some [(0, 1, 36016), (1, 3, 65516)] ∧
    ppf2PieceSize 30000 exRows 1 3 = 71516 ∧ 65516 < 71516 ∧ 65535 < 71516 := by decide +kernel
/-- the repaired loop: three pieces, every estimate equals the true size -/
example : ppf2DPieces true [] 30000 0 exRows = some [(0, 1, 36016), (1, 2, 36016), (2, 3, 35516)] ∧
    ppf2PieceSize 30000 exRows 1 2 = 36016 ∧ ppf2PieceSize 30000 exRows 2 3 = 35516 := by decide +kernel
/-- a table shared inside one piece is counted once, one shared across pieces once per piece -/
example : childrenSize [(7, 10), (8, 12), (7, 10)] [] = (22, [8, 7]) ∧
    childrenSize [(7, 10)] [8, 7] = (0, [8, 7]) := by decide

end FontVerif.C16
