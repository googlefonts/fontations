/-
C03 — IUP as a whole: skrifa `Zone::iup(axis)` (zone.rs; Model/HintInterp.lean `iup`) =
FreeType `Ins_IUP` after its backward-compatibility test (ttinterp.c; Model/FtInterp.lean `iup`), for any
contour end list and any touch flags.  The invariant argument is in Lemmas/IupEq.lean: the contour scan
is the same control flow on the flags; every `iup_interpolate` call the walk makes has touched
references and writes only untouched points, the single `iup_shift` call of a contour comes before
anything of that contour was written — so the range hypothesis of the per-call equalities
(Props/C03Interp.lean) survives from call to call (`interp_step`, `shift_step`, `walk_spec`,
`contour_spec`, `loop_spec`).
-/
import FontVerif.Lemmas.IupEq
namespace FontVerif.C03
open FontVerif.Tt

/-- **IUP[a]** on a whole zone: same resulting points, and none of skrifa's checked subtractions traps.
Ranges: every original, unscaled and current coordinate within ±2^29, and for every pair of TOUCHED
references the interpolation term `FT_MulFix( u − orus1, FT_DivFix( cur2 − cur1, orus2 − orus1 ) )` of every
point within ±2^30 (see `iup_interp_core_eq`). -/
theorem iup_eq (ax : Bool) (pts : List ZPt) (ends : List Nat) (hall : ∀ p ∈ pts, ZPos29 p)
    (hterm : IupTerm ax pts) :
    HintInterp.iup ax pts ends = some (FtInterp.iup ax pts ends) := by
  have hinv : IupInv ax (FtInterp.isTouched ax pts) pts 0 := by
    refine ⟨?_, ?_, hterm, rfl⟩
    · intro p hp
      have h := hall p hp
      exact ⟨co_dist29 ax h.1, co_dist29 ax h.2.2, fun _ => co_dist29 ax h.2.1⟩
    · intro i p hp _
      exact co_dist29 ax (hall p (List.mem_of_getElem? hp)).2.1
  unfold HintInterp.iup FtInterp.iup
  exact loop_spec ax ends pts 0 0 hinv (Nat.le_refl _)

-- a contour of four points: 0 and 2 touched (moved by +64 and +128 in y), 1 in between → interpolated,
-- 3 beyond both → shifted with the nearer reference; second contour with a single touched point → shift
example :
    let z : List ZPt := [⟨⟨0, 0⟩, ⟨0, 64⟩, ⟨0, 0⟩, false, true, true⟩, ⟨⟨100, 500⟩, ⟨100, 500⟩, ⟨100, 500⟩, false, false, true⟩,
      ⟨⟨200, 1000⟩, ⟨200, 1128⟩, ⟨200, 1000⟩, false, true, true⟩, ⟨⟨300, 1200⟩, ⟨300, 1200⟩, ⟨300, 1200⟩, false, false, true⟩,
      ⟨⟨0, 0⟩, ⟨0, 32⟩, ⟨0, 0⟩, false, true, true⟩, ⟨⟨50, 70⟩, ⟨50, 70⟩, ⟨50, 70⟩, false, false, true⟩]
    (HintInterp.iup false z [3, 5]).map (fun l => l.map fun p => p.cur.y) = some [64, 596, 1128, 1328, 32, 102]
    ∧ (FtInterp.iup false z [3, 5]).map (fun p => p.cur.y) = [64, 596, 1128, 1328, 32, 102] := by decide +kernel

end FontVerif.C03
