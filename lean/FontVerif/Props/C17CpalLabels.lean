/-
C17 — CPAL version 1 arrays (klippa/src/cpal.rs `subset_v1`, `&[BigEndian<NameId>]::subset`): palette types, palette labels
and palette entry labels of the subset.  Object level (like the COLR v1 theorems): the statements are about the serializer
objects `Cpal::subset` builds (`SubsetCpal.cpalObjects`) and the links of the root object; the laid-out bytes are tied by the
byte-exact `cpal` correspondence and the `cpal-reader` group of harness/src/bin/c17/colrx.rs (oracle: types / labels / entry
labels preserved), not by proof.
-/
import FontVerif.Lemmas.SubsetCpal
namespace FontVerif.C17CpalLabels
open FontVerif.ColrSer FontVerif.SubsetCpal

/-- A successful `Cpal::subset` of a version 1 table, for every `colr_palettes`: behind each of
the three offsets of the header extension (at `typesPos`, `+4`, `+8` of the root object)
* a NULL source offset stays NULL (no link is added at that position);
* a non-null paletteTypesArrayOffset / paletteLabelsArrayOffset links an object holding the source array UNCHANGED
  (`4 * numPalettes` / `2 * numPalettes` bytes: palettes are never pruned or renumbered);
* a non-null paletteEntryLabelsArrayOffset links an object holding `keptLabels`: the labels of exactly the source entries
  that are keys of `colr_palettes`, in ascending entry order (`cpal_entry_labels_renumbered`).
The position `typesPos` and the links `links0` present before `subset_v1` runs are existentially quantified here: the
statement does not say which they are (`SubsetCpal.Shape.hv1` does: the end of the version 0 header, and the one link to the
colour records). -/
theorem cpal_v1_arrays_subset (b : List Nat) (palettes : List (Nat × Nat)) (packed : List Obj) (root : Obj)
    (h : cpalObjects b palettes = .ok (packed, root)) (hd : Header) (hhd : readHeader b = some hd)
    (hv : hd.version = 1) :
    ∃ typesPos links0, V1Leaves b hd palettes typesPos links0 packed root.links := by
  obtain ⟨sh⟩ := cpalObjects_shape b palettes packed root h
  cases sh.hhd.symm.trans hhd
  exact ⟨_, _, sh.hv1 hv⟩

/-- The pruned entry-label array, for every source array of `numPaletteEntries` labels:
its j-th label is the source label of the j-th kept entry `e` (the j-th smallest source entry index that is a key of
`colr_palettes`), and it has exactly one label per kept entry — labels are renumbered along the retained entries, none is
dropped, duplicated or reordered. -/
theorem cpal_entry_labels_renumbered (n : Nat) (palettes : List (Nat × Nat)) (src : List Nat)
    (hlen : src.length = 2 * n) (j e : Nat) (hj : (keptEntries n palettes)[j]? = some e) :
    rdN 2 (keptLabels n palettes src) (2 * j) = rdN 2 src (2 * e) ∧
    (keptLabels n palettes src).length = 2 * (keptEntries n palettes).length := by
  have hchunk : ∀ x ∈ keptEntries n palettes, ((src.drop (2 * x)).take 2).length = 2 := by
    intro x hx
    have : x < n := by
      have := (List.mem_filter.mp hx).1
      exact List.mem_range.mp this
    simp; omega
  have hlenK : (keptLabels n palettes src).length = 2 * (keptEntries n palettes).length := by
    exact flatMap_uniform_length _ 2 _ hchunk
  refine ⟨?_, hlenK⟩
  have he : e < n := by
    have hm : e ∈ keptEntries n palettes := List.mem_of_getElem? hj
    exact List.mem_range.mp (List.mem_filter.mp hm).1
  obtain ⟨hjl, hje⟩ := List.getElem?_eq_some_iff.mp hj
  have hc := flatMap_uniform_chunk (fun e => (src.drop (2 * e)).take 2) 2 (keptEntries n palettes) j hjl hchunk
  rw [hje] at hc
  unfold rdN
  have c1 : 2 * j + 2 ≤ (keptLabels n palettes src).length := by omega
  have c2 : 2 * e + 2 ≤ src.length := by omega
  simp only [c1, c2, if_true]
  congr 1
  exact congrArg beValue hc

/-- kept entries = the keys of `colr_palettes` inside the source's entry range -/
theorem kept_entries_are_keys (n : Nat) (palettes : List (Nat × Nat)) (e : Nat) :
    e ∈ keptEntries n palettes ↔ e < n ∧ (palettes.lookup e).isSome := by
  unfold keptEntries
  simp [List.mem_filter]

/-- 5 source entries with labels 300..304, colr_palettes keeps entries 1, 3, 4 (and the foreground marker) -/
example : keptEntries 5 [(1, 0), (3, 1), (4, 2), (0xFFFF, 0xFFFF)] = [1, 3, 4] := by decide
example : keptLabels 5 [(1, 0), (3, 1), (4, 2), (0xFFFF, 0xFFFF)] [1, 44, 1, 45, 1, 46, 1, 47, 1, 48] =
    [1, 45, 1, 47, 1, 48] := by decide

end FontVerif.C17CpalLabels
