/-
C01 (hand-written code) — the CFF operand stack (read-fonts/src/tables/postscript/stack.rs ⇄ Model/HandStack.lean):
from a well-formed stack (`top ≤ 513`, what `Stack::new` gives and every operation keeps) no operation reaches a
panic — no slice (`values[..top]`, `values[start..end]`, `split_at_mut`), no direct index (`deltas[delta_ix]`,
`values[top]`) and no `usize` `+` / `*` leaves its range — for EVERY operand value (also a negative or huge
blend operand count) and every blend state; results are values or `Error`s.  Tied to the real `Stack` by
harness group `ps.stack.model` (`hs.run` scripts on real `BlendState`s).
-/
import FontVerif.Lemmas.HandRead
import FontVerif.Lemmas.HandStack
namespace FontVerif.C01HandStack
open FontVerif.HandStack

/-- `Stack::new()` is well formed -/
theorem new_wf : St.new.wf :=
  ⟨List.length_replicate (n := 513) (a := (0 : Int)), List.length_replicate (n := 513) (a := false), Nat.zero_le _⟩

/-- **`push` never writes outside the arrays**: `values[top] = …` is guarded by `top == MAX_STACK`, which
suffices because `top ≤ 513` is invariant; a full stack answers `StackOverflow`. -/
theorem push_total (s : St) (v : Int) (f : Bool) (h : s.wf) :
    (push s v f).1 ≠ .trap ∧ (push s v f).2.wf ∧ ((push s v f).1 = .err .overflow ↔ s.top = 513) := by
  obtain ⟨h1, h2, h3⟩ := h
  unfold push MAX_STACK
  by_cases ht : s.top = 513
  · simp [ht, St.wf, h1, h2]
  · have : s.top < s.vals.length ∧ s.top < s.fx.length := by omega
    simp only [ht, this, and_self, if_true, if_false]
    refine ⟨by simp, ⟨by simp [h1], by simp [h2], by simp; omega⟩, by simp⟩

/-- **`pop_i32` / `get_i32` only look at slots of the arrays**: the result is a value, `StackUnderflow`,
`ExpectedI32StackEntry` — never a panic (`value_is_fixed[index]` is indexed only after `values.get(index)`
succeeded, and the arrays have the same length). -/
theorem popI32_total (s : St) (h : s.wf) : (popI32 s).1 ≠ .trap ∧ (popI32 s).2.wf ∧ (popI32 s).2.top ≤ s.top := by
  obtain ⟨h1, h2, h3⟩ := h
  unfold popI32
  by_cases ht : s.top > 0
  · simp only [ht, if_true]
    refine ⟨?_, ⟨h1, h2, by simp; omega⟩, by simp⟩
    unfold getI32
    have a : s.top - 1 < s.vals.length := by omega
    have b : s.top - 1 < s.fx.length := by omega
    simp only [List.getElem?_eq_getElem a, List.getElem?_eq_getElem b]
    cases s.fx[s.top - 1] <;> simp
  · simp [ht, St.wf, h1, h2, h3]

/-- **`reverse` slices inside the arrays** (`values[..top]`, `value_is_fixed[..top]`) and keeps the shape -/
theorem reverse_total (s : St) (h : s.wf) : (reverse s).1 = .ok () ∧ (reverse s).2.wf ∧ (reverse s).2.top = s.top := by
  obtain ⟨h1, h2, h3⟩ := h
  unfold reverse
  have : s.top ≤ s.vals.length ∧ s.top ≤ s.fx.length := by omega
  rw [if_pos this]
  refine ⟨rfl, ⟨?_, ?_, h3⟩, rfl⟩
  · show ((s.vals.take s.top).reverse ++ s.vals.drop s.top).length = 513
    simp [List.length_append, List.length_reverse, List.length_take, List.length_drop]; omega
  · show ((s.fx.take s.top).reverse ++ s.fx.drop s.top).length = 513
    simp [List.length_append, List.length_reverse, List.length_take, List.length_drop]; omega

/-- **`number_values` / `fixed_values` yield exactly `top` items** and their slice never panics -/
theorem values_total (s : St) (h : s.wf) :
    (∃ xs, numberValues s = some xs ∧ xs.length = s.top) ∧ (∃ ys, fixedValues s = some ys ∧ ys.length = s.top) := by
  obtain ⟨h1, h2, h3⟩ := h
  unfold numberValues fixedValues
  have : s.top ≤ s.vals.length := by omega
  simp only [this, if_true]
  refine ⟨⟨_, rfl, ?_⟩, ⟨_, rfl, ?_⟩⟩ <;>
  · simp [List.length_map, List.length_zip, List.length_take]; omega

/-- **`fixed_array::<N>(first)` reads only live slots**: `Ok` means `first + N ≤ top` and exactly `N` values;
the `first + N` of the source cannot overflow (`first < top ≤ 513`). -/
theorem fixedArray_total (s : St) (n first : Nat) (h : s.wf) (hn : n ≤ 4294967296) :
    fixedArray s n first ≠ .trap ∧
    (∀ xs, fixedArray s n first = .ok xs → xs.length = n ∧ first + n ≤ s.top) := by
  obtain ⟨h1, h2, h3⟩ := h
  unfold fixedArray
  by_cases hf : first ≥ s.top
  · simp [hf]
  · simp only [hf, if_false]
    have hc : HandRead.checkedAdd first n = some (first + n) :=
      HandRead.checkedAdd_of_fits (by unfold HandRead.MAXU; omega)
    simp only [hc]
    by_cases he : first + n > s.top
    · simp [he]
    · have : first + n ≤ s.vals.length ∧ first + n ≤ s.fx.length := by omega
      simp only [he, this, and_self, if_true, if_false]
      refine ⟨by simp, ?_⟩
      intro xs hx
      injection hx with hx
      subst hx
      refine ⟨?_, by omega⟩
      simp [List.length_map, List.length_zip, List.length_take, List.length_drop]; omega

/-- **`apply_blend` never panics, whatever the operands and the blend state**: for every well-formed stack,
every region count (a `u16` array length) and every `scalars()` stream of at most `region_count` items
(`Ok` or `Err`), the popped count — any `i32`, negative ones become huge `usize`s — is checked against `top`
before it is multiplied, `target_value_count * (region_count + 1)` cannot overflow, the operand window
`values[start..end]` and `split_at_mut` stay inside the 513 slots, and every `deltas[region_count * value_ix +
region_ix]` lies inside the delta part of the window.  The result is `Ok` (and the stack shrinks by at least the
count operand) or an `Error`; the stack stays well formed in every case. -/
theorem applyBlend_total (s : St) (rc : Nat) (scalars : List (Option Int)) (h : s.wf) (hrc : rc ≤ 65535)
    (hsc : scalars.length ≤ rc) :
    (applyBlend s rc scalars).1 ≠ .trap ∧ (applyBlend s rc scalars).2.wf ∧
    ((applyBlend s rc scalars).1 = .ok () → (applyBlend s rc scalars).2.top < s.top) := by
  generalize hres : applyBlend s rc scalars = res
  have hp := popI32_total s h
  unfold applyBlend at hres
  rcases hpe : popI32 s with ⟨r, s1⟩
  rw [hpe] at hp hres
  obtain ⟨hp1, ⟨w1, w2, w3⟩, -⟩ := hp
  dsimp only at hp1 w1 w2 w3
  have herr : ∀ e, res = (.err e, s1) → res.1 ≠ .trap ∧ res.2.wf ∧ (res.1 = .ok () → res.2.top < s.top) := by
    rintro e rfl
    exact ⟨nofun, ⟨w1, w2, w3⟩, nofun⟩
  cases r with
  | err e => exact herr e hres.symm
  | trap => exact absurd rfl hp1
  | ok v =>
    have htop := popI32_ok_top hpe
    dsimp only at hres
    generalize asUsize v = tvc at hres
    by_cases h1 : tvc > s1.top
    · rw [if_pos h1] at hres; exact herr _ hres.symm
    rw [if_neg h1, HandRead.checkedAdd_of_fits (by unfold HandRead.MAXU; omega)] at hres
    have hmul : tvc * (rc + 1) ≤ 513 * 65536 := Nat.mul_le_mul (by omega) (by omega)
    have hexp : tvc * (rc + 1) = rc * tvc + tvc := by rw [Nat.mul_succ, Nat.mul_comm]
    dsimp only at hres
    rw [HandRead.checkedMul_of_fits (by unfold HandRead.MAXU; omega)] at hres
    dsimp only at hres
    generalize tvc * (rc + 1) = opc at hres hmul hexp
    by_cases h2 : s1.top < opc
    · rw [if_pos h2] at hres; exact herr _ hres.symm
    rw [if_neg h2, if_pos (by omega)] at hres
    have hk : min opc (s1.fx.length - (s1.top - opc)) = opc := by omega
    rw [hk] at hres
    clear hk
    obtain ⟨start, hst⟩ : ∃ start, start + opc = s1.top := ⟨s1.top - opc, by omega⟩
    rw [show s1.top - opc = start by omega] at hres
    have hvl : (List.take start s1.vals ++
        List.map (fun p => asFixed p.1 p.2) ((List.take opc (List.drop start s1.vals)).zip (List.take opc (List.drop start s1.fx))) ++
        List.drop (start + opc) s1.vals).length = 513 := by
      rw [length_splice (by omega), w1]
      rw [List.length_map, List.length_zip, HandRead.length_take_drop (by omega), HandRead.length_take_drop (by omega), Nat.min_self]
    have hfl : (List.take start s1.fx ++ List.replicate opc true ++ List.drop (start + opc) s1.fx).length = 513 := by
      rw [length_splice (by omega) List.length_replicate, w2]
    generalize (List.take start s1.vals ++
        List.map (fun p => asFixed p.1 p.2) ((List.take opc (List.drop start s1.vals)).zip (List.take opc (List.drop start s1.fx))) ++
        List.drop (start + opc) s1.vals) = vals1 at hres hvl
    generalize (List.take start s1.fx ++ List.replicate opc true ++ List.drop (start + opc) s1.fx) = fx1 at hres hfl
    rw [if_pos (by omega)] at hres
    generalize hq : rc * tvc = q at hexp
    have ho := outerLoop_total rc start tvc (by unfold HandRead.MAXU; omega) scalars 0 vals1 (by omega) (by omega)
    rcases hoe : outerLoop rc start tvc 0 scalars vals1 with ⟨ro, vals2⟩
    rw [hoe] at ho hres
    obtain ⟨ho1, ho2⟩ := ho
    dsimp only at ho1 ho2
    subst hres
    cases ro with
    | trap => exact absurd rfl ho1
    | err e => exact ⟨nofun, ⟨ho2.trans hvl, hfl, w3⟩, nofun⟩
    | ok u => exact ⟨nofun, ⟨ho2.trans hvl, hfl, by dsimp only; omega⟩, fun _ => by dsimp only; omega⟩

/-- two target values, one region, scalar 0.5: `10 + 3·0.5` and `20 + 4·0.5` in 16.16 -/
example :
    let s0 := St.new
    let s1 := (push s0 10 false).2
    let s2 := (push s1 20 false).2
    let s3 := (push s2 (3 * 65536) true).2
    let s4 := (push s3 (4 * 65536) true).2
    let s5 := (push s4 2 false).2
    let r := applyBlend s5 1 [some 32768]
    r.1 = .ok () ∧ r.2.top = 2 ∧ r.2.vals.take 2 = [10 * 65536 + 98304, 20 * 65536 + 131072] := by decide +kernel

/-- a negative operand count is `StackUnderflow`, not a panic -/
example : (applyBlend (push (push St.new 7 false).2 (-1) false).2 3 [some 1, some 2, some 3]).1 = .err .underflow := by
  decide +kernel

/-- a fixed-point count operand is refused -/
example : (applyBlend (push St.new 65536 true).2 0 []).1 = .err (.expectedI32 0) := by decide +kernel

example : fixedArray (push (push St.new 1 false).2 2 false).2 2 0 = .ok [65536, 131072] := by decide +kernel
example : fixedArray (push (push St.new 1 false).2 2 false).2 4 1 = .err (.invalidAccess 4) := by decide +kernel

end FontVerif.C01HandStack
