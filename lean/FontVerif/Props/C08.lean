/-
C08 — Character maps built from a mapping answer exactly that mapping.
Property theorems only (helper lemmas live in Lemmas/Cmap*.lean).
Model: Model/Cmap.lean ⇄ write-fonts/src/tables/cmap.rs (from_mappings, Format4SegmentComputer,
create_format_4, create_format_12), read-fonts/src/tables/cmap.rs (Cmap4/Cmap12 map_codepoint,
lookup_glyph_id, iterators), skrifa/src/charmap.rs.
-/
import FontVerif.Model.Cmap
import FontVerif.Lemmas.Cmap
import FontVerif.Lemmas.Cmap4
import FontVerif.Lemmas.Cmap4Seg
import FontVerif.Lemmas.Cmap4Top
import FontVerif.Lemmas.Cmap4Iter
import FontVerif.Lemmas.CmapNorm
import FontVerif.Lemmas.CmapTop
import FontVerif.Lemmas.Cmap14
import FontVerif.Lemmas.CmapSel
set_option linter.unusedVariables false
namespace FontVerif.C08
open FontVerif.Cmap

/-- the delta written by `create_format_4` (`delta as u16 as i16`) is an `i16` congruent to
`gid − cp` modulo 65536 — for every integer -/
theorem idDelta_is_i16 (d : Int) :
    -32768 ≤ wrapI16 d ∧ wrapI16 d ≤ 32767 ∧ (wrapI16 d - d) % 65536 = 0 := by
  unfold wrapI16
  simp only []
  split <;> omega

/-- writer delta followed by the reader's `(codepoint as i32 + delta) as u16` gives back the glyph,
for all 16-bit code points and glyph ids — in particular when `gid − cp` is outside `i16` -/
theorem idDelta_roundtrip (c g : Nat) (hc : c ≤ 0xFFFF) (hg : g ≤ 0xFFFF) :
    (wrapU16 ((c : Int) + wrapI16 ((g : Int) - (c : Int)))).toNat = g := by
  rw [wrapU16_add_wrapI16, Int.add_comm, Int.sub_add_cancel, wrapU16_toNat g hg]

example : wrapI16 ((40000 : Int) - 32) = -25568 := by decide
example : (wrapU16 ((32 : Int) + wrapI16 ((40000 : Int) - 32))).toNat = 40000 := by decide

/-- `create_format_12` succeeds on every non-empty in-domain mapping, and `Cmap12::map_codepoint`
on the groups it writes answers `some g` exactly for the pairs `(c, g)` of the mapping — for every
32-bit code point `c` (so: the mapped glyph for mapped characters, `none` for all others). -/
theorem fmt12_lookup (m : Mapping) (hd : InDomain m) (hne : m ≠ []) :
    ∃ gs, createFormat12 m = some gs ∧
      ∀ c v, c < 4294967296 → (map12 gs.toArray c = some v ↔ (c, v) ∈ m) := by
  obtain ⟨gs, h1⟩ := createFormat12_some m hne
  exact ⟨gs, h1, fun c v _ => createFormat12_lookup m hd gs h1 c v⟩

/-- unmapped characters get no glyph from the format-12 subtable -/
theorem fmt12_lookup_unmapped (m : Mapping) (hd : InDomain m) (gs : List Group)
    (h : createFormat12 m = some gs) (c : Nat) (hc : c < 4294967296) (hno : ∀ v, (c, v) ∉ m) :
    map12 gs.toArray c = none := by
  cases hq : map12 gs.toArray c with
  | none => rfl
  | some v => exact absurd ((createFormat12_lookup m hd gs h c v).1 hq) (hno v)

/-- enumerating the compiled format-12 subtable (`Cmap12::iter`) yields exactly the mapping, in
ascending character order -/
theorem fmt12_iter (m : Mapping) (hd : InDomain m) (gs : List Group) (h : createFormat12 m = some gs) :
    iter12 gs.toArray none = m := by
  obtain ⟨h2, hb, h3⟩ := createFormat12_groups m hd gs h
  rw [iter12_eq gs 0 h2 hb, h3]

/-- non-vacuity: a mapping with a supplementary-plane run, a gid jump and a char gap -/
example : InDomain [(65, 5), (66, 6), (67, 9), (0x1F600, 10), (0x1F601, 11), (0x10FFFF, 12)] :=
  ⟨by unfold Ascending; decide, by decide, by decide⟩
example : createFormat12 [(65, 5), (66, 6), (67, 9), (0x1F600, 10), (0x1F601, 11), (0x10FFFF, 12)]
    = some [(65, 66, 5), (67, 67, 9), (0x1F600, 0x1F601, 10), (0x10FFFF, 0x10FFFF, 12)] := by decide

/-- `Format4SegmentComputer::compute` always returns a valid segmentation of the BMP part of its
input — for EVERY input list (no sortedness or range hypothesis): the segments tile the index
range, each is a run of consecutive code points, and a segment that carries an `id_delta` has
constant `gid − cp`.  (`SegsTile`/`SegOk` are defined in Lemmas/Cmap4.lean.) -/
theorem segments_valid (m : Mapping) :
    SegsTile (cpAt m.toArray) (gidAt m.toArray) 0 (bmpPrefix m).length (segments m) :=
  segments_tile m

/-- Round trip for ANY valid segmentation (robust against changes of the merging heuristics):
if `create_format_4`, run on a valid segmentation `segs` of an in-domain mapping, returns a table,
then `Cmap4::map_codepoint` on that table answers `some v` for code point `c` exactly when `(c, v)`
is a BMP pair of the mapping — or `c` is U+FFFF, which the mandatory final segment maps to glyph 0.
In particular every unmapped code point (and every code point above U+FFFF) gets `none`. -/
theorem fmt4_lookup_any_segmentation (m : Mapping) (hd : InDomain m) (segs : List Seg)
    (hv : SegsTile (cpAt m.toArray) (gidAt m.toArray) 0 (bmpPrefix m).length segs)
    (t : Cmap4) (h : encode4 m segs = .ok (some t)) (c v : Nat) :
    map4 t c = some v ↔ ((c, v) ∈ m ∧ c ≤ 0xFFFF) ∨ (c = 0xFFFF ∧ v = 0) :=
  encode4_lookup m hd segs hv t h c v

/-- Round trip through `create_format_4` as implemented (segment computer + encoder) and
`Cmap4::map_codepoint`: the mapped glyph for every mapped BMP character, glyph 0 for U+FFFF,
`none` for everything else. -/
theorem fmt4_lookup (m : Mapping) (hd : InDomain m) (t : Cmap4) (h : createFormat4 m = .ok (some t))
    (c v : Nat) : map4 t c = some v ↔ ((c, v) ∈ m ∧ c ≤ 0xFFFF) ∨ (c = 0xFFFF ∧ v = 0) :=
  fmt4_lookup_any_segmentation m hd (segments m) (segments_valid m) t h c v

/-- mapped BMP characters: the mapped glyph -/
theorem fmt4_lookup_mapped (m : Mapping) (hd : InDomain m) (t : Cmap4) (h : createFormat4 m = .ok (some t))
    (c g : Nat) (hmem : (c, g) ∈ m) (hc : c ≤ 0xFFFF) : map4 t c = some g :=
  (fmt4_lookup m hd t h c g).2 (Or.inl ⟨hmem, hc⟩)

/-- unmapped characters (U+FFFF excepted): no glyph -/
theorem fmt4_lookup_unmapped (m : Mapping) (hd : InDomain m) (t : Cmap4) (h : createFormat4 m = .ok (some t))
    (c : Nat) (hc : c ≠ 0xFFFF) (hno : ∀ v, (c, v) ∉ m) : map4 t c = none := by
  cases hq : map4 t c with
  | none => rfl
  | some v =>
    rcases (fmt4_lookup m hd t h c v).1 hq with ⟨h1, _⟩ | ⟨h1, _⟩
    · exact absurd h1 (hno v)
    · exact absurd h1 hc

/-- "Returns `None` if none of the input chars are in the BMP" — and only then -/
theorem fmt4_none_iff (m : Mapping) (hd : InDomain m) :
    createFormat4 m = .ok none ↔ ∀ p ∈ m, p.1 > 0xFFFF :=
  createFormat4_none_iff m hd

/-- building succeeds: for an in-domain mapping with between 1 and 6551 BMP characters
(10·n + 24 ≤ 65535: what a 16-bit format-4 length can always hold) `create_format_4` returns a
table, and that table's `compute_length` fits 16 bits -/
theorem fmt4_build_succeeds (m : Mapping) (hd : InDomain m) (hne : bmpPrefix m ≠ [])
    (hn : (bmpPrefix m).length ≤ 6551) : ∃ t, createFormat4 m = .ok (some t) ∧ t.lengthFits = true :=
  createFormat4_ok m hd hne hn

/-- non-vacuity: the doc-comment example of `should_combine` (three segments merged into one
range-offset segment), a delta segment whose delta does not fit `i16`, a lone character, and a
supplementary character that format 4 ignores -/
example : InDomain [(1, 3), (2, 1), (3, 4), (4, 5), (5, 6), (6, 7), (7, 8), (8, 2), (9, 9),
    (32, 40000), (33, 40001), (0x5000, 7), (0x1F600, 10)] :=
  ⟨by unfold Ascending; decide, by decide, by decide⟩
example : createFormat4 [(1, 3), (2, 1), (3, 4), (4, 5), (5, 6), (6, 7), (7, 8), (8, 2), (9, 9),
    (32, 40000), (33, 40001), (0x5000, 7), (0x1F600, 10)] =
    .ok (some { endCode := #[9, 33, 0x5000, 0xFFFF], startCode := #[1, 32, 0x5000, 0xFFFF],
                idDelta := #[0, -25568, -20473, 1], idRangeOffsets := #[8, 0, 0, 0],
                glyphIdArray := #[3, 1, 4, 5, 6, 7, 8, 2, 9] }) := by decide

/-- enumerating (`Cmap4::iter`) the table compiled from ANY valid segmentation yields exactly the
BMP pairs of the mapping, in ascending character order, followed by the `(U+FFFF, glyph 0)` item
of the mandatory final segment -/
theorem fmt4_iter_any_segmentation (m : Mapping) (hd : InDomain m) (segs : List Seg)
    (hv : SegsTile (cpAt m.toArray) (gidAt m.toArray) 0 (bmpPrefix m).length segs)
    (t : Cmap4) (h : encode4 m segs = .ok (some t)) :
    iter4 t = m.filter (fun p => decide (p.1 ≤ 0xFFFF)) ++ [(0xFFFF, 0)] := by
  rw [encode4_iter m hd segs hv t h, bmpPrefix_eq_filter m hd.asc]

/-- … in particular for the table `create_format_4` builds -/
theorem fmt4_iter (m : Mapping) (hd : InDomain m) (t : Cmap4) (h : createFormat4 m = .ok (some t)) :
    iter4 t = m.filter (fun p => decide (p.1 ≤ 0xFFFF)) ++ [(0xFFFF, 0)] :=
  fmt4_iter_any_segmentation m hd (segments m) (segments_valid m) t h

example : iter4 { endCode := #[9, 33, 0x5000, 0xFFFF], startCode := #[1, 32, 0x5000, 0xFFFF],
                  idDelta := #[0, -25568, -20473, 1], idRangeOffsets := #[8, 0, 0, 0],
                  glyphIdArray := #[3, 1, 4, 5, 6, 7, 8, 2, 9] } =
    [(1, 3), (2, 1), (3, 4), (4, 5), (5, 6), (6, 7), (7, 8), (8, 2), (9, 9),
     (32, 40000), (33, 40001), (0x5000, 7), (0xFFFF, 0)] := by decide

/-- sorting and deduplicating keeps exactly the input pairs, and for a conflict-free input the
result has strictly ascending code points (each character once) -/
theorem normalize_spec (raw : Mapping) :
    (∀ p, p ∈ normalize raw ↔ p ∈ raw) ∧ (ConflictFree raw → Ascending (normalize raw)) :=
  ⟨mem_normalize raw, fun hcf =>
    (findConflict_none_iff _ (normalize_sorted raw)).1 ((findConflict_normalize_none_iff raw).2 hcf)⟩

/-- conflicts are errors, and only conflicts: `from_mappings` returns `Err(CmapConflict)` exactly
when some character is given two different glyphs, and the reported pair is a genuine conflict of
the input with `gid1 < gid2` -/
theorem conflict_is_error (raw : Mapping) :
    ((∃ c g1 g2, fromMappings raw = .conflict c g1 g2) ↔ ¬ ConflictFree raw) ∧
    (∀ c g1 g2, fromMappings raw = .conflict c g1 g2 → (c, g1) ∈ raw ∧ (c, g2) ∈ raw ∧ g1 < g2) := by
  have detail : ∀ c g1 g2, fromMappings raw = .conflict c g1 g2 →
      (c, g1) ∈ raw ∧ (c, g2) ∈ raw ∧ g1 < g2 := by
    intro c g1 g2 h
    obtain ⟨h1, h2, h3⟩ := findConflict_some _ c g1 g2 ((fromMappings_conflict_iff raw c g1 g2).1 h)
    exact ⟨(mem_normalize raw _).1 h1, (mem_normalize raw _).1 h2, h3⟩
  refine ⟨⟨?_, ?_⟩, detail⟩
  · rintro ⟨c, g1, g2, h⟩ hcf
    obtain ⟨h1, h2, h3⟩ := detail c g1 g2 h
    have := hcf _ h1 _ h2 rfl
    simp only at this
    omega
  · intro hncf
    cases hf : findConflict (normalize raw) with
    | none => exact absurd ((findConflict_normalize_none_iff raw).1 hf) hncf
    | some r =>
      obtain ⟨c, g1, g2⟩ := r
      exact ⟨c, g1, g2, (fromMappings_conflict_iff raw c g1 g2).2 hf⟩

/-- CORRECTNESS, without any size bound.  For every conflict-free list of (character, glyph)
pairs — any order, duplicates allowed — with characters in U+0000..U+10FFFF except U+FFFF and glyph
ids in 1..=0xFFFF: whenever `Cmap::from_mappings` followed by `dump_table` succeeds, the table
* answers `Cmap::map_codepoint` (first subtable that answers, in record order) with `some v` for
  `c` exactly when `(c, v)` is an input pair — or `c` is U+FFFF and a format-4 subtable exists,
  which answers the missing-glyph id 0 there;
* answers skrifa's `Charmap::map` (subtable selection + notdef filtering) with `some v` exactly
  when `(c, v)` is an input pair, `none` for every other code point;
* is enumerated by skrifa's `Charmap::mappings` (with the font's `Cmap12IterLimits`, every glyph id
  below `numGlyphs`) as exactly the input pairs, each once, in ascending character order. -/
theorem from_mappings_correct (raw : Mapping) (hcf : ConflictFree raw)
    (hr : ∀ p ∈ raw, p.1 ≤ 0x10FFFF ∧ p.1 ≠ 0xFFFF ∧ 1 ≤ p.2 ∧ p.2 ≤ 0xFFFF)
    (b : Built) (hb : fromMappings raw = .ok b) :
    (∀ c v, c < 4294967296 →
      (cmapMap b.subtables c = some v ↔ (c, v) ∈ raw ∨ (c = 0xFFFF ∧ v = 0 ∧ ∃ p ∈ raw, p.1 ≤ 0xFFFF))) ∧
    (∀ c v, c < 4294967296 → (b.skMap c = some v ↔ (c, v) ∈ raw)) ∧
    (∀ numGlyphs, (∀ p ∈ raw, p.2 < numGlyphs) →
      b.skMappings (0x10FFFF, numGlyphs) = normalize raw ∧ Ascending (normalize raw) ∧
      ∀ p, p ∈ normalize raw ↔ p ∈ raw) := by
  have hd := normalize_inDomain raw hcf hr
  have hs := builtSpec_of_ok raw hd b hb
  refine ⟨?_, ?_, ?_⟩
  · intro c v hc
    rw [cmapMap_built _ hd b hs c v, mem_normalize]
    have : HasBmp (normalize raw) ↔ ∃ p ∈ raw, p.1 ≤ 0xFFFF := by
      unfold HasBmp
      constructor
      · rintro ⟨p, hp, h⟩; exact ⟨p, (mem_normalize raw p).1 hp, h⟩
      · rintro ⟨p, hp, h⟩; exact ⟨p, (mem_normalize raw p).2 hp, h⟩
    rw [this]
  · intro c v hc
    rw [skMap_built _ hd b hs c v, mem_normalize]
  · intro ng hng
    exact ⟨skMappings_built _ hd b hs ng (fun p hp => hng p ((mem_normalize raw p).1 hp)), hd.asc,
      mem_normalize raw⟩

/-- SUCCESS: with at most 6551 input pairs (so that format 4 cannot overflow its 16-bit length,
whatever the segmentation) building never fails -/
theorem from_mappings_succeeds (raw : Mapping) (hcf : ConflictFree raw)
    (hr : ∀ p ∈ raw, p.1 ≤ 0x10FFFF ∧ p.1 ≠ 0xFFFF ∧ 1 ≤ p.2 ∧ p.2 ≤ 0xFFFF)
    (hn : raw.length ≤ 6551) : ∃ b, fromMappings raw = .ok b := by
  have hd := normalize_inDomain raw hcf hr
  have hlen : (bmpPrefix (normalize raw)).length ≤ 6551 := by
    have h1 := normalize_length_le raw
    rcases Nat.lt_or_ge (normalize raw).length (bmpPrefix (normalize raw)).length with h | h
    · have := (bmpPrefix_getElem? (normalize raw) (normalize raw).length h).2
      omega
    · omega
  obtain ⟨b, hb, _⟩ := fromMappings_ok raw hd hlen
  exact ⟨b, hb⟩

/-- THE round trip: success and correctness together -/
theorem from_mappings_roundtrip (raw : Mapping) (hcf : ConflictFree raw)
    (hr : ∀ p ∈ raw, p.1 ≤ 0x10FFFF ∧ p.1 ≠ 0xFFFF ∧ 1 ≤ p.2 ∧ p.2 ≤ 0xFFFF)
    (hn : raw.length ≤ 6551) :
    ∃ b, fromMappings raw = .ok b ∧
      (∀ c v, c < 4294967296 →
        (cmapMap b.subtables c = some v ↔ (c, v) ∈ raw ∨ (c = 0xFFFF ∧ v = 0 ∧ ∃ p ∈ raw, p.1 ≤ 0xFFFF))) ∧
      (∀ c v, c < 4294967296 → (b.skMap c = some v ↔ (c, v) ∈ raw)) ∧
      (∀ numGlyphs, (∀ p ∈ raw, p.2 < numGlyphs) →
        b.skMappings (0x10FFFF, numGlyphs) = normalize raw ∧ Ascending (normalize raw) ∧
        ∀ p, p ∈ normalize raw ↔ p ∈ raw) := by
  obtain ⟨b, hb⟩ := from_mappings_succeeds raw hcf hr hn
  exact ⟨b, hb, from_mappings_correct raw hcf hr b hb⟩

/-- non-vacuity: shuffled input with a duplicate, BMP and supplementary characters -/
example : ConflictFree [(0x1F600, 10), (66, 6), (65, 5), (66, 6), (0x4E00, 40000)] := by
  unfold ConflictFree; decide
example : findConflict (dedup [(65, 1), (65, 3), (66, 2), (66, 2)]) = some (65, 1, 3) := by decide
example : ¬ ConflictFree [(65, 1), (66, 2), (65, 3)] := by unfold ConflictFree; decide

/-- On every well-formed format-14 table (selectors, default ranges and non-default mappings
sorted as the format requires; `Wf14`) `Cmap14::map_variant` — three nested runs of core's
`binary_search_by`, transcribed — returns the answer that was encoded: `UseDefault` exactly when the
code point lies in a default-UVS range of the selector's record, `Variant(g)` exactly when it does
not and `(c, g)` is a non-default mapping of that record, and `None` otherwise. -/
theorem cmap14_map_variant (t : List VarSel) (hw : Wf14 t) (c sel : Nat) :
    (mapVariant t c sel = some .useDefault ↔ ∃ rec ∈ t, rec.selector = sel ∧ InDefaults rec c) ∧
    (∀ g, mapVariant t c sel = some (.variant g) ↔
      ∃ rec ∈ t, rec.selector = sel ∧ ¬ InDefaults rec c ∧ InNonDefaults rec c g) := by
  by_cases hex : ∃ rec ∈ t, rec.selector = sel
  · obtain ⟨rec, hrec, rfl⟩ := hex
    obtain ⟨s1, s2⟩ := recVariant_spec rec c (hw.defs rec hrec) (hw.nons rec hrec)
    rw [mapVariant_of_mem t hw rec hrec c]
    constructor
    · rw [s1]
      constructor
      · intro h; exact ⟨rec, hrec, rfl, h⟩
      · rintro ⟨rec', h1, h2, h3⟩
        rw [selector_unique t hw rec' rec h1 hrec h2] at h3; exact h3
    · intro g
      rw [s2 g]
      constructor
      · intro h; exact ⟨rec, hrec, rfl, h⟩
      · rintro ⟨rec', h1, h2, h3⟩
        rw [selector_unique t hw rec' rec h1 hrec h2] at h3; exact h3
  · rw [mapVariant_no_selector t hw c sel (fun rec hr h => hex ⟨rec, hr, h⟩)]
    constructor
    · constructor
      · intro h; cases h
      · rintro ⟨rec, h1, h2, _⟩; exact absurd ⟨rec, h1, h2⟩ hex
    · intro g
      constructor
      · intro h; cases h
      · rintro ⟨rec, h1, h2, _⟩; exact absurd ⟨rec, h1, h2⟩ hex

/-- `Cmap14Iter` and `map_variant` agree: everything `map_variant` answers is enumerated, and every
enumerated triple is what `map_variant` answers — unless a default range shadows a non-default
mapping of the same selector, in which case `map_variant` answers `UseDefault` -/
theorem cmap14_iter_agrees (t : List VarSel) (hw : Wf14 t) (c sel : Nat) (v : MapVariant) :
    (mapVariant t c sel = some v → (c, sel, v) ∈ iter14 t) ∧
    ((c, sel, v) ∈ iter14 t → mapVariant t c sel = some v ∨ mapVariant t c sel = some .useDefault) := by
  obtain ⟨m1, m2⟩ := cmap14_map_variant t hw c sel
  constructor
  · intro h
    rw [mem_iter14]
    cases v with
    | useDefault =>
      obtain ⟨rec, h1, h2, h3⟩ := m1.1 h
      exact ⟨rec, h1, h2, Or.inl ⟨rfl, h3⟩⟩
    | variant g =>
      obtain ⟨rec, h1, h2, _, h4⟩ := (m2 g).1 h
      exact ⟨rec, h1, h2, Or.inr ⟨g, rfl, h4⟩⟩
  · intro h
    rw [mem_iter14] at h
    obtain ⟨rec, h1, h2, ⟨rfl, h3⟩ | ⟨g, rfl, h3⟩⟩ := h
    · exact Or.inl (m1.2 ⟨rec, h1, h2, h3⟩)
    · by_cases hin : InDefaults rec c
      · exact Or.inr (m1.2 ⟨rec, h1, h2, hin⟩)
      · exact Or.inl ((m2 g).2 ⟨rec, h1, h2, hin, h3⟩)

/-- non-vacuity: two selectors, default ranges and non-default mappings -/
example : Wf14 [⟨0xFE00, some [(0x20, 3), (0x4E00, 0)], some [(0x21, 7), (0x30, 9)]⟩,
                ⟨0xFE01, none, some [(0x41, 5)]⟩] :=
  ⟨by decide, by decide, by decide⟩

/-- `MappingSelection::new`, for EVERY list of encoding records: the selected codepoint subtable is
a supported (format 4 / 12) candidate of the greatest `MappingKind` present — symbol (3) over
full repertoire (2) over BMP (1), `recKind` — and among those the LAST record of the table; nothing
is selected exactly when there is no candidate; the symbol flag is set exactly for a symbol pick. -/
theorem charmap_selection (recs : List Record) :
    (∀ j (hj : j < recs.length), recKind recs[j] ≤ (select recs).kind) ∧
    ((select recs).codepointIx = none ↔ ∀ j (hj : j < recs.length), recKind recs[j] = 0) ∧
    (∀ i, (select recs).codepointIx = some i → ∃ hi : i < recs.length,
      recKind recs[i] = (select recs).kind ∧ 0 < recKind recs[i] ∧
      ∀ j (hj : j < recs.length), i < j → recKind recs[j] < recKind recs[i]) ∧
    ((select recs).isSymbol = ((select recs).kind == 3)) := by
  have h : SelSpec recs 0 (select recs) := selectGo_spec recs 0
  refine ⟨h.maxKind, ?_, ?_, h.symbol⟩
  · rw [h.noneIff]
    constructor
    · intro hk j hj
      have := h.maxKind j hj
      omega
    · intro hall
      cases hc : (select recs).codepointIx with
      | none => exact h.noneIff.1 hc
      | some i =>
        obtain ⟨k, hk, _, h2, _⟩ := h.chosen i hc
        have := hall k hk
        omega
  · intro i hi
    obtain ⟨k, hk, h1, h2, h3⟩ := h.chosen i hi
    have hik : i = k := by omega
    subst hik
    have hpos : (select recs).kind ≠ 0 := fun h0 => by
      have := h.noneIff.2 h0
      rw [hi] at this; cases this
    refine ⟨hk, h2, by omega, fun j hj hij => ?_⟩
    have := h3 j hj hij
    omega

example : select [(0, 3, .f4), (0, 4, .f12), (3, 1, .f4), (3, 10, .f12)] =
    { kind := 2, codepointIx := some 3, isSymbol := false, variantIx := none } := by decide
example : select [(3, 0, .f4), (0, 4, .f12), (0, 5, .f14), (1, 0, .unsupported)] =
    { kind := 3, codepointIx := some 0, isSymbol := true, variantIx := some 2 } := by decide

/-- For EVERY well-formed format-4 subtable (`Wf4`: equal-length segment arrays holding ascending,
disjoint 16-bit ranges; any deltas, range offsets and glyph id array — not only what write-fonts
builds) `Cmap4::iter()` yields `(c, g)` exactly when `Cmap4::map_codepoint(c)` returns `g`. -/
theorem fmt4_iter_agrees_with_lookup (t : Cmap4) (hw : Wf4 t) (c g : Nat) :
    (c, g) ∈ iter4 t ↔ map4 t c = some g :=
  iter4_mem_iff_map4 t hw c g

/-- the same for every well-formed list of format-12 groups (`start ≤ end`, ascending, disjoint,
no 32-bit wrap) -/
theorem fmt12_iter_agrees_with_lookup (gs : List Group) (lb : Nat) (hok : GroupsOk lb gs)
    (hb : GroupsBounded gs) (c g : Nat) (hc : c < 4294967296) :
    (c, g) ∈ iter12 gs.toArray none ↔ map12 gs.toArray c = some g := by
  rw [iter12_eq gs lb hok hb, map12_iff gs lb hok hb c g]

example : Wf4 { endCode := #[9, 33, 0x5000, 0xFFFF], startCode := #[1, 32, 0x5000, 0xFFFF],
                idDelta := #[0, -25568, -20473, 1], idRangeOffsets := #[8, 0, 0, 0],
                glyphIdArray := #[3, 1, 4, 5, 6, 7, 8, 2, 9] } :=
  ⟨rfl, ⟨by decide, fun i j hij hj => by
    have h : ∀ j, j < 4 → ∀ i, i < j →
        eCode { endCode := #[9, 33, 0x5000, 0xFFFF], startCode := #[1, 32, 0x5000, 0xFFFF],
                idDelta := #[0, -25568, -20473, 1], idRangeOffsets := #[8, 0, 0, 0],
                glyphIdArray := #[3, 1, 4, 5, 6, 7, 8, 2, 9] } i <
        sCode { endCode := #[9, 33, 0x5000, 0xFFFF], startCode := #[1, 32, 0x5000, 0xFFFF],
                idDelta := #[0, -25568, -20473, 1], idRangeOffsets := #[8, 0, 0, 0],
                glyphIdArray := #[3, 1, 4, 5, 6, 7, 8, 2, 9] } j := by decide
    exact h j hj i hij⟩, by decide⟩
example : GroupsOk 0 [(65, 66, 5), (67, 67, 9), (0x1F600, 0x1F601, 10)] := by simp [GroupsOk]

/-- the driver prints `iter12N` (first `n` items, computed without materialising malformed groups
that span up to 2^32 code points); it is the `n`-prefix of `iter12` for all groups and limits -/
theorem iter12N_is_prefix (gs : Array Group) (limits : Limits) (n : Nat) :
    iter12N gs limits n = (iter12 gs limits).take n := by
  have hN : iter12N gs limits n = iter12FromN gs limits (gs.size + 1) 0 0 n := by
    rw [iter12FromN, iter12N]
    cases group12 gs 0 limits with
    | none => rfl
    | some r => simp only [Nat.not_lt_zero, if_false]
  rw [hN, iter12_eq_from, iter12FromN_eq]

end FontVerif.C08
