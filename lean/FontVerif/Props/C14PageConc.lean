/-
C14 — concrete `BitPage` (`storage: [u64; 8]` + cached `length: u32`,
read-fonts/src/collections/int_set/bitpage.rs, transcribed word by word in Model/BitPageConc.lean)
refines the 512-bit page of Model/IntSet.lean: every operation commutes with the abstraction
function `CPage.abs` (little-endian packing of the eight words) and preserves the representation
invariant `CPageOk` (8 words, each `< 2^64`, `length == Σ count_ones`).
Property theorems only; the proofs live in Lemmas/IntSetPageConc.lean (operations) and
Lemmas/IntSetPageIterConc.lean (the element iterator, `iter`, `iter_after`).
-/
import FontVerif.Lemmas.IntSetPageConc
import FontVerif.Lemmas.IntSetPageIterConc
set_option exponentiation.threshold 600
namespace FontVerif.C14PageConc
open FontVerif.IntSet

/-- `BitPage::new_zeroes`: well formed, and it is the abstract empty page. -/
theorem page_new_zeroes_refines : CPageOk CPage.zero ∧ CPage.zero.abs = Page.zero :=
  ⟨cpageOk_zero, CPage.abs_zero⟩

/-- The abstraction of a well-formed concrete page is a well-formed abstract page (`bits < 2^512`,
`len = popCount bits`), and bit `j` of it is bit `j % 64` of word `j / 64` (`element_index` /
`elem_index_bit_mask`). -/
theorem page_abs_ok (p : CPage) (h : CPageOk p) :
    PageOk p.abs ∧ ∀ j, p.abs.bits.testBit j = (p.elems.getD (j / 64) 0).testBit (j % 64) :=
  ⟨CPage.abs_ok p h, CPage.testBit_abs p h⟩

/-- `impl PartialEq for BitPage` (`self.storage == other.storage`): two well-formed pages have equal
storage iff they have the same abstract bits. -/
theorem page_eq_refines (p q : CPage) (hp : CPageOk p) (hq : CPageOk q) :
    p.elems = q.elems ↔ p.abs.bits = q.abs.bits :=
  ⟨fun h => by unfold CPage.abs; rw [h],
   fun h => pack_injective _ _ (by rw [hp.1, hq.1]) hp.2.1 hq.2.1 h⟩

/-- `BitPage::insert(val)` on every well-formed page and every `val`: stays well formed (in particular
`length += is_new` keeps the cached length exact), the storage becomes the abstract
`bits | 1 << (val % 512)`, and the returned `is_new` flag is the abstract one. -/
theorem page_insert_refines (p : CPage) (v : Nat) (h : CPageOk p) :
    CPageOk (p.insert v).1 ∧ (p.insert v).1.abs = (pageInsert p.abs v).1 ∧
      (p.insert v).2 = (pageInsert p.abs v).2 :=
  ⟨CPage.insert_ok p v h, CPage.insert_abs p v h⟩

/-- `BitPage::remove(val)`: stays well formed (`length -= ret` never underflows and stays exact),
clears exactly bit `val % 512`, returns the abstract `was_present` flag. -/
theorem page_remove_refines (p : CPage) (v : Nat) (h : CPageOk p) :
    CPageOk (p.remove v).1 ∧ (p.remove v).1.abs = (pageRemove p.abs v).1 ∧
      (p.remove v).2 = (pageRemove p.abs v).2 :=
  ⟨CPage.remove_ok p v h, CPage.remove_abs p v h⟩

/-- `BitPage::contains(val)` = bit `val % 512` of the abstraction. -/
theorem page_contains_refines (p : CPage) (v : Nat) (h : CPageOk p) :
    p.contains v = pageContains p.abs v ∧ p.contains v = p.abs.bits.testBit (v % 512) :=
  ⟨CPage.contains_abs p v h, CPage.contains_abs p v h⟩

/-- `BitPage::insert_range(first, last)`: the per-element mask loop
(`(u64::MAX << (elem_start + end_shift)) >> end_shift` for `elem_idx in first/64 ..= last/64`) keeps the
page well formed for ALL arguments, and when `first & 511 ≤ last & 511` (what `BitSet::insert_range`
guarantees) it is the abstract one-mask update; membership afterwards is `old ∨ first ≤ j ≤ last`. -/
theorem page_insert_range_refines (p : CPage) (a b : Nat) (h : CPageOk p) :
    CPageOk (p.insertRange a b) ∧
      (a % 512 ≤ b % 512 → (p.insertRange a b).abs = pageInsertRange p.abs a b ∧
        ∀ j, (p.insertRange a b).abs.bits.testBit j =
          (p.abs.bits.testBit j || (decide (a % 512 ≤ j) && decide (j ≤ b % 512)))) := by
  refine ⟨CPage.insertRange_ok p a b h, fun hab => ⟨CPage.insertRange_abs p a b h hab, fun j => ?_⟩⟩
  rw [CPage.insertRange_abs p a b h hab, pageInsertRange_bits _ _ _ _ hab]

/-- `BitPage::remove_range(first, last)`: as above with `&= !mask`. -/
theorem page_remove_range_refines (p : CPage) (a b : Nat) (h : CPageOk p) :
    CPageOk (p.removeRange a b) ∧
      (a % 512 ≤ b % 512 → (p.removeRange a b).abs = pageRemoveRange p.abs a b ∧
        ∀ j, (p.removeRange a b).abs.bits.testBit j =
          (p.abs.bits.testBit j && !(decide (a % 512 ≤ j) && decide (j ≤ b % 512)))) := by
  refine ⟨CPage.removeRange_ok p a b h, fun hab => ⟨CPage.removeRange_abs p a b h hab, fun j => ?_⟩⟩
  rw [CPage.removeRange_abs p a b h hab, pageRemoveRange_bits _ _ _ _ hab]

/-- `BitPage::clear`: the result is `new_zeroes()` (well formed, abstract empty page). -/
theorem page_clear_refines (p : CPage) (h : CPageOk p) :
    CPageOk p.clear ∧ p.clear.abs = Page.zero ∧ p.clear = CPage.zero :=
  ⟨CPage.clear_ok p h, CPage.clear_abs p h, CPage.clear_eq_zero p h⟩

/-- `BitPage::process(self, other, op)` for EVERY element operator that acts bitwise on `u64`s through
a Boolean function `f` (with the 512-bit operator acting through the same `f`): the result is well
formed (`recompute_length`) and is the abstract `Page.ofBits (op a b)`. -/
theorem page_process_refines {eop op : Nat → Nat → Nat} {f : Bool → Bool → Bool}
    (he : ElemOp eop f) (ho : BitwiseOp op f) (a b : CPage) (ha : CPageOk a) (hb : CPageOk b) :
    CPageOk (CPage.process eop a b) ∧
      (CPage.process eop a b).abs = Page.ofBits (op a.abs.bits b.abs.bits) :=
  ⟨(CPage.process_refines he ho).ok a b ha hb, (CPage.process_refines he ho).abs a b ha hb⟩

/-- `BitPage::union` / `intersect` / `subtract` and the `|a, b| BitPage::subtract(b, a)` closure of
`BitSet::reversed_subtract`: the closures `a | b`, `a & b`, `a & !b` on `u64` words refine the 512-bit
operators of Model/IntSet.lean. -/
theorem page_set_ops_refine :
    PageOpRefines CPage.union opUnion ∧ PageOpRefines CPage.intersect opIntersect ∧
      PageOpRefines CPage.subtract opSubtract ∧ PageOpRefines CPage.revSubtract opRevSubtract :=
  ⟨refines_union, refines_intersect, refines_subtract, refines_revSubtract⟩

/-- `recompute_length` (`storage.iter().map(u64::count_ones).sum()`) is the population count of the
packed 512 bits, for every 8-word storage; hence `BitPage::len` of a well-formed page is the number of
members of its abstraction. -/
theorem page_len_is_popcount_per_element :
    (∀ es : List Nat, es.length = 8 → (∀ e ∈ es, e < 2 ^ 64) →
      recomputeLength es = popCount (pack es)) ∧
    (∀ p : CPage, CPageOk p → p.length = popCount p.abs.bits ∧
      p.length = (pageMembers p.abs.bits).length ∧ p.length = p.abs.len) :=
  ⟨recomputeLength_eq_popCount, fun p h => ⟨(CPage.abs_ok p h).2, (CPage.abs_ok p h).2, rfl⟩⟩

/-- `BitPage::is_empty` (reads the cached length): true iff the abstraction has no member iff every
word is zero-bit on `0..512`. -/
theorem page_is_empty_refines (p : CPage) (h : CPageOk p) :
    (p.isEmpty = true ↔ pageMembers p.abs.bits = []) ∧
      (p.isEmpty = true ↔ ∀ i, i < 512 → p.abs.bits.testBit i = false) ∧
      (p.isEmpty = true ↔ p.abs.bits = 0) := by
  have hl : p.len = popCount p.abs.bits := (CPage.abs_ok p h).2
  have hlt := (CPage.abs_ok p h).1
  have h1 : p.isEmpty = true ↔ popCount p.abs.bits = 0 := by
    unfold CPage.isEmpty; rw [hl]; simp
  refine ⟨?_, ?_, ?_⟩
  · rw [h1]; unfold popCount; exact List.length_eq_zero_iff
  · rw [h1]; exact popCount_eq_zero_iff
  · rw [h1, popCount_eq_zero_iff]
    constructor
    · intro hz
      apply Nat.eq_of_testBit_eq
      intro i
      rw [Nat.zero_testBit]
      by_cases hi : i < 512
      · exact hz i hi
      · exact Nat.testBit_lt_two_pow
          (Nat.lt_of_lt_of_le hlt (Nat.pow_le_pow_right (by omega) (by omega)))
    · intro hz i _; rw [hz]; exact Nat.zero_testBit i

/-- All page operations at once: for every well-formed page(s) and all arguments, each operation of
bitpage.rs keeps `CPageOk` and commutes with `CPage.abs`. -/
theorem page_ops_refine :
    (CPageOk CPage.zero ∧ CPage.zero.abs = Page.zero) ∧
    (∀ p, CPageOk p → PageOk p.abs) ∧
    (∀ p v, CPageOk p → CPageOk (p.insert v).1 ∧ (p.insert v).1.abs = (pageInsert p.abs v).1 ∧
      (p.insert v).2 = (pageInsert p.abs v).2) ∧
    (∀ p v, CPageOk p → CPageOk (p.remove v).1 ∧ (p.remove v).1.abs = (pageRemove p.abs v).1 ∧
      (p.remove v).2 = (pageRemove p.abs v).2) ∧
    (∀ p v, CPageOk p → p.contains v = pageContains p.abs v) ∧
    (∀ p a b, CPageOk p → CPageOk (p.insertRange a b) ∧
      (a % 512 ≤ b % 512 → (p.insertRange a b).abs = pageInsertRange p.abs a b)) ∧
    (∀ p a b, CPageOk p → CPageOk (p.removeRange a b) ∧
      (a % 512 ≤ b % 512 → (p.removeRange a b).abs = pageRemoveRange p.abs a b)) ∧
    (∀ p, CPageOk p → CPageOk p.clear ∧ p.clear.abs = Page.zero) ∧
    (∀ p, CPageOk p → p.length = popCount p.abs.bits ∧ p.isEmpty = (p.abs.len == 0)) ∧
    (PageOpRefines CPage.union opUnion ∧ PageOpRefines CPage.intersect opIntersect ∧
      PageOpRefines CPage.subtract opSubtract ∧ PageOpRefines CPage.revSubtract opRevSubtract) :=
  ⟨page_new_zeroes_refines,
   fun p h => CPage.abs_ok p h,
   fun p v h => page_insert_refines p v h,
   fun p v h => page_remove_refines p v h,
   fun p v h => CPage.contains_abs p v h,
   fun p a b h => ⟨CPage.insertRange_ok p a b h, CPage.insertRange_abs p a b h⟩,
   fun p a b h => ⟨CPage.removeRange_ok p a b h, CPage.removeRange_abs p a b h⟩,
   fun p h => ⟨CPage.clear_ok p h, CPage.clear_abs p h⟩,
   fun p h => ⟨(CPage.abs_ok p h).2, rfl⟩,
   page_set_ops_refine⟩

/-! ### non-vacuity: the hypotheses are satisfiable, the operations do something -/

example : CPageOk (CPage.zero.insert 70).1 := CPage.insert_ok _ _ cpageOk_zero
example : (CPage.zero.insert 70).1 = ⟨[0, 64, 0, 0, 0, 0, 0, 0], 1⟩ ∧ (CPage.zero.insert 70).2 = true := by
  decide +kernel
example : ((CPage.zero.insert 70).1.insert (512 + 70)).2 = false := by decide +kernel
example : ((CPage.zero.insert 70).1.remove 70) = (CPage.zero, true) := by decide +kernel
example : (CPage.zero.insert 70).1.contains 70 = true ∧ (CPage.zero.insert 70).1.contains 71 = false := by
  decide +kernel
/-- an `insert_range` crossing two element boundaries (60..=130 touches words 0, 1, 2) -/
example : CPage.zero.insertRange 60 130 =
    ⟨[0xF000000000000000, 0xFFFFFFFFFFFFFFFF, 0x7, 0, 0, 0, 0, 0], 71⟩ := by decide +kernel
example : (CPage.zero.insertRange 60 130).abs = pageInsertRange Page.zero 60 130 := by
  rw [← CPage.abs_zero]; exact CPage.insertRange_abs _ _ _ cpageOk_zero (by decide)
example : (CPage.zero.insertRange 0 511).removeRange 64 447 =
    ⟨[0xFFFFFFFFFFFFFFFF, 0, 0, 0, 0, 0, 0, 0xFFFFFFFFFFFFFFFF], 128⟩ := by decide +kernel
example : CPage.subtract (CPage.zero.insertRange 0 100) (CPage.zero.insertRange 10 511) =
    ⟨[0x3FF, 0, 0, 0, 0, 0, 0, 0], 10⟩ := by decide +kernel
example : CPageOk (CPage.zero.insertRange 60 130) := CPage.insertRange_ok _ _ _ cpageOk_zero
example : (CPage.zero.insertRange 60 130).clear = CPage.zero := by decide +kernel
/-- the `u64` operators satisfy `ElemOp` (hypothesis of `page_process_refines`) -/
example : ElemOp elemSubtract (fun a b => a && !b) := elemOp_subtract

/-! ## the element iterator `Iter { val, forward_index, backward_index }` and `BitPage::iter` -/

/-- `<Iter as Iterator>::next` (mask below `forward_index`, `trailing_zeros`): for every state with
`0 ≤ forward_index`, `backward_index ≤ 63` it yields the LOWEST set bit `x` of `val` with
`forward_index ≤ x ≤ backward_index` and moves `forward_index` to `x + 1`; it returns `None`, leaving
the state unchanged, exactly when there is no such bit. -/
theorem elem_iter_next (it : EIter) (h : it.Ok) :
    it.next = match it.window with
      | [] => (none, it)
      | x :: _ => (some x, { it with fwd := (x : Int) + 1 }) :=
  EIter.next_eq it h

/-- `<Iter as DoubleEndedIterator>::next_back` (`checked_shl` mask, `leading_zeros`): yields the HIGHEST
un-yielded set bit `x` and moves `backward_index` to `x - 1` (possibly `-1`); `None` iff none is left. -/
theorem elem_iter_next_back (it : EIter) (h : it.Ok) :
    it.nextBack = match it.window.getLast? with
      | none => (none, it)
      | some x => (some x, { it with bwd := (x : Int) - 1 }) :=
  EIter.nextBack_eq it h

/-- the window (`EIter.window`) is what its name says: the set bits between the two indices, ascending -/
theorem elem_iter_window (it : EIter) (i : Nat) :
    (i ∈ it.window ↔ i < 64 ∧ it.fwd ≤ (i : Int) ∧ (i : Int) ≤ it.bwd ∧ Nat.testBit it.val i = true) ∧
      it.window.Pairwise (· < ·) :=
  ⟨EIter.mem_window, EIter.window_sorted it⟩

/-- `Iter::new(elem)` / `Iter::from(elem, k)` run forwards to exhaustion yield exactly the set bits
(`≥ k`) ascending; run backwards, the same bits descending. -/
theorem elem_iter_collect (e k : Nat) (he : e < 2 ^ 64) :
    (EIter.new e).toList = (List.range 64).filter (fun i => e.testBit i) ∧
    (EIter.new e).toListRev = ((List.range 64).filter (fun i => e.testBit i)).reverse ∧
    (EIter.from e k).toList = (List.range 64).filter (fun i => decide (k ≤ i) && e.testBit i) ∧
    (EIter.from e k).toListRev =
      ((List.range 64).filter (fun i => decide (k ≤ i) && e.testBit i)).reverse := by
  refine ⟨?_, ?_, ?_, ?_⟩
  · rw [EIter.toList_eq _ (EIter.new_ok e he), EIter.window_new]
  · rw [EIter.toListRev_eq _ (EIter.new_ok e he), EIter.window_new]
  · rw [EIter.toList_eq _ (EIter.from_ok e k he), EIter.window_from]
  · rw [EIter.toListRev_eq _ (EIter.from_ok e k he), EIter.window_from]

/-- EVERY interleaving of `next` (`true`) and `next_back` (`false`) on an element iterator: the values
yielded at the front (call order) ++ the bits still in the window of the final state ++ the values
yielded at the back (reverse call order) = the initial window.  So every set bit is produced at most
once and what was not produced is still in the window, the front results ascend, the back results
descend, and the two ends meet without overlap; that a call answers when it can is `elem_iter_next` /
`elem_iter_next_back`. -/
theorem elem_iter_any_schedule (it : EIter) (h : it.Ok) (s : List Bool) :
    (it.runSched s).1 ++ (it.runSched s).2.2.window ++ (it.runSched s).2.1.reverse = it.window ∧
      (it.runSched s).2.2.Ok :=
  EIter.runSched_spec s it h

/-- `BitPage::iter()` (`enumerate`, `filter(elem != 0)`, `flat_map(Iter::new(elem).map(base + idx))`)
collected forwards is `pageMembers` of the abstraction — exactly the set bits below 512, ascending —
and collected backwards (`.rev()`) the same list reversed; hence `first`/`last` are its head/last. -/
theorem page_iter_refines (p : CPage) (h : CPageOk p) :
    p.iterM = pageMembers p.abs.bits ∧ p.iterRevM = (pageMembers p.abs.bits).reverse ∧
      p.iterM = (List.range 512).filter (fun i => p.abs.bits.testBit i) ∧
      p.iterM.length = p.length ∧
      p.iterRevM.head? = p.iterM.getLast? := by
  have h1 := CPage.iterM_eq p h
  have h2 := CPage.iterRevM_eq p h
  refine ⟨h1, h2, by rw [h1, pageMembers_eq], ?_, by rw [h1, h2, List.head?_reverse]⟩
  rw [h1]; exact (CPage.abs_ok p h).2.symm

example : (EIter.new 0b1111110).runSched [true, false, false, true, true, false, true, true, false] =
    ([1, 2, 3], [6, 5, 4], ⟨0b1111110, 4, 3⟩) := by decide +kernel
example : (EIter.new (2 ^ 63 + 1)).toListRev = [63, 0] := by decide +kernel
example : (EIter.new 1).nextBack = (some 0, ⟨1, 0, -1⟩) := by decide +kernel
example : (CPage.zero.insertRange 60 70).iterM = [60, 61, 62, 63, 64, 65, 66, 67, 68, 69, 70] := by decide +kernel
example : (CPage.zero.insertRange 60 70).iterAfterM 63 = [64, 65, 66, 67, 68, 69, 70] := by decide +kernel
example : (EIter.new 5).Ok := EIter.new_ok 5 (by decide)

/-- `BitPage::iter_after(value)` (`storage[start_index..]`, `Iter::from(elem, (value & 63) + 1)` on the
start element, `Iter::new` on the later ones) collected forwards is exactly the members of the page
strictly greater than `value & 511`, ascending; collected backwards, the same list reversed.  For every
well-formed page and every `value`. -/
theorem page_iter_after_refines (p : CPage) (v : Nat) (h : CPageOk p) :
    p.iterAfterM v = (pageMembers p.abs.bits).filter (fun x => decide (v % 512 < x)) ∧
      p.iterAfterRevM v = ((pageMembers p.abs.bits).filter (fun x => decide (v % 512 < x))).reverse ∧
      (∀ x, x ∈ p.iterAfterM v ↔ x < 512 ∧ v % 512 < x ∧ p.abs.bits.testBit x = true) := by
  refine ⟨CPage.iterAfterM_eq p v h, CPage.iterAfterRevM_eq p v h, fun x => ?_⟩
  rw [CPage.iterAfterM_eq p v h, List.mem_filter, mem_pageMembers]
  simp only [decide_eq_true_eq]
  constructor
  · rintro ⟨⟨a, b⟩, c⟩; exact ⟨a, c, b⟩
  · rintro ⟨a, c, b⟩; exact ⟨⟨a, b⟩, c⟩

example : (CPage.zero.insertRange 500 511).iterAfterM 510 = [511] ∧
    (CPage.zero.insertRange 500 511).iterAfterM 511 = [] ∧
    (CPage.zero.insertRange 60 70).iterAfterRevM 65 = [70, 69, 68, 67, 66] := by decide +kernel

end FontVerif.C14PageConc
